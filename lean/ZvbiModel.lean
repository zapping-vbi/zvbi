-- generated by lib/verif.py gen_roots
import ZvbiModel.Cache.Calm
import ZvbiModel.Cache.HiSub
import ZvbiModel.Cache.HiSubRef
import ZvbiModel.Cache.HiSubWrap
import ZvbiModel.Cache.Inv
import ZvbiModel.Cache.LemmasAStore
import ZvbiModel.Cache.LemmasAbs
import ZvbiModel.Cache.LemmasDel
import ZvbiModel.Cache.LemmasFree
import ZvbiModel.Cache.LemmasGet
import ZvbiModel.Cache.LemmasHeld
import ZvbiModel.Cache.LemmasInsert
import ZvbiModel.Cache.LemmasList
import ZvbiModel.Cache.LemmasLive
import ZvbiModel.Cache.LemmasNet
import ZvbiModel.Cache.LemmasNetUpd
import ZvbiModel.Cache.LemmasNets
import ZvbiModel.Cache.LemmasPut
import ZvbiModel.Cache.LemmasRef
import ZvbiModel.Cache.LemmasSim
import ZvbiModel.Cache.LemmasStep
import ZvbiModel.Cache.LemmasTeardown
import ZvbiModel.Cache.LemmasTtx
import ZvbiModel.Cache.LemmasUpd
import ZvbiModel.Cache.LemmasWitness
import ZvbiModel.Cache.MaxStat
import ZvbiModel.Cache.Model
import ZvbiModel.Cache.Moves
import ZvbiModel.Cache.Spec
import ZvbiModel.Cache.UniqueKey
import ZvbiModel.Cc.ByteScripts
import ZvbiModel.Cc.Bytes
import ZvbiModel.Cc.CharRuns
import ZvbiModel.Cc.Commands
import ZvbiModel.Cc.Decoder
import ZvbiModel.Cc.Dispatch
import ZvbiModel.Cc.Edge
import ZvbiModel.Cc.Edits
import ZvbiModel.Cc.Events
import ZvbiModel.Cc.Inv
import ZvbiModel.Cc.Lang
import ZvbiModel.Cc.LangLemmas
import ZvbiModel.Cc.Model
import ZvbiModel.Cc.PaintOn
import ZvbiModel.Cc.PopOn
import ZvbiModel.Cc.PreMode
import ZvbiModel.Cc.Proj
import ZvbiModel.Cc.RollUp
import ZvbiModel.Cc.Rows
import ZvbiModel.Cc.Spec
import ZvbiModel.Cc.SpecChars
import ZvbiModel.Cc.Steps
import ZvbiModel.Codec.Lemmas
import ZvbiModel.Codec.Lemmas830
import ZvbiModel.Codec.LemmasVps
import ZvbiModel.Codec.Model
import ZvbiModel.Codec.Spec
import ZvbiModel.Dec.ConvertLemmas
import ZvbiModel.Dec.ConvertReads
import ZvbiModel.Dec.Lang
import ZvbiModel.Dec.LangLemmas
import ZvbiModel.Dec.Model
import ZvbiModel.Dec.TopIndex
import ZvbiModel.Dec.TopIndexLemmas
import ZvbiModel.Dec.TopNav
import ZvbiModel.Dec.TopNavLemmas
import ZvbiModel.Dec.X26Seq
import ZvbiModel.Demux.CorExtract
import ZvbiModel.Demux.CorFeed
import ZvbiModel.Demux.CorLoop
import ZvbiModel.Demux.CorPacket
import ZvbiModel.Demux.JoinDelivered
import ZvbiModel.Demux.JoinFrame
import ZvbiModel.Demux.JoinPacket
import ZvbiModel.Demux.JoinResync
import ZvbiModel.Demux.JoinStream
import ZvbiModel.Demux.JoinUnits
import ZvbiModel.Demux.LemmasCor
import ZvbiModel.Demux.LemmasFeed
import ZvbiModel.Demux.LemmasForget
import ZvbiModel.Demux.LemmasFrame
import ZvbiModel.Demux.LemmasIter
import ZvbiModel.Demux.LemmasLock
import ZvbiModel.Demux.LemmasScan
import ZvbiModel.Demux.LemmasSpec
import ZvbiModel.Demux.LemmasTs
import ZvbiModel.Demux.LemmasTsCont
import ZvbiModel.Demux.LemmasTsSafe
import ZvbiModel.Demux.LemmasWrap
import ZvbiModel.Demux.Model
import ZvbiModel.Demux.Spec
import ZvbiModel.Demux.Ts
import ZvbiModel.Demux.TsJoinAll
import ZvbiModel.Demux.TsJoinPacket
import ZvbiModel.Demux.TsJoinPes
import ZvbiModel.Demux.TsJoinStream
import ZvbiModel.Enh.Cells
import ZvbiModel.Enh.CellsLemmas
import ZvbiModel.Enh.CellsLoop
import ZvbiModel.Enh.CellsPost
import ZvbiModel.Enh.Lemmas
import ZvbiModel.Enh.Model
import ZvbiModel.Enh.ObjRef
import ZvbiModel.Enh.ObjRefLemmas
import ZvbiModel.Ev.Enable
import ZvbiModel.Ev.Keys
import ZvbiModel.Ev.LemmasCall
import ZvbiModel.Ev.LemmasInv
import ZvbiModel.Ev.LemmasRun
import ZvbiModel.Ev.LemmasSend
import ZvbiModel.Ev.LemmasTerm
import ZvbiModel.Ev.Model
import ZvbiModel.Ev.Spec
import ZvbiModel.Evl.LemmasExec
import ZvbiModel.Evl.LemmasState
import ZvbiModel.Evl.LemmasWalk
import ZvbiModel.Evl.Model
import ZvbiModel.Evl.Spec
import ZvbiModel.Export.Font
import ZvbiModel.Export.Html
import ZvbiModel.Export.HtmlInst
import ZvbiModel.Export.HtmlSpec
import ZvbiModel.Export.HtmlUnescape
import ZvbiModel.Export.Lemmas
import ZvbiModel.Export.LemmasEq
import ZvbiModel.Export.LemmasFont
import ZvbiModel.Export.LemmasHtml
import ZvbiModel.Export.LemmasHtmlUnesc
import ZvbiModel.Export.LemmasPpm
import ZvbiModel.Export.LemmasPrint
import ZvbiModel.Export.LemmasRegion
import ZvbiModel.Export.LemmasRender
import ZvbiModel.Export.LemmasText
import ZvbiModel.Export.Model
import ZvbiModel.Export.Page
import ZvbiModel.Export.Ppm
import ZvbiModel.Export.PrintNT
import ZvbiModel.Export.Spec
import ZvbiModel.Export.Text
import ZvbiModel.Export.Xpm
import ZvbiModel.Fmt.Ext
import ZvbiModel.Fmt.LemmasAttr
import ZvbiModel.Fmt.LemmasCells
import ZvbiModel.Fmt.LemmasEsc
import ZvbiModel.Fmt.LemmasFlof
import ZvbiModel.Fmt.LemmasHdr
import ZvbiModel.Fmt.LemmasInv
import ZvbiModel.Fmt.LemmasPage
import ZvbiModel.Fmt.LemmasRow
import ZvbiModel.Fmt.LemmasStd
import ZvbiModel.Fmt.Model
import ZvbiModel.Fmt.Spec
import ZvbiModel.Generated.C01Cells
import ZvbiModel.Generated.C01Facts
import ZvbiModel.Generated.C01Gfx
import ZvbiModel.Generated.C01Lang
import ZvbiModel.Generated.C01Link
import ZvbiModel.Generated.C01Nav
import ZvbiModel.Generated.CacheLayout
import ZvbiModel.Generated.CcConsts
import ZvbiModel.Generated.CcLang
import ZvbiModel.Generated.CniTable
import ZvbiModel.Generated.DemuxCfg
import ZvbiModel.Generated.DemuxTsShape
import ZvbiModel.Generated.EnhGuard
import ZvbiModel.Generated.EvConsts
import ZvbiModel.Generated.EvEnable
import ZvbiModel.Generated.ExportCfg
import ZvbiModel.Generated.ExportHtmlCfg
import ZvbiModel.Generated.FmtTables
import ZvbiModel.Generated.HammTables
import ZvbiModel.Generated.IdlPfc
import ZvbiModel.Generated.Locks
import ZvbiModel.Generated.LocksRmw
import ZvbiModel.Generated.MuxConsts
import ZvbiModel.Generated.MuxFlags
import ZvbiModel.Generated.NetFlags
import ZvbiModel.Generated.PdcCfg
import ZvbiModel.Generated.ProxyLayout
import ZvbiModel.Generated.ProxyQLayout
import ZvbiModel.Generated.RawdecFacts
import ZvbiModel.Generated.RawdecFlags
import ZvbiModel.Generated.RawdecFromSvc
import ZvbiModel.Generated.SearchFlags
import ZvbiModel.Generated.ServiceTable
import ZvbiModel.Generated.SlicerGuard
import ZvbiModel.Generated.SlicerLegacy
import ZvbiModel.Generated.TrigLayout
import ZvbiModel.Generated.TtxLayout
import ZvbiModel.Generated.UreAnchors
import ZvbiModel.Generated.UreLayout
import ZvbiModel.Generated.XdsDecFlags
import ZvbiModel.Generated.XdsFacts
import ZvbiModel.Gfx.Lemmas
import ZvbiModel.Gfx.Model
import ZvbiModel.Hamm.Hamm24
import ZvbiModel.Hamm.Hamm24Enc
import ZvbiModel.Hamm.Lemmas
import ZvbiModel.Hamm.Model
import ZvbiModel.Hamm.XLin
import ZvbiModel.Idl.Formats
import ZvbiModel.Idl.Lemmas
import ZvbiModel.Idl.LemmasCrc
import ZvbiModel.Idl.Model
import ZvbiModel.Idl.RepeatSender
import ZvbiModel.Idl.RiStream
import ZvbiModel.Idl.Spec
import ZvbiModel.Ite
import ZvbiModel.Locks.Atomic
import ZvbiModel.Locks.CcSections
import ZvbiModel.Locks.Instance
import ZvbiModel.Locks.Lemmas
import ZvbiModel.Locks.Model
import ZvbiModel.Locks.Rmw
import ZvbiModel.Locks.Spec
import ZvbiModel.Locks.Table
import ZvbiModel.Log
import ZvbiModel.Mux.AcceptLemmas
import ZvbiModel.Mux.AcceptRaw
import ZvbiModel.Mux.CorFeed
import ZvbiModel.Mux.CorRaw
import ZvbiModel.Mux.CorRawHistory
import ZvbiModel.Mux.CorRawModel
import ZvbiModel.Mux.CorTs
import ZvbiModel.Mux.JoinBytes
import ZvbiModel.Mux.JoinFrames
import ZvbiModel.Mux.LemmasFeed
import ZvbiModel.Mux.LemmasFrame
import ZvbiModel.Mux.LemmasLines
import ZvbiModel.Mux.LemmasPes
import ZvbiModel.Mux.LemmasStream
import ZvbiModel.Mux.LemmasUnits
import ZvbiModel.Mux.Model
import ZvbiModel.Mux.MrLemmas
import ZvbiModel.Mux.NullCor
import ZvbiModel.Mux.NullFeed
import ZvbiModel.Mux.PesShape
import ZvbiModel.Mux.RawFeed
import ZvbiModel.Mux.RawLemmas
import ZvbiModel.Mux.RawModel
import ZvbiModel.Mux.RawPes
import ZvbiModel.Mux.RawSpec
import ZvbiModel.Mux.Spec
import ZvbiModel.Mux.TsJoin
import ZvbiModel.Mux.UndefDemux
import ZvbiModel.Mux.UndefField
import ZvbiModel.Mux.UndefJoin
import ZvbiModel.Nav.KeywordLemmas
import ZvbiModel.Nav.L1
import ZvbiModel.Nav.Link
import ZvbiModel.Nav.LinkLemmas
import ZvbiModel.Nav.LogLemmas
import ZvbiModel.Nav.Model
import ZvbiModel.Nav.Page
import ZvbiModel.Net.Lemmas
import ZvbiModel.Net.LemmasChange
import ZvbiModel.Net.LemmasGlitch
import ZvbiModel.Net.LemmasRepeat
import ZvbiModel.Net.LemmasStep
import ZvbiModel.Net.Model
import ZvbiModel.Net.Spec
import ZvbiModel.Net.XdsStr
import ZvbiModel.Net.XdsStrLemmas
import ZvbiModel.Pdc.Calendar
import ZvbiModel.Pdc.Errno
import ZvbiModel.Pdc.LemmasArith
import ZvbiModel.Pdc.LemmasCal
import ZvbiModel.Pdc.LemmasCases
import ZvbiModel.Pdc.LemmasErrno
import ZvbiModel.Pdc.LemmasFwd
import ZvbiModel.Pdc.LemmasTz
import ZvbiModel.Pdc.LemmasVal
import ZvbiModel.Pdc.LemmasWin
import ZvbiModel.Pdc.LemmasZone
import ZvbiModel.Pdc.Model
import ZvbiModel.Pdc.Spec
import ZvbiModel.Pfc.Encode
import ZvbiModel.Pfc.Feed
import ZvbiModel.Pfc.Grammar
import ZvbiModel.Pfc.Lemmas
import ZvbiModel.Pfc.Model
import ZvbiModel.Pfc.Multi
import ZvbiModel.Pfc.MultiTail
import ZvbiModel.Pfc.Spec
import ZvbiModel.Pfc.Witness
import ZvbiModel.Props.C01
import ZvbiModel.Props.C01Cells
import ZvbiModel.Props.C01Enh
import ZvbiModel.Props.C01Gfx
import ZvbiModel.Props.C01Lang
import ZvbiModel.Props.C01Link
import ZvbiModel.Props.C01Nav
import ZvbiModel.Props.C01Seq
import ZvbiModel.Props.C01Trig
import ZvbiModel.Props.C01Ttx
import ZvbiModel.Props.C02
import ZvbiModel.Props.C02Chain
import ZvbiModel.Props.C02Esc
import ZvbiModel.Props.C02Flof
import ZvbiModel.Props.C02Hdr
import ZvbiModel.Props.C02Interleave
import ZvbiModel.Props.C02Own
import ZvbiModel.Props.C02Roundtrip
import ZvbiModel.Props.C02Sender
import ZvbiModel.Props.C02Serial
import ZvbiModel.Props.C02SerialCycle
import ZvbiModel.Props.C02SerialCycleFetch
import ZvbiModel.Props.C02Std
import ZvbiModel.Props.C03
import ZvbiModel.Props.C03Cache
import ZvbiModel.Props.C03Hdr8
import ZvbiModel.Props.C03Join
import ZvbiModel.Props.C03Mip
import ZvbiModel.Props.C03Refine
import ZvbiModel.Props.C03Tx
import ZvbiModel.Props.C03Unit
import ZvbiModel.Props.C03X26
import ZvbiModel.Props.C04
import ZvbiModel.Props.C04Bits
import ZvbiModel.Props.C04FromSvc
import ZvbiModel.Props.C04Hist
import ZvbiModel.Props.C04Reach
import ZvbiModel.Props.C05
import ZvbiModel.Props.C05Buf
import ZvbiModel.Props.C06
import ZvbiModel.Props.C06CorRaw
import ZvbiModel.Props.C06CorRawHist
import ZvbiModel.Props.C06Fill
import ZvbiModel.Props.C06Hdr
import ZvbiModel.Props.C06Join
import ZvbiModel.Props.C06Raw
import ZvbiModel.Props.C06Ts
import ZvbiModel.Props.C06Undef
import ZvbiModel.Props.C06UndefDemux
import ZvbiModel.Props.C07
import ZvbiModel.Props.C07Cor
import ZvbiModel.Props.C07Ts
import ZvbiModel.Props.C08
import ZvbiModel.Props.C08Edge
import ZvbiModel.Props.C08Fetch
import ZvbiModel.Props.C08Fields
import ZvbiModel.Props.C08Lang
import ZvbiModel.Props.C08Paint
import ZvbiModel.Props.C08Parity
import ZvbiModel.Props.C08Special
import ZvbiModel.Props.C09
import ZvbiModel.Props.C09Hist
import ZvbiModel.Props.C09Sep
import ZvbiModel.Props.C10
import ZvbiModel.Props.C10Evict
import ZvbiModel.Props.C10Hi
import ZvbiModel.Props.C10Sim
import ZvbiModel.Props.C10Stat
import ZvbiModel.Props.C10Ttx
import ZvbiModel.Props.C11
import ZvbiModel.Props.C11Enable
import ZvbiModel.Props.C12
import ZvbiModel.Props.C13
import ZvbiModel.Props.C13Ev
import ZvbiModel.Props.C13Str
import ZvbiModel.Props.C14
import ZvbiModel.Props.C14Errno
import ZvbiModel.Props.C15
import ZvbiModel.Props.C15Formats
import ZvbiModel.Props.C15Repeats
import ZvbiModel.Props.C15Sender
import ZvbiModel.Props.C16
import ZvbiModel.Props.C16Font
import ZvbiModel.Props.C16Html
import ZvbiModel.Props.C16HtmlInst
import ZvbiModel.Props.C16Ppm
import ZvbiModel.Props.C16PrintNT
import ZvbiModel.Props.C16Xpm
import ZvbiModel.Props.C17
import ZvbiModel.Props.C17Anchors
import ZvbiModel.Props.C17Cancel
import ZvbiModel.Props.C17Pass
import ZvbiModel.Props.C17PassRev
import ZvbiModel.Props.C17Ure
import ZvbiModel.Props.C17UreAnchors
import ZvbiModel.Props.C18
import ZvbiModel.Props.C18Full
import ZvbiModel.Props.C19
import ZvbiModel.Props.C20
import ZvbiModel.Props.C20Rmw
import ZvbiModel.Props.C20Snapshot
import ZvbiModel.Props.C20TableA
import ZvbiModel.Props.C20TableB
import ZvbiModel.Props.C20TableC
import ZvbiModel.Props.C20TableD
import ZvbiModel.Proxy.Core
import ZvbiModel.Proxy.Frame
import ZvbiModel.Proxy.LemmasLog
import ZvbiModel.Proxy.LemmasSched
import ZvbiModel.Proxy.Model
import ZvbiModel.Proxy.NoFault
import ZvbiModel.Proxy.Spec
import ZvbiModel.Proxy.TokenInv
import ZvbiModel.ProxyQ.LemmasQueue
import ZvbiModel.ProxyQ.LemmasSpec
import ZvbiModel.ProxyQ.LiftBasic
import ZvbiModel.ProxyQ.LiftCapture
import ZvbiModel.ProxyQ.LiftLists
import ZvbiModel.ProxyQ.LiftLoop
import ZvbiModel.ProxyQ.LiftQueue
import ZvbiModel.ProxyQ.LiftService
import ZvbiModel.ProxyQ.Model
import ZvbiModel.ProxyQ.Spec
import ZvbiModel.Rawdec.Blank
import ZvbiModel.Rawdec.BlankFrame
import ZvbiModel.Rawdec.BlankSpec
import ZvbiModel.Rawdec.Distinct
import ZvbiModel.Rawdec.DistinctPat
import ZvbiModel.Rawdec.FromSvc
import ZvbiModel.Rawdec.FromSvcLemmas
import ZvbiModel.Rawdec.Lemmas
import ZvbiModel.Rawdec.LemmasInv
import ZvbiModel.Rawdec.Model
import ZvbiModel.Rawdec.NoAbort
import ZvbiModel.Rawdec.PermitParts
import ZvbiModel.Rawdec.SliceModel
import ZvbiModel.Rawdec.Spec
import ZvbiModel.Rawdec.SvcBits
import ZvbiModel.Rawdec.SvcJobs
import ZvbiModel.Rawdec.SvcLines
import ZvbiModel.Rawdec.SvcTable
import ZvbiModel.Rawdec.Window
import ZvbiModel.Safe
import ZvbiModel.Search.Cancel
import ZvbiModel.Search.Current
import ZvbiModel.Search.Dir
import ZvbiModel.Search.DirPass
import ZvbiModel.Search.DirPasses
import ZvbiModel.Search.LemmasCache
import ZvbiModel.Search.LemmasFactor
import ZvbiModel.Search.LemmasHay
import ZvbiModel.Search.LemmasHighlight
import ZvbiModel.Search.LemmasMatcher
import ZvbiModel.Search.LemmasPage
import ZvbiModel.Search.LemmasPos
import ZvbiModel.Search.LemmasRank
import ZvbiModel.Search.LemmasSearch
import ZvbiModel.Search.LemmasSkip
import ZvbiModel.Search.LemmasWalk
import ZvbiModel.Search.Matcher
import ZvbiModel.Search.Model
import ZvbiModel.Search.Spec
import ZvbiModel.Search.WitnessBase
import ZvbiModel.Search.WitnessD7Defs
import ZvbiModel.Search.Witnesses
import ZvbiModel.Slicer.BitsLoop
import ZvbiModel.Slicer.BitsStage
import ZvbiModel.Slicer.BufLemmas
import ZvbiModel.Slicer.BufModel
import ZvbiModel.Slicer.BufSpec
import ZvbiModel.Slicer.Lemmas
import ZvbiModel.Slicer.LemmasDecode
import ZvbiModel.Slicer.LemmasLegacy
import ZvbiModel.Slicer.LemmasRows
import ZvbiModel.Slicer.Model
import ZvbiModel.Slicer.Spec
import ZvbiModel.Trig.CursorLemmas
import ZvbiModel.Trig.HelperLemmas
import ZvbiModel.Trig.HistoryLemmas
import ZvbiModel.Trig.Model
import ZvbiModel.Trig.ParserLemmas
import ZvbiModel.Trig.Spec
import ZvbiModel.Ttx.AsmInv
import ZvbiModel.Ttx.Branches
import ZvbiModel.Ttx.CacheJoin
import ZvbiModel.Ttx.CacheOps
import ZvbiModel.Ttx.CacheTrace
import ZvbiModel.Ttx.CarriesAux
import ZvbiModel.Ttx.Close
import ZvbiModel.Ttx.ConsistentHdr
import ZvbiModel.Ttx.Cycle
import ZvbiModel.Ttx.CycleDec
import ZvbiModel.Ttx.FaultRun
import ZvbiModel.Ttx.FaultSites
import ZvbiModel.Ttx.FindFrame
import ZvbiModel.Ttx.FlipInvisible
import ZvbiModel.Ttx.FlofLinks
import ZvbiModel.Ttx.Hdr8Unread
import ZvbiModel.Ttx.HeaderAccepted
import ZvbiModel.Ttx.HeaderFields
import ZvbiModel.Ttx.HeaderPage
import ZvbiModel.Ttx.Interleaved
import ZvbiModel.Ttx.Isolation
import ZvbiModel.Ttx.MipFlip
import ZvbiModel.Ttx.Mirror
import ZvbiModel.Ttx.Mode
import ZvbiModel.Ttx.Model
import ZvbiModel.Ttx.OwnAux
import ZvbiModel.Ttx.PageList
import ZvbiModel.Ttx.ParityCheck
import ZvbiModel.Ttx.Quiet
import ZvbiModel.Ttx.Sender
import ZvbiModel.Ttx.SerialCycle
import ZvbiModel.Ttx.SerialCycleDec
import ZvbiModel.Ttx.Shape
import ZvbiModel.Ttx.Slots
import ZvbiModel.Ttx.Spec
import ZvbiModel.Ttx.StoreLop
import ZvbiModel.Ttx.TableParsers
import ZvbiModel.Ttx.Termination
import ZvbiModel.Ttx.TextOnly
import ZvbiModel.Ttx.Transmission
import ZvbiModel.Ttx.TwoErrors
import ZvbiModel.Ttx.X26Content
import ZvbiModel.Ttx.X26Fix
import ZvbiModel.Ttx.X26Place
import ZvbiModel.Ttx.X28Refuse
import ZvbiModel.Ure.Current
import ZvbiModel.Ure.CurrentExec
import ZvbiModel.Ure.Dfa
import ZvbiModel.Ure.Exec
import ZvbiModel.Ure.ExecAnchors
import ZvbiModel.Ure.LemmasExec
import ZvbiModel.Ure.LemmasPlain
import ZvbiModel.Ure.LemmasTerm
import ZvbiModel.Ure.Nfa
import ZvbiModel.Ure.Spec
import ZvbiModel.Ure.Syntax
import ZvbiModel.Ure.Witness
import ZvbiModel.Util.Bits
import ZvbiModel.Xds.Dec
import ZvbiModel.Xds.DecHist
import ZvbiModel.Xds.DecLemmas
import ZvbiModel.Xds.DecSpec
import ZvbiModel.Xds.LemmasDemux
import ZvbiModel.Xds.LemmasSep
import ZvbiModel.Xds.LemmasSvc
import ZvbiModel.Xds.Model
import ZvbiModel.Xds.Reasm
import ZvbiModel.Xds.SepFrame
import ZvbiModel.Xds.Service
import ZvbiModel.Xds.Spec
import ZvbiModel.Xds.SpecRecv
import ZvbiModel.Yields
