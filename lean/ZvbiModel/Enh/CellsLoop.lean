import ZvbiModel.Enh.CellsLemmas
/-!
# The triplet loop and the nesting of `enhance()` activations: safety of every logged access, and termination:
# `maxObjectType + 1 - type` nested activations suffice for every triplet list and every object graph (cycles included)

`loop_post` walks the loop once for both: `LoopPost` names what it returns, safety and termination are its two components.
-/
namespace Zvbi.Enh.Cells
open Zvbi.Gen.C01Cells Zvbi.Generated.Enh

/-- `count` triplets from `start` on lie inside a triplet array of well-formed triplets -/
structure Window (site : Site) (arr : List Trip) (start count : Nat) : Prop where
  array : site = .enh ∨ site = .pop
  trips : ∀ t ∈ arr, TripOK t
  fits : count ≤ siteLen site - start

/-- what the triplet loop needs from the recursive `enhance`: safe on every window -/
def NestedOK (nested : Nested) : Prop :=
  ∀ (type r c : Nat) (site : Site) (arr : List Trip) (start count : Nat) (res : Bool × List Access),
    Window site arr start count → nested type r c site arr start count = some res → AllOk res.2

/-- the nested `enhance` answers for every object of a higher type -/
def NestedTotal (nested : Nested) (ty : Nat) : Prop :=
  ∀ nt, ty < nt → nt ≤ maxObjectType → ∀ (r c : Nat) (site : Site) (arr : List Trip) (start count : Nat),
    (nested nt r c site arr start count).isSome = true

theorem getD_ok (arr : List Trip) (harr : ∀ t ∈ arr, TripOK t) (idx : Nat) : TripOK (arr.getD idx fillTrip) := by
  rw [List.getD_eq_getElem?_getD]
  cases h : arr[idx]? with
  | none => exact Or.inr rfl
  | some t => exact harr t (List.mem_of_getElem? h)

theorem Window.read {site arr idx n} (h : Window site arr idx (n + 1)) : AllOk [(site, idx)] := by
  have := h.fits
  refine List.forall_mem_singleton.mpr ?_
  rcases h.array with rfl | rfl <;> simp only [siteLen, ok_enh, ok_pop] at this ⊢ <;> omega

theorem Window.next {site arr idx n} (h : Window site arr idx (n + 1)) : Window site arr (idx + 1) n :=
  ⟨h.array, h.trips, by have := h.fits; omega⟩

structure LoopHyp (env : Env) (site : Site) (arr : List Trip) (n idx : Nat) (st : LSt) : Prop where
  env : EnvOK env
  win : Window site arr idx n
  inv : st.Inv

/-- What the triplet loop of an activation of type `ty` returns: it answers if the nested `enhance` answers for every object of a
higher type, and under the hypotheses `H` (those of safety) every access it logs is in range. -/
def LoopPost (nested : Nested) (ty : Nat) (H : Prop) (o : Option (Bool × List Access)) : Prop :=
  (NestedTotal nested ty → o.isSome = true) ∧ (H → ∀ res, o = some res → AllOk res.2)

namespace LoopPost
variable {nested : Nested} {ty : Nat} {H H' : Prop} {o : Option (Bool × List Access)} {pre : List Access}

theorem done {ok : Bool} (h : H → AllOk pre) : LoopPost nested ty H (some (ok, pre)) :=
  ⟨fun _ => rfl, fun hh _ e => by cases e; exact h hh⟩

theorem next (p : LoopPost nested ty H' o) (h : H → H' ∧ AllOk pre) :
    LoopPost nested ty H (o.map fun (ok, l) => (ok, pre ++ l)) :=
  ⟨fun t => by rw [Option.isSome_map]; exact p.1 t, fun hh res e => by
    obtain ⟨r, hr, rfl⟩ := Option.map_eq_some_iff.mp e
    exact List.forall_mem_append.mpr ⟨(h hh).2, p.2 (h hh).1 r hr⟩⟩

/-- `x` is the nested `enhance` on an object: FALSE ends the activation, TRUE goes on -/
theorem call {x : Option (Bool × List Access)} (ht : NestedTotal nested ty → x.isSome = true)
    (hx : H → ∀ res, x = some res → AllOk res.2) (p : LoopPost nested ty H' o) (h : H → H' ∧ AllOk pre) :
    LoopPost nested ty H (match (generalizing := false) x with
      | none => none
      | some (false, l) => some (false, pre ++ l)
      | some (true, l) => o.map fun (ok, l') => (ok, pre ++ l ++ l')) :=
  match x with
  | none => ⟨fun t => Bool.noConfusion (ht t), fun _ _ e => nomatch e⟩
  | some (false, _) => .done fun hh => List.forall_mem_append.mpr ⟨(h hh).2, hx hh _ rfl⟩
  | some (true, _) => p.next fun hh => ⟨(h hh).1, List.forall_mem_append.mpr ⟨(h hh).2, hx hh _ rfl⟩⟩

end LoopPost

theorem LoopHyp.next {env : Env} {site : Site} {arr : List Trip} {n idx : Nat} {st st' : LSt}
    (h : LoopHyp env site arr (n + 1) idx st) (hi : st'.Inv) : LoopHyp env site arr n (idx + 1) st' := ⟨h.env, h.win.next, hi⟩

theorem loop_post {nested : Nested} {env : Env} {site : Site} {arr : List Trip} : ∀ (n idx : Nat) (st : LSt),
    LoopPost nested st.es.type (NestedOK nested ∧ LoopHyp env site arr n idx st) (loop nested env site arr n idx st)
  | 0, _, _ => .done fun _ => List.forall_mem_nil _
  | n + 1, idx, st => by
    unfold loop
    dsimp only
    generalize hst : (if st.skipping = true ∧ (arr.getD idx fillTrip).address ≥ columns ∧ (arr.getD idx fillTrip).mode = 0x07
        then { st with skipping := false } else st) = st1
    have hty : st1.es.type = st.es.type := by rw [← hst]; split <;> rfl
    have hyp : NestedOK nested ∧ LoopHyp env site arr (n + 1) idx st → Hyp env st1 (arr.getD idx fillTrip) := fun h =>
      ⟨h.2.env, getD_ok arr h.2.win.trips idx, hst ▸ ite_both (P := LSt.Inv) ⟨h.2.inv.es, h.2.inv.s1g, h.2.inv.s1n⟩ h.2.inv⟩
    refine ite_both (ite_both ?_ ?_) ?_
    · -- header_only: a terminator ends the skipping and the activation
      unfold terminate
      exact (flushRow_spec env st1.es).elim fun (_, log) ⟨_, hl⟩ =>
        .done fun h => List.forall_mem_append.mpr ⟨h.2.win.read, (hl (hyp h).inv.es).2⟩
    · exact (hty ▸ loop_post n (idx + 1) st1).next fun h => ⟨⟨h.1, h.2.next (hyp h).inv⟩, h.2.win.read⟩
    · have hk := step_sound env st1 (arr.getD idx fillTrip)
      rw [hty] at hk
      generalize step env st1 (arr.getD idx fillTrip) = s at hk
      cases s with
      | hang => exact hk.elim
      | done ok log => exact .done fun h => List.forall_mem_append.mpr ⟨h.2.win.read, hk (hyp h)⟩
      | cont st' log =>
        exact (hk.1 ▸ loop_post n (idx + 1) st').next fun h =>
          ⟨⟨h.1, h.2.next (hk.2 (hyp h)).1⟩, List.forall_mem_append.mpr ⟨h.2.win.read, (hk.2 (hyp h)).2⟩⟩
      | call st' nt src =>
        obtain ⟨⟨ht', hlt, hle⟩, hs⟩ := hk
        have rest := loop_post (nested := nested) (env := env) (site := site) (arr := arr) n (idx + 1) { st' with offRow := 0, offCol := 0 }
        rw [show ({ st' with offRow := 0, offCol := 0 } : LSt).es.type = st.es.type from ht'] at rest
        have hrest := fun h : NestedOK nested ∧ LoopHyp env site arr (n + 1) idx st =>
          And.intro (And.intro h.1 (h.2.next (st' := { st' with offRow := 0, offCol := 0 }) ⟨(hs (hyp h)).1.es, (hs (hyp h)).1.s1g, (hs (hyp h)).1.s1n⟩)) h.2.win.read
        cases src with
        | loc start =>
          exact .call (fun t => t nt hlt hle _ _ _ _ _ _)
            (fun h res => h.1 nt _ _ .enh env.enh start _ res ⟨Or.inl rfl, h.2.env.enhTrips, Nat.le_refl _⟩) rest hrest
        | pop pointer arr' =>
          exact .call (fun t => t nt hlt hle _ _ _ _ _ _)
            (fun h res => h.1 nt _ _ .pop arr' (pointer + 1) _ res ⟨Or.inr rfl, (hs (hyp h)).2.2.2, Nat.le_refl _⟩) rest hrest

theorem initES_inv (type r c : Nat) : (initES type r c).Inv := rfl

theorem enhance_nestedOK (env : Env) (he : EnvOK env) : ∀ fuel, NestedOK (enhance env fuel)
  | 0 => fun _ _ _ _ _ _ _ _ _ h => by simp [enhance] at h
  | f + 1 => fun type r c site arr start count res hw h =>
    (loop_post count start _).2 ⟨enhance_nestedOK env he f, he, hw, initES_inv _ _ _, Nat.zero_le _, Nat.zero_le _⟩ res h

theorem enhance_total (env : Env) : ∀ (fuel ty : Nat), 1 ≤ fuel → maxObjectType + 1 ≤ fuel + ty →
    ∀ (r c : Nat) (site : Site) (arr : List Trip) (start count : Nat), (enhance env fuel ty r c site arr start count).isSome = true :=
  total_of_rising fun f ty nested r c site arr start count => by
    unfold enhance
    exact (loop_post count start _).1 nested

end Zvbi.Enh.Cells
