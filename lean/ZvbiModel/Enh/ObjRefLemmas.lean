import ZvbiModel.Enh.ObjRef
import ZvbiModel.Enh.Lemmas
import ZvbiModel.Ite
namespace Zvbi.Enh.ObjRef
open Zvbi.Generated.Enh Zvbi.Gen.C01

/-- same ledger, same fault mark -/
def Same (a b : St) : Prop := a.refs = b.refs ∧ a.fault = b.fault

theorem unref_get (s : St) (p : Nat) : (s.get p).unref p = s := by
  simp [St.get, St.unref]

/-- resolve_obj_address leaves the ledger as it was, but for the reference it hands to the caller on success -/
theorem resolve_spec (r : Resolve) (s : St) :
    (resolve r s).1 = match (resolve r s).2 with | none => s | some pt => s.get pt.1 := by
  cases r with
  | notCached => simp [resolve, unrefOnNotCached]
  | convertFails p => simp [resolve, unrefOnConvertFail, unref_get]
  | wrongFunction p => simp [resolve, unrefOnWrongFunction, unref_get]
  | found p conv pointer isDef target =>
    cases conv with
    | none =>
      simp only [resolve]
      split
      · simp [unrefOnPointerOutOfBounds, unref_get]
      · split
        · simp [unrefOnNoObjectDefinition, unref_get]
        · simp
    | some q =>
      simp only [resolve, convertReleasesOldOnSuccess, if_true, unref_get]
      split
      · simp [unrefOnPointerOutOfBounds]
      · split
        · simp [unrefOnNoObjectDefinition]
        · simp

theorem resolve_none (r : Resolve) (s s1 : St) (h : resolve r s = (s1, none)) : s1 = s := by
  have := resolve_spec r s
  rw [h] at this; exact this

theorem resolve_some (r : Resolve) (s s1 : St) (p t : Nat) (h : resolve r s = (s1, some (p, t))) : s1 = s.get p := by
  have := resolve_spec r s
  rw [h] at this; exact this

theorem enhance_balanced (objs : Objects) :
    ∀ (fuel type : Nat) (trips : List Trip) (s : St) (ok : Bool) (s' : St),
      enhance objs fuel type trips s = some (ok, s') → s' = s := by
  intro fuel
  induction fuel with
  | zero => intro type trips s ok s' h; simp [enhance] at h
  | succ f ih =>
    intro type trips
    induction trips with
    | nil => intro s ok s' h; simp [enhance] at h; exact h.2.symm
    | cons t rest ihr =>
      intro s ok s' h
      cases t with
      | other => simp only [enhance] at h; exact ihr s ok s' h
      | fails => simp [enhance] at h; exact h.2.symm
      | invoke mode r =>
        unfold enhance at h
        split at h
        · exact ihr s ok s' h
        · split at h
          · rename_i s1 hres
            simp at h
            rw [← h.2]; exact resolve_none r s s1 hres
          · rename_i s1 p target hres
            have hs1 := resolve_some r s s1 p target hres
            split at h
            · simp at h
            · rename_i s2 hrec
              have := ih _ _ _ _ _ hrec
              simp [enhanceUnrefAfterObjectFail] at h
              rw [← h.2, this, hs1, unref_get]
            · rename_i s2 hrec
              have h2 := ih _ _ _ _ _ hrec
              simp only [enhanceUnrefAfterObjectDone, if_true] at h
              have := ihr _ ok s' h
              rw [this, h2, hs1, unref_get]

theorem defaultObjects_balanced (objs : Objects) (fuel : Nat) :
    ∀ (l : List (Nat × Resolve)) (s : St) (ok : Bool) (s' : St), defaultObjects objs fuel l s = some (ok, s') → s' = s := by
  intro l
  induction l with
  | nil => intro s ok s' h; simp [defaultObjects] at h; exact h.2.symm
  | cons x rest ih =>
    intro s ok s' h
    obtain ⟨type, r⟩ := x
    unfold defaultObjects at h
    split at h
    · rename_i s1 hres
      simp at h; rw [← h.2]; exact resolve_none r s s1 hres
    · rename_i s1 p target hres
      have hs1 := resolve_some r s s1 p target hres
      split at h
      · simp at h
      · rename_i s2 hrec
        have := enhance_balanced objs _ _ _ _ _ _ hrec
        simp [defaultUnrefAfterObjectFail] at h
        rw [← h.2, this, hs1, unref_get]
      · rename_i s2 hrec
        have h2 := enhance_balanced objs _ _ _ _ _ _ hrec
        simp only [defaultUnrefAfterObjectDone, if_true] at h
        have := ih _ ok s' h
        rw [this, h2, hs1, unref_get]

theorem enhance_isSome (objs : Objects) : ∀ (fuel type : Nat), 1 ≤ fuel → maxObjectType + 1 ≤ fuel + type →
    ∀ (trips : List Trip) (s : St), (enhance objs fuel type trips s).isSome :=
  total_of_rising fun f type nested trips => by
    induction trips with
    | nil => intro s; simp [enhance]
    | cons t rest ih =>
      intro s
      cases t with
      | other => simpa [enhance] using ih s
      | fails => simp [enhance]
      | invoke mode r =>
        unfold enhance
        refine ite_ind (P := fun o : Option (Bool × St) => o.isSome = true) (fun _ => ih s) fun hskip => ?_
        split
        · rfl
        · rename_i s1 p target _
          obtain ⟨⟨ok, s2⟩, hn⟩ := Option.isSome_iff_exists.mp
            (nested _ (lt_of_not_skip hskip) (mask_le mode) (objs target) s1)
          rw [hn]
          cases ok
          · rfl
          · exact ih _

end Zvbi.Enh.ObjRef
