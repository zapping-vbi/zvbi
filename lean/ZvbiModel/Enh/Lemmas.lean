import ZvbiModel.Enh.Model
import ZvbiModel.Ite
/-!
# The recursion guard of `teletext.c enhance()`: an object is invoked only from an object of a lower type, so
# `maxObjectType + 1 - type` nested activations suffice, whatever else a model of the recursion keeps; the recursion
# skeleton `Enh/Model.lean` is the first of the three models that read it
-/
namespace Zvbi.Enh
open Zvbi.Generated.Enh

theorem mask_le (mode : Nat) : mode &&& typeMask ≤ maxObjectType := Nat.and_le_right

theorem lt_of_not_skip {newType type : Nat} (h : ¬ skipInvocation newType type = true) : type < newType := by
  simpa [skipInvocation] using h

/-- `T fuel ty`: an activation of type `ty` that may nest `fuel` activations answers.  Every model of the recursion shows
`step` from the guard (`lt_of_not_skip`, `mask_le`): its calls go to higher types only, up to `m`.  Then the fuel that is
left always covers the types that are left. -/
theorem total_of_rising {m : Nat} {T : Nat → Nat → Prop}
    (step : ∀ f ty, (∀ nt, ty < nt → nt ≤ m → T f nt) → T (f + 1) ty) :
    ∀ fuel ty, 1 ≤ fuel → m + 1 ≤ fuel + ty → T fuel ty := by
  intro fuel
  induction fuel with
  | zero => intro _ h; omega
  | succ f ih => exact fun ty _ hft => step f ty fun nt hlt hle => ih nt (by omega) (by omega)

theorem enhance_isSome (objs : Objects) : ∀ (fuel type : Nat), 1 ≤ fuel → maxObjectType + 1 ≤ fuel + type →
    ∀ trips : List Trip, (enhance objs fuel type trips).isSome :=
  total_of_rising fun f type nested trips => by
    induction trips with
    | nil => simp [enhance]
    | cons t rest ih =>
      cases t with
      | other => simpa [enhance] using ih
      | invoke mode target =>
        unfold enhance
        refine ite_ind (P := fun o : Option Nat => o.isSome = true) (fun _ => ih) fun hskip => ?_
        obtain ⟨n, hn⟩ := Option.isSome_iff_exists.mp (nested _ (lt_of_not_skip hskip) (mask_le mode) (objs target))
        simpa only [hn, Option.isSome_map] using ih

end Zvbi.Enh
