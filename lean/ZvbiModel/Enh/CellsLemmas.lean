import ZvbiModel.Enh.Cells
import ZvbiModel.Enh.Lemmas
import ZvbiModel.Log
import ZvbiModel.Yields
/-!
# Lemmas for `Enh/Cells.lean`: every access the address machine of `enhance()` logs is in range

The column loops (`flushLoop`, `styleCols`) return within their bound and keep the log in range (induction on the bound,
accumulator invariant); `flush` / `flushRow` keep the object type and the row pointer invariant
`acp = (inv_row + active_row) * EXT_COLUMNS`.  A triplet step is `Step.Sound`: it never hangs and keeps the object type
(termination), and under the hypotheses on environment, triplet and state it keeps the state invariant and logs in range
(safety); one lemma per step function.  The facts about the regenerated guards are used only through the small lemmas
of the first section, so a weakened guard breaks exactly the lemma that needs it.
-/
namespace Zvbi.Enh.Cells
open Zvbi.Gen.C01Cells Zvbi.Generated.Enh

@[simp] theorem ok_text (i : Nat) : ok (.text, i) = true ↔ i < textLen := decide_eq_true_iff
@[simp] theorem ok_rawRow (i : Nat) : ok (.rawRow, i) = true ↔ i < rawRows := decide_eq_true_iff
@[simp] theorem ok_rawCol (i : Nat) : ok (.rawCol, i) = true ↔ i < rawCols := decide_eq_true_iff
@[simp] theorem ok_s1 (i : Nat) : ok (.s1, i) = true ↔ i < drcsS1Len := decide_eq_true_iff
@[simp] theorem ok_drcsSlot (i : Nat) : ok (.drcsSlot, i) = true ↔ i < pageDrcsLen := decide_eq_true_iff
@[simp] theorem ok_drcsGlyph (i : Nat) : ok (.drcsGlyph, i) = true ↔ (i < drcsGlyphs ∧ i < invalidBits) := decide_eq_true_iff
@[simp] theorem ok_font (i : Nat) : ok (.font, i) = true ↔ i < fontLen := decide_eq_true_iff
@[simp] theorem ok_color (i : Nat) : ok (.color, i) = true ↔ i < colorMapLen := decide_eq_true_iff
@[simp] theorem ok_enh (i : Nat) : ok (.enh, i) = true ↔ i < enhLen := decide_eq_true_iff
@[simp] theorem ok_pop (i : Nat) : ok (.pop, i) = true ↔ i < popTripletLen := decide_eq_true_iff

theorem text_ok_of (row i : Nat) (hr : flushRowSkips row = false) (hi : flushColBreaks i = false) :
    ok (.text, row * extColumns + i) = true := by
  simp [flushRowSkips, flushColBreaks] at hr hi
  simp [textLen, extColumns]; omega

theorem rawRow_ok_of (row : Nat) (hr : flushRowSkips row = false) : ok (.rawRow, row) = true := by
  simp [flushRowSkips] at hr
  simp [rawRows]; omega

theorem rawCol_after_ok_of (i : Nat) (hi : flushColBreaks i = false) : ok (.rawCol, i + 1 - 1) = true := by
  simp [flushColBreaks] at hi
  simp [rawCols]; omega

theorem rawCol_peek_ok_of (i : Nat) (hi : flushBoxPeeks i = true) : ok (.rawCol, i) = true := by
  simp [flushBoxPeeks] at hi
  simp [rawCols]; omega

theorem rawCol_at_ok_of (i : Nat) (hi : flushColBreaks2 i = false) : ok (.rawCol, i) = true := by
  simp [flushColBreaks2] at hi
  simp [rawCols]; omega

theorem style_ok_of (row col : Nat) (hr : styleRowRuns row = true) (hc : styleColRuns col = true) :
    ok (.text, row * extColumns + col) = true := by
  simp [styleRowRuns, styleColRuns] at hr hc
  simp [textLen, extColumns]; omega

theorem color_ok_of (d : Nat) : ok (.color, d &&& colorMask) = true := by
  have : d &&& colorMask ≤ colorMask := Nat.and_le_right
  simp [colorMapLen, colorMask] at *; omega

theorem font_ok_of (d : Nat) (h : validSetInTable d = true) : ok (.font, d) = true := by
  simp [validSetInTable] at h
  simp [fontLen]; omega

theorem glyph_ok_of (d : Nat) (h : drcsOffsetRejects (drcsOffset d) = false) : ok (.drcsGlyph, drcsOffset d) = true := by
  simp [drcsOffsetRejects] at h
  simp [drcsGlyphs, invalidBits]; omega

theorem shift6_lt_two (d : Nat) (h : d ≤ tripDataMax) : d >>> 6 < 2 := by
  simp [tripDataMax] at h
  rw [Nat.shiftRight_eq_div_pow]; omega

theorem s1_mode_ok_of (d : Nat) (h : d ≤ tripDataMax) : ok (.s1, drcsModeIndex d) = true := by
  have := shift6_lt_two d h
  simp [drcsS1Len, drcsModeIndex]; omega

theorem s1_normal_ok_of (d : Nat) (h : d ≤ tripDataMax) : ok (.s1, drcsNormal d) = true := by
  have := shift6_lt_two d h
  simp [drcsS1Len, drcsNormal]; omega

theorem modeValue_le (d : Nat) : drcsModeValue d ≤ 15 := by
  unfold drcsModeValue; exact Nat.and_le_right

theorem slot_ok_of (d s1 : Nat) (h : d ≤ tripDataMax) (hs : s1 ≤ 15) : ok (.drcsSlot, drcsPage (drcsNormal d) s1) = true := by
  have := shift6_lt_two d h
  simp [pageDrcsLen, drcsPage, drcsNormal]; omega

theorem columns_sub_lt (i : Nat) : columns - i < colFuel := Nat.lt_of_le_of_lt (Nat.sub_le _ _) (by decide)

/-- `acp` points at the first cell of `row`, a row on which enhance_flush works: a hypothesis of the log being in range only,
the loops return from every state -/
def OnRow (row acp : Nat) : Prop := flushRowSkips row = false ∧ acp = row * extColumns

theorem flushLoop_spec (env : Env) (type row acp limit : Nat) :
    ∀ (fuel i : Nat) (mu : Bool) (log : List Access), columns - i < fuel →
      Yields (fun r => OnRow row acp → AllOk log → AllOk r.2)
        (flushLoop env type row acp limit fuel i mu log) := by
  intro fuel
  induction fuel with
  | zero => intro i mu log h; omega
  | succ f ih =>
    intro i mu log hf
    unfold flushLoop
    refine ite_both (.some fun _ h => h) (ite_ind (fun _ => .some fun _ h => h) fun hb => ?_)
    have hb : flushColBreaks i = false := by simpa using hb
    have hf' : columns - (i + 1) < f := by simp [flushColBreaks, columns] at *; omega
    -- `c = es->acp[i]; ... es->acp[i] = c;`
    have hcell : OnRow row acp → AllOk log → AllOk (log ++ [(.text, acp + i), (.text, acp + i)]) :=
      fun h hl => h.2 ▸ Log.snoc2 hl (text_ok_of row i h.1 hb) (text_ok_of row i h.1 hb)
    dsimp only
    refine ite_both (.some hcell) (ite_both ?_ ?_)
    · -- LOCAL / ACTIVE: the Level 1 page is consulted: `raw[row][i - 1]` after `i++`, the box look-ahead `raw[row][i]`
      generalize (if flushRawAfterSkips row (i + 1) then 0x20 else env.raw row (i + 1 - 1)) = r1
      have h2 := fun (h : OnRow row acp) (hl : AllOk log) =>
        have h1 := ite_both (P := AllOk) (c := flushRawAfterSkips row (i + 1) = true) (hcell h hl)
          (Log.snoc2 (hcell h hl) (rawRow_ok_of row h.1) (rawCol_after_ok_of i hb))
        ite_ind (P := AllOk) (c := (r1 = 0x0A ∨ r1 = 0x0B) ∧ flushBoxPeeks (i + 1) = true)
          (fun hp => Log.snoc2 h1 (rawRow_ok_of row h.1) (rawCol_peek_ok_of _ hp.2)) fun _ => h1
      refine ite_ind (fun _ => .some h2) fun hb2 => ?_
      have hb2 : flushColBreaks2 (i + 1) = false := by simpa using hb2
      exact (ih (i + 1) false _ hf').mono fun _ hq h hl =>
        hq h (ite_both (h2 h hl) (Log.snoc2 (h2 h hl) (rawRow_ok_of row h.1) (rawCol_at_ok_of _ hb2)))
    · exact (ih (i + 1) false _ hf').mono fun _ hq h hl => hq h (hcell h hl)

/-- the row pointer invariant of one activation -/
def ES.Inv (es : ES) : Prop := es.acp = (es.invRow + es.activeRow) * extColumns

/-- what a flush started in `es` returns: the object type stays (termination needs it of every state), and from a state with
the row pointer invariant it keeps the invariant and logs in range -/
def FlushPost (es : ES) (r : ES × List Access) : Prop := r.1.type = es.type ∧ (es.Inv → r.1.Inv ∧ AllOk r.2)

theorem FlushPost.refl (es : ES) : FlushPost es (es, []) := ⟨rfl, fun hi => ⟨hi, List.forall_mem_nil _⟩⟩

theorem flush_spec (env : Env) (es : ES) (column : Nat) : Yields (FlushPost es) (flush env es column) := by
  unfold flush
  refine ite_ind (fun _ => .some (.refl es)) fun hrs => ite_both (.some ⟨rfl, fun hi => ⟨hi, List.forall_mem_nil _⟩⟩) ?_
  refine (flushLoop_spec env es.type (es.invRow + es.activeRow) es.acp (es.invCol + column) colFuel
    (es.invCol + es.activeCol) es.macUnicode [] (columns_sub_lt _)).elim fun (mu, log) hl => ?_
  exact .some ⟨rfl, fun hi => ⟨hi, hl ⟨by simpa using hrs, hi⟩ (List.forall_mem_nil _)⟩⟩

theorem flushRow_spec (env : Env) (es : ES) : Yields (FlushPost es) (flushRow env es) := by
  unfold flushRow
  dsimp only
  refine (flush_spec env es
    (if es.type = typePassive ∨ es.type = typeAdaptive then es.activeCol + flushRowObjectAdvance else flushRowColumn)).elim
    fun (es', log) ⟨ht, hl⟩ => .some ?_
  split <;> exact ⟨ht, hl⟩

theorem flushTo_spec (env : Env) (es : ES) (column : Nat) : Yields (FlushPost es) (flushTo env es column) :=
  ite_both (flush_spec env es column) (.some (.refl es))

theorem styleCols_spec (base : Nat) : ∀ (fuel col : Nat) (log : List Access), columns - col < fuel →
    Yields (fun l => ∀ row, styleRowRuns row = true → base = row * extColumns → AllOk log → AllOk l) (styleCols base fuel col log) := by
  intro fuel
  induction fuel with
  | zero => intro col log h; omega
  | succ f ih =>
    intro col log hf
    unfold styleCols
    refine ite_ind (fun hc => ?_) fun _ => .some fun _ _ _ h => h
    exact (ih (col + 1) (log ++ [(.text, base + col)]) (by simp [styleColRuns, columns] at *; omega)).mono
      fun _ hq row hr hb h => hq row hr hb (Log.snoc h (hb ▸ style_ok_of row col hr hc))

theorem styleRows_spec (col0 : Nat) : ∀ (count row acp : Nat) (log : List Access),
    Yields (fun l => acp = row * extColumns → AllOk log → AllOk l) (styleRows col0 count row acp log) := by
  intro count
  induction count with
  | zero => intro row acp log; exact .some fun _ h => h
  | succ n ih =>
    intro row acp log
    unfold styleRows
    refine ite_ind (fun hr => ?_) fun _ => .some fun _ h => h
    refine (styleCols_spec acp colFuel col0 log (columns_sub_lt _)).elim fun l1 q1 => ?_
    exact (ih (row + 1) (acp + extColumns) l1).mono fun _ q ha h => q (by rw [ha, Nat.add_mul, Nat.one_mul]) (q1 row hr ha h)

structure LSt.Inv (st : LSt) : Prop where
  es : st.es.Inv
  s1g : st.s1g ≤ 15
  s1n : st.s1n ≤ 15

def SrcOK : CallSrc → Prop
  | .loc _ => True
  | .pop p arr => p ≤ Zvbi.Gen.C01.pointerLimit ∧ arr.length = popTripletLen ∧ ∀ t ∈ arr, TripOK t

/-- What a step establishes, `ty` being the object type of the state it started from.  Unconditionally (termination
rests on this): it does not hang, the type stays, a call rises in type.  Under the hypotheses `H` (safety): the state
invariant, a log in range, a well-formed called object. -/
def Step.Sound (H : Prop) (ty : Nat) : Step → Prop
  | .cont st log => st.es.type = ty ∧ (H → st.Inv ∧ AllOk log)
  | .done _ log => H → AllOk log
  | .call st nt src => (st.es.type = ty ∧ ty < nt ∧ nt ≤ maxObjectType) ∧ (H → st.Inv ∧ SrcOK src)
  | .hang => False

theorem Step.Sound.mono {H H' : Prop} {ty : Nat} (hh : H' → H) : ∀ {s : Step}, s.Sound H ty → s.Sound H' ty
  | .cont _ _, h => ⟨h.1, fun x => h.2 (hh x)⟩
  | .done _ _, h => fun x => h (hh x)
  | .call _ _ _, h => ⟨h.1, fun x => h.2 (hh x)⟩

/-- the hypotheses of safety for the step on triplet `t` in state `st` -/
structure Hyp (env : Env) (st : LSt) (t : Trip) : Prop where
  env : EnvOK env
  trip : TripOK t
  inv : st.Inv

variable (env : Env) (st : LSt) (t : Trip)

theorem sound_same {t : Trip} : (Step.cont st []).Sound (Hyp env st t) st.es.type := ⟨rfl, fun h => ⟨h.inv, List.forall_mem_nil _⟩⟩

theorem sound_fail {H : Prop} {ty : Nat} : (Step.done false []).Sound H ty := fun _ => List.forall_mem_nil _

theorem setActive_flush (es : ES) (row : Nat) :
    Yields (FlushPost es) (if row > es.activeRow then flushRow env es else flush env es (es.activeCol + 1)) :=
  ite_both (flushRow_spec env es) (flush_spec env es _)

theorem setActive_sound (row column : Nat) : (setActive env st row column).Sound (Hyp env st t) st.es.type := by
  unfold setActive
  refine ite_both ⟨rfl, fun h => ⟨⟨h.inv.es, h.inv.s1g, h.inv.s1n⟩, List.forall_mem_nil _⟩⟩ ?_
  exact (setActive_flush env st.es row).elim fun (es, log) ⟨ht, hl⟩ =>
    ⟨ht, fun h => ⟨⟨rfl, h.inv.s1g, h.inv.s1n⟩, (hl h.inv.es).2⟩⟩

theorem terminate_sound : (terminate env st).Sound (Hyp env st t) st.es.type := by
  unfold terminate
  exact (flushRow_spec env st.es).elim fun (es, log) ⟨_, hl⟩ h => (hl h.inv.es).2

/-- The 0xFF fill has mode 0xFF: a triplet whose mode is a mode (5 bits) was stored by a writer of packet.c, so its data has 7 bits. -/
theorem tripOK_data {t : Trip} (h : TripOK t) (hm : t.mode ≤ tripModeMask) : t.data ≤ tripDataMax := by
  rcases h with h | h
  · exact h.2.2
  · subst h; simp [fillTrip, tripFill, tripModeMask] at hm

theorem rowColorStep_sound : (rowColorStep env st t).Sound (Hyp env st t) st.es.type := by
  unfold rowColorStep
  have hs := setActive_sound env st t (if t.mode = 0x07 then 0 else rowOfAddress t.address) 0
  dsimp only
  split
  · rename_i st' l heq
    rw [heq] at hs
    exact ⟨hs.1, fun h => ⟨(hs.2 h).1, List.forall_mem_append.mpr
      ⟨Log.opt fun _ => color_ok_of _, (hs.2 h).2⟩⟩⟩
  · exact hs

theorem invokeStep_sound : (invokeStep env st t).Sound (Hyp env st t) st.es.type := by
  unfold invokeStep
  dsimp only
  refine ite_both (sound_same env st) (ite_ind (fun _ => sound_same env st) fun hsk => ?_)
  have call : ∀ {src}, (Hyp env st t → SrcOK src) → (Step.call st (t.mode &&& typeMask) src).Sound (Hyp env st t) st.es.type :=
    fun hs => ⟨⟨rfl, lt_of_not_skip hsk, mask_le _⟩, fun h => ⟨h.inv, hs h⟩⟩
  -- source 0: illegal; 1: local object; 2, 3: public, global object
  refine ite_both (sound_same env st) (ite_both (ite_both (sound_same env st) (ite_both sound_fail (call fun _ => trivial))) ?_)
  cases hp : env.pop (t.mode &&& typeMask) t.address t.data with
  | none => exact sound_fail
  | some pa => exact call fun h => h.env.popPtr _ _ _ _ _ hp

/-- `hm`: only a triplet that has a mode has 7 bit data (`tripOK_data`), which keeps `drcs_s1[data >> 6]` inside -/
theorem drcsModeStep_sound (hm : t.mode = 0x18) : (drcsModeStep st t).Sound (Hyp env st t) st.es.type :=
  ⟨ite_both (P := fun s : LSt => s.es.type = st.es.type) rfl (ite_both (P := fun s : LSt => s.es.type = st.es.type) rfl rfl),
    fun h => ⟨ite_both ⟨h.inv.es, modeValue_le _, h.inv.s1n⟩ (ite_both ⟨h.inv.es, h.inv.s1g, modeValue_le _⟩ h.inv),
      List.forall_mem_singleton.mpr (s1_mode_ok_of _ (tripOK_data h.trip (by rw [hm]; decide)))⟩⟩

theorem rowStep_sound : (rowStep env st t).Sound (Hyp env st t) st.es.type := by
  have same := sound_same env st (t := t)
  have set := setActive_sound env st t
  have term := terminate_sound env st t
  have inv : ∀ {st' : LSt}, st'.es = st.es → st'.s1g = st.s1g → st'.s1n = st.s1n →
      (Step.cont st' []).Sound (Hyp env st t) st.es.type :=
    fun he hg hn => ⟨by rw [he], fun h => ⟨⟨he ▸ h.inv.es, hg ▸ h.inv.s1g, hn ▸ h.inv.s1n⟩, List.forall_mem_nil _⟩⟩
  exact ite_both sound_fail                                                          -- behind PDC hours (0x0B): invalid
    (ite_both (ite_both ⟨rfl, fun h => ⟨h.inv, List.forall_mem_singleton.mpr (color_ok_of _)⟩⟩ same)  -- 0x00 full screen colour
    (ite_both same                                                                   -- 0x07 not at row 0
    (ite_both (rowColorStep_sound env st t)                                          -- 0x07, 0x01 full row colour
    (ite_both (ite_both (ite_both same (set _ _)) (set _ _))                         -- 0x04 set active position
    (ite_both (inv rfl rfl rfl)                                                      -- 0x0B PDC
    (ite_both (ite_both same (ite_both same (inv rfl rfl rfl)))                      -- 0x10 origin modifier
    (ite_both (invokeStep_sound env st t)                                            -- 0x11 .. 0x13 object invocation
    (ite_both term                                                                   -- 0x15 .. 0x17 object definition
    (ite_ind (drcsModeStep_sound env st t) fun _ =>                                  -- 0x18 DRCS mode
    ite_both term same)))))))))                                                      -- 0x1F termination marker; reserved

/-- the hypotheses behind the flush of a column triplet: the flush returned `es`, `log` -/
structure FlushedHyp (es : ES) (log : List Access) : Prop extends Hyp env st t where
  es : es.Inv
  log : AllOk log

/-- what `withFlush` needs of the continuation it hands the flushed `es` and `log` to -/
def ContSound (f : ES → List Access → Step) : Prop :=
  ∀ es log, es.type = st.es.type → (f es log).Sound (FlushedHyp env st t es log) st.es.type

theorem withFlush_sound (column : Nat) (f : ES → List Access → Step) (hf : ContSound env st t f) :
    (withFlush env st column f).Sound (Hyp env st t) st.es.type := by
  unfold withFlush
  exact (flushTo_spec env st.es column).elim fun (es, log) ⟨ht, hl⟩ =>
    (hf es log ht).mono fun h => ⟨h, (hl h.inv.es).1, (hl h.inv.es).2⟩

theorem storeCh_sound : ContSound env st t (storeCh st) :=
  fun _ _ h => ⟨h, fun hh => ⟨⟨hh.es, hh.inv.s1g, hh.inv.s1n⟩, hh.log⟩⟩

theorem keepSt_sound (g : List Access → List Access) (hg : ∀ log, AllOk log → AllOk (g log)) :
    ContSound env st t fun es log => keepSt st es (g log) :=
  fun _ log h => ⟨h, fun hh => ⟨⟨hh.es, hh.inv.s1g, hh.inv.s1n⟩, hg log hh.log⟩⟩

theorem drcsStep_sound (hm : t.mode = 0x0D) : (drcsStep env st t).Sound (Hyp env st t) st.es.type := by
  unfold drcsStep
  dsimp only
  refine ite_both (sound_same env st) (ite_ind (fun _ => sound_same env st) fun hoff =>
    withFlush_sound env st t _ _ fun es log h => ?_)
  have hoff : drcsOffsetRejects (drcsOffset t.data) = false := by simpa using hoff
  have hle : st.Inv → (if drcsNormal t.data = 0 then st.s1g else st.s1n) ≤ 15 := fun hi => ite_both (P := (· ≤ 15)) hi.s1g hi.s1n
  generalize (if drcsNormal t.data = 0 then st.s1g else st.s1n) = s1 at hle ⊢
  have hd : Hyp env st t → t.data ≤ tripDataMax := fun hh => tripOK_data hh.trip (by rw [hm]; decide)
  have hs : FlushedHyp env st t es log → AllOk (log ++ [(Site.s1, drcsNormal t.data)]) :=
    fun hh => Log.snoc hh.log (s1_normal_ok_of _ (hd hh.toHyp))
  exact ite_both ⟨h, fun hh => ⟨⟨hh.es, hh.inv.s1g, hh.inv.s1n⟩, Log.snoc2 (hs hh) (glyph_ok_of _ hoff)
    (slot_ok_of _ _ (hd hh.toHyp) (hle hh.inv))⟩⟩ hs

theorem styleStep_sound : (styleStep env st t).Sound (Hyp env st t) st.es.type := by
  unfold styleStep
  refine ite_both (sound_same env st) ?_
  dsimp only
  refine (styleRows_spec (st.es.invCol + t.address) ((t.data >>> 4) + 1) (st.es.invRow + st.es.activeRow)
    ((st.es.invRow + st.es.activeRow) * extColumns) []).elim fun log hl => ?_
  exact ⟨rfl, fun h => ⟨h.inv, hl rfl (List.forall_mem_nil _)⟩⟩

theorem colStep_sound : (colStep env st t).Sound (Hyp env st t) st.es.type := by
  have same := sound_same env st (t := t)
  have wf := withFlush_sound env st t t.address
  have store := wf _ (storeCh_sound env st t)
  have keep := keepSt_sound env st t
  unfold colStep
  dsimp only
  -- every mode: below its level `same`, else flush up to the column and store (`store`) or keep (`keep`) the pending character
  exact ite_both (ite_both (wf _ (keep _ fun _ hl => Log.snoc hl (color_ok_of _))) same)      -- 0x00, 0x03 foreground, background colour
    (ite_both (ite_both (wf _ fun es log h => ite_both (storeCh_sound env st t es log h)       -- 0x01 G1 mosaic character
      (keep id (fun _ hl => hl) es log h)) same)
    (ite_both same                                                                             -- 0x0B G3 character, below Level 2.5
    (ite_both (ite_both store same)                                                            -- 0x02, 0x0B G3 character
    (ite_both (ite_both (wf _ (keep id fun _ hl => hl)) same)                                  -- 0x07, 0x0C flash, display attributes
    (ite_both (ite_both (wf _ (keep _ fun _ hl =>                                              -- 0x08 character set designation
      Log.ite (fun hv => Log.snoc hl (font_ok_of _ hv)) fun _ => hl)) same)
    (ite_both (ite_both store same)                                                            -- 0x09 G0 character
    (ite_ind (drcsStep_sound env st t) fun _ =>                                                -- 0x0D DRCS character
    ite_both (styleStep_sound env st t)                                                        -- 0x0E font style
    (ite_both (ite_both store same) same))))))))                                               -- 0x0F G2, 0x10 .. 0x1F diacritical mark; other

theorem step_sound : (step env st t).Sound (Hyp env st t) st.es.type :=
  ite_both (rowStep_sound env st t) (colStep_sound env st t)

end Zvbi.Enh.Cells
