import ZvbiModel.Enh.CellsLemmas
/-!
# post_enhance, the Level 1 double height copy: every cell index in range
-/
namespace Zvbi.Enh.Cells
open Zvbi.Gen.C01Cells

/-- `hl`: post_enhance computes `last_row = MIN (display_rows, ROWS) - 2`, at most 23 -/
theorem postCell_ok (size : Nat → Nat → Nat) (lastRow : Int) (hl : lastRow ≤ 23) (row column : Nat)
    (hr : postRowRuns row lastRow = true) (hc : postColRuns column = true) : AllOk (postCell size lastRow row column) := by
  have hr : (row : Int) ≤ lastRow := by simpa [postRowRuns] using hr
  have hc : column < 40 := by simpa [postColRuns] using hc
  have h0 : ok (.text, row * extColumns + column) = true := by simp [textLen, extColumns]; omega
  have hb1 : ∀ h : postBelowOk row lastRow = true, ok (.text, row * extColumns + column + extColumns) = true := by
    intro h; have : (row : Int) < lastRow := by simpa [postBelowOk] using h
    simp [textLen, extColumns]; omega
  have hb2 : ∀ h : postBelowOk row lastRow = true, ok (.text, row * extColumns + column + extColumns + 1) = true := by
    intro h; have : (row : Int) < lastRow := by simpa [postBelowOk] using h
    simp [textLen, extColumns]; omega
  have hn : ∀ h : postNextOk column = true, ok (.text, row * extColumns + column + 1) = true := by
    intro h; simp [textLen, extColumns]; omega
  have hrd : AllOk [(Site.text, row * extColumns + column)] := List.forall_mem_singleton.mpr h0
  have hbelow : AllOk (if postBelowOk row lastRow then [(Site.text, row * extColumns + column + extColumns)] else []) :=
    Log.opt hb1
  have hbelow2 : AllOk (if postBelowOk row lastRow then [(Site.text, row * extColumns + column + extColumns), (Site.text, row * extColumns + column + extColumns + 1)] else []) :=
    ite_ind (fun h => List.forall_mem_cons.mpr ⟨hb1 h, List.forall_mem_singleton.mpr (hb2 h)⟩) fun _ => List.forall_mem_nil _
  have hnext : AllOk (if postNextOk column then [(Site.text, row * extColumns + column + 1)] else []) :=
    Log.opt hn
  unfold postCell
  simp only
  split
  · exact List.forall_mem_append.mpr ⟨List.forall_mem_append.mpr ⟨hrd, hbelow⟩, hnext⟩
  · exact List.forall_mem_append.mpr ⟨hrd, hbelow⟩
  · exact List.forall_mem_append.mpr ⟨List.forall_mem_append.mpr ⟨hrd, hbelow2⟩, hnext⟩
  · exact List.forall_mem_append.mpr ⟨hrd, hnext⟩
  · exact hrd

theorem postCols_ok (size : Nat → Nat → Nat) (lastRow : Int) (hl : lastRow ≤ 23) (row : Nat) (hr : postRowRuns row lastRow = true) :
    ∀ fuel column, AllOk (postCols size lastRow row fuel column) := by
  intro fuel
  induction fuel with
  | zero => intro _; exact List.forall_mem_nil _
  | succ f ih =>
    intro column
    unfold postCols
    split
    · rename_i hc
      exact List.forall_mem_append.mpr ⟨postCell_ok size lastRow hl row column hr hc, ih _⟩
    · exact List.forall_mem_nil _

theorem postRows_ok (size : Nat → Nat → Nat) (lastRow : Int) (hl : lastRow ≤ 23) : ∀ fuel row, AllOk (postRows size lastRow fuel row) := by
  intro fuel
  induction fuel with
  | zero => intro _; exact List.forall_mem_nil _
  | succ f ih =>
    intro row
    unfold postRows
    split
    · rename_i hr
      exact List.forall_mem_append.mpr ⟨postCols_ok size lastRow hl row hr _ _, ih _⟩
    · exact List.forall_mem_nil _

theorem l1Copy_ok (size : Nat → Nat → Nat) (row : Nat) (hr : l1DoubleRowOk row = true) : ∀ fuel column, AllOk (l1Copy size row fuel column) := by
  have hr : row < 23 := by simp [l1DoubleRowOk] at hr; omega
  intro fuel
  induction fuel with
  | zero => intro _; exact List.forall_mem_nil _
  | succ f ih =>
    intro column
    unfold l1Copy
    split
    · rename_i hc
      have hc : column < 41 := by simpa [l1CopyRuns] using hc
      simp only
      split
      · refine List.forall_mem_append.mpr ⟨?_, ih _⟩
        refine List.forall_mem_cons.mpr ⟨?_, List.forall_mem_cons.mpr ⟨?_, List.forall_mem_singleton.mpr ?_⟩⟩ <;> (simp [textLen, extColumns]; omega)
      · refine List.forall_mem_append.mpr ⟨?_, ih _⟩
        refine List.forall_mem_cons.mpr ⟨?_, List.forall_mem_singleton.mpr ?_⟩ <;> (simp [textLen, extColumns]; omega)
    · exact List.forall_mem_nil _

end Zvbi.Enh.Cells
