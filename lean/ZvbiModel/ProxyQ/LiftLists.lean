/-!
# List facts the lifting of C18 uses: `getElem?` / `set` / `eraseIdx`, and the OR over a list of masks
-/
namespace Zvbi.ProxyQ

theorem mem_of_getElem?_eq {α : Type} {l : List α} {i : Nat} {a : α} (h : l[i]? = some a) : a ∈ l :=
  List.mem_of_getElem? h

theorem lt_of_getElem?_eq {α : Type} {l : List α} {i : Nat} {a : α} (h : l[i]? = some a) : i < l.length :=
  (List.getElem?_eq_some_iff.mp h).1

theorem mem_set_cases {α : Type} {l : List α} {i : Nat} {a x : α} (hx : x ∈ l.set i a) :
    x = a ∨ ∃ j, j ≠ i ∧ l[j]? = some x := by
  obtain ⟨j, hj⟩ := List.mem_iff_getElem?.mp hx
  by_cases hji : i = j
  · subst hji
    left
    have hlt := lt_of_getElem?_eq hj
    rw [List.getElem?_set_self (by simpa using hlt)] at hj
    exact (Option.some.inj hj).symm
  · right
    rw [List.getElem?_set_ne hji] at hj
    exact ⟨j, fun h => hji h.symm, hj⟩

theorem forall_mem_set {α : Type} {P : α → Prop} {l : List α} {i : Nat} {a : α}
    (h : ∀ x ∈ l, P x) (ha : P a) : ∀ x ∈ l.set i a, P x :=
  fun x hx => (List.mem_or_eq_of_mem_set hx).elim (h x) (· ▸ ha)

theorem set_eq_self_of_getElem? {α : Type} {l : List α} {i : Nat} {a : α} (h : l[i]? = some a) : l.set i a = l := by
  obtain ⟨hi, rfl⟩ := List.getElem?_eq_some_iff.mp h
  exact List.set_getElem_self hi

theorem take_map_succ {α β : Type} (f : α → β) (q : List α) (b : Nat) (d : α) (hb : b < q.length) :
    (q.take (b + 1)).map f = (q.take b).map f ++ [f (q.getD b d)] := by
  rw [List.take_add_one, List.map_append, List.getD_eq_getElem?_getD, List.getElem?_eq_getElem hb]; rfl

theorem map_eraseIdx {α β : Type} (f : α → β) : ∀ (l : List α) (i : Nat), (l.eraseIdx i).map f = (l.map f).eraseIdx i := by
  intro l
  induction l with
  | nil => intro i; rfl
  | cons a t ih =>
    intro i
    cases i with
    | zero => rfl
    | succ i => simp [List.eraseIdx_cons_succ, ih]

theorem foldl_or_acc (l : List Nat) (acc : Nat) : l.foldl (· ||| ·) acc = acc ||| l.foldl (· ||| ·) 0 := by
  induction l generalizing acc with
  | nil => simp
  | cons a t ih =>
    simp only [List.foldl_cons]
    rw [ih (acc ||| a), ih (0 ||| a)]
    simp [Nat.or_assoc]

theorem foldl_or_eq_zero (l : List Nat) : l.foldl (· ||| ·) 0 = 0 ↔ ∀ x ∈ l, x = 0 := by
  induction l with
  | nil => simp
  | cons a t ih =>
    simp only [List.foldl_cons, List.mem_cons, forall_eq_or_imp]
    rw [foldl_or_acc, Nat.or_eq_zero_iff, ih]
    simp

theorem orAll_cons (a : Nat) (t : List Nat) : (a :: t).foldl (· ||| ·) 0 = a ||| t.foldl (· ||| ·) 0 := by
  simp only [List.foldl_cons]
  rw [foldl_or_acc]; simp

theorem orAll_eraseIdx : ∀ (l : List Nat) (i : Nat), l[i]? = some 0 → (l.eraseIdx i).foldl (· ||| ·) 0 = l.foldl (· ||| ·) 0 := by
  intro l
  induction l with
  | nil => intro i h; simp at h
  | cons a t ih =>
    intro i h
    cases i with
    | zero =>
      simp only [List.getElem?_cons_zero, Option.some.injEq] at h
      subst h
      rw [List.eraseIdx_cons_zero, orAll_cons]; simp
    | succ i =>
      rw [List.eraseIdx_cons_succ, orAll_cons, orAll_cons, ih i (by simpa using h)]

theorem foldl_congr {α β : Type} {f g : α → β → α} : ∀ (l : List β) (a : α), (∀ a, ∀ b ∈ l, f a b = g a b) →
    l.foldl f a = l.foldl g a
  | [], _, _ => rfl
  | b :: t, a, h => by
    rw [List.foldl_cons, List.foldl_cons, h a b (List.mem_cons_self ..)]
    exact foldl_congr t _ fun a b hb => h a b (List.mem_cons_of_mem _ hb)

theorem foldl_or_zero {β : Type} (l : List β) (f : β → Nat) (h : ∀ x ∈ l, f x = 0) :
    l.foldl (fun acc x => acc ||| f x) 0 = 0 :=
  List.foldl_map.symm.trans ((foldl_or_eq_zero _).mpr (List.forall_mem_map.mpr h))

theorem foldl_max_ge {α : Type} (f : α → Nat) (l : List α) (m : Nat) : m ≤ l.foldl (fun m a => max m (f a)) m := by
  induction l generalizing m with
  | nil => exact Nat.le_refl _
  | cons c t ih =>
    simp only [List.foldl_cons]
    exact Nat.le_trans (Nat.le_max_left _ _) (ih _)

end Zvbi.ProxyQ
