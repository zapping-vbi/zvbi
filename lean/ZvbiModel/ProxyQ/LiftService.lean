import ZvbiModel.ProxyQ.LiftCapture
/-!
# Lifting, part 4: service negotiation (`vbi_proxy_queue_allocate`, `vbi_proxyd_update_services` in its two stages)

The key facts: the grant of a client that has queued frames is `allOf` of its stored requests, so recomputing
it leaves it unchanged (`allOf_mask`: masking the requests with the grant does not change the grant); the
requesting client has no queued frames when its grant is recomputed (a new client never had any, a SERVICE_REQ
released them first); the device is stopped only when the union of the grants is empty, and then nobody has
queued frames and the queue is empty, so freeing it leaves no cursor dangling.
-/
namespace Zvbi.ProxyQ
open Zvbi.Gen.ProxyQ

/-- `vbi_proxy_queue_allocate` only adjusts the free list: afterwards free + queued = allocated again and the
queue has room for `DEFAULT_BUFFER_COUNT` buffers at least -/
theorem allocate_eq (d : Dev) (cl : List Client) :
    ∃ F A, allocate d cl = { d with free := F, allocated := A } ∧
      (d.free + d.q.length = d.allocated → F + d.q.length = A ∧ defaultBufferCount ≤ F + d.q.length) := by
  have hw : defaultBufferCount ≤ cl.foldl (fun m c => max m c.bufferCount) defaultBufferCount + cl.length :=
    Nat.le_trans (foldl_max_ge (·.bufferCount) cl defaultBufferCount) (Nat.le_add_right _ _)
  unfold allocate
  generalize cl.foldl (fun m c => max m c.bufferCount) defaultBufferCount + cl.length = w at hw
  dsimp only
  -- too many buffers: the free list is dropped first; then it is filled up to `w - used`, or left as it is
  -- (`by_cases` on the reduced conditions: the hypotheses `split` leaves hold record projections that `omega` cannot read)
  by_cases h1 : d.free + d.q.length > w
  · rw [if_pos h1]
    by_cases h2 : 0 + d.q.length < w
    · rw [if_pos h2]
      refine ⟨_, _, rfl, fun h => ?_⟩
      show w - d.q.length + d.q.length = d.allocated - d.free + (w - d.q.length - 0) ∧ _
      rw [← h, Nat.add_sub_cancel_left, Nat.sub_zero]
      omega
    · rw [if_neg h2]
      refine ⟨_, _, rfl, fun h => ?_⟩
      show 0 + d.q.length = d.allocated - d.free ∧ _
      rw [← h, Nat.add_sub_cancel_left]
      omega
  · rw [if_neg h1]
    by_cases h2 : d.free + d.q.length < w
    · rw [if_pos h2]
      exact ⟨_, _, rfl, fun h => by rw [← h]; omega⟩
    · rw [if_neg h2]
      exact ⟨_, _, rfl, fun h => ⟨h, by omega⟩⟩

theorem allocate_opened (d : Dev) (cl : List Client) : (allocate d cl).opened = d.opened := by
  obtain ⟨F, A, he, _⟩ := allocate_eq d cl; rw [he]

theorem coreV_allocate {cfg : Cfg} {d d' : Dev} {vs : List CV} (h : CoreV cfg d vs) (cl : List Client)
    (hq : d'.q = d.q) (hf : d'.free = d.free) (ha : d'.allocated = d.allocated)
    (ho : d.opened = true → d'.opened = true) : CoreV cfg (allocate d' cl) vs := by
  obtain ⟨F, A, he, hfa⟩ := allocate_eq d' cl
  obtain ⟨h1, h2⟩ := hfa (by rw [hq, hf, ha]; exact h.alloc)
  rw [he]
  exact h.of_dev hq (hq ▸ h1) (fun _ => hq ▸ h2) fun v hv hs => ho ((h.pc v hv).so hs)

theorem settledV_allocate {cfg : Cfg} {d : Dev} {vs : List CV} (h : SettledV cfg d vs) (cl : List Client) :
    SettledV cfg (allocate d cl) vs := by
  obtain ⟨F, A, he, _⟩ := allocate_eq d cl
  rw [he]; exact h.congr_dev rfl rfl

/-- `updClient` on a view; `mask`: the client is the requester, whose stored requests are masked with what was granted -/
def updV (cfg : Cfg) (mask : Bool) (v : CV) : CV :=
  if v.state != .forward then v else
  { v with allServices := allOf cfg v.services,
           services := if mask then maskServices cfg v.services else v.services }

theorem updV_of_ne {cfg : Cfg} {m : Bool} {v : CV} (h : v.state ≠ .forward) : updV cfg m v = v :=
  if_pos (bne_iff_ne.mpr h)

theorem updV_of_forward {cfg : Cfg} {m : Bool} {v : CV} (h : v.state = .forward) :
    updV cfg m v = { v with allServices := allOf cfg v.services,
                            services := if m then maskServices cfg v.services else v.services } :=
  if_neg (by rw [h]; decide)

theorem updClient_view (cfg : Cfg) (req : Option Nat) (c : Client) :
    (updClient cfg req c).view = updV cfg (req == some c.id) c.view := by
  by_cases hst : c.state = .forward
  · rw [updV_of_forward (v := c.view) hst, updClient, if_neg (by rw [hst]; decide)]
    cases hr : (req == some c.id) <;> rfl
  · rw [updV_of_ne (v := c.view) hst, updClient, if_pos (bne_iff_ne.mpr hst)]

theorem updV_grant (cfg : Cfg) (m : Bool) (v : CV) (hf : (updV cfg m v).state = .forward) :
    (updV cfg m v).allServices = allOf cfg (updV cfg m v).services := by
  by_cases hst : v.state = .forward
  · rw [updV_of_forward hst]
    cases m
    · rfl
    · exact (allOf_mask cfg v.services).symm
  · rw [updV_of_ne hst] at hf; exact absurd hf hst

/-- recomputing the grants keeps the per-client facts: a client with queued frames has the grant of its stored
requests already, so it keeps it (and stays subscribed) -/
theorem pc_upd {cfg : Cfg} {d : Dev} {v : CV} (m : Bool) (p : PC cfg d v)
    (ho : (updV cfg m v).subscribed = true → d.opened = true) : PC cfg d (updV cfg m v) := by
  by_cases hst : v.state = .forward
  · have hg := updV_grant cfg m v
    rw [updV_of_forward hst] at ho hg ⊢
    refine ⟨fun hb => ?_, fun hf => Or.inl (hg hf), fun hw => ?_, ho, p.gh, p.ov⟩
    · show (v.state == .forward && allOf cfg v.services != 0) = true
      rw [← (p.gw hst).resolve_right (Nat.ne_of_gt hb)]; exact p.sub hb
    · rw [hst] at hw; cases hw
  · rw [updV_of_ne hst] at ho ⊢
    exact ⟨p.sub, p.gw, p.w, ho, p.gh, p.ov⟩

theorem devUnion_eq_acc (cl : List Client) (acc : Nat) :
    cl.foldl (fun acc c => if c.state == .forward then acc ||| c.allServices else acc) acc
      = ((cl.map Client.view).map contrib).foldl (· ||| ·) acc := by
  induction cl generalizing acc with
  | nil => rfl
  | cons c t ih =>
    simp only [List.foldl_cons, List.map_cons]
    rw [ih]
    congr 1
    unfold contrib
    have e1 : c.view.state = c.state := rfl
    have e2 : c.view.allServices = c.allServices := rfl
    rw [e1, e2]
    split <;> simp

theorem devUnion_eq (cl : List Client) :
    cl.foldl (fun acc c => if c.state == .forward then acc ||| c.allServices else acc) 0 = unionV (cl.map Client.view) :=
  devUnion_eq_acc cl 0

/-! ## `vbi_proxyd_update_services` -/

/-- what the callers need to know about the clients after an update: same positions, states, ids; cursors
unchanged or released -/
def Kept (cl cl' : List Client) : Prop :=
  cl'.length = cl.length ∧
  ∀ (i : Nat) (c : Client), cl[i]? = some c → ∃ c' : Client, cl'[i]? = some c' ∧ c'.backlog ≤ c.backlog ∧ c'.state = c.state ∧ c'.id = c.id ∧
    c'.eof = c.eof

theorem Kept.refl (cl : List Client) : Kept cl cl :=
  ⟨rfl, fun _ c h => ⟨c, h, Nat.le_refl _, rfl, rfl, rfl⟩⟩

theorem Kept.of_map (cl : List Client) (F : Client → Client)
    (hF : ∀ c, (F c).backlog = c.backlog ∧ (F c).state = c.state ∧ (F c).id = c.id ∧ (F c).eof = c.eof) :
    Kept cl (cl.map F) :=
  ⟨by simp, fun i c hi => by
    obtain ⟨h1, h2, h3, h4⟩ := hF c
    exact ⟨F c, by rw [List.getElem?_map, hi]; rfl, by omega, h2, h3, h4⟩⟩

theorem updClient_kept (cfg : Cfg) (req : Option Nat) (c : Client) :
    (updClient cfg req c).backlog = c.backlog ∧ (updClient cfg req c).state = c.state ∧ (updClient cfg req c).id = c.id ∧
    (updClient cfg req c).eof = c.eof := by
  unfold updClient
  split
  · exact ⟨rfl, rfl, rfl, rfl⟩
  · simp only; split <;> exact ⟨rfl, rfl, rfl, rfl⟩

/-- under `Core` a FORWARD client that is granted nothing has no queued frames (`PC.sub`): the loop added to
`vbi_proxyd_update_services` finds nothing to release, whether or not the translator found it in the C source -/
theorem relLostLoop_id {cfg : Cfg} {s : State} (h : Core cfg s) : ∀ (fuel i : Nat), relLostLoop fuel s i = .ok s
  | 0, _ => rfl
  | fuel + 1, i => by
    rw [relLostLoop]
    cases hi : s.clients[i]? with
    | none => rfl
    | some c =>
      simp only
      refine ite_ind (P := (· = Except.ok s)) (fun hc => ?_) fun _ => relLostLoop_id h fuel (i + 1)
      have hb : c.backlog = 0 := (h.pc _ (mem_of_getElem?_eq (views_getElem? hi))).idle <| by
        show (c.state == .forward && c.allServices != 0) = false
        rw [eq_of_beq (Bool.and_eq_true_iff.mp hc).2]; exact Bool.and_false _
      rw [releaseOwn_idle _ hi hb]
      exact relLostLoop_id h fuel (i + 1)

theorem relLost_id {cfg : Cfg} {s : State} (h : Core cfg s) : relLost s = .ok s :=
  ite_both (P := (· = Except.ok s)) (relLostLoop_id h _ _) rfl

theorem Core.started {cfg : Cfg} {s : State} (h : Core cfg s) : Core cfg (startAcq cfg s) :=
  coreV_allocate h s.clients rfl rfl rfl (fun _ => rfl)

theorem SettledV.of_closed {cfg : Cfg} {d : Dev} {vs : List CV} (hc : d.opened = false)
    (hgs : Granted cfg vs) : SettledV cfg d vs :=
  have hn : ¬ d.opened = true := fun h => Bool.false_ne_true (hc.symm.trans h)
  ⟨hgs, fun h => absurd h hn, fun h => absurd h hn, fun h => absurd h hn⟩

/-- with nobody subscribed the acquisition can be stopped: the queue is empty, no cursor is left dangling -/
theorem Core.stopped {cfg : Cfg} {s : State} (h : Core cfg s) (hns : ∀ v ∈ views s, v.subscribed = false) :
    Core cfg (stopAcq s) ∧ (stopAcq s).dev.opened = false ∧ (stopAcq s).clients = s.clients := by
  unfold stopAcq
  refine ite_ind (P := fun x => Core cfg x ∧ x.dev.opened = false ∧ x.clients = s.clients)
    (fun _ => ⟨?_, rfl, rfl⟩) fun ho => ⟨h, Bool.eq_false_iff.mpr ho, rfl⟩
  have hq := (CoreV.idle_empty h hns).2
  exact CoreV.of_dev h hq.symm (by rw [hq]; rfl) nofun fun v hv hs => nomatch (hns v hv).symm.trans hs

theorem updV_backlog (cfg : Cfg) (m : Bool) (v : CV) : (updV cfg m v).backlog = v.backlog := by
  unfold updV; split <;> rfl

/-- the service loop on the views of an open device: every view is recomputed by `updV` (`m c`: the client is the
requester); the cursors stay, every client keeps its per-client facts, every grant is that of the stored requests -/
theorem coreV_upd {cfg : Cfg} {d : Dev} {cl : List Client} (m : Client → Bool) (h : CoreV cfg d (cl.map Client.view))
    (ho : d.opened = true) :
    CoreV cfg d (cl.map fun c => updV cfg (m c) c.view) ∧ Granted cfg (cl.map fun c => updV cfg (m c) c.view) := by
  refine ⟨⟨?_, fun v hv => ?_, h.alloc, h.depth⟩, fun v hv => ?_⟩
  · have : (cl.map fun c => updV cfg (m c) c.view).map (·.backlog) = (cl.map Client.view).map (·.backlog) := by
      rw [List.map_map, List.map_map]; exact List.map_congr_left fun c _ => updV_backlog ..
    rw [this]; exact h.q
  · obtain ⟨c, hc, rfl⟩ := List.mem_map.mp hv
    exact pc_upd _ (h.pc _ (List.mem_map_of_mem hc)) fun _ => ho
  · obtain ⟨c, _, rfl⟩ := List.mem_map.mp hv
    exact updV_grant cfg _ _

/-- the client list `cl2` after the service loop, with (`b`) or without the channel-change flag, which no view shows:
the views are those of `updV`, the positions are kept -/
theorem upd_clients (cfg : Cfg) (req : Option Nat) (cl : List Client) (b : Bool) {cl2 : List Client}
    (h2 : (if b = true then (cl.map (updClient cfg req)).map (fun c => { c with chnInd := c.chnInd ||| chnNorm })
      else cl.map (updClient cfg req)) = cl2) :
    cl2.map Client.view = cl.map (fun c => updV cfg (req == some c.id) c.view) ∧ Kept cl cl2 := by
  subst h2
  cases b
  · simp only [Bool.false_eq_true, if_false, List.map_map]
    exact ⟨List.map_congr_left fun c _ => updClient_view cfg req c, Kept.of_map _ _ (updClient_kept cfg req)⟩
  · simp only [if_true, List.map_map]
    exact ⟨List.map_congr_left fun c _ => updClient_view cfg req c, Kept.of_map _ _ fun c => updClient_kept cfg req c⟩

/-- the end of `vbi_proxyd_update_services`: with every grant recomputed, the device takes the union of the grants,
or is stopped if nobody is granted anything (then nobody has queued frames) -/
theorem upd_fin {cfg : Cfg} {s3 : State} (b : Bool) (h : Core cfg s3) (hg : Granted cfg (views s3)) :
    Safe (fun r => Core cfg r.1 ∧ Settled cfg r.1 ∧ r.1.clients = s3.clients)
      (if (unionV (views s3) != 0) = true then
        (.ok ({ s3 with dev := allocate { s3.dev with allServices := unionV (views s3),
                                                        maxLines := cfg.count s3.dev.active } s3.clients }, true) :
          Except Err (State × Bool))
      else .ok (stopAcq s3, b)) := by
  refine ite_ind (fun hz => .ok ⟨coreV_allocate h _ rfl rfl rfl id, ?_, rfl⟩) fun hz => .ok ?_
  · exact settledV_allocate ⟨hg, fun _ => bne_iff_ne.mp hz, fun _ => rfl, fun _ => rfl⟩ _
  · obtain ⟨hcs, hos, hcls⟩ := h.stopped (unionV_eq_zero.mp (Decidable.of_not_not fun hn => hz (bne_iff_ne.mpr hn)))
    exact ⟨hcs, by unfold Settled views; rw [hcls]; exact .of_closed hos hg, hcls⟩

/-- second stage, device open: the invariant is re-established whatever `max_lines`/`active` were before -/
theorem updStage2_ok {cfg : Cfg} {s1 : State} (req : Option Nat) (h : Core cfg s1) (ho : s1.dev.opened = true) :
    Safe (fun r => Core cfg r.1 ∧ Settled cfg r.1 ∧ Kept s1.clients r.1.clients) (updStage2 cfg s1 req) := by
  unfold updStage2
  dsimp only
  generalize updCalls cfg s1.clients true = calls
  generalize (if calls.isEmpty = true then s1.dev.decScanning else cfg.scanning) = decScanning
  generalize hcl2 : (if (decScanning != s1.dev.scanning) = true then _ else s1.clients.map (updClient cfg req)) = cl2
  obtain ⟨hv2, hk2⟩ := upd_clients cfg req s1.clients _ hcl2
  have hu : (s1.clients.map (updClient cfg req)).map Client.view = cl2.map Client.view :=
    (upd_clients cfg req s1.clients false rfl).1.trans hv2.symm
  rw [devUnion_eq, hu]
  generalize (if calls.isEmpty = true then s1.dev.active else _) = active
  generalize (if (decScanning != s1.dev.scanning) = true then decScanning else s1.dev.scanning) = scanning
  have hmid := coreV_upd (d := { s1.dev with active := active, decScanning := decScanning, scanning := scanning })
    (fun c => req == some c.id) (h.of_dev_eq rfl rfl rfl rfl) ho
  rw [← hv2] at hmid
  have hcore2 : Core cfg { s1 with
      clients := cl2,
      dev := { s1.dev with active := active, decScanning := decScanning, scanning := scanning },
      log := s1.log ++ calls } := hmid.1
  rw [relLost_id hcore2]
  exact (upd_fin _ hcore2 hmid.2).mono fun r ⟨a, b, c⟩ => ⟨a, b, c ▸ hk2⟩

/-- first stage: `Core` is kept, the clients are not touched, and if the device is (still) closed afterwards nobody
asked for anything: every grant is 0 = `allOf` (no requests) -/
theorem updStage1_ok {cfg : Cfg} {s : State} (h : Core cfg s) :
    Core cfg (updStage1 cfg s).1 ∧ (updStage1 cfg s).1.clients = s.clients ∧
      ((updStage1 cfg s).1.dev.opened = false → Granted cfg (views s)) := by
  have hso : (startAcq cfg s).dev.opened = true := allocate_opened _ _
  unfold updStage1
  split
  next hcl =>
    split
    next => exact ⟨h.started, rfl, fun hc => nomatch hso.symm.trans hc⟩
    next hany =>
      have hcl : s.dev.opened = false := by simpa using hcl
      have hnsub : ∀ v ∈ views s, v.subscribed = false := fun v hv =>
        Bool.eq_false_iff.mpr fun hs => Bool.false_ne_true (hcl.symm.trans ((h.pc v hv).so hs))
      have hgs : Granted cfg (views s) := by
        intro v hv hf
        obtain ⟨c, hcm, rfl⟩ := List.mem_map.mp hv
        rw [allOf_zero cfg c.view.services (Bool.eq_false_iff.mpr fun hx => hany (List.any_eq_true.mpr ⟨c, hcm, hx⟩))]
        have := hnsub _ hv
        unfold CV.subscribed at this
        rw [hf] at this
        simpa using this
      obtain ⟨hcs, _, hcls⟩ := (h.started (cfg := cfg)).stopped hnsub
      split
      · exact ⟨hcs, hcls, fun _ => hgs⟩
      · exact ⟨h, rfl, fun _ => hgs⟩
  next hop => exact ⟨h, rfl, fun hc => absurd hc (by simpa using hop)⟩

/-- `vbi_proxyd_update_services`: from `Core` alone it succeeds and re-establishes `Core` and `Settled` -/
theorem updateServices_ok {cfg : Cfg} {s : State} (req : Option Nat) (h : Core cfg s) :
    ∃ r, updateServices cfg s req = .ok r ∧ Core cfg r.1 ∧ Settled cfg r.1 ∧ Kept s.clients r.1.clients := by
  obtain ⟨hc, hcl, hgs⟩ := updStage1_ok (cfg := cfg) h
  unfold updateServices
  show Safe _ _
  refine ite_ind (fun ho => .ok ⟨hc, ?_, hcl ▸ Kept.refl _⟩) fun ho => hcl ▸ updStage2_ok req hc (by simpa using ho)
  have ho : (updStage1 cfg s).1.dev.opened = false := by simpa using ho
  show SettledV cfg _ (views _)
  unfold views; rw [hcl]; exact .of_closed ho (hgs ho)

end Zvbi.ProxyQ
