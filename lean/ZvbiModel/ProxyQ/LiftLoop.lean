import ZvbiModel.ProxyQ.LiftService
/-!
# Lifting, part 5: messages, the client loop, one iteration of the main loop, whole histories

`inv_reachable`: for every device (`Cfg`) and every history of ops, `run` does not fail and the state it
reaches satisfies `Core` and `Settled`.
-/
namespace Zvbi.ProxyQ
open Zvbi.Gen.ProxyQ

/-! ## `vbi_proxyd_take_service_req` -/

theorem takeServiceReq_ok {cfg : Cfg} {s : State} {i : Nat} {c : Client} (newSv strict : Nat) (h : Core cfg s)
    (hi : s.clients[i]? = some c) (hb : c.backlog = 0) :
    Safe (fun r => Inv cfg r.1 ∧ ∀ c', r.1.clients[i]? = some c' → c'.backlog = 0)
      (takeServiceReq cfg s i newSv strict) := by
  have pc := h.pc _ (mem_of_getElem?_eq (views_getElem? hi))
  unfold takeServiceReq
  simp only [hi]
  -- the request is stored: only the requester's `services` change, and it has no queued frames
  refine Walk.andThen2 (updateServices_ok (some c.id) (h.set_idle hi hb hb rfl rfl pc.so pc.w)) fun s1 _ ⟨hc1, hs1, hk1⟩ =>
    Walk.lookup (fun hn => .ok ⟨⟨hc1, hs1⟩, fun _ hc' => nomatch hn.symm.trans hc'⟩) fun c1 hi1 => .ok ?_
  obtain ⟨c1', hi1', hb1, _⟩ := hk1.2 i _ (setClient_getElem? hi)
  obtain rfl : c1' = c1 := Option.some.inj (hi1'.symm.trans hi1)
  have hsame : (if s1.dev.opened = true then { c1' with maxLines := cfg.count s1.dev.active } else c1').view = c1'.view := by
    split <;> rfl
  refine ⟨⟨hc1.setClient_same hi1 hsame, hs1.setClient_same hi1 hsame⟩, fun c' hc' => ?_⟩
  obtain rfl := Option.some.inj ((setClient_getElem? hi1).symm.trans hc')
  exact (congrArg CV.backlog hsame).trans (Nat.le_zero.mp (hb ▸ hb1))

/-! ## the CONNECT_REQ / SERVICE_REQ / CLOSE_REQ arms of `vbi_proxyd_take_message` -/

/-- what `takeMessage` leaves behind: nothing if the message was refused (the connection is closed next) -/
def MsgPost (cfg : Cfg) (i : Nat) : Option State → Prop
  | none => True
  | some s' => Mid cfg i s'

theorem takeMessage_ok {cfg : Cfg} {s : State} {i : Nat} (m : InMsg) (h : Inv cfg s) :
    Safe (MsgPost cfg i) (takeMessage cfg s i m) := by
  unfold takeMessage
  refine Walk.lookup (fun _ => .ok ⟨h.1, .inl h.2⟩) fun c hi => ?_
  have pc := h.1.pc _ (mem_of_getElem?_eq (views_getElem? hi))
  cases m with
  | connect sv st bc =>
    refine ite_ind (fun _ => .ok trivial) fun hst => ?_
    have hst : c.state = .waitConReq := Decidable.of_not_not fun hn => hst (bne_iff_ne.mpr hn)
    have hb0 : c.backlog = 0 := pc.idle (not_forward (v := c.view) fun hf => nomatch hst.symm.trans hf).1
    have hcore0 : Core cfg (setClient s i { c with state := .forward, bufferCount := bc }) :=
      h.1.set_idle hi hb0 hb0 rfl rfl
        (fun hs => by simp [Client.subscribed, show c.allServices = 0 from pc.w hst] at hs) nofun
    refine Walk.andThen2 (takeServiceReq_ok sv st hcore0 (setClient_getElem? hi) hb0) fun s1 ok ⟨h1, hb1⟩ =>
      Walk.lookup (fun _ => .ok ⟨h1.1, .inl h1.2⟩) fun c1 hi1 =>
        ite_both (.ok ⟨h1.1.setClient_same hi1 rfl, .inl (h1.2.setClient_same hi1 rfl)⟩) (.ok ?_)
    obtain ⟨hc', hs'⟩ := leave_ok (st := .waitClose)
      (c2 := { c1 with out := some (.connectRej, OutMsg.connectRej.size), state := .waitClose }) h1.1 hi1 (hb1 c1 hi1) rfl nofun nofun
    exact ⟨hc', (Decidable.em (c1.allServices = 0)).imp (hs' · h1.2) fun ha => ⟨_, setClient_getElem? hi1, .inr rfl, ha⟩⟩
  | service sv st reset =>
    refine ite_ind (fun _ => .ok trivial) fun _ => ?_
    -- the client's own queue is released first (also when `reset` cleared its stored requests before)
    have hrel : Safe (fun s1 => Core cfg s1 ∧ ∃ c1, s1.clients[i]? = some c1 ∧ c1.backlog = 0)
        (releaseOwn (if reset = true then setClient s i { c with services := List.replicate nStrict 0 } else s) i Fate.svcChange) := by
      cases reset with
      | false =>
        obtain ⟨s1, hr, hc1, _, _, _, _, hk, _, _⟩ :=
          releaseOwn_ok (cfg := cfg) (s := s) (i := i) (fate := Fate.svcChange) trivial h.1
        obtain ⟨c1, hi1, hb1, _⟩ := hk c hi
        exact ⟨s1, hr, hc1, c1, hi1, hb1⟩
      | true => exact releaseOwn_reset_ok _ trivial h.1 hi
    exact Walk.andThen hrel fun s1 ⟨hc1, c1, hi1, hb1⟩ =>
      Walk.andThen2 (takeServiceReq_ok sv st hc1 hi1 hb1) fun s2 _ ⟨h2, _⟩ =>
        Walk.lookup (fun _ => .ok ⟨h2.1, .inl h2.2⟩) fun c2 hi2 =>
          .ok ⟨h2.1.setClient_same hi2 rfl, .inl (h2.2.setClient_same hi2 rfl)⟩
  | bye => exact Walk.andThen (closeClient_ok (i := i) h.1 (.inl h.2)) fun s1 p => .ok ⟨p.1, p.2.1.imp id UnsC.toUns⟩

/-! ## `vbi_proxyd_handle_client_sockets` -/

theorem closeMap_ok {cfg : Cfg} {s : State} {i : Nat} (b : Bool) (h : Inv cfg s) :
    Safe (fun r => Mid cfg i r.1) ((closeClient s i).map (·, b)) :=
  Safe.map (Safe.mono (closeClient_ok (i := i) h.1 (.inl h.2)) fun _ p => ⟨p.1, p.2.1.imp id UnsC.toUns⟩)

theorem hcStage1_ok {cfg : Cfg} {s : State} {i : Nat} {c : Client} (h : Inv cfg s) (hi : s.clients[i]? = some c) :
    Safe (fun r => Mid cfg i r.1) (hcStage1 cfg s i c) := by
  unfold hcStage1
  refine ite_ind (fun _ => ?_) fun _ => ite_ind (fun _ => ?_) fun _ => .ok ⟨h.1, .inl h.2⟩
  · cases c.inbox with
    | nil => exact closeMap_ok false h
    | cons m rest =>
      have h0 : Inv cfg (setClient s i { c with inbox := rest }) := ⟨h.1.setClient_same hi rfl, h.2.setClient_same hi rfl⟩
      dsimp only
      refine Safe.elim (takeMessage_ok (i := i) m h0) fun r hpost => ?_
      cases r with
      | some s1 => exact .ok hpost
      | none => exact closeMap_ok false h0
  · have hv := handleWrite_view c
    generalize handleWrite c = r at hv
    obtain ⟨c1, blocked, ok, completed⟩ := r
    have h1 : Inv cfg (setClient s i c1) := ⟨h.1.setClient_same hi hv, h.2.setClient_same hi hv⟩
    -- a completed message is only logged
    cases completed <;>
      exact ite_both (.ok ⟨h1.1.of_eq rfl rfl, .inl (h1.2.of_eq rfl rfl)⟩) (closeMap_ok blocked ⟨h1.1.of_eq rfl rfl, h1.2.of_eq rfl rfl⟩)

theorem hcStage2_ok {cfg : Cfg} {s1 : State} {i : Nat} (b : Bool) (h : Mid cfg i s1) : Safe (MidC cfg i) (hcStage2 s1 i b) := by
  obtain ⟨h, hs⟩ := h
  unfold hcStage2
  refine Walk.lookup (fun hi => .ok ⟨h, .inl (hs.resolve_right fun ⟨_, hc, _⟩ => nomatch hi.symm.trans hc)⟩) fun c1 hi => ?_
  refine ite_ind (fun _ => Safe.mono (closeClient_ok (i := i) h hs) fun _ p => ⟨p.1, p.2.1⟩) fun hwc =>
    ite_ind (fun hcl => .ok ⟨h, hs.imp_right fun hu => ⟨c1, hi, eq_of_beq hcl, (hu.at hi).2⟩⟩) fun hcl => ?_
  -- neither closing nor closed: the state is settled
  have hset : Settled cfg s1 := hs.resolve_right fun hu =>
    (hu.at hi).1.elim (fun e => hcl (beq_iff_eq.mpr e)) fun e => hwc (beq_iff_eq.mpr e)
  exact ite_both
    (ite_both (.ok ⟨h.setClient_same hi rfl, .inl (hset.setClient_same hi rfl)⟩)
      (ite_both (.ok ⟨h, .inl hset⟩) (Safe.mono (forwardLoop_ok cfg _ s1 i h hset) fun _ p => ⟨p.1, p.2.1⟩)))
    (.ok ⟨h, .inl hset⟩)

theorem handleClient_ok {cfg : Cfg} {s : State} {i : Nat} (h : Inv cfg s) : Safe (MidC cfg i) (handleClient cfg s i) :=
  Walk.lookup (fun _ => .ok ⟨h.1, .inl h.2⟩) fun _ hi => Walk.andThen2 (hcStage1_ok h hi) fun _ b p => hcStage2_ok b p

theorem settledV_erase {cfg : Cfg} {d : Dev} {vs : List CV} {i : Nat} {v : CV} (h : SettledV cfg d vs)
    (hi : vs[i]? = some v) (hc : contrib v = 0) : SettledV cfg d (vs.eraseIdx i) := by
  have hu : unionV (vs.eraseIdx i) = unionV vs := by
    unfold unionV
    rw [map_eraseIdx]
    apply orAll_eraseIdx
    rw [List.getElem?_map, hi, ← hc]; rfl
  exact ⟨fun u hu' => h.gs u (List.mem_of_mem_eraseIdx hu'), fun ho => by rw [hu]; exact h.os ho,
         fun ho => by rw [hu]; exact h.un ho, h.lines⟩

/-- the service invariant holds unless the client at position `i` is CLOSED and still had services -/
theorem UnsC.settled {cfg : Cfg} {s : State} {i : Nat} {c : Client} (h : Settled cfg s ∨ UnsC s i)
    (hi : s.clients[i]? = some c) (hc : c.state = .closed → c.allServices = 0) : Settled cfg s :=
  h.resolve_right fun hu => (hu.toUns.at hi).2 (hc (by obtain ⟨c', h1, h2, _⟩ := hu; rw [hi] at h1; cases h1; exact h2))

theorem clientLoop_ok (cfg : Cfg) : ∀ (fuel : Nat) (s : State) (i : Nat), Inv cfg s → Safe (Inv cfg) (clientLoop cfg fuel s i)
  | 0, _, _, h => .ok h
  | fuel + 1, s, i, h => by
    rw [clientLoop]
    refine ite_both (.ok h) (Walk.andThen (handleClient_ok (i := i) h) fun s1 ⟨hc1, hs1⟩ =>
      Walk.lookup (fun hi => .ok ⟨hc1, hs1.resolve_right fun ⟨_, hc, _⟩ => nomatch hi.symm.trans hc⟩) fun c hi => ?_)
    have hvi := views_getElem? hi
    refine ite_ind (fun hcl => ?_) fun hcl =>
      clientLoop_ok cfg fuel s1 (i + 1) ⟨hc1, UnsC.settled hs1 hi fun h => absurd (beq_iff_eq.mpr h) hcl⟩
    -- a closed client is unlinked; if it had services the device's set is recomputed
    obtain ⟨hns, hc0⟩ := not_forward (v := c.view) fun hf => nomatch (eq_of_beq hcl).symm.trans hf
    have hc2 : Core cfg { s1 with clients := s1.clients.eraseIdx i } := by
      show CoreV cfg s1.dev ((s1.clients.eraseIdx i).map Client.view)
      rw [map_eraseIdx]; exact coreV_erase hc1 hvi hns
    refine ite_ind (fun _ => Walk.andThen2 (updateServices_ok none hc2) fun s3 _ p => clientLoop_ok cfg fuel s3 i ⟨p.1, p.2.1⟩)
      fun ha => clientLoop_ok cfg fuel _ i ⟨hc2, ?_⟩
    show SettledV cfg s1.dev ((s1.clients.eraseIdx i).map Client.view)
    rw [map_eraseIdx]
    exact settledV_erase (UnsC.settled hs1 hi fun _ => Decidable.of_not_not fun h0 => ha (bne_iff_ne.mpr h0)) hvi hc0

/-! ## one iteration of `vbi_proxyd_main_loop`, the ops, whole histories -/

theorem views_map_same {s s' : State} (f : Client → Client) (hf : ∀ c, (f c).view = c.view)
    (hc : s'.clients = s.clients.map f) : views s' = views s := by
  unfold views
  rw [hc, List.map_map]
  exact List.map_congr_left fun c _ => hf c

theorem Inv.of_views {cfg : Cfg} {s s' : State} (h : Inv cfg s) (hd : s'.dev = s.dev) (hv : views s' = views s) :
    Inv cfg s' :=
  ⟨h.1.of_views hd hv, h.2.of_views hd hv⟩

theorem unionV_append_zero (vs : List CV) (v : CV) (hc : contrib v = 0) : unionV (vs ++ [v]) = unionV vs := by
  unfold unionV
  rw [List.map_append, List.foldl_append]
  simp [hc]

/-- a connection is accepted: the new client is in state WAIT_CON_REQ without services or cursor -/
theorem append_fresh {cfg : Cfg} {s : State} (c : Client) (h : Inv cfg s)
    (hv : c.view = ⟨.waitConReq, List.replicate nStrict 0, 0, 0, [], []⟩) :
    Inv cfg { s with clients := s.clients ++ [c] } := by
  obtain ⟨h, hs⟩ := h
  constructor
  · show CoreV cfg s.dev ((s.clients ++ [c]).map Client.view)
    rw [List.map_append]
    refine coreV_append h c.view (by rw [hv]) ?_
    rw [hv]
    exact ⟨fun hp => absurd hp (Nat.lt_irrefl 0), fun hf => (by cases hf), fun _ => rfl, fun hsub => (by cases hsub),
           by simp [pendingOf], fun x hx => (by cases hx)⟩
  · show SettledV cfg s.dev ((s.clients ++ [c]).map Client.view)
    rw [List.map_append]
    have hu := unionV_append_zero (views s) c.view (by rw [hv]; rfl)
    refine ⟨fun u hu hf => ?_, fun ho => hu ▸ hs.os ho, fun ho => hu ▸ hs.un ho, hs.lines⟩
    rcases List.mem_append.mp hu with h1 | h1
    · exact hs.gs u h1 hf
    · simp only [List.map_cons, List.map_nil, List.mem_singleton] at h1
      rw [h1, hv] at hf; cases hf

theorem acceptConn_ok {cfg : Cfg} {s : State} (h : Inv cfg s) : Inv cfg (acceptConn s) ∧ (acceptConn s).dev = s.dev := by
  unfold acceptConn
  cases s.backlogConns with
  | nil => exact ⟨h, rfl⟩
  | cons c rest =>
    have := append_fresh (s := s) { id := c.id, inbox := c.inbox, eof := c.eof, credit := c.credit } h rfl
    exact ⟨⟨this.1.of_eq rfl rfl, this.2.of_eq rfl rfl⟩, rfl⟩

theorem iterate_ok {cfg : Cfg} {s : State} (h : Inv cfg s) : Safe (Inv cfg) (iterate cfg s) := by
  obtain ⟨hb, hdb⟩ := acceptConn_ok (h.of_views (s' := selectReady s) rfl (views_map_same markReady (fun _ => rfl) rfl))
  refine Walk.andThen (P := Inv cfg) (ite_ind (fun hready => ?_) fun _ => .ok hb) fun s1 p => clientLoop_ok cfg _ s1 0 p
  exact forwardData_ok hb.1 hb.2 (hdb ▸ (Bool.and_eq_true_iff.mp hready).1)

theorem onClient_ok {cfg : Cfg} {s : State} (k : Nat) (f : Client → Client) (hf : ∀ c, (f c).view = c.view)
    (h : Inv cfg s) : Inv cfg (onClient s k f) :=
  h.of_views rfl (views_map_same _ (fun c => by split; exact hf c; rfl) rfl)

theorem step_ok {cfg : Cfg} {s : State} (op : Op) (h : Inv cfg s) : Safe (Inv cfg) (step cfg s op) := by
  cases op with
  | conn sv st bc => exact .ok ⟨h.1.of_eq rfl rfl, h.2.of_eq rfl rfl⟩
  | svc k sv st reset => exact .ok (onClient_ok k _ (fun c => by split <;> rfl) h)
  | bye k => exact .ok (onClient_ok k _ (fun c => by split <;> rfl) h)
  | close k => exact .ok (onClient_ok k _ (fun _ => rfl) h)
  | credit k n => exact .ok (onClient_ok k _ (fun _ => rfl) h)
  | cap ts lines full => exact .ok ⟨CoreV.of_dev_eq h.1 rfl rfl rfl rfl, SettledV.congr_dev h.2 rfl rfl⟩
  | relall => exact .ok (releaseAll_ok h.1 h.2)
  | iter => exact iterate_ok h

theorem init_ok (cfg : Cfg) : Inv cfg init :=
  ⟨⟨QInv_nil [] (fun b hb => (by cases hb)), fun v hv => (by cases hv), rfl, fun ho => (by cases ho)⟩,
   ⟨fun v hv => (by cases hv), fun ho => (by cases ho), fun ho => (by cases ho), fun ho => (by cases ho)⟩⟩

/-- THE LIFTING THEOREM: from any state satisfying the invariant, no history of ops fails, and the invariant
holds at the end -/
theorem run_ok (cfg : Cfg) : ∀ (ops : List Op) (s : State), Inv cfg s → Safe (Inv cfg) (run cfg s ops)
  | [], _, h => .ok h
  | op :: ops, _, h => Walk.andThen (step_ok op h) fun _ p => run_ok cfg ops _ p

theorem inv_reachable (cfg : Cfg) (ops : List Op) :
    ∃ s, run cfg init ops = .ok s ∧ Core cfg s ∧ Settled cfg s :=
  run_ok cfg ops init (init_ok cfg)

theorem reach {cfg : Cfg} {ops : List Op} {s : State} (h : run cfg init ops = .ok s) : Core cfg s ∧ Settled cfg s := by
  obtain ⟨s', hr, hc⟩ := inv_reachable cfg ops
  rw [h] at hr
  cases hr
  exact hc

theorem views_backlog (s : State) : (views s).map (·.backlog) = s.clients.map (·.backlog) := by
  unfold views; rw [List.map_map]; rfl

end Zvbi.ProxyQ
