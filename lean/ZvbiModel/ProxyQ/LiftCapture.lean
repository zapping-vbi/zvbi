import ZvbiModel.ProxyQ.LiftQueue
/-!
# Lifting, part 3: capture (`vbi_proxyd_forward_data` with `vbi_proxy_queue_force_free`) and the flush

The two source facts the translator reads from `daemon/proxyd.c` enter here by `rfl` on the generated
definitions: `forceFreeLiveHead = false` (the release loop of force_free compares with the head saved before the
loop) and `assertLineCountStrict = false` (forward_data asserts `line_count <= max_lines`).  If either repair is
reverted in the C source the generated file changes and these lemmas no longer check.
-/
namespace Zvbi.ProxyQ
open Zvbi.Gen.ProxyQ

/-- source fact (5eee39a): force_free releases only the clients that pointed to the head when the loop started -/
theorem forceFree_saved_head : forceFreeLiveHead = false := rfl

/-- source fact (fd02c6e): a frame that fills all lines of the capture window is accepted -/
theorem lineCount_assert_le : assertLineCountStrict = false := rfl

theorem settledV_map {cfg : Cfg} {d : Dev} {vs : List CV} {g : CV → CV} (h : SettledV cfg d vs)
    (hg : ∀ v, (g v).state = v.state ∧ (g v).services = v.services ∧ (g v).allServices = v.allServices) :
    SettledV cfg d (vs.map g) := by
  have hu : unionV (vs.map g) = unionV vs := by
    unfold unionV
    rw [List.map_map]
    congr 1
    refine List.map_congr_left fun v _ => ?_
    obtain ⟨h1, _, h3⟩ := hg v
    show contrib (g v) = contrib v
    unfold contrib; rw [h1, h3]
  refine ⟨?_, fun hh => hu ▸ h.os hh, fun hh => hu ▸ h.un hh, h.lines⟩
  intro u hu hf
  obtain ⟨v, hv, rfl⟩ := List.mem_map.mp hu
  obtain ⟨h1, h2, h3⟩ := hg v
  rw [h2, h3]; exact h.gs v hv (h1 ▸ hf)

theorem defaultBufferCount_pos : 0 < defaultBufferCount := by decide

/-- the release loop of `vbi_proxy_queue_force_free` with the saved head `len0`: a client it hits is `len0 ≥
DEFAULT_BUFFER_COUNT` frames behind; the device stays as open as it was -/
theorem forceLoop_ok (cfg : Cfg) (len0 : Nat) (hdep : defaultBufferCount ≤ len0) :
    ∀ (fuel : Nat) (s : State) (i : Nat), Core cfg s →
    Safe (fun s' => Core cfg s' ∧ (Settled cfg s → Settled cfg s') ∧ s'.dev.opened = s.dev.opened)
      (forceLoopWith false fuel s i len0)
  | 0, _, _, h => .ok ⟨h, id, rfl⟩
  | fuel + 1, s, i, h => by
    rw [forceLoopWith]
    refine Walk.lookup (fun _ => .ok ⟨h, id, rfl⟩) fun c hi => ?_
    simp only [Bool.false_eq_true, if_false]
    refine ite_ind (fun _ => forceLoop_ok cfg len0 hdep fuel s (i + 1) h) fun hit => ?_
    have hit : c.backlog = len0 := Decidable.of_not_not fun hn => hit (by simp [hn])
    refine Walk.andThenQ (release_step (Fate.overflow c.backlog) (show defaultBufferCount ≤ c.backlog from hit ▸ hdep) h hi
      (Nat.lt_of_lt_of_le defaultBufferCount_pos (hit ▸ hdep))) fun q n p => ?_
    obtain ⟨hc1, hs1⟩ := p c rfl _ rfl
    exact (forceLoop_ok cfg len0 hdep fuel _ (i + 1) hc1).mono fun s' ⟨hc', hs', hd'⟩ =>
      ⟨hc', fun hs => hs' (hs1 hs), hd'⟩

def pushV (fr : Frame) (v : CV) : CV :=
  if v.subscribed then { v with backlog := v.backlog + 1, expected := fr :: v.expected }
  else if v.backlog > 0 then { v with backlog := v.backlog + 1 } else v

theorem pushV_backlog (fr : Frame) (vs : List CV) :
    (vs.map (pushV fr)).map (·.backlog) =
      List.zipWith bump (vs.map (·.backlog)) (vs.map CV.subscribed) := by
  rw [List.zipWith_map, List.zipWith_self, List.map_map]
  refine List.map_congr_left fun v _ => ?_
  show (pushV fr v).backlog = _
  unfold pushV bump
  cases v.subscribed
  · by_cases hb : v.backlog > 0 <;> simp [hb]
  · simp

theorem coreV_push {cfg : Cfg} {d : Dev} {vs : List CV} (fr : Frame) (h : CoreV cfg d vs)
    (hg : Granted cfg vs)
    (hfree : d.free ≠ 0) (hn : (vs.map CV.subscribed).count true ≠ 0) :
    CoreV cfg { d with q := { frame := fr, ref := (vs.map CV.subscribed).count true } :: d.q, free := d.free - 1 }
      (vs.map (pushV fr)) := by
  have hsub : ∀ i, i < (vs.map (·.backlog)).length → 0 < (vs.map (·.backlog)).getD i 0 →
      (vs.map CV.subscribed).getD i false = true := by
    intro i hi hp
    have hi' : i < vs.length := by simpa using hi
    have hv : vs[i]? = some vs[i] := List.getElem?_eq_getElem hi'
    rw [List.getD_eq_getElem?_getD, List.getElem?_map, hv] at hp ⊢
    exact (h.pc _ (List.getElem_mem hi')).sub hp
  have hq := QInv_push (vs.map CV.subscribed) fr h.q (by simp) hsub (by omega)
  refine ⟨?_, ?_, ?_, ?_⟩
  · show QInv _ _
    rw [pushV_backlog]; exact hq
  · intro u hu
    obtain ⟨v, hv, rfl⟩ := List.mem_map.mp hu
    have pv := h.pc v hv
    unfold pushV
    cases hs : v.subscribed with
    | true =>
      simp only [if_true]
      refine ⟨fun _ => hs, fun hf => Or.inl (hg v hv hf), pv.w, fun _ => pv.so hs, ?_, pv.ov⟩
      show fr :: v.expected = pendingOf (_ :: d.q) (v.backlog + 1) ++ _
      rw [pv.gh]; simp [pendingOf]
    | false =>
      have hb0 : v.backlog = 0 := pv.idle hs
      have : ¬ v.backlog > 0 := by omega
      simp only [Bool.false_eq_true, if_false, this]
      refine ⟨pv.sub, pv.gw, pv.w, pv.so, ?_, pv.ov⟩
      show v.expected = pendingOf (_ :: d.q) v.backlog ++ _
      rw [pv.gh, hb0]; simp [pendingOf]
  · show d.free - 1 + (d.q.length + 1) = d.allocated
    have := h.alloc; omega
  · intro ho
    show defaultBufferCount ≤ d.free - 1 + (d.q.length + 1)
    have := h.depth ho; omega

theorem pushV_fields (fr : Frame) (v : CV) :
    (pushV fr v).state = v.state ∧ (pushV fr v).services = v.services ∧ (pushV fr v).allServices = v.allServices := by
  unfold pushV
  split
  · exact ⟨rfl, rfl, rfl⟩
  · split <;> exact ⟨rfl, rfl, rfl⟩

theorem pushV_view (fr : Frame) (c : Client) :
    (if c.subscribed = true then { c with backlog := c.backlog + 1, expected := fr :: c.expected }
     else if c.backlog > 0 then { c with backlog := c.backlog + 1 } else c).view = pushV fr c.view := by
  rw [apply_ite Client.view, apply_ite Client.view]; rfl

theorem count_subscribed (cl : List Client) : ((cl.map Client.view).map CV.subscribed).count true = cl.countP (·.subscribed) := by
  induction cl with
  | nil => rfl
  | cons c t ih =>
    simp only [List.map_cons, List.count_cons, List.countP_cons, ih]
    simp [Client.subscribed_view]

/-- `vbi_proxyd_forward_data` on an open device: no assertion, invariant kept -/
theorem forwardData_ok {cfg : Cfg} {s : State} (h : Core cfg s) (hs : Settled cfg s) (ho : s.dev.opened = true) :
    ∃ s', forwardData cfg s = .ok s' ∧ Core cfg s' ∧ Settled cfg s' := by
  unfold forwardData
  dsimp only
  show Safe _ _
  refine Walk.andThen (P := fun s1 => Inv cfg s1 ∧ s1.dev.opened = true)
    (ite_ind (fun hf => ite_ind (fun _ => .ok ⟨⟨h, hs⟩, ho⟩) fun hq => ?_) fun _ => .ok ⟨⟨h, hs⟩, ho⟩)
    fun s1 ⟨⟨hc1, hs1⟩, ho1⟩ => ite_ind (fun _ => .ok ⟨hc1, hs1⟩) fun hf1 => ?_
  · have hd := h.depth ho
    rw [hf, Nat.zero_add] at hd
    unfold forceLoop
    rw [forceFree_saved_head]
    exact (forceLoop_ok cfg _ hd _ s 0 h).mono fun s1 ⟨hc1, hs1, hd1⟩ => ⟨⟨hc1, hs1 hs⟩, hd1.trans ho⟩
  cases hp : s1.dev.pend with
  | nil => exact .ok ⟨hc1, hs1⟩
  | cons fr rest =>
    dsimp only
    -- the device returns at most count[0]+count[1] lines: the assertion holds
    have hlen : (fr.lines.take (if fr.full = true then cfg.count s1.dev.active else cfg.count s1.dev.active - 1)).length
        ≤ s1.dev.maxLines := by
      rw [hs1.lines ho1]
      exact Nat.le_trans (List.length_take_le _ _) (by split <;> omega)
    generalize fr.lines.take _ = ls at hlen ⊢
    have hbad : (if assertLineCountStrict = true then decide (s1.dev.maxLines ≤ ls.length)
        else decide (s1.dev.maxLines < ls.length)) = false := by
      rw [lineCount_assert_le, if_neg Bool.false_ne_true]
      exact decide_eq_false (Nat.not_lt.mpr hlen)
    rw [hbad]
    simp only [Bool.false_eq_true, if_false]
    generalize ({ seq := fr.seq, ts := fr.ts, lines := ls, full := fr.full } : Frame) = fr'
    have hc2 : CoreV cfg { s1.dev with pend := rest } (s1.clients.map Client.view) := hc1.of_dev_eq rfl rfl rfl rfl
    have hs2 : SettledV cfg { s1.dev with pend := rest } (s1.clients.map Client.view) := hs1.congr_dev rfl rfl
    refine ite_ind (fun _ => .ok ⟨hc2, hs2⟩) fun hn => .ok ?_
    have hmap : (s1.clients.map (fun c => if c.subscribed = true then
          { c with backlog := c.backlog + 1, expected := fr' :: c.expected }
        else if c.backlog > 0 then { c with backlog := c.backlog + 1 } else c)).map Client.view
        = (s1.clients.map Client.view).map (pushV fr') := by
      rw [List.map_map, List.map_map]
      exact List.map_congr_left fun c _ => pushV_view _ c
    have key := coreV_push fr' hc2 hs2.gs hf1 (by rw [count_subscribed]; exact hn)
    rw [count_subscribed] at key
    constructor
    · show CoreV cfg _ (List.map Client.view _)
      rw [hmap]; exact key
    · show SettledV cfg _ (List.map Client.view _)
      rw [hmap]
      exact (settledV_map hs2 (pushV_fields _)).congr_dev rfl rfl

theorem releaseAll_ok {cfg : Cfg} {s : State} (h : Core cfg s) (hs : Settled cfg s) :
    Core cfg (releaseAll s) ∧ Settled cfg (releaseAll s) := by
  have hmap : (releaseAll s).clients.map Client.view = (s.clients.map Client.view).map
      (fun v => { v with backlog := 0,
                         done := ((s.dev.q.take v.backlog).map (fun e => (e.frame, Fate.flushed))) ++ v.done }) := by
    unfold releaseAll
    simp only [List.map_map]
    apply List.map_congr_left
    intro c _; rfl
  constructor
  · unfold Core views; rw [hmap]; exact coreV_flush h
  · unfold Settled views; rw [hmap]
    refine SettledV.congr_dev (settledV_map hs fun _ => ⟨rfl, rfl, rfl⟩) rfl rfl

end Zvbi.ProxyQ
