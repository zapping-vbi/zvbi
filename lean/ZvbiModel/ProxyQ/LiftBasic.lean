import ZvbiModel.ProxyQ.Model
import ZvbiModel.ProxyQ.Spec
import ZvbiModel.ProxyQ.LemmasQueue
import ZvbiModel.ProxyQ.LemmasSpec
import ZvbiModel.ProxyQ.LiftLists
/-!
# Lifting the queue-machine lemmas to the daemon model, part 1: the invariant

The invariant of the full daemon model (`Model.lean`) is stated about the device record and the list of
**client views** (`CV`: the fields of a client the C18 statements depend on: connection state, requested
services per strictness level, granted services, cursor, ghost logs).  Everything else in a `Client`
(socket side: inbox, credit, write buffer, ready flags, channel indication) is irrelevant for it.

* `CoreV`: holds in every state the daemon model passes through between two calls of its functions:
  reference counts exact (`QInv`), a client with queued frames is subscribed (state FORWARD and
  `all_services != 0`) and its grant is what the device grants for its stored requests, a subscribed client
  implies an open device, free + queued = allocated,
  the queue has at least `DEFAULT_BUFFER_COUNT` buffers while the device is open, and the ghost logs:
  the frames captured for a client are exactly the frames still queued for it followed by the frames taken
  from the queue for it.
* `SettledV`: holds between two iterations of the client loop (not while a closed client is still linked):
  every FORWARD client's grant is `allOf` of its requests, the device is open iff the union of the grants
  is non-empty, with `all_services` equal to that union, and `max_lines` of the device is what its decoder reports.
-/
namespace Zvbi.ProxyQ
open Zvbi.Gen.ProxyQ

theorem allOf_mask (cfg : Cfg) (sv : List Nat) : allOf cfg (maskServices cfg sv) = allOf cfg sv := by
  unfold allOf
  refine foldl_congr _ 0 fun acc st hst => ?_
  have : (maskServices cfg sv).getD st 0 = sv.getD st 0 &&& (sv.getD st 0 &&& cfg.supp st) := by
    unfold maskServices
    rw [List.getD_eq_getElem?_getD, List.getElem?_map, List.getElem?_range (List.mem_range.mp hst)]; rfl
  rw [this, and_and_self]

theorem allOf_zero (cfg : Cfg) (sv : List Nat) (h : anyServices sv = false) : allOf cfg sv = 0 := by
  refine foldl_or_zero _ _ fun st _ => ?_
  have hz : sv.getD st 0 = 0 := by
    rw [List.getD_eq_getElem?_getD]
    cases hx : sv[st]? with
    | none => rfl
    | some x => simpa using List.any_eq_false.mp h x (mem_of_getElem?_eq hx)
  rw [hz, Nat.zero_and]

structure CV where
  state : CState
  services : List Nat
  allServices : Nat
  backlog : Nat
  expected : List Frame
  done : List (Frame × Fate)

def Client.view (c : Client) : CV := ⟨c.state, c.services, c.allServices, c.backlog, c.expected, c.done⟩

def CV.subscribed (v : CV) : Bool := v.state == .forward && v.allServices != 0

theorem Client.subscribed_view (c : Client) : c.view.subscribed = c.subscribed := rfl

/-- an overflow may only hit a client that had at least `DEFAULT_BUFFER_COUNT` frames queued and unsent -/
def fateOk : Fate → Prop
  | .overflow n => defaultBufferCount ≤ n
  | _ => True

structure PC (cfg : Cfg) (d : Dev) (v : CV) : Prop where
  /-- a client with queued frames is subscribed (so the next frame counts it) -/
  sub : 0 < v.backlog → v.subscribed = true
  /-- the grant of a FORWARD client is that of its stored requests, unless nothing is queued for it (the request
  is stored before the grant is recomputed) -/
  gw : v.state = .forward → v.allServices = allOf cfg v.services ∨ v.backlog = 0
  /-- before CONNECT_REQ nothing is granted -/
  w : v.state = .waitConReq → v.allServices = 0
  /-- a subscribed client implies an open device -/
  so : v.subscribed = true → d.opened = true
  /-- ghost logs: captured for the client = still queued for it ++ taken from the queue for it -/
  gh : v.expected = pendingOf d.q v.backlog ++ v.done.map (·.1)
  /-- an overflow took a frame from it only when it was `DEFAULT_BUFFER_COUNT` frames behind -/
  ov : ∀ x ∈ v.done, fateOk x.2

theorem PC.idle {cfg : Cfg} {d : Dev} {v : CV} (p : PC cfg d v) (hs : v.subscribed = false) : v.backlog = 0 :=
  Nat.eq_zero_of_not_pos fun hb => Bool.false_ne_true (hs.symm.trans (p.sub hb))

structure CoreV (cfg : Cfg) (d : Dev) (vs : List CV) : Prop where
  /-- reference counts exact, cursors inside the queue, head held -/
  q : QInv d.q (vs.map (·.backlog))
  pc : ∀ v ∈ vs, PC cfg d v
  /-- ghost counter of `malloc`/`free` of queue buffers -/
  alloc : d.free + d.q.length = d.allocated
  /-- what `vbi_proxy_queue_allocate` guarantees; makes `ov` hold for force_free -/
  depth : d.opened = true → defaultBufferCount ≤ d.free + d.q.length

/-- what a client contributes to the device's service set -/
def contrib (v : CV) : Nat := if v.state == .forward then v.allServices else 0

def unionV (vs : List CV) : Nat := (vs.map contrib).foldl (· ||| ·) 0

structure SettledV (cfg : Cfg) (d : Dev) (vs : List CV) : Prop where
  /-- every FORWARD client's grant is that of its stored requests -/
  gs : ∀ v ∈ vs, v.state = .forward → v.allServices = allOf cfg v.services
  /-- the device is open only while somebody is granted something -/
  os : d.opened = true → unionV vs ≠ 0
  /-- `all_services` of the device is the union of the grants -/
  un : d.opened = true → d.allServices = unionV vs
  /-- `max_lines` of the device is what its decoder reports (what the assertion of forward_data compares with) -/
  lines : d.opened = true → d.maxLines = cfg.count d.active

/-- every FORWARD client's grant is what the device grants for its stored requests (`SettledV.gs`) -/
def Granted (cfg : Cfg) (vs : List CV) : Prop := ∀ v ∈ vs, v.state = .forward → v.allServices = allOf cfg v.services

theorem not_forward {v : CV} (h : v.state ≠ .forward) : v.subscribed = false ∧ contrib v = 0 :=
  ⟨by unfold CV.subscribed; rw [beq_eq_false_iff_ne.mpr h]; rfl, if_neg fun hh => h (eq_of_beq hh)⟩

theorem contrib_eq_zero {v : CV} : contrib v = 0 ↔ v.subscribed = false := by
  unfold contrib CV.subscribed
  cases (v.state == CState.forward) <;> simp

theorem unionV_eq_zero {vs : List CV} : unionV vs = 0 ↔ ∀ v ∈ vs, v.subscribed = false := by
  unfold unionV
  rw [foldl_or_eq_zero, List.forall_mem_map]
  exact forall_congr' fun _ => imp_congr_right fun _ => contrib_eq_zero

theorem CoreV.idle_empty {cfg : Cfg} {d : Dev} {vs : List CV} (h : CoreV cfg d vs)
    (hns : ∀ v ∈ vs, v.subscribed = false) : (∀ v ∈ vs, v.backlog = 0) ∧ d.q = [] := by
  have h0 : ∀ v ∈ vs, v.backlog = 0 := fun v hv => (h.pc v hv).idle (hns v hv)
  refine ⟨h0, QInv_all_zero h.q fun b hb => ?_⟩
  obtain ⟨v, hv, rfl⟩ := List.mem_map.mp hb
  exact h0 v hv

theorem CoreV.closed_empty {cfg : Cfg} {d : Dev} {vs : List CV} (h : CoreV cfg d vs) (hc : d.opened = false) :
    (∀ v ∈ vs, v.backlog = 0) ∧ d.q = [] :=
  h.idle_empty fun v hv => Bool.eq_false_iff.mpr fun hs => Bool.false_ne_true (hc.symm.trans ((h.pc v hv).so hs))

theorem PC.congr_dev {cfg : Cfg} {d d' : Dev} {v : CV} (h : PC cfg d v) (hq : d'.q = d.q)
    (ho : d.opened = true → d'.opened = true) : PC cfg d' v :=
  ⟨h.sub, h.gw, h.w, fun hs => ho (h.so hs), by rw [hq]; exact h.gh, h.ov⟩

/-- `CoreV` reads four fields of the device record: the queue, `free`, `allocated`, `opened` -/
theorem CoreV.of_dev {cfg : Cfg} {d d' : Dev} {vs : List CV} (h : CoreV cfg d vs) (hq : d'.q = d.q)
    (ha : d'.free + d.q.length = d'.allocated)
    (hd : d'.opened = true → defaultBufferCount ≤ d'.free + d.q.length)
    (ho : ∀ v ∈ vs, v.subscribed = true → d'.opened = true) : CoreV cfg d' vs :=
  ⟨hq ▸ h.q, fun v hv => let p := h.pc v hv; ⟨p.sub, p.gw, p.w, ho v hv, hq ▸ p.gh, p.ov⟩, hq ▸ ha, hq ▸ hd⟩

theorem CoreV.of_dev_eq {cfg : Cfg} {d d' : Dev} {vs : List CV} (h : CoreV cfg d vs) (hq : d'.q = d.q)
    (hf : d'.free = d.free) (ha : d'.allocated = d.allocated) (ho : d'.opened = d.opened) : CoreV cfg d' vs :=
  h.of_dev hq (hf ▸ ha ▸ h.alloc) (hf ▸ ho ▸ h.depth) fun v hv hs => ho ▸ (h.pc v hv).so hs

/-- the client at position `i` has released buffers: its cursor moved on to `x`, the frames `taken` went from its
pending frames to its `done` log with `fate`; the queue kept its frames except that old buffers may be gone.
Nothing changes for the other clients. -/
theorem coreV_take {cfg : Cfg} {d : Dev} {vs : List CV} {i : Nat} {v : CV} (fate : Fate) (hf : fateOk fate)
    (h : CoreV cfg d vs) (hi : vs[i]? = some v) {r : List QElem × Nat} {x : Nat} {taken : List Frame}
    (R : Released d.q d.free (vs.map (·.backlog)) i x r) (hx : 0 < x → 0 < v.backlog)
    (htaken : pendingOf d.q v.backlog = pendingOf r.1 x ++ taken) :
    CoreV cfg { d with q := r.1, free := r.2 }
      (vs.set i { v with backlog := x, done := taken.map (·, fate) ++ v.done }) := by
  have pv := h.pc v (mem_of_getElem?_eq hi)
  have hal := h.alloc
  have hsum := R.sum
  refine ⟨by rw [List.map_set]; exact R.inv, ?_, by show r.2 + r.1.length = d.allocated; omega,
    fun ho => by have := h.depth ho; show defaultBufferCount ≤ r.2 + r.1.length; omega⟩
  intro u hu
  rcases mem_set_cases hu with rfl | ⟨j, hj, hjv⟩
  · refine ⟨fun hp => pv.sub (hx hp), fun hs => ?_, pv.w, pv.so, ?_, ?_⟩
    · exact (Nat.eq_zero_or_pos x).symm.imp (fun hp => (pv.gw hs).resolve_right (Nat.ne_of_gt (hx hp))) id
    · show v.expected = pendingOf r.1 x ++ List.map (·.1) (taken.map (·, fate) ++ v.done)
      rw [pv.gh, htaken, List.map_append, List.map_map, List.append_assoc]
      congr 2
      exact (List.map_id' _).symm
    · intro y hy
      rcases List.mem_append.mp hy with hy' | hy'
      · obtain ⟨_, _, rfl⟩ := List.mem_map.mp hy'; exact hf
      · exact pv.ov y hy'
  · have pu := h.pc u (mem_of_getElem?_eq hjv)
    have hub : u.backlog ≤ r.1.length := R.inv.bound _ (mem_of_getElem?_eq (i := j) (by
      rw [List.getElem?_set_ne (Ne.symm hj), List.getElem?_map, hjv]; rfl))
    exact ⟨pu.sub, pu.gw, pu.w, pu.so, (pendingOf_of_prefix R.frames hub).symm ▸ pu.gh, pu.ov⟩

theorem getD_map_backlog {vs : List CV} {i : Nat} {v : CV} (hi : vs[i]? = some v) :
    (vs.map (·.backlog)).getD i 0 = v.backlog := by
  rw [List.getD_eq_getElem?_getD, List.getElem?_map, hi]; rfl

/-- `vbi_proxy_queue_release_sliced` by the client at position `i` (after sending a frame, or in force_free):
it succeeds and the invariant holds for the state the model builds -/
theorem coreV_release {cfg : Cfg} {d : Dev} {vs : List CV} {i : Nat} {v : CV} (fate : Fate) (hf : fateOk fate)
    (h : CoreV cfg d vs) (hi : vs[i]? = some v) (hpos : 0 < v.backlog) :
    ∃ q' f', releaseQ d.q d.free v.backlog = .ok (q', f') ∧
      CoreV cfg { d with q := q', free := f' }
        (vs.set i { v with backlog := v.backlog - 1,
                           done := ((d.q.getD (v.backlog - 1) default).frame, fate) :: v.done }) := by
  have hil : i < (vs.map (·.backlog)).length := by rw [List.length_map]; exact lt_of_getElem?_eq hi
  obtain ⟨⟨q', f'⟩, hr, R⟩ := releaseQ_ok d.free h.q hil (getD_map_backlog hi) hpos
  have hbl : v.backlog ≤ d.q.length := h.q.bound _ (List.mem_map.mpr ⟨v, mem_of_getElem?_eq hi, rfl⟩)
  refine ⟨q', f', hr, coreV_take (taken := [_]) fate hf h hi R (fun _ => hpos) ?_⟩
  rw [pendingOf_of_prefix R.frames (R.inv.bound _ (List.mem_set hil _))]
  have := take_map_succ (fun e : QElem => e.frame) d.q (v.backlog - 1) default (by omega)
  rwa [Nat.sub_add_cancel hpos] at this

/-- the release loop of SERVICE_REQ / close for the client at position `i` -/
theorem coreV_releaseAll {cfg : Cfg} {d : Dev} {vs : List CV} {i : Nat} {v : CV} (fate : Fate) (hf : fateOk fate)
    (h : CoreV cfg d vs) (hi : vs[i]? = some v) :
    ∃ q' f', releaseAllQ d.q d.free v.backlog = .ok (q', f') ∧
      CoreV cfg { d with q := q', free := f' }
        (vs.set i { v with backlog := 0,
                           done := ((d.q.take v.backlog).map (·.frame)).map (·, fate) ++ v.done }) := by
  have hil : i < (vs.map (·.backlog)).length := by rw [List.length_map]; exact lt_of_getElem?_eq hi
  obtain ⟨⟨q', f'⟩, hr, R⟩ := releaseAllQ_ok v.backlog d.free h.q hil (getD_map_backlog hi)
  exact ⟨q', f', hr, coreV_take fate hf h hi R (fun h0 => absurd h0 (Nat.lt_irrefl 0)) rfl⟩

/-- changing fields of the client at position `i` that keep its cursor and ghost logs: the per-client facts
have to be re-established for that client only -/
theorem coreV_set {cfg : Cfg} {d : Dev} {vs : List CV} {i : Nat} {v v' : CV} (h : CoreV cfg d vs)
    (hi : vs[i]? = some v) (hb : v'.backlog = v.backlog) (hp : PC cfg d v') : CoreV cfg d (vs.set i v') := by
  refine ⟨?_, forall_mem_set h.pc hp, h.alloc, h.depth⟩
  rw [List.map_set, hb]
  have : (vs.map (·.backlog))[i]? = some v.backlog := by rw [List.getElem?_map, hi]; rfl
  rw [set_eq_self_of_getElem? this]; exact h.q

/-- a closed (or any not subscribed) client is unlinked -/
theorem coreV_erase {cfg : Cfg} {d : Dev} {vs : List CV} {i : Nat} {v : CV} (h : CoreV cfg d vs)
    (hi : vs[i]? = some v) (hs : v.subscribed = false) : CoreV cfg d (vs.eraseIdx i) := by
  have hb0 : v.backlog = 0 := (h.pc v (mem_of_getElem?_eq hi)).idle hs
  refine ⟨?_, fun u hu => h.pc u (List.mem_of_mem_eraseIdx hu), h.alloc, h.depth⟩
  have : (vs.eraseIdx i).map (·.backlog) = (vs.map (·.backlog)).eraseIdx i := by
    rw [map_eraseIdx]
  rw [this]
  exact QInv_erase h.q ((getD_map_backlog hi).trans hb0)

/-- `vbi_proxyd_add_connection` -/
theorem coreV_append {cfg : Cfg} {d : Dev} {vs : List CV} (h : CoreV cfg d vs) (v : CV) (hb : v.backlog = 0)
    (hp : PC cfg d v) : CoreV cfg d (vs ++ [v]) := by
  refine ⟨?_, ?_, h.alloc, h.depth⟩
  · rw [List.map_append]; simp only [List.map_cons, List.map_nil, hb]; exact QInv_append h.q
  · intro u hu
    rcases List.mem_append.mp hu with h1 | h1
    · exact h.pc u h1
    · simp at h1; rw [h1]; exact hp

/-- `vbi_proxy_queue_release_all` -/
theorem coreV_flush {cfg : Cfg} {d : Dev} {vs : List CV} (h : CoreV cfg d vs) :
    CoreV cfg { d with q := [], free := d.free + d.q.length }
      (vs.map (fun v => { v with backlog := 0,
                                 done := ((d.q.take v.backlog).map (fun e => (e.frame, Fate.flushed))) ++ v.done })) := by
  refine ⟨?_, ?_, ?_, ?_⟩
  · apply QInv_nil
    intro b hb
    simp only [List.map_map, List.mem_map, Function.comp] at hb
    obtain ⟨_, _, rfl⟩ := hb; rfl
  · intro u hu
    obtain ⟨v, hv, rfl⟩ := List.mem_map.mp hu
    have pv := h.pc v hv
    refine ⟨fun hp => absurd hp (Nat.lt_irrefl 0), fun _ => Or.inr rfl, pv.w, pv.so, ?_, ?_⟩
    · show v.expected = pendingOf [] 0 ++ _
      rw [pv.gh]; simp [pendingOf, List.map_map, Function.comp_def]
    · intro x hx
      rcases List.mem_append.mp hx with hx' | hx'
      · obtain ⟨_, _, rfl⟩ := List.mem_map.mp hx'; trivial
      · exact pv.ov x hx'
  · show d.free + d.q.length + 0 = d.allocated
    have := h.alloc; omega
  · intro ho
    show defaultBufferCount ≤ d.free + d.q.length + 0
    have := h.depth ho; omega

end Zvbi.ProxyQ
