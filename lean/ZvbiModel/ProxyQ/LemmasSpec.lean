import ZvbiModel.ProxyQ.Spec
import ZvbiModel.ProxyQ.LemmasQueue
import ZvbiModel.Ite
/-! # Lemmas about the queue machine and about what a release does to the frames other clients still expect -/
namespace Zvbi.ProxyQ

/-- every enabled operation of the queue machine succeeds - neither assertion, nor dangling, nor NULL cursor -
and preserves the reference-count invariant -/
theorem qstep_ok {s : QState} {op : QOp} {r : Except Err QState} (inv : QInv s.q s.bl) (h : qstep s op = some r) :
    Safe (fun s' : QState => QInv s'.q s'.bl) r := by
  cases op with
  | join => cases h; exact .ok (QInv_append inv)
  | release i =>
    obtain ⟨hc, ⟨⟩⟩ := of_ite_some h
    exact Walk.andThenQ (releaseQ_ok s.free inv hc.1 rfl hc.2) fun _ _ R => .ok R.inv
  | releaseAll i =>
    obtain ⟨hc, ⟨⟩⟩ := of_ite_some h
    exact Walk.andThenQ (releaseAllQ_ok _ s.free inv hc rfl) fun _ _ R => .ok R.inv
  | leave i =>
    obtain ⟨hc, ⟨⟩⟩ := of_ite_some h
    exact .ok (QInv_erase inv hc)
  | push fr sub =>
    obtain ⟨hc, h⟩ := of_ite_some h
    split at h <;> cases h
    · exact .ok inv
    · exact .ok (QInv_push sub fr inv hc.1 hc.2 (Nat.pos_of_ne_zero ‹_›))
  | flush =>
    cases h
    exact .ok (QInv_nil _ (fun b hb => by obtain ⟨_, _, h⟩ := List.mem_map.mp hb; exact h.symm))

/-- the frames a client with cursor `b` still has to get, newest first -/
def pendingOf (q : List QElem) (b : Nat) : List Frame := (q.take b).map (·.frame)

theorem pendingOf_of_prefix {q q' : List QElem} (h : q'.map (·.frame) <+: q.map (·.frame)) {n : Nat}
    (hn : n ≤ q'.length) : pendingOf q' n = pendingOf q n := by
  obtain ⟨t, ht⟩ := h
  unfold pendingOf
  rw [List.map_take, List.map_take, ← ht, List.take_append_of_le_length (by rw [List.length_map]; exact hn)]

/-- a release by client `i` leaves every other client its cursor and the frames pending for it -/
theorem others_keep {q : List QElem} {free : Nat} {bl : List Nat} {i x : Nat} {r : List QElem × Nat}
    (R : Released q free bl i x r) {j : Nat} (hj : j ≠ i) (hjl : j < bl.length) :
    (bl.set i x).getD j 0 = bl.getD j 0 ∧ pendingOf r.1 ((bl.set i x).getD j 0) = pendingOf q (bl.getD j 0) := by
  have hg : (bl.set i x).getD j 0 = bl.getD j 0 := by
    rw [List.getD_eq_getElem?_getD, List.getD_eq_getElem?_getD, List.getElem?_set_ne (Ne.symm hj)]
  have hb := R.inv.bound _ (getD_mem (bl := bl.set i x) (i := j) (by rw [List.length_set]; exact hjl))
  rw [hg] at hb ⊢
  exact ⟨rfl, pendingOf_of_prefix R.frames hb⟩

/-- masking a request with what it was granted does not change what it is granted -/
theorem and_and_self (a supp : Nat) : (a &&& (a &&& supp)) &&& supp = a &&& supp := by
  rw [← Nat.and_assoc, Nat.and_self, Nat.and_assoc, Nat.and_self]

theorem filter_take_all {α : Type} (p : α → Bool) (l : List α) (n : Nat) (h : l.length ≤ n) :
    (l.take n).filter p = l.filter p := by
  rw [List.take_of_length_le h]

end Zvbi.ProxyQ
