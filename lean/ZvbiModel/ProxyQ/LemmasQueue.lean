import ZvbiModel.ProxyQ.Model
import ZvbiModel.Safe
/-!
# The reference-count invariant of the sliced queue (queue level)

`QInv q bl`: for the queue `q` (newest buffer first) and the cursors `bl` of all clients (as backlogs, see
the header of `Model.lean`)

* the `ref_count` of the `j`-th newest buffer is the number of clients whose cursor is at or before it
  (`backlog > j`),
* no cursor points outside the queue (`backlog ≤ q.length`),
* somebody's cursor is at the head buffer (so every queued buffer has `ref_count ≥ 1`).

The lemmas show that `vbi_proxy_queue_release_sliced` preserves this and can neither hit its assertion nor a
dangling or NULL cursor, that the release loops of close / service change / force_free preserve it, and that
appending a captured frame in `vbi_proxyd_forward_data` preserves it.
-/
namespace Zvbi.ProxyQ

/-! The model spells out its error propagation and its look-ups as `match`es, at four types.  A rule whose conclusion is
that `match`, written at the same type, applies to the model's terms as they stand, so the proof about a model function
is a term that follows the function: each call contributes its own lemma, each `if` an `ite_ind` / `ite_both`.
There is one rule per type because a rule polymorphic in the result type does not unify with the model's matchers, and
`Safe.elim` alone does not chain: after one step the next call sits under a `match .ok r with ..` that is not yet reduced. -/
namespace Walk
variable {β : Type} {Q : β → Prop}

theorem andThen {P : State → Prop} {x : Except Err State} {f : State → Except Err β}
    (h : Safe P x) (hf : ∀ r, P r → Safe Q (f r)) :
    Safe Q (match (generalizing := false) x with | .error e => .error e | .ok r => f r) :=
  h.elim hf

theorem andThen2 {P : State × Bool → Prop} {x : Except Err (State × Bool)} {f : State → Bool → Except Err β}
    (h : Safe P x) (hf : ∀ s b, P (s, b) → Safe Q (f s b)) :
    Safe Q (match (generalizing := false) x with | .error e => .error e | .ok (s, b) => f s b) :=
  h.elim fun r => hf r.1 r.2

theorem andThenQ {P : List QElem × Nat → Prop} {x : Except Err (List QElem × Nat)} {f : List QElem → Nat → Except Err β}
    (h : Safe P x) (hf : ∀ q n, P (q, n) → Safe Q (f q n)) :
    Safe Q (match (generalizing := false) x with | .error e => .error e | .ok (q, n) => f q n) :=
  h.elim fun r => hf r.1 r.2

theorem lookup {cl : List Client} {i : Nat} {a : Except Err β} {f : Client → Except Err β}
    (hn : cl[i]? = none → Safe Q a) (hs : ∀ c, cl[i]? = some c → Safe Q (f c)) :
    Safe Q (match (generalizing := false) cl[i]? with | none => a | some c => f c) := by
  cases h : cl[i]? with
  | none => exact hn h
  | some c => exact hs c h

end Walk


/-- number of cursors at or before the `j`-th newest buffer -/
def cnt (j : Nat) : List Nat → Nat
  | [] => 0
  | b :: t => (if j < b then 1 else 0) + cnt j t

/-- the counts of the buffers of `q` are exact, the first buffer of `q` being the `j`-th newest of the whole queue -/
def RefOK : List QElem → Nat → List Nat → Prop
  | [], _, _ => True
  | e :: t, j, bl => e.ref = cnt j bl ∧ RefOK t (j + 1) bl

structure QInv (q : List QElem) (bl : List Nat) : Prop where
  ref : RefOK q 0 bl
  bound : ∀ b ∈ bl, b ≤ q.length
  head : q ≠ [] → 1 ≤ cnt (q.length - 1) bl

/-- `cnt` counts: the facts about it that do not depend on positions are those of `List.countP` -/
theorem cnt_eq_countP (j : Nat) : ∀ bl : List Nat, cnt j bl = bl.countP (j < ·)
  | [] => rfl
  | b :: t => by simp only [cnt, List.countP_cons, cnt_eq_countP j t, decide_eq_true_eq, Nat.add_comm]

theorem cnt_anti (bl : List Nat) {j j' : Nat} (h : j ≤ j') : cnt j' bl ≤ cnt j bl := by
  rw [cnt_eq_countP, cnt_eq_countP]
  exact List.countP_mono_left fun x _ hx => decide_eq_true (Nat.lt_of_le_of_lt h (of_decide_eq_true hx))

theorem cnt_eq_zero {j : Nat} {bl : List Nat} : cnt j bl = 0 ↔ ∀ b ∈ bl, b ≤ j := by
  rw [cnt_eq_countP, List.countP_eq_zero]
  exact forall_congr' fun b => imp_congr_right fun _ => by rw [decide_eq_true_eq, Nat.not_lt]

theorem cnt_pos_of_mem {j b : Nat} {bl : List Nat} (hb : b ∈ bl) (hj : j < b) : 1 ≤ cnt j bl := by
  rw [cnt_eq_countP]
  exact List.countP_pos_iff.mpr ⟨b, hb, decide_eq_true hj⟩

/-- the cursor of client `i` moves on from the `b`-th newest buffer: only the count of that buffer changes -/
theorem cnt_move {b : Nat} (k : Nat) : ∀ {bl : List Nat} {i : Nat}, bl.getD i 0 = b + 1 →
    cnt k (bl.set i b) + (if k = b then 1 else 0) = cnt k bl
  | [], _, h => by simp at h
  | a :: t, 0, h => by
    obtain rfl : a = b + 1 := h
    by_cases hk : k = b
    · subst hk; simp [cnt, Nat.add_comm]
    · have : k < b ↔ k < b + 1 := by omega
      simp [cnt, hk, this]
  | a :: t, i + 1, h => by
    have := cnt_move k (bl := t) (i := i) h
    simp only [List.set_cons_succ, cnt]; omega

theorem cnt_move_ne {bl : List Nat} {i b k : Nat} (hb : bl.getD i 0 = b + 1) (hk : k ≠ b) :
    cnt k (bl.set i b) = cnt k bl := by
  have := cnt_move k hb; rwa [if_neg hk] at this

theorem cnt_move_eq {bl : List Nat} {i b : Nat} (hb : bl.getD i 0 = b + 1) : cnt b (bl.set i b) + 1 = cnt b bl := by
  have := cnt_move b hb; rwa [if_pos rfl] at this

theorem RefOK_iff {bl : List Nat} : ∀ {q : List QElem} {j : Nat},
    RefOK q j bl ↔ ∀ r, r < q.length → refAt q r = cnt (j + r) bl
  | [], _ => ⟨fun _ _ h => (nomatch h), fun _ => trivial⟩
  | e :: t, j => by
    have hj : ∀ r, j + (r + 1) = j + 1 + r := fun r => by omega
    rw [RefOK, RefOK_iff (q := t)]
    constructor
    · rintro ⟨h0, ht⟩ r hr
      cases r with
      | zero => exact h0
      | succ r => rw [hj]; exact ht r (Nat.lt_of_succ_lt_succ hr)
    · exact fun h => ⟨h 0 (Nat.succ_pos _), fun r hr => hj r ▸ h (r + 1) (Nat.succ_lt_succ hr)⟩

theorem RefOK_congr {bl bl' : List Nat} (q : List QElem) (j : Nat) (h : ∀ k, j ≤ k → cnt k bl' = cnt k bl)
    (hq : RefOK q j bl) : RefOK q j bl' :=
  RefOK_iff.mpr fun r hr => (RefOK_iff.mp hq r hr).trans (h _ (Nat.le_add_right j r)).symm

theorem decAt_length : ∀ (q : List QElem) (r : Nat), (decAt q r).length = q.length
  | [], _ => rfl
  | _ :: _, 0 => rfl
  | _ :: t, r + 1 => congrArg (· + 1) (decAt_length t r)

theorem refAt_decAt : ∀ (q : List QElem) (r k : Nat), refAt (decAt q r) k = if k = r then refAt q r - 1 else refAt q k
  | [], _, _ => by simp [decAt, refAt]
  | _ :: _, 0, 0 => rfl
  | _ :: _, 0, _ + 1 => rfl
  | _ :: _, _ + 1, 0 => rfl
  | _ :: t, r + 1, k + 1 => by simp only [decAt, refAt, refAt_decAt t r k, Nat.succ_inj]

theorem refAt_dropLast : ∀ (q : List QElem) (k : Nat), k + 1 < q.length → refAt q.dropLast k = refAt q k
  | [], _, h => nomatch h
  | [_], _, h => absurd h (by simp)
  | _ :: _ :: _, 0, _ => rfl
  | _ :: e2 :: t, k + 1, h => refAt_dropLast (e2 :: t) k (Nat.lt_of_succ_lt_succ h)

theorem getD_mem {bl : List Nat} {i : Nat} (hi : i < bl.length) : bl.getD i 0 ∈ bl :=
  List.getElem_eq_getD (h := hi) 0 ▸ List.getElem_mem hi

theorem decAt_frames : ∀ (q : List QElem) (r : Nat), (decAt q r).map (·.frame) = q.map (·.frame)
  | [], _ => rfl
  | _ :: _, 0 => rfl
  | e :: t, r + 1 => congrArg (e.frame :: ·) (decAt_frames t r)

/-- what a release by client `i` (one buffer, or its release loop) leaves: the invariant with the cursor moved to `x`,
free + queued as before, and the queued frames as they were except that the oldest buffers may be gone -/
structure Released (q : List QElem) (free : Nat) (bl : List Nat) (i x : Nat) (r : List QElem × Nat) : Prop where
  inv : QInv r.1 (bl.set i x)
  sum : r.1.length + r.2 = q.length + free
  frames : r.1.map (·.frame) <+: q.map (·.frame)

theorem releaseQ_of_le {q : List QElem} {b : Nat} (free : Nat) (h : b + 1 ≤ q.length) :
    releaseQ q free (b + 1) =
      if refAt (decAt q b) b = 0 then
        if b + 1 = q.length then .ok ((decAt q b).dropLast, free + 1) else .error (.assertFail .releaseHead)
      else .ok (decAt q b, free) := by
  simp only [releaseQ, Nat.add_sub_cancel, if_neg (Nat.succ_ne_zero b), if_neg (Nat.not_lt.mpr h)]

/-- `vbi_proxy_queue_release_sliced` by the client at position `i` (cursor `b`): it succeeds - neither the
assertion nor a dangling or NULL cursor - and the invariant holds with the cursor moved on -/
theorem releaseQ_ok {q : List QElem} {bl : List Nat} {i b : Nat} (free : Nat) (inv : QInv q bl) (hi : i < bl.length)
    (hb : bl.getD i 0 = b) (hpos : 0 < b) :
    Safe (Released q free bl i (b - 1)) (releaseQ q free b) := by
  obtain ⟨b, rfl⟩ : ∃ c, b = c + 1 := ⟨b - 1, by omega⟩
  rw [Nat.add_sub_cancel]
  have hble : b + 1 ≤ q.length := hb ▸ inv.bound _ (getD_mem hi)
  -- the count of the buffer at the cursor goes down with the cursor moving on; the other counts stay
  have hdec : ∀ r, r < q.length → refAt (decAt q b) r = cnt r (bl.set i b) := by
    intro r hr
    have hq := RefOK_iff.mp inv.ref r hr
    rw [Nat.zero_add] at hq
    rw [refAt_decAt]
    by_cases hrb : r = b
    · subst hrb
      rw [if_pos rfl, hq]
      have := cnt_move_eq hb
      omega
    · rw [if_neg hrb, hq, cnt_move_ne hb hrb]
  have hrefAt : refAt (decAt q b) b = cnt b (bl.set i b) := hdec b hble
  -- while the cursor was not at the head buffer, the head is still held by whoever held it
  have hhead : b + 1 ≠ q.length → 1 ≤ cnt (q.length - 1) (bl.set i b) := by
    intro h
    rw [cnt_move_ne hb (by omega)]
    exact inv.head (by intro h0; rw [h0] at hble; exact Nat.not_succ_le_zero _ hble)
  rw [releaseQ_of_le free hble, hrefAt]
  by_cases hz : cnt b (bl.set i b) = 0
  · -- the buffer is recycled: it must be the head
    have hL : b + 1 = q.length := by
      apply Decidable.byContradiction
      intro hne
      have h1 := hhead hne
      have h2 := cnt_anti (bl.set i b) (j := b) (j' := q.length - 1) (by omega)
      omega
    have hlen : (decAt q b).dropLast.length = b := by rw [List.length_dropLast, decAt_length, ← hL]; rfl
    rw [if_pos hz, if_pos hL]
    refine .ok ⟨⟨RefOK_iff.mpr fun r hr => ?_, ?_, ?_⟩, ?_, decAt_frames q b ▸ (List.dropLast_prefix _).map _⟩
    · rw [hlen] at hr
      rw [Nat.zero_add, refAt_dropLast _ _ (by rw [decAt_length]; omega)]
      exact hdec r (by omega)
    · rw [hlen]; exact cnt_eq_zero.mp hz
    · intro hne
      rw [hlen]
      have hb0 : b ≠ 0 := fun h0 => hne (List.length_eq_zero_iff.mp (hlen.trans h0))
      exact cnt_pos_of_mem (List.mem_set hi b) (by omega)
    · show _ + _ = _; rw [hlen]; omega
  · rw [if_neg hz]
    refine .ok ⟨⟨RefOK_iff.mpr fun r hr => by rw [Nat.zero_add]; exact hdec r (decAt_length q b ▸ hr), ?_, ?_⟩, ?_,
      decAt_frames q b ▸ List.prefix_refl _⟩
    · rw [decAt_length]
      exact fun x hm => (List.mem_or_eq_of_mem_set hm).elim (inv.bound x) (· ▸ Nat.le_of_succ_le hble)
    · intro _
      rw [decAt_length]
      by_cases hL : b + 1 = q.length
      · rw [← hL, Nat.add_sub_cancel]; exact Nat.pos_of_ne_zero hz
      · exact hhead hL
    · show _ + _ = _; rw [decAt_length]

theorem getD_set_self {bl : List Nat} {i x : Nat} (hi : i < bl.length) : (bl.set i x).getD i 0 = x := by
  rw [List.getD_eq_getElem?_getD, List.getElem?_set_self hi]; rfl

/-- the release loop of close / SERVICE_REQ: all buffers of client `i` are released, nothing can fail -/
theorem releaseAllQ_ok : ∀ (b : Nat) {q : List QElem} {bl : List Nat} {i : Nat} (free : Nat), QInv q bl → i < bl.length →
    bl.getD i 0 = b → Safe (Released q free bl i 0) (releaseAllQ q free b)
  | 0, q, bl, i, free, inv, hi, hb => by
    refine .ok ⟨?_, rfl, List.prefix_refl _⟩
    rw [← List.getElem_eq_getD (h := hi)] at hb
    rw [← hb, List.set_getElem_self]; exact inv
  | b + 1, q, bl, i, free, inv, hi, hb =>
    Walk.andThenQ (releaseQ_ok free inv hi hb (Nat.succ_pos b)) fun q1 f1 R1 =>
      (releaseAllQ_ok b f1 R1.inv (by rw [List.length_set]; exact hi) (getD_set_self hi)).mono
        fun r R2 => ⟨List.set_set .. ▸ R2.inv, R2.sum.trans R1.sum, R2.frames.trans R1.frames⟩

theorem cnt_eraseIdx (k : Nat) : ∀ (bl : List Nat) (i : Nat), bl.getD i 0 = 0 → cnt k (bl.eraseIdx i) = cnt k bl
  | [], _, _ => rfl
  | a :: t, 0, h0 => by
    obtain rfl : a = 0 := h0
    simp [cnt]
  | a :: t, i + 1, h0 => by
    simp only [List.eraseIdx_cons_succ, cnt, cnt_eraseIdx k t i h0]

/-- a client without queued frames may leave -/
theorem QInv_erase {q : List QElem} {bl : List Nat} {i : Nat} (inv : QInv q bl) (h0 : bl.getD i 0 = 0) :
    QInv q (bl.eraseIdx i) :=
  ⟨RefOK_congr q 0 (fun k _ => cnt_eraseIdx k bl i h0) inv.ref,
   fun b hb => inv.bound b (List.mem_of_mem_eraseIdx hb),
   fun hne => cnt_eraseIdx _ bl i h0 ▸ inv.head hne⟩

theorem cnt_append (k : Nat) (a b : List Nat) : cnt k (a ++ b) = cnt k a + cnt k b := by
  simp only [cnt_eq_countP, List.countP_append]

/-- a new client (NULL cursor) may join -/
theorem QInv_append {q : List QElem} {bl : List Nat} (inv : QInv q bl) : QInv q (bl ++ [0]) := by
  have hc : ∀ k, cnt k (bl ++ [0]) = cnt k bl := fun k => by simp [cnt_append, cnt]
  refine ⟨RefOK_congr q 0 (fun k _ => hc k) inv.ref, ?_, fun hne => hc _ ▸ inv.head hne⟩
  intro b hb
  rcases List.mem_append.mp hb with h | h
  · exact inv.bound b h
  · rw [List.mem_singleton.mp h]; exact Nat.zero_le _

/-- with every cursor NULL the queue is empty (so stopping the acquisition frees no buffer a client points to) -/
theorem QInv_all_zero {q : List QElem} {bl : List Nat} (inv : QInv q bl) (h : ∀ b ∈ bl, b = 0) : q = [] := by
  cases q with
  | nil => rfl
  | cons e t =>
    have := inv.head (List.cons_ne_nil _ _)
    rw [cnt_eq_zero.mpr (fun b hb => h b hb ▸ Nat.zero_le _)] at this
    exact absurd this (Nat.not_succ_le_zero 0)

theorem QInv_nil (bl : List Nat) (h : ∀ b ∈ bl, b = 0) : QInv [] bl :=
  ⟨trivial, fun b hb => by rw [h b hb]; exact Nat.le_refl _, fun hne => absurd rfl hne⟩

/-- what `vbi_proxyd_forward_data` does to a cursor `b` when it appends a frame (`s`: the client is subscribed) -/
def bump (b : Nat) (s : Bool) : Nat := if s || decide (0 < b) then b + 1 else b

theorem bump_lt {b : Nat} {s : Bool} (h : 0 < b → s = true) :
    (0 < bump b s ↔ s = true) ∧ ∀ k, k + 1 < bump b s ↔ k < b := by
  unfold bump
  cases s
  · obtain rfl : b = 0 := Nat.eq_zero_of_not_pos fun hp => Bool.noConfusion (h hp)
    simp
  · simp

theorem cnt_bump : ∀ (bl : List Nat) (sub : List Bool), sub.length = bl.length →
    (∀ i, i < bl.length → 0 < bl.getD i 0 → sub.getD i false = true) →
    cnt 0 (List.zipWith bump bl sub) = sub.count true ∧
    (∀ k, cnt (k + 1) (List.zipWith bump bl sub) = cnt k bl) ∧
    (∀ n, (∀ b ∈ bl, b ≤ n) → ∀ b ∈ List.zipWith bump bl sub, b ≤ n + 1)
  | [], [], _, _ => ⟨rfl, fun _ => rfl, fun _ _ _ hb => nomatch hb⟩
  | [], _ :: _, hl, _ => nomatch hl
  | _ :: _, [], hl, _ => nomatch hl
  | b :: t, s :: st, hl, hs => by
    obtain ⟨h1, h2, h3⟩ := cnt_bump t st (Nat.succ.inj hl) (fun i hi hp => hs (i + 1) (Nat.succ_lt_succ hi) hp)
    obtain ⟨e0, ek⟩ := bump_lt (b := b) (s := s) (fun hp => hs 0 (Nat.succ_pos _) hp)
    refine ⟨?_, fun k => ?_, fun n hbn x hx => ?_⟩
    · simp only [List.zipWith_cons_cons, cnt, h1, e0, List.count_cons]
      cases s <;> simp [Nat.add_comm]
    · simp only [List.zipWith_cons_cons, cnt, h2 k, ek k]
    · rcases List.mem_cons.mp hx with rfl | hx'
      · have := hbn b (List.mem_cons_self ..)
        unfold bump; split <;> omega
      · exact h3 n (fun y hy => hbn y (List.mem_cons_of_mem _ hy)) x hx'

theorem RefOK_shift {bl bl' : List Nat} (h : ∀ k, cnt (k + 1) bl' = cnt k bl) (q : List QElem) (j : Nat)
    (hq : RefOK q j bl) : RefOK q (j + 1) bl' :=
  RefOK_iff.mpr fun r hr => (RefOK_iff.mp hq r hr).trans (by rw [Nat.add_right_comm]; exact (h _).symm)

/-- `vbi_proxyd_forward_data` appends a frame: the subscribed clients are counted on it, every non-NULL cursor
keeps pointing where it pointed -/
theorem QInv_push {q : List QElem} {bl : List Nat} (sub : List Bool) (fr : Frame) (inv : QInv q bl)
    (hlen : sub.length = bl.length)
    (hsub : ∀ i, i < bl.length → 0 < bl.getD i 0 → sub.getD i false = true)
    (hn : 0 < sub.count true) :
    QInv ({ frame := fr, ref := sub.count true } :: q) (List.zipWith bump bl sub) := by
  obtain ⟨h1, h2, h3⟩ := cnt_bump bl sub hlen hsub
  refine ⟨⟨h1.symm, RefOK_shift h2 q 0 inv.ref⟩, fun b hb => h3 q.length inv.bound b hb, fun _ => ?_⟩
  show 1 ≤ cnt (q.length + 1 - 1) _
  rw [Nat.add_sub_cancel]
  cases q with
  | nil => rw [List.length_nil, h1]; exact hn
  | cons e t => rw [List.length_cons, h2 t.length]; exact inv.head (List.cons_ne_nil _ _)

end Zvbi.ProxyQ
