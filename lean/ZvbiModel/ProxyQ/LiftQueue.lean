import ZvbiModel.ProxyQ.LiftBasic
/-!
# Lifting, part 2: the queue operations of the daemon model

`Core` / `Settled` on states of the daemon model, and the functions of `Model.lean` that release buffers for one
client: `releaseOwn`, `closeClient`, `forwardLoop` (send queued frames).  Each lemma has the form: under the invariant
the function does not fail (no assertion, no dangling, no NULL cursor) and the invariant holds for its result.
-/
namespace Zvbi.ProxyQ
open Zvbi.Gen.ProxyQ

def views (s : State) : List CV := s.clients.map Client.view

def Core (cfg : Cfg) (s : State) : Prop := CoreV cfg s.dev (views s)

def Settled (cfg : Cfg) (s : State) : Prop := SettledV cfg s.dev (views s)

/-- the client at position `i` has left state FORWARD (close pending or done) while it still had services: the
device's service set is stale until `vbi_proxyd_update_services` runs after the client is unlinked -/
def Uns (s : State) (i : Nat) : Prop :=
  ∃ c, s.clients[i]? = some c ∧ (c.state = .closed ∨ c.state = .waitClose) ∧ c.allServices ≠ 0

/-- the client at position `i` is CLOSED and still had services -/
def UnsC (s : State) (i : Nat) : Prop :=
  ∃ c, s.clients[i]? = some c ∧ c.state = .closed ∧ c.allServices ≠ 0

theorem Uns.at {s : State} {i : Nat} {c : Client} (h : Uns s i) (hi : s.clients[i]? = some c) :
    (c.state = .closed ∨ c.state = .waitClose) ∧ c.allServices ≠ 0 := by
  obtain ⟨c', hc', hp⟩ := h
  rw [hi] at hc'; cases hc'; exact hp

theorem UnsC.toUns {s : State} {i : Nat} (h : UnsC s i) : Uns s i := by
  obtain ⟨c, hc, hst, hne⟩ := h
  exact ⟨c, hc, Or.inl hst, hne⟩

/-- the invariant between two ops -/
def Inv (cfg : Cfg) (s : State) : Prop := Core cfg s ∧ Settled cfg s

/-- while the client at position `i` is being handled: the device's service set may be stale on its account -/
def Mid (cfg : Cfg) (i : Nat) (s : State) : Prop := Core cfg s ∧ (Settled cfg s ∨ Uns s i)

/-- the same once a client in WAIT_CLOSE has been closed -/
def MidC (cfg : Cfg) (i : Nat) (s : State) : Prop := Core cfg s ∧ (Settled cfg s ∨ UnsC s i)

/-- the device record without its queue: what the release functions leave alone -/
def devRest (d : Dev) : Dev := { d with q := [], free := 0 }

theorem views_getElem? {s : State} {i : Nat} {c : Client} (h : s.clients[i]? = some c) : (views s)[i]? = some c.view := by
  unfold views; rw [List.getElem?_map, h]; rfl

theorem views_setClient (s : State) (i : Nat) (c : Client) : views (setClient s i c) = (views s).set i c.view := by
  unfold views setClient; simp [List.map_set]

/-- `Core` and `Settled` read only the device record and the client views -/
theorem Core.of_views {cfg : Cfg} {s s' : State} (h : Core cfg s) (hd : s'.dev = s.dev) (hv : views s' = views s) :
    Core cfg s' := by
  unfold Core at *; rw [hd, hv]; exact h

theorem Settled.of_views {cfg : Cfg} {s s' : State} (h : Settled cfg s) (hd : s'.dev = s.dev) (hv : views s' = views s) :
    Settled cfg s' := by
  unfold Settled at *; rw [hd, hv]; exact h

theorem Core.of_eq {cfg : Cfg} {s s' : State} (h : Core cfg s) (hd : s'.dev = s.dev) (hc : s'.clients = s.clients) :
    Core cfg s' :=
  h.of_views hd (congrArg (List.map Client.view) hc)

theorem Settled.of_eq {cfg : Cfg} {s s' : State} (h : Settled cfg s) (hd : s'.dev = s.dev) (hc : s'.clients = s.clients) :
    Settled cfg s' :=
  h.of_views hd (congrArg (List.map Client.view) hc)

theorem SettledV.congr_dev {cfg : Cfg} {d d' : Dev} {vs : List CV} (h : SettledV cfg d vs)
    (ho : d'.opened = d.opened) (ha : d'.allServices = d.allServices)
    (hm : d'.maxLines = d.maxLines := by rfl) (hac : d'.active = d.active := by rfl) : SettledV cfg d' vs :=
  ⟨h.gs, fun hh => h.os (by rw [← ho]; exact hh), fun hh => by rw [ha]; exact h.un (by rw [← ho]; exact hh),
   fun hh => by rw [hm, hac]; exact h.lines (by rw [← ho]; exact hh)⟩

theorem unionV_set {vs : List CV} {i : Nat} {v v' : CV} (hi : vs[i]? = some v) (hc : contrib v' = contrib v) :
    unionV (vs.set i v') = unionV vs := by
  unfold unionV
  rw [List.map_set, hc]
  have : (vs.map contrib)[i]? = some (contrib v) := by rw [List.getElem?_map, hi]; rfl
  rw [set_eq_self_of_getElem? this]

theorem settledV_set {cfg : Cfg} {d : Dev} {vs : List CV} {i : Nat} {v v' : CV} (h : SettledV cfg d vs)
    (hi : vs[i]? = some v) (hc : contrib v' = contrib v)
    (hg : v'.state = .forward → v'.allServices = allOf cfg v'.services) : SettledV cfg d (vs.set i v') :=
  ⟨forall_mem_set h.gs hg, fun ho => by rw [unionV_set hi hc]; exact h.os ho,
   fun ho => by rw [unionV_set hi hc]; exact h.un ho, h.lines⟩

theorem Core.of_set {cfg : Cfg} {s : State} {i : Nat} {c : Client} (h : CoreV cfg s.dev ((views s).set i c.view)) :
    Core cfg (setClient s i c) := by
  unfold Core; rw [views_setClient]; exact h

theorem Settled.of_set {cfg : Cfg} {s : State} {i : Nat} {c : Client} (h : SettledV cfg s.dev ((views s).set i c.view)) :
    Settled cfg (setClient s i c) := by
  unfold Settled; rw [views_setClient]; exact h

theorem views_setClient_same {s : State} {i : Nat} {c c' : Client} (hi : s.clients[i]? = some c) (hv : c'.view = c.view) :
    views (setClient s i c') = views s := by
  rw [views_setClient, hv, set_eq_self_of_getElem? (views_getElem? hi)]

theorem Core.setClient_same {cfg : Cfg} {s : State} {i : Nat} {c c' : Client} (h : Core cfg s)
    (hi : s.clients[i]? = some c) (hv : c'.view = c.view) : Core cfg (setClient s i c') :=
  h.of_views rfl (views_setClient_same hi hv)

theorem Settled.setClient_same {cfg : Cfg} {s : State} {i : Nat} {c c' : Client} (h : Settled cfg s)
    (hi : s.clients[i]? = some c) (hv : c'.view = c.view) : Settled cfg (setClient s i c') :=
  h.of_views rfl (views_setClient_same hi hv)

theorem setClient_getElem? {s : State} {i : Nat} {c c' : Client} (hi : s.clients[i]? = some c) :
    (setClient s i c').clients[i]? = some c' := by
  unfold setClient
  show (s.clients.set i c')[i]? = some c'
  rw [List.getElem?_set_self (lt_of_getElem?_eq hi)]

theorem setClient_setClient (s : State) (i : Nat) (a b : Client) : setClient (setClient s i a) i b = setClient s i b := by
  unfold setClient; simp

theorem setClient_dev (s : State) (i : Nat) (a : Client) : (setClient s i a).dev = s.dev := rfl

theorem releaseOwn_idle {s : State} {i : Nat} {c : Client} (fate : Fate) (hi : s.clients[i]? = some c)
    (hb : c.backlog = 0) : releaseOwn s i fate = .ok s := by
  simp only [releaseOwn, hi, hb, releaseAllQ]
  show Except.ok (setClient s i { c with backlog := 0 }) = _
  rw [← hb, show setClient s i c = s from congrArg (fun l => { s with clients := l }) (set_eq_self_of_getElem? hi)]

theorem releaseOwn_ok {cfg : Cfg} {s : State} {i : Nat} {fate : Fate} (hf : fateOk fate) (h : Core cfg s) :
    ∃ s1, releaseOwn s i fate = .ok s1 ∧ Core cfg s1 ∧ (Settled cfg s → Settled cfg s1) ∧
      devRest s1.dev = devRest s.dev ∧ s1.msgs = s.msgs ∧
      (s.clients[i]? = none → s1 = s) ∧
      (∀ c, s.clients[i]? = some c → ∃ c1, s1.clients[i]? = some c1 ∧ c1.backlog = 0 ∧ c1.state = c.state ∧
        c1.allServices = c.allServices ∧ c1.services = c.services ∧ c1.eof = c.eof ∧ c1.id = c.id) ∧
      s1.clients.length = s.clients.length ∧ (∀ j, j ≠ i → s1.clients[j]? = s.clients[j]?) := by
  cases hi : s.clients[i]? with
  | none =>
    refine ⟨s, by simp [releaseOwn, hi], h, id, rfl, rfl, fun _ => rfl, ?_, rfl, fun _ _ => rfl⟩
    intro c hc; cases hc
  | some c =>
    obtain ⟨q', f', hr, hcore⟩ := coreV_releaseAll fate hf h (views_getElem? hi)
    have hr' : releaseAllQ s.dev.q s.dev.free c.backlog = .ok (q', f') := hr
    let c1 : Client := { c with backlog := 0, done := ((s.dev.q.take c.backlog).map (·.frame)).map (·, fate) ++ c.done }
    refine ⟨setClient { s with dev := { s.dev with q := q', free := f' } } i c1, ?_, ?_, ?_, rfl, rfl, ?_, ?_, ?_, ?_⟩
    · simp only [releaseOwn, hi, hr']; rfl
    · exact .of_set hcore
    · exact fun hs => .of_set
        (settledV_set (hs.congr_dev rfl rfl) (views_getElem? hi) rfl (hs.gs c.view (mem_of_getElem?_eq (views_getElem? hi))))
    · intro hn; cases hn
    · intro c' hc'
      cases hc'
      exact ⟨c1, setClient_getElem? (s := { s with dev := { s.dev with q := q', free := f' } }) hi, rfl, rfl, rfl, rfl, rfl, rfl⟩
    · show (s.clients.set i c1).length = s.clients.length
      simp
    · intro j hj
      show (s.clients.set i c1)[j]? = s.clients[j]?
      rw [List.getElem?_set_ne (fun h => hj h.symm)]

/-- a client without queued frames may change connection state, stored requests and grant freely: what is left of
its per-client facts is that a subscribed client implies an open device and that WAIT_CON_REQ means no grant -/
theorem pc_idle {cfg : Cfg} {d : Dev} {v v' : CV} (p : PC cfg d v) (hb : v.backlog = 0) (hb' : v'.backlog = 0)
    (he : v'.expected = v.expected) (hd : v'.done = v.done) (hso : v'.subscribed = true → d.opened = true)
    (hw : v'.state = .waitConReq → v'.allServices = 0) : PC cfg d v' := by
  refine ⟨fun hp => (by omega), fun _ => Or.inr hb', hw, hso, ?_, (by rw [hd]; exact p.ov)⟩
  rw [he, hd, hb']; have := p.gh; rw [hb] at this; exact this

theorem Core.set_idle {cfg : Cfg} {s : State} {i : Nat} {c c' : Client} (h : Core cfg s) (hi : s.clients[i]? = some c)
    (hb : c.backlog = 0) (hb' : c'.view.backlog = 0) (he : c'.view.expected = c.view.expected)
    (hd : c'.view.done = c.view.done) (hso : c'.subscribed = true → s.dev.opened = true)
    (hw : c'.state = .waitConReq → c'.allServices = 0) : Core cfg (setClient s i c') := by
  exact .of_set (coreV_set h (views_getElem? hi) (hb'.trans hb.symm)
    (pc_idle (h.pc _ (mem_of_getElem?_eq (views_getElem? hi))) hb hb' he hd hso hw))

/-- the release loop of a SERVICE_REQ with reset: the client's stored requests were cleared (`sv`) just before; the loop
does not read them, and afterwards the client is idle -/
theorem releaseOwn_reset_ok {cfg : Cfg} {s : State} {i : Nat} {c : Client} {fate : Fate} (sv : List Nat) (hf : fateOk fate)
    (h : Core cfg s) (hi : s.clients[i]? = some c) :
    Safe (fun s1 => Core cfg s1 ∧ ∃ c1, s1.clients[i]? = some c1 ∧ c1.backlog = 0)
      (releaseOwn (setClient s i { c with services := sv }) i fate) := by
  have hvi := views_getElem? hi
  have hi0 := setClient_getElem? (c' := { c with services := sv }) hi
  have pv := h.pc _ (mem_of_getElem?_eq hvi)
  obtain ⟨q', f', hr, hcore⟩ := coreV_releaseAll fate hf h hvi
  have hr' : releaseAllQ s.dev.q s.dev.free c.backlog = .ok (q', f') := hr
  refine ⟨setClient { setClient s i { c with services := sv } with dev := { s.dev with q := q', free := f' } } i
      { c with services := sv, backlog := 0, done := ((s.dev.q.take c.backlog).map (·.frame)).map (·, fate) ++ c.done },
    by simp only [releaseOwn, hi0, setClient_dev, hr'], ?_, _, setClient_getElem? hi0, rfl⟩
  show CoreV cfg _ (views (setClient (setClient s i _) i _))
  have hi1 := List.getElem?_set_self (lt_of_getElem?_eq hvi)
    (a := { c.view with backlog := 0, done := ((s.dev.q.take c.backlog).map (·.frame)).map (·, fate) ++ c.done })
  rw [views_setClient, views_setClient, List.set_set, ← List.set_set]
  exact coreV_set hcore hi1 rfl (pc_idle (hcore.pc _ (mem_of_getElem?_eq hi1)) rfl rfl rfl rfl pv.so pv.w)

/-- a client without queued frames goes to state `st` (CLOSED or WAIT_CLOSE): `Core` is kept, and `Settled` too if it
had no services; otherwise the device's service set is stale until the next `vbi_proxyd_update_services` -/
theorem leave_ok {cfg : Cfg} {s : State} {i : Nat} {c1 c2 : Client} {st : CState} (h : Core cfg s)
    (hi : s.clients[i]? = some c1) (hb : c1.backlog = 0) (hv : c2.view = { c1.view with state := st })
    (hf : st ≠ .forward) (hw : st ≠ .waitConReq) :
    Core cfg (setClient s i c2) ∧ (c1.allServices = 0 → Settled cfg s → Settled cfg (setClient s i c2)) := by
  constructor
  · exact h.set_idle hi hb (hv ▸ hb) (hv ▸ rfl) (hv ▸ rfl)
      (fun hs => by rw [← Client.subscribed_view, hv, (not_forward (v := { c1.view with state := st }) hf).1] at hs; cases hs)
      fun hh => absurd ((congrArg CV.state hv).symm.trans hh) hw
  · intro ha hs
    refine .of_set (hv ▸ settledV_set hs (views_getElem? hi) ?_ fun hh => absurd hh hf)
    show (if st == .forward then c1.allServices else 0) = (if c1.state == .forward then c1.allServices else 0)
    rw [ha, ite_self, ite_self]

/-- `vbi_proxyd_close`: succeeds; afterwards the client is CLOSED without queued frames; the device's service
set is stale exactly if the client had services -/
theorem closeClient_ok {cfg : Cfg} {s : State} {i : Nat} (h : Core cfg s) (hs : Settled cfg s ∨ Uns s i) :
    ∃ s1, closeClient s i = .ok s1 ∧ Core cfg s1 ∧ (Settled cfg s1 ∨ UnsC s1 i) ∧
      devRest s1.dev = devRest s.dev ∧
      (∀ c, s.clients[i]? = some c → ∃ c1, s1.clients[i]? = some c1 ∧ c1.state = .closed) := by
  unfold closeClient
  show Safe _ _
  refine Walk.lookup (fun hi => .ok ⟨h, .inl (hs.resolve_right fun ⟨_, hc, _⟩ => nomatch hi.symm.trans hc), rfl,
    fun _ hc => nomatch hi.symm.trans hc⟩) fun c hi => ?_
  refine ite_ind (fun hcl => .ok ⟨h, hs.imp_right fun hu => ⟨c, hi, eq_of_beq hcl, (hu.at hi).2⟩, rfl,
    fun _ _ => ⟨c, hi, eq_of_beq hcl⟩⟩) fun _ => ?_
  refine Walk.andThen (releaseOwn_ok (i := i) (fate := Fate.closed) trivial h)
    fun s1 ⟨hcore1, hset1, hdev1, _, _, hc1, _, _⟩ => ?_
  obtain ⟨c1, hi1, hb1, _, has1, _⟩ := hc1 c hi
  refine Walk.lookup (fun hn => nomatch hn.symm.trans hi1) fun c1' hi1' => .ok ?_
  obtain rfl : c1 = c1' := Option.some.inj (hi1.symm.trans hi1')
  obtain ⟨hcore2, hset2⟩ := leave_ok (c2 := { c1 with state := .closed, out := none }) hcore1 hi1 hb1 rfl nofun nofun
  refine ⟨hcore2.of_eq rfl rfl, ?_, hdev1, fun _ _ => ⟨_, setClient_getElem? hi1, rfl⟩⟩
  -- settled if the client had no services, else stale
  refine (Decidable.em (c.allServices = 0)).imp (fun ha => ?_) fun ha => ⟨_, setClient_getElem? hi1, rfl, fun h0 => ha (has1 ▸ h0)⟩
  exact (hset2 (has1.trans ha) (hset1 (hs.resolve_right fun hu => (hu.at hi).2 ha))).of_eq rfl rfl

/-- `vbi_proxy_msg_handle_write` touches the socket side only -/
theorem handleWrite_view (c : Client) : (handleWrite c).1.view = c.view := by
  unfold handleWrite
  cases c.out with
  | none => rfl
  | some mr =>
    have both {p : Prop} [Decidable p] {a b : Client × Bool × Bool × Option OutMsg} (ha : a.1.view = c.view)
        (hb : b.1.view = c.view) : (if p then a else b).1.view = c.view :=
      ite_both (P := fun r : Client × Bool × Bool × Option OutMsg => r.1.view = c.view) ha hb
    exact both rfl (both rfl (both rfl rfl))

/-- the client at position `i` releases the buffer at its cursor (its frame was sent, or force_free takes it):
`vbi_proxy_queue_release_sliced` succeeds, and the invariants hold for the state with the new queue and the client
record `c1` - the client as the socket side left it (write buffer, credit: same view) - with the cursor moved on.
The send loop instantiates `c1` with the record after `handleWrite`, force_free with `c` itself. -/
theorem release_step {cfg : Cfg} {s : State} {i : Nat} {c : Client} (fate : Fate) (hf : fateOk fate) (h : Core cfg s)
    (hi : s.clients[i]? = some c) (hpos : 0 < c.backlog) :
    Safe (fun r => ∀ c1 : Client, c1.view = c.view → ∀ s1 : State,
        s1 = setClient { s with dev := { s.dev with q := r.1, free := r.2 } } i
          { c1 with backlog := c.backlog - 1,
                    done := ((s.dev.q.getD (c.backlog - 1) default).frame, fate) :: c1.done } →
        Core cfg s1 ∧ (Settled cfg s → Settled cfg s1))
      (releaseQ s.dev.q s.dev.free c.backlog) := by
  have hvi := views_getElem? hi
  obtain ⟨q', f', hr, hcore⟩ := coreV_release fate hf h hvi hpos
  refine ⟨(q', f'), hr, fun c1 hv s1 hs1 => ?_⟩
  have hv1 : views s1 = (views s).set i ⟨c.view.state, c.view.services, c.view.allServices, c.view.backlog - 1,
      c.view.expected, ((s.dev.q.getD (c.view.backlog - 1) default).frame, fate) :: c.view.done⟩ := by
    rw [hs1, views_setClient]
    show (views s).set i ⟨c1.view.state, c1.view.services, c1.view.allServices, c.view.backlog - 1, c1.view.expected,
      ((s.dev.q.getD (c.view.backlog - 1) default).frame, fate) :: c1.view.done⟩ = _
    rw [hv]
  subst hs1
  refine ⟨?_, fun hs => ?_⟩
  · unfold Core; rw [hv1]; exact hcore
  · unfold Settled; rw [hv1]
    exact settledV_set (hs.congr_dev rfl rfl) hvi rfl (hs.gs c.view (mem_of_getElem?_eq hvi))

theorem forwardLoop_ok (cfg : Cfg) : ∀ (fuel : Nat) (s : State) (i : Nat), Core cfg s → Settled cfg s →
    ∃ s', forwardLoop fuel s i = .ok s' ∧ Core cfg s' ∧ (Settled cfg s' ∨ UnsC s' i) ∧
      devRest s'.dev = devRest s.dev
  | 0, s, _, h, hs => ⟨s, rfl, h, .inl hs, rfl⟩
  | fuel + 1, s, i, h, hs => by
    rw [forwardLoop]
    show Safe _ _
    refine Walk.lookup (fun _ => .ok ⟨h, .inl hs, rfl⟩) fun c hi => ?_
    refine ite_ind (fun _ => .ok ⟨h, .inl hs, rfl⟩) fun hb0 => ite_ind (fun hd => absurd hd ?_) fun _ => ?_
    · exact Nat.not_lt.mpr (h.q.bound _ (List.mem_map.mpr ⟨c.view, mem_of_getElem?_eq (views_getElem? hi), rfl⟩))
    dsimp only
    generalize hw : handleWrite _ = r
    have hv : r.1.view = c.view := by rw [← hw, handleWrite_view]; rfl
    obtain ⟨c1, blocked, ok, completed⟩ := r
    dsimp only
    refine ite_ind (fun _ => Safe.mono (closeClient_ok (i := i) h (.inl hs)) fun _ p => ⟨p.1, p.2.1, p.2.2.1⟩) fun _ =>
      Walk.andThenQ (release_step Fate.sent trivial h hi (Nat.pos_of_ne_zero hb0)) fun q n p => ?_
    obtain ⟨hc1, hs1⟩ := p c1 hv _ rfl
    -- a completed message is only logged
    cases completed <;>
      exact ite_both (.ok ⟨hc1.of_eq rfl rfl, .inl ((hs1 hs).of_eq rfl rfl), rfl⟩)
        (forwardLoop_ok cfg fuel _ i (hc1.of_eq rfl rfl) ((hs1 hs).of_eq rfl rfl))

end Zvbi.ProxyQ
