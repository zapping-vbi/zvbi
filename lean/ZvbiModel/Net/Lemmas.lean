import ZvbiModel.Net.Spec
/-!
# What each operation of the network model does, stated once

`chswReset` and `eventEnable` get their result written out field by field; `announce`, `cniRx`, `rxVps`, `rxWss`, `rxXds`
and `prologue` get an elimination lemma each (`*_cases`: the ways through the C function, with the result state and
events of each), and every later proof about one of them goes through that lemma instead of unfolding the definition.
`ResetOrStay` and `AspectOnly` say which registers an operation leaves alone.  A VPS or Teletext line is the debounce
step of the reception it constitutes (`rxLine_cniStep`).
-/
namespace Zvbi.Net
open Zvbi.Hamm Zvbi.Codec Zvbi.Gen

theorem extra_not_network (e : Ev) (h : Ev.isExtra e = true) : e.isNetwork = false ∧ e.isNetworkId = false := by
  cases e <;> simp_all [Ev.isExtra, Ev.isNetwork, Ev.isNetworkId]

theorem Silent_nil : Silent [] := by intro e he; cases he

theorem Silent_append {a b : List Ev} (ha : Silent a) (hb : Silent b) : Silent (a ++ b) := by
  intro e he
  rcases List.mem_append.mp he with h | h
  · exact ha e h
  · exact hb e h

theorem Silent_extra {extra : List Ev} (h : ∀ e ∈ extra, Ev.isExtra e = true) : Silent extra :=
  fun e he => extra_not_network e (h e he)

theorem Silent_aspect (r : Aspect) : Silent [Ev.aspect r, Ev.progInfo r] := by
  intro x hx
  simp at hx
  rcases hx with rfl | rfl <;> exact ⟨rfl, rfl⟩

theorem NoNetwork_nil : NoNetwork [] := by intro e he; cases he

theorem NoNetwork_extra {extra : List Ev} (h : ∀ e ∈ extra, Ev.isExtra e = true) : NoNetwork extra :=
  fun e he => (Silent_extra h e he).1

theorem countNetwork_append (a b : List Ev) : countNetwork (a ++ b) = countNetwork a + countNetwork b := by
  simp [countNetwork, List.filter_append]

theorem countNetwork_silent (evs : List Ev) (h : Silent evs) : countNetwork evs = 0 := by
  simp only [countNetwork, List.length_eq_zero_iff, List.filter_eq_nil_iff]
  intro e he
  simp [(h e he).1]

theorem countNetwork_extra (extra : List Ev) (h : ∀ e ∈ extra, Ev.isExtra e = true) : countNetwork extra = 0 :=
  countNetwork_silent extra (Silent_extra h)

theorem Silent.not_mem {x : List Ev} (h : Silent x) (n : Network) : Ev.network n ∉ x ∧ Ev.networkId n ∉ x :=
  ⟨fun m => Bool.noConfusion (h _ m).1, fun m => Bool.noConfusion (h _ m).2⟩

theorem mem_extra_of_network {q extra : List Ev} (hex : ∀ e ∈ extra, Ev.isExtra e = true) (n : Network)
    (h : Ev.network n ∈ q ++ extra ∨ Ev.networkId n ∈ q ++ extra) : Ev.network n ∈ q ∨ Ev.networkId n ∈ q := by
  have k := (Silent_extra hex).not_mem n
  simpa [k.1, k.2] using h

theorem chswReset_fst (s : State) (id : Nat) : (chswReset s id).1 =
    { s with cached := [], net := if id = 0 then {} else s.net, deb := if id = 0 then {} else s.deb,
             aspect := aspectReset, aspectSource := 0, wssLast := (0, 0), wssRep := 0, wssTime := 0, chswcd := 0 } := by
  unfold chswReset
  by_cases h : id = 0 <;> simp only [h, if_true, if_false]

theorem chswReset_snd (s : State) (id : Nat) : (chswReset s id).2 =
    (if id = 0 ∧ s.net.nuid ≠ 0 then [Ev.network {}] else []) ++
    (if s.aspectSource > 0 then [Ev.aspect (chswAspect s.aspectSource)] else []) := by
  unfold chswReset
  by_cases h : id = 0 <;> simp [h]

theorem chswReset_mem (s : State) (id : Nat) (e : Ev) :
    e ∈ (chswReset s id).2 ↔ (e = Ev.network {} ∧ id = 0 ∧ s.net.nuid ≠ 0) ∨
      (e = Ev.aspect (chswAspect s.aspectSource) ∧ s.aspectSource > 0) := by
  rw [chswReset_snd]
  by_cases hn : id = 0 ∧ s.net.nuid ≠ 0 <;> by_cases hs : s.aspectSource > 0 <;> simp [hn, hs]

theorem chswReset_aspect_events (s : State) (id : Nat) (a : Aspect) :
    Ev.aspect a ∈ (chswReset s id).2 ↔ (s.aspectSource > 0 ∧ a = chswAspect s.aspectSource) := by
  rw [chswReset_mem]; simp [and_comm]

theorem countNetwork_chswReset (s : State) (id : Nat) :
    countNetwork (chswReset s id).2 = if id = 0 ∧ s.net.nuid ≠ 0 then 1 else 0 := by
  rw [chswReset_snd, countNetwork_append]
  by_cases hn : id = 0 ∧ s.net.nuid ≠ 0 <;> by_cases hs : s.aspectSource > 0 <;> simp [hn, hs, countNetwork] <;> rfl

theorem chswReset_identified_silent (s : State) : Silent (chswReset s 1).2 := by
  intro e he
  rcases (chswReset_mem s 1 e).mp he with ⟨_, h, _⟩ | ⟨rfl, _⟩
  · cases h
  · exact ⟨rfl, rfl⟩

theorem chswReset_no_extra (s : State) (id : Nat) : ∀ e ∈ (chswReset s id).2, Ev.isExtra e = false := by
  intro e he
  rcases (chswReset_mem s id e).mp he with ⟨rfl, _⟩ | ⟨rfl, _⟩ <;> rfl

theorem chswReset_zero (s : State) :
    (chswReset s 0).1.net = {} ∧ (chswReset s 0).1.cached = [] ∧ (chswReset s 0).1.chswcd = 0 ∧
    (chswReset s 0).1.mask = s.mask ∧ (chswReset s 0).1.time = s.time ∧
    (chswReset s 0).1.wssLast = (0, 0) ∧ (chswReset s 0).1.wssRep = 0 ∧ (chswReset s 0).1.wssTime = 0 := by
  rw [chswReset_fst]; exact ⟨rfl, rfl, rfl, rfl, rfl, rfl, rfl, rfl⟩

theorem chswReset_identified_deb (s : State) (id : Nat) (h : id ≠ 0) : (chswReset s id).1.deb = s.deb := by
  rw [chswReset_fst]; exact if_neg h

theorem chswReset_zero_deb (s : State) : (chswReset s 0).1.deb = {} := by
  rw [chswReset_fst]; rfl

/-- `vbi_chsw_reset` looks at its second argument only in `if (identified == 0)` -/
theorem chswReset_nonzero (s : State) (id : Nat) (h : id ≠ 0) : chswReset s id = chswReset s 1 := by
  unfold chswReset
  simp [h]

theorem cniOf_setCni_self (c : Carrier) (n : Network) (v : Nat) : cniOf c (setCni c n v) = v := by
  cases c <;> rfl

theorem cniOf_setCni_other (c c' : Carrier) (n : Network) (v : Nat) (h : c' ≠ c) : cniOf c' (setCni c n v) = cniOf c' n := by
  cases c <;> cases c' <;> first | rfl | exact absurd rfl h

theorem setCni_nuid (c : Carrier) (n : Network) (v : Nat) : (setCni c n v).nuid = n.nuid := by
  cases c <;> rfl

theorem cniOf_cycle (c : Carrier) (n : Network) (k : Nat) : cniOf c { n with cycle := k } = cniOf c n := by
  cases c <;> rfl

/-- the network record after `station_lookup`'s answer for CNI `v` on carrier `c` has been written into it -/
def adopt (cfg : Cfg) (c : Carrier) (v : Nat) (n : Network) : Network :=
  { n with name := lkName cfg c v, nuid := (cfg.lk c v).1 }

theorem cniOf_adopt (cfg : Cfg) (c c' : Carrier) (v : Nat) (n : Network) : cniOf c' (adopt cfg c v n) = cniOf c' n := by
  cases c' <;> rfl

theorem cniOf_empty (c : Carrier) : cniOf c {} = 0 := by
  cases c <;> rfl

section debounce
variable (cfg : Cfg) (c : Carrier) (v : Nat) (s : State)

theorem cycOf_setCyc_self (d : Deb) (k : Nat) : cycOf c (setCyc c d k) = k := by cases c <;> rfl
theorem cycOf_setCyc_other (c' : Carrier) (d : Deb) (k : Nat) (h : c' ≠ c) : cycOf c' (setCyc c d k) = cycOf c' d := by
  cases c <;> cases c' <;> first | rfl | exact absurd rfl h
theorem cycOf_setAnn (c' : Carrier) (d : Deb) (k : Nat) : cycOf c' (setAnn c d k) = cycOf c' d := by
  cases c <;> cases c' <;> rfl
theorem annOf_setCyc (c' : Carrier) (d : Deb) (k : Nat) : annOf c' (setCyc c d k) = annOf c' d := by
  cases c <;> cases c' <;> rfl
theorem annOf_setAnn_self (d : Deb) (k : Nat) : annOf c (setAnn c d k) = k := by cases c <;> rfl
theorem annOf_setAnn_other (c' : Carrier) (d : Deb) (k : Nat) (h : c' ≠ c) : annOf c' (setAnn c d k) = annOf c' d := by
  cases c <;> cases c' <;> first | rfl | exact absurd rfl h

theorem markChange_eq :
    markChange cfg c v s = { s with net := (markChange cfg c v s).net, deb := (markChange cfg c v s).deb } := by
  unfold markChange; split <;> rfl

theorem markDone_eq :
    markDone cfg c v s = { s with net := (markDone cfg c v s).net, deb := (markDone cfg c v s).deb } := by
  unfold markDone; split <;> rfl

theorem markDone_nuid : (markDone cfg c v s).net.nuid = s.net.nuid := by
  unfold markDone; split <;> rfl
theorem markDone_name : (markDone cfg c v s).net.name = s.net.name := by
  unfold markDone; split <;> rfl
theorem markDone_call : (markDone cfg c v s).net.call = s.net.call := by
  unfold markDone; split <;> rfl
theorem markDone_cniOf (c' : Carrier) : cniOf c' (markDone cfg c v s).net = cniOf c' s.net := by
  unfold markDone; split
  · rfl
  · cases c' <;> rfl
theorem markDone_cached : (markDone cfg c v s).cached = s.cached := by rw [markDone_eq]
theorem markDone_chswcd : (markDone cfg c v s).chswcd = s.chswcd := by rw [markDone_eq]
theorem markDone_mask : (markDone cfg c v s).mask = s.mask := by rw [markDone_eq]
theorem markDone_not_pending : ¬ pending cfg c (markDone cfg c v s) := by
  unfold pending markDone
  cases cfg.perCarrier <;> simp [cycOf_setAnn, cycOf_setCyc_self]
/-- in the shared-cycle shape nothing is pending on ANY carrier; in the per-carrier shape the others keep their state -/
theorem markDone_pending_other (c' : Carrier) (h : c' ≠ c) :
    pending cfg c' (markDone cfg c v s) → (cfg.perCarrier = true ∧ pending cfg c' s) := by
  unfold pending markDone
  cases cfg.perCarrier <;> simp [cycOf_setAnn, cycOf_setCyc_other _ _ _ _ h]
theorem markDone_annOf_self (h : cfg.perCarrier = true) : annOf c (markDone cfg c v s).deb = v := by
  simp [markDone, h, annOf_setAnn_self]
theorem markDone_annOf_other (c' : Carrier) (h : c' ≠ c) : annOf c' (markDone cfg c v s).deb = annOf c' s.deb := by
  unfold markDone; split
  · simp [annOf_setAnn_other _ _ _ _ h, annOf_setCyc]
  · rfl
theorem markDone_net_cycle (h : cfg.perCarrier = true) : (markDone cfg c v s).net = s.net := by
  simp [markDone, h]
theorem markDone_cycle_shared (h : cfg.perCarrier = false) : (markDone cfg c v s).net.cycle = 2 := by
  simp [markDone, h]

/-- after an announcement on carrier `c` nothing is pending anywhere, provided (per-carrier shape only) nothing
    else was pending before: no XDS name and no other carrier -/
theorem markDone_idle
    (h : cfg.perCarrier = true → (s.net.cycle ≠ 1 ∧ ∀ c', c' ≠ c → cycOf c' s.deb ≠ 1)) :
    (markDone cfg c v s).net.cycle ≠ 1 ∧ ∀ c', cfg.perCarrier = true → cycOf c' (markDone cfg c v s).deb ≠ 1 := by
  cases hp : cfg.perCarrier
  · refine ⟨by rw [markDone_cycle_shared cfg c v s hp]; decide, fun _ e => by cases e⟩
  · have hh := h hp
    refine ⟨by rw [markDone_net_cycle cfg c v s hp]; exact hh.1, ?_⟩
    intro c' _
    simp only [markDone, hp, if_true, cycOf_setAnn]
    by_cases hc : c' = c
    · rw [hc, cycOf_setCyc_self]; decide
    · rw [cycOf_setCyc_other c c' _ _ hc]; exact hh.2 c' hc

theorem markChange_nuid : (markChange cfg c v s).net.nuid = s.net.nuid := by
  unfold markChange; split <;> cases c <;> rfl
theorem markChange_name : (markChange cfg c v s).net.name = s.net.name := by
  unfold markChange; split <;> cases c <;> rfl
theorem markChange_call : (markChange cfg c v s).net.call = s.net.call := by
  unfold markChange; split <;> cases c <;> rfl
theorem markChange_cniOf_self : cniOf c (markChange cfg c v s).net = v := by
  unfold markChange; split <;> cases c <;> rfl
theorem markChange_cniOf_other (c' : Carrier) (h : c' ≠ c) : cniOf c' (markChange cfg c v s).net = cniOf c' s.net := by
  unfold markChange; split <;> cases c <;> cases c' <;> first | rfl | exact absurd rfl h
theorem markChange_cached : (markChange cfg c v s).cached = s.cached := by rw [markChange_eq]
theorem markChange_chswcd : (markChange cfg c v s).chswcd = s.chswcd := by rw [markChange_eq]
theorem markChange_mask : (markChange cfg c v s).mask = s.mask := by rw [markChange_eq]
theorem markChange_annOf (c' : Carrier) : annOf c' (markChange cfg c v s).deb = annOf c' s.deb := by
  unfold markChange; split
  · simp [annOf_setCyc]
  · rfl
/-- after a change the carrier waits for the repeat - in the per-carrier shape only if the new value is not the
    one announced last (a deviating word that is over leaves nothing pending) -/
theorem markChange_pending_self :
    pending cfg c (markChange cfg c v s) ↔ (cfg.perCarrier = false ∨ v ≠ annOf c s.deb) := by
  unfold pending markChange
  cases cfg.perCarrier
  · cases c <;> simp [setCni]
  · by_cases h : v = annOf c s.deb <;> simp [cycOf_setCyc_self, h]
theorem markChange_pending_other (c' : Carrier) (h : c' ≠ c) (hp : cfg.perCarrier = true) :
    pending cfg c' (markChange cfg c v s) ↔ pending cfg c' s := by
  simp [pending, markChange, hp, cycOf_setCyc_other _ _ _ _ h]
theorem markChange_cycOf_other (c' : Carrier) (h : c' ≠ c) (hp : cfg.perCarrier = true) :
    cycOf c' (markChange cfg c v s).deb = cycOf c' s.deb := by
  simp [markChange, hp, cycOf_setCyc_other _ _ _ _ h]
theorem markChange_net_shared (h : cfg.perCarrier = false) :
    (markChange cfg c v s).net = { setCni c s.net v with cycle := 1 } := by
  simp [markChange, h]
theorem markChange_net_per (h : cfg.perCarrier = true) : (markChange cfg c v s).net = setCni c s.net v := by
  simp [markChange, h]

theorem pending_congr (s' : State) (hn : s'.net = s.net) (hd : s'.deb = s.deb) : pending cfg c s' ↔ pending cfg c s := by
  unfold pending; rw [hn, hd]

theorem not_pending_of_idle (hn : s.net.cycle ≠ 1) (hd : cfg.perCarrier = true → cycOf c s.deb ≠ 1) : ¬ pending cfg c s := by
  unfold pending
  split
  · exact hd ‹_›
  · exact hn

theorem cniRx_change (h : v ≠ cniOf c s.net) :
    cniRx cfg c v s = (markChange cfg c v s, []) := by
  simp [cniRx, h]

theorem cniRx_idle (h : v = cniOf c s.net) (h2 : ¬ pending cfg c s) :
    cniRx cfg c v s = (s, []) := by
  simp [cniRx, h.symm, h2]

theorem cniRx_pending (h : v = cniOf c s.net) (h2 : pending cfg c s) :
    cniRx cfg c v s = announce cfg c v s := by
  simp [cniRx, h.symm, h2]

theorem announce_keep (h : (cfg.lk c v).1 = s.net.nuid ∨ s.net.nuid = 0) :
    announce cfg c v s =
      (markDone cfg c v { s with net := adopt cfg c v s.net },
       (if (cfg.lk c v).1 = s.net.nuid then [] else [Ev.network (adopt cfg c v s.net)]) ++
         [Ev.networkId (adopt cfg c v s.net)]) := by
  by_cases h3 : (cfg.lk c v).1 = s.net.nuid
  · simp [announce, lkName, adopt, h3]
  · have h4 := h.resolve_left h3
    have h3' : (cfg.lk c v).1 ≠ 0 := by rw [h4] at h3; exact h3
    simp [announce, lkName, adopt, h3', h4]

/-- an identified station replaced by another one: by a known one (`id ≠ 0`) in either shape of the call, by ANY
    CNI once the callers pass "identified" (F35 repaired) -/
theorem announce_switch
    (h3 : (cfg.lk c v).1 ≠ s.net.nuid) (h4 : s.net.nuid ≠ 0) (h5 : cfg.chswIdent = true ∨ (cfg.lk c v).1 ≠ 0) :
    announce cfg c v s =
      (markDone cfg c v { (chswReset s 1).1 with net := adopt cfg c v s.net },
       (chswReset s 1).2 ++ [Ev.network (adopt cfg c v s.net), Ev.networkId (adopt cfg c v s.net)]) := by
  have hid : (if cfg.chswIdent = true then 1 else (cfg.lk c v).1) ≠ 0 := by
    rcases h5 with h5 | h5
    · simp [h5]
    · split <;> simp [h5]
  simp [announce, lkName, adopt, chswReset_nonzero _ _ hid, chswReset_fst, chswReset_snd, h3, h4]

/-- F35, unrepaired call shape: an identified station replaced by a CNI missing from the table -/
theorem announce_unknown
    (h4 : s.net.nuid ≠ 0) (h5 : (cfg.lk c v).1 = 0) (hI : cfg.chswIdent = false) :
    announce cfg c v s =
      (markDone cfg c v (chswReset s 0).1, (chswReset s 0).2 ++ [Ev.network {}, Ev.networkId {}]) := by
  have h3 : ¬ (0 = s.net.nuid) := fun e => h4 e.symm
  simp [announce, chswReset_fst, chswReset_snd, h3, h4, h5, hI]

theorem announce_cases (P : State × List Ev → Prop)
    (hkeep : ((cfg.lk c v).1 = s.net.nuid ∨ s.net.nuid = 0) →
      P (markDone cfg c v { s with net := adopt cfg c v s.net },
         (if (cfg.lk c v).1 = s.net.nuid then [] else [Ev.network (adopt cfg c v s.net)]) ++
           [Ev.networkId (adopt cfg c v s.net)]))
    (hswitch : (cfg.lk c v).1 ≠ s.net.nuid → s.net.nuid ≠ 0 → (cfg.chswIdent = true ∨ (cfg.lk c v).1 ≠ 0) →
      P (markDone cfg c v { (chswReset s 1).1 with net := adopt cfg c v s.net },
         (chswReset s 1).2 ++ [Ev.network (adopt cfg c v s.net), Ev.networkId (adopt cfg c v s.net)]))
    (hunknown : s.net.nuid ≠ 0 → (cfg.lk c v).1 = 0 → cfg.chswIdent = false →
      P (markDone cfg c v (chswReset s 0).1, (chswReset s 0).2 ++ [Ev.network {}, Ev.networkId {}])) :
    P (announce cfg c v s) := by
  by_cases h : (cfg.lk c v).1 = s.net.nuid ∨ s.net.nuid = 0
  · rw [announce_keep cfg c v s h]; exact hkeep h
  · have h3 : (cfg.lk c v).1 ≠ s.net.nuid := fun e => h (Or.inl e)
    have h4 : s.net.nuid ≠ 0 := fun e => h (Or.inr e)
    by_cases h5 : (cfg.lk c v).1 = 0
    · cases hI : cfg.chswIdent
      · rw [announce_unknown cfg c v s h4 h5 hI]; exact hunknown h4 h5 hI
      · rw [announce_switch cfg c v s h3 h4 (Or.inl hI)]; exact hswitch h3 h4 (Or.inl hI)
    · rw [announce_switch cfg c v s h3 h4 (Or.inr h5)]; exact hswitch h3 h4 (Or.inr h5)

theorem cniRx_cases (P : State × List Ev → Prop)
    (hchange : v ≠ cniOf c s.net → P (markChange cfg c v s, []))
    (hidle : v = cniOf c s.net → ¬ pending cfg c s → P (s, []))
    (hann : v = cniOf c s.net → pending cfg c s → P (announce cfg c v s)) :
    P (cniRx cfg c v s) := by
  by_cases h : v = cniOf c s.net
  · by_cases h2 : pending cfg c s
    · rw [cniRx_pending cfg c v s h h2]; exact hann h h2
    · rw [cniRx_idle cfg c v s h h2]; exact hidle h h2
  · rw [cniRx_change cfg c v s h]; exact hchange h

theorem announce_not_pending : ¬ pending cfg c (announce cfg c v s).1 := by
  simp only [announce]
  exact markDone_not_pending _ _ _ _

theorem announce_cniOf (c' : Carrier) :
    cniOf c' (announce cfg c v s).1.net = cniOf c' s.net ∨ cniOf c' (announce cfg c v s).1.net = 0 := by
  apply announce_cases cfg c v s (fun r => cniOf c' r.1.net = cniOf c' s.net ∨ cniOf c' r.1.net = 0)
  · intro _; left; simp only [markDone_cniOf, cniOf_adopt]
  · intro _ _ _; left; simp only [markDone_cniOf, cniOf_adopt]
  · intro _ _ _; right; simp only [markDone_cniOf, chswReset_fst, if_true, cniOf_empty]

theorem cniRx_cniOf (c' : Carrier) :
    cniOf c' (cniRx cfg c v s).1.net = cniOf c' (setCni c s.net v) ∨ cniOf c' (cniRx cfg c v s).1.net = 0 := by
  have same (h : v = cniOf c s.net) : cniOf c' (setCni c s.net v) = cniOf c' s.net := by
    by_cases hc : c' = c
    · rw [hc, cniOf_setCni_self]; exact h
    · exact cniOf_setCni_other c c' _ v hc
  apply cniRx_cases cfg c v s (fun r => cniOf c' r.1.net = cniOf c' (setCni c s.net v) ∨ cniOf c' r.1.net = 0)
  · intro _; left
    cases hp : cfg.perCarrier
    · rw [markChange_net_shared cfg c v s hp, cniOf_cycle]
    · rw [markChange_net_per cfg c v s hp]
  · intro h _; left; exact (same h).symm
  · intro h _; rw [same h]; exact announce_cniOf cfg c v s c'

end debounce

/-- the part of `parse_8_30` after `parse_bsd` -/
def tail830 (b : Buf) (designation : Nat) (s : State) (evs : List Ev) : State × List Ev :=
  if designation < 2 then
    if hasBit s.mask VBI_EVENT_LOCAL_TIME then
      match decode8301LocalTime b with
      | none => (s, evs)
      | some (t, east) => (s, evs ++ [Ev.localTime t east])
    else (s, evs)
  else
    if hasBit s.mask VBI_EVENT_PROG_ID then
      match decode8302Pdc b with
      | none => (s, evs)
      | some pid => (s, evs ++ [Ev.progId pid])
    else (s, evs)

/-- what a packet 8/30 adds to the events of the debounce: LOCAL_TIME (format 1) or PROG_ID (format 2), with the
    values decoded from this packet -/
def TtxExtra (b : Buf) (e : Ev) : Prop :=
  (∃ t east, e = Ev.localTime t east ∧ decode8301LocalTime b = some (t, east)) ∨
  (∃ p, e = Ev.progId p ∧ decode8302Pdc b = some p)

theorem TtxExtra.isExtra {b : Buf} {e : Ev} (h : TtxExtra b e) : Ev.isExtra e = true := by
  rcases h with ⟨_, _, rfl, _⟩ | ⟨_, rfl, _⟩ <;> rfl

theorem tail830_eq (b : Buf) (d : Nat) (s : State) (evs : List Ev) :
    ∃ extra, tail830 b d s evs = (s, evs ++ extra) ∧ ∀ e ∈ extra, TtxExtra b e := by
  have nil : ∃ extra, (s, evs) = (s, evs ++ extra) ∧ ∀ e ∈ extra, TtxExtra b e :=
    ⟨[], by rw [List.append_nil], by simp⟩
  unfold tail830
  split
  · split
    · split
      · exact nil
      · rename_i h; exact ⟨[_], rfl, fun e he => List.mem_singleton.mp he ▸ Or.inl ⟨_, _, rfl, h⟩⟩
    · exact nil
  · split
    · split
      · exact nil
      · rename_i h; exact ⟨[_], rfl, fun e he => List.mem_singleton.mp he ▸ Or.inr ⟨_, rfl, h⟩⟩
    · exact nil

/-- a Teletext line is the debounce step of the reception it constitutes, followed by the events of `tail830`: the
    conditions of `vbi_decode_teletext` / `parse_8_30` / `parse_bsd` are walked for the line and for `ttxCni` together -/
theorem rxTtx_eq (cfg : Cfg) (s : State) (b : Buf) :
    ∃ extra, rxTtx cfg s b = ((cniStep cfg s (ttxCni s.mask b)).1, (cniStep cfg s (ttxCni s.mask b)).2 ++ extra) ∧
      ∀ e ∈ extra, TtxExtra b e := by
  have nil : ∃ extra, (s, ([] : List Ev)) = ((cniStep cfg s none).1, (cniStep cfg s none).2 ++ extra) ∧
      ∀ e ∈ extra, TtxExtra b e := ⟨[], rfl, by simp⟩
  unfold rxTtx ttxCni
  cases h0 : unham16p (bt b 0) (bt b 1) with
  | none => exact nil
  | some pmag =>
    simp only []
    by_cases hp : pmag &&& 15 = 0
    · simp only [hp, if_true]
      unfold parse830
      cases hd : unham8 (bt b 2) with
      | none => exact nil
      | some d =>
        simp only []
        by_cases h4 : d > 4
        · simp only [h4, if_true]; exact nil
        · simp only [h4, if_false]
          by_cases hl : (hasBit s.mask VBI_EVENT_TTX_PAGE && !pageLinkOk b) = true
          · simp only [hl, if_true]; exact nil
          · simp only [hl]
            by_cases hb : hasBit s.mask (VBI_EVENT_NETWORK ||| VBI_EVENT_NETWORK_ID) = true
            · simp only [hb, if_true]
              unfold parseBsd
              by_cases g4 : d ≥ 4
              · simp only [g4, if_true]
                exact tail830_eq b d s []
              · simp only [g4, if_false]
                by_cases g1 : d ≤ 1
                · simp only [g1, if_true]
                  exact tail830_eq b d _ _
                · simp only [g1, if_false]
                  cases hc : bsdCni2 b with
                  | none => exact nil
                  | some cni => exact tail830_eq b d _ _
            · simp only [hb]
              exact tail830_eq b d s []
    · simp only [hp, if_false]; exact nil

/-- the reception a Teletext line constitutes: format 1 carries the CNI of bytes 9 / 10, format 2 the one `parse_bsd`
    assembles -/
theorem ttxCni_some (mask : Nat) (b : Buf) (c : Carrier) (v : Nat) (h : ttxCni mask b = some (c, v)) :
    (c = .p8301 ∧ v = decode8301Cni b) ∨ (c = .p8302 ∧ bsdCni2 b = some v) := by
  unfold ttxCni at h
  cases h0 : unham16p (bt b 0) (bt b 1) with
  | none => rw [h0] at h; cases h
  | some pmag =>
    rw [h0] at h
    simp only [] at h
    by_cases hp : pmag &&& 15 = 0
    · rw [if_pos hp] at h
      cases hd : unham8 (bt b 2) with
      | none => rw [hd] at h; cases h
      | some d =>
        rw [hd] at h
        simp only [] at h
        by_cases h4 : d > 4
        · rw [if_pos h4] at h; cases h
        · rw [if_neg h4] at h
          by_cases hl : (hasBit mask VBI_EVENT_TTX_PAGE && !pageLinkOk b) = true
          · rw [if_pos hl] at h; cases h
          · rw [if_neg hl] at h
            by_cases hb : hasBit mask (VBI_EVENT_NETWORK ||| VBI_EVENT_NETWORK_ID) = true
            · rw [if_pos hb] at h
              by_cases g4 : d ≥ 4
              · rw [if_pos g4] at h; cases h
              · rw [if_neg g4] at h
                by_cases g1 : d ≤ 1
                · rw [if_pos g1] at h; cases h; exact Or.inl ⟨rfl, rfl⟩
                · rw [if_neg g1] at h
                  cases hc : bsdCni2 b with
                  | none => rw [hc] at h; cases h
                  | some w => rw [hc] at h; cases h; exact Or.inr ⟨rfl, rfl⟩
            · rw [if_neg hb] at h; cases h
    · rw [if_neg hp] at h; cases h

theorem ttxCni_carrier (mask : Nat) (b : Buf) (c : Carrier) (v : Nat) (h : ttxCni mask b = some (c, v)) : c ≠ .vps := by
  rcases ttxCni_some mask b c v h with ⟨e, _⟩ | ⟨e, _⟩ <;> rw [e] <;> decide

theorem ttxCni_p8301 (mask : Nat) (b : Buf) (v : Nat) (h : ttxCni mask b = some (.p8301, v)) : v = decode8301Cni b := by
  rcases ttxCni_some mask b _ v h with ⟨_, e⟩ | ⟨e, _⟩
  · exact e
  · cases e

/-- Handler mask, clock and VPS label stay; the aspect record and the WSS registers stay, or are as `vbi_chsw_reset`
    leaves them.  Holds across every step that writes them through `vbi_chsw_reset` only. -/
structure ResetOrStay (s s' : State) : Prop where
  mask : s'.mask = s.mask
  time : s'.time = s.time
  vpsPid : s'.vpsPid = s.vpsPid
  regs : (s'.aspect = s.aspect ∧ s'.aspectSource = s.aspectSource ∧ s'.wssLast = s.wssLast ∧
            s'.wssRep = s.wssRep ∧ s'.wssTime = s.wssTime) ∨
         (s'.aspect = aspectReset ∧ s'.aspectSource = 0 ∧ s'.wssLast = (0, 0) ∧ s'.wssRep = 0 ∧ s'.wssTime = 0)

theorem ResetOrStay.refl (s : State) : ResetOrStay s s := ⟨rfl, rfl, rfl, Or.inl ⟨rfl, rfl, rfl, rfl, rfl⟩⟩

def WssStay (s s' : State) : Prop :=
  (s'.wssLast = s.wssLast ∧ s'.wssRep = s.wssRep ∧ s'.wssTime = s.wssTime) ∨
  (s'.wssLast = (0, 0) ∧ s'.wssRep = 0 ∧ s'.wssTime = 0)

theorem WssStay.refl (s : State) : WssStay s s := Or.inl ⟨rfl, rfl, rfl⟩

theorem WssStay.trans {a b c : State} (h1 : WssStay a b) (h2 : WssStay b c) : WssStay a c := by
  rcases h2 with ⟨x, y, z⟩ | h
  · rcases h1 with ⟨x', y', z'⟩ | ⟨x', y', z'⟩
    · exact Or.inl ⟨x.trans x', y.trans y', z.trans z'⟩
    · exact Or.inr ⟨x.trans x', y.trans y', z.trans z'⟩
  · exact Or.inr h

theorem ResetOrStay.wss {s s' : State} (h : ResetOrStay s s') : WssStay s s' :=
  h.regs.elim (fun r => Or.inl ⟨r.2.2.1, r.2.2.2.1, r.2.2.2.2⟩) (fun r => Or.inr ⟨r.2.2.1, r.2.2.2.1, r.2.2.2.2⟩)

def AspStay (s s' : State) : Prop :=
  (s'.aspect = s.aspect ∧ s'.aspectSource = s.aspectSource) ∨ s'.aspectSource = 0

theorem ResetOrStay.asp {s s' : State} (h : ResetOrStay s s') : AspStay s s' :=
  h.regs.elim (fun r => Or.inl ⟨r.1, r.2.1⟩) (fun r => Or.inr r.2.1)

/-- network record and per-carrier state are untouched, or both cleared (`vbi_chsw_reset (vbi, 0)`, a newly enabled
    NETWORK handler) -/
def NetStay (s s' : State) : Prop := (s'.net = s.net ∧ s'.deb = s.deb) ∨ (s'.net = {} ∧ s'.deb = {})

theorem NetStay.refl (s : State) : NetStay s s := Or.inl ⟨rfl, rfl⟩

theorem NetStay.trans {a b c : State} (h1 : NetStay a b) (h2 : NetStay b c) : NetStay a c := by
  rcases h2 with ⟨x, y⟩ | h
  · rcases h1 with ⟨x', y'⟩ | ⟨x', y'⟩
    · exact Or.inl ⟨x.trans x', y.trans y'⟩
    · exact Or.inr ⟨x.trans x', y.trans y'⟩
  · exact Or.inr h

theorem NetStay.not_pending {s s' : State} (h : NetStay s s') (cfg : Cfg) (c : Carrier) (np : ¬ pending cfg c s) :
    ¬ pending cfg c s' := by
  rcases h with e | e
  · exact fun hp => np ((pending_congr cfg c s s' e.1 e.2).mp hp)
  · unfold pending; rw [e.1, e.2]
    cases c <;> split <;> decide

theorem markDone_resetOrStay (cfg : Cfg) (c : Carrier) (v : Nat) {s0 s : State} (h : ResetOrStay s0 s) :
    ResetOrStay s0 (markDone cfg c v s) := by
  rw [markDone_eq]; exact ⟨h.mask, h.time, h.vpsPid, h.regs⟩

theorem announce_resetOrStay (cfg : Cfg) (c : Carrier) (v : Nat) (s : State) : ResetOrStay s (announce cfg c v s).1 := by
  apply announce_cases cfg c v s (fun r => ResetOrStay s r.1)
  · intro _; exact markDone_resetOrStay cfg c v ⟨rfl, rfl, rfl, Or.inl ⟨rfl, rfl, rfl, rfl, rfl⟩⟩
  · intro _ _ _; exact markDone_resetOrStay cfg c v ⟨rfl, rfl, rfl, Or.inr ⟨rfl, rfl, rfl, rfl, rfl⟩⟩
  · intro _ _ _; exact markDone_resetOrStay cfg c v ⟨rfl, rfl, rfl, Or.inr ⟨rfl, rfl, rfl, rfl, rfl⟩⟩

theorem cniRx_resetOrStay (cfg : Cfg) (c : Carrier) (v : Nat) (s : State) : ResetOrStay s (cniRx cfg c v s).1 := by
  apply cniRx_cases cfg c v s (fun r => ResetOrStay s r.1)
  · intro _; rw [markChange_eq]; exact ⟨rfl, rfl, rfl, Or.inl ⟨rfl, rfl, rfl, rfl, rfl⟩⟩
  · intro _ _; exact ResetOrStay.refl s
  · intro _ _; exact announce_resetOrStay cfg c v s

theorem cniStep_resetOrStay (cfg : Cfg) (s : State) (o : Option (Carrier × Nat)) : ResetOrStay s (cniStep cfg s o).1 := by
  cases o with
  | none => exact ResetOrStay.refl s
  | some p => exact cniRx_resetOrStay cfg p.1 p.2 s

/-- the ways through `vbi_decode_vps`: a changed CNI is stored with the label of its line; an unchanged CNI with
    nothing pending is not looked at; in the announce branch, if a PROG_ID handler is registered, a label that differs
    from the stored one is stored and an equal one raises PROG_ID -/
theorem rxVps_cases (cfg : Cfg) (s : State) (b : Buf) (P : State × List Ev → Prop)
    (hchange : decodeVpsCni b ≠ s.net.cniVps →
      P ({ markChange cfg .vps (decodeVpsCni b) s with vpsPid := decodeVpsPdc b }, []))
    (hidle : decodeVpsCni b = s.net.cniVps → ¬ pending cfg .vps s → P (s, []))
    (hquiet : decodeVpsCni b = s.net.cniVps → pending cfg .vps s → hasBit s.mask VBI_EVENT_PROG_ID = false →
      P (announce cfg .vps (decodeVpsCni b) s))
    (hstore : decodeVpsCni b = s.net.cniVps → pending cfg .vps s → hasBit s.mask VBI_EVENT_PROG_ID = true →
      decodeVpsPdc b ≠ s.vpsPid →
      P ({ (announce cfg .vps (decodeVpsCni b) s).1 with vpsPid := decodeVpsPdc b }, (announce cfg .vps (decodeVpsCni b) s).2))
    (hpid : decodeVpsCni b = s.net.cniVps → pending cfg .vps s → hasBit s.mask VBI_EVENT_PROG_ID = true →
      decodeVpsPdc b = s.vpsPid →
      P ((announce cfg .vps (decodeVpsCni b) s).1, (announce cfg .vps (decodeVpsCni b) s).2 ++ [Ev.progId (decodeVpsPdc b)])) :
    P (rxVps cfg s b) := by
  by_cases h1 : decodeVpsCni b = s.net.cniVps
  · by_cases h2 : pending cfg .vps s
    · have r := announce_resetOrStay cfg .vps (decodeVpsCni b) s
      simp only [rxVps, h1, h2, ne_eq, not_true_eq_false, if_false, if_true]
      have hm : hasBit (announce cfg .vps (decodeVpsCni b) s).1.mask VBI_EVENT_PROG_ID = hasBit s.mask VBI_EVENT_PROG_ID := by
        rw [r.mask]
      rw [← h1, r.vpsPid, hm]
      cases hb : hasBit s.mask VBI_EVENT_PROG_ID
      · exact hquiet h1 h2 hb
      · by_cases hp : decodeVpsPdc b = s.vpsPid
        · simp only [hp, if_true, not_true_eq_false, if_false]; exact hp ▸ hpid h1 h2 hb hp
        · simp only [hp, if_true, not_false_eq_true]; exact hstore h1 h2 hb hp
    · simp only [rxVps, h1, h2, ne_eq, not_true_eq_false, if_false]; exact hidle h1 h2
  · simp only [rxVps, h1, ne_eq, not_false_eq_true, if_true]; exact hchange h1

/-- what a VPS or Teletext line makes of the debounce result `d`: a VPS label may be stored, PROG_ID / LOCAL_TIME follow -/
def RxOf (d r : State × List Ev) : Prop :=
  ∃ p extra, r = ({ d.1 with vpsPid := p }, d.2 ++ extra) ∧ ∀ e ∈ extra, Ev.isExtra e = true

theorem rxVps_eq (cfg : Cfg) (s : State) (b : Buf) : RxOf (cniRx cfg .vps (decodeVpsCni b) s) (rxVps cfg s b) := by
  unfold RxOf
  have none : ∀ e ∈ ([] : List Ev), Ev.isExtra e = true := by simp
  apply rxVps_cases cfg s b (fun r => ∃ p extra, r = ({ (cniRx cfg .vps (decodeVpsCni b) s).1 with vpsPid := p },
    (cniRx cfg .vps (decodeVpsCni b) s).2 ++ extra) ∧ ∀ e ∈ extra, Ev.isExtra e = true)
  · intro h; rw [cniRx_change cfg .vps _ s h]; exact ⟨_, [], rfl, none⟩
  · intro h h2; rw [cniRx_idle cfg .vps _ s h h2]; exact ⟨s.vpsPid, [], rfl, none⟩
  · intro h h2 _; rw [cniRx_pending cfg .vps _ s h h2]; exact ⟨_, [], by rw [List.append_nil], none⟩
  · intro h h2 _ _; rw [cniRx_pending cfg .vps _ s h h2]; exact ⟨_, [], by rw [List.append_nil], none⟩
  · intro h h2 _ _; rw [cniRx_pending cfg .vps _ s h h2]
    exact ⟨_, [_], rfl, fun e he => List.mem_singleton.mp he ▸ rfl⟩

/-- VPS and Teletext lines: the lines that can be a reception for the CNI debounce -/
def Line.isRx : Line → Bool
  | .vps _ => true
  | .ttx _ => true
  | _ => false

theorem rxLine_cniStep (cfg : Cfg) (t : Nat) (s : State) (l : Line) (h : l.isRx = true) :
    RxOf (cniStep cfg s (lineCni s.mask l)) (rxLine cfg t s l) := by
  unfold RxOf
  cases l with
  | vps b => exact rxVps_eq cfg s b
  | ttx b =>
    obtain ⟨x, e, hx⟩ := rxTtx_eq cfg s b
    exact ⟨(cniStep cfg s (ttxCni s.mask b)).1.vpsPid, x, e, fun e he => (hx e he).isExtra⟩
  | _ => cases h

theorem lineCni_isRx (mask : Nat) (l : Line) (p : Carrier × Nat) (h : lineCni mask l = some p) : l.isRx = true := by
  cases l <;> first | rfl | cases h

theorem rxLine_cniRx (cfg : Cfg) (t : Nat) (s : State) (l : Line) (c : Carrier) (v : Nat) (h : lineCni s.mask l = some (c, v)) :
    RxOf (cniRx cfg c v s) (rxLine cfg t s l) := by
  have k := rxLine_cniStep cfg t s l (lineCni_isRx _ _ _ h)
  rw [h] at k
  exact k

theorem rxLine_page (cfg : Cfg) (t : Nat) (s : State) (pgno : Nat) :
    ∃ pages, s.cached ⊆ pages ∧ rxLine cfg t s (.page pgno) = ({ s with cached := pages }, []) := by
  simp only [rxLine]
  split
  · refine ⟨_, fun x hx => ?_, rfl⟩
    split
    · exact hx
    · exact List.mem_cons_of_mem _ hx
  · exact ⟨s.cached, List.Subset.refl _, rfl⟩

/-- the four ways through `vbi_decode_wss_625`: out of order; a new word; a repeat that announces nothing (too few
    repeats, bad parity, or the aspect already stored); a repeat that announces -/
theorem rxWss_cases (s : State) (b0 b1 t : Nat) (P : State × List Ev → Prop)
    (hold : t < s.wssTime → P (s, []))
    (hnew : s.wssTime ≤ t → (b0, b1) ≠ s.wssLast → P ({ s with wssTime := t, wssLast := (b0, b1), wssRep := 0 }, []))
    (hcount : s.wssTime ≤ t → (b0, b1) = s.wssLast →
      (s.wssRep + 1 < 3 ∨ wssParityOk b0 = false ∨ wssAspect b0 b1 = s.aspect) →
      P ({ s with wssTime := t, wssRep := s.wssRep + 1 }, []))
    (hann : s.wssTime ≤ t → (b0, b1) = s.wssLast → 3 ≤ s.wssRep + 1 → wssParityOk b0 = true → wssAspect b0 b1 ≠ s.aspect →
      P ({ s with wssTime := t, wssRep := s.wssRep + 1, aspect := wssAspect b0 b1, aspectSource := 1 },
         [Ev.aspect (wssAspect b0 b1), Ev.progInfo (wssAspect b0 b1)])) :
    P (rxWss s b0 b1 t) := by
  unfold rxWss
  by_cases h1 : t < s.wssTime
  · rw [if_pos h1]; exact hold h1
  · rw [if_neg h1]
    have h1' : s.wssTime ≤ t := Nat.le_of_not_lt h1
    by_cases h2 : (b0, b1) = s.wssLast
    · simp only [ne_eq, h2, not_true_eq_false, if_false]
      by_cases h3 : s.wssRep + 1 < 3
      · rw [if_pos h3]; exact hcount h1' h2 (Or.inl h3)
      · rw [if_neg h3]
        cases h4 : wssParityOk b0
        · exact hcount h1' h2 (Or.inr (Or.inl h4))
        · by_cases h5 : wssAspect b0 b1 = s.aspect
          · simp only [h5, Bool.not_true, Bool.false_eq_true, if_false, not_true_eq_false]
            exact hcount h1' h2 (Or.inr (Or.inr h5))
          · simp only [h5, Bool.not_true, Bool.false_eq_true, if_false, not_false_eq_true, if_true]
            exact hann h1' h2 (Nat.le_of_not_lt h3) h4 h5
    · simp only [ne_eq, h2, not_false_eq_true, if_true]
      exact hnew h1' h2

/-- `s'` is `s` outside the WSS registers and the aspect record: what a WSS-625 or CPR-1204 word leaves alone -/
structure AspectOnly (s s' : State) : Prop where
  net : s'.net = s.net
  deb : s'.deb = s.deb
  cached : s'.cached = s.cached
  chswcd : s'.chswcd = s.chswcd
  mask : s'.mask = s.mask
  time : s'.time = s.time
  vpsPid : s'.vpsPid = s.vpsPid

theorem rxWss_aspectOnly (s : State) (b0 b1 t : Nat) : AspectOnly s (rxWss s b0 b1 t).1 := by
  apply rxWss_cases s b0 b1 t (fun r => AspectOnly s r.1) <;> intros <;> exact ⟨rfl, rfl, rfl, rfl, rfl, rfl, rfl⟩

theorem rxWss_events (s : State) (b0 b1 t : Nat) :
    (rxWss s b0 b1 t).2 = [] ∨ (rxWss s b0 b1 t).2 = [Ev.aspect (wssAspect b0 b1), Ev.progInfo (wssAspect b0 b1)] := by
  apply rxWss_cases s b0 b1 t (fun r => r.2 = [] ∨ r.2 = [Ev.aspect (wssAspect b0 b1), Ev.progInfo (wssAspect b0 b1)])
  · intro _; exact Or.inl rfl
  · intro _ _; exact Or.inl rfl
  · intro _ _ _; exact Or.inl rfl
  · intro _ _ _ _ _; exact Or.inr rfl

theorem rxWss_same_aspect (s : State) (b0 b1 t : Nat) (h : wssAspect b0 b1 = s.aspect) : (rxWss s b0 b1 t).2 = [] := by
  apply rxWss_cases s b0 b1 t (fun r => r.2 = [])
  · intro _; rfl
  · intro _ _; rfl
  · intro _ _ _; rfl
  · intro _ _ _ _ hne; exact absurd h hne

theorem rxCpr_cases (s : State) (b0 : Nat) :
    ((rxCpr s b0).2 = [] ∧ cprAspect b0 = s.aspect ∧ (rxCpr s b0).1 = s) ∨
    ((rxCpr s b0).2 = [Ev.aspect (cprAspect b0), Ev.progInfo (cprAspect b0)] ∧ cprAspect b0 ≠ s.aspect ∧
     (rxCpr s b0).1 = { s with aspect := cprAspect b0, aspectSource := 2 }) := by
  unfold rxCpr
  by_cases hne : cprAspect b0 = s.aspect
  · left; simp [hne]
  · right; simp [hne]

theorem rxCpr_aspectOnly (s : State) (b0 : Nat) : AspectOnly s (rxCpr s b0).1 := by
  rcases rxCpr_cases s b0 with ⟨_, _, e⟩ | ⟨_, _, e⟩ <;> rw [e] <;> exact ⟨rfl, rfl, rfl, rfl, rfl, rfl, rfl⟩

theorem rxWss_silent (s : State) (b0 b1 t : Nat) : Silent (rxWss s b0 b1 t).2 := by
  rcases rxWss_events s b0 b1 t with e | e <;> rw [e]
  · exact Silent_nil
  · exact Silent_aspect _

theorem rxCpr_silent (s : State) (b0 : Nat) : Silent (rxCpr s b0).2 := by
  rcases rxCpr_cases s b0 with ⟨e, _⟩ | ⟨e, _⟩ <;> rw [e]
  · exact Silent_nil
  · exact Silent_aspect _

def timeAfter (time : Nat) : Atom → Nat
  | .tick t => if t > time then t else time
  | _ => time

/-- the three ways through the head of `vbi_decode`: a time-stamp gap arms the countdown; the countdown runs out and
    `vbi_chsw_reset (vbi, 0)` is called; a regular tick counts down (if there is something to count) -/
theorem prologue_cases (s : State) (t : Nat) (P : State × List Ev → Prop)
    (hgap : ¬ (s.time = 0 ∨ (s.time + 25000 ≤ t ∧ t ≤ s.time + 50000)) →
      P ({ s with chswcd := if s.chswcd = 0 then 40 else s.chswcd, time := timeAfter s.time (.tick t) }, []))
    (hfire : s.chswcd = 1 →
      P ({ (chswReset s 0).1 with time := timeAfter s.time (.tick t) }, (chswReset s 0).2))
    (hcount : (s.time = 0 ∨ (s.time + 25000 ≤ t ∧ t ≤ s.time + 50000)) → s.chswcd ≠ 1 →
      P ({ s with chswcd := s.chswcd - 1, time := timeAfter s.time (.tick t) }, [])) :
    P (prologue s t) := by
  unfold prologue
  by_cases hbad : (decide (s.time > 0) && (decide (t < s.time + 25000) || decide (t > s.time + 50000))) = true
  · simp only [hbad, if_true]; exact hgap (by simp at hbad; omega)
  · have hreg : s.time = 0 ∨ (s.time + 25000 ≤ t ∧ t ≤ s.time + 50000) := by
      simp at hbad; omega
    simp only [hbad]
    by_cases h0 : s.chswcd > 0
    · by_cases h1 : s.chswcd - 1 = 0
      · have h1' : s.chswcd = 1 := by omega
        simpa [h0, h1, chswReset_fst, chswReset_snd, timeAfter] using hfire h1'
      · simp only [h0, h1, if_true, if_false]
        exact hcount hreg (by omega)
    · have hz : s.chswcd = 0 := by omega
      have := hcount hreg (by omega)
      simp only [h0]
      rw [hz] at this
      have e : s = { s with chswcd := 0 } := by rw [← hz]
      rw [e]; exact this

theorem prologue_regular (s : State) (t : Nat) (hcd : s.chswcd = 0)
    (hreg : s.time = 0 ∨ (s.time + 25000 ≤ t ∧ t ≤ s.time + 50000)) :
    prologue s t = ({ s with time := if t > s.time then t else s.time }, []) := by
  apply prologue_cases s t (fun r => r = ({ s with time := if t > s.time then t else s.time }, []))
  · intro h; exact absurd hreg h
  · intro h; rw [hcd] at h; cases h
  · intro _ _
    show ({ s with chswcd := s.chswcd - 1, time := if t > s.time then t else s.time }, []) = _
    rw [hcd]

theorem prologue_resetOrStay (s : State) (t : Nat) :
    ResetOrStay { s with time := timeAfter s.time (.tick t) } (prologue s t).1 := by
  apply prologue_cases s t (fun r => ResetOrStay { s with time := timeAfter s.time (.tick t) } r.1)
  · intro _; exact ⟨rfl, rfl, rfl, Or.inl ⟨rfl, rfl, rfl, rfl, rfl⟩⟩
  · intro _; exact ⟨rfl, rfl, rfl, Or.inr ⟨rfl, rfl, rfl, rfl, rfl⟩⟩
  · intro _ _; exact ⟨rfl, rfl, rfl, Or.inl ⟨rfl, rfl, rfl, rfl, rfl⟩⟩

theorem prologue_net_deb (s : State) (t : Nat) : NetStay s (prologue s t).1 := by
  apply prologue_cases s t (fun r => NetStay s r.1)
  · intro _; exact Or.inl ⟨rfl, rfl⟩
  · intro _; exact Or.inr ⟨rfl, rfl⟩
  · intro _ _; exact Or.inl ⟨rfl, rfl⟩

theorem xdsStrfu_same (old buf : List Nat) (h : (xdsStrfu old buf).2 = false) : (xdsStrfu old buf).1 = old := by
  simp only [xdsStrfu] at h ⊢
  simpa using h

theorem xdsNuid_ne_zero (str : List Nat) : xdsNuid str ≠ 0 := by
  unfold xdsNuid
  intro h
  simp only [] at h
  have := @Nat.right_le_or ((List.foldl (fun sum c => sum >>> 7 ^^^ hcrc ((sum ^^^ c) &&& 0x7F)) 0 str) &&& (2 ^ 31 - 1)) (2 ^ 30)
  rw [h] at this
  omega

/-- the id an XDS name packet yields: check sum of the call letters if there are any, else of the name -/
def xdsId (n : Network) : Nat := xdsNuid (if n.call ≠ [] then n.call else n.name)

/-- the six ways through the XDS channel-class branch of `xds_decoder`: a changed name; nothing to do; the repeat of
    a name that yields the identified station's id (with the comparison in place); the repeat that identifies a first
    station; the repeat that replaces an identified one; changed call letters -/
theorem rxXds_cases (g : Bool) (s : State) (ty : Nat) (buf : List Nat) (P : State × List Ev → Prop)
    (hname : ty = 1 → (xdsStrfu s.net.name buf).2 = true →
      P ({ s with net := { s.net with name := (xdsStrfu s.net.name buf).1, cycle := 1 } }, []))
    (hidle : (ty = 1 → (xdsStrfu s.net.name buf).2 = false ∧ s.net.cycle ≠ 1) → 
      (ty = 2 → (xdsStrfu s.net.call buf).2 = false) → P (s, []))
    (hsame : ty = 1 → (xdsStrfu s.net.name buf).2 = false → s.net.cycle = 1 → g = true → xdsId s.net = s.net.nuid →
      P ({ s with net := { s.net with cycle := 3 } }, [Ev.networkId s.net]))
    (hfirst : ty = 1 → (xdsStrfu s.net.name buf).2 = false → s.net.cycle = 1 → (g = true → xdsId s.net ≠ s.net.nuid) →
      s.net.nuid = 0 →
      P ({ s with net := { s.net with nuid := xdsId s.net, cycle := 3 } },
         [Ev.network { s.net with nuid := xdsId s.net }, Ev.networkId { s.net with nuid := xdsId s.net }]))
    (hswitch : ty = 1 → (xdsStrfu s.net.name buf).2 = false → s.net.cycle = 1 → (g = true → xdsId s.net ≠ s.net.nuid) →
      s.net.nuid ≠ 0 →
      P ({ (chswReset s 1).1 with net := { s.net with nuid := xdsId s.net, cycle := 3 } },
         (chswReset s 1).2 ++ [Ev.network { s.net with nuid := xdsId s.net }, Ev.networkId { s.net with nuid := xdsId s.net }]))
    (hcall : ty = 2 → (xdsStrfu s.net.call buf).2 = true →
      P ({ s with net := if s.net.cycle = 1 then { s.net with call := (xdsStrfu s.net.call buf).1 }
                         else { s.net with call := (xdsStrfu s.net.call buf).1, name := [], cycle := 0 } }, [])) :
    P (rxXds g s ty buf) := by
  unfold rxXds
  by_cases t1 : ty = 1
  · rw [if_pos t1]
    -- `neq = xds_strfu (n->name, ..)`; with `neq == 0` the stored name is the received one
    have same := xdsStrfu_same s.net.name buf
    generalize xdsStrfu s.net.name buf = x at hname hidle hsame hfirst hswitch same ⊢
    obtain ⟨name, neq⟩ := x
    cases neq
    · have hn : name = s.net.name := same rfl
      subst hn
      simp only [Bool.false_eq_true, if_false]
      by_cases hc : s.net.cycle = 1
      · rw [if_pos hc]
        -- `n->cycle == 1`: the repeat; `sum` is `xdsId s.net`
        by_cases hg : g = true ∧ xdsId s.net = s.net.nuid
        · rw [if_pos (by simpa [xdsId] using hg)]; exact hsame t1 rfl hc hg.1 hg.2
        · rw [if_neg (by simpa [xdsId] using hg)]
          have hg' : g = true → xdsId s.net ≠ s.net.nuid := fun h1 h2 => hg ⟨h1, h2⟩
          by_cases hn : s.net.nuid = 0
          · rw [if_neg (by simp [hn])]
            exact hfirst t1 rfl hc hg' hn
          · rw [if_pos hn, chswReset_nonzero _ _ (xdsNuid_ne_zero _)]
            exact hswitch t1 rfl hc hg' hn
      · rw [if_neg hc]; exact hidle (fun _ => ⟨rfl, hc⟩) (fun t2 => by omega)
    · exact hname t1 rfl
  · rw [if_neg t1]
    by_cases t2 : ty = 2
    · rw [if_pos t2]
      have same := xdsStrfu_same s.net.call buf
      generalize xdsStrfu s.net.call buf = x at hidle hcall same ⊢
      obtain ⟨call, neq⟩ := x
      cases neq
      · have hn : call = s.net.call := same rfl
        subst hn
        simp only [Bool.false_and, Bool.false_eq_true, if_false]
        exact hidle (fun h => absurd h t1) (fun _ => rfl)
      · have := hcall t2 rfl
        by_cases hc : s.net.cycle = 1 <;> simpa [hc] using this
    · rw [if_neg t2]; exact hidle (fun h => absurd h t1) (fun h => absurd h t2)

theorem rxXds_resetOrStay (g : Bool) (s : State) (ty : Nat) (buf : List Nat) : ResetOrStay s (rxXds g s ty buf).1 := by
  apply rxXds_cases g s ty buf (fun r => ResetOrStay s r.1)
  case hswitch => intros; exact ⟨rfl, rfl, rfl, Or.inr ⟨rfl, rfl, rfl, rfl, rfl⟩⟩
  all_goals intros; exact ⟨rfl, rfl, rfl, Or.inl ⟨rfl, rfl, rfl, rfl, rfl⟩⟩

theorem rxXds_same (g : Bool) (s : State) (ty : Nat) (bytes : List Nat) (hc : s.net.cycle ≠ 1)
    (h1 : ty = 1 → (xdsStrfu s.net.name bytes).2 = false) (h2 : ty = 2 → (xdsStrfu s.net.call bytes).2 = false) :
    rxXds g s ty bytes = (s, []) := by
  apply rxXds_cases g s ty bytes (fun r => r = (s, []))
  case hidle => intros; rfl
  case hname => intro t1 hq; rw [h1 t1] at hq; cases hq
  case hcall => intro t2 hq; rw [h2 t2] at hq; cases hq
  all_goals intro _ _ hc'; exact absurd hc' hc

theorem eventEnable_eq (k : Bool) (s : State) (m : Nat) :
    let act := m &&& (0xFFFF ^^^ (s.mask &&& 0xFFFF))
    let n := hasBit act (VBI_EVENT_NETWORK ||| VBI_EVENT_NETWORK_ID)
    let a := hasBit act (VBI_EVENT_ASPECT ||| VBI_EVENT_PROG_INFO) &&
              (!k || !hasBit s.mask (VBI_EVENT_ASPECT ||| VBI_EVENT_PROG_INFO))
    let p := hasBit act VBI_EVENT_PROG_ID
    eventEnable k s m =
      { s with mask := m, net := if n then {} else s.net, deb := if n then {} else s.deb,
               aspect := if a then aspectReset else s.aspect, aspectSource := if a then 0 else s.aspectSource,
               vpsPid := if p then {} else s.vpsPid } := by
  intro act n a p
  unfold eventEnable
  -- the three `if`s of `vbi_event_enable` are independent of each other: eight cases
  cases hn : n <;> cases ha : a <;> cases hp : p <;> simp only [act, n, a, p] at hn ha hp <;> simp [hn, ha, hp]


end Zvbi.Net
