import ZvbiModel.Net.LemmasStep
/-!
# Calm histories: regular timing, no handler change, no channel switch

Two inductions, both instances of `runAtoms_ind`: isolated corrupted words are harmless when all carriers of the
station resolve to one id (`glitch_run_gen`, over an abstract invariant: `GInv` for either shape, `PInv` for the
per-carrier one), and while every reception equals what is stored nothing is announced (`stable_run`).
-/
namespace Zvbi.Net
open Zvbi.Hamm Zvbi.Codec Zvbi.Gen

/-- the invariant carried through a history of station values and isolated glitches -/
structure GInv (st : Carrier → Nat) (id mask : Nat) (lg : Carrier → Option Nat) (s : State) : Prop where
  nuid : s.net.nuid = id
  cd : s.chswcd = 0
  mask : s.mask = mask
  stored : ∀ c, cniOf c s.net = st c ∨ lg c = some (cniOf c s.net)

/-- invariant of the per-carrier shape: every carrier has announced (or never needed to announce) the station's
    value, and a repeat is awaited only while a deviating word is the stored one -/
structure PInv (cfg : Cfg) (st : Carrier → Nat) (id mask : Nat) (lg : Carrier → Option Nat) (s : State) : Prop where
  nuid : s.net.nuid = id
  cd : s.chswcd = 0
  mask : s.mask = mask
  stored : ∀ c, cniOf c s.net = st c ∨ lg c = some (cniOf c s.net)
  ann : ∀ c, annOf c s.deb = st c
  pend : ∀ c, pending cfg c s → cniOf c s.net ≠ st c

theorem PInv.toGInv {cfg : Cfg} {st : Carrier → Nat} {id mask : Nat} {lg : Carrier → Option Nat} {s : State}
    (h : PInv cfg st id mask lg s) : GInv st id mask lg s := ⟨h.nuid, h.cd, h.mask, h.stored⟩

section steps
variable (cfg : Cfg) {st : Carrier → Nat} {id mask : Nat} {lg : Carrier → Option Nat} {s : State} (c : Carrier) {v : Nat}

theorem glitch_differs (hst : cniOf c s.net = st c ∨ lg c = some (cniOf c s.net)) (hv : v ≠ st c) (hlg : lg c ≠ some v) :
    v ≠ cniOf c s.net := by
  intro e
  rcases hst with h1 | h1
  · exact hv (e.trans h1)
  · exact hlg (by rw [h1, e])

theorem stored_good {n : Network} (h : cniOf c n = st c) (hst : ∀ c', cniOf c' n = st c' ∨ lg c' = some (cniOf c' n))
    (c' : Carrier) : cniOf c' n = st c' ∨ (if c' = c then none else lg c') = some (cniOf c' n) := by
  by_cases hc : c' = c
  · left; rw [hc]; exact h
  · simp only [hc, if_false]; exact hst c'

/-- a value that differs from the stored one becomes the stored one (`o` = what `lg` records for it: nothing for the
    station's value, the value itself for a deviating one); nothing else `GInv` speaks of changes -/
theorem ginv_change (o : Option Nat) (ho : v = st c ∨ o = some v) (inv : GInv st id mask lg s) :
    GInv st id mask (fun c' => if c' = c then o else lg c') (markChange cfg c v s) := by
  refine ⟨by rw [markChange_nuid]; exact inv.nuid, by rw [markChange_chswcd]; exact inv.cd,
          by rw [markChange_mask]; exact inv.mask, ?_⟩
  intro c'
  by_cases hc : c' = c
  · rw [hc, markChange_cniOf_self]; simpa using ho
  · simp only [hc, if_false]; rw [markChange_cniOf_other cfg c v s c' hc]; exact inv.stored c'

/-- the station's value on a carrier that stores it already: nothing changes, or the pending repeat is announced
    for the id the station has -/
theorem ginv_same (hagree : (cfg.lk c (st c)).1 = id) (h : st c = cniOf c s.net) (inv : GInv st id mask lg s) :
    GInv st id mask (fun c' => if c' = c then none else lg c') (cniRx cfg c (st c) s).1 ∧
    NoNetwork (cniRx cfg c (st c) s).2 ∧ (cniRx cfg c (st c) s).1.cached = s.cached := by
  by_cases h2 : pending cfg c s
  · have h3 : (cfg.lk c (st c)).1 = s.net.nuid := by rw [hagree, inv.nuid]
    rw [cniRx_pending cfg c (st c) s h h2, announce_keep cfg c (st c) s (Or.inl h3), if_pos h3]
    refine ⟨⟨by rw [markDone_nuid]; exact hagree, by rw [markDone_chswcd]; exact inv.cd,
             by rw [markDone_mask]; exact inv.mask, ?_⟩, ?_, by rw [markDone_cached]⟩
    · simp only [markDone_cniOf, cniOf_adopt]; exact stored_good c h.symm inv.stored
    · intro e he; simp at he; rw [he]; rfl
  · rw [cniRx_idle cfg c (st c) s h h2]
    exact ⟨⟨inv.nuid, inv.cd, inv.mask, stored_good c h.symm inv.stored⟩, NoNetwork_nil, rfl⟩

theorem ginv_transport {s' : State} (inv : GInv st id mask lg s) (hn : s'.net = s.net) (hc : s'.chswcd = s.chswcd)
    (hm : s'.mask = s.mask) : GInv st id mask lg s' :=
  ⟨by rw [hn]; exact inv.nuid, by rw [hc]; exact inv.cd, by rw [hm]; exact inv.mask, by rw [hn]; exact inv.stored⟩

/-- as `ginv_change`; a repeat is awaited afterwards only if the new value is not the one announced last, which is
    the station's -/
theorem pinv_change (hp : cfg.perCarrier = true) (o : Option Nat) (ho : v = st c ∨ o = some v)
    (inv : PInv cfg st id mask lg s) :
    PInv cfg st id mask (fun c' => if c' = c then o else lg c') (markChange cfg c v s) := by
  have g := ginv_change cfg c o ho inv.toGInv
  refine ⟨g.nuid, g.cd, g.mask, g.stored, fun c' => by rw [markChange_annOf]; exact inv.ann c', ?_⟩
  intro c' hpnd
  by_cases hc : c' = c
  · subst hc
    rw [markChange_cniOf_self]
    rcases (markChange_pending_self cfg c' v s).mp hpnd with e | e
    · rw [hp] at e; cases e
    · rw [inv.ann c'] at e; exact e
  · rw [markChange_pending_other cfg c v s c' hc hp] at hpnd
    rw [markChange_cniOf_other cfg c v s c' hc]; exact inv.pend c' hpnd

theorem pinv_same (h : st c = cniOf c s.net) (inv : PInv cfg st id mask lg s) :
    PInv cfg st id mask (fun c' => if c' = c then none else lg c') (cniRx cfg c (st c) s).1 ∧
    Silent (cniRx cfg c (st c) s).2 ∧ (cniRx cfg c (st c) s).1.cached = s.cached := by
  rw [cniRx_idle cfg c (st c) s h (fun hpnd => inv.pend c hpnd h.symm)]
  exact ⟨⟨inv.nuid, inv.cd, inv.mask, stored_good c h.symm inv.stored, inv.ann, inv.pend⟩, Silent_nil, rfl⟩

theorem pinv_transport {s' : State} (inv : PInv cfg st id mask lg s) (hn : s'.net = s.net) (hc : s'.chswcd = s.chswcd)
    (hm : s'.mask = s.mask) (hd : s'.deb = s.deb) : PInv cfg st id mask lg s' :=
  have g := ginv_transport inv.toGInv hn hc hm
  ⟨g.nuid, g.cd, g.mask, g.stored, by rw [hd]; exact inv.ann,
   fun c hpnd => by rw [hn]; exact inv.pend c ((pending_congr cfg c s s' hn hd).mp hpnd)⟩

end steps

theorem NoRepeatedGlitch_calm {st : Carrier → Nat} {ok : Carrier → Bool} {mask : Nat} {lg : Carrier → Option Nat}
    {a : Atom} {as : List Atom} (hq : a.calm = true) (h : NoRepeatedGlitch st ok mask lg (a :: as)) :
    NoRepeatedGlitch st ok mask lg as := by
  cases a with
  | tick t => exact h
  | line t l => cases l <;> first | exact h.2 | cases hq
  | _ => cases hq

/-- The induction over calm histories of station values and isolated deviating words, for any invariant `I` that
    lives on (network record, countdown, mask, per-carrier state) and says what each carrier stores, and any
    predicate `q` that holds of every event other than NETWORK / NETWORK_ID.  A value that differs from the stored
    one is stored (`Ichange`: the station's value after a deviating word, or a deviating word); the station's value
    on a carrier that stores it is `Isame`. -/
theorem glitch_run_gen (cfg : Cfg) (st : Carrier → Nat) (ok : Carrier → Bool) (id mask : Nat)
    (I : (Carrier → Option Nat) → State → Prop) (q : Ev → Prop)
    (qfree : ∀ e : Ev, e.isNetwork = false ∧ e.isNetworkId = false → q e)
    (Ifacts : ∀ lg s, I lg s → GInv st id mask lg s)
    (Itrans : ∀ lg s s', I lg s → s'.net = s.net → s'.chswcd = s.chswcd → s'.mask = s.mask → s'.deb = s.deb → I lg s')
    (Ichange : ∀ lg s c v o, (v = st c ∨ o = some v) → I lg s →
      I (fun c' => if c' = c then o else lg c') (markChange cfg c v s))
    (Isame : ∀ lg s c, ok c = true → st c = cniOf c s.net → I lg s →
      I (fun c' => if c' = c then none else lg c') (cniRx cfg c (st c) s).1 ∧
      (∀ e ∈ (cniRx cfg c (st c) s).2, q e) ∧ (cniRx cfg c (st c) s).1.cached = s.cached)
    (atoms : List Atom) (s : State) (lg : Carrier → Option Nat) (inv : I lg s)
    (hreg : RegularFrom s.time atoms) (hg : NoRepeatedGlitch st ok mask lg atoms) :
    (∀ e ∈ (runAtoms cfg s atoms).2, q e) ∧ s.cached ⊆ (runAtoms cfg s atoms).1.cached ∧
      (runAtoms cfg s atoms).1.net.nuid = id := by
  have r := runAtoms_ind cfg (fun as s => ∃ lg, I lg s ∧ RegularFrom s.time as ∧ NoRepeatedGlitch st ok mask lg as) q
    (fun s s' => s.cached ⊆ s'.cached) (fun _ => List.Subset.refl _) List.Subset.trans ?_ atoms s ⟨lg, inv, hreg, hg⟩
  · obtain ⟨⟨lg', i, _⟩, r2, r3⟩ := r
    exact ⟨r2, r3, (Ifacts lg' _ i).nuid⟩
  intro a as s ⟨lg, inv, hreg, hg⟩
  have gi := Ifacts lg s inv
  -- a step that keeps what `I` lives on and advances the clock as `RegularFrom` does
  have quiet : ∀ {s' : State} {evs : List Ev} (lg' : Carrier → Option Nat), I lg' s' → s'.time = timeAfter s.time a →
      s.cached ⊆ s'.cached → (∀ e ∈ evs, q e) → NoRepeatedGlitch st ok mask lg' as →
      (∃ lg, I lg s' ∧ RegularFrom s'.time as ∧ NoRepeatedGlitch st ok mask lg as) ∧ (∀ e ∈ evs, q e) ∧ s.cached ⊆ s'.cached :=
    fun lg' i ht hc hq hg' => ⟨⟨lg', i, by rw [ht]; exact RegularFrom_tail s.time a as hreg, hg'⟩, hq, hc⟩
  cases hq : a.calm with
  | true =>
    have k := calm_step cfg s a as hq gi.cd hreg
    exact quiet lg (Itrans lg s _ inv k.net k.cd k.mask k.deb) k.time k.cached (fun e he => qfree e (k.silent e he))
      (NoRepeatedGlitch_calm hq hg)
  | false =>
    cases a with
    | mask m => simp [NoRepeatedGlitch] at hg
    | chsw => simp [NoRepeatedGlitch] at hg
    | tick t => cases hq
    | line t l =>
      simp only [NoRepeatedGlitch] at hg
      simp only [stepAtom]
      cases hk : l.isRx with
      | false =>
        cases l with
        | xds ty bytes => exact absurd hg.1 (by simp)
        | vps b => cases hk
        | ttx b => cases hk
        | _ => cases hq
      | true =>
        obtain ⟨p, extra, e, hex⟩ := rxLine_cniStep cfg t s l hk
        have hx : ∀ e ∈ extra, q e := fun e he => qfree e (extra_not_network e (hex e he))
        rw [e]
        have hg2 := hg.2
        rw [gi.mask]
        generalize lineCni mask l = o at hg2 ⊢
        match o with
        | none => exact quiet lg (Itrans _ _ _ inv rfl rfl rfl rfl) rfl (List.Subset.refl _) hx hg2
        | some (c, v) =>
          simp only [] at hg2
          obtain ⟨lg', g, hg'⟩ : ∃ lg', (I lg' (cniRx cfg c v s).1 ∧ (∀ e ∈ (cniRx cfg c v s).2, q e) ∧
              (cniRx cfg c v s).1.cached = s.cached) ∧ NoRepeatedGlitch st ok mask lg' as := by
            have change : ∀ o, (v = st c ∨ o = some v) → v ≠ cniOf c s.net →
                I (fun c' => if c' = c then o else lg c') (cniRx cfg c v s).1 ∧ (∀ e ∈ (cniRx cfg c v s).2, q e) ∧
                (cniRx cfg c v s).1.cached = s.cached := by
              intro o ho hd
              rw [cniRx_change cfg c v s hd]
              exact ⟨Ichange lg s c v o ho inv, fun _ h => (by cases h), markChange_cached ..⟩
            by_cases hv : v = st c
            · simp only [hv, if_true] at hg2
              subst hv
              by_cases hd : st c = cniOf c s.net
              · exact ⟨_, Isame lg s c hg2.1 hd inv, hg2.2⟩
              · exact ⟨_, change none (Or.inl rfl) hd, hg2.2⟩
            · simp only [hv, if_false] at hg2
              exact ⟨_, change _ (Or.inr rfl) (glitch_differs c (gi.stored c) hv hg2.1), hg2.2⟩
          exact quiet _ (Itrans _ _ _ g.1 rfl rfl rfl rfl) (cniRx_resetOrStay cfg c v s).time (fun x hx => g.2.2.symm ▸ hx)
            (fun e he => (List.mem_append.mp he).elim (g.2.1 e) (hx e)) hg'

/-- a state in which nothing is pending, before a regular history in which every reception equals what is stored -/
structure Stable (n : Network) (d : Deb) (mask : Nat) (as : List Atom) (s : State) : Prop where
  net : s.net = n
  deb : s.deb = d
  cd : s.chswcd = 0
  reg : RegularFrom s.time as
  same : ∀ a ∈ as, SameAsStored n mask a
  mask : s.mask = mask

section stable
variable (cfg : Cfg) {n : Network} {d : Deb} {mask : Nat} (hn : n.cycle ≠ 1)
  (hnp : ∀ c, cfg.perCarrier = true → cycOf c d ≠ 1)
include hn hnp

theorem stable_step (a : Atom) (as : List Atom) (s : State) (h : Stable n d mask (a :: as) s) :
    Stable n d mask as (stepAtom cfg s a).1 ∧ Silent (stepAtom cfg s a).2 ∧ s.cached ⊆ (stepAtom cfg s a).1.cached := by
  have hqa := h.same a (List.mem_cons_self ..)
  -- a step that keeps what `Stable` lives on and advances the clock as `RegularFrom` does
  have keep : ∀ {s' : State}, s'.net = s.net → s'.deb = s.deb → s'.chswcd = s.chswcd → s'.mask = s.mask →
      s'.time = timeAfter s.time a → Stable n d mask as s' :=
    fun e1 e2 e3 e4 e5 => ⟨e1.trans h.net, e2.trans h.deb, e3.trans h.cd, by rw [e5]; exact RegularFrom_tail s.time a as h.reg,
      fun x hx => h.same x (List.mem_cons_of_mem _ hx), e4.trans h.mask⟩
  cases hc : a.calm with
  | true =>
    have k := calm_step cfg s a as hc h.cd h.reg
    exact ⟨keep k.net k.deb k.cd k.mask k.time, k.silent, k.cached⟩
  | false =>
    cases a with
    | mask m => exact absurd hqa (by simp [SameAsStored])
    | chsw => exact absurd hqa (by simp [SameAsStored])
    | tick t => cases hc
    | line t l =>
      simp only [stepAtom]
      cases hk : l.isRx with
      | true =>
        obtain ⟨p, extra, e, hex⟩ := rxLine_cniStep cfg t s l hk
        have hs : cniStep cfg s (lineCni s.mask l) = (s, []) := by
          cases hq' : lineCni s.mask l with
          | none => rfl
          | some p =>
            obtain ⟨c, v⟩ := p
            have hv : v = cniOf c s.net := by
              rw [h.net]
              cases l <;> first | exact hqa c v (by rw [← h.mask]; exact hq') | cases hk
            exact cniRx_idle cfg c v s hv
              (not_pending_of_idle cfg c s (by rw [h.net]; exact hn) (by rw [h.deb]; exact hnp c))
        rw [e, hs]
        exact ⟨keep rfl rfl rfl rfl rfl, Silent_append Silent_nil (Silent_extra hex), List.Subset.refl _⟩
      | false =>
        cases l with
        | xds ty bytes =>
          simp only [SameAsStored] at hqa
          have e : rxLine cfg t s (.xds ty bytes) = (s, []) := by
            simp only [rxLine]
            exact rxXds_same _ s ty bytes (by rw [h.net]; exact hn) (by rw [h.net]; exact hqa.1) (by rw [h.net]; exact hqa.2)
          rw [e]
          exact ⟨keep rfl rfl rfl rfl rfl, Silent_nil, List.Subset.refl _⟩
        | vps b => cases hk
        | ttx b => cases hk
        | _ => cases hc

theorem stable_run (atoms : List Atom) (s : State) (h : Stable n d mask atoms s) :
    Stable n d mask [] (runAtoms cfg s atoms).1 ∧ Silent (runAtoms cfg s atoms).2 ∧
    ∀ q1 q2, atoms = q1 ++ q2 → (runAtoms cfg s q1).1.cached ⊆ (runAtoms cfg s atoms).1.cached := by
  have r := runAtoms_ind cfg (Stable n d mask) _ (fun s s' => s.cached ⊆ s'.cached) (fun _ => List.Subset.refl _)
    List.Subset.trans (stable_step cfg hn hnp) atoms s h
  refine ⟨r.1, r.2.1, fun q1 q2 e => ?_⟩
  subst e
  exact runAtoms_ind_cut cfg (Stable n d mask) _ (fun s s' => s.cached ⊆ s'.cached) (fun _ => List.Subset.refl _)
    List.Subset.trans (stable_step cfg hn hnp) q1 q2 s h

end stable

end Zvbi.Net
