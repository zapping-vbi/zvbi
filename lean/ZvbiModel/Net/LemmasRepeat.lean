import ZvbiModel.Net.LemmasStep
import ZvbiModel.Net.XdsStrLemmas
/-!
# The repeat rules: a CNI is announced only on a reception equal to the previous one of its carrier, an aspect only
on the fourth identical WSS word, an XDS network name only on an equal complete name, a VPS label only on an equal
complete label

Each rule has the same build: the first reception stores a value, the atoms in between keep it or wipe it (a lemma
about one atom read off `stepAtom_untouched`, lifted by `runAtoms_rel`), the second reception announces only what
equals the stored value.
-/
namespace Zvbi.Net
open Zvbi.Hamm Zvbi.Codec Zvbi.Gen

theorem rxXds_cni (g : Bool) (s : State) (ty : Nat) (bytes : List Nat) (c : Carrier) :
    cniOf c (rxXds g s ty bytes).1.net = cniOf c s.net := by
  apply rxXds_cases g s ty bytes (fun r => cniOf c r.1.net = cniOf c s.net)
  case hcall => intros; simp only []; split <;> cases c <;> rfl
  all_goals intros; cases c <;> rfl

theorem Line.freeOf_lineCni {l : Line} {c c' : Carrier} {mask v : Nat} (h : l.freeOf c = true)
    (hq : lineCni mask l = some (c', v)) : c ≠ c' := by
  cases l with
  | vps b => cases hq; intro e; rw [e] at h; cases h
  | ttx b =>
    have hc : c = .vps := by simpa [Line.freeOf] using h
    rw [hc]; exact fun e => ttxCni_carrier mask b c' v hq e.symm
  | _ => cases hq

theorem stepAtom_cni_other (cfg : Cfg) (s : State) (a : Atom) (c : Carrier) (h : a.freeOf c = true) :
    cniOf c (stepAtom cfg s a).1.net = cniOf c s.net ∨ cniOf c (stepAtom cfg s a).1.net = 0 := by
  cases hs : a.station
  · rcases (stepAtom_untouched cfg s a).net hs with e | e <;> rw [e.1]
    · exact Or.inl rfl
    · exact Or.inr (cniOf_empty c)
  · cases a with
    | line t l =>
      simp only [stepAtom]
      cases hk : l.isRx with
      | true =>
        obtain ⟨p, x, e, _⟩ := rxLine_cniStep cfg t s l hk
        rw [e]
        cases hq : lineCni s.mask l with
        | none => exact Or.inl rfl
        | some q =>
          have k := cniRx_cniOf cfg q.1 q.2 s c
          rwa [cniOf_setCni_other _ _ _ _ (Line.freeOf_lineCni h hq)] at k
      | false =>
        cases l with
        | xds ty bytes => exact Or.inl (rxXds_cni _ s ty bytes c)
        | vps b => cases hk
        | ttx b => cases hk
        | _ => cases hs
    | _ => cases hs

theorem runAtoms_cni_other (cfg : Cfg) (c : Carrier) (u : Nat) :
    ∀ (mid : List Atom) (s : State), (∀ a ∈ mid, a.freeOf c = true) → (cniOf c s.net = u ∨ cniOf c s.net = 0) →
      (cniOf c (runAtoms cfg s mid).1.net = u ∨ cniOf c (runAtoms cfg s mid).1.net = 0) :=
  runAtoms_inv cfg (fun s => cniOf c s.net = u ∨ cniOf c s.net = 0) (Atom.freeOf c)
    (fun s a hf h => (stepAtom_cni_other cfg s a c hf).elim (fun e => e ▸ h) Or.inr)

theorem rxWss_accept (s : State) (b0 b1 t : Nat) (ht : s.wssTime ≤ t) :
    (rxWss s b0 b1 t).1.wssLast = (b0, b1) ∧ (rxWss s b0 b1 t).1.wssTime = t ∧
    ((rxWss s b0 b1 t).1.wssRep = 0 ∨ (s.wssLast = (b0, b1) ∧ (rxWss s b0 b1 t).1.wssRep = s.wssRep + 1)) := by
  apply rxWss_cases s b0 b1 t (fun r => r.1.wssLast = (b0, b1) ∧ r.1.wssTime = t ∧
    (r.1.wssRep = 0 ∨ (s.wssLast = (b0, b1) ∧ r.1.wssRep = s.wssRep + 1)))
  · intro h; omega
  · intro _ _; exact ⟨rfl, rfl, Or.inl rfl⟩
  · intro _ h _; exact ⟨h.symm, rfl, Or.inr ⟨h.symm, rfl⟩⟩
  · intro _ h _ _ _; exact ⟨h.symm, rfl, Or.inr ⟨h.symm, rfl⟩⟩

theorem rxWss_event (s : State) (b0 b1 t : Nat) (a : Aspect) (h : Ev.aspect a ∈ (rxWss s b0 b1 t).2) :
    s.wssTime ≤ t ∧ s.wssLast = (b0, b1) ∧ 2 ≤ s.wssRep ∧ wssParityOk b0 = true ∧ a = wssAspect b0 b1 ∧
    a ≠ s.aspect := by
  revert h
  apply rxWss_cases s b0 b1 t (fun r => Ev.aspect a ∈ r.2 → s.wssTime ≤ t ∧ s.wssLast = (b0, b1) ∧ 2 ≤ s.wssRep ∧
    wssParityOk b0 = true ∧ a = wssAspect b0 b1 ∧ a ≠ s.aspect)
  · intro _ h; cases h
  · intro _ _ h; cases h
  · intro _ _ _ h; cases h
  · intro h1 h2 h3 h4 h5 h
    have e : a = wssAspect b0 b1 := by simpa using h
    exact ⟨h1, h2.symm, by omega, h4, e, e ▸ h5⟩

/-- an accepted WSS word followed by atoms that are no WSS words: the clock of the WSS path does not pass `t`, and
    unless a reset cleared the registers the word is the stored one, counted as a repeat only of itself -/
theorem wss_word_then_free (cfg : Cfg) (s : State) (w : Nat × Nat) (t : Nat) (m : List Atom)
    (f : ∀ a ∈ m, a.wssFree = true) (ht : s.wssTime ≤ t) :
    (runAtoms cfg s (Atom.line t (.wss w.1 w.2) :: m)).1.wssTime ≤ t ∧
    ((runAtoms cfg s (Atom.line t (.wss w.1 w.2) :: m)).1.wssLast ≠ (0, 0) →
      (runAtoms cfg s (Atom.line t (.wss w.1 w.2) :: m)).1.wssLast = w ∧
      (1 ≤ (runAtoms cfg s (Atom.line t (.wss w.1 w.2) :: m)).1.wssRep →
        s.wssLast = w ∧ (runAtoms cfg s (Atom.line t (.wss w.1 w.2) :: m)).1.wssRep = s.wssRep + 1)) := by
  simp only [runAtoms, stepAtom, rxLine]
  have a := rxWss_accept s w.1 w.2 t ht
  rcases runAtoms_wss cfg m (rxWss s w.1 w.2 t).1 f with ⟨x, y, z⟩ | ⟨x, _, z⟩
  · rw [x, y, z, a.1, a.2.1]
    refine ⟨Nat.le_refl _, fun _ => ⟨rfl, fun hr => ?_⟩⟩
    rcases a.2.2 with r0 | r1
    · omega
    · exact r1
  · rw [x, z]
    exact ⟨Nat.zero_le _, fun h => absurd rfl h⟩

/-- atoms that cannot store a name someone transmitted: everything except VPS / Teletext lines (they
    write the table's name) and XDS network-name packets -/
def Atom.nameFree : Atom → Bool
  | .line _ (.vps _) => false
  | .line _ (.ttx _) => false
  | .line _ (.xds ty _) => ty != 1
  | _ => true

def NameInv (u : List Nat) (n : Network) : Prop := n.name = u ∨ (n.name = [] ∧ n.cycle ≠ 1)

theorem rxXds_name_stored (g : Bool) (s : State) (bytes : List Nat) :
    (rxXds g s 1 bytes).1.net.name = xdsFilter bytes := by
  apply rxXds_cases g s 1 bytes (fun r => r.1.net.name = xdsFilter bytes)
  case hname => intros; rfl
  case hidle => intro h _; exact (xdsStrfu_same _ _ (h rfl).1).symm
  case hcall => intro h; cases h
  all_goals intro _ hq _ _ _; exact (xdsStrfu_same _ _ hq).symm

theorem rxXds_other_nameInv (g : Bool) (s : State) (ty : Nat) (bytes : List Nat) (hty : ty ≠ 1) (u : List Nat)
    (hi : NameInv u s.net) : NameInv u (rxXds g s ty bytes).1.net := by
  apply rxXds_cases g s ty bytes (fun r => NameInv u r.1.net)
  case hidle => intros; exact hi
  case hcall =>
    intro _ _
    simp only []
    split
    · exact hi
    · exact Or.inr ⟨rfl, Nat.zero_ne_one⟩
  all_goals intro t1; exact absurd t1 hty

theorem stepAtom_nameInv (cfg : Cfg) (s : State) (a : Atom) (h : a.nameFree = true) (u : List Nat)
    (hi : NameInv u s.net) : NameInv u (stepAtom cfg s a).1.net := by
  cases hs : a.station
  · rcases (stepAtom_untouched cfg s a).net hs with e | e <;> rw [e.1]
    · exact hi
    · exact Or.inr ⟨rfl, by decide⟩
  · cases a with
    | line t l =>
      cases l with
      | xds ty bytes => exact rxXds_other_nameInv _ s ty bytes (by simpa [Atom.nameFree] using h) u hi
      | vps b => cases h
      | ttx b => cases h
      | _ => cases hs
    | _ => cases hs

theorem runAtoms_nameInv (cfg : Cfg) (u : List Nat) : ∀ (mid : List Atom) (s : State),
    (∀ a ∈ mid, a.nameFree = true) → NameInv u s.net → NameInv u (runAtoms cfg s mid).1.net :=
  runAtoms_inv cfg (fun s => NameInv u s.net) Atom.nameFree (fun s a hf => stepAtom_nameInv cfg s a hf u)

/-! ## the VPS label between two VPS lines

`vbi_decode_vps` compares the freshly decoded `vbi_program_id` with `vbi->vps_pid` by `memcmp` over the whole struct.
In the model that is equality of the record `Pid`; `pid_eq_iff_fields` spells it out as the nine fields the decoders
write, i.e. the model's record has no field the comparison leaves out, and the C struct has nothing else that could
differ (`tape_delayed` and the reserved members are zero in both operands after `CLEAR`; no padding: `layout` op of the
correspondence). -/

theorem pid_eq_iff_fields (p q : Pid) : p = q ↔ pidFields p = pidFields q := by
  constructor
  · intro h; rw [h]
  · intro h
    cases p; cases q
    simp only [pidFields, List.cons.injEq, and_true] at h
    obtain ⟨h1, h2, h3, h4, h5, h6, h7, h8, h9⟩ := h
    subst h1 h2 h3 h4 h5 h6 h7 h8 h9
    rfl

theorem rxVps_after (cfg : Cfg) (s : State) (b : Buf) :
    (rxVps cfg s b).1.vpsPid = decodeVpsPdc b ∨ ¬ pending cfg .vps (rxVps cfg s b).1 := by
  have c := announce_not_pending cfg .vps (decodeVpsCni b) s
  apply rxVps_cases cfg s b (fun r => r.1.vpsPid = decodeVpsPdc b ∨ ¬ pending cfg .vps r.1)
  · intro _; exact Or.inl rfl
  · intro _ h2; exact Or.inr h2
  · intro _ _ _; exact Or.inr c
  · intro _ _ _ _; exact Or.inl rfl
  · intro _ _ _ _; exact Or.inr c

theorem rxVps_announce_cycle (cfg : Cfg) (s : State) (b : Buf) (h1 : decodeVpsCni b = s.net.cniVps) (h2 : pending cfg .vps s) :
    ¬ pending cfg .vps (rxVps cfg s b).1 := by
  have c := announce_not_pending cfg .vps (decodeVpsCni b) s
  apply rxVps_cases cfg s b (fun r => ¬ pending cfg .vps r.1)
  · intro h; exact absurd h1 h
  · intro _ h; exact absurd h2 h
  · intro _ _ _; exact c
  · intro _ _ _ _; exact c
  · intro _ _ _ _; exact c

/-- atoms that neither store a label nor start a debounce cycle: heads of `vbi_decode` (with or without
    time-outs), `vbi_channel_switched`, WSS lines, Teletext pages -/
def Atom.pidQuiet : Atom → Bool
  | .tick _ => true
  | .chsw => true
  | .line _ (.wss _ _) => true
  | .line _ (.page _) => true
  | _ => false

theorem pidQuiet_untouched {a : Atom} (h : a.pidQuiet = true) :
    a.station = false ∧ (∀ m, a ≠ .mask m) ∧ vpsLabels [a] = [] := by
  cases a with
  | line t l => cases l <;> first | exact ⟨rfl, fun _ => Atom.noConfusion, rfl⟩ | cases h
  | mask m => cases h
  | _ => exact ⟨rfl, fun _ => Atom.noConfusion, rfl⟩

theorem runAtoms_pidQuiet (cfg : Cfg) : ∀ (mid : List Atom) (s : State), (∀ a ∈ mid, a.pidQuiet = true) →
    (runAtoms cfg s mid).1.vpsPid = s.vpsPid ∧ NetStay s (runAtoms cfg s mid).1 :=
  runAtoms_rel cfg (fun s s' => s'.vpsPid = s.vpsPid ∧ NetStay s s') Atom.pidQuiet (fun s => ⟨rfl, NetStay.refl s⟩)
    (fun h1 h2 => ⟨h2.1.trans h1.1, h1.2.trans h2.2⟩)
    (fun s a h => by
      obtain ⟨h1, h2, h3⟩ := pidQuiet_untouched h
      have f := stepAtom_untouched cfg s a
      refine ⟨?_, f.net h1⟩
      rcases f.pid with e | ⟨⟨m, e⟩, _⟩ | e
      · exact e
      · exact absurd e (h2 m)
      · rw [h3] at e; cases e)

theorem vpsLabels_cons (a : Atom) (as : List Atom) : vpsLabels (a :: as) = vpsLabels [a] ++ vpsLabels as := by
  cases a with
  | line t l => cases l <;> simp [vpsLabels]
  | _ => simp [vpsLabels]

theorem runAtoms_vpsPid (cfg : Cfg) : ∀ (atoms : List Atom) (s : State),
    (runAtoms cfg s atoms).1.vpsPid = s.vpsPid ∨ (runAtoms cfg s atoms).1.vpsPid = {} ∨
    (runAtoms cfg s atoms).1.vpsPid ∈ vpsLabels atoms := by
  intro atoms
  induction atoms with
  | nil => intro s; left; rfl
  | cons a as ih =>
    intro s
    simp only [runAtoms]
    rw [vpsLabels_cons]
    rcases ih (stepAtom cfg s a).1 with e | e | e
    · rw [e]
      rcases (stepAtom_untouched cfg s a).pid with f | ⟨_, f⟩ | f
      · left; exact f
      · right; left; exact f
      · right; right; exact List.mem_append_left _ f
    · right; left; exact e
    · right; right; exact List.mem_append_right _ e

end Zvbi.Net
