import ZvbiModel.Net.XdsStr
import ZvbiModel.Util.Bits
/-!
# `xds_strfu` on the raw array computes the comparison of the complete strings

`strfuCopy_spec` is the loop invariant (induction over the bytes to copy, for every
destination content and every value of `neq` so far); `Props.C13Str.strfu_neq_iff` instantiates it for the whole call.
-/
namespace Zvbi.Net
open Zvbi.Hamm Zvbi.Codec Zvbi.Gen

theorem sext8_eq_zero (x : Nat) (hx : x < 256) : sext8 x = 0 ↔ x = 0 := by
  unfold sext8
  rw [Nat.mod_eq_of_lt hx]
  split <;> omega

theorem sext8_xor_eq_zero (x c : Nat) (hx : x < 256) (hc : c < 128) : sext8 x ^^^ c = 0 ↔ x = c := by
  rw [Bits.xor_eq_zero]
  unfold sext8
  rw [Nat.mod_eq_of_lt hx]
  split <;> omega

theorem cstr_cons (x : Nat) (rest : List Nat) : cstr (x :: rest) = if x = 0 then [] else x :: cstr rest := by
  unfold cstr
  rw [List.takeWhile_cons]
  by_cases h : x = 0 <;> simp [h]

theorem cstr_append_nul (f rest : List Nat) (hf : ∀ c ∈ f, c ≠ 0) : cstr (f ++ 0 :: rest) = f := by
  induction f with
  | nil => simp [cstr]
  | cons c cs ih =>
    have hc : c ≠ 0 := hf c (List.mem_cons_self ..)
    rw [List.cons_append, cstr_cons, if_neg hc, ih (fun x hx => hf x (List.mem_cons_of_mem _ hx))]

/-- loop invariant of the copy loop plus the two statements after it: a stored string that is shorter than the received
    one is caught by `*d ^ c` at its terminator (`c ≥ 0x20`), a longer one by `neq |= *d` behind the last byte copied -/
theorem strfuCopy_spec : ∀ (cs d : List Nat) (neq : Nat), (∀ c ∈ cs, c < 128) → (∀ x ∈ d, x < 256) → cs.length < d.length →
    ∃ n, strfuCopy neq d cs = some (cs.map (fun c => max 0x20 c) ++ 0 :: d.drop (cs.length + 1), n) ∧
      (n ≠ 0 ↔ (neq ≠ 0 ∨ cstr d ≠ cs.map (fun c => max 0x20 c))) := by
  intro cs
  induction cs with
  | nil =>
    intro d neq _ hd hlen
    cases d with
    | nil => simp at hlen
    | cons x rest =>
      have hx : x < 256 := hd x (List.mem_cons_self ..)
      refine ⟨neq ||| sext8 x, by simp [strfuCopy], ?_⟩
      rw [cstr_cons, Ne, Nat.or_eq_zero_iff, sext8_eq_zero x hx]
      by_cases h0 : x = 0 <;> by_cases hn : neq = 0 <;> simp [h0, hn]
  | cons c cs ih =>
    intro d neq hcs hd hlen
    cases d with
    | nil => simp at hlen
    | cons x rest =>
      have hx : x < 256 := hd x (List.mem_cons_self ..)
      have hc : c < 128 := hcs c (List.mem_cons_self ..)
      have hcm : c % 256 = c := Nat.mod_eq_of_lt (by omega)
      have hc' : max 0x20 c < 128 := by omega
      have hc0 : max 0x20 c ≠ 0 := by omega
      obtain ⟨n, hn, hiff⟩ := ih rest (neq ||| (sext8 x ^^^ max 0x20 c))
        (fun y hy => hcs y (List.mem_cons_of_mem _ hy)) (fun y hy => hd y (List.mem_cons_of_mem _ hy))
        (by simp at hlen; omega)
      refine ⟨n, ?_, ?_⟩
      · simp only [strfuCopy, hcm, hn]
        simp
      · have e2 : cstr (x :: rest) = (c :: cs).map (fun c => max 0x20 c) ↔
            (x = max 0x20 c ∧ cstr rest = cs.map (fun c => max 0x20 c)) := by
          rw [cstr_cons, List.map_cons]
          by_cases hx0 : x = 0
          · rw [if_pos hx0]
            constructor
            · intro h; exact absurd h (by simp)
            · intro h; exact absurd (hx0 ▸ h.1).symm hc0
          · rw [if_neg hx0]; simp
        rw [hiff]
        simp only [Ne, Nat.or_eq_zero_iff, sext8_xor_eq_zero x _ hx hc', e2]
        by_cases a : neq = 0 <;> by_cases b : x = max 0x20 c <;>
          by_cases d : cstr rest = cs.map (fun c => max 0x20 c) <;> simp [a, b, d]

theorem xdsFilter_eq (s : List Nat) : xdsFilter s = (strfuSkip s).map (fun c => max 0x20 c) := rfl

theorem xdsFilter_length_le (s : List Nat) : (xdsFilter s).length ≤ s.length := by
  rw [xdsFilter_eq, List.length_map]
  unfold strfuSkip
  exact (List.dropWhile_sublist _).length_le

theorem xdsFilter_ne_zero (s : List Nat) : ∀ c ∈ xdsFilter s, c ≠ 0 := by
  intro c hc
  rw [xdsFilter_eq] at hc
  obtain ⟨y, _, rfl⟩ := List.mem_map.mp hc
  omega

theorem xdsStrfu_eq (old buf : List Nat) : xdsStrfu old buf = (xdsFilter buf, xdsFilter buf != old) := rfl

theorem strfuCopy_overrun : ∀ (cs d : List Nat) (neq : Nat), d.length ≤ cs.length → strfuCopy neq d cs = none := by
  intro cs
  induction cs with
  | nil => intro d neq h; cases d with
    | nil => rfl
    | cons x r => simp at h
  | cons c cs ih =>
    intro d neq h
    cases d with
    | nil => rfl
    | cons x r =>
      simp only [strfuCopy]
      rw [ih r _ (by simp at h; omega)]

end Zvbi.Net
