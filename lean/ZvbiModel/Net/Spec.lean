import ZvbiModel.Net.Model
/-!
# Vocabulary of the C13 theorems

Histories are lists of *atoms*: the head of a `vbi_decode` call (`tick`, time check and
countdown) and its sliced lines are separate atoms, so a frame is just `tick t` followed by
its lines (`Props.C13.frames_are_atom_lists`) and every interleaving of carriers inside and across
frames is a list of atoms.  Statements about all atom lists are therefore statements about
all frame histories.
-/
namespace Zvbi.Net
open Zvbi.Hamm Zvbi.Codec Zvbi.Gen

inductive Atom
  | tick (t : Nat)               -- head of vbi_decode at time t
  | line (t : Nat) (l : Line)    -- one sliced line of the frame with time stamp t
  | mask (m : Nat)               -- handler (re)registered with mask m
  | chsw                         -- vbi_channel_switched
deriving Repr

/-- all events raised (before the handler's mask filter) -/
def stepAtom (cfg : Cfg) (s : State) : Atom → State × List Ev
  | .tick t => prologue s t
  | .line t l => rxLine cfg t s l
  | .mask m => (eventEnable cfg.enableKeepsInfo s m, [])
  | .chsw => ({ s with chswcd := 1 }, [])

def runAtoms (cfg : Cfg) (s : State) : List Atom → State × List Ev
  | [] => (s, [])
  | a :: as =>
    let r1 := stepAtom cfg s a
    let r2 := runAtoms cfg r1.1 as
    (r2.1, r1.2 ++ r2.2)

def frameAtoms (t : Nat) (ls : List Line) : List Atom := Atom.tick t :: ls.map (Atom.line t)

/-! ## events -/

def Ev.isNetwork : Ev → Bool
  | .network _ => true
  | _ => false

def Ev.isNetworkId : Ev → Bool
  | .networkId _ => true
  | _ => false

def Ev.isAspect : Ev → Bool
  | .aspect _ => true
  | _ => false

/-- events that are neither NETWORK nor NETWORK_ID (PROG_ID, LOCAL_TIME of the same line) -/
def Ev.isExtra : Ev → Bool
  | .progId _ => true
  | .localTime _ _ => true
  | _ => false

/-- the name `station_lookup` leaves in `n->name` -/
def lkName (cfg : Cfg) (c : Carrier) (v : Nat) : List Nat := if (cfg.lk c v).1 = 0 then [] else (cfg.lk c v).2.take 62

/-- result of the debounce for the reception a line constitutes -/
def cniStep (cfg : Cfg) (s : State) : Option (Carrier × Nat) → State × List Ev
  | some (c, v) => cniRx cfg c v s
  | none => (s, [])

/-- number of NETWORK events -/
def countNetwork (evs : List Ev) : Nat := (evs.filter Ev.isNetwork).length

/-- no NETWORK and no NETWORK_ID event -/
def Silent (evs : List Ev) : Prop := ∀ e ∈ evs, e.isNetwork = false ∧ e.isNetworkId = false

/-- no NETWORK event (a NETWORK_ID repeating the known station is allowed) -/
def NoNetwork (evs : List Ev) : Prop := ∀ e ∈ evs, e.isNetwork = false

/-! ## what a line transmits -/

/-- the (carrier, CNI) pair `parse_8_30`/`parse_bsd` hand to the debounce for a packet 8/30,
    `none` if the packet never gets there (Hamming error, other packet, BSDATA events off) -/
def ttxCni (mask : Nat) (b : Buf) : Option (Carrier × Nat) :=
  match unham16p (bt b 0) (bt b 1) with
  | none => none
  | some pmag =>
    if pmag &&& 15 = 0 then
      match unham8 (bt b 2) with
      | none => none
      | some designation =>
        if designation > 4 then none else
        if hasBit mask VBI_EVENT_TTX_PAGE && !pageLinkOk b then none else
        if hasBit mask (VBI_EVENT_NETWORK ||| VBI_EVENT_NETWORK_ID) then
          if designation ≥ 4 then none
          else if designation ≤ 1 then some (.p8301, decode8301Cni b)
          else (bsdCni2 b).map (fun v => (Carrier.p8302, v))
        else none
    else none

/-- the reception a line constitutes for the CNI debounce -/
def lineCni (mask : Nat) : Line → Option (Carrier × Nat)
  | .vps b => some (.vps, decodeVpsCni b)
  | .ttx b => ttxCni mask b
  | _ => none

/-- the line cannot be a reception on carrier `c` (syntactic: VPS lines for `vps`, Teletext lines for both 8/30 formats) -/
def Line.freeOf (c : Carrier) : Line → Bool
  | .vps _ => c != .vps
  | .ttx _ => c == .vps
  | _ => true

def Atom.freeOf (c : Carrier) : Atom → Bool
  | .line _ l => l.freeOf c
  | _ => true

def Line.isWss : Line → Bool
  | .wss _ _ => true
  | _ => false

def Atom.wssFree : Atom → Bool
  | .line _ l => !l.isWss
  | _ => true

/-! ## regular timing: no frame is dropped, so the countdown never starts -/

/-- every `tick` comes 25..50 ms after the latest time seen (or is the first) -/
def RegularFrom : Nat → List Atom → Prop
  | _, [] => True
  | time, .tick t :: as => (time = 0 ∨ (time + 25000 ≤ t ∧ t ≤ time + 50000)) ∧ RegularFrom (if t > time then t else time) as
  | time, _ :: as => RegularFrom time as

/-! ## the station as the sender sees it -/

/-- CNI lines, WSS lines, page lines and ticks only; every CNI reception carries the station's value for
    its carrier (then the carrier must be one whose value resolves to the station's id: `ok c`), or a
    deviating value that is not the one stored for that carrier (`lg c` = the deviating value received
    last on carrier `c`, if the last one deviated): "isolated corrupted words", any number of them, on
    any carrier, in any interleaving, but never the same wrong value twice in a row on one carrier. -/
def NoRepeatedGlitch (st : Carrier → Nat) (ok : Carrier → Bool) (mask : Nat) : (Carrier → Option Nat) → List Atom → Prop
  | _, [] => True
  | lg, .tick _ :: as => NoRepeatedGlitch st ok mask lg as
  | lg, .line _ l :: as =>
    (match l with
     | .xds _ _ => False
     | _ => True) ∧
    (match lineCni mask l with
     | none => NoRepeatedGlitch st ok mask lg as
     | some (c, v) =>
       if v = st c then ok c = true ∧ NoRepeatedGlitch st ok mask (fun c' => if c' = c then none else lg c') as
       else lg c ≠ some v ∧ NoRepeatedGlitch st ok mask (fun c' => if c' = c then some v else lg c') as)
  | _, _ :: _ => False

/-- every reception equals what the decoder has stored (`n`), nothing else happens -/
def SameAsStored (n : Network) (mask : Nat) : Atom → Prop
  | .tick _ => True
  | .line _ l =>
    match l with
    | .xds ty bytes =>
      (ty = 1 → (xdsStrfu n.name bytes).2 = false) ∧ (ty = 2 → (xdsStrfu n.call bytes).2 = false)
    | _ => ∀ c v, lineCni mask l = some (c, v) → v = cniOf c n
  | _ => False

end Zvbi.Net
