import ZvbiModel.Net.Lemmas
/-!
# What one atom of a history leaves alone

The registers fall into groups, each written by few kinds of atoms: the VPS label by VPS lines (and
cleared by a new PROG_ID handler), the WSS registers by WSS-625 words, the aspect record by WSS-625 and CPR-1204 words,
the network record and the per-carrier state by VPS / Teletext / XDS lines; every other atom leaves a group as it is or
as `vbi_chsw_reset` / `vbi_event_enable` clear it.  `Untouched` says this, `stepAtom_untouched` proves it by the one case
analysis of `stepAtom` over the atom kinds, and the lemmas about histories that watch one group read their step off it.
-/
namespace Zvbi.Net
open Zvbi.Hamm Zvbi.Codec Zvbi.Gen

theorem runAtoms_append (cfg : Cfg) : ∀ (a b : List Atom) (s : State),
    (runAtoms cfg s (a ++ b)).1 = (runAtoms cfg (runAtoms cfg s a).1 b).1 := by
  intro a
  induction a with
  | nil => intro b s; rfl
  | cons x xs ih => intro b s; simp only [List.cons_append, runAtoms]; exact ih b _

theorem runAtoms_append_events (cfg : Cfg) : ∀ (a b : List Atom) (s : State),
    (runAtoms cfg s (a ++ b)).2 = (runAtoms cfg s a).2 ++ (runAtoms cfg (runAtoms cfg s a).1 b).2 := by
  intro a
  induction a with
  | nil => intro b s; simp [runAtoms]
  | cons x xs ih => intro b s; simp only [List.cons_append, runAtoms, ih, List.append_assoc]

section history
variable (cfg : Cfg) (J : List Atom → State → Prop) (q : Ev → Prop) (M : State → State → Prop)
  (Mrefl : ∀ s, M s s) (Mtrans : ∀ {a b c}, M a b → M b c → M a c)
  (hstep : ∀ a as s, J (a :: as) s →
    J as (stepAtom cfg s a).1 ∧ (∀ e ∈ (stepAtom cfg s a).2, q e) ∧ M s (stepAtom cfg s a).1)
include Mrefl Mtrans hstep

/-- Induction over a history: an invariant `J` that sees the atoms still to come (so hypotheses defined by recursion
    over the history, like `RegularFrom` or `NoRepeatedGlitch`, are part of it), a predicate `q` for every event raised,
    and a reflexive transitive relation `M` between the states passed. -/
theorem runAtoms_ind : ∀ (as : List Atom) (s : State), J as s →
    J [] (runAtoms cfg s as).1 ∧ (∀ e ∈ (runAtoms cfg s as).2, q e) ∧ M s (runAtoms cfg s as).1 := by
  intro as
  induction as with
  | nil => intro s h; exact ⟨h, fun _ he => (by cases he), Mrefl s⟩
  | cons a as ih =>
    intro s h
    obtain ⟨h1, h2, h3⟩ := hstep a as s h
    obtain ⟨r1, r2, r3⟩ := ih _ h1
    exact ⟨r1, fun e he => (List.mem_append.mp he).elim (h2 e) (r2 e), Mtrans h3 r3⟩

theorem runAtoms_ind_cut (q1 q2 : List Atom) (s : State) (h : J (q1 ++ q2) s) :
    M (runAtoms cfg s q1).1 (runAtoms cfg s (q1 ++ q2)).1 := by
  have a := (runAtoms_ind cfg (fun as => J (as ++ q2)) q M Mrefl Mtrans (fun a as s => hstep a (as ++ q2) s) q1 s h).1
  rw [runAtoms_append]
  exact (runAtoms_ind cfg J q M Mrefl Mtrans hstep q2 _ a).2.2

end history

theorem runAtoms_rel (cfg : Cfg) (R : State → State → Prop) (free : Atom → Bool) (hrefl : ∀ s, R s s)
    (htrans : ∀ {a b c}, R a b → R b c → R a c) (hstep : ∀ s a, free a = true → R s (stepAtom cfg s a).1)
    (as : List Atom) (s : State) (hf : ∀ a ∈ as, free a = true) : R s (runAtoms cfg s as).1 :=
  (runAtoms_ind cfg (fun as _ => ∀ a ∈ as, free a = true) (fun _ => True) R hrefl htrans
    (fun a _ s h => ⟨fun x hx => h x (List.mem_cons_of_mem _ hx), fun _ _ => trivial, hstep s a (h a (List.mem_cons_self ..))⟩)
    as s hf).2.2

theorem runAtoms_inv (cfg : Cfg) (P : State → Prop) (free : Atom → Bool)
    (hstep : ∀ s a, free a = true → P s → P (stepAtom cfg s a).1)
    (as : List Atom) (s : State) (hf : ∀ a ∈ as, free a = true) : P s → P (runAtoms cfg s as).1 :=
  runAtoms_rel cfg (fun s s' => P s → P s') free (fun _ h => h) (fun f g h => g (f h)) hstep as s hf

/-- the atoms that write the network record other than by clearing it: VPS, Teletext and XDS lines -/
def Atom.station : Atom → Bool
  | .line _ (.vps _) => true
  | .line _ (.ttx _) => true
  | .line _ (.xds _ _) => true
  | _ => false

/-- the atoms that store an aspect record: WSS-625 and CPR-1204 words -/
def Atom.aspect : Atom → Bool
  | .line _ (.wss _ _) => true
  | .line _ (.cpr _) => true
  | _ => false

/-- the labels of the VPS lines of a history -/
def vpsLabels : List Atom → List Pid
  | [] => []
  | .line _ (.vps b) :: as => decodeVpsPdc b :: vpsLabels as
  | _ :: as => vpsLabels as

theorem rxVps_vpsPid_cases (cfg : Cfg) (s : State) (b : Buf) :
    (rxVps cfg s b).1.vpsPid = s.vpsPid ∨ (rxVps cfg s b).1.vpsPid = decodeVpsPdc b := by
  have r := announce_resetOrStay cfg .vps (decodeVpsCni b) s
  apply rxVps_cases cfg s b (fun r => r.1.vpsPid = s.vpsPid ∨ r.1.vpsPid = decodeVpsPdc b)
  · intro _; exact Or.inr rfl
  · intro _ _; exact Or.inl rfl
  · intro _ _ _; exact Or.inl r.vpsPid
  · intro _ _ _ _; exact Or.inr rfl
  · intro _ _ _ _; exact Or.inl r.vpsPid

/-- Who writes what: each register group with the atoms that can write it; every other atom leaves it alone or as
    `vbi_chsw_reset` / `vbi_event_enable` clear it. -/
structure Untouched (a : Atom) (s s' : State) : Prop where
  /-- third case: `a` is a VPS line and the label is its own; said through `vpsLabels [a]` so that the steps of a
      history append (`runAtoms_vpsPid`) -/
  pid : s'.vpsPid = s.vpsPid ∨ ((∃ m, a = .mask m) ∧ s'.vpsPid = {}) ∨ s'.vpsPid ∈ vpsLabels [a]
  wss : a.wssFree = true → WssStay s s'
  asp : a.aspect = false → AspStay s s'
  net : a.station = false → NetStay s s'

theorem ResetOrStay.untouched {a : Atom} {s s' : State} (h : ResetOrStay s s') (hn : a.station = false → NetStay s s') :
    Untouched a s s' :=
  ⟨Or.inl h.vpsPid, fun _ => h.wss, fun _ => h.asp, hn⟩

theorem AspectOnly.untouched {a : Atom} {s s' : State} (h : AspectOnly s s')
    (hw : a.wssFree = true → WssStay s s') (ha : a.aspect = false → AspStay s s') : Untouched a s s' :=
  ⟨Or.inl h.vpsPid, hw, ha, fun _ => Or.inl ⟨h.net, h.deb⟩⟩

theorem stepAtom_untouched (cfg : Cfg) (s : State) (a : Atom) : Untouched a s (stepAtom cfg s a).1 := by
  cases a with
  | tick t =>
    have r := prologue_resetOrStay s t
    exact ⟨Or.inl r.vpsPid, fun _ => r.wss, fun _ => r.asp, fun _ => prologue_net_deb s t⟩
  | chsw => exact ⟨Or.inl rfl, fun _ => Or.inl ⟨rfl, rfl, rfl⟩, fun _ => Or.inl ⟨rfl, rfl⟩, fun _ => Or.inl ⟨rfl, rfl⟩⟩
  | mask m =>
    simp only [stepAtom]; rw [eventEnable_eq]
    refine ⟨?_, fun _ => Or.inl ⟨rfl, rfl, rfl⟩, fun _ => ?_, fun _ => ?_⟩
    · simp only []; split
      · exact Or.inr (Or.inl ⟨⟨m, rfl⟩, rfl⟩)
      · exact Or.inl rfl
    · simp only [AspStay]; split
      · exact Or.inr rfl
      · exact Or.inl ⟨rfl, rfl⟩
    · simp only [NetStay]; split
      · exact Or.inr ⟨rfl, rfl⟩
      · exact Or.inl ⟨rfl, rfl⟩
  | line t l =>
    simp only [stepAtom]
    cases l with
    | wss b0 b1 => exact (rxWss_aspectOnly s b0 b1 t).untouched (fun h => by cases h) (fun h => by cases h)
    | cpr c0 =>
      refine (rxCpr_aspectOnly s c0).untouched (fun _ => ?_) (fun h => by cases h)
      rcases rxCpr_cases s c0 with ⟨_, _, e⟩ | ⟨_, _, e⟩ <;> rw [e] <;> exact Or.inl ⟨rfl, rfl, rfl⟩
    | page pgno =>
      obtain ⟨pages, _, e⟩ := rxLine_page cfg t s pgno
      rw [e]
      exact ⟨Or.inl rfl, fun _ => Or.inl ⟨rfl, rfl, rfl⟩, fun _ => Or.inl ⟨rfl, rfl⟩, fun _ => Or.inl ⟨rfl, rfl⟩⟩
    | xds ty bytes => exact (rxXds_resetOrStay _ s ty bytes).untouched (fun h => by cases h)
    | ttx b =>
      obtain ⟨x, e, _⟩ := rxTtx_eq cfg s b
      simp only [rxLine]; rw [e]
      exact (cniStep_resetOrStay cfg s _).untouched (fun h => by cases h)
    | vps b =>
      -- the one kind that writes the label: the debounce step, with the label of this line stored or not
      have f := cniRx_resetOrStay cfg .vps (decodeVpsCni b) s
      obtain ⟨p, x, e, _⟩ := rxVps_eq cfg s b
      refine ⟨?_, fun _ => ?_, fun _ => ?_, fun h => by cases h⟩
      · rcases rxVps_vpsPid_cases cfg s b with e | e
        · exact Or.inl e
        · exact Or.inr (Or.inr (by simp only [rxLine, vpsLabels]; rw [e]; exact List.mem_cons_self ..))
      · simp only [rxLine]; rw [e]; exact f.wss
      · simp only [rxLine]; rw [e]; exact f.asp

theorem runAtoms_wss (cfg : Cfg) : ∀ (mid : List Atom) (s : State), (∀ a ∈ mid, a.wssFree = true) →
    WssStay s (runAtoms cfg s mid).1 :=
  runAtoms_rel cfg WssStay Atom.wssFree WssStay.refl WssStay.trans (fun s a => (stepAtom_untouched cfg s a).wss)

/-- `vbi_chsw_reset` (vbi.c:529) announces "full format" when it forgets an aspect ratio: lines 23..310 when the record
    came from a 625-line WSS word (`aspect_source == 1`), lines 22..262 otherwise (CPR-1204 word, `aspect_source == 2`;
    XDS, 3, is not fed).  This invariant ties the source number to the line kind that stored the record:
    0 = nothing to forget, 1 = stored by a WSS-625 word, 2 = by a CPR-1204 word. -/
def SrcInv (s : State) : Prop :=
  s.aspectSource = 0 ∨ (s.aspectSource = 1 ∧ ∃ b0 b1, s.aspect = wssAspect b0 b1) ∨
  (s.aspectSource = 2 ∧ ∃ b0, s.aspect = cprAspect b0)

theorem rxWss_srcInv (s : State) (b0 b1 t : Nat) (i : SrcInv s) : SrcInv (rxWss s b0 b1 t).1 := by
  apply rxWss_cases s b0 b1 t (fun r => SrcInv r.1)
  · intro _; exact i
  · intro _ _; exact i
  · intro _ _ _; exact i
  · intro _ _ _ _ _; exact Or.inr (Or.inl ⟨rfl, b0, b1, rfl⟩)

theorem rxCpr_srcInv (s : State) (b0 : Nat) (i : SrcInv s) : SrcInv (rxCpr s b0).1 := by
  rcases rxCpr_cases s b0 with ⟨_, _, e⟩ | ⟨_, _, e⟩ <;> rw [e]
  · exact i
  · exact Or.inr (Or.inr ⟨rfl, b0, rfl⟩)

theorem stepAtom_srcInv (cfg : Cfg) (s : State) (a : Atom) (i : SrcInv s) : SrcInv (stepAtom cfg s a).1 := by
  cases h : a.aspect
  · rcases (stepAtom_untouched cfg s a).asp h with ⟨ha, hs⟩ | h0
    · unfold SrcInv
      rw [ha, hs]
      exact i
    · exact Or.inl h0
  · cases a with
    | line t l =>
      cases l with
      | wss b0 b1 => exact rxWss_srcInv s b0 b1 t i
      | cpr c0 => exact rxCpr_srcInv s c0 i
      | _ => cases h
    | _ => cases h

theorem runAtoms_srcInv (cfg : Cfg) (atoms : List Atom) (s : State) : SrcInv s → SrcInv (runAtoms cfg s atoms).1 :=
  runAtoms_inv cfg SrcInv (fun _ => true) (fun s a _ => stepAtom_srcInv cfg s a) atoms s (fun _ _ => rfl)

/-- the atoms of a calm history that are no reception: ticks, WSS-625 / CPR-1204 words, pages -/
def Atom.calm : Atom → Bool
  | .tick _ => true
  | .line _ (.wss _ _) => true
  | .line _ (.cpr _) => true
  | .line _ (.page _) => true
  | _ => false

/-- what such an atom does while the countdown is idle and the timing regular: nothing about the station is touched or
    announced, pages only get cached, the clock advances as `RegularFrom` counts -/
structure Calm (a : Atom) (s s' : State) (evs : List Ev) : Prop where
  net : s'.net = s.net
  deb : s'.deb = s.deb
  cd : s'.chswcd = s.chswcd
  mask : s'.mask = s.mask
  time : s'.time = timeAfter s.time a
  cached : s.cached ⊆ s'.cached
  silent : Silent evs

theorem calm_step (cfg : Cfg) (s : State) (a : Atom) (as : List Atom) (hq : a.calm = true) (hcd : s.chswcd = 0)
    (hreg : RegularFrom s.time (a :: as)) : Calm a s (stepAtom cfg s a).1 (stepAtom cfg s a).2 := by
  cases a with
  | tick t =>
    simp only [RegularFrom] at hreg
    simp only [stepAtom, prologue_regular s t hcd hreg.1]
    exact ⟨rfl, rfl, rfl, rfl, rfl, List.Subset.refl _, Silent_nil⟩
  | line t l =>
    cases l with
    | wss b0 b1 =>
      have k := rxWss_aspectOnly s b0 b1 t
      exact ⟨k.net, k.deb, k.chswcd, k.mask, k.time, fun x hx => k.cached.symm ▸ hx, rxWss_silent s b0 b1 t⟩
    | cpr c0 =>
      have k := rxCpr_aspectOnly s c0
      exact ⟨k.net, k.deb, k.chswcd, k.mask, k.time, fun x hx => k.cached.symm ▸ hx, rxCpr_silent s c0⟩
    | page pgno =>
      obtain ⟨pages, hsub, e⟩ := rxLine_page cfg t s pgno
      simp only [stepAtom]; rw [e]
      exact ⟨rfl, rfl, rfl, rfl, rfl, hsub, Silent_nil⟩
    | _ => cases hq
  | _ => cases hq

theorem RegularFrom_tail (time : Nat) (a : Atom) (as : List Atom) (h : RegularFrom time (a :: as)) :
    RegularFrom (timeAfter time a) as := by
  cases a <;> simp only [RegularFrom, timeAfter] at h ⊢
  · exact h.2
  all_goals exact h

end Zvbi.Net
