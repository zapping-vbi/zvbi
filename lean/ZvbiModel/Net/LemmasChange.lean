import ZvbiModel.Net.Lemmas
/-!
# Station change and faithful event values: what the events of the CNI debounce, of VPS and of packet 8/30 carry; the
channel-switch countdown while it does not fire
-/
namespace Zvbi.Net
open Zvbi.Hamm Zvbi.Codec Zvbi.Gen

/-- every NETWORK / NETWORK_ID event of the announce branch carries the stored record with the table's id and name - all
    cases once the callers pass "identified" (F35 repaired); before, all cases except "identified station replaced by
    an unknown CNI" -/
theorem announce_faithful (cfg : Cfg) (c : Carrier) (v : Nat) (s : State)
    (hx : cfg.chswIdent = true ∨ ¬ ((cfg.lk c v).1 = 0 ∧ s.net.nuid ≠ 0)) (n : Network)
    (hn : Ev.network n ∈ (announce cfg c v s).2 ∨ Ev.networkId n ∈ (announce cfg c v s).2) :
    n = adopt cfg c v s.net := by
  revert hn
  apply announce_cases cfg c v s (fun r => (Ev.network n ∈ r.2 ∨ Ev.networkId n ∈ r.2) → n = adopt cfg c v s.net)
  · intro _ hn
    by_cases h3 : (cfg.lk c v).1 = s.net.nuid <;> simpa [h3] using hn
  · intro _ _ _ hn
    have k := (chswReset_identified_silent s).not_mem n
    simpa [k.1, k.2] using hn
  · intro h4 h5 hI _
    rcases hx with hx | hx
    · rw [hI] at hx; cases hx
    · exact absurd ⟨h5, h4⟩ hx

/-- the debounce step that changes the identified station: one NETWORK event, cache flushed.  With the callers
    passing "identified" (F35 repaired) this covers a CNI missing from the table as well. -/
theorem cniRx_switch (cfg : Cfg) (c : Carrier) (v : Nat) (s : State) (h : v = cniOf c s.net) (h2 : pending cfg c s)
    (h3 : (cfg.lk c v).1 ≠ s.net.nuid) (h4 : s.net.nuid ≠ 0) (h5 : cfg.chswIdent = true ∨ (cfg.lk c v).1 ≠ 0) :
    countNetwork (cniRx cfg c v s).2 = 1 ∧
    (∀ n, (Ev.network n ∈ (cniRx cfg c v s).2 ∨ Ev.networkId n ∈ (cniRx cfg c v s).2) →
       n.nuid = (cfg.lk c v).1 ∧ cniOf c n = v) ∧
    (cniRx cfg c v s).1.cached = [] ∧ (cniRx cfg c v s).1.net.nuid = (cfg.lk c v).1 ∧ ¬ pending cfg c (cniRx cfg c v s).1 ∧
    cniOf c (cniRx cfg c v s).1.net = v := by
  rw [cniRx_pending cfg c v s h h2]
  refine ⟨?_, fun n hn => ?_, ?_⟩
  · rw [announce_switch cfg c v s h3 h4 h5, countNetwork_append, countNetwork_silent _ (chswReset_identified_silent s)]
    rfl
  · have f := announce_faithful cfg c v s (h5.imp id (fun h0 a => h0 a.1)) n hn
    rw [f, cniOf_adopt]
    exact ⟨rfl, h.symm⟩
  · rw [announce_switch cfg c v s h3 h4 h5]
    refine ⟨by rw [markDone_cached, chswReset_fst], by rw [markDone_nuid]; rfl, markDone_not_pending _ _ _ _, ?_⟩
    simp only [markDone_cniOf, cniOf_adopt]; exact h.symm

theorem announce_no_extra (cfg : Cfg) (c : Carrier) (v : Nat) (s : State) : ∀ e ∈ (announce cfg c v s).2, Ev.isExtra e = false := by
  -- NETWORK and NETWORK_ID of its own, and what `vbi_chsw_reset` raises
  have own : ∀ (n : Network) (e : Ev), e ∈ [Ev.network n, Ev.networkId n] → Ev.isExtra e = false := by
    intro n e he; simp at he; rcases he with rfl | rfl <;> rfl
  apply announce_cases cfg c v s (fun r => ∀ e ∈ r.2, Ev.isExtra e = false)
  · intro _ e he
    split at he
    · simp at he; rw [he]; rfl
    · exact own _ e he
  · intro _ _ _ e he
    exact (List.mem_append.mp he).elim (chswReset_no_extra s 1 e) (own _ e)
  · intro _ _ _ e he
    exact (List.mem_append.mp he).elim (chswReset_no_extra s 0 e) (own _ e)

theorem cniRx_no_extra (cfg : Cfg) (c : Carrier) (v : Nat) (s : State) : ∀ e ∈ (cniRx cfg c v s).2, Ev.isExtra e = false := by
  apply cniRx_cases cfg c v s (fun r => ∀ e ∈ r.2, Ev.isExtra e = false)
  · intro _ e he; cases he
  · intro _ _ e he; cases he
  · intro _ _; exact announce_no_extra cfg c v s

theorem rxVps_progId (cfg : Cfg) (s : State) (b : Buf) (p : Pid) (h : Ev.progId p ∈ (rxVps cfg s b).2) :
    p = decodeVpsPdc b ∧ s.vpsPid = decodeVpsPdc b ∧ decodeVpsCni b = s.net.cniVps ∧ pending cfg .vps s ∧
    hasBit s.mask VBI_EVENT_PROG_ID = true := by
  have na : Ev.progId p ∉ (announce cfg .vps (decodeVpsCni b) s).2 :=
    fun h => absurd (announce_no_extra cfg .vps _ s _ h) (by simp [Ev.isExtra])
  revert h
  apply rxVps_cases cfg s b (fun r => Ev.progId p ∈ r.2 → p = decodeVpsPdc b ∧ s.vpsPid = decodeVpsPdc b ∧
    decodeVpsCni b = s.net.cniVps ∧ pending cfg .vps s ∧ hasBit s.mask VBI_EVENT_PROG_ID = true)
  · intro _ h; cases h
  · intro _ _ h; cases h
  · intro _ _ _ h; exact absurd h na
  · intro _ _ _ _ h; exact absurd h na
  · intro h1 h2 hb hp h
    rcases List.mem_append.mp h with x | x
    · exact absurd x na
    · exact ⟨by simpa using x, hp.symm, h1, h2, hb⟩

theorem rxTtx_extra (cfg : Cfg) (s : State) (b : Buf) (e : Ev) (he : Ev.isExtra e = true) (h : e ∈ (rxTtx cfg s b).2) :
    TtxExtra b e := by
  obtain ⟨x, h1, h2⟩ := rxTtx_eq cfg s b
  rw [h1] at h
  rcases List.mem_append.mp h with q | q
  · have ne : Ev.isExtra e = false := by
      cases hq : ttxCni s.mask b with
      | none => rw [hq] at q; cases q
      | some p => rw [hq] at q; exact cniRx_no_extra cfg p.1 p.2 s e q
    rw [he] at ne; cases ne
  · exact h2 e q

/-- after a changed value `b` was stored (in `s'`: record and per-carrier state are those of `markChange`) the carrier
    holds `b` and awaits its repeat - in the per-carrier shape provided `b` is not what it announced last -/
theorem change_then_pending (cfg : Cfg) (c : Carrier) (b : Nat) {s s' : State}
    (hper : cfg.perCarrier = true → b ≠ annOf c s.deb)
    (hn : s'.net = (markChange cfg c b s).net) (hd : s'.deb = (markChange cfg c b s).deb) :
    b = cniOf c s'.net ∧ pending cfg c s' ∧ s'.net.nuid = s.net.nuid := by
  refine ⟨by rw [hn, markChange_cniOf_self], ?_, by rw [hn, markChange_nuid]⟩
  rw [pending_congr cfg c _ s' hn hd, markChange_pending_self]
  cases hp : cfg.perCarrier
  · exact Or.inl rfl
  · exact Or.inr (hper hp)

theorem prologue_nofire (s : State) (t : Nat) (h : s.chswcd ≠ 1) :
    (prologue s t).2 = [] ∧ (prologue s t).1.net = s.net ∧ (prologue s t).1.deb = s.deb ∧
    (prologue s t).1.mask = s.mask ∧ ((s.chswcd = 0 ∨ 3 ≤ s.chswcd) → (prologue s t).1.chswcd ≠ 1) := by
  apply prologue_cases s t (fun r => r.2 = [] ∧ r.1.net = s.net ∧ r.1.deb = s.deb ∧ r.1.mask = s.mask ∧
    ((s.chswcd = 0 ∨ 3 ≤ s.chswcd) → r.1.chswcd ≠ 1))
  · intro _
    refine ⟨rfl, rfl, rfl, rfl, fun hc => ?_⟩
    show (if s.chswcd = 0 then 40 else s.chswcd) ≠ 1
    split <;> omega
  · intro h1; exact absurd h1 h
  · intro _ _
    refine ⟨rfl, rfl, rfl, rfl, fun hc => ?_⟩
    show s.chswcd - 1 ≠ 1
    omega

theorem tick_then_rx (cfg : Cfg) (s : State) (t : Nat) (l : Line) (c : Carrier) (v : Nat)
    (h : lineCni s.mask l = some (c, v)) (hcd : s.chswcd ≠ 1) :
    ∃ s', RxOf (cniRx cfg c v s') (runAtoms cfg s [.tick t, .line t l]) ∧ s'.net = s.net ∧ s'.deb = s.deb ∧
      s'.mask = s.mask ∧ ((s.chswcd = 0 ∨ 3 ≤ s.chswcd) → s'.chswcd ≠ 1) := by
  have p := prologue_nofire s t hcd
  have k := rxLine_cniRx cfg t (prologue s t).1 l c v (by rw [p.2.2.2.1]; exact h)
  refine ⟨(prologue s t).1, ?_, p.2.1, p.2.2.1, p.2.2.2.1, p.2.2.2.2⟩
  simpa only [runAtoms, stepAtom, p.1, List.nil_append, List.append_nil] using k

end Zvbi.Net
