import ZvbiModel.Cache.LemmasGet
import ZvbiModel.Ite
/-!
# `cache_network_add_page` and the insertion of a new page

`addPageNet`: what the insertion does to the record of the page's network, member by member.  `addPage_invW`: a new referenced
page keeps `InvW`.  `insertNew_eq`: `insertNew` in that form.  `State.store`: how every successful store ends.
-/
namespace Zvbi.Cache

/-- the statements of `cache_network_add_page` on the `struct ttx_page_stat` of the page number, in source order.
    `statChain` and `cachedChain` repeat the text of `State.netAddPage` (Model.lean) so that it can be taken apart one
    statement at a time; `netAddPage_eq` ties them to the model by unfolding, and only `netAddFn` / `addPageNet` are
    used after that. -/
def statChain (subno : Nat) (ps : PStat) : PStat :=
  let ps : PStat := { ps with nSub := (ps.nSub + 1) % 65536 }
  let ps : PStat := if ps.nSub > ps.maxSub then { ps with maxSub := ps.nSub } else ps
  let ps : PStat := if ps.nSub = 1 ∨ subno < ps.subMin then { ps with subMin := subno % 65536 } else ps
  if ps.nSub = 1 ∨ subno > ps.subMax then { ps with subMax := subno % 65536 } else ps

/-- their effect, member by member -/
def addStat (subno : Nat) (ps : PStat) : PStat :=
  let k := (ps.nSub + 1) % 65536
  { ps with nSub := k, maxSub := if k > ps.maxSub then k else ps.maxSub,
            subMin := if k = 1 ∨ subno < ps.subMin then subno % 65536 else ps.subMin,
            subMax := if k = 1 ∨ subno > ps.subMax then subno % 65536 else ps.subMax }

theorem statChain_eq (subno : Nat) (ps : PStat) : statChain subno ps = addStat subno ps := by
  unfold statChain addStat
  by_cases c1 : (ps.nSub + 1) % 65536 > ps.maxSub <;>
  by_cases c2 : (ps.nSub + 1) % 65536 = 1 ∨ subno < ps.subMin <;>
  by_cases c3 : (ps.nSub + 1) % 65536 = 1 ∨ subno > ps.subMax <;>
  simp only [c1, c2, c3, if_true, if_false]

/-- `++cn->n_cached_pages; if (cn->n_cached_pages > cn->max_cached_pages) ...` -/
def cachedChain (n : Net) : Net :=
  let n : Net := { n with nCached := n.nCached + 1 }
  if n.nCached > n.maxCached then { n with maxCached := n.nCached } else n

/-- what `cache_network_add_page` does to the network record after the zombie check -/
def netAddFn (pg subno : Nat) (n : Net) : Net :=
  ({ n with nCached := n.nCached + 1,
            maxCached := if n.nCached + 1 > n.maxCached then n.nCached + 1 else n.maxCached } : Net).setStat pg
    (addStat subno (n.getStat pg))

/-- the left side is, up to unfolding, the function `State.netAddPage` applies to the record -/
theorem netAddFn_chain (pg subno : Nat) (n : Net) :
    (cachedChain n).setStat pg (statChain subno ((cachedChain n).getStat pg)) = netAddFn pg subno n := by
  rw [statChain_eq]
  unfold cachedChain netAddFn
  by_cases c : n.nCached + 1 > n.maxCached <;> simp only [c] <;> rfl

/-- what `insertNew` does to the record of the page's network -/
def addPageNet (pg subno : Nat) (n : Net) : Net := netAddFn pg subno { n with nRef := n.nRef + 1, zombie := false }

theorem addPageNet_id (pg subno : Nat) (n : Net) : (addPageNet pg subno n).id = n.id := rfl
theorem addPageNet_nCached (pg subno : Nat) (n : Net) : (addPageNet pg subno n).nCached = n.nCached + 1 := rfl
theorem addPageNet_nRef (pg subno : Nat) (n : Net) : (addPageNet pg subno n).nRef = n.nRef + 1 := rfl
theorem addPageNet_ref (pg subno : Nat) (n : Net) : (addPageNet pg subno n).ref = n.ref := rfl
theorem addPageNet_zombie (pg subno : Nat) (n : Net) : (addPageNet pg subno n).zombie = false := rfl
theorem addPageNet_getStat (pg subno pg' : Nat) (n : Net) : (addPageNet pg subno n).getStat pg'
    = if pg' = pg then addStat subno (n.getStat pg) else n.getStat pg' :=
  getStat_setStat _ _ _ _
theorem addPageNet_nSub (pg subno pg' : Nat) (n : Net) : ((addPageNet pg subno n).getStat pg').nSub
    = if pg' = pg then ((n.getStat pg).nSub + 1) % 65536 else (n.getStat pg').nSub := by
  rw [addPageNet_getStat]; split <;> rfl

/-- a new referenced page of network `n` enters the cache -/
theorem addPage_invW {s : State} (h : InvW s) {n : Net} (hn : n ∈ s.nets) (p : Page)
    (hpid : p.id = s.nextPid) (hpnet : p.net = n.id) (hpref : p.ref = 1) (subno : Nat) :
    InvW { s with pages := p :: s.pages, nextPid := s.nextPid + 1, referenced := s.referenced ++ [p.id],
                  nets := updNid s.nets n.id (addPageNet p.pgno subno), nCachedPages := s.nCachedPages + 1,
                  nCachedNets := s.nCachedNets + (if n.zombie then 1 else 0) } := by
  have hfresh : ∀ q ∈ s.pages, q.id ≠ p.id := fun q hq e => by have := h.pidLt q hq; omega
  have hmemnet : ∀ n', n' ∈ updNid s.nets n.id (addPageNet p.pgno subno) ↔
      ∃ m ∈ s.nets, n' = if m.id = n.id then addPageNet p.pgno subno m else m := fun n' => mem_updNid
  have hid : ∀ m : Net, (if m.id = n.id then addPageNet p.pgno subno m else m).id = m.id := by
    intro m; split
    · exact addPageNet_id _ _ _
    · rfl
  have hm : ∀ m ∈ s.nets, m.id = n.id → m = n := fun m hm e => net_unique h.nidNodup hm hn e
  constructor
  · show IdsNodup (p :: s.pages); rw [idsNodup_cons]; exact ⟨hfresh, h.pidNodup⟩
  · intro q hq; show q.id < s.nextPid + 1
    rcases List.mem_cons.1 hq with rfl | hq
    · omega
    · have := h.pidLt q hq; omega
  · exact h.priNodup
  · show (s.referenced ++ [p.id]).Nodup
    refine nodup_append_singleton h.refNodup ?_
    intro hc; obtain ⟨q, hq, e, _⟩ := (h.refMem p.id).1 hc; exact hfresh q hq e
  · exact OnList.cons (P := (· = 0)) h.priMem fun _ => ⟨Or.inl, fun x => x.elim (fun y => y) fun y => by have := y.2; omega⟩
  · exact OnList.cons (P := (0 < ·)) h.refMem fun _ => by
      rw [List.mem_append, List.mem_singleton]
      exact or_congr_right ⟨fun e => ⟨e, by omega⟩, (·.1)⟩
  · intro q hq hz
    rcases List.mem_cons.1 hq with rfl | hq
    · omega
    · exact h.zombieRef q hq hz
  · show ((updNid s.nets n.id (addPageNet p.pgno subno)).map (·.id)).Nodup
    rw [map_updNid (·.id) (fun m => addPageNet_id _ _ m)]; exact h.nidNodup
  · intro n' hn'; obtain ⟨m, hm', rfl⟩ := (hmemnet n').1 hn'
    rw [hid]; exact h.nidLt m hm'
  · intro q hq
    rcases List.mem_cons.1 hq with rfl | hq
    · exact ⟨_, (hmemnet _).2 ⟨n, hn, rfl⟩, by rw [hid, hpnet]⟩
    · obtain ⟨m, hm', e⟩ := h.netOf q hq
      exact ⟨_, (hmemnet _).2 ⟨m, hm', rfl⟩, by rw [hid]; exact e⟩
  · intro n' hn'; obtain ⟨m, hm', rfl⟩ := (hmemnet n').1 hn'
    show _ = (p :: s.pages).countP _
    rw [hid, List.countP_cons]
    have h1 := h.nCached m hm'
    split <;> rename_i e
    · have := hm m hm' e; subst this
      rw [addPageNet_nCached]; simp only [hpnet, decide_true, if_true]; omega
    · have : ¬ p.net = m.id := fun x => e (hpnet ▸ x).symm
      simp only [this, decide_false, Bool.false_eq_true, if_false]; omega
  · intro n' hn'; obtain ⟨m, hm', rfl⟩ := (hmemnet n').1 hn'
    show _ = (p :: s.pages).countP _
    rw [hid, List.countP_cons]
    have h1 := h.nRef m hm'
    split <;> rename_i e
    · have := hm m hm' e; subst this
      rw [addPageNet_nRef]; simp only [hpnet, hpref, true_and, Nat.lt_add_one, decide_true, if_true]; omega
    · have : ¬ p.net = m.id := fun x => e (hpnet ▸ x).symm
      simp only [this, false_and, decide_false, Bool.false_eq_true, if_false]; omega
  · intro n' hn' pg; obtain ⟨m, hm', rfl⟩ := (hmemnet n').1 hn'
    show _ = (p :: s.pages).countP _ % 65536
    rw [hid, List.countP_cons]
    have h1 := h.nSub m hm' pg
    split <;> rename_i e
    · have := hm m hm' e; subst this
      rw [addPageNet_nSub]
      split <;> rename_i e2
      · simp only [hpnet, e2, and_self, decide_true, if_true]; rw [← e2]; omega
      · have : ¬ p.pgno = pg := fun x => e2 x.symm
        simp only [this, and_false, decide_false, Bool.false_eq_true, if_false]; omega
    · have : ¬ p.net = m.id := fun x => e (hpnet ▸ x).symm
      simp only [this, false_and, decide_false, Bool.false_eq_true, if_false]; omega
  · show s.nCachedPages + 1 = (p :: s.pages).length
    rw [List.length_cons, h.nPages]
  · show s.memUsed = fsum (fun q => decide (q.ref = 0)) Page.size (p :: s.pages)
    rw [fsum_cons]
    have : ¬ p.ref = 0 := by omega
    simp only [this, decide_false, Bool.false_eq_true, if_false]
    have := h.mem; unfold fsum; omega
  · show s.nCachedNets + _ = (updNid s.nets n.id (addPageNet p.pgno subno)).countP _
    have key := countP_updNid_one h.nidNodup hn (addPageNet p.pgno subno) (fun n => !n.zombie)
    have := h.nNets
    simp only [addPageNet_zombie, Bool.not_false, if_true] at key
    by_cases hz : n.zombie = true
    · simp only [hz, Bool.not_true, Bool.false_eq_true, if_false, if_true] at key ⊢; omega
    · have hz' : n.zombie = false := by simpa using hz
      simp only [hz', Bool.not_false, if_true, Bool.false_eq_true, if_false] at key ⊢; omega

theorem unzombieNet_eq {s : State} (hnd : NidsNodup s.nets) {n : Net} (hn : n ∈ s.nets) :
    s.unzombieNet n.id = { s with nets := updNid s.nets n.id (fun m => { m with zombie := false }),
                                  nCachedNets := s.nCachedNets + (if n.zombie then 1 else 0) } := by
  have hf : s.findNet n.id = some n := findNet_of_mem hnd hn
  rcases unzombieNet_cases s n.id with ⟨e, hz⟩ | ⟨m, hfm, hz, e⟩ <;> rw [e]
  · have hz' := hz n hf
    rw [hz']
    apply State.eq_of_fields <;> try rfl
    · show s.nets = updNid s.nets n.id _
      rw [updNid_id_of_eq]
      intro m hm e
      have : m = n := net_unique hnd hm hn e
      subst this; cases m; simp only at hz'; subst hz'; rfl
  · rw [hf] at hfm; cases hfm; rw [hz]; rfl

theorem netAddPage_eq {s : State} (hnd : NidsNodup s.nets) {n : Net} (hn : n ∈ s.nets) (pg subno : Nat) :
    s.netAddPage n.id pg subno =
      { s with nets := updNid s.nets n.id (fun m => netAddFn pg subno { m with zombie := false }),
               nCachedNets := s.nCachedNets + (if n.zombie then 1 else 0) } := by
  unfold State.netAddPage
  simp only
  rw [unzombieNet_eq hnd hn]
  apply State.eq_of_fields <;> try rfl
  show updNid (updNid s.nets n.id _) n.id _ = _
  rw [updNid_updNid _ _ (fun m => ({ m with zombie := false } : Net)) _ (fun _ => rfl)]
  exact congrArg (updNid s.nets n.id) (funext fun m => netAddFn_chain pg subno _)

/-- `insertNew` in the form of `addPage_invW` -/
theorem insertNew_eq {s : State} (hnd : NidsNodup s.nets) {n : Net} (hn : n ∈ s.nets) (a : PutArg) (subno : Nat) :
    (s.insertNew n.id a subno).1 =
      { s with pages := (s.insertNew n.id a subno).2 :: s.pages, nextPid := s.nextPid + 1,
               referenced := s.referenced ++ [(s.insertNew n.id a subno).2.id],
               nets := updNid s.nets n.id (addPageNet a.pgno subno),
               nCachedNets := s.nCachedNets + (if n.zombie then 1 else 0) } := by
  have hn1 : ({ n with nRef := n.nRef + 1 } : Net) ∈ updNid s.nets n.id (fun n => { n with nRef := n.nRef + 1 }) :=
    mem_updNid.2 ⟨n, hn, by rw [if_pos rfl]⟩
  have hnd1 : NidsNodup (updNid s.nets n.id (fun n => { n with nRef := n.nRef + 1 })) := by
    show (List.map _ _).Nodup
    rw [map_updNid (f := fun n => { n with nRef := n.nRef + 1 }) (·.id) (fun _ => rfl)]; exact hnd
  have e : (s.insertNew n.id a subno).1 = State.netAddPage
      { s with pages := (s.insertNew n.id a subno).2 :: s.pages, nextPid := s.nextPid + 1,
               referenced := s.referenced ++ [(s.insertNew n.id a subno).2.id],
               nets := updNid s.nets n.id (fun n => { n with nRef := n.nRef + 1 }) }
      ({ n with nRef := n.nRef + 1 } : Net).id a.pgno subno := rfl
  rw [e, netAddPage_eq hnd1 hn1]
  apply State.eq_of_fields <;> try rfl
  show updNid (updNid s.nets n.id _) n.id _ = _
  rw [updNid_updNid _ _ (fun n => ({ n with nRef := n.nRef + 1 } : Net)) _ (fun _ => rfl)]
  rfl

theorem putPri_ne_zombie (pgno subno : Nat) (func : Int) : putPri pgno subno func ≠ .zombie := by
  have hs : Pri.special ≠ .zombie := by decide
  have hn : Pri.normal ≠ .zombie := by decide
  have k := @ite_both Pri (· ≠ Pri.zombie)
  exact k hs (k hs (k hn (k hs (k hs hn))))

/-- how every successful store ends: `++ca->n_cached_pages`, then the new page enters (`insertNew`) -/
def State.store (s : State) (nid : Nat) (a : PutArg) (subno : Nat) : State :=
  (({ s with nCachedPages := s.nCachedPages + 1 } : State).insertNew nid a subno).1

/-- the store on the page list and the network list: a new retrievable page of the network, with the key stored, in front;
    the record of the network updated by `addPageNet` -/
theorem store_shape {s : State} (h : InvW s) {n : Net} (hn : n ∈ s.nets) (a : PutArg) (subno : Nat) :
    ∃ np : Page, (s.store n.id a subno).pages = np :: s.pages
      ∧ (s.store n.id a subno).nets = updNid s.nets n.id (addPageNet a.pgno subno)
      ∧ np.net = n.id ∧ np.pgno = a.pgno ∧ np.subno = subno ∧ np.pri ≠ .zombie := by
  unfold State.store
  rw [insertNew_eq (s := { s with nCachedPages := s.nCachedPages + 1 }) h.nidNodup hn]
  exact ⟨_, rfl, rfl, rfl, rfl, rfl, putPri_ne_zombie _ _ _⟩

theorem store_invW {s : State} (h : InvW s) {n : Net} (hn : n ∈ s.nets) (a : PutArg) (subno : Nat) :
    InvW (s.store n.id a subno) := by
  unfold State.store
  rw [insertNew_eq (s := { s with nCachedPages := s.nCachedPages + 1 }) h.nidNodup hn]
  exact addPage_invW h hn _ rfl rfl rfl subno

/-- the zombie clause after the store: the page's network is no zombie any more -/
theorem store_znet {s : State} (h : InvW s) {n : Net} (hn : n ∈ s.nets) {P : Nat → Prop} (hz : ZNetOn s P)
    (a : PutArg) (subno : Nat) : ZNetOn (s.store n.id a subno) P := by
  obtain ⟨_, _, e, _⟩ := store_shape h hn a subno
  intro m' hm' hp
  rw [e] at hm'
  obtain ⟨m, hm, rfl⟩ := mem_updNid.1 hm'
  split
  · intro hzz; rw [addPageNet_zombie] at hzz; cases hzz
  · rename_i e; rw [if_neg e] at hp; exact hz m hm hp

theorem insertNew_pages (s : State) (nid : Nat) (a : PutArg) (subno : Nat) :
    (s.insertNew nid a subno).1.pages = (s.insertNew nid a subno).2 :: s.pages := unzombieNet_pages _ nid

/-- the store keeps every page there was and writes neither memory counter (the new page is referenced) -/
theorem store_frame (s : State) (nid : Nat) (a : PutArg) (subno : Nat) :
    (∀ q ∈ s.pages, q ∈ (s.store nid a subno).pages)
    ∧ (s.store nid a subno).memUsed = s.memUsed ∧ (s.store nid a subno).memLimit = s.memLimit :=
  ⟨fun q hq => by unfold State.store; rw [insertNew_pages]; exact List.mem_cons_of_mem _ hq, unzombieNet_mem _ nid⟩

end Zvbi.Cache
