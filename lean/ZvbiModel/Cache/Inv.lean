import ZvbiModel.Cache.LemmasNet
/-!
# The invariant in the form the proofs use

`Inv` (Cache/Spec.lean) is taken apart into `InvW` - the clauses every single change of the state keeps -, the clause about
zombie networks `ZNet`, which `cache_page_unref` and `cache_network_unref` break for a moment, and the memory limit:
`Good` (`inv_iff_good`).  `netKey`: the fields of a network record `ZNet` looks at.
-/
namespace Zvbi.Cache

/-- `InvCore` without the clause about zombie networks (which is broken between
    `--cn->n_referenced_pages` and `delete_network` inside `cache_page_unref`) -/
structure InvW (s : State) : Prop where
  pidNodup : (s.pages.map (·.id)).Nodup
  pidLt : ∀ p ∈ s.pages, p.id < s.nextPid
  priNodup : s.priority.Nodup
  refNodup : s.referenced.Nodup
  priMem : ∀ id, id ∈ s.priority ↔ ∃ p ∈ s.pages, p.id = id ∧ p.ref = 0
  refMem : ∀ id, id ∈ s.referenced ↔ ∃ p ∈ s.pages, p.id = id ∧ 0 < p.ref
  zombieRef : ∀ p ∈ s.pages, p.pri = .zombie → 0 < p.ref
  nidNodup : (s.nets.map (·.id)).Nodup
  nidLt : ∀ n ∈ s.nets, n.id < s.nextNid
  netOf : ∀ p ∈ s.pages, ∃ n ∈ s.nets, n.id = p.net
  nCached : ∀ n ∈ s.nets, n.nCached = s.pages.countP (fun p => p.net = n.id)
  nRef : ∀ n ∈ s.nets, n.nRef = s.pages.countP (fun p => p.net = n.id ∧ 0 < p.ref)
  nSub : ∀ n ∈ s.nets, ∀ pg, (n.getStat pg).nSub
      = s.pages.countP (fun p => p.net = n.id ∧ p.pgno = pg) % 65536
  nPages : s.nCachedPages = s.pages.length
  mem : s.memUsed = ((s.pages.filter (fun p => p.ref = 0)).map Page.size).sum
  nNets : s.nCachedNets = s.nets.countP (fun n => !n.zombie)

/-- a zombie network is still referenced -/
def ZOk (n : Net) : Prop := n.zombie = true → 0 < n.ref ∨ 0 < n.nRef

/-- the zombie-network clause for the networks whose id satisfies `P` -/
def ZNetOn (s : State) (P : Nat → Prop) : Prop := ∀ n ∈ s.nets, P n.id → ZOk n

abbrev ZNet (s : State) : Prop := ZNetOn s (fun _ => True)

/-- working form of `Inv` -/
def Good (s : State) : Prop := InvW s ∧ ZNet s ∧ s.memUsed ≤ s.memLimit

theorem invCore_iff {s : State} : InvCore s ↔ InvW s ∧ ZNet s :=
  ⟨fun h => ⟨{ h with }, fun n hn _ hz => h.zombieNet n hn hz⟩,
   fun ⟨h, z⟩ => { h with zombieNet := fun n hn hz => z n hn trivial hz }⟩

theorem inv_iff_good {s : State} : Inv s ↔ Good s :=
  ⟨fun h => ⟨(invCore_iff.1 h.toInvCore).1, (invCore_iff.1 h.toInvCore).2, h.memLe⟩,
   fun ⟨a, b, c⟩ => ⟨invCore_iff.2 ⟨a, b⟩, c⟩⟩

/-- no clause mentions `memory_limit` -/
theorem invW_memLimit {s : State} (h : InvW s) (n : Nat) : InvW ({ s with memLimit := n } : State) := { h with }

/-- the fields the zombie-network clause looks at -/
def netKey (n : Net) : Nat × Nat × Nat × Bool := (n.id, n.ref, n.nRef, n.zombie)

theorem netKey_eq {m n : Net} :
    netKey m = netKey n ↔ m.id = n.id ∧ m.ref = n.ref ∧ m.nRef = n.nRef ∧ m.zombie = n.zombie := by
  simp only [netKey, Prod.mk.injEq]

theorem mem_of_key {s s' : State} (hk : s'.nets.map netKey = s.nets.map netKey) {n : Net} (hn : n ∈ s'.nets) :
    ∃ m ∈ s.nets, netKey m = netKey n := by
  have : netKey n ∈ s.nets.map netKey := hk ▸ List.mem_map_of_mem hn
  obtain ⟨m, hm, e⟩ := List.mem_map.1 this
  exact ⟨m, hm, e⟩

theorem zok_of_key {m n : Net} (e : netKey m = netKey n) (h : ZOk m) : ZOk n := by
  obtain ⟨_, e2, e3, e4⟩ := netKey_eq.1 e
  intro hz; have := h (by rw [e4]; exact hz); omega

theorem znet_of_key {s s' : State} {P : Nat → Prop} (hk : s'.nets.map netKey = s.nets.map netKey)
    (h : ZNetOn s P) : ZNetOn s' P := by
  intro n hn hx
  obtain ⟨m, hm, e⟩ := mem_of_key hk hn
  exact zok_of_key e (h m hm (by rw [(netKey_eq.1 e).1]; exact hx))

/-- one record changes: the clause is kept for every other network -/
theorem ZNetOn.updNid {s s' : State} {x : Nat} {f : Net → Net} {P : Nat → Prop} (e : s'.nets = updNid s.nets x f)
    (hid : ∀ n, (f n).id = n.id) (hz : ZNetOn s P) : ZNetOn s' (fun i => P i ∧ i ≠ x) := by
  intro n' hn' hp
  rw [e] at hn'
  obtain ⟨n, hn, rfl⟩ := mem_updNid.1 hn'
  split
  · rename_i c; rw [if_pos c, hid] at hp; exact absurd c hp.2
  · rename_i c; rw [if_neg c] at hp; exact hz n hn hp.1

end Zvbi.Cache
