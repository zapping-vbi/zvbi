import ZvbiModel.Cache.Spec
/-!
# Concrete histories on which full-strength statements fail (replayed on the C code by checks/C10.py)

`dup_key_witness`, `page_bound_witness`: read by the `_counterexample` theorems of Props/C10.lean.  `put_reuse_overflow_witness`
(latent: needs a memory limit libzvbi 0.2 cannot set) is cited from NOTES/C10.md 'Defects' only.
-/
namespace Zvbi.Cache

/-- F17: the same BCD page stored with a subpage subcode (key class 0xFF) and a clock-time subcode
    (single version, key class 0) in turn; no reference is kept -/
def dupOps : List Op :=
  [.addNet, .put 0 ⟨0x101, 1, 0, 0, 0, 1⟩, .unref 0, .put 0 ⟨0x101, 0x102, 0, 0, 0, 2⟩, .unref 1,
   .put 0 ⟨0x101, 1, 0, 0, 0, 3⟩, .unref 2, .put 0 ⟨0x101, 0x102, 0, 0, 0, 4⟩, .unref 3]

set_option maxRecDepth 100000 in
/-- two cached versions with the same (network, page, subpage) key: the cache is not a map -/
theorem dup_key_witness :
    ((run init dupOps).pages.map (fun p => (p.id, p.net, p.pgno, p.subno, p.pri, p.tag)))
      = [(3, 0, 0x101, 0x102, .normal, 4), (1, 0, 0x101, 0x102, .normal, 2)] := by
  decide +kernel

/-- `k` pairs of such puts -/
def pairOps : Nat → Nat → List Op
  | 0, _ => []
  | k + 1, h => .put 0 ⟨0x101, 1, 0, 0, 0, 2 * h⟩ :: .unref (2 * h) :: .put 0 ⟨0x101, 0x102, 0, 0, 0, 2 * h + 1⟩
      :: .unref (2 * h + 1) :: pairOps k (h + 1)

set_option maxRecDepth 1000000 in
/-- 81 pairs: 81 retrievable copies of one page number (cache.c asserts `n_subpages <= 80` under
    CACHE_CONSISTENCY), all under the same (network, page, subpage) key -/
theorem page_bound_witness :
    ((run init (.addNet :: pairOps 81 0)).nets.map (fun n => ((n.getStat 0x101).nSub,
        (run init (.addNet :: pairOps 81 0)).pages.countP (fun p => p.net = n.id ∧ p.pgno = 0x101 ∧ p.subno = 0x102
          ∧ p.pri ≠ .zombie)))) = [(81, 81)] := by
  decide +kernel

/-- latent (memory limit is a constant in 0.2): with a limit that leaves exactly the size difference free,
    `_vbi_cache_put_page` reuses a smaller struct for a larger page (`memcpy` past the allocation) -/
def reuseOps : List Op :=
  [.addNet, .put 0 ⟨0x101, 0, 9, 0, 0, 1⟩, .unref 0, .setLimit (1196 + 368), .put 0 ⟨0x101, 0, 0, 0, 0, 2⟩]

set_option maxRecDepth 100000 in
/-- the last store of `reuseOps` after the four operations before it: the model reports the overrun -/
theorem put_reuse_overflow_witness :
    (step (run init (reuseOps.take 4)) (.put 0 ⟨0x101, 0, 0, 0, 0, 2⟩)).2 = .err (.oob "put_reuse_memcpy") := by
  decide +kernel

end Zvbi.Cache
