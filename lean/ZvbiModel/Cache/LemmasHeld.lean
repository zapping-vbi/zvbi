import ZvbiModel.Cache.LemmasTeardown
/-!
# A page held by a caller stays intact
-/
namespace Zvbi.Cache

/-- operations that do not take or release page references: every held page survives them unchanged -/
theorem held_stepF (fix : Bool) {s : State} (g : Good s) (op : Op)
    (hop : match op with
      | .get .. | .ref .. | .unref .. | .isCached .. | .foreach .. => False
      | _ => True) : HeldKept s (stepF fix s op).1 := by
  have m := (stepF_moves fix g op).1
  cases op <;> simp only [Op.kinds] at m hop
  case put nid a =>
    rcases m with m | ⟨cn, s0, _, m, e⟩
    · exact (m.mono (by decide)).held g.1
    · rw [e]
      intro p hp hr
      obtain ⟨q, hq, b⟩ := (m.mono (by decide)).held g.1 p hp hr
      exact ⟨q, (store_frame s0 nid a _).1 q hq, b⟩
  case setLimit n =>
    exact HeldKept.trans (fun p hp _ => ⟨p, hp, sameBody.refl p⟩) ((m.mono (by decide)).held (invW_memLimit g.1 n))
  all_goals exact (m.mono (by decide)).held g.1

/-- `cache_page_ref (cp)`: every page stays, only `cp` gains one reference -/
theorem pageRef_ledger (s : State) (x : Nat) :
    ∀ q ∈ s.pages, ∃ q' ∈ (s.pageRef x).pages, sameCont q q'
      ∧ q'.ref = q.ref + (if q.id = x ∧ (s.findPage x).isSome then 1 else 0) := by
  intro q hq
  rcases pageRef_cases s x with ⟨hf, e⟩ | ⟨p, hf, _⟩
  · rw [e, hf]; exact ⟨q, hq, sameCont.refl q, by simp⟩
  · obtain ⟨hp, rfl⟩ := findPage_some hf
    rw [pageRef_pages s hf]
    refine ⟨_, mem_updId.2 ⟨q, hq, rfl⟩, ?_, ?_⟩
    · split
      · exact ⟨rfl, rfl, rfl, rfl, rfl, rfl, rfl, rfl⟩
      · exact sameCont.refl q
    · by_cases e : q.id = p.id
      · simp [e, hf]
      · simp [e]

/-- `cache_page_unref (cp)`: every other referenced page stays as it is, `cp` loses one reference or,
    if that was the last one, is no longer held -/
theorem pageUnref_ledger {s : State} (h : InvW s) (x : Nat) :
    ∀ q ∈ s.pages, 0 < q.ref → (q.id = x ∧ q.ref = 1) ∨
      ∃ q' ∈ (s.pageUnref x).pages, sameCont q q' ∧ q'.ref + (if q.id = x then 1 else 0) = q.ref := by
  intro q hq hqr
  rcases pageUnref_cases s x with ⟨e, h0⟩ | ⟨p, hf, c⟩
  · rw [e]
    refine Or.inr ⟨q, hq, sameCont.refl q, ?_⟩
    rw [if_neg (fun e => by have := h0 q (e ▸ findPage_of_invW h hq); omega)]; rfl
  · obtain ⟨hp, rfl⟩ := findPage_some hf
    by_cases e : q.id = p.id
    · have : q = p := mem_unique h.pidNodup hq hp e
      subst this
      rcases c with ⟨hr, e'⟩ | ⟨hr, _, _⟩ | ⟨hr, _, _⟩
      · rw [e']
        refine Or.inr ⟨{ q with ref := q.ref - 1 }, ?_, ⟨rfl, rfl, rfl, rfl, rfl, rfl, rfl, rfl⟩, ?_⟩
        · rw [updPage_pages]; exact mem_updId.2 ⟨q, hq, by rw [if_pos rfl]⟩
        · simp only [if_true]; show q.ref - 1 + 1 = q.ref; omega
      · exact Or.inl ⟨rfl, hr⟩
      · exact Or.inl ⟨rfl, hr⟩
    · right
      rw [if_neg e]
      -- `q` is another page and referenced: nothing deletes it
      have tail : ∀ (s1 : State), InvW s1 → q ∈ s1.pages →
          ∃ q' ∈ (s1.unrefTail p.net).pages, sameCont q q' ∧ q'.ref + 0 = q.ref := by
        intro s1 h1 hq1
        obtain ⟨q3, hq3, b3⟩ := ((unrefTail_moves h1 p.net).mono (by decide)).held h1 q hq1 hqr
        exact ⟨q3, hq3, b3.cont, by rw [← b3.ref]; rfl⟩
      rcases c with ⟨_, e'⟩ | ⟨hr, hz, e'⟩ | ⟨hr, hz, e'⟩ <;> rw [e']
      · refine ⟨q, ?_, sameCont.refl q, rfl⟩
        rw [updPage_pages]; exact mem_updId.2 ⟨q, hq, by rw [if_neg e]⟩
      · refine tail _ (unrefLast_invW h hp hr hz) ?_
        exact mem_updId.2 ⟨q, hq, by rw [if_neg e]⟩
      · refine tail _ (unrefZombie_invW h hp hr hz) ?_
        rw [unrefZombie_eq h hp hz]; exact mem_rmId.2 ⟨hq, e⟩

/-- reference ledger relative to a start state: every page held there is still here, with exactly one
    more reference if it is the page the walk currently holds -/
def Ledger (s0 s : State) (cp : Option Nat) : Prop :=
  ∀ q ∈ s0.pages, 0 < q.ref → ∃ q' ∈ s.pages, sameCont q q' ∧ q'.ref = q.ref + (if cp = some q.id then 1 else 0)

theorem Ledger.refl (s : State) : Ledger s s none := fun q hq _ => ⟨q, hq, sameCont.refl q, by simp⟩

theorem ledger_ref {s0 s : State} (l : Ledger s0 s none) (h : InvW s) {p : Page} (hp : p ∈ s.pages) :
    Ledger s0 (s.pageRef p.id) (some p.id) := by
  intro q hq hr
  obtain ⟨q1, hq1, c1, r1⟩ := l q hq hr
  obtain ⟨q2, hq2, c2, r2⟩ := pageRef_ledger s p.id q1 hq1
  refine ⟨q2, hq2, c1.trans c2, ?_⟩
  rw [r2, r1, findPage_of_invW h hp]
  simp only [reduceCtorEq, if_false, Nat.add_zero, Option.isSome_some, and_true, Option.some.injEq]
  rw [← c1.id]
  by_cases e : q.id = p.id
  · simp [e]
  · have e' : ¬ p.id = q.id := fun x => e x.symm
    simp [e, e']

theorem ledger_unref {s0 s : State} {x : Nat} (l : Ledger s0 s (some x)) (h : InvW s) :
    Ledger s0 (s.pageUnref x) none := by
  intro q hq hr
  obtain ⟨q1, hq1, c1, r1⟩ := l q hq hr
  have hq1r : 0 < q1.ref := by omega
  rcases pageUnref_ledger h x q1 hq1 hq1r with ⟨e, e1⟩ | ⟨q2, hq2, c2, r2⟩
  · -- the walk's own reference was on top of the client's: not the last one
    rw [← c1.id] at e
    rw [if_pos (by rw [e])] at r1
    omega
  · refine ⟨q2, hq2, c1.trans c2, ?_⟩
    rw [← c1.id] at r2
    by_cases e : q.id = x
    · rw [if_pos e] at r2; rw [if_pos (by rw [e])] at r1; simp; omega
    · rw [if_neg e] at r2
      have : ¬ (some x = some q.id) := by simpa using fun y => e y.symm
      rw [if_neg this] at r1; simp; omega

/-- look-up + reference (common part of `_vbi_cache_get_page` and the exact look-up of the walk) -/
theorem ledger_lookup {s0 s : State} (l : Ledger s0 s none) (h : InvW s) (nid pgno subno mask : Nat) :
    Ledger s0 (lookupRes (s.pageByPgno nid pgno subno mask)).1 ((lookupRes (s.pageByPgno nid pgno subno mask)).2.map (·.id)) := by
  rcases lookupRes_cases h nid pgno subno mask with ⟨_, e⟩ | ⟨p, hf, e⟩ <;> rw [e]
  · exact l
  · have hp := List.mem_of_find?_eq_some hf
    have lm : Ledger s0 { s with pages := p :: rmId s.pages p.id } none := fun q hq hr =>
      have ⟨q1, hq1, c⟩ := l q hq hr
      ⟨q1, (mem_moveFront h.pidNodup hp).2 hq1, c⟩
    exact ledger_ref lm (moveFront_invW h hp) List.mem_cons_self

theorem ledger_getPage {s0 s : State} (l : Ledger s0 s none) (h : InvW s) (nid pgno : Nat) (subno : Int) (mask : Nat) :
    Ledger s0 (s.getPage nid pgno subno mask).1 ((s.getPage nid pgno subno mask).2.map (·.id)) := by
  rw [getPage_eq]
  split
  · exact l
  · exact ledger_lookup l h nid pgno subno.toNat _

theorem ledger_lookupExact {s0 s : State} (l : Ledger s0 s none) (h : InvW s) (nid pgno : Nat) (subno : Int) :
    Ledger s0 (s.lookupExact nid pgno subno).1 ((s.lookupExact nid pgno subno).2.map (·.id)) := by
  rw [lookupExact_eq]
  split
  · exact l
  · exact ledger_lookup l h nid pgno subno.toNat _

/-- both shapes of the start look-up -/
theorem ledger_foreachS (exact : Bool) {s : State} (g : Good s) (nid pgno subno : Nat) (dir : Int) (stop fuel : Nat) :
    ∃ cp', Ledger s (s.foreachPageS exact nid pgno subno dir stop fuel).1 cp' := by
  obtain ⟨cp', _, l⟩ := foreachPageS_rule (J := fun a cp => Good a ∧ Ledger s a (cp.map Page.id))
    (fun {a p} j => ⟨good_pageUnref j.1 p.id, ledger_unref j.2 j.1.1⟩)
    (fun nid pg sb j => ⟨(lookupExact_moves j.1.1 nid pg sb).good (by decide) j.1, ledger_lookupExact j.2 j.1.1 nid pg sb⟩)
    (fun nid pg sb mask j => ⟨good_getPage j.1 nid pg sb mask, ledger_getPage j.2 j.1.1 nid pg sb mask⟩)
    exact ⟨g, Ledger.refl s⟩ nid pgno subno dir stop fuel
  exact ⟨_, l⟩

theorem ledger_ge {s0 s : State} {cp : Option Nat} (l : Ledger s0 s cp) :
    ∀ q ∈ s0.pages, 0 < q.ref → ∃ q' ∈ s.pages, sameCont q q' ∧ q.ref ≤ q'.ref := by
  intro q hq hr
  obtain ⟨q', hq', c, r⟩ := l q hq hr
  exact ⟨q', hq', c, by omega⟩

/-- through any operation a held page keeps its content; its reference count changes only by the references the operation
    takes or releases on it; it disappears only by the release of its last reference.  The calls that take or release
    references are followed through the `Ledger`, all others keep every held page as it is (`held_stepF`). -/
theorem held_full_stepF (fix : Bool) {s : State} (g : Good s) (op : Op) (p : Page) (hp : p ∈ s.pages) (hr : 0 < p.ref) :
    (op = .unref p.id ∧ p.ref = 1) ∨
    ∃ q ∈ (stepF fix s op).1.pages, sameCont p q ∧ p.ref ≤ q.ref + (if op = .unref p.id then 1 else 0) := by
  have viaLedger : ∀ {cp'}, Ledger s (stepF fix s op).1 cp' →
      ∃ q ∈ (stepF fix s op).1.pages, sameCont p q ∧ p.ref ≤ q.ref + (if op = .unref p.id then 1 else 0) := fun l =>
    have ⟨q, hq, c, r⟩ := ledger_ge l p hp hr
    ⟨q, hq, c, by omega⟩
  have h := g.1
  rcases stepF_fst fix s op with e | e
  · rw [e]; exact Or.inr ⟨p, hp, sameCont.refl p, by omega⟩
  cases op with
  | get nid pgno subno mask => rw [e]; rw [e] at viaLedger; exact Or.inr (viaLedger (ledger_getPage (Ledger.refl s) h _ _ _ _))
  | ref pid =>
    rw [e] at viaLedger ⊢
    rcases pageRef_cases s pid with ⟨_, e⟩ | ⟨p0, hf, _⟩
    · rw [e] at viaLedger ⊢; exact Or.inr (viaLedger (Ledger.refl s))
    · obtain ⟨hp0, rfl⟩ := findPage_some hf
      exact Or.inr (viaLedger (ledger_ref (Ledger.refl s) h hp0))
  | unref pid =>
    rw [e]
    rcases pageUnref_ledger h pid p hp hr with ⟨e, e1⟩ | ⟨q, hq, c, r⟩
    · left; exact ⟨by rw [e], e1⟩
    · right
      refine ⟨q, hq, c, ?_⟩
      by_cases e : p.id = pid
      · rw [if_pos e] at r; rw [if_pos (by rw [e])]; omega
      · rw [if_neg e] at r; omega
  | isCached nid pgno subno =>
    rw [e] at viaLedger ⊢
    have l1 := ledger_getPage (Ledger.refl s) h nid pgno (subno : Int) 0xFFFFFFFF
    have g1 := good_getPage g nid pgno (subno : Int) 0xFFFFFFFF
    generalize s.getPage nid pgno (subno : Int) 0xFFFFFFFF = r at l1 g1 viaLedger ⊢
    obtain ⟨s', o⟩ := r
    cases o with
    | none => exact Or.inr (viaLedger l1)
    | some p0 => exact Or.inr (viaLedger (ledger_unref l1 g1.1))
  | «foreach» nid pgno subno back stop =>
    rw [e] at viaLedger ⊢
    obtain ⟨_, l⟩ := ledger_foreachS Gen.Cache.walkStartExact g nid pgno subno (if back then -1 else 1) stop walkFuel
    exact Or.inr (viaLedger l)
  | put | hiSubno | addNet | netRef | netUnref | chsw | statReset | ptype | purge | setLimit =>
    exact Or.inr ((held_stepF fix g _ trivial p hp hr).imp fun q b => ⟨b.1, b.2.cont, by rw [b.2.ref]; omega⟩)

theorem held_historyF (fix : Bool) {s : State} (g : Good s) (ops : List Op) (p : Page) (hp : p ∈ s.pages) (hr : 0 < p.ref)
    (hno : ∀ op ∈ ops, op ≠ .unref p.id) :
    ∃ q ∈ (runF fix s ops).pages, sameCont p q ∧ p.ref ≤ q.ref := by
  induction ops generalizing s p with
  | nil => exact ⟨p, hp, sameCont.refl p, Nat.le_refl _⟩
  | cons op t ih =>
    have hne : op ≠ .unref p.id := hno op List.mem_cons_self
    rcases held_full_stepF fix g op p hp hr with ⟨e, _⟩ | ⟨q, hq, c, r⟩
    · exact absurd e hne
    · rw [if_neg hne] at r
      have hqr : 0 < q.ref := by omega
      obtain ⟨q2, hq2, c2, r2⟩ := ih (good_stepF fix g op) q hq hqr
        (fun o ho => by rw [← c.id]; exact hno o (List.mem_cons_of_mem _ ho))
      exact ⟨q2, hq2, c.trans c2, by omega⟩

theorem good_runFrom {s : State} (g : Good s) (ops : List Op) : Good (run s ops) := by
  rw [← runF_false]; exact good_runF false g ops

theorem good_run (ops : List Op) : Good (run init ops) := good_runFrom good_init ops

theorem held_history {s : State} (g : Good s) (ops : List Op) (p : Page) (hp : p ∈ s.pages) (hr : 0 < p.ref)
    (hno : ∀ op ∈ ops, op ≠ .unref p.id) :
    ∃ q ∈ (run s ops).pages, sameCont p q ∧ p.ref ≤ q.ref := by
  rw [← runF_false]; exact held_historyF false g ops p hp hr hno

end Zvbi.Cache
