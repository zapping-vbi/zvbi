import ZvbiModel.Cache.HiSub
/-!
# `n_subpages` wraps: a witness history for the negation of `hi_subno_agrees_full`

65536 stores of page 10A.5 into one network with every returned reference kept (each store replaces the version
before, which stays allocated as a zombie because its reference is held), then one store of 10A.1.  The `uint16_t`
counter `n_subpages` counts allocated versions - zombies included -, is 0 after the 65536th store and 1 after the
last one, so `cache_network_add_page` takes 10A.1 for "the only cached subpage" and starts the recorded range over:
`subno_min = subno_max = 1` while 10A.5 is cached and retrievable.  The page number is a hex page so that the key
rule does not depend on the page type and both source shapes of `_vbi_cache_put_page` take the same path
(`subno_mask = 0xF`).  The state after `k` stores has a closed form (`wSt`), proved by induction - nothing here is a
bounded computation.  Replayed on the real code: corpus/C10/latent_hi_subno_wrap.txt.
-/
namespace Zvbi.Cache
open Zvbi.Gen.Cache

def wA : PutArg := ⟨0x10A, 5, 0, 0, 0, 7⟩
def wB : PutArg := ⟨0x10A, 1, 0, 0, 0, 8⟩

/-- the version stored by the `i`-th store while it is the retrievable one -/
def wLive (i : Nat) : Page :=
  { id := i, net := 0, pgno := 0x10A, subno := 5, func := 0, x26 := 0, x28 := 0, ref := 1, pri := .normal, tag := 7 }
/-- ... and after it was replaced while its reference is held -/
def wZ (i : Nat) : Page := { wLive i with pri := .zombie }
def wZs : Nat → List Page
  | 0 => []
  | j + 1 => wZ j :: wZs j

/-- the cache after `j + 1` held stores of 10A.5; `n` is the record of the only network -/
def wSt (j : Nat) (n : Net) : State :=
  { pages := wLive j :: wZs j, priority := [], referenced := List.range (j + 1), nets := [n],
    nCachedPages := j + 1, memUsed := 0, memLimit := memoryLimit0, nCachedNets := 1, nNetsLimit := nNetworksLimit0,
    nextPid := j + 1, nextNid := 1 }

/-- what the witness needs to know about the network record after `k` stores -/
def WNet (k : Nat) (n : Net) : Prop :=
  n.id = 0 ∧ n.zombie = false ∧ (n.getStat 0x10A).nSub = k % 65536 ∧ rng n 0x10A = (5, 5)

theorem wZs_id : ∀ (j : Nat) (q : Page), q ∈ wZs j → q.id < j
  | 0, q, h => by simp [wZs] at h
  | j + 1, q, h => by
    simp only [wZs, List.mem_cons] at h
    rcases h with rfl | h
    · exact Nat.lt_succ_self j
    · exact Nat.lt_succ_of_lt (wZs_id j q h)

theorem wZs_zombie : ∀ (j : Nat) (q : Page), q ∈ wZs j → q.pri = .zombie ∧ q.subno = 5 ∧ q.net = 0 ∧ q.pgno = 0x10A
  | 0, q, h => by simp [wZs] at h
  | j + 1, q, h => by
    simp only [wZs, List.mem_cons] at h
    rcases h with rfl | h
    · exact ⟨rfl, rfl, rfl, rfl⟩
    · exact wZs_zombie j q h

theorem wZs_filter (j : Nat) : (wZs j).filter (fun q => q.id ≠ j) = wZs j :=
  List.filter_eq_self.2 (fun q hq => by have := wZs_id j q hq; simp; omega)

theorem wZs_map (j : Nat) (f : Page → Page) : (wZs j).map (fun p => if p.id = j then f p else p) = wZs j := by
  have : ∀ p ∈ wZs j, (fun p => if p.id = j then f p else p) p = id p := by
    intro p hp
    have := wZs_id j p hp
    simp only [id]
    rw [if_neg (by omega)]
  rw [List.map_congr_left this, List.map_id]

theorem wPutKey (t : Nat) (sub : Nat) : putKey t 0x10A sub = (sub, 0xF) := by
  unfold putKey
  rw [if_neg (by decide)]

theorem wPageSize : pageSize 0 0 0 = 1564 := by decide
theorem wPutPri (sub : Nat) : putPri 0x10A sub 0 = .normal := by
  unfold putPri
  rw [if_neg (by decide), if_neg (by decide), if_neg (by decide), if_neg (by decide), if_neg (fun h => absurd h.1 (by decide))]


theorem wFindNet (j : Nat) {n : Net} (hn : n.id = 0) : (wSt j n).findNet 0 = some n := by
  simp [State.findNet, wSt, hn]

/-- the look-up of the version to replace finds the retrievable version, already at the head of its chain -/
theorem wLookup (j : Nat) (n : Net) : (wSt j n).pageByPgno 0 0x10A 5 0xF = (wSt j n, some (wLive j)) := by
  unfold State.pageByPgno
  have h : (wSt j n).pages.find? (pageMatch 0 0x10A 5 0xF) = some (wLive j) := by
    show (wLive j :: wZs j).find? _ = _
    rw [List.find?_cons_of_pos (by simp [pageMatch, wLive])]
  rw [h]
  simp only [wSt, Prod.mk.injEq, and_true]
  congr 1
  show wLive j :: List.filter _ (wLive j :: wZs j) = _
  rw [List.filter_cons_of_neg (by simp [wLive])]
  exact congrArg (wLive j :: ·) (wZs_filter j)

/-- 10A.1 is not cached: the look-up under its key finds nothing -/
theorem wLookupB (j : Nat) (n : Net) : (wSt j n).pageByPgno 0 0x10A 1 0xF = (wSt j n, none) := by
  unfold State.pageByPgno
  have h : (wSt j n).pages.find? (pageMatch 0 0x10A 1 0xF) = none := by
    rw [List.find?_eq_none]
    intro q hq
    have hq' : q = wLive j ∨ q ∈ wZs j := List.mem_cons.1 hq
    rcases hq' with rfl | hz
    · simp [pageMatch, wLive]
    · have := (wZs_zombie j q hz).1
      simp [pageMatch, this]
  rw [h]

theorem wVictim (j : Nat) (n : Net) (avail : Int) :
    (wSt j n).putVictim (some (wLive j)) avail = ({ wSt j n with pages := wZs (j + 1) }, none, avail, []) := by
  unfold State.putVictim
  simp only
  rw [if_pos (show (wLive j).ref > 0 from Nat.one_pos)]
  simp only [Prod.mk.injEq, and_true]
  unfold State.updPage
  congr 1
  show (wLive j :: wZs j).map _ = wZ j :: wZs j
  rw [List.map_cons, if_pos rfl]
  exact congrArg (wZ j :: ·) (wZs_map j _)

/-- the insertion of a new version of 10A into the state after `j + 1` held stores, page list `ps` -/
theorem wInsert (j : Nat) {n : Net} (hn : n.id = 0) (hz : n.zombie = false) (ps : List Page) (sub tag : Nat) :
    (({ wSt j n with pages := ps, nCachedPages := j + 1 + 1 } : State).insertNew 0 ⟨0x10A, sub, 0, 0, 0, tag⟩ sub).1
      = { wSt (j + 1) (addPageNet 0x10A sub n) with
          pages := { id := j + 1, net := 0, pgno := 0x10A, subno := sub, func := 0, x26 := 0, x28 := 0, ref := 1,
                     pri := .normal, tag := tag } :: ps } := by
  have hnd : NidsNodup ({ wSt j n with pages := ps, nCachedPages := j + 1 + 1 } : State).nets := by
    show ([n].map (·.id)).Nodup
    simp
  have hm : n ∈ ({ wSt j n with pages := ps, nCachedPages := j + 1 + 1 } : State).nets := by
    show n ∈ [n]
    simp
  have := insertNew_eq hnd hm ⟨0x10A, sub, 0, 0, 0, tag⟩ sub
  rw [hn] at this
  rw [this]
  apply State.eq_of_fields
  · show _ :: ps = _ :: ps
    congr 1
    simp [State.insertNew, wSt, wPutPri]
  · rfl
  · show List.range (j + 1) ++ [_] = List.range (j + 1 + 1)
    rw [List.range_succ (n := j + 1)]
    rfl
  · show updNid [n] 0 _ = [_]
    simp [updNid, hn]
  · rfl
  · rfl
  · rfl
  · show 1 + (if n.zombie then 1 else 0) = 1
    rw [hz]; rfl
  · rfl
  · rfl
  · rfl


theorem wRoom : (memoryLimit0 : Int) - (0 : Nat) ≥ (1564 : Nat) := by decide

/-- a store of a sub-page of 10A, either source shape: the key is the sub-page number under mask 0xF, so the repaired
    shape deletes no other version; what the look-up found is handed to `putRest` -/
theorem wPut (fix : Bool) (j : Nat) {n : Net} (hn : n.id = 0) (sub tag : Nat) {old : Option Page} {res : State × Option Page}
    (hl : (wSt j n).pageByPgno 0 0x10A (sub &&& 0xF) 0xF = (wSt j n, old))
    (hr : (wSt j n).putRest 0 ⟨0x10A, sub, 0, 0, 0, tag⟩ sub old ((memoryLimit0 : Int) - (0 : Nat)) = .ok res) :
    (stepF fix (wSt j n) (.put 0 ⟨0x10A, sub, 0, 0, 0, tag⟩)).1 = res.1 := by
  have hp : (wSt j n).putPageF fix 0 ⟨0x10A, sub, 0, 0, 0, tag⟩ = .ok res := by
    rw [putPageF_eq fix (wFindNet j hn) _ (by show (0x10A : Nat) &&& 0xFF ≠ 0xFF; decide)
      (by show 0x100 ≤ (0x10A : Nat) ∧ (0x10A : Nat) ≤ 0x8FF; decide), wPutKey]
    cases fix with
    | false =>
      show (wSt j n).putTail 0 _ sub 0xF _ = _
      rw [putTail_rest, hl]
      exact hr
    | true =>
      show (wSt j n).putTailR 0 _ sub 0xF _ = _
      unfold State.putTailR
      rw [hl]
      cases old with
      | none => exact hr
      | some o => simp only; rw [if_neg (by decide)]; exact hr
  unfold stepF
  simp only [hp]

theorem putReplace_nil (s : State) (nid : Nat) (a : PutArg) (subno : Nat) (avail : Int) :
    s.putReplace nid a subno avail [] = .ok ((({ s with nCachedPages := s.nCachedPages + 1 } : State).insertNew nid a subno).1,
      some (({ s with nCachedPages := s.nCachedPages + 1 } : State).insertNew nid a subno).2) := by
  unfold State.putReplace
  simp only
  rw [if_neg (by simp), if_neg (by simp)]
  simp only [List.foldl_nil]

/-- everything after the look-up, for the store that replaces the held version `wLive j` -/
theorem wPutRestA (j : Nat) {n : Net} (hn : n.id = 0) (hz : n.zombie = false) :
    ∃ r, (wSt j n).putRest 0 wA 5 (some (wLive j)) ((memoryLimit0 : Int) - (0 : Nat))
      = .ok (wSt (j + 1) (addPageNet 0x10A 5 n), r) := by
  rw [putRest_room 0 wA 5 (by rw [wVictim, show pageSize wA.func wA.x26 wA.x28 = 1564 from wPageSize]; exact wRoom), wVictim]
  rw [putReplace_nil]
  have := wInsert j hn hz (wZs (j + 1)) 5 7
  exact ⟨_, congrArg Except.ok (Prod.ext this rfl)⟩


/-- one more held store of 10A.5, either source shape -/
theorem wStepA (fix : Bool) (j : Nat) {n : Net} (hn : n.id = 0) (hz : n.zombie = false) :
    (stepF fix (wSt j n) (.put 0 wA)).1 = wSt (j + 1) (addPageNet 0x10A 5 n) := by
  obtain ⟨r, hr⟩ := wPutRestA j hn hz
  exact wPut fix j hn 5 7 (wLookup j n) hr

/-- the network record after `k` stores -/
def wNetK : Nat → Net
  | 0 => { id := 0, ref := 1 }
  | k + 1 => addPageNet 0x10A 5 (wNetK k)

theorem wNetK_spec : ∀ k, 1 ≤ k → WNet k (wNetK k)
  | 0, h => absurd h (by decide)
  | 1, _ => by
    refine ⟨rfl, rfl, ?_, ?_⟩ <;> decide
  | k + 2, _ => by
    obtain ⟨h1, _, h3, h4⟩ := wNetK_spec (k + 1) (by omega)
    refine ⟨by rw [wNetK, addPageNet_id]; exact h1, addPageNet_zombie _ _ _, ?_, ?_⟩
    · rw [wNetK, addPageNet_nSub, if_pos rfl, h3]; omega
    · rw [wNetK, (addPageNet_rng 0x10A 5 (wNetK (k + 1))).1]
      unfold rng at h4
      simp only [Prod.mk.injEq] at h4
      rw [h4.1, h4.2]
      simp

theorem wNetK_id (k : Nat) : (wNetK k).id = 0 ∧ (wNetK k).zombie = false := by
  cases k with
  | zero => exact ⟨rfl, rfl⟩
  | succ k => exact ⟨(wNetK_spec (k + 1) (by omega)).1, (wNetK_spec (k + 1) (by omega)).2.1⟩

/-- `j + 1` held stores of 10A.5 after `addnet` -/
def wOps (k : Nat) : List Op := .addNet :: List.replicate k (.put 0 wA)

/-- the closed form of the state after `j + 1` held stores, by induction on `j` -/
theorem wRun (fix : Bool) : ∀ j, runF fix init (wOps (j + 1)) = wSt j (wNetK (j + 1))
  | 0 => by cases fix <;> decide +kernel
  | j + 1 => by
    have ih := wRun fix j
    have e : wOps (j + 1 + 1) = wOps (j + 1) ++ [.put 0 wA] := by
      unfold wOps
      rw [List.replicate_succ' , List.cons_append]
    rw [e]
    unfold runF at ih ⊢
    rw [List.foldl_append, ih]
    exact wStepA fix j (wNetK_id (j + 1)).1 (wNetK_id (j + 1)).2


/-- the store of 10A.1 (not cached: nothing is replaced), either source shape -/
theorem wStepB (fix : Bool) (j : Nat) {n : Net} (hn : n.id = 0) (hz : n.zombie = false) :
    (stepF fix (wSt j n) (.put 0 wB)).1 = { wSt (j + 1) (addPageNet 0x10A 1 n) with
      pages := { id := j + 1, net := 0, pgno := 0x10A, subno := 1, func := 0, x26 := 0, x28 := 0, ref := 1,
                 pri := .normal, tag := 8 } :: wLive j :: wZs j } := by
  have hr : (wSt j n).putRest 0 wB 1 none ((memoryLimit0 : Int) - (0 : Nat))
      = .ok ({ wSt (j + 1) (addPageNet 0x10A 1 n) with
        pages := { id := j + 1, net := 0, pgno := 0x10A, subno := 1, func := 0, x26 := 0, x28 := 0, ref := 1,
                   pri := .normal, tag := 8 } :: wLive j :: wZs j },
        some (({ wSt j n with nCachedPages := j + 1 + 1 } : State).insertNew 0 wB 1).2) := by
    rw [putRest_room (old := none) 0 wB 1 (by rw [show pageSize wB.func wB.x26 wB.x28 = 1564 from wPageSize]; exact wRoom)]
    show State.putReplace (wSt j n) 0 wB 1 ((memoryLimit0 : Int) - (0 : Nat)) [] = _
    rw [putReplace_nil]
    have := wInsert j hn hz (wLive j :: wZs j) 1 8
    exact congrArg Except.ok (Prod.ext this rfl)
  exact wPut fix j hn 1 8 (wLookupB j n) hr

/-- `addnet`, `j + 1` held stores of 10A.5, one store of 10A.1 -/
def wrapOpsJ (j : Nat) : List Op := wOps (j + 1) ++ [.put 0 wB]

theorem wRunB (fix : Bool) (j : Nat) : runF fix init (wrapOpsJ j) = (stepF fix (wSt j (wNetK (j + 1))) (.put 0 wB)).1 := by
  rw [← wRun fix j]
  unfold wrapOpsJ runF
  rw [List.foldl_append]
  rfl

/-- whenever the number of held stores is a multiple of 65536: after the history (either source shape) the version
    10A.5 stored last is allocated, retrievable (`pri = normal`) and held, the record of its network is on the network
    list, and the recorded range of page 10A is `1 .. 1`: `vbi_cache_hi_subno` answers 1 -/
theorem wrap_final_gen (fix : Bool) (j : Nat) (hj : (j + 1) % 65536 = 0) :
    wLive j ∈ (runF fix init (wrapOpsJ j)).pages ∧ addPageNet 0x10A 1 (wNetK (j + 1)) ∈ (runF fix init (wrapOpsJ j)).nets
    ∧ (wLive j).net = (addPageNet 0x10A 1 (wNetK (j + 1))).id
    ∧ rng (addPageNet 0x10A 1 (wNetK (j + 1))) 0x10A = (1, 1) := by
  rw [wRunB, wStepB fix j (wNetK_id (j + 1)).1 (wNetK_id (j + 1)).2]
  refine ⟨?_, ?_, ?_, ?_⟩
  · show wLive j ∈ _ :: wLive j :: _
    simp
  · show _ ∈ [_]
    simp
  · rw [addPageNet_id]; exact (wNetK_id (j + 1)).1.symm
  · obtain ⟨_, _, h3, h4⟩ := wNetK_spec (j + 1) (by omega)
    rw [(addPageNet_rng 0x10A 1 (wNetK (j + 1))).1, h3, hj]
    simp

theorem wrap_nets_gen (fix : Bool) (j : Nat) :
    (runF fix init (wrapOpsJ j)).nets = [addPageNet 0x10A 1 (wNetK (j + 1))] ∧ (addPageNet 0x10A 1 (wNetK (j + 1))).id = 0 := by
  rw [wRunB, wStepB fix j (wNetK_id (j + 1)).1 (wNetK_id (j + 1)).2]
  exact ⟨rfl, by rw [addPageNet_id]; exact (wNetK_id (j + 1)).1⟩

theorem wrapOpsJ_length (j : Nat) : (wrapOpsJ j).length = j + 3 := by
  simp only [wrapOpsJ, wOps, List.length_append, List.length_cons, List.length_replicate, List.length_nil]

/-- the witness history: `addnet`, 65536 held stores of 10A.5, one store of 10A.1 (65538 operations) -/
def wrapOps : List Op := wrapOpsJ 65535

theorem wrap_final (fix : Bool) :
    ∃ (n : Net) (p : Page), n ∈ (runF fix init wrapOps).nets ∧ p ∈ (runF fix init wrapOps).pages ∧ p.net = n.id
      ∧ p.pri = .normal ∧ 0 < p.ref ∧ p.pgno = 0x10A ∧ p.subno = 5 ∧ rng n 0x10A = (1, 1) := by
  obtain ⟨h1, h2, h3, h4⟩ := wrap_final_gen fix 65535 (by decide)
  exact ⟨_, _, h2, h1, h3, rfl, Nat.one_pos, rfl, rfl, h4⟩

/-- the network list of the final state is one record with id 0 -/
theorem wrap_nets (fix : Bool) : ∀ n ∈ (runF fix init wrapOps).nets, n.id = 0 := by
  intro n hn
  obtain ⟨h1, h2⟩ := wrap_nets_gen fix 65535
  have hn' : n ∈ (runF fix init (wrapOpsJ 65535)).nets := hn
  rw [h1, List.mem_singleton] at hn'
  rw [hn']; exact h2

theorem wrapOps_length : wrapOps.length = 65538 := wrapOpsJ_length 65535

end Zvbi.Cache
