import ZvbiModel.Cache.HiSub
/-!
# Repaired shape: the cache is a map (unique key inside a page number)
-/
namespace Zvbi.Cache

/-- at most one retrievable version per (network, page number, key inside the page number) -/
def UKey (s : State) : Prop :=
  ∀ p ∈ s.pages, ∀ q ∈ s.pages, p.pri ≠ .zombie → q.pri ≠ .zombie → p.net = q.net → p.pgno = q.pgno →
    lowKey p.pgno p.subno = lowKey q.pgno q.subno → p.id = q.id

theorem ukey_of_calm {s s' : State} (hu : UKey s) (c : Calm s s') : UKey s' := by
  intro p' hp' q' hq' hpz hqz hnet hpg hlow
  obtain ⟨p, hp, kp⟩ := c.pages p' hp'
  obtain ⟨q, hq, kq⟩ := c.pages q' hq'
  have := hu p hp q hq (kp.live hpz) (kq.live hqz) (by rw [kp.net, kq.net]; exact hnet)
    (by rw [kp.pgno, kq.pgno]; exact hpg) (by rw [kp.pgno, kq.pgno, kp.subno, kq.subno]; exact hlow)
  rw [← kp.id, ← kq.id]; exact this

/-- the mask of the key rule is 0 or the mask of `lowKey` -/
theorem putKey_mask (ptype pgno subno : Nat) :
    (putKey ptype pgno subno).2 = 0 ∨ ∀ x, x &&& (putKey ptype pgno subno).2 = lowKey pgno x := by
  unfold lowKey
  rcases putKey_cases ptype pgno subno with ⟨hb, ⟨_, h⟩ | h⟩ | ⟨hb, h⟩
  · exact Or.inl h
  · exact Or.inr (fun x => by rw [h, if_pos hb])
  · exact Or.inr (fun x => by rw [h, if_neg hb])

/-- a store of the repaired shape keeps the keys unique: in the state the new page is inserted into no retrievable
    version of the page number matches its key -/
theorem ukey_putPageR {s : State} (g : Good s) (hu : UKey s) (nid : Nat) (a : PutArg) {s' : State} {r : Option Page}
    (hres : s.putPageF true nid a = .ok (s', r)) : UKey s' := by
  obtain ⟨cn, hf, m | ⟨s0, m, rfl, gn⟩⟩ := putPageF_moves true g.1 nid a hres
  · exact ukey_of_calm hu (m.calm g.1)
  · have c0 := m.calm g.1
    have hu0 := ukey_of_calm hu c0
    have hk := putKey_mask (cn.getStat a.pgno).ptype a.pgno a.subno
    generalize putKey (cn.getStat a.pgno).ptype a.pgno a.subno = K at gn hk ⊢
    obtain ⟨n0, hn0, e0⟩ := m.net_mem (fun _ hk => hk) hf
    have sh := store_shape (m.invW g.1) hn0 a K.1
    rw [e0] at sh
    obtain ⟨np, hpages, _, pnet, ppg, psub, _⟩ := sh
    have hfresh : ∀ x ∈ s0.pages, x.pri ≠ .zombie → x.net = np.net → x.pgno = np.pgno →
        lowKey x.pgno x.subno = lowKey np.pgno np.subno → False := by
      intro x hx hxz hxn hxg hxl
      rw [pnet] at hxn
      rw [ppg] at hxg
      rw [hxg, ppg, psub] at hxl
      obtain ⟨p, hp, kp⟩ := c0.pages x hx
      have hpz := kp.live hxz
      -- matching under the mask = the key condition
      have hmatch : (p.subno &&& K.2) = ((K.1 &&& K.2) &&& K.2) := by
        rw [Nat.and_assoc, Nat.and_self, kp.subno]
        rcases hk with hk | hk
        · rw [hk]; simp
        · rw [hk, hk]; exact hxl
      cases hfind : s.pages.find? (pageMatch nid a.pgno (K.1 &&& K.2) K.2) with
      | none =>
        exact List.find?_eq_none.1 hfind p hp (pageMatch_true.2 ⟨hpz, kp.pgno.trans hxg, hmatch, kp.net.trans hxn⟩)
      | some o =>
        obtain ⟨hne, hall⟩ := gn o hfind x hx hxz
        rcases hk with hk | hk
        · exact hall rfl hk ⟨hxg, hxn⟩
        · have hos : o ∈ s.pages := List.mem_of_find?_eq_some hfind
          obtain ⟨hoz, hopg, hosub, honet⟩ := pageMatch_true.1 (List.find?_some hfind)
          refine hne (kp.id.symm.trans (hu p hp o hos hpz hoz (by rw [kp.net, hxn, honet]) (by rw [kp.pgno, hxg, hopg]) ?_))
          rw [kp.pgno, hxg, hopg, ← hk p.subno, ← hk o.subno, hmatch, hosub]
    intro p hp q hq hpz hqz hnet hpg hlow
    rw [hpages] at hp hq
    rcases List.mem_cons.1 hp with rfl | hp0
    · rcases List.mem_cons.1 hq with rfl | hq0
      · rfl
      · exact absurd (hfresh q hq0 hqz hnet.symm hpg.symm hlow.symm) id
    · rcases List.mem_cons.1 hq with rfl | hq0
      · exact absurd (hfresh p hp0 hpz hnet hpg hlow) id
      · exact hu0 p hp0 q hq0 hpz hqz hnet hpg hlow

theorem ukey_stepR {s : State} (g : Good s) (hu : UKey s) (op : Op) : UKey (stepF true s op).1 := by
  rcases stepF_fst true s op with e | e
  · rw [e]; exact hu
  cases op with
  | put nid a => obtain ⟨s', p, hres, e⟩ := e; rw [e]; exact ukey_putPageR g hu nid a hres
  | _ =>
    rcases stepF_shape true g _ with c | ⟨_, _, _, _, _, e, _⟩
    · exact ukey_of_calm hu c
    · cases e

theorem ukey_runR (ops : List Op) {s : State} (g : Good s) (hu : UKey s) : UKey (runF true s ops) := by
  induction ops generalizing s with
  | nil => exact hu
  | cons op t ih => exact ih (good_stepF true g op) (ukey_stepR g hu op)

theorem ukey_init : UKey init := by intro p hp; simp [init] at hp

theorem nodup_bounded_length (n : Nat) (l : List Nat) (hn : l.Nodup) (hb : ∀ x ∈ l, x < n) : l.length ≤ n :=
  List.length_range (n := n) ▸ hn.length_le_of_subset fun x hx => List.mem_range.2 (hb x hx)

theorem lowKey_lt (pgno x : Nat) : lowKey pgno x < 256 := by
  unfold lowKey
  split
  · have := @Nat.and_le_right x 0xFF; omega
  · have := @Nat.and_le_right x 0xF; omega

theorem keys_nodup {l : List Page} (hid : IdsNodup l) (P : Page → Bool) (key : Page → Nat)
    (hinj : ∀ p ∈ l, ∀ q ∈ l, P p = true → P q = true → key p = key q → p.id = q.id) :
    ((l.filter P).map key).Nodup := by
  induction l with
  | nil => simp
  | cons a t ih =>
    have hid' := idsNodup_cons.1 hid
    have iht := ih hid'.2 (fun p hp q hq => hinj p (List.mem_cons_of_mem _ hp) q (List.mem_cons_of_mem _ hq))
    by_cases hPa : P a = true
    · rw [List.filter_cons_of_pos hPa, List.map_cons, List.nodup_cons]
      refine ⟨?_, iht⟩
      intro hmem
      obtain ⟨q, hq, e⟩ := List.mem_map.1 hmem
      have hq' := List.mem_filter.1 hq
      have := hinj a List.mem_cons_self q (List.mem_cons_of_mem _ hq'.1) hPa hq'.2 e.symm
      exact hid'.1 q hq'.1 this.symm
    · rw [List.filter_cons_of_neg hPa]; exact iht

theorem version_bound_of_ukey {s : State} (h : InvW s) (hu : UKey s) (nid pg : Nat) :
    s.pages.countP (fun p => p.net = nid ∧ p.pgno = pg ∧ p.pri ≠ .zombie) ≤ 256 := by
  rw [List.countP_eq_length_filter]
  have hn := keys_nodup h.pidNodup (fun p => decide (p.net = nid ∧ p.pgno = pg ∧ p.pri ≠ .zombie)) (fun p => lowKey p.pgno p.subno)
    (by
      intro p hp q hq hP hQ hk
      simp only [decide_eq_true_eq] at hP hQ
      exact hu p hp q hq hP.2.2 hQ.2.2 (hP.1.trans hQ.1.symm) (hP.2.1.trans hQ.2.1.symm) hk)
  have := nodup_bounded_length 256 _ hn (by
    intro x hx
    obtain ⟨p, _, rfl⟩ := List.mem_map.1 hx
    exact lowKey_lt _ _)
  rw [List.length_map] at this
  exact this

end Zvbi.Cache
