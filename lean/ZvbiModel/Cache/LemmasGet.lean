import ZvbiModel.Cache.LemmasNets
/-!
# page_by_pgno (move to front), cache_page_ref, cache_page_unref, _vbi_cache_get_page, the page walk
-/
namespace Zvbi.Cache

theorem pageMatch_true {nid pgno subno mask : Nat} {p : Page} : pageMatch nid pgno subno mask p = true ↔
    p.pri ≠ .zombie ∧ p.pgno = pgno ∧ (p.subno &&& mask) = (subno &&& mask) ∧ p.net = nid := decide_eq_true_iff

/-- `page_by_pgno` by cases: nothing matches; the first match goes to the head of its hash chain -/
theorem pageByPgno_cases (s : State) (nid pgno subno mask : Nat) :
    (s.pages.find? (pageMatch nid pgno subno mask) = none ∧ s.pageByPgno nid pgno subno mask = (s, none))
    ∨ (∃ o, s.pages.find? (pageMatch nid pgno subno mask) = some o
        ∧ s.pageByPgno nid pgno subno mask = ({ s with pages := o :: rmId s.pages o.id }, some o)) := by
  unfold State.pageByPgno
  cases hf : s.pages.find? (pageMatch nid pgno subno mask) with
  | none => exact Or.inl ⟨rfl, rfl⟩
  | some o => exact Or.inr ⟨o, rfl, rfl⟩

/-- the kinds a look-up with its reference is made of -/
def Kind.ref : List Kind := [.front, .net, .more, .first]

/-- `cache_page_ref` by cases: no such page; the first reference; a further one -/
theorem pageRef_cases (s : State) (id : Nat) :
    (s.findPage id = none ∧ s.pageRef id = s)
    ∨ ∃ p, s.findPage id = some p ∧
      ((p.ref = 0 ∧ s.pageRef id = ((s.unzombieNet p.net).refFirst p).updPage p.id fun p => { p with ref := p.ref + 1 })
      ∨ (0 < p.ref ∧ s.pageRef id = s.updPage p.id fun p => { p with ref := p.ref + 1 })) := by
  unfold State.pageRef
  cases hf : s.findPage id with
  | none => exact Or.inl ⟨rfl, rfl⟩
  | some p =>
    refine Or.inr ⟨p, rfl, ?_⟩
    simp only
    by_cases hr : p.ref = 0
    · exact Or.inl ⟨hr, by rw [if_pos hr]⟩
    · exact Or.inr ⟨by omega, by rw [if_neg hr]⟩

theorem pageRef_moves {s : State} (h : InvW s) (id : Nat) : Moves Kind.ref s (s.pageRef id) := by
  rcases pageRef_cases s id with ⟨_, e⟩ | ⟨p, hf, ⟨hr, e⟩ | ⟨hr, e⟩⟩ <;> rw [e]
  · exact .refl s
  · refine ((unzombieNet_moves h p.net).mono (by decide)).trans (.one (k := .first) (by decide) (.first ?_ hr))
    rw [unzombieNet_pages]; exact (findPage_some hf).1
  · exact .one (k := .more) (by decide) (.more (findPage_some hf).1 hr)

theorem pageRef_pages (s : State) {p : Page} (hf : s.findPage p.id = some p) :
    (s.pageRef p.id).pages = updId s.pages p.id (fun p => { p with ref := p.ref + 1 }) := by
  rcases pageRef_cases s p.id with ⟨hn, _⟩ | ⟨q, hq, ⟨_, e⟩ | ⟨_, e⟩⟩
  · rw [hf] at hn; cases hn
  · rw [hf] at hq; cases hq
    rw [e]
    show updId (s.unzombieNet p.net).pages p.id _ = _
    rw [unzombieNet_pages]
  · rw [hf] at hq; cases hq
    rw [e]; rfl

/-- the page as `cache_page_ref` hands it out -/
theorem pageRef_found {s : State} (h : InvW s) {p : Page} (hp : p ∈ s.pages) :
    (s.pageRef p.id).findPage p.id = some { p with ref := p.ref + 1 } := by
  unfold State.findPage
  rw [pageRef_pages s (findPage_of_invW h hp)]
  exact find_updId h.pidNodup hp (fun _ => rfl)

/-- reference on the page a look-up found: the second half of `_vbi_cache_get_page` and of the exact look-up of the page
    walk (`getPage_eq`, `lookupExact_eq`) -/
def lookupRes (r : State × Option Page) : State × Option Page :=
  match r with
  | (s1, none) => (s1, none)
  | (s1, some p) => (s1.pageRef p.id, (s1.pageRef p.id).findPage p.id)

/-- `_vbi_cache_get_page` and the exact look-up of the page walk: a guard, then look-up and reference -/
theorem getPage_eq (s : State) (nid pgno : Nat) (subno : Int) (mask : Nat) :
    s.getPage nid pgno subno mask = if (!validPgno pgno) = true ∨ subno < 0 then (s, none)
      else lookupRes (s.pageByPgno nid pgno subno.toNat (if subno.toNat = Gen.Cache.anySubno then 0 else mask)) := by
  unfold State.getPage lookupRes
  by_cases h1 : (!validPgno pgno) = true
  · simp only [h1, if_true, true_or]
  · by_cases h2 : subno < 0
    · simp only [h1, h2, if_true, or_true]; rfl
    · simp only [h1, h2, if_false]; rfl

theorem lookupExact_eq (s : State) (nid pgno : Nat) (subno : Int) :
    s.lookupExact nid pgno subno = if subno < 0 then (s, none)
      else lookupRes (s.pageByPgno nid pgno subno.toNat 0xFFFFFFFF) := by
  unfold State.lookupExact lookupRes
  split <;> rfl

/-- look-up and reference by cases: nothing matches (no change); the first match goes to the head of its hash chain and
    gains a reference -/
theorem lookupRes_cases {s : State} (h : InvW s) (nid pgno subno mask : Nat) :
    (s.pages.find? (pageMatch nid pgno subno mask) = none ∧ lookupRes (s.pageByPgno nid pgno subno mask) = (s, none))
    ∨ ∃ p, s.pages.find? (pageMatch nid pgno subno mask) = some p ∧ lookupRes (s.pageByPgno nid pgno subno mask) =
        (({ s with pages := p :: rmId s.pages p.id } : State).pageRef p.id, some { p with ref := p.ref + 1 }) := by
  rcases pageByPgno_cases s nid pgno subno mask with ⟨hf, e⟩ | ⟨p, hf, e⟩ <;> rw [e]
  · exact Or.inl ⟨hf, rfl⟩
  · refine Or.inr ⟨p, hf, ?_⟩
    show (_, State.findPage _ p.id) = _
    rw [pageRef_found (moveFront_invW h (List.mem_of_find?_eq_some hf)) List.mem_cons_self]

theorem lookupRes_moves {s : State} (h : InvW s) (nid pgno subno mask : Nat) :
    Moves Kind.ref s (lookupRes (s.pageByPgno nid pgno subno mask)).1 := by
  rcases lookupRes_cases h nid pgno subno mask with ⟨_, e⟩ | ⟨p, hf, e⟩ <;> rw [e]
  · exact .refl s
  · have m := Prim.front (List.mem_of_find?_eq_some hf)
    exact .step (by decide) m (pageRef_moves (m.invW h) p.id)

theorem getPage_moves {s : State} (h : InvW s) (nid pgno : Nat) (subno : Int) (mask : Nat) :
    Moves Kind.ref s (s.getPage nid pgno subno mask).1 := by
  rw [getPage_eq]
  split
  · exact .refl s
  · exact lookupRes_moves h _ _ _ _

/-- `_vbi_cache_get_page` by cases: refused; nothing matches; the first match under the mask (0 for `VBI_ANY_SUBNO`) goes
    to the head of its hash chain and is handed out with one more reference -/
theorem getPage_cases {s : State} (h : InvW s) (nid pgno : Nat) (subno : Int) (mask : Nat) :
    ((validPgno pgno = false ∨ subno < 0) ∧ s.getPage nid pgno subno mask = (s, none))
    ∨ validPgno pgno = true ∧ 0 ≤ subno ∧
      ((s.pages.find? (pageMatch nid pgno subno.toNat (if subno.toNat = Gen.Cache.anySubno then 0 else mask)) = none
          ∧ s.getPage nid pgno subno mask = (s, none))
      ∨ ∃ p, s.pages.find? (pageMatch nid pgno subno.toNat (if subno.toNat = Gen.Cache.anySubno then 0 else mask)) = some p
          ∧ s.getPage nid pgno subno mask =
            (({ s with pages := p :: rmId s.pages p.id } : State).pageRef p.id, some { p with ref := p.ref + 1 })) := by
  rw [getPage_eq]
  by_cases c : (!validPgno pgno) = true ∨ subno < 0
  · rw [if_pos c]; exact Or.inl ⟨c.imp_left (by simp), rfl⟩
  · rw [if_neg c]
    exact Or.inr ⟨by simpa using fun x => c (Or.inl x), by omega, lookupRes_cases h nid pgno subno.toNat _⟩

theorem lookupExact_moves {s : State} (h : InvW s) (nid pgno : Nat) (subno : Int) :
    Moves Kind.ref s (s.lookupExact nid pgno subno).1 := by
  rw [lookupExact_eq]
  split
  · exact .refl s
  · exact lookupRes_moves h _ _ _ _

theorem good_getPage {s : State} (g : Good s) (nid pgno : Nat) (subno : Int) (mask : Nat) :
    Good (s.getPage nid pgno subno mask).1 := (getPage_moves g.1 nid pgno subno mask).good (by decide) g

/-- the zombie-network check of `cache_page_unref` by cases: nothing, or `delete_network` of an unreferenced zombie -/
theorem unrefNetCheck_cases (s : State) (nid : Nat) :
    (s.unrefNetCheck nid = s ∧ ∀ n, s.findNet nid = some n → ¬ (n.zombie = true ∧ n.nRef = 0 ∧ n.ref = 0))
    ∨ ∃ n, s.findNet nid = some n ∧ n.zombie = true ∧ n.nRef = 0 ∧ n.ref = 0
        ∧ s.unrefNetCheck nid = s.deleteNetwork nid := by
  unfold State.unrefNetCheck
  cases hf : s.findNet nid with
  | none => exact Or.inl ⟨rfl, fun n hn => by cases hn⟩
  | some n =>
    simp only
    by_cases hc : n.zombie = true ∧ n.nRef = 0 ∧ n.ref = 0
    · exact Or.inr ⟨n, rfl, hc.1, hc.2.1, hc.2.2, by rw [if_pos hc, (findNet_some hf).2]⟩
    · exact Or.inl ⟨by rw [if_neg hc], fun m hm => by cases hm; exact hc⟩

theorem memCheck_moves (s : State) : Moves Kind.del s s.memCheck := by
  unfold State.memCheck
  split
  · exact deleteSurplusPages_moves s
  · exact .refl s

theorem unrefTail_moves {s : State} (h : InvW s) (nid : Nat) : Moves Kind.dnet s (s.unrefTail nid) := by
  refine Moves.trans ?_ ((memCheck_moves _).mono (by decide))
  rcases unrefNetCheck_cases s nid with ⟨e, _⟩ | ⟨n, _, _, _, _, e⟩ <;> rw [e]
  · exact .refl s
  · exact deleteNetwork_moves h nid

theorem memCheck_le {s : State} (h : InvW s) : s.memCheck.memUsed ≤ s.memCheck.memLimit := by
  unfold State.memCheck
  split
  · exact deleteSurplusPages_le h
  · omega

/-- the tail of `cache_page_unref` (zombie-network check, memory check) cleans up after the release of a last
    reference: the network of the page was the only one that could be an unreferenced zombie -/
theorem unrefTail_good {s : State} (h : InvW s) (nid : Nat) (hz : ZNetOn s (fun i => i ≠ nid)) : Good (s.unrefTail nid) := by
  have hz1 : InvW (s.unrefNetCheck nid) ∧ ZNet (s.unrefNetCheck nid) := by
    rcases unrefNetCheck_cases s nid with ⟨e, hc⟩ | ⟨n, _, _, _, _, e⟩ <;> rw [e]
    · refine ⟨h, fun m hm _ => ?_⟩
      by_cases e : m.id = nid
      · have hc := hc m (e ▸ findNet_of_invW h hm)
        intro hzz
        by_cases c1 : 0 < m.ref
        · exact Or.inl c1
        · exact Or.inr (Nat.pos_of_ne_zero fun c2 => hc ⟨hzz, c2, by omega⟩)
      · exact hz m hm e
    · exact ⟨deleteNetwork_invW h nid, fun m hm _ =>
        deleteNetwork_znet h nid hz m hm (by by_cases e : m.id = nid; exact Or.inr e; exact Or.inl e)⟩
  exact ⟨(unrefTail_moves h nid).invW h, (memCheck_moves _).znet (by decide) hz1.2, memCheck_le hz1.1⟩

/-- the kinds `cache_page_unref` is made of -/
def Kind.unref : List Kind := [.free, .zombify, .net, .netGone, .less, .last, .lastZ]

/-- `cache_page_unref` by cases: refused (no such page, or not referenced); one reference less; the last reference to a
    cached page / to a replaced page released, and the clean-up after it -/
theorem pageUnref_cases (s : State) (id : Nat) :
    (s.pageUnref id = s ∧ ∀ p, s.findPage id = some p → p.ref = 0)
    ∨ ∃ p, s.findPage id = some p ∧
      ((1 < p.ref ∧ s.pageUnref id = s.updPage p.id fun p => { p with ref := p.ref - 1 })
      ∨ (p.ref = 1 ∧ p.pri ≠ .zombie ∧ s.pageUnref id = (s.unrefLast p).unrefTail p.net)
      ∨ (p.ref = 1 ∧ p.pri = .zombie ∧ s.pageUnref id = (s.unrefZombie p).unrefTail p.net)) := by
  unfold State.pageUnref
  cases hf : s.findPage id with
  | none => exact Or.inl ⟨rfl, fun p hp => by cases hp⟩
  | some p =>
    simp only
    by_cases h0 : p.ref = 0
    · exact Or.inl ⟨by rw [if_pos h0], fun q hq => by cases hq; exact h0⟩
    · rw [if_neg h0]
      refine Or.inr ⟨p, rfl, ?_⟩
      by_cases h1 : p.ref = 1
      · rw [if_pos h1]
        by_cases hz : p.pri = .zombie
        · exact Or.inr (Or.inr ⟨h1, hz, by rw [if_pos hz]⟩)
        · exact Or.inr (Or.inl ⟨h1, hz, by rw [if_neg hz]⟩)
      · exact Or.inl ⟨by omega, by rw [if_neg h1]⟩

theorem pageUnref_moves {s : State} (h : InvW s) (id : Nat) : Moves Kind.unref s (s.pageUnref id) := by
  rcases pageUnref_cases s id with ⟨e, _⟩ | ⟨p, hf, ⟨hr, e⟩ | ⟨hr, hz, e⟩ | ⟨hr, hz, e⟩⟩ <;> rw [e]
  · exact .refl s
  · exact .one (k := .less) (by decide) (.less (findPage_some hf).1 hr)
  · have m := Prim.last (findPage_some hf).1 hr hz
    exact .step (by decide) m ((unrefTail_moves (m.invW h) p.net).mono (by decide))
  · have m := Prim.lastZ (findPage_some hf).1 hr hz
    exact .step (by decide) m ((unrefTail_moves (m.invW h) p.net).mono (by decide))

/-- `cache_page_unref` is tidy, or the release of a last reference followed by the clean-up -/
theorem pageUnref_tail {s : State} (h : InvW s) (hz : ZNet s) (id : Nat) :
    Moves Kind.tidy s (s.pageUnref id)
      ∨ ∃ s1 nid, InvW s1 ∧ ZNetOn s1 (fun i => i ≠ nid) ∧ s.pageUnref id = s1.unrefTail nid := by
  rcases pageUnref_cases s id with ⟨e, _⟩ | ⟨p, hf, ⟨hr, e⟩ | ⟨hr, hzp, e⟩ | ⟨hr, hzp, e⟩⟩
  · rw [e]; exact Or.inl (.refl s)
  · rw [e]; exact Or.inl (.one (k := .less) (by decide) (.less (findPage_some hf).1 hr))
  · exact Or.inr ⟨_, _, unrefLast_invW h (findPage_some hf).1 hr hzp,
      fun m hm c => ZNetOn.updNid (s := s) (s' := s.unrefLast p) rfl (fun _ => rfl) hz m hm ⟨trivial, c⟩, e⟩
  · exact Or.inr ⟨_, _, unrefZombie_invW h (findPage_some hf).1 hr hzp,
      fun m hm c => ZNetOn.updNid (s := s) (f := rmZombieNet p.pgno) (by rw [unrefZombie_eq h (findPage_some hf).1 hzp])
        (fun _ => rfl) hz m hm ⟨trivial, c⟩, e⟩

theorem good_pageUnref {s : State} (g : Good s) (id : Nat) : Good (s.pageUnref id) := by
  rcases pageUnref_tail g.1 g.2.1 id with m | ⟨s1, nid, h1, z1, e⟩
  · exact m.good (fun _ hk => hk) g
  · rw [e]; exact unrefTail_good h1 nid z1

/-- the kinds the page walk is made of -/
def Kind.walk : List Kind := [.free, .zombify, .front, .net, .netGone, .more, .less, .first, .last, .lastZ]

/-- **The page walk keeps what its steps keep.**  `J s cp`: a property of the state and of the page the walk holds a reference
    on at the moment.  The steps: `cache_page_unref` of that page after the callback, the exact look-up of the next page, and
    (start of the walk, shape as found) `_vbi_cache_get_page`. -/
theorem walkLoop_rule {J : State → Option Page → Prop} (unref : ∀ {s p}, J s (some p) → J (s.pageUnref p.id) none)
    (look : ∀ {s} nid pgno subno, J s none → J (s.lookupExact nid pgno subno).1 (s.lookupExact nid pgno subno).2)
    (nid : Nat) (dir : Int) (stop : Nat) :
    ∀ (fuel : Nat) (s : State) (cp : Option Page) (pgno : Nat) (subno : Int) (wrapped : Bool) (vs : List Visit), J s cp →
      ∃ cp', J (walkLoop nid dir stop fuel s cp pgno subno wrapped vs).1 cp' := by
  intro fuel
  induction fuel with
  | zero => intro s cp pgno subno wrapped vs j; exact ⟨_, j⟩
  | succ fuel ih =>
    intro s cp pgno subno wrapped vs j
    unfold walkLoop
    simp only
    have c1 : J (walkVisit s cp wrapped vs).1 none := by
      unfold walkVisit
      cases cp with
      | none => exact j
      | some p => exact unref j
    generalize walkVisit s cp wrapped vs = r at c1
    -- the walk ends (callback said stop, network gone, fuel, second wrap) or goes on with the next look-up
    split
    · exact ⟨_, c1⟩
    · split
      · exact ⟨_, c1⟩
      · split
        · exact ⟨_, c1⟩
        · exact ⟨_, c1⟩
        · exact ih _ _ _ _ _ _ (look nid _ _ c1)

theorem foreachPageS_rule {J : State → Option Page → Prop} (unref : ∀ {s p}, J s (some p) → J (s.pageUnref p.id) none)
    (look : ∀ {s} nid pgno subno, J s none → J (s.lookupExact nid pgno subno).1 (s.lookupExact nid pgno subno).2)
    (get : ∀ {s} nid pgno subno mask, J s none → J (s.getPage nid pgno subno mask).1 (s.getPage nid pgno subno mask).2)
    (exact : Bool) {s : State} (j : J s none) (nid pgno subno : Nat) (dir : Int) (stop fuel : Nat) :
    ∃ cp', J (s.foreachPageS exact nid pgno subno dir stop fuel).1 cp' := by
  unfold State.foreachPageS
  split
  · exact ⟨_, j⟩
  · split
    · exact ⟨_, j⟩
    · split
      · simp only
        split
        · exact walkLoop_rule unref look _ _ _ _ _ _ _ _ _ _ (look nid pgno subno j)
        · exact walkLoop_rule unref look _ _ _ _ _ _ _ _ _ _ j
      · have c1 := get nid pgno (subno : Int) 0xFFFFFFFF j
        generalize s.getPage nid pgno (subno : Int) 0xFFFFFFFF = r at c1
        obtain ⟨s1, cp⟩ := r
        exact walkLoop_rule unref look _ _ _ _ _ _ _ _ _ _ c1

theorem foreachPageS_moves (exact : Bool) {s : State} (g : Good s) (nid pgno subno : Nat) (dir : Int) (stop fuel : Nat) :
    Moves Kind.walk s (s.foreachPageS exact nid pgno subno dir stop fuel).1
      ∧ Good (s.foreachPageS exact nid pgno subno dir stop fuel).1 := by
  have step : ∀ {K : List Kind} {a b : State}, (∀ k ∈ K, k ∈ Kind.walk) → (∀ k ∈ K, k ∈ Kind.tidy) → Moves K a b →
      Moves Kind.walk s a ∧ Good a → Moves Kind.walk s b ∧ Good b :=
    fun hw ht m j => ⟨j.1.trans (m.mono hw), m.good ht j.2⟩
  obtain ⟨_, r⟩ := foreachPageS_rule (J := fun a _ => Moves Kind.walk s a ∧ Good a)
    (fun {a p} j => ⟨j.1.trans ((pageUnref_moves j.2.1 p.id).mono (by decide)), good_pageUnref j.2 p.id⟩)
    (fun nid pg sb j => step (by decide) (by decide) (lookupExact_moves j.2.1 nid pg sb) j)
    (fun nid pg sb mask j => step (by decide) (by decide) (getPage_moves j.2.1 nid pg sb mask) j)
    exact ⟨.refl s, g⟩ nid pgno subno dir stop fuel
  exact r

end Zvbi.Cache
