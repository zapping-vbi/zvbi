import ZvbiModel.Cache.HiSub
import ZvbiModel.Cache.UniqueKey
/-!
# 'highest subpage' on the repaired source shape: the hypothesis `Tame` follows from a bound on client references

On the repaired shape at most 256 versions of one page number are retrievable (`version_bound_of_ukey`); every other
allocated version is a zombie, i.e. a replaced page somebody still holds a reference on (`InvW.zombieRef`).  So the
`uint16_t` counter `n_subpages` can only wrap when 65280 page references are held at the same time.
-/
namespace Zvbi.Cache

/-- allocated versions = retrievable versions + zombies, and zombies are referenced -/
theorem count_le_live_add_ref (nid pg : Nat) : ∀ (l : List Page), (∀ p ∈ l, p.pri = .zombie → 0 < p.ref) →
    l.countP (fun p => p.net = nid ∧ p.pgno = pg)
      ≤ l.countP (fun p => p.net = nid ∧ p.pgno = pg ∧ p.pri ≠ .zombie) + l.countP (fun p => 0 < p.ref) := by
  intro l
  induction l with
  | nil => intro _; simp
  | cons a t ih =>
    intro h
    have iht := ih (fun p hp => h p (List.mem_cons_of_mem _ hp))
    have ha := h a List.mem_cons_self
    simp only [List.countP_cons]
    by_cases c1 : a.net = nid ∧ a.pgno = pg
    · by_cases c2 : a.pri = .zombie
      · have c4 : 0 < a.ref := ha c2
        have c3 : ¬ (a.net = nid ∧ a.pgno = pg ∧ a.pri ≠ .zombie) := fun x => x.2.2 c2
        rw [if_pos (decide_eq_true c1), if_neg (by rw [decide_eq_true_eq]; exact c3), if_pos (decide_eq_true c4)]
        omega
      · have c3 : a.net = nid ∧ a.pgno = pg ∧ a.pri ≠ .zombie := ⟨c1.1, c1.2, c2⟩
        rw [if_pos (decide_eq_true c1), if_pos (decide_eq_true c3)]
        omega
    · have c3 : ¬ (a.net = nid ∧ a.pgno = pg ∧ a.pri ≠ .zombie) := fun x => c1 ⟨x.1, x.2.1⟩
      rw [if_neg (by rw [decide_eq_true_eq]; exact c1), if_neg (by rw [decide_eq_true_eq]; exact c3)]
      omega

/-- fewer than 65280 page references are held by clients (the Teletext decoder of libzvbi holds at most a handful) -/
def RefBound (s : State) : Prop := s.pages.countP (fun p => 0 < p.ref) + 256 < 65536

theorem nowrap_of_refbound {s : State} (h : InvW s) (hu : UKey s) (hb : RefBound s) : NoWrap s := by
  intro n _ pg
  have h1 := count_le_live_add_ref n.id pg s.pages h.zombieRef
  have h2 := version_bound_of_ukey h hu n.id pg
  unfold RefBound at hb
  omega

theorem tame_of_refbound : ∀ (ops : List Op) (s : State), Good s → UKey s →
    (∀ op ∈ ops, SubOk op) → (∀ k, 1 ≤ k → k ≤ ops.length → RefBound (runF true s (ops.take k))) → Tame true s ops := by
  intro ops
  induction ops with
  | nil => intro s _ _ _ _; trivial
  | cons op t ih =>
    intro s g hu h1 h2
    have g' := good_stepF true g op
    have hu' := ukey_stepR g hu op
    refine ⟨h1 op List.mem_cons_self, ?_, ih _ g' hu' (fun o ho => h1 o (List.mem_cons_of_mem _ ho)) ?_⟩
    · have := h2 1 (Nat.le_refl 1) (by simp)
      have e : runF true s (List.take 1 (op :: t)) = (stepF true s op).1 := rfl
      rw [e] at this
      exact nowrap_of_refbound g'.1 hu' this
    · intro k hk1 hk
      exact h2 (k + 1) (by omega) (by simp; omega)

end Zvbi.Cache
