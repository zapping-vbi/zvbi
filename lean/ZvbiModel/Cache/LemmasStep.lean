import ZvbiModel.Cache.LemmasPut
/-!
# One API call: what is called, which primitive changes it is made of, that it keeps the invariant
-/
namespace Zvbi.Cache

/-- The state after one API call, either source shape: the call was rejected (state unchanged), or it is what the
    function called returns. -/
theorem stepF_fst (fix : Bool) (s : State) (op : Op) : (stepF fix s op).1 = s ∨
    match op with
    | .put nid a => ∃ s' p, s.putPageF fix nid a = .ok (s', p) ∧ (stepF fix s op).1 = s'
    | .get nid pgno subno mask => (stepF fix s op).1 = (s.getPage nid pgno subno mask).1
    | .ref pid => (stepF fix s op).1 = s.pageRef pid
    | .unref pid => (stepF fix s op).1 = s.pageUnref pid
    | .isCached nid pgno subno => (stepF fix s op).1 =
        match s.getPage nid pgno subno 0xFFFFFFFF with
        | (s', some p) => s'.pageUnref p.id
        | (s', none) => s'
    | .hiSubno _ _ => False
    | .foreach nid pgno subno back stop =>
        (stepF fix s op).1 = (s.foreachPage nid pgno subno (if back then -1 else 1) stop walkFuel).1
    | .addNet => (stepF fix s op).1 = s.addNetwork.1
    | .netRef nid => (stepF fix s op).1 = s.netRef nid
    | .netUnref nid => (stepF fix s op).1 = s.netUnref nid
    | .chsw nid => (stepF fix s op).1 = (s.netUnref nid).addNetwork.1.statReset (s.netUnref nid).addNetwork.2
    | .statReset nid => ∃ n, s.findNet nid = some n ∧ n.nCached = 0 ∧ (stepF fix s op).1 = s.statReset nid
    | .ptype nid pgno t =>
        (stepF fix s op).1 = s.updNet nid (fun n => n.setStat pgno { n.getStat pgno with ptype := t % 256 })
    | .purge => (stepF fix s op).1 = s.purge
    | .setLimit n => (stepF fix s op).1 = ({ s with memLimit := n } : State).deleteSurplusPages := by
  cases op with
  | put nid a =>
    unfold stepF; simp only
    split
    · rename_i s' p hres; exact Or.inr ⟨s', p, hres, rfl⟩
    · exact Or.inl rfl
  | get nid pgno subno mask =>
    unfold stepF step; simp only
    split
    · exact Or.inl rfl
    · exact Or.inr rfl
  | ref pid =>
    unfold stepF step; simp only
    split
    · exact Or.inl rfl
    · split
      · exact Or.inl rfl
      · exact Or.inr rfl
  | unref pid =>
    unfold stepF step; simp only
    split
    · exact Or.inl rfl
    · split
      · exact Or.inl rfl
      · exact Or.inr rfl
  | isCached nid pgno subno =>
    unfold stepF step; simp only
    split
    · exact Or.inl rfl
    · right; split <;> rename_i hh <;> rw [hh]
  | hiSubno nid pgno =>
    unfold stepF step; simp only
    split
    · exact Or.inl rfl
    · split <;> exact Or.inl rfl
  | «foreach» nid pgno subno back stop =>
    unfold stepF step; simp only
    split
    · exact Or.inl rfl
    · split
      · exact Or.inl rfl
      · exact Or.inr rfl
  | addNet => exact Or.inr rfl
  | netRef nid =>
    unfold stepF step; simp only
    split
    · exact Or.inl rfl
    · exact Or.inr rfl
  | netUnref nid =>
    unfold stepF step; simp only
    split
    · exact Or.inl rfl
    · exact Or.inr rfl
  | chsw nid =>
    unfold stepF step; simp only
    split
    · exact Or.inl rfl
    · exact Or.inr rfl
  | statReset nid =>
    unfold stepF step; simp only
    split
    · exact Or.inl rfl
    · rename_i n hf
      split
      · exact Or.inl rfl
      · rename_i hc; exact Or.inr ⟨n, hf, by simpa using hc, rfl⟩
  | ptype nid pgno t =>
    unfold stepF step; simp only
    split
    · exact Or.inl rfl
    · split
      · exact Or.inl rfl
      · exact Or.inr rfl
  | purge => exact Or.inr rfl
  | setLimit n => exact Or.inr rfl

theorem stepF_false (s : State) (op : Op) : stepF false s op = step s op := by
  cases op <;> rfl

theorem runF_false (s : State) (ops : List Op) : runF false s ops = run s ops := by
  induction ops generalizing s with
  | nil => rfl
  | cons op t ih => show runF false (stepF false s op).1 t = run (step s op).1 t; rw [stepF_false]; exact ih _

/-! ### single calls within the contract, as equations -/

theorem stepF_get (fix : Bool) {s : State} {nid : Nat} {cn : Net} (hf : s.findNet nid = some cn) (pgno subno mask : Nat) :
    stepF fix s (.get nid pgno subno mask) = ((s.getPage nid pgno subno mask).1, .page (s.getPage nid pgno subno mask).2) := by
  show step s (.get nid pgno subno mask) = _
  unfold step
  simp only [hf]

/-- a refused `.unref` leaves the state alone, and so does `cache_page_unref` on the same page -/
theorem stepF_unref (fix : Bool) (s : State) (pid : Nat) : (stepF fix s (.unref pid)).1 = s.pageUnref pid := by
  show (step s (.unref pid)).1 = s.pageUnref pid
  simp only [step]
  cases hf : s.findPage pid with
  | none => simp [State.pageUnref, hf]
  | some p =>
    by_cases h0 : p.ref = 0
    · simp [State.pageUnref, hf, h0]
    · simp [h0]

/-- `vbi_is_cached`: look-up, answer, release -/
theorem stepF_isCached (fix : Bool) {s : State} {nid : Nat} {cn : Net} (hf : s.findNet nid = some cn) (pgno subno : Nat) :
    stepF fix s (.isCached nid pgno subno) =
      match s.getPage nid pgno subno 0xFFFFFFFF with
      | (s', some p) => (s'.pageUnref p.id, .num 1)
      | (s', none) => (s', .num 0) := by
  show step s (.isCached nid pgno subno) = _
  unfold step
  simp only [hf]
  generalize s.getPage nid pgno subno 0xFFFFFFFF = r
  obtain ⟨s', o⟩ := r
  cases o <;> rfl

theorem stepF_hiSubno (fix : Bool) {s : State} {nid : Nat} {n : Net} (hf : s.findNet nid = some n) {pgno : Nat}
    (hr : 0x100 ≤ pgno ∧ pgno ≤ 0x8FF) : stepF fix s (.hiSubno nid pgno) = (s, .num (n.getStat pgno).subMax) := by
  show step s (.hiSubno nid pgno) = _
  unfold step
  simp only [hf]
  rw [if_neg (by omega)]

/-- `vbi_chsw_reset`: the reference on the old network is released, a network is added and its statistics are re-initialised -/
theorem stepF_chsw (fix : Bool) {s : State} {nid : Nat} {cn : Net} (hf : s.findNet nid = some cn) :
    stepF fix s (.chsw nid) =
      ((s.netUnref nid).addNetwork.1.statReset (s.netUnref nid).addNetwork.2, .net (s.netUnref nid).addNetwork.2) := by
  show step s (.chsw nid) = _
  unfold step
  simp only [hf]

theorem stepF_ptype (fix : Bool) {s : State} {nid : Nat} {cn : Net} (hf : s.findNet nid = some cn) {pgno : Nat}
    (hr : 0x100 ≤ pgno ∧ pgno ≤ 0x8FF) (t : Nat) :
    stepF fix s (.ptype nid pgno t) = (s.updNet nid (fun n => n.setStat pgno { n.getStat pgno with ptype := t % 256 }), .ok) := by
  show step s (.ptype nid pgno t) = _
  unfold step
  simp only [hf]
  rw [if_neg (by omega)]

/-- the kinds the network functions are made of -/
def Kind.nets : List Kind := [.free, .zombify, .net, .netLoose, .netGone, .netNew]

/-- the kinds of primitive change an API call is made of (a store: before the new page is inserted; the limit change:
    after the limit is written) -/
def Op.kinds : Op → List Kind
  | .put .. => Kind.pre
  | .get .. | .ref .. => Kind.ref
  | .unref .. => Kind.unref
  | .isCached .. | .foreach .. => Kind.walk
  | .hiSubno .. => []
  | .addNet => [.free, .zombify, .netGone, .netNew]
  | .netRef .. | .statReset .. | .ptype .. => [.net]
  | .netUnref .. => .netLoose :: Kind.dnet
  | .chsw .. => Kind.nets
  | .purge => Kind.dnet
  | .setLimit .. => Kind.del

/-- **Every API call, either source shape, is a sequence of primitive changes** - followed, when a store succeeds, by the
    insertion of the new page; preceded, for the limit change, by the write of the limit - **and keeps the invariant**.
    Where the changes are all tidy the second part is `Moves.good`; the others (a store, the release of a page or network
    reference, the limit change) end with the clean-up that restores what they broke. -/
theorem stepF_moves (fix : Bool) {s : State} (g : Good s) (op : Op) :
    (match op with
    | .put nid a => Moves op.kinds s (stepF fix s op).1 ∨ ∃ cn s0, s.findNet nid = some cn ∧ Moves op.kinds s s0
        ∧ (stepF fix s op).1 = s0.store nid a (putKey (cn.getStat a.pgno).ptype a.pgno a.subno).1
    | .setLimit n => Moves op.kinds { s with memLimit := n } (stepF fix s op).1
    | _ => Moves op.kinds s (stepF fix s op).1) ∧ Good (stepF fix s op).1 := by
  have tidy : ∀ (K : List Kind) {s' : State}, Moves K s s' → (∀ k ∈ K, k ∈ Kind.tidy) → Moves K s s' ∧ Good s' :=
    fun _ _ m hK => ⟨m, m.good hK g⟩
  obtain ⟨h, hz, hm⟩ := g
  rcases stepF_fst fix s op with e | e
  · cases op with
    | put nid a => rw [e]; exact ⟨Or.inl (.refl s), h, hz, hm⟩
    | setLimit n => exact ⟨deleteSurplusPages_moves _, by rw [e]; exact ⟨h, hz, hm⟩⟩
    | _ => dsimp only; rw [e]; exact ⟨.refl s, h, hz, hm⟩
  cases op <;> dsimp only at e ⊢
  case put nid a =>
    obtain ⟨s', p, hres, e⟩ := e
    rw [e]
    obtain ⟨cn, hf, m⟩ := putPageF_moves fix h nid a hres
    exact ⟨m.imp id (fun ⟨s0, m, e, _⟩ => ⟨cn, s0, hf, m, e⟩), good_putPageF fix ⟨h, hz, hm⟩ nid a hres⟩
  case get nid pgno subno mask => rw [e]; exact tidy Kind.ref (getPage_moves h _ _ _ _) (by decide)
  case ref pid => rw [e]; exact tidy Kind.ref (pageRef_moves h _) (by decide)
  case unref pid => rw [e]; exact ⟨pageUnref_moves h _, good_pageUnref ⟨h, hz, hm⟩ _⟩
  case isCached nid pgno subno =>
    rw [e]
    have c1 := (getPage_moves h nid pgno (subno : Int) 0xFFFFFFFF).mono (K' := Kind.walk) (by decide)
    have g1 := good_getPage ⟨h, hz, hm⟩ nid pgno (subno : Int) 0xFFFFFFFF
    generalize s.getPage nid pgno (subno : Int) 0xFFFFFFFF = r at c1 g1
    obtain ⟨s', o⟩ := r
    cases o with
    | none => exact ⟨c1, g1⟩
    | some p => exact ⟨c1.trans ((pageUnref_moves g1.1 _).mono (by decide)), good_pageUnref g1 _⟩
  case «foreach» nid pgno subno back stop => rw [e]; exact foreachPageS_moves _ ⟨h, hz, hm⟩ _ _ _ _ _ _
  case addNet => rw [e]; exact tidy _ (addNetwork_moves h hz).1 (by decide)
  case netRef nid => rw [e]; exact tidy [.net] (netRef_moves h nid) (by decide)
  case netUnref nid =>
    rw [e]; exact ⟨netUnref_moves h nid, good_netUnref ⟨h, hz, hm⟩ nid⟩
  case chsw nid =>
    rw [e]
    have g1 := good_netUnref ⟨h, hz, hm⟩ nid
    obtain ⟨m2, ⟨n, hn, e1, _, e3⟩, _⟩ := addNetwork_moves g1.1 g1.2.1
    have g2 := m2.good (by decide) g1
    have hf : (s.netUnref nid).addNetwork.1.findNet (s.netUnref nid).addNetwork.2 = some n := by
      rw [← e1]; exact findNet_of_invW g2.1 hn
    have m3 := statReset_moves g2.1 hf e3
    exact ⟨(((netUnref_moves h nid).mono (K' := Kind.nets) (by decide)).trans (m2.mono (K' := Kind.nets) (by decide))).trans
      (m3.mono (K' := Kind.nets) (by decide)), m3.good (by decide) g2⟩
  case statReset nid => obtain ⟨n, hf, hc, e⟩ := e; rw [e]; exact tidy [.net] (statReset_moves h hf hc) (by decide)
  case ptype nid pgno t => rw [e]; exact tidy [.net] (ptype_moves h nid pgno (t % 256)) (by decide)
  case purge => rw [e]; exact tidy Kind.dnet (purge_moves h) (by decide)
  case setLimit n =>
    rw [e]
    have h' := invW_memLimit h n
    have m := deleteSurplusPages_moves ({ s with memLimit := n } : State)
    exact ⟨m, m.invW h', m.znet (by decide) (P := fun _ => True) hz, deleteSurplusPages_le h'⟩

theorem good_stepF (fix : Bool) {s : State} (g : Good s) (op : Op) : Good (stepF fix s op).1 := (stepF_moves fix g op).2

/-- an API call is `Calm`, or (a store that succeeds) `Calm` followed by the insertion of the new page -/
theorem stepF_shape (fix : Bool) {s : State} (g : Good s) (op : Op) :
    Calm s (stepF fix s op).1 ∨ ∃ nid a cn s0 m, op = .put nid a ∧ s.findNet nid = some cn ∧ InvW s0 ∧ Calm s s0
      ∧ m ∈ s0.nets ∧ (stepF fix s op).1 = s0.store m.id a (putKey (cn.getStat a.pgno).ptype a.pgno a.subno).1 := by
  have m := (stepF_moves fix g op).1
  cases op <;> dsimp only at m
  case put nid a =>
    rcases m with m | ⟨cn, s0, hf, m, e⟩
    · exact Or.inl (m.calm g.1)
    · obtain ⟨n0, hn0, rfl⟩ := m.net_mem (fun _ hk => hk) hf
      exact Or.inr ⟨_, a, cn, s0, n0, rfl, hf, m.invW g.1, m.calm g.1, hn0, e⟩
  case setLimit n =>
    exact Or.inl ((Calm.of_eq (s := s) (s' := { s with memLimit := n }) rfl rfl).trans (m.calm (invW_memLimit g.1 n)))
  all_goals exact Or.inl (m.calm g.1)

theorem good_runF (fix : Bool) {s : State} (g : Good s) (ops : List Op) : Good (runF fix s ops) := by
  induction ops generalizing s with
  | nil => exact g
  | cons op t ih => exact ih (good_stepF fix g op)

theorem good_init : Good init := by
  refine ⟨?_, fun n hn => absurd hn List.not_mem_nil, (by decide : init.memUsed ≤ init.memLimit)⟩
  constructor <;> simp [init]

theorem good_reach (fix : Bool) (ops : List Op) : Good (runF fix init ops) := good_runF fix good_init ops

end Zvbi.Cache
