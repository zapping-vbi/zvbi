import ZvbiModel.Cache.LemmasHeld
/-!
# Eviction and the network limit: what may leave the cache

* `addNetwork_id_unreferenced`: `recycle_network` picks only a network without references of any kind.
* `LiveKept`: every network that is not a zombie stays on the list, not a zombie; proved for the release of a page
  reference (`pageUnref_liveKept`: finding of seed C10-e) and for the release of a network reference while the number
  of cached networks is within the limit (`netUnref_liveKept`).
-/
namespace Zvbi.Cache

/-- the network `_vbi_cache_add_network (ca, NULL)` hands out is a new one, or one that had no reference of any kind:
    `recycle_network` picks only a network without network and page references -/
theorem addNetwork_id_unreferenced {s : State} (h : InvW s) :
    ∀ n ∈ s.nets, n.id = s.addNetwork.2 → n.ref = 0 ∧ n.nRef = 0 := by
  intro n hn e
  rcases addNetwork_cases s with e' | ⟨s1, m, hr, e'⟩ <;> rw [e'] at e
  · have := h.nidLt n hn; have e2 : n.id = s.nextNid := e; omega
  · rcases recycleNetwork_cases s with hn' | ⟨n0, n1, hn0, r0, r1, hf1, e2⟩ <;> rw [hr] at *
    · cases hn'
    · cases e2
      rw [net_unique h.nidNodup hn hn0 (e.trans (findNet_some hf1).2)]
      exact ⟨r0, r1⟩

/-- every network that is not a zombie stays on the list and stays a non-zombie -/
def LiveKept (s s' : State) : Prop := ∀ n ∈ s.nets, n.zombie = false → ∃ n' ∈ s'.nets, n'.id = n.id ∧ n'.zombie = false

theorem LiveKept.refl (s : State) : LiveKept s s := fun n hn hz => ⟨n, hn, rfl, hz⟩
theorem LiveKept.trans {a b c : State} (h1 : LiveKept a b) (h2 : LiveKept b c) : LiveKept a c := by
  intro n hn hz
  obtain ⟨n1, hn1, e1, z1⟩ := h1 n hn hz
  obtain ⟨n2, hn2, e2, z2⟩ := h2 n1 hn1 z1
  exact ⟨n2, hn2, e2.trans e1, z2⟩

theorem liveKept_of_key {s s' : State} (hk : s'.nets.map netKey = s.nets.map netKey) : LiveKept s s' := by
  intro n hn hz
  obtain ⟨m, hm, ek⟩ := mem_of_key hk.symm hn
  rw [netKey_eq] at ek
  exact ⟨m, hm, ek.1, by rw [ek.2.2.2]; exact hz⟩

theorem liveKept_updNid {s s' : State} {x : Nat} {f : Net → Net} (he : s'.nets = updNid s.nets x f)
    (hf : ∀ n, (f n).id = n.id ∧ (f n).zombie = n.zombie) : LiveKept s s' := by
  intro n hn hz
  refine ⟨if n.id = x then f n else n, by rw [he]; exact mem_updNid.2 ⟨n, hn, rfl⟩, ?_, ?_⟩
  · split
    · exact (hf n).1
    · rfl
  · split
    · rw [(hf n).2]; exact hz
    · exact hz

theorem deleteNetwork_liveKept_other (s : State) (nid : Nat) :
    ∀ n ∈ s.nets, n.id ≠ nid → n.zombie = false → ∃ n' ∈ (s.deleteNetwork nid).nets, n'.id = n.id ∧ n'.zombie = false := by
  intro n hn hne hz
  rcases deleteNetwork_cases s nid with ⟨_, e⟩ | ⟨n0, _, c⟩
  · rw [e]; exact ⟨n, hn, rfl, hz⟩
  obtain ⟨m, hm, e, z⟩ := liveKept_of_key ((clearNet_del s n0).key (by decide)) n hn hz
  rcases c with ⟨_, e'⟩ | ⟨_, e'⟩ <;> rw [e'] <;> refine ⟨m, ?_, e, z⟩
  · exact mem_updNid.2 ⟨m, hm, by rw [if_neg (by rw [e]; exact hne)]⟩
  · exact List.mem_filter.2 ⟨hm, by simpa [e] using hne⟩

theorem unrefNetCheck_liveKept {s : State} (h : InvW s) (nid : Nat) : LiveKept s (s.unrefNetCheck nid) := by
  rcases unrefNetCheck_cases s nid with ⟨e, _⟩ | ⟨n0, hf, hzz, _, _, e⟩ <;> rw [e]
  · exact LiveKept.refl s
  · intro n hn hz
    refine deleteNetwork_liveKept_other s nid n hn (fun e => ?_) hz
    rw [net_unique h.nidNodup hn (findNet_some hf).1 (e.trans (findNet_some hf).2.symm), hzz] at hz; cases hz

theorem memCheck_liveKept (s : State) : LiveKept s s.memCheck :=
  liveKept_of_key ((memCheck_moves s).key (by decide))

/-- `cache_page_unref` never removes a network that is not a zombie (seed C10-e) -/
theorem pageUnref_liveKept {s : State} (h : InvW s) (id : Nat) : LiveKept s (s.pageUnref id) := by
  have tail : ∀ (s1 : State) (nid : Nat), InvW s1 → LiveKept s1 (s1.unrefTail nid) := fun s1 nid h1 =>
    (unrefNetCheck_liveKept h1 nid).trans (memCheck_liveKept _)
  rcases pageUnref_cases s id with ⟨e, _⟩ | ⟨p, hf, ⟨_, e⟩ | ⟨hr, hzp, e⟩ | ⟨hr, hzp, e⟩⟩ <;> rw [e]
  · exact LiveKept.refl s
  · exact liveKept_of_key rfl
  · exact (liveKept_updNid (s' := s.unrefLast p) rfl (fun n => ⟨rfl, rfl⟩)).trans
      (tail _ _ (unrefLast_invW h (findPage_some hf).1 hr hzp))
  · exact (liveKept_updNid (congrArg State.nets (unrefZombie_eq h (findPage_some hf).1 hzp)) (fun n => ⟨rfl, rfl⟩)).trans
      (tail _ _ (unrefZombie_invW h (findPage_some hf).1 hr hzp))

theorem deleteNetwork_counts {s : State} (h : InvW s) (nid : Nat) :
    (s.deleteNetwork nid).nCachedNets ≤ s.nCachedNets ∧ (s.deleteNetwork nid).nNetsLimit = s.nNetsLimit := by
  refine ⟨?_, (deleteNetwork_moves h nid).frame.netsLimit⟩
  rcases deleteNetwork_cases s nid with ⟨_, e⟩ | ⟨n0, _, c⟩
  · rw [e]; exact Nat.le_refl _
  have k1 : (clearNet s n0).nCachedNets = s.nCachedNets := (clearNet_del s n0).shrinks.nNets
  rcases c with ⟨_, e'⟩ | ⟨_, e'⟩ <;> rw [e'] <;> show (clearNet s n0).nCachedNets - _ ≤ _ <;> omega

theorem surplusStep_liveKept {s : State} (h : InvW s) (hl : s.nCachedNets ≤ s.nNetsLimit) (a : Nat) :
    LiveKept s (surplusStep s a) ∧ (surplusStep s a).nCachedNets ≤ (surplusStep s a).nNetsLimit ∧ InvW (surplusStep s a) := by
  refine ⟨?_, ?_, (surplusStep_moves h a).invW h⟩ <;>
    rcases surplusStep_cases s a with ⟨e, _⟩ | ⟨n0, hf, _, hc, e⟩ <;> rw [e]
  · exact LiveKept.refl s
  · -- within the limit only a zombie is deleted
    intro n hn hz
    refine deleteNetwork_liveKept_other s a n hn (fun e => ?_) hz
    rw [net_unique h.nidNodup hn (findNet_some hf).1 (e.trans (findNet_some hf).2.symm)] at hz
    rcases hc with hc | hc
    · rw [hz] at hc; cases hc
    · omega
  · exact hl
  · obtain ⟨c1, c2⟩ := deleteNetwork_counts h a
    omega

/-- `delete_surplus_networks` while the number of cached networks is within the limit: only zombies go -/
theorem deleteSurplusNets_liveKept {s : State} (h : InvW s) (hl : s.nCachedNets ≤ s.nNetsLimit) :
    LiveKept s s.deleteSurplusNets := by
  rw [deleteSurplusNets_eq]
  generalize (s.nets.map (·.id)).reverse = ids
  induction ids generalizing s with
  | nil => exact LiveKept.refl s
  | cons a t ih =>
    rw [List.foldl_cons]
    obtain ⟨k1, k2, k3⟩ := surplusStep_liveKept h hl a
    exact k1.trans (ih k3 k2)

theorem netUnref_liveKept {s : State} (h : InvW s) (hl : s.nCachedNets ≤ s.nNetsLimit) (nid : Nat) :
    LiveKept s (s.netUnref nid) := by
  have k : ∀ f : Net → Net, (∀ n, (f n).id = n.id ∧ (f n).zombie = n.zombie) → LiveKept s (s.updNet nid f) :=
    fun f hf => liveKept_updNid (updNet_nets s nid f) hf
  rcases netUnref_cases s nid with e | ⟨n, _, ⟨_, e⟩ | e⟩ <;> rw [e]
  · exact LiveKept.refl s
  · exact k _ (fun n => ⟨rfl, rfl⟩)
  · exact (k (fun n => { n with ref := 0 }) (fun n => ⟨rfl, rfl⟩)).trans
      (deleteSurplusNets_liveKept ((Prim.netLoose nid).invW h) hl)

end Zvbi.Cache
