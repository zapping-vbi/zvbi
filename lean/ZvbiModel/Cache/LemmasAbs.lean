import ZvbiModel.Cache.LemmasStep
import ZvbiModel.Cache.LemmasAStore
/-!
# The cache.c state against the abstract store (memory not short)

`getPage_abs`: a look-up is `alookup` / `atouch`.  `putTailF_abs`, `putPageF_abs`: a store is `aputF fix` (as found `aput`, with
fixes/C10-put-replaces-all-versions.diff `aputR`), as a LIST equation (most-recently-used order of the remaining versions
included).

Method for the store: `putReplace_abs` (from `putReplace_eq`: the new version in front of what the deletions leave), then the
cases of `putTailF_cases`.  For the loop of the repaired shape: `absI` = the retrievable versions with their page ids;
`delete_page id` is `filter (id ≠ ·)` on it (freed, or turned into a zombie when it is still referenced), so `dropOthers` is
one filter, and the page the look-up found stays at the head of the chain.
-/
namespace Zvbi.Cache
open Zvbi.Gen.Cache

/-- the retrievable versions of a page list -/
def absL (l : List Page) : AStore := (l.filter (fun p => p.pri ≠ .zombie)).map Page.entry

theorem abs_eq (s : State) : s.abs = absL s.pages := rfl

theorem absL_cons (a : Page) (t : List Page) :
    absL (a :: t) = if a.pri ≠ .zombie then a.entry :: absL t else absL t := by
  unfold absL; rw [List.filter_cons]; by_cases h : a.pri = .zombie <;> simp [h]

theorem pageMatch_iff (nid pgno subno mask : Nat) (p : Page) :
    pageMatch nid pgno subno mask p = (decide (p.pri ≠ .zombie) && p.entry.matches nid pgno subno mask) := by
  unfold pageMatch Entry.matches Page.entry
  simp only [Bool.decide_and]

/-- `page_by_pgno` on the hash chain is `extract` on the abstract store -/
theorem extract_absL {l : List Page} (hn : IdsNodup l) (nid pgno subno mask : Nat) :
    extract (fun e => e.matches nid pgno subno mask) (absL l) =
      (l.find? (pageMatch nid pgno subno mask)).map (fun p => (p.entry, absL (rmId l p.id))) := by
  induction l with
  | nil => rfl
  | cons a t ih =>
    rw [idsNodup_cons] at hn
    rw [absL_cons, List.find?_cons, pageMatch_iff]
    by_cases hz : a.pri = .zombie
    · -- a zombie is on no hash chain
      have hne : a.pri ≠ .zombie ↔ False := by simp [hz]
      simp only [hz, ne_eq, not_true_eq_false, if_false, decide_false, Bool.false_and]
      rw [ih hn.2]
      cases hf : t.find? (pageMatch nid pgno subno mask) with
      | none => rfl
      | some p =>
        simp only [Option.map_some]
        have hp : p ∈ t := List.mem_of_find?_eq_some hf
        have : a.id ≠ p.id := fun e => hn.1 p hp e.symm
        rw [rmId_cons, if_neg this, absL_cons]; simp [hz]
    · simp only [ne_eq, hz, not_false_eq_true, if_true, decide_true, Bool.true_and]
      unfold extract
      by_cases hm : a.entry.matches nid pgno subno mask = true
      · simp only [hm, if_true, Option.map_some]
        rw [rmId_cons, if_pos rfl, rmId_of_not_mem hn.1]
      · have hm' : a.entry.matches nid pgno subno mask = false := by simpa using hm
        simp only [hm', Bool.false_eq_true, if_false]
        rw [ih hn.2]
        cases hf : t.find? (pageMatch nid pgno subno mask) with
        | none => rfl
        | some p =>
          simp only [Option.map_some]
          have hp : p ∈ t := List.mem_of_find?_eq_some hf
          have : a.id ≠ p.id := fun e => hn.1 p hp e.symm
          rw [rmId_cons, if_neg this, absL_cons]; simp [hz]

theorem absL_updId {l : List Page} (x : Nat) (f : Page → Page) (hp : ∀ p, (f p).pri = p.pri) (he : ∀ p, (f p).entry = p.entry) :
    absL (updId l x f) = absL l := by
  induction l with
  | nil => rfl
  | cons a t ih =>
    have : updId (a :: t) x f = (if a.id = x then f a else a) :: updId t x f := rfl
    rw [this, absL_cons, absL_cons, ih]
    by_cases e : a.id = x <;> simp [e, hp, he]

/-- `_vbi_cache_get_page` against the abstract store: the answer is the most recent version matching
    the key under the mask, and that version becomes the most recent one -/
theorem getPage_abs {s : State} (h : InvW s) (nid pgno subno mask : Nat) (hv : validPgno pgno = true) :
    ((s.getPage nid pgno subno mask).2.map Page.entry
        = alookup s.abs nid pgno subno (if subno = anySubno then 0 else mask))
    ∧ (s.getPage nid pgno subno mask).1.abs = atouch s.abs nid pgno subno (if subno = anySubno then 0 else mask) := by
  unfold alookup atouch
  rw [abs_eq, extract_absL h.pidNodup]
  rcases getPage_cases h nid pgno subno mask with ⟨c, _⟩ | ⟨_, _, c⟩
  · rcases c with c | c
    · rw [hv] at c; cases c
    · omega
  rw [Int.toNat_natCast] at c
  rcases c with ⟨hf, e⟩ | ⟨p, hf, e⟩ <;> rw [e, hf]
  · exact ⟨rfl, rfl⟩
  · have hnz : p.pri ≠ .zombie := (pageMatch_true.1 (List.find?_some hf)).1
    refine ⟨rfl, ?_⟩
    show (State.pageRef { s with pages := p :: rmId s.pages p.id } p.id).abs = _
    rw [abs_eq, pageRef_pages _ (by unfold State.findPage; simp),
      absL_updId _ (fun p => { p with ref := p.ref + 1 }) (fun _ => rfl) (fun _ => rfl)]
    show absL (p :: rmId s.pages p.id) = _
    rw [absL_cons, if_pos hnz]
    rfl

/-- the entry a put stores -/
def putEntry (nid : Nat) (a : PutArg) (subno : Nat) : Entry :=
  { net := nid, pgno := a.pgno, subno := subno, func := a.func, x26 := a.x26, x28 := a.x28, tag := a.tag }

theorem insertNew_abs (s : State) (nid : Nat) (a : PutArg) (subno : Nat) :
    (s.insertNew nid a subno).1.abs = putEntry nid a subno :: s.abs
    ∧ (s.insertNew nid a subno).2.entry = putEntry nid a subno := by
  rw [abs_eq, insertNew_pages, absL_cons]
  have : (s.insertNew nid a subno).2.pri ≠ .zombie := putPri_ne_zombie _ _ _
  rw [if_pos this]
  exact ⟨rfl, rfl⟩

theorem absL_rmId_head {p : Page} {l : List Page} : rmId (p :: rmId l p.id) p.id = rmId l p.id := by
  rw [rmId_cons, if_pos rfl]
  exact rmId_of_not_mem (fun q hq => (mem_rmId.1 hq).2)

theorem putReplace_abs {s : State} (h : InvW s) (nid : Nat) (a : PutArg) (subno : Nat) (avail : Int) {row : List Nat}
    (hrow : ∀ id ∈ row, id ∈ s.priority) {s' : State} {r : Option Page}
    (hres : s.putReplace nid a subno avail row = .ok (s', r)) :
    s'.abs = putEntry nid a subno :: (row.foldl (fun s id => s.deletePage id) s).abs
    ∧ r.map Page.entry = some (putEntry nid a subno) := by
  obtain ⟨rfl, x, rfl⟩ := putReplace_eq h nid a subno avail hrow hres
  exact ⟨(insertNew_abs _ nid a subno).1, congrArg some (insertNew_abs x nid a subno).2⟩

/-- death row and replacement when the look-up found no version and there is room: the death row stays empty -/
theorem putRest_abs_none {s : State} (h : InvW s) (nid : Nat) (a : PutArg) (k1 : Nat) (avail0 : Int)
    (havail : avail0 ≥ (pageSize a.func a.x26 a.x28 : Int))
    {s' : State} {r : Option Page} (hres : s.putRest nid a k1 none avail0 = .ok (s', r)) :
    s'.abs = putEntry nid a k1 :: s.abs ∧ r.map Page.entry = some (putEntry nid a k1) := by
  rw [putRest_room (old := none) nid a k1 havail] at hres
  exact putReplace_abs h nid a k1 avail0 (fun _ hid => by cases hid) hres

/-- death row and replacement when the version found is the head of the chain and there is room: a held version
    becomes a zombie, an unreferenced one is the only page on the death row -/
theorem putRest_abs_head {sv : State} (h : InvW sv) (nid : Nat) (a : PutArg) (k1 : Nat) (avail0 : Int) {o : Page} {base : List Page}
    (hp : sv.pages = o :: base) (havail : avail0 ≥ (pageSize a.func a.x26 a.x28 : Int))
    {s' : State} {r : Option Page} (hres : sv.putRest nid a k1 (some o) avail0 = .ok (s', r)) :
    s'.abs = putEntry nid a k1 :: absL base ∧ r.map Page.entry = some (putEntry nid a k1) := by
  have hom : o ∈ sv.pages := by rw [hp]; exact List.mem_cons_self
  have hfresh : ∀ q ∈ base, q.id ≠ o.id := (idsNodup_cons.1 (hp ▸ h.pidNodup)).1
  rcases putVictim_cases sv (some o) avail0 with ⟨ho, _⟩ | ⟨o', ho, hr, hv⟩ | ⟨o', ho, hr, hv⟩ <;> cases ho
  · rw [putRest_room nid a k1 (by rw [hv]; exact havail), hv] at hres
    obtain ⟨t1, t2⟩ := putReplace_abs ((Prim.zombify hom hr).invW h) nid a k1 avail0 (fun _ hid => by cases hid) hres
    refine ⟨?_, t2⟩
    rw [t1]
    show _ :: absL (sv.updPage o.id _).pages = _
    rw [updPage_pages, hp]
    have : updId (o :: base) o.id (fun p => { p with pri := .zombie }) = { o with pri := .zombie } :: base := by
      show (if o.id = o.id then _ else o) :: updId base o.id _ = _
      rw [if_pos rfl, updId_of_not_mem hfresh]
    rw [this, absL_cons]; simp
  · rw [putRest_room nid a k1 (by rw [hv]; show avail0 + (o.size : Int) ≥ _; omega), hv] at hres
    obtain ⟨t1, t2⟩ := putReplace_abs h nid a k1 _
      (fun id hid => by cases List.mem_singleton.1 hid; exact (h.priMem o.id).2 ⟨o, hom, rfl, hr⟩) hres
    refine ⟨?_, t2⟩
    have hfind : sv.findPage o.id = some o := by unfold State.findPage; rw [hp]; simp
    rw [t1]
    show _ :: absL (sv.deletePage o.id).pages = _
    rw [deletePage_free hfind hr, freePage_pages, hp, rmId_cons, if_pos rfl, rmId_of_not_mem hfresh]

/-- the retrievable versions of a page list, with the ids of their pages -/
def absI (l : List Page) : List (Nat × Entry) := (l.filter (fun p => p.pri ≠ .zombie)).map (fun p => (p.id, p.entry))

theorem absL_absI (l : List Page) : absL l = (absI l).map (·.2) := by
  unfold absL absI; rw [List.map_map]; rfl

theorem absI_cons (a : Page) (t : List Page) :
    absI (a :: t) = if a.pri ≠ .zombie then (a.id, a.entry) :: absI t else absI t := by
  unfold absI; rw [List.filter_cons]; by_cases h : a.pri = .zombie <;> simp [h]

theorem mem_absI {l : List Page} {y : Nat × Entry} (hy : y ∈ absI l) :
    ∃ q ∈ l, q.pri ≠ .zombie ∧ y = (q.id, q.entry) := by
  unfold absI at hy
  obtain ⟨q, hq, rfl⟩ := List.mem_map.1 hy
  have := List.mem_filter.1 hq
  exact ⟨q, this.1, by simpa using this.2, rfl⟩

theorem absI_rmId (l : List Page) (x : Nat) : absI (rmId l x) = (absI l).filter (fun y => y.1 ≠ x) := by
  induction l with
  | nil => rfl
  | cons a t ih =>
    rw [rmId_cons, absI_cons]
    by_cases e : a.id = x
    · rw [if_pos e, ih]
      by_cases hz : a.pri = .zombie
      · simp [hz]
      · simp [hz, e]
    · rw [if_neg e, absI_cons, ih]
      by_cases hz : a.pri = .zombie
      · simp [hz]
      · simp [hz, e]

theorem absI_updId_zombie (l : List Page) (x : Nat) :
    absI (updId l x (fun p => { p with pri := .zombie })) = (absI l).filter (fun y => y.1 ≠ x) := by
  induction l with
  | nil => rfl
  | cons a t ih =>
    have : updId (a :: t) x (fun p => { p with pri := .zombie })
        = (if a.id = x then { a with pri := .zombie } else a) :: updId t x (fun p => { p with pri := .zombie }) := rfl
    rw [this, absI_cons, absI_cons, ih]
    by_cases e : a.id = x
    · by_cases hz : a.pri = .zombie <;> simp [e, hz]
    · by_cases hz : a.pri = .zombie <;> simp [e, hz]

/-- a zombie is not among the retrievable versions: nothing to filter -/
theorem absI_filter_zombie {l : List Page} {x : Nat} (hz : ∀ q ∈ l, q.id = x → q.pri = .zombie) :
    (absI l).filter (fun y => y.1 ≠ x) = absI l := by
  apply List.filter_eq_self.2
  intro y hy
  obtain ⟨q, hq, hqz, rfl⟩ := mem_absI hy
  simp only [ne_eq, decide_not, Bool.not_eq_eq_eq_not, Bool.not_true, decide_eq_false_iff_not]
  exact fun e => hqz (hz q hq e)

/-- `delete_page` on the retrievable versions: the version with that id goes (freed, or made a zombie) -/
theorem deletePage_absI {s : State} (h : InvW s) (id : Nat) :
    absI (s.deletePage id).pages = (absI s.pages).filter (fun y => y.1 ≠ id) := by
  rcases deletePage_cases s id with ⟨e, hz⟩ | ⟨p, hf, ⟨_, _, e⟩ | ⟨_, e⟩⟩ <;> rw [e]
  · exact (absI_filter_zombie (x := id) fun q hq e => (hz q (e ▸ findPage_of_invW h hq)).2).symm
  · rw [updPage_pages, (findPage_some hf).2]; exact absI_updId_zombie _ _
  · rw [freePage_pages, (findPage_some hf).2]; exact absI_rmId _ _

theorem foldDelete_absI (ids : List Nat) {s : State} (h : InvW s) :
    absI (ids.foldl (fun s id => s.deletePage id) s).pages = (absI s.pages).filter (fun y => decide (y.1 ∉ ids)) := by
  induction ids generalizing s with
  | nil =>
    symm
    apply List.filter_eq_self.2
    intro y _; simp
  | cons x t ih =>
    rw [List.foldl_cons, ih (deletePage_invW h x), deletePage_absI h x, List.filter_filter]
    apply List.filter_congr
    intro y _
    by_cases e1 : y.1 = x <;> by_cases e2 : y.1 ∈ t <;> simp [e1, e2]

/-- the loop of the repaired shape on the retrievable versions: the versions of the page number in the network other than
    `keep` go, the others stay in their order -/
theorem dropOthers_absI {s : State} (h : InvW s) (nid pgno keep : Nat) :
    absI (s.dropOthers nid pgno keep).pages
      = (absI s.pages).filter (fun y => !(decide (y.2.pgno = pgno ∧ y.2.net = nid) && decide (y.1 ≠ keep))) := by
  unfold State.dropOthers
  rw [foldDelete_absI _ h]
  apply List.filter_congr
  intro y hy
  obtain ⟨q, hq, hqz, rfl⟩ := mem_absI hy
  -- ids are unique: the id of `q` is on the list of the loop iff `q` itself is a version to go
  have hin : q.id ∈ (s.pages.filter (fun q => q.pri ≠ .zombie ∧ q.pgno = pgno ∧ q.net = nid ∧ q.id ≠ keep)).map (·.id)
      ↔ (q.pgno = pgno ∧ q.net = nid) ∧ q.id ≠ keep := by
    constructor
    · intro hin
      obtain ⟨q', hq', e⟩ := List.mem_map.1 hin
      have hq'' := List.mem_filter.1 hq'
      simp only [decide_eq_true_eq] at hq''
      rw [mem_unique h.pidNodup hq''.1 hq e] at hq''
      exact ⟨⟨hq''.2.2.1, hq''.2.2.2.1⟩, hq''.2.2.2.2⟩
    · intro hc
      exact List.mem_map.2 ⟨q, List.mem_filter.2 ⟨hq, by simp only [decide_eq_true_eq]; exact ⟨hqz, hc.1.1, hc.1.2, hc.2⟩⟩, rfl⟩
  show decide (q.id ∉ _) = !(decide (q.pgno = pgno ∧ q.net = nid) && decide (q.id ≠ keep))
  rw [decide_not, ← Bool.decide_and]
  exact congrArg (!·) (decide_eq_decide.2 hin)

/-- `delete_page` of another page leaves the head of the chain where it is -/
theorem deletePage_head {s : State} {o : Page} {base : List Page} (hp : s.pages = o :: base) {id : Nat} (hne : o.id ≠ id) :
    ∃ base', (s.deletePage id).pages = o :: base' := by
  rcases deletePage_cases s id with ⟨e, _⟩ | ⟨p, hf, ⟨_, _, e⟩ | ⟨_, e⟩⟩ <;> rw [e]
  · exact ⟨base, hp⟩
  · rw [updPage_pages, hp, (findPage_some hf).2]
    exact ⟨updId base id (fun p => { p with pri := .zombie }), by show (if o.id = id then _ else o) :: _ = _; rw [if_neg hne]; rfl⟩
  · rw [freePage_pages, hp, (findPage_some hf).2, rmId_cons, if_neg hne]
    exact ⟨_, rfl⟩

theorem foldDelete_head (ids : List Nat) {s : State} {o : Page} {base : List Page} (hp : s.pages = o :: base)
    (hne : ∀ id ∈ ids, o.id ≠ id) : ∃ base', (ids.foldl (fun s id => s.deletePage id) s).pages = o :: base' := by
  induction ids generalizing s base with
  | nil => exact ⟨base, hp⟩
  | cons x t ih =>
    rw [List.foldl_cons]
    obtain ⟨b1, hb1⟩ := deletePage_head hp (hne x List.mem_cons_self)
    exact ih hb1 (fun id hid => hne id (List.mem_cons_of_mem _ hid))

/-- the part of `_vbi_cache_put_page` after the key was chosen, against the abstract store -/
theorem putTailF_abs (fix : Bool) {s : State} (h : InvW s) (nid : Nat) (a : PutArg) (k1 k2 : Nat) (avail0 : Int)
    (havail : avail0 ≥ (pageSize a.func a.x26 a.x28 : Int))
    (hroom : ((s.memLimit : Int) - s.memUsed) ≥ (pageSize a.func a.x26 a.x28 : Int))
    {s' : State} {r : Option Page} (hres : s.putTailF fix nid a k1 k2 avail0 = .ok (s', r)) :
    s'.abs = aputF fix s.abs (putEntry nid a k1) k2 ∧ r.map Page.entry = some (putEntry nid a k1) := by
  have hx : extract (fun o : Entry => o.matches nid a.pgno (k1 &&& k2) k2) s.abs = _ := extract_absL h.pidNodup ..
  rcases putTailF_cases fix s nid a k1 k2 avail0 with ⟨hfo, e⟩ | ⟨o, hfo, e⟩ <;> rw [e] at hres <;> rw [hfo] at hx
  · obtain ⟨t1, t2⟩ := putRest_abs_none h nid a k1 avail0 havail hres
    exact ⟨t1.trans (aputF_none fix _ (putEntry nid a k1) k2 hx).symm, t2⟩
  · split at hres
    · -- repaired, single-version key: all other versions of the page number are deleted first
      rename_i hc
      obtain ⟨rfl, rfl⟩ := hc
      have hom : o ∈ s.pages := List.mem_of_find?_eq_some hfo
      have hmatch := pageMatch_true.1 (List.find?_some hfo)
      have hoz : o.pri ≠ .zombie ∧ o.pgno = a.pgno ∧ o.net = nid := ⟨hmatch.1, hmatch.2.1, hmatch.2.2.2⟩
      have a1 := moveFront_invW h hom
      simp only at hres
      generalize hs0 : ({ s with pages := o :: rmId s.pages o.id } : State) = s0 at hres a1
      have hp0 : s0.pages = o :: rmId s.pages o.id := by rw [← hs0]
      have hI := dropOthers_absI a1 nid a.pgno o.id
      have m1 : Moves Kind.del s0 (s0.dropOthers nid a.pgno o.id) := foldDelete_moves _ s0
      have hb1 : ∃ base1, (s0.dropOthers nid a.pgno o.id).pages = o :: base1 := by
        refine foldDelete_head _ hp0 fun id hid e => ?_
        obtain ⟨q, hq, rfl⟩ := List.mem_map.1 hid
        have := (List.mem_filter.1 hq).2
        simp only [decide_eq_true_eq] at this
        exact this.2.2.2 e.symm
      obtain ⟨base1, hb1⟩ := hb1
      generalize s0.dropOthers nid a.pgno o.id = s1 at hres m1 hb1 hI
      have hav1 : ((s1.memLimit : Int) - s1.memUsed) ≥ (pageSize a.func a.x26 a.x28 : Int) := by
        have e1 := m1.mem (by decide)
        rw [m1.frame.limit, ← hs0]
        rw [← hs0] at e1
        have e1' : s1.memUsed ≤ s.memUsed := e1
        show ((s.memLimit : Int) - s1.memUsed) ≥ _
        omega
      obtain ⟨t1, t2⟩ := putRest_abs_head (m1.invW a1) nid a k1 _ hb1 hav1 hres
      refine ⟨?_, t2⟩
      rw [t1, aputF_true]
      unfold aputR
      rw [if_pos rfl]
      congr 1
      -- the versions behind `o` after the loop: those of other page numbers / networks, in order
      rw [hb1, hp0, absI_cons, absI_cons, if_pos hoz.1, if_pos hoz.1, List.filter_cons_of_pos (by simp)] at hI
      rw [absL_absI, (List.cons.inj hI).2, abs_eq, absL_absI, absI_rmId, List.filter_filter, List.filter_map]
      congr 1
      apply List.filter_congr
      intro y hy
      obtain ⟨q, hq, hqz, rfl⟩ := mem_absI hy
      show (!(decide (q.pgno = a.pgno ∧ q.net = nid) && decide (q.id ≠ o.id)) && decide (q.id ≠ o.id))
        = !(decide (q.pgno = a.pgno ∧ q.net = nid))
      by_cases hqo : q.id = o.id
      · -- `o` itself is a version of the page number
        rw [mem_unique h.pidNodup hq hom hqo]
        simp [hoz.2.1, hoz.2.2]
      · simp [hqo]
    · rename_i hc
      obtain ⟨t1, t2⟩ := putRest_abs_head (moveFront_invW h (List.mem_of_find?_eq_some hfo)) nid a k1 avail0 rfl havail hres
      refine ⟨?_, t2⟩
      rw [t1, aputF_eq_aput hc]
      show _ = (match extract (fun o : Entry => o.matches nid a.pgno (k1 &&& k2) k2) s.abs with
        | some (_, r) => putEntry nid a k1 :: r
        | none => putEntry nid a k1 :: s.abs)
      rw [hx]
      rfl

/-- `_vbi_cache_put_page` against the abstract store when memory is not short, BOTH source shapes: as found the version
    found under the key of `putKey` is replaced; repaired, under a single-version key EVERY version of the page number is,
    otherwise the version found under the key; the new version is the most recent one and is handed out; the order of
    all other versions is unchanged -/
theorem putPageF_abs (fix : Bool) {s : State} (h : InvW s) {nid : Nat} {cn : Net} (hf : s.findNet nid = some cn) (a : PutArg)
    (hlow : a.pgno &&& 0xFF ≠ 0xFF) (hrange : 0x100 ≤ a.pgno ∧ a.pgno ≤ 0x8FF)
    (hroom : s.memUsed + pageSize a.func a.x26 a.x28 ≤ s.memLimit)
    {s' : State} {r : Option Page} (hres : s.putPageF fix nid a = .ok (s', r)) :
    s'.abs = aputF fix s.abs (putEntry nid a (putKey (cn.getStat a.pgno).ptype a.pgno a.subno).1)
        (putKey (cn.getStat a.pgno).ptype a.pgno a.subno).2
    ∧ r.map Page.entry = some (putEntry nid a (putKey (cn.getStat a.pgno).ptype a.pgno a.subno).1) := by
  have havail : ((s.memLimit : Int) - s.memUsed) ≥ (pageSize a.func a.x26 a.x28 : Int) := by omega
  rw [putPageF_eq fix hf a hlow hrange] at hres
  exact putTailF_abs fix h nid a _ _ _ havail havail hres

end Zvbi.Cache
