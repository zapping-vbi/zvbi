import ZvbiModel.Cache.LemmasUpd
/-!
# cache_page_ref / cache_page_unref: the reference status of one page flips
-/
namespace Zvbi.Cache

theorem refFirst_invW {s : State} (h : InvW s) {p : Page} (hp : p ∈ s.pages) (hr : p.ref = 0) :
    InvW ((s.refFirst p).updPage p.id (fun p => { p with ref := p.ref + 1 })) := by
  refine flipPage_invW h hp (fun p => { p with ref := p.ref + 1 }) (fun n => { n with nRef := n.nRef + 1 })
    (fun _ => rfl) rfl rfl (fun _ => Nat.succ_pos _) (fun _ => rfl) (fun _ => rfl) (fun _ => rfl) (fun _ _ => rfl)
    (fun n _ _ => by simp [hr]) rfl rfl (h.priNodup.filter _)
    (nodup_append_singleton (h.refNodup.filter _) (by simp : p.id ∉ s.referenced.filter (· ≠ p.id))) ?_ ?_ ?_ rfl rfl rfl rfl
  · intro id
    show id ∈ s.priority.filter (· ≠ p.id) ↔ _
    rw [mem_filter_ne]
    exact ⟨Or.inl, fun hh => hh.elim (fun x => x) (fun x => absurd x.2 (Nat.succ_ne_zero _))⟩
  · intro id
    show id ∈ s.referenced.filter (· ≠ p.id) ++ [p.id] ↔ _
    rw [List.mem_append, mem_filter_ne, List.mem_singleton]
    exact ⟨fun hh => hh.elim Or.inl (fun x => Or.inr ⟨x, Nat.succ_pos _⟩), fun hh => hh.elim Or.inl (fun x => Or.inr x.1)⟩
  · intro m hm
    show s.memUsed - p.size = _
    simp only [hr, if_true, Nat.succ_ne_zero, if_false] at hm
    omega

theorem refFirst_znet {s : State} {P : Nat → Prop} (hz : ZNetOn s P) (p : Page) (f : Page → Page) :
    ZNetOn ((s.refFirst p).updPage p.id f) P := by
  intro n' hn' hp
  obtain ⟨n, hn, rfl⟩ := mem_updNid.1 (show n' ∈ updNid s.nets p.net _ from hn')
  split
  · intro _; right; exact Nat.succ_pos _
  · rename_i e; rw [if_neg e] at hp; exact hz n hn hp

theorem unrefLast_invW {s : State} (h : InvW s) {p : Page} (hp : p ∈ s.pages) (hr : p.ref = 1) (hnz : p.pri ≠ .zombie) :
    InvW (s.unrefLast p) := by
  refine flipPage_invW h hp (fun p => { p with ref := 0 }) (fun n => { n with nRef := n.nRef - 1 })
    (fun _ => rfl) rfl rfl (fun hz => absurd hz hnz) (fun _ => rfl) (fun _ => rfl) (fun _ => rfl) (fun _ _ => rfl)
    (fun n hn e => by
      have : 0 < s.pages.countP (fun q => decide (q.net = n.id ∧ 0 < q.ref)) :=
        List.countP_pos_iff.2 ⟨p, hp, by simp [e, hr]⟩
      simp [hr]; show n.nRef - 1 + 1 = n.nRef; omega)
    rfl rfl (nodup_append_singleton (h.priNodup.filter _) (by simp : p.id ∉ s.priority.filter (· ≠ p.id)))
    (h.refNodup.filter _) ?_ ?_ ?_ rfl rfl rfl rfl
  · intro id
    show id ∈ s.priority.filter (· ≠ p.id) ++ [p.id] ↔ _
    rw [List.mem_append, mem_filter_ne, List.mem_singleton]
    exact ⟨fun hh => hh.elim Or.inl (fun x => Or.inr ⟨x, rfl⟩), fun hh => hh.elim Or.inl (fun x => Or.inr x.1)⟩
  · intro id
    show id ∈ s.referenced.filter (· ≠ p.id) ↔ _
    rw [mem_filter_ne]
    exact ⟨Or.inl, fun hh => hh.elim (fun x => x) (fun x => absurd x.2 (Nat.lt_irrefl 0))⟩
  · intro m hm
    show s.memUsed + p.size = _
    have : ¬ p.ref = 0 := by omega
    simp only [this, if_false, if_true] at hm
    exact hm.symm

theorem rmId_updId {l : List Page} {x : Nat} {f : Page → Page} (hf : ∀ p, (f p).id = p.id) :
    rmId (updId l x f) x = rmId l x := by
  induction l with
  | nil => rfl
  | cons a t ih =>
    have : updId (a :: t) x f = (if a.id = x then f a else a) :: updId t x f := rfl
    rw [this, rmId_cons, rmId_cons, ih]
    by_cases h : a.id = x
    · simp [h, hf]
    · simp [h]

def rmZombieNet (pg : Nat) (n : Net) : Net := { rmPageNet pg n with nRef := n.nRef - 1 }
theorem rmZombieNet_id (pg : Nat) (n : Net) : (rmZombieNet pg n).id = n.id := rfl
theorem rmZombieNet_nCached (pg : Nat) (n : Net) : (rmZombieNet pg n).nCached = n.nCached - 1 := rfl
theorem rmZombieNet_nRef (pg : Nat) (n : Net) : (rmZombieNet pg n).nRef = n.nRef - 1 := rfl
theorem rmZombieNet_getStat (pg pg' : Nat) (n : Net) : (rmZombieNet pg n).getStat pg' = (rmPageNet pg n).getStat pg' := rfl

/-- `cache_page_unref`, last reference to a replaced page, all its writes at once: the page is freed by `delete_page`
    (which finds it unreferenced) and un-counted from its network -/
theorem unrefZombie_eq {s : State} (h : InvW s) {p : Page} (hp : p ∈ s.pages) (hz : p.pri = .zombie) :
    s.unrefZombie p =
      { s with pages := rmId s.pages p.id, priority := s.priority.filter (· ≠ p.id),
               referenced := s.referenced.filter (· ≠ p.id), nets := updNid s.nets p.net (rmZombieNet p.pgno),
               nCachedPages := s.nCachedPages - 1 } := by
  have hfind : (s.updPage p.id (fun p => { p with ref := 0 })).findPage p.id = some { p with ref := 0 } :=
    find_updId h.pidNodup hp (fun _ => rfl)
  unfold State.unrefZombie
  simp only
  rw [deletePage_free hfind rfl, freePage_eq]
  apply State.eq_of_fields <;> try rfl
  · exact rmId_updId (fun _ => rfl)
  · exact updNid_updNid _ _ (rmPageNet p.pgno) _ (fun _ => rfl)
  · show (if p.pri ≠ .zombie then _ else s.memUsed) = s.memUsed
    rw [if_neg (fun c => c hz)]

theorem unrefZombie_invW {s : State} (h : InvW s) {p : Page} (hp : p ∈ s.pages) (hr : p.ref = 1) (hz : p.pri = .zombie) :
    InvW (s.unrefZombie p) := by
  rw [unrefZombie_eq h hp hz]
  exact rmPage_invW h hp (rmZombieNet p.pgno) rfl rfl rfl rfl (by show s.memUsed = _; rw [if_neg (by omega)]) rfl rfl rfl rfl
    (fun _ => rfl) (fun _ => rfl) (fun _ => rfl) (fun _ => by simp [hr]; rfl) (fun n pg => rmPageNet_getStat p.pgno pg n)

end Zvbi.Cache
