import ZvbiModel.Cache.Inv
/-!
# `delete_page` (unreferenced branch) keeps the invariant
-/
namespace Zvbi.Cache

def rmPageNet (pg : Nat) (n : Net) : Net :=
  let ps := n.getStat pg
  ({ n with nCached := n.nCached - 1 } : Net).setStat pg { ps with nSub := (ps.nSub + 65535) % 65536 }

theorem State.eq_of_fields {s t : State} (e1 : s.pages = t.pages) (e2 : s.priority = t.priority)
    (e3 : s.referenced = t.referenced) (e4 : s.nets = t.nets) (e5 : s.nCachedPages = t.nCachedPages)
    (e6 : s.memUsed = t.memUsed) (e7 : s.memLimit = t.memLimit) (e8 : s.nCachedNets = t.nCachedNets)
    (e9 : s.nNetsLimit = t.nNetsLimit) (e10 : s.nextPid = t.nextPid) (e11 : s.nextNid = t.nextNid) : s = t := by
  cases s; cases t; simp only at *; subst e1 e2 e3 e4 e5 e6 e7 e8 e9 e10 e11; rfl

theorem freePage_eq (s : State) (p : Page) : s.freePage p =
    { s with pages := rmId s.pages p.id, priority := s.priority.filter (· ≠ p.id),
             referenced := s.referenced.filter (· ≠ p.id), nets := updNid s.nets p.net (rmPageNet p.pgno),
             nCachedPages := s.nCachedPages - 1,
             memUsed := if p.pri ≠ .zombie then s.memUsed - p.size else s.memUsed } := by
  unfold State.freePage; split <;> rfl

theorem freePage_pages (s : State) (p : Page) : (s.freePage p).pages = rmId s.pages p.id := by rw [freePage_eq]
theorem freePage_nets (s : State) (p : Page) : (s.freePage p).nets = updNid s.nets p.net (rmPageNet p.pgno) := by
  rw [freePage_eq]
theorem freePage_memUsed (s : State) (p : Page) :
    (s.freePage p).memUsed = if p.pri ≠ .zombie then s.memUsed - p.size else s.memUsed := by rw [freePage_eq]

@[simp] theorem rmPageNet_id (pg : Nat) (n : Net) : (rmPageNet pg n).id = n.id := rfl
@[simp] theorem rmPageNet_nCached (pg : Nat) (n : Net) : (rmPageNet pg n).nCached = n.nCached - 1 := rfl
@[simp] theorem rmPageNet_nRef (pg : Nat) (n : Net) : (rmPageNet pg n).nRef = n.nRef := rfl
@[simp] theorem rmPageNet_ref (pg : Nat) (n : Net) : (rmPageNet pg n).ref = n.ref := rfl
@[simp] theorem rmPageNet_zombie (pg : Nat) (n : Net) : (rmPageNet pg n).zombie = n.zombie := rfl
theorem rmPageNet_getStat (pg pg' : Nat) (n : Net) : ((rmPageNet pg n).getStat pg').nSub
    = if pg' = pg then ((n.getStat pg).nSub + 65535) % 65536 else (n.getStat pg').nSub := by
  unfold rmPageNet; simp only [getStat_setStat]; split
  · rfl
  · unfold Net.getStat; rfl

/-- page `p` leaves the store and both lists; the record of its network is changed by `g`, which takes the page out
    of the network's counters -/
theorem rmPage_invW {s s' : State} (h : InvW s) {p : Page} (hp : p ∈ s.pages) (g : Net → Net)
    (e1 : s'.pages = rmId s.pages p.id) (e2 : s'.priority = s.priority.filter (· ≠ p.id))
    (e3 : s'.referenced = s.referenced.filter (· ≠ p.id)) (e4 : s'.nets = updNid s.nets p.net g)
    (e5 : s'.memUsed = if p.ref = 0 then s.memUsed - p.size else s.memUsed)
    (e6 : s'.nCachedPages = s.nCachedPages - 1) (e7 : s'.nCachedNets = s.nCachedNets)
    (e8 : s'.nextPid = s.nextPid) (e9 : s'.nextNid = s.nextNid)
    (hgid : ∀ n, (g n).id = n.id) (hgz : ∀ n, (g n).zombie = n.zombie) (hgc : ∀ n, (g n).nCached = n.nCached - 1)
    (hgr : ∀ n, (g n).nRef = n.nRef - (if 0 < p.ref then 1 else 0))
    (hgs : ∀ n pg, ((g n).getStat pg).nSub
      = if pg = p.pgno then ((n.getStat p.pgno).nSub + 65535) % 65536 else (n.getStat pg).nSub) : InvW s' := by
  have hmemnet : ∀ n', n' ∈ s'.nets ↔ ∃ n ∈ s.nets, n' = if n.id = p.net then g n else n := by
    intro n'; rw [e4, mem_updNid]
  have hid : ∀ n : Net, (if n.id = p.net then g n else n).id = n.id := by
    intro n; split
    · exact hgid n
    · rfl
  constructor
  · rw [e1]; exact idsNodup_rmId h.pidNodup _
  · intro q hq; rw [e1, mem_rmId] at hq; rw [e8]; exact h.pidLt q hq.1
  · rw [e2]; exact h.priNodup.filter _
  · rw [e3]; exact h.refNodup.filter _
  · rw [e2, e1]; exact OnList.rmId (P := (· = 0)) h.priMem p.id
  · rw [e3, e1]; exact OnList.rmId (P := (0 < ·)) h.refMem p.id
  · intro q hq; rw [e1, mem_rmId] at hq; exact h.zombieRef q hq.1
  · rw [e4, map_updNid (·.id) hgid]; exact h.nidNodup
  · intro n' hn'; rw [hmemnet] at hn'; obtain ⟨n, hn, rfl⟩ := hn'
    rw [e9, hid]; exact h.nidLt n hn
  · intro q hq; rw [e1, mem_rmId] at hq
    obtain ⟨n, hn, e⟩ := h.netOf q hq.1
    exact ⟨_, (hmemnet _).2 ⟨n, hn, rfl⟩, by rw [hid]; exact e⟩
  · intro n' hn'; rw [hmemnet] at hn'; obtain ⟨n, hn, rfl⟩ := hn'
    rw [e1, hid]
    have h1 := h.nCached n hn
    split <;> rename_i e
    · have h2 := countP_rmId_pos h.pidNodup hp (P := fun q => decide (q.net = n.id)) (by simp [e])
      rw [hgc]; omega
    · have h2 := countP_rmId_neg h.pidNodup hp (P := fun q => decide (q.net = n.id)) (by simpa using fun x => e x.symm)
      omega
  · intro n' hn'; rw [hmemnet] at hn'; obtain ⟨n, hn, rfl⟩ := hn'
    rw [e1, hid]
    have h1 := h.nRef n hn
    split <;> rename_i e
    · rw [hgr]
      by_cases c : 0 < p.ref
      · have h2 := countP_rmId_pos h.pidNodup hp (P := fun q => decide (q.net = n.id ∧ 0 < q.ref)) (by simp [e, c])
        rw [if_pos c]; omega
      · have h2 := countP_rmId_neg h.pidNodup hp (P := fun q => decide (q.net = n.id ∧ 0 < q.ref)) (by simp [c])
        rw [if_neg c]; omega
    · have h2 := countP_rmId_neg h.pidNodup hp (P := fun q => decide (q.net = n.id ∧ 0 < q.ref))
        (by simpa using fun x => (e x.symm).elim)
      omega
  · intro n' hn' pg; rw [hmemnet] at hn'; obtain ⟨n, hn, rfl⟩ := hn'
    rw [e1, hid]
    have h1 := h.nSub n hn pg
    split <;> rename_i e
    · rw [hgs]
      split <;> rename_i e2
      · have h2 := countP_rmId_pos h.pidNodup hp (P := fun q => decide (q.net = n.id ∧ q.pgno = pg)) (by simp [e, e2])
        rw [← e2]; omega
      · have h2 := countP_rmId_neg h.pidNodup hp (P := fun q => decide (q.net = n.id ∧ q.pgno = pg))
            (by simpa using fun _ x => e2 x.symm)
        omega
    · have h2 := countP_rmId_neg h.pidNodup hp (P := fun q => decide (q.net = n.id ∧ q.pgno = pg))
            (by simpa using fun x => (e x.symm).elim)
      omega
  · rw [e6, e1]; have := length_rmId h.pidNodup hp; have := h.nPages; omega
  · rw [e5, e1]
    have h1 := h.mem
    by_cases c : p.ref = 0
    · have h2 := fsum_rmId_pos h.pidNodup hp (Q := fun q => decide (q.ref = 0)) Page.size (by simp [c])
      rw [if_pos c]; unfold fsum at h2; omega
    · have h2 := fsum_rmId_neg h.pidNodup hp (Q := fun q => decide (q.ref = 0)) Page.size (by simp [c])
      rw [if_neg c]; unfold fsum at h2; omega
  · rw [e7, e4, countP_updNid (fun n => !n.zombie) (fun n => by rw [hgz])]; exact h.nNets

theorem freePage_invW {s : State} (h : InvW s) {p : Page} (hp : p ∈ s.pages) (hr : p.ref = 0) :
    InvW (s.freePage p) := by
  have hnz : p.pri ≠ .zombie := fun e => by have := h.zombieRef p hp e; omega
  rw [freePage_eq]
  exact rmPage_invW h hp (rmPageNet p.pgno) rfl rfl rfl rfl (by show (if _ then _ else _) = _; rw [if_pos hnz, if_pos hr])
    rfl rfl rfl rfl (fun _ => rfl) (fun _ => rfl) (fun _ => rfl) (fun _ => by simp [hr])
    (fun n pg => rmPageNet_getStat p.pgno pg n)

theorem freePage_netKey (s : State) (p : Page) : (s.freePage p).nets.map netKey = s.nets.map netKey := by
  rw [freePage_nets]; exact map_updNid netKey (fun n => rfl)

end Zvbi.Cache
