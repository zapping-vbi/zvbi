import ZvbiModel.Cache.LemmasHeld
/-!
# 'highest subpage' agrees with the map

`HiInv`: the recorded sub-page range of every network bounds the sub-page numbers of all its allocated pages
(cached versions and replaced versions still held).  `Calm` changes keep it (`hi_of_calm`); a store keeps it
when the `uint16_t` counter `n_subpages` does not wrap and the sub-page number fits the `uint16_t` range members.
-/
namespace Zvbi.Cache

theorem getStat_fields (n : Net) (pg : Nat) (a b c : Nat) (z : Bool) :
    ({ n with nRef := a, zombie := z, nCached := b, maxCached := c } : Net).getStat pg = n.getStat pg := rfl

theorem addPageNet_rng (pg subno : Nat) (m : Net) :
    rng (addPageNet pg subno m) pg
      = (if ((m.getStat pg).nSub + 1) % 65536 = 1 ∨ subno < (m.getStat pg).subMin then subno % 65536 else (m.getStat pg).subMin,
         if ((m.getStat pg).nSub + 1) % 65536 = 1 ∨ subno > (m.getStat pg).subMax then subno % 65536 else (m.getStat pg).subMax)
    ∧ ∀ pg', pg' ≠ pg → rng (addPageNet pg subno m) pg' = rng m pg' := by
  unfold rng
  refine ⟨by rw [addPageNet_getStat, if_pos rfl]; rfl, fun pg' hne => by rw [addPageNet_getStat, if_neg hne]⟩

/-- the recorded range bounds every allocated page of the network -/
def HiInv (s : State) : Prop :=
  ∀ n ∈ s.nets, ∀ p ∈ s.pages, p.net = n.id →
    (n.getStat p.pgno).subMin ≤ p.subno ∧ p.subno ≤ (n.getStat p.pgno).subMax

theorem hi_of_calm {s s' : State} (hi : HiInv s) (c : Calm s s') : HiInv s' := by
  intro n' hn' q hq hnet
  rcases c.nets n' hn' with ⟨n, hn, e, r⟩ | hno
  · obtain ⟨p, hp, k⟩ := c.pages q hq
    have := hi n hn p hp (by rw [k.net, hnet, e])
    have r1 := r q.pgno
    unfold marks rng at r1
    simp only [Prod.mk.injEq] at r1
    rw [r1.2.1, r1.2.2, ← k.pgno, ← k.subno]
    exact this
  · exact absurd hnet (hno q hq)

theorem putKey_cases (ptype pgno subno : Nat) :
    (isBcd pgno = true ∧ (((putKey ptype pgno subno).1 ≤ subno ∧ (putKey ptype pgno subno).2 = 0)
        ∨ putKey ptype pgno subno = (subno, 0xFF)))
    ∨ (¬ isBcd pgno = true ∧ putKey ptype pgno subno = (subno, 0xF)) := by
  unfold putKey
  by_cases hb : isBcd pgno = true
  · refine Or.inl ⟨hb, ?_⟩
    rw [if_pos hb]
    have k := @ite_both (Nat × Nat) (fun k => (k.1 ≤ subno ∧ k.2 = 0) ∨ k = (subno, 0xFF))
    exact k (Or.inl ⟨Nat.zero_le _, rfl⟩)
      (k (Or.inl ⟨ite_both (P := (· ≤ subno)) (Nat.zero_le _) (Nat.le_refl _), rfl⟩)
        (k (Or.inl ⟨Nat.zero_le _, rfl⟩) (Or.inr rfl)))
  · exact Or.inr ⟨hb, by rw [if_neg hb]⟩

theorem putKey_le (ptype pgno subno : Nat) : (putKey ptype pgno subno).1 ≤ subno := by
  rcases putKey_cases ptype pgno subno with ⟨_, ⟨h, _⟩ | h⟩ | ⟨_, h⟩
  · exact h
  · rw [h]; exact Nat.le_refl _
  · rw [h]; exact Nat.le_refl _

/-- the store keeps `HiInv` while `n_subpages` does not wrap: with `count + 1 < 65536` the counter reads 1 only when no other
    version of the page number is allocated, so `cache_network_add_page` starts the recorded range over only then -/
theorem store_hi {s0 : State} (h0 : InvW s0) (hi : HiInv s0) {m : Net} (hm : m ∈ s0.nets) (a : PutArg) (subno : Nat)
    (hsub : subno < 65536)
    (hnw : s0.pages.countP (fun p => p.net = m.id ∧ p.pgno = a.pgno) + 1 < 65536) :
    HiInv (s0.store m.id a subno) := by
  obtain ⟨np, hpages, hnets, pnet, ppg, psub, _⟩ := store_shape h0 hm a subno
  have hns : (m.getStat a.pgno).nSub = s0.pages.countP (fun p => p.net = m.id ∧ p.pgno = a.pgno) := by
    have := h0.nSub m hm a.pgno; omega
  obtain ⟨r1, r2⟩ := addPageNet_rng a.pgno subno m
  intro n' hn' p hp hnet
  rw [hnets] at hn'
  rw [hpages] at hp
  obtain ⟨k, hk, rfl⟩ := mem_updNid.1 hn'
  have hp2 : p = np ∨ p ∈ s0.pages := List.mem_cons.1 hp
  by_cases e : k.id = m.id
  · have hkm : k = m := net_unique h0.nidNodup hk hm e
    subst hkm
    rw [if_pos rfl] at hnet ⊢
    have hnet' : p.net = k.id := by rw [hnet]; exact addPageNet_id _ _ _
    by_cases epg : p.pgno = a.pgno
    · rw [epg]
      unfold rng at r1
      simp only [Prod.mk.injEq] at r1
      rw [r1.1, r1.2, hns]
      have hmod : subno % 65536 = subno := Nat.mod_eq_of_lt hsub
      rcases hp2 with rfl | hp0
      · rw [psub, hmod]
        constructor
        · split
          · exact Nat.le_refl _
          · rename_i hc; omega
        · split
          · exact Nat.le_refl _
          · rename_i hc; omega
      · have hb := hi k hk p hp0 hnet'
        rw [epg] at hb
        have hpos : 0 < s0.pages.countP (fun p => decide (p.net = k.id ∧ p.pgno = a.pgno)) :=
          List.countP_pos_iff.2 ⟨p, hp0, by simp [hnet', epg]⟩
        have hne1 : ¬ (s0.pages.countP (fun p => decide (p.net = k.id ∧ p.pgno = a.pgno)) + 1) % 65536 = 1 := by
          rw [Nat.mod_eq_of_lt hnw]; omega
        rw [hmod]
        constructor
        · split
          · rename_i hc
            rcases hc with hc | hc
            · exact absurd hc hne1
            · omega
          · exact hb.1
        · split
          · rename_i hc
            rcases hc with hc | hc
            · exact absurd hc hne1
            · omega
          · exact hb.2
    · have r2' := r2 p.pgno epg
      unfold rng at r2'
      simp only [Prod.mk.injEq] at r2'
      rw [r2'.1, r2'.2]
      rcases hp2 with rfl | hp0
      · exact absurd ppg epg
      · exact hi k hk p hp0 hnet'
  · rw [if_neg e] at hnet ⊢
    rcases hp2 with rfl | hp0
    · exact absurd (pnet.symm.trans hnet).symm e
    · exact hi k hk p hp0 hnet

/-- `n_subpages` cannot wrap in this state: fewer than 65536 allocated versions of every page number -/
def NoWrap (s : State) : Prop := ∀ n ∈ s.nets, ∀ pg, s.pages.countP (fun p => p.net = n.id ∧ p.pgno = pg) < 65536

/-- the operation stores a sub-page number that fits the `uint16_t` members `subno_min` / `subno_max` -/
def SubOk : Op → Prop
  | .put _ a => a.subno < 65536
  | _ => True

/-- a history on which the 16 bit statistics members are exact: no state on the way has 65536 or more allocated
    versions of one page number, no stored sub-page number exceeds 16 bits (libzvbi stores <= 0x3F7F) -/
def Tame (fix : Bool) : State → List Op → Prop
  | _, [] => True
  | s, op :: t => SubOk op ∧ NoWrap (stepF fix s op).1 ∧ Tame fix (stepF fix s op).1 t

theorem countP_cons_new {l : List Page} {np : Page} (P : Page → Bool) : (np :: l).countP P = l.countP P + (if P np then 1 else 0) := by
  rw [List.countP_cons]

theorem hi_stepF (fix : Bool) {s : State} (g : Good s) (hi : HiInv s) (op : Op) (hs : SubOk op)
    (hnw : NoWrap (stepF fix s op).1) : HiInv (stepF fix s op).1 := by
  rcases stepF_shape fix g op with c | ⟨nid, a, cn, s0, m, rfl, _, i0, c0, hm, e⟩
  · exact hi_of_calm hi c
  · rw [e] at hnw ⊢
    refine store_hi i0 (hi_of_calm hi c0) hm a _ (Nat.lt_of_le_of_lt (putKey_le _ _ _) hs) ?_
    -- the state after the store has the new page: its count is the old count + 1
    obtain ⟨np, hpages, hnets, pnet, ppg, _⟩ := store_shape i0 hm a (putKey (cn.getStat a.pgno).ptype a.pgno a.subno).1
    have := hnw (addPageNet a.pgno (putKey (cn.getStat a.pgno).ptype a.pgno a.subno).1 m)
      (by rw [hnets]; exact mem_updNid.2 ⟨m, hm, by rw [if_pos rfl]⟩) a.pgno
    rw [hpages, addPageNet_id, List.countP_cons] at this
    simp only [pnet, ppg, and_self, decide_true, if_true] at this
    exact this

theorem hi_runF (fix : Bool) (ops : List Op) {s : State} (g : Good s) (hi : HiInv s) (ht : Tame fix s ops) :
    HiInv (runF fix s ops) := by
  induction ops generalizing s with
  | nil => exact hi
  | cons op t ih =>
    obtain ⟨h1, h2, h3⟩ := ht
    exact ih (good_stepF fix g op) (hi_stepF fix g hi op h1 h2) h3

theorem hi_init : HiInv init := by intro n hn; simp [init] at hn

theorem tame_of_small (fix : Bool) : ∀ (ops : List Op) (s : State),
    (∀ op ∈ ops, SubOk op) → (∀ k, k ≤ ops.length → (runF fix s (ops.take k)).pages.length < 65536) → Tame fix s ops := by
  intro ops
  induction ops with
  | nil => intro s _ _; trivial
  | cons op t ih =>
    intro s h1 h2
    refine ⟨h1 op List.mem_cons_self, ?_, ih _ (fun o ho => h1 o (List.mem_cons_of_mem _ ho)) ?_⟩
    · intro n _ pg
      have := h2 1 (by simp)
      have hle : (stepF fix s op).1.pages.countP (fun p => decide (p.net = n.id ∧ p.pgno = pg)) ≤ (stepF fix s op).1.pages.length :=
        List.countP_le_length
      have e : runF fix s (List.take 1 (op :: t)) = (stepF fix s op).1 := rfl
      rw [e] at this
      omega
    · intro k hk
      have := h2 (k + 1) (by simp; omega)
      exact this

end Zvbi.Cache
