import ZvbiModel.Cache.LemmasAbs
import ZvbiModel.Cache.LemmasTtx
/-!
# The decoder's page list and the cache.c state: release of a page reference, one call on both sides

What Props/C03Join.lean (`ttx_refined_by_cache_full`) asks of the cache side.  The decoder releases every page right
after use (`cache_page_unref`), so a mirrored history interleaves `unref`s: `cache_page_unref` leaves the retrievable
entries `State.abs` - content and order - alone when the network of the page is not a zombie and the page fits the limit
once it is unreferenced (`pageUnref_abs_keep_last`); look-up followed by release does so from any state with the invariant
(`getPage_unref_abs`).  `getPage_sim`, `putPageF_sim`: a look-up / a store on both sides keeps `Sim`, for any state with
`InvW`.
-/
namespace Zvbi.Cache
open Zvbi.Gen.Cache
open Zvbi.Props.C10Ttx (Sim)

/-- network `nid` is not marked for deletion -/
def State.live (s : State) (nid : Nat) : Prop := ∀ n ∈ s.nets, n.id = nid → n.zombie = false

theorem live_updNid {s s' : State} {x nid : Nat} {f : Net → Net} (he : s'.nets = updNid s.nets x f)
    (hf : ∀ n, (f n).id = n.id ∧ (f n).zombie = n.zombie) (hz : s.live nid) : s'.live nid := by
  intro n hn e
  rw [he] at hn
  obtain ⟨m, hm, rfl⟩ := mem_updNid.1 hn
  by_cases c : m.id = x
  · rw [if_pos c] at e ⊢
    rw [(hf m).2]
    exact hz m hm (by rw [← (hf m).1]; exact e)
  · rw [if_neg c] at e ⊢
    exact hz m hm e

/-- `if (cn->zombie && ...) delete_network (ca, cn)`: nothing happens to a network that is not a zombie -/
theorem unrefNetCheck_live {s : State} (nid : Nat) (hz : s.live nid) : s.unrefNetCheck nid = s := by
  rcases unrefNetCheck_cases s nid with ⟨e, _⟩ | ⟨n, hf, hzz, _⟩
  · exact e
  · rw [hz n (findNet_some hf).1 (findNet_some hf).2] at hzz; cases hzz

/-- `if (ca->memory_used > ca->memory_limit) delete_surplus_pages (ca)`: nothing happens within the limit -/
theorem memCheck_within {s : State} (h : s.memUsed ≤ s.memLimit) : s.memCheck = s := by
  unfold State.memCheck
  rw [if_neg (by omega)]

/-- the tail of `cache_page_unref` (zombie-network check, memory check) on a live network within the limit -/
theorem unrefTail_keep {s : State} (nid : Nat) (hz : s.live nid) (h : s.memUsed ≤ s.memLimit) : s.unrefTail nid = s := by
  unfold State.unrefTail
  rw [unrefNetCheck_live nid hz, memCheck_within h]

/-- **`cache_page_unref` does not disturb the retrievable versions** (content and most-recently-used order) when the
    memory is within the limit and, at the release of the last reference, the network of the page is not a zombie and
    a page that stays cached fits: `memory_used + size <= memory_limit` -/
theorem pageUnref_abs_keep_last {s : State} (h : InvW s) (hm : s.memUsed ≤ s.memLimit) (id : Nat)
    (hz : ∀ p, s.findPage id = some p → p.ref = 1 → s.live p.net)
    (hroom : ∀ p, s.findPage id = some p → p.ref = 1 → p.pri ≠ .zombie → s.memUsed + p.size ≤ s.memLimit) :
    (s.pageUnref id).abs = s.abs := by
  have upd : ∀ (x : Nat) (f : Page → Page), (∀ p, (f p).pri = p.pri) → (∀ p, (f p).entry = p.entry) →
      absL (updId s.pages x f) = s.abs := fun x f h1 h2 => absL_updId x f h1 h2
  rcases pageUnref_cases s id with ⟨e, _⟩ | ⟨p, hf, ⟨_, e⟩ | ⟨hr1, hzomb, e⟩ | ⟨hr1, hzomb, e⟩⟩ <;> rw [e]
  · rw [abs_eq, updPage_pages]; exact upd _ _ (fun _ => rfl) (fun _ => rfl)
  · rw [unrefTail_keep p.net (live_updNid (s' := s.unrefLast p) rfl (fun n => ⟨rfl, rfl⟩) (hz p hf hr1))
      (hroom p hf hr1 hzomb), abs_eq]
    exact upd _ _ (fun _ => rfl) (fun _ => rfl)
  · have hp := (findPage_some hf).1
    have k := unrefZombie_eq h hp hzomb
    rw [unrefTail_keep p.net (live_updNid (congrArg State.nets k) (fun n => ⟨rfl, rfl⟩) (hz p hf hr1))
      (by rw [k]; exact hm), k, abs_eq, abs_eq]
    show absL (rmId s.pages p.id) = _
    rw [absL_absI, absL_absI, absI_rmId, absI_filter_zombie fun q hq e => mem_unique h.pidNodup hq hp e ▸ hzomb]

theorem pageUnref_abs_keep {s : State} (h : InvW s) (id : Nat)
    (hz : ∀ p, s.findPage id = some p → s.live p.net)
    (hroom : ∀ p, s.findPage id = some p → s.memUsed + p.size ≤ s.memLimit) :
    (s.pageUnref id).abs = s.abs := by
  rcases pageUnref_cases s id with ⟨e, _⟩ | ⟨p, hf, _⟩
  · rw [e]
  · exact pageUnref_abs_keep_last h (Nat.le_trans (Nat.le_add_right _ _) (hroom p hf)) id (fun q hq _ => hz q hq)
      (fun q hq _ _ => hroom q hq)

/-- `.ptype` (the decoder writing `page_type` into `cn->_pages[]`) leaves the pages alone -/
theorem ptype_abs (fix : Bool) (s : State) (nid pgno t : Nat) : (stepF fix s (.ptype nid pgno t)).1.abs = s.abs := by
  rcases stepF_fst fix s (.ptype nid pgno t) with e | e <;> rw [e] <;> rfl

theorem abs_filter_empty {s : State} {nid : Nat} (h : ∀ q ∈ s.pages, q.net ≠ nid) :
    s.abs.filter (fun e => decide (e.net = nid)) = [] := by
  apply List.filter_eq_nil_iff.2
  intro e he
  unfold State.abs at he
  obtain ⟨q, hq, rfl⟩ := List.mem_map.1 he
  have := h q (List.mem_filter.1 hq).1
  simp only [Page.entry]
  intro hd
  exact this (of_decide_eq_true hd)

theorem size_le_sum {l : List Page} {p : Page} (hp : p ∈ l) (hr : p.ref = 0) :
    p.size ≤ ((l.filter (fun p => p.ref = 0)).map Page.size).sum := by
  rw [sum_filter_eq_wsum]
  have := wsum_pos_of_mem (w := fun q => if decide (q.ref = 0) = true then q.size else 0) hp
  simpa [hr] using this

/-- after `cache_page_ref`'s un-zombie step the network `x` is not a zombie -/
theorem unzombieNet_live {s : State} (h : InvW s) (x : Nat) : (s.unzombieNet x).live x := by
  intro n hn e
  rcases unzombieNet_cases s x with ⟨e', hz⟩ | ⟨_, _, _, e'⟩ <;> rw [e'] at hn
  · exact hz n (e ▸ findNet_of_invW h hn)
  · obtain ⟨m, hm, rfl⟩ := mem_updNid.1 (show n ∈ updNid s.nets x (fun n => { n with zombie := false }) from hn)
    by_cases c : m.id = x
    · rw [if_pos c]
    · rw [if_neg c] at e; exact absurd e c

/-- `cache_page_ref` of a page, then `cache_page_unref` of it: the retrievable versions stay.  A first reference
    un-zombies the network and gives up exactly the room the page needs when it is unreferenced again. -/
theorem pageRef_unref_abs {s : State} (g : Good s) {p : Page} (hp : p ∈ s.pages) :
    ((s.pageRef p.id).pageUnref p.id).abs = (s.pageRef p.id).abs := by
  obtain ⟨h, hz, hm⟩ := g
  have hfp := findPage_of_invW h hp
  have g2 := (pageRef_moves h p.id).good (by decide) ⟨h, hz, hm⟩
  have hfirst : p.ref = 0 → s.pageRef p.id
      = ((s.unzombieNet p.net).refFirst p).updPage p.id (fun p => { p with ref := p.ref + 1 }) := by
    intro hr0
    rcases pageRef_cases s p.id with ⟨hn, _⟩ | ⟨q, hq, ⟨_, e⟩ | ⟨hr, _⟩⟩ <;> rw [hfp] at *
    · cases hn
    · cases hq; exact e
    · cases hq; omega
  apply pageUnref_abs_keep_last g2.1 g2.2.2 p.id <;> intro q hqf hr1 <;> rw [pageRef_found h hp] at hqf <;> cases hqf <;>
    have hr0 : p.ref = 0 := (by simpa using hr1)
  · rw [hfirst hr0]
    exact live_updNid (s := s.unzombieNet p.net) rfl (fun n => ⟨rfl, rfl⟩) (unzombieNet_live h p.net)
  · intro _
    have hle : p.size ≤ s.memUsed := by rw [h.mem]; exact size_le_sum hp hr0
    rw [(pageRef_moves h p.id).frame.limit, hfirst hr0]
    show (s.unzombieNet p.net).memUsed - p.size + p.size ≤ s.memLimit
    rw [(unzombieNet_mem s p.net).1]
    omega

/-- **`_vbi_cache_get_page` + `cache_page_unref` of the page returned**, from any good state, no side condition: the
    retrievable versions are what the look-up left (`atouch` of the store before, `getPage_abs`) -/
theorem getPage_unref_abs {s : State} (g : Good s) (nid pgno : Nat) (subno : Int) (mask : Nat) (q : Page)
    (hq : (s.getPage nid pgno subno mask).2 = some q) :
    ((s.getPage nid pgno subno mask).1.pageUnref q.id).abs = (s.getPage nid pgno subno mask).1.abs := by
  rcases getPage_cases g.1 nid pgno subno mask with ⟨_, e⟩ | ⟨_, _, ⟨_, e⟩ | ⟨p, hf, e⟩⟩ <;> rw [e] at hq ⊢
  · cases hq
  · cases hq
  · cases hq
    have hp := List.mem_of_find?_eq_some hf
    exact pageRef_unref_abs ((Moves.one (K := Kind.tidy) (by decide) (.front hp)).good (fun _ hk => hk) g) List.mem_cons_self

/-! ### the decoder's page list against the cache.c state: one call on both sides, any state with the invariant -/

theorem sim_empty (nid : Nat) (enc : Ttx.Page → Nat) {s : State} (h : ∀ q ∈ s.pages, q.net ≠ nid) : Sim nid enc [] s :=
  abs_filter_empty h

theorem getPage_invalid (s : State) (nid : Nat) {pgno : Nat} (subno : Int) (mask : Nat) (hv : validPgno pgno = false) :
    s.getPage nid pgno subno mask = (s, none) := by
  rw [getPage_eq, if_pos (Or.inl (by rw [hv]; rfl))]

/-- look-up on both sides, any page number: the same page is handed out, still in simulation -/
theorem getPage_sim {s : State} (h : InvW s) (nid : Nat) (enc : Ttx.Page → Nat) (c : List Ttx.Page)
    (hsim : Sim nid enc c s) (pgno subno mask : Nat) :
    Sim nid enc (match Ttx.cacheGet c pgno subno mask with | some r => r.2 | none => c) (s.getPage nid pgno subno mask).1 ∧
    (s.getPage nid pgno subno mask).2.map Page.entry = (Ttx.cacheGet c pgno subno mask).map (fun r => tentry nid enc r.1) := by
  cases hv : validPgno pgno with
  | true =>
    obtain ⟨g1, g2⟩ := getPage_abs h nid pgno subno mask hv
    obtain ⟨t1, t2⟩ := tcacheGet_abs nid enc c pgno subno mask hv
    unfold Sim at hsim ⊢
    exact ⟨by rw [g2, atouch_filter, hsim]; exact t2.symm, by rw [g1, t1, ← hsim, alookup_filter]⟩
  | false =>
    rw [tcacheGet_invalid c pgno subno mask hv, getPage_invalid s nid subno mask hv]
    exact ⟨hsim, rfl⟩

/-- store on both sides, both source shapes (memory not short, the decoder's page type is the one in the cache statistics,
    the stored content token is `enc` of the stored page): the page handed out is the entry of the key rule, which is
    the decoder's stored page, and the two sides are still in simulation -/
theorem putPageF_sim (fix : Bool) {s : State} (h : InvW s) (nid : Nat) (enc : Ttx.Page → Nat) (c : List Ttx.Page)
    (hsim : Sim nid enc c s) (cn : Net) (hf : s.findNet nid = some cn)
    (p : Ttx.Page) (hrange : 0x100 ≤ p.pgno ∧ p.pgno ≤ 0x8FF)
    (a : PutArg) (ha : a = ⟨p.pgno, p.subno, p.function, p.x26, p.x28, enc (tstored (cn.getStat p.pgno).ptype p)⟩)
    (hroom : s.memUsed + pageSize a.func a.x26 a.x28 ≤ s.memLimit)
    (c' : List Ttx.Page) (hc : Ttx.cachePutF fix c (cn.getStat p.pgno).ptype p = some c')
    (s' : State) (r : Option Page) (hres : s.putPageF fix nid a = .ok (s', r)) :
    r.map Page.entry = some (putEntry nid a (putKey (cn.getStat a.pgno).ptype a.pgno a.subno).1)
    ∧ putEntry nid a (putKey (cn.getStat a.pgno).ptype a.pgno a.subno).1 = tentry nid enc (tstored (cn.getStat p.pgno).ptype p)
    ∧ Sim nid enc c' s' := by
  obtain ⟨hlow, t⟩ := tcachePutF_abs fix nid enc c (cn.getStat p.pgno).ptype p (by omega) hc
  obtain ⟨g1, g2⟩ := putPageF_abs fix h hf a (by rw [ha]; exact hlow) (by rw [ha]; exact hrange) hroom hres
  have he : putEntry nid a (putKey (cn.getStat a.pgno).ptype a.pgno a.subno).1
      = tentry nid enc (tstored (cn.getStat p.pgno).ptype p) := by
    rw [ha, tstored_eq]
    exact putEntry_tentry nid enc p (putKey (cn.getStat p.pgno).ptype p.pgno p.subno) _ rfl
  have hk : (putKey (cn.getStat a.pgno).ptype a.pgno a.subno).2 = (putKey (cn.getStat p.pgno).ptype p.pgno p.subno).2 := by
    rw [ha]
  refine ⟨g2, he, ?_⟩
  unfold Sim at hsim ⊢
  rw [g1, he, hk]
  have := aputF_filter fix s.abs (tentry nid enc (tstored (cn.getStat p.pgno).ptype p))
    (putKey (cn.getStat p.pgno).ptype p.pgno p.subno).2
  rw [show (tentry nid enc (tstored (cn.getStat p.pgno).ptype p)).net = nid from rfl] at this
  rw [this, hsim, t]

end Zvbi.Cache
