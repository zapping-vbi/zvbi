import ZvbiModel.Cache.LemmasFree
/-!
# One page updated or relinked: what keeps `InvW`

Also: `findPage_some`, the case lemma of `delete_page` (`deletePage_cases`), and the relations between an old and a new page
record every later file uses: `sameCont` (same page, same content), `sameBody` (and the same reference count).
-/
namespace Zvbi.Cache

/-- Page `p` is changed by `f` (same identity, network, page number) and the record of its network by `g`, which
    follows the reference status of the page in `n_referenced_pages`; every other id keeps its place on the two lists
    and `p.id` is on the one its new reference count asks for; `memory_used` follows the status too. -/
theorem flipPage_invW {s s' : State} (h : InvW s) {p : Page} (hp : p ∈ s.pages) (f : Page → Page) (g : Net → Net)
    (hfid : ∀ q, (f q).id = q.id) (hfnet : (f p).net = p.net) (hfpg : (f p).pgno = p.pgno)
    (hfz : (f p).pri = .zombie → 0 < (f p).ref)
    (hgid : ∀ n, (g n).id = n.id) (hgz : ∀ n, (g n).zombie = n.zombie) (hgc : ∀ n, (g n).nCached = n.nCached)
    (hgs : ∀ n pg, (g n).getStat pg = n.getStat pg)
    (hgr : ∀ n, n.nRef = s.pages.countP (fun q => q.net = n.id ∧ 0 < q.ref) → n.id = p.net →
      (g n).nRef + (if 0 < p.ref then 1 else 0) = n.nRef + (if 0 < (f p).ref then 1 else 0))
    (e1 : s'.pages = updId s.pages p.id f) (e4 : s'.nets = updNid s.nets p.net g)
    (hpn : s'.priority.Nodup) (hrn : s'.referenced.Nodup)
    (hpm : ∀ id, id ∈ s'.priority ↔ (id ∈ s.priority ∧ id ≠ p.id) ∨ (id = p.id ∧ (f p).ref = 0))
    (hrm : ∀ id, id ∈ s'.referenced ↔ (id ∈ s.referenced ∧ id ≠ p.id) ∨ (id = p.id ∧ 0 < (f p).ref))
    (e5 : ∀ m, m + (if p.ref = 0 then p.size else 0) = s.memUsed + (if (f p).ref = 0 then (f p).size else 0) →
      s'.memUsed = m)
    (e6 : s'.nCachedPages = s.nCachedPages) (e7 : s'.nCachedNets = s.nCachedNets)
    (e8 : s'.nextPid = s.nextPid) (e9 : s'.nextNid = s.nextNid) : InvW s' := by
  have aux2 : ∀ p' ∈ s.pages, p'.id = p.id → p' = p := fun p' hp' e => mem_unique h.pidNodup hp' hp e
  have hid : ∀ n : Net, (if n.id = p.net then g n else n).id = n.id := by
    intro n; split
    · exact hgid n
    · rfl
  -- a page of the new state: the changed one, or an old one with another id
  have hcases : ∀ q ∈ s'.pages, q = f p ∨ (q ∈ s.pages ∧ q.id ≠ p.id) := by
    intro q hq; rw [e1] at hq; obtain ⟨p', hp', rfl⟩ := mem_updId.1 hq
    split
    · rename_i e; rw [aux2 p' hp' e]; exact Or.inl rfl
    · rename_i e; exact Or.inr ⟨hp', e⟩
  constructor
  · rw [e1, map_id_updId hfid]; exact h.pidNodup
  · intro q hq; rw [e8]
    rcases hcases q hq with rfl | ⟨hq', _⟩
    · rw [hfid]; exact h.pidLt p hp
    · exact h.pidLt q hq'
  · exact hpn
  · exact hrn
  · rw [e1]; exact OnList.updId (P := (· = 0)) h.pidNodup hp hfid h.priMem hpm
  · rw [e1]; exact OnList.updId (P := (0 < ·)) h.pidNodup hp hfid h.refMem hrm
  · intro q hq hz
    rcases hcases q hq with rfl | ⟨hq', _⟩
    · exact hfz hz
    · exact h.zombieRef q hq' hz
  · rw [e4, map_updNid (·.id) hgid]; exact h.nidNodup
  · intro n' hn'; rw [e4] at hn'; obtain ⟨n, hn, rfl⟩ := mem_updNid.1 hn'
    rw [e9, hid]; exact h.nidLt n hn
  · intro q hq
    have : ∃ n ∈ s.nets, n.id = q.net := by
      rcases hcases q hq with rfl | ⟨hq', _⟩
      · rw [hfnet]; exact h.netOf p hp
      · exact h.netOf q hq'
    obtain ⟨n, hn, e⟩ := this
    exact ⟨_, by rw [e4]; exact mem_updNid.2 ⟨n, hn, rfl⟩, by rw [hid]; exact e⟩
  · intro n' hn'; rw [e4] at hn'; obtain ⟨n, hn, rfl⟩ := mem_updNid.1 hn'
    have e2 : (if n.id = p.net then g n else n).nCached = n.nCached := by
      split
      · exact hgc n
      · rfl
    rw [hid, e2, e1, countP_updId_same h.pidNodup hp (by simp [hfnet])]; exact h.nCached n hn
  · intro n' hn'; rw [e4] at hn'; obtain ⟨n, hn, rfl⟩ := mem_updNid.1 hn'
    rw [hid, e1]
    have h1 := h.nRef n hn
    have h2 := countP_updId h.pidNodup hp (fun q => decide (q.net = n.id ∧ 0 < q.ref)) f
    simp only [hfnet, decide_eq_true_eq] at h2
    split
    · rename_i e
      have h3 := hgr n h1 e
      simp only [e.symm, true_and] at h2
      omega
    · rename_i e
      have e' : ¬ p.net = n.id := fun x => e x.symm
      simp only [e', false_and, if_false] at h2
      omega
  · intro n' hn' pg; rw [e4] at hn'; obtain ⟨n, hn, rfl⟩ := mem_updNid.1 hn'
    have e2 : (if n.id = p.net then g n else n).getStat pg = n.getStat pg := by
      split
      · exact hgs n pg
      · rfl
    rw [hid, e2, e1, countP_updId_same h.pidNodup hp (by simp [hfnet, hfpg])]; exact h.nSub n hn pg
  · rw [e6, e1, length_updId]; exact h.nPages
  · rw [e1]
    have h2 := fsum_updId h.pidNodup hp (fun q => decide (q.ref = 0)) Page.size f
    simp only [decide_eq_true_eq] at h2
    refine e5 _ ?_
    have h1 := h.mem
    unfold fsum at h2; omega
  · rw [e7, e4, countP_updNid (fun n => !n.zombie) (fun n => by rw [hgz])]; exact h.nNets

theorem updPage_invW_same {s : State} (h : InvW s) {p : Page} (hp : p ∈ s.pages) (f : Page → Page)
    (hid : ∀ q, (f q).id = q.id) (hnet : (f p).net = p.net) (hpg : (f p).pgno = p.pgno)
    (hsz : (f p).size = p.size) (hr0 : (f p).ref = 0 ↔ p.ref = 0)
    (hz : (f p).pri = .zombie → 0 < (f p).ref) : InvW (s.updPage p.id f) := by
  have hrp : (0 < (f p).ref) ↔ 0 < p.ref := by omega
  refine flipPage_invW h hp f (fun n => n) hid hnet hpg hz (fun _ => rfl) (fun _ => rfl) (fun _ => rfl) (fun _ _ => rfl)
    (fun n _ _ => by simp only [hrp]) (updPage_pages s p.id f) (updNid_self _ _).symm h.priNodup h.refNodup
    (OnList.same_iff (P := (· = 0)) h.pidNodup hp h.priMem hr0) (OnList.same_iff (P := (0 < ·)) h.pidNodup hp h.refMem hrp) ?_
    rfl rfl rfl rfl
  · intro m hm; show s.memUsed = m
    rw [hsz] at hm
    by_cases c : p.ref = 0
    · rw [if_pos c, if_pos (hr0.2 c)] at hm; omega
    · rw [if_neg c, if_neg (fun x => c (hr0.1 x))] at hm; omega

theorem updPage_netKey (s : State) (x : Nat) (f : Page → Page) : (s.updPage x f).nets.map netKey = s.nets.map netKey := rfl

theorem findPage_some {s : State} {id : Nat} {p : Page} (h : s.findPage id = some p) : p ∈ s.pages ∧ p.id = id :=
  ⟨List.mem_of_find?_eq_some h, by simpa using List.find?_some h⟩

theorem deletePage_free {s : State} {id : Nat} {p : Page} (hf : s.findPage id = some p) (hr : p.ref = 0) :
    s.deletePage id = s.freePage p := by
  unfold State.deletePage; rw [hf]; exact if_neg (by omega)

/-- `delete_page` by cases: nothing (no such page, or a replaced page still held); a held page leaves its hash chain;
    an unreferenced page is freed -/
theorem deletePage_cases (s : State) (id : Nat) :
    (s.deletePage id = s ∧ ∀ p, s.findPage id = some p → 0 < p.ref ∧ p.pri = .zombie)
    ∨ ∃ p, s.findPage id = some p ∧
      ((0 < p.ref ∧ p.pri ≠ .zombie ∧ s.deletePage id = s.updPage p.id fun p => { p with pri := .zombie })
      ∨ (p.ref = 0 ∧ s.deletePage id = s.freePage p)) := by
  unfold State.deletePage
  cases hf : s.findPage id with
  | none => exact Or.inl ⟨rfl, fun p hp => by cases hp⟩
  | some p =>
    simp only
    by_cases hr : p.ref > 0
    · rw [if_pos hr]
      by_cases hz : p.pri ≠ .zombie
      · exact Or.inr ⟨p, rfl, Or.inl ⟨hr, hz, by rw [if_pos hz, (findPage_some hf).2]⟩⟩
      · exact Or.inl ⟨by rw [if_neg hz], fun q hq => by cases hq; exact ⟨hr, Classical.not_not.1 hz⟩⟩
    · exact Or.inr ⟨p, rfl, Or.inr ⟨by omega, by rw [if_neg hr]⟩⟩

/-- same page, same content (reference count and `pri` may differ) -/
def sameCont (p q : Page) : Prop :=
  p.id = q.id ∧ p.net = q.net ∧ p.pgno = q.pgno ∧ p.subno = q.subno ∧ p.func = q.func ∧ p.x26 = q.x26
    ∧ p.x28 = q.x28 ∧ p.tag = q.tag

theorem sameCont.refl (p : Page) : sameCont p p := ⟨rfl, rfl, rfl, rfl, rfl, rfl, rfl, rfl⟩
theorem sameCont.trans {a b c : Page} (h1 : sameCont a b) (h2 : sameCont b c) : sameCont a c := by
  obtain ⟨a1, a2, a3, a4, a5, a6, a7, a8⟩ := h1
  obtain ⟨b1, b2, b3, b4, b5, b6, b7, b8⟩ := h2
  exact ⟨a1.trans b1, a2.trans b2, a3.trans b3, a4.trans b4, a5.trans b5, a6.trans b6, a7.trans b7, a8.trans b8⟩
theorem sameCont.id {p q : Page} (h : sameCont p q) : p.id = q.id := h.1
theorem sameCont.net {p q : Page} (h : sameCont p q) : p.net = q.net := h.2.1
theorem sameCont.tag {p q : Page} (h : sameCont p q) : p.tag = q.tag := h.2.2.2.2.2.2.2

/-- same page, same content, same reference count (only `pri` may differ) -/
structure sameBody (p q : Page) : Prop where
  cont : sameCont p q
  ref : p.ref = q.ref

theorem sameBody.refl (p : Page) : sameBody p p := ⟨sameCont.refl p, rfl⟩
theorem sameBody.trans {a b c : Page} (h1 : sameBody a b) (h2 : sameBody b c) : sameBody a c :=
  ⟨h1.cont.trans h2.cont, h1.ref.trans h2.ref⟩
theorem sameBody.of_pri (p : Page) (x : Pri) : sameBody p { p with pri := x } := ⟨⟨rfl, rfl, rfl, rfl, rfl, rfl, rfl, rfl⟩, rfl⟩

theorem mem_moveFront {l : List Page} (h : IdsNodup l) {p : Page} (hp : p ∈ l) {q : Page} :
    q ∈ p :: rmId l p.id ↔ q ∈ l := by
  rw [List.mem_cons, mem_rmId]
  constructor
  · rintro (rfl | ⟨hq, _⟩)
    · exact hp
    · exact hq
  · intro hq
    by_cases e : q.id = p.id
    · left; exact mem_unique h hq hp e
    · right; exact ⟨hq, e⟩

theorem countP_moveFront {l : List Page} (h : IdsNodup l) {p : Page} (hp : p ∈ l) (P : Page → Bool) :
    (p :: rmId l p.id).countP P = l.countP P := by
  rw [List.countP_cons]
  by_cases c : P p = true
  · have := countP_rmId_pos h hp c; simp only [c, if_true]; omega
  · have c' : P p = false := by simpa using c
    have := countP_rmId_neg h hp c'; simp only [c', Bool.false_eq_true, if_false]; omega

/-- `add_head (hash_list, unlink_node (&cp->hash_node))` -/
theorem moveFront_invW {s : State} (h : InvW s) {p : Page} (hp : p ∈ s.pages) :
    InvW { s with pages := p :: rmId s.pages p.id } := by
  have hm : ∀ q, q ∈ p :: rmId s.pages p.id ↔ q ∈ s.pages := fun q => mem_moveFront h.pidNodup hp
  constructor
  · show IdsNodup (p :: rmId s.pages p.id)
    rw [idsNodup_cons]; exact ⟨fun q hq => (mem_rmId.1 hq).2, idsNodup_rmId h.pidNodup _⟩
  · intro q hq; exact h.pidLt q ((hm q).1 hq)
  · exact h.priNodup
  · exact h.refNodup
  · exact OnList.of_mem (P := (· = 0)) hm h.priMem
  · exact OnList.of_mem (P := (0 < ·)) hm h.refMem
  · intro q hq; exact h.zombieRef q ((hm q).1 hq)
  · exact h.nidNodup
  · exact h.nidLt
  · intro q hq; exact h.netOf q ((hm q).1 hq)
  · intro n hn; show _ = (p :: rmId s.pages p.id).countP _; rw [countP_moveFront h.pidNodup hp]; exact h.nCached n hn
  · intro n hn; show _ = (p :: rmId s.pages p.id).countP _; rw [countP_moveFront h.pidNodup hp]; exact h.nRef n hn
  · intro n hn pg; show _ = (p :: rmId s.pages p.id).countP _ % 65536; rw [countP_moveFront h.pidNodup hp]; exact h.nSub n hn pg
  · show _ = (p :: rmId s.pages p.id).length
    rw [List.length_cons, length_rmId h.pidNodup hp]; exact h.nPages
  · show _ = fsum (fun q => decide (q.ref = 0)) Page.size (p :: rmId s.pages p.id)
    rw [fsum_cons]
    have h1 : s.memUsed = fsum (fun q => decide (q.ref = 0)) Page.size s.pages := h.mem
    by_cases c : p.ref = 0
    · have := fsum_rmId_pos h.pidNodup hp (Q := fun q => decide (q.ref = 0)) Page.size (by simp [c])
      simp only [c, decide_true, if_true]; omega
    · have := fsum_rmId_neg h.pidNodup hp (Q := fun q => decide (q.ref = 0)) Page.size (by simp [c])
      simp only [c, decide_false, Bool.false_eq_true, if_false]; omega
  · exact h.nNets

end Zvbi.Cache
