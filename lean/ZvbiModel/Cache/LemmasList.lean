import ZvbiModel.Cache.Spec
/-!
# List facts used by the cache proofs (records with unique `id`s)

`rmId` / `updId`: a page leaves the list / is changed in place.  `wsum` / `fsum`: every counter of the cache is a sum over the
pages, so every counter clause of the invariant is read through them.  `OnList`: the form of the clauses about the two
`pri_node` lists.
-/
namespace Zvbi.Cache

def rmId (l : List Page) (x : Nat) : List Page := l.filter (fun q => q.id ≠ x)
def updId (l : List Page) (x : Nat) (f : Page → Page) : List Page := l.map (fun q => if q.id = x then f q else q)

theorem dropPage_pages (s : State) (x : Nat) : (s.dropPage x).pages = rmId s.pages x := rfl
theorem updPage_pages (s : State) (x : Nat) (f : Page → Page) : (s.updPage x f).pages = updId s.pages x f := rfl

abbrev IdsNodup (l : List Page) : Prop := (l.map (·.id)).Nodup

theorem idsNodup_cons {a : Page} {t : List Page} :
    IdsNodup (a :: t) ↔ (∀ q ∈ t, q.id ≠ a.id) ∧ IdsNodup t := by
  simp only [IdsNodup, List.map_cons, List.nodup_cons, List.mem_map, not_exists, not_and]

theorem mem_unique {l : List Page} (h : IdsNodup l) {p q : Page} (hp : p ∈ l) (hq : q ∈ l)
    (e : p.id = q.id) : p = q := by
  induction l with
  | nil => cases hp
  | cons a t ih =>
    rw [idsNodup_cons] at h
    rcases List.mem_cons.1 hp with rfl | hp' <;> rcases List.mem_cons.1 hq with rfl | hq'
    · rfl
    · exact absurd e.symm (h.1 q hq')
    · exact absurd e (h.1 p hp')
    · exact ih h.2 hp' hq'

theorem find_of_mem {l : List Page} (h : IdsNodup l) {p : Page} (hp : p ∈ l) :
    l.find? (fun q => q.id = p.id) = some p := by
  induction l with
  | nil => cases hp
  | cons a t ih =>
    rw [idsNodup_cons] at h
    rcases List.mem_cons.1 hp with rfl | hp'
    · simp
    · have : a.id ≠ p.id := fun e => h.1 p hp' e.symm
      simp [this, ih h.2 hp']

theorem find_none {l : List Page} {x : Nat} (h : l.find? (fun q => q.id = x) = none) :
    ∀ q ∈ l, q.id ≠ x := by
  intro q hq; have := List.find?_eq_none.1 h q hq; simpa using this

theorem mem_rmId {l : List Page} {x : Nat} {q : Page} : q ∈ rmId l x ↔ q ∈ l ∧ q.id ≠ x := by
  simp [rmId]

theorem rmId_of_not_mem {l : List Page} {x : Nat} (h : ∀ q ∈ l, q.id ≠ x) : rmId l x = l := by
  apply List.filter_eq_self.2; intro q hq; simpa using h q hq

theorem rmId_cons (a : Page) (t : List Page) (x : Nat) :
    rmId (a :: t) x = if a.id = x then rmId t x else a :: rmId t x := by
  unfold rmId; rw [List.filter_cons]; by_cases h : a.id = x <;> simp [h]

theorem map_id_rmId (l : List Page) (x : Nat) : (rmId l x).map (·.id) = (l.map (·.id)).filter (· ≠ x) := by
  induction l with
  | nil => rfl
  | cons a t ih => rw [rmId_cons]; by_cases h : a.id = x <;> simp [h, ih]

theorem idsNodup_rmId {l : List Page} (h : IdsNodup l) (x : Nat) : IdsNodup (rmId l x) := by
  unfold IdsNodup; rw [map_id_rmId]; exact h.filter _

theorem mem_updId {l : List Page} {x : Nat} {f : Page → Page} {q : Page} :
    q ∈ updId l x f ↔ ∃ p ∈ l, q = if p.id = x then f p else p := by
  simp [updId, eq_comm]

theorem map_id_updId {l : List Page} {x : Nat} {f : Page → Page} (hf : ∀ p, (f p).id = p.id) :
    (updId l x f).map (·.id) = l.map (·.id) := by
  unfold updId; rw [List.map_map]; apply List.map_congr_left; intro p _
  by_cases h : p.id = x <;> simp [h, hf]

theorem find_updId {l : List Page} (h : IdsNodup l) {p : Page} (hp : p ∈ l) {f : Page → Page} (hf : ∀ q, (f q).id = q.id) :
    (updId l p.id f).find? (fun q => q.id = p.id) = some (f p) := by
  have := find_of_mem (p := f p) (l := updId l p.id f) (by unfold IdsNodup; rw [map_id_updId hf]; exact h)
    (mem_updId.2 ⟨p, hp, by rw [if_pos rfl]⟩)
  rwa [hf] at this

theorem updId_of_not_mem {l : List Page} {x : Nat} {f : Page → Page} (h : ∀ q ∈ l, q.id ≠ x) : updId l x f = l := by
  unfold updId; conv => rhs; rw [← List.map_id l]
  apply List.map_congr_left; intro p hp; simp [h p hp]

theorem length_updId (l : List Page) (x : Nat) (f : Page → Page) : (updId l x f).length = l.length := by
  simp [updId]

/-! ### weights: every counter of the cache is a sum over the pages -/

def wsum (w : Page → Nat) (l : List Page) : Nat := (l.map w).sum

theorem wsum_nil (w : Page → Nat) : wsum w [] = 0 := rfl
theorem wsum_cons (w : Page → Nat) (a : Page) (t : List Page) : wsum w (a :: t) = w a + wsum w t := by
  simp [wsum]

theorem countP_eq_wsum (P : Page → Bool) (l : List Page) :
    l.countP P = wsum (fun p => if P p then 1 else 0) l := by
  induction l with
  | nil => rfl
  | cons a t ih => rw [List.countP_cons, wsum_cons, ih]; omega

theorem sum_filter_eq_wsum (Q : Page → Bool) (g : Page → Nat) (l : List Page) :
    ((l.filter Q).map g).sum = wsum (fun p => if Q p then g p else 0) l := by
  induction l with
  | nil => rfl
  | cons a t ih =>
    rw [List.filter_cons, wsum_cons, ← ih]; by_cases h : Q a <;> simp [h]

theorem length_eq_wsum (l : List Page) : l.length = wsum (fun _ => 1) l := by
  induction l with
  | nil => rfl
  | cons a t ih => rw [List.length_cons, wsum_cons, ih]; omega

theorem wsum_rmId {l : List Page} (h : IdsNodup l) {p : Page} (hp : p ∈ l) (w : Page → Nat) :
    wsum w (rmId l p.id) + w p = wsum w l := by
  induction l with
  | nil => cases hp
  | cons a t ih =>
    rw [idsNodup_cons] at h
    rcases List.mem_cons.1 hp with rfl | hp'
    · rw [rmId_cons, if_pos rfl, rmId_of_not_mem h.1, wsum_cons]; omega
    · have hne : a.id ≠ p.id := fun e => h.1 p hp' e.symm
      rw [rmId_cons, if_neg hne, wsum_cons, wsum_cons]; have := ih h.2 hp'; omega

theorem wsum_updId {l : List Page} (h : IdsNodup l) {p : Page} (hp : p ∈ l) (w : Page → Nat) (f : Page → Page) :
    wsum w (updId l p.id f) + w p = wsum w l + w (f p) := by
  induction l with
  | nil => cases hp
  | cons a t ih =>
    rw [idsNodup_cons] at h
    rcases List.mem_cons.1 hp with rfl | hp'
    · have : updId (p :: t) p.id f = f p :: t := by
        have := updId_of_not_mem (f := f) h.1
        simp only [updId, List.map_cons, if_true] at this ⊢; rw [this]
      rw [this, wsum_cons, wsum_cons]; omega
    · have hne : a.id ≠ p.id := fun e => h.1 p hp' e.symm
      have : updId (a :: t) p.id f = a :: updId t p.id f := by simp [updId, hne]
      rw [this, wsum_cons, wsum_cons]; have := ih h.2 hp'; omega

theorem wsum_congr {l : List Page} {w w' : Page → Nat} (h : ∀ p ∈ l, w p = w' p) : wsum w l = wsum w' l := by
  unfold wsum; rw [List.map_congr_left h]

theorem wsum_zero {l : List Page} {w : Page → Nat} (h : ∀ p ∈ l, w p = 0) : wsum w l = 0 := by
  induction l with
  | nil => rfl
  | cons a t ih =>
    rw [wsum_cons, h a (List.mem_cons_self), ih (fun p hp => h p (List.mem_cons_of_mem _ hp))]

theorem wsum_pos_of_mem {l : List Page} {w : Page → Nat} {p : Page} (hp : p ∈ l) : w p ≤ wsum w l := by
  induction l with
  | nil => cases hp
  | cons a t ih =>
    rw [wsum_cons]
    rcases List.mem_cons.1 hp with rfl | hp'
    · omega
    · have := ih hp'; omega

/-! ### the same for `countP` and for sums over a filter, with the case of the moved page decided -/

theorem countP_rmId_pos {l : List Page} (h : IdsNodup l) {p : Page} (hp : p ∈ l) {P : Page → Bool} (hP : P p = true) :
    (rmId l p.id).countP P + 1 = l.countP P := by
  have := wsum_rmId h hp (fun q => if P q then 1 else 0)
  rw [countP_eq_wsum, countP_eq_wsum]; simp only [hP, if_true] at this; exact this

theorem countP_rmId_neg {l : List Page} (h : IdsNodup l) {p : Page} (hp : p ∈ l) {P : Page → Bool} (hP : P p = false) :
    (rmId l p.id).countP P = l.countP P := by
  have := wsum_rmId h hp (fun q => if P q then 1 else 0)
  rw [countP_eq_wsum, countP_eq_wsum]; simp only [hP] at this; simpa using this

theorem countP_updId {l : List Page} (h : IdsNodup l) {p : Page} (hp : p ∈ l) (P : Page → Bool) (f : Page → Page) :
    (updId l p.id f).countP P + (if P p then 1 else 0) = l.countP P + (if P (f p) then 1 else 0) := by
  have := wsum_updId h hp (fun q => if P q then 1 else 0) f
  rw [countP_eq_wsum, countP_eq_wsum]; exact this

theorem countP_updId_same {l : List Page} (h : IdsNodup l) {p : Page} (hp : p ∈ l) {P : Page → Bool} {f : Page → Page}
    (hP : P (f p) = P p) : (updId l p.id f).countP P = l.countP P := by
  have := countP_updId h hp P f; rw [hP] at this; omega

def fsum (Q : Page → Bool) (g : Page → Nat) (l : List Page) : Nat := ((l.filter Q).map g).sum

theorem fsum_rmId_pos {l : List Page} (h : IdsNodup l) {p : Page} (hp : p ∈ l) {Q : Page → Bool} (g : Page → Nat)
    (hQ : Q p = true) : fsum Q g (rmId l p.id) + g p = fsum Q g l := by
  have := wsum_rmId h hp (fun q => if Q q then g q else 0)
  unfold fsum; rw [sum_filter_eq_wsum, sum_filter_eq_wsum]; simp only [hQ, if_true] at this; exact this

theorem fsum_rmId_neg {l : List Page} (h : IdsNodup l) {p : Page} (hp : p ∈ l) {Q : Page → Bool} (g : Page → Nat)
    (hQ : Q p = false) : fsum Q g (rmId l p.id) = fsum Q g l := by
  have := wsum_rmId h hp (fun q => if Q q then g q else 0)
  unfold fsum; rw [sum_filter_eq_wsum, sum_filter_eq_wsum]; simp only [hQ] at this; simpa using this

theorem fsum_updId {l : List Page} (h : IdsNodup l) {p : Page} (hp : p ∈ l) (Q : Page → Bool) (g : Page → Nat) (f : Page → Page) :
    fsum Q g (updId l p.id f) + (if Q p then g p else 0) = fsum Q g l + (if Q (f p) then g (f p) else 0) := by
  have := wsum_updId h hp (fun q => if Q q then g q else 0) f
  unfold fsum; rw [sum_filter_eq_wsum, sum_filter_eq_wsum]; exact this

theorem fsum_cons (Q : Page → Bool) (g : Page → Nat) (a : Page) (t : List Page) :
    fsum Q g (a :: t) = (if Q a then g a else 0) + fsum Q g t := by
  unfold fsum; rw [List.filter_cons]; by_cases h : Q a <;> simp [h]

theorem length_rmId {l : List Page} (h : IdsNodup l) {p : Page} (hp : p ∈ l) : (rmId l p.id).length + 1 = l.length := by
  have := wsum_rmId h hp (fun _ => 1); rw [length_eq_wsum, length_eq_wsum]; exact this

/-! ### the two `pri_node` lists -/

/-- `l` lists exactly the ids of the pages whose reference count satisfies `P`: the clauses `priMem` (`P` = "is 0") and
    `refMem` (`P` = "is positive") of the invariant are this, so every change of the page list treats them once -/
def OnList (l : List Nat) (pages : List Page) (P : Nat → Prop) : Prop := ∀ id, id ∈ l ↔ ∃ p ∈ pages, p.id = id ∧ P p.ref

theorem mem_filter_ne {l : List Nat} {x y : Nat} : y ∈ l.filter (· ≠ x) ↔ y ∈ l ∧ y ≠ x := by simp

theorem nodup_append_singleton {l : List Nat} {x : Nat} (h : l.Nodup) (hx : x ∉ l) : (l ++ [x]).Nodup := by
  rw [List.nodup_append]; refine ⟨h, by simp, ?_⟩
  intro a ha b hb; simp at hb; subst hb; intro e; exact hx (e ▸ ha)

namespace OnList
variable {l : List Nat} {pages : List Page} {P : Nat → Prop}

theorem of_mem {pages' : List Page} (hm : ∀ q, q ∈ pages' ↔ q ∈ pages) (h : OnList l pages P) : OnList l pages' P := by
  intro id; rw [h id]
  exact ⟨fun ⟨q, hq, e⟩ => ⟨q, (hm q).2 hq, e⟩, fun ⟨q, hq, e⟩ => ⟨q, (hm q).1 hq, e⟩⟩

theorem rmId (h : OnList l pages P) (x : Nat) : OnList (l.filter (· ≠ x)) (rmId pages x) P := by
  intro id; rw [mem_filter_ne, h id]
  constructor
  · rintro ⟨⟨q, hq, rfl, hq0⟩, hne⟩; exact ⟨q, mem_rmId.2 ⟨hq, hne⟩, rfl, hq0⟩
  · rintro ⟨q, hq, rfl, hq0⟩; rw [mem_rmId] at hq; exact ⟨⟨q, hq.1, rfl, hq0⟩, hq.2⟩

theorem cons {l' : List Nat} {p : Page} (h : OnList l pages P) (hl : ∀ id, id ∈ l' ↔ id ∈ l ∨ (id = p.id ∧ P p.ref)) :
    OnList l' (p :: pages) P := by
  intro id; rw [hl, h id]
  constructor
  · rintro (⟨q, hq, e⟩ | ⟨rfl, hP⟩)
    · exact ⟨q, List.mem_cons_of_mem _ hq, e⟩
    · exact ⟨p, List.mem_cons_self, rfl, hP⟩
  · rintro ⟨q, hq, e1, e2⟩
    rcases List.mem_cons.1 hq with rfl | hq
    · exact Or.inr ⟨e1.symm, e2⟩
    · exact Or.inl ⟨q, hq, e1, e2⟩

/-- page `p` is changed by `f`: the other ids keep their place, `p.id` is listed iff its new count satisfies `P` -/
theorem updId {l' : List Nat} {p : Page} {f : Page → Page} (hn : IdsNodup pages) (hp : p ∈ pages) (hf : ∀ q, (f q).id = q.id)
    (h : OnList l pages P) (hl : ∀ id, id ∈ l' ↔ (id ∈ l ∧ id ≠ p.id) ∨ (id = p.id ∧ P (f p).ref)) :
    OnList l' (updId pages p.id f) P := by
  intro id; rw [hl, h id]
  constructor
  · rintro (⟨⟨q, hq, rfl, hq0⟩, hne⟩ | ⟨rfl, h0⟩)
    · exact ⟨q, mem_updId.2 ⟨q, hq, by rw [if_neg hne]⟩, rfl, hq0⟩
    · exact ⟨f p, mem_updId.2 ⟨p, hp, by rw [if_pos rfl]⟩, hf p, h0⟩
  · rintro ⟨q, hq, rfl, hq0⟩
    obtain ⟨p', hp', rfl⟩ := mem_updId.1 hq
    by_cases e : p'.id = p.id
    · rw [if_pos e, mem_unique hn hp' hp e] at hq0 ⊢; exact Or.inr ⟨hf p, hq0⟩
    · rw [if_neg e] at hq0 ⊢; exact Or.inl ⟨⟨p', hp', rfl, hq0⟩, e⟩

/-- the hypothesis of `updId` for a list that stays and a change that leaves `P` of the count as it is -/
theorem same_iff {p : Page} {r : Nat} (hn : IdsNodup pages) (hp : p ∈ pages) (h : OnList l pages P) (hP : P r ↔ P p.ref) :
    ∀ id, id ∈ l ↔ (id ∈ l ∧ id ≠ p.id) ∨ (id = p.id ∧ P r) := by
  intro id
  by_cases e : id = p.id
  · subst e; rw [h p.id, hP]
    exact ⟨fun ⟨q, hq, e, hq0⟩ => Or.inr ⟨rfl, by rw [← mem_unique hn hq hp e]; exact hq0⟩,
      fun hh => hh.elim (fun x => absurd rfl x.2) (fun x => ⟨p, hp, rfl, x.2⟩)⟩
  · exact ⟨fun x => Or.inl ⟨x, e⟩, fun hh => hh.elim (·.1) (fun x => absurd x.1 e)⟩

end OnList

end Zvbi.Cache
