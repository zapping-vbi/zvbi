import ZvbiModel.Cache.LemmasAbs
import ZvbiModel.Ttx.Model
/-!
# The MRU page list of the Teletext decoder model (`Ttx.Net.cache`) is the abstract store of cache.c

`Zvbi.Ttx` keeps the cached pages of the current network as a plain list (`cacheGet`, `cachePut`).
Here: that list, read through `tstore`, evolves exactly like the abstract store `AStore` to which the cache.c
model refines (`getPage_abs`, `putPageF_abs`): same key rule, same wildcard / mask rule, same move-to-front.
-/
namespace Zvbi.Cache
open Zvbi.Gen.Cache

/-- a decoder page as an entry of the abstract store of network `nid`; `enc` abstracts the page content -/
def tentry (nid : Nat) (enc : Ttx.Page → Nat) (p : Ttx.Page) : Entry :=
  { net := nid, pgno := p.pgno, subno := p.subno, func := p.function, x26 := p.x26, x28 := p.x28, tag := enc p }

/-- the decoder's page list as abstract store -/
def tstore (nid : Nat) (enc : Ttx.Page → Nat) (c : List Ttx.Page) : AStore := c.map (tentry nid enc)

/-- the retrievable versions of network `nid` in a cache.c state are the decoder's page list -/
def _root_.Zvbi.Props.C10Ttx.Sim (nid : Nat) (enc : Ttx.Page → Nat) (c : List Ttx.Page) (s : State) : Prop :=
  s.abs.filter (fun e => decide (e.net = nid)) = tstore nid enc c

theorem tentry_matches (nid : Nat) (enc : Ttx.Page → Nat) (q : Ttx.Page) (pgno key mask : Nat) :
    (tentry nid enc q).matches nid pgno key mask = (q.pgno == pgno && (q.subno &&& mask) == (key &&& mask)) := by
  unfold Entry.matches tentry
  simp only [decide_true, Bool.and_true, Bool.decide_and]
  by_cases h1 : q.pgno = pgno <;> by_cases h2 : q.subno &&& mask = key &&& mask <;> simp [h1, h2]

/-- the chain search of the decoder model is `extract` on the abstract store -/
theorem extract_tstore (nid : Nat) (enc : Ttx.Page → Nat) (c : List Ttx.Page) (pgno key mask : Nat) :
    extract (fun e => e.matches nid pgno key mask) (tstore nid enc c) =
      (c.find? (fun q => q.pgno == pgno && (q.subno &&& mask) == (key &&& mask))).map
        (fun q => (tentry nid enc q, tstore nid enc (c.erase q))) := by
  induction c with
  | nil => rfl
  | cons a t ih =>
    show extract _ (tentry nid enc a :: tstore nid enc t) = _
    unfold extract
    rw [tentry_matches, List.find?_cons]
    by_cases hm : (a.pgno == pgno && (a.subno &&& mask) == (key &&& mask)) = true
    · simp only [hm, if_true, Option.map_some]
      rw [List.erase_cons_head]
    · have hm' : (a.pgno == pgno && (a.subno &&& mask) == (key &&& mask)) = false := by simpa using hm
      simp only [hm', Bool.false_eq_true, if_false]
      rw [ih]
      cases hf : t.find? (fun q => q.pgno == pgno && (q.subno &&& mask) == (key &&& mask)) with
      | none => rfl
      | some q =>
        simp only [Option.map_some]
        have hq := List.find?_some hf
        have hne : a ≠ q := by
          intro e; subst e; rw [hm'] at hq; cases hq
        rw [List.erase_cons_tail (by simpa using hne)]
        rfl

theorem tvalid_eq (pgno : Nat) :
    (pgno < 0x100 || pgno > 0x8FF || pgno &&& 0xFF == 0xFF) = !validPgno pgno := by
  unfold validPgno
  by_cases h1 : pgno < 0x100
  · have : ¬ (0x100 ≤ pgno) := by omega
    simp [h1, this]
  · by_cases h2 : pgno > 0x8FF
    · have : ¬ (pgno ≤ 0x8FF) := by omega
      simp [h2, this]
    · have a : 0x100 ≤ pgno := by omega
      have b : pgno ≤ 0x8FF := by omega
      by_cases h3 : pgno &&& 0xFF = 0xFF <;> simp [h1, h2, h3, a, b]

/-- a page number `_vbi_cache_get_page` refuses is refused by the decoder's look-up too -/
theorem tcacheGet_invalid (c : List Ttx.Page) (pgno subno mask : Nat) (hv : validPgno pgno = false) :
    Ttx.cacheGet c pgno subno mask = none := by
  unfold Ttx.cacheGet
  rw [tvalid_eq, hv]
  rfl

/-- `Ttx.cacheGet` = look-up + touch on the abstract store (same wildcard rule: `VBI_ANY_SUBNO` => mask 0) -/
theorem tcacheGet_abs (nid : Nat) (enc : Ttx.Page → Nat) (c : List Ttx.Page) (pgno subno mask : Nat)
    (hv : validPgno pgno = true) :
    ((Ttx.cacheGet c pgno subno mask).map (fun r => tentry nid enc r.1)
        = alookup (tstore nid enc c) nid pgno subno (if subno = anySubno then 0 else mask))
    ∧ tstore nid enc (match Ttx.cacheGet c pgno subno mask with | some r => r.2 | none => c)
        = atouch (tstore nid enc c) nid pgno subno (if subno = anySubno then 0 else mask) := by
  unfold Ttx.cacheGet alookup atouch
  rw [tvalid_eq, hv]
  simp only [Bool.not_true, Bool.false_eq_true, if_false]
  have hany : (subno == Ttx.ANY_SUBNO) = decide (subno = anySubno) := by
    have : Ttx.ANY_SUBNO = anySubno := by decide
    rw [this]; by_cases h : subno = anySubno <;> simp [h]
  have hmask : (if (subno == Ttx.ANY_SUBNO) = true then 0 else mask) = (if subno = anySubno then 0 else mask) := by
    rw [hany]; by_cases h : subno = anySubno <;> simp [h]
  rw [hmask, extract_tstore]
  unfold Ttx.cacheFind
  cases hf : c.find? (fun q => q.pgno == pgno && (q.subno &&& (if subno = anySubno then 0 else mask))
      == (subno &&& (if subno = anySubno then 0 else mask))) with
  | none => exact ⟨rfl, rfl⟩
  | some q => exact ⟨rfl, rfl⟩

/-! ### the key rule is the same -/

theorem tisBcd_eq (n : Nat) (h : n < 4294967296) : Ttx.isBcd n = isBcd n := by
  unfold Ttx.isBcd isBcd
  rw [Nat.mod_eq_of_lt h]

theorem tbcdGreater_eq (bcd maximum : Nat) (h : maximum ^^^ 0xFFFFFFFF = 0xFFFFFFFF - maximum) :
    Ttx.bcdDigitsGreater bcd maximum = bcdDigitsGreater bcd maximum := by
  unfold Ttx.bcdDigitsGreater bcdDigitsGreater
  simp only [h]

theorem tputKey_eq (pt pgno subno : Nat) (h : pgno < 4294967296) : Ttx.putKey pt pgno subno = putKey pt pgno subno := by
  unfold Ttx.putKey putKey
  rw [tisBcd_eq pgno h, tbcdGreater_eq subno 0x2959 (by decide), tbcdGreater_eq subno 0x79 (by decide)]
  have hc : Ttx.PT_CLOCK = clockPageType := by decide
  rw [hc]
  by_cases h0 : isBcd pgno = true
  · simp only [h0, if_true]
    by_cases h1 : subno = 0
    · simp [h1]
    · by_cases h2 : pt = clockPageType ∨ subno ≥ 0x100
      · by_cases h4 : bcdDigitsGreater subno 0x2959 = true ∨ subno > 0x2300 <;> simp [h1, h2, h4]
      · by_cases h6 : bcdDigitsGreater subno 0x79 = true <;> simp [h1, h2, h6]
  · simp [h0]

theorem truncate_fields (p : Ttx.Page) :
    p.truncate.pgno = p.pgno ∧ p.truncate.function = p.function ∧ p.truncate.x26 = p.x26 ∧ p.truncate.x28 = p.x28 := by
  unfold Ttx.Page.truncate
  split
  · split
    · exact ⟨rfl, rfl, rfl, rfl⟩
    · split <;> exact ⟨rfl, rfl, rfl, rfl⟩
  · exact ⟨rfl, rfl, rfl, rfl⟩

/-! ### the store, both source shapes of `_vbi_cache_put_page` (`fix`, finding F17 and its repair) -/

/-- `Ttx.cachePutF fix` after the key `K` was chosen -/
def tcachePutKF (fix : Bool) (c : List Ttx.Page) (K : Nat × Nat) (p : Ttx.Page) : List Ttx.Page :=
  ({ p.truncate with subno := K.1 } : Ttx.Page) ::
    (match Ttx.cacheFind c p.pgno (K.1 &&& K.2) K.2 with
      | some (old, c1) =>
        if fix && K.2 == 0 then (c1.erase old).filter (fun q => q.pgno != p.pgno) else c1.erase old
      | none => c)

theorem tcachePutF_eq (fix : Bool) (c : List Ttx.Page) (pt : Nat) (p : Ttx.Page) :
    Ttx.cachePutF fix c pt p
      = if p.pgno &&& 0xFF == 0xFF then none else some (tcachePutKF fix c (Ttx.putKey pt p.pgno p.subno) p) := by
  unfold Ttx.cachePutF tcachePutKF
  generalize Ttx.putKey pt p.pgno p.subno = K
  obtain ⟨k1, k2⟩ := K
  rfl

/-- the decoder's list refuses a store only for a page number `xFF` -/
theorem tcachePutF_none {fix : Bool} {c : List Ttx.Page} {pt : Nat} {p : Ttx.Page} (h : Ttx.cachePutF fix c pt p = none) :
    p.pgno &&& 0xFF = 0xFF := by
  rw [tcachePutF_eq] at h
  split at h
  · rename_i hlow; simpa using hlow
  · cases h

/-- filtering the abstract store of one network by "another page number" is filtering the decoder's list -/
theorem tstore_filter_pgno (nid : Nat) (enc : Ttx.Page → Nat) (c : List Ttx.Page) (E : Entry) (pg : Nat)
    (hE1 : E.pgno = pg) (hE2 : E.net = nid) :
    (tstore nid enc c).filter (fun o => !(decide (o.pgno = E.pgno ∧ o.net = E.net)))
      = tstore nid enc (c.filter (fun q => q.pgno != pg)) := by
  unfold tstore
  rw [List.filter_map]
  congr 1
  apply List.filter_congr
  intro q _
  show (!(decide ((tentry nid enc q).pgno = E.pgno ∧ (tentry nid enc q).net = E.net))) = (q.pgno != pg)
  have h1 : (tentry nid enc q).pgno = q.pgno := rfl
  have h2 : (tentry nid enc q).net = nid := rfl
  rw [h1, h2, hE1, hE2]
  by_cases h : q.pgno = pg <;> simp [h]

/-- the decoder's store after the key was chosen = the abstract store operation of the same shape -/
theorem tcachePutKF_abs (fix : Bool) (nid : Nat) (enc : Ttx.Page → Nat) (c : List Ttx.Page) (K : Nat × Nat) (p : Ttx.Page) :
    tstore nid enc (tcachePutKF fix c K p)
      = aputF fix (tstore nid enc c) (tentry nid enc { p.truncate with subno := K.1 }) K.2 := by
  unfold tcachePutKF
  generalize hX : ({ p.truncate with subno := K.1 } : Ttx.Page) = X
  have e2 : X.pgno = p.pgno := by rw [← hX]; exact (truncate_fields p).1
  have e3 : X.subno = K.1 := by rw [← hX]
  by_cases hrep : (fix && K.2 == 0) = true
  · -- repaired shape, single-version key: every version of the page number goes
    obtain ⟨hfix, hk⟩ := Bool.and_eq_true_iff.1 hrep
    have hk : K.2 = 0 := by simpa using hk
    subst hfix
    rw [aputF_true]
    unfold aputR
    rw [if_pos hk, tstore_filter_pgno nid enc c (tentry nid enc X) p.pgno e2 rfl]
    unfold Ttx.cacheFind
    cases hf : c.find? (fun q => q.pgno == p.pgno && (q.subno &&& K.2) == (K.1 &&& K.2 &&& K.2)) with
    | none =>
      simp only
      have hall : c.filter (fun q => q.pgno != p.pgno) = c := by
        apply List.filter_eq_self.2
        intro q hq
        have := List.find?_eq_none.1 hf q hq
        rw [hk] at this
        simp only [Nat.and_zero, beq_self_eq_true, Bool.and_true, beq_iff_eq] at this
        simpa using this
      rw [hall]; rfl
    | some q =>
      simp only [hrep, if_true, List.erase_cons_head]
      have hq := List.find?_some hf
      have hqp : q.pgno = p.pgno := by
        simp only [Bool.and_eq_true, beq_iff_eq] at hq; exact hq.1
      rw [← List.erase_filter, List.erase_of_not_mem (l := c.filter _) (by simp [hqp])]
      rfl
  · have hrep' : (fix && K.2 == 0) = false := by simpa using hrep
    rw [aputF_eq_aput fun hc => by rw [hc.1, hc.2] at hrep'; cases hrep']
    show tstore nid enc (X :: _) = (match extract (fun o : Entry => o.matches nid X.pgno (X.subno &&& K.2) K.2) (tstore nid enc c) with
        | some (_, r) => tentry nid enc X :: r
        | none => tentry nid enc X :: tstore nid enc c)
    rw [e2, e3, extract_tstore]
    unfold Ttx.cacheFind
    cases hf : c.find? (fun q => q.pgno == p.pgno && (q.subno &&& K.2) == (K.1 &&& K.2 &&& K.2)) with
    | none => rfl
    | some q =>
      simp only [Option.map_some, List.erase_cons_head, hrep', Bool.false_eq_true, if_false]
      rfl

/-- the page `Ttx.cachePut` stores -/
def tstored (pt : Nat) (p : Ttx.Page) : Ttx.Page := { p.truncate with subno := (putKey pt p.pgno p.subno).1 }

/-- `Ttx.cachePutF fix` = the abstract store operation of shape `fix`: same key rule; as found (`aput`) the version
    found under the key is replaced, repaired (`aputR`) under a single-version key every version of the page number -/
theorem tcachePutF_abs (fix : Bool) (nid : Nat) (enc : Ttx.Page → Nat) (c : List Ttx.Page) (pt : Nat) (p : Ttx.Page)
    (hp : p.pgno < 4294967296) {c' : List Ttx.Page} (hres : Ttx.cachePutF fix c pt p = some c') :
    p.pgno &&& 0xFF ≠ 0xFF ∧
    tstore nid enc c' = aputF fix (tstore nid enc c) (tentry nid enc (tstored pt p)) (putKey pt p.pgno p.subno).2 := by
  rw [tcachePutF_eq, tputKey_eq pt p.pgno p.subno hp] at hres
  split at hres
  · cases hres
  · rename_i hlow
    refine ⟨by simpa using hlow, ?_⟩
    simp only [Option.some.injEq] at hres
    rw [← hres]
    exact tcachePutKF_abs fix nid enc c (putKey pt p.pgno p.subno) p

/-- the entry handed out by a put of the decoder page `p` under key `K` -/
theorem putEntry_tentry (nid : Nat) (enc : Ttx.Page → Nat) (p : Ttx.Page) (K : Nat × Nat) (tag : Nat)
    (ht : tag = enc { p.truncate with subno := K.1 }) :
    putEntry nid ⟨p.pgno, p.subno, p.function, p.x26, p.x28, tag⟩ K.1 = tentry nid enc { p.truncate with subno := K.1 } := by
  obtain ⟨f1, f2, f3, f4⟩ := truncate_fields p
  unfold putEntry tentry
  simp only [f1, f2, f3, f4, ht]

theorem tstored_eq (pt : Nat) (p : Ttx.Page) : tstored pt p = { p.truncate with subno := (putKey pt p.pgno p.subno).1 } := by
  unfold tstored; rfl

end Zvbi.Cache
