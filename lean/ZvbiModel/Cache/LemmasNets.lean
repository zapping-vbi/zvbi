import ZvbiModel.Cache.LemmasDel
/-!
# The network functions: sequences of moves; the zombie-network clause after them
-/
namespace Zvbi.Cache

/-- the kinds `delete_network` is made of -/
def Kind.dnet : List Kind := [.free, .zombify, .net, .netGone]

/-- `if (cn->n_cached_pages > 0) delete_all_pages (ca, cn)`, the common first step of `delete_network` and `recycle_network`
    (`deleteNetwork_cases` and `recycleNetwork_cases` are stated with it) -/
def clearNet (s : State) (n : Net) : State := if n.nCached > 0 then s.deleteAllPages n.id else s

theorem clearNet_del (s : State) (n : Net) : Moves Kind.del s (clearNet s n) := by
  unfold clearNet
  split
  · exact deleteAllPages_moves s n.id
  · exact .refl s

/-- deletions, after which the record of the network has the same key fields and, if none of its pages is
    referenced, no page points to it -/
theorem clearNet_moves {s : State} (h : InvW s) {n : Net} (hn : n ∈ s.nets) :
    Moves Kind.del s (clearNet s n) ∧ ∃ n1 ∈ (clearNet s n).nets, netKey n1 = netKey n
      ∧ (n.nRef = 0 → ∀ q ∈ (clearNet s n).pages, q.net ≠ n.id) := by
  have m1 := clearNet_del s n
  have hcomplete : ∀ q ∈ (clearNet s n).pages, q.net = n.id → 0 < q.ref := by
    unfold clearNet
    split
    · exact deleteAllPages_complete h n.id
    · rename_i hc
      intro q hq hnet
      have h1 := h.nCached n hn
      have : 0 < s.pages.countP (fun p => decide (p.net = n.id)) :=
        List.countP_pos_iff.2 ⟨q, hq, by simpa using hnet⟩
      omega
  generalize clearNet s n = s1 at m1 hcomplete
  obtain ⟨n1, hn1, ek⟩ := mem_of_key (m1.key (by decide)).symm hn
  refine ⟨m1, n1, hn1, ek, fun h0 q hq hnet => ?_⟩
  rw [netKey_eq] at ek
  have hr := (m1.invW h).nRef n1 hn1
  have : 0 < s1.pages.countP (fun p => decide (p.net = n1.id ∧ 0 < p.ref)) :=
    List.countP_pos_iff.2 ⟨q, hq, by simpa [ek.1] using ⟨hnet, hcomplete q hq hnet⟩⟩
  omega

/-- `delete_network` by cases: no such network; its pages deleted and the record, still referenced, marked a zombie;
    its pages deleted and the record unlinked -/
theorem deleteNetwork_cases (s : State) (nid : Nat) :
    (s.findNet nid = none ∧ s.deleteNetwork nid = s)
    ∨ ∃ n, s.findNet nid = some n ∧
      ((n.ref > 0 ∨ n.nRef > 0) ∧ s.deleteNetwork nid =
          { (clearNet s n).updNet nid (fun n => { n with zombie := true }) with
            nCachedNets := (clearNet s n).nCachedNets - (if n.zombie then 0 else 1) }
      ∨ ¬ (n.ref > 0 ∨ n.nRef > 0) ∧ s.deleteNetwork nid =
          { clearNet s n with nCachedNets := (clearNet s n).nCachedNets - (if n.zombie then 0 else 1),
                              nets := (clearNet s n).nets.filter (fun m => decide (m.id ≠ nid)) }) := by
  unfold State.deleteNetwork
  cases hf : s.findNet nid with
  | none => exact Or.inl ⟨rfl, rfl⟩
  | some n =>
    obtain ⟨_, rfl⟩ := findNet_some hf
    refine Or.inr ⟨n, rfl, ?_⟩
    simp only
    by_cases href : n.ref > 0 ∨ n.nRef > 0
    · exact Or.inl ⟨href, by rw [if_pos href]; cases n.zombie <;> rfl⟩
    · exact Or.inr ⟨href, by rw [if_neg href]; cases n.zombie <;> rfl⟩

/-- `delete_network`: the pages of the network go as far as they are not held, then the record becomes a zombie
    (still referenced) or leaves the list -/
theorem deleteNetwork_moves {s : State} (h : InvW s) (nid : Nat) : Moves Kind.dnet s (s.deleteNetwork nid) := by
  rcases deleteNetwork_cases s nid with ⟨_, e⟩ | ⟨n, hf, c⟩
  · rw [e]; exact .refl s
  obtain ⟨hn, rfl⟩ := findNet_some hf
  obtain ⟨m1, n1, hn1, ek, hclear⟩ := clearNet_moves h hn
  generalize clearNet s n = s1 at c m1 hn1 hclear
  have h1 := m1.invW h
  obtain ⟨e1, e2, e3, e4⟩ := netKey_eq.1 ek
  refine (m1.mono (by decide)).trans ?_
  rcases c with ⟨href, e⟩ | ⟨href, e⟩ <;> rw [e]
  · -- still referenced: becomes a zombie
    have key := countP_updNid_one h1.nidNodup hn1 (fun n => { n with zombie := true }) (fun n => !n.zombie)
    rw [e1] at key
    have hcnt := h1.nNets
    refine .one (k := .net) (by decide) (.net n.id _ _ (fun _ => rfl) (fun m hm e => ?_) ?_ (Or.inl fun _ _ => rfl))
    · have : m = n1 := net_unique h1.nidNodup hm hn1 (e.trans e1.symm)
      subst this
      exact ⟨rfl, rfl, fun _ => rfl, fun _ _ => (by show 0 < m.ref ∨ 0 < m.nRef; omega)⟩
    · cases hz : n.zombie <;> simp [e4.trans hz] at key ⊢ <;> omega
  · -- unreferenced: unlinked and freed; no page points to it any more
    have r := Prim.netGone hn1 (e1 ▸ hclear (by omega))
    rw [e1, e4] at r
    exact .one (k := .netGone) (by decide) r

theorem deleteNetwork_invW {s : State} (h : InvW s) (nid : Nat) : InvW (s.deleteNetwork nid) :=
  (deleteNetwork_moves h nid).invW h

/-- network-level effect of `delete_network (ca, cn)`: `cn` ends up gone or a referenced zombie,
    every other network record keeps its key fields -/
theorem deleteNetwork_nets {s : State} (h : InvW s) (nid : Nat) :
    ∀ n' ∈ (s.deleteNetwork nid).nets,
      (n'.id = nid → n'.zombie = true ∧ (0 < n'.ref ∨ 0 < n'.nRef)) ∧ (n'.id ≠ nid → ∃ n ∈ s.nets, netKey n = netKey n') := by
  rcases deleteNetwork_cases s nid with ⟨hf, e⟩ | ⟨n, hf, c⟩
  · rw [e]
    exact fun n' hn' => ⟨fun e => absurd e (findNet_none hf n' hn'), fun _ => ⟨n', hn', rfl⟩⟩
  obtain ⟨hn, rfl⟩ := findNet_some hf
  obtain ⟨m1, n1, hn1, ek, _⟩ := clearNet_moves h hn
  generalize clearNet s n = s1 at c m1 hn1
  have h1 := m1.invW h
  obtain ⟨e1, e2, e3, e4⟩ := netKey_eq.1 ek
  rcases c with ⟨href, e⟩ | ⟨_, e⟩ <;> rw [e] <;> intro n' hn'
  · obtain ⟨m, hm, rfl⟩ := mem_updNid.1 (show n' ∈ updNid s1.nets n.id _ from hn')
    split
    · rename_i e
      have : m = n1 := net_unique h1.nidNodup hm hn1 (e.trans e1.symm)
      subst this
      exact ⟨fun _ => ⟨rfl, by show 0 < m.ref ∨ 0 < m.nRef; omega⟩, fun x => absurd e x⟩
    · rename_i e
      exact ⟨fun x => absurd x e, fun _ => mem_of_key (m1.key (by decide)) hm⟩
  · have hn2 := List.mem_filter.1 (show n' ∈ s1.nets.filter _ from hn')
    exact ⟨fun x => absurd x (by simpa using hn2.2), fun _ => mem_of_key (m1.key (by decide)) hn2.1⟩

theorem deleteNetwork_znet {s : State} (h : InvW s) (nid : Nat) {P : Nat → Prop} (hz : ZNetOn s P)
    : ZNetOn (s.deleteNetwork nid) (fun x => P x ∨ x = nid) := by
  intro n' hn' hp
  rcases hp with hp | hp
  · exact (deleteNetwork_moves h nid).znet (by decide) hz n' hn' hp
  · exact fun _ => ((deleteNetwork_nets h nid n' hn').1 hp).2

/-- a loop of network deletions: when each pass is made of `delete_network`'s kinds and leaves the network it was
    made for referenced or gone, the zombie-network clause holds afterwards for every network the loop went over -/
theorem foldNets {step : State → Nat → State} (hm : ∀ s a, InvW s → Moves Kind.dnet s (step s a))
    (hstep : ∀ s a, InvW s → ZNetOn (step s a) (fun i => i = a)) :
    ∀ (ids : List Nat) (s : State), InvW s → ∀ P, ZNetOn s P → ZNetOn (ids.foldl step s) (fun i => P i ∨ i ∈ ids) := by
  intro ids
  induction ids with
  | nil => intro s _ P hz n hn hp; exact hz n hn (by simpa using hp)
  | cons a t ih =>
    intro s h P hz n hn hp
    rw [List.foldl_cons] at hn
    refine ih (step s a) ((hm s a h).invW h) (fun i => P i ∨ i = a) (fun m hmm hp' => ?_) n hn ?_
    · exact hp'.elim ((hm s a h).znet (by decide) hz m hmm) (hstep s a h m hmm)
    · rcases hp with hp | hp
      · exact Or.inl (Or.inl hp)
      · exact (List.mem_cons.1 hp).elim (fun e => Or.inl (Or.inr e)) Or.inr

theorem purge_moves {s : State} (h : InvW s) : Moves Kind.dnet s s.purge :=
  Moves.foldlInv _ (fun _ nid h => deleteNetwork_moves h nid) _ s h

/-- the loop body of `delete_surplus_networks` -/
def surplusStep (s : State) (a : Nat) : State :=
  match s.findNet a with
  | none => s
  | some n =>
    if n.ref > 0 ∨ n.nRef > 0 then s
    else if n.zombie ∨ s.nCachedNets > s.nNetsLimit then s.deleteNetwork a
    else s

theorem deleteSurplusNets_eq (s : State) : s.deleteSurplusNets = (s.nets.map (·.id)).reverse.foldl surplusStep s := rfl

/-- nothing (no such network, or it is referenced, or live with the number of networks within the limit), or
    `delete_network` of an unreferenced network -/
theorem surplusStep_cases (s : State) (a : Nat) :
    (surplusStep s a = s ∧ ∀ n, s.findNet a = some n →
        (n.ref > 0 ∨ n.nRef > 0) ∨ ¬ (n.zombie = true ∨ s.nCachedNets > s.nNetsLimit))
    ∨ ∃ n, s.findNet a = some n ∧ ¬ (n.ref > 0 ∨ n.nRef > 0) ∧ (n.zombie = true ∨ s.nCachedNets > s.nNetsLimit)
        ∧ surplusStep s a = s.deleteNetwork a := by
  unfold surplusStep
  cases hf : s.findNet a with
  | none => exact Or.inl ⟨rfl, fun n hn => by cases hn⟩
  | some n =>
    simp only
    by_cases href : n.ref > 0 ∨ n.nRef > 0
    · exact Or.inl ⟨by rw [if_pos href], fun m hm => by cases hm; exact Or.inl href⟩
    · by_cases hc : n.zombie = true ∨ s.nCachedNets > s.nNetsLimit
      · exact Or.inr ⟨n, rfl, href, hc, by rw [if_neg href, if_pos hc]⟩
      · exact Or.inl ⟨by rw [if_neg href, if_neg hc], fun m hm => by cases hm; exact Or.inr hc⟩

theorem surplusStep_moves {s : State} (h : InvW s) (a : Nat) : Moves Kind.dnet s (surplusStep s a) := by
  rcases surplusStep_cases s a with ⟨e, _⟩ | ⟨_, _, _, _, e⟩ <;> rw [e]
  · exact .refl s
  · exact deleteNetwork_moves h a

theorem deleteSurplusNets_moves {s : State} (h : InvW s) : Moves Kind.dnet s s.deleteSurplusNets :=
  Moves.foldlInv _ (fun _ a h => surplusStep_moves h a) _ s h

/-- `delete_surplus_networks` leaves no unreferenced zombie among the networks it went over -/
theorem deleteSurplusNets_znet {s : State} (h : InvW s) {P : Nat → Prop} (hz : ZNetOn s P) :
    ZNetOn s.deleteSurplusNets (fun i => P i ∨ i ∈ s.nets.map (·.id)) := by
  rw [deleteSurplusNets_eq]
  refine fun n hn hp => foldNets (fun _ a h => surplusStep_moves h a) (fun s a h m hm e => ?_) _ s h P hz n hn
    (hp.imp id List.mem_reverse.2)
  rcases surplusStep_cases s a with ⟨e', hc⟩ | ⟨_, _, _, _, e'⟩ <;> rw [e'] at hm
  · rcases hc m (e ▸ findNet_of_invW h hm) with href | hnz
    · intro _; omega
    · exact fun hzz => absurd (Or.inl hzz) hnz
  · exact fun _ => ((deleteNetwork_nets h a m hm).1 e).2

/-- `cache_network_unref` by cases: nothing (no such network, or not referenced); a reference less; the last one released
    and `delete_surplus_networks` after it -/
theorem netUnref_cases (s : State) (x : Nat) :
    s.netUnref x = s
    ∨ ∃ n, s.findNet x = some n ∧
      ((1 < n.ref ∧ s.netUnref x = s.updNet x fun n => { n with ref := n.ref - 1 })
      ∨ s.netUnref x = (s.updNet x fun n => { n with ref := 0 }).deleteSurplusNets) := by
  unfold State.netUnref
  cases hf : s.findNet x with
  | none => exact Or.inl rfl
  | some n =>
    simp only
    by_cases h0 : n.ref = 0
    · exact Or.inl (by rw [if_pos h0])
    · by_cases h1 : n.ref = 1
      · exact Or.inr ⟨n, rfl, Or.inr (by rw [if_neg h0, if_pos h1])⟩
      · exact Or.inr ⟨n, rfl, Or.inl ⟨by omega, by rw [if_neg h0, if_neg h1]⟩⟩

theorem netLess_moves {s : State} (h : InvW s) {x : Nat} {n : Net} (hf : s.findNet x = some n) (hr : 1 < n.ref) :
    Moves [.net] s (s.updNet x fun n => { n with ref := n.ref - 1 }) := by
  obtain ⟨hn, rfl⟩ := findNet_some hf
  refine .one (by decide) (Prim.net_sameFlag h n.id _ (fun _ => rfl) (fun _ => rfl) (fun m hm e => ?_) (Or.inl fun _ _ => rfl))
  rw [net_unique h.nidNodup hm hn e]
  exact ⟨rfl, rfl, fun _ => rfl, fun _ _ => Or.inl (by show 0 < n.ref - 1; omega)⟩

theorem netUnref_moves {s : State} (h : InvW s) (x : Nat) : Moves (.netLoose :: Kind.dnet) s (s.netUnref x) := by
  rcases netUnref_cases s x with e | ⟨n, hf, ⟨hr, e⟩ | e⟩ <;> rw [e]
  · exact .refl s
  · exact (netLess_moves h hf hr).mono (by decide)
  · have m := Prim.netLoose (s := s) x
    exact .step (by decide) m ((deleteSurplusNets_moves (m.invW h)).mono (by decide))

theorem netRef_moves {s : State} (h : InvW s) (x : Nat) : Moves [.net] s (s.netRef x) :=
  .one (by decide) (Prim.net_sameFlag h x _ (fun _ => rfl) (fun _ => rfl)
    (fun m _ _ => ⟨rfl, rfl, fun _ => rfl, fun hz hzz => (hz hzz).elim (fun r => Or.inl (Nat.lt_succ_of_lt r)) Or.inr⟩)
    (Or.inl fun _ _ => rfl))

/-- re-initialisation of `cn->_pages` on a network without pages -/
theorem statReset_moves {s : State} (h : InvW s) {x : Nat} {n : Net} (hf : s.findNet x = some n) (h0 : n.nCached = 0) :
    Moves [.net] s (s.statReset x) := by
  obtain ⟨hn, rfl⟩ := findNet_some hf
  have hnone : ∀ q ∈ s.pages, q.net ≠ n.id := by
    intro q hq e
    have h2 := h.nCached n hn
    have : 0 < s.pages.countP (fun p => decide (p.net = n.id)) := List.countP_pos_iff.2 ⟨q, hq, by simpa using e⟩
    omega
  refine .one (by decide) (Prim.net_sameFlag h n.id _ (fun _ => rfl) (fun _ => rfl) (fun m hm e => ?_) (Or.inr hnone))
  have : m = n := net_unique h.nidNodup hm hn e
  subst this
  refine ⟨rfl, rfl, fun pg => ?_, fun hz => hz⟩
  have : s.pages.countP (fun p => decide (p.net = m.id ∧ p.pgno = pg)) = 0 :=
    List.countP_eq_zero.2 (fun q hq hc => hnone q hq (by simpa using (of_decide_eq_true hc).1))
  rw [h.nSub m hm pg, this]; rfl

theorem ptype_moves {s : State} (h : InvW s) (x pg t : Nat) :
    Moves [.net] s (s.updNet x (fun n => n.setStat pg { n.getStat pg with ptype := t })) := by
  have hg : ∀ (n : Net) (pg' : Nat), (n.setStat pg { n.getStat pg with ptype := t }).getStat pg'
      = { n.getStat pg' with ptype := ((n.setStat pg { n.getStat pg with ptype := t }).getStat pg').ptype } := by
    intro n pg'
    rw [getStat_setStat]
    split
    · rename_i e; rw [e]
    · rfl
  refine .one (by decide) (Prim.net_sameFlag h x _ (fun _ => rfl) (fun _ => rfl)
    (fun m _ _ => ⟨rfl, rfl, fun pg' => by rw [hg], fun hz => hz⟩) (Or.inl fun n pg' => ?_))
  unfold marks rng
  rw [hg]

/-- `if (cn->zombie) { ++ca->n_cached_networks; cn->zombie = FALSE; }` by cases -/
theorem unzombieNet_cases (s : State) (x : Nat) :
    (s.unzombieNet x = s ∧ ∀ n, s.findNet x = some n → n.zombie = false)
    ∨ ∃ n, s.findNet x = some n ∧ n.zombie = true ∧ s.unzombieNet x =
        { s.updNet x (fun n => { n with zombie := false }) with nCachedNets := s.nCachedNets + 1 } := by
  unfold State.unzombieNet
  cases hf : s.findNet x with
  | none => exact Or.inl ⟨rfl, fun n hn => by cases hn⟩
  | some n =>
    simp only
    by_cases hz : n.zombie = true
    · exact Or.inr ⟨n, rfl, hz, by rw [if_pos hz]⟩
    · exact Or.inl ⟨by rw [if_neg hz], fun m hm => by cases hm; simpa using hz⟩

theorem unzombieNet_pages (s : State) (x : Nat) : (s.unzombieNet x).pages = s.pages := by
  rcases unzombieNet_cases s x with ⟨e, _⟩ | ⟨_, _, _, e⟩ <;> rw [e] <;> rfl

theorem unzombieNet_mem (s : State) (x : Nat) :
    (s.unzombieNet x).memUsed = s.memUsed ∧ (s.unzombieNet x).memLimit = s.memLimit := by
  rcases unzombieNet_cases s x with ⟨e, _⟩ | ⟨_, _, _, e⟩ <;> rw [e] <;> exact ⟨rfl, rfl⟩

theorem unzombieNet_moves {s : State} (h : InvW s) (x : Nat) : Moves [.net] s (s.unzombieNet x) := by
  rcases unzombieNet_cases s x with ⟨e, _⟩ | ⟨n, hf, hzz, e⟩ <;> rw [e]
  · exact .refl s
  · obtain ⟨hn, rfl⟩ := findNet_some hf
    have key := countP_updNid_one h.nidNodup hn (fun n => { n with zombie := false }) (fun n => !n.zombie)
    simp only [hzz, Bool.not_true, Bool.false_eq_true, if_false, Bool.not_false, if_true] at key
    exact .one (by decide) (.net n.id _ _ (fun _ => rfl) (fun _ _ _ => ⟨rfl, rfl, fun _ => rfl, fun _ hc => by cases hc⟩)
      (by have := h.nNets; omega) (Or.inl fun _ _ => rfl))

/-- `delete_surplus_networks` after the release of the last reference removes the record if it was left an unreferenced zombie -/
theorem netUnref_znet {s : State} (h : InvW s) (hz : ZNet s) (x : Nat) : ZNet (s.netUnref x) := by
  rcases netUnref_cases s x with e | ⟨n, hf, ⟨hr, e⟩ | e⟩
  · rw [e]; exact hz
  · rw [e]; exact (netLess_moves h hf hr).znet (by decide) hz
  · rw [e]
    obtain ⟨hn, rfl⟩ := findNet_some hf
    have h1 := (Prim.netLoose (s := s) n.id).invW h
    have z1 := ZNetOn.updNid (updNet_nets s n.id fun n => { n with ref := 0 }) (fun _ => rfl) hz
    intro m hm _
    refine deleteSurplusNets_znet h1 z1 m hm ?_
    by_cases e : m.id = n.id
    · refine Or.inr ?_
      rw [updNet_nets, map_updNid (f := fun n => { n with ref := 0 }) (·.id) (fun _ => rfl)]
      exact List.mem_map.2 ⟨n, hn, e.symm⟩
    · exact Or.inl ⟨trivial, e⟩

/-- `recycle_network` by cases: no network without references; or the pages of the last such network on the list are
    deleted, its record is unlinked and handed out re-initialised -/
theorem recycleNetwork_cases (s : State) :
    s.recycleNetwork = none
    ∨ ∃ n0 n1, n0 ∈ s.nets ∧ n0.ref = 0 ∧ n0.nRef = 0 ∧ (clearNet s n0).findNet n0.id = some n1 ∧ s.recycleNetwork =
        some ({ clearNet s n0 with nets := (clearNet s n0).nets.filter (fun m => decide (m.id ≠ n1.id)) },
              { n1 with ref := 0, zombie := false, nCached := 0, maxCached := 0, nRef := 0 }) := by
  cases hfind : s.nets.reverse.find? (fun n => n.ref = 0 ∧ n.nRef = 0) with
  | none => left; unfold State.recycleNetwork; rw [hfind]
  | some n0 =>
    have hp := List.find?_some hfind
    simp only [decide_eq_true_eq] at hp
    have e : s.recycleNetwork = match (clearNet s n0).findNet n0.id with
        | none => none
        | some n => some ({ clearNet s n0 with nets := (clearNet s n0).nets.filter (fun m => decide (m.id ≠ n.id)) },
                          { n with ref := 0, zombie := false, nCached := 0, maxCached := 0, nRef := 0 }) := by
      unfold State.recycleNetwork; rw [hfind]; rfl
    rw [e]
    cases hf1 : (clearNet s n0).findNet n0.id with
    | none => exact Or.inl rfl
    | some n1 => exact Or.inr ⟨n0, n1, List.mem_reverse.1 (List.mem_of_find?_eq_some hfind), hp.1, hp.2, hf1, rfl⟩

/-- `_vbi_cache_add_network (ca, NULL, ...)` by cases: a new record with the next id (below the network limit, or nothing
    to recycle); or the record `recycle_network` hands out - either one linked at the head with the caller's reference -/
theorem addNetwork_cases (s : State) :
    s.addNetwork = ({ s with nextNid := s.nextNid + 1, nCachedNets := s.nCachedNets + 1,
                             nets := { id := s.nextNid, ref := 0 + 1 } :: s.nets }, s.nextNid)
    ∨ ∃ s1 n, s.recycleNetwork = some (s1, n)
        ∧ s.addNetwork = ({ s1 with nets := { n with ref := n.ref + 1 } :: s1.nets }, n.id) := by
  unfold State.addNetwork
  simp only
  split
  · exact Or.inl rfl
  · split
    · exact Or.inl rfl
    · rename_i r hr
      exact Or.inr ⟨r.1, r.2, hr, rfl⟩

/-- `_vbi_cache_add_network (ca, NULL, ...)`: a new record, or (`recycle_network`) the pages of an unreferenced network
    are deleted, its record is unlinked, re-initialised and linked again at the head -/
theorem addNetwork_moves {s : State} (h : InvW s) (hz : ZNet s) :
    Moves [.free, .zombify, .netGone, .netNew] s s.addNetwork.1
      ∧ (∃ n ∈ s.addNetwork.1.nets, n.id = s.addNetwork.2 ∧ 0 < n.ref ∧ n.nCached = 0)
      ∧ (∀ q ∈ s.addNetwork.1.pages, q.net ≠ s.addNetwork.2) := by
  rcases addNetwork_cases s with e | ⟨s1, n, hr, e⟩ <;> rw [e]
  · have hnone : ∀ q ∈ s.pages, q.net ≠ s.nextNid := by
      intro q hq e; obtain ⟨m, hm, e2⟩ := h.netOf q hq; have := h.nidLt m hm; omega
    refine ⟨.one (by decide) (.netNew { id := s.nextNid, ref := 0 + 1 } (s.nextNid + 1) (s.nCachedNets + 1) (Nat.le_succ _)
      (Nat.lt_succ_self _) (fun m hm e => ?_) hnone rfl rfl (fun _ => rfl) rfl (fun hc => by cases hc)),
      ⟨_, List.mem_cons_self, rfl, Nat.zero_lt_one, rfl⟩, hnone⟩
    have := h.nidLt m hm; have e' : m.id = s.nextNid := e; omega
  · rcases recycleNetwork_cases s with hn | ⟨n0, n1, hn0, hr0, hr1, hf1, e'⟩ <;> rw [hr] at *
    · cases hn
    · cases e'
      obtain ⟨m1, _, _, _, hclear⟩ := clearNet_moves h hn0
      generalize clearNet s n0 = sA at m1 hclear hf1
      have hA := m1.invW h
      obtain ⟨hn1, e1⟩ := findNet_some hf1
      -- the record found again after the deletions is not a zombie: it has no reference
      have hnz : n1.zombie = false := by
        obtain ⟨m, hm, ek⟩ := mem_of_key (m1.key (by decide)) hn1
        rw [netKey_eq] at ek
        have : m = n0 := net_unique h.nidNodup hm hn0 (ek.1.trans e1)
        subst this
        have := znet_of_key (m1.key (by decide)) hz n1 hn1 trivial
        cases hzz : n1.zombie
        · rfl
        · have := this hzz; omega
      have hnone : ∀ q ∈ sA.pages, q.net ≠ n1.id := e1 ▸ hclear hr1
      have hpos : 0 < sA.nCachedNets := by
        have := hA.nNets
        have : 0 < sA.nets.countP (fun n => !n.zombie) := List.countP_pos_iff.2 ⟨n1, hn1, by simp [hnz]⟩
        omega
      refine ⟨((m1.mono (by decide)).trans (.one (by decide) (.netGone hn1 hnone))).trans (.one (k := .netNew) (by decide) ?_),
        ⟨_, List.mem_cons_self, rfl, Nat.succ_pos _, rfl⟩, hnone⟩
      have hs0 : ∀ pg, (n1.getStat pg).nSub = 0 := by
        intro pg
        rw [hA.nSub n1 hn1 pg]
        have : sA.pages.countP (fun p => decide (p.net = n1.id ∧ p.pgno = pg)) = 0 := by
          rw [List.countP_eq_zero]; intro q hq hc; simp at hc; exact hnone q hq hc.1
        rw [this]
      exact Prim.netNew _ sA.nextNid sA.nCachedNets (Nat.le_refl _) (hA.nidLt n1 hn1)
        (fun m hm => (by simpa using (List.mem_filter.1 hm).2)) hnone rfl rfl hs0
        (by show _ = sA.nCachedNets - (if n1.zombie then 0 else 1) + 1; rw [hnz]; simp; omega) (fun hc => by cases hc)

theorem good_netUnref {s : State} (g : Good s) (x : Nat) : Good (s.netUnref x) :=
  have m := netUnref_moves g.1 x
  ⟨m.invW g.1, netUnref_znet g.1 g.2.1 x, by rw [m.frame.limit]; exact Nat.le_trans (m.mem (by decide)) g.2.2⟩

end Zvbi.Cache
