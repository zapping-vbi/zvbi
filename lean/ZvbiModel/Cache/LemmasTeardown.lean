import ZvbiModel.Cache.LemmasStep
/-!
# Channel switch, teardown, the memory limit of libzvbi 0.2
-/
namespace Zvbi.Cache
open Zvbi.Gen.Cache

/-- after `vbi_chsw_reset` the decoder's network has no page -/
theorem chsw_empty {s : State} (g : Good s) (nid : Nat) (n : Net) (hf : s.findNet nid = some n) :
    ∀ nid', (step s (.chsw nid)).2 = .net nid' → ∀ q ∈ (step s (.chsw nid)).1.pages, q.net ≠ nid' := by
  rw [← stepF_false, stepF_chsw false hf]
  intro nid' hout
  cases hout
  have g1 := good_netUnref g nid
  exact (addNetwork_moves g1.1 g1.2.1).2.2

theorem getPage_none_of_empty {s : State} {nid : Nat} (he : ∀ q ∈ s.pages, q.net ≠ nid) (pgno : Nat) (subno : Int) (mask : Nat) :
    (s.getPage nid pgno subno mask).2 = none := by
  rw [getPage_eq]
  split
  · rfl
  · rcases pageByPgno_cases s nid pgno subno.toNat (if subno.toNat = anySubno then 0 else mask) with ⟨_, e⟩ | ⟨o, hf, _⟩
    · rw [e]; rfl
    · exact absurd (pageMatch_true.1 (List.find?_some hf)).2.2.2 (he o (List.mem_of_find?_eq_some hf))

theorem deleteNetwork_removes {s : State} (h : InvW s) {n : Net} (hn : n ∈ s.nets) (hr : n.ref = 0) (hnr : n.nRef = 0) :
    ∀ n' ∈ (s.deleteNetwork n.id).nets, n'.id ≠ n.id := by
  rcases deleteNetwork_cases s n.id with ⟨hf, _⟩ | ⟨n0, hf, c⟩
  · rw [findNet_of_invW h hn] at hf; cases hf
  · rw [findNet_of_invW h hn] at hf; cases hf
    rcases c with ⟨href, _⟩ | ⟨_, e⟩
    · omega
    · rw [e]; exact fun n' hn' => by simpa using (List.mem_filter.1 hn').2

/-- all references released: what `vbi_cache_purge` leaves -/
theorem purge_fold_empty (ids : List Nat) (s : State) (h : InvW s) (hq : ∀ n ∈ s.nets, n.ref = 0 ∧ n.nRef = 0) :
    let s' := ids.foldl (fun s nid => s.deleteNetwork nid) s
    InvW s' ∧ (∀ n ∈ s'.nets, n.ref = 0 ∧ n.nRef = 0) ∧ (∀ n ∈ s'.nets, n.id ∉ ids ∧ n.id ∈ s.nets.map (·.id)) := by
  induction ids generalizing s with
  | nil => exact ⟨h, hq, fun n hn => ⟨by simp, List.mem_map_of_mem hn⟩⟩
  | cons a t ih =>
    simp only [List.foldl_cons]
    have h1 := deleteNetwork_invW h a
    have other := deleteNetwork_nets h a
    have gone : ∀ n' ∈ (s.deleteNetwork a).nets, n'.id ≠ a := by
      intro n' hn' e
      by_cases hfa : ∃ n ∈ s.nets, n.id = a
      · obtain ⟨n, hn, rfl⟩ := hfa
        exact deleteNetwork_removes h hn (hq n hn).1 (hq n hn).2 n' hn' e
      · rcases deleteNetwork_cases s a with ⟨_, e'⟩ | ⟨n, hf, _⟩
        · rw [e'] at hn'; exact hfa ⟨n', hn', e⟩
        · exact hfa ⟨n, (findNet_some hf).1, (findNet_some hf).2⟩
    have hq1 : ∀ n ∈ (s.deleteNetwork a).nets, n.ref = 0 ∧ n.nRef = 0 := by
      intro n' hn'
      obtain ⟨m, hm, ek⟩ := (other n' hn').2 (gone n' hn')
      rw [netKey_eq] at ek
      have := hq m hm; omega
    obtain ⟨i1, i2, i3⟩ := ih (s.deleteNetwork a) h1 hq1
    refine ⟨i1, i2, ?_⟩
    intro n hn
    obtain ⟨x1, x2⟩ := i3 n hn
    obtain ⟨m, hm, e⟩ := List.mem_map.1 x2
    obtain ⟨m0, hm0, ek⟩ := (other m hm).2 (gone m hm)
    rw [netKey_eq] at ek
    refine ⟨?_, List.mem_map.2 ⟨m0, hm0, ek.1.trans e⟩⟩
    intro hc
    rcases List.mem_cons.1 hc with hc | hc
    · exact gone m hm (e.trans hc)
    · exact x1 hc

theorem purge_frees_all {s : State} (g : Good s) (hp : ∀ p ∈ s.pages, p.ref = 0) (hn : ∀ n ∈ s.nets, n.ref = 0) :
    s.purge.pages = [] ∧ s.purge.nets = [] ∧ s.purge.priority = [] ∧ s.purge.referenced = [] := by
  obtain ⟨h, _, _⟩ := g
  have hq : ∀ n ∈ s.nets, n.ref = 0 ∧ n.nRef = 0 := by
    intro n hnn
    refine ⟨hn n hnn, ?_⟩
    rw [h.nRef n hnn, List.countP_eq_zero]
    intro p hpp hc; simp at hc; have := hp p hpp; omega
  obtain ⟨i1, _, i3⟩ := purge_fold_empty (s.nets.map (·.id)) s h hq
  have e : s.purge = (s.nets.map (·.id)).foldl (fun s nid => s.deleteNetwork nid) s := rfl
  rw [← e] at i1 i3
  have hnets : s.purge.nets = [] := by
    cases hl : s.purge.nets with
    | nil => rfl
    | cons a t =>
      have := i3 a (by rw [hl]; exact List.mem_cons_self)
      exact absurd this.2 this.1
  have hpages : s.purge.pages = [] := by
    cases hl : s.purge.pages with
    | nil => rfl
    | cons a t =>
      obtain ⟨n, hnn, _⟩ := i1.netOf a (by rw [hl]; exact List.mem_cons_self)
      rw [hnets] at hnn; cases hnn
  refine ⟨hpages, hnets, ?_, ?_⟩
  · cases hl : s.purge.priority with
    | nil => rfl
    | cons a t =>
      obtain ⟨q, hq', _⟩ := (i1.priMem a).1 (by rw [hl]; exact List.mem_cons_self)
      rw [hpages] at hq'; cases hq'
  · cases hl : s.purge.referenced with
    | nil => rfl
    | cons a t =>
      obtain ⟨q, hq', _⟩ := (i1.refMem a).1 (by rw [hl]; exact List.mem_cons_self)
      rw [hpages] at hq'; cases hq'

theorem pageSize_bounds (func : Int) (x26 x28 : Nat) :
    hdrSize + aitSize ≤ pageSize func x26 x28 ∧ pageSize func x26 x28 ≤ fullSize := by
  unfold pageSize
  simp only [hdrSize, extLopSize, enhLopSize, lopSize, popSize, drcsSize, aitSize, fullSize]
  split
  · split
    · omega
    · split <;> omega
  · split
    · omega
    · split
      · omega
      · split <;> omega

theorem pageSize_le (func : Int) (x26 x28 : Nat) : pageSize func x26 x28 ≤ fullSize := (pageSize_bounds func x26 x28).2

theorem pageSize_ge (func : Int) (x26 x28 : Nat) : hdrSize + aitSize ≤ pageSize func x26 x28 :=
  (pageSize_bounds func x26 x28).1

theorem fsum_le_length (Q : Page → Bool) (l : List Page) : fsum Q Page.size l ≤ l.length * fullSize := by
  induction l with
  | nil => simp [fsum]
  | cons a t ih =>
    rw [fsum_cons, List.length_cons, Nat.succ_mul]
    have := pageSize_le a.func a.x26 a.x28
    have h2 : (if Q a = true then a.size else 0) ≤ fullSize := by
      split
      · exact this
      · omega
    omega

/-- with at most 0x800 x 80 pages (the bound cache.c itself asserts under CACHE_CONSISTENCY) the
    1 GiB limit of libzvbi 0.2 always leaves room for another page: no eviction, the death row stays empty -/
theorem mem_room_0_2 {s : State} (h : Inv s) (hl : s.memLimit = memoryLimit0) (hn : s.pages.length ≤ 0x800 * 80)
    (func : Int) (x26 x28 : Nat) : s.memUsed + pageSize func x26 x28 ≤ s.memLimit := by
  have h1 : s.memUsed = fsum (fun p => decide (p.ref = 0)) Page.size s.pages := h.mem
  have h2 := fsum_le_length (fun p => decide (p.ref = 0)) s.pages
  have h3 := pageSize_le func x26 x28
  rw [hl, h1]
  simp only [memoryLimit0, fullSize] at *
  have : s.pages.length * 4504 ≤ 0x800 * 80 * 4504 := Nat.mul_le_mul_right _ hn
  omega

end Zvbi.Cache
