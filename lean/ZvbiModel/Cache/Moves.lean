import ZvbiModel.Cache.LemmasNetUpd
/-!
# The primitive changes of the cache state

Every function of cache.c is a composition of a dozen primitive changes (`Prim`): a page is freed, becomes a zombie, is
relinked at the head of its hash chain, gains or loses a reference; one network record is changed, unlinked or linked.
`Moves K` is a sequence of primitive changes of the kinds `K`.  A function of the model is analysed ONCE - which
primitives it is made of (`_moves` lemmas) - and a relation between cache states is proved ONCE against the primitives
(`Prim.invW`, `Prim.held`, `Prim.znet`, `Prim.mem`, `Prim.calm`); `Moves.rel` puts the two together.  The insertion of a
new page (`State.store`, LemmasInsert.lean) and the write of the memory limit are not among the primitives: each occurs in one
operation only.
-/
namespace Zvbi.Cache

/-- recorded sub-page range of a page number -/
def rng (n : Net) (pg : Nat) : Nat × Nat := ((n.getStat pg).subMin, (n.getStat pg).subMax)

/-- what `cache_network_add_page` alone writes: the high-water mark `max_subpages` and the recorded range.  `Prim.net` says
    that no other change of a record touches them while the network has a page (`Calm`, Calm.lean, rests on that). -/
def marks (n : Net) (pg : Nat) : Nat × Nat × Nat := ((n.getStat pg).maxSub, rng n pg)

/-- every referenced page of `s` is still there in `s'`, same content, same reference count -/
def HeldKept (s s' : State) : Prop := ∀ p ∈ s.pages, 0 < p.ref → ∃ q ∈ s'.pages, sameBody p q

theorem HeldKept.refl (s : State) : HeldKept s s := fun p hp _ => ⟨p, hp, sameBody.refl p⟩
theorem HeldKept.trans {a b c : State} (h1 : HeldKept a b) (h2 : HeldKept b c) : HeldKept a c := by
  intro p hp hr
  obtain ⟨q, hq, e⟩ := h1 p hp hr
  obtain ⟨q2, hq2, e2⟩ := h2 q hq (by rw [← e.ref]; exact hr)
  exact ⟨q2, hq2, e.trans e2⟩

inductive Kind where
  | free | zombify | front | net | netLoose | netGone | netNew | more | less | first | last | lastZ
  deriving DecidableEq

/-- The primitive changes, each under the conditions the code makes it. -/
inductive Prim : Kind → State → State → Prop
  /-- `delete_page`, `0 == cp->ref_count`: unlinked, un-counted, freed -/
  | free {s : State} {p : Page} : p ∈ s.pages → p.ref = 0 → Prim .free s (s.freePage p)
  /-- `delete_page` (and the replaced version in `_vbi_cache_put_page`), page still held: off its hash chain, `CACHE_PRI_ZOMBIE` -/
  | zombify {s : State} {p : Page} : p ∈ s.pages → 0 < p.ref →
      Prim .zombify s (s.updPage p.id fun p => { p with pri := .zombie })
  /-- `page_by_pgno`: the page found goes to the head of its hash chain -/
  | front {s : State} {p : Page} : p ∈ s.pages → Prim .front s { s with pages := p :: rmId s.pages p.id }
  /-- one network record changes (reference count, zombie flag with `n_cached_networks`, page statistics): the page
      counters stay, the record is not left an unreferenced zombie, and the members `cache_network_add_page` writes
      stay unless the network has no page -/
  | net {s : State} (x : Nat) (f : Net → Net) (c' : Nat) : (∀ n, (f n).id = n.id) →
      (∀ n ∈ s.nets, n.id = x → (f n).nCached = n.nCached ∧ (f n).nRef = n.nRef
        ∧ (∀ pg, ((f n).getStat pg).nSub = (n.getStat pg).nSub) ∧ (ZOk n → ZOk (f n))) →
      c' = (updNid s.nets x f).countP (fun n => !n.zombie) →
      ((∀ n pg, marks (f n) pg = marks n pg) ∨ ∀ q ∈ s.pages, q.net ≠ x) →
      Prim .net s { s.updNet x f with nCachedNets := c' }
  /-- `cache_network_unref`, last reference: the record may now be an unreferenced zombie (`delete_surplus_networks` follows) -/
  | netLoose {s : State} (x : Nat) : Prim .netLoose s (s.updNet x fun n => { n with ref := 0 })
  /-- `delete_network` / `recycle_network`: a record no page points to is unlinked -/
  | netGone {s : State} {n : Net} : n ∈ s.nets → (∀ q ∈ s.pages, q.net ≠ n.id) →
      Prim .netGone s { s with nCachedNets := s.nCachedNets - (if n.zombie then 0 else 1),
                               nets := s.nets.filter (fun m => decide (m.id ≠ n.id)) }
  /-- `_vbi_cache_add_network`: a record without pages (new or recycled) is linked at the head of the list -/
  | netNew {s : State} (n : Net) (k c : Nat) : s.nextNid ≤ k → n.id < k → (∀ m ∈ s.nets, m.id ≠ n.id) →
      (∀ q ∈ s.pages, q.net ≠ n.id) → n.nCached = 0 → n.nRef = 0 → (∀ pg, (n.getStat pg).nSub = 0) →
      c = s.nCachedNets + (if n.zombie then 0 else 1) → ZOk n →
      Prim .netNew s { s with nextNid := k, nCachedNets := c, nets := n :: s.nets }
  /-- `cache_page_ref`, page already referenced -/
  | more {s : State} {p : Page} : p ∈ s.pages → 0 < p.ref →
      Prim .more s (s.updPage p.id fun p => { p with ref := p.ref + 1 })
  /-- `cache_page_unref`, further references remain -/
  | less {s : State} {p : Page} : p ∈ s.pages → 1 < p.ref →
      Prim .less s (s.updPage p.id fun p => { p with ref := p.ref - 1 })
  /-- `cache_page_ref`, `0 == cp->ref_count`: to the referenced list, `memory_used` and `n_referenced_pages` follow -/
  | first {s : State} {p : Page} : p ∈ s.pages → p.ref = 0 →
      Prim .first s ((s.refFirst p).updPage p.id fun p => { p with ref := p.ref + 1 })
  /-- `cache_page_unref`, last reference to a cached page: back to the priority list (the network and memory checks follow) -/
  | last {s : State} {p : Page} : p ∈ s.pages → p.ref = 1 → p.pri ≠ .zombie → Prim .last s (s.unrefLast p)
  /-- `cache_page_unref`, last reference to a replaced page: freed (the network check follows) -/
  | lastZ {s : State} {p : Page} : p ∈ s.pages → p.ref = 1 → p.pri = .zombie → Prim .lastZ s (s.unrefZombie p)

/-- a page is deleted -/
def Kind.del : List Kind := [.free, .zombify]
/-- no page reference is taken or released -/
def Kind.quiet : List Kind := [.free, .zombify, .front, .net, .netLoose, .netGone, .netNew]
/-- the changes that leave nothing to clean up: `Good` holds again right after them -/
def Kind.tidy : List Kind := [.free, .zombify, .front, .net, .netGone, .netNew, .more, .less, .first]
/-- the kinds a store is made of before the new page is inserted -/
def Kind.pre : List Kind := [.free, .zombify, .front]

inductive Moves (K : List Kind) : State → State → Prop
  | refl (s : State) : Moves K s s
  | step {s s' s'' : State} {k : Kind} : k ∈ K → Prim k s s' → Moves K s' s'' → Moves K s s''

/-- `Prim.net` for a change that leaves the zombie flag alone -/
theorem Prim.net_sameFlag {s : State} (h : InvW s) (x : Nat) (f : Net → Net) (hid : ∀ n, (f n).id = n.id)
    (hz : ∀ n, (f n).zombie = n.zombie)
    (hk : ∀ n ∈ s.nets, n.id = x → (f n).nCached = n.nCached ∧ (f n).nRef = n.nRef
      ∧ (∀ pg, ((f n).getStat pg).nSub = (n.getStat pg).nSub) ∧ (ZOk n → ZOk (f n)))
    (hm : (∀ n pg, marks (f n) pg = marks n pg) ∨ ∀ q ∈ s.pages, q.net ≠ x) : Prim .net s (s.updNet x f) :=
  Prim.net x f s.nCachedNets hid hk
    (by rw [countP_updNid (fun n => !n.zombie) (fun n => by rw [hz])]; exact h.nNets) hm

theorem Prim.invW {k : Kind} {s s' : State} (m : Prim k s s') (h : InvW s) : InvW s' := by
  cases m with
  | free hp hr => exact freePage_invW h hp hr
  | zombify hp hr => exact updPage_invW_same h hp _ (fun _ => rfl) rfl rfl rfl Iff.rfl (fun _ => hr)
  | front hp => exact moveFront_invW h hp
  | net x f c' hid hk hc _ =>
    exact updNet_invW h x f c' hid (fun n hn e => (hk n hn e).1) (fun n hn e => (hk n hn e).2.1)
      (fun n hn e => (hk n hn e).2.2.1) hc
  | netLoose x =>
    exact updNet_invW_sameFlag h x _ (fun _ => rfl) (fun _ _ _ => rfl) (fun _ _ _ => rfl) (fun _ _ _ _ => rfl) (fun _ => rfl)
  | netGone hn hnone => exact removeNet_invW h hn hnone
  | netNew n k c hk hid hnew hnone hc hr hs hcnt _ => exact consNet_invW h n k hk hid hnew hnone hc hr hs c hcnt
  | more hp hr => exact updPage_invW_same h hp _ (fun _ => rfl) rfl rfl rfl (by simp; omega) (fun _ => Nat.succ_pos _)
  | @less _ p hp hr =>
    exact updPage_invW_same h hp _ (fun _ => rfl) rfl rfl rfl (by simp; omega) (fun _ => by show 0 < p.ref - 1; omega)
  | first hp hr => exact refFirst_invW h hp hr
  | last hp hr hz => exact unrefLast_invW h hp hr hz
  | lastZ hp hr hz => exact unrefZombie_invW h hp hr hz

namespace Moves
variable {K : List Kind}

theorem one {k : Kind} {s s' : State} (hk : k ∈ K) (m : Prim k s s') : Moves K s s' := .step hk m (.refl _)

theorem trans {a b c : State} (h1 : Moves K a b) (h2 : Moves K b c) : Moves K a c := by
  induction h1 with
  | refl => exact h2
  | step hk m _ ih => exact .step hk m (ih h2)

theorem mono {K' : List Kind} (hsub : ∀ k ∈ K, k ∈ K') {a b : State} (h : Moves K a b) : Moves K' a b := by
  induction h with
  | refl => exact .refl _
  | step hk p _ ih => exact .step (hsub _ hk) p ih

theorem invW {a b : State} (m : Moves K a b) (h : InvW a) : InvW b := by
  induction m with
  | refl => exact h
  | step _ p _ ih => exact ih (p.invW h)

/-- A relation that is reflexive and transitive and holds across every primitive change of the kinds `K` made in a
    state with `InvW` holds across `Moves K`. -/
theorem rel {R : State → State → Prop} (refl : ∀ s, R s s) (trans : ∀ {a b c}, R a b → R b c → R a c)
    (prim : ∀ {k s s'}, k ∈ K → InvW s → Prim k s s' → R s s') {a b : State} (m : Moves K a b) (h : InvW a) : R a b := by
  induction m with
  | refl => exact refl _
  | step hk p _ ih => exact trans (prim hk h p) (ih (p.invW h))

/-- a loop whose body is a sequence of moves -/
theorem foldl {α : Type} (f : State → α → State) (hf : ∀ s a, Moves K s (f s a)) (l : List α) (s : State) :
    Moves K s (l.foldl f s) := by
  induction l generalizing s with
  | nil => exact .refl s
  | cons a t ih => rw [List.foldl_cons]; exact (hf s a).trans (ih _)

/-- ... when the body needs `InvW` to be one -/
theorem foldlInv {α : Type} (f : State → α → State) (hf : ∀ s a, InvW s → Moves K s (f s a)) (l : List α) (s : State)
    (h : InvW s) : Moves K s (l.foldl f s) := by
  induction l generalizing s with
  | nil => exact .refl s
  | cons a t ih => rw [List.foldl_cons]; exact (hf s a h).trans (ih _ ((hf s a h).invW h))

end Moves

/-- what no primitive change writes: the two limits; and network ids are never taken back -/
structure Frame (s s' : State) : Prop where
  limit : s'.memLimit = s.memLimit
  netsLimit : s'.nNetsLimit = s.nNetsLimit
  nextNid : s.nextNid ≤ s'.nextNid

theorem deletePage_frame (s : State) (id : Nat) :
    Frame s (s.deletePage id) ∧ (s.deletePage id).memUsed ≤ s.memUsed := by
  rcases deletePage_cases s id with ⟨e, _⟩ | ⟨p, _, ⟨_, _, e⟩ | ⟨_, e⟩⟩ <;> rw [e]
  · exact ⟨⟨rfl, rfl, Nat.le_refl _⟩, Nat.le_refl _⟩
  · exact ⟨⟨rfl, rfl, Nat.le_refl _⟩, Nat.le_refl _⟩
  · rw [freePage_eq]
    refine ⟨⟨rfl, rfl, Nat.le_refl _⟩, ?_⟩
    show (if _ then _ else _) ≤ _
    split
    · exact Nat.sub_le _ _
    · exact Nat.le_refl _

theorem Prim.frame {k : Kind} {s s' : State} (m : Prim k s s') : Frame s s' := by
  cases m with
  | free => rw [freePage_eq]; exact ⟨rfl, rfl, Nat.le_refl _⟩
  | netNew n k c hk => exact ⟨rfl, rfl, hk⟩
  | @lastZ _ p =>
    have f := (deletePage_frame (s.updPage p.id fun p => { p with ref := 0 }) p.id).1
    exact ⟨f.limit, f.netsLimit, f.nextNid⟩
  | zombify | front | net | netLoose | netGone | more | less | first | last => exact ⟨rfl, rfl, Nat.le_refl _⟩

theorem Moves.frame {K : List Kind} {a b : State} (m : Moves K a b) : Frame a b := by
  induction m with
  | refl => exact ⟨rfl, rfl, Nat.le_refl _⟩
  | step _ p _ ih =>
    exact ⟨ih.limit.trans p.frame.limit, ih.netsLimit.trans p.frame.netsLimit, Nat.le_trans p.frame.nextNid ih.nextNid⟩

/-- `memory_used` grows only when the last reference to a cached page is released -/
theorem Prim.mem {k : Kind} {s s' : State} (hk : k ≠ .last) (m : Prim k s s') : s'.memUsed ≤ s.memUsed := by
  cases m with
  | free => rw [freePage_memUsed]; split <;> omega
  | @first _ p => exact Nat.sub_le s.memUsed p.size
  | last => exact absurd rfl hk
  | @lastZ _ p => exact (deletePage_frame (s.updPage p.id fun p => { p with ref := 0 }) p.id).2
  | zombify | front | net | netLoose | netGone | netNew | more | less => exact Nat.le_refl _

theorem Prim.held {k : Kind} {s s' : State} (hk : k ∈ Kind.quiet) (h : InvW s) (m : Prim k s s') : HeldKept s s' := by
  have same : s'.pages = s.pages → HeldKept s s' := fun e q hq _ => ⟨q, e ▸ hq, sameBody.refl q⟩
  cases m with
  | free hp hr =>
    intro q hq hqr
    refine ⟨q, ?_, sameBody.refl q⟩
    rw [freePage_pages, mem_rmId]; exact ⟨hq, fun e => by have := mem_unique h.pidNodup hq hp e; subst this; omega⟩
  | zombify hp hr =>
    intro q hq _
    refine ⟨_, (by rw [updPage_pages]; exact mem_updId.2 ⟨q, hq, rfl⟩), ?_⟩
    split
    · exact sameBody.of_pri q _
    · exact sameBody.refl q
  | @front _ p hp => exact fun q hq _ => ⟨q, (mem_moveFront h.pidNodup hp).2 hq, sameBody.refl q⟩
  | net | netLoose | netGone | netNew => exact same rfl
  | more | less | first | last | lastZ => simp [Kind.quiet] at hk

theorem Moves.held {a b : State} (m : Moves Kind.quiet a b) (h : InvW a) : HeldKept a b :=
  m.rel HeldKept.refl HeldKept.trans (fun hk h p => p.held hk h) h

/-- the zombie-network clause survives every change but the three that release a last reference -/
theorem Prim.znet {k : Kind} {s s' : State} (hk : k ∈ Kind.tidy) (m : Prim k s s') {P : Nat → Prop}
    (hz : ZNetOn s P) : ZNetOn s' P := by
  cases m with
  | free hp hr => exact znet_of_key (freePage_netKey s _) hz
  | zombify hp hr => exact znet_of_key (updPage_netKey s _ _) hz
  | front hp => exact hz
  | net x f c' hid hk' hc hm =>
    intro n' hn' hp
    obtain ⟨m, hm', rfl⟩ := mem_updNid.1 (show n' ∈ updNid s.nets x f from hn')
    by_cases e : m.id = x
    · rw [if_pos e] at hp ⊢; exact (hk' m hm' e).2.2.2 (hz m hm' (by rw [← hid m]; exact hp))
    · rw [if_neg e] at hp ⊢; exact hz m hm' hp
  | netGone hn hnone => exact fun m hm hp => hz m (List.mem_filter.1 hm).1 hp
  | netNew n k c hk hid hnew hnone hc hr hs hcnt hok => exact consNet_znet hz n k c hok
  | more hp hr => exact znet_of_key (updPage_netKey s _ _) hz
  | less hp hr => exact znet_of_key (updPage_netKey s _ _) hz
  | first hp hr => exact refFirst_znet hz _ _
  | netLoose | last | lastZ => simp [Kind.tidy] at hk

theorem Moves.znet {K : List Kind} (hK : ∀ k ∈ K, k ∈ Kind.tidy) {a b : State} (m : Moves K a b) {P : Nat → Prop}
    (hz : ZNetOn a P) : ZNetOn b P := by
  induction m with
  | refl => exact hz
  | step hk p _ ih => exact ih (p.znet (hK _ hk) hz)

theorem Moves.mem {K : List Kind} (hK : Kind.last ∉ K) {a b : State} (m : Moves K a b) : b.memUsed ≤ a.memUsed := by
  induction m with
  | refl => exact Nat.le_refl _
  | step hk p _ ih => exact Nat.le_trans ih (p.mem fun e => hK (e ▸ hk))

theorem Moves.good {K : List Kind} (hK : ∀ k ∈ K, k ∈ Kind.tidy) {a b : State} (m : Moves K a b) (g : Good a) : Good b :=
  ⟨m.invW g.1, m.znet hK g.2.1, by
    rw [m.frame.limit]
    exact Nat.le_trans (m.mem fun hl => by have := hK _ hl; simp [Kind.tidy] at this) g.2.2⟩

theorem Moves.key {K : List Kind} (hK : ∀ k ∈ K, k ∈ Kind.pre) {a b : State} (m : Moves K a b) :
    b.nets.map netKey = a.nets.map netKey := by
  induction m with
  | refl => rfl
  | step hk p _ ih =>
    rw [ih]
    have hk' := hK _ hk
    cases p with
    | free => exact freePage_netKey _ _
    | zombify | front => rfl
    | _ => simp [Kind.pre] at hk'

theorem Moves.net_mem {K : List Kind} (hK : ∀ k ∈ K, k ∈ Kind.pre) {a b : State} (m : Moves K a b) {nid : Nat} {cn : Net}
    (hf : a.findNet nid = some cn) : ∃ n0 ∈ b.nets, n0.id = nid := by
  obtain ⟨n0, hn0, ek⟩ := mem_of_key (m.key hK).symm (findNet_some hf).1
  rw [netKey_eq] at ek
  exact ⟨n0, hn0, ek.1.trans (findNet_some hf).2⟩

end Zvbi.Cache
