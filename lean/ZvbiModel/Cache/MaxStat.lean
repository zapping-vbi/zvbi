import ZvbiModel.Cache.HiSub
/-!
# `max_subpages` is a high-water mark of the number of allocated versions of a page number

`MaxInv`: for every network and page number `min (number of allocated versions) 65535 <= max_subpages`.
`Calm` changes (Calm.lean) keep it (the count can only go down, the member is untouched or the network owns no page);
the store of a new version raises the member with the counter.  With `InvW.nSub` this gives
`n_subpages <= max_subpages` after every history - through the wrap of the `uint16_t` counter too.
-/
namespace Zvbi.Cache.MaxStat
open Zvbi.Cache

/-- recorded high-water mark `max_subpages` of a page number -/
def rng (n : Net) (pg : Nat) : Nat := (n.getStat pg).maxSub

theorem rng_rmZombieNet (pg : Nat) (n : Net) : (rmZombieNet pg n).id = n.id ∧ ∀ pg', rng (rmZombieNet pg n) pg' = rng n pg' :=
  ⟨rfl, fun pg' => congrArg (·.1) ((marks_rmZombieNet pg n).2 pg')⟩

/-- number of allocated versions of page `pg` in network `nid` -/
def cnt (s : State) (nid pg : Nat) : Nat := s.pages.countP (fun p => p.net = nid ∧ p.pgno = pg)

theorem cnt_le_of_calm {s s' : State} (h' : InvW s') (c : Calm s s') (nid pg : Nat) : cnt s' nid pg ≤ cnt s nid pg := by
  unfold cnt
  rw [List.countP_eq_length_filter, List.countP_eq_length_filter]
  have h1 : (((s'.pages.filter (fun p => decide (p.net = nid ∧ p.pgno = pg))).map (·.id))).Nodup :=
    (List.Sublist.map _ List.filter_sublist).nodup h'.pidNodup
  have := h1.length_le_of_subset (l₂ := (s.pages.filter (fun p => decide (p.net = nid ∧ p.pgno = pg))).map (·.id)) (by
    intro x hx
    obtain ⟨q, hq, rfl⟩ := List.mem_map.1 hx
    obtain ⟨hq1, hq2⟩ := List.mem_filter.1 hq
    obtain ⟨p, hp, k⟩ := c.pages q hq1
    refine List.mem_map.2 ⟨p, List.mem_filter.2 ⟨hp, ?_⟩, k.id⟩
    simp only [decide_eq_true_eq] at hq2 ⊢
    exact ⟨k.net.trans hq2.1, k.pgno.trans hq2.2⟩)
  rw [List.length_map, List.length_map] at this
  exact this

def MaxInv (s : State) : Prop := ∀ n ∈ s.nets, ∀ pg, min (cnt s n.id pg) 65535 ≤ (n.getStat pg).maxSub

theorem max_of_calm {s s' : State} (h' : InvW s') (hi : MaxInv s) (c : Calm s s') : MaxInv s' := by
  intro n' hn' pg
  rcases c.nets n' hn' with ⟨n, hn, e, r⟩ | hno
  · have := hi n hn pg
    have hc := cnt_le_of_calm h' c n'.id pg
    have r1 : (n'.getStat pg).maxSub = (n.getStat pg).maxSub := congrArg (·.1) (r pg)
    rw [r1, ← e]
    rw [e]
    rw [e] at this
    omega
  · have : cnt s' n'.id pg = 0 := by
      unfold cnt
      rw [List.countP_eq_zero]
      intro q hq
      simp only [decide_eq_true_eq]
      exact fun x => hno q hq x.1
    rw [this]
    exact Nat.zero_le _

theorem addPageNet_maxSub (pg subno pg' : Nat) (m : Net) :
    ((addPageNet pg subno m).getStat pg').maxSub
      = if pg' = pg then
          (if ((m.getStat pg).nSub + 1) % 65536 > (m.getStat pg).maxSub then ((m.getStat pg).nSub + 1) % 65536
           else (m.getStat pg).maxSub)
        else (m.getStat pg').maxSub := by
  rw [addPageNet_getStat]; split <;> rfl

/-- the store keeps `MaxInv`: `cache_network_add_page` raises `max_subpages` with the counter -/
theorem store_max {s0 : State} (h0 : InvW s0) (hi : MaxInv s0) {m : Net} (hm : m ∈ s0.nets) (a : PutArg) (subno : Nat) :
    MaxInv (s0.store m.id a subno) := by
  obtain ⟨np, hp, hn, pnet, ppg, _⟩ := store_shape h0 hm a subno
  generalize s0.store m.id a subno = s1 at hp hn
  intro n' hn' pg
  rw [hn] at hn'
  obtain ⟨k, hk, rfl⟩ := mem_updNid.1 hn'
  have hcnt : ∀ nid, cnt s1 nid pg = cnt s0 nid pg + (if nid = m.id ∧ pg = a.pgno then 1 else 0) := by
    intro nid
    unfold cnt
    rw [hp, List.countP_cons]
    congr 1
    rw [pnet, ppg]
    by_cases c : nid = m.id ∧ pg = a.pgno
    · rw [if_pos c, if_pos (by simp [c.1, c.2])]
    · rw [if_neg c, if_neg (by simp only [decide_eq_true_eq]; exact fun x => c ⟨x.1.symm, x.2.symm⟩)]
  by_cases e : k.id = m.id
  · have hkm : k = m := net_unique h0.nidNodup hk hm e
    subst hkm
    rw [if_pos rfl, addPageNet_id, hcnt k.id, addPageNet_maxSub]
    have hb := hi k hk pg
    by_cases epg : pg = a.pgno
    · rw [epg] at hb ⊢
      rw [if_pos ⟨rfl, rfl⟩, if_pos rfl]
      have hns : (k.getStat a.pgno).nSub = cnt s0 k.id a.pgno % 65536 := h0.nSub k hk a.pgno
      rw [hns]
      generalize cnt s0 k.id a.pgno = c at hb ⊢
      generalize (k.getStat a.pgno).maxSub = M at hb ⊢
      rw [Nat.min_def] at hb ⊢
      by_cases h1 : c + 1 ≤ 65535
      · have e1 : (c % 65536 + 1) % 65536 = c + 1 := by omega
        rw [if_pos h1, e1]
        split <;> omega
      · rw [if_neg h1]
        have h2 : ¬ c ≤ 65535 ∨ c = 65535 := by omega
        have hM : 65535 ≤ M := by
          rcases h2 with h2 | h2
          · rw [if_neg h2] at hb; exact hb
          · rw [if_pos (by omega)] at hb; omega
        split <;> omega
    · rw [if_neg (fun x => epg x.2), if_neg epg]
      exact hb
  · rw [if_neg e, hcnt k.id, if_neg (fun x => e x.1)]
    exact hi k hk pg

theorem max_stepF (fix : Bool) {s : State} (g : Good s) (hi : MaxInv s) (op : Op) : MaxInv (stepF fix s op).1 := by
  rcases stepF_shape fix g op with c | ⟨nid, a, cn, s0, m, rfl, _, i0, c0, hm, e⟩
  · exact max_of_calm (good_stepF fix g op).1 hi c
  · rw [e]; exact store_max i0 (max_of_calm i0 hi c0) hm a _

theorem max_runF (fix : Bool) (ops : List Op) {s : State} (g : Good s) (hi : MaxInv s) : MaxInv (runF fix s ops) := by
  induction ops generalizing s with
  | nil => exact hi
  | cons op t ih => exact ih (good_stepF fix g op) (max_stepF fix g hi op)

theorem max_init : MaxInv init := by intro n hn; simp [init] at hn

end Zvbi.Cache.MaxStat
