import ZvbiModel.Cache.Calm
/-!
# `delete_page` and the loops built from it
-/
namespace Zvbi.Cache

theorem deletePage_moves (s : State) (id : Nat) : Moves Kind.del s (s.deletePage id) := by
  rcases deletePage_cases s id with ⟨e, _⟩ | ⟨p, hf, ⟨hr, _, e⟩ | ⟨hr, e⟩⟩ <;> rw [e]
  · exact .refl s
  · exact .one (k := .zombify) (by decide) (.zombify (findPage_some hf).1 hr)
  · exact .one (k := .free) (by decide) (.free (findPage_some hf).1 hr)

theorem foldDelete_moves (row : List Nat) (s : State) :
    Moves Kind.del s (row.foldl (fun s id => s.deletePage id) s) :=
  Moves.foldl _ deletePage_moves row s

/-- the loop body of `delete_all_pages` -/
def deleteAllStep (nid : Nat) (s : State) (id : Nat) : State :=
  match s.findPage id with
  | some p => if p.net = nid then s.deletePage id else s
  | none => s

theorem deleteAllPages_body_moves (nid : Nat) (s : State) (id : Nat) : Moves Kind.del s (deleteAllStep nid s id) := by
  unfold deleteAllStep
  split
  · split
    · exact deletePage_moves s id
    · exact .refl s
  · exact .refl s

theorem deleteAllPages_moves (s : State) (nid : Nat) : Moves Kind.del s (s.deleteAllPages nid) :=
  Moves.foldl _ (deleteAllPages_body_moves nid) _ s

theorem surplusPass_moves (pri : Pri) (chk : Bool) (ids : List Nat) (s : State) :
    Moves Kind.del s (surplusPass pri chk ids s).1 := by
  induction ids generalizing s with
  | nil => exact .refl s
  | cons a t ih =>
    unfold surplusPass
    split
    · exact .refl s
    · split
      · split
        · exact (deletePage_moves s a).trans (ih _)
        · exact ih _
      · exact ih _

/-- the four passes of `delete_surplus_pages`: priority class, and whether the pages of referenced networks are spared -/
def surplusPasses : List (Pri × Bool) := [(.normal, true), (.special, true), (.normal, false), (.special, false)]

/-- passes one after the other until one of them returns: the proofs about `delete_surplus_pages` are inductions over
    the list of passes (`deleteSurplusPages_eq`) -/
def surplusChain : List (Pri × Bool) → State → State
  | [], s => s
  | (pri, chk) :: rest, s =>
    if (surplusPass pri chk s.priority s).2 then (surplusPass pri chk s.priority s).1
    else surplusChain rest (surplusPass pri chk s.priority s).1

theorem deleteSurplusPages_eq (s : State) : s.deleteSurplusPages = surplusChain surplusPasses s := by
  unfold State.deleteSurplusPages surplusPasses
  simp only [surplusChain, ite_self]

theorem surplusChain_moves (ps : List (Pri × Bool)) (s : State) : Moves Kind.del s (surplusChain ps s) := by
  induction ps generalizing s with
  | nil => exact .refl s
  | cons p rest ih =>
    unfold surplusChain
    split
    · exact surplusPass_moves _ _ _ s
    · exact (surplusPass_moves _ _ _ s).trans (ih _)

theorem deleteSurplusPages_moves (s : State) : Moves Kind.del s s.deleteSurplusPages := by
  rw [deleteSurplusPages_eq]; exact surplusChain_moves _ s

/-- what a sequence of deletions does to the page list (what it keeps otherwise: `Moves.invW`, `.key`, `.mem`, `.frame`, `.held`) -/
structure Shrinks (s s' : State) : Prop where
  nNets : s'.nCachedNets = s.nCachedNets
  /-- pages only disappear -/
  sub : ∀ q ∈ s'.pages, ∃ p ∈ s.pages, sameBody p q
  /-- unreferenced pages keep their priority class -/
  subPri : InvW s → ∀ q ∈ s'.pages, q.ref = 0 → ∃ p ∈ s.pages, sameBody p q ∧ p.pri = q.pri

theorem Shrinks.refl (s : State) : Shrinks s s :=
  ⟨rfl, fun q hq => ⟨q, hq, sameBody.refl q⟩, fun _ q hq _ => ⟨q, hq, sameBody.refl q, rfl⟩⟩

theorem Prim.shrinks {k : Kind} {s s' : State} (hk : k ∈ Kind.del) (m : Prim k s s') : Shrinks s s' := by
  cases m with
  | @zombify _ v hv hr =>
    refine ⟨rfl, fun q hq => ?_, fun h q hq hq0 => ?_⟩ <;>
      rw [updPage_pages, mem_updId] at hq <;> obtain ⟨p, hp, rfl⟩ := hq
    · exact ⟨p, hp, by split; exact sameBody.of_pri p _; exact sameBody.refl p⟩
    · split at hq0
      · -- the page made a zombie is referenced
        rename_i e2
        rw [mem_unique h.pidNodup hp hv e2] at hq0
        have : v.ref = 0 := hq0
        omega
      · rename_i e2; rw [if_neg e2]; exact ⟨p, hp, sameBody.refl p, rfl⟩
  | @free _ v hv hr =>
    have hsub : ∀ q ∈ (s.freePage v).pages, q ∈ s.pages := fun q hq => by
      rw [freePage_pages, mem_rmId] at hq; exact hq.1
    exact ⟨by rw [freePage_eq], fun q hq => ⟨q, hsub q hq, sameBody.refl q⟩, fun _ q hq _ => ⟨q, hsub q hq, sameBody.refl q, rfl⟩⟩
  | _ => simp [Kind.del] at hk

theorem Moves.shrinks {a b : State} (m : Moves Kind.del a b) : Shrinks a b := by
  induction m with
  | refl => exact Shrinks.refl _
  | step hk p _ ih =>
    have h1 := p.shrinks hk
    refine ⟨ih.nNets.trans h1.nNets, fun q hq => ?_, fun h q hq hr => ?_⟩
    · obtain ⟨p1, hp1, e⟩ := ih.sub q hq; obtain ⟨p0, hp0, e0⟩ := h1.sub p1 hp1; exact ⟨p0, hp0, e0.trans e⟩
    · obtain ⟨p1, hp1, e, ep⟩ := ih.subPri (p.invW h) q hq hr
      obtain ⟨p0, hp0, e0, ep0⟩ := h1.subPri h p1 hp1 (e.ref.trans hr)
      exact ⟨p0, hp0, e0.trans e, ep0.trans ep⟩

theorem deletePage_invW {s : State} (h : InvW s) (id : Nat) : InvW (s.deletePage id) := (deletePage_moves s id).invW h

theorem deletePage_hides {s : State} (h : InvW s) (id : Nat) : (s.deletePage id).hides id := by
  intro q hq hid
  rcases deletePage_cases s id with ⟨e, hz⟩ | ⟨p, hf, ⟨_, _, e⟩ | ⟨_, e⟩⟩ <;> rw [e] at hq
  · exact (hz q (hid ▸ findPage_of_invW h hq)).2
  · rw [updPage_pages] at hq
    obtain ⟨p0, _, rfl⟩ := mem_updId.1 hq
    split
    · rfl
    · rename_i hne
      rw [if_neg hne] at hid; exact absurd (hid.trans (findPage_some hf).2.symm) hne
  · rw [freePage_pages, (findPage_some hf).2] at hq
    exact absurd hid (mem_rmId.1 hq).2

theorem surplusPass_done {pri : Pri} {chk : Bool} {ids : List Nat} {s : State}
    (h : (surplusPass pri chk ids s).2 = true) :
    (surplusPass pri chk ids s).1.memUsed ≤ (surplusPass pri chk ids s).1.memLimit := by
  induction ids generalizing s with
  | nil => simp [surplusPass] at h
  | cons a t ih =>
    unfold surplusPass at h ⊢
    split
    · rename_i hle; exact hle
    · rename_i hle
      simp only [hle, if_false] at h
      split
      · split
        · rename_i h1 h2; simp only [h1, h2] at h; exact ih h
        · rename_i h1 h2; simp only [h1, h2, if_false] at h; exact ih h
      · rename_i h1; simp only [h1] at h; exact ih h

/-- a complete pass (no early return) without the network test leaves no unreferenced page of class `pri`
    among the pages it walked over -/
theorem surplusPass_clean (pri : Pri) (ids : List Nat) (s : State) (h : InvW s)
    (hf : (surplusPass pri false ids s).2 = false) :
    ∀ id ∈ ids, ∀ q ∈ (surplusPass pri false ids s).1.pages, q.id = id → q.ref = 0 → q.pri ≠ pri := by
  induction ids generalizing s with
  | nil => intro id hid; cases hid
  | cons a t ih =>
    intro id hid q hq e hq0
    unfold surplusPass at hf hq
    split at hf
    · cases hf
    · rename_i hle
      rw [if_neg hle] at hq
      have body : ∀ (s1 : State), InvW s1 →
          (∀ q1 ∈ s1.pages, q1.id = a → q1.ref = 0 → q1.pri ≠ pri) →
          (surplusPass pri false t s1).2 = false →
          q ∈ (surplusPass pri false t s1).1.pages → q.pri ≠ pri := by
        intro s1 i1 hclean hf1 hq1
        rcases List.mem_cons.1 hid with rfl | hid'
        · obtain ⟨p1, hp1, b1, bp⟩ := (surplusPass_moves pri false t s1).shrinks.subPri i1 q hq1 hq0
          rw [← bp]; exact hclean p1 hp1 (b1.cont.id.trans e) (b1.ref.trans hq0)
        · exact ih s1 i1 hf1 id hid' q hq1 e hq0
      split at hf
      · rename_i p hfp
        obtain ⟨hp, rfl⟩ := findPage_some hfp
        simp only [hfp] at hq
        split at hf
        · rename_i hc
          rw [if_pos hc] at hq
          refine body _ (deletePage_invW h p.id) ?_ hf hq
          intro q1 hq1 e1 h10
          exact absurd h10 (Nat.ne_of_gt ((deletePage_invW h p.id).zombieRef q1 hq1 (deletePage_hides h p.id q1 hq1 e1)))
        · rename_i hc
          rw [if_neg hc] at hq
          refine body s h ?_ hf hq
          intro q1 hq1 e1 _ hpri
          have : q1 = p := mem_unique h.pidNodup hq1 hp e1
          subst this
          exact hc ⟨hpri, by simp⟩
      · rename_i hfn
        simp only [hfn] at hq
        refine body s h ?_ hf hq
        intro q1 hq1 e1; exact absurd e1 (find_none hfn q1 hq1)

/-- a chain of passes ends within the limit, or no unreferenced page is left in the classes whose pass did not look at
    the networks -/
theorem surplusChain_clean (ps : List (Pri × Bool)) (s : State) (h : InvW s) :
    (surplusChain ps s).memUsed ≤ (surplusChain ps s).memLimit
    ∨ ∀ pri, (pri, false) ∈ ps → ∀ q ∈ (surplusChain ps s).pages, q.ref = 0 → q.pri ≠ pri := by
  induction ps generalizing s with
  | nil => exact Or.inr fun _ hm => by cases hm
  | cons p rest ih =>
    obtain ⟨pri, chk⟩ := p
    unfold surplusChain
    split
    · rename_i hd; exact Or.inl (surplusPass_done hd)
    · rename_i hd
      have m1 := surplusPass_moves pri chk s.priority s
      have h1 := m1.invW h
      refine (ih _ h1).imp_right fun hr pri' hm q hq hq0 => ?_
      rcases List.mem_cons.1 hm with e | hm
      · cases e
        -- `q` was unreferenced and of this class after the pass for the class, and before it on the list the pass walked
        obtain ⟨p1, hp1, b1, bp⟩ := (surplusChain_moves rest _).shrinks.subPri h1 q hq hq0
        obtain ⟨p0, hp0, b0⟩ := m1.shrinks.sub p1 hp1
        have hp10 : p1.ref = 0 := b1.ref.trans hq0
        rw [← bp]
        exact surplusPass_clean pri s.priority s h (by simpa using hd) p0.id
          ((h.priMem p0.id).2 ⟨p0, hp0, rfl, b0.ref.trans hp10⟩) p1 hp1 b0.cont.id.symm hp10
      · exact hr pri' hm q hq hq0

/-- `delete_surplus_pages` ends with the memory within the limit: a pass returned early, or the two passes that do not
    look at the networks have freed every unreferenced page -/
theorem deleteSurplusPages_le {s : State} (h : InvW s) :
    s.deleteSurplusPages.memUsed ≤ s.deleteSurplusPages.memLimit := by
  have h' := (deleteSurplusPages_moves s).invW h
  rw [deleteSurplusPages_eq] at h' ⊢
  rcases surplusChain_clean surplusPasses s h with c | c
  · exact c
  · have : (surplusChain surplusPasses s).pages.filter (fun p => decide (p.ref = 0)) = [] := by
      rw [List.filter_eq_nil_iff]
      intro q hq hq0
      have hq0 : q.ref = 0 := by simpa using hq0
      have n1 := c .normal (by decide) q hq hq0
      have n2 := c .special (by decide) q hq hq0
      have n3 : q.pri ≠ .zombie := fun e => by have := h'.zombieRef q hq e; omega
      cases hpri : q.pri <;> simp_all
    rw [h'.mem, this]; exact Nat.zero_le _

theorem surplusPass_within {s : State} (h : s.memUsed ≤ s.memLimit) (pri : Pri) (chk : Bool) (l : List Nat) :
    (surplusPass pri chk l s).1 = s := by
  cases l with
  | nil => rfl
  | cons a t => unfold surplusPass; rw [if_pos h]

/-- `delete_surplus_pages` with the memory within the limit: every pass returns at once -/
theorem deleteSurplusPages_within (s : State) (h : s.memUsed ≤ s.memLimit) : s.deleteSurplusPages = s := by
  rw [deleteSurplusPages_eq]
  induction surplusPasses with
  | nil => rfl
  | cons p rest ih => unfold surplusChain; rw [surplusPass_within h, ih, ite_self]

/-! ### `delete_all_pages (ca, cn)` deletes every unreferenced page of `cn` -/

/-- no page with this id is an unreferenced page of network `nid` -/
def Gone (s : State) (nid a : Nat) : Prop := ∀ q ∈ s.pages, q.id = a → ¬ (q.net = nid ∧ q.ref = 0)

theorem gone_of_sub {s s' : State} (hs : ∀ q ∈ s'.pages, ∃ p ∈ s.pages, sameBody p q) {nid a : Nat}
    (h : Gone s nid a) : Gone s' nid a := by
  intro q hq e hc
  obtain ⟨p, hp, b⟩ := hs q hq
  exact h p hp (b.cont.id.trans e) ⟨b.cont.net.trans hc.1, b.ref.trans hc.2⟩

theorem deleteAllPages_step_gone {s : State} (h : InvW s) (nid a : Nat) : Gone (deleteAllStep nid s a) nid a := by
  unfold deleteAllStep
  split
  · rename_i p hf
    obtain ⟨hp, rfl⟩ := findPage_some hf
    split
    · rename_i hnet
      intro q hq e hc
      exact Nat.ne_of_gt ((deletePage_invW h p.id).zombieRef q hq (deletePage_hides h p.id q hq e)) hc.2
    · rename_i hnet; intro q hq e; have := mem_unique h.pidNodup hq hp e; subst this; exact fun hc => hnet hc.1
  · rename_i hf; intro q hq e; exact absurd e (find_none hf q hq)

theorem deleteAllPages_fold_gone (nid : Nat) (ids : List Nat) (s : State) (h : InvW s) :
    ∀ a ∈ ids, Gone (ids.foldl (deleteAllStep nid) s) nid a := by
  induction ids generalizing s with
  | nil => intro a ha; cases ha
  | cons b t ih =>
    intro a ha
    rw [List.foldl_cons]
    rcases List.mem_cons.1 ha with rfl | ha'
    · -- the rest of the loop only removes pages
      exact gone_of_sub (Moves.foldl _ (deleteAllPages_body_moves nid) t _).shrinks.sub (deleteAllPages_step_gone h nid a)
    · exact ih _ ((deleteAllPages_body_moves nid s b).invW h) a ha'

theorem deleteAllPages_complete {s : State} (h : InvW s) (nid : Nat) :
    ∀ q ∈ (s.deleteAllPages nid).pages, q.net = nid → 0 < q.ref := by
  intro q hq hnet
  have sh := (deleteAllPages_moves s nid).shrinks
  obtain ⟨p, hp, b⟩ := sh.sub q hq
  by_cases hr : q.ref = 0
  · have hp0 : p.ref = 0 := b.ref.trans hr
    have hmem : p.id ∈ s.priority := (h.priMem p.id).2 ⟨p, hp, rfl, hp0⟩
    have := deleteAllPages_fold_gone nid s.priority s h p.id hmem
    exact absurd ⟨hnet, hr⟩ (this q hq b.cont.id.symm)
  · omega

theorem foldDelete_hides (ids : List Nat) {s : State} (h : InvW s) :
    ∀ q ∈ (ids.foldl (fun s id => s.deletePage id) s).pages, q.id ∈ ids → q.pri = .zombie := by
  induction ids generalizing s with
  | nil => intro q _ hid; cases hid
  | cons a t ih =>
    intro q hq hid
    rw [List.foldl_cons] at hq
    have h' := deletePage_invW h a
    rcases List.mem_cons.1 hid with e | e
    · exact ((foldDelete_moves t _).calm h').hides (deletePage_hides h a) q hq e
    · exact ih h' q hq e

end Zvbi.Cache
