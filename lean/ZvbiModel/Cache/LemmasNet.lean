import ZvbiModel.Cache.LemmasList
/-!
# Facts about the network list and the page statistics
-/
namespace Zvbi.Cache

abbrev NidsNodup (l : List Net) : Prop := (l.map (·.id)).Nodup

def updNid (l : List Net) (x : Nat) (f : Net → Net) : List Net := l.map (fun n => if n.id = x then f n else n)

theorem updNet_nets (s : State) (x : Nat) (f : Net → Net) : (s.updNet x f).nets = updNid s.nets x f := rfl

theorem nidsNodup_cons {a : Net} {t : List Net} :
    NidsNodup (a :: t) ↔ (∀ q ∈ t, q.id ≠ a.id) ∧ NidsNodup t := by
  simp only [NidsNodup, List.map_cons, List.nodup_cons, List.mem_map, not_exists, not_and]

theorem net_unique {l : List Net} (h : NidsNodup l) {p q : Net} (hp : p ∈ l) (hq : q ∈ l)
    (e : p.id = q.id) : p = q := by
  induction l with
  | nil => cases hp
  | cons a t ih =>
    rw [nidsNodup_cons] at h
    rcases List.mem_cons.1 hp with rfl | hp' <;> rcases List.mem_cons.1 hq with rfl | hq'
    · rfl
    · exact absurd e.symm (h.1 q hq')
    · exact absurd e (h.1 p hp')
    · exact ih h.2 hp' hq'

theorem findNet_of_mem {l : List Net} (h : NidsNodup l) {p : Net} (hp : p ∈ l) :
    l.find? (fun q => q.id = p.id) = some p := by
  induction l with
  | nil => cases hp
  | cons a t ih =>
    rw [nidsNodup_cons] at h
    rcases List.mem_cons.1 hp with rfl | hp'
    · simp
    · have : a.id ≠ p.id := fun e => h.1 p hp' e.symm
      simp [this, ih h.2 hp']

theorem findNet_none {l : List Net} {x : Nat} (h : l.find? (fun q => q.id = x) = none) :
    ∀ q ∈ l, q.id ≠ x := by
  intro q hq; have := List.find?_eq_none.1 h q hq; simpa using this

theorem mem_updNid {l : List Net} {x : Nat} {f : Net → Net} {q : Net} :
    q ∈ updNid l x f ↔ ∃ p ∈ l, q = if p.id = x then f p else p := by
  simp [updNid, eq_comm]

theorem map_updNid {β : Type _} {l : List Net} {x : Nat} {f : Net → Net} (k : Net → β) (hf : ∀ p, k (f p) = k p) :
    (updNid l x f).map k = l.map k := by
  unfold updNid; rw [List.map_map]; apply List.map_congr_left; intro p _
  by_cases h : p.id = x <;> simp [h, hf]

theorem updNid_congr {l : List Net} {x : Nat} {f g : Net → Net} (h : ∀ m ∈ l, m.id = x → f m = g m) :
    updNid l x f = updNid l x g := by
  unfold updNid; apply List.map_congr_left; intro m hm
  by_cases e : m.id = x
  · simp [e, h m hm e]
  · simp [e]

theorem updNid_self (l : List Net) (x : Nat) : updNid l x (fun n => n) = l := by
  unfold updNid; conv => rhs; rw [← List.map_id l]
  apply List.map_congr_left; intro n _; split <;> rfl

theorem updNid_id_of_eq {l : List Net} {x : Nat} {f : Net → Net} (h : ∀ m ∈ l, m.id = x → f m = m) : updNid l x f = l :=
  (updNid_congr h).trans (updNid_self l x)

theorem updNid_updNid (l : List Net) (x : Nat) (f g : Net → Net) (hf : ∀ n, (f n).id = n.id) :
    updNid (updNid l x f) x g = updNid l x (fun n => g (f n)) := by
  unfold updNid; rw [List.map_map]; apply List.map_congr_left; intro n _
  by_cases h : n.id = x <;> simp [h, hf]

theorem countP_updNid {l : List Net} {x : Nat} {f : Net → Net} (P : Net → Bool) (hf : ∀ p, P (f p) = P p) :
    (updNid l x f).countP P = l.countP P := by
  unfold updNid; rw [List.countP_map]; congr 1; funext p
  by_cases h : p.id = x <;> simp [h, hf]

theorem countP_updNid_one {l : List Net} (h : NidsNodup l) {n : Net} (hn : n ∈ l) (f : Net → Net) (P : Net → Bool) :
    (updNid l n.id f).countP P + (if P n then 1 else 0) = l.countP P + (if P (f n) then 1 else 0) := by
  induction l with
  | nil => cases hn
  | cons a t ih =>
    rw [nidsNodup_cons] at h
    rcases List.mem_cons.1 hn with rfl | hn'
    · have : updNid (n :: t) n.id f = f n :: t := by
        have h2 : updNid t n.id f = t := updNid_id_of_eq fun p hp e => absurd e (h.1 p hp)
        simp only [updNid, List.map_cons, if_true] at h2 ⊢; rw [h2]
      rw [this, List.countP_cons, List.countP_cons]; omega
    · have hne : a.id ≠ n.id := fun e => h.1 n hn' e.symm
      have : updNid (a :: t) n.id f = a :: updNid t n.id f := by simp [updNid, hne]
      rw [this, List.countP_cons, List.countP_cons]; have := ih h.2 hn'; omega

theorem countP_filter_nid {l : List Net} (h : NidsNodup l) {n : Net} (hn : n ∈ l) (P : Net → Bool) :
    (l.filter (fun m => m.id ≠ n.id)).countP P + (if P n then 1 else 0) = l.countP P := by
  induction l with
  | nil => cases hn
  | cons a t ih =>
    rw [nidsNodup_cons] at h
    rcases List.mem_cons.1 hn with rfl | hn'
    · have : t.filter (fun m => decide (m.id ≠ n.id)) = t := by
        apply List.filter_eq_self.2; intro q hq; simpa using h.1 q hq
      rw [List.filter_cons]; simp only [ne_eq, not_true_eq_false, decide_false]
      simp only [ne_eq] at this; rw [this, List.countP_cons]; simp
    · have hne : a.id ≠ n.id := fun e => h.1 n hn' e.symm
      have := ih h.2 hn'
      rw [List.filter_cons]; simp only [hne, ne_eq, not_false_eq_true, decide_true, if_true, List.countP_cons]
      simp only [ne_eq] at this
      omega

theorem map_id_filter_nid (l : List Net) (x : Nat) :
    (l.filter (fun m => m.id ≠ x)).map (·.id) = (l.map (·.id)).filter (· ≠ x) := by
  rw [List.filter_map]; rfl

theorem lookup_filter_ne (l : List (Nat × PStat)) {pg pg' : Nat} (h : pg' ≠ pg) :
    (l.filter (fun e => e.1 ≠ pg)).lookup pg' = l.lookup pg' := by
  induction l with
  | nil => rfl
  | cons e t ih =>
    obtain ⟨k, v⟩ := e
    rw [List.filter_cons]
    by_cases he : k = pg
    · subst he
      have h1 : (pg' == k) = false := by simpa using h
      simp only [ne_eq, not_true_eq_false, decide_false, Bool.false_eq_true, if_false, List.lookup_cons, h1]
      exact ih
    · simp only [ne_eq, he, not_false_eq_true, decide_true, if_true, List.lookup_cons]
      rw [ih]

theorem getStat_setStat (n : Net) (pg pg' : Nat) (ps : PStat) :
    (n.setStat pg ps).getStat pg' = if pg' = pg then ps else n.getStat pg' := by
  unfold Net.setStat Net.getStat
  by_cases h : pg' = pg
  · subst h; simp
  · have h' : (pg' == pg) = false := by simpa using h
    simp only [List.lookup_cons, h', if_neg h]
    rw [lookup_filter_ne _ h]

@[simp] theorem setStat_id (n : Net) (pg : Nat) (ps : PStat) : (n.setStat pg ps).id = n.id := rfl
@[simp] theorem setStat_ref (n : Net) (pg : Nat) (ps : PStat) : (n.setStat pg ps).ref = n.ref := rfl
@[simp] theorem setStat_zombie (n : Net) (pg : Nat) (ps : PStat) : (n.setStat pg ps).zombie = n.zombie := rfl
@[simp] theorem setStat_nCached (n : Net) (pg : Nat) (ps : PStat) : (n.setStat pg ps).nCached = n.nCached := rfl
@[simp] theorem setStat_nRef (n : Net) (pg : Nat) (ps : PStat) : (n.setStat pg ps).nRef = n.nRef := rfl
@[simp] theorem setStat_maxCached (n : Net) (pg : Nat) (ps : PStat) : (n.setStat pg ps).maxCached = n.maxCached := rfl

end Zvbi.Cache
