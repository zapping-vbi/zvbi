import ZvbiModel.Cache.Spec
/-!
# The abstract store by itself

`extract` and the operations built on it (`alookup`, `atouch`, `aput`, `aputR`); `aputF`: the store of either source shape;
the operations of network `nid` commute with the restriction of the store to that network (what the decoder sees).
-/
namespace Zvbi.Cache

theorem extract_none_all {q : Entry → Bool} {a : AStore} (h : extract q a = none) : ∀ e ∈ a, q e = false := by
  induction a with
  | nil => intro e he; cases he
  | cons b t ih =>
    unfold extract at h
    by_cases hb : q b = true
    · simp [hb] at h
    · have hb' : q b = false := by simpa using hb
      simp only [hb', Bool.false_eq_true, if_false, Option.map_eq_none_iff] at h
      intro e he
      rcases List.mem_cons.1 he with rfl | he
      · exact hb'
      · exact ih h e he

theorem extract_some_sat {q : Entry → Bool} {a : AStore} {e : Entry} {t : AStore} (hx : extract q a = some (e, t)) :
    q e = true := by
  induction a generalizing e t with
  | nil => simp [extract] at hx
  | cons b u ih =>
    unfold extract at hx
    by_cases hb : q b = true
    · simp only [hb, if_true, Option.some.injEq, Prod.mk.injEq] at hx; rw [← hx.1]; exact hb
    · have hb' : q b = false := by simpa using hb
      simp only [hb', Bool.false_eq_true, if_false] at hx
      cases hu : extract q u with
      | none => rw [hu] at hx; cases hx
      | some r2 =>
        rw [hu] at hx; simp only [Option.map_some, Option.some.injEq, Prod.mk.injEq] at hx
        obtain ⟨e2, t2⟩ := r2
        exact hx.1 ▸ ih hu

/-- the abstract store operation of source shape `fix` (`aput` as found, `aputR` repaired) -/
def aputF (fix : Bool) (a : AStore) (e : Entry) (mask : Nat) : AStore :=
  if fix then aputR a e mask else aput a e mask

theorem aputF_true (a : AStore) (e : Entry) (mask : Nat) : aputF true a e mask = aputR a e mask := rfl
theorem aputF_false (a : AStore) (e : Entry) (mask : Nat) : aputF false a e mask = aput a e mask := rfl

theorem aputF_eq_aput {fix : Bool} {mask : Nat} (h : ¬ (fix = true ∧ mask = 0)) (x : AStore) (e : Entry) :
    aputF fix x e mask = aput x e mask := by
  cases fix
  · rfl
  · exact if_neg fun hm => h ⟨rfl, hm⟩

theorem aputF_none (fix : Bool) (x : AStore) (e : Entry) (mask : Nat)
    (h : extract (fun o : Entry => o.matches e.net e.pgno (e.subno &&& mask) mask) x = none) : aputF fix x e mask = e :: x := by
  by_cases hc : fix = true ∧ mask = 0
  · obtain ⟨rfl, rfl⟩ := hc
    rw [aputF_true]
    unfold aputR
    rw [if_pos rfl]
    congr 1
    apply List.filter_eq_self.2
    intro o ho
    have := extract_none_all h o ho
    unfold Entry.matches at this
    simp only [Nat.and_zero, decide_true, Bool.true_and, Bool.decide_and, Bool.and_eq_false_imp,
      decide_eq_true_eq, decide_eq_false_iff_not] at this
    simp only [Bool.not_eq_eq_eq_not, Bool.not_true, decide_eq_false_iff_not, not_and]
    exact this
  · rw [aputF_eq_aput hc]
    unfold aput
    rw [h]

/-! ### several networks: the operations of one network on the entries of that network -/

theorem extract_filter (q f : Entry → Bool) (hq : ∀ e, q e = true → f e = true) (a : AStore) :
    extract q (a.filter f) = (extract q a).map (fun r => (r.1, r.2.filter f)) := by
  induction a with
  | nil => rfl
  | cons e t ih =>
    by_cases hf : f e = true
    · rw [List.filter_cons_of_pos hf]
      unfold extract
      by_cases hqe : q e = true
      · simp [hqe]
      · have hqe' : q e = false := by simpa using hqe
        simp only [hqe', Bool.false_eq_true, if_false]
        rw [ih]
        cases extract q t with
        | none => rfl
        | some r => simp [List.filter_cons_of_pos hf]
    · have hf' : f e = false := by simpa using hf
      have hqe : q e = false := by
        cases hh : q e with
        | false => rfl
        | true => rw [hq e hh] at hf'; cases hf'
      rw [List.filter_cons_of_neg (by simpa using hf')]
      conv => rhs; unfold extract
      simp only [hqe, Bool.false_eq_true, if_false]
      rw [ih]
      cases extract q t with
      | none => rfl
      | some r => simp [List.filter_cons_of_neg (show ¬ f e = true by simpa using hf')]

theorem matches_net {e : Entry} {nid pgno subno mask : Nat} (h : e.matches nid pgno subno mask = true) :
    decide (e.net = nid) = true := by
  unfold Entry.matches at h; simp at h; simp [h.2.2]

theorem alookup_filter (a : AStore) (nid pgno subno mask : Nat) :
    alookup (a.filter (fun e => decide (e.net = nid))) nid pgno subno mask = alookup a nid pgno subno mask := by
  unfold alookup
  rw [extract_filter _ _ (fun e h => matches_net h)]
  cases extract (fun e => e.matches nid pgno subno mask) a <;> rfl

theorem atouch_filter (a : AStore) (nid pgno subno mask : Nat) :
    (atouch a nid pgno subno mask).filter (fun e => decide (e.net = nid))
      = atouch (a.filter (fun e => decide (e.net = nid))) nid pgno subno mask := by
  unfold atouch
  rw [extract_filter _ _ (fun e h => matches_net h)]
  cases hx : extract (fun e => e.matches nid pgno subno mask) a with
  | none => rfl
  | some r =>
    obtain ⟨e, t⟩ := r
    have he : e.matches nid pgno subno mask = true := extract_some_sat hx
    show List.filter _ (e :: t) = e :: List.filter _ t
    have hn : e.net = nid := by simpa using matches_net he
    simp [hn]

theorem aput_filter (a : AStore) (e : Entry) (mask : Nat) :
    (aput a e mask).filter (fun x => decide (x.net = e.net)) = aput (a.filter (fun x => decide (x.net = e.net))) e mask := by
  unfold aput
  rw [extract_filter _ _ (fun x h => matches_net h)]
  cases extract (fun o => o.matches e.net e.pgno (e.subno &&& mask) mask) a with
  | none => simp
  | some r => simp

theorem aputR_filter (a : AStore) (e : Entry) (mask : Nat) :
    (aputR a e mask).filter (fun x => decide (x.net = e.net)) = aputR (a.filter (fun x => decide (x.net = e.net))) e mask := by
  unfold aputR
  by_cases hk : mask = 0
  · simp only [hk, if_true]
    rw [List.filter_cons_of_pos (by simp), List.filter_filter, List.filter_filter]
    congr 1
    apply List.filter_congr
    intro x _
    exact Bool.and_comm _ _
  · simp only [hk, if_false]; exact aput_filter a e mask

theorem aputF_filter (fix : Bool) (a : AStore) (e : Entry) (mask : Nat) :
    (aputF fix a e mask).filter (fun x => decide (x.net = e.net))
      = aputF fix (a.filter (fun x => decide (x.net = e.net))) e mask := by
  cases fix
  · exact aput_filter a e mask
  · exact aputR_filter a e mask

/-- what a look-up found is what a wildcard look-up (mask 0) of the same page number finds next -/
theorem alookup_atouch_any {a : AStore} {nid pgno subno mask : Nat} {e : Entry}
    (h : alookup a nid pgno subno mask = some e) (sub' : Nat) :
    alookup (atouch a nid pgno subno mask) nid pgno sub' 0 = some e := by
  unfold alookup at h
  unfold atouch
  cases hx : extract (fun e => e.matches nid pgno subno mask) a with
  | none => rw [hx] at h; simp at h
  | some er =>
    obtain ⟨e', r⟩ := er
    rw [hx] at h
    have he : e' = e := by simpa using h
    subst he
    have hs := extract_some_sat hx
    have hm : e'.matches nid pgno sub' 0 = true := by
      simp only [Entry.matches, decide_eq_true_eq] at hs ⊢
      exact ⟨hs.1, by simp, hs.2.2⟩
    simp [alookup, extract, hm]

end Zvbi.Cache
