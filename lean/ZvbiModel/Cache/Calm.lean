import ZvbiModel.Cache.Moves
/-!
# `Calm`: what every primitive change leaves alone

* pages only disappear or turn into zombies: every page of the new state is a page of the old one with the same
  identity, network, page and sub-page number, and a page that is on the hash chains afterwards was on them before
  (`sameKey`);
* the members of the page statistics that only the insertion of a page writes (`marks`: `max_subpages`, `subno_min`,
  `subno_max`) are untouched in every network that still owns a page.

`Calm` is reflexive and transitive and holds across every `Prim` (`Prim.calm`), hence across every function of the model
but the insertion of a new page.
-/
namespace Zvbi.Cache

/-- same page; `q` (new) on the hash chains only if `p` (old) was -/
structure sameKey (p q : Page) : Prop where
  id : p.id = q.id
  net : p.net = q.net
  pgno : p.pgno = q.pgno
  subno : p.subno = q.subno
  live : q.pri ≠ .zombie → p.pri ≠ .zombie

theorem sameKey.refl (p : Page) : sameKey p p := ⟨rfl, rfl, rfl, rfl, fun hh => hh⟩
theorem sameKey.trans {a b c : Page} (h1 : sameKey a b) (h2 : sameKey b c) : sameKey a c :=
  ⟨h1.id.trans h2.id, h1.net.trans h2.net, h1.pgno.trans h2.pgno, h1.subno.trans h2.subno, fun h => h1.live (h2.live h)⟩

structure Calm (s s' : State) : Prop where
  pages : ∀ q ∈ s'.pages, ∃ p ∈ s.pages, sameKey p q
  nets : ∀ n' ∈ s'.nets, (∃ n ∈ s.nets, n.id = n'.id ∧ ∀ pg, marks n' pg = marks n pg) ∨ (∀ q ∈ s'.pages, q.net ≠ n'.id)

theorem Calm.refl (s : State) : Calm s s :=
  ⟨fun q hq => ⟨q, hq, sameKey.refl q⟩, fun n hn => Or.inl ⟨n, hn, rfl, fun _ => rfl⟩⟩

theorem Calm.trans {a b c : State} (h1 : Calm a b) (h2 : Calm b c) : Calm a c := by
  refine ⟨fun q hq => ?_, fun n'' hn'' => ?_⟩
  · obtain ⟨p, hp, e⟩ := h2.pages q hq
    obtain ⟨p0, hp0, e0⟩ := h1.pages p hp
    exact ⟨p0, hp0, e0.trans e⟩
  · rcases h2.nets n'' hn'' with ⟨n', hn', e, r⟩ | hno
    · rcases h1.nets n' hn' with ⟨n, hn, e0, r0⟩ | hno
      · exact Or.inl ⟨n, hn, e0.trans e, fun pg => (r pg).trans (r0 pg)⟩
      · right
        intro q hq hq'
        obtain ⟨p, hp, k⟩ := h2.pages q hq
        exact hno p hp (by rw [k.net, hq', e])
    · exact Or.inr hno

theorem Calm.of_lists {s s' : State} (hp : ∀ q ∈ s'.pages, ∃ p ∈ s.pages, sameKey p q)
    (hn : ∀ n' ∈ s'.nets, ∃ n ∈ s.nets, n.id = n'.id ∧ ∀ pg, marks n' pg = marks n pg) : Calm s s' :=
  ⟨hp, fun n' hn' => Or.inl (hn n' hn')⟩

theorem Calm.of_eq {s s' : State} (hp : s'.pages = s.pages) (hn : s'.nets = s.nets) : Calm s s' :=
  Calm.of_lists (fun q hq => ⟨q, hp ▸ hq, sameKey.refl q⟩) (fun n hn' => ⟨n, hn ▸ hn', rfl, fun _ => rfl⟩)

theorem sub_updId {l : List Page} {x : Nat} {f : Page → Page} (hf : ∀ p, sameKey p (f p)) :
    ∀ q ∈ updId l x f, ∃ p ∈ l, sameKey p q := by
  intro q hq
  obtain ⟨p, hp, rfl⟩ := mem_updId.1 hq
  refine ⟨p, hp, ?_⟩
  split
  · exact hf p
  · exact sameKey.refl p

theorem sub_rmId {l : List Page} {x : Nat} : ∀ q ∈ rmId l x, ∃ p ∈ l, sameKey p q :=
  fun q hq => ⟨q, (mem_rmId.1 hq).1, sameKey.refl q⟩

theorem sub_self {l : List Page} : ∀ q ∈ l, ∃ p ∈ l, sameKey p q := fun q hq => ⟨q, hq, sameKey.refl q⟩

theorem marks_updNid {l : List Net} {x : Nat} {f : Net → Net} (hf : ∀ n, (f n).id = n.id ∧ ∀ pg, marks (f n) pg = marks n pg) :
    ∀ n' ∈ updNid l x f, ∃ n ∈ l, n.id = n'.id ∧ ∀ pg, marks n' pg = marks n pg := by
  intro n' hn'
  obtain ⟨n, hn, rfl⟩ := mem_updNid.1 hn'
  refine ⟨n, hn, ?_⟩
  split
  · exact ⟨(hf n).1.symm, (hf n).2⟩
  · exact ⟨rfl, fun _ => rfl⟩

theorem marks_self {l : List Net} : ∀ n' ∈ l, ∃ n ∈ l, n.id = n'.id ∧ ∀ pg, marks n' pg = marks n pg :=
  fun n hn => ⟨n, hn, rfl, fun _ => rfl⟩

theorem marks_rmPageNet (pg : Nat) (n : Net) : (rmPageNet pg n).id = n.id ∧ ∀ pg', marks (rmPageNet pg n) pg' = marks n pg' := by
  refine ⟨rfl, fun pg' => ?_⟩
  unfold marks rng rmPageNet
  simp only
  rw [getStat_setStat]
  split
  · rename_i e; subst e; rfl
  · rfl

/-- `rmZombieNet` is `rmPageNet` but for `n_referenced_pages`, which `marks` does not read -/
theorem marks_rmZombieNet (pg : Nat) (n : Net) :
    (rmZombieNet pg n).id = n.id ∧ ∀ pg', marks (rmZombieNet pg n) pg' = marks n pg' := marks_rmPageNet pg n

theorem rng_rmZombieNet (pg : Nat) (n : Net) : (rmZombieNet pg n).id = n.id ∧ ∀ pg', rng (rmZombieNet pg n) pg' = rng n pg' :=
  ⟨rfl, fun pg' => congrArg (·.2) ((marks_rmZombieNet pg n).2 pg')⟩

theorem Prim.calm {k : Kind} {s s' : State} (h : InvW s) (m : Prim k s s') : Calm s s' := by
  have upd : ∀ (x : Nat) (f : Page → Page), (∀ p, sameKey p (f p)) → Calm s (s.updPage x f) := fun x f hf =>
    Calm.of_lists (by rw [updPage_pages]; exact sub_updId hf) marks_self
  cases m with
  | free hp hr =>
    exact Calm.of_lists (by rw [freePage_pages]; exact sub_rmId) (by rw [freePage_nets]; exact marks_updNid (marks_rmPageNet _))
  | zombify hp hr => exact upd _ _ (fun p => ⟨rfl, rfl, rfl, rfl, fun h => absurd rfl h⟩)
  | @front _ p hp =>
    exact Calm.of_lists (fun q hq => ⟨q, (mem_moveFront h.pidNodup hp).1 hq, sameKey.refl q⟩) marks_self
  | net x f c' hid hk hc hm =>
    refine ⟨sub_self, fun n' hn' => ?_⟩
    obtain ⟨m, hm', rfl⟩ := mem_updNid.1 (show n' ∈ updNid s.nets x f from hn')
    by_cases e : m.id = x
    · rw [if_pos e]
      rcases hm with hm | hm
      · exact Or.inl ⟨m, hm', (hid m).symm, hm m⟩
      · exact Or.inr (fun q hq hq' => hm q hq (by rw [hq', hid, e]))
    · rw [if_neg e]; exact Or.inl ⟨m, hm', rfl, fun _ => rfl⟩
  | netLoose x => exact Calm.of_lists sub_self (by rw [updNet_nets]; exact marks_updNid (fun _ => ⟨rfl, fun _ => rfl⟩))
  | netGone hn hnone =>
    exact Calm.of_lists sub_self (fun n' hn' => ⟨n', (List.mem_filter.1 hn').1, rfl, fun _ => rfl⟩)
  | netNew n k c hk hid hnew hnone hc hr hs hcnt _ =>
    refine ⟨sub_self, fun n' hn' => ?_⟩
    rcases List.mem_cons.1 hn' with rfl | ht
    · exact Or.inr hnone
    · exact Or.inl ⟨n', ht, rfl, fun _ => rfl⟩
  | more hp hr => exact upd _ _ (fun p => ⟨rfl, rfl, rfl, rfl, fun hh => hh⟩)
  | less hp hr => exact upd _ _ (fun p => ⟨rfl, rfl, rfl, rfl, fun hh => hh⟩)
  | @first _ p hp hr =>
    refine Calm.of_lists ?_ ?_
    · exact sub_updId (l := s.pages) (fun p => ⟨rfl, rfl, rfl, rfl, fun hh => hh⟩)
    · exact marks_updNid (l := s.nets) (fun _ => ⟨rfl, fun _ => rfl⟩)
  | @last _ p hp hr hz =>
    refine Calm.of_lists ?_ ?_
    · exact sub_updId (l := s.pages) (fun p => ⟨rfl, rfl, rfl, rfl, fun hh => hh⟩)
    · exact marks_updNid (l := s.nets) (fun _ => ⟨rfl, fun _ => rfl⟩)
  | @lastZ _ p hp hr hz =>
    rw [unrefZombie_eq h hp hz]
    exact Calm.of_lists sub_rmId (marks_updNid (marks_rmZombieNet _))

theorem Moves.calm {K : List Kind} {a b : State} (m : Moves K a b) (h : InvW a) : Calm a b :=
  m.rel Calm.refl Calm.trans (fun _ h p => p.calm h) h

/-- no retrievable page has this id: the page is gone or a zombie -/
def State.hides (s : State) (id : Nat) : Prop := ∀ q ∈ s.pages, q.id = id → q.pri = .zombie

theorem Calm.hides {s s' : State} (c : Calm s s') {id : Nat} (hg : s.hides id) : s'.hides id := by
  intro q hq hid
  obtain ⟨p, hp, k⟩ := c.pages q hq
  have hz := hg p hp (k.id.trans hid)
  exact Classical.not_not.1 (fun hne => k.live hne hz)

end Zvbi.Cache
