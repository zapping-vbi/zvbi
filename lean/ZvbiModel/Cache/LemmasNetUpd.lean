import ZvbiModel.Cache.LemmasRef
/-!
# One network record updated, unlinked or linked: what keeps `InvW`

Also the look-ups by id on a state with the invariant: `findNet_some`, `findNet_of_invW`, `findPage_of_invW`.
-/
namespace Zvbi.Cache

/-- a change of one network record that does not touch the page counters -/
theorem updNet_invW {s : State} (h : InvW s) (x : Nat) (f : Net → Net) (c' : Nat)
    (hid : ∀ n, (f n).id = n.id)
    (hc : ∀ n ∈ s.nets, n.id = x → (f n).nCached = n.nCached)
    (hr : ∀ n ∈ s.nets, n.id = x → (f n).nRef = n.nRef)
    (hs : ∀ n ∈ s.nets, n.id = x → ∀ pg, ((f n).getStat pg).nSub = (n.getStat pg).nSub)
    (hn : c' = (updNid s.nets x f).countP (fun n => !n.zombie)) :
    InvW { s.updNet x f with nCachedNets := c' } := by
  have aux : ∀ n', n' ∈ updNid s.nets x f ↔ ∃ n ∈ s.nets, n' = if n.id = x then f n else n := fun n' => mem_updNid
  refine ⟨h.pidNodup, h.pidLt, h.priNodup, h.refNodup, h.priMem, h.refMem, h.zombieRef, ?_, ?_, ?_, ?_, ?_, ?_,
    h.nPages, h.mem, hn⟩
  · show ((updNid s.nets x f).map (·.id)).Nodup; rw [map_updNid (·.id) hid]; exact h.nidNodup
  · intro n' hn'; obtain ⟨n, hn, rfl⟩ := (aux n').1 hn'
    have := h.nidLt n hn; show _ < s.nextNid; split <;> simpa [hid] using this
  · intro p hp; obtain ⟨n, hn, e⟩ := h.netOf p hp
    refine ⟨_, (aux _).2 ⟨n, hn, rfl⟩, ?_⟩; split <;> simpa [hid] using e
  · intro n' hn'; obtain ⟨n, hn, rfl⟩ := (aux n').1 hn'
    have := h.nCached n hn
    split
    · rename_i e; rw [hid, hc n hn e]; exact this
    · exact this
  · intro n' hn'; obtain ⟨n, hn, rfl⟩ := (aux n').1 hn'
    have := h.nRef n hn
    split
    · rename_i e; rw [hid, hr n hn e]; exact this
    · exact this
  · intro n' hn' pg; obtain ⟨n, hn, rfl⟩ := (aux n').1 hn'
    have := h.nSub n hn pg
    split
    · rename_i e; rw [hid, hs n hn e]; exact this
    · exact this

/-- the same when `n_cached_networks` stays -/
theorem updNet_invW_sameFlag {s : State} (h : InvW s) (x : Nat) (f : Net → Net)
    (hid : ∀ n, (f n).id = n.id)
    (hc : ∀ n ∈ s.nets, n.id = x → (f n).nCached = n.nCached)
    (hr : ∀ n ∈ s.nets, n.id = x → (f n).nRef = n.nRef)
    (hs : ∀ n ∈ s.nets, n.id = x → ∀ pg, ((f n).getStat pg).nSub = (n.getStat pg).nSub)
    (hz : ∀ n, (f n).zombie = n.zombie) : InvW (s.updNet x f) :=
  updNet_invW h x f s.nCachedNets hid hc hr hs
    (by rw [countP_updNid (fun n => !n.zombie) (fun n => by simp [hz])]; exact h.nNets)

theorem findNet_some {s : State} {x : Nat} {n : Net} (h : s.findNet x = some n) : n ∈ s.nets ∧ n.id = x :=
  ⟨List.mem_of_find?_eq_some h, by simpa using List.find?_some h⟩

theorem findNet_of_invW {s : State} (h : InvW s) {n : Net} (hn : n ∈ s.nets) : s.findNet n.id = some n :=
  findNet_of_mem h.nidNodup hn

theorem findPage_of_invW {s : State} (h : InvW s) {p : Page} (hp : p ∈ s.pages) : s.findPage p.id = some p :=
  find_of_mem h.pidNodup hp

theorem removeNet_invW {s1 : State} (h1 : InvW s1) {n1 : Net} (hn1 : n1 ∈ s1.nets)
    (hnone : ∀ q ∈ s1.pages, q.net ≠ n1.id) :
    InvW { s1 with nCachedNets := s1.nCachedNets - (if n1.zombie then 0 else 1),
                   nets := s1.nets.filter (fun m => decide (m.id ≠ n1.id)) } := by
  have key := countP_filter_nid h1.nidNodup hn1 (fun n => !n.zombie)
  have hmem : ∀ m, m ∈ s1.nets.filter (fun m => decide (m.id ≠ n1.id)) ↔ m ∈ s1.nets ∧ m.id ≠ n1.id := by
    intro m; simp
  have hcnt := h1.nNets
  refine ⟨h1.pidNodup, h1.pidLt, h1.priNodup, h1.refNodup, h1.priMem, h1.refMem, h1.zombieRef, ?_, ?_, ?_, ?_, ?_, ?_,
    h1.nPages, h1.mem, ?_⟩
  · show ((s1.nets.filter _).map (·.id)).Nodup
    rw [map_id_filter_nid]; exact h1.nidNodup.filter _
  · intro m hm; exact h1.nidLt m ((hmem m).1 hm).1
  · intro q hq; obtain ⟨m, hm, e⟩ := h1.netOf q hq
    exact ⟨m, (hmem m).2 ⟨hm, fun x => hnone q hq (e.symm.trans x)⟩, e⟩
  · intro m hm; exact h1.nCached m ((hmem m).1 hm).1
  · intro m hm; exact h1.nRef m ((hmem m).1 hm).1
  · intro m hm; exact h1.nSub m ((hmem m).1 hm).1
  · show s1.nCachedNets - _ = (s1.nets.filter _).countP _
    by_cases hz : n1.zombie = true
    · simp only [hz, Bool.not_true, Bool.false_eq_true, if_false, if_true] at key ⊢; omega
    · have hz' : n1.zombie = false := by simpa using hz
      simp only [hz', Bool.not_false, if_true, Bool.false_eq_true, if_false] at key ⊢; omega

theorem consNet_invW {s0 : State} (h0 : InvW s0) (n' : Net) (k : Nat)
    (hk : s0.nextNid ≤ k) (hid : n'.id < k) (hnew : ∀ m ∈ s0.nets, m.id ≠ n'.id)
    (hnone : ∀ q ∈ s0.pages, q.net ≠ n'.id) (hc : n'.nCached = 0) (hr : n'.nRef = 0)
    (hs : ∀ pg, (n'.getStat pg).nSub = 0) (c : Nat) (hcnt : c = s0.nCachedNets + (if n'.zombie then 0 else 1)) :
    InvW { s0 with nextNid := k, nCachedNets := c, nets := n' :: s0.nets } := by
  subst hcnt
  have zero : ∀ (P : Page → Bool), (∀ q ∈ s0.pages, P q = true → q.net = n'.id) → s0.pages.countP P = 0 := by
    intro P hP; rw [List.countP_eq_zero]; intro q hq hpq; exact hnone q hq (hP q hq hpq)
  refine ⟨h0.pidNodup, h0.pidLt, h0.priNodup, h0.refNodup, h0.priMem, h0.refMem, h0.zombieRef, ?_, ?_, ?_, ?_, ?_, ?_,
    h0.nPages, h0.mem, ?_⟩
  · show ((n' :: s0.nets).map (·.id)).Nodup
    rw [List.map_cons, List.nodup_cons]
    refine ⟨?_, h0.nidNodup⟩
    intro hm; obtain ⟨m, hm, e⟩ := List.mem_map.1 hm; exact hnew m hm e
  · intro m hm
    show m.id < k
    rcases List.mem_cons.1 hm with rfl | hm
    · exact hid
    · have := h0.nidLt m hm; omega
  · intro q hq; obtain ⟨m, hm, e⟩ := h0.netOf q hq; exact ⟨m, List.mem_cons_of_mem _ hm, e⟩
  · intro m hm
    rcases List.mem_cons.1 hm with rfl | hm
    · rw [hc]; exact (zero _ (fun q _ hq => by simpa using hq)).symm
    · exact h0.nCached m hm
  · intro m hm
    rcases List.mem_cons.1 hm with rfl | hm
    · rw [hr]; exact (zero _ (fun q _ hq => by simp at hq; exact hq.1)).symm
    · exact h0.nRef m hm
  · intro m hm pg
    rcases List.mem_cons.1 hm with rfl | hm
    · rw [hs, zero _ (fun q _ hq => by simp at hq; exact hq.1)]
    · exact h0.nSub m hm pg
  · show s0.nCachedNets + _ = (n' :: s0.nets).countP _
    rw [List.countP_cons, h0.nNets]
    by_cases hz : n'.zombie = true
    · simp [hz]
    · have hz' : n'.zombie = false := by simpa using hz
      simp [hz']

theorem consNet_znet {s0 : State} {P : Nat → Prop} (hz : ZNetOn s0 P) (n' : Net) (k c : Nat) (hn : ZOk n') :
    ZNetOn { s0 with nextNid := k, nCachedNets := c, nets := n' :: s0.nets } P := by
  intro m hm hp
  rcases List.mem_cons.1 hm with rfl | hm
  · exact hn
  · exact hz m hm hp

theorem getStat_default (x : Nat) (pg : Nat) : (({ id := x } : Net).getStat pg).nSub = 0 := rfl

end Zvbi.Cache
