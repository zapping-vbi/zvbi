import ZvbiModel.Cache.LemmasInsert
/-!
# _vbi_cache_put_page

The death row (`collectAll`), the replacement (`putReplace_eq`: deletions, then `State.store`), the loop of the repaired shape
(`dropOthers`), the part after the choice of the key by what the look-up finds (`putTailF_cases`), and the store as a
sequence of moves followed by `State.store`: `putRest_moves`, `putTailF_moves`, `putPageF_moves` (both source shapes).
-/
namespace Zvbi.Cache

/-- a pass only appends ids of the list it walks to the death row: what holds of the row at entry and survives
    such an addition holds of the row at the end -/
theorem collectPass_induct {s : State} {pri : Pri} {chk : Bool} {oldId : Option Nat} {needed : Int} (P : List Nat → Prop) :
    ∀ (ids : List Nat), (∀ id ∈ ids, ∀ row, P row → P (row ++ [id])) →
      ∀ (avail : Int) (row : List Nat) {d : Bool} {avail' : Int} {row' : List Nat},
      collectPass s pri chk oldId needed ids avail row = .ok (d, avail', row') → P row → P row' := by
  intro ids
  induction ids with
  | nil =>
    intro _ avail row d avail' row' h hp
    simp only [collectPass, Except.ok.injEq, Prod.mk.injEq] at h
    obtain ⟨_, _, rfl⟩ := h; exact hp
  | cons a t ih =>
    intro hadd avail row d avail' row' h hp
    have ih' := ih (fun id hid => hadd id (List.mem_cons_of_mem _ hid))
    unfold collectPass at h
    split at h
    · simp only [Except.ok.injEq, Prod.mk.injEq] at h
      obtain ⟨_, _, rfl⟩ := h; exact hp
    · split at h
      · exact ih' _ _ h hp
      · split at h
        · exact ih' _ _ h hp
        · split at h
          · cases h
          · exact ih' _ _ h (hadd a List.mem_cons_self row hp)

/-- one pass inside `collectAll`, `K` being what follows the pass: the pass was the last one, or the rest `X` goes on with
    the row the pass left -/
theorem collectPass_bind {s : State} {pri : Pri} {chk : Bool} {oldId : Option Nat} {needed : Int} (P : List Nat → Prop)
    (hadd : ∀ id ∈ s.priority, ∀ row, P row → P (row ++ [id])) {avail : Int} {row : List Nat}
    {K : Bool × Int × List Nat → Except Err (Option (Int × List Nat))}
    {X : Int → List Nat → Except Err (Option (Int × List Nat))} {res : Int × List Nat}
    (h : (collectPass s pri chk oldId needed s.priority avail row >>= K) = .ok (some res))
    (hK : ∀ d a w, K (d, a, w) = if d = true then .ok (some (a, w)) else X a w)
    (hp : P row) (hX : ∀ a w, X a w = .ok (some res) → P w → P res.2) : P res.2 := by
  cases h1 : collectPass s pri chk oldId needed s.priority avail row with
  | error e => rw [h1] at h; cases h
  | ok r =>
    obtain ⟨d, a, w⟩ := r
    have g := collectPass_induct P _ hadd _ _ h1 hp
    rw [h1] at h
    have h' : K (d, a, w) = .ok (some res) := h
    rw [hK] at h'
    split at h'
    · cases h'; exact g
    · exact hX a w h' g

theorem collectAll_induct {s : State} {oldId : Option Nat} {needed : Int} (P : List Nat → Prop)
    (hadd : ∀ id ∈ s.priority, ∀ row, P row → P (row ++ [id])) {avail : Int} {row : List Nat} {avail' : Int} {row' : List Nat}
    (h : collectAll s oldId needed avail row = .ok (some (avail', row'))) (hp : P row) : P row' := by
  unfold collectAll at h
  split at h
  · cases h; exact hp
  · refine collectPass_bind P hadd h (fun _ _ _ => rfl) hp fun _ _ h g => ?_
    refine collectPass_bind P hadd h (fun _ _ _ => rfl) g fun _ _ h g => ?_
    refine collectPass_bind P hadd h (fun _ _ _ => rfl) g fun _ _ h g => ?_
    exact collectPass_bind P hadd h (fun _ _ _ => rfl) g fun _ _ h _ => by cases h

/-- the death row only ever holds ids of the priority list (or the initial candidate) -/
theorem collectAll_row {s : State} {oldId : Option Nat} {needed avail : Int} {row : List Nat} {avail' : Int} {row' : List Nat}
    (h : collectAll s oldId needed avail row = .ok (some (avail', row'))) :
    ∀ id ∈ row', id ∈ row ∨ id ∈ s.priority :=
  collectAll_induct (fun r => ∀ id ∈ r, id ∈ row ∨ id ∈ s.priority)
    (fun _ hid _ hr x hx => (List.mem_append.1 hx).elim (hr x) (fun e => Or.inr (List.mem_singleton.1 e ▸ hid)))
    h (fun _ hid => Or.inl hid)

theorem collectAll_mono {s : State} {oldId : Option Nat} {needed avail : Int} {row : List Nat} {avail' : Int} {row' : List Nat}
    (h : collectAll s oldId needed avail row = .ok (some (avail', row'))) : ∀ id ∈ row, id ∈ row' :=
  collectAll_induct (fun r => ∀ id ∈ row, id ∈ r) (fun _ _ _ hr x hx => List.mem_append_left _ (hr x hx)) h (fun _ hid => hid)

/-- `_vbi_cache_put_page` from `replace:` on: the pages of the death row are deleted, then the new page is inserted.
    Reusing the struct of a single victim of the same size is `delete_page` of it followed by the same insertion. -/
theorem putReplace_eq {s : State} (h : InvW s) (nid : Nat) (a : PutArg) (subno : Nat) (avail : Int) {row : List Nat}
    (hrow : ∀ id ∈ row, id ∈ s.priority) {s' : State} {r : Option Page}
    (hres : s.putReplace nid a subno avail row = .ok (s', r)) :
    s' = (row.foldl (fun s id => s.deletePage id) s).store nid a subno ∧ ∃ x : State, r = some (x.insertNew nid a subno).2 := by
  unfold State.putReplace at hres
  simp only at hres
  split at hres
  · rename_i hc
    split at hres
    · cases hres
    · rename_i v hv
      split at hres
      · cases hres
      · rename_i hsz
        simp only [Except.ok.injEq, Prod.mk.injEq] at hres
        obtain ⟨rfl, rfl⟩ := hres
        refine ⟨?_, _, rfl⟩
        obtain ⟨id, rfl⟩ : ∃ id, row = [id] := by
          match row, hc.2 with
          | [id], _ => exact ⟨id, rfl⟩
        have hv' : s.findPage id = some v := by simpa using hv
        obtain ⟨hvm, rfl⟩ := findPage_some hv'
        have hv0 : v.ref = 0 := by
          obtain ⟨q, hq, e, hq0⟩ := (h.priMem v.id).1 (hrow v.id (by simp))
          rw [← mem_unique h.pidNodup hq hvm e]; exact hq0
        have hnz : v.pri ≠ .zombie := fun e => by have := h.zombieRef v hvm e; omega
        have hpos : 0 < s.pages.length := List.length_pos_of_mem hvm
        have hsz' : v.size = pageSize a.func a.x26 a.x28 := Classical.not_not.1 hsz
        rw [List.foldl_cons, List.foldl_nil, deletePage_free hv' hv0, freePage_eq]
        congr 2
        apply State.eq_of_fields <;> try rfl
        · show s.nCachedPages = s.nCachedPages - 1 + 1
          rw [h.nPages]; omega
        · show s.memUsed - _ = (if v.pri ≠ .zombie then s.memUsed - v.size else s.memUsed)
          rw [if_pos hnz, hsz']; simp
  · split at hres
    · cases hres
    · simp only [Except.ok.injEq, Prod.mk.injEq] at hres
      exact ⟨hres.1.symm, _, hres.2.symm⟩

theorem putTail_rest (s : State) (nid : Nat) (a : PutArg) (k1 k2 : Nat) (avail0 : Int) :
    s.putTail nid a k1 k2 avail0
      = (s.pageByPgno nid a.pgno (k1 &&& k2) k2).1.putRest nid a k1 (s.pageByPgno nid a.pgno (k1 &&& k2) k2).2 avail0 := rfl

/-- the part of `_vbi_cache_put_page` after the key was chosen, by what the look-up finds: a version found is brought to the
    front; with the repair, under a single-version key, every other version of the page number is deleted before `putRest` -/
theorem putTailF_cases (fix : Bool) (s : State) (nid : Nat) (a : PutArg) (k1 k2 : Nat) (avail0 : Int) :
    (s.pages.find? (pageMatch nid a.pgno (k1 &&& k2) k2) = none
      ∧ s.putTailF fix nid a k1 k2 avail0 = s.putRest nid a k1 none avail0)
    ∨ ∃ o, s.pages.find? (pageMatch nid a.pgno (k1 &&& k2) k2) = some o
      ∧ s.putTailF fix nid a k1 k2 avail0 =
        if fix = true ∧ k2 = 0 then
          let s1 := ({ s with pages := o :: rmId s.pages o.id } : State).dropOthers nid a.pgno o.id
          s1.putRest nid a k1 (some o) ((s1.memLimit : Int) - s1.memUsed)
        else ({ s with pages := o :: rmId s.pages o.id } : State).putRest nid a k1 (some o) avail0 := by
  unfold State.putTailF State.putTailR
  rw [putTail_rest]
  rcases pageByPgno_cases s nid a.pgno (k1 &&& k2) k2 with ⟨hf, e⟩ | ⟨o, hf, e⟩ <;> rw [e]
  · exact Or.inl ⟨hf, by cases fix <;> rfl⟩
  · refine Or.inr ⟨o, hf, ?_⟩
    cases fix
    · simp
    · by_cases hk : k2 = 0 <;> simp [hk]

theorem deletePage_other {s : State} {id : Nat} {q : Page} (hq : q ∈ s.pages) (hne : q.id ≠ id) :
    q ∈ (s.deletePage id).pages := by
  rcases deletePage_cases s id with ⟨e, _⟩ | ⟨p, hf, ⟨_, _, e⟩ | ⟨_, e⟩⟩ <;> rw [e]
  · exact hq
  · rw [updPage_pages]; exact mem_updId.2 ⟨q, hq, by rw [if_neg ((findPage_some hf).2 ▸ hne)]⟩
  · rw [freePage_pages]; exact mem_rmId.2 ⟨hq, (findPage_some hf).2 ▸ hne⟩

theorem foldDelete_other (ids : List Nat) (s : State) {q : Page} (hq : q ∈ s.pages) (hne : ∀ id ∈ ids, q.id ≠ id) :
    q ∈ (ids.foldl (fun s id => s.deletePage id) s).pages := by
  induction ids generalizing s with
  | nil => exact hq
  | cons x t ih =>
    rw [List.foldl_cons]
    exact ih _ (deletePage_other hq (hne x List.mem_cons_self)) (fun id hid => hne id (List.mem_cons_of_mem _ hid))

theorem dropOthers_keep {s : State} (nid pgno : Nat) {o : Page} (ho : o ∈ s.pages) : o ∈ (s.dropOthers nid pgno o.id).pages := by
  unfold State.dropOthers
  refine foldDelete_other _ s ho ?_
  intro id hid e
  obtain ⟨q, hq, rfl⟩ := List.mem_map.1 hid
  have := (List.mem_filter.1 hq).2
  simp only [decide_eq_true_eq] at this
  exact this.2.2.2 e.symm

theorem putPageF_false (s : State) (nid : Nat) (a : PutArg) : s.putPageF false nid a = s.putPage nid a := rfl

theorem putVictim_cases (s : State) (old : Option Page) (avail : Int) :
    (old = none ∧ s.putVictim old avail = (s, none, avail, []))
    ∨ (∃ o, old = some o ∧ o.ref > 0 ∧ s.putVictim old avail = (s.updPage o.id (fun p => { p with pri := .zombie }), none, avail, []))
    ∨ (∃ o, old = some o ∧ o.ref = 0 ∧ s.putVictim old avail = (s, some o.id, avail + o.size, [o.id])) := by
  unfold State.putVictim
  cases old with
  | none => exact Or.inl ⟨rfl, rfl⟩
  | some o =>
    by_cases hr : o.ref > 0
    · exact Or.inr (Or.inl ⟨o, rfl, hr, by simp [hr]⟩)
    · exact Or.inr (Or.inr ⟨o, rfl, by omega, by simp [hr]⟩)

/-- the first test of `collectAll` succeeds when there is room: the death row is not extended -/
theorem collectAll_room {s : State} {oldId : Option Nat} {needed avail : Int} {row : List Nat} (h : avail ≥ needed) :
    collectAll s oldId needed avail row = .ok (some (avail, row)) := by
  unfold collectAll
  simp only [bind, Except.bind, pure, Except.pure, h, if_true]

/-- death row and replacement when there is room: the death row is what `putVictim` left -/
theorem putRest_room {s : State} (nid : Nat) (a : PutArg) (k1 : Nat) {old : Option Page} {avail0 : Int}
    (hav : (s.putVictim old avail0).2.2.1 ≥ (pageSize a.func a.x26 a.x28 : Int)) :
    s.putRest nid a k1 old avail0 = (s.putVictim old avail0).1.putReplace nid a k1 (s.putVictim old avail0).2.2.1
      (s.putVictim old avail0).2.2.2 := by
  unfold State.putRest
  simp only
  rw [collectAll_room hav]

/-- death row and replacement: nothing is stored, or the new page is inserted into a state reached by deletions in
    which the version found by the look-up (`old`) is no longer retrievable -/
theorem putRest_moves {s : State} (h : InvW s) (nid : Nat) (a : PutArg) (k1 : Nat) (old : Option Page) (avail0 : Int)
    (hold : ∀ o, old = some o → o ∈ s.pages) {s' : State} {r : Option Page}
    (hres : s.putRest nid a k1 old avail0 = .ok (s', r)) :
    Moves Kind.del s s' ∨ ∃ s0, Moves Kind.del s s0
      ∧ s' = s0.store nid a k1
      ∧ ∀ o, old = some o → s0.hides o.id := by
  unfold State.putRest at hres
  simp only at hres
  -- the version found: turned into a zombie, or the head of the death row
  have hv : Moves Kind.del s (s.putVictim old avail0).1 ∧ (s.putVictim old avail0).1.priority = s.priority
      ∧ (∀ id ∈ (s.putVictim old avail0).2.2.2, id ∈ s.priority)
      ∧ ∀ o, old = some o → (s.putVictim old avail0).1.hides o.id
          ∨ o.id ∈ (s.putVictim old avail0).2.2.2 := by
    rcases putVictim_cases s old avail0 with ⟨rfl, e⟩ | ⟨o, rfl, hr, e⟩ | ⟨o, rfl, hr, e⟩ <;> rw [e]
    · refine ⟨.refl s, rfl, ?_, ?_⟩
      · intro id hid; cases hid
      · intro o ho; cases ho
    · refine ⟨.one (by decide) (.zombify (hold o rfl) hr), rfl, ?_, ?_⟩
      · intro id hid; cases hid
      · intro o' ho'
        cases ho'
        left
        intro q hq hid
        rw [updPage_pages] at hq
        obtain ⟨p0, _, rfl⟩ := mem_updId.1 hq
        split
        · rfl
        · rename_i hne
          rw [if_neg hne] at hid; exact absurd hid hne
    · refine ⟨.refl s, rfl, ?_, ?_⟩
      · intro id hid
        simp only [List.mem_singleton] at hid; subst hid
        exact (h.priMem o.id).2 ⟨o, hold o rfl, rfl, hr⟩
      · intro o' ho'; cases ho'; right; simp
  obtain ⟨m1, b4, b7, hv⟩ := hv
  generalize s.putVictim old avail0 = v at hres m1 b4 b7 hv
  have h1 := m1.invW h
  split at hres
  · cases hres
  · simp only [Except.ok.injEq, Prod.mk.injEq] at hres; obtain ⟨rfl, _⟩ := hres
    exact Or.inl m1
  · rename_i avail row hcol
    have hrow : ∀ id ∈ row, id ∈ v.1.priority := fun id hid =>
      (collectAll_row hcol id hid).elim (fun x => b4 ▸ b7 id x) (fun x => x)
    have e := (putReplace_eq h1 nid a k1 avail hrow hres).1
    have m2 := foldDelete_moves row v.1
    refine Or.inr ⟨_, m1.trans m2, e, fun o ho q hq hid => ?_⟩
    rcases hv o ho with hzv | hin
    · exact (m2.calm h1).hides hzv q hq hid
    · exact foldDelete_hides row h1 q hq (by rw [hid]; exact collectAll_mono hcol _ hin)

/-- How a store under the key `k1` (mask `k2`) ends, both source shapes: nothing is stored, or the new page is inserted into a
    state reached by the relink of the look-up and deletions, in which the version found under the key is no longer
    retrievable - nor, in the repaired shape under a single-version key, any version of the page number. -/
def Stored (fix : Bool) (s s' : State) (nid : Nat) (a : PutArg) (k1 k2 : Nat) : Prop :=
  Moves Kind.pre s s' ∨ ∃ s0, Moves Kind.pre s s0
    ∧ s' = s0.store nid a k1
    ∧ ∀ o, s.pages.find? (pageMatch nid a.pgno (k1 &&& k2) k2) = some o → ∀ q ∈ s0.pages, q.pri ≠ .zombie →
        q.id ≠ o.id ∧ (fix = true → k2 = 0 → ¬ (q.pgno = a.pgno ∧ q.net = nid))

/-- the part of `_vbi_cache_put_page` after the key was chosen -/
theorem putTailF_moves (fix : Bool) {s : State} (h : InvW s) (nid : Nat) (a : PutArg) (k1 k2 : Nat) (avail0 : Int)
    {s' : State} {r : Option Page} (hres : s.putTailF fix nid a k1 k2 avail0 = .ok (s', r)) : Stored fix s s' nid a k1 k2 := by
  -- what `putRest` adds to a prefix of moves
  have rest : ∀ {s2 : State} (m2 : Moves Kind.pre s s2) (old : Option Page) (avail : Int),
      s2.putRest nid a k1 old avail = .ok (s', r) → old = s.pages.find? (pageMatch nid a.pgno (k1 &&& k2) k2) →
      (∀ o, old = some o → o ∈ s2.pages) →
      (∀ o, old = some o → fix = true → k2 = 0 → ∀ q ∈ s2.pages, q.pri ≠ .zombie → q.pgno = a.pgno ∧ q.net = nid → q.id = o.id) →
      Stored fix s s' nid a k1 k2 := by
    intro s2 m2 old avail hr eo hold2 hsingle
    have h2 := m2.invW h
    rcases putRest_moves h2 nid a k1 old avail hold2 hr with m | ⟨s0, m, e, gn⟩
    · exact Or.inl (m2.trans (m.mono (by decide)))
    · refine Or.inr ⟨s0, m2.trans (m.mono (by decide)), e, fun o ho q hq hqz => ?_⟩
      have ho' : old = some o := eo.trans ho
      have hne : q.id ≠ o.id := fun e => hqz (gn o ho' q hq e)
      refine ⟨hne, fun hfix hk hsel => hne ?_⟩
      obtain ⟨p, hp, kp⟩ := (m.calm h2).pages q hq
      rw [← kp.id]
      exact hsingle o ho' hfix hk p hp (kp.live hqz) ⟨kp.pgno.trans hsel.1, kp.net.trans hsel.2⟩
  rcases putTailF_cases fix s nid a k1 k2 avail0 with ⟨hf, e⟩ | ⟨o, hf, e⟩ <;> rw [e] at hres
  · exact rest (.refl s) none avail0 hres hf.symm (fun _ hc => by cases hc) (fun _ hc => by cases hc)
  · have m1 : Moves Kind.pre s { s with pages := o :: rmId s.pages o.id } :=
      .one (by decide) (.front (List.mem_of_find?_eq_some hf))
    have h1 := m1.invW h
    have hold : o ∈ ({ s with pages := o :: rmId s.pages o.id } : State).pages := List.mem_cons_self
    split at hres
    · -- every other retrievable version of the page number is deleted first
      generalize ({ s with pages := o :: rmId s.pages o.id } : State) = s1 at hres m1 h1 hold
      have m2 := foldDelete_moves ((s1.pages.filter (fun q => q.pri ≠ .zombie ∧ q.pgno = a.pgno ∧ q.net = nid ∧ q.id ≠ o.id)).map (·.id)) s1
      refine rest (m1.trans (m2.mono (by decide))) _ _ hres hf.symm (fun o' e => by cases e; exact dropOthers_keep nid a.pgno hold) ?_
      intro o' e _ _ q hq hqz hsel
      cases e
      obtain ⟨p, hp, kp⟩ := (m2.calm h1).pages q hq
      refine Classical.byContradiction fun hne => hqz (foldDelete_hides _ h1 q hq ?_)
      refine List.mem_map.2 ⟨p, List.mem_filter.2 ⟨hp, ?_⟩, kp.id⟩
      simp only [decide_eq_true_eq]
      exact ⟨kp.live hqz, kp.pgno.trans hsel.1, kp.net.trans hsel.2, fun e => hne (kp.id.symm.trans e)⟩
    · rename_i hn
      exact rest m1 _ avail0 hres hf.symm (fun o' e => by cases e; exact hold) (fun _ _ hfix hk => absurd ⟨hfix, hk⟩ hn)

/-- `_vbi_cache_put_page` by cases: no such network; a page number `xFF` (nothing is stored); a page number out of range; the
    store under the key of `putKey` -/
theorem putPageF_cases (fix : Bool) (s : State) (nid : Nat) (a : PutArg) :
    (s.findNet nid = none ∧ s.putPageF fix nid a = .error (.assertFail "cn"))
    ∨ ∃ cn, s.findNet nid = some cn ∧
      ((a.pgno &&& 0xFF = 0xFF ∧ s.putPageF fix nid a = .ok (s, none))
      ∨ (a.pgno &&& 0xFF ≠ 0xFF ∧ (a.pgno < 0x100 ∨ a.pgno > 0x8FF) ∧ s.putPageF fix nid a = .error (.assertFail "page_stat"))
      ∨ (a.pgno &&& 0xFF ≠ 0xFF ∧ (0x100 ≤ a.pgno ∧ a.pgno ≤ 0x8FF) ∧ s.putPageF fix nid a =
          s.putTailF fix nid a (putKey (cn.getStat a.pgno).ptype a.pgno a.subno).1
            (putKey (cn.getStat a.pgno).ptype a.pgno a.subno).2 ((s.memLimit : Int) - s.memUsed))) := by
  unfold State.putPageF
  cases hf : s.findNet nid with
  | none => exact Or.inl ⟨rfl, rfl⟩
  | some cn =>
    refine Or.inr ⟨cn, rfl, ?_⟩
    simp only
    by_cases hlow : a.pgno &&& 0xFF = 0xFF
    · exact Or.inl ⟨hlow, by rw [if_pos hlow]⟩
    · by_cases hr : a.pgno < 0x100 ∨ a.pgno > 0x8FF
      · exact Or.inr (Or.inl ⟨hlow, hr, by rw [if_neg hlow, if_pos hr]⟩)
      · exact Or.inr (Or.inr ⟨hlow, by omega, by rw [if_neg hlow, if_neg hr]⟩)

theorem putPageF_xFF (fix : Bool) {s : State} {nid : Nat} {cn : Net} (hf : s.findNet nid = some cn) (a : PutArg)
    (hlow : a.pgno &&& 0xFF = 0xFF) : s.putPageF fix nid a = .ok (s, none) := by
  rcases putPageF_cases fix s nid a with ⟨hn, _⟩ | ⟨_, _, ⟨_, e⟩ | ⟨h, _⟩ | ⟨h, _⟩⟩
  · rw [hf] at hn; cases hn
  · exact e
  · exact absurd hlow h
  · exact absurd hlow h

theorem putPageF_eq (fix : Bool) {s : State} {nid : Nat} {cn : Net} (hf : s.findNet nid = some cn) (a : PutArg)
    (hlow : a.pgno &&& 0xFF ≠ 0xFF) (hrange : 0x100 ≤ a.pgno ∧ a.pgno ≤ 0x8FF) :
    s.putPageF fix nid a = s.putTailF fix nid a (putKey (cn.getStat a.pgno).ptype a.pgno a.subno).1
      (putKey (cn.getStat a.pgno).ptype a.pgno a.subno).2 ((s.memLimit : Int) - s.memUsed) := by
  rcases putPageF_cases fix s nid a with ⟨hn, _⟩ | ⟨cn', hf', ⟨h, _⟩ | ⟨_, h, _⟩ | ⟨_, _, e⟩⟩
  · rw [hf] at hn; cases hn
  · exact absurd h hlow
  · omega
  · rw [hf] at hf'; cases hf'; exact e

theorem putPageF_moves (fix : Bool) {s : State} (h : InvW s) (nid : Nat) (a : PutArg) {s' : State} {r : Option Page}
    (hres : s.putPageF fix nid a = .ok (s', r)) :
    ∃ cn, s.findNet nid = some cn ∧ Stored fix s s' nid a (putKey (cn.getStat a.pgno).ptype a.pgno a.subno).1
      (putKey (cn.getStat a.pgno).ptype a.pgno a.subno).2 := by
  rcases putPageF_cases fix s nid a with ⟨_, e⟩ | ⟨cn, hf, ⟨_, e⟩ | ⟨_, _, e⟩ | ⟨_, _, e⟩⟩ <;> rw [e] at hres
  · cases hres
  · cases hres; exact ⟨cn, hf, Or.inl (.refl s)⟩
  · cases hres
  · exact ⟨cn, hf, putTailF_moves fix h nid a _ _ _ hres⟩

/-- a store adds nothing to `memory_used` (the new page is referenced) -/
theorem putPageF_mem (fix : Bool) {s : State} (h : InvW s) (nid : Nat) (a : PutArg) {s' : State} {r : Option Page}
    (hres : s.putPageF fix nid a = .ok (s', r)) : s'.memUsed ≤ s.memUsed ∧ s'.memLimit = s.memLimit := by
  obtain ⟨cn, _, m | ⟨s0, m, rfl, _⟩⟩ := putPageF_moves fix h nid a hres
  · exact ⟨m.mem (by decide), m.frame.limit⟩
  · obtain ⟨_, i1, i2⟩ := store_frame s0 nid a (putKey (cn.getStat a.pgno).ptype a.pgno a.subno).1
    exact ⟨by rw [i1]; exact m.mem (by decide), by rw [i2]; exact m.frame.limit⟩

theorem good_putPageF (fix : Bool) {s : State} (g : Good s) (nid : Nat) (a : PutArg) {s' : State} {r : Option Page}
    (hres : s.putPageF fix nid a = .ok (s', r)) : Good s' := by
  obtain ⟨mu, ml⟩ := putPageF_mem fix g.1 nid a hres
  have hm : s'.memUsed ≤ s'.memLimit := by rw [ml]; exact Nat.le_trans mu g.2.2
  obtain ⟨cn, hf, m | ⟨s0, m, rfl, _⟩⟩ := putPageF_moves fix g.1 nid a hres
  · exact ⟨m.invW g.1, m.znet (by decide) g.2.1, hm⟩
  · obtain ⟨n0, hn0, rfl⟩ := m.net_mem (fun _ hk => hk) hf
    exact ⟨store_invW (m.invW g.1) hn0 a _, store_znet (m.invW g.1) hn0 (m.znet (by decide) g.2.1) a _, hm⟩

end Zvbi.Cache
