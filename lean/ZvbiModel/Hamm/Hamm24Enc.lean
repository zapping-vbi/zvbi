import ZvbiModel.Hamm.Hamm24
/-!
# Hamming 24/18: what `vbi_ham24p` produces is what `vbi_unham24p` accepts

`ham24p_unham24p`: for every 18-bit `c`, `unham24p (ham24p c) = some c`.
Structural proof, no enumeration of the 2^18 values: every stage of the encoder (table look-ups
of byte slices, shifts, masks, the two parity bits P5 / P6) is XOR-affine in `c` (`XLin 18`), the
tables being affine by `256 x 8` single-bit-flip facts (`xlin_of_flip`); hence syndrome and
decoded data are XOR-affine in `c`, and two affine functions that agree at 0 and at the 18 unit
vectors agree everywhere (`xlin_ext`).
-/
namespace Zvbi.Hamm
open Zvbi.Gen

theorem xlin_fwd0 : XLin 8 hamm24Fwd0 := xlin_of_flip 8 _ (by decide +kernel)
theorem xlin_fwd1 : XLin 8 hamm24Fwd1 := xlin_of_flip 8 _ (by decide +kernel)
theorem xlin_fwd2 : XLin 2 hamm24Fwd2 := xlin_of_flip 2 _ (by decide +kernel)

/-! ## the encoder, stage by stage -/

def e0 (c : Nat) : Nat :=
  hamm24Fwd0 (c &&& 0xFF) ^^^ hamm24Fwd1 ((c >>> 8) &&& 0xFF) ^^^ hamm24Fwd2 ((c >>> 16) &&& 0x03)
def e5 (c : Nat) : Nat := (c >>> 4) &&& 0x7F
def e12 (c : Nat) : Nat := (c >>> 11) &&& 0x7F
def eP5 (c : Nat) : Nat := if hamm24InvPar0 (e12 c) &&& 32 != 0 then 0 else 0x80
def eP6 (c : Nat) : Nat :=
  if (hamm24InvPar0 (e0 c) ^^^ hamm24InvPar0 (e5 c)) &&& 32 != 0 then 0x80 else 0

/-- the two parity selections as the C code computes them: `0x80 & (x << 2)` and `0x80 & ~(x << 2)` -/
theorem par_sel (x : Nat) : (if x &&& 32 != 0 then 0x80 else 0) = (x &&& 32) <<< 2 ∧
    (if x &&& 32 != 0 then 0 else 0x80) = (x &&& 32) <<< 2 ^^^ 0x80 := by
  rw [(Bits.and_field x 5 1 : x &&& 32 = x / 32 % 2 * 32)]
  rcases Nat.mod_two_eq_zero_or_one (x / 32) with h | h <;> rw [h] <;> exact ⟨rfl, rfl⟩

theorem e0_lt (c : Nat) : e0 c < 2 ^ 8 :=
  Nat.xor_lt_two_pow (Nat.xor_lt_two_pow (Nat.lt_succ_of_le Nat.and_le_right)
    (Nat.lt_succ_of_le Nat.and_le_right)) (Nat.lt_succ_of_le Nat.and_le_right)
theorem e5_lt (c : Nat) : e5 c < 2 ^ 7 := Nat.lt_succ_of_le Nat.and_le_right
theorem e12_lt (c : Nat) : e12 c < 2 ^ 7 := Nat.lt_succ_of_le Nat.and_le_right
theorem eP5_cases (c : Nat) : eP5 c = 0 ∨ eP5 c = 0x80 := by unfold eP5; split <;> simp
theorem eP6_cases (c : Nat) : eP6 c = 0 ∨ eP6 c = 0x80 := by unfold eP6; split <;> simp

theorem and_par_zero (x p : Nat) (hx : x < 2 ^ 7) (hp : p = 0 ∨ p = 0x80) : x &&& p = 0 := by
  rcases hp with rfl | rfl
  · exact Nat.and_zero x
  · exact and_shiftLeft_of_lt hx 1

theorem par_byte_lt (x p : Nat) (hx : x < 2 ^ 7) (hp : p = 0 ∨ p = 0x80) : x ^^^ p < 2 ^ 8 := by
  apply Nat.xor_lt_two_pow
  · exact Nat.lt_trans hx (by decide)
  · rcases hp with rfl | rfl <;> decide

/-- second and third byte with `|||` replaced by `^^^` (the parity bit is disjoint) -/
def b1 (c : Nat) : Nat := e5 c ^^^ eP5 c
def b2 (c : Nat) : Nat := e12 c ^^^ eP6 c

theorem ham24p_eq (c : Nat) : ham24p c = (e0 c, b1 c, b2 c) := by
  show (e0 c, e5 c ||| eP5 c, e12 c ||| eP6 c) = _
  rw [or_eq_xor_of_and_zero _ _ (and_par_zero _ _ (e5_lt c) (eP5_cases c)),
    or_eq_xor_of_and_zero _ _ (and_par_zero _ _ (e12_lt c) (eP6_cases c))]
  rfl

theorem b1_lt (c : Nat) : b1 c < 2 ^ 8 := par_byte_lt _ _ (e5_lt c) (eP5_cases c)
theorem b2_lt (c : Nat) : b2 c < 2 ^ 8 := par_byte_lt _ _ (e12_lt c) (eP6_cases c)

theorem xlin_e0 : XLin 18 e0 :=
  xlin_xor (xlin_xor
    (xlin_comp (xlin_field (xlin_id 18) 0 0xFF) (fun _ _ => Nat.and_lt_two_pow _ (by decide)) xlin_fwd0)
    (xlin_comp (xlin_field (xlin_id 18) 8 0xFF) (fun _ _ => Nat.and_lt_two_pow _ (by decide)) xlin_fwd1))
    (xlin_comp (xlin_field (xlin_id 18) 16 0x03) (fun _ _ => Nat.and_lt_two_pow _ (by decide)) xlin_fwd2)

theorem xlin_e5 : XLin 18 e5 := xlin_field (xlin_id 18) 4 0x7F
theorem xlin_e12 : XLin 18 e12 := xlin_field (xlin_id 18) 11 0x7F

theorem xlin_eP5 : XLin 18 eP5 := by
  rw [show eP5 = fun c => (hamm24InvPar0 (e12 c) &&& 32) <<< 2 ^^^ 0x80 from funext fun _ => (par_sel _).2]
  exact xlin_xor (xlin_shl (xlin_field (xlin_comp xlin_e12 (fun c _ => Nat.lt_trans (e12_lt c) (by decide))
    xlin_par0) 0 32) 2) (xlin_const 18 0x80)

theorem xlin_eP6 : XLin 18 eP6 := by
  rw [show eP6 = fun c => ((hamm24InvPar0 (e0 c) ^^^ hamm24InvPar0 (e5 c)) &&& 32) <<< 2
    from funext fun _ => (par_sel _).1]
  exact xlin_shl (xlin_field (xlin_xor (xlin_comp xlin_e0 (fun c _ => e0_lt c) xlin_par0)
    (xlin_comp xlin_e5 (fun c _ => Nat.lt_trans (e5_lt c) (by decide)) xlin_par0)) 0 32) 2

theorem xlin_b1 : XLin 18 b1 := xlin_xor xlin_e5 xlin_eP5
theorem xlin_b2 : XLin 18 b2 := xlin_xor xlin_e12 xlin_eP6

/-- syndrome of the encoded triplet as a function of the data -/
def encSyn (c : Nat) : Nat :=
  hamm24InvPar0 (e0 c) ^^^ hamm24InvPar1 (b1 c) ^^^ hamm24InvPar2 (b2 c)
/-- decoded data bits of the encoded triplet (with `^^^` for the disjoint `|||`) -/
def encDat (c : Nat) : Nat := f0 (e0 c) ^^^ (b1 c &&& 0x7F) <<< 4 ^^^ (b2 c &&& 0x7F) <<< 11

theorem xlin_encSyn : XLin 18 encSyn :=
  xlin_xor (xlin_xor (xlin_comp xlin_e0 (fun c _ => e0_lt c) xlin_par0)
    (xlin_comp xlin_b1 (fun c _ => b1_lt c) xlin_par1)) (xlin_comp xlin_b2 (fun c _ => b2_lt c) xlin_par2)

theorem xlin_encDat : XLin 18 encDat :=
  xlin_xor (xlin_xor (xlin_comp xlin_e0 (fun c _ => e0_lt c) xlin_f0)
    (xlin_shl (xlin_field xlin_b1 0 0x7F) 4)) (xlin_shl (xlin_field xlin_b2 0 0x7F) 11)

theorem encSyn_basis : encSyn 0 = 0 ∧ ∀ k < 18, encSyn (1 <<< k) = 0 := by decide +kernel
theorem encDat_basis : encDat 0 = 0 ∧ ∀ k < 18, encDat (1 <<< k) = 1 <<< k := by decide +kernel

theorem ham24p_valid (c : Nat) (hc : c < 2 ^ 18) :
    IsTriplet (ham24p c) ∧ triSyn (ham24p c).1 (ham24p c).2.1 (ham24p c).2.2 = 0 ∧
    triD (ham24p c).1 (ham24p c).2.1 (ham24p c).2.2 = c := by
  rw [ham24p_eq]
  refine ⟨⟨e0_lt c, b1_lt c, b2_lt c⟩,
    xlin_ext 18 encSyn (fun _ => 0) xlin_encSyn (xlin_const 18 0) encSyn_basis.1 encSyn_basis.2 c hc, ?_⟩
  show triD (e0 c) (b1 c) (b2 c) = c
  rw [triD_eq_xor _ _ _ (e0_lt c)]
  exact xlin_ext 18 encDat (fun c => c) xlin_encDat (xlin_id 18) encDat_basis.1 encDat_basis.2 c hc

/-- `vbi_unham24p (vbi_ham24p c) = c` for every 18-bit `c` -/
def ham24p_unham24p_statement : Prop :=
  ∀ c, c < 2 ^ 18 → unham24p (ham24p c).1 (ham24p c).2.1 (ham24p c).2.2 = some c

theorem ham24p_unham24p : ham24p_unham24p_statement := by
  intro c hc
  obtain ⟨_, hs, hd⟩ := ham24p_valid c hc
  rw [unham24p_valid _ _ _ hs, hd]

end Zvbi.Hamm
