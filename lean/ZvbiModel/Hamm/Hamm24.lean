import ZvbiModel.Hamm.Lemmas
import ZvbiModel.Hamm.XLin
import ZvbiModel.Util.Bits
/-!
# Hamming 24/18, decoder side: the outcome depends on the error pattern alone

Syndrome (`triSyn`) and data word (`triD`) of a triplet are XOR-affine in its 24 bits: the four
look-up tables are affine by `256 x 8` single-bit-flip facts, the rest is shifts and masks.  Hence
for a zero-syndrome triplet disturbed by any pattern `x`, `vbi_unham24p` refuses or miscorrects
according to `x` only (`unham24p_xor`).  Flipping transmitted bit `k` is the pattern `pat k`; that
single errors are corrected and double errors refused are two tables over these patterns
(`single_table`, `double_table`).
-/
namespace Zvbi.Hamm
export Zvbi.Bits (and_shiftLeft_of_lt or_eq_xor_of_and_zero)
open Zvbi.Gen

/-- the data bits carried by the first byte -/
def f0 (p0 : Nat) : Nat := hamm24InvD1D4 (p0 >>> 2)

theorem xlin_par0 : XLin 8 hamm24InvPar0 := xlin_of_flip 8 _ (by decide +kernel)
theorem xlin_par1 : XLin 8 hamm24InvPar1 := xlin_of_flip 8 _ (by decide +kernel)
theorem xlin_par2 : XLin 8 hamm24InvPar2 := xlin_of_flip 8 _ (by decide +kernel)
theorem xlin_f0 : XLin 8 f0 := xlin_of_flip 8 _ (by decide +kernel)
theorem f0_lt : ∀ a < 256, f0 a < 2 ^ 4 := by decide +kernel

/-- the three fields of the data word are disjoint, so its `|||` is `^^^` -/
theorem triD_eq_xor (p0 p1 p2 : Nat) (h0 : p0 < 256) :
    triD p0 p1 p2 = f0 p0 ^^^ (p1 &&& 0x7F) <<< 4 ^^^ (p2 &&& 0x7F) <<< 11 := by
  have hf := f0_lt p0 h0
  have h1 : (p1 &&& 0x7F) <<< 4 < 2 ^ 11 := by
    have : p1 &&& 0x7F < 2 ^ 7 := Nat.and_lt_two_pow p1 (by decide)
    rw [Nat.shiftLeft_eq]; omega
  show f0 p0 ||| _ ||| _ = _
  rw [or_eq_xor_of_and_zero _ _ (and_shiftLeft_of_lt hf _),
    or_eq_xor_of_and_zero _ _ (and_shiftLeft_of_lt (Nat.xor_lt_two_pow (Nat.lt_trans hf (by decide)) h1) _)]

/-- an XOR-affine byte function on a byte disturbed by the pattern `x`; nothing is asked of a byte
    that is not disturbed (so the single-error theorems need no bound on the other two bytes) -/
theorem xlin_apply {f : Nat → Nat} (hf : XLin 8 f) {p x : Nat} (hx : x < 256) (hp : x ≠ 0 → p < 256) :
    f (p ^^^ x) = f p ^^^ (f x ^^^ f 0) := by
  by_cases h : x = 0
  · rw [h, Nat.xor_zero, Nat.xor_self, Nat.xor_zero]
  · rw [hf p (hp h) x hx, Nat.xor_assoc]

theorem triSyn_xor {p0 p1 p2 x0 x1 x2 : Nat} (g0 : x0 < 256) (g1 : x1 < 256) (g2 : x2 < 256)
    (h0 : x0 ≠ 0 → p0 < 256) (h1 : x1 ≠ 0 → p1 < 256) (h2 : x2 ≠ 0 → p2 < 256) :
    triSyn (p0 ^^^ x0) (p1 ^^^ x1) (p2 ^^^ x2) = triSyn p0 p1 p2 ^^^ (triSyn x0 x1 x2 ^^^ triSyn 0 0 0) := by
  unfold triSyn
  rw [xlin_apply xlin_par0 g0 h0, xlin_apply xlin_par1 g1 h1, xlin_apply xlin_par2 g2 h2]
  ac_rfl

theorem triD_xor (p0 p1 p2 x0 x1 x2 : Nat) (h0 : p0 < 256) (g0 : x0 < 256) :
    triD (p0 ^^^ x0) (p1 ^^^ x1) (p2 ^^^ x2) = triD p0 p1 p2 ^^^ triD x0 x1 x2 := by
  rw [triD_eq_xor _ _ _ (Nat.xor_lt_two_pow (n := 8) h0 g0), triD_eq_xor _ _ _ h0, triD_eq_xor _ _ _ g0,
    xlin_f0 p0 h0 x0 g0, Nat.and_xor_distrib_right, Nat.and_xor_distrib_right,
    Nat.shiftLeft_xor_distrib, Nat.shiftLeft_xor_distrib, (by decide : f0 0 = 0), Nat.xor_zero]
  ac_rfl

/-- what the decoder makes of the error pattern `x` alone: the correction mask of its syndrome -/
def errOf (x0 x1 x2 : Nat) : Nat := hamm24InvErr (triSyn x0 x1 x2 ^^^ triSyn 0 0 0)

/-- `vbi_unham24p` on a zero-syndrome triplet disturbed by any error pattern: whether it refuses,
    and which bits of the data word come out wrong, depends on the pattern alone. -/
theorem unham24p_xor {p0 p1 p2 x0 x1 x2 : Nat} (hv : triSyn p0 p1 p2 = 0) (h0 : p0 < 256)
    (g0 : x0 < 256) (g1 : x1 < 256) (g2 : x2 < 256) (h1 : x1 ≠ 0 → p1 < 256) (h2 : x2 ≠ 0 → p2 < 256) :
    unham24p (p0 ^^^ x0) (p1 ^^^ x1) (p2 ^^^ x2) =
      if errOf x0 x1 x2 &&& 0x80000000 != 0 then none
      else some (triD p0 p1 p2 ^^^ (triD x0 x1 x2 ^^^ errOf x0 x1 x2)) := by
  unfold unham24p
  simp only [triSyn_xor g0 g1 g2 (fun _ => h0) h1 h2, hv, Nat.zero_xor, triD_xor _ _ _ _ _ _ h0 g0, Nat.xor_assoc]
  rfl

theorem unham24p_valid (p0 p1 p2 : Nat) (hv : triSyn p0 p1 p2 = 0) :
    unham24p p0 p1 p2 = some (triD p0 p1 p2) := by
  simp [unham24p, hv, (by decide : hamm24InvErr 0 = 0)]

/-- flip bit `k` (0..23, transmission order: bit `k % 8` of byte `k / 8`) of a triplet -/
def flip24 (t : Nat × Nat × Nat) (k : Nat) : Nat × Nat × Nat :=
  if k < 8 then (t.1 ^^^ 1 <<< k, t.2.1, t.2.2)
  else if k < 16 then (t.1, t.2.1 ^^^ 1 <<< (k - 8), t.2.2)
  else (t.1, t.2.1, t.2.2 ^^^ 1 <<< (k - 16))

/-- `vbi_unham24p` on a triplet -/
def unham24t (t : Nat × Nat × Nat) : Option Nat := unham24p t.1 t.2.1 t.2.2

def IsTriplet (t : Nat × Nat × Nat) : Prop := t.1 < 256 ∧ t.2.1 < 256 ∧ t.2.2 < 256

/-- the error pattern that flips transmitted bit `k` -/
def pat (k : Nat) : Nat × Nat × Nat := flip24 (0, 0, 0) k

theorem flip24_eq (t : Nat × Nat × Nat) (k : Nat) :
    flip24 t k = (t.1 ^^^ (pat k).1, t.2.1 ^^^ (pat k).2.1, t.2.2 ^^^ (pat k).2.2) := by
  unfold pat flip24
  split
  · simp
  · split <;> simp

theorem pat_eq (k : Nat) (hk : k < 8) :
    pat k = (1 <<< k, 0, 0) ∧ pat (8 + k) = (0, 1 <<< k, 0) ∧ pat (16 + k) = (0, 0, 1 <<< k) := by
  unfold pat flip24
  rw [if_pos hk, if_neg (by omega), if_pos (by omega), if_neg (by omega), if_neg (by omega)]
  simp only [Nat.zero_xor, Nat.add_sub_cancel_left, and_self]

/-- every single-bit pattern is three bytes and is corrected: its mask is not the "uncorrectable"
    flag and undoes exactly the damage to the data word -/
theorem single_table : ∀ k < 24, ((pat k).1 < 256 ∧ (pat k).2.1 < 256 ∧ (pat k).2.2 < 256) ∧
    (errOf (pat k).1 (pat k).2.1 (pat k).2.2 &&& 0x80000000 != 0) = false ∧
    triD (pat k).1 (pat k).2.1 (pat k).2.2 ^^^ errOf (pat k).1 (pat k).2.1 (pat k).2.2 = 0 := by
  decide +kernel

theorem double_table : ∀ j < 24, ∀ k < 24, j ≠ k →
    (errOf ((pat j).1 ^^^ (pat k).1) ((pat j).2.1 ^^^ (pat k).2.1) ((pat j).2.2 ^^^ (pat k).2.2)
      &&& 0x80000000 != 0) = true := by
  decide +kernel

theorem unham24p_pat {p0 p1 p2 : Nat} (hv : triSyn p0 p1 p2 = 0) (h0 : p0 < 256) (k : Nat) (hk : k < 24)
    (h1 : (pat k).2.1 ≠ 0 → p1 < 256) (h2 : (pat k).2.2 ≠ 0 → p2 < 256) :
    unham24p (p0 ^^^ (pat k).1) (p1 ^^^ (pat k).2.1) (p2 ^^^ (pat k).2.2) = some (triD p0 p1 p2) := by
  obtain ⟨⟨g0, g1, g2⟩, hs, hd⟩ := single_table k hk
  rw [unham24p_xor hv h0 g0 g1 g2 h1 h2, hs, hd, Nat.xor_zero]
  rfl

theorem unham24_single_corrected (t : Nat × Nat × Nat) (ht : IsTriplet t)
    (hs : triSyn t.1 t.2.1 t.2.2 = 0) (k : Nat) (hk : k < 24) :
    unham24t (flip24 t k) = some (triD t.1 t.2.1 t.2.2) := by
  rw [flip24_eq]
  exact unham24p_pat hs ht.1 k hk (fun _ => ht.2.1) (fun _ => ht.2.2)

/-- the same for a bit of the first / second / third byte; an undisturbed second or third byte need not be a byte -/
theorem unham24p_single0 (p0 p1 p2 : Nat) (h0 : p0 < 256) (hv : triSyn p0 p1 p2 = 0)
    (k : Nat) (hk : k < 8) : unham24p (p0 ^^^ 1 <<< k) p1 p2 = some (triD p0 p1 p2) := by
  have e := (pat_eq k hk).1
  have := unham24p_pat hv h0 k (by omega) (by rw [e]; exact absurd rfl) (by rw [e]; exact absurd rfl)
  rwa [e, Nat.xor_zero, Nat.xor_zero] at this

theorem unham24p_single1 (p0 p1 p2 : Nat) (h0 : p0 < 256) (h1 : p1 < 256) (hv : triSyn p0 p1 p2 = 0)
    (k : Nat) (hk : k < 8) : unham24p p0 (p1 ^^^ 1 <<< k) p2 = some (triD p0 p1 p2) := by
  have e := (pat_eq k hk).2.1
  have := unham24p_pat hv h0 (8 + k) (by omega) (fun _ => h1) (by rw [e]; exact absurd rfl)
  rwa [e, Nat.xor_zero, Nat.xor_zero] at this

theorem unham24p_single2 (p0 p1 p2 : Nat) (h0 : p0 < 256) (h2 : p2 < 256) (hv : triSyn p0 p1 p2 = 0)
    (k : Nat) (hk : k < 8) : unham24p p0 p1 (p2 ^^^ 1 <<< k) = some (triD p0 p1 p2) := by
  have e := (pat_eq k hk).2.2
  have := unham24p_pat hv h0 (16 + k) (by omega) (by rw [e]; exact absurd rfl) (fun _ => h2)
  rwa [e, Nat.xor_zero, Nat.xor_zero] at this

/-- Two flipped bits in a zero-syndrome triplet are detected (`vbi_unham24p` < 0), never
    miscorrected. -/
theorem unham24_double_detected (t : Nat × Nat × Nat) (ht : IsTriplet t)
    (hs : triSyn t.1 t.2.1 t.2.2 = 0) (j k : Nat) (hj : j < 24) (hk : k < 24) (hne : j ≠ k) :
    unham24t (flip24 (flip24 t j) k) = none := by
  obtain ⟨h0, h1, h2⟩ := ht
  obtain ⟨⟨a0, a1, a2⟩, _⟩ := single_table j hj
  obtain ⟨⟨c0, c1, c2⟩, _⟩ := single_table k hk
  rw [flip24_eq, flip24_eq]
  simp only [unham24t, Nat.xor_assoc]
  rw [unham24p_xor hs h0 (Nat.xor_lt_two_pow (n := 8) a0 c0) (Nat.xor_lt_two_pow (n := 8) a1 c1)
    (Nat.xor_lt_two_pow (n := 8) a2 c2) (fun _ => h1) (fun _ => h2), double_table j hj k hk hne]
  rfl

end Zvbi.Hamm
