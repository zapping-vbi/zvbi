import ZvbiModel.Hamm.Model
/-!
# Facts about the bit-reverse, Hamming 8/4 and parity tables
All are `decide` over the complete table (a proof, the quantifier is finite).
-/
namespace Zvbi.Hamm
open Zvbi.Gen

/-- bit reversal of a byte, bit by bit: what the generated table is meant to hold (`rev8_spec`) -/
def revBits8 (c : Nat) : Nat :=
  (List.range 8).foldl (fun acc k => acc ||| (((c >>> k) &&& 1) <<< (7 - k))) 0

theorem rev8_spec : ∀ c < 256, rev8 c = revBits8 c := by decide +kernel
theorem rev8_involutive : ∀ c < 256, rev8 (rev8 c) = c := by decide +kernel
theorem rev8_lt : ∀ c < 256, rev8 c < 256 := by decide +kernel

theorem ham8_lt : ∀ n < 16, ham8 n < 256 := by decide +kernel
theorem unham8_ham8 : ∀ n < 16, unham8 (ham8 n) = some n := by decide +kernel
/-- one flipped bit of a Hamming 8/4 codeword is corrected -/
theorem unham8_single : ∀ n < 16, ∀ k < 8, unham8 (ham8 n ^^^ (1 <<< k)) = some n := by
  decide +kernel
/-- two flipped bits are detected, never miscorrected -/
theorem unham8_double : ∀ n < 16, ∀ j < 8, ∀ k < 8, j ≠ k →
    unham8 (ham8 n ^^^ (1 <<< j) ^^^ (1 <<< k)) = none := by decide +kernel
/-- `vbi_unham8` returns a nibble; it looks only at the low byte of its argument -/
theorem unham8_lt16 (c v : Nat) (h : unham8 c = some v) : v < 16 := by
  have t : ∀ c < 256, (unham8 c).all (· < 16) = true := by decide +kernel
  have e : unham8 (c % 256) = some v := by unfold unham8 at h ⊢; rwa [Nat.mod_mod]
  simpa [e] using t (c % 256) (Nat.mod_lt _ (by decide))
theorem unham8_range : ∀ c < 256, ∀ v, unham8 c = some v → v < 16 := fun c _ v h => unham8_lt16 c v h
theorem unham16p_eq_none (p0 p1 : Nat) : unham16p p0 p1 = none ↔ (unham8 p0 = none ∨ unham8 p1 = none) := by
  unfold unham16p
  cases unham8 p0 <;> cases unham8 p1 <;> simp
theorem unham16p_some {p0 p1 t : Nat} (h : unham16p p0 p1 = some t) :
    unham8 p0 ≠ none ∧ unham8 p1 ≠ none :=
  not_or.1 fun hn => by rw [(unham16p_eq_none p0 p1).2 hn] at h; cases h
/-- a byte sent as two Hamming 8/4 nibbles, low nibble first, comes back from `vbi_unham16p` -/
theorem unham16p_ham8 : ∀ v < 256, unham16p (ham8 (v &&& 15)) (ham8 (v >>> 4)) = some v := by
  decide +kernel

/-- number of one bits of a byte, mod 2 -/
def parityBit (c : Nat) : Nat := (List.range 8).foldl (fun acc k => acc ^^^ ((c >>> k) &&& 1)) 0

theorem oddPar_spec : ∀ c < 256, oddPar c = (parityBit c == 1) := by decide +kernel
theorem unpar8_par8 : ∀ c < 128, unpar8 (par8 c) = some c := by decide +kernel
theorem par8_low : ∀ c < 256, par8 c &&& 127 = c &&& 127 := by decide +kernel
/-- one flipped bit in an odd-parity byte is detected -/
theorem unpar8_single : ∀ c < 256, oddPar c = true → ∀ k < 8, unpar8 (c ^^^ (1 <<< k)) = none := by
  decide +kernel
theorem unpar8_some : ∀ c < 256, ∀ v, unpar8 c = some v → v = c &&& 127 ∧ oddPar c = true := by
  intro c _ v h
  unfold unpar8 at h
  split at h
  · simp_all
  · simp at h

end Zvbi.Hamm
