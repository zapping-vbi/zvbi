import ZvbiModel.Util.Bits
/-!
# XOR-affine functions of n-bit inputs

`XLin n f`: `f (a ^^^ b) = f a ^^^ f b ^^^ f 0` for all `a b < 2^n` (affine over GF(2)).
* `bit_induction`: a predicate that holds at 0 and is preserved by flipping any one of the low
  `n` bits holds for every `c < 2^n` (structural: induction on `n`, no enumeration).
* `xlin_of_flip`: a function whose value changes by a constant when one input bit flips is `XLin`
  (this is how a 256-entry table becomes affine from a `256 x 8` table fact).
* `xlin_ext`: two `XLin` functions that agree at 0 and at the `n` unit vectors agree on all of
  `2^n` inputs.
* closure under xor, composition, shift-and-mask of the value, shift left; constants and the identity.
-/
namespace Zvbi.Hamm

theorem xor_two_pow_of_lt {b i : Nat} (h : b < 2 ^ i) : b ^^^ 2 ^ i = 2 ^ i + b := by
  rw [← Bits.or_eq_xor_of_and_zero _ _ ((Bits.and_two_pow_eq_zero b i).2 (Nat.testBit_lt_two_pow h)), Nat.or_comm,
    ← Nat.mul_one (2 ^ i), Nat.two_pow_add_eq_or_of_lt h 1]

/-- every `c < 2^n` is reached from 0 by flipping bits below `n` -/
theorem bit_induction (n : Nat) (P : Nat → Prop) (h0 : P 0)
    (hs : ∀ c, c < 2 ^ n → ∀ k, k < n → P c → P (c ^^^ 1 <<< k)) : ∀ c, c < 2 ^ n → P c := by
  have key : ∀ m, m ≤ n → ∀ c, c < 2 ^ m → P c := by
    intro m
    induction m with
    | zero => intro _ c hc; have : c = 0 := by simpa using hc
              subst this; exact h0
    | succ m ih =>
      intro hm c hc
      by_cases hlt : c < 2 ^ m
      · exact ih (by omega) c hlt
      · have hc' : c - 2 ^ m < 2 ^ m := by rw [Nat.pow_succ] at hc; omega
        have hp := ih (by omega) (c - 2 ^ m) hc'
        have hbig : c - 2 ^ m < 2 ^ n :=
          Nat.lt_of_lt_of_le hc' (Nat.pow_le_pow_right (by decide) (by omega))
        have := hs (c - 2 ^ m) hbig m (by omega) hp
        rw [Nat.shiftLeft_eq, Nat.one_mul, xor_two_pow_of_lt hc'] at this
        have e : 2 ^ m + (c - 2 ^ m) = c := by omega
        rw [e] at this; exact this
  exact key n (Nat.le_refl n)

def XLin (n : Nat) (f : Nat → Nat) : Prop :=
  ∀ a, a < 2 ^ n → ∀ b, b < 2 ^ n → f (a ^^^ b) = f a ^^^ f b ^^^ f 0

theorem one_shl_lt {k n : Nat} (h : k < n) : 1 <<< k < 2 ^ n := by
  rw [Nat.shiftLeft_eq, Nat.one_mul]; exact Nat.pow_lt_pow_right (by decide) h

theorem xlin_of_flip (n : Nat) (f : Nat → Nat)
    (h : ∀ a, a < 2 ^ n → ∀ k, k < n → f (a ^^^ 1 <<< k) = f a ^^^ (f (1 <<< k) ^^^ f 0)) : XLin n f := by
  intro a ha b hb
  revert a
  refine bit_induction n (fun b => ∀ a, a < 2 ^ n → f (a ^^^ b) = f a ^^^ f b ^^^ f 0) ?_ ?_ b hb
  · intro a _
    rw [Nat.xor_zero, Nat.xor_assoc, Nat.xor_self, Nat.xor_zero]
  · intro c hc k hk ih a ha
    have hac : a ^^^ c < 2 ^ n := Nat.xor_lt_two_pow ha hc
    rw [← Nat.xor_assoc, h (a ^^^ c) hac k hk, ih a ha, h c hc k hk]
    ac_rfl

theorem xlin_ext (n : Nat) (f g : Nat → Nat) (hf : XLin n f) (hg : XLin n g) (h0 : f 0 = g 0)
    (hb : ∀ k, k < n → f (1 <<< k) = g (1 <<< k)) : ∀ c, c < 2 ^ n → f c = g c := by
  refine bit_induction n (fun c => f c = g c) h0 ?_
  intro c hc k hk ih
  rw [hf c hc _ (one_shl_lt hk), hg c hc _ (one_shl_lt hk), ih, hb k hk, h0]

theorem xlin_xor {n : Nat} {f g : Nat → Nat} (hf : XLin n f) (hg : XLin n g) :
    XLin n (fun c => f c ^^^ g c) := by
  intro a ha b hb
  show f (a ^^^ b) ^^^ g (a ^^^ b) = (f a ^^^ g a) ^^^ (f b ^^^ g b) ^^^ (f 0 ^^^ g 0)
  rw [hf a ha b hb, hg a ha b hb]
  ac_rfl

theorem xlin_comp {n m : Nat} {f g : Nat → Nat} (hf : XLin n f) (hfb : ∀ a, a < 2 ^ n → f a < 2 ^ m)
    (hg : XLin m g) : XLin n (fun c => g (f c)) := by
  intro a ha b hb
  have fa := hfb a ha; have fb := hfb b hb; have f0 := hfb 0 (Nat.two_pow_pos n)
  show g (f (a ^^^ b)) = g (f a) ^^^ g (f b) ^^^ g (f 0)
  rw [hf a ha b hb, hg _ (Nat.xor_lt_two_pow fa fb) _ f0, hg _ fa _ fb]
  have c (x y z : Nat) : x ^^^ z ^^^ y ^^^ z = x ^^^ y ^^^ (z ^^^ z) := by ac_rfl
  rw [c, Nat.xor_self, Nat.xor_zero]

theorem xlin_const (n k : Nat) : XLin n (fun _ => k) := fun _ _ _ _ => by simp
theorem xlin_id (n : Nat) : XLin n (fun c => c) := fun _ _ _ _ => (Nat.xor_zero _).symm

theorem xlin_field {n : Nat} {f : Nat → Nat} (hf : XLin n f) (s m : Nat) : XLin n (fun c => (f c >>> s) &&& m) := by
  intro a ha b hb
  show (f (a ^^^ b) >>> s) &&& m = _
  rw [hf a ha b hb, Nat.shiftRight_xor_distrib, Nat.shiftRight_xor_distrib, Nat.and_xor_distrib_right,
    Nat.and_xor_distrib_right]

theorem xlin_shl {n : Nat} {f : Nat → Nat} (hf : XLin n f) (s : Nat) : XLin n (fun c => f c <<< s) := by
  intro a ha b hb
  show f (a ^^^ b) <<< s = _
  rw [hf a ha b hb, Nat.shiftLeft_xor_distrib, Nat.shiftLeft_xor_distrib]

end Zvbi.Hamm
