/-!
# Rules for conditionals

The models are long `if` chains.  What holds of both branches holds of the conditional: `ite_ind`, and `ite_both` when the
branches do not need the condition.  A proof about a chain is a chain of these two: the goal is never rewritten and the
condition never evaluated.  With a goal `Safe P (if ..)` or `Yields P (if ..)` (`Safe.lean`, `Yields.lean`) the same two walk
a checked model; `Log.ite` is `ite_ind` for `∀ a ∈ (if ..), P a`, `ite_lt` for `(if ..) < n`.  `ite_rel` walks two
conditionals in step; `of_ite_some` reads the guard off a result.
-/
namespace Zvbi

theorem ite_ind {α : Sort _} {P : α → Prop} {c : Prop} [Decidable c] {a b : α} (ha : c → P a) (hb : ¬c → P b) :
    P (if c then a else b) := by
  by_cases h : c
  · rw [if_pos h]; exact ha h
  · rw [if_neg h]; exact hb h

theorem ite_both {α : Sort _} {P : α → Prop} {c : Prop} [Decidable c] {a b : α} (ha : P a) (hb : P b) :
    P (if c then a else b) := ite_ind (fun _ => ha) fun _ => hb

/-- `ite_ind` at an upper bound (`?P (if ..)` does not unify with `(if ..) < n`) -/
theorem ite_lt {n : Nat} {p : Prop} [Decidable p] {a b : Nat} (ha : p → a < n) (hb : ¬p → b < n) : (if p then a else b) < n :=
  ite_ind (P := (· < n)) ha hb

/-- Two conditionals walked in step: conditions that agree, branches related pairwise. With the same condition on both
sides `h` is `Iff.rfl`; for equality of the two sides core's `ite_congr` does. -/
theorem ite_rel {α β : Sort _} {R : α → β → Prop} {c c' : Prop} [Decidable c] [Decidable c'] {a b : α} {a' b' : β}
    (h : c ↔ c') (ha : c → R a a') (hb : ¬c → R b b') : R (if c then a else b) (if c' then a' else b') := by
  by_cases hc : c
  · rw [if_pos hc, if_pos (h.1 hc)]; exact ha hc
  · rw [if_neg hc, if_neg (mt h.2 hc)]; exact hb hc

/-- A guarded `Option` that returned: the guard held (for the models' `if guard then some .. else none`). -/
theorem of_ite_some {α : Type _} {c : Prop} [Decidable c] {o : Option α} {r : α} (h : (if c then o else none) = some r) :
    c ∧ o = some r := by
  split at h
  · exact ⟨‹c›, h⟩
  · cases h

end Zvbi
