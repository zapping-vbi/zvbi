import ZvbiModel.Cc.Bytes
/-!
# Refinement to `Eia608` at the byte level (field 1, CC1): pop-on caption streams, roll-up and paint-on scripts
-/
namespace Zvbi.Cc
open Zvbi.Gen.Cc Eia608
open Zvbi.Hamm (par8 unpar8)

/-! ## pop-on caption streams as byte pairs (field 1, CC1) from the fresh decoder -/
theorem specRun_isText (cs : List Nat) : ∀ v : Service, (specRun v cs).isText = v.isText := by
  induction cs with
  | nil => intro v; rfl
  | cons c rest ih => intro v; show (specRun (v.putChar _) rest).isText = _; rw [ih, (spec_putChar_rest v _).2.1]

theorem exec_isText (v : Service) (cmd : Cmd) : (v.exec cmd).isText = v.isText := by
  cases cmd <;> unfold Service.exec <;> simp only []
  all_goals (repeat' split)
  all_goals first
    | rfl
    | exact (spec_putChar_rest _ _).2.1
    | (unfold Service.setTarget; split <;> rfl)


/-- both decoders with CC1 selected on field 1; the channel and the reference service are related by `Rel` -/
def SimCC1 (Rel : Channel → Service → Prop) (s : St) (t : Eia608.St) : Prop :=
  ∃ ch v, Lift s ch ∧ SLift t v ∧ t.f1.cur = some (false, 0) ∧ v.isText = false ∧ Rel ch v

theorem visible_of_page {s : St} {t : Eia608.St} {ch : Channel} {v : Service} (L : Lift s ch) (SL : SLift t v)
    (hcap : v.isText = false) (pm : pageMatches ch v) : modelVisible s 0 = some (t.visible 0) := by
  unfold modelVisible Eia608.St.visible
  rw [L.get, SL.get]
  simp only [Option.map_some]
  unfold pageMatches at pm
  rw [pm, hcap]

theorem sim_text_pair {s : St} {t : Eia608.St} {ch : Channel} {v : Service} (L : Lift s ch) (SL : SLift t v)
    (hcur : t.f1.cur = some (false, 0)) (hcap : v.isText = false) (hmode : ch.mode ≠ .none) {a b : Nat} (ha : 0x20 ≤ a)
    (ha' : a < 0x80) (hbb : b = 0 ∨ (0x20 ≤ b ∧ b < 0x80)) {Rel : Channel → Service → Prop}
    (hstep : Rel (charRun { ch with nulCt := 0 } (pairCodes a b)) (specRun v (pairCodes a b))) :
    SimCC1 Rel (feed s (txt a b)) (sfeed t (txt a b)) := by
  obtain ⟨SL', hcur'⟩ := spec_text SL hcur ha ha' hbb
  exact ⟨_, _, lift_text L hmode ha ha' hbb, SL', hcur', by rw [specRun_isText]; exact hcap, hstep⟩

/-- both decoders fed a doubled control pair for CC1 that libzvbi reads as the code `k` and the reference as the command `cmd` -/
theorem sim_ctl {s : St} {t : Eia608.St} {ch : Channel} {v : Service} (L : Lift s ch) (SL : SLift t v) (hcap : v.isText = false)
    {c1 c2 : Nat} (h1 : 0x10 ≤ c1) (h1' : c1 < 0x18) (h2 : c2 < 128) {k : Ctl} (hk : k.codes c1 c2)
    (ht : ∀ f, k.effect 0 c1 c2 ≠ .switch true f) {cmd : Cmd} (hd : decodeCmd c1 c2 = some (0, cmd))
    (hcls : cmd.selectsCaption = true ∨ (t.f1.cur = some (false, 0) ∧ cmd ≠ .tr ∧ cmd ≠ .rtd))
    {Rel : Channel → Service → Prop} (hstep : Rel ((k.effect 0 c1 c2).onCC1 ch) (v.exec cmd)) :
    SimCC1 Rel (feed s (ctl c1 c2)) (sfeed t (ctl c1 c2)) := by
  obtain ⟨SL', hcur'⟩ := spec_ctl_twice SL h1 (by omega) h2 hd hcls
  exact ⟨_, _, lift_ctl L h1 h1' h2 hk ht, SL', hcur', by rw [exec_isText]; exact hcap, hstep⟩

theorem sim_pac_pair {s : St} {t : Eia608.St} {ch : Channel} {v : Service} (L : Lift s ch) (SL : SLift t v)
    (hcur : t.f1.cur = some (false, 0)) (hcap : v.isText = false) {lo c2 : Nat} (h1 : lo < 8) (h2 : c2 < 128) (h3 : 0x40 ≤ c2)
    {r ind : Nat} {col : Option Nat} {u : Bool} (ha : pacArgs lo c2 = some (r, ind, col, u)) {Rel : Channel → Service → Prop}
    (hstep : Rel (pac ch 0 lo c2) (v.exec (.pac r ind col u))) :
    SimCC1 Rel (feed s (ctl (0x10 + lo) c2)) (sfeed t (ctl (0x10 + lo) c2)) := by
  have key : ∀ lo < 8, (0x10 + lo) &&& 7 = lo := by decide
  exact sim_ctl L SL hcap (by omega) (by omega) h2 (k := .preamble) h3 (fun _ => nofun) (cmd := .pac r ind col u)
    (by rw [decodeCmd_pac1 lo h1 c2, decodeCmd_pac lo h1 c2 h2 h3, ha]; rfl) (Or.inr ⟨hcur, nofun, nofun⟩)
    (by show Rel (pac ch 0 ((0x10 + lo) &&& 7) c2) _; rw [key lo h1]; exact hstep)

/-- both decoders while a pop-on caption for CC1 is being loaded -/
def SimPop (s : St) (t : Eia608.St) (cu : Bool) : Prop := SimCC1 (fun ch v => PopRelC ch v cu) s t

/-- both decoders between captions -/
def SimIdle (s : St) (t : Eia608.St) : Prop :=
  ∃ ch v, Lift s ch ∧ SLift t v ∧ v.isText = false ∧ IdleRel ch v

/-- well-formed body op at the byte level, judged on the reference decoder's CC1 service -/
def BOp.ok (t : Eia608.St) (cu : Bool) (op : BOp) : Prop :=
  op.bytesOk ∧ ∃ v, t.svc[0]? = some v ∧ op.toPOp.okPop v cu

def bopsOk : Eia608.St → Bool → List BOp → Prop
  | _, _, [] => True
  | t, cu, op :: rest => op.ok t cu ∧ bopsOk (sfeed t op.enc) (op.toPOp.cursorAfter cu) rest

theorem bop_step {s : St} {t : Eia608.St} {cu : Bool} (S : SimPop s t cu) (op : BOp) (hok : op.ok t cu) :
    SimPop (feed s op.enc) (sfeed t op.enc) (op.toPOp.cursorAfter cu) := by
  obtain ⟨ch, v, L, SL, hcur, hcap, P⟩ := S
  obtain ⟨hb, v', hv', hokp⟩ := hok
  rw [SL.get] at hv'; cases hv'
  cases op with
  | pac lo c2 =>
    obtain ⟨h1, h2, h3, r, ind, col, u, ha, he⟩ := hokp
    have hstep := popOp_step P (chan := 0) (by omega) (.pac lo c2) ⟨h1, h2, h3, r, ind, col, u, ha, he⟩
    have : paintOpSpec v (.pac lo c2) = v.exec (.pac r ind col u) := by unfold paintOpSpec; simp only [ha]
    exact sim_pac_pair L SL hcur hcap h1 h2 h3 ha (this ▸ hstep)
  | pair a b =>
    obtain ⟨ha, ha', hbb⟩ := hb
    obtain ⟨hc, hw, hl⟩ := hokp
    subst hc
    exact sim_text_pair L SL hcur hcap (by rw [P.rel.mode]; decide) ha ha' hbb
      (popOp_step (P.nul 0) (chan := 0) (by omega) (.text (pairCodes a b)) ⟨rfl, hw, hl⟩)

/-- the byte pairs of one pop-on caption for CC1: `RCL RCL ENM ENM <body> EOC EOC` -/
def encCaption (ops : List BOp) : List (Bool × Nat × Nat) :=
  ctl 0x14 0x20 ++ (ctl 0x14 0x2E ++ (ops.flatMap BOp.enc ++ ctl 0x14 0x2F))

def captionOkB (t : Eia608.St) (ops : List BOp) : Prop :=
  bopsOk (sfeed (sfeed t (ctl 0x14 0x20)) (ctl 0x14 0x2E)) false ops

theorem caption_bytes {s : St} {t : Eia608.St} (S : SimIdle s t) (ops : List BOp) (hok : captionOkB t ops) :
    SimIdle (feed s (encCaption ops)) (sfeed t (encCaption ops)) := by
  obtain ⟨ch, v, L, SL, hcap, I⟩ := S
  unfold encCaption
  rw [feed_append, sfeed_append, feed_append, sfeed_append, feed_append, sfeed_append]
  obtain ⟨_, _, L1, SL1, cur1, cap1, rfl, rfl⟩ :=
    sim_ctl L SL hcap (c1 := 0x14) (c2 := 0x20) (by omega) (by omega) (by omega) (k := .rcl) (by simp [Ctl.codes, isMisc])
      (fun _ => nofun) (cmd := .rcl) (by decide) (Or.inl rfl)
      (Rel := fun x w => x = rclModel ch ∧ w = v.exec .rcl) ⟨rfl, rfl⟩
  have S0 : SimPop _ _ false :=
    sim_ctl L1 SL1 cap1 (c1 := 0x14) (c2 := 0x2E) (by omega) (by omega) (by omega) (k := .enm) (by simp [Ctl.codes, isMisc])
      (fun _ => nofun) (cmd := .enm) (by decide) (Or.inr ⟨cur1, nofun, nofun⟩)
      ⟨rcl_enm_step I, fun h => by cases h⟩
  rw [feed_flatMap, sfeed_flatMap]
  obtain ⟨cu', ch3, v3, L3, SL3, cur3, cap3, P3⟩ := foldl_sim_end (fun s op => feed s op.enc) (fun t op => sfeed t op.enc)
    (fun cu x y => SimPop x y cu) (fun cu t => bopsOk t cu) (fun _ _ _ op _ S h => ⟨_, bop_step S op h.1, h.2⟩) ops false _ _ S0 hok
  obtain ⟨_, _, L4, SL4, _, cap4, I4⟩ :=
    sim_ctl L3 SL3 cap3 (c1 := 0x14) (c2 := 0x2F) (by omega) (by omega) (by omega) (k := .eoc) (by simp [Ctl.codes, isMisc])
      (fun _ => nofun) (cmd := .eoc) (by decide) (Or.inl rfl)
      (Rel := IdleRel)
      (by show IdleRel (endOfCaption (wordBreak ch3 true)) _; rw [eoc_after_switch P3.rel]; exact (eoc_step P3.rel).1)
  exact ⟨_, _, L4, SL4, cap4, I4⟩


/-- in an idle state the page fetched for CC1 is the page the reference decoder makes visible for CC1 -/
theorem visible_of_simIdle {s : St} {t : Eia608.St} (S : SimIdle s t) : modelVisible s 0 = some (t.visible 0) := by
  obtain ⟨ch, v, L, SL, hcap, I⟩ := S
  exact visible_of_page L SL hcap I.page

def streamOkB : Eia608.St → List (List BOp) → Prop
  | _, [] => True
  | t, c :: rest => captionOkB t c ∧ streamOkB (sfeed t (encCaption c)) rest

theorem stream_bytes (caps : List (List BOp)) : ∀ {s : St} {t : Eia608.St}, SimIdle s t → streamOkB t caps →
    ∀ n, n ≤ caps.length →
      SimIdle (feed s ((caps.take n).flatMap encCaption)) (sfeed t ((caps.take n).flatMap encCaption)) := by
  intro s t S hok n hn
  cases n with
  | zero => exact S
  | succ k =>
    rw [feed_flatMap, sfeed_flatMap]
    exact (foldl_sim (fun s c => feed s (encCaption c)) (fun t c => sfeed t (encCaption c)) (fun _ => true)
      (fun (_ : Unit) => SimIdle) SimIdle (fun _ => streamOkB)
      (fun _ _ _ c _ S h => ⟨(), caption_bytes S c h.1, h.2, fun _ => caption_bytes S c h.1⟩) caps () s t S hok).2
      (k + 1) (by omega) hn rfl

theorem init_simIdle : SimIdle init Eia608.init := by
  obtain ⟨ch, hget, I⟩ := init_idle 0 (by omega)
  exact ⟨ch, Service.init false, ⟨init_inv, rfl, rfl, hget⟩, ⟨rfl, rfl⟩, rfl, I⟩


theorem RollRel.nul {ch : Channel} {v : Service} {n : Nat} {sy : Bool} (R : RollRel ch v n sy) (k : Nat) :
    RollRel { ch with nulCt := k } v n sy := by
  obtain ⟨i, ix, m, rl, vm, n2, n4, b, vb, rows, cur, sync⟩ := R
  obtain ⟨lead, c0, xs, Q, sy'⟩ := cur
  exact ⟨i.withNul k, ix, m, rl, vm, n2, n4, b, vb, rows,
    ⟨lead, c0, xs, ⟨Q.R.transfer rfl rfl rfl (fun _ _ => rfl), Q.S, Q.vrow, Q.vcol, Q.pen, Q.vmode⟩, sy'⟩, sync⟩

theorem PaintRel.nul {ch : Channel} {v : Service} {sy cu : Bool} (P : PaintRel ch v sy cu) (k : Nat) :
    PaintRel { ch with nulCt := k } v sy cu := by
  obtain ⟨i, ix, m, vm, rows, fresh, cur, sync, cursor⟩ := P
  obtain ⟨lead, c0, xs, R, S, sy'⟩ := cur
  exact ⟨i.withNul k, ix, m, vm, rows, fresh, ⟨lead, c0, xs, R.transfer rfl rfl rfl (fun _ _ => rfl), S, sy'⟩, sync, cursor⟩

/-! ## roll-up -/

/-- both decoders in roll-up mode on CC1 -/
def SimRoll (s : St) (t : Eia608.St) (n : Nat) (sy : Bool) : Prop := SimCC1 (fun ch v => RollRel ch v n sy) s t

theorem visible_of_simRoll {s : St} {t : Eia608.St} {n : Nat} (S : SimRoll s t n true) :
    modelVisible s 0 = some (t.visible 0) := by
  obtain ⟨ch, v, L, SL, _, hcap, R⟩ := S
  exact visible_of_page L SL hcap R.page

/-- byte-level op of a roll-up script: a text pair, or CR sent twice -/
inductive RBOp
  | pair (a b : Nat)
  | cr

def RBOp.enc : RBOp → List (Bool × Nat × Nat)
  | .pair a b => txt a b
  | .cr => ctl 0x14 0x2D

def RBOp.toROp : RBOp → ROp
  | .pair a b => .text (pairCodes a b)
  | .cr => .cr

def RBOp.ok (t : Eia608.St) : RBOp → Prop
  | .pair a b => 0x20 ≤ a ∧ a < 0x80 ∧ (b = 0 ∨ (0x20 ≤ b ∧ b < 0x80)) ∧
      ∃ v, t.svc[0]? = some v ∧ v.col + (pairCodes a b).length ≤ 33
  | .cr => True

def rbopsOk : Eia608.St → List RBOp → Prop
  | _, [] => True
  | t, op :: rest => op.ok t ∧ rbopsOk (sfeed t op.enc) rest

theorem pairCodes_ok {a b : Nat} (ha : 0x20 ≤ a) (ha' : a < 0x80) (hb : b = 0 ∨ (0x20 ≤ b ∧ b < 0x80)) :
    pairCodes a b ≠ [] ∧ ∀ ci ∈ pairCodes a b, isCharCode ci = true := by
  unfold pairCodes isCharCode
  rcases hb with hb | hb
  · subst hb; simp; omega
  · have : b ≠ 0 := by omega
    simp [this]; omega

theorem rbop_step {s : St} {t : Eia608.St} {n : Nat} {sy : Bool} (S : SimRoll s t n sy) (op : RBOp) (hok : op.ok t) :
    SimRoll (feed s op.enc) (sfeed t op.enc) n op.toROp.visible := by
  obtain ⟨ch, v, L, SL, hcur, hcap, R⟩ := S
  cases op with
  | pair a b =>
    obtain ⟨ha, ha', hbb, v', hv', hl⟩ := hok
    rw [SL.get] at hv'; cases hv'
    obtain ⟨hne, hw⟩ := pairCodes_ok ha ha' hbb
    exact sim_text_pair L SL hcur hcap (by rw [R.mode]; decide) ha ha' hbb (text_roll (R.nul 0) (pairCodes a b) hne hw hl)
  | cr =>
    exact sim_ctl L SL hcap (c1 := 0x14) (c2 := 0x2D) (by omega) (by omega) (by omega) (k := .cr) (by simp [Ctl.codes, isMisc])
      (fun _ => nofun) (cmd := .cr) (by decide) (Or.inr ⟨hcur, nofun, nofun⟩)
      (cr_step R (by omega))

theorem rbops_refine (n : Nat) (ops : List RBOp) : ∀ {s : St} {t : Eia608.St} {sy : Bool}, SimRoll s t n sy → rbopsOk t ops →
    ∀ k, (hk0 : 0 < k) → (hk : k ≤ ops.length) → (ops[k - 1]'(by omega)).toROp.visible = true →
      modelVisible (feed s ((ops.take k).flatMap RBOp.enc)) 0 = some ((sfeed t ((ops.take k).flatMap RBOp.enc)).visible 0) := by
  intro s t sy S hok k hk0 hk hvis
  rw [feed_flatMap, sfeed_flatMap]
  exact (foldl_sim (fun s op => feed s op.enc) (fun t op => sfeed t op.enc) (fun op => op.toROp.visible)
    (fun b x y => SimRoll x y n b) (fun x y => modelVisible x 0 = some (y.visible 0)) (fun _ => rbopsOk)
    (fun _ _ _ op _ S h => ⟨_, rbop_step S op h.1, h.2, fun hv => visible_of_simRoll (hv ▸ rbop_step S op h.1)⟩)
    ops sy s t S hok).2 k hk0 hk hvis

/-- the RUx control byte -/
def ruByte (n : Nat) : Nat := 0x23 + n

/-- `RUn RUn [PAC PAC]` -/
def encRollStart (n : Nat) (pac : Option (Nat × Nat)) : List (Bool × Nat × Nat) :=
  ctl 0x14 (ruByte n) ++ (match pac with | some (lo, c2) => ctl (0x10 + lo) c2 | none => [])

theorem roll_start_bytes {s : St} {t : Eia608.St} (S : SimIdle s t) {n : Nat} (h2 : 2 ≤ n) (h4 : n ≤ 4)
    (pac : Option (Nat × Nat))
    (hp : ∀ lo c2, pac = some (lo, c2) → lo < 8 ∧ c2 < 128 ∧ 0x40 ≤ c2 ∧ (pacArgs lo c2).isSome) :
    SimRoll (feed s (encRollStart n pac)) (sfeed t (encRollStart n pac)) n true := by
  obtain ⟨ch, v, L, SL, hcap, I⟩ := S
  have hn : n = 2 ∨ n = 3 ∨ n = 4 := by omega
  have hk : Ctl.ru.codes 0x14 (ruByte n) ∧ (ruByte n &&& 7) - 3 = n ∧ decodeCmd 0x14 (ruByte n) = some (0, .ru n) := by
    rcases hn with rfl | rfl | rfl <;> exact ⟨by simp [Ctl.codes, ruByte], rfl, by decide⟩
  obtain ⟨_, _, L1, SL1, cur1, cap1, R1, B1⟩ :=
    sim_ctl L SL hcap (by omega) (by omega) (by unfold ruByte; omega) (k := .ru) hk.1 (fun _ => nofun) hk.2.2
      (Or.inl rfl) (Rel := fun x w => RollRel x w n true ∧ AllBlank x w)
      (by
        show RollRel (ruModel ch ((ruByte n &&& 7) - 3)) _ n true ∧ AllBlank (ruModel ch ((ruByte n &&& 7) - 3)) _
        rw [hk.2.1]; exact ru_step I h2 h4)
  unfold encRollStart
  rw [feed_append, sfeed_append]
  cases hpac : pac with
  | none => exact ⟨_, _, L1, SL1, cur1, cap1, R1⟩
  | some p =>
    obtain ⟨lo, c2⟩ := p
    obtain ⟨a1, a2, a3, a4⟩ := hp lo c2 hpac
    cases ha : pacArgs lo c2 with
    | none => rw [ha] at a4; cases a4
    | some a =>
      obtain ⟨r, ind, col, u⟩ := a
      exact sim_pac_pair L1 SL1 cur1 cap1 a1 a2 a3 ha (pac_roll R1 B1 (chan := 0) (by omega) a1 a2 a3 ha).1


/-! ## paint-on -/

/-- both decoders in paint-on mode on CC1 -/
def SimPaint (s : St) (t : Eia608.St) (sy cu : Bool) : Prop := SimCC1 (fun ch v => PaintRel ch v sy cu) s t

theorem visible_of_simPaint {s : St} {t : Eia608.St} {cu : Bool} (S : SimPaint s t true cu) :
    modelVisible s 0 = some (t.visible 0) := by
  obtain ⟨ch, v, L, SL, _, hcap, P⟩ := S
  exact visible_of_page L SL hcap P.page

/-- well-formed paint-on op at the byte level (PAC rows empty in the reference DISPLAYED memory) -/
def BOp.okPaint (t : Eia608.St) (cu : Bool) (op : BOp) : Prop :=
  op.bytesOk ∧ ∃ v, t.svc[0]? = some v ∧ op.toPOp.ok v cu

def bopsOkPaint : Eia608.St → Bool → List BOp → Prop
  | _, _, [] => True
  | t, cu, op :: rest => op.okPaint t cu ∧ bopsOkPaint (sfeed t op.enc) (op.toPOp.cursorAfter cu) rest

theorem bop_paint_step {s : St} {t : Eia608.St} {sy cu : Bool} (S : SimPaint s t sy cu) (op : BOp) (hok : op.okPaint t cu) :
    SimPaint (feed s op.enc) (sfeed t op.enc) op.toPOp.visible (op.toPOp.cursorAfter cu) := by
  obtain ⟨ch, v, L, SL, hcur, hcap, P⟩ := S
  obtain ⟨hb, v', hv', hokp⟩ := hok
  rw [SL.get] at hv'; cases hv'
  cases op with
  | pac lo c2 =>
    obtain ⟨h1, h2, h3, r, ind, col, u, ha, he⟩ := hokp
    have hstep := paintOp_step P (chan := 0) (by omega) (.pac lo c2) ⟨h1, h2, h3, r, ind, col, u, ha, he⟩
    have : paintOpSpec v (.pac lo c2) = v.exec (.pac r ind col u) := by unfold paintOpSpec; simp only [ha]
    exact sim_pac_pair L SL hcur hcap h1 h2 h3 ha (this ▸ hstep)
  | pair a b =>
    obtain ⟨ha, ha', hbb⟩ := hb
    obtain ⟨hc, hne, hw, hl⟩ := hokp
    subst hc
    exact sim_text_pair L SL hcur hcap (by rw [P.mode]; decide) ha ha' hbb
      (paintOp_step (P.nul 0) (chan := 0) (by omega) (.text (pairCodes a b)) ⟨rfl, hne, hw, hl⟩)

theorem bops_paint_refine (ops : List BOp) : ∀ {s : St} {t : Eia608.St} {sy cu : Bool}, SimPaint s t sy cu →
    bopsOkPaint t cu ops →
    ∀ k, (hk0 : 0 < k) → (hk : k ≤ ops.length) → (ops[k - 1]'(by omega)).toPOp.visible = true →
      modelVisible (feed s ((ops.take k).flatMap BOp.enc)) 0 = some ((sfeed t ((ops.take k).flatMap BOp.enc)).visible 0) := by
  intro s t sy cu S hok k hk0 hk hvis
  rw [feed_flatMap, sfeed_flatMap]
  exact (foldl_sim (fun s op => feed s op.enc) (fun t op => sfeed t op.enc) (fun op => op.toPOp.visible)
    (fun (i : Bool × Bool) x y => SimPaint x y i.1 i.2) (fun x y => modelVisible x 0 = some (y.visible 0))
    (fun i t => bopsOkPaint t i.2)
    (fun i _ _ op _ S h => ⟨(op.toPOp.visible, op.toPOp.cursorAfter i.2), bop_paint_step S op h.1, h.2,
      fun hv => visible_of_simPaint (hv ▸ bop_paint_step S op h.1)⟩)
    ops (sy, cu) s t S hok).2 k hk0 hk hvis

theorem paint_start_bytes {s : St} {t : Eia608.St} (S : SimIdle s t)
    (hrow : ∀ ch v, s.chans[0]? = some ch → t.svc[0]? = some v → ∀ c, v.disp ch.row c = none) :
    SimPaint (feed s (ctl 0x14 0x29)) (sfeed t (ctl 0x14 0x29)) true false := by
  obtain ⟨ch, v, L, SL, hcap, I⟩ := S
  exact sim_ctl L SL hcap (by omega) (by omega) (by omega) (k := .rdc) (by simp [Ctl.codes, isMisc]) (fun _ => nofun)
    (cmd := .rdc) (by decide) (Or.inl rfl)
    (rdc_step I (hrow ch v L.get SL.get))

end Zvbi.Cc
