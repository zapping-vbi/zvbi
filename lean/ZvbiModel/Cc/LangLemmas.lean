import ZvbiModel.Cc.Lang
import ZvbiModel.Cc.SpecChars
/-!
# The table look-up of `vbi_caption_unicode`
-/
namespace Zvbi.Cc.Lang
open Zvbi.Cc Zvbi.Gen.CcLang Zvbi.Eia608

theorem look_isSome (t : List (Nat × Nat)) (c off : Nat) (up : Bool) (h1 : off ≤ c) (h2 : c - off < t.length) :
    (Lang.look t c off up).isSome = true := by
  unfold Lang.look
  rw [if_neg (by omega), List.getElem?_eq_getElem h2]
  rfl

theorem look_upper (t : List (Nat × Nat)) (ht : ∀ p ∈ t, p.2 = Chars.upper p.1) (c off : Nat) :
    Lang.look t c off true = (Lang.look t c off false).map Chars.upper := by
  unfold Lang.look
  split
  · rfl
  · cases h : t[c - off]? with
    | none => rfl
    | some p =>
      have := ht p (List.mem_of_getElem? h)
      simp [this]

theorem captionUnicode_cases (c : Nat) :
    (∀ up, Lang.captionUnicode c up = some 0) ∨
    ∃ t c' off, t ∈ [capBasic, capSpecial, capExt2, capExt3] ∧ off ≤ c' ∧ c' - off < t.length ∧
      ∀ up, Lang.captionUnicode c up = Lang.look t c' off up := by
  have l : capBasic.length = 96 ∧ capSpecial.length = 16 ∧ capExt2.length = 32 ∧ capExt3.length = 32 := by decide
  have e : basicHi = 128 ∧ basicLo = 32 ∧ basicOff = 32 ∧ splitHi = 4672 ∧ specialHi = 4416 ∧ specialLo = 4400 ∧
      specialOff = 4400 ∧ ext2Lo = 4640 ∧ ext2Off = 4640 ∧ ext3Hi = 4928 ∧ ext3Lo = 4896 ∧ ext3Off = 4896 := by decide
  obtain ⟨l1, l2, l3, l4⟩ := l
  obtain ⟨e1, e2, e3, e4, e5, e6, e7, e8, e9, e10, e11, e12⟩ := e
  unfold Lang.captionUnicode
  simp only []
  generalize Lang.clearMask c = m
  by_cases h1 : c < basicHi
  · by_cases h2 : c ≥ basicLo
    · exact Or.inr ⟨capBasic, c, basicOff, by simp, by omega, by omega, fun _ => by rw [if_pos h1, if_pos h2]⟩
    · exact Or.inl fun _ => by rw [if_pos h1, if_neg h2]
  · by_cases h3 : m < splitHi
    · by_cases h4 : m < specialHi ∧ m ≥ specialLo
      · exact Or.inr ⟨capSpecial, m, specialOff, by simp, by omega, by omega, fun _ => by rw [if_neg h1, if_pos h3, if_pos h4]⟩
      · by_cases h5 : m ≥ ext2Lo
        · exact Or.inr ⟨capExt2, m, ext2Off, by simp, by omega, by omega,
            fun _ => by rw [if_neg h1, if_pos h3, if_neg h4, if_pos h5]⟩
        · exact Or.inl fun _ => by rw [if_neg h1, if_pos h3, if_neg h4, if_neg h5]
    · by_cases h6 : m < ext3Hi ∧ m ≥ ext3Lo
      · exact Or.inr ⟨capExt3, m, ext3Off, by simp, by omega, by omega, fun _ => by rw [if_neg h1, if_neg h3, if_pos h6]⟩
      · exact Or.inl fun _ => by rw [if_neg h1, if_neg h3, if_neg h6]

end Zvbi.Cc.Lang
