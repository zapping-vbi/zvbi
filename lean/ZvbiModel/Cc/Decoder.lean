import ZvbiModel.Cc.Steps
import ZvbiModel.Util.Bits
/-!
# Decoder level: which channels a byte pair can touch, the de-duplication latch, the separation of the two fields

The invariant `Inv` of histories (`modCh_inv`); a byte pair as a program of state operations of its own field (`MOp`,
`decodePair_prog`, `decodePair_exec`), from which `decodePair_inv` and `Apart` / `decodePair_apart` (what a pair leaves alone)
are folded; the field-1 repetition latch (`decodePair_f1_control`); fetch, channel switch and `init_inv`; histories
(`foldl_inv`, `firstErr_none`).
-/
namespace Zvbi.Cc
open Zvbi.Gen.Cc

/-! ## the decoder state -/

/-- Invariant of the whole caption decoder: no recorded error, nine channels, each with `ChInv`. -/
structure Inv (s : St) : Prop where
  err : s.err = none
  len : s.chans.length = 9
  chs : ∀ ch ∈ s.chans, ChInv ch

theorem modCh_inv {s : St} (h : Inv s) {i : Nat} (hi : i < 9) {f : Channel → Channel}
    (hf : ∀ ch, ChInv ch → ChInv (f ch)) : Inv (s.modCh i f) := by
  unfold St.modCh
  have hlt : i < s.chans.length := by rw [h.len]; exact hi
  rw [List.getElem?_eq_getElem hlt]
  refine ⟨h.err, by simp [h.len], ?_⟩
  intro ch hch
  rcases List.mem_or_eq_of_mem_set hch with hm | he
  · exact h.chs ch hm
  · rw [he]; exact hf _ (h.chs _ (List.getElem_mem hlt))

/-- field 1 always reads `currChan` (the shared selector, or `curr_chan[0]`) -/
theorem curr_false (s : St) : s.curr false = s.currChan := by
  unfold St.curr; simp

/-- a channel number of field 1 (bit 1 clear) is stored in `currChan` -/
theorem setCurr_field1 (s : St) {n : Nat} (h : (n >>> 1) &&& 1 = 0) :
    (s.setCurr n).currChan = n ∧ (s.setCurr n).currChan2 = s.currChan2 := by
  unfold St.setCurr; simp [h]

theorem setCurr_chans (s : St) (n : Nat) : (s.setCurr n).chans = s.chans := by
  unfold St.setCurr; split <;> rfl

theorem setCurr_err (s : St) (n : Nat) : (s.setCurr n).err = s.err := by
  unfold St.setCurr; split <;> rfl

theorem setCurr_last_xds (s : St) (n : Nat) : (s.setCurr n).last0 = s.last0 ∧ (s.setCurr n).last1 = s.last1 ∧ (s.setCurr n).xds = s.xds := by
  unfold St.setCurr; split <;> exact ⟨rfl, rfl, rfl⟩

theorem switchChannel_inv {s : St} (h : Inv s) {chan : Nat} (hi : chan < 9) (new : Nat) :
    Inv (s.switchChannel chan new) := by
  unfold St.switchChannel
  have := modCh_inv h hi (f := fun ch => wordBreak ch true) (fun ch hc => wordBreak_inv hc true)
  exact ⟨by rw [setCurr_err]; exact this.err, by rw [setCurr_chans]; exact this.len, by rw [setCurr_chans]; exact this.chs⟩

theorem and3_lt (c : Nat) : c &&& 3 < 9 := by
  have : c &&& 3 ≤ 3 := Nat.and_le_right
  omega

theorem edmChan_lt {chan : Nat} (h : chan < 9) : edmChan chan < 9 := by
  unfold edmChan; split
  · exact and3_lt chan
  · exact h

/-- a caption channel number is its own EDM / ENM target -/
theorem edmChan_caption {chan : Nat} (h : chan < 4) : edmChan chan = chan := by
  unfold edmChan; split
  · have : ∀ c < 4, c &&& 3 = c := by decide
    exact this chan h
  · rfl

theorem switchTarget_lt {chan : Nat} (hc : chan < 8) (text : Bool) : (if text then chan ||| 4 else chan &&& 3) < 9 := by
  have : ∀ c < 8, c ||| 4 < 9 := by decide
  split
  · exact this chan hc
  · exact and3_lt chan

theorem Inv.congr {s s' : St} (h : Inv s) (he : s'.err = s.err) (hc : s'.chans = s.chans) : Inv s' :=
  ⟨by rw [he, h.err], by rw [hc, h.len], by rw [hc]; exact h.chs⟩

theorem xdsGate_some {s s' : St} {f : Bool} {b0 : Nat} (h : xdsGate s f b0 = some s') :
    s'.err = s.err ∧ s'.chans = s.chans ∧ ∀ f', s'.curr f' = s.curr f' := by
  rw [xdsGate_eq] at h
  cases hv : xdsVerdict s.xds f b0 <;> rw [hv] at h <;> cases h
  exact ⟨rfl, rfl, fun _ => rfl⟩

theorem Inv.clearLast {s : St} (h : Inv s) (f : Bool) : Inv (s.clearLast f) := by
  unfold St.clearLast; split
  · exact h.congr rfl rfl
  · exact h

/-! ## what a state change leaves alone -/

theorem fail_chans (s : St) (site : String) : (s.fail site).chans = s.chans := by
  unfold St.fail; split <;> rfl

theorem modCh_get_ne (s : St) {i j : Nat} (f : Channel → Channel) (h : i ≠ j) :
    (s.modCh j f).chans[i]? = s.chans[i]? := by
  unfold St.modCh
  split
  · simp [List.getElem?_set_ne (Ne.symm h)]
  · rw [fail_chans]

theorem modCh_get_eq (s : St) (i : Nat) (g : Channel → Channel) :
    (s.modCh i g).chans[i]? = (s.chans[i]?).map g := by
  unfold St.modCh
  split
  · rename_i ch h
    obtain ⟨hi, e⟩ := List.getElem?_eq_some_iff.mp h
    simp [hi, e]
  · rename_i h
    rw [fail_chans, h]; rfl

theorem modCh_get_same {s : St} {i : Nat} {ch : Channel} (f : Channel → Channel) (h : s.chans[i]? = some ch) :
    (s.modCh i f).chans[i]? = some (f ch) := by rw [modCh_get_eq, h]; rfl

theorem modCh_last_xds (t : St) (i : Nat) (g : Channel → Channel) :
    (t.modCh i g).last0 = t.last0 ∧ (t.modCh i g).last1 = t.last1 ∧ (t.modCh i g).xds = t.xds := by
  unfold St.modCh St.fail; repeat' split
  all_goals exact ⟨rfl, rfl, rfl⟩

theorem modCh_currs (t : St) (i : Nat) (f : Channel → Channel) :
    (t.modCh i f).currChan = t.currChan ∧ (t.modCh i f).currChan2 = t.currChan2 := by
  unfold St.modCh St.fail; repeat' split
  all_goals exact ⟨rfl, rfl⟩

theorem clearLast_chans (s : St) (f : Bool) : (s.clearLast f).chans = s.chans := by
  unfold St.clearLast; split <;> rfl

/-! ## bit arithmetic of the channel selector -/

theorem and_mod8 (x c : Nat) (hc : 7 &&& c = c) : x &&& c = (x % 8) &&& c := by
  have : x % 8 = x &&& 7 := (Nat.and_two_pow_sub_one_eq_mod x 3).symm
  rw [this, Nat.and_assoc, hc]

theorem sel_facts : ∀ m < 8, ∀ k < 2, ∀ f : Bool,
    let g := (if f then 2 else 0) + k
    let chan := (m &&& 4) + (if f then 2 else 0) + k
    (chan = g ∨ chan = g + 4) ∧ chan &&& 3 = g ∧ chan ||| 4 = g + 4 ∧
    ((m &&& 5) + (if f then 2 else 0) = (if f then 2 else 0) + (m &&& 1) ∨
     (m &&& 5) + (if f then 2 else 0) = (if f then 2 else 0) + (m &&& 1) + 4) := by decide

/-- data-channel group of a control pair: 2 * field + channel bit; the pair touches only
    caption channel `g` and text channel `g + 4` -/
theorem cmdChan_group (s : St) (c1 : Nat) (f2 : Bool) :
    let g := (if f2 then 2 else 0) + ((c1 >>> 3) &&& 1)
    (cmdChan s c1 f2 = g ∨ cmdChan s c1 f2 = g + 4) ∧ cmdChan s c1 f2 &&& 3 = g ∧ cmdChan s c1 f2 ||| 4 = g + 4 := by
  have hk : (c1 >>> 3) &&& 1 < 2 := by have : (c1 >>> 3) &&& 1 ≤ 1 := Nat.and_le_right; omega
  have hm : s.curr f2 % 8 < 8 := Bits.mod_lt _ _
  have := sel_facts _ hm _ hk f2
  unfold cmdChan
  rw [and_mod8 (s.curr f2) 4 rfl]
  exact ⟨this.1, this.2.1, this.2.2.1⟩

theorem textChan_group (cur : Nat) (f2 : Bool) :
    (cur &&& 5) + (if f2 then 2 else 0) = (if f2 then 2 else 0) + (cur &&& 1) ∨
    (cur &&& 5) + (if f2 then 2 else 0) = (if f2 then 2 else 0) + (cur &&& 1) + 4 := by
  have hm : cur % 8 < 8 := Bits.mod_lt _ _
  have := (sel_facts _ hm 0 (by decide) f2).2.2.2
  rw [and_mod8 cur 5 rfl, and_mod8 cur 1 rfl]
  exact this

/-- The data channel (field, channel bit) a byte pair belongs to: `2 * field + bit`, where the bit is
    bit 3 of a control code's first byte, and for text the bit of the latest mode command. -/
def pairGroup (s : St) (f2 : Bool) (b0 : Nat) : Nat :=
  (if f2 then 2 else 0) + (if isControl b0 then ((b0 &&& 0x7F) >>> 3) &&& 1 else s.curr f2 &&& 1)

theorem xdsConsumed_chans (s : St) (f : Bool) (b0 : Nat) : (xdsConsumed s f b0).chans = s.chans := by
  unfold xdsConsumed; simp only []; split <;> rfl

theorem modCh_curr (t : St) (i : Nat) (f : Channel → Channel) (g : Bool) : (t.modCh i f).curr g = t.curr g := by
  unfold St.curr; rw [(modCh_currs t i f).1, (modCh_currs t i f).2]

/-- storing a channel number of field `!g` does not change what field `g` reads -/
theorem setCurr_other (hpf : currChanPerField = true) (t : St) (n : Nat) (g : Bool)
    (hn : ((n >>> 1) &&& 1 == 1) = !g) : (t.setCurr n).curr g = t.curr g := by
  unfold St.setCurr St.curr
  rw [hpf, hn]
  cases g <;> simp

theorem clearLast_curr (s : St) (f g : Bool) : (s.clearLast f).curr g = s.curr g := by
  unfold St.clearLast; split <;> rfl

/-! ## a byte pair runs a short program of elementary steps of its own field

With one current channel per field (`currChanPerField = true`: `int curr_chan[2]`, read as `curr_chan[field2]`) the decoder
state falls into what field 1 owns - its selector, CC1 CC2 T1 T2, the repetition latch - and what field 2 owns - its selector,
CC3 CC4 T3 T4, the XDS gate.  `decodePair_prog`: whatever the bytes, a pair of field `f` executes a list of elementary
steps (`MOp`), each of which touches only what `f` owns, in fact only the two channels of the pair's data channel, and the
list depends on the state only through what `f` owns.  That the invariant is kept (`decodePair_inv`), what the pair leaves alone
(`decodePair_apart`) and that its effect on its own field reads nothing else (`decodePair_agree`, Proj.lean) are each one
statement about a single `MOp`, folded over the list.  With the shared selector (`currChanPerField = false`) `Apart.curr` fails:
`C08Paint.fields_independent_counterexample`.
-/

/-- channel index `i` (0..7) belongs to field `f`: CC1 CC2 T1 T2 = 0 1 4 5, CC3 CC4 T3 T4 = 2 3 6 7 -/
def inField (f : Bool) (i : Nat) : Prop := i < 8 ∧ (((i >>> 1) &&& 1 == 1) = f)

instance (f : Bool) (i : Nat) : Decidable (inField f i) := by unfold inField; infer_instance

theorem group_inField : ∀ k < 2, ∀ f : Bool,
    inField f ((if f then 2 else 0) + k) ∧ inField f ((if f then 2 else 0) + k + 4) := by decide

theorem pairGroup_field (s : St) (f : Bool) (b0 : Nat) :
    pairGroup s f b0 < 4 ∧ inField f (pairGroup s f b0) ∧ inField f (pairGroup s f b0 + 4) := by
  have hb : (if isControl b0 then ((b0 &&& 0x7F) >>> 3) &&& 1 else s.curr f &&& 1) < 2 := by
    have : ∀ x : Nat, x &&& 1 < 2 := fun x => Nat.lt_succ_of_le Nat.and_le_right
    split <;> exact this _
  unfold pairGroup
  generalize (if isControl b0 then ((b0 &&& 0x7F) >>> 3) &&& 1 else s.curr f &&& 1) = k at hb
  exact ⟨by cases f <;> simp <;> omega, group_inField k hb f⟩

/-- a channel of the other field is neither channel of a data channel of field `f` -/
theorem other_field_ne : ∀ g < 4, ∀ i < 8, ∀ f : Bool, (((i >>> 1) &&& 1 == 1) = !f) → ((g >>> 1) &&& 1 == 1) = f →
    i ≠ g ∧ i ≠ g + 4 := by decide

/-- the elementary state changes `vbi_decode_caption` is made of -/
inductive MOp
  | mod (i : Nat) (g : Channel → Channel)
  | curr (n : Nat)
  | last (a b : Nat)
  | last0
  | xds (x : Bool)

def MOp.run (s : St) : MOp → St
  | .mod i g => s.modCh i g
  | .curr n => s.setCurr n
  | .last a b => { s with last0 := a, last1 := b }
  | .last0 => { s with last0 := 0 }
  | .xds x => { s with xds := x }

def St.exec (s : St) (p : List MOp) : St := p.foldl MOp.run s

theorem St.exec_append (s : St) (p q : List MOp) : s.exec (p ++ q) = (s.exec p).exec q := List.foldl_append ..

/-- the step belongs to field `f`, data channel `g` (`g` = 2 * field + channel bit): it touches nothing but caption channel
    `g`, text channel `g + 4`, the selector of the field and - field 1 - the latch resp. - field 2 - the XDS gate; the channel
    functions it applies keep the channel invariant -/
def MOp.Own (f : Bool) (g : Nat) : MOp → Prop
  | .mod i h => (i = g ∨ i = g + 4) ∧ ∀ ch, ChInv ch → ChInv (h ch)
  | .curr n => n = g ∨ n = g + 4
  | .last _ _ | .last0 => f = false
  | .xds _ => f = true

def Effect.prog (chan : Nat) : Effect → List MOp
  | .skip => []
  | .on erase f => [.mod (if erase then edmChan chan else chan) f]
  | .switch text none => [.mod chan (fun ch => wordBreak ch true), .curr (if text then chan ||| 4 else chan &&& 3)]
  | .switch text (some f) =>
    [.mod chan (fun ch => wordBreak ch true), .curr (if text then chan ||| 4 else chan &&& 3),
     .mod (if text then chan ||| 4 else chan &&& 3) f]

theorem Effect.run_eq_exec (e : Effect) (chan : Nat) (s : St) : e.run chan s = s.exec (e.prog chan) := by
  match e with
  | .skip | .on _ _ | .switch _ none | .switch _ (some _) => rfl

theorem Effect.prog_own (e : Effect) {chan g : Nat} (f : Bool) (h1 : chan = g ∨ chan = g + 4) (h3 : chan &&& 3 = g)
    (h4 : chan ||| 4 = g + 4) (he : edmChan chan = g ∨ edmChan chan = g + 4) (hf : ∀ ch, ChInv ch → ChInv (e.fn ch)) :
    ∀ m ∈ e.prog chan, m.Own f g := by
  have hw : ∀ ch, ChInv ch → ChInv (wordBreak ch true) := fun ch h => wordBreak_inv h true
  have ht : ∀ text : Bool, (if text then chan ||| 4 else chan &&& 3) = g ∨ (if text then chan ||| 4 else chan &&& 3) = g + 4 :=
    fun text => by cases text <;> simp [h3, h4]
  match e, hf with
  | .skip, _ => intro m hm; cases hm
  | .on false k, hf => intro m hm; simp only [Effect.prog, List.mem_singleton] at hm; subst hm; exact ⟨h1, hf⟩
  | .on true k, hf => intro m hm; simp only [Effect.prog, List.mem_singleton] at hm; subst hm; exact ⟨he, hf⟩
  | .switch text none, _ =>
    intro m hm; simp only [Effect.prog, List.mem_cons, List.not_mem_nil, or_false] at hm
    rcases hm with rfl | rfl
    · exact ⟨h1, hw⟩
    · exact ht text
  | .switch text (some k), hf =>
    intro m hm; simp only [Effect.prog, List.mem_cons, List.not_mem_nil, or_false] at hm
    rcases hm with rfl | rfl | rfl
    · exact ⟨h1, hw⟩
    · exact ht text
    · exact ⟨ht text, hf⟩

theorem clearLast_eq_exec (t : St) (f : Bool) : t.clearLast f = t.exec (if f then [] else [.last0]) := by
  cases f <;> rfl

/-- behind the XDS gate: the value of `pairAct` depends on the state through the latch only, and each of its four shapes
    is a program of at most three operations of the pair's field and data channel -/
theorem decodeMain_prog (s : St) (f : Bool) (b0 b1 : Nat) :
    ∃ p : List MOp, (∀ m ∈ p, m.Own f (pairGroup s f b0)) ∧
      ∀ t : St, t.curr f = s.curr f → (f = false → t.last0 = s.last0 ∧ t.last1 = s.last1) →
        decodeMain t f b0 b1 = t.exec p := by
  have ep : ∀ t : St, (f = false → t.last0 = s.last0 ∧ t.last1 = s.last1) → pairAct t f b0 b1 = pairAct s f b0 b1 := by
    intro t hl; unfold pairAct
    cases f
    · rw [(hl rfl).1, (hl rfl).2]
    · rfl
  have hlast : ∀ m ∈ (if f then [] else [MOp.last0]), m.Own f (pairGroup s f b0) := by
    intro m hm; cases f
    · simp only [Bool.false_eq_true, if_false, List.mem_singleton] at hm; subst hm; rfl
    · cases hm
  have htext : isControl b0 = false → textIdx s f = pairGroup s f b0 ∨ textIdx s f = pairGroup s f b0 + 4 := by
    intro hc; unfold pairGroup textIdx; rw [hc]; exact textChan_group (s.curr f) f
  rcases pairAct_cases s f b0 b1 with ⟨hc, e | e⟩ | ⟨hc, e | e | ⟨a, b, e⟩⟩
  · exact ⟨_, hlast, fun t _ hl => by rw [decodeMain_eq, ep t hl, e]; exact clearLast_eq_exec t f⟩
  · obtain ⟨cmd, hcmd⟩ := Ctl.exists_codes (b0 &&& 0x7F) (b1 &&& 0x7F)
    have hg := cmdChan_group s (b0 &&& 0x7F) f
    have hpg : pairGroup s f b0 = (if f then 2 else 0) + (((b0 &&& 0x7F) >>> 3) &&& 1) := by unfold pairGroup; rw [hc]; rfl
    refine ⟨(cmd.effect (cmdChan s (b0 &&& 0x7F) f) (b0 &&& 0x7F) (b1 &&& 0x7F)).prog (cmdChan s (b0 &&& 0x7F) f) ++
      (if f then [] else [.last b0 b1]), ?_, fun t hcur hl => ?_⟩
    · intro m hm
      rcases List.mem_append.1 hm with hm | hm
      · rw [hpg]
        refine Effect.prog_own _ f hg.1 hg.2.1 hg.2.2 ?_ (fun ch h => (Ctl.effect_step hcmd _ h).1) m hm
        unfold edmChan; split
        · exact Or.inl hg.2.1
        · exact hg.1
      · cases f
        · simp only [Bool.false_eq_true, if_false, List.mem_singleton] at hm; subst hm; rfl
        · cases hm
    · have ec : cmdChan t (b0 &&& 0x7F) f = cmdChan s (b0 &&& 0x7F) f := by unfold cmdChan; rw [hcur]
      rw [decodeMain_eq, ep t hl, e, St.exec_append, ← Effect.run_eq_exec, ← ec, ← captionCommand_eq t f hcmd]
      cases f <;> rfl
  · exact ⟨_, hlast, fun t _ hl => by rw [decodeMain_eq, ep t hl, e]; exact clearLast_eq_exec t f⟩
  · refine ⟨[.mod (textIdx s f) nulPair], ?_, fun t hcur hl => ?_⟩
    · intro m hm; simp only [List.mem_singleton] at hm; subst hm; exact ⟨htext hc, fun ch h => (nulPair_step h).1⟩
    · have et : textIdx t f = textIdx s f := by unfold textIdx; rw [hcur]
      rw [decodeMain_eq, ep t hl, e, ← et]; rfl
  · refine ⟨(if f then [] else [.last0]) ++ [.mod (textIdx s f) (fun ch => textPair ch a b)], ?_, fun t hcur hl => ?_⟩
    · intro m hm
      rcases List.mem_append.1 hm with hm | hm
      · exact hlast m hm
      · simp only [List.mem_singleton] at hm; subst hm; exact ⟨htext hc, fun ch h => (textPair_step h _ _).1⟩
    · have et : textIdx t f = textIdx s f := by unfold textIdx; rw [hcur]
      rw [decodeMain_eq, ep t hl, e, St.exec_append, ← clearLast_eq_exec, ← et]; rfl

/-- **a byte pair runs a short program of elementary steps, all of its own field and data channel**; the program depends
    on the decoder state only through what the field owns (selector, latch resp. XDS gate) -/
theorem decodePair_prog (s : St) (f : Bool) (b0 b1 : Nat) :
    ∃ p : List MOp, (∀ m ∈ p, m.Own f (pairGroup s f b0)) ∧
      ∀ t : St, t.curr f = s.curr f → (f = false → t.last0 = s.last0 ∧ t.last1 = s.last1) → (f = true → t.xds = s.xds) →
        decodePair t f b0 b1 = t.exec p := by
  obtain ⟨p, hp, he⟩ := decodeMain_prog s f b0 b1
  cases f
  · refine ⟨p, hp, fun t hc hl _ => ?_⟩
    exact he t hc hl
  · cases hv : xdsVerdict s.xds true b0 with
    | none =>
      refine ⟨if (Hamm.unpar8 b0).isSome ∧ 1 ≤ b0 &&& 0x7F ∧ b0 &&& 0x7F ≤ 0x0F then [.xds (b0 &&& 0x7F != 15)] else [], ?_,
        fun t _ _ hx => ?_⟩
      · intro m hm; split at hm
        · simp only [List.mem_singleton] at hm; subst hm; rfl
        · cases hm
      · unfold decodePair
        rw [xdsGate_eq, hx rfl, hv]
        show xdsConsumed t true b0 = _
        unfold xdsConsumed
        simp only [true_and]
        split <;> rfl
    | some x =>
      refine ⟨.xds x :: p, ?_, fun t hc hl hx => ?_⟩
      · intro m hm
        rcases List.mem_cons.1 hm with rfl | hm
        · rfl
        · exact hp m hm
      · unfold decodePair
        rw [xdsGate_eq, hx rfl, hv]
        exact he { t with xds := x } hc hl

/-- the program as `s` itself runs it -/
theorem decodePair_exec (s : St) (f : Bool) (b0 b1 : Nat) :
    ∃ p : List MOp, (∀ m ∈ p, m.Own f (pairGroup s f b0)) ∧ decodePair s f b0 b1 = s.exec p := by
  obtain ⟨p, hp, he⟩ := decodePair_prog s f b0 b1
  exact ⟨p, hp, he s rfl (fun _ => ⟨rfl, rfl⟩) fun _ => rfl⟩

theorem MOp.run_inv {f : Bool} {g : Nat} (hg : g < 4) {s : St} (h : Inv s) {m : MOp} (hm : m.Own f g) : Inv (m.run s) := by
  match m, hm with
  | .mod i k, ⟨hi, hk⟩ => exact modCh_inv h (by omega) hk
  | .curr n, _ => exact h.congr (setCurr_err ..) (setCurr_chans ..)
  | .last _ _, _ | .last0, _ | .xds _, _ => exact h.congr rfl rfl

theorem decodePair_inv {s : St} (h : Inv s) (f : Bool) (b0 b1 : Nat) : Inv (decodePair s f b0 b1) := by
  obtain ⟨p, hp, he⟩ := decodePair_exec s f b0 b1
  rw [he]
  exact List.foldlRecOn p MOp.run h fun t ht m hm => MOp.run_inv (pairGroup_field s f b0).1 ht (hp m hm)

/-- what a pair of field `f`, data channel `g` leaves alone: every channel but caption channel `g` and text channel `g + 4`, the
    selector of the other field (with one selector per field), the latch (field 2) resp. the XDS gate (field 1) -/
structure Apart (f : Bool) (g : Nat) (s s' : St) : Prop where
  chans : ∀ i, i ≠ g → i ≠ g + 4 → s'.chans[i]? = s.chans[i]?
  curr : currChanPerField = true → s'.curr (!f) = s.curr (!f)
  last : f = true → s'.last0 = s.last0 ∧ s'.last1 = s.last1
  xds : f = false → s'.xds = s.xds

theorem Apart.refl (f : Bool) (g : Nat) (s : St) : Apart f g s s := ⟨fun _ _ _ => rfl, fun _ => rfl, fun _ => ⟨rfl, rfl⟩, fun _ => rfl⟩

theorem Apart.trans {f : Bool} {g : Nat} {a b c : St} (h1 : Apart f g a b) (h2 : Apart f g b c) : Apart f g a c :=
  ⟨fun i x y => (h2.chans i x y).trans (h1.chans i x y), fun h => (h2.curr h).trans (h1.curr h),
   fun h => ⟨(h2.last h).1.trans (h1.last h).1, (h2.last h).2.trans (h1.last h).2⟩, fun h => (h2.xds h).trans (h1.xds h)⟩

theorem MOp.run_apart {f : Bool} {g : Nat} (hg : inField f g ∧ inField f (g + 4)) (s : St) {m : MOp} (hm : m.Own f g) :
    Apart f g s (m.run s) := by
  match m, hm with
  | .mod i k, ⟨hi, _⟩ =>
    exact ⟨fun j h1 h2 => modCh_get_ne s k (by rcases hi with rfl | rfl <;> assumption), fun _ => modCh_curr ..,
      fun _ => ⟨(modCh_last_xds ..).1, (modCh_last_xds ..).2.1⟩, fun _ => (modCh_last_xds ..).2.2⟩
  | .curr n, hn =>
    have hb : ((n >>> 1) &&& 1 == 1) = !(!f) := by rw [Bool.not_not]; rcases hn with rfl | rfl; exact hg.1.2; exact hg.2.2
    exact ⟨fun j _ _ => by rw [show (MOp.run s (.curr n)).chans = _ from setCurr_chans ..], fun hpf => setCurr_other hpf s n (!f) hb,
      fun _ => ⟨(setCurr_last_xds ..).1, (setCurr_last_xds ..).2.1⟩, fun _ => (setCurr_last_xds ..).2.2⟩
  | .last _ _, hf | .last0, hf => exact ⟨fun _ _ _ => rfl, fun _ => rfl, fun h => (by rw [hf] at h; cases h), fun _ => rfl⟩
  | .xds _, hf => exact ⟨fun _ _ _ => rfl, fun _ => rfl, fun _ => ⟨rfl, rfl⟩, fun h => by rw [hf] at h; cases h⟩

theorem decodePair_apart (s : St) (f : Bool) (b0 b1 : Nat) : Apart f (pairGroup s f b0) s (decodePair s f b0 b1) := by
  obtain ⟨p, hp, he⟩ := decodePair_exec s f b0 b1
  rw [he]
  exact List.foldlRecOn p MOp.run (.refl ..) fun t ht m hm => ht.trans (MOp.run_apart (pairGroup_field s f b0).2 t (hp m hm))

/-! ## control pairs: field-1 repetition latch -/

theorem decodePair_f1_control (s : St) (b0 b1 : Nat) (hp0 : (Hamm.unpar8 b0).isSome = true)
    (hp1 : (Hamm.unpar8 b1).isSome = true) (hc : 0x10 ≤ b0 &&& 0x7F ∧ b0 &&& 0x7F ≤ 0x1F) :
    decodePair s false b0 b1 =
      if b0 = s.last0 ∧ b1 = s.last1 then { s with last0 := 0 }
      else { captionCommand s (b0 &&& 0x7F) (b1 &&& 0x7F) false with last0 := b0, last1 := b1 } := by
  have hn : (Hamm.unpar8 b0).isNone = false := by cases h : Hamm.unpar8 b0 <;> simp_all
  have hx : ¬(1 ≤ b0 &&& 0x7F ∧ b0 &&& 0x7F ≤ 0x0F) := by omega
  show decodeMain s false b0 b1 = _
  unfold decodeMain
  simp only [hn, Bool.false_eq_true, if_false, hx, hc, and_self, if_true, hp1, Bool.not_false, Bool.true_and,
    Bool.and_eq_true, beq_iff_eq]

/-! ## fetch, channel switch and init; histories -/

theorem fetchStep_inv {s : St} (h : Inv s) (n : Int) : Inv (fetchStep s n) := by
  unfold fetchStep
  split
  · exact h
  · apply modCh_inv h
    · have : (n - 1).toNat &&& 7 ≤ 7 := Nat.and_le_right
      omega
    · intro ch hc
      exact (setPg_upd ch _ _ (by simp [pg_len hc])).inv hc

theorem chsw_inv_of {s : St} (first : Bool) (he : s.err = none) (hl : s.chans.length = 9)
    (hc : ∀ ch ∈ s.chans, PreInv ch ∧ (first = true ∨ ch.hidden = false)) : Inv (s.chswWith first) := by
  unfold St.chswWith
  refine ⟨he, by simp [hl], ?_⟩
  intro ch hch
  simp only [List.mem_map] at hch
  obtain ⟨c0, hm, rfl⟩ := hch
  exact chswChannelWith_inv first (hc c0 hm).1 (hc c0 hm).2

theorem init_inv : Inv init := by
  unfold init St.chsw
  apply chsw_inv_of _ rfl (by simp)
  intro ch hch
  simp only [List.mem_map] at hch
  obtain ⟨i, _, rfl⟩ := hch
  exact ⟨zeroChannel_pre i, Or.inr rfl⟩

theorem stepWith_inv (first : Bool) {s : St} (h : Inv s) (op : Op) (hop : op ≠ .chsw ∨ first = true) :
    Inv (stepWith first s op) := by
  cases op with
  | pair f b0 b1 => exact decodePair_inv h _ _ _
  | fetch n => exact fetchStep_inv h _
  | chsw =>
    rcases hop with hne | hflag
    · exact absurd rfl hne
    · exact chsw_inv_of first h.err h.len (fun ch hch => ⟨(h.chs ch hch).pre, Or.inl hflag⟩)

theorem foldlWith_inv (first : Bool) (ops : List Op) (hops : ∀ op ∈ ops, op ≠ .chsw ∨ first = true) :
    ∀ s, Inv s → Inv (ops.foldl (stepWith first) s) :=
  fun _ h => List.foldlRecOn ops _ h fun _ ht op hop => stepWith_inv first ht op (hops op hop)

theorem stepWith_flag : stepWith chswHiddenResetFirst = step := by
  funext s op; cases op <;> rfl

theorem foldl_inv (ops : List Op) (hops : ∀ op ∈ ops, op ≠ .chsw ∨ chswHiddenResetFirst = true) :
    ∀ s, Inv s → Inv (ops.foldl step s) :=
  stepWith_flag ▸ foldlWith_inv chswHiddenResetFirst ops hops

theorem firstErr_none {s : St} (h : Inv s) : s.firstErr = none := by
  unfold St.firstErr
  rw [h.err]
  simp only [List.findSome?_eq_none_iff]
  intro ch hch
  exact (h.chs ch hch).err

end Zvbi.Cc
