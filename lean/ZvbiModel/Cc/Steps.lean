import ZvbiModel.Cc.Inv
import ZvbiModel.Cc.Dispatch
/-!
# The channel functions of the decoder as steps, one contract per function

The two memories are read cell by cell (`hcell` = working / non-displayed memory, `dcell` = displayed memory).  Every channel
function is a composition of four kinds of step: edits inside the current row of the working memory (`RowEdit`: stores through
`line`, the cursor column, the pen), the publication of that row (`publish_spec`: `update` + `render`), cursor moves and page
operations.  Each function `caption_command` calls gets one contract (`X_edit : RowEdit ..` or `X_step : Step ..`); that it keeps
the invariant, accounts for what it displays by events (`Ev`), its event count and what it leaves alone are read off that
contract.  `word_break`, which nearly all of them run, is taken apart in `Inv.lean` (`wordBreak_phases`, `wordBreak_false_eq`) and
has its cases here (`wordBreak_edit`, `wordBreak_true_pop`, `wordBreak_true_dir`, `wordBreak_idle`); the page operations are also
written out (`eraseDisplayed_eq`, `eocSwap_eq`) for the statements about cells.
-/
namespace Zvbi.Cc
open Zvbi.Gen.Cc

/-! ## the two memories, cell by cell -/

/-- displayed memory: the 15 x 34 cells of `pg[hidden ^ 1]` -/
def Channel.displayed (ch : Channel) : List Cell := (ch.pg (!ch.hidden)).text.take (rows * columns)

/-- non-displayed memory: the 15 x 34 cells of `pg[hidden]` -/
def Channel.nonDisplayed (ch : Channel) : List Cell := (ch.pg ch.hidden).text.take (rows * columns)

theorem ts_idx (ch : Channel) (b : Bool) (p : Page) : (ch.setPg b p).ts = ch.ts := by
  cases b <;> rfl

theorem eraseMemory_erased {ch : Channel} (b : Bool) (hl : (ch.pg b).text.length = 1056) :
    ((eraseMemory ch b).pg b).text.take (rows * columns) = List.replicate (rows * columns) ch.ts := by
  rw [eraseMemory_eq b hl, pg_setPg_same]
  exact Page.blank_take ..

theorem eraseMemory_other {ch : Channel} (b : Bool) (hl : (ch.pg b).text.length = 1056) :
    (eraseMemory ch b).pg (!b) = ch.pg (!b) := by
  rw [eraseMemory_eq b hl, pg_setPg_other]

theorem fail_nev (ch : Channel) (s : String) : (ch.fail s).nev = ch.nev := by unfold Channel.fail; split <;> rfl

theorem setPg_nev (ch : Channel) (b : Bool) (p : Page) : (ch.setPg b p).nev = ch.nev := by cases b <;> rfl

theorem setPg_mode (ch : Channel) (b : Bool) (p : Page) : (ch.setPg b p).mode = ch.mode := by cases b <;> rfl
theorem setPg_hidden (ch : Channel) (b : Bool) (p : Page) : (ch.setPg b p).hidden = ch.hidden := by cases b <;> rfl
theorem setPg_idx_attr (ch : Channel) (b : Bool) (p : Page) : (ch.setPg b p).idx = ch.idx ∧ (ch.setPg b p).attr = ch.attr := by
  cases b <;> exact ⟨rfl, rfl⟩

theorem wr_nev (ch : Channel) (i : Nat) (c : Cell) (s : String) : (wr ch i c s).nev = ch.nev := by
  unfold wr; simp only []; split
  · exact setPg_nev _ _ _
  · exact fail_nev _ _

theorem fill_nev (ch : Channel) (a n : Nat) (c : Cell) (s : String) : (fill ch a n c s).nev = ch.nev := by
  unfold fill; simp only []; split
  · exact setPg_nev _ _ _
  · exact fail_nev _ _

theorem update_nev (ch : Channel) : (update ch).nev = ch.nev := by
  unfold update; split
  · exact fail_nev _ _
  · simp only []; split
    · exact setPg_nev _ _ _
    · exact fail_nev _ _

theorem eraseMemory_nev {ch : Channel} (b : Bool) : (eraseMemory ch b).nev = ch.nev := by
  unfold eraseMemory
  simp only []
  split
  · cases b <;> rfl
  · unfold Channel.fail; split <;> rfl

theorem ts_of_idx {a b : Channel} (h : a.idx = b.idx) : a.ts = b.ts := by unfold Channel.ts; rw [h]

theorem renderCh_nev (y : Channel) (b : Bool) (r : Int) : (renderCh y b r).nev = y.nev + 1 := by
  cases b <;> rfl

theorem event_pg (y : Channel) (b : Bool) : y.event.pg b = y.pg b := by cases b <;> rfl

theorem blit_get (d s : List Cell) (dOff sOff n i : Nat) (hd : dOff + n ≤ d.length) (hs : sOff + n ≤ s.length) :
    (blit d s dOff sOff n)[i]? = if dOff ≤ i ∧ i < dOff + n then s[sOff + (i - dOff)]? else d[i]? := by
  unfold blit
  by_cases h1 : i < dOff
  · have : ¬ (dOff ≤ i ∧ i < dOff + n) := by omega
    rw [if_neg this, List.append_assoc, List.getElem?_append_left (by simp; omega)]
    simp [h1]
  · by_cases h2 : i < dOff + n
    · have : dOff ≤ i ∧ i < dOff + n := by omega
      rw [if_pos this, List.append_assoc, List.getElem?_append_right (by simp; omega)]
      have hl : (List.take dOff d).length = dOff := by simp; omega
      rw [hl, List.getElem?_append_left (by simp; omega)]
      simp [List.getElem?_take, List.getElem?_drop]
      omega
    · have : ¬ (dOff ≤ i ∧ i < dOff + n) := by omega
      rw [if_neg this, List.getElem?_append_right (by simp; omega)]
      simp [List.getElem?_drop]
      have : min dOff d.length = dOff := by omega
      have : min n (s.length - sOff) = n := by omega
      congr 1
      omega

theorem fillList_get (l : List Cell) (a n : Nat) (c : Cell) (i : Nat) (h : a + n ≤ l.length) :
    (fillList l a n c)[i]? = if a ≤ i ∧ i < a + n then some c else l[i]? := by
  have e : fillList l a n c = blit l (List.replicate n c) a 0 n := by simp [fillList, blit]
  rw [e, blit_get _ _ _ _ _ _ h (by simp)]
  split
  · rw [List.getElem?_replicate, if_pos (by omega)]
  · rfl

theorem update_pg {ch : Channel} (h : ChInv ch) :
    ((update ch).pg (!ch.hidden)).text = blit (ch.pg (!ch.hidden)).text (ch.pg ch.hidden).text ch.lineOff ch.lineOff 34 ∧
    (update ch).pg ch.hidden = ch.pg ch.hidden := by
  rw [update_eq h]
  exact ⟨by rw [pg_setPg_same], by simpa using pg_setPg_other ch (!ch.hidden) _⟩

theorem fill_pg {ch : Channel} (h : ChInv ch) {a n : Nat} (hi : a + n ≤ 35) (c : Cell) (s : String) :
    ((fill ch a n c s).pg ch.hidden).text = fillList (ch.pg ch.hidden).text (ch.lineOff + a) n c ∧
    (fill ch a n c s).pg (!ch.hidden) = ch.pg (!ch.hidden) := by
  rw [fill_eq h hi, h.line_pg]
  exact ⟨by rw [pg_setPg_same], pg_setPg_other _ _ _⟩

theorem crMove_pg {x : Channel} (h : ChInv x) (b : Bool) :
    ((crMove x b).pg b).text = blit (x.pg b).text (x.pg b).text (x.row1 * 34) (x.row1 * 34 + 34) ((x.roll - 1) * 34) ∧
    (crMove x b).pg (!b) = x.pg (!b) := by
  rw [crMove_eq h]
  exact ⟨by rw [pg_setPg_same], pg_setPg_other _ _ _⟩


/-- cell (row r, column j) of a page -/
def Page.cell (p : Page) (r j : Nat) : Option Cell := p.text[r * 34 + j]?

/-- cell (r, j) of `pg[hidden]`, the non-displayed memory -/
def Channel.hcell (ch : Channel) (r j : Nat) : Option Cell := (ch.pg ch.hidden).cell r j

/-- cell (r, j) of `pg[hidden ^ 1]`, the displayed memory -/
def Channel.dcell (ch : Channel) (r j : Nat) : Option Cell := (ch.pg (!ch.hidden)).cell r j

theorem Page.blank_cell (p : Page) (ts : Cell) (roll : Int) {r j : Nat} (hr : r < 15) (hj : j < 34) :
    (p.blank ts roll).cell r j = some ts := by
  have : r * 34 + j < rows * columns := by simp; omega
  unfold Page.cell
  rw [← List.getElem?_take_of_lt this, Page.blank_take, List.getElem?_replicate, if_pos this]

theorem erase_cells {ch : Channel} (b : Bool) (hl : (ch.pg b).text.length = 1056) :
    (∀ r, r < 15 → ∀ j, j < 34 → ((eraseMemory ch b).pg b).cell r j = some ch.ts) ∧
    (eraseMemory ch b).pg (!b) = ch.pg (!b) :=
  ⟨fun r hr j hj => by rw [eraseMemory_eq b hl, pg_setPg_same]; exact Page.blank_cell _ _ _ hr hj, eraseMemory_other b hl⟩

theorem displayed_get (ch : Channel) {r j : Nat} (hr : r < 15) (hj : j < 34) : ch.displayed[r * 34 + j]? = ch.dcell r j := by
  unfold Channel.displayed Channel.dcell Page.cell
  rw [List.getElem?_take_of_lt (by simp; omega)]

theorem nonDisplayed_get (ch : Channel) {r j : Nat} (hr : r < 15) (hj : j < 34) :
    ch.nonDisplayed[r * 34 + j]? = ch.hcell r j := by
  unfold Channel.nonDisplayed Channel.hcell Page.cell
  rw [List.getElem?_take_of_lt (by simp; omega)]

theorem rd_eq_hcell {ch : Channel} (h : ChInv ch) (j : Nat) : rd ch j = ch.hcell ch.row j := by
  unfold rd Channel.hcell Page.cell
  rw [h.line_pg, h.line_off]

theorem hcell_wr {ch : Channel} (h : ChInv ch) {i : Nat} (hi : i < 34) (c : Cell) (s : String) (r j : Nat) (hj : j < 34) :
    (wr ch i c s).hcell r j = if r = ch.row ∧ j = i then some c else ch.hcell r j := by
  have hl := pg_len h ch.linePg
  have u := wr_upd h (Nat.le_of_lt hi) c s
  unfold Channel.hcell
  rw [u.hidden, wr_eq h (Nat.le_of_lt hi), h.line_pg, pg_setPg_same]
  unfold Page.cell
  simp only []
  rw [h.line_off]
  by_cases hc : r = ch.row ∧ j = i
  · rw [if_pos hc, hc.1, hc.2]
    rw [List.getElem?_set_self]
    rw [← h.line_pg, hl]; have := h.row_le; omega
  · rw [if_neg hc]
    rw [List.getElem?_set_ne]
    omega

theorem dcell_wr {ch : Channel} (h : ChInv ch) {i : Nat} (hi : i ≤ 34) (c : Cell) (s : String) (r j : Nat) :
    (wr ch i c s).dcell r j = ch.dcell r j := by
  have u := wr_upd h hi c s
  unfold Channel.dcell
  rw [u.hidden, ← h.line_pg, wr_other_pg h hi]

theorem renderCh_cells (w : Channel) (b : Bool) (row : Int) :
    (∀ r j, (renderCh w b row).hcell r j = w.hcell r j) ∧ (∀ r j, (renderCh w b row).dcell r j = w.dcell r j) := by
  have ht : ∀ b', ((renderCh w b row).pg b').text = (w.pg b').text := by
    intro b'
    unfold renderCh Channel.event Page.render
    cases b <;> cases b' <;> simp [Channel.setPg, Channel.pg] <;> split <;> rfl
  have hh : (renderCh w b row).hidden = w.hidden := (renderCh_upd w b row).hidden
  constructor
  · intro r j; unfold Channel.hcell Page.cell; rw [hh, ht]
  · intro r j; unfold Channel.dcell Page.cell; rw [hh, ht]

theorem update_cells {w : Channel} (h : ChInv w) :
    (∀ r j, (update w).hcell r j = w.hcell r j) ∧
    (∀ r j, j < 34 → (update w).dcell r j = if r = w.row then w.hcell r j else w.dcell r j) := by
  have p := update_pg h
  have hh : (update w).hidden = w.hidden := (update_upd h).hidden
  have hl := pg_len h
  constructor
  · intro r j; unfold Channel.hcell; rw [hh, p.2]
  · intro r j hj
    unfold Channel.dcell Channel.hcell Page.cell
    rw [hh, p.1, h.line_off]
    have hrow := h.row_le
    rw [blit_get _ _ _ _ _ _ (by rw [hl]; omega) (by rw [hl]; omega)]
    by_cases hr : r = w.row
    · rw [if_pos hr, hr, if_pos (by omega)]
      congr 1; omega
    · rw [if_neg hr]
      rw [if_neg (by omega)]

theorem fill_cells {ch : Channel} (h : ChInv ch) {a n : Nat} (hi : a + n ≤ 34) (c : Cell) (s : String) :
    (∀ r j, j < 34 → (fill ch a n c s).hcell r j = if r = ch.row ∧ a ≤ j ∧ j < a + n then some c else ch.hcell r j) ∧
    (∀ r j, (fill ch a n c s).dcell r j = ch.dcell r j) := by
  have p := fill_pg h (a := a) (n := n) (by omega) c s
  have u := fill_upd h (a := a) (n := n) (by omega) c s
  have hl := pg_len h ch.hidden
  have hrow := h.row_le
  refine ⟨fun r j hj => ?_, fun r j => by unfold Channel.dcell; rw [u.hidden, p.2]⟩
  unfold Channel.hcell Page.cell
  rw [u.hidden, p.1, h.line_off, fillList_get _ _ _ _ _ (by rw [hl]; omega)]
  by_cases hc : r = ch.row ∧ a ≤ j ∧ j < a + n
  · rw [if_pos hc, if_pos (by obtain ⟨h1, h2, h3⟩ := hc; subst h1; omega)]
  · rw [if_neg hc, if_neg (by omega)]

/-! ## events account for changes of the displayed memory -/

/-- events account for the change from `a` to `b`: either at least one caption event was sent, or
    none and the 15 x 34 cells of the displayed memory are the same -/
def Ev (a b : Channel) : Prop := a.nev < b.nev ∨ (b.nev = a.nev ∧ b.displayed = a.displayed)

theorem Ev.refl (a : Channel) : Ev a a := Or.inr ⟨rfl, rfl⟩

theorem Ev.mono {a b : Channel} (h : Ev a b) : a.nev ≤ b.nev := by
  rcases h with h | ⟨h, _⟩ <;> omega

theorem Ev.trans {a b c : Channel} (h1 : Ev a b) (h2 : Ev b c) : Ev a c := by
  rcases h1 with h1 | ⟨e1, d1⟩
  · exact Or.inl (Nat.lt_of_lt_of_le h1 h2.mono)
  · rcases h2 with h2 | ⟨e2, d2⟩
    · exact Or.inl (by omega)
    · exact Or.inr ⟨by omega, d2.trans d1⟩

theorem Ev.loud {a b : Channel} (h : a.nev < b.nev) : Ev a b := Or.inl h

/-- `b` differs from `a` only in the non-displayed page / scalars other than `hidden` -/
theorem Ev.quiet {a b : Channel} (hn : b.nev = a.nev) (hh : b.hidden = a.hidden)
    (hp : b.pg (!a.hidden) = a.pg (!a.hidden)) : Ev a b := by
  refine Or.inr ⟨hn, ?_⟩
  unfold Channel.displayed
  rw [hh, hp]

theorem Ev.scalar {a b : Channel} (hn : b.nev = a.nev) (hh : b.hidden = a.hidden) (h0 : b.pg0 = a.pg0)
    (h1 : b.pg1 = a.pg1) : Ev a b := by
  refine Ev.quiet hn hh ?_
  unfold Channel.pg; rw [h0, h1]

/-! ## `put_char` = the store, then the word break after a space -/

/-- `put_char` before the word break: the cell store and the cursor advance -/
def putCell (ch : Channel) (c : Cell) : Channel :=
  if ch.col < 33 then { wr ch ch.col c "put_char" with col := ch.col + 1 } else wr ch 32 c "put_char: last column"

theorem putChar_eq (ch : Channel) (c : Cell) :
    putChar ch c = if c.isSpace then Zvbi.Cc.wordBreak (putCell ch c) true else putCell ch c := by
  unfold putChar putCell; simp only [columns_eq]; rfl

/-! ## edits inside the current row -/

/-- `b` is `a` after an edit inside the current row of the working memory: cells under `line`, the cursor column, the pen
    and the NUL count may differ; the displayed page, every other row, the window, the mode and the event count are
    those of `a`, and the cursor columns of `b` are valid. -/
structure RowEdit (a b : Channel) : Prop where
  idx : b.idx = a.idx
  mode : b.mode = a.mode
  row : b.row = a.row
  row1 : b.row1 = a.row1
  roll : b.roll = a.roll
  linePg : b.linePg = a.linePg
  lineOff : b.lineOff = a.lineOff
  hidden : b.hidden = a.hidden
  err : b.err = a.err
  nev : b.nev = a.nev
  len : (b.pg a.hidden).text.length = (a.pg a.hidden).text.length
  other : b.pg (!a.hidden) = a.pg (!a.hidden)
  rows : ∀ r j, j < 34 → r ≠ a.row → b.hcell r j = a.hcell r j
  col1_pos : 1 ≤ b.col1
  col1_le : b.col1 ≤ b.col
  col_le : b.col ≤ 33

theorem RowEdit.refl {a : Channel} (h : ChInv a) : RowEdit a a :=
  ⟨rfl, rfl, rfl, rfl, rfl, rfl, rfl, rfl, rfl, rfl, rfl, rfl, fun _ _ _ _ => rfl, h.col1_pos, h.col1_le, h.col_le⟩

theorem RowEdit.trans {a b c : Channel} (h1 : RowEdit a b) (h2 : RowEdit b c) : RowEdit a c :=
  ⟨h2.idx.trans h1.idx, h2.mode.trans h1.mode, h2.row.trans h1.row, h2.row1.trans h1.row1, h2.roll.trans h1.roll,
   h2.linePg.trans h1.linePg, h2.lineOff.trans h1.lineOff, h2.hidden.trans h1.hidden, h2.err.trans h1.err,
   h2.nev.trans h1.nev, by have := h2.len; rw [h1.hidden] at this; exact this.trans h1.len,
   by have := h2.other; rw [h1.hidden] at this; exact this.trans h1.other,
   fun r j hj hr => (h2.rows r j hj (by rw [h1.row]; exact hr)).trans (h1.rows r j hj hr),
   h2.col1_pos, h2.col1_le, h2.col_le⟩

theorem RowEdit.inv {a b : Channel} (e : RowEdit a b) (h : ChInv a) : ChInv b := by
  have hp : ∀ x, (b.pg x).text.length = 1056 := fun x => by
    by_cases hx : x = a.hidden
    · rw [hx, e.len]; exact pg_len h _
    · rw [Bool.eq_not_of_ne hx, e.other]; exact pg_len h _
  exact ⟨e.err.trans h.err, e.col1_pos, e.col1_le, e.col_le, e.row ▸ h.row_le, e.roll ▸ h.roll_pos,
    by rw [e.row1, e.roll]; exact h.win, by rw [e.lineOff, e.row]; exact h.line_off,
    by rw [e.linePg, e.hidden]; exact h.line_pg, hp false, hp true⟩

theorem RowEdit.ev {a b : Channel} (e : RowEdit a b) : Ev a b := Ev.quiet e.nev e.hidden e.other

theorem RowEdit.dcell {a b : Channel} (e : RowEdit a b) (r j : Nat) : b.dcell r j = a.dcell r j := by
  unfold Channel.dcell; rw [e.hidden, e.other]

/-- the cursor columns, the pen and the NUL count are free -/
theorem RowEdit.set {a b : Channel} (e : RowEdit a b) {c c1 : Nat} (h1 : 1 ≤ c1) (h2 : c1 ≤ c) (h3 : c ≤ 33) (pen : Cell)
    (n : Nat) : RowEdit a { b with col := c, col1 := c1, attr := pen, nulCt := n } :=
  ⟨e.idx, e.mode, e.row, e.row1, e.roll, e.linePg, e.lineOff, e.hidden, e.err, e.nev, e.len, e.other, e.rows, h1, h2, h3⟩

theorem RowEdit.attr {a : Channel} (h : ChInv a) (pen : Cell) : RowEdit a { a with attr := pen } :=
  (RowEdit.refl h).set h.col1_pos h.col1_le h.col_le pen a.nulCt

theorem RowEdit.of_upd {a b : Channel} (h : ChInv a) (u : Upd a b) (hn : b.nev = a.nev) (ho : b.pg (!a.hidden) = a.pg (!a.hidden))
    (hr : ∀ r j, j < 34 → r ≠ a.row → b.hcell r j = a.hcell r j) : RowEdit a b :=
  ⟨u.idx, u.mode, u.row, u.row1, u.roll, u.linePg, u.lineOff, u.hidden, u.err, hn, by rw [pg_len (u.inv h), pg_len h], ho, hr,
   u.col1 ▸ h.col1_pos, by rw [u.col1, u.col]; exact h.col1_le, u.col ▸ h.col_le⟩

theorem rowEdit_wr {ch : Channel} (h : ChInv ch) {i : Nat} (hi : i < 34) (c : Cell) (s : String) : RowEdit ch (wr ch i c s) :=
  .of_upd h (wr_upd h (Nat.le_of_lt hi) c s) (wr_nev _ _ _ _) (by rw [← h.line_pg]; exact wr_other_pg h (Nat.le_of_lt hi) c s)
    fun r j hj hr => by rw [hcell_wr h hi c s r j hj, if_neg (fun hc => hr hc.1)]

theorem rowEdit_fill {ch : Channel} (h : ChInv ch) {a n : Nat} (hi : a + n ≤ 34) (c : Cell) (s : String) :
    RowEdit ch (fill ch a n c s) :=
  .of_upd h (fill_upd h (by omega) c s) (fill_nev _ _ _ _ _) (fill_pg h (by omega) c s).2
    fun r j hj hr => by rw [(fill_cells h hi c s).1 r j hj, if_neg (fun hc => hr hc.1)]

theorem Wrs.edit {ch x : Channel} (h : ChInv ch) (w : Wrs ch x) : RowEdit ch x := by
  induction w with
  | refl => exact .refl h
  | wr i c s _ hi _ _ _ ih => exact ih.trans (rowEdit_wr (ih.inv h) hi c s)

theorem putCell_edit {ch : Channel} (h : ChInv ch) (c : Cell) : RowEdit ch (putCell ch c) := by
  have hcol := h.col_le
  have hcc := h.col1_le
  unfold putCell
  refine ite_ind (fun _ => ?_) fun _ => rowEdit_wr h (by omega) _ _
  have e := rowEdit_wr h (i := ch.col) (by omega) c "put_char"
  exact e.set e.col1_pos (by rw [(wr_upd h (by omega) c _).col1]; omega) (by omega) _ _

theorem putCell_spec {ch : Channel} (h : ChInv ch) (c : Cell) :
    (∀ r j, j < 34 → (putCell ch c).hcell r j =
      if r = ch.row ∧ j = (if ch.col < 33 then ch.col else 32) then some c else ch.hcell r j) ∧
    (putCell ch c).attr = ch.attr ∧ (putCell ch c).col = (if ch.col < 33 then ch.col + 1 else ch.col) ∧
    (putCell ch c).col1 = ch.col1 := by
  have hcol := h.col_le
  unfold putCell
  by_cases hlt : ch.col < 33
  · rw [if_pos hlt, if_pos hlt, if_pos hlt]
    have u := wr_upd h (i := ch.col) (by omega) c "put_char"
    exact ⟨fun r j hj => hcell_wr h (by omega) c _ r j hj, u.attr, rfl, u.col1⟩
  · rw [if_neg hlt, if_neg hlt, if_neg hlt]
    have u := wr_upd h (i := 32) (by omega) c "put_char: last column"
    exact ⟨fun r j hj => hcell_wr h (by omega) c _ r j hj, u.attr, u.col, u.col1⟩

theorem tabFill_edit {ch : Channel} (h : ChInv ch) (n : Nat) (ts : Cell) : RowEdit ch (tabFill ch n ts) := by
  have hc := h.col_le
  have hc1 := h.col1_pos
  unfold tabFill
  simp only [columns_eq]
  refine ite_ind (fun _ => .refl h) fun _ => ?_
  exact (rowEdit_fill h (a := ch.col) (n := min n (34 - 1 - ch.col)) (by omega) ts "tab").set (by omega) (Nat.le_refl _)
    (by omega) _ _

/-- the cells and the cursor after the tab / indent loop (`tabFill_edit` has what stays) -/
theorem tabFill_row {y : Channel} (h : ChInv y) (n : Nat) (ts : Cell) :
    (∀ r j, j < 34 → (tabFill y n ts).hcell r j =
      if r = y.row ∧ y.col ≤ j ∧ j < y.col + min n (33 - y.col) then some ts else y.hcell r j) ∧
    (tabFill y n ts).col = y.col + min n (33 - y.col) ∧
    (tabFill y n ts).col1 = (if min n (33 - y.col) = 0 then y.col1 else y.col + min n (33 - y.col)) ∧
    (tabFill y n ts).attr = y.attr := by
  have hc := h.col_le
  unfold tabFill
  rw [columns_eq]
  show (∀ r j, j < 34 → (if min n (33 - y.col) = 0 then y else _).hcell r j = _) ∧ _
  by_cases hk : min n (33 - y.col) = 0
  · rw [if_pos hk, if_pos hk, hk]
    exact ⟨fun r j _ => by rw [if_neg (by omega)], rfl, rfl, rfl⟩
  · rw [if_neg hk, if_neg hk]
    exact ⟨fun r j hj => (fill_cells h (by omega) ts "tab").1 r j hj, rfl, rfl, (fill_upd h (by omega) ts "tab").attr⟩

theorem backspace_edit {ch : Channel} (h : ChInv ch) (chan : Nat) : RowEdit ch (backspace ch chan) := by
  have hcol := h.col_le
  have hc1 := h.col1_pos
  unfold backspace
  refine ite_ind (fun hc => ?_) fun _ => .refl h
  simp only [Bool.and_eq_true, decide_eq_true_eq] at hc
  have e := rowEdit_wr h (i := ch.col - 1) (by omega) (transpSpace (decide (4 ≤ chan))) "backspace"
  refine ite_ind (fun _ => ?_) fun hlt => ?_
  · exact e.set (c := ch.col - 1) (c1 := ch.col - 1) (by omega) (Nat.le_refl _) (by omega) _ _
  · exact e.set (c := ch.col - 1) e.col1_pos (Nat.not_lt.1 hlt) (by omega) _ _

theorem optAttrMagic_edit {x : Channel} (hx : ChInv x) : RowEdit x (optAttrMagic x) := by
  have hc := hx.col_le
  unfold optAttrMagic
  refine ite_ind (fun _ => ?_) fun _ => .refl hx
  obtain ⟨c, e⟩ := rd_some hx (i := x.col - 1) (by omega)
  simp only [e]
  exact ite_ind (fun _ => rowEdit_wr hx (by omega) _ _) fun _ => .refl hx

theorem case7_edit {ch : Channel} (h : ChInv ch) (chan c2 : Nat) : RowEdit ch (case7 ch chan c2) := by
  unfold case7
  refine ite_ind (fun _ => .refl h) fun _ => ite_ind (fun _ => tabFill_edit h _ _) fun _ => ?_
  exact ite_ind (fun _ => (RowEdit.attr h _).trans (optAttrMagic_edit (h.withAttr _))) fun _ =>
    ite_ind (fun _ => (RowEdit.attr h _).trans (optAttrMagic_edit (h.withAttr _))) fun _ => .refl h

theorem setColour_edit {x : Channel} (h : ChInv x) (k : Nat) : RowEdit x (setColour x k) := by
  unfold setColour; exact ite_both (.attr h _) (.attr h _)

theorem setColourMid_edit {x : Channel} (h : ChInv x) (k : Nat) : RowEdit x (setColourMid x k) := by
  unfold setColourMid; exact ite_both (.attr h _) (ite_both (.attr h _) (.attr h _))

theorem pacStyle_edit {y : Channel} (h : ChInv y) (chan c2 : Nat) : RowEdit y (pacStyle y chan c2) := by
  unfold pacStyle
  refine ite_ind (fun _ => ?_) fun _ => setColour_edit h _
  have e := tabFill_edit h ((c2 &&& 14) * 2) (transpSpace (decide (4 ≤ chan)))
  exact e.set e.col1_pos e.col1_le e.col_le _ _

/-! ## steps that may also put the row on display -/

/-- `update(ch); render(pg + b, row)`: the current row of the working memory goes on display, one event; nothing else -/
theorem publish_spec {w : Channel} (h : ChInv w) (b : Bool) (row : Int) :
    Upd w (renderCh (update w) b row) ∧ (renderCh (update w) b row).nev = w.nev + 1 ∧
    (∀ r j, (renderCh (update w) b row).hcell r j = w.hcell r j) ∧
    (∀ r j, j < 34 → (renderCh (update w) b row).dcell r j = if r = w.row then w.hcell r j else w.dcell r j) :=
  ⟨(update_upd h).trans (renderCh_upd _ _ _), by rw [renderCh_nev, update_nev],
   fun r j => by rw [(renderCh_cells _ _ _).1, (update_cells h).1],
   fun r j hj => by rw [(renderCh_cells _ _ _).2, (update_cells h).2 r j hj]⟩

/-- `b` arises from `a` by a step of the decoder: the invariant is kept and what changed on display is accounted for by events -/
def Step (a b : Channel) : Prop := ChInv b ∧ Ev a b

theorem RowEdit.step {a b : Channel} (e : RowEdit a b) (h : ChInv a) : Step a b := ⟨e.inv h, e.ev⟩

theorem Step.refl {a : Channel} (h : ChInv a) : Step a a := ⟨h, Ev.refl a⟩

theorem Step.trans {a b c : Channel} (h1 : Step a b) (h2 : ChInv b → Step b c) : Step a c :=
  ⟨(h2 h1.1).1, h1.2.trans (h2 h1.1).2⟩

/-- scalars that neither the invariant nor the displayed memory depend on -/
theorem Step.scalar {a b : Channel} (h : ChInv b) (hn : b.nev = a.nev) (hh : b.hidden = a.hidden) (h0 : b.pg0 = a.pg0)
    (h1 : b.pg1 = a.pg1) : Step a b := ⟨h, Ev.scalar hn hh h0 h1⟩

theorem wordBreak_edit {ch : Channel} (h : ChInv ch) : RowEdit ch (wordBreak ch false) := (wordBreak_wrs h).edit h

theorem wordBreak_true_pop {ch : Channel} (h : ChInv ch) (hm : ch.mode = .popOn) : wordBreak ch true = wordBreak ch false := by
  rw [wordBreak_phases, (wordBreak_upd h false).mode, hm]
  rfl

/-- in every other mode the row under the cursor then goes on display, and nothing else does; one event -/
theorem wordBreak_true_dir {ch : Channel} (h : ChInv ch) (hm : ch.mode ≠ .popOn) :
    (wordBreak ch true).nev = ch.nev + 1 ∧ (∀ r j, (wordBreak ch true).hcell r j = (wordBreak ch false).hcell r j) ∧
    ∀ r j, j < 34 → (wordBreak ch true).dcell r j = if r = ch.row then (wordBreak ch false).hcell r j else ch.dcell r j := by
  have e := wordBreak_edit h
  obtain ⟨_, pn, ph, pd⟩ := publish_spec (e.inv h) true (wordBreak ch false).row
  rw [wordBreak_phases, e.mode, if_neg (by simpa using hm)]
  exact ⟨by rw [pn, e.nev], ph, fun r j hj => by rw [pd r j hj, e.row, e.dcell]⟩

/-- a word break with nothing typed since the last one, the cursor row being on display already, changes no cell -/
theorem wordBreak_idle {ch : Channel} (h : ChInv ch) (hcol : ch.col = ch.col1)
    (hrow : ch.mode ≠ .popOn → ∀ j, j < 34 → ch.dcell ch.row j = ch.hcell ch.row j) :
    (∀ r j, (wordBreak ch true).hcell r j = ch.hcell r j) ∧ ∀ r j, j < 34 → (wordBreak ch true).dcell r j = ch.dcell r j := by
  by_cases hm : ch.mode = .popOn
  · rw [wordBreak_true_pop h hm, wordBreak_false_noop hcol]
    exact ⟨fun _ _ => rfl, fun _ _ _ => rfl⟩
  · obtain ⟨_, hh, hd⟩ := wordBreak_true_dir h hm
    rw [wordBreak_false_noop hcol] at hh hd
    refine ⟨hh, fun r j hj => ?_⟩
    rw [hd r j hj]
    split
    · subst r; exact (hrow hm j hj).symm
    · rfl


theorem wordBreak_nev {ch : Channel} (h : ChInv ch) (upd : Bool) :
    (wordBreak ch upd).nev = ch.nev + (if (!upd || ch.mode == .popOn) then 0 else 1) := by
  have e := wordBreak_edit h
  rw [wordBreak_phases, e.mode]; split
  · exact e.nev
  · rw [renderCh_nev, update_nev, e.nev]

theorem wordBreak_step {ch : Channel} (h : ChInv ch) (upd : Bool) : Step ch (wordBreak ch upd) := by
  have e := wordBreak_edit h
  refine ⟨wordBreak_inv h upd, ?_⟩
  rw [wordBreak_phases]
  refine ite_ind (fun _ => e.ev) fun _ => .loud ?_
  rw [renderCh_nev, update_nev, e.nev]; omega

theorem putChar_step {ch : Channel} (h : ChInv ch) (c : Cell) : Step ch (putChar ch c) := by
  rw [putChar_eq]
  exact ite_ind (fun _ => ((putCell_edit h c).step h).trans fun h' => wordBreak_step h' true) fun _ => (putCell_edit h c).step h

/-- the Transparent Space branch of `caption_command` (cell store and cursor; no word break) -/
def tsCell (ch : Channel) (c : Cell) : Channel :=
  if ch.col < 33 then
    let x := wr ch ch.col c "transparent space"
    { x with col := x.col + 1, col1 := x.col + 1 }
  else wr ch 32 c "transparent space: last column"

theorem specialChar_eq (ch : Channel) (chan c2 : Nat) :
    specialChar ch chan c2 = if c2 &&& 15 = 9 then tsCell ch (transpSpace (decide (4 ≤ chan)))
      else putChar ch { ch.attr with unicode := captionUnicode (0x1130 ||| (c2 &&& 15)) } := by
  unfold specialChar tsCell; simp only [columns_eq]; rfl

theorem specialChar_ts (ch : Channel) (chan c2 : Nat) (hk : c2 &&& 15 = 9) :
    specialChar ch chan c2 = tsCell ch (transpSpace (decide (4 ≤ chan))) := by
  rw [specialChar_eq, if_pos hk]

/-- the Transparent Space branch is `put_char`'s store with `col1` following the cursor -/
theorem tsCell_eq {ch : Channel} (h : ChInv ch) (c : Cell) :
    tsCell ch c = if ch.col < 33 then { putCell ch c with col1 := ch.col + 1 } else putCell ch c := by
  have hcol := h.col_le
  unfold tsCell putCell
  split
  · rw [wr_eq h (by omega) c "transparent space", wr_eq h (by omega) c "put_char"]; cases ch.linePg <;> rfl
  · rw [wr_eq h (by omega) c "transparent space: last column", wr_eq h (by omega) c "put_char: last column"]

theorem tsCell_edit {ch : Channel} (h : ChInv ch) (c : Cell) : RowEdit ch (tsCell ch c) := by
  have hc := h.col_le
  have e := putCell_edit h c
  rw [tsCell_eq h]
  exact ite_ind (fun hlt => e.set (by omega) (by rw [(putCell_spec h c).2.2.1, if_pos hlt]; omega) e.col_le _ _) fun _ => e

theorem specialChar_step {ch : Channel} (h : ChInv ch) (chan c2 : Nat) : Step ch (specialChar ch chan c2) := by
  rw [specialChar_eq]
  exact ite_ind (fun _ => (tsCell_edit h _).step h) fun _ => putChar_step h _

theorem midRow_step {ch : Channel} (h : ChInv ch) (c2 : Nat) : Step ch (midRow ch c2) := by
  unfold midRow putCharSpace
  exact (((RowEdit.attr h _).trans (setColourMid_edit (h.withAttr _) _)).step h).trans fun h' => putChar_step h' _

theorem backgroundAttr_step {ch : Channel} (h : ChInv ch) (c2 : Nat) : Step ch (backgroundAttr ch c2) := by
  unfold backgroundAttr putCharSpace
  exact ((RowEdit.attr h _).step h).trans fun h' => putChar_step h' _

theorem putByte_code (x : Channel) (c : Cell) {b v : Nat} (h : Hamm.unpar8 b = some v) (g : ¬ v &&& 0x7F ≤ 0x1F) :
    putByte x c b = putChar x { c with unicode := captionUnicode (v &&& 0x7F) } := by
  unfold putByte; simp only [h]; exact if_neg g

theorem textPair_step {ch : Channel} (h : ChInv ch) (b0 b1 : Nat) : Step ch (textPair ch b0 b1) := by
  have e0 : Step ch { ch with nulCt := 0 } := ((RowEdit.refl h).set h.col1_pos h.col1_le h.col_le ch.attr 0).step h
  have pb : ∀ x : Channel, ChInv x → ∀ c b, Step x (putByte x c b) := fun x hx c b => by
    unfold putByte; exact ite_ind (fun _ => .refl hx) fun _ => putChar_step hx _
  unfold textPair
  exact ite_ind (fun _ => e0) fun _ => (e0.trans fun h' => pb _ h' _ _).trans fun h' => pb _ h' _ _

theorem nulPair_step {ch : Channel} (h : ChInv ch) : Step ch (nulPair ch) := by
  unfold nulPair
  refine ite_ind (fun _ => ?_) fun _ => .refl h
  have : Step ch (if ch.nulCt = 2 then wordBreak ch true else ch) := ite_ind (fun _ => wordBreak_step h _) fun _ => .refl h
  exact this.trans fun h' => .scalar (h'.withNul _) rfl rfl rfl rfl

theorem pacRelocate_nev {x : Channel} (h : ChInv x) (row : Nat) : (pacRelocate x row).nev = x.nev := by
  rw [pacRelocate_eq h row]; split <;> rfl

/-- a PAC in roll-up mode may move the window, which erases both memories: that case is covered by the event of the
    closing word break, every other one by `Ev` of the parts -/
theorem pac_step {ch : Channel} (h : ChInv ch) (chan c1 c2 : Nat) (hc1 : c1 ≤ 7) : Step ch (pac ch chan c1 c2) := by
  unfold pac
  split
  · rename_i hn
    exfalso
    have hlt : (c1 <<< 1) + ((c2 >>> 5) &&& 1) < rowMapping.length := by
      have : (c2 >>> 5) &&& 1 ≤ 1 := Nat.and_le_right
      rw [Nat.shiftLeft_eq]; simp [rowMapping]; omega
    rw [List.getElem?_eq_getElem hlt] at hn; cases hn
  · rename_i r hr
    refine ite_ind (fun _ => .refl h) fun hcond => ?_
    have hr14 : r.toNat ≤ 14 := by
      rcases rowMapping_range _ _ hr with hneg | hle
      · simp [hneg] at hcond
      · exact hle
    have hA : ChInv (pacAttr ch c2) := h.withAttr _
    have sW : Step ch (wordBreak (pacAttr ch c2) true) := ((RowEdit.attr h _).step h).trans fun _ => wordBreak_step hA true
    have nW := wordBreak_nev hA true
    have uW := wordBreak_upd hA true
    generalize wordBreak (pacAttr ch c2) true = x at sW nW uW ⊢
    have hC := pacCursor_inv sW.1 hr14
    have eS := pacStyle_edit hC chan c2
    refine ⟨eS.inv hC, ?_⟩
    unfold pacCursor at hC eS ⊢
    by_cases hru : (x.mode == .rollUp) = true
    · rw [if_pos hru] at hC eS ⊢
      refine .loud ?_
      rw [eS.nev, pacRelocate_nev sW.1, nW]
      have hm : (pacAttr ch c2).mode = .rollUp := by rw [← uW.mode]; simpa using hru
      rw [hm]; show ch.nev < ch.nev + 1; omega
    · rw [if_neg hru] at hC eS ⊢
      exact (sW.2.trans (Ev.scalar rfl rfl rfl rfl)).trans eS.ev

theorem deleteToEnd_step {ch : Channel} (h : ChInv ch) (chan : Nat) : Step ch (deleteToEnd ch chan) := by
  have hc := h.col_le
  unfold deleteToEnd
  refine ite_ind (fun _ => .refl h) fun _ => ?_
  have e := rowEdit_fill h (a := ch.col) (n := columns - ch.col) (by simp; omega) (transpSpace (decide (4 ≤ chan))) "der"
  have s2 := (e.step h).trans fun h' => wordBreak_step h' false
  refine ite_ind (fun _ => ?_) fun _ => s2
  obtain ⟨u, n, _, _⟩ := publish_spec s2.1 (!(wordBreak (fill ch ch.col (columns - ch.col) (transpSpace (decide (4 ≤ chan))) "der") false).hidden)
    (wordBreak (fill ch ch.col (columns - ch.col) (transpSpace (decide (4 ≤ chan))) "der") false).row
  exact ⟨u.inv s2.1, .loud (by rw [n]; have := s2.2.mono; omega)⟩

theorem eraseNonDisplayed_step {ch : Channel} (h : ChInv ch) : Step ch (eraseNonDisplayed ch) := by
  unfold eraseNonDisplayed
  exact ite_ind (fun _ => ⟨(eraseMemory_upd h _).inv h, .quiet (eraseMemory_nev _) (eraseMemory_upd h _).hidden (eraseMemory_other _ (pg_len h _))⟩)
    fun _ => .refl h

/-! ## page operations -/

/-- Erase Displayed Memory in closed form: the displayed page blank and "cleared", the working page - outside pop-on mode -
    blank and "erased", one event; nothing else changes -/
theorem eraseDisplayed_eq {ch : Channel} (h : ChInv ch) :
    eraseDisplayed ch =
      ((if ch.mode = .popOn then ch else ch.setPg ch.hidden ((ch.pg ch.hidden).blank ch.ts 15)).setPg (!ch.hidden)
        ((ch.pg (!ch.hidden)).blank ch.ts (-15))).event := by
  have l0 := h.len0
  have l1 := h.len1
  unfold eraseDisplayed
  by_cases hm : ch.mode = .popOn
  · cases hh : ch.hidden <;>
      simp [hm, eraseMemory, Channel.setPg, Channel.pg, Channel.event, Page.clear, Page.blank, Channel.ts, hh, l0, l1]
  · have hmb : (ch.mode != Mode.popOn) = true := by simpa using hm
    cases hh : ch.hidden <;>
      simp [hm, hmb, eraseMemory, Channel.setPg, Channel.pg, Channel.event, Page.clear, Page.blank, Channel.ts, hh, l0, l1]

theorem eraseDisplayed_upd {ch : Channel} (h : ChInv ch) : Upd ch (eraseDisplayed ch) := by
  rw [eraseDisplayed_eq h]
  have u1 : Upd ch (if ch.mode = .popOn then ch else ch.setPg ch.hidden ((ch.pg ch.hidden).blank ch.ts 15)) :=
    ite_ind (fun _ => .refl _) fun _ => setPg_upd _ _ _ (by rw [Page.blank_len (pg_len h _), pg_len h])
  exact u1.trans ((setPg_upd _ _ _ (by rw [Page.blank_len (pg_len h _), pg_len (u1.inv h)])).trans (event_upd _))

theorem eraseDisplayed_nev {ch : Channel} (h : ChInv ch) : (eraseDisplayed ch).nev = ch.nev + 1 := by
  rw [eraseDisplayed_eq h]
  show (Channel.setPg _ _ _).nev + 1 = _
  rw [setPg_nev]
  split
  · rfl
  · rw [setPg_nev]

theorem eraseDisplayed_step {ch : Channel} (h : ChInv ch) : Step ch (eraseDisplayed ch) :=
  ⟨(eraseDisplayed_upd h).inv h, .loud (by rw [eraseDisplayed_nev h]; omega)⟩

theorem eocSwap_eq {x : Channel} (h : ChInv x) :
    eocSwap x = setCursor ((({ x with hidden := !x.hidden } : Channel).setPg x.hidden
        { x.pg x.hidden with y0 := 0, y1 := 14, roll := 0 }).event.setPg (!x.hidden) ((x.pg (!x.hidden)).blank x.ts 15)) 1 14 := by
  have l0 := h.len0
  have l1 := h.len1
  unfold eocSwap
  cases hh : x.hidden <;>
    simp [renderCh, Page.render, eraseMemory, Channel.setPg, Channel.pg, Channel.event, Page.blank, Channel.ts, l0, l1]

theorem eocSwap_inv {x : Channel} (h : ChInv x) : ChInv (eocSwap x) := by
  rw [eocSwap_eq h]
  have l0 := h.len0
  have l1 := h.len1
  have lb := fun b => Page.blank_len (pg_len h b) x.ts 15
  apply setCursor_inv_of <;> cases hh : x.hidden <;> have := lb true <;> have := lb false <;>
    simp_all [Channel.setPg, Channel.pg, Channel.event, h.err, h.roll_pos, h.win]

theorem eocSwap_nev (x : Channel) : (eocSwap x).nev = x.nev + 1 := by
  show (eraseMemory _ _).nev = _
  rw [eraseMemory_nev, renderCh_nev]

theorem endOfCaption_step {ch : Channel} (h : ChInv ch) : Step ch (endOfCaption ch) := by
  have s := wordBreak_step (h.withMode .popOn) true
  refine ⟨eocSwap_inv s.1, .loud ?_⟩
  unfold endOfCaption
  rw [eocSwap_nev]
  exact Nat.lt_succ_of_le s.2.mono

theorem crMove_nev (x : Channel) (b : Bool) : (crMove x b).nev = x.nev := by
  unfold crMove; simp only []; split
  · exact setPg_nev _ _ _
  · exact fail_nev _ _

/-- the last step of a carriage return: the cursor returns to column 1; outside pop-on mode the row is put on display first
    and the `roll_up()` event raised -/
theorem crFinish_spec {z : Channel} (h : ChInv z) (l : Nat) :
    Upd { z with col1 := 1, col := 1 } (crFinish z l) ∧ (∀ r j, (crFinish z l).hcell r j = z.hcell r j) ∧
    (crFinish z l).nev = z.nev + (if z.mode = .popOn then 0 else 1) ∧
    (crFinish z l).displayed = (if z.mode = .popOn then z else update z).displayed := by
  unfold crFinish
  by_cases hm : z.mode = .popOn
  · rw [if_neg (by rw [hm]; decide), if_pos hm, if_pos hm]
    exact ⟨Upd.refl _, fun _ _ => rfl, rfl, rfl⟩
  · rw [if_pos (by simpa using hm), if_neg hm, if_neg hm]
    have u1 := update_upd h
    have u2 := setPg_upd (update z) (!(update z).hidden) (((update z).pg (!(update z).hidden)).rollUp (update z).row1 l)
      (by unfold Page.rollUp; split <;> rfl)
    have po := pg_setPg_other (update z) (!(update z).hidden) (((update z).pg (!(update z).hidden)).rollUp (update z).row1 l)
    have ps := pg_setPg_same (update z) (!(update z).hidden) (((update z).pg (!(update z).hidden)).rollUp (update z).row1 l)
    rw [Bool.not_not] at po
    refine ⟨((u1.trans u2).trans (event_upd _)).withCols 1 1, fun r j => ?_, ?_, ?_⟩
    · show (((update z).setPg (!(update z).hidden) _).pg ((update z).setPg (!(update z).hidden) _).hidden).cell r j = _
      rw [u2.hidden, po]
      exact (update_cells h).1 r j
    · show ((update z).setPg _ _).nev + 1 = _
      rw [setPg_nev, update_nev]
    · unfold Channel.displayed
      show (((update z).setPg (!(update z).hidden) _).event.pg (!((update z).setPg (!(update z).hidden) _).hidden)).text.take _ = _
      rw [event_pg, u2.hidden, ps]
      unfold Page.rollUp; split <;> rfl

theorem ruErase_nev : ∀ (ch : Channel), (ruErase ch).nev = ch.nev + (if ruEraseRaisesEvent then 1 else 0) := by
  intro ch
  unfold ruErase
  simp only []
  split
  · show ((eraseMemory _ _).setPg _ _).nev + 1 = _
    rw [setPg_nev, eraseMemory_nev, eraseMemory_nev]
  · rw [eraseMemory_nev, eraseMemory_nev]; rfl

theorem ruErase_cells {x : Channel} (h : ChInv x) (b : Bool) {r j : Nat} (hr : r < 15) (hj : j < 34) :
    ((ruErase x).pg b).cell r j = some x.ts := by
  have l0 := h.len0
  have l1 := h.len1
  have e : ((ruErase x).pg b).text = ((x.pg b).blank x.ts 15).text := by
    unfold ruErase
    cases hh : x.hidden <;> cases b <;>
      simp [eraseMemory, Channel.setPg, Channel.pg, Channel.event, Page.clear, Page.blank, Channel.ts, l0, l1] <;>
      split <;> rfl
  unfold Page.cell
  rw [e]
  exact Page.blank_cell _ _ _ hr hj

/-- Carriage Return keeps the invariant; it accounts for what it displays when the channel is not in pop-on mode, and - with
    the repair of finding F45b (no `update()` in pop-on mode) - also in pop-on mode, where it then touches only the hidden page -/
theorem carriageReturn_step {ch : Channel} (h : ChInv ch) (chan : Nat) :
    ChInv (carriageReturn ch chan) ∧ (ch.mode ≠ .popOn ∨ crPopOnNoUpdate = true → Ev ch (carriageReturn ch chan)) := by
  have hroll := h.roll_pos
  have hwin := h.win
  have hrow := h.row_le
  have sW := wordBreak_step h true
  unfold carriageReturn
  refine ite_ind (P := fun x => ChInv x ∧ (_ → Ev ch x)) (fun _ => ⟨h, fun _ => .refl _⟩) fun _ => ?_
  refine ite_ind (P := fun x => ChInv x ∧ (_ → Ev ch x)) (fun h0 => by omega) fun _ => ?_
  simp only [rows_eq]
  refine ite_ind (P := fun x => ChInv x ∧ (_ → Ev ch x)) (fun _ => ?_) fun _ => ?_
  · exact ⟨setCursor_inv sW.1 (by omega) (by omega) (by omega), fun _ => sW.2.trans (Ev.scalar rfl rfl rfl rfl)⟩
  have u1 := crSync_upd h
  have h1 := u1.inv h
  have u2 := crMove_upd h1 (ch.hidden != (ch.mode != .popOn))
  have h2 := u2.inv h1
  have u3 := crClear_upd h2 chan
  have h3 := u3.inv h2
  obtain ⟨u4, _, n4, d4⟩ := crFinish_spec h3 (min (ch.row1 + ch.roll - 1) (15 - 1))
  have m3 : (crClear (crMove (crSync ch) (ch.hidden != (ch.mode != .popOn))) chan).mode = ch.mode := by rw [u3.mode, u2.mode, u1.mode]
  rw [m3] at n4 d4
  refine ⟨u4.inv (h3.withCols (Nat.le_refl _) (Nat.le_refl _) (by omega)), fun hm => ?_⟩
  by_cases hp : ch.mode = .popOn
  · -- repaired tree, pop-on mode: word break, then only the hidden page and scalars change
    have es : crSync ch = wordBreak ch true := by
      unfold crSync; rw [hm.resolve_left (fun hn => hn hp), hp]; rfl
    have hb : (ch.hidden != (ch.mode != .popOn)) = ch.hidden := by rw [hp]; cases ch.hidden <;> rfl
    rw [hb] at u2 h2 u3 n4 d4 ⊢
    rw [es] at u1 h1 u2 h2 u3 n4 d4 ⊢
    have q2 : Ev (wordBreak ch true) (crMove (wordBreak ch true) ch.hidden) := by
      refine .quiet (crMove_nev _ _) u2.hidden ?_
      rw [crMove_eq h1, ← u1.hidden]; exact pg_setPg_other _ _ _
    have q3 : Ev (crMove (wordBreak ch true) ch.hidden) (crClear (crMove (wordBreak ch true) ch.hidden) chan) :=
      .quiet (fill_nev _ _ _ _ _) u3.hidden (fill_pg h2 (by simp) _ _).2
    rw [if_pos hp] at n4 d4
    exact ((sW.2.trans q2).trans q3).trans (Or.inr ⟨n4, d4⟩)
  · refine .loud ?_
    rw [n4, if_neg hp]
    show _ < (fill _ _ _ _ _).nev + 1
    rw [fill_nev, crMove_nev]
    have : ch.nev ≤ (crSync ch).nev := by
      unfold crSync; split
      · exact sW.2.mono
      · rw [update_nev]; exact sW.2.mono
    omega

/-- RUx keeps the invariant; it is silent only on a tree without the repair of finding F45a -/
theorem rollUpCmd_step {ch : Channel} (h : ChInv ch) {roll : Nat} (h2 : 2 ≤ roll) (h4 : roll ≤ 4) :
    ChInv (rollUpCmd ch roll) ∧ (ruEraseRaisesEvent = true → Ev ch (rollUpCmd ch roll)) := by
  unfold rollUpCmd
  refine ite_ind (P := fun x => ChInv x ∧ (_ → Ev ch x)) (fun _ => ⟨h, fun _ => .refl _⟩) fun _ => ?_
  refine ⟨ruFinish_inv ((ruErase_upd h).inv h) h2 h4, fun hflag => .loud ?_⟩
  show ch.nev < (ruErase ch).nev
  rw [ruErase_nev, hflag]
  simp

/-! ## the control codes -/

theorem ru_roll {c2 : Nat} (h : c2 &&& 15 = 5 ∨ c2 &&& 15 = 6 ∨ c2 &&& 15 = 7) :
    2 ≤ (c2 &&& 7) - 3 ∧ (c2 &&& 7) - 3 ≤ 4 := by
  have e : c2 &&& 7 = (c2 &&& 15) &&& 7 := by rw [Nat.and_assoc]; rfl
  rw [e]
  rcases h with h | h | h <;> rw [h] <;> decide

/-- every control code keeps the invariant of the channel it acts on and accounts for what it displays - a roll-up command
    if it raises its event (repair of finding F45a), a carriage return outside pop-on mode or without its `update()` there -/
theorem Ctl.effect_step {c1 c2 : Nat} {cmd : Ctl} (h : cmd.codes c1 c2) (chan : Nat) {ch : Channel} (hc : ChInv ch) :
    ChInv ((cmd.effect chan c1 c2).fn ch) ∧
    ((cmd = .ru → ruEraseRaisesEvent = true) → (cmd = .cr → ch.mode ≠ .popOn ∨ crPopOnNoUpdate = true) →
      Ev ch ((cmd.effect chan c1 c2).fn ch)) := by
  have of : ∀ {x : Channel} {p q : Prop}, Step ch x → ChInv x ∧ (p → q → Ev ch x) := fun s => ⟨s.1, fun _ _ => s.2⟩
  cases cmd
  case ignored | rtd => exact of (.refl hc)
  case preamble => exact of (pac_step hc _ _ _ Nat.and_le_right)
  case bgAttr => exact of (backgroundAttr_step hc _)
  case special => exact of (specialChar_step hc _ _)
  case midrow => exact of (midRow_step hc _)
  case tabAttr => exact of ((case7_edit hc _ _).step hc)
  case rcl | rdc => exact of (.scalar (hc.withMode _) rfl rfl rfl rfl)
  case bs => exact of ((backspace_edit hc _).step hc)
  case der => exact of (deleteToEnd_step hc _)
  case ru => exact ⟨(rollUpCmd_step hc (ru_roll h.2.2).1 (ru_roll h.2.2).2).1, fun hf _ => (rollUpCmd_step hc (ru_roll h.2.2).1 (ru_roll h.2.2).2).2 (hf rfl)⟩
  case fon => exact of ((RowEdit.attr hc _).step hc)
  case tr => exact of (.scalar (setCursor_inv hc (Nat.le_refl _) (by omega) (by omega)) rfl rfl rfl rfl)
  case edm => exact of (eraseDisplayed_step hc)
  case cr => exact ⟨(carriageReturn_step hc _).1, fun _ hm => (carriageReturn_step hc _).2 (hm rfl)⟩
  case enm => exact of (eraseNonDisplayed_step hc)
  case eoc => exact of (endOfCaption_step hc)

end Zvbi.Cc
