import ZvbiModel.Cc.Decoder
/-!
# Trace-level separation of the two fields (`fields_independent_full`)

`Agree f s t`: the decoder states `s` and `t` coincide in everything field `f` owns - its current-channel selector
`curr_chan[f]`, its four channels (CC1 CC2 T1 T2 resp. CC3 CC4 T3 T4: memories, cursor, window, mode, pen, dirty
region, event count, recorded error), the repetition latch `last[]` (field 1) resp. the XDS gate `cc->xds` (field 2).

* congruence: an op of field `f` (pair, fetch, channel switch) maps agreeing states to agreeing states
  (`decodePair_agree`, `fetchStep_agree`, `chsw_agree`) - "the effect of a pair on its own field reads nothing else":
  every elementary step of the pair's program (`decodePair_prog`, `Decoder.lean`) does (`MOp.run_agree`);
* frame: an op of the other field leaves the state in agreement with itself (`decodePair_other_agree`,
  `fetchStep_other_agree`), from `decodePair_apart` of `Decoder.lean`;
* `run_proj`: induction over the history.

`setCurr_agree` and what is built on it (`MOp.run_agree`, `decodePair_agree`, `decodePair_other_agree`, `step_agree`,
`step_other_agree`, `run_proj`) need the per-field selector (`currChanPerField = true`, generated from cc.h / caption.c).
-/
namespace Zvbi.Cc
open Zvbi.Gen.Cc

structure Agree (f : Bool) (s t : St) : Prop where
  cur : s.curr f = t.curr f
  last : f = false → s.last0 = t.last0 ∧ s.last1 = t.last1
  xds : f = true → s.xds = t.xds
  chs : ∀ i, inField f i → s.chans[i]? = t.chans[i]?

theorem Agree.refl (f : Bool) (s : St) : Agree f s s := ⟨rfl, fun _ => ⟨rfl, rfl⟩, fun _ => rfl, fun _ _ => rfl⟩

theorem Agree.symm {f : Bool} {s t : St} (A : Agree f s t) : Agree f t s :=
  ⟨A.cur.symm, fun h => ⟨(A.last h).1.symm, (A.last h).2.symm⟩, fun h => (A.xds h).symm, fun i h => (A.chs i h).symm⟩

theorem Agree.trans {f : Bool} {s t u : St} (A : Agree f s t) (B : Agree f t u) : Agree f s u :=
  ⟨A.cur.trans B.cur, fun h => ⟨(A.last h).1.trans (B.last h).1, (A.last h).2.trans (B.last h).2⟩,
   fun h => (A.xds h).trans (B.xds h), fun i h => (A.chs i h).trans (B.chs i h)⟩

theorem Agree.setLast {f : Bool} {s t : St} (A : Agree f s t) (a b : Nat) :
    Agree f { s with last0 := a, last1 := b } { t with last0 := a, last1 := b } :=
  ⟨A.cur, fun _ => ⟨rfl, rfl⟩, A.xds, A.chs⟩

theorem Agree.setLast0 {f : Bool} {s t : St} (A : Agree f s t) (a : Nat) :
    Agree f { s with last0 := a } { t with last0 := a } :=
  ⟨A.cur, fun h => ⟨rfl, (A.last h).2⟩, A.xds, A.chs⟩

theorem Agree.setXds {f : Bool} {s t : St} (A : Agree f s t) (x : Bool) :
    Agree f { s with xds := x } { t with xds := x } :=
  ⟨A.cur, A.last, fun _ => rfl, A.chs⟩

/-! ## building blocks -/

/-- the same channel function applied to a channel of field `f` in two agreeing states -/
theorem modCh_agree {f : Bool} {s t : St} (A : Agree f s t) (i : Nat) (g : Channel → Channel) :
    Agree f (s.modCh i g) (t.modCh i g) := by
  refine ⟨?_, fun h => ?_, fun h => ?_, fun j hj => ?_⟩
  · rw [modCh_curr, modCh_curr]; exact A.cur
  · rw [(modCh_last_xds s i g).1, (modCh_last_xds s i g).2.1, (modCh_last_xds t i g).1, (modCh_last_xds t i g).2.1]; exact A.last h
  · rw [(modCh_last_xds s i g).2.2, (modCh_last_xds t i g).2.2]; exact A.xds h
  · by_cases e : j = i
    · subst e; rw [modCh_get_eq, modCh_get_eq, A.chs j hj]
    · rw [modCh_get_ne _ _ e, modCh_get_ne _ _ e]; exact A.chs j hj

/-- a channel function applied to a channel of the OTHER field -/
theorem modCh_frame {f : Bool} (s : St) {i : Nat} (hi : ¬ inField f i) (g : Channel → Channel) :
    Agree f (s.modCh i g) s := by
  refine ⟨modCh_curr _ _ _ _, fun _ => ⟨(modCh_last_xds s i g).1, (modCh_last_xds s i g).2.1⟩, fun _ => (modCh_last_xds s i g).2.2, fun j hj => ?_⟩
  have e : j ≠ i := fun e => hi (e ▸ hj)
  exact modCh_get_ne _ _ e

theorem setCurr_same (hpf : currChanPerField = true) (s : St) (n : Nat) (f : Bool)
    (hn : ((n >>> 1) &&& 1 == 1) = f) : (s.setCurr n).curr f = n := by
  unfold St.setCurr St.curr
  rw [hpf, hn]
  cases f <;> simp

theorem setCurr_agree (hpf : currChanPerField = true) {f : Bool} {s t : St} (A : Agree f s t) {n : Nat}
    (hn : inField f n) : Agree f (s.setCurr n) (t.setCurr n) := by
  refine ⟨?_, fun h => ?_, fun h => ?_, fun j hj => ?_⟩
  · rw [setCurr_same hpf s n f hn.2, setCurr_same hpf t n f hn.2]
  · rw [(setCurr_last_xds s n).1, (setCurr_last_xds s n).2.1, (setCurr_last_xds t n).1, (setCurr_last_xds t n).2.1]; exact A.last h
  · rw [(setCurr_last_xds s n).2.2, (setCurr_last_xds t n).2.2]; exact A.xds h
  · rw [setCurr_chans, setCurr_chans]; exact A.chs j hj

/-! ## congruence of the decoder on its own field -/

theorem MOp.run_agree (hpf : currChanPerField = true) {f : Bool} {g : Nat} (hg : inField f g ∧ inField f (g + 4)) {s t : St}
    (A : Agree f s t) {m : MOp} (hm : m.Own f g) : Agree f (m.run s) (m.run t) := by
  match m, hm with
  | .mod i k, _ => exact modCh_agree A i k
  | .curr n, hn => exact setCurr_agree hpf A (by rcases hn with rfl | rfl; exact hg.1; exact hg.2)
  | .last a b, _ => exact A.setLast a b
  | .last0, _ => exact A.setLast0 0
  | .xds x, _ => exact A.setXds x

/-- **a pair's effect on its own field reads nothing of the other field** -/
theorem decodePair_agree (hpf : currChanPerField = true) {f : Bool} {s t : St} (A : Agree f s t) (b0 b1 : Nat) :
    Agree f (decodePair s f b0 b1) (decodePair t f b0 b1) := by
  obtain ⟨p, hp, he⟩ := decodePair_prog s f b0 b1
  rw [he s rfl (fun _ => ⟨rfl, rfl⟩) (fun _ => rfl),
    he t A.cur.symm (fun h => ⟨(A.last h).1.symm, (A.last h).2.symm⟩) fun h => (A.xds h).symm]
  exact List.foldl_rel A fun m hm _ _ A' => MOp.run_agree hpf (pairGroup_field s f b0).2 A' (hp m hm)

/-- a pair of the OTHER field: what it leaves alone contains everything field `f` owns -/
theorem decodePair_other_agree (hpf : currChanPerField = true) (s : St) (f : Bool) (b0 b1 : Nat) :
    Agree f (decodePair s (!f) b0 b1) s := by
  have A := decodePair_apart s (!f) b0 b1
  obtain ⟨hg, g0, _⟩ := pairGroup_field s (!f) b0
  refine ⟨by have := A.curr hpf; rwa [Bool.not_not] at this, fun h => A.last (by rw [h]; rfl), fun h => A.xds (by rw [h]; rfl),
    fun i hi => ?_⟩
  obtain ⟨n1, n2⟩ := other_field_ne _ hg i hi.1 (!f) (by rw [Bool.not_not]; exact hi.2) g0.2
  exact A.chans i n1 n2

/-! ## fetch and channel switch -/

theorem fetchStep_agree {f : Bool} {s t : St} (A : Agree f s t) (n : Int) :
    Agree f (fetchStep s n) (fetchStep t n) := by
  unfold fetchStep
  split
  · exact A
  · exact modCh_agree A _ _

/-- the page number belongs to field `f`: 1 2 5 6 (CC1 CC2 T1 T2) resp. 3 4 7 8 -/
def pageOfField (f : Bool) (n : Int) : Bool :=
  decide (1 ≤ n) && decide (n ≤ 8) && (((((n - 1).toNat &&& 7) >>> 1) &&& 1 == 1) == f)

theorem fetchStep_other_agree {f : Bool} (s : St) (n : Int) (h : pageOfField f n = false) :
    Agree f (fetchStep s n) s := by
  unfold fetchStep
  split
  · exact Agree.refl f s
  · rename_i hr
    apply modCh_frame
    intro hi
    have h1 : ¬ n < 1 := by intro h'; apply hr; simp [h']
    have h8 : ¬ n > 8 := by intro h'; apply hr; simp [h']
    unfold pageOfField at h
    have e1 : decide (1 ≤ n) = true := by simp; omega
    have e8 : decide (n ≤ 8) = true := by simp; omega
    rw [e1, e8, hi.2] at h
    simp at h

theorem fetchPage_agree {f : Bool} {s t : St} (A : Agree f s t) (n : Int) (h : pageOfField f n = true) :
    fetchPage s n = fetchPage t n := by
  unfold pageOfField at h
  simp only [Bool.and_eq_true, decide_eq_true_eq, beq_iff_eq] at h
  obtain ⟨⟨h1, h8⟩, hb⟩ := h
  have hin : inField f ((n - 1).toNat &&& 7) := ⟨by have : (n - 1).toNat &&& 7 ≤ 7 := Nat.and_le_right; omega, hb⟩
  unfold fetchPage
  rw [A.chs _ hin]

theorem chsw_agree {f : Bool} {s t : St} (A : Agree f s t) : Agree f s.chsw t.chsw := by
  unfold St.chsw St.chswWith
  refine ⟨?_, fun h => ?_, fun _ => rfl, fun i hi => ?_⟩
  · unfold St.chswCurr; split
    · rfl
    · exact A.cur
  · have := A.last h
    unfold St.chswCurr; split <;> exact this
  · show (s.chans.map _)[i]? = (t.chans.map _)[i]?
    rw [List.getElem?_map, List.getElem?_map, A.chs i hi]

/-! ## whole histories -/

/-- is the op one of field `f`'s stream?  (its pairs, fetches of its pages, every channel switch) -/
def opOfField (f : Bool) : Op → Bool
  | .pair g _ _ => g == f
  | .fetch n => pageOfField f n
  | .chsw => true

theorem step_agree (hpf : currChanPerField = true) {f : Bool} {s t : St} (A : Agree f s t) (op : Op)
    (h : opOfField f op = true) : Agree f (step s op) (step t op) := by
  cases op with
  | pair g b0 b1 =>
    have : g = f := by simpa [opOfField] using h
    subst this
    exact decodePair_agree hpf A _ _
  | fetch n => exact fetchStep_agree A n
  | chsw => exact chsw_agree A

theorem step_other_agree (hpf : currChanPerField = true) {f : Bool} (s : St) (op : Op)
    (h : opOfField f op = false) : Agree f (step s op) s := by
  cases op with
  | pair g b0 b1 =>
    have : g = !f := by cases g <;> cases f <;> simp_all [opOfField]
    subst this
    exact decodePair_other_agree hpf s f _ _
  | fetch n => exact fetchStep_other_agree s n h
  | chsw => simp [opOfField] at h

/-- **projection theorem**: run the whole history on `s`, and only field `f`'s ops on an agreeing `t` -/
theorem run_proj (hpf : currChanPerField = true) (f : Bool) (ops : List Op) :
    ∀ s t, Agree f s t → Agree f (ops.foldl step s) ((ops.filter (opOfField f)).foldl step t) := by
  induction ops with
  | nil => intro s t A; exact A
  | cons op rest ih =>
    intro s t A
    by_cases h : opOfField f op = true
    · rw [List.filter_cons_of_pos h]
      exact ih _ _ (step_agree hpf A op h)
    · have h' : opOfField f op = false := by simpa using h
      rw [List.filter_cons_of_neg h]
      exact ih _ _ ((step_other_agree hpf s op h').trans A)

theorem filter_pairs (ps : List (Bool × Nat × Nat)) (f : Bool) :
    (ps.map (fun p => Op.pair p.1 p.2.1 p.2.2)).filter (opOfField f) =
    (ps.filter (fun p => p.1 == f)).map (fun p => Op.pair p.1 p.2.1 p.2.2) := by
  rw [List.filter_map]
  rfl

end Zvbi.Cc
