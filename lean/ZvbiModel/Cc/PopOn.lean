import ZvbiModel.Cc.Rows
/-!
# Refinement to `Eia608`: what the caption modes share, and pop-on captions  `RCL ENM (PAC glyph*)* EOC`

First what pop-on, roll-up and paint-on mode have in common, stated for any mode: a run of glyphs (`glyph_sim`), a row that
shows a reference row (`RowShows`), the row closed by the word break (`close_row`), the PAC (`pac_at`, `pac_plain`).  Then the pop-on
loading relation, whole captions and caption streams.
-/
namespace Zvbi.Cc
open Zvbi.Gen.Cc Eia608

/-! ## the reference side of a typed character -/

theorem spec_target_pop {v : Service} (hm : v.mode = some .popOn) : v.target = v.nond := by
  unfold Service.target; rw [if_pos hm]

/-- the reference service writes to its displayed memory -/
def directMode (v : Service) : Prop := v.mode ≠ none ∧ v.mode ≠ some .popOn

theorem spec_target_dir {v : Service} (hm : v.mode ≠ some .popOn) : v.target = v.disp := by
  unfold Service.target; rw [if_neg hm]

/-- what a typed character leaves alone besides mode, row and pen (`spec_putChar_step`): the memory it is not typed into -/
theorem spec_putChar_rest (v : Service) (u : Nat) :
    (v.putChar u).base = v.base ∧ (v.putChar u).isText = v.isText ∧
    (v.mode = some .popOn → (v.putChar u).disp = v.disp) ∧ (v.mode ≠ some .popOn → (v.putChar u).nond = v.nond) := by
  unfold Service.putChar Service.setTarget
  by_cases hn : v.mode = none
  · simp [hn]
  · by_cases hp : v.mode = some .popOn <;> simp [hn, hp]

/-! ## glyphs: basic and special characters typed into the current row -/

inductive Glyph
  | code (ci : Nat)       -- a byte 0x20..0x7F of a text pair
  | special (k : Nat)     -- special character k: second byte 0x30 | k
deriving Repr, DecidableEq

def Glyph.ok : Glyph → Bool
  | .code ci => isCharCode ci
  | .special k => decide (k < 16) && decide (k ≠ 9)

/-- the character of the standard's chart (15.119 (g)) -/
def Glyph.uni : Glyph → Nat
  | .code ci => Eia608.basicChar ci
  | .special k => Eia608.specialChar k

/-- libzvbi: `put_char` from the text branch, resp. `caption_command` `case 1:` with bit 4 of the second byte -/
def glyphM (chan : Nat) (ch : Channel) : Glyph → Channel
  | .code ci => putChar ch { ch.attr with unicode := captionUnicode ci }
  | .special k => specialChar ch chan (0x30 ||| k)

/-- the reference service types the glyph: `putChar` resp. `exec (.special k)` -/
def glyphS (v : Service) : Glyph → Service
  | .code ci => v.putChar (Eia608.basicChar ci)
  | .special k => v.exec (.special k)

def glyphRun (chan : Nat) (ch : Channel) (gs : List Glyph) : Channel := gs.foldl (glyphM chan) ch
def glyphRunS (v : Service) (gs : List Glyph) : Service := gs.foldl glyphS v

theorem glyphM_eq (chan : Nat) (ch : Channel) (g : Glyph) (hg : g.ok = true) :
    glyphM chan ch g = putChar ch { ch.attr with unicode := g.uni } := by
  cases g with
  | code ci =>
    show putChar ch { ch.attr with unicode := captionUnicode ci } = putChar ch { ch.attr with unicode := Eia608.basicChar ci }
    rw [charCode_std ci hg]
  | special k =>
    simp only [Glyph.ok, Bool.and_eq_true, decide_eq_true_eq] at hg
    show Cc.specialChar ch chan (0x30 ||| k) = putChar ch { ch.attr with unicode := Eia608.specialChar k }
    rw [specialChar_eq, if_neg (by rw [(special_c2 k hg.1).2.2.1]; exact hg.2), (special_c2 k hg.1).2.2.1, special_glyph k hg.1]

theorem glyphS_eq (v : Service) (hm : v.mode ≠ none) (g : Glyph) (hg : g.ok = true) : glyphS v g = v.putChar g.uni := by
  cases g with
  | code ci => rfl
  | special k =>
    simp only [Glyph.ok, Bool.and_eq_true, decide_eq_true_eq] at hg
    show v.exec (.special k) = v.putChar (Eia608.specialChar k)
    unfold Service.exec
    simp only [hg.2, if_false]
    split
    · rename_i hn; exact absurd hn hm
    · rfl

/-- the displayed row under the cursor is up to date whenever the last typed character is a space -/
def RowSynced (ch : Channel) (lead : Bool) (cs : List Cell) : Prop :=
  cs ≠ [] → (cs.getD (cs.length - 1) default).isSpace = true →
    lead = (!(cs.getD 0 default).isSpace) ∧ ∀ j, j < 34 → ch.dcell ch.row j = ch.hcell ch.row j

/-- glyphs typed in any caption mode: both models extend the segment of the current row by the same cells, no other row of
    the working memory changes.  In pop-on mode nothing reaches the displayed memory; in the other
    modes libzvbi copies the row to the displayed memory at every space and leaves the other displayed rows alone. -/
theorem glyph_sim (chan : Nat) (c0 : Nat) (gs : List Glyph) : ∀ {ch : Channel} {v : Service} {lead : Bool} {xs : List SCell},
    ChInv ch → RowSim ch v lead c0 xs → (ch.mode ≠ .popOn → RowSynced ch lead (xs.map toCell)) →
    (∀ g ∈ gs, g.ok = true) → c0 + xs.length + gs.length ≤ 33 →
    ∃ lead' xs', xs' = xs ++ gs.map (fun g => ({ ch := g.uni, pen := v.pen } : SCell)) ∧
      RowSim (glyphRun chan ch gs) (glyphRunS v gs) lead' c0 xs' ∧
      (ch.mode ≠ .popOn → RowSynced (glyphRun chan ch gs) lead' (xs'.map toCell)) ∧
      ChInv (glyphRun chan ch gs) ∧ Frame ch (glyphRun chan ch gs) ∧
      (∀ r j, j < 34 → r ≠ ch.row ∨ ch.mode = .popOn → (glyphRun chan ch gs).dcell r j = ch.dcell r j) ∧
      (∀ r c, r ≠ v.row → (glyphRunS v gs).target r c = v.target r c) ∧
      (glyphRunS v gs).mode = v.mode ∧ (glyphRunS v gs).base = v.base ∧
      (v.mode = some .popOn → (glyphRunS v gs).disp = v.disp) := by
  induction gs with
  | nil =>
    intro ch v lead xs h Q sy _ _
    exact ⟨lead, xs, by simp, Q, sy, h, Frame.refl _, fun _ _ _ _ => rfl, fun _ _ _ => rfl, rfl, rfl, fun _ => rfl⟩
  | cons g rest ih =>
    intro ch v lead xs h Q sy hw hlen
    have hg := hw g (List.mem_cons_self ..)
    have hlen' : c0 + xs.length + (rest.length + 1) ≤ 33 := by simpa using hlen
    have st := putChar_sim_glyph h Q g.uni (by omega)
    simp only at st
    obtain ⟨hcx, Q1, sO, pi, pf, pside⟩ := st
    obtain ⟨_, s2, s3, s4, _⟩ := spec_putChar_step v g.uni Q.vmode (by
      have := Q.vcol; have := Q.R.col; have : (xs.map toCell).length = xs.length := List.length_map _; omega)
    obtain ⟨sb, _, sd, _⟩ := spec_putChar_rest v g.uni
    have sy1 : (putChar ch { ch.attr with unicode := g.uni }).mode ≠ .popOn →
        RowSynced (putChar ch { ch.attr with unicode := g.uni })
          (if ({ ch.attr with unicode := g.uni } : Cell).isSpace then
            !(((xs ++ [({ ch := g.uni, pen := v.pen } : SCell)]).map toCell).getD 0 default).isSpace else lead)
          ((xs ++ [({ ch := g.uni, pen := v.pen } : SCell)]).map toCell) := by
      intro hm _ hlast
      rw [pf.mode] at hm
      have hmap : (xs ++ [({ ch := g.uni, pen := v.pen } : SCell)]).map toCell =
          xs.map toCell ++ [{ ch.attr with unicode := g.uni }] := by rw [List.map_append, hcx]; rfl
      have hl : ((xs ++ [({ ch := g.uni, pen := v.pen } : SCell)]).map toCell).length - 1 = (xs.map toCell).length := by
        simp
      rw [hl, hmap, getD_snoc_eq] at hlast
      rw [if_pos hlast]
      rw [if_pos ⟨hlast, hm⟩] at pside
      exact ⟨rfl, fun j hj => by rw [pside.2 _ j hj, pf.row, if_pos rfl]⟩
    have dsame : ∀ r j, j < 34 → r ≠ ch.row ∨ ch.mode = .popOn →
        (putChar ch { ch.attr with unicode := g.uni }).dcell r j = ch.dcell r j := by
      intro r j hj hr
      by_cases hc : ({ ch.attr with unicode := g.uni } : Cell).isSpace = true ∧ ch.mode ≠ .popOn
      · rw [if_pos hc] at pside; rw [pside.2 r j hj, if_neg (hr.resolve_right hc.2)]
      · rw [if_neg hc] at pside; exact pside.2 r j hj
    obtain ⟨lead', xs', ex, Q2, sy2, i2, f2, d2, o2, m2, b2, dd2⟩ :=
      ih pi Q1 sy1 (fun c hc => hw c (List.mem_cons_of_mem _ hc)) (by simp; omega)
    have ec : glyphRun chan ch (g :: rest) = glyphRun chan (putChar ch { ch.attr with unicode := g.uni }) rest := by
      unfold glyphRun; rw [List.foldl_cons, glyphM_eq chan ch g hg]
    have es : glyphRunS v (g :: rest) = glyphRunS (v.putChar g.uni) rest := by
      unfold glyphRunS; rw [List.foldl_cons, glyphS_eq v Q.vmode g hg]
    rw [ec, es]
    refine ⟨lead', xs', by rw [ex, s3]; simp, Q2, fun hm => sy2 (by rw [pf.mode]; exact hm), i2, pf.trans f2, ?_, ?_,
      by rw [m2, s4], by rw [b2, sb], fun hm => by rw [dd2 (by rw [s4]; exact hm), sd hm]⟩
    · intro r j hj hr
      rw [d2 r j hj (by rw [pf.row, pf.mode]; exact hr), dsame r j hj hr]
    · intro r c hr
      rw [o2 r c (by rw [s2]; exact hr)]
      exact sO r c hr

theorem charRun_eq_glyphRun (chan : Nat) (ch : Channel) (cs : List Nat) : charRun ch cs = glyphRun chan ch (cs.map .code) := by
  unfold charRun glyphRun; rw [List.foldl_map]; rfl

theorem specRun_eq_glyphRunS (v : Service) (cs : List Nat) : specRun v cs = glyphRunS v (cs.map .code) := by
  unfold specRun glyphRunS; rw [List.foldl_map]; rfl

theorem codes_ok {cs : List Nat} (hw : ∀ ci ∈ cs, isCharCode ci = true) : ∀ g ∈ cs.map Glyph.code, g.ok = true := by
  intro g hg
  obtain ⟨c, hc, rfl⟩ := List.mem_map.1 hg
  exact hw c hc

/-! ## page relations -/

/-- row `r` of the non-displayed memory shows what the reference memory `m` renders there -/
def HidRowOK (ch : Channel) (m : Mem) (r : Nat) : Prop :=
  ∀ j, j < 34 → ∃ c, ch.hcell r j = some c ∧ toRCell c = renderCell false m r j

/-- the displayed memory shows what the reference memory `m` renders -/
def DispOK (ch : Channel) (m : Mem) : Prop :=
  ∀ r, r < 15 → ∀ j, j < 34 → ∃ c, ch.dcell r j = some c ∧ toRCell c = renderCell false m r j

theorem dispOK_of_rows {ch : Channel} {m : Mem}
    (hr : ∀ r, r < 15 → r ≠ ch.row → ∀ j, j < 34 → ∃ c, ch.dcell r j = some c ∧ toRCell c = renderCell false m r j)
    (hs : ∀ j, j < 34 → ∃ c, ch.dcell ch.row j = some c ∧ toRCell c = renderCell false m ch.row j) : DispOK ch m := by
  intro r hr' j hj
  by_cases he : r = ch.row
  · rw [he]; exact hs j hj
  · exact hr r hr' he j hj

theorem renderCell_congr {t : Bool} {m m' : Mem} {r r' : Nat} (h : ∀ c, m r c = m' r' c) (j : Nat) :
    renderCell t m r j = renderCell t m' r' j := by
  have hi : ∀ c, inside m r c = inside m' r' c := by intro c; unfold inside; rw [h c]
  unfold renderCell
  simp only [hi]

/-- the 34 cells `f` show what the reference memory `m` renders in row `r`: what `HidRowOK`, `DispRowOK` and `DispOK` say of a
    row of the non-displayed memory, of the displayed memory, and of all its rows -/
def RowShows (f : Nat → Option Cell) (m : Mem) (r : Nat) : Prop :=
  ∀ j, j < 34 → ∃ c, f j = some c ∧ toRCell c = renderCell false m r j

theorem RowShows.congr {f f' : Nat → Option Cell} {m m' : Mem} {r r' : Nat} (D : RowShows f m r)
    (hf : ∀ j, j < 34 → f' j = f j) (hm : ∀ c, m' r' c = m r c) : RowShows f' m' r' := fun j hj => by
  rw [hf j hj, renderCell_congr hm j]; exact D j hj

/-- an empty reference row is shown by a blank libzvbi row, and only by that -/
theorem rowShows_empty_iff {f : Nat → Option Cell} {m : Mem} {r : Nat} (he : ∀ c, m r c = none) :
    RowShows f m r ↔ ∀ j, j < 34 → f j = some tsC := by
  constructor
  · intro hk j hj
    obtain ⟨c, hc, e⟩ := hk j hj
    rw [render_emptyRow he, ← toRCell_ts] at e
    rw [hc, toRCell_inj e]
  · intro hk j hj
    exact ⟨tsC, hk j hj, by rw [render_emptyRow he, toRCell_ts]⟩

/-- closing the current row (solid spaces) makes it show the reference row -/
theorem close_row {ch : Channel} (h : ChInv ch) {m : Mem} {lead : Bool} {c0 : Nat} {xs : List SCell}
    (R : RowIs ch lead false c0 (xs.map toCell)) (S : SegRow m ch.row c0 xs) : HidRowOK (wordBreak ch false) m ch.row := by
  by_cases hx : xs = []
  · subst hx
    rw [wordBreak_false_noop (by rw [R.col, R.col1]; simp)]
    refine (rowShows_empty_iff fun c => by rw [S c]; simp).2 fun j hj => ?_
    rw [R.cells j hj]
    have hl : lead = false := by
      cases lead
      · rfl
      · exact absurd rfl (R.leadne rfl)
    simp [rowCell, hl]
    intro h1 h2; omega
  · have Rw := R.wordBreak h (by simpa using hx)
    intro j hj
    refine ⟨_, by rw [← (wordBreak_edit h).row]; exact Rw.cells j hj, ?_⟩
    rw [render_segRow S hx R.c0pos (by have := R.fits; simpa using this) j hj]
    simp only [List.length_map]


/-! ## Preamble Address Codes -/

/-- arguments of a PAC as the reference decoder reads them: row, indent, colour code, underline -/
def pacArgs (c1 c2 : Nat) : Option (Nat × Nat × Option Nat × Bool) :=
  if 0x40 ≤ c2 ∧ c2 ≤ 0x7F then
    match pacRow c1 ((c2 >>> 5) &&& 1 == 1) with
    | some r => some (r, (if c2 &&& 0x10 != 0 then ((c2 >>> 1) &&& 7) * 4 else 0),
                      (if c2 &&& 0x10 != 0 then none else some ((c2 >>> 1) &&& 7)), c2 &&& 1 == 1)
    | none => none
  else none

theorem decodeCmd_pac : ∀ c1 < 8, ∀ c2 < 128, 0x40 ≤ c2 →
    decodeCmd c1 c2 = (pacArgs c1 c2).map (fun a => (0, Cmd.pac a.1 a.2.1 a.2.2.1 a.2.2.2)) := by
  have key : ∀ c1 < 8, (c1 >>> 3) &&& 1 = 0 ∧ c1 &&& 7 = c1 := by decide
  intro c1 h1 c2 h2 h3
  unfold decodeCmd pacArgs
  simp only [(key c1 h1).1, (key c1 h1).2, show 0x40 ≤ c2 ∧ c2 ≤ 0x7F from ⟨h3, by omega⟩, and_self, if_true]
  cases pacRow c1 ((c2 >>> 5) &&& 1 == 1) with
  | none => rfl
  | some r => simp only []; split <;> rfl

/-- libzvbi's row table gives the row of the standard -/
-- in the shape `decide` evaluates
theorem pacRow_model : ∀ c1 < 8, ∀ b < 2,
    ((pacRow c1 (b == 1)).all fun r => decide (rowMapping[(c1 <<< 1) + b]? = some (Int.ofNat r) ∧ r ≤ 14)) = true := by decide

theorem pac_indent : ∀ c2 < 128, (c2 &&& 14) * 2 = ((c2 >>> 1) &&& 7) * 4 ∧ ((c2 >>> 1) &&& 7) * 4 ≤ 28 := by decide

theorem pacArgs_model {c1 c2 : Nat} (h1 : c1 < 8) (h2 : c2 < 128) (h3 : 0x40 ≤ c2) {a : Nat × Nat × Option Nat × Bool}
    (ha : pacArgs c1 c2 = some a) :
    rowMapping[(c1 <<< 1) + ((c2 >>> 5) &&& 1)]? = some (a.1 : Int) ∧ a.1 ≤ 14 ∧ a.2.1 ≤ 28 ∧
    (if c2 &&& 0x10 != 0 then (c2 &&& 14) * 2 else 0) = a.2.1 ∧
    a.2.2.1 = (if c2 &&& 0x10 != 0 then none else some ((c2 >>> 1) &&& 7)) ∧ a.2.2.2 = (c2 &&& 1 == 1) := by
  have hb : (c2 >>> 5) &&& 1 < 2 := by have : (c2 >>> 5) &&& 1 ≤ 1 := Nat.and_le_right; omega
  have hr := pacRow_model c1 h1 _ hb
  obtain ⟨i1, i2⟩ := pac_indent c2 h2
  unfold pacArgs at ha
  rw [if_pos ⟨h3, by omega⟩] at ha
  cases hp : pacRow c1 ((c2 >>> 5) &&& 1 == 1) with
  | none => rw [hp] at ha; cases ha
  | some r =>
    rw [hp] at ha hr
    cases ha
    have hr := of_decide_eq_true hr
    refine ⟨hr.1, hr.2, ?_, ?_, rfl, rfl⟩
    · show (if _ then _ else 0) ≤ 28
      split <;> omega
    · show _ = (if _ then _ else 0)
      rw [i1]

/-- the pens agree after a PAC (both sides overwrite every pen attribute) -/
theorem pacPen_matches : ∀ c2 < 128, 0x40 ≤ c2 → ∀ (old : Cell) (v : Service),
    penMatches (pacPen old c2)
      (v.pen' ((if c2 &&& 0x10 != 0 then none else some ((c2 >>> 1) &&& 7) : Option Nat).getD 0) (c2 &&& 1 == 1) true) := by
  have key : ∀ c2 < 128, 0x40 ≤ c2 →
      penMatches (pacPen default c2)
        ((Service.init false).pen' ((if c2 &&& 0x10 != 0 then none else some ((c2 >>> 1) &&& 7) : Option Nat).getD 0)
          (c2 &&& 1 == 1) true) := by decide
  intro c2 h1 h2 old v
  have e1 : pacPen old c2 = { pacPen default c2 with unicode := old.unicode } := by
    unfold pacPen; simp only []; repeat' split
    all_goals rfl
  have e2 : ∀ c u, v.pen' c u true = (Service.init false).pen' c u true := by
    intro c u; unfold Service.pen'; split <;> rfl
  rw [e1, e2]
  exact key c2 h1 h2

theorem withSpace_isSpace (a : Cell) : ({ a with unicode := 0x20 } : Cell).isSpace = true := by
  show ((0x20 : Nat) &&& 0x7F == 0x20) = true
  decide

/-- the pens agree after a mid-row code, whatever the pen was before (needs the F46 repair for the italics code) -/
theorem midrow_pen_matches (hk : midrowItalicsKeepsColour = true) (a : Cell) (v : Service) (hp : penMatches a v.pen) (c2 : Nat) :
    penMatches (midRowPen a c2) (v.pen' ((c2 >>> 1) &&& 7) (c2 &&& 1 == 1) false) := by
  obtain ⟨h1, h2, h3, h4, h5, h6⟩ := hp
  have hu : (c2 &&& 1 != 0) = (c2 &&& 1 == 1) := by
    have : c2 &&& 1 = 0 ∨ c2 &&& 1 = 1 := by have : c2 &&& 1 ≤ 1 := Nat.and_le_right; omega
    rcases this with e | e <;> rw [e] <;> rfl
  have hlt : (c2 >>> 1) &&& 7 ≤ 7 := Nat.and_le_right
  unfold midRowPen Service.pen' penMatches
  by_cases h7 : (c2 >>> 1) &&& 7 < 7
  · have hne : ¬ ((c2 >>> 1) &&& 7 = 7) := by omega
    rw [if_pos h7, if_neg hne]
    exact ⟨hu, rfl, rfl, palette_std _ h7, h5, by simpa [opaqueOf] using h6⟩
  · have he : (c2 >>> 1) &&& 7 = 7 := by omega
    rw [if_neg h7, if_pos hk, if_pos he]
    exact ⟨hu, rfl, rfl, h4, h5, by simpa [opaqueOf] using h6⟩


/-! ## the pop-on loading relation -/

/-- libzvbi channel `ch` and reference service `v` while a pop-on caption is loaded: the displayed memories agree,
    every finished row of the non-displayed memory shows the reference row, the current row is an open segment -/
structure PopRel (ch : Channel) (v : Service) : Prop where
  inv : ChInv ch
  idx : ch.idx < 4
  mode : ch.mode = .popOn
  vmode : v.mode = some .popOn
  disp : DispOK ch v.disp
  rows : ∀ r, r < 15 → r ≠ ch.row → HidRowOK ch v.nond r
  cur : ∃ lead c0 xs, RowIs ch lead false c0 (xs.map toCell) ∧ SegRow v.nond ch.row c0 xs
  pen : penMatches ch.attr v.pen

theorem tsC_of_chan {chan : Nat} (h : chan < 4) : transpSpace (decide (4 ≤ chan)) = tsC := by
  have : decide (4 ≤ chan) = false := by simp; omega
  rw [this]

theorem ts_of_idx4 {ch : Channel} (h : ch.idx < 4) : ch.ts = tsC := by
  unfold Channel.ts; exact tsC_of_chan h

/-- closing the current row: afterwards every row of the non-displayed memory shows the reference row -/
theorem close_all {ch : Channel} {m : Mem} (hinv : ChInv ch) (rows : ∀ r, r < 15 → r ≠ ch.row → HidRowOK ch m r)
    (cur : ∃ lead c0 xs, RowIs ch lead false c0 (xs.map toCell) ∧ SegRow m ch.row c0 xs) :
    ∀ r, r < 15 → HidRowOK (wordBreak ch false) m r := by
  obtain ⟨lead, c0, xs, R, S⟩ := cur
  intro r hr
  by_cases he : r = ch.row
  · rw [he]; exact close_row hinv R S
  · intro j hj
    rw [(wordBreak_edit hinv).rows r j hj he]
    exact rows r hr he j hj

theorem RowIs.transfer {a b : Channel} {lead trail : Bool} {c0 : Nat} {cs : List Cell} (R : RowIs b lead trail c0 cs)
    (h1 : a.col1 = b.col1) (h2 : a.col = b.col) (h3 : a.row = b.row) (h4 : ∀ j, j < 34 → a.hcell b.row j = b.hcell b.row j) :
    RowIs a lead trail c0 cs :=
  ⟨h1.trans R.col1, h2.trans R.col, R.c0pos, R.fits, fun j hj => by rw [h3, h4 j hj]; exact R.cells j hj, R.opq,
   R.leadok, R.leadne⟩

/-- the indent (or colour) part of a PAC whose cursor stands on a blank row changes no cell (`pacStyle_edit` has the rest) -/
theorem pacStyle_blank {y : Channel} (h : ChInv y) {chan : Nat} (hchan : chan < 4) (c2 : Nat)
    (hb : ∀ j, j < 34 → y.hcell y.row j = some tsC) : ∀ r j, j < 34 → (pacStyle y chan c2).hcell r j = y.hcell r j := by
  unfold pacStyle
  split
  · intro r j hj
    show (tabFill y _ _).hcell r j = _
    rw [(tabFill_row h ((c2 &&& 14) * 2) (transpSpace (decide (4 ≤ chan)))).1 r j hj]
    split
    · next hc => rw [tsC_of_chan hchan, hc.1]; exact (hb j hj).symm
    · rfl
  · unfold setColour
    split <;> exact fun _ _ _ => rfl

/-- a PAC with a defined row code in a caption mode: pen, closing word break, cursor move, indent; the cursor ends at
    column 1 + indent, with the pen the reference selects -/
theorem pac_at {ch : Channel} (h : ChInv ch) (hm : ch.mode ≠ .none) (chan : Nat) {c1 c2 : Nat} (h1 : c1 < 8) (h2 : c2 < 128)
    (h3 : 0x40 ≤ c2) {r ind : Nat} {col : Option Nat} {u : Bool} (ha : pacArgs c1 c2 = some (r, ind, col, u)) :
    r ≤ 14 ∧ ind ≤ 28 ∧ pac ch chan c1 c2 = pacStyle (pacCursor (wordBreak (pacAttr ch c2) true) r) chan c2 ∧
    ChInv (pac ch chan c1 c2) ∧ (pac ch chan c1 c2).col = 1 + ind ∧ (pac ch chan c1 c2).col1 = 1 + ind ∧
    (pac ch chan c1 c2).mode = ch.mode ∧ (ch.mode ≠ .rollUp → (pac ch chan c1 c2).row = r) ∧
    (ch.mode = .rollUp → (pac ch chan c1 c2).row1 = r + 1 - ch.roll ∧
      (pac ch chan c1 c2).row + 1 = (pac ch chan c1 c2).row1 + ch.roll) ∧
    ∀ v : Service, penMatches (pac ch chan c1 c2).attr (v.pen' (col.getD 0) u true) := by
  obtain ⟨hrm, hr14, hind, hie, hcol, hu⟩ := pacArgs_model h1 h2 h3 ha
  simp only at hrm hr14 hind hie hcol hu
  have hr0 : (0 : Int) ≤ (r : Int) := Int.natCast_nonneg r
  obtain ⟨scol, scol1, srow, srow1, _, sattr, smode⟩ := pac_spec h chan c1 c2 (by omega) (r : Int) hrm hr0 hm
  have e := pac_eq ch chan c1 c2 (r : Int) hrm hr0 hm
  rw [Int.toNat_natCast] at e srow srow1
  refine ⟨hr14, hind, e, (pac_step h chan c1 c2 (by omega)).1, by rw [scol, hie], by rw [scol1, scol, hie], smode, srow, srow1,
    fun v => ?_⟩
  rw [sattr, hcol, hu]
  exact pacPen_matches c2 h2 h3 ch.attr v

/-- a PAC outside roll-up mode that lands on a row `r` which is blank after the closing word break: no cell changes after
    the word break, and row `r` is an empty open segment at column 1 + indent -/
theorem pac_plain {ch : Channel} (h : ChInv ch) (hm : ch.mode ≠ .none) (hru : ch.mode ≠ .rollUp) {chan c1 c2 : Nat}
    (hchan : chan < 4) (h1 : c1 < 8) (h2 : c2 < 128) (h3 : 0x40 ≤ c2) {r ind : Nat} {col : Option Nat} {u : Bool}
    (ha : pacArgs c1 c2 = some (r, ind, col, u))
    (hb : ∀ j, j < 34 → (wordBreak (pacAttr ch c2) true).hcell r j = some tsC) :
    (pac ch chan c1 c2).idx = ch.idx ∧
    (∀ r' j, (pac ch chan c1 c2).dcell r' j = (wordBreak (pacAttr ch c2) true).dcell r' j) ∧
    (∀ r' j, j < 34 → (pac ch chan c1 c2).hcell r' j = (wordBreak (pacAttr ch c2) true).hcell r' j) ∧
    RowIs (pac ch chan c1 c2) false false (1 + ind) [] := by
  obtain ⟨hr14, _, e, _, hpcol, hpcol1, _, srow, _, _⟩ := pac_at h hm chan h1 h2 h3 ha
  have hA : ChInv (pacAttr ch c2) := h.withAttr _
  have uW := wordBreak_upd hA true
  have hW := uW.inv hA
  generalize wordBreak (pacAttr ch c2) true = w at e hb uW hW ⊢
  have ec : pacCursor w r = setCursor w 1 r := by
    unfold pacCursor
    rw [uW.mode]
    exact if_neg fun hc => hru (eq_of_beq hc)
  rw [ec] at e
  have hY := setCursor_inv hW (Nat.le_refl _) (by omega) hr14
  have hh := pacStyle_blank hY hchan c2 hb
  have eS := pacStyle_edit hY chan c2
  rw [← e] at hh eS
  exact ⟨eS.idx.trans uW.idx, eS.dcell, hh, RowIs.empty (by rw [hpcol1]) hpcol (by omega) (by omega) fun j hj => by
    rw [srow hru, hh r j hj]; exact hb j hj⟩

/-- **PAC in pop-on mode**, addressed to a row that is empty in the reference non-displayed memory: both cursors go
    to that row, column 1 + indent, the pens agree, the row is an empty open segment; nothing is displayed -/
theorem pac_pop {ch : Channel} {v : Service} (P : PopRel ch v) {chan c1 c2 : Nat} (hchan : chan < 4) (h1 : c1 < 8)
    (h2 : c2 < 128) (h3 : 0x40 ≤ c2) {r ind : Nat} {col : Option Nat} {u : Bool}
    (ha : pacArgs c1 c2 = some (r, ind, col, u)) (hempty : ∀ c, v.nond r c = none) :
    PopRel (pac ch chan c1 c2) (v.exec (.pac r ind col u)) ∧
    RowSim (pac ch chan c1 c2) (v.exec (.pac r ind col u)) false (1 + ind) [] := by
  have hmn : ch.mode ≠ .none := by rw [P.mode]; decide
  have hru : ch.mode ≠ .rollUp := by rw [P.mode]; decide
  obtain ⟨hr14, _, _, hpi, hpcol, _, smode, srow, _, hpen⟩ := pac_at P.inv hmn chan h1 h2 h3 ha
  have srow := srow hru
  have hA : ChInv (pacAttr ch c2) := P.inv.withAttr _
  have hall : ∀ r', r' < 15 → HidRowOK (wordBreak (pacAttr ch c2) false) v.nond r' := by
    obtain ⟨lead, c0, xs, R, S⟩ := P.cur
    exact close_all hA P.rows ⟨lead, c0, xs, R.transfer rfl rfl rfl (fun _ _ => rfl), S⟩
  have sb := wordBreak_edit hA
  have ew := wordBreak_true_pop hA (P.mode : (pacAttr ch c2).mode = .popOn)
  obtain ⟨pidx, pd, ph, pR⟩ := pac_plain P.inv hmn hru hchan h1 h2 h3 ha
    (by rw [ew]; exact (rowShows_empty_iff hempty).1 (hall r (by omega)))
  rw [ew] at pd ph
  have ev : v.exec (.pac r ind col u) = { v with row := r, col := 1 + ind, pen := v.pen' (col.getD 0) u true } := by
    unfold Service.exec; rw [P.vmode]
  have hSeg : SegRow v.nond (pac ch chan c1 c2).row (1 + ind) [] := srow ▸ SegRow.empty _ hempty
  rw [ev]
  refine ⟨⟨hpi, by rw [pidx]; exact P.idx, by rw [smode, P.mode], P.vmode, ?_, ?_, ⟨false, 1 + ind, [], pR, hSeg⟩, hpen v⟩,
    pR, by show SegRow v.target _ _ _; rw [spec_target_pop P.vmode]; exact hSeg, srow.symm, hpcol.symm, hpen v,
    by rw [P.vmode]; simp⟩
  · intro r' hr' j hj
    rw [pd, sb.dcell]; exact P.disp r' hr' j hj
  · intro r' hr' _ j hj
    rw [ph r' j hj]; exact hall r' hr' j hj


/-- text typed after a PAC in pop-on mode keeps the loading relation -/
theorem glyph_pop {ch : Channel} {v : Service} (P : PopRel ch v) (chan : Nat) {lead : Bool} {c0 : Nat} {xs : List SCell}
    (Q : RowSim ch v lead c0 xs) (gs : List Glyph) (hw : ∀ g ∈ gs, g.ok = true)
    (hlen : c0 + xs.length + gs.length ≤ 33) :
    PopRel (glyphRun chan ch gs) (glyphRunS v gs) ∧ ∃ lead' xs', RowSim (glyphRun chan ch gs) (glyphRunS v gs) lead' c0 xs' := by
  obtain ⟨lead', xs', _, Q2, _, i2, f2, d2, o2, m2, _, dd2⟩ :=
    glyph_sim chan c0 gs P.inv Q (fun h => absurd P.mode h) hw hlen
  have m2 := m2.trans P.vmode
  refine ⟨⟨i2, by rw [f2.idx]; exact P.idx, by rw [f2.mode]; exact P.mode, m2, ?_, ?_,
    ⟨lead', c0, xs', Q2.R, spec_target_pop m2 ▸ Q2.S⟩, Q2.pen⟩, lead', xs', Q2⟩
  · intro r hr j hj
    rw [d2 r j hj (Or.inr P.mode), dd2 P.vmode]; exact P.disp r hr j hj
  · intro r hr hne
    rw [f2.row] at hne
    refine RowShows.congr (P.rows r hr hne) (fun j hj => f2.rows r j hj hne) fun c => ?_
    have := o2 r c (by rw [Q.vrow]; exact hne)
    rwa [spec_target_pop m2, spec_target_pop P.vmode] at this

theorem text_pop {ch : Channel} {v : Service} (P : PopRel ch v) {lead : Bool} {c0 : Nat} {xs : List SCell}
    (Q : RowSim ch v lead c0 xs) (cs : List Nat) (hw : ∀ ci ∈ cs, isCharCode ci = true)
    (hlen : c0 + xs.length + cs.length ≤ 33) :
    PopRel (charRun ch cs) (specRun v cs) ∧ ∃ lead' xs', RowSim (charRun ch cs) (specRun v cs) lead' c0 xs' := by
  rw [charRun_eq_glyphRun 0, specRun_eq_glyphRunS]
  exact glyph_pop P 0 Q _ (codes_ok hw) (by simpa using hlen)

/-! ## captions -/

/-- one row of a pop-on caption: a PAC and the text typed after it -/
structure PRow where
  c1 : Nat
  c2 : Nat
  text : List Nat

def popRowModel (chan : Nat) (ch : Channel) (it : PRow) : Channel := charRun (pac ch chan it.c1 it.c2) it.text

def popRowSpec (v : Service) (it : PRow) : Service :=
  match pacArgs it.c1 it.c2 with
  | some (r, ind, col, u) => specRun (v.exec (.pac r ind col u)) it.text
  | none => v

/-- well-formed row, judged on the reference state: a defined PAC whose row is still empty in the non-displayed
    memory, followed by characters 0x20..0x7F that fit into the row -/
def PRow.ok (v : Service) (it : PRow) : Prop :=
  it.c1 < 8 ∧ it.c2 < 128 ∧ 0x40 ≤ it.c2 ∧
  ∃ r ind col u, pacArgs it.c1 it.c2 = some (r, ind, col, u) ∧ (∀ c, v.nond r c = none) ∧
    (∀ ci ∈ it.text, isCharCode ci = true) ∧ 1 + ind + it.text.length ≤ 33

def rowsOk : Service → List PRow → Prop
  | _, [] => True
  | v, it :: rest => it.ok v ∧ rowsOk (popRowSpec v it) rest

theorem popRow_step {ch : Channel} {v : Service} (P : PopRel ch v) {chan : Nat} (hchan : chan < 4) (it : PRow)
    (hok : it.ok v) : PopRel (popRowModel chan ch it) (popRowSpec v it) := by
  obtain ⟨h1, h2, h3, r, ind, col, u, ha, hempty, hw, hlen⟩ := hok
  obtain ⟨P1, Q1⟩ := pac_pop P hchan h1 h2 h3 ha hempty
  unfold popRowModel popRowSpec
  rw [ha]
  exact (text_pop P1 Q1 it.text hw (by simpa using hlen)).1


/-! ## RCL ENM and EOC -/
/-- between captions: non-displayed memory blank, displayed memory shows the reference's, cursor at a segment start;
    either both sides are in pop-on mode, or both are fresh (no mode yet, displayed row under the cursor blank) -/
structure IdleRel (ch : Channel) (v : Service) : Prop where
  inv : ChInv ch
  idx : ch.idx < 4
  coleq : ch.col = ch.col1
  hid : ∀ r, r < 15 → ∀ j, j < 34 → ch.hcell r j = some tsC
  disp : DispOK ch v.disp
  mode : (ch.mode = .popOn ∧ v.mode = some .popOn) ∨
         (ch.mode = .none ∧ v.mode = none ∧ ∀ j, j < 34 → ch.dcell ch.row j = some tsC)
  pen : penMatches ch.attr v.pen

/-- Resume Caption Loading as `caption_command` runs it on the addressed caption channel -/
def rclModel (ch : Channel) : Channel := { wordBreak ch true with mode := .popOn }

/-- the word break that `switch_channel()` performs on an idle channel changes no cell -/
theorem idle_wordBreak {ch : Channel} {v : Service} (I : IdleRel ch v) :
    ChInv (wordBreak ch true) ∧ Upd ch (wordBreak ch true) ∧
    (∀ r j, (wordBreak ch true).hcell r j = ch.hcell r j) ∧ DispOK (wordBreak ch true) v.disp := by
  have u := wordBreak_upd I.inv true
  obtain ⟨hh, hd⟩ := wordBreak_idle I.inv I.coleq fun hm j hj => by
    rcases I.mode with ⟨hp, _⟩ | ⟨_, _, hrow⟩
    · exact absurd hp hm
    · rw [hrow j hj, I.hid _ (by have := I.inv.row_le; omega) j hj]
  exact ⟨u.inv I.inv, u, hh, fun r hr j hj => by rw [hd r j hj]; exact I.disp r hr j hj⟩

theorem rcl_enm_step {ch : Channel} {v : Service} (I : IdleRel ch v) :
    PopRel (eraseNonDisplayed (rclModel ch)) ((v.exec .rcl).exec .enm) := by
  obtain ⟨xi, xu, _, xd⟩ := idle_wordBreak I
  have hi : ChInv (rclModel ch) := xi.withMode _
  have hidx : (rclModel ch).idx < 4 := by show (wordBreak ch true).idx < 4; rw [xu.idx]; exact I.idx
  show PopRel (eraseMemory (rclModel ch) (rclModel ch).hidden) { v with mode := some .popOn, nond := Mem.empty }
  have u := eraseMemory_upd hi (rclModel ch).hidden
  obtain ⟨ec, eo⟩ := erase_cells (rclModel ch).hidden (pg_len hi _)
  have hcell : ∀ r, r < 15 → ∀ j, j < 34 → (eraseMemory (rclModel ch) (rclModel ch).hidden).hcell r j = some tsC := by
    intro r hr j hj
    unfold Channel.hcell
    rw [u.hidden, ec r hr j hj, ts_of_idx4 hidx]
  refine ⟨u.inv hi, by rw [u.idx]; exact hidx, by rw [u.mode]; rfl, rfl, ?_, ?_, ?_,
    by rw [u.attr]; show penMatches (wordBreak ch true).attr _; rw [xu.attr]; exact I.pen⟩
  · intro r hr j hj
    unfold Channel.dcell
    rw [u.hidden, eo]
    exact xd r hr j hj
  · intro r hr _
    exact (rowShows_empty_iff fun _ => rfl).2 (hcell r hr)
  · refine ⟨false, ch.col1, [], RowIs.empty (by rw [u.col1]; exact xu.col1)
      (by rw [u.col]; show (wordBreak ch true).col = _; rw [xu.col, I.coleq]) I.inv.col1_pos
      (by have := I.inv.col1_le; have := I.inv.col_le; omega)
      (fun j hj => hcell _ (by rw [u.row]; show (wordBreak ch true).row < 15; rw [xu.row]; have := I.inv.row_le; omega) j hj),
      SegRow.empty _ fun _ => rfl⟩


theorem eocSwap_idx_attr {x : Channel} (h : ChInv x) : (eocSwap x).idx = x.idx ∧ (eocSwap x).attr = x.attr := by
  rw [eocSwap_eq h]
  show (Channel.setPg _ _ _).idx = _ ∧ (Channel.setPg _ _ _).attr = _
  rw [(setPg_idx_attr _ _ _).1, (setPg_idx_attr _ _ _).2]
  show (Channel.setPg _ _ _).idx = _ ∧ (Channel.setPg _ _ _).attr = _
  rw [(setPg_idx_attr _ _ _).1, (setPg_idx_attr _ _ _).2]
  exact ⟨rfl, rfl⟩

theorem flatMap_range_length (f : Nat → List RCell) (hf : ∀ i, (f i).length = 34) (n : Nat) :
    ((List.range n).flatMap f).length = n * 34 := by
  induction n with
  | zero => simp
  | succ k ih => rw [List.range_succ, List.flatMap_append, List.length_append, ih]; simp [hf]; omega

theorem mode_eta {ch : Channel} (h : ch.mode = .popOn) : ({ ch with mode := .popOn } : Channel) = ch := by
  cases ch; simp at h; subst h; rfl

/-- **End Of Caption**: the caption that was loaded becomes the displayed memory - and it shows exactly what the
    reference model displays after its memory swap; the non-displayed memory is blank again -/
theorem eoc_step {ch : Channel} {v : Service} (P : PopRel ch v) :
    IdleRel (endOfCaption ch) (v.exec .eoc) ∧ (endOfCaption ch).nev = ch.nev + 1 := by
  unfold endOfCaption
  rw [mode_eta P.mode]
  rw [wordBreak_true_pop P.inv P.mode]
  have sb := wordBreak_edit P.inv
  have su := wordBreak_upd P.inv false
  have hall := close_all P.inv P.rows P.cur
  have hW := sb.inv P.inv
  generalize wordBreak ch false = w at sb su hall hW
  obtain ⟨s1, s2, s3, s4, s5, s6, s7, s8⟩ := eocSwap_spec hW
  have hidx : (eocSwap w).idx < 4 := by rw [(eocSwap_idx_attr hW).1, sb.idx]; exact P.idx
  have ev : v.exec .eoc = { v with mode := some .popOn, disp := v.nond, nond := v.disp } := rfl
  refine ⟨⟨eocSwap_inv hW, hidx, by rw [s5, s6], ?_, ?_, Or.inl ⟨by rw [s4, sb.mode]; exact P.mode, by rw [ev]⟩,
    by rw [(eocSwap_idx_attr hW).2, su.attr, ev]; exact P.pen⟩, by rw [s8, sb.nev]⟩
  · intro r hr j hj
    rw [← nonDisplayed_get _ hr hj, s3, List.getElem?_replicate, if_pos (by simp; omega),
      ts_of_idx4 (by rw [sb.idx]; exact P.idx)]
  · intro r hr j hj
    rw [← displayed_get _ hr hj, s2, nonDisplayed_get _ hr hj, ev]
    exact hall r hr j hj

/-! ## a whole caption, and streams of captions -/

/-- `RCL ENM (PAC text)* EOC` on the addressed caption channel -/
def captionModel (chan : Nat) (ch : Channel) (rows : List PRow) : Channel :=
  endOfCaption (rows.foldl (popRowModel chan) (eraseNonDisplayed (rclModel ch)))

def captionSpec (v : Service) (rows : List PRow) : Service :=
  (rows.foldl popRowSpec ((v.exec .rcl).exec .enm)).exec .eoc

/-- well-formed caption: every row is well-formed in the reference state it meets -/
def captionOk (v : Service) (rows : List PRow) : Prop := rowsOk ((v.exec .rcl).exec .enm) rows

theorem caption_refines {ch : Channel} {v : Service} (I : IdleRel ch v) {chan : Nat} (hchan : chan < 4)
    (rows : List PRow) (hok : captionOk v rows) :
    IdleRel (captionModel chan ch rows) (captionSpec v rows) := by
  obtain ⟨_, P1⟩ := foldl_sim_end (popRowModel chan) popRowSpec (fun (_ : Unit) => PopRel) (fun _ => rowsOk)
    (fun _ _ _ it _ P h => ⟨(), popRow_step P hchan it h.1, h.2⟩) rows () _ _ (rcl_enm_step I) hok
  exact (eoc_step P1).1

def streamOk : Service → List (List PRow) → Prop
  | _, [] => True
  | v, c :: rest => captionOk v c ∧ streamOk (captionSpec v c) rest

/-- the libzvbi page and the reference page, compared as lists of 510 printed cells -/
def pageMatches (ch : Channel) (v : Service) : Prop := ch.displayed.map toRCell = render false v.disp

theorem render_get (m : Mem) {r j : Nat} (hr : r < 15) (hj : j < 34) :
    (render false m)[r * 34 + j]? = some (renderCell false m r j) := by
  unfold render
  have : ∀ (n : Nat) (f : Nat → List RCell), (∀ i, (f i).length = 34) → ∀ r, r < n → ∀ j, j < 34 →
      ((List.range n).flatMap f)[r * 34 + j]? = (f r)[j]? := by
    intro n f hf
    induction n with
    | zero => intro r hr; omega
    | succ n ih =>
      intro r hr j hj
      rw [List.range_succ, List.flatMap_append]
      have hlen : ((List.range n).flatMap f).length = n * 34 := flatMap_range_length f hf n
      by_cases hrn : r < n
      · rw [List.getElem?_append_left (by rw [hlen]; omega)]
        exact ih r hrn j hj
      · have : r = n := by omega
        subst this
        rw [List.getElem?_append_right (by rw [hlen]; omega), hlen]
        simp
  rw [this 15 _ (by intro i; simp) r hr j hj]
  simp [hj]

theorem pageMatches_of_dispOK {ch : Channel} {v : Service} (h : ChInv ch) (D : DispOK ch v.disp) : pageMatches ch v := by
  unfold pageMatches
  apply List.ext_getElem?
  intro i
  by_cases hi : i < 510
  · have hr : i / 34 < 15 := by omega
    have hj : i % 34 < 34 := Nat.mod_lt _ (by decide)
    have e : i = (i / 34) * 34 + i % 34 := by omega
    rw [e, render_get _ hr hj, List.getElem?_map, displayed_get _ hr hj]
    obtain ⟨c, hc, ec⟩ := D _ hr _ hj
    rw [hc]; simp [ec]
  · have l1 : (ch.displayed.map toRCell).length = 510 := by
      unfold Channel.displayed; simp [pg_len h]
    have l2 : (render false v.disp).length = 510 := by
      unfold render
      rw [flatMap_range_length _ (by intro i; simp)]
    rw [List.getElem?_eq_none (by omega), List.getElem?_eq_none (by omega)]

theorem IdleRel.page {ch : Channel} {v : Service} (I : IdleRel ch v) : pageMatches ch v :=
  pageMatches_of_dispOK I.inv I.disp

/-- captions one after the other, each taking an idle pair to an idle pair: the pages agree after every caption -/
theorem idle_stream {ω : Type} (f : Channel → ω → Channel) (g : Service → ω → Service) (ok : Service → List ω → Prop)
    (step : ∀ ch v c rest, IdleRel ch v → ok v (c :: rest) → IdleRel (f ch c) (g v c) ∧ ok (g v c) rest) (caps : List ω)
    {ch : Channel} {v : Service} (I : IdleRel ch v) (hok : ok v caps) :
    IdleRel (caps.foldl f ch) (caps.foldl g v) ∧
    ∀ n, n ≤ caps.length → pageMatches ((caps.take n).foldl f ch) ((caps.take n).foldl g v) := by
  obtain ⟨⟨_, I2⟩, hv⟩ := foldl_sim f g (fun _ => true) (fun (_ : Unit) => IdleRel) pageMatches (fun _ => ok)
    (fun _ _ _ c _ I h => ⟨(), (step _ _ c _ I h).1, (step _ _ c _ I h).2, fun _ => (step _ _ c _ I h).1.page⟩) caps () ch v I hok
  refine ⟨I2, fun n hn => ?_⟩
  cases n with
  | zero => exact I.page
  | succ k => exact hv (k + 1) (by omega) hn rfl

/-- **pop-on refinement, channel level.**  From any state in which libzvbi's channel and the reference service
    agree (`IdleRel`: in particular the fresh decoder), after every caption of a well-formed stream of pop-on
    captions the fetched page equals the reference display memory, cell for cell, solid spaces included. -/
theorem popon_stream_refines (chan : Nat) (hchan : chan < 4) (caps : List (List PRow)) :
    ∀ {ch : Channel} {v : Service}, IdleRel ch v → streamOk v caps →
    IdleRel (caps.foldl (captionModel chan) ch) (caps.foldl captionSpec v) ∧
    -- every intermediate visibility point (after each End Of Caption)
    ∀ n, n ≤ caps.length →
      pageMatches ((caps.take n).foldl (captionModel chan) ch) ((caps.take n).foldl captionSpec v) :=
  idle_stream (captionModel chan) captionSpec streamOk (fun _ _ c _ I h => ⟨caption_refines I hchan c h.1, h.2⟩) caps


/-! ## the fresh decoder (after `vbi_caption_init` or a channel switch) -/

theorem chswChannel_fresh {ch : Channel} (hp : PreInv ch) (hh : chswHiddenResetFirst = true ∨ ch.hidden = false)
    (hidx : ch.idx < 4) (hattr : ch.attr.underline = false ∧ ch.attr.italic = false ∧ ch.attr.flash = false) :
    IdleRel (chswChannel ch) (Service.init false) := by
  have hinv := chswChannelWith_inv chswHiddenResetFirst hp hh
  obtain ⟨x0, _, _, xi, _, _, _, xm, xa⟩ := chswGeom_facts ch
  unfold chswChannel chswChannelWith at *
  generalize chswAttr (chswGeom ch) = x at *
  rw [chswPages_eq _ (x0 ▸ hp.len0)] at hinv ⊢
  have cell : ∀ r, r < 15 → ∀ j, j < 34 → (x.pg0.blank x.ts 15).cell r j = some tsC := fun r hr j hj => by
    rw [Page.blank_cell _ _ _ hr hj, ts_of_idx4 (xi ▸ hidx)]
  exact ⟨hinv, xi ▸ hidx, rfl, cell,
    fun r hr j hj => ⟨tsC, cell r hr j hj, by rw [toRCell_ts]; exact (render_emptyRow (fun _ => rfl) j).symm⟩,
    Or.inr ⟨xm hidx, rfl, cell _ (by have := hinv.row_le; omega)⟩,
    by show penMatches x.attr _; rw [xa]; exact ⟨hattr.1, hattr.2.1, hattr.2.2, rfl, rfl, rfl⟩⟩

/-- every caption channel of the freshly initialised decoder agrees with the fresh reference service -/
theorem init_idle (i : Nat) (hi : i < 4) : ∃ ch, init.chans[i]? = some ch ∧ IdleRel ch (Service.init false) := by
  have hlen : i < init.chans.length := by rw [init_inv.len]; omega
  refine ⟨init.chans[i], List.getElem?_eq_getElem hlen, ?_⟩
  have : init.chans[i] = chswChannel (zeroChannel i) := by
    unfold init St.chsw St.chswWith
    simp [chswChannel]
  rw [this]
  exact chswChannel_fresh (zeroChannel_pre i) (Or.inr rfl) hi ⟨rfl, rfl, rfl⟩


/-! ## rows, captions and streams of glyphs (basic and special characters), over `glyph_pop`; every caption channel -/

/-- one row of a pop-on caption: a PAC and the glyphs typed after it -/
structure GRow where
  c1 : Nat
  c2 : Nat
  text : List Glyph

def gRowModel (chan : Nat) (ch : Channel) (it : GRow) : Channel := glyphRun chan (pac ch chan it.c1 it.c2) it.text

def gRowSpec (v : Service) (it : GRow) : Service :=
  match pacArgs it.c1 it.c2 with
  | some (r, ind, col, u) => glyphRunS (v.exec (.pac r ind col u)) it.text
  | none => v

/-- well-formed row, judged on the reference state: a defined PAC (any row, indent, colour, italics, underline) whose
    row is still empty in the non-displayed memory, followed by basic characters 0x20..0x7F and special characters
    (not the transparent space) that fit into the row -/
def GRow.ok (v : Service) (it : GRow) : Prop :=
  it.c1 < 8 ∧ it.c2 < 128 ∧ 0x40 ≤ it.c2 ∧
  ∃ r ind col u, pacArgs it.c1 it.c2 = some (r, ind, col, u) ∧ (∀ c, v.nond r c = none) ∧
    (∀ g ∈ it.text, g.ok = true) ∧ 1 + ind + it.text.length ≤ 33

def gRowsOk : Service → List GRow → Prop
  | _, [] => True
  | v, it :: rest => it.ok v ∧ gRowsOk (gRowSpec v it) rest

theorem gRow_step {ch : Channel} {v : Service} (P : PopRel ch v) {chan : Nat} (hchan : chan < 4) (it : GRow)
    (hok : it.ok v) : PopRel (gRowModel chan ch it) (gRowSpec v it) := by
  obtain ⟨h1, h2, h3, r, ind, col, u, ha, hempty, hw, hlen⟩ := hok
  obtain ⟨P1, Q1⟩ := pac_pop P hchan h1 h2 h3 ha hempty
  unfold gRowModel gRowSpec
  rw [ha]
  exact (glyph_pop P1 chan Q1 it.text hw (by simpa using hlen)).1

/-- `RCL ENM (PAC glyph*)* EOC` on the addressed caption channel -/
def gCaptionModel (chan : Nat) (ch : Channel) (rows : List GRow) : Channel :=
  endOfCaption (rows.foldl (gRowModel chan) (eraseNonDisplayed (rclModel ch)))

def gCaptionSpec (v : Service) (rows : List GRow) : Service :=
  (rows.foldl gRowSpec ((v.exec .rcl).exec .enm)).exec .eoc

def gCaptionOk (v : Service) (rows : List GRow) : Prop := gRowsOk ((v.exec .rcl).exec .enm) rows

theorem gCaption_refines {ch : Channel} {v : Service} (I : IdleRel ch v) {chan : Nat} (hchan : chan < 4)
    (rows : List GRow) (hok : gCaptionOk v rows) :
    IdleRel (gCaptionModel chan ch rows) (gCaptionSpec v rows) := by
  obtain ⟨_, P1⟩ := foldl_sim_end (gRowModel chan) gRowSpec (fun (_ : Unit) => PopRel) (fun _ => gRowsOk)
    (fun _ _ _ it _ P h => ⟨(), gRow_step P hchan it h.1, h.2⟩) rows () _ _ (rcl_enm_step I) hok
  exact (eoc_step P1).1

def gStreamOk : Service → List (List GRow) → Prop
  | _, [] => True
  | v, c :: rest => gCaptionOk v c ∧ gStreamOk (gCaptionSpec v c) rest

end Zvbi.Cc
