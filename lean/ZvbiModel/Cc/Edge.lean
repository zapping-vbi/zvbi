import ZvbiModel.Cc.Edits
/-!
# The right margin: Transparent Space (0x11/0x19 0x39), also with the cursor parked behind a full row

`specialChar` with low nibble 9 is `tsCell`: the cell at the cursor - or column 32 when 32 characters were written and
the cursor is parked at `COLUMNS - 1` - becomes a transparent space; the cursor advances (and `col1` follows) unless
it is parked.  Against the reference (`Eia608.exec (.special 9)`: the cell becomes EMPTY, same cursor rule) the
relation `EditSim` of `Cc/Edits.lean` is preserved without any side condition (both erase), so Transparent Space
joins the correction scripts of `edits_refine` (`XOp`).  Mid-row codes join the same scripts (`sim_midrow`, needs the F46
repair); `parked_ts_erases`, `fill_ok` serve the examples of `Props/C08Edge.lean`.
-/
namespace Zvbi.Cc
open Zvbi.Gen.Cc Eia608

theorem tsCell_spec {ch : Channel} (h : ChInv ch) (c : Cell) :
    (∀ r j, j < 34 → (tsCell ch c).hcell r j =
      if r = ch.row ∧ j = (if ch.col < 33 then ch.col else 32) then some c else ch.hcell r j) ∧
    (tsCell ch c).attr = ch.attr ∧
    (tsCell ch c).col = (if ch.col < 33 then ch.col + 1 else ch.col) ∧
    (tsCell ch c).col1 = (if ch.col < 33 then ch.col + 1 else ch.col1) := by
  obtain ⟨p1, p2, p3, p4⟩ := putCell_spec h c
  rw [tsCell_eq h]
  by_cases hlt : ch.col < 33
  · simp only [hlt, ↓reduceIte] at p1 p3 ⊢; exact ⟨p1, p2, p3, trivial⟩
  · simp only [hlt, ↓reduceIte] at p1 p3 ⊢; exact ⟨p1, p2, p3, p4⟩

/-- the reference: the cell at the cursor (column 32 when the cursor is parked) becomes empty -/
theorem spec_ts {v : Service} (h1 : v.mode ≠ none) (h2 : v.mode ≠ some .popOn) :
    v.exec (.special 9) = { v with disp := v.disp.set v.row (if v.col ≤ 32 then v.col else 32) none,
                                   col := if v.col ≤ 32 then v.col + 1 else v.col } := by
  unfold Service.exec
  simp only [h1, if_false, if_true]
  rw [spec_target_dir h2, spec_setTarget h2]

/-- **Transparent Space in both models**, any cursor position including the parked one -/
theorem sim_ts {ch : Channel} {v : Service} (S : EditSim ch v) (chan : Nat) :
    EditSim (tsCell ch (transpSpace (decide (4 ≤ chan)))) (v.exec (.special 9)) := by
  have h := S.inv
  rw [spec_ts S.vmode.1 S.vmode.2]
  have hcu : (transpSpace (decide (4 ≤ chan))).unicode = 0x20 := ts_unicode _
  generalize transpSpace (decide (4 ≤ chan)) = c at hcu ⊢
  obtain ⟨hcells, a1, c1, _⟩ := tsCell_spec h c
  have e := tsCell_edit h c
  exact S.store e (x := none) ⟨c, rfl, hcu⟩ hcells a1 c1

/-! ## mid-row codes against `EditSim` -/

/-- **a mid-row code in both models** (paint-on, roll-up, text mode; needs the F46 repair for the italics code): both
    switch to the same pen and type one space with it - at the cursor, or over column 32 when the cursor is parked -
    and the row becomes visible (libzvbi: the space is a word break) -/
theorem sim_midrow (hk : midrowItalicsKeepsColour = true) {ch : Channel} {v : Service} (S : EditSim ch v) (chan c2 : Nat) :
    EditSim (midRow ch c2) (v.exec (.midRow ((c2 >>> 1) &&& 7) (c2 &&& 1 == 1))) ∧
    Visible (midRow ch c2) (v.exec (.midRow ((c2 >>> 1) &&& 7) (c2 &&& 1 == 1))) := by
  let ch1 : Channel := { ch with attr := midRowPen ch.attr c2 }
  let v1 : Service := { v with pen := v.pen' ((c2 >>> 1) &&& 7) (c2 &&& 1 == 1) false }
  have S1 : EditSim ch1 v1 :=
    ⟨S.inv.withAttr _, S.mode, S.vmode, S.row, S.col, midrow_pen_matches hk ch.attr v S.pen c2,
      fun r j a b c => S.cells r j a b c, fun r j a b c => S.sync r j a b c⟩
  have hv : v.exec (.midRow ((c2 >>> 1) &&& 7) (c2 &&& 1 == 1)) = v1.putChar 0x20 := by
    unfold Service.exec
    simp only []
    split
    · rename_i hn; exact absurd hn S.vmode.1
    · rfl
  have hu : captionUnicode 0x20 = 0x20 := by decide
  have hm : midRow ch c2 = EOp.run chan ch1 (.char 0x20) := by
    rw [midRow_eq]
    show putChar ch1 { ch1.attr with unicode := 0x20 } = putChar ch1 { ch1.attr with unicode := captionUnicode 0x20 }
    rw [hu]
  have hs : v1.putChar 0x20 = EOp.spec v1 (.char 0x20) := rfl
  obtain ⟨A, B⟩ := sim_char S1 chan 0x20 ⟨by decide, by decide⟩
  rw [hm, hv, hs]
  exact ⟨A, B (by decide)⟩

/-! ## correction scripts with Transparent Space and mid-row codes -/

/-- a correction-script step: one of `EOp` (character, BS, DER, EDM, Tab Offset), the Transparent Space or a mid-row code -/
inductive XOp
  | edit (e : EOp)
  | ts
  | midrow (c2 : Nat)     -- second byte of the mid-row code (0x20..0x2F; the model uses bits 0..3 only)
deriving Repr, DecidableEq

def XOp.run (chan : Nat) (ch : Channel) : XOp → Channel
  | .edit e => e.run chan ch
  | .ts => specialChar ch chan 0x39
  | .midrow c2 => midRow ch c2

def XOp.spec (v : Service) : XOp → Service
  | .edit e => e.spec v
  | .ts => v.exec (.special 9)
  | .midrow c2 => v.exec (.midRow ((c2 >>> 1) &&& 7) (c2 &&& 1 == 1))

/-- well-formedness on the reference state; the Transparent Space needs none (destructive in both models) -/
def XOp.ok (v : Service) : XOp → Prop
  | .edit e => e.ok v
  | .ts => True
  | .midrow _ => True

def XOp.shows : XOp → Bool
  | .edit e => e.shows
  | .ts => false
  | .midrow _ => true

theorem sim_xop (hk : midrowItalicsKeepsColour = true) {ch : Channel} {v : Service} (S : EditSim ch v) (chan : Nat) (op : XOp) (hok : op.ok v) :
    EditSim (op.run chan ch) (op.spec v) ∧ (op.shows = true → Visible (op.run chan ch) (op.spec v)) := by
  cases op with
  | edit e => exact sim_op S chan e hok
  | ts =>
    refine ⟨?_, fun hf => absurd (show false = true from hf) (by decide)⟩
    show EditSim (specialChar ch chan 0x39) (v.exec (.special 9))
    rw [specialChar_ts ch chan 0x39 (by decide)]
    exact sim_ts S chan
  | midrow c2 => exact ⟨(sim_midrow hk S chan c2).1, fun _ => (sim_midrow hk S chan c2).2⟩

def runX (chan : Nat) (ch : Channel) (ops : List XOp) : Channel := ops.foldl (XOp.run chan) ch
def specX (v : Service) (ops : List XOp) : Service := ops.foldl XOp.spec v

def xopsOk (v : Service) : List XOp → Prop
  | [] => True
  | op :: rest => op.ok v ∧ xopsOk (op.spec v) rest

/-- a full row: 32 characters were written, the cursor is parked at `COLUMNS - 1` -/
theorem parked_ts_erases {ch : Channel} {v : Service} (S : EditSim ch v) (chan : Nat) (hp : ch.col = 33) :
    (tsCell ch (transpSpace (decide (4 ≤ chan)))).hcell ch.row 32 = some (transpSpace (decide (4 ≤ chan))) ∧
    (v.exec (.special 9)).disp ch.row 32 = none ∧
    (tsCell ch (transpSpace (decide (4 ≤ chan)))).col = 33 ∧ (v.exec (.special 9)).col = 33 := by
  have h := S.inv
  obtain ⟨hcells, _, c1, _⟩ := tsCell_spec h (transpSpace (decide (4 ≤ chan)))
  have hn : ¬ ch.col < 33 := by omega
  refine ⟨?_, ?_, ?_, ?_⟩
  · rw [hcells _ 32 (by omega), if_neg hn, if_pos ⟨rfl, rfl⟩]
  · rw [spec_ts S.vmode.1 S.vmode.2]
    show Mem.set v.disp v.row (if v.col ≤ 32 then v.col else 32) none ch.row 32 = none
    have e : (if v.col ≤ 32 then v.col else 32) = 32 := by rw [S.col, hp]; rfl
    rw [e]
    unfold Mem.set
    rw [S.row, if_pos ⟨rfl, rfl⟩]
  · rw [c1, if_neg hn, hp]
  · rw [spec_ts S.vmode.1 S.vmode.2]
    show (if v.col ≤ 32 then v.col + 1 else v.col) = 33
    rw [S.col, hp, if_neg (by omega)]

theorem fill_ok : ∀ (n : Nat) (v : Service), opsOk v (List.replicate n (EOp.char 0x41))
  | 0, _ => trivial
  | n + 1, v => ⟨⟨by decide, by decide⟩, fill_ok n _⟩

end Zvbi.Cc
