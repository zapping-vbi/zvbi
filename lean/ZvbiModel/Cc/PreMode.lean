import ZvbiModel.Cc.Commands
/-!
# Data of a field before any mode-setting command of that field is discarded

`textIdx s f` = `(cc->curr_chan[field2] & 5) + field2 * 2`, the channel the character branch of `vbi_decode_caption`
looks up.  While that channel has `MODE_NONE` a pair that is not an executed control pair changes nothing but `nul_ct`.
-/
namespace Zvbi.Cc
open Zvbi.Gen.Cc

theorem textPair_none {ch : Channel} (hm : ch.mode = .none) (x y : Nat) : textPair ch x y = { ch with nulCt := 0 } := by
  unfold textPair; rw [hm]; rfl

theorem nulPair_none {ch : Channel} (hm : ch.mode = .none) : nulPair ch = ch := by
  unfold nulPair; rw [hm]; rfl

/-- a state that differs from `s` only in decoder scalars, modified at the text channel by `g` -/
theorem modCh_premode {s t : St} {f : Bool} {ch : Channel} (ht : t.chans = s.chans) (hc : t.curr f = s.curr f)
    (hi : s.chans[textIdx s f]? = some ch) (g : Channel → Channel) (hg : g ch = ch ∨ g ch = { ch with nulCt := 0 }) :
    (t.modCh (textIdx s f) g).curr f = s.curr f ∧
    ∀ i, (t.modCh (textIdx s f) g).chans[i]? = s.chans[i]? ∨
      (i = textIdx s f ∧ (t.modCh (textIdx s f) g).chans[i]? = some { ch with nulCt := 0 }) := by
  refine ⟨by rw [modCh_curr, hc], fun i => ?_⟩
  by_cases hi' : i = textIdx s f
  · subst hi'
    have := modCh_get_same (s := t) g (by rw [ht]; exact hi)
    rw [this]
    rcases hg with e | e
    · left; rw [e, hi]
    · right; exact ⟨rfl, by rw [e]⟩
  · left; rw [modCh_get_ne t _ hi', ht]

theorem decodeMain_premode (s : St) (f : Bool) (b0 b1 : Nat) (hn : isControl b0 = false) {ch : Channel}
    (hi : s.chans[textIdx s f]? = some ch) (hm : ch.mode = .none) :
    (decodeMain s f b0 b1).curr f = s.curr f ∧
    ∀ i, (decodeMain s f b0 b1).chans[i]? = s.chans[i]? ∨
      (i = textIdx s f ∧ (decodeMain s f b0 b1).chans[i]? = some { ch with nulCt := 0 }) := by
  rw [decodeMain_eq]
  have hclear : (s.clearLast f).curr f = s.curr f ∧ ∀ i, (s.clearLast f).chans[i]? = s.chans[i]? ∨
      (i = textIdx s f ∧ (s.clearLast f).chans[i]? = some { ch with nulCt := 0 }) :=
    ⟨clearLast_curr s f f, fun i => Or.inl (by rw [clearLast_chans])⟩
  rcases pairAct_cases s f b0 b1 with ⟨hc, _⟩ | ⟨_, e | e | ⟨x, y, e⟩⟩
  · rw [hn] at hc; cases hc
  all_goals rw [e]
  · exact hclear
  · exact modCh_premode rfl rfl hi nulPair (Or.inl (nulPair_none hm))
  · exact modCh_premode (clearLast_chans s f) (clearLast_curr s f f) hi (fun c => textPair c x y)
      (Or.inr (textPair_none hm x y))

/-- **one pair.**  A pair of field `f` that is not an executed control pair (first byte with bad parity, or outside
    0x10..0x1F), while the channel the character branch looks up has no mode: the selector of the field and every
    channel are unchanged, except that `nul_ct` of that channel may be reset. -/
theorem decodePair_premode (s : St) (f : Bool) (b0 b1 : Nat) (hn : isControl b0 = false) {ch : Channel}
    (hi : s.chans[textIdx s f]? = some ch) (hm : ch.mode = .none) :
    (decodePair s f b0 b1).curr f = s.curr f ∧
    ∀ i, (decodePair s f b0 b1).chans[i]? = s.chans[i]? ∨
      (i = textIdx s f ∧ (decodePair s f b0 b1).chans[i]? = some { ch with nulCt := 0 }) := by
  unfold decodePair
  split
  · refine ⟨?_, fun i => Or.inl (by rw [xdsConsumed_chans])⟩
    unfold xdsConsumed; simp only []; split <;> rfl
  · rename_i s' hs
    obtain ⟨_, hc, hcur⟩ := xdsGate_some hs
    have hcur := hcur f
    have hidx : textIdx s' f = textIdx s f := by unfold textIdx; rw [hcur]
    have := decodeMain_premode s' f b0 b1 hn (ch := ch) (by rw [hidx, hc]; exact hi) hm
    rw [hidx, hc, hcur] at this
    exact this

/-- caption channel with channel bit 0 of field `f`: CC1 / CC3 -/
def capIdx (f : Bool) : Nat := if f then 2 else 0

/-- field `f` has not executed a mode-setting command: its selector is still 0 and the channel it names has no mode -/
structure PreMode (f : Bool) (s : St) : Prop where
  inv : Inv s
  cur : s.curr f = 0
  none : ∃ ch, s.chans[capIdx f]? = some ch ∧ ch.mode = .none

theorem textIdx_of_cur {s : St} {f : Bool} (h : s.curr f = 0) : textIdx s f = capIdx f := by
  unfold textIdx capIdx; rw [h]; simp

/-- operations that keep field `f` silent: pairs of the other field (anything), pairs of field `f` that are not executed
    control pairs (characters, NULs, bad parity, 0x01..0x0F), page fetches -/
def quiet (f : Bool) : Op → Prop
  | .pair g b0 _ => g = f → isControl (b0 % 256) = false
  | .fetch _ => True
  | .chsw => False

theorem pairGroup_other (s : St) (g : Bool) (b0 : Nat) :
    capIdx (!g) ≠ pairGroup s g b0 ∧ capIdx (!g) ≠ pairGroup s g b0 + 4 := by
  unfold pairGroup capIdx
  have hb : (if isControl b0 then ((b0 &&& 0x7F) >>> 3) &&& 1 else s.curr g &&& 1) ≤ 1 := by
    split <;> exact Nat.and_le_right
  generalize (if isControl b0 then ((b0 &&& 0x7F) >>> 3) &&& 1 else s.curr g &&& 1) = k at hb
  cases g <;> simp <;> omega

theorem step_premode (hpf : currChanPerField = true) {f : Bool} {s : St} (P : PreMode f s) (op : Op) (hq : quiet f op) :
    PreMode f (step s op) := by
  obtain ⟨ch, hch, hm⟩ := P.none
  cases op with
  | chsw => exact absurd hq (by unfold quiet; exact id)
  | fetch n =>
    refine ⟨fetchStep_inv P.inv n, ?_, ?_⟩
    · show (fetchStep s n).curr f = 0
      unfold fetchStep; split
      · exact P.cur
      · rw [modCh_curr]; exact P.cur
    · show ∃ c, (fetchStep s n).chans[capIdx f]? = some c ∧ c.mode = .none
      unfold fetchStep; split
      · exact ⟨ch, hch, hm⟩
      · by_cases hj : capIdx f = ((n - 1).toNat &&& 7)
        · rw [← hj]
          exact ⟨_, modCh_get_same _ hch, by rw [setPg_mode]; exact hm⟩
        · rw [modCh_get_ne _ _ hj]; exact ⟨ch, hch, hm⟩
  | pair g b0 b1 =>
    show PreMode f (decodePair s g (b0 % 256) (b1 % 256))
    by_cases hg : g = f
    · subst hg
      obtain ⟨e1, e2⟩ := decodePair_premode s g (b0 % 256) (b1 % 256) (hq rfl) (ch := ch) (by rw [textIdx_of_cur P.cur]; exact hch) hm
      refine ⟨decodePair_inv P.inv _ _ _, by rw [e1]; exact P.cur, ?_⟩
      rcases e2 (capIdx g) with e | ⟨_, e⟩
      · exact ⟨ch, by rw [e]; exact hch, hm⟩
      · exact ⟨_, e, hm⟩
    · have hf : f = !g := by cases g <;> cases f <;> simp_all
      subst hf
      have A := decodePair_apart s g (b0 % 256) (b1 % 256)
      obtain ⟨n1, n2⟩ := pairGroup_other s g (b0 % 256)
      exact ⟨decodePair_inv P.inv _ _ _, by rw [A.curr hpf]; exact P.cur, ch, by rw [A.chans _ n1 n2]; exact hch, hm⟩

theorem foldl_premode (hpf : currChanPerField = true) (f : Bool) (ops : List Op) (hq : ∀ op ∈ ops, quiet f op) :
    ∀ s, PreMode f s → PreMode f (ops.foldl step s) :=
  fun _ h => List.foldlRecOn ops _ h fun _ ht op hop => step_premode hpf ht op (hq op hop)

set_option maxRecDepth 100000 in
/-- the freshly initialised decoder: `curr_chan[] = {0, 0}`, CC1 and CC3 without a mode -/
theorem init_premode (f : Bool) : PreMode f init := by
  refine ⟨init_inv, ?_, ?_⟩
  · cases f <;> decide
  · have : ∀ f : Bool, (init.chans[capIdx f]?.map (·.mode)) = some Mode.none := by decide
    have h := this f
    cases hc : init.chans[capIdx f]? with
    | none => rw [hc] at h; cases h
    | some c => rw [hc] at h; exact ⟨c, rfl, by simpa using h⟩

end Zvbi.Cc
