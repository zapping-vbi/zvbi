import ZvbiModel.Cc.Commands
/-!
# Events account for changes of the displayed memory (`event_on_change`)
-/
namespace Zvbi.Cc
open Zvbi.Gen.Cc

/-! ## decoder level -/

/-- every channel's change from `s` to `s'` is accounted for by events -/
def EvSt (s s' : St) : Prop :=
  s'.chans.length = s.chans.length ∧
  ∀ (i : Nat) (ch ch' : Channel), s.chans[i]? = some ch → s'.chans[i]? = some ch' → Ev ch ch'

theorem EvSt.refl (s : St) : EvSt s s := ⟨rfl, fun _ _ _ h1 h2 => by rw [h1] at h2; cases h2; exact Ev.refl _⟩

theorem EvSt.trans {a b c : St} (h1 : EvSt a b) (h2 : EvSt b c) : EvSt a c := by
  refine ⟨h2.1.trans h1.1, ?_⟩
  intro i ch ch' ha hc
  have hlt : i < b.chans.length := h1.1 ▸ (List.getElem?_eq_some_iff.1 ha).1
  exact (h1.2 i ch _ ha (List.getElem?_eq_getElem hlt)).trans (h2.2 i _ ch' (List.getElem?_eq_getElem hlt) hc)

theorem EvSt.congr {s s' t : St} (h : EvSt s s') (hc : t.chans = s'.chans) : EvSt s t := by
  unfold EvSt; rw [hc]; exact h

theorem modCh_evst {s : St} (h : Inv s) {i : Nat} (hi : i < 9) {f : Channel → Channel}
    (hf : ∀ ch, s.chans[i]? = some ch → ChInv ch → Ev ch (f ch)) : EvSt s (s.modCh i f) := by
  have hlt : i < s.chans.length := by rw [h.len]; exact hi
  have hget := List.getElem?_eq_getElem hlt
  unfold St.modCh
  rw [hget]
  refine ⟨by simp, ?_⟩
  intro j ch ch' h1 h2
  by_cases hj : j = i
  · subst hj
    rw [hget] at h1; cases h1
    simp only [List.getElem?_set_self hlt] at h2
    cases h2
    exact hf _ hget (h.chs _ (List.getElem_mem hlt))
  · simp only [List.getElem?_set_ne (Ne.symm hj)] at h2
    rw [h1] at h2; cases h2; exact Ev.refl _

theorem switchChannel_evst {s : St} (h : Inv s) {chan : Nat} (hi : chan < 9) (new : Nat) :
    EvSt s (s.switchChannel chan new) := by
  unfold St.switchChannel
  exact (modCh_evst h hi (f := fun ch => wordBreak ch true) (fun ch _ hc => (wordBreak_step hc true).2)).congr (setCurr_chans _ _)

/-! ## `event_on_change` at the level of `caption_command` / `vbi_decode_caption` -/
/-- the two kinds of control pair that can change the displayed memory without raising an event
    (finding F45): a roll-up command, and a carriage return addressed to a channel in pop-on mode -/
def silentCmd (s : St) (c1 c2 : Nat) (f2 : Bool) : Prop :=
  c2 < 0x40 ∧ (c1 &&& 7 = 4 ∨ c1 &&& 7 = 5) ∧
  ((ruEraseRaisesEvent = false ∧ (c2 &&& 15 = 5 ∨ c2 &&& 15 = 6 ∨ c2 &&& 15 = 7)) ∨
   (crPopOnNoUpdate = false ∧ c2 &&& 15 = 13 ∧ ∃ ch, s.chans[cmdChan s c1 f2]? = some ch ∧ ch.mode = .popOn))

theorem Effect.run_evst {s : St} (h : Inv s) {chan : Nat} (hc : chan < 8) (e : Effect)
    (hf : ∀ ch, ChInv ch → (∀ f, e = .on false f → s.chans[chan]? = some ch) → Ev ch (e.fn ch)) :
    EvSt s (e.run chan s) := by
  have hc9 : chan < 9 := by omega
  match e, hf with
  | .skip, _ => exact EvSt.refl _
  | .on false f, hf => exact modCh_evst h hc9 fun ch hget hch => hf ch hch fun _ _ => hget
  | .on true f, hf => exact modCh_evst h (edmChan_lt hc9) fun ch _ hch => hf ch hch fun _ e => by cases e
  | .switch text none, _ => exact switchChannel_evst h hc9 _
  | .switch text (some f), hf =>
    exact (switchChannel_evst h hc9 _).trans
      (modCh_evst (switchChannel_inv h hc9 _) (switchTarget_lt hc text) fun ch _ hch => hf ch hch fun _ e => by cases e)

theorem captionCommand_evst {s : St} (h : Inv s) (c1 c2 : Nat) (f2 : Bool) (hq : ¬ silentCmd s c1 c2 f2) :
    EvSt s (captionCommand s c1 c2 f2) := by
  unfold silentCmd at hq
  obtain ⟨cmd, hcmd⟩ := Ctl.exists_codes c1 c2
  rw [captionCommand_eq s f2 hcmd]
  refine Effect.run_evst h (cmdChan_lt s c1 f2) _ fun ch hc hget => ?_
  refine (Ctl.effect_step hcmd _ hc).2 (fun e => ?_) fun e => ?_
  · subst e
    cases hfl : ruEraseRaisesEvent
    · exact absurd ⟨hcmd.1, hcmd.2.1, Or.inl ⟨hfl, hcmd.2.2⟩⟩ hq
    · rfl
  · subst e
    by_cases hm : ch.mode = .popOn
    · right
      cases hfl : crPopOnNoUpdate
      · exact absurd ⟨hcmd.1, hcmd.2.1, Or.inr ⟨hfl, hcmd.2.2, ch, hget _ rfl, hm⟩⟩ hq
      · rfl
    · exact Or.inl hm

theorem not_silent_of_repairs (h1 : ruEraseRaisesEvent = true) (h2 : crPopOnNoUpdate = true)
    (s : St) (c1 c2 : Nat) (f2 : Bool) : ¬ silentCmd s c1 c2 f2 := by
  unfold silentCmd
  rw [h1, h2]
  simp

theorem silentCmd_congr {s s' : St} (hc : s'.chans = s.chans) (hcur : s'.curr f2 = s.curr f2) (c1 c2 : Nat) :
    silentCmd s' c1 c2 f2 ↔ silentCmd s c1 c2 f2 := by
  unfold silentCmd cmdChan; rw [hc, hcur]

theorem decodeMain_evst {s : St} (h : Inv s) (f : Bool) (b0 b1 : Nat)
    (hq : ¬ silentCmd s (b0 &&& 0x7F) (b1 &&& 0x7F) f) : EvSt s (decodeMain s f b0 b1) := by
  rw [decodeMain_eq]
  have hclear : EvSt s (s.clearLast f) := (EvSt.refl s).congr (clearLast_chans s f)
  rcases pairAct_cases s f b0 b1 with ⟨_, e | e⟩ | ⟨_, e | e | ⟨a, b, e⟩⟩ <;> rw [e]
  · exact hclear
  · show EvSt s (if _ then _ else _)
    split
    · exact (captionCommand_evst h _ _ _ hq).congr rfl
    · exact captionCommand_evst h _ _ _ hq
  · exact hclear
  · exact modCh_evst h (textIdx_lt s f) (fun ch _ hc => (nulPair_step hc).2)
  · exact hclear.trans (modCh_evst (h.clearLast f) (textIdx_lt s f) (fun ch _ hc => (textPair_step hc _ _).2))

theorem decodePair_evst {s : St} (h : Inv s) (f : Bool) (b0 b1 : Nat)
    (hq : ¬ silentCmd s (b0 &&& 0x7F) (b1 &&& 0x7F) f) : EvSt s (decodePair s f b0 b1) := by
  unfold decodePair
  split
  · exact (EvSt.refl s).congr (xdsConsumed_chans s f b0)
  · rename_i s' hs
    obtain ⟨he, hc, hcur⟩ := xdsGate_some hs
    have h' : Inv s' := h.congr he hc
    have := decodeMain_evst h' f b0 b1 (fun hs' => hq ((silentCmd_congr hc (hcur f) _ _).1 hs'))
    unfold EvSt at this ⊢
    rw [hc] at this
    exact this

end Zvbi.Cc
