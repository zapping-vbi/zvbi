import ZvbiModel.Cc.Decoder
/-!
# Effect of single commands on the two display memories

Contracts of single commands as the property theorems state them: `eocSwap_spec`, `eraseDisplayed_spec`,
`eraseNonDisplayed_spec`, `pac_spec` (`pacCursor_spec`, `pacStyle_spec`, `pacPen`), carriage return in roll-up mode
(`carriageReturn_roll_eq`, `carriageReturn_rollup`), the mid-row pen (`midRowPen`, `midRow_eq`).
-/
namespace Zvbi.Cc
open Zvbi.Gen.Cc

/-- **End Of Caption** on a channel (after the channel switch part): with `x` the channel after the
    closing word break, the memories are exchanged, the new non-displayed memory is blank, the
    mode is that of `x` (`endOfCaption` has set pop-on before), the cursor is at row 15 column 1 and one caption event was sent. -/
theorem eocSwap_spec {x : Channel} (h : ChInv x) :
    (eocSwap x).hidden = (!x.hidden) ∧
    (eocSwap x).displayed = x.nonDisplayed ∧
    (eocSwap x).nonDisplayed = List.replicate (rows * columns) x.ts ∧
    (eocSwap x).mode = x.mode ∧ (eocSwap x).col = 1 ∧ (eocSwap x).col1 = 1 ∧ (eocSwap x).row = 14 ∧
    (eocSwap x).nev = x.nev + 1 := by
  rw [eocSwap_eq h]
  unfold Channel.displayed Channel.nonDisplayed
  cases hh : x.hidden <;>
    simp only [setCursor, Channel.setPg, Channel.pg, Channel.event, Bool.not_true, Bool.not_false, if_true, if_false,
      Bool.false_eq_true] <;>
    exact ⟨trivial, trivial, Page.blank_take .., trivial, trivial, trivial, trivial, trivial⟩

/-- **Erase Displayed Memory**: the displayed memory becomes blank and a caption event is sent; in
    pop-on mode the non-displayed memory is untouched, in every other mode it is erased as well. -/
theorem eraseDisplayed_spec {ch : Channel} (h : ChInv ch) :
    (eraseDisplayed ch).displayed = List.replicate (rows * columns) ch.ts ∧
    (eraseDisplayed ch).nev = ch.nev + 1 ∧
    (eraseDisplayed ch).hidden = ch.hidden ∧
    (ch.mode = .popOn → (eraseDisplayed ch).nonDisplayed = ch.nonDisplayed) ∧
    (ch.mode ≠ .popOn → (eraseDisplayed ch).nonDisplayed = List.replicate (rows * columns) ch.ts) := by
  rw [eraseDisplayed_eq h]
  generalize hx : (if ch.mode = .popOn then ch else ch.setPg ch.hidden ((ch.pg ch.hidden).blank ch.ts 15)) = x
  have hh : x.hidden = ch.hidden := by rw [← hx]; split; rfl; exact setPg_hidden ..
  have hn : x.nev = ch.nev := by rw [← hx]; split; rfl; exact setPg_nev ..
  unfold Channel.displayed Channel.nonDisplayed
  simp only [event_pg]
  show ((x.setPg _ _).pg (!(x.setPg _ _).hidden)).text.take _ = _ ∧ (x.setPg _ _).nev + 1 = _ ∧ (x.setPg _ _).hidden = _ ∧
    (_ → ((x.setPg _ _).pg (x.setPg _ _).hidden).text.take _ = _) ∧ (_ → ((x.setPg _ _).pg (x.setPg _ _).hidden).text.take _ = _)
  rw [setPg_hidden, hh, pg_setPg_same, setPg_nev, hn]
  have hb := pg_setPg_other x (!ch.hidden) ((ch.pg (!ch.hidden)).blank ch.ts (-15))
  rw [Bool.not_not] at hb
  rw [hb, ← hx]
  refine ⟨Page.blank_take .., rfl, rfl, fun hm => by rw [if_pos hm], fun hm => ?_⟩
  rw [if_neg hm, pg_setPg_same]; exact Page.blank_take ..

/-- **Erase Non-Displayed Memory**: in pop-on mode the non-displayed memory becomes blank, the displayed
    memory and the event count are untouched; in any other mode libzvbi ignores the code. -/
theorem eraseNonDisplayed_spec {ch : Channel} (h : ChInv ch) :
    (ch.mode = .popOn →
      (eraseNonDisplayed ch).nonDisplayed = List.replicate (rows * columns) ch.ts ∧
      (eraseNonDisplayed ch).displayed = ch.displayed ∧ (eraseNonDisplayed ch).nev = ch.nev ∧
      (eraseNonDisplayed ch).hidden = ch.hidden) ∧
    (ch.mode ≠ .popOn → eraseNonDisplayed ch = ch) := by
  unfold eraseNonDisplayed
  constructor
  · intro hm
    simp only [hm, beq_self_eq_true, if_true]
    have u := eraseMemory_upd h ch.hidden
    unfold Channel.nonDisplayed Channel.displayed
    rw [u.hidden]
    exact ⟨eraseMemory_erased _ (pg_len h _), by rw [eraseMemory_other _ (pg_len h _)], eraseMemory_nev _, rfl⟩
  · intro hm
    have : (ch.mode == .popOn) = false := by simpa using hm
    simp [this]

/-! ## PAC: cursor position and pen attributes -/

/-- the cursor part of a PAC: column 1 of the addressed row; in roll-up mode that row becomes the base row of the window
    (clamped so that the window fits), which erases both memories when the window moves -/
theorem pacCursor_spec {x : Channel} (h : ChInv x) {r : Nat} (hr : r ≤ 14) :
    (pacCursor x r).col = 1 ∧ (pacCursor x r).col1 = 1 ∧ (x.mode ≠ .rollUp → (pacCursor x r).row = r) ∧
    (x.mode = .rollUp → (pacCursor x r).row1 = r + 1 - x.roll ∧ (pacCursor x r).row + 1 = (pacCursor x r).row1 + x.roll) ∧
    (pacCursor x r).attr = x.attr ∧ (pacCursor x r).mode = x.mode := by
  unfold pacCursor
  by_cases hru : x.mode = .rollUp
  · have hroll := h.roll_pos
    rw [if_pos (by rw [hru]; rfl), pacRelocate_eq h r]
    refine ⟨rfl, rfl, fun hn => absurd hru hn,
      fun _ => ⟨rfl, by show r + 1 - x.roll + x.roll - 1 + 1 = r + 1 - x.roll + x.roll; omega⟩, ?_, ?_⟩ <;> split <;> rfl
  · rw [if_neg (by simpa using hru)]
    exact ⟨rfl, rfl, fun _ => rfl, fun hh => absurd hh hru, rfl, rfl⟩

/-- the pen a PAC selects (47 CFR 15.119 (h)): underline bit, black opaque background, flash off;
    indent form = white; colour form = colour `k` or white italics for `k = 7` -/
def pacPen (old : Cell) (c2 : Nat) : Cell :=
  let a := { old with underline := c2 &&& 1 != 0, bg := colBlack, opacity := opOpaque, flash := false }
  if c2 &&& 0x10 != 0 then { a with italic := false, fg := colWhite }
  else if (c2 >>> 1) &&& 7 < 7 then { a with italic := false, fg := palette ((c2 >>> 1) &&& 7) }
  else { a with italic := true, fg := colWhite }

theorem pac_eq (ch : Channel) (chan c1 c2 : Nat) (r : Int)
    (hr : rowMapping[(c1 <<< 1) + ((c2 >>> 5) &&& 1)]? = some r) (hr0 : 0 ≤ r) (hm : ch.mode ≠ .none) :
    pac ch chan c1 c2 = pacStyle (pacCursor (wordBreak (pacAttr ch c2) true) r.toNat) chan c2 := by
  have hcond : ¬ ((decide (r < 0) || ch.mode == .none) = true) := by
    have : ¬ r < 0 := by omega
    simp [this, hm]
  unfold pac
  simp only [hr]
  rw [if_neg hcond]

/-- the indent / colour part of a PAC on a cursor in column 1 -/
theorem pacStyle_spec {y : Channel} (h : ChInv y) (hc : y.col = 1) (hc1 : y.col1 = 1) (chan c2 : Nat) :
    (pacStyle y chan c2).col = 1 + (if c2 &&& 0x10 != 0 then (c2 &&& 14) * 2 else 0) ∧
    (pacStyle y chan c2).col1 = (pacStyle y chan c2).col ∧
    (pacStyle y chan c2).attr =
      if c2 &&& 0x10 != 0 then { y.attr with italic := false, fg := colWhite }
      else if (c2 >>> 1) &&& 7 < 7 then { y.attr with italic := false, fg := palette ((c2 >>> 1) &&& 7) }
      else { y.attr with italic := true, fg := colWhite } := by
  unfold pacStyle
  by_cases hi : (c2 &&& 0x10 != 0) = true
  · rw [if_pos hi, if_pos hi, if_pos hi]
    have hn : (c2 &&& 14) * 2 ≤ 28 := by have : c2 &&& 14 ≤ 14 := Nat.and_le_right; omega
    obtain ⟨_, t1, t2, t6⟩ := tabFill_row h ((c2 &&& 14) * 2) (transpSpace (decide (4 ≤ chan)))
    rw [hc, show min ((c2 &&& 14) * 2) (33 - 1) = (c2 &&& 14) * 2 by omega] at t1 t2
    refine ⟨t1, ?_, by show ({ (tabFill y _ _).attr with italic := false, fg := colWhite } : Cell) = _; rw [t6]⟩
    show (tabFill y _ _).col1 = (tabFill y _ _).col
    rw [t1, t2, hc1]
    split <;> omega
  · rw [if_neg hi, if_neg hi, if_neg hi]
    unfold setColour
    exact ite_ind (P := fun z : Channel => z.col = 1 + 0 ∧ z.col1 = z.col ∧ z.attr = _) (fun hk => ⟨hc, hc1.trans hc.symm, if_pos hk ▸ rfl⟩)
      fun hk => ⟨hc, hc1.trans hc.symm, if_neg hk ▸ rfl⟩

/-- **pac_positions / attributes_follow_codes (PAC part)**: in a caption or text mode a PAC with a valid
    row code puts the cursor on that row (in roll-up mode: makes it the base row of the window, clamped
    so that the window fits), at column 1 + indent, `line` following, and selects the pen `pacPen`. -/
theorem pac_spec {ch : Channel} (h : ChInv ch) (chan c1 c2 : Nat) (hc1 : c1 ≤ 7) (r : Int)
    (hr : rowMapping[(c1 <<< 1) + ((c2 >>> 5) &&& 1)]? = some r) (hr0 : 0 ≤ r) (hm : ch.mode ≠ .none) :
    (pac ch chan c1 c2).col = 1 + (if c2 &&& 0x10 != 0 then (c2 &&& 14) * 2 else 0) ∧
    (pac ch chan c1 c2).col1 = (pac ch chan c1 c2).col ∧
    (ch.mode ≠ .rollUp → (pac ch chan c1 c2).row = r.toNat) ∧
    (ch.mode = .rollUp → (pac ch chan c1 c2).row1 = r.toNat + 1 - ch.roll ∧
                           (pac ch chan c1 c2).row + 1 = (pac ch chan c1 c2).row1 + ch.roll) ∧
    (pac ch chan c1 c2).lineOff = (pac ch chan c1 c2).row * 34 ∧
    (pac ch chan c1 c2).attr = pacPen ch.attr c2 ∧
    (pac ch chan c1 c2).mode = ch.mode := by
  have hinv := (pac_step h chan c1 c2 hc1).1
  rw [pac_eq ch chan c1 c2 r hr hr0 hm] at hinv ⊢
  have hA : ChInv (pacAttr ch c2) := h.withAttr _
  have uW := wordBreak_upd hA true
  have hW := uW.inv hA
  generalize wordBreak (pacAttr ch c2) true = x at uW hW hinv ⊢
  have hr14 : r.toNat ≤ 14 := (rowMapping_range _ _ hr).resolve_left (by omega)
  obtain ⟨y1, y2, y3, y4, y5, y6⟩ := pacCursor_spec hW hr14
  have hC := pacCursor_inv hW hr14
  generalize pacCursor x r.toNat = y at y1 y2 y3 y4 y5 y6 hC hinv ⊢
  have e := pacStyle_edit hC chan c2
  obtain ⟨s1, s2, s3⟩ := pacStyle_spec hC y1 y2 chan c2
  have hxm : x.mode = ch.mode := uW.mode
  refine ⟨s1, s2, fun hn => by rw [e.row]; exact y3 (hxm ▸ hn), fun hru => ?_, hinv.line_off, ?_, by rw [e.mode, y6, hxm]⟩
  · rw [e.row, e.row1, ← show x.roll = ch.roll from uW.roll]; exact y4 (hxm.trans hru)
  · rw [s3, y5, show x.attr = _ from uW.attr]; rfl

/-! ## Carriage Return in roll-up mode: the displayed window -/
/-- Carriage Return in roll-up mode with the cursor on the base row of the window: sync, move the window, clear the line, finish -/
theorem carriageReturn_roll_eq {ch : Channel} (h : ChInv ch) (chan : Nat) (hm : ch.mode = .rollUp)
    (hb : ch.row + 1 = ch.row1 + ch.roll) :
    carriageReturn ch chan = crFinish (crClear (crMove (update (wordBreak ch true)) (!ch.hidden)) chan) ch.row := by
  have hroll := h.roll_pos
  have hrow := h.row_le
  have hmn : (ch.mode == .none) = false := by rw [hm]; rfl
  have hr0 : ch.roll ≠ 0 := by omega
  have hlast : min (ch.row1 + ch.roll - 1) (15 - 1) = ch.row := by omega
  have hnlt : ¬ ch.row < ch.row := by omega
  have hbb : (ch.hidden != (ch.mode != .popOn)) = !ch.hidden := by rw [hm]; cases ch.hidden <;> rfl
  have es : crSync ch = update (wordBreak ch true) := by
    unfold crSync
    have : (crPopOnNoUpdate && ch.mode == .popOn) = false := by rw [hm]; simp
    rw [this]; rfl
  unfold carriageReturn
  simp only [hmn, Bool.false_eq_true, if_false, hr0, rows_eq, hlast, hnlt, hbb, es]

/-- **rollup_window.**  Carriage return in roll-up mode with the cursor on the base row: with `x` the
    channel after the closing word break and row update, in the displayed memory the base row becomes
    blank, every window row above it receives the row below it, and all rows outside the window keep
    their content; the cursor returns to column 1 of the base row and an event is raised. -/
theorem carriageReturn_rollup {ch : Channel} (h : ChInv ch) (chan : Nat) (hm : ch.mode = .rollUp)
    (hb : ch.row + 1 = ch.row1 + ch.roll) :
    (carriageReturn ch chan).col = 1 ∧ (carriageReturn ch chan).col1 = 1 ∧
    (carriageReturn ch chan).row = ch.row ∧ (carriageReturn ch chan).hidden = ch.hidden ∧
    ch.nev < (carriageReturn ch chan).nev ∧
    ∀ i, i < 510 → (carriageReturn ch chan).displayed[i]? =
      if ch.row * 34 ≤ i ∧ i < ch.row * 34 + 34 then some (transpSpace (decide (4 ≤ chan)))
      else if ch.row1 * 34 ≤ i ∧ i < ch.row * 34 then (update (wordBreak ch true)).displayed[i + 34]?
      else (update (wordBreak ch true)).displayed[i]? := by
  have hroll := h.roll_pos
  have hwin := h.win
  have hrow := h.row_le
  have hne : ch.mode ≠ .popOn := by rw [hm]; decide
  have hev := (carriageReturn_step h chan).2 (Or.inl hne)
  have e := carriageReturn_roll_eq h chan hm hb
  rw [e] at hev ⊢
  -- four stages: x = row closed and on display, y = window moved up (`crMove`), z = `line` cleared (`crClear`), then
  -- `crFinish`; scalars by `Upd` from stage to stage, the displayed cell `i` through `crFinish_spec`, `fill_pg`, `crMove_pg`
  have hW := (wordBreak_upd h true).inv h
  have u1 := (wordBreak_upd h true).trans (update_upd hW)
  have n1 : ch.nev ≤ (update (wordBreak ch true)).nev := by rw [update_nev]; exact (wordBreak_step h true).2.mono
  generalize update (wordBreak ch true) = x at u1 n1 hev ⊢
  have hx := u1.inv h
  have u2 := crMove_upd hx (!ch.hidden)
  have p2 := crMove_pg hx (!ch.hidden)
  have n2 := crMove_nev x (!ch.hidden)
  generalize crMove x (!ch.hidden) = y at u2 p2 n2 hev ⊢
  have hy := u2.inv hx
  have u3 := crClear_upd hy chan
  have p3 := fill_pg hy (a := 0) (n := 34 + 1) (by omega) (transpSpace (decide (4 ≤ chan))) "cr: clear line[0..COLUMNS]"
  have e3 : crClear y chan = fill y 0 (34 + 1) (transpSpace (decide (4 ≤ chan))) "cr: clear line[0..COLUMNS]" := rfl
  rw [← e3] at p3
  have n3 : (crClear y chan).nev = y.nev := fill_nev _ _ _ _ _
  generalize crClear y chan = z at u3 p3 n3 hev ⊢
  have hz := u3.inv hy
  have u := (u1.trans u2).trans u3
  have p4 := update_pg hz
  have uu := update_upd hz
  obtain ⟨u4, _, n4, d4⟩ := crFinish_spec hz ch.row
  have hzp : z.mode ≠ .popOn := by rw [u.mode]; exact hne
  rw [if_neg hzp] at n4 d4
  refine ⟨u4.col, u4.col1, u4.row.trans u.row, u4.hidden.trans u.hidden, ?_, ?_⟩
  · rw [n4, n3, n2]
    omega
  · intro i hi
    have hdisp : (crFinish z ch.row).displayed = ((update z).pg (!z.hidden)).text.take (rows * columns) := by
      rw [d4]; unfold Channel.displayed; rw [uu.hidden]
    rw [hdisp, List.getElem?_take_of_lt (by simpa using hi), p4.1]
    have hzh : z.hidden = ch.hidden := u.hidden
    have hyh : y.hidden = ch.hidden := (u1.trans u2).hidden
    have hxh : x.hidden = ch.hidden := u1.hidden
    have hzo : z.lineOff = ch.row * 34 := by rw [u.lineOff]; exact h.line_off
    have hyo : y.lineOff = ch.row * 34 := by rw [(u1.trans u2).lineOff]; exact h.line_off
    have hlz := pg_len hz
    have hly := pg_len hy
    have hlx := pg_len hx
    rw [blit_get _ _ _ _ _ _ (by rw [hlz, hzo]; omega) (by rw [hlz, hzo]; omega)]
    rw [hzo]
    by_cases hbase : ch.row * 34 ≤ i ∧ i < ch.row * 34 + 34
    · rw [if_pos hbase, if_pos hbase]
      have : ch.row * 34 + (i - ch.row * 34) = i := by omega
      rw [this, hzh, ← hyh, p3.1, fillList_get _ _ _ _ _ (by rw [hly, hyo]; omega), hyo]
      rw [if_pos (by omega)]
    · rw [if_neg hbase, if_neg hbase]
      rw [hzh, ← hyh, p3.2, hyh, p2.1, u1.row1, u1.roll]
      rw [blit_get _ _ _ _ _ _ (by rw [hlx]; omega) (by rw [hlx]; omega)]
      have hab : ch.row1 * 34 + (ch.roll - 1) * 34 = ch.row * 34 := by
        have : ch.row1 + (ch.roll - 1) = ch.row := by omega
        rw [← this]; omega
      rw [hab]
      unfold Channel.displayed
      rw [hxh]
      by_cases hwn : ch.row1 * 34 ≤ i ∧ i < ch.row * 34
      · rw [if_pos hwn, if_pos hwn, List.getElem?_take_of_lt (by simp; omega)]
        congr 1
        omega
      · rw [if_neg hwn, if_neg hwn, List.getElem?_take_of_lt (by simpa using hi)]

/-! ## mid-row codes: the pen -/

theorem putChar_attr {ch : Channel} (h : ChInv ch) (c : Cell) : (putChar ch c).attr = ch.attr := by
  rw [putChar_eq]
  split
  · rw [(wordBreak_upd ((putCell_edit h c).inv h) true).attr]; exact (putCell_spec h c).2.1
  · exact (putCell_spec h c).2.1

/-- the pen after a mid-row code (15.119 (h)): flash off, underline bit; a colour code selects the
    colour and switches italics off; the italics code switches italics on and, on a tree with finding F46
    (`midrowItalicsKeepsColour = false`), also sets white -/
def midRowPen (old : Cell) (c2 : Nat) : Cell :=
  if (c2 >>> 1) &&& 7 < 7 then
    { old with flash := false, underline := c2 &&& 1 != 0, italic := false, fg := palette ((c2 >>> 1) &&& 7) }
  else if midrowItalicsKeepsColour then { old with flash := false, underline := c2 &&& 1 != 0, italic := true }
  else { old with flash := false, underline := c2 &&& 1 != 0, italic := true, fg := colWhite }

/-- the channel `midRow` hands to `put_char`: everything as before, pen = `midRowPen` -/
theorem midRow_eq (ch : Channel) (c2 : Nat) :
    midRow ch c2 = putChar { ch with attr := midRowPen ch.attr c2 } { midRowPen ch.attr c2 with unicode := 0x20 } := by
  unfold midRow putCharSpace setColourMid midRowPen
  repeat' split
  all_goals rfl


end Zvbi.Cc
