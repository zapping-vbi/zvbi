import ZvbiModel.Cc.Model
import ZvbiModel.Ite
/-!
# The cursor invariant of the Closed Caption model and what keeps it

`ChInv` and `Upd` (same scalars and extents); the page primitives under the invariant as equations; `word_break` in normal form
(`wordBreak_phases`, `wordBreak_false_eq`); functions that touch whole pages written out (`Page.blank`, `eraseMemory_eq`,
`pacRelocate_eq`, `chswPages_eq`), so that what they keep is read off.
-/
namespace Zvbi.Cc
open Zvbi.Gen.Cc

@[simp] theorem rows_eq : rows = 15 := rfl
@[simp] theorem columns_eq : columns = 34 := rfl
@[simp] theorem textLen_eq : textLen = 1056 := rfl
@[simp] theorem nChannels_eq : nChannels = 9 := rfl

theorem fillList_length (l : List Cell) (a n : Nat) (c : Cell) (h : a + n ≤ l.length) :
    (fillList l a n c).length = l.length := by
  simp [fillList]; omega

theorem blit_length (d s : List Cell) (dOff sOff n : Nat) (hd : dOff + n ≤ d.length) (hs : sOff + n ≤ s.length) :
    (blit d s dOff sOff n).length = d.length := by
  simp [blit]; omega

/-! ## the cursor invariant of one channel -/

/-- The cursor / window invariant of `cc_channel` (DESIGN.md section 7, C08 `cursor_inv`). -/
structure ChInv (ch : Channel) : Prop where
  err : ch.err = none
  col1_pos : 1 ≤ ch.col1
  col1_le : ch.col1 ≤ ch.col
  col_le : ch.col ≤ 33
  row_le : ch.row ≤ 14
  roll_pos : 1 ≤ ch.roll
  win : ch.row1 + ch.roll ≤ 15
  line_off : ch.lineOff = ch.row * 34
  line_pg : ch.linePg = ch.hidden
  len0 : ch.pg0.text.length = 1056
  len1 : ch.pg1.text.length = 1056

theorem pg_len {ch : Channel} (h : ChInv ch) (b : Bool) : (ch.pg b).text.length = 1056 := by
  cases b <;> simp [Channel.pg, h.len0, h.len1]

/-- `a` is `b` with possibly different page contents, dirty fields and event count:
    every scalar of the cursor state, the error flag and the text extents are the same. -/
structure Upd (b a : Channel) : Prop where
  idx : a.idx = b.idx
  mode : a.mode = b.mode
  col : a.col = b.col
  col1 : a.col1 = b.col1
  row : a.row = b.row
  row1 : a.row1 = b.row1
  roll : a.roll = b.roll
  nulCt : a.nulCt = b.nulCt
  attr : a.attr = b.attr
  linePg : a.linePg = b.linePg
  lineOff : a.lineOff = b.lineOff
  hidden : a.hidden = b.hidden
  err : a.err = b.err
  len0 : a.pg0.text.length = b.pg0.text.length
  len1 : a.pg1.text.length = b.pg1.text.length

theorem Upd.refl (a : Channel) : Upd a a := by constructor <;> rfl

theorem Upd.trans {a b c : Channel} (h1 : Upd a b) (h2 : Upd b c) : Upd a c :=
  ⟨h2.idx.trans h1.idx, h2.mode.trans h1.mode, h2.col.trans h1.col, h2.col1.trans h1.col1, h2.row.trans h1.row,
   h2.row1.trans h1.row1, h2.roll.trans h1.roll, h2.nulCt.trans h1.nulCt, h2.attr.trans h1.attr,
   h2.linePg.trans h1.linePg, h2.lineOff.trans h1.lineOff, h2.hidden.trans h1.hidden, h2.err.trans h1.err,
   h2.len0.trans h1.len0, h2.len1.trans h1.len1⟩

theorem Upd.inv {a b : Channel} (u : Upd a b) (h : ChInv a) : ChInv b := by
  obtain ⟨_, _, e3, e4, e5, e6, e7, _, _, e10, e11, e12, e13, e14, e15⟩ := u
  cases h
  constructor <;> simp only [e3, e4, e5, e6, e7, e10, e11, e12, e13, e14, e15] <;> assumption

theorem Upd.withCols {a b : Channel} (u : Upd a b) (c c1 : Nat) :
    Upd { a with col1 := c1, col := c } { b with col1 := c1, col := c } :=
  ⟨u.idx, u.mode, rfl, rfl, u.row, u.row1, u.roll, u.nulCt, u.attr, u.linePg, u.lineOff, u.hidden, u.err, u.len0, u.len1⟩

theorem setPg_upd (ch : Channel) (b : Bool) (p : Page) (hp : p.text.length = (ch.pg b).text.length) :
    Upd ch (ch.setPg b p) := by
  cases b <;> constructor <;> simp_all [Channel.setPg, Channel.pg]

theorem event_upd (ch : Channel) : Upd ch ch.event := by constructor <;> rfl

/-- `line[0 .. 35)` lies inside either page: 35 = COLUMNS + 1 is what the loop `i <= COLUMNS` of the carriage return writes
    (cell 34 of row `r` is cell 0 of row `r + 1`) -/
theorem line_le {ch : Channel} (h : ChInv ch) {k : Nat} (hk : k ≤ 35) (b : Bool) : ch.lineOff + k ≤ (ch.pg b).text.length := by
  rw [pg_len h, h.line_off]; have := h.row_le; omega

theorem rd_some {ch : Channel} (h : ChInv ch) {i : Nat} (hi : i ≤ 34) : ∃ c, rd ch i = some c :=
  ⟨_, List.getElem?_eq_getElem (line_le h (k := i + 1) (by omega) _)⟩

/-! Under the invariant the extent checks of the primitives pass: what each of them does to the pages. -/

theorem wr_eq {ch : Channel} (h : ChInv ch) {i : Nat} (hi : i ≤ 34) (c : Cell) (s : String) :
    wr ch i c s = ch.setPg ch.linePg { ch.pg ch.linePg with text := (ch.pg ch.linePg).text.set (ch.lineOff + i) c } := by
  unfold wr
  simp only [show ch.lineOff + i < (ch.pg ch.linePg).text.length from line_le h (k := i + 1) (by omega) _, if_true]

theorem fill_eq {ch : Channel} (h : ChInv ch) {a n : Nat} (hi : a + n ≤ 35) (c : Cell) (s : String) :
    fill ch a n c s = ch.setPg ch.linePg { ch.pg ch.linePg with text := fillList (ch.pg ch.linePg).text (ch.lineOff + a) n c } := by
  unfold fill
  simp only [show ch.lineOff + a + n ≤ (ch.pg ch.linePg).text.length from Nat.add_assoc .. ▸ line_le h hi _, if_true]

theorem update_eq {ch : Channel} (h : ChInv ch) :
    update ch = ch.setPg (!ch.hidden)
      { ch.pg (!ch.hidden) with text := blit (ch.pg (!ch.hidden)).text (ch.pg ch.hidden).text ch.lineOff ch.lineOff 34 } := by
  unfold update
  simp only [h.line_pg, bne_self_eq_false, Bool.false_eq_true, if_false, columns_eq,
    line_le h (k := 34) (by omega) ch.hidden, line_le h (k := 34) (by omega) (!ch.hidden), and_self, if_true]

theorem fillList_zero_take (l : List Cell) (n : Nat) (c : Cell) :
    (fillList l 0 n c).take n = List.replicate n c := by
  simp [fillList]

/-- a page with its 15 x 34 caption cells blank, the dirty region "everything" and `roll` as given -/
def Page.blank (p : Page) (ts : Cell) (roll : Int) : Page := { text := fillList p.text 0 510 ts, y0 := 0, y1 := 14, roll := roll }

theorem Page.blank_len {p : Page} (h : p.text.length = 1056) (ts : Cell) (roll : Int) : (p.blank ts roll).text.length = 1056 := by
  show (fillList p.text 0 510 ts).length = 1056
  rw [fillList_length _ _ _ _ (by rw [h]; decide), h]

theorem Page.blank_take (p : Page) (ts : Cell) (roll : Int) :
    (p.blank ts roll).text.take (rows * columns) = List.replicate (rows * columns) ts := fillList_zero_take _ _ _

theorem eraseMemory_eq {ch : Channel} (b : Bool) (hl : (ch.pg b).text.length = 1056) :
    eraseMemory ch b = ch.setPg b ((ch.pg b).blank ch.ts 15) := by
  unfold eraseMemory
  simp only [hl, rows_eq, columns_eq, Nat.reduceMul, Nat.reduceLeDiff, if_true]
  rfl

theorem crMove_eq {x : Channel} (h : ChInv x) (b : Bool) :
    crMove x b = x.setPg b
      { x.pg b with text := blit (x.pg b).text (x.pg b).text (x.row1 * 34) (x.row1 * 34 + 34) ((x.roll - 1) * 34) } := by
  have hw := h.win
  have hr := h.roll_pos
  unfold crMove
  simp only [columns_eq, pg_len h b]
  rw [if_pos (by omega)]

theorem wr_upd {ch : Channel} (h : ChInv ch) {i : Nat} (hi : i ≤ 34) (c : Cell) (s : String) :
    Upd ch (wr ch i c s) := by
  rw [wr_eq h hi]; exact setPg_upd _ _ _ (by simp)

theorem pg_setPg_same (ch : Channel) (b : Bool) (p : Page) : (ch.setPg b p).pg b = p := by
  cases b <;> rfl

theorem pg_setPg_other (ch : Channel) (b : Bool) (p : Page) : (ch.setPg b p).pg (!b) = ch.pg (!b) := by
  cases b <;> rfl

theorem rd_wr {ch : Channel} (h : ChInv ch) {i : Nat} (hi : i ≤ 34) (c : Cell) (s : String) (j : Nat) :
    rd (wr ch i c s) j = if j = i then some c else rd ch j := by
  have hlt : ch.lineOff + i < (ch.pg ch.linePg).text.length := line_le h (k := i + 1) (by omega) _
  have u := wr_upd h hi c s
  unfold rd
  rw [u.linePg, u.lineOff, wr_eq h hi, pg_setPg_same]
  by_cases hj : j = i
  · subst hj; simp [hlt]
  · have : ch.lineOff + i ≠ ch.lineOff + j := by omega
    simp [hj, List.getElem?_set_ne this]

theorem wr_other_pg {ch : Channel} (h : ChInv ch) {i : Nat} (hi : i ≤ 34) (c : Cell) (s : String) :
    (wr ch i c s).pg (!ch.linePg) = ch.pg (!ch.linePg) := by
  rw [wr_eq h hi, pg_setPg_other]

theorem fill_upd {ch : Channel} (h : ChInv ch) {a n : Nat} (hi : a + n ≤ 35) (c : Cell) (s : String) :
    Upd ch (fill ch a n c s) := by
  rw [fill_eq h hi]
  exact setPg_upd _ _ _ (fillList_length _ _ _ _ (Nat.add_assoc .. ▸ line_le h hi _))

theorem renderCh_upd (ch : Channel) (b : Bool) (row : Int) : Upd ch (renderCh ch b row) := by
  unfold renderCh
  refine (setPg_upd ch b _ ?_).trans (event_upd _)
  unfold Page.render; split <;> rfl

theorem update_upd {ch : Channel} (h : ChInv ch) : Upd ch (update ch) := by
  rw [update_eq h]
  exact setPg_upd _ _ _ (blit_length _ _ _ _ _ (line_le h (by omega) _) (line_le h (by omega) _))

theorem eraseMemory_upd {ch : Channel} (h : ChInv ch) (b : Bool) : Upd ch (eraseMemory ch b) := by
  rw [eraseMemory_eq b (pg_len h b)]
  exact setPg_upd _ _ _ ((Page.blank_len (pg_len h b) _ _).trans (pg_len h b).symm)

/-- `x` is `ch` after some transparent spaces of the current row were replaced by space glyphs through `ch->line` -/
inductive Wrs (ch : Channel) : Channel → Prop
  | refl : Wrs ch ch
  | wr {x : Channel} (i : Nat) (c : Cell) (s : String) {c0 : Cell} : Wrs ch x → i < 34 → rd x i = some c0 →
      c0.opacity = opTransparentSpace → c.unicode = 0x20 → Wrs ch (wr x i c s)

theorem Wrs.upd {ch x : Channel} (h : ChInv ch) (w : Wrs ch x) : Upd ch x := by
  induction w with
  | refl => exact Upd.refl _
  | wr i c s _ hi _ _ _ ih => exact ih.trans (wr_upd (ih.inv h) (Nat.le_of_lt hi) c s)

/-- `word_break` in two phases: the solid spaces next to the word (`word_break(cc, ch, 0)`), then - unless asked not to or in
    pop-on mode - the copy of the row to the displayed memory with its event -/
theorem wordBreak_phases (ch : Channel) (upd : Bool) :
    wordBreak ch upd = if !upd || (wordBreak ch false).mode == .popOn then wordBreak ch false
      else renderCh (update (wordBreak ch false)) true (wordBreak ch false).row := by
  unfold wordBreak
  simp

/-- `word_break(cc, ch, 0)` on a row that holds a word: at most two stores, the solid space before the word and the one
    behind it, and all four cells it looks at are read from the row as it was -/
theorem wordBreak_false_eq {ch : Channel} (h : ChInv ch) (hgt : ch.col1 < ch.col) {a b c d : Cell}
    (ra : rd ch ch.col1 = some a) (rb : rd ch (ch.col1 - 1) = some b) (rc : rd ch (ch.col - 1) = some c)
    (rd' : rd ch ch.col = some d) :
    wordBreak ch false =
      if (!c.isSpace && d.opacity == opTransparentSpace) = true then
        wr (if (!a.isSpace && b.opacity == opTransparentSpace) = true then
            wr ch (ch.col1 - 1) { a with unicode := 0x20 } "word_break: leading" else ch)
          ch.col { c with unicode := 0x20 } "word_break: trailing"
      else if (!a.isSpace && b.opacity == opTransparentSpace) = true then
        wr ch (ch.col1 - 1) { a with unicode := 0x20 } "word_break: leading" else ch := by
  have hc1 := h.col1_pos
  have hc := h.col_le
  have hne : ch.col1 ≠ 0 := by omega
  unfold wordBreak
  simp only [gt_iff_lt, hgt, if_true, hne, if_false, ra, rb, Bool.not_false, Bool.true_or]
  have hx : ∀ x : Channel, x = (if (!a.isSpace && b.opacity == opTransparentSpace) = true then
      wr ch (ch.col1 - 1) { a with unicode := 0x20 } "word_break: leading" else ch) →
      x.col = ch.col ∧ rd x (ch.col - 1) = some c ∧ rd x ch.col = some d := by
    intro x e; subst e
    refine ite_ind (P := fun x : Channel => x.col = ch.col ∧ rd x (ch.col - 1) = some c ∧ rd x ch.col = some d) (fun _ => ?_)
      fun _ => ⟨rfl, rc, rd'⟩
    exact ⟨(wr_upd h (by omega) _ _).col, by rw [rd_wr h (by omega), if_neg (by omega)]; exact rc,
      by rw [rd_wr h (by omega), if_neg (by omega)]; exact rd'⟩
  generalize (if (!a.isSpace && b.opacity == opTransparentSpace) = true then
      wr ch (ch.col1 - 1) { a with unicode := 0x20 } "word_break: leading" else ch) = x at hx ⊢
  obtain ⟨e, r1, r2⟩ := hx x rfl
  simp only [e, r1, r2]

theorem wordBreak_false_noop {ch : Channel} (h : ch.col = ch.col1) : wordBreak ch false = ch := by
  unfold wordBreak
  have : ¬ ch.col > ch.col1 := by omega
  simp [this]

theorem wordBreak_wrs {ch : Channel} (h : ChInv ch) : Wrs ch (wordBreak ch false) := by
  have hc1 := h.col1_pos
  have hc := h.col_le
  by_cases hgt : ch.col1 < ch.col
  · obtain ⟨a, ra⟩ := rd_some h (i := ch.col1) (by omega)
    obtain ⟨b, rb⟩ := rd_some h (i := ch.col1 - 1) (by omega)
    obtain ⟨c, rc⟩ := rd_some h (i := ch.col - 1) (by omega)
    obtain ⟨d, rd'⟩ := rd_some h (i := ch.col) (by omega)
    rw [wordBreak_false_eq h hgt ra rb rc rd']
    have w1 : Wrs ch (if (!a.isSpace && b.opacity == opTransparentSpace) = true then
        wr ch (ch.col1 - 1) { a with unicode := 0x20 } "word_break: leading" else ch) :=
      ite_ind (fun hl => .wr _ _ _ .refl (by omega) rb (by simp only [Bool.and_eq_true, beq_iff_eq] at hl; exact hl.2) rfl) fun _ => .refl
    refine ite_ind (fun ht => ?_) fun _ => w1
    refine .wr _ _ _ w1 (by omega) ?_ (by simp only [Bool.and_eq_true, beq_iff_eq] at ht; exact ht.2) rfl
    refine ite_ind (P := fun x => rd x ch.col = some d) (fun _ => ?_) fun _ => rd'
    rw [rd_wr h (by omega), if_neg (by omega)]; exact rd'
  · rw [wordBreak_false_noop (by have := h.col1_le; omega)]; exact .refl

theorem wordBreak_upd {ch : Channel} (h : ChInv ch) (upd : Bool) : Upd ch (wordBreak ch upd) := by
  have u := (wordBreak_wrs h).upd h
  rw [wordBreak_phases]
  exact ite_ind (fun _ => u) fun _ => u.trans ((update_upd (u.inv h)).trans (renderCh_upd _ _ _))

/-! ## record updates that keep the invariant -/

theorem ChInv.withCols {x : Channel} (hx : ChInv x) {c c1 : Nat} (h1 : 1 ≤ c1) (h2 : c1 ≤ c) (h3 : c ≤ 33) :
    ChInv { x with col := c, col1 := c1 } := by
  obtain ⟨a1, a2, a3, a4, a5, a6, a7, a8, a9, a10, a11⟩ := hx
  constructor <;> simp_all

theorem ChInv.withAttr {x : Channel} (hx : ChInv x) (a : Cell) : ChInv { x with attr := a } := by
  obtain ⟨a1, a2, a3, a4, a5, a6, a7, a8, a9, a10, a11⟩ := hx
  constructor <;> simp_all

theorem ChInv.withMode {x : Channel} (hx : ChInv x) (m : Mode) : ChInv { x with mode := m } := by
  obtain ⟨a1, a2, a3, a4, a5, a6, a7, a8, a9, a10, a11⟩ := hx
  constructor <;> simp_all

theorem ChInv.withNul {x : Channel} (hx : ChInv x) (n : Nat) : ChInv { x with nulCt := n } := by
  obtain ⟨a1, a2, a3, a4, a5, a6, a7, a8, a9, a10, a11⟩ := hx
  constructor <;> simp_all

/-- `set_cursor` re-establishes the `line` part of the invariant by itself -/
theorem setCursor_inv_of {y : Channel} (he : y.err = none) (h0 : y.pg0.text.length = 1056) (h1 : y.pg1.text.length = 1056)
    (hr : 1 ≤ y.roll) (hw : y.row1 + y.roll ≤ 15) {c r : Nat} (hc1 : 1 ≤ c) (hc : c ≤ 33) (hrow : r ≤ 14) :
    ChInv (setCursor y c r) := by
  constructor <;> simp_all [setCursor]

theorem setCursor_inv {x : Channel} (hx : ChInv x) {c r : Nat} (h1 : 1 ≤ c) (h3 : c ≤ 33) (hr : r ≤ 14) :
    ChInv (setCursor x c r) := setCursor_inv_of hx.err hx.len0 hx.len1 hx.roll_pos hx.win h1 h3 hr

theorem crMove_upd {x : Channel} (h : ChInv x) (b : Bool) : Upd x (crMove x b) := by
  have hw := h.win
  have hr := h.roll_pos
  rw [crMove_eq h]
  exact setPg_upd _ _ _ (blit_length _ _ _ _ _ (by rw [pg_len h]; omega) (by rw [pg_len h]; omega))

theorem crClear_upd {y : Channel} (h : ChInv y) (chan : Nat) : Upd y (crClear y chan) := by
  unfold crClear
  exact fill_upd h (by simp) _ _

theorem crSync_upd {ch : Channel} (h : ChInv ch) : Upd ch (crSync ch) := by
  unfold crSync
  split
  · exact wordBreak_upd h true
  · exact (wordBreak_upd h true).trans (update_upd ((wordBreak_upd h true).inv h))

theorem wordBreak_inv {ch : Channel} (h : ChInv ch) (upd : Bool) : ChInv (wordBreak ch upd) :=
  (wordBreak_upd h upd).inv h

theorem clear_len (p : Page) : p.clear.text.length = p.text.length := rfl

theorem rowMapping_range (i : Nat) (r : Int) (h : rowMapping[i]? = some r) : r < 0 ∨ r.toNat ≤ 14 := by
  have : ∀ j < 16, ∀ r, rowMapping[j]? = some r → r < 0 ∨ r.toNat ≤ 14 := by decide
  by_cases hi : i < 16
  · exact this i hi r h
  · have : rowMapping[i]? = none := List.getElem?_eq_none (by simp [rowMapping]; omega)
    rw [this] at h; cases h

/-- the window move of a PAC in roll-up mode, written out: a new base row erases both memories -/
theorem pacRelocate_eq {x : Channel} (h : ChInv x) (r : Nat) :
    pacRelocate x r =
      { (if r + 1 - x.roll = x.row1 then x
         else { x with pg0 := x.pg0.blank x.ts 15, pg1 := x.pg1.blank x.ts 15 }) with
        row1 := r + 1 - x.roll, col := 1, col1 := 1, row := r + 1 - x.roll + x.roll - 1, linePg := x.hidden,
        lineOff := (r + 1 - x.roll + x.roll - 1) * 34 } := by
  have l0 := h.len0
  have l1 := h.len1
  have hroll := h.roll_pos
  unfold pacRelocate
  rw [if_neg (by omega), if_neg (by simp [show pacRow1Clamped = true by decide])]
  by_cases hm : r + 1 - x.roll = x.row1
  · simp [hm, setCursor]
  · cases hh : x.hidden <;>
      simp [hm, setCursor, eraseMemory, Channel.setPg, Channel.pg, Page.blank, Channel.ts, l0, l1]

theorem pacRelocate_inv {x : Channel} (h : ChInv x) {r : Nat} (hr : r ≤ 14) : ChInv (pacRelocate x r) := by
  have hw := h.win
  have hroll := h.roll_pos
  have k : ∀ p0 p1 : Page, p0.text.length = 1056 → p1.text.length = 1056 →
      ChInv { x with pg0 := p0, pg1 := p1, row1 := r + 1 - x.roll, col := 1, col1 := 1, row := r + 1 - x.roll + x.roll - 1,
                     linePg := x.hidden, lineOff := (r + 1 - x.roll + x.roll - 1) * 34 } := fun _ _ l0 l1 =>
    ⟨h.err, Nat.le_refl 1, Nat.le_refl 1, by show 1 ≤ 33; omega, by show r + 1 - x.roll + x.roll - 1 ≤ 14; omega, hroll,
      by show r + 1 - x.roll + x.roll ≤ 15; omega, rfl, rfl, l0, l1⟩
  rw [pacRelocate_eq h r]
  split
  · exact k _ _ h.len0 h.len1
  · exact k _ _ (Page.blank_len h.len0 _ _) (Page.blank_len h.len1 _ _)

theorem pacCursor_inv {x : Channel} (h1 : ChInv x) {row : Nat} (hrow : row ≤ 14) : ChInv (pacCursor x row) := by
  unfold pacCursor
  exact ite_ind (fun _ => pacRelocate_inv h1 hrow) (fun _ => setCursor_inv h1 (Nat.le_refl _) (by omega) hrow)

theorem ruErase_upd {ch : Channel} (h : ChInv ch) : Upd ch (ruErase ch) := by
  unfold ruErase
  have u1 := eraseMemory_upd h ch.hidden
  have h1 := u1.inv h
  have u2 := eraseMemory_upd h1 (!ch.hidden)
  have h2 := u2.inv h1
  simp only []
  split
  · exact (u1.trans u2).trans ((setPg_upd _ (!ch.hidden) _ (clear_len _)).trans (event_upd _))
  · exact u1.trans u2

theorem ruFinish_inv {y : Channel} (h : ChInv y) {roll : Nat} (h2 : 2 ≤ roll) (h4 : roll ≤ 4) :
    ChInv (ruFinish y roll) := by
  unfold ruFinish
  constructor <;> simp [setCursor]
  · exact h.err
  · omega
  · omega
  · exact h.len0
  · exact h.len1

/-! ## channel switch -/

/-- what `vbi_caption_channel_switched` may assume of a channel: no error, page extents -/
structure PreInv (ch : Channel) : Prop where
  err : ch.err = none
  len0 : ch.pg0.text.length = 1056
  len1 : ch.pg1.text.length = 1056

theorem ChInv.pre {ch : Channel} (h : ChInv ch) : PreInv ch := ⟨h.err, h.len0, h.len1⟩

theorem zeroChannel_pre (i : Nat) : PreInv (zeroChannel i) := by
  have hz : zeroPage.text.length = 1056 := by
    show (List.replicate textLen _).length = 1056
    rw [List.length_replicate]; rfl
  exact ⟨rfl, hz, hz⟩

/-- cursor and pages after `vbi_caption_channel_switched`, written out: both pages hold the blanked first page -/
theorem chswPages_eq {x : Channel} (first : Bool) (hl : x.pg0.text.length = 1056) :
    chswPages (chswCursorWith first x) =
      { x with
        col := 1, col1 := 1, lineOff := x.row * 34, linePg := !first && x.hidden, hidden := false,
        pg0 := x.pg0.blank x.ts 15, pg1 := x.pg0.blank x.ts 15 } := by
  unfold chswPages chswCursorWith
  cases first <;> simp [eraseMemory, Channel.setPg, Channel.pg, Page.blank, Channel.ts, setCursor, hl]

/-- mode, window and pen after its first two parts -/
theorem chswGeom_facts (ch : Channel) :
    (chswAttr (chswGeom ch)).pg0 = ch.pg0 ∧ (chswAttr (chswGeom ch)).err = ch.err ∧
    (chswAttr (chswGeom ch)).hidden = ch.hidden ∧ (chswAttr (chswGeom ch)).idx = ch.idx ∧
    (chswAttr (chswGeom ch)).row ≤ 14 ∧ 1 ≤ (chswAttr (chswGeom ch)).roll ∧
    (chswAttr (chswGeom ch)).row1 + (chswAttr (chswGeom ch)).roll ≤ 15 ∧
    (ch.idx < 4 → (chswAttr (chswGeom ch)).mode = .none) ∧
    (chswAttr (chswGeom ch)).attr = { ch.attr with opacity := opOpaque, fg := colWhite, bg := colBlack } := by
  unfold chswAttr chswGeom
  split <;> simp_all

theorem chswChannelWith_inv {ch : Channel} (first : Bool) (hp : PreInv ch) (hh : first = true ∨ ch.hidden = false) :
    ChInv (chswChannelWith first ch) := by
  obtain ⟨x0, xe, xh, _, hrow, hroll, hwin, _⟩ := chswGeom_facts ch
  unfold chswChannelWith
  generalize chswAttr (chswGeom ch) = x at *
  rw [chswPages_eq first (x0 ▸ hp.len0)]
  have hb := Page.blank_len (x0 ▸ hp.len0) x.ts 15
  exact ⟨xe.trans hp.err, Nat.le_refl _, Nat.le_refl _, by show 1 ≤ 33; omega, hrow, hroll, hwin, rfl,
    by rcases hh with rfl | hh; rfl; show (!first && x.hidden) = false; rw [xh, hh]; simp, hb, hb⟩

end Zvbi.Cc
