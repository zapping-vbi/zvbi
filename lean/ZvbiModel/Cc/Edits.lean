import ZvbiModel.Cc.PopOn
/-!
# Corrections inside a row (paint-on, roll-up and text mode): libzvbi against `Eia608` up to solid spaces

What `word_break`, Backspace and Erase Displayed Memory do cell by cell (`SolidOnly`, `backspace_cells`, `SameButCells`), then the
relation `EditSim` and its preservation by characters, BS, DER, Tab Offset and EDM (`edits_refine`).
-/
namespace Zvbi.Cc
open Zvbi.Gen.Cc

/-- `b` is `a` except for solid spaces in the current row of the working memory: a cell that changed was a
    transparent space and now holds a space glyph.  Scalars, event count and the displayed memory are the same. -/
structure SolidOnly (a b : Channel) : Prop where
  upd : Upd a b
  nev : b.nev = a.nev
  disp : ∀ r j, b.dcell r j = a.dcell r j
  cells : ∀ r j, j < 34 → b.hcell r j = a.hcell r j ∨
    (r = a.row ∧ ∃ c0 c, a.hcell r j = some c0 ∧ c0.opacity = opTransparentSpace ∧ b.hcell r j = some c ∧ c.unicode = 0x20)

theorem SolidOnly.refl (a : Channel) : SolidOnly a a := ⟨Upd.refl a, rfl, fun _ _ => rfl, fun _ _ _ => Or.inl rfl⟩

theorem SolidOnly.trans {a b c : Channel} (h1 : SolidOnly a b) (h2 : SolidOnly b c) : SolidOnly a c := by
  refine ⟨h1.upd.trans h2.upd, h2.nev.trans h1.nev, fun r j => (h2.disp r j).trans (h1.disp r j), ?_⟩
  intro r j hj
  rcases h2.cells r j hj with e2 | ⟨hr2, c0, c, e0, o0, e, u⟩
  · rcases h1.cells r j hj with e1 | ⟨hr1, c0, c, e0, o0, e, u⟩
    · exact Or.inl (e2.trans e1)
    · exact Or.inr ⟨hr1, c0, c, e0, o0, e2.trans e, u⟩
  · rcases h1.cells r j hj with e1 | ⟨hr1, d0, d, f0, p0, _, _⟩
    · exact Or.inr ⟨by rw [hr2, h1.upd.row], c0, c, e1 ▸ e0, o0, e, u⟩
    · exact Or.inr ⟨hr1, d0, c, f0, p0, e, u⟩

/-- one cell of the current row, a transparent space so far, becomes a space glyph -/
theorem solidOnly_wr {ch : Channel} (h : ChInv ch) {i : Nat} (hi : i < 34) {c0 : Cell} (c : Cell) (s : String)
    (e0 : rd ch i = some c0) (o0 : c0.opacity = opTransparentSpace) (hu : c.unicode = 0x20) :
    SolidOnly ch (wr ch i c s) := by
  refine ⟨wr_upd h (Nat.le_of_lt hi) c s, wr_nev _ _ c s, fun r j => dcell_wr h (Nat.le_of_lt hi) c s r j, ?_⟩
  intro r j hj
  rw [hcell_wr h hi c s r j hj]
  by_cases hc : r = ch.row ∧ j = i
  · rw [if_pos hc]
    refine Or.inr ⟨hc.1, c0, c, ?_, o0, rfl, hu⟩
    rw [hc.1, hc.2, ← rd_eq_hcell h]; exact e0
  · rw [if_neg hc]; exact Or.inl rfl

theorem Wrs.solid {ch x : Channel} (h : ChInv ch) (w : Wrs ch x) : SolidOnly ch x := by
  induction w with
  | refl => exact SolidOnly.refl _
  | wr i c s w hi e0 o0 hu ih => exact ih.trans (solidOnly_wr ((w.upd h).inv h) hi c s e0 o0 hu)

/-- the solid-space phase of `word_break` (`word_break(cc, ch, 0)`) only turns transparent spaces of the current
    row into space glyphs -/
theorem wordBreak_false_solid {ch : Channel} (h : ChInv ch) : SolidOnly ch (wordBreak ch false) :=
  (wordBreak_wrs h).solid h

/-! ## Backspace -/

theorem hcell_withCols (x : Channel) (c c1 : Nat) (r j : Nat) :
    ({ x with col := c, col1 := c1 } : Channel).hcell r j = x.hcell r j := rfl

theorem backspace_noop {ch : Channel} (chan : Nat) (hc : ch.col ≤ 1) : backspace ch chan = ch := by
  unfold backspace
  have : (ch.mode != Mode.none && decide (ch.col > 1)) = false := by
    simp only [Bool.and_eq_false_iff, decide_eq_false_iff_not]; right; omega
  rw [this]; rfl

/-- **Backspace** with the cursor right of column 1: the cell left of the cursor becomes a transparent space, the
    cursor moves there (`col1` follows if it was to the right); what stays is said by `backspace_edit`. -/
theorem backspace_cells {ch : Channel} (h : ChInv ch) (chan : Nat) (hm : ch.mode ≠ .none) (hc : 1 < ch.col) :
    (backspace ch chan).col = ch.col - 1 ∧ (backspace ch chan).col1 = min ch.col1 (ch.col - 1) ∧
    (backspace ch chan).attr = ch.attr ∧
    (∀ r j, j < 34 → (backspace ch chan).hcell r j =
      if r = ch.row ∧ j = ch.col - 1 then some (transpSpace (decide (4 ≤ chan))) else ch.hcell r j) := by
  have hcol := h.col_le
  have u := wr_upd h (i := ch.col - 1) (by omega) (transpSpace (decide (4 ≤ chan))) "backspace"
  have hh := hcell_wr h (i := ch.col - 1) (by omega) (transpSpace (decide (4 ≤ chan))) "backspace"
  have hmode : (ch.mode != Mode.none && decide (ch.col > 1)) = true := by
    simp only [Bool.and_eq_true, decide_eq_true_eq]
    exact ⟨by cases hmm : ch.mode <;> first | rfl | exact absurd hmm hm, hc⟩
  unfold backspace
  rw [if_pos hmode]
  simp only []
  split
  · rename_i hlt
    simp only [u.col1] at hlt
    exact ⟨rfl, by show ch.col - 1 = min ch.col1 (ch.col - 1); omega, u.attr, hh⟩
  · rename_i hge
    simp only [u.col1] at hge
    exact ⟨rfl, by show (wr ch (ch.col - 1) _ _).col1 = _; rw [u.col1]; omega, u.attr, hh⟩


/-! ## Erase Displayed Memory: nothing written before survives -/

/-- two channels that differ at most in the 15 x 34 caption cells of their two memories -/
structure SameButCells (a b : Channel) : Prop where
  idx : b.idx = a.idx
  mode : b.mode = a.mode
  col : b.col = a.col
  col1 : b.col1 = a.col1
  row : b.row = a.row
  row1 : b.row1 = a.row1
  roll : b.roll = a.roll
  nulCt : b.nulCt = a.nulCt
  attr : b.attr = a.attr
  linePg : b.linePg = a.linePg
  lineOff : b.lineOff = a.lineOff
  hidden : b.hidden = a.hidden
  nev : b.nev = a.nev
  err : b.err = a.err
  tail0 : b.pg0.text.drop 510 = a.pg0.text.drop 510
  tail1 : b.pg1.text.drop 510 = a.pg1.text.drop 510
  len0 : b.pg0.text.length = a.pg0.text.length
  len1 : b.pg1.text.length = a.pg1.text.length
  dirty0 : b.pg0.y0 = a.pg0.y0 ∧ b.pg0.y1 = a.pg0.y1 ∧ b.pg0.roll = a.pg0.roll
  dirty1 : b.pg1.y0 = a.pg1.y0 ∧ b.pg1.y1 = a.pg1.y1 ∧ b.pg1.roll = a.pg1.roll

theorem fillList_zero_eq {l l' : List Cell} (n : Nat) (c : Cell) (h : l'.drop n = l.drop n) :
    fillList l' 0 n c = fillList l 0 n c := by
  unfold fillList
  simp [h]

theorem blank_forgets {p q : Page} (h : q.text.drop 510 = p.text.drop 510) (ts : Cell) (roll : Int) :
    q.blank ts roll = p.blank ts roll := by
  unfold Page.blank; rw [fillList_zero_eq 510 _ h]

/-- `erase_memory` forgets the 510 cells it overwrites -/
theorem eraseMemory_forgets {a b : Channel} (b' : Bool) (hl : (a.pg b').text.length = 1056)
    (hl' : (b.pg b').text.length = 1056) (ht : (b.pg b').text.drop 510 = (a.pg b').text.drop 510) (hts : b.ts = a.ts) :
    (eraseMemory b b').pg b' = (eraseMemory a b').pg b' := by
  rw [eraseMemory_eq b' hl, eraseMemory_eq b' hl', pg_setPg_same, pg_setPg_same, hts, blank_forgets ht]

/-- **the hidden working copy rule.**  Two channels that differ only in the caption cells of their two memories
    (whatever was written there) are EQUAL after Erase Displayed Memory in a mode other than pop-on. -/
theorem eraseDisplayed_forgets {a b : Channel} (ha : ChInv a) (hb : ChInv b) (s : SameButCells a b)
    (hm : a.mode ≠ .popOn) : eraseDisplayed b = eraseDisplayed a := by
  rw [eraseDisplayed_eq ha, eraseDisplayed_eq hb, if_neg hm, if_neg (by rw [s.mode]; exact hm), ts_of_idx s.idx, s.hidden]
  have hp : ∀ x roll, (b.pg x).blank a.ts roll = (a.pg x).blank a.ts roll := fun x roll => by
    cases x
    · exact blank_forgets s.tail0 ..
    · exact blank_forgets s.tail1 ..
  rw [hp, hp]
  generalize (a.pg a.hidden).blank a.ts 15 = P
  generalize (a.pg (!a.hidden)).blank a.ts (-15) = Q
  obtain ⟨i1, m1, c1, d1, r1, w1, f1, n1, a1, lp1, lo1, hd1, p01, p11, nv1, er1⟩ := a
  obtain ⟨i2, m2, c2, d2, r2, w2, f2, n2, a2, lp2, lo2, hd2, p02, p12, nv2, er2⟩ := b
  have := s.idx; have := s.mode; have := s.col; have := s.col1; have := s.row; have := s.row1; have := s.roll
  have := s.nulCt; have := s.attr; have := s.linePg; have := s.lineOff; have := s.nev; have := s.err; have := s.hidden
  cases hd1 <;> simp_all [Channel.setPg, Channel.event]

open Eia608

/-! ## simulation of the reference model `Eia608`

Paint-on, roll-up and text mode write into libzvbi's working memory and copy the current row to the display at
word breaks.  `EditSim ch v` relates a channel to a reference service in such a mode, cell by cell and *up to
solid spaces* (a cell the reference memory leaves empty shows no glyph in libzvbi - exactly the comparison the
oracle of checks/C08.py uses for its `note lenient` scripts).  Characters 0x20..0x7F, Backspace, Delete to End
of Row, Tab Offset over empty cells and Erase Displayed Memory preserve it; after a space, DER and EDM the
displayed memory shows the reference memory (`Visible`). -/
/-- libzvbi cell vs reference cell, solid spaces left open: a stored reference cell must be matched exactly,
    an empty one must show no glyph -/
def cellSim (c : Option Cell) (x : Option SCell) : Prop :=
  match x with
  | some x => ∃ c', c = some c' ∧ cellMatches c' x
  | none => ∃ c', c = some c' ∧ c'.unicode = 0x20

theorem matched_not_transparent {c : Cell} {x : SCell} (h : cellMatches c x) : c.opacity ≠ opTransparentSpace := by
  obtain ⟨_, _, _, _, _, _, ho⟩ := h
  rw [ho]; unfold Eia608.opaqueOf; split <;> decide

/-- a solid space can only appear where the reference memory is empty -/
theorem cellSim_solid {c0 c : Cell} {x : Option SCell} (h : cellSim (some c0) x) (o0 : c0.opacity = opTransparentSpace)
    (hu : c.unicode = 0x20) : cellSim (some c) x := by
  cases x with
  | none => exact ⟨c, rfl, hu⟩
  | some x =>
    obtain ⟨c', e, m⟩ := h
    cases e
    exact absurd o0 (matched_not_transparent m)

/-- libzvbi channel and reference service in a mode that writes to the display: same cursor and pen, the working memory
    shows the reference's displayed memory up to solid spaces (columns 1..32), and every row but the cursor's is on display -/
structure EditSim (ch : Channel) (v : Service) : Prop where
  inv : ChInv ch
  mode : ch.mode ≠ .popOn ∧ ch.mode ≠ .none
  vmode : v.mode ≠ none ∧ v.mode ≠ some .popOn
  row : v.row = ch.row
  col : v.col = ch.col
  pen : penMatches ch.attr v.pen
  cells : ∀ r j, r < 15 → 1 ≤ j → j ≤ 32 → cellSim (ch.hcell r j) (v.disp r j)
  sync : ∀ r j, r < 15 → r ≠ ch.row → j < 34 → ch.dcell r j = ch.hcell r j

/-- the displayed memory shows the reference memory (up to solid spaces) -/
def Visible (ch : Channel) (v : Service) : Prop :=
  ∀ r j, r < 15 → 1 ≤ j → j ≤ 32 → cellSim (ch.dcell r j) (v.disp r j)

theorem EditSim.visible {ch : Channel} {v : Service} (S : EditSim ch v)
    (hs : ∀ j, j < 34 → ch.dcell ch.row j = ch.hcell ch.row j) : Visible ch v := by
  intro r j hr h1 h2
  by_cases e : r = ch.row
  · subst e; rw [hs j (by omega)]; exact S.cells _ j hr h1 h2
  · rw [S.sync r j hr e (by omega)]; exact S.cells r j hr h1 h2

theorem EditSim.row_edit {ch ch' : Channel} {v v' : Service} (S : EditSim ch v)
    (hinv : ChInv ch') (hmode : ch'.mode = ch.mode) (hrow : ch'.row = ch.row) (vrow : v'.row = v.row)
    (vmode : v'.mode = v.mode) (hcol : v'.col = ch'.col) (hpen : penMatches ch'.attr v'.pen)
    (hcur : ∀ j, 1 ≤ j → j ≤ 32 → cellSim (ch'.hcell ch.row j) (v'.disp ch.row j))
    (hoth : ∀ r j, r ≠ ch.row → j < 34 → ch'.hcell r j = ch.hcell r j ∧ ch'.dcell r j = ch.dcell r j)
    (voth : ∀ r j, r ≠ ch.row → v'.disp r j = v.disp r j) : EditSim ch' v' := by
  refine ⟨hinv, by rw [hmode]; exact S.mode, by rw [vmode]; exact S.vmode, by rw [vrow, hrow]; exact S.row, hcol, hpen, ?_, ?_⟩
  · intro r j hr h1 h2
    by_cases e : r = ch.row
    · subst e; exact hcur j h1 h2
    · rw [(hoth r j e (by omega)).1, voth r j e]; exact S.cells r j hr h1 h2
  · intro r j hr15 hr hj
    rw [hrow] at hr
    rw [(hoth r j hr hj).1, (hoth r j hr hj).2]; exact S.sync r j hr15 hr hj

/-- both models overwrite the cells `P` of the cursor row - libzvbi with `c`, the reference with `x` - and nothing else -/
theorem EditSim.set_cells {ch ch' : Channel} {v v' : Service} (S : EditSim ch v) (e : RowEdit ch ch') (P : Nat → Prop)
    [DecidablePred P] {c : Cell} {x : Option SCell} (hx : cellSim (some c) x)
    (hm : ∀ r j, j < 34 → ch'.hcell r j = if r = ch.row ∧ P j then some c else ch.hcell r j)
    (hv : ∀ r j, v'.disp r j = if r = v.row ∧ P j then x else v.disp r j)
    (vrow : v'.row = v.row) (vmode : v'.mode = v.mode) (hcol : v'.col = ch'.col) (hpen : penMatches ch'.attr v'.pen) :
    EditSim ch' v' := by
  refine S.row_edit (e.inv S.inv) e.mode e.row vrow vmode hcol hpen ?_
    (fun r j hr hj => ⟨by rw [hm r j hj, if_neg (fun hh => hr hh.1)], e.dcell r j⟩)
    (fun r j hr => by rw [hv, S.row, if_neg (fun hh => hr hh.1)])
  intro j h1 h2
  rw [hm _ j (by omega), hv, S.row]
  by_cases hj : P j
  · rw [if_pos ⟨rfl, hj⟩, if_pos ⟨rfl, hj⟩]; exact hx
  · rw [if_neg (fun hh => hj hh.2), if_neg (fun hh => hj hh.2)]
    exact S.cells _ j (by have := S.inv.row_le; omega) h1 h2

/-- both models store one cell at the cursor - in column 32 when the cursor is parked behind a full row - and advance unless parked -/
theorem EditSim.store {ch ch' : Channel} {v : Service} (S : EditSim ch v) (e : RowEdit ch ch') {c : Cell} {x : Option SCell}
    (hx : cellSim (some c) x)
    (hm : ∀ r j, j < 34 → ch'.hcell r j = if r = ch.row ∧ j = (if ch.col < 33 then ch.col else 32) then some c else ch.hcell r j)
    (ha : ch'.attr = ch.attr) (hc : ch'.col = if ch.col < 33 then ch.col + 1 else ch.col) :
    EditSim ch' { v with disp := v.disp.set v.row (if v.col ≤ 32 then v.col else 32) x,
                         col := if v.col ≤ 32 then v.col + 1 else v.col } := by
  have hcol := S.inv.col_le
  have hvp : (if v.col ≤ 32 then v.col else 32) = (if ch.col < 33 then ch.col else 32) := by rw [S.col]; split <;> split <;> omega
  refine S.set_cells e (· = (if ch.col < 33 then ch.col else 32)) hx hm
    (fun r j => by show Mem.set v.disp v.row _ _ r j = _; unfold Mem.set; rw [hvp]) rfl rfl ?_ (by rw [ha]; exact S.pen)
  show (if v.col ≤ 32 then v.col + 1 else v.col) = ch'.col
  rw [hc, S.col]; split <;> split <;> omega

/-- solid spaces (and a copy of the current row to the display) do not disturb the relation -/
theorem EditSim.solid {a b : Channel} {v : Service} (S : EditSim a v) (s : SolidOnly a b) : EditSim b v := by
  refine S.row_edit (s.upd.inv S.inv) s.upd.mode s.upd.row rfl rfl (by rw [s.upd.col]; exact S.col)
    (by rw [s.upd.attr]; exact S.pen) ?_ ?_ (fun _ _ _ => rfl)
  · intro j h1 h2
    have hr : a.row < 15 := by have := S.inv.row_le; omega
    have c := S.cells a.row j hr h1 h2
    rcases s.cells a.row j (by omega) with e | ⟨_, c0, c', e0, o0, e, u⟩
    · rw [e]; exact c
    · rw [e]; rw [e0] at c; exact cellSim_solid c o0 u
  · intro r j hr hj
    refine ⟨?_, s.disp r j⟩
    rcases s.cells r j hj with e | ⟨hr', _⟩
    · exact e
    · exact absurd hr' hr

/-- `update` + `render`: relation kept, current row now on display -/
theorem EditSim.publish {w : Channel} {v : Service} (S : EditSim w v) (b : Bool) (row : Int) :
    EditSim (renderCh (update w) b row) v ∧ Visible (renderCh (update w) b row) v := by
  obtain ⟨u, _, hc, dc⟩ := publish_spec S.inv b row
  have S2 : EditSim (renderCh (update w) b row) v :=
    S.row_edit (u.inv S.inv) u.mode u.row rfl rfl (by rw [u.col]; exact S.col) (by rw [u.attr]; exact S.pen)
      (fun j h1 h2 => by rw [hc]; exact S.cells _ j (by have := S.inv.row_le; omega) h1 h2)
      (fun r j hr hj => ⟨hc r j, by rw [dc r j hj, if_neg hr]⟩) fun _ _ _ => rfl
  exact ⟨S2, S2.visible fun j hj => by rw [u.row, dc _ j hj, if_pos rfl, hc]⟩

/-- `word_break(cc, ch, 1)`: relation kept, current row now on display -/
theorem EditSim.wordBreak {ch : Channel} {v : Service} (S : EditSim ch v) :
    EditSim (wordBreak ch true) v ∧ Visible (wordBreak ch true) v := by
  have s := wordBreak_false_solid S.inv
  rw [wordBreak_phases, if_neg (by rw [s.upd.mode]; simpa using S.mode.1)]
  exact (S.solid s).publish true _

/-! ## the reference side in closed form (a service whose characters go to the displayed memory) -/

theorem spec_setTarget {v : Service} (h : v.mode ≠ some .popOn) (m : Mem) : v.setTarget m = { v with disp := m } := by
  unfold Service.setTarget; rw [if_neg h]

theorem spec_put {v : Service} (h1 : v.mode ≠ none) (h2 : v.mode ≠ some .popOn) (u : Nat) :
    v.putChar u = { v with disp := v.disp.set v.row (if v.col ≤ 32 then v.col else 32) (some { ch := u, pen := v.pen }),
                           col := if v.col ≤ 32 then v.col + 1 else v.col } := by
  unfold Service.putChar
  rw [if_neg h1]
  simp only [spec_target_dir h2, spec_setTarget h2]

theorem spec_bs {v : Service} (h1 : v.mode ≠ none) (h2 : v.mode ≠ some .popOn) :
    v.exec .bs = if v.col ≤ 1 then v else { v with disp := v.disp.set v.row (v.col - 1) none, col := v.col - 1 } := by
  unfold Service.exec
  simp only [h1, false_or]
  split
  · rfl
  · rw [spec_target_dir h2, spec_setTarget h2]

theorem spec_der {v : Service} (h1 : v.mode ≠ none) (h2 : v.mode ≠ some .popOn) :
    v.exec .der = { v with disp := fun r c => if r = v.row ∧ v.col ≤ c then none else v.disp r c } := by
  unfold Service.exec
  simp only [h1, if_false]
  rw [spec_target_dir h2, spec_setTarget h2]

theorem spec_tab {v : Service} (h1 : v.mode ≠ none) (n : Nat) :
    v.exec (.tab n) = { v with col := min (v.col + n) 33 } := by
  unfold Service.exec
  simp only [h1, if_false]

/-! ## the operations -/

/-- a correction-script step inside one row -/
inductive EOp
  | char (ci : Nat)      -- a character code 0x20..0x7F (a space makes the row visible)
  | bs | der | edm
  | tab (n : Nat)
deriving Repr, DecidableEq

/-- libzvbi: the channel-level function `caption_command` / `vbi_decode_caption` runs (`chan` = channel number as
    computed there; it only selects which of the two transparent spaces is written) -/
def EOp.run (chan : Nat) (ch : Channel) : EOp → Channel
  | .char ci => putChar ch { ch.attr with unicode := captionUnicode ci }
  | .bs => backspace ch chan
  | .der => deleteToEnd ch chan
  | .edm => eraseDisplayed ch
  | .tab n => tabFill ch n (transpSpace (decide (4 ≤ chan)))

/-- the reference service runs the step: `putChar` resp. `exec` of the command -/
def EOp.spec (v : Service) : EOp → Service
  | .char ci => v.putChar (basicChar ci)
  | .bs => v.exec .bs
  | .der => v.exec .der
  | .edm => v.exec .edm
  | .tab n => v.exec (.tab n)

/-- well-formedness, judged on the reference state: character codes are printable; a Tab Offset only skips
    cells that are empty (libzvbi's tab erases what it skips, the standard's does not) -/
def EOp.ok (v : Service) : EOp → Prop
  | .char ci => 0x20 ≤ ci ∧ ci < 0x80
  | .tab n => ∀ j, v.col ≤ j → j < v.col + n → v.disp v.row j = none
  | _ => True

/-- after which steps the standard (and libzvbi) make the row visible -/
def EOp.shows : EOp → Bool
  | .char ci => (captionUnicode ci &&& 0x7F) == 0x20
  | .der | .edm => true
  | _ => false

theorem ts_unicode (b : Bool) : (transpSpace b).unicode = 0x20 := rfl

theorem sim_char {ch : Channel} {v : Service} (S : EditSim ch v) (chan ci : Nat) (hok : EOp.ok v (.char ci)) :
    EditSim (EOp.run chan ch (.char ci)) (EOp.spec v (.char ci)) ∧
    (EOp.shows (.char ci) = true → Visible (EOp.run chan ch (.char ci)) (EOp.spec v (.char ci))) := by
  have h := S.inv
  have hsh : EOp.shows (.char ci) = ({ ch.attr with unicode := captionUnicode ci } : Cell).isSpace := rfl
  rw [hsh]
  show EditSim (putChar ch _) (v.putChar _) ∧ (_ → Visible (putChar ch _) (v.putChar _))
  rw [spec_put S.vmode.1 S.vmode.2]
  generalize hc : ({ ch.attr with unicode := captionUnicode ci } : Cell) = c
  have hcu : c.unicode = basicChar ci := by rw [← hc]; exact basic_std ci hok.2 hok.1
  have hcp : penMatches c v.pen := by rw [← hc]; exact S.pen
  obtain ⟨hcells, a1, c1, _⟩ := putCell_spec h c
  have e1 := putCell_edit h c
  have S1 := S.store e1 (x := some { ch := basicChar ci, pen := v.pen }) ⟨c, rfl, hcu, hcp⟩ hcells a1 c1
  rw [putChar_eq]
  cases hsp : c.isSpace
  · simp only [Bool.false_eq_true, if_false]
    exact ⟨S1, fun hf => absurd hf (by simp)⟩
  · simp only [if_true]
    exact ⟨S1.wordBreak.1, fun _ => S1.wordBreak.2⟩

theorem sim_bs {ch : Channel} {v : Service} (S : EditSim ch v) (chan : Nat) :
    EditSim (EOp.run chan ch .bs) (EOp.spec v .bs) := by
  have h := S.inv
  show EditSim (backspace ch chan) (v.exec .bs)
  rw [spec_bs S.vmode.1 S.vmode.2, S.col]
  by_cases hc : ch.col ≤ 1
  · rw [if_pos hc]
    rw [backspace_noop chan hc]; exact S
  · rw [if_neg hc]
    obtain ⟨b1, _, b6, b8⟩ := backspace_cells h chan S.mode.2 (by omega)
    have e := backspace_edit h chan
    exact S.set_cells e (· = ch.col - 1) (x := none) ⟨_, rfl, ts_unicode _⟩ b8 (fun r j => rfl) rfl rfl (by rw [b1]) (by rw [b6]; exact S.pen)

theorem sim_tab {ch : Channel} {v : Service} (S : EditSim ch v) (chan n : Nat) (hok : EOp.ok v (.tab n)) :
    EditSim (EOp.run chan ch (.tab n)) (EOp.spec v (.tab n)) := by
  have h := S.inv
  have hcol := h.col_le
  show EditSim (tabFill ch n _) (v.exec (.tab n))
  rw [spec_tab S.vmode.1]
  obtain ⟨k1, t1, _, t6⟩ := tabFill_row h n (transpSpace (decide (4 ≤ chan)))
  refine S.set_cells (tabFill_edit h n _) (fun j => ch.col ≤ j ∧ j < ch.col + min n (33 - ch.col)) (x := none)
    ⟨_, rfl, ts_unicode _⟩ k1 (fun r j => ?_) rfl rfl ?_ (by rw [t6]; exact S.pen)
  · show v.disp r j = _
    split
    · rename_i hj
      rw [hj.1]
      exact hok j (by rw [S.col]; exact hj.2.1) (by rw [S.col]; have := hj.2.2; omega)
    · rfl
  · show min (v.col + n) 33 = _
    rw [t1, S.col]; omega

theorem sim_der {ch : Channel} {v : Service} (S : EditSim ch v) (chan : Nat) :
    EditSim (EOp.run chan ch .der) (EOp.spec v .der) ∧ Visible (EOp.run chan ch .der) (EOp.spec v .der) := by
  have h := S.inv
  show EditSim (deleteToEnd ch chan) (v.exec .der) ∧ Visible (deleteToEnd ch chan) (v.exec .der)
  rw [spec_der S.vmode.1 S.vmode.2]
  have hc := h.col_le
  have ux := fill_upd h (a := ch.col) (n := 34 - ch.col) (by omega) (transpSpace (decide (4 ≤ chan))) "der"
  have Sx : EditSim (fill ch ch.col (34 - ch.col) (transpSpace (decide (4 ≤ chan))) "der")
      { v with disp := fun r c => if r = v.row ∧ v.col ≤ c then none else v.disp r c } := by
    refine S.set_cells (rowEdit_fill h (by omega) _ _) (ch.col ≤ ·) (c := transpSpace (decide (4 ≤ chan))) (x := none)
      ⟨_, rfl, ts_unicode _⟩ (fun r j hj => ?_)
      (fun r j => by rw [← S.col]) rfl rfl (by rw [ux.col]; exact S.col) (by rw [ux.attr]; exact S.pen)
    rw [(fill_cells h (a := ch.col) (n := 34 - ch.col) (by omega) _ _).1 r j hj]
    by_cases hh : r = ch.row ∧ ch.col ≤ j
    · rw [if_pos hh, if_pos ⟨hh.1, hh.2, by omega⟩]
    · rw [if_neg hh, if_neg (fun h' => hh ⟨h'.1, h'.2.1⟩)]
  have s := wordBreak_false_solid Sx.inv
  have e : deleteToEnd ch chan = renderCh (update (Zvbi.Cc.wordBreak (fill ch ch.col (34 - ch.col) (transpSpace (decide (4 ≤ chan))) "der") false))
      (!(Zvbi.Cc.wordBreak (fill ch ch.col (34 - ch.col) (transpSpace (decide (4 ≤ chan))) "der") false).hidden)
      (Zvbi.Cc.wordBreak (fill ch ch.col (34 - ch.col) (transpSpace (decide (4 ≤ chan))) "der") false).row := by
    unfold deleteToEnd
    rw [if_neg (by simpa using S.mode.2)]
    simp only [columns_eq]
    exact if_pos (by rw [s.upd.mode, ux.mode]; simpa using S.mode.1)
  rw [e]
  exact (Sx.solid s).publish _ _

/-- after Erase Displayed Memory outside pop-on mode all caption cells of both memories are blank -/
theorem eraseDisplayed_cells {ch : Channel} (h : ChInv ch) (hm : ch.mode ≠ .popOn) (r j : Nat) (hr : r < 15) (hj : j < 34) :
    (eraseDisplayed ch).hcell r j = some ch.ts ∧ (eraseDisplayed ch).dcell r j = some ch.ts := by
  obtain ⟨e1, _, _, _, e5⟩ := eraseDisplayed_spec h
  rw [← nonDisplayed_get _ hr hj, ← displayed_get _ hr hj, e1, e5 hm]
  have : r * 34 + j < 15 * 34 := by omega
  rw [rows_eq, columns_eq, List.getElem?_replicate, if_pos this]
  exact ⟨rfl, rfl⟩

/-- a channel just erased by EDM (mode not pop-on) is in relation with every reference service that has an empty
    displayed memory, the same cursor and a matching pen: the start of a correction script -/
theorem editSim_after_edm {x : Channel} (h : ChInv x) (hm : x.mode ≠ .popOn ∧ x.mode ≠ .none) {v : Service}
    (vmode : v.mode ≠ none ∧ v.mode ≠ some .popOn) (hrow : v.row = x.row) (hcol : v.col = x.col)
    (hpen : penMatches x.attr v.pen) (hempty : ∀ r j, v.disp r j = none) : EditSim (eraseDisplayed x) v := by
  have u : Upd x (eraseDisplayed x) := eraseDisplayed_upd h
  have hcell := eraseDisplayed_cells h hm.1
  refine ⟨u.inv h, by rw [u.mode]; exact hm, vmode, by rw [u.row]; exact hrow, by rw [u.col]; exact hcol,
    by rw [u.attr]; exact hpen, ?_, ?_⟩
  · intro r j hr h1 h2
    rw [(hcell r j hr (by omega)).1, hempty]
    exact ⟨_, rfl, rfl⟩
  · intro r j hr _ hj
    rw [(hcell r j hr hj).1, (hcell r j hr hj).2]

theorem sim_edm {ch : Channel} {v : Service} (S : EditSim ch v) (chan : Nat) :
    EditSim (EOp.run chan ch .edm) (EOp.spec v .edm) ∧ Visible (EOp.run chan ch .edm) (EOp.spec v .edm) :=
  ⟨editSim_after_edm S.inv S.mode S.vmode S.row S.col S.pen fun _ _ => rfl,
   fun r j hr _ h2 => by
    show cellSim ((eraseDisplayed ch).dcell r j) none
    rw [(eraseDisplayed_cells S.inv S.mode.1 r j hr (by omega)).2]; exact ⟨_, rfl, rfl⟩⟩

/-! ## whole correction scripts -/

theorem sim_op {ch : Channel} {v : Service} (S : EditSim ch v) (chan : Nat) (op : EOp) (hok : op.ok v) :
    EditSim (op.run chan ch) (op.spec v) ∧ (op.shows = true → Visible (op.run chan ch) (op.spec v)) := by
  cases op with
  | char ci => exact sim_char S chan ci hok
  | bs => exact ⟨sim_bs S chan, fun hf => absurd hf (by decide)⟩
  | der => exact ⟨(sim_der S chan).1, fun _ => (sim_der S chan).2⟩
  | edm => exact ⟨(sim_edm S chan).1, fun _ => (sim_edm S chan).2⟩
  | tab n => exact ⟨sim_tab S chan n hok, fun hf => absurd (show false = true from hf) (by decide)⟩

def runOps (chan : Nat) (ch : Channel) (ops : List EOp) : Channel := ops.foldl (EOp.run chan) ch
def specOps (v : Service) (ops : List EOp) : Service := ops.foldl EOp.spec v

/-- every step well-formed in the reference state it meets -/
def opsOk (v : Service) : List EOp → Prop
  | [] => True
  | op :: rest => op.ok v ∧ opsOk (op.spec v) rest

/-- any correction script: the relation holds after every prefix, and after every prefix that ends with a
    space, DER or EDM the displayed memory shows the reference memory -/
theorem edits_refine (chan : Nat) : ∀ (ops : List EOp) {ch : Channel} {v : Service}, EditSim ch v → opsOk v ops →
    EditSim (runOps chan ch ops) (specOps v ops) ∧
    ∀ k, (hk0 : 0 < k) → (hk : k ≤ ops.length) → (ops[k - 1]'(by omega)).shows = true →
      Visible (runOps chan ch (ops.take k)) (specOps v (ops.take k)) := by
  intro ops ch v S hok
  obtain ⟨⟨_, S2⟩, V⟩ := foldl_sim (EOp.run chan) EOp.spec EOp.shows (fun (_ : Unit) => EditSim) Visible (fun _ => opsOk)
    (fun _ _ _ op _ S h => ⟨(), (sim_op S chan op h.1).1, h.2, (sim_op S chan op h.1).2⟩) ops () ch v S hok
  exact ⟨S2, V⟩

/-! ## Tab Offset -/

theorem case7_tab (ch : Channel) (chan c2 : Nat) (hm : ch.mode ≠ .none) (h : 0x21 ≤ c2 ∧ c2 ≤ 0x23) :
    case7 ch chan c2 = tabFill ch (c2 &&& 3) (transpSpace (decide (4 ≤ chan))) := by
  unfold case7
  have : (ch.mode == Mode.none) = false := by cases hmm : ch.mode <;> first | rfl | exact absurd hmm hm
  rw [this]
  simp only [Bool.false_eq_true, if_false, h, and_self, if_true]

/-! ## the EDM rule on decoder states -/

/-- replacing channel `i` by one that differs only in its caption cells, then EDM on it (mode not pop-on):
    the same decoder state as EDM on the original -/
theorem modCh_edm_forgets {s : St} {i : Nat} {a b : Channel} (ha : s.chans[i]? = some a) (hia : ChInv a) (hib : ChInv b)
    (hab : SameButCells a b) (hm : a.mode ≠ .popOn) :
    ({ s with chans := s.chans.set i b } : St).modCh i eraseDisplayed = s.modCh i eraseDisplayed := by
  have hlt : i < s.chans.length := (List.getElem?_eq_some_iff.1 ha).1
  unfold St.modCh
  simp only [ha, List.getElem?_set_self hlt, List.set_set]
  rw [eraseDisplayed_forgets hia hib hab hm]

/-- writing one cell of the current row gives a channel that differs only in caption cells -/
theorem sameButCells_wr {ch : Channel} (h : ChInv ch) {i : Nat} (hi : i < 34) (c : Cell) (s : String) :
    SameButCells ch (wr ch i c s) := by
  have hrow := h.row_le
  have hoff := h.line_off
  have h510 : ch.lineOff + i < 510 := by omega
  rw [wr_eq h (Nat.le_of_lt hi)]
  cases hp : ch.linePg <;>
    constructor <;> simp [Channel.setPg, Channel.pg, hp, List.drop_set_of_lt, h510]

set_option maxRecDepth 100000 in
/-- the start state used in the examples: T1 of the fresh decoder after EDM, against the fresh reference text service -/
theorem start_sim : EditSim (eraseDisplayed (init.chans[4]'(by rw [init_inv.len]; decide))) (Eia608.Service.init true) :=
  editSim_after_edm (init_inv.chs _ (List.getElem_mem _)) (by decide) (by decide) (by decide) (by decide) (by decide)
    (fun _ _ => rfl)

end Zvbi.Cc
