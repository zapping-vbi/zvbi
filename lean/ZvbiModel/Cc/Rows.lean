import ZvbiModel.Cc.CharRuns
/-!
# One-segment rows in both models: `RowIs` / `SegRow` / `RowSim`, the word break and one typed glyph on such a row

`foldl_sim` / `foldl_sim_end` (two machines running one script, every script induction reads them); `rowCell` and `RowIs` with
the word break on such a row (`RowIs.wordBreak`), `Frame`, one typed character (`putChar_row`); the reference side: `SegRow`,
`Eia608.render` of such a row (`render_segRow`, `render_emptyRow`); `RowSim` and one glyph typed in both models
(`putChar_sim_glyph`); the special-character tables (`special_glyph`, `special_c2`).
-/
namespace Zvbi.Cc
open Zvbi.Gen.Cc

/-! ## two machines running one script -/
/-- Two machines run the same script in step.  A relation `R` (with an index `i` that may change from op to op) is kept
    by every op that is `ok`, and an op marked `vis` leaves the pair `Good`: then `R` holds at the end, and `Good` after
    every prefix that ends with a marked op. -/
theorem foldl_sim {ι σ τ ω : Type} (f : σ → ω → σ) (g : τ → ω → τ) (vis : ω → Bool) (R : ι → σ → τ → Prop)
    (Good : σ → τ → Prop) (ok : ι → τ → List ω → Prop)
    (step : ∀ i s t op rest, R i s t → ok i t (op :: rest) →
      ∃ i', R i' (f s op) (g t op) ∧ ok i' (g t op) rest ∧ (vis op = true → Good (f s op) (g t op))) :
    ∀ (ops : List ω) i s t, R i s t → ok i t ops →
      (∃ i', R i' (ops.foldl f s) (ops.foldl g t)) ∧
      ∀ k, (hk0 : 0 < k) → (hk : k ≤ ops.length) → vis (ops[k - 1]'(by omega)) = true →
        Good ((ops.take k).foldl f s) ((ops.take k).foldl g t) := by
  intro ops
  induction ops with
  | nil => intro i s t r _; exact ⟨⟨i, r⟩, fun k hk0 hk => absurd hk (by simp; omega)⟩
  | cons op rest ih =>
    intro i s t r hok
    obtain ⟨i1, r1, ok1, v1⟩ := step i s t op rest r hok
    obtain ⟨r2, v2⟩ := ih i1 _ _ r1 ok1
    refine ⟨r2, fun k hk0 hk hs => ?_⟩
    cases k with
    | zero => omega
    | succ k' =>
      cases k' with
      | zero => exact v1 hs
      | succ k'' => exact v2 (k'' + 1) (by omega) (by simpa using hk) hs

/-- `foldl_sim` for a script without visibility points: the relation holds at the end -/
theorem foldl_sim_end {ι σ τ ω : Type} (f : σ → ω → σ) (g : τ → ω → τ) (R : ι → σ → τ → Prop) (ok : ι → τ → List ω → Prop)
    (step : ∀ i s t op rest, R i s t → ok i t (op :: rest) → ∃ i', R i' (f s op) (g t op) ∧ ok i' (g t op) rest)
    (ops : List ω) (i : ι) (s : σ) (t : τ) (r : R i s t) (h : ok i t ops) : ∃ i', R i' (ops.foldl f s) (ops.foldl g t) :=
  (foldl_sim f g (fun _ => false) R (fun _ _ => True) ok
    (fun i s t op rest r h => (step i s t op rest r h).imp fun _ h => ⟨h.1, h.2, fun _ => trivial⟩) ops i s t r h).1

/-- blank cell of a caption channel -/
abbrev tsC : Cell := transpSpace false

/-! ## a row with one segment of typed cells, and the word break on it -/
/-- a row that holds the cells `cs` from column `c0`, optionally the leading / trailing solid space, blank elsewhere -/
def rowCell (lead trail : Bool) (c0 : Nat) (cs : List Cell) (j : Nat) : Cell :=
  if c0 ≤ j ∧ j < c0 + cs.length then cs.getD (j - c0) default
  else if lead = true ∧ j + 1 = c0 then { cs.getD 0 default with unicode := 0x20 }
  else if trail = true ∧ j = c0 + cs.length then { cs.getD (cs.length - 1) default with unicode := 0x20 }
  else tsC

theorem getD_snoc_lt (cs : List Cell) (c d : Cell) {i : Nat} (hi : i < cs.length) : (cs ++ [c]).getD i d = cs.getD i d := by
  simp [List.getD_eq_getElem?_getD, List.getElem?_append_left hi]

theorem getD_snoc_eq (cs : List Cell) (c d : Cell) : (cs ++ [c]).getD cs.length d = c := by
  simp [List.getD_eq_getElem?_getD]

theorem rowCell_snoc (lead : Bool) (c0 : Nat) (cs : List Cell) (c : Cell) (j : Nat) (hl : lead = true → cs ≠ []) :
    rowCell lead false c0 (cs ++ [c]) j = if j = c0 + cs.length then c else rowCell lead false c0 cs j := by
  unfold rowCell
  rw [List.length_append, List.length_singleton]
  by_cases hj : j = c0 + cs.length
  · subst hj
    rw [if_pos (by omega), if_pos rfl, Nat.add_sub_cancel_left, getD_snoc_eq]
  · rw [if_neg hj]
    by_cases hin : c0 ≤ j ∧ j < c0 + cs.length
    · rw [if_pos (by omega), if_pos hin, getD_snoc_lt _ _ _ (by omega)]
    · rw [if_neg (by omega), if_neg hin]
      by_cases hL : lead = true ∧ j + 1 = c0
      · rw [if_pos hL, if_pos hL, getD_snoc_lt _ _ _ (List.length_pos_iff.mpr (hl hL.1))]
      · rw [if_neg hL, if_neg hL]; rfl

theorem rowCell_lead (trail : Bool) (c0 : Nat) (cs : List Cell) (j : Nat) :
    rowCell true trail c0 cs j = if j + 1 = c0 then { cs.getD 0 default with unicode := 0x20 } else rowCell false trail c0 cs j := by
  unfold rowCell
  by_cases hin : c0 ≤ j ∧ j < c0 + cs.length
  · rw [if_pos hin, if_pos hin, if_neg (by omega)]
  · rw [if_neg hin, if_neg hin]
    by_cases hj : j + 1 = c0
    · rw [if_pos ⟨rfl, hj⟩, if_pos hj]
    · simp only [hj, and_false, if_false, Bool.false_eq_true]

theorem rowCell_trail (lead : Bool) (c0 : Nat) (cs : List Cell) (j : Nat) :
    rowCell lead true c0 cs j =
      if j = c0 + cs.length then { cs.getD (cs.length - 1) default with unicode := 0x20 } else rowCell lead false c0 cs j := by
  unfold rowCell
  by_cases hin : c0 ≤ j ∧ j < c0 + cs.length
  · rw [if_pos hin, if_pos hin, if_neg (by omega)]
  · rw [if_neg hin, if_neg hin]
    by_cases hj : j = c0 + cs.length
    · rw [if_neg (by omega), if_pos ⟨rfl, hj⟩, if_pos hj]
    · simp only [hj, and_false, if_false, Bool.false_eq_true]

/-- the current row of the non-displayed memory holds exactly one segment, typed from column `c0` -/
structure RowIs (ch : Channel) (lead trail : Bool) (c0 : Nat) (cs : List Cell) : Prop where
  col1 : ch.col1 = c0
  col : ch.col = c0 + cs.length
  c0pos : 1 ≤ c0
  fits : c0 + cs.length ≤ 33
  cells : ∀ j, j < 34 → ch.hcell ch.row j = some (rowCell lead trail c0 cs j)
  opq : ∀ c ∈ cs, c.opacity ≠ opTransparentSpace
  leadok : lead = true → (cs.getD 0 default).isSpace = false
  leadne : lead = true → cs ≠ []

theorem RowIs.empty {ch : Channel} {c : Nat} (h1 : ch.col1 = c) (h2 : ch.col = c) (hp : 1 ≤ c) (hf : c ≤ 33)
    (hb : ∀ j, j < 34 → ch.hcell ch.row j = some tsC) : RowIs ch false false c [] := by
  refine ⟨h1, h2, hp, hf, ?_, by simp, by simp, by simp⟩
  intro j hj
  rw [hb j hj]
  simp [rowCell]
  intro a b; omega

theorem row_reads {x : Channel} (hx : ChInv x) {lead trail : Bool} {c0 : Nat} {cs : List Cell} (hne : cs ≠ [])
    (R : RowIs x lead trail c0 cs) :
    rd x x.col1 = some (cs.getD 0 default) ∧
    rd x (x.col1 - 1) = some (if lead = true then { cs.getD 0 default with unicode := 0x20 } else tsC) ∧
    rd x (x.col - 1) = some (cs.getD (cs.length - 1) default) ∧
    rd x x.col = some (if trail = true then { cs.getD (cs.length - 1) default with unicode := 0x20 } else tsC) := by
  have hn : 0 < cs.length := List.length_pos_iff.mpr hne
  obtain ⟨hcol1, hcol, hc0, hfit, hcells, _⟩ := R
  refine ⟨?_, ?_, ?_, ?_⟩
  · rw [rd_eq_hcell hx, hcol1, hcells c0 (by omega)]
    simp [rowCell, hn]
  · rw [rd_eq_hcell hx, hcol1, hcells (c0 - 1) (by omega)]
    have h1 : ¬ (c0 ≤ c0 - 1 ∧ c0 - 1 < c0 + cs.length) := by omega
    have h2 : c0 - 1 + 1 = c0 := by omega
    have h3 : ¬ (c0 - 1 = c0 + cs.length) := by omega
    unfold rowCell
    rw [if_neg h1]
    by_cases hl : lead = true
    · rw [if_pos ⟨hl, h2⟩, if_pos hl]
    · rw [if_neg (fun hc => hl hc.1), if_neg (fun hc => h3 hc.2), if_neg hl]
  · rw [rd_eq_hcell hx, hcol, hcells _ (by omega)]
    have : c0 ≤ c0 + cs.length - 1 ∧ c0 + cs.length - 1 < c0 + cs.length := by omega
    unfold rowCell
    rw [if_pos this]
    congr 2; omega
  · rw [rd_eq_hcell hx, hcol, hcells _ (by omega)]
    have h1 : ¬ (c0 ≤ c0 + cs.length ∧ c0 + cs.length < c0 + cs.length) := by omega
    have h2 : ¬ (c0 + cs.length + 1 = c0) := by omega
    unfold rowCell
    rw [if_neg h1, if_neg (fun hc => h2 hc.2)]
    by_cases hl : trail = true
    · rw [if_pos ⟨hl, rfl⟩, if_pos hl]
    · rw [if_neg (fun hc => hl hc.1), if_neg hl]

/-- the solid-space phase of `word_break` on a one-segment row: the leading space appears iff the first
    character is not a space, the trailing one iff the last is not (what the phase leaves alone: `wordBreak_edit`) -/
theorem RowIs.wordBreak {ch : Channel} (h : ChInv ch) {lead : Bool} {c0 : Nat} {cs : List Cell}
    (R : RowIs ch lead false c0 cs) (hne : cs ≠ []) :
    RowIs (wordBreak ch false) (!(cs.getD 0 default).isSpace) (!(cs.getD (cs.length - 1) default).isSpace) c0 cs := by
  have hn : 0 < cs.length := List.length_pos_iff.mpr hne
  have hc0 := R.c0pos
  have hfit := R.fits
  obtain ⟨rFirst, rLead, rLast, rTrail⟩ := row_reads h hne R
  have hop : (cs.getD 0 default).opacity ≠ opTransparentSpace :=
    R.opq _ (by rw [List.getD_eq_getElem?_getD, List.getElem?_eq_getElem hn]; exact List.getElem_mem _)
  rw [wordBreak_false_eq h (by rw [R.col, R.col1]; omega) rFirst rLead rLast rTrail, R.col1, R.col]
  -- the solid space before the word is stored iff the word starts with a non-space and the space is not there yet
  have hX := ite_ind (c := (!(cs.getD 0 default).isSpace && (if lead = true then ({ cs.getD 0 default with unicode := 0x20 } : Cell)
      else tsC).opacity == opTransparentSpace) = true)
    (a := wr ch (c0 - 1) { cs.getD 0 default with unicode := 0x20 } "word_break: leading") (b := ch)
    (P := fun x => Upd ch x ∧ ∀ j, j < 34 → x.hcell ch.row j = some (rowCell (!(cs.getD 0 default).isSpace) false c0 cs j))
    (fun hc => ?_) (fun hc => ?_)
  · generalize (if (!(cs.getD 0 default).isSpace && (if lead = true then ({ cs.getD 0 default with unicode := 0x20 } : Cell)
      else tsC).opacity == opTransparentSpace) = true then
      wr ch (c0 - 1) { cs.getD 0 default with unicode := 0x20 } "word_break: leading" else ch) = x at hX ⊢
    obtain ⟨u, hcells⟩ := hX
    have hA := u.inv h
    simp only [Bool.false_eq_true, if_false, show (tsC.opacity == opTransparentSpace) = true by decide, Bool.and_true]
    cases hsp : (cs.getD (cs.length - 1) default).isSpace
    · simp only [Bool.not_false, if_true]
      have hi : c0 + cs.length < 34 := by omega
      have uw := wr_upd hA (Nat.le_of_lt hi) { cs.getD (cs.length - 1) default with unicode := 0x20 } "word_break: trailing"
      refine ⟨by rw [uw.col1, u.col1, R.col1], by rw [uw.col, u.col, R.col], hc0, hfit,
        fun j hj => ?_, R.opq, fun hl => by simpa using hl, fun _ => hne⟩
      rw [uw.row, u.row, hcell_wr hA hi _ _ _ j hj, u.row, hcells j hj, rowCell_trail]
      by_cases hjt : j = c0 + cs.length
      · rw [if_pos ⟨rfl, hjt⟩, if_pos hjt]
      · rw [if_neg (fun hc => hjt hc.2), if_neg hjt]
    · simp only [Bool.not_true, Bool.false_eq_true, if_false]
      exact ⟨by rw [u.col1, R.col1], by rw [u.col, R.col], hc0, hfit,
        fun j hj => by rw [u.row]; exact hcells j hj, R.opq, fun hl => by simpa using hl, fun _ => hne⟩
  · simp only [Bool.and_eq_true, Bool.not_eq_true', beq_iff_eq] at hc
    have hl : lead = false := by
      cases hl : lead
      · rfl
      · rw [hl] at hc; exact absurd hc.2 hop
    have hi : c0 - 1 < 34 := by omega
    refine ⟨wr_upd h (Nat.le_of_lt hi) _ _, fun j hj => ?_⟩
    rw [hcell_wr h hi _ _ _ j hj, R.cells j hj, hl, hc.1, Bool.not_false, rowCell_lead]
    by_cases hjl : j = c0 - 1
    · rw [if_pos ⟨rfl, hjl⟩, if_pos (by omega)]
    · rw [if_neg (fun hc => hjl hc.2), if_neg (by omega)]
  · refine ⟨.refl _, fun j hj => ?_⟩
    have hl : lead = !(cs.getD 0 default).isSpace := by
      cases hsp : (cs.getD 0 default).isSpace
      · cases hl : lead
        · rw [hsp, hl] at hc; exact absurd rfl hc
        · rfl
      · cases hl : lead
        · rfl
        · have := R.leadok hl; rw [hsp] at this; cases this
    rw [R.cells j hj, ← hl]

/-! ## frames: what stays when the current row is edited -/

/-- scalars other than the cursor column, and all rows of the non-displayed memory except the current one -/
structure Frame (a b : Channel) : Prop where
  idx : b.idx = a.idx
  mode : b.mode = a.mode
  row : b.row = a.row
  row1 : b.row1 = a.row1
  roll : b.roll = a.roll
  attr : b.attr = a.attr
  hidden : b.hidden = a.hidden
  rows : ∀ r j, j < 34 → r ≠ a.row → b.hcell r j = a.hcell r j

theorem Frame.refl (a : Channel) : Frame a a := ⟨rfl, rfl, rfl, rfl, rfl, rfl, rfl, fun _ _ _ _ => rfl⟩

theorem Frame.trans {a b c : Channel} (h1 : Frame a b) (h2 : Frame b c) : Frame a c :=
  ⟨h2.idx.trans h1.idx, h2.mode.trans h1.mode, h2.row.trans h1.row, h2.row1.trans h1.row1, h2.roll.trans h1.roll,
   h2.attr.trans h1.attr, h2.hidden.trans h1.hidden,
   fun r j hj hr => (h2.rows r j hj (by rw [h1.row]; exact hr)).trans (h1.rows r j hj hr)⟩

theorem RowEdit.frame {a b : Channel} (e : RowEdit a b) (ha : b.attr = a.attr) : Frame a b :=
  ⟨e.idx, e.mode, e.row, e.row1, e.roll, ha, e.hidden, e.rows⟩

/-- one typed character on a one-segment row.  A non-space character is stored and the cursor advances.  A space
    also runs `word_break`: the leading solid space appears (if the segment starts with a non-space), and outside
    pop-on mode the row is copied to the displayed memory and one event is raised. -/
theorem putChar_row {ch : Channel} (h : ChInv ch) {lead : Bool} {c0 : Nat} {cs : List Cell}
    (R : RowIs ch lead false c0 cs) (c : Cell) (hop : c.opacity ≠ opTransparentSpace) (hroom : c0 + cs.length ≤ 32) :
    ChInv (putChar ch c) ∧ Frame ch (putChar ch c) ∧
    RowIs (putChar ch c) (if c.isSpace then !((cs ++ [c]).getD 0 default).isSpace else lead) false c0 (cs ++ [c]) ∧
    (if c.isSpace = true ∧ ch.mode ≠ .popOn then
      (putChar ch c).nev = ch.nev + 1 ∧
      ∀ r j, j < 34 → (putChar ch c).dcell r j = if r = ch.row then (putChar ch c).hcell r j else ch.dcell r j
     else (putChar ch c).nev = ch.nev ∧ ∀ r j, j < 34 → (putChar ch c).dcell r j = ch.dcell r j) := by
  have hcol : ch.col = c0 + cs.length := R.col
  have hlt : ch.col < 33 := by omega
  obtain ⟨hcells, ha, hc, hc1⟩ := putCell_spec h c
  rw [if_pos hlt] at hcells hc
  have e1 := putCell_edit h c
  have hx := e1.inv h
  have fx : Frame ch (putCell ch c) := e1.frame ha
  have Rx : RowIs (putCell ch c) lead false c0 (cs ++ [c]) := by
    refine ⟨by rw [hc1, R.col1], by rw [hc, hcol]; simp; omega, R.c0pos, by simp; omega, fun j hj => ?_, ?_, fun hl => ?_,
      fun _ => by simp⟩
    · rw [e1.row, hcells _ j hj, hcol, R.cells j hj, rowCell_snoc _ _ _ _ _ R.leadne]
      by_cases hj2 : j = c0 + cs.length
      · rw [if_pos ⟨rfl, hj2⟩, if_pos hj2]
      · rw [if_neg (fun hc => hj2 hc.2), if_neg hj2]
    · intro c' hc'
      rcases List.mem_append.1 hc' with hm | hm
      · exact R.opq c' hm
      · simp at hm; rw [hm]; exact hop
    · rw [getD_snoc_lt _ _ _ (List.length_pos_iff.mpr (R.leadne hl))]
      exact R.leadok hl
  rw [putChar_eq]
  generalize putCell ch c = x at e1 hx fx Rx ⊢
  by_cases hsp : c.isSpace = true
  · simp only [hsp, if_true, true_and]
    have Rw := Rx.wordBreak hx (by simp)
    have u := wordBreak_upd hx false
    have ew := wordBreak_edit hx
    have fw : Frame x (wordBreak x false) := ew.frame u.attr
    have hlast : (cs ++ [c]).getD ((cs ++ [c]).length - 1) default = c := by
      rw [show (cs ++ [c]).length - 1 = cs.length by simp, getD_snoc_eq]
    rw [hlast, hsp] at Rw
    simp only [Bool.not_true] at Rw
    have hwi := u.inv hx
    rw [wordBreak_phases]
    generalize wordBreak x false = w at Rw u ew fw hwi ⊢
    by_cases hm : ch.mode = .popOn
    · rw [if_pos (by rw [u.mode, fx.mode, hm]; rfl), if_neg (by simpa using hm)]
      exact ⟨hwi, fx.trans fw, Rw, by rw [ew.nev, e1.nev], fun r j _ => by rw [ew.dcell, e1.dcell]⟩
    · rw [if_neg (by rw [u.mode, fx.mode]; simpa using hm), if_pos hm]
      obtain ⟨up, np, hp, dp⟩ := publish_spec hwi true w.row
      refine ⟨up.inv hwi,
        (fx.trans fw).trans ⟨up.idx, up.mode, up.row, up.row1, up.roll, up.attr, up.hidden, fun r j _ _ => hp r j⟩,
        ⟨by rw [up.col1, Rw.col1], by rw [up.col, Rw.col], Rw.c0pos, Rw.fits, fun j hj => by rw [up.row, hp, Rw.cells j hj], Rw.opq,
          Rw.leadok, Rw.leadne⟩, by rw [np, ew.nev, e1.nev], fun r j hj => ?_⟩
      rw [dp r j hj, hp, u.row, fx.row]
      by_cases hr : r = ch.row
      · rw [if_pos hr, if_pos hr]
      · rw [if_neg hr, if_neg hr, ew.dcell, e1.dcell]
  · have hsp' : c.isSpace = false := by simpa using hsp
    simp only [hsp', Bool.false_eq_true, if_false, false_and]
    exact ⟨hx, fx, Rx, e1.nev, fun r j _ => e1.dcell r j⟩

open Eia608

/-! ## the reference model's rows and their rendering -/
/-- the libzvbi cell that shows a reference cell -/
def toCell (x : SCell) : Cell :=
  { unicode := x.ch, underline := x.pen.underline, italic := x.pen.italic, flash := x.pen.flash,
    opacity := opaqueOf x.pen, fg := x.pen.fg, bg := x.pen.bg }

theorem toRCell_toCell (x : SCell) : toRCell (toCell x) = cellOf x := rfl
theorem isSpace_toCell (x : SCell) : (toCell x).isSpace = isSpaceChar x := rfl
theorem toRCell_solid (x : SCell) : toRCell { toCell x with unicode := 0x20 } = { cellOf x with unicode := 0x20 } := rfl
/-- the blank cell as the reference prints it -/
def blankR : RCell := { unicode := 0x20, underline := false, italic := false, flash := false, opacity := 0, fg := 7, bg := 0 }
theorem toRCell_ts : toRCell tsC = blankR := by decide
theorem toCell_opq (x : SCell) : (toCell x).opacity ≠ opTransparentSpace := by
  show opaqueOf x.pen ≠ opTransparentSpace
  unfold opaqueOf; split <;> decide

/-- row `r` of memory `m` holds exactly the cells `xs` from column `c0` -/
def SegRow (m : Mem) (r c0 : Nat) (xs : List SCell) : Prop :=
  ∀ c, m r c = if c0 ≤ c ∧ c < c0 + xs.length then some (xs.getD (c - c0) default) else none

theorem SegRow.empty {m : Mem} {r : Nat} (c0 : Nat) (h : ∀ c, m r c = none) : SegRow m r c0 [] := by
  intro c; rw [h c]; simp

theorem getD_map_toCell (xs : List SCell) {i : Nat} (hi : i < xs.length) :
    (xs.map toCell).getD i default = toCell (xs.getD i default) := by
  simp [List.getD_eq_getElem?_getD, List.getElem?_eq_getElem hi]

/-- **rendering of a one-segment row**: the 34 cells libzvbi's page shows for it are the typed cells, the leading
    solid space if the first character is not a space, the trailing one if the last is not, blank elsewhere -/
theorem render_segRow {m : Mem} {r c0 : Nat} {xs : List SCell} (S : SegRow m r c0 xs) (hne : xs ≠ []) (hc0 : 1 ≤ c0)
    (hfit : c0 + xs.length ≤ 33) (j : Nat) (hj : j < 34) :
    renderCell false m r j =
      toRCell (rowCell (!(xs.map toCell |>.getD 0 default).isSpace)
        (!(xs.map toCell |>.getD (xs.length - 1) default).isSpace) c0 (xs.map toCell) j) := by
  have hin : ∀ c, inside m r c = if c0 ≤ c ∧ c < c0 + xs.length then some (xs.getD (c - c0) default) else none := by
    intro c
    unfold inside
    rw [S c]
    by_cases h1 : c0 ≤ c ∧ c < c0 + xs.length
    · have : 1 ≤ c ∧ c ≤ 32 := by omega
      rw [if_pos this]
    · rw [if_neg h1]; split <;> rfl
  unfold renderCell
  simp only [Bool.false_eq_true, if_false]
  show (match inside m r j with
    | some x => cellOf x
    | none =>
      match (if j = 0 then none else inside m r (j - 1)), inside m r (j + 1) with
      | some l, right =>
        if (!isSpaceChar l) = true then { cellOf l with unicode := 0x20 }
        else match right with
          | some x => if (!isSpaceChar x) = true then { cellOf x with unicode := 0x20 } else blankR
          | none => blankR
      | none, some x => if (!isSpaceChar x) = true then { cellOf x with unicode := 0x20 } else blankR
      | none, none => blankR) = _
  rw [hin j]
  by_cases hr : c0 ≤ j ∧ j < c0 + xs.length
  · -- a typed cell
    rw [if_pos hr]
    unfold rowCell
    rw [List.length_map, if_pos hr, getD_map_toCell _ (by omega)]
    rfl
  · rw [if_neg hr]
    unfold rowCell
    rw [List.length_map, if_neg hr]
    · have hpos : 0 < xs.length := List.length_pos_iff.mpr hne
      have hfirst : (xs.map toCell).getD 0 default = toCell (xs.getD 0 default) := getD_map_toCell _ hpos
      have hlast : (xs.map toCell).getD (xs.length - 1) default = toCell (xs.getD (xs.length - 1) default) :=
        getD_map_toCell _ (by omega)
      rw [hfirst, hlast, isSpace_toCell, isSpace_toCell]
      by_cases hl : j + 1 = c0
      · -- the cell left of the segment
        have eL : (if j = 0 then none else inside m r (j - 1)) = none := by
          split
          · rfl
          · rw [hin]; rw [if_neg (by omega)]
        have eR : inside m r (j + 1) = some (xs.getD 0 default) := by
          rw [hin, if_pos (by omega)]; congr 2; omega
        rw [eL, eR]
        cases hsp : isSpaceChar (xs.getD 0 default)
        · rw [if_pos ⟨rfl, hl⟩]
          simp only [hsp, Bool.not_false, if_true]; rfl
        · have h1 : ¬ ((!true) = true ∧ j + 1 = c0) := by simp
          have h2 : ¬ ((!isSpaceChar (xs.getD (xs.length - 1) default)) = true ∧ j = c0 + xs.length) := by omega
          rw [if_neg h1, if_neg h2, toRCell_ts]
          simp only [hsp, Bool.not_true, Bool.false_eq_true, if_false]
      · by_cases ht : j = c0 + xs.length
        · -- the cell right of the segment
          have eL : (if j = 0 then none else inside m r (j - 1)) = some (xs.getD (xs.length - 1) default) := by
            rw [if_neg (by omega), hin, if_pos (by omega)]; congr 2; omega
          have eR : inside m r (j + 1) = none := by rw [hin, if_neg (by omega)]
          rw [eL, eR, if_neg (fun hc => hl hc.2)]
          cases hsp : isSpaceChar (xs.getD (xs.length - 1) default)
          · rw [if_pos ⟨rfl, ht⟩]
            simp only [hsp, Bool.not_false, if_true]; rfl
          · have h1 : ¬ ((!true) = true ∧ j = c0 + xs.length) := by simp
            rw [if_neg h1, toRCell_ts]
            simp only [hsp, Bool.not_true, Bool.false_eq_true, if_false]
        · -- away from the segment
          have eL : (if j = 0 then none else inside m r (j - 1)) = none := by
            split
            · rfl
            · rw [hin, if_neg (by omega)]
          have eR : inside m r (j + 1) = none := by rw [hin, if_neg (by omega)]
          rw [eL, eR, if_neg (fun hc => hl hc.2), if_neg (fun hc => ht hc.2), toRCell_ts]

theorem render_emptyRow {m : Mem} {r : Nat} (S : ∀ c, m r c = none) (j : Nat) : renderCell false m r j = blankR := by
  have hin : ∀ c, inside m r c = none := by
    intro c; unfold inside; rw [S c]; split <;> rfl
  unfold renderCell
  simp only [hin, ite_self, Bool.false_eq_true, if_false]
  rfl

/-! ## one typed character in both models -/

theorem toRCell_inj {a b : Cell} (h : toRCell a = toRCell b) : a = b := by
  cases a; cases b
  simp only [toRCell, RCell.mk.injEq] at h
  obtain ⟨h1, h2, h3, h4, h5, h6, h7⟩ := h
  subst h1 h2 h3 h4 h5 h6 h7
  rfl

/-- valid character codes of a text pair -/
def isCharCode (ci : Nat) : Bool := decide (0x20 ≤ ci) && decide (ci < 0x80)

theorem charCode_std (ci : Nat) (hw : isCharCode ci = true) : captionUnicode ci = Eia608.basicChar ci := by
  simp only [isCharCode, Bool.and_eq_true, decide_eq_true_eq] at hw
  exact basic_std ci hw.2 hw.1

/-- current rows of both models hold the same one segment, cursors and pens agree -/
structure RowSim (ch : Channel) (v : Service) (lead : Bool) (c0 : Nat) (xs : List SCell) : Prop where
  R : RowIs ch lead false c0 (xs.map toCell)
  S : SegRow v.target ch.row c0 xs
  vrow : v.row = ch.row
  vcol : v.col = ch.col
  pen : penMatches ch.attr v.pen
  vmode : v.mode ≠ none

theorem spec_putChar_seg {v : Service} {c0 : Nat} {xs : List SCell} (hm : v.mode ≠ none)
    (S : SegRow v.target v.row c0 xs) (hcol : v.col = c0 + xs.length) (hroom : c0 + xs.length ≤ 32) (u : Nat) :
    SegRow (v.putChar u).target v.row c0 (xs ++ [{ ch := u, pen := v.pen }]) ∧
    (∀ r c, r ≠ v.row → (v.putChar u).target r c = v.target r c) := by
  obtain ⟨_, _, _, _, s5⟩ := spec_putChar_step v u hm (by omega)
  constructor
  · intro c
    rw [s5]
    unfold Eia608.Mem.set
    by_cases hc : c = v.col
    · have : v.row = v.row ∧ c = v.col := ⟨rfl, hc⟩
      rw [if_pos this]
      have hin : c0 ≤ c ∧ c < c0 + (xs ++ [({ ch := u, pen := v.pen } : SCell)]).length := by simp; omega
      rw [if_pos hin]
      have : c - c0 = xs.length := by omega
      rw [this]
      simp [List.getD_eq_getElem?_getD]
    · have : ¬ (v.row = v.row ∧ c = v.col) := fun h => hc h.2
      rw [if_neg this, S c]
      by_cases hin : c0 ≤ c ∧ c < c0 + xs.length
      · have hin' : c0 ≤ c ∧ c < c0 + (xs ++ [({ ch := u, pen := v.pen } : SCell)]).length := by simp; omega
        rw [if_pos hin, if_pos hin']
        congr 1
        simp [List.getD_eq_getElem?_getD, List.getElem?_append_left (show c - c0 < xs.length by omega)]
      · have hin' : ¬ (c0 ≤ c ∧ c < c0 + (xs ++ [({ ch := u, pen := v.pen } : SCell)]).length) := by simp; omega
        rw [if_neg hin, if_neg hin']
  · intro r c hr
    rw [s5]
    unfold Eia608.Mem.set
    rw [if_neg (fun h => hr h.1)]

/-! ## One glyph typed inside a row, and special characters (0x11 / 0x19 0x30..0x3F): one step of the row simulation

`putChar_sim_glyph`: one ARBITRARY glyph typed with the current pen in both models (the typed libzvbi cell is the
typed reference cell whatever the glyph).  `Props/C08Special.special_char_step` instantiates it with the special characters:
libzvbi's `specialChar` (caption.c, `case 1:` with bit 4 of the second byte) against `Eia608.Service.exec (.special k)`. -/
theorem typed_glyph_eq {attr : Cell} {pen : Pen} (hp : penMatches attr pen) (u : Nat) :
    ({ attr with unicode := u } : Cell) = toCell { ch := u, pen := pen } := by
  obtain ⟨h1, h2, h3, h4, h5, h6⟩ := hp
  unfold toCell
  rw [← h1, ← h2, ← h3, ← h4, ← h5, ← h6]

/-- **one glyph typed in both models** (any mode, any glyph `u`): the segment grows by the same cell; the libzvbi side
    effects are those of `putChar_row` -/
theorem putChar_sim_glyph {ch : Channel} {v : Service} (h : ChInv ch) {lead : Bool} {c0 : Nat} {xs : List SCell}
    (Q : RowSim ch v lead c0 xs) (u : Nat) (hroom : c0 + xs.length ≤ 32) :
    let c : Cell := { ch.attr with unicode := u }
    let x : SCell := { ch := u, pen := v.pen }
    c = toCell x ∧
    RowSim (putChar ch c) (v.putChar u)
      (if c.isSpace then !(((xs ++ [x]).map toCell).getD 0 default).isSpace else lead) c0 (xs ++ [x]) ∧
    (∀ r cc, r ≠ v.row → (v.putChar u).target r cc = v.target r cc) ∧
    ChInv (putChar ch c) ∧ Frame ch (putChar ch c) ∧
    (if c.isSpace = true ∧ ch.mode ≠ .popOn then
      (putChar ch c).nev = ch.nev + 1 ∧
      ∀ r j, j < 34 → (putChar ch c).dcell r j = if r = ch.row then (putChar ch c).hcell r j else ch.dcell r j
     else (putChar ch c).nev = ch.nev ∧ ∀ r j, j < 34 → (putChar ch c).dcell r j = ch.dcell r j) := by
  intro c x
  have hcx : c = toCell x := typed_glyph_eq Q.pen u
  have hlen : (xs.map toCell).length = xs.length := List.length_map _
  have pr := putChar_row h Q.R c (by rw [hcx]; exact toCell_opq x) (by rw [hlen]; exact hroom)
  obtain ⟨pi, pf, pR, pside⟩ := pr
  have hcol : v.col = c0 + xs.length := by rw [Q.vcol, Q.R.col, hlen]
  have Sv : SegRow v.target v.row c0 xs := by rw [Q.vrow]; exact Q.S
  obtain ⟨sS, sO⟩ := spec_putChar_seg Q.vmode Sv hcol hroom u
  obtain ⟨s1, s2, s3, s4, _⟩ := spec_putChar_step v u Q.vmode (by omega)
  have hmap : (xs ++ [x]).map toCell = xs.map toCell ++ [c] := by rw [List.map_append, hcx]; rfl
  refine ⟨hcx, ⟨?_, ?_, ?_, ?_, ?_, ?_⟩, sO, pi, pf, pside⟩
  · rw [hmap]; exact pR
  · rw [pf.row, ← Q.vrow]; exact sS
  · rw [s2, pf.row, Q.vrow]
  · rw [s1, pR.col, Q.vcol, Q.R.col]; simp; omega
  · rw [pf.attr, s3]; exact Q.pen
  · rw [s4]; exact Q.vmode

/-- libzvbi's glyph for special character `k` is the one of 15.119 (g) -/
theorem special_glyph : ∀ k < 16, captionUnicode (0x1130 ||| k) = Eia608.specialChar k := by decide

/-- the second bytes 0x30..0x3F: bit 4 set, low nibble = the character number -/
theorem special_c2 : ∀ k < 16, (0x30 ||| k) < 0x40 ∧ (0x30 ||| k) &&& 0x10 ≠ 0 ∧ (0x30 ||| k) &&& 15 = k ∧
    Eia608.decodeCmd 1 (0x30 ||| k) = some (0, .special k) ∧ Eia608.decodeCmd 9 (0x30 ||| k) = some (1, .special k) := by
  decide

end Zvbi.Cc
