import ZvbiModel.Cc.PaintOn
/-!
# Refinement to `Eia608` at the byte level (field 1, CC1): op lists, parity, the repetition latch, both decoders fed with byte pairs
-/
namespace Zvbi.Cc
open Zvbi.Gen.Cc Eia608

/-! ## pop-on captions as op lists (one op per byte pair), ready for the byte level -/
/-- pop-on loading relation plus: do the cursors agree (true from the first PAC of the caption on)? -/
structure PopRelC (ch : Channel) (v : Service) (cursorOK : Bool) : Prop where
  rel : PopRel ch v
  cursor : cursorOK = true → v.row = ch.row ∧ v.col = ch.col

/-- well-formed op of a pop-on caption, judged on the reference state (rows empty in the NON-displayed memory) -/
def POp.okPop (v : Service) (cursorOK : Bool) : POp → Prop
  | .pac c1 c2 => c1 < 8 ∧ c2 < 128 ∧ 0x40 ≤ c2 ∧
      ∃ r ind col u, pacArgs c1 c2 = some (r, ind, col, u) ∧ ∀ c, v.nond r c = none
  | .text cs => cursorOK = true ∧ (∀ ci ∈ cs, isCharCode ci = true) ∧ v.col + cs.length ≤ 33

def popOpsOk : Service → Bool → List POp → Prop
  | _, _, [] => True
  | v, cu, op :: rest => op.okPop v cu ∧ popOpsOk (paintOpSpec v op) (op.cursorAfter cu) rest

theorem popOp_step {ch : Channel} {v : Service} {cu : Bool} (P : PopRelC ch v cu) {chan : Nat} (hchan : chan < 4)
    (op : POp) (hok : op.okPop v cu) :
    PopRelC (paintOpModel chan ch op) (paintOpSpec v op) (op.cursorAfter cu) := by
  cases op with
  | pac c1 c2 =>
    obtain ⟨h1, h2, h3, r, ind, col, u, ha, he⟩ := hok
    unfold paintOpModel paintOpSpec
    simp only [ha]
    obtain ⟨P1, Q1⟩ := pac_pop P.rel hchan h1 h2 h3 ha he
    exact ⟨P1, fun _ => ⟨Q1.vrow, Q1.vcol⟩⟩
  | text cs =>
    obtain ⟨hc, hw, hl⟩ := hok
    subst hc
    obtain ⟨vr, vc⟩ := P.cursor rfl
    obtain ⟨lead, c0, xs, R, S⟩ := P.rel.cur
    have Q : RowSim ch v lead c0 xs :=
      ⟨R, by rw [spec_target_pop P.rel.vmode]; exact S, vr, vc, P.rel.pen, by rw [P.rel.vmode]; simp⟩
    have hcol : v.col = c0 + xs.length := by rw [vc, R.col]; simp
    obtain ⟨P2, lead', xs', Q2⟩ := text_pop P.rel Q cs hw (by omega)
    exact ⟨P2, fun _ => ⟨Q2.vrow, Q2.vcol⟩⟩

/-- `RCL ENM ops EOC` with the ops given one per byte pair -/
def captionOpsModel (chan : Nat) (ch : Channel) (ops : List POp) : Channel :=
  endOfCaption (ops.foldl (paintOpModel chan) (eraseNonDisplayed (rclModel ch)))

def captionOpsSpec (v : Service) (ops : List POp) : Service :=
  (ops.foldl paintOpSpec ((v.exec .rcl).exec .enm)).exec .eoc

theorem captionOps_refines {ch : Channel} {v : Service} (I : IdleRel ch v) {chan : Nat} (hchan : chan < 4)
    (ops : List POp) (hok : popOpsOk ((v.exec .rcl).exec .enm) false ops) :
    IdleRel (captionOpsModel chan ch ops) (captionOpsSpec v ops) := by
  have P0 : PopRelC (eraseNonDisplayed (rclModel ch)) ((v.exec .rcl).exec .enm) false :=
    ⟨rcl_enm_step I, fun h => by cases h⟩
  obtain ⟨_, P1⟩ := foldl_sim_end (paintOpModel chan) paintOpSpec (fun cu x y => PopRelC x y cu) (fun cu t => popOpsOk t cu)
    (fun _ _ _ op _ P h => ⟨_, popOp_step P hchan op h.1, h.2⟩) ops false _ _ P0 hok
  exact (eoc_step P1.rel).1

open Zvbi.Hamm (par8 unpar8)

/-! ## feeding byte pairs; from byte pairs on field 1 / CC1 to the channel-level operations (libzvbi side) -/
theorem par8_facts : ∀ x < 128, unpar8 (par8 x) = some x ∧ par8 x &&& 0x7F = x ∧ par8 x < 256 ∧ (x ≠ 0 → par8 x ≠ 0) ∧
    (0x20 ≤ x → par8 x ≠ 0x80) := by decide


/-- the libzvbi model fed with byte pairs `(field 2?, byte, byte)` -/
def feed (s : St) (ps : List (Bool × Nat × Nat)) : St := ps.foldl (fun s p => step s (.pair p.1 p.2.1 p.2.2)) s
/-- the reference model fed with the same pairs -/
def sfeed (t : Eia608.St) (ps : List (Bool × Nat × Nat)) : Eia608.St :=
  ps.foldl (fun t p => Eia608.step t p.1 p.2.1 p.2.2) t

theorem feed_inv {s : St} (h : Inv s) (ps : List (Bool × Nat × Nat)) : Inv (feed s ps) :=
  List.foldlRecOn ps _ h fun _ ht _ _ => decodePair_inv ht ..

theorem feed_append (s : St) (a b : List (Bool × Nat × Nat)) : feed s (a ++ b) = feed (feed s a) b := by
  unfold feed; rw [List.foldl_append]
theorem sfeed_append (t : Eia608.St) (a b : List (Bool × Nat × Nat)) : sfeed t (a ++ b) = sfeed (sfeed t a) b := by
  unfold sfeed; rw [List.foldl_append]

theorem feed_flatMap {ω : Type} (enc : ω → List (Bool × Nat × Nat)) (ops : List ω) (s : St) :
    feed s (ops.flatMap enc) = ops.foldl (fun s op => feed s (enc op)) s := List.foldl_flatMap
theorem sfeed_flatMap {ω : Type} (enc : ω → List (Bool × Nat × Nat)) (ops : List ω) (t : Eia608.St) :
    sfeed t (ops.flatMap enc) = ops.foldl (fun t op => sfeed t (enc op)) t := List.foldl_flatMap

theorem runPairs_eq_feed (ps : List (Bool × Nat × Nat)) : runPairs ps = feed init ps := by
  unfold runPairs run feed; rw [List.foldl_map]
theorem specPairs_eq_sfeed (ps : List (Bool × Nat × Nat)) : specPairs ps = sfeed Eia608.init ps := rfl

/-- a control pair of field 1 with odd parity, sent twice -/
def ctl (c1 c2 : Nat) : List (Bool × Nat × Nat) := [(false, par8 c1, par8 c2), (false, par8 c1, par8 c2)]
/-- a text pair of field 1 with odd parity -/
def txt (a b : Nat) : List (Bool × Nat × Nat) := [(false, par8 a, par8 b)]

/-- a control pair on field 1, transmitted twice: executed once, latch cleared -/
theorem ctl_twice (s : St) (hl : s.last0 = 0) {c1 c2 : Nat} (h1 : 0x10 ≤ c1) (h1' : c1 ≤ 0x1F) (h2 : c2 < 128) :
    feed s (ctl c1 c2) = { captionCommand s c1 c2 false with last0 := 0, last1 := par8 c2 } := by
  obtain ⟨p1, a1, l1, n1, _⟩ := par8_facts c1 (by omega)
  obtain ⟨p2, a2, l2, _, _⟩ := par8_facts c2 h2
  show decodePair (decodePair s false (par8 c1 % 256) (par8 c2 % 256)) false (par8 c1 % 256) (par8 c2 % 256) = _
  rw [Nat.mod_eq_of_lt l1, Nat.mod_eq_of_lt l2]
  have hp0 : (unpar8 (par8 c1)).isSome = true := by rw [p1]; rfl
  have hp1 : (unpar8 (par8 c2)).isSome = true := by rw [p2]; rfl
  have hc : 0x10 ≤ par8 c1 &&& 0x7F ∧ par8 c1 &&& 0x7F ≤ 0x1F := by rw [a1]; exact ⟨h1, h1'⟩
  have e1 := decodePair_f1_control s (par8 c1) (par8 c2) hp0 hp1 hc
  have hnew : ¬ (par8 c1 = s.last0 ∧ par8 c2 = s.last1) := by
    intro h; rw [hl] at h; exact n1 (by omega) h.1
  rw [if_neg hnew, a1, a2] at e1
  have e2 := decodePair_f1_control (decodePair s false (par8 c1) (par8 c2)) (par8 c1) (par8 c2) hp0 hp1 hc
  rw [e1] at e2 ⊢
  simp only [and_self, if_true] at e2
  exact e2


/-- the decoder state `s` has caption channel CC1 in state `ch`, CC1 is the current channel of field 1 and the
    repetition latch is clear -/
structure Lift (s : St) (ch : Channel) : Prop where
  inv : Inv s
  last : s.last0 = 0
  cur : s.currChan = 0
  get : s.chans[0]? = some ch

/-- what a control code does to CC1 while CC1 is the current channel of field 1: its channel function, for a mode-setting
    code after the word break of `switch_channel()` -/
def Effect.onCC1 : Effect → Channel → Channel
  | .skip => id
  | .on _ f => f
  | .switch _ none => fun ch => wordBreak ch true
  | .switch _ (some f) => fun ch => f (wordBreak ch true)

/-- a control pair of CC1 (first byte 0x10..0x17) that carries the code `k`, sent twice while CC1 is current: the code runs
    once, on CC1 (not for the two codes that switch to the text channel) -/
theorem lift_ctl {s : St} {ch : Channel} (L : Lift s ch) {c1 c2 : Nat} (h1 : 0x10 ≤ c1) (h1' : c1 < 0x18) (h2 : c2 < 128)
    {k : Ctl} (hk : k.codes c1 c2) (ht : ∀ f, k.effect 0 c1 c2 ≠ .switch true f) :
    Lift (feed s (ctl c1 c2)) ((k.effect 0 c1 c2).onCC1 ch) := by
  have hch : cmdChan s c1 false = 0 := by
    have : ∀ c < 0x18, 0x10 ≤ c → (c >>> 3) &&& 1 = 0 := by decide
    unfold cmdChan
    rw [curr_false, L.cur, this c1 h1' h1]
    rfl
  have hI := feed_inv L.inv (ctl c1 c2)
  rw [ctl_twice s L.last h1 (by omega) h2, captionCommand_eq s false hk, hch] at hI ⊢
  have hsw : (s.switchChannel 0 0).chans[0]? = some (wordBreak ch true) ∧ (s.switchChannel 0 0).currChan = 0 :=
    ⟨by unfold St.switchChannel; exact modCh_get_same _ L.get, by
      unfold St.switchChannel; rw [(setCurr_field1 _ (by decide)).1]⟩
  have key : ((k.effect 0 c1 c2).run 0 s).chans[0]? = some ((k.effect 0 c1 c2).onCC1 ch) ∧
      ((k.effect 0 c1 c2).run 0 s).currChan = 0 := by
    generalize k.effect 0 c1 c2 = e at ht
    match e with
    | .skip => exact ⟨L.get, L.cur⟩
    | .on erase f =>
      have : (if erase then edmChan 0 else 0) = 0 := by
        cases erase
        · rfl
        · exact edmChan_caption (by omega)
      show (s.modCh _ f).chans[0]? = _ ∧ (s.modCh _ f).currChan = _
      rw [this]
      exact ⟨modCh_get_same f L.get, (modCh_currs _ _ f).1.trans L.cur⟩
    | .switch true f => exact absurd rfl (ht f)
    | .switch false none => exact hsw
    | .switch false (some f) => exact ⟨modCh_get_same f hsw.1, (modCh_currs _ _ f).1.trans hsw.2⟩
  exact ⟨hI, rfl, key.2, key.1⟩


/-- the character codes of a text pair: the second byte may be the NUL filler -/
def pairCodes (a b : Nat) : List Nat := if b = 0 then [a] else [a, b]

theorem textPair_codes {ch : Channel} (h : ChInv ch) (hm : ch.mode ≠ .none) {a b : Nat} (ha : 0x20 ≤ a) (ha' : a < 0x80)
    (hb : b = 0 ∨ (0x20 ≤ b ∧ b < 0x80)) :
    textPair ch (par8 a) (par8 b) = charRun { ch with nulCt := 0 } (pairCodes a b) := by
  have hmb : (ch.mode == .none) = false := by simpa using hm
  obtain ⟨pa, _, _, _, _⟩ := par8_facts a ha'
  have hn := h.withNul 0
  unfold textPair
  rw [hmb]
  simp only [Bool.false_eq_true, if_false]
  have hmask : ∀ x < 128, x &&& 0x7F = x := fun _ => Nat.and_two_pow_sub_one_of_lt_two_pow (n := 7)
  rw [putByte_code _ _ pa (by rw [hmask a ha']; omega), hmask a ha']
  unfold pairCodes charRun
  rcases hb with hb | hb
  · subst hb
    have p0 : unpar8 (par8 0) = some 0 := by decide
    unfold putByte
    simp only [p0]
    simp
  · obtain ⟨pb, _, _, _, _⟩ := par8_facts b hb.2
    have hb0 : b ≠ 0 := by omega
    rw [if_neg hb0]
    simp only [List.foldl_cons, List.foldl_nil]
    rw [putByte_code _ _ pb (by rw [hmask b hb.2]; omega), hmask b hb.2, putChar_attr hn]

/-- the relations do not look at `nul_ct` -/
theorem PopRelC.nul {ch : Channel} {v : Service} {cu : Bool} (P : PopRelC ch v cu) (n : Nat) :
    PopRelC { ch with nulCt := n } v cu := by
  obtain ⟨⟨i, ix, m, vm, d, r, c, pn⟩, cur⟩ := P
  obtain ⟨lead, c0, xs, R, S⟩ := c
  exact ⟨⟨i.withNul n, ix, m, vm, d, r, ⟨lead, c0, xs, R.transfer rfl rfl rfl (fun _ _ => rfl), S⟩, pn⟩, cur⟩

/-- a text pair of field 1 while CC1 is current -/
theorem lift_text {s : St} {ch : Channel} (L : Lift s ch) (hm : ch.mode ≠ .none) {a b : Nat} (ha : 0x20 ≤ a) (ha' : a < 0x80)
    (hb : b = 0 ∨ (0x20 ≤ b ∧ b < 0x80)) :
    Lift (feed s (txt a b)) (charRun { ch with nulCt := 0 } (pairCodes a b)) := by
  obtain ⟨pa, ma, la, _, n80⟩ := par8_facts a ha'
  have lb := (par8_facts b (by omega)).2.2.1
  show Lift (decodePair s false (par8 a % 256) (par8 b % 256)) _
  rw [Nat.mod_eq_of_lt la, Nat.mod_eq_of_lt lb]
  have hch : ChInv ch := L.inv.chs ch (List.mem_of_getElem? L.get)
  have hns : (unpar8 (par8 a)).isNone = false := by rw [pa]; rfl
  have e : decodePair s false (par8 a) (par8 b) = ({ s with last0 := 0 } : St).modCh 0 (fun ch => textPair ch (par8 a) (par8 b)) := by
    show decodeMain s false (par8 a) (par8 b) = _
    unfold decodeMain
    simp only [hns, Bool.false_eq_true, if_false, ma]
    have h1 : ¬ (1 ≤ a ∧ a ≤ 0x0F) := by omega
    have h2 : ¬ (0x10 ≤ a ∧ a ≤ 0x1F) := by omega
    have h3 : ¬ (par8 a = 0x80 ∧ par8 b = 0x80) := fun h => n80 ha h.1
    rw [if_neg h1, if_neg h2, curr_false, L.cur]
    simp only [h3, if_false, Bool.not_false, if_true]
    rfl
  rw [e, ← textPair_codes hch hm ha ha' hb]
  have Ls : Inv ({ s with last0 := 0 } : St) := L.inv.congr rfl rfl
  refine ⟨modCh_inv Ls (by omega) (fun c hc => (textPair_step hc _ _).1), ?_, ?_, modCh_get_same _ L.get⟩
  · exact (modCh_last_xds ..).1
  · exact (modCh_currs ..).1.trans L.cur


/-! ## from byte pairs on field 1 / CC1 to the service-level operations (reference side) -/
/-- the reference decoder has service CC1 in state `v` and no pending repetition on field 1 -/
structure SLift (t : Eia608.St) (v : Service) : Prop where
  get : t.svc[0]? = some v
  last : t.f1.last = none

theorem modSvc_get {t : Eia608.St} {v : Service} (h : t.svc[0]? = some v) (f : Service → Service) :
    (t.modSvc 0 f).svc[0]? = some (f v) ∧ (t.modSvc 0 f).f1 = t.f1 := by
  unfold Eia608.St.modSvc
  rw [h]
  have hlt : 0 < t.svc.length := (List.getElem?_eq_some_iff.1 h).1
  exact ⟨by simp [List.getElem?_set_self hlt], rfl⟩

/-- the commands that select the caption service of their data channel -/
def Eia608.Cmd.selectsCaption : Cmd → Bool
  | .rcl | .ru _ | .rdc | .eoc => true
  | _ => false

/-- a control pair for CC1, transmitted twice: CC1 executes the command once if it selects CC1 itself, or if CC1 is the
    current service of field 1 and the command does not switch to text mode -/
theorem spec_ctl_twice {t : Eia608.St} {v : Service} (L : SLift t v) {c1 c2 : Nat} (h1 : 0x10 ≤ c1) (h1' : c1 ≤ 0x1F)
    (h2 : c2 < 128) {cmd : Cmd} (hd : decodeCmd c1 c2 = some (0, cmd))
    (hcls : cmd.selectsCaption = true ∨ (t.f1.cur = some (false, 0) ∧ cmd ≠ .tr ∧ cmd ≠ .rtd)) :
    SLift (sfeed t (ctl c1 c2)) (v.exec cmd) ∧ (sfeed t (ctl c1 c2)).f1.cur = some (false, 0) := by
  obtain ⟨_, a1, _, _, _⟩ := par8_facts c1 (by omega)
  obtain ⟨_, a2, _, _, _⟩ := par8_facts c2 h2
  have hc : 0x10 ≤ c1 ∧ c1 ≤ 0x1F := ⟨h1, h1'⟩
  have first : Eia608.step t false (par8 c1) (par8 c2) =
      ({ t with f1 := { cur := some (false, 0), last := some (c1, c2) } } : Eia608.St).modSvc 0 (fun v => v.exec cmd) := by
    unfold Eia608.step
    simp only [a1, a2, hc, and_self, if_true, Bool.not_false, L.last, Bool.false_eq_true, if_false, hd]
    cases cmd <;> simp [Cmd.selectsCaption] at hcls <;> simp [svcIndex, *]
  show SLift (Eia608.step (Eia608.step t false (par8 c1) (par8 c2)) false (par8 c1) (par8 c2)) _ ∧
    (Eia608.step (Eia608.step t false (par8 c1) (par8 c2)) false (par8 c1) (par8 c2)).f1.cur = _
  rw [first]
  have g := modSvc_get (t := ({ t with f1 := { cur := some (false, 0), last := some (c1, c2) } } : Eia608.St)) L.get
    (fun v => v.exec cmd)
  generalize (({ t with f1 := { cur := some (false, 0), last := some (c1, c2) } } : Eia608.St).modSvc 0 fun v => v.exec cmd) = t1 at g
  obtain ⟨g1, g2⟩ := g
  have second : Eia608.step t1 false (par8 c1) (par8 c2) = { t1 with f1 := { t1.f1 with last := none } } := by
    unfold Eia608.step
    simp only [a1, a2, hc, and_self, if_true, Bool.not_false, g2, Bool.false_eq_true, if_false]
  rw [second]
  exact ⟨⟨g1, rfl⟩, by show t1.f1.cur = _; rw [g2]⟩

/-- a text pair of field 1 while CC1 is the current caption service -/
theorem spec_text {t : Eia608.St} {v : Service} (L : SLift t v) (hcur : t.f1.cur = some (false, 0)) {a b : Nat}
    (ha : 0x20 ≤ a) (ha' : a < 0x80) (hb : b = 0 ∨ (0x20 ≤ b ∧ b < 0x80)) :
    SLift (sfeed t (txt a b)) (specRun v (pairCodes a b)) ∧ (sfeed t (txt a b)).f1.cur = some (false, 0) := by
  show SLift (Eia608.step t false (par8 a) (par8 b)) _ ∧ (Eia608.step t false (par8 a) (par8 b)).f1.cur = _
  obtain ⟨_, a1, _, _, _⟩ := par8_facts a ha'
  have hb128 : b < 128 := by rcases hb with h | h <;> omega
  obtain ⟨_, a2, _, _, _⟩ := par8_facts b hb128
  have e : Eia608.step t false (par8 a) (par8 b) =
      ({ t with f1 := { t.f1 with last := none } } : Eia608.St).modSvc 0 (fun v => specRun v (pairCodes a b)) := by
    unfold Eia608.step
    have n1 : ¬ (0x10 ≤ a ∧ a ≤ 0x1F) := by omega
    have n2 : ¬ (a = 0 ∧ b = 0) := by omega
    have n3 : ¬ (a < 0x10 ∧ a ≠ 0) := by omega
    simp only [a1, a2, n1, n2, n3, if_false, Bool.false_eq_true, hcur, svcIndex]
    congr 1
    funext w
    unfold pairCodes specRun
    have ha20 : 0x20 ≤ a := ha
    rcases hb with hb | hb
    · subst hb; simp [ha20]
    · have : b ≠ 0 := by omega
      simp [ha20, hb.1, this]
  rw [e]
  have g := modSvc_get (t := ({ t with f1 := { t.f1 with last := none } } : Eia608.St)) L.get
    (fun v => specRun v (pairCodes a b))
  exact ⟨⟨g.1, by rw [g.2]⟩, by rw [g.2]; exact hcur⟩


/-! ## pop-on: the closing word break and EOC after the channel switch -/
/-- a second `word_break` on a completed row changes nothing -/
theorem wordBreak_closed_noop {w : Channel} (h : ChInv w) {c0 : Nat} {cs : List Cell} (hne : cs ≠ [])
    (R : RowIs w (!(cs.getD 0 default).isSpace) (!(cs.getD (cs.length - 1) default).isSpace) c0 cs) :
    wordBreak w false = w := by
  have hn : 0 < cs.length := List.length_pos_iff.mpr hne
  have opq : ∀ i, i < cs.length → (cs.getD i default).opacity ≠ opTransparentSpace := fun i hi =>
    R.opq _ (by rw [List.getD_eq_getElem?_getD, List.getElem?_eq_getElem hi]; exact List.getElem_mem _)
  obtain ⟨r1, r2, r3, r4⟩ := row_reads h hne R
  rw [wordBreak_false_eq h (by rw [R.col, R.col1]; omega) r1 r2 r3 r4]
  -- neither solid space is missing: the cell next to a non-space end of the word is not a transparent space
  have c1 : ∀ x : Cell, x.opacity ≠ opTransparentSpace →
      (!x.isSpace && (if (!x.isSpace) = true then ({ x with unicode := 0x20 } : Cell) else tsC).opacity == opTransparentSpace)
        = false := by
    intro x hx; cases x.isSpace
    · simpa using hx
    · rfl
  rw [c1 _ (opq 0 hn), c1 _ (opq _ (by omega))]
  rfl


/-- `switch_channel()`'s extra word break before End Of Caption does not matter -/
theorem eoc_after_switch {ch : Channel} {v : Service} (P : PopRel ch v) :
    endOfCaption (wordBreak ch true) = endOfCaption ch := by
  have e1 := wordBreak_true_pop P.inv P.mode
  obtain ⟨lead, c0, xs, R, _⟩ := P.cur
  have hx : wordBreak (wordBreak ch false) false = wordBreak ch false := by
    by_cases hxs : xs = []
    · have hcol : ch.col = ch.col1 := by rw [R.col, R.col1, hxs]; simp
      rw [wordBreak_false_noop hcol, wordBreak_false_noop hcol]
    · have hne : xs.map toCell ≠ [] := by simpa using hxs
      exact wordBreak_closed_noop ((wordBreak_edit P.inv).inv P.inv) hne (R.wordBreak P.inv hne)
  have uw := wordBreak_upd P.inv false
  have hwm : (wordBreak ch false).mode = .popOn := by rw [uw.mode]; exact P.mode
  unfold endOfCaption
  rw [e1, mode_eta hwm, mode_eta P.mode, wordBreak_true_pop (uw.inv P.inv) hwm, hx, e1]

/-- one op of a caption body at the byte level: a PAC (first byte 0x10 + `lo`, sent twice) or one text pair -/
inductive BOp
  | pac (lo c2 : Nat)
  | pair (a b : Nat)

def BOp.enc : BOp → List (Bool × Nat × Nat)
  | .pac lo c2 => ctl (0x10 + lo) c2
  | .pair a b => txt a b

def BOp.toPOp : BOp → POp
  | .pac lo c2 => .pac lo c2
  | .pair a b => .text (pairCodes a b)

/-- byte-level well-formedness of a text pair: first byte a character, second a character or the NUL filler -/
def BOp.bytesOk : BOp → Prop
  | .pac _ _ => True
  | .pair a b => 0x20 ≤ a ∧ a < 0x80 ∧ (b = 0 ∨ (0x20 ≤ b ∧ b < 0x80))

/-- `decodeCmd` reads the first byte through its channel bit and its low three bits only -/
theorem decodeCmd_pac1 : ∀ lo < 8, ∀ c2, decodeCmd (0x10 + lo) c2 = decodeCmd lo c2 := by
  have key : ∀ lo < 8, ((0x10 + lo) >>> 3) &&& 1 = (lo >>> 3) &&& 1 ∧ (0x10 + lo) &&& 7 = lo &&& 7 := by decide
  intro lo h c2
  unfold decodeCmd
  rw [(key lo h).1, (key lo h).2]

end Zvbi.Cc
