import ZvbiModel.Cc.PopOn
/-!
# Refinement to `Eia608`: roll-up captions  `RUn (PAC)? (glyph* | CR)*`
-/
namespace Zvbi.Cc
open Zvbi.Gen.Cc Eia608

/-- displayed row `r` shows what the reference memory `m` renders there -/
def DispRowOK (ch : Channel) (m : Mem) (r : Nat) : Prop :=
  ∀ j, j < 34 → ∃ c, ch.dcell r j = some c ∧ toRCell c = renderCell false m r j

/-- the closing word break outside pop-on mode: the completed row shows the reference row in both memories, no other cell changes -/
theorem close_dir {ch : Channel} (h : ChInv ch) (hm : ch.mode ≠ .popOn) {m : Mem} {lead : Bool} {c0 : Nat} {xs : List SCell}
    (R : RowIs ch lead false c0 (xs.map toCell)) (S : SegRow m ch.row c0 xs) :
    HidRowOK (wordBreak ch true) m ch.row ∧ DispRowOK (wordBreak ch true) m ch.row ∧
    ∀ r j, j < 34 → r ≠ ch.row →
      (wordBreak ch true).hcell r j = ch.hcell r j ∧ (wordBreak ch true).dcell r j = ch.dcell r j := by
  obtain ⟨_, hh, hd⟩ := wordBreak_true_dir h hm
  have hk := close_row h R S
  refine ⟨fun j hj => by rw [hh]; exact hk j hj, fun j hj => by rw [hd _ j hj, if_pos rfl]; exact hk j hj,
    fun r j hj hr => ?_⟩
  rw [hh, hd r j hj, if_neg hr, (wordBreak_edit h).rows r j hj hr]
  exact ⟨rfl, rfl⟩

/-- a row in sync (last typed character a space) shows the reference row -/
theorem dispRow_of_synced {ch : Channel} {v : Service} {lead : Bool} {c0 : Nat} {xs : List SCell}
    (Q : RowSim ch v lead c0 xs) (hd : directMode v) (sy : RowSynced ch lead (xs.map toCell)) (hx : xs ≠ [])
    (hlast : isSpaceChar (xs.getD (xs.length - 1) default) = true) : DispRowOK ch v.disp ch.row := by
  have hne : xs.map toCell ≠ [] := by simpa using hx
  have hpos : 0 < xs.length := List.length_pos_iff.mpr hx
  have hl' : ((xs.map toCell).getD ((xs.map toCell).length - 1) default).isSpace = true := by
    rw [List.length_map, getD_map_toCell _ (by omega), isSpace_toCell]; exact hlast
  obtain ⟨hl, hdc⟩ := sy hne hl'
  have S := Q.S
  rw [spec_target_dir hd.2] at S
  have hfit : c0 + xs.length ≤ 33 := by have := Q.R.fits; simpa using this
  intro j hj
  refine ⟨_, by rw [hdc j hj]; exact Q.R.cells j hj, ?_⟩
  rw [render_segRow S hx Q.R.c0pos hfit j hj, ← hl]
  rw [List.length_map] at hl'
  rw [hl']
  rfl

/-- libzvbi channel and reference service in roll-up mode with depth `n`; `synced` says that the base row of the
    displayed memory is up to date as well -/
structure RollRel (ch : Channel) (v : Service) (n : Nat) (synced : Bool) : Prop where
  inv : ChInv ch
  idx : ch.idx < 4
  mode : ch.mode = .rollUp
  roll : ch.roll = n
  vmode : v.mode = some (.rollUp n)
  n2 : 2 ≤ n
  n4 : n ≤ 4
  base : ch.row + 1 = ch.row1 + ch.roll
  vbase : v.base = ch.row
  rows : ∀ r, r < 15 → r ≠ ch.row → DispRowOK ch v.disp r
  cur : ∃ lead c0 xs, RowSim ch v lead c0 xs ∧ RowSynced ch lead (xs.map toCell)
  sync : synced = true → DispRowOK ch v.disp ch.row

theorem RollRel.direct {ch : Channel} {v : Service} {n : Nat} {s : Bool} (R : RollRel ch v n s) : directMode v := by
  unfold directMode; rw [R.vmode]; simp

theorem RollRel.dispOK {ch : Channel} {v : Service} {n : Nat} (R : RollRel ch v n true) : DispOK ch v.disp :=
  dispOK_of_rows R.rows (R.sync rfl)

theorem RollRel.page {ch : Channel} {v : Service} {n : Nat} (R : RollRel ch v n true) : pageMatches ch v :=
  pageMatches_of_dispOK R.inv R.dispOK

/-- all 2 x 15 x 34 cells of the channel are blank -/
def CellsBlank (x : Channel) : Prop := ∀ b r j, r < 15 → j < 34 → (x.pg b).cell r j = some tsC

theorem cellsBlank_iff {x : Channel} :
    CellsBlank x ↔ ∀ r j, r < 15 → j < 34 → x.hcell r j = some tsC ∧ x.dcell r j = some tsC :=
  ⟨fun h r j hr hj => ⟨h _ r j hr hj, h _ r j hr hj⟩, fun h b r j hr hj => by
    by_cases hb : b = x.hidden
    · rw [hb]; exact (h r j hr hj).1
    · have : b = !x.hidden := by cases b <;> cases hx : x.hidden <;> simp_all
      rw [this]; exact (h r j hr hj).2⟩

/-- both libzvbi memories blank, reference displayed memory empty -/
def AllBlank (ch : Channel) (v : Service) : Prop := CellsBlank ch ∧ ∀ r c, v.disp r c = none

theorem ruErase_blank {x : Channel} (h : ChInv x) (hidx : x.idx < 4) : CellsBlank (ruErase x) :=
  fun b _ _ hr hj => (ruErase_cells h b hr hj).trans (congrArg some (ts_of_idx4 hidx))

/-- the RUx command on the addressed caption channel: `switch_channel()`'s word break, then the erase and reset -/
def ruModel (ch : Channel) (n : Nat) : Channel := rollUpCmd (wordBreak ch true) n

/-- **RUx from an idle / fresh channel**: both sides erase both memories, the window is at rows 15-n+1 .. 15, the
    cursor at column 1 of row 15; the pens are the ones left by the last PAC -/
theorem ru_step {ch : Channel} {v : Service} (I : IdleRel ch v) {n : Nat} (h2 : 2 ≤ n) (h4 : n ≤ 4) :
    RollRel (ruModel ch n) (v.exec (.ru n)) n true ∧ AllBlank (ruModel ch n) (v.exec (.ru n)) := by
  have xu := wordBreak_upd I.inv true
  have xi := xu.inv I.inv
  unfold ruModel
  generalize wordBreak ch true = x at xi xu
  have hxm : ¬ ((x.mode == .rollUp && x.roll == n) = true) := by
    rw [xu.mode]
    rcases I.mode with ⟨hm, _⟩ | ⟨hm, _, _⟩ <;> rw [hm] <;> simp
  have e : rollUpCmd x n = ruFinish (ruErase x) n := by unfold rollUpCmd; rw [if_neg hxm]
  rw [e]
  have ue := ruErase_upd xi
  have hei := ue.inv xi
  have hc : CellsBlank (ruFinish (ruErase x) n) := ruErase_blank xi (by rw [xu.idx]; exact I.idx)
  have ev : v.exec (.ru n) =
      ({ v with mode := some (Style.rollUp n), disp := Mem.empty, nond := Mem.empty, base := 14, row := 14, col := 1 } : Service) := by
    unfold Service.exec
    rcases I.mode with ⟨_, hv⟩ | ⟨_, hv, _⟩ <;> rw [hv]
  have hblankRow : ∀ r, r < 15 → DispRowOK (ruFinish (ruErase x) n) (v.exec (.ru n)).disp r :=
    fun r hr => (rowShows_empty_iff (by rw [ev]; exact fun _ => rfl)).2 fun j hj => hc _ r j hr hj
  have hd : directMode (v.exec (.ru n)) := by unfold directMode; rw [ev]; simp
  refine ⟨⟨ruFinish_inv hei h2 h4, by show (ruErase x).idx < 4; rw [ue.idx, xu.idx]; exact I.idx, rfl, rfl, by rw [ev], h2, h4,
    by show 14 + 1 = (14 - n + 1) + n; omega, by rw [ev]; rfl, fun r hr _ => hblankRow r hr, ?_, fun _ => hblankRow 14 (by omega)⟩,
    ⟨hc, by rw [ev]; intro r c; rfl⟩⟩
  refine ⟨false, 1, [], ⟨RowIs.empty rfl rfl (by omega) (by omega) fun j hj => hc _ 14 j (by omega) hj, ?_, by rw [ev]; rfl,
    by rw [ev]; rfl, ?_, by rw [ev]; simp⟩, by intro h; simp at h⟩
  · rw [spec_target_dir hd.2, ev]
    exact SegRow.empty _ fun _ => rfl
  · show penMatches (ruErase x).attr _
    rw [ue.attr, xu.attr, ev]; exact I.pen


/-- character codes whose glyph is a space for both models (0x20, and 0x7F whose U+25A0 has low bits 0x20) -/
def spaceCode (ci : Nat) : Bool := (Eia608.basicChar ci &&& 0x7F) == 0x20

/-- does the text end with a space (a completed word)? -/
def endsSpace (cs : List Nat) : Bool :=
  match cs.getLast? with
  | some ci => spaceCode ci
  | none => false

/-- does the glyph run end with a space (a completed word)?  Special characters are never spaces. -/
def endsSpaceG (gs : List Glyph) : Bool :=
  match gs.getLast? with
  | some g => (g.uni &&& 0x7F) == 0x20
  | none => false

theorem last_of_typedG (xs : List SCell) (gs : List Glyph) (pen : Pen) (hne : gs ≠ []) :
    isSpaceChar ((xs ++ gs.map (fun g => ({ ch := g.uni, pen := pen } : SCell))).getD
      ((xs ++ gs.map (fun g => ({ ch := g.uni, pen := pen } : SCell))).length - 1) default) = endsSpaceG gs := by
  obtain ⟨init, l, rfl⟩ : ∃ init l, gs = init ++ [l] := ⟨gs.dropLast, gs.getLast hne, (List.dropLast_concat_getLast hne).symm⟩
  unfold endsSpaceG
  simp [List.getD_eq_getElem?_getD, isSpaceChar]

/-- glyphs typed in roll-up or paint-on mode, as the two relations need it: every other displayed row still shows the
    reference row, and the row under the cursor does after a run that ends with a space -/
theorem glyph_dir {ch : Channel} {v : Service} {lead : Bool} {c0 : Nat} {xs : List SCell} (chan : Nat) (gs : List Glyph)
    (h : ChInv ch) (hm : ch.mode ≠ .popOn) (hd : directMode v) (Q : RowSim ch v lead c0 xs)
    (sy : RowSynced ch lead (xs.map toCell)) (hne : gs ≠ []) (hw : ∀ g ∈ gs, g.ok = true)
    (hlen : c0 + xs.length + gs.length ≤ 33) :
    ∃ lead' xs', RowSim (glyphRun chan ch gs) (glyphRunS v gs) lead' c0 xs' ∧
      RowSynced (glyphRun chan ch gs) lead' (xs'.map toCell) ∧ ChInv (glyphRun chan ch gs) ∧ Frame ch (glyphRun chan ch gs) ∧
      (∀ r, r ≠ ch.row → DispRowOK ch v.disp r → DispRowOK (glyphRun chan ch gs) (glyphRunS v gs).disp r) ∧
      (∀ r c, r ≠ ch.row → (glyphRunS v gs).disp r c = v.disp r c) ∧
      (endsSpaceG gs = true → DispRowOK (glyphRun chan ch gs) (glyphRunS v gs).disp (glyphRun chan ch gs).row) ∧
      (glyphRunS v gs).mode = v.mode ∧ (glyphRunS v gs).base = v.base := by
  obtain ⟨lead', xs', ex, Q2, sy2, i2, f2, d2, o2, m2, b2, _⟩ := glyph_sim chan c0 gs h Q (fun _ => sy) hw hlen
  have hd2 : directMode (glyphRunS v gs) := by unfold directMode; rw [m2]; exact hd
  have o2 : ∀ r c, r ≠ ch.row → (glyphRunS v gs).disp r c = v.disp r c := fun r c hr => by
    have := o2 r c (by rw [Q.vrow]; exact hr)
    rwa [spec_target_dir hd2.2, spec_target_dir hd.2] at this
  refine ⟨lead', xs', Q2, sy2 hm, i2, f2, ?_, o2, ?_, m2, b2⟩
  · exact fun r hr D => RowShows.congr D (fun j hj => d2 r j hj (Or.inl hr)) fun c => o2 r c hr
  · intro hs
    have hl := last_of_typedG xs gs v.pen hne
    rw [← ex, hs] at hl
    exact dispRow_of_synced Q2 hd2 (sy2 hm) (by rw [ex]; simp [hne]) hl

theorem glyph_roll {ch : Channel} {v : Service} {n : Nat} {s : Bool} (R : RollRel ch v n s) (chan : Nat) (gs : List Glyph)
    (hne : gs ≠ []) (hw : ∀ g ∈ gs, g.ok = true) (hlen : v.col + gs.length ≤ 33) :
    RollRel (glyphRun chan ch gs) (glyphRunS v gs) n (endsSpaceG gs) := by
  obtain ⟨lead, c0, xs, Q, sy⟩ := R.cur
  have hcol : v.col = c0 + xs.length := by rw [Q.vcol, Q.R.col]; simp
  obtain ⟨lead', xs', Q2, sy2, i2, f2, hrows, _, hsync, m2, b2⟩ :=
    glyph_dir chan gs R.inv (by rw [R.mode]; decide) R.direct Q sy hne hw (by omega)
  exact ⟨i2, by rw [f2.idx]; exact R.idx, by rw [f2.mode]; exact R.mode, by rw [f2.roll]; exact R.roll,
    by rw [m2]; exact R.vmode, R.n2, R.n4, by rw [f2.row, f2.row1, f2.roll]; exact R.base, by rw [b2, f2.row]; exact R.vbase,
    fun r hr hne' => hrows r (f2.row ▸ hne') (R.rows r hr (f2.row ▸ hne')), ⟨lead', c0, xs', Q2, sy2⟩, hsync⟩

theorem endsSpaceG_codes (cs : List Nat) : endsSpaceG (cs.map .code) = endsSpace cs := by
  unfold endsSpaceG endsSpace; rw [List.getLast?_map]; cases cs.getLast? <;> rfl

/-- text in roll-up mode: the relation is kept; the base row of the displayed memory is in sync exactly after
    a text that ends with a space -/
theorem text_roll {ch : Channel} {v : Service} {n : Nat} {s : Bool} (R : RollRel ch v n s) (cs : List Nat)
    (hne : cs ≠ []) (hw : ∀ ci ∈ cs, isCharCode ci = true) (hlen : v.col + cs.length ≤ 33) :
    RollRel (charRun ch cs) (specRun v cs) n (endsSpace cs) := by
  rw [charRun_eq_glyphRun 0, specRun_eq_glyphRunS, ← endsSpaceG_codes]
  exact glyph_roll R 0 _ (by simpa using hne) (codes_ok hw) (by simpa using hlen)


/-- closing word break + row update in roll-up mode: afterwards the whole displayed memory is up to date -/
theorem sync_all {ch : Channel} {v : Service} {n : Nat} {s : Bool} (R : RollRel ch v n s) :
    ChInv (update (wordBreak ch true)) ∧ Upd ch (update (wordBreak ch true)) ∧
    DispOK (update (wordBreak ch true)) v.disp := by
  obtain ⟨lead, c0, xs, Q, _⟩ := R.cur
  have S := Q.S
  rw [spec_target_dir R.direct.2] at S
  obtain ⟨hk, _, ho⟩ := close_dir R.inv (by rw [R.mode]; decide) Q.R S
  have uW := wordBreak_upd R.inv true
  have hW := uW.inv R.inv
  refine ⟨(update_upd hW).inv hW, uW.trans (update_upd hW), fun r hr j hj => ?_⟩
  rw [(update_cells hW).2 r j hj, uW.row]
  by_cases he : r = ch.row
  · rw [if_pos he, he]; exact hk j hj
  · rw [if_neg he, (ho r j hj he).2]; exact R.rows r hr he j hj

/-- **Carriage Return in roll-up mode**: both windows roll, both cursors return to column 1 of the base row, and the
    whole displayed memory is up to date afterwards -/
theorem cr_step {ch : Channel} {v : Service} {n : Nat} {s : Bool} (R : RollRel ch v n s) {chan : Nat} (hchan : chan < 4) :
    RollRel (carriageReturn ch chan) (v.exec .cr) n true := by
  obtain ⟨xi, xu, xd⟩ := sync_all R
  obtain ⟨_, _, _, _, _, r6⟩ := carriageReturn_rollup R.inv chan R.mode R.base
  have hinv := (carriageReturn_step R.inv chan).1
  obtain ⟨lead, c0, xs, Q, _⟩ := R.cur
  have hd := R.direct
  have hrow := R.inv.row_le
  have hwin := R.inv.win
  have hbase := R.base
  have u2 := crMove_upd xi (!ch.hidden)
  have hy := u2.inv xi
  have u3 := crClear_upd hy chan
  obtain ⟨uf, f8, _⟩ := crFinish_spec (u3.inv hy) ch.row
  rw [← carriageReturn_roll_eq R.inv chan R.mode R.base] at uf f8
  have u : Upd { ch with col1 := 1, col := 1 } (carriageReturn ch chan) := (((xu.trans u2).trans u3).withCols 1 1).trans uf
  have hblank : ∀ j, j < 34 → (carriageReturn ch chan).hcell ch.row j = some tsC := by
    intro j hj
    rw [f8]
    have p := fill_pg hy (a := 0) (n := 34 + 1) (by omega) (transpSpace (decide (4 ≤ chan))) "cr: clear line[0..COLUMNS]"
    have hl := pg_len hy (crMove (update (wordBreak ch true)) (!ch.hidden)).hidden
    unfold Channel.hcell Page.cell
    show ((fill _ 0 (34 + 1) _ _).pg (crClear _ chan).hidden).text[_]? = _
    rw [u3.hidden, p.1, hy.line_off, fillList_get _ _ _ _ _ (by rw [hl]; have := hy.row_le; omega), (xu.trans u2).row,
      if_pos (by omega), tsC_of_chan hchan]
  have ev : v.exec .cr = { v with disp := rollWindow v.disp (v.base + 1 - n) v.base, row := v.base, col := 1 } := by
    unfold Service.exec; rw [R.vmode]
  have htop : v.base + 1 - n = ch.row1 := by rw [R.vbase]; have := R.roll; omega
  have hd' : directMode (v.exec .cr) := by unfold directMode; rw [ev]; exact hd
  have hdc : ∀ r, r < 15 → ∀ j, j < 34 → (carriageReturn ch chan).dcell r j =
      if r = ch.row then some tsC
      else (update (wordBreak ch true)).dcell (if ch.row1 ≤ r ∧ r < ch.row then r + 1 else r) j := by
    intro r hr j hj
    have := r6 (r * 34 + j) (by omega)
    rw [displayed_get _ hr hj] at this
    rw [this]
    by_cases hre : r = ch.row
    · rw [if_pos (by omega), if_pos hre, tsC_of_chan hchan]
    · rw [if_neg (by omega), if_neg hre]
      by_cases hw : ch.row1 ≤ r ∧ r < ch.row
      · rw [if_pos (by omega), if_pos hw, show r * 34 + j + 34 = (r + 1) * 34 + j by omega, displayed_get _ (by omega) hj]
      · rw [if_neg (by omega), if_neg hw, displayed_get _ hr hj]
  have hdisp : ∀ r, r < 15 → DispRowOK (carriageReturn ch chan) (v.exec .cr).disp r := by
    intro r hr
    rw [ev]
    by_cases hre : r = ch.row
    · refine (rowShows_empty_iff fun c => ?_).2 fun j hj => by rw [hdc r hr j hj, if_pos hre]
      show rollWindow v.disp (v.base + 1 - n) v.base r c = none
      unfold rollWindow
      rw [hre, R.vbase]
      simp
    · by_cases hw : ch.row1 ≤ r ∧ r < ch.row
      · refine RowShows.congr (xd (r + 1) (by omega)) (fun j hj => by rw [hdc r hr j hj, if_neg hre, if_pos hw]) fun c => ?_
        show rollWindow v.disp (v.base + 1 - n) v.base r c = _
        unfold rollWindow
        rw [htop, R.vbase, if_pos hw]
      · refine RowShows.congr (xd r hr) (fun j hj => by rw [hdc r hr j hj, if_neg hre, if_neg hw]) fun c => ?_
        show rollWindow v.disp (v.base + 1 - n) v.base r c = _
        unfold rollWindow
        rw [htop, R.vbase, if_neg hw, if_neg hre]
  refine ⟨hinv, by rw [u.idx]; exact R.idx, by rw [u.mode]; exact R.mode, by rw [u.roll]; exact R.roll,
    by rw [ev]; exact R.vmode, R.n2, R.n4, by rw [u.row, u.row1, u.roll]; exact R.base,
    by rw [ev, u.row]; exact R.vbase, fun r hr _ => hdisp r hr, ?_, fun _ => by rw [u.row]; exact hdisp ch.row (by omega)⟩
  refine ⟨false, 1, [], ⟨RowIs.empty u.col1 u.col (by omega) (by omega) fun j hj => by rw [u.row]; exact hblank j hj, ?_,
    by rw [ev, u.row]; exact R.vbase, by rw [ev, u.col], by rw [u.attr, ev]; exact Q.pen, by rw [ev]; exact hd.1⟩,
    by intro h; simp at h⟩
  rw [spec_target_dir hd'.2, ev, u.row]
  refine SegRow.empty _ fun c => ?_
  show rollWindow v.disp (v.base + 1 - n) v.base ch.row c = _
  unfold rollWindow
  rw [R.vbase]
  simp


/-! ## the optional PAC right after RUx (window still empty) -/

theorem blank_wordBreak {x : Channel} (h : ChInv x) (hcol : x.col = x.col1) (hb : CellsBlank x) :
    CellsBlank (wordBreak x true) := by
  have hr : x.row < 15 := by have := h.row_le; omega
  obtain ⟨hh, hd⟩ := wordBreak_idle h hcol fun _ j hj => (hb _ _ j hr hj).trans (hb _ _ j hr hj).symm
  exact cellsBlank_iff.2 fun r j hr hj => ⟨(hh r j).trans (hb _ r j hr hj), (hd r j hj).trans (hb _ r j hr hj)⟩

theorem moveWindow_empty {m : Mem} (h : ∀ r c, m r c = none) (n old new : Nat) : ∀ r c, moveWindow m n old new r c = none := by
  intro r c
  unfold moveWindow
  repeat' split
  all_goals first | rfl | exact h _ _

theorem pacCursor_facts {x : Channel} (h : ChInv x) (hidx : x.idx < 4) (hb : CellsBlank x) (r : Nat) :
    (pacCursor x r).idx = x.idx ∧ (pacCursor x r).roll = x.roll ∧ CellsBlank (pacCursor x r) := by
  unfold pacCursor
  split
  · rw [pacRelocate_eq h r]
    split
    · exact ⟨rfl, rfl, hb⟩
    · refine ⟨rfl, rfl, fun b r j hr hj => ?_⟩
      cases b <;> exact (Page.blank_cell _ _ _ hr hj).trans (congrArg some (ts_of_idx4 hidx))
  · exact ⟨rfl, rfl, hb⟩

/-- the reference's PAC in roll-up mode while nothing is on display: base row, cursor and pen change, the display stays empty -/
theorem exec_pac_roll {v : Service} {n : Nat} (hm : v.mode = some (.rollUp n)) (he : ∀ r c, v.disp r c = none) (r ind : Nat)
    (col : Option Nat) (u : Bool) :
    (∀ r' c, (v.exec (.pac r ind col u)).disp r' c = none) ∧ (v.exec (.pac r ind col u)).mode = some (.rollUp n) ∧
    (v.exec (.pac r ind col u)).base = (if r + 1 < n then n - 1 else r) ∧
    (v.exec (.pac r ind col u)).row = (if r + 1 < n then n - 1 else r) ∧ (v.exec (.pac r ind col u)).col = 1 + ind ∧
    (v.exec (.pac r ind col u)).pen = v.pen' (col.getD 0) u true := by
  have ex : v.exec (.pac r ind col u) =
      { (if (if r + 1 < n then n - 1 else r) = v.base then v
         else { v with disp := moveWindow v.disp n v.base (if r + 1 < n then n - 1 else r),
                       base := (if r + 1 < n then n - 1 else r) }) with
        row := (if r + 1 < n then n - 1 else r), col := 1 + ind, pen := v.pen' (col.getD 0) u true } := by
    cases v
    simp only at hm
    subst hm
    rfl
  rw [ex]
  by_cases hbq : (if r + 1 < n then n - 1 else r) = v.base
  · rw [if_pos hbq]
    exact ⟨he, hm, hbq.symm, rfl, rfl, rfl⟩
  · rw [if_neg hbq]
    exact ⟨moveWindow_empty he _ _ _, hm, rfl, rfl, rfl, rfl⟩

/-- **PAC right after RUx** (both memories still blank): the window moves to the new base row on both sides
    (clamped so that it fits), cursors to column 1 + indent, pens agree; still nothing on display -/
theorem pac_roll {ch : Channel} {v : Service} {n : Nat} {s : Bool} (R : RollRel ch v n s) (B : AllBlank ch v)
    {chan c1 c2 : Nat} (hchan : chan < 4) (h1 : c1 < 8) (h2 : c2 < 128) (h3 : 0x40 ≤ c2) {r ind : Nat} {col : Option Nat}
    {u : Bool} (ha : pacArgs c1 c2 = some (r, ind, col, u)) :
    RollRel (pac ch chan c1 c2) (v.exec (.pac r ind col u)) n true ∧
    AllBlank (pac ch chan c1 c2) (v.exec (.pac r ind col u)) := by
  obtain ⟨hr14, hind, e, hpi, hpcol, hpcol1, smode, _, srow, hpen⟩ :=
    pac_at R.inv (by rw [R.mode]; decide) chan h1 h2 h3 ha
  obtain ⟨srow1, srowb⟩ := srow R.mode
  -- the current row is empty, so the word break is the trivial one
  obtain ⟨lead, c0, xs, Q, _⟩ := R.cur
  have hd := R.direct
  have hxs : xs = [] := by
    cases xs with
    | nil => rfl
    | cons a t =>
      exfalso
      have := Q.S c0
      rw [spec_target_dir hd.2, B.2] at this
      simp at this
  have hcoleq : (pacAttr ch c2).col = (pacAttr ch c2).col1 := by
    show ch.col = ch.col1; rw [Q.R.col, Q.R.col1, hxs]; simp
  have hA : ChInv (pacAttr ch c2) := R.inv.withAttr _
  have bW := blank_wordBreak hA hcoleq (B.1 : CellsBlank (pacAttr ch c2))
  have uW := wordBreak_upd hA true
  have hW := uW.inv hA
  generalize wordBreak (pacAttr ch c2) true = w at e bW uW hW
  have hwidx : w.idx < 4 := by rw [uW.idx]; exact R.idx
  obtain ⟨ci, cr, cb⟩ := pacCursor_facts hW hwidx bW r
  have hY := pacCursor_inv hW hr14
  generalize pacCursor w r = y at e ci cr cb hY
  have hh := pacStyle_blank hY hchan c2 fun j hj => cb _ _ j (by have := hY.row_le; omega) hj
  have eS := pacStyle_edit hY chan c2
  rw [← e] at hh eS
  have hblank : CellsBlank (pac ch chan c1 c2) := cellsBlank_iff.2 fun r' j hr' hj => by
    rw [hh r' j hj, eS.dcell]; exact ⟨cb _ r' j hr' hj, cb _ r' j hr' hj⟩
  have hproll : (pac ch chan c1 c2).roll = n := by rw [eS.roll, cr, uW.roll]; exact R.roll
  obtain ⟨hvdisp, vm, vb, vr, vc, vp⟩ := exec_pac_roll R.vmode B.2 r ind col u
  have hprow : (pac ch chan c1 c2).row = (if r + 1 < n then n - 1 else r) := by
    have := R.roll; have := R.n2
    rw [‹ch.roll = n›] at srow1 srowb
    split <;> omega
  have hd' : directMode (v.exec (.pac r ind col u)) := by unfold directMode; rw [vm]; simp
  have hrowOK : ∀ r', r' < 15 → DispRowOK (pac ch chan c1 c2) (v.exec (.pac r ind col u)).disp r' :=
    fun r' hr' => (rowShows_empty_iff (hvdisp r')).2 fun j hj => hblank _ r' j hr' hj
  refine ⟨⟨hpi, by rw [eS.idx, ci]; exact hwidx, by rw [smode]; exact R.mode, hproll, vm, R.n2, R.n4,
    by rw [hproll, ← R.roll]; exact srowb, by rw [vb, hprow], fun r' hr' _ => hrowOK r' hr', ?_,
    fun _ => hrowOK _ (by have := hpi.row_le; omega)⟩, hblank, hvdisp⟩
  refine ⟨false, 1 + ind, [], ⟨RowIs.empty (by rw [hpcol1]) hpcol (by omega) (by omega)
      fun j hj => hblank _ _ j (by have := hpi.row_le; omega) hj,
    ?_, by rw [vr, hprow], by rw [vc, hpcol], vp ▸ hpen v, by rw [vm]; simp⟩, by intro h; simp at h⟩
  rw [spec_target_dir hd'.2]
  exact SegRow.empty _ (hvdisp _)


/-! ## whole roll-up scripts  `RUn (PAC)? (text | CR)*` -/
/-- what follows RUx [PAC] in a roll-up script: runs of text and carriage returns -/
inductive ROp
  | text (cs : List Nat)
  | cr

def rollOpModel (chan : Nat) (ch : Channel) : ROp → Channel
  | .text cs => charRun ch cs
  | .cr => carriageReturn ch chan

def rollOpSpec (v : Service) : ROp → Service
  | .text cs => specRun v cs
  | .cr => v.exec .cr

/-- well-formed op, judged on the reference state: characters 0x20..0x7F that fit into the row -/
def ROp.ok (v : Service) : ROp → Prop
  | .text cs => cs ≠ [] ∧ (∀ ci ∈ cs, isCharCode ci = true) ∧ v.col + cs.length ≤ 33
  | .cr => True

/-- is the display up to date after this op?  (completed word, or carriage return) -/
def ROp.visible : ROp → Bool
  | .text cs => endsSpace cs
  | .cr => true

def ropsOk : Service → List ROp → Prop
  | _, [] => True
  | v, op :: rest => op.ok v ∧ ropsOk (rollOpSpec v op) rest

theorem rollOp_step {ch : Channel} {v : Service} {n : Nat} {s : Bool} (R : RollRel ch v n s) {chan : Nat}
    (hchan : chan < 4) (op : ROp) (hok : op.ok v) :
    RollRel (rollOpModel chan ch op) (rollOpSpec v op) n op.visible := by
  cases op with
  | text cs => exact text_roll R cs hok.1 hok.2.1 hok.2.2
  | cr => exact cr_step R hchan

/-- after every prefix of the ops whose last op is a visibility point, the fetched page is the reference page -/
theorem rollOps_refine (chan : Nat) (hchan : chan < 4) (n : Nat) (ops : List ROp) :
    ∀ {ch : Channel} {v : Service} {s : Bool}, RollRel ch v n s → ropsOk v ops →
    ∀ k, (hk0 : 0 < k) → (hk : k ≤ ops.length) → (ops[k - 1]'(by omega)).visible = true →
      pageMatches ((ops.take k).foldl (rollOpModel chan) ch) ((ops.take k).foldl rollOpSpec v) := by
  intro ch v s R hok
  exact (foldl_sim (rollOpModel chan) rollOpSpec ROp.visible (fun b x y => RollRel x y n b) pageMatches (fun _ => ropsOk)
    (fun _ _ _ op _ R h => ⟨_, rollOp_step R hchan op h.1, h.2, fun hv => (hv ▸ rollOp_step R hchan op h.1).page⟩)
    ops s ch v R hok).2

/-- a roll-up script: `RUn`, an optional PAC, then text runs and carriage returns -/
structure RollScript where
  n : Nat
  pac : Option (Nat × Nat)
  ops : List ROp

def RollScript.startModel (chan : Nat) (ch : Channel) (sc : RollScript) : Channel :=
  match sc.pac with
  | some (c1, c2) => Zvbi.Cc.pac (ruModel ch sc.n) chan c1 c2
  | none => ruModel ch sc.n

def RollScript.startSpec (v : Service) (sc : RollScript) : Service :=
  match sc.pac with
  | some (c1, c2) =>
    match pacArgs c1 c2 with
    | some (r, ind, col, u) => (v.exec (.ru sc.n)).exec (.pac r ind col u)
    | none => v.exec (.ru sc.n)
  | none => v.exec (.ru sc.n)

def RollScript.ok (v : Service) (sc : RollScript) : Prop :=
  2 ≤ sc.n ∧ sc.n ≤ 4 ∧
  (∀ c1 c2, sc.pac = some (c1, c2) → c1 < 8 ∧ c2 < 128 ∧ 0x40 ≤ c2 ∧ (pacArgs c1 c2).isSome) ∧
  ropsOk (sc.startSpec v) sc.ops

/-- `RUn` and the optional PAC; stated on the start of a `RollScript`, and read at a `GRollScript` too (the two starts
    unfold to the same term) -/
theorem roll_start {ch : Channel} {v : Service} (I : IdleRel ch v) {chan : Nat} (hchan : chan < 4) {n : Nat} (h2 : 2 ≤ n)
    (h4 : n ≤ 4) (pac : Option (Nat × Nat))
    (hp : ∀ c1 c2, pac = some (c1, c2) → c1 < 8 ∧ c2 < 128 ∧ 0x40 ≤ c2 ∧ (pacArgs c1 c2).isSome) :
    RollRel ((⟨n, pac, []⟩ : RollScript).startModel chan ch) ((⟨n, pac, []⟩ : RollScript).startSpec v) n true := by
  obtain ⟨R0, B0⟩ := ru_step I h2 h4
  unfold RollScript.startModel RollScript.startSpec
  cases pac with
  | none => exact R0
  | some p =>
    obtain ⟨c1, c2⟩ := p
    obtain ⟨a1, a2, a3, a4⟩ := hp c1 c2 rfl
    cases ha : pacArgs c1 c2 with
    | none => rw [ha] at a4; cases a4
    | some a =>
      obtain ⟨r, ind, col, u⟩ := a
      simp only [ha]
      exact (pac_roll R0 B0 hchan a1 a2 a3 ha).1

/-- **roll-up refinement, channel level.**  From an idle or fresh channel, a well-formed roll-up script
    `RUn [PAC] (text | CR)*`: right after `RUn [PAC]`, after every run of text that ends with a space and after
    every carriage return, the fetched page equals the reference display memory, cell for cell. -/
theorem rollup_refines {ch : Channel} {v : Service} (I : IdleRel ch v) {chan : Nat} (hchan : chan < 4) (sc : RollScript)
    (hok : sc.ok v) :
    pageMatches (sc.startModel chan ch) (sc.startSpec v) ∧
    ∀ k, (hk0 : 0 < k) → (hk : k ≤ sc.ops.length) → (sc.ops[k - 1]'(by omega)).visible = true →
      pageMatches ((sc.ops.take k).foldl (rollOpModel chan) (sc.startModel chan ch))
        ((sc.ops.take k).foldl rollOpSpec (sc.startSpec v)) := by
  obtain ⟨h2, h4, hp, hops⟩ := hok
  have start : RollRel (sc.startModel chan ch) (sc.startSpec v) sc.n true := roll_start I hchan h2 h4 sc.pac hp
  exact ⟨start.page, rollOps_refine chan hchan sc.n sc.ops start hops⟩


/-! ## roll-up scripts whose text mixes basic and special characters (over `glyph_roll`) -/

/-- what follows RUx [PAC] in a roll-up script: runs of glyphs and carriage returns -/
inductive GOp
  | text (gs : List Glyph)
  | cr

def gRollOpModel (chan : Nat) (ch : Channel) : GOp → Channel
  | .text gs => glyphRun chan ch gs
  | .cr => carriageReturn ch chan

def gRollOpSpec (v : Service) : GOp → Service
  | .text gs => glyphRunS v gs
  | .cr => v.exec .cr

/-- well-formed op, judged on the reference state: basic characters 0x20..0x7F and special characters that fit into the row -/
def GOp.ok (v : Service) : GOp → Prop
  | .text gs => gs ≠ [] ∧ (∀ g ∈ gs, g.ok = true) ∧ v.col + gs.length ≤ 33
  | .cr => True

/-- is the display up to date after this op?  (completed word, or carriage return) -/
def GOp.visible : GOp → Bool
  | .text gs => endsSpaceG gs
  | .cr => true

def gopsOk : Service → List GOp → Prop
  | _, [] => True
  | v, op :: rest => op.ok v ∧ gopsOk (gRollOpSpec v op) rest

theorem gRollOp_step {ch : Channel} {v : Service} {n : Nat} {s : Bool} (R : RollRel ch v n s) {chan : Nat}
    (hchan : chan < 4) (op : GOp) (hok : op.ok v) :
    RollRel (gRollOpModel chan ch op) (gRollOpSpec v op) n op.visible := by
  cases op with
  | text gs => exact glyph_roll R chan gs hok.1 hok.2.1 hok.2.2
  | cr => exact cr_step R hchan

theorem gRollOps_refine (chan : Nat) (hchan : chan < 4) (n : Nat) (ops : List GOp) :
    ∀ {ch : Channel} {v : Service} {s : Bool}, RollRel ch v n s → gopsOk v ops →
    ∀ k, (hk0 : 0 < k) → (hk : k ≤ ops.length) → (ops[k - 1]'(by omega)).visible = true →
      pageMatches ((ops.take k).foldl (gRollOpModel chan) ch) ((ops.take k).foldl gRollOpSpec v) := by
  intro ch v s R hok
  exact (foldl_sim (gRollOpModel chan) gRollOpSpec GOp.visible (fun b x y => RollRel x y n b) pageMatches (fun _ => gopsOk)
    (fun _ _ _ op _ R h => ⟨_, gRollOp_step R hchan op h.1, h.2, fun hv => (hv ▸ gRollOp_step R hchan op h.1).page⟩)
    ops s ch v R hok).2

/-- a roll-up script: `RUn`, an optional PAC, then glyph runs and carriage returns -/
structure GRollScript where
  n : Nat
  pac : Option (Nat × Nat)
  ops : List GOp

def GRollScript.startModel (chan : Nat) (ch : Channel) (sc : GRollScript) : Channel :=
  match sc.pac with
  | some (c1, c2) => Zvbi.Cc.pac (ruModel ch sc.n) chan c1 c2
  | none => ruModel ch sc.n

def GRollScript.startSpec (v : Service) (sc : GRollScript) : Service :=
  match sc.pac with
  | some (c1, c2) =>
    match pacArgs c1 c2 with
    | some (r, ind, col, u) => (v.exec (.ru sc.n)).exec (.pac r ind col u)
    | none => v.exec (.ru sc.n)
  | none => v.exec (.ru sc.n)

def GRollScript.ok (v : Service) (sc : GRollScript) : Prop :=
  2 ≤ sc.n ∧ sc.n ≤ 4 ∧
  (∀ c1 c2, sc.pac = some (c1, c2) → c1 < 8 ∧ c2 < 128 ∧ 0x40 ≤ c2 ∧ (pacArgs c1 c2).isSome) ∧
  gopsOk (sc.startSpec v) sc.ops

end Zvbi.Cc
