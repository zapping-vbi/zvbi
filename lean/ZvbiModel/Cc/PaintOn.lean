import ZvbiModel.Cc.RollUp
/-!
# Refinement to `Eia608`: paint-on captions  `RDC (PAC | glyph*)*`
-/
namespace Zvbi.Cc
open Zvbi.Gen.Cc Eia608

/-- libzvbi channel and reference service in paint-on mode.  `synced`: the displayed row under the cursor is up to
    date; `cursorOK`: cursors and pens agree (true from the first PAC on); `fresh`: a row the reference shows empty is blank in
    the WORKING memory too, so that a PAC landing there finds a blank row -/
structure PaintRel (ch : Channel) (v : Service) (synced cursorOK : Bool) : Prop where
  inv : ChInv ch
  idx : ch.idx < 4
  mode : ch.mode = .paintOn
  vmode : v.mode = some .paintOn
  rows : ∀ r, r < 15 → r ≠ ch.row → DispRowOK ch v.disp r
  fresh : ∀ r, r < 15 → r ≠ ch.row → (∀ c, v.disp r c = none) → ∀ j, j < 34 → ch.hcell r j = some tsC
  cur : ∃ lead c0 xs, RowIs ch lead false c0 (xs.map toCell) ∧ SegRow v.disp ch.row c0 xs ∧
          RowSynced ch lead (xs.map toCell)
  sync : synced = true → DispRowOK ch v.disp ch.row
  cursor : cursorOK = true → v.row = ch.row ∧ v.col = ch.col ∧ penMatches ch.attr v.pen

theorem PaintRel.direct {ch : Channel} {v : Service} {s c : Bool} (P : PaintRel ch v s c) : directMode v := by
  unfold directMode; rw [P.vmode]; simp

theorem PaintRel.dispOK {ch : Channel} {v : Service} {c : Bool} (P : PaintRel ch v true c) : DispOK ch v.disp :=
  dispOK_of_rows P.rows (P.sync rfl)

theorem PaintRel.page {ch : Channel} {v : Service} {c : Bool} (P : PaintRel ch v true c) : pageMatches ch v :=
  pageMatches_of_dispOK P.inv P.dispOK

/-- Resume Direct Captioning on the addressed caption channel -/
def rdcModel (ch : Channel) : Channel := { wordBreak ch true with mode := .paintOn }

/-- **RDC from an idle / fresh channel** whose cursor row is empty on display -/
theorem rdc_step {ch : Channel} {v : Service} (I : IdleRel ch v) (hrow : ∀ c, v.disp ch.row c = none) :
    PaintRel (rdcModel ch) (v.exec .rdc) true false := by
  obtain ⟨xi, xu, xh, xd⟩ := idle_wordBreak I
  unfold rdcModel
  generalize wordBreak ch true = x at xi xu xh xd
  have ev : v.exec .rdc = { v with mode := some .paintOn } := rfl
  have hrl : ch.row < 15 := by have := I.inv.row_le; omega
  refine ⟨xi.withMode _, by show x.idx < 4; rw [xu.idx]; exact I.idx, rfl, by rw [ev], ?_, ?_, ?_, ?_, by intro h; cases h⟩
  · intro r hr _ j hj; rw [ev]; exact xd r hr j hj
  · intro r hr _ _ j hj
    show x.hcell r j = _
    rw [xh]; exact I.hid r hr j hj
  · refine ⟨false, ch.col1, [], RowIs.empty (ch := { x with mode := .paintOn }) xu.col1 (by show x.col = _; rw [xu.col, I.coleq])
      I.inv.col1_pos (by have := I.inv.col1_le; have := I.inv.col_le; omega)
      (fun j hj => by show x.hcell x.row j = _; rw [xh, xu.row, I.hid _ hrl j hj]), ?_, by intro h; simp at h⟩
    rw [ev]; show SegRow v.disp x.row _ _; rw [xu.row]
    exact SegRow.empty _ hrow
  · intro _ j hj
    rw [ev]; show ∃ c, x.dcell x.row j = some c ∧ _
    rw [xu.row]; exact xd _ hrl j hj


/-- **PAC in paint-on mode**, addressed to a row that is empty in the reference displayed memory: the row left behind
    is completed (solid spaces) and copied to the display, both cursors go to the new row, pens agree -/
theorem pac_paint {ch : Channel} {v : Service} {s cu : Bool} (P : PaintRel ch v s cu) {chan c1 c2 : Nat} (hchan : chan < 4)
    (h1 : c1 < 8) (h2 : c2 < 128) (h3 : 0x40 ≤ c2) {r ind : Nat} {col : Option Nat} {u : Bool}
    (ha : pacArgs c1 c2 = some (r, ind, col, u)) (hempty : ∀ c, v.disp r c = none) :
    PaintRel (pac ch chan c1 c2) (v.exec (.pac r ind col u)) true true := by
  have hmn : ch.mode ≠ .none := by rw [P.mode]; decide
  have hru : ch.mode ≠ .rollUp := by rw [P.mode]; decide
  obtain ⟨hr14, _, _, hpi, hpcol, _, smode, srow, _, hpen⟩ := pac_at P.inv hmn chan h1 h2 h3 ha
  have srow := srow hru
  -- the closing word break: every displayed row is right afterwards, and empty reference rows are blank in the hidden memory
  obtain ⟨lead, c0, xs, R, S, _⟩ := P.cur
  have hA : ChInv (pacAttr ch c2) := P.inv.withAttr _
  obtain ⟨hk, dk, ho⟩ := close_dir hA (by show ch.mode ≠ .popOn; rw [P.mode]; decide)
    (R.transfer rfl rfl rfl (fun _ _ => rfl) : RowIs (pacAttr ch c2) lead false c0 (xs.map toCell)) S
  have hallD : ∀ r', r' < 15 → DispRowOK (wordBreak (pacAttr ch c2) true) v.disp r' := by
    intro r' hr'
    by_cases he : r' = ch.row
    · rw [he]; exact dk
    · intro j hj
      rw [(ho r' j hj he).2]; exact P.rows r' hr' he j hj
  have hallF : ∀ r', r' < 15 → (∀ c, v.disp r' c = none) → ∀ j, j < 34 →
      (wordBreak (pacAttr ch c2) true).hcell r' j = some tsC := by
    intro r' hr' he j hj
    by_cases hcr : r' = ch.row
    · rw [hcr]; exact (rowShows_empty_iff (hcr ▸ he)).1 hk j hj
    · rw [(ho r' j hj hcr).1]; exact P.fresh r' hr' hcr he j hj
  obtain ⟨pidx, pd, ph, pR⟩ := pac_plain P.inv hmn hru hchan h1 h2 h3 ha (hallF r (by omega) hempty)
  have ev : v.exec (.pac r ind col u) = { v with row := r, col := 1 + ind, pen := v.pen' (col.getD 0) u true } := by
    unfold Service.exec; rw [P.vmode]
  have hSeg : SegRow v.disp (pac ch chan c1 c2).row (1 + ind) [] := srow ▸ SegRow.empty _ hempty
  rw [ev]
  have hrowOK : ∀ r', r' < 15 → DispRowOK (pac ch chan c1 c2) v.disp r' := fun r' hr' j hj => by
    rw [pd]; exact hallD r' hr' j hj
  refine ⟨hpi, by rw [pidx]; exact P.idx, by rw [smode, P.mode], P.vmode, fun r' hr' _ => hrowOK r' hr', ?_,
    ⟨false, 1 + ind, [], pR, hSeg, by intro h; simp at h⟩,
    fun _ => by rw [srow]; exact hrowOK r (by omega), fun _ => ⟨srow.symm, hpcol.symm, hpen v⟩⟩
  intro r' hr' _ he j hj
  rw [ph r' j hj]; exact hallF r' hr' he j hj

theorem glyph_paint {ch : Channel} {v : Service} {s : Bool} (P : PaintRel ch v s true) (chan : Nat) (gs : List Glyph)
    (hne : gs ≠ []) (hw : ∀ g ∈ gs, g.ok = true) (hlen : v.col + gs.length ≤ 33) :
    PaintRel (glyphRun chan ch gs) (glyphRunS v gs) (endsSpaceG gs) true := by
  obtain ⟨lead, c0, xs, R, S, sy⟩ := P.cur
  obtain ⟨vr, vc, vp⟩ := P.cursor rfl
  have hd := P.direct
  have Q : RowSim ch v lead c0 xs := ⟨R, by rw [spec_target_dir hd.2]; exact S, vr, vc, vp, hd.1⟩
  have hcol : v.col = c0 + xs.length := by rw [vc, R.col]; simp
  obtain ⟨lead', xs', Q2, sy2, i2, f2, hrows, o2, hsync, m2, _⟩ :=
    glyph_dir chan gs P.inv (by rw [P.mode]; decide) hd Q sy hne hw (by omega)
  have S2 := Q2.S
  rw [spec_target_dir (by rw [m2]; exact hd.2)] at S2
  refine ⟨i2, by rw [f2.idx]; exact P.idx, by rw [f2.mode]; exact P.mode, by rw [m2]; exact P.vmode,
    fun r hr hne' => hrows r (f2.row ▸ hne') (P.rows r hr (f2.row ▸ hne')), ?_,
    ⟨lead', c0, xs', Q2.R, S2, sy2⟩, hsync, fun _ => ⟨Q2.vrow, Q2.vcol, Q2.pen⟩⟩
  intro r hr hne' he j hj
  rw [f2.row] at hne'
  rw [f2.rows r j hj hne']
  exact P.fresh r hr hne' (fun c => by rw [← o2 r c hne']; exact he c) j hj


/-! ## paint-on scripts -/

/-- what follows RDC in a paint-on script -/
inductive POp
  | pac (c1 c2 : Nat)
  | text (cs : List Nat)

def paintOpModel (chan : Nat) (ch : Channel) : POp → Channel
  | .pac c1 c2 => Zvbi.Cc.pac ch chan c1 c2
  | .text cs => charRun ch cs

def paintOpSpec (v : Service) : POp → Service
  | .pac c1 c2 =>
    match pacArgs c1 c2 with
    | some (r, ind, col, u) => v.exec (.pac r ind col u)
    | none => v
  | .text cs => specRun v cs

/-- well-formed op, judged on the reference state; `cursorOK` = a PAC has been seen -/
def POp.ok (v : Service) (cursorOK : Bool) : POp → Prop
  | .pac c1 c2 => c1 < 8 ∧ c2 < 128 ∧ 0x40 ≤ c2 ∧
      ∃ r ind col u, pacArgs c1 c2 = some (r, ind, col, u) ∧ ∀ c, v.disp r c = none
  | .text cs => cursorOK = true ∧ cs ≠ [] ∧ (∀ ci ∈ cs, isCharCode ci = true) ∧ v.col + cs.length ≤ 33

def POp.visible : POp → Bool
  | .pac _ _ => true
  | .text cs => endsSpace cs

def POp.cursorAfter (cursorOK : Bool) : POp → Bool
  | .pac _ _ => true
  | .text _ => cursorOK

def popsOk : Service → Bool → List POp → Prop
  | _, _, [] => True
  | v, cu, op :: rest => op.ok v cu ∧ popsOk (paintOpSpec v op) (op.cursorAfter cu) rest

/-! ## paint-on scripts whose text mixes basic and special characters (over `glyph_paint`) -/
/-- what follows RDC in a paint-on script -/
inductive GPOp
  | pac (c1 c2 : Nat)
  | text (gs : List Glyph)

def gPaintOpModel (chan : Nat) (ch : Channel) : GPOp → Channel
  | .pac c1 c2 => Zvbi.Cc.pac ch chan c1 c2
  | .text gs => glyphRun chan ch gs

def gPaintOpSpec (v : Service) : GPOp → Service
  | .pac c1 c2 =>
    match pacArgs c1 c2 with
    | some (r, ind, col, u) => v.exec (.pac r ind col u)
    | none => v
  | .text gs => glyphRunS v gs

/-- well-formed op, judged on the reference state; `cursorOK` = a PAC has been seen -/
def GPOp.ok (v : Service) (cursorOK : Bool) : GPOp → Prop
  | .pac c1 c2 => c1 < 8 ∧ c2 < 128 ∧ 0x40 ≤ c2 ∧
      ∃ r ind col u, pacArgs c1 c2 = some (r, ind, col, u) ∧ ∀ c, v.disp r c = none
  | .text gs => cursorOK = true ∧ gs ≠ [] ∧ (∀ g ∈ gs, g.ok = true) ∧ v.col + gs.length ≤ 33

def GPOp.visible : GPOp → Bool
  | .pac _ _ => true
  | .text gs => endsSpaceG gs

def GPOp.cursorAfter (cursorOK : Bool) : GPOp → Bool
  | .pac _ _ => true
  | .text _ => cursorOK

def gpopsOk : Service → Bool → List GPOp → Prop
  | _, _, [] => True
  | v, cu, op :: rest => op.ok v cu ∧ gpopsOk (gPaintOpSpec v op) (op.cursorAfter cu) rest

theorem gPaintOp_step {ch : Channel} {v : Service} {s cu : Bool} (P : PaintRel ch v s cu) {chan : Nat} (hchan : chan < 4)
    (op : GPOp) (hok : op.ok v cu) :
    PaintRel (gPaintOpModel chan ch op) (gPaintOpSpec v op) op.visible (op.cursorAfter cu) := by
  cases op with
  | pac c1 c2 =>
    obtain ⟨h1, h2, h3, r, ind, col, u, ha, he⟩ := hok
    unfold gPaintOpModel gPaintOpSpec
    simp only [ha]
    exact pac_paint P hchan h1 h2 h3 ha he
  | text gs =>
    obtain ⟨hc, hne, hw, hl⟩ := hok
    subst hc
    exact glyph_paint P chan gs hne hw hl

theorem gPaintOps_refine (chan : Nat) (hchan : chan < 4) (ops : List GPOp) :
    ∀ {ch : Channel} {v : Service} {s cu : Bool}, PaintRel ch v s cu → gpopsOk v cu ops →
    ∀ k, (hk0 : 0 < k) → (hk : k ≤ ops.length) → (ops[k - 1]'(by omega)).visible = true →
      pageMatches ((ops.take k).foldl (gPaintOpModel chan) ch) ((ops.take k).foldl gPaintOpSpec v) := by
  intro ch v s cu P hok
  exact (foldl_sim (gPaintOpModel chan) gPaintOpSpec GPOp.visible (fun (i : Bool × Bool) x y => PaintRel x y i.1 i.2) pageMatches
    (fun i t => gpopsOk t i.2)
    (fun i _ _ op _ P h => ⟨(op.visible, op.cursorAfter i.2), gPaintOp_step P hchan op h.1, h.2,
      fun hv => (hv ▸ gPaintOp_step P hchan op h.1).page⟩)
    ops (s, cu) ch v P hok).2

/-! ## scripts of basic characters are glyph scripts -/
def POp.toG : POp → GPOp
  | .pac c1 c2 => .pac c1 c2
  | .text cs => .text (cs.map .code)

theorem POp.ok_toG {v : Service} {cu : Bool} {op : POp} (h : op.ok v cu) : op.toG.ok v cu := by
  cases op with
  | pac c1 c2 => exact h
  | text cs => exact ⟨h.1, by simpa using h.2.1, codes_ok h.2.2.1, by simpa using h.2.2.2⟩

theorem paintOp_step {ch : Channel} {v : Service} {s cu : Bool} (P : PaintRel ch v s cu) {chan : Nat} (hchan : chan < 4)
    (op : POp) (hok : op.ok v cu) :
    PaintRel (paintOpModel chan ch op) (paintOpSpec v op) op.visible (op.cursorAfter cu) := by
  have h := gPaintOp_step P hchan op.toG (POp.ok_toG hok)
  cases op with
  | pac c1 c2 => exact h
  | text cs =>
    show PaintRel (charRun ch cs) (specRun v cs) (endsSpace cs) cu
    rw [charRun_eq_glyphRun chan, specRun_eq_glyphRunS, ← endsSpaceG_codes]
    exact h

theorem paintOps_refine (chan : Nat) (hchan : chan < 4) (ops : List POp) :
    ∀ {ch : Channel} {v : Service} {s cu : Bool}, PaintRel ch v s cu → popsOk v cu ops →
    ∀ k, (hk0 : 0 < k) → (hk : k ≤ ops.length) → (ops[k - 1]'(by omega)).visible = true →
      pageMatches ((ops.take k).foldl (paintOpModel chan) ch) ((ops.take k).foldl paintOpSpec v) := by
  intro ch v s cu P hok
  exact (foldl_sim (paintOpModel chan) paintOpSpec POp.visible (fun (i : Bool × Bool) x y => PaintRel x y i.1 i.2) pageMatches
    (fun i t => popsOk t i.2)
    (fun i _ _ op _ P h => ⟨(op.visible, op.cursorAfter i.2), paintOp_step P hchan op h.1, h.2,
      fun hv => (hv ▸ paintOp_step P hchan op h.1).page⟩)
    ops (s, cu) ch v P hok).2

/-- **paint-on refinement, channel level.**  From an idle or fresh channel whose cursor row is empty on display, a
    well-formed paint-on script `RDC (PAC | text)*` (each PAC addressing a row that is empty in the reference's
    displayed memory, text only after a PAC): right after RDC, after every PAC and after every run of text that ends
    with a space, the fetched page equals the reference display memory, cell for cell. -/
theorem painton_refines {ch : Channel} {v : Service} (I : IdleRel ch v) (hrow : ∀ c, v.disp ch.row c = none)
    {chan : Nat} (hchan : chan < 4) (ops : List POp) (hok : popsOk (v.exec .rdc) false ops) :
    pageMatches (rdcModel ch) (v.exec .rdc) ∧
    ∀ k, (hk0 : 0 < k) → (hk : k ≤ ops.length) → (ops[k - 1]'(by omega)).visible = true →
      pageMatches ((ops.take k).foldl (paintOpModel chan) (rdcModel ch)) ((ops.take k).foldl paintOpSpec (v.exec .rdc)) := by
  have P0 := rdc_step I hrow
  exact ⟨P0.page, paintOps_refine chan hchan ops P0 hok⟩

end Zvbi.Cc
