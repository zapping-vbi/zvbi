import ZvbiModel.Cc.Commands
import ZvbiModel.Cc.Spec
/-!
# Runs of word characters in both models (`charRun`, `specRun`): cell by cell the same glyphs and pens

`charRun_spec`, `specRun_spec` (what a run writes, in either model), `penMatches` / `cellMatches` (a libzvbi cell shows a
reference cell), the basic character table (`basic_std`); for the whole-page comparison `toRCell`, `modelVisible`, `runPairs`,
`specPairs`.
-/
namespace Zvbi.Cc
open Zvbi.Gen.Cc

/-- `put_char` of a non-space character left of the last column: the cell under the cursor receives the
    character, the cursor advances, nothing else happens (no word break, no event). -/
theorem putChar_nonspace {ch : Channel} (c : Cell) (hs : c.isSpace = false) (hc : ch.col < 33) :
    putChar ch c = { wr ch ch.col c "put_char" with col := ch.col + 1 } := by
  rw [putChar_eq, hs]
  simp only [Bool.false_eq_true, if_false]
  unfold putCell; exact if_pos hc

/-- a run of characters (7-bit codes) typed with the current pen -/
def charRun (ch : Channel) (cs : List Nat) : Channel :=
  cs.foldl (fun ch ci => putChar ch { ch.attr with unicode := captionUnicode ci }) ch

/-- codes whose glyph libzvbi does not treat as a space: everything in 0x21..0x7E
    (0x7F, the solid block U+25A0, has low seven bits 0x20 and acts as a word break) -/
def isWordCode (ci : Nat) : Bool := decide (0x21 ≤ ci) && decide (ci ≤ 0x7E)

theorem wordCode_nonspace : ∀ ci, isWordCode ci = true →
    ({ unicode := captionUnicode ci } : Cell).isSpace = false := by
  have : ∀ ci < 0x7F, 0x21 ≤ ci → ({ unicode := captionUnicode ci } : Cell).isSpace = false := by decide
  intro ci h
  simp only [isWordCode, Bool.and_eq_true, decide_eq_true_eq] at h
  exact this ci (by omega) h.1

theorem putChar_word {ch : Channel} (h : ChInv ch) (ci : Nat) (hw : isWordCode ci = true) (hc : ch.col < 33) :
    let r := putChar ch { ch.attr with unicode := captionUnicode ci }
    ChInv r ∧ r.col = ch.col + 1 ∧ r.col1 = ch.col1 ∧ r.row = ch.row ∧ r.attr = ch.attr ∧ r.nev = ch.nev ∧
    r.mode = ch.mode ∧ r.hidden = ch.hidden ∧ r.linePg = ch.linePg ∧ r.pg (!ch.linePg) = ch.pg (!ch.linePg) ∧
    ∀ j, rd r j = if j = ch.col then some { ch.attr with unicode := captionUnicode ci } else rd ch j := by
  have hs : ({ ch.attr with unicode := captionUnicode ci } : Cell).isSpace = false := wordCode_nonspace ci hw
  have hi : ch.col ≤ 34 := by omega
  have u := wr_upd h hi { ch.attr with unicode := captionUnicode ci } "put_char"
  have e := putChar_nonspace _ hs hc
  simp only
  rw [e]
  refine ⟨putChar_nonspace _ hs hc ▸ (putChar_step h _).1, rfl, u.col1, u.row, u.attr, wr_nev _ _ _ _, u.mode, u.hidden,
    u.linePg, wr_other_pg h hi _ _, ?_⟩
  intro j
  exact rd_wr h hi _ _ j

theorem charRun_spec (cs : List Nat) : ∀ {ch : Channel}, ChInv ch → (∀ ci ∈ cs, isWordCode ci = true) →
    ch.col + cs.length ≤ 33 →
    let r := charRun ch cs
    ChInv r ∧ r.col = ch.col + cs.length ∧ r.col1 = ch.col1 ∧ r.row = ch.row ∧ r.attr = ch.attr ∧ r.nev = ch.nev ∧
    r.mode = ch.mode ∧ r.hidden = ch.hidden ∧ r.linePg = ch.linePg ∧ r.pg (!ch.linePg) = ch.pg (!ch.linePg) ∧
    ∀ j, rd r j = if ch.col ≤ j ∧ j < ch.col + cs.length then
                    cs[j - ch.col]?.map fun ci => { ch.attr with unicode := captionUnicode ci }
                  else rd ch j := by
  induction cs with
  | nil =>
    intro ch h _ _
    exact ⟨h, rfl, rfl, rfl, rfl, rfl, rfl, rfl, rfl, rfl, fun j => by rw [if_neg (by simp)]; rfl⟩
  | cons c rest ih =>
    intro ch h hw hlen
    have hlen' : ch.col + (rest.length + 1) ≤ 33 := by simpa using hlen
    obtain ⟨hi, s1, s2, s3, s4, s5, s6, s7, s8, s9, s10⟩ := putChar_word h c (hw c (List.mem_cons_self ..)) (by omega)
    obtain ⟨ri, r1, r2, r3, r4, r5, r6, r7, r8, r9, r10⟩ := ih (ch := putChar ch { ch.attr with unicode := captionUnicode c }) hi
      (fun ci hci => hw ci (List.mem_cons_of_mem _ hci)) (by rw [s1]; omega)
    show ChInv (charRun (putChar ch { ch.attr with unicode := captionUnicode c }) rest) ∧ _
    refine ⟨ri, ?_, r2.trans s2, r3.trans s3, r4.trans s4, r5.trans s5, r6.trans s6, r7.trans s7, r8.trans s8, ?_, fun j => ?_⟩
    · show (charRun _ rest).col = _; rw [r1, s1]; simp; omega
    · show (charRun _ rest).pg _ = _; rw [← s8, r9, s8, s9]
    · show rd (charRun _ rest) j = _
      rw [r10 j, s1, s4, s10 j, List.length_cons]
      by_cases hj0 : j = ch.col
      · subst hj0
        rw [if_neg (by omega), if_pos rfl, if_pos (by omega), Nat.sub_self]; rfl
      · rw [if_neg hj0]
        by_cases hj : ch.col + 1 ≤ j ∧ j < ch.col + 1 + rest.length
        · rw [if_pos hj, if_pos (by omega), show j - ch.col = (j - (ch.col + 1)) + 1 by omega, List.getElem?_cons_succ]
        · rw [if_neg hj, if_neg (by omega)]

/-! ## the same run in the reference model -/

open Eia608 in
/-- the reference decoder receiving the same character codes -/
def specRun (v : Eia608.Service) (cs : List Nat) : Eia608.Service :=
  cs.foldl (fun v c => v.putChar (Eia608.basicChar c)) v

theorem spec_target_setTarget (v : Eia608.Service) (m : Eia608.Mem) : (v.setTarget m).target = m := by
  unfold Eia608.Service.setTarget Eia608.Service.target
  split <;> simp_all

theorem spec_putChar_step (v : Eia608.Service) (u : Nat) (hm : v.mode ≠ none) (hc : v.col ≤ 32) :
    (v.putChar u).col = v.col + 1 ∧ (v.putChar u).row = v.row ∧ (v.putChar u).pen = v.pen ∧
    (v.putChar u).mode = v.mode ∧
    (v.putChar u).target = v.target.set v.row v.col (some { ch := u, pen := v.pen }) := by
  unfold Eia608.Service.putChar
  simp only [hm, if_false, hc, if_true]
  have hmode : (v.setTarget (v.target.set v.row v.col (some { ch := u, pen := v.pen }))).mode = v.mode := by
    unfold Eia608.Service.setTarget; split <;> rfl
  refine ⟨trivial, ?_, ?_, hmode, ?_⟩
  · show (v.setTarget _).row = _; unfold Eia608.Service.setTarget; split <;> rfl
  · show (v.setTarget _).pen = _; unfold Eia608.Service.setTarget; split <;> rfl
  · show Eia608.Service.target { v.setTarget _ with col := v.col + 1 } = _
    have : Eia608.Service.target { v.setTarget (v.target.set v.row v.col (some { ch := u, pen := v.pen })) with col := v.col + 1 }
        = (v.setTarget (v.target.set v.row v.col (some { ch := u, pen := v.pen }))).target := by
      unfold Eia608.Service.target; rfl
    rw [this, spec_target_setTarget]

theorem specRun_spec (cs : List Nat) : ∀ (v : Eia608.Service), v.mode ≠ none → v.col + cs.length ≤ 33 →
    (specRun v cs).col = v.col + cs.length ∧ (specRun v cs).row = v.row ∧ (specRun v cs).pen = v.pen ∧
    (specRun v cs).mode = v.mode ∧
    ∀ r c, (specRun v cs).target r c =
      if r = v.row ∧ v.col ≤ c ∧ c < v.col + cs.length then
        cs[c - v.col]?.map fun ci => { ch := Eia608.basicChar ci, pen := v.pen }
      else v.target r c := by
  induction cs with
  | nil =>
    intro v _ _
    exact ⟨rfl, rfl, rfl, rfl, fun r c => by rw [if_neg (by simp)]; rfl⟩
  | cons a rest ih =>
    intro v hm hlen
    have hlen' : v.col + (rest.length + 1) ≤ 33 := by simpa using hlen
    obtain ⟨s1, s2, s3, s4, s5⟩ := spec_putChar_step v (Eia608.basicChar a) hm (by omega)
    obtain ⟨r1, r2, r3, r4, r5⟩ := ih (v.putChar (Eia608.basicChar a)) (by rw [s4]; exact hm) (by rw [s1]; omega)
    show (specRun (v.putChar (Eia608.basicChar a)) rest).col = _ ∧ _
    refine ⟨by rw [r1, s1]; simp; omega, r2.trans s2, r3.trans s3, r4.trans s4, fun r c => ?_⟩
    show (specRun (v.putChar (Eia608.basicChar a)) rest).target r c = _
    rw [r5 r c, s1, s2, s3, s5, List.length_cons]
    unfold Eia608.Mem.set
    by_cases hj0 : r = v.row ∧ c = v.col
    · obtain ⟨rfl, rfl⟩ := hj0
      rw [if_neg (by omega), if_pos ⟨rfl, rfl⟩, if_pos (by omega), Nat.sub_self]; rfl
    · rw [if_neg hj0]
      by_cases hj : r = v.row ∧ v.col + 1 ≤ c ∧ c < v.col + 1 + rest.length
      · rw [if_pos hj, if_pos (by omega), show c - v.col = (c - (v.col + 1)) + 1 by omega, List.getElem?_cons_succ]
      · rw [if_neg hj, if_neg (by omega)]

/-- pen of the reference model vs attribute bits of a libzvbi cell -/
def penMatches (a : Cell) (p : Eia608.Pen) : Prop :=
  a.underline = p.underline ∧ a.italic = p.italic ∧ a.flash = p.flash ∧ a.fg = p.fg ∧ a.bg = p.bg ∧
  a.opacity = Eia608.opaqueOf p

instance (a : Cell) (p : Eia608.Pen) : Decidable (penMatches a p) := by unfold penMatches; infer_instance

/-- a libzvbi cell shows the reference cell -/
def cellMatches (c : Cell) (x : Eia608.SCell) : Prop := c.unicode = x.ch ∧ penMatches c x.pen

/-- libzvbi's basic character table is the one of 15.119 (g) -/
theorem basic_std : ∀ c < 0x80, 0x20 ≤ c → captionUnicode c = Eia608.basicChar c := by decide

theorem palette_std : ∀ k < 7, palette k = Eia608.colourOfCode k := by decide

theorem wordCode_std (ci : Nat) (hw : isWordCode ci = true) : captionUnicode ci = Eia608.basicChar ci := by
  simp only [isWordCode, Bool.and_eq_true, decide_eq_true_eq] at hw
  exact basic_std ci (by omega) (by omega)

/-- a text pair of two word characters is a `charRun` of the two codes -/
theorem textPair_charRun {ch : Channel} (h : ChInv ch) (hm : ch.mode ≠ .none) (b0 b1 v0 v1 : Nat)
    (h0 : Hamm.unpar8 b0 = some v0) (h1 : Hamm.unpar8 b1 = some v1)
    (w0 : isWordCode (v0 &&& 0x7F) = true) (w1 : isWordCode (v1 &&& 0x7F) = true) (hc : ch.col < 33) :
    textPair ch b0 b1 = charRun { ch with nulCt := 0 } [v0 &&& 0x7F, v1 &&& 0x7F] := by
  have hmb : (ch.mode == .none) = false := by simpa using hm
  have g0 : ¬ (v0 &&& 0x7F ≤ 0x1F) := by
    simp only [isWordCode, Bool.and_eq_true, decide_eq_true_eq] at w0; omega
  have g1 : ¬ (v1 &&& 0x7F ≤ 0x1F) := by
    simp only [isWordCode, Bool.and_eq_true, decide_eq_true_eq] at w1; omega
  unfold textPair
  rw [hmb]
  simp only [Bool.false_eq_true, if_false]
  unfold charRun
  simp only [List.foldl_cons, List.foldl_nil]
  have hn := h.withNul 0
  obtain ⟨_, _, _, _, hattr, _⟩ := putChar_word hn (v0 &&& 0x7F) w0 hc
  rw [putByte_code _ _ h0 g0, putByte_code _ _ h1 g1, hattr]

/-! ## whole-page comparison -/

/-- a libzvbi cell as the reference model prints it -/
def toRCell (c : Cell) : Eia608.RCell :=
  { unicode := c.unicode, underline := c.underline, italic := c.italic, flash := c.flash,
    opacity := c.opacity, fg := c.fg, bg := c.bg }

/-- page `i + 1` as `vbi_fetch_cc_page` returns it -/
def modelVisible (s : St) (i : Nat) : Option (List Eia608.RCell) :=
  s.chans[i]?.map (fun ch => ch.displayed.map toRCell)

/-- feed byte pairs (field 2?, byte, byte) to the model and to the reference model -/
def runPairs (ps : List (Bool × Nat × Nat)) : St := run (ps.map (fun p => Op.pair p.1 p.2.1 p.2.2))
def specPairs (ps : List (Bool × Nat × Nat)) : Eia608.St :=
  ps.foldl (fun s p => Eia608.step s p.1 p.2.1 p.2.2) Eia608.init

end Zvbi.Cc
