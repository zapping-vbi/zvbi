import ZvbiModel.Cc.Model
/-!
# `caption_command` and `vbi_decode_caption` as "decode, then execute"

`captionCommand` is one nested `switch` over the two bytes of a control pair, `decodeMain` one cascade of tests on a
byte pair.  Here the decoding is separated from the execution:

* `Ctl` names the control codes, `Ctl.codes c1 c2` says which byte pairs carry a code (every pair carries one:
  `Ctl.exists_codes`), and `captionCommand_eq` is the equation of `captionCommand` for each code;
* whatever the code, its `Effect` on the decoder state has one of three shapes - a function on one channel, a channel
  switch, a channel switch followed by a function on the new channel - so a fact about the decoder scalars or about
  the channels a pair can reach is proved once per shape;
* likewise `pairAct` classifies a byte pair behind the XDS gate (`decodeMain_eq`, `pairAct_cases`).
-/
namespace Zvbi.Cc
open Zvbi.Gen.Cc

/-- the channel a control pair addresses: text / caption bit of the field's current channel, field, channel bit of `c1` -/
def cmdChan (s : St) (c1 : Nat) (f2 : Bool) : Nat :=
  (s.curr f2 &&& 4) + (if f2 then 2 else 0) + ((c1 >>> 3) &&& 1)

/-- `(cc->curr_chan[field2] & 5) + field2 * 2` -/
def textIdx (s : St) (f : Bool) : Nat := (s.curr f &&& 5) + (if f then 2 else 0)

theorem cmdChan_lt (s : St) (c1 : Nat) (f2 : Bool) : cmdChan s c1 f2 < 8 := by
  have h1 : s.curr f2 &&& 4 ≤ 4 := Nat.and_le_right
  have h2 : (c1 >>> 3) &&& 1 ≤ 1 := Nat.and_le_right
  unfold cmdChan; cases f2 <;> simp <;> omega

theorem textIdx_lt (s : St) (f : Bool) : textIdx s f < 9 := by
  have h1 : s.curr f &&& 5 ≤ 5 := Nat.and_le_right
  unfold textIdx; cases f <;> simp <;> omega

/-! ## control pairs -/

/-- The effect of a control pair on the decoder state, relative to the channel `chan` it addresses. -/
inductive Effect
  | skip
  /-- `f` on the addressed channel, or (`erase`) on the channel `edmChan` names -/
  | on (erase : Bool) (f : Channel → Channel)
  /-- `switch_channel` to the caption or (`text`) the text channel of the pair's data channel, then `f` there -/
  | switch (text : Bool) (f : Option (Channel → Channel))

def Effect.run (chan : Nat) (s : St) : Effect → St
  | .skip => s
  | .on erase f => s.modCh (if erase then edmChan chan else chan) f
  | .switch text none => s.switchChannel chan (if text then chan ||| 4 else chan &&& 3)
  | .switch text (some f) =>
    (s.switchChannel chan (if text then chan ||| 4 else chan &&& 3)).modCh (if text then chan ||| 4 else chan &&& 3) f

/-- the channel function of an effect; the word break that `.switch` runs on the channel it leaves is not part of it
    (`Effect.run` adds it) -/
def Effect.fn : Effect → Channel → Channel
  | .on _ f | .switch _ (some f) => f
  | _ => id

/-- the control codes `caption_command` tells apart -/
inductive Ctl
  | ignored
  | preamble | bgAttr | special | midrow | tabAttr
  | rcl | bs | der | ru | fon | rdc | tr | rtd | edm | cr | enm | eoc

/-- the miscellaneous control codes: first byte 0x14 / 0x15 / 0x1C / 0x1D, second byte below 0x40 with low nibble `k` -/
def isMisc (c1 c2 k : Nat) : Prop := c2 < 0x40 ∧ (c1 &&& 7 = 4 ∨ c1 &&& 7 = 5) ∧ c2 &&& 15 = k

/-- the pair `c1 c2` carries the code -/
def Ctl.codes (c1 c2 : Nat) : Ctl → Prop
  | .preamble => 0x40 ≤ c2
  | .bgAttr => c2 < 0x40 ∧ c1 &&& 7 = 0
  | .special => c2 < 0x40 ∧ c1 &&& 7 = 1 ∧ c2 &&& 0x10 ≠ 0
  | .midrow => c2 < 0x40 ∧ c1 &&& 7 = 1 ∧ c2 &&& 0x10 = 0
  | .tabAttr => c2 < 0x40 ∧ c1 &&& 7 = 7
  | .rcl => isMisc c1 c2 0
  | .bs => isMisc c1 c2 1
  | .der => isMisc c1 c2 4
  | .ru => c2 < 0x40 ∧ (c1 &&& 7 = 4 ∨ c1 &&& 7 = 5) ∧ (c2 &&& 15 = 5 ∨ c2 &&& 15 = 6 ∨ c2 &&& 15 = 7)
  | .fon => isMisc c1 c2 8
  | .rdc => isMisc c1 c2 9
  | .tr => isMisc c1 c2 10
  | .rtd => isMisc c1 c2 11
  | .edm => isMisc c1 c2 12
  | .cr => isMisc c1 c2 13
  | .enm => isMisc c1 c2 14
  | .eoc => isMisc c1 c2 15
  | .ignored => c2 < 0x40 ∧ ((c1 &&& 7 = 2 ∨ c1 &&& 7 = 3 ∨ c1 &&& 7 = 6) ∨
      ((c1 &&& 7 = 4 ∨ c1 &&& 7 = 5) ∧ (c2 &&& 15 = 2 ∨ c2 &&& 15 = 3)))

def Ctl.effect (chan c1 c2 : Nat) : Ctl → Effect
  | .ignored => .skip
  | .preamble => .on false (fun ch => pac ch chan (c1 &&& 7) c2)
  | .bgAttr => .on false (fun ch => backgroundAttr ch c2)
  | .special => .on false (fun ch => specialChar ch chan c2)
  | .midrow => .on false (fun ch => midRow ch c2)
  | .tabAttr => .on false (fun ch => case7 ch chan c2)
  | .rcl => .switch false (some fun ch => { ch with mode := .popOn })
  | .bs => .on false (fun ch => backspace ch chan)
  | .der => .on false (fun ch => deleteToEnd ch chan)
  | .ru => .switch false (some fun ch => rollUpCmd ch ((c2 &&& 7) - 3))
  | .fon => .on false (fun ch => { ch with attr := { ch.attr with flash := true } })
  | .rdc => .switch false (some fun ch => { ch with mode := .paintOn })
  | .tr => .switch true (some fun ch => setCursor ch 1 0)
  | .rtd => .switch true none
  | .edm => .on true eraseDisplayed
  | .cr => .on false (fun ch => carriageReturn ch chan)
  | .enm => .on true eraseNonDisplayed
  | .eoc => .switch false (some endOfCaption)

theorem captionCommand_eq (s : St) {c1 c2 : Nat} (f2 : Bool) {cmd : Ctl} (h : cmd.codes c1 c2) :
    captionCommand s c1 c2 f2 = (cmd.effect (cmdChan s c1 f2) c1 c2).run (cmdChan s c1 f2) s := by
  unfold captionCommand cmdChan
  cases cmd
  case preamble => simp only [show c2 ≥ 0x40 from h, if_true]; rfl
  case bgAttr => simp only [Nat.not_le.2 h.1, if_false, h.2]; rfl
  case special => simp only [Nat.not_le.2 h.1, if_false, h.2.1, bne_iff_ne, ne_eq, h.2.2, not_false_eq_true, if_true]; rfl
  case midrow => simp only [Nat.not_le.2 h.1, if_false, h.2.1, h.2.2, bne_self_eq_false, Bool.false_eq_true]; rfl
  case tabAttr => simp only [Nat.not_le.2 h.1, if_false, h.2]; rfl
  case ru =>
    obtain ⟨h2, h1 | h1, h3 | h3 | h3⟩ := h <;> simp only [Nat.not_le.2 h2, if_false, h1, h3] <;> rfl
  case ignored =>
    obtain ⟨h2, h1 | ⟨h1, h3⟩⟩ := h
    · rcases h1 with h1 | h1 | h1 <;> simp only [Nat.not_le.2 h2, if_false, h1] <;> rfl
    · rcases h1 with h1 | h1 <;> rcases h3 with h3 | h3 <;> simp only [Nat.not_le.2 h2, if_false, h1, h3] <;> rfl
  all_goals
    obtain ⟨h2, h1 | h1, h3⟩ := h <;> simp only [Nat.not_le.2 h2, if_false, h1, h3] <;> rfl

theorem Ctl.exists_codes (c1 c2 : Nat) : ∃ cmd : Ctl, cmd.codes c1 c2 := by
  by_cases h2 : 0x40 ≤ c2
  · exact ⟨.preamble, h2⟩
  have h2 : c2 < 0x40 := Nat.not_le.1 h2
  have h1 : c1 &&& 7 ≤ 7 := Nat.and_le_right
  have h3 : c2 &&& 15 ≤ 15 := Nat.and_le_right
  have k1 : c1 &&& 7 = 0 ∨ c1 &&& 7 = 1 ∨ c1 &&& 7 = 7 ∨ (c1 &&& 7 = 2 ∨ c1 &&& 7 = 3 ∨ c1 &&& 7 = 6) ∨
      (c1 &&& 7 = 4 ∨ c1 &&& 7 = 5) := by omega
  rcases k1 with k | k | k | k | k
  · exact ⟨.bgAttr, h2, k⟩
  · by_cases h4 : c2 &&& 0x10 = 0
    · exact ⟨.midrow, h2, k, h4⟩
    · exact ⟨.special, h2, k, h4⟩
  · exact ⟨.tabAttr, h2, k⟩
  · exact ⟨.ignored, h2, Or.inl k⟩
  · have k2 : c2 &&& 15 = 0 ∨ c2 &&& 15 = 1 ∨ (c2 &&& 15 = 2 ∨ c2 &&& 15 = 3) ∨ c2 &&& 15 = 4 ∨
        (c2 &&& 15 = 5 ∨ c2 &&& 15 = 6 ∨ c2 &&& 15 = 7) ∨ c2 &&& 15 = 8 ∨ c2 &&& 15 = 9 ∨ c2 &&& 15 = 10 ∨
        c2 &&& 15 = 11 ∨ c2 &&& 15 = 12 ∨ c2 &&& 15 = 13 ∨ c2 &&& 15 = 14 ∨ c2 &&& 15 = 15 := by omega
    rcases k2 with e | e | e | e | e | e | e | e | e | e | e | e | e
    · exact ⟨.rcl, h2, k, e⟩
    · exact ⟨.bs, h2, k, e⟩
    · exact ⟨.ignored, h2, Or.inr ⟨k, e⟩⟩
    · exact ⟨.der, h2, k, e⟩
    · exact ⟨.ru, h2, k, e⟩
    · exact ⟨.fon, h2, k, e⟩
    · exact ⟨.rdc, h2, k, e⟩
    · exact ⟨.tr, h2, k, e⟩
    · exact ⟨.rtd, h2, k, e⟩
    · exact ⟨.edm, h2, k, e⟩
    · exact ⟨.cr, h2, k, e⟩
    · exact ⟨.enm, h2, k, e⟩
    · exact ⟨.eoc, h2, k, e⟩

/-! ## byte pairs behind the XDS gate -/

/-- what `vbi_decode_caption` does with a byte pair -/
inductive PairAct
  /-- an XDS byte pair on field 1, the repetition of a control pair, a control pair whose second byte fails parity:
      the repetition latch is cleared (field 1), nothing else -/
  | clear
  /-- the control pair `c1 c2` is executed and (field 1) latched as `b0 b1` -/
  | cmd (c1 c2 b0 b1 : Nat)
  | nul
  /-- characters, after the bad-parity rewrite -/
  | text (b0 b1 : Nat)

/-- `cc->last[0] = 0` on field 1 -/
def St.clearLast (s : St) (f : Bool) : St := if !f then { s with last0 := 0 } else s

def PairAct.run (f : Bool) (s : St) : PairAct → St
  | .clear => s.clearLast f
  | .cmd c1 c2 b0 b1 =>
    if !f then { captionCommand s c1 c2 f with last0 := b0, last1 := b1 } else captionCommand s c1 c2 f
  | .nul => s.modCh (textIdx s f) nulPair
  | .text b0 b1 => (s.clearLast f).modCh (textIdx s f) (fun ch => textPair ch b0 b1)

/-- Is the pair executed as a control pair (first byte with odd parity, 0x10..0x1F)? -/
def isControl (b0 : Nat) : Bool :=
  (Hamm.unpar8 b0).isSome && decide (0x10 ≤ b0 &&& 0x7F) && decide (b0 &&& 0x7F ≤ 0x1F)

def pairAct (s : St) (f : Bool) (b0 b1 : Nat) : PairAct :=
  if isControl b0 then
    if (Hamm.unpar8 b1).isSome && !(!f && b0 == s.last0 && b1 == s.last1) then .cmd (b0 &&& 0x7F) (b1 &&& 0x7F) b0 b1
    else .clear
  else if (Hamm.unpar8 b0).isNone then .text 127 127
  else if 1 ≤ b0 &&& 0x7F ∧ b0 &&& 0x7F ≤ 0x0F then .clear
  else if b0 = 0x80 ∧ b1 = 0x80 then .nul
  else .text b0 b1

theorem decodeMain_eq (s : St) (f : Bool) (b0 b1 : Nat) : decodeMain s f b0 b1 = (pairAct s f b0 b1).run f s := by
  unfold decodeMain pairAct isControl
  cases hp0 : Hamm.unpar8 b0 with
  | none =>
    simp only [Option.isNone_none, Option.isSome_none, Bool.false_and, if_true, Bool.false_eq_true, if_false,
      show ¬(1 ≤ 127 ∧ 127 ≤ 0x0F) by decide, show ¬(0x10 ≤ 127 ∧ 127 ≤ 0x1F) by decide,
      show ¬((127 : Nat) = 0x80 ∧ (127 : Nat) = 0x80) by decide]
    rfl
  | some v =>
    simp only [Option.isNone_some, Option.isSome_some, Bool.true_and, Bool.false_eq_true, if_false]
    by_cases hc : 0x10 ≤ b0 &&& 0x7F ∧ b0 &&& 0x7F ≤ 0x1F
    · have hx : ¬(1 ≤ b0 &&& 0x7F ∧ b0 &&& 0x7F ≤ 0x0F) := by omega
      simp only [hx, hc, decide_true, Bool.and_self, and_self, if_true, if_false]
      cases (Hamm.unpar8 b1).isSome
      · rfl
      · cases hd : (!f && b0 == s.last0 && b1 == s.last1)
        · simp only [Bool.true_and, Bool.not_false, Bool.false_eq_true, if_true, if_false]; rfl
        · cases f
          · simp only [Bool.true_and, Bool.not_true, Bool.false_eq_true, if_true, if_false]; rfl
          · cases hd
    · have hnc : (decide (0x10 ≤ b0 &&& 0x7F) && decide (b0 &&& 0x7F ≤ 0x1F)) = false := by
        simpa only [Bool.and_eq_false_iff, decide_eq_false_iff_not, Classical.not_and_iff_not_or_not] using hc
      simp only [hc, hnc, Bool.false_eq_true, if_false]
      by_cases hx : 1 ≤ b0 &&& 0x7F ∧ b0 &&& 0x7F ≤ 0x0F
      · simp only [hx, and_self, if_true]; rfl
      by_cases hn : b0 = 0x80 ∧ b1 = 0x80
      · simp only [hn, and_self, if_true]; rfl
      · simp only [hx, hn, if_false]; rfl

theorem pairAct_cases (s : St) (f : Bool) (b0 b1 : Nat) :
    (isControl b0 = true ∧
      (pairAct s f b0 b1 = .clear ∨ pairAct s f b0 b1 = .cmd (b0 &&& 0x7F) (b1 &&& 0x7F) b0 b1)) ∨
    (isControl b0 = false ∧
      (pairAct s f b0 b1 = .clear ∨ pairAct s f b0 b1 = .nul ∨ ∃ a b, pairAct s f b0 b1 = .text a b)) := by
  unfold pairAct
  cases isControl b0
  · refine Or.inr ⟨rfl, ?_⟩
    simp only [Bool.false_eq_true, if_false]
    repeat' split
    all_goals first
      | exact Or.inl rfl
      | exact Or.inr (Or.inl rfl)
      | exact Or.inr (Or.inr ⟨_, _, rfl⟩)
  · refine Or.inl ⟨rfl, ?_⟩
    simp only [if_true]
    split
    · exact Or.inr rfl
    · exact Or.inl rfl

/-! ## the XDS gate -/

/-- the verdict of `xdsGate`, which reads nothing of the decoder state but `cc->xds`: the pair is withheld (`none`) or
    passed on with the new value of `cc->xds` -/
def xdsVerdict (xds field2 : Bool) (b0 : Nat) : Option Bool :=
  if field2 then
    if (Hamm.unpar8 b0).isSome then
      if b0 &&& 0x7F ≤ 0x0F then none
      else if b0 &&& 0x7F ≤ 0x1F then some false
      else if xds then none else some xds
    else if xds then none else some xds
  else some xds

theorem xdsGate_eq (s : St) (f : Bool) (b0 : Nat) :
    xdsGate s f b0 = (xdsVerdict s.xds f b0).map fun x => { s with xds := x } := by
  unfold xdsGate xdsVerdict
  simp only []
  repeat' split
  all_goals first | rfl | (exfalso; omega)

end Zvbi.Cc
