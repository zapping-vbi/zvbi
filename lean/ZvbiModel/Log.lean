import ZvbiModel.Ite
/-!
# Access logs in range, built along the log

A model that logs its accesses returns a list; "every entry is in range" is `∀ a ∈ log, ok a`.  Such a fact is proved along
the construction of the list with core's `List.forall_mem_nil`, `forall_mem_cons`, `forall_mem_singleton`, `forall_mem_append`,
`forall_mem_map`, `forall_mem_flatMap` (right to left) and the rules below; nothing is unfolded into memberships.
-/
namespace Zvbi.Log

/-- `ite_ind` at a predicate that is a `∀` (which `?P (if ..)` does not unify with) -/
theorem ite {α : Type _} {P : α → Prop} {c : Prop} [Decidable c] {l₁ l₂ : List α} (h₁ : c → ∀ a ∈ l₁, P a)
    (h₂ : ¬c → ∀ a ∈ l₂, P a) : ∀ a ∈ (if c then l₁ else l₂), P a :=
  ite_ind (P := fun l => ∀ a ∈ l, P a) h₁ h₂

theorem opt {α : Type _} {P : α → Prop} {c : Prop} [Decidable c] {x : α} (h : c → P x) : ∀ a ∈ (if c then [x] else []), P a :=
  ite (fun hc => List.forall_mem_singleton.mpr (h hc)) fun _ => List.forall_mem_nil _

theorem range {n : Nat} {Q : Nat → Prop} (h : ∀ i, i < n → Q i) : ∀ i ∈ List.range n, Q i :=
  fun i hi => h i (List.mem_range.mp hi)

theorem snoc {α : Type _} {P : α → Prop} {l : List α} {x : α} (hl : ∀ a ∈ l, P a) (hx : P x) : ∀ a ∈ l ++ [x], P a :=
  List.forall_mem_append.mpr ⟨hl, List.forall_mem_singleton.mpr hx⟩

theorem snoc2 {α : Type _} {P : α → Prop} {l : List α} {x y : α} (hl : ∀ a ∈ l, P a) (hx : P x) (hy : P y) :
    ∀ a ∈ l ++ [x, y], P a :=
  List.forall_mem_append.mpr ⟨hl, List.forall_mem_cons.mpr ⟨hx, List.forall_mem_singleton.mpr hy⟩⟩

end Zvbi.Log
