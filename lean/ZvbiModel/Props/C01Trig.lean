import ZvbiModel.Trig.HistoryLemmas
/-!
# C01 - src/trigger.c (EACEM / ATVEF trigger parsing, deferred trigger list) and the caption ITV separator

The model (`Trig/Model.lean`) follows the C text loop by loop; the cursor into the caller's string is the suffix of a
block of exactly `strlen + 1` bytes, so a read behind the terminating NUL is a fault of the model, as it is an ASan
report in the harness.  `Cfg` holds what translate/gen_trig.py reads from the CURRENT source: extents, the limit of
every copy loop, strlcpy sizes, keyword table counts and which of five repaired forms are present.

Without fixes/C01-trig-*.diff five obligations are FALSE; each has a `_counterexample` theorem on the original form, a replay in
corpus/C01/trig-*.ops and a repair in fixes/C01-trig-*.diff.  The safety theorems are stated for every configuration
with sound bounds (`Cfg.BoundsOk`, proved for the current tree: `current_bounds_ok`) in which the repaired forms are
present (`Cfg.Repaired`); `repaired_is_repaired` shows the tree with the diffs applied is such a configuration.
-/
namespace Zvbi.Props.C01Trig
open Zvbi.Trig

/-- the limits, strlcpy sizes and table counts of the CURRENT source are sound for the extents of the CURRENT headers:
`url[256]` with `dx = d + sizeof - 2` / `- 1` and `<`, `buf[256]` with `- 2`, `name[80]`, `script[256]`, keyword counts not
above the table lengths, `itv_count` reset above `sizeof (itv_buf) - 2` (a `<=` for a `<`, a count off by one, a
smaller array: this theorem stops building) -/
theorem current_bounds_ok : Cfg.current.BoundsOk where
  eUrl := by decide
  aUrl := by decide
  eAttr := by decide
  eText := by decide
  aAttr := by decide
  aText := by decide
  namePos := by decide
  scriptPos := by decide
  eName := by decide
  aName := by decide
  eScript := by decide
  aScript := by decide
  eKw := by decide
  aKw := by decide
  aType := by decide
  bare := by decide
  itv := by decide
example : Cfg.current.eUrlLim = 254 ∧ Cfg.current.aUrlLim = 255 ∧ Cfg.current.eTextLim = 254 := by decide

theorem repaired_bounds_ok : Cfg.repaired.BoundsOk := by
  have h := current_bounds_ok
  exact ⟨h.eUrl, h.aUrl, h.eAttr, h.eText, h.aAttr, h.aText, h.namePos, h.scriptPos, h.eName, h.aName, h.eScript, h.aScript,
         h.eKw, h.aKw, h.aType, h.bare, h.itv⟩

/-- the tree with fixes/C01-trig-*.diff applied has all the repaired forms -/
theorem repaired_is_repaired : Cfg.repaired.Repaired := ⟨rfl, rfl, rfl, rfl, rfl⟩
example : Cfg.original.eQuoteFix = false ∧ Cfg.original.copyFix = false := ⟨rfl, rfl⟩

/-- for EVERY byte string (any length, any bytes, no terminators, any nesting, 255-byte
lines, huge numbers) neither parser reads outside the caller's block (`strlen + 1` bytes), stores outside `url[]`,
`buf[]`, `name[]`, `script[]`, reads a keyword table behind its end, reads `url[]` / `buf[]` behind their NUL, touches a
freed node or exhausts its loop bound; the strings of an accepted trigger fit their arrays with the NUL. -/
theorem trigger_parse_never_oob (cfg : Cfg) (hb : cfg.BoundsOk) (hr : cfg.Repaired) (bytes : List Nat) (nuid : Nat) (now : Int) :
    Good (LinkOk cfg) (cstr bytes).length (parseEacem cfg nuid now (cstr bytes)) ∧
    Good (LinkOk cfg) (cstr bytes).length (parseAtvef cfg now (cstr bytes)) :=
  ⟨(parseEacem_good cfg hb hr.eq nuid now _ (wf_cstr bytes)).mono (cursorBound_le _),
   (parseAtvef_good cfg hb hr.aq hr.cont now _ (wf_cstr bytes)).mono (cursorBound_le _)⟩
example : Good (LinkOk Cfg.repaired) 3 (.ok (some ({ link := { url := [104] } }, [0])) : R (Option (Trigger × List Nat))) := by
  refine ⟨⟨?_, ?_, ?_⟩, ⟨[], rfl, by simp⟩, by simp⟩ <;> decide
example : ¬ Good (LinkOk Cfg.repaired) 3 (.error (.oob "x") : R (Option (Trigger × List Nat))) := fun h => h

/-- the same with the sites spelled out: no `.oob`, no exhausted bound -/
theorem trigger_parse_no_fault (cfg : Cfg) (hb : cfg.BoundsOk) (hr : cfg.Repaired) (bytes : List Nat) (nuid : Nat) (now : Int) :
    (∀ site, parseEacem cfg nuid now (cstr bytes) ≠ .error (.oob site)) ∧
    (∀ site, parseAtvef cfg now (cstr bytes) ≠ .error (.oob site)) := by
  obtain ⟨h1, h2⟩ := trigger_parse_never_oob cfg hb hr bytes nuid now
  constructor
  · intro site he; rw [he] at h1; exact h1
  · intro site he; rw [he] at h2; exact h2

/-- the loop bound `strlen + 2` iterations (linear in the input) is never reached by
parse_eacem, parse_atvef or the `while ((r = parse_eacem (...)))` loop of vbi_eacem_trigger: every iteration consumes
at least one byte. -/
theorem trigger_parse_terminates (cfg : Cfg) (hb : cfg.BoundsOk) (hr : cfg.Repaired) (bytes : List Nat) (st : St) (hi : Inv st) :
    parseEacem cfg st.nuid ((st.time : Int) * 25) (cstr bytes) ≠ .error .fuel ∧
    parseAtvef cfg ((st.time : Int) * 25) (cstr bytes) ≠ .error .fuel ∧
    eacemTrigger cfg ((cstr bytes).length + 1) st (cstr bytes) [] ≠ .error .fuel := by
  obtain ⟨h1, h2⟩ := trigger_parse_never_oob cfg hb hr bytes st.nuid ((st.time : Int) * 25)
  have h3 := eacemTrigger_good cfg hb hr.eq hr.wdel _ st (cstr bytes) [] (Nat.lt_succ_self _) (wf_cstr bytes) hi
  refine ⟨?_, ?_, ?_⟩
  · intro he; rw [he] at h1; exact h1
  · intro he; rw [he] at h2; exact h2
  · intro he; rw [he] at h3; exact h3
example : eacemTrigger Cfg.repaired 0 {} [0] [] = .error .fuel := rfl

/-- the original text loop is NOT safe: `<http://a>[n:"` makes parse_atvef step over the terminating NUL unread
(replay corpus/C01/trig-quote-overread.ops, repair fixes/C01-trig-quote-overread.diff) -/
theorem trigger_parse_quote_counterexample :
    textLoopOrig 254 256 93 2 [34, 0] [] = .error (.oob "text:read") ∧
    textLoopFix 254 256 93 2 [34, 0] false [] = .ok none := by
  constructor <;> rfl

/-- the original bare `[type]` attribute is NOT safe: after `[network]` the cursor of parse_atvef is two behind the `]`
(replay corpus/C01/trig-type-continue-overread.ops, repair fixes/C01-trig-type-continue.diff) -/
theorem trigger_parse_continue_counterexample :
    ([93, 0] : List Nat).tail.tail = [] ∧ ([93, 0] : List Nat).tail = [0] := ⟨rfl, rfl⟩

/-- **parse_time** with the bound of fixes/C01-trig-time-overflow.diff never evaluates `seconds * 25 + frames` outside
`int`; without it `[active:99999999]` overflows (UBSan: signed integer overflow). -/
theorem parse_time_no_overflow (l : List Nat) (s : String) : parseTime (some timeMaxRepaired) l ≠ .error (.ovf s) :=
  (parseTime_total _ (Nat.le_refl _) l).elim fun _ _ => nofun
example : parseTime (some timeMaxRepaired) [57, 57, 57, 57, 57, 57, 57, 57] = .ok (-1) := by rfl

/-- without the bound `[active:99999999]` overflows `int` (replay corpus/C01/trig-time-overflow.ops) -/
theorem parse_time_overflow_counterexample :
    parseTime none [57, 57, 57, 57, 57, 57, 57, 57] = .error (.ovf "parse_time") := by rfl

/-- for every sequence of trigger strings (EACEM, ATVEF, caption
ITV text), clock changes, vbi_deferred_trigger calls and flushes, starting from a new decoder: no access outside an
object, no read of a freed node (handlers cannot re-enter: vbi_send_event holds the event mutex and trigger.c is only
called from the decoding thread), no exhausted loop bound; the number of live allocations equals the length of the
list at every point, and vbi_trigger_flush - which vbi_decoder_delete, a channel switch and a handler change call -
brings it to 0.  The only fault left is the `int` overflow of parse_time, excluded by `parse_time_no_overflow`. -/
theorem trigger_list_bounded_and_freed (cfg : Cfg) (hb : cfg.BoundsOk) (hr : cfg.Repaired) (ops : List Op) :
    GoodRun cfg (run cfg {} ops) ∧
    ∀ st, run cfg {} ops = .ok st → st.live = st.list.length ∧ (flush st).live = 0 ∧ (flush st).list = [] := by
  have h := run_good cfg hb hr ops {} (itvInv_init cfg)
  refine ⟨h, ?_⟩
  intro st hst
  rw [hst] at h
  have := flush_inv st h.1
  exact ⟨h.1, this.2.1, this.2.2⟩
example : run Cfg.repaired {} [.time 5, .flush] = .ok { time := 5 } := rfl

/-- vbi_deferred_trigger (repaired walk) fires and frees exactly the nodes whose time has come: afterwards no due
trigger is left, and live allocations dropped by the number of events sent -/
theorem deferred_fires_and_frees (cfg : Cfg) (hw : cfg.walkFixDeferred = true) (st : St) (hi : st.live = st.list.length) :
    ∃ st' ev, deferred cfg st = .ok (st', ev) ∧ st'.live = st'.list.length ∧
      (∀ t ∈ st'.list, ¬ t.fire ≤ (st.time : Int) * 25) ∧ st'.live + ev.length = st.live :=
  (deferred_inv cfg st hi hw).elim fun (st', ev) ⟨h2, _, h4, h5⟩ => ⟨st', ev, rfl, h2, h4, h5⟩

/-- the original walks are NOT safe: the loop head `tp = &t->next` reads the node just freed as soon as one trigger
fires (replay corpus/C01/trig-deferred-uaf.ops) or is deleted (trig-delete-uaf.ops) - for every list and every time -/
theorem deferred_walk_uaf_counterexample (t : Trigger) (ts : List Trigger) (time : Int) (h : t.fire ≤ time) :
    deferredWalk false time (t :: ts) = .error (.uaf "vbi_deferred_trigger") := by
  simp [deferredWalk, h]

theorem delete_walk_uaf_counterexample (a : Trigger) (ts : List Trigger) :
    deleteWalk false a (a :: ts) = .error (.uaf "add_trigger:delete") := by
  simp [deleteWalk, sameTrigger]

/-- the original add_trigger links a node it never fills in: what fires later is not the parsed trigger (under the
harness' allocator: 0xAA bytes, no NUL in `url[]`) - replay corpus/C01/trig-uninitialised-node.ops;
with the copy the node is the parsed trigger -/
theorem add_trigger_copy_counterexample (st : St) (a : Trigger) (hd : a.del = false) (hn : st.list.any (sameTrigger a) = false)
    (hf : ¬ a.fire ≤ (st.time : Int) * 25) :
    (∃ st', addTrigger Cfg.original st a = .ok (st', []) ∧ st'.list.head? = some poison) ∧
    (∃ st', addTrigger Cfg.repaired st a = .ok (st', []) ∧ st'.list.head? = some a) := by
  constructor <;> simp [addTrigger, hd, hn, hf, Cfg.original, Cfg.repaired]
example : poison.link.terminated = false ∧ poison.link.url.length = Zvbi.Gen.Trig.urlSize := ⟨rfl, List.length_replicate ..⟩

/-- over all histories (any caption bytes, any interleaving with the other ops) `itv_count`
never exceeds `sizeof (itv_buf) - 1` = 255 and only characters >= 0x20 are stored, so both stores of itv_separator
(`itv_buf[itv_count++] = c`, `itv_buf[itv_count] = 0`) are inside `itv_buf[256]`. -/
theorem itv_buf_index_le_255 (ops : List Op) (st : St) (h : run Cfg.repaired {} ops = .ok st) :
    st.itv.length ≤ 255 ∧ st.itv.length < Zvbi.Gen.Trig.itvBufSize ∧ ∀ c ∈ st.itv, c ≠ 0 := by
  have hg := run_good Cfg.repaired repaired_bounds_ok repaired_is_repaired ops {} (itvInv_init _)
  rw [h] at hg
  have hr : Cfg.repaired.itvResetAbove = 254 := by decide
  have hs : Zvbi.Gen.Trig.itvBufSize = 256 := by decide
  have := hg.2.1
  exact ⟨by omega, by omega, hg.2.2⟩
example : Zvbi.Gen.Trig.itvResetAbove + 2 = Zvbi.Gen.Trig.itvBufSize := by decide

/-- every configuration, every string: parse_eacem / parse_atvef return a trigger only in two
ways - the cursor stands on the terminating NUL (no checksum attribute: optional in both syntaxes), or the attribute
without `:` in front of the cursor, read as a hexadecimal number, made verify_checksum() true over the bytes before
that attribute.  A checksum attribute that does not verify makes the parser return NULL: the trigger is dropped. -/
theorem checksum_gate (cfg : Cfg) (nuid : Nat) (now : Int) (mem : List Nat) (t : Trigger) (rest : List Nat) :
    (parseEacem cfg nuid now mem = .ok (some (t, rest)) → Gate mem rest) ∧
    (parseAtvef cfg now mem = .ok (some (t, rest)) → Gate mem rest) := by
  constructor
  · intro h
    have := (eacemLoop_post cfg nuid now mem (mem.length + 1) mem { fire := now } (Zvbi.Gen.Trig.intMax : Int)).1
    unfold parseEacem at h
    rw [h] at this
    exact this
  · intro h
    have := (atvefLoop_post cfg mem (mem.length + 1) mem { fire := now }).1
    unfold parseAtvef at h
    rw [h] at this
    exact this
/-- `<http://a>[0000]`: the checksum does not verify, the trigger is dropped; the sum of the ten bytes is 0x7ee0+..., a
matching value is accepted -/
example : verifyChecksum [60, 104, 116, 116, 112, 58, 47, 47, 97, 62] 0 = false := by decide
example : verifyChecksum [60, 62] (0xFFFF - 0x3c3e) = true := by decide

/-- packet.c eacem_trigger(): the 24 x 40 characters and the NUL it writes over `pg.text` fit that array -/
theorem eacem_page_string_fits : Zvbi.Gen.Trig.pageChars + 1 ≤ Zvbi.Gen.Trig.pgTextBytes := by decide
example : Zvbi.Gen.Trig.pageChars = 960 := by decide
end Zvbi.Props.C01Trig
