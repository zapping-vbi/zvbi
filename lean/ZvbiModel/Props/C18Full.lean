import ZvbiModel.ProxyQ.Model
import ZvbiModel.ProxyQ.Spec
import ZvbiModel.ProxyQ.LemmasQueue
import ZvbiModel.ProxyQ.LemmasSpec
import ZvbiModel.ProxyQ.LiftBasic
import ZvbiModel.ProxyQ.LiftQueue
import ZvbiModel.ProxyQ.LiftCapture
import ZvbiModel.ProxyQ.LiftService
import ZvbiModel.ProxyQ.LiftLoop
import ZvbiModel.Props.C18
/-!
# C18 at full strength: statements about the FULL daemon model, for all devices and all histories

`run cfg init ops` is the model of the whole daemon (`Model.lean`: sockets, CONNECT/SERVICE/CLOSE messages, service
negotiation, device open/close, the select loop, capture, overflow, flush) driven by an arbitrary history `ops` of
connect / service request / close request / socket close / socket credit / capture / flush / main-loop iteration,
for an arbitrary capture device `cfg` (what it supports at each strictness level, how many lines it delivers).
It is the model the correspondence check runs against the real daemon on every audit line.

All theorems below rest on `inv_reachable` (`ProxyQ/LiftLoop.lean`): every step of the daemon model decomposes
into the queue operations of `LemmasQueue.lean` (release, release loop, append, flush, join, leave) whose side
conditions hold, and the service invariants are re-established by every `vbi_proxyd_update_services`.

Two facts read from the C source by the translator enter the proofs (`LiftCapture.lean`): force_free compares
with the head saved before its loop (commit 5eee39a) and forward_data asserts `line_count <= max_lines` (commit
fd02c6e).  Reverting either changes `Generated/ProxyQLayout.lean` and the proofs stop checking.
-/
namespace Zvbi.Props.C18
open Zvbi.ProxyQ Zvbi.Gen.ProxyQ

/-! ## refcount_exact -/

/-- In every state the daemon model reaches - any device, any history of connects, service requests, captures,
socket credit, disconnects, flushes and main-loop iterations: the reference count of every queued buffer is the
number of client cursors at or before it, every cursor points into the queue or is NULL, the head buffer is held
by somebody (so a buffer is recycled exactly when its count reaches zero, from the head only), and
free + queued = allocated buffers. -/
theorem refcount_exact_full (cfg : Cfg) (ops : List Op) (s : State) (h : run cfg init ops = .ok s) :
    QInv s.dev.q (s.clients.map (·.backlog)) ∧ s.dev.free + s.dev.q.length = s.dev.allocated := by
  obtain ⟨hc, _⟩ := reach h
  refine ⟨?_, hc.alloc⟩
  rw [← views_backlog]; exact hc.q

def demoCfgF : Cfg := { scanning := 625, supp := fun _ => 0xFFFF, count := fun _ => 3 }

/-- two clients, client 0 stalled right after the handshake, twelve captured frames: the queue overflows -/
def overflowHistory : List Op :=
  [.conn 1 1 0, .credit 0 1040, .conn 1 1 0, .credit 1 1128, .iter, .iter, .iter, .iter, .iter, .iter] ++
  (List.range 12).flatMap (fun i => [Op.cap (1000 * (i + 1)) [⟨1, 7, i⟩] false, Op.iter])

/-- non-vacuity: that history reaches a state with two clients and a full queue (no free buffer), in which client 0
has lost frames to overflows -/
example : (match run demoCfgF init overflowHistory with
    | .ok s => s.clients.length == 2 && s.dev.q.length == 10 && s.dev.free == 0 &&
        s.clients.any (fun c => c.done.any (fun x => match x.2 with | .overflow _ => true | _ => false))
    | .error _ => false) = true := by
  obtain ⟨s, hr, ho⟩ := ffWitness_run
  rw [show run demoCfgF init overflowHistory = .ok s from hr]
  exact (Bool.and_eq_true_iff.mp (Bool.and_eq_true_iff.mp ho).1).2

/-! ## release_assert_unreachable -/

/-- No history of the daemon model ends in an error: neither `assert (p_proxy_dev->p_sliced == p_buf)` in
`vbi_proxy_queue_release_sliced` nor `assert (p_buf->line_count <= p_buf->max_lines)` in
`vbi_proxyd_forward_data` can fire, no cursor is ever dangling (used after its buffer was recycled or freed by
`vbi_proxy_stop_acquisition`), no NULL cursor is released - for every device, including one that returns frames
filling all lines of the capture window (there is no hypothesis on the device: the proof uses the generated fact
`assertLineCountStrict = false`, the assertion as repaired for D1). -/
theorem release_assert_unreachable_full (cfg : Cfg) (ops : List Op) (e : Err) : run cfg init ops ≠ .error e := by
  obtain ⟨s', hr, _, _⟩ := inv_reachable cfg ops
  rw [hr]; intro h; cases h

/-- non-vacuity: the error values are reachable by `run` from states that violate the invariant (a cursor beyond
the queue) - the theorem is about reachable states, not about a `run` that cannot fail -/
example : (match run demoCfgF { clients := [{ id := 0, state := .forward, allServices := 1, backlog := 1, credit := 100000 }] } [.iter] with
    | .error .dangling => true
    | _ => false) = true := by decide +kernel

/-- non-vacuity for the other assertion: a full frame is accepted -/
example : (match run demoCfgF init ([.conn 1 1 0, .credit 0 100000, .iter, .iter, .iter, .iter] ++
      [.cap 1000 [⟨1, 7, 1⟩, ⟨1, 8, 2⟩, ⟨1, 9, 3⟩] true, .iter, .iter]) with
    | .ok s => s.clients.any (fun c => c.done.any (fun x => x.1.lines.length == 3))
    | .error _ => false) = true := by decide +kernel

/-! ## each_frame_once_in_order -/

/-- For every client of every reachable state: the frames captured while it was subscribed (`expected`, the ghost
log written by `vbi_proxyd_forward_data`: sequence number, capture timestamp and lines as read from the device, in
capture order) are EXACTLY the frames still queued for it (from its cursor to the tail) followed by the frames already
taken from the queue for it - same frames, same order, none missing, none twice.  Every frame taken from the queue
was either sent, or dropped for a recorded reason that is the client's own (its service change, its disconnect), a
flush of the whole queue, or an overflow - and an overflow can only take a frame from a client that at that moment
had at least `DEFAULT_BUFFER_COUNT` (8) frames queued and unsent.  So a client that never lags by the queue depth and
does not itself change services or leave receives every frame captured between its subscribe and its unsubscribe,
once each, in capture order, with the capture timestamp. -/
theorem each_frame_once_in_order_full (cfg : Cfg) (ops : List Op) (s : State) (h : run cfg init ops = .ok s) :
    ∀ c ∈ s.clients,
      c.expected = pendingOf s.dev.q c.backlog ++ c.done.map (·.1) ∧
      c.backlog ≤ s.dev.q.length ∧
      (0 < c.backlog → c.subscribed = true) ∧
      ∀ x ∈ c.done, fateOk x.2 := by
  obtain ⟨hc, _⟩ := reach h
  intro c hcm
  have hv : c.view ∈ views s := List.mem_map.mpr ⟨c, hcm, rfl⟩
  have pc := hc.pc _ hv
  exact ⟨pc.gh, hc.q.bound _ (List.mem_map.mpr ⟨c.view, hv, rfl⟩), pc.sub, pc.ov⟩

/-- the SLICED_IND the daemon model builds for the frame at a client's cursor: the frame's own sequence number and
capture timestamp, and (repaired filter, generated fact `filterBoundsInput = false`) exactly the captured lines of
the client's granted services whenever those fit the client's line count -/
theorem sent_message_exact (c : Client) (e : QElem)
    (hfit : (specLines c.allServices e.frame.lines).length ≤ c.maxLines) :
    OutMsg.sliced e.frame.seq e.frame.ts (filterLines c.maxLines c.allServices e.frame.lines) =
      OutMsg.sliced e.frame.seq e.frame.ts (specLines c.allServices e.frame.lines) := by
  congr 1
  rw [filterLines, show filterBoundsInput = false from rfl]
  exact filter_exact_repaired _ _ _ hfit

/-- non-vacuity: after the overflow history all twelve frames were captured for both clients; client 1 has lost
nothing (two frames sent, ten still queued), client 0 - at that moment ten frames behind, its cursor on the oldest
buffer of the full queue - has lost exactly frame 1 to the overflow -/
example : (match run demoCfgF init overflowHistory with
    | .ok s => s.clients.any (fun c => c.id == 1 && c.expected.map (·.seq) == (List.range 12).reverse &&
                  c.done.all (fun x => x.2 == Fate.sent) && c.backlog == 10) &&
               s.clients.any (fun c => c.id == 0 &&
                  (c.done.filter (fun x => match x.2 with | .overflow 10 => true | _ => false)).map (·.1.seq) == [1])
    | .error _ => false) = true := by
  obtain ⟨s, hr, ho⟩ := ffWitness_run
  rw [show run demoCfgF init overflowHistory = .ok s from hr]
  exact (Bool.and_eq_true_iff.mp ho).2

/-! ## service_union -/

/-- In every reachable state: the device is open iff some client is subscribed (state FORWARD with a non-empty
grant) - so it is opened for the first subscriber and closed when the last one leaves or drops its services;
while open its `all_services` is the union of the grants of the FORWARD clients; and every FORWARD client's grant
is the union over the strictness levels of (stored request & what the device delivers at that level). -/
theorem service_union_full (cfg : Cfg) (ops : List Op) (s : State) (h : run cfg init ops = .ok s) :
    (s.dev.opened = s.clients.any (·.subscribed)) ∧
    (s.dev.opened = true → s.dev.allServices =
      s.clients.foldl (fun acc c => if c.state == .forward then acc ||| c.allServices else acc) 0) ∧
    (∀ c ∈ s.clients, c.state = .forward → c.allServices = allOf cfg c.services) := by
  obtain ⟨hc, hs⟩ := reach h
  refine ⟨?_, ?_, ?_⟩
  · rw [Bool.eq_iff_iff, List.any_eq_true]
    constructor
    · intro ho
      apply Decidable.byContradiction
      intro hno
      refine hs.os ho (unionV_eq_zero.mpr fun v hv => ?_)
      obtain ⟨c, hcm, rfl⟩ := List.mem_map.mp hv
      exact Bool.eq_false_iff.mpr fun hsb => hno ⟨c, hcm, hsb⟩
    · rintro ⟨c, hcm, hsub⟩
      exact (hc.pc _ (List.mem_map.mpr ⟨c, hcm, rfl⟩)).so hsub
  · intro ho
    rw [devUnion_eq]; exact hs.un ho
  · intro c hcm hf
    exact hs.gs _ (List.mem_map.mpr ⟨c, hcm, rfl⟩) hf

/-- corollary: with no client connected the device is closed and the queue is empty -/
theorem device_closed_when_last_leaves (cfg : Cfg) (ops : List Op) (s : State) (h : run cfg init ops = .ok s)
    (hnone : s.clients = []) : s.dev.opened = false ∧ s.dev.q = [] := by
  obtain ⟨h1, _, _⟩ := service_union_full cfg ops s h
  have ho : s.dev.opened = false := by rw [h1, hnone]; rfl
  obtain ⟨hc, _⟩ := reach h
  exact ⟨ho, (hc.closed_empty ho).2⟩

/-- non-vacuity: two clients at different strictness, device opened for the union 7, closed when both have left -/
example :
    (match run demoCfgF init [.conn 1 1 0, .credit 0 100000, .conn 6 2 0, .credit 1 100000, .iter, .iter, .iter, .iter] with
     | .ok s => s.dev.opened && s.dev.allServices == 7 && s.clients.length == 2
     | .error _ => false) = true ∧
    (match run demoCfgF init [.conn 1 1 0, .credit 0 100000, .conn 6 2 0, .credit 1 100000, .iter, .iter, .iter, .iter,
        .close 0, .iter, .close 1, .iter, .iter] with
     | .ok s => !s.dev.opened && s.clients.isEmpty
     | .error _ => false) = true := by
  decide +kernel

/-! ## stalled_client_isolated -/

/-- One-run form, all histories: whatever the OTHER clients do (stall, fill the queue, change services, disconnect),
a frame captured for client `c` leaves `c`'s part of the queue only by being sent to `c`, by `c`'s own service change
or disconnect, by a flush of the whole queue (or, repaired code only, because the device no longer grants `c` anything), or by an overflow that finds `c` ITSELF at least `DEFAULT_BUFFER_COUNT`
frames behind (its cursor on the oldest buffer of a full queue); and what is still queued for `c` is exactly the rest,
in order.  (With the code before 5eee39a this is false: `stalled_client_isolated_counterexample`.) -/
theorem stalled_client_isolated_full (cfg : Cfg) (ops : List Op) (s : State) (h : run cfg init ops = .ok s) :
    ∀ c ∈ s.clients,
      c.expected = pendingOf s.dev.q c.backlog ++ c.done.map (·.1) ∧
      ∀ fr fate, (fr, fate) ∈ c.done →
        fate = .sent ∨ fate = .svcChange ∨ fate = .closed ∨ fate = .flushed ∨ fate = .grantLost ∨
        ∃ n, fate = .overflow n ∧ defaultBufferCount ≤ n := by
  intro c hcm
  obtain ⟨h1, _, _, h4⟩ := each_frame_once_in_order_full cfg ops s h c hcm
  refine ⟨h1, ?_⟩
  intro fr fate hm
  have := h4 (fr, fate) hm
  cases fate with
  | overflow n => exact .inr (.inr (.inr (.inr (.inr ⟨n, rfl, this⟩))))
  | _ => simp

/-- Two-run form: take ANY two histories (any devices, any behaviour of the other clients - stalled or not) and a
client in each for which the same frames were captured while it was subscribed; if neither lost a frame (every frame
taken from the queue for it was sent), the sequences sent to the two are the same up to how far each has got: one is
the older part of the other. -/
theorem stalled_client_isolated_two_runs (cfg cfg' : Cfg) (ops ops' : List Op) (s s' : State)
    (h : run cfg init ops = .ok s) (h' : run cfg' init ops' = .ok s')
    (c c' : Client) (hc : c ∈ s.clients) (hc' : c' ∈ s'.clients) (hexp : c.expected = c'.expected) :
    c.done.map (·.1) <:+ c'.done.map (·.1) ∨ c'.done.map (·.1) <:+ c.done.map (·.1) := by
  obtain ⟨h1, _⟩ := each_frame_once_in_order_full cfg ops s h c hc
  obtain ⟨h1', _⟩ := each_frame_once_in_order_full cfg' ops' s' h' c' hc'
  have hs1 : c.done.map (·.1) <:+ c.expected := ⟨_, h1.symm⟩
  have hs2 : c'.done.map (·.1) <:+ c.expected := ⟨_, by rw [hexp]; exact h1'.symm⟩
  by_cases hl : (c.done.map (·.1)).length ≤ (c'.done.map (·.1)).length
  · exact Or.inl (List.suffix_of_suffix_length_le hs1 hs2 hl)
  · exact Or.inr (List.suffix_of_suffix_length_le hs2 hs1 (by omega))

/-! ### the literal two-run formulation is FALSE in this model (a modelling artefact, not a defect) -/

/-- the literal reading "the same history, with client `a` given socket credit or not, delivers the same frames to
every other client `b` that is not itself overflowed" -/
def stalled_client_isolated_naive : Prop :=
  ∀ (cfg : Cfg) (ops ops' : List Op) (a : Nat) (s s' : State),
    (ops.filter (fun o => match o with | .credit k _ => k != a | _ => true)) =
      (ops'.filter (fun o => match o with | .credit k _ => k != a | _ => true)) →
    run cfg init ops = .ok s → run cfg init ops' = .ok s' →
    ∀ b, b ≠ a → ∀ c ∈ s.clients, c.id = b → (∀ x ∈ c.done, ∀ n, x.2 ≠ Fate.overflow n) →
      ∀ c' ∈ s'.clients, c'.id = b → (∀ x ∈ c'.done, ∀ n, x.2 ≠ Fate.overflow n) →
      ((c.done.map (·.1.seq)).isSuffixOf (c'.done.map (·.1.seq)) ||
       (c'.done.map (·.1.seq)).isSuffixOf (c.done.map (·.1.seq))) = true

/-- client 0 connects and says CLOSE_REQ; two frames are captured; client 1 connects; a third frame is captured.
With socket credit client 0 is gone before the frames arrive, the device is closed, the scripted device keeps the
two frames until client 1 opens it again: client 1 gets frames 0, 1, 2.  Without credit client 0's CONNECT_CNF is
never written, its CLOSE_REQ is never read, it stays subscribed, the two frames are read for it alone: client 1
gets frame 2 only. -/
def twoRunHistory (withCredit : Bool) : List Op :=
  [.conn 1 1 0] ++ (if withCredit then [.credit 0 100000] else []) ++
  [.iter, .iter, .iter, .iter, .bye 0, .iter, .iter,
   .cap 1000 [⟨1, 7, 0⟩] false, .cap 2000 [⟨1, 7, 1⟩] false,
   .conn 1 1 0, .credit 1 100000, .iter, .iter, .iter, .iter, .iter, .iter,
   .cap 3000 [⟨1, 7, 2⟩] false, .iter, .iter, .iter]

def noOverflow (c : Client) : Bool := c.done.all (fun x => match x.2 with | .overflow _ => false | _ => true)

theorem noOverflow_spec {c : Client} (h : noOverflow c = true) : ∀ x ∈ c.done, ∀ n, x.2 ≠ Fate.overflow n := by
  intro x hx n hn
  have := List.all_eq_true.mp h x hx
  rw [hn] at this; cases this

/-- the two runs end in states with a client 1 each, neither overflowed, whose sequences of taken frames are not
comparable (evaluated once, then read off the Boolean) -/
theorem twoRun_witness :
    ∃ s s', run demoCfgF init (twoRunHistory true) = .ok s ∧ run demoCfgF init (twoRunHistory false) = .ok s' ∧
      ∃ c ∈ s.clients, ∃ c' ∈ s'.clients, c.id = 1 ∧ c'.id = 1 ∧ noOverflow c = true ∧ noOverflow c' = true ∧
        ((c.done.map (·.1.seq)).isSuffixOf (c'.done.map (·.1.seq)) ||
         (c'.done.map (·.1.seq)).isSuffixOf (c.done.map (·.1.seq))) = false := by
  have hw : (match run demoCfgF init (twoRunHistory true), run demoCfgF init (twoRunHistory false) with
     | .ok s, .ok s' =>
       s.clients.any (fun c => c.id == 1 && noOverflow c &&
         s'.clients.any (fun c' => c'.id == 1 && noOverflow c' &&
           !((c.done.map (·.1.seq)).isSuffixOf (c'.done.map (·.1.seq)) ||
             (c'.done.map (·.1.seq)).isSuffixOf (c.done.map (·.1.seq)))))
     | _, _ => false) = true := by decide +kernel
  obtain ⟨s, hs, _⟩ := inv_reachable demoCfgF (twoRunHistory true)
  obtain ⟨s', hs', _⟩ := inv_reachable demoCfgF (twoRunHistory false)
  rw [hs, hs'] at hw
  obtain ⟨c, hc, hcond⟩ := List.any_eq_true.mp hw
  simp only [Bool.and_eq_true, beq_iff_eq] at hcond
  obtain ⟨c', hc', hcond'⟩ := List.any_eq_true.mp hcond.2
  simp only [Bool.and_eq_true, beq_iff_eq, Bool.not_eq_true'] at hcond'
  exact ⟨s, s', hs, hs', c, hc, c', hc', hcond.1.1, hcond'.1.1, hcond.1.2, hcond'.1.2, hcond'.2⟩

/-- COUNTEREXAMPLE to the literal two-run formulation.  Why it fails: whether client `a`'s CLOSE_REQ / SERVICE_REQ
is read depends on whether its pending reply could be written, so `a`'s socket decides WHEN the device is closed or
re-programmed; in this model (as in the harness) the scripted device keeps frames nobody read, so the set of frames
captured while `b` is subscribed depends on `a`.  With a real-time device those frames would be lost for everybody.
The daemon is not at fault: for the frames that WERE captured for `b`, `stalled_client_isolated_full` and
`stalled_client_isolated_two_runs` hold. -/
theorem stalled_client_isolated_naive_false : ¬ stalled_client_isolated_naive := by
  intro hn
  obtain ⟨s, s', hs, hs', c, hc, c', hc', hid, hid', hno, hno', hneg⟩ := twoRun_witness
  have := hn demoCfgF (twoRunHistory true) (twoRunHistory false) 0 s s' (by decide) hs hs' 1 (by decide)
    c hc hid (noOverflow_spec hno) c' hc' hid' (noOverflow_spec hno')
  rw [this] at hneg
  cases hneg

end Zvbi.Props.C18
