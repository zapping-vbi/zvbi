import ZvbiModel.Idl.Lemmas
import ZvbiModel.Pfc.Encode
import ZvbiModel.Pfc.Witness
/-!
# C15 - IDL and PFC demultiplexers deliver the sent data in order and flag loss

Property theorems.  Models: `Idl/Model.lean`, `Pfc/Model.lean`; sender specs and the stream-level obligations:
`Idl/Spec.lean`, `Pfc/Spec.lean`; lemmas: the other files under `Idl/` and `Pfc/`.
-/
namespace Zvbi.Props.C15
open Zvbi.Hamm Zvbi.Gen

section Idl
open Zvbi.Idl

/-- The CRC table that `init_crc16_table (table, 0x8940)` computes is the bit-serial CRC of
    x^16+x^9+x^7+x^4+1 (LSB first) of each byte value. -/
theorem idl_crc_table_is_bitwise_crc : ∀ i < 256, crcTab i = Spec.shift8 i := crcTab_eq_shift8

/-- Hence the table driven loop of `idl_a_demux_feed` computes that CRC of any byte string. -/
theorem idl_crc_loop_is_bitwise_crc (bytes : List Nat) (hb : ∀ b ∈ bytes, b < 256) :
    crcOf bytes = Spec.crc bytes := crcOf_eq bytes hb

example : crcTab 1 = 0x1081 ∨ crcTab 1 ≠ 0 := by decide

/-- **Refinement to the sender spec.**  Take any transmission: intact first transmissions of
    format A packets for the selected channel/address (any FT options: RI, CI, DL present or not,
    any address length 0..6, dummy bytes after runs of 0x00/0xFF counted from the CI byte),
    intact repeats, packets of ours with a detectable transmission error, and arbitrary foreign
    packets, in any order.  Fed to a demultiplexer that awaits no repeat, the callbacks are exactly
    `Spec.expected`: every intact first transmission, in order, with exactly the sent user bytes;
    DATA_LOST exactly when a packet was damaged or the continuity index jumped since the last
    delivery; DEPENDENT = IAL bit 3.  (`s.flags` is whatever the flag word holds at the start.) -/
theorem idl_delivers_sent (s : St) (hri : s.ri = none) (txs : List Spec.Tx)
    (hnr : ∀ t ∈ txs, ∀ p, t ≠ Spec.Tx.damagedRep p)
    (hsent : ∀ t ∈ txs, Spec.Tx.Sent s.channel s.address t) :
    (run s (txs.map Spec.Tx.bytes)).map (fun cb => (cb.flags, cb.bytes)) =
      Spec.expected s.flags s.ci txs := by
  rw [run_refines_R txs s hsent, hri, expectedR_none _ _ _ txs hnr hsent]

/-- **Refinement including the repeat mechanism, from any state.**  The transmission may also
    contain damaged packets that announce a repeat (RI bit 7), and the demultiplexer may already
    await a repeat (`dx->ri >= 0`).  The callbacks are exactly `Spec.expectedR`: the awaited repeat,
    arriving intact, is delivered in place of the damaged packet; any other intact packet of ours
    while a repeat is awaited reports DATA_LOST (a first transmission is delivered, a repeat
    discarded); without an awaited repeat, repeats are discarded.  The `sticky` argument says whether
    the receiver keeps awaiting the repeat after it arrived: `false` is the intended receiver, and the
    current source is `sticky = !Gen.idlRiClearedOnRecovery` (see the next two theorems). -/
theorem idl_delivers_sent_repeats (s : St) (txs : List Spec.Tx)
    (hsent : ∀ t ∈ txs, Spec.Tx.Sent s.channel s.address t) :
    (run s (txs.map Spec.Tx.bytes)).map (fun cb => (cb.flags, cb.bytes)) =
      Spec.expectedR (!idlRiClearedOnRecovery) s.flags s.ci s.ri txs := run_refines_R txs s hsent

/-- On a source that forgets the awaited repeat once it arrived (`fixes/idl-repeat-recovered.diff`),
    the demultiplexer is the intended receiver: DATA_LOST exactly when something was lost. -/
theorem idl_delivers_sent_repeats_intended (hfix : idlRiClearedOnRecovery = true) (s : St) (txs : List Spec.Tx)
    (hsent : ∀ t ∈ txs, Spec.Tx.Sent s.channel s.address t) :
    (run s (txs.map Spec.Tx.bytes)).map (fun cb => (cb.flags, cb.bytes)) =
      Spec.expectedR false s.flags s.ci s.ri txs := by
  have := run_refines_R txs s hsent
  rw [hfix] at this
  exact this

/-- In particular the delivered byte strings are exactly the user data of the intact first
    transmissions, block by block, in order - nothing else, nothing missing. -/
theorem idl_delivers_sent_bytes (s : St) (hri : s.ri = none) (txs : List Spec.Tx)
    (hnr : ∀ t ∈ txs, ∀ p, t ≠ Spec.Tx.damagedRep p)
    (hsent : ∀ t ∈ txs, Spec.Tx.Sent s.channel s.address t) :
    (run s (txs.map Spec.Tx.bytes)).map (·.bytes) =
      txs.filterMap (fun t => match t with | .data p => some p.data | _ => none) := by
  have h := congrArg (List.map (·.2)) (idl_delivers_sent s hri txs hnr hsent)
  rw [List.map_map, expected_bytes] at h
  exact h

/-- A freshly created demultiplexer awaits no repeat, so the two theorems above apply to it. -/
theorem idl_new_awaits_no_repeat (channel address fill : Nat) (s : St)
    (h : new channel address fill = some s) :
    s.ri = none ∧ s.ci = none ∧ s.channel = channel ∧ s.address = address := by
  rw [new_some h]; exact ⟨rfl, rfl, rfl, rfl⟩

/-- Packets that are not format A packets of the selected channel and address (another
    channel, not packet 30/31, format B, reserved address length, another address value or
    length, or a header byte damaged beyond repair) change nothing and deliver nothing. -/
theorem idl_other_address_silent (s : St) (buf : List Nat)
    (h : Spec.NotForUs s.channel s.address buf) : (feed s buf).1 = s ∧ (feed s buf).2.2 = none :=
  feed_foreign s buf h

/-- **CRC / Hamming gate.**  In every state and for every 42 bytes: if the callback is invoked,
    then the header bytes decode (after Hamming correction) to a format A packet of the selected
    channel and address, and the check sum over the CRC region is acceptable.  So a packet failing
    its CRC or a Hamming check is never delivered. -/
theorem idl_crc_gate (s : St) (buf : List Nat) (cb : Cb) (hb : ∀ b ∈ buf, b < 256)
    (h : (feed s buf).2.2 = some cb) :
    ¬ Spec.NotForUs s.channel s.address buf ∧ Spec.ChecksumOk buf := by
  refine ⟨fun hn => ?_, ?_⟩
  · rw [(feed_foreign s buf hn).2] at h; cases h
  · rcases feed_view s buf with ⟨_, hnone⟩ | ⟨ft, ial, ho, hfeed⟩
    · rw [hnone] at h; cases h
    · have hdrop : ∀ n, ∀ b ∈ buf.drop n, b < 256 := fun n b hbm => hb b (List.mem_of_mem_drop hbm)
      rw [hfeed, feedA2_eq, feedA3_eq] at h
      generalize (if ft &&& 2 ≠ 0 then rd buf (4 + (ial &&& 7)) else 0) = ri at h
      refine ⟨ft, ial, ho.ft_eq, ho.ial_eq, ?_⟩
      by_cases hok : crcOk ft (crcOf (buf.drop (4 + ((ial &&& 7) + if ft &&& 2 ≠ 0 then 1 else 0))))
      · rw [crcOf_eq _ (hdrop _)] at hok; exact hok
      · rw [if_neg hok] at h; split at h <;> cases h

/-- **Loss is flagged, once.**  For an intact first transmission `p` arriving in a state that
    awaits no repeat: the callback carries DATA_LOST iff the flag word already had it pending or the
    continuity index does not continue the expected one; afterwards nothing is pending and the next
    index is expected. -/
theorem idl_loss_flagged (s : St) (p : Spec.Pkt) (hv : p.Valid)
    (hch : s.channel = p.channel) (haddr : s.address = Spec.spaVal p.spa)
    (hsri : s.ri = none) (hrep : p.haveRi = true → p.ri &&& 0xF = 0) :
    ∃ cb, (feed s p.bytes).2.2 = some cb ∧ cb.bytes = p.data ∧
      (cb.flags &&& 1 = 1 ↔ (s.flags &&& 1 = 1 ∨ Spec.lostFlag s.ci p.ci = 1)) ∧
      (feed s p.bytes).1.flags &&& 1 = 0 ∧ (feed s p.bytes).1.ci = some (p.ci + 1) := by
  rw [feed_data s p hv hch haddr hsri hrep]
  refine ⟨_, rfl, rfl, ?_, ?_, rfl⟩
  · -- bit 0 of `flags | lost | dependent`: DEPENDENT is bit 3, and `lost` is 0 or 1
    have hd : ¬ (p.ial &&& 8) &&& 1 = 1 := by rw [Nat.and_assoc, show 8 &&& 1 = 0 from rfl, Nat.and_zero]; decide
    have hl : Spec.lostFlag s.ci p.ci &&& 1 = 1 ↔ Spec.lostFlag s.ci p.ci = 1 := by
      rcases lostFlag_le s.ci p.ci with h | h <;> rw [h] <;> decide
    show (s.flags ||| Spec.lostFlag s.ci p.ci ||| (p.ial &&& 8)) &&& 1 = 1 ↔ _
    simp only [Nat.and_one_is_mod, Nat.or_mod_two_eq_one] at hd hl ⊢
    rw [hl, or_iff_left hd]
  · show ((s.flags ||| Spec.lostFlag s.ci p.ci) &&& 0xFFFFFFFE) &&& 1 = 0
    rw [Nat.and_assoc, show 0xFFFFFFFE &&& 1 = 0 from rfl, Nat.and_zero]

/-- A packet of ours with a detectable transmission error (and no repeat announced) is refused
    and leaves DATA_LOST pending for the next delivery (previous theorem). -/
theorem idl_damage_is_remembered (s : St) (p : Spec.Pkt) (hd : p.Damaged)
    (hch : s.channel = p.channel) (haddr : s.address = Spec.spaVal p.spa) :
    (feed s p.bytes).2.2 = none ∧ (feed s p.bytes).2.1 = false ∧ (feed s p.bytes).1.flags &&& 1 = 1 := by
  rw [feed_damaged s p hd hch haddr]
  refine ⟨rfl, rfl, ?_⟩
  simp

/-- a concrete transmitted packet: channel 3, address 0x21 (two nibbles), explicit CI and DL,
    user data with a run of nine 0x00 (so a dummy byte is inserted) -/
def exPkt (ci : Nat) : Spec.Pkt :=
  Spec.mkPacket 3 12 2 [1, 2] 0 ci [0, 0, 0, 0, 0, 0, 0, 0, 0, 7] 0xAA (List.replicate 21 0x55)

example : (exPkt 0).payload = [0, 0, 0, 0, 0, 0, 0, 0xAA, 0, 0, 7] := by decide
example : (exPkt 5).Valid := valid_of_validB _ (by decide +kernel)
/-- non-vacuity of `idl_delivers_sent`: two consecutive packets around a foreign one -/
example : (run { channel := 3, address := 0x21, ci := none, ri := none, flags := 0 }
    [(exPkt 5).bytes, List.replicate 42 0, (exPkt 6).bytes]).map (fun cb => (cb.flags, cb.bytes)) =
    [(0, [0, 0, 0, 0, 0, 0, 0, 0, 0, 7]), (0, [0, 0, 0, 0, 0, 0, 0, 0, 0, 7])] := by decide +kernel
/-- ... and a jump of the continuity index is flagged on the next delivery only -/
example : (run { channel := 3, address := 0x21, ci := none, ri := none, flags := 0 }
    [(exPkt 5).bytes, (exPkt 7).bytes, (exPkt 8).bytes]).map (·.flags) = [0, 1, 0] := by decide +kernel
example : Spec.NotForUs 3 0x21 (List.replicate 42 0) := notForUs_zeros 3 0x21

/-- **Finding C15-F17 (witness).**  On a source whose `vbi_idl_a_demux_new` does not initialise `dx->flags`
    (`Gen.idlFlagsInitialised = false`): if the allocator hands out memory filled with 0xBE (as ASan's does), the first
    callback of an intact packet carries flags 0xBEBEBEBE instead of 0.  (Vacuous when the source assigns `dx->flags`:
    the translator then sets `Gen.idlFlagsInitialised`.)  Replay: corpus/C15/f17-idl-flags-uninit.ops -/
theorem idl_flags_uninitialised_counterexample : idlFlagsInitialised = false →
    ((new 1 0 190).bind (fun s => (feed s Zvbi.C15Witness.f17Packet).2.2)).map (·.flags) = some 0xBEBEBEBE := by
  decide +kernel

/-- packets with an RI byte: channel 3, address 0x21, RI, CI and DL present -/
def exRep (ci ri : Nat) : Spec.Pkt :=
  Spec.mkPacket 3 14 2 [1, 2] ri ci [0, 0, 0, 0, 0, 0, 0, 0, 0, 7] 0xAA (List.replicate 20 0x55)
/-- the first transmission of packet 5, damaged in its last byte, announcing a repeat -/
def exRepDamaged : Spec.Pkt := { exRep 5 0x80 with crcHi := (exRep 5 0x80).crcHi ^^^ 1 }

example : (exRep 5 0x81).Valid := valid_of_validB _ (by decide +kernel)

/-- **Finding C15-R1 (witness): DATA_LOST without a loss.**  Packet 5 arrives damaged and announces a
    repeat, its repeat arrives intact and is delivered (nothing is lost), then packet 6 arrives:
    a source that never resets `dx->ri` after a successful recovery (`Gen.idlRiClearedOnRecovery = false`) still awaits the
    repeat, takes packet 6 for "repeat packets lost" and delivers it with DATA_LOST - the intended receiver
    (`expectedR false`) reports no loss.  Vacuous when the source resets `dx->ri`.  Replay: corpus/C15/r1-idl-spurious-data-lost.ops -/
theorem idl_spurious_data_lost_counterexample : idlRiClearedOnRecovery = false →
    (run { channel := 3, address := 0x21, ci := none, ri := none, flags := 0 }
      [exRepDamaged.bytes, (exRep 5 0x81).bytes, (exRep 6 0x80).bytes]).map (·.flags) = [0, 1] ∧
    (Spec.expectedR false 0 none none
      [.damagedRep exRepDamaged, .rep (exRep 5 0x81), .data (exRep 6 0x80)]).map (·.1) = [0, 0] := by
  decide +kernel

/-- With an initialised flag word (`fill = 0`, or a repaired source) a new demultiplexer starts
    with no flag pending, so `idl_delivers_sent` yields exactly DATA_LOST / DEPENDENT. -/
theorem idl_new_flags_zero (channel address : Nat) (s : St) (h : new channel address 0 = some s) :
    s.flags = 0 := by
  rw [new_some h]; simp

end Idl

section Pfc
open Zvbi.Pfc
open Zvbi.Pfc.Spec (Ph run)

/-- **No out-of-bounds access, no endless loop - for every history.**  Starting from
    `vbi_pfc_demux_new`, any sequence of `vbi_pfc_demux_feed` calls with arbitrary 42 byte packets
    and `vbi_pfc_demux_reset` calls runs without reading outside a packet, without writing outside
    `block[2048]` (extent from `pfc_demux.h`), without exhausting the loop fuel 42, and keeps
    `bi + left <= 2047`. -/
theorem pfc_never_oob (pgno stream : Nat) (ops : List Op) (hops : ∀ b, Op.feed b ∈ ops → b.length = 42) :
    ∃ r, runOps (new pgno stream) ops = .ok r ∧ Inv r.1 :=
  runOps_ok ops hops _ (inv_new pgno stream)

/-- **The grammar reads back what was sent** (parse ∘ print, independent of the demultiplexer):
    any sequence of sendable blocks with any numbers of filler bytes before, between and after
    them is read as exactly the non-empty blocks, in order. -/
theorem pfc_grammar_reads_blocks (items : List (Spec.Blk × Nat)) (hok : ∀ it ∈ items, it.1.Ok) (lead : Nat) :
    run .idle [] (Spec.flat lead items) = ⟨.idle, Spec.delivered items, true⟩ :=
  run_flat_idle items hok lead

/-- **One packet.**  In any well-formed state, for a packet whose block pointer is usable
    (`Spec.Admissible`: legal value; if no block is in progress it announces the first separator
    with only fillers before it, or 13 and the packet holds fillers only): if the grammar accepts
    the 39 payload bytes in the phase the state stands for, `_vbi_pfc_demux_decode` returns TRUE,
    has called back exactly the blocks the grammar completes in this packet, in order, with
    their bytes, and ends in the state standing for the grammar's phase.  This covers blocks of
    every size at every alignment, separators and structure headers split over packets, and
    blocks ending in the last column. -/
theorem pfc_decode_refines_grammar (buf : List Nat) (hbuf : buf.length = 42) (s : St) (hwf : WF s) (hinv : Inv s)
    (n : Nat) (hn : unham8 (buf.getD 2 0) = some n)
    (hadm : Spec.Admissible (phase s) n (buf.drop 3))
    (hok : (run (phase s) [] (buf.drop 3)).ok = true) :
    ∃ o, decode s buf = .ok o ∧ o.ret = true ∧ WF o.st ∧ Inv o.st ∧
      run (phase s) [] (buf.drop 3) = ⟨phase o.st, o.blocks.map toSpec, true⟩ :=
  let ⟨o, ho, hr, h⟩ := decode_run buf hbuf s hwf hinv n hn hadm hok
  ⟨o, ho, hr, h.wf, h.inv, h.run_eq⟩

/-- **Blocks delivered as sent (packet sequences).**  Take any sendable block sequence with
    any filler counts (`Spec.flat`), cut into consecutive 39 byte payloads in any packets whose
    block pointers are usable.  Decoding the packets one after the other from a state between
    blocks calls back exactly the non-empty blocks, in order, each with its application id
    and bytes - nothing else - and ends between blocks.  (Size-0 blocks produce no callback.) -/
theorem pfc_delivers_blocks_rows (items : List (Spec.Blk × Nat)) (hitems : ∀ it ∈ items, it.1.Ok) (lead : Nat)
    (bufs : List (List Nat)) (hlen : ∀ b ∈ bufs, b.length = 42)
    (hstream : (bufs.map (fun b => b.drop 3)).flatten = Spec.flat lead items)
    (s : St) (hidle : s.left = 0) (hinv : Inv s)
    (hadm : Spec.AdmissibleAll .idle (bufs.map Spec.bpAndPayload)) :
    ∃ s' bl, decodeAll s bufs = .ok (s', bl) ∧ bl.map toSpec = Spec.delivered items ∧ s'.left = 0 := by
  have hph := phase_idle s hidle
  have hR := pfc_grammar_reads_blocks items hitems lead
  have hpl : (bufs.map Spec.bpAndPayload).map (·.2) = bufs.map (fun b => b.drop 3) := List.map_map ..
  obtain ⟨s', bl, h1, _, _, h5⟩ := decode_rows bufs s (fun h => by omega) hinv hlen
    ⟨by rw [hph]; exact hadm, by rw [hph, hpl, hstream, hR]⟩
  rw [hph, hpl, hstream, hR] at h5
  exact ⟨s', bl, h1, (congrArg Spec.Res.out h5).symm, left_of_phase_idle (congrArg Spec.Res.ph h5).symm⟩

/-- **Blocks delivered as sent (whole transmissions).**  A freshly created demultiplexer for
    page `pgno` (0x100..0x8FF), stream `stream`, is fed consecutive pages of that stream: each a page
    header (continuity index counting up modulo 16 from any `ci`, packet count = number of rows,
    any other header content) followed by its rows `X/1 .. X/n`, `n <= 25`.  If the rows' payloads,
    concatenated, are the flat stream of a sendable block sequence (blocks of 0..2047 bytes, any
    filler counts, so any alignment relative to packets and pages) and every block pointer is
    usable, then the callbacks are exactly the non-empty blocks, in order, with their application
    ids and bytes.  Size-0 blocks produce no callback (stated interpretation). -/
theorem pfc_delivers_blocks (pgno stream : Nat) (hpg1 : 0x100 ≤ pgno) (hpg2 : pgno < 0x900) (hst : stream < 16)
    (items : List (Spec.Blk × Nat)) (hitems : ∀ it ∈ items, it.1.Ok) (lead : Nat)
    (ci : Nat) (hci : ci < 16) (pages : List Spec.Page) (hn : ∀ pg ∈ pages, pg.rows.length ≤ 25)
    (hstream : ((Spec.allRows pages).map (·.2)).flatten = Spec.flat lead items)
    (hadm : Spec.AdmissibleAll .idle (Spec.allRows pages)) :
    ∃ s' bl, feedAll (new pgno stream) (Spec.pagesPkts pgno stream ci pages) = .ok (s', bl) ∧
      bl.map toSpec = Spec.delivered items := by
  exact feed_delivers_run pgno stream hpg1 hpg2 hst _ ci hci pages hn (by rw [hstream, pfc_grammar_reads_blocks items hitems]) hadm

/-- The same from any state between blocks whose page bookkeeping is consistent with the first
    header (continuity index as expected and previous page complete, or - after a reset - any
    index): delivery (re)starts correctly.  Together with `pfc_loss_discards_one_block` this is
    "after which delivery resumes correctly". -/
theorem pfc_delivers_blocks_from (pgno stream : Nat) (hpg1 : 0x100 ≤ pgno) (hpg2 : pgno < 0x900) (hst : stream < 16)
    (items : List (Spec.Blk × Nat)) (hitems : ∀ it ∈ items, it.1.Ok) (lead : Nat)
    (ci : Nat) (hci : ci < 16) (pages : List Spec.Page) (hn : ∀ pg ∈ pages, pg.rows.length ≤ 25)
    (hstream : ((Spec.allRows pages).map (·.2)).flatten = Spec.flat lead items)
    (hadm : Spec.AdmissibleAll .idle (Spec.allRows pages))
    (s : St) (hidle : s.left = 0) (hinv : Inv s) (hpgs : s.pgno = pgno) (hss : s.stream = stream)
    (hready : (s.ci = ci ∧ (s.nPackets = 0 ∨ s.packet = s.nPackets + 1)) ∨ s.ci ≠ ci) :
    ∃ s' bl, feedAll s (Spec.pagesPkts pgno stream ci pages) = .ok (s', bl) ∧
      bl.map toSpec = Spec.delivered items := by
  have hph := phase_idle s hidle
  have hR := pfc_grammar_reads_blocks items hitems lead
  obtain ⟨s', bl, h1, _, _, h4⟩ := feed_pages pgno stream hpg1 hpg2 hst pages hn ci s hci (fun h => by omega) hinv hpgs hss
    (hready.imp (fun h => ⟨h.1, pageEnd_of_complete s h.2⟩) fun h => ⟨h, hidle⟩)
    ⟨by rw [hph]; exact hadm, by rw [hph, hstream, hR]⟩
  rw [hph, hstream, hR] at h4
  exact ⟨s', bl, h1, (congrArg Spec.Res.out h4).symm⟩

/-- **Foreign packets are ignored.**  A packet that is not a page header (packet number != 0)
    and belongs to another magazine changes nothing and delivers nothing; so does any such packet
    while no page of ours is open (`n_packets = 0`: after a header of another page or stream), and
    stuffing rows 26..31. -/
theorem pfc_foreign_pages_ignored (s : St) (buf : List Nat) (hlen : buf.length = 42) (m y : Nat)
    (haddr : Spec.addrOf buf = some (m, y)) (hy : y ≠ 0)
    (h : (m ^^^ s.pgno) &&& 0xF00 ≠ 0 ∨ s.nPackets = 0 ∨ y > 25) :
    feed s buf = .ok ⟨s, true, []⟩ := by
  rw [feed_nonheader s buf hlen m y haddr hy, feedRow_ignored s buf m y h]

/-- A page header of another page (any magazine) delivers nothing; it either changes nothing or
    closes our page, after which the rows that follow are ignored (previous theorem). -/
theorem pfc_foreign_header_delivers_nothing (s : St) (buf : List Nat) (hlen : buf.length = 42) (m pp : Nat)
    (haddr : Spec.addrOf buf = some (m, 0)) (hpage : Spec.pageByteOf buf = some pp) (hne : m ||| pp ≠ s.pgno) :
    ∃ o, feed s buf = .ok o ∧ o.blocks = [] ∧ o.ret = true ∧ (o.st = s ∨ o.st.nPackets = 0) := by
  rw [feed_of_addr s buf (by omega) m 0 haddr, if_pos rfl, feedHdr_of_page s buf m pp hpage, if_pos hne]
  split
  · exact ⟨_, rfl, rfl, rfl, Or.inl rfl⟩
  · exact ⟨_, rfl, rfl, rfl, Or.inr rfl⟩

/-- **A page header of another magazine is harmless** (the proof needs `Gen.pfcForeignMagHeaderIgnored = true`
    and stops building if the source loses that test).
    With parallel magazine transmission such a header can arrive in the middle of our page: it
    leaves the state unchanged, and inserting it anywhere into any packet sequence changes neither
    the callbacks nor the final state - so the block in progress is delivered intact. -/
theorem pfc_foreign_magazine_header_harmless (s : St) (hdr : List Nat) (hlen : hdr.length = 42) (m pp : Nat)
    (haddr : Spec.addrOf hdr = some (m, 0)) (hpage : Spec.pageByteOf hdr = some pp)
    (hmag : ((m ||| pp) ^^^ s.pgno) &&& 0xF00 ≠ 0) :
    feed s hdr = .ok ⟨s, true, []⟩ ∧
    ∀ a b : List (List Nat), feedAll s (a ++ hdr :: b) = feedAll s (a ++ b) :=
  ⟨feed_foreign_mag_header (by decide) s hdr hlen m pp haddr hpage hmag,
   fun a b => feedAll_thin s.pgno (Thin.insert ⟨hlen, m, 0, haddr, .inr ⟨rfl, pp, hpage, hmag⟩⟩ b a) s rfl⟩

/-- the transmission of finding C15-F20 (a header of magazine 2 between rows 1 and 2 of page 1DF) delivers both blocks
    intact -/
example : blocksOf (feedAll (new 0x1df 1) Zvbi.C15Witness.f20Packets) =
    [(5, 60, List.range 60), (6, 40, (List.range 40).map (· + 100))] := by decide +kernel

/-- **Loss discards the block in progress, nothing else.**  (a) A row of our open page that is
    not the expected one (a row was lost), and (b) a page header of ours whose continuity index is
    not the expected one (a page was lost), deliver nothing and put the demultiplexer into the
    state of a new one (the partly assembled block is dropped; (b) then records the new page).
    `pfc_delivers_blocks_from` applies to that state. -/
theorem pfc_loss_discards_one_block (s : St) :
    (∀ (buf : List Nat) (m y : Nat), buf.length = 42 → Spec.addrOf buf = some (m, y) → y ≠ 0 →
        (m ^^^ s.pgno) &&& 0xF00 = 0 → s.nPackets ≠ 0 → y ≤ 25 → (y ≠ s.packet ∨ y > s.nPackets) →
        feed s buf = .ok ⟨reset s, true, []⟩) ∧
    (∀ (pgno stream ci n : Nat) (tail : List Nat), 0x100 ≤ pgno → pgno < 0x900 → stream < 16 → ci < 16 → n < 32 →
        s.pgno = pgno → s.stream = stream → ci ≠ s.ci →
        feed s (Spec.headerPkt pgno stream ci n tail) =
          .ok ⟨{ reset s with ci := (ci + 1) &&& 15, packet := 1, nPackets := n }, true, []⟩) ∧
    reset s = { new s.pgno s.stream with blockSize := s.blockSize } ∧ (reset s).left = 0 ∧ Inv (reset s) := by
  refine ⟨?_, ?_, rfl, rfl, inv_reset s⟩
  · intro buf m y hlen haddr hy hm hn h25 hgap
    rw [feed_nonheader s buf hlen m y haddr hy, feedRow_gap s buf m y hm hn h25 hgap]
  · intro pgno stream ci n tail h1 h2 h3 h4 h5 h6 h7 h8
    rw [feed_header s pgno stream ci n tail h1 h2 h3 h4 h5 h6 h7, if_pos h8]

/-- **Finding C15-F18 (witness).**  On a source that reads the structure header (and the page sub-code) as
    `vbi_unham16p (lo) + vbi_unham16p (hi) * 256` and tests only the sign of the sum (`Gen.pfcPairSignChecked = false`): an
    uncorrectable Hamming error in the low pair goes unnoticed when the high pair is > 0.  Sent: one
    block (app 5, 64 bytes) whose first structure header byte has two bits flipped.  Delivered: a
    block (app 31, 63 bytes) that was never sent.  Replay: corpus/C15/f18a-pfc-structure-header-hamming.ops -/
theorem pfc_header_hamming_counterexample : pfcPairSignChecked = false →
    (blocksOf (feedAll (new 0x1df 1) Zvbi.C15Witness.f18Packets)).map (fun b => (b.1, b.2.1)) = [(31, 63)] := by
  decide +kernel

/-- **Finding C15-F19 (witness; F42 in the list of DESIGN.md).**  The last row of a page is lost; the next page header has the
    expected continuity index and nothing checks that all announced rows arrived: block (app 5,
    bytes 0..99) is delivered with wrong content.  Replay: corpus/C15/f19-pfc-tail-drop.ops -/
theorem pfc_tail_loss_counterexample : pfcPageEndChecked = false →
    ∃ b ∈ blocksOf (feedAll (new 0x1df 1) Zvbi.C15Witness.f19Packets),
      b.1 = 5 ∧ b.2.1 = 100 ∧ b.2.2 ≠ List.range 100 := by
  decide +kernel

/-- **Finding C15-F20 (witness).**  Parallel transmission, on a source that does not test the magazine of a foreign header
    (`Gen.pfcForeignMagHeaderIgnored = false`): a page header of magazine 2 between rows 1 and 2 of our page closes our page, row 2 is ignored without a reset and block (app 5, bytes
    0..59) is delivered with wrong content.  Replay: corpus/C15/f20-pfc-parallel-header.ops -/
theorem pfc_parallel_header_counterexample : pfcForeignMagHeaderIgnored = false →
    ∃ b ∈ blocksOf (feedAll (new 0x1df 1) Zvbi.C15Witness.f20Packets),
      b.1 = 5 ∧ b.2.1 = 60 ∧ b.2.2 ≠ List.range 60 := by
  decide +kernel

/-! ### non-vacuity: a transmission produced by `Spec.encode` -/

/-- three blocks (one empty), fillers, 2 rows -/
def exItems : List Spec.Item := [⟨5, [1, 2, 3], 2⟩, ⟨6, [], 0⟩, ⟨7, List.range 40, 1⟩]
def exPages : List Spec.Page := [⟨List.replicate 34 0x20, Spec.encode 0 exItems⟩]

example : (Spec.encode 0 exItems).length = 2 := by decide +kernel
example : (blocksOf (feedAll (new 0x1df 1) (Spec.pagesPkts 0x1df 1 9 exPages))).map (fun b => (b.1, b.2.2)) =
    [(5, [1, 2, 3]), (7, List.range 40)] := by decide +kernel
example : (Spec.run .idle [] ((Spec.allRows exPages).map (·.2)).flatten).out = [(5, [1, 2, 3]), (7, List.range 40)] := by
  decide +kernel
example : Spec.run .idle [] (Spec.flat 2 [(⟨5, [1, 2, 3]⟩, 4), (⟨6, []⟩, 0)]) = ⟨.idle, [(5, [1, 2, 3])], true⟩ := by
  decide +kernel

/-- **The executable sender always meets the hypotheses of `pfc_delivers_blocks`.**  For every list of sendable items and every
    number of leading fillers: all block pointers of the packets of `Spec.encode` are usable, and
    their payloads, concatenated, are the flat stream of exactly the items' blocks (the gaps
    enlarged by the alignment fillers).  Proof: an invariant of the layout fold derived from the
    definition of `alignPad` (every first separator of a packet that starts between blocks sits
    at a multiple of 3, <= 36), plus the grammar's phase at every cut of a well-tagged token stream. -/
theorem pfc_sender_admissible (lead : Nat) (items : List Spec.Item)
    (hok : ∀ it ∈ items, it.app < 32 ∧ it.data.length ≤ 2047) :
    Spec.AdmissibleAll .idle (Spec.encode lead items) ∧
    ∃ lead' gaps, gaps.length = items.length ∧
      ((Spec.encode lead items).map (·.2)).flatten =
        Spec.flat lead' ((items.map (fun it => (⟨it.app, it.data⟩ : Spec.Blk))).zip gaps) :=
  ⟨encode_admissible lead items hok, encode_stream_flat lead items⟩

/-- **End to end for the executable sender.**  Whatever sendable items, leading fillers and
    gaps: the rows produced by `Spec.encode`, distributed over pages in any way (<= 25 rows per
    page, continuity index counting from any value), fed to a new demultiplexer, are delivered as
    exactly the non-empty blocks of the items, in order.  No hypothesis about block pointers or
    alignment is left. -/
theorem pfc_sender_delivers (pgno stream : Nat) (hpg1 : 0x100 ≤ pgno) (hpg2 : pgno < 0x900) (hst : stream < 16)
    (lead : Nat) (items : List Spec.Item) (hok : ∀ it ∈ items, it.app < 32 ∧ it.data.length ≤ 2047)
    (ci : Nat) (hci : ci < 16) (pages : List Spec.Page) (hn : ∀ pg ∈ pages, pg.rows.length ≤ 25)
    (hrows : Spec.allRows pages = Spec.encode lead items) :
    ∃ s' bl, feedAll (new pgno stream) (Spec.pagesPkts pgno stream ci pages) = .ok (s', bl) ∧
      bl.map toSpec = Spec.delivered (Spec.itemBlocks items) :=
  encode_delivers pgno stream hpg1 hpg2 hst lead items hok ci hci pages hn hrows

example : Spec.encodeChecked 0 exItems = some (Spec.encode 0 exItems) := by decide +kernel

end Pfc

end Zvbi.Props.C15
