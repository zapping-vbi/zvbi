import ZvbiModel.Ttx.X26Content
import ZvbiModel.Props.C03X26
/-!
# C03 - the enhancement data of a whole page transmission

The three pieces: `C03X26.enh_fresh_after_header` (what the array holds after the header), `C03.x26_continuity`
(Props/C03.lean: WHERE packet 26 may write) and `C03X26.parity_check_ignores_unused_tail` /
`parity_fixups_only_at_addressed_cells` (what `lop_parity_check` does with the array).  Here:
WHAT packet 26 writes, and the composition over a transmission:

* `x26_packet_appends_its_triplets` - the content of `x26Triplets` (`C03.x26_continuity` is its frame);
* `page_transmission_enh` - over any sequence of Level 1 rows and X/26 packets of one magazine (any
  bytes, any order, lost packets allowed) the enhancement array of the page under assembly is
  `(payloads of the ACCEPTED X/26 packets since the header, in order) ++ (rest of what the header left)`,
  "accepted" being decided by the designation continuity rule (`x26Spec`);
* `x26_in_order_all_kept`, `x26_gap_drops_rest` - the declarative reading of that rule: `k` in-order
  complete packets give exactly their `13 k` triplets; after the first gap nothing more is accepted;
* `page_transmission_fresh` - ONE statement for a page built from scratch: after the header
  (`enh_fresh_after_header`: all entries unused) and the body of the transmission, the live part of
  `enh[]` is exactly the triplets of the accepted X/26 packets of THIS transmission, and the cells
  whose parity `lop_parity_check` forces before the parity gate are exactly the cells those triplets
  address - nothing of an earlier page, nothing of a dropped packet;
* `header_then_transmission` - the same with the header step inside the statement;
* finding C03-enh-zero-filler: `live_triplets_were_transmitted_full` (open statement), refuted on the unrepaired source by
  `live_triplets_were_transmitted_counterexample` (history `zeroFillerHist`).
The demonstration packets `demoX26d0`, `demoRow5`, `demoX26d2`, `demoBody`, `demoHeader` serve the non-vacuity examples.
-/
namespace Zvbi.Props.C03Tx
open Zvbi.Ttx Zvbi.Ttx.Spec Zvbi.Hamm Zvbi.Gen

/-- CONTENT of an accepted X/26 packet (complements `C03.x26_continuity`): with the array filled up to
    `|ts|` (`ts ++ rest`, at least 13 entries of room) the packet's decoded triplets - all 13, or those
    before its first uncorrectable triplet (`x26Payload`) - are written behind `ts` in order, the fill
    level rises by their number, every other entry keeps its value, no index leaves the array. -/
theorem x26_packet_appends_its_triplets (v : View) (ts rest : List Triplet)
    (hn : 13 ≤ rest.length) (hsz : ts.length + rest.length ≤ ENH_SIZE) :
    x26Triplets v (ts ++ rest) ts.length
      = (ts ++ x26Payload v ++ rest.drop (x26Payload v).length, ts.length + (x26Payload v).length, []) :=
  x26Triplets_content v ts rest hn hsz

/-- non-vacuity: a packet whose third triplet is uncorrectable contributes its first two -/
example : x26Payload ⟨[], [some 0x12345, some 0x00801, none, some 7], [], []⟩
    = [⟨0x05, 0x0D, 0x24⟩, ⟨0x01, 0x00, 0x01⟩] := by decide

/-- OVER A TRANSMISSION.  Slot `mag0` holds a Level one page just opened by a header
    (`num_triplets = 0`), `ps` is any sequence of packets each of which is lost (address
    uncorrectable) or is a row 1..25 or an X/26 packet of that magazine - any bytes, any order, any
    designations.  Then the enhancement array is the array the header left with its first entries
    overwritten by the payloads of the accepted X/26 packets in order of arrival
    (`(x26Views ps).foldl x26Spec`), `num_triplets` is the spec's fill level, the page is still the
    same Level one page (number, sub-number), the network record, with it the page list, is unchanged. -/
theorem page_transmission_enh (s : St) (mag0 : Nat) (ps : List Packet)
    (hmask : s.mask = true) (hlt : mag0 < s.raw.length) (hfn : (s.rp mag0).page.function = FN_LOP)
    (hnt : (s.rp mag0).numTriplets = 0) (hlen : (s.rp mag0).page.enh.length = ENH_SIZE)
    (hp : ∀ p ∈ ps, BodyPkt mag0 p) :
    let s' := ps.foldl (fun s p => (decodeTeletext s p).st) s
    let acc := (x26Views ps).foldl x26Spec ([], 0)
    (s'.rp mag0).page.enh = acc.1 ++ (s.rp mag0).page.enh.drop acc.1.length ∧
    (s'.rp mag0).numTriplets = acc.2 ∧ (acc.2 = (acc.1.length : Int) ∨ acc.2 = -1) ∧
    (∀ t ∈ acc.1, t.address ≤ 63) ∧
    (s'.rp mag0).page.function = FN_LOP ∧ (s'.rp mag0).page.pgno = (s.rp mag0).page.pgno ∧
    (s'.rp mag0).page.subno = (s.rp mag0).page.subno ∧ s'.net = s.net := by
  have hinv : TxInv s mag0 (s.rp mag0).page.enh ([], 0) :=
    ⟨hmask, hlt, hfn, ⟨by simp, hnt, Or.inl rfl, by simp, by simp, fun _ => rfl⟩⟩
  obtain ⟨a, b, c, d⟩ := decodeAll_body ps s mag0 (s.rp mag0).page.enh hlen ([], 0) hinv hp
  exact ⟨a.x26.enh, a.x26.nt, a.x26.sync, a.x26.addr, a.fn, b, c, d⟩


/-- the demonstration transmission of magazine 1: X/26 designation 0 (set active position row 5, G2 character column 3,
    address display row 0, G0 character column 20, nine more row triplets), Level 1 row 5 ("ZZZ..."), and X/26
    designation 2 (dropped: designation 1 is missing) -/
def demoX26d0 : Packet :=
  [2, 182, 21, 230, 146, 128, 151, 188, 193, 117, 159, 0, 32, 165, 66, 204, 146, 0, 210, 146, 0, 213, 146, 128, 225, 146, 0,
   230, 146, 128, 248, 146, 128, 255, 146, 0, 1, 147, 0, 6, 147, 128]
def demoRow5 : Packet := [199, 73] ++ List.replicate 40 218
def demoX26d2 : Packet := demoX26d0.set 2 73
def demoBody : List Packet := [demoX26d0, demoRow5, demoX26d2]

theorem demoBody_ok : ∀ p ∈ demoBody, BodyPkt 1 p := by
  intro p hp
  simp only [demoBody, List.mem_cons, List.mem_nil_iff, or_false] at hp
  rcases hp with rfl | rfl | rfl
  · exact Or.inr ⟨209, by decide +kernel, by decide, by decide, by decide⟩
  · exact Or.inr ⟨41, by decide +kernel, by decide, by decide, by decide⟩
  · exact Or.inr ⟨209, by decide +kernel, by decide, by decide, by decide⟩

/-- non-vacuity: the spec keeps the 13 triplets of designation 0 and drops designation 2 (fill level -1) -/
example :
    ((x26Views demoBody).foldl x26Spec ([], 0)).1.take 4 = [⟨45, 4, 0⟩, ⟨3, 0x0F, 0x41⟩, ⟨63, 7, 0⟩, ⟨20, 9, 0x42⟩] ∧
    ((x26Views demoBody).foldl x26Spec ([], 0)).1.length = 13 ∧ ((x26Views demoBody).foldl x26Spec ([], 0)).2 = -1 := by
  decide +kernel

/-- IN ORDER, COMPLETE: X/26 packets with designations 0, 1, ..., k-1 in this order (k ≤ 16) whose
    thirteen triplets all decode are all accepted: the spec state is their `13 k` triplets, fill level `13 k`. -/
theorem x26_in_order_all_kept (vs : List View) (hk : vs.length ≤ 16) (hv : InOrderFrom 0 vs) :
    vs.foldl x26Spec ([], 0) = (vs.flatMap x26Payload, ((13 * vs.length : Nat) : Int)) ∧
    (vs.flatMap x26Payload).length = 13 * vs.length := by
  have := x26Spec_in_order vs 0 [] rfl (by omega) hv
  simpa using this


/-- non-vacuity: the demonstration packet is a complete designation 0 -/
example : InOrderFrom 0 [view Kind.trip demoX26d0] := by
  refine ⟨by decide +kernel, ?_, trivial⟩
  have : ∀ i < 13, ((view Kind.trip demoX26d0).g24 i).isSome = true := by decide +kernel
  exact this

/-- GAP: once a packet was dropped for discontinuity (`num_triplets = -1`) every later X/26 packet of
    the transmission is dropped - out-of-order or missing packets are never misplaced. -/
theorem x26_gap_drops_rest (ts : List Triplet) (vs : List View) : vs.foldl x26Spec (ts, -1) = (ts, -1) := by
  induction vs with
  | nil => rfl
  | cons v vs ih => simp only [List.foldl_cons]; rw [x26Spec_stuck]; exact ih

/-- a gap really occurs: designation 1 arriving first is dropped, and then designation 0 as well -/
example : [(⟨[some 1], [], [], []⟩ : View), ⟨[some 0], [some 5], [], []⟩].foldl x26Spec ([], 0) = ([], -1) := by
  decide

/-- ONE STATEMENT FOR A PAGE BUILT FROM SCRATCH.  After a header that built a Level one page from
    scratch (`enh_fresh_after_header`: every entry unused, `num_triplets = 0`) and any body `ps` of
    the transmission (rows 1..25 / X/26 of this magazine, lost packets), with `ts` the triplets of
    the accepted X/26 packets:
    * `enh[]` is `ts` followed by unused entries, so its live part is exactly `ts`;
    * the rows `lop_parity_check` hands to the parity gate are the received rows with `vbi_par8`
      applied at the cells `ts` addresses (`AddrFrom 0 ts`: a character column triplet of `ts` at
      column `c` while the row named by the last row-address triplet of `ts` before it is `r`) and
      every other byte as received.
    Nothing of the slot's previous page, of a dropped or out-of-order packet, or of anything behind
    an uncorrectable triplet takes part. -/
theorem page_transmission_fresh (s : St) (mag0 : Nat) (ps : List Packet)
    (hmask : s.mask = true) (hlt : mag0 < s.raw.length) (hfn : (s.rp mag0).page.function = FN_LOP)
    (hnt : (s.rp mag0).numTriplets = 0) (hfresh : (s.rp mag0).page.enh = enhUnused)
    (hp : ∀ p ∈ ps, BodyPkt mag0 p) :
    let s' := ps.foldl (fun s p => (decodeTeletext s p).st) s
    let ts := ((x26Views ps).foldl x26Spec ([], 0)).1
    let rp := s'.rp mag0
    rp.page.enh = ts ++ List.replicate (ENH_SIZE - ts.length) Triplet.ff ∧
    liveTriplets rp.page.enh = ts ∧
    (∀ r c, r < rp.lopRaw.length → c < (rp.lopRaw.getD r zeroRow).length →
      (AddrFrom 0 ts r c → cellAt (lopParityCheck rp.page rp).2.lopRaw r c = par8 (cellAt rp.lopRaw r c)) ∧
      (¬ AddrFrom 0 ts r c → cellAt (lopParityCheck rp.page rp).2.lopRaw r c = cellAt rp.lopRaw r c)) := by
  have hlen : (s.rp mag0).page.enh.length = ENH_SIZE := by rw [hfresh]; simp [enhUnused]
  have hinv : TxInv s mag0 (s.rp mag0).page.enh ([], 0) :=
    ⟨hmask, hlt, hfn, ⟨by simp, hnt, Or.inl rfl, by simp, by simp, fun _ => rfl⟩⟩
  obtain ⟨a, _, _, _⟩ := decodeAll_body ps s mag0 (s.rp mag0).page.enh hlen ([], 0) hinv hp
  intro s' ts rp
  have he : rp.page.enh = ts ++ List.replicate (ENH_SIZE - ts.length) Triplet.ff := by
    have := a.x26.enh
    rw [hfresh, enhUnused_drop] at this
    exact this
  have hlive : liveTriplets rp.page.enh = ts := by
    rw [he]; exact liveTriplets_append_unused ts _ a.x26.addr
  refine ⟨he, hlive, ?_⟩
  intro r c hr hc
  rw [lopParityCheck_lopRaw]
  by_cases hx : rp.page.x26 = 0
  · -- no X/26 packet was accepted: no triplets, the rows go to the gate as received
    have hts : ts = [] := a.x26.mask hx
    have hb : (rp.page.x26 != 0) = false := by simp [hx]
    simp only [hb, Bool.false_eq_true, if_false]
    rw [hts]
    exact ⟨fun h => absurd h (addrFrom_nil _ _ _), fun _ => trivial⟩
  · have hb : (rp.page.x26 != 0) = true := by simpa using hx
    simp only [hb, if_true]
    rw [x26Fix_eq_fixLive, hlive]
    exact fixLive_cells ts 0 rp.lopRaw r c hr hc

/-- the demonstration header: magazine 1, page 23 -/
def demoHeader : Packet := [2, 21, 94, 73, 21, 21, 21, 21, 21, 21] ++ List.replicate 32 32

/-- non-vacuity of the hypotheses: after the header on a fresh decoder slot 1 is a Level one page with an
    unused array and fill level 0 -/
example :
    let s := (decodeTeletext (init.enable true) demoHeader).st
    s.mask = true ∧ 1 < s.raw.length ∧ (s.rp 1).page.function = FN_LOP ∧ (s.rp 1).numTriplets = 0 ∧
    (s.rp 1).page.enh = enhUnused := by
  decide +kernel


/-- ... and the decoder itself (header, then the demonstration body): the array starts with the triplets of
    designation 0, entry 13 is unused, and cell (5, 3) / (0, 20) are the addressed ones (cf. `C03X26.demoEnh`) -/
example :
    let s' := demoBody.foldl (fun s p => (decodeTeletext s p).st) (decodeTeletext (init.enable true) demoHeader).st
    (s'.rp 1).page.enh.take 4 = [⟨45, 4, 0⟩, ⟨3, 0x0F, 0x41⟩, ⟨63, 7, 0⟩, ⟨20, 9, 0x42⟩] ∧
    (s'.rp 1).page.enh.getD 13 Triplet.zero = Triplet.ff ∧ (s'.rp 1).numTriplets = -1 ∧
    cellAt (lopParityCheck (s'.rp 1).page (s'.rp 1)).2.lopRaw 5 3 = par8 218 ∧
    cellAt (lopParityCheck (s'.rp 1).page (s'.rp 1)).2.lopRaw 5 20 = 218 := by
  decide +kernel

/-- THE HEADER INSIDE THE STATEMENT.  Any decoder state `s` with a Teletext handler, an accepted
    header of magazine `mag0` (view `v`, page number decodes, not refused) after which the slot
    holds a Level one page, the 8 header Hamming bytes patched in as `vbi_decode_teletext` does
    (`finish`), then any body `ps`: the enhancement array at the end is the accepted payloads of
    THIS transmission followed by the rest of `E`, where `E` - the array right after the header - is
    all unused entries or the array of the cached copy `q` of this very page number (which, on the unrepaired
    code, is ZERO-filled if `q` was stored without X/26 data: finding C03-enh-zero-filler below). -/
theorem header_then_transmission (s : St) (mag0 mag8 : Nat) (v : View) (h8 : List Nat) (page : Nat)
    (ps : List Packet) (hm : mag0 < s.raw.length)
    (hpg : v.g16 0 = some page) (hacc : hdrRejected page (v.g16i 2) (v.g16i 4) (v.g16i 6) = false)
    (s1 : St) (hs1 : s1 = (finish (processHeader s mag0 mag8 v) mag0 h8).st)
    (hmask : s1.mask = true) (hlt : mag0 < s1.raw.length) (hfn : (s1.rp mag0).page.function = FN_LOP)
    (hlen : (s1.rp mag0).page.enh.length = ENH_SIZE) (hp : ∀ p ∈ ps, BodyPkt mag0 p) :
    let s' := ps.foldl (fun s p => (decodeTeletext s p).st) s1
    let ts := ((x26Views ps).foldl x26Spec ([], 0)).1
    let E := (s1.rp mag0).page.enh
    (s'.rp mag0).page.enh = ts ++ E.drop ts.length ∧ (∀ t ∈ ts, t.address ≤ 63) ∧
    (E = enhUnused ∨
     ∃ q, q ∈ (terminatePage s mag0 (mag8 * 256 + page) page).1.net.cache ∧ q.pgno = mag8 * 256 + page ∧ E = q.enh) := by
  have hslot : (s1.rp mag0).page.enh = ((processHeader s mag0 mag8 v).1.st.rp mag0).page.enh ∧
      (s1.rp mag0).numTriplets = ((processHeader s mag0 mag8 v).1.st.rp mag0).numTriplets ∧
      (s1.rp mag0).page.function = ((processHeader s mag0 mag8 v).1.st.rp mag0).page.function := by
    obtain ⟨raw, e⟩ := finish_rp (processHeader s mag0 mag8 v) mag0 h8
    rw [hs1, e]
    exact ⟨rfl, rfl, rfl⟩
  obtain ⟨h1, h2, h3⟩ := Zvbi.Props.C03X26.enh_fresh_after_header s mag0 mag8 v page hm hpg hacc
  have hnt : (s1.rp mag0).numTriplets = 0 := by rw [hslot.2.1]; exact h1
  obtain ⟨a, _, _, b, _⟩ := page_transmission_enh s1 mag0 ps hmask hlt hfn hnt hlen hp
  refine ⟨a, b, ?_⟩
  rcases h3 with ⟨q, hq, hqp, he | ⟨_, _, he⟩, _⟩ | ⟨_, he⟩
  · exact Or.inr ⟨q, hq, hqp, by rw [hslot.1]; exact he⟩
  · left
    show (s1.rp mag0).page.enh = enhUnused
    rw [hslot.1]
    exact he
  · left
    show (s1.rp mag0).page.enh = enhUnused
    rw [hslot.1]
    exact he (by rw [← hslot.2.2]; exact hfn)

/-- non-vacuity of the hypotheses of `header_then_transmission` on the fresh decoder and the demonstration header -/
example :
    let v := view Kind.hdr demoHeader
    let s1 := (finish (processHeader (init.enable true) 1 1 v) 1 (hdr8 demoHeader)).st
    v.g16 0 = some 0x23 ∧ hdrRejected 0x23 (v.g16i 2) (v.g16i 4) (v.g16i 6) = false ∧ s1.mask = true ∧
    1 < s1.raw.length ∧ (s1.rp 1).page.function = FN_LOP ∧ (s1.rp 1).page.enh.length = ENH_SIZE := by
  decide +kernel

/-! ## finding: a page continued from a cached copy WITHOUT enhancement data gets a zero-filled array -/

/-- FULL STATEMENT (containment of enhancement data; FALSE on the unrepaired code `ttxFixEnhFiller = false`, see
    below; not proved for the repaired shape): in every reachable
    decoder state every live entry of the enhancement array of a Level one page under assembly that has X/26
    data was carried by an X/26 packet of the history. -/
def live_triplets_were_transmitted_full : Prop :=
  ∀ (hist : List Packet) (m : Nat), m < 8 →
    ((run (init.enable true) hist).1.rp m).page.function = FN_LOP →
    ((run (init.enable true) hist).1.rp m).page.x26 ≠ 0 →
    ∀ t ∈ liveTriplets ((run (init.enable true) hist).1.rp m).page.enh,
      ∃ p ∈ hist, t ∈ x26Payload (view Kind.trip p)

/-- the history of the counterexample: page 123 without X/26 (stored when the header of 124 arrives), then page 123
    again, now with X/26 designation 0 -/
def zeroFillerHist : List Packet := [demoHeader, demoRow5, demoHeader.set 2 100, demoHeader, demoX26d0]

/-- COUNTEREXAMPLE (replay on the C code: corpus/C03/enh_zero_filler.ops; fixes/C03-enh-zero-filler.md).  The header
    branch continues the cached copy of page 123 - stored without X/26 data, so `cache_page_size` cut the
    enhancement array off - by `memset (&cvtp->data, 0, ..)` + `memcpy (.., cache_page_size (vtp))`: the array is
    filled with ZERO triplets (column 0, mode 0 "foreground colour", data 0 "black"), not with the unused value
    0xFF as for a page built from scratch.  After X/26 designation 0 the array holds the 13 transmitted triplets
    followed by 196 live zero triplets that no packet carried: the live part is all 209 entries. -/
theorem live_triplets_were_transmitted_counterexample (hf : ttxFixEnhFiller = false) :
    (((run (init.enable true) zeroFillerHist).1.rp 1).page.enh.getD 13 Triplet.ff = Triplet.zero ∧
     (liveTriplets ((run (init.enable true) zeroFillerHist).1.rp 1).page.enh).length = 209 ∧
     (((x26Views zeroFillerHist).foldl x26Spec ([], 0)).1).length = 13) ∧
    ¬ live_triplets_were_transmitted_full := by
  -- each concrete fact is decided as `flag = false → fact`, so that the file also builds on the repaired tree
  have h1 : ttxFixEnhFiller = false →
      (((run (init.enable true) zeroFillerHist).1.rp 1).page.enh.getD 13 Triplet.ff = Triplet.zero ∧
       (liveTriplets ((run (init.enable true) zeroFillerHist).1.rp 1).page.enh).length = 209 ∧
       (((x26Views zeroFillerHist).foldl x26Spec ([], 0)).1).length = 13) := by decide +kernel
  have h2 : ttxFixEnhFiller = false →
      (Triplet.zero ∈ liveTriplets ((run (init.enable true) zeroFillerHist).1.rp 1).page.enh ∧
       ((run (init.enable true) zeroFillerHist).1.rp 1).page.function = FN_LOP ∧
       ((run (init.enable true) zeroFillerHist).1.rp 1).page.x26 ≠ 0) := by decide +kernel
  refine ⟨h1 hf, ?_⟩
  intro hfull
  obtain ⟨hz, hfn, hx⟩ := h2 hf
  obtain ⟨p, hp, ht⟩ := hfull zeroFillerHist 1 (by decide) hfn hx Triplet.zero hz
  have hno : ∀ p ∈ zeroFillerHist, Triplet.zero ∉ x26Payload (view Kind.trip p) := by decide +kernel
  exact hno p hp ht

end Zvbi.Props.C03Tx
