import ZvbiModel.Ttx.Interleaved
import ZvbiModel.Props.C02
/-!
# Property C02, main statement `page_roundtrip`: a transmitted Teletext page is fetched as sent

Packet level (C03's model `Ttx.step`), parallel mode, one magazine stream.  Packets are given by what
the decoder reads out of them (`IsHeader`: the ten Hamming 8/4 bytes decode - possibly after single-bit
correction - to these values; `IsPacket`: address), so the theorems cover every received packet that
decodes, not only the sender's encoding (for the sender's encoder: `Ttx.encHeader_isHeader`, Ttx/Sender.lean).

Hypotheses and why packet.c / cache.c need each of them:
* `s.mask`: without a TTX_PAGE handler `vbi_decode_teletext` ignores packets 0..29.
* `s.chswcd = 0`: while the channel-switch countdown runs `store_lop` returns without storing, and
  `vbi_decode` empties the cache when it expires.
* `decimalPage`, `TextPage`: only a page whose function is LOP is treated as text; a hex page number,
  a cached earlier version with another function, or a page type announced by MIP / BTT that maps to
  POP / DRCS / data / discard gives the page another function (header branch of `vbi_decode_teletext`).
* header bytes Hamming-decodable (`IsHeader`): an uncorrectable page number desynchronises all
  magazines, an uncorrectable sub-code / control byte discards the page (C03 `bad_header_*`).
* rows 1..25 with 40 odd-parity bytes (`GoodRow`): `lop_parity_check` keeps the previous row otherwise.
* C11 = 0 (`fl &&& 0x10 = 0`): with magazine-serial set the terminated page is chosen differently.
* terminating header: same magazine, page number decodes, different from the page's.
* no `Event.chsw`: the rolling-header test (`same_header`) did not mistake the network for another one;
  `consistent_header_same` shows that a consistent header (`HeaderAgrees`) never triggers it.
* `lopRaw.length = 26`: shape of `raw_page.lop_raw` (all states the model reaches have it).
-/
namespace Zvbi.Props.C02Roundtrip
open Zvbi.Ttx Zvbi.Hamm Zvbi.Fmt Zvbi.Fmt.L1Spec

/-- what is proved about the terminating header: another decimal text page of the magazine (`text`),
    or a time-filling header, page number FF (`filler`) -/
inductive Terminator (sR : St) (m page : Nat) (hq : Packet) : Prop
  | text (u : Tx) (hu : IsHeader hq u.m u.page u.s12 u.s34 u.fl) (hm : u.m = m) (hne : u.page ≠ page)
      (hdec : decimalPage u.page)
      (htext : TextPage (terminatePage (tick sR) m u.pgno u.page).1.net u.pgno u.page
        (u.prev (terminatePage (tick sR) m u.pgno u.page).1)) : Terminator sR m page hq
  | filler (hm : m < 8) (ha : a16 hq 0 = some m) (hp : a16 hq 2 = some 0xFF) : Terminator sR m page hq

theorem fetched_after (sR s1 : St) (t : Tx) (hdr : Packet) (rows : List (Nat × List Nat)) (ha : Ready sR s1 t hdr rows)
    (hp : ParallelCur sR) (hq : Packet) (hterm : Terminator sR t.m t.page hq) (hnosw : Event.chsw ∉ (step sR hq).2) :
    ∃ q pt, Fetched q t s1 hdr rows pt
      ∧ (pt = PT_CLOCK → (sR.net.getStat t.pgno).pageType = PT_CLOCK)
      ∧ (∀ subno mask, subno = q.subno ∨ subno = ANY_SUBNO →
          (cacheGet (step sR hq).1.net.cache t.pgno subno mask).map (·.1) = some q)
      ∧ ttxPages (step sR hq).2 = [(t.pgno, t.subno)] := by
  cases hterm with
  | text u hu hum hune hudec hutext =>
    obtain ⟨um, upage, us12, us34, ufl⟩ := u
    simp only [] at hu hum hune hudec
    subst hum
    exact fetched_after_header sR s1 t hdr rows ha hq t.m upage
      (hdrDone_text sR hq t.m upage us12 us34 ufl hu hudec ha.mask ha.cd ha.len hutext)
      (ha.closes_par hp _ upage hune) (by unfold Tx.pgno; omega) hnosw
  | filler _ haQ hpQ =>
    have hne : (0xFF : Nat) ≠ t.page := by have := ha.dec.1; omega
    exact fetched_after_header sR s1 t hdr rows ha hq t.m 0xFF
      (hdrDone_rejected sR hq t.m 0xFF ha.mag haQ hpQ (by unfold hdrRejected; simp) ha.mask ha.cd)
      (ha.closes_par hp _ 0xFF hne) (by unfold Tx.pgno; omega) hnosw

/-- **single_page_roundtrip**.  From ANY decoder state with a TTX_PAGE handler and no channel-switch
countdown: header of page P (any magazine, any decimal page number, any sub-code and control bits with
C11 = 0, erase flag set or not), then any list of row packets 1..25 of that magazine (any subset, any
order, repeats allowed) with odd-parity bytes, then a terminating header of the same magazine with another
page number.  `s1` is the state after P's header closed whatever page was in progress before, `t.prev s1`
the version of P cached then (arbitrary, or none; not looked at when the erase flag C4 is set).  Unless the
decoder signalled a channel switch: the cache then holds, first in its chain for P's page number, an entry
`q` = text page with P's page number, national option and flags whose rows are
`mergeRows (rows of the previous version, else blanks; row 0 = P's header) (rows received)`, filed under
the sub-code chosen by cache.c's key rule; a wildcard sub-code look-up returns it, so does a look-up with
its own sub-code; and the TTX_PAGE events of the whole sequence are those of closing the earlier page
followed by exactly one, carrying P's page number and sub-code. -/
theorem single_page_roundtrip (s : St) (hlen : s.raw.length = 8) (hmask : s.mask = true) (hcd : s.chswcd = 0)
    (t : Tx) (hdr : Packet) (hh : IsHeader hdr t.m t.page t.s12 t.s34 t.fl) (hdec : decimalPage t.page)
    (hsmall : t.s12 < 256 ∧ t.s34 < 256 ∧ t.fl < 256) (hpar : t.fl &&& 0x10 = 0)
    (s1 : St) (ev1 : List Event) (ht : terminatePage (tick s) t.m t.pgno t.page = (s1, ev1))
    (htext : TextPage s1.net t.pgno t.page (t.prev s1)) (hL : (s1.rp t.m).lopRaw.length = 26)
    (rp : List RowPkt) (hrp : ∀ x ∈ rp, IsPacket x.2 t.m x.1 ∧ 1 ≤ x.1 ∧ x.1 ≤ 25 ∧ GoodRow (payload x.2))
    (hq : Packet) (hterm : Terminator (run s (hdr :: rp.map (·.2))).1 t.m t.page hq)
    (hnosw : Event.chsw ∉ (run s (hdr :: rp.map (·.2) ++ [hq])).2) :
    ∃ q pt, Fetched q t s1 hdr (rowsOf rp) pt
      ∧ (pt = PT_CLOCK → (s1.net.getStat t.pgno).pageType = PT_CLOCK)
      ∧ (∀ subno mask, subno = q.subno ∨ subno = ANY_SUBNO →
          (cacheGet (run s (hdr :: rp.map (·.2) ++ [hq])).1.net.cache t.pgno subno mask).map (·.1) = some q)
      ∧ ttxPages (run s (hdr :: rp.map (·.2) ++ [hq])).2 = ttxPages ev1 ++ [(t.pgno, t.subno)] := by
  obtain ⟨hready, ha, hev⟩ := page_ready s hlen hmask hcd t hdr hh hdec s1 ev1 ht htext hL rp hrp
  rw [show hdr :: rp.map (·.2) ++ [hq] = (hdr :: rp.map (·.2)) ++ [hq] from rfl, run_concat] at hnosw ⊢
  generalize hsR : (run s (hdr :: rp.map (·.2))).1 = sR at *
  generalize hevR : (run s (hdr :: rp.map (·.2))).2 = evR at *
  have hn : Event.chsw ∉ (step sR hq).2 := fun h => hnosw (List.mem_append_right _ h)
  have hstat : sR.net.stat = s1.net.stat := by rw [ha.net]; exact (lookupPrev_net _ _ _ _).1
  obtain ⟨q, pt, f1, f2, f3, f4⟩ := fetched_after sR s1 t hdr _ hready (hready.parallelCur ha.cur ⟨hsmall.1, hsmall.2.1⟩ hpar) hq hterm hn
  refine ⟨q, pt, f1, ?_, f3, by rw [ttxPages_append, hev, f4]⟩
  intro hpt
  have := f2 hpt
  unfold Net.getStat at this ⊢
  rw [hstat] at this
  exact this

/-- `vbi_fetch_vt_page` (model `C02.fetch`) when the cache look-up returns the text page `q`: it succeeds and every
    cell of rows 0..24 is `L1Spec` of `q` -/
theorem fetch_of_cacheGet (s : St) (region pgno subno : Nat) (q : Page) (hfn : q.function = FN_LOP) (hpg : q.pgno = pgno)
    (hg : (cacheGet s.net.cache pgno subno 0xFFFFFFFF).map (·.1) = some q) :
    ∃ cells, C02.fetch s region pgno subno = some (pgno, q.subno, cells)
      ∧ ∀ row col, row < 25 → col < 40 → cellAt cells row col = L1Spec.cell .lib (C02.pageInOf region q) row col := by
  refine ⟨format (C02.pageInOf region q), ?_, fun row col hr hc => format_cellAt _ row col hr hc⟩
  unfold C02.fetch C02.fetchCache C02.cacheOf
  cases hc : cacheGet s.net.cache pgno subno 0xFFFFFFFF with
  | none => rw [hc] at hg; cases hg
  | some r =>
    obtain ⟨q', c'⟩ := r
    rw [hc] at hg
    simp only [Option.map_some, Option.some.injEq] at hg
    subst hg
    simp only [hfn, true_or, if_true, hpg]

/-- **page_roundtrip_parallel** (one magazine stream): under the hypotheses of `single_page_roundtrip`,
`vbi_fetch_vt_page` (model `C02.fetch`: cache look-up, LOP check, Level 1 formatting) of P's page number with
the wildcard sub-code - or with the sub-code the page was filed under - succeeds right after the terminating
header and shows, in every cell of rows 0..24, `L1Spec` (EN 300 706 12.2, libzvbi's held-mosaic reading) of
the merged rows: characters through the designated national subset, colours, flash, conceal, size, opacity. -/
theorem page_roundtrip_parallel (s : St) (hlen : s.raw.length = 8) (hmask : s.mask = true) (hcd : s.chswcd = 0)
    (t : Tx) (hdr : Packet) (hh : IsHeader hdr t.m t.page t.s12 t.s34 t.fl) (hdec : decimalPage t.page)
    (hsmall : t.s12 < 256 ∧ t.s34 < 256 ∧ t.fl < 256) (hpar : t.fl &&& 0x10 = 0)
    (s1 : St) (ev1 : List Event) (ht : terminatePage (tick s) t.m t.pgno t.page = (s1, ev1))
    (htext : TextPage s1.net t.pgno t.page (t.prev s1)) (hL : (s1.rp t.m).lopRaw.length = 26)
    (rp : List RowPkt) (hrp : ∀ x ∈ rp, IsPacket x.2 t.m x.1 ∧ 1 ≤ x.1 ∧ x.1 ≤ 25 ∧ GoodRow (payload x.2))
    (hq : Packet) (hterm : Terminator (run s (hdr :: rp.map (·.2))).1 t.m t.page hq)
    (hnosw : Event.chsw ∉ (run s (hdr :: rp.map (·.2) ++ [hq])).2) (region : Nat) :
    ∃ q pt, Fetched q t s1 hdr (rowsOf rp) pt ∧
      ∀ subno, subno = q.subno ∨ subno = ANY_SUBNO →
        ∃ cells, C02.fetch (run s (hdr :: rp.map (·.2) ++ [hq])).1 region t.pgno subno = some (t.pgno, q.subno, cells)
          ∧ ∀ row col, row < 25 → col < 40 →
              cellAt cells row col = L1Spec.cell .lib (C02.pageInOf region q) row col := by
  obtain ⟨q, pt, hf, _, hget, _⟩ := single_page_roundtrip s hlen hmask hcd t hdr hh hdec hsmall hpar s1 ev1 ht htext hL
    rp hrp hq hterm hnosw
  exact ⟨q, pt, hf, fun subno hs => fetch_of_cacheGet _ region _ subno q hf.fn hf.pgno (hget subno 0xFFFFFFFF hs)⟩

/-- the rows a fetch shows for a row that was received (shape hypotheses of the previous version): with 26 rows in the base,
    row `n` of the merged page is a packet `n` received (the last one: `lastRowFrom`; the statement keeps membership only) -/
theorem merged_row_received (base : List (List Nat)) (rows : List (Nat × List Nat)) (n : Nat) (hn : n < base.length)
    (h : rows.any (fun r => r.1 == n) = true) :
    ∃ x, (mergeRows base rows)[n]? = some x ∧ (n, x) ∈ rows := by
  rw [mergeRows_getElem?, if_pos hn]
  exact lastRowFrom_received rows n _ h

/-- ... and a row that was not received keeps the previous content (or the blank of an erased page) -/
theorem merged_row_kept (base : List (List Nat)) (rows : List (Nat × List Nat)) (n : Nat)
    (h : rows.any (fun r => r.1 == n) = false) : (mergeRows base rows)[n]? = base[n]? := by
  rw [mergeRows_getElem?, lastRowFrom_absent _ _ _ h]
  by_cases hn : n < base.length
  · rw [if_pos hn]
  · rw [if_neg hn]; simp at hn ⊢; omega

/-- a stored page holds, for every row number received, a packet of that number: `q.raw` = the merged rows, 26 of them -/
theorem received_row_stored (q : Page) (base : List (List Nat)) (rows : List (Nat × List Nat))
    (hraw : q.raw = mergeRows base rows) (hlen : q.raw.length = 26) (h25 : ∀ r ∈ rows, 1 ≤ r.1 ∧ r.1 ≤ 25) :
    ∀ r ∈ rows, ∃ r' ∈ rows, r'.1 = r.1 ∧ q.raw.getD r.1 [] = r'.2 := by
  intro r hr
  have hbl : base.length = 26 := by rw [← mergeRows_length base rows, ← hraw]; exact hlen
  have hr25 := h25 r hr
  obtain ⟨v, hv, hvm⟩ := merged_row_received base rows r.1 (by rw [hbl]; omega)
    (by rw [List.any_eq_true]; exact ⟨r, hr, by simp⟩)
  refine ⟨(r.1, v), hvm, rfl, ?_⟩
  rw [hraw, List.getD_eq_getElem?_getD, hv]
  rfl

theorem received_rows_shown (q : Page) (base : List (List Nat)) (rows : List (Nat × List Nat)) (region : Nat)
    (hraw : q.raw = mergeRows base rows) (hlen : q.raw.length = 26) (h25 : ∀ r ∈ rows, 1 ≤ r.1 ∧ r.1 ≤ 25) :
    ∀ r ∈ rows, ∃ r' ∈ rows, r'.1 = r.1
      ∧ ∀ c, c < 40 → (C02.pageInOf region q).raw (40 * r.1 + c) = r'.2.getD c 0 := by
  intro r hr
  obtain ⟨r', hr', e1, e2⟩ := received_row_stored q base rows hraw hlen h25 r hr
  refine ⟨r', hr', e1, fun c hc => ?_⟩
  show ((q.raw.getD ((40 * r.1 + c) / 40) []).getD ((40 * r.1 + c) % 40) 0) = r'.2.getD c 0
  rw [show (40 * r.1 + c) / 40 = r.1 from by omega, show (40 * r.1 + c) % 40 = c from by omega, e2]

/-- a stored transmission `t` that the look-ups of its page number return: `vbi_fetch_vt_page` (model `C02.fetch`) succeeds
    with the wildcard or the stored sub-code, the page has the transmitted national option, and the rows received are shown -/
theorem fetched_shown (sF : St) (hs : Shape sF) (region : Nat) (t : Tx) (s1 : St) (hdr : Packet)
    (rows : List (Nat × List Nat)) (pt : Nat) (q : Page) (hF : Fetched q t s1 hdr rows pt) (hq : q ∈ sF.net.cache)
    (h25 : ∀ r ∈ rows, 1 ≤ r.1 ∧ r.1 ≤ 25)
    (hget : ∀ subno mask, subno = q.subno ∨ subno = ANY_SUBNO →
      (cacheGet sF.net.cache t.pgno subno mask).map (·.1) = some q) :
    q.national = rev8 t.fl &&& 7
    ∧ (∀ subno, subno = q.subno ∨ subno = ANY_SUBNO →
        ∃ cells, C02.fetch sF region t.pgno subno = some (t.pgno, q.subno, cells)
          ∧ ∀ row col, row < 25 → col < 40 → cellAt cells row col = L1Spec.cell .lib (C02.pageInOf region q) row col)
    ∧ (∀ r ∈ rows, ∃ r' ∈ rows, r'.1 = r.1
        ∧ ∀ c, c < 40 → (C02.pageInOf region q).raw (40 * r.1 + c) = r'.2.getD c 0) :=
  ⟨hF.national, fun subno hsub => fetch_of_cacheGet _ region _ subno q hF.fn hF.pgno (hget subno 0xFFFFFFFF hsub),
    received_rows_shown q _ rows region hF.raw (hs.cache q hq) h25⟩

/-- `consistent_header`: a header that agrees with the decoder's reference header outside the page
number (`HeaderAgrees`: first occurrence of the page number at column `off`, all other compared columns
8..31 equal and odd parity) makes `same_header` return TRUE, so `store_lop` cannot take the
channel-switch branch. -/
theorem consistent_header_same (pgno : Nat) (cur ref : List Nat) (off : Nat) (h : HeaderAgrees pgno cur ref off) :
    sameHeader pgno cur ref = (1, off) := sameHeader_agrees pgno cur ref off h

/-! ### non-vacuity: a concrete three-row page through the decoder model -/

/-- header of page (magazine 1, `page`), sub-code 0, no control bits, blank header text -/
def exHdr (page : Nat) : Packet :=
  C02.addrBytes 1 0 ++ [ham8 (page &&& 15), ham8 (page >>> 4), ham8 0, ham8 0, ham8 0, ham8 0, ham8 0, ham8 0]
    ++ List.replicate 32 0x20
def exRow (k b : Nat) : Packet := C02.addrBytes 1 k ++ List.replicate 40 b
/-- page 123: rows 1, 3, 2 (in this order), terminated by the header of page 124 -/
def exStream : List Packet := [exHdr 0x23, exRow 1 0xC1, exRow 3 0xC2, exRow 2 0x43, exHdr 0x24]

/-- the hypotheses of `single_page_roundtrip` are met by these packets ... -/
example : IsHeader (exHdr 0x23) 1 0x23 0 0 0 ∧ decimalPage 0x23 ∧ IsPacket (exRow 3 0xC2) 1 3
    ∧ GoodRow (payload (exRow 3 0xC2)) ∧ IsHeader (exHdr 0x24) 1 0x24 0 0 0 := by
  refine ⟨⟨by decide, by decide +kernel, by decide +kernel, by decide +kernel, by decide +kernel, by decide +kernel⟩,
    ⟨by decide, by decide⟩, ⟨by decide, by decide, by decide +kernel⟩, ?_, ⟨by decide, by decide +kernel, by decide +kernel,
    by decide +kernel, by decide +kernel, by decide +kernel⟩⟩
  intro b hb
  have : payload (exRow 3 0xC2) = List.replicate 40 0xC2 := by decide +kernel
  rw [this] at hb
  rw [List.eq_of_mem_replicate hb]
  decide +kernel

/-- ... and from a fresh decoder the conclusion is what the model computes: page 123 is fetched with rows
1 and 2 as sent, the row never sent blank, function LOP, and exactly one TTX_PAGE event (123, 0). -/
example : (cacheGet (run (init.enable true) exStream).1.net.cache 0x123 ANY_SUBNO 0).map
      (fun r => (r.1.function, r.1.raw.getD 1 [], r.1.raw.getD 2 [], r.1.raw.getD 4 []))
    = some (FN_LOP, List.replicate 40 0xC1, List.replicate 40 0x43, blankRow)
  ∧ ttxPages (run (init.enable true) exStream).2 = [(0x123, 0)] := by decide +kernel

example : mergeRows [[0], [1], [2]] [(1, [7]), (2, [8]), (1, [9])] = [[0], [9], [8]] := by decide

/-! `interleaved_page_roundtrip` (packets of OTHER magazines interleaved anywhere between P's header and the terminating
header) is proved in `Props/C02Interleave.lean`: `magazine_isolation` is FALSE without exceptions on the model and on
packet.c - (E1) a foreign header with an uncorrectable page number and (E2) a foreign X/26 on a page with function
(G)DRCS/BTT/AIT/MPT/MPT-EX call `vbi_teletext_desync` for all magazines, (E3) a foreign page whose header fails the
rolling-header test empties the cache, (E4) a foreign header carrying C11 sends the next termination to the wrong slot -
so the theorem is stated for foreign packets that are `Ttx.Benign` (exactly E1-E4 excluded, each proved real there). -/

/-- Serial mode (C11 set): the page is terminated by the next header of ANY magazine with another page number
(with `ttxFixSerialErase`, commit 53b7b09 of /repo: also when the page carries the erase flag).  Same conclusion as `single_page_roundtrip`; the
terminating header may belong to another magazine.  PROVED: `Props/C02Serial.lean`, `page_roundtrip_serial`. -/
def page_roundtrip_serial_full : Prop :=
  ∀ (s : St) (t : Tx) (hdr hq : Packet) (rp : List RowPkt) (s1 : St) (ev1 : List Event) (u : Tx),
    s.raw.length = 8 → s.mask = true → s.chswcd = 0 →
    IsHeader hdr t.m t.page t.s12 t.s34 t.fl → decimalPage t.page →
    (t.s12 < 256 ∧ t.s34 < 256 ∧ t.fl < 256) → t.fl &&& 0x10 = 0x10 →
    terminatePage (tick s) t.m t.pgno t.page = (s1, ev1) →
    TextPage s1.net t.pgno t.page (t.prev s1) → (s1.rp t.m).lopRaw.length = 26 →
    (∀ x ∈ rp, IsPacket x.2 t.m x.1 ∧ 1 ≤ x.1 ∧ x.1 ≤ 25 ∧ GoodRow (payload x.2)) →
    IsHeader hq u.m u.page u.s12 u.s34 u.fl → u.pgno ≠ t.pgno →
    Event.chsw ∉ (run s (hdr :: rp.map (·.2) ++ [hq])).2 →
    ∃ q rest pt, (terminatePage (tick (run s (hdr :: rp.map (·.2))).1) u.m u.pgno u.page).1.net.cache = q :: rest
      ∧ Fetched q t s1 hdr (rowsOf rp) pt

end Zvbi.Props.C02Roundtrip
