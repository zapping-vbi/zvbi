import ZvbiModel.Search.Model
import ZvbiModel.Search.Matcher
import ZvbiModel.Search.LemmasCache
import ZvbiModel.Search.LemmasSearch
import ZvbiModel.Search.LemmasHighlight
import ZvbiModel.Search.DirPasses
import ZvbiModel.Search.LemmasMatcher
import ZvbiModel.Search.Spec
import ZvbiModel.Search.Witnesses
import ZvbiModel.Search.WitnessD7Defs
import ZvbiModel.Search.Current
/-!
# C17 - search finds exactly the pages containing the pattern, in page order, and ends

Theorems about `ZvbiModel/Search/Model.lean` (cache.c `_vbi_cache_foreach_page`, `_vbi_cache_put_page` statistics,
search.c).  The regular expression engine and the page formatter are parameters (`Exec`, `Entry.text`).
`walk`, `searchNext` model the CURRENT code: after F5a, F5b and the repairs of the findings C17-D1 (8b7ac93),
C17-D3 and C17-D2 at 256 pages (5e41e82), C17-D4 (ed2772e), C17-D5 (ce86777).  The one exclusion is C17-D2 in its 16 bit
form, `NoWrap`: fewer than 65536 pages cached under one page number.

Finding C17-D7 (sub-page number 0x3F7F read as VBI_ANY_SUBNO at the START of a pass) and its repair
fixes/C17-turn-3f7f.diff are two source shapes of two statements; every theorem below is stated for an arbitrary
`sh : Shape` and holds in both.  `Shape.current` is what translate/gen_search.py read from /repo on this run
(`current_shape`); `turn_on_3f7f_counterexample` is about `Shape.unrepaired`, `turn_on_3f7f_repaired` about
`Shape.repaired`; in the repaired shape `walk_refines` has no wildcard look-up and no `StartOk`, and the hypothesis
`S != VBI_ANY_SUBNO` of the search_exact theorems is void (`sh.startExact = true ∨ ...`).

Finding F17 / C17-D2 and its repair fixes/C10-put-replaces-all-versions.diff are two source shapes of
`_vbi_cache_put_page` (`putF fix`: `put` as found, `putR` repaired - a store under a single-version key deletes every
other cached page of the page number); which one /repo has is read by translate/gen_cache.py
(`Zvbi.Gen.Cache.putReplacesAllVersions`, `putCur` is what the driver runs: `current_store_shape`).  Every theorem about
reachable caches is stated for an arbitrary `fix` (`buildF fix ops`).  For `fix = false` the exclusion `NoWrap` stays a
hypothesis; for `fix = true` it is a theorem (`nowrap_repaired`), `walk_complete_full true` is proved
(`walk_complete_repaired`) and `search_exact_first_call_repaired` has no exclusion left.  `stats_count_256` (witness of
the growth) is about the shape as found, `stats_count_repaired` the same history on the repaired shape.
-/
namespace Zvbi.Props.C17
open Zvbi.Search

/-- **walk_terminates.** `_vbi_cache_foreach_page` returns for EVERY cache content (empty, hex pages, sub-page
numbers >= 0x100, inconsistent statistics - even `subno_min > subno_max`), every callback, every start position and
both directions: the fuel `walkFuel` = 2 sweeps x 0x800 page numbers x 0x10001 sub-page positions is never
exhausted. -/
theorem walk_terminates {σ : Type} (sh : Shape) (cb : Callback σ) (c : Cache) (s : σ) (pgno subno dir : Int)
    (hdir : dir = 1 ∨ dir = -1) : (walk sh cb walkFuel c s pgno subno dir).res ≠ .outOfFuel := by
  rw [walk_eq]
  split
  · nofun
  · split
    · nofun
    · have hp' : PgOk pgno := by unfold PgOk; omega
      obtain ⟨d, rfl⟩ := Dir.of_int hdir
      exact d.loop_terminates cb _ _ _ _ _ _ _ hp' (d.togo_lt_fuel hp' _ _)

example : (walk Shape.repaired (fun (s : Nat) _ _ _ => (0, s + 1)) walkFuel Cache.empty 0 0x100 0 1).res = .ret 0 := by rfl

/-- **walk_no_assert.** The only assertion on the path (`cache_network_page_stat`: page number in 0x100..0x8FF)
fires exactly when the cache is non-empty and the START page number is outside that range; the `--ps` / `++ps`
pointer walk itself never leaves the statistics array. -/
theorem walk_no_assert {σ : Type} (sh : Shape) (cb : Callback σ) (fuel : Nat) (c : Cache) (s : σ) (pgno subno dir : Int) :
    (walk sh cb fuel c s pgno subno dir).res = .assertFail ↔ (c.nCached ≠ 0 ∧ (pgno < 0x100 ∨ pgno > 0x8FF)) := by
  rw [walk_eq]
  split
  · rename_i h0; exact ⟨nofun, fun h => absurd h0 h.1⟩
  · rename_i h0
    split
    · rename_i hp; exact ⟨fun _ => ⟨h0, hp⟩, fun _ => rfl⟩
    · rename_i hp; exact ⟨fun h => absurd h (loop_no_assert cb dir fuel _ _ _ _ _ _), fun h => absurd h.2 hp⟩

example : (walk Shape.unrepaired (fun (s : Nat) _ _ _ => (0, s)) 5 (put Cache.empty 0x100 0 0 []) 0 0x99 0 1).res = .assertFail := by
  rw [walk_no_assert]; exact ⟨by decide, by decide⟩

/-- **walk_refines.** (refinement to a specification, in BOTH source shapes)  For every cache, every callback and
every start position the walk is `walkRun`: the callback on the page the START look-up finds, then the left fold of the
callback over the pages the EXACT look-up finds at `positions` - a list that depends on the page statistics only -
stopping at the first non-zero return value, and returning -1 at the end.  The most-recently-used reordering of the
hash chains performed by every look-up does not influence it.  The page handed over at a position (p, s) has exactly
the sub-page number s, 0x3F7F included (C17-D5 repaired).
Unrepaired shape (C17-D7): the start look-up is `_vbi_cache_get_page` - sub-page number 0x3F7F is the wildcard there,
the walk continues from the sub-page number of the page found; the fold is the uniform `runPos` over `walkPositions`
when the start page number is not xFF or nothing is cached under it (`StartOk`, guaranteed by `_vbi_cache_put_page`).
Repaired shape (`sh.startExact`): the start look-up is exact too - no wildcard anywhere in the statement: the walk IS
`runPos` over `walkPositions`, which begin at the caller's (pgno, subno), with no further hypothesis. -/
theorem walk_refines {σ : Type} (sh : Shape) (cb : Callback σ) (c : Cache) (s : σ) (pgno subno dir : Int)
    (hne : c.nCached ≠ 0) (hp : PgOk pgno) (hdir : dir = 1 ∨ dir = -1) :
    (walk sh cb walkFuel c s pgno subno dir).res = .ret (walkRun sh cb c pgno subno dir s).1 ∧
    (walk sh cb walkFuel c s pgno subno dir).st = (walkRun sh cb c pgno subno dir s).2 ∧
    (StartOk sh c pgno → walkRun sh cb c pgno subno dir s = runPos cb c (walkPositions sh c pgno subno dir) s) ∧
    (sh.startExact = true →
      walkRun sh cb c pgno subno dir s = runPos cb c (walkPositions sh c pgno subno dir) s ∧
      walkPositions sh c pgno subno dir = (pgno, subno, false) :: positions c dir walkFuel pgno subno false) ∧
    (∀ p sub e, lookupX c p sub = some e → (e.subno : Int) = sub ∧ e ∈ (c.slots p.toNat).chain) := by
  obtain ⟨h1, h2⟩ := walk_factors sh cb c s pgno subno dir hne hp hdir
  refine ⟨h1, h2, walkRun_eq_runPos sh cb c pgno subno dir s hp, ?_, fun p sub e h => ⟨lookupX_subno h, lookupX_mem h⟩⟩
  intro hse
  refine ⟨walkRun_eq_runPos sh cb c pgno subno dir s hp (Or.inl hse), ?_⟩
  unfold walkPositions; rw [startSub_repaired sh hse]

example : StartOk Shape.unrepaired Cache.empty 0x1FF := Or.inr (Or.inr rfl)

/-- **walk_order.** The positions are probed in strictly ascending (forward) resp. descending (backward)
(sweep, page number, sub-page number) order, beginning at the start position, wrapping once; every position after
the first belongs to a valid page number with cached subpages and is `Landed`: inside the statistics window or - the
clamp added by ed2772e - the window's first sub-page number in walking direction; with `subno_min <= subno_max`
(`StatOk`, an invariant of all store histories: `stats_invariant`) that is inside the window too.  In particular no
position is probed twice. -/
theorem walk_order (sh : Shape) (c : Cache) (pgno subno : Int) (hp : PgOk pgno) :
    (walkPositions sh c pgno subno 1).Pairwise LtF ∧ (walkPositions sh c pgno subno (-1)).Pairwise LtB ∧
    (∀ dir, dir = 1 ∨ dir = -1 → ∀ x ∈ (walkPositions sh c pgno subno dir).tail,
        PgOk x.1 ∧ Landed (c.stat x.1) x.2.1 ∧ (StatOk c → inRange (c.stat x.1) x.2.1 = true)) := by
  unfold walkPositions
  have hs := fun d : Dir => d.positions_sorted c walkFuel pgno (startSub sh c pgno subno) false hp
  refine ⟨List.pairwise_cons.mpr ⟨fun x hx => ((hs .fwd).1 x hx).1, (hs .fwd).2⟩,
    List.pairwise_cons.mpr ⟨fun x hx => ((hs .rev).1 x hx).1, (hs .rev).2⟩, ?_⟩
  intro dir hdir x hx
  simp only [List.tail_cons] at hx
  obtain ⟨d, rfl⟩ := Dir.of_int hdir
  exact ⟨((hs d).1 x hx).2.1, ((hs d).1 x hx).2.2, fun h => landed_inRange (h x.1) ((hs d).1 x hx).2.2⟩

/-- on an empty cache the inner loop finds no page number to land on -/
example : walkPositions Shape.repaired Cache.empty 0x100 0 1 = [(0x100, 0, false)] := by
  unfold walkPositions
  rw [startSub_repaired _ rfl, show walkFuel = (walkFuel - 1) + 1 from rfl, positions_succ]
  obtain ⟨r, hr, hspec⟩ := Dir.fwd.skip_spec Cache.empty skipFuel 0x100 (0 + 1) false ⟨by decide, by decide⟩
    (Dir.fwd.skipMeas_lt ⟨by decide, by decide⟩ false)
  rw [show skip Cache.empty 1 = skip Cache.empty Dir.fwd.int from rfl, hr]
  match r, hspec with
  | none, _ => rfl
  | some (p', s', w'), ⟨_, hl, _⟩ => exact absurd rfl hl.1

/-- **walk_complete.** Every position inside a statistics window - hence every cached page the statistics cover - is
probed in the second (wrapped) sweep, whatever the start position and direction; by `walk_order` exactly once. -/
theorem walk_complete (sh : Shape) (c : Cache) (pgno subno dir : Int) (hp : PgOk pgno) (hdir : dir = 1 ∨ dir = -1)
    (q t : Int) (hq : PgOk q) (hin : inRange (c.stat q) t = true) :
    (q, t, true) ∈ walkPositions sh c pgno subno dir := by
  unfold walkPositions
  apply List.mem_cons_of_mem
  obtain ⟨d, rfl⟩ := Dir.of_int hdir
  exact d.positions_complete c walkFuel pgno _ false hp (d.togo_lt_fuel hp _ _) q t true hq hin
    ((d.lt_iff _ _).mpr (Or.inl ⟨rfl, rfl⟩))

/-- **walk_complete_first_sweep.**
Before wrapping, a forward walk probes every window position on later page numbers AND every window position of the
start page behind the start position; mirror image backward.  In particular the walk visits the start page: a
backward search created at (P, ANY) starts at (P, 0x3F7E) and reaches the cached subpages of P first. -/
theorem walk_complete_first_sweep (sh : Shape) (c : Cache) (pgno subno : Int) (hp : PgOk pgno) (q t : Int) (hq : PgOk q)
    (hin : inRange (c.stat q) t = true) :
    ((pgno < q ∨ (pgno = q ∧ startSub sh c pgno subno < t)) → (q, t, false) ∈ walkPositions sh c pgno subno 1) ∧
    ((q < pgno ∨ (pgno = q ∧ t < startSub sh c pgno subno)) → (q, t, false) ∈ walkPositions sh c pgno subno (-1)) := by
  unfold walkPositions
  have hc := fun (d : Dir) h => List.mem_cons_of_mem (pgno, startSub sh c pgno subno, false)
    (d.positions_complete c walkFuel pgno (startSub sh c pgno subno) false hp (d.togo_lt_fuel hp _ _) q t false hq hin
      ((d.lt_iff _ _).mpr (Or.inr ⟨rfl, h⟩)))
  exact ⟨hc .fwd, hc .rev⟩

/-- **stats_invariant.** (BOTH shapes of `_vbi_cache_put_page`, `fix`)  After EVERY history of page stores (sub-codes as the decoder delivers them, <= 0x3F7F),
by induction: `n_subpages` = number of cached pages of that number modulo 65536, `subno_min <= subno_max <= 0x3F7F`,
nothing is cached under a page number xFF, and for every page number with fewer than 65536 cached pages
`subno_min <= every cached sub-page number <= subno_max` (sub-page 0 included) and `n_subpages != 0` when a page is
cached: the statistics cover the cached pages (`Covered`).  A history of fewer than 65536 stores satisfies `NoWrap`
outright; on the REPAIRED shape (`fix = true`, fixes/C10-put-replaces-all-versions.diff) EVERY history does - at most 256
pages are cached under one page number - so there the statistics cover the cached pages unconditionally. -/
theorem stats_invariant (fix : Bool) (ops : List PutOp) (h : ∀ o ∈ ops, o.subno ≤ 0x3F7F) :
    Inv (buildF fix ops) ∧ NoFF (buildF fix ops) ∧ (NoWrap (buildF fix ops) → Covered (buildF fix ops)) ∧
    (ops.length < 65536 → NoWrap (buildF fix ops)) ∧
    (fix = true → NoWrap (buildF fix ops) ∧ Covered (buildF fix ops) ∧
      ∀ p, ((buildF fix ops).slots p).chain.length ≤ 256) :=
  ⟨buildF_inv fix ops h, buildF_noFF fix ops, covered_of_inv (buildF_inv fix ops h), noWrapF_of_few fix ops,
   fun hf => by
     subst hf
     exact ⟨noWrap_repaired ops, covered_of_inv (buildF_inv true ops h) (noWrap_repaired ops),
       version_bound_repaired ops⟩⟩

example : Covered (buildF false [⟨0x100, 0, 0, []⟩, ⟨0x100, 5, 0, []⟩]) :=
  (stats_invariant false _ (by decide)).2.2.1 ((stats_invariant false _ (by decide)).2.2.2.1 (by decide))

example : Covered (buildF true [⟨0x100, 1, 0, []⟩, ⟨0x100, 0x100, 0, []⟩]) :=
  ((stats_invariant true _ (by decide)).2.2.2.2 rfl).2.1

/-- **nowrap_repaired.** (what becomes of the hypothesis `NoWrap` - finding C17-D2 - with
fixes/C10-put-replaces-all-versions.diff)  On the repaired shape of `_vbi_cache_put_page` the cached pages of one page
number have pairwise different keys (`subno % 256` for BCD page numbers, `subno % 16` for the others: `Distinct`, an
invariant of the store), so at most 256 are cached and the 16 bit counter `n_subpages` never wraps: `NoWrap` holds after
ANY history, no bound on sub-codes or on the length of the history needed.  For the shape as found it stays a hypothesis
(`stats_count_256`: the count grows by one per pair of stores). -/
theorem nowrap_repaired (ops : List PutOp) :
    Distinct (buildF true ops) ∧ (∀ p, ((buildF true ops).slots p).chain.length ≤ 256) ∧ NoWrap (buildF true ops) :=
  ⟨buildF_distinct ops, version_bound_repaired ops, noWrap_repaired ops⟩

example : ((buildF true [⟨0x100, 1, 0, []⟩, ⟨0x100, 0x100, 0, []⟩, ⟨0x100, 1, 0, []⟩, ⟨0x100, 0x100, 0, []⟩]).slots 0x100).chain.length = 1 := by
  decide +kernel

/-- **walk_complete_cached.** After every history of page stores that
has not wrapped the 16 bit counter `n_subpages` (`NoWrap`: fewer than 65536 pages cached under each page number - the
explicit exclusion of C17-D2), every cached page is found at a probed position of the wrapped sweep, from every start
position, in both directions: the look-up there returns the first page of the chain with that number. -/
theorem walk_complete_cached (fix : Bool) (sh : Shape) (ops : List PutOp) (h : ∀ o ∈ ops, o.subno ≤ 0x3F7F) (hnw : NoWrap (buildF fix ops))
    (pgno subno dir : Int) (hp : PgOk pgno) (hdir : dir = 1 ∨ dir = -1) (q : Nat) (hq : PgOk q) (e : Entry)
    (he : e ∈ ((buildF fix ops).slots q).chain) :
    ((q : Int), (e.subno : Int), true) ∈ walkPositions sh (buildF fix ops) pgno subno dir := by
  apply walk_complete sh (buildF fix ops) pgno subno dir hp hdir q e.subno hq
  obtain ⟨h1, h2, h3⟩ := (stats_invariant fix ops h).2.2.1 hnw q e he
  rw [inRange_iff]
  unfold Cache.stat
  simp only [Int.toNat_natCast]
  exact ⟨h1, by omega, by omega⟩

example : (((0x100 : Nat) : Int), ((0 : Nat) : Int), true) ∈ walkPositions Shape.unrepaired (buildF false [⟨0x100, 0, 0, []⟩]) 0x555 7 (-1) :=
  walk_complete_cached false Shape.unrepaired [⟨0x100, 0, 0, []⟩] (by decide) (noWrapF_of_few false _ (by decide)) 0x555 7 (-1) ⟨by decide, by decide⟩
    (Or.inr rfl) 0x100 ⟨by decide, by decide⟩ ⟨0, 0, [], 0⟩ (by decide +kernel)

/-- **walk_complete_repaired.** (`walk_complete_full true`, the full-strength statement of Spec.lean, for the
repaired shape of `_vbi_cache_put_page`)  After EVERY history of page stores - no `NoWrap` hypothesis - every cached
page is found at a probed position of the wrapped sweep, from every start position, in both directions. -/
theorem walk_complete_repaired : walk_complete_full true := by
  intro sh ops pgno subno dir h hp hdir q e hq he
  exact walk_complete_cached true sh ops h (noWrap_repaired ops) pgno subno dir hp hdir q hq e he

example : (((0x100 : Nat) : Int), ((0x100 : Nat) : Int), true) ∈
    walkPositions Shape.repaired (buildF true [⟨0x100, 1, 0, []⟩, ⟨0x100, 0x100, 0, []⟩]) 0x555 7 1 :=
  walk_complete_repaired Shape.repaired _ 0x555 7 1 (by decide) ⟨by decide, by decide⟩ (Or.inl rfl) 0x100 ⟨0x100, 0, [], 0⟩
    ⟨by decide, by decide⟩ (by decide +kernel)

/-- **search_next_refines.** `vbi_search_next` = the status mapping applied to the fold of `search_page_fwd` /
`search_page_rev` over the pages found at the walk positions from the current start position. -/
theorem search_next_refines (sh : Shape) (exec : Exec) (c : Cache) (s : SearchSt) (d : Int) (hne : c.nCached ≠ 0)
    (hp : PgOk (prepare sh s d).startPgno) (hok : StartOk sh c (prepare sh s d).startPgno) :
    (searchNext sh exec walkFuel c s d).res =
      statusOf (runPos (callbackOf sh exec d) c
        (walkPositions sh c (prepare sh s d).startPgno (prepare sh s d).startSubno (dirOf d)) (prepare sh s d)).1 :=
  (searchNext_run sh exec c s d hne hp hok).1

/-- **search_success_sound.** When a forward `vbi_search_next` reports SUCCESS (any call of a pass), the page it
returns was found at one of the walk positions, is a level one page, and the matcher reported the occurrence
[ms, me) in its text from the cursor on; the new search context is `highlight` of exactly that occurrence. -/
theorem search_success_sound (sh : Shape) (exec : Exec) (c : Cache) (s : SearchSt) (d : Int) (hd : d > 0)
    (hne : c.nCached ≠ 0) (hp : PgOk (prepare sh s d).startPgno) (hok : StartOk sh c (prepare sh s d).startPgno)
    (h : (searchNext sh exec walkFuel c s d).res = .ret SEARCH_SUCCESS) :
    ∃ p sub w e s0 ms me, (p, sub, w) ∈ walkPositions sh c (prepare sh s d).startPgno (prepare sh s d).startSubno 1 ∧
      lookupX c p sub = some e ∧ e.func = FUNC_LOP ∧
      exec (fwdFlags sh (hayFwd e.text (cursorRow s0 p.toNat e) s0.col0).1 (hayFwd e.text (cursorRow s0 p.toNat e) s0.col0).2) ((hayFwd e.text (cursorRow s0 p.toNat e) s0.col0).1.drop (hayFwd e.text (cursorRow s0 p.toNat e) s0.col0).2)
        = some (ms, me) ∧
      (searchNext sh exec walkFuel c s d).st =
        highlight { s0 with pgPgno := p.toNat, pgSubno := e.subno, hl := [] } p.toNat e
          (hayFwd e.text (cursorRow s0 p.toNat e) s0.col0).2 ms me := by
  rw [searchNext_prepare] at h ⊢
  have hrp := searchNext_success_run sh exec c _ d (prepare_idem sh s d) hp hok h
  rw [callbackOf_fwd sh exec hd, show dirOf d = 1 by unfold dirOf; simp [hd]] at hrp
  obtain ⟨pre, x, post, e, s0, hL, hl, _, hcall, _⟩ := runPos_first_hit (Dir.fwd.steady sh exec) c _ _ _ _ hrp (by decide)
  obtain ⟨hf, ms, me, hex, hs'⟩ := pageFwd_one hcall
  exact ⟨x.1, x.2.1, x.2.2, e, s0, ms, me, by rw [hL]; simp, hl, hf, hex, hs'⟩

/-- **search_not_found_complete.** When the first forward call of a pass reports NOT_FOUND, the matcher was run on
the WHOLE text of every level one page found at a walk position of the first sweep, and at a position of the wrapped
sweep below the stop position - and found nothing.  (Any cache.) -/
theorem search_not_found_complete (sh : Shape) (exec : Exec) (c : Cache) (s : SearchSt) (d : Int) (hd : d > 0)
    (hfresh : s.dir = 0) (hne : c.nCached ≠ 0) (hp : PgOk s.stopPgno0) (hok : StartOk sh c s.stopPgno0)
    (h : (searchNext sh exec walkFuel c s d).res = .ret SEARCH_NOT_FOUND) :
    ∀ x ∈ walkPositions sh c s.stopPgno0 s.stopSubno0 1,
      (x.2.2 = false ∨ key x.1 x.2.1 < key s.stopPgno0 s.stopSubno0) →
      ∀ e, lookupX c x.1 x.2.1 = some e → e.func = FUNC_LOP → exec {} (hayFwd e.text (-1) 0).1 = none := by
  rw [searchNext_pos sh exec _ c s hd] at h
  exact Dir.fwd.first_not_found_walk sh exec c s hfresh hp hok h

/-- **search_exact_not_found.** (the NOT_FOUND half of search_exact, forward, first call of a pass)  On every
reachable cache (any store history, D2 excluded by `NoWrap`), from every start position (P, S) with an exact
sub-page number: NOT_FOUND means that NO cached level one page contains the pattern. -/
theorem search_exact_not_found (fix : Bool) (sh : Shape) (exec : Exec) (ops : List PutOp) (hops : ∀ o ∈ ops, o.subno ≤ 0x3F7F)
    (hnw : NoWrap (buildF fix ops)) (s : SearchSt) (d : Int) (hd : d > 0) (hfresh : s.dir = 0) (hp : PgOk s.stopPgno0)
    (hS : 0 ≤ s.stopSubno0 ∧ s.stopSubno0 ≤ 0xFFFF ∧ (sh.startExact = true ∨ s.stopSubno0 ≠ ANY_SUBNO))
    (h : (searchNext sh exec walkFuel (buildF fix ops) s d).res = .ret SEARCH_NOT_FOUND) :
    ∀ (p sub : Nat), PgOk p → ¬ Matches exec (buildF fix ops) p sub :=
  Dir.fwd.first_not_found sh exec (buildF fix ops) s hfresh (reach_buildF fix ops hops hnw) hp
    ⟨hS.1, Int.lt_of_le_of_lt hS.2.1 (by decide)⟩ hS.2.2
    (searchNext_pos sh exec walkFuel _ s hd ▸ h)

/-- **search_exact_first_success.** (the SUCCESS half of search_exact - "first in order" - forward, first call of
a pass)  On every reachable cache (D2 excluded by `NoWrap`): when the first call of a pass from (P, S) reports SUCCESS,
the page it returns is a valid page number, is cached as a level one page whose text contains the pattern, and no
page containing the pattern comes before it in pass order (ascending (page, sub-page) from (P, S), wrapping once:
`passRank`). -/
theorem search_exact_first_success (fix : Bool) (sh : Shape) (exec : Exec) (ops : List PutOp) (hops : ∀ o ∈ ops, o.subno ≤ 0x3F7F)
    (hnw : NoWrap (buildF fix ops)) (s : SearchSt) (d : Int) (hd : d > 0) (hfresh : s.dir = 0) (hp : PgOk s.stopPgno0)
    (hS : 0 ≤ s.stopSubno0 ∧ s.stopSubno0 ≤ 0xFFFF ∧ (sh.startExact = true ∨ s.stopSubno0 ≠ ANY_SUBNO))
    (h : (searchNext sh exec walkFuel (buildF fix ops) s d).res = .ret SEARCH_SUCCESS) :
    PgOk (searchNext sh exec walkFuel (buildF fix ops) s d).st.pgPgno ∧
    Matches exec (buildF fix ops) (searchNext sh exec walkFuel (buildF fix ops) s d).st.pgPgno
      (searchNext sh exec walkFuel (buildF fix ops) s d).st.pgSubno ∧
    ∀ q t : Nat, PgOk q → Matches exec (buildF fix ops) q t →
      passRank s.stopPgno0 s.stopSubno0 (searchNext sh exec walkFuel (buildF fix ops) s d).st.pgPgno
        (searchNext sh exec walkFuel (buildF fix ops) s d).st.pgSubno ≤ passRank s.stopPgno0 s.stopSubno0 q t :=
  Dir.fwd.first_success sh exec (buildF fix ops) s hfresh (reach_buildF fix ops hops hnw) hp
    ⟨hS.1, Int.lt_of_le_of_lt hS.2.1 (by decide)⟩ hS.2.2
    (searchNext_pos sh exec walkFuel _ s hd).symm h

/-- **search_exact_first_call.**  On every reachable cache (D2 excluded by `NoWrap`), the first
forward call of a pass reports SUCCESS if and only if some cached level one page contains the pattern, NOT_FOUND if and
only if none does and something is cached at all, and CACHE_EMPTY otherwise.  Together with
`search_exact_first_success`: it returns the first matching page in pass order when there is one. -/
theorem search_exact_first_call (fix : Bool) (sh : Shape) (exec : Exec) (ops : List PutOp) (hops : ∀ o ∈ ops, o.subno ≤ 0x3F7F)
    (hnw : NoWrap (buildF fix ops)) (s : SearchSt) (d : Int) (hd : d > 0) (hfresh : s.dir = 0) (hp : PgOk s.stopPgno0)
    (hS : 0 ≤ s.stopSubno0 ∧ s.stopSubno0 ≤ 0xFFFF ∧ (sh.startExact = true ∨ s.stopSubno0 ≠ ANY_SUBNO)) :
    ((searchNext sh exec walkFuel (buildF fix ops) s d).res = .ret SEARCH_SUCCESS ↔
      ∃ p sub : Nat, PgOk p ∧ Matches exec (buildF fix ops) p sub) ∧
    ((searchNext sh exec walkFuel (buildF fix ops) s d).res = .ret SEARCH_NOT_FOUND ↔
      (buildF fix ops).nCached ≠ 0 ∧ ∀ p sub : Nat, PgOk p → ¬ Matches exec (buildF fix ops) p sub) ∧
    ((searchNext sh exec walkFuel (buildF fix ops) s d).res = .ret SEARCH_CACHE_EMPTY ↔ (buildF fix ops).nCached = 0) :=
  Dir.fwd.first_call sh exec _ s hfresh (reach_buildF fix ops hops hnw) hp
    ⟨hS.1, Int.lt_of_le_of_lt hS.2.1 (by decide)⟩ hS.2.2 (searchNext_pos sh exec walkFuel _ s hd).symm

/-- non-vacuity: a fresh search created by `vbi_search_new (0x100, VBI_ANY_SUBNO)` on a one-page cache meets every
hypothesis of the three search_exact theorems -/
example (fix : Bool) : ∃ (ops : List PutOp) (s : SearchSt), (∀ o ∈ ops, o.subno ≤ 0x3F7F) ∧ NoWrap (buildF fix ops) ∧ s.dir = 0 ∧
    PgOk s.stopPgno0 ∧ (0 ≤ s.stopSubno0 ∧ s.stopSubno0 ≤ 0xFFFF ∧ s.stopSubno0 ≠ ANY_SUBNO) ∧
    searchNew 0x100 ANY_SUBNO 2 = some s ∧ (buildF fix ops).nCached ≠ 0 :=
  ⟨[⟨0x100, 0, 0, []⟩], (searchNew 0x100 ANY_SUBNO 2).getD {}, by decide, noWrapF_of_few fix _ (by decide), by decide,
   ⟨by decide, by decide⟩, ⟨by decide, by decide, by decide⟩, by rfl, by cases fix <;> decide +kernel⟩

/-- **search_exact_first_call_repaired.** (`search_exact_first_call` on the repaired shape of
`_vbi_cache_put_page`, the exclusion of C17-D2 gone)  After EVERY history of page stores the first forward call of a pass
reports SUCCESS if and only if some cached level one page contains the pattern - and then returns the first one in pass
order -, NOT_FOUND if and only if none does and something is cached, CACHE_EMPTY otherwise. -/
theorem search_exact_first_call_repaired (sh : Shape) (exec : Exec) (ops : List PutOp) (hops : ∀ o ∈ ops, o.subno ≤ 0x3F7F)
    (s : SearchSt) (d : Int) (hd : d > 0) (hfresh : s.dir = 0) (hp : PgOk s.stopPgno0)
    (hS : 0 ≤ s.stopSubno0 ∧ s.stopSubno0 ≤ 0xFFFF ∧ (sh.startExact = true ∨ s.stopSubno0 ≠ ANY_SUBNO)) :
    (((searchNext sh exec walkFuel (buildF true ops) s d).res = .ret SEARCH_SUCCESS ↔
      ∃ p sub : Nat, PgOk p ∧ Matches exec (buildF true ops) p sub) ∧
    ((searchNext sh exec walkFuel (buildF true ops) s d).res = .ret SEARCH_NOT_FOUND ↔
      (buildF true ops).nCached ≠ 0 ∧ ∀ p sub : Nat, PgOk p → ¬ Matches exec (buildF true ops) p sub) ∧
    ((searchNext sh exec walkFuel (buildF true ops) s d).res = .ret SEARCH_CACHE_EMPTY ↔ (buildF true ops).nCached = 0)) ∧
    ((searchNext sh exec walkFuel (buildF true ops) s d).res = .ret SEARCH_SUCCESS →
      ∀ q t : Nat, PgOk q → Matches exec (buildF true ops) q t →
        passRank s.stopPgno0 s.stopSubno0 (searchNext sh exec walkFuel (buildF true ops) s d).st.pgPgno
          (searchNext sh exec walkFuel (buildF true ops) s d).st.pgSubno ≤ passRank s.stopPgno0 s.stopSubno0 q t) :=
  ⟨search_exact_first_call true sh exec ops hops (noWrap_repaired ops) s d hd hfresh hp hS,
   fun h => (search_exact_first_success true sh exec ops hops (noWrap_repaired ops) s d hd hfresh hp hS h).2.2⟩

/-- **highlight_real.** The cells `highlight` paints are exactly the cells of the haystack characters
[first + ms, first + me): `layout` lists, per haystack character (row separators included), the cells it occupies. -/
theorem highlight_real (s : SearchSt) (pgno : Nat) (e : Entry) (first ms me : Nat) :
    (highlight s pgno e first ms me).hl = paint ms me (-(first : Int)) (layout e.text) ∧
    (layout e.text).length = (hayFwd e.text (-1) 0).1.length :=
  ⟨highlight_cells s pgno e first ms me, layout_length e.text⟩

/-- **haystack_fits.** Both haystacks stay inside `ucs2_t haystack[25 * 41 + 1]`: at most 23 x 41 characters. -/
theorem haystack_fits (t : Text) (row col : Int) :
    (hayFwd t row col).1.length ≤ 23 * 41 ∧ (hayRev t row col).1.length ≤ 23 * 41 :=
  ⟨hayFwd_length t row col, hayRev_length t row col⟩

/-- **rev_matches_terminate.** The repeated `ure_exec` of `search_page_rev` ends for EVERY matcher and in both source
shapes of the flags: the next exec begins at `pos = (me > pos) ? me : pos + 1` (b5116c9), so an empty match does not
repeat.  No hypothesis on the matcher. -/
theorem rev_matches_terminate (sh : Shape) (exec : Exec) (hay : List Nat) (ne : Bool) :
    revMatches sh exec hay ne (hay.length + 2) 0 0 0 0 ≠ none :=
  revMatches_total sh exec hay ne _ _ _ _ _ (by omega)

example : revMatches Shape.repaired (fun _ _ => some (0, 0)) [1, 2] false 4 0 0 0 0 ≠ none := rev_matches_terminate _ _ _ _

/-- **matcher_exact.** (C17-D1 repaired by 8b7ac93)  The literal matcher the
model runs against the real `ure_exec` in the correspondence (`exactLit`) is the leftmost substring search on the case
folded text: it returns the first offset at which the pattern occurs, `none` exactly when it occurs nowhere.  On the
historical witness it finds "ab" in "aab" at [1, 3) - where the old `ure_exec` (`quirkLit`) found nothing. -/
theorem matcher_exact (cf : Bool) (pat : List Nat) (hne : pat ≠ []) (f : Flags) (text : List Nat) :
    (match exactLit cf pat f text with
     | some (ms, me) => ms < text.length ∧ me = ms + pat.length ∧
         OccursAt (pat.map (foldc cf)) (text.map (foldc cf)) ms ∧
         ∀ j, j < ms → ¬ OccursAt (pat.map (foldc cf)) (text.map (foldc cf)) j
     | none => ∀ j, j < text.length → ¬ OccursAt (pat.map (foldc cf)) (text.map (foldc cf)) j) ∧
    exactLit false [0x61, 0x62] {} [0x61, 0x61, 0x62] = some (1, 3) ∧
    quirkLit false [0x61, 0x62] {} [0x61, 0x61, 0x62] = none :=
  ⟨exactLit_spec cf pat hne f text, by decide, by decide⟩

/-! ## the inputs of the repaired findings, with the correct answers (each is replayed on the C code: corpus/C17) -/

/-- **start_page_visited (C17-D4 repaired by ed2772e).** Only page 102.0 is
cached and it contains "ab".  A backward search created at (102, ANY) starts at (102, 0x3F7E); the walk stays on
page 102, probes (102, 0) as its second position of the FIRST sweep, hands the page to the callback, and
`vbi_search_next (dir = -1)` returns SUCCESS with page 102.0. -/
theorem start_page_visited :
    (cexD4Search.stopPgno1, cexD4Search.stopSubno1) = (0x102, 0x3F7E) ∧
    (walkPositions Shape.current cexD4 0x102 0x3F7E (-1)).take 2 = [(0x102, 0x3F7E, false), (0x102, 0, false)] ∧
    (walk Shape.current logTwo walkFuel cexD4 [] 0x102 0x3F7E (-1)).st.take 1 = [(0x102, 0, false)] ∧
    cexD4Out = (.ret SEARCH_SUCCESS, 0x102, 0) := by
  unfold cexD4Out; rw [searchNext, callbackOf_lin]; decide +kernel

/-- **stats_min_zero_kept (C17-D3 repaired by 5e41e82).** Store page 899 with sub-code 0
(text "ab"), then with sub-code 5: the window is [0, 5], a forward walk from 8FF hands 899.0 and then
899.5 to the callback, and a forward search for "ab" created at (8FF, ANY) returns SUCCESS with page 899.0. -/
theorem stats_min_zero_kept :
    (cexD3.slots 0x899).stat = ⟨2, 0, 5⟩ ∧
    (walk Shape.current logTwo walkFuel cexD3 [] 0x8FF 0 1).st = [(0x899, 0, true), (0x899, 5, true)] ∧
    cexD3Out = (.ret SEARCH_SUCCESS, 0x899, 0) := by
  refine ⟨by decide +kernel, by decide +kernel, ?_⟩
  unfold cexD3Out; rw [searchNext, callbackOf_lin]; decide +kernel

/-- **stats_count_256 (C17-D2 at 256 pages repaired by 5e41e82).** 256 x (page 100
with sub-code 1, then with sub-code 0x100) leaves 256 cached pages of number 100; `n_subpages` is 256 (16 bits wide),
the window is [1, 0x100] and contains the cached sub-page number.  A wrap needs 65536
pages under one page number: `NoWrap`. -/
theorem stats_count_256 :
    (cexD2.slots 0x100).chain.length = 256 ∧ (cexD2.slots 0x100).stat = ⟨256, 1, 0x100⟩ ∧
    inRange (cexD2.stat 0x100) 0x100 = true := by
  decide +kernel

/-- **stats_count_repaired.** The history of `stats_count_256` on the REPAIRED shape of `_vbi_cache_put_page`
(fixes/C10-put-replaces-all-versions.diff): every store with sub-code 0x100 (single-version key) deletes the page stored
with sub-code 1 as well; one page is cached at the end, `n_subpages` is 1, the window is [0x100, 0x100]. -/
theorem stats_count_repaired :
    (cexD2R.slots 0x100).chain.map (·.subno) = [0x100] ∧ (cexD2R.slots 0x100).stat = ⟨1, 0x100, 0x100⟩ ∧
    cexD2R.nCached = 1 := by
  decide +kernel

/-- **current_store_shape.** The store the driver runs against the real code (`putCur`) is one of the two shapes the
theorems cover, the one translate/gen_cache.py read from /repo's cache.c on this run. -/
theorem current_store_shape :
    (∀ c pgno subno func text tag, putCur c pgno subno func text tag =
      putF Zvbi.Gen.Cache.putReplacesAllVersions c pgno subno func text tag) ∧
    (∀ c pgno subno func text tag, putF false c pgno subno func text tag = put c pgno subno func text tag) ∧
    (∀ c pgno subno func text tag, putF true c pgno subno func text tag = putR c pgno subno func text tag) :=
  ⟨fun _ _ _ _ _ _ => rfl, fun _ _ _ _ _ _ => rfl, fun _ _ _ _ _ _ => rfl⟩

/-- **walk_exact_lookup_3f7f (C17-D5 repaired by ce86777).** Hex page 1A2 cached
with sub-codes 0x3F7E and 0x3F7F: the position (1A2, 0x3F7F) is looked up exactly; the walk hands sub-page 0x3F7E and
then sub-page 0x3F7F to the callback. -/
theorem walk_exact_lookup_3f7f :
    (cexD5.slots 0x1A2).chain.map (·.subno) = [0x3F7F, 0x3F7E] ∧
    cexD5Visits = [(0x1A2, 0x3F7E, false), (0x1A2, 0x3F7F, false)] := by
  decide +kernel

/-! ## finding C17-D7 in both source shapes (which one /repo has: `current_shape`) -/

/-- **current_shape.** The source shape translate/gen_search.py read from /repo on this run is one of the two the
model follows - never a half-applied repair (the translator refuses that, and this would not build) -, or a
third one: `Shape.anchored` = `Shape.repaired` + fixes/C17-line-anchors.diff (Props/C17Anchors.lean).  With
`Shape.unrepaired` the counterexample below is the behaviour of /repo (known finding C17-D7); with `Shape.repaired`
it is `turn_on_3f7f_repaired`, and the hypothesis `S != VBI_ANY_SUBNO` of the search_exact theorems is void. -/
theorem current_shape : Shape.current = Shape.unrepaired ∨ Shape.current = Shape.repaired ∨ Shape.current = Shape.anchored := by
  decide

/-- **turn_on_3f7f_counterexample (C17-D7, UNREPAIRED shape only).** "Each once per pass, in order" fails for a pass
that starts at a page whose sub-code is 0x3F7F.  (a) Hex page 11F is cached with sub-codes 0 and 0x3F7F, both contain
"ab" (the matcher finds it at [85, 87) of 11F.0).  A backward search created at (120, ANY) has returned 11F.3F7F;
`cexD7Turn` is the search context at that point.  Turning forward, `vbi_search_next` reads `start_subno == 0x3F7F` as
VBI_ANY_SUBNO and sets the forward stop position to (11F, 0); the pass reports NOT_FOUND without searching 11F.0.
(b) Page 80A cached with sub-codes 0x3F7F and 2, the latter most recently used: a backward walk from (80A, 0x3F7F) is
handed 80A.2 first (`_vbi_cache_get_page` takes 0x3F7F for the wildcard).  Repair: fixes/C17-turn-3f7f.diff. -/
theorem turn_on_3f7f_counterexample :
    ((prepare Shape.unrepaired cexD7Turn 1).stopPgno0, (prepare Shape.unrepaired cexD7Turn 1).stopSubno0) = (0x11F, 0) ∧
    ((lookupX cexD7 0x11F 0).map (·.text)) = some abPage ∧
    exAb {} (hayFwd abPage (-1) 0).1 = some (85, 87) ∧
    (searchNext Shape.unrepaired exAb walkFuel cexD7 cexD7Turn 1).res = .ret SEARCH_NOT_FOUND ∧
    (cexD7b.slots 0x80A).chain.map (·.subno) = [2, 0x3F7F] ∧
    (walk Shape.unrepaired logTwo walkFuel cexD7b [] 0x80A 0x3F7F (-1)).st.take 1 = [(0x80A, 2, false)] := by
  rw [hayFwd_eq, searchNext, callbackOf_lin]; decide +kernel

/-- **turn_on_3f7f_repaired (C17-D7, REPAIRED shape).** In general: a direction change keeps the page returned last,
with its sub-page number whatever it is, as the stop position of both directions, and the walk starts at exactly the
position it is given.  On the witnesses: (a) the forward stop position after the turn on 11F.3F7F is (11F, 0x3F7F); the
walk hands 11F.3F7F and then (wrapped) 11F.0 to the callback; 11F.0 does not stop the pass (it does in the unrepaired
shape) and `vbi_search_next (+1)` returns SUCCESS with page 11F.0; (b) the backward walk from (80A, 0x3F7F) is handed
80A.3F7F, then 80A.2. -/
theorem turn_on_3f7f_repaired :
    (∀ (sh : Shape) (s : SearchSt) (d : Int), sh.turnKeeps = true → s.dir ≠ 0 → dirOf d ≠ s.dir →
      (prepare sh s d).stopPgno0 = s.startPgno ∧ (prepare sh s d).stopSubno0 = s.startSubno ∧
      (prepare sh s d).stopPgno1 = s.startPgno ∧ (prepare sh s d).stopSubno1 = s.startSubno) ∧
    (∀ (sh : Shape) (c : Cache) (p sub dir : Int), sh.startExact = true →
      (walkPositions sh c p sub dir).head? = some (p, sub, false)) ∧
    ((prepare Shape.repaired cexD7Turn 1).stopPgno0, (prepare Shape.repaired cexD7Turn 1).stopSubno0) = (0x11F, 0x3F7F) ∧
    (walk Shape.repaired logTwo walkFuel cexD7 [] 0x11F 0x3F7F 1).st = [(0x11F, 0x3F7F, false), (0x11F, 0, true)] ∧
    ((lookupX cexD7 0x11F 0).map (fun e => stopFwd (prepare Shape.repaired cexD7Turn 1) 0x11F e true)) = some false ∧
    ((lookupX cexD7 0x11F 0).map (fun e => stopFwd (prepare Shape.unrepaired cexD7Turn 1) 0x11F e true)) = some true ∧
    (walk Shape.repaired logTwo walkFuel cexD7b [] 0x80A 0x3F7F (-1)).st = [(0x80A, 0x3F7F, false), (0x80A, 2, false)] ∧
    ((searchNext Shape.repaired exAb walkFuel cexD7 cexD7Turn 1).res = .ret SEARCH_SUCCESS ∧
     (searchNext Shape.repaired exAb walkFuel cexD7 cexD7Turn 1).st.pgPgno = 0x11F ∧
     (searchNext Shape.repaired exAb walkFuel cexD7 cexD7Turn 1).st.pgSubno = 0) := by
  -- (b) through the refinement: between 80A.3F7F and 80A.2 the walk probes 16252 positions at which nothing is cached
  have hb : (walk Shape.repaired logTwo walkFuel cexD7b [] 0x80A 0x3F7F (-1)).st =
      [(0x80A, 0x3F7F, false), (0x80A, 2, false)] := by
    rw [(walk_factors Shape.repaired logTwo cexD7b [] 0x80A 0x3F7F (-1) (by decide +kernel) ⟨by decide, by decide⟩
      (by decide)).2]
    unfold walkRun
    rw [startSub_repaired _ rfl]
    have hidle := fun s => runPos_idle_bwd logTwo cexD7b 0x80A false (walkFuel - 16252) s 16252 0x3F7F
      (by decide +kernel) (by decide +kernel) (by decide +kernel) (by decide +kernel)
    rw [show walkFuel - 16252 + 16252 = walkFuel from rfl] at hidle
    simp only [hidle]
    decide +kernel
  rw [searchNext, callbackOf_lin]
  -- the three facts about the one search are decided together: the kernel runs the search once
  refine ⟨?_, ?_, by decide +kernel, by decide +kernel, by decide +kernel, by decide +kernel, hb, by decide +kernel⟩
  · intro sh s d hk h0 hd
    unfold prepare
    simp [h0, hd, hk]
  · intro sh c p sub dir hse
    unfold walkPositions; rw [startSub_repaired sh hse]; rfl

end Zvbi.Props.C17
