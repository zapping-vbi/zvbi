import ZvbiModel.Ttx.X28Refuse
import ZvbiModel.Props.C03
/-!
# C03 - packets X/28 and M/29 with an uncorrectable protected unit change nothing

`parse_28_29` protects its payload with Hamming 8/4 (designation) and Hamming 24/18 (13 triplets).  The
formats X/28/0, X/28/4, M/29/0, M/29/4 (character sets, side panels, 16 CLUT entries, default screen / row
colour, CLUT remapping), X/28/1, M/29/1 (DRCS CLUT) and X/28/3 (DRCS download modes) read a bit stream laid
over the triplets, so one uncorrectable triplet shifts nothing but poisons whatever is read from it: the
C code decodes ALL 13 triplets first (`err |= triplets[i] = vbi_unham24p (p)`) and returns before the
first write when `err < 0`.  The theorems state that consequence for the whole step: a packet of one of these
formats with ANY uncorrectable unit (designation byte, or any of the 13 triplets - including triplets the
format does not consume) is the packet that was never received.

This is the statement the seeded change C03-g breaks (a validation helper that skips the last used
triplet); on the C code it is judged by the twin cases `unit2` of checks/C03.py (double error in unit k
vs. the packet removed, for every unit k).
-/
namespace Zvbi.Props.C03Unit
open Zvbi.Ttx Zvbi.Ttx.Spec Zvbi.Hamm Zvbi.Gen

/-- X/28/0 for magazine 1: character sets 5 / 6, CLUT entries 0x123.., screen colour 7, row colour 9 -/
def x28Good : Packet :=
  [0x02, 0xfd, 0x15, 0x8a, 0xa8, 0xb0, 0x08, 0xc0, 0x11, 0x8d, 0xa4, 0x22, 0x4e, 0x04, 0x93, 0x84, 0x27, 0x02, 0xdb,
   0xc4, 0x14, 0x0f, 0x2a, 0xe2, 0x52, 0x04, 0x16, 0x85, 0xad, 0xc2, 0xdf, 0xc4, 0x97, 0x87, 0xb0, 0x22, 0x69, 0x04,
   0x99, 0x8f, 0xa7, 0xba]

/-- the same packet with two bit errors inside its LAST triplet (bytes 39, 40) and none elsewhere -/
def x28Bad : Packet := (x28Good.set 39 0x8e).set 40 0xaf

/-- M/29/4 for magazine 1 with two bit errors in the FIRST triplet (byte 3) -/
def m29Bad : Packet :=
  [0xc7, 0xfd, 0x64, 0xc8, 0xa8, 0xb0, 0x08, 0xc0, 0x11, 0x8d, 0xa4, 0x22, 0x4e, 0x04, 0x93, 0x84, 0x27, 0x02, 0xdb,
   0xc4, 0x14, 0x0f, 0x2a, 0xe2, 0x52, 0x04, 0x16, 0x85, 0xad, 0xc2, 0xdf, 0xc4, 0x97, 0x87, 0xb0, 0x22, 0x69, 0x04,
   0x99, 0x8f, 0xa7, 0xba]

/-- a header of page 100 (magazine 1), so that the slot holds a Level one page -/
def hdr100 : Packet := [0x02, 0x15, 0x15, 0x15, 0x15, 0x15, 0x15, 0x15, 0x15, 0x15] ++ List.replicate 32 0x20

/-- **An X/28 or M/29 packet with an uncorrectable triplet is the packet that was not received.**
    Any decoder state `s` (handler registered or not, any page function in the slot), any packet (any 42
    bytes) whose address decodes to packet 28 or 29 of some magazine and whose designation byte decodes to
    one of the formats that read the triplets (`X28UsesTriplets`: X/28/0, X/28/4, M/29/0, M/29/4, X/28/1,
    M/29/1, X/28/3 - every format of `parse_28_29` that writes anything), any triplet position `j` of the 13:
    if triplet `j` is uncorrectable (`vbi_unham24p < 0`, two bit errors), then `vbi_decode_teletext` leaves
    the decoder state as it was and sends no event, and the whole step through `vbi_decode` is the step of a
    frame without this line (`frameTick`).  No character set, panel width, CLUT entry, screen / row colour,
    DRCS CLUT entry, DRCS mode, `x28_designations` bit or page function is written.  For designation 1 the
    statement needs repair F25 (`ttxFixF25`, regenerated from packet.c; `rfl` on the current tree): the code
    as found used the triplets of X/28/1, M/29/1 without looking at `err`. -/
theorem uncorrectable_unit_packet_refused (s : St) (p : Packet) (pmag d j : Nat)
    (ha : a16 p 0 = some pmag) (hp : pmag >>> 3 = 28 ∨ pmag >>> 3 = 29)
    (hd : a8 p 2 = some d) (hfmt : X28UsesTriplets (pmag >>> 3) d) (h25 : ttxFixF25 = true ∨ d ≠ 1)
    (hj : j < 13) (hbad : a24 p (3 + 3 * j) = none) :
    (decodeTeletext s p).st = s ∧ (decodeTeletext s p).ev = [] ∧
    (s.mask = true → ¬ (pmag >>> 3 = 28 ∧ (s.rp (pmag &&& 7)).page.function = FN_DISCARD) →
       (decodeTeletext s p).ret = false) ∧
    step s p = frameTick s := by
  have key := decode_2829_nop p pmag false ha hp fun fn => x28Decide_bad_triplet fn (pmag >>> 3) d p j hd hfmt h25 hj hbad
  obtain ⟨ret, e, hr⟩ := key s
  rw [e]
  exact ⟨rfl, rfl, hr, step_of_ignored p (fun s => (key s).imp fun _ h => h.1) s⟩

/-- non-vacuity: the hypotheses are met by an X/28/0 packet damaged in its last triplet only (the shape of
    seeded change C03-g) and by an M/29/4 packet damaged in its first triplet; the flag of repair F25 is on in
    the current tree -/
example : a16 x28Bad 0 = some (1 + 28 * 8) ∧ a8 x28Bad 2 = some 0 ∧ a24 x28Bad (3 + 3 * 12) = none ∧
    (∀ j, j < 12 → (a24 x28Bad (3 + 3 * j)).isSome = true) ∧ X28UsesTriplets 28 0 ∧
    a16 m29Bad 0 = some (1 + 29 * 8) ∧ a8 m29Bad 2 = some 4 ∧ a24 m29Bad (3 + 3 * 0) = none ∧
    X28UsesTriplets 29 4 ∧ ttxFixF25 = true := by
  decide +kernel

/-- ... and the statement is about something: on a decoder that holds page 100 the intact packet does change the
    state (it installs the extension and marks designation 0), the damaged one does not. -/
example :
    let s := (run (init.enable true) [hdr100]).1
    ((decodeTeletext s x28Good).st.rp 1).page.x28 = 1 ∧
    ((decodeTeletext s x28Good).st.rp 1).page.ext.defScreen = 7 ∧
    ((decodeTeletext s x28Good).st.rp 1).page.ext.defRow = 9 ∧
    (s.rp 1).page.x28 = 0 ∧ (s.rp 1).page.function = FN_LOP ∧
    ((decodeTeletext s x28Bad).st.rp 1).page.x28 = 0 := by
  decide +kernel

/-- **The designation byte.**  A packet 28 / 29 whose designation byte is uncorrectable is refused whatever
    follows: same state, no event, the step is the step of a frame without this line. -/
theorem uncorrectable_designation_packet_refused (s : St) (p : Packet) (pmag : Nat)
    (ha : a16 p 0 = some pmag) (hp : pmag >>> 3 = 28 ∨ pmag >>> 3 = 29) (hd : a8 p 2 = none) :
    (decodeTeletext s p).st = s ∧ (decodeTeletext s p).ev = [] ∧ step s p = frameTick s := by
  have key := decode_2829_nop p pmag false ha hp fun fn => x28Decide_bad_designation fn (pmag >>> 3) p hd
  obtain ⟨ret, e, _⟩ := key s
  rw [e]
  exact ⟨rfl, rfl, step_of_ignored p (fun s => (key s).imp fun _ h => h.1) s⟩

example : a16 (x28Good.set 2 0x16) 0 = some (1 + 28 * 8) ∧ a8 (x28Good.set 2 0x16) 2 = none := by decide +kernel

/-- **Formats `parse_28_29` does not implement** (designation 2, 5 .. 15, M/29/3): the packet has no effect
    at all, whatever its triplets are - so an error in them cannot show either. -/
theorem unused_format_packet_ignored (s : St) (p : Packet) (pmag d : Nat)
    (ha : a16 p 0 = some pmag) (hp : pmag >>> 3 = 28 ∨ pmag >>> 3 = 29)
    (hd : a8 p 2 = some d) (hfmt : ¬ X28UsesTriplets (pmag >>> 3) d) :
    (decodeTeletext s p).st = s ∧ (decodeTeletext s p).ev = [] ∧ step s p = frameTick s := by
  have key := decode_2829_nop p pmag true ha hp fun fn => x28Decide_unused_format fn (pmag >>> 3) d p hd hfmt hp
  obtain ⟨ret, e, _⟩ := key s
  rw [e]
  exact ⟨rfl, rfl, step_of_ignored p (fun s => (key s).imp fun _ h => h.1) s⟩

example : a8 (x28Good.set 2 0x49) 2 = some 2 ∧ ¬ X28UsesTriplets 28 2 ∧ ¬ X28UsesTriplets 29 3 ∧
    X28UsesTriplets 28 3 := by decide +kernel

end Zvbi.Props.C03Unit
