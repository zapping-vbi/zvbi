import ZvbiModel.Mux.LemmasStream
/-!
# C06 - DVB VBI multiplexer output is standard-conformant and demultiplexes to its input

Property theorems only.  Model: `Mux/Model.lean` (src/dvb_mux.c); reader written from the
standards: `Mux/Spec.lean` (`EnParse`); helper lemmas: `Mux/Lemmas*.lean`, `Mux/NullFeed.lean`.

Scope of the theorems: sliced services (Teletext B, VPS, WSS 625, Caption 625) through
`vbi_dvb_multiplex_sliced`'s core and `vbi_dvb_mux_feed`, PES and TS mode, every
configuration reachable through the API, every history of accepted and rejected frames.
Frames are `vbi_sliced` arrays (`Sliced.WF`: 32-bit id/line, 56 data bytes) without raw
line requests (`VBI_SLICED_VBI_625`; `raw == NULL`).  The coroutine `vbi_dvb_mux_cor`
and the round trip through the library's own demultiplexer are in `Props/C06Join.lean`, frames with
raw lines (and the statements below without the `NoRaw` hypothesis) in `Props/C06Raw.lean`.
-/
namespace Zvbi.Props.C06
open Zvbi.Mux Zvbi.Mux.EnParse

/-- `encode_stuffing` always completes the packet: for every region of data units `us`, every
    `p_left` and both formats (under the documented preconditions: a multiple of 46 in the
    fixed-length format; a preceding data unit of at most 256 bytes when one single byte is left)
    it succeeds, writes exactly `p_left` bytes, and the region then reads as the old units - the
    last one extended by one stuffing byte in the 1-byte case - followed by legal stuffing units
    (this covers the 257 k + 1 case `FF FE .. | FF 00`). -/
theorem stuffing_completes (us : List DataUnit) (pLeft : Nat) (fixed : Bool)
    (hfix : fixed = true → pLeft % 46 = 0)
    (hone : fixed = false → pLeft = 1 → us ≠ [] ∧ lastSize us ≤ 256) :
    ∃ out us₁ st, encodeStuffing (encUnits us) pLeft (lastSize us) fixed = .ok out
      ∧ out.length = (encUnits us).length + pLeft
      ∧ parseUnits out = some (us₁ ++ st)
      ∧ (us₁ = us ∨ (pLeft = 1 ∧ us₁ = padLast us))
      ∧ ∀ u ∈ st, IsStuffing fixed u := by
  obtain ⟨us₁, st, h1, S⟩ := encodeStuffing_spec us pLeft fixed hfix hone
  exact ⟨_, us₁, st, h1, S.len, parseUnits_encUnits _, S.pad.imp_right fun h => ⟨h.1, h.2.1⟩, S.stuffing⟩

example : (encodeStuffing [0xC4, 3, 0xF7, 1, 3] 1 5 false).toOption = some [0xC4, 4, 0xF7, 1, 3, 0xFF] := by decide
example : (encodeStuffing [] 258 0 false).toOption.map (fun b => (b.take 3, b.drop 255)) =
    some ([0xFF, 254, 0xFF], [0xFF, 0xFF, 0]) := by decide +kernel

/-- Every configuration reachable through the API keeps the packet size bounds multiples of 184
    within 184..65504 and a legal data_identifier. -/
theorem config_invariant (ops : List Op) (m : Mux) (h : CfgOK m.cfg) : CfgOK (run m ops).1.cfg := by
  induction ops generalizing m with
  | nil => exact h
  | cons op ops ih => exact ih _ ((step_cfg m op).1 h)

/-- An accepted frame (PES mode) is handed to the callback as exactly one packet which the
    independent reader accepts: start code, stream_id, length field = size - 6, 45-byte header with
    PTS, data_identifier, data units that fill the packet exactly, legal stuffing; the total size is
    a multiple of 184 within the configured bounds. -/
theorem mux_wellformed (m : Mux) (hc : CfgOK m.cfg) (hp : m.cfg.pid = 0) (lines : List Sliced) (mask pts : Nat)
    (hwf : ∀ s ∈ lines, Sliced.WF s) (hnr : NoRaw lines) (hok : (feed m lines mask pts 0).2.ok = true) :
    ∃ pes p, (feed m lines mask pts 0).2.calls = [some pes] ∧ parsePes pes = some p
      ∧ p.size = pes.length ∧ pes.length % 184 = 0 ∧ m.cfg.minSize ≤ pes.length ∧ pes.length ≤ m.cfg.maxSize := by
  obtain ⟨pes, hg, hpes, _⟩ := feed_accepted m lines mask pts hok
  obtain ⟨h1, h2, h3, h4, _⟩ := generatePes_ok m.cfg hc lines mask pts hwf hnr pes hg
  exact ⟨pes, _, (hpes hp).1, h1, rfl, h2, h3, h4⟩

/-- The packet of an accepted frame carries exactly the lines selected by the service mask, in
    order, with their line numbers, services and payload bits (Teletext, WSS and Caption bytes
    bit-reversed into transmission order and back, VPS as is), the PTS modulo 2^33 and the
    configured data_identifier; and every selected line was a permitted service/line combination. -/
theorem mux_carries_input (m : Mux) (hc : CfgOK m.cfg) (lines : List Sliced) (mask pts : Nat)
    (hwf : ∀ s ∈ lines, Sliced.WF s) (hnr : NoRaw lines) (hok : (feed m lines mask pts 0).2.ok = true) :
    ∃ pes p, generatePes m.cfg lines mask pts = .ok (pes, []) ∧ parsePes pes = some p
      ∧ p.lines = sent mask lines ∧ p.pts = pts % 2 ^ 33 ∧ p.dataId = m.cfg.dataId
      ∧ (∀ s ∈ lines, s.id &&& mask ≠ 0 → Permitted s)
      ∧ (m.cfg.pid = 0 → FeedOut.allBytes (feed m lines mask pts 0).2 = pes)
      ∧ (m.cfg.pid ≠ 0 → FeedOut.allBytes (feed m lines mask pts 0).2 = (tsPackets m.cfg.pid m.cc pes).flatten) := by
  obtain ⟨pes, hg, hpes, hts⟩ := feed_accepted m lines mask pts hok
  obtain ⟨h1, _, _, _, h5⟩ := generatePes_ok m.cfg hc lines mask pts hwf hnr pes hg
  refine ⟨pes, _, hg, h1, rfl, rfl, rfl, h5, ?_, ?_⟩
  · intro hp; simp [FeedOut.allBytes, (hpes hp).1]
  · intro hp; simp only [FeedOut.allBytes, (hts hp).1, filterMap_id_map_some]

/-- A frame the multiplexer rejects (line order, service, line number, size) causes no callback
    and no output, and the multiplexer answers every later frame exactly as if the rejected frame
    had never been fed. -/
theorem mux_rejects_atomically (m : Mux) (lines : List Sliced) (mask pts : Nat)
    (hrej : (feed m lines mask pts 0).2.ok = false) :
    (feed m lines mask pts 0).2.calls = [] ∧ FeedOut.allBytes (feed m lines mask pts 0).2 = []
      ∧ ∀ lines' mask' pts' k, feed (feed m lines mask pts 0).1 lines' mask' pts' k = feed m lines' mask' pts' k := by
  obtain ⟨h1, h2⟩ := feed_rejected m lines mask pts hrej
  refine ⟨h1, by simp [FeedOut.allBytes, h1], ?_⟩
  intro lines' mask' pts' k
  rw [h2, feed_dropPending]

/-- The TS packets of one PES packet: 188 bytes each, sync byte, the PID, payload_unit_start on the
    first packet only, payload only, continuity counters consecutive modulo 16 starting at the
    multiplexer's counter; their payloads are the PES packet. -/
theorem ts_packets_of_pes (pid : Nat) (hpid : pid < 0x2000) (n cc c : Nat) (pes rest : Bytes)
    (hl : pes.length = 184 * n) (hc : c % 16 = cc % 16) :
    tsGroup pid n true c ((tsLoop pid n true cc pes).flatten ++ rest) = some (pes, rest) :=
  tsGroup_tsLoop pid hpid n true cc c pes rest hl hc

/-- TS mode, every history of frames (accepted or rejected) and configuration changes from
    `vbi_dvb_ts_mux_new (pid)`: the concatenated output is a TS stream of that PID whose continuity
    counter runs consecutively from 0 through the whole history and ends at the multiplexer's
    counter, with payload_unit_start exactly where a PES packet begins; it carries one well-formed
    PES packet per accepted frame, in order, with that frame's PTS, data_identifier and lines. -/
theorem ts_continuity (pid : Nat) (m : Mux) (hnew : newTs pid = some m) (ops : List Op) (hops : ∀ op ∈ ops, Op.OK op) :
    ∃ ps, tsStream pid 0 (run m ops).2.1 = some (ps, (run m ops).1.cc % 16)
      ∧ ps.map Pes.content = (run m ops).2.2 := by
  have hcfg := cfgOK_newTs pid m hnew
  obtain ⟨rfl, _, _⟩ := newTs_some pid m hnew
  exact ts_history ops hops _ hcfg (by show pid ≠ 0; omega) (by show pid < 0x2000; omega) 0 rfl

/-- Round trip against the independent reader, PES mode, every history from
    `vbi_dvb_pes_mux_new ()`: reading the concatenated output yields exactly the accepted frames,
    in order, each as one packet with its PTS (mod 2^33), data_identifier and selected lines;
    rejected frames leave no trace. -/
theorem mux_demux_roundtrip (ops : List Op) (hops : ∀ op ∈ ops, Op.OK op) :
    ∃ ps, pesStream (run newPes ops).2.1 = some ps ∧ ps.map Pes.content = (run newPes ops).2.2 :=
  pes_history ops hops newPes cfgOK_default rfl

/-- the same for a multiplexer in any reachable configuration (after any earlier history) -/
theorem mux_demux_roundtrip_from (m : Mux) (hc : CfgOK m.cfg) (hp : m.cfg.pid = 0) (ops : List Op)
    (hops : ∀ op ∈ ops, Op.OK op) :
    ∃ ps, pesStream (run m ops).2.1 = some ps ∧ ps.map Pes.content = (run m ops).2.2 :=
  pes_history ops hops m hc hp

/-! non-vacuity: frames are accepted and rejected, and the statements above speak about real bytes -/
def exLine (id line : Nat) : Sliced := ⟨id, line, List.replicate 56 0x15⟩
example : (feed newPes [exLine 3 7, exLine 4 16, exLine 0x400 23] 0xFFFFFFFF 5 0).2.ok = true := by decide +kernel
example : (feed newPes [exLine 3 8, exLine 3 7] 0xFFFFFFFF 5 0).2.ok = false := by decide +kernel
example : (feed newPes [exLine 4 17] 0xFFFFFFFF 5 0).2.ok = false := by decide +kernel
example : ((run newPes [.frame [exLine 3 7] 0xFFFFFFFF (2 ^ 33 + 9), .frame [exLine 3 6] 3 1, .dataId 0x99,
    .frame [exLine 0x18 21] 0xFFFFFFFF 2]).2.2.map (fun s => (s.pts, s.dataId, s.lines.length)))
    = [(9, 0x10, 1), (2, 0x99, 1)] := by decide +kernel
example : ((newTs 0x123).map fun m => (run m [.frame [exLine 3 7] 0xFFFFFFFF 1, .frame [exLine 3 7] 0xFFFFFFFF 2]).1.cc)
    = some 2 := by decide +kernel
example : Op.OK (.frame [exLine 3 7] 0xFFFFFFFF 1) := by decide

end Zvbi.Props.C06
