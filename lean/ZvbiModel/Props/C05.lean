import ZvbiModel.Slicer.Model
import ZvbiModel.Slicer.Spec
import ZvbiModel.Slicer.Lemmas
import ZvbiModel.Slicer.LemmasLegacy
import ZvbiModel.Slicer.LemmasDecode
import ZvbiModel.Slicer.LemmasRows
/-!
# C05 - raw decoding never touches memory outside the raw image or the output array

Property theorems only; the model is `Slicer/Model.lean`, helper lemmas are in `Slicer/Lemmas*.lean`.

`setParams tight p` is `vbi3_bit_slicer_set_params`, `legacyInit tight p` is `vbi_bit_slicer_init`:
`tight = false` is the arithmetic of zvbi 0.2.x as released, `tight = true` the arithmetic with
`fixes/slicer-lookahead.diff`.  Which one /repo contains is `Generated.ServiceTable.slicerTight /
legacyTight` (checked numerically by the correspondence ops on every run).  For the released
arithmetic the full-strength statements are FALSE (`*_counterexample`, replayed on the C code by
`corpus/C05/*.ops`) and are kept as `*_partial` with the slack hypothesis; for the repaired
arithmetic they are proved at full strength.

An image enters only through `Outcome` (CRI never found / found in iteration k with FRC mismatch /
found in iteration k): quantifying over all admissible outcomes covers all image contents.
-/
namespace Zvbi.Props.C05
open Zvbi.Slicer Zvbi.Generated.ServiceTable

/-! ## one line through `vbi3_bit_slicer_slice` -/

/-- The CRI search itself (and the start-up window of the low-pass slicer) never reads outside the line -
    for the released and for the repaired search limit, every accepted parameter set, every image. -/
theorem cri_loop_reads_in_line (tight : Bool) (p : Params) (c : Cfg) (h : setParams tight p = .ok c) (hs : p.Sane) :
    ∀ x ∈ sliceReads c .noCri, x < p.spl * c.bpp := by
  obtain ⟨c0, h0, hc, hle⟩ := setParams_ok h
  have hk : c.kind = c0.kind := by rw [hc]
  have hf := orig_facts h0 hs
  have hd := dataBits_pos hs
  have hg := geom_accepted h hs.fmt hs.bpp
  apply searchReads_lt hg (width_pos hg hs.fmt)
  · rw [hk]
    cases hkk : c0.kind <;> simp only [Kind.window]
    · have := hf.criSamples_le; have := hf.ds_ge; omega
    · have := hf.criSamples_le; have := hf.ds_lp hkk; omega
  · intro hl
    have := hf.ds_lp (hk ▸ hl); have := hf.fit; omega

example : ∃ c, setParams false Spec.teletextB_13_5 = .ok c ∧ c.criSamples = 55 := ⟨_, rfl, rfl⟩

/-- FULL STRENGTH, repaired limit: whatever the image, wherever the CRI is recognised, with or without FRC
    match, for the template slicers and the low-pass slicer alike, every byte read lies inside the
    `samples_per_line` pixels of the line.  No hypothesis on the caller beyond a known pixel format. -/
theorem payload_reads_in_line (p : Params) (c : Cfg) (h : setParams true p = .ok c) (hf : p.fmt.WF) (hb : p.fmt.bpp ≤ 4)
    (oc : Outcome) (hoc : oc.admissible c) : ∀ x ∈ sliceReads c oc, x < p.spl * c.bpp := by
  have hg := geom_accepted h hf hb
  obtain ⟨c0, _, hcs, hla⟩ := tight_ok h
  exact sliceReads_lt hg (width_pos hg hf) (by omega) hla oc hoc

example : (setParams true Spec.teletextB_13_5).toOption = some { Spec.teletextB_13_5_cfg with criSamples := 54 } ∧
    Outcome.admissible { Spec.teletextB_13_5_cfg with criSamples := 54 } (.found 53) := by decide +kernel

/-- The same in the closed form of DESIGN.md: the last byte of the interpolation neighbour of the last payload
    bit, for the search stopped at any admitted position `k`. -/
theorem payload_last_index_in_line (p : Params) (c : Cfg) (h : setParams true p = .ok c) (hf : p.fmt.WF) (hb : p.fmt.bpp ≤ 4)
    (hk : c.kind = .core) (k : Nat) (hkc : k < c.criSamples) :
    c.skip + (k + (c.phaseShift + (p.frcBits + p.payloadBits - 1) * c.step) / 256 + 1) * c.bpp + c.width - 1
      < p.spl * c.bpp := by
  have hg := geom_accepted h hf hb
  have hw := width_pos hg hf
  obtain ⟨c0, _, hcs, hroom⟩ := tight_ok h
  rw [hk, nBits_accepted h] at hroom hcs
  unfold lookAhead lastBitSample at hroom hcs
  simp only at hroom hcs
  have := pix_lt hg (m := k + (c.phaseShift + (p.frcBits + p.payloadBits - 1) * c.step) / 256 + 1) (j := c.width - 1)
    (by omega) (by omega)
  omega

/-- The low-pass variant in closed form: the last sample of the 16 sample window of the last payload bit. -/
theorem lowpass_last_index_in_line (p : Params) (c : Cfg) (h : setParams true p = .ok c) (hf : p.fmt.WF) (hb : p.fmt.bpp ≤ 4)
    (hk : c.kind = .lowpass) (k : Nat) (hkc : k < c.criSamples) :
    c.skip + (k + 1 + (c.phaseShift + (p.frcBits + p.payloadBits - 1) * c.step) / 256 + 15) * c.bpp < p.spl * c.bpp := by
  have hg := geom_accepted h hf hb
  obtain ⟨c0, _, hcs, hroom⟩ := tight_ok h
  rw [hk, nBits_accepted h] at hroom hcs
  unfold lookAhead lastBitSample at hroom hcs
  simp only at hroom hcs
  have := pix_lt hg (m := k + 1 + (c.phaseShift + (p.frcBits + p.payloadBits - 1) * c.step) / 256 + 15) (j := 0)
    (by omega) (width_pos hg hf)
  omega

/-- Released limit, PARTIAL: the statement of `payload_reads_in_line` under the slack hypothesis that the
    look-ahead of the payload loop is covered by the `data_samples` the search limit leaves.
    Without the hypothesis the statement is false: `payload_reads_in_line_counterexample`. -/
theorem payload_reads_in_line_partial (p : Params) (c : Cfg) (h : setParams false p = .ok c) (hs : p.Sane)
    (hslack : lookAhead c.kind c.phaseShift c.step c.nBits ≤ dataSamples p)
    (oc : Outcome) (hoc : oc.admissible c) : ∀ x ∈ sliceReads c oc, x < p.spl * c.bpp := by
  have h0 := setParams_false.1 h
  have hg := geom_accepted h hs.fmt hs.bpp
  have hfa := orig_facts h0 hs
  apply sliceReads_lt hg (width_pos hg hs.fmt) _ _ oc hoc
  · have := hfa.criSamples_le; omega
  · have := hfa.fit; have := hfa.cs0_pos; omega

example : ∃ c, setParams false Spec.caption525_13_5 = .ok c ∧
    lookAhead c.kind c.phaseShift c.step c.nBits ≤ dataSamples Spec.caption525_13_5 := ⟨_, rfl, by decide⟩

/-- The full-strength statement for the released limit, kept visible; it is refuted below. -/
def payload_reads_in_line_released_full : Prop :=
  ∀ (p : Params) (c : Cfg), setParams false p = .ok c → p.Sane →
    ∀ oc : Outcome, oc.admissible c → ∀ x ∈ sliceReads c oc, x < p.spl * c.bpp

/-- F7: Teletext B at 13.5 MHz with 720 samples per line (Y8).  The released `set_params` accepts, admits the CRI
    in search iteration 54, and the interpolation neighbour of the last payload bit is then read at byte 720 =
    `samples_per_line * bpp`.  Replayed on the C code by corpus/C05/F7-teletext-b-13_5MHz.ops (ASan:
    heap-buffer-overflow READ 1, bit_slicer.c:284, 0 bytes right of the 720 byte line). -/
theorem payload_reads_in_line_counterexample : ¬ payload_reads_in_line_released_full := by
  intro hfull
  have h := hfull Spec.teletextB_13_5 _ (rfl : setParams false Spec.teletextB_13_5 = .ok Spec.teletextB_13_5_cfg)
    Spec.teletextB_13_5_sane (.found 54) (by decide) 720 (by decide +kernel)
  exact absurd h (by decide)

/-- F7, low-pass slicer: Closed Caption 525 at 27 MHz with 1440 samples per line selects
    `low_pass_bit_slicer_Y8`; with the CRI found in the last admitted iteration (581) the 16 sample window of the
    last payload bit reaches byte 1442.  Replayed by corpus/C05/F7-caption-525-27MHz-lowpass.ops. -/
theorem lowpass_reads_in_line_counterexample : ¬ payload_reads_in_line_released_full := by
  intro hfull
  have h := hfull Spec.caption525_27 _ (rfl : setParams false Spec.caption525_27 = .ok Spec.caption525_27_cfg)
    Spec.caption525_27_sane (.found 581) (by decide) 1442 (by decide +kernel)
  exact absurd h (by decide)

/-- Under the caller obligations the search always has at least one position (so the `0 == --i` loop of the
    low-pass slicer cannot wrap), for both limits when the repaired one accepts. -/
theorem search_nonempty (tight : Bool) (p : Params) (c : Cfg) (h : setParams tight p = .ok c) (hs : p.Sane) :
    0 < c.criSamples := by
  cases tight with
  | false => exact (orig_facts (setParams_false.1 h) hs).criSamples_pos
  | true =>
    obtain ⟨c0, h0, hcs, hla⟩ := tight_ok h
    have := (orig_facts h0 hs).criSamples_pos
    omega

/-! ## the legacy slicer of decoder.c -/

/-- FULL STRENGTH, repaired `vbi_bit_slicer_init`: every byte `vbi_bit_slice` reads lies inside the
    `raw_samples` pixels of the line - any image, any parameters (the repaired limit also clamps at zero, so
    even `raw_samples` too small for the payload is safe). -/
theorem legacy_reads_in_line (p : LParams) (hs : p.Sane) (oc : Outcome) (hoc : oc.ladmissible (legacyInit true p)) :
    ∀ x ∈ lsliceReads (legacyInit true p) oc, x < p.rawSamples * p.fmt.stride :=
  lsliceReads_lt (c := legacyInit true p) hs.fmt (legacy_tight_room p hs.raw) oc hoc

example : Outcome.ladmissible (legacyInit true Spec.legacyTeletextB_13_5) (.found 53) := by decide

/-- Released `vbi_bit_slicer_init`, PARTIAL: holds when the caller supplies enough samples for FRC + payload
    (there is no failure path) and the look-ahead is covered by `data_samples`. -/
theorem legacy_reads_in_line_partial (p : LParams) (hs : p.Sane)
    (hds : p.rate * (p.payloadBits + p.frcBits) / p.bitRate ≤ p.rawSamples)
    (hslack : lastBitSample (legacyInit false p).phaseShift (legacyInit false p).step (legacyInit false p).nBits + 1
      ≤ p.rate * (p.payloadBits + p.frcBits) / p.bitRate)
    (oc : Outcome) (hoc : oc.ladmissible (legacyInit false p)) :
    ∀ x ∈ lsliceReads (legacyInit false p) oc, x < p.rawSamples * p.fmt.stride := by
  apply lsliceReads_lt (c := legacyInit false p) hs.fmt _ oc hoc
  right
  rw [legacy_orig_iterations p hs.raw hds]
  omega

/-- F7 in the legacy slicer: same numbers, byte 720 of a 720 byte line
    (corpus/C05/F7-legacy-teletext-b.ops). -/
theorem legacy_reads_in_line_counterexample :
    ¬ (∀ (p : LParams), p.Sane → p.rate * (p.payloadBits + p.frcBits) / p.bitRate ≤ p.rawSamples →
        ∀ oc : Outcome, oc.ladmissible (legacyInit false p) →
        ∀ x ∈ lsliceReads (legacyInit false p) oc, x < p.rawSamples * p.fmt.stride) := by
  intro hfull
  have h := hfull Spec.legacyTeletextB_13_5 Spec.legacyTeletextB_13_5_sane (by decide) (.found 54) (by decide)
    720 (by decide +kernel)
  exact absurd h (by decide)

/-! ## `vbi3_raw_decoder_decode` -/

/-- Every line pointer handed to `decode_pattern` is the start of a row of the image (also with interlaced
    pitch and the field-2 reset), and a whole `bytes_per_line` row from there stays inside the
    `(count[0]+count[1]) * bytes_per_line` image - for every `max_lines` and whatever the rows contain. -/
theorem decode_reads_in_image (sp : Sp) (b : Nat) (hv : sp.valid b) (maxLines : Nat) (hit : Nat → Bool) :
    ∀ v ∈ (decode sp maxLines hit).visited,
      v.1 < sp.scanLines ∧ v.2 = lineOffset sp v.1 ∧ v.2 + sp.bpl ≤ sp.imageBytes := by
  intro v hv'
  have h := (dinv_decode sp maxLines hit).visited v hv'
  exact ⟨h.1, h.2, by rw [h.2]; exact line_in_image hv h.1⟩

example : (decode ⟨2, 2, 10, true⟩ 4 (fun _ => true)).visited = [(0, 0), (1, 20), (2, 10), (3, 30)] := by decide

/-- At most `max_lines` records are written: every output slot handed to a slicer has index `< max_lines`, the
    returned count is `<= max_lines` and `<=` the number of rows - for every image (`hit` arbitrary). -/
theorem decode_writes_le_max_lines (sp : Sp) (maxLines : Nat) (hit : Nat → Bool) :
    (∀ k ∈ (decode sp maxLines hit).slots, k < maxLines) ∧ (decode sp maxLines hit).n ≤ maxLines ∧
    (decode sp maxLines hit).n ≤ sp.scanLines :=
  let h := dinv_decode sp maxLines hit
  ⟨h.slots, h.n_le, h.n_le_rows⟩

example : (decode ⟨3, 2, 10, false⟩ 2 (fun _ => true)).n = 2 := by decide

/-- Every service table row fits a `vbi_sliced` record: the bytes a successful slice stores are at most
    `sizeof (sliced->data)` and the `payload > buffer_size * 8` test of `vbi3_bit_slicer_slice` passes. -/
theorem payload_fits_record : ∀ r ∈ usableRows,
    (if r.payload % 8 ≠ 0 then r.payload / 8 + 1 else r.payload / 8) ≤ slicedDataSize ∧ r.payload ≤ slicedDataSize * 8 := by
  intro r hr
  have h := rows_sane r hr
  exact ⟨h.bytes, h.bits⟩

example : usableRows.length = 16 ∧ slicedDataSize = 56 := by decide

/-- The bytes a configured slicer stores on success are exactly what `payload_fits_record` bounds. -/
theorem bytes_written_fit (r : Row) (hr : r ∈ usableRows) (fmt : Fmt) (rate spl : Nat) (tight : Bool) (c : Cfg)
    (h : setParams tight (rowParams r fmt rate spl) = .ok c) : bytesWritten c ≤ slicedDataSize ∧ bufferRefused c slicedDataSize = false := by
  have hfit := payload_fits_record r hr
  obtain ⟨e1, e2⟩ := setParams_payload h
  have hpb : (rowParams r fmt rate spl).payloadBits = r.payload := rfl
  unfold bytesWritten bufferRefused
  rw [e1, e2]
  rcases payloadOf_cases (rowParams r fmt rate spl) with ⟨h8, e, he⟩ | ⟨h8, e, he⟩
  · -- bit mode: `payload / 8 + 1` bytes
    rw [e, hpb, if_pos he]
    rw [hpb] at h8
    rw [if_pos h8] at hfit
    exact ⟨hfit.1, by simp; omega⟩
  · -- octet mode
    rw [e, hpb, if_neg (by omega)]
    rw [hpb] at h8
    rw [if_neg (by omega)] at hfit
    exact ⟨hfit.1, by simp; omega⟩

/-! ## the service table, every admitted sampling rate -/

/-- The repaired limit never turns an accepted service into a rejected one (which would hit
    `assert (!"bit_slicer_set_params")` in `add_services`): for every table row, every pixel format, every sampling
    rate `permit_service` admits and every line length the released `set_params` accepts, the repaired one
    accepts too, changes nothing but `cri_samples`, and keeps at least one search position. -/
theorem rows_tight_never_rejects (r : Row) (hr : r ∈ usableRows) (fmt : Fmt) (hf : fmt.WF) (hb : fmt.bpp ≤ 4)
    (rate spl : Nat) (hrate : rate < U32) (hperm : permitRate r rate = true) (c0 : Cfg)
    (h0 : setParams false (rowParams r fmt rate spl) = .ok c0) :
    ∃ c, setParams true (rowParams r fmt rate spl) = .ok c ∧ 0 < c.criSamples ∧ c.criSamples ≤ c0.criSamples ∧
      c = { c0 with criSamples := c.criSamples } :=
  row_tight_accepts hr hf hb hrate hperm h0

example : permitRate Spec.rowTeletextB 13500000 = true ∧ Spec.rowTeletextB ∈ usableRows := by decide

/-- The caller obligations hold for everything `add_services` passes to `set_params`, at any 32 bit sampling rate. -/
theorem rows_sane_params (r : Row) (hr : r ∈ usableRows) (fmt : Fmt) (hf : fmt.WF) (hb : fmt.bpp ≤ 4) (rate spl : Nat)
    (hrate : rate < U32) : (rowParams r fmt rate spl).Sane :=
  row_sane_params (rows_sane r hr) hf hb spl hrate

/-- End to end for the raw decoder with the repaired limit: for every service table row, pixel format, sampling
    rate, valid sampling parameters, `max_lines`, and every image (every `hit`, every search outcome on every row),
    each byte the slicer of that service reads lies inside the `(count[0]+count[1]) * bytes_per_line` image. -/
theorem decode_slicer_reads_in_image (r : Row) (fmt : Fmt) (hf : fmt.WF) (hb : fmt.bpp ≤ 4)
    (rate : Nat) (sp : Sp) (hv : sp.valid fmt.bpp) (c : Cfg)
    (h : setParams true (rowParams r fmt rate (sp.bpl / fmt.bpp)) = .ok c)
    (maxLines : Nat) (hit : Nat → Bool) (v : Nat × Nat) (hvis : v ∈ (decode sp maxLines hit).visited)
    (oc : Outcome) (hoc : oc.admissible c) : ∀ x ∈ sliceReads c oc, v.2 + x < sp.imageBytes := by
  intro x hx
  have h1 := payload_reads_in_line _ c h hf hb oc hoc x hx
  have h2 := (decode_reads_in_image sp fmt.bpp hv maxLines hit v hvis).2.2
  have h3 : (rowParams r fmt rate (sp.bpl / fmt.bpp)).spl * c.bpp ≤ sp.bpl := by
    rw [(geom_accepted h hf hb).bpp]; exact Nat.div_mul_le_self sp.bpl fmt.bpp
  omega

/-- Every pixel format `set_params` knows has its sampled bytes inside the pixel, and its `bytes_per_sample`
    equals `VBI_PIXFMT_BPP` (the divisor `add_services` uses for `samples_per_line`). -/
theorem formats_well_formed : ∀ t ∈ pixfmts, Spec.FormatOk t := by decide

example : fmtOfName "UYVY" = some ⟨2, 1, 1, true⟩ := rfl

end Zvbi.Props.C05
