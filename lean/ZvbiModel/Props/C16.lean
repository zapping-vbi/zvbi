import ZvbiModel.Export.Model
import ZvbiModel.Export.Page
import ZvbiModel.Export.Spec
import ZvbiModel.Export.Lemmas
import ZvbiModel.Export.LemmasRender
import ZvbiModel.Export.LemmasPrint
import ZvbiModel.Export.LemmasText
import ZvbiModel.Export.LemmasEq
/-!
# C16 - export and rendering are faithful, bounded and independent of the output target

Property theorems only (helper lemmas live in `Export/Lemmas*.lean`).  An export module is an
arbitrary list `ops` of calls into the write layer; `Spec.output ops` is the data it produces.
-/
namespace Zvbi.Props.C16
open Zvbi.Export Zvbi.Export.Spec

/-- Whatever the exporter does, whatever the target, buffer size, allocation limit and sink limit:
no store of the write layer ever lands at an index >= the capacity of the buffer it writes to, and
whenever the export call reports success, what reached the sink plus what is in the buffer is
exactly the exporter's output. -/
theorem write_layer_refines (cfg : Cfg) (env : Env) (t : Target) (buf : Bytes) (un : Bool) (ops : List Op) :
    (∀ s, (run cfg env (init t buf un) ops).fault ≠ some (.oob s)) ∧
    ((run cfg env (init t buf un) ops).success = true →
      (run cfg env (init t buf un) ops).offset ≤ (run cfg env (init t buf un) ops).buf.length ∧
      (run cfg env (init t buf un) ops).sink ++
        (run cfg env (init t buf un) ops).buf.take (run cfg env (init t buf un) ops).offset = output ops) := by
  have h := run_init cfg env t buf un ops
  exact ⟨h.1.noOob, fun hs => h.2 ((success_iff_healthy _).1 hs)⟩

example : (run currentCfg .unlimited (init .alloc [] false) [.putc 65, .printf [66, 67], .write [68]]).buf.take 4 = [65, 66, 67, 68] := by
  decide

/-- `vbi_export_mem` with a caller buffer of any size (or NULL), any exporter, any allocation
failures: the caller's buffer keeps its size (nothing is written at an index >= size), a
non-negative return value is exactly the number of bytes needed, and the buffer then holds the
first `min needed size` bytes of the output. -/
theorem mem_bounded (cfg : Cfg) (env : Env) (user : Option Bytes) (ops : List Op) :
    (exportMem cfg env user ops).user.length = (user.getD []).length ∧
    ∀ n, (exportMem cfg env user ops).ret = some n →
      n = (output ops).length ∧
      (exportMem cfg env user ops).user.take (min n (user.getD []).length) = (output ops).take (user.getD []).length :=
  ⟨(exportMem_spec cfg env ops user).1, (exportMem_spec cfg env ops user).2.1⟩

example : (exportMem currentCfg .unlimited (some [9, 9]) [.write [1, 2, 3]]).ret = some 3 ∧
    (exportMem currentCfg .unlimited (some [9, 9]) [.write [1, 2, 3]]).user = [1, 2] := by decide

/-- Whenever an export call reports success - also under allocation failures and write errors -
the data it delivered is exactly the exporter's output: the allocated block, the stream
contents, the file contents. A failed `vbi_export_file` leaves no file. -/
theorem success_implies_exact (cfg : Cfg) (env : Env) (ops : List Op) :
    (∀ d, (exportAlloc cfg env ops).data = some d → d = output ops) ∧
    ((exportStdio cfg env ops).ok = true → (exportStdio cfg env ops).sink = some (output ops)) ∧
    ((exportFile cfg env ops).ok = true → (exportFile cfg env ops).sink = some (output ops)) ∧
    ((exportFile cfg env ops).ok = false → (exportFile cfg env ops).sink = none) :=
  ⟨(exportAlloc_spec cfg env ops).1, (exportStdio_spec cfg env ops).1, (exportFile_spec cfg env ops).1, (exportFile_spec cfg env ops).2.1⟩

example : (exportStdio currentCfg ⟨none, some 2⟩ [.write [1, 2, 3], .flush]).ok = false := by decide

/-- Without injected failures the four targets agree for every exporter and every caller buffer:
`vbi_export_mem` returns the size needed and fills the buffer with the first `size` bytes,
`vbi_export_alloc` (for a non-empty output), `vbi_export_stdio` and `vbi_export_file` deliver
exactly the same bytes `output ops`. -/
theorem targets_agree (cfg : Cfg) (user : Option Bytes) (ops : List Op) :
    (exportMem cfg .unlimited user ops).ret = some (output ops).length ∧
    (exportMem cfg .unlimited user ops).user.take (min (output ops).length (user.getD []).length)
        = (output ops).take (user.getD []).length ∧
    (output ops ≠ [] → (exportAlloc cfg .unlimited ops).data = some (output ops)) ∧
    ((exportStdio cfg .unlimited ops).ok = true ∧ (exportStdio cfg .unlimited ops).sink = some (output ops)) ∧
    ((exportFile cfg .unlimited ops).ok = true ∧ (exportFile cfg .unlimited ops).sink = some (output ops)) := by
  have hu : Unl Env.unlimited := ⟨rfl, rfl⟩
  have hm := exportMem_spec cfg .unlimited ops user
  have hs := exportStdio_spec cfg .unlimited ops
  have hf := exportFile_spec cfg .unlimited ops
  exact ⟨hm.2.2.1 hu, (hm.2.1 _ (hm.2.2.1 hu)).2, (exportAlloc_spec cfg .unlimited ops).2.1 hu,
    ⟨hs.2.1 hu, hs.1 (hs.2.1 hu)⟩, hf.2.2.1 hu, hf.1 (hf.2.2.1 hu)⟩

example : (exportFile currentCfg .unlimited [.putc 65, .printf [66], .flush, .direct 4 [67]]).sink = some [65, 66, 67] := by decide

/-! ## observations under injected failures (outside the property: C16 does not quantify over allocation failure) -/

/-- F26 (observation, NOT a violation of C16): when `realloc` fails during the MEM -> ALLOC switch the
buffer is left with capacity 0 and offset 2; the next `vbi_export_putc` runs into
`assert (offset <= capacity)` (process abort) instead of the export returning -1.
Input: 4-byte caller buffer, allocation limit 3 (replayed by hand: corpus/C16/not-run/F26-oom-assert.ops). -/
theorem oom_assert_counterexample :
    (exportMem { wideClip := false, nullGuard := false } ⟨some 3, some 1000⟩ (some [0xAA, 0xAA, 0xAA, 0xAA])
      [.putc 65, .putc 66, .write [67, 68, 69, 70, 71], .putc 72]).st.fault
      = some (.assertFail "export.c:975 offset <= capacity") := by decide

/-- Without allocation failures and write errors no assertion of the write layer can fail and no
exporter is cut short, for every exporter, target and caller buffer. -/
theorem no_fault_without_injected_failures (cfg : Cfg) (t : Target) (buf : Bytes) (un : Bool) (ops : List Op) :
    (run cfg .unlimited (init t buf un) ops).fault = none ∧
    (run cfg .unlimited (init t buf un) ops).werr = false ∧
    (run cfg .unlimited (init t buf un) ops).aborted = false := by
  have h := run_init_healthy cfg (env := Env.unlimited) ⟨rfl, rfl⟩ t buf un ops
  exact ⟨h.2.2, h.1, h.2.1⟩

example : (run currentCfg .unlimited (init .mem [1, 2] false) [.printf [65, 66, 67]]).target = .alloc := by decide

/-- F12 (repaired in /repo, b4ce916): before the repair `vbi_export_mem (e, NULL, 0, pg)`, the documented
size query, called `memcpy` with a NULL pointer (undefined behaviour). -/
theorem mem_null_query_counterexample :
    (exportMem { wideClip := false, nullGuard := false } .unlimited none [.write [65, 66, 67]]).st.ub = true := by decide

/-- With the F12 repair no call of `memcpy` gets a NULL pointer, for every exporter, buffer (also NULL),
allocation limit and sink limit; `no_null_memcpy` states it for the tree as it is now
(`Generated/ExportCfg.lean`, probed on the compiled code). -/
theorem no_null_memcpy_repaired (cfg : Cfg) (hg : cfg.nullGuard = true) (env : Env) (user : Option Bytes) (ops : List Op) :
    (exportMem cfg env user ops).st.ub = false ∧ (exportAlloc cfg env ops).st.ub = false ∧
    (exportStdio cfg env ops).st.ub = false ∧ (exportFile cfg env ops).st.ub = false :=
  ⟨(exportMem_spec cfg env ops user).2.2.2 hg, (exportAlloc_spec cfg env ops).2.2 hg, (exportStdio_spec cfg env ops).2.2 hg,
    (exportFile_spec cfg env ops).2.2.2 hg⟩

/-- `no_null_memcpy_repaired` for the tree as it is now. -/
theorem no_null_memcpy (env : Env) (user : Option Bytes) (ops : List Op) :
    (exportMem currentCfg env user ops).st.ub = false ∧ (exportAlloc currentCfg env ops).st.ub = false ∧
    (exportStdio currentCfg env ops).st.ub = false ∧ (exportFile currentCfg env ops).st.ub = false :=
  no_null_memcpy_repaired currentCfg (by decide) env user ops

example : (exportMem currentCfg .unlimited none [.write [65, 66, 67]]).ret = some 3 := by decide

/-! ## vbi_print_page_region, table mode -/

/-- The function never reports more bytes than the stated buffer size, and the '\n' between rows is never
stored outside the buffer: the only possible out-of-bounds access is a read of `pg->text[]` for a page
whose `rows * columns` exceeds the array (for every page, region, size, converter and repair state). -/
theorem print_region_bounded (cfg : Cfg) (conv : Nat → Option Bytes) (pg : Page) (size column row width height : Int) :
    (∀ out, printRegion cfg conv pg size column row width height = .ok (some out) → (out.length : Int) ≤ size) ∧
    (∀ f, printRegion cfg conv pg size column row width height = .error f →
       regionCells pg column.toNat row.toNat width.toNat height.toNat = .error f) :=
  ⟨fun out h => (printRegion_post pg size column row width height).of_ok h out rfl,
    fun _ h => (printRegion_post pg size column row width height).of_error h⟩

/-- Exactness: when the table-mode text of the region (each character converted, not representable
ones replaced by a space, rows joined by '\n') fits into the buffer, the function stores exactly
that text and returns its length (`AtFits`: side condition on the '@' heuristic, see Spec). -/
theorem print_region_exact (cfg : Cfg) (conv : Nat → Option Bytes) (pg : Page) (size col row w h : Nat)
    (cells : List (List (Nat × Cell))) (e : Bytes) (hA : AtFits cfg conv)
    (hcol : col + w ≤ pg.columns) (hrow : row + h ≤ pg.rows)
    (hc : regionCells pg col row w h = .ok cells)
    (ht : tableText cfg conv (cells.map (·.map (·.2))) = some e) (hfit : e.length ≤ size) :
    printRegion cfg conv pg size col row w h = .ok (some e) := by
  unfold printRegion
  simp only
  have hcond : ¬ ((size : Int) < 0 ∨ (col : Int) < 0 ∨ (col : Int) + w - 1 ≥ pg.columns ∨ (row : Int) < 0 ∨ (row : Int) + h - 1 ≥ pg.rows) := by
    omega
  simp only [hcond, ite_false, Int.toNat_natCast, hc]
  have := printRows_exact (cfg := cfg) (conv := conv) (size := size) hA (cells.map (·.map (·.2))) [] e ht (by simpa using hfit)
  simpa using this

/-- F27a: without the repair a buffer that is too small does not make the function fail (as documented):
a multi-byte character that does not fit is silently replaced by a space: "A" + U+20AC in a UTF-8 like
encoding with 3 bytes of room gives the 2 bytes "A " (`print_region_exact_small_buffer_stmt` is false). -/
theorem print_region_small_buffer_counterexample :
    ¬ print_region_exact_small_buffer_stmt { wideClip := true, nullGuard := true, printE2big := false } := by
  intro h
  have := h (fun u => if u = 0x20AC then some [0xE2, 0x82, 0xAC] else some [u]) 3
    [[{ unicode := 0x41, size := 0 }, { unicode := 0x20AC, size := 0 }]] [0x41, 0x20] rfl
  exact absurd this (by decide)

/-- With the F27a repair (`E2BIG` is an error) the statement holds at full strength: whatever the
function returns as success is exactly the table text of the region, for every converter, size and
page; hence a buffer smaller than the text makes it fail. -/
theorem print_region_exact_repaired (cfg : Cfg) (hE : cfg.printE2big = true) : print_region_exact_small_buffer_stmt cfg := by
  intro conv size rows out h
  obtain ⟨e, he, ho⟩ := printRows_sound hE rows [] out h
  rw [he, ho]; simp

/-- For the tree as it is now (F27a repaired in /repo, 1b80cb3): whatever `vbi_print_page_region` returns as
success is exactly the table text of the region; a buffer that is too small makes it fail. -/
theorem print_region_sound : print_region_exact_small_buffer_stmt currentCfg :=
  print_region_exact_repaired currentCfg (by decide)

example : printRows currentCfg (fun u => some [u]) 10 [[{ unicode := 0x41, size := 0 }], [{ unicode := 0x42, size := 6 }]] [] = .ok (some [0x41, 0x0A, 0x20]) := by
  rfl

/-- F27b: without the repair a character whose encoding merely starts with byte 0x40 (U+0140 in
UCS-2LE) is printed as a space; with the repair it is kept. -/
theorem print_at_sign_counterexample :
    printUnicode { wideClip := true, nullGuard := true } (fun u => some [u % 256, u / 256]) 0x140 10 = some [0x20, 0] ∧
    printUnicode { wideClip := true, nullGuard := true, atOneByte := true } (fun u => some [u % 256, u / 256]) 0x140 10 = some [0x40, 1] := by
  decide

/-! ## region rendering -/

/-- A pixel format other than RGBA32_LE / PAL8 draws nothing. -/
theorem unsupported_format_draws_nothing (cfg : Cfg) (pg : Page) (stride : Option Nat) (col row w h : Nat) (rv fl : Bool) :
    drawVt cfg pg 0 stride col row w h rv fl = .ok [] ∧ drawCc pg 0 stride col row w h = .ok [] := by
  simp [drawVt, drawCc]

/-- Every byte `vbi_draw_vt_page_region` writes lies inside the region's pixel rectangle (and hence
inside a canvas of the documented size `rowstride * height * 10`), for every page, region, pixel size,
row stride that is a multiple of the pixel size, reveal / flash setting - PROVIDED the F14 repair is
present (`cfg.wideClip`) or no double-width / double-size character stands in the last column of the
region.  Without that hypothesis the statement is false, see `render_in_rectangle_counterexample`. -/
theorem render_in_rectangle_partial (cfg : Cfg) (pg : Page) (ct S col row w h : Nat) (reveal flashOn : Bool)
    (cells : List (List (Nat × Cell))) (runs : List Run)
    (hct : 0 < ct) (hd : ct ∣ S) (hc : regionCells pg col row w h = .ok cells)
    (hsafe : cfg.wideClip = true ∨ NoWideLast cells)
    (hr : drawVt cfg pg ct (some S) col row w h reveal flashOn = .ok runs) :
    ∀ run ∈ runs, ∀ a, Run.covers run a →
      InRect S (h * 10) (w * 12 * ct) a ∧ (w * 12 * ct ≤ S → a < S * (h * 10)) := by
  cases (drawVt_ok _ _ _ hct hc).symm.trans hr
  obtain ⟨hlen, hrows⟩ := regionCells_shape hc
  intro run hm a ha
  have := hlen ▸ vtRuns_inRect (cfg := cfg) (drcs := pg.drcs) (reveal := reveal) (flashOn := flashOn) hd cells hrows hsafe run hm a ha
  exact ⟨this, fun hS => inRect_lt_canvas this hS⟩

/-- With the F14 repair in the tree the rectangle property holds at full strength. -/
theorem render_in_rectangle_repaired (cfg : Cfg) (hfix : cfg.wideClip = true) : render_in_rectangle_stmt cfg := by
  intro drcs S ct reveal flashOn w cells _ hd hrows run hm a ha
  exact vtRuns_inRect hd cells hrows (Or.inl hfix) run hm a ha

/-- `render_in_rectangle` for the tree as it is now (F14 repaired in /repo, 77b0065; the flag in
`Generated/ExportCfg.lean` is measured on the compiled code on every run): every byte written by
`vbi_draw_vt_page_region` lies inside the region rectangle, for every page, region, stride (multiple of
the pixel size), supported format, reveal / flash setting.  If the repair is ever lost this proof fails. -/
theorem render_in_rectangle : render_in_rectangle_stmt currentCfg :=
  render_in_rectangle_repaired currentCfg (by decide)

/-- F14: on the code as it was before the repair (no clipping) the full statement is false: a DOUBLE_WIDTH character in the
last (second) column of a 2 x 1 region, PAL8, row stride 24 = the rectangle width: `draw_char` writes
bytes 12..35 of each line, 12 past the rectangle, and on the last line past the canvas (index 240 of a
240-byte canvas). -/
theorem render_in_rectangle_counterexample : ¬ render_in_rectangle_stmt { wideClip := false, nullGuard := false } := by
  intro h
  have hin := h [] 24 1 true true 2
    [[(0, { unicode := 0x41, size := 0 }), (1, { unicode := 0x42, size := 1 })]] (by decide) ⟨24, rfl⟩ (by decide)
    { start := 9 * 24 + 12, len := 24, cell := 1, dy := 9, kind := 0, size := 1 } (by decide) 240 ⟨by decide, by decide⟩
  obtain ⟨line, b, h1, h2, h3⟩ := hin
  simp at h1 h2
  omega

/-- The caption renderer (all characters single size) always stays inside the rectangle. -/
theorem render_cc_in_rectangle (pg : Page) (ct S col row w h : Nat) (cells : List (List (Nat × Cell))) (runs : List Run)
    (hct : 0 < ct) (hd : ct ∣ S) (hc : regionCells pg col row w h = .ok cells)
    (hr : drawCc pg ct (some S) col row w h = .ok runs) :
    ∀ run ∈ runs, ∀ a, Run.covers run a → InRect S (h * 26) (w * 16 * ct) a := by
  cases (drawCc_ok _ hct hc).symm.trans hr
  obtain ⟨hlen, hrows⟩ := regionCells_shape hc
  intro run hm a ha
  exact hlen ▸ ccRuns_inRect hd cells hrows run hm a ha

example : (vtRuns { wideClip := true, nullGuard := true } [] 24 1 true true 0
    [[(0, { unicode := 0x41, size := 0 }), (1, { unicode := 0x42, size := 1 })]]).length = 20 := by decide

/-- `region_equals_full`: for a region that does not cut a double-width / double-size character (no
OVER_TOP / OVER_BOTTOM cell in its first column, no wide character in its last column) every byte of the
region rectangle ends up with the same value - same source character, same line of the cell, same kind and
size, same byte of the glyph row, last write wins - as the corresponding byte of the full-page rendering;
for every page, region, pixel size, stride (multiple of the pixel size, >= the rectangle width), reveal /
flash setting, in every configuration with the F14 repair. -/
theorem region_equals_full_repaired (cfg : Cfg) (hfix : cfg.wideClip = true) : region_equals_full_stmt cfg := by
  intro pg ct S col row w h reveal flashOn cells rr fr hct hd hS hcol hrow hc hnc hrr hfr line b hline hb
  cases (drawVt_ok _ _ _ hct hc).symm.trans hrr
  cases hfc : regionCells pg 0 0 pg.columns pg.rows with
  | error f => simp [drawVt, Nat.ne_of_gt hct, hfc] at hfr
  | ok fcells =>
    cases (drawVt_ok _ _ _ hct hfc).symm.trans hfr
    simp only [Option.getD_some, Option.getD_none]
    obtain ⟨hlen, hrows⟩ := regionCells_shape hc
    obtain ⟨hflen, hfrows⟩ := regionCells_shape hfc
    have hryh : line / 10 < cells.length := by omega
    have hryf : row + line / 10 < fcells.length := by omega
    have hRlen : cells[line / 10].length = w := hrows _ (List.getElem_mem hryh)
    have hFlen : fcells[row + line / 10].length = pg.columns := hfrows _ (List.getElem_mem hryf)
    have hb' : col * 12 * ct + b < pg.columns * 12 * ct := by
      have := Nat.mul_le_mul_right ct (Nat.mul_le_mul_right 12 hcol)
      rw [Nat.add_mul, Nat.add_mul] at this
      omega
    have hokR : RowsOk cfg S ct cells := fun r hr => ⟨by rw [hrows r hr]; exact hS, Or.inr (hnc.1 r hr)⟩
    have hokF : RowsOk cfg (pg.columns * 12 * ct) ct fcells := fun r hr => ⟨by rw [hfrows r hr]; exact Nat.le_refl _, Or.inl hfix⟩
    rw [show line = line / 10 * 10 + line % 10 by omega,
      show (row * 10 + (line / 10 * 10 + line % 10)) * (pg.columns * 12 * ct) + col * 12 * ct + b
        = ((row + line / 10) * 10 + line % 10) * (pg.columns * 12 * ct) + (col * 12 * ct + b) by
          rw [Nat.add_assoc, show row * 10 + (line / 10 * 10 + line % 10) = (row + line / 10) * 10 + line % 10 by omega],
      vtRuns_closed cells b _ _ hct hd (by omega) hokR hryh (by omega),
      vtRuns_closed fcells _ _ _ hct (Nat.dvd_mul_left ct _) hb' hokF hryf (by omega)]
    exact under_shift _ _ col w _ row _ b hct (by omega) hRlen (by omega) hb
      (regionCells_sub hc hfc _ hryh hryf) (hnc.1 _ (List.getElem_mem hryh)) (hnc.2 _ (List.getElem_mem hryh))

/-- `region_equals_full` for the tree as it is now. -/
theorem region_equals_full : region_equals_full_stmt currentCfg := region_equals_full_repaired currentCfg (by decide)

/-- Pixel for pixel: with the glyph bitmaps / pens as an arbitrary function `glyph` of the `vbi_char`, what
was drawn and where inside the character, the region canvas holds on the whole rectangle the values the
full-page canvas holds at the corresponding place (and is untouched where the full page is untouched). -/
theorem region_pixels_equal_full (glyph : Cell → Nat → Nat → Nat → Nat → Nat)
    (pg : Page) (ct S col row w h : Nat) (reveal flashOn : Bool) (cells : List (List (Nat × Cell))) (rr fr : List Run)
    (hct : 0 < ct) (hd : ct ∣ S) (hS : w * 12 * ct ≤ S) (hcol : col + w ≤ pg.columns) (hrow : row + h ≤ pg.rows)
    (hc : regionCells pg col row w h = .ok cells) (hnc : NotCut cells)
    (hrr : drawVt currentCfg pg ct (some S) col row w h reveal flashOn = .ok rr)
    (hfr : drawVt currentCfg pg ct none 0 0 pg.columns pg.rows reveal flashOn = .ok fr)
    (line b : Nat) (hl : line < h * 10) (hb : b < w * 12 * ct) :
    renderedAt glyph pg rr (line * S + b) =
      renderedAt glyph pg fr ((row * 10 + line) * (pg.columns * 12 * ct) + col * 12 * ct + b) := by
  unfold renderedAt
  rw [region_equals_full pg ct S col row w h reveal flashOn cells rr fr hct hd hS hcol hrow hc hnc hrr hfr line b hl hb]

example : finalAt (vtRuns currentCfg [] 24 1 true true 0
    [[(0, { unicode := 0x41, size := 1 }), (1, { unicode := 0x41, size := 4 })]]) 13 = some (0, 0, 0, 1, 13) := by decide

/-- What a character draws does not depend on where the region starts: the runs of a cell drawn at canvas
origin `o + d` are the runs drawn at origin `o`, shifted by `d`. -/
theorem region_runs_translate (S ct cw ch o d idx kind s : Nat) :
    cellRuns S ct cw ch (o + d) idx kind s = (cellRuns S ct cw ch o idx kind s).map (fun r => { r with start := r.start + d }) := by
  unfold cellRuns
  rw [List.map_map]
  apply List.map_congr_left
  intro dy _
  simp only [Function.comp]
  congr 1
  omega

example : (cellRuns 48 4 12 10 100 7 0 0).head? = some { start := 100, len := 48, cell := 7, dy := 0, kind := 0, size := 0 } := by decide

/-! ## the text export module (exp-txt.c), an exporter over the write layer -/

/-- `text_export_exact`, no terminal codes (`control=0`): for every page whose characters (or else the space)
convert to 1..32 bytes - all fixed-width encodings and UTF-8 - the module runs to the end and its output is
exactly the page's characters row by row, each row closed by a line feed: printable characters as they
are, block graphics replaced by the `gfx_chr` option, anything else by a space, characters not
representable in the target encoding by a space; and all four targets deliver these bytes. -/
theorem text_export_exact (cfg : Cfg) (conv : Nat → Option Bytes) (gfx : Nat) (pg : Page)
    (cells : List (List (Nat × Cell))) (e : Bytes) (hA : AtFits cfg conv) (hF : ConvFits cfg conv 32)
    (hc : regionCells pg 0 0 pg.columns pg.rows = .ok cells) (hne : cells ≠ [])
    (ht : plainText cfg conv gfx (cells.map (·.map (·.2))) = some e) :
    ∃ ops, textOps cfg conv 0 gfx pg = .ok (ops, true) ∧ output ops = e ∧
      (∀ user, (exportMem cfg .unlimited user ops).ret = some e.length) ∧
      (e ≠ [] → (exportAlloc cfg .unlimited ops).data = some e) ∧
      (exportStdio cfg .unlimited ops).sink = some e ∧ (exportFile cfg .unlimited ops).sink = some e := by
  obtain ⟨ops, hops, hout⟩ := textRowsOps_plain (gfx := gfx) (cm := pg.colorMap) hA hF (cells.map (·.map (·.2))) cellOnes e
    (by simpa using hne) ht
  subst hout
  have ht := targets_agree cfg none ops
  exact ⟨ops, by simp [textOps, hc, hops], rfl, fun user => (targets_agree cfg user ops).1, ht.2.2.1, ht.2.2.2.1.2, ht.2.2.2.2.2⟩

/-- `text_export_exact` with terminal codes (`control=1` ANSI, `control=2` VT200): the output is, row by row, for
every cell that is not skipped (OVER_TOP / OVER_BOTTOM after a size change) its control sequence followed by its
character (same substitutions as above), rows separated by a line feed, closed by ESC [ m LF; the control
sequence `ctlSeq` (at most 21 bytes, so that every character of up to 11 bytes fits the 32-byte buffer) is the
model's transcription of print_char and is tied to the code by the correspondence check only. -/
theorem text_export_control_exact (cfg : Cfg) (conv : Nat → Option Bytes) (term gfx : Nat) (pg : Page)
    (cells : List (List (Nat × Cell))) (e : Bytes) (hterm : 0 < term) (hA : AtFits cfg conv) (hF : ConvFits cfg conv 11)
    (hc : regionCells pg 0 0 pg.columns pg.rows = .ok cells) (hne : cells ≠ [])
    (ht : ctlText cfg conv term gfx pg.colorMap cellOnes (cells.map (·.map (·.2))) = some e) :
    ∃ ops, textOps cfg conv term gfx pg = .ok (ops, true) ∧ output ops = e ∧
      (∀ user, (exportMem cfg .unlimited user ops).ret = some e.length) ∧
      (exportStdio cfg .unlimited ops).sink = some e ∧ (exportFile cfg .unlimited ops).sink = some e := by
  obtain ⟨ops, hops, hout⟩ := textRowsOps_ctl (gfx := gfx) (cm := pg.colorMap) hterm hA hF (cells.map (·.map (·.2))) cellOnes e
    (by simpa using hne) ht
  subst hout
  have ht := targets_agree cfg none ops
  exact ⟨ops, by simp [textOps, hc, hops], rfl, fun user => (targets_agree cfg user ops).1, ht.2.2.2.1.2, ht.2.2.2.2.2⟩

/-- every control sequence is short and made of bytes: no overflow of the module's 32-byte buffer -/
theorem text_control_sequence_bounded (term : Nat) (cm : List Nat) (old this : Cell) (ctl : Bytes)
    (h : ctlSeq term cm old this = .ok (some ctl)) : ctl.length ≤ 21 ∧ ∀ b ∈ ctl, b < 256 :=
  ctlSeq_small h

example : (textOps currentCfg (fun u => if u < 256 then some [u] else none) 0 35
    { rows := 1, columns := 2, text := [{ unicode := 0x41, size := 0 }, { unicode := 0xEE21, size := 0 }], drcs := [] }).toOption
    = some ([.putc 0x41, .putc 35, .putc 0x0A], true) := by rfl

end Zvbi.Props.C16
