import ZvbiModel.Locks.CcSections
import ZvbiModel.Props.C20TableA
import ZvbiModel.Props.C20TableC
/-!
# C20 - snapshot consistency: critical sections are atomic (section-level serialisability)

`Locks/Atomic.lean` proves for all programs and schedules that, under the section discipline, every
interleaving is a serial execution of whole critical sections.  Here the discipline is discharged on
the table extracted from the current source, for `cc.mutex` / `vbi->cc.channel[*]` and for
`rd->mutex` / the `vbi3_raw_decoder` state, for every data semantics of the accesses that respects the
frame condition (only accesses to the protected fields see or change them).
-/
namespace Zvbi.Props.C20
open Zvbi.Locks Zvbi.Locks.Instance Zvbi.Generated.Locks

/-- Inside a section of `cc.mutex` and inside a section of `rd->mutex` no other mutex operation
occurs (no nested lock, no trylock): the only one is the closing unlock.  Decided on the complete table. -/
theorem table_sections_flat :
    (roles.all fun R => noNestB mx_cc R.accs) = true ∧ (roles.all fun R => noNestB mx_rd R.accs) = true := by
  simp only [noNestB, Role.all_accs, roles, cfg_vbi_decode, List.all_cons, List.all_nil, List.all_append]
  decide +kernel

theorem caption_section_discipline {sys : List (Nat × List Action)} (wr : WellRoled roles sys) :
    SectionDiscipline isCcChannel mx_cc (progsOf sys) :=
  sectionDiscipline_of_table roles_annOK (List.all_eq_true.1 table_protection.1)
    (List.all_eq_true.1 table_sections_flat.1) (List.all_eq_true.1 table_try_free) wr

theorem raw_decoder_section_discipline {sys : List (Nat × List Action)} (wr : WellRoled roles sys) :
    SectionDiscipline isRd3 mx_rd (progsOf sys) :=
  sectionDiscipline_of_table roles_annOK (List.all_eq_true.1 table_protection.2.1)
    (List.all_eq_true.1 table_sections_flat.2) (List.all_eq_true.1 table_try_free) wr

/-- **Snapshot consistency, caption.**  Take any system of threads running the documented roles, any
type `Sh` for the contents of `vbi->cc.channel[*]`, any thread-local state, any data semantics of the
actions in which only the accesses to `cc.channel` see or change that state.  Every state of every
interleaving in which `cc.mutex` is free is a state of the section-serial execution: the one in which
`vbi_fetch_cc_page`, each stretch of `vbi_decode_caption` between two callbacks, and the caption reset
run as uninterrupted blocks. -/
theorem caption_sections_atomic {Sh : Type} {Lo : Type} {sys : List (Nat × List Action)} (wr : WellRoled roles sys)
    {D : DataSem Sh Lo} (frame : Frame isCcChannel D) {σ0 : Sh} {ls0 : List Lo} {S : DState Sh Lo}
    (r : DReach D (progsOf sys) σ0 ls0 S) (hf : Free S.thr mx_cc) : AReach D mx_cc (progsOf sys) σ0 ls0 S :=
  atomic_sections frame (caption_section_discipline wr) r hf

/-- **Every fetched caption page is a snapshot of the sequential execution.**  While a thread `j` is
inside a `cc.mutex` section (e.g. in the middle of the `memcpy` of `vbi_fetch_cc_page`), the shared
caption state and everything `j` has copied so far (its local state) are exactly what `j` computes
running ALONE (`foldEff`) from a state `S0` of the section-serial execution in which `cc.mutex` was
free - i.e. every other thread, in particular the decoding thread, was at one of its unlock points
(before `vbi_decode_caption`, inside an event callback, after the call). -/
theorem caption_fetch_is_sequential_snapshot {Sh : Type} {Lo : Type} {sys : List (Nat × List Action)}
    (wr : WellRoled roles sys) {D : DataSem Sh Lo} (frame : Frame isCcChannel D) {σ0 : Sh} {ls0 : List Lo}
    {S : DState Sh Lo} (r : DReach D (progsOf sys) σ0 ls0 S) {j : Nat} {tj : Thread}
    (hj : S.thr[j]? = some tj) (hm : mx_cc ∈ tj.held) :
    ∃ (S0 : DState Sh Lo) (as : List Action) (l0 : Lo), AReach D mx_cc (progsOf sys) σ0 ls0 S0 ∧
      Free S0.thr mx_cc ∧ Run D j S0 as S ∧ S0.loc[j]? = some l0 ∧
      S.sh = (foldEff D j as (S0.sh, l0)).1 ∧ S.loc[j]? = some (foldEff D j as (S0.sh, l0)).2 :=
  open_section_is_serial frame (caption_section_discipline wr) r hj hm

/-- **Snapshot consistency, raw decoder.**  The same for `rd->mutex` and the `vbi3_raw_decoder` state
(services, jobs, pattern array): every interleaving is a serial execution of whole `vbi_raw_decode` /
add / remove / check-services sections. -/
theorem raw_decoder_sections_atomic {Sh : Type} {Lo : Type} {sys : List (Nat × List Action)} (wr : WellRoled roles sys)
    {D : DataSem Sh Lo} (frame : Frame isRd3 D) {σ0 : Sh} {ls0 : List Lo} {S : DState Sh Lo}
    (r : DReach D (progsOf sys) σ0 ls0 S) (hf : Free S.thr mx_rd) : AReach D mx_rd (progsOf sys) σ0 ls0 S :=
  atomic_sections frame (raw_decoder_section_discipline wr) r hf

/-- **Every raw decode uses one consistent service set.**  While a thread is inside an `rd->mutex`
section (one `vbi3_raw_decoder_decode` call), the decoder state and what the thread has decoded so far
are what it computes running alone from a state of the section-serial execution: the service set it
sees is the one left by a whole number of add/remove-services calls. -/
theorem raw_decode_uses_one_service_set {Sh : Type} {Lo : Type} {sys : List (Nat × List Action)}
    (wr : WellRoled roles sys) {D : DataSem Sh Lo} (frame : Frame isRd3 D) {σ0 : Sh} {ls0 : List Lo}
    {S : DState Sh Lo} (r : DReach D (progsOf sys) σ0 ls0 S) {j : Nat} {tj : Thread}
    (hj : S.thr[j]? = some tj) (hm : mx_rd ∈ tj.held) :
    ∃ (S0 : DState Sh Lo) (as : List Action) (l0 : Lo), AReach D mx_rd (progsOf sys) σ0 ls0 S0 ∧
      Free S0.thr mx_rd ∧ Run D j S0 as S ∧ S0.loc[j]? = some l0 ∧
      S.sh = (foldEff D j as (S0.sh, l0)).1 ∧ S.loc[j]? = some (foldEff D j as (S0.sh, l0)).2 :=
  open_section_is_serial frame (raw_decoder_section_discipline wr) r hj hm

/-! ## the caption decoder at lock granularity over the Cc model (`Locks/CcSections.lean`) -/

open Zvbi.Locks.CcSections in
/-- **Every caption page observable by a concurrent `vbi_fetch_cc_page` is a state of the sequential
execution of the decoding thread at one of its unlock points.**  Shared state = the state `Zvbi.Cc.St`
of the caption model (C08).  Thread 0 = the decoding thread, at lock granularity a sequence of `nsec`
sections `lock cc; secs k; unlock cc; callback` (the stretches of `vbi_decode_caption` /
`vbi_caption_channel_switched` between two points where `cc.mutex` is free: a `caption_send_event`
callback or the end of the call); the other threads each perform one `vbi_fetch_cc_page (n)` =
`lock cc; (Zvbi.Cc.fetchStep, Zvbi.Cc.fetchPage); unlock cc`.  For ALL section functions, numbers of
sections, request lists and schedules (interleavings of single lock / access / unlock / callback
steps): every page in the log of pages a thread has fetched is `Zvbi.Cc.fetchPage σ n` for the shared
state `σ` of a state of the section-serial execution (whole sections and whole earlier fetches, one
after the other, in an order consistent with each thread's program) in which `cc.mutex` is free. -/
theorem caption_fetched_pages_are_sequential_snapshots {secs : Nat → Zvbi.Cc.St → Zvbi.Cc.St} {nsec : Nat}
    {reqs : List Nat} {σ0 : Zvbi.Cc.St} {ls0 : List Log} (h0 : ∀ l ∈ ls0, l = [])
    {S : DState Zvbi.Cc.St Log} (r : DReach (sem secs) (progs nsec reqs) σ0 ls0 S)
    {i : Nat} {l : Log} (hl : S.loc[i]? = some l) {pg : Option Zvbi.Cc.Page} (hpg : pg ∈ l) :
    ∃ (S0 : DState Zvbi.Cc.St Log) (n : Nat), AReach (sem secs) cc (progs nsec reqs) σ0 ls0 S0 ∧
      Free S0.thr cc ∧ pg = Zvbi.Cc.fetchPage S0.sh (n : Int) := by
  induction r generalizing i l pg with
  | init =>
    cases h0 l (List.mem_of_getElem? hl)
    cases hpg
  | @step S S' lab rS st ih =>
    obtain ⟨k, a⟩ := lab
    obtain ⟨stp, lk, hlk, -, hloc⟩ := st
    obtain ⟨h, rr, h', hk, -⟩ := stp.dest
    rw [hloc] at hl
    by_cases hik : i = k
    · subst hik
      cases (getElem?_set_same hlk).symm.trans hl
      -- the log of the stepping thread is unchanged or one page longer
      rcases eff_log secs i a S.sh lk with e | ⟨w, n, hi0, rfl, e⟩
      · exact ih hlk (e ▸ hpg)
      · rcases List.mem_append.1 (e ▸ hpg) with hpg | hpg
        · exact ih hlk hpg
        · obtain ⟨S0, aS0, hf0, hsh⟩ := fetch_at_lock_point rS hi0 hk
          exact ⟨S0, n, aS0, hf0, hsh ▸ List.mem_singleton.1 hpg⟩
    · exact ih (List.getElem?_set_ne (Ne.symm hik) ▸ hl) hpg

open Zvbi.Locks.CcSections in
/-- not vacuous: a decoding thread with two sections and two fetching threads form such a system,
and a schedule in which thread 1 fetches page 1 first reaches a state whose log holds that page -/
example : ∃ S : DState Zvbi.Cc.St Log,
    DReach (sem fun _ σ => σ) (progs 2 [1, 2]) Zvbi.Cc.init [[], [], []] S ∧
    S.loc[1]? = some [Zvbi.Cc.fetchPage Zvbi.Cc.init 1] := by
  let D := sem fun _ σ => σ
  have s1 : DStep D (dinit (progs 2 [1, 2]) Zvbi.Cc.init [[], [], []]) (1, .lock cc)
      ⟨(init (progs 2 [1, 2])).set 1 ⟨[cc], [.acc chv true 1, .unlock cc]⟩, Zvbi.Cc.init, [[], [], []]⟩ := by
    exact ⟨Step.mk (h := []) rfl (free_init _ _) rfl, [], rfl, rfl, rfl⟩
  have s2 : DStep D ⟨(init (progs 2 [1, 2])).set 1 ⟨[cc], [.acc chv true 1, .unlock cc]⟩, Zvbi.Cc.init, [[], [], []]⟩
      (1, .acc chv true 1)
      ⟨((init (progs 2 [1, 2])).set 1 ⟨[cc], [.acc chv true 1, .unlock cc]⟩).set 1 ⟨[cc], [.unlock cc]⟩,
        Zvbi.Cc.fetchStep Zvbi.Cc.init 1, [[], [Zvbi.Cc.fetchPage Zvbi.Cc.init 1], []]⟩ := by
    refine ⟨Step.mk (h := [cc]) rfl trivial rfl, [], rfl, ?_, ?_⟩ <;> simp [D, sem, X, chv]
  exact ⟨_, .step (.step .init s1) s2, rfl⟩

end Zvbi.Props.C20
