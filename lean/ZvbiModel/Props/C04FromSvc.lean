import ZvbiModel.Rawdec.FromSvcLemmas
/-!
# C04 - `_vbi_sampling_par_from_services_log`: do the computed sampling parameters cover the returned services?

Model: `Rawdec/FromSvc.lean` (the per-row `double` results and the shape of the scan line range update are regenerated
from src/sampling_par.c by `translate/gen_rawdecfromsvc.py`).  The function documents its return value as the "subset of
services covered by the calculated sampling parameters".

* FALSE for the released range update (`from_services_counterexample`, F80: WSS 625 + Caption 625 -> line 23 is not in
  the returned range; confirmed on the C code, `corpus/C04/F80-from-services-range.ops`).
* With the repaired update (`fixes/sampling-par-from-services-range.diff`): for EVERY request and video standard argument
  every table row that contributed to the result has the video standard of the returned parameters, is part of the
  returned set, and both of its line ranges lie inside the returned ranges - `permit_service`'s line test accepts it for
  every strictness (`from_services_covers_every_returned_service`).
* The length test of `permit_service` at strict >= 1 is a different matter: `samples` is truncated where the test needs
  it rounded up (`from_services_strict_length_counterexample`, F81: Teletext D 625).
-/
namespace Zvbi.Props.C04FromSvc
open Zvbi.Rawdec Zvbi.Generated.ServiceTable Zvbi.Generated.RawdecFromSvc

/-- Every statement of /repo's `_vbi_sampling_par_from_services_log` the model depends on
    was found in a known form (either shape of the range update); stops compiling otherwise. -/
theorem from_services_source_known : fsKnown = true := by decide

/-- F80.  Released range update, 625 line standards, WSS 625 | Caption 625 field 1:
    both services are returned, `start[0] = 22`, `count[0] = 1` - line 23 is outside, and `permit_service` (strict 1)
    refuses the WSS row on the very parameters that were computed for it.  With the repaired update: count 2, accepted. -/
theorem from_services_counterexample :
    (fromServices false 1 0x408).1 = 0x408 ∧
    ((fromServices false 1 0x408).2.1.start0, (fromServices false 1 0x408).2.1.count0) = (22, 1) ∧
    (serviceTable[7]?.map (fun r => (r.id, permitService (fromServices false 1 0x408).2.1 r 1))) = some (0x400, false) ∧
    ((fromServices true 1 0x408).2.1.start0, (fromServices true 1 0x408).2.1.count0) = (22, 2) ∧
    (serviceTable[7]?.map (fun r => permitService (fromServices true 1 0x408).2.1 r 1)) = some true := by
  decide +kernel

/-- Repaired range update, EVERY request `services` and video standard
    argument (`fam`: none / 625 / 525 / both): every table row that contributed to the result
    * is part of the returned service set,
    * belongs to the video standard the returned `scanning` stands for,
    * has, in each field it uses, its lines `first .. last` inside the returned non-empty range with a known start line,
    * hence passes the scan line test of `_vbi_sampling_par_permit_service` for every strictness. -/
theorem from_services_covers_every_returned_service (fam services : Nat) (strict : Int) :
    ∀ r ∈ (fromServices true fam services).2.2.2,
      r.id &&& (fromServices true fam services).1 = r.id ∧
      r.videostd &&& videostdOfScanning (fromServices true fam services).2.1.scanning ≠ 0 ∧
      (∀ f, r.first f > 0 → r.last f > 0 →
        (fromServices true fam services).2.1.count f > 0 ∧ 0 < (fromServices true fam services).2.1.start f ∧
        (fromServices true fam services).2.1.start f ≤ r.first f ∧
        r.last f + 1 ≤ (fromServices true fam services).2.1.start f + (fromServices true fam services).2.1.count f) ∧
      (∀ f, permitField (fromServices true fam services).2.1 r strict f = true) := by
  intro r hr
  obtain ⟨h3, e⟩ := fromServices_mem hr
  rw [e] at hr ⊢
  have hg0 : GoodAcc fam (fsInit fam) := ⟨by unfold fsInit; simp only []; omega, by show 0 < fsStart0; decide, by show 0 < fsStart0; decide, fun _ => rfl⟩
  obtain ⟨_, _, hk⟩ := trace_keep fam services (serviceTable.zip fsConsts) (fsInit fam)
    (fun x hx => (List.of_mem_zip hx).1) hg0
  generalize fsTrace true fam services (serviceTable.zip fsConsts) (fsInit fam) = res at hr hk ⊢
  simp only [] at hr ⊢
  obtain ⟨k1, k2, k3, k4, k5⟩ := hk r hr
  have hcov : ∀ f, r.first f > 0 → r.last f > 0 →
      (fsFinal res.1).count f > 0 ∧ 0 < (fsFinal res.1).start f ∧ (fsFinal res.1).start f ≤ r.first f ∧
      r.last f + 1 ≤ (fsFinal res.1).start f + (fsFinal res.1).count f := by
    intro f f1 f2
    by_cases hf : f = 0
    · subst hf
      obtain ⟨c1, c2, c3, c4⟩ := k3 f1 f2
      simp only [FsAcc.start, FsAcc.count, if_true] at c1 c2 c3 c4
      have hc : ¬ res.1.count0 = 0 := by omega
      simp only [fsFinal, SPar.count, SPar.start, if_true, hc, if_false]
      exact ⟨c1, c2, c3, c4⟩
    · have hr1 : r.first f = r.first 1 := by simp [Row.first, hf]
      have hr2 : r.last f = r.last 1 := by simp [Row.last, hf]
      rw [hr1] at f1; rw [hr2] at f2
      obtain ⟨c1, c2, c3, c4⟩ := k4 f1 f2
      simp only [FsAcc.start, FsAcc.count, show ((1 : Nat) = 0) = False from by simp, if_false] at c1 c2 c3 c4
      have hc : ¬ res.1.count1 = 0 := by omega
      rw [hr1, hr2]
      simp only [fsFinal, SPar.count, SPar.start, hf, if_false, hc]
      exact ⟨c1, c2, c3, c4⟩
  refine ⟨k5, ?_, hcov, ?_⟩
  · simp only [fsFinal]
    rcases k2 with k | k
    · have : res.1.vstd = 1 := by rw [k1, k]
      rw [this, k]; decide
    · have : res.1.vstd = 2 := by rw [k1, k]
      rw [this, k]; decide
  · intro f
    unfold permitField
    by_cases h0 : r.first f = 0 ∨ r.last f = 0
    · simp only [h0, if_true]
    · simp only [h0, if_false]
      obtain ⟨c1, c2, c3, c4⟩ := hcov f (by omega) (by omega)
      have : ¬ (fsFinal res.1).count f = 0 := by omega
      simp only [this, if_false]
      split
      · rfl
      split
      · rfl
      · simp only [Bool.not_eq_true', Bool.or_eq_false_iff, decide_eq_false_iff_not]
        omega

/-- Repaired range update, EVERY request, video standard argument and
    strictness: every table row that contributed to the result passes the WHOLE of `_vbi_sampling_par_permit_service` on
    the returned parameters (video standard, known start lines, rate 27 MHz >= 1.5 x the bit rate, line length, field
    flags, scan lines) - with one exception, stated: when the strictness margin of 1 us applies (`(unsigned) strict > 0`)
    the row must not be Teletext D 625 (F81, `from_services_strict_length_counterexample`) or one of the two VBI pseudo
    services (which `add_services` masks out anyway). -/
theorem from_services_permits_every_returned_service (fam services : Nat) (strict : Int) :
    ∀ r ∈ (fromServices true fam services).2.2.2,
      (strictU strict = 0 ∨ (r.id ≠ 0x8000 ∧ r.id &&& (slicedVbi525 ||| slicedVbi625) = 0)) →
      permitService (fromServices true fam services).2.1 r strict = true := by
  intro r hr hs
  obtain ⟨_, h1, hcov, hpf⟩ := from_services_covers_every_returned_service fam services strict r hr
  obtain ⟨hmem, hfmt, hrate, hbpl, hsy⟩ := fromServices_sp_facts true fam services r hr
  obtain ⟨t1, t2, t3, t4, t5⟩ := T_rate r hmem
  refine (permitService_iff _ r strict).2 ⟨h1, ?_, by rw [hrate]; exact t1, ?_,
    permitLen_1440 _ r hmem strict hfmt hrate hbpl hs, ?_, hpf 0, hpf 1⟩
  · intro ⟨_, h⟩
    rcases h with ⟨hf, hz⟩ | ⟨hf, hz⟩
    · have := (hcov 0 (by simpa [Row.first] using hf) (by simpa [Row.last] using t4 hf)).2.1
      simp only [SPar.start, if_true] at this
      omega
    · have := (hcov 1 (by simpa [Row.first] using hf) (by simpa [Row.last] using t5 hf)).2.1
      simp only [SPar.start, show ((1 : Nat) = 0) = False from by simp, if_false] at this
      omega
  · rw [hrate]
    intro h
    rcases h with h | h | h
    · exact t2 h
    · exact t3 h
    · revert h; decide
  · rw [hsy]; exact fun h => nomatch h.2

/-- non-vacuity: Teletext B + VPS + WSS + Caption 625, video standard from the services, strict 2: all six rows permitted -/
example : (fromServices true 0 0x41f).2.2.2.map (fun r => permitService (fromServices true 0 0x41f).2.1 r 2)
    = [true, true, true, true, true, true] := by decide +kernel

/-- non-vacuity: all 625 line services (the Teletext B row pair included): lines 6-23 and 318-335 -/
example : (fromServices true 0 0xf41f).1 = 0xf41f ∧ (fromServices true 0 0xf41f).2.2.2.length = 10 ∧
    ((fromServices true 0 0xf41f).2.1.start0, (fromServices true 0 0xf41f).2.1.count0,
     (fromServices true 0 0xf41f).2.1.start1, (fromServices true 0 0xf41f).2.1.count1) = (6, 18, 318, 18) := by decide +kernel

/-- F81.  Teletext D 625 alone: `samples = (int)((signal + 1e-6) * rate)`
    = 1443 is the truncated value, `bytes_per_line = 1443`; `permit_service` with strict >= 1 demands
    `1443 / 27 MHz - 1 us >= signal` = 52.456 us, i.e. 1443.3 samples: the row is refused on the parameters computed for it
    (both shapes of the range update; strict 0 accepts). -/
theorem from_services_strict_length_counterexample :
    (fromServices true 1 0x8000).1 = 0x8000 ∧ (fromServices true 1 0x8000).2.1.bpl = 1443 ∧
    (serviceTable[4]?.map (fun r => (r.id, permitService (fromServices true 1 0x8000).2.1 r 1,
      permitService (fromServices false 1 0x8000).2.1 r 1, permitService (fromServices true 1 0x8000).2.1 r 0)))
      = some (0x8000, false, false, true) := by
  decide +kernel

end Zvbi.Props.C04FromSvc
