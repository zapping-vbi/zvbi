import ZvbiModel.Xds.LemmasDemux
import ZvbiModel.Xds.LemmasSep
import ZvbiModel.Xds.LemmasSvc
/-!
# C09 - XDS packets are delivered intact, exactly once, and only with a valid checksum

Property theorems only; what holds of every reassembler is in `ZvbiModel/Xds/Reasm.lean` (`Reasm.Laws`), that the two
demultiplexers are reassemblers (`Demux.laws`, `Sep.laws`) and the other helper lemmas in `ZvbiModel/Xds/Lemmas*.lean`.

`Demux.*` is the model of `vbi_xds_demux_feed` (src/xds_demux.c), `Sep.*` the model of the
field-2 routing of `vbi_decode_caption` and of `xds_separator` (src/caption.c).  The step functions
take two control-flow facts of the C code as a parameter (`rk`: a refused header leaves the
interrupted packet alone; `ec`: the parity-error branch of `xds_separator` clears `cc->curr_sp`);
`translate/gen_xds.py` reads their current values from the source (`Gen.Xds.demuxRejectKeepsCurrent`,
`Gen.Xds.sepErrClearsCurr`; both are `false` on a tree without the repairs 1c0ef8d and 34b85fe and `true`
with them), and the model driver runs with those.  A third generated fact,
`Gen.Xds.sepNuidCompared` (commit c11abb5: the decoder reset on a repeated network name is guarded
by `sum != n->nuid`), only enters `Sep.netDecode`; no theorem below depends on its value.  Theorems that hold either way quantify over the flag; where the property fails for the
current value there is a proved counterexample on a concrete stream (the same stream is replayed
on the C code from corpus/C09/ - as regression once the repair is in) next to the theorem for the repaired control flow.

Histories: `Demux.run rk Demux.init hist` is the state after feeding an arbitrary list of raw
byte pairs to a fresh demultiplexer, so a statement "for all `hist`" covers every reachable state.
-/
namespace Zvbi.Props.C09
open Zvbi.Xds Zvbi.Hamm Zvbi.Gen.Xds

/-! ## xds_demux.c -/

/-- never_oob, length_le_32 (xds_demux.c): for every sequence of byte pairs fed to a fresh
    demultiplexer no step reports an error site (no index outside `subpacket[][]`, no store outside
    `buffer[0..31]`, terminating NUL inside `vbi_xds_packet.buffer[36]`), and whatever is handed to
    the callback has 1..32 bytes and a (class, subclass) the table has room for. -/
theorem demux_never_oob_length_le_32 (rk : Bool) (hist : List (Nat × Nat)) :
    ∀ o ∈ (Demux.run rk Demux.init hist).2,
      o.err = none ∧ ∀ p, o.pkt = some p →
        1 ≤ p.data.length ∧ p.data.length ≤ 32 ∧ Demux.accepted p.cls p.sub :=
  (Demux.inv_run rk hist Demux.inv_init).2

example : (Demux.run false Demux.init [(0x01, 0x83), (0xC1, 0xC2), (0x8F, 0xEA)]).2.map (·.pkt) =
    [none, none, some ⟨0, 3, [0x41, 0x42]⟩] := by decide +kernel

/-- deliver_iff_valid (xds_demux.c): in every reachable state, a packet of an accepted (class, type)
    with 1..32 characters sent in one piece - start pair, payload pairs, end pair with final byte
    `ck`, every byte with odd parity - is handed to the callback exactly once with its class, type
    and bytes if the 7-bit sum of the packet is 0, and not at all otherwise; afterwards no packet
    is current (a repeated end pair delivers nothing). -/
theorem demux_deliver_iff_valid (rk : Bool) (hist : List (Nat × Nat)) (p : Packet) (hv : p.Valid)
    (hacc : Demux.accepted p.cls p.sub) (ck : Nat) (hck : ck < 128) :
    let s := (Demux.run rk Demux.init hist).1
    Demux.deliveries (Demux.run rk s (wire p ck)).2 =
      (if (bodySum p + ck) % 128 = 0 then [p.toPkt] else []) ∧
    (Demux.run rk s (wire p ck)).1.curr = none := by
  intro s
  rw [Demux.run_eq rk (wire p ck)]
  exact (Demux.laws rk).deliver (Demux.inv_run rk hist Demux.inv_init).1 hv hacc ck hck

/-- the checksum a conforming encoder sends makes the sum 0 -/
theorem checksum_valid (p : Packet) : (bodySum p + checksum p) % 128 = 0 ∧ checksum p < 128 := by
  unfold checksum; omega

example : Demux.deliveries (Demux.run false Demux.init (wire ⟨0, 3, [0x41, 0x42, 0x43]⟩ (checksum ⟨0, 3, [0x41, 0x42, 0x43]⟩))).2
    = [⟨0, 3, [0x41, 0x42, 0x43]⟩] := by decide +kernel

/-- a parity error is never delivered (xds_demux.c): replace any one byte pair of a transmitted
    packet by a pair in which at least one byte fails the parity check - nothing is delivered,
    whatever the checksum byte. -/
theorem demux_parity_error_not_delivered (rk : Bool) (hist : List (Nat × Nat)) (p : Packet) (hv : p.Valid)
    (hacc : Demux.accepted p.cls p.sub) (ck : Nat) (hck : ck < 128) (n : Nat) (hn : n < (wire p ck).length)
    (bad : Nat × Nat) (hbad : unpar8 bad.1 = none ∨ unpar8 bad.2 = none) :
    Demux.deliveries (Demux.run rk (Demux.run rk Demux.init hist).1 ((wire p ck).set n bad)).2 = [] := by
  rw [Demux.run_eq rk ((wire p ck).set n bad)]
  exact (Demux.laws rk).fault (Demux.inv_run rk hist Demux.inv_init).1 hv hacc ck hck n hn (fun _ => trivial) hbad

example : unpar8 0x41 = none ∧ (wire ⟨0, 3, [0x41, 0x42]⟩ 0x6A).length = 3 := by decide +kernel

/-- a missing start is never delivered (xds_demux.c): while no packet is current, payload pairs
    and an end pair deliver nothing and change nothing. -/
theorem demux_missing_start_not_delivered (rk : Bool) (s : Demux.State) (hs : s.curr = none)
    (payload : List Nat) (hp : ∀ c ∈ payload, isChar c) (ck : Nat) :
    Demux.deliveries (Demux.run7 rk s (pairsOf payload ++ [(0x0F, ck)])).2 = [] ∧
    (Demux.run7 rk s (pairsOf payload ++ [(0x0F, ck)])).1 = s := by
  rw [Demux.run7_eq, Demux.idle_run rk hs _ (tail_no_header (pairsOf_spec payload hp).2.2.1 ck)]
  exact ⟨List.filterMap_eq_nil_iff.2 fun o h => by obtain ⟨_, _, rfl⟩ := List.mem_map.1 h; rfl, rfl⟩

example : Demux.init.curr = none ∧ ∀ c ∈ [0x41, 0x42, 0x43], isChar c := by decide

/-- interleaving_independent (xds_demux.c): a packet that is interrupted any number of times -
    each interruption being a block of readable pairs that starts with a caption control code or
    with a header for another buffer and contains no header for this packet's buffer, followed by
    the packet's continue pair and its next payload pairs - is delivered exactly as if it had been
    sent in one piece: once, intact, iff its sum is 0; what the foreign pairs are (other packets,
    complete or not, caption text, NULs) does not matter.  `forSlot` selects the deliveries
    labelled with a (class, type) of this packet's buffer; deliveries of the foreign packets are
    not constrained here.  With `rk = false` (the unchanged code) a foreign block may not *start*
    with a header the demultiplexer refuses - see `demux_unsupported_header_counterexample`. -/
theorem demux_interleaving_independent (rk : Bool) (hist : List (Nat × Nat)) (p : Packet) (hv : p.Valid)
    (hacc : Demux.accepted p.cls p.sub) (ck : Nat) (hck : ck < 128)
    (chunk0 : List Pair) (segs : List (List Pair × List Pair))
    (hch : chunksOf chunk0 segs = pairsOf p.payload)
    (hb : ∀ sg ∈ segs, Demux.ForeignBlock rk (Demux.slotOf p.cls p.sub) sg.1 ∧
      ∀ q ∈ sg.1, q.1 < 128 ∧ q.2 < 128) :
    Demux.forSlot (Demux.slotOf p.cls p.sub)
      (Demux.run rk (Demux.run rk Demux.init hist).1 ((interleaved7 p ck chunk0 segs).map parPair)).2 =
      if (bodySum p + ck) % 128 = 0 then [p.toPkt] else [] := by
  rw [Demux.run_eq rk ((interleaved7 p ck chunk0 segs).map parPair)]
  exact (Demux.laws rk).interleaved (Demux.inv_run rk hist Demux.inv_init).1 hv hacc ck hck chunk0 segs hch hb

/-- an instance: title "ABCD" interrupted by a caption control code, two text pairs and a complete
    packet 2/1 "XY"; the hypotheses hold and the title is delivered (the foreign packet as well) -/
example :
    chunksOf [(0x41, 0x42)] [([(0x14, 0x2C), (0x54, 0x56), (5, 1), (0x58, 0x59), (0x0F, checksum ⟨2, 1, [0x58, 0x59]⟩)],
      [(0x43, 0x44)])] = pairsOf [0x41, 0x42, 0x43, 0x44] ∧
    Demux.Leaves false (Demux.slotOf 0 3) (0x14, 0x2C) ∧
    (∀ q ∈ [(0x54, 0x56), (5, 1), (0x58, 0x59), (0x0F, checksum ⟨2, 1, [0x58, 0x59]⟩)], ¬ Demux.Opens (Demux.slotOf 0 3) q) ∧
    Demux.deliveries (Demux.run false Demux.init ((interleaved7 ⟨0, 3, [0x41, 0x42, 0x43, 0x44]⟩
      (checksum ⟨0, 3, [0x41, 0x42, 0x43, 0x44]⟩) [(0x41, 0x42)]
      [([(0x14, 0x2C), (0x54, 0x56), (5, 1), (0x58, 0x59), (0x0F, checksum ⟨2, 1, [0x58, 0x59]⟩)], [(0x43, 0x44)])]).map parPair)).2
      = [⟨2, 1, [0x58, 0x59]⟩, ⟨0, 3, [0x41, 0x42, 0x43, 0x44]⟩] := by
  refine ⟨by decide, Or.inl (by decide), ?_, by decide +kernel⟩
  intro q hq
  simp only [List.mem_cons, List.not_mem_nil, or_false] at hq
  rcases hq with rfl | rfl | rfl | rfl <;> simp [Demux.Opens, Demux.slotOf, Demux.remap, Demux.remapWith, demuxRemapFrom, demuxLowLimit, demuxSubclasses] <;> omega


/-- corpus/C09/20-demux-unsupported-header.ops: title packet 0/3 "ABCD", interrupted after "AB" by a
    complete public-service packet 4/1 "PQ", re-opened with its continue pair -/
def witnessReject : List (Nat × Nat) :=
  [(0x01, 0x83), (0xC1, 0xC2), (0x89, 0x01), (0xD0, 0x51), (0x8F, 0x46), (0x02, 0x83), (0x43, 0xC4), (0x8F, 0xE3)]

/-- interleaving_independent is FALSE for the unchanged xds_demux.c when the interrupting packet has
    a class/subclass the demultiplexer refuses (class > MISC, e.g. every public-service packet, or
    subclass >= 0x18 outside 0x40..0x47): the refused header jumps to `discard:` with `sp` still
    pointing at the interrupted packet and resets it.  The witness is a conforming interleaving of a
    valid title packet with a valid public-service packet; the title is never delivered
    (`rk = false`), while with the refusal leaving `sp` alone (`rk = true`) it is. -/
theorem demux_unsupported_header_counterexample :
    witnessReject = (interleaved7 ⟨0, 3, [0x41, 0x42, 0x43, 0x44]⟩ (checksum ⟨0, 3, [0x41, 0x42, 0x43, 0x44]⟩)
      [(0x41, 0x42)] [([(9, 1), (0x50, 0x51), (0x0F, checksum ⟨4, 1, [0x50, 0x51]⟩)], [(0x43, 0x44)])]).map parPair ∧
    Demux.deliveries (Demux.run false Demux.init witnessReject).2 = [] ∧
    Demux.deliveries (Demux.run true Demux.init witnessReject).2 = [⟨0, 3, [0x41, 0x42, 0x43, 0x44]⟩] := by
  decide +kernel

/-! ### no_slot_aliasing (xds_demux.c, F33)

`Demux.remap` is `Demux.remapWith` at the four constants translate/gen_xds.py reads from the tree under
test: subclasses `>= from` are moved so that `from` lands on `to`; subclasses `low .. from - 1` are
refused; `n` is the second extent of `subpacket[][]`.  Two source shapes:

* unrepaired (F33): `if (i >= 0x40) i += 0x10 - 0x40;`, extent 0x18: `from, to, low, n = 64, 16, 64, 24`
* repaired (fixes/C09-demux-0x4n-own-buffers.diff): `if (i >= 0x40) i += VBI_XDS_MAX_SUBCLASSES - 0x40;
  else if (i >= VBI_XDS_MAX_SUBCLASSES) i = N_ELEMENTS (xd->subpacket[0]);`, extent 0x18 + 8: `64, 24, 24, 32`.

The theorems are stated for every layout; which one applies to the tree is decided by `low <= to`. -/

/-- Every layout whose refused gap starts at or below the place the high subclasses are moved to
    (`low <= to`) gives distinct accepted (class, subclass) pairs distinct buffers. -/
theorem demux_no_slot_aliasing_of_layout (f t l n : Nat) (hl : l ≤ t) (c1 s1 c2 s2 : Nat)
    (h1 : Demux.remapWith f t l n s1 < n) (h2 : Demux.remapWith f t l n s2 < n)
    (h : c1 * n + Demux.remapWith f t l n s1 = c2 * n + Demux.remapWith f t l n s2) : c1 = c2 ∧ s1 = s2 := by
  obtain ⟨hc, h'⟩ := slot_inj h1 h2 h
  refine ⟨hc, ?_⟩
  rcases Demux.remapWith_of_lt h1 with ⟨a1, e1⟩ | ⟨a1, b1, e1⟩ <;>
    rcases Demux.remapWith_of_lt h2 with ⟨a2, e2⟩ | ⟨a2, b2, e2⟩ <;> rw [e1, e2] at h' <;> omega

/-- Every layout that moves the high subclasses onto indices still open to low ones (`to < low`, `to < from`,
    `to < n`) makes subclasses `to` and `from` of one class share a buffer: F33 for all such layouts. -/
theorem demux_slot_aliasing_of_layout (f t l n : Nat) (h1 : t < l) (h2 : t < f) (h3 : t < n) :
    Demux.remapWith f t l n t < n ∧ Demux.remapWith f t l n f < n ∧
    Demux.remapWith f t l n t = Demux.remapWith f t l n f ∧ t ≠ f := by
  have a : ¬ t ≥ f := by omega
  have b : ¬ t ≥ l := by omega
  simp only [Demux.remapWith, a, b, if_false, ge_iff_le, Nat.le_refl, if_true]
  omega

/-- no_slot_aliasing (xds_demux.c) at FULL strength for a tree with the repair: all accepted (class, subclass)
    pairs - 0x00..0x17 and 0x40..0x47 of the classes current .. misc - have buffers of their own.  The hypothesis
    is a closed fact about the generated constants (`demux_layout_of_this_tree`): true with
    fixes/C09-demux-0x4n-own-buffers.diff applied, false on the unrepaired tree. -/
theorem demux_no_slot_aliasing (hl : demuxLowLimit ≤ demuxRemapTo) (c1 s1 c2 s2 : Nat)
    (h1 : Demux.accepted c1 s1) (h2 : Demux.accepted c2 s2)
    (h : Demux.slotOf c1 s1 = Demux.slotOf c2 s2) : c1 = c2 ∧ s1 = s2 :=
  demux_no_slot_aliasing_of_layout _ _ _ _ hl c1 s1 c2 s2 h1.2 h2.2 h

/-- no_slot_aliasing (xds_demux.c) is FALSE on a tree without the repair: subclasses 0x10..0x17 and 0x40..0x47
    of one class use the same buffer (`if (i >= 0x40) i += 0x10 - 0x40` is applied to every class and
    0x10..0x17 is not excluded).  The hypotheses are closed facts about the generated constants, true on the
    unrepaired tree (16 < 64, 16 < 64, 16 < 24), the first one false with the repair (24 < 24). -/
theorem demux_no_slot_aliasing_counterexample (h1 : demuxRemapTo < demuxLowLimit) (h2 : demuxRemapTo < demuxRemapFrom)
    (h3 : demuxRemapTo < demuxSubclasses) :
    ¬ (∀ c1 s1 c2 s2, Demux.accepted c1 s1 → Demux.accepted c2 s2 →
        Demux.slotOf c1 s1 = Demux.slotOf c2 s2 → c1 = c2 ∧ s1 = s2) := by
  intro h
  obtain ⟨a, b, e, ne⟩ := demux_slot_aliasing_of_layout _ _ _ _ h1 h2 h3
  have := h 0 demuxRemapTo 0 demuxRemapFrom ⟨Nat.zero_le _, a⟩ ⟨Nat.zero_le _, b⟩
    (by simp only [Demux.slotOf, Demux.remap]; rw [e])
  exact ne this.2

/-- which of the two cases the tree under test is: the flag the translator reads (is the branch
    `else if (i >= ..) i = N_ELEMENTS (..)` present) agrees with the arithmetic condition of the theorems, and
    the three side conditions of the counterexample hold exactly when the flag is off.  A half-applied repair
    (new mapping without the larger array, larger array without the new mapping, refusal branch with the old
    target) makes this fail to build or changes the accepted set, which the reference oracle reports. -/
theorem demux_layout_of_this_tree :
    decide (demuxLowLimit ≤ demuxRemapTo) = demuxGapRefused ∧
    decide (demuxRemapTo < demuxLowLimit ∧ demuxRemapTo < demuxRemapFrom ∧ demuxRemapTo < demuxSubclasses) = !demuxGapRefused ∧
    demuxSubclasses = demuxMaxSubclasses + (if demuxGapRefused then 8 else 0) ∧
    (∀ s, s < 128 → (Demux.remap s < demuxSubclasses ↔ s < 0x18 ∨ (0x40 ≤ s ∧ s < 0x48))) := by
  refine ⟨by decide, by decide, by decide, ?_⟩
  decide +kernel

-- non-vacuity, independent of the tree: the two layouts as literals
example : Demux.remapWith 64 16 64 24 0x10 = Demux.remapWith 64 16 64 24 0x40 ∧ Demux.remapWith 64 16 64 24 0x40 < 24 := by decide
example : Demux.remapWith 64 24 24 32 0x10 = 0x10 ∧ Demux.remapWith 64 24 24 32 0x40 = 0x18 ∧
    Demux.remapWith 64 24 24 32 0x47 < 32 ∧ ¬ Demux.remapWith 64 24 24 32 0x48 < 32 ∧ ¬ Demux.remapWith 64 24 24 32 0x18 < 32 ∧
    ¬ Demux.remapWith 64 24 24 32 0x3F < 32 := by decide

/-- no_slot_aliasing (xds_demux.c), the part that holds in either shape: below 0x40 (all subclasses EIA-608
    defines for the classes current, future, channel) distinct (class, subclass) have distinct buffers. -/
theorem demux_no_slot_aliasing_partial (c1 s1 c2 s2 : Nat) (h1 : Demux.accepted c1 s1) (h2 : Demux.accepted c2 s2)
    (l1 : s1 < demuxRemapFrom) (l2 : s2 < demuxRemapFrom) (h : Demux.slotOf c1 s1 = Demux.slotOf c2 s2) : c1 = c2 ∧ s1 = s2 := by
  -- below `from` an accepted subclass is its own index
  have key : ∀ s, s < demuxRemapFrom → Demux.remap s < demuxSubclasses → Demux.remap s = s := by
    intro s hs hlt
    rcases Demux.remapWith_of_lt hlt with ⟨a, _⟩ | ⟨_, _, e⟩
    · omega
    · exact e
  have := slot_inj h1.2 h2.2 h
  rw [key s1 l1 h1.2, key s2 l2 h2.2] at this
  exact this

/-- corpus/C09/30-demux-alias-0x10-0x40.ops: packet 3/0x40 "ABCD" interrupted after "AB" by a complete
    packet 3/0x10 "PQ", re-opened with its continue pair -/
def witnessAlias : List (Nat × Nat) :=
  [(0x07, 0x40), (0xC1, 0xC2), (0x07, 0x10), (0xD0, 0x51), (0x8F, 0xB9), (0x08, 0x40), (0x43, 0xC4), (0x8F, 0x20)]

/-- what the shared buffer costs, and what the repair gives: on a tree without the refusal branch
    (`demuxGapRefused = false`, F33) the valid packet 3/0x40 of the witness is never delivered (either control
    flow), only the interrupting 3/0x10 is; with the repair both are delivered, the interrupted one intact. -/
theorem demux_alias_loses_packet (rk : Bool) :
    witnessAlias = (interleaved7 ⟨3, 0x40, [0x41, 0x42, 0x43, 0x44]⟩ (checksum ⟨3, 0x40, [0x41, 0x42, 0x43, 0x44]⟩)
      [(0x41, 0x42)] [([(7, 0x10), (0x50, 0x51), (0x0F, checksum ⟨3, 0x10, [0x50, 0x51]⟩)], [(0x43, 0x44)])]).map parPair ∧
    Demux.deliveries (Demux.run rk Demux.init witnessAlias).2 =
      (if demuxGapRefused then [⟨3, 0x10, [0x50, 0x51]⟩, ⟨3, 0x40, [0x41, 0x42, 0x43, 0x44]⟩] else [⟨3, 0x10, [0x50, 0x51]⟩]) := by
  cases rk <;> decide +kernel

/-! ## caption.c -/

/-- length_le_32 and the upper half of never_oob (caption.c, either control flow): for every sequence
    of byte pairs on line 284 of a fresh decoder, no step stores at or above `buffer[32]`, uses an
    index outside `sub_packet[][]`, reaches `assert (!"reached")` or calls `xds_decoder` with a length
    outside 1..32 (its `assert (length > 0 && length <= 32)` is unreachable); the only error site a
    step can report is the store *below* the buffer, and only if the parity-error branch keeps
    `curr_sp`.  Every packet handed to `xds_decoder` has 1..32 bytes and class < 4, type < 0x18. -/
theorem sep_length_le_32 (ec : Bool) (hist : List (Nat × Nat)) :
    ∀ o ∈ (Sep.run ec Sep.init hist).2,
      (o.err = none ∨ (ec = false ∧ o.err = some "sep.store.under")) ∧
      ∀ p, o.dec = some p → 1 ≤ p.data.length ∧ p.data.length ≤ 32 ∧ Sep.accepted p.cls p.sub :=
  (Sep.inv_run ec hist (Sep.inv_init ec)).2

example : (Sep.run false Sep.init [(0x01, 0x83), (0xC1, 0xC2), (0x8F, 0xEA)]).2.map (·.dec) =
    [none, none, some ⟨0, 3, [0x41, 0x42]⟩] := by decide +kernel

/-- never_oob (caption.c) once the parity-error branch clears `cc->curr_sp`
    (fixes/xds-sep-parity-reset.diff): no step reports any error site. -/
theorem sep_never_oob_if_cleared (hist : List (Nat × Nat)) :
    ∀ o ∈ (Sep.run true Sep.init hist).2, o.err = none := by
  intro o ho
  rcases ((Sep.inv_run true hist (Sep.inv_init true)).2 o ho).1 with h | ⟨h, _⟩
  · exact h
  · cases h

example : (Sep.run true Sep.init [(0x01, 0x83), (0x43, 0x36), (0x45, 0x46)]).2.map (·.err) = [none, none, none] ∧
    (Sep.run false Sep.init [(0x01, 0x83), (0x43, 0x36), (0x45, 0x46)]).2.map (·.err) =
      [none, none, some "sep.store.under"] := by decide +kernel

/-- corpus/C09/10-sep-parity-keeps-curr.ops: title packet 0/3 "ABC6EFGH", the byte '6' sent with a
    parity error -/
def witnessParity : List (Nat × Nat) :=
  [(0x01, 0x83), (0xC1, 0xC2), (0x43, 0x36), (0x45, 0x46), (0xC7, 0xC8), (0x8F, 0x57)]

/-- never_oob and "a packet with a parity error is never delivered" are FALSE for the unchanged
    caption.c: the parity-error branch of `xds_separator` resets the buffer but clears only the local
    `sp`, not `cc->curr_sp`; the next payload pair is stored at `buffer[0 - 2]`, `buffer[0 - 1]` (inside
    `chksum`), reassembly goes on from `count = 2`, and because the bytes up to and including the
    damaged pair sum to 0 mod 128 the end pair checks: the title "GH" is delivered.  The witness is
    the wire form of a valid packet with bit 7 of one byte flipped.  With the branch clearing
    `curr_sp` (`ec = true`) nothing is stored and nothing is delivered. -/
theorem sep_parity_error_counterexample :
    witnessParity = (wire ⟨0, 3, [0x41, 0x42, 0x43, 0x36, 0x45, 0x46, 0x47, 0x48]⟩
        (checksum ⟨0, 3, [0x41, 0x42, 0x43, 0x36, 0x45, 0x46, 0x47, 0x48]⟩)).set 2 (0x43, 0x36) ∧
    unpar8 0x36 = none ∧
    Sep.errors (Sep.run false Sep.init witnessParity).2 = ["sep.store.under"] ∧
    Sep.deliveries (Sep.run false Sep.init witnessParity).2 = [⟨0, 3, [0x47, 0x48]⟩] ∧
    Sep.errors (Sep.run true Sep.init witnessParity).2 = [] ∧
    Sep.deliveries (Sep.run true Sep.init witnessParity).2 = [] := by
  decide +kernel

/-- no_slot_aliasing (caption.c): distinct accepted (class, type) use distinct buffers. -/
theorem sep_no_slot_aliasing (c1 s1 c2 s2 : Nat) (h1 : Sep.accepted c1 s1) (h2 : Sep.accepted c2 s2)
    (h : Sep.slotOf c1 s1 = Sep.slotOf c2 s2) : c1 = c2 ∧ s1 = s2 :=
  slot_inj h1.2 h2.2 h

example : Sep.accepted 3 0x17 ∧ Sep.slotOf 3 0x17 = 95 := by decide


/-- deliver_iff_valid (caption.c, either control flow): in every reachable state of the caption
    decoder, a packet with class < 4, type < 0x18 and 1..32 characters sent in one piece on line 284 is
    handed to `xds_decoder` exactly once with its class, type and bytes if the 7-bit sum of the packet
    is 0, and not at all otherwise; afterwards no packet is current and XDS mode is off. -/
theorem sep_deliver_iff_valid (ec : Bool) (hist : List (Nat × Nat)) (p : Packet) (hv : p.Valid)
    (hacc : Sep.accepted p.cls p.sub) (ck : Nat) (hck : ck < 128) :
    let s := (Sep.run ec Sep.init hist).1
    Sep.deliveries (Sep.run ec s (wire p ck)).2 =
      (if (bodySum p + ck) % 128 = 0 then [p.toPkt] else []) ∧
    (Sep.run ec s (wire p ck)).1.curr = none ∧ (Sep.run ec s (wire p ck)).1.xds = false := by
  intro s
  have h := (Sep.laws ec).deliver (Sep.inv_run ec hist (Sep.inv_init ec)).1 hv hacc ck hck
  rw [Sep.run_eq ec (wire p ck)]
  exact ⟨h.1, h.2, Sep.wire_xds ec p hv ck hck s⟩

example : Sep.deliveries (Sep.run false Sep.init (wire ⟨2, 1, [0x41, 0x42, 0x43]⟩ (checksum ⟨2, 1, [0x41, 0x42, 0x43]⟩))).2
    = [⟨2, 1, [0x41, 0x42, 0x43]⟩] := by decide +kernel

/-- interleaving_independent (caption.c, either control flow): a packet with class < 4, type < 0x18
    that is interrupted any number of times - each interruption a block of readable pairs that starts
    with a caption control code or an XDS header and passes `Sep.blockOk`: no header for this packet's
    buffer, no header of the network-name packet 2/1 (announcing a different network flushes every
    buffer by design), no end pair in caption context (caption.c keeps `curr_sp` across caption control
    codes, so a stray end pair there would close the interrupted packet) - and re-opened each time by its
    continue pair, is handed to `xds_decoder` exactly as if sent in one piece: once, intact, iff its
    sum is 0.  Foreign packets (complete or not, supported or not), caption text and NULs in the
    blocks do not matter; their own deliveries are not constrained here. -/
theorem sep_interleaving_independent (ec : Bool) (hist : List (Nat × Nat)) (p : Packet) (hv : p.Valid)
    (hacc : Sep.accepted p.cls p.sub) (ck : Nat) (hck : ck < 128)
    (chunk0 : List Pair) (segs : List (List Pair × List Pair))
    (hch : chunksOf chunk0 segs = pairsOf p.payload)
    (hb : ∀ sg ∈ segs, Sep.ForeignBlock (Sep.slotOf p.cls p.sub) sg.1) :
    Sep.forSlot (Sep.slotOf p.cls p.sub)
      (Sep.run ec (Sep.run ec Sep.init hist).1 ((interleaved7 p ck chunk0 segs).map parPair)).2 =
      if (bodySum p + ck) % 128 = 0 then [p.toPkt] else [] := by
  rw [Sep.run_eq ec ((interleaved7 p ck chunk0 segs).map parPair)]
  exact (Sep.laws ec).interleaved (Sep.inv_run ec hist (Sep.inv_init ec)).1 hv hacc ck hck chunk0 segs hch
    fun sg h => ⟨hb sg h, (hb sg h).2.2⟩

/-- an instance: title "ABCD" interrupted by a caption control code, a text pair, a complete packet
    0/2 "XY" and more caption; the block is a `ForeignBlock` and both packets are delivered -/
example :
    Sep.ForeignBlock (Sep.slotOf 0 3)
      [(0x14, 0x2C), (0x54, 0x56), (1, 2), (0x58, 0x59), (0x0F, checksum ⟨0, 2, [0x58, 0x59]⟩), (0x14, 0x2F)] ∧
    Sep.deliveries (Sep.run true Sep.init ((interleaved7 ⟨0, 3, [0x41, 0x42, 0x43, 0x44]⟩
      (checksum ⟨0, 3, [0x41, 0x42, 0x43, 0x44]⟩) [(0x41, 0x42)]
      [([(0x14, 0x2C), (0x54, 0x56), (1, 2), (0x58, 0x59), (0x0F, checksum ⟨0, 2, [0x58, 0x59]⟩), (0x14, 0x2F)],
        [(0x43, 0x44)])]).map parPair)).2
      = [⟨0, 2, [0x58, 0x59]⟩, ⟨0, 3, [0x41, 0x42, 0x43, 0x44]⟩] := by
  refine ⟨⟨⟨_, _, rfl, by decide, by decide, by decide⟩, by decide, ?_⟩, by decide +kernel⟩
  intro q hq
  simp only [List.mem_cons, List.not_mem_nil, or_false] at hq
  rcases hq with rfl | rfl | rfl | rfl | rfl | rfl <;> decide

/-- a parity error is never delivered (caption.c with the repaired parity branch, `ec = true`, the
    current tree): replace the `n`-th pair of a transmitted packet by a pair that reaches the
    parity-error branch of `xds_separator` (`Sep.Damaged`: first byte unreadable, or first byte a
    readable XDS control code / character and second byte unreadable) - nothing is delivered, whatever
    the checksum byte.  If the damaged pair is the start pair itself (`n = 0`) the decoder must not be
    left with a packet pointer from before (`curr = none`): with a stale pointer the orphaned end pair
    would close that older packet.  False for `ec = false`: `sep_parity_error_counterexample`. -/
theorem sep_parity_error_not_delivered (hist : List (Nat × Nat)) (p : Packet) (hv : p.Valid)
    (hacc : Sep.accepted p.cls p.sub) (ck : Nat) (hck : ck < 128) (n : Nat) (hn : n < (wire p ck).length)
    (hidle : n = 0 → (Sep.run true Sep.init hist).1.curr = none)
    (bad : Nat × Nat) (hbad : Sep.Damaged bad) :
    Sep.deliveries (Sep.run true (Sep.run true Sep.init hist).1 ((wire p ck).set n bad)).2 = [] := by
  rw [Sep.run_eq true ((wire p ck).set n bad)]
  exact (Sep.laws true).fault (Sep.inv_run true hist (Sep.inv_init true)).1 hv hacc ck hck n hn
    (fun h => Or.inl (hidle h)) ⟨rfl, hbad⟩

/-- the single-byte fault the property speaks of is such a pair: one byte of the `n`-th pair received
    with its parity bit flipped -/
theorem sep_parity_flip_is_damaged (p : Packet) (hv : p.Valid) (ck : Nat) (hck : ck < 128) (n : Nat)
    (q : Nat × Nat) (hq : (wire p ck)[n]? = some q) (bad : Nat × Nat)
    (hbad : bad = (q.1 ^^^ 0x80, q.2) ∨ bad = (q.1, q.2 ^^^ 0x80)) : Sep.Damaged bad := by
  simp only [wire, List.getElem?_map, Option.map_eq_some_iff] at hq
  obtain ⟨q7, hq7, rfl⟩ := hq
  have hmem : q7 ∈ wire7 p ck := List.mem_of_getElem? hq7
  have hlt := wire7_lt p hv ck hck q7 hmem
  rcases hbad with rfl | rfl
  · exact Or.inl (Sep.flip_unreadable _ hlt.1)
  · exact Or.inr ⟨q7.1, unpar8_par8 _ hlt.1, Sep.wire7_c1 p hv ck q7 hmem, Sep.flip_unreadable _ hlt.2⟩

example : Sep.Damaged (0x43, 0x36) ∧ Sep.deliveries (Sep.run true Sep.init witnessParity).2 = [] := by
  refine ⟨Or.inr ⟨0x43, by decide +kernel, by decide, by decide +kernel⟩, by decide +kernel⟩

/-- oversize_not_delivered (xds_demux.c): in every reachable state a packet of an accepted (class, type)
    with more than 32 characters (any number) sent in one piece delivers nothing - not even a truncated
    packet - whatever the checksum byte. -/
theorem demux_oversize_not_delivered (rk : Bool) (hist : List (Nat × Nat)) (p : Packet)
    (hcls : p.cls < 7) (hsub : p.sub < 128) (hc : ∀ c ∈ p.payload, isChar c) (hlen : 32 < p.payload.length)
    (hacc : Demux.accepted p.cls p.sub) (ck : Nat) (hck : ck < 128) :
    Demux.deliveries (Demux.run rk (Demux.run rk Demux.init hist).1 (wire p ck)).2 = [] := by
  rw [Demux.run_eq rk (wire p ck)]
  exact (Demux.laws rk).oversize (Demux.inv_run rk hist Demux.inv_init).1 hcls hsub hc hlen hacc ck hck

example : Demux.deliveries (Demux.run true Demux.init (wire ⟨0, 3, List.replicate 33 0x41⟩
    (checksum ⟨0, 3, List.replicate 33 0x41⟩))).2 = [] ∧ (bodySum ⟨0, 3, List.replicate 33 0x41⟩ +
    checksum ⟨0, 3, List.replicate 33 0x41⟩) % 128 = 0 := by decide +kernel

/-- oversize_not_delivered (caption.c, either control flow) -/
theorem sep_oversize_not_delivered (ec : Bool) (hist : List (Nat × Nat)) (p : Packet)
    (hcls : p.cls < 7) (hsub : p.sub < 128) (hc : ∀ c ∈ p.payload, isChar c) (hlen : 32 < p.payload.length)
    (hacc : Sep.accepted p.cls p.sub) (ck : Nat) (hck : ck < 128) :
    Sep.deliveries (Sep.run ec (Sep.run ec Sep.init hist).1 (wire p ck)).2 = [] := by
  rw [Sep.run_eq ec (wire p ck)]
  exact (Sep.laws ec).oversize (Sep.inv_run ec hist (Sep.inv_init ec)).1 hcls hsub hc hlen hacc ck hck

example : Sep.deliveries (Sep.run true Sep.init (wire ⟨0, 3, List.replicate 40 0x41⟩
    (checksum ⟨0, 3, List.replicate 40 0x41⟩))).2 = [] := by decide +kernel


/-! ## the service decoder behind the separator (`Svc`: model of `xds_decoder`) -/

/-- prog_info_equals_packets, programme name, at the level of delivered packets (any decoder state):
    decoding a title packet (class current or future, type 3, at least 2 characters) stores exactly the
    packet's text (`xds_strfu`: leading blanks removed) as title, and every event raised while it is
    decoded is a PROG_INFO event of that class carrying that text. -/
theorem prog_info_title_faithful (v : Svc.State) (cls : Nat) (data : List Nat) (hn : 2 ≤ data.length) :
    ((Svc.feed v ⟨cls, 3, data⟩).1.pi cls).title = Svc.strfuText data ∧
    ∀ ev ∈ (Svc.feed v ⟨cls, 3, data⟩).2, ∃ e, ev = Svc.Ev.progInfo cls e ∧ e.title = Svc.strfuText data := by
  -- every branch ends in the epilogue, entered with the packet's text already stored
  have key : ∀ (w : Svc.State) (b : Bool), (w.pi cls).title = Svc.strfuText data →
      ((Svc.epilogue w cls 3 b).1.pi cls).title = Svc.strfuText data ∧
      ∀ ev ∈ (Svc.epilogue w cls 3 b).2, ∃ e, ev = Svc.Ev.progInfo cls e ∧ e.title = Svc.strfuText data :=
    fun w b hw => ⟨by rw [(Svc.epilogue_pi w cls 3 b).1]; exact hw, fun ev hev => ⟨_, (Svc.epilogue_pi w cls 3 b).2 ev hev, hw⟩⟩
  rw [Svc.feed_title v cls data hn]
  simp only []
  split
  · exact key _ _ (by simp)
  · split
    · exact key _ _ (by simp)
    · split <;> exact key _ _ (by simp)

example : Svc.strfuText [0x20, 0x20, 0x41, 0x10, 0x42] = [0x41, 0x20, 0x42] := by decide

/-- "announced after the documented repeat", programme name: a title packet whose text differs from
    the stored title raises nothing the first time, exactly one PROG_INFO event carrying the new text
    when it is repeated unchanged, and nothing at the third identical occurrence (any decoder state;
    a new title that is a proper prefix of the old one included - the seeded mutant C09-b breaks this). -/
theorem prog_info_title_second_occurrence (v : Svc.State) (cls : Nat) (data : List Nat) (hn : 2 ≤ data.length)
    (hneq : Svc.strfuText data ≠ (v.pi cls).title) :
    (Svc.feed v ⟨cls, 3, data⟩).2 = [] ∧
    (∃ e, (Svc.feed (Svc.feed v ⟨cls, 3, data⟩).1 ⟨cls, 3, data⟩).2 = [Svc.Ev.progInfo cls e] ∧
      e.title = Svc.strfuText data) ∧
    (Svc.feed (Svc.feed (Svc.feed v ⟨cls, 3, data⟩).1 ⟨cls, 3, data⟩).1 ⟨cls, 3, data⟩).2 = [] ∧
    ((Svc.feed (Svc.feed (Svc.feed v ⟨cls, 3, data⟩).1 ⟨cls, 3, data⟩).1 ⟨cls, 3, data⟩).1.pi cls).title =
      Svc.strfuText data := by
  have hb : (Svc.strfuText data != (v.pi cls).title) = true := by simpa using hneq
  have e1 : Svc.feed v ⟨cls, 3, data⟩ =
      ((v.setPi cls { v.pi cls with title := Svc.strfuText data }).setCyc cls (3 :: v.cyc cls), []) := by
    rw [Svc.feed_title v cls data hn]
    simp [hb, Svc.epilogue]
  rw [e1]
  refine ⟨rfl, ?_⟩
  generalize hv1 : (v.setPi cls { v.pi cls with title := Svc.strfuText data }).setCyc cls (3 :: v.cyc cls) = v1
  have t1 : (v1.pi cls).title = Svc.strfuText data := by rw [← hv1]; simp
  have c1 : (v1.cyc cls).contains 3 = true := by rw [← hv1]; simp
  have e2 : ∃ e v2, Svc.feed v1 ⟨cls, 3, data⟩ = (v2, [Svc.Ev.progInfo cls e]) ∧ e.title = Svc.strfuText data ∧
      (v2.pi cls).title = Svc.strfuText data ∧ v2.cyc cls = [] := by
    rw [Svc.feed_title v1 cls data hn]
    simp only [t1, bne_self_eq_false, Bool.false_eq_true, if_false, c1, Bool.not_true]
    by_cases hp : (v1.cyc cls).contains 1
    · simp only [hp, Bool.not_true, Bool.false_eq_true, if_false, Svc.epilogue, Svc.cyc_setPi, c1, if_true, Svc.pi_setPi]
      exact ⟨_, _, rfl, rfl, by simp, by simp⟩
    · simp only [hp, Bool.not_false, if_true, Svc.epilogue, Bool.false_eq_true, if_false, Svc.cyc_setCyc,
        List.contains_cons, beq_self_eq_true, Bool.true_or, Svc.pi_setCyc, Svc.pi_setPi]
      exact ⟨_, _, rfl, rfl, by simp, by simp⟩
  obtain ⟨e, v2, h2, he, t2, c2⟩ := e2
  rw [h2]
  refine ⟨⟨e, rfl, he⟩, ?_⟩
  have e3 : Svc.feed v2 ⟨cls, 3, data⟩ = (v2.setPi cls { v2.pi cls with title := Svc.strfuText data }, []) := by
    rw [Svc.feed_title v2 cls data hn]
    simp [t2, c2, Svc.epilogue]
  rw [e3]
  exact ⟨rfl, by simp⟩

/-- prog_info_equals_packets, programme name, end to end on the byte-pair stream: in every reachable
    state of the decoder (separator + service decoder after any history, either control flow), a valid
    title packet whose text differs from the stored title, transmitted twice in a row on line 284,
    raises exactly one event in total - PROG_INFO of its class carrying the packet's text. -/
theorem prog_info_equals_packets_title (ec : Bool) (hist : List (Nat × Nat)) (p : Packet) (hv : p.Valid)
    (hcls : p.cls ≤ 1) (hsub : p.sub = 3) (hn : 2 ≤ p.payload.length) :
    let st := (Svc.run ec (Sep.init, Svc.init) hist).1
    Svc.strfuText p.payload ≠ (st.2.pi p.cls).title →
    ∃ e, (Svc.run ec st (wire p (checksum p) ++ wire p (checksum p))).2 = [Svc.Ev.progInfo p.cls e] ∧
      e.title = Svc.strfuText p.payload := by
  intro st hneq
  have hacc : Sep.accepted p.cls p.sub := by
    simp only [Sep.accepted, sepClasses, sepSubclasses, hsub]; omega
  have hs : Sep.Inv ec st.1 := by
    have := Svc.run_sep ec hist Sep.init Svc.init
    simp only [st]; rw [this]; exact (Sep.inv_run ec hist (Sep.inv_init ec)).1
  have hd := Svc.deliveries_twice ec hs p hv hacc
  obtain ⟨_, g3⟩ := Svc.run_feedAll ec (wire p (checksum p) ++ wire p (checksum p)) st.1 st.2 (by
    rw [hd]; intro q hq
    simp only [List.mem_cons, List.not_mem_nil, or_false, or_self] at hq
    subst hq; exact hcls)
  have hst : st = (st.1, st.2) := rfl
  rw [hst, g3, hd]
  obtain ⟨t1, ⟨e, t2, t3⟩, _, _⟩ := prog_info_title_second_occurrence st.2 p.cls p.payload hn hneq
  refine ⟨e, ?_, t3⟩
  simp only [Svc.feedAll, Packet.toPkt, hsub, List.append_nil]
  rw [t1, t2]; rfl

example : (Svc.run true (Sep.init, Svc.init)
    (wire ⟨0, 3, [0x54, 0x56]⟩ (checksum ⟨0, 3, [0x54, 0x56]⟩) ++ wire ⟨0, 3, [0x54, 0x56]⟩ (checksum ⟨0, 3, [0x54, 0x56]⟩))).2
    = [Svc.Ev.progInfo 0 { title := [0x54, 0x56] }] := by decide +kernel

/-- prog_info_equals_packets, network name and call letters (any network state): decoding a network
    name packet stores the packet's text as name and keeps the call letters; a call-letters packet
    stores its text as call letters, raises no event and never resets the decoder. -/
theorem network_name_call_faithful (n : Sep.Net) (data : List Nat) :
    (Sep.netDecode n ⟨2, 1, data⟩).1.name = Svc.strfuText data ∧
    (Sep.netDecode n ⟨2, 1, data⟩).1.call = n.call ∧
    (Sep.netDecode n ⟨2, 2, data⟩).1.call = Svc.strfuText data ∧
    Svc.netEvents n ⟨2, 2, data⟩ = [] ∧ (Sep.netDecode n ⟨2, 2, data⟩).2 = false := by
  refine ⟨?_, ?_, ?_, if_neg (by decide : ¬((2 : Nat) = 2 ∧ (2 : Nat) = 1)), ?_⟩ <;>
    simp only [Svc.netDecode_name_eq, Svc.netDecode_call_eq, apply_ite Prod.fst, apply_ite Prod.snd, apply_ite Sep.Net.name,
      apply_ite Sep.Net.call, ite_self]

/-- "announced after the documented repeat", network name: a name packet whose text differs from the
    stored name raises nothing the first time; repeated unchanged it raises NETWORK_ID, preceded by
    NETWORK (new name, call letters, new station id) iff the station id changed; the third identical
    occurrence raises nothing. -/
theorem network_name_second_occurrence (n : Sep.Net) (data : List Nat) (hneq : Svc.strfuText data ≠ n.name) :
    let p : Pkt := ⟨2, 1, data⟩
    let n1 := (Sep.netDecode n p).1
    let n2 := (Sep.netDecode n1 p).1
    Svc.netEvents n p = [] ∧
    Svc.netEvents n1 p =
      (if n2.nuid != n.nuid then [Svc.Ev.network (Svc.strfuText data) n.call n2.nuid n.tapeDelay] else [])
        ++ [Svc.Ev.networkId] ∧
    Svc.netEvents n2 p = [] ∧ n2.name = Svc.strfuText data := by
  have hb : (Svc.strfuText data != n.name) = true := by simpa using hneq
  have e1 : Sep.netDecode n ⟨2, 1, data⟩ = ({ n with name := Svc.strfuText data, cycle := 1 }, false) := by
    rw [Svc.netDecode_name_eq, if_pos hb]
  -- the second occurrence finds the name unchanged and `cycle = 1`, and leaves `cycle = 3`
  have c2 : (Sep.netDecode { n with name := Svc.strfuText data, cycle := 1 } ⟨2, 1, data⟩).1.cycle = 3 := by
    simp only [Svc.netDecode_name_eq, bne_self_eq_false, Bool.false_eq_true, if_false, if_true,
      apply_ite Prod.fst, apply_ite Sep.Net.cycle, ite_self]
  simp only [e1]
  refine ⟨by rw [Svc.netEvents_name_eq, if_pos hb], ?_, ?_, (network_name_call_faithful _ data).1⟩
  · simp only [Svc.netEvents_name_eq, bne_self_eq_false, Bool.false_eq_true, if_false, if_true]
  · simp only [Svc.netEvents_name_eq, (network_name_call_faithful _ data).1, bne_self_eq_false, Bool.false_eq_true, if_false, c2,
      Nat.reduceEqDiff]

example : Svc.netEvents (Sep.netDecode {} ⟨2, 1, [0x41, 0x42, 0x43]⟩).1 ⟨2, 1, [0x41, 0x42, 0x43]⟩ =
    [Svc.Ev.network [0x41, 0x42, 0x43] [] 1835754624 0, Svc.Ev.networkId] := by decide +kernel


/-- "announced after the documented repeat" is FALSE for the programme type (packet type 4) on a tree
    in which `case 4` of `xds_decoder` declares its own `int neq`, which hides the variable the
    epilogue tests, so a programme-type packet - first, second or any later occurrence, changed or not -
    never raises PROG_INFO and never sets its bit in `info_cycle` (so the
    hypothesis that the bit is clear holds from `Svc.init` on); the type only rides along with an
    event another packet type triggers.  `Gen.Xds.svcTypeNeqShadowed` is read from the source
    (fixes/xds-prog-type-neq-shadow.diff removes the inner declaration). -/
theorem prog_info_type_never_announced_counterexample (h : svcTypeNeqShadowed = true)
    (v : Svc.State) (cls : Nat) (data : List Nat) (h4 : (v.cyc cls).contains 4 = false) :
    (Svc.feed v ⟨cls, 4, data⟩).2 = [] ∧ (Svc.feed v ⟨cls, 4, data⟩).1.cyc cls = v.cyc cls ∧
    (Svc.feed (Svc.feed v ⟨cls, 4, data⟩).1 ⟨cls, 4, data⟩).2 = [] := by
  have e : ∀ w : Svc.State, (w.cyc cls).contains 4 = false →
      (Svc.feed w ⟨cls, 4, data⟩).2 = [] ∧ (Svc.feed w ⟨cls, 4, data⟩).1.cyc cls = w.cyc cls := by
    intro w hw
    have hw' : ¬ 4 ∈ w.cyc cls := by simpa using hw
    simp [Svc.feed, h, Svc.epilogue, hw']
  obtain ⟨e1, e2⟩ := e v h4
  exact ⟨e1, e2, (e _ (by rw [e2]; exact h4)).1⟩

/-- the hypothesis on `info_cycle` holds in the initial state (the flag itself is whatever the source says) -/
example : (Svc.init.cyc 0).contains 4 = false ∧ (Svc.init.cyc 1).contains 4 = false := by decide

end Zvbi.Props.C09
