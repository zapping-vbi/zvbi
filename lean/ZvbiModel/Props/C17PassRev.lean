import ZvbiModel.Search.DirPasses
import ZvbiModel.Search.WitnessBase
import ZvbiModel.Search.Current
/-!
# C17, whole-pass exactness: REPEATED `vbi_search_next` calls in BACKWARD direction

Counterpart of `Props/C17Pass.lean` for `vbi_search_next (.., -1)`: over ANY number of successive backward calls on an
unchanging reachable cache, up to the first answer that is not SUCCESS,

* `search_pass_rev_sound`: every page reported contains the pattern (whole text, although a continued call searches
  only the text in front of the previous occurrence),
* `search_pass_rev_complete`: when that answer comes (NOT_FOUND), every cached level one page of a valid page number
  that contains the pattern has been reported,
* `search_pass_rev_ordered`: the pages are reported in DESCENDING page order from the start position of the pass
  (`passRankRev`: descending (page, sub-page) from the position `vbi_search_new` computes as "just before (P, S)" -
  `revStart` - wrapping once below 100.0 to 8FF.FFFF); equal ranks are the same page (`passRankRev_inj`), so every page
  is reported in one block (one report per occurrence) and never again,
* `search_exact_pass_rev` = the three together, `search_exact_pass_rev_repaired` on the repaired source shapes,
  `search_exact_pass_rev_repaired_any_shape` for every shape with an exact start look-up (e.g. `Shape.anchored`),
  `search_exact_pass_rev_current` on the shapes read from /repo on this run.

What the backward page search does, and why the whole-text statement holds: `rev_haystack_whole` (a page that is not the
start position - or is, while row[1] = LAST_ROW + 1 as a fresh pass has it - is searched as the very list
`search_page_fwd` builds), `rev_first_exec_flags` (the first `ure_exec` gets flags 0 there, in every source shape),
`rev_exec_loop_ends` (the repeated `ure_exec` ends for ANY matcher, and reports an occurrence iff the first exec found one).

Hypotheses: as for the forward pass (`NoWrap` = exclusion of C17-D2 for the store as found; `0 <= S <= 0xFFFF`; the
exclusion of C17-D7 for `sh.startExact = false` in completeness / order; `PgOk p` for the pages of the completeness part;
no hypothesis on the matcher).  No further hypothesis: S = 0x80, for which `vbi_search_new` computes the backward stop
sub-page number `(0x80 - 0x100) | 0x7E = -2` (the pass starts at the position (P, -2)), is covered.
Direction changes: `search_turn_rev_exact` covers a turn from forward to backward (backward calls on a context whose
direction is +1); `search_turn_fwd_exact` a turn from backward to forward.  Both are stated for the context at the turn (what the
per-call lemma `Zvbi.Search.Dir.pass_step` establishes after a SUCCESS); `search_pass_fwd_then_rev` composes the first with the
forward chain into one statement about the call sequence +1 (k times, all SUCCESS), -1 (n times) of a fresh search; `search_pass_rev_then_fwd` the mirror
sequence -1 (k times), +1 (n times); call sequences with several turns are not composed (the per-turn theorems apply to each turn's context).
-/
namespace Zvbi.Props.C17PassRev
open Zvbi.Search

/-- **rev_haystack_whole.** `search_page_rev` on a page without cursor (`row` = 100: the page is not the start
position; or `row` = row[1] >= 24, as `vbi_search_next` sets row[1] = LAST_ROW + 1 = 25 for a fresh pass): the haystack is
the whole page text - the same list `search_page_fwd` builds and `Matches` speaks about - and the flags variable ends as
0 (behind the last row separator). -/
theorem rev_haystack_whole (t : Text) (row col1 : Int) (hrow : 24 ≤ row) :
    hayRev t row col1 = ((hayFwd t (-1) 0).1, false) := hayRev_whole t row col1 hrow

example : hayRev abPage 100 0 = ((hayFwd abPage (-1) 0).1, false) := rev_haystack_whole _ _ _ (by decide)

/-- **rev_first_exec_flags.** The first `ure_exec` of `search_page_rev` on such a haystack gets the flags 0, in every
source shape (with or without the line anchor repair). -/
theorem rev_first_exec_flags (sh : Shape) (hay : List Nat) : revFlags sh hay false 0 = {} := revFlags_zero sh hay false

example : revFlags Shape.anchored [0x61, 0x0A] false 0 = {} := rev_first_exec_flags _ _

/-- **rev_exec_loop_ends.** The repeated `ure_exec` of `search_page_rev` (last occurrence in the haystack) ends for
every matcher - the model's fuel `hay.length + 2` is never exhausted - and its counter `i` is 0 ("no occurrence, try next
page") exactly when the first exec, on the whole haystack, found nothing. -/
theorem rev_exec_loop_ends (sh : Shape) (exec : Exec) (hay : List Nat) (ne : Bool) (hlen : hay.length ≠ 0) :
    ∃ i ms me, revMatches sh exec hay ne (hay.length + 2) 0 0 0 0 = some (i, ms, me) ∧
      (i = 0 ↔ exec (revFlags sh hay ne 0) hay = none) := revMatches_ends sh exec hay ne hlen

example : ∃ i ms me, revMatches Shape.repaired exAb [0x61, 0x62, 0x0A] false 5 0 0 0 0 = some (i, ms, me) ∧
    (i = 0 ↔ exAb (revFlags Shape.repaired [0x61, 0x62, 0x0A] false 0) [0x61, 0x62, 0x0A] = none) :=
  rev_exec_loop_ends Shape.repaired exAb [0x61, 0x62, 0x0A] false (by decide)

/-- **search_pass_rev_sound.** (whole backward pass, soundness)  A fresh search on any reachable cache (either store
shape, `NoWrap` = exclusion of C17-D2), any number `n` of successive `vbi_search_next (.., -1)` calls: every page reported
before the first answer other than SUCCESS is a cached level one page whose displayed text contains the pattern (the
matcher accepts the WHOLE text, although a continued call only searched in front of the previous occurrence).  Any
matcher, any source shape. -/
theorem search_pass_rev_sound (fix : Bool) (sh : Shape) (exec : Exec) (ops : List PutOp) (P S : Int) (s0 : SearchSt) (n : Nat)
    (hops : ∀ o ∈ ops, o.subno ≤ 0x3F7F) (hnw : NoWrap (buildF fix ops)) (hP : PgOk P) (hS : 0 ≤ S ∧ S ≤ 0xFFFF)
    (hnew : searchNew P S 1 = some s0) :
    ∀ r ∈ (runNexts sh exec (buildF fix ops) s0 (List.replicate n (-1))).takeWhile (fun r => r.1 = .ret SEARCH_SUCCESS),
      Matches exec (buildF fix ops) r.2.1 r.2.2 :=
  (Dir.fresh_pass .rev sh exec (reach_buildF fix ops hops hnw) P S s0 n hP hS hnew).sound

example : ∀ r ∈ (runNexts Shape.repaired exAb (buildF true [⟨0x100, 0, 0, abPage⟩, ⟨0x101, 0, 0, abPage⟩])
      { stopPgno0 := 0x100, stopSubno0 := 0, stopPgno1 := 0x8FF, stopSubno1 := 0x3F7E } (List.replicate 5 (-1))).takeWhile
        (fun r => r.1 = .ret SEARCH_SUCCESS),
    Matches exAb (buildF true [⟨0x100, 0, 0, abPage⟩, ⟨0x101, 0, 0, abPage⟩]) r.2.1 r.2.2 :=
  search_pass_rev_sound true Shape.repaired exAb _ 0x100 0 _ 5 (by decide) (noWrap_repaired _) ⟨by decide, by decide⟩
    ⟨by decide, by decide⟩ rfl

/-- **search_pass_rev_complete.** (whole backward pass, completeness)  Same setting: when one of the `n` calls answers
something other than SUCCESS (NOT_FOUND, or CACHE_EMPTY on an empty cache), every cached level one page with a page
number in 0x100..0x8FF whose text contains the pattern is among the pages reported before.  `hany` = exclusion of finding
C17-D7 in the unrepaired shape (void when `sh.startExact`). -/
theorem search_pass_rev_complete (fix : Bool) (sh : Shape) (exec : Exec) (ops : List PutOp) (P S : Int) (s0 : SearchSt) (n : Nat)
    (hops : ∀ o ∈ ops, o.subno ≤ 0x3F7F) (hnw : NoWrap (buildF fix ops)) (hP : PgOk P) (hS : 0 ≤ S ∧ S ≤ 0xFFFF)
    (hany : sh.startExact = true ∨ ∀ p, ∀ e ∈ ((buildF fix ops).slots p).chain, (e.subno : Int) ≠ ANY_SUBNO)
    (hnew : searchNew P S 1 = some s0)
    (hlen : ((runNexts sh exec (buildF fix ops) s0 (List.replicate n (-1))).takeWhile
      (fun r => r.1 = .ret SEARCH_SUCCESS)).length < n) :
    ∀ p s : Nat, PgOk p → Matches exec (buildF fix ops) p s →
      ∃ r ∈ (runNexts sh exec (buildF fix ops) s0 (List.replicate n (-1))).takeWhile (fun r => r.1 = .ret SEARCH_SUCCESS),
        r.2 = (p, s) :=
  fun p s hp hm => (Dir.fresh_pass .rev sh exec (reach_buildF fix ops hops hnw) P S s0 n hP hS hnew).complete hany hlen p s hp hm trivial

example (n : Nat)
    (hlen : ((runNexts Shape.repaired exAb (buildF true [⟨0x100, 0, 0, abPage⟩, ⟨0x101, 0, 0, abPage⟩])
      { stopPgno0 := 0x100, stopSubno0 := 0, stopPgno1 := 0x8FF, stopSubno1 := 0x3F7E } (List.replicate n (-1))).takeWhile
        (fun r => r.1 = .ret SEARCH_SUCCESS)).length < n) :
    ∀ p s : Nat, PgOk p → Matches exAb (buildF true [⟨0x100, 0, 0, abPage⟩, ⟨0x101, 0, 0, abPage⟩]) p s →
      ∃ r ∈ (runNexts Shape.repaired exAb (buildF true [⟨0x100, 0, 0, abPage⟩, ⟨0x101, 0, 0, abPage⟩])
        { stopPgno0 := 0x100, stopSubno0 := 0, stopPgno1 := 0x8FF, stopSubno1 := 0x3F7E } (List.replicate n (-1))).takeWhile
          (fun r => r.1 = .ret SEARCH_SUCCESS), r.2 = (p, s) :=
  search_pass_rev_complete true Shape.repaired exAb _ 0x100 0 _ n (by decide) (noWrap_repaired _) ⟨by decide, by decide⟩
    ⟨by decide, by decide⟩ (Or.inl rfl) rfl hlen

/-- **search_pass_rev_ordered.** (whole backward pass, order)  Same setting: the pages reported before the first answer
other than SUCCESS come in backward pass order: DESCENDING (page, sub-page) from the start position of the pass
(`revStart P S`, the position just before (P, S)), wrapping once below 100.0 to 8FF.FFFF.  Equal ranks are the same page
(`passRankRev_inj`), so every page is reported in one block (one report per occurrence: `search_page_rev` cuts the text
in front of the previous occurrence and reports the last occurrence of what is left) and never again. -/
theorem search_pass_rev_ordered (fix : Bool) (sh : Shape) (exec : Exec) (ops : List PutOp) (P S : Int) (s0 : SearchSt) (n : Nat)
    (hops : ∀ o ∈ ops, o.subno ≤ 0x3F7F) (hnw : NoWrap (buildF fix ops)) (hP : PgOk P) (hS : 0 ≤ S ∧ S ≤ 0xFFFF)
    (hany : sh.startExact = true ∨ ∀ p, ∀ e ∈ ((buildF fix ops).slots p).chain, (e.subno : Int) ≠ ANY_SUBNO)
    (hnew : searchNew P S 1 = some s0) :
    (((runNexts sh exec (buildF fix ops) s0 (List.replicate n (-1))).takeWhile (fun r => r.1 = .ret SEARCH_SUCCESS)).map
      (fun r => passRankRev P S r.2.1 r.2.2)).Pairwise (· ≤ ·) := by
  have h := (Dir.fresh_pass .rev sh exec (reach_buildF fix ops hops hnw) P S s0 n hP hS hnew).ordered hany
  simp only [Dir.rank_rev] at h
  exact h

example : (((runNexts Shape.repaired exAb (buildF true [⟨0x100, 0, 0, abPage⟩, ⟨0x101, 0, 0, abPage⟩])
      { stopPgno0 := 0x100, stopSubno0 := 0, stopPgno1 := 0x8FF, stopSubno1 := 0x3F7E } (List.replicate 5 (-1))).takeWhile
        (fun r => r.1 = .ret SEARCH_SUCCESS)).map (fun r => passRankRev 0x100 0 r.2.1 r.2.2)).Pairwise (· ≤ ·) :=
  search_pass_rev_ordered true Shape.repaired exAb _ 0x100 0 _ 5 (by decide) (noWrap_repaired _) ⟨by decide, by decide⟩
    ⟨by decide, by decide⟩ (Or.inl rfl) rfl

/-- **passRankRev_inj.** Two cached positions (valid page number, sub-page number of 16 bits) with the same backward
rank are the same page: `Pairwise (· ≤ ·)` of the ranks means one block of reports per page. -/
theorem passRankRev_inj {P S : Int} (hP : PgOk P) (hS : 0 ≤ S ∧ S ≤ 0xFFFF) {q t q' t' : Int}
    (hq : PgOk q) (ht : 0 ≤ t ∧ t < 65536) (hq' : PgOk q') (ht' : 0 ≤ t' ∧ t' < 65536)
    (h : passRankRev P S q t = passRankRev P S q' t') : q = q' ∧ t = t' := by
  unfold passRankRev at h
  rw [← Dir.rank_rev, ← Dir.rank_rev] at h
  exact Dir.key_inj ht ht' (Dir.rev.rank_inj (key_bounds hq ht) (key_bounds hq' ht') h)

example : passRankRev 0x100 0 0x101 0 = passRankRev 0x100 0 0x101 0 → (0x101 : Int) = 0x101 ∧ (0 : Int) = 0 :=
  fun h => passRankRev_inj ⟨by decide, by decide⟩ ⟨by decide, by decide⟩ ⟨by decide, by decide⟩
    ⟨by decide, by decide⟩ ⟨by decide, by decide⟩ ⟨by decide, by decide⟩ h

/-- **search_exact_pass_rev.** (backward counterpart of `Zvbi.Props.C17Pass.search_exact_pass`)  Over any number of
successive backward `vbi_search_next` calls on an unchanging reachable cache: the pages reported are exactly the matching
pages, in descending pass order, each in one block of consecutive reports, then NOT_FOUND. -/
theorem search_exact_pass_rev (fix : Bool) (sh : Shape) (exec : Exec) (ops : List PutOp) (P S : Int) (s0 : SearchSt) (n : Nat)
    (hops : ∀ o ∈ ops, o.subno ≤ 0x3F7F) (hnw : NoWrap (buildF fix ops)) (hP : PgOk P) (hS : 0 ≤ S ∧ S ≤ 0xFFFF)
    (hany : sh.startExact = true ∨ ∀ p, ∀ e ∈ ((buildF fix ops).slots p).chain, (e.subno : Int) ≠ ANY_SUBNO)
    (hnew : searchNew P S 1 = some s0) :
    let c := buildF fix ops
    let pass := (runNexts sh exec c s0 (List.replicate n (-1))).takeWhile (fun r => r.1 = .ret SEARCH_SUCCESS)
    (∀ r ∈ pass, Matches exec c r.2.1 r.2.2) ∧
    (pass.length < n → ∀ p s : Nat, PgOk p → Matches exec c p s → ∃ r ∈ pass, r.2 = (p, s)) ∧
    (pass.map (fun r => passRankRev P S r.2.1 r.2.2)).Pairwise (· ≤ ·) :=
  ⟨search_pass_rev_sound fix sh exec ops P S s0 n hops hnw hP hS hnew,
   search_pass_rev_complete fix sh exec ops P S s0 n hops hnw hP hS hany hnew,
   search_pass_rev_ordered fix sh exec ops P S s0 n hops hnw hP hS hany hnew⟩

example : ∀ r ∈ (runNexts Shape.unrepaired exAb (buildF false [⟨0x100, 0, 0, abPage⟩, ⟨0x101, 0, 0, abPage⟩])
      { stopPgno0 := 0x100, stopSubno0 := 0, stopPgno1 := 0x8FF, stopSubno1 := 0x3F7E } (List.replicate 5 (-1))).takeWhile
        (fun r => r.1 = .ret SEARCH_SUCCESS),
    Matches exAb (buildF false [⟨0x100, 0, 0, abPage⟩, ⟨0x101, 0, 0, abPage⟩]) r.2.1 r.2.2 :=
  (search_exact_pass_rev false Shape.unrepaired exAb _ 0x100 0 _ 5 (by decide) (noWrapF_of_few false _ (by decide))
    ⟨by decide, by decide⟩ ⟨by decide, by decide⟩
    (Or.inr (by
      intro p e he
      have : ∀ e ∈ ((buildF false [⟨0x100, 0, 0, abPage⟩, ⟨0x101, 0, 0, abPage⟩]).slots p).chain, e.subno = 0 := by
        intro e he
        by_cases h1 : p = 0x100
        · subst h1; revert e; decide
        · by_cases h2 : p = 0x101
          · subst h2; revert e; decide
          · exfalso
            have : ((buildF false [⟨0x100, 0, 0, abPage⟩, ⟨0x101, 0, 0, abPage⟩]).slots p).chain = [] := by
              simp [buildF, putF, put, putKey, isBcdPgno, nib, removeFirst, Cache.setSlot, Cache.empty, h1, h2]
            rw [this] at he; cases he
      rw [this e he]; decide)) rfl).1

/-- **search_exact_pass_rev_repaired.** The same on the repaired source shapes (store:
fixes/C10-put-replaces-all-versions.diff, walk start / turn: fixes/C17-turn-3f7f.diff): after EVERY history of page stores,
no exclusion left. -/
theorem search_exact_pass_rev_repaired (exec : Exec) (ops : List PutOp) (P S : Int) (s0 : SearchSt) (n : Nat)
    (hops : ∀ o ∈ ops, o.subno ≤ 0x3F7F) (hP : PgOk P) (hS : 0 ≤ S ∧ S ≤ 0xFFFF)
    (hnew : searchNew P S 1 = some s0) :
    let c := buildF true ops
    let pass := (runNexts Shape.repaired exec c s0 (List.replicate n (-1))).takeWhile (fun r => r.1 = .ret SEARCH_SUCCESS)
    (∀ r ∈ pass, Matches exec c r.2.1 r.2.2) ∧
    (pass.length < n → ∀ p s : Nat, PgOk p → Matches exec c p s → ∃ r ∈ pass, r.2 = (p, s)) ∧
    (pass.map (fun r => passRankRev P S r.2.1 r.2.2)).Pairwise (· ≤ ·) :=
  search_exact_pass_rev true Shape.repaired exec ops P S s0 n hops (noWrap_repaired ops) hP hS (Or.inl rfl) hnew

/-- non-vacuity: a backward search on a two page cache, five calls, search created for 100.0 (starts at 8FF.3F7E) -/
example : ∀ r ∈ (runNexts Shape.repaired exAb (buildF true [⟨0x100, 0, 0, abPage⟩, ⟨0x101, 0, 0, abPage⟩])
      { stopPgno0 := 0x100, stopSubno0 := 0, stopPgno1 := 0x8FF, stopSubno1 := 0x3F7E } (List.replicate 5 (-1))).takeWhile
        (fun r => r.1 = .ret SEARCH_SUCCESS),
    Matches exAb (buildF true [⟨0x100, 0, 0, abPage⟩, ⟨0x101, 0, 0, abPage⟩]) r.2.1 r.2.2 :=
  (search_exact_pass_rev_repaired exAb _ 0x100 0 _ 5 (by decide) ⟨by decide, by decide⟩ ⟨by decide, by decide⟩
    rfl).1

/-- non-vacuity in the corner S = 0x80: `vbi_search_new` stores the backward stop position (100, -2) -/
example : ∀ r ∈ (runNexts Shape.repaired exAb (buildF true [⟨0x100, 0, 0, abPage⟩, ⟨0x101, 0, 0, abPage⟩])
      { stopPgno0 := 0x100, stopSubno0 := 0x80, stopPgno1 := 0x100, stopSubno1 := -2 } (List.replicate 5 (-1))).takeWhile
        (fun r => r.1 = .ret SEARCH_SUCCESS),
    Matches exAb (buildF true [⟨0x100, 0, 0, abPage⟩, ⟨0x101, 0, 0, abPage⟩]) r.2.1 r.2.2 :=
  (search_exact_pass_rev_repaired exAb _ 0x100 0x80 _ 5 (by decide) ⟨by decide, by decide⟩ ⟨by decide, by decide⟩
    rfl).1

/-- **search_exact_pass_rev_repaired_any_shape.** The same for ANY shape of the D7 / anchor statements whose walk
start look-up is exact (`sh.startExact = true`: `Shape.repaired`, `Shape.anchored`, ...), repaired store. -/
theorem search_exact_pass_rev_repaired_any_shape (sh : Shape) (hsh : sh.startExact = true) (exec : Exec) (ops : List PutOp)
    (P S : Int) (s0 : SearchSt) (n : Nat)
    (hops : ∀ o ∈ ops, o.subno ≤ 0x3F7F) (hP : PgOk P) (hS : 0 ≤ S ∧ S ≤ 0xFFFF)
    (hnew : searchNew P S 1 = some s0) :
    let c := buildF true ops
    let pass := (runNexts sh exec c s0 (List.replicate n (-1))).takeWhile (fun r => r.1 = .ret SEARCH_SUCCESS)
    (∀ r ∈ pass, Matches exec c r.2.1 r.2.2) ∧
    (pass.length < n → ∀ p s : Nat, PgOk p → Matches exec c p s → ∃ r ∈ pass, r.2 = (p, s)) ∧
    (pass.map (fun r => passRankRev P S r.2.1 r.2.2)).Pairwise (· ≤ ·) :=
  search_exact_pass_rev true sh exec ops P S s0 n hops (noWrap_repaired ops) hP hS (Or.inl hsh) hnew

example : ∀ r ∈ (runNexts Shape.anchored exAb (buildF true [⟨0x100, 0, 0, abPage⟩])
      { stopPgno0 := 0x100, stopSubno0 := 0, stopPgno1 := 0x8FF, stopSubno1 := 0x3F7E } (List.replicate 3 (-1))).takeWhile
        (fun r => r.1 = .ret SEARCH_SUCCESS),
    Matches exAb (buildF true [⟨0x100, 0, 0, abPage⟩]) r.2.1 r.2.2 :=
  (search_exact_pass_rev_repaired_any_shape Shape.anchored rfl exAb _ 0x100 0 _ 3 (by decide) ⟨by decide, by decide⟩
    ⟨by decide, by decide⟩ rfl).1

/-- **search_exact_pass_rev_current.** The same for the source shapes of the CURRENT /repo, as the translators read
them on this run (`Shape.current`, `Zvbi.Gen.Cache.putReplacesAllVersions`).  An exclusion is a hypothesis only while the
corresponding repair is not in the source.  Proved without looking at the generated values. -/
theorem search_exact_pass_rev_current (exec : Exec) (ops : List PutOp) (P S : Int) (s0 : SearchSt) (n : Nat)
    (hops : ∀ o ∈ ops, o.subno ≤ 0x3F7F) (hP : PgOk P) (hS : 0 ≤ S ∧ S ≤ 0xFFFF)
    (hnw : Zvbi.Gen.Cache.putReplacesAllVersions = false → NoWrap (buildF Zvbi.Gen.Cache.putReplacesAllVersions ops))
    (hany : Shape.current.startExact = false →
      ∀ p, ∀ e ∈ ((buildF Zvbi.Gen.Cache.putReplacesAllVersions ops).slots p).chain, (e.subno : Int) ≠ ANY_SUBNO)
    (hnew : searchNew P S 1 = some s0) :
    let c := buildF Zvbi.Gen.Cache.putReplacesAllVersions ops
    let pass := (runNexts Shape.current exec c s0 (List.replicate n (-1))).takeWhile (fun r => r.1 = .ret SEARCH_SUCCESS)
    (∀ r ∈ pass, Matches exec c r.2.1 r.2.2) ∧
    (pass.length < n → ∀ p s : Nat, PgOk p → Matches exec c p s → ∃ r ∈ pass, r.2 = (p, s)) ∧
    (pass.map (fun r => passRankRev P S r.2.1 r.2.2)).Pairwise (· ≤ ·) :=
  search_exact_pass_rev _ Shape.current exec ops P S s0 n hops (noWrapF_of _ ops hnw) hP hS (noAnyCached_of _ hany) hnew

example (hnw : Zvbi.Gen.Cache.putReplacesAllVersions = false → NoWrap (buildF Zvbi.Gen.Cache.putReplacesAllVersions []))
    : ∀ r ∈ (runNexts Shape.current exAb (buildF Zvbi.Gen.Cache.putReplacesAllVersions [])
      { stopPgno0 := 0x100, stopSubno0 := 0, stopPgno1 := 0x8FF, stopSubno1 := 0x3F7E } (List.replicate 2 (-1))).takeWhile
        (fun r => r.1 = .ret SEARCH_SUCCESS),
    Matches exAb (buildF Zvbi.Gen.Cache.putReplacesAllVersions []) r.2.1 r.2.2 :=
  (search_exact_pass_rev_current exAb [] 0x100 0 _ 2 (by simp) ⟨by decide, by decide⟩ ⟨by decide, by decide⟩
    hnw (by intro _ p e he; simp [buildF, Cache.empty] at he) rfl).1

/-- **search_turn_rev_exact.** (a direction change: forward -> backward)  Backward calls on a search context whose
direction is +1, i.e. right after forward calls - `s` is any such context: start position (Q, T) = the page the last
forward call returned, on a valid page number, `T` of 16 bits (and no 0x3F7F in the source shape with the wildcard start
look-up: finding C17-D7 lives exactly here), and that page matches (what `Zvbi.Search.Dir.pass_step` gives for a forward
SUCCESS) or the cursor row[1] is below the page; `c'` = the cache as the forward calls left it (any cache `Equiv` to the
reachable one).  `vbi_search_next` installs (Q, T) as stop position and keeps the cursor; then, up to the first answer
other than SUCCESS: every page reported matches; when that answer comes, every matching page OTHER than (Q, T) has been
reported ((Q, T) itself is reported again only for occurrences in front of the one highlighted last - documented
behaviour, the text behind it is never searched backwards); the reports come in descending order from (Q, T), wrapping
once: a full circle back to (Q, T). -/
theorem search_turn_rev_exact (fix : Bool) (sh : Shape) (exec : Exec) (ops : List PutOp) (c' : Cache) (s : SearchSt) (n : Nat)
    (hops : ∀ o ∈ ops, o.subno ≤ 0x3F7F) (hnw : NoWrap (buildF fix ops)) (heq : Equiv (buildF fix ops) c')
    (hdir : s.dir = 1) (hpg : PgOk s.startPgno) (hsub : 0 ≤ s.startSubno ∧ s.startSubno < 65536)
    (hnoany : sh.startExact = true ∨ s.startSubno ≠ ANY_SUBNO)
    (hcur : 24 ≤ s.row1 ∨ MatchesIR exec (buildF fix ops) s.startPgno s.startSubno)
    (hany : sh.startExact = true ∨ ∀ p, ∀ e ∈ ((buildF fix ops).slots p).chain, (e.subno : Int) ≠ ANY_SUBNO) :
    let c := buildF fix ops
    let pass := (runNexts sh exec c' s (List.replicate n (-1))).takeWhile (fun r => r.1 = .ret SEARCH_SUCCESS)
    (∀ r ∈ pass, Matches exec c r.2.1 r.2.2) ∧
    (pass.length < n → ∀ p t : Nat, PgOk p → Matches exec c p t → ((p : Int), (t : Int)) ≠ (s.startPgno, s.startSubno) →
      ∃ r ∈ pass, r.2 = (p, t)) ∧
    (pass.map (fun r => rkR (key s.startPgno s.startSubno) (key r.2.1 r.2.2))).Pairwise (· ≤ ·) := by
  have h := Dir.turn_pass .rev sh exec (reach_buildF fix ops hops hnw) c' s n heq (by rw [hdir]; rfl) hpg hsub hnoany (fun h => nomatch h)
    (hcur.imp id matchesIR_iff.mp)
  refine ⟨h.sound, h.complete hany, ?_⟩
  have h3 := h.ordered hany
  simp only [Dir.rank_rev] at h3
  exact h3

/-- non-vacuity: a context as two forward calls leave it (direction +1, standing on 101.0, cursor row[1] untouched) -/
example : ∀ r ∈ (runNexts Shape.repaired exAb (buildF true [⟨0x100, 0, 0, abPage⟩, ⟨0x101, 0, 0, abPage⟩])
      { startPgno := 0x101, startSubno := 0, stopPgno0 := 0x100, stopSubno0 := 0, stopPgno1 := 0x8FF, stopSubno1 := 0x3F7E,
        row0 := 3, col0 := 5, row1 := 25, col1 := 0, dir := 1 } (List.replicate 4 (-1))).takeWhile
        (fun r => r.1 = .ret SEARCH_SUCCESS),
    Matches exAb (buildF true [⟨0x100, 0, 0, abPage⟩, ⟨0x101, 0, 0, abPage⟩]) r.2.1 r.2.2 :=
  (search_turn_rev_exact true Shape.repaired exAb _ _ _ 4 (by decide) (noWrap_repaired _) (Equiv.refl _) rfl
    ⟨by decide, by decide⟩ ⟨by decide, by decide⟩ (Or.inl rfl) (Or.inl (by decide)) (Or.inl rfl)).1

/-- **search_turn_fwd_exact.** (a direction change: backward -> forward)  Forward calls on a search context whose
direction is -1, i.e. right after backward calls; `s` any such context: start position (Q, T) = the page the last backward
call returned, valid page number, `T` of 16 bits, not 0x3F7F in a source shape that reads it as the wildcard (start
look-up `startExact = false`, or the turn statement `turnKeeps = false`: finding C17-D7), and that page matches or the
cursor (row[0], col[0]) is at the top of the page.  `vbi_search_next` installs (Q, T) as stop position; then, up to the
first answer other than SUCCESS: every page reported matches; when that answer comes, every matching page OTHER than (Q, T)
has been reported; the reports come in ascending order from (Q, T), wrapping once. -/
theorem search_turn_fwd_exact (fix : Bool) (sh : Shape) (exec : Exec) (ops : List PutOp) (c' : Cache) (s : SearchSt) (n : Nat)
    (hops : ∀ o ∈ ops, o.subno ≤ 0x3F7F) (hnw : NoWrap (buildF fix ops)) (heq : Equiv (buildF fix ops) c')
    (hdir : s.dir = -1) (hpg : PgOk s.startPgno) (hsub : 0 ≤ s.startSubno ∧ s.startSubno < 65536)
    (hnoany : sh.startExact = true ∨ s.startSubno ≠ ANY_SUBNO)
    (hkeep : sh.turnKeeps = true ∨ s.startSubno ≠ ANY_SUBNO)
    (hcur : (s.row0 = 1 ∧ s.col0 = 0) ∨ MatchesI exec (buildF fix ops) s.startPgno s.startSubno)
    (hany : sh.startExact = true ∨ ∀ p, ∀ e ∈ ((buildF fix ops).slots p).chain, (e.subno : Int) ≠ ANY_SUBNO) :
    let c := buildF fix ops
    let pass := (runNexts sh exec c' s (List.replicate n 1)).takeWhile (fun r => r.1 = .ret SEARCH_SUCCESS)
    (∀ r ∈ pass, Matches exec c r.2.1 r.2.2) ∧
    (pass.length < n → ∀ p t : Nat, PgOk p → Matches exec c p t → ((p : Int), (t : Int)) ≠ (s.startPgno, s.startSubno) →
      ∃ r ∈ pass, r.2 = (p, t)) ∧
    (pass.map (fun r => passRank s.startPgno s.startSubno r.2.1 r.2.2)).Pairwise (· ≤ ·) := by
  have h := Dir.turn_pass .fwd sh exec (reach_buildF fix ops hops hnw) c' s n heq (by rw [hdir]; rfl) hpg hsub hnoany (fun _ => hkeep) hcur
  refine ⟨h.sound, h.complete hany, ?_⟩
  have h3 := h.ordered hany
  simp only [Dir.rank_fwd] at h3
  exact h3

/-- non-vacuity: a context as two backward calls leave it (direction -1, standing on 100.0, cursor row[0] at the top) -/
example : ∀ r ∈ (runNexts Shape.repaired exAb (buildF true [⟨0x100, 0, 0, abPage⟩, ⟨0x101, 0, 0, abPage⟩])
      { startPgno := 0x100, startSubno := 0, stopPgno0 := 0x100, stopSubno0 := 0, stopPgno1 := 0x8FF, stopSubno1 := 0x3F7E,
        row0 := 1, col0 := 0, row1 := 3, col1 := 3, dir := -1 } (List.replicate 4 1)).takeWhile
        (fun r => r.1 = .ret SEARCH_SUCCESS),
    Matches exAb (buildF true [⟨0x100, 0, 0, abPage⟩, ⟨0x101, 0, 0, abPage⟩]) r.2.1 r.2.2 :=
  (search_turn_fwd_exact true Shape.repaired exAb _ _ _ 4 (by decide) (noWrap_repaired _) (Equiv.refl _) rfl
    ⟨by decide, by decide⟩ ⟨by decide, by decide⟩ (Or.inl rfl) (Or.inl rfl) (Or.inl ⟨rfl, rfl⟩) (Or.inl rfl)).1

/-- **search_pass_fwd_then_rev.** (one statement over a call sequence with a direction change)  A fresh search on a
reachable cache, `k >= 1` forward calls that all answer SUCCESS, then `n` backward calls.  `sk` = cache and search context
after the forward calls (`runFinal`); its start position is the page reported last (`Zvbi.Search.Dir.pass_step`).  The answers
of the whole sequence are those of the forward calls followed by `back`; in `back`, up to the first answer other than
SUCCESS: every page reported matches; when that answer comes, every matching page other than the turn page has been
reported; the reports descend from the turn page, wrapping once. -/
theorem search_pass_fwd_then_rev (fix : Bool) (sh : Shape) (exec : Exec) (ops : List PutOp) (P S : Int) (s0 : SearchSt) (k n : Nat)
    (hops : ∀ o ∈ ops, o.subno ≤ 0x3F7F) (hnw : NoWrap (buildF fix ops)) (hP : PgOk P) (hS : 0 ≤ S ∧ S ≤ 0xFFFF)
    (hany : sh.startExact = true ∨ ∀ p, ∀ e ∈ ((buildF fix ops).slots p).chain, (e.subno : Int) ≠ ANY_SUBNO)
    (hnew : searchNew P S 1 = some s0) (hk : 1 ≤ k)
    (hall : ∀ r ∈ runNexts sh exec (buildF fix ops) s0 (List.replicate k 1), r.1 = .ret SEARCH_SUCCESS) :
    let c := buildF fix ops
    let sk := runFinal sh exec c s0 (List.replicate k 1)
    let back := runNexts sh exec sk.1 sk.2 (List.replicate n (-1))
    let pass := back.takeWhile (fun r => r.1 = .ret SEARCH_SUCCESS)
    runNexts sh exec c s0 (List.replicate k 1 ++ List.replicate n (-1)) =
      runNexts sh exec c s0 (List.replicate k 1) ++ back ∧
    (∀ r ∈ pass, Matches exec c r.2.1 r.2.2) ∧
    (pass.length < n → ∀ p t : Nat, PgOk p → Matches exec c p t →
      ((p : Int), (t : Int)) ≠ (sk.2.startPgno, sk.2.startSubno) → ∃ r ∈ pass, r.2 = (p, t)) ∧
    (pass.map (fun r => rkR (key sk.2.startPgno sk.2.startSubno) (key r.2.1 r.2.2))).Pairwise (· ≤ ·) := by
  obtain ⟨g1, g2, g3, g4, hm⟩ := Dir.fresh_successes .fwd sh exec (reach_buildF fix ops hops hnw) P S s0 k hP hS hany hnew hk hall rfl
  exact ⟨runNexts_append sh exec _ _ _ _, search_turn_rev_exact fix sh exec ops _ _ n hops hnw g1 g2 g3
    (lookupX_small (reach_buildF fix ops hops hnw) hm.choose_spec.1) g4 (Or.inr hm) hany⟩

example (hall : ∀ r ∈ runNexts Shape.repaired exAb (buildF true [⟨0x100, 0, 0, abPage⟩, ⟨0x101, 0, 0, abPage⟩])
      { stopPgno0 := 0x100, stopSubno0 := 0, stopPgno1 := 0x8FF, stopSubno1 := 0x3F7E } (List.replicate 2 1),
      r.1 = .ret SEARCH_SUCCESS) :
    runNexts Shape.repaired exAb (buildF true [⟨0x100, 0, 0, abPage⟩, ⟨0x101, 0, 0, abPage⟩])
      { stopPgno0 := 0x100, stopSubno0 := 0, stopPgno1 := 0x8FF, stopSubno1 := 0x3F7E }
      (List.replicate 2 1 ++ List.replicate 3 (-1)) =
    runNexts Shape.repaired exAb (buildF true [⟨0x100, 0, 0, abPage⟩, ⟨0x101, 0, 0, abPage⟩])
      { stopPgno0 := 0x100, stopSubno0 := 0, stopPgno1 := 0x8FF, stopSubno1 := 0x3F7E } (List.replicate 2 1) ++
    runNexts Shape.repaired exAb
      (runFinal Shape.repaired exAb (buildF true [⟨0x100, 0, 0, abPage⟩, ⟨0x101, 0, 0, abPage⟩])
        { stopPgno0 := 0x100, stopSubno0 := 0, stopPgno1 := 0x8FF, stopSubno1 := 0x3F7E } (List.replicate 2 1)).1
      (runFinal Shape.repaired exAb (buildF true [⟨0x100, 0, 0, abPage⟩, ⟨0x101, 0, 0, abPage⟩])
        { stopPgno0 := 0x100, stopSubno0 := 0, stopPgno1 := 0x8FF, stopSubno1 := 0x3F7E } (List.replicate 2 1)).2
      (List.replicate 3 (-1)) :=
  (search_pass_fwd_then_rev true Shape.repaired exAb _ 0x100 0 _ 2 3 (by decide) (noWrap_repaired _) ⟨by decide, by decide⟩
    ⟨by decide, by decide⟩ (Or.inl rfl) rfl (by decide) hall).1

/-- **search_pass_rev_then_fwd.** (the mirror call sequence)  A fresh search, `k >= 1` backward calls that all answer
SUCCESS, then `n` forward calls: the answers are those of the backward calls followed by `fwd`; in `fwd`, up to the first
answer other than SUCCESS: every page reported matches; when that answer comes, every matching page other than the turn
page has been reported; the reports ascend from the turn page, wrapping once.  `hany2`: in the source shape whose turn
statement reads 0x3F7F as the wildcard (`turnKeeps = false`, finding C17-D7) no cached page has that sub-page number. -/
theorem search_pass_rev_then_fwd (fix : Bool) (sh : Shape) (exec : Exec) (ops : List PutOp) (P S : Int) (s0 : SearchSt) (k n : Nat)
    (hops : ∀ o ∈ ops, o.subno ≤ 0x3F7F) (hnw : NoWrap (buildF fix ops)) (hP : PgOk P) (hS : 0 ≤ S ∧ S ≤ 0xFFFF)
    (hany : sh.startExact = true ∨ ∀ p, ∀ e ∈ ((buildF fix ops).slots p).chain, (e.subno : Int) ≠ ANY_SUBNO)
    (hany2 : sh.turnKeeps = true ∨ ∀ p, ∀ e ∈ ((buildF fix ops).slots p).chain, (e.subno : Int) ≠ ANY_SUBNO)
    (hnew : searchNew P S 1 = some s0) (hk : 1 ≤ k)
    (hall : ∀ r ∈ runNexts sh exec (buildF fix ops) s0 (List.replicate k (-1)), r.1 = .ret SEARCH_SUCCESS) :
    let c := buildF fix ops
    let sk := runFinal sh exec c s0 (List.replicate k (-1))
    let fwd := runNexts sh exec sk.1 sk.2 (List.replicate n 1)
    let pass := fwd.takeWhile (fun r => r.1 = .ret SEARCH_SUCCESS)
    runNexts sh exec c s0 (List.replicate k (-1) ++ List.replicate n 1) =
      runNexts sh exec c s0 (List.replicate k (-1)) ++ fwd ∧
    (∀ r ∈ pass, Matches exec c r.2.1 r.2.2) ∧
    (pass.length < n → ∀ p t : Nat, PgOk p → Matches exec c p t →
      ((p : Int), (t : Int)) ≠ (sk.2.startPgno, sk.2.startSubno) → ∃ r ∈ pass, r.2 = (p, t)) ∧
    (pass.map (fun r => passRank sk.2.startPgno sk.2.startSubno r.2.1 r.2.2)).Pairwise (· ≤ ·) := by
  obtain ⟨g1, g2, g3, g4, hm⟩ := Dir.fresh_successes .rev sh exec (reach_buildF fix ops hops hnw) P S s0 k hP hS hany hnew hk hall rfl
  obtain ⟨e, hle, _, _⟩ := id hm
  have hkeep : sh.turnKeeps = true ∨
      (runFinal sh exec (buildF fix ops) s0 (List.replicate k (-1))).2.startSubno ≠ ANY_SUBNO :=
    hany2.imp id fun h => by have := h _ e (lookupX_mem hle); rw [lookupX_subno hle] at this; exact this
  exact ⟨runNexts_append sh exec _ _ _ _,
    search_turn_fwd_exact fix sh exec ops _ _ n hops hnw g1 g2 g3 (lookupX_small (reach_buildF fix ops hops hnw) hle) g4
      hkeep (Or.inr hm) hany⟩

example (hall : ∀ r ∈ runNexts Shape.repaired exAb (buildF true [⟨0x100, 0, 0, abPage⟩, ⟨0x101, 0, 0, abPage⟩])
      { stopPgno0 := 0x100, stopSubno0 := 0, stopPgno1 := 0x8FF, stopSubno1 := 0x3F7E } (List.replicate 2 (-1)),
      r.1 = .ret SEARCH_SUCCESS) :
    ∀ r ∈ (runNexts Shape.repaired exAb
      (runFinal Shape.repaired exAb (buildF true [⟨0x100, 0, 0, abPage⟩, ⟨0x101, 0, 0, abPage⟩])
        { stopPgno0 := 0x100, stopSubno0 := 0, stopPgno1 := 0x8FF, stopSubno1 := 0x3F7E } (List.replicate 2 (-1))).1
      (runFinal Shape.repaired exAb (buildF true [⟨0x100, 0, 0, abPage⟩, ⟨0x101, 0, 0, abPage⟩])
        { stopPgno0 := 0x100, stopSubno0 := 0, stopPgno1 := 0x8FF, stopSubno1 := 0x3F7E } (List.replicate 2 (-1))).2
      (List.replicate 3 1)).takeWhile (fun r => r.1 = .ret SEARCH_SUCCESS),
    Matches exAb (buildF true [⟨0x100, 0, 0, abPage⟩, ⟨0x101, 0, 0, abPage⟩]) r.2.1 r.2.2 :=
  (search_pass_rev_then_fwd true Shape.repaired exAb _ 0x100 0 _ 2 3 (by decide) (noWrap_repaired _) ⟨by decide, by decide⟩
    ⟨by decide, by decide⟩ (Or.inl rfl) (Or.inl rfl) rfl (by decide) hall).2.1

end Zvbi.Props.C17PassRev
