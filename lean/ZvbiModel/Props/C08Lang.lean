import ZvbiModel.Cc.LangLemmas
import ZvbiModel.Cc.Model
/-!
# C08, continued - `vbi_caption_unicode()` of src/lang.c against the character tables of the standard

Property theorems only.  Model `Cc/Lang.lean` (the function statement by statement; tables, comparison constants,
channel-bit mask and index offsets regenerated from lang.c by translate/gen_cclang.py on every run), reference
`Cc/SpecChars.lean` (`Eia608.Chars`: the repertoire of 47 CFR 15.119 (g) and EIA-608-B 6.4.2 typed as characters).
All `decide`s below run over the COMPLETE finite domain named in the statement.
-/
namespace Zvbi.Props.C08Lang
open Zvbi.Cc Zvbi.Gen.CcLang Zvbi.Eia608

/-- **caption_unicode_in_bounds.**  For EVERY argument `c` (not only 32-bit ones) and both values of `to_upper` no
table of lang.c is indexed outside its declared extent and no unsigned index subtraction wraps: each `return
table[c - off][to_upper]` is guarded by comparisons that put `c - off` inside the table (the comparison constants,
the offsets and the extents are all read from the source). -/
theorem caption_unicode_in_bounds (c : Nat) (up : Bool) : (Lang.captionUnicode c up).isSome = true := by
  rcases Lang.captionUnicode_cases c with h | ⟨t, c', off, _, h1, h2, h⟩
  · rw [h]; rfl
  · rw [h]; exact Lang.look_isSome t c' off up h1 h2

example : Lang.captionUnicode 0x41 false = some 0x41 ∧ Lang.captionUnicode 0x1137 false = some 0x266A ∧
    Lang.captionUnicode 0x1A25 true = some 0xDC ∧ Lang.captionUnicode 0x1B3F false = some 0x2518 := by decide

/-- **caption_unicode_standard.**  Every printable code maps to the character the standard's chart shows:
(1) basic set: each single byte 0x20..0x7F (15.119 (g), ASCII with ten substitutions);
(2) every two-byte code `c1 c2` (first byte without parity below 0x20, second below 0x80) that the standard assigns a
    special character (0x11/0x19 0x30..0x3F) or an extended character (0x12/0x1A, 0x13/0x1B 0x20..0x3F), for both values
    of the channel bit - with the ONE exception of 0x12/0x1A 0x2A, see `caption_unicode_em_dash`;
(3) every other two-byte code with a first byte 0x01..0x1F gives 0 ("not a character").
`c1 c2` is passed as `c1 << 8 | c2`, as caption.c and cc608_decoder.c do. -/
theorem caption_unicode_standard :
    (∀ c < 0x80, 0x20 ≤ c → Lang.captionUnicode c false = some (Chars.basic c)) ∧
    (∀ c1 < 0x20, ∀ c2 < 0x80, ∀ u, Chars.ofPair c1 c2 = some u → ¬ (c1 &&& 0x77 = 0x12 ∧ c2 = 0x2A) →
      Lang.captionUnicode ((c1 <<< 8) ||| c2) false = some u) ∧
    (∀ c1 < 0x20, ∀ c2 < 0x80, 1 ≤ c1 → Chars.ofPair c1 c2 = none →
      Lang.captionUnicode ((c1 <<< 8) ||| c2) false = some 0) := by
  -- one sweep over the 32 x 128 two-byte codes serves (2) and (3)
  have key : ∀ c1 < 0x20, ∀ c2 < 0x80,
      (c1 = 0 ∧ Chars.ofPair c1 c2 = none) ∨ ((c1 &&& 0x77 = 0x12 ∧ c2 = 0x2A) ∧ (Chars.ofPair c1 c2).isSome = true) ∨
      Lang.captionUnicode ((c1 <<< 8) ||| c2) false = some ((Chars.ofPair c1 c2).getD 0) := by decide +kernel
  refine ⟨by decide +kernel, fun c1 h1 c2 h2 u hu hn => ?_, fun c1 h1 c2 h2 h0 hu => ?_⟩ <;>
    rcases key c1 h1 c2 h2 with ⟨e0, e⟩ | ⟨e, hs⟩ | e
  · rw [e] at hu; cases hu
  · exact absurd e hn
  · rw [e, hu]; rfl
  · omega
  · rw [hu] at hs; cases hs
  · rw [e, hu]; rfl

/-- the three classes of (2)/(3) are inhabited: a special character, an extended character on the second channel, a
non-character -/
example : Chars.ofPair 0x11 0x37 = some 0x266A ∧ Chars.ofPair 0x1B 0x34 = some 0xDF ∧ Chars.ofPair 0x14 0x2C = none := by
  decide

/-- **caption_unicode_em_dash** (deviation, cosmetic).  For 0x12 0x2A - "em dash" in EIA-608-B 6.4.2 - lang.c returns
U+2500 BOX DRAWINGS LIGHT HORIZONTAL (its comment: "Em dash (for box drawing)": the cell is meant to join the corner
pieces 0x13 0x3C..0x3F, which lang.c maps to U+250C.. as the reference does), the reference U+2014 EM DASH.  The two
differ in text export / search, not visibly on screen.  This is the only cell where the tables differ. -/
theorem caption_unicode_em_dash :
    Lang.captionUnicode 0x122A false = some 0x2500 ∧ Lang.captionUnicode 0x1A2A false = some 0x2500 ∧
    Chars.ofPair 0x12 0x2A = some 0x2014 := by decide

/-- **caption_unicode_upper.**  The `to_upper` column is the upper-casing of the other column: for EVERY argument `c` the
result with `to_upper` is the Latin-1 upper case of the result without (a..z and the accented letters 0xE0..0xFE except
the division sign move down by 0x20, everything else - digits, symbols, sharp s, capital letters, box drawing, the
"not a character" 0 - stays).  From the same fact about each of the 176 table rows (complete `decide`). -/
theorem caption_unicode_upper (c : Nat) :
    Lang.captionUnicode c true = (Lang.captionUnicode c false).map Chars.upper := by
  have ht : ∀ t ∈ [capBasic, capSpecial, capExt2, capExt3], ∀ p ∈ t, p.2 = Chars.upper p.1 := by decide
  rcases Lang.captionUnicode_cases c with h | ⟨t, c', off, hm, _, _, h⟩
  · rw [h, h]; rfl
  · rw [h, h]; exact Lang.look_upper t (ht t hm) _ _

example : Lang.captionUnicode 0x1225 false = some 0xFC ∧ Lang.captionUnicode 0x1225 true = some 0xDC := by decide

/-- **caption_unicode_channel_bit.**  Bit 3 of the first byte (the data channel; bit 11 of the code) does not select
the character: for every two-byte code with a first byte 0x10..0x1F and a 7-bit second byte, and both columns, the
result is the same with the bit flipped. -/
theorem caption_unicode_channel_bit :
    ∀ c1 < 0x20, 0x10 ≤ c1 → ∀ c2 < 0x80, ∀ up : Bool,
      Lang.captionUnicode (((c1 ^^^ 8) <<< 8) ||| c2) up = Lang.captionUnicode ((c1 <<< 8) ||| c2) up := by
  -- both codes lie above the basic set, where the function reads its argument only through `clearMask`
  have key : ∀ c1 < 0x20, 0x10 ≤ c1 → ∀ c2 < 0x80,
      ¬ ((c1 ^^^ 8) <<< 8) ||| c2 < basicHi ∧ ¬ (c1 <<< 8) ||| c2 < basicHi ∧
      Lang.clearMask (((c1 ^^^ 8) <<< 8) ||| c2) = Lang.clearMask ((c1 <<< 8) ||| c2) := by decide +kernel
  intro c1 h1 h0 c2 h2 up
  obtain ⟨a, b, e⟩ := key c1 h1 h0 c2 h2
  unfold Lang.captionUnicode
  rw [if_neg a, if_neg b, e]

example : Lang.captionUnicode 0x1A25 false = Lang.captionUnicode 0x1225 false := by decide

/-- **decoder_uses_caption_unicode.**  The function the caption decoder model calls (`Cc.captionUnicode`, built on the
tables of `Generated/CcConsts.lean`) is `vbi_caption_unicode (c, FALSE)` on the two ranges caption.c passes: a data byte
0x20..0x7F and `0x1130 | (c2 & 15)`. -/
theorem decoder_uses_caption_unicode :
    (∀ c < 0x80, 0x20 ≤ c → some (Cc.captionUnicode c) = Lang.captionUnicode c false) ∧
    (∀ k < 16, some (Cc.captionUnicode (0x1130 ||| k)) = Lang.captionUnicode (0x1130 ||| k) false) := by
  constructor <;> decide +kernel

example : Cc.captionUnicode 0x1137 = 0x266A := by decide

end Zvbi.Props.C08Lang
