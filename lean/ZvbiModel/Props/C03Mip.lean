import ZvbiModel.Ttx.MipFlip
/-!
# C03 - the Magazine Inventory Page: a corrected bit error is invisible where the MIP is decoded

Property theorems only (model `ZvbiModel/Ttx/Model.lean`, helper lemmas `ZvbiModel/Ttx/MipFlip.lean`).

`Props/C03.single_error_invisible` says: one flipped bit in a Hamming protected, valid position of
a packet leaves state and events of `decodeTeletext` unchanged.  Rows 1..25 of a page of function
MIP (page number xFD) are NOT covered by it: `processRow` stores their 40 bytes verbatim
(`memcpy (cvtp->data.unknown.raw[packet], p, 40)`, packet.c:2622 ff.), so for the decoder they are
raw positions, the stored byte differs and with it the decoder state.  The bytes are read through
`vbi_unham8` / `vbi_unham16p` only when the next header terminates the page (`parse_mip`,
packet.c:617, called at packet.c:2311).  The theorems below state the error correction at that
level: the decoded MIP - page types, subcodes, subtitle character sets in the network's page
statistics, and the cache look-ups made on the way - is the same.

A MIP page is never handed to `_vbi_cache_put_page`: the FN_MIP branch of `terminatePage` consists of
`parse_mip` alone (`terminatePage_mip`, Ttx/Branches.lean), so the stored copy with the flipped bit
dies with the assembly slot (its function becomes DISCARD) and is not observable later.
-/
namespace Zvbi.Props.C03Mip
open Zvbi.Ttx Zvbi.Ttx.Spec Zvbi.Hamm Zvbi.Gen

/-- `parse_mip` reads a MIP page only through its page number, the mask of received packets and
    the Hamming 8/4 view (`vbi_unham8` of each of the 40 bytes) of its stored rows: two pages which
    agree in these give the same network record and the same list of cache look-ups / faults. -/
theorem mip_rows_read_through_hamming (n : Net) (vtp vtp' : Page) (hp : vtp.pgno = vtp'.pgno)
    (hl : vtp.lopPackets = vtp'.lopPackets)
    (H : ∀ k, rowView .rowH8 (vtp.raw.getD k zeroRow) = rowView .rowH8 (vtp'.raw.getD k zeroRow)) :
    parseMip n vtp = parseMip n vtp' :=
  parseMip_congr n vtp vtp' hp hl H

/-- non-vacuity: packet 1 of MIP 1FD received, entry of page 100 = 0x70 (subtitle page); the stored
    byte 0x2F (nibble 7) and the damaged byte 0x2B give different rows but the same Hamming 8/4 view
    (so the theorem applies), and the decoded MIP is not trivial: the cache is asked for page 100
    (to choose its character set), page 100 becomes a subtitle page -/
example :
    rowView .rowH8 ([0x15, 0x2B] ++ List.replicate 38 0x15) = rowView .rowH8 ([0x15, 0x2F] ++ List.replicate 38 0x15)
    ∧ (parseMip init.net { Page.zero with function := FN_MIP, pgno := 0x1FD, lopPackets := 2
                                          raw := (List.replicate 26 zeroRow).set 1 ([0x15, 0x2B] ++ List.replicate 38 0x15) }).2
        = [Aux.touch 0x100 0 0]
    ∧ ((parseMip init.net { Page.zero with function := FN_MIP, pgno := 0x1FD, lopPackets := 2
                                           raw := (List.replicate 26 zeroRow).set 1 ([0x15, 0x2B] ++ List.replicate 38 0x15) }).1.getStat 0x100).pageType
        = PT_SUBTITLE := by
  decide +kernel

/-- **A single bit error in a stored MIP row is invisible in the decoded MIP.**  For every network
    record `n`, page `cv`, row number `k`, row `r` of 40 bytes, position `i` of the row holding a
    valid Hamming 8/4 codeword and bit `b`: the page whose stored row `k` is `r` with that bit
    inverted is decoded by `parse_mip` to exactly the same result as the page with row `r` - same
    page types, subcodes and character sets in the network's page statistics, same cache look-ups.
    (The two pages themselves differ in that byte; MIP pages are never put into the cache, so the
    byte is not seen again.) -/
theorem mip_single_error_invisible (n : Net) (cv : Page) (k : Nat) (r : List Nat) (i b : Nat)
    (hl : r.length = 40) (hr : ∀ x ∈ r, x < 256) (hi : i < 40) (hv : IsHam8 (r.getD i 0)) (hb : b < 8) :
    parseMip n { cv with raw := cv.raw.set k (r.set i (r.getD i 0 ^^^ (1 <<< b))) }
      = parseMip n { cv with raw := cv.raw.set k r } :=
  parseMip_congr n _ _ rfl rfl (rowsH8Eq_flip cv.raw k r i b hl (getD_lt_of_all r hr) hi hv hb)

/-- non-vacuity: the hypotheses hold for row 1 = 15 2F 15 15 .., position 1 (0x2F = ham8 7), bit 2;
    the row really changes (0x2F becomes 0x2B) -/
example :
    parseMip init.net { Page.zero with
        raw := Page.zero.raw.set 1 (([0x15, 0x2F] ++ List.replicate 38 0x15).set 1
                 (([0x15, 0x2F] ++ List.replicate 38 0x15).getD 1 0 ^^^ (1 <<< 2))) }
      = parseMip init.net { Page.zero with raw := Page.zero.raw.set 1 ([0x15, 0x2F] ++ List.replicate 38 0x15) } :=
  mip_single_error_invisible init.net Page.zero 1 ([0x15, 0x2F] ++ List.replicate 38 0x15) 1 2
    (by decide) (by decide) (by decide) ⟨7, by decide, by decide⟩ (by decide)

example : ([0x15, 0x2F] ++ List.replicate 38 0x15).set 1 (([0x15, 0x2F] ++ List.replicate 38 0x15).getD 1 0 ^^^ (1 <<< 2))
    = [0x15, 0x2B] ++ List.replicate 38 0x15 := by decide

/-- sharpness: TWO flipped bits in that byte (0x2F becomes 0x29) are not corrected; `vbi_unham8` fails,
    `parse_mip` gives up at this entry ("contained"): no cache look-up, page 100 and the entries after
    it (101) stay unknown -/
example :
    (parseMip init.net { Page.zero with function := FN_MIP, pgno := 0x1FD, lopPackets := 2
                                        raw := (List.replicate 26 zeroRow).set 1 ([0x15, 0x29] ++ List.replicate 38 0x15) }).2 = []
    ∧ ((parseMip init.net { Page.zero with function := FN_MIP, pgno := 0x1FD, lopPackets := 2
                                           raw := (List.replicate 26 zeroRow).set 1 ([0x15, 0x29] ++ List.replicate 38 0x15) }).1.getStat 0x100).pageType
        = PT_UNKNOWN
    ∧ ((parseMip init.net { Page.zero with function := FN_MIP, pgno := 0x1FD, lopPackets := 2
                                           raw := (List.replicate 26 zeroRow).set 1 ([0x15, 0x29] ++ List.replicate 38 0x15) }).1.getStat 0x101).pageType
        = PT_UNKNOWN := by
  decide +kernel

/-- **State level.**  Let slot `curr` of the decoder hold a MIP page in assembly and let the header
    now arriving terminate it (`terminatedSlot .. = some curr`).  Replace the stored rows of the slot
    by rows `raw'` with the same Hamming 8/4 view (e.g. one row with a corrected bit error): the
    header produces the same events (the cache look-ups of `parse_mip`; a MIP page is never stored
    in the cache, there is no `put`), the same network record, and the same decoder state except
    that the slot - now closed, function DISCARD - still carries `raw'`. -/
theorem mip_single_error_invisible_terminate (s : St) (curr : Nat) (raw' : List (List Nat)) (mag0 pgno page : Nat)
    (hm : curr < s.raw.length) (hts : terminatedSlot s mag0 pgno page = some curr)
    (hf : (s.rp curr).page.function = FN_MIP)
    (H : ∀ k, rowView .rowH8 (raw'.getD k zeroRow) = rowView .rowH8 ((s.rp curr).page.raw.getD k zeroRow)) :
    let s' := s.setPage curr { (s.rp curr).page with raw := raw' }
    let t := (terminatePage s mag0 pgno page).1
    (terminatePage s' mag0 pgno page).2 = (terminatePage s mag0 pgno page).2 ∧
    (terminatePage s' mag0 pgno page).1.net = t.net ∧
    (terminatePage s' mag0 pgno page).1 = t.setPage curr { (t.rp curr).page with raw := raw' } := by
  intro s' t
  have h := terminatePage_setRawRows s curr raw' mag0 pgno page hm hts hf H
  refine ⟨h.1, ?_, h.2⟩
  rw [show (terminatePage s' mag0 pgno page).1 = t.setRawRows curr raw' from h.2]
  rfl

/-- non-vacuity: magazine 1 assembles MIP 1FD (row 1 as above), header of page 100 arrives: the MIP
    slot is the one terminated, the events are the cache look-up for the subtitle page 100, the
    network record learns the page type, the slot is closed -/
example :
    terminatedSlot (({ init.enable true with current := some 1 } : St).setPage 1
        { Page.zero with function := FN_MIP, pgno := 0x1FD, lopPackets := 2
                         raw := (List.replicate 26 zeroRow).set 1 ([0x15, 0x2F] ++ List.replicate 38 0x15) }) 1 0x100 0 = some 1
    ∧ (terminatePage (({ init.enable true with current := some 1 } : St).setPage 1
        { Page.zero with function := FN_MIP, pgno := 0x1FD, lopPackets := 2
                         raw := (List.replicate 26 zeroRow).set 1 ([0x15, 0x2F] ++ List.replicate 38 0x15) }) 1 0x100 0).2
        = [Event.aux (Aux.touch 0x100 0 0)]
    ∧ ((terminatePage (({ init.enable true with current := some 1 } : St).setPage 1
        { Page.zero with function := FN_MIP, pgno := 0x1FD, lopPackets := 2
                         raw := (List.replicate 26 zeroRow).set 1 ([0x15, 0x2F] ++ List.replicate 38 0x15) }) 1 0x100 0).1.net.getStat 0x100).pageType
        = PT_SUBTITLE := by
  decide +kernel

/-- **The row packet itself.**  Slot `mag0` assembles a MIP page; a row packet `p` (42 bytes) arrives,
    once intact and once with bit `b` of byte `2 + j` inverted, that byte being a valid Hamming 8/4
    codeword.  `processRow` returns the same events and the same return value, and the two states
    differ only in the stored rows of the slot, which have the same Hamming 8/4 view. -/
theorem mip_row_single_error (s : St) (mag0 mag8 packet : Nat) (p : Packet) (j b : Nat) (hw : WellFormed p)
    (hm : mag0 < s.raw.length) (hf : (s.rp mag0).page.function = FN_MIP)
    (hj : j < 40) (hv : IsHam8 (byte p (2 + j))) (hb : b < 8) :
    let r := processRow s mag0 mag8 packet (view .rowRaw p)
    let r' := processRow s mag0 mag8 packet (view .rowRaw (flipBit p (2 + j) b))
    r'.ev = r.ev ∧ r'.ret = r.ret ∧
    ∃ raw', (∀ k, rowView .rowH8 (raw'.getD k zeroRow) = rowView .rowH8 ((r.st.rp mag0).page.raw.getD k zeroRow)) ∧
      r'.st = r.st.setPage mag0 { (r.st.rp mag0).page with raw := raw' } := by
  intro r r'
  obtain ⟨raw', H, e⟩ := processRow_mip_flip s mag0 mag8 packet p j b hw hm hf hj hv hb
  have e' : r' = { r with st := r.st.setRawRows mag0 raw' } := e
  rw [e']
  exact ⟨rfl, rfl, raw', H, rfl⟩

/-- **Row packet, then the terminating header.**  The damaged row packet of a MIP page followed by
    the header that closes the page gives the same events and the same network record as the intact
    packet followed by that header: the bit error is corrected at the point where the MIP is decoded. -/
theorem mip_row_error_corrected_at_page_end (s : St) (mag0 mag8 packet : Nat) (p : Packet) (j b : Nat)
    (hw : WellFormed p) (hm : mag0 < s.raw.length) (hf : (s.rp mag0).page.function = FN_MIP)
    (hj : j < 40) (hv : IsHam8 (byte p (2 + j))) (hb : b < 8) (hmag0 pgno page : Nat)
    (hts : terminatedSlot (processRow s mag0 mag8 packet (view .rowRaw p)).st hmag0 pgno page = some mag0) :
    let t := (processRow s mag0 mag8 packet (view .rowRaw p)).st
    let t' := (processRow s mag0 mag8 packet (view .rowRaw (flipBit p (2 + j) b))).st
    (terminatePage t' hmag0 pgno page).2 = (terminatePage t hmag0 pgno page).2 ∧
    (terminatePage t' hmag0 pgno page).1.net = (terminatePage t hmag0 pgno page).1.net := by
  intro t t'
  obtain ⟨raw', H, e⟩ := processRow_mip_flip s mag0 mag8 packet p j b hw hm hf hj hv hb
  have e' : t' = t.setRawRows mag0 raw' := by
    show (processRow s mag0 mag8 packet (view .rowRaw (flipBit p (2 + j) b))).st = _
    rw [e]
  obtain ⟨hm', hf'⟩ := processRow_mip_slot s mag0 mag8 packet (view .rowRaw p) hm hf
  have h := terminatePage_setRawRows t mag0 raw' hmag0 pgno page hm' hts hf' H
  rw [e']
  refine ⟨h.1, ?_⟩
  rw [h.2]
  rfl

/-- non-vacuity: magazine 1 assembles MIP 1FD; row packet 1 with byte 3 = 0x2F (intact) resp. 0x2B (bit 2
    inverted): the two resulting states differ, the slot has packet 1 marked as received, and the header of
    page 100 arriving after the damaged packet reports the cache look-up for the subtitle page 100 -/
example :
    processRow (({ init.enable true with current := some 1 } : St).setPage 1
        { Page.zero with function := FN_MIP, pgno := 0x1FD }) 1 1 1
        (view .rowRaw (flipBit ([0x02, 0x15, 0x15, 0x2F] ++ List.replicate 38 0x15) 3 2))
      ≠ processRow (({ init.enable true with current := some 1 } : St).setPage 1
        { Page.zero with function := FN_MIP, pgno := 0x1FD }) 1 1 1
        (view .rowRaw ([0x02, 0x15, 0x15, 0x2F] ++ List.replicate 38 0x15))
    ∧ ((processRow (({ init.enable true with current := some 1 } : St).setPage 1
        { Page.zero with function := FN_MIP, pgno := 0x1FD }) 1 1 1
        (view .rowRaw ([0x02, 0x15, 0x15, 0x2F] ++ List.replicate 38 0x15))).st.rp 1).page.lopPackets = 2
    ∧ (terminatePage (processRow (({ init.enable true with current := some 1 } : St).setPage 1
        { Page.zero with function := FN_MIP, pgno := 0x1FD }) 1 1 1
        (view .rowRaw (flipBit ([0x02, 0x15, 0x15, 0x2F] ++ List.replicate 38 0x15) 3 2))).st 1 0x100 0).2
        = [Event.aux (Aux.touch 0x100 0 0)] := by
  decide +kernel

/-- **At the entry point.**  `vbi_decode_teletext` on a row packet (packet number 1..25, address
    decodes) for a magazine that assembles a MIP page, once intact and once with bit `b` of data
    byte `2 + j` (a valid Hamming 8/4 codeword) inverted: same events, same return value; the two
    decoder states differ only in the stored rows of that magazine's slot, and these have the same
    Hamming 8/4 view - which by the theorems above is all the MIP decoding will ever look at. -/
theorem mip_row_single_error_decode (s : St) (p : Packet) (pmag j b : Nat) (hw : WellFormed p)
    (ha : a16 p 0 = some pmag) (hmask : s.mask = true) (h1 : 1 ≤ pmag >>> 3) (h25 : pmag >>> 3 ≤ 25)
    (hm : pmag &&& 7 < s.raw.length) (hf : (s.rp (pmag &&& 7)).page.function = FN_MIP)
    (hj : j < 40) (hv : IsHam8 (byte p (2 + j))) (hb : b < 8) :
    let r := decodeTeletext s p
    let r' := decodeTeletext s (flipBit p (2 + j) b)
    r'.ev = r.ev ∧ r'.ret = r.ret ∧
    ∃ raw', (∀ k, rowView .rowH8 (raw'.getD k zeroRow)
                  = rowView .rowH8 ((r.st.rp (pmag &&& 7)).page.raw.getD k zeroRow)) ∧
      r'.st = r.st.setPage (pmag &&& 7) { (r.st.rp (pmag &&& 7)).page with raw := raw' } := by
  intro r r'
  obtain ⟨raw', H, e⟩ := decode_mip_row_flip s p pmag j b hw ha hmask h1 h25 hm hf hj hv hb
  have e' : r' = { r with st := r.st.setRawRows (pmag &&& 7) raw' } := e
  rw [e']
  exact ⟨rfl, rfl, raw', H, rfl⟩

/-- non-vacuity on a real packet sequence: header of page 1FD, then row 1 of magazine 1 with byte
    3 = 0x2F resp. 0x2B.  The address decodes to magazine 1, packet 1; the slot holds a MIP page; the
    two resulting states differ. -/
example :
    a16 ([199, 0x15, 0x15, 0x2F] ++ List.replicate 38 0x15) 0 = some 9
    ∧ (((run (init.enable true) [[0x02, 0x15, 182, 234, 0x15, 0x15, 0x15, 0x15, 0x15, 0x15] ++ List.replicate 32 0x20]).1.rp 1).page.function
        = FN_MIP)
    ∧ (decodeTeletext (run (init.enable true) [[0x02, 0x15, 182, 234, 0x15, 0x15, 0x15, 0x15, 0x15, 0x15] ++ List.replicate 32 0x20]).1
          (flipBit ([199, 0x15, 0x15, 0x2F] ++ List.replicate 38 0x15) 3 2)
        ≠ decodeTeletext (run (init.enable true) [[0x02, 0x15, 182, 234, 0x15, 0x15, 0x15, 0x15, 0x15, 0x15] ++ List.replicate 32 0x20]).1
          ([199, 0x15, 0x15, 0x2F] ++ List.replicate 38 0x15)) := by
  decide +kernel

/-- limit of the statement (why it is made for the decoded MIP and not as equality of whole event
    traces): the byte with the flipped bit stays in the assembly slot after the MIP page is closed.
    `vbi_decode_teletext` does not clear `cvtp->data` when the next page of the magazine is built from
    scratch as MOT (xFE), BTT (1F0) or MIP, and a MOT / BTT page is cached with `sizeof (*cp)`
    (cache.c `cache_page_size`, default case), union included.  So after
    header 1FD - row 1 - header 1FE - header 100 the cached MOT page 1FE carries the stale MIP row,
    and the `put` events (which show the whole `cache_page`) differ in that dead byte.  Nothing
    decodes it: a MOT page is parsed from the packets as they arrive. -/
example :
    (run (init.enable true)
      [[0x02, 0x15, 182, 234, 0x15, 0x15, 0x15, 0x15, 0x15, 0x15] ++ List.replicate 32 0x20,
       [199, 0x15, 0x15, 0x2B] ++ List.replicate 38 0x15,
       [0x02, 0x15, 253, 234, 0x15, 0x15, 0x15, 0x15, 0x15, 0x15] ++ List.replicate 32 0x20,
       [0x02, 0x15, 0x15, 0x15, 0x15, 0x15, 0x15, 0x15, 0x15, 0x15] ++ List.replicate 32 0x20]).1.net.cache.map
        (fun q => (q.pgno, q.function, (q.raw.getD 1 []).take 4))
      = [(0x1FE, FN_MOT, [0x15, 0x2B, 0x15, 0x15])]
    ∧ (run (init.enable true)
      [[0x02, 0x15, 182, 234, 0x15, 0x15, 0x15, 0x15, 0x15, 0x15] ++ List.replicate 32 0x20,
       [199, 0x15, 0x15, 0x2F] ++ List.replicate 38 0x15,
       [0x02, 0x15, 253, 234, 0x15, 0x15, 0x15, 0x15, 0x15, 0x15] ++ List.replicate 32 0x20,
       [0x02, 0x15, 0x15, 0x15, 0x15, 0x15, 0x15, 0x15, 0x15, 0x15] ++ List.replicate 32 0x20]).1.net.cache.map
        (fun q => (q.pgno, q.function, (q.raw.getD 1 []).take 4))
      = [(0x1FE, FN_MOT, [0x15, 0x2F, 0x15, 0x15])] := by
  decide +kernel

end Zvbi.Props.C03Mip
