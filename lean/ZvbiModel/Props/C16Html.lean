import ZvbiModel.Export.HtmlSpec
import ZvbiModel.Export.LemmasHtml
import ZvbiModel.Export.LemmasHtmlUnesc
import ZvbiModel.Props.C16
/-!
# C16, HTML export module (exp-html.c) inside the model

Property theorems about `Export/Html.lean` (`htmlOps`: the write-layer calls of the module for a page):
faithful text, complete escaping, balanced tags, output size, and the link to the write-layer theorems
(`targets_agree`, `mem_bounded` of `Props/C16.lean` quantify over arbitrary call lists; the HTML module's
list is one of them).  `conv` is iconv for the page charset (one byte or failure), `colorAt` the colour map.
-/
namespace Zvbi.Props.C16Html
open Zvbi.Export Zvbi.Export.Spec

/-- the bytes between `<pre>` and `</pre>` -/
def htmlBody (cfg : HtmlCfg) (env : HtmlEnv) (conv : Nat → Option Nat) (colorAt : Nat → Nat) (cells : List (List Cell)) : Bytes :=
  output (piecesOps (bodyPieces cfg env conv colorAt (countStyles (htmlRows env.reveal cells)) (htmlRows env.reveal cells)))

/-- Shape of the document: header (nothing when `header=0`), `<pre>`, body, `</pre>`, page end, final line feed. -/
theorem html_document_shape (cfg : HtmlCfg) (env : HtmlEnv) (conv : Nat → Option Nat) (colorAt : Nat → Nat) (cells : List (List Cell)) :
    output (htmlOpsOf cfg env conv colorAt (htmlRows env.reveal cells))
      = output (headerOps cfg env colorAt (countStyles (htmlRows env.reveal cells))) ++ tagPre
          ++ htmlBody cfg env conv colorAt cells ++ tagPreOff ++ (if env.header then tailHtml else []) ++ [10]
    ∧ (env.header = false → headerOps cfg env colorAt (countStyles (htmlRows env.reveal cells)) = []) := by
  constructor
  · cases h : env.header <;>
      simp [htmlOpsOf, htmlBody, tailOps, output_append, output_cons, output_nil, opBytes, h, List.append_assoc]
  · intro h; simp [headerOps, h]

example : output (htmlOpsOf ⟨false, false⟩ { header := false } (fun u => some u) (fun _ => 0) (htmlRows false [[{ unicode := 60, size := 0, foreground := 3 }]]))
    = tagPre ++ tagSpanStyle ++ hashColor 0 ++ tagBgColor ++ hashColor 0 ++ tagQuoteGt ++ entLt ++ [10] ++ tagSpanOff ++ tagPreOff ++ [10] := by
  decide +kernel

/-- **(a) faithful.**  For every page, option vector and colour map: removing the tags from the body leaves exactly
the page's characters row by row, each HTML-escaped, each row closed by a line feed - printable characters as the
page charset has them (numeric entity where it has none or iconv answers `@`), block graphics replaced by `gfx_chr`,
continuation cells of enlarged characters, concealed cells (unless `reveal`) and no-break spaces as spaces, everything
else a space.  `GfxSafe`: `gfx_chr` is not one of `<` `>` `&` (low byte) unless the H2 repair is present. -/
theorem html_faithful (cfg : HtmlCfg) (env : HtmlEnv) (conv : Nat → Option Nat) (colorAt : Nat → Nat) (cells : List (List Cell))
    (hc : ConvByte conv) (hg : GfxSafe cfg env.gfx) :
    stripTags (htmlBody cfg env conv colorAt cells) = (pageText conv env.gfx env.reveal cells).flatMap escChar := by
  unfold htmlBody
  rw [(strip_tagsIn_pieces _ (bodyPieces_ok cfg env conv colorAt _ hc hg _)).1, ← chars, (bodyPieces_seg ..).chr, chr_output cfg conv env.gfx hc hg, htmlRows_chars]

example : stripTags (htmlBody ⟨false, false⟩ {} (fun u => if u < 256 then some u else none) (fun _ => 0)
    [[{ unicode := 0x41, size := 0 }, { unicode := 0x20AC, size := 0, bold := true }, { unicode := 0xEE21, size := 0, foreground := 3 }]])
    = [0x41, 38, 35, 56, 51, 54, 52, 59, 35, 10] := by decide

/-- **(a) faithful, decoded.**  A reader who removes the tags and decodes the entities (`unescape`: plain bytes, `&lt;` `&gt;`
`&amp;`, decimal `&#N;`; anything else after `&` is an error) gets back exactly the page's characters row by row: tag
stripping followed by entity decoding is a left inverse of what the module writes between `<pre>` and `</pre>`.
(`vbi_char.unicode` is a 16-bit field.) -/
theorem html_text_recovered (cfg : HtmlCfg) (env : HtmlEnv) (conv : Nat → Option Nat) (colorAt : Nat → Nat) (cells : List (List Cell))
    (hc : ConvByte conv) (hg : GfxSafe cfg env.gfx) (hu : ∀ r ∈ cells, ∀ c ∈ r, c.unicode ≤ 0xFFFF) :
    unescape (stripTags (htmlBody cfg env conv colorAt cells)) = some (pageText conv env.gfx env.reveal cells) := by
  rw [html_faithful cfg env conv colorAt cells hc hg]
  apply unescape_escaped
  intro u hu'
  have := pageText_ucs_bound conv env.gfx env.reveal cells 0xFFFF (by decide) hu u hu'
  exact Nat.lt_of_le_of_lt this (by decide)

example : unescape [0x41, 38, 35, 56, 51, 54, 52, 59, 38, 108, 116, 59, 10] = some [.byte 0x41, .ucs 8364, .byte 60, .byte 10] := by decide
example : unescape [38, 120, 59] = none := by decide

/-- **(c) escape complete.**  The body is a sequence of complete tags (`<`, no `<` `>` `&` inside, `>`) and escaped
characters (a byte that is none of `<` `>` `&`, or `&lt;` `&gt;` `&amp;` `&#N;`): no character of the page can open or
close a tag or start an entity, and after removing the tags no `<` or `>` is left. -/
theorem html_escape_complete (cfg : HtmlCfg) (env : HtmlEnv) (conv : Nat → Option Nat) (colorAt : Nat → Nat) (cells : List (List Cell))
    (hc : ConvByte conv) (hg : GfxSafe cfg env.gfx) :
    (∃ segs : List Bytes, htmlBody cfg env conv colorAt cells = segs.flatten ∧ ∀ s ∈ segs, IsTag s ∨ IsEscaped s) ∧
    (∀ b ∈ stripTags (htmlBody cfg env conv colorAt cells), b ≠ 60 ∧ b ≠ 62) := by
  constructor
  · refine ⟨(bodyPieces cfg env conv colorAt (countStyles (htmlRows env.reveal cells)) (htmlRows env.reveal cells)).map
      (fun p => output p.ops), ?_, ?_⟩
    · unfold htmlBody
      generalize bodyPieces cfg env conv colorAt _ _ = ps
      induction ps with
      | nil => simp [piecesOps, output]
      | cons p ps ih => simp [piecesOps_cons, output_append, ih]
    · intro s hs
      obtain ⟨p, hp, rfl⟩ := List.mem_map.1 hs
      have := bodyPieces_ok cfg env conv colorAt _ hc hg _ p hp
      unfold PieceOk at this
      split at this
      · exact Or.inl this
      · exact Or.inr this
  · intro b hb
    rw [html_faithful cfg env conv colorAt cells hc hg] at hb
    obtain ⟨c, _, hbc⟩ := List.mem_flatMap.1 hb
    have he := isEscaped_noLt (escChar_isEscaped c)
    constructor
    · intro h; exact he.1 (h ▸ hbc)
    · intro h; exact he.2 (h ▸ hbc)

-- the hypotheses are met: latin-1 converter, the default gfx_chr '#'
example : ConvByte (fun u => if u < 256 then some u else none) := by
  intro u b h; dsimp only at h; split at h <;> simp at h; omega
example : GfxSafe ⟨false, false⟩ 35 := Or.inr (by unfold Plain; decide)
example : ∀ g, GfxSafe ⟨false, true⟩ g := fun _ => Or.inl rfl

/-- H2 witness (unrepaired code): with `gfx_chr` = `<` a block graphic puts a raw `<` into the text; removing the
tags then swallows the rest of the row: the page's characters are not recoverable. -/
theorem html_gfx_chr_counterexample :
    stripTags (htmlBody ⟨false, false⟩ { gfx := 60, color := false } (fun u => some u) (fun _ => 0)
      [[{ unicode := 0xEE21, size := 0 }, { unicode := 0x41, size := 0 }]])
      ≠ (pageText (fun u => some u) 60 false [[{ unicode := 0xEE21, size := 0 }, { unicode := 0x41, size := 0 }]]).flatMap escChar ∧
    stripTags (htmlBody ⟨false, true⟩ { gfx := 60, color := false } (fun u => some u) (fun _ => 0)
      [[{ unicode := 0xEE21, size := 0 }, { unicode := 0x41, size := 0 }]])
      = (pageText (fun u => some u) 60 false [[{ unicode := 0xEE21, size := 0 }, { unicode := 0x41, size := 0 }]]).flatMap escChar := by
  decide

/-- **(b) balanced.**  Reading the tags of the body in order (`tagsIn`: every segment from `<` to the next `>`), starting
with nothing open: every tag is one of `<span ...>` `</span>` `<u>` `</u>` `<b>` `</b>` `<i>` `</i>`; an element is
opened only while closed and closed only while open; a span is opened and closed only while u, b, i are all closed
(spans never cross the other elements); and at `</pre>` everything is closed.  (Spans stay open across row ends:
the line feed is inside the span.) -/
theorem html_tags_balanced (cfg : HtmlCfg) (env : HtmlEnv) (conv : Nat → Option Nat) (colorAt : Nat → Nat) (cells : List (List Cell))
    (hc : ConvByte conv) (hg : GfxSafe cfg env.gfx) :
    scanTags {} (tagsIn none (htmlBody cfg env conv colorAt cells)) = some {} := by
  unfold htmlBody
  rw [(strip_tagsIn_pieces _ (bodyPieces_ok cfg env conv colorAt _ hc hg _)).2]
  exact (bodyPieces_seg ..).scan

example : tagsIn none (htmlBody ⟨false, false⟩ { color := false } (fun u => some u) (fun _ => 0)
    [[{ unicode := 0x41, size := 0, italic := true }]]) = [tagIOn, tagIOff] := by decide

/-- H3 (observation): u, b, i are opened in this order but closed one by one: underline switched off while bold stays on
gives `<u><b>A</u>B</b>` - balanced in the sense of `html_tags_balanced`, but not nested as the HTML grammar asks. -/
theorem html_strict_nesting_counterexample :
    htmlBody ⟨false, false⟩ { color := false } (fun u => some u) (fun _ => 0)
      [[{ unicode := 0x41, size := 0, underline := true, bold := true }, { unicode := 0x42, size := 0, bold := true }]]
      = tagUOn ++ tagBOn ++ [0x41] ++ tagUOff ++ [0x42, 10] ++ tagBOff ∧
    nested [] ((tagsIn none (htmlBody ⟨false, false⟩ { color := false } (fun u => some u) (fun _ => 0)
      [[{ unicode := 0x41, size := 0, underline := true, bold := true }, { unicode := 0x42, size := 0, bold := true }]])).filterMap tagEvent)
      = false := by
  decide

/-- H1 witness: for a caption page (pgno < 0x100) the unrepaired `title ()` starts the title element with `t`, not `<`;
with the repair (and for every Teletext page) it starts with `<`. -/
theorem html_caption_title_counterexample :
    (output (titleOps ⟨false, false⟩ { pgno := 1 })).head? = some 116 ∧
    (output (titleOps ⟨true, false⟩ { pgno := 1 })).head? = some 60 ∧
    (output (titleOps ⟨false, false⟩ { pgno := 0x100 })).head? = some 60 := by
  decide

/-- **(d) size.**  For a page of `cells.length` rows of `w` cells the document has at most
header + `<pre>` + rows * (131 * w + 1) + 19 (final closing tags) + `</pre>` + page end + line feed bytes:
per cell at most 19 bytes of closing tags, 77 of span, 12 of u / b / i and 23 of character. -/
theorem html_length_bound (cfg : HtmlCfg) (env : HtmlEnv) (conv : Nat → Option Nat) (colorAt : Nat → Nat) (cells : List (List Cell))
    (w : Nat) (hw : ∀ r ∈ cells, r.length = w) :
    (output (htmlOpsOf cfg env conv colorAt (htmlRows env.reveal cells))).length
      ≤ (output (headerOps cfg env colorAt (countStyles (htmlRows env.reveal cells)))).length
        + cells.length * (131 * w + 1) + 5 + 19 + 6 + 16 + 1 := by
  have hshape := (html_document_shape cfg env conv colorAt cells).1
  rw [hshape]
  have hw' : ∀ r ∈ htmlRows env.reveal cells, r.length = w := by
    intro r hr
    unfold htmlRows at hr
    obtain ⟨r0, hr0, rfl⟩ := List.mem_map.1 hr
    rw [normRow_length]; simp [hw r0 hr0]
  have hbody : (htmlBody cfg env conv colorAt cells).length ≤ cells.length * (131 * w + 1) + 19 := by
    have := (bodyPieces_seg cfg env conv colorAt (countStyles (htmlRows env.reveal cells)) (htmlRows env.reveal cells)).len
    rwa [sum_map_const _ _ (131 * w + 1) (fun r hr => by rw [hw' r hr]; rfl),
      show (htmlRows env.reveal cells).length = cells.length by simp [htmlRows]] at this
  have ht : (if env.header then tailHtml else []).length ≤ 16 := by split <;> simp [tailHtml]
  simp only [List.length_append, List.length_cons, List.length_nil]
  simp only [tagPre, tagPreOff, List.length_cons, List.length_nil] at *
  omega

example : (output (htmlOpsOf ⟨false, false⟩ { header := false } (fun u => some u) (fun _ => 0) (htmlRows false [[{ unicode := 0x41, size := 0 }]]))).length = 14 := by
  decide

/-- **Joined with the write layer.**  The HTML module's calls are an instance of the abstract call list the write-layer
theorems quantify over: whenever `htmlOps` yields the calls for a page, `vbi_export_mem` (any buffer, also NULL) returns
exactly the document's size and fills the buffer with its first bytes without touching anything past the given size
(`mem_bounded`), and `vbi_export_alloc`, `vbi_export_stdio`, `vbi_export_file` deliver exactly the document
(`targets_agree`). -/
theorem html_targets_agree (wcfg : Cfg) (cfg : HtmlCfg) (env : HtmlEnv) (conv : Nat → Option Nat) (pg : Page) (ops : List Op)
    (h : htmlOps cfg env conv pg = .ok ops) (user : Option Bytes) :
    (exportMem wcfg .unlimited user ops).ret = some (output ops).length ∧
    (exportMem wcfg .unlimited user ops).user.length = (user.getD []).length ∧
    (exportMem wcfg .unlimited user ops).user.take (min (output ops).length (user.getD []).length) = (output ops).take (user.getD []).length ∧
    (exportAlloc wcfg .unlimited ops).data = some (output ops) ∧
    (exportStdio wcfg .unlimited ops).sink = some (output ops) ∧ (exportFile wcfg .unlimited ops).sink = some (output ops) := by
  have ht := Zvbi.Props.C16.targets_agree wcfg user ops
  have hne : output ops ≠ [] := by
    unfold htmlOps at h
    split at h
    · cases h
    · dsimp only at h
      split at h
      · cases h
        simp [htmlOpsOf, tailOps, output_append, output_cons, opBytes]
      · cases h
  exact ⟨ht.1, (Zvbi.Props.C16.mem_bounded wcfg .unlimited user ops).1, ht.2.1, ht.2.2.1 hne, ht.2.2.2.1.2, ht.2.2.2.2.2⟩

example : ∃ ops, htmlOps ⟨false, false⟩ {} (fun u => some u)
    ⟨1, 1, List.replicate 1056 { unicode := 0x41, size := 0 }, [], List.replicate 40 0⟩ = .ok ops := ⟨_, rfl⟩

end Zvbi.Props.C16Html
