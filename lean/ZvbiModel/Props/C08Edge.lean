import ZvbiModel.Cc.Edge
/-!
# C08, continued - the right margin: Transparent Space (0x11/0x19 0x39), also behind a full row

Property theorems only; lemmas are in `Cc/Edge.lean` (on top of `Cc/Edits.lean`, `Cc/Rows.lean`).
Model `Cc/Model.lean` (src/caption.c), reference `Cc/Spec.lean` (`Eia608`).  `hcell` / `dcell` = cell (row, column)
of libzvbi's working (non-displayed) and displayed memory; columns 1..32 are the caption columns, a cursor at
column 33 (`COLUMNS - 1`) is "parked" behind a row that holds 32 characters.
-/
namespace Zvbi.Props.C08Edge
open Zvbi.Cc Zvbi.Gen.Cc

/-- **transparent_space_step.**  The pair 0x11/0x19 0x39 (any first byte with low bits 001, second byte 0x39) is
dispatched to the Transparent Space branch of `caption_command`, and on every channel that satisfies the decoder
invariant that branch has exactly this effect: the cell AT THE CURSOR - column 32 when the cursor is parked at
column 33 behind a full row - of the working memory becomes the transparent space of the channel class (opaque in
text mode); the cursor moves one column to the right and `col1` follows it, unless it is parked; no other cell of
the working memory, no cell of the displayed memory, not the mode / row / pen change and no event is raised.
(Seed C08-g drops the parked arm: on that source the correspondence fails on the `wf-fullrow` / `margin` classes.) -/
theorem transparent_space_step (s : St) (c1 : Nat) (f2 : Bool) (h1 : c1 &&& 7 = 1) :
    captionCommand s c1 0x39 f2 = s.modCh (cmdChan s c1 f2) (fun ch => specialChar ch (cmdChan s c1 f2) 0x39) ∧
    ∀ (ch : Channel) (chan : Nat), ChInv ch →
      let ch' := specialChar ch chan 0x39
      (∀ r j, j < 34 → ch'.hcell r j =
        if r = ch.row ∧ j = (if ch.col < 33 then ch.col else 32) then some (transpSpace (decide (4 ≤ chan)))
        else ch.hcell r j) ∧
      (∀ r j, ch'.dcell r j = ch.dcell r j) ∧
      ch'.col = (if ch.col < 33 then ch.col + 1 else ch.col) ∧
      ch'.col1 = (if ch.col < 33 then ch.col + 1 else ch.col1) ∧
      ch'.mode = ch.mode ∧ ch'.row = ch.row ∧ ch'.attr = ch.attr ∧ ch'.nev = ch.nev ∧ ChInv ch' := by
  refine ⟨captionCommand_eq s f2 (cmd := .special) ⟨by decide, h1, by decide⟩, fun ch chan h => ?_⟩
  intro ch'
  have e : ch' = tsCell ch (transpSpace (decide (4 ≤ chan))) := specialChar_ts ch chan 0x39 (by decide)
  rw [e]
  obtain ⟨a1, a5, a6, a7⟩ := tsCell_spec h (transpSpace (decide (4 ≤ chan)))
  have e := tsCell_edit h (transpSpace (decide (4 ≤ chan)))
  exact ⟨a1, e.dcell, a6, a7, e.mode, e.row, a5, e.nev, e.inv h⟩

/-- non-vacuity: CC1 of the fresh decoder satisfies the invariant, and there the cursor is not parked -/
example : ChInv (init.chans[0]'(by rw [init_inv.len]; decide)) := init_inv.chs _ (List.getElem_mem _)

/-- **refines_Eia608_edits_ts_partial** (widens `C08Paint.refines_Eia608_edits_partial` by the Transparent Space and by
mid-row codes).  For a channel in paint-on, roll-up or text mode in relation `EditSim` with a reference service (same
cursor, matching pen, every reference cell shown exactly, every empty reference cell without glyph, other rows on
display): EVERY script of characters 0x20..0x7F, Backspace (any column, also column 1 and the parked cursor),
Delete to End of Row, Erase Displayed Memory, Tab Offsets over empty cells, Transparent Spaces at any cursor
position - including the parked cursor, where the 32nd character must disappear - AND mid-row codes (all 16: colour
/ italics, underline; both models switch to the same pen and type a space with it) keeps the relation after every
prefix, and after every prefix that ends with a space, a mid-row code, DER or EDM the DISPLAYED memory shows the
reference display memory.  Well-formedness (`xopsOk`) is judged on the reference state; Transparent Space and mid-row
codes need no side condition.  `hk` = the generated fact that the italics mid-row code keeps the colour (repair of
F46; without it `C08.refines_Eia608_counterexample` applies).  Partial as before: solid spaces are not pinned down, no
PAC / other special character inside such a script. -/
theorem refines_Eia608_edits_ts_partial (hk : midrowItalicsKeepsColour = true) (chan : Nat) (ops : List XOp) (ch : Channel) (v : Eia608.Service)
    (S : EditSim ch v) (hok : xopsOk v ops) :
    EditSim (runX chan ch ops) (specX v ops) ∧
    ∀ k, (hk0 : 0 < k) → (hk : k ≤ ops.length) → (ops[k - 1]'(by omega)).shows = true →
      Visible (runX chan ch (ops.take k)) (specX v (ops.take k)) := by
  obtain ⟨⟨_, S2⟩, V⟩ := foldl_sim (XOp.run chan) XOp.spec XOp.shows (fun (_ : Unit) => EditSim) Visible (fun _ => xopsOk)
    (fun _ _ _ op _ S h => ⟨(), (sim_xop hk S chan op h.1).1, h.2, (sim_xop hk S chan op h.1).2⟩) ops () ch v S hok
  exact ⟨S2, V⟩

/-- a well-formed script: `A <TS> B <space> BS <TS> <mid-row green underline> C DER` -/
example : xopsOk (Eia608.Service.init true)
    [.edit (.char 0x41), .ts, .edit (.char 0x42), .edit (.char 0x20), .edit .bs, .ts, .midrow 0x23, .edit (.char 0x43),
     .edit .der] := by
  refine ⟨⟨by decide, by decide⟩, trivial, ⟨by decide, by decide⟩, ⟨by decide, by decide⟩, trivial, trivial, trivial,
    ⟨by decide, by decide⟩, trivial, trivial⟩

/-- **transparent_space_parked_erases_column_32** (the statement seed C08-g breaks).  In paint-on, roll-up or text
mode, with the cursor parked behind a full row (`col = 33`) and the channel in relation `EditSim` with the reference:
after a Transparent Space column 32 of libzvbi's working row holds the transparent space, the reference memory is
EMPTY at (row, 32), both cursors stay parked and the relation still holds - so the next visibility point (DER, a
cursor command, CR) shows a row WITHOUT the 32nd character; spelled out for DER: the displayed cell (row, 32)
carries no glyph and the reference display has nothing there. -/
theorem transparent_space_parked_erases_column_32 (chan : Nat) (ch : Channel) (v : Eia608.Service)
    (S : EditSim ch v) (hp : ch.col = 33) :
    (specialChar ch chan 0x39).hcell ch.row 32 = some (transpSpace (decide (4 ≤ chan))) ∧
    (v.exec (.special 9)).disp ch.row 32 = none ∧
    (specialChar ch chan 0x39).col = 33 ∧ (v.exec (.special 9)).col = 33 ∧
    EditSim (specialChar ch chan 0x39) (v.exec (.special 9)) ∧
    (∃ c, (deleteToEnd (specialChar ch chan 0x39) chan).dcell ch.row 32 = some c ∧ c.unicode = 0x20) ∧
    ((v.exec (.special 9)).exec .der).disp ch.row 32 = none := by
  have e := specialChar_ts ch chan 0x39 (by decide)
  rw [e]
  obtain ⟨p1, p2, p3, p4⟩ := parked_ts_erases S chan hp
  have S1 := sim_ts S chan
  have hrow : ch.row < 15 := by have := S.inv.row_le; omega
  have D := (sim_der S1 chan).2 ch.row 32 hrow (by omega) (by omega)
  have hd : ((v.exec (.special 9)).exec .der).disp ch.row 32 = none := by
    rw [spec_der S1.vmode.1 S1.vmode.2]
    show (if ch.row = (v.exec (.special 9)).row ∧ (v.exec (.special 9)).col ≤ 32 then none
          else (v.exec (.special 9)).disp ch.row 32) = none
    rw [p4, if_neg (by omega)]; exact p2
  refine ⟨p1, p2, p3, p4, S1, ?_, hd⟩
  have D' : cellSim ((deleteToEnd (tsCell ch (transpSpace (decide (4 ≤ chan)))) chan).dcell ch.row 32)
      (((v.exec (.special 9)).exec .der).disp ch.row 32) := D
  rw [hd] at D'
  exact D'

/-- non-vacuity: T1 after EDM and 32 characters is in relation with the reference and has the cursor parked -/
example : ∃ (ch : Channel) (v : Eia608.Service), EditSim ch v ∧ ch.col = 33 := by
  have R := (edits_refine 4 (List.replicate 32 (EOp.char 0x41)) start_sim (fill_ok 32 _)).1
  refine ⟨_, _, R, ?_⟩
  rw [← R.col]
  decide

/-- **backspace_at_margins** (BS at column 1 and behind column 32, every mode incl. pop-on).  With the cursor in column 1
a Backspace changes NOTHING - in libzvbi (any channel state) and in the reference.  With the cursor parked behind a
full row (`col = 33`; channel with the invariant and a mode) it erases column 32 and moves there: the working cell
(row, 32) becomes the transparent space, no other cell of either memory changes, no event; the reference empties
(row, 32) of the memory it is writing to and moves to column 32. -/
theorem backspace_at_margins (ch : Channel) (chan : Nat) (v : Eia608.Service) :
    (ch.col ≤ 1 → backspace ch chan = ch) ∧
    (v.col ≤ 1 → v.exec .bs = v) ∧
    (ChInv ch → ch.mode ≠ .none → ch.col = 33 →
      (backspace ch chan).col = 32 ∧ (backspace ch chan).row = ch.row ∧ (backspace ch chan).nev = ch.nev ∧
      (∀ r j, j < 34 → (backspace ch chan).hcell r j =
        if r = ch.row ∧ j = 32 then some (transpSpace (decide (4 ≤ chan))) else ch.hcell r j) ∧
      (∀ r j, (backspace ch chan).dcell r j = ch.dcell r j)) ∧
    (v.mode ≠ none → v.col = 33 → (v.exec .bs).col = 32 ∧ (v.exec .bs).target v.row 32 = none) := by
  refine ⟨fun hc => ?_, fun hc => ?_, fun h hm hp => ?_, fun hm hp => ?_⟩
  · exact backspace_noop chan hc
  · unfold Eia608.Service.exec
    simp only [hc, or_true, if_true]
  · obtain ⟨b1, _, _, b8⟩ := backspace_cells h chan hm (by omega)
    have e := backspace_edit h chan
    refine ⟨by rw [b1, hp], e.row, e.nev, fun r j hj => ?_, e.dcell⟩
    rw [b8 r j hj, hp]
  · unfold Eia608.Service.exec
    have : ¬ (v.mode = none ∨ v.col ≤ 1) := by
      intro h; rcases h with h | h
      · exact hm h
      · omega
    simp only [this, if_false]
    unfold Eia608.Service.setTarget Eia608.Service.target
    by_cases hpop : v.mode = some .popOn
    · simp only [hpop, if_true, hp]
      unfold Eia608.Mem.set
      simp
    · simp only [hpop, if_false, hp]
      unfold Eia608.Mem.set
      simp

/-- non-vacuity of the parked case: T1 after EDM and 32 characters -/
example : ∃ ch : Channel, ChInv ch ∧ ch.mode ≠ .none ∧ ch.col = 33 := by
  have R := (edits_refine 4 (List.replicate 32 (EOp.char 0x41)) start_sim (fill_ok 32 _)).1
  refine ⟨_, R.inv, R.mode.2, ?_⟩
  rw [← R.col]
  decide

end Zvbi.Props.C08Edge
