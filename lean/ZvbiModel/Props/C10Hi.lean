import ZvbiModel.Props.C10Evict
import ZvbiModel.Cache.HiSubRef
import ZvbiModel.Cache.HiSubWrap
/-!
# C10: 'highest subpage' without the hypothesis `Tame` is false; what holds instead

`hi_subno_agrees_full` (Props/C10Evict.lean: `hi_subno_agrees` without the hypothesis `Tame`) is FALSE, on both source
shapes of `_vbi_cache_put_page`, and the reason is not finding F17: `n_subpages` (`uint16_t`) counts the ALLOCATED
versions of a page number, replaced versions a client still holds included, and `cache_network_add_page` starts the
recorded range over when the counter reads 1.  A client holding 65536 references on versions of one page number makes
the counter read 0; the next store is taken for the only sub-page.  The witness (65538 operations) is proved by
induction over a closed form of the state (Cache/HiSubWrap.lean), and was replayed on the real code
(corpus/C10/latent_hi_subno_wrap.txt).

What IS true for every history of the repaired shape (the shape /repo has): the hypothesis can be weakened from
"no state holds 65536 versions of one page number" to a bound on the CLIENT: fewer than 65280 page references held
at any time (`hi_subno_agrees_refbound`) - at most 256 versions are retrievable (`version_bound_repaired`), every other
allocated version is a zombie and a zombie is referenced.  The Teletext decoder of libzvbi holds O(1) references.
-/
namespace Zvbi.Props.C10Hi
open Zvbi.Cache Zvbi.Gen.Cache Zvbi.Props.C10Evict

/-- **The witness.**  After `addnet`, 65536 stores of page 10A.5 whose returned references are all kept, and one store of
    10A.1 - on either source shape - the version 10A.5 stored last is allocated, RETRIEVABLE (on its hash chain, not a
    zombie) and held, and the recorded range of page 10A in its network is `1 .. 1`. -/
theorem hi_subno_wrap_witness (fix : Bool) :
    ∃ (n : Net) (p : Page), n ∈ (runF fix init wrapOps).nets ∧ p ∈ (runF fix init wrapOps).pages ∧ p.net = n.id
      ∧ p.pri = .normal ∧ 0 < p.ref ∧ p.pgno = 0x10A ∧ p.subno = 5
      ∧ (n.getStat 0x10A).subMin = 1 ∧ (n.getStat 0x10A).subMax = 1 := by
  obtain ⟨n, p, h1, h2, h3, h4, h5, h6, h7, h8⟩ := wrap_final fix
  unfold rng at h8
  simp only [Prod.mk.injEq] at h8
  exact ⟨n, p, h1, h2, h3, h4, h5, h6, h7, h8.1, h8.2⟩

example : wrapOps.length = 65538 := wrapOps_length

/-- ... and `vbi_cache_hi_subno` answers 1 for page 10A while sub-page 5 of it is cached: the API disagrees with the
    map, on the current source too -/
theorem hi_subno_wrap_answer (fix : Bool) :
    (∃ p ∈ (runF fix init wrapOps).pages, p.pri ≠ .zombie ∧ p.net = 0 ∧ p.pgno = 0x10A ∧ p.subno = 5)
    ∧ (stepF fix (runF fix init wrapOps) (.hiSubno 0 0x10A)).2 = .num 1 := by
  obtain ⟨n, p, h1, h2, h3, h4, _, h6, h7, _, h9⟩ := hi_subno_wrap_witness fix
  have g := good_reach fix wrapOps
  have hid : n.id = 0 := wrap_nets fix n h1
  refine ⟨⟨p, h2, by rw [h4]; decide, by rw [h3, hid], h6, h7⟩, ?_⟩
  have hf : (runF fix init wrapOps).findNet 0 = some n := by
    have := findNet_of_invW g.1 h1
    rw [hid] at this
    exact this
  rw [hi_subno_answer fix _ 0 0x10A n hf (by decide), h9]

/-- **`hi_subno_agrees_full` is false**: the recorded range does not bound the sub-page numbers of
    the allocated - not even of the retrievable - versions after every history. -/
theorem hi_subno_agrees_full_counterexample : ¬ hi_subno_agrees_full := by
  intro h
  obtain ⟨n, p, h1, h2, h3, _, _, h6, h7, _, h9⟩ := hi_subno_wrap_witness true
  have := h true wrapOps n p h1 h2 h3
  rw [h6, h7, h9] at this
  exact absurd this (by decide)

/-- **Repaired shape (the source as it is), every history:** if the stored sub-page numbers fit 16 bits and the clients
    hold fewer than 65280 page references at any time (`RefBound` on every state of the history), the recorded range
    `subno_min .. subno_max` bounds the sub-page number of every allocated version of every page number - so
    `vbi_cache_hi_subno` (which answers `subno_max`, `hi_subno_answer`) is at least the highest sub-page number cached.
    The hypothesis is about the CLIENT, not about the cache content: any number of pages may be cached. -/
theorem hi_subno_agrees_refbound (ops : List Op) (h1 : ∀ op ∈ ops, SubOk op)
    (h2 : ∀ k, 1 ≤ k → k ≤ ops.length → RefBound (runF true init (ops.take k)))
    (n : Net) (p : Page) (hn : n ∈ (runF true init ops).nets) (hp : p ∈ (runF true init ops).pages) (hnet : p.net = n.id) :
    (n.getStat p.pgno).subMin ≤ p.subno ∧ p.subno ≤ (n.getStat p.pgno).subMax :=
  hi_subno_agrees true ops (tame_of_refbound ops init good_init ukey_init h1 h2) n p hn hp hnet

/-- the hypothesis is satisfiable and the bound is attained: the decoder's pattern (store, release) -/
example : RefBound (runF true init [.addNet, .put 0 ⟨0x101, 2, 0, 0, 0, 7⟩, .unref 0, .put 0 ⟨0x101, 5, 0, 0, 0, 8⟩])
    ∧ ((runF true init [.addNet, .put 0 ⟨0x101, 2, 0, 0, 0, 7⟩, .unref 0, .put 0 ⟨0x101, 5, 0, 0, 0, 8⟩]).nets.map
      (fun n => ((n.getStat 0x101).subMin, (n.getStat 0x101).subMax))) = [(2, 5)] := by
  constructor
  · show _ + 256 < 65536
    decide
  · decide

/-- the hypothesis is exact in kind: what breaks it is held references only.  In every reachable state of the repaired
    shape the allocated versions of a page number are at most 256 retrievable ones plus the referenced pages. -/
theorem versions_le_refs_repaired (ops : List Op) (nid pg : Nat) :
    (runF true init ops).pages.countP (fun p => p.net = nid ∧ p.pgno = pg)
      ≤ 256 + (runF true init ops).pages.countP (fun p => 0 < p.ref) := by
  have g := good_reach true ops
  have h1 := count_le_live_add_ref nid pg _ g.1.zombieRef
  have h2 := version_bound_repaired ops nid pg
  omega

/-- ... so `n_subpages` is the exact number of allocated versions (no modulus) under the same client bound -/
theorem nsub_exact_refbound (ops : List Op) (hb : RefBound (runF true init ops)) (n : Net) (hn : n ∈ (runF true init ops).nets)
    (pg : Nat) : (n.getStat pg).nSub = (runF true init ops).pages.countP (fun p => p.net = n.id ∧ p.pgno = pg) := by
  have g := good_reach true ops
  have h := versions_le_refs_repaired ops n.id pg
  rw [g.1.nSub n hn pg]
  unfold RefBound at hb
  exact Nat.mod_eq_of_lt (by omega)

example : (runF true init [.addNet, .put 0 ⟨0x101, 2, 0, 0, 0, 7⟩, .put 0 ⟨0x101, 2, 0, 0, 0, 8⟩]).nets.map
    (fun n => (n.getStat 0x101).nSub) = [2] := by decide

end Zvbi.Props.C10Hi
