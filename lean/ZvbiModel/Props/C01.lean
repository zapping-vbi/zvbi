import ZvbiModel.Enh.Lemmas
import ZvbiModel.Props.C01Ttx
/-!
# C01 - the service decoder survives every input: proved safety obligations

C01 is a conjunction over the whole decoder.  This file holds the obligations that are *logic* and have been
proved on models tied to the current source; the per-component obligations (caption cursor invariant, XDS
buffer bounds, cache invariants / teardown, page-walk termination, Teletext index bounds) live in the
component property files and are listed in DESIGN.md section 7 "C01".  Everything else is covered by the
sanitizer-instrumented correspondence runs only (see evidence/C01.json `partial_note`).
-/
namespace Zvbi.Props.C01
open Zvbi.Enh Zvbi.Generated.Enh

/-- The facts the termination proof uses are present in the current source text of `teletext.c enhance()`:
the priority test textually precedes the recursive call and the call passes `new_type`. -/
theorem enhance_guard_in_source : guardPrecedesCall = true ∧ callPassesNewType = true := by decide

/-- **Object invocation cannot recurse without bound.**  Whatever the broadcast object definitions contain -
including objects that invoke themselves or each other in cycles (`objs` is arbitrary) - and whatever triplets
the page carries, `enhance()` started at object type `type ≤ 3` nests at most `4 - type` activations deep:
local enhancement data (type 0) at most 4, a default passive object (type 3) exactly 1. -/
theorem enhance_recursion_bounded (objs : Objects) (type : Nat) (trips : List Trip)
    (h : type ≤ maxObjectType) :
    (enhance objs (maxObjectType + 1 - type) type trips).isSome :=
  enhance_isSome objs _ type (by omega) (by omega) trips

/-- The two top-level entry points: page enhancement (`LOCAL_ENHANCEMENT_DATA`) and default object invocation
(type taken from a 2-bit MOT field, hence `≤ 3`). -/
theorem enhance_page_terminates (objs : Objects) (trips : List Trip) :
    (enhance objs 4 localEnhancementData trips).isSome :=
  enhance_recursion_bounded objs localEnhancementData trips (by decide)

/-- The bound is tight and the hypothesis is not vacuous: one object that invokes itself three times with
rising priority reaches nesting depth 4, and the model still terminates on it. -/
def cyclic : Objects := fun _ => [.invoke 0x11 0, .invoke 0x12 0, .invoke 0x13 0]
example : depth cyclic 10 0 (cyclic 0) = 4 := by simp [depth, cyclic, skipInvocation, typeMask]
example : (enhance cyclic 4 0 (cyclic 0)).isSome = true := by simp [enhance, cyclic, skipInvocation, typeMask]
example : enhance cyclic 3 0 (cyclic 0) = none := by simp [enhance, cyclic, skipInvocation, typeMask]

/-- **Teletext decoder: no out-of-range index and no failing assertion, for every packet history, on the
current tree.**  `Ttx.run` marks every array access outside its (generated) extent and every
`cache_network_page_stat` assertion as `Aux.fault site`; this is `C01Ttx.no_fault_reachable` with its
hypothesis discharged by the flag that `translate/gen_ttx.py` reads from packet.c (the proof is `rfl` on that
flag, so it stops building when the last-PTU repair F58 - or, through the per-site lemmas, F18 / F22 / F23 or an
array extent - is lost). -/
theorem teletext_no_fault_reachable (on : Bool) (ps : List Zvbi.Ttx.Packet) (site : String) :
    Zvbi.Ttx.Event.aux (Zvbi.Ttx.Aux.fault site) ∉ (Zvbi.Ttx.run (Zvbi.Ttx.init.enable on) ps).2 :=
  Zvbi.Props.C01Ttx.no_fault_reachable rfl on ps site

end Zvbi.Props.C01
