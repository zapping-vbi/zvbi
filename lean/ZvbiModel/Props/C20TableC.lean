import ZvbiModel.Props.C20TableB
/-!
# C20 - table theorems, part C: callouts, per-mutex protection (on the COMPLETE table that
`translate/gen_locks.py` extracts from the current source)
-/
namespace Zvbi.Props.C20
open Zvbi.Locks Zvbi.Locks.Instance Zvbi.Generated.Locks

/-- **Callbacks, no exception.**  The table contains no callout that is delivered while a mutex
needed by the handler-safe functions (`vbi_fetch_cc_page`: cc, `vbi_channel_switched`: chswcd) is
held, and the translator expanded every callout of the role graphs with the handler calls (so the
race and deadlock theorems of `Props/C20.lean` cover handlers that re-enter the library). -/
theorem callouts_reentrant_table : allBadCallouts = [] ∧ allUnexpanded = [] := by
  simp only [allBadCallouts, allUnexpanded, List.flatMap_eq_nil_iff, badCallouts, unexpandedCallouts,
    filterMap_eq_nil_iff_all, Role.all_accs, roles, cfg_vbi_decode, List.forall_mem_cons, List.all_cons, List.all_nil,
    List.all_append]
  decide +kernel

/-- corollary, with the exception list K2 (`knownCallout` of `Locks/Instance.lean`): every bad callout is one of K2 -/
theorem callouts_reentrant_modulo_known :
    (allBadCallouts.all fun p => knownCallout p.1) = true ∧
    (allUnexpanded.all fun p => allBadCallouts.contains p) = true := by
  rw [callouts_reentrant_table.1, callouts_reentrant_table.2]; exact ⟨rfl, rfl⟩

/-- **Protection, no exception.**  In every role graph every access (read or write) to
`vbi->cc.channel[*]` happens under `cc.mutex`, to the `vbi3_raw_decoder` state under `rd->mutex`, to
`vbi->chswcd` under `chswcd_mutex`. -/
theorem table_protection :
    (roles.all fun R => protectedB mx_cc isCcChannel noSite R.accs) = true ∧
    (roles.all fun R => protectedB mx_rd isRd3 noSite R.accs) = true ∧
    (roles.all fun R => protectedB mx_chswcd isChswcd noSite R.accs) = true := by
  refine ⟨?_, ?_, ?_⟩ <;>
    exact List.all_eq_true.2 fun R hR =>
      protectedB_of_guarded (fun x hx => by cases beq_iff_eq.1 hx; rfl) (table_guarded R hR)

end Zvbi.Props.C20
