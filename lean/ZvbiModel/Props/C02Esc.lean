import ZvbiModel.Fmt.LemmasEsc
import ZvbiModel.Props.C02
/-!
# Property C02: the ESC (0x1B) "G0 switch" spacing attribute and the two designated G0 sets

EN 300 706 12.2: ESC toggles between the first and the second G0 set; like every spacing attribute its effect ends
with the row, every row starts in the first G0 set.  `L1Spec.escAt` says exactly this (parity of the ESC codes before
the column IN THE SAME ROW) and `C02.format_refines_L1Spec_libheld` proves every formatted cell equal to `L1Spec.cell`;
the theorems below spell the consequence out for the displayed character, name the two sets
(`character_set_designation` of teletext.c) and exhibit a concrete page on which a formatter that carries the ESC
state from one row into the next (seeded change C02-h) gives a different result.

Vocabulary (Fmt/LemmasEsc.lean): `escCount code c` = number of ESC codes in columns 0..c-1 of a row with codes `code`;
`PlainCell p row col` = the cell shows its own byte as a
G0 character: the row is not the lower half of a double-height row, the cell is not the right half of a double-width
character, the code (after parity; a parity error counts as a space) is >= 0x20, and the row is in alphanumerics mode at
that column or the code has bit 0x20 clear.
-/
namespace Zvbi.Props.C02Esc
open Zvbi.Fmt Zvbi.Fmt.L1Spec Zvbi.Props.C02

/-- **esc_toggle_per_row**.  For every page (any bytes, flags, national option, character set codes) and every plain
cell (row < 25, col < 40) the displayed character is the cell's 7-bit code mapped by `vbi_teletext_unicode` through the
FIRST G0 set of the page when the number of ESC codes in columns 0..col-1 OF THAT ROW is even, and through the SECOND G0
set when it is odd.  No other row enters the right-hand side. -/
theorem esc_toggle_per_row (p : PageIn) (row col : Nat) (hr : row < 25) (hc : col < 40) (h : PlainCell p row col) :
    (cellAt (format p) row col).unicode =
      if escCount (codeAt p row) col % 2 = 0
      then teletextUnicode (rowCtx p row).font0.g0 (rowCtx p row).font0.subset (codeAt p row col)
      else teletextUnicode (rowCtx p row).font1.g0 (rowCtx p row).font1.subset (codeAt p row col) := by
  obtain ⟨hu, hcov, hk, hm⟩ := h
  rw [format_cellAt p row col hr hc]
  unfold cell cellCx
  rw [hu]
  simp only [Bool.false_eq_true, if_false]
  have hcode : (rowCtx p row).code = codeAt p row := rfl
  -- the character of the cell: printable, not shown as a mosaic, G0 set by the parity of the ESC codes before it
  have hch : (baseCell (rowCtx p row) .lib col).unicode
      = if escCount (codeAt p row) col % 2 = 0
        then teletextUnicode (rowCtx p row).font0.g0 (rowCtx p row).font0.subset (codeAt p row col)
        else teletextUnicode (rowCtx p row).font1.g0 (rowCtx p row).font1.subset (codeAt p row col) := by
    show charAt (rowCtx p row) .lib col = _
    unfold charAt
    simp only [hcode]
    rw [if_neg (by omega : ¬ codeAt p row col ≤ 0x1F), if_neg (by rcases hm with hm | hm <;> simp [hm])]
    have he : escAt (rowCtx p row) col = decide (escCount (codeAt p row) col % 2 = 1) := rfl
    rw [he]
    by_cases h1 : escCount (codeAt p row) col % 2 = 1
    · simp [h1]
    · simp [show escCount (codeAt p row) col % 2 = 0 by omega]
  unfold rowCell
  rw [hcov]
  simp only [Bool.false_eq_true, if_false]
  split <;> exact hch

/-- non-vacuity: row 2, column 3 of `escWitness` (`$ @ ESC $ @`, one ESC before it) is a plain cell and shows
U+016F, code 0x24 in the second set -/
example : PlainCell escWitness 2 3 ∧ escCount (codeAt escWitness 2) 3 = 1 ∧ (cellAt (format escWitness) 2 3).unicode = 0x16F := by
  refine ⟨⟨?_, ?_, ?_, ?_⟩, ?_, ?_⟩ <;> decide +kernel

/-- **esc_starts_in_first_set**: a plain cell with no ESC code to its left in its own row shows the FIRST G0 set -
whatever the rows above contain (in particular however many ESC codes they contain). -/
theorem esc_starts_in_first_set (p : PageIn) (row col : Nat) (hr : row < 25) (hc : col < 40) (h : PlainCell p row col)
    (hn : ∀ j, j < col → codeAt p row j ≠ 0x1B) :
    (cellAt (format p) row col).unicode
      = teletextUnicode (rowCtx p row).font0.g0 (rowCtx p row).font0.subset (codeAt p row col) := by
  rw [esc_toggle_per_row p row col hr hc h, escCount_zero_of_none _ _ hn]
  simp

/-- row 2 column 0 of `escWitness` follows a row with one ESC and still shows the Turkish U+011F -/
example : (cellAt (format escWitness) 2 0).unicode = 0x11F ∧ ∀ j, j < 0 → codeAt escWitness 2 j ≠ 0x1B :=
  ⟨by decide +kernel, fun j hj => absurd hj (Nat.not_lt_zero j)⟩

/-- **esc_row_local**: two pages with the same national option bits and character set codes whose rows `row` carry the
same codes up to column `col` show the same character in a cell that is plain in both - all other rows (and flags, page
numbers, colour-table offsets) may differ arbitrarily. -/
theorem esc_row_local (p q : PageIn) (row col : Nat) (hr : row < 25) (hc : col < 40)
    (hp : PlainCell p row col) (hq : PlainCell q row col)
    (hnat : p.national = q.national) (h0 : p.charset0 = q.charset0) (h1 : p.charset1 = q.charset1)
    (hrow : ∀ j, j ≤ col → codeAt p row j = codeAt q row j) :
    (cellAt (format p) row col).unicode = (cellAt (format q) row col).unicode := by
  rw [esc_toggle_per_row p row col hr hc hp, esc_toggle_per_row q row col hr hc hq,
    escCount_congr _ _ col (fun j hj => hrow j (by omega)), hrow col (by omega)]
  simp only [rowCtx, hnat, h0, h1]

/-- `escWitness` and the page that differs from it by an all-blank row 1 agree in row 2 -/
example : (cellAt (format escWitness) 2 3).unicode
    = (cellAt (format { escWitness with raw := fun i => if i < 80 then 0x20 else escWitness.raw i }) 2 3).unicode := by
  apply esc_row_local _ _ 2 3 (by decide) (by decide)
  · refine ⟨?_, ?_, ?_, ?_⟩ <;> decide +kernel
  · refine ⟨?_, ?_, ?_, ?_⟩ <;> decide +kernel
  · rfl
  · rfl
  · rfl
  · decide +kernel

/-- **esc_header_row**: in row 0 the codes of columns 0..7 are the library's own page number text
(`"\2%x.%02x\7"`, `hdrBuf`), which contains no ESC; so for a page number 0x100..0xFFF the ESC count of the header row
is the count over the transmitted header bytes of columns 8..col-1 only. -/
theorem esc_header_row (p : PageIn) (h1 : 0x100 ≤ p.pgno) (h2 : p.pgno < 0x1000) (col : Nat) :
    escCount (codeAt p 0) col = escCountFrom 8 (codeAt p 0) col ∧ ∀ j, j < 8 → codeAt p 0 j ≠ 0x1B :=
  ⟨escCount_hdr p h1 h2 col, hdr_no_esc p h1 h2⟩

/-- a header whose transmitted bytes 0..7 and 9 are ESC (odd parity 0x9B): only column 9 counts -/
example : escCount (codeAt { escWitness with raw := fun i => if i < 8 ∨ i = 9 then 0x9B else 0x20 } 0) 12 = 1 := by
  decide +kernel

/-- **plain_code_range**: the code of any cell of a page with a three-digit page number is a 7-bit value (a byte with
wrong parity reads as 0x20), so "printable" in `PlainCell` means 0x20..0x7F. -/
theorem plain_code_range (p : PageIn) (h1 : 0x100 ≤ p.pgno) (h2 : p.pgno < 0x1000) (row col : Nat) :
    codeAt p row col < 0x80 := by
  by_cases h : row = 0 ∧ col < 8
  · obtain ⟨rfl, hc⟩ := h
    have := hdrCode_cases p col hc h1 h2
    show (rowCtx p 0).code col < 0x80
    omega
  · unfold codeAt Zvbi.Hamm.unpar8
    rw [if_neg h]
    split
    · rename_i v hv
      split at hv
      · cases hv
        have : p.raw (40 * row + col) &&& 127 ≤ 127 := Nat.and_le_right
        omega
      · cases hv
    · decide

example : codeAt escWitness 1 2 = 0x1B ∧ codeAt escWitness 1 3 = 0x24 := by decide +kernel

/-- **esc_second_set_designation**.  Which sets these are (teletext.c `character_set_designation`; `pageInX` is the
extension selection at Level 1 / 1.5): for i = 0 (first set) and i = 1 (second set) the font descriptor index is
`(code_i & ~7) + national` when that is a valid character set (< 88 with a G0 set), else `code_i` itself when valid,
else descriptor 0 (Latin G0, English subset); where `code_0, code_1` are the page's own X/28/0 format 1 or X/28/4
character set codes when the page received one (`x28_designations & 0x11`), and otherwise the default region and 0.
So without X/28 the second G0 set is selected by the national option bits C12-C14 alone, within group 0. -/
theorem esc_second_set_designation (region pgno subno flags national : Nat) (e : ExtIn) (raw : Nat → Nat) (row : Nat) :
    let cx := rowCtx (pageInX region pgno subno flags national e raw) row
    let sel := fun code =>
      if validCharset (code / 8 * 8 + national) then code / 8 * 8 + national else if validCharset code then code else 0
    cx.font0 = fontOf (sel (if ownExt e then e.cs0 else region)) ∧
    cx.font1 = fontOf (sel (if ownExt e then e.cs1 else 0)) := by
  intro cx sel
  show (rowCtx (pageInX region pgno subno flags national e raw) row).font0 = _ ∧
    (rowCtx (pageInX region pgno subno flags national e raw) row).font1 = _
  unfold pageInX
  by_cases ho : ownExt e = true
  · simp only [ho, if_true, rowCtx, charsetDesignation_cases]
    exact ⟨rfl, rfl⟩
  · simp only [ho, rowCtx, charsetDesignation_cases]
    exact ⟨rfl, rfl⟩

/-- default region 16, national option 6, no X/28: first set = descriptor 22 (Latin, Turkish subset 13), second set =
descriptor 6 (Latin, Czech/Slovak subset 1); with X/28/0 designating 0x24 / 0x37 under national option 4: first set
(0x24 & ~7) + 4 = 36 (Cyrillic-2 G0), second set (0x37 & ~7) + 4 = 52 is not a character set, fallback to 0x37 = 55
(Greek G0) -/
example :
    (rowCtx (pageInX 16 0x150 0 0 6 {} (fun _ => 0x20)) 1).font0 = ⟨1, 13⟩ ∧
    (rowCtx (pageInX 16 0x150 0 0 6 {} (fun _ => 0x20)) 1).font1 = ⟨1, 1⟩ ∧
    (rowCtx (pageInX 16 0x150 0 0 4 { x28 := 1, cs0 := 0x24, cs1 := 0x37 } (fun _ => 0x20)) 1).font0 = ⟨4, 0⟩ ∧
    (rowCtx (pageInX 16 0x150 0 0 4 { x28 := 1, cs0 := 0x24, cs1 := 0x37 } (fun _ => 0x20)) 1).font1 = ⟨7, 0⟩ := by
  decide +kernel

/-- **second_set_default**: with the default magazine extension (no X/28) the second G0 set is, for every default
region, font descriptor number `national` (the national option bits C12-C14 read as a number 0..7: English, German,
Swedish/Finnish/Hungarian, Italian, French, Portuguese/Spanish, Czech/Slovak, and 7 = Latin without national
subset), always a Latin G0 set; the default region only selects the FIRST set. -/
theorem second_set_default (region pgno subno flags national : Nat) (raw : Nat → Nat) (row : Nat) (hn : national < 8) :
    (rowCtx (pageInX region pgno subno flags national {} raw) row).font1 = fontOf national
    ∧ (fontOf national).g0 = 1 := by
  have hd : (rowCtx (pageInX region pgno subno flags national {} raw) row).font1
      = fontOf (charsetDesignation 0 national) := rfl
  rw [hd]
  have h8 : national = 0 ∨ national = 1 ∨ national = 2 ∨ national = 3 ∨ national = 4 ∨ national = 5 ∨ national = 6
      ∨ national = 7 := by omega
  rcases h8 with rfl | rfl | rfl | rfl | rfl | rfl | rfl | rfl <;> decide +kernel

example : (rowCtx (pageInX 16 0x150 0 0 6 {} (fun _ => 0x20)) 3).font1 = fontOf 6 :=
  (second_set_default 16 0x150 0 0 6 _ 3 (by decide)).1

/-- **seeded_C02h_excluded**.  The page of seeded/C02-h/demo.c (national option 6, default region 16, rows 1 and 2
both `$ @ ESC $ @`): the model of `vbi_format_vt_page` and L1Spec show in BOTH rows the Turkish U+011F U+0130 before
the ESC and the Czech/Slovak U+016F U+010D after it.  A formatter that carries the ESC state of row 1 into row 2
(the seeded change) shows U+011F U+0130 at row 2, columns 3 and 4, hence is not `format` and contradicts
`format_refines_L1Spec_libheld`. -/
theorem seeded_C02h_excluded :
    (List.range 5).map (fun c => (cellAt (format escWitness) 1 c).unicode) = [0x11F, 0x130, 0x20, 0x16F, 0x10D] ∧
    (List.range 5).map (fun c => (cellAt (format escWitness) 2 c).unicode) = [0x11F, 0x130, 0x20, 0x16F, 0x10D] ∧
    (List.range 5).map (fun c => (L1Spec.cell .lib escWitness 2 c).unicode) = [0x11F, 0x130, 0x20, 0x16F, 0x10D] ∧
    (cellAt (format escWitness) 2 3).unicode ≠ 0x11F ∧ (cellAt (format escWitness) 2 4).unicode ≠ 0x130 := by
  decide +kernel

example : (cellAt (format escWitness) 2 3).unicode = 0x16F := by
  have := seeded_C02h_excluded.2.1
  simpa using congrArg (fun l => l.getD 3 0) this

end Zvbi.Props.C02Esc
