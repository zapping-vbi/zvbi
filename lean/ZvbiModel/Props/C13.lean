import ZvbiModel.Net.LemmasChange
import ZvbiModel.Net.LemmasGlitch
import ZvbiModel.Net.LemmasRepeat
/-!
# C13 - station, programme, time and aspect announcements are faithful and debounced

The property theorems (lemmas about the single operations live in `ZvbiModel/Net/Lemmas*.lean`, vocabulary in
`ZvbiModel/Net/Spec.lean`).  Every theorem holds for every station table (`cfg.lk` is a
parameter) and for every decoder state `s`, reachable or not, unless a hypothesis says otherwise.
Histories are lists of atoms (`tick` = head of a `vbi_decode` call, `line` = one sliced line,
`mask`, `chsw`); `frames_are_atom_lists` says a frame is `tick` followed by its lines, so all
interleavings of the carriers inside and across frames are covered.  Events are the ones raised;
the handler sees the sub-list selected by its mask (`handler_sees_raised_events_only`).

Two source shapes each for F11 and F35 (`cfg.perCarrier`, `cfg.chswIdent`; read from the tree by
translate/gen_netflags.py, see `cfg_of_this_tree`).  Every theorem is stated for every `cfg`, i.e. for both
shapes, unless it names a flag: the counterexamples name the unrepaired value, the full-strength statements
(`single_glitch_harmless_per_carrier`, `station_change_to_unknown_exactly_one_event`) the repaired one.
`pending cfg c s` is `n->cycle == 1` in the shared-cycle shape and `vbi->cni_cycle[c] == 1` in the per-carrier one.
-/
namespace Zvbi.Props.C13
open Zvbi.Net Zvbi.Codec Zvbi.Gen

/-- a configuration with an empty station table (for histories without CNIs) -/
def cfgPlain : Cfg := { lk := fun _ _ => (0, []), xdsGuard := true }

/-- One call of `vbi_decode` is the atom list `tick t :: lines`. -/
theorem frames_are_atom_lists (cfg : Cfg) (s : State) (t : Nat) (ls : List Line) :
    frameRaw cfg s t ls = runAtoms cfg s (frameAtoms t ls) := by
  have h : ∀ (ls : List Line) (s : State), rxLines cfg t s ls = runAtoms cfg s (ls.map (Atom.line t)) := by
    intro ls
    induction ls with
    | nil => intro s; rfl
    | cons l ls ih => intro s; simp only [rxLines, List.map, runAtoms, stepAtom, ih]
  simp only [frameRaw, frameAtoms, runAtoms, stepAtom, h]

/-- The handler is called only with events that were raised (mask filter of `vbi_send_event`). -/
theorem handler_sees_raised_events_only (cfg : Cfg) (s : State) (t : Nat) (ls : List Line) :
    ∀ e ∈ (frame cfg s t ls).2, e ∈ (frameRaw cfg s t ls).2 := by
  intro e he
  simp only [frame, deliver] at he
  exact (List.mem_filter.mp he).1

example : (frame cfg0 init 0 []).2 = [] := by decide

/-! ## event_values_faithful -/

/-- Every NETWORK / NETWORK_ID event raised by a VPS or 8/30 line carries the CNI that line transmitted,
    the id and the name the table gives for it; and it is raised only if that value was already stored
    with a change pending.  With the callers of `vbi_chsw_reset` passing "identified" (`cfg.chswIdent`, F35
    repaired) this holds without exception; before, one case is excluded: an identified station replaced by a
    CNI the table does not know (`event_values_unknown_station_counterexample`). -/
theorem event_values_faithful (cfg : Cfg) (t : Nat) (s : State) (l : Line) (c : Carrier) (v : Nat)
    (h : lineCni s.mask l = some (c, v)) (hx : cfg.chswIdent = true ∨ ¬ ((cfg.lk c v).1 = 0 ∧ s.net.nuid ≠ 0)) (n : Network)
    (hn : Ev.network n ∈ (rxLine cfg t s l).2 ∨ Ev.networkId n ∈ (rxLine cfg t s l).2) :
    cniOf c n = v ∧ n.nuid = (cfg.lk c v).1 ∧ n.name = lkName cfg c v ∧ cniOf c s.net = v ∧ pending cfg c s := by
  obtain ⟨p, extra, e, hex⟩ := rxLine_cniRx cfg t s l c v h
  rw [e] at hn
  have hn := mem_extra_of_network hex n hn
  revert hn
  apply cniRx_cases cfg c v s (fun r => (Ev.network n ∈ r.2 ∨ Ev.networkId n ∈ r.2) →
    cniOf c n = v ∧ n.nuid = (cfg.lk c v).1 ∧ n.name = lkName cfg c v ∧ cniOf c s.net = v ∧ pending cfg c s)
  · intro _ hn; simp at hn
  · intro _ _ hn; simp at hn
  · intro hst hp hn
    have f := announce_faithful cfg c v s hx n hn
    rw [f, cniOf_adopt]
    exact ⟨hst.symm, rfl, rfl, hst.symm, hp⟩

/-- F35 in the model, for every tree WITHOUT the repair (`cfg.chswIdent = false`: the CNI paths call
    `vbi_chsw_reset (vbi, id)` with `id = 0`): when an identified station is replaced by a CNI missing from the
    table, the line raises NETWORK twice and a NETWORK_ID whose CNI fields are all zero although `v` was received. -/
theorem event_values_unknown_station_counterexample (cfg : Cfg) (hI : cfg.chswIdent = false)
    (t : Nat) (s : State) (l : Line) (c : Carrier) (v : Nat)
    (h : lineCni s.mask l = some (c, v)) (hst : v = cniOf c s.net) (hcy : pending cfg c s)
    (hold : s.net.nuid ≠ 0) (hnew : (cfg.lk c v).1 = 0) :
    countNetwork (rxLine cfg t s l).2 = 2 ∧ Ev.networkId {} ∈ (rxLine cfg t s l).2 ∧
    cniOf c (rxLine cfg t s l).1.net = 0 := by
  obtain ⟨p, extra, e, hex⟩ := rxLine_cniRx cfg t s l c v h
  rw [e, cniRx_pending cfg c v s hst hcy, announce_unknown cfg c v s hold hnew hI]
  refine ⟨?_, List.mem_append_left _ (by simp), by simp [markDone_cniOf, chswReset_fst, cniOf_empty]⟩
  show countNetwork (_ ++ _ ++ extra) = 2
  rw [countNetwork_append, countNetwork_append, countNetwork_extra extra hex, countNetwork_chswReset, if_pos ⟨rfl, hold⟩]
  rfl

/-- A PROG_ID event from VPS carries exactly the PIL/PTY/PCS/CNI of this line, and the same programme id was
    received on the previous VPS line that changed it (double reception, VPS has no error protection). -/
theorem event_values_faithful_vps_pid (cfg : Cfg) (s : State) (b : Buf) (p : Pid)
    (h : Ev.progId p ∈ (rxVps cfg s b).2) : p = decodeVpsPdc b ∧ s.vpsPid = decodeVpsPdc b ∧ decodeVpsCni b = s.net.cniVps :=
  have f := rxVps_progId cfg s b p h
  ⟨f.1, f.2.1, f.2.2.1⟩

/-- A LOCAL_TIME event carries the time and offset decoded from this very 8/30 format 1 packet. -/
theorem event_values_faithful_local_time (cfg : Cfg) (s : State) (b : Buf) (t east : Int)
    (h : Ev.localTime t east ∈ (rxTtx cfg s b).2) : decode8301LocalTime b = some (t, east) := by
  rcases rxTtx_extra cfg s b _ rfl h with ⟨t', e', x, y⟩ | ⟨p, x, _⟩
  · injection x with a b'; rw [a, b']; exact y
  · cases x

/-- A PROG_ID event from Teletext carries the programme id decoded from this very 8/30 format 2 packet. -/
theorem event_values_faithful_pdc (cfg : Cfg) (s : State) (b : Buf) (p : Pid)
    (h : Ev.progId p ∈ (rxTtx cfg s b).2) : decode8302Pdc b = some p := by
  rcases rxTtx_extra cfg s b _ rfl h with ⟨t', e', x, _⟩ | ⟨p', x, y⟩
  · cases x
  · injection x with a; rw [a]; exact y

/-- An ASPECT event carries the aspect the WSS word encodes; it needs that word stored, three earlier
    repeats counted, valid parity, and an aspect different from the one announced last. -/
theorem event_values_faithful_aspect (s : State) (b0 b1 t : Nat) (a : Aspect) (h : Ev.aspect a ∈ (rxWss s b0 b1 t).2) :
    a = wssAspect b0 b1 ∧ s.wssLast = (b0, b1) ∧ 2 ≤ s.wssRep ∧ wssParityOk b0 = true ∧ a ≠ s.aspect := by
  have e := rxWss_event s b0 b1 t a h
  exact ⟨e.2.2.2.2.1, e.2.1, e.2.2.1, e.2.2.2.1, e.2.2.2.2.2⟩

/-- An XDS NETWORK / NETWORK_ID event carries the received name and the check sum over call letters (or name);
    it needs the same name stored by an earlier packet and a change pending. -/
theorem event_values_faithful_xds (g : Bool) (s : State) (ty : Nat) (bytes : List Nat) (n : Network)
    (h : Ev.network n ∈ (rxXds g s ty bytes).2 ∨ Ev.networkId n ∈ (rxXds g s ty bytes).2) :
    ty = 1 ∧ (xdsStrfu s.net.name bytes).2 = false ∧ s.net.cycle = 1 ∧ n.name = s.net.name ∧
    n.name = (xdsStrfu s.net.name bytes).1 ∧ n.nuid = xdsNuid (if s.net.call ≠ [] then s.net.call else s.net.name) := by
  revert h
  apply rxXds_cases g s ty bytes (fun r => (Ev.network n ∈ r.2 ∨ Ev.networkId n ∈ r.2) → ty = 1 ∧
    (xdsStrfu s.net.name bytes).2 = false ∧ s.net.cycle = 1 ∧ n.name = s.net.name ∧
    n.name = (xdsStrfu s.net.name bytes).1 ∧ n.nuid = xdsId s.net)
  case hname => intro _ _ h; simp at h
  case hidle => intro _ _ h; simp at h
  case hcall => intro _ _ h; simp at h
  case hsame =>
    intro t1 hq hc _ hid h
    have e : n = s.net := by simpa using h
    rw [e]
    exact ⟨t1, hq, hc, rfl, (xdsStrfu_same _ _ hq).symm, hid.symm⟩
  case hfirst =>
    intro t1 hq hc _ _ h
    have e : n = { s.net with nuid := xdsId s.net } := by simpa using h
    rw [e]
    exact ⟨t1, hq, hc, rfl, (xdsStrfu_same _ _ hq).symm, rfl⟩
  case hswitch =>
    intro t1 hq hc _ _ h
    have k := (chswReset_identified_silent s).not_mem n
    have e : n = { s.net with nuid := xdsId s.net } := by simpa [k.1, k.2] using h
    rw [e]
    exact ⟨t1, hq, hc, rfl, (xdsStrfu_same _ _ hq).symm, rfl⟩

-- non-vacuity: a VPS word received twice is announced with its own CNI
example : (runAtoms { lk := fun _ _ => (7, [65]), xdsGuard := false } init
    [.line 0 (.vps [0,0,0,0,0,0,0,0,0xC0,0,0x02,0x81,0]), .line 0 (.vps [0,0,0,0,0,0,0,0,0xC0,0,0x02,0x81,0])]).2.length = 2 := by
  decide

/-! ## announce_needs_repeat -/

/-- A line whose CNI differs from the one stored for its carrier raises neither NETWORK nor NETWORK_ID. -/
theorem announce_needs_stored_value (cfg : Cfg) (t : Nat) (s : State) (l : Line) (c : Carrier) (v : Nat)
    (h : lineCni s.mask l = some (c, v)) (hd : v ≠ cniOf c s.net) : Silent (rxLine cfg t s l).2 := by
  obtain ⟨p, extra, e, hex⟩ := rxLine_cniRx cfg t s l c v h
  rw [e, cniRx_change cfg c v s hd]
  exact Silent_append Silent_nil (Silent_extra hex)

/-- Full strength, any interleaving: take ANY state, a reception of `u` on carrier `c`, then ANY atoms that
    are not receptions on `c` (other carriers, WSS, XDS, pages, ticks with or without time-outs, mask
    changes, channel switches), then a reception of `v ≠ u`, `v ≠ 0` on `c`: nothing is announced.
    (`v = 0` is the value a reset leaves behind; a CNI of 0 means "none".) -/
theorem announce_needs_repeat (cfg : Cfg) (c : Carrier) (u v : Nat) (hne : u ≠ v) (hv0 : v ≠ 0)
    (s0 : State) (t1 : Nat) (l1 : Line) (h1 : lineCni s0.mask l1 = some (c, u))
    (mid : List Atom) (hmid : ∀ a ∈ mid, a.freeOf c = true) (t2 : Nat) (l2 : Line)
    (h2 : lineCni (runAtoms cfg (stepAtom cfg s0 (.line t1 l1)).1 mid).1.mask l2 = some (c, v)) :
    Silent (stepAtom cfg (runAtoms cfg (stepAtom cfg s0 (.line t1 l1)).1 mid).1 (.line t2 l2)).2 := by
  obtain ⟨p, extra, e, _⟩ := rxLine_cniRx cfg t1 s0 l1 c u h1
  have a1 : cniOf c (stepAtom cfg s0 (.line t1 l1)).1.net = u ∨ cniOf c (stepAtom cfg s0 (.line t1 l1)).1.net = 0 := by
    simp only [stepAtom]
    rw [e]
    have k := cniRx_cniOf cfg c u s0 c
    rwa [cniOf_setCni_self] at k
  have a2 := runAtoms_cni_other cfg c u mid _ hmid a1
  simp only [stepAtom]
  apply announce_needs_stored_value cfg t2 _ l2 c v h2
  rcases a2 with e | e
  · rw [e]; exact fun x => hne x.symm
  · rw [e]; exact hv0

/-- WSS, full strength: four WSS words in time order from ANY state with ANY other atoms (including resets)
    in between; an ASPECT event at the fourth needs all four identical and valid parity (the code's
    `++rep_ct < 3`). -/
theorem announce_needs_repeat_wss (cfg : Cfg) (s0 : State) (w1 w2 w3 w4 : Nat × Nat) (t1 t2 t3 t4 : Nat)
    (m1 m2 m3 : List Atom) (f1 : ∀ a ∈ m1, a.wssFree = true) (f2 : ∀ a ∈ m2, a.wssFree = true)
    (f3 : ∀ a ∈ m3, a.wssFree = true) (h0 : s0.wssTime ≤ t1) (h12 : t1 ≤ t2) (h23 : t2 ≤ t3)
    (a : Aspect)
    (hev : Ev.aspect a ∈ (stepAtom cfg (runAtoms cfg s0
        (Atom.line t1 (.wss w1.1 w1.2) :: m1 ++ Atom.line t2 (.wss w2.1 w2.2) :: m2 ++
         Atom.line t3 (.wss w3.1 w3.2) :: m3)).1 (.line t4 (.wss w4.1 w4.2))).2) :
    w1 = w2 ∧ w2 = w3 ∧ w3 = w4 ∧ wssParityOk w4.1 = true ∧ a = wssAspect w4.1 w4.2 := by
  rw [runAtoms_append, runAtoms_append] at hev
  have A := wss_word_then_free cfg s0 w1 t1 m1 f1 h0
  generalize (runAtoms cfg s0 (Atom.line t1 (.wss w1.1 w1.2) :: m1)).1 = sA at hev A
  have B := wss_word_then_free cfg sA w2 t2 m2 f2 (Nat.le_trans A.1 h12)
  generalize (runAtoms cfg sA (Atom.line t2 (.wss w2.1 w2.2) :: m2)).1 = sB at hev B
  have C := wss_word_then_free cfg sB w3 t3 m3 f3 (Nat.le_trans B.1 h23)
  generalize (runAtoms cfg sB (Atom.line t3 (.wss w3.1 w3.2) :: m3)).1 = sC at hev C
  have ev := rxWss_event sC w4.1 w4.2 t4 a hev
  -- the all-zero word has invalid parity, so the stored word is not what a reset leaves
  have nz : w4 ≠ (0, 0) := by
    intro z
    have : wssParityOk w4.1 = false := by rw [z]; decide
    rw [this] at ev
    exact absurd ev.2.2.2.1 (by simp)
  have c := C.2 (by rw [ev.2.1]; exact nz)
  have w34 : w3 = w4 := c.1.symm.trans ev.2.1
  have c2 := c.2 (by have := ev.2.2.1; omega)
  have b := B.2 (by rw [c2.1, w34]; exact nz)
  have w23 : w2 = w3 := b.1.symm.trans c2.1
  have b2 := b.2 (by have := ev.2.2.1; omega)
  have a1 := A.2 (by rw [b2.1, w23, w34]; exact nz)
  exact ⟨a1.1.symm.trans b2.1, w23, w34, ev.2.2.2.1, ev.2.2.2.2.1⟩

-- non-vacuity: the fourth identical valid word does raise ASPECT (16:9 = format 3, odd parity bit set)
example : (runAtoms cfg0 init [.line 1 (.wss 0x0B 0), .line 2 (.wss 0x0B 0), .line 3 (.wss 0x0B 0), .line 4 (.wss 0x0B 0)]).2
    = [Ev.aspect (wssAspect 0x0B 0), Ev.progInfo (wssAspect 0x0B 0)] := by decide

/-! ## no_reannounce_while_stable -/

/-- Right after a NETWORK_ID from the debounce nothing is pending on that carrier (`n->cycle = 2` resp.
    `vbi->cni_cycle[c] = 2`). -/
theorem announcement_settles (cfg : Cfg) (c : Carrier) (v : Nat) (s : State) (n : Network)
    (h : Ev.networkId n ∈ (cniRx cfg c v s).2) : ¬ pending cfg c (cniRx cfg c v s).1 := by
  revert h
  apply cniRx_cases cfg c v s (fun r => Ev.networkId n ∈ r.2 → ¬ pending cfg c r.1)
  · intro _ h; simp at h
  · intro _ _ h; simp at h
  · intro _ _ _; exact announce_not_pending cfg c v s

/-- While nothing is pending (`n->cycle`, and in the per-carrier shape every `vbi->cni_cycle[c]`, differ from 1)
    and every reception (VPS, 8/30-1, 8/30-2, XDS name and call letters; WSS words
    and pages are free) equals what is stored, in any interleaving over any number of regular frames,
    neither NETWORK nor NETWORK_ID is raised, the network record stays as it is, the countdown stays idle, and a
    page cached at any point of the history is still cached at its end. -/
theorem no_reannounce_while_stable (cfg : Cfg) (n : Network) (mask : Nat) (hn : n.cycle ≠ 1)
    (atoms : List Atom) (s : State) (hnp : ∀ c, cfg.perCarrier = true → cycOf c s.deb ≠ 1)
    (h1 : s.net = n) (h2 : s.chswcd = 0) (h3 : s.mask = mask)
    (hreg : RegularFrom s.time atoms) (hq : ∀ a ∈ atoms, SameAsStored n mask a) :
    Silent (runAtoms cfg s atoms).2 ∧ (runAtoms cfg s atoms).1.net = n ∧ (runAtoms cfg s atoms).1.chswcd = 0 ∧
    (runAtoms cfg s atoms).1.mask = mask ∧
    (∀ q1 q2, atoms = q1 ++ q2 → (runAtoms cfg s q1).1.cached ⊆ (runAtoms cfg s atoms).1.cached) :=
  have r := stable_run cfg hn hnp atoms s ⟨h1, rfl, h2, hreg, hq, h3⟩
  ⟨r.2.1, r.1.net, r.1.cd, r.1.mask, r.2.2⟩

/-- WSS: an ASPECT event stores the announced aspect, and an event needs an aspect different from the stored
    one, so the same word arriving again cannot announce again. -/
theorem no_reannounce_aspect (s : State) (b0 b1 t : Nat) (a : Aspect) (h : Ev.aspect a ∈ (rxWss s b0 b1 t).2) :
    (rxWss s b0 b1 t).1.aspect = a ∧ ∀ t' a', Ev.aspect a' ∉ (rxWss (rxWss s b0 b1 t).1 b0 b1 t').2 := by
  revert h
  apply rxWss_cases s b0 b1 t (fun r => Ev.aspect a ∈ r.2 →
    r.1.aspect = a ∧ ∀ t' a', Ev.aspect a' ∉ (rxWss r.1 b0 b1 t').2)
  · intro _ h; cases h
  · intro _ _ h; cases h
  · intro _ _ _ h; cases h
  · intro _ _ _ _ _ h
    have e : a = wssAspect b0 b1 := by simpa using h
    refine ⟨e.symm, fun t' a' h' => ?_⟩
    rw [rxWss_same_aspect _ b0 b1 t' rfl] at h'
    cases h'

-- non-vacuity: a fifth and sixth identical word raise nothing more
example : (runAtoms cfg0 init [.line 1 (.wss 0x0B 0), .line 2 (.wss 0x0B 0), .line 3 (.wss 0x0B 0), .line 4 (.wss 0x0B 0),
    .line 5 (.wss 0x0B 0), .line 6 (.wss 0x0B 0)]).2.length = 2 := by decide

/-- On a tree whose `vbi_event_enable` resets the programme info only when neither
    ASPECT nor PROG_INFO was enabled before (`keeps = true`; `Gen.Net.enableKeepsProgInfo`, read from vbi.c on every
    run): while a handler for ASPECT or PROG_INFO is registered, registering / changing / removing handlers with ANY
    mask - the other of the two bits, other event classes, everything at once - keeps the remembered aspect and its
    source and the WSS repeat state, so a WSS word that encodes the remembered aspect raises no ASPECT (and no
    PROG_INFO) event afterwards: the handler that has been told this aspect is not told again. -/
theorem enable_other_class_keeps_aspect (s : State) (m : Nat)
    (hon : hasBit s.mask (VBI_EVENT_ASPECT ||| VBI_EVENT_PROG_INFO) = true) :
    (eventEnable true s m).aspect = s.aspect ∧ (eventEnable true s m).aspectSource = s.aspectSource ∧
    (eventEnable true s m).wssLast = s.wssLast ∧ (eventEnable true s m).wssRep = s.wssRep ∧
    ∀ b0 b1 t, wssAspect b0 b1 = s.aspect → (rxWss (eventEnable true s m) b0 b1 t).2 = [] := by
  -- with `keeps = true` and one of the two bits on, the aspect part of `vbi_event_enable` is skipped
  have e := eventEnable_eq true s m
  simp only [hon, Bool.not_true, Bool.or_false, Bool.and_false, Bool.false_eq_true, if_false] at e
  rw [e]
  refine ⟨rfl, rfl, rfl, rfl, ?_⟩
  exact fun b0 b1 t hw => rxWss_same_aspect _ b0 b1 t hw

-- non-vacuity: an ASPECT handler exists after `mask 0x40`, and the hypothesis of the theorem holds for that state
example : hasBit (runAtoms cfgPlain init [.mask 0x40]).1.mask (VBI_EVENT_ASPECT ||| VBI_EVENT_PROG_INFO) = true := by decide

/-- 16:9 word with valid parity four times to an ASPECT-only handler (mask 0x40), then the handler is registered
    again with ASPECT | PROG_INFO (0xC0), then the same word once more -/
def aspectThenOtherBit : List Atom :=
  [.mask 0x40, .line 1 (.wss 0x0B 0), .line 2 (.wss 0x0B 0), .line 3 (.wss 0x0B 0), .line 4 (.wss 0x0B 0),
   .mask 0xC0, .line 5 (.wss 0x0B 0)]

/-- non-vacuity and the other shape (seeded change C13-g): with the inner test the fifth word raises nothing;
    without it (`enableKeepsInfo = false`) the unchanged aspect is announced a second time with identical values. -/
theorem enable_other_class_counterexample :
    (runAtoms { cfgPlain with enableKeepsInfo := true } init aspectThenOtherBit).2 =
      [Ev.aspect (wssAspect 0x0B 0), Ev.progInfo (wssAspect 0x0B 0)] ∧
    (runAtoms { cfgPlain with enableKeepsInfo := false } init aspectThenOtherBit).2 =
      [Ev.aspect (wssAspect 0x0B 0), Ev.progInfo (wssAspect 0x0B 0), Ev.aspect (wssAspect 0x0B 0), Ev.progInfo (wssAspect 0x0B 0)] := by
  decide

/-! ## single_glitch_harmless -/

/-- Either shape.  Interleaved carriers, with the hypothesis the shared `cycle` variable forces (`ids_agree`; for the
    per-carrier shape see `single_glitch_harmless_per_carrier`, which needs no such hypothesis):
    the station transmits `st c` on carrier `c` and every carrier that is received with its station value
    (`ok c`) resolves to the one id `id`.  The decoder has identified the station (`nuid = id`), no countdown
    runs, and each carrier's stored value is the station's or a deviating value recorded in `lg`.  Then over
    ANY regularly timed history of VPS / 8/30 / WSS / page lines in ANY interleaving, in which deviating
    words may occur on any carrier any number of times as long as the same wrong value never comes twice
    in a row on one carrier, no NETWORK event is raised, no cached page is lost and the station stays
    identified.  A single deviating word between identical ones is the special case. -/
theorem single_glitch_harmless (cfg : Cfg) (st : Carrier → Nat) (ok : Carrier → Bool) (id mask : Nat)
    (ids_agree : ∀ c, ok c = true → (cfg.lk c (st c)).1 = id)
    (atoms : List Atom) (s : State) (lg : Carrier → Option Nat)
    (hid : s.net.nuid = id) (hcd : s.chswcd = 0) (hm : s.mask = mask)
    (hst : ∀ c, cniOf c s.net = st c ∨ lg c = some (cniOf c s.net))
    (hreg : RegularFrom s.time atoms) (hg : NoRepeatedGlitch st ok mask lg atoms) :
    NoNetwork (runAtoms cfg s atoms).2 ∧ s.cached ⊆ (runAtoms cfg s atoms).1.cached ∧
    (runAtoms cfg s atoms).1.net.nuid = id :=
  glitch_run_gen cfg st ok id mask (GInv st id mask) (fun e => e.isNetwork = false) (fun _ h => h.1)
    (fun _ _ inv => inv)
    (fun _ _ _ inv hn hc hm _ => ginv_transport inv hn hc hm)
    (fun _ _ c _ o ho inv => ginv_change cfg c o ho inv)
    (fun _ _ c hok h inv => ginv_same cfg c (ids_agree c hok) h inv)
    atoms s lg ⟨hid, hcd, hm, hst⟩ hreg hg

/-- FULL strength, for every tree with the repair of F11 (`cfg.perCarrier = true`: one repeat cycle and one
    "CNI announced last" per carrier): NO hypothesis about ids.  The station transmits `st c` on carrier `c`; every
    carrier has announced that value or never had to (`annOf c = st c`: 0 for a carrier that sends nothing), a repeat
    is awaited only on carriers whose stored value is a deviating word, no countdown runs.  Then over ANY regularly
    timed history of VPS / 8/30 / WSS / page lines in ANY interleaving, with any number of deviating words on any
    carriers (never the same wrong value twice in a row on one carrier): neither NETWORK nor NETWORK_ID is raised,
    no cached page is lost, and the identification (whatever it is, 0 included) stays. -/
theorem single_glitch_harmless_per_carrier (cfg : Cfg) (hp : cfg.perCarrier = true) (st : Carrier → Nat) (mask : Nat)
    (atoms : List Atom) (s : State) (lg : Carrier → Option Nat)
    (hcd : s.chswcd = 0) (hm : s.mask = mask)
    (hst : ∀ c, cniOf c s.net = st c ∨ lg c = some (cniOf c s.net))
    (hann : ∀ c, annOf c s.deb = st c) (hpend : ∀ c, pending cfg c s → cniOf c s.net ≠ st c)
    (hreg : RegularFrom s.time atoms) (hg : NoRepeatedGlitch st (fun _ => true) mask lg atoms) :
    Silent (runAtoms cfg s atoms).2 ∧ s.cached ⊆ (runAtoms cfg s atoms).1.cached ∧
    (runAtoms cfg s atoms).1.net.nuid = s.net.nuid :=
  glitch_run_gen cfg st (fun _ => true) s.net.nuid mask (PInv cfg st s.net.nuid mask)
    (fun e => e.isNetwork = false ∧ e.isNetworkId = false) (fun _ h => h)
    (fun _ _ inv => inv.toGInv)
    (fun _ _ _ inv hn hc hm hd => pinv_transport cfg inv hn hc hm hd)
    (fun _ _ c _ o ho inv => pinv_change cfg c hp o ho inv)
    (fun _ _ c _ h inv => pinv_same cfg c h inv)
    atoms s lg ⟨rfl, hcd, hm, hst, hann, hpend⟩ hreg hg

/-- the demonstration table: VPS 0x0AC1 is station 193, nothing else is known (so 8/30-1 CNI 0 has id 0) -/
def lkDemo : Lookup := fun c v => if c = .vps ∧ v = 0x0AC1 then (193, [79, 82, 70]) else (0, [])
def cfgDemo : Cfg := { lk := lkDemo, xdsGuard := false }
def vpsA : Line := .vps [0,0,0,0,0,0,0,0,0xC0,0xD1,0x5A,0x81,0]     -- CNI 0x0AC1
def vpsG : Line := .vps [0,0,0,0,0,0,0,0,0xC0,0x00,0x02,0x83,0]     -- CNI 0x0AC3, the deviating word
/-- 8/30 format 1, CNI 0 -/
def p8301Zero : Line := .ttx [0x15,0xEA,0x15,0xEA,0xEA,0xEA,0x2F,0xEA,0x5E,0x00,0x00,0x85,0x26,0x98,0x65,0x23,0x11,0x11,
  0x20,0x20,0x20,0x20,0x20,0x20,0x20,0x20,0x20,0x20,0x20,0x20,0x20,0x20,0x20,0x20,0x20,0x20,0x20,0x20,0x20,0x20,0x20,0x20]
/-- VPS received twice (station 193 announced), then VPS and 8/30-1 alternating, one page cached -/
def establishF11 : List Atom :=
  [.mask 3534, .tick 1000000, .line 1000000 vpsA, .tick 1040000, .line 1040000 vpsA,
   .tick 1080000, .line 1080000 p8301Zero, .tick 1120000, .line 1120000 p8301Zero,
   .tick 1160000, .line 1160000 vpsA, .tick 1200000, .line 1200000 p8301Zero,
   .tick 1240000, .line 1240000 (.page 0x100)]

/-- The excluded point (F11) in the shared-cycle shape (`cfgDemo.perCarrier = false`): the two carriers resolve to
    different ids (193 and 0).  After the station is
    identified and a page cached, ONE deviating VPS word followed by the unchanged 8/30-1 packet raises
    NETWORK (twice) and empties the cache.  The same history is `corpus/C13/F11-vps-glitch-flushes-cache.ops`
    on the real code with the real table. -/
theorem single_glitch_interleaved_counterexample :
    cfgDemo.perCarrier = false ∧
    (cfgDemo.lk .vps 0x0AC1).1 ≠ (cfgDemo.lk .p8301 0).1 ∧
    (runAtoms cfgDemo init establishF11).1.net.nuid = 193 ∧
    (runAtoms cfgDemo init establishF11).1.cached = [0x100] ∧
    (runAtoms cfgDemo init establishF11).1.net.cycle = 2 ∧
    countNetwork (runAtoms cfgDemo (runAtoms cfgDemo init establishF11).1
      [.tick 1280000, .line 1280000 vpsG, .tick 1320000, .line 1320000 p8301Zero]).2 = 2 ∧
    (runAtoms cfgDemo (runAtoms cfgDemo init establishF11).1
      [.tick 1280000, .line 1280000 vpsG, .tick 1320000, .line 1320000 p8301Zero]).1.cached = [] := by
  decide

/-- the same table and history in the per-carrier shape (with either shape of the `vbi_chsw_reset` call) -/
def cfgDemoPer (ident : Bool) : Cfg := { cfgDemo with perCarrier := true, chswIdent := ident }

/-- The witness of F11 is harmless in the per-carrier shape: same establishing history, same deviating VPS word,
    same unchanged 8/30-1 packet, then the station's VPS word again twice: neither NETWORK nor NETWORK_ID, the page stays
    cached, station 193 stays identified; and the state after the establishing history satisfies the hypotheses
    of `single_glitch_harmless_per_carrier` (non-vacuity of that theorem on the very history that breaks the
    shared-cycle shape). -/
theorem single_glitch_interleaved_per_carrier (ident : Bool) :
    let s := (runAtoms (cfgDemoPer ident) init establishF11).1
    let st : Carrier → Nat := fun c => if c = .vps then 0x0AC1 else 0
    s.net.nuid = 193 ∧ s.cached = [0x100] ∧ s.chswcd = 0 ∧
    (∀ c, cniOf c s.net = st c) ∧ (∀ c, annOf c s.deb = st c) ∧ (∀ c, ¬ pending (cfgDemoPer ident) c s) ∧
    (runAtoms (cfgDemoPer ident) s
      [.tick 1280000, .line 1280000 vpsG, .tick 1320000, .line 1320000 p8301Zero,
       .tick 1360000, .line 1360000 vpsA, .tick 1400000, .line 1400000 vpsA]).2.all
        (fun e => !e.isNetwork && !e.isNetworkId) = true ∧
    (runAtoms (cfgDemoPer ident) s
      [.tick 1280000, .line 1280000 vpsG, .tick 1320000, .line 1320000 p8301Zero,
       .tick 1360000, .line 1360000 vpsA, .tick 1400000, .line 1400000 vpsA]).1.cached = [0x100] := by
  cases ident <;>
  · refine ⟨by decide, by decide, by decide, ?_, ?_, ?_, by decide, by decide⟩
    · intro c; cases c <;> decide
    · intro c; cases c <;> decide
    · intro c; cases c <;> decide

/-- XDS without the comparison of the new id with `n->nuid` (`xdsGuard = false`): station announced, one deviating name,
    the name again twice: NETWORK is raised for the unchanged station and the cache emptied (F18). -/
theorem single_glitch_xds_counterexample :
    let est := (runAtoms { cfgDemo with xdsGuard := false } init
      [.mask 3534, .line 0 (.xds 1 [75, 81]), .line 0 (.xds 1 [75, 81]), .line 0 (.page 0x100)]).1
    est.cached = [0x100] ∧ est.net.nuid = xdsNuid [75, 81] ∧
    countNetwork (runAtoms { cfgDemo with xdsGuard := false } est
      [.line 0 (.xds 1 [75, 63]), .line 0 (.xds 1 [75, 81]), .line 0 (.xds 1 [75, 81])]).2 = 1 ∧
    (runAtoms { cfgDemo with xdsGuard := false } est
      [.line 0 (.xds 1 [75, 63]), .line 0 (.xds 1 [75, 81]), .line 0 (.xds 1 [75, 81])]).1.cached = [] := by
  decide

/-- XDS with the comparison in place (`xdsGuard = true`, fixes/xds-name-reannounce.diff): a name packet that
    yields the id of the identified station raises no NETWORK event and keeps the cache, whatever happened
    before. -/
theorem single_glitch_harmless_xds_with_guard (s : State) (bytes : List Nat)
    (hid : xdsNuid (if s.net.call ≠ [] then s.net.call else (xdsStrfu s.net.name bytes).1) = s.net.nuid) :
    NoNetwork (rxXds true s 1 bytes).2 ∧ (rxXds true s 1 bytes).1.cached = s.cached ∧
    (rxXds true s 1 bytes).1.net.nuid = s.net.nuid := by
  have hid' : (xdsStrfu s.net.name bytes).2 = false → xdsId s.net = s.net.nuid := by
    intro hq; rw [xdsStrfu_same _ _ hq] at hid; exact hid
  apply rxXds_cases true s 1 bytes (fun r => NoNetwork r.2 ∧ r.1.cached = s.cached ∧ r.1.net.nuid = s.net.nuid)
  case hname => intros; exact ⟨NoNetwork_nil, rfl, rfl⟩
  case hidle => intros; exact ⟨NoNetwork_nil, rfl, rfl⟩
  case hcall => intro h; cases h
  case hsame => intros; refine ⟨?_, rfl, rfl⟩; intro e he; simp at he; rw [he]; rfl
  case hfirst => intro _ hq _ hg _; exact absurd (hid' hq) (hg rfl)
  case hswitch => intro _ hq _ hg _; exact absurd (hid' hq) (hg rfl)

/-- which of the two XDS shapes the current tree has (extracted by translate/gen_net.py) -/
theorem xds_guard_of_this_tree : cfg0.xdsGuard = xdsNuidGuard := rfl

/-- which shapes of F11 / F35 the tree under test has (extracted by translate/gen_netflags.py on every run): the
    configuration the driver runs, and the correspondence check compares with the real code, carries exactly
    these two flags -/
theorem cfg_of_this_tree :
    cfg0.perCarrier = Zvbi.Gen.Net.cniCyclePerCarrier ∧ cfg0.chswIdent = Zvbi.Gen.Net.chswCallersIdentified := ⟨rfl, rfl⟩

-- the history hypothesis of `single_glitch_harmless` holds of: one deviating VPS word, then the station's word twice
-- (only the VPS carrier is `ok`; `lg` says that no deviating VPS word is stored at the start)
example : NoRepeatedGlitch (fun c => if c = .vps then 0x0AC1 else 0) (fun c => c == .vps) 3534 (fun c => if c = .vps then none else some 0)
    [.tick 1280000, .line 1280000 vpsG, .tick 1320000, .line 1320000 vpsA, .tick 1360000, .line 1360000 vpsA] := by
  simp [NoRepeatedGlitch, lineCni, vpsG, vpsA, decodeVpsCni, bt]

/-! ## station_change_exactly_one_event_and_flush -/

/-- The reception that makes the decoder adopt a different station (value already stored once with a change
    pending, new id not the old one, old station identified) raises exactly one NETWORK event, carrying the new id
    and the received CNI, empties the page cache (the `vbi->cn` of the old station is dropped: C10
    `chsw_unreachable`), and leaves nothing pending on that carrier.  The new station must be known to the table
    (`id ≠ 0`) on a tree without the repair of F35; with it (`cfg.chswIdent = true`) ANY CNI will do
    (`station_change_to_unknown_exactly_one_event`). -/
theorem station_change_exactly_one_event_and_flush (cfg : Cfg) (t : Nat) (s : State) (l : Line) (c : Carrier) (v : Nat)
    (h : lineCni s.mask l = some (c, v)) (hst : v = cniOf c s.net) (hcy : pending cfg c s)
    (hid : (cfg.lk c v).1 ≠ s.net.nuid) (hold : s.net.nuid ≠ 0) (hnew : cfg.chswIdent = true ∨ (cfg.lk c v).1 ≠ 0) :
    countNetwork (rxLine cfg t s l).2 = 1 ∧
    (∀ n, Ev.network n ∈ (rxLine cfg t s l).2 → n.nuid = (cfg.lk c v).1 ∧ cniOf c n = v) ∧
    (rxLine cfg t s l).1.cached = [] ∧ (rxLine cfg t s l).1.net.nuid = (cfg.lk c v).1 ∧
    cniOf c (rxLine cfg t s l).1.net = v ∧
    ¬ pending cfg c (rxLine cfg t s l).1 := by
  obtain ⟨p, extra, e, hex⟩ := rxLine_cniRx cfg t s l c v h
  have f := cniRx_switch cfg c v s hst hcy hid hold hnew
  rw [e]
  refine ⟨?_, ?_, f.2.2.1, f.2.2.2.1, f.2.2.2.2.2, f.2.2.2.2.1⟩
  · show countNetwork (_ ++ extra) = 1
    rw [countNetwork_append, f.1, countNetwork_extra extra hex]
  · intro n hn
    exact f.2.1 n (mem_extra_of_network hex n (Or.inl hn))

/-- station_change_exactly_one_event at FULL strength, the CNI-missing-from-the-table case included, for every tree
    with the repair of F35 (`cfg.chswIdent = true`): an identified station replaced by ANY other CNI - known to the
    table or not - raises exactly ONE NETWORK event; it and the NETWORK_ID that follows carry the received CNI and the
    table's answer (id 0 and an empty name for an unknown one), the cache is emptied, the CNI stays stored and
    nothing is pending, so it is not announced a second time. -/
theorem station_change_to_unknown_exactly_one_event (cfg : Cfg) (hI : cfg.chswIdent = true)
    (t : Nat) (s : State) (l : Line) (c : Carrier) (v : Nat)
    (h : lineCni s.mask l = some (c, v)) (hst : v = cniOf c s.net) (hcy : pending cfg c s)
    (hid : (cfg.lk c v).1 ≠ s.net.nuid) (hold : s.net.nuid ≠ 0) :
    countNetwork (rxLine cfg t s l).2 = 1 ∧
    (∀ n, (Ev.network n ∈ (rxLine cfg t s l).2 ∨ Ev.networkId n ∈ (rxLine cfg t s l).2) →
      n.nuid = (cfg.lk c v).1 ∧ cniOf c n = v ∧ n.name = lkName cfg c v) ∧
    (rxLine cfg t s l).1.cached = [] ∧ (rxLine cfg t s l).1.net.nuid = (cfg.lk c v).1 ∧
    cniOf c (rxLine cfg t s l).1.net = v ∧ ¬ pending cfg c (rxLine cfg t s l).1 := by
  have q := station_change_exactly_one_event_and_flush cfg t s l c v h hst hcy hid hold (Or.inl hI)
  refine ⟨q.1, ?_, q.2.2.1, q.2.2.2.1, q.2.2.2.2.1, q.2.2.2.2.2⟩
  intro n hn
  have e := event_values_faithful cfg t s l c v h (Or.inl hI) n hn
  exact ⟨e.2.1, e.1, e.2.2.1⟩

-- non-vacuity of `station_change_to_unknown_exactly_one_event` and of `event_values_unknown_station_counterexample`: station
-- 193 identified and a page cached, then the VPS code 0x0AC3, which the demonstration table does not know, twice.
-- Callers pass "identified": ONE more NETWORK event, it and the NETWORK_ID carry the received code, the code stays stored.
-- Callers pass the id 0: TWO more NETWORK events, all of zeros, NETWORK_ID of zeros, the stored code is wiped.
example :
    let r := runAtoms { cfgDemo with chswIdent := true } init
      [.mask 3534, .line 0 vpsA, .line 0 vpsA, .line 0 (.page 0x100), .line 0 vpsG, .line 0 vpsG]
    countNetwork r.2 = 2 ∧ r.1.cached = [] ∧ r.1.net.nuid = 0 ∧ r.1.net.cniVps = 0x0AC3 ∧
    Ev.network { cniVps := 0x0AC3, cycle := 1 } ∈ r.2 ∧ Ev.networkId { cniVps := 0x0AC3, cycle := 1 } ∈ r.2 := by decide
example :
    let r := runAtoms cfgDemo init
      [.mask 3534, .line 0 vpsA, .line 0 vpsA, .line 0 (.page 0x100), .line 0 vpsG, .line 0 vpsG]
    cfgDemo.chswIdent = false ∧ countNetwork r.2 = 3 ∧ r.1.cached = [] ∧ r.1.net.cniVps = 0 ∧ Ev.networkId {} ∈ r.2 := by decide

/-- From ANY state: a new CNI `b` received twice in a row on carrier `c` (whatever was stored before) while a
    different station was identified (new one known to the table, or any CNI with the repair of F35): over the two
    lines together exactly one NETWORK event, the cache is empty afterwards and the new station is identified.
    Per-carrier shape: `b` is not the value this carrier announced last (`hper`; true in every state the decoder
    reaches by announcing what it stores - a carrier returning to its announced value is a glitch that is over). -/
theorem station_change_two_receptions (cfg : Cfg) (t1 t2 : Nat) (s : State) (l1 l2 : Line) (c : Carrier) (b : Nat)
    (h1 : lineCni s.mask l1 = some (c, b)) (h2 : lineCni s.mask l2 = some (c, b)) (hb : b ≠ cniOf c s.net)
    (hid : (cfg.lk c b).1 ≠ s.net.nuid) (hold : s.net.nuid ≠ 0) (hnew : cfg.chswIdent = true ∨ (cfg.lk c b).1 ≠ 0)
    (hper : cfg.perCarrier = true → b ≠ annOf c s.deb) :
    countNetwork (runAtoms cfg s [.line t1 l1, .line t2 l2]).2 = 1 ∧
    (runAtoms cfg s [.line t1 l1, .line t2 l2]).1.cached = [] ∧
    (runAtoms cfg s [.line t1 l1, .line t2 l2]).1.net.nuid = (cfg.lk c b).1 := by
  obtain ⟨p, extra, e, hex⟩ := rxLine_cniRx cfg t1 s l1 c b h1
  rw [cniRx_change cfg c b s hb] at e
  have hm : (rxLine cfg t1 s l1).1.mask = s.mask := by rw [e]; exact markChange_mask ..
  have hev : (rxLine cfg t1 s l1).2 = [] ++ extra := by rw [e]
  obtain ⟨g1, g2, g3⟩ := change_then_pending cfg c b hper (s' := (rxLine cfg t1 s l1).1) (by rw [e]) (by rw [e])
  have q := station_change_exactly_one_event_and_flush cfg t2 (rxLine cfg t1 s l1).1 l2 c b (by rw [hm]; exact h2)
    g1 g2 (by rw [g3]; exact hid) (by rw [g3]; exact hold) hnew
  simp only [runAtoms, stepAtom, List.append_nil]
  refine ⟨?_, q.2.2.1, q.2.2.2.1⟩
  rw [countNetwork_append, q.1, hev, countNetwork_append, countNetwork_extra extra hex]
  rfl

/-- Invariant of the channel-switch countdown: `vbi_chsw_reset` leaves it idle, whoever called it and with
    whatever id (vbi.c:553-557) - so no reset is ever followed by a second one 40 frames later. -/
theorem countdown_idle_after_reset (s : State) (id : Nat) : (chswReset s id).1.chswcd = 0 := by
  rw [chswReset_fst]

/-- The line that replaces an identified station by another known one leaves the countdown idle, even if a
    time-stamp gap had armed it before. -/
theorem countdown_idle_after_station_change (cfg : Cfg) (c : Carrier) (v : Nat) (s : State) (h : v = cniOf c s.net)
    (h2 : pending cfg c s) (h3 : (cfg.lk c v).1 ≠ s.net.nuid) (h4 : s.net.nuid ≠ 0)
    (h5 : cfg.chswIdent = true ∨ (cfg.lk c v).1 ≠ 0) :
    (cniRx cfg c v s).1.chswcd = 0 := by
  rw [cniRx_pending cfg c v s h h2, announce_switch cfg c v s h3 h4 h5, markDone_chswcd, chswReset_fst]

/-- Histories with gaps.  From a state with an identified station and a countdown that is idle or has at
    least three frames to go: a tick with ANY time stamp (a gap arms the 40-frame countdown), the new CNI
    `b`, a tick with any time stamp, `b` again (id different from the old one; known to the table, or any CNI with
    the repair of F35), then any regular history in which every reception equals what is now stored.  In the
    per-carrier shape "nothing else is pending" is a hypothesis (`hper`: `b` is not what this carrier announced
    last, no XDS name and no other carrier awaits its repeat); the shared cycle made that automatic.  Over the whole history exactly ONE NETWORK
    event; the change empties the cache and cancels the countdown; afterwards the countdown stays idle (no
    second reset when the 40 frames are over), the new station stays identified, and every page cached for
    the new station at any point stays cached. -/
theorem station_change_exactly_one_event_and_flush_over_gap (cfg : Cfg) (s : State) (t0 t1 : Nat) (l1 l2 : Line)
    (c : Carrier) (b : Nat) (quiet : List Atom) (hcd : s.chswcd = 0 ∨ 3 ≤ s.chswcd)
    (h1 : lineCni s.mask l1 = some (c, b)) (h2 : lineCni s.mask l2 = some (c, b)) (hb : b ≠ cniOf c s.net)
    (hid : (cfg.lk c b).1 ≠ s.net.nuid) (hold : s.net.nuid ≠ 0) (hnew : cfg.chswIdent = true ∨ (cfg.lk c b).1 ≠ 0)
    (hper : cfg.perCarrier = true → b ≠ annOf c s.deb ∧ s.net.cycle ≠ 1 ∧ ∀ c', c' ≠ c → cycOf c' s.deb ≠ 1)
    (hreg : RegularFrom (runAtoms cfg s [.tick t0, .line t0 l1, .tick t1, .line t1 l2]).1.time quiet)
    (hq : ∀ a ∈ quiet, SameAsStored (runAtoms cfg s [.tick t0, .line t0 l1, .tick t1, .line t1 l2]).1.net s.mask a) :
    countNetwork (runAtoms cfg s ([.tick t0, .line t0 l1, .tick t1, .line t1 l2] ++ quiet)).2 = 1 ∧
    (runAtoms cfg s [.tick t0, .line t0 l1, .tick t1, .line t1 l2]).1.cached = [] ∧
    (runAtoms cfg s [.tick t0, .line t0 l1, .tick t1, .line t1 l2]).1.chswcd = 0 ∧
    (runAtoms cfg s ([.tick t0, .line t0 l1, .tick t1, .line t1 l2] ++ quiet)).1.net.nuid = (cfg.lk c b).1 ∧
    (runAtoms cfg s ([.tick t0, .line t0 l1, .tick t1, .line t1 l2] ++ quiet)).1.chswcd = 0 ∧
    (∀ q1 q2, quiet = q1 ++ q2 →
      (runAtoms cfg s ([.tick t0, .line t0 l1, .tick t1, .line t1 l2] ++ q1)).1.cached ⊆
      (runAtoms cfg s ([.tick t0, .line t0 l1, .tick t1, .line t1 l2] ++ quiet)).1.cached) := by
  -- tick t0, line l1: the new value differs from the stored one
  obtain ⟨sa, ⟨p1, x1, eA, hx1⟩, an, ad, am, acd⟩ := tick_then_rx cfg s t0 l1 c b h1 (by omega)
  rw [cniRx_change cfg c b sa (by rw [an]; exact hb)] at eA
  generalize hsb : ({ markChange cfg c b sa with vpsPid := p1 } : State) = sb at eA
  have bm : sb.mask = s.mask := by rw [← hsb]; exact (markChange_mask cfg c b sa).trans am
  have bcd : sb.chswcd ≠ 1 := by
    rw [← hsb]; show (markChange cfg c b sa).chswcd ≠ 1; rw [markChange_chswcd]; exact acd hcd
  -- tick t1, line l2: the station change
  obtain ⟨sc, ⟨p2, x2, eB, hx2⟩, cn, cd, cm, -⟩ := tick_then_rx cfg sb t1 l2 c b (by rw [bm]; exact h2) bcd
  have hscnet : sc.net = (markChange cfg c b sa).net := by rw [cn, ← hsb]
  have hscdeb : sc.deb = (markChange cfg c b sa).deb := by rw [cd, ← hsb]
  obtain ⟨g1, g2, gn⟩ := change_then_pending cfg c b (fun hp => ad ▸ (hper hp).1) hscnet hscdeb
  have g3 : (cfg.lk c b).1 ≠ sc.net.nuid := by rw [gn, an]; exact hid
  have g4 : sc.net.nuid ≠ 0 := by rw [gn, an]; exact hold
  have f := cniRx_switch cfg c b sc g1 g2 g3 g4 hnew
  have hsw := (cniRx_pending cfg c b sc g1 g2).trans (announce_switch cfg c b sc g3 g4 hnew)
  generalize hsd : ({ (cniRx cfg c b sc).1 with vpsPid := p2 } : State) = sd at eB
  have hsdnet : sd.net = (cniRx cfg c b sc).1.net := by rw [← hsd]
  have hsddeb : sd.deb = (cniRx cfg c b sc).1.deb := by rw [← hsd]
  -- the four atoms together
  have hrun : runAtoms cfg s [.tick t0, .line t0 l1, .tick t1, .line t1 l2] =
      (sd, ([] ++ x1) ++ ((cniRx cfg c b sc).2 ++ x2)) :=
    have two : [Atom.tick t0, .line t0 l1, .tick t1, .line t1 l2] = [.tick t0, .line t0 l1] ++ [.tick t1, .line t1 l2] := rfl
    Prod.ext (by rw [two, runAtoms_append, eA, eB]) (by rw [two, runAtoms_append_events, eA, eB])
  have hcount : countNetwork (runAtoms cfg s [.tick t0, .line t0 l1, .tick t1, .line t1 l2]).2 = 1 := by
    rw [hrun]
    show countNetwork (x1 ++ ((cniRx cfg c b sc).2 ++ x2)) = 1
    rw [countNetwork_append, countNetwork_extra x1 hx1, countNetwork_append, f.1, countNetwork_extra x2 hx2]
  have hidle : sd.net.cycle ≠ 1 ∧ ∀ c', cfg.perCarrier = true → cycOf c' sd.deb ≠ 1 := by
    rw [hsdnet, hsddeb, hsw]
    apply markDone_idle
    intro hp
    have hh := hper hp
    refine ⟨?_, ?_⟩
    · show sc.net.cycle ≠ 1
      rw [hscnet, markChange_net_per cfg c b sa hp]
      have : (setCni c sa.net b).cycle = sa.net.cycle := by cases c <;> rfl
      rw [this, an]; exact hh.2.1
    · intro c' hc
      show cycOf c' sc.deb ≠ 1
      rw [hscdeb]
      rw [markChange_cycOf_other cfg c b sa c' hc hp, ad]; exact hh.2.2 c' hc
  have hsdcd : sd.chswcd = 0 := by
    rw [← hsd]; show (cniRx cfg c b sc).1.chswcd = 0; rw [hsw, markDone_chswcd, chswReset_fst]
  have hsdmask : sd.mask = s.mask := by rw [← hsd]; exact (cniRx_resetOrStay cfg c b sc).mask.trans (cm.trans bm)
  rw [hrun] at hreg hq
  simp only [] at hreg hq
  have st := stable_run cfg hidle.1 hidle.2 quiet sd ⟨rfl, rfl, hsdcd, hreg, hq, hsdmask⟩
  have e1 : ∀ q1 : List Atom, (runAtoms cfg s ([.tick t0, .line t0 l1, .tick t1, .line t1 l2] ++ q1)).1 = (runAtoms cfg sd q1).1 := by
    intro q1; rw [runAtoms_append, hrun]
  refine ⟨?_, ?_, ?_, ?_, ?_, ?_⟩
  · rw [runAtoms_append_events, countNetwork_append, hcount, hrun, countNetwork_silent _ st.2.1]
  · rw [hrun]; show sd.cached = []; rw [← hsd]; exact f.2.2.1
  · rw [hrun]; exact hsdcd
  · rw [e1, st.1.net, hsdnet]; exact f.2.2.2.1
  · rw [e1]; exact st.1.cd
  · intro q1 q2 e
    rw [e1, e1]
    exact st.2.2 q1 q2 e

/-- 42 regular frames repeating the new station's VPS word, starting 40 ms after `t` -/
def quietVps (l : Line) : Nat → Nat → List Atom
  | 0, _ => []
  | n + 1, t => .tick (t + 40000) :: .line (t + 40000) l :: quietVps l n (t + 40000)

-- non-vacuity of the gap theorem: station 193, a 2 s gap, station 195 twice, a page, 42 quiet frames:
-- one NETWORK event in all, countdown idle, the page still cached
example :
    let lk : Lookup := fun _ v => if v = 0x0AC1 then (193, [65]) else if v = 0x0AC3 then (195, [66]) else (0, [])
    let cfg : Cfg := { lk := lk, xdsGuard := true }
    let s := (runAtoms cfg init [.mask 3534, .tick 1000000, .line 1000000 vpsA, .tick 1040000, .line 1040000 vpsA]).1
    let r := runAtoms cfg s ([.tick 3000000, .line 3000000 vpsG, .tick 3040000, .line 3040000 vpsG] ++
                              (.tick 3080000 :: .line 3080000 (.page 0x234) :: quietVps vpsG 42 3080000))
    s.net.nuid = 193 ∧ countNetwork r.2 = 1 ∧ r.1.chswcd = 0 ∧ r.1.cached = [0x234] ∧ r.1.net.nuid = 195 := by decide

/-- The hypothesis "old station identified" is needed.  Observation on the countdown's design (not a defect of
    the debounce): when NO station was identified before the gap, identifying the new one does not call
    `vbi_chsw_reset`, the countdown keeps running and 40 frames later the decoder resets anyway: NETWORK (nuid 0),
    cache dropped, station announced again.  Same history on the real code:
    `corpus/C13/gap-unidentified-countdown-fires.ops`. -/
theorem station_identified_during_countdown_observation :
    let lk : Lookup := fun _ v => if v = 0x0AC1 then (193, [65]) else (0, [])
    let cfg : Cfg := { lk := lk, xdsGuard := true }
    let r := runAtoms cfg init ([.mask 3534, .tick 1000000, .tick 1040000, .tick 3000000, .line 3000000 vpsA,
                                 .tick 3040000, .line 3040000 vpsA, .tick 3080000, .line 3080000 (.page 0x234)] ++
                                quietVps vpsA 40 3080000)
    countNetwork r.2 = 3 ∧ r.1.cached = [] ∧ r.1.net.nuid = 193 := by decide

-- non-vacuity: station 193 identified, then another known station received twice: one NETWORK event, cache empty
example :
    let lk : Lookup := fun _ v => if v = 0x0AC1 then (193, [65]) else if v = 0x0AC3 then (195, [66]) else (0, [])
    let r := runAtoms { lk := lk, xdsGuard := false } init
      [.mask 3534, .line 0 vpsA, .line 0 vpsA, .line 0 (.page 0x100), .line 0 vpsG, .line 0 vpsG]
    countNetwork r.2 = 2 ∧ r.1.cached = [] ∧ r.1.net.nuid = 195 := by decide

end Zvbi.Props.C13
