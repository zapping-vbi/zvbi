import ZvbiModel.Xds.DecHist
import ZvbiModel.Props.C09Sep
/-!
# C09: the service decoder `xds_decoder` over packet HISTORIES

"The service decoder's programme / network information equals the decoded content of the delivered
packets, announced after the documented repeat" - by induction over arbitrary histories of calls of
`xds_decoder` on a fresh decoder (`Dec.run Dec.init hist`), for EVERY field group the decoder exposes:

* per programme (current = class 0, future = class 1) the ten groups `Dec.Grp`: programme id (month, day,
  hour, minute, tape-delay flag), length / elapsed time, title, programme type list, rating
  (authority, id, dlsv), audio services (mode and language of main and second audio), caption services
  (service set and language per service), CGMS-A, aspect ratio (first line, last line, ratio), the
  eight description lines;
* the network fields `Dec.NetF`: name, call letters, tape delay.

Specification side (`ZvbiModel/Xds/DecSpec.lean`): `Dec.fview f v` - what an application
reads of field `f` in state `v`; `Dec.fdecode f p nx` - the decoding of packet `p` for `f` (`none` unless
`p` has `f`'s class and type, 1..32 bytes, and is accepted); `Dec.ferased f v p nx` - the call is one of
the documented flushes reaching `f` (`Dec.flushes`: a valid programme id differing from the stored one;
the repeat of the programme name while no programme id is pending; `vbi_chsw_reset` after a changed
network name; for the network name: changed call letters); `Dec.funknown f` - the field after
`vbi_reset_prog_info`; `Dec.Undisturbed f v post` - no call of `post`, run from `v`, is an accepted packet
of `f` or a flush reaching `f`.  Lemmas are in `DecHist.lean`; only property theorems here.

Source shape: the aspect-ratio group needs `Dec.aspectAlwaysCurrent = false` (`Field.shapeOK`; generated
flag, `false` on the tree since 201beae - with `true` the statement is false, see
`C09Sep.prog_info_future_aspect_overwrites_current_counterexample`); everything else holds for either
value of every generated flag.
-/
namespace Zvbi.Props.C09Hist
open Zvbi.Xds Zvbi.Xds.Dec Zvbi.Gen.Xds

/-! ## the one-call law and the induction -/

/-- prog_info_equals_packets, one call, every field, every reachable state (`Wf`, `AWf` are invariants of
    all histories: `Dec.run_inv`): after the call `xds_decoder (p)` field `f` holds
    * the decoding of `p`, if `p` is an accepted packet of `f`'s (class, type);
    * "unknown", if the call is a flush that reaches `f`;
    * what it held before, in every other case. -/
theorem prog_info_field_one_call {v : Info} (hv : Wf v) (ha : AWf v) (f : Field) (hs : f.shapeOK) (p : Pkt) (nx : Nat) :
    fview f (step v p nx).1 =
      match fdecode f p nx with
      | some val => val
      | none => if ferased f v p nx then funknown f else fview f v :=
  step_field hv ha f hs p nx

/-- prog_info_equals_packets_full, general form (induction over the history): in the state after ANY
    history `pre ++ (p, nx) :: post` of calls on a fresh decoder, if `p` is an accepted packet of field
    `f` with decoding `val` and nothing behind it disturbs `f` - no later accepted packet of `f`, no later
    flush reaching `f` - then the field the application reads equals `val`: every field equals the
    decoding of the LAST accepted packet of its (class, type) after the last flush. -/
theorem prog_info_equals_packets_all_fields (f : Field) (hs : f.shapeOK) (pre post : List (Pkt × Nat)) (p : Pkt) (nx : Nat)
    (val : List Int) (hdec : fdecode f p nx = some val)
    (hpost : Undisturbed f (run init (pre ++ [(p, nx)])).1 post) :
    fview f (run init (pre ++ (p, nx) :: post)).1 = val := by
  rw [run_cut f hs pre post p nx hpost, hdec]

/-- ... and "unknown" if there is none: after a flush reaching `f` that is not itself an accepted packet
    of `f`, followed by calls that do not disturb `f`, the field reads as after `vbi_reset_prog_info`;
    likewise on a decoder that never saw an accepted packet of `f` (second part). -/
theorem prog_info_unknown_after_flush (f : Field) (hs : f.shapeOK) (pre post : List (Pkt × Nat)) (q : Pkt) (nx : Nat)
    (hq : fdecode f q nx = none) (hfl : ferased f (run init pre).1 q nx = true)
    (hpost : Undisturbed f (run init (pre ++ [(q, nx)])).1 post) :
    fview f (run init (pre ++ (q, nx) :: post)).1 = funknown f ∧
    (∀ hist, Undisturbed f init hist → fview f (run init hist).1 = funknown f) := by
  constructor
  · rw [run_cut f hs pre post q nx hpost, hq]
    simp [hfl]
  · intro hist hu
    rw [run_undisturbed f hs hist wf_init awf_init hu, fview_init]

/-- the same with a condition one can read off the packet labels: if no packet behind `p` has `f`'s own
    (class, type), or is a programme id / programme name of `f`'s class, or a network name (for the
    network name field: or call letters), then `f` equals the decoding of `p` - whatever the later
    packets contain and whatever state they meet. -/
theorem prog_info_equals_packets_static (f : Field) (hs : f.shapeOK) (pre post : List (Pkt × Nat)) (p : Pkt) (nx : Nat)
    (val : List Int) (hdec : fdecode f p nx = some val) (hpost : ∀ q ∈ post, StaticallyApart f q.1) :
    fview f (run init (pre ++ (p, nx) :: post)).1 = val :=
  prog_info_equals_packets_all_fields f hs pre post p nx val hdec (undisturbed_of_apart f post _ hpost)

/-- `C09Sep.prog_info_equals_packets_full`: it is the
    instance "CGMS-A of class `cls`" of `prog_info_equals_packets_static`. -/
theorem prog_info_equals_packets_full : C09Sep.prog_info_equals_packets_full := by
  intro hist cls hc c pre post hh hpost
  subst hh
  have hd : fdecode (.prog ⟨cls, by omega⟩ .cgms) ⟨cls, 8, [c]⟩ 0 = some [((c &&& 63 : Nat) : Int)] := by
    simp [fdecode, progDecode, decode, Grp.typ, byteAt]
  have := prog_info_equals_packets_static (.prog ⟨cls, by omega⟩ .cgms) trivial pre post ⟨cls, 8, [c]⟩ 0 _ hd
    (by intro q hq; exact hpost q hq)
  simpa [fview, view] using this

/-! ## what the flushes are -/

def ResetsIff (q : Prop) (r : Info × Out) : Prop := r.2.chsw = true ↔ q

/-- `vbi_chsw_reset` runs (both programmes and the XDS buffers are flushed) exactly when a network name
    packet repeats the stored name while the name is pending (`cycle = 1`), a network was identified before
    (`nuid != 0`), and the new id differs (`sepNuidCompared`: the code compares at all, since c11abb5). -/
theorem dec_chsw_iff (v : Info) (typ : Nat) (d : List Nat) (nx : Nat) :
    (netFeed v typ d nx).2.chsw = true ↔
      typ = 1 ∧ (strfuArr v.net.name d).neq = false ∧ v.net.cycle = 1 ∧ v.net.nuid ≠ 0 ∧
      ¬(sepNuidCompared = true ∧
        Sep.nuidOf (if v.net.call.getD 0 0 != 0 then cstr v.net.call else cstr (strfuArr v.net.name d).arr) = v.net.nuid) := by
  have no : ∀ {r : Info × Out} {q : Prop}, r.2.chsw = false → ¬q → ResetsIff q r :=
    fun h hq => ⟨fun c => absurd (h.symm.trans c) Bool.false_ne_true, fun c => absurd c hq⟩
  rcases netFeed_typ_cases typ with rfl | rfl | rfl | ho
  · rw [netFeed_name_eq]
    show ResetsIff _ _
    refine ite_ind ?_ ?_ <;> intro hq
    · exact no rfl fun h => absurd (hq.symm.trans h.2.1) (by decide)
    refine ite_ind ?_ ?_ <;> intro hc
    · refine ite_ind ?_ ?_ <;> intro hs
      · exact no rfl fun h => h.2.2.2.2
          ⟨(Bool.and_eq_true_iff.1 hs).1, eq_of_beq (Bool.and_eq_true_iff.1 hs).2⟩
      · exact ⟨fun h => ⟨rfl, Bool.eq_false_iff.2 hq, hc, bne_iff_ne.1 h,
          fun c => hs (Bool.and_eq_true_iff.2 ⟨c.1, beq_iff_eq.2 c.2⟩)⟩, fun h => bne_iff_ne.2 h.2.2.2.1⟩
    · exact no rfl fun h => hc h.2.2.1
  · rw [netFeed_call_eq]
    refine ite_both (P := ResetsIff _) ?_ ?_ <;> exact no rfl fun h => absurd h.1 (by decide)
  · rw [netFeed_delay_eq]
    refine ite_both (P := ResetsIff _) ?_ ?_ <;> exact no rfl fun h => absurd h.1 (by decide)
  · rw [netFeed_other_eq _ _ _ ho]
    exact no rfl fun h => ho.1 h.1

/-- the flushes of the programme information of class `cls`, spelled out -/
theorem dec_flushes_iff (v : Info) (p : Pkt) (nx : Nat) (cls : Nat) :
    flushes v p nx cls = true ↔
      (1 ≤ p.data.length ∧ p.data.length ≤ 32) ∧
      ((p.cls = cls ∧ p.sub = 1 ∧ p.data.length = 4 ∧ ¬pidBad p.data nx ∧ pidNeq v cls p.data nx = true) ∨
       (p.cls = cls ∧ p.sub = 3 ∧ 2 ≤ p.data.length ∧ (strfuArr (v.pi cls).title p.data).neq = false ∧
          (v.cyc cls).contains 3 = true ∧ (v.cyc cls).contains 1 = false) ∨
       (p.cls ≠ cls ∧ p.cls = 2 ∧ (netFeed v p.sub p.data nx).2.chsw = true)) := by
  unfold flushes pidFlush titleFlush
  by_cases hl : p.data.length = 0 ∨ p.data.length > 32
  · rw [if_pos hl]; constructor
    · intro h; cases h
    · intro h; omega
  · rw [if_neg hl]
    have : 1 ≤ p.data.length ∧ p.data.length ≤ 32 := by omega
    by_cases hc : p.cls = cls
    · simp [hc, this, and_assoc]
    · by_cases h2 : p.cls = 2
      · have hc' : ¬ 2 = cls := by omega
        simp [h2, this, hc']
      · simp [hc, h2, this]

/-! ## events -/

/-- PROG_INFO over all histories: whatever the history `pre`, a PROG_INFO event raised by the next call
    `xds_decoder (p)` is raised for a packet of class current / future, names that class, and every field
    group it carries equals the field the application reads in the state after the call - hence, by
    `prog_info_equals_packets_all_fields`, the decoding of the last accepted packet of that group. -/
theorem prog_info_event_carries_stored_fields (pre : List (Pkt × Nat)) (p : Pkt) (nx : Nat) (x : Ev)
    (hx : x ∈ (step (run init pre).1 p nx).2.evs) (hi : x.isProgInfo = true) :
    ∃ (hc : p.cls ≤ 1) (e : PI), x = Ev.progInfo p.cls e ∧
      ∀ g, view g e = fview (.prog ⟨p.cls, by omega⟩ g) (run init (pre ++ [(p, nx)])).1 := by
  obtain ⟨hc, he⟩ := step_proginfo_payload _ p nx x hx hi
  refine ⟨hc, _, he, ?_⟩
  intro g
  rw [run_append]
  rfl

/-- classes MISC (3) and above - time of day, impulse capture id, supplemental data location, local time
    zone, out-of-band channel number, and every class caption.c does not know (public service, reserved,
    private data): `xds_decoder` checks a length at most; no field changes, no event is raised. -/
theorem dec_misc_and_above_inert (v : Info) (p : Pkt) (nx : Nat) (h3 : 3 ≤ p.cls) (h1 : 1 ≤ p.data.length)
    (h32 : p.data.length ≤ 32) : step v p nx = (v, {}) := by
  unfold step
  rw [if_neg (by omega), if_neg (by omega), if_neg (by omega)]

/-! ## announced after the documented repeat -/

/-- announced after the documented repeat, over every state with the audio extents (all reachable states),
    for the groups whose change flag is exactly "the group's view differs from the packet's decoding"
    (`Dec.PlainGroup`: length / elapsed time and CGMS-A, `Dec.plain_len`, `Dec.plain_cgms`): an accepted
    packet whose decoding differs from what is stored raises nothing the first time; its immediate repeat
    raises exactly one event, PROG_INFO for the packet's class, carrying the decoding; a third occurrence
    raises nothing.  (Title and network name: `C09.prog_info_title_second_occurrence`,
    `C09.network_name_second_occurrence`; the programme id group is NOT plain while `pidTapeDelayCounted = false`, see the
    counterexample below.) -/
theorem prog_info_announced_on_repeat (g : Grp) (hg : g = .len ∨ g = .cgms) (v : Info) (ha : AWf v) (cls : Nat)
    (d : List Nat) (nx : Nat) (val : List Int) (hdec : decode g d nx = some val) (hchg : view g (v.pi cls) ≠ val) :
    let r1 := feed v cls g.typ d nx
    let r2 := feed r1.1 cls g.typ d nx
    let r3 := feed r2.1 cls g.typ d nx
    r1.2.evs = [] ∧ (∃ e, r2.2.evs = [Ev.progInfo cls e] ∧ view g e = val) ∧ r3.2.evs = [] ∧
      view g (r3.1.pi cls) = val := by
  have key : PlainGroup g := by
    rcases hg with rfl | rfl
    · exact plain_len
    · exact plain_cgms
  obtain ⟨h1, h2, _, h3⟩ := announce_on_repeat_of_plain key v cls d nx val hdec hchg
  exact ⟨h1, h2, h3⟩

/-- a length packet "1 h 30, elapsed 0 h 12" is accepted and differs from the unknown length of a fresh decoder -/
example : decode .len [0x5E, 0x41, 0x4C, 0x40] 0 = some [1, 30, 0, 12, 0] ∧
    view .len (init.pi 0) ≠ [1, 30, 0, 12, 0] := by decide

/-- programme id (minute 5, hour 6, day 7, month 3) twice, then the same date with the tape-delay bit
    (0x10 of the month byte) set, three times - corpus/C09/84 -/
def witnessPidTd : List (Pkt × Nat) :=
  [(⟨0, 1, [0x45, 0x46, 0x47, 0x43]⟩, 0), (⟨0, 1, [0x45, 0x46, 0x47, 0x43]⟩, 0),
   (⟨0, 1, [0x45, 0x46, 0x47, 0x53]⟩, 0), (⟨0, 1, [0x45, 0x46, 0x47, 0x53]⟩, 0), (⟨0, 1, [0x45, 0x46, 0x47, 0x53]⟩, 0)]

/-- prog_info_pid_tape_delay_never_announced_counterexample ("announced after the documented repeat" is
    false for the tape-delay flag on the tree before fixes/C09-pid-tape-delay-never-announced.diff): the
    programme id is announced by its repeat; the packets that change only the tape-delay flag store the flag
    at once (the programme id group reads [2, 6, 6, 5, 1] after the first of them) but none of the three
    raises PROG_INFO and bit 1 never becomes pending (`pidTapeDelayCounted = false`); with the change
    counted (`true`, the repaired shape) the second of them raises PROG_INFO.  Stated for either value of
    the generated flag. -/
theorem prog_info_pid_tape_delay_never_announced_counterexample :
    (run init witnessPidTd).2.map (fun o => (o.evs.filter Ev.isProgInfo).length) =
      (if pidTapeDelayCounted then [0, 1, 0, 1, 0] else [0, 1, 0, 0, 0]) ∧
    view .pid ((run init (witnessPidTd.take 3)).1.pi 0) = [2, 6, 6, 5, 1] ∧
    (run init (witnessPidTd.take 3)).1.cyc0 = (if pidTapeDelayCounted then [1] else []) := by
  decide +kernel

/-! ## non-vacuity: concrete histories -/

/-- a history mixing classes and types: title "AB", CGMS-A, a length packet, a description line, network
    name and call letters, a MISC packet - every field reads as the decoding of its last packet, untouched
    groups are unknown, and the hypotheses of the theorems above are met -/
def sampleHist : List (Pkt × Nat) :=
  [(⟨0, 3, [0x41, 0x42]⟩, 0), (⟨0, 8, [0x41]⟩, 0), (⟨1, 2, [0x5E, 0x41]⟩, 0), (⟨0, 0x12, [0x20, 0x58, 0x59]⟩, 0),
   (⟨2, 1, [0x5A, 0x44, 0x46]⟩, 0), (⟨2, 2, [0x4B, 0x51]⟩, 0), (⟨3, 1, [0x41, 0x42, 0x43, 0x44, 0x45, 0x46]⟩, 0),
   (⟨0, 8, [0x43]⟩, 0)]

example : fview (.prog 0 .title) (run init sampleHist).1 = [0x41, 0x42] ∧
    fview (.prog 0 .cgms) (run init sampleHist).1 = [3] ∧
    fview (.prog 1 .len) (run init sampleHist).1 = [1, 30, -1, -1, 0] ∧
    fview (.prog 0 (.desc 2)) (run init sampleHist).1 = [0x58, 0x59] ∧
    fview (.net .name) (run init sampleHist).1 = [0x5A, 0x44, 0x46] ∧
    fview (.net .call) (run init sampleHist).1 = [0x4B, 0x51] ∧
    fview (.prog 1 .title) (run init sampleHist).1 = funknown (.prog 1 .title) ∧
    fview (.prog 0 .rating) (run init sampleHist).1 = funknown (.prog 0 .rating) := by decide +kernel

/-- the hypotheses of `prog_info_equals_packets_static` hold on it (title of the current programme: the
    packet is accepted, the next three packets are statically apart; network name: the packets behind the
    call letters are) ... -/
example : fdecode (.prog 0 .title) ⟨0, 3, [0x41, 0x42]⟩ 0 = some [0x41, 0x42] ∧
    (∀ q ∈ (sampleHist.drop 1).take 3, StaticallyApart (.prog 0 .title) q.1) ∧
    (∀ q ∈ sampleHist.drop 6, StaticallyApart (.net .name) q.1) := by decide +kernel

/-- ... and a flush is a flush: a new programme id erases the title and the CGMS-A value -/
example : ferased (.prog 0 .cgms) (run init sampleHist).1 ⟨0, 1, [0x45, 0x46, 0x47, 0x43]⟩ 0 = true ∧
    fview (.prog 0 .cgms) (run init (sampleHist ++ [(⟨0, 1, [0x45, 0x46, 0x47, 0x43]⟩, 0)])).1 = [-1] ∧
    fview (.prog 0 .title) (run init (sampleHist ++ [(⟨0, 1, [0x45, 0x46, 0x47, 0x43]⟩, 0)])).1 = [] ∧
    fview (.prog 0 .pid) (run init (sampleHist ++ [(⟨0, 1, [0x45, 0x46, 0x47, 0x43]⟩, 0)])).1 = [2, 6, 6, 5, 0] := by
  decide +kernel

example : Field.shapeOK (.prog 0 .title) ∧ Field.shapeOK (.net .name) := ⟨trivial, trivial⟩

/-! ## end to end: byte pairs on line 284 -/

/-- prog_info_equals_packets over all BYTE-PAIR histories (caption.c line-284 routing + `xds_separator` +
    `xds_decoder`, either separator control flow): the service decoder's state after any sequence of byte
    pairs on a fresh decoder is its state after exactly the calls the delivered packets cause
    (`Dec.sysCalls`); so if the last delivered accepted packet of field `f` is `p` and the deliveries
    behind it do not disturb `f`, the field reads the decoding of `p`. -/
theorem prog_info_equals_delivered_packets (ec : Bool) (hist : List (Nat × Nat)) (f : Field) (hs : f.shapeOK)
    (pre post : List (Pkt × Nat)) (p : Pkt) (nx : Nat) (val : List Int)
    (hcalls : sysCalls ec Sep.init hist = pre ++ (p, nx) :: post) (hdec : fdecode f p nx = some val)
    (hpost : Undisturbed f (run init (pre ++ [(p, nx)])).1 post) :
    fview f (sysRun ec (Sep.init, init) hist).1.2 = val := by
  rw [sysRun_info, hcalls]
  exact prog_info_equals_packets_all_fields f hs pre post p nx val hdec hpost

/-- the title packet "AB" on the wire (start pair, payload, end pair with checksum) causes exactly one call -/
example : sysCalls true Sep.init [(0x01, 0x83), (0xC1, 0xC2), (0x8F, 0xEA)] = [(⟨0, 3, [0x41, 0x42]⟩, 0)] ∧
    fview (.prog 0 .title) (sysRun true (Sep.init, init) [(0x01, 0x83), (0xC1, 0xC2), (0x8F, 0xEA)]).1.2 = [0x41, 0x42] := by
  decide +kernel

/-! ### open -/

/-- announced after the documented repeat at full strength, NOT proved: in every reachable state, for EVERY
    group (programme id with the tape-delay change counted, caption services with the comparison before the
    clearing, aspect ratio in the packet's own class - the three generated shapes), an accepted packet whose
    decoding differs from what the application reads raises no PROG_INFO, its immediate repeat raises
    exactly one, carrying the decoding, and a third occurrence none.  Proved instances: length / elapsed and
    CGMS-A (`prog_info_announced_on_repeat`, any state), title and network name (`Props/C09.lean`).  Missing:
    rating (needs the invariant "dlsv = 0 unless the authority is TV_US", otherwise the zeroing in front of
    the comparison hides a change), audio and caption services (change flag = view change through the
    per-element `set`), type list and description lines (array change flag incl. stale tail = C-string
    change), aspect (ASPECT event in front of the epilogue), programme id date (flush in the first call). -/
def prog_info_announced_on_repeat_full : Prop :=
  pidTapeDelayCounted = true → capLangClearedFirst = false → aspectAlwaysCurrent = false →
  ∀ (hist : List (Pkt × Nat)) (cls : Nat) (g : Grp) (d : List Nat) (nx : Nat) (val : List Int), cls ≤ 1 →
    1 ≤ d.length → d.length ≤ 32 → decode g d nx = some val →
    view g ((run init hist).1.pi cls) ≠ val →
    let r1 := feed (run init hist).1 cls g.typ d nx
    let r2 := feed r1.1 cls g.typ d nx
    let r3 := feed r2.1 cls g.typ d nx
    r1.2.evs.filter Ev.isProgInfo = [] ∧
    (∃ e, r2.2.evs.filter Ev.isProgInfo = [Ev.progInfo cls e] ∧ view g e = val) ∧
    r3.2.evs.filter Ev.isProgInfo = []

end Zvbi.Props.C09Hist
