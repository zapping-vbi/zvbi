import ZvbiModel.Ttx.FindFrame
import ZvbiModel.Props.C02Interleave
/-!
# Property C02: serial mode (single page), two cache theorems, and the statement of the single-magazine chain

* `page_roundtrip_serial : C02Roundtrip.page_roundtrip_serial_full`: a page sent with C11 (magazine serial) is stored by the
  next header of ANY magazine that carries another page number (with `ttxFixSerialErase`, commit 53b7b09 of /repo, also when
  the page carries the erase flag).
* `page_roundtrip_serial_fetch`: ... and when that header opens a text page (any magazine), the state after it: look-ups
  of P return the stored entry, exactly one TTX_PAGE event for P.
* `stored_page_survives_put`: storing a page with another page number does not change what a look-up finds
  (the cache half of "every page of the cycle stays fetchable"); both source shapes of `_vbi_cache_put_page`.
* `single_version_put_replaces_all`: the repaired shape (fixes/C10-put-replaces-all-versions.diff) under a single-version
  key leaves one version of the page number.
* `page_roundtrip_chain_full` (def; proved: `C02Chain.page_roundtrip_chain`): a whole cycle of pages of one magazine from a
  fresh decoder.
-/
namespace Zvbi.Props.C02Serial
open Zvbi.Ttx Zvbi.Hamm Zvbi.Fmt Zvbi.Fmt.L1Spec Zvbi.Props.C02Roundtrip Zvbi.Props.C02Interleave

/-- **page_roundtrip_serial** (single page).  From any decoder state with 8 slots, a handler and no channel-switch
countdown: header of page P carrying C11 = 1 (magazine-serial transmission; any magazine, decimal page, any
sub-code, erase flag set or not), any rows 1..25 of it with odd-parity bytes, then a header of ANY magazine `u.m`
(all ten Hamming bytes decode) with a page number different from P's; no channel switch signalled.  Then the
"Store page terminated by new header" block of that header leaves P at the head of the cache chain: text page, P's
numbers / national option / flags, rows = `mergeRows (previous version | blanks; row 0 := header) (rows received)`. -/
theorem page_roundtrip_serial : page_roundtrip_serial_full := by
  intro s t hdr hq rp s1 ev1 u hlen hmask hcd hh hdec hsmall hser ht htext hL hrp hu hne hnosw
  obtain ⟨hr, ha, _⟩ := page_ready s hlen hmask hcd t hdr hh hdec s1 ev1 ht htext hL rp hrp
  rw [show hdr :: rp.map (·.2) ++ [hq] = (hdr :: rp.map (·.2)) ++ [hq] from rfl, run_concat] at hnosw
  generalize hsR : (run s (hdr :: rp.map (·.2))).1 = sR at *
  obtain ⟨q, rest, pt, h1, h2, _⟩ := page_stored_at sR s1 t hdr (rowsOf rp) hr u.m u.pgno u.page
    (hr.closes_ser ha.cur ⟨hsmall.1, hsmall.2.1⟩ hser u.m u.pgno u.page hne)
    (fun hx => hnosw (List.mem_append_right _ (chsw_of_term sR hq u.m u.page hu.mag hu.addr hu.page hr.mask hr.cd hr.len hx)))
  exact ⟨q, rest, pt, h1, h2⟩

/-- the header hypotheses of the serial theorems are met by a concrete packet (C11 set in the control byte) -/
example : IsHeader (hdrPkt 1 0x23 0x10 blank32) 1 0x23 0 0 0x10 ∧ (0x10 : Nat) &&& 0x10 = 0x10 ∧ decimalPage 0x23 :=
  ⟨⟨by decide, by decide +kernel, by decide +kernel, by decide +kernel, by decide +kernel, by decide +kernel⟩, by decide,
    ⟨by decide, by decide⟩⟩

/-- **page_roundtrip_serial_fetch**: the serial-mode counterpart of `single_page_roundtrip` when the terminating header
opens a decimal text page of ANY magazine `u.m` (same or other; `TextPage` for it in the state after P was closed): right
after that header, look-ups of P's page number with the stored or the wildcard sub-code return the entry `q` = P as sent
(`Fetched`), and the TTX_PAGE events of the whole sequence are those of closing the earlier page followed by exactly one
`(P.pgno, P.subno)`. -/
theorem page_roundtrip_serial_fetch (s : St) (hlen : s.raw.length = 8) (hmask : s.mask = true) (hcd : s.chswcd = 0)
    (t : Tx) (hdr : Packet) (hh : IsHeader hdr t.m t.page t.s12 t.s34 t.fl) (hdec : decimalPage t.page)
    (hser : t.fl &&& 0x10 = 0x10)
    (s1 : St) (ev1 : List Event) (ht : terminatePage (tick s) t.m t.pgno t.page = (s1, ev1))
    (htext : TextPage s1.net t.pgno t.page (t.prev s1)) (hL : (s1.rp t.m).lopRaw.length = 26)
    (rp : List RowPkt) (hrp : ∀ x ∈ rp, IsPacket x.2 t.m x.1 ∧ 1 ≤ x.1 ∧ x.1 ≤ 25 ∧ GoodRow (payload x.2))
    (hq : Packet) (u : Tx) (hu : IsHeader hq u.m u.page u.s12 u.s34 u.fl) (hne : u.pgno ≠ t.pgno) (hudec : decimalPage u.page)
    (hutext : TextPage (terminatePage (tick (run s (hdr :: rp.map (·.2))).1) u.m u.pgno u.page).1.net u.pgno u.page
      (u.prev (terminatePage (tick (run s (hdr :: rp.map (·.2))).1) u.m u.pgno u.page).1))
    (hnosw : Event.chsw ∉ (run s (hdr :: rp.map (·.2) ++ [hq])).2) :
    ∃ q pt, Fetched q t s1 hdr (rowsOf rp) pt
      ∧ (∀ subno mask, subno = q.subno ∨ subno = ANY_SUBNO →
          (cacheGet (run s (hdr :: rp.map (·.2) ++ [hq])).1.net.cache t.pgno subno mask).map (·.1) = some q)
      ∧ ttxPages (run s (hdr :: rp.map (·.2) ++ [hq])).2 = ttxPages ev1 ++ [(t.pgno, t.subno)] := by
  obtain ⟨hr, ha, hev⟩ := page_ready s hlen hmask hcd t hdr hh hdec s1 ev1 ht htext hL rp hrp
  rw [show hdr :: rp.map (·.2) ++ [hq] = (hdr :: rp.map (·.2)) ++ [hq] from rfl, run_concat] at hnosw ⊢
  generalize hsR : (run s (hdr :: rp.map (·.2))).1 = sR at *
  generalize hevR : (run s (hdr :: rp.map (·.2))).2 = evR at *
  have hn : Event.chsw ∉ (step sR hq).2 := fun h => hnosw (List.mem_append_right _ h)
  obtain ⟨q, pt, f1, _, f3, f4⟩ := fetched_after_header sR s1 t hdr (rowsOf rp) hr hq u.m u.page
    (hdrDone_text sR hq u.m u.page u.s12 u.s34 u.fl hu hudec hr.mask hr.cd hr.len hutext)
    (hr.closes_ser ha.cur ⟨a16_lt hdr 4 _ hh.s12, a16_lt hdr 6 _ hh.s34⟩ hser u.m _ u.page hne) hne hn
  exact ⟨q, pt, f1, f3, by rw [ttxPages_append, hev, f4]⟩

/-- non-vacuity on the model: page 123 of magazine 1 sent with C11 (rows 1, 2), terminated by the header of page 250 of
    magazine 2: stored with the rows as sent, exactly one event -/
example : (cacheGet (run (init.enable true) [hdrPkt 1 0x23 0x10 blank32, rowPkt 1 1 0xC1, rowPkt 1 2 0x43,
        hdrPkt 2 0x50 0x10 blank32]).1.net.cache 0x123 ANY_SUBNO 0).map (fun r => (r.1.function, r.1.raw.getD 1 [], r.1.raw.getD 2 []))
      = some (FN_LOP, List.replicate 40 0xC1, List.replicate 40 0x43)
    ∧ ttxPages (run (init.enable true) [hdrPkt 1 0x23 0x10 blank32, rowPkt 1 1 0xC1, rowPkt 1 2 0x43,
        hdrPkt 2 0x50 0x10 blank32]).2 = [(0x123, 0)] := by decide +kernel

/-- **stored_page_survives_put**: `_vbi_cache_put_page` of a page with ANOTHER page number (whatever it replaces or
moves in the hash chain) does not change what a look-up of `pgno` - exact key or wildcard - finds.  BOTH source shapes
of `_vbi_cache_put_page` (`cachePutF fix`: as found with finding F17, and with fixes/C10-put-replaces-all-versions.diff -
the versions that repair removes in addition all have the page number stored); `cachePut` is the shape of the current
source (`Zvbi.Gen.Cache.putReplacesAllVersions`, read from src/cache.c by translate/gen_cache.py). -/
theorem stored_page_survives_put (c c' : List Page) (pt : Nat) (p : Page) (pgno key mask : Nat) (hne : p.pgno ≠ pgno) :
    (∀ fix, cachePutF fix c pt p = some c' → c'.find? (keyMatch pgno key mask) = c.find? (keyMatch pgno key mask)) ∧
    (cachePut c pt p = some c' → c'.find? (keyMatch pgno key mask) = c.find? (keyMatch pgno key mask)) :=
  ⟨fun fix h => cachePutF_find_false fix c pt p _ (keyMatch_ne hne key mask) c' h,
   fun h => cachePutF_find_false _ c pt p _ (keyMatch_ne hne key mask) c' h⟩

example (fix : Bool) : (cachePutF fix [{ Page.zero with pgno := 0x123 }] 0 { Page.zero with pgno := 0x124 }).map
    (fun c => (c.find? (keyMatch 0x123 0 0)).map (·.pgno)) = some (some 0x123) := by cases fix <;> decide +kernel

/-- **single_version_put_replaces_all** (REPAIRED shape of `_vbi_cache_put_page`,
fixes/C10-put-replaces-all-versions.diff): a store whose key class is "one version" (`putKey` chooses `subno_mask = 0`:
sub-code 0, a clock-time sub-code, an invalid one) leaves exactly ONE cached version of the page number - the page just
stored, at the head of the chain - and the pages of all other page numbers in their old order.  As found (F17) the
versions stored with a sub-page sub-code stay (second half: the witness). -/
theorem single_version_put_replaces_all (c c' : List Page) (pt : Nat) (p : Page) (key : Nat)
    (hk : putKey pt p.pgno p.subno = (key, 0)) (h : cachePutF true c pt p = some c') :
    c' = ({ p.truncate with subno := key } : Page) :: c.filter (fun q => q.pgno != p.pgno) ∧
    (∀ x ∈ c'.tail, x.pgno ≠ p.pgno) := by
  have e := cachePutF_single c pt p key hk c' h
  refine ⟨e, ?_⟩
  rw [e]
  intro x hx
  have := (List.mem_filter.1 hx).2
  simpa using this

example :
    (cachePutF true [{ Page.zero with pgno := 0x100, subno := 1 }, { Page.zero with pgno := 0x200 },
        { Page.zero with pgno := 0x100, subno := 2 }] 0 { Page.zero with pgno := 0x100, subno := 0x100 }).map
      (fun c => c.map (fun q => (q.pgno, q.subno))) = some [(0x100, 0x100), (0x200, 0)] ∧
    (cachePutF false [{ Page.zero with pgno := 0x100, subno := 1 }, { Page.zero with pgno := 0x200 },
        { Page.zero with pgno := 0x100, subno := 2 }] 0 { Page.zero with pgno := 0x100, subno := 0x100 }).map
      (fun c => c.map (fun q => (q.pgno, q.subno))) = some [(0x100, 0x100), (0x200, 0), (0x100, 2)] := by
  constructor <;> decide +kernel

/-- PROVED: `C02Chain.page_roundtrip_chain : page_roundtrip_chain_full`.
`page_roundtrip_chain` - a whole cycle of pages `txs` of one magazine from a fresh decoder (each page
terminated by the next page's header, the last by `fin`): every page is fetched as the `mergeRows` of its LAST
transmission, and there is exactly one TTX_PAGE event per transmission. -/
def page_roundtrip_chain_full : Prop :=
  ∀ (tmpl : List Nat) (off m : Nat) (txs : List (Tx × Packet × List RowPkt)) (fin : Packet),
    m < 8 →
    (∀ x ∈ txs, x.1.m = m ∧ IsHeader x.2.1 m x.1.page x.1.s12 x.1.s34 x.1.fl ∧ decimalPage x.1.page
      ∧ x.1.fl &&& 0x10 = 0 ∧ GoodHdr tmpl off x.2.1
      ∧ ∀ r ∈ x.2.2, IsPacket r.2 m r.1 ∧ 1 ≤ r.1 ∧ r.1 ≤ 25 ∧ GoodRow (payload r.2)) →
    -- consecutive transmissions carry different page numbers
    (∀ pre a b post, txs = pre ++ a :: b :: post → a.1.page ≠ b.1.page) →
    a16 fin 0 = some m → a16 fin 2 = some 0xFF →
    let stream := txs.flatMap (fun x => x.2.1 :: x.2.2.map (·.2)) ++ [fin]
    let sF := (run (init.enable true) stream).1
    -- exactly one event per transmission, in order
    ttxPages (run (init.enable true) stream).2 = txs.map (fun x => (x.1.pgno, x.1.subno))
    -- every page number of the cycle is fetched: text page, rows of its last transmission merged in
    ∧ ∀ x ∈ txs, ∃ q, (cacheGet sF.net.cache x.1.pgno ANY_SUBNO 0).map (·.1) = some q ∧ q.function = FN_LOP
        ∧ q.pgno = x.1.pgno
        ∧ ∃ y ∈ txs, y.1.pgno = x.1.pgno ∧ ∀ r ∈ y.2.2, ∃ r' ∈ y.2.2, r'.1 = r.1 ∧ q.raw.getD r.1 [] = payload r'.2

end Zvbi.Props.C02Serial
