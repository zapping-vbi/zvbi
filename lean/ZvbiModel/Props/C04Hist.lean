import ZvbiModel.Rawdec.BlankFrame
import ZvbiModel.Rawdec.Window
import ZvbiModel.Slicer.Lemmas
import ZvbiModel.Rawdec.Spec
/-!
# C04 - what a decoder remembers from frame to frame cannot cost a line; the CRI search covers the window

Continues `Props/C04.lean` / `Props/C04Bits.lean` (same model `Rawdec/Model.lean`, with `Rawdec/Blank.lean` and
`Rawdec/Window.lean`).  Two statements of `src/raw_decoder.c` are read from /repo on every run
(`translate/gen_rawdecflags.py` -> `Generated/RawdecFlags.lean`): the body of the "line is blank" counter branch of
`decode_pattern`, and the two expressions assigned to `cri_end` in `vbi3_raw_decoder_add_services`.

Part 1 (histories).  A decoder object remembers, per scan line, the ORDER of the jobs searched on it, a "not blank"
marker, and - if the commented-out counter statement were live - how many calls found nothing.  For every state whose
pattern is *armed* (`PatArmed`: jobs first, marker in the last way; every successful `add_services` produces such rows,
see the examples) and EVERY history of decode calls from there, on ANY images:
* the pattern stays armed and every line keeps exactly its jobs (`armed_preserved_by_decodes`);
* in every call `decode_pattern` tries every job listed for the line, in way order, until one matches - no slicer
  call is skipped (`no_line_ever_skipped`, stated about `decode_pattern` AS /repo HAS IT);
* hence the records of a frame are a function of that frame's image, the jobs per line and `max_lines`
  (`frame_records_are_frameSpec`), and do not depend on the frames decoded before
  (`decode_is_history_independent`) - under two stated hypotheses: the slicers' verdicts do not depend on the adaptive
  threshold left behind by earlier lines/frames (`ThreshFree`), and at most one job matches each line (`UniqueHit`; the
  known cases with two matching jobs are F65, F67, F69, see `two_matches_order_decides`).
With the counter statement live this is false (`counter_on_skips_line`).

Part 2 (window).  For every row of the regenerated service table and every sampling window `set_params` accepts, the
CRI search range configured by `add_services` admits EXACTLY the positions at which data and look-ahead fit the window
(`cri_search_covers_window`); a limit of half the window loses positions (`wss_half_window_counterexample`).
-/
namespace Zvbi.Props.C04Hist
open Zvbi.Rawdec Zvbi.Generated.ServiceTable Zvbi.Generated.RawdecFlags
open Zvbi.Slicer (U32)

/-! ## 1. the prediction state -/

/-- In /repo's `decode_pattern` the body of `else if ((j = pattern[MAX_WAYS - 1]) < 0)` is one of
    the two forms the model knows, and the counter statement `pattern[MAX_WAYS - 1] = j + 1;` is NOT live. -/
theorem repo_counter_off : blankBranchKnown = true ∧ blankCounterOn = false := ⟨rfl, rfl⟩

/-- `decode_pattern` as /repo has it (the counter statement switched by the
    regenerated flag) is the `decodePattern` of `Rawdec/Model.lean` that all other C04 theorems are about. -/
theorem model_is_repo_decode_pattern (sp : SPar) (rj : Nat) (sl : Nat → Job → Option (List Nat) × Nat) (i : Nat)
    (row : PRow) (jobs : List Job) :
    decodePatternC blankCounterOn sp rj sl i row jobs = decodePattern sp rj sl i row jobs := by
  unfold decodePatternC decodePattern
  rw [repo_counter_off.2]
  exact decodeWaysC_false sp rj sl i _ _ _ _

example : (decodePatternC false ⟨625, 1, 13500000, 720, 132, 21, 2, 334, 2, false, true⟩ 3
    (fun _ job => (none, job.thresh)) 1 [1, 0, 0, 0, 0, 0, 0, -128] [⟨0x18, 8, 0⟩]).toOption
    = some ([1, 0, 0, 0, 0, 0, 0, -128], [⟨0x18, 8, 0⟩], none) := by decide
example : (decodePatternC true ⟨625, 1, 13500000, 720, 132, 21, 2, 334, 2, false, true⟩ 3
    (fun _ job => (none, job.thresh)) 1 [1, 0, 0, 0, 0, 0, 0, -128] [⟨0x18, 8, 0⟩]).toOption
    = some ([1, 0, 0, 0, 0, 0, 0, -127], [⟨0x18, 8, 0⟩], none) := by decide

/-- the decoder used in the examples: Teletext B + VPS + Caption 625 + WSS on lines 7-23 / 320-336 -/
def sEx : State := run Fixes.all (fun _ => 0) ⟨625, 1, 13500000, 720, 132, 7, 17, 320, 17, false, true⟩ [.add 0x41f 0]

/-- what `add_services` produces is armed (here: 4 jobs; line 22 lists Teletext = job 1 and Caption = job 4) -/
example : ∃ p, sEx.pattern = some p ∧ PatArmed p ∧ sEx.err = none ∧ p[15]? = some [1, 4, 0, 0, 0, 0, 0, -128] :=
  exists_of_map_decide (by decide +kernel)
/-- ... also after a remove and a further add -/
example : ∃ p, (run Fixes.all (fun _ => 0) ⟨625, 1, 13500000, 720, 132, 7, 17, 320, 17, false, true⟩
    [.add 0x1f 0, .remove 0x3, .add 0x400 1]).pattern = some p ∧ PatArmed p :=
  exists_of_map_decide (by decide +kernel)

/-- From any reachable state with an armed pattern, after ANY history of decode calls
    (any images, any `max_lines`): no error, same services, the jobs differ in slicer thresholds only, and row by row the
    pattern is valid, armed, and lists exactly the jobs it listed before (as a multiset - the order is the only thing
    that changes). -/
theorem armed_preserved_by_decodes (fx : Fixes) (ti : Nat → Nat) (sp : SPar) (ops : List Op) (p0 : Pattern)
    (hp0 : (run fx ti sp ops).pattern = some p0) (herr : (run fx ti sp ops).err = none) (ha : PatArmed p0)
    (h : List (Nat × Slicer)) :
    let s0 := run fx ti sp ops
    let s := runDecodes s0 h
    s.err = none ∧ s.services = s0.services ∧ s.jobs.map jobKey = s0.jobs.map jobKey ∧
    ∃ p, s.pattern = some p ∧ RowsRel s0.jobs.length p0 p ∧ PatArmed p := by
  intro s0 s
  have hst := stateRel_of_run fx ti sp ops p0 hp0 herr ha h
  obtain ⟨q0, p, hq0, hp, hrr⟩ := hst.pat
  rw [hp0] at hq0
  cases hq0
  exact ⟨hst.err, hst.services, hst.jobs.symm, p, hp, hrr, fun r hr => (hrr.right r hr).2⟩

/-- From any reachable state with an armed pattern, after ANY history of decode calls, for
    EVERY line `i`: the line still lists exactly the jobs it listed at the start, and the next call of
    `decode_pattern` - as /repo has it - on ANY image `sl` returns inside the row and does exactly `tryJobs` over ALL
    jobs listed for the line: each is tried, in way order, with the threshold its slicer has at that moment, until one
    matches; the record is that match.  No prediction state can make the decoder skip a slicer call. -/
theorem no_line_ever_skipped (fx : Fixes) (ti : Nat → Nat) (sp : SPar) (ops : List Op) (p0 : Pattern)
    (hp0 : (run fx ti sp ops).pattern = some p0) (herr : (run fx ti sp ops).err = none) (ha : PatArmed p0)
    (h : List (Nat × Slicer)) :
    let s := runDecodes (run fx ti sp ops) h
    ∃ p, s.pattern = some p ∧ ∀ (i : Nat) (row : PRow), p[i]? = some row →
      (∃ row0, p0[i]? = some row0 ∧ SameJobs row0 row) ∧
      ∀ (sl : Nat → Job → Option (List Nat) × Nat),
        ∃ row', decodePatternC blankCounterOn s.sp s.readjust sl i row s.jobs =
          .ok (row', (tryJobs sl (jobsOf row) s.jobs).2,
               (tryJobs sl (jobsOf row) s.jobs).1.map (fun m => ({ id := m.2.1.id, line := lineOf s.sp i, data := m.2.2 } : Rec))) := by
  intro s
  obtain ⟨_, _, hjobs, p, hp, hrr, _⟩ := armed_preserved_by_decodes fx ti sp ops p0 hp0 herr ha h
  refine ⟨p, hp, ?_⟩
  intro i row hrow
  obtain ⟨row0, hrow0, hrel⟩ := rowsRel_getElem? hrr i row hrow
  refine ⟨⟨row0, hrow0, hrel.2.2⟩, ?_⟩
  intro sl
  have hlen : (run fx ti sp ops).jobs.length = s.jobs.length := by
    have := congrArg List.length hjobs
    simpa using this.symm
  have hok : RowOK s.jobs.length row := by rw [← hlen]; exact hrel.1
  obtain ⟨⟨row', jobs', rec⟩, he, hw⟩ :=
    decodeWays_spec s.sp s.readjust sl i row.length 0 row s.jobs (by rw [hok.len]) hok (by intro q hq; omega)
  obtain ⟨hj, hr⟩ : jobs' = _ ∧ rec = _ := hw.armed hrel.2.1
  rw [List.drop_zero] at hj hr
  refine ⟨row', ?_⟩
  rw [model_is_repo_decode_pattern]
  unfold decodePattern
  rw [he, hj, hr]

/-- non-vacuity: line 22 (row 15) of `sEx` lists Teletext (job 1) and Caption (job 4); on an image where only the
    caption slicer matches both are tried, the caption record is returned and caption moves to way 0 -/
example : (decodePattern sEx.sp 5 (fun j _ => if j = 3 then (some [0x80, 0x80], 7) else (none, 9)) 15
    [1, 4, 0, 0, 0, 0, 0, -128] sEx.jobs).toOption =
    some ([4, 1, 0, 0, 0, 0, 0, -128], [⟨3, 2, 9⟩, ⟨4, 5, 0⟩, ⟨0x400, 7, 0⟩, ⟨0x18, 9, 7⟩], some ⟨0x18, 22, [0x80, 0x80]⟩) := by
  decide +kernel

/-- From any reachable state with an armed pattern, after ANY history of decode
    calls: for an image whose slicing does not depend on the adaptive thresholds (`ThreshFree`), the records of the
    next frame are `frameSpec` of the current pattern: row by row the first listed job that matches, cut at
    `max_lines` - nothing else enters (not `readjust`, not the marker, not earlier frames). -/
theorem frame_records_are_frameSpec (fx : Fixes) (ti : Nat → Nat) (sp : SPar) (ops : List Op) (p0 : Pattern)
    (hp0 : (run fx ti sp ops).pattern = some p0) (herr : (run fx ti sp ops).err = none) (ha : PatArmed p0)
    (h : List (Nat × Slicer)) (m : Nat) (sl : Slicer) (htf : ThreshFree sl) :
    let s := runDecodes (run fx ti sp ops) h
    ∃ p, s.pattern = some p ∧
      (decodeFrame s m sl).2.1 = if s.services = 0 then [] else frameSpec s.sp sl s.jobs p m := by
  intro s
  have hst := stateRel_of_run fx ti sp ops p0 hp0 herr ha h
  obtain ⟨q0, p, _, hp, hrr⟩ := hst.pat
  refine ⟨p, hp, ?_⟩
  by_cases hsv : s.services = 0
  · rw [if_pos hsv, decodeFrame_idle m sl (.inr hsv)]
  · rw [if_neg hsv]
    have hlen := hst.jobs.length
    obtain ⟨p', _, _, hrec⟩ := (decodeFrame_spec s m sl (fun q hq r hr => by rw [hp] at hq; cases hq; exact hlen ▸ (hrr.right r hr).1)
      (fun _ => by rw [hp]; rfl)).armed p hp (fun r hr => (hrr.right r hr).2)
    exact hrec hst.err hsv htf

/-- One line, two way orders of the same jobs (`SameJobs`), job lists that differ in
    thresholds only: if at most one listed job matches the line (`UniqueHit`) and the verdicts do not depend on the
    thresholds, the record is the same. -/
theorem order_cannot_change_result (sp : SPar) (sl : Slicer) (htf : ThreshFree sl) (jobs0 jobs : List Job)
    (hrel : jobs0.map jobKey = jobs.map jobKey) (i : Nat) (r r' : PRow) (hsame : SameJobs r r')
    (hu : UniqueHit sl jobs0 i r) : lineSpec sp sl jobs i r' = lineSpec sp sl jobs0 i r :=
  lineSpec_order_free sp sl htf hrel i r r' hsame hu

/-- The hypothesis `UniqueHit` is needed: when two listed jobs match the same line (the
    known findings F65 Teletext A/C, F67 Caption 525/Teletext 525, F69 low-pass Caption 625/Teletext B) the record
    depends on which is tried first - i.e. on history. -/
theorem two_matches_order_decides :
    lineSpec sEx.sp (fun _ _ _ => (some [1], 0)) sEx.jobs 15 [1, 4, 0, 0, 0, 0, 0, -128] = some ⟨3, 22, [1]⟩ ∧
    lineSpec sEx.sp (fun _ _ _ => (some [1], 0)) sEx.jobs 15 [4, 1, 0, 0, 0, 0, 0, -128] = some ⟨0x18, 22, [1]⟩ := by
  decide +kernel

/-- Fix a reachable state with an armed pattern (services, jobs, lines).  Whatever
    two histories of decode calls `h1`, `h2` (any number of frames, any images, any `max_lines`) the decoder has gone
    through, the records it returns for a frame `sl` are THE SAME - namely `frameSpec` of the starting state -
    provided the frame's slicing does not depend on the thresholds and at most one job matches each line.  (Without
    `UniqueHit` the histories can differ in the order of the ways: `two_matches_order_decides`.) -/
theorem decode_is_history_independent (fx : Fixes) (ti : Nat → Nat) (sp : SPar) (ops : List Op) (p0 : Pattern)
    (hp0 : (run fx ti sp ops).pattern = some p0) (herr : (run fx ti sp ops).err = none) (ha : PatArmed p0)
    (h1 h2 : List (Nat × Slicer)) (m : Nat) (sl : Slicer) (htf : ThreshFree sl)
    (hu : ∀ ir ∈ (List.range p0.length).zip p0, UniqueHit sl (run fx ti sp ops).jobs ir.1 ir.2) :
    (decodeFrame (runDecodes (run fx ti sp ops) h1) m sl).2.1 = (decodeFrame (runDecodes (run fx ti sp ops) h2) m sl).2.1 := by
  have key : ∀ h : List (Nat × Slicer),
      (decodeFrame (runDecodes (run fx ti sp ops) h) m sl).2.1 =
        if (run fx ti sp ops).services = 0 then [] else frameSpec sp sl (run fx ti sp ops).jobs p0 m := by
    intro h
    have hst := stateRel_of_run fx ti sp ops p0 hp0 herr ha h
    obtain ⟨p, hp, hrec⟩ := frame_records_are_frameSpec fx ti sp ops p0 hp0 herr ha h m sl htf
    rw [hrec, hst.services]
    split
    · rfl
    · obtain ⟨q0, q, hq0, hq, hrr⟩ := hst.pat
      rw [hp0] at hq0; cases hq0
      rw [hp] at hq; cases hq
      unfold frameSpec
      rw [List.range_eq_range', List.range_eq_range'] at *
      rw [hst.sp, (run_inv fx ti sp ops).2]
      rw [frameSpec_congr sp sl htf hst.jobs _ p0 p 0 hrr hu]
  rw [key h1, key h2]

/-- non-vacuity: `sEx`, a frame with caption on line 22, decoded directly and after five other frames (three with
    Teletext on line 22, which moves Teletext to way 0): the same record -/
example :
    let img : Slicer := nominalSlicer [(0x8, 15, [0x80, 0x80])]
    let ttx : Slicer := nominalSlicer [(0x3, 15, [1, 2, 3])]
    (decodeFrame (runDecodes sEx []) 34 img).2.1 = [⟨0x18, 22, [0x80, 0x80]⟩] ∧
    (decodeFrame (runDecodes sEx [(34, img), (34, ttx), (34, ttx), (34, nominalSlicer []), (34, ttx)]) 34 img).2.1
      = [⟨0x18, 22, [0x80, 0x80]⟩] := by decide +kernel

/-- With the counter statement live the theorems above are FALSE: caption line 22 of a
    decoder (one job, marker -128), 129 calls without signal, then the signal is back - the call returns nothing (the
    line is predicted blank: row `[0, 1, ...]`), and so do the next 14 calls; the released code returns the record. -/
theorem counter_on_skips_line :
    let sp : SPar := ⟨625, 1, 13500000, 720, 132, 21, 2, 334, 2, false, true⟩
    let blank : Nat → Job → Option (List Nat) × Nat := fun _ job => (none, job.thresh)
    let signal : Nat → Job → Option (List Nat) × Nat := fun _ job => (some [0x80, 0x80], job.thresh)
    let start : PRow × List Job × Nat := ([1, 0, 0, 0, 0, 0, 0, -128], [⟨0x18, 8, 0⟩], 1)
    ((lineHistory true sp 1 start (List.replicate 129 blank ++ List.replicate 16 signal)).2.drop 129).map Option.isSome
      = List.replicate 15 false ++ [true] ∧
    ((lineHistory false sp 1 start (List.replicate 129 blank ++ List.replicate 16 signal)).2.drop 129).map Option.isSome
      = List.replicate 16 true := by
  decide +kernel

/-- FULL statement (proved: `C04Reach.armed_after_every_history`): every reachable pattern of the repaired code is armed, so that the hypothesis `PatArmed`
    of the theorems above holds after every history of add / remove / reset / decode.  It fails only if
    `add_job_to_pattern` can return FALSE ("Out of decoder pattern space": the rows compacted by its first loop lose
    their marker), which `C04Reach.rows_armed_distinct_after_every_history` excludes. -/
def armed_after_every_history_full : Prop :=
  ∀ (ti : Nat → Nat) (sp : SPar) (ops : List Op) (p : Pattern), (run Fixes.all ti sp ops).pattern = some p → PatArmed p

/-- decode calls never disarm a pattern (all other ops: examples above, and `add_services` of one
    service set on a fresh decoder in `sEx`) -/
theorem armed_after_every_history_partial (fx : Fixes) (ti : Nat → Nat) (sp : SPar) (ops : List Op) (p0 : Pattern)
    (hp0 : (run fx ti sp ops).pattern = some p0) (herr : (run fx ti sp ops).err = none) (ha : PatArmed p0)
    (m : Nat) (sl : Slicer) : ∀ p, (run fx ti sp (ops ++ [.decode m sl])).pattern = some p → PatArmed p := by
  intro p hp
  obtain ⟨_, _, _, q, hq, _, harm⟩ := armed_preserved_by_decodes fx ti sp ops p0 hp0 herr ha [(m, sl)]
  rw [run_snoc, show step fx ti _ (.decode m sl) = runDecodes (run fx ti sp ops) [(m, sl)] from rfl, hq] at hp
  cases hp
  exact harm

/-! ## 2. the CRI search range covers the window -/

/-- With the two `cri_end` assignments /repo contains, `add_services` hands
    `vbi3_bit_slicer_set_params` exactly the arguments `rowParams` of C05 describes (`cri_end = ~0`), for every table
    row, pixel format, rate and window length - the premise under which the slicer theorems of Props/C05.lean and Props/C04Bits.lean speak about
    the raw decoder. -/
theorem add_services_cri_end_repo (r : Row) (fmt : Zvbi.Slicer.Fmt) (rate spl : Nat) :
    rowParamsW criEndWss criEndOther r fmt rate spl = Zvbi.Slicer.rowParams r fmt rate spl := by
  unfold rowParamsW criEndOfRow
  have h1 : criEndValue criEndWss spl = U32 - 1 := rfl
  have h2 : criEndValue criEndOther spl = U32 - 1 := rfl
  rw [h1, h2]
  simp [Zvbi.Slicer.rowParams]

/-- For EVERY row of the regenerated service table, every pixel format, sampling rate
    (C `int`) and window length: if `set_params` accepts the window (otherwise `add_services` asserts), the search
    range it sets up from the `cri_end` of `add_services` admits search position `k` - the run-in found `k` samples
    after the start of the window - EXACTLY when FRC + payload still fit the window (`k + data_samples < spl`) and the
    furthest sample of the payload loop lies in it.  In particular the range is never cut below a position at which the
    whole signal lies inside the window, wherever the window starts (`sp->offset` does not enter) and however short
    it is. -/
theorem cri_search_covers_window (r : Row) (hr : r ∈ serviceTable) (fmt : Zvbi.Slicer.Fmt) (rate spl : Nat)
    (hrate : rate < 2147483648) (c : Zvbi.Slicer.Cfg)
    (h : Zvbi.Slicer.setParams true (rowParamsW criEndWss criEndOther r fmt rate spl) = .ok c) (k : Nat) :
    k < c.criSamples ↔
      (k + Zvbi.Slicer.dataSamples (Zvbi.Slicer.rowParams r fmt rate spl) < spl ∧
       k + Zvbi.Slicer.lookAhead c.kind c.phaseShift c.step c.nBits < spl) := by
  have hb := table_bits_le_rates r hr
  have hnw := row_no_wrap r fmt rate spl hrate hb.1 hb.2 criEndWss criEndOther
  rw [add_services_cri_end_repo] at h hnw
  have := Zvbi.Slicer.setParams_window _ c h rfl hnw k
  simpa [Zvbi.Slicer.rowParams] using this

/-- non-vacuity: WSS 625 (table row 7), 8 bit luma, 13.5 MHz, a 540 sample window (40 us): 314 positions, i.e. every
    `k` with `k + 226 < 540` -/
example : (serviceTable[7]?.bind (fun r =>
      (Zvbi.Slicer.setParams true (rowParamsW criEndWss criEndOther r ⟨1, 0, 1, true⟩ 13500000 540)).toOption)).map
    (fun c => (c.criSamples, Zvbi.Slicer.lookAhead c.kind c.phaseShift c.step c.nBits)) = some (314, 217) := by decide +kernel

/-- `cri_end = samples_per_line / 2` for WSS ("occupies only first half of line")
    is wrong for windows: 13.5 MHz, 540 samples from 0.96 us after 0H contain the whole WSS signal (10.9 - 38.5 us); the
    run-in and start code end 21.5 us after 0H = sample 277 of the window; data (226 samples) and look-ahead (217)
    fit behind it - but the search would stop at sample 270. -/
theorem wss_half_window_counterexample :
    (serviceTable[7]?.bind (fun r =>
      (Zvbi.Slicer.setParams true (rowParamsW (.splDiv 2) .all r ⟨1, 0, 1, true⟩ 13500000 540)).toOption)).map
      (fun c => (c.criSamples, decide (277 + 226 < 540 ∧ 277 + Zvbi.Slicer.lookAhead c.kind c.phaseShift c.step c.nBits < 540)))
      = some (270, true) := by decide +kernel

end Zvbi.Props.C04Hist
