import ZvbiModel.Demux.JoinDelivered
import ZvbiModel.Demux.JoinResync
import ZvbiModel.Demux.CorFeed
/-!
# C07 (joined with C06) - parser equivalence, the round trip from the multiplexer model, coroutine = feed

Property theorems, and the evaluations of the 63-line packet that several of them share (`feed63_early`, `feed63_repaired`,
`frames_two`, `after63_eq`, `fourFrames_early`); helper lemmas: `Demux/Join*.lean`, `Demux/Cor*.lean`, `Mux/Join*.lean`.
`EnParse` (`Mux/Spec.lean`) is the reader written from EN 300 472 / EN 301 775 / ISO 13818-1;
`Demux.ofLine` turns one of its lines into the `vbi_sliced` libzvbi reports (Teletext B 3, VPS 4,
WSS 0x400 with the two reserved bits set, Caption 8); `Demux.Sep` says that the packets are frames the
demultiplexer can tell apart: each has 1..`frameCap cfg` lines (64 = all of `dx->sliced[64]` with fix
dvb-demux-full-frame, 63 before it) with defined, strictly ascending line numbers and
begins on a line not beyond the last line of the packet before ("a frame boundary is recognisable by
a non-increasing line number"); `Demux.Holds fs pts lines`: the frame buffer holds exactly `lines`
with `frame_pts = pts`, `new_frame` clear.
-/
namespace Zvbi.Props.C07Cor
open Zvbi.Demux

variable {cfg : SrcCfg}
open Zvbi.Mux.EnParse (Pes pesStream Op Sent run)

/-- **parser_equivalence (PES path): `EnParse.pesStream` vs the demultiplexer.**  For every byte
stream (bytes < 256) which the standards reader accepts as VBI PES packets `ps` that are separable
frames, for every partition of the stream into `vbi_dvb_demux_feed` calls and every shape of the
source (`cfg`): no fault; the frames delivered are exactly the packets but the last, in
order, each with the PTS the reader decodes (ISO 13818-1 2.4.3.7) and the lines the reader sees
(service, line number from `line_offset`/`field_parity`, payload bits with the bit order of each
service); everything is consumed and the last packet's frame is held in the frame buffer. -/
theorem parser_equivalence (cfg : SrcCfg) (bs : Bytes) (ps : List Pes) (h : pesStream bs = some ps)
    (hb : ∀ b ∈ bs, b < 256) (hsep : Sep cfg (ps.map (·.lines))) (chunks : List Bytes) (hch : chunks.flatten = bs) :
    (pesFeeds cfg St.init chunks).err = none
    ∧ (pesFeeds cfg St.init chunks).frames = ps.dropLast.map outOf
    ∧ frames cfg bs = ps.dropLast.map outOf
    ∧ (pesFeeds cfg St.init chunks).st.pending = []
    ∧ ∀ hne : ps ≠ [], Holds (pesFeeds cfg St.init chunks).st.fs (ps.getLast hne).pts (ps.getLast hne).lines := by
  obtain ⟨fsEnd, har, hend⟩ := frames_of_pesStream (cfg := cfg) bs ps h hb hsep
  obtain ⟨he, _, href⟩ := pesFeeds_init (cfg := cfg) chunks
  rw [hch, har] at href
  simp only [ARes.mk.injEq] at href
  obtain ⟨hcore, hpend, hframes, _⟩ := href
  have hfs : (pesFeeds cfg St.init chunks).st.fs = fsEnd := (congrArg Core.fs hcore).symm
  refine ⟨he, hframes.symm, frames_pesStream bs ps h hb hsep, hpend.symm, fun hne => by rw [hfs]; exact hend hne⟩

/-- non-vacuity: two hand-built EN 300 472 packets (`Demux/Spec.lean`), Teletext on line 7 twice -/
example : (pesStream (linePacket 3 7 0x55 ++ linePacket 4 7 0x66)).map (fun ps => ps.map fun p => (p.pts, p.lines.length))
    = some [(3, 1), (4, 1)] := by decide +kernel
example : ((frames SrcCfg.repaired (linePacket 3 7 0x55 ++ linePacket 4 7 0x66)).map fun f => (f.pts, f.lines.map (·.line)))
    = [(3, [7])] := by decide +kernel

/-- **mux_demux_roundtrip_model (join with C06), for frames of defined lines.**  The open statement
`C07.mux_demux_roundtrip_model_full` with "every line number defined" in place of "the first line
number defined" (see `mux_demux_roundtrip_undef_full` in Props/C06Join.lean for what stays open):
for every history of multiplexer operations from `vbi_dvb_pes_mux_new ()` whose accepted frames are
separable frames of defined lines, this model of the demultiplexer returns from the concatenated
output of C06's model of the multiplexer all accepted frames but the last, with PTS and lines, in
the vocabulary of Props/C07.lean (`deliveredAs`). -/
theorem mux_demux_roundtrip_model (cfg : SrcCfg) (ops : List Op) (hops : ∀ op ∈ ops, Zvbi.Mux.EnParse.Op.OK op)
    (hsep : Zvbi.Mux.Separable (run Zvbi.Mux.newPes ops).2.2) :
    Zvbi.Props.C07.deliveredAs (frames cfg (run Zvbi.Mux.newPes ops).2.1)
      = (run Zvbi.Mux.newPes ops).2.2.dropLast.map (fun s => (s.pts, s.lines)) := by
  rw [Zvbi.Mux.frames_of_mux cfg ops hops hsep]
  apply deliveredAs_received
  intro s hs
  exact run_lines_canon ops Zvbi.Mux.newPes s (List.dropLast_subset _ hs)

/-- **resync on an intact stream after a discard or reset.**  A demultiplexer at a packet boundary
(`skip` 0, header lookahead) that is at a frame start - the state after `vbi_dvb_demux_reset` and
after every discarded frame (`C07.error_discards`) - whatever stale lines, line counters, frame PTS
and packet PTS it still holds: an intact stream of separable frames that follows is delivered
completely (all packets but the last, which is held), exactly as from a new demultiplexer.
(The part of `C07.resync_full` whose sender side is the standards reader / C06's multiplexer.) -/
theorem resync_from_frame_start (cfg : SrcCfg) (fs : FS) (hnf : fs.newFrame = true) (bs : Bytes) (ps : List Pes)
    (h : pesStream bs = some ps) (hb : ∀ b ∈ bs, b < 256) (hsep : Sep cfg (ps.map (·.lines))) :
    (arun cfg { skip := 0, lookahead := 48, fs := fs } bs).frames = ps.dropLast.map outOf
    ∧ (arun cfg { skip := 0, lookahead := 48, fs := fs } bs).frames = frames cfg bs
    ∧ (arun cfg { skip := 0, lookahead := 48, fs := fs } bs).stop = none := by
  have hfr := frames_pesStream (cfg := cfg) bs ps h hb hsep
  by_cases hne : ps = []
  · subst hne
    have hbs : bs = [] := by
      obtain ⟨pks, _, h2, h3⟩ := pesStreamF_inv _ bs [] h
      have : pks = [] := by simpa using h3
      subst this; simpa using h2.symm
    subst hbs
    simp [arun, frames]
  · obtain ⟨fsEnd, har, _⟩ := frames_of_pesStream_from (cfg := cfg) fs hnf bs ps h hb hsep hne
    rw [har, hfr]
    exact ⟨rfl, rfl, rfl⟩

/-- non-vacuity: the context after the 70-unit packet (at a frame start since 7c6e61c, 64 stale lines in the
buffer) delivers the following intact frames like a new demultiplexer -/
example : Zvbi.Props.C07.afterOverflow.fs.newFrame = true ∧ Zvbi.Props.C07.afterOverflow.fs.frame.lines.length = 64
    ∧ Zvbi.Props.C07.afterOverflow.core.skip = 0 ∧ Zvbi.Props.C07.afterOverflow.core.lookahead = 48 :=
  Zvbi.Props.C07.afterOverflow_at

/-! ## The header stage and the `lookahead` encoding of the PES state

`demux_pes_packet` has no state variable: "a payload is in front of us" is `pes_wrap.lookahead > 48`,
and the start code scan / `valid_vbi_pes_packet_header` read `p[0] .. p[45]` of a window of which
`wrap_around` guarantees `lookahead` bytes.  Both are sound only because the header stage rejects
every `PES_packet_length < 178` (seeded change C07-c relaxes exactly that test). -/

/-- **the header stage rejects every PES_packet_length < 178.**  At a VBI start code `00 00 01 BD`
whose length field is below 178, one iteration of `demux_pes_packet` (callback or coroutine, any
context) skips the packet by its own length `6 + PES_packet_length`, keeps the lookahead at 48 and
leaves frame and PTS state untouched - however valid the rest of the header is. -/
theorem header_rejects_short (cb : Bool) (sk : Nat) (fs : FS) (hi lo : Nat) (rest : Bytes) (hlen : 42 ≤ rest.length)
    (hpl : (hi % 256) * 256 + lo % 256 < 178) :
    pesIter cb cfg sk 48 fs (0 :: 0 :: 1 :: 0xBD :: hi :: lo :: rest)
      = ((6 + ((hi % 256) * 256 + lo % 256), 48), fs, [], none) := by
  rw [pesIter_scan _ _ _ _ (by simp only [List.length_cons]; omega)]
  have h46 : ¬ (((0 :: 0 :: 1 :: 0xBD :: hi :: lo :: rest).drop 0).take 46).length < 46 := by
    simp only [List.drop_zero, List.length_take, List.length_cons]; omega
  have hpl' : packetLengthOf (((0 :: 0 :: 1 :: 0xBD :: hi :: lo :: rest).drop 0).take 46) < 178 := by
    simpa [packetLengthOf] using hpl
  rw [scanLoop_step _ _ _ 0 0 0 1 0xBD (hi :: lo :: rest) rfl, show scanPos 0 0 1 0xBD = .found from by decide]
  show scanFinish sk 48 fs _ (.found 0) = _
  rw [scanFinish_found _ _ _ _ h46, foundRes_short 0 fs _ hpl']
  simp [packetLengthOf]

/-- an accepted header sets the payload lookahead to `PES_packet_length - 40 >= 138` -/
theorem header_accept_lookahead (p : Nat) (fs fs' : FS) (h : Bytes) (sk la : Nat)
    (he : foundRes p fs h = ((sk, la), fs')) (hla : la ≠ 48) :
    178 ≤ packetLengthOf h ∧ la = packetLengthOf h - 40 ∧ sk = p + 46 ∧ validHeader fs h = some fs' := by
  unfold foundRes at he
  unfold packetLengthOf
  simp only [] at he
  split at he
  · simp only [Prod.mk.injEq] at he; exact absurd he.1.2.symm hla
  · split at he
    · simp only [Prod.mk.injEq] at he; exact absurd he.1.2.symm hla
    · rename_i fs1 hv
      simp only [Prod.mk.injEq] at he
      obtain ⟨⟨h1, h2⟩, h3⟩ := he
      subst h3
      exact ⟨by omega, by omega, by omega, hv⟩

example : (foundRes 0 {} ((linePacket 3 7 0x55).take 46)).1 = (46, 138) ∧ packetLengthOf ((linePacket 3 7 0x55).take 46) = 178 := by
  decide +kernel

/-- **lookahead invariant.**  After every history of feed calls on whatever bytes, in whatever
pieces: `pes_wrap.lookahead` is exactly 48 (start code scan / header state: the 48 bytes the scan
and the header validation read are in the window) or a payload length between 138 and 65495
(payload state); so `lookahead > 48` encodes the payload state soundly and no state with a
lookahead below 48 is reachable. -/
theorem lookahead_invariant (chunks : List Bytes) :
    (pesFeeds cfg St.init chunks).st.pw.lookahead = 48
    ∨ (138 ≤ (pesFeeds cfg St.init chunks).st.pw.lookahead ∧ (pesFeeds cfg St.init chunks).st.pw.lookahead ≤ 65495) := by
  have := arun_la (cfg := cfg) chunks.flatten Core.init (Or.inl rfl)
  rwa [(pesFeeds_init (cfg := cfg) chunks).2.2] at this

/-- the lookahead invariant is kept by one iteration from any context that satisfies it (callback or coroutine) -/
theorem lookahead_step (cb : Bool) (sk la : Nat) (fs : FS) (win : Bytes) (h : LaOK la) :
    LaOK (pesIter cb cfg sk la fs win).1.2 :=
  pesIter_la cb sk la fs win h

/-- non-vacuity: a runt packet with a fully valid VBI header and PES_packet_length 44 (the seeded
C07-c case) between two ordinary packets is skipped: both frames' packets are seen, the first frame is
delivered when the second begins, and the lookahead is 48 afterwards -/
example : let runt := (witPacket 9 []).take 50 |>.set 5 44
    ((pesFeeds SrcCfg.repaired St.init [linePacket 3 7 0x55 ++ runt ++ linePacket 4 7 0x66]).frames.map (·.pts),
     (pesFeeds SrcCfg.repaired St.init [linePacket 3 7 0x55 ++ runt ++ linePacket 4 7 0x66]).st.pw.lookahead)
      = ([3], 48) := by decide +kernel

/-! ## `vbi_dvb_demux_cor` = `vbi_dvb_demux_feed` (C07 `cor_equals_feed`)

Proved for the source as repaired by 776a0f0 (`corSkipsEmpty`: a frame without lines is not handed to
the coroutine caller) and 7c6e61c (`pesDiscards`: a data unit error discards the frame); both are
needed: `C07.cor_livelock_counterexample` and `cor_equals_feed_needs_discard`.  Proof: a second
refinement of `demux_pes_packet` with `callback == NULL` (`Demux/CorLoop.lean`) against the same
stream machine `arun`, where the restart of a packet from its first data unit after a hand-over is
shown to end, up to state that a frame start forgets, where the callback variant continues. -/

/-- **cor_equals_feed**, from any context satisfying `CorInv` (repaired source): the drain loop over
`vbi_dvb_demux_cor` ends without fault and without stall within `2 * length + 4` calls and returns
exactly the frames with at least one line that `vbi_dvb_demux_feed` passes to its callback -/
theorem cor_equals_feed_from (hse : cfg.corSkipsEmpty = true) (hpd : cfg.pesDiscards = true)
    (s : St) (h : CorInv cfg s) (buf : Bytes) :
    (pesCorDrain (2 * buf.length + 4) cfg 0 s buf 0 64).err = none ∧
    (pesCorDrain (2 * buf.length + 4) cfg 0 s buf 0 64).stalled = false ∧
    (pesCorDrain (2 * buf.length + 4) cfg 0 s buf 0 64).frames
      = (pesFeed cfg s buf).frames.filter (fun f => !f.lines.isEmpty) :=
  have ⟨h1, h2, h3, _⟩ := corDrain_step hse hpd s s buf (DrainInv_of_CorInv s h) h.1 (CorSim.refl s)
  ⟨h1, h2, h3⟩

/-- **cor_equals_feed** - the open statement `C07.cor_equals_feed_full` for the repaired source: for
every context reached by feed calls on any bytes and every buffer, the caller loop
`while (left > 0) n = vbi_dvb_demux_cor (...)` (max_lines 64) ends within `2 * length + 4` calls
without fault and without stall, and returns exactly the frames that `vbi_dvb_demux_feed` hands to
its callback for the same buffer, except those without lines. -/
theorem cor_equals_feed (hse : cfg.corSkipsEmpty = true) (hpd : cfg.pesDiscards = true) :
    Zvbi.Props.C07.cor_equals_feed_full cfg :=
  fun chunks buf => cor_equals_feed_from hse hpd _ (CorInv_feeds chunks) buf

example : SrcCfg.repaired.corSkipsEmpty = true ∧ SrcCfg.repaired.pesDiscards = true := ⟨rfl, rfl⟩
/-- `livelockPacket` makes feed deliver a frame without lines, which the coroutine never returns; the
frame after it (two lines) is returned by both -/
example : (pesFeed SrcCfg.repaired St.init (livelockPacket ++ linePacket 3 7 0x55 ++ linePacket 4 7 0x66)).frames.map
      (fun f => (f.pts, f.lines.length)) = [(1, 0), (1, 2)] ∧
    (pesCorDrain (2 * (livelockPacket ++ linePacket 3 7 0x55 ++ linePacket 4 7 0x66).length + 4) SrcCfg.repaired 0 St.init
      (livelockPacket ++ linePacket 3 7 0x55 ++ linePacket 4 7 0x66) 0 64).frames.map
      (fun f => (f.pts, f.lines.length)) = [(1, 2)] := by decide +kernel

/-- **the discard of 7c6e61c is needed for cor_equals_feed.**  On a tree with the `continue` of 776a0f0
but with the dead `err < 0` test, five legal-looking packets (`corNoDiscardWitness`: line 7 | stuffing +
Teletext on line 3 (line number error) | Teletext, undefined line, second field | line 7 | line 7) come
back differently: the second frame has the PTS of packet 3 from the coroutine and of packet 2 from
feed: the restart after the hand-over leaves `last_data_unit_id` = stuffing in the frame that the failed unit of packet 2
does not discard, so the undefined-line unit of packet 3 starts a new frame in the coroutine only.  (Both repairs are in
/repo; this is why `hpd` is a hypothesis, not a defect of the current tree.) -/
theorem cor_equals_feed_needs_discard :
    let c : SrcCfg := { corSkipsEmpty := true, pesDiscards := false, lateOverflow := false, tsCompletesInHeader := false }
    let r := pesCorDrain (2 * corNoDiscardWitness.length + 4) c 0 St.init corNoDiscardWitness 0 64
    r.err = none ∧ r.stalled = false ∧
    r.frames.map (fun f => (f.pts, f.lines.map fun l => l.line)) = [(1, [7]), (3, [0, 7])] ∧
    ((pesFeed c St.init corNoDiscardWitness).frames.filter (fun f => !f.lines.isEmpty)).map
      (fun f => (f.pts, f.lines.map fun l => l.line)) = [(1, [7]), (2, [0, 7])] := by decide +kernel

/-- **cor_equals_feed over successive buffers.**  After any history of feed calls, any sequence of
buffers drained one after the other through `vbi_dvb_demux_cor` (each by the caller loop, within
`2 * length + 4` calls) returns exactly the frames with lines that feeding the same buffers delivers -
also when a drain ends with a hand-over at the very end of its buffer, where the coroutine context
still sits at that packet's payload window, a state no feed call leaves.  Proof: the relation
"both contexts deliver the same frames with lines on every continuation" (`Demux.CorSim`) is kept by
each drain (`Demux.corDrain_step`). -/
theorem cor_equals_feed_composed (hse : cfg.corSkipsEmpty = true) (hpd : cfg.pesDiscards = true)
    (chunks bufs : List Bytes) :
    pesCorDrains cfg (pesFeeds cfg St.init chunks).st bufs
      = (pesFeeds cfg (pesFeeds cfg St.init chunks).st bufs).frames.filter (fun f => !f.lines.isEmpty) :=
  have hci := CorInv_feeds (cfg := cfg) chunks
  pesCorDrains_eq_feeds_from hse hpd bufs _ _ (DrainInv_of_CorInv _ hci) hci.1 (CorSim.refl _)

/-- an instance with two drained buffers, the first ending exactly where a frame was handed over -/
example : pesCorDrains SrcCfg.repaired St.init
      [linePacket 3 7 0x55 ++ linePacket 4 7 0x66, linePacket 5 7 0x77 ++ linePacket 6 7 0x11]
    = (pesFeeds SrcCfg.repaired St.init
        [linePacket 3 7 0x55 ++ linePacket 4 7 0x66, linePacket 5 7 0x77 ++ linePacket 6 7 0x11]).frames.filter
        (fun f => !f.lines.isEmpty) := by decide +kernel

/-- **the joined round trip through the coroutine interface of the demultiplexer.**  The whole output
of C06's multiplexer model for a history whose accepted frames are separable frames of defined lines,
drained through `vbi_dvb_demux_cor`, comes back as the accepted frames but the last (repaired source). -/
theorem mux_demux_roundtrip_cor (hse : cfg.corSkipsEmpty = true) (hpd : cfg.pesDiscards = true)
    (ops : List Op) (hops : ∀ op ∈ ops, Zvbi.Mux.EnParse.Op.OK op)
    (hsep : Zvbi.Mux.Separable (run Zvbi.Mux.newPes ops).2.2) :
    let out := (run Zvbi.Mux.newPes ops).2.1
    let r := pesCorDrain (2 * out.length + 4) cfg 0 St.init out 0 64
    r.err = none ∧ r.stalled = false ∧ r.frames = (run Zvbi.Mux.newPes ops).2.2.dropLast.map Zvbi.Mux.received := by
  intro out r
  obtain ⟨h1, h2, h3⟩ := cor_equals_feed hse hpd [] out
  refine ⟨h1, h2, ?_⟩
  show (pesCorDrain (2 * out.length + 4) cfg 0 (pesFeeds cfg St.init []).st out 0 64).frames = _
  rw [h3]
  -- the frames of feed
  have hf : (pesFeed cfg (pesFeeds cfg St.init []).st out).frames = frames cfg out :=
    (congrArg ARes.frames (pesFeed_refines (cfg := cfg) St.init out Inv_init).2.2).symm
  rw [hf, Zvbi.Mux.frames_of_mux cfg ops hops hsep]
  -- every frame has a line
  apply List.filter_eq_self.2
  intro f hfm
  rw [List.mem_map] at hfm
  obtain ⟨s, hs, rfl⟩ := hfm
  have hd : Zvbi.Mux.Defined s := Zvbi.Mux.separable_defined _ hsep s (List.dropLast_subset _ hs)
  simp only [Zvbi.Mux.received, Bool.not_eq_eq_eq_not, Bool.not_true]
  cases hl : s.lines with
  | nil => exact absurd hl hd.1
  | cons l ls => rfl

/-! ## Finding C07-full-frame: a frame that fills the sliced buffer exactly

Before fix dvb-demux-full-frame `line_address` reports VBI_ERR_SLICED_BUFFER_OVERFLOW before it tests for
a new frame, so a frame of exactly 64 lines (`dx->sliced[64]`) cannot be closed: the first unit of the
next frame gets the error, the 64 lines are discarded and that packet is skipped.  Reproduced on the real
code (`corpus/C07/full-frame-64.ops`), repair `fixes/dvb-demux-full-frame.diff` (overflow test moved
behind the new-frame tests; `cfg.lateOverflow`, read from the source by `translate/gen_demux.py`).
The counterexamples are stated for the shape without the fix explicitly (`SrcCfg.earlyOverflow`), the
positive statements for `cfg.lateOverflow = true`, so both build whatever the current tree looks like. -/

/-- 63 Teletext units with an undefined line, first field, in one packet: legal, fits `dx->sliced[64]` -/
def fullPacket63 : Bytes := witPacket 2 (List.replicate 63 (witTtxUnit 0xE0 0x40)).flatten
/-- four ordinary frames: Teletext on line 7, PTS 3..6 -/
def fourFrames : Bytes := linePacket 3 7 0x55 ++ linePacket 4 7 0x66 ++ linePacket 5 7 0x77 ++ linePacket 6 7 0x11

/-- the context `fullPacket63` leaves: at a packet boundary, 63 Teletext lines without line number pending, the
packet's PTS -/
def state63 : St :=
  { fs := { frame := { lines := List.replicate 63 ⟨3, 0, List.replicate 42 2⟩, lastDuId := 2, nDu := 63 },
            framePts := 2, packetPts := 2, newFrame := false } }

/-- the 2,944 bytes of `fullPacket63` are evaluated once per shape of `line_address`; what follows starts from `state63` -/
theorem feed63_early : pesFeed SrcCfg.earlyOverflow St.init fullPacket63 = { st := state63 } := by decide +kernel
theorem feed63_repaired : pesFeed SrcCfg.repaired St.init fullPacket63 = { st := state63 } := by decide +kernel

theorem frames_two (cfg : SrcCfg) (a b : Bytes) (s : St) (o : List FrameOut)
    (h : pesFeed cfg St.init a = { st := s, frames := o }) : frames cfg (a ++ b) = o ++ (pesFeed cfg s b).frames := by
  have := Zvbi.Props.C07.feeds_equal_frames_of_stream cfg [a, b]
  simp only [List.flatten_cons, List.flatten_nil, List.append_nil] at this
  rw [← this]
  simp only [pesFeeds, h]
  split <;> simp

/-- **two intact frames lost after a legal 63-line packet** (source without fix dvb-demux-full-frame): of
the four ordinary frames 3, 4 and 5 are to be delivered (6 stays open); after `fullPacket63` only frame 5
is: frame 3 is merged with the 63 lines (no boundary recognisable), the 64-line frame is discarded when
frame 4 begins, and frame 4's packet is skipped. -/
theorem full_frame_lost_counterexample :
    ((frames SrcCfg.earlyOverflow (fullPacket63 ++ fourFrames)).map fun f => (f.pts, f.lines.length)) = [(5, 1)]
    ∧ ((frames SrcCfg.earlyOverflow fourFrames).map fun f => (f.pts, f.lines.length)) = [(3, 1), (4, 1), (5, 1)] := by
  rw [frames_two _ _ _ _ _ feed63_early]
  decide +kernel

/-- the context `fullPacket63` leaves: at a packet boundary, 63 lines pending (the same in both shapes) -/
def after63 : St := (pesFeed SrcCfg.earlyOverflow St.init fullPacket63).st

theorem after63_eq : after63 = state63 := by
  unfold after63
  rw [feed63_early]

example : after63 = (pesFeed SrcCfg.repaired St.init fullPacket63).st := by rw [after63_eq, feed63_repaired]

theorem fourFrames_early : (arun SrcCfg.earlyOverflow state63.core fourFrames).frames.length = 1
    ∧ (frames SrcCfg.earlyOverflow fourFrames).length = 3 := by decide +kernel

/-- **`C07.resync_full` is false as written** (source without the fix): from the reachable context
`after63` (packet boundary) the intact stream `fourFrames` loses two frames, not at most one. -/
theorem resync_full_counterexample : ¬ Zvbi.Props.C07.resync_full SrcCfg.earlyOverflow := by
  intro h
  have h0 : after63.core.skip = 0 ∧ after63.core.lookahead = 48 := by rw [after63_eq]; decide
  obtain ⟨x, y, rest, h1, h2, _, hy⟩ := h after63.core fourFrames h0.1 h0.2
  obtain ⟨l1, l2⟩ := fourFrames_early
  rw [← after63_eq, h1, List.length_append] at l1
  rw [h2, List.length_append] at l2
  omega

/-- **full_frame_delivered** (fix dvb-demux-full-frame).  A demultiplexer at a packet boundary holding a
frame under assembly with whatever lines - in particular one that fills `dx->sliced[64]` exactly - and
any line counters and PTS: the next packet the standards reader accepts whose first line does not lie
beyond the frame's last line closes that frame: it is delivered complete, all its lines with its PTS, as
the first thing that happens, and the new frame holds the packet's lines with the packet's PTS.  (Before
the fix this needed fewer than 64 lines in the buffer: `full_frame_lost_counterexample`.) -/
theorem full_frame_delivered (hlo : cfg.lateOverflow = true) (fs : FS) (hnf : fs.newFrame = false)
    (pk rest : Bytes) (p : Pes) (hp : Zvbi.Mux.EnParse.parsePes pk = some p) (hb : ∀ b ∈ pk, b < 256)
    (hok : FrameLinesOK cfg p.lines) (hle : firstLine p.lines ≤ fs.frame.lastFrameLine) :
    ∃ fs', arun cfg { skip := 0, lookahead := 48, fs := fs } (pk ++ rest)
        = (arun cfg { skip := 0, lookahead := 48, fs := fs' } rest).pre [⟨fs.framePts, fs.frame.lines⟩]
      ∧ Holds fs' p.pts p.lines := by
  obtain ⟨hne, hasc, hlt⟩ := hok
  have hcap64 := frameCap_le cfg
  obtain ⟨us, hul, hdrop, -⟩ := pes_shape pk p hp hb
  have hstep := (arun_packet (cfg := cfg) fs pk rest p hp hb).1
  rw [hdrop] at hstep
  obtain ⟨l, ls, hls⟩ := List.exists_cons_of_ne_nil hne
  rw [hls] at hul hasc hlt
  have hfl : firstLine p.lines = l.line := by simp [firstLine, hls]
  obtain ⟨fs', hpf, hh', _⟩ := pesPacketFrame_next (cfg := cfg) cfg.corSkipsEmpty
    { fs with packetPts := p.pts, frame := { fs.frame with nDu := 0 } } us l ls hnf rfl (Or.inl hlo) hul hasc (by omega)
    (by show l.line ≤ fs.frame.lastFrameLine; rw [← hfl]; exact hle)
  exact ⟨fs', hstep fs' _ hpf, by rw [hls]; exact hh'⟩

/-- non-vacuity, and the replay `corpus/C07/full-frame-64.ops` on the repaired model: the 64-line frame
(PTS 2: the 63 undefined-line units and the line of frame 3, which cannot be told apart from them) is
delivered complete when frame 4 begins, then frames 4 and 5 as sent (6 stays open) -/
example : ((frames SrcCfg.repaired (fullPacket63 ++ fourFrames)).map fun f => (f.pts, f.lines.length))
    = [(2, 64), (4, 1), (5, 1)] := by rw [frames_two _ _ _ _ _ feed63_repaired]; decide +kernel
example : SrcCfg.repaired.lateOverflow = true ∧ (arun SrcCfg.repaired after63.core (linePacket 3 7 0x55)).core.fs.frame.lines.length = 64
    ∧ (arun SrcCfg.repaired after63.core (linePacket 3 7 0x55)).core.fs.newFrame = false := by rw [after63_eq]; decide +kernel

/-- **resync on an intact stream, from a context at a packet boundary** - what `C07.resync_full` can
say in every shape of the source: a demultiplexer at a packet boundary (`skip` 0, header lookahead) in
whatever frame state - at a frame start or holding a stale frame with arbitrary lines, line counters and
PTS - reading an intact stream of separable frames (as the standards reader accepts it; C06's multiplexer
produces such streams): the frames delivered are those of a new demultiplexer on the same stream except
that at most ONE stale/merged frame comes first (`x`) and at most the FIRST frame is lost (`y`).  Either
the first packet closes the stale frame (nothing lost), or its lines cannot be told apart from the stale
ones and are delivered merged with them when the second packet begins, or (repaired source) they do not
fit and the overflow error discards both.  `ResyncRoom`: the stale lines and the first packet's lines
make a frame that can be held and closed (`frameCap`) - or the source has the full-frame fix and the
discard of 7c6e61c, then only the array bound is needed (`resync_intact`). -/
theorem resync_on_intact_stream (cfg : SrcCfg) (fs : FS) (bs : Bytes) (ps : List Pes) (h : pesStream bs = some ps)
    (hb : ∀ b ∈ bs, b < 256) (hsep : Sep cfg (ps.map (·.lines)))
    (hcap : ∀ p ∈ ps.head?, ResyncRoom cfg fs p.lines.length) :
    ∃ x y rest, (arun cfg { skip := 0, lookahead := 48, fs := fs } bs).frames = x ++ rest
      ∧ frames cfg bs = y ++ rest ∧ x.length ≤ 1 ∧ y.length ≤ 1
      ∧ (arun cfg { skip := 0, lookahead := 48, fs := fs } bs).stop = none := by
  have hfr := frames_pesStream (cfg := cfg) bs ps h hb hsep
  by_cases hnf : fs.newFrame = true
  · obtain ⟨h1, h2, h3⟩ := resync_from_frame_start cfg fs hnf bs ps h hb hsep
    exact ⟨[], [], ps.dropLast.map outOf, by simpa using h1, by simpa using hfr, by simp, by simp, h3⟩
  · have hnf' : fs.newFrame = false := by simpa using hnf
    obtain ⟨pks, h1, h2, h3⟩ := pesStreamF_inv _ bs ps h
    subst h2; subst h3
    cases pks with
    | nil => exact ⟨[], [], [], by simp [arun], by simp [frames, arun], by simp, by simp, by simp [arun]⟩
    | cons x pks =>
      obtain ⟨X, Y, rest, r1, r2, r3, r4, r5⟩ := arun_resync (cfg := cfg) fs hnf' x pks h1
        (List.forall_mem_map.1 (List.forall_mem_flatten.1 hb))
        (by simpa [List.map_map, Function.comp_def] using hsep)
        (hcap x.2 (by simp))
      exact ⟨X, Y, rest, r1, by rw [hfr]; exact r2, r3, r4, r5⟩

/-- **resync, restated** (`C07.resync_full` quantifies over arbitrary continuations and is false in every
shape, see `resync_full_as_written_counterexample`): once the start code scan has reached a packet
boundary of an intact stream - whatever the damage before it left in the frame buffer (any lines up to
the 64 the array holds, any line counters, any PTS, frame start or not) - all frames of the stream are
delivered as sent except that at most the first one is lost, preceded by at most one stale/merged frame. -/
def resync_intact_full (cfg : SrcCfg) : Prop :=
  ∀ (fs : FS) (bs : Bytes) (ps : List Pes), fs.frame.lines.length ≤ 64 → pesStream bs = some ps →
    (∀ b ∈ bs, b < 256) → Sep cfg (ps.map (·.lines)) →
    ∃ x y rest, (arun cfg { skip := 0, lookahead := 48, fs := fs } bs).frames = x ++ rest
      ∧ frames cfg bs = y ++ rest ∧ x.length ≤ 1 ∧ y.length ≤ 1
      ∧ (arun cfg { skip := 0, lookahead := 48, fs := fs } bs).stop = none

/-- **resync_intact**: the restated recovery clause holds for the source with fix dvb-demux-full-frame and
the discard of 7c6e61c - without a hypothesis on room in the frame buffer. -/
theorem resync_intact (hlo : cfg.lateOverflow = true) (hpd : cfg.pesDiscards = true) : resync_intact_full cfg :=
  fun fs bs ps h64 h hb hsep =>
    resync_on_intact_stream cfg fs bs ps h hb hsep (fun _ _ => Or.inr ⟨hlo, hpd, h64⟩)

/-- the four packets of `fourFrames` as the standards reader sees them -/
def fourPes : List Pes := (pesStream fourFrames).getD []

/-- `resync_intact_full` fails without the full-frame fix: the reachable context `after63` (63 lines) loses two
frames of `fourFrames` -/
theorem resync_intact_counterexample : ¬ resync_intact_full SrcCfg.earlyOverflow := by
  intro h
  have hps : pesStream fourFrames = some fourPes := by decide +kernel
  have hb : ∀ b ∈ fourFrames, b < 256 := by
    have : fourFrames.all (fun b => decide (b < 256)) = true := by decide +kernel
    intro b hbm; simpa using List.all_eq_true.mp this b hbm
  have h63 : after63.fs.frame.lines.length ≤ 64 := by
    rw [after63_eq]; decide
  have h' := h after63.fs fourFrames fourPes
  have h'' := h' h63 hps
  have h3 := h'' hb
  obtain ⟨x, y, rest, h1, h2, _, hy, _⟩ := h3 (by decide +kernel)
  obtain ⟨l1, l2⟩ := fourFrames_early
  rw [after63_eq] at h1
  rw [show state63.core = { skip := 0, lookahead := 48, fs := state63.fs } from rfl, h1, List.length_append] at l1
  rw [h2, List.length_append] at l2
  omega

/-- the context after `fullPacket63` and the packet of frame 3: 64 lines held, last defined line 7 -/
def core64 : Core := (arun SrcCfg.repaired after63.core (linePacket 3 7 0x55)).core
/-- an intact stream whose first frame (line 9) neither closes the frame held by `core64` nor fits into it -/
def fourFrames9 : Bytes := linePacket 4 9 0x66 ++ linePacket 5 7 0x77 ++ linePacket 6 7 0x11 ++ linePacket 7 7 0x22

/-- non-vacuity of `resync_intact` (third case: no boundary, no room): from `core64` the overflow error
discards the 64 stale lines and frame 4; frames 5 and 6 are delivered as sent, frame 4 is the one lost -/
example : core64.skip = 0 ∧ core64.lookahead = 48 ∧ core64.fs.frame.lines.length = 64 ∧ core64.fs.newFrame = false
    ∧ ((arun SrcCfg.repaired core64 fourFrames9).frames.map fun f => (f.pts, f.lines.length)) = [(5, 1), (6, 1)]
    ∧ ((frames SrcCfg.repaired fourFrames9).map fun f => (f.pts, f.lines.length)) = [(4, 1), (5, 1), (6, 1)] := by
  decide +kernel

/-- a packet with its PTS_DTS_flags cleared (not a legal VBI PES packet: EN 300 472 requires the PTS) -/
def noPts (p : Bytes) : Bytes := p.set 7 0
/-- three packets without PTS, then three intact ones -/
def noPtsStream : Bytes := noPts (linePacket 3 7 0x55) ++ noPts (linePacket 4 7 0x66) ++ noPts (linePacket 5 7 0x77)
  ++ linePacket 6 7 0x11 ++ linePacket 7 7 0x22 ++ linePacket 8 7 0x33

/-- a context at a packet boundary holding one stale Teletext line on line `n`, frame PTS 99 -/
def staleCore (n : Nat) : Core :=
  { skip := 0, lookahead := 48,
    fs := { frame := { lines := [(⟨3, n, []⟩ : Sliced)], lastFrameLine := n }, framePts := 99, packetPts := 0, newFrame := false } }

/-- non-vacuity (merged case): a context holding one stale line on line 5 with an old PTS; the stream's
first frame (line 7) is appended to it and comes out merged, the others as sent -/
example : ((arun SrcCfg.repaired (staleCore 5) fourFrames).frames.map fun f => (f.pts, f.lines.map (·.line))) = [(99, [5, 7]), (4, [7]), (5, [7])] := by
  decide +kernel
/-- non-vacuity (closing case): a stale line on line 9 is delivered first, then all frames as sent -/
example : ((arun SrcCfg.repaired (staleCore 9) fourFrames).frames.map fun f => (f.pts, f.lines.map (·.line))) = [(99, [9]), (3, [7]), (4, [7]), (5, [7])] := by
  decide +kernel

/-- **`C07.resync_full` as written is false in every shape of the source**, the repaired one included: it
quantifies over arbitrary continuations `L`, and packets without a PTS are accepted while a frame is
under assembly but skipped at a frame start (`valid_vbi_pes_packet_header`), so a context holding a stale
line delivers one frame per such packet (four extra frames here) where a new demultiplexer delivers none.
Not a defect - such packets are not intact VBI PES packets; it is why the recovery clause is restated
over intact streams (`resync_intact_full`). -/
theorem resync_full_as_written_counterexample : ¬ Zvbi.Props.C07.resync_full SrcCfg.repaired := by
  intro h
  obtain ⟨x, y, rest, h1, h2, hx, _⟩ := h (staleCore 9) noPtsStream rfl rfl
  have l1 : (arun SrcCfg.repaired (staleCore 9) noPtsStream).frames.length = 6 := by decide +kernel
  have l2 : (frames SrcCfg.repaired noPtsStream).length = 2 := by decide +kernel
  rw [h1, List.length_append] at l1
  rw [h2, List.length_append] at l2
  omega

end Zvbi.Props.C07Cor

namespace Zvbi.Demux

/-- `C07Cor.cor_equals_feed_composed` for the single buffer `[buf]` -/
theorem cor_equals_feed_composed_partial (cfg : SrcCfg) (hse : cfg.corSkipsEmpty = true) (hpd : cfg.pesDiscards = true)
    (chunks : List Bytes) (buf : Bytes) :
    pesCorDrains cfg (pesFeeds cfg St.init chunks).st [buf]
      = (pesFeeds cfg (pesFeeds cfg St.init chunks).st [buf]).frames.filter (fun f => !f.lines.isEmpty) :=
  Zvbi.Props.C07Cor.cor_equals_feed_composed hse hpd chunks [buf]

end Zvbi.Demux
