import ZvbiModel.Ttx.FaultRun
/-!
# C01 obligations of the Teletext packet decoder: no array index leaves its array, no `assert` fails

The model `Ttx.Model` marks every indexed write / read whose index is outside the array extent
(extents regenerated from the C headers into `Generated/TtxLayout.lean` on every run) and every
failing `assert` as `Aux.fault site`.  This file shows that no such mark is reachable, for every
packet history.  Reverting one of the repairs (F18 btt_link, F22 convert_drcs, F23 pop pointer) or
shrinking an array in the headers changes a generated constant and breaks these proofs.
-/
namespace Zvbi.Props.C01Ttx
open Zvbi.Ttx Zvbi.Ttx.Spec Zvbi.Hamm Zvbi.Gen

/-- `parse_mot`: every index into `pop_lut[256]` / `drcs_lut[256]` is in range, for every packet
    number (the index sequence does not depend on the data) -/
theorem mot_indices_in_range (packet : Nat) : ∀ it, it ∈ motItems packet → it.2 < ttxLutSize :=
  Zvbi.Ttx.mot_indices_in_range packet

/-- `parse_mot` as a whole (look-up tables, `pop_link[2][8]`, `drcs_link[2][8]`): no index fault -/
theorem mot_no_fault (m : Magazine) (v : View) (packet : Nat) : NoFault (parseMot m v packet).2 :=
  parseMot_nofault m v packet

/-- BTT packets 21..23 index `btt_link[(packet - 21) * 5 + i]` inside the array -/
theorem btt_link_index_in_range (packet i : Nat) (hp : packet ≤ 23) (hi : i < 5) :
    (packet - 21) * 5 + i < BTT_LINKS := Zvbi.Ttx.btt_link_index_in_range packet i hp hi

/-- POP packets 1..4: `pointer[(packet - 1) * stride + 2 i + 1]`, i = 1..12, inside `pointer[]` -/
theorem pop_pointer_index_in_range (packet i : Nat) (hp : 1 ≤ packet ∧ packet ≤ 4) (hi : 1 ≤ i ∧ i ≤ 12) :
    (packet - 1) * (if ttxFixF23 then 24 else 26) + 2 * i + 1 < POP_POINTER_SIZE :=
  Zvbi.Ttx.pop_pointer_index_in_range packet i hp hi

/-- POP packets 3..25 and 26/0..15: `triplet[(packet - 3) * 13 + i]` inside `triplet[39 * 13 + 1]` -/
theorem pop_triplet_index_in_range (packet i : Nat) (hp : packet ≤ 41) (hi : i < 13) :
    (packet - 3) * 13 + i < POP_TRIPLET_SIZE := Zvbi.Ttx.pop_triplet_index_in_range packet i hp hi

/-- an accepted X/26 packet (fill level `13 d < 16 * 13`) stores its 13 triplets inside `enh[209]` -/
theorem x26_enh_index_in_range (v : View) (enh : List Triplet) (nt : Nat) (h : nt < 16 * 13) (d : Nat)
    (hd : nt = d * 13) : NoFault (x26Triplets v enh nt).2.2 :=
  Zvbi.Ttx.x26_enh_index_in_range v enh nt h d hd

/-- `convert_drcs`: for EVERY sequence of 48 PTU modes the write pointer stays inside
    `drcs.chars[48][60]` and the read pointer inside `raw[1..25]` - given repair F22 (checked from
    the generated flag) and the "last PTU" repair -/
theorem drcs_offsets_in_range (hfix : ttxFixDrcsLastPtu = true) (modes : List Nat) :
    convertDrcsBounds modes = [] := Zvbi.Ttx.drcs_offsets_in_range hfix modes

/-- ... which is needed: without it a 12x10x4 character in the last PTU reads 20 bytes behind
    `raw[]` (witness; replayed on the C code by fixes/drcs-last-ptu-overread.ttx.ops) -/
theorem drcs_offsets_counterexample (hf : ttxFixDrcsLastPtu = false) :
    convertDrcsBounds (List.replicate 47 0 ++ [2]) = [Aux.fault "drcs:chars"] := by
  have h22 : ttxFixF22 = true := by decide
  unfold convertDrcsBounds
  rw [h22, hf]
  have : drcsWalk true false (List.replicate 47 0 ++ [2]) DRCS_PTUS 0 0 0 = true := by decide +kernel
  rw [this]; rfl

/-- page numbers handed to `cache_network_page_stat`: (a) every page number the decoder gives a
    slot is `mag8 * 256 + page`, 0x100..0x8FF -/
theorem page_stat_pgno_in_range (mag0 page : Nat) (hm : mag0 < 8) (hp : page < 256) :
    PgnoOk ((if mag0 == 0 then 8 else mag0) * 256 + page) := Zvbi.Ttx.page_stat_pgno_in_range mag0 page hm hp

/-- (b) MPT rows: the page number sequence of every packet -/
theorem page_stat_pgno_in_range_mpt (packet : Nat) : ∀ it, it ∈ mptItems packet → PgnoOk it.2 :=
  mpt_pgnos_in_range packet

/-- (c) BTT rows 1..20: wherever uncorrectable bytes made the loop `break`, every group of ten
    starts at an index with room for ten page numbers below 0x900 -/
theorem page_stat_pgno_in_range_btt : ∀ packet < 21, ∀ g < 4,
    ∀ i ∈ bttReach (dec2bcdp.getD (packet - 1) 0) g, i + 9 < 0x800 := btt_reach_in_range

/-- (d) MIP: magazine base + entry offset (this is where the guard `if (packet == 14) break;`
    matters: without it `mipOffsets` would contain 0x10A.. and the bound fails) -/
theorem page_stat_pgno_in_range_mip : (∀ it ∈ mipOffsets, it.2.2 ≤ 0xFF) ∧
    (∀ pgno < 0x900, 0x100 ≤ pgno → 0x100 ≤ pgno &&& 0xF00 ∧ (pgno &&& 0xF00) + 0xFF ≤ 0x8FF) :=
  ⟨mip_offsets_in_range, mip_base_in_range⟩

/-- (e) TOP links (BTT 21..23, MPT-EX, AIT) are range checked by `unham_top_page_link` -/
theorem page_stat_pgno_in_range_top (v : View) (i : Nat) (l : Link) (h : unhamTopPageLink v i = some l) :
    PgnoOk l.pgno.toNat := unhamTopPageLink_range v i l h

/-- `get_bits` in `parse_28_29` never asks for more than the 13 triplets of the packet, on every
    path (designation 0, 1, 3, 4; X/28 and M/29) -/
theorem x28_bits_within_13_triplets (s : St) (mag0 mag8 packet : Nat) (v : View) (hu : v.u24.length = 13) :
    NoFault (parse2829 s mag0 mag8 packet v).2.1 := Zvbi.Ttx.x28_bits_within_13_triplets s mag0 mag8 packet v hu

/-- For EVERY packet history (any bytes, any interleaving, with or without a Teletext handler)
    from the initial state, the only fault mark `run` can emit is the DRCS one, and only as long
    as the "last PTU" repair is missing from packet.c.  (Invariant over reachable states:
    `AsmOk` - every live slot carries the page number of an accepted header, hence 0x100..0x8FF.) -/
theorem only_drcs_fault_reachable (on : Bool) (ps : List Packet) (site : String)
    (h : Event.aux (Aux.fault site) ∈ (run (init.enable on) ps).2) :
    site = "drcs:chars" ∧ ttxFixDrcsLastPtu = false :=
  run_only (init.enable on) [] ps (init_ok on) site h

/-- with the "last PTU" repair in place (then `hfix` is `rfl`), no packet
    history makes the decoder index outside an array or fail an assertion. -/
theorem no_fault_reachable (hfix : ttxFixDrcsLastPtu = true) (on : Bool) (ps : List Packet) (site : String) :
    Event.aux (Aux.fault site) ∉ (run (init.enable on) ps).2 := by
  intro h
  have := (only_drcs_fault_reachable on ps site h).2
  rw [hfix] at this
  cases this

/-- the statement without the hypothesis on the flag: true exactly when the "last PTU" repair is in packet.c (see
    `drcs_offsets_counterexample`); for the current tree it is `Props/C01.teletext_no_fault_reachable` -/
def no_fault_reachable_full : Prop :=
  ∀ (on : Bool) (ps : List Packet) (site : String), Event.aux (Aux.fault site) ∉ (run (init.enable on) ps).2

/-- non-vacuity: a header packet (page 123.2359) runs through the decoder without a mark -/
example : ((run (init.enable true) [[2, 21, 94, 73, 199, 115, 94, 73, 21, 21] ++ List.replicate 32 32]).2.all
    fun e => match e with | Event.aux (Aux.fault _) => false | _ => true) = true ∧
    (run (init.enable true) [[2, 21, 94, 73, 199, 115, 94, 73, 21, 21] ++ List.replicate 32 32]).2 ≠ [] := by
  decide +kernel

end Zvbi.Props.C01Ttx
