import ZvbiModel.Cc.Edits
import ZvbiModel.Cc.PreMode
import ZvbiModel.Cc.Bytes
/-!
# C08, continued - corrections inside a row in paint-on, roll-up and text mode; the two fields; characters before the first mode command

Property theorems only; lemmas are in `Cc/Edits.lean`, `Cc/Decoder.lean` and `Cc/PreMode.lean`.  Model `Cc/Model.lean`
(src/caption.c), reference `Cc/Spec.lean` (`Eia608`).  `hcell` / `dcell` = cell (row, column) of libzvbi's
working (non-displayed) and displayed memory.
-/
namespace Zvbi.Props.C08Paint
open Zvbi.Cc Zvbi.Gen.Cc

/-- **edm_clears_displayed, every mode.**  Erase Displayed Memory runs `eraseDisplayed` on channel `edmChan chan` (the
addressed channel, resp. - with the repair of finding F73, `edmEnmOnCaption` - always the caption channel of the data channel):
the displayed memory becomes blank and one caption event is raised; in pop-on mode the non-displayed memory is
untouched; in EVERY OTHER mode (paint-on, roll-up, text, none) libzvbi's working copy is blank as well, so the
next `update()` has nothing to bring back. -/
theorem edm_clears_displayed (s : St) (c1 c2 : Nat) (f2 : Bool) (h1 : c1 &&& 7 = 4 ∨ c1 &&& 7 = 5) (h2 : c2 < 0x40)
    (h3 : c2 &&& 15 = 12) :
    captionCommand s c1 c2 f2 = s.modCh (edmChan (cmdChan s c1 f2)) eraseDisplayed ∧
    ∀ ch, ChInv ch →
      (eraseDisplayed ch).displayed = List.replicate (rows * columns) ch.ts ∧
      (eraseDisplayed ch).nev = ch.nev + 1 ∧
      (ch.mode = .popOn → (eraseDisplayed ch).nonDisplayed = ch.nonDisplayed) ∧
      (ch.mode ≠ .popOn → (eraseDisplayed ch).nonDisplayed = List.replicate (rows * columns) ch.ts ∧
        (update (eraseDisplayed ch)).displayed = List.replicate (rows * columns) ch.ts) := by
  refine ⟨captionCommand_eq s f2 (cmd := .edm) ⟨h2, h1, h3⟩, fun ch h => ?_⟩
  obtain ⟨e1, e2, _, e4, e5⟩ := eraseDisplayed_spec h
  refine ⟨e1, e2, e4, fun hm => ⟨e5 hm, ?_⟩⟩
  -- update copies a blank row over a blank row
  have hi := (eraseDisplayed_step h).1
  have uc := update_cells hi
  have ud := (update_upd hi).hidden
  apply List.ext_getElem?
  intro n
  by_cases hn : n < 510
  · obtain ⟨r, j, hr, hj, rfl⟩ : ∃ r j, r < 15 ∧ j < 34 ∧ n = r * 34 + j :=
      ⟨n / 34, n % 34, by omega, Nat.mod_lt _ (by decide), by omega⟩
    have hrep : (List.replicate (rows * columns) ch.ts)[r * 34 + j]? = some ch.ts := by
      rw [rows_eq, columns_eq, List.getElem?_replicate, if_pos (by omega)]
    obtain ⟨hc2, hc1⟩ := eraseDisplayed_cells h hm r j hr hj
    rw [displayed_get _ hr hj, uc.2 r j hj, hc1, hc2, hrep]
    split <;> rfl
  · have l1 : (update (eraseDisplayed ch)).displayed.length = 510 := by
      unfold Channel.displayed
      rw [List.length_take, pg_len ((update_upd hi).inv hi)]; rfl
    rw [List.getElem?_eq_none (by omega), List.getElem?_eq_none (by rw [List.length_replicate, rows_eq, columns_eq]; omega)]

/-- **the hidden working copy rule, over arbitrary continuations.**  Take any decoder state with the invariant,
an EDM pair acting on a channel (`edmChan (cmdChan ..)`) whose mode is not pop-on, and replace that channel's 15 x 34 caption cells - in
BOTH memories - by anything at all (`SameButCells`).  After the EDM the two decoder states are equal, hence every
continuation `ops` (byte pairs of both fields, fetches, channel switches) produces the same decoder state, the
same fetched pages and the same events: nothing written before an EDM can ever come back. -/
theorem edm_hidden_copy_rule (s : St) (hs : Inv s) (c1 c2 : Nat) (f2 : Bool) (h1 : c1 &&& 7 = 4 ∨ c1 &&& 7 = 5)
    (h2 : c2 < 0x40) (h3 : c2 &&& 15 = 12) (a b : Channel) (ha : s.chans[edmChan (cmdChan s c1 f2)]? = some a)
    (hb : ChInv b) (hab : SameButCells a b) (hm : a.mode ≠ .popOn) (ops : List Op) :
    ops.foldl step (captionCommand { s with chans := s.chans.set (edmChan (cmdChan s c1 f2)) b } c1 c2 f2) =
    ops.foldl step (captionCommand s c1 c2 f2) := by
  rw [captionCommand_eq s f2 (cmd := .edm) ⟨h2, h1, h3⟩, captionCommand_eq _ f2 (cmd := .edm) ⟨h2, h1, h3⟩]
  show ops.foldl step (({ s with chans := s.chans.set (edmChan (cmdChan s c1 f2)) b } : St).modCh (edmChan (cmdChan s c1 f2)) eraseDisplayed) =
    ops.foldl step (s.modCh (edmChan (cmdChan s c1 f2)) eraseDisplayed)
  rw [modCh_edm_forgets ha (hs.chs a (List.mem_of_getElem? ha)) hb hab hm]

set_option maxRecDepth 100000 in
/-- the hypotheses are met: T1 of the fresh decoder (text mode) and the same channel with one more cell written -/
example : ∃ a b : Channel, init.chans[4]? = some a ∧ ChInv b ∧ SameButCells a b ∧ a.mode ≠ .popOn :=
  ⟨init.chans[4]'(by rw [init_inv.len]; decide), wr (init.chans[4]'(by rw [init_inv.len]; decide)) 3 { unicode := 0x41 } "x",
   List.getElem?_eq_getElem _,
   (wr_upd (init_inv.chs _ (List.getElem_mem _)) (by decide) _ _).inv (init_inv.chs _ (List.getElem_mem _)),
   sameButCells_wr (init_inv.chs _ (List.getElem_mem _)) (by decide) _ _, by decide⟩

/-- **word_break_copies_only_current_row.**  `word_break(cc, ch, 1)` outside pop-on mode: in the working memory only
transparent spaces of the current row change, into space glyphs (the solid spaces); the displayed memory receives
exactly row `ch.row` of the working memory - every other row of the display is untouched; one caption event.
In pop-on mode nothing reaches the display. -/
theorem word_break_copies_only_current_row (ch : Channel) (h : ChInv ch) :
    SolidOnly ch (wordBreak ch false) ∧
    (ch.mode ≠ .popOn →
      (∀ r j, (wordBreak ch true).hcell r j = (wordBreak ch false).hcell r j) ∧
      (∀ r j, j < 34 → (wordBreak ch true).dcell r j =
        if r = ch.row then (wordBreak ch true).hcell r j else ch.dcell r j) ∧
      (wordBreak ch true).nev = ch.nev + 1) ∧
    (ch.mode = .popOn → wordBreak ch true = wordBreak ch false) := by
  refine ⟨wordBreak_false_solid h, fun hm => ?_, wordBreak_true_pop h⟩
  obtain ⟨n, hc, dc⟩ := wordBreak_true_dir h hm
  exact ⟨hc, fun r j hj => by rw [dc r j hj, hc], n⟩

example : ChInv (init.chans[4]'(by rw [init_inv.len]; decide)) := init_inv.chs _ (List.getElem_mem _)

/-- **bs_cells.**  Backspace (0x14/0x15/0x1C/0x1D 0x21) runs `backspace`; with a mode and the cursor right of
column 1 the cell left of the cursor becomes a transparent space and the cursor moves onto it (`col1` follows),
every other cell of both memories, the event count, mode and pen are unchanged (the erasure shows with the next
word break). -/
theorem bs_cells (s : St) (c1 c2 : Nat) (f2 : Bool) (h1 : c1 &&& 7 = 4 ∨ c1 &&& 7 = 5) (h2 : c2 < 0x40) (h3 : c2 &&& 15 = 1) :
    captionCommand s c1 c2 f2 = s.modCh (cmdChan s c1 f2) (fun ch => backspace ch (cmdChan s c1 f2)) ∧
    ∀ ch chan, ChInv ch → ch.mode ≠ .none → 1 < ch.col →
      (backspace ch chan).col = ch.col - 1 ∧ (backspace ch chan).col1 = min ch.col1 (ch.col - 1) ∧
      (backspace ch chan).nev = ch.nev ∧
      (∀ r j, j < 34 → (backspace ch chan).hcell r j =
        if r = ch.row ∧ j = ch.col - 1 then some (transpSpace (decide (4 ≤ chan))) else ch.hcell r j) ∧
      (∀ r j, (backspace ch chan).dcell r j = ch.dcell r j) := by
  refine ⟨captionCommand_eq s f2 (cmd := .bs) ⟨h2, h1, h3⟩, fun ch chan h hm hc => ?_⟩
  obtain ⟨b1, b2, _, b8⟩ := backspace_cells h chan hm hc
  exact ⟨b1, b2, (backspace_edit h chan).nev, b8, (backspace_edit h chan).dcell⟩

/-- **der_cells.**  Delete to End of Row (.. 0x24) runs `deleteToEnd`; with a mode: every cell of the current row
from the cursor on shows no glyph afterwards, every other cell of the working memory is unchanged up to solid
spaces of the current row; outside pop-on mode the display receives the current row (only) and an event is raised. -/
theorem der_cells (s : St) (c1 c2 : Nat) (f2 : Bool) (h1 : c1 &&& 7 = 4 ∨ c1 &&& 7 = 5) (h2 : c2 < 0x40) (h3 : c2 &&& 15 = 4) :
    captionCommand s c1 c2 f2 = s.modCh (cmdChan s c1 f2) (fun ch => deleteToEnd ch (cmdChan s c1 f2)) ∧
    ∀ ch chan, ChInv ch → ch.mode ≠ .none →
      let x := fill ch ch.col (34 - ch.col) (transpSpace (decide (4 ≤ chan))) "der"
      (∀ r j, j < 34 → x.hcell r j =
        if r = ch.row ∧ ch.col ≤ j then some (transpSpace (decide (4 ≤ chan))) else ch.hcell r j) ∧
      SolidOnly x (wordBreak x false) ∧
      (∀ r j, (deleteToEnd ch chan).hcell r j = (wordBreak x false).hcell r j) ∧
      (ch.mode ≠ .popOn → (∀ r j, j < 34 → (deleteToEnd ch chan).dcell r j =
          if r = ch.row then (deleteToEnd ch chan).hcell r j else ch.dcell r j) ∧
        (deleteToEnd ch chan).nev = ch.nev + 1) := by
  refine ⟨captionCommand_eq s f2 (cmd := .der) ⟨h2, h1, h3⟩, fun ch chan h hm => ?_⟩
  intro x
  have hc := h.col_le
  have ex := rowEdit_fill h (a := ch.col) (n := 34 - ch.col) (by omega) (transpSpace (decide (4 ≤ chan))) "der"
  have hx := ex.inv h
  have s := wordBreak_false_solid hx
  obtain ⟨_, np, hp, dp⟩ := publish_spec (s.upd.inv hx) (!(wordBreak x false).hidden) (wordBreak x false).row
  have e : deleteToEnd ch chan = if ((wordBreak x false).mode != Mode.popOn) = true then
      renderCh (update (wordBreak x false)) (!(wordBreak x false).hidden) (wordBreak x false).row else wordBreak x false := by
    unfold deleteToEnd
    rw [if_neg (by simpa using hm)]
    simp only [columns_eq]
    rfl
  refine ⟨fun r j hj => ?_, s, fun r j => ?_, fun hpm => ?_⟩
  · rw [(fill_cells h (a := ch.col) (n := 34 - ch.col) (by omega) _ _).1 r j hj]
    by_cases hh : r = ch.row ∧ ch.col ≤ j
    · rw [if_pos hh, if_pos ⟨hh.1, hh.2, by omega⟩]
    · rw [if_neg hh, if_neg (fun h' => hh ⟨h'.1, h'.2.1⟩)]
  · rw [e]; split
    · exact hp r j
    · rfl
  · rw [e, if_pos (by rw [s.upd.mode, ex.mode]; simpa using hpm)]
    exact ⟨fun r j hj => by rw [dp r j hj, hp, s.upd.row, ex.row, s.disp, ex.dcell], by rw [np, s.nev, ex.nev]⟩

/-- **tab_cells.**  Tab Offset (0x17/0x1F 0x21..0x23) runs `tabFill` with n = 1, 2, 3: the `k = min n (33 - col)`
cells from the cursor on become transparent spaces (libzvbi's tab is destructive, 15.119's is not - checks/C08.py
sends it over empty cells only), cursor and `col1` move behind them, nothing else changes. -/
theorem tab_cells (s : St) (c1 c2 : Nat) (f2 : Bool) (h1 : c1 &&& 7 = 7) (h2 : 0x21 ≤ c2 ∧ c2 ≤ 0x23) :
    captionCommand s c1 c2 f2 = s.modCh (cmdChan s c1 f2) (fun ch => case7 ch (cmdChan s c1 f2) c2) ∧
    ∀ ch chan, ChInv ch → ch.mode ≠ .none →
      case7 ch chan c2 = tabFill ch (c2 &&& 3) (transpSpace (decide (4 ≤ chan))) ∧
      (case7 ch chan c2).col = ch.col + min (c2 &&& 3) (33 - ch.col) ∧
      (∀ r j, j < 34 → (case7 ch chan c2).hcell r j =
        if r = ch.row ∧ ch.col ≤ j ∧ j < ch.col + min (c2 &&& 3) (33 - ch.col) then some (transpSpace (decide (4 ≤ chan)))
        else ch.hcell r j) ∧
      (∀ r j, (case7 ch chan c2).dcell r j = ch.dcell r j) ∧ (case7 ch chan c2).nev = ch.nev := by
  refine ⟨captionCommand_eq s f2 (cmd := .tabAttr) ⟨by omega, h1⟩, fun ch chan h hm => ?_⟩
  rw [case7_tab ch chan c2 hm h2]
  obtain ⟨k1, t1, _⟩ := tabFill_row h (c2 &&& 3) (transpSpace (decide (4 ≤ chan)))
  have e := tabFill_edit h (c2 &&& 3) (transpSpace (decide (4 ≤ chan)))
  exact ⟨rfl, t1, k1, e.dcell, e.nev⟩

/-! ## refinement of correction scripts -/

/-- **refines_Eia608_edits_partial** (widens `refines_Eia608_partial` / `refines_Eia608_scripts_painton` to
corrections inside a row, for paint-on, roll-up AND text mode).  Let a channel in a mode that writes through the
working copy (not pop-on, not none) be in relation `EditSim` with a reference service: same cursor, matching pen,
every reference cell shown exactly (glyph, colour, underline, italic, flash, opacity), every empty reference cell
showing no glyph, rows other than the cursor row already on display.  For EVERY script of characters 0x20..0x7F,
Backspace, Delete to End of Row, Erase Displayed Memory and Tab Offsets over empty cells (well-formedness `opsOk`
is judged on the reference state): the relation holds after every prefix, and after every prefix ending with a
space, DER or EDM - the visibility points - the DISPLAYED memory shows the reference display memory (`Visible`).
Partial: solid spaces are not pinned down (15.119 (d)(1) leaves them to the decoder; checks/C08.py compares these
scripts the same way), PAC / mid-row / special characters inside such a script are not covered here. -/
theorem refines_Eia608_edits_partial (chan : Nat) (ops : List EOp) (ch : Channel) (v : Eia608.Service)
    (S : EditSim ch v) (hok : opsOk v ops) :
    EditSim (runOps chan ch ops) (specOps v ops) ∧
    ∀ k, (hk0 : 0 < k) → (hk : k ≤ ops.length) → (ops[k - 1]'(by omega)).shows = true →
      Visible (runOps chan ch (ops.take k)) (specOps v (ops.take k)) :=
  edits_refine chan ops S hok

set_option maxRecDepth 100000 in
/-- a start state: T1 of the fresh decoder after EDM, against the fresh reference text service -/
example : EditSim (eraseDisplayed (init.chans[4]'(by rw [init_inv.len]; decide))) (Eia608.Service.init true) :=
  start_sim

/-- a well-formed script: `A B <space> BS BS DER EDM C <space>` -/
example : opsOk (Eia608.Service.init true) [.char 0x41, .char 0x42, .char 0x20, .bs, .bs, .der, .edm, .char 0x43, .char 0x20] := by
  refine ⟨⟨by decide, by decide⟩, ⟨by decide, by decide⟩, ⟨by decide, by decide⟩, trivial, trivial, trivial, trivial,
    ⟨by decide, by decide⟩, ⟨by decide, by decide⟩, trivial⟩

/-! ## the two fields -/

/-- **fields_independent_full** (proved for `currChanPerField = true`: `C08Fields.fields_independent_full`; FALSE with the shared `curr_chan` - `fields_independent_counterexample`, finding
F44): the channels of field `f` after any sequence of byte pairs are those obtained from the pairs of field `f` alone. -/
def fields_independent_full : Prop :=
  ∀ (ps : List (Bool × Nat × Nat)) (f : Bool) (i : Nat), i < 8 → (((i >>> 1) &&& 1 == 1) = f) →
    (runPairs ps).chans[i]? = (runPairs (ps.filter (fun p => p.1 == f))).chans[i]?

/-- **fields_independent_partial** (`channels_independent` across fields, for the tree with one current channel per
field - `currChanPerField`, read from the source by translate/gen_cc.py).  A byte pair of field `f` - any bytes, any
state - leaves everything the decoding of the OTHER field reads: its four channels (memories, cursor, mode, pen,
events), its current-channel selector, and the latch `last[]` (field 2 pairs) resp. the XDS gate (field 1 pairs).
The converse congruence (a pair's effect on its own field depends on nothing else) is `decodePair_agree` (`Cc/Proj.lean`);
both together give `C08Fields.fields_independent_full`. -/
theorem fields_independent_partial (hpf : currChanPerField = true) (s : St) (f : Bool) (b0 b1 : Nat) :
    (∀ i, i < 8 → (((i >>> 1) &&& 1 == 1) = !f) → (decodePair s f b0 b1).chans[i]? = s.chans[i]?) ∧
    (decodePair s f b0 b1).curr (!f) = s.curr (!f) ∧
    (f = true → (decodePair s f b0 b1).last0 = s.last0 ∧ (decodePair s f b0 b1).last1 = s.last1) ∧
    (f = false → (decodePair s f b0 b1).xds = s.xds) := by
  have A := decodePair_apart s f b0 b1
  obtain ⟨hg, g0, _⟩ := pairGroup_field s f b0
  exact ⟨fun i hi hb => A.chans i (other_field_ne _ hg i hi f hb g0.2).1 (other_field_ne _ hg i hi f hb g0.2).2, A.curr hpf, A.last,
    A.xds⟩

example : (decodePair init true 0x1C 0x20).chans[0]? = init.chans[0]? := by
  apply (decodePair_apart _ _ _ _).chans <;> decide

/-- **chars_before_mode_discarded** (the initial state of `fields_independent`: `curr_chan[] = {0, 0}`).  On a decoder that
has been fed ANY history in which field `f` executed no control pair - pairs of the other field without restriction (its
services may be active in any mode), characters / NUL pairs / bad-parity pairs / 0x01..0x0F pairs of field `f`, page
fetches - the selector `curr_chan[f]` is still 0, the channel the character branch looks up,
`(curr_chan[f] & 5) + 2 f` = CC1 resp. CC3, has no mode, and a further pair of field `f` that is not an executed control
pair is DISCARDED: every one of the nine channels keeps its memories, cursor, mode, pen and event count (only `nul_ct` of
CC1 / CC3 may be reset).  In particular field-2 characters before the first field-2 mode command never reach CC1 (seed
C08-e indexes `channel[curr_chan[1]]` = CC1 there; the model indexes as the C expression does, `textIdx`).
Needs the per-field selector (`currChanPerField`, a generated fact).  Channel switches inside the history are not covered
by this theorem (class `premode` of checks/C08.py tests them; with `chswResetsCurr` the selectors return to 0). -/
theorem chars_before_mode_discarded (hpf : currChanPerField = true) (f : Bool) (ops : List Op)
    (hq : ∀ op ∈ ops, quiet f op) (b0 b1 : Nat) (hn : isControl b0 = false) :
    (run ops).curr f = 0 ∧ textIdx (run ops) f = capIdx f ∧
    (∃ ch, (run ops).chans[capIdx f]? = some ch ∧ ch.mode = .none) ∧
    ∀ i ch, (run ops).chans[i]? = some ch →
      (decodePair (run ops) f b0 b1).chans[i]? = some ch ∨
      (i = capIdx f ∧ (decodePair (run ops) f b0 b1).chans[i]? = some { ch with nulCt := 0 }) := by
  have P : PreMode f (run ops) := foldl_premode hpf f ops hq init (init_premode f)
  obtain ⟨c, hc, hm⟩ := P.none
  refine ⟨P.cur, textIdx_of_cur P.cur, ⟨c, hc, hm⟩, fun i ch hi => ?_⟩
  have := (decodePair_premode (run ops) f b0 b1 hn (ch := c) (by rw [textIdx_of_cur P.cur]; exact hc) hm).2 i
  rcases this with e | ⟨e1, e2⟩
  · left; rw [e]; exact hi
  · right
    rw [textIdx_of_cur P.cur] at e1
    have : ch = c := by rw [e1, hc] at hi; exact (Option.some.inj hi).symm
    subst this
    exact ⟨e1, e2⟩

/-- a history that keeps field 2 silent: CC1 is put into roll-up mode and receives text, field 2 sends characters -/
example : ∀ op ∈ [Op.pair false 0x94 0x25, .pair false 0x94 0x25, .pair false 0xC1 0xC2, .pair true 0xC1 0xC2, .fetch 1],
    quiet true op := by
  intro op h
  simp only [List.mem_cons, List.not_mem_nil, or_false] at h
  rcases h with rfl | rfl | rfl | rfl | rfl
  · exact fun h => absurd h (by decide)
  · exact fun h => absurd h (by decide)
  · exact fun h => absurd h (by decide)
  · exact fun _ => by decide
  · trivial

/-- witness of finding F44: RCL for CC1 (field 1, sent twice), RCL for CC4 on field 2, then `AB` on field 1 -/
def f44Witness : List (Bool × Nat × Nat) :=
  [(false, 0x94, 0x20), (false, 0x94, 0x20), (true, 0x1C, 0x20), (false, 0xC1, 0xC2)]

set_option maxRecDepth 1000000 in
/-- **fields_independent_counterexample** (finding F44).  With ONE `curr_chan` for both fields the field-2 command
redirects the field-1 characters to CC2: CC1's working memory stays empty, while the field-1 pairs alone put `A` into
row 15 column 1.  Replayed on the C code by corpus/C08/f18-cross-field-routing.ops. -/
theorem fields_independent_counterexample (hflag : currChanPerField = false) : ¬ fields_independent_full := by
  intro h
  have h1 := h f44Witness false 0 (by decide) (by decide)
  have h3 : currChanPerField = false →
      (runPairs f44Witness).chans[0]?.map (fun c => c.hcell 14 1) ≠
      (runPairs (f44Witness.filter (fun p => p.1 == false))).chans[0]?.map (fun c => c.hcell 14 1) := by decide
  exact h3 hflag (by rw [h1])

end Zvbi.Props.C08Paint
