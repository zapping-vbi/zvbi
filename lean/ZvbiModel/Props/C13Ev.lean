import ZvbiModel.Props.C12
import ZvbiModel.Props.C13
/-!
# C13 - every field of every announced event, from the sender's side

`Props/C13.lean` states faithfulness against the decoders of the line (`decode8302Pdc b`, `decode8301LocalTime b`).
Here the statements are joined with the sender specification of C12 (`Codec/Spec.lean`: `enc8302`, `enc8301`, proved
round trips `p8302_roundtrip`, `p8301_roundtrip`), so they speak about the values the station put into the packet:
PIL, LCI, LUF, PRF, PCS, MI, PTY and CNI of 8/30 format 2, MJD / UTC / offset and CNI of format 1.  The ASPECT event
`vbi_chsw_reset` raises when it forgets an aspect ratio is covered field by field, together with the invariant that
says which line kind the recorded `aspect_source` stands for, and the 525-line WSS (CPR-1204) path that is the only
reachable producer of `aspect_source == 2`.
-/
namespace Zvbi.Props.C13Ev
open Zvbi.Net Zvbi.Codec Zvbi.Codec.Spec Zvbi.Gen

/-- an empty station table (histories without CNI look-ups) -/
def cfgE : Cfg := { lk := fun _ _ => (0, []), xdsGuard := true }

/-- magazine 8 packet 30 address, designation `d`, initial page link 8FF / 3F7F (Hamming 8/4), zeros elsewhere -/
def fillA (d : Nat) : Nat → Nat := fun i => [0x15, 0xea, Zvbi.Hamm.ham8 d, 0xea, 0xea, 0xea, 0x2f, 0xea, 0x5e].getD i 0

/-! ## Teletext packet 8/30 format 2: the PDC label -/

/-- `event_values_faithful`, 8/30 format 2 programme identification, every field: whatever state the decoder is in and
    whatever the unprotected bytes of the packet are, a PROG_ID event raised by the packet the sender specification
    builds from (LCI, LUF, PRF, PCS, MI, CNI, PIL, PTY) carries exactly these eight values (and CNI type 8/30-2). -/
theorem event_values_faithful_8302_fields (cfg : Cfg) (s : State) (fill : Nat → Nat) (f : F2)
    (h1 : f.lci < 4) (h2 : f.luf < 2) (h3 : f.prf < 2) (h4 : f.pcs < 4) (h5 : f.mi < 2) (h6 : f.cni < 65536)
    (h7 : f.pil < 1048576) (h8 : f.pty < 256) (p : Pid)
    (h : Ev.progId p ∈ (rxTtx cfg s (enc8302 fill f)).2) :
    p.channel = f.lci ∧ p.cniType = VBI_CNI_TYPE_8302 ∧ p.cni = f.cni ∧ p.pil = f.pil ∧ p.luf = f.luf ∧
    p.mi = f.mi ∧ p.prf = f.prf ∧ p.pcsAudio = f.pcs ∧ p.pty = f.pty := by
  have e := Zvbi.Props.C13.event_values_faithful_pdc cfg s _ p h
  rw [(Zvbi.Props.C12.p8302_roundtrip fill f h1 h2 h3 h4 h5 h6 h7 h8).1] at e
  have e' := Option.some.inj e
  rw [← e']
  exact ⟨rfl, rfl, rfl, rfl, rfl, rfl, rfl, rfl, rfl⟩

-- non-vacuity: the packet of the sender specification does raise PROG_ID, with the label that was sent
example : Ev.progId { channel := 2, cniType := 3, cni := 0xFDCB, pil := 0xABCDE, luf := 1, mi := 1, prf := 0,
                      pcsAudio := 3, pty := 0x5A } ∈
    (rxTtx cfgE { init with mask := 0x800 } (enc8302 (fillA 2)
      { lci := 2, luf := 1, prf := 0, pcs := 3, mi := 1, cni := 0xFDCB, pil := 0xABCDE, pty := 0x5A })).2 := by decide

/-! ## Teletext packet 8/30 format 1: local time and CNI -/

/-- A LOCAL_TIME event raised by the format 1 packet of the sender specification carries the transmitted date and
    time of day as seconds since 1970 and the transmitted offset (half hours, sign) in seconds. -/
theorem event_values_faithful_local_time_fields (cfg : Cfg) (s : State) (fill : Nat → Nat) (cni mjd hh mm ss l : Nat)
    (neg : Bool) (hmjd : mjd < 100000) (h1 : hh < 24) (h2 : mm < 60) (h3 : ss ≤ 60) (hl : l < 32) (t east : Int)
    (h : Ev.localTime t east ∈ (rxTtx cfg s (enc8301 fill cni mjd hh mm ss l neg)).2) :
    (t, east) = (((mjd : Nat) - 40587 : Int) * 86400 + ((ss + mm * 60 + hh * 3600 : Nat) : Int),
                 if neg then -((l * 1800 : Nat) : Int) else ((l * 1800 : Nat) : Int)) := by
  have e := Zvbi.Props.C13.event_values_faithful_local_time cfg s _ t east h
  rw [Zvbi.Props.C12.p8301_roundtrip fill cni mjd hh mm ss l neg hmjd h1 h2 h3 hl] at e
  exact (Option.some.inj e).symm

example : Ev.localTime ((58754 - 40587) * 86400 + 45296) (-5400) ∈
    (rxTtx cfgE { init with mask := 0x400 } (enc8301 (fillA 0) 0x1234 58754 12 34 56 3 true)).2 := by decide

/-- The reception a format 1 packet of the sender specification constitutes for the CNI debounce is the transmitted
    CNI: with `event_values_faithful` (Props/C13.lean) every NETWORK / NETWORK_ID event of that packet carries it. -/
theorem event_values_faithful_8301_cni (mask : Nat) (fill : Nat → Nat) (cni mjd hh mm ss l : Nat) (neg : Bool)
    (hc : cni < 65536) (v : Nat)
    (h : lineCni mask (.ttx (enc8301 fill cni mjd hh mm ss l neg)) = some (.p8301, v)) : v = cni := by
  have e := ttxCni_p8301 mask _ v h
  rw [Zvbi.Props.C12.p8301_cni_roundtrip fill cni mjd hh mm ss l neg hc] at e
  exact e

example : lineCni 0x108 (.ttx (enc8301 (fillA 0) 0x1234 58754 12 34 56 3 true)) = some (.p8301, 0x1234) := by decide

/-! ## the ASPECT event of `vbi_chsw_reset` -/

/-- Every field of the ASPECT event `vbi_chsw_reset` raises, for every state and every argument: it is raised iff an
    aspect source is recorded, exactly once, and says "full format, ratio 1.0, no film mode, subtitles unknown" with
    the active lines of the 625-line system (23..310) for source 1 and of the 525-line system (22..262) otherwise. -/
theorem reset_aspect_event_faithful (s : State) (id : Nat) :
    (∀ a, Ev.aspect a ∈ (chswReset s id).2 ↔ (s.aspectSource > 0 ∧ a = chswAspect s.aspectSource)) ∧
    chswAspect 1 = { first := 23, last := 310, ratio := 1, film := 0, subt := VBI_SUBT_UNKNOWN } ∧
    (∀ src, src ≠ 1 → chswAspect src = { first := 22, last := 262, ratio := 1, film := 0, subt := VBI_SUBT_UNKNOWN }) ∧
    (chswReset s id).1.aspectSource = 0 := by
  refine ⟨fun a => chswReset_aspect_events s id a, by decide, ?_, by rw [chswReset_fst]⟩
  intro src h
  simp [chswAspect, h]

example : (chswReset { init with aspectSource := 2 } 0).2 = [Ev.aspect { first := 22, last := 262, ratio := 1, film := 0, subt := 3 }] := by
  decide

/-- Along EVERY history from the initial state (all line kinds, time-outs, channel switches, handler registrations, in
    any order) the ASPECT event of a reset names the system of the line that stored the aspect ratio being forgotten:
    lines 23..310 exactly when that was a WSS-625 word, lines 22..262 exactly when it was a CPR-1204 word; the other
    three fields are constant.  (`aspect_source` is 0, 1 or 2 on every reachable state: invariant `SrcInv`.) -/
theorem reset_aspect_names_the_storing_carrier (cfg : Cfg) (atoms : List Atom) (id : Nat) (a : Aspect)
    (h : Ev.aspect a ∈ (chswReset (runAtoms cfg init atoms).1 id).2) :
    a.ratio = 1 ∧ a.film = 0 ∧ a.subt = VBI_SUBT_UNKNOWN ∧
    (((∃ b0 b1, (runAtoms cfg init atoms).1.aspect = wssAspect b0 b1) ∧ a.first = 23 ∧ a.last = 310) ∨
     ((∃ b0, (runAtoms cfg init atoms).1.aspect = cprAspect b0) ∧ a.first = 22 ∧ a.last = 262)) := by
  have inv := runAtoms_srcInv cfg atoms init (Or.inl rfl)
  obtain ⟨hs, ha⟩ := (chswReset_aspect_events _ id a).mp h
  rcases inv with h0 | ⟨h1, w⟩ | ⟨h2, w⟩
  · rw [h0] at hs
    exact absurd hs (by decide)
  · rw [h1] at ha
    rw [ha]
    exact ⟨rfl, rfl, rfl, Or.inl ⟨w, by decide, by decide⟩⟩
  · rw [h2] at ha
    rw [ha]
    exact ⟨rfl, rfl, rfl, Or.inr ⟨w, by decide, by decide⟩⟩

-- non-vacuity: a CPR-1204 word, then a channel switch: the time-out reset announces 22..262
example : (runAtoms cfgE init [.mask 0x40, .tick 1000000, .line 1000000 (.cpr 0x80), .chsw, .tick 1040000]).2 =
    [Ev.aspect (cprAspect 0x80), Ev.progInfo (cprAspect 0x80),
     Ev.aspect { first := 22, last := 262, ratio := 1, film := 0, subt := 3 }] := by decide

/-- No history reaches an `aspect_source` other than 0, 1, 2 (XDS aspect packets are not fed). -/
theorem aspect_source_range (cfg : Cfg) (atoms : List Atom) : (runAtoms cfg init atoms).1.aspectSource ≤ 2 := by
  rcases runAtoms_srcInv cfg atoms init (Or.inl rfl) with h | ⟨h, _⟩ | ⟨h, _⟩ <;> rw [h] <;> decide

example : (runAtoms cfgE init [.line 0 (.cpr 0)]).1.aspectSource = 2 := by decide

/-! ## WSS-625 and CPR-1204 words: ASPECT and PROG_INFO -/

/-- A CPR-1204 word (no error protection, no repeat counter in the code) raises nothing when it encodes the stored
    record, else ASPECT followed by PROG_INFO, both with the record the word encodes (bit 7: anamorphic, bit 6:
    letterbox lines 72..212, else 22..262), and records source 2. -/
theorem event_values_faithful_cpr (s : State) (b0 : Nat) :
    ((rxCpr s b0).2 = [] ∧ cprAspect b0 = s.aspect ∧ (rxCpr s b0).1 = s) ∨
    ((rxCpr s b0).2 = [Ev.aspect (cprAspect b0), Ev.progInfo (cprAspect b0)] ∧ cprAspect b0 ≠ s.aspect ∧
     (rxCpr s b0).1.aspect = cprAspect b0 ∧ (rxCpr s b0).1.aspectSource = 2) :=
  (rxCpr_cases s b0).imp id (fun h => ⟨h.1, h.2.1, by rw [h.2.2], by rw [h.2.2]⟩)

example : cprAspect 0xC0 = { first := 72, last := 212, ratio := 2, film := 0, subt := 3 } := by decide

/-- PROG_INFO is never raised alone and never with another record than the ASPECT event before it: a WSS-625 word
    raises nothing or exactly ASPECT, PROG_INFO with the aspect the word encodes. -/
theorem prog_info_follows_aspect (s : State) (b0 b1 t : Nat) :
    (rxWss s b0 b1 t).2 = [] ∨ (rxWss s b0 b1 t).2 = [Ev.aspect (wssAspect b0 b1), Ev.progInfo (wssAspect b0 b1)] :=
  rxWss_events s b0 b1 t

example : (rxWss { init with wssLast := (0x0B, 0), wssRep := 2 } 0x0B 0 5).2 =
    [Ev.aspect (wssAspect 0x0B 0), Ev.progInfo (wssAspect 0x0B 0)] := by decide

/-! ## the network name -/

/-- Every name of the station table of this tree (regenerated from src/network-table.h on every run) is at most 62
    bytes long, so `strlcpy (n->name, name, sizeof (n->name) - 1)` in the three CNI paths never truncates: the name
    in a NETWORK / NETWORK_ID event (`lkName` = first 62 bytes) is the complete table name.  (Consequence for the
    mutation run: a wrong size argument there is unobservable with this table.) -/
theorem table_names_fit : cniTable.all (fun e => e.name.length ≤ 62) = true := by
  -- chunk by chunk: `cniTable` is a left-nested `++` of its chunks, and evaluated as one list the early chunks are
  -- walked once per later chunk
  unfold cniTable
  repeat rw [List.all_append]
  decide +kernel

example : cniTable.length = cniTableSize := by
  unfold cniTable
  repeat rw [List.length_append]
  decide +kernel

end Zvbi.Props.C13Ev
