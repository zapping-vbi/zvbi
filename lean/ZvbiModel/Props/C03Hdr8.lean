import ZvbiModel.Ttx.Hdr8Unread
import ZvbiModel.Props.C03
/-!
# C03 - the verbatim copy of the header's Hamming bytes (`raw[0][0..7]`) is not read

`C03.single_error_invisible_header_bytes`: a single bit error in one of the 8 Hamming bytes of a header
gives the same events and return value, and a state that differs from the error-free one ONLY in
`raw[0][0..7]` of the page in progress (`patchHdr8`).  The question that leaves: does anything later read these bytes?
Readers of `raw[0]` are `store_lop` (rolling-header test `same_header`, clock test `same_clock`, copy of the
header text into `vt.header`) and the formatter.  Proved here, for an arbitrary page and arbitrary 8 bytes:

* `store_lop_verdict_ignores_hdr8` - the decision of `store_lop` (channel-switch reset / skip / store, roll
  header, header update, clock update, page-number offset) and the header text copied to `vt.header`;
* `formatter_ignores_hdr8` - every character code the Level 1 formatter works on.

Still open (see `hdr8_never_read_full`): the bisimulation over whole histories - the page is also STORED
with these bytes (they sit in the cached page and come back when the page is continued from the cache), so
the relation has to be carried through the cache; the two theorems are its local steps.
-/
namespace Zvbi.Props.C03Hdr8
open Zvbi.Ttx Zvbi.Ttx.Spec Zvbi.Hamm Zvbi.Gen

/-- `store_lop` does not read `raw[0][0..7]`: for every decoder state whose reference header starts with 8
    bytes that do not have odd parity (`vt.header[0..7]` is never written by the library and stays 0 - this is
    what makes the misplaced comparison of finding F24 harmless; with F24 repaired the hypothesis is not
    used), every page `vtp` and any 8 bytes `h8` in place of the stored Hamming bytes: same verdict
    (reset / skip / store with the same roll, header-update, clock and page-number-offset values) and the same
    header text copied into `vt.header`. -/
theorem store_lop_verdict_ignores_hdr8 (s : St) (vtp : Page) (h8 : List Nat) (hl : h8.length = 8)
    (hne : vtp.raw ≠ []) (hq : RefHdrQuiet s.header) :
    hdrVerdict s (withHdr8 vtp h8) = hdrVerdict s vtp ∧
    hdrText ((withHdr8 vtp h8).raw.getD 0 zeroRow) = hdrText (vtp.raw.getD 0 zeroRow) := by
  refine ⟨hdrVerdict_withHdr8 s vtp h8 hl hne hq, ?_⟩
  rw [withHdr8_row0 vtp h8 hne]
  unfold hdrText
  rw [List.drop_append_of_le_length (by omega)]
  simp [hl]

/-- non-vacuity: the initial decoder's reference header is quiet, and `withHdr8` is what `patchHdr8` writes -/
example : RefHdrQuiet (init.enable true).header ∧
    (patchHdr8 (init.enable true) 1 [1, 2, 3, 4, 5, 6, 7, 8]).rp 1
      = { (init.enable true).rp 1 with page := withHdr8 ((init.enable true).rp 1).page [1, 2, 3, 4, 5, 6, 7, 8] } := by
  constructor
  · intro i hi
    have : ∀ i < 8, oddPar ((init.enable true).header.getD i 0) = false := by decide +kernel
    exact this i hi
  · decide +kernel

/-- The Level 1 formatter does not read them either: every cell's character code is the same. -/
theorem formatter_ignores_hdr8 (vtp : Page) (h8 : List Nat) (hl : h8.length = 8) (hne : vtp.raw ≠ [])
    (row column : Nat) : fmtRaw (withHdr8 vtp h8) row column = fmtRaw vtp row column := by
  unfold fmtRaw
  by_cases h : (row == 0 && decide (column < 8)) = true
  · simp only [h, if_true]
  · simp only [h, Bool.false_eq_true, if_false]
    by_cases hr : row = 0
    · subst hr
      have hc : 8 ≤ column := by
        simp only [beq_self_eq_true, Bool.true_and, decide_eq_true_eq] at h; omega
      rw [withHdr8_tail vtp h8 hl hne column hc]
    · have : (withHdr8 vtp h8).raw.getD row zeroRow = vtp.raw.getD row zeroRow := by
        unfold withHdr8
        simp only [List.getD_eq_getElem?_getD]
        rw [List.getElem?_set_ne (by omega)]
      rw [this]

example : fmtRaw (withHdr8 { Page.zero with raw := List.replicate 26 blankRow } [1, 2, 3, 4, 5, 6, 7, 8]) 0 3 = 0 := by
  decide +kernel

/-- FULL STATEMENT (open, not proved): two histories that differ only in single bit errors of the Hamming bytes
    2..9 of HEADER packets yield
    the same events except for `raw[0][0..7]` of the pages carried by `Event.put`. -/
def hdr8_never_read_full : Prop :=
  ∀ (ps qs : List Packet), ps.length = qs.length →
    (∀ k, k < ps.length → ps.getD k [] = qs.getD k [] ∨
      ∃ i b pmag, 2 ≤ i ∧ i < 10 ∧ b < 8 ∧ WellFormed (ps.getD k []) ∧
        a16 (ps.getD k []) 0 = some pmag ∧ pmag >>> 3 = 0 ∧       -- a header packet
        (∀ j, j < 10 → IsHam8 (byte (ps.getD k []) j)) ∧
        qs.getD k [] = flipBit (ps.getD k []) i b) →
    ((run (init.enable true) ps).2.map fun e => match e with
        | Event.put p => Event.put (withHdr8 p (List.replicate 8 0)) | e => e) =
    ((run (init.enable true) qs).2.map fun e => match e with
        | Event.put p => Event.put (withHdr8 p (List.replicate 8 0)) | e => e)

end Zvbi.Props.C03Hdr8
