import ZvbiModel.Fmt.LemmasStd
import ZvbiModel.Fmt.LemmasFlof
import ZvbiModel.Ttx.Model
/-!
# Property C02: a transmitted Teletext page is cached and fetched exactly as sent

Formatting half (component `fmt`): `Fmt.format` is the model of teletext.c `vbi_format_vt_page`
(Level 1 / 1.5 row loop), `L1Spec` is EN 300 706 section 12.2 written declaratively ("the last relevant
control code before/at the column decides", set-at / set-after, row defaults, hold mosaics, double
height); see `Fmt/Spec.lean` for the readings adopted.  The theorems hold for EVERY page: all 25x40 byte
contents (any parity), all flags, all national option bits, all default regions / character set codes,
all colour-table offsets, every cell.

The assembly half (packet.c) is C03's model `Ttx`; `fetch_refines_L1Spec` joins the two: whatever any
packet history leaves in the cache, a fetch shows exactly L1Spec of the cached bytes.  That the cached bytes
are the sent bytes (`page_roundtrip`) is proved for one transmission in `Props/C02Roundtrip.lean`, `C02Interleave`,
`C02Serial`, and for whole cycles of transmissions in `Props/C02Chain.lean` (parallel mode), `C02SerialCycle` (serial mode) and
`C02Sender` (packets built by the sender's encoder); the sender-side statement over `Tx` streams, `page_roundtrip_full`
below, is a `def` and not proved (its doc comment says what is proved in its place).
-/
namespace Zvbi.Props.C02
open Zvbi.Fmt Zvbi.Fmt.L1Spec Zvbi.Gen.Fmt

/-- The numeric enum values written as literals in the model are the values of the current headers
(`vbi_size`, `vbi_opacity`, `vbi_color`, `vbi_character_set`, the C4..C11 flag bits) and the table
extents are those of lang.c; regenerated from /repo on every run, so a changed header breaks the build. -/
theorem enum_guard :
    kVBI_NORMAL_SIZE = 0 ∧ kVBI_DOUBLE_WIDTH = 1 ∧ kVBI_DOUBLE_HEIGHT = 2 ∧ kVBI_DOUBLE_SIZE = 3 ∧
    kVBI_OVER_TOP = 4 ∧ kVBI_OVER_BOTTOM = 5 ∧ kVBI_DOUBLE_HEIGHT2 = 6 ∧ kVBI_DOUBLE_SIZE2 = 7 ∧
    kVBI_TRANSPARENT_SPACE = 0 ∧ kVBI_SEMI_TRANSPARENT = 2 ∧ kVBI_OPAQUE = 3 ∧ kVBI_BLACK = 0 ∧ kVBI_WHITE = 7 ∧
    kLATIN_G0 = 1 ∧ kCYRILLIC_1_G0 = 3 ∧ kCYRILLIC_2_G0 = 4 ∧ kCYRILLIC_3_G0 = 5 ∧ kGREEK_G0 = 7 ∧
    kARABIC_G0 = 9 ∧ kHEBREW_G0 = 11 ∧
    kC4_ERASE_PAGE = 0x80 ∧ kC5_NEWSFLASH = 0x4000 ∧ kC6_SUBTITLE = 0x8000 ∧ kC7_SUPPRESS_HEADER = 0x10000 ∧
    kC10_INHIBIT_DISPLAY = 0x80000 ∧ kC11_MAGAZINE_SERIAL = 0x100000 ∧
    nFontDescriptors = 88 ∧ nNationalSubsets = 14 ∧ nationalSubsetSize = 14 * 13 := by decide

example : kVBI_DOUBLE_SIZE2 = 7 := enum_guard.2.2.2.2.2.2.2.1

/-- **format_refines_L1Spec** (libzvbi's held-mosaic reading).  For every page and every cell (row < 25,
column < 40) the formatted cell - unicode, foreground, background, flash, conceal, size, opacity - is the
declaratively specified one.  Header row, national subsets, double height row skipping included. -/
theorem format_refines_L1Spec_libheld (p : PageIn) (row col : Nat) (hr : row < 25) (hc : col < 40) :
    cellAt (format p) row col = L1Spec.cell .lib p row col :=
  format_cellAt p row col hr hc

/-- non-vacuity: a concrete page with mosaics, hold, double height and a national character -/
def samplePage : PageIn :=
  { pgno := 0x123, subno := 1, flags := 0, national := 1,
    raw := fun i => if i = 40 then 0x91 else if i = 41 then 0x7F else if i = 42 then 0x9E
      else if i = 43 then 0x0D else if i = 44 then 0x40 else if i = 45 then 0x13 else 0x20 }

example : cellAt (format samplePage) 1 1 = { unicode := 0xEE7F, fg := 1, bg := 0, size := 0, opacity := 3 } := by
  decide +kernel
example : (cellAt (format samplePage) 2 4).size = 6 := by decide +kernel          -- lower half of the double height row
example : (cellAt (format samplePage) 1 4).unicode = 0xA7 := by decide +kernel    -- 0x40 in the German subset: U+00A7

/-- the same as one equation between whole pages (25 rows of 40 cells) -/
theorem format_refines_L1Spec_page (p : PageIn) :
    (List.range 25).map (fun r => (List.range 40).map (fun c => cellAt (format p) r c)) = L1Spec.page .lib p := by
  unfold L1Spec.page
  apply List.map_congr_left
  intro r hr
  apply List.map_congr_left
  intro c hc
  exact format_cellAt p r c (List.mem_range.mp hr) (List.mem_range.mp hc)

example : ((List.range 25).map (fun r => (List.range 40).map (fun c => cellAt (format samplePage) r c))).length = 25 := by
  simp

/-- The full-strength statement against EN 300 706 12.2 *including* the held-mosaic reset rule. -/
def format_refines_L1Spec_full : Prop :=
  ∀ (p : PageIn) (row col : Nat), row < 25 → col < 40 → cellAt (format p) row col = L1Spec.cell .std p row col

/-- row 1 = mosaic red, block, hold, alpha red, mosaic green, mosaic yellow: libzvbi repeats the block in
column 5 although the alpha/mosaics mode changed twice in between (the standard resets it to a blank) -/
def heldWitness : PageIn :=
  { pgno := 0x100, subno := 0, flags := 0, national := 0,
    raw := fun i => if i = 40 then 0x91 else if i = 41 then 0x7F else if i = 42 then 0x9E
      else if i = 43 then 0x01 else if i = 44 then 0x92 else if i = 45 then 0x13 else 0x20 }

/-- The full statement is FALSE on the unchanged tree (genuine deviation, replayed on the C code by
corpus/C02/held-mosaic-reset.ops; KNOWN-FINDING F37). -/
theorem format_refines_L1Spec_counterexample : ¬ format_refines_L1Spec_full := by
  intro h
  have := h heldWitness 1 5 (by decide) (by decide)
  revert this
  decide +kernel

example : (cellAt (format heldWitness) 1 5).unicode = 0xEE7F ∧ (L1Spec.cell .std heldWitness 1 5).unicode = 0xEE20 := by
  decide +kernel

/-- **format_refines_L1Spec_partial** (standard's rule, unconditional part).  For every page and cell the
formatted cell agrees with the standard-rule L1Spec in foreground, background, flash, conceal, size and
opacity, and in the character unless the standard shows the blank held mosaic U+EE20 there (i.e. the only
possible deviation is a held mosaic that survived a change of alpha/mosaics mode or of size). -/
theorem format_refines_L1Spec_partial (p : PageIn) (row col : Nat) (hr : row < 25) (hc : col < 40) :
    HeldRel (cellAt (format p) row col) (L1Spec.cell .std p row col) := by
  rw [format_cellAt p row col hr hc]
  exact cell_rel p row col

example : HeldRel (cellAt (format heldWitness) 1 5) (L1Spec.cell .std heldWitness 1 5) :=
  format_refines_L1Spec_partial _ _ _ (by decide) (by decide)

/-- ... and on pages where no row changes alpha/mosaics mode or size (reinforcements do not count) the
formatted page equals the standard-rule L1Spec in every attribute of every cell. -/
theorem format_refines_L1Spec_noReset (p : PageIn) (h : ∀ r, r < 25 → NoHeldReset (rowCtx p r))
    (row col : Nat) (hr : row < 25) (hc : col < 40) :
    cellAt (format p) row col = L1Spec.cell .std p row col := by
  rw [format_cellAt p row col hr hc, cell_eq_of_noReset p h row col hr hc]

/-- non-vacuity: an all-blank page has no reset events -/
example : ∀ r, r < 25 → ∀ j, j < 40 →
    heldResetAfter (rowCtx { pgno := 0x100, subno := 0, flags := 0, national := 0, raw := fun _ => 0x20 } r) j = false := by
  decide +kernel

/-- `L1Spec.lastIdx` is what the spec says it is: the largest index below the bound satisfying the predicate
(so the spec's "last relevant control code" does not depend on how `lastIdx` is computed). -/
theorem lastIdx_is_last (q : Nat → Bool) (n j : Nat) :
    lastIdx q n = some j ↔ (j < n ∧ q j = true ∧ ∀ k, j < k → k < n → q k = false) :=
  lastIdx_eq_some_iff

example : lastIdx (fun j => j % 3 == 0) 8 = some 6 := by decide

/-- A FLOF link of packet X/27 (EN 300 706 9.6.1) sent with page units `pu`, tens `pt`, subcode digits
S1..S4 and relative magazine `mrel` (M3 M2 M1), each group Hamming 8/4 protected, is decoded by
`unham_page_link` to exactly that link: magazine = packet magazine XOR `mrel` (0 means 8), page byte,
subcode S4 S3 S2 S1 - for all field values and all packet magazines. -/
theorem flof_link_roundtrip (mag pu pt s1 s2 s3 s4 mrel : Nat)
    (hpu : pu < 16) (hpt : pt < 16) (h1 : s1 < 16) (h2 : s2 < 8) (h3 : s3 < 16) (h4 : s4 < 4) (hm : mrel < 8) :
    unhamPageLink (encLink pu pt s1 s2 s3 s4 mrel) mag =
      some ⟨(if mag ^^^ mrel = 0 then 8 else mag ^^^ mrel) * 256 + (pu ||| (pt <<< 4)),
            s1 + 16 * s2 + 256 * s3 + 4096 * s4⟩ := by
  have hb := link_bits s1 h1 s2 h2 s3 h3 s4 h4 mrel hm
  simp only [unhamPageLink, encLink, Zvbi.Hamm.unham16p, Zvbi.Hamm.unham8_ham8 pu hpu, Zvbi.Hamm.unham8_ham8 pt hpt,
    Zvbi.Hamm.unham8_ham8 s1 h1, Zvbi.Hamm.unham8_ham8 _ (nib3_spec s2 h2 mrel hm).1, Zvbi.Hamm.unham8_ham8 s3 h3,
    Zvbi.Hamm.unham8_ham8 _ (nib5_spec s4 h4 mrel hm).1]
  simp only [] at hb
  rw [hb.1, hb.2]

/-- link to page 350/0001 sent in magazine 1: relative magazine 1 XOR 3 = 2 -/
example : unhamPageLink (encLink 0 5 1 0 0 0 2) 1 = some ⟨0x350, 1⟩ := by decide +kernel

/-- Entries of EN 300 706 Table 36 (Latin national option sub-sets) that everybody knows, through the
generated lang.c tables and `vbi_teletext_unicode`: German umlauts / sharp s / paragraph sign, English pound /
half / division, French e-acute / a-grave / c-cedilla, Swedish A-ring, and the unmodified positions.
(Guards single table entries; the tables as a whole are trusted as a transcription of the standard.) -/
theorem national_subset_spot :
    fontSubset 1 = 5 ∧ fontSubset 0 = 2 ∧ fontSubset 4 = 4 ∧ fontSubset 2 = 12 ∧
    teletextUnicode 1 5 0x40 = 0xA7 ∧ teletextUnicode 1 5 0x5B = 0xC4 ∧ teletextUnicode 1 5 0x5C = 0xD6 ∧
    teletextUnicode 1 5 0x5D = 0xDC ∧ teletextUnicode 1 5 0x7B = 0xE4 ∧ teletextUnicode 1 5 0x7C = 0xF6 ∧
    teletextUnicode 1 5 0x7D = 0xFC ∧ teletextUnicode 1 5 0x7E = 0xDF ∧ teletextUnicode 1 5 0x60 = 0xB0 ∧
    teletextUnicode 1 2 0x23 = 0xA3 ∧ teletextUnicode 1 2 0x5C = 0xBD ∧ teletextUnicode 1 2 0x7E = 0xF7 ∧
    teletextUnicode 1 2 0x5F = 0x23 ∧
    teletextUnicode 1 4 0x23 = 0xE9 ∧ teletextUnicode 1 4 0x40 = 0xE0 ∧ teletextUnicode 1 4 0x7E = 0xE7 ∧
    teletextUnicode 1 12 0x5D = 0xC5 ∧ teletextUnicode 1 12 0x7D = 0xE5 ∧
    teletextUnicode 1 0 0x41 = 0x41 ∧ teletextUnicode 1 5 0x7F = 0x25A0 ∧ teletextUnicode 1 0 0x24 = 0xA4 := by
  decide +kernel

example : teletextUnicode 1 5 0x5C = 0xD6 := national_subset_spot.2.2.2.2.2.2.1

/-- the formatter's view of a cached page of the decoder model; `region` = default region
(`vbi_teletext_set_default_region`), no X/28 (default magazine extension) -/
def pageInOf (region : Nat) (pg : Zvbi.Ttx.Page) : PageIn :=
  { pgno := pg.pgno, subno := pg.subno, flags := pg.flags, national := pg.national, charset0 := region, charset1 := 0,
    fgClut := 0, bgClut := 0, raw := fun i => (pg.raw.getD (i / 40) []).getD (i % 40) 0 }

/-- `vbi_fetch_vt_page (vbi, pg, pgno, subno, VBI_WST_LEVEL_1 or 1p5, 25, FALSE)` over the decoder state:
cache look-up (`_vbi_cache_get_page (.., -1)`), LOP check, Level 1 formatting.  Returns page number,
subpage number and the 25 x 41 cells. -/
def fetchCache (c : List Zvbi.Ttx.Page) (region pgno subno : Nat) : Option (Nat × Nat × List (List Cell)) :=
  match Zvbi.Ttx.cacheGet c pgno subno 0xFFFFFFFF with
  | some (pg, _) =>
    if pg.function = Zvbi.Ttx.FN_LOP ∨ pg.function = Zvbi.Ttx.FN_EACEM then
      some (pg.pgno, pg.subno, format (pageInOf region pg))
    else none
  | none => none

/-- the only place that depends on how the decoder model stores its pages -/
def cacheOf (s : Zvbi.Ttx.St) : List Zvbi.Ttx.Page := s.net.cache

def fetch (s : Zvbi.Ttx.St) (region pgno subno : Nat) : Option (Nat × Nat × List (List Cell)) :=
  fetchCache (cacheOf s) region pgno subno

/-- **fetch_refines_L1Spec**: for EVERY packet history fed to the decoder model (any bytes, any order,
any magazines), whenever a fetch succeeds, every cell it returns is L1Spec of exactly the bytes the
decoder holds in its cache under that page, and the returned page/subpage numbers are the cached ones. -/
theorem fetch_refines_L1Spec (history : List Zvbi.Ttx.Packet) (region pgno subno : Nat)
    (rp rs : Nat) (rows : List (List Cell))
    (h : fetch (history.foldl (fun s pk => (Zvbi.Ttx.step s pk).1) (Zvbi.Ttx.init.enable true)) region pgno subno
          = some (rp, rs, rows)) :
    ∃ pg rest, Zvbi.Ttx.cacheGet (cacheOf (history.foldl (fun s pk => (Zvbi.Ttx.step s pk).1) (Zvbi.Ttx.init.enable true)))
        pgno subno 0xFFFFFFFF = some (pg, rest)
      ∧ rp = pg.pgno ∧ rs = pg.subno
      ∧ ∀ row col, row < 25 → col < 40 → cellAt rows row col = L1Spec.cell .lib (pageInOf region pg) row col := by
  unfold fetch fetchCache at h
  split at h
  · rename_i pg rest hget
    split at h
    · cases h
      exact ⟨pg, rest, hget, rfl, rfl, fun row col hr hc => format_cellAt _ row col hr hc⟩
    · cases h
  · cases h

/-- non-vacuity: the empty history caches nothing, so nothing is fetched -/
example : fetch (Zvbi.Ttx.init.enable true) 0 0x100 0 = none := by decide +kernel

/-! ### the sender side of `page_roundtrip` (EN 300 706 7.1, 9.3) -/

/-- packet address bytes: magazine `mag` (0 = magazine 8) and packet number, Hamming 8/4 -/
def addrBytes (mag packet : Nat) : List Nat :=
  [Zvbi.Hamm.ham8 ((mag &&& 7) ||| ((packet &&& 1) <<< 3)), Zvbi.Hamm.ham8 (packet >>> 1)]

/-- one transmission of a page: header fields and the rows sent (row number 1..24, 40 odd-parity bytes) -/
structure Tx where
  page : Nat                    -- tens/units, BCD
  subno : Nat
  c4 : Nat                      -- erase flag
  ctl : Nat                     -- C7..C14
  clock : List Nat              -- header columns 32..39
  rows : List (Nat × List Nat)

instance : Inhabited Tx := ⟨⟨0, 0, 0, 0, [], []⟩⟩

/-- header packet; `text24` = header columns 8..31 with the three page number digits at `off` -/
def headerPacket (mag : Nat) (t : Tx) (text24 : List Nat) : Zvbi.Ttx.Packet :=
  addrBytes mag 0 ++
  [Zvbi.Hamm.ham8 (t.page &&& 15), Zvbi.Hamm.ham8 (t.page >>> 4),
   Zvbi.Hamm.ham8 (t.subno &&& 15), Zvbi.Hamm.ham8 (((t.subno >>> 4) &&& 7) ||| (t.c4 <<< 3)),
   Zvbi.Hamm.ham8 ((t.subno >>> 8) &&& 15), Zvbi.Hamm.ham8 ((t.subno >>> 12) &&& 3),
   Zvbi.Hamm.ham8 (t.ctl &&& 15), Zvbi.Hamm.ham8 (t.ctl >>> 4)] ++ text24 ++ t.clock

def txPackets (mag : Nat) (text : Tx → List Nat) (t : Tx) : List Zvbi.Ttx.Packet :=
  headerPacket mag t (text t) :: t.rows.map (fun r => addrBytes mag r.1 ++ r.2)

def isBcdPage (n : Nat) : Prop := n &&& 15 ≤ 9 ∧ n >>> 4 ≤ 9

/-- a parallel-mode stream of one magazine as the property describes it -/
structure WellFormed (mag : Nat) (text : Tx → List Nat) (txs : List Tx) : Prop where
  mag_lt : mag < 8
  pages : ∀ t ∈ txs, isBcdPage t.page ∧ (t.subno = 0 ∨ (t.subno ≤ 0x79 ∧ isBcdPage t.subno)) ∧ t.c4 ≤ 1
  parallel : ∀ t ∈ txs, t.ctl < 256 ∧ t.ctl &&& 0x10 = 0
  rows_ok : ∀ t ∈ txs, ∀ r ∈ t.rows, 1 ≤ r.1 ∧ r.1 ≤ 24 ∧ r.2.length = 40 ∧ ∀ b ∈ r.2, b < 256 ∧ Zvbi.Hamm.oddPar b = true
  rows_once : ∀ t ∈ txs, (t.rows.map (·.1)).Nodup
  next_differs : ∀ i, i + 1 < txs.length → (txs.getD i default).page ≠ (txs.getD (i + 1) default).page
  /-- consistent page header: the same 24 bytes except the page number digits, all odd parity, no other digits -/
  header_ok : ∀ t ∈ txs, (text t).length = 24 ∧ t.clock.length = 8 ∧
    (∀ b ∈ text t ++ t.clock, b < 256 ∧ Zvbi.Hamm.oddPar b = true) ∧
    ∃ off, off + 3 ≤ 24 ∧ ∀ t' ∈ txs, ∀ i, i < 24 → (i < off ∨ off + 3 ≤ i) →
      (text t).getD i 0 = (text t').getD i 0 ∧ ¬ (0x30 ≤ (text t).getD i 0 &&& 0x7F ∧ (text t).getD i 0 &&& 0x7F ≤ 0x39)

/-- NOT PROVED, and as worded it does not follow: `WellFormed.header_ok` does not say that the digits at `off` are the page
number.  What is proved instead: `C02Chain.page_roundtrip_chain` (receiver side) and `C02Sender.page_roundtrip_sender` (sender
side with a concrete encoder); the network oracle of checks/C02.py judges the property on the real code, also for several
magazines, serial mode, updates and subpages.  `page_roundtrip`, single-magazine parallel-mode instance:
feed a fresh decoder a well-formed stream `txs ++ [last]` and one more header of another page; then the cache
holds `last` under its page/subpage number with every transmitted row exactly as sent - so by
`fetch_refines_L1Spec` a fetch shows L1Spec of the sent characters.  (In serial mode the corresponding
statement was false before commit 53b7b09, finding F38: a page with the erase flag followed by another
magazine's header could be lost.) -/
def page_roundtrip_full : Prop :=
  ∀ (mag : Nat) (text : Tx → List Nat) (txs : List Tx) (last fin : Tx),
    WellFormed mag text (txs ++ [last, fin]) →
    let pkts := (txs ++ [last]).flatMap (txPackets mag text) ++ [headerPacket mag fin (text fin)]
    let s := pkts.foldl (fun s pk => (Zvbi.Ttx.step s pk).1) (Zvbi.Ttx.init.enable true)
    let pgno := (if mag = 0 then 8 else mag) * 256 + last.page
    ∃ pg rest, Zvbi.Ttx.cacheGet (cacheOf s) pgno last.subno 0xFFFFFFFF = some (pg, rest) ∧
      pg.function = Zvbi.Ttx.FN_LOP ∧ pg.pgno = pgno ∧ pg.subno = last.subno ∧
      ∀ r ∈ last.rows, pg.raw.getD r.1 [] = r.2

end Zvbi.Props.C02
