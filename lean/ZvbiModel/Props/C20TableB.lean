import ZvbiModel.Locks.Table
import ZvbiModel.Locks.Instance
/-!
# C20 - table theorems, part B: pairwise lock discipline, from the lock set of every shared field (evaluated on the
COMPLETE table that `translate/gen_locks.py` extracts from the current source)
-/
namespace Zvbi.Props.C20
open Zvbi.Locks Zvbi.Locks.Instance Zvbi.Generated.Locks

/-- Hand-written like `rank`: `vbi->cc.channel[*]` belongs to `cc.mutex`, `vbi->chswcd` to `chswcd_mutex`, the
`vbi3_raw_decoder` state to `rd->mutex`; the sampling parameters of the raw decoder (`rd->count[]`, `start[]`,
`pattern`, ...) are only read by the concurrent roles; everything else is touched by `vbi_decode` alone. -/
def guard (x : Var) : Guard :=
  if isCcChannel x then .mutex mx_cc else if isChswcd x then .mutex mx_chswcd else if isRd3 x then .mutex mx_rd
  else if [var_rd_count, var_rd_start, var_rd_pattern, var_rd_par].contains x then .readOnly else .owned

/-- In every role graph every access respects `guard`; only the single-threaded `vbi_decode` touches the fields
that have no mutex and are written. -/
theorem table_guarded : ∀ R ∈ roles, guardedB guard (!R.multi) R.accs = true := by
  simp only [guardedB, Role.all_accs, roles, cfg_vbi_decode, List.forall_mem_cons, List.all_cons, List.all_nil,
    List.all_append]
  decide +kernel

/-- **Lock discipline, no exception.**  For the documented roles (decode | fetch_cc_page |
channel_switched | raw decode | add/remove/check services): every conflicting pair of accesses to
the listed shared fields by two roles that may run concurrently is bracketed by a common mutex. -/
theorem table_discipline : tableDRF noKnown roles = true :=
  tableDRF_of_guards guard (by decide) table_guarded

/-- corollary: the same with the exception list K1 (`knownRace` of `Locks/Instance.lean`) -/
theorem table_discipline_modulo_known : tableDRF knownRace roles = true :=
  tableDRF_of_guards guard (by decide) table_guarded

end Zvbi.Props.C20
