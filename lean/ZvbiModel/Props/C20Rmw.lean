import ZvbiModel.Locks.Rmw
import ZvbiModel.Generated.LocksRmw
/-!
# C20 - atomicity of read-modify-write sequences: no lost update

Lock discipline (`Props/C20.lean`) and section atomicity (`Props/C20Snapshot.lean`) do not exclude
`v := get (); set (v - 1)` with one critical section per access (seed C20-f): every access holds the
mutex, no data race, and a concurrent `vbi_channel_switched ()` between the two sections is overwritten
by the stale countdown.  The obligation of this file: **every write of a shared variable that depends
(data or control) on a read of that variable lies in the SAME critical section as the read.**

* generic (all programs, all schedules): `rmw_confined_memoryless`, `rmw_confined_serializable`;
* a table shaped like seed C20-f loses an update: `rmw_split_loses_update`;
* the table `translate/gen_locks_rmw.py` extracts from the CURRENT source: `table_rmw_whole_modulo_expiry_clear`,
  `table_rmw_writes_locked`, `table_rmw_dirty_whole`, `table_rmw_cc_text_single_writer`,
  `table_rmw_concurrent_roles_whole`, and the one shape the current code has outside a single section
  (countdown expiry in one section, `vbi_chsw_reset ()` clearing the countdown in a later one):
  `expiry_clear_serializable`.
-/
namespace Zvbi.Props.C20
open Zvbi.Locks.Rmw

/-- **A confined critical section is memoryless** (all sections, all states).  If every store of the
section depends only on registers the same section loaded, then the shared store it leaves and every
value it loads are those of the section run from blank registers: nothing the thread read in an
EARLIER critical section reaches the shared state. -/
theorem rmw_confined_memoryless (s : Sec) (h : s.confined = true) (σ : Store) (ρ : Regs) :
    (Sec.run s (σ, ρ)).1 = secFun s σ ∧
    ∀ r, (loadsOf s).contains r = true → (Sec.run s (σ, ρ)).2 r = (Sec.run s (σ, blank)).2 r :=
  have ag := run_agree s [] σ ρ blank h fun _ hr => nomatch hr
  ⟨ag.1, fun r hr => ag.2 r (.inr (List.contains_iff_mem.1 hr))⟩

example : Sec.confined [.ld 0 0, .st 0 [0] (fun l => some (l.headD 0 - 1))] = true := by decide

/-- **No lost update** (all thread programs, all initial registers, all schedules).  If every dependent
read/write pair lies within one critical section (`confined`), then every interleaving of the sections
(the atomic steps a mutex gives, `Zvbi.Locks.atomic_sections`) computes exactly what the
transactional semantics computes for the same order: each section an isolated transaction
`secFun s : Store → Store` that takes nothing from earlier sections.  Same final values of the shared
variables, same sections left to run; by `rmw_confined_memoryless` also the same values read. -/
theorem rmw_confined_serializable (c : Cfg) (h : ∀ j, ∀ s ∈ c.todo j, Sec.confined s = true)
    (sch : List Nat) :
    (run c sch).σ = (srun ⟨c.σ, c.todo⟩ sch).σ ∧ (run c sch).todo = (srun ⟨c.σ, c.todo⟩ sch).todo := by
  induction sch generalizing c with
  | nil => exact ⟨rfl, rfl⟩
  | cons i t ih =>
    have hs := step_sstep c i h
    have e : sstep ⟨c.σ, c.todo⟩ i = ⟨(step c i).σ, (step c i).todo⟩ := by
      rw [hs.1, hs.2.1]
    simpa only [run, srun, List.foldl_cons, e] using ih (step c i) hs.2.2

/-! ## the shape of seed C20-f: read in one section, dependent write in the next -/

/-- shared variable 0 = `vbi->chswcd` -/
def cd : Var := 0

/-- the countdown tick of `vbi_decode ()`, as written in the current source: ONE section -/
def tickWhole : List Sec :=
  [[.ld 0 cd, .st cd [0] (fun l => let v := l.headD 0; if v > 1 then some (v - 1) else if v = 1 then some 0 else none)]]

/-- the same tick through `chswcd_get ()` / `chswcd_set ()` (seed C20-f): TWO sections -/
def tickSplit : List Sec :=
  [[.ld 0 cd], [.st cd [0] (fun l => let v := l.headD 0; if v > 1 then some (v - 1) else if v = 1 then some 0 else none)]]

/-- `vbi_channel_switched ()` -/
def request : List Sec := [[.st cd [] (fun _ => some 1)]]

def prog (tick : List Sec) (x0 : Int) : Cfg :=
  ⟨fun _ => x0, fun _ => blank, fun i => if i = 0 then tick else if i = 1 then request else []⟩

/-- **A split read-modify-write loses the update** (counterexample for a table shaped like C20-f).
Decoding thread 0 ticks the countdown 40 through get / set, thread 1 requests a channel switch.  The
schedule get, request, set ends with the countdown at 39 - the request is gone - while the two serial
orders of the operations end with 1 (tick, then request: reset at the next frame) and 0 (request, then
tick: the reset ran); the split program is not `confined`, the one-section program is, and for it
every complete schedule is one of the two serial orders. -/
theorem rmw_split_loses_update :
    (run (prog tickSplit 40) [0, 1, 0]).σ cd = 39 ∧
    (run (prog tickSplit 40) [0, 0, 1]).σ cd = 1 ∧
    (run (prog tickSplit 40) [1, 0, 0]).σ cd = 0 ∧
    (tickSplit.all Sec.confined) = false ∧
    (tickWhole.all Sec.confined) = true ∧
    (run (prog tickWhole 40) [0, 1]).σ cd = 1 ∧
    (run (prog tickWhole 40) [1, 0]).σ cd = 0 := by
  decide

/-! ## the one shape of the current source that spans two sections: expiry, then clear

`if (vbi->chswcd > 0 && --vbi->chswcd == 0) { unlock; vbi_chsw_reset (vbi, 0); }` - the decrement is one
section; `vbi_chsw_reset ()` ends with `lock; vbi->chswcd = 0; unlock`, control dependent on the
expiry.  The only concurrent operation on the countdown is `vbi_channel_switched ()` = store 1. -/

/-- section 1: decrement if running; section 2 (the end of the reset): clear, executed iff the
countdown expired in section 1 (register 0 = value read there) -/
def expiryClear : List Sec :=
  [[.ld 0 cd, .st cd [0] (fun l => if l.headD 0 > 0 then some (l.headD 0 - 1) else none)],
   [.st cd [0] (fun l => if l.headD 0 = 1 then some 0 else none)]]

/-- **Expiry-then-clear is serialisable against channel-switch requests** (all countdown values).
A request that falls between the decrement and the clear gives the same countdown AND the same reset
decision (register 0 = 1 iff the reset runs) as the serial order "request, then the whole tick" when
the countdown expired (the request is served by the reset that is running), and as "whole tick, then
request" otherwise (the clear is skipped).  The value coincidence that makes this work - the request
stores exactly the value from which the countdown expires - is part of the statement. -/
theorem expiry_clear_serializable (x0 : Int) :
    let mid := run (prog expiryClear x0) [0, 1, 0]
    let before := run (prog expiryClear x0) [1, 0, 0]
    let after := run (prog expiryClear x0) [0, 0, 1]
    (x0 = 1 → mid.σ cd = before.σ cd ∧ mid.regs 0 0 = before.regs 0 0) ∧
    (x0 ≠ 1 → mid.σ cd = after.σ cd ∧ mid.regs 0 0 = after.regs 0 0) := by
  intro mid before after
  constructor
  · intro h
    subst h
    exact ⟨by decide, by decide⟩
  · intro h
    -- register 0 holds `x0 ≠ 1` in both schedules, so the clear is skipped; the request's 1 is the last store either way
    by_cases hp : 0 < x0 <;>
      simp [mid, after, run, prog, step, expiryClear, request, Sec.run, Op.run, upd, cd, hp, h]

example : (run (prog expiryClear 1) [0, 1, 0]).σ cd = 0 := by decide

/-! ## the table extracted from the current source -/
open Zvbi.Generated.LocksRmw

/-- writes of the variable by roles that run in other threads than the decoding thread -/
def remoteWrites (v : String) : List Write := writes.filter fun w => w.var == v && w.multi

/-- the expiry-clear shape: control dependence only, the literal 0 is stored, the read's own section
completed its read-modify-write, and every concurrent role stores the literal 1 under the mutex -/
def expiryClearShape (p : Pair) : Bool :=
  p.ctrl && p.const == some 0 && p.consumed &&
    (remoteWrites p.var).all fun w => w.const == some 1 && w.locked

/-- FULL statement (false on the current tree because of the expiry-clear pair, see
`expiry_clear_serializable`; kept visible): every dependent pair lies in one section. -/
def table_rmw_whole_full : Prop := pairs.all (fun p => p.same) = true

/-- **Every dependent read/write pair of `vbi->chswcd` in the current source lies within ONE critical
section of `chswcd_mutex`** - the hypothesis of `rmw_confined_serializable` - except pairs of the
expiry-clear shape, which `expiry_clear_serializable` covers (`decide` over the COMPLETE extracted table;
seed C20-f makes this false: its pairs get -> set are split, not consumed, and store 40 / countdown - 1). -/
theorem table_rmw_whole_modulo_expiry_clear :
    pairs.all (fun p => p.same || expiryClearShape p) = true := by decide +kernel

/-- every write of a scalar shared variable in every role holds the variable's mutex -/
theorem table_rmw_writes_locked : writes.all (fun w => w.locked) = true := by decide +kernel

/-- **vbi_fetch_cc_page vs. decode: the dirty-region bookkeeping is read-modify-written atomically** - FULL strength,
no exception.  `dirty.{y0,y1,roll}` of the caption pages are the only members of `cc.channel` that both the decoding
thread (`render`, `roll_up`, `clear`, ...) and `vbi_fetch_cc_page ()` (which resets them) write.  Every write of them
that depends on a read of them lies in the same critical section of `cc.mutex` as the read, on every call path of
`vbi_decode ()`: the sections end at each event callback (`caption_send_event`), and no dirty value is carried across
one. -/
theorem table_rmw_dirty_whole :
    (pairs.filter fun p => p.var == "cc.channel.dirty").all (fun p => p.same) = true := by decide +kernel

/-- **The rest of `cc.channel` (text, cursor, mode) has ONE writer**: only the decoding role writes it, under
`cc.mutex`; a variable no concurrent thread writes cannot lose an update, so the read/write pairs of `vbi_decode ()`
on it that span an event callback (`decodeRegionSplitPairs` of them, field-insensitive) are harmless. -/
theorem table_rmw_cc_text_single_writer :
    (regionWriters.filter fun w => w.var == "cc.channel").all (fun w => !w.multi && w.locked) = true := by decide +kernel

/-- **Raw decoder: add / remove / check services vs. decode** - in every role that runs concurrently with another
(fetch, channel switch, raw decode, services) every write of `cc.channel` / the `vbi3_raw_decoder` that depends on a
read of it lies in the same critical section as the read, and every such write holds the mutex: no check-then-act
across two sections of `rd->mutex`. -/
theorem table_rmw_concurrent_roles_whole :
    regionPairs.all (fun p => p.same) = true ∧ regionWriters.all (fun w => w.locked) = true := by decide +kernel

/-- the extraction is not empty: the decrement and the frame-drop restart are found as one-section pairs -/
theorem table_rmw_nonvacuous :
    (pairs.filter fun p => p.same && p.var == "vbi.chswcd").length ≥ 2 ∧ (remoteWrites "vbi.chswcd").length ≥ 1 ∧
    (pairs.filter fun p => p.var == "cc.channel.dirty").length ≥ 10 ∧ (remoteWrites "cc.channel.dirty").length ≥ 3 ∧
    regionPairs.length ≥ 3 := by decide +kernel

end Zvbi.Props.C20
