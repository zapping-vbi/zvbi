import ZvbiModel.Ttx.FlofLinks
import ZvbiModel.Ttx.Quiet
import ZvbiModel.Fmt.Model
import ZvbiModel.Props.C02
/-!
# Property C02: the FLOF links of packet X/27/0, from the transmitted nibbles to `pg->nav_link`

* `x27_links_filed` (packet.c `parse_27`): a packet X/27 with designation code 0 whose six links are sent as
  EN 300 706 9.6.1 prescribes (page units, page tens, S1, S2 + M1, S3, S4 + M2 + M3; every group Hamming 8/4 decoded
  to the nibble sent) leaves in the page in progress `link[i]` = (magazine of the packet XOR M3M2M1 with 0 -> 8,
  tens, units; sub-code S4S3S2S1) for i = 0..5 and `have_flof` = bit 3 of the link control byte; links 6..
  (designations 1-5), rows, numbers and flags of the page are untouched.
* `nav_link_flof` (teletext.c, navigation block of `vbi_format_vt_page`): which of those links a fetch reports in
  `pg->nav_link[0..5]`.
Byte level: `C02.flof_link_roundtrip` (Hamming 8/4 encode / decode of one link).
-/
namespace Zvbi.Props.C02Flof
open Zvbi.Ttx Zvbi.Hamm

/-- the fields of one link as transmitted -/
structure TxLink where
  pu : Nat
  pt : Nat
  s1 : Nat
  s2 : Nat
  s3 : Nat
  s4 : Nat
  mrel : Nat

def TxLink.ok (k : TxLink) : Prop := k.pu < 16 ∧ k.pt < 16 ∧ k.s1 < 16 ∧ k.s2 < 8 ∧ k.s3 < 16 ∧ k.s4 < 4 ∧ k.mrel < 8

/-- the six nibbles of the link in transmission order -/
def TxLink.nibbles (k : TxLink) : List Nat :=
  [k.pu, k.pt, k.s1, k.s2 ||| ((k.mrel &&& 1) <<< 3), k.s3,
   k.s4 ||| (((k.mrel >>> 1) &&& 1) <<< 2) ||| (((k.mrel >>> 2) &&& 1) <<< 3)]

/-- target page number: magazine relative to the packet's magazine `mag0` (0 = magazine 8) -/
def TxLink.pgno (k : TxLink) (mag0 : Nat) : Nat :=
  (if (mag0 ^^^ k.mrel == 0) = true then 8 else mag0 ^^^ k.mrel) * 256 + (k.pu ||| (k.pt <<< 4))
def TxLink.subno (k : TxLink) : Nat := k.s1 + 16 * k.s2 + 256 * k.s3 + 4096 * k.s4

/-- **x27_links_filed** (see the file header). `cv` = page in progress of magazine `mag0`, `v` = decoded view of the
packet: `v.g8 i` is the Hamming 8/4 value of payload byte `i`. -/
theorem x27_links_filed (cv : Page) (v : View) (mag0 ctl : Nat) (links : Nat → TxLink)
    (hfn : cv.function ≠ FN_DISCARD) (hlen : 6 ≤ cv.link.length)
    (hd : v.g8 0 = some 0) (hc : v.g8 37 = some ctl) (hok : ∀ i, i < 6 → (links i).ok)
    (hn : ∀ i, i < 6 → ∀ k, k < 6 → v.g8 (1 + 6 * i + k) = some ((links i).nibbles.getD k 0)) :
    (parse27 cv v mag0).2 = true
    ∧ (parse27 cv v mag0).1.haveFlof = ctl >>> 3
    ∧ (parse27 cv v mag0).1.link.length = cv.link.length
    ∧ (∀ i, i < 6 → ((parse27 cv v mag0).1.link.getD i Link.ff).pgno = ((links i).pgno mag0 : Int)
        ∧ ((parse27 cv v mag0).1.link.getD i Link.ff).subno = ((links i).subno : Int))
    ∧ (∀ j, 6 ≤ j → (parse27 cv v mag0).1.link.getD j Link.ff = cv.link.getD j Link.ff)
    ∧ (parse27 cv v mag0).1.raw = cv.raw ∧ (parse27 cv v mag0).1.pgno = cv.pgno
    ∧ (parse27 cv v mag0).1.subno = cv.subno ∧ (parse27 cv v mag0).1.flags = cv.flags := by
  obtain ⟨_, s2, s3, s4, s5⟩ := parse27_same cv v mag0
  have hl : ∀ i, i < 6 → unhamPageLink v (1 + 6 * i) mag0 = some ((links i).pgno mag0, (links i).subno) := by
    intro i hi
    obtain ⟨_, _, o3, o4, o5, o6, o7⟩ := hok i hi
    have g := hn i hi
    exact unhamPageLink_nibbles v (1 + 6 * i) mag0 _ _ _ _ _ _ _ o3 o4 o5 o6 o7
      (g 0 (by omega)) (g 1 (by omega)) (g 2 (by omega))
      (by rw [show 1 + 6 * i + 2 + 1 = 1 + 6 * i + 3 from by omega]; exact g 3 (by omega))
      (g 4 (by omega))
      (by rw [show 1 + 6 * i + 4 + 1 = 1 + 6 * i + 5 from by omega]; exact g 5 (by omega))
  obtain ⟨f1, f2, f3⟩ := links_fold v mag0 0 (fun i => (links i).pgno mag0) (fun i => (links i).subno) 6 cv.link hl
    (by omega)
  rw [parse27_des0 cv v mag0 ctl hfn hd hc] at s2 s3 s4 s5 ⊢
  simp only [] at s2 s3 s4 s5 ⊢
  refine ⟨trivial, trivial, f1, ?_, ?_, s5, s2, s3, s4⟩
  · intro i hi
    have := f2 i hi
    simp only [Nat.zero_mul, Nat.zero_add] at this
    exact ⟨this.1, this.2.1⟩
  · intro j hj
    exact f3 j (Or.inr (by omega))

/-- non-vacuity on the model: a page in progress of magazine 1 receives X/27/0 whose first link is 350/0001 sent
    with relative magazine 2 (1 XOR 3); `view` decodes the Hamming bytes -/
example :
    let p : Packet := Zvbi.Props.C02.addrBytes 1 27 ++ [ham8 0] ++
      (List.replicate 6 (Zvbi.Fmt.encLink 0 5 1 0 0 0 2)).flatten ++ [ham8 0xF, 0, 0]
    let r := parse27 { Page.zero with function := FN_LOP } (view Kind.x27a p) 1
    r.2 = true ∧ r.1.haveFlof = 1 ∧ ((r.1.link.getD 0 Link.ff).pgno, (r.1.link.getD 0 Link.ff).subno) = (0x350, 1) := by
  decide +kernel

open Zvbi.Fmt in
/-- **nav_link_flof**: the navigation block of `vbi_format_vt_page` (25 rows, navigation on, no TOP) over the six
links `links` of the cached page.  With `have_flof`: if packet 24 was not received (`flof_navigation_bar`) the
keys red / green / yellow / blue report links 0..3 as filed; if it was (`flof_links`), key `k` reports link `k` when
its page number is not a "no page" xFF and its colour occurs in row 24, otherwise the caller's value stays; the
index key (`nav_link[5]`) is link 5 if it is a valid page 100..899, else the network's initial page; `nav_link[4]`
is never written.  Without `have_flof` keys 0..4 keep the caller's values and the index is the initial page. -/
theorem nav_link_flof (old links : List Fmt.Link) (has24 : Bool) (initial : Fmt.Link) (row24 : List Cell) :
    (∀ k, k < 4 → has24 = false → (navLinks old links true has24 initial row24).getD k ⟨0, 0⟩ = links.getD k ⟨0, 0⟩)
    ∧ (∀ k, k < 4 → has24 = true →
        (navLinks old links true has24 initial row24).getD k ⟨0, 0⟩ =
          if !noPage (links.getD k ⟨0, 0⟩).pgno && (row24.take 40).any (fun c => c.fg &&& 7 == [1, 2, 3, 6].getD k 0)
          then links.getD k ⟨0, 0⟩ else old.getD k ⟨0, 0⟩)
    ∧ (navLinks old links true has24 initial row24).getD 4 ⟨0, 0⟩ = old.getD 4 ⟨0, 0⟩
    ∧ (navLinks old links true has24 initial row24).getD 5 ⟨0, 0⟩ =
        (if decide ((links.getD 5 ⟨0, 0⟩).pgno ≥ 0x100) && decide ((links.getD 5 ⟨0, 0⟩).pgno ≤ 0x899)
            && !noPage (links.getD 5 ⟨0, 0⟩).pgno then links.getD 5 ⟨0, 0⟩ else initial)
    ∧ (∀ k, k < 5 → (navLinks old links false has24 initial row24).getD k ⟨0, 0⟩ = old.getD k ⟨0, 0⟩)
    ∧ (navLinks old links false has24 initial row24).getD 5 ⟨0, 0⟩ = initial := by
  refine ⟨?_, ?_, rfl, rfl, ?_, rfl⟩
  · intro k hk h24
    subst h24
    have : k = 0 ∨ k = 1 ∨ k = 2 ∨ k = 3 := by omega
    rcases this with rfl | rfl | rfl | rfl <;> rfl
  · intro k hk h24
    subst h24
    have : k = 0 ∨ k = 1 ∨ k = 2 ∨ k = 3 := by omega
    rcases this with rfl | rfl | rfl | rfl <;> rfl
  · intro k hk
    have : k = 0 ∨ k = 1 ∨ k = 2 ∨ k = 3 ∨ k = 4 := by omega
    rcases this with rfl | rfl | rfl | rfl | rfl <;> rfl

open Zvbi.Fmt in
example : (navLinks (List.replicate 6 ⟨0, 0⟩) [⟨0x350, 1⟩, ⟨0x1FF, 0⟩, ⟨0x200, 0⟩, ⟨0x300, 0⟩, ⟨0, 0⟩, ⟨0x8FF, 0⟩]
    true false ⟨0x100, 0x3F7F⟩ []) = [⟨0x350, 1⟩, ⟨0x1FF, 0⟩, ⟨0x200, 0⟩, ⟨0x300, 0⟩, ⟨0, 0⟩, ⟨0x100, 0x3F7F⟩] := by
  decide

end Zvbi.Props.C02Flof
