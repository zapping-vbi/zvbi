import ZvbiModel.Search.Cancel
import ZvbiModel.Search.Spec
/-!
# C17, the cancel path of the progress callback (seeded bug C17-g)

`Search/Cancel.lean` models `search_page_fwd` / `search_page_rev` with a progress callback that returns FALSE at every k-th
invocation (`pageP`, `searchNextP`; compared with the real code on every run: op `progress <k>` of the harness, generator
`gen_cancel_case`, and the oracle compares the interrupted pass with the uninterrupted one).  Proved here: what the cancel
block does to the search context - the guard `if (_this != start)` the seeded bug drops.
OPEN (`def cancel_resume_equals_uninterrupted : Prop`, not proved): the reports of an interrupted and resumed pass are
the reports of the uninterrupted pass.
-/
namespace Zvbi.Props.C17Cancel
open Zvbi.Search

/-- **cancel_keeps_cursor.** When the callback cancels while the page returned last is being re-examined (the page is
the start position), the search context stays as it is - start position, cursor `row[] / col[]` behind the occurrence
delivered last - so the resumed call continues behind that occurrence. -/
theorem cancel_keeps_cursor (s : SearchSt) (pgno : Nat) (e : Entry)
    (h : key pgno e.subno = key s.startPgno s.startSubno) : cancelAt s pgno e = s := by
  unfold cancelAt; rw [if_neg (by simpa using h)]

example : cancelAt { startPgno := 0x100, startSubno := 0, row0 := 3, col0 := 7 } 0x100 ⟨0, FUNC_LOP, [], 0⟩ =
    { startPgno := 0x100, startSubno := 0, row0 := 3, col0 := 7 } := cancel_keeps_cursor _ _ _ (by decide)

/-- **cancel_moves_start.** When the callback cancels at any other page, that page becomes the start position and the
cursor is put at the top of the page (rows FIRST_ROW .. LAST_ROW, column 0); stop positions and direction stay. -/
theorem cancel_moves_start (s : SearchSt) (pgno : Nat) (e : Entry)
    (h : key pgno e.subno ≠ key s.startPgno s.startSubno) :
    (cancelAt s pgno e).startPgno = pgno ∧ (cancelAt s pgno e).startSubno = e.subno ∧
    (cancelAt s pgno e).row0 = FIRST_ROW ∧ (cancelAt s pgno e).row1 = LAST_ROW + 1 ∧
    (cancelAt s pgno e).col0 = 0 ∧ (cancelAt s pgno e).col1 = 0 ∧
    (cancelAt s pgno e).dir = s.dir ∧ (cancelAt s pgno e).stopPgno0 = s.stopPgno0 ∧ (cancelAt s pgno e).stopSubno0 = s.stopSubno0 ∧
    (cancelAt s pgno e).stopPgno1 = s.stopPgno1 ∧ (cancelAt s pgno e).stopSubno1 = s.stopSubno1 := by
  unfold cancelAt; rw [if_pos h]; exact ⟨rfl, rfl, rfl, rfl, rfl, rfl, rfl, rfl, rfl, rfl, rfl⟩

example : (cancelAt { startPgno := 0x100, startSubno := 0, row0 := 3, col0 := 7 } 0x101 ⟨0, FUNC_LOP, [], 0⟩).row0 = 1 :=
  (cancel_moves_start _ _ _ (by decide)).2.2.1

/-- **cancel_callback_counts.** The callback is invoked (and can cancel) only for level one pages that pass the stop
test; a page that stops the pass or is not a level one page is handled as without callback and the counter stays. -/
theorem cancel_callback_counts (k : Nat) (sh : Shape) (exec : Exec) (d : Int) (ps : PSt) (pgno : Nat) (e : Entry) (w : Bool)
    (h : ((if d > 0 then stopFwd ps.s pgno e w else stopRev ps.s pgno e w) || decide (e.func ≠ FUNC_LOP)) = true) :
    pageP k sh exec d ps pgno e w =
      ((callbackOf sh exec d ps.s pgno e w).1, { ps with s := (callbackOf sh exec d ps.s pgno e w).2 }) := by
  unfold pageP; simp only [h, if_true]

example : (pageP 1 Shape.repaired (fun _ _ => none) 1 ⟨{}, 0⟩ 0x100 ⟨0, 1, [], 0⟩ false).2.n = 0 := by decide

/-- OPEN, not proved: over a whole pass, the SUCCESS reports of `searchNextP k` calls (cancelled calls resumed) are the
SUCCESS reports of `searchNext` calls.  Judged on the real code by `cancel_oracle` (checks/C17.py) on every run. -/
def cancel_resume_equals_uninterrupted : Prop :=
  ∀ (k : Nat) (sh : Shape) (exec : Exec) (c : Cache) (s0 : SearchSt) (d : Int) (n : Nat), 2 ≤ k →
    ∃ m, (((runNexts sh exec c s0 (List.replicate n d)).takeWhile (fun r => r.1 = .ret SEARCH_SUCCESS)).map (fun r => r.2)) <+:
      ((List.range m).foldl (fun (acc : List (Nat × Nat) × Cache × PSt) _ =>
          let o := searchNextP k sh exec walkFuel acc.2.1 acc.2.2 d
          (if o.1.res = .ret SEARCH_SUCCESS then acc.1 ++ [(o.1.st.pgPgno, o.1.st.pgSubno)] else acc.1, o.1.cache, ⟨o.1.st, o.2⟩))
        ([], c, ⟨s0, 0⟩)).1

end Zvbi.Props.C17Cancel
