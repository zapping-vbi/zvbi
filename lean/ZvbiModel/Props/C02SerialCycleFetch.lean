import ZvbiModel.Props.C02SerialCycle
/-!
# Property C02: the magazine-serial cycle theorem joined with the formatter (`page_roundtrip_cycle_serial_fetch`)

The serial-mode counterpart of `C02Chain.page_roundtrip_cycle_fetch`: what `vbi_fetch_vt_page` returns after a whole
cycle of magazine-serial transmissions of several magazines (`C02SerialCycle.page_roundtrip_cycle_serial`).
-/
namespace Zvbi.Props.C02SerialCycle
open Zvbi.Ttx Zvbi.Hamm Zvbi.Fmt Zvbi.Fmt.L1Spec Zvbi.Props.C02Roundtrip Zvbi.Props.C02Interleave

/-- **page_roundtrip_cycle_serial_fetch**: the serial cycle theorem joined with the formatter.  Under the hypotheses of
`page_roundtrip_cycle_serial`, for the LAST transmission `x` of a page number in the cycle (no later transmission and not
the final header carry that page number): in the state after the final header `vbi_fetch_vt_page` (model `C02.fetch`:
cache look-up, LOP check, Level 1 / 1.5 formatting with default region `region`) with the wildcard sub-code - or the
sub-code the page was filed under - succeeds with the transmitted page number, and every cell of rows 0..24 is
`L1Spec.cell` (EN 300 706 12.2) of a page `q` whose national option bits are the transmitted C12-C14 and whose byte at
(row r, column c), for every row number r received in this transmission, is byte c of a packet r of this transmission. -/
theorem page_roundtrip_cycle_serial_fetch (tmpl : List Nat) (off : Nat)
    (hist : List Packet) (hhist : ∀ p ∈ hist, GoodS tmpl off p)
    (x0 : STx) (xs : List STx) (hx : ∀ x ∈ x0 :: xs, SSegOk tmpl off x)
    (fin : Packet) (mF finPage : Nat) (hmF : mF < 8) (hfa : a16 fin 0 = some mF) (hfp : a16 fin 2 = some finPage)
    (hft : TextOnly fin)
    (halt : AltS ((x0 :: xs).map (·.1.pgno) ++ [mag8Of mF * 256 + finPage])) (region : Nat)
    (pre : List STx) (x : STx) (post : List STx) (e : x0 :: xs = pre ++ x :: post)
    (hlast : ∀ y ∈ post, y.1.pgno ≠ x.1.pgno) (hfinne : mag8Of mF * 256 + finPage ≠ x.1.pgno) :
    let sF := (run (run (init.enable true) hist).1 (sstream (x0 :: xs) ++ [fin])).1
    ∃ q, q.national = rev8 x.1.fl &&& 7
      ∧ (∀ subno, subno = q.subno ∨ subno = ANY_SUBNO →
          ∃ cells, C02.fetch sF region x.1.pgno subno = some (x.1.pgno, q.subno, cells)
            ∧ ∀ row col, row < 25 → col < 40 → cellAt cells row col = L1Spec.cell .lib (C02.pageInOf region q) row col)
      ∧ (∀ r ∈ x.rows, ∃ r' ∈ x.rows, r'.1 = r.1
          ∧ ∀ c, c < 40 → (C02.pageInOf region q).raw (40 * r.1 + c) = r'.2.getD c 0) := by
  intro sF
  obtain ⟨_, hclaims⟩ := page_roundtrip_cycle_serial tmpl off hist hhist x0 xs hx fin mF finPage hmF hfa hfp hft halt
  obtain ⟨q, pt, hF, _, hknown, _⟩ := hclaims pre x post e
  obtain ⟨hqmem, hget⟩ := hknown hlast hfinne
  have hsh := (run_shape (hist ++ (sstream (x0 :: xs) ++ [fin])) _ (init_shape true)).1
  rw [run_append] at hsh
  refine ⟨q, fetched_shown sF hsh region _ _ _ _ _ q hF hqmem (fun r hr => ?_) hget⟩
  obtain ⟨y, hy, rfl⟩ := List.mem_map.mp hr
  exact ⟨((hx x (by rw [e]; simp)).rows y hy).2.1, ((hx x (by rw [e]; simp)).rows y hy).2.2.1⟩

/-- `page_roundtrip_cycle_serial_fetch` APPLIES to the concrete cycle: the second transmission of page 150 (magazine 1,
    the last of that page number) is fetched with the wildcard sub-code, cells = L1Spec of a page whose row 2 is the
    packet sent -/
example : ∃ q cells, C02.fetch (run (run (init.enable true) []).1 (sstream [ser0, ser1, ser2] ++ [hdS 3 0xFF])).1 0 0x150
      ANY_SUBNO = some (0x150, q.subno, cells)
    ∧ ∀ c, c < 40 → (C02.pageInOf 0 q).raw (40 * 2 + c) = 0x45 := by
  obtain ⟨q, _, hfetch, hrows⟩ := page_roundtrip_cycle_serial_fetch serTmpl 8 [] (fun _ h => by cases h) ser0 [ser1, ser2]
    ser_ok (hdS 3 0xFF) 3 0xFF (by decide) (by decide +kernel) (by decide +kernel) (textOnly_of_dec _ (by decide +kernel))
    ⟨by decide, by decide, by decide, trivial⟩ 0 [ser0, ser1] ser2 [] rfl (fun _ h => by cases h) (by decide)
  obtain ⟨cells, hc, _⟩ := hfetch ANY_SUBNO (Or.inr rfl)
  exact ⟨q, cells, hc, shown_replicate 2 0x45 hrows (by decide +kernel) (by decide +kernel)⟩

end Zvbi.Props.C02SerialCycle
