import ZvbiModel.Mux.RawFeed
import ZvbiModel.Mux.PesShape
/-!
# C06 - the fill-up-to-`min_packet_size` path of `generate_pes_packet` behind a raw data unit of maximum size

`generate_pes_packet` computes the stuffing `p_left` on two paths: the data is shorter than `min_packet_size` (fill up),
or it is rounded up to the next multiple of 184.  On BOTH paths one byte may be left behind a raw (monochrome samples)
data unit of 257 bytes, which `encode_stuffing` cannot extend; /repo then adds one more TS payload.
`Zvbi.Gen.muxBumpBothPaths` (translate/gen_muxflags.py, regenerated on every run) says whether the test follows both
paths; `Mux.generatePesRBoth` / `Mux.generatePesRRound` are the two source shapes, `Mux.generatePesR` is the one of the
tree under test.  The general well-formedness theorems (`Props/C06Raw.lean mux_wellformed_raw`, `mux_carries_input_raw`,
`stuffing_completes_repaired`) quantify over every configuration, hence over both paths; the theorems here single the
fill path out and show that the other source shape violates the property.
-/
namespace Zvbi.Props.C06Fill
open Zvbi.Mux Zvbi.Mux.EnParse Zvbi.Mux.RawSpec

/-- The tree under test applies the test `1 == p_left && last_du_size >= 257` after both size branches: the model the
    raw-line theorems speak about (`generatePesRBoth`) is the function the correspondence driver runs (`generatePesR`).
    On a tree where the test was moved into the round-up branch this theorem (and `Mux/PesShape.lean`) stops building. -/
theorem source_applies_257_test_on_both_paths (keep : Bool) (cfg : Cfg) (st : RawSt) (lines : List Sliced) (mask : Nat)
    (raw : Option Bytes) (sp : Option Sp) (pts : Nat) :
    Zvbi.Gen.muxBumpBothPaths = true
    ∧ generatePesR keep cfg st lines mask raw sp pts = generatePesRBoth keep cfg st lines mask raw sp pts :=
  ⟨bump_both_paths, generatePesR_both keep cfg st lines mask raw sp pts⟩

/-- Fill path, every configuration and frame (repaired shape): when the loop of `generate_pes_packet` converted the whole
    frame into `out`, the data unit stored last has the maximum size 257 and header + data end exactly ONE byte before
    `min_packet_size`, the packet is `min_packet_size + 184` bytes: header, the data units UNCHANGED (the raw unit is not
    touched), and one stuffing data unit of 185 bytes (`FF B7 FF..FF`). -/
theorem fill_path_one_byte_after_full_unit (cfg : Cfg) (st st' : RawSt) (hst : st.left = 0) (lines : List Sliced) (mask : Nat)
    (raw : Option Bytes) (sp : Option Sp) (pts : Nat) (out : Bytes) (du : Nat) (hdu : du ≥ 257)
    (hgl : genLoopR true mask (fixedLengthFormat cfg.dataId) raw sp (lines.length + 1) (cfg.maxSize - 46) 0 0 st lines
      = .ok (out, du, [], st'))
    (hfix : fixedLengthFormat cfg.dataId = false) (hone : 46 + out.length + 1 = cfg.minSize) :
    generatePesR true cfg st lines mask raw sp pts
      = .ok (pesHeader (cfg.minSize + 184) pts cfg.dataId ++ out ++ stuffUnit 185, [], st') := by
  have hfill : pesFill cfg out.length = 1 := by unfold pesFill; rw [if_pos (by omega)]; omega
  have hbump : (if true = true ∧ pesFill cfg out.length = 1 ∧ du ≥ 257 then pesFill cfg out.length + 184 else pesFill cfg out.length)
      = 185 := by rw [if_pos ⟨rfl, hfill, hdu⟩, hfill]
  rw [generatePesR_eq true cfg st hst, hgl]
  dsimp only
  rw [hbump, hfix, encodeStuffing_small out 185 du (by decide) (by decide)]
  dsimp only
  rw [show 46 + out.length + 185 = cfg.minSize + 184 by omega, List.append_assoc]

/-! ### the witness (replay on the real code: corpus/C06/minfill-raw257-one-byte.ops) -/

def fillSp : Sp := { offset := 132, spl := 251, start0 := 0, count0 := 0, start1 := 334, count1 := 3 }
def fillRaw : Bytes := (List.range (3 * 251)).map fun k => (3 + 7 * k) % 256
def fillLine (id line : Nat) : Sliced := ⟨id, line, List.replicate 42 0x15⟩
/-- 46 + 2 * 46 + 5 + 5 + 3 * 257 = 919 = 920 - 1 -/
def fillFrame : List Sliced :=
  [fillLine 3 7, fillLine 3 8, ⟨8, 21, [0x15, 0x15]⟩, ⟨0x400, 23, [0x15, 0x15]⟩,
   fillLine SL_VBI625 334, fillLine SL_VBI625 335, fillLine SL_VBI625 336]
def fillCfg : Cfg := { dataId := 0x99, minSize := 920, maxSize := 65504 }

/-- what is looked at: packet size, whether the independent reader of EN 301 775 accepts it, the first six bytes of the
    raw data unit stored last (id, data_unit_length, flags/line, first_pixel_position, n_pixels), the bytes from the last
    two samples of that unit on -/
def look (r : Except (RErr × List Sliced) (Bytes × List Sliced × RawSt)) : Option (Nat × Bool × Bytes × Bytes) :=
  r.toOption.map fun x => (x.1.length, (parsePesR x.1).isSome, (x.1.drop (919 - 257)).take 6, (x.1.drop 917).take 6)

/-- Source shape with the test inside the round-up branch (seeded change C06-e): the frame is accepted as a packet of
    `min_packet_size` = 920 bytes that is NOT a well-formed PES packet - `encode_stuffing (p, 1, 257)` rewrote the raw
    unit's data_unit_length to 254 (with n_pixels still 251) and the unit's last sample (147) became a data_unit_id. -/
theorem minfill_moved_counterexample :
    look (generatePesRRound true fillCfg {} fillFrame 0xFFFFFFFF (some fillRaw) (some fillSp) 1000)
      = some (920, false, [0xC6, 254, 0xC0 + 23, 0, 0, 251], [140, 147, 0]) := by decide +kernel

/-- /repo's shape: the same frame becomes a packet of 920 + 184 bytes which the reader accepts; the raw unit is untouched
    (data_unit_length 255) and followed by one stuffing unit of 185 bytes. -/
theorem minfill_both_paths :
    look (generatePesRBoth true fillCfg {} fillFrame 0xFFFFFFFF (some fillRaw) (some fillSp) 1000)
      = some (1104, true, [0xC6, 255, 0xC0 + 23, 0, 0, 251], [140, 147, 0xFF, 183, 0xFF, 0xFF])
    ∧ (feedR true { mux := { cfg := fillCfg } } fillFrame 0xFFFFFFFF (some fillRaw) (some fillSp) 1000).2.ok = true := by
  decide +kernel

/-! non-vacuity of `fill_path_one_byte_after_full_unit`: the witness meets its hypotheses -/
example : (genLoopR true 0xFFFFFFFF (fixedLengthFormat fillCfg.dataId) (some fillRaw) (some fillSp)
      (fillFrame.length + 1) (fillCfg.maxSize - 46) 0 0 {} fillFrame).toOption.map
        (fun r => (r.2.1, r.2.2.1, 46 + r.1.length + 1, fixedLengthFormat fillCfg.dataId))
    = some (257, [], fillCfg.minSize, false) := by decide +kernel

end Zvbi.Props.C06Fill
