/-
C01, subtitle language bookkeeping: every value the decoder stores in `ttx_page_stat.charset_code` is 0xFF or a valid index of
`vbi_font_descriptors[]`, for every X/28 / M/29 designation, every national option and every history; the readers
(vbi_classify_page, cache_network_get_ttx_page_stat) never leave the table.  Model: Dec/Lang.lean, facts regenerated by
translate/gen_c01lang.py (statement shape of page_language, VALID_CHARACTER_SET, the 0xFF tests, every reader / writer of
the field, extent and G0 column of the font table).  Seeded C01-k (raw designation returned unvalidated) is the
`rawFallback` shape: the counterexample theorems below are its witnesses, and with that shape regenerated
`page_language_shape_in_source` does not build.
-/
import ZvbiModel.Dec.LangLemmas

namespace Zvbi.Props.C01Lang
open Zvbi.Gen.C01Lang Zvbi.Dec.Lang

/-- The current packet.c page_language() validates BOTH candidates (designation, national variant) with
VALID_CHARACTER_SET before returning them, else returns -1; the macro reads the table only below its extent; the table has
`fontLen` rows; unknown is 0xFF = all ones of the 8-bit field in ttx_page_stat_init, store_lop's test and both readers. -/
theorem page_language_shape_in_source :
    pageLanguageShape = .validated ∧ fontHasG0.length = fontLen ∧ (∀ n, validInTable n = true → n < fontLen) ∧
    initCode = 2 ^ codeBits - 1 ∧ storeLopGuard = initCode ∧ classifyGuard = initCode ∧ statGuard = initCode ∧
    fontLen ≤ initCode := by
  exact ⟨by decide, fontHasG0_length, validInTable_lt, by decide, by decide, by decide, by decide, by decide⟩

example : validInTable 87 = true ∧ validInTable 88 = false := by decide

/-- VALID_CHARACTER_SET never reads outside `vbi_font_descriptors[]`, for EVERY argument, and where it holds the argument
is a table index with a G0 set. -/
theorem valid_character_set_in_range (n : Nat) :
    ∃ b, validSet n = some b ∧ (b = true → n < fontLen ∧ fontHasG0[n]? = some true) :=
  validSet_spec n

example : validSet 33 = some true ∧ validSet 40 = some false ∧ validSet 120 = some false := by decide

/-- page_language() (validated shape): for EVERY designation `d` (any non-negative int, not only the 7 bits X/28 / M/29
carry), every national option and page function, no table read is out of range and the result is -1 or a valid index of
the font table. -/
theorem page_language_result (isLop : Bool) (d n : Nat) :
    ∃ r, pageLanguage .validated isLop d n = some r ∧
      (r = -1 ∨ ∃ c : Nat, r = (c : Int) ∧ c < fontLen ∧ fontHasG0[c]? = some true) :=
  pageLanguage_spec isLop d n

example : pageLanguage .validated true 32 1 = some 33 ∧ pageLanguage .validated true 120 3 = some (-1)
    ∧ pageLanguage .validated false 0 0 = some (-1) := by decide

/-- What the assignment `ps->charset_code = page_language (...)` leaves in the 8-bit field: 0xFF or a valid table index. -/
theorem stored_charset_code_valid (isLop : Bool) (d n : Nat) :
    ∃ r, pageLanguage .validated isLop d n = some r ∧ CodeOK (toField r) :=
  stored_ok isLop d n

example : CodeOK 33 ∧ CodeOK 255 ∧ ¬ CodeOK 120 ∧ ¬ CodeOK 40 := by
  refine ⟨Or.inr (by decide), Or.inl (by decide), ?_, ?_⟩ <;>
    (intro h; rcases h with h | h <;> revert h <;> decide)

/-- The designations the standard leaves undefined (88 .. 127 of the 7-bit field): all eight national variants are
undefined as well, the stored code is "unknown" - for every one of them (complete finite domain). -/
theorem undefined_designation_gives_unknown :
    ∀ d, d < 2 ^ charsetBits → fontLen ≤ d → ∀ n, n ≤ nationalMask →
      (pageLanguage .validated true d n).map toField = some initCode :=
  fun d _ hd n _ => by rw [pageLanguage_undefined true hd n]; exact congrArg some toField_neg1

example : (2 : Nat) ^ charsetBits = 128 ∧ nationalMask = 7 := by decide

/-- Reader 2 (cache.c cache_network_get_ttx_page_stat -> vbi_ttx_charset_from_code) validates by itself: in range for
EVERY byte in the field, also for one that violates the invariant. -/
theorem page_stat_reader_in_range (code : Nat) :
    ∃ r, statRead code = some r ∧ ∀ i, r = some i → i < fontLen :=
  statRead_ok code

example : statRead 120 = some none ∧ statRead 33 = some (some 33) ∧ statRead 255 = some none := by decide

/-- MAIN: for EVERY history of MIP / BTT subtitle entries, page receptions, resets, vbi_classify_page and page_stat queries
- with any designation, national option and page function at every event - run on the CURRENT source shape: no read
outside `vbi_font_descriptors[]` happens, and afterwards every page's `charset_code` is 0xFF or a valid table index
(VALID_CHARACTER_SET). -/
theorem charset_code_valid_all_histories (ops : List Op) :
    ∃ s, run pageLanguageShape St.init ops = some s ∧ ∀ p, CodeOK (s.code p) := by
  rw [page_language_shape_in_source.1]
  exact run_inv ops St.init (fun _ => Or.inl rfl)

example : (run pageLanguageShape St.init [.setLang 0x100 true 32 1, .classify 0x100, .setLangIfUnknown 0x100 true 0 0,
    .setLang 0x101 true 120 0, .classify 0x101, .stat 0x101]).map (fun s => (s.code 0x100, s.code 0x101)) = some (33, 255) := by decide

/-- vbi_classify_page after any history: the index it uses is inside the table (or the language is unknown). -/
theorem classify_index_in_range (ops : List Op) (p : Nat) :
    ∃ s r, run pageLanguageShape St.init ops = some s ∧ classifyRead (s.code p) = some r ∧ ∀ i, r = some i → i < fontLen := by
  obtain ⟨s, hs, ok⟩ := charset_code_valid_all_histories ops
  obtain ⟨r, hr, hi⟩ := classifyRead_ok (s.code p) (ok p)
  exact ⟨s, r, hs, hr, hi⟩

example : classifyRead 33 = some (some 33) ∧ classifyRead 255 = some none := by decide

/-- Counterexample for the raw-fallback shape (seeded C01-k): EVERY undefined designation 88 .. 127 with EVERY national
option is stored as it is, and the next vbi_classify_page reads `vbi_font_descriptors[d]` outside the table
(complete finite domain: 40 designations x 8 options). -/
theorem raw_fallback_counterexample :
    ∀ d, d < 2 ^ charsetBits → fontLen ≤ d → ∀ n, n ≤ nationalMask →
      (pageLanguage .rawFallback true d n).map toField = some d ∧
      (run .rawFallback St.init [.setLang 0x100 true d n, .classify 0x100]).isNone = true := by
  intro d hd hl n _
  have h128 : 2 ^ charsetBits = 128 := rfl
  -- page_language returns `d`, the 8-bit field holds it unchanged, and `d` is neither 0xFF nor a table index
  have hf : toField (d : Int) = d := toField_of_lt d (Nat.lt_trans hd (by decide))
  have hc : classifyRead d = none := classifyRead_outside hl (by simp only [classifyGuard]; omega)
  simp [run, step, pageLanguage_raw hl n, hf, St.set, hc]

/-- the witness of the replay corpus/C01/lang-undefined-charset-subtitle.ops: M/29/0 designating 120, page 100 marked as
subtitle page, classify -/
theorem raw_fallback_witness_120 :
    (run .rawFallback St.init [.setLang 0x100 true 120 0]).map (fun s => s.code 0x100) = some 120 ∧
    classifyRead 120 = none ∧
    (run .validated St.init [.setLang 0x100 true 120 0, .classify 0x100]).map (fun s => s.code 0x100) = some 255 := by
  decide

end Zvbi.Props.C01Lang
