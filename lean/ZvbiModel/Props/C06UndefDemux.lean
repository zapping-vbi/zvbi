import ZvbiModel.Mux.UndefJoin
import ZvbiModel.Mux.NullFeed
/-!
# C06 - the demultiplexer's half for lines with the undefined line number 0, packet level

`mux_demux_roundtrip_undef_full` (`Props/C06Join.lean`) stays OPEN as a whole.  Proved here, for ALL accepted frames
without raw line requests (Teletext lines with line number 0 anywhere but first, any mask, both formats, any packet size
range, PES or TS) and both shapes of the demultiplexer's `line_address`: `extract_data_units` of dvb_demux.c (model
`Demux.extract`), started on the data unit region of the frame's PES packet with an empty frame buffer, returns 0 and has
stored exactly the selected lines in order - service id, line number (0 for the undefined ones), payload bits - i.e. no
unit is refused with "illegal line order" and no frame boundary is seen inside the packet.  The chain:
`undef_field_parity_ascends` (multiplexer: field parities never go back) + `generatePes_defasc` (defined line
numbers ascend) => `contUnits_of_fields` => `C06UD.extractLoop_stores_cont` (`line_address`' line_offset-0 branch).
What is still missing for the full statement: carrying this through `demux_pes_packet_frame` / `vbi_dvb_demux_feed` over
whole streams (frame boundary between packets by the first defined line, PTS, any partition of the input), which C07's
`Demux/Join{Frame,Packet,Stream}.lean` do for frames of defined lines (`AscFrom`) only.
-/
namespace Zvbi.Props.C06UndefDemux
open Zvbi.Mux Zvbi.Mux.EnParse
open Zvbi.Demux (SrcCfg Frame extract extractLoop ofLine XR)
open Zvbi.C06UD (ContUnits)

/-- The demultiplexer's half of `mux_demux_roundtrip_undef_full` at packet level.
Any reachable configuration, any accepted frame without raw line requests whose first selected line has a defined line
number (lines with line number 0 anywhere else), at most 64 selected lines; any frame buffer as it is when a frame begins
(no lines, `last_frame_line` = 0, first field, no unit of the packet extracted; `last_data_unit_id` arbitrary); both
shapes of `line_address` (`cfg`): `extract_data_units` on the data unit region of the packet returns 0 with the whole
region consumed and the frame buffer holding exactly the selected lines in order (`Demux.ofLine`: libzvbi's service
id, the line number - 0 for the undefined ones -, the payload bits). -/
theorem demux_extract_undef_packet_partial (cfg : SrcCfg) (m : Mux) (hc : CfgOK m.cfg) (lines : List Sliced)
    (hwf : ∀ s ∈ lines, Sliced.WF s) (hnr : NoRaw lines) (mask pts : Nat)
    (hok : (feed m lines mask pts 0).2.ok = true)
    (hfirst : ∀ l ∈ (sent mask lines).head?, l.line ≠ 0) (hcap : (sent mask lines).length ≤ 64)
    (f : Frame) (hfl : f.lines = []) (hll : f.lastFrameLine = 0) (hlf : f.lastField = 0) (hnd : f.nDu = 0) :
    ∃ pes f', generatePes m.cfg lines mask pts = .ok (pes, [])
      ∧ (m.cfg.pid = 0 → (feed m lines mask pts 0).2.calls = [some pes])
      ∧ extract cfg f (pes.drop 46) = (f', XR.done, [])
      ∧ f'.lines = (sent mask lines).map ofLine := by
  obtain ⟨pes, hg, hpes, _⟩ := feed_accepted m lines mask pts hok
  obtain ⟨us, henc, hul, hcont, _⟩ := generatePes_contUnits m.cfg hc lines mask pts hwf hnr pes hg hfirst
  obtain ⟨_, hmod, hmin, _, _⟩ := generatePes_ok m.cfg hc lines mask pts hwf hnr pes hg
  have hlen : 2 ≤ (pes.drop 46).length := by
    have := hc.min184
    simp only [List.length_drop]; omega
  obtain ⟨f', he, hl⟩ := Zvbi.C06UD.extractLoop_stores_cont (cfg := cfg) us (sent mask lines) f
    ((pes.drop 46).length + 1) hul (by rw [hll, hlf, hnd]; exact hcont) (by rw [hfl]; simpa using hcap) (by rw [henc]; omega)
  refine ⟨pes, f', hg, fun hp => (hpes hp).1, ?_, ?_⟩
  · rw [Zvbi.Demux.extract_eq f _ hlen]
    rw [henc] at he ⊢
    exact he
  · rw [hl, hfl]; rfl

/-- One level up: `demux_pes_packet_frame` (model `Demux.pesPacketFrame`, callback
installed) on the data unit region of the packet of ANY accepted frame without raw line requests whose first selected line
is defined (undefined lines anywhere behind it), any frame / PTS state `fs`, both shapes of `line_address`:
* at a frame start (`new_frame`, the state after `vbi_dvb_demux_new` / reset / a delivered frame): nothing is delivered,
  the frame buffer then holds exactly the selected lines (the undefined ones with line number 0) and the packet's PTS;
* with a frame under assembly whose last defined line is not below the packet's first line (the property's "non-increasing
  line number"): exactly that frame is delivered, with its own PTS and lines, and the buffer then holds the new frame.
In both cases the whole region is consumed without an error ("illegal line order" included). -/
theorem demux_frame_undef_partial (cfg : SrcCfg) (m : Mux) (hc : CfgOK m.cfg) (lines : List Sliced)
    (hwf : ∀ s ∈ lines, Sliced.WF s) (hnr : NoRaw lines) (mask pts : Nat)
    (hok : (feed m lines mask pts 0).2.ok = true)
    (l : Line) (ls : List Line) (hs : sent mask lines = l :: ls) (h0 : l.line ≠ 0) (hcap : (l :: ls).length ≤ 64)
    (se : Bool) (fs : Zvbi.Demux.FS) :
    ∃ pes, generatePes m.cfg lines mask pts = .ok (pes, [])
      ∧ (fs.newFrame = true →
          ∃ fs', Zvbi.Demux.pesPacketFrame cfg 3 true se fs (pes.drop 46) = (fs', [], .done, [])
            ∧ fs'.newFrame = false ∧ fs'.frame.lines = (l :: ls).map ofLine ∧ fs'.framePts = fs.packetPts
            ∧ fs'.packetPts = fs.packetPts)
      ∧ (fs.newFrame = false → fs.frame.nDu = 0 → (cfg.lateOverflow = true ∨ fs.frame.lines.length < 64) →
          l.line ≤ fs.frame.lastFrameLine →
          ∃ fs', Zvbi.Demux.pesPacketFrame cfg 3 true se fs (pes.drop 46)
              = (fs', [⟨fs.framePts, fs.frame.lines⟩], .done, [])
            ∧ fs'.newFrame = false ∧ fs'.frame.lines = (l :: ls).map ofLine ∧ fs'.framePts = fs.packetPts
            ∧ fs'.packetPts = fs.packetPts) := by
  obtain ⟨pes, hg, _, _⟩ := feed_accepted m lines mask pts hok
  obtain ⟨us, henc, hul, hcont, hhead⟩ := generatePes_contUnits m.cfg hc lines mask pts hwf hnr pes hg
    (by rw [hs]; intro x hx; cases hx; exact h0)
  obtain ⟨u, us', rfl, hu⟩ := hhead l ls hs
  rw [hs] at hul
  refine ⟨pes, hg, fun hnf => ?_, fun hnf hn hfull hle => ?_⟩ <;> rw [henc]
  · exact Zvbi.C06UD.pesPacketFrame_first_cont 2 se fs (u :: us') (l :: ls) hnf (List.cons_ne_nil _ _) hul hcont hcap
  · exact Zvbi.C06UD.pesPacketFrame_next_cont se fs u us' l (l :: ls) hnf hn hfull hu h0 hle hul hcont hcap

/-! non-vacuity: a frame with undefined lines behind lines of both fields; the demultiplexer's `extract` stores all four -/
def exLine (id line fill : Nat) : Sliced := ⟨id, line, List.replicate 56 fill⟩
def exFrame : List Sliced := [exLine 3 7 1, exLine 3 0 2, exLine 3 320 3, exLine 3 0 4]

example : (feed newPes exFrame 3 5 0).2.ok = true ∧ (∀ l ∈ (sent 3 exFrame).head?, l.line ≠ 0)
    ∧ (sent 3 exFrame).map (·.line) = [7, 0, 320, 0] := by decide +kernel

example : ((feed newPes exFrame 3 5 0).2.calls.head?.bind id).map
      (fun pes => ((extract SrcCfg.current {} (pes.drop 46)).1.lines.map fun l => (l.id, l.line, l.data.take 1),
                   (extract SrcCfg.current {} (pes.drop 46)).2.1))
    = some ([(3, 7, [1]), (3, 0, [2]), (3, 320, [3]), (3, 0, [4])], XR.done) := by decide +kernel

/-- what hypothesis `hfirst` excludes: a frame that BEGINS with an undefined line.  The multiplexer sends it (first field: its
`last_line` is 0 there) and `extract` stores it, but its separation from the frame before is not recognisable "by a
non-increasing line number" -/
example : ((feed newPes [exLine 3 0 9, exLine 3 7 1] 3 5 0).2.calls.head?.bind id).map
      (fun pes => (extract SrcCfg.current {} (pes.drop 46)).1.lines.map fun l => (l.id, l.line))
    = some [(3, 0), (3, 7)] := by decide +kernel

/-- three such frames through the whole model of `vbi_dvb_demux_feed`: the first two come back with their undefined lines
(line number 0) in place and their PTS, the third is held -/
example : ((Zvbi.Demux.frames SrcCfg.current (run newPes [.frame exFrame 3 5, .frame exFrame 3 6, .frame exFrame 3 7]).2.1).map
      fun f => (f.pts, f.lines.map (·.line))) = [(5, [7, 0, 320, 0]), (6, [7, 0, 320, 0])] := by decide +kernel

end Zvbi.Props.C06UndefDemux
