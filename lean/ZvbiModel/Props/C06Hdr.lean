import ZvbiModel.Mux.LemmasPes
import ZvbiModel.Generated.MuxConsts
/-!
# C06 - PES header fields: the PTS coding and the header constants read from the source

`encode_timestamp` writes the 33-bit PTS in the layout of ISO 13818-1 2.4.3.7
(`'0010' PTS[32..30] 1 PTS[29..15] 1 PTS[14..0] 1`); `init_pes_packet_header` / `generate_pes_packet` write the
constants of EN 301 775 4.3.  `Zvbi.Gen.MuxConsts` is regenerated from src/dvb_mux.c and src/dvb.h on every run by
translate/gen_muxconsts.py; the theorems below tie the model (`Mux.pesHeader`, `Mux.encodeTimestamp`,
`Mux.setDataIdentifier`) to those values, so that a changed constant in the source stops this module from building.
-/
namespace Zvbi.Props.C06Hdr
open Zvbi.Mux Zvbi.Mux.EnParse
open Zvbi.Gen

/-- The five PTS bytes have the ISO 13818-1 layout, for EVERY value of the `int64_t` argument (`u` = its two's complement):
    with `v = u mod 2^33`: `0010 v[32..30] 1`, `v[29..22]`, `v[21..15] 1`, `v[14..7]`, `v[6..0] 1` - the prefix `0010`
    ("PTS only") and the three marker bits are set whatever the value. -/
theorem pts_field_layout (u : Nat) :
    encodeTimestamp u
      = [0x20 + (u % 2 ^ 33 / 2 ^ 30) * 2 + 1, u % 2 ^ 33 / 2 ^ 22 % 256, (u % 2 ^ 33 / 2 ^ 15 % 128) * 2 + 1,
         u % 2 ^ 33 / 2 ^ 7 % 256, (u % 2 ^ 33 % 128) * 2 + 1] :=
  encodeTimestamp_layout u

/-- PTS round trip, all values including wrap-around: for every `int64_t pts` (negative ones as two's complement) the
    reader of ISO 13818-1 gets back `pts mod 2^33` from the bytes `encode_timestamp` wrote - prefix and marker bits accepted. -/
theorem pts_roundtrip (pts : Int) :
    parsePts (encodeTimestamp (pts % 18446744073709551616).toNat) = some (pts % 8589934592).toNat := by
  rw [parsePts_encodeTimestamp]
  congr 1
  simp only [Nat.reducePow]
  omega

/-- the same for the model's argument (a natural number): every value, reduced mod 2^33 -/
theorem pts_roundtrip_nat (u : Nat) : parsePts (encodeTimestamp u) = some (u % 2 ^ 33) := parsePts_encodeTimestamp u

/-- Wrap-around is exact: two PTS values get the same five bytes exactly when they agree mod 2^33 (bits 33..63 of the
    argument never reach the packet, bits 0..32 all do). -/
theorem pts_wrap (u v : Nat) : encodeTimestamp u = encodeTimestamp v ↔ u % 2 ^ 33 = v % 2 ^ 33 := by
  constructor
  · intro h
    have := congrArg parsePts h
    rw [parsePts_encodeTimestamp, parsePts_encodeTimestamp] at this
    exact Option.some.inj this
  · intro h
    rw [pts_field_layout u, pts_field_layout v, h]

/-- `encode_timestamp` of the model is the C function with the shift counts, masks and the mark 0x21 the translator
    read from the source -/
theorem timestamp_code_from_source (u : Nat) :
    encodeTimestamp u
      = [ (MuxConsts.ptsMark + ((u >>> MuxConsts.tsS0) &&& MuxConsts.tsM0)) % 256,
          ((u % 2 ^ 32) >>> MuxConsts.tsS1) % 256,
          (((u % 2 ^ 32) >>> MuxConsts.tsS2) ||| MuxConsts.tsO2) % 256,
          ((u % 2 ^ 32) >>> MuxConsts.tsS3) % 256,
          ((u % 2 ^ 32) * MuxConsts.tsK4 + MuxConsts.tsO4) % 256 ] := rfl

/-- The 46 header bytes of the model are the bytes the source stores: every `mx->packet[4 + i] = v` of
    `init_pes_packet_header` (start code prefix 00 00 01, stream_id PRIVATE_STREAM_1, flags 0x84 0x80,
    PES_header_data_length 0x24), PES_packet_length = size - 6 big endian at 4 / 5, the PTS at 9, 0xFF up to the
    data_identifier at 45, first data unit at 46 - positions and values as read by translate/gen_muxconsts.py. -/
theorem header_fields_from_source (size pts did : Nat) :
    (pesHeader size pts did).length = MuxConsts.headerSize ∧ MuxConsts.firstUnitAt = MuxConsts.headerSize
    ∧ (∀ p ∈ MuxConsts.headerStores, (pesHeader size pts did).getD p.1 0 = p.2)
    ∧ (pesHeader size pts did).getD MuxConsts.lenHiAt 0 = ((size - MuxConsts.lenBias) >>> MuxConsts.lenShift) % 256
    ∧ (pesHeader size pts did).getD MuxConsts.lenLoAt 0 = (size - MuxConsts.lenBias) % 256
    ∧ ((pesHeader size pts did).drop MuxConsts.ptsAt).take 5 = encodeTimestamp pts
    ∧ MuxConsts.stuffAt = MuxConsts.ptsAt ∧ MuxConsts.stuffAt + MuxConsts.stuffLen = MuxConsts.dataIdAt
    ∧ ((pesHeader size pts did).drop (MuxConsts.ptsAt + 5)).take (MuxConsts.stuffLen - 5)
        = List.replicate (MuxConsts.stuffLen - 5) MuxConsts.stuffVal
    ∧ (pesHeader size pts did).getD MuxConsts.dataIdAt 0 = did % 256
    ∧ PRIVATE_STREAM_1 = MuxConsts.privateStream1 ∧ MAX_PES = MuxConsts.maxPesPacketSize := by
  refine ⟨length_pesHeader size pts did, rfl, ?_, ?_, ?_, ?_, rfl, rfl, ?_, ?_, rfl, rfl⟩
  · intro p hp
    simp only [MuxConsts.headerStores, List.mem_cons, List.not_mem_nil, or_false] at hp
    rcases hp with h | h | h | h | h | h | h <;> subst h <;> rfl
  · rfl
  · rfl
  · rfl
  · rfl
  · rfl

/-- `vbi_dvb_mux_set_data_identifier` accepts exactly the values in the two ranges read from the source, and these are
    exactly the values the independent reader takes as a VBI data_identifier (EN 301 775 table 2: 0x10..0x1F, 0x99..0x9B). -/
theorem data_identifier_ranges_from_source (m : Mux) (d : Nat) :
    ((setDataIdentifier m d).2 = true ↔ ∃ r ∈ MuxConsts.dataIdRanges, r.1 ≤ d ∧ d < r.2)
    ∧ ((setDataIdentifier m d).2 = true ↔ validDataId d = true) := by
  have key : (setDataIdentifier m d).2 = true ↔ (d ≥ 0x10 ∧ d < 0x20) ∨ (d ≥ 0x99 ∧ d < 0x9C) := by
    unfold setDataIdentifier
    split
    · exact ⟨fun _ => ‹_›, fun _ => rfl⟩
    · exact ⟨nofun, fun h => absurd h ‹_›⟩
  rw [key]
  unfold validDataId
  simp only [MuxConsts.dataIdRanges, List.mem_cons, List.not_mem_nil, or_false, exists_eq_or_imp, exists_eq_left,
    Bool.or_eq_true, Bool.and_eq_true, decide_eq_true_eq]
  -- the ranges as the source writes them; `d < 0x20` is `d ≤ 0x1F`, `d < 0x9C` is `d ≤ 0x9B`
  exact ⟨trivial, by omega⟩

/-! non-vacuity: PTS values around the wrap, a negative `int64_t` -/
example : parsePts (encodeTimestamp (2 ^ 33 - 1)) = some (2 ^ 33 - 1) ∧ parsePts (encodeTimestamp (2 ^ 33)) = some 0
    ∧ parsePts (encodeTimestamp (2 ^ 33 + 5)) = some 5 := by decide
example : ((-1 : Int) % 18446744073709551616).toNat = 2 ^ 64 - 1 ∧ ((-1 : Int) % 8589934592).toNat = 2 ^ 33 - 1 := by decide
example : encodeTimestamp 0 = [0x21, 0, 1, 0, 1] ∧ encodeTimestamp (2 ^ 33 - 1) = [0x2F, 0xFF, 0xFF, 0xFF, 0xFF] := by decide
example : (pesHeader 184 0 0x10).take 9 = [0, 0, 1, 0xBD, 0, 178, 0x84, 0x80, 0x24] := by decide
example : (setDataIdentifier newPes 0x99).2 = true ∧ (setDataIdentifier newPes 0x9C).2 = false := by decide

end Zvbi.Props.C06Hdr
