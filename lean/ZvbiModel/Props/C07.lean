import ZvbiModel.Demux.LemmasFeed
import ZvbiModel.Demux.LemmasLock
import ZvbiModel.Demux.LemmasForget
import ZvbiModel.Demux.LemmasCor
import ZvbiModel.Mux.Spec
import ZvbiModel.Demux.Ts
import ZvbiModel.Demux.LemmasTs
import ZvbiModel.Demux.LemmasTsSafe
import ZvbiModel.Demux.LemmasTsCont
/-!
# C07 - DVB demux output depends only on the byte stream and recovers after damage

Property theorems, the defs their statements need, and the evaluation `afterOverflow_at`; helper lemmas are in `ZvbiModel/Demux/Lemmas*.lean`.
Model: `ZvbiModel/Demux/Model.lean` (PES path, `wrap_around`, frame assembly), spec:
`ZvbiModel/Demux/Spec.lean` (`arun`, `frames`: the demultiplexer as a function of the concatenated
stream, no buffers, no calls).  Bytes are `Nat`s; the C code reads `uint8_t`.

The full-strength statements as first written are `def ..._full : Prop` at the end (never used as
hypotheses; the check lists them under `open_statements`); what is proved of each is said there.
-/
namespace Zvbi.Props.C07
open Zvbi.Demux

variable (cfg : SrcCfg)

/-- **wrap_window.** `wrap_around` (any skip, any lookahead, any split of the data between the wrap
buffer and the caller's buffer, at any source offset - coroutine re-entry included) never touches
memory outside the two buffers (`WrapSpec` is `False` on `.fault`), and
* when it returns TRUE the window `dst .. scan_end + lookahead` is a prefix, at least `lookahead`
  long, of the logical stream `unconsumed wrap bytes ++ rest of the caller's buffer` after the
  skip; nothing of that stream is lost (`WrapWin.rest`) and the skip counter is 0;
* when it returns FALSE the whole buffer was consumed, the skip was applied to the logical stream,
  the remaining skip is carried, and too few bytes are left for the lookahead (`WrapMore`).
`hist` is what was fed before: the unconsumed wrap bytes are a suffix of the bytes already seen,
which is what makes the "window inside the caller's buffer" shortcut sound. -/
theorem wrap_window (w : Wrap) (buf hist : Bytes) (si srcSize : Nat)
    (hlo : w.leftover ≤ w.wb.length) (hsi : si ≤ buf.length) (hsz : srcSize ≤ buf.length)
    (hla : 0 < w.lookahead) (hcap : w.lookahead ≤ PES_BUF_SIZE)
    (hsuf : w.pend <:+ hist ++ buf.take si) :
    WrapSpec w buf hist si (wrapAround PES_BUF_SIZE w buf si srcSize) :=
  wrapAround_spec PES_BUF_SIZE w buf hist si srcSize hlo hsi hsz hcap hsuf

example : WrapSpec {} [0, 0, 1] [] 0 (wrapAround PES_BUF_SIZE {} [0, 0, 1] 0 3) :=
  wrap_window {} [0, 0, 1] [] 0 3 (by decide) (by decide) (by decide) (by decide) (by decide) (by simp [Wrap.pend])

/-- **scan_finds_first_start_code (byte-wise).** The start code scan with its 3-byte skips stops at
the first position, at or after where it started, at which `00 00 01 xx` (`xx >= 0xBC`) begins; if
it gives up at `q` (window exhausted) there is no start code at any position before `q`.  It never
reads outside the window (`ScanFirst` is `False` on `.fault`). -/
theorem scan_finds_first_start_code (win : Bytes) (scanEnd p : Nat)
    (hse : scanEnd + 4 ≤ win.length) (hp : p ≤ scanEnd) :
    ScanFirst win p (scanLoop (win.length + 1) win scanEnd p) :=
  scanLoop_first win scanEnd hse (win.length + 1) p hp (by omega)

example : scanLoop 9 [9, 9, 0, 0, 1, 0xBD, 7, 7] 4 0 = .found 2 := by decide

/-- **scan is independent of where the window ends.** Two windows onto the same stream (any two
prefixes of at least 48 bytes) leave the demultiplexer in states from which the rest of the stream
is processed identically: the loop body never faults, always advances by at least one byte, and
`arun` from the resulting (skip, lookahead, frame state) is the same. -/
theorem scan_window_independent (L w1 w2 : Bytes) (fs : FS) (sk1 sk2 la : Nat)
    (h1 : w1 <+: L) (h2 : w2 <+: L) (hla : 48 ≤ la) (hla2 : la ≤ 65495)
    (hw1 : la ≤ w1.length) (hw2 : la ≤ w2.length) :
    ∃ r1 r2 : Core, ∃ outs : List FrameOut,
      pesIter true cfg sk1 la fs w1 = ((r1.skip, r1.lookahead), r1.fs, outs, none) ∧
      pesIter true cfg sk2 la fs w2 = ((r2.skip, r2.lookahead), r2.fs, outs, none) ∧
      1 ≤ r1.skip ∧ 1 ≤ r2.skip ∧ arun cfg r1 L = arun cfg r2 L := by
  obtain ⟨a1, b1, c1, o1, e1, p1, _, _, hr1⟩ := pesIter_arun (cfg := cfg) w1 fs sk1 la hla hw1
  obtain ⟨a2, b2, c2, o2, e2, p2, _, _, hr2⟩ := pesIter_arun (cfg := cfg) w2 fs sk2 la hla hw2
  obtain ⟨ar1, ho1⟩ := hr1 L h1
  obtain ⟨ar2, ho2⟩ := hr2 L h2
  -- both windows show the stream machine's own `la` bytes: same frames, and the runs that follow agree
  obtain rfl : o1 = o2 := ho1.trans ho2.symm
  exact ⟨⟨a1, b1, c1⟩, ⟨a2, b2, c2⟩, o1, e1, e2, p1, p2, ARes.pre_inj (ar1.symm.trans ar2)⟩

/-- **feed_split_invariant (PES path, full).** For every reachable context (`Inv`), feeding `a` and
then `b` delivers exactly the frames of feeding `a ++ b`, and ends in a context with the same
resume state (skip, lookahead, frame/PTS state) and the same unconsumed bytes. -/
theorem feed_split_invariant (s : St) (a b : Bytes) (h : Inv cfg s) :
    (pesFeed cfg s (a ++ b)).frames = (pesFeed cfg s a).frames ++ (pesFeed cfg (pesFeed cfg s a).st b).frames ∧
    (pesFeed cfg s (a ++ b)).st.core = (pesFeed cfg (pesFeed cfg s a).st b).st.core ∧
    (pesFeed cfg s (a ++ b)).st.pending = (pesFeed cfg (pesFeed cfg s a).st b).st.pending := by
  obtain ⟨_, hi1, h1⟩ := pesFeed_refines (cfg := cfg) s a h
  obtain ⟨_, _, h2⟩ := pesFeed_refines (cfg := cfg) (pesFeed cfg s a).st b hi1
  obtain ⟨_, _, h3⟩ := pesFeed_refines (cfg := cfg) s (a ++ b) h
  have hs : (arun cfg s.core (s.pending ++ a)).stop = none := by rw [h1]
  have happ := arun_append (cfg := cfg) (s.pending ++ a) s.core b hs
  rw [List.append_assoc, h3, h1, h2] at happ
  simp only [ARes.pre, ARes.mk.injEq] at happ
  exact ⟨happ.2.2.1, happ.1, happ.2.1⟩

/-- the invariant holds initially and after every feed call, so `feed_split_invariant` applies to
every history of calls -/
theorem inv_reachable (chunks : List Bytes) : Inv cfg (pesFeeds cfg St.init chunks).st :=
  (pesFeeds_init (cfg := cfg) chunks).2.1

/-- **frames = f(stream).** Any partition of a stream into successive `vbi_dvb_demux_feed` calls -
of any sizes, down to single bytes, empty buffers included - delivers exactly `frames stream`,
the value of the buffer-free stream machine on the concatenation. -/
theorem feeds_equal_frames_of_stream (chunks : List Bytes) :
    (pesFeeds cfg St.init chunks).frames = frames cfg chunks.flatten := by
  unfold frames
  rw [(pesFeeds_init (cfg := cfg) chunks).2.2]

example : (pesFeeds cfg St.init [[0, 0], [1], [0xBD, 0, 1]]).frames = frames cfg [0, 0, 1, 0xBD, 0, 1] :=
  feeds_equal_frames_of_stream cfg [[0, 0], [1], [0xBD, 0, 1]]

/-- **garbage_safe.** Whatever bytes are fed in whatever pieces: no access outside the wrap buffer
or the caller's buffer, no failed `assert`, no `for (;;)` that runs out of its fuel - every loop
iteration consumes at least one byte or returns (the fuel `leftover + length + 2` suffices). -/
theorem garbage_safe (chunks : List Bytes) : (pesFeeds cfg St.init chunks).err = none :=
  (pesFeeds_init (cfg := cfg) chunks).1

/-- **progress of one call.** From a reachable context one `demux_pes_packet` call terminates
within `pesFuel` iterations with "need more data" and has consumed the whole buffer. -/
theorem feed_consumes_all (s : St) (buf : Bytes) (h : Inv cfg s) :
    ∃ s' outs, pesLoop (pesFuel s buf) true cfg s buf 0 buf.length = (s', outs, buf.length, .needMore) := by
  have hpl : s.pending.length = s.pw.leftover := s.pw.pend_length h.1.1
  obtain ⟨s', outs, hloop, _, _⟩ := pesLoop_refines (cfg := cfg) (pesFuel s buf) s buf s.pending 0 h.1 (Nat.zero_le _)
    (by simp) (by simp only [pesFuel, List.drop_zero, List.length_append, hpl]; omega)
  exact ⟨s', outs, hloop⟩

/-- `demux_pes_packet_frame`: the `for (;;)` runs at most twice, extraction never reads outside
the packet, and the result is 0 or a data unit error (callback installed). -/
theorem packet_frame_two_rounds (se : Bool) (fs : FS) (d : Bytes) (hd : 2 ≤ d.length) :
    (pesPacketFrame cfg 3 true se fs d).2.2.1 = .done ∨ (pesPacketFrame cfg 3 true se fs d).2.2.1 = .err :=
  pesPacketFrame_ok 1 se fs d hd

/-! ## The two defects of the unrepaired tree (fixed in /repo by 776a0f0 and 7c6e61c)

Stated for the *unrepaired* shape of the source explicitly (`SrcCfg.unrepaired`, resp. the hypothesis
`cfg.pesDiscards = false`), never through the generated constants, so they stay true whatever the
current tree looks like.  Witness packets are built in `Demux/Spec.lean` (`livelockPacket`,
`overflowPacket`); the same bytes are `corpus/C07/*.ops`. -/

/-- **cor_equals_feed was false before 776a0f0 (F55).** Draining `livelockPacket` through
`vbi_dvb_demux_cor` never consumes it: three calls in a row return 0 lines with `*buffer_left`
unchanged (and the state repeats). -/
theorem cor_livelock_counterexample :
    (pesCorDrain 8 SrcCfg.unrepaired 0 St.init livelockPacket 0 64).stalled = true := by
  decide +kernel

/-- with the repair the same packet is consumed -/
example : (pesCorDrain 8 SrcCfg.repaired 0 St.init livelockPacket 0 64).err = none ∧
    (pesCorDrain 8 SrcCfg.repaired 0 St.init livelockPacket 0 64).stalled = false := by decide +kernel
/-- through the callback interface the packet is consumed too (with a spurious empty frame first) -/
example : (pesFeed SrcCfg.repaired St.init livelockPacket).err = none ∧
    (pesFeed SrcCfg.repaired St.init livelockPacket).frames.length = 1 := by decide +kernel

/-- **resync was false before 7c6e61c (F56).** While `demux_pes_packet` tests `err < 0`
(`cfg.pesDiscards = false`) and `line_address` tests for the overflow first (`cfg.lateOverflow = false`,
the shape of that tree), a reachable PES context whose line buffer is full and which is not at
a frame start (`Deaf`) is absorbing: whatever is fed afterwards, in whatever pieces - intact
packets included - no frame is delivered ever again. -/
theorem pes_lockup_unrepaired (hlo : cfg.lateOverflow = false) (hflag : cfg.pesDiscards = false)
    (s : St) (h : Inv cfg s) (hd : Deaf s.fs) (chunks : List Bytes) : (pesFeeds cfg s chunks).frames = [] := by
  have h1 := (pesFeeds_refines (cfg := cfg) chunks s h).2.2
  have h2 := (arun_deaf (cfg := cfg) hlo hflag (s.pending ++ chunks.flatten) s.core hd).1
  rw [h1] at h2
  exact h2

/-- the absorbing state was reachable with one packet -/
theorem pes_lockup_reachable : Deaf (pesFeed SrcCfg.unrepaired St.init overflowPacket).st.fs := by
  unfold Deaf Full
  decide +kernel

/-! ## Recovery (repaired tree) -/

/-- **resync: a frame start forgets.** Two demultiplexers at the same stream position (same skip,
same lookahead) that are both at a frame start (`new_frame`) - whatever stale lines, line counters,
frame PTS they hold, and whatever packet PTS as long as no header is pending - deliver the same
frames on *every* continuation of the stream.  `new_frame` is what every discard sets, so this is
the statement that a discard leaves no trace. -/
theorem resync_frame_start_forgets (c1 c2 : Core) (L : Bytes)
    (hs : c1.skip = c2.skip) (hl : c1.lookahead = c2.lookahead) (h48 : 48 ≤ c1.lookahead) (h65 : c1.lookahead ≤ 65495)
    (h1 : c1.fs.newFrame = true) (h2 : c2.fs.newFrame = true)
    (hp : c1.lookahead > 48 → c1.fs.packetPts = c2.fs.packetPts) :
    (arun cfg c1 L).frames = (arun cfg c2 L).frames :=
  (arun_forget (cfg := cfg) L c1 c2 hs hl h48 (Or.inr ⟨h1, h2, hp⟩)).1

/-- a data unit error in the PES path discards the frame (since 7c6e61c) -/
theorem error_discards (hflag : cfg.pesDiscards = true) (fs : FS) : (pesErrFs cfg fs).newFrame = true := by
  simp [pesErrFs, hflag]

/-- a context at a frame start in scan mode behaves like a freshly reset one at the same position -/
theorem frame_start_like_reset (s : St) (h1 : s.fs.newFrame = true) (h2 : s.core.lookahead = 48) (L : Bytes) :
    (arun cfg s.core (s.pending ++ L)).frames = (arun cfg { s.core with fs := {} } (s.pending ++ L)).frames := by
  have hf : FsForget s.core.lookahead s.core.fs ({ s.core with fs := {} } : Core).fs :=
    Or.inr ⟨h1, rfl, fun h => by omega⟩
  exact (arun_forget (cfg := cfg) (s.pending ++ L) s.core { s.core with fs := {} } rfl rfl (by omega) hf).1

/-- the context after the packet that locks the demultiplexer up when `cfg.pesDiscards = false` (`pes_lockup_unrepaired`; 70 line units) -/
def afterOverflow : St := (pesFeed SrcCfg.repaired St.init overflowPacket).st

theorem afterOverflow_at : afterOverflow.fs.newFrame = true ∧ afterOverflow.fs.frame.lines.length = 64
    ∧ afterOverflow.core.skip = 0 ∧ afterOverflow.core.lookahead = 48 := by decide +kernel

/-- **pes_recovers_after_overflow.** On the repaired tree `overflowPacket` leaves the demultiplexer at
a frame start, and from there it behaves on every continuation `L` exactly like a freshly reset
demultiplexer at the same stream position: not an absorbing state. -/
theorem pes_recovers_after_overflow :
    afterOverflow.fs.newFrame = true ∧
    ∀ L, (arun SrcCfg.repaired afterOverflow.core (afterOverflow.pending ++ L)).frames
       = (arun SrcCfg.repaired { afterOverflow.core with fs := {} } (afterOverflow.pending ++ L)).frames := by
  exact ⟨afterOverflow_at.1, frame_start_like_reset SrcCfg.repaired afterOverflow afterOverflow_at.1 afterOverflow_at.2.2.2⟩

/-- `pes_recovers_after_overflow` on an instance: the frame of the next intact packet is delivered (when the one after it
begins) -/
example : ((pesFeeds SrcCfg.repaired St.init [overflowPacket, linePacket 3 7 0x55, linePacket 4 7 0x66]).frames.map
    fun f => (f.pts, f.lines.map fun l => (l.id, l.line))) = [(3, [(3, 7)])] := by decide +kernel
/-- the same three packets on the unrepaired tree: nothing -/
example : (pesFeeds SrcCfg.unrepaired St.init [overflowPacket, linePacket 3 7 0x55, linePacket 4 7 0x66]).frames = [] := by
  decide +kernel

/-- **the coroutine interface always makes progress (since 776a0f0).** With the `continue` for a
frame without lines in place, a `vbi_dvb_demux_cor` call from *any* context that does not fault either
returns a frame or exhausts the buffer; hence the documented caller loop
`while (left > 0) vbi_dvb_demux_cor (...)` never stalls - the positive counterpart of
`cor_livelock_counterexample`, for every context, buffer and `max_lines >= 1`. -/
theorem cor_always_progresses (hse : cfg.corSkipsEmpty = true) (maxLines : Nat) (hm : 1 ≤ maxLines)
    (fuel stall : Nat) (s : St) (buf : Bytes) (si : Nat) :
    (pesCorDrain fuel cfg stall s buf si maxLines).stalled = false := by
  induction fuel generalizing stall s si with
  | zero => simp [pesCorDrain]
  | succ fuel ih =>
    unfold pesCorDrain
    by_cases hsi : si ≥ buf.length
    · rw [if_pos hsi]
    · rw [if_neg hsi]
      have hp := pesCor_progress cfg hse s buf si maxLines hm
      rcases hc : pesCor cfg s buf si maxLines with ⟨s', si', fo, e⟩
      rw [hc] at hp
      cases e with
      | some e => rfl
      | none =>
        dsimp only at hp ⊢
        have hp := hp rfl
        have hst : (if si' = si ∧ fo.isNone = true then stall + 1 else 0) = 0 := by
          rw [if_neg]
          intro ⟨h1, h2⟩
          -- a stall contradicts `pesCor_progress`: a frame was returned, or the buffer is exhausted
          rcases hp with h | h
          · cases fo with
            | none => cases h
            | some f => cases h2
          · omega
        rw [hst, if_neg (by simp [COR_STALL_LIMIT])]
        exact ih _ _ _

/-! ## TS path (`demux_ts_packet`: sync search, 188-byte alignment, PID filter, continuity, PES reassembly) -/

/-- the TS demux context reached from a new demultiplexer by a history of feed calls -/
def tsAfter (pid : Nat) (hist : List Bytes) : TsSt := hist.foldl (fun s c => (tsFeed cfg s c).st) (TsSt.init pid)

/-- the TS invariant (ts_buffer fill + lookahead = 10 in sync / 197 searching, lookahead >= 1,
consume <= ts_pes_todo, PES buffer bounds) holds after every history of feed calls -/
theorem ts_inv_reachable (pid : Nat) (hist : List Bytes) : TsInv (tsAfter cfg pid hist) := by
  unfold tsAfter
  have : ∀ (s : TsSt), TsInv s → TsInv (hist.foldl (fun s c => (tsFeed cfg s c).st) s) := by
    induction hist with
    | nil => intro s h; exact h
    | cons c cs ih => intro s h; exact ih _ (tsFeed_safe s c h).2
  exact this _ (TsInv_init pid)

/-- **garbage_safe, TS path.** Whatever bytes are fed to a TS demultiplexer in whatever pieces: no
access outside `ts_buffer` / `pes_buffer` / the caller's buffer, no failed `assert`, no unsigned
wrap-around of the lookahead / todo counters, and the loop terminates (every iteration consumes at
least one byte or returns). -/
theorem ts_garbage_safe (pid : Nat) (hist : List Bytes) (buf : Bytes) :
    (tsFeed cfg (tsAfter cfg pid hist) buf).err = none :=
  (tsFeed_safe _ buf (ts_inv_reachable cfg pid hist)).1

/-- **ts_feed_split_invariant (TS path, full).** For every reachable TS context, feeding `a` and then
`b` delivers exactly the frames of feeding `a ++ b` and ends in the *same context*: every
input-consuming block of the loop body (payload copy, skip, look-ahead copy into `ts_buffer`) is a
resumable counter, and sync search / header evaluation / continuity never read input. -/
theorem ts_feed_split_invariant (pid : Nat) (hist : List Bytes) (a b : Bytes) :
    let s := tsAfter cfg pid hist
    (tsFeed cfg s (a ++ b)).frames = (tsFeed cfg s a).frames ++ (tsFeed cfg (tsFeed cfg s a).st b).frames ∧
    (tsFeed cfg s (a ++ b)).st = (tsFeed cfg (tsFeed cfg s a).st b).st := by
  exact tsFeed_split _ a b (ts_inv_reachable cfg pid hist)

example : (tsFeed cfg (TsSt.init 256) (List.replicate 150 0x47 ++ List.replicate 250 0x47)).st
    = (tsFeed cfg (tsFeed cfg (TsSt.init 256) (List.replicate 150 0x47)).st (List.replicate 250 0x47)).st :=
  (ts_feed_split_invariant cfg 256 [] (List.replicate 150 0x47) (List.replicate 250 0x47)).2

/-- successive `vbi_dvb_demux_feed` calls on a TS demultiplexer: final context and all frames delivered -/
def tsFeeds : TsSt → List Bytes → TsSt × List FrameOut
  | s, [] => (s, [])
  | s, c :: cs => ((tsFeeds (tsFeed cfg s c).st cs).1, (tsFeed cfg s c).frames ++ (tsFeeds (tsFeed cfg s c).st cs).2)

/-- **ts_split_invariant (TS path, any partition).** For every reachable TS context, feeding a stream in
ANY partition into successive buffers - of any sizes, down to single bytes, empty buffers included -
delivers exactly the frames of feeding it whole and ends in the same context.  Holds in both shapes of
the "PES packet complete" step (with and without fix dvb-demux-ts-first-packet). -/
theorem ts_split_invariant (pid : Nat) (hist chunks : List Bytes) :
    tsFeeds cfg (tsAfter cfg pid hist) chunks
      = ((tsFeed cfg (tsAfter cfg pid hist) chunks.flatten).st, (tsFeed cfg (tsAfter cfg pid hist) chunks.flatten).frames) := by
  have e : ∀ (cs : List Bytes) (s : TsSt), tsFeeds cfg s cs = tsFeedAll cfg s cs := by
    intro cs
    induction cs with
    | nil => intro s; rfl
    | cons c cs ih => intro s; simp only [tsFeeds, tsFeedAll, ih]
  rw [e]
  exact tsFeedAll_flatten chunks _ (ts_inv_reachable cfg pid hist)

example : tsFeeds cfg (TsSt.init 256) [[0x47, 1], [], [2]]
    = ((tsFeed cfg (TsSt.init 256) [0x47, 1, 2]).st, (tsFeed cfg (TsSt.init 256) [0x47, 1, 2]).frames) :=
  ts_split_invariant cfg 256 [] [[0x47, 1], [], [2]]

/-- **F30: the first frame of a TS stream was never delivered when its PES packet is one TS packet long**
(source without fix dvb-demux-ts-first-packet, whatever the other three flags): the sync search leaves
the whole first TS packet in `ts_buffer`, the header evaluation copies its 184 payload bytes, the PES
packet is complete - and only the copy loop had the "PES packet complete" step.  Of the frames 3, 4, 5
of `tsThree`, 3 and 4 are to be delivered (5 stays open); only 4 is. -/
theorem ts_first_frame_lost_counterexample :
    ((tsFeed { SrcCfg.repaired with tsCompletesInHeader := false } (TsSt.init 256) tsThree).frames.map
      fun f => (f.pts, f.lines.map (·.line))) = [(4, [7])] := by decide +kernel

/-- with `ts_pes_packet_complete ()` also at the end of the header evaluation the first frame arrives -/
example : ((tsFeed SrcCfg.repaired (TsSt.init 256) tsThree).frames.map fun f => (f.pts, f.lines.map (·.line)))
    = [(3, [7]), (4, [7])] ∧ (tsFeed SrcCfg.repaired (TsSt.init 256) tsThree).err = none := by decide +kernel

/-- **ts_unknown_counter_accepts_any.** While the expected continuity_counter is unknown (`ts_continuity == -1`:
new demultiplexer, after `vbi_dvb_demux_reset`, after every loss of sync) no packet is classified as repeated
or as a continuity error, whatever counter it carries (all 16 values; in particular 14 = -2 mod 16, the value a
"previous counter" computed from -1 would match): a packet of the PID that passes the TS header checks goes on
to the PES start test with the counter learned from it.  (Seeded change C07-f breaks exactly this.) -/
theorem ts_unknown_counter_accepts_any (b3 : Nat) (s : TsSt) (q : Bytes) (hc : s.cont = none)
    (hh : tsHeaderCheck s q = none) :
    tsContCheck none b3 = .ok ∧
    tsHeader cfg s q =
      match tsStart { s with cont := some (q.getD 3 0 + 1) } q with
      | none => (tsSkipPesPacket { s with cont := some (q.getD 3 0 + 1) } q, none)
      | some s1 => tsCopy cfg s1 q := by
  refine ⟨tsContCheck_none b3, ?_⟩
  unfold tsHeader
  rw [hh]
  simp only [hc, tsContCheck_none]
  cases tsStart { s with cont := some (q.getD 3 0 + 1) } q <;> rfl

/-- non-vacuity, end to end on the model: an intact stream of one-packet frames delivers its first frame for
every initial continuity_counter 0..15 (the stream start is an unknown-counter state) -/
example : (List.range 16).all (fun cc =>
    ((tsFeed SrcCfg.repaired (TsSt.init 256) (tsThreeFrom cc)).frames.map fun f => (f.pts, f.lines.map (·.line)))
      == [(3, [7]), (4, [7])]) = true := by decide +kernel

/-- **the repeated-packet rule drops exactly a packet whose counter equals the previous one.**  After a packet
with header byte `p` was accepted (`ts_continuity = p + 1`) the next packet of the PID with header byte `q` is
* accepted iff `q` carries the next counter,
* taken for a repeated packet iff `q` carries the same counter as `p` (ISO 13818-1 2.4.3.3: a duplicate),
* a continuity error (PES packet and frame discarded) in the 14 other cases;
and a repeated packet is skipped with nothing else changed: expected counter, PES packet under assembly and
frame are kept (`tsSkipPacket` only moves on in `ts_buffer`). -/
theorem ts_repeated_iff_same_counter (p q : Nat) :
    (tsContCheck (some (p + 1)) q = .ok ↔ q % 16 = (p + 1) % 16) ∧
    (tsContCheck (some (p + 1)) q = .repeated ↔ q % 16 = p % 16) ∧
    (tsContCheck (some (p + 1)) q = .lost ↔ (q % 16 ≠ (p + 1) % 16 ∧ q % 16 ≠ p % 16)) := by
  have h1 := tsContCheck_ok_next p q
  have h2 := tsContCheck_repeated_prev p q
  refine ⟨h1, h2, ?_⟩
  cases h : tsContCheck (some (p + 1)) q with
  | ok => rw [h] at h1; simp [h1.1 rfl]
  | repeated => rw [h] at h2; simp [h2.1 rfl]
  | lost =>
    rw [h] at h1 h2
    simp only [true_iff]
    exact ⟨fun e => (by have := h1.2 e; cases this), fun e => (by have := h2.2 e; cases this)⟩

/-- a repeated packet is skipped with nothing else changed -/
theorem ts_repeated_packet_skipped (s : TsSt) (q : Bytes) (p : Nat) (hc : s.cont = some (p + 1))
    (hh : tsHeaderCheck s q = none) (hr : q.getD 3 0 % 16 = p % 16) :
    tsHeader cfg s q = (tsSkipPacket s q, none) ∧ (tsSkipPacket s q).cont = s.cont ∧ (tsSkipPacket s q).fs = s.fs
      ∧ (tsSkipPacket s q).pes = s.pes ∧ (tsSkipPacket s q).pesTodo = s.pesTodo := by
  refine ⟨tsHeader_repeated s q (p + 1) hc hh (by rw [Nat.add_sub_cancel]; exact hr) (by omega), ?_⟩
  unfold tsSkipPacket tsAdvance
  dsimp only
  split <;> exact ⟨rfl, rfl, rfl, rfl⟩

/-- non-vacuity: the second packet of `tsThree` sent twice is dropped once, all frames arrive -/
example : ((tsFeed SrcCfg.repaired (TsSt.init 256)
      (tsOf 256 0 (linePacket 3 7 0x55) ++ tsOf 256 1 (linePacket 4 7 0x66) ++ tsOf 256 1 (linePacket 4 7 0x66)
        ++ tsOf 256 2 (linePacket 5 7 0x77))).frames.map fun f => (f.pts, f.lines.map (·.line)))
    = [(3, [7]), (4, [7])] := by decide +kernel
example : tsContCheck (some (0x1E + 1)) 0x1E = .repeated ∧ tsContCheck (some (0x1F + 1)) 0x10 = .ok
    ∧ tsContCheck (some (0x1F + 1)) 0x12 = .lost := by decide

/-! ## Joint with C06 (multiplexer model `ZvbiModel/Mux`) -/

/-- a demultiplexed line seen as the multiplexer spec's `Line` (WSS: 14 bits) -/
def toLine (l : Sliced) : Option Zvbi.Mux.EnParse.Line :=
  if l.id = SL_TELETEXT_B then some ⟨.ttx, l.line, l.data⟩
  else if l.id = SL_VPS then some ⟨.vps, l.line, l.data⟩
  else if l.id = SL_WSS_625 then some ⟨.wss, l.line, [l.data.getD 0 0, l.data.getD 1 0 % 64]⟩
  else if l.id = SL_CAPTION_625_F1 then some ⟨.cc, l.line, l.data⟩
  else none

/-- what the demultiplexer model delivers, in the vocabulary of the multiplexer spec -/
def deliveredAs (fs : List FrameOut) : List (Nat × List Zvbi.Mux.EnParse.Line) :=
  fs.map fun f => (f.pts, f.lines.filterMap toLine)

/-- the two models compose on real bytes: four frames through C06's model of `vbi_dvb_mux_feed`
(PES mode), the concatenated output through this model of `vbi_dvb_demux_feed`: the first three come
back with PTS, services, lines and payload bits (the fourth is pending until a fifth begins) -/
example :
    let ops : List Zvbi.Mux.EnParse.Op :=
      [.frame [⟨3, 7, List.replicate 56 0x15⟩, ⟨4, 16, List.replicate 56 0x31⟩, ⟨0x400, 23, List.replicate 56 0xF7⟩] 0xFFFFFFFF 5,
       .frame [⟨3, 7, List.replicate 56 0x80⟩, ⟨3, 320, List.replicate 56 0x01⟩] 0xFFFFFFFF 6,
       .frame [⟨3, 9, List.replicate 56 0x55⟩] 0xFFFFFFFF 7, .frame [⟨3, 8, List.replicate 56 0⟩] 0xFFFFFFFF 8]
    let r := Zvbi.Mux.EnParse.run Zvbi.Mux.newPes ops
    deliveredAs (frames SrcCfg.repaired r.2.1) = (r.2.2.take 3).map (fun s => (s.pts, s.lines)) := by
  decide +kernel

/-! ## The full statements as first written, and what is proved of each (`Props/C07Cor.lean`) -/

/-- cor_equals_feed: draining a buffer through the coroutine interface delivers the frames of
`vbi_dvb_demux_feed` that have at least one line.  False for `cfg.corSkipsEmpty = false` (finding
C07-cor-livelock, see `cor_livelock_counterexample`); proved for the repaired source: `C07Cor.cor_equals_feed`. -/
def cor_equals_feed_full : Prop :=
  ∀ (chunks : List Bytes) (buf : Bytes),
    let s := (pesFeeds cfg St.init chunks).st
    let r := pesCorDrain (2 * buf.length + 4) cfg 0 s buf 0 64
    r.err = none ∧ r.stalled = false ∧ r.frames = (pesFeed cfg s buf).frames.filter (fun f => !f.lines.isEmpty)

/-- resync, end to end: after arbitrary damage, once the demultiplexer is at a packet boundary of an
intact stream, every frame but at most the first is delivered as sent.  False as written in every shape of the
source (`C07Cor.resync_full_counterexample`, `resync_full_as_written_counterexample`: it quantifies over arbitrary
continuations); restated over intact streams and proved: `C07Cor.resync_intact`, `resync_on_intact_stream`.  The oracle
of the C07 check judges it on every run. -/
def resync_full : Prop :=
  ∀ (c : Core) (L : Bytes), c.skip = 0 → c.lookahead = 48 →
    ∃ x y rest, (arun cfg c L).frames = x ++ rest ∧ frames cfg L = y ++ rest ∧ x.length ≤ 2 ∧ y.length ≤ 1

/-- mux_demux_roundtrip_model (join of C06 and C07): for every history of multiplexer operations in
which consecutive accepted frames are separable by the demultiplexer's rule (each frame has 1..64
lines and begins on a line not beyond the previous frame's last line), this model of the
demultiplexer returns, from the concatenated output of C06's model of the multiplexer, all accepted
frames but the last with their PTS and lines.  Proved for frames all of whose line numbers are defined:
`C07Cor.mux_demux_roundtrip_model`, through the parser-equivalence theorem between `EnParse.pesStream` and `arun`
(`C07Cor.parser_equivalence`) and C06's facts that accepted frames ascend and all output bytes are < 256; for what
stays open see `mux_demux_roundtrip_undef_full` in Props/C06Join.lean.  The `example` above evaluates an instance in
the kernel; the C06 `--demux` oracle and the C07 oracle judge it on the real code on every run. -/
def mux_demux_roundtrip_model_full : Prop :=
  ∀ (ops : List Zvbi.Mux.EnParse.Op), (∀ op ∈ ops, Zvbi.Mux.EnParse.Op.OK op) →
    let r := Zvbi.Mux.EnParse.run Zvbi.Mux.newPes ops
    (∀ s ∈ r.2.2, 1 ≤ s.lines.length ∧ s.lines.length ≤ 64) →
    (∀ i, i + 1 < r.2.2.length →
      ((r.2.2.getD (i + 1) ⟨0, 0, []⟩).lines.headD ⟨.ttx, 0, []⟩).line
        ≤ ((r.2.2.getD i ⟨0, 0, []⟩).lines.getLastD ⟨.ttx, 0, []⟩).line ∧
      ((r.2.2.getD (i + 1) ⟨0, 0, []⟩).lines.headD ⟨.ttx, 0, []⟩).line ≠ 0) →
    deliveredAs (frames cfg r.2.1) = (r.2.2.dropLast).map (fun s => (s.pts, s.lines))

end Zvbi.Props.C07
