import ZvbiModel.Gfx.Lemmas
import ZvbiModel.Nav.LogLemmas
import ZvbiModel.Props.C01Cells
import ZvbiModel.Util.Bits
/-!
# C01 - index computations of the renderer with arbitrary page contents (exp-gfx.c draw_drcs / clip_size / draw_blank /
# unicode_wstfont2 / draw_char / the cell loop of vbi_draw_vt_page_region; lang.c vbi_teletext_composed_unicode)

Model: `Gfx/Model.lean` (checked accesses, nothing clamped); numbers: `Generated/C01Gfx.lean` (translate/gen_c01gfx.py, from
the current source).  Inputs are arbitrary: unicode / size / colour offset of every cell, font bytes, which planes are set,
canvas type (1, 2, 4, any positive), row stride (any value not below the bytes of a row of the region), region size.
Main statement: `region_page_in_range` (all three branches of a cell); `composed_unicode_in_range` for lang.c.

What bounds the glyph number: the renderer's mask `unicode & 0x3F` lets 0..63 through, the DRCS page has 48 glyphs
(`drcs.chars[48][60]`).  The reads stay inside only because enhance() stores no offset above 47 (`if (offset >= 48) break;`,
`Zvbi.Gen.C01Cells.drcsOffsetRejects`, proved for every triplet stream in Props/C01Cells `enhance_drcs_index_in_range`);
`drcs_glyph_mask_alone_counterexample` shows the mask alone is not enough (a vbi_page built by an application, not by
vbi_format_vt_page, with unicode 0xF030 reads behind the DRCS page).
-/
namespace Zvbi.Props.C01Gfx
open Zvbi.Gfx Zvbi.Gen.C01Gfx

/-- the extents and strides fit together: a glyph is 60 bytes = one row of `chars[48][60]`, the row advance of
vbi_draw_vt_page_region uses the cell size, `N_ELEMENTS (composed)` is the length of the table the probe printed -/
theorem extents_consistent : glyphStride = charsBytes ∧ advW = tcw ∧ advH = tch ∧ composedLen = composed.length := consts_agree
example : charsGlyphs * charsBytes = 2880 ∧ composed.length = 192 := by decide +kernel

/-- for EVERY unicode value the plane index `(unicode >> 6) & 0x1F` is inside `pg->drcs[32]` -/
theorem drcs_plane_index_in_range (u : Nat) : planeOf u < pageDrcsLen := planeOf_lt u
example : planeOf 0xF7FF = 31 ∧ planeOf 0xFFFF = 31 ∧ planeOf 0xF040 = 1 := by decide

/-- with a glyph number below 48 every byte draw_drcs reads through `src`, for every size (also the lower halves after
`src += 30`), every font content, canvas type, row stride and colour, is one of the 2880 bytes of `drcs.chars[48][60]` -/
theorem drcs_reads_in_chars (font : Nat → Nat) (ct rs base color glyph size : Nat) (hg : glyph < charsGlyphs) :
    ∀ i, (Site.chars, i) ∈ drawDrcs font ct rs base color glyph size → i < charsGlyphs * charsBytes := by
  intro i ha
  obtain ⟨l, hmem, rd, hrd, rfl⟩ := mem_drawDrcs_chars ha
  exact chars_lt hg (loopReads_lt l hmem rd hrd)
example : (Site.chars, 47 * 60 + 59) ∈ drawDrcs (fun _ => 0) 1 12 0 0 47 0 ∧ (Site.chars, 47 * 60 + 59) ∈ drawDrcs (fun _ => 0) 1 12 0 0 47 6 := by
  decide

/-- the mask `unicode & 0x3F` alone does not keep the reads inside: unicode 0xF030 is a DRCS code of 16 bits (`vbi_is_drcs`),
its glyph number is 48, and draw_drcs reads offset 2880 = `sizeof chars`; in general every read with a glyph number of 48 or
more is outside -/
theorem drcs_glyph_mask_alone_counterexample :
    (isDrcs 0xF030 = true ∧ 0xF030 < 2 ^ charUnicodeBits ∧ glyphOf 0xF030 = 48 ∧
      (Site.chars, 2880) ∈ drawDrcs (fun _ => 0) 1 12 0 0 (glyphOf 0xF030) 0 ∧ ¬ okAcc 120 (Site.chars, 2880)) ∧
    (∀ font ct rs base color glyph size i, charsGlyphs ≤ glyph →
      (Site.chars, i) ∈ drawDrcs font ct rs base color glyph size → ¬ okAcc 0 (Site.chars, i)) := by
  refine ⟨⟨by decide, by decide, by decide, by decide +kernel, ?_⟩, ?_⟩
  · show ¬ ((2880 : Nat) < charsGlyphs * charsBytes); decide
  intro font ct rs base color glyph size i hg ha
  obtain ⟨l, _, rd, _, rfl⟩ := mem_drawDrcs_chars ha
  show ¬ (_ < charsGlyphs * charsBytes)
  simp only [glyphStride, charsGlyphs, charsBytes] at *; omega

/-- the code enhance() stores for a DRCS character, `0xF000 + (page << 6) + offset` with a plane below 32 and an offset it
does not reject, is a DRCS code for the renderer, fits the 16 bit field, and the renderer recovers exactly that plane and
that glyph number - below 48 -/
theorem enhance_drcs_unicode_roundtrip (page offset : Nat) (hp : page < Zvbi.Gen.C01Cells.pageDrcsLen)
    (ho : Zvbi.Gen.C01Cells.drcsOffsetRejects offset = false) :
    isDrcs (drcsBase + (page <<< drcsShift) + offset) = true ∧ drcsBase + (page <<< drcsShift) + offset < 2 ^ charUnicodeBits ∧
    planeOf (drcsBase + (page <<< drcsShift) + offset) = page ∧ glyphOf (drcsBase + (page <<< drcsShift) + offset) = offset ∧
    offset < charsGlyphs := by
  have hp : page < 32 := hp
  have ho : offset < 48 := by simpa [Zvbi.Gen.C01Cells.drcsOffsetRejects] using ho
  -- the code is `(0x3C0 + page) * 64 + offset`: `offset < 64` is the low field, `page < 32` the field above, 32 divides 0x3C0
  simp only [isDrcs, planeOf, glyphOf, drcsBase, drcsShift, planeShift, planeMask, glyphMask, isDrcsMin, charUnicodeBits,
    charsGlyphs, Nat.shiftLeft_eq, Nat.shiftRight_eq_div_pow, Bits.and_3F,
    (Nat.and_two_pow_sub_one_eq_mod _ 5 : _ &&& 31 = _ % 32), decide_eq_true_eq]
  omega
example : drcsBase + (31 <<< drcsShift) + 47 = 0xF7EF := by decide

/-- for every run of the enhancement model (arbitrary triplets, Props/C01Cells): a plane and a glyph number it logs for a
DRCS invocation give a code from which the renderer recovers a plane inside `pg->drcs[]` and a glyph number below 48 -/
theorem enhance_logged_drcs_renders_in_range (env : Zvbi.Enh.Cells.Env) (he : Zvbi.Enh.Cells.EnvOK env) (fuel : Nat)
    (res : Bool × List Zvbi.Enh.Cells.Access) (h : Zvbi.Enh.Cells.enhancePage env fuel = some res) (p g : Nat)
    (hp : (Zvbi.Enh.Cells.Site.drcsSlot, p) ∈ res.2) (hg : (Zvbi.Enh.Cells.Site.drcsGlyph, g) ∈ res.2) :
    isDrcs (drcsBase + (p <<< drcsShift) + g) = true ∧ planeOf (drcsBase + (p <<< drcsShift) + g) = p ∧
    glyphOf (drcsBase + (p <<< drcsShift) + g) = g ∧ glyphOf (drcsBase + (p <<< drcsShift) + g) < charsGlyphs := by
  obtain ⟨_, h2, h3⟩ := Zvbi.Props.C01Cells.enhance_drcs_index_in_range env he fuel res h
  have hgl := (h3 g hg).1
  obtain ⟨hd, _, hpl, hgo, hlt⟩ := enhance_drcs_unicode_roundtrip p g (h2 p hp)
    (by simp only [Zvbi.Gen.C01Cells.drcsOffsetRejects, Zvbi.Gen.C01Cells.drcsGlyphs] at *; simpa using hgl)
  exact ⟨hd, hpl, hgo, hgo.symm ▸ hlt⟩
example : isDrcs (drcsBase + (17 <<< drcsShift) + 47) = true ∧ planeOf (drcsBase + (17 <<< drcsShift) + 47) = 17 ∧
    glyphOf (drcsBase + (17 <<< drcsShift) + 47) = 47 ∧ Zvbi.Gen.C01Cells.drcsOffsetRejects 47 = false ∧
    Zvbi.Gen.C01Cells.drcsOffsetRejects 48 = true := by decide

/-- vbi_draw_vt_page_region (DRCS branch) over a region of `width` x `height` cells whose contents are arbitrary, on a canvas
of `height * 10` lines of `rs` bytes with `rs` not below the `width * 12 * canvas_type` bytes of a region row, for every
positive canvas type: provided every DRCS cell whose plane is set has a glyph number below 48 (see
`enhance_drcs_unicode_roundtrip`) and a colour offset that leaves room for a 4 bit pixel value in `pen[64]` (the library
never sets `drcs_clut_offs`, it is 0), EVERY plane index, font byte read, pen element and canvas byte written - in every size
variant, double width / double size in the last column being clipped by clip_size - is inside its object; `row_adv` is not
negative -/
theorem region_drcs_in_range (font : Nat → Nat → Nat) (planeSet : Nat → Bool) (ct rs width height : Nat) (cells : Nat → Nat → Cell)
    (hct : 0 < ct) (hrs : width * tcw * ct ≤ rs)
    (hcells : ∀ r c, r < height → c < width → isDrcs (cells r c).unicode = true → planeSet (planeOf (cells r c).unicode) = true →
      glyphOf (cells r c).unicode < charsGlyphs ∧ (cells r c).color + penNibbleMax < penLen) :
    ∀ a ∈ regionAcc font planeSet ct rs width height cells, okAcc (rs * (height * tch)) a :=
  region_ok (fun r c base => cellAcc font planeSet ct rs base (cells r c) (decide (c + 1 = width))) hrs fun r c hr hc =>
    Log.ite (fun hd => drcsCell_ok font planeSet _ _ hct hrs hr (size_fits _ c width hc) (hcells r c hr hc hd)
      (List.forall_mem_nil _)) fun _ => List.forall_mem_nil _
/-- a double size DRCS character in the last column and last row of a 40 x 25 page on a 4 byte canvas: the last byte written is
the last byte of the last pixel of line 249; without clip_size it would be 48 bytes further -/
example : (regionAcc (fun _ _ => 0xFF) (fun _ => true) 4 1920 40 25 (fun r c => if r = 24 ∧ c = 39 then ⟨0xF7EF, 3, 48⟩ else ⟨0x20, 0, 0⟩)).length
      = 1 + 1 + 30 * 3 + 30 * 4 ∧
    (Site.canvas, 1920 * 250 - 1) ∈ regionAcc (fun _ _ => 0xFF) (fun _ => true) 4 1920 40 25
      (fun r c => if r = 24 ∧ c = 39 then ⟨0xF7EF, 3, 48⟩ else ⟨0x20, 0, 0⟩) ∧
    clipSize 3 true = 2 ∧ clipSize 3 false = 3 := by
  decide +kernel

/-- the hypothesis on the colour offset is needed: `drcs_clut_offs` is an 8 bit field of the (caller visible) vbi_char; with
49 and a font byte 0xFF the pen element read is `pen[64]`, one behind the array..  No code of the library stores a non-zero
`drcs_clut_offs` -/
theorem drcs_pen_offset_counterexample :
    (Site.pen, 64) ∈ drawDrcs (fun _ => 0xFF) 4 48 0 49 0 0 ∧ ¬ okAcc 480 (Site.pen, 64) := by
  refine ⟨by decide +kernel, ?_⟩
  show ¬ ((64 : Nat) < penLen); decide

/-- for every accent `a <= 15` and every `c` in 0x20 .. 0x7F both asserts of vbi_teletext_composed_unicode hold, the search
loop indexes `composed[]` only below its extent, the call `vbi_teletext_unicode (LATIN_G0, NO_SUBSET, c)` of the `a == 0`
branch satisfies that function's asserts and reads no table, and the result is 0x40, vbi_teletext_unicode's value, 0, or 0xC0
+ (an index of the table) -/
theorem composed_unicode_in_range (a c cb : Nat) (ha : a ≤ cuAccentMax) (hlo : cuCharLo ≤ c) (hhi : c ≤ cuCharHi) :
    (∀ x ∈ (composedUnicode a c).1, okAcc cb x) ∧
    (∀ v, (composedUnicode a c).2 = some v → v = cuAt ∨ v = 0 ∨ (cuBase ≤ v ∧ v < cuBase + composedLen)) ∧
    ((composedUnicode a c).2 = none → a = 0) := by
  -- the two asserts on entry
  have hpre : ∀ x ∈ [(Site.cuAccent, a), (Site.cuChar, c)], okAcc cb x :=
    List.forall_mem_cons.mpr ⟨ha, List.forall_mem_singleton.mpr ⟨hlo, hhi⟩⟩
  unfold composedUnicode
  split
  · next h0 =>
    split
    · exact ⟨hpre, fun v hv => Or.inl (by simpa using hv.symm), fun h => by simp at h⟩
    · -- LATIN_G0 with NO_SUBSET is a font in the sense of the Level 1 formatter (`FontOK`)
      exact ⟨List.forall_mem_append.mpr ⟨hpre, List.forall_mem_map.mpr
        (Zvbi.Nav.tuAcc_ok ⟨cuSet, cuSubset⟩ ⟨Or.inl rfl, by decide, by decide⟩ c hlo hhi)⟩, fun v hv => by simp at hv, fun _ => h0⟩
  · have hl := cuLoop_ok (c + (a <<< cuShift)) cb (composedLen + 1) 0
    exact ⟨List.forall_mem_append.mpr ⟨hpre, hl.1⟩, fun v hv => Option.some.inj hv ▸ Or.inr hl.2, fun h => by simp at h⟩
example : (composedUnicode 1 0x41).2 = some 0xC0 ∧ (composedUnicode 8 0x75).2 = some 0xFC ∧ (composedUnicode 3 0x20).2 = some 0 ∧
    (composedUnicode 0 0x2A).2 = some 0x40 ∧ (composedUnicode 0 0x41).2 = none ∧ (composedUnicode 15 0x7F).1.length = 2 + 192 := by
  decide +kernel

/-- the one caller, enhance() modes 0x10 .. 0x1F with `p->data >= 0x20`: for every triplet a writer of packet.c stores (data
of 7 bits, `Zvbi.Gen.C01Cells.tripDataMax`) the arguments `p->mode - 0x10`, `p->data` satisfy the asserts and all accesses of
the call are in range -/
theorem composed_call_in_range (mode data cb : Nat) (_hm1 : cuCallLo ≤ mode) (hm2 : mode ≤ cuCallHi) (hd1 : cuCallGuard ≤ data)
    (hd2 : data ≤ Zvbi.Gen.C01Cells.tripDataMax) : ∀ x ∈ (composedUnicode (mode - cuCallSub) data).1, okAcc cb x := by
  refine (composed_unicode_in_range (mode - cuCallSub) data cb ?_ ?_ ?_).1
  · simp only [cuCallSub, cuCallHi, cuAccentMax] at *; omega
  · simp only [cuCallGuard, cuCharLo] at *; omega
  · simp only [Zvbi.Gen.C01Cells.tripDataMax, cuCharHi] at *; omega
example : (composedUnicode (0x1F - cuCallSub) 0x7F).1.length = 194 ∧ (composedUnicode (0x10 - cuCallSub) 0x20).2 = none := by
  decide +kernel

/-- why the guard `p->data >= 0x20` matters: with data 0x1F the assert `c >= 0x20` fails -/
theorem composed_call_guard_counterexample : ¬ okAcc 0 (Site.cuChar, 0x1F) ∧ (Site.cuChar, 0x1F) ∈ (composedUnicode 1 0x1F).1 := by
  refine ⟨?_, by decide +kernel⟩
  show ¬ (cuCharLo ≤ 0x1F ∧ 0x1F ≤ cuCharHi); decide

/-- for EVERY `unsigned int` argument (not only the 16 bits a vbi_char holds) and both values of `italic`, unicode_wstfont2
returns a glyph number below TCPL = 1536 (the glyphs of the font image): every branch of the function, the italic shift of
the first 17 glyph rows, the two rows of specials, `invalid` = 357, and the G3 branch whose `c - 0xEF20` wraps below 0xEF20
(`unsigned` arithmetic; the sum with 27 * 32 is 832 .. 863 there) -/
theorem wstfont2_glyph_in_range (c : Nat) (italic : Bool) (hc : c < 2 ^ 32) : unicodeWstfont2 c italic < tcpl :=
  unicodeWstfont2_lt c italic hc
example : unicodeWstfont2 0xEF00 false = 832 ∧ unicodeWstfont2 0x41 true = 33 + 31 * 32 ∧ unicodeWstfont2 0x2126 true = 28 + 41 * 32 ∧
    unicodeWstfont2 0xF030 false = 357 ∧ unicodeWstfont2 0x43F true = 1535 ∧ unicodeWstfont2 0xEE7F false = 0x5F + 23 * 32 := by
  decide +kernel

/-- draw_char with the Teletext font (`cpl` = TCPL, 12 x 10 cells): with a glyph number below TCPL every byte read through
`src[0]`, `src[1]` - every line, every size, upper and lower halves - lies inside `wstfont2_bits` (23040 bytes) -/
theorem draw_char_reads_in_font (glyph size cb : Nat) (hg : glyph < tcpl) :
    ∀ a ∈ drawCharReads tcpl tcw tch glyph size, okAcc cb a := drawCharReads_ok glyph size cb hg
example : (Site.wst, 23039) ∈ drawCharReads tcpl tcw tch 1535 6 ∧ (Site.wst, 23039) ∈ drawCharReads tcpl tcw tch 1535 0 ∧
    (drawCharReads tcpl tcw tch 0 0).length = 20 ∧ (drawCharReads tcpl tcw tch 0 7).length = 10 := by decide +kernel

/-- the bound is exact: glyph number 1536 reads `wstfont2_bits[23040]`, the byte behind the image -/
theorem draw_char_glyph_limit_counterexample :
    (Site.wst, wstBytes) ∈ drawCharReads tcpl tcw tch tcpl 0 := by decide +kernel

/-- the two together, for arbitrary cell contents: whatever `unicode` (any unsigned value) and `italic` a cell holds and
whatever its size, the non-DRCS branch of the renderer reads only bytes of `wstfont2_bits` -/
theorem char_cell_reads_in_font (unicode size cb : Nat) (italic : Bool) (hc : unicode < 2 ^ 32) :
    ∀ a ∈ drawCharReads tcpl tcw tch (unicodeWstfont2 unicode italic) size, okAcc cb a :=
  drawCharReads_ok _ size cb (unicodeWstfont2_lt unicode italic hc)
example : (drawCharReads tcpl tcw tch (unicodeWstfont2 0xEF1F true) 3).length = 10 := by decide +kernel

/-- vbi_draw_vt_page_region, ALL branches of a cell (DRCS glyph; draw_blank when the plane is not set; draw_char with the
Teletext font for every other code), over a region of `width` x `height` cells of arbitrary contents (unicode any unsigned
value, any size value, any italic flag), canvas of `height * 10` lines of `rs >= width * 12 * canvas_type` bytes, any
positive canvas type: under the DRCS hypothesis of `region_drcs_in_range`, every plane index, DRCS byte, byte of
`wstfont2_bits`, pen element and canvas byte is inside its object -/
theorem region_page_in_range (font : Nat → Nat → Nat) (planeSet : Nat → Bool) (ct rs width height : Nat) (cells : Nat → Nat → Cell)
    (italic : Nat → Nat → Bool) (hct : 0 < ct) (hrs : width * tcw * ct ≤ rs)
    (hu : ∀ r c, r < height → c < width → (cells r c).unicode < 2 ^ 32)
    (hcells : ∀ r c, r < height → c < width → isDrcs (cells r c).unicode = true → planeSet (planeOf (cells r c).unicode) = true →
      glyphOf (cells r c).unicode < charsGlyphs ∧ (cells r c).color + penNibbleMax < penLen) :
    ∀ a ∈ regionAccFull font planeSet ct rs width height cells italic, okAcc (rs * (height * tch)) a :=
  regionAccFull_ok font planeSet ct rs width height cells italic hct hrs hu hcells
/-- a 2 x 2 region on a 1 byte canvas: a double size character in the last column (clipped to double height), a DRCS cell with an
unset plane (blank), an italic character: the last canvas byte written is the last byte of the canvas -/
example : (Site.canvas, 24 * 20 - 1) ∈ regionAccFull (fun _ _ => 0) (fun _ => false) 1 24 2 2
      (fun r c => if r = 1 ∧ c = 1 then ⟨0x41, 3, 0⟩ else if c = 0 then ⟨0xF000, 0, 0⟩ else ⟨0x42, 1, 0⟩) (fun _ _ => true) ∧
    (regionAccFull (fun _ _ => 0) (fun _ => false) 1 24 2 2
      (fun r c => if r = 1 ∧ c = 1 then ⟨0x41, 3, 0⟩ else if c = 0 then ⟨0xF000, 0, 0⟩ else ⟨0x42, 1, 0⟩) (fun _ _ => true)).length
      = 1 + 2 * (1 + 120) + (20 + 2 + 120) + (10 + 2 + 120) := by
  decide +kernel

end Zvbi.Props.C01Gfx
