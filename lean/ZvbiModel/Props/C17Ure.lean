import ZvbiModel.Safe
import ZvbiModel.Ure.LemmasPlain
import ZvbiModel.Ure.Witness
import ZvbiModel.Ure.Current
import ZvbiModel.Search.Matcher
/-!
# C17, regular expression engine src/ure.c: the matcher parameter of the search model gets an instance

Model: ZvbiModel/Ure/{Syntax,Exec,Nfa,Dfa}.lean (`exec` = `ure_exec`, `compile` = `ure_compile`), tied to /repo by
translate/gen_ure.py (tables, constants, source shapes) and by the correspondence of lib/ure_stage.py (canonical DFA
dump and match interval of model and real code compared on every generated pattern / text).
`sh : Shape` = source shape (`Shape.unrepaired` = as found, findings C17-U1..U4, U7; `Shape.current` = what gen_ure.py read on
this run), `ct : CType` = the C library's character classification (parameter).
-/
namespace Zvbi.Props.C17Ure
open Zvbi.Ure

/-- `ure_exec` never reads outside the text, the state table, a transition list or the symbol table: for EVERY DFA whose
    stored indices are inside their tables (`Dfa.wf`), every text, every flag word and both source shapes.
    (`compile_wf`: every DFA `compile` returns is such a DFA.) -/
theorem exec_never_oob (sh : Shape) (ct : CType) (d : Dfa) (flags : Nat) (text : List Nat) (hwf : d.wf = true)
    (site : String) : exec sh ct d flags text ≠ .oob site := by
  unfold exec
  split
  · nofun
  · exact run_sat sh ct d flags text (I := fun _ s => s.st < d.states.length) (P := fun r => ∀ e, r ≠ .oob e)
      nofun (fun _ _ _ => nofun) (fun _ s hsp hst => iter_ok sh ct d flags text hwf s hsp hst) _ _
      ((wf_iff d).1 hwf).1 site

example : dAbcB.wf = true := by decide

/-- `ure_exec` returns (within `execFuel` = (len + 2)(len + states + 4) passes of its loop) for every DFA, text and
    flag word, PROVIDED the zero-width `^` transition at the start of the text is bounded (repaired shape `bolGuard`),
    switched off (URE_NOTBOL) or absent (no `^` in the DFA).  Without the proviso the statement is false:
    `exec_hang_counterexample`. -/
theorem exec_terminates (sh : Shape) (ct : CType) (d : Dfa) (flags : Nat) (text : List Nat)
    (hz : sh.bolGuard = true ∨ notBol flags = true ∨ Sym.bol ∉ d.syms) :
    exec sh ct d flags text ≠ .hang :=
  exec_not_hang sh ct d flags text hz

/-- non-vacuity: the repaired source returns on `^+` / "x" (empty match at 0), and so does the shape as found with URE_NOTBOL -/
example : exec Shape.repaired CType.probed dBolPlus 0 [0x78] = .found 0 0 ∧
    exec Shape.unrepaired CType.probed dBolPlus 4 [0x78] = .none := by decide +kernel

/-- FINDING C17-U2 (shape as found, `Shape.unrepaired`): the DFA of `^+` (as `ure_compile` builds it) on the text "x" with flags 0: the
    loop of `ure_exec` comes back to the same state for ever - with ANY amount of fuel the model answers `.hang`.
    Replayed on the C code: corpus/C17/ure-bol-loop.ops (`ok hang`); repair fixes/C17-ure-bol-loop.diff. -/
theorem exec_hang_counterexample :
    compile Shape.unrepaired CType.probed 0 false [0x5e, 0x2b] = .dfa dBolPlus ∧
    ∀ fuel, run Shape.unrepaired CType.probed dBolPlus 0 [0x78] fuel ESt.init = .hang :=
  ⟨by decide +kernel, fun
    | 0 => by decide
    | f + 1 => by
      -- the first pass takes `^` into state 1 without moving, and every later pass comes back to that state
      rw [run, if_pos (by decide), show iter Shape.unrepaired CType.probed dBolPlus 0 [0x78] ESt.init =
        .cont { sp := 0, m := some (0, 0), acc := some 0, st := 1, zw := 0 } by decide +kernel]
      exact run_fix (by decide) (by decide +kernel) f⟩

/-- For a DFA without anchors: what `ure_exec` reports is accepted - the DFA, read from its start state over
    text[ms .. me), ends in an accepting state; the stretch is non-empty and inside the text. -/
theorem exec_sound (sh : Shape) (ct : CType) (d : Dfa) (flags : Nat) (text : List Nat)
    (hwf : d.wf = true) (hpl : d.plain = true) (hbl : d.blankline = false) (ms me : Nat)
    (h : exec sh ct d flags text = .found ms me) :
    ms < me ∧ me ≤ text.length ∧ Acc sh ct d flags text ms (me - ms) := by
  have := exec_good sh ct d flags text hwf hpl hbl
  rw [h] at this
  exact ⟨this.1, this.2.1, this.2.2.1⟩

/-- ... no accepted non-empty stretch starts before `ms` (restart rule of 8b7ac93: every start position is tried) -/
theorem exec_leftmost (sh : Shape) (ct : CType) (d : Dfa) (flags : Nat) (text : List Nat)
    (hwf : d.wf = true) (hpl : d.plain = true) (hbl : d.blankline = false) (ms me : Nat)
    (h : exec sh ct d flags text = .found ms me) :
    ∀ p, p < ms → ∀ n, 1 ≤ n → ¬ Acc sh ct d flags text p n := by
  have := exec_good sh ct d flags text hwf hpl hbl
  rw [h] at this
  exact this.2.2.2.2

/-- ... and `me` is the LONGEST accepted extension from `ms` (bookkeeping of 9ff427f: `acc_me`) -/
theorem exec_longest_from_ms (sh : Shape) (ct : CType) (d : Dfa) (flags : Nat) (text : List Nat)
    (hwf : d.wf = true) (hpl : d.plain = true) (hbl : d.blankline = false) (ms me : Nat)
    (h : exec sh ct d flags text = .found ms me) :
    ∀ n, me - ms < n → ¬ Acc sh ct d flags text ms n := by
  have := exec_good sh ct d flags text hwf hpl hbl
  rw [h] at this
  exact this.2.2.2.1

/-- non-vacuity: `(ab)+`-like bookkeeping on the literal DFA and on `abc|b` -/
example : exec Shape.unrepaired CType.probed dLitAb 0 [0x61, 0x61, 0x62] = .found 1 3 ∧
    exec Shape.unrepaired CType.probed dAbcB 0 [0x78, 0x61, 0x62, 0x78] = .found 2 3 ∧
    dAbcB.plain = true ∧ dAbcB.blankline = false := by decide +kernel

/-- FINDING C17-U7 (shape as found, `Shape.unrepaired`): completeness fails at the end of the text.  `abc|b` on "ab": the attempt from 0 reads
    "ab", the text ends in a non-accepting state and the search ends - although "b" at [1, 2) is accepted.  The repaired
    shape (restart at ms + 1) finds it.  corpus/C17/ure-eot-restart.ops; fixes/C17-ure-eot-restart.diff. -/
theorem exec_complete_eot_counterexample :
    compile Shape.unrepaired CType.probed 0 false [0x61, 0x62, 0x63, 0x7c, 0x62] = .dfa dAbcB ∧
    exec Shape.unrepaired CType.probed dAbcB 0 [0x61, 0x62] = .none ∧
    Acc Shape.unrepaired CType.probed dAbcB 0 [0x61, 0x62] 1 1 ∧
    exec Shape.repaired CType.probed dAbcB 0 [0x61, 0x62] = .found 1 2 :=
  ⟨by decide +kernel, by decide +kernel, ⟨2, by decide +kernel, by decide +kernel⟩, by decide +kernel⟩

/-- FINDING C17-U6 (both shapes, not repaired): a DFA whose start state accepts (pattern matches the empty string) gives
    up at the first character without transition: `a*` finds nothing in "ba" although "a" at [1, 2) is accepted. -/
theorem exec_complete_nullable_counterexample :
    compile Shape.unrepaired CType.probed 0 false [0x61, 0x2a] = .dfa dAStar ∧
    exec Shape.unrepaired CType.probed dAStar 0 [0x62, 0x61] = .none ∧
    exec Shape.repaired CType.probed dAStar 0 [0x62, 0x61] = .none ∧
    Acc Shape.unrepaired CType.probed dAStar 0 [0x62, 0x61] 1 1 :=
  ⟨by decide +kernel, by decide +kernel, by decide +kernel, ⟨0, by decide +kernel, by decide +kernel⟩⟩

/-- FINDING C17-U5 (both shapes, not repaired): the DFA is built over SYMBOLS as if they were disjoint letters and
    `ure_exec` takes the first transition whose symbol matches: in the DFA of `f.*o` state 1 tries `.` before `o`, the
    accepting state is unreachable - nothing is found in "fxo" (nor anywhere else). -/
theorem overlap_counterexample :
    compile Shape.unrepaired CType.probed 0 false [0x66, 0x2e, 0x2a, 0x6f] = .dfa dFDotO ∧
    exec Shape.unrepaired CType.probed dFDotO 0 [0x66, 0x78, 0x6f] = .none ∧
    exec Shape.repaired CType.probed dFDotO 0 [0x66, 0x78, 0x6f] = .none ∧
    DfaLang dFDotO [0, 1, 2] :=
  ⟨by decide +kernel, by decide +kernel, by decide +kernel, ⟨2, by decide +kernel, by decide +kernel⟩⟩

/-- Every DFA `compile` hands out is well formed (checked predicate: the model's `compile` ends with the test
    `Dfa.wf` and reports `oob "dfa"` otherwise, which the correspondence would show as a disagreement - the C code has
    no such test): so `exec_never_oob` applies to everything `ure_compile` produces. -/
theorem compile_wf (sh : Shape) (ct : CType) (e : Int) (cf : Bool) (pat : List Nat) (d : Dfa)
    (h : compile sh ct e cf pat = .dfa d) : d.wf = true := by
  unfold compile at h
  split at h
  · simp at h
  · split at h
    · simp at h
    · simp only [] at h
      split at h
      · rename_i x hx
        subst h
        -- statement by statement through the `do` block down to its last one, the `wf` test in front of `pure`
        obtain ⟨⟨state, b⟩, _, hx⟩ := bind_ok hx
        dsimp only at hx
        split at hx
        · cases hx
        · obtain ⟨_, _, hx⟩ := bind_ok hx
          obtain ⟨_, _, hx⟩ := bind_ok hx
          obtain ⟨_, _, hx⟩ := bind_ok hx
          obtain ⟨_, _, hx⟩ := bind_ok hx
          split at hx
          · obtain ⟨_, h, _⟩ := bind_ok hx; cases h
          · split at hx
            · obtain ⟨_, h, _⟩ := bind_ok hx; cases h
            · rename_i hwf
              cases hx
              simpa using hwf
      · simp at h

/-- FINDING C17-U4 / C17-U3 (shape as found, `Shape.unrepaired`): `compile_never_oob_full` is FALSE: a pattern that ends inside a class makes
    `_ure_cclass` read the element behind the pattern ("[": `*sp == '^'` with `sp == ep`), and `[:drcs:]` makes
    `_ure_posix_ccl` read `cclass_trie[88]` (the table has 88 elements).  With the repairs both patterns are
    rejected / compiled without leaving a table.  corpus/C17/ure-pattern-overread.ops, ure-posix-drcs.ops
    (AddressSanitizer: heap-buffer-overflow / global-buffer-overflow). -/
theorem compile_oob_counterexample :
    compile Shape.unrepaired CType.probed 0 false [0x5b] = .err (.oob "pattern") ∧
    compile Shape.unrepaired CType.probed 0 false [0x5b, 0x3a, 0x64, 0x72, 0x63, 0x73, 0x3a, 0x5d] = .err (.oob "cclass_trie") ∧
    compile Shape.repaired CType.probed 0 false [0x5b] = .null (-2) ∧
    compile Shape.repaired CType.probed 0 false [0x5b, 0x3a, 0x64, 0x72, 0x63, 0x73, 0x3a, 0x5d] =
      .dfa ⟨false, false, [Sym.ccl false 0x20000 []], [⟨false, [(0, 1)]⟩, ⟨true, []⟩]⟩ := by
  decide +kernel

/-- the malformed patterns of F47 / F48 (operator without operand, property number past `cclass_flags[]`) are rejected
    with an error code, no table is left (both shapes) -/
theorem compile_malformed_rejected :
    compile Shape.unrepaired CType.probed 0 false [0x7c, 0x61] = .null (-1) ∧
    compile Shape.unrepaired CType.probed 0 false [0x28, 0x2a, 0x29] = .null (-3) ∧
    compile Shape.unrepaired CType.probed 0 false [0x5c, 0x70, 0x39, 0x39] = .null (-4) ∧
    compile Shape.unrepaired CType.probed 0 false [0x61, 0x29] = .null (-3) := by
  decide +kernel

/-- the matcher of the search model (`Search.exactLit`: leftmost occurrence, proved in Props/C17.lean `matcher_exact`)
    agrees with `ure_exec` on the DFA `ure_compile` builds from the escaped literal pattern: instances (kernel evaluated;
    the statement for all patterns and texts is `ure_literal_is_exactLit_full`, compared by the correspondence on every
    generated `lit` case): "ab" in "aab" (the D1 witness), in "ab", "xxab", and not in "aXb", "" -/
theorem ure_literal_is_exactLit_partial :
    compile Shape.unrepaired CType.probed 0 false (escapeLit [0x61, 0x62]) = .dfa dLitAb ∧
    ∀ text ∈ [[0x61, 0x61, 0x62], [0x61, 0x62], [0x78, 0x78, 0x61, 0x62], [0x61, 0x58, 0x62], [], [0x61], [0x62, 0x61]],
      (match exec Shape.unrepaired CType.probed dLitAb 0 text with
       | .found ms me => some (ms, me)
       | _ => none) = Zvbi.Search.exactLit false [0x61, 0x62] {} text := by
  constructor <;> decide +kernel

end Zvbi.Props.C17Ure
