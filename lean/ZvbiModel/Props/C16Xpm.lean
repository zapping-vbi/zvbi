import ZvbiModel.Export.Xpm
import ZvbiModel.Export.LemmasPpm
import ZvbiModel.Props.C16
/-!
# C16, XPM writer (exp-gfx.c `xpm_export`) inside the model

Header text, colour table, row quoting, footer / extension block and the exact byte count as a function of
(columns, rows, aspect, transparency, title, creator), for every target; pixel values are symbolic (`img`: the palette
indices `draw_row_indexed` produced for every text row).
-/
namespace Zvbi.Props.C16Xpm
open Zvbi.Export Zvbi.Export.Spec

/-- what the renderer hands over: one entry per text row, `char_height` lines of `image_width` palette indices -/
def ImgOk (columns rows : Nat) (dh : Bool) (img : List (List (List Nat))) : Prop :=
  img.length = rows ∧ ∀ lines ∈ img, lines.length = (ppmGeom columns dh).charH ∧
    ∀ l ∈ lines, l.length = ppmWidth columns (ppmGeom columns dh)

/-- **XPM output.**  For every target, page size, option vector and colour map: the data is the header text with
`<width> <height> 40 1` (and ` XPMEXT` when there is a title or creator), the 40 palette lines, `/* pixels */`, then for
every text row in page order its image lines (`xpmRowBytes`), then the footer (extension block, `};`) - nothing else;
the same bytes for all four targets; and the length is
header + 600 (597 with `transparency`: entry 8 is `None`) + 13 + rows * ((width + 4) * lines per row) + footer. -/
theorem xpm_output_exact (t : Target) (env : XpmEnv) (colorAt : Nat → Nat) (columns rows : Nat) (img : List (List (List Nat)))
    (hi : ImgOk columns rows env.doubleHeight img) :
    let g := ppmGeom columns env.doubleHeight
    let doc := xpmHeaderText (ppmWidth columns g) (ppmHeight rows g) (xpmExt env)
      ++ (List.range 40).flatMap (xpmColorLine env.transparency colorAt) ++ xpmPixelsComment
      ++ img.flatMap (xpmRowBytes g.scale) ++ output (xpmFooterOps env)
    output (xpmOps t env colorAt columns rows img) = doc ∧
    doc.length = (xpmHeaderText (ppmWidth columns g) (ppmHeight rows g) (xpmExt env)).length + (if env.transparency then 597 else 600) + 13
      + rows * xpmRowSize columns g + (output (xpmFooterOps env)).length := by
  intro g doc
  have hrow : ∀ lines ∈ img, (xpmRowBytes g.scale lines).length = xpmRowSize columns g :=
    fun lines hm => xpmRowBytes_length columns env.doubleHeight lines (hi.2 lines hm).1 (hi.2 lines hm).2
  constructor
  · have hrows : output (xpmRowOps columns g img) = img.flatMap (xpmRowBytes g.scale) :=
      directRows_output _ (xpmRowBytes g.scale) img hrow
    have hhdr := xpmHeaderOps_output env colorAt (ppmWidth columns g) (ppmHeight rows g)
    -- what precedes the header is at most a grow step that stores nothing
    have key : ∀ pre : List Op, output pre = [] → output (pre ++ xpmHeaderOps env colorAt (ppmWidth columns g) (ppmHeight rows g)
        ++ xpmRowOps columns g img ++ xpmFooterOps env) = doc := fun pre hp => by
      rw [output_append, output_append, output_append, hp, hrows, hhdr, List.nil_append]
    cases t <;> exact key _ (by simp [output, opBytes])
  · have h1 := flatMap_length_const img (xpmRowBytes g.scale) _ hrow
    have h2 := xpmColorTable_length env.transparency colorAt
    have h3 : xpmPixelsComment.length = 13 := by decide
    simp only [doc, List.length_append, h1, h2, h3, hi.1]

example : xpmHeaderText 480 500 true
    = s2b "/* XPM */\nstatic char *image[] = {\n/* width height ncolors chars_per_pixel */\n\"480 500 40 1 XPMEXT\",\n/* colors */\n" := by decide +kernel
example : xpmColorLine true (fun _ => 0x00AB3412) 1 = s2b "\"1 c #1234AB\",\n" ∧ xpmColorLine true (fun _ => 0) 8 = s2b "\". c None\",\n"
    ∧ xpmColorLine false (fun _ => 0) 8 = s2b "\". c #000000\",\n" := by decide +kernel
example : output (xpmFooterOps { creator := s2b "a\"b", pgno := 0x123, subno := 0x3F7F })
    = s2b "\"XPMEXT title Teletext Page 123\",\n\"XPMEXT software a'b\",\n\"XPMENDEXT\"\n};\n" := by decide +kernel
example : output (xpmFooterOps { titled := false }) = s2b "};\n" := by decide

/-- **Row quoting.**  Every image line is `"`, exactly one colour code per pixel, `",` and a line feed; every code is one of
the 40 characters of `xpm_col_codes` (palette indices >= 40 - translucent colours - become `.`), none of which is `"`, `\`
or a line feed: no pixel value can end the C string early.  A text row yields 13 / 26 lines (caption, aspect 0 / 1) or
10 / 20 lines (Teletext): every second rendered line, every line, or every line twice. -/
theorem xpm_row_quoting (line : List Nat) (scale : Nat) (lines : List (List Nat)) :
    (∃ codes : Bytes, xpmLine line = [34] ++ codes ++ [34, 44, 10] ∧ codes.length = line.length ∧
      ∀ b ∈ codes, b ∈ xpmColCodes ∧ b ≠ 34 ∧ b ≠ 92 ∧ b ≠ 10) ∧
    xpmRowBytes scale lines = (xpmPick scale lines).flatMap xpmLine ∧
    (xpmPick scale lines).length = (if scale = 0 then (lines.length + 1) / 2 else if scale = 2 then lines.length * 2 else lines.length) ∧
    (∀ l ∈ xpmPick scale lines, l ∈ lines) := by
  refine ⟨⟨line.map xpmCode, by simp [xpmLine], by simp, ?_⟩, rfl, xpmPick_length scale lines, fun l h => mem_xpmPick scale lines l h⟩
  intro b hb
  obtain ⟨c, _, rfl⟩ := List.mem_map.1 hb
  exact xpmCode_safe c

example : xpmRowBytes 2 [[7, 0, 8, 48, 200]] = s2b "\"7 ...\",\n\"7 ...\",\n" := by decide
example : xpmPick 0 [[1], [2], [3], [4]] = [[1], [3]] := by decide

/-- The extension texts cannot end their string either: `"` in title / creator is written as `'`. -/
theorem xpm_ext_unquoted (s : Bytes) : (unquote s).length = s.length ∧ ∀ b ∈ unquote s, b ≠ 34 := by
  refine ⟨by simp [unquote], ?_⟩
  intro b hb
  obtain ⟨c, _, rfl⟩ := List.mem_map.1 hb
  split <;> simp_all

/-- The space the module asks for in advance (ALLOC: whole image, FILE: the largest piece between two flushes) covers
every row, and for ALLOC all rows. -/
theorem xpm_needed_covers (t : Target) (env : XpmEnv) (columns rows : Nat) (g : PpmGeom) :
    (t = .alloc → rows * xpmRowSize columns g ≤ xpmNeeded t env columns rows g) ∧
    (1 ≤ rows → xpmRowSize columns g ≤ xpmNeeded t env columns rows g) := by
  constructor
  · intro h; subst h; simp only [xpmNeeded, if_true]; rw [Nat.mul_comm]; omega
  · intro hr
    unfold xpmNeeded
    dsimp only
    split
    · have : xpmRowSize columns g ≤ xpmRowSize columns g * rows := Nat.le_mul_of_pos_right _ hr
      omega
    · exact Nat.le_max_right _ _

/-- **Joined with the write layer**: the XPM module's calls are an instance of the abstract call list of `targets_agree` /
`mem_bounded`: every target delivers the document of `xpm_output_exact`, `vbi_export_mem` reports exactly its size and
leaves the caller's buffer size alone. -/
theorem xpm_targets_agree (wcfg : Cfg) (t : Target) (env : XpmEnv) (colorAt : Nat → Nat) (columns rows : Nat)
    (img : List (List (List Nat))) (user : Option Bytes) (hi : ImgOk columns rows env.doubleHeight img) :
    let ops := xpmOps t env colorAt columns rows img
    (exportMem wcfg .unlimited user ops).ret = some (output ops).length ∧
    (exportMem wcfg .unlimited user ops).user.length = (user.getD []).length ∧
    (exportAlloc wcfg .unlimited ops).data = some (output ops) ∧
    (exportStdio wcfg .unlimited ops).sink = some (output ops) ∧ (exportFile wcfg .unlimited ops).sink = some (output ops) := by
  intro ops
  have ho := (xpm_output_exact t env colorAt columns rows img hi).1
  have ht := Zvbi.Props.C16.targets_agree wcfg user ops
  have hne : output ops ≠ [] := by
    show output (xpmOps t env colorAt columns rows img) ≠ []
    rw [ho]
    intro hnil
    have hl := congrArg List.length hnil
    simp only [List.length_append, List.length_nil] at hl
    have h3 : xpmPixelsComment.length = 13 := by decide
    omega
  exact ⟨ht.1, (Zvbi.Props.C16.mem_bounded wcfg .unlimited user ops).1, ht.2.2.1 hne, ht.2.2.2.1.2, ht.2.2.2.2.2⟩

example : ImgOk 1 1 false [List.replicate 26 (List.replicate 16 7)] := by
  refine ⟨rfl, ?_⟩
  intro lines h
  rw [List.mem_singleton] at h; subst h
  refine ⟨by decide, ?_⟩
  intro l hl; rw [List.eq_of_mem_replicate hl]; decide

end Zvbi.Props.C16Xpm
