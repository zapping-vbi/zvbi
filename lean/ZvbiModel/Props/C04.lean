import ZvbiModel.Rawdec.LemmasInv
import ZvbiModel.Rawdec.SvcLines
import ZvbiModel.Slicer.BitsStage
/-!
# C04 - raw VBI decoding recovers every standard signal bit-exactly, on the right line

Property theorems about the model of `src/raw_decoder.c` / `src/sampling_par.c` (`Rawdec/Model.lean`) and of the bit
slicers (`Rawdec/SliceModel.lean`).  A *history* is any list of `add_services`, `remove_services`, `reset` and
`decode` calls on one decoder; a `decode` op carries an arbitrary *slicer oracle* (what `slice()` returns for every
row, job and threshold), i.e. an arbitrary raw image.  `fx : Fixes` selects the released or the repaired
`remove_services`; `Fixes.repo` is what /repo contains.

Proved for ALL histories, sampling parameters, images: the bookkeeping (`pattern_inv`, `no_index_error`), what one
`decode` call returns (`one_record_per_line`, `nothing_beyond_count`, `line_numbers_correct_ascending`,
`right_service_only`, `blank_no_output`), the move-to-front (`decode_preserves_jobs`), the payload stage of the slicers
under the eye-open hypothesis (`slice_exact_under_open_eye`, `slice_exact_msb_octets`).
NOT proved (sampled by the oracle of checks/C04.py): io-sim's waveform satisfies the eye-open hypothesis.
Full-strength statements that are FALSE on the released code are kept as `def ..._full : Prop` next to a proved
counterexample.
-/
namespace Zvbi.Props.C04
open Zvbi.Rawdec Zvbi.Generated.ServiceTable

/-- After ANY history on ANY sampling parameters (released or repaired `remove_services`):
    at most 8 jobs; the pattern, once allocated, has one row per scan line, every row has exactly 8 ways, keeps a
    free (non-positive) way - so the unbounded scans `for (pat = pattern;; ++pat)` of `decode_pattern` and
    `for (way = 0; pattern[way] > 0; ++way)` of `add_job_to_pattern` stop inside the row - and every job number in
    it refers to a live job (`<= n_jobs`); the last way holds a job only while way 0 is free. -/
theorem pattern_inv (fx : Fixes) (ti : Nat → Nat) (sp : SPar) (ops : List Op) :
    let s := run fx ti sp ops
    s.jobs.length ≤ 8 ∧
    ∀ p, s.pattern = some p → p.length = sp.scanLines ∧
      ∀ row ∈ p, row.length = 8 ∧ (∃ x ∈ row, x ≤ 0) ∧ (∀ x ∈ row, x ≤ (s.jobs.length : Int)) ∧
        (row.getD 7 0 ≤ 0 ∨ row.getD 0 0 ≤ 0) := by
  obtain ⟨h, hsp⟩ := run_inv fx ti sp ops
  refine ⟨h.jobsLe, ?_⟩
  intro p hp
  have := h.pat p hp
  rw [hsp] at this
  exact ⟨this.1, fun row hr => ⟨(this.2 row hr).len, (this.2 row hr).free, (this.2 row hr).bound, (this.2 row hr).lof⟩⟩

example : (run Fixes.none (fun _ => 0) ⟨625, 1, 13500000, 720, 132, 7, 17, 320, 17, false, true⟩
    [.add 0x7 0, .remove 0x4, .add 0x400 0]).jobs.length = 3 := by decide

/-- No history reaches an out-of-range index into `pattern[]` / `jobs[]` or the failing
    `assert (pattern < pattern_end)`: the only error value the model can take is the assertion behind
    `vbi3_bit_slicer_set_params` returning FALSE, which `C04Reach.set_params_assertion_unreachable` excludes for the
    repaired code, every known pixel format, line length `<= 32767` and 32 bit rate (`CfgOK`). -/
theorem no_index_error (fx : Fixes) (ti : Nat → Nat) (sp : SPar) (ops : List Op) (e : String)
    (h : (run fx ti sp ops).err = some e) : e = "assert bit_slicer_set_params" := by
  have := (run_inv fx ti sp ops).1.noIdx
  rw [h] at this
  rcases this with h1 | h1
  · cases h1
  · simpa [slicerAssert] using h1

example : (run Fixes.none (fun _ => 0) ⟨625, 1, 13500000, 720, 132, 7, 17, 320, 17, false, true⟩
    [.add 0x7 0, .remove 0x4]).err = none := by decide

/-- `remove_job_from_pattern` (released and repaired) on a valid row of a decoder with
    `n` jobs, for any job number `1 <= jn <= n`: the row stays 8 ways long, keeps a free way, and every remaining
    job number refers to one of the `n - 1` remaining jobs (numbers above `jn` moved down with `rd->jobs[]`). -/
theorem remove_keeps_rows_valid (n : Nat) (row : PRow) (km : Bool) (jn : Int) (h : RowOK n row) (h1 : 0 < jn)
    (h2 : jn ≤ (n : Int)) : RowOK (n - 1) (removeRow km jn row) :=
  removeRow_ok km jn h h1 h2

example : removeRow false 1 [1, 2, 3, 0, 0, 0, 0, -128] = [1, 2, 0, 0, 0, 0, -128, 0] := by decide

/-- `decode_pattern` on any valid row, for ANY slicer behaviour (any image), any
    `readjust` phase: it returns without leaving the row, the row stays valid, and the multiset of jobs on the line is
    unchanged (`count` of every positive job number) - the matched job is moved to way 0 by a swap, nothing is lost.
    (A decoder whose two move-to-front statements are exchanged loses the job of way 0: then
    `count` of that job drops to 0 and this theorem fails.) -/
theorem decode_preserves_jobs (sp : SPar) (readjust : Nat) (sl : Nat → Job → Option (List Nat) × Nat) (i : Nat)
    (row : PRow) (jobs : List Job) (h : RowOK jobs.length row) :
    ∃ row' jobs' rec, decodePattern sp readjust sl i row jobs = .ok (row', jobs', rec) ∧
      RowOK jobs.length row' ∧ ∀ x, 0 < x → row'.count x = row.count x := by
  obtain ⟨⟨row', jobs', rec⟩, he, hw⟩ :=
    decodeWays_spec sp readjust sl i row.length 0 row jobs (by rw [h.len]) h (by intro q hq; omega)
  exact ⟨row', jobs', rec, he, hw.step.ok, hw.step.same⟩

/-- non-vacuity: job 2 matches on a line whose way list is [1, 2]: afterwards [2, 1] -/
example : (decodePattern ⟨625, 1, 13500000, 720, 132, 7, 17, 320, 17, false, true⟩ 1
    (fun j job => if j = 1 then (some [1, 2], job.thresh) else (none, job.thresh)) 9
    [1, 2, 0, 0, 0, 0, 0, -128] [⟨3, 2, 0⟩, ⟨4, 5, 0⟩]).toOption.map (·.1) = some [2, 1, 0, 0, 0, 0, 0, -128] := by
  decide

/-- One call of `vbi3_raw_decoder_decode` from any reachable state, for any image and any
    `max_lines`: the records are stored in `sliced[0], sliced[1], ..., sliced[n-1]` in this order, nothing else is
    written, and the returned count `n` is `<= max_lines`. -/
theorem nothing_beyond_count (fx : Fixes) (ti : Nat → Nat) (sp : SPar) (ops : List Op) (maxLines : Nat) (sl : Slicer) :
    let r := decodeFrame (run fx ti sp ops) maxLines sl
    r.2.2.map (·.1) = List.range r.2.1.length ∧ r.2.1.length ≤ maxLines := by
  have F := frame_of_run fx ti sp ops maxLines sl
  exact ⟨F.slots, F.le⟩

/-- One call of `vbi3_raw_decoder_decode` from any reachable state: every record belongs to a different row of the image, rows strictly ascending,
    all inside the image; there are exactly as many records as writes. -/
theorem one_record_per_line (fx : Fixes) (ti : Nat → Nat) (sp : SPar) (ops : List Op) (maxLines : Nat) (sl : Slicer) :
    let r := decodeFrame (run fx ti sp ops) maxLines sl
    r.2.2.length = r.2.1.length ∧ List.Pairwise (fun x y => x.2 < y.2) r.2.2 ∧ ∀ w ∈ r.2.2, w.2 < sp.scanLines := by
  have F := frame_of_run fx ti sp ops maxLines sl
  refine ⟨F.wlen, F.asc, ?_⟩
  intro w hw
  obtain ⟨p, hp, hlt⟩ := F.inImage w hw
  rw [((run_inv fx ti sp ops).1.pat p hp).1, (run_inv fx ti sp ops).2] at hlt
  exact hlt

/-- The `line` of the k-th record is the ITU-R line number of the row it was
    found on (`start[0] + row` resp. `start[1] + row - count[0]`, 0 when the field order or start line is unknown);
    with known field order and start lines the line numbers are strictly ascending. -/
theorem line_numbers_correct_ascending (fx : Fixes) (ti : Nat → Nat) (sp : SPar) (ops : List Op) (maxLines : Nat) (sl : Slicer) :
    let r := decodeFrame (run fx ti sp ops) maxLines sl
    r.2.1.map (·.line) = r.2.2.map (fun w => lineOf sp w.2) ∧
    (sp.synchronous = true → sp.start0 ≠ 0 → sp.start1 ≠ 0 → sp.start0 + sp.count0 ≤ sp.start1 →
      List.Pairwise (· < ·) (r.2.1.map (·.line))) := by
  have F := frame_of_run fx ti sp ops maxLines sl
  have hl := F.lines
  rw [(run_inv fx ti sp ops).2] at hl
  refine ⟨hl, ?_⟩
  intro hs h0 h1 hord
  rw [hl, List.pairwise_map]
  exact F.asc.imp (fun {a b} hab => lineOf_strictMono sp hs h0 h1 hord a.2 b.2 hab)

/-- what `_vbi_sampling_par_valid_log` guarantees about the two fields (625 and 525 line systems; C `int` ranges) -/
theorem valid_fields_ordered (sp : SPar) (hv : sp.valid = true) (h0 : sp.start0 ≠ 0) (h1 : sp.start1 ≠ 0)
    (hc : sp.count0 < 2147483648) : sp.start0 + sp.count0 ≤ sp.start1 := by
  obtain ⟨hs, _, _, f0, f1, _⟩ := valid_spec sp hv
  have a := (f0 h0).2 hc
  have b := (f1 h1).1
  simp only [fieldLo, fieldHi] at a b
  rcases hs with h | h <;> simp [h] at a b <;> omega

/-- The `id` of every record is the id set of a job that is live in the decoder when the
    frame is decoded - never anything else.  (That live jobs are exactly the services reported by
    `add_services`/`remove_services` is `ids_within_services_full` below: true for the repaired
    `remove_services`, FALSE for the released one.) -/
theorem right_service_only (fx : Fixes) (ti : Nat → Nat) (sp : SPar) (ops : List Op) (maxLines : Nat) (sl : Slicer) :
    ∀ r ∈ (decodeFrame (run fx ti sp ops) maxLines sl).2.1, r.id ∈ (run fx ti sp ops).jobs.map (·.id) :=
  (frame_of_run fx ti sp ops maxLines sl).ids

/-- If no slicer finds a signal on any row (a blank image), no record is returned. -/
theorem blank_no_output (fx : Fixes) (ti : Nat → Nat) (sp : SPar) (ops : List Op) (maxLines : Nat) (sl : Slicer)
    (hblank : ∀ i j job, (sl i j job).1 = none) : (decodeFrame (run fx ti sp ops) maxLines sl).2.1 = [] :=
  (frame_of_run fx ti sp ops maxLines sl).blank hblank

/-- non-vacuity of the frame theorems: Teletext B + VPS on lines 7-23 / 320-336, a frame with VPS on row 9 (line 16)
    and Teletext on row 20 (line 323) yields exactly these two records, in this order, with these line numbers -/
example : (decodeFrame (run Fixes.none (fun _ => 0) ⟨625, 1, 13500000, 720, 132, 7, 17, 320, 17, false, true⟩ [.add 0x7 0]) 34
    (nominalSlicer [(4, 9, [1, 2]), (3, 20, [5])])).2.1 = [⟨4, 16, [1, 2]⟩, ⟨3, 323, [5]⟩] := by decide

/-! ## the slicers -/

/-- (core slicer `bit_slicer_<fmt>`, octet mode LSB first: all Teletext systems,
    Caption 625/525).  If the clock run-in search on the sample sequence `g` stops in iteration `k` with threshold
    `tr`, the FRC bits sampled at `phase_shift + j*step` equal the framing code, and the eye is open for payload `w`
    - the interpolated level at every payload sampling instant `phase_shift + (frc_bits + j)*step` is on the side of
    `tr` that bit `j` of `w` (LSB first) demands - then `slice()` returns exactly `w`. -/
theorem slice_exact_under_open_eye (bs : BS) (hend : bs.endian = 1) (thresh : Nat) (g : Nat → Nat) (k tr th' : Nat)
    (hcri : coreSearch bs g bs.criSamples 0 thresh {} = some (k, tr, th'))
    (w : List Nat) (hlen : w.length = bs.payload) (hbytes : ∀ x ∈ w, x < 256)
    (hfrc : frcValue bs (coreSampler g k tr) = bs.frc)
    (heye : ∀ j, j < 8 * bs.payload → coreSampler g k tr (payloadPos bs j) = bitAt 1 (8 * bs.payload) w j) :
    coreSlice bs thresh g = (some w, th') := by
  unfold coreSlice
  rw [hcri]
  have hn : nBits bs = 8 * bs.payload := by simp [nBits, hend]
  exact congrArg (·, th') (payloadStage_exact .core bs _ w (by omega) ⟨hbytes, by simp [hend, hlen]⟩ (by omega) (by omega)
    hfrc (by rw [hn, hend]; exact heye))

/-- (all three slicers, octet mode MSB first: VPS).  The payload stage shared by
    `bit_slicer_<fmt>`, `low_pass_bit_slicer_Y8` and the legacy `bit_slicer_tmpl` returns exactly `w` when the FRC
    matches and every sampled payload bit is the corresponding bit of `w`, MSB first - whatever the accumulator `c`
    held when the loop started. -/
theorem slice_exact_msb_octets (v : Variant) (bs : BS) (hend : bs.endian = 0) (smp : Sampler)
    (w : List Nat) (hlen : w.length = bs.payload) (hbytes : ∀ x ∈ w, x < 256)
    (hfrc : frcValue bs smp = bs.frc)
    (heye : ∀ j, j < 8 * bs.payload → smp (payloadPos bs j) = bitAt 0 (8 * bs.payload) w j) :
    payloadStage v bs smp = some w := by
  have hn : nBits bs = 8 * bs.payload := by simp [nBits, hend]
  exact payloadStage_exact v bs smp w (by omega) ⟨hbytes, by simp [hend, hlen]⟩ (by omega) (by omega)
    hfrc (by rw [hn, hend]; exact heye)

/-- non-vacuity: a 1-byte MSB-first payload 0xA5 sampled bit by bit -/
example : payloadStage .core ⟨0, 0, 0, 1, 4, 9, 0, 0, 0, 256, 1, 0⟩
    (fun pos => (0xA5 : Nat).testBit (7 - pos / 256)) = some [0xA5] := by decide

/-! ## statements that are false on the released `remove_services` (F61, F62, F63) -/

/-- the three jobs Teletext B, VPS, Caption 625 on a 625 line decoder -/
def s3 (fx : Fixes) (ops : List Op) : State :=
  run fx (fun _ => 0) ⟨625, 1, 13500000, 720, 132, 7, 17, 320, 17, false, true⟩ (.add 0x1f 0 :: ops)

/-- FULL statement (false on the released code: `ids_counterexample`; proved for the repaired code where C does not abort:
    `C04Reach.ids_within_services_every_history`): after `remove_services (sv)` no live job carries a bit of `sv`
    and every live job's id lies inside the reported services. -/
def ids_within_services_full (fx : Fixes) : Prop :=
  ∀ (ti : Nat → Nat) (sp : SPar) (ops : List Op) (sv : Nat),
    ∀ job ∈ (run fx ti sp (ops ++ [.remove sv])).jobs, job.id &&& sv = 0

/-- F61: the released `remove_services` only looks at `rd->jobs[0]`: removing VPS (job 2 of 3) leaves the VPS job
    alive while `rd->services` no longer lists it -/
theorem ids_counterexample : ¬ ids_within_services_full Fixes.none := by
  intro h
  have := h (fun _ => 0) ⟨625, 1, 13500000, 720, 132, 7, 17, 320, 17, false, true⟩ [.add 0x1f 0] 0x4
  revert this
  decide +kernel

/-- ... the repaired loop removes it -/
example : (s3 Fixes.all [.remove 0x4]).jobs.map (·.id) = [3, 0x18] ∧ (s3 Fixes.all [.remove 0x4]).services = 0x1b := by decide
example : (s3 Fixes.none [.remove 0x4]).jobs.map (·.id) = [3, 4, 0x18] ∧ (s3 Fixes.none [.remove 0x4]).services = 0x1b := by decide

/-- FULL statement (false on the released code: `services_counterexample`; proved for the repaired code:
    `C04Bits.services_have_jobs`): every service reported by the decoder has a live job -/
def services_have_jobs_full (fx : Fixes) : Prop :=
  ∀ (ti : Nat → Nat) (sp : SPar) (ops : List Op),
    (run fx ti sp ops).services = ((run fx ti sp ops).jobs.map (·.id)).foldl (· ||| ·) 0

/-- F63: removing Caption 625 field 1 (0x8) deletes the merged caption job but leaves 0x10 in `rd->services`: field 2
    is reported as decoded, is not decoded, and cannot be added again.  (Caption must be the first job for the released
    loop to see it at all.) -/
theorem services_counterexample : ¬ services_have_jobs_full Fixes.none := by
  intro h
  have := h (fun _ => 0) ⟨625, 1, 13500000, 720, 132, 7, 17, 320, 17, false, true⟩ [.add 0x18 0, .remove 0x8]
  revert this
  decide +kernel

example : (run Fixes.all (fun _ => 0) ⟨625, 1, 13500000, 720, 132, 7, 17, 320, 17, false, true⟩
    [.add 0x18 0, .remove 0x8]).services = 0 := by decide

/-- a row is *armed* when the decoder looks at it in every frame: its jobs come first and the `not blank` marker
    sits in the last way -/
def armed (row : PRow) : Bool := decide (row.getD 0 0 > 0) && decide (row.getD 7 0 < 0) || row.all (· ≤ 0)

/-- FULL statement (false on the released code: `armed_counterexample`; proved for the repaired code:
    `C04Reach.armed_reachable`): every row of every reachable pattern is armed (so a line with a requested service is
    examined in every frame, not once in 16) -/
def armed_reachable_full (fx : Fixes) : Prop :=
  ∀ (ti : Nat → Nat) (sp : SPar) (ops : List Op) (p : Pattern), (run fx ti sp ops).pattern = some p →
    ∀ row ∈ p, armed row = true

/-- F62: `remove_job_from_pattern` copies the marker -128 like a job number: after removing Teletext (job 1) the
    marker of line 16 (VPS, now job 1) sits in way 6; one frame without VPS later the line is predicted blank and VPS
    is looked for only once in 16 frames -/
theorem armed_counterexample : ¬ armed_reachable_full Fixes.none := by
  intro h
  have := h (fun _ => 0) ⟨625, 1, 13500000, 720, 132, 7, 17, 320, 17, false, true⟩
    [.add 0x7 0, .remove 0x3, .decode 34 (nominalSlicer [])]
  revert this
  decide +kernel

/-- the consequence, on the model of the released code: VPS transmitted on line 16 in the next frame is NOT returned -/
example : (decodeFrame (run Fixes.none (fun _ => 0) ⟨625, 1, 13500000, 720, 132, 7, 17, 320, 17, false, true⟩
    [.add 0x7 0, .remove 0x3, .decode 34 (nominalSlicer [])]) 34 (nominalSlicer [(4, 9, [1])])).2.1 = [] := by decide +kernel

/-- ... and on the repaired code it is -/
example : (decodeFrame (run Fixes.all (fun _ => 0) ⟨625, 1, 13500000, 720, 132, 7, 17, 320, 17, false, true⟩
    [.add 0x7 0, .remove 0x3, .decode 34 (nominalSlicer [])]) 34 (nominalSlicer [(4, 9, [1])])).2.1 = [⟨4, 16, [1]⟩] := by decide +kernel

/-- the C code asserts `par->first[f] <= par->last[f]` in `lines_containing_data`; it holds for the generated table -/
theorem table_first_le_last : ∀ r ∈ serviceTable, r.first0 ≤ r.last0 ∧ r.first1 ≤ r.last1 := by decide

end Zvbi.Props.C04
