import ZvbiModel.Dec.X26Seq
import ZvbiModel.Dec.TopIndexLemmas
/-!
# C01 - two counters the broadcast drives: the X/26 fill level and the line counter of the TOP index page

Both decide where the decoder writes next; both are tested in one place and used in another.
Facts regenerated from the current source by translate/gen_c01.py (`Generated/C01Facts.lean`).
-/
namespace Zvbi.Props.C01Seq
open Zvbi.Gen.C01

section X26
open Zvbi.Dec.X26Seq

/-- the facts about case 26 the proofs below rest on: the test is `num_triplets >= 208 || num_triplets != d * 13`, a rejected
packet leaves -1, nothing sits between test and stores, and only page headers reset the counter (to 0) -/
theorem x26_sequence_test_in_source :
    (∀ nt d : Int, x26Rejects nt d = decide (nt ≥ 208 ∨ nt ≠ d * 13)) ∧ x26Sentinel = -1 ∧ x26GapFill = false ∧
    x26HeaderResets = true ∧ x26Stride = 13 ∧ x26PerPacket = 13 := by
  refine ⟨fun _ _ => rfl, rfl, rfl, rfl, rfl, rfl⟩

/-- one packet, from any admissible counter value: every store is at an index 0 ... 207 and the counter stays admissible.
The sentinel never passes the test, an accepted packet starts exactly at `d * 13 <= 195`. -/
theorem x26_step_in_range (nt : Int) (op : Op) (h : CounterOk nt) :
    CounterOk (step nt op).1 ∧ ∀ i ∈ (step nt op).2, 0 ≤ i ∧ i ≤ 207 := by
  cases op with
  | header => simp [step, CounterOk]
  | other => simpa [step] using h
  | x26 d k =>
    have hd := d.isLt
    simp only [step]
    by_cases hr : x26Rejects nt d.val = true
    · simp [hr, CounterOk]   -- rejected: the sentinel, no store
    · -- accepted: `nt = d * 13 <= 195`, at most 13 stores from there
      have hacc : ¬ (nt ≥ 208 ∨ nt ≠ (d.val : Int) * 13) := by simpa [x26Rejects] using hr
      rw [if_neg hr]
      simp only [x26GapFill, Bool.false_eq_true, false_and, if_false, List.nil_append, x26PerPacket, x26Stride,
        List.mem_map, List.mem_range, CounterOk, x26Sentinel]
      constructor
      · right; omega
      · rintro i ⟨j, hj, rfl⟩; omega

/-- for EVERY packet history of a magazine (headers, X/26 packets with any designation in any order - repeated, descending,
a 17th one - with any number of good triplets, anything else in between), started from any admissible counter value, every
store `enh[num_triplets++] = triplet` happens at an index 0 ... 207, inside `enh_lop.enh[209]` and behind `lop.have_flof`.
With the test relaxed to `>` (the sentinel -1 passes) or with a fill loop the proof does not build (seeded C01-i). -/
theorem x26_store_index_in_range (ops : List Op) : ∀ (nt : Int), CounterOk nt → ∀ i ∈ run nt ops, 0 ≤ i ∧ i < (enhLen : Int) - 1 := by
  induction ops with
  | nil => exact fun _ _ => List.forall_mem_nil _
  | cons op rest ih =>
    intro nt h
    have hs := x26_step_in_range nt op h
    exact List.forall_mem_append.mpr ⟨fun i hi => by have := hs.2 i hi; simp only [enhLen]; omega, ih _ hs.1⟩

/-- the decoder starts with the counter at 0 -/
theorem x26_store_index_in_range_from_start (ops : List Op) : ∀ i ∈ run 0 ops, 0 ≤ i ∧ i < (enhLen : Int) - 1 :=
  x26_store_index_in_range ops 0 (Or.inr ⟨by omega, by omega⟩)

/-- why the sentinel must not pass: with the test `num_triplets > d * 13` and the fill loop of the seeded change, the
history "X/26/0, X/26/0 (rejected), X/26/1" stores at index -1 (in front of the array: `lop.have_flof`) -/
theorem x26_relaxed_test_counterexample :
    let rejects (nt d : Int) : Bool := decide (nt ≥ 208 ∨ nt > d * 13)
    rejects 13 0 = true ∧ rejects (-1) 1 = false ∧ ((List.range (13 - (-1 : Int)).toNat).map fun (i : Nat) => (-1 : Int) + (i : Int)).head? = some (-1) := by
  decide

/-- non-vacuity: a full page of 16 packets fills 0 ... 207; a repeated designation stops the page -/
example : run 0 ((List.range 16).map fun d => Op.x26 ⟨d % 16, Nat.mod_lt _ (by decide)⟩ 13) = (List.range 208).map Int.ofNat := by decide +kernel
example : run 0 [.x26 0 13, .x26 0 13, .x26 1 13, .x26 2 5] = (List.range 13).map Int.ofNat := by decide
example : run 0 [.x26 0 13, .x26 0 13, .header, .x26 0 2] = (List.range 13).map Int.ofNat ++ [0, 1] := by decide

end X26

section TopIndex
open Zvbi.Dec.TopIndex

/-- The title loop has two phases.  Skipping (`subno > 0`): nothing has been printed, `lines` counts the titles left on the
sub-page being skipped (17 ... 0).  Printing: every title printed moves one from `lines` to `row`, which begin as 17 and 4,
while `lines` is positive; once it is not, `lines--` of an `int` keeps it so. -/
def LoopInv (s : St) : Prop :=
  (s.subno > 0 → s.row = indexFirstRow ∧ 0 ≤ s.lines ∧ s.lines ≤ linesInit) ∧
  (s.subno ≤ 0 → 0 < s.lines → (s.row : Int) + s.lines = indexFirstRow + linesInit)

theorem top_index_step (s : St) (h : LoopInv s) :
    LoopInv (step s).1 ∧ ∀ r, (step s).2 = some r → (r : Int) < indexFirstRow + linesInit := by
  obtain ⟨subno, lines, row⟩ := s
  obtain ⟨hskip, hprint⟩ :
    (subno > 0 → row = 4 ∧ 0 ≤ lines ∧ lines ≤ 17) ∧ (subno ≤ 0 → 0 < lines → (row : Int) + lines = 4 + 17) := h
  -- of a state written out the invariant is linear arithmetic
  have inv {a b : Int} {c : Nat} (h : (a > 0 → c = 4 ∧ 0 ≤ b ∧ b ≤ 17) ∧ (a ≤ 0 → 0 < b → (c : Int) + b = 4 + 17)) :
      LoopInv ⟨a, b, c⟩ := h
  have dec : postDec lines = lines - 1 := if_pos rfl   -- `lines` is an `int`
  simp only [step, dec, linesInit]
  by_cases hs : subno > 0
  · -- skipping: nothing is printed
    have := hskip hs
    rw [if_pos hs]
    refine ⟨?_, nofun⟩
    by_cases hl : lines = 0
    · -- the sub-page ends, the next has 17 titles again; if it is the requested one, printing begins with row 4, 17 lines
      rw [if_pos hl]; exact inv (by omega)
    · rw [if_neg hl]; exact inv (by omega)
  · rw [if_neg hs]
    by_cases hl : lines ≤ 0
    · -- the sub-page is full: `lines` stays below 1
      rw [if_pos hl]; exact ⟨inv (by omega), nofun⟩
    · -- a title is printed in `row`, which is below 4 + 17 because `lines` is at least 1
      rw [if_neg hl]; exact ⟨inv (by omega), fun r hr => by cases hr; show (row : Int) < 4 + 17; omega⟩

theorem top_index_rows_bound : ∀ (n : Nat) (s : St), LoopInv s → ∀ r ∈ rows n s, (r : Int) < indexFirstRow + linesInit
  | 0, _, _ => List.forall_mem_nil _
  | n + 1, s, h => by
    have hs := top_index_step s h
    rw [rows_succ]
    exact List.forall_mem_append.mpr ⟨fun r hr => hs.2 r (Option.mem_toList.mp hr), top_index_rows_bound n _ hs.1⟩

/-- for ANY number of AIT titles and ANY requested index sub-page, every row `top_index` prints a title into is one of rows
4 ... 20, below `ROWS` = 25: with the right-most cell written (column 37) the store stays inside `pg->text[]`.  `lines` is an
`int` in the current source; with an unsigned type `lines--` wraps at 0 and the proof does not build (seeded C01-j). -/
theorem top_index_rows_in_page (n : Nat) (subno : Int) :
    ∀ r ∈ rows n (init subno), r < pageRows ∧ r * extColumns + indexMaxColumn < pageTextLen := by
  intro r hr
  have := top_index_rows_bound n (init subno) ⟨fun _ => ⟨rfl, (by decide : 0 ≤ linesInit), Int.le_refl _⟩, fun _ _ => rfl⟩ r hr
  simp only [indexFirstRow, linesInit, pageRows, extColumns, indexMaxColumn, pageTextLen] at *
  omega

theorem top_index_lines_signed : linesSigned = true := by decide

/-- why `lines` must be signed: with an unsigned counter 30 titles on sub-page 0 reach row 32 (beyond the 25 rows and, from
row 25 on, beyond `pg->text[]`) -/
theorem top_index_unsigned_counterexample :
    let postDecU (l : Int) : Int := if l = 0 then 4294967295 else l - 1
    let stepU (s : St) : St × Option Nat :=
      if s.lines ≤ 0 then ({ s with lines := postDecU s.lines }, none)
      else ({ s with lines := postDecU s.lines, row := s.row + 1 }, some s.row)
    ((List.range 30).foldl (fun (acc : St × List Nat) _ =>
        match stepU acc.1 with | (s', some r) => (s', r :: acc.2) | (s', none) => (s', acc.2)) (init 0, [])).2.head? = some 32 := by
  decide +kernel

/-- non-vacuity: 40 titles - sub-page 0 prints rows 4 ... 20, sub-page 1 too (titles 19 ...), sub-page 2 rows 4 ... 7 -/
example : rows 40 (init 0) = (List.range 17).map (· + 4) := by decide
example : rows 40 (init 1) = (List.range 17).map (· + 4) := by decide
example : rows 40 (init 2) = [4, 5, 6, 7] := by decide

end TopIndex

end Zvbi.Props.C01Seq
