import ZvbiModel.Enh.CellsLoop
import ZvbiModel.Enh.CellsPost
/-!
# C01 - cell addressing of the Level 2.5 / 3.5 enhancement (`teletext.c` enhance, enhance_flush, enhance_flush_row,
# post_enhance, the Level 1 double height copy, column_41, character_set_designation)

Model: `Enh/Cells.lean` - the active position machine of `enhance()` over ARBITRARY triplets (the page's X/26 data, local
objects, POP / GPOP objects of any content and nesting, default objects), every starting position, every `max_level`,
header-only formatting (`display_rows == 1`) or not; it logs every index it forms into `pg->text[]`, `lop.raw[][]`,
`drcs_s1[]`, `pg->drcs[]`, `vbi_font_descriptors[]`, the triplet arrays, and every colour value it stores (= index into
`pg->color_map[]`).  All guards, masks, loop bounds and extents are regenerated from the current source by
translate/gen_c01cells.py (`Generated/C01Cells.lean`).  The navigation flag does not reach any of these functions.

Hypothesis `EnvOK`: `enh[]` has its 209 elements; a pointer returned by resolve_obj_address is at most `pointerLimit`
(Props/C01Enh `object_triplets_within_table`) into a `pop.triplet[508]`; every triplet is what one of the two writers
of packet.c stores (6 / 5 / 7 bit fields, masks regenerated) or the 0xFF fill.

One obligation is FALSE without its repair: column_41 writes `pg->text[1065]` (`column41_original_counterexample`,
replay corpus/C01/column41-text-overrun.ops, repair fixes/C01-enhance-column41-navrow.diff).
-/
namespace Zvbi.Props.C01Cells
open Zvbi.Enh.Cells Zvbi.Gen.C01Cells Zvbi.Generated.Enh

/-- the extents the bounds below are measured against fit together: 25 rows of 41 cells lie inside `text[1056]`, the Level 1
page has a row for every page row and 40 columns, `drcs_s1[2]`, 32 DRCS planes, 48 glyphs per DRCS page (and a 64 bit
`invalid` mask), 88 font descriptors with a G0 set in entry 0 (the fall-back), 40 colours, the two triplet arrays. -/
theorem extents_consistent :
    rows * extColumns ≤ textLen ∧ rows ≤ rawRows ∧ columns = rawCols ∧ extColumns = columns + 1 ∧ drcsS1Len = 2 ∧
    pageDrcsLen = 32 ∧ drcsGlyphs ≤ invalidBits ∧ fontHasG0.length = fontLen ∧ fontHasG0[0]? = some true ∧
    colorMask < colorMapLen ∧ transparentBlack < colorMapLen ∧ 2 ^ defColorBits ≤ colorMapLen ∧ colorMapLen = extColorMapLen ∧
    enhLen = 16 * 13 + 1 ∧ Zvbi.Gen.C01.pointerLimit + 1 < popTripletLen := by decide
example : textLen = 1056 ∧ rows * extColumns = 1025 := by decide

/-- **every access in range** (the statement the following ones are read off): for every environment, every nesting
bound, object type, starting position, window of a well-formed triplet array: if `enhance` returns, every logged access
is inside its object. -/
theorem enhance_accesses_in_range (env : Env) (he : EnvOK env) (fuel type invRow invCol : Nat) (site : Site)
    (hs : site = .enh ∨ site = .pop) (arr : List Trip) (hlen : arr.length = siteLen site) (harr : ∀ t ∈ arr, TripOK t)
    (start count : Nat) (hc : count ≤ siteLen site - start) (res : Bool × List Access)
    (h : enhance env fuel type invRow invCol site arr start count = some res) : AllOk res.2 :=
  enhance_nestedOK env he fuel type invRow invCol site arr start count res ⟨hs, harr, hc⟩ h

/-- the page's own X/26 data as vbi_format_vt_page runs it -/
theorem enhance_page_in_range (env : Env) (he : EnvOK env) (fuel : Nat) (res : Bool × List Access)
    (h : enhancePage env fuel = some res) : AllOk res.2 :=
  enhance_accesses_in_range env he fuel _ 0 0 .enh (Or.inl rfl) env.enh he.enhLen he.enhTrips 0 enhLen (Nat.le_refl _) res h

/-- every index at which `enhance()` reads or writes `pg->text[]` - through `es->acp[i]`
in the flush loops (also inside objects invoked where origin + offset leaves the page: those flushes return first) and
through `acp[col]` in the font style loop - is below `sizeof (text) / sizeof (text[0])`. -/
theorem enhance_text_index_in_range (env : Env) (he : EnvOK env) (fuel : Nat) (res : Bool × List Access)
    (h : enhancePage env fuel = some res) : ∀ i, (Site.text, i) ∈ res.2 → i < textLen := by
  intro i hi; simpa using enhance_page_in_range env he fuel res h _ hi

/-- a concrete run that reaches the last cell of the body (row 24, column 39) and an object whose position leaves the page -/
def exEnv : Env where
  maxLevel := 3
  headerOnly := false
  x26d0 := true
  raw := fun _ _ => 0x0B
  drcs := fun _ _ _ => true
  pop := fun _ _ _ => none
  enh := [⟨40, 0x04, 39⟩, ⟨39, 0x09, 0x41⟩, ⟨63, 0x10, 71⟩, ⟨41, 0x11, 0x05⟩, ⟨63, 0x1F, 0⟩,
          ⟨40, 0x04, 39⟩, ⟨39, 0x0C, 0x41⟩, ⟨39, 0x09, 0x42⟩, ⟨63, 0x1F, 0⟩] ++ List.replicate 200 fillTrip
set_option maxRecDepth 100000 in
example : ∃ res, enhancePage exEnv 4 = some res ∧ (Site.text, 1023) ∈ res.2 ∧ res.1 = true := by
  -- the run is evaluated once, by the kernel
  have h : ((enhancePage exEnv 4).any fun r => r.2.contains (Site.text, 1023) && r.1) = true := by decide +kernel
  obtain ⟨res, he, hp⟩ := (Option.any_eq_true _ _).mp h
  rw [Bool.and_eq_true, List.contains_iff_mem] at hp
  exact ⟨res, Option.mem_def.mp he, hp⟩

/-- the Level 1 page is read at `raw[row][col]` with `row < 26`, `col < 40` only -/
theorem enhance_raw_index_in_range (env : Env) (he : EnvOK env) (fuel : Nat) (res : Bool × List Access)
    (h : enhancePage env fuel = some res) :
    (∀ r, (Site.rawRow, r) ∈ res.2 → r < rawRows) ∧ (∀ c, (Site.rawCol, c) ∈ res.2 → c < rawCols) :=
  ⟨fun r hr => by simpa using enhance_page_in_range env he fuel res h _ hr,
   fun c hc => by simpa using enhance_page_in_range env he fuel res h _ hc⟩

/-- every value stored as screen, row, foreground or background colour is an index
into `pg->color_map[40]` (in fact at most 31; the other values a cell can get are VBI_TRANSPARENT_BLACK = 8 and the
default row colour, 5 bits or VBI_BLACK - `extents_consistent`) -/
theorem enhance_color_index_in_range (env : Env) (he : EnvOK env) (fuel : Nat) (res : Bool × List Access)
    (h : enhancePage env fuel = some res) : ∀ c, (Site.color, c) ∈ res.2 → c < colorMapLen := by
  intro c hc; simpa using enhance_page_in_range env he fuel res h _ hc

/-- `drcs_s1[]` is indexed with 0 or 1, `pg->drcs[]` with a plane below 32, the glyph
number is below 48 (elements of `drcs.chars[]`, bits of `drcs.invalid`) -/
theorem enhance_drcs_index_in_range (env : Env) (he : EnvOK env) (fuel : Nat) (res : Bool × List Access)
    (h : enhancePage env fuel = some res) :
    (∀ i, (Site.s1, i) ∈ res.2 → i < drcsS1Len) ∧ (∀ i, (Site.drcsSlot, i) ∈ res.2 → i < pageDrcsLen) ∧
    (∀ g, (Site.drcsGlyph, g) ∈ res.2 → g < drcsGlyphs ∧ g < invalidBits) :=
  ⟨fun i hi => by simpa using enhance_page_in_range env he fuel res h _ hi,
   fun i hi => by simpa using enhance_page_in_range env he fuel res h _ hi,
   fun g hg => by simpa using enhance_page_in_range env he fuel res h _ hg⟩

/-- why the 7 bit data field matters: a triplet with data 0xC0 (no writer stores one) would index `drcs_s1[3]` -/
theorem drcs_mode_wide_data_counterexample :
    rowStep exEnv { es := initES 0 0 0 } ⟨40, 0x18, 0xC0⟩ = .cont { es := initES 0 0 0 } [(.s1, 3)] ∧ ok (.s1, 3) = false := by
  decide

/-- mode 0x08 adds `p->data` to `vbi_font_descriptors` only below 88, for every
designation byte; character_set_designation does the same for every X/28 / M/29 code (7 bits) and national option -/
theorem enhance_font_index_in_range (env : Env) (he : EnvOK env) (fuel : Nat) (res : Bool × List Access)
    (h : enhancePage env fuel = some res) : ∀ i, (Site.font, i) ∈ res.2 → i < fontLen := by
  intro i hi; simpa using enhance_page_in_range env he fuel res h _ hi

theorem charset_designation_in_range (code national : Nat) : AllOk (charsetDesignation code national) :=
  List.forall_mem_append.mpr ⟨Log.opt (font_ok_of _),
    Log.opt (font_ok_of _)⟩
example : charsetDesignation 0x26 7 = [(.font, 0x26), (.font, 0x27)] ∧ charsetDesignation 127 7 = [] := by decide

/-- `p` stays inside `enh[209]` (the page's data, local objects - also those whose
address lies behind the array: their `remaining_max_triplets` is not positive) and inside `pop.triplet[508]` -/
theorem enhance_triplet_index_in_range (env : Env) (he : EnvOK env) (fuel : Nat) (res : Bool × List Access)
    (h : enhancePage env fuel = some res) :
    (∀ i, (Site.enh, i) ∈ res.2 → i < enhLen) ∧ (∀ i, (Site.pop, i) ∈ res.2 → i < popTripletLen) :=
  ⟨fun i hi => by simpa using enhance_page_in_range env he fuel res h _ hi,
   fun i hi => by simpa using enhance_page_in_range env he fuel res h _ hi⟩
example : localStart 41 0x7C = 311 ∧ enhLen - localStart 41 0x7C = 0 := by decide

/-- the MOT default objects (both, any types, any look-up outcome) -/
theorem default_objects_in_range (env : Env) (he : EnvOK env) (fuel : Nat) :
    ∀ (objs : List (Nat × Option (Nat × List Trip))),
      (∀ ty p arr, (ty, some (p, arr)) ∈ objs → p ≤ Zvbi.Gen.C01.pointerLimit ∧ arr.length = popTripletLen ∧ ∀ t ∈ arr, TripOK t) →
      ∀ res, defaultObjects env fuel objs = some res → AllOk res.2 := by
  intro objs
  induction objs with
  | nil => intro _ res h; cases h; exact List.forall_mem_nil _
  | cons o rest ih =>
    intro ho res h
    obtain ⟨ty, r⟩ := o
    cases r with
    | none => cases h; exact List.forall_mem_nil _
    | some pa =>
      obtain ⟨p, arr⟩ := pa
      obtain ⟨_, hl, ht⟩ := ho ty p arr (List.mem_cons_self ..)
      unfold defaultObjects at h
      split at h
      · cases h
      all_goals
        rename_i l hl'
        have h1 := enhance_accesses_in_range env he fuel ty 0 0 .pop (Or.inr rfl) arr hl ht _ _ (Nat.le_refl _) _ hl'
      · cases h
        exact h1
      · obtain ⟨r2, hrec, rfl⟩ := Option.map_eq_some_iff.mp h
        exact List.forall_mem_append.mpr ⟨h1, ih (fun ty p arr hm => ho ty p arr (List.mem_cons_of_mem _ hm)) r2 hrec⟩

/-- the loop of enhance_flush ends within 42 iterations from every state - whatever the active
position, the invocation column and the requested column are -, so does enhance_flush_row -/
theorem flush_terminates (env : Env) (es : ES) (column : Nat) :
    (flush env es column).isSome = true ∧ (flushRow env es).isSome = true :=
  ⟨(flush_spec env es column).elim fun _ _ => rfl, (flushRow_spec env es).elim fun _ _ => rfl⟩
set_option maxRecDepth 100000 in
example : (flush exEnv { initES 3 30 1000 with activeCol := 5000, macUnicode := true } 100000).isSome = true := by decide +kernel

/-- for every triplet list and every object graph (cycles included) `maxObjectType + 1` nested
activations are enough and no loop bound of the model is used up; with `enhance_page_in_range` the page run is total
and safe -/
theorem enhance_terminates (env : Env) :
    (enhancePage env (maxObjectType + 1)).isSome = true ∧
    ∀ ty r c site arr start count, (enhance env (maxObjectType + 1 - ty) ty r c site arr start count).isSome = true ∨ maxObjectType < ty := by
  refine ⟨enhance_total env _ _ (by decide) (by decide) _ _ _ _ _ _, ?_⟩
  intro ty r c site arr start count
  by_cases h : maxObjectType < ty
  · exact Or.inr h
  · exact Or.inl (enhance_total env _ ty (by omega) (by omega) _ _ _ _ _ _)

/-- for every cell content and every `display_rows` the cell, the cell to its right and the
cells in the row below (double height / double size) are inside `text[]` -/
theorem post_enhance_in_range (size : Nat → Nat → Nat) (displayRows : Nat) : AllOk (postEnhance size displayRows) := by
  unfold postEnhance
  apply postRows_ok
  have : min displayRows rows ≤ 25 := by simp [rows]; omega
  simp [postLastRowSub]; omega
set_option maxRecDepth 100000 in
example : (Site.text, 23 * 41 + 40) ∈ postEnhance (fun _ _ => 3) 25 ∧ postEnhance (fun _ _ => 3) 1 = [] := by decide +kernel

/-- the Level 1 double height copy into the row below, for every row that may carry double height and every content -/
theorem level1_double_height_in_range (size : Nat → Nat → Nat) (row : Nat) (h : l1DoubleRowOk row = true) :
    AllOk (l1Copy size row (extColumns + 1) 0) := l1Copy_ok size row h _ _
set_option maxRecDepth 100000 in
example : l1DoubleRowOk 22 = true ∧ l1DoubleRowOk 23 = false ∧ (Site.text, 24 * 41) ∈ l1Copy (fun _ c => if c = 40 then 3 else 0) 22 42 0 := by decide +kernel

/-- with body loops over at most `ROWS - 2` rows (header row before, navigation row after) every
cell column_41 touches is inside `text[]` -/
theorem column41_in_range (lo hi pgRows : Nat) (h : hi + 1 - lo ≤ rows - 2) : AllOk (column41 lo hi pgRows) := by
  have h : hi + 1 - lo ≤ 23 := by simpa [rows] using h
  unfold column41
  simp only
  have hh : AllOk [(Site.text, col41ReadCol), (Site.text, col41WriteCol)] := by decide
  split
  · exact hh
  · refine List.forall_mem_append.mpr ⟨List.forall_mem_append.mpr ⟨List.forall_mem_append.mpr ⟨hh, ?_⟩, ?_⟩, ?_⟩
    · refine List.forall_mem_flatMap.mpr (Log.range fun k hk => ?_)
      simp [col41ScanHi, col41ScanLo] at hk
      refine List.forall_mem_cons.mpr ⟨?_, List.forall_mem_cons.mpr ⟨?_, List.forall_mem_singleton.mpr ?_⟩⟩ <;>
        (simp [textLen, col41Stride]; omega)
    · refine List.forall_mem_flatMap.mpr (Log.range fun k hk => ?_)
      refine List.forall_mem_cons.mpr ⟨?_, List.forall_mem_singleton.mpr ?_⟩ <;>
        (simp [textLen, col41Stride, col41ReadCol, col41WriteCol]; omega)
    · refine List.forall_mem_cons.mpr ⟨?_, List.forall_mem_singleton.mpr ?_⟩ <;>
        (simp [textLen, col41Stride, col41ReadCol, col41WriteCol]; omega)
set_option maxRecDepth 100000 in
example : AllOk (column41 1 23 25) ∧ (Site.text, 24 * 41 + 40) ∈ column41 1 23 25 :=
  ⟨column41_in_range 1 23 25 (by decide), by decide +kernel⟩

/-- with `for (row = 1; row <= 24; ++row)` in the body the pointer stands on row
25 when the "navigation bar" statement runs: it reads `text[1064]` and writes `text[1065]`, behind `text[1056]` (in the
`vbi_page` these are `color_map[11..14]`) - on every fetch with more than one row -/
theorem column41_original_counterexample :
    (Site.text, 1065) ∈ column41 1 24 25 ∧ (Site.text, 1064) ∈ column41 1 24 25 ∧ ok (.text, 1065) = false ∧
    ¬ AllOk (column41 1 24 25) ∧ AllOk (column41 1 24 1) := by decide +kernel

/-- the current source is safe here exactly when its body loops stop at row 23 (holds with the repair, fails without) -/
theorem column41_current_iff : AllOk (column41 col41BodyLo col41BodyHi rows) ↔ col41BodyHi + 1 - col41BodyLo ≤ rows - 2 := by decide +kernel

end Zvbi.Props.C01Cells
