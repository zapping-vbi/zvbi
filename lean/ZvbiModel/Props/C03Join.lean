import ZvbiModel.Props.C03
import ZvbiModel.Props.C10
import ZvbiModel.Props.C10Ttx
import ZvbiModel.Props.C03Cache
import ZvbiModel.Ttx.CacheTrace
import ZvbiModel.Ttx.Mirror
/-!
# C03 x C10 - the whole-history half of "the decoder's page list is refined by the cache.c model"

`Props/C10Ttx.lean` joins the two models for ONE operation: if the retrievable entries of network `nid` in a
state of the cache.c model (C10, `Zvbi.Cache`) are the most recently used page list `Net.cache` of the Teletext
decoder model (C03, `Zvbi.Ttx`) - relation `C10Ttx.Sim` -, then after a look-up / a store performed on both
sides they still are (`sim_get`, `sim_put`).  Here: the decoder's list changes in NO other way.

1. `cache_evolves_by_cache_operations`: over EVERY history of packets the decoder's list is the empty list with
   a sequence of the three operations of the cache interface applied (`CacheOp`: `.get` = `_vbi_cache_get_page`,
   `.put` = `_vbi_cache_put_page`, `.clear` = `vbi_chsw_reset` recycling the network), every store being one that
   the history announces by an `Event.put`; with `C03.no_foreign_page_number` every stored page carries numbers
   of an accepted header of the history (`stored_pages_carry_transmitted_numbers`).
   Proved branch by branch through `vbi_decode_teletext` / `vbi_decode` (`Ttx/CacheOps.lean`: `Reach`, `Looks`; `Ttx/CacheTrace.lean`:
   `run_reach`; every table parser - MPT, MPT-EX, BTT, MIP, `vbi_convert_page`, the header branch - is shown to
   perform look-ups only, `Looks`).
2. `cache_operations_are_simulated`: each of the three operations, applied on the decoder side, against the
   corresponding call of the cache.c model of the current source, keeps `Sim` (`.get`: unconditionally;
   `.put`: under the side conditions of `C10Ttx.sim_put_current`; `.clear`: `vbi_chsw_reset`, after which the
   decoder holds the network handed out by `_vbi_cache_add_network` (a new or the recycled record), which has no
   page - `C10.chsw_unreachable`).

## What an unconditional whole-history refinement theorem needs beyond 1. and 2.

`ttx_refined_by_cache_full` below states it (an unproved `def`, checked on one concrete history only): run next
to the decoder a cache.c state on which every operation of the decoder's trace is mirrored by the calls the
decoder makes (`mirrorOp`, Ttx/Mirror.lean); then `Sim` holds after every history.  1. and 2. reduce it to discharging,
ALONG the history, the side conditions of the store (`sim_put_current`) - a joint invariant of both models.
Props/C03Refine.lean carries that invariant along the mirrored trace and discharges: the network is found, the page
number of every store is in 0x100..0x8FF, the page type agrees (`mirrorOp` writes it with an `Op.ptype` before each
store), the interleaved `cache_page_unref` calls change no retrievable entry.  Two hypotheses remain there:

* memory never short (`memUsed + pageSize .. <= memLimit`; the limit is 2^30 in the C code): when it is short
  cache.c deletes pages of its choice, which the decoder's list (it never evicts) does not follow.  Needs a bound
  on the total size of what the decoder can have stored (at most 0x800 page numbers, a bounded number of
  versions per key class) - not analysed, hence the full statement could even be false for exotic histories;
* every page type the decoder passes to a store is below 256 (`uint8_t page_type`).

Property theorems only (models `ZvbiModel/Ttx/Model.lean`, `ZvbiModel/Cache/Model.lean`).
-/
namespace Zvbi.Props.C03Join
open Zvbi.Ttx Zvbi.Ttx.Spec Zvbi.Hamm Zvbi.Gen Zvbi.Gen.Cache

/-! ## 1. the whole history -/

/-- Over every history of packets (any bytes whatever, decoder with or without a Teletext handler) the page list
    the decoder holds afterwards is the EMPTY list to which a sequence `ops` of cache interface operations was
    applied, one after the other - look-up with move to front (`.get`), store with the page type of the
    statistics (`.put`), deletion of all pages at a channel switch (`.clear`) - and nothing else ever touches
    the list: not the page statistics, the magazine records, the table parsers, refused packets.  Every store in
    `ops` is of a page which the history announced with an `Event.put` (the model's record of a
    `_vbi_cache_put_page` call), and hence (`C03.no_foreign_page_number`) of a page whose number and sub-code
    the decoder computed from an accepted header packet of this very history. -/
theorem cache_evolves_by_cache_operations (on : Bool) (ps : List Packet) :
    ∃ ops : List CacheOp,
      (run (init.enable on) ps).1.net.cache = ops.foldl applyOp [] ∧
      ∀ pt p, CacheOp.put pt p ∈ ops →
        Event.put p ∈ (run (init.enable on) ps).2 ∧ ∃ pk, pk ∈ ps ∧ ∃ m, hdrKey pk = some (m, p.pgno, p.subno) := by
  obtain ⟨ops, h1, h2⟩ := run_reach (init.enable on) ps
  have h0 : (init.enable on).net.cache = [] := by cases on <;> rfl
  rw [h0] at h1
  exact ⟨ops, h1, fun pt p hp => ⟨h2 pt p hp, C03.no_foreign_page_number on ps p (h2 pt p hp)⟩⟩

/-- non-vacuity: the two-header history of `C03Cache` (header of page 123 / 2359, then a header of page 120 of
    the same magazine): the trace is look-up of 123, store of the terminated page 123 with page type 1
    (`PT_NORMAL`, set by `store_lop` just before), look-up of 120 - three operations, one of them a store, and the
    page stored is the one in the `Event.put` of the history. -/
example :
    let r := run (init.enable true) [C03.f21Tx, C03.f21Tx.set 2 21]
    let p := (r.2.filterMap fun e => match e with | Event.put q => some q | _ => none).getD 0 Page.zero
    r.1.net.cache = [CacheOp.get 0x123 0x2359 0xFFFFFFFF, .put 1 p, .get 0x120 0x2359 0xFFFFFFFF].foldl applyOp []
    ∧ r.2.contains (Event.put p) = true ∧ p.pgno = 0x123 ∧ r.1.net.cache.length = 1 := by
  decide +kernel

/-- Corollary in terms of the list alone: whatever sequence of cache operations produced the decoder's page
    list over a history - there is one, and in it every page handed to `_vbi_cache_put_page` carries a page
    number and sub-code computed from an accepted header of that history; no store of any other page
    contributes to the list. -/
theorem stored_pages_carry_transmitted_numbers (on : Bool) (ps : List Packet) :
    ∃ ops : List CacheOp,
      (run (init.enable on) ps).1.net.cache = ops.foldl applyOp [] ∧
      ∀ pt p, CacheOp.put pt p ∈ ops → ∃ pk, pk ∈ ps ∧ ∃ m, hdrKey pk = some (m, p.pgno, p.subno) := by
  obtain ⟨ops, h1, h2⟩ := cache_evolves_by_cache_operations on ps
  exact ⟨ops, h1, fun pt p hp => (h2 pt p hp).2⟩

/-- non-vacuity: the header that accounts for the store of the example above -/
example : hdrKey C03.f21Tx = some (1, 0x123, 0x2359)
    ∧ ((run (init.enable true) [C03.f21Tx, C03.f21Tx.set 2 21]).2.any
        fun e => match e with | Event.put q => q.pgno == 0x123 && q.subno == 0x2359 | _ => false) = true := by
  decide +kernel

/-! ## 2. each operation is simulated by the cache.c model -/

/-- Let the retrievable entries of network `nid` in a reachable state of the cache.c model (current source) be
    the decoder's page list `c` (`C10Ttx.Sim`; `enc` abstracts the page content).  Then for each of the three
    operations by which (theorem 1) the decoder's list evolves, the list after the operation is again what the
    cache.c model holds after the corresponding call:
    * `.get`: `_vbi_cache_get_page (ca, cn, pgno, subno, mask)` - any arguments, also page numbers the cache
      refuses (both sides then answer "not cached" and change nothing); both sides hand out the same page;
    * `.put` with the page type `cn.getStat p.pgno` of the cache.c statistics: `_vbi_cache_put_page`, provided
      the network exists, the page number is in 0x100..0x8FF, memory is not short and the call succeeds; a
      page number `xFF` is refused by both sides (nothing changes);
    * `.clear`: `vbi_chsw_reset` (`Op.chsw nid`: the old network is released, `_vbi_cache_add_network` hands out
      `nid'`, a new or the recycled record); the decoder continues on `nid'`, whose set of retrievable entries is
      empty like the decoder's list. -/
theorem cache_operations_are_simulated (ops : List Zvbi.Cache.Op) (nid : Nat) (enc : Page → Nat) (c : List Page)
    (hsim : C10Ttx.Sim nid enc c (Zvbi.Cache.runF putReplacesAllVersions Zvbi.Cache.init ops)) :
    (∀ pgno subno mask : Nat,
      C10Ttx.Sim nid enc (applyOp c (.get pgno subno mask))
        ((Zvbi.Cache.runF putReplacesAllVersions Zvbi.Cache.init ops).getPage nid pgno subno mask).1
      ∧ ((Zvbi.Cache.runF putReplacesAllVersions Zvbi.Cache.init ops).getPage nid pgno subno mask).2.map
          Zvbi.Cache.Page.entry = (cacheGet c pgno subno mask).map (fun r => Zvbi.Cache.tentry nid enc r.1))
    ∧ (∀ cn, (Zvbi.Cache.runF putReplacesAllVersions Zvbi.Cache.init ops).findNet nid = some cn →
        ∀ p : Page, 0x100 ≤ p.pgno ∧ p.pgno ≤ 0x8FF →
        (Zvbi.Cache.runF putReplacesAllVersions Zvbi.Cache.init ops).memUsed
            + Zvbi.Cache.pageSize p.function p.x26 p.x28
          ≤ (Zvbi.Cache.runF putReplacesAllVersions Zvbi.Cache.init ops).memLimit →
        ∀ s' r, (Zvbi.Cache.runF putReplacesAllVersions Zvbi.Cache.init ops).putPageF putReplacesAllVersions nid
            ⟨p.pgno, p.subno, p.function, p.x26, p.x28, enc (Zvbi.Cache.tstored (cn.getStat p.pgno).ptype p)⟩
              = .ok (s', r) →
        C10Ttx.Sim nid enc (applyOp c (.put (cn.getStat p.pgno).ptype p)) s')
    ∧ (∀ cn, (Zvbi.Cache.runF putReplacesAllVersions Zvbi.Cache.init ops).findNet nid = some cn →
        ∀ nid', (Zvbi.Cache.stepF putReplacesAllVersions
            (Zvbi.Cache.runF putReplacesAllVersions Zvbi.Cache.init ops) (.chsw nid)).2 = .net nid' →
        C10Ttx.Sim nid' enc (applyOp c .clear)
          (Zvbi.Cache.stepF putReplacesAllVersions
            (Zvbi.Cache.runF putReplacesAllVersions Zvbi.Cache.init ops) (.chsw nid)).1) := by
  have hI := (Zvbi.Cache.good_runF putReplacesAllVersions Zvbi.Cache.good_init ops).1
  refine ⟨fun pgno subno mask => Zvbi.Cache.getPage_sim hI nid enc c hsim pgno subno mask, ?_, ?_⟩
  · intro cn hf p hrange hroom s' r hres
    show C10Ttx.Sim nid enc (match cachePut c (cn.getStat p.pgno).ptype p with | some c' => c' | none => c) s'
    cases hc : cachePut c (cn.getStat p.pgno).ptype p with
    | some c' =>
      exact (C10Ttx.sim_put_current ops nid enc c hsim cn hf p hrange _ rfl hroom c' hc s' r hres).2
    | none =>
      rw [Zvbi.Cache.putPageF_xFF _ hf _ (Zvbi.Cache.tcachePutF_none hc)] at hres
      injection hres with hres
      injection hres with h1 _
      rw [← h1]
      exact hsim
  · intro cn hf nid' hout
    exact Zvbi.Cache.sim_empty nid' enc (C10.chsw_unreachable putReplacesAllVersions ops nid cn hf nid' hout).1

/-- non-vacuity: the cache.c state after creation of the network simulates the empty decoder list; the network
    is found, memory is not short for a Level one page, the store of page 123 / 2359 succeeds - every hypothesis
    of the three parts can be met; after the store both sides hold one page, filed under sub-code 0; a channel
    switch in the state that holds this page hands out a network (the recycled record, again number 0) - which
    then has no page (part 3 of the theorem), while the state before had one. -/
example :
    C10Ttx.Sim 0 (fun _ => 0) [] (Zvbi.Cache.runF putReplacesAllVersions Zvbi.Cache.init [.addNet])
    ∧ ((Zvbi.Cache.runF putReplacesAllVersions Zvbi.Cache.init [.addNet]).findNet 0).isSome = true
    ∧ (Zvbi.Cache.runF putReplacesAllVersions Zvbi.Cache.init [.addNet]).memUsed + Zvbi.Cache.pageSize 0 0 0
        ≤ (Zvbi.Cache.runF putReplacesAllVersions Zvbi.Cache.init [.addNet]).memLimit
    ∧ (match (Zvbi.Cache.runF putReplacesAllVersions Zvbi.Cache.init [.addNet]).putPageF putReplacesAllVersions 0
          ⟨0x123, 0x2359, 0, 0, 0, 0⟩ with
        | .ok (s', _) => s'.abs.map (fun e => (e.net, e.pgno, e.subno))
        | .error _ => []) = [(0, 0x123, 0)]
    ∧ ((applyOp [] (.put 1 { Page.zero with pgno := 0x123, subno := 0x2359 })).map fun x => (x.pgno, x.subno))
        = [(0x123, 0)]
    ∧ (Zvbi.Cache.stepF putReplacesAllVersions
        (Zvbi.Cache.runF putReplacesAllVersions Zvbi.Cache.init [.addNet, .put 0 ⟨0x123, 0x2359, 0, 0, 0, 0⟩, .unref 0])
          (.chsw 0)).2 = .net 0
    ∧ (Zvbi.Cache.runF putReplacesAllVersions Zvbi.Cache.init [.addNet, .put 0 ⟨0x123, 0x2359, 0, 0, 0, 0⟩, .unref 0]).abs.length
        = 1 := by
  unfold C10Ttx.Sim
  decide +kernel

/-! ## 3. the unconditional statement (not proved) -/

/-- FULL STATEMENT (not proved): over every history the decoder's page list has a trace of cache operations
    (as in `cache_evolves_by_cache_operations`) such that the cache.c model, driven by the calls the decoder
    makes for this trace, ends in a state whose retrievable entries of the decoder's network are that list.
    Missing: see the file header (memory never short along the history; every page type passed to a store below 256). -/
def ttx_refined_by_cache_full : Prop :=
  ∀ (on : Bool) (ps : List Packet) (enc : Page → Nat),
    ∃ ops : List CacheOp,
      (run (init.enable on) ps).1.net.cache = ops.foldl applyOp [] ∧
      (∀ pt p, CacheOp.put pt p ∈ ops → Event.put p ∈ (run (init.enable on) ps).2) ∧
      C10Ttx.Sim (mirror enc ops).2 enc (run (init.enable on) ps).1.net.cache (mirror enc ops).1

/-- the instance of the full statement for the two-header history of section 1 (trace given there) holds: the
    mirrored cache.c state has exactly the one entry 123 / 0 of network 0, as the decoder's list. -/
example :
    let r := run (init.enable true) [C03.f21Tx, C03.f21Tx.set 2 21]
    let p := (r.2.filterMap fun e => match e with | Event.put q => some q | _ => none).getD 0 Page.zero
    let ops := [CacheOp.get 0x123 0x2359 0xFFFFFFFF, .put 1 p, .get 0x120 0x2359 0xFFFFFFFF]
    r.1.net.cache = ops.foldl applyOp []
    ∧ (mirror (fun _ => 0) ops).1.abs.filter (fun e => decide (e.net = (mirror (fun _ => 0) ops).2))
        = Zvbi.Cache.tstore (mirror (fun _ => 0) ops).2 (fun _ => 0) r.1.net.cache
    ∧ ((mirror (fun _ => 0) ops).1.abs.map fun e => (e.net, e.pgno, e.subno)) = [(0, 0x123, 0)] := by
  decide +kernel

end Zvbi.Props.C03Join
