import ZvbiModel.Ure.CurrentExec
/-!
# C17, line anchors inside `ure_exec`: the repaired source shape (fixes/C17-line-anchors.diff, ure.c half)

`Ure/ExecAnchors.lean` is `ure_exec` with the four statements of the repair; `Ure/Exec.lean` the shape as found
(findings C17-U8, C17-U9; `Props/C17Ure.lean`).  `execCur` (what the drivers run) follows the shape translate/gen_ure.py
reads from /repo on every run.  Proved here, for EVERY DFA, text, flags and position (transition level):

* `bol_taken_iff_line_start`: the `^` transition is taken exactly in front of the first character of a line - at the
  start of the text iff URE_NOTBOL is not set, elsewhere iff the character in front is a separator (and the position is
  not between CR and LF) - zero width (`lp` and `sp` stay), under the per-position guard against `^` cycles;
* `bol_line_start_spec`: what "line start" is, by position;
* `eol_taken_iff_separator`: the `$` transition is taken exactly in front of a separator, whatever URE_NOTEOL says, and
  records the match end in front of it;
* `noteol_switches_lookahead_off`: with URE_NOTEOL the end-of-text look-ahead never reports a match;
and, kernel evaluated on the DFAs `ure_compile` builds for `^a` and `a$` (harness dump in the doc comments), the inputs of
findings C17-U8 / C17-U9 / C17-D8 in both shapes: `anchors_witness_repaired`, `anchors_witness_found`.
NOT proved (open, see NOTES/C17.md): the whole-run statement "execA reports the leftmost match of an anchored
pattern", termination and index safety of `execA` for every DFA (`exec_terminates`, `exec_never_oob` are about `exec`).
-/
namespace Zvbi.Props.C17UreAnchors
open Zvbi.Ure

/-- **bol_line_start_spec.** Position 0 is a line start unless the caller set URE_NOTBOL; position `n + 1` is a line start
iff the character at `n` is a separator and (`n`, `n + 1`) is not a CR LF pair. -/
theorem bol_line_start_spec (flags : Nat) (text : List Nat) (c n : Nat) :
    bolAt flags text c 0 = !notBol flags ∧
    bolAt flags text c (n + 1) = (isbrk (text.getD n 0) && !(text.getD n 0 == 0x0d && c == 0x0a)) := by
  constructor
  · simp [bolAt]
  · simp [bolAt]

example : bolAt 0 [0x61, 0x0a, 0x61] 0x61 2 = true ∧ bolAt 0 [0x61, 0x0a, 0x61] 0x0a 1 = false ∧
    bolAt 4 [0x61] 0x61 0 = false := by decide

/-- **bol_taken_iff_line_start.** Repaired shape, any DFA / flags / text / position: the `^` transition is refused when
the position is not a line start; at a line start it is taken - zero width: the new `lp` and `sp` are both the old `lp` -
unless the guard against cycles of `^` transitions (more than `nstates` such steps at this position) stops it. -/
theorem bol_taken_iff_line_start (sh : Shape) (ct : CType) (d : Dfa) (flags : Nat) (text : List Nat) (c lp sp zw : Nat) :
    (bolAt flags text c lp = false → symTryA sh ct d flags text .bol c lp sp zw = .no) ∧
    (bolAt flags text c lp = true → zw ≤ d.states.length →
      symTryA sh ct d flags text .bol c lp sp zw = .yes lp lp (zw + 1)) := by
  constructor
  · intro h; simp [symTryA, h]
  · intro h hz
    have : ¬ zw > d.states.length := by omega
    simp [symTryA, h, this]

example : symTryA Shape.repaired ⟨fun _ _ => false, id⟩ ⟨false, false, [.bol], [⟨true, []⟩]⟩ 0 [0x0a, 0x61] .bol 0x61 1 2 0 =
    .yes 1 1 1 := (bol_taken_iff_line_start _ _ _ _ _ _ _ _ _).2 (by decide) (by decide)

/-- **eol_taken_iff_separator.** Repaired shape: the `$` transition is taken iff the character at the position is a
separator - URE_NOTEOL (bit 3 of `flags`) plays no part - and is zero width (`sp = lp`: the match end is recorded in
front of the separator). -/
theorem eol_taken_iff_separator (sh : Shape) (ct : CType) (d : Dfa) (flags : Nat) (text : List Nat) (c lp sp zw : Nat) :
    symTryA sh ct d flags text .eol c lp sp zw = if isbrk c then .yes lp lp zw else .no := by
  simp [symTryA]

example : symTryA Shape.repaired ⟨fun _ _ => false, id⟩ ⟨false, false, [.eol], [⟨true, []⟩]⟩ 8 [0x61, 0x0a] .eol 0x0a 1 2 0 =
    .yes 1 1 0 := by rw [eol_taken_iff_separator]; rfl

/-- **noteol_switches_lookahead_off.** Repaired shape: the test `iterA` makes at the end of the text in a non-accepting
state ("this ugly hack": a `$` transition into an accepting state counts as taken) reports nothing when URE_NOTEOL is set. -/
theorem noteol_switches_lookahead_off (d : Dfa) (flags : Nat) (tr : List (Nat × Nat)) (h : notEol flags = true) :
    (if notEol flags then Hack.no else eolHack d tr) = Hack.no := by
  simp [h]

example : notEol 8 = true := by decide

/-- DFA of `^a` (harness: `ok dfa 0 2 3 2 S bol c61 T 0:0>1 0:1>2 1:-`) -/
def dfaBolA : Dfa := ⟨false, false, [.bol, .chr 0x61], [⟨false, [(0, 1)]⟩, ⟨false, [(1, 2)]⟩, ⟨true, []⟩]⟩
/-- DFA of `a$` (harness: `ok dfa 0 2 3 2 S c61 eol T 0:0>1 0:1>2 1:-`) -/
def dfaAEol : Dfa := ⟨false, false, [.chr 0x61, .eol], [⟨false, [(0, 1)]⟩, ⟨false, [(1, 2)]⟩, ⟨true, []⟩]⟩
def ctNone : CType := ⟨fun _ _ => false, id⟩

/-- **anchors_witness_repaired.** `^a`: found behind an empty line ("\n\n\na" -> [3,4)) and behind a separator that begins
the text ("\na" -> [1,2)) (C17-U9); with URE_NOTBOL not at offset 0 of "aa" but at the row start of "a\na" -> [2,3) (what
search.c needs, C17-D8).  `a$`: the match end stays in front of the final separator ("a\n" -> [0,1), C17-U8); with
URE_NOTEOL not at the end of "xa", but in front of the separator of "a\nxa" -> [0,1). -/
theorem anchors_witness_repaired :
    execA Shape.repaired ctNone dfaBolA 0 [0x0a, 0x0a, 0x0a, 0x61] = .found 3 4 ∧
    execA Shape.repaired ctNone dfaBolA 0 [0x0a, 0x61] = .found 1 2 ∧
    execA Shape.repaired ctNone dfaBolA 4 [0x61, 0x61] = .none ∧
    execA Shape.repaired ctNone dfaBolA 4 [0x61, 0x0a, 0x61] = .found 2 3 ∧
    execA Shape.repaired ctNone dfaAEol 0 [0x61, 0x0a] = .found 0 1 ∧
    execA Shape.repaired ctNone dfaAEol 8 [0x78, 0x61] = .none ∧
    execA Shape.repaired ctNone dfaAEol 8 [0x61, 0x0a, 0x78, 0x61] = .found 0 1 := by
  decide +kernel

/-- **anchors_witness_found.** The same inputs on the shape as found (replayed on the C code:
corpus/C17/ure-semantics-open.ops, corpus/C17/ure-line-anchors.ops): nothing behind the empty line, nothing behind the
leading separator, nothing at all under URE_NOTBOL; match end behind the separator; URE_NOTEOL ignored at the end of
the text but switching `$` off in front of the separator. -/
theorem anchors_witness_found :
    exec Shape.repaired ctNone dfaBolA 0 [0x0a, 0x0a, 0x0a, 0x61] = .none ∧
    exec Shape.repaired ctNone dfaBolA 0 [0x0a, 0x61] = .none ∧
    exec Shape.repaired ctNone dfaBolA 4 [0x61, 0x0a, 0x61] = .none ∧
    exec Shape.repaired ctNone dfaAEol 0 [0x61, 0x0a] = .found 0 2 ∧
    exec Shape.repaired ctNone dfaAEol 8 [0x78, 0x61] = .found 1 2 ∧
    exec Shape.repaired ctNone dfaAEol 8 [0x61, 0x0a, 0x78, 0x61] = .found 3 4 := by
  decide +kernel

/-- **current_exec_shape.** What the drivers run is one of the two models, chosen by the flag gen_ure.py wrote on this run. -/
theorem current_exec_shape (ct : CType) (d : Dfa) (flags : Nat) (text : List Nat) :
    execCur ct d flags text = (if Zvbi.Gen.Ure.lineAnchors then execA Shape.current ct d flags text
                               else exec Shape.current ct d flags text) := rfl

example : execCur ctNone dfaAEol 0 [] = .none := by decide +kernel

end Zvbi.Props.C17UreAnchors
