import ZvbiModel.Rawdec.NoAbort
import ZvbiModel.Props.C04Bits
import ZvbiModel.Props.C04Hist
/-!
# C04 - every reachable pattern is armed; `add_job_to_pattern` never runs out of pattern space

Proves `C04.armed_reachable_full` and `C04Hist.armed_after_every_history_full` for the repaired `remove_services` (what
/repo contains: `repo_has_the_repairs`).

The key: *the job numbers listed for a scan line stay pairwise distinct over all histories* of
add / remove / reset / decode calls.  With it a line lists at most `n_jobs <= 7` jobs (7 = merge classes of a video
standard), so next to the marker way there is always a second free way for the job being added (or the job is listed
already): `add_job_to_pattern` never returns FALSE, no row is left compacted without its marker, hence every row of
every reachable pattern is armed (`rows_armed_distinct_after_every_history`).  The hypothesis `PatArmed` of the theorems of
Props/C04Hist.lean is discharged (`no_line_ever_skipped_reachable`, `decode_is_history_independent_reachable`).

`C04Bits.add_accepts_all_full` as literally written (`rd->services` grows by EXACTLY `check_services (request)`) is
FALSE - not because a service is dropped but because `add_services` tests `check_services (par->id)` per TABLE ROW: a
row whose id is a union (Teletext B 625 = 0x3) is accepted as soon as one of the rows sharing a bit is permitted
(`add_accepts_all_counterexample`, confirmed on the C code: `corpus/C04/add-claims-unpermitted-subservice.ops`).
Proved instead: `rd->services` grows by exactly the union of the ids of the table rows `r` in the request with
`check_services (r.id) != 0` (`add_accepts_exactly`), which contains `check_services (request)`
(`add_never_drops_an_accepted_service`).
-/
namespace Zvbi.Props.C04Reach
open Zvbi.Rawdec Zvbi.Generated.ServiceTable Zvbi.Generated.RawdecFlags
open Zvbi.Slicer (U32)

/-- Repaired code, ANY history of add / remove / reset / decode calls, any
    sampling parameters and images: every row of the pattern is armed (jobs first, marker in the last way while the line
    has a job), the job numbers it lists are pairwise distinct and refer to live jobs. -/
theorem rows_armed_distinct_after_every_history (fx : Fixes) (hja : fx.jobAdvance = true) (hm : fx.merged = true)
    (hmk : fx.marker = true) (ti : Nat → Nat) (sp : SPar) (ops : List Op) (p : Pattern)
    (hp : (run fx ti sp ops).pattern = some p) :
    ∀ row ∈ p, RowArmed row ∧ (jobsOf row).Nodup ∧ (∀ x ∈ jobsOf row, 0 < x ∧ x ≤ ((run fx ti sp ops).jobs.length : Int)) ∧
      (jobsOf row).length ≤ 7 := by
  intro row hrow
  have hg := run_gd fx hja hm hmk ti sp ops p hp row hrow
  have hok := hg.rowOK
  refine ⟨hg.armed, hg.nodup, hok.jobs, ?_⟩
  have h7 := (Zvbi.Props.C04Bits.job_ids_disjoint_at_most_7 fx hja hm ti sp ops).1
  have := pigeon (jobsOf row) _ hg.nodup hok.jobs
  omega

/-- non-vacuity: the bound 7 is attained (625 lines, lines 7-11 sampled, strict 0, all services) -/
example : (run Fixes.all (fun _ => 0) ⟨625, 1, 13500000, 720, 132, 7, 5, 320, 5, false, true⟩ [.add 0xffffffff 0]).pattern.map
    (fun p => (p.map (fun row => (jobsOf row).length)).take 5) = some [7, 7, 7, 7, 7] := by decide +kernel

/-- The full statement of Props/C04Hist.lean. -/
theorem armed_after_every_history : Zvbi.Props.C04Hist.armed_after_every_history_full := by
  intro ti sp ops p hp row hrow
  exact (rows_armed_distinct_after_every_history Fixes.all rfl rfl rfl ti sp ops p hp row hrow).1

/-- The full statement of Props/C04.lean (false on the released code: `armed_counterexample`). -/
theorem armed_reachable : Zvbi.Props.C04.armed_reachable_full Fixes.all := by
  intro ti sp ops p hp row hrow
  have ha := (rows_armed_distinct_after_every_history Fixes.all rfl rfl rfl ti sp ops p hp row hrow).1
  have hlen := (((run_inv Fixes.all ti sp ops).1.pat p hp).2 row hrow).len
  obtain ⟨a0, a1, a2, a3, a4, a5, a6, a7, rfl⟩ := row8 row hlen
  rw [armed8_iff] at ha
  obtain ⟨c1, c2, c3, c4, c5, c6, c7, m⟩ := ha
  unfold Zvbi.Props.C04.armed
  by_cases h0 : 0 < a0
  · have := m h0
    simp [h0, this]
  · have : a0 ≤ 0 ∧ a1 ≤ 0 ∧ a2 ≤ 0 ∧ a3 ≤ 0 ∧ a4 ≤ 0 ∧ a5 ≤ 0 ∧ a6 ≤ 0 ∧ a7 ≤ 0 := by omega
    simp [this]

/-- /repo contains the three repairs (regenerated `Generated/RawdecFacts.lean`), so the
    theorems of this file speak about `decode_pattern` / `add_services` / `remove_services` as /repo has them.  Stops
    compiling when one is reverted. -/
theorem repo_has_the_repairs : Fixes.repo = Fixes.all := by decide

/-- `armed_after_every_history` for the code in /repo. -/
theorem armed_after_every_history_repo (ti : Nat → Nat) (sp : SPar) (ops : List Op) (p : Pattern)
    (hp : (run Fixes.repo ti sp ops).pattern = some p) : PatArmed p := by
  rw [repo_has_the_repairs] at hp
  exact armed_after_every_history ti sp ops p hp

example : ∃ p, (run Fixes.repo (fun _ => 0) ⟨625, 1, 13500000, 720, 132, 7, 17, 320, 17, false, true⟩
    [.add 0x1f 0, .remove 0x3, .add 0x400 1, .remove 0x18, .add 0x2003 0]).pattern = some p ∧ p.length = 34 :=
  exists_of_map_decide (by decide +kernel)

/-- `C04Hist.no_line_ever_skipped` without the `PatArmed` hypothesis: after ANY
    history of add / remove / reset / decode calls of the repaired code that did not abort, and any further decode
    calls, for EVERY line the next `decode_pattern` call - as /repo has it - tries every job listed for the line, in way
    order, until one matches. -/
theorem no_line_ever_skipped_reachable (ti : Nat → Nat) (sp : SPar) (ops : List Op) (p0 : Pattern)
    (hp0 : (run Fixes.all ti sp ops).pattern = some p0) (herr : (run Fixes.all ti sp ops).err = none)
    (h : List (Nat × Slicer)) :
    let s := runDecodes (run Fixes.all ti sp ops) h
    ∃ p, s.pattern = some p ∧ ∀ (i : Nat) (row : PRow), p[i]? = some row →
      (∃ row0, p0[i]? = some row0 ∧ SameJobs row0 row) ∧
      ∀ (sl : Nat → Job → Option (List Nat) × Nat),
        ∃ row', decodePatternC blankCounterOn s.sp s.readjust sl i row s.jobs =
          .ok (row', (tryJobs sl (jobsOf row) s.jobs).2,
               (tryJobs sl (jobsOf row) s.jobs).1.map (fun m => ({ id := m.2.1.id, line := lineOf s.sp i, data := m.2.2 } : Rec))) :=
  Zvbi.Props.C04Hist.no_line_ever_skipped Fixes.all ti sp ops p0 hp0 herr (armed_after_every_history ti sp ops p0 hp0) h

/-- `C04Hist.decode_is_history_independent` without the `PatArmed`
    hypothesis: for EVERY reachable decoder state of the repaired code, whatever two histories of decode calls follow,
    the records of a frame are the same (under `ThreshFree` and `UniqueHit`, as before). -/
theorem decode_is_history_independent_reachable (ti : Nat → Nat) (sp : SPar) (ops : List Op) (p0 : Pattern)
    (hp0 : (run Fixes.all ti sp ops).pattern = some p0) (herr : (run Fixes.all ti sp ops).err = none)
    (h1 h2 : List (Nat × Slicer)) (m : Nat) (sl : Slicer) (htf : ThreshFree sl)
    (hu : ∀ ir ∈ (List.range p0.length).zip p0, UniqueHit sl (run Fixes.all ti sp ops).jobs ir.1 ir.2) :
    (decodeFrame (runDecodes (run Fixes.all ti sp ops) h1) m sl).2.1 =
      (decodeFrame (runDecodes (run Fixes.all ti sp ops) h2) m sl).2.1 :=
  Zvbi.Props.C04Hist.decode_is_history_independent Fixes.all ti sp ops p0 hp0 herr
    (armed_after_every_history ti sp ops p0 hp0) h1 h2 m sl htf hu

/-- non-vacuity: a reachable state after add / remove / add, caption on line 22 decoded directly and after other frames -/
example :
    let s0 := run Fixes.all (fun _ => 0) ⟨625, 1, 13500000, 720, 132, 7, 17, 320, 17, false, true⟩ [.add 0x1f 0, .remove 0x4, .add 0x400 0]
    let img : Slicer := nominalSlicer [(0x8, 15, [0x80, 0x80])]
    let ttx : Slicer := nominalSlicer [(0x3, 15, [1, 2, 3])]
    s0.err = none ∧
    (decodeFrame (runDecodes s0 []) 34 img).2.1 = [⟨0x18, 22, [0x80, 0x80]⟩] ∧
    (decodeFrame (runDecodes s0 [(34, ttx), (34, ttx), (34, nominalSlicer []), (34, ttx)]) 34 img).2.1
      = [⟨0x18, 22, [0x80, 0x80]⟩] := by decide +kernel

/-! ## what `add_services` accepts -/

/-- union of the ids of the table rows inside the (masked) request `M` for which
    `_vbi_sampling_par_check_services_log (sp, par->id, strict)` is non-zero - the test `add_services` makes -/
def acceptedRows (sp : SPar) (M : Nat) (strict : Int) : Nat :=
  orAll (serviceTable.map (fun r => if r.id &&& M ≠ 0 ∧ checkServices sp r.id strict ≠ 0 then r.id else 0))

/-- Repaired code, any history, any request: if `add_services` returns (no `set_params`
    assertion), `rd->services` has grown by EXACTLY the ids of the table rows in the masked request that
    `check_services (par->id)` accepts.  Neither the `MAX_JOBS` break nor "Out of decoder pattern space"
    (`add_job_to_pattern` returning FALSE) is reachable with the real table. -/
theorem add_accepts_exactly (ti : Nat → Nat) (sp : SPar) (ops : List Op) (sv : Nat) (strict : Int)
    (herr : (run Fixes.all ti sp (ops ++ [.add sv strict])).err = none) :
    (run Fixes.all ti sp (ops ++ [.add sv strict])).services =
      (run Fixes.all ti sp ops).services ||| acceptedRows sp (maskServices (run Fixes.all ti sp ops) sv) strict := by
  rw [run_snoc] at herr ⊢
  have hi := run_inv Fixes.all ti sp ops
  have := (addServices_gd ti _ sv strict hi.1 (run_jok Fixes.all rfl rfl ti sp ops) (run_gd Fixes.all rfl rfl rfl ti sp ops)).2 herr
  rw [show step Fixes.all ti _ (.add sv strict) = addServices ti (run Fixes.all ti sp ops) sv strict from rfl, this, hi.2]
  rfl

/-- The set of `add_accepts_exactly` contains `check_services (request)`: every service
    `_vbi_sampling_par_check_services_log` accepts for the masked request is part of `rd->services` afterwards. -/
theorem add_never_drops_an_accepted_service (ti : Nat → Nat) (sp : SPar) (ops : List Op) (sv : Nat) (strict : Int)
    (herr : (run Fixes.all ti sp (ops ++ [.add sv strict])).err = none) :
    checkServices sp (maskServices (run Fixes.all ti sp ops) sv) strict &&&
      (run Fixes.all ti sp (ops ++ [.add sv strict])).services =
    checkServices sp (maskServices (run Fixes.all ti sp ops) sv) strict := by
  rw [add_accepts_exactly ti sp ops sv strict herr, Nat.or_comm]
  apply subset_trans_or
  generalize maskServices (run Fixes.all ti sp ops) sv = M
  rw [checkServices_eq]
  unfold acceptedRows
  apply orAll_sub_orAll
  intro r hr
  unfold chkId
  by_cases h1 : r.id &&& M = 0
  · simp [h1]
  · by_cases h2 : permitService sp r strict = true
    · have h0 : r.id ≠ 0 := by
        intro hz; rw [hz] at h1; simp at h1
      have := permitted_row_accepted sp strict r hr h0 h2
      simp [h1, h2, this]
    · simp [h1, h2]

example : checkServices ⟨625, 1, 13500000, 720, 132, 7, 17, 320, 17, false, true⟩ 0x41f 0 = 0x41f := by decide +kernel

/-- non-vacuity / the case of the counterexample below: Teletext B requested with strict 1 and lines 7-22 sampled -/
example : (run Fixes.all (fun _ => 0) ⟨625, 1, 13500000, 720, 132, 7, 16, 320, 16, false, true⟩ [.add 0x3 1]).services = 3 ∧
    acceptedRows ⟨625, 1, 13500000, 720, 132, 7, 16, 320, 16, false, true⟩ 0x3 1 = 3 ∧
    checkServices ⟨625, 1, 13500000, 720, 132, 7, 16, 320, 16, false, true⟩ 0x3 1 = 1 := by decide +kernel

/-- `C04Bits.add_accepts_all_full` (growth by exactly `check_services (request)`) is
    FALSE: with lines 7-22 / 320-335 sampled and strict 1, `check_services (TELETEXT_B)` = `TELETEXT_B_L10_625` (line 6
    / 318 of the Level 2.5 service is not sampled), but the table row "Teletext System B, 625" (id 0x3) passes
    `check_services (0x3) != 0` and `rd->services` becomes 0x3: the decoder reports `TELETEXT_B_L25_625` as decoded. -/
theorem add_accepts_all_counterexample : ¬ Zvbi.Props.C04Bits.add_accepts_all_full Fixes.all := by
  intro h
  have := h (fun _ => 0) ⟨625, 1, 13500000, 720, 132, 7, 16, 320, 16, false, true⟩ [] 0x3 1
  revert this
  decide +kernel

/-! ## the `set_params` assertion of `add_services` is unreachable -/

/-- Sampling parameters with a pixel format `vbi3_bit_slicer_set_params` knows
    (`fmtOfCode`: every `VBI_PIXFMT_*` except PAL8 and the planar/compressed ones it rejects as "Unknown sample_format"), at
    most 32767 samples per line (`set_params` itself asserts this) and a 32 bit sampling rate: NO history of add / remove /
    reset / decode calls of the repaired code reaches `assert (!"bit_slicer_set_params")` or any other error value of the
    model.  For every table row `add_services` hands to `set_params` (those with `check_services (par->id) != 0`),
    `set_params` - including the look-ahead block of the C05 repair - accepts: the line-length comparison of
    `permit_service` is the "samples_per_line too small" test, its rate test gives `cri_rate, bit_rate <= sampling_rate`. -/
theorem set_params_assertion_unreachable (fx : Fixes) (hja : fx.jobAdvance = true) (hm : fx.merged = true)
    (hmk : fx.marker = true) (ti : Nat → Nat) (sp : SPar) (hc : CfgOK sp) (ops : List Op) :
    (run fx ti sp ops).err = none :=
  run_noerr fx hja hm ti sp hc ops

/-- non-vacuity: 8 bit luma 720 samples and RGBA32 at 27 MHz are such configurations -/
example : CfgOK ⟨625, 1, 13500000, 720, 132, 7, 17, 320, 17, false, true⟩ ∧
    CfgOK ⟨525, 32, 27000000, 5760, 0, 10, 12, 272, 12, true, true⟩ := by unfold CfgOK; decide

/-- Outside `CfgOK` the assertion IS reached (also in C: `add_services` aborts, by design):
    PAL8 (code 6) is a format `set_params` does not know; 40000 samples per line violate its own assert. -/
theorem cfg_hypothesis_needed :
    (run Fixes.all (fun _ => 0) ⟨625, 6, 13500000, 1440, 132, 7, 17, 320, 17, false, true⟩ [.add 0x1 0]).err
      = some "assert bit_slicer_set_params" ∧
    (run Fixes.all (fun _ => 0) ⟨625, 1, 13500000, 40000, 132, 7, 17, 320, 17, false, true⟩ [.add 0x1 0]).err
      = some "assert bit_slicer_set_params" := by decide +kernel

/-- `ids_within_services_full` of Props/C04.lean without the "no abort"
    hypothesis of `C04Bits.ids_within_services`, for every configuration in which C does not abort: after ANY history
    and `remove_services (sv)` no live job carries a bit of `sv`. -/
theorem ids_within_services_every_history (ti : Nat → Nat) (sp : SPar) (hc : CfgOK sp) (ops : List Op) (sv : Nat) :
    ∀ job ∈ (run Fixes.all ti sp (ops ++ [.remove sv])).jobs, job.id &&& sv = 0 :=
  Zvbi.Props.C04Bits.ids_within_services Fixes.all rfl rfl ti sp ops sv
    (set_params_assertion_unreachable Fixes.all rfl rfl rfl ti sp hc ops)

/-- `C04Hist.no_line_ever_skipped` with NO hypothesis about the reached state: any
    configuration in which C does not abort, any history, any further decode calls, every line. -/
theorem no_line_ever_skipped_every_history (ti : Nat → Nat) (sp : SPar) (hc : CfgOK sp) (ops : List Op) (p0 : Pattern)
    (hp0 : (run Fixes.all ti sp ops).pattern = some p0) (h : List (Nat × Slicer)) :
    let s := runDecodes (run Fixes.all ti sp ops) h
    ∃ p, s.pattern = some p ∧ ∀ (i : Nat) (row : PRow), p[i]? = some row →
      (∃ row0, p0[i]? = some row0 ∧ SameJobs row0 row) ∧
      ∀ (sl : Nat → Job → Option (List Nat) × Nat),
        ∃ row', decodePatternC blankCounterOn s.sp s.readjust sl i row s.jobs =
          .ok (row', (tryJobs sl (jobsOf row) s.jobs).2,
               (tryJobs sl (jobsOf row) s.jobs).1.map (fun m => ({ id := m.2.1.id, line := lineOf s.sp i, data := m.2.2 } : Rec))) :=
  no_line_ever_skipped_reachable ti sp ops p0 hp0 (set_params_assertion_unreachable Fixes.all rfl rfl rfl ti sp hc ops) h

/-- `add_accepts_exactly` with the configuration hypothesis instead of "returned". -/
theorem add_accepts_exactly_every_history (ti : Nat → Nat) (sp : SPar) (hc : CfgOK sp) (ops : List Op) (sv : Nat) (strict : Int) :
    (run Fixes.all ti sp (ops ++ [.add sv strict])).services =
      (run Fixes.all ti sp ops).services ||| acceptedRows sp (maskServices (run Fixes.all ti sp ops) sv) strict :=
  add_accepts_exactly ti sp ops sv strict (set_params_assertion_unreachable Fixes.all rfl rfl rfl ti sp hc _)

end Zvbi.Props.C04Reach
