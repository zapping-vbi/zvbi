import ZvbiModel.Mux.CorRaw
import ZvbiModel.Mux.MrLemmas
import ZvbiModel.Props.C06Raw
/-!
# C06 - `vbi_dvb_mux_cor` with raw lines, `vbi_dvb_multiplex_raw`

Property theorems only.

Models: `Mux/CorRawModel.lean` (`vbi_dvb_mux_cor` with `raw` / `sp`: `corR`, `corAllR`), `Mux/RawModel.lean`
(`vbi_dvb_multiplex_raw`: `multiplexRaw`, `insert_raw_data_units`: `insertRaw`); independent reader of EN 301 775 4.9:
`Mux/RawSpec.lean` (`unitSeg`, `unitsItems`); lemmas: `Mux/CorRaw.lean`, `Mux/MrLemmas.lean`.
`keep` is the source shape of `generate_pes_packet` (see `Props/C06Raw.lean`); every theorem here holds for both.
-/
namespace Zvbi.Props.C06CorRaw
open Zvbi.Mux Zvbi.Mux.EnParse Zvbi.Mux.RawSpec
open Zvbi.Props.C06Raw (StateOK exSp exRaw exLine exMux)

/-- PES and TS mode, both source
shapes, any multiplexer in a reachable state with nothing pending, any non-empty frame of sliced lines AND raw line
requests with `raw` / `sp` NULL or given: whenever `vbi_dvb_mux_feed (mx, sliced, n, mask, raw, sp, pts)` accepts the
frame, then for EVERY sequence of positive output buffer sizes the loop around
`vbi_dvb_mux_cor (mx, &buf, &left, &sliced, &n, mask, raw, sp, pts)` never fails, fires no assertion, and has stored
exactly the first `sizes.sum` bytes of what `feed` hands to its callback; once the sizes reach the length of those bytes
the loop has ended with `*sliced_left = 0` and exactly `feed`'s bytes, nothing is pending, configuration, continuity
counter and raw-line state (`raw_samples_left == 0`) are those `feed` leaves. -/
theorem cor_equals_feed_raw (keep : Bool) (m : RMux) (hm : StateOK m) (hi : Idle m.mux) (lines : List Sliced)
    (hl : lines ≠ []) (hwf : ∀ s ∈ lines, Sliced.WF s) (mask : Nat) (raw : Option Bytes) (sp : Option Sp) (pts : Nat)
    (hok : (feedR keep m lines mask raw sp pts).2.ok = true) (sizes : List Nat) (hpos : ∀ s ∈ sizes, 0 < s) :
    ∃ m', m'.mux.cfg = m.mux.cfg
      ∧ (sizes.sum < (feedR keep m lines mask raw sp pts).2.bytes.length →
          corSeqR keep lines mask raw sp pts sizes m []
            = (m', true, true, (feedR keep m lines mask raw sp pts).2.bytes.take sizes.sum, none))
      ∧ ((feedR keep m lines mask raw sp pts).2.bytes.length ≤ sizes.sum →
          corSeqR keep lines mask raw sp pts sizes m [] = (m', true, false, (feedR keep m lines mask raw sp pts).2.bytes, none)
          ∧ Idle m'.mux ∧ m'.mux.cc = (feedR keep m lines mask raw sp pts).1.mux.cc
          ∧ m'.raw = (feedR keep m lines mask raw sp pts).1.raw ∧ m'.raw.left = 0) := by
  obtain ⟨hsp, hr, hne, _⟩ := readyR_of_feedR_ok keep m hi hm.cfg hm.raw lines hl hwf mask raw sp pts hok
  obtain ⟨m', h1, h2, h3⟩ := corSeqR_ready keep lines hl mask raw sp hsp pts _ _ sizes m [] _ hr hne hpos
  refine ⟨m', h1, fun h => ?_, fun h => ?_⟩
  · have := (h2 h).1; rwa [List.nil_append] at this
  · obtain ⟨a, b, c, d⟩ := h3 h
    rw [List.nil_append] at a
    refine ⟨a, b, c, d, ?_⟩
    rw [d]
    obtain ⟨_, _, st', _, hst, hleft, _⟩ := feedR_bytes keep m hm.cfg hm.raw lines hwf mask raw sp pts hok
    rw [hst]
    exact hleft

/-- a frame with a sliced line, a raw line request and a WSS line, TS mode, buffer sizes 1, 7, 188, 1000 -/
def exFrame : List Sliced := [exLine 3 7, exLine SL_VBI625 8, exLine 0x400 23]
def exTs : RMux := { mux := { cfg := { pid := 0x123, dataId := 0x99 } } }
example : StateOK exTs ∧ Idle exTs.mux := ⟨⟨⟨by decide, by decide, by decide, by decide, by decide, by decide⟩, rfl⟩, by decide⟩
example : (feedR true exTs exFrame 0xFFFFFFFF (some exRaw) (some exSp) 7).2.ok = true
    ∧ (feedR true exTs exFrame 0xFFFFFFFF (some exRaw) (some exSp) 7).2.bytes.length = 3 * 188 := by decide +kernel
example : (corSeqR true exFrame 0xFFFFFFFF (some exRaw) (some exSp) 7 [1, 7, 188, 1000] exTs []).2
    = (true, false, (feedR true exTs exFrame 0xFFFFFFFF (some exRaw) (some exSp) 7).2.bytes, none) := by decide +kernel
example : (corSeqR false exFrame 0xFFFFFFFF (some exRaw) (some exSp) 7 [1, 7, 100] (exMux 0x10) []).2
    = (true, true, (feedR false (exMux 0x10) exFrame 0xFFFFFFFF (some exRaw) (some exSp) 7).2.bytes.take 108, none) := by
  decide +kernel

/-- **the correspondence driver's loop** (op `corraw`: buffer sizes taken cyclically from a non-empty list of positive
sizes) yields, for every frame `feed` accepts and enough fuel, exactly `feed`'s bytes with `*sliced_left = 0`, `*sliced` at
the end of the frame, nothing pending, no assertion, and `feed`'s configuration, continuity counter and raw state. -/
theorem corAllR_equals_feed (keep : Bool) (m : RMux) (hm : StateOK m) (hi : Idle m.mux) (lines : List Sliced)
    (hl : lines ≠ []) (hwf : ∀ s ∈ lines, Sliced.WF s) (mask : Nat) (raw : Option Bytes) (sp : Option Sp) (pts : Nat)
    (hok : (feedR keep m lines mask raw sp pts).2.ok = true) (sizes : List Nat) (hsz : sizes ≠ [])
    (hpos : ∀ s ∈ sizes, 0 < s) (fuel : Nat) (hfuel : (feedR keep m lines mask raw sp pts).2.bytes.length ≤ fuel) :
    ∃ m' calls, corAllR keep sizes lines mask raw sp pts fuel m 0 []
        = (m', true, calls, 0, lines.length, (feedR keep m lines mask raw sp pts).2.bytes, none)
      ∧ 1 ≤ calls ∧ calls ≤ (feedR keep m lines mask raw sp pts).2.bytes.length
      ∧ Idle m'.mux ∧ m'.mux.cfg = m.mux.cfg ∧ m'.mux.cc = (feedR keep m lines mask raw sp pts).1.mux.cc
      ∧ m'.raw = (feedR keep m lines mask raw sp pts).1.raw := by
  obtain ⟨hsp, hr, hne, _⟩ := readyR_of_feedR_ok keep m hi hm.cfg hm.raw lines hl hwf mask raw sp pts hok
  obtain ⟨m', c', heq, h1, h2, h3, h4, h5, h6⟩ :=
    corAllR_ready keep sizes hsz hpos lines hl mask raw sp hsp pts _ _ fuel m 0 [] _ hr hne hfuel
  rw [List.nil_append] at heq
  exact ⟨m', c', heq, by omega, by omega, h3, h4, h5, h6⟩

example : (corAllR true [1, 7, 50] exFrame 0xFFFFFFFF (some exRaw) (some exSp) 7 564 exTs 0 []).2
    = (true, 30, 0, 3, (feedR true exTs exFrame 0xFFFFFFFF (some exRaw) (some exSp) 7).2.bytes, none) := by decide +kernel

/-- Whenever `vbi_dvb_mux_feed (.., raw, sp, ..)` rejects a frame for its content (valid
or no sampling parameters), `vbi_dvb_mux_cor` with any buffer space returns FALSE, stores nothing, leaves nothing
pending and no raw line half sent (`raw_samples_left == 0`), keeps configuration and continuity counter. -/
theorem cor_rejects_like_feed_raw (keep : Bool) (m : RMux) (hi : Idle m.mux) (lines : List Sliced) (hl : lines ≠ [])
    (mask : Nat) (raw : Option Bytes) (sp : Option Sp) (hsp : SpValid sp) (pts : Nat)
    (hrej : (feedR keep m lines mask raw sp pts).2.ok = false) (size : Nat) (hs : 0 < size) :
    (corR keep m size lines mask raw sp pts).2.res.ok = false ∧ (corR keep m size lines mask raw sp pts).2.res.out = []
    ∧ Idle (corR keep m size lines mask raw sp pts).1.mux
    ∧ (corR keep m size lines mask raw sp pts).1.raw.left = 0
    ∧ (corR keep m size lines mask raw sp pts).1.mux.cfg = m.mux.cfg
    ∧ (corR keep m size lines mask raw sp pts).1.mux.cc = m.mux.cc := by
  obtain ⟨r1, r2, _, r4, r5, r6, r7, _⟩ := corR_reject_state keep m lines mask raw sp pts size (by omega) hsp hi hl hrej
  exact ⟨r1, r2, r5, r4, r6, r7⟩

/-- **invalid sampling parameters**: `vbi_dvb_mux_feed` and `vbi_dvb_mux_cor` both return FALSE and change nothing (the
test precedes everything else in both, also while coroutine output is pending). -/
theorem cor_invalid_sp_like_feed (keep : Bool) (m : RMux) (lines : List Sliced) (mask : Nat) (raw : Option Bytes)
    (sp' : Sp) (pts : Nat) (h : validSp sp' = false) (size : Nat) :
    feedR keep m lines mask raw (some sp') pts = (m, { ok := false, calls := [] })
    ∧ corR keep m size lines mask raw (some sp') pts
        = (m, { res := { ok := false, out := [], slicedLeft := lines.length, slicedIdx := 0 } }) :=
  ⟨feedR_badSp keep m lines mask raw sp' pts h, corR_badSp keep m lines mask raw sp' pts h size⟩

-- line 10 is outside the raw frame (rows 7..9): rejected by both, nothing half sent
example : (feedR true exTs [exLine SL_VBI625 10] 0xFFFFFFFF (some exRaw) (some exSp) 7).2.ok = false
    ∧ (corR true exTs 100 [exLine SL_VBI625 10] 0xFFFFFFFF (some exRaw) (some exSp) 7).2.res.ok = false := by decide +kernel
example : validSp { exSp with offset := 131 } = false := by decide

/-- When
`vbi_dvb_multiplex_raw` succeeds, the bytes it stored are data units (`parseUnits`, both formats) that the reader of EN 301
775 4.9 takes as `segs.length` monochrome-samples units followed by `k` stuffing units, where
* `SegChain`: every segment is on the requested line and field (`readerLine`: line_offset 7..23, field_parity from the
  line number against the second field start 313 / 263), carries 1..251 samples (at most 40 in the EN 300 472 compatible
  format, `SegMax`), starts at the sample position where the one before ended, the first at `first_pixel_position +
  (n_pixels_total - raw_left)`; first_segment_flag is set exactly on the segment at `first_pixel_position`,
  last_segment_flag exactly on the one ending at `first_pixel_position + n_pixels_total`;
* the samples of the segments in order are exactly the first `raw_left - *raw_left'` input samples (`segPx`): nothing lost,
  duplicated or reordered; `*raw_left' = 0` means the whole input was sent;
* accounting: bytes stored + `*packet_left'` = `*packet_left`; with stuffing the packet is full (`*packet_left' = 0`),
  without there is no stuffing unit and the size is 46 per segment / 6 per segment + the samples (`segBytes`);
* samples are left over only when not even a minimal unit (46 / 7 bytes) fits behind the units stored;
* every non-stuffing data_unit_length fits its byte (<= 255) and is 0x2C in the EN 300 472 compatible format. -/
theorem multiplex_raw_units (packetLeft : Nat) (r : Bytes) (dataId videostd line fpp nTotal : Nat) (stuffing : Bool)
    (hv : videostd < 4) (hfpp : fpp < 2 ^ 32) (hnt : nTotal < 2 ^ 32) (hline : line < 2 ^ 32)
    (h : MrArgsOK packetLeft r dataId videostd line fpp nTotal) :
    ∃ res us segs k, multiplexRaw packetLeft r dataId videostd line fpp nTotal stuffing = .ok res
      ∧ res.ok = true
      ∧ parseUnits res.out = some us
      ∧ unitsItems us = some (segs.map Item.seg ++ List.replicate k Item.stuffing)
      ∧ us.length = segs.length + k
      ∧ SegChain (readerLine videostd line) fpp nTotal (fpp + (nTotal - r.length)) segs
      ∧ SegMax (fixedLengthFormat dataId) segs
      ∧ res.rawLeft ≤ r.length ∧ segPx segs = r.take (r.length - res.rawLeft)
      ∧ res.out.length + res.packetLeft = packetLeft
      ∧ (stuffing = true → res.packetLeft = 0)
      ∧ (stuffing = false → k = 0)
      ∧ segBytes (fixedLengthFormat dataId) segs ≤ packetLeft
      ∧ (res.rawLeft ≠ 0 →
          packetLeft - segBytes (fixedLengthFormat dataId) segs < (if fixedLengthFormat dataId then 46 else 7))
      ∧ (stuffing = false → res.out.length = segBytes (fixedLengthFormat dataId) segs)
      ∧ (∀ u ∈ us, (u.id ≠ 0xFF → u.payload.length ≤ 255) ∧ (fixedLengthFormat dataId = true → u.payload.length = 0x2C)) := by
  obtain ⟨h2, hfx, hrne, hargs⟩ := h
  obtain ⟨res, hins, us, segs, R⟩ :=
    (insertRaw_spec packetLeft r (fixedLengthFormat dataId) videostd line fpp nTotal stuffing hv hfpp hline).2 hargs
  have hr0 : ¬ r.length = 0 := fun h0 => hrne (List.eq_nil_of_length_eq_zero h0)
  have hroom := R.room
  have hrest : res.rest.length ≤ r.length := by
    rw [← R.px, List.length_append]; omega
  have hpxt : segPx segs = r.take (r.length - res.rest.length) := by
    have hl : (segPx segs).length = r.length - res.rest.length := by
      have := congrArg List.length R.px
      rw [List.length_append] at this; omega
    rw [← hl]
    conv => rhs; rw [← R.px]
    rw [List.take_left']
    rfl
  have hstop : res.rest.length ≠ 0 →
      packetLeft - segBytes (fixedLengthFormat dataId) segs < (if fixedLengthFormat dataId then 46 else 7) :=
    fun hne => by rw [← R.bytes]; exact R.stop fun hh => hne (by rw [hh]; rfl)
  unfold multiplexRaw
  simp only []
  rw [if_neg (by omega), if_neg (by intro hh; have := hfx hh.1; omega), if_neg hr0, hins]
  simp only []
  cases stuffing with
  | false =>
    refine ⟨_, us, segs, 0, rfl, rfl, ?_, ?_, by simpa using R.len, R.chain, R.max, hrest, hpxt, ?_, by simp, by simp,
      by rw [← R.bytes]; exact hroom, hstop, ?_, fun u hu => ⟨fun _ => by have := (R.ok u hu).1; omega, (R.ok u hu).2⟩⟩
    · show parseUnits res.out = _
      rw [R.enc]; exact parseUnits_encUnits us
    · simpa using R.items
    · show res.out.length + (packetLeft - res.out.length) = packetLeft
      rw [R.enc]; omega
    · intro _; show res.out.length = _; rw [R.enc, R.bytes]
  | true =>
    have hfixlen : fixedLengthFormat dataId = true → (encUnits us).length % 46 = 0 :=
      fun hf => length_encUnits_fixed us (fun u hu => (R.ok u hu).2 hf)
    obtain ⟨us₁, st, hst, S⟩ := encodeStuffing_spec us (packetLeft - (encUnits us).length) (fixedLengthFormat dataId)
      (by intro hf; have := hfixlen hf; have := hfx hf; omega)
      (by
        intro _ h1
        by_cases hus : us = []
        · rw [hus] at h1; simp [encUnits] at h1; omega
        · exact ⟨hus, R.crit rfl hus h1⟩)
    rw [R.enc, R.region.1.lastDu, hst]
    have hit1 : unitsItems us₁ = some (segs.map Item.seg) := by
      rcases S.pad with rfl | ⟨_, rfl, _⟩
      · exact R.items
      · exact unitsItems_padLast us _ R.items
    have hl1 : us₁.length = us.length := by
      rcases S.pad with rfl | ⟨_, rfl, _⟩
      · rfl
      · exact length_padLast us
    refine ⟨_, us₁ ++ st, segs, st.length, rfl, rfl, parseUnits_encUnits _, ?_, ?_, R.chain, R.max, hrest, hpxt, ?_,
      fun _ => rfl, nofun, by rw [← R.bytes]; exact hroom, hstop, nofun,
      fun u hu => ⟨S.len255 (fun u hu => (R.ok u hu).1) u hu, fun hf => S.fixedLen hf (fun u hu => (R.ok u hu).2 hf) u hu⟩⟩
    · exact unitsItems_append us₁ st _ _ hit1 (unitsItems_stuffing _ st S.stuffing)
    · rw [List.length_append, hl1, R.len]
    · show (encUnits (us₁ ++ st)).length + 0 = packetLeft
      rw [S.len]; omega

/-- `vbi_dvb_multiplex_raw (&p, &p_left, &raw, &raw_left, data_identifier, videostd_set, line,
first_pixel_position, n_pixels_total, stuffing)` for ALL arguments (`unsigned int` values; `videostd_set` one of the four
combinations of 625 / 525): no assertion fires; it succeeds exactly when the documented conditions `MrArgsOK` hold (at
least 2 bytes of space - a multiple of 46 in the EN 300 472 compatible format -, `raw_left` in 1..n_pixels_total,
`first_pixel_position + n_pixels_total <= 720`, exactly one video standard, line 7..23 or 320..336 (625) / 270..286
(525)); otherwise it returns FALSE and `*packet`, `*packet_left`, `*raw`, `*raw_left` are unchanged. -/
theorem multiplex_raw_total (packetLeft : Nat) (r : Bytes) (dataId videostd line fpp nTotal : Nat) (stuffing : Bool)
    (hv : videostd < 4) (hfpp : fpp < 2 ^ 32) (hnt : nTotal < 2 ^ 32) (hline : line < 2 ^ 32) :
    ∃ res, multiplexRaw packetLeft r dataId videostd line fpp nTotal stuffing = .ok res
      ∧ (res.ok = true ↔ MrArgsOK packetLeft r dataId videostd line fpp nTotal)
      ∧ (res.ok = false → res.out = [] ∧ res.packetLeft = packetLeft ∧ res.rawLeft = r.length) := by
  by_cases h : MrArgsOK packetLeft r dataId videostd line fpp nTotal
  · obtain ⟨res, _, _, _, h1, h2, _⟩ := multiplex_raw_units packetLeft r dataId videostd line fpp nTotal stuffing hv hfpp hnt hline h
    exact ⟨res, h1, ⟨fun _ => h, fun _ => h2⟩, fun hf => by rw [h2] at hf; cases hf⟩
  · refine ⟨_, multiplexRaw_fail packetLeft r dataId videostd line fpp nTotal stuffing hv hfpp hline h,
      ⟨fun hf => (by cases hf), fun hh => absurd hh h⟩, fun _ => ⟨rfl, rfl, rfl⟩⟩

/-- A whole line (`raw_left = n_pixels_total`) that `vbi_dvb_multiplex_raw` converted
completely (`*raw_left' = 0`): the independent reader of EN 301 775 4.9 (`RawSpec.assemble`: first / last segment flags
consistent, each segment starting where the one before ended, same line and field, adjacent units, nothing left open)
reassembles the stored data units to exactly ONE raw line - the requested line and field, first sample at
`first_pixel_position`, the `n_pixels_total` input samples - and nothing else (stuffing is skipped). -/
theorem multiplex_raw_complete_line (packetLeft : Nat) (r : Bytes) (dataId videostd line fpp nTotal : Nat) (stuffing : Bool)
    (hv : videostd < 4) (hfpp : fpp < 2 ^ 32) (hnt : nTotal < 2 ^ 32) (hline : line < 2 ^ 32)
    (h : MrArgsOK packetLeft r dataId videostd line fpp nTotal) (hwhole : r.length = nTotal) :
    ∃ res us, multiplexRaw packetLeft r dataId videostd line fpp nTotal stuffing = .ok res ∧ res.ok = true
      ∧ parseUnits res.out = some us
      ∧ (res.rawLeft = 0 →
          (unitsItems us).bind assemble = some [Out.raw ⟨readerLine videostd line, fpp, r⟩]) := by
  obtain ⟨res, us, segs, k, h1, h2, h3, h4, _, hch, _, _, hpx, _⟩ :=
    multiplex_raw_units packetLeft r dataId videostd line fpp nTotal stuffing hv hfpp hnt hline h
  refine ⟨res, us, h1, h2, h3, ?_⟩
  intro h0
  rw [h0, Nat.sub_zero, List.take_length] at hpx
  have hrne : r ≠ [] := h.2.2.1
  have hsegs : segs ≠ [] := by
    intro hs; rw [hs] at hpx; exact hrne hpx.symm
  rw [hwhole, Nat.sub_self, Nat.add_zero] at hch
  have := assembleGo_chain (readerLine videostd line) fpp nTotal segs fpp [] (List.replicate k Item.stuffing) hch
    (by simp) (by rw [hpx, hwhole]) hsegs
  rw [h4]
  show assembleGo none _ = _
  have hcur : curOf (readerLine videostd line) fpp [] = none := by simp [curOf]
  rw [hcur] at this
  rw [this, ← List.append_nil (List.replicate k Item.stuffing), assembleGo_stuffing, hpx]
  rfl

/-! non-vacuity: 600 samples of line 320 from position 10, variable-length format, 1000 bytes of space with stuffing:
three segments of 251 + 251 + 98 samples, the rest stuffing; and a packet too small for the line -/
def exSamples : Bytes := (List.range 600).map fun k => (3 + 7 * k) % 256
example : MrArgsOK 1000 exSamples 0x99 VIDEOSTD_625 320 10 600 := by decide +kernel
/-- what the reader sees: return value, bytes stored, `*packet_left`, `*raw_left`, per unit (first, last, line, position, n) -/
def mrSummary (x : Except Err MrResult) : Bool × Nat × Nat × Nat × Option (List (List Nat)) :=
  match x with
  | .ok res => (res.ok, res.out.length, res.packetLeft, res.rawLeft,
      ((parseUnits res.out).bind unitsItems).map fun is => is.map fun i =>
        match i with
        | .seg s => [s.first.toNat, s.last.toNat, s.line, s.pos, s.px.length]
        | _ => [])
  | .error _ => (false, 0, 0, 0, none)
example : mrSummary (multiplexRaw 1000 exSamples 0x99 VIDEOSTD_625 320 10 600 true)
    = (true, 1000, 0, 0, some [[1, 0, 320, 10, 251], [0, 0, 320, 261, 251], [0, 1, 320, 512, 98], [], []]) := by
  decide +kernel
example : (mrSummary (multiplexRaw 300 exSamples 0x99 VIDEOSTD_625 320 10 600 false)).2.1 = 257 + 43
    ∧ (mrSummary (multiplexRaw 300 exSamples 0x99 VIDEOSTD_625 320 10 600 false)).2.2.2.1 = 600 - 251 - 37 := by
  decide +kernel
example : ¬ MrArgsOK 1000 exSamples 0x99 (VIDEOSTD_625 + VIDEOSTD_525) 320 10 600 := by decide +kernel
example : ¬ MrArgsOK 1000 exSamples 0x10 VIDEOSTD_625 320 10 600 ∧ ¬ MrArgsOK 1000 exSamples 0x99 VIDEOSTD_625 24 10 600
    ∧ ¬ MrArgsOK 1000 exSamples 0x99 VIDEOSTD_625 320 121 600 := by decide +kernel
-- the reader reassembles the three segments to the one line that was sent
example : ((match multiplexRaw 1000 exSamples 0x99 VIDEOSTD_625 320 10 600 true with
    | .ok res => (parseUnits res.out).bind fun us => (unitsItems us).bind assemble
    | .error _ => none) = some [Out.raw ⟨320, 10, exSamples⟩]) := by decide +kernel

end Zvbi.Props.C06CorRaw
