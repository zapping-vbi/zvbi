import ZvbiModel.Idl.RepeatSender
import ZvbiModel.Props.C15
import ZvbiModel.Pfc.Encode
import ZvbiModel.Pfc.MultiTail
import ZvbiModel.Pfc.Witness
/-!
# C15, second part - the executable senders end to end, repeats, foreign traffic, tail loss

Property theorems (continuation of `Props/C15.lean`).  Helper lemmas: `Idl/RepeatSender.lean`,
`Pfc/Multi.lean`, `Pfc/MultiTail.lean`, `Pfc/Encode.lean`.
-/
namespace Zvbi.Props.C15
open Zvbi.Hamm Zvbi.Gen

section Idl
open Zvbi.Idl

/-- **Everything the IDL sender emits is a valid packet.**  For every channel, every format type
    with bit 0 clear (all RI / CI / DL options), every address of 0..6 nibbles, repeat and continuity
    indicator, user data, dummy byte value (not 0x00 / 0xFF) and padding (only with a DL byte): if the
    user data with its dummy bytes and the padding fill the packet exactly (`capacity`), the two check
    bytes that `Spec.mkPacket` computes make the packet `Spec.Pkt.Valid`: 42 bytes, and the CRC
    register over the CRC region is 0 (explicit CI) resp. `ci * 257` (CI folded into the check sum).
    Hence every theorem quantified over `Valid` packets speaks about all packets of the sender. -/
theorem idl_sender_packets_valid (channel ft ial : Nat) (spa : List Nat) (ri ci : Nat) (data : List Nat) (dummy : Nat)
    (pad : List Nat)
    (hch : channel < 16) (hft : ft < 16) (hfta : ft &&& 1 = 0) (hial : ial < 16)
    (hspa : spa.length = ial &&& 7) (hne : ial &&& 7 ≠ 7) (hspalt : ∀ n ∈ spa, n < 16)
    (hri : ri < 256) (hci : ci < 256) (hdata : ∀ b ∈ data, b < 256) (hdummy : dummy < 256)
    (hd0 : dummy ≠ 0 ∧ dummy ≠ 0xFF) (hpad : ∀ b ∈ pad, b < 256) (hpadnil : ft &&& 8 = 0 → pad = [])
    (hfit : (Spec.stuff dummy ci 0 data).length + pad.length = capacity ft (ial &&& 7)) :
    (Spec.mkPacket channel ft ial spa ri ci data dummy pad).Valid :=
  mkPacket_valid channel ft ial spa ri ci data dummy pad hch hft hfta hial hspa hne hspalt hri hci hdata hdummy hd0
    hpad hpadnil hfit

/-- a message with an RI byte, explicit CI and DL: nine 0x00 (so a dummy byte is inserted) and a 7 -/
def exMsg (dep : Nat) : Msg :=
  { ft := 14, dep := dep, ri := 0x80, data := [0, 0, 0, 0, 0, 0, 0, 0, 0, 7], dummy := 0xAA, pad := List.replicate 20 0x55 }

example : (exMsg 8).Ok 2 5 := by unfold Msg.Ok; decide +kernel
example : (pk 3 [1, 2] 5 (exMsg 8) 0).bytes.length = 42 := by decide +kernel

/-- the state of a new demultiplexer on the current source -/
theorem idl_new_state (channel address fill : Nat) (s : St) (h : new channel address fill = some s) :
    s.channel = channel ∧ s.address = address ∧ s.ci = none ∧ s.ri = none ∧ s.flags = 0 := by
  rw [new_some h]; exact ⟨rfl, rfl, rfl, rfl, rfl⟩

/-- **IDL round trip with loss, damage and repeats, from any state** of a running demultiplexer whose flag word,
    expected continuity index and awaited repeat correspond to `(pend, sync, awb)` (`pend`: DATA_LOST pending;
    `sync = some g`: the expected continuity index is that of the message `g` before the next one; `awb`: a repeat
    is awaited): the callbacks are exactly `want pend sync awb evs`.  What happens to the messages (`Ev`) and what
    `want` demands is told at the next theorem, the case of a new demultiplexer.  Packet level: `idl_delivers_sent_repeats_intended`;
    the intended receiver's obligations for such a stream: `expectedR_events`. -/
theorem idl_roundtrip_lossy_from (channel : Nat) (spa : List Nat) (hch : channel < 16) (hspa : spa.length ≤ 6)
    (hspalt : ∀ n ∈ spa, n < 16) (evs : List Ev) (c : Nat) (hok : EvsOk channel spa c evs)
    (s : St) (hsc : s.channel = channel) (hsa : s.address = Spec.spaVal spa)
    (pend : Bool) (sync : Option Nat) (awb : Bool)
    (hfl : s.flags = if pend then 1 else 0) (hsync : SyncRel c s.ci sync) (haw : AwRel s.ri awb) :
    (run s ((txsOf channel spa c evs).map Spec.Tx.bytes)).map (fun cb => (cb.flags, cb.bytes)) =
      want pend sync awb evs := by
  rw [idl_delivers_sent_repeats_intended rfl s _ (by rw [hsc, hsa]; exact txs_sent channel spa hch hspa hspalt evs c hok), hfl]
  exact expectedR_events channel spa hspa evs c s.ci s.ri pend sync awb hok hsync haw

/-- **IDL round trip with loss, damage and repeats.**  A sender transmits messages with
    consecutive continuity indices (modulo 256, from any start value `c`), any options per message,
    to channel `channel`, address nibbles `spa`.  To each message one of these happens (`Ev`): the
    first transmission arrives intact (and any further repeats of it); it arrives damaged
    (detectably, in its CRC region) announcing a repeat - possibly several of its transmissions do -
    and the repeat announced last arrives intact; it arrives damaged announcing a repeat that never
    comes intact, or instead of which a later repeat arrives (discarded, counted as a loss); it
    arrives damaged announcing none; nothing of it arrives; unrelated packets may come in between.
    A new demultiplexer then calls back exactly
    `want false none false`: every message that arrived intact or was repaired by its repeat - once,
    in order, exact bytes, DEPENDENT as sent - and DATA_LOST exactly on the first delivery after
    something was lost (a message that is damaged and then repaired is not a loss; a gap of an
    exact multiple of 256 messages that shows only in the continuity index is not detectable). -/
theorem idl_roundtrip_lossy (channel : Nat) (spa : List Nat) (hch : channel < 16) (hspa : spa.length ≤ 6)
    (hspalt : ∀ n ∈ spa, n < 16) (fill : Nat) (s : St) (hnew : new channel (Spec.spaVal spa) fill = some s)
    (c : Nat) (evs : List Ev) (hok : EvsOk channel spa c evs) :
    (run s ((txsOf channel spa c evs).map Spec.Tx.bytes)).map (fun cb => (cb.flags, cb.bytes)) =
      want false none false evs := by
  obtain ⟨h1, h2, h3, h4, h5⟩ := idl_new_state _ _ _ s hnew
  exact idl_roundtrip_lossy_from channel spa hch hspa hspalt evs c hok s h1 h2 false none false (by rw [h5]; rfl)
    (by rw [h3]; trivial) (by rw [h4]; trivial)

/-- **IDL round trip.**  For every list of messages (any payloads incl. runs of 0x00 / 0xFF, any
    options, dummy value, padding), any channel and address, any first continuity index: when all
    first transmissions arrive (with any intact repeats of them, and unrelated packets in between),
    a new demultiplexer calls back with exactly the payloads, in order, with flags 0 (resp. DEPENDENT
    as sent) - DATA_LOST is never set. -/
theorem idl_roundtrip (channel : Nat) (spa : List Nat) (hch : channel < 16) (hspa : spa.length ≤ 6)
    (hspalt : ∀ n ∈ spa, n < 16) (fill : Nat) (s : St) (hnew : new channel (Spec.spaVal spa) fill = some s)
    (c : Nat) (evs : List Ev) (hok : EvsOk channel spa c evs)
    (hclean : ∀ e ∈ evs, (∃ m d, e = .intact m d) ∨ (∃ b, e = .foreign b)) :
    (run s ((txsOf channel spa c evs).map Spec.Tx.bytes)).map (fun cb => (cb.flags, cb.bytes)) =
      cleanPayloads evs := by
  rw [idl_roundtrip_lossy channel spa hch hspa hspalt fill s hnew c evs hok]
  exact want_clean evs hclean none rfl

/-- **A damaged packet followed by its repeat is delivered once and not flagged lost.**  A
    receiver in step with the sender (nothing pending, no repeat awaited, expecting the next index or
    nothing) gets message `m` damaged but announcing a repeat (possibly also some of its repeats
    damaged, each announcing another one: `ds`, `d`), then the repeat that the last damaged packet
    announced arrives intact (then any further repeats), then the next message `m'`: exactly two
    callbacks, `m` and `m'`, neither with DATA_LOST. -/
theorem idl_repeat_repairs (channel : Nat) (spa : List Nat) (hch : channel < 16) (hspa : spa.length ≤ 6)
    (hspalt : ∀ n ∈ spa, n < 16) (c : Nat) (m m' : Msg) (ds : List Spec.Pkt) (d : Spec.Pkt) (k : Nat) (dups : List Nat)
    (hok : EvsOk channel spa c [.repaired m ds d k dups, .intact m' []])
    (s : St) (hsc : s.channel = channel) (hsa : s.address = Spec.spaVal spa) (hfl : s.flags = 0) (hri : s.ri = none)
    (hci : s.ci = none ∨ ∃ e, s.ci = some e ∧ e % 256 = c % 256) :
    (run s ((txsOf channel spa c [.repaired m ds d k dups, .intact m' []]).map Spec.Tx.bytes)).map
      (fun cb => (cb.flags, cb.bytes)) = [(m.dep, m.data), (m'.dep, m'.data)] := by
  obtain ⟨sync, hs, hg⟩ := syncRel_inStep c s.ci hci
  rw [idl_roundtrip_lossy_from channel spa hch hspa hspalt _ c hok s hsc hsa false sync false (by rw [hfl]; rfl) hs
    (by rw [hri]; trivial)]
  simp [want, hg, show gapBad (some 0) = false from rfl]

/-- **Without the repeat the next delivery carries DATA_LOST.**  The same receiver gets packets
    damaged but announcing a repeat, no repeat arrives intact, then the next message `m'` arrives:
    one callback, `m'` with DATA_LOST. -/
theorem idl_missing_repeat_flagged (channel : Nat) (spa : List Nat) (hch : channel < 16) (hspa : spa.length ≤ 6)
    (hspalt : ∀ n ∈ spa, n < 16) (c : Nat) (m' : Msg) (ds : List Spec.Pkt) (d : Spec.Pkt)
    (hok : EvsOk channel spa c [.unrepaired ds d, .intact m' []])
    (s : St) (hsc : s.channel = channel) (hsa : s.address = Spec.spaVal spa) (hfl : s.flags = 0) (hri : s.ri = none)
    (hci : s.ci = none ∨ ∃ e, s.ci = some e ∧ e % 256 = c % 256) :
    (run s ((txsOf channel spa c [.unrepaired ds d, .intact m' []]).map Spec.Tx.bytes)).map
      (fun cb => (cb.flags, cb.bytes)) = [(1 ||| m'.dep, m'.data)] := by
  obtain ⟨sync, hs, _⟩ := syncRel_inStep c s.ci hci
  rw [idl_roundtrip_lossy_from channel spa hch hspa hspalt _ c hok s hsc hsa false sync false (by rw [hfl]; rfl) hs
    (by rw [hri]; trivial)]
  simp [want]

/-- the first transmission of message `exMsg 8` with index 5, damaged in its last byte -/
def exDamaged : Spec.Pkt := { pk 3 [1, 2] 5 (exMsg 8) 0 with crcHi := (pk 3 [1, 2] 5 (exMsg 8) 0).crcHi ^^^ 1 }

/-- repeat 1 of the same message, damaged in its last byte (its RI byte 0x81 announces repeat 2) -/
def exDamaged1 (ci : Nat) : Spec.Pkt :=
  { pk 3 [1, 2] ci (exMsg 8) 1 with crcHi := (pk 3 [1, 2] ci (exMsg 8) 1).crcHi ^^^ 1 }

/-- non-vacuity: message 5 damaged and repaired by its repeat (plus a second repeat), message 6
    damaged, its repeat 1 damaged, repaired by repeat 2, message 7 damaged without its repeat, message 8
    dropped, message 9 intact: three callbacks, only the last with DATA_LOST (here DEPENDENT = 8 is
    set in all) -/
def exEvs : List Ev :=
  [.repaired (exMsg 8) [] exDamaged 1 [2], .repaired (exMsg 8) [exDamaged] (exDamaged1 6) 2 [],
   .unrepaired [] exDamaged, .dropped, .foreign (List.replicate 42 0), .intact (exMsg 8) [1]]
example : (run { channel := 3, address := 0x21, ci := none, ri := none, flags := 0 }
    ((txsOf 3 [1, 2] 5 exEvs).map Spec.Tx.bytes)).map (·.flags) = [8, 8, 9] := by
  decide +kernel
example : want false none false exEvs = [(8, (exMsg 8).data), (8, (exMsg 8).data), (9, (exMsg 8).data)] := by decide
/-- the announced repeat 1 is lost, repeat 9 arrives (its number differs from 1 only in bit 3): no callback,
    and the next message carries DATA_LOST -/
example : (run { channel := 3, address := 0x21, ci := none, ri := none, flags := 0 }
    ((txsOf 3 [1, 2] 5 [.lateRepeat (exMsg 8) [] exDamaged 9, .intact (exMsg 0) []]).map Spec.Tx.bytes)).map (·.flags) = [1] := by
  decide +kernel
example : (exDamaged1 6).ri &&& 0xF = 2 - 1 ∧ ((exDamaged1 6).residual ≠ 0) := by decide +kernel

end Idl

section Pfc
open Zvbi.Pfc
open Zvbi.Pfc.Spec (Ph run)

/-- **PFC round trip.**  For EVERY list of blocks (application id 0..31, 0..2047 bytes each), every
    number of filler bytes before the first and after each block (so every alignment of every block
    relative to the packets), every distribution of the rows over pages (`sizes`, 1..25 rows per
    page), any first continuity index, page number and stream: the packets the transmitter
    `transmit` produces (`Spec.encode`: stream layout, alignment fillers, block pointers;
    `paginate`; page headers and packet addresses), fed to a new demultiplexer for that page and
    stream, are delivered as exactly the blocks, in order, with their application ids and bytes.
    Blocks of size 0 produce no callback (stated interpretation). -/
theorem pfc_roundtrip (pgno stream : Nat) (hpg1 : 0x100 ≤ pgno) (hpg2 : pgno < 0x900) (hst : stream < 16)
    (ci : Nat) (hci : ci < 16) (lead : Nat) (items : List Spec.Item)
    (hok : ∀ it ∈ items, it.app < 32 ∧ it.data.length ≤ 2047) (sizes tail : List Nat) :
    ∃ s' bl, feedAll (new pgno stream) (transmit pgno stream ci lead items sizes tail) = .ok (s', bl) ∧
      bl.map toSpec = (items.filter (fun it => !it.data.isEmpty)).map (fun it => (it.app, it.data)) := by
  have := encode_delivers pgno stream hpg1 hpg2 hst lead items hok ci hci
    (paginate sizes tail (Spec.encode lead items)) (paginate_len _ _ _) (allRows_paginate _ _ _)
  rwa [delivered_itemBlocks] at this

/-- non-vacuity: three blocks (one empty), two rows per page -/
def exItems2 : List Spec.Item := [⟨5, [1, 2, 3], 2⟩, ⟨6, [], 0⟩, ⟨7, List.range 80, 40⟩]
example : (transmit 0x1df 1 9 0 exItems2 [2] []).length = 6 := by decide +kernel
example : (blocksOf (feedAll (new 0x1df 1) (transmit 0x1df 1 9 0 exItems2 [2] []))).map (fun b => (b.1, b.2.2)) =
    [(5, [1, 2, 3]), (7, List.range 80)] := by decide +kernel

/-- **Blocks delivered as sent, with unrelated Teletext packets in between.**  Our pages (rows
    `X/1..X/n`, `n <= 25`, all arriving; continuity index counting up modulo 16), whose payloads are
    the flat stream of any sendable block sequence with usable block pointers, are received together
    with foreign traffic: *between* two of our pages (and before the first, after the last) any
    headers of other pages of our magazine or of other streams of our page, each followed by any
    rows (`Interlude`); and *anywhere*, also between the rows of our page, rows of other magazines,
    rows 26..31 and page headers of other magazines (`Transparent`; parallel transmission).  A new demultiplexer calls back with exactly the non-empty blocks, in order. -/
theorem pfc_delivers_blocks_foreign_traffic (pgno stream : Nat) (hpg1 : 0x100 ≤ pgno) (hpg2 : pgno < 0x900)
    (hst : stream < 16) (items : List (Spec.Blk × Nat)) (hitems : ∀ it ∈ items, it.1.Ok) (lead : Nat)
    (ci : Nat) (hci : ci < 16) (pages : List PageG) (hn : ∀ pg ∈ pages, pg.rows.length = pg.n ∧ pg.n ≤ 25)
    (hstream : ((allRowsG pages).map (·.2)).flatten = Spec.flat lead items)
    (hadm : Spec.AdmissibleAll .idle (allRowsG pages))
    (hint : IntersOk pgno stream true pages) (post : List (List Nat)) (hpost : Interlude pgno stream false post)
    (l : List (List Nat)) (hthin : Thin pgno l (pagesGPkts pgno stream ci pages ++ post)) :
    ∃ s' bl, feedAll (new pgno stream) l = .ok (s', bl) ∧ bl.map toSpec = Spec.delivered items := by
  obtain ⟨s', bl, h1, h2, _⟩ := feed_reception pgno stream hpg1 hpg2 hst ci hci pages
    (fun pg hpg => .of_complete (hn pg hpg)) hint post hpost _ .idle
    (by rw [hstream, pfc_grammar_reads_blocks items hitems]) hadm l hthin
  exact ⟨s', bl, h1, h2⟩

/-- **PFC round trip with foreign traffic**: the same for the rows of the executable sender
    `Spec.encode`, distributed over pages in any way - no hypothesis on block pointers left. -/
theorem pfc_roundtrip_foreign_traffic (pgno stream : Nat) (hpg1 : 0x100 ≤ pgno) (hpg2 : pgno < 0x900)
    (hst : stream < 16) (ci : Nat) (hci : ci < 16) (lead : Nat) (items : List Spec.Item)
    (hok : ∀ it ∈ items, it.app < 32 ∧ it.data.length ≤ 2047)
    (pages : List PageG) (hn : ∀ pg ∈ pages, pg.rows.length = pg.n ∧ pg.n ≤ 25)
    (hrows : allRowsG pages = Spec.encode lead items)
    (hint : IntersOk pgno stream true pages) (post : List (List Nat)) (hpost : Interlude pgno stream false post)
    (l : List (List Nat)) (hthin : Thin pgno l (pagesGPkts pgno stream ci pages ++ post)) :
    ∃ s' bl, feedAll (new pgno stream) l = .ok (s', bl) ∧
      bl.map toSpec = (items.filter (fun it => !it.data.isEmpty)).map (fun it => (it.app, it.data)) := by
  have := encode_reception pgno stream hpg1 hpg2 hst ci hci lead items hok pages hn hrows hint post hpost l hthin
  rwa [delivered_itemBlocks] at this

/-! ### non-vacuity: page 1DF stream 1 in serial transmission with other pages of magazine 1 and
    parallel traffic of magazine 2 -/

/-- header of page 1E0 (closes our page), then two of its rows -/
def exInter : List (List Nat) :=
  [Spec.headerPkt 0x1e0 0 3 2 (List.replicate 34 0x20), Spec.rowPkt 0x1e0 1 0 (List.replicate 39 0x41),
   Spec.rowPkt 0x1e0 2 0 (List.replicate 39 0x42)]
/-- header of our page for stream 2 -/
def exInter2 : List (List Nat) := [Spec.headerPkt 0x1df 2 7 1 (List.replicate 34 0x20)]
/-- a row and a page header of magazine 2, a row 30 of magazine 1 -/
def exTransp : List (List Nat) :=
  [Spec.rowPkt 0x2aa 1 0 (List.replicate 39 0x43), Spec.headerPkt 0x2aa 1 9 3 (List.replicate 34 0x20),
   Spec.rowPkt 0x100 30 0 (List.replicate 39 0x44)]

def exRows : List (Nat × List Nat) := Spec.encode 0 exItems2
def exPagesG : List PageG :=
  [⟨exInter, [], 2, exRows.take 2⟩, ⟨exInter2, [], 1, exRows.drop 2⟩]

example : allRowsG exPagesG = Spec.encode 0 exItems2 := by decide +kernel
example : (blocksOf (feedAll (new 0x1df 1)
    (match pagesGPkts 0x1df 1 9 exPagesG with
     | a :: b :: c :: d :: e :: rest => exTransp ++ a :: b :: c :: d :: exTransp ++ e :: exTransp ++ rest ++ exInter
     | x => x))).map (fun b => (b.1, b.2.2)) = [(5, [1, 2, 3]), (7, List.range 80)] := by decide +kernel
example : OtherPageHeader 0x1df (Spec.headerPkt 0x1e0 0 3 2 (List.replicate 34 0x20)) :=
  ⟨by decide, 0x100, 0xe0, by decide, by decide, by decide, by decide⟩
example : Transparent 0x1df (Spec.headerPkt 0x2aa 1 9 3 (List.replicate 34 0x20)) :=
  ⟨by decide, 0x200, 0, by decide, Or.inr ⟨rfl, 0xaa, by decide, by decide⟩⟩
example : Transparent 0x1df (Spec.rowPkt 0x100 30 0 (List.replicate 39 0x44)) :=
  ⟨by decide, 0x100, 30, by decide, Or.inl ⟨by decide, Or.inr (by decide)⟩⟩

/-- **Finding F42 (= C15-F19), pinned: what the demultiplexer does when the last packets of a page are lost -
    nothing.**  On the current source (`Gen.pfcPageEndChecked = false`: the header of the next page
    does not compare the packets received with the packet count of the previous header) take any
    reception as in `pfc_delivers_blocks_foreign_traffic`, but let of each page only a prefix
    `X/1..X/k`, `k <= n`, of the `n` announced rows arrive.  As long as the grammar accepts the
    *spliced* stream (payloads of the rows that arrived, the lost rows cut out) and the block pointers
    of the arrived rows are usable for it, the demultiplexer raises no error and no reset, and
    delivers exactly what the grammar reads from the spliced stream: a block that was in progress
    when the rows were lost is completed with the bytes that follow on the next page and delivered
    with its announced size and wrong content.  (Full property: it should be discarded.  Witness:
    next theorem; replay corpus/C15/f19-pfc-tail-drop.ops; known finding F42.) -/
theorem pfc_tail_loss_reads_spliced_stream (hfinding : pfcPageEndChecked = false)
    (pgno stream : Nat) (hpg1 : 0x100 ≤ pgno) (hpg2 : pgno < 0x900) (hst : stream < 16)
    (ci : Nat) (hci : ci < 16) (pages : List PageG) (hn : ∀ pg ∈ pages, pg.rows.length ≤ pg.n ∧ pg.n ≤ 25)
    (D : List (Nat × List Nat)) (ph : Ph)
    (hrun : run .idle [] ((allRowsG pages).map (·.2)).flatten = ⟨ph, D, true⟩)
    (hadm : Spec.AdmissibleAll .idle (allRowsG pages))
    (hint : IntersOk pgno stream true pages) (post : List (List Nat)) (hpost : Interlude pgno stream false post)
    (l : List (List Nat)) (hthin : Thin pgno l (pagesGPkts pgno stream ci pages ++ post)) :
    ∃ s' bl, feedAll (new pgno stream) l = .ok (s', bl) ∧ bl.map toSpec = D ∧ phase s' = ph :=
  feed_reception pgno stream hpg1 hpg2 hst ci hci pages
    (fun pg hpg => ⟨(hn pg hpg).1, (hn pg hpg).2, Or.inr hfinding⟩) hint post hpost D ph hrun hadm l hthin

/-- **Finding F42, hypothesis-free form: the packet count of a page header beyond the rows that
    arrive has no effect at all.**  On the current source (`Gen.pfcPageEndChecked = false`), in any
    state of a demultiplexer for page `pgno` / stream `stream`: a header of ours announces `n` packets;
    then any packets arrive (`mid`: any 42 bytes each, damaged or not, of any magazine) except rows
    `b+1 .. n` of our magazine (`1 <= b <= n`) - so at most the rows `X/1 .. X/b` of our page - and then
    the next header of ours (any continuity index).  Everything the demultiplexer does - callbacks,
    final state, for every continuation `rest` - is exactly what it does when the first header
    announces only `b` packets: that `n - b` packets are missing is invisible to it.  (Proof: the
    decoder never reads `n_packets`, `Pfc/MultiTail.lean` `decode_setN`; `vbi_pfc_demux_feed` only
    compares row numbers with it; the next header overwrites it.) -/
theorem pfc_tail_loss_unnoticed (hfinding : pfcPageEndChecked = false) (pgno stream : Nat)
    (hpg1 : 0x100 ≤ pgno) (hpg2 : pgno < 0x900) (hst : stream < 16)
    (s : St) (hsp : s.pgno = pgno) (hss : s.stream = stream)
    (ci n b : Nat) (hci : ci < 16) (hn : n < 32) (hb : 1 ≤ b) (hbn : b ≤ n) (tail : List Nat)
    (mid : List (List Nat)) (hmid : ∀ buf ∈ mid, buf.length = 42 ∧ NotBetween pgno b n buf)
    (ci' n' : Nat) (hci' : ci' < 16) (hn' : n' < 32) (tail' : List Nat) (rest : List (List Nat)) :
    feedAll s (Spec.headerPkt pgno stream ci n tail :: (mid ++ Spec.headerPkt pgno stream ci' n' tail' :: rest)) =
    feedAll s (Spec.headerPkt pgno stream ci b tail :: (mid ++ Spec.headerPkt pgno stream ci' n' tail' :: rest)) := by
  rw [feedAll_cons, feedAll_cons, feed_header s pgno stream ci n tail hpg1 hpg2 hst hci hn hsp hss,
    feed_header s pgno stream ci b tail hpg1 hpg2 hst hci (by omega) hsp hss]
  dsimp only
  -- after the first header the two states differ only in `n_packets`
  generalize hx0 : (if ci ≠ s.ci then reset s else pageEnd s) = s0
  have hs0 : s0.pgno = pgno ∧ s0.stream = stream := by
    rw [← hx0, pageEnd_id hfinding]; split <;> exact ⟨hsp, hss⟩
  rw [← feedAll_sim_header hfinding n b hb hbn pgno stream hpg1 hpg2 hst
    { s0 with ci := (ci + 1) &&& 15, packet := 1, nPackets := n } rfl hs0.1 hs0.2 mid hmid ci' n' hci' hn' tail' rest]
  rfl

/-- non-vacuity: row X/1 of page 1DF is not one of the rows 2..2 -/
example : NotBetween 0x1df 1 2 (Spec.rowPkt 0x1df 1 0 (List.replicate 39 0x15)) := by
  intro m y h _
  have : Spec.addrOf (Spec.rowPkt 0x1df 1 0 (List.replicate 39 0x15)) = some (0x100, 1) := by decide
  rw [this] at h; cases h; omega

/-- **With the repair the loss is noticed.**  On a source whose page header branch checks the end
    of the previous page (`Gen.pfcPageEndChecked = true`, `fixes/pfc-page-continuity.diff`): a header
    of ours with the expected continuity index that arrives while announced packets of the open page
    are outstanding puts the demultiplexer into the state of a new one before opening the new page -
    the block in progress is discarded, as the property demands.  (Vacuous on the current source.) -/
theorem pfc_tail_loss_discards_when_repaired (hfix : pfcPageEndChecked = true) (s : St) (pgno stream ci n : Nat)
    (tail : List Nat) (hpg1 : 0x100 ≤ pgno) (hpg2 : pgno < 0x900) (hst : stream < 16) (hci : ci < 16) (hn : n < 32)
    (hs : s.pgno = pgno) (hss : s.stream = stream) (hopen : s.nPackets > 0) (hmissing : s.packet ≠ s.nPackets + 1) :
    feed s (Spec.headerPkt pgno stream ci n tail) =
      .ok ⟨{ reset s with ci := (ci + 1) &&& 15, packet := 1, nPackets := n }, true, []⟩ := by
  rw [feed_header s pgno stream ci n tail hpg1 hpg2 hst hci hn hs hss]
  have : pageEnd s = reset s := by
    unfold pageEnd; rw [hfix]; simp [hopen, hmissing]
  rw [this]
  split <;> rfl

/-- a transmission of `Spec.encode`: block (app 5, bytes 0..72) fills rows 1 and 2 of the first page
    exactly, block (app 6, 34 bytes) is row 1 of the second page, block (app 7) follows in row 2 -/
def spliceItems : List Spec.Item :=
  [⟨5, List.range 73, 0⟩, ⟨6, (List.range 34).map (· + 100), 0⟩, ⟨7, [1, 2, 3], 0⟩]
def spliceRows : List (Nat × List Nat) := Spec.encode 0 spliceItems
/-- ... as received: row 2 of the first page (the last 39 bytes of block 5) is lost -/
def splicePages : List PageG :=
  [⟨[], List.replicate 34 0x20, 2, spliceRows.take 1⟩, ⟨[], List.replicate 34 0x20, 2, spliceRows.drop 2⟩]

/-- **Finding F42 (witness of the previous theorem).**  `splicePages` is such a reception (one row
    of two arrives), the grammar accepts the spliced stream and reads from it a block (app 5, 73 bytes)
    whose last 39 bytes are the separator, structure header and data of block 6, then block 7 - and
    this is what the demultiplexer delivers: block 5 is delivered damaged instead of discarded and
    block 6 is swallowed, with no error reported.  Replay: corpus/C15/f42-pfc-tail-splice.ops
    (corpus/C15/f19-pfc-tail-drop.ops is the variant that ends in a resynchronisation). -/
theorem pfc_tail_loss_spliced_counterexample :
    (∀ pg ∈ splicePages, pg.rows.length ≤ pg.n ∧ pg.n ≤ 25) ∧
    (run .idle [] ((allRowsG splicePages).map (·.2)).flatten).ok = true ∧
    Spec.admissibleB .idle (allRowsG splicePages) = true ∧
    (run .idle [] ((allRowsG splicePages).map (·.2)).flatten).out =
      [(5, List.range 34 ++ (Spec.blockBytes ⟨6, (List.range 34).map (· + 100)⟩)), (7, [1, 2, 3])] ∧
    (blocksOf (feedAll (new 0x1df 1) (pagesGPkts 0x1df 1 5 splicePages))).map (fun b => (b.1, b.2.2)) =
      [(5, List.range 34 ++ (Spec.blockBytes ⟨6, (List.range 34).map (· + 100)⟩)), (7, [1, 2, 3])] := by
  decide +kernel

/-- ... and the same packets with the first header announcing 1 packet instead of 2 give the same result
    (instance of `pfc_tail_loss_unnoticed`) -/
example : (feedAll (new 0x1df 1) (pagesGPkts 0x1df 1 5 splicePages)).toOption =
    (feedAll (new 0x1df 1) (pagesGPkts 0x1df 1 5
      [⟨[], List.replicate 34 0x20, 1, spliceRows.take 1⟩, ⟨[], List.replicate 34 0x20, 2, spliceRows.drop 2⟩])).toOption ∧
    (feedAll (new 0x1df 1) (pagesGPkts 0x1df 1 5 splicePages)).toOption.isSome = true := by
  decide +kernel

/-- the same reception with all rows arriving delivers the three blocks as sent -/
example : (blocksOf (feedAll (new 0x1df 1) (pagesGPkts 0x1df 1 5
    [⟨[], List.replicate 34 0x20, 2, spliceRows.take 2⟩, ⟨[], List.replicate 34 0x20, 2, spliceRows.drop 2⟩]))).map
      (fun b => (b.1, b.2.2)) = [(5, List.range 73), (6, (List.range 34).map (· + 100)), (7, [1, 2, 3])] := by
  decide +kernel

end Pfc

end Zvbi.Props.C15
