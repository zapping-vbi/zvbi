import ZvbiModel.Locks.Table
import ZvbiModel.Locks.Instance
/-!
# C20 - table theorems, part A: bracketing, lock order, no trylock (`decide +kernel` over the COMPLETE table that
`translate/gen_locks.py` extracts from the current source, one stretch of `vbi_decode`'s edge list at a time)
-/
namespace Zvbi.Props.C20
open Zvbi.Locks Zvbi.Locks.Instance Zvbi.Generated.Locks

/-- The extracted graphs are well bracketed: the held-set annotation is inductive on every edge of
every role function (no path re-locks a held mutex or unlocks one it does not hold) and nothing is
held on entry and on return. -/
theorem table_well_bracketed : rolesAnnOK = true := by
  simp only [rolesAnnOK, Role.annOK, Cfg.annOK, Cfg.annAt, roles, cfg_vbi_decode, List.all_cons,
    List.all_nil, List.all_append]
  decide +kernel

theorem roles_annOK : ∀ R ∈ roles, R.annOK = true :=
  List.all_eq_true.1 table_well_bracketed

/-- Lock order event < cc, rd, prog_info < chswcd (`Instance.rank`) on every acquisition, except that `vbi_decode` (single thread,
sole user of the event mutex) may take the event mutex at any time. -/
theorem table_lock_order : tableOrdered rank roles = true := by
  simp only [tableOrdered, orderedB, Role.all_accs, roles, cfg_vbi_decode, List.length_cons, List.length_nil,
    Nat.reduceAdd, List.range_succ, List.range_zero, List.nil_append, List.cons_append, List.getElem?_cons_zero,
    List.getElem?_cons_succ, List.all_cons, List.all_nil, List.all_append]
  decide +kernel

theorem table_try_free : roles.all Role.tryFree = true := by
  simp only [Role.tryFree, Cfg.tryFree, roles, cfg_vbi_decode, List.all_cons, List.all_nil, List.all_append]
  decide +kernel

end Zvbi.Props.C20
