import ZvbiModel.Props.C06Join
import ZvbiModel.Mux.UndefField
import ZvbiModel.Mux.NullFeed
/-!
# C06 - lines with the undefined line number 0 behind a raw line request (finding C06-D4)

Property theorems only: four evaluated in the kernel on the models `Mux/Model.lean` of src/dvb_mux.c and `Demux/Model.lean`
of src/dvb_demux.c (replayed on the real code: `corpus/C06/undef-after-raw-field.ops` through `mux_harness --demux`
shows the same frames); `undef_field_parity_ascends` is general, lemmas `Mux/UndefField.lean`.

`mux_demux_roundtrip_undef_full` (`Props/C06Join.lean`) is stated for frames WITHOUT raw line requests (`Op.OK`).  Beyond
that hypothesis the round trip of undefined-line Teletext units is false on a tree without
fixes/C06-mux-undef-field-after-raw.diff (`Zvbi.Gen.muxSegLastLine = false`; /repo has the fix): `generate_pes_packet` cuts
the frame at every `VBI_SLICED_VBI_625` entry - selected by the service mask or not - and converts the sliced lines in
between with separate `insert_sliced_data_units` calls, each of which derives the field parity of an undefined line from
its OWN `last_line`, which restarts at 0 there.  An undefined-line unit behind such an entry therefore says
"first field" also when the lines sent before it are on the second field; the demultiplexer sees the field parity go
back inside a packet (`line_address`, dvb_demux.c:607: "Illegal line order") and drops the frame.
-/
namespace Zvbi.Props.C06Undef
open Zvbi.Mux Zvbi.Mux.EnParse
open Zvbi.Demux (SrcCfg frames)
open Zvbi.Props.C06Join (exLine)

/-- a raw line request (`VBI_SLICED_VBI_625`) for frame line `line` -/
def rawReq (line : Nat) : Sliced := ⟨SL_VBI625, line, List.replicate 56 0⟩

/-- three frames; the first one: Teletext on line 320, a raw line request for line 321 that the service mask (Teletext
only) does not select, and a Teletext line with the undefined line number 0 -/
def lostOps : List Op :=
  [.frame [exLine 3 320 0x15, rawReq 321, exLine 3 0 0x2A] 0x3 5, .frame [exLine 3 7 1] 3 6, .frame [exLine 3 7 2] 3 7]
/-- the same without the raw line request -/
def keptOps : List Op :=
  [.frame [exLine 3 320 0x15, exLine 3 0 0x2A] 0x3 5, .frame [exLine 3 7 1] 3 6, .frame [exLine 3 7 2] 3 7]

/-- Finding C06-D4.  On the tree WITHOUT fixes/C06-mux-undef-field-after-raw.diff
(`Zvbi.Gen.muxSegLastLine = false`, read from the source by translate/gen_muxflags.py on every run): all three frames of `lostOps` are accepted and the first one is sent
with exactly its two selected lines (320 and the undefined line), yet the library demultiplexer (both source shapes of the
repaired demux statements) delivers only the SECOND frame: the frame with PTS 5 is lost, although the stream contains
nothing but accepted frames, each beginning on a line not beyond the last line of the frame before. -/
theorem undef_after_raw_frame_lost : Zvbi.Gen.muxSegLastLine = false →
    ((run newPes lostOps).2.2.map fun s => (s.pts, s.lines.map (·.line))) = [(5, [320, 0]), (6, [7]), (7, [7])]
    ∧ ((frames SrcCfg.repaired (run newPes lostOps).2.1).map fun f => (f.pts, f.lines.map (·.line))) = [(6, [7])]
    ∧ ((frames SrcCfg.current (run newPes lostOps).2.1).map fun f => (f.pts, f.lines.map (·.line))) = [(6, [7])]
    ∧ (((run newPes lostOps).2.2.dropLast.map received).map fun f => (f.pts, f.lines.map (·.line))) = [(5, [320, 0]), (6, [7])] := by
  decide +kernel

/-- **the cause, on the bytes**: the first packet of `lostOps` holds two Teletext units whose line bytes are 0xC7
(field_parity 0 = second field, line_offset 7) and 0xE0 (field_parity 1 = FIRST field, line_offset 0); without the raw line
request the second one is 0xC0 (second field), as EN 301 775 4.5.2 wants for a line that follows line 320. -/
theorem undef_after_raw_field_bits :
    (Zvbi.Gen.muxSegLastLine = false →
      ((parseUnits (((run newPes lostOps).2.1.take 184).drop 46)).map fun us => (us.take 2).map fun u => (u.id, u.payload.getD 0 0))
        = some [(2, 0xC7), (2, 0xE0)])
    ∧ ((parseUnits (((run newPes keptOps).2.1.take 184).drop 46)).map fun us => (us.take 2).map fun u => (u.id, u.payload.getD 0 0))
      = some [(2, 0xC7), (2, 0xC0)] := by
  decide +kernel

/-- On the tree WITH fixes/C06-mux-undef-field-after-raw.diff (`muxSegLastLine = true`) the same
history makes the round trip: the undefined line behind the raw line request says "second field" (0xC0) and the frame with PTS 5
comes back with both lines. -/
theorem undef_after_raw_repaired : Zvbi.Gen.muxSegLastLine = true →
    ((parseUnits (((run newPes lostOps).2.1.take 184).drop 46)).map fun us => (us.take 2).map fun u => (u.id, u.payload.getD 0 0))
      = some [(2, 0xC7), (2, 0xC0)]
    ∧ frames SrcCfg.repaired (run newPes lostOps).2.1 = (run newPes lostOps).2.2.dropLast.map received
    ∧ ((frames SrcCfg.repaired (run newPes lostOps).2.1).map fun f => (f.pts, f.lines.map (·.line))) = [(5, [320, 0]), (6, [7])] := by
  decide +kernel

/-- **the statement that does hold on these inputs**: without the raw line request the same frames make the round trip -
the frame with the undefined line comes back with both lines and its PTS (an instance of the still open
`mux_demux_roundtrip_undef_full`, whose hypothesis `Op.OK` excludes raw line requests). -/
theorem undef_without_raw_roundtrip :
    (∀ op ∈ keptOps, Op.OK op)
    ∧ frames SrcCfg.repaired (run newPes keptOps).2.1 = (run newPes keptOps).2.2.dropLast.map received
    ∧ ((frames SrcCfg.repaired (run newPes keptOps).2.1).map fun f => (f.pts, f.lines.map (·.line))) = [(5, [320, 0]), (6, [7])] := by
  decide +kernel

/-- the hypothesis the counterexample violates, and only that one -/
example : ¬ (∀ op ∈ lostOps, Op.OK op) := by decide +kernel
example : (∀ s ∈ (run newPes lostOps).2.2, 1 ≤ s.lines.length ∧ Zvbi.Demux.firstLine s.lines ≠ 0) := by decide +kernel

/-- The multiplexer's half of the open `mux_demux_roundtrip_undef_full`, for ALL frames
without raw line requests (lines with the undefined line number 0 anywhere, any mask, both formats, any packet size): the
data unit region of the packet of an accepted frame reads (`parseUnits`) as the units `us` of exactly the selected lines
(`unitsLines us = sent mask lines`, none of them stuffing) followed by stuffing units, and the field parities of `us`
ASCEND (`FieldsAscend false`): once a unit says "second field" no later unit says "first field" - an undefined line carries
the field of the last defined line before it.  This is the condition under which `line_address` of the demultiplexer
(dvb_demux.c:603-614) stores a unit with line_offset 0 instead of failing with "Illegal line order"; the demultiplexer's
side, per packet, is `Props/C06UndefDemux.lean`. -/
theorem undef_field_parity_ascends (m : Mux) (hc : CfgOK m.cfg) (lines : List Sliced) (hwf : ∀ s ∈ lines, Sliced.WF s)
    (hnr : NoRaw lines) (mask pts : Nat) (hok : (feed m lines mask pts 0).2.ok = true) :
    ∃ pes us st, generatePes m.cfg lines mask pts = .ok (pes, [])
      ∧ (m.cfg.pid = 0 → (feed m lines mask pts 0).2.calls = [some pes])
      ∧ parseUnits (pes.drop 46) = some (us ++ st)
      ∧ (∀ u ∈ st, IsStuffing (fixedLengthFormat m.cfg.dataId) u) ∧ (∀ u ∈ us, u.id ≠ 0xFF)
      ∧ unitsLines us = some (sent mask lines) ∧ FieldsAscend false us := by
  obtain ⟨pes, hg, hpes, _⟩ := feed_accepted m lines mask pts hok
  obtain ⟨us, st, h1, h2, h3, h4, h5⟩ := generatePes_fields m.cfg hc lines mask pts hwf hnr pes hg
  exact ⟨pes, us, st, hg, fun hp => (hpes hp).1, h1, h2, h3, h4, h5⟩

/-- non-vacuity: a frame with undefined lines on both fields is accepted; and `FieldsAscend` is exactly what the
counterexample `lostOps` (with its raw line request) breaks: second field (0xC7), then first field (0xE0) -/
example : (feed newPes [exLine 3 7 1, exLine 3 0 2, exLine 3 320 3, exLine 3 0 4] 3 5 0).2.ok = true := by decide +kernel
example : ((parseUnits (((run newPes lostOps).2.1.take 184).drop 46)).map fun us => decide (FieldsAscend false (us.take 2)))
    = some Zvbi.Gen.muxSegLastLine := by decide +kernel
example : ((parseUnits (((run newPes keptOps).2.1.take 184).drop 46)).map fun us => decide (FieldsAscend false (us.take 2)))
    = some true := by decide +kernel

end Zvbi.Props.C06Undef
