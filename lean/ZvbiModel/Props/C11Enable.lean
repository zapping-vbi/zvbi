import ZvbiModel.Ev.Enable
import ZvbiModel.Ev.Model
import ZvbiModel.Util.Bits
/-!
# C11, side effects of `vbi_event_enable`: enabling an event class resets exactly the state of that
class and nothing else

The program of `vbi_event_enable` is regenerated from src/vbi.c on every run
(`Generated/EvEnable.lean`); the statements below are about that program, so an edit of the function
(another `prog_info` index, a dropped or an added assignment, another event set in a condition) makes
this file fail to check.
-/
namespace Zvbi.Props.C11Enable
open Zvbi.Ev.Enable Zvbi.Gen.Ev

/-- the bits of the event class `cls` that are requested now and were not requested before:
`mask & ~vbi->event_mask & cls` (32 bit) -/
def gained (cls old new : Nat) : Nat := (new &&& (M32 ^^^ old)) &&& cls

/-- network identification: VBI_EVENT_NETWORK and VBI_EVENT_NETWORK_ID -/
def NET : Nat := VBI_EVENT_NETWORK ||| VBI_EVENT_NETWORK_ID
/-- program information: VBI_EVENT_ASPECT and VBI_EVENT_PROG_INFO -/
def PROG : Nat := VBI_EVENT_ASPECT ||| VBI_EVENT_PROG_INFO

/-- The specification: which locations `vbi_event_enable (vbi, new)` resets when `vbi->event_mask = old`.
A single-event service is reset when its event becomes requested; the network state when NETWORK or
NETWORK_ID becomes requested (also when the other one already was); the program information only when
neither ASPECT nor PROG_INFO was requested before (a second consumer must not erase what the first one is
being told about); everything else never. -/
def resets (old new : Nat) : Loc → Bool
  | .ttx => gained VBI_EVENT_TTX_PAGE old new != 0
  | .caption => gained VBI_EVENT_CAPTION old new != 0
  | .network | .cniCycle | .cniAnnounced => gained NET old new != 0
  | .triggers => gained VBI_EVENT_TRIGGER old new != 0
  | .progInfo0 | .progInfo1 | .future0 | .future1 | .aspectSource =>
      gained PROG old new != 0 && old &&& PROG == 0
  | .vpsPid => gained VBI_EVENT_PROG_ID old new != 0
  | .rest => false

/-- the value a location has after its reset: `prog_info[1]` describes the *next* programme
(`future = TRUE`), everything else is cleared -/
def resetVal : Loc → Nat
  | .future1 => 1
  | _ => 0

/-- **Enabling resets exactly the documented state.**  For every decoder state, every old and new event mask
and every location: after `vbi_event_enable` the location holds its reset value if the specification says
its class became requested, and otherwise exactly what it held before. -/
theorem enable_resets_exactly (d : Dec) (old new : Nat) (l : Loc) :
    (enable d old new).1 l = if resets old new l then resetVal l else d l := by
  have put_apply : ∀ (d : Dec) (a : Loc) (v : Nat) (b : Loc), put d a v b = if b = a then v else d b :=
    fun _ _ _ _ => rfl
  have run_apply : ∀ (act : Nat) (d : Dec) (b : Zvbi.Gen.EvEnable.Branch) (x : Loc),
      runBranch old act d b x
        = if act &&& b.act ≠ 0 ∧ old &&& b.guard = 0 then (b.body.foldl exec1 d) x else d x := by
    intro act d b x; unfold runBranch; split <;> rfl
  -- every statement is a `put`, so at a given location the program is a chain of conditionals, one per branch; a
  -- location is written by one branch only, whose condition is the location's clause in `resets`
  cases l <;>
    simp [enable, Zvbi.Gen.EvEnable.program, List.foldl, run_apply, exec1, put_apply, resets, gained, resetVal,
      NET, PROG, VBI_EVENT_TTX_PAGE, VBI_EVENT_CAPTION, VBI_EVENT_NETWORK, VBI_EVENT_NETWORK_ID,
      VBI_EVENT_TRIGGER, VBI_EVENT_ASPECT, VBI_EVENT_PROG_INFO, VBI_EVENT_PROG_ID]

example : (enable planted 0 0x40).1 .progInfo1 = 0 ∧ (enable planted 0 0x40).1 .future1 = 1
    ∧ (enable planted 0 0x40).1 .future0 = 0 ∧ (enable planted 0 0x40).1 .vpsPid = 7 := by decide
example : (enable planted 0x80 0xc0).1 .progInfo1 = 7 := by decide

/-- the new event mask is the argument -/
theorem enable_stores_mask (d : Dec) (old new : Nat) : (enable d old new).2 = new := rfl

/-- **... and nothing else.**  A location whose value differs after the call is one the specification
resets; in particular the rest of the decoder (`Loc.rest`) is never written. -/
theorem enable_touches_nothing_else (d : Dec) (old new : Nat) (l : Loc)
    (h : (enable d old new).1 l ≠ d l) : resets old new l = true := by
  rw [enable_resets_exactly] at h
  cases hr : resets old new l
  · simp [hr] at h
  · rfl

theorem enable_rest_untouched (d : Dec) (old new : Nat) : (enable d old new).1 .rest = d .rest := by
  rw [enable_resets_exactly]; simp [resets]

example : ∃ d old new l, (enable d old new).1 l ≠ d l := ⟨planted, 0, 2, .ttx, by decide⟩

theorem gained_flag (cls a old new : Nat) :
    (if new &&& (Zvbi.Ev.M32 ^^^ old) &&& cls ≠ 0 then a else 0) = if gained cls old new != 0 then a else 0 := by
  show _ = if new &&& (Zvbi.Ev.M32 ^^^ old) &&& cls != 0 then a else 0
  by_cases h : new &&& (Zvbi.Ev.M32 ^^^ old) &&& cls = 0 <;> simp [h]

theorem gained_flag_guarded (cls g a old new : Nat) :
    (if new &&& (Zvbi.Ev.M32 ^^^ old) &&& cls ≠ 0 ∧ old &&& g = 0 then a else 0)
      = if gained cls old new != 0 && old &&& g == 0 then a else 0 := by
  show _ = if new &&& (Zvbi.Ev.M32 ^^^ old) &&& cls != 0 && old &&& g == 0 then a else 0
  simp

/-- The reset flags logged with every registration call in the histories of `Props/C11` (`Entry.enable mask
flags`, model `Zvbi.Ev.enableFlags`, compared with the sentinels of the harness on every API call) are a
summary of this specification: bit k is set iff the k-th service is reset. -/
theorem enableFlags_summarises (old new : Nat) :
    Zvbi.Ev.enableFlags old new
      = (if resets old new .ttx then 1 else 0) + (if resets old new .caption then 2 else 0)
        + (if resets old new .network then 4 else 0) + (if resets old new .triggers then 8 else 0)
        + (if resets old new .progInfo1 then 16 else 0) + (if resets old new .vpsPid then 32 else 0) := by
  simp only [Zvbi.Ev.enableFlags, gained_flag, gained_flag_guarded]
  rfl

example : Zvbi.Ev.enableFlags 0 0xc2 = 17 := by decide

theorem testBit_M32 (i : Nat) : M32.testBit i = decide (i < 32) := by
  have h : M32 = 2 ^ 32 - 1 := by decide
  rw [h, Nat.testBit_two_pow_sub_one]

/-- What `gained` means bit by bit: some event of the class is requested now and was not before. -/
theorem gained_iff (cls old new : Nat) (hc : cls < 2 ^ 32) :
    gained cls old new ≠ 0 ↔ ∃ i, cls.testBit i = true ∧ new.testBit i = true ∧ old.testBit i = false := by
  have h32 : ∀ i, cls.testBit i = true → i < 32 := by
    intro i hcl
    rcases Nat.lt_or_ge i 32 with h32 | h32
    · exact h32
    · rw [Bits.testBit_of_lt hc h32] at hcl
      cases hcl
  constructor
  · intro h
    obtain ⟨i, hi⟩ := Nat.exists_testBit_of_ne_zero h
    simp only [gained, Nat.testBit_and, Nat.testBit_xor, testBit_M32, Bool.and_eq_true] at hi
    obtain ⟨⟨hn, ho⟩, hcl⟩ := hi
    refine ⟨i, hcl, hn, ?_⟩
    cases hob : old.testBit i
    · rfl
    · simp [hob, h32 i hcl] at ho
  · rintro ⟨i, hcl, hn, ho⟩ h0
    have : (gained cls old new).testBit i = true := by
      simp only [gained, Nat.testBit_and, Nat.testBit_xor, testBit_M32, hcl, hn, ho, h32 i hcl]; decide
    simp [h0] at this

/-- Registering without a change of the union resets nothing: `vbi_event_enable (vbi, vbi->event_mask)`
leaves every location as it was (masks are C `int`s: 32 bit). -/
theorem enable_same_mask_resets_nothing (d : Dec) (m : Nat) (hm : m < 2 ^ 32) (l : Loc) :
    (enable d m m).1 l = d l := by
  have hz : ∀ cls, gained cls m m = 0 := by
    intro cls
    apply Nat.eq_of_testBit_eq
    intro i
    simp only [gained, Nat.testBit_and, Nat.testBit_xor, testBit_M32, Nat.zero_testBit]
    by_cases h32 : i < 32
    · simp [h32]
    · simp [Bits.testBit_of_lt hm (Nat.le_of_not_lt h32)]
  rw [enable_resets_exactly]
  cases l <;> simp [resets, hz]

end Zvbi.Props.C11Enable
