import ZvbiModel.Slicer.BufModel
import ZvbiModel.Slicer.BufLemmas
import ZvbiModel.Slicer.BufSpec
import ZvbiModel.Slicer.LemmasRows
import ZvbiModel.Generated.SlicerLegacy
import ZvbiModel.Props.C05
/-!
# C05, second part - the public bit slicer entry points: output buffer, points array, accepted parameters

`vbi3_bit_slicer_slice (bs, buffer, buffer_size, raw)` and `vbi3_bit_slicer_slice_with_points (...)` are what a
direct user of the bit slicer calls (the raw decoder calls them with `sizeof (sliced->data)`).  The model is
`Slicer/BufModel.lean`.  `Guard.bits` is the `buffer_size` test of zvbi 0.2.x as released, `Guard.bytes` the one
of `fixes/C05-slice-buffer-size.diff`; `bounded` selects the CRI points of `fixes/C05-points-bound.diff`.  Which
ones /repo contains is `Generated.SlicerGuard` (measured on the compiled code by `translate/gen_slicerguard.py`,
checked again by the `bslice` correspondence ops on every run).  For the released versions the full statements
are FALSE (`*_counterexample`, replayed on the C code by `corpus/C05/buffer-guard-*.ops`, `F17-*.ops`).
-/
namespace Zvbi.Props.C05Buf
open Zvbi.Slicer Zvbi.Generated.ServiceTable

/-! ## the output buffer -/

/-- REPAIRED `buffer_size` test, every parameter set `set_params` accepts (released or repaired search limit),
    every `buffer_size`, every image: `vbi3_bit_slicer_slice` either refuses - exactly when the buffer is smaller
    than the payload, rounded up to bytes - or stores nothing (CRI / FRC not found) or stores exactly the bytes
    `0 .. ceil (payload_bits / 8) - 1`, every one of them at an index `< buffer_size`.
    Hypothesis `hp`: a low-pass configuration has a non-empty payload (see `lowpass_zero_payload_counterexample`). -/
theorem slice_writes_within_buffer (tight : Bool) (p : Params) (c : Cfg) (h : setParams tight p = .ok c)
    (hp : c.kind = .lowpass → 0 < p.payloadBits) (bufferSize : Nat) (oc : Outcome) :
    let r := slice .bytes c bufferSize oc
    (r.refused = true ↔ bufferSize < (p.payloadBits + 7) / 8) ∧
    (r.refused = true → r.writes = [] ∧ r.ret = false) ∧
    (∀ i ∈ r.writes, i < bufferSize) ∧
    (r.refused = false → r.writes = match oc with
      | .found _ => List.range ((p.payloadBits + 7) / 8)
      | _ => []) := by
  have hb := payloadBytes_eq h
  have hw := payloadWrites_eq h hp
  intro r
  cases hg : guardRefuses .bytes c bufferSize with
  | true =>
    have hr : r = { refused := true, ret := false, writes := [] } := slice_refused oc hg
    have hlt : payloadBytes c > bufferSize := by simpa [guardRefuses] using hg
    rw [hr]
    exact ⟨⟨(fun _ => by omega), (fun _ => rfl)⟩, (fun _ => ⟨rfl, rfl⟩), (by simp), (by simp)⟩
  | false =>
    have hr := slice_passed (g := .bytes) (c := c) (b := bufferSize) oc hg
    have hge : ¬ (payloadBytes c > bufferSize) := by simpa [guardRefuses] using hg
    cases oc with
    | found k =>
      have hr' : r = { refused := false, ret := true, writes := payloadWrites c } := hr
      rw [hr']
      refine ⟨⟨(fun hh => by cases hh), (fun _ => by omega)⟩, (fun hh => by cases hh), ?_, (fun _ => by rw [hw, hb])⟩
      intro i hi
      simp only at hi
      rw [hw] at hi; have := List.mem_range.1 hi; omega
    | noCri | frcFail k =>
      have hr' : r = { refused := false, ret := false, writes := [] } := hr
      rw [hr']
      exact ⟨⟨(fun hh => by cases hh), (fun _ => by omega)⟩, (fun hh => by cases hh), (by simp), (fun _ => rfl)⟩

example : (slice .bytes Spec.teletextB_13_5_tight 42 (.found 32)).writes.length = 42 ∧
    (slice .bytes Spec.teletextB_13_5_tight 41 (.found 32)).refused = true := by decide +kernel

/-- The statement for the RELEASED test, kept visible; refuted below. -/
def slice_writes_within_buffer_released_full : Prop :=
  ∀ (p : Params) (c : Cfg), setParams true p = .ok c → p.Sane → ∀ (bufferSize : Nat) (oc : Outcome),
    ∀ i ∈ (slice .bits c bufferSize oc).writes, i < bufferSize

/-- The released test `bs->payload > buffer_size * 8` compares BYTES with bits in octet mode: Teletext B
    (336 payload bits, `bs->payload = 42`, `endian = 1`) with `buffer_size = 6` passes (42 <= 48), the call
    succeeds and stores 42 bytes - byte 41 of a 6 byte buffer.  Replayed on the C code by
    corpus/C05/buffer-guard-teletext-b-6bytes.ops (ASan: heap-buffer-overflow WRITE of size 1, 0 bytes to the right
    of the 6 byte region, `bit_slicer_Y8` called from `vbi3_bit_slicer_slice`). -/
theorem slice_buffer_guard_counterexample : ¬ slice_writes_within_buffer_released_full := by
  intro hfull
  have h := hfull Spec.teletextB_13_5 Spec.teletextB_13_5_tight Spec.teletextB_13_5_tight_ok
    Spec.teletextB_13_5_sane 6 (.found 32) 41 (by decide +kernel)
  exact absurd h (by decide)

/-- Released test, PARTIAL: it is sound in the bit modes (payload not a whole number of octets), as long as
    `buffer_size * 8` does not wrap the `unsigned int` - there `bs->payload` really counts bits. -/
theorem slice_writes_within_buffer_released_partial (tight : Bool) (p : Params) (c : Cfg) (h : setParams tight p = .ok c)
    (hbit : p.payloadBits % 8 ≠ 0) (bufferSize : Nat) (hnw : bufferSize * 8 < U32) (oc : Outcome) :
    ∀ i ∈ (slice .bits c bufferSize oc).writes, i < bufferSize := by
  obtain ⟨h1, h2⟩ := setParams_payload h
  have hw := payloadWrites_eq h (fun _ => by omega)
  have hb := payloadBytes_eq h
  rcases payloadOf_cases p with ⟨_, e1, e2⟩ | ⟨h8, _, _⟩
  · have hmod : bufferSize * 8 % U32 = bufferSize * 8 := Nat.mod_eq_of_lt hnw
    cases hg : guardRefuses .bits c bufferSize with
    | true => rw [slice_refused oc hg]; simp
    | false =>
      have hge : ¬ (c.payload > bufferSize * 8) := by simpa [guardRefuses, hmod] using hg
      rw [slice_passed oc hg]
      cases oc with
      | found k =>
        intro i hi
        simp only at hi
        rw [hw, hb] at hi
        have := List.mem_range.1 hi
        rw [h1, e1] at hge
        omega
      | noCri | frcFail k => simp
  · exact absurd h8 hbit

example : (setParams true Spec.bitMode13).toOption.map (fun c => (c.endian, c.payload, (slice .bits c 1 (.found 0)).refused,
    (slice .bits c 2 (.found 0)).writes)) = some (3, 13, true, [0, 1]) := by decide +kernel

/-- What the raw decoder passes: for every service table row (regenerated from src/raw_decoder.c), every pixel
    format, sampling rate and line length `set_params` accepts, `slice (..., sliced->data, sizeof (sliced->data), ...)`
    is never refused and stores only inside the 56 byte `data` array of the `vbi_sliced` record - with the released
    `buffer_size` test as well as with the repaired one (the defect needs a caller with a smaller buffer). -/
theorem rows_slice_within_record (r : Row) (hr : r ∈ usableRows) (fmt : Fmt) (rate spl : Nat) (tight : Bool) (c : Cfg)
    (h : setParams tight (rowParams r fmt rate spl) = .ok c) (g : Guard) (oc : Outcome) :
    (slice g c slicedDataSize oc).refused = false ∧ ∀ i ∈ (slice g c slicedDataSize oc).writes, i < slicedDataSize := by
  have hpos := (rows_sane r hr).payload_pos
  have hfit := (rows_sane r hr).bytes
  have hbits := (rows_sane r hr).bits
  have hb : payloadBytes c = (r.payload + 7) / 8 := payloadBytes_eq h
  have hw := payloadWrites_eq h (fun _ => hpos)
  obtain ⟨h1, h2⟩ := setParams_payload h
  have hsz : slicedDataSize * 8 < U32 := by decide
  have hle : (r.payload + 7) / 8 ≤ slicedDataSize := by
    by_cases h8 : r.payload % 8 ≠ 0
    · rw [if_pos h8] at hfit; omega
    · rw [if_neg h8] at hfit; omega
  have hg : guardRefuses g c slicedDataSize = false := by
    cases g with
    | bytes => simp only [guardRefuses, decide_eq_false_iff_not]; omega
    | bits =>
      simp only [guardRefuses, decide_eq_false_iff_not, Nat.mod_eq_of_lt hsz]
      rw [h1]
      rcases payloadOf_cases (rowParams r fmt rate spl) with ⟨_, e1, _⟩ | ⟨_, e1, _⟩
      · rw [e1]; show ¬ (r.payload > slicedDataSize * 8); omega
      · rw [e1]; show ¬ (r.payload / 8 > slicedDataSize * 8); omega
  rw [slice_passed oc hg]
  cases oc with
  | found k =>
    refine ⟨rfl, ?_⟩
    intro i hi
    have hi' : i ∈ payloadWrites c := hi
    rw [hw, hb] at hi'
    have := List.mem_range.1 hi'
    omega
  | noCri | frcFail k => exact ⟨rfl, by simp⟩

example : Spec.rowTeletextB ∈ usableRows ∧ (Spec.rowTeletextB.payload + 7) / 8 = 42 ∧ slicedDataSize = 56 := by decide

/-! ## the points array of `vbi3_bit_slicer_slice_with_points` -/

/-- REPAIRED points limit: for every accepted parameter set, every `max_points`, every image (any outcome, any
    sequence of clock ticks): `vbi3_bit_slicer_slice_with_points` refuses when `max_points < total_bits`, and
    otherwise every element of `points[]` it stores has an index `< max_points`, and so has `*n_points`. -/
theorem points_within_max (tight : Bool) (p : Params) (c : Cfg) (h : setParams tight p = .ok c) (maxPoints : Nat)
    (collects : Bool) (oc : Outcome) (ticks : List Bool) :
    let r := slicePoints true c (p.criBits + p.frcBits + p.payloadBits) maxPoints collects oc ticks
    (r.refused = true ↔ maxPoints < p.criBits + p.frcBits + p.payloadBits) ∧
    (∀ i ∈ r.writes, i < maxPoints) ∧ r.nPoints ≤ maxPoints := by
  have hn := nBits_accepted h
  have hfrc : c.frcBits ≤ c.nBits := by unfold Cfg.nBits nBitsOf; omega
  intro r
  by_cases hg : p.criBits + p.frcBits + p.payloadBits > maxPoints
  · have hr : r = { refused := true, nPoints := 0, writes := [] } := by simp only [r, slicePoints, hg, if_true]
    rw [hr]
    exact ⟨⟨(fun _ => by omega), (fun _ => rfl)⟩, (by simp), Nat.zero_le _⟩
  · cases collects with
    | false =>
      have hr : r = { refused := false, nPoints := 0, writes := [] } := by
        simp only [r, slicePoints, hg, if_false, Bool.not_false, if_true]
      rw [hr]
      exact ⟨⟨(fun hh => by cases hh), (fun _ => by omega)⟩, (by simp), Nat.zero_le _⟩
    | true =>
      -- at most `max_points - data_bits` CRI points, then one point per bit
      have hl := criPoints_idx_le_limit (maxPoints - c.nBits) ticks
      have hr := slicePoints_collects true c (p.criBits + p.frcBits + p.payloadBits) maxPoints oc ticks hg
      simp only [if_true] at hr
      rw [show r = _ from hr]
      cases oc <;>
        exact ⟨⟨(fun hh => by cases hh), (fun _ => by omega)⟩, (fun i hi => by have := List.mem_range.1 hi; omega),
          (by simp only; omega)⟩

example : (slicePoints true Spec.teletextB_13_5_tight 360 360 true (.found 5) (List.replicate 20 true)).writes.length = 18 + 342 ∧
    (slicePoints false Spec.teletextB_13_5_tight 360 360 true (.found 5) (List.replicate 20 true)).writes.length = 20 + 342 := by
  rw [slicePoints_collects _ _ _ _ _ _ (by decide), slicePoints_collects _ _ _ _ _ _ (by decide)]
  simp only [List.length_range, Bool.false_eq_true, if_false, if_true, criPoints_none_idx]
  decide

/-- The statement for the RELEASED code (only `total_bits <= max_points` is checked), kept visible; refuted below. -/
def points_within_max_released_full : Prop :=
  ∀ (p : Params) (c : Cfg), setParams true p = .ok c → p.Sane → ∀ (maxPoints : Nat) (oc : Outcome) (ticks : List Bool),
    TicksAdmissible c oc ticks →
    ∀ i ∈ (slicePoints false c (p.criBits + p.frcBits + p.payloadBits) maxPoints true oc ticks).writes, i < maxPoints

/-- F17: the CRI search stores one point per recovered clock tick of the whole search window.  Teletext B at
    13.5 MHz with 2048 samples per line searches 1382 samples = 5528 `CRI()` invocations; a signal near the CRI
    frequency yields a tick every 8 invocations - 691 points in the 512 element array the raw decoder supplies
    (`_vbi3_raw_decoder_sp_line.points`).  Replayed on the C code by corpus/C05/F17-points-square-wave.ops (690
    points observed) and, under ASan, corpus/C05/extra/F17-debug-points.c. -/
theorem points_within_max_counterexample : ¬ points_within_max_released_full := by
  intro hfull
  let ticks : List Bool := (List.range 5528).map (fun n => n % 8 == 0)
  have hadm : TicksAdmissible Spec.teletextB_2048_cfg .noCri ticks := by
    show ticks.length = oversampling Spec.teletextB_2048_cfg * Spec.teletextB_2048_cfg.criSamples
    simp only [ticks, List.length_map, List.length_range]; rfl
  have h := hfull Spec.teletextB_2048 Spec.teletextB_2048_cfg Spec.teletextB_2048_ok Spec.teletextB_2048_sane
    512 .noCri ticks hadm 600
  have hcount : ticks.count true = 691 := by decide +kernel
  have hmem : 600 ∈ (slicePoints false Spec.teletextB_2048_cfg
      (Spec.teletextB_2048.criBits + Spec.teletextB_2048.frcBits + Spec.teletextB_2048.payloadBits) 512 true .noCri ticks).writes := by
    rw [slicePoints_collects false _ _ _ _ _ (by decide)]
    simp only [Bool.false_eq_true, if_false, criPoints_none_idx, hcount]
    exact List.mem_range.2 (by omega)
  exact absurd (h hmem) (by omega)

/-- What does hold for the RELEASED code, every image: at most one point per `CRI()` invocation, so an array of
    `oversampling * cri_samples + frc_bits + payload_bits` elements is never overrun (4 * cri_samples for the
    template slicer, cri_samples for the low-pass slicer). -/
theorem points_bound_released (c : Cfg) (totalBits maxPoints : Nat)
    (collects : Bool) (oc : Outcome) (ticks : List Bool) (ht : TicksAdmissible c oc ticks) :
    ∀ i ∈ (slicePoints false c totalBits maxPoints collects oc ticks).writes,
      i < oversampling c * c.criSamples + c.nBits := by
  have hfrc : c.frcBits ≤ c.nBits := by unfold Cfg.nBits nBitsOf; omega
  by_cases hg : totalBits > maxPoints
  · simp [slicePoints, hg]
  · cases collects with
    | false => simp [slicePoints, hg]
    | true =>
      -- at most one CRI point per tick, and the search stops inside iteration `k`
      have hl := criPoints_idx_le_length none ticks
      rw [slicePoints_collects _ _ _ _ _ _ hg]
      simp only [Bool.false_eq_true, if_false]
      unfold TicksAdmissible at ht
      cases oc with
      | noCri => intro i hi; have := List.mem_range.1 hi; simp only at ht; omega
      | frcFail k | found k =>
        intro i hi
        have := List.mem_range.1 hi
        simp only at ht
        have : oversampling c * (k + 1) ≤ oversampling c * c.criSamples := Nat.mul_le_mul_left _ ht.1
        omega

example : oversampling Spec.teletextB_2048_cfg * Spec.teletextB_2048_cfg.criSamples + Spec.teletextB_2048_cfg.nBits = 5870 := by decide

/-- `vbi3_bit_slicer_slice_with_points` reads only inside the line (repaired search limit), in all three of its
    branches: low-pass function, other function without points, and the Y8 template expanded in place with the
    constants `bpp = 1`, one byte per sample - which agree with the configured state because `set_params`
    selects `bit_slicer_Y8` for the Y8 format only. -/
theorem with_points_reads_in_line (p : Params) (c : Cfg) (h : setParams true p = .ok c) (hf : p.fmt.WF) (hb : p.fmt.bpp ≤ 4)
    (oc : Outcome) (hoc : oc.admissible c) : ∀ x ∈ withPointsReads p c oc, x < p.spl * p.fmt.bpp := by
  have hg := geom_accepted h hf hb
  have base := C05.payload_reads_in_line p c h hf hb oc hoc
  rw [hg.bpp] at base
  unfold withPointsReads
  by_cases hy : c.kind = .core ∧ p.fmt = fmtY8
  · have e1 : c.bpp = 1 := by rw [hg.bpp, hy.2]; rfl
    have e2 : c.width = 1 := by rw [hg.width, hy.2]; rfl
    have : ({ c with bpp := 1, width := 1 } : Cfg) = c := by cases c; simp_all
    rw [if_pos hy, this]
    exact base
  · rw [if_neg hy]
    exact base

/-- the in-place expansion is entered for YUV420 (Y8) only: no other `vbi_pixfmt` maps to the Y8 slicer facts -/
example : ∀ t ∈ pixfmts, fmtOfName t.1 = some fmtY8 → t.1 = "YUV420" := by decide

/-! ## which parameters `set_params` accepts (the caller obligations `Params.Sane`) -/

/-- `vbi3_bit_slicer_set_params` does NOT reject what `Params.Sane` excludes: each obligation is violated by a
    parameter set the repaired function accepts - no payload, no CRI bits, `cri_end` equal to and below
    `sample_offset`.  (So "accepted implies Sane" is false; what reaches `set_params` from the raw decoder is Sane:
    `C05.rows_sane_params`.) -/
theorem acceptance_does_not_imply_sane :
    ((setParams true Spec.caption525_27_empty).toOption.map (fun c => (c.kind, c.payload)) = some (.lowpass, 0)) ∧
    ((setParams true { Spec.teletextB_13_5 with criBits := 0 }).toOption.isSome = true) ∧
    ((setParams true { Spec.caption525_27 with criEnd := 0 }).toOption.map (fun c => (c.kind, c.criSamples)) = some (.lowpass, 0)) ∧
    ((setParams true { Spec.teletextB_13_5 with offset := 10, criEnd := 3 }).toOption.map (·.criSamples) = some 44) := by
  decide +kernel

/-- `cri_end < sample_offset` (excluded by `Params.Sane.criEnd`) is harmless with the repaired search limit: the
    unsigned difference `cri_end - sample_offset` wraps to almost 2^32 and is then clamped by the look-ahead limit,
    i.e. `cri_end` is ignored; the search has at least one position.  (With the released limit it stays wrapped:
    `example` below.) -/
theorem cri_end_below_offset_clamped (p : Params) (c : Cfg) (h : setParams true p = .ok c)
    (hnw : criSamples0 p + dataSamples p < U32) (hlt : p.criEnd < p.offset) :
    c.criSamples = p.spl - p.offset - lookAhead c.kind c.phaseShift c.step c.nBits ∧ 0 < c.criSamples := by
  obtain ⟨c0, h0, hcs, hla⟩ := tight_ok h
  obtain ⟨hfit, hcs0⟩ := criSamples_eq h0 hnw
  rw [if_neg (by omega)] at hcs0
  have hspl := (setParams0_iff.1 h0).spl
  have hU : U32 = 4294967296 := rfl
  -- the wrapped difference is almost 2^32, far above any line length
  rw [hcs, hcs0, Nat.min_eq_right (by omega)]
  exact ⟨rfl, by omega⟩

example : (setParams false { Spec.teletextB_13_5 with offset := 10, criEnd := 3 }).toOption.map (·.criSamples) = some 4294967289 := by
  decide +kernel

/-- `payload_bits = 0` (excluded by `Params.Sane.payloadBits`) is accepted, selects octet mode with `bs->payload = 0`,
    passes the (repaired) `buffer_size` test for ANY buffer - and the `do { ... } while (--j > 0)` loops of
    `low_pass_bit_slicer_Y8` then run 2^32 times: 2^32 bytes stored through `buffer`.  The template slicers use
    `for (j = bs->payload; j > 0; --j)` and store nothing.  Not reachable from the raw decoder (`rows_sane_params`:
    every table row has a payload); a direct API user must not pass it. -/
theorem lowpass_zero_payload_counterexample :
    ∃ c, setParams true Spec.caption525_27_empty = .ok c ∧ c.kind = .lowpass ∧
      (slice .bytes c 0 (.found 0)).refused = false ∧ (slice .bytes c 0 (.found 0)).writes.length = U32 := by
  have hg : guardRefuses .bytes Spec.caption525_27_empty_cfg 0 = false := by decide +kernel
  refine ⟨_, Spec.caption525_27_empty_ok, rfl, ?_, ?_⟩
  · rw [slice_passed _ hg]
  · rw [slice_passed _ hg]
    simp only
    rw [payloadWrites_lowpass_octet _ rfl (by decide), List.length_range]
    rfl

example : payloadWrites { Spec.caption525_27_empty_cfg with kind := .core } = [] := by decide +kernel

/-! ## the legacy slicer of decoder.c: the search limit for EVERY line length

`vbi_bit_slicer_init` has no failure path; `slicer->cri_bytes` (an `int`) becomes the `unsigned` trip count of the CRI
search loop.  `Generated.SlicerLegacy.legacyClamp` is the block of statements that limits it, translated from the current
src/decoder.c by `translate/gen_slicerlegacy.py`; the theorems below are about that regenerated expression. -/

set_option linter.unusedSimpArgs false in
-- `legacyClamp` is generated text: the proof splits whatever conditionals it has and must not depend on their shape
/-- The clamp block as written in /repo computes exactly the clamp of the hand-written model (`legacyInit true`):
    `max 0 (min cri_bytes (raw_samples - look_ahead))` - for all integers. -/
theorem legacy_clamp_agrees (raw la cb : Int) :
    Zvbi.Generated.SlicerLegacy.legacyClamp raw la cb = max 0 (min cb (raw - la)) := by
  simp only [Zvbi.Generated.SlicerLegacy.legacyClamp, Bool.not_eq_true', Bool.and_eq_true, decide_eq_true_eq,
    decide_eq_false_iff_not, Bool.or_eq_true]
  repeat' split
  all_goals omega

example : Zvbi.Generated.SlicerLegacy.legacyClamp 720 709 (720 - 665) = 11 := by decide

/-- For EVERY `raw_samples`, `data_samples` and `look_ahead` (all integers - every service, sampling rate and line
    length, not only the line lengths the raw decoder passes): the trip count `vbi_bit_slicer_init` leaves is never
    negative (so the unsigned loop counter never wraps), at most `raw_samples - data_samples` (or 0), and at most
    `raw_samples - look_ahead` (or 0).  In particular a line too short for the service (`raw_samples < data_samples`,
    whatever its relation to `look_ahead`) gives 0: the slicer finds nothing and reads nothing. -/
theorem legacy_cri_bytes_in_range (raw ds la : Int) :
    0 ≤ Zvbi.Generated.SlicerLegacy.legacyClamp raw la (raw - ds) ∧
    Zvbi.Generated.SlicerLegacy.legacyClamp raw la (raw - ds) ≤ max 0 (raw - ds) ∧
    Zvbi.Generated.SlicerLegacy.legacyClamp raw la (raw - ds) ≤ max 0 (raw - la) ∧
    (raw < ds → Zvbi.Generated.SlicerLegacy.legacyClamp raw la (raw - ds) = 0) := by
  rw [legacy_clamp_agrees]; omega

/-- Caption 625 at 13.5 MHz, 480 samples: `data_samples` 486 > 480 >= `look_ahead` 475 - the band in which a clamp that
    only looks at `raw_samples - look_ahead` would leave -6 -/
example : Zvbi.Generated.SlicerLegacy.legacyClamp 480 475 (480 - 486) = 0 := by decide

/-- The same for the configured legacy slicer of the model, every parameter set (every table row is one): the model's
    `cri_bytes` IS the regenerated clamp applied to the model's `look_ahead` and `data_samples`, hence within
    `0 .. max 0 (raw_samples - data_samples)`; the unsigned trip count equals it (`raw_samples` is an `int`). -/
theorem legacy_init_cri_bytes_in_range (p : LParams) :
    (legacyInit true p).criBytes =
      Zvbi.Generated.SlicerLegacy.legacyClamp p.rawSamples
        ((lastBitSample (legacyInit true p).phaseShift (legacyInit true p).step (legacyInit true p).nBits + 1 : Nat) : Int)
        ((p.rawSamples : Int) - ((p.rate * (p.payloadBits + p.frcBits) / p.bitRate : Nat) : Int)) ∧
    0 ≤ (legacyInit true p).criBytes ∧
    (legacyInit true p).criBytes ≤ max 0 ((p.rawSamples : Int) - ((p.rate * (p.payloadBits + p.frcBits) / p.bitRate : Nat) : Int)) ∧
    (p.rawSamples < 2147483648 → ((legacyInit true p).iterations : Int) = (legacyInit true p).criBytes) := by
  have e : (legacyInit true p).criBytes =
      Zvbi.Generated.SlicerLegacy.legacyClamp p.rawSamples
        ((lastBitSample (legacyInit true p).phaseShift (legacyInit true p).step (legacyInit true p).nBits + 1 : Nat) : Int)
        ((p.rawSamples : Int) - ((p.rate * (p.payloadBits + p.frcBits) / p.bitRate : Nat) : Int)) := by
    rw [legacy_clamp_agrees, legacyInit_criBytes]
  have r := legacy_cri_bytes_in_range p.rawSamples ((p.rate * (p.payloadBits + p.frcBits) / p.bitRate : Nat) : Int)
    ((lastBitSample (legacyInit true p).phaseShift (legacyInit true p).step (legacyInit true p).nBits + 1 : Nat) : Int)
  rw [← e] at r
  refine ⟨e, r.1, r.2.1, ?_⟩
  intro hraw
  have hle : (legacyInit true p).criBytes ≤ (p.rawSamples : Int) := by
    have := r.2.1
    have h0 : (0 : Int) ≤ ((p.rate * (p.payloadBits + p.frcBits) / p.bitRate : Nat) : Int) := Int.natCast_nonneg _
    omega
  unfold LCfg.iterations
  have h1 := r.1
  have hU : (U32 : Int) = 4294967296 := rfl
  rw [hU]
  omega

example : (legacyInit true { Spec.legacyTeletextB_13_5 with rawSamples := 480 }).criBytes = 0 := by decide +kernel


end Zvbi.Props.C05Buf
