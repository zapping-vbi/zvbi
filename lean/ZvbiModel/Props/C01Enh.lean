import ZvbiModel.Dec.TopNavLemmas
import ZvbiModel.Dec.ConvertLemmas
import ZvbiModel.Enh.ObjRefLemmas
import ZvbiModel.Log
/-!
# C01 - obligations of the Level 2.5 / 3.5 object machinery and of TOP navigation

Four places where the decoder relies on an arithmetic or book-keeping fact that two distant pieces of code must
agree on.  Each fact is regenerated from the current source by translate/gen_c01.py
(`Generated/C01Facts.lean`), so the statements below are about the code as it is now:

1. `add_modulo()` keeps every page number of the TOP navigation scans inside 0x100 ... 0x8FF
   (`cache_network_page_stat` asserts that range and indexes `_pages[]` with it);
2. `vbi_convert_page()` reads nothing behind the (truncated) cached page it converts
   (`cache_page_size()` decides how many bytes exist);
3. `resolve_obj_address()` / `enhance()` / `default_object_invocation()` release every cache page reference they take,
   on every path, for arbitrary (also cyclic) object graphs - nothing is left referenced when the fetch returns;
4. the pointer table index and the object's triplet range stay inside `pop.pointer[]` / `pop.triplet[]`.
-/
namespace Zvbi.Props.C01Enh
open Zvbi.Gen.C01 Zvbi.Generated.Enh

/-! ## 1. add_modulo / TOP navigation -/
section TopNav
open Zvbi.Dec.TopNav

/-- the general form the code relies on: for EVERY `int` page number and EVERY increment the
result of the current `add_modulo` expression satisfies the assertion of `cache_network_page_stat`
(0x100 ≤ result ≤ 0x8FF) - in particular for `pgno = 0x100`, `incr = -1`, where the intermediate value is negative. -/
theorem add_modulo_range (pgno incr : BitVec 32) : InRange (addModulo pgno incr) :=
  mask_add_in_range _

/-- the two uses in `top_navigation_bar`: one page up, one page down, from any page number -/
theorem add_modulo_range_steps (pgno : BitVec 32) :
    InRange (addModulo pgno 1#32) ∧ InRange (addModulo pgno (-1#32)) :=
  ⟨add_modulo_range _ _, add_modulo_range _ _⟩

/-- it is the cyclic successor / predecessor at the ends of the range -/
theorem add_modulo_wraps : addModulo 0x100#32 (-1#32) = 0x8FF#32 ∧ addModulo 0x8FF#32 1#32 = 0x100#32 ∧
    addModulo 0x100#32 1#32 = 0x101#32 ∧ addModulo 0x8FF#32 (-1#32) = 0x8FE#32 := by decide

/-- why the mask matters: with C's truncating remainder (`% 0x800`) the step below page 100 yields 0xFF, outside the
range (seeded change C01-f; replayed on the C code by the oracle: assertion in `cache_network_page_stat`). -/
theorem add_modulo_rem_counterexample :
    (addModuloRem 0x100#32 (-1#32)).toInt = 0xFF ∧ ¬ InRange (addModuloRem 0x100#32 (-1#32)) := by decide

/-- the facts about `top_navigation_bar` used below are in the source -/
theorem top_navigation_uses_add_modulo :
    navPgno1IsSuccessor = true ∧ navScansDownWithMinusOne = true ∧ navScansUpWithPlusOne = true := by decide

/-- every page number `top_navigation_bar` hands to `cache_network_page_stat`
is in range - for every page type table (`blockOrGroup`, `stop` arbitrary: also "no block or group page anywhere",
the case in which the downward scan passes page 100) and every length of the walk. -/
theorem top_navigation_pgnos_in_range (bg stop : BitVec 32 → Bool) (fuel : Nat) (pgno : BitVec 32)
    (h : InRange pgno) : ∀ p ∈ visited bg stop fuel pgno, InRange p :=
  List.forall_mem_cons.mpr ⟨h, List.forall_mem_append.mpr
    ⟨scan_in_range (scan := scanDown bg _) (fun _ => rfl) (fun _ _ => rfl) fuel pgno h,
      scan_in_range (scan := scanUp stop pgno) (fun _ => rfl) (fun _ _ => rfl) fuel _ (add_modulo_range _ _)⟩⟩

/-- non-vacuity: with no block / group page the downward scan from page 101 does pass 100 and wraps to 8FF -/
example : scanDown (fun _ => false) (addModulo 0x101#32 1#32) 4 0x101#32 = [0x101#32, 0x100#32, 0x8FF#32, 0x8FE#32] := by decide
example : InRange 0x100#32 ∧ InRange 0x8FF#32 ∧ ¬ InRange 0xFF#32 ∧ ¬ InRange 0x900#32 ∧ ¬ InRange (-1#32) := by decide

end TopNav

/-! ## 2. vbi_convert_page reads within cache_page_size -/
section Convert
open Zvbi.Dec.ConvertReads

/-- the translated `cache_page_size` agrees with the compiled function text on the whole probe grid
(16 function values x 3 x26 values x 10 x28 values) -/
theorem cache_page_size_matches_compiled :
    probeRows.all (fun r => cachePageSize ((r.1 : Int) - 16) r.2.1 r.2.2.1 == r.2.2.2) = true := by decide +kernel

/-- for every target function, every set of received packets and every
combination of X/26 / X/28 designations of the (truncated, cached) source page, each byte range
`vbi_convert_page` reads from the source lies inside the `cache_page_size` bytes that exist.  The X/26 triplet copy
of the (G)POP case is in range only because it is skipped for a page without X/26 packets - `popEnhCopyRuns` is
regenerated from packet.c; without the guard this proof does not build (seeded change C01-d). -/
theorem convert_page_reads_within_size (newFn : Int) (s : Src) :
    ∀ r ∈ reads newFn s, r.1 + r.2 ≤ srcSize s := by
  have hlop := srcSize_ge_lop s
  have rows := fun lo hi (h : hi < rawRows) => rowReads_within lo hi s.lopPackets h s
  unfold reads
  refine List.forall_mem_cons.mpr ⟨by simp only [convHeadBytes, hdrSize, sizeof_unknown, sizeof_lop] at *; omega,
    Log.ite (fun _ => List.forall_mem_append.mpr ⟨rows _ _ (by decide),
        Log.opt fun hruns => ?_⟩) fun _ =>
      Log.ite (fun _ => List.forall_mem_cons.mpr ⟨?_, List.forall_mem_singleton.mpr ?_⟩) fun _ =>
        Log.ite (fun _ => rows _ _ (by decide)) fun _ => Log.ite (fun _ => rows _ _ (by decide)) fun _ =>
          Log.ite (fun _ => rows _ _ (by decide)) fun _ => List.forall_mem_nil _⟩
  · have := srcSize_ge_enh s (by simpa [popEnhCopyRuns] using hruns)
    simp only [dataOff, enhOffEnhLop, popEnhCopyBytes, hdrSize, sizeof_enh_lop] at *; omega
  all_goals
    simp only [dataOff, drcsLopOff, drcsLopSize, rawOff, drcsFirstRow, rawCols, drcsRowCount, hdrSize, sizeof_lop] at *; omega

/-- the guard is needed: for a page cached at the plain size (no X/26, no X/28) the copy would end 624 bytes behind
the page (what AddressSanitizer reports on the seeded change C01-d) -/
theorem convert_page_unguarded_copy_overreads (lp : Nat) :
    dataOff + enhOffEnhLop + popEnhCopyBytes = srcSize ⟨0, 0, lp⟩ + 624 := by
  show _ = cachePageSize fn_UNKNOWN 0 0 + 624
  decide

/-- the copy also stays inside `enh[]` and inside `pop.triplet[]` at the destination -/
theorem convert_page_enh_copy_fits : popEnhCopyBytes ≤ enhLen * tripletSize ∧
    popEnhDstIndex * tripletSize + popEnhCopyBytes ≤ popTripletLen * tripletSize ∧ enhOffEnhLop = enhOffExtLop := by decide

/-- `vbi_decode_teletext`, header of a page that is cached: the bytes copied out of the cached page are exactly
the bytes behind its header (`cache_page_size - header`), for every function and designation set, and they fit the
`data` union of the assembly buffer -/
theorem header_reload_within_size (fn : Int) (x26 x28 : Nat) (_h : headerReloadCopiesSizeMinusHeader = true) :
    (reloadRead fn x26 x28).1 + (reloadRead fn x26 x28).2 = cachePageSize fn x26 x28 ∧
    (reloadRead fn x26 x28).2 ≤ fullSize - hdrSize := by
  have := cachePageSize_bounds fn x26 x28
  unfold reloadRead
  simp only [dataOff, hdrSize, fullSize] at *
  omega

example : headerReloadCopiesSizeMinusHeader = true := by decide

/-- non-vacuity: a POP conversion of a page with rows 1, 3 and X/26/0 reads the head, two rows and the triplets -/
example : reads fn_POP ⟨1, 0, 0b1010⟩ = [(0, 1564), (128, 40), (208, 40), (1564, 624)] := by decide
example : reads fn_POP ⟨0, 0, 0b1010⟩ = [(0, 1564), (128, 40), (208, 40)] := by decide
example : srcSize ⟨0, 0, 0⟩ = 1564 ∧ srcSize ⟨1, 0, 0⟩ = 2192 ∧ srcSize ⟨0, 0x10, 0⟩ = 2436 := by decide

/-! ### the reading side: `vbi_format_vt_page` / local objects on a (truncated) cached page -/

/-- the page formatter reads `data.ext_lop.ext` only when
`x28_designations & 0x11` and `data.enh_lop.enh` (all 209 triplets) only when `x26_designations & 1` - masks
regenerated from teletext.c - and for every page of function LOP with such designations `cache_page_size` (mask
`0x13`, regenerated from cache.c) allocated those members. -/
theorem format_reads_within_size (x26 x28 : Nat) :
    (x28 &&& formatExtMask ≠ 0 → dataOff + extOff + extSize ≤ cachePageSize fn_LOP x26 x28) ∧
    (x26 &&& formatEnhMask ≠ 0 → dataOff + enhOffEnhLop + enhLen * tripletSize ≤ cachePageSize fn_LOP x26 x28) ∧
    (x26 &&& localObjEnhMask ≠ 0 → dataOff + enhOffEnhLop + enhLen * tripletSize ≤ cachePageSize fn_LOP x26 x28) := by
  have hx : ∀ m, x26 &&& m ≠ 0 → x26 ≠ 0 := by
    intro m h h0; apply h; rw [h0]; simp
  -- with X/26 the page has an `ext_lop` or an `enh_lop`: both hold `enh[]`
  have henh : x26 ≠ 0 → dataOff + enhOffEnhLop + enhLen * tripletSize ≤ cachePageSize fn_LOP x26 x28 := fun h =>
    lopSize_cases (Or.inr rfl) x26 x28 (fun _ => by decide) (fun _ _ => by decide) fun _ h0 => absurd h0 h
  refine ⟨fun h => ?_, fun h => henh (hx _ h), fun h => henh (hx _ h)⟩
  -- the formatter's mask 0x11 lies inside the cache's 0x13
  have h13 : x28 &&& 19 ≠ 0 := and_ne_zero_of_sub x28 formatExtMask 19 (by decide) h
  exact lopSize_cases (Or.inr rfl) x26 x28 (fun _ => by decide) (fun h0 _ => absurd h0 h13) fun h0 _ => absurd h0 h13

example : cachePageSize fn_LOP 0 0x10 = hdrSize + sizeof_ext_lop ∧ cachePageSize fn_LOP 1 0 = hdrSize + sizeof_enh_lop := by decide

end Convert

/-! ## 3. references taken on cache pages are all released -/
section Refs
open Zvbi.Enh.ObjRef

/-- what the balance proofs use is in the source: every give-up path of `resolve_obj_address` that holds a page
releases it (the `page not cached` path holds none), the success path hands the reference over, the cached
conversion releases the page it replaced, and both callers release the object page after the nested `enhance`
whether it succeeded or not -/
theorem release_paths_in_source :
    unrefOnConvertFail = true ∧ unrefOnWrongFunction = true ∧ unrefOnPointerOutOfBounds = true ∧
    unrefOnNoObjectDefinition = true ∧ unrefOnNotCached = false ∧ successHandsReferenceOver = true ∧
    convertReleasesOldOnSuccess = true ∧ enhanceUnrefAfterObjectFail = true ∧ enhanceUnrefAfterObjectDone = true ∧
    enhanceFailsOnNullTriplet = true ∧ defaultUnrefAfterObjectFail = true ∧ defaultUnrefAfterObjectDone = true ∧
    defaultFailsOnNullTriplet = true := by decide

/-- `resolve_obj_address` alone: giving up leaves the ledger as it was; success adds exactly the one reference
that goes to the caller -/
theorem resolve_obj_address_refs (r : Resolve) (s : St) :
    (∀ s1, resolve r s = (s1, none) → s1 = s) ∧
    (∀ s1 p t, resolve r s = (s1, some (p, t)) → s1 = s.get p) :=
  ⟨fun s1 h => resolve_none r s s1 h, fun s1 p t h => resolve_some r s s1 p t h⟩

/-- for arbitrary object contents (cycles allowed), arbitrary look-up results at every
invocation (not cached, conversion fails, wrong function, pointer 507..511 / 0xFFFF, no definition, found - with or
without conversion of a page cached under an unknown function) and any nesting, `enhance` returns - TRUE or FALSE -
holding exactly the references it was called with, and never releases a page it does not hold. -/
theorem enhance_refs_balanced (objs : Objects) (fuel type : Nat) (trips : List Trip) (s : St) (ok : Bool) (s' : St)
    (h : enhance objs fuel type trips s = some (ok, s')) : s'.refs = s.refs ∧ s'.fault = s.fault := by
  have := enhance_balanced objs fuel type trips s ok s' h
  subst this; exact ⟨rfl, rfl⟩

theorem default_objects_refs_balanced (objs : Objects) (fuel : Nat) (l : List (Nat × Resolve)) (s : St) (ok : Bool)
    (s' : St) (h : defaultObjects objs fuel l s = some (ok, s')) : s'.refs = s.refs ∧ s'.fault = s.fault := by
  have := defaultObjects_balanced objs fuel l s ok s' h
  subst this; exact ⟨rfl, rfl⟩

/-- when `vbi_fetch_vt_page` returns, no reference is left - on the page, on a
(G)POP page, on a converted copy - and none was released twice; with local enhancement data (X/26) or with the MOT
default objects. -/
theorem resolve_obj_refs_balanced (objs : Objects) (fuel page : Nat) (x26 : Option (List Trip))
    (defaults : List (Nat × Resolve)) (ok : Bool) (s : St) (h : fetch objs fuel page x26 defaults = some (ok, s)) :
    s.refs = [] ∧ s.fault = false := by
  obtain ⟨⟨ok', s1⟩, he, hm⟩ := Option.map_eq_some_iff.mp h
  -- either way the ledger comes back as it was handed over, holding the page itself
  have : s1 = ({} : St).get page := by
    cases x26 with
    | some trips => exact enhance_balanced objs _ _ _ _ _ _ he
    | none => exact defaultObjects_balanced objs _ _ _ _ _ he
  subst this
  cases hm
  exact unref_get _ _ ▸ ⟨rfl, rfl⟩

/-- and the fetch does return: four nested activations suffice for local enhancement data (type 0) -/
theorem fetch_terminates (objs : Objects) (page : Nat) (trips : List Trip) :
    (fetch objs (maxObjectType + 1) page (some trips) []).isSome := by
  unfold fetch
  have := enhance_isSome objs (maxObjectType + 1) localEnhancementData (by decide) (by decide) trips (({} : St).get page)
  simp only [Option.isSome_map]
  exact this

/-- non-vacuity: an active object found through a converted page invokes a passive object whose pointer is 511
(unused) - two references are taken on the way, FALSE comes back, nothing is left -/
def demo : Objects := fun n => if n = 0 then [.other, .invoke 0x13 (.found 7 none 511 true 1)] else []
example : fetch demo 4 100 (some [.invoke 0x11 (.found 5 (some 6) 26 true 0), .other]) [] = some (false, {}) := by
  simp [fetch, enhance, resolve, demo, skipInvocation, typeMask, localEnhancementData, St.get, St.unref, pointerLimit,
    convertReleasesOldOnSuccess, unrefOnPointerOutOfBounds, enhanceUnrefAfterObjectFail]
example : (resolve (.found 5 none 26 true 0) {}).1.refs = [5] := by
  simp [resolve, St.get, pointerLimit]

end Refs

/-! ## 4. pointer table index, object triplet range -/

/-- `pointer[packet * 24 + i * 2 + half]` with `packet = (address >> 7) & 3`, `i = ((address >> 5) & 3) * 3 + type`,
`type` ≤ 3 (two bits of the triplet mode / of the MOT entry) is inside `pop.pointer[]` -/
theorem pop_pointer_read_in_range (packet grp type half : Nat) (hp : packet ≤ packetMask) (hg : grp ≤ groupMask)
    (ht : type ≤ maxObjectType) (hh : half ≤ 1) :
    pointerIndex packet (grp * groupStride + type) half < popPointerLen := by
  simp only [pointerIndex, packetMask, groupMask, groupStride, maxObjectType, popPointerLen] at *
  omega

/-- a pointer admitted by the guard (`pointer ≤ 506`) addresses a triplet of `pop.triplet[]`, and the
`remaining` count handed to `enhance` (`elements - (pointer + 1)`) ends exactly at the end of the array -/
theorem object_triplets_within_table (pointer : Nat) (h : pointer ≤ pointerLimit) :
    pointer < popTripletLen ∧ (pointer + 1) + (popTripletLen - (pointer + 1)) = popTripletLen := by
  simp only [pointerLimit, popTripletLen] at *
  omega

example : pointerIndex 3 12 1 = 97 ∧ popPointerLen = 98 := by decide

end Zvbi.Props.C01Enh
