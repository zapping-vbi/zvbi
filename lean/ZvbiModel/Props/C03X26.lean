import ZvbiModel.Ttx.AsmInv
/-!
# C03 - X/26 enhancement data and the parity gate; a lost page number closes every magazine

Property theorems only (model `ZvbiModel/Ttx/Model.lean`, helper lemmas `ZvbiModel/Ttx/X26Fix.lean`,
`ZvbiModel/Ttx/HeaderPage.lean`).  The exception clause of C03 - "positions overridden by X/26
enhancement data excepted" - is only as narrow as these three facts make it:

1. the triplets `lop_parity_check` consults are triplets of the page under assembly (written by
   X/26 packets of this transmission, or kept with the cached copy of this very page number), never
   those of the page that used the magazine's assembly slot before;
2. the row a column triplet is applied to is the row of the LAST row-address triplet of mode 0x01,
   0x04 or 0x07 ("address display row 0") before it;
3. a header whose page number is uncorrectable closes the pages in progress of ALL magazines.

`Props/C03.lean` already has: `parity_gate` (a row enters the cache only with 40 odd-parity bytes,
after the fix-ups - but it does not say which cells the fix-ups touch), `x26_continuity` (packet 26
writes only `enh[13 d .. 13 d + 12]` - but not what the other entries hold after a header) and
`bad_header_page_number` (result state is `desync s` - but not what `desync` means for the other
magazines).  The theorems below are these missing halves; nothing is restated.
-/
namespace Zvbi.Props.C03X26
open Zvbi.Ttx Zvbi.Ttx.Spec Zvbi.Hamm Zvbi.Gen

/-! ## 1. after a header the enhancement array belongs to the page under assembly -/

/-- An accepted header (page number decodes, subcode / control bits not refused) for magazine slot
    `mag0`: afterwards the slot expects X/26 designation 0 next (`num_triplets = 0`), no Level 1 row
    counts as received, and the page under assembly either continues the cached copy `q` of that
    very page number - `enh` and the mask of received X/26 designations are `q`'s (source shape with
    fixes/C03-enh-zero-filler.diff, flag `ttxFixEnhFiller` regenerated from packet.c: if `q` was stored without
    X/26 data, so that the cache handed it back without its array, every entry is the unused value instead of the
    zero triplets of the unrepaired code - finding C03-enh-zero-filler, `C03Tx.live_triplets_were_transmitted_counterexample`) - or was built from
    scratch: then no designation is marked as received and, if it is a Level one page (the only kind
    handed to `lop_parity_check`), EVERY entry of `enh` is the unused value 0xFF.  So whatever
    `enh` holds until an X/26 packet of this transmission writes it (`C03.x26_continuity`: entries
    `13 d .. 13 d + 12` only), none of it stems from the page that used the slot before. -/
theorem enh_fresh_after_header (s : St) (mag0 mag8 : Nat) (v : View) (page : Nat) (hm : mag0 < s.raw.length)
    (hpg : v.g16 0 = some page) (hacc : hdrRejected page (v.g16i 2) (v.g16i 4) (v.g16i 6) = false) :
    let rp := (processHeader s mag0 mag8 v).1.st.rp mag0
    rp.numTriplets = 0 ∧ rp.lopPackets = 0 ∧
    ((∃ q, q ∈ (terminatePage s mag0 (mag8 * 256 + page) page).1.net.cache ∧ q.pgno = mag8 * 256 + page ∧
           (rp.page.enh = q.enh ∨ (ttxFixEnhFiller = true ∧ q.x26 = 0 ∧ rp.page.enh = enhUnused)) ∧
           rp.page.x26 = q.x26) ∨
     (rp.page.x26 = 0 ∧ (rp.page.function = FN_LOP → rp.page.enh = enhUnused))) := by
  have hlen : (terminatePage s mag0 (mag8 * 256 + page) page).1.raw.length = s.raw.length :=
    (terminatePage_closed s mag0 (mag8 * 256 + page) page).len
  rw [processHeader_accept s mag0 mag8 v page hpg hacc]
  dsimp only
  rw [rp_setRp_same _ _ _ (by simp only [setPage_length]; omega)]
  exact ⟨rfl, rfl, headerPage_enh (terminatePage s mag0 (mag8 * 256 + page) page).1.net
    { ((terminatePage s mag0 (mag8 * 256 + page) page).1.rp mag0).page with pgno := mag8 * 256 + page }
    page (v.g16i 2 + v.g16i 4 * 256).toNat (v.g16i 6).toNat (zeroRow.take 8 ++ (v.raw.drop 8))⟩

/-- An array of unused entries addresses no cell at all ... -/
theorem unused_enh_addresses_nothing (r c : Nat) : ¬ Addressed enhUnused r c := by
  unfold Addressed
  rw [liveTriplets_enhUnused]
  exact addrFrom_nil _ _ _

/-- ... and `lop_parity_check` never looks behind the first unused entry: the rows it hands to the
    parity gate do not depend on what follows it (where, without the wipe at the header, the
    triplets of the slot's previous page would still stand). -/
theorem parity_check_ignores_unused_tail (cv : Page) (rv : RawPage) (pre post post' : List Triplet)
    (u : Triplet) (hu : u.address > 63) :
    (lopParityCheck { cv with enh := pre ++ u :: post } rv).2.lopRaw =
    (lopParityCheck { cv with enh := pre ++ u :: post' } rv).2.lopRaw := by
  rw [lopParityCheck_lopRaw, lopParityCheck_lopRaw]
  show (if (cv.x26 != 0) = true then x26Fix (pre ++ u :: post) rv.lopRaw else rv.lopRaw) =
       (if (cv.x26 != 0) = true then x26Fix (pre ++ u :: post') rv.lopRaw else rv.lopRaw)
  rw [x26Fix_ignores_unused_tail pre post post' u hu]

/-- non-vacuity: a fresh header on the initial decoder builds page 123 from scratch, all 209 entries unused -/
example : ((processHeader (init.enable true) 1 1
      (view Kind.hdr ([2, 21, 94, 73, 21, 21, 21, 21, 21, 21] ++ List.replicate 32 32))).1.st.rp 1).page.enh = enhUnused := by
  decide +kernel

/-! ## 2. which cells the fix-ups of `lop_parity_check` touch -/

/-- ROW ADDRESSING.  The active row after a list of X/26 triplets is decided by its last
    row-address triplet (address 40..63) of mode 0x01 (full row colour), 0x04 (set active position)
    or 0x07 (address display row 0): it names row `address - 40` (40 meaning row 24), mode 0x07
    names row 0; every other triplet keeps the row. -/
theorem active_row_last_wins (pre : List Triplet) (t : Triplet) :
    activeRow (pre ++ [t]) = if t.isRowSet then t.rowOf else activeRow pre := by
  unfold activeRow activeRowFrom
  simp only [List.reverse_append, List.reverse_cons, List.reverse_nil, List.nil_append, List.singleton_append,
    List.find?_cons]
  by_cases h : t.isRowSet = true
  · simp [h]
  · have : t.isRowSet = false := by simpa using h
    simp [this]

/-- mode 0x07 is a row address like the others: after it the active row is 0, whatever row was
    active before -/
theorem mode7_addresses_row_0 (pre : List Triplet) (a d : Nat) (h40 : 40 ≤ a) (h63 : a ≤ 63) :
    activeRow (pre ++ [⟨a, 7, d⟩]) = 0 := by
  rw [active_row_last_wins]
  have : (Triplet.mk a 7 d).isRowSet = true := by simp [Triplet.isRowSet, h40, h63]
  simp [this, Triplet.rowOf]

/-- PARITY FIX-UPS.  `lop_parity_check` hands to the parity gate the received rows in which exactly
    the bytes at ADDRESSED cells got their parity bit forced (`vbi_par8`): cell (r, c) is addressed
    iff the part of `enh` in use (before the first unused entry) contains a character-placing
    column triplet with address `c` at a point where the active row - see `active_row_last_wins` -
    is `r`.  Every other byte reaches the gate as received; so a parity error outside the cells
    the page's own X/26 data addresses keeps the row out of the cache (`C03.parity_gate`). -/
theorem parity_fixups_only_at_addressed_cells (cv : Page) (rv : RawPage) (r c : Nat)
    (hr : r < rv.lopRaw.length) (hc : c < (rv.lopRaw.getD r zeroRow).length) :
    let out := (lopParityCheck cv rv).2.lopRaw
    (cv.x26 = 0 → out = rv.lopRaw) ∧
    (cv.x26 ≠ 0 → Addressed cv.enh r c → cellAt out r c = par8 (cellAt rv.lopRaw r c)) ∧
    (cv.x26 ≠ 0 → ¬ Addressed cv.enh r c → cellAt out r c = cellAt rv.lopRaw r c) := by
  simp only [lopParityCheck_lopRaw]
  refine ⟨fun h0 => by simp [h0], fun hn hA => ?_, fun hn hA => ?_⟩
  · have : (cv.x26 != 0) = true := by simpa using hn
    simp only [this, if_true]
    rw [x26Fix_eq_fixLive]
    exact (fixLive_cells (liveTriplets cv.enh) 0 rv.lopRaw r c hr hc).1 hA
  · have : (cv.x26 != 0) = true := by simpa using hn
    simp only [this, if_true]
    rw [x26Fix_eq_fixLive]
    exact (fixLive_cells (liveTriplets cv.enh) 0 rv.lopRaw r c hr hc).2 hA

/-- the X/26 data of the demonstration: set active position row 5, G2 character column 3,
    address display row 0, G0 character column 20, unused entries -/
def demoEnh : List Triplet :=
  [⟨45, 4, 0⟩, ⟨3, 0x0F, 0x41⟩, ⟨63, 7, 0⟩, ⟨20, 9, 0x42⟩] ++ List.replicate 205 Triplet.ff

/-- non-vacuity, and the situation of the seeded change "mode 0x07 ignored": (5, 3) and (0, 20) are
    addressed, (5, 20) is not - a received row 5 with a parity error in column 20 ('Z' 0x5A -> 0x5B)
    does not replace the cached row 5 -/
example : Addressed demoEnh 5 3 ∧ Addressed demoEnh 0 20 :=
  ⟨⟨[⟨45, 4, 0⟩], ⟨3, 0x0F, 0x41⟩, [⟨63, 7, 0⟩, ⟨20, 9, 0x42⟩], by decide, by decide, rfl, by decide⟩,
   ⟨[⟨45, 4, 0⟩, ⟨3, 0x0F, 0x41⟩, ⟨63, 7, 0⟩], ⟨20, 9, 0x42⟩, [], by decide, by decide, rfl, by decide⟩⟩

example :
    let cv := { Page.zero with x26 := 1, enh := demoEnh, raw := List.replicate 26 blankRow }
    let bad := (List.replicate 40 0x5A).set 20 0x5B
    let rv : RawPage := ⟨cv, (List.replicate 26 zeroRow).set 5 bad, 1 <<< 5, 13⟩
    (lopParityCheck cv rv).1.raw.getD 5 zeroRow = blankRow ∧
    cellAt (lopParityCheck cv rv).2.lopRaw 5 20 = 0x5B := by
  decide +kernel

/-! ## 3. an uncorrectable page number closes the pages in progress of all magazines -/

/-- For EVERY packet history `ps` (any bytes) on a decoder with a Teletext handler, and every header
    `p` whose address decodes (packet 0 of some magazine) but whose page number is uncorrectable:
    afterwards the page in progress of each of the eight magazines is closed (`DISCARD`), so
    * a Level 1 row or an X/26 packet of ANY magazine changes nothing, and
    * the next header of ANY magazine, whatever page it announces, stores no page and sends no event
    - until that header opens a new page.  In particular the rows that followed the damaged
    header can never be merged into, and stored under the number of, an older page of their magazine. -/
theorem bad_pgno_desyncs_all (ps : List Packet) (p : Packet) (pmag : Nat)
    (hmask : (run (init.enable true) ps).1.mask = true)
    (ha : a16 p 0 = some pmag) (h0 : pmag >>> 3 = 0) (hpg : a16 p 2 = none) :
    let s' := (decodeTeletext (run (init.enable true) ps).1 p).st
    (∀ m, m < 8 → (s'.rp m).page.function = FN_DISCARD) ∧
    (∀ m, m < 8 → ∀ mag8 packet v, processRow s' m mag8 packet v = ⟨s', [], true⟩) ∧
    (∀ m, m < 8 → ∀ v, process26 s' m v = ⟨s', [], true⟩) ∧
    (∀ m, m < 8 → ∀ pgno page, (terminatePage s' m pgno page).2 = []) := by
  have hok := (run_ok (init.enable true) [] ps (init_ok true)).1
  rw [decode_hdr_bad_pageno _ p pmag ha h0 hmask hpg]
  have hfn : ∀ m, m < 8 → ((desync (run (init.enable true) ps).1).rp m).page.function = FN_DISCARD :=
    fun m hm => desync_fn _ m (by rw [hok.len]; exact hm)
  refine ⟨hfn, fun m hm mag8 packet v => processRow_discard _ m mag8 packet v (hfn m hm),
          fun m hm v => process26_discard _ m v (hfn m hm), fun m hm pgno page => ?_⟩
  apply terminatePage_discard
  intro c hc
  apply hfn
  exact terminatedSlot_lt (desync (run (init.enable true) ps).1) m pgno page c hm (fun c' hc' => hok.cur c' hc') hc

/-- non-vacuity: page 123 in progress in magazine 1, header of page 2xx with the units digit of the
    page number hit twice (0x15 -> 0x16): magazine 1 is closed as well -/
example :
    let ps : List Packet := [[2, 21, 94, 73, 21, 21, 21, 21, 21, 21] ++ List.replicate 32 32]
    let s := (run (init.enable true) ps).1
    let p : Packet := [73, 21, 0x16, 73, 21, 21, 21, 21, 21, 21] ++ List.replicate 32 32
    s.mask = true ∧ (s.rp 1).page.function = FN_LOP ∧ a16 p 0 = some 2 ∧ a16 p 2 = none ∧
    ((decodeTeletext s p).st.rp 1).page.function = FN_DISCARD := by
  decide +kernel

end Zvbi.Props.C03X26
