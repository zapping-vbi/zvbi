import ZvbiModel.Nav.LinkLemmas
/-!
# C01 - src/teletext.c `vbi_resolve_link`, `vbi_resolve_home`, `ait_title`, `vbi_page_title`: every array access in range

Model: `Nav/Link.lean` (statement by statement, checked accesses; `buffer[43]` of vbi_resolve_link with UNWRITTEN bytes whose
read is a fault; `keyword` is the model of `Nav/Model.lean`).  All extents, loop bounds, guards, offsets and strings are
regenerated from the current source by translate/gen_c01link.py (`Generated/C01Link.lean`); the statement skeleton of each of
the four functions is pinned by a digest there.
-/
namespace Zvbi.Props.C01Link
open Zvbi.Nav Zvbi.Nav.Link Zvbi.Gen.C01Link

/-- The regenerated numbers fit the regenerated extents: a row of COLUMNS cells plus two blanks and the NUL fits `buffer[]`,
    `nav_link[5]` is inside `nav_link[]`, the loops of vbi_page_title stay inside `btt_link[]` and `ait.title[]`, the scan of
    ait_title inside `title.text[]`, `font[0]` inside `font[2]`, the title with its NUL (at most 13 bytes) inside the documented
    41 byte buffer; and the extents are the ones `Generated/C01Nav.lean` has (same probe structures). -/
theorem link_extents_consistent :
    rlCols + 3 ≤ rlBufferLen ∧ rlCols = columns ∧ rhIdx < navLinkLen ∧ ptBttLoop ≤ bttLinkLen ∧ ptTitles ≤ aitTitleLen ∧
    atStart + 1 ≤ (aitTextLen : Int) ∧ 0 < atFonts ∧ atStart + atNulOff + 1 ≤ (ptBufDoc : Int) ∧
    rlBufferLen ≤ Zvbi.Gen.C01Nav.zapBufferLen ∧ textLen = Zvbi.Gen.C01Nav.textLen ∧ navLinkLen = Zvbi.Gen.C01Nav.navLinkLen ∧
    navIndexLen = Zvbi.Gen.C01Nav.navIndexLen ∧ urlLen = Zvbi.Gen.C01Nav.urlLen ∧
    overTop = Zvbi.Gen.C01Nav.sizeVals.getD 4 0 ∧ overBottom = Zvbi.Gen.C01Nav.sizeVals.getD 5 0 := by decide

example : rlBufferLen = 43 ∧ rhIdx = 5 ∧ ptTitles = 46 := by decide

/-- **vbi_resolve_link, entry: every `column`, `row`, `pgno` (any `int`).**  Given the assertion `0 <= column < EXT_COLUMNS`
    (a failed assertion aborts) and, for the row-24 branch, that `nav_index[column]` holds an index of `nav_link[]` (what
    flof_navigation_bar, flof_links and top_label store there: `nav_index_values_in_range`): the read `acp[column]` in row 24,
    `pg->nav_index[column]`, `pg->nav_link[i]`, and - when the guard `row < 1 || row > 23 || column >= COLUMNS ||
    pg->pgno < 0x100` lets the call pass - each `acp[i]` of the buffer loop is inside its array.  For any other `row` no cell
    is read at all (the pointer `&pg->text[row * EXT_COLUMNS]` is formed but not dereferenced). -/
theorem resolve_link_entry_in_range (column row : Int) (link : Bool) (navIdx pgno : Int)
    (ha : rlAssertLo ≤ column ∧ column < rlAssertHi) (hn : 0 ≤ navIdx ∧ navIdx < (navLinkLen : Int)) :
    ∀ a ∈ rlEntryLog column row link navIdx pgno, okLink a := by
  -- what the proof needs of the regenerated numbers
  have f1 : 0 ≤ rlAssertLo ∧ 0 ≤ rlRowLo := by decide
  have f2 : rlNavRow * rlStride + rlAssertHi ≤ (textLen : Int) ∧ 0 ≤ rlNavRow * rlStride := by decide
  have f3 : rlAssertHi ≤ (navIndexLen : Int) := by decide
  have f4 : rlRowHi * rlStride + (rlCols : Int) ≤ (textLen : Int) := by decide
  have f5 : (0 : Int) ≤ rlStride := by decide
  unfold rlEntryLog
  -- tags as `okLink` reads them: 0 = `pg->text[]`, 1 = `pg->nav_index[]`, 2 = `pg->nav_link[]`
  refine Log.ite (fun hr => ?_) fun _ => Log.ite (fun _ => List.forall_mem_nil _) fun hg =>
    List.forall_mem_map.mpr (Log.range fun i hi => ?_)
  · subst hr
    exact List.forall_mem_cons.mpr ⟨show 0 ≤ rlNavRow * rlStride + column ∧ rlNavRow * rlStride + column < (textLen : Int) by omega,
      Log.ite (fun _ => List.forall_mem_cons.mpr ⟨show 0 ≤ column ∧ column < (navIndexLen : Int) by omega,
        List.forall_mem_singleton.mpr hn⟩) fun _ => List.forall_mem_nil _⟩
  · have m1 : row * rlStride ≤ rlRowHi * rlStride := Int.mul_le_mul_of_nonneg_right (by omega) f5
    have m2 : 0 ≤ row * rlStride := Int.mul_nonneg (by omega) f5
    show 0 ≤ row * rlStride + (i : Int) ∧ row * rlStride + (i : Int) < (textLen : Int)
    omega

/-- not vacuous: row 23, last column reads `text[23 * 41 + 39]`; row 24 with a link reads `nav_link[3]` -/
example : ((0, 982) ∈ rlEntryLog 39 23 false 0 0x100) ∧ ((2, 3) ∈ rlEntryLog 35 24 true 3 0x100) ∧
    rlEntryLog 5 1000 true 77 0x100 = [] := by decide

/-- the values flof_navigation_bar (`i`), flof_links (`k`) and top_label (`index`) store into `pg->nav_index[]` (loop bounds and
    call parameters regenerated in `Generated/C01Nav.lean`) are indices of `nav_link[6]` -/
theorem nav_index_values_in_range :
    (∀ i < Zvbi.Gen.C01Nav.flofKeys, i < navLinkLen) ∧ (∀ k < Zvbi.Gen.C01Nav.flofLinksKeys2, k < navLinkLen) ∧
    (∀ call ∈ Zvbi.Gen.C01Nav.topCalls, call.1 < navLinkLen) := by decide

example : (2, 2) ∈ Zvbi.Gen.C01Nav.topCalls := by decide

/-- **vbi_resolve_link, buffer loop: every row content, every `column` (any `int`).**  After any number `n <= COLUMNS` of
    iterations: no store outside `buffer[43]`, NO READ OF A BYTE THAT HAS NOT BEEN WRITTEN (the look-back `buffer + j + 1 - 3`
    / `- 2` is guarded by `j > 2`, so its lowest byte is `buffer[1]`; `buffer[0]` - still indeterminate without a restart - is
    never read before `buffer[0] = ' '`), and `0 <= j <= n`, `-1 <= b <= j`, every byte `buffer[1 .. j]` written. -/
theorem resolve_link_loop_invariant (column : Int) (cell : Nat → LCell) (n : Nat) (hn : n ≤ rlCols) :
    ∃ s, rlLoop column cell n 0 rlStart = some s ∧ s.buf.length = rlBufferLen ∧ 0 ≤ s.j ∧ s.j ≤ n ∧ -1 ≤ s.b ∧ s.b ≤ s.j ∧
      ∀ k : Nat, 1 ≤ k → (k : Int) ≤ s.j → ∃ v, s.buf[k]? = some (some v) :=
  Yields.mono (rlLoop_inv column cell n 0 rlStart (by omega) rlStart_inv) fun s hi =>
    ⟨hi.len, hi.j1, by have := hi.j2; omega, hi.b1, hi.b2, hi.wr⟩

/-- not vacuous: ` abc(at)x.de`, cells 1 .. 11 linked, column 9: restart at cell 0, "(at" found by the look-back, `b = 3`;
    an all-blank unlinked row, column 39: restarts up to cell 38, `b` stays -1; a row of OVER_TOP cells stores nothing -/
example : (rlLoop 9 (fun i => ⟨[0x20, 0x61, 0x62, 0x63, 0x28, 0x61, 0x74, 0x29, 0x78, 0x2E, 0x64, 0x65].getD i 0x20, 0,
      decide (1 ≤ i) && decide (i ≤ 11)⟩) 40 0 rlStart).map (fun s => (s.j, s.b)) = some (39, 3) ∧
    (rlLoop 39 (fun _ => ⟨0x20, 0, false⟩) 40 0 rlStart).map (fun s => (s.j, s.b)) = some (1, -1) ∧
    (rlLoop 0 (fun _ => ⟨0x41, 4, false⟩) 40 0 rlStart).map (fun s => (s.j, s.b)) = some (0, 0) := by decide +kernel

/-- the buffer vbi_resolve_link hands to `keyword` is the one the keyword theorems are stated for: blank, `j` bytes, blank,
    NUL, all `j + 3 <= 43` of them written, for every row content and column -/
theorem resolve_link_buffer_wf (column : Int) (cell : Nat → LCell) :
    ∃ s bytes, rlLoop column cell rlCols 0 rlStart = some s ∧ rlFinish s = some bytes ∧ WF bytes s.j.toNat ∧
      0 ≤ s.b + rlKwOff ∧ s.b + rlKwOff ≤ s.j + 1 := by
  obtain ⟨s, hs, hi⟩ := rlLoop_inv column cell rlCols 0 rlStart (by omega) rlStart_inv
  obtain ⟨bytes, hb, wf⟩ := rlFinish_ok s _ (by omega) hi
  have k : rlKwOff = 1 := rfl
  exact ⟨s, bytes, hs, hb, wf, by have := hi.b1; omega, by have := hi.b2; omega⟩

example : (rlLoop 39 (fun _ => ⟨0x20, 0, false⟩) 40 0 rlStart).bind rlFinish = some [0x20, 0x20, 0x20, 0] := by
  decide +kernel

/-- **keyword() at column 0 and at column `len + 1`** (the cases `keyword_in_range` of Props/C01Nav does not cover; the second
    call of vbi_resolve_link runs at `b + 1` with `b = -1` possible, the first at column 1 of a possibly empty row): the byte
    there is a blank, `keyword` looks at nothing else - in particular not at `s[-1]`, which at column 0 would be in front of
    `buffer[]` - and returns 1 without a link.  Proved for the model's `keyword`, every buffer, every subno. -/
theorem keyword_on_blank_in_range (buf : List Nat) (len : Nat) (wf : WF buf len) (subno : Nat) :
    keyword buf 0 subno = some { n := 1 } ∧ keyword buf (len + 1) subno = some { n := 1 } :=
  ⟨keyword_blank buf 0 subno wf.first, keyword_blank buf (len + 1) subno wf.last⟩

/-- not vacuous, and the blank matters: with a digit at column 0 the model reports the read of `s[-1]` -/
example : keyword [0x20, 0x40, 0x20, 0] 0 0 = some { n := 1 } ∧ keyword [0x31, 0x40, 0x20, 0] 0 0 = none := by
  decide +kernel

/-- **vbi_resolve_link, text rows: every row content (40 cells of ANY unicode / size / link flag), every `column` (any `int`),
    every subno.**  The whole path - buffer loop, the three final stores, the first `keyword (ld, buffer, 1, ...)` and, when it
    found no link, the second `keyword (ld, buffer, b + 1, ...)` with `b + 1` anywhere in `0 .. j + 1` - makes no access outside
    `buffer[43]`, reads no unwritten byte, no byte in front of the buffer or behind its NUL, uses up no scan bound, and leaves
    `strlen (ld->url) + 1 < 256`; both results consume at least one byte. -/
theorem resolve_link_text_in_range (column : Int) (cell : Nat → LCell) (subno : Nat) :
    ∃ r1 r2, resolveText column cell subno = some (r1, r2) ∧ 1 ≤ r1.n ∧ r1.url + 1 < urlLen ∧
      (r2 = none ↔ r1.linked = true) ∧ ∀ r, r2 = some r → 1 ≤ r.n ∧ r.url + 1 < urlLen := by
  have k0 : rlKwCol = 1 := rfl
  have k1 : rlKwOff = 1 := rfl
  unfold resolveText
  refine Yields.elim (rlLoop_inv column cell rlCols 0 rlStart (by omega) rlStart_inv) fun s hi => ?_
  have hj := hi.j1
  have hb1 := hi.b1
  have hb2 := hi.b2
  dsimp only
  refine Yields.elim (rlFinish_ok s _ (by omega) hi) fun bytes wf => ?_
  -- both calls of `keyword` are at a column `0 .. j + 1` of the finished buffer
  have call := fun col h0 h1 => kwCall_ok bytes s.j.toNat wf col subno h0 h1
  dsimp only
  refine Yields.elim (call rlKwCol (by omega) (by omega)) fun r1 ⟨p1, _, _, u1⟩ => ?_
  dsimp only
  cases hl : r1.linked with
  | true => exact ⟨r1, none, rfl, p1, u1, by simp [hl], nofun⟩
  | false =>
    exact Yields.elim (call (s.b + rlKwOff) (by omega) (by omega)) fun r2 ⟨p2, _, _, u2⟩ =>
      ⟨r1, some r2, rfl, p1, u1, by simp [hl], fun r h => by cases h; exact ⟨p2, u2⟩⟩

/-- not vacuous: ` abc(at)x.de` with the cursor on the dot - the first call (column 1, `a`) finds nothing, the second runs at
    `b + 1 = 4` on `(at)`, walks back over `abc` and forward to the blank; an all-blank row: second call at column 0 -/
example : resolveText 9 (fun i => ⟨[0x20, 0x61, 0x62, 0x63, 0x28, 0x61, 0x74, 0x29, 0x78, 0x2E, 0x64, 0x65].getD i 0x20, 0,
      decide (1 ≤ i) && decide (i ≤ 11)⟩) 0
      = some ({ n := 1 }, some { n := 8, back := 3, linked := true, url := 15 }) ∧
    resolveText 39 (fun _ => ⟨0x20, 0, false⟩) 0 = some ({ n := 1 }, some { n := 1 }) ∧
    resolveText 3 (fun i => ⟨[0x20, 0x31, 0x30, 0x30].getD i 0x20, 0, decide (1 ≤ i) && decide (i ≤ 3)⟩) 0
      = some ({ n := 3, linked := true }, none) := by decide +kernel

/-- **vbi_resolve_home**: for every `pgno`, the element read is inside `nav_link[]`; below 0x100 nothing is read -/
theorem resolve_home_in_range (pgno : Int) : ∀ i ∈ rhLog pgno, i < navLinkLen :=
  have : rhIdx < navLinkLen := by decide
  Log.ite (fun _ => List.forall_mem_nil _) fun _ => List.forall_mem_cons.mpr ⟨this, List.forall_mem_singleton.mpr this⟩

example : rhLog 0x100 = [5, 5] ∧ rhLog 0xFF = [] := by decide

/-- **ait_title: every title.**  Given that `title.text[]` holds 7 bit values (parse_ait stores vbi_unpar8 results:
    `Props/C01Nav.ait_text_char_in_range`): the scan reads `ait->text[11 .. 0]` only, `buf[i + 1] = 0` is stored at 0 .. 12 (with
    `i` down to -1: `buf[0]`), the characters at `buf[0 .. 11]` - at most 13 bytes of the caller's 41 -, `font[0]` is inside
    `font[2]`, and the character handed to vbi_teletext_unicode is 0x20 .. 0x7F.  (`font[0]` itself is a font
    vbi_teletext_unicode handles: `Props/C01Nav.format_fonts_valid`, `Props/C01Cells.charset_designation_in_range`.) -/
theorem ait_title_in_range (text : Nat → Nat) (h : ∀ k, text k ≤ 0x7F) : ∀ a ∈ atLog text, okAit a :=
  atLog_ok text h

/-- not vacuous: a five letter title stores the NUL at `buf[5]`; an empty title (all 0) stores it at `buf[0]` -/
example : ((1, 5) ∈ atLog (fun i => if i < 5 then 0x41 else 0x20)) ∧ ((0, 11) ∈ atLog (fun _ => 0)) ∧
    ((1, 0) ∈ atLog (fun _ => 0)) := by decide +kernel

/-- **vbi_page_title, loops**: `btt_link[i]` for `i < 8` and `vtp->data.ait.title[j]` for `j < 46` are inside their arrays -/
theorem page_title_loops_in_range :
    (∀ i, ptFirst ≤ i → i < ptBttLoop → i < bttLinkLen) ∧ (∀ j, ptTitleFirst ≤ j → j < ptTitles → j < aitTitleLen) := by
  have a : ptBttLoop ≤ bttLinkLen := link_extents_consistent.2.2.2.1
  have b : ptTitles ≤ aitTitleLen := link_extents_consistent.2.2.2.2.1
  exact ⟨fun i _ h => by omega, fun j _ h => by omega⟩

example : ptBttLoop = 8 ∧ bttLinkLen = 15 := by decide

/-- **vbi_page_title, reference balance.**  For every sequence of outcomes of the BTT links the loop visits (page not cached,
    cached page with the wrong function, title found - which returns -, title not in this page): every successful
    `_vbi_cache_get_page` is followed by exactly one `cache_page_unref` (the release points are regenerated from the source:
    which `continue` / `return` / block end is preceded by `cache_page_unref (vtp);`), a failed one by none; at `return` the
    ledger is balanced. -/
theorem page_title_refs_balanced :
    (∀ c : PtCase, (ptRefs c).1 = (ptRefs c).2 ∧ (ptRefs c).1 ≤ 1) ∧ (ptRefs .notCached).1 = 0 ∧
    ∀ cs : List PtCase, (ptLedger cs).1 = (ptLedger cs).2 :=
  ⟨ptRefs_balanced, rfl, ptLedger_balanced⟩

example : ptLedger [.notCached, .wrongFunction, .notFound, .found, .notFound] = (3, 3) := by decide

end Zvbi.Props.C01Link
