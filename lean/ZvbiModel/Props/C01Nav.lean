import ZvbiModel.Hamm.Lemmas
import ZvbiModel.Nav.KeywordLemmas
import ZvbiModel.Nav.LogLemmas
/-!
# C01 - formatter and navigation of src/teletext.c `vbi_format_vt_page`: every array access in range

Models: `Nav/L1.lean` (access log of the Level 1 character loop on top of the executable Level 1 model `Fmt/Model.lean`),
`Nav/Model.lean` (zap_links / keyword with checked reads and stores, FLOF bar, flof_links, TOP label / index cell positions).
All extents, loop bounds, strides, keyword strings and character classes are regenerated from the current source by
translate/gen_c01nav.py (`Generated/C01Nav.lean`); the statement skeleton of each function is pinned by a digest.
The executable parts (`zapLinks`, `flofLinksLog`, FLOF bar) run against the real `vbi_format_vt_page` in the nav stage of
`./check C01` (harness/nav_harness.c ~ `zvbi_model nav`).
-/
namespace Zvbi.Props.C01Nav
open Zvbi.Nav Zvbi.Fmt Zvbi.Gen.C01Nav

/-- The regenerated numbers are consistent with the regenerated extents: ROWS x EXT_COLUMNS cells and the navigation row fit
    `pg->text[]`, the raw page has ROWS x COLUMNS bytes, the header buffer holds the eight header columns, zap_links' two
    automatic arrays hold a row plus two blanks and the NUL, FLOF keys fit `nav_link[]` / `lop.link[]`, the TOP loops stay
    inside `btt_link[]`, `ait.title[]`, `title.text[]`, `national_subset[14][13]`. -/
theorem nav_extents_consistent :
    rows * extColumns ≤ textLen ∧ lastRow + extColumns ≤ textLen ∧ rows * columns ≤ rawLen ∧ l1HdrCols ≤ hdrBufLen ∧
    zapCols + 3 ≤ zapBufferLen ∧ zapCols + 3 ≤ zapLinkLen ∧ zapCols2 ≤ zapCols ∧ flofKeys ≤ navLinkLen ∧
    flofKeys ≤ lopLinkLen ∧ topBttLoop ≤ bttLinkLen ∧ topTitles ≤ aitTitleLen ∧ topTextLast < aitTextLen ∧
    tixTextLast < aitTextLen ∧ tuSubsetLimit ≤ nationalRows ∧ tuSubsetCols ≤ nationalCols ∧ satHi ≤ rows ∧
    (∀ i ∈ navHomeIdx, i < navLinkLen ∧ i < lopLinkLen) ∧ navPacket24 < intBits - 1 := by decide

example : textLen = 1056 ∧ zapBufferLen = 43 := by decide

/-- The guards the executable Level 1 model `Fmt/Model.lean` is written with (double height / double size only in rows 1 .. 22,
    double width store and box look-ahead only before the last column, eight header columns, 40 columns, row stride 41, raw
    stride 40, control codes up to 0x1F, the lower-half copy over 41 cells with stride 41) are the ones of the current source. -/
theorem l1_guards_match_model :
    l1DhRows = [0, 23, 0, 23] ∧ l1WideLast = 39 ∧ l1DwLast = 39 ∧ l1DsLast = 39 ∧ l1PeekLasts = [39, 39] ∧ l1HdrCols = 8 ∧
    l1ColLoop = 40 ∧ l1Col40 = 40 ∧ l1Stride = 41 ∧ l1RowSkip = 40 ∧ l1CharCtl = 31 ∧ l1LowerLoop = 41 ∧
    l1LowerStrides = [41, 41, 41, 41] ∧ hdrFormat = [2, 37, 120, 46, 37, 48, 50, 120, 7] ∧ sizeVals = [0, 1, 2, 3, 4, 5, 6, 7] ∧
    zapOffsets = [1, 0, 1, 2, 1] ∧ zapPads = [32, 32, 0] ∧ zapCharLo = 32 ∧ zapCharHi = 255 ∧ zapPad = 32 := by decide

example : l1DhRows.length = 4 := by decide

/-- **Level 1 character loop, all inputs.**  For every page content (`raw`: any 25 x 40 bytes, parity good or bad), every
    page / subpage number, flags, national option, character set designations, colour look-up offsets, EVERY `display_rows`
    (any `int`; saturated to 1 .. 25 as the C code does) and every iteration bound: each access the loop makes -
    `vtp->data.lop.raw[0][i]` (also the box look-ahead), `buf[column]`, `acp[column]`, `acp[column + 1]`, the double height copy
    into the row below, `pg->font[esc]`, `pg->page_opacity[row > 0]`, the arguments of `vbi_teletext_unicode` (character
    0x20 .. 0x7F, national subset < 14, a G0 set the function knows) and the index into the lang.c table it selects, the shift
    `1 << row` - is inside its object.  No `.oob` for any input. -/
theorem format_l1_in_range (p : PageIn) (displayRows : Int) (fuel : Nat) :
    ∀ a ∈ l1Acc p displayRows fuel, okAcc a :=
  pageAcc_ok p (saturate displayRows) (saturate_le displayRows).2 fuel 0

/-- not vacuous: a page of double-size letters in a Cyrillic font touches raw[999] and reads the G0 table -/
example : (Site.raw, 999) ∈ l1Acc { pgno := 0x100, subno := 0, flags := 0, national := 0, raw := fun _ => 0x20 } 25 26 := by
  decide +kernel

/-- `display_rows` is saturated into 1 .. ROWS whatever the caller passes -/
theorem display_rows_saturated (dr : Int) : 1 ≤ saturate dr ∧ saturate dr ≤ rows := saturate_le dr

example : saturate (-5) = 1 ∧ saturate 1000 = 25 ∧ saturate 7 = 7 := by decide

/-- the formatter selects only fonts `vbi_teletext_unicode` can handle, for every X/28 / M/29 designation byte and national option -/
theorem format_fonts_valid (code national : Nat) : FontOK (fontOf (charsetDesignation code national)) :=
  charsetDesignation_ok code national

example : FontOK (fontOf (charsetDesignation 0x24 0)) := charsetDesignation_ok _ _

/-- **keyword(), all inputs.**  On the buffer zap_links builds (blank, `len` bytes of ANY value, blank, NUL; `len <= 40`), called
    at any column `1 .. len`, for any page subno: no read outside the `len + 3` initialised bytes (in particular none behind
    the NUL; this is the code of defects F19 and F76 in the table of DESIGN.md, replays
    corpus/C01/F19-zap-links-double-width.ops and corpus/C17/keyword-digit-overflow.replay), no scan bound used up, the return
    value is at least 1 and does not pass the trailing blank, `*back` stays behind the leading blank, and the URL assembled in
    `ld->url[256]` is shorter than 7 + len + 2 bytes. -/
theorem keyword_in_range (buf : List Nat) (len : Nat) (wf : WF buf len) (col subno : Nat) (hc : 1 ≤ col) (hcl : col ≤ len) :
    ∃ r, keyword buf col subno = some r ∧ 1 ≤ r.n ∧ col + r.n ≤ len + 1 ∧ r.back + 1 ≤ col ∧ r.url + 1 < urlLen :=
  have := wf.fits
  have h1 : zapBufferLen = 43 := rfl
  have h2 : urlLen = 256 := rfl
  Yields.mono (keyword_good buf len wf col subno hc hcl) fun r hg => ⟨hg.pos, hg.stays, hg.back, by have := hg.url; omega⟩

/-- not vacuous: `x@y.de` - the e-mail case walks back over `x` and forward to the blank -/
example : keyword [0x20, 0x78, 0x40, 0x79, 0x2E, 0x64, 0x65, 0x20, 0] 2 0
    = some { n := 5, back := 1, linked := true, url := 7 + 1 + 1 + 4 } := by decide +kernel

/-- **zap_links(), all inputs.**  For every row content (any number of cells, any unicode, any size attribute) and every subno:
    `buffer[43]` is never indexed behind its initialised part, `link[43]` never outside 0 .. 42, `ld.url[]` never overrun, every
    loop ends within its bound; each of the (at most 40) cells gets a link value. -/
theorem zap_links_in_range (cells : List ZCell) (subno : Nat) :
    ∃ vs, zapLinks cells subno = some vs ∧ vs.length = min zapCols cells.length :=
  zapLinks_ok cells subno

example : (zapLinks ((List.range 40).map (fun i => ⟨0x30 + i % 10, 0⟩)) 0).isSome = true := by decide +kernel

/-- the TOP index path (`vbi_fetch_vt_page`, case 0x900) calls zap_links for every row 1 .. ROWS - 1: these rows and their 40
    cells are inside `pg->text[]` (row 24 x 41 + 39 = 1023) -/
theorem zap_links_rows_in_text_top_index (row i : Nat) (h : row < rows) (hi : i < zapCols) :
    zapStride * row + i < textLen := by
  simp only [zapStride, textLen, rows, zapCols] at *
  omega

example : zapStride * 24 + 39 = 1023 := by decide

/-- the rows `vbi_format_vt_page` calls zap_links for (1 .. MIN (ROWS - 1, display_rows) - 1) are among them for every
    `display_rows` -/
theorem zap_links_rows_in_text (dr row i : Nat) (_h1 : navZapFirst ≤ row) (h2 : row < min navZapLast dr) (hi : i < zapCols) :
    zapStride * row + i < textLen :=
  zap_links_rows_in_text_top_index row i (by have : navZapLast < rows := (by decide); omega) hi

example : zapStride * 23 + 39 < textLen := by decide

/-- Observation (not a memory error): when the last cells of a row are OVER_TOP / OVER_BOTTOM cells (a double width
    character in column 38), the third loop of zap_links reads `link[len]`, which no iteration stored: the `link` bit of
    those cells is an indeterminate automatic value (`none`). -/
theorem zap_links_uninitialised_link_counterexample :
    (zapLinksF false (List.replicate 39 ⟨0x41, 0⟩ ++ [⟨0x41, 4⟩]) 0).map (fun vs => vs.getD 39 (some false)) = some none := by
  decide +kernel

/-- With `link[]` cleared before the keyword loop (fixes/C01-zap-links-uninit-link.diff) every link attribute zap_links
    stores is a value it computed, for every row content: the formatted page is a function of the cached page. -/
theorem zap_links_link_defined_repaired (cells : List ZCell) (subno : Nat) :
    ∀ vs, zapLinksF true cells subno = some vs → ∀ v ∈ vs, v.isSome = true :=
  zapLinksF_cleared_allSome cells subno

example : (zapLinksF true (List.replicate 39 ⟨0x41, 0⟩ ++ [⟨0x41, 4⟩]) 0).map (fun vs => vs.getD 39 none) = some (some false) := by
  decide +kernel

/-- the current source is deterministic exactly when the regenerated flag says `link[]` is cleared -/
theorem zap_links_current_defined_iff :
    (∀ cells subno vs, zapLinks cells subno = some vs → ∀ v ∈ vs, v.isSome = true) ↔ zapLinkCleared = true := by
  constructor
  · intro h
    cases hc : zapLinkCleared with
    | true => rfl
    | false =>
      exfalso
      -- the row of `zap_links_uninitialised_link_counterexample`: its cell 39 gets `none`
      obtain ⟨vs, hvs, h39⟩ := Option.map_eq_some_iff.1 zap_links_uninitialised_link_counterexample
      rw [List.getD_eq_getElem?_getD] at h39
      cases hv : vs[39]? with
      | none => rw [hv] at h39; cases h39
      | some v =>
        rw [hv] at h39
        have := h _ 0 vs (by unfold zapLinks; rw [hc]; exact hvs) v (List.mem_of_getElem? hv)
        rw [show v = none from h39] at this
        cases this
  · intro hc cells subno vs h
    unfold zapLinks at h; rw [hc] at h
    exact zapLinksF_cleared_allSome cells subno vs h

example : zapLinkCleared = false ∨ zapLinkCleared = true := by cases zapLinkCleared <;> simp

/-- **flof_navigation_bar().**  Every store into `pg->text[]` (41 blanks, 4 x 3 digits), `pg->nav_index[]`, `pg->nav_link[]` and
    every read of `lop.link[]` is inside the array. -/
theorem flof_bar_in_range :
    (∀ i ∈ flofBarText, i < textLen) ∧ (∀ i ∈ flofBarNavIndex, i < navIndexLen) ∧
    (∀ i ∈ flofBarNavLink, i < navLinkLen ∧ i < lopLinkLen) := by decide

example : 984 + 35 ∈ flofBarText ∧ 35 ∈ flofBarNavIndex := by decide

/-- **flof_links(), all inputs.**  For every content of row 24 (colours, characters) and every link table: each `acp[i]`,
    `acp[j]` is inside `pg->text[]`, each `nav_index[j]` inside `nav_index[64]`, each `link[k]` / `nav_link[k]` inside its array. -/
theorem flof_links_in_range (fg uni : Nat → Nat) (noPage : Nat → Bool) :
    ∀ a ∈ flofLinksLog fg uni noPage, okFlof a :=
  flofLinksFrom_ok fg uni noPage flofLinksEnd 0 {} (by omega)

/-- not vacuous: a red prompt over the whole row marks cell 39 -/
example : (1, 39) ∈ flofLinksLog (fun _ => 1) (fun _ => 0x41) (fun _ => false) := by decide +kernel

/-- **top_label().**  For each of the three calls of top_navigation_bar (index / ff = 0/0, 2/2, 1/1) and every title (last
    non-blank character at any of the 12 positions, or none): every cell written in row 24 is inside `pg->text[]`, the same
    column indexes `pg->nav_index[64]`, `index` indexes `nav_link[6]`. -/
theorem top_label_in_range :
    ∀ call ∈ topCalls, ∀ v < topTextLast + 2, ∀ c ∈ topLabelCols call.1 call.2 (if v = 0 then none else some (v - 1)),
      topBase + c < textLen ∧ c < navIndexLen ∧ c < extColumns ∧ call.1 < navLinkLen := by decide +kernel

example : 39 ∈ topLabelCols 2 2 (some 9) := by decide

/-- the character handed to `vbi_teletext_unicode` by top_label / top_index / ait_title: parse_ait stores only successfully
    parity-decoded bytes into `title.text[]` (and the page starts cleared), so `(text < 0x20) ? 0x20 : text` is 0x20 .. 0x7F -/
theorem ait_text_char_in_range :
    ∀ b < 256, ∀ v, Zvbi.Hamm.unpar8 b = some v →
      tuCharLo ≤ (if v < topCharLo then topCharLo else v) ∧ (if v < topCharLo then topCharLo else v) ≤ tuCharHi := by
  intro b hb v h
  obtain ⟨hv, _⟩ := Zvbi.Hamm.unpar8_some b hb v h
  have : v ≤ 127 := by rw [hv]; exact Nat.and_le_right
  have a : tuCharLo = 32 := rfl
  have c : tuCharHi = 127 := rfl
  have d : topCharLo = 32 := rfl
  split <;> omega

example : Zvbi.Hamm.unpar8 0xC1 = some 0x41 := by decide

/-- **top_index() cells.**  The page fill, the double-size title (for the untranslated string) and, for every title line
    (either indent, any title length) in any of the rows the line counter admits (Props/C01Seq `top_index_rows_in_page`:
    4 .. 20; here: any row below ROWS), every cell written is inside `pg->text[]`. -/
theorem top_index_cells_in_range :
    tixFill ≤ textLen ∧ (∀ i ∈ topIndexTitle tixTitleLen, i < textLen) ∧
    (∀ k0 ∈ tixIndent, ∀ v < tixTextLast + 2, ∀ c ∈ topIndexCols k0 (if v = 0 then none else some (v - 1)),
       ∀ row < rows, tixStride * row + c < textLen) := by
  refine ⟨by decide, by decide, ?_⟩
  have h : ∀ k0 ∈ tixIndent, ∀ v < tixTextLast + 2, ∀ c ∈ topIndexCols k0 (if v = 0 then none else some (v - 1)),
      c < extColumns := by decide +kernel
  intro k0 hk v hv c hc row hrow
  have := h k0 hk v hv c hc
  simp only [tixStride, textLen, rows, extColumns] at *
  omega

example : 37 ∈ topIndexCols 3 (some 11) := by decide

end Zvbi.Props.C01Nav
