import ZvbiModel.Ttx.CacheJoin
import ZvbiModel.Ttx.FaultRun
import ZvbiModel.Props.C03Join
import ZvbiModel.Props.C10Evict
/-!
# C03 x C10 - whole-history refinement of the decoder's page list by the cache.c model (partial)

`Props/C03Join.lean` states the unconditional theorem (`C03Join.ttx_refined_by_cache_full`, an unproved `def`): run next
to the decoder (C03, `Zvbi.Ttx`) a cache.c state (C10, `Zvbi.Cache`) on which every operation of the decoder's trace of
cache operations is mirrored by the calls the decoder makes (`C03Join.mirrorOp`: look-up + release; page type write +
store + release; `vbi_chsw_reset`); then the retrievable entries of the decoder's network are the decoder's page list
(`C10Ttx.Sim`) after every history.

Proved here, by induction along the mirrored trace (`Ttx/CacheJoin.lean`), with the joint invariant
"the cache.c state satisfies the C10 invariant (`Cache.Good`), the decoder's network is on the cache's list and held by the
decoder (`Cache.Held`), and `Sim`".  One operation on both sides is `Cache.getPage_sim` / `Cache.putPageF_sim`, which hold in
any state with the C10 invariant (the mirrored states need not be exhibited as `Op` histories for them).

* `lookup_release_and_switch_simulated`: look-up + `cache_page_unref` and `vbi_chsw_reset` keep the joint invariant
  UNCONDITIONALLY.  References: the release right after a look-up changes no retrievable entry - the network is held, so
  the zombie-network check deletes nothing, and the memory the page gives back is what its reference had taken, so
  `delete_surplus_pages` is not entered.  Network found: `Held` is carried along; the network handed out by
  `_vbi_cache_add_network` is held.
* `store_simulated`: page type write + store + release keep it when the page type is a `uint8_t`, the page number is in
  0x100..0x8FF and there is room for the page.  Page type agreement is local (`Op.ptype` just before the store); with room
  the call does not fail (the death row holds at most the replaced version, no struct is reused), keeps every network, and
  hands out the newly inserted non-zombie page (`Cache.putPageF_after`), whose release then changes nothing.
* `ttx_refined_by_cache_partial`: the conclusion of the full statement for EVERY history; the page number range of every
  store is discharged from the decoder side (`C03.no_foreign_page_number`: the number is `mag8 * 256 + page` of an accepted
  header); two residual hypotheses remain, both about the trace `ops` the theorem provides.
* `mirror_is_op_run`, `mirrored_versions_bounded` (toward residual hypothesis 1): under the same hypotheses the mirrored
  state is a history of the C10 line protocol from `vbi_cache_new` (explicit `Op`s: `.get` + `.unref`; `.ptype` + `.put` +
  `.unref`; `.chsw`), so every C10 theorem about reachable states applies to it - e.g. at most 256 cached versions per
  page number (`C10Evict.version_bound_repaired`, current = repaired source shape).
* `memory_never_short_while_few_pages` (toward residual hypothesis 1): every `mirrorOp` keeps the C10 invariant and the
  1 GiB limit of `vbi_cache_new`, unconditionally; so `MemNeverShort` holds for every trace along which the mirrored
  cache holds at most 0x800 x 80 pages at each store (`CacheJoin.PagesFew`) - residual hypothesis 1 is reduced to counting
  pages.

## What remains open

1. `CacheJoin.MemNeverShort enc Cache.init.addNetwork ops` - at every store of the mirrored trace
   `memory_used + cache_page_size (p) <= memory_limit` (2^30 in C).  GENUINELY open.  When memory is short cache.c evicts
   pages of its choice, which the decoder's list (it never evicts) does not follow, so without a bound on what the decoder
   can have stored the full statement may even be false for exotic histories.  On the source shape as found with finding
   F17 it IS unbounded (`C10.page_bound_counterexample`: one more copy per pair of stores); the current source has the
   repaired shape (`putReplacesAllVersions = true`), for which `C10Evict.version_bound_repaired` gives at most 256 versions
   per page number - too coarse: 0x800 x 256 x 4504 bytes exceed 2^30; the bound cache.c asserts (80 per page number,
   `Cache.mem_room_0_2`) needs an invariant on the sub-page numbers the key rule stores, plus "all pages belong to the one
   network" across `vbi_chsw_reset` (`n_networks_limit` = 1: the old network is recycled).  Not done.
2. every page type the decoder passes to a store is below 256 (`uint8_t page_type` in C; `mirrorOp` writes it through
   `Op.ptype`, which truncates like the C member).  A property of the decoder model alone (`Net.stat` is written by the
   MIP / BTT / MPT parsers and `store_lop`); the trace of `Ttx/CacheTrace.lean` (`run_reach`) does not carry it.  Needs a
   statistics invariant over `Ttx.step`, no new idea.

Property theorems only (models `ZvbiModel/Ttx/Model.lean`, `ZvbiModel/Cache/Model.lean`).
-/
namespace Zvbi.Props.C03Refine
open Zvbi.Ttx Zvbi.Ttx.Spec Zvbi.Gen Zvbi.Gen.Cache
open Zvbi.Props.C03Join (mirrorOp mirror)
open Zvbi.CacheJoin (MemNeverShort)

/-- Let a cache.c state `acc.1` satisfy the C10 invariant, let the decoder's network `acc.2` be on its list and held, and
    let its retrievable entries of that network be the decoder's page list `c`.  Then all this holds again after the
    decoder's look-up (`_vbi_cache_get_page` with ANY arguments, followed by `cache_page_unref` of the page found: the
    release changes no retrievable entry) and after `vbi_chsw_reset` (the decoder continues on the network handed out,
    whose set of retrievable entries is empty like the decoder's list) - without any side condition. -/
theorem lookup_release_and_switch_simulated (enc : Page → Nat) (acc : Zvbi.Cache.State × Nat) (c : List Page)
    (hg : Zvbi.Cache.Good acc.1) (hh : Zvbi.Cache.Held acc.1 acc.2) (hs : C10Ttx.Sim acc.2 enc c acc.1) :
    (∀ pgno subno mask : Nat,
      Zvbi.Cache.Good (mirrorOp enc acc (.get pgno subno mask)).1
      ∧ Zvbi.Cache.Held (mirrorOp enc acc (.get pgno subno mask)).1 (mirrorOp enc acc (.get pgno subno mask)).2
      ∧ C10Ttx.Sim (mirrorOp enc acc (.get pgno subno mask)).2 enc (applyOp c (.get pgno subno mask))
          (mirrorOp enc acc (.get pgno subno mask)).1)
    ∧ (Zvbi.Cache.Good (mirrorOp enc acc .clear).1
      ∧ Zvbi.Cache.Held (mirrorOp enc acc .clear).1 (mirrorOp enc acc .clear).2
      ∧ C10Ttx.Sim (mirrorOp enc acc .clear).2 enc (applyOp c .clear) (mirrorOp enc acc .clear).1) := by
  have j : Zvbi.CacheJoin.J enc acc c := ⟨hg, hh, hs⟩
  refine ⟨fun pgno subno mask => ?_, ?_⟩
  · have := Zvbi.CacheJoin.step_get enc j pgno subno mask
    exact ⟨this.good, this.held, this.sim⟩
  · have := Zvbi.CacheJoin.step_clear enc j
    exact ⟨this.good, this.held, this.sim⟩

/-- non-vacuity: the start of every mirrored trace (`vbi_cache_new`, the decoder's first network) meets the three
    hypotheses with the empty list; and a look-up that finds a page is followed by a release that really happens: after
    store + release + look-up + release of page 123 the page is cached, unreferenced, and the memory it occupies is
    accounted for again. -/
example :
    Zvbi.Cache.Good Zvbi.Cache.init.addNetwork.1
    ∧ Zvbi.Cache.Held Zvbi.Cache.init.addNetwork.1 Zvbi.Cache.init.addNetwork.2
    ∧ C10Ttx.Sim Zvbi.Cache.init.addNetwork.2 (fun _ => 0) [] Zvbi.Cache.init.addNetwork.1
    ∧ ((mirror (fun _ => 0) [.put 1 { Page.zero with pgno := 0x123 }, .get 0x123 0 0]).1.pages.map
        fun q => (q.pgno, q.ref)) = [(0x123, 0)]
    ∧ (mirror (fun _ => 0) [.put 1 { Page.zero with pgno := 0x123 }, .get 0x123 0 0]).1.memUsed
        = Zvbi.Cache.pageSize 0 0 0 := by
  have j := Zvbi.CacheJoin.J_init (fun _ => 0)
  refine ⟨j.good, j.held, j.sim, ?_, ?_⟩ <;> decide +kernel

/-- Same three hypotheses; the decoder stores page `p` with page type `pt` (`mirrorOp`: the type is written to the
    statistics of the network, `_vbi_cache_put_page`, `cache_page_unref` of the page stored).  If the page type is below
    256 (`uint8_t`), the page number in 0x100..0x8FF and memory not short (`memory_used + cache_page_size (p) <=
    memory_limit`), then the store call returns, and the three hold again afterwards for the decoder's list after ITS store
    (replacement of the version(s) under the same key rule on both sides; a page number `xFF` is refused by both). -/
theorem store_simulated (enc : Page → Nat) (acc : Zvbi.Cache.State × Nat) (c : List Page)
    (hg : Zvbi.Cache.Good acc.1) (hh : Zvbi.Cache.Held acc.1 acc.2) (hs : C10Ttx.Sim acc.2 enc c acc.1)
    (pt : Nat) (p : Page) (hpt : pt < 256) (hrange : 0x100 ≤ p.pgno ∧ p.pgno ≤ 0x8FF)
    (hroom : acc.1.memUsed + Zvbi.Cache.pageSize p.function p.x26 p.x28 ≤ acc.1.memLimit) :
    (∀ e, (Zvbi.Cache.stepCur acc.1 (.ptype acc.2 p.pgno pt)).1.putPageF putReplacesAllVersions acc.2
        ⟨p.pgno, p.subno, p.function, p.x26, p.x28, enc (Zvbi.Cache.tstored pt p)⟩ ≠ .error e)
    ∧ Zvbi.Cache.Good (mirrorOp enc acc (.put pt p)).1
    ∧ Zvbi.Cache.Held (mirrorOp enc acc (.put pt p)).1 (mirrorOp enc acc (.put pt p)).2
    ∧ C10Ttx.Sim (mirrorOp enc acc (.put pt p)).2 enc (applyOp c (.put pt p)) (mirrorOp enc acc (.put pt p)).1 := by
  have j : Zvbi.CacheJoin.J enc acc c := ⟨hg, hh, hs⟩
  have hok := Zvbi.CacheJoin.storeOk_of_room enc j pt p hpt hrange hroom
  have := Zvbi.CacheJoin.step_put enc j pt p hok
  refine ⟨fun e he => ?_, this.good, this.held, this.sim⟩
  have h4 := hok.2.2.2
  rw [he] at h4
  exact h4

/-- non-vacuity: the first store into the new cache has room (the other hypotheses: example above), and so has a second
    store of the same page (replacement of the cached version); both sides then hold one version -/
example :
    Zvbi.Cache.init.addNetwork.1.memUsed + Zvbi.Cache.pageSize 0 0 0 ≤ Zvbi.Cache.init.addNetwork.1.memLimit
    ∧ (mirror (fun _ => 0) [.put 1 { Page.zero with pgno := 0x123, subno := 0x2359 }]).1.memUsed
        + Zvbi.Cache.pageSize 0 0 0 ≤ (mirror (fun _ => 0) [.put 1 { Page.zero with pgno := 0x123, subno := 0x2359 }]).1.memLimit
    ∧ (mirror (fun _ => 0) [.put 1 { Page.zero with pgno := 0x123, subno := 0x2359 },
        .put 1 { Page.zero with pgno := 0x123, subno := 0x2359 }]).1.pages.length = 1
    ∧ ([CacheOp.put 1 { Page.zero with pgno := 0x123, subno := 0x2359 },
        .put 1 { Page.zero with pgno := 0x123, subno := 0x2359 }].foldl applyOp []).length = 1 := by
  decide +kernel

/-- PARTIAL form of `C03Join.ttx_refined_by_cache_full`: over every history of packets (any bytes, handler on or off, any
    abstraction `enc` of the page content) the decoder's page list has a trace `ops` of cache operations (as in
    `C03Join.cache_evolves_by_cache_operations`: the list is the empty list with `ops` applied, every store in `ops` is
    announced by an `Event.put` of the history), every store of which is of a page number in 0x100..0x8FF, such that: IF
    every page type passed to a store is below 256 and memory is never short along the trace mirrored on the cache.c model
    (`MemNeverShort`; the two residual hypotheses, see the file header), THEN the cache.c model driven by the calls the
    decoder makes ends in a state that satisfies the C10 invariant, still has the decoder's network on its list, held, and
    whose retrievable entries of that network are exactly the decoder's page list. -/
theorem ttx_refined_by_cache_partial (on : Bool) (ps : List Packet) (enc : Page → Nat) :
    ∃ ops : List CacheOp,
      (run (init.enable on) ps).1.net.cache = ops.foldl applyOp [] ∧
      (∀ pt p, CacheOp.put pt p ∈ ops → Event.put p ∈ (run (init.enable on) ps).2 ∧ 0x100 ≤ p.pgno ∧ p.pgno ≤ 0x8FF) ∧
      ((∀ pt p, CacheOp.put pt p ∈ ops → pt < 256) →
        MemNeverShort enc Zvbi.Cache.init.addNetwork ops →
        Zvbi.Cache.Good (mirror enc ops).1 ∧ Zvbi.Cache.Held (mirror enc ops).1 (mirror enc ops).2 ∧
        C10Ttx.Sim (mirror enc ops).2 enc (run (init.enable on) ps).1.net.cache (mirror enc ops).1) := by
  obtain ⟨ops, h1, h2⟩ := C03Join.cache_evolves_by_cache_operations on ps
  have hr : ∀ pt p, CacheOp.put pt p ∈ ops → 0x100 ≤ p.pgno ∧ p.pgno ≤ 0x8FF := by
    intro pt p hp
    obtain ⟨_, pk, _, m, hk⟩ := h2 pt p hp
    exact hdrKey_pgnoOk pk m _ _ hk
  refine ⟨ops, h1, fun pt p hp => ⟨(h2 pt p hp).1, hr pt p hp⟩, fun hty hmem => ?_⟩
  have := (Zvbi.CacheJoin.J_trace_room enc ops _ _ (Zvbi.CacheJoin.J_init enc)
    (fun pt p hp => ⟨hty pt p hp, hr pt p hp⟩) hmem).1
  rw [h1]
  exact ⟨this.good, this.held, this.sim⟩

/-- non-vacuity: both residual hypotheses hold on the two-header history of `C03Join` (header of page 123 / 2359, then
    a header of page 120 of the same magazine), whose trace is: look-up, store of page 123 with page type 1, look-up; the
    mirrored state then holds exactly the entry 123 / 0. -/
example :
    let r := run (init.enable true) [C03.f21Tx, C03.f21Tx.set 2 21]
    let p := (r.2.filterMap fun e => match e with | Event.put q => some q | _ => none).getD 0 Page.zero
    let ops := [CacheOp.get 0x123 0x2359 0xFFFFFFFF, .put 1 p, .get 0x120 0x2359 0xFFFFFFFF]
    r.1.net.cache = ops.foldl applyOp []
    ∧ MemNeverShort (fun _ => 0) Zvbi.Cache.init.addNetwork ops
    ∧ ((mirror (fun _ => 0) ops).1.abs.map fun e => (e.net, e.pgno, e.subno)) = [(0, 0x123, 0)] := by
  decide +kernel

/-- ... and the page type hypothesis on that trace -/
example (p : Page) : ∀ pt q, CacheOp.put pt q ∈ [CacheOp.get 0x123 0x2359 0xFFFFFFFF, .put 1 p, .get 0x120 0x2359 0xFFFFFFFF]
    → pt < 256 := by
  intro pt q h
  simp at h
  omega

/-- Toward residual hypothesis 1.  For a trace `ops` whose stores have page types below 256 and page numbers in
    0x100..0x8FF and along which memory is never short, the mirrored cache.c state is a HISTORY of the cache.c model: the
    state after an explicit list of API calls (`Op`: `.addNet`, then per decoder operation `.get` + `.unref`, `.ptype` +
    `.put` + `.unref`, `.chsw`) from `vbi_cache_new`.  Hence every C10 theorem about reachable states holds of it. -/
theorem mirror_is_op_run (enc : Page → Nat) (ops : List CacheOp)
    (hty : ∀ pt p, CacheOp.put pt p ∈ ops → pt < 256 ∧ 0x100 ≤ p.pgno ∧ p.pgno ≤ 0x8FF)
    (hmem : MemNeverShort enc Zvbi.Cache.init.addNetwork ops) :
    ∃ l : List Zvbi.Cache.Op, (mirror enc ops).1 = Zvbi.Cache.runF putReplacesAllVersions Zvbi.Cache.init l :=
  (Zvbi.CacheJoin.J_trace_room enc ops _ _ (Zvbi.CacheJoin.J_init enc) hty hmem).2 Zvbi.CacheJoin.opRun_init

/-- non-vacuity: the list of API calls for one store -/
example :
    (mirror (fun _ => 0) [.put 1 { Page.zero with pgno := 0x123, subno := 0x2359 }]).1
      = Zvbi.Cache.runF putReplacesAllVersions Zvbi.Cache.init
          [.addNet, .ptype 0 0x123 1, .put 0 ⟨0x123, 0x2359, 0, 0, 0, 0⟩, .unref 0] := by
  decide +kernel

/-- ... in particular (current source: the repaired shape of `_vbi_cache_put_page`) the mirrored state holds at most 256
    cached versions of any one page number of any one network - the per-page-number half of a bound on what the decoder
    can have stored (the bound cache.c asserts, 80, and "all pages belong to the decoder's network" are still missing for
    `MemNeverShort`: 0x800 x 256 pages of `fullSize` bytes exceed 2^30). -/
theorem mirrored_versions_bounded (enc : Page → Nat) (ops : List CacheOp)
    (hty : ∀ pt p, CacheOp.put pt p ∈ ops → pt < 256 ∧ 0x100 ≤ p.pgno ∧ p.pgno ≤ 0x8FF)
    (hmem : MemNeverShort enc Zvbi.Cache.init.addNetwork ops) (nid pg : Nat) :
    (mirror enc ops).1.pages.countP (fun p => p.net = nid ∧ p.pgno = pg ∧ p.pri ≠ .zombie) ≤ 256 := by
  obtain ⟨l, e⟩ := mirror_is_op_run enc ops hty hmem
  rw [e]
  exact C10Evict.version_bound_repaired l nid pg

/-- non-vacuity: hypotheses as for `ttx_refined_by_cache_partial` (examples above); two stores of page 123 with sub-codes
    1 and 2 leave two cached versions of that page number -/
example :
    (mirror (fun _ => 0) [.put 1 { Page.zero with pgno := 0x123, subno := 1 },
        .put 1 { Page.zero with pgno := 0x123, subno := 2 }]).1.pages.countP
      (fun p => p.net = 0 ∧ p.pgno = 0x123 ∧ p.pri ≠ .zombie) = 2
    ∧ MemNeverShort (fun _ => 0) Zvbi.Cache.init.addNetwork [.put 1 { Page.zero with pgno := 0x123, subno := 1 },
        .put 1 { Page.zero with pgno := 0x123, subno := 2 }] := by
  decide +kernel

/-- Toward residual hypothesis 1: it is a matter of COUNTING pages.  For every trace of cache operations (no hypothesis on
    page types, page numbers, results of calls): if at each store the mirrored cache.c state holds at most 0x800 x 80
    pages (the bound cache.c asserts under CACHE_CONSISTENCY; every page takes at most `fullSize` = 4504 bytes), memory is
    never short along the mirrored trace.  (Every `mirrorOp` keeps the C10 invariant and the 1 GiB limit of
    `vbi_cache_new`.) -/
theorem memory_never_short_while_few_pages (enc : Page → Nat) (ops : List CacheOp)
    (hfew : Zvbi.CacheJoin.PagesFew enc Zvbi.Cache.init.addNetwork ops) :
    MemNeverShort enc Zvbi.Cache.init.addNetwork ops :=
  Zvbi.CacheJoin.memNeverShort_of_few enc ops _ Zvbi.CacheJoin.G_init hfew

/-- non-vacuity: the trace of the two-header history of `C03Join` holds few pages -/
example :
    let r := run (init.enable true) [C03.f21Tx, C03.f21Tx.set 2 21]
    let p := (r.2.filterMap fun e => match e with | Event.put q => some q | _ => none).getD 0 Page.zero
    Zvbi.CacheJoin.PagesFew (fun _ => 0) Zvbi.Cache.init.addNetwork
      [CacheOp.get 0x123 0x2359 0xFFFFFFFF, .put 1 p, .get 0x120 0x2359 0xFFFFFFFF] := by
  decide +kernel

end Zvbi.Props.C03Refine
