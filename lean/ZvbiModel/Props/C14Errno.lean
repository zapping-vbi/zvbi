import ZvbiModel.Pdc.LemmasErrno
/-!
# C14 - the error kind (errno) of the PIL -> time functions

`ZvbiModel/Pdc/Errno.lean` gives `valid_pil_lto_to_time` the result type `Except Err Int`
(`Err` = invalidPil | noTime | overflow | noMem, the value the C code leaves in errno) and models errno
after `valid_pil_lto_validity_window`, `localtime_tz` and the public 0.2 functions.  Theorems:
the errno model refines the value model of `Model.lean` (so every theorem of `Props/C14.lean` speaks
about it), each error kind has exactly the documented cause, and the two guards whose mutants
survive are unreachable for a 64-bit time_t.
-/
namespace Zvbi.Props.C14
open Zvbi.Pdc

/-- `valid_pil_lto_to_time` with the error kind (`Except Err Int`) and the value model
of `Model.lean` are the same function once the kind is forgotten - same value, same world - so
`lto_conversion`, `result_representable`, `valid_representable_succeeds` ... speak about it. -/
theorem lto_error_refines (cfg : Cfg) (L : Libc) (w : World) (pil : Nat) (start east : Int) :
    toLtoRes (validPilLtoToTimeE cfg L w pil start east).1 = (validPilLtoToTime cfg L w pil start east).1
    ∧ (validPilLtoToTimeE cfg L w pil start east).2 = (validPilLtoToTime cfg L w pil start east).2 := by
  rw [validPilLtoToTimeE_eq]
  exact ⟨rfl, rfl⟩

example : toLtoRes (validPilLtoToTimeE Generated.cfg { fails := fun _ _ => false, now := 0, zoneOf := fun _ => utcZone }
    { env := none, libc := none, heap := 0, restoreFailed := false, calls := fun _ => 0 }
    (mkPil 6 15 12 30) 1000000000 3600).1 = .ok 992604600 := by decide +kernel

/-- The conversion fails with VBI_ERR_NO_TIME exactly when it was asked to use the system
time (`start` = (time_t) -1) and `time()` failed (or returned (time_t) -1); nothing else is touched. -/
theorem no_time_kind (cfg : Cfg) (L : Libc) (w : World) (pil : Nat) (start east : Int) :
    (validPilLtoToTimeE cfg L w pil start east).1 = .error .noTime
    ↔ (start = -1 ∧ (L.fails .time (w.calls .time + 1) = true ∨ L.now = -1)) := by
  apply validPilLtoToTime_cases (P := fun _ qE => qE.1 = .error .noTime ↔ _)
  case htime => exact fun w1 hs => ⟨fun _ => (startOrNow_neg_one hs).1 rfl, fun _ => rfl⟩
  case hguard => exact fun s w1 hs hne _ => ⟨nofun, fun h => absurd ((startOrNow_neg_one hs).2 h) hne⟩
  case hgmtime => exact fun s w1 hs hne _ _ => ⟨nofun, fun h => absurd ((startOrNow_neg_one hs).2 h) hne⟩
  case hconv =>
    exact fun s w1 tm0 hs hne _ _ _ =>
      ⟨fun h => absurd h (ltoFromTmE_spec ..).2, fun h => absurd ((startOrNow_neg_one hs).2 h) hne⟩

example : errnoOf (validPilLtoToTimeE Generated.cfg { fails := fun s k => s == .time && k == 1, now := 0, zoneOf := fun _ => utcZone }
    { env := none, libc := none, heap := 0, restoreFailed := false, calls := fun _ => 0 }
    (mkPil 6 15 12 30) (-1) 3600).1 = Err.noTime.toErrno := by decide +kernel

/-- A reference time that cannot be moved by the offset without leaving time_t fails with
EOVERFLOW before any libc call - near TIME_MAX for offsets east of UTC, near TIME_MIN for offsets west
(guards as in the current source, `cfg.epochIn = false`). -/
theorem overflow_kind (cfg : Cfg) (L : Libc) (w : World) (pil : Nat) (start east : Int)
    (hin : cfg.epochIn = false) (hs : start ≠ -1)
    (h : (0 ≤ east ∧ TIME_MAX < start + east) ∨ (east < 0 ∧ start + east < TIME_MIN)) :
    validPilLtoToTimeE cfg L w pil start east = (.error .overflow, w) := by
  have hg : guardIn cfg start east = true := by
    unfold guardIn
    rcases h with ⟨h0, h1⟩ | ⟨h0, h1⟩
    · have : ¬ east < 0 := by omega
      simp only [this, if_false]; simp; omega
    · simp only [h0, if_true, hin]; simp; omega
  have hst := startOrNow_given L w hs
  apply validPilLtoToTime_cases (P := fun _ qE => qE = (.error .overflow, w))
  case htime => exact fun w1 h => absurd (congrArg Prod.fst (hst.symm.trans h)) hs
  case hguard => intro s w1 h _ _; cases hst.symm.trans h; rfl
  case hgmtime => intro s w1 h _ hg'; cases hst.symm.trans h; rw [hg] at hg'; cases hg'
  case hconv => intro s w1 tm0 h _ hg'; cases hst.symm.trans h; rw [hg] at hg'; cases hg'

example : validPilLtoToTimeE Generated.cfg { fails := fun _ _ => false, now := 0, zoneOf := fun _ => utcZone }
    { env := none, libc := none, heap := 0, restoreFailed := false, calls := fun _ => 0 }
    (mkPil 6 15 12 30) TIME_MAX 1 = (.error .overflow, { env := none, libc := none, heap := 0, restoreFailed := false, calls := fun _ => 0 })
  ∧ (validPilLtoToTimeE Generated.cfg { fails := fun _ _ => false, now := 0, zoneOf := fun _ => utcZone }
    { env := none, libc := none, heap := 0, restoreFailed := false, calls := fun _ => 0 }
    (mkPil 6 15 12 30) TIME_MIN (-1)).1 = .error .overflow :=
  ⟨overflow_kind _ _ _ _ _ _ rfl (by decide) (Or.inl (by decide)), by
    rw [overflow_kind _ _ _ _ _ _ rfl (by decide) (Or.inr (by decide))]⟩

/-- VBI_ERR_INVALID_PIL is reported for exactly one reason: the date picked by the
nearest-year rule fails the leap-day check (29 February of a non-leap year). -/
theorem invalid_pil_kind (cfg : Cfg) (L : Libc) (w : World) (pil : Nat) (start east : Int)
    (h : (validPilLtoToTimeE cfg L w pil start east).1 = .error .invalidPil) :
    ∃ tm0 tm1, utcZone.toLocal (refTime L start + east) = some tm0 ∧ tmMonMdayFromPil tm0 pil = some tm1
      ∧ tmLeapDayCheck tm1 = false := by
  have hold := (lto_error_refines cfg L w pil start east).1
  rw [h] at hold
  obtain ⟨tm0, w1, h0, _, h1⟩ := validPilLtoToTime_val cfg L w pil start east .invalidPil (by simp) hold.symm
  obtain ⟨tm1, h2, h3⟩ := ltoFromTm_invalid cfg L w1 tm0 pil east h1
  exact ⟨tm0, tm1, h0, h2, h3⟩

example : toLtoRes (validPilLtoToTimeE Generated.cfg { fails := fun _ _ => false, now := 0, zoneOf := fun _ => utcZone }
    { env := none, libc := none, heap := 0, restoreFailed := false, calls := fun _ => 0 }
    (mkPil 2 29 12 30) 1000000000 0).1 = .invalidPil := by decide +kernel

/-- For a 64-bit time_t the second pair of guards of `valid_pil_lto_to_time`
(pdc.c:688-700, `start < TIME_MIN + seconds_east` / `start > TIME_MAX + seconds_east`) and both guards of
`valid_pil_lto_validity_window` can never fire: the value `timegm` returns for a valid civil time with an
`int` year is within +-7*10^16 s and the offset is an `int`.  (Mutants of these statements, e.g.
`return (time_t) -0`, are equivalent; the statements matter for a 32-bit time_t only.) -/
theorem guards_dead (cfg : Cfg) (tm : Tm) (east : Int) (hout : cfg.epochOut = false) (hwin : cfg.epochWin = false)
    (hv : tm.validCivil) (hy0 : INT_MIN ≤ tm.year) (hy1 : tm.year ≤ INT_MAX) (he0 : INT_MIN ≤ east) (he1 : east ≤ INT_MAX) :
    guardOut cfg (secsFromTm tm) east = false
    ∧ ¬ (secsFromTm tm - east > TIME_MAX - 28 * 60 * 60)
    ∧ guardWin cfg (secsFromTm tm - east) = false := by
  obtain ⟨b0, b1⟩ := secsFromTm_bound tm hv hy0 hy1
  unfold INT_MIN at he0; unfold INT_MAX at he1
  refine ⟨?_, ?_, ?_⟩
  · exact guardOut_false cfg _ east hout b0 b1 he0 he1
  · unfold TIME_MAX; omega
  · unfold guardWin TIME_MIN
    simp only [hwin]; simp; omega

/-- `valid_pil_lto_validity_window` computes the window of the value model
(`validPilLtoValidityWindow`) and the same world; it answers with the indefinite window exactly when the
conversion of the PIL's day failed with VBI_ERR_INVALID_PIL - every other error kind is FALSE, and errno
still names the kind. -/
theorem window_error_kinds (cfg : Cfg) (L : Libc) (w : World) (pil : Nat) (start east : Int) :
    (validPilLtoValidityWindowE cfg L w pil start east).1 = (validPilLtoValidityWindow cfg L w pil start east).1
    ∧ (validPilLtoValidityWindowE cfg L w pil start east).2.2 = (validPilLtoValidityWindow cfg L w pil start east).2
    ∧ (∀ k, (validPilLtoToTimeE cfg L w (pil &&& mkPil 15 31 0 0) start east).1 = .error k →
        (validPilLtoValidityWindowE cfg L w pil start east).2.1 = k.toErrno
        ∧ ((validPilLtoValidityWindowE cfg L w pil start east).1 = some (TIME_MIN, TIME_MAX) ↔ k = .invalidPil)
        ∧ (k ≠ .invalidPil → (validPilLtoValidityWindowE cfg L w pil start east).1 = none)) := by
  unfold validPilLtoValidityWindowE validPilLtoValidityWindow
  rw [validPilLtoToTimeE_eq]
  rcases validPilLtoToTimeE cfg L w (pil &&& mkPil 15 31 0 0) start east with ⟨rE, wE⟩
  cases rE with
  | ok t =>
    simp only [toLtoRes]
    exact ⟨by simp only [apply_ite Prod.fst], by simp only [apply_ite Prod.snd], fun k hk => by cases hk⟩
  | error k =>
    cases k <;> simp [toLtoRes]

example : (validPilLtoValidityWindowE Generated.cfg { fails := fun _ _ => false, now := 0, zoneOf := fun _ => utcZone }
    { env := none, libc := none, heap := 0, restoreFailed := false, calls := fun _ => 0 }
    (mkPil 2 29 12 30) 1000000000 0).1 = some (TIME_MIN, TIME_MAX) := by decide +kernel

/-- `localtime_tz` leaves errno = 0 exactly when it returns TRUE; a failure names its
cause: ENOMEM (the TZ switch or its restoring failed), VBI_ERR_NO_TIME (no system time) or EOVERFLOW
(`localtime_r`). -/
theorem localtime_tz_kinds (L : Libc) (w : World) (t : Int) (tz : Option String) :
    ((localtimeTz L w t tz).1.isSome ↔ localtimeTzErrno L w t tz = 0)
    ∧ (localtimeTzErrno L w t tz = 0 ∨ localtimeTzErrno L w t tz = Err.noMem.toErrno
       ∨ localtimeTzErrno L w t tz = Err.noTime.toErrno ∨ localtimeTzErrno L w t tz = Err.overflow.toErrno) := by
  have nz := Err.toErrno_ne_zero
  have rest : ∀ (w : World) (old : Option String) (g : Bool),
      ((localtimeTzRest L w t old g).1.isSome ↔ localtimeTzRestErrno L w t old g = 0)
      ∧ (localtimeTzRestErrno L w t old g = 0 ∨ localtimeTzRestErrno L w t old g = Err.noMem.toErrno
         ∨ localtimeTzRestErrno L w t old g = Err.noTime.toErrno ∨ localtimeTzRestErrno L w t old g = Err.overflow.toErrno) := by
    intro w old g
    apply localtimeTzRest_cases (P := fun q e => (q.1.isSome ↔ e = 0) ∧ (e = 0 ∨ e = _ ∨ e = _ ∨ e = _))
    case htime =>
      intro w1 _
      cases (restoreTz L w1 old g).1
      · exact ⟨⟨nofun, fun h => absurd h (nz .noMem)⟩, Or.inr (Or.inl rfl)⟩
      · exact ⟨⟨nofun, fun h => absurd h (nz .noTime)⟩, Or.inr (Or.inr (Or.inl rfl))⟩
    case hlocal =>
      intro s w1 _ _ _
      cases (restoreTz L (w1.call L .localtime).2 old g).1
      · exact ⟨⟨nofun, fun h => absurd h (nz .noMem)⟩, Or.inr (Or.inl rfl)⟩
      · exact ⟨⟨nofun, fun h => absurd h (nz .overflow)⟩, Or.inr (Or.inr (Or.inr rfl))⟩
    case hok => exact fun _ _ _ _ _ _ _ => ⟨⟨fun _ => rfl, fun _ => rfl⟩, Or.inl rfl⟩
  apply localtimeTz_cases (P := fun q e => (q.1.isSome ↔ e = 0) ∧ (e = 0 ∨ e = _ ∨ e = _ ∨ e = _))
  case hnone => exact fun _ => rest w none false
  case hchange => exact fun _ _ _ _ _ => ⟨⟨nofun, fun h => absurd h (nz .noMem)⟩, Or.inr (Or.inl rfl)⟩
  case hrest => exact fun _ old w1 _ _ => rest w1 old true

/-- After the public `vbi_pty_validity_window` errno is 0, with one exception the code has: when
`mktime` failed and then the restoring `setenv` failed too, the function returns FALSE without the reset and
errno is ENOMEM. -/
theorem pty_errno (L : Libc) (w : World) (t : Int) (tz : Option String) :
    vbiPtyValidityWindowErrno L w t tz = 0
    ∨ (vbiPtyValidityWindowErrno L w t tz = Err.noMem.toErrno ∧ (vbiPtyValidityWindow L w t tz).1 = none) := by
  refine vbiPtyValidityWindow_cases L w t tz (P := fun q e => e = 0 ∨ (e = Err.noMem.toErrno ∧ q.1 = none))
    (hutc := fun _ => Or.inl rfl) (hlocal := fun _ _ _ _ => Or.inl rfl) (hpty := ?_)
  intro tm old w1 e w2 _ _ _
  by_cases he : e = -1
  · rw [if_pos he, if_pos he, leave_fail]
    cases (restoreTz L w2 old tz.isSome).1
    · exact Or.inr ⟨rfl, rfl⟩
    · exact Or.inl rfl
  · exact Or.inl (if_neg he)

example : vbiPtyValidityWindowErrno { fails := fun s k => (s == .mktime && k == 1) || (s == .setenv && k == 2), now := 0, zoneOf := fun _ => fixedZone 3600 }
    { env := some "BBB+5", libc := some "BBB+5", heap := 0, restoreFailed := false, calls := fun _ => 0 }
    1000000000 (some "AAA-1") = Err.noMem.toErrno := by decide +kernel

/-- `invalid_fails` with the error kind: a PIL without a real date or time makes both
public conversions return (time_t) -1 before any libc call, with errno 0 in the 0.2 API
(VBI_ERR_INVALID_PIL is compiled for `VBI_VERSION_MINOR == 3` only); inside the library the kind
`invalidPil` has a single source, the leap-day check (`invalid_pil_kind`), and it is what turns a refused
conversion into the indefinite window (`window_error_kinds`). -/
theorem invalid_fails_kind (cfg : Cfg) (L : Libc) (w : World) (pil : Nat) (start east : Int) (tz : Option String)
    (h : pilIsValidDate pil = false) :
    vbiPilLtoToTime cfg L w pil start east = (-1, w) ∧ vbiPilToTime cfg L w pil start tz = (-1, w)
    ∧ convErrno = 0 ∧ Err.invalidPil.toErrno = Generated.errNoTime + 1 := by
  exact ⟨(invalid_returns cfg L w pil start east tz h).1, (invalid_returns cfg L w pil start east tz h).2, rfl, by decide⟩

example : pilIsValidDate (mkPil 2 30 0 0) = false ∧ pilIsValidDate (mkPil 6 15 24 0) = false := by decide +kernel

/-- The 0.2 API (`VBI_VERSION_MINOR` = 2, regenerated) resets errno: 0 after every
conversion; after a window function 0, or the value it had before the call (`e0`) when the PIL's class
alone decides (indefinite window, no libc call). -/
theorem public_errno (pil : Nat) (e0 : Int) :
    convErrno = 0 ∧ Generated.versionMinor = 2
    ∧ (classifyPil pil = .indefinite → winErrno pil e0 = e0)
    ∧ (classifyPil pil ≠ .indefinite → winErrno pil e0 = 0) := by
  refine ⟨rfl, rfl, ?_, ?_⟩
  · intro h; unfold winErrno; rw [h]
  · intro h; unfold winErrno
    cases hc : classifyPil pil <;> simp_all

end Zvbi.Props.C14
