import ZvbiModel.Ttx.OwnAux
import ZvbiModel.Props.C02Chain
import ZvbiModel.Props.C02Flof
/-!
# Property C02: the page's OWN packets X/26, X/27, X/28 (and M/29 of its magazine) between its rows

`Ttx.Item.ownx k p` admits the page's own packets 26..29 anywhere between its rows, in
`C02Interleave.interleaved_page_roundtrip`, `C02Chain.page_roundtrip_cycle`, `page_roundtrip_cycle_fetch`.  One sender-side
exclusion: X/28 with designation code 3 - it declares the page a DRCS page, and
packet.c `parse_28_29` then DISCARDS a page that was opened as a text page (no defect: the sender contradicts itself).

* `own_aux_keeps_rows`: what such a packet can change in the decoder (lemma `Ttx.own_aux_step`).
* `own_x27_links_in_progress`: an own X/27/0 packet files the six FLOF links in the page in progress exactly as
  `C02Flof.x27_links_filed` says, and nothing of the rows / numbers / flags moves.
* the cycle theorems are APPLIED to a cycle whose first page receives X/28/0, X/27/0 and X/26/0 between its rows.

* `page_roundtrip_cycle_links`: the cache entry of a page of the cycle carries the FLOF links and the X/28 record of the
  page in progress at the moment its terminating header arrived (clause 5 of `C02Chain.PageClaim`; lemma chain
  `Ttx/CarriesAux.lean`: `lop_parity_check` touches rows only, `store_lop` hands the page to `_vbi_cache_put_page`, which
  copies it up to `cache_page_size`).

Not proved (see NOTES/C02.md): that the rows / X/26 / X/28 / foreign packets FOLLOWING an own X/27 packet in the same
transmission keep `link[]` (only `parse_27` and the header branch write it; `AuxKept` does not say so).  The serial-mode
cycle theorem states neither the own packets nor the link / extension clause (`Ttx.Mode.cycle` delivers the latter at
`Ttx.serMode` as at every mode).  On the C code the whole path is judged by the network oracle (FLOF links and X/28/0
pages of every generated transmission).
-/
namespace Zvbi.Props.C02Own
open Zvbi.Ttx Zvbi.Hamm Zvbi.Props.C02Roundtrip Zvbi.Props.C02Interleave Zvbi.Props.C02Chain

/-- **own_aux_keeps_rows**: one `vbi_decode` frame carrying a packet number 26..29 (X/26, X/27, X/28 with a designation
other than 3, M/29) of magazine `m`, arriving while the page in progress of `m` is a Level 1 text page (8 slots, handler
registered, no channel-switch countdown).  Then in slot `m` the page function, page and sub-page number, national
option, control bits, the rows of the page record, the rows collected so far (`lop_raw`) and the `lop_packets` bits are
unchanged (`AuxKept`; what may differ: enhancement triplets, FLOF links, extension record and their designation masks);
every other slot, the reference header, `vt.current` are unchanged (`Quiet`); the cache chain is unchanged; no TTX_PAGE
event and no channel switch is signalled. -/
theorem own_aux_keeps_rows (s : St) (p : Packet) (m k : Nat) (hp : IsPacket p m k) (hk : IsAux p k)
    (hcd : s.chswcd = 0) (hmask : s.mask = true) (hfn : (s.rp m).page.function = FN_LOP) (hl : m < s.raw.length) :
    AuxKept (s.rp m) ((step s p).1.rp m) ∧ (step s p).1.net.cache = s.net.cache
      ∧ Quiet (tick s) (step s p).1 m ∧ ttxPages (step s p).2 = [] ∧ Event.chsw ∉ (step s p).2 := by
  obtain ⟨a1, a2, a3, a4⟩ := own_aux_step s p m k hp hk hcd hmask hfn hl
  exact ⟨a1, a2, a3, a4.pages, a4.nochsw⟩

/-- an X/27/0 packet of magazine 1 carrying six times the link 350/0001 (relative magazine 2), control bits 0xF -/
def x27p : Packet := Zvbi.Props.C02.addrBytes 1 27 ++ [ham8 0] ++
  (List.replicate 6 (Zvbi.Fmt.encLink 0 5 1 0 0 0 2)).flatten ++ [ham8 0xF, 0, 0]
/-- X/26/0 and X/28/0 of magazine 1 (designation 0, triplet bytes all zero) -/
def x26p : Packet := Zvbi.Props.C02.addrBytes 1 26 ++ [ham8 0] ++ List.replicate 39 0
def x28p : Packet := Zvbi.Props.C02.addrBytes 1 28 ++ [ham8 0] ++ List.replicate 39 0

/-- non-vacuity: the three packets are admissible own items, and X/28/3 is not -/
example : IsPacket x27p 1 27 ∧ IsAux x27p 27 ∧ IsPacket x26p 1 26 ∧ IsAux x26p 26 ∧ IsPacket x28p 1 28 ∧ IsAux x28p 28
    ∧ ¬ IsAux (Zvbi.Props.C02.addrBytes 1 28 ++ [ham8 3] ++ List.replicate 39 0) 28 := by
  refine ⟨⟨by decide, by decide, by decide +kernel⟩, ⟨by decide, by decide, fun h => absurd h (by decide)⟩,
    ⟨by decide, by decide, by decide +kernel⟩, ⟨by decide, by decide, fun h => absurd h (by decide)⟩,
    ⟨by decide, by decide, by decide +kernel⟩, ⟨by decide, by decide, fun _ => by decide +kernel⟩, ?_⟩
  intro h
  exact h.2.2 rfl (by decide +kernel)

/-- **own_x27_links_in_progress**: a packet X/27 with designation code 0 of magazine `m`, arriving while the page in
progress of `m` is a text page, whose six links are sent as EN 300 706 9.6.1 prescribes (`links i`: page units, tens,
S1, S2 + M1, S3, S4 + M2 + M3, every group decoding to the nibble sent) and whose link control byte decodes to `ctl`.
After that frame the page in progress has `have_flof` = `ctl >> 3`, `link[i]` = (magazine of the packet XOR relative
magazine with 0 -> 8, tens, units; sub-code S4S3S2S1) for i = 0..5, links 6.. as before - and function, numbers,
national option, control bits, rows, collected rows and `lop_packets` as before (`AuxKept`). -/
theorem own_x27_links_in_progress (s : St) (p : Packet) (m ctl : Nat) (links : Nat → C02Flof.TxLink)
    (hp : IsPacket p m 27) (hcd : s.chswcd = 0) (hmask : s.mask = true)
    (hfn : (s.rp m).page.function = FN_LOP) (hl : m < s.raw.length) (hlen : 6 ≤ (s.rp m).page.link.length)
    (hd : a8 p 2 = some 0) (hc : (view Kind.x27a p).g8 37 = some ctl) (hok : ∀ i, i < 6 → (links i).ok)
    (hn : ∀ i, i < 6 → ∀ k, k < 6 → (view Kind.x27a p).g8 (1 + 6 * i + k) = some ((links i).nibbles.getD k 0)) :
    AuxKept (s.rp m) ((step s p).1.rp m)
    ∧ ((step s p).1.rp m).page.haveFlof = ctl >>> 3
    ∧ (∀ i, i < 6 → (((step s p).1.rp m).page.link.getD i Link.ff).pgno = ((links i).pgno m : Int)
        ∧ (((step s p).1.rp m).page.link.getD i Link.ff).subno = ((links i).subno : Int))
    ∧ (∀ j, 6 ≤ j → ((step s p).1.rp m).page.link.getD j Link.ff = (s.rp m).page.link.getD j Link.ff) := by
  have hstep := own_x27_step s p m 0 hp hcd hmask hfn hd (by omega)
  have hd' : (view Kind.x27a p).g8 0 = some 0 := by rw [view_x27a_g8_0]; exact hd
  obtain ⟨_, x2, _, x4, x5, _⟩ := C02Flof.x27_links_filed (s.rp m).page (view Kind.x27a p) m ctl links
    (by rw [hfn]; decide) hlen hd' hc hok hn
  have hrp : ((step s p).1.rp m).page = (parse27 (s.rp m).page (view Kind.x27a p) m).1 := by
    rw [hstep, rp_setPage_same (tick s) m _ hl]
    rfl
  refine ⟨(own_aux_step s p m 27 hp ⟨by decide, by decide, fun h => absurd h (by decide)⟩ hcd hmask hfn hl).1, ?_, ?_, ?_⟩
  · rw [hrp]; exact x2
  · intro i hi; rw [hrp]; exact x4 i hi
  · intro j hj; rw [hrp]; exact x5 j hj

/-- magazine 1 sends page 100 with X/28/0, row 1, X/27/0, (header of 250 of magazine 2), X/26/0, row 2; then 101 -/
def own0 : Seg := ⟨⟨1, 0x00, 0, 0, 0⟩, hd 1 0x00,
  [.ownx 28 x28p, .own 1 (rowPkt 1 1 0xC1), .ownx 27 x27p, .foreign 2 0 (hd 2 0x50), .ownx 26 x26p, .own 2 (rowPkt 1 2 0x45)]⟩
def own1 : Seg := ⟨⟨1, 0x01, 0, 0, 0⟩, hd 1 0x01, [.own 3 (rowPkt 1 3 0xC2)]⟩

theorem own_cycle_ok : ∀ x ∈ [own0, own1], SegOk cycTmpl 8 1 x :=
  have : ∀ x ∈ [own0, own1], segOkB cycTmpl 8 1 x = true := by decide +kernel
  fun x hx => segOk_of_dec _ _ _ x (this x hx)

/-- non-vacuity of `own_x27_links_in_progress` on the model: after header, X/28/0, row 1 and the X/27/0 packet the page
    in progress of magazine 1 has `have_flof` = 1, link 0 = 350/0001, and still row 1 as received -/
example :
    let s := (run (init.enable true) [hd 1 0x00, x28p, rowPkt 1 1 0xC1, x27p]).1
    (s.rp 1).page.haveFlof = 1
    ∧ (((s.rp 1).page.link.getD 0 Link.ff).pgno, ((s.rp 1).page.link.getD 0 Link.ff).subno) = (0x350, 1)
    ∧ (s.rp 1).lopRaw.getD 1 [] = List.replicate 40 0xC1 ∧ (s.rp 1).page.function = FN_LOP := by
  decide +kernel

/-- `page_roundtrip_cycle_fetch` APPLIES to a cycle whose first page receives its own X/28/0, X/27/0 and X/26/0 packets
    between its rows (every hypothesis discharged): page 100 is fetched with rows 1 and 2 as sent -/
example : ∃ q cells, C02.fetch (run (run (init.enable true) []).1 (stream [own0, own1] ++ [hd 1 0xFF])).1 0 0x100 ANY_SUBNO
      = some (0x100, q.subno, cells)
    ∧ (∀ c, c < 40 → (C02.pageInOf 0 q).raw (40 * 1 + c) = 0xC1)
    ∧ ∀ c, c < 40 → (C02.pageInOf 0 q).raw (40 * 2 + c) = 0x45 := by
  obtain ⟨q, _, hfetch, hrows⟩ := page_roundtrip_cycle_fetch cycTmpl 8 1 (by decide) [] (fun _ h => by cases h) own0 [own1] own_cycle_ok
    (hd 1 0xFF) 0xFF (by decide +kernel) (by decide +kernel) (textOnly_of_dec _ (by decide +kernel))
    ⟨by decide, by decide, trivial⟩ 0 [] own0 [own1] rfl (by decide) (by decide)
  obtain ⟨cells, hc, _⟩ := hfetch ANY_SUBNO (Or.inr rfl)
  exact ⟨q, cells, hc, shown_replicate 1 0xC1 hrows (by decide +kernel) (by decide +kernel),
    shown_replicate 2 0x45 hrows (by decide +kernel) (by decide +kernel)⟩

/-- **page_roundtrip_cycle_links**: under the hypotheses of `C02Chain.page_roundtrip_cycle` (parallel mode, cycle of
transmissions of magazine `m` with own rows, own X/26 / X/27 / X/28 / M/29 packets and good traffic of the other seven
magazines between them), for the LAST transmission `x` of a page number: the entry a wildcard sub-page fetch finds in
the final cache has `link[]` and `have_flof` (the FLOF links `vbi_fetch_vt_page` reports in `nav_link`:
`C02Flof.nav_link_flof`), `x28_designations` and - when X/28/0, /1 or /4 was received - the extension record (what
`C02Std.fetchX_refines_L1Spec` formats with) of the page in progress at the moment the header terminating `x` arrived
(`sT`).  What an own X/27/0 packet files there: `own_x27_links_in_progress`. -/
theorem page_roundtrip_cycle_links (tmpl : List Nat) (off m : Nat) (hm : m < 8)
    (hist : List Packet) (hhist : ∀ p ∈ hist, Good tmpl off p)
    (x0 : Seg) (xs : List Seg) (hx : ∀ x ∈ x0 :: xs, SegOk tmpl off m x)
    (fin : Packet) (finPage : Nat) (hfa : a16 fin 0 = some m) (hfp : a16 fin 2 = some finPage) (hft : TextOnly fin)
    (halt : Alt ((x0 :: xs).map (·.t.page) ++ [finPage]))
    (pre : List Seg) (x : Seg) (post : List Seg) (e : x0 :: xs = pre ++ x :: post)
    (hlast : ∀ y ∈ post, y.t.page ≠ x.t.page) (hfinne : finPage ≠ x.t.page) :
    let s := (run (init.enable true) hist).1
    let sF := (run s (stream (x0 :: xs) ++ [fin])).1
    let sT := (run (run s (stream pre)).1 x.pkts).1
    ∃ q, (cacheGet sF.net.cache x.t.pgno ANY_SUBNO 0).map (·.1) = some q
      ∧ q.link = (sT.rp m).page.link ∧ q.haveFlof = (sT.rp m).page.haveFlof ∧ q.x28 = (sT.rp m).page.x28
      ∧ ((sT.rp m).page.x28 &&& 0x13 ≠ 0 → q.ext = (sT.rp m).page.ext) := by
  intro s sF sT
  obtain ⟨_, hclaims⟩ := page_roundtrip_cycle tmpl off m hm hist hhist x0 xs hx fin finPage hfa hfp hft halt
  obtain ⟨q, pt, hF, _, hknown, _, hcar⟩ := hclaims pre x post e
  obtain ⟨_, hget⟩ := hknown hlast hfinne
  exact ⟨q, hget ANY_SUBNO 0 (Or.inr rfl), hcar.link, hcar.flof, hcar.x28, hcar.ext⟩

/-- `page_roundtrip_cycle_links` APPLIES to the cycle above: the fetched page 100 has the links of the page in progress -/
example : ∃ q, (cacheGet (run (run (init.enable true) []).1 (stream [own0, own1] ++ [hd 1 0xFF])).1.net.cache 0x100 ANY_SUBNO 0).map (·.1)
      = some q ∧ q.haveFlof = 1 ∧ (q.link.getD 0 Link.ff).pgno = 0x350 := by
  obtain ⟨q, h1, h2, h3, _⟩ := page_roundtrip_cycle_links cycTmpl 8 1 (by decide) [] (fun _ h => by cases h) own0 [own1] own_cycle_ok
    (hd 1 0xFF) 0xFF (by decide +kernel) (by decide +kernel) (textOnly_of_dec _ (by decide +kernel))
    ⟨by decide, by decide, trivial⟩ [] own0 [own1] rfl (by decide) (by decide)
  have hT : ((run (run (run (init.enable true) []).1 (stream [])).1 own0.pkts).1.rp 1).page.haveFlof = 1
      ∧ (((run (run (run (init.enable true) []).1 (stream [])).1 own0.pkts).1.rp 1).page.link.getD 0 Link.ff).pgno = 0x350 := by
    decide +kernel
  exact ⟨q, h1, h3.trans hT.1, (by rw [h2]; exact hT.2)⟩

/-- what the model computes on that cycle: one event per transmission, and the cached page 100 carries rows 1, 2, the
    six FLOF links of its X/27/0 packet -/
example :
    let r := run (init.enable true) (stream [own0, own1] ++ [hd 1 0xFF])
    magPages 1 r.2 = [(0x100, 0), (0x101, 0)]
    ∧ (cacheGet r.1.net.cache 0x100 ANY_SUBNO 0).map (fun g => (g.1.raw.getD 1 [], g.1.raw.getD 2 [], g.1.haveFlof,
          (g.1.link.getD 0 Link.ff).pgno, (g.1.link.getD 5 Link.ff).subno))
        = some (List.replicate 40 0xC1, List.replicate 40 0x45, 1, 0x350, 1) := by
  decide +kernel

end Zvbi.Props.C02Own
