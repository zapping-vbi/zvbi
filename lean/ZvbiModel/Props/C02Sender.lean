import ZvbiModel.Ttx.Sender
import ZvbiModel.Props.C02Chain
/-!
# Property C02: the sender side of `page_roundtrip_chain`

The cycle theorems speak about received packets (`IsHeader`: "the ten Hamming 8/4 bytes decode to these values",
`GoodHdr`: "the header text is consistent").  Here the packets are BUILT by the sender: `Ttx.encHeader` (packet address,
page number, sub-code / control bytes - Hamming 8/4 -, header text = the network's template with the page number digits
at columns `off..off+2` and a free clock in columns 32..39: `Ttx.senderText`) and `Ttx.encRow` (address + 40 odd-parity
bytes).  `page_roundtrip_sender`: the statement of `page_roundtrip_chain` with every receiver-side hypothesis replaced
by a condition on the sender's data (`STxOk`, `TmplOk`).
-/
namespace Zvbi.Props.C02Sender
open Zvbi.Ttx Zvbi.Hamm Zvbi.Props.C02Chain

/-- one transmission as the sender describes it -/
structure STx where
  /-- magazine (0 = 8), page tens / units, and the three bytes S1 S2+C4 | S3 S4+C5+C6 | C7..C14 -/
  t : Tx
  /-- header columns 32..39 -/
  clock : List Nat
  /-- (row number, 40 bytes): any subset of 1..25, any order, repeats allowed -/
  rows : List (Nat × List Nat)

def STx.header (tmpl : List Nat) (off : Nat) (x : STx) : Packet := encHeader x.t (senderText tmpl x.clock off x.t.pgno)
def STx.packets (tmpl : List Nat) (off : Nat) (x : STx) : List Packet :=
  x.header tmpl off :: x.rows.map (fun r => encRow x.t.m r.1 r.2)

structure STxOk (m : Nat) (x : STx) : Prop where
  mag : x.t.m = m
  page : decimalPage x.t.page
  s12 : x.t.s12 < 256
  s34 : x.t.s34 < 256
  fl : x.t.fl < 256
  /-- C11 = 0: parallel mode -/
  par : x.t.fl &&& 0x10 = 0
  rows : ∀ r ∈ x.rows, 1 ≤ r.1 ∧ r.1 ≤ 25 ∧ r.2.length = 40 ∧ GoodRow r.2

/-- **header_encode_decode**: the header packet the sender builds is read back by the decoder's `vbi_unham16p` calls as
exactly the magazine, page number, sub-code and control bytes put in, and it is a consistent header (`GoodHdr`) of the
network whose template is `tmpl`. -/
theorem header_encode_decode (tmpl : List Nat) (off m : Nat) (hm : m < 8) (ht : TmplOk tmpl off) (x : STx) (h : STxOk m x) :
    IsHeader (x.header tmpl off) m x.t.page x.t.s12 x.t.s34 x.t.fl ∧ GoodHdr tmpl off (x.header tmpl off) := by
  have hm' : x.t.m < 8 := by rw [h.mag]; exact hm
  have hp : x.t.page < 256 := by have := h.page.1; omega
  refine ⟨?_, encHeader_goodHdr tmpl x.clock off x.t hm' hp h.s12 h.s34 h.fl ht⟩
  have := encHeader_isHeader x.t (senderText tmpl x.clock off x.t.pgno) hm' hp h.s12 h.s34 h.fl
  rw [h.mag] at this
  exact this

/-- **page_roundtrip_sender**.  A network with header template `tmpl` (odd parity, no magazine digit before the page
number column `off`) transmits, to a fresh decoder with a TTX_PAGE handler, a cycle of pages of magazine `m` in
parallel mode: every transmission = encoded header (decimal page number, any sub-code / control bytes with C11 = 0,
any clock) followed by its rows 1..25 (40 odd-parity bytes each; any subset, order, repeats), consecutive
transmissions carrying different page numbers, the last one terminated by a time-filling header (page FF).  Then
exactly one TTX_PAGE event per transmission is delivered, in order, with the transmitted page / sub-page number, and
every page number of the cycle is fetched (wildcard sub-page) as a Level 1 text page whose rows show, for every row
number sent in the LAST transmission of that page number, the 40 bytes of a packet of that transmission. -/
theorem page_roundtrip_sender (tmpl : List Nat) (off m : Nat) (hm : m < 8) (ht : TmplOk tmpl off)
    (txs : List STx) (hok : ∀ x ∈ txs, STxOk m x)
    (hadj : ∀ pre a b post, txs = pre ++ a :: b :: post → a.t.page ≠ b.t.page)
    (fs12 fs34 ffl : Nat) (h1 : fs12 < 256) (h2 : fs34 < 256) (h3 : ffl < 256) (finText : List Nat) :
    let fin := encHeader ⟨m, 0xFF, fs12, fs34, ffl⟩ finText
    let r := run (init.enable true) (txs.flatMap (STx.packets tmpl off) ++ [fin])
    ttxPages r.2 = txs.map (fun x => (x.t.pgno, x.t.subno))
    ∧ ∀ x ∈ txs, ∃ q, (cacheGet r.1.net.cache x.t.pgno ANY_SUBNO 0).map (·.1) = some q ∧ q.function = FN_LOP
        ∧ q.pgno = x.t.pgno
        ∧ ∃ y ∈ txs, y.t.pgno = x.t.pgno ∧ ∀ r ∈ y.rows, ∃ r' ∈ y.rows, r'.1 = r.1 ∧ q.raw.getD r.1 [] = r'.2 := by
  intro fin r
  let conv : STx → Tx × Packet × List RowPkt :=
    fun x => (x.t, x.header tmpl off, x.rows.map (fun r => (r.1, encRow x.t.m r.1 r.2)))
  have hfin := encHeader_isHeader ⟨m, 0xFF, fs12, fs34, ffl⟩ finText hm (show (255 : Nat) < 256 by decide) h1 h2 h3
  have hstream : (txs.map conv).flatMap (fun x => x.2.1 :: x.2.2.map (·.2)) = txs.flatMap (STx.packets tmpl off) := by
    rw [List.flatMap_map]
    congr 1
    funext x
    show x.header tmpl off :: (x.rows.map (fun r => (r.1, encRow x.t.m r.1 r.2))).map (·.2) = STx.packets tmpl off x
    unfold STx.packets
    rw [List.map_map]
    rfl
  have hmain := page_roundtrip_chain tmpl off m (txs.map conv) fin hm
    (by
      intro y hy
      rw [List.mem_map] at hy
      obtain ⟨x, hx, rfl⟩ := hy
      have hx' := hok x hx
      obtain ⟨hh, hg⟩ := header_encode_decode tmpl off m hm ht x hx'
      refine ⟨hx'.mag, hh, hx'.page, hx'.par, hg, ?_⟩
      intro rp hrp
      change rp ∈ x.rows.map (fun r => (r.1, encRow x.t.m r.1 r.2)) at hrp
      rw [List.mem_map] at hrp
      obtain ⟨r0, hr0, rfl⟩ := hrp
      obtain ⟨a1, a2, a3, a4⟩ := hx'.rows r0 hr0
      refine ⟨?_, a1, a2, ?_⟩
      · show IsPacket (encRow x.t.m r0.1 r0.2) m r0.1
        rw [hx'.mag]; exact encRow_isPacket m r0.1 r0.2 hm (by omega)
      · show GoodRow (payload (encRow x.t.m r0.1 r0.2))
        rw [payload_encRow _ _ _ a3]; exact a4)
    (by
      intro pre a b post e
      obtain ⟨a', b', ea, eb, hne⟩ := adj_map conv (fun a b => a.t.page ≠ b.t.page) txs hadj pre a b post e
      rw [ea, eb]; exact hne)
    hfin.addr hfin.page
  simp only [] at hmain
  rw [hstream] at hmain
  obtain ⟨hev, hfetch⟩ := hmain
  refine ⟨?_, ?_⟩
  · rw [hev, List.map_map]; rfl
  · intro x hx
    obtain ⟨q, g1, g2, g3, y, hy, g4, g5⟩ := hfetch (conv x) (List.mem_map.mpr ⟨x, hx, rfl⟩)
    rw [List.mem_map] at hy
    obtain ⟨y', hy', rfl⟩ := hy
    refine ⟨q, g1, g2, g3, y', hy', g4, ?_⟩
    intro r0 hr0
    obtain ⟨r', hr', e1, e2⟩ := g5 (r0.1, encRow y'.t.m r0.1 r0.2) (List.mem_map.mpr ⟨r0, hr0, rfl⟩)
    change r' ∈ y'.rows.map (fun r => (r.1, encRow y'.t.m r.1 r.2)) at hr'
    rw [List.mem_map] at hr'
    obtain ⟨r0', hr0', rfl⟩ := hr'
    refine ⟨r0', hr0', e1, ?_⟩
    have hl := ((hok y' hy').rows r0' hr0').2.2.1
    rw [show q.raw.getD r0.1 [] = payload (encRow y'.t.m r0'.1 r0'.2) from e2, payload_encRow _ _ _ hl]

/-! ### non-vacuity: a concrete sender -/

/-- the blank template, page number at columns 8..10 -/
def tmplBlank : List Nat := List.replicate 40 0x20

theorem tmplBlank_ok : TmplOk tmplBlank 8 := by
  refine ⟨by decide, by decide, ?_, ?_⟩
  · have : ∀ k, k < 32 → 8 ≤ k → oddPar (tmplBlank.getD k 0) = true := by decide +kernel
    exact fun k h8 h32 => this k h32 h8
  · intro k h8 hk; omega

/-- the hypotheses of `header_encode_decode` are satisfiable: header of page 123 of magazine 1 over the blank template, number at
    column 8 -/
example : IsHeader ((⟨⟨1, 0x23, 0, 0, 0⟩, [], []⟩ : STx).header (List.replicate 40 0x20) 8) 1 0x23 0 0 0 :=
  (header_encode_decode (List.replicate 40 0x20) 8 1 (by decide) tmplBlank_ok ⟨⟨1, 0x23, 0, 0, 0⟩, [], []⟩
    ⟨rfl, ⟨by decide, by decide⟩, by decide, by decide, by decide, by decide, fun r hr => by cases hr⟩).1

def stx (page : Nat) (rows : List (Nat × List Nat)) : STx := ⟨⟨1, page, 0, 0, 0⟩, List.replicate 8 0x20, rows⟩

/-- pages 100, 101, 100 (the second version of 100 sends row 2 only): the theorem applies, and in particular page 100 is
    fetched at the end -/
example : ∃ q, (cacheGet (run (init.enable true) ([stx 0 [(1, List.replicate 40 0xC1)], stx 1 [(3, List.replicate 40 0xC2)],
      stx 0 [(2, List.replicate 40 0x45)]].flatMap (STx.packets tmplBlank 8) ++ [encHeader ⟨1, 0xFF, 0, 0, 0⟩ []])).1.net.cache
      0x100 ANY_SUBNO 0).map (·.1) = some q ∧ q.function = FN_LOP := by
  have hok : ∀ x ∈ [stx 0 [(1, List.replicate 40 0xC1)], stx 1 [(3, List.replicate 40 0xC2)], stx 0 [(2, List.replicate 40 0x45)]],
      STxOk 1 x := by
    intro x hx
    simp only [List.mem_cons, List.not_mem_nil, or_false] at hx
    have hrow : ∀ b, GoodRow (List.replicate 40 b) ↔ (b < 256 ∧ oddPar b = true) := by
      intro b
      constructor
      · intro h; exact h b (by simp)
      · intro h c hc; rw [List.eq_of_mem_replicate hc]; exact h
    rcases hx with rfl | rfl | rfl
    all_goals refine ⟨rfl, ⟨by decide, by decide⟩, by decide, by decide, by decide, by decide, ?_⟩
    all_goals
      intro r hr
      simp only [stx, List.mem_cons, List.not_mem_nil, or_false] at hr
      subst hr
      exact ⟨by decide, by decide, by simp, (hrow _).2 ⟨by decide, by decide +kernel⟩⟩
  have hadj : ∀ pre a b post, [stx 0 [(1, List.replicate 40 0xC1)], stx 1 [(3, List.replicate 40 0xC2)],
      stx 0 [(2, List.replicate 40 0x45)]] = pre ++ a :: b :: post → a.t.page ≠ b.t.page := by
    intro pre a b post e
    rcases pre with _ | ⟨p1, _ | ⟨p2, _ | ⟨p3, pre⟩⟩⟩
    · simp only [List.nil_append, List.cons.injEq] at e
      obtain ⟨rfl, rfl, _⟩ := e; decide
    · simp only [List.cons_append, List.nil_append, List.cons.injEq] at e
      obtain ⟨_, rfl, rfl, _⟩ := e; decide
    · simp at e
    · simp at e
  obtain ⟨_, hf⟩ := page_roundtrip_sender tmplBlank 8 1 (by decide) tmplBlank_ok _ hok hadj 0 0 0 (by decide) (by decide)
    (by decide) []
  obtain ⟨q, h1, h2, _⟩ := hf (stx 0 [(1, List.replicate 40 0xC1)]) (by simp)
  exact ⟨q, h1, h2⟩

end Zvbi.Props.C02Sender
