import ZvbiModel.Cc.PaintOn
/-!
# C08, continued - special characters inside caption rows (`refines_Eia608_scripts_*` with special characters)

Property theorems only; lemmas in `Cc/Rows.lean` (one special character as a step of the row simulation) and
`Cc/PopOn.lean`, `Cc/RollUp.lean`, `Cc/PaintOn.lean` (pop-on captions, roll-up and paint-on scripts whose text mixes basic and special characters).  Model `Cc/Model.lean`, reference
`Cc/Spec.lean` (`Eia608`).  Special character k = control pair 0x11 / 0x19 (0x30 | k), k = 0..15; k = 9 is the
transparent space, which is not a character and stays outside (libzvbi moves `col1` without a word break there).
-/
namespace Zvbi.Props.C08Special
open Zvbi.Cc Zvbi.Gen.Cc Eia608

/-- **special_char_step.**  A special-character pair (first byte 0x11 / 0x19 on either field, second byte 0x30..0x3F
except 0x39) runs `specialChar` on the addressed channel; and in ANY mode, for a channel and a reference service whose
current rows hold the same one segment with the same cursor and pen (`RowSim`): both type ONE cell, the character of
15.119 (g) (`Eia608.specialChar k`) with the current pen, at the cursor; the relation is preserved with the segment
extended by that cell; the reference changes no other row; libzvbi raises no event and leaves the displayed memory
alone (a special character is not a space, so there is no word break). -/
theorem special_char_step (s : Cc.St) (c1 : Nat) (f2 : Bool) (h1 : c1 &&& 7 = 1) (k : Nat) (hk : k < 16) (h9 : k ≠ 9) :
    captionCommand s c1 (0x30 ||| k) f2 =
      s.modCh (cmdChan s c1 f2) (fun ch => Cc.specialChar ch (cmdChan s c1 f2) (0x30 ||| k)) ∧
    ∀ (ch : Channel) (v : Service) (lead : Bool) (c0 : Nat) (xs : List SCell) (chan : Nat),
      ChInv ch → RowSim ch v lead c0 xs → c0 + xs.length ≤ 32 →
      RowSim (Cc.specialChar ch chan (0x30 ||| k)) (v.exec (.special k)) lead c0
        (xs ++ [{ ch := Eia608.specialChar k, pen := v.pen }]) ∧
      (∀ r cc, r ≠ v.row → (v.exec (.special k)).target r cc = v.target r cc) ∧
      ChInv (Cc.specialChar ch chan (0x30 ||| k)) ∧
      (Cc.specialChar ch chan (0x30 ||| k)).nev = ch.nev ∧
      (∀ r j, j < 34 → (Cc.specialChar ch chan (0x30 ||| k)).dcell r j = ch.dcell r j) := by
  obtain ⟨a, b, _⟩ := special_c2 k hk
  refine ⟨captionCommand_eq s f2 (cmd := .special) ⟨a, h1, b⟩, fun ch v lead c0 xs chan h Q hroom => ?_⟩
  have hg : (Glyph.special k).ok = true := by simp [Glyph.ok, hk, h9]
  have hns : ({ ch.attr with unicode := Eia608.specialChar k } : Cell).isSpace = false := by
    have : ∀ k < 16, k ≠ 9 → ((Eia608.specialChar k &&& 0x7F) == 0x20) = false := by decide
    exact this k hk h9
  obtain ⟨_, R, O, I, _, side⟩ := putChar_sim_glyph h Q (Eia608.specialChar k) hroom
  rw [show Cc.specialChar ch chan (0x30 ||| k) = _ from glyphM_eq chan ch (.special k) hg,
    show v.exec (.special k) = _ from glyphS_eq v Q.vmode (.special k) hg]
  simp only [hns, Bool.false_eq_true, if_false, false_and] at R side
  exact ⟨R, O, I, side.1, side.2⟩

/-- the pair 0x11 0x37 (musical note) is such a pair, and the reference decodes it as special character 7 -/
example : (0x11 &&& 7 = 1) ∧ (0x30 ||| 7 = 0x37) ∧ Eia608.decodeCmd 1 0x37 = some (0, .special 7) ∧
    Eia608.specialChar 7 = 0x266A := by decide

/-- **midrow_step** (mid-row codes inside a row, step level; needs the F46 repair `midrowItalicsKeepsColour`, a generated
fact).  A mid-row code (first byte 0x11 / 0x19, second byte 0x20..0x2F, either field) runs `midRow` on the addressed
channel; and in ANY mode, for a channel and a reference service related by `RowSim`: both switch to the same new pen -
colour k = bits 1-3 resp. italics keeping the colour, underline = bit 0, flash off, background kept - for EVERY old pen,
and both type ONE space with that pen at the cursor; the relation is preserved with the segment extended by that cell,
the reference changes no other row; libzvbi word-breaks: outside pop-on mode the row is copied to the display with one
event, in pop-on mode nothing is displayed and no event is raised.  The script theorems do not thread mid-row codes
through (a `Glyph` run keeps one pen). -/
theorem midrow_step (hk : midrowItalicsKeepsColour = true) (s : Cc.St) (c1 c2 : Nat) (f2 : Bool) (h1 : c1 &&& 7 = 1)
    (h2 : 0x20 ≤ c2) (h3 : c2 ≤ 0x2F) :
    captionCommand s c1 c2 f2 = s.modCh (cmdChan s c1 f2) (fun ch => midRow ch c2) ∧
    ∀ (ch : Channel) (v : Service) (lead : Bool) (c0 : Nat) (xs : List SCell),
      ChInv ch → RowSim ch v lead c0 xs → c0 + xs.length ≤ 32 →
      let p : Pen := v.pen' ((c2 >>> 1) &&& 7) (c2 &&& 1 == 1) false
      let x : SCell := { ch := 0x20, pen := p }
      let v' : Service := v.exec (.midRow ((c2 >>> 1) &&& 7) (c2 &&& 1 == 1))
      RowSim (midRow ch c2) v' (!(((xs ++ [x]).map toCell).getD 0 default).isSpace) c0 (xs ++ [x]) ∧
      v'.pen = p ∧
      (∀ r cc, r ≠ v.row → v'.target r cc = v.target r cc) ∧
      ChInv (midRow ch c2) ∧
      (if ch.mode ≠ .popOn then
        (midRow ch c2).nev = ch.nev + 1 ∧
        ∀ r j, j < 34 → (midRow ch c2).dcell r j = if r = ch.row then (midRow ch c2).hcell r j else ch.dcell r j
       else (midRow ch c2).nev = ch.nev ∧ ∀ r j, j < 34 → (midRow ch c2).dcell r j = ch.dcell r j) := by
  have hb : c2 &&& 0x10 = 0 := by
    have : ∀ c < 0x30, 0x20 ≤ c → c &&& 0x10 = 0 := by decide
    exact this c2 (by omega) h2
  refine ⟨captionCommand_eq s f2 (cmd := .midrow) ⟨by omega, h1, hb⟩, fun ch v lead c0 xs h Q hroom => ?_⟩
  intro p x v'
  let ch1 : Channel := { ch with attr := midRowPen ch.attr c2 }
  let v1 : Service := { v with pen := p }
  have hch1 : ChInv ch1 := h.withAttr _
  have Q1 : RowSim ch1 v1 lead c0 xs :=
    ⟨RowIs.transfer Q.R rfl rfl rfl (fun _ _ => rfl), Q.S, Q.vrow, Q.vcol, midrow_pen_matches hk ch.attr v Q.pen c2, Q.vmode⟩
  have hv : v' = v1.putChar 0x20 := by
    show v.exec (.midRow ((c2 >>> 1) &&& 7) (c2 &&& 1 == 1)) = _
    unfold Service.exec
    simp only []
    split
    · rename_i hn; exact absurd hn Q.vmode
    · rfl
  have hsp : ({ midRowPen ch.attr c2 with unicode := 0x20 } : Cell).isSpace = true := withSpace_isSpace _
  obtain ⟨_, R, O, I, _, side⟩ := putChar_sim_glyph hch1 Q1 0x20 hroom
  obtain ⟨_, _, s3, _, _⟩ := spec_putChar_step v1 0x20 Q.vmode (by
    have := Q.vcol; have := Q.R.col; have : (xs.map toCell).length = xs.length := List.length_map _
    show v.col ≤ 32; omega)
  rw [midRow_eq, hv]
  have e1 : (({ ch1.attr with unicode := 0x20 } : Cell).isSpace) = true := hsp
  simp only [e1, if_true, true_and] at R side
  refine ⟨R, s3, O, I, ?_⟩
  exact side

/-- the reference decodes 0x11 0x2E (italics) / 0x11 0x29 (blue, underlined) as mid-row codes with these arguments -/
example : Eia608.decodeCmd 1 0x2E = some (0, .midRow 7 false) ∧ Eia608.decodeCmd 1 0x29 = some (0, .midRow 4 true) ∧
    ((0x2E >>> 1) &&& 7 = 7) ∧ ((0x29 >>> 1) &&& 7 = 4) := by decide

/-- **refines_Eia608_scripts, pop-on captions with special characters** (channel level, every caption channel
CC1..CC4).  From any state in which libzvbi's channel and the reference service agree (`IdleRel`; the fresh decoder
is one: `init_idle`), for every well-formed stream of pop-on captions `RCL ENM (PAC glyph*)* EOC` whose rows mix
basic characters 0x20..0x7F and special characters (`gStreamOk`, judged on the reference state: every PAC - any row,
indent, colour, italics, underline - addresses a row still empty in the non-displayed memory, the glyphs fit into the
row): after every End Of Caption the 510 cells `vbi_fetch_cc_page` returns equal the reference display memory as
rendered (characters of the standard's chart, colours, underline, italics, flash, opacity, solid spaces), and the
two decoders are again in agreement.  Induction over captions, rows and glyphs.
Not covered here: the byte level of the special-character pairs (parity, the field-1 repetition latch for the doubled
pair, NUL fillers), which `refines_Eia608_scripts_popon` has for basic characters only. -/
theorem refines_Eia608_scripts_popon_special (chan : Nat) (hchan : chan < 4) (caps : List (List GRow))
    (ch : Channel) (v : Service) (I : IdleRel ch v) (hok : gStreamOk v caps) :
    IdleRel (caps.foldl (gCaptionModel chan) ch) (caps.foldl gCaptionSpec v) ∧
    ∀ n, n ≤ caps.length →
      pageMatches ((caps.take n).foldl (gCaptionModel chan) ch) ((caps.take n).foldl gCaptionSpec v) :=
  idle_stream (gCaptionModel chan) gCaptionSpec gStreamOk (fun _ _ c _ I h => ⟨gCaption_refines I hchan c h.1, h.2⟩) caps I hok

/-- a start state: CC1 of the fresh decoder against the fresh reference service -/
example : ∃ ch, init.chans[0]? = some ch ∧ IdleRel ch (Service.init false) := init_idle 0 (by decide)

set_option maxRecDepth 100000 in
/-- a well-formed one-caption stream with special characters: `RCL ENM PAC(row 15) "A" <note> "B" <registered> EOC` -/
example : gStreamOk (Service.init false) [[⟨4, 0x70, [.code 0x41, .special 7, .code 0x42, .special 0]⟩]] :=
  ⟨⟨⟨by decide, by decide, by decide, 14, 0, none, false, rfl, fun _ => rfl, by decide, by decide⟩, trivial⟩, trivial⟩

/-- **refines_Eia608_scripts, roll-up scripts with special characters** (channel level, CC1..CC4).  From any `IdleRel`
state, a well-formed roll-up script `RUn [PAC] (glyph run | CR)*`, n = 2, 3, 4 (`GRollScript.ok`, judged on the reference
state: defined PAC, non-empty runs of basic and special characters that fit into the row): right after `RUn [PAC]`,
after every run that ends with a space - a special character never does - and after every carriage return the fetched
page equals the reference display memory, cell for cell. -/
theorem refines_Eia608_scripts_rollup_special (chan : Nat) (hchan : chan < 4) (ch : Channel) (v : Service)
    (I : IdleRel ch v) (sc : GRollScript) (hok : sc.ok v) :
    pageMatches (sc.startModel chan ch) (sc.startSpec v) ∧
    ∀ k, (hk0 : 0 < k) → (hk : k ≤ sc.ops.length) → (sc.ops[k - 1]'(by omega)).visible = true →
      pageMatches ((sc.ops.take k).foldl (gRollOpModel chan) (sc.startModel chan ch))
        ((sc.ops.take k).foldl gRollOpSpec (sc.startSpec v)) := by
  obtain ⟨h2, h4, hp, hops⟩ := hok
  have start : RollRel (sc.startModel chan ch) (sc.startSpec v) sc.n true := roll_start I hchan h2 h4 sc.pac hp
  exact ⟨start.page, gRollOps_refine chan hchan sc.n sc.ops start hops⟩

set_option maxRecDepth 100000 in
/-- a well-formed roll-up script on the fresh reference service: `RU2 "A" <note> " " CR <registered> "B " CR` -/
example : GRollScript.ok (Service.init false)
    ⟨2, none, [.text [.code 0x41, .special 7, .code 0x20], .cr, .text [.special 0, .code 0x42, .code 0x20], .cr]⟩ := by
  refine ⟨by decide, by decide, ?_, ?_⟩
  · intro c1 c2 h; cases h
  · exact ⟨⟨by decide, by decide, by decide⟩, trivial, ⟨by decide, by decide, by decide⟩, trivial, trivial⟩

example : GOp.visible (.text [.code 0x41, .special 7, .code 0x20]) = true ∧ GOp.visible (.text [.code 0x41, .special 7]) = false := by
  decide

/-- **refines_Eia608_scripts, paint-on scripts with special characters** (channel level, CC1..CC4).  From any `IdleRel`
state whose cursor row is empty on display, a well-formed paint-on script `RDC (PAC | glyph run)*` (each PAC addresses a
row that is empty in the reference's displayed memory, glyphs only after a PAC): right after RDC, after every PAC and
after every run that ends with a space the fetched page equals the reference display memory. -/
theorem refines_Eia608_scripts_painton_special (chan : Nat) (hchan : chan < 4) (ch : Channel) (v : Service)
    (I : IdleRel ch v) (hrow : ∀ c, v.disp ch.row c = none) (ops : List GPOp) (hok : gpopsOk (v.exec .rdc) false ops) :
    pageMatches (rdcModel ch) (v.exec .rdc) ∧
    ∀ k, (hk0 : 0 < k) → (hk : k ≤ ops.length) → (ops[k - 1]'(by omega)).visible = true →
      pageMatches ((ops.take k).foldl (gPaintOpModel chan) (rdcModel ch)) ((ops.take k).foldl gPaintOpSpec (v.exec .rdc)) := by
  have P0 := rdc_step I hrow
  exact ⟨P0.page, gPaintOps_refine chan hchan ops P0 hok⟩

set_option maxRecDepth 100000 in
/-- a well-formed paint-on script on the fresh reference service: `RDC PAC(row 15) "A" <note> " "` -/
example : gpopsOk ((Service.init false).exec .rdc) false [.pac 4 0x70, .text [.code 0x41, .special 7, .code 0x20]] :=
  ⟨⟨by decide, by decide, by decide, 14, 0, none, false, rfl, fun _ => rfl⟩, ⟨rfl, by decide, by decide, by decide⟩, trivial⟩

end Zvbi.Props.C08Special
