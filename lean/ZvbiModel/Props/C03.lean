import ZvbiModel.Ttx.TwoErrors
import ZvbiModel.Ttx.AsmInv
import ZvbiModel.Ttx.Hdr8Unread
/-!
# C03 - transmission errors in Teletext are corrected or contained, never shown as data

Property theorems only.  Model: `ZvbiModel/Ttx/Model.lean` (`decodeTeletext` = `vbi_decode_teletext`,
`step` = one Teletext line through `vbi_decode`).  Fault model and sender-side notions:
`ZvbiModel/Ttx/Spec.lean` (`flipBit`, `WellFormed`, `Protected`, `IsHdr8`, `hdrKey`).
Helper lemmas: `ZvbiModel/Ttx/FlipInvisible.lean` (clause 1), `HeaderFields.lean`, `TwoErrors.lean` (headers),
`ParityCheck.lean` (parity gate), `X26Place.lean`, `AsmInv.lean` (clause 4).
-/
namespace Zvbi.Props.C03
open Zvbi.Ttx Zvbi.Ttx.Spec Zvbi.Hamm Zvbi.Gen

/-! ## clause 1: a single bit error in a Hamming protected byte or triplet is invisible -/

/-- For every decoder state `s`, every received packet `p`, every position `i` which the decoder
    reads in this state through `vbi_unham8` / `vbi_unham16p` / `vbi_unham24p` and which holds a
    valid codeword (`Protected`: the address, and per packet kind header bytes, designation, links,
    X/26, X/27, X/28, M/29, 8/30, MOT, BTT, AIT, MPT, POP bytes) and every bit `b`: the packet with
    that bit inverted produces exactly the same new state, events and return value.  (The 8 header
    bytes after the address are excepted here because `memcpy (raw[0], p, 40)` also stores them
    verbatim; see the next theorem.) -/
theorem single_error_invisible (s : St) (p : Packet) (i b : Nat) (hw : WellFormed p) (hb : b < 8)
    (hp : Protected s p i) (hh : ¬ IsHdr8 s p i) :
    decodeTeletext s (flipBit p i b) = decodeTeletext s p := by
  rw [decode_flip s p i b hw hb hp]
  unfold decodeTeletext
  cases ha : a16 p 0 with
  | none => rfl
  | some pmag =>
    simp only []
    by_cases hpos : i < 2 ∨ 10 ≤ i
    · rw [hdr8_flip_outside p i b hpos]
    · have hk : kindOf s pmag (a8 p 2) ≠ Kind.hdr := by
        intro hk
        exact hh ⟨by omega, by omega, pmag, ha, hk⟩
      exact finish_irrelevant s pmag (a8 p 2) _ _ _ hk

example : Protected init [0x02, 0x15] 0 := Protected.addr 0 (by decide) ⟨1, by decide, by decide⟩

/-- The same for the 8 Hamming bytes of a header (page number, subcode, control bits): events and
    return value are identical, and both new states are the *same* core result `core` into which
    the verbatim copy of the 8 received bytes is patched (`finish`): the only difference is
    `raw[0][0..7]` of the page in progress, which the formatter never reads (teletext.c:2560). -/
theorem single_error_invisible_header_bytes (s : St) (p : Packet) (i b : Nat) (hw : WellFormed p)
    (hb : b < 8) (hp : Protected s p i) :
    ∃ (core : Res × Bool) (m : Nat),
      decodeTeletext s (flipBit p i b) = finish core m (hdr8 (flipBit p i b)) ∧
      decodeTeletext s p = finish core m (hdr8 p) ∧
      (decodeTeletext s (flipBit p i b)).ev = (decodeTeletext s p).ev ∧
      (decodeTeletext s (flipBit p i b)).ret = (decodeTeletext s p).ret := by
  have h := decode_flip s p i b hw hb hp
  cases ha : a16 p 0 with
  | none =>
    rw [ha] at h
    have h2 : decodeTeletext s p = ⟨s, [], false⟩ := by simp [decodeTeletext, ha]
    refine ⟨(⟨s, [], false⟩, false), 0, ?_, ?_, ?_, ?_⟩
    · rw [h]; rfl
    · rw [h2]; rfl
    · rw [h, h2]
    · rw [h, h2]
  | some pmag =>
    refine ⟨process s pmag (view (kindOf s pmag (a8 p 2)) p), pmag &&& 7, ?_, ?_, ?_, ?_⟩
    · rw [h, ha]
    · simp [decodeTeletext, ha]
    · rw [h, ha]; simp only [decodeTeletext, ha, finish]; split <;> rfl
    · rw [h, ha]; simp only [decodeTeletext, ha, finish]; split <;> rfl

/-- ... hence all later fetches: the whole step through `vbi_decode` (frame bookkeeping, then the
    line) yields the same state and event list. -/
theorem single_error_invisible_step (s : St) (p : Packet) (i b : Nat) (hw : WellFormed p) (hb : b < 8)
    (hp : Protected (frameTick s).1 p i) (hh : ¬ IsHdr8 (frameTick s).1 p i) :
    step s (flipBit p i b) = step s p := by
  rw [step_eq, step_eq, single_error_invisible (frameTick s).1 p i b hw hb hp hh]

/-! ## clause 2: uncorrectable address / header -/

/-- A packet whose address bytes are uncorrectable changes nothing and sends nothing. -/
theorem bad_address_no_effect (s : St) (p : Packet) (h : a16 p 0 = none) :
    decodeTeletext s p = ⟨s, [], false⟩ := by
  simp [decodeTeletext, h]

example : a16 [0x01, 0x15] 0 = none := by decide

/-- A header whose page number is uncorrectable only abandons the pages in progress of all
    magazines (`vbi_teletext_desync`): no event, cache and network tables untouched. -/
theorem bad_header_page_number (s : St) (p : Packet) (pmag : Nat) (ha : a16 p 0 = some pmag)
    (h0 : pmag >>> 3 = 0) (hm : s.mask = true) (hpg : a16 p 2 = none) :
    decodeTeletext s p = ⟨desync s, [], false⟩ ∧ (desync s).net = s.net :=
  ⟨decode_hdr_bad_pageno s p pmag ha h0 hm hpg, rfl⟩

/-- A header whose page number decodes but whose subcode / control bits are refused
    (`hdrRejected`, the test of packet.c:2316) terminates the page in progress exactly as a good
    header for that page number would (`terminatePage`, which may store it), gives the magazine's
    assembly slot the new page number and discards it (`hdrAbandon`).  Nothing else: -/
theorem bad_header_contained (s : St) (p : Packet) (pmag page : Nat) (ha : a16 p 0 = some pmag)
    (h0 : pmag >>> 3 = 0) (hm : s.mask = true) (hpg : a16 p 2 = some page)
    (hrej : hdrRejected page ((view Kind.hdr p).g16i 2) ((view Kind.hdr p).g16i 4) ((view Kind.hdr p).g16i 6) = true) :
    decodeTeletext s p =
      let mag0 := pmag &&& 7
      let pgno := (if mag0 == 0 then 8 else mag0) * 256 + page
      let t := terminatePage s mag0 pgno page
      ⟨hdrAbandon t.1 mag0 pgno, t.2, false⟩ :=
  decode_hdr_rejected s p pmag page ha h0 hm hpg hrej

/-- ... in particular no byte of such a packet other than address and page number influences
    the result: two refused headers with the same address and page number are indistinguishable. -/
theorem bad_header_no_byte_enters (s : St) (p q : Packet) (pmag page : Nat)
    (hap : a16 p 0 = some pmag) (haq : a16 q 0 = some pmag) (h0 : pmag >>> 3 = 0) (hm : s.mask = true)
    (hpp : a16 p 2 = some page) (hpq : a16 q 2 = some page)
    (hrp : hdrRejected page ((view Kind.hdr p).g16i 2) ((view Kind.hdr p).g16i 4) ((view Kind.hdr p).g16i 6) = true)
    (hrq : hdrRejected page ((view Kind.hdr q).g16i 2) ((view Kind.hdr q).g16i 4) ((view Kind.hdr q).g16i 6) = true) :
    decodeTeletext s p = decodeTeletext s q := by
  rw [decode_hdr_rejected s p pmag page hap h0 hm hpp hrp, decode_hdr_rejected s q pmag page haq h0 hm hpq hrq]

/-- Which headers are refused: an uncorrectable S3/S4 pair or control pair always; an
    uncorrectable S1/S2 pair when S3/S4 decode to 0 - or always, once the repair F21 is in
    (`ttxFixF21` is regenerated from the current packet.c). -/
theorem bad_header_refused_partial (p : Packet) (page : Nat)
    (h : (view Kind.hdr p).g16i 4 < 0 ∨ (view Kind.hdr p).g16i 6 < 0
         ∨ ((view Kind.hdr p).g16i 2 < 0 ∧ ((view Kind.hdr p).g16i 4 = 0 ∨ ttxFixF21 = true))) :
    hdrRejected page ((view Kind.hdr p).g16i 2) ((view Kind.hdr p).g16i 4) ((view Kind.hdr p).g16i 6) = true := by
  have hb := view_g16i_le Kind.hdr p 2
  unfold hdrRejected
  by_cases hf : ttxFixF21 = true
  · simp only [hf, if_true, Bool.or_eq_true, decide_eq_true_eq]
    rcases h with h | h | ⟨h, _⟩
    · exact Or.inl (Or.inr (Or.inr h))
    · exact Or.inr h
    · exact Or.inl (Or.inr (Or.inl h))
  · have hf' : ttxFixF21 = false := by simpa using hf
    simp only [hf', Bool.false_eq_true, if_false, Bool.or_eq_true, decide_eq_true_eq]
    rcases h with h | h | ⟨h, h4 | h4⟩
    · exact Or.inl (Or.inr (by omega))
    · exact Or.inr h
    · exact Or.inl (Or.inr (by omega))
    · exact absurd h4 hf

/-- the transmitted header of the counterexample: magazine 1, page 23, subcode 0x2359 -/
def f21Tx : Packet :=
  [2, 21, 94, 73, 199, 115, 94, 73, 21, 21] ++ List.replicate 32 32
/-- the same with bits 0 and 3 of byte 5 (S2) inverted -/
def f21Rx : Packet := flipBit (flipBit f21Tx 5 0) 5 3

/-- FULL STATEMENT (false on the unrepaired code, finding F21): every header with an uncorrectable
    subcode or control byte is refused. -/
def bad_header_refused_full : Prop :=
  ∀ (p : Packet), WellFormed p → ∀ page,
    ((view Kind.hdr p).g16i 2 < 0 ∨ (view Kind.hdr p).g16i 4 < 0 ∨ (view Kind.hdr p).g16i 6 < 0) →
    hdrRejected page ((view Kind.hdr p).g16i 2) ((view Kind.hdr p).g16i 4) ((view Kind.hdr p).g16i 6) = true

/-- ... it holds for the repaired code -/
theorem bad_header_refused_fixed (hf : ttxFixF21 = true) : bad_header_refused_full := by
  intro p _ page h
  apply bad_header_refused_partial p page
  rcases h with h | h | h
  · exact Or.inr (Or.inr ⟨h, Or.inr hf⟩)
  · exact Or.inl h
  · exact Or.inr (Or.inl h)

/-- ... and fails on the unrepaired code: two bit errors in the S2 byte of page 123, subcode 23:59
    make the S1/S2 pair uncorrectable, yet the header is accepted - as subpage 0x2279, which was
    never transmitted (replay: corpus/C03/F21_header_subcode.ops). -/
theorem bad_header_contained_counterexample (hf : ttxFixF21 = false) :
    hdrKey f21Tx = some (1, 0x123, 0x2359) ∧ (view Kind.hdr f21Rx).g16i 2 < 0 ∧
    hdrKey f21Rx = some (1, 0x123, 0x2279) ∧ ¬ bad_header_refused_full := by
  have h1 : hdrKey f21Tx = some (1, 0x123, 0x2359) := by
    unfold hdrKey hdrRejected; rw [hf]; decide +kernel
  have h2 : (view Kind.hdr f21Rx).g16i 2 < 0 := by decide +kernel
  have h3 : hdrKey f21Rx = some (1, 0x123, 0x2279) := by
    unfold hdrKey hdrRejected; rw [hf]; decide +kernel
  refine ⟨h1, h2, h3, ?_⟩
  intro hfull
  have hw : WellFormed f21Rx := by
    refine ⟨by decide, ?_⟩
    intro i
    by_cases hi : i < 42
    · have : ∀ i < 42, byte f21Rx i < 256 := by decide +kernel
      exact this i hi
    · unfold byte
      have : f21Rx.length = 42 := by decide
      rw [List.getD_eq_getElem?_getD, List.getElem?_eq_none (by omega)]
      decide
  have := hfull f21Rx hw 0x23 (Or.inl h2)
  unfold hdrRejected at this
  rw [hf] at this
  revert this
  decide +kernel

/-! ## clause 3: the row-wise parity gate -/

/-- `lop_parity_check`: every row of the page that is handed to the cache is the row the page
    (possibly fetched back from the cache) had before, or - rows 1..25 only - the row received in
    this transmission after the X/26 column fix-ups, and then all its 40 bytes have odd parity.
    A row received with a parity error never replaces a good row. -/
theorem parity_gate (cv : Page) (rv : RawPage) (n : Nat) :
    (lopParityCheck cv rv).1.raw.getD n zeroRow = cv.raw.getD n zeroRow ∨
    (1 ≤ n ∧ n ≤ 25 ∧ (lopParityCheck cv rv).1.raw.getD n zeroRow = (lopParityCheck cv rv).2.lopRaw.getD n zeroRow
      ∧ ((lopParityCheck cv rv).2.lopRaw.getD n zeroRow).all oddPar = true) :=
  lopParityCheck_row cv rv n

example : (lopParityCheck Page.zero ⟨Page.zero, List.replicate 26 zeroRow, 2, 0⟩).1.raw.getD 1 zeroRow = zeroRow := by
  decide +kernel

/-- The formatter turns a byte failing the parity test into a space before it looks at it
    (`vbi_format_vt_page`: `if ((raw = vbi_unpar8 (...)) < 0) raw = ' '`): a received character with
    a parity error is never displayed as another character. -/
theorem bad_parity_is_blank (pg : Page) (row column : Nat) (h : ¬ (row = 0 ∧ column < 8))
    (hbad : unpar8 ((pg.raw.getD row zeroRow).getD column 0) = none) : fmtRaw pg row column = 0x20 := by
  rw [fmtRaw_cell _ _ _ h, hbad]

/-- ... and a byte with good parity is passed on with its 7 data bits. -/
theorem good_parity_is_char (pg : Page) (row column c : Nat) (h : ¬ (row = 0 ∧ column < 8))
    (hgood : unpar8 ((pg.raw.getD row zeroRow).getD column 0) = some c) : fmtRaw pg row column = c := by
  rw [fmtRaw_cell _ _ _ h, hgood]

/-! ## X/26 designation continuity -/

/-- Packet 26 changes entry `idx` of the enhancement array of the page in progress only if its
    designation `d` decodes, the fill level is exactly `13 d` - i.e. all earlier designations were
    received completely and in order since the header - and `13 d ≤ idx < 13 d + 13`.
    Out-of-order or missing packets are dropped, never misplaced. -/
theorem x26_continuity (s : St) (mag0 : Nat) (v : View) (hm : mag0 < s.raw.length) (idx : Nat) (t0 : Triplet)
    (hne : ((process26 s mag0 v).st.rp mag0).page.enh.getD idx t0 ≠ (s.rp mag0).page.enh.getD idx t0) :
    ∃ d, v.g8 0 = some d ∧ (s.rp mag0).numTriplets = ((d * 13 : Nat) : Int) ∧ d * 13 ≤ idx ∧ idx < d * 13 + 13 := by
  revert hne
  refine process26_elim s mag0 v (fun _ hne => absurd rfl hne) (fun _ hne => absurd rfl hne)
    (fun _ hne => absurd (by rw [rp_desync s mag0 hm]) hne) (fun _ hne => absurd rfl hne)
    (fun _ _ _ hne => absurd (by rw [rp_setRp_same s mag0 _ hm]) hne) fun d hd hnt _ hne => ?_
  rw [rp_setRp_same s mag0 _ hm] at hne
  refine ⟨d, hd, hnt, ?_⟩
  have hf := (x26Triplets_frame v (s.rp mag0).page.enh (d * 13) t0).2.2 idx
  by_cases hin : d * 13 ≤ idx ∧ idx < d * 13 + 13
  · exact hin
  · exact absurd (hf (by omega)) hne

/-! ## clause 4: no page is stored under a number that was not received in a header -/

/-- Over every history of packets (any bytes whatever, decoder with or without a Teletext
    handler): whenever `_vbi_cache_put_page` is called (`Event.put q`), the page number and subpage
    number of `q` are exactly what the decoder computed (`hdrKey`: Hamming 8/4 decode of address,
    page number and subcode, header accepted) from some header packet of that history.  Rows, X/26,
    X/27, X/28, M/29, 8/30 and the table parsers (MOT, MIP, BTT, AIT, MPT, POP, DRCS) can neither
    store a page nor change the number of a page in progress.
    Proved by an invariant over all reachable states (`AsmOk`, AsmInv). -/
theorem no_foreign_page_number (on : Bool) (ps : List Packet) (q : Page)
    (h : Event.put q ∈ (run (init.enable on) ps).2) :
    ∃ p, p ∈ ps ∧ ∃ m, hdrKey p = some (m, q.pgno, q.subno) := by
  have := (run_ok (init.enable on) [] ps (init_ok on)).2 q h
  simpa [Sent] using this

/-- non-vacuity: a header followed by a second header of the same magazine stores the first page -/
example : (run (init.enable true) [f21Tx, f21Tx.set 2 21]).2.any
    (fun e => match e with | Event.put q => q.pgno == 0x123 && q.subno == 0x2359 | _ => false) = true := by
  decide +kernel

/-- Hamming 8/4 with up to two inverted bits: corrected (one) or refused (two), never decoded as
    another value. -/
theorem two_errors_never_miscorrected (c e : Nat) (hc : IsHam8 c) (he : FewFlips e) :
    unham8 (c ^^^ e) = none ∨ unham8 (c ^^^ e) = unham8 c := unham8_few c e hc he

/-- ... hence: if the received header `rx` differs from the transmitted header `tx` by at most two
    bit errors in each of its ten Hamming protected bytes (`HdrChannel`) and the decoder accepts it,
    then the numbers it computed are the transmitted magazine and page number - and, with repair
    F21 in place (`ttxFixF21`, regenerated from packet.c), also the transmitted subpage number.
    Together with `no_foreign_page_number`: no page is ever stored under a page number other than
    one that was transmitted. -/
theorem header_numbers_are_transmitted (tx rx : Packet) (hw : WellFormed rx) (hch : HdrChannel tx rx)
    (m pg sub : Nat) (h : hdrKey rx = some (m, pg, sub)) :
    ∃ sub', hdrKey tx = some (m, pg, sub') ∧ (ttxFixF21 = true → sub' = sub) :=
  hdrKey_channel tx rx hch m pg sub h

/-- FULL STATEMENT for the subpage number (false on the unrepaired code: `f21Tx`/`f21Rx` above). -/
def subpage_number_is_transmitted_full : Prop :=
  ∀ (tx rx : Packet), WellFormed rx → HdrChannel tx rx → ∀ m pg sub,
    hdrKey rx = some (m, pg, sub) → hdrKey tx = some (m, pg, sub)

theorem subpage_number_is_transmitted_fixed (hf : ttxFixF21 = true) : subpage_number_is_transmitted_full := by
  intro tx rx hw hch m pg sub h
  obtain ⟨sub', h1, h2⟩ := hdrKey_channel tx rx hch m pg sub h
  rw [h2 hf] at h1; exact h1

example : HdrChannel f21Tx f21Rx := by
  intro i hi
  have : ∀ i < 10, ∃ n < 16, byte f21Tx i = ham8 n := by decide +kernel
  obtain ⟨n, hn, hb⟩ := this i hi
  refine ⟨⟨n, hn, hb⟩, ?_⟩
  by_cases h5 : i = 5
  · subst h5
    exact ⟨1 <<< 0 ^^^ 1 <<< 3, Or.inr (Or.inr ⟨0, 3, by decide, by decide, by decide, rfl⟩), by decide +kernel⟩
  · refine ⟨0, Or.inl rfl, ?_⟩
    have : ∀ i < 10, i ≠ 5 → byte f21Rx i = byte f21Tx i ^^^ 0 := by decide +kernel
    exact this i hi h5

end Zvbi.Props.C03
