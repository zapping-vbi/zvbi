import ZvbiModel.Props.C07
import ZvbiModel.Generated.DemuxTsShape
/-!
# C07, TS path: what the expected continuity_counter can be, the rule for a gap, the dead error exit

Statements of `demux_ts_packet` whose change would change nothing, each with the theorem that says so:
* `if (dx->ts_continuity >= 0)` could be `> 0`: `ts_continuity_never_zero`, `ts_continuity_sign_test_equivalent`;
* the error exit `bad_ts_packet_return:` (a third copy of the `ts_buffer` bookkeeping) is dead code: `ts_source_shape`;
* `b3 & 0x0F` in an argument of a `debug2 ()` log line has no effect on frames or memory.
The live statements with the same text (the other copies of the `ts_buffer` bookkeeping, the two masks of the continuity
test) are covered by the generator families `ts_cc`, `ts_gap` and the oracle, see NOTES/C07.md.
-/
namespace Zvbi.Props.C07Ts

open Zvbi Zvbi.Demux Zvbi.Props.C07

variable (cfg : SrcCfg)

/-- **ts_continuity_never_zero.** After every history of feed calls on a new TS demultiplexer - whatever the bytes
and the cuts - the expected continuity_counter is unknown (`-1`) or at least 1: the code stores `-1` and `b3 + 1`
only.  (No "bytes < 256" or "no fault" hypothesis.) -/
theorem ts_continuity_never_zero (pid : Nat) (hist : List Bytes) :
    ∀ c, (tsAfter cfg pid hist).cont = some c → 1 ≤ c :=
  (ts_inv_reachable cfg pid hist).cnt

example : (tsAfter SrcCfg.repaired 256 [tsThree]).cont = some (0x12 + 1) := by decide +kernel

/-- **ts_continuity_sign_test_equivalent.** In every reachable context and for every packet the continuity test with
`if (dx->ts_continuity > 0)` gives the verdict of the test as written (`>= 0`).  The same invariant is what makes the model's truncated `c - 1` the C code's `unsigned int prev_cont`. -/
theorem ts_continuity_sign_test_equivalent (pid : Nat) (hist : List Bytes) (b3 : Nat) :
    tsContCheckStrict (tsAfter cfg pid hist).cont b3 = tsContCheck (tsAfter cfg pid hist).cont b3 :=
  tsContCheckStrict_eq _ (ts_continuity_never_zero cfg pid hist) b3

/-- non-vacuity: at 0 the two tests differ -/
example : tsContCheckStrict (some 0) 15 ≠ tsContCheck (some 0) 15 := tsContCheckStrict_differs_at_zero

/-- **ts_gap_discards_pes_packet.** The rule for a gap: a packet of the PID that passes the TS header checks and
carries neither the expected counter nor the one before it (`ts_repeated_iff_same_counter`: the 14 other values) is
skipped together with the PES packet in progress and the lines collected for the current frame (`new_frame`,
`ts_pes_todo = 0`, `consume = 0`), the expected counter becomes this packet's counter + 1 (so the next packet in
sequence is accepted) - and nothing else changes: sync state, PID, the delivered-frame state other than `new_frame`. -/
theorem ts_gap_discards_pes_packet (s : TsSt) (q : Bytes) (c : Nat) (hc : s.cont = some c)
    (hh : tsHeaderCheck s q = none) (hg : tsContCheck (some c) (q.getD 3 0) = .lost) :
    let r := tsSkipPesPacket { s with cont := some (q.getD 3 0 + 1) } q
    tsHeader cfg s q = (r, none) ∧ r.cont = some (q.getD 3 0 + 1) ∧ r.pesTodo = 0 ∧ r.consume = 0
      ∧ r.fs = { s.fs with newFrame := true } ∧ r.inSync = s.inSync ∧ r.pid = s.pid
      ∧ tsContCheck r.cont (q.getD 3 0 + 1) = .ok := by
  intro r
  have e : tsHeader cfg s q = (r, none) := by
    unfold tsHeader
    rw [hh]
    simp only [hc, hg]
    rfl
  have hok : tsContCheck (some (q.getD 3 0 + 1)) (q.getD 3 0 + 1) = .ok := (tsContCheck_ok_next _ _).2 rfl
  have hf : ∀ t : TsSt, (tsSkipPesPacket t q).cont = t.cont ∧ (tsSkipPesPacket t q).pesTodo = 0 ∧
      (tsSkipPesPacket t q).consume = 0 ∧ (tsSkipPesPacket t q).fs = { t.fs with newFrame := true } ∧
      (tsSkipPesPacket t q).inSync = t.inSync ∧ (tsSkipPesPacket t q).pid = t.pid := by
    intro t
    unfold tsSkipPesPacket tsAdvance
    dsimp only
    split <;> exact ⟨rfl, rfl, rfl, rfl, rfl, rfl⟩
  obtain ⟨h1, h2, h3, h4, h5, h6⟩ := hf { s with cont := some (q.getD 3 0 + 1) }
  have h1' : r.cont = some (q.getD 3 0 + 1) := h1
  exact ⟨e, h1', h2, h3, h4, h5, h6, by rw [h1']; exact hok⟩

/-- non-vacuity, end to end on the model: frames PTS 3 4 [5 missing] 6 7 8, one TS packet each; the gap is seen at 6:
frame 4 (held) and packet 6 go, 3 and 7 are delivered (8 stays open) -/
example : ((tsFeed SrcCfg.repaired (TsSt.init 256)
      (tsOf 256 0 (linePacket 3 7 0x55) ++ tsOf 256 1 (linePacket 4 7 0x66) ++ tsOf 256 3 (linePacket 6 7 0x77)
        ++ tsOf 256 4 (linePacket 7 7 0x11) ++ tsOf 256 5 (linePacket 8 7 0x22))).frames.map
      fun f => (f.pts, f.lines.map (·.line))) = [(3, [7]), (7, [7])] := by decide +kernel

/-- **ts_source_shape.** Two facts read from the current source by `translate/gen_demux.py` that the TS model relies
on: the error exit `bad_ts_packet_return:` (a third copy of the `ts_buffer` bookkeeping) is reached only from
`if (0) { ... }` blocks - the model has no such path -, and `dx->ts_continuity` is assigned `-1` and `b3 + 1` only.
If either changes in /repo this theorem no longer builds. -/
theorem ts_source_shape :
    Gen.demuxTsErrorExitDead = true ∧ Gen.demuxTsContinuityMinus1OrB3Plus1 = true := ⟨rfl, rfl⟩

example : Gen.demuxTsErrorExitDead = true := (ts_source_shape).1

end Zvbi.Props.C07Ts
