import ZvbiModel.Ttx.SerialCycleDec
import ZvbiModel.Props.C02Serial
/-!
# Property C02: a whole cycle of MAGAZINE-SERIAL transmissions (`page_roundtrip_cycle_serial`)

The magazine-serial counterpart of `C02Chain.page_roundtrip_cycle` (which is the parallel-mode theorem).  In serial mode
every page header carries control bit C11 (`C11_MAGAZINE_SERIAL` in packet.c), a page is terminated by the next header of
ANY magazine that carries a different page number (magazine digit included), and the packets between two headers all
belong to the page of the first header.

* the decoder is in ANY state reached from a fresh decoder by a history of `GoodS` packets (consistent page headers
  `GoodHdr`, page headers of decimal or time-filling page numbers only `TextOnly`; nothing is asked about C11 of the
  history: parallel-mode pages, rows, X/26 .. 8/30, undecodable bytes of any magazine may have come before);
* a cycle `x0 :: xs` of transmissions (`STx = Tx × Packet × List RowPkt`, `SSegOk`), each of its OWN magazine: header of
  a decimal page with C11 set (any sub-code, other control bits, erase flag on/off), then any rows 1..25 of that page
  (any subset / order / repeats, odd-parity bytes);
* neighbours carry different full page numbers (`AltS`; 150 then 250 is allowed); a final header `fin` of any magazine
  `mF` whose page number `finPage` decodes (decimal or time-filling FF; only `TextOnly` is asked of it, C11 or not) and
  differs from the last transmission's.

Conclusions for the state after `fin` (`PageClaimS` mirrors `C02Chain.PageClaim`): (1) ALL TTX_PAGE events of the cycle
and `fin` = events of closing whatever was open before ++ exactly one `(pgno, subno)` per transmission, in order; (2)
every transmission was stored as `Fetched` says, page type not CLOCK; (3) for the last transmission of a page number,
exact and wildcard look-ups in the FINAL cache return exactly that entry; (4) rotating subpages.
Lemmas: `Ttx/SerialCycle.lean`.  Joined with the formatter: `Props/C02SerialCycleFetch.lean`.
-/
namespace Zvbi.Props.C02SerialCycle
open Zvbi.Ttx Zvbi.Hamm Zvbi.Fmt Zvbi.Fmt.L1Spec Zvbi.Props.C02Roundtrip Zvbi.Props.C02Interleave

/-- the conclusions of `page_roundtrip_cycle_serial` about the transmission `x` at position `pre ++ x :: post` of the
    cycle, `s` = state before the cycle, `sF` = state after the final header (full page number `pgnoF`) -/
def PageClaimS (s sF : St) (pgnoF : Nat) (pre : List STx) (x : STx) (post : List STx) : Prop :=
  ∃ q pt, Fetched q x.1 (s1S (run s (sstream pre)).1 x.1) x.2.1 x.rows pt ∧ pt ≠ PT_CLOCK
    -- last transmission of its page number: exact and wildcard look-ups in the final cache return it
    ∧ ((∀ y ∈ post, y.1.pgno ≠ x.1.pgno) → pgnoF ≠ x.1.pgno →
        q ∈ sF.net.cache ∧ ∀ subno mask, subno = q.subno ∨ subno = ANY_SUBNO →
          (cacheGet sF.net.cache x.1.pgno subno mask).map (·.1) = some q)
    -- rotating subpages: later transmissions of the page number carry other sub-codes 01..79
    ∧ (SubCode x.1.subno → (∀ y ∈ post, y.1.pgno = x.1.pgno → SubCode y.1.subno ∧ y.1.subno ≠ x.1.subno) →
        pgnoF ≠ x.1.pgno →
        q.subno = x.1.subno ∧ (cacheGet sF.net.cache x.1.pgno x.1.subno 0xFFFFFFFF).map (·.1) = some q)

/-- **page_roundtrip_cycle_serial** (magazine-serial mode, transmissions of several magazines; see the file header).
From the state after ANY history of packets with consistent, text-only page headers: a cycle of serial-mode
transmissions (header with C11 of a decimal page of any magazine + any of its rows 1..25), neighbours with different
full page numbers, then a header `fin` of any magazine with yet another page number (decimal or time filling).  Then
(1) the TTX_PAGE events of the whole sequence are those of closing the page that was open before, followed by exactly
one `(pgno, subno)` per transmission in order; and for every transmission (2) it was stored as `Fetched` (text page,
its numbers / national option / flags, rows = previous version or blanks merged with the rows received), page type not
CLOCK, (3) if no later transmission nor `fin` carries its page number, exact and wildcard look-ups in the final cache
return that entry, (4) if the later transmissions of its page number carry other sub-codes 01..79, the exact look-up of
its own sub-code still returns it. -/
theorem page_roundtrip_cycle_serial (tmpl : List Nat) (off : Nat)
    (hist : List Packet) (hhist : ∀ p ∈ hist, GoodS tmpl off p)
    (x0 : STx) (xs : List STx) (hx : ∀ x ∈ x0 :: xs, SSegOk tmpl off x)
    (fin : Packet) (mF finPage : Nat) (hmF : mF < 8) (hfa : a16 fin 0 = some mF) (hfp : a16 fin 2 = some finPage)
    (hft : TextOnly fin)
    (halt : AltS ((x0 :: xs).map (·.1.pgno) ++ [mag8Of mF * 256 + finPage])) :
    let s := (run (init.enable true) hist).1
    let all := run s (sstream (x0 :: xs) ++ [fin])
    ttxPages all.2 = ttxPages (terminatePage (tick s) x0.1.m x0.1.pgno x0.1.page).2 ++ (x0 :: xs).map STx.key
    ∧ ∀ pre x post, x0 :: xs = pre ++ x :: post → PageClaimS s all.1 (mag8Of mF * 256 + finPage) pre x post := by
  intro s all
  obtain ⟨hev, hcl⟩ := (serMode tmpl off).cycle s (run_sinv hist _ (init_sinv tmpl off) hhist).1 x0 xs hx
    fin mF finPage _ hfa hfp hft ⟨hmF, rfl⟩ halt.alt
  refine ⟨hev, fun pre x post e => ?_⟩
  obtain ⟨q, pt, hF, hpt, hl, _⟩ := hcl pre x post e
  exact ⟨q, pt, hF, hpt, hl.1, hl.2⟩

/-! ### the concrete serial cycle used for non-vacuity -/

/-- header with C11 set of page (`m`, `page`), page number at columns 8..10 of the header text -/
def hdS (m page : Nat) : Packet := hdrPkt m page 0x10 (textOf (mag8Of m * 256 + page) 0x20)
def serTmpl : List Nat := payload (hdS 1 0)

/-- magazine 1 sends 150 (row 1), magazine 2 sends 250 (row 1), magazine 1 sends 150 again (row 2 only, no erase flag) -/
def ser0 : STx := (⟨1, 0x50, 0, 0, 0x10⟩, hdS 1 0x50, [(1, rowPkt 1 1 0xC1)])
def ser1 : STx := (⟨2, 0x50, 0, 0, 0x10⟩, hdS 2 0x50, [(1, rowPkt 2 1 0x43)])
def ser2 : STx := (⟨1, 0x50, 0, 0, 0x10⟩, hdS 1 0x50, [(2, rowPkt 1 2 0x45)])

theorem ser_ok : ∀ x ∈ [ser0, ser1, ser2], SSegOk serTmpl 8 x :=
  have : ∀ x ∈ [ser0, ser1, ser2], ssegOkB serTmpl 8 x = true := by decide +kernel
  fun x hx => ssegOk_of_dec _ _ x (this x hx)

/-- `page_roundtrip_cycle_serial` APPLIES to that cycle from a fresh decoder (every hypothesis discharged; final header:
    time-filling header of magazine 3): the claim for 250 of magazine 2 in the middle, closed by the header of 150 of
    magazine 1 -/
example : PageClaimS (init.enable true)
    (run (init.enable true) (sstream [ser0, ser1, ser2] ++ [hdS 3 0xFF])).1 0x3FF [ser0] ser1 [ser2] := by
  exact (page_roundtrip_cycle_serial serTmpl 8 [] (fun _ h => by cases h) ser0 [ser1, ser2] ser_ok (hdS 3 0xFF) 3 0xFF
    (by decide) (by decide +kernel) (by decide +kernel) (textOnly_of_dec _ (by decide +kernel))
    ⟨by decide, by decide, by decide, trivial⟩).2 [ser0] ser1 [ser2] rfl

/-- what the model computes on that cycle: one event per transmission in order (magazines 1, 2, 1), page 150 = row 1 of
    its first and row 2 of its second transmission, 250 of magazine 2 intact -/
example :
    let r := run (init.enable true) (sstream [ser0, ser1, ser2] ++ [hdS 3 0xFF])
    ttxPages r.2 = [(0x150, 0), (0x250, 0), (0x150, 0)]
    ∧ (cacheGet r.1.net.cache 0x150 ANY_SUBNO 0).map (fun g => (g.1.raw.getD 1 [], g.1.raw.getD 2 []))
        = some (List.replicate 40 0xC1, List.replicate 40 0x45)
    ∧ (cacheGet r.1.net.cache 0x250 ANY_SUBNO 0).map (fun g => g.1.raw.getD 1 []) = some (List.replicate 40 0x43) := by
  decide +kernel


end Zvbi.Props.C02SerialCycle
