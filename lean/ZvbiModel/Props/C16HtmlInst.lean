import ZvbiModel.Export.HtmlInst
import ZvbiModel.Props.C16Html
/-!
# C16, HTML export module: one export object used for more than one export

`Export/HtmlInst.lean` carries the eight "current attribute" fields of `html_instance` from call to call
(`HtmlInst`, `htmlExport`, `exportSeq`).  The property clause: "exporting to a caller buffer of any size, to an allocated
buffer, to a stdio stream and to a file yield byte-identical data ... reports the size actually needed" - applications
obtain these with ONE object (size query first, then the export), so the data must not depend on what the object
exported before.  Equality of the call lists gives equality of the bytes for every target (`html_targets_agree`).
-/
namespace Zvbi.Props.C16HtmlInst
open Zvbi.Export Zvbi.Export.Spec

/-- what an export hands to the write layer: `none` = the model's read-outside-the-page fault -/
def bytesOf : Except Fault (List Op) → Option Bytes
  | .ok ops => some (output ops)
  | .error _ => none

theorem htmlOpsOfI_fresh (cfg : HtmlCfg) (env : HtmlEnv) (conv : Nat → Option Nat) (colorAt : Nat → Nat) (rows : List (List HCell)) :
    htmlOpsOfI cfg env conv colorAt HtmlInst.fresh rows = htmlOpsOf cfg env conv colorAt rows := rfl

/-- **A new object.**  The first export of an object (`html_new`: `calloc`) is `htmlOps`, the function all theorems of
`Props/C16Html.lean` are about (faithful text, escaping, balanced tags, size, target agreement) - in both shapes of
`free_styles`. -/
theorem html_fresh_object (resets : Bool) (cfg : HtmlCfg) (conv : Nat → Option Nat) (env : HtmlEnv) (pg : Page) :
    (htmlExport resets cfg conv HtmlInst.fresh env pg).1 = htmlOps cfg env conv pg := by
  unfold htmlExport htmlOps
  cases regionCells pg 0 0 pg.columns pg.rows with
  | error f => rfl
  | ok cells =>
    dsimp only
    cases h : colorsOk pg env (cells.map (·.map (·.2))) with
    | true => simp only [if_true]; rfl
    | false => simp

example : bytesOf (htmlExport true ⟨true, true⟩ (fun u => some u) HtmlInst.fresh { header := false }
    ⟨1, 1, [{ unicode := 0x41, size := 0, foreground := 3, background := 4 }], [], List.replicate 40 0⟩).1
    = some (tagPre ++ tagSpanStyle ++ hashColor 0 ++ tagBgColor ++ hashColor 0 ++ tagQuoteGt ++ [0x41, 10] ++ tagSpanOff ++ tagPreOff ++ [10]) := by
  decide +kernel

/-- **State reset.**  With the eight assignments in `free_styles`, whatever state an object is in (any colours, any
flags) and whatever it exports: after an export that produced data the object is in the state `html_new` gave it. -/
theorem html_export_state_reset (cfg : HtmlCfg) (conv : Nat → Option Nat) (i : HtmlInst) (env : HtmlEnv) (pg : Page) (ops : List Op)
    (h : (htmlExport true cfg conv i env pg).1 = .ok ops) :
    (htmlExport true cfg conv i env pg).2 = HtmlInst.fresh :=
  (htmlExport_state cfg conv i env pg).resolve_right fun ⟨_, f, hf⟩ => by rw [h] at hf; cases hf

theorem html_fresh_stays_fresh (cfg : HtmlCfg) (conv : Nat → Option Nat) (env : HtmlEnv) (pg : Page) :
    (htmlExport true cfg conv HtmlInst.fresh env pg).2 = HtmlInst.fresh :=
  (htmlExport_state cfg conv HtmlInst.fresh env pg).elim id (·.1)

/-- **History independence.**  For every history of one export object - any number of exports, each with its own page and
option vector - every export yields exactly the calls (hence, by `html_targets_agree`, for every target exactly the bytes
and the size) a brand-new object yields for that page and those options. -/
theorem html_export_history_independent (cfg : HtmlCfg) (conv : Nat → Option Nat) (reqs : List (HtmlEnv × Page)) :
    exportSeq true cfg conv HtmlInst.fresh reqs = reqs.map fun r => htmlOps cfg r.1 conv r.2 := by
  induction reqs with
  | nil => rfl
  | cons r rest ih =>
    obtain ⟨env, pg⟩ := r
    simp only [exportSeq, List.map_cons]
    rw [html_fresh_stays_fresh, html_fresh_object, ih]

/-- **Idempotent.**  For every page and option vector, and whatever the object exported before
(`before`: any pages, any options): the `k`-th of `n` repeated exports of the page gives the same calls - the same bytes,
the same size - as the first one, namely those of `htmlOps`.  In particular the size query
`vbi_export_mem (e, NULL, 0, pg)` announces exactly the size of the export that follows. -/
theorem html_export_idempotent_reset (cfg : HtmlCfg) (conv : Nat → Option Nat) (before : List (HtmlEnv × Page)) (env : HtmlEnv) (pg : Page)
    (n k : Nat) (hk : k < n) :
    (exportSeq true cfg conv HtmlInst.fresh (before ++ List.replicate n (env, pg)))[before.length + k]? = some (htmlOps cfg env conv pg) ∧
    (exportSeq true cfg conv HtmlInst.fresh (before ++ List.replicate n (env, pg)))[before.length + k]?
      = (exportSeq true cfg conv HtmlInst.fresh (before ++ List.replicate n (env, pg)))[before.length]? := by
  have h0 : 0 < n := Nat.lt_of_le_of_lt (Nat.zero_le k) hk
  rw [html_export_history_independent]
  simp [hk, h0]

example : (exportSeq true ⟨true, true⟩ (fun u => some u) HtmlInst.fresh (List.replicate 3
    ({ header := false }, ⟨1, 1, [{ unicode := 0x41, size := 0, foreground := 3, background := 4 }], [], List.replicate 40 0⟩))).map bytesOf
    = List.replicate 3 (some (tagPre ++ tagSpanStyle ++ hashColor 0 ++ tagBgColor ++ hashColor 0 ++ tagQuoteGt ++ [0x41, 10] ++ tagSpanOff ++ tagPreOff ++ [10])) := by
  decide +kernel

/-- **Without the reset the statement is false** (the source shape in which `free_styles` leaves the eight fields alone):
one cell `A`, yellow on blue, `header=0`, `color=1`.  The first export opens a span for the cell (54 + 19 bytes); it ends with
foreground / background = the cell's colours, the second export takes them as `html->def`, the cell "needs no span", and the
same page comes out 54 bytes shorter, without its colours.  With the reset both exports are equal. -/
theorem html_export_reuse_counterexample :
    (exportSeq false ⟨true, true⟩ (fun u => some u) HtmlInst.fresh (List.replicate 2
      ({ header := false }, ⟨1, 1, [{ unicode := 0x41, size := 0, foreground := 3, background := 4 }], [], List.replicate 40 0⟩))).map bytesOf
      = [some (tagPre ++ tagSpanStyle ++ hashColor 0 ++ tagBgColor ++ hashColor 0 ++ tagQuoteGt ++ [0x41, 10] ++ tagSpanOff ++ tagPreOff ++ [10]),
         some (tagPre ++ [0x41, 10] ++ tagPreOff ++ [10])] := by
  decide

/-- **The tree under test.**  `currentInstReset` is measured on the compiled exp-html.c (`probehtml`: one object exports a
coloured page twice).  For the code as it is: every export of every history equals the export of a new object, and the
`k`-th repetition equals the first. -/
theorem html_export_idempotent (cfg : HtmlCfg) (conv : Nat → Option Nat) (before : List (HtmlEnv × Page)) (env : HtmlEnv) (pg : Page)
    (n k : Nat) (hk : k < n) :
    exportSeq currentInstReset cfg conv HtmlInst.fresh (before ++ List.replicate n (env, pg))
      = (before ++ List.replicate n (env, pg)).map (fun r => htmlOps cfg r.1 conv r.2) ∧
    (exportSeq currentInstReset cfg conv HtmlInst.fresh (before ++ List.replicate n (env, pg)))[before.length + k]?
      = (exportSeq currentInstReset cfg conv HtmlInst.fresh (before ++ List.replicate n (env, pg)))[before.length]? := by
  have hcur : currentInstReset = true := rfl
  rw [hcur]
  exact ⟨html_export_history_independent cfg conv _, (html_export_idempotent_reset cfg conv before env pg n k hk).2⟩

example : currentInstReset = true := rfl

end Zvbi.Props.C16HtmlInst
