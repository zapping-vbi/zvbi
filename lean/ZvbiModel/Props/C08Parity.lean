import ZvbiModel.Cc.Model
/-!
# C08, continued - byte level of `vbi_decode_caption`: parity errors, NUL bytes, the 0x01..0x0F boundary

Property theorems only (each follows from the definition of `decodeMain` / `decodePair` by case analysis; no helper
lemmas).  Model `Cc/Model.lean` (src/caption.c `vbi_decode_caption`); `unpar8 b = none` = odd-parity check failed.
These pin down, for ALL states and bytes, four places where a single changed token alters no other theorem
(first- vs second-byte parity test, which byte is replaced by the block, `>= 0` vs `> 0`, `0x01 ... 0x0F` vs `0x00 ...`).
-/
namespace Zvbi.Props.C08Parity
open Zvbi.Cc Zvbi.Gen.Cc
open Zvbi.Hamm (unpar8)

/-- **parity_error_first_byte.**  A pair whose FIRST byte fails the parity check is decoded exactly like the pair
(0x7F, 0x7F) - both bytes are replaced by the "bad" glyph, whatever the second byte was and whether or not its own
parity is good - in every state, on both fields (behind the XDS gate; on field 2 such a pair is swallowed while an
XDS packet is open and changes nothing then). -/
theorem parity_error_first_byte (s : St) (b0 b1 : Nat) (h : (unpar8 b0).isNone = true) :
    (∀ f, decodeMain s f b0 b1 = decodeMain s f 127 127) ∧
    decodePair s false b0 b1 = decodePair s false 127 127 ∧
    decodePair s true b0 b1 = (if s.xds then s else decodeMain s true 127 127) := by
  have e : (unpar8 127).isNone = false := by decide
  have hs : (unpar8 b0).isSome = false := by
    cases hh : unpar8 b0 <;> simp_all
  have hm : ∀ f, decodeMain s f b0 b1 = decodeMain s f 127 127 := by
    intro f
    unfold decodeMain
    simp only [h, e, if_true, Bool.false_eq_true, if_false]
    rfl
  refine ⟨hm, ?_, ?_⟩
  · exact hm false
  · unfold decodePair xdsGate xdsConsumed
    simp only [hs, if_true, Bool.false_eq_true, if_false, false_and, and_false]
    by_cases hx : s.xds = true
    · simp only [hx, if_true]
    · simp only [hx, if_false, Bool.false_eq_true]
      exact hm true

/-- the block pair is a TEXT pair: two U+25A0 cells (or nothing in a channel without mode), the field-1 latch cleared -/
example (s : St) : decodeMain s false 127 127 =
    ({ s with last0 := 0 } : St).modCh ((s.curr false &&& 5) + 0) (fun ch => textPair ch 127 127) := by
  unfold decodeMain
  have e : (unpar8 127).isNone = false := by decide
  simp [e]

/-- **parity_error_second_byte_of_control.**  A control pair (first byte good, 0x10..0x1F) whose SECOND byte fails the
parity check executes nothing: on field 2 the state is unchanged, on field 1 only the repetition latch is cleared
(so the redundant copy that follows is executed as the first one). -/
theorem parity_error_second_byte_of_control (s : St) (f : Bool) (b0 b1 : Nat) (h0 : (unpar8 b0).isNone = false)
    (hc : 0x10 ≤ b0 &&& 0x7F ∧ b0 &&& 0x7F ≤ 0x1F) (h1 : (unpar8 b1).isSome = false) :
    decodeMain s f b0 b1 = (if f then s else { s with last0 := 0 }) := by
  unfold decodeMain
  have n1 : ¬ (1 ≤ b0 &&& 0x7F ∧ b0 &&& 0x7F ≤ 0x0F) := by omega
  simp only [h0, Bool.false_eq_true, if_false, n1, hc, and_self, if_true, h1]
  cases f <;> simp

/-- **control_second_byte_zero_is_executed.**  The second byte 0x80 (NUL with good parity, `vbi_unpar8` = 0, not
negative) is NOT a parity error: a control pair `c1 0x80` that is not the field-1 repetition runs
`caption_command (c1, 0)` (field 2: every time) - the `>= 0` of the parity test, as coded. -/
theorem control_second_byte_zero_is_executed (s : St) (b0 : Nat) (h0 : (unpar8 b0).isNone = false)
    (hc : 0x10 ≤ b0 &&& 0x7F ∧ b0 &&& 0x7F ≤ 0x1F) :
    decodeMain s true b0 0x80 = captionCommand s (b0 &&& 0x7F) 0 true := by
  unfold decodeMain
  have n1 : ¬ (1 ≤ b0 &&& 0x7F ∧ b0 &&& 0x7F ≤ 0x0F) := by omega
  have e : (unpar8 0x80).isSome = true := by decide
  simp only [h0, Bool.false_eq_true, if_false, n1, hc, and_self, if_true, e]
  simp

/-- **nul_first_byte_is_text.**  The range that only clears the latch is 0x01..0x0F, NOT 0x00..0x0F: a pair whose first
byte is the NUL filler 0x80 is a text pair - `0x80 0x80` runs the idle counter (`nulPair`: word break after the
second idle pair), `0x80 c` with another second byte types `c` into the current channel of the field. -/
theorem nul_first_byte_is_text (s : St) (f : Bool) (b1 : Nat) :
    decodeMain s f 0x80 0x80 = s.modCh ((s.curr f &&& 5) + (if f then 2 else 0)) nulPair ∧
    (b1 ≠ 0x80 → decodeMain s f 0x80 b1 =
      (if !f then { s with last0 := 0 } else s).modCh ((s.curr f &&& 5) + (if f then 2 else 0))
        (fun ch => textPair ch 0x80 b1)) := by
  have e : (unpar8 0x80).isNone = false := by decide
  constructor
  · unfold decodeMain
    simp [e]
  · intro hb
    unfold decodeMain
    simp [e, hb]

/-- non-vacuity of the hypotheses: 0x00 fails the parity check, 0x94 (RCL first byte) passes and is a control byte,
0x21 as second byte fails -/
example : (unpar8 0x00).isNone = true ∧ (unpar8 0x94).isNone = false ∧ (0x10 ≤ 0x94 &&& 0x7F ∧ 0x94 &&& 0x7F ≤ 0x1F) ∧
    (unpar8 0x21).isSome = false := by decide

end Zvbi.Props.C08Parity
