import ZvbiModel.Idl.RiStream
import ZvbiModel.Props.C15Sender
/-!
# C15, third part - IDL format A streams with RI repeats, fault patterns per transmission

Property theorems.  Helper lemmas: `Idl/RiStream.lean` (`TEv`, `wantT`, `expectedR_tevs`,
`senderEvs`).  The unit is the single transmission (original or repeat `j` of message number `c`), each one
received / dropped / corrupt, unrelated packets in between; the statement is the sender-side reading of "a gap in
the continuity sequence is reported with the data-lost flag on the next delivery": DATA_LOST on a delivery **iff**
it does not directly continue the previous delivery or a corrupt transmission that its announced repeat did not
repair intervened (`gapFlag`).
-/
namespace Zvbi.Props.C15
open Zvbi.Hamm Zvbi.Gen

section IdlRepeats
open Zvbi.Idl

/-- **Loss is flagged, for every fault pattern over originals and repeats.**  Any sequence of
    transmissions of ours - transmission number `j <= 14` (0 = original, else repeat `j`) of message
    number `c` (continuity index `c % 256`), any options per message but with an RI byte, bit 7 of RI
    ("a further repeat follows") set or not per transmission - each one received intact, dropped, or
    corrupt in its CRC region, with unrelated packets anywhere in between; no relation between the
    numbers is assumed (so every fault pattern of every sender schedule is covered).  From any
    demultiplexer state that corresponds to the sender-side state `(pend, last, aw)` the callbacks are
    exactly `wantT pend last aw evs`: handed over are the intact originals and the intact repeats whose
    number was announced by the corrupt transmission received just before (among the packets of ours
    that got through), with the exact user bytes and DEPENDENT as sent, and each delivery carries
    DATA_LOST iff `gapFlag`: an unrepaired corrupt transmission intervened since the previous delivery,
    or the message delivered before was not number `c - 1` (modulo 256).  In particular a packet lost
    without trace just before a corrupt original that is then repaired by its repeat IS reported (the
    expected continuity index survives the corrupt packet).  Induction over the transmissions
    (`expectedR_tevs`) on top of the packet-level refinement `run_refines_R`; uses
    `Gen.idlRiClearedOnRecovery = true`. -/
theorem idl_loss_flagged_repeats (channel : Nat) (spa : List Nat) (hch : channel < 16) (hspa : spa.length ≤ 6)
    (hspalt : ∀ n ∈ spa, n < 16) (evs : List TEv) (hok : TEvsOk channel spa evs)
    (s : St) (hsc : s.channel = channel) (hsa : s.address = Spec.spaVal spa)
    (pend : Bool) (last aw : Option Nat)
    (hfl : s.flags = if pend then 1 else 0) (hci : CiRel s.ci pend last) (haw : AwRelT s.ri aw) :
    (run s ((txsT channel spa evs).map Spec.Tx.bytes)).map (fun cb => (cb.flags, cb.bytes)) =
      wantT pend last aw evs := by
  rw [idl_delivers_sent_repeats_intended rfl s _ (by rw [hsc, hsa]; exact txsT_sent channel spa hch hspa hspalt evs hok), hfl]
  exact expectedR_tevs channel spa hspa evs s.ci s.ri pend last aw hok hci haw

/-- The same from a new demultiplexer: nothing pending, no previous delivery, no repeat awaited. -/
theorem idl_loss_flagged_repeats_new (channel : Nat) (spa : List Nat) (hch : channel < 16) (hspa : spa.length ≤ 6)
    (hspalt : ∀ n ∈ spa, n < 16) (fill : Nat) (s : St) (hnew : new channel (Spec.spaVal spa) fill = some s)
    (evs : List TEv) (hok : TEvsOk channel spa evs) :
    (run s ((txsT channel spa evs).map Spec.Tx.bytes)).map (fun cb => (cb.flags, cb.bytes)) =
      wantT false none none evs := by
  obtain ⟨h1, h2, h3, h4, h5⟩ := idl_new_state _ _ _ s hnew
  exact idl_loss_flagged_repeats channel spa hch hspa hspalt evs hok s h1 h2 false none none (by rw [h5]; rfl)
    (by rw [h3]; exact Or.inr rfl) (by rw [h4]; trivial)

/-- **A sender that numbers its messages consecutively and repeats them.**  Messages `c, c+1, ..`,
    message `i` sent as an original and any number (up to 14) of repeats numbered 1, 2, ..; per
    transmission the sender chooses the high nibble of RI (bit 7 = more repeats follow) and the
    channel decides received / dropped / corrupt; unrelated packets before any transmission.  A new
    demultiplexer calls back `wantT false none none (senderEvs c msgs)`. -/
theorem idl_sender_repeats_loss_flagged (channel : Nat) (spa : List Nat) (hch : channel < 16)
    (hspa : spa.length ≤ 6) (hspalt : ∀ n ∈ spa, n < 16) (fill : Nat) (s : St)
    (hnew : new channel (Spec.spaVal spa) fill = some s)
    (c : Nat) (msgs : List (Msg × List Slot)) (hok : SenderOk channel spa c msgs) :
    (run s ((txsT channel spa (senderEvs c msgs)).map Spec.Tx.bytes)).map (fun cb => (cb.flags, cb.bytes)) =
      wantT false none none (senderEvs c msgs) :=
  idl_loss_flagged_repeats_new channel spa hch hspa hspalt fill s hnew _ (senderEvs_ok channel spa msgs c hok)

/-- **The continuity gap survives a corrupt packet that announces its repeat** (the input class of the seeded
    change C15-f).  Message `c` is delivered; `g + 1` messages are lost without trace; the original of message
    `c + g + 2` arrives corrupt announcing a repeat (possibly after unrelated packets), its repeat 1 arrives intact:
    the repeat is handed over **with DATA_LOST** (unless the gap is a multiple of 256 messages), and the following message
    without. -/
theorem idl_gap_before_repaired_packet_flagged (channel : Nat) (spa : List Nat) (hch : channel < 16)
    (hspa : spa.length ≤ 6) (hspalt : ∀ n ∈ spa, n < 16) (fill : Nat) (s : St)
    (hnew : new channel (Spec.spaVal spa) fill = some s)
    (c g : Nat) (m0 m1 m1' m2 : Msg) (d : Spec.Pkt) (b : List Nat) (hg : (g + 1) % 256 ≠ 0)
    (hann : announces m1 0 = true)
    (hok : TEvsOk channel spa [.tx c m0 0 .received, .foreign b, .tx (c + g + 2) m1 0 (.corrupt d), .foreign b,
      .tx (c + g + 2) m1' 1 .received, .tx (c + g + 3) m2 0 .received]) :
    (run s ((txsT channel spa [.tx c m0 0 .received, .foreign b, .tx (c + g + 2) m1 0 (.corrupt d), .foreign b,
      .tx (c + g + 2) m1' 1 .received, .tx (c + g + 3) m2 0 .received]).map Spec.Tx.bytes)).map
      (fun cb => (cb.flags, cb.bytes)) = [(m0.dep, m0.data), (1 ||| m1'.dep, m1'.data), (m2.dep, m2.data)] := by
  rw [idl_loss_flagged_repeats_new channel spa hch hspa hspalt fill s hnew _ hok]
  have h1 : (c + 1) % 256 ≠ (c + g + 2) % 256 := by omega
  have h2 : (c + g + 2 + 1) % 256 = (c + g + 3) % 256 := by rw [Nat.add_assoc (c + g)]
  simp [wantT, gapFlag, hann, h1, h2]

/-- **Finding C15-R2: a message is handed over twice.**  The original of message `c` arrives intact (handed
    over), its repeat `j` arrives corrupt announcing a further repeat, repeat `j + 1` arrives intact: the demultiplexer
    identifies the awaited repeat by its number only and hands the message over a second time, with DATA_LOST,
    although nothing was lost and nothing else was sent ("delivers exactly the sent bytes, block by block in order"
    would demand one callback).  Holds for EVERY such message and corrupt packet; reproduced on the real code:
    `corpus/C15/r2-idl-duplicate-after-corrupt-repeat.ops`. -/
theorem idl_duplicate_after_corrupt_repeat_counterexample (channel : Nat) (spa : List Nat) (hch : channel < 16)
    (hspa : spa.length ≤ 6) (hspalt : ∀ n ∈ spa, n < 16) (fill : Nat) (s : St)
    (hnew : new channel (Spec.spaVal spa) fill = some s)
    (c j : Nat) (m mj m' : Msg) (d : Spec.Pkt) (hj : 1 ≤ j) (hann : announces mj j = true)
    (hok : TEvsOk channel spa [.tx c m 0 .received, .tx c mj j (.corrupt d), .tx c m' (j + 1) .received]) :
    (run s ((txsT channel spa [.tx c m 0 .received, .tx c mj j (.corrupt d), .tx c m' (j + 1) .received]).map
      Spec.Tx.bytes)).map (fun cb => (cb.flags, cb.bytes)) = [(m.dep, m.data), (1 ||| m'.dep, m'.data)] := by
  rw [idl_loss_flagged_repeats_new channel spa hch hspa hspalt fill s hnew _ hok]
  have h1 : (c + 1) % 256 ≠ c % 256 := by omega
  simp [wantT, gapFlag, hann, h1]

/-- `exMsg` with RI high nibble 0 (last transmission: no further repeat) -/
def exMsgLast (dep : Nat) : Msg := { exMsg dep with ri := 0 }

/-- message 5 received; message 6 lost without trace; original of message 7 corrupt (announces repeat 1), an
    unrelated packet, repeat 1 of message 7 received; message 8: original received, repeat 1 corrupt (announces
    repeat 2), repeat 2 received (C15-R2: handed over again); message 9 received but its original had been
    preceded by a corrupt last repeat of message 8 (announces nothing) -/
def exTEvs : List TEv :=
  [.tx 5 (exMsg 8) 0 .received, .tx 6 (exMsg 8) 0 .dropped, .tx 7 (exMsg 8) 0 (.corrupt exDamaged7), .foreign (List.replicate 42 0),
   .tx 7 (exMsg 8) 1 .received, .tx 8 (exMsg 8) 0 .received, .tx 8 (exMsg 8) 1 (.corrupt (exDamaged1 8)),
   .tx 8 (exMsg 8) 2 .received, .tx 8 (exMsgLast 8) 3 (.corrupt exDamagedLast), .tx 9 (exMsgLast 0) 0 .received]
where
  exDamaged7 : Spec.Pkt := { pk 3 [1, 2] 7 (exMsg 8) 0 with crcHi := (pk 3 [1, 2] 7 (exMsg 8) 0).crcHi ^^^ 1 }
  exDamagedLast : Spec.Pkt := { pk 3 [1, 2] 8 (exMsgLast 8) 3 with crcLo := (pk 3 [1, 2] 8 (exMsgLast 8) 3).crcLo ^^^ 0x40 }

example : TEvsOk 3 [1, 2] exTEvs := by
  have h8 : ∀ c, c < 16 → (exMsg 8).Ok 2 c := by unfold Msg.Ok; decide +kernel
  have hL8 : ∀ c, c < 16 → (exMsgLast 8).Ok 2 c := by unfold Msg.Ok; decide +kernel
  have hL0 : ∀ c, c < 16 → (exMsgLast 0).Ok 2 c := by unfold Msg.Ok; decide +kernel
  have hc : ∀ (m : Msg) (j : Nat) (d : Spec.Pkt), (shapeB d = true ∧
      (if d.haveCi then d.residual ≠ 0 else (d.residual &&& 0xFF) ≠ (d.residual >>> 8)) ∧
      d.haveRi = true ∧ d.ri = m.ri + j ∧ d.channel = 3 ∧ Spec.spaVal d.spa = Spec.spaVal [1, 2]) →
      CorruptOk 3 [1, 2] m j d := fun m j d h => ⟨shape_of_shapeB d h.1, h.2⟩
  intro e he
  simp only [exTEvs, List.mem_cons, List.not_mem_nil, or_false] at he
  rcases he with rfl | rfl | rfl | rfl | rfl | rfl | rfl | rfl | rfl | rfl
  · exact ⟨h8 5 (by decide), by decide, by decide, trivial⟩
  · exact ⟨h8 6 (by decide), by decide, by decide, trivial⟩
  · exact ⟨h8 7 (by decide), by decide, by decide, hc _ _ _ (by decide +kernel)⟩
  · exact notForUs_zeros 3 _
  · exact ⟨h8 7 (by decide), by decide, by decide, trivial⟩
  · exact ⟨h8 8 (by decide), by decide, by decide, trivial⟩
  · exact ⟨h8 8 (by decide), by decide, by decide, hc _ _ _ (by decide +kernel)⟩
  · exact ⟨h8 8 (by decide), by decide, by decide, trivial⟩
  · exact ⟨hL8 8 (by decide), by decide, by decide, hc _ _ _ (by decide +kernel)⟩
  · exact ⟨hL0 9 (by decide), by decide, by decide, trivial⟩

/-- what the sender-side spec demands for it: message 5; message 7 with DATA_LOST (message 6 missing); message 8;
    message 8 again with DATA_LOST (C15-R2); message 9 with DATA_LOST (a corrupt packet announcing no repeat intervened) -/
example : (wantT false none none exTEvs).map (·.1) = [8, 9, 8, 9, 1] := by decide
/-- and the model of the C code run on the 42 byte packets agrees -/
example : (run { channel := 3, address := 0x21, ci := none, ri := none, flags := 0 }
    ((txsT 3 [1, 2] exTEvs).map Spec.Tx.bytes)).map (·.flags) = [8, 9, 8, 9, 1] := by
  decide +kernel

end IdlRepeats
end Zvbi.Props.C15
