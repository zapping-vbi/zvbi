import ZvbiModel.Cache.LemmasSim
/-!
# C10 x C03/C02: the page list of the Teletext decoder model is the abstract map of the cache.c model

The decoder model (`Zvbi.Ttx`, property C03) keeps the cached pages of the current network as a most recently
used list: `Ttx.cacheGet` / `Ttx.cachePut` (reached through `Net.get` / `Net.put`; every look-up emits
`Aux.touch`, every store `Event.put`).  The cache.c model (`Zvbi.Cache`, property C10) refines to the abstract
store `AStore` (`refines_map_get`, `refines_map_put` in Props/C10.lean).  The theorems below close the gap:

* `ttx_get_is_map`, `ttx_put_is_map`: read through `tstore nid enc` (one `Entry` per page, `enc` abstracts the
  content, `nid` is the network the decoder holds) the decoder's list evolves by exactly the abstract
  `alookup` / `atouch` / `aput` - same key rule (`Ttx.putKey = Cache.putKey`), same wildcard rule
  (`VBI_ANY_SUBNO` => mask 0), same move-to-front.
* `sim_get`, `sim_put`: simulation, for BOTH source shapes of `_vbi_cache_put_page` (`fix`: as found with finding F17,
  repaired by fixes/C10-put-replaces-all-versions.diff; `Ttx.cachePut` follows `putReplacesAllVersions` like `stepCur`).  If the entries of network `nid` retrievable in a cache.c state are the
  decoder's list (`Sim`), then after a look-up / store performed on both sides they still are, and both
  sides hand out the same page (as `Entry`).  Hence a C02 / C03 statement about the page a decoder look-up
  returns is a statement about what `_vbi_cache_get_page` of the cache.c model returns.
-/
namespace Zvbi.Props.C10Ttx
open Zvbi.Cache Zvbi.Gen.Cache

/-- The decoder's look-up is the abstract look-up + touch. -/
theorem ttx_get_is_map (nid : Nat) (enc : Ttx.Page → Nat) (c : List Ttx.Page) (pgno subno mask : Nat)
    (hv : validPgno pgno = true) :
    ((Ttx.cacheGet c pgno subno mask).map (fun r => tentry nid enc r.1)
        = alookup (tstore nid enc c) nid pgno subno (if subno = anySubno then 0 else mask))
    ∧ tstore nid enc (match Ttx.cacheGet c pgno subno mask with | some r => r.2 | none => c)
        = atouch (tstore nid enc c) nid pgno subno (if subno = anySubno then 0 else mask) :=
  tcacheGet_abs nid enc c pgno subno mask hv

/-- The decoder's key rule is the one of the cache.c model. -/
theorem ttx_key_rule (pt pgno subno : Nat) (h : pgno < 4294967296) : Ttx.putKey pt pgno subno = putKey pt pgno subno :=
  tputKey_eq pt pgno subno h

/-- The decoder's store is the abstract store operation, in BOTH source shapes of `_vbi_cache_put_page` (`fix`):
    as found (`fix = false`) `aput` - the version found under the key is replaced -, with
    fixes/C10-put-replaces-all-versions.diff (`fix = true`) `aputR` - under a single-version key (`mask = 0`) EVERY version of
    the page number is replaced.  `Ttx.cachePut`, what the decoder model (C03 / C02 / C01) runs, is the shape
    translate/gen_cache.py read from the current source (`putReplacesAllVersions`). -/
theorem ttx_put_is_map (fix : Bool) (nid : Nat) (enc : Ttx.Page → Nat) (c : List Ttx.Page) (pt : Nat) (p : Ttx.Page)
    (hp : p.pgno < 4294967296) (c' : List Ttx.Page) :
    (Ttx.cachePutF fix c pt p = some c' →
      tstore nid enc c' = aputF fix (tstore nid enc c) (tentry nid enc (tstored pt p)) (putKey pt p.pgno p.subno).2) ∧
    (Ttx.cachePut c pt p = some c' →
      tstore nid enc c' = aputF putReplacesAllVersions (tstore nid enc c) (tentry nid enc (tstored pt p))
        (putKey pt p.pgno p.subno).2) ∧
    (∀ a e mask, aputF false a e mask = aput a e mask) ∧ (∀ a e mask, aputF true a e mask = aputR a e mask) :=
  ⟨fun hres => (tcachePutF_abs fix nid enc c pt p hp hres).2, fun hres => (tcachePutF_abs _ nid enc c pt p hp hres).2,
   fun _ _ _ => rfl, fun _ _ _ => rfl⟩

/-- non-vacuity, and the difference between the shapes: page 100 is cached with sub-codes 1 and 2; a store with
    sub-code 0x100 (single-version key) replaces the most recently used one as found, both when repaired -/
example :
    (Ttx.cachePutF false [{ Ttx.Page.zero with pgno := 0x100, subno := 1 }, { Ttx.Page.zero with pgno := 0x100, subno := 2 }] 0
      { Ttx.Page.zero with pgno := 0x100, subno := 0x100 }).map (fun l => l.map (·.subno)) = some [0x100, 2] ∧
    (Ttx.cachePutF true [{ Ttx.Page.zero with pgno := 0x100, subno := 1 }, { Ttx.Page.zero with pgno := 0x100, subno := 2 }] 0
      { Ttx.Page.zero with pgno := 0x100, subno := 0x100 }).map (fun l => l.map (·.subno)) = some [0x100] := by
  constructor <;> decide +kernel

/-- Look-up on both sides: same answer, still in simulation (for every reachable cache.c state, both source shapes). -/
theorem sim_get (fix : Bool) (ops : List Op) (nid : Nat) (enc : Ttx.Page → Nat) (c : List Ttx.Page)
    (hsim : Sim nid enc c (runF fix init ops)) (pgno subno mask : Nat) (hv : validPgno pgno = true) :
    (((runF fix init ops).getPage nid pgno subno mask).2.map Page.entry
        = (Ttx.cacheGet c pgno subno mask).map (fun r => tentry nid enc r.1))
    ∧ Sim nid enc (match Ttx.cacheGet c pgno subno mask with | some r => r.2 | none => c)
        ((runF fix init ops).getPage nid pgno subno mask).1 :=
  have ⟨a, b⟩ := getPage_sim (good_reach fix ops).1 nid enc c hsim pgno subno mask
  ⟨b, a⟩

/-- Store on both sides, BOTH source shapes of `_vbi_cache_put_page` (`fix`; memory not short, the decoder's page type
    is the one in the cache statistics, the stored content token is `enc` of the stored page): same page handed out,
    still in simulation.  The decoder model's store of shape `fix` (`Ttx.cachePutF fix`; `Ttx.cachePut` is the one of the
    current source) against the cache.c model of the same shape (`runF fix`, `putPageF fix`).  Through `putTailF_abs`
    (Cache/LemmasAbs.lean), the list form of the store refinement. -/
theorem sim_put (fix : Bool) (ops : List Op) (nid : Nat) (enc : Ttx.Page → Nat) (c : List Ttx.Page)
    (hsim : Sim nid enc c (runF fix init ops)) (cn : Net) (hf : (runF fix init ops).findNet nid = some cn)
    (p : Ttx.Page) (hrange : 0x100 ≤ p.pgno ∧ p.pgno ≤ 0x8FF)
    (a : PutArg) (ha : a = ⟨p.pgno, p.subno, p.function, p.x26, p.x28, enc (tstored (cn.getStat p.pgno).ptype p)⟩)
    (hroom : (runF fix init ops).memUsed + pageSize a.func a.x26 a.x28 ≤ (runF fix init ops).memLimit)
    (c' : List Ttx.Page) (hc : Ttx.cachePutF fix c (cn.getStat p.pgno).ptype p = some c')
    (s' : State) (r : Option Page) (hres : (runF fix init ops).putPageF fix nid a = .ok (s', r)) :
    r.map Page.entry = some (tentry nid enc (tstored (cn.getStat p.pgno).ptype p)) ∧ Sim nid enc c' s' :=
  have ⟨a1, a2, a3⟩ := putPageF_sim fix (good_reach fix ops).1 nid enc c hsim cn hf p hrange a ha hroom c' hc s' r hres
  ⟨a1.trans (congrArg some a2), a3⟩

/-- the decoder model as it runs (`Ttx.cachePut`, the shape translate/gen_cache.py read from the current source) against
    the cache.c model of the current source (`stepCur` histories = `runF putReplacesAllVersions`) -/
theorem sim_put_current (ops : List Op) (nid : Nat) (enc : Ttx.Page → Nat) (c : List Ttx.Page)
    (hsim : Sim nid enc c (runF putReplacesAllVersions init ops)) (cn : Net)
    (hf : (runF putReplacesAllVersions init ops).findNet nid = some cn)
    (p : Ttx.Page) (hrange : 0x100 ≤ p.pgno ∧ p.pgno ≤ 0x8FF)
    (a : PutArg) (ha : a = ⟨p.pgno, p.subno, p.function, p.x26, p.x28, enc (tstored (cn.getStat p.pgno).ptype p)⟩)
    (hroom : (runF putReplacesAllVersions init ops).memUsed + pageSize a.func a.x26 a.x28
      ≤ (runF putReplacesAllVersions init ops).memLimit)
    (c' : List Ttx.Page) (hc : Ttx.cachePut c (cn.getStat p.pgno).ptype p = some c')
    (s' : State) (r : Option Page) (hres : (runF putReplacesAllVersions init ops).putPageF putReplacesAllVersions nid a = .ok (s', r)) :
    r.map Page.entry = some (tentry nid enc (tstored (cn.getStat p.pgno).ptype p)) ∧ Sim nid enc c' s' :=
  sim_put putReplacesAllVersions ops nid enc c hsim cn hf p hrange a ha hroom c' hc s' r hres

/-- non-vacuity: an empty decoder list simulates a cache in which network 0 has no page -/
example (fix : Bool) : Sim 0 (fun _ => 0) [] (runF fix init [.addNet]) := by unfold Sim; rfl

end Zvbi.Props.C10Ttx
