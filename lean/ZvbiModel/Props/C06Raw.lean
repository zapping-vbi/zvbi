import ZvbiModel.Mux.RawFeed
import ZvbiModel.Mux.AcceptLemmas
import ZvbiModel.Mux.AcceptRaw
import ZvbiModel.Mux.LemmasStream
/-!
# C06 - frames with raw (monochrome samples) lines, the repaired stuffing, the converse

Property theorems only.  Model: `Mux/RawModel.lean` (`insert_raw_data_units`, `samples_pointer`,
`valid_sampling_par`, `generate_pes_packet` with `raw != NULL`, `vbi_dvb_mux_feed` with `raw` / `sp`);
independent reader of EN 301 775 4.9: `Mux/RawSpec.lean`; lemmas: `Mux/Raw{Lemmas,Pes,Feed}.lean`,
`Mux/AcceptLemmas.lean`, `Mux/AcceptRaw.lean`, `Mux/NullFeed.lean`.

`keep` is the source shape of `generate_pes_packet` (`Zvbi.Gen.muxKeepsLastDuSize`, read from
src/dvb_mux.c on every run by translate/gen_muxflags.py): `false` = the unchanged tree (finding F29),
`true` = the tree with fixes/C06-mux-raw-last-stuffing.diff.  Theorems quantified over `keep` hold
for both trees; what holds for one shape only says so.
-/
namespace Zvbi.Props.C06Raw
open Zvbi.Mux Zvbi.Mux.EnParse Zvbi.Mux.RawSpec

/-- a multiplexer between two `vbi_dvb_mux_feed` calls: API-reachable configuration, no raw line
    half sent (`raw_samples_left == 0`; kept by every call, see `raw_state_clean`) -/
structure StateOK (m : RMux) : Prop where
  cfg : CfgOK m.mux.cfg
  raw : m.raw.left = 0

/-- An accepted frame - sliced lines, raw lines, or both; any line length / sample offset the API
    admits; both data_identifier ranges; every packet size - is handed over as exactly one PES packet
    (PES mode) that the independent reader of EN 300 472 / EN 301 775 (with section 4.9) accepts: header,
    PTS, data units filling the packet exactly, legal stuffing, raw segments complete; size a multiple
    of 184 within the configured bounds; and no assertion fired.  Both source shapes. -/
theorem mux_wellformed_raw (keep : Bool) (m : RMux) (hm : StateOK m) (hp : m.mux.cfg.pid = 0) (lines : List Sliced)
    (mask : Nat) (raw : Option Bytes) (sp : Option Sp) (pts : Nat) (hwf : ∀ s ∈ lines, Sliced.WF s)
    (hok : (feedR keep m lines mask raw sp pts).2.ok = true) :
    ∃ pes p, (feedR keep m lines mask raw sp pts).2.calls = [some pes] ∧ parsePesR pes = some p
      ∧ p.size = pes.length ∧ pes.length % 184 = 0 ∧ m.mux.cfg.minSize ≤ pes.length ∧ pes.length ≤ m.mux.cfg.maxSize
      ∧ (feedR keep m lines mask raw sp pts).2.abort = none := by
  obtain ⟨hsp, pes, st', hg, hab, _, hpes, _⟩ := feedR_accepted keep m lines mask raw sp pts hok
  obtain ⟨⟨us, h1, _⟩, h2, h3, h4, _⟩ := generatePesR_ok keep m.mux.cfg hm.cfg m.raw hm.raw lines mask raw sp hsp pts hwf pes st' hg
  exact ⟨pes, _, (hpes hp).1, h1, rfl, h2, h3, h4, hab⟩

/-- That packet carries exactly the lines selected by the service mask, in order: sliced lines as in
    `Props/C06.lean`, and for every raw line request the reassembled samples of that line of the raw frame, on
    its line / field, first sample at `sp.offset - 132`; PTS mod 2^33; the configured data_identifier;
    every data unit but stuffing has a data_unit_length that fits its 8-bit field;
    every selected line was permitted (sliced service/line, or a raw request on lines 7..23 / 320..336
    inside the raw frame).  In TS mode the bytes are the TS packets of that PES packet. -/
theorem mux_carries_input_raw (keep : Bool) (m : RMux) (hm : StateOK m) (lines : List Sliced)
    (mask : Nat) (raw : Option Bytes) (sp : Option Sp) (pts : Nat) (hwf : ∀ s ∈ lines, Sliced.WF s)
    (hok : (feedR keep m lines mask raw sp pts).2.ok = true) :
    ∃ pes p st', generatePesR keep m.mux.cfg m.raw lines mask raw sp pts = .ok (pes, [], st') ∧ parsePesR pes = some p
      ∧ p.items = sentR mask (raw.getD []) (sp.getD dfltSp) lines ∧ p.pts = pts % 2 ^ 33 ∧ p.dataId = m.mux.cfg.dataId
      ∧ (∀ u ∈ p.units, u.id ≠ 0xFF → u.payload.length ≤ 255)
      ∧ (∀ s ∈ lines, s.id &&& mask ≠ 0 → PermittedAny raw sp s)
      ∧ (m.mux.cfg.pid = 0 → (feedR keep m lines mask raw sp pts).2.bytes = pes)
      ∧ (m.mux.cfg.pid ≠ 0 → (feedR keep m lines mask raw sp pts).2.bytes = (tsPackets m.mux.cfg.pid m.mux.cc pes).flatten) := by
  obtain ⟨hsp, pes, st', hg, _, _, hpes, hts⟩ := feedR_accepted keep m lines mask raw sp pts hok
  obtain ⟨⟨us, h1, hlen⟩, _, _, _, h5, _⟩ := generatePesR_ok keep m.mux.cfg hm.cfg m.raw hm.raw lines mask raw sp hsp pts hwf pes st' hg
  refine ⟨pes, _, st', hg, h1, rfl, rfl, rfl, hlen, h5, ?_, ?_⟩
  · intro hp; simp [FeedROut.bytes, (hpes hp).1]
  · intro hp; simp only [FeedROut.bytes, (hts hp).1, filterMap_id_map_some]

/-- Every raw data unit of an accepted frame parses per EN 301 775 4.9: data_unit_id 0xC6, a length
    that holds the 4 header bytes and n_pixels samples (the rest stuffing 0xFF; 0x2C in the EN 300 472
    compatible format, hence n_pixels <= 40 there; at most 255), 1 <= n_pixels <= 251,
    first_pixel_position + n_pixels <= 720,
    line_offset 7..23; and
    the segments of the packet, read in order, assemble (first / last flags consistent, each segment
    starting where the one before ended, same line, nothing in between) - that is what
    `(unitsItems p.units).bind assemble = some p.items` says - to exactly the requested lines. -/
theorem raw_units_wellformed (keep : Bool) (m : RMux) (hm : StateOK m) (lines : List Sliced)
    (mask : Nat) (raw : Option Bytes) (sp : Option Sp) (pts : Nat) (hwf : ∀ s ∈ lines, Sliced.WF s)
    (hok : (feedR keep m lines mask raw sp pts).2.ok = true) :
    ∃ pes p st', generatePesR keep m.mux.cfg m.raw lines mask raw sp pts = .ok (pes, [], st') ∧ parsePesR pes = some p
      ∧ parseUnits (pes.drop 46) = some p.units
      ∧ (unitsItems p.units).bind assemble = some (sentR mask (raw.getD []) (sp.getD dfltSp) lines)
      ∧ (m.mux.cfg.dataId ≤ 0x1F → ∀ u ∈ p.units, u.payload.length = 0x2C)
      ∧ ∀ u ∈ p.units, u.id = 0xC6 → u.payload.length ≤ 255 ∧ ∃ s, unitSeg u = some s
          ∧ 1 ≤ s.px.length ∧ s.px.length ≤ 251 ∧ s.pos + s.px.length ≤ 720
          ∧ ((7 ≤ s.line ∧ s.line ≤ 23) ∨ (320 ≤ s.line ∧ s.line ≤ 336))
          ∧ 4 + s.px.length ≤ u.payload.length := by
  obtain ⟨pes, p, st', hg, hp, hitems, _, hdid, hlen, _⟩ := mux_carries_input_raw keep m hm lines mask raw sp pts hwf hok
  obtain ⟨h1, h2, h3⟩ := parsePesR_units pes p hp
  refine ⟨pes, p, st', hg, hp, h3, by rw [← hitems]; exact h1, ?_, ?_⟩
  · intro hd u hu
    exact h2 (by rw [hdid]; exact hd) u hu
  · intro u hu hid
    cases hui : unitsItems p.units with
    | none => rw [hui] at h1; simp at h1
    | some is =>
      obtain ⟨s, hs, _⟩ := unitsItems_mem_seg p.units is hui u hu hid
      obtain ⟨a, b, c, _, e⟩ := unitSeg_some u s hs
      have hl := hlen u hu (by rw [hid]; decide)
      exact ⟨hl, s, hs, a, by omega, b, c, e⟩

/-- Round trip of the samples: the independent reader returns, for every raw line request
    (`VBI_SLICED_VBI_625` selected by the mask) of an accepted frame, exactly the `samples_per_line`
    input samples of that line (row `line - start[field]` of its field in the raw frame), on that line,
    first sample `offset - 132` samples into the active line - and nothing else but the sliced lines. -/
theorem raw_roundtrip (keep : Bool) (m : RMux) (hm : StateOK m) (lines : List Sliced)
    (mask : Nat) (rawb : Bytes) (sp : Sp) (pts : Nat) (hwf : ∀ s ∈ lines, Sliced.WF s)
    (hok : (feedR keep m lines mask (some rawb) (some sp) pts).2.ok = true) :
    ∃ pes p st', generatePesR keep m.mux.cfg m.raw lines mask (some rawb) (some sp) pts = .ok (pes, [], st')
      ∧ parsePesR pes = some p ∧ p.items = sentR mask rawb sp lines
      ∧ (∀ s ∈ lines, s.id = SL_VBI625 → s.id &&& mask ≠ 0 →
          Out.raw ⟨s.line, sp.offset - 132, (rawLineOf rawb sp s.line).px⟩ ∈ p.items ∧ PermittedRaw sp s
          ∧ (rawLineOf rawb sp s.line).px.length = sp.spl)
      ∧ (∀ r, Out.raw r ∈ p.items → ∃ s ∈ lines, s.id = SL_VBI625 ∧ s.id &&& mask ≠ 0 ∧ r = rawLineOf rawb sp s.line) := by
  obtain ⟨pes, p, st', hg, hp, hitems, _, _, _, hperm, _⟩ :=
    mux_carries_input_raw keep m hm lines mask (some rawb) (some sp) pts hwf hok
  simp only [Option.getD_some] at hitems
  refine ⟨pes, p, st', hg, hp, hitems, ?_, ?_⟩
  · intro s hs hid hm'
    rcases hperm s hs hm' with hper | ⟨rawb', sp', hr', hsp', hper, hlen⟩
    · exact absurd hid (permitted_not_raw s hper)
    · injection hr' with hr'; injection hsp' with hsp'; subst hr' hsp'
      exact ⟨by rw [hitems]; exact (mem_sentR_raw_iff mask rawb sp lines _).mpr ⟨s, hs, hid, hm', rfl⟩, hper, hlen⟩
  · intro r hr
    rw [hitems] at hr
    exact (mem_sentR_raw_iff mask rawb sp lines r).mp hr

/-- With `raw == NULL` and `sp == NULL` the raw-capable model of the unchanged tree answers exactly as the
    model without raw data, `feed` (same return value, same callbacks, same multiplexer afterwards), for every
    frame - also frames with raw line requests, which are then refused or masked out.  So the
    theorems about `feed` and `cor` (`mux_wellformed`, `mux_demux_roundtrip_lib`, `cor_equals_feed`, ...) and the theorems of
    this file speak about one and the same model. -/
theorem raw_model_extends_round1 (m : RMux) (hm : StateOK m) (lines : List Sliced) (mask pts : Nat) :
    (feedR false m lines mask none none pts).2.ok = (feed m.mux lines mask pts 0).2.ok
    ∧ (feedR false m lines mask none none pts).2.calls = (feed m.mux lines mask pts 0).2.calls
    ∧ (feedR false m lines mask none none pts).1.mux = (feed m.mux lines mask pts 0).1 :=
  have h := feedR_null m hm.raw lines mask pts
  ⟨h.1, h.2.1, h.2.2.1⟩

/-- `raw_samples_left` is never carried from one `vbi_dvb_mux_feed` call to the next (F28 was the
    case where it was): whatever the outcome - accepted, rejected for content or size, invalid sampling
    parameters - the multiplexer is left with no raw line half sent and its configuration untouched. -/
theorem raw_state_clean (keep : Bool) (m : RMux) (hm : StateOK m) (lines : List Sliced)
    (mask : Nat) (raw : Option Bytes) (sp : Option Sp) (pts : Nat) (hwf : ∀ s ∈ lines, Sliced.WF s) :
    StateOK (feedR keep m lines mask raw sp pts).1 := by
  refine ⟨by rw [feedR_cfg]; exact hm.cfg, ?_⟩
  cases hok : (feedR keep m lines mask raw sp pts).2.ok with
  | true =>
    obtain ⟨hsp, pes, st', hg, _, hst, _, _⟩ := feedR_accepted keep m lines mask raw sp pts hok
    obtain ⟨_, _, _, _, _, h6⟩ := generatePesR_ok keep m.mux.cfg hm.cfg m.raw hm.raw lines mask raw sp hsp pts hwf pes st' hg
    rw [hst]; exact h6
  | false =>
    rcases (feedR_rejected keep m lines mask raw sp pts hok).2 with h | h
    · exact h.1
    · rw [h.2]; exact hm.raw

/-- A frame that is not accepted (and does not abort) causes no callback and no bytes. -/
theorem mux_rejects_atomically_raw (keep : Bool) (m : RMux) (lines : List Sliced) (mask : Nat) (raw : Option Bytes)
    (sp : Option Sp) (pts : Nat) (hrej : (feedR keep m lines mask raw sp pts).2.ok = false) :
    (feedR keep m lines mask raw sp pts).2.calls = [] ∧ (feedR keep m lines mask raw sp pts).2.bytes = [] := by
  have h := (feedR_rejected keep m lines mask raw sp pts hrej).1
  exact ⟨h, by simp [FeedROut.bytes, h]⟩

/-- Repaired shape: `encode_stuffing` always completes the packet - `stuffing_completes` without the
    side condition `hone` left to the caller.  Whenever the loop of `generate_pes_packet` has converted
    all lines of a frame (any mix of sliced and raw lines, any configuration), the packet is completed:
    the call `encode_stuffing (p, p_left, last_du_size, fixed_length)` meets its preconditions (a
    multiple of 46 in the fixed format; with one byte left the last unit is known and shorter than
    257 bytes - a 257-byte raw unit gets one more TS payload of stuffing instead), no assertion can
    fire, and the result is the well-formed packet of `mux_wellformed_raw`. -/
theorem stuffing_completes_repaired (m : RMux) (hm : StateOK m) (lines : List Sliced)
    (mask : Nat) (raw : Option Bytes) (sp : Option Sp) (hsp : ∀ sp', sp = some sp' → validSp sp' = true) (pts : Nat)
    (hwf : ∀ s ∈ lines, Sliced.WF s) (out : Bytes) (du : Nat) (st' : RawSt)
    (hloop : genLoopR true mask (fixedLengthFormat m.mux.cfg.dataId) raw sp (lines.length + 1) (m.mux.cfg.maxSize - 46) 0 0
      m.raw lines = .ok (out, du, [], st')) :
    ∃ pes p, generatePesR true m.mux.cfg m.raw lines mask raw sp pts = .ok (pes, [], st') ∧ parsePesR pes = some p
      ∧ pes.length % 184 = 0 ∧ m.mux.cfg.minSize ≤ pes.length ∧ pes.length ≤ m.mux.cfg.maxSize := by
  obtain ⟨pes, hg⟩ := generatePesR_completes m.mux.cfg hm.cfg m.raw hm.raw lines mask raw sp hsp pts hwf out du st' hloop
  obtain ⟨⟨us, h1, _⟩, h2, h3, h4, _⟩ := generatePesR_ok true m.mux.cfg hm.cfg m.raw hm.raw lines mask raw sp hsp pts hwf pes st' hg
  exact ⟨pes, _, hg, h1, h2, h3, h4⟩

/-- Repaired shape, EVERY frame - accepted, rejected for its content, or too big so that only a part of
    its lines (or of the samples of a raw line) was converted before `encode_stuffing` runs - in every
    reachable state and configuration, with `raw` / `sp` NULL or given (the raw frame holding the
    `count[0] + count[1]` lines the caller declares): `vbi_dvb_mux_feed` never aborts; every failure
    is a `FALSE` return.  No assertion of `generate_pes_packet`, `encode_stuffing`,
    `insert_sliced_data_units` can fire and no byte outside the raw frame is read. -/
theorem mux_never_aborts_repaired (m : RMux) (hm : StateOK m) (lines : List Sliced) (mask : Nat) (raw : Option Bytes)
    (sp : Option Sp) (hraw : RawHolds raw sp) (pts : Nat) (hwf : ∀ s ∈ lines, Sliced.WF s) :
    (feedR true m lines mask raw sp pts).2.abort = none := by
  have hs := feedR_spec true m lines mask raw sp pts
  generalize feedR true m lines mask raw sp pts = r at hs ⊢
  cases hs with
  | error e off hsp hg =>
    show (if e.isAbort then some e else none) = none
    rw [generatePesR_noabort m.mux.cfg hm.cfg m.raw hm.raw lines mask raw sp hsp hraw pts hwf e off hg]
    rfl
  | _ => rfl

/-! ### F29 on the two shapes: one raw line of 131 samples, data_identifier 0x99 (46 + 6 + 131 = 183) -/

def f29Mux : RMux := { mux := { cfg := { dataId := 0x99 } } }
def f29Sp : Sp := { offset := 132, spl := 131, start0 := 10, count0 := 1, start1 := 0, count1 := 0 }
def f29Raw : Bytes := (List.range 131).map fun k => (2 + 7 * k) % 256
def f29Frame : List Sliced := [⟨SL_VBI625, 10, List.replicate 56 0⟩]

/-- unchanged tree: the assertion in `encode_stuffing` fires (the process aborts; replay
    corpus/C06/raw-last-assert.ops on the real code) -/
theorem f29_counterexample :
    (feedR false f29Mux f29Frame 0xFFFFFFFF (some f29Raw) (some f29Sp) 1000).2.abort
      = some (.base (.assertFail "dvb_mux.c:167 last_du_size >= 2")) := by decide +kernel

/-- repaired tree: the same frame is accepted as one packet of 184 bytes whose raw unit was extended
    by one stuffing byte -/
theorem f29_repaired :
    (feedR true f29Mux f29Frame 0xFFFFFFFF (some f29Raw) (some f29Sp) 1000).2.ok = true
    ∧ (feedR true f29Mux f29Frame 0xFFFFFFFF (some f29Raw) (some f29Sp) 1000).2.abort = none
    ∧ ((feedR true f29Mux f29Frame 0xFFFFFFFF (some f29Raw) (some f29Sp) 1000).2.bytes.drop 46).take 6
        = [0xC6, 4 + 131 + 1, 0xC0 + 0x20 + 10, 0, 0, 131] := by decide +kernel

/-! ### the converse: every permitted frame that fits is accepted -/

/-- A frame of sliced lines
    (`raw == NULL` use; lines not selected by the mask may be anything, also raw requests) whose line
    numbers - all of them, selected or not, as the outer scan of `generate_pes_packet` checks - ascend
    strictly apart from 0, whose selected lines are permitted service / line combinations, and whose
    data units fit `max_packet_size` together with the 46 header bytes, IS accepted. -/
theorem mux_accepts_all_permitted (m : Mux) (hc : CfgOK m.cfg) (lines : List Sliced) (mask pts : Nat)
    (hwf : ∀ s ∈ lines, Sliced.WF s) (hord : Ordered 0 lines)
    (hperm : ∀ s ∈ lines, s.id &&& mask ≠ 0 → Permitted s)
    (hfit : 46 + unitsSize (fixedLengthFormat m.cfg.dataId) mask lines ≤ m.cfg.maxSize) :
    (feed m lines mask pts 0).2.ok = true := by
  -- the loop is the one with raw data at `raw == NULL`; the data never ends one byte before a packet boundary
  have hmin := hc.min184; have hmm := hc.minmax; have hminMod := hc.minMod; have hmaxMod := hc.maxMod
  have hfs : ∀ fixed, frameSize fixed mask ((none : Option Sp).getD dfltSp).spl lines = unitsSize fixed mask lines :=
    fun f => frameSize_noraw f mask _ lines fun s hs hm => permitted_not_raw s (hperm s hs hm)
  obtain ⟨a, b, c, he, hb, _, hcc, _⟩ := unitsSize_shape mask lines hperm 0 hord
  obtain ⟨out, du, st', hgl, hlen⟩ := genLoopR_accepts false mask (fixedLengthFormat m.cfg.dataId) none none nofun nofun
    (lines.length + 1) (m.cfg.maxSize - 46) 0 0 {} lines (Nat.lt_succ_self _) rfl hwf (fun s hs hm => .inl (hperm s hs hm)) hord
    (by rw [hfs]; omega) (by intro hf; rw [hfs]; rw [hf] at hfit; omega)
  rw [hfs] at hlen
  have htot := generatePesR_total false m.cfg hc {} rfl lines mask none none nofun pts hwf
  rw [hgl] at htot
  obtain ⟨pes, hg⟩ := htot fun _ => by
    cases hf : fixedLengthFormat m.cfg.dataId
    · rw [hf] at hlen
      unfold pesFill; split
      · omega
      · split <;> omega
    · have := unitsSize_fixed mask lines
      rw [hf] at hlen
      have := (pesFill_spec m.cfg hc out.length (by rw [hlen, ← hf]; omega)).2.2.2.1 (by omega)
      omega
  exact (feedR_null ⟨m, {}⟩ rfl lines mask pts).1.symm.trans
    ((feedR_ok_iff false ⟨m, {}⟩ lines mask none none pts nofun).2 ⟨pes, st', hg⟩)

/-- The converse with raw lines, repaired shape: any multiplexer between two calls, a frame whose line
    numbers ascend strictly (0 skipped), whose selected lines are admitted - a permitted sliced
    service / line, or a raw line request on lines 7..23 / 320..336 lying inside the raw frame, with
    `raw` and valid sampling parameters given and the raw frame as large as declared - and whose data
    units (`frameSize`: 46 / 16 / 5 bytes per sliced line, `n + 6 ceil (n / 251)` per raw line of `n`
    samples, or 46 per unit in the EN 300 472 compatible format) fit `max_packet_size` with the 46
    header bytes, IS accepted.  The one exception is a hypothesis, documented in
    `insert_raw_data_units` ("one byte left is too small for a stuffing unit"): in the variable-length
    format the data must not end exactly one byte before `max_packet_size`. -/
theorem mux_accepts_all_permitted_raw (m : RMux) (hm : StateOK m) (lines : List Sliced) (mask : Nat)
    (raw : Option Bytes) (sp : Option Sp) (hsp : ∀ sp', sp = some sp' → validSp sp' = true) (hraw : RawHolds raw sp)
    (pts : Nat) (hwf : ∀ s ∈ lines, Sliced.WF s) (hord : Ordered 0 lines)
    (hperm : ∀ s ∈ lines, s.id &&& mask ≠ 0 → Admitted raw sp s)
    (hfit : 46 + frameSize (fixedLengthFormat m.mux.cfg.dataId) mask (sp.getD dfltSp).spl lines ≤ m.mux.cfg.maxSize)
    (hslack : fixedLengthFormat m.mux.cfg.dataId = false →
      46 + frameSize false mask (sp.getD dfltSp).spl lines + 1 ≠ m.mux.cfg.maxSize) :
    (feedR true m lines mask raw sp pts).2.ok = true := by
  obtain ⟨out, du, st', hgl, _⟩ := genLoopR_accepts true mask (fixedLengthFormat m.mux.cfg.dataId) raw sp hsp hraw
    (lines.length + 1) (m.mux.cfg.maxSize - 46) 0 0 m.raw lines (Nat.lt_succ_self _) hm.raw hwf hperm hord (by omega)
    (by intro hf; have := hslack hf; rw [hf] at hfit; omega)
  obtain ⟨pes, hg⟩ := generatePesR_completes m.mux.cfg hm.cfg m.raw hm.raw lines mask raw sp hsp pts hwf out du st' hgl
  exact (feedR_ok_iff true m lines mask raw sp pts hsp).2 ⟨pes, st', hg⟩

/-! non-vacuity -/
def exSp : Sp := { offset := 140, spl := 300, start0 := 7, count0 := 3, start1 := 320, count1 := 2 }
def exRaw : Bytes := (List.range (5 * 300)).map fun k => (5 + 7 * k) % 256
def exLine (id line : Nat) : Sliced := ⟨id, line, List.replicate 56 0x15⟩
def exMux (d : Nat) : RMux := { mux := { cfg := { dataId := d } } }

example : RawHolds (some exRaw) (some exSp) := by
  intro r s hr hs; injection hr with hr; injection hs with hs; subst hr hs; decide +kernel
example : StateOK (exMux 0x99) := ⟨⟨by decide, by decide, by decide, by decide, by decide, by decide⟩, rfl⟩
-- a frame mixing sliced and raw lines is accepted in both formats and shapes, a line outside the raw frame is not
example : (feedR true (exMux 0x99) [exLine 3 7, exLine SL_VBI625 8, exLine 0x400 23, exLine SL_VBI625 321] 0xFFFFFFFF
    (some exRaw) (some exSp) 7).2.ok = true := by decide +kernel
example : (feedR false (exMux 0x10) [exLine 3 7, exLine SL_VBI625 8, exLine SL_VBI625 321] 0xFFFFFFFF
    (some exRaw) (some exSp) 7).2.ok = true := by decide +kernel
example : (feedR true (exMux 0x99) [exLine SL_VBI625 10] 0xFFFFFFFF (some exRaw) (some exSp) 7).2.ok = false := by
  decide +kernel
-- the reader returns the samples: line 8 is row 1 of the first field, 300 samples from byte 300 of the frame
example : ((feedR true (exMux 0x99) [exLine SL_VBI625 8] 0xFFFFFFFF (some exRaw) (some exSp) 7).2.calls.head?.bind id).bind
      (fun pes => (parsePesR pes).map fun p => p.items)
    = some [Out.raw ⟨8, 8, (exRaw.drop 300).take 300⟩] := by decide +kernel
example : (feed newPes [exLine 3 7, exLine 4 16, exLine SL_VBI625 17] 0x7 5 0).2.ok = true := by decide +kernel
example : frameSize false 0xFFFFFFFF 300 [exLine 3 7, exLine SL_VBI625 8, exLine 0x400 23] = 46 + (300 + 12) + 5 := by decide
example : Admitted (some exRaw) (some exSp) (exLine SL_VBI625 8) := Or.inr ⟨⟨_, rfl⟩, _, rfl, by decide⟩
example : Ordered 0 [exLine 3 7, exLine 3 0, exLine 4 16] ∧ ¬ Ordered 0 [exLine 3 8, exLine 3 7] := by decide

end Zvbi.Props.C06Raw
