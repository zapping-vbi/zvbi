import ZvbiModel.Export.PrintNT
import ZvbiModel.Export.LemmasPrint
/-!
# C16, `vbi_print_page_region` in non-table mode (exp-txt.c, `table == FALSE`)

The model `Export/PrintNT.lean` follows the function statement by statement and is compared byte for byte with the real
code (`printnt` op).  Proved for all inputs: the size bound and the absence of any fault but a read outside `pg->text`.
The documented output ("runs of spaces at the start and end of rows are collapsed into single spaces, blank lines are
suppressed") is stated as `print_nt_documented_full` and is OPEN (see `checks/C16.py` `open_statements`); the `example`s
below evaluate the model on the documented behaviours.
-/
namespace Zvbi.Props.C16PrintNT
open Zvbi.Export

/-- **Bounded.**  For every page, region, buffer size, converter and repair state: the non-table mode never reports more
bytes than the stated buffer size (every byte is appended through `print_unicode` with the space that is left), and the
only possible fault is a read outside `pg->text` for a page whose `rows * columns` exceeds the array. -/
theorem print_nt_bounded (cfg : Cfg) (conv : Nat → Option Bytes) (pg : Page) (size column row width height : Int) :
    (∀ out, printRegionNT cfg conv pg size column row width height = .ok (some out) → (out.length : Int) ≤ size) ∧
    (∀ f, printRegionNT cfg conv pg size column row width height = .error f → f = .oob "pg->text") :=
  ⟨fun out h => (printRegionNT_post pg size column row width height).of_ok h out rfl,
    fun _ h => (printRegionNT_post pg size column row width height).of_error h⟩

/-- The accepted regions are the documented ones: a negative size or a region outside the page gives 0. -/
theorem print_nt_rejects_outside (cfg : Cfg) (conv : Nat → Option Bytes) (pg : Page) (size column row width height : Int)
    (h : size < 0 ∨ column < 0 ∨ column + width - 1 ≥ pg.columns ∨ row < 0 ∨ row + height - 1 ≥ pg.rows) :
    printRegionNT cfg conv pg size column row width height = .ok none := by
  unfold printRegionNT
  dsimp only
  rw [if_pos h]

/-- latin-1 -/
def l1 (u : Nat) : Option Bytes := if u < 256 then some [u] else none
def cfgR : Cfg := { wideClip := true, nullGuard := true, printE2big := true, atOneByte := true }
def row (s : List Nat) : List Cell := s.map fun u => { unicode := u, size := 0 }

-- one row: everything is kept, also leading and trailing spaces (`y == row0`, last row)
example : printRegionNT cfgR l1 ⟨1, 5, row [32, 65, 32, 66, 32], [], []⟩ 100 0 0 5 1 = .ok (some [32, 65, 32, 66, 32]) := by rfl
-- three rows: leading spaces of later rows are dropped, rows are joined by one space, the blank row is suppressed,
-- trailing spaces of inner rows are dropped, those of the last row are kept
example : printRegionNT cfgR l1 ⟨3, 4, row [65, 66, 32, 32] ++ row [32, 32, 32, 32] ++ row [32, 67, 68, 32], [], []⟩ 100 0 0 4 3
    = .ok (some [65, 66, 32, 67, 68, 32]) := by rfl
-- the first row starts at `column`, the last ends at `column + width - 1`, the rows between are scanned in full
example : printRegionNT cfgR l1 ⟨2, 4, row [65, 66, 67, 68] ++ row [69, 70, 71, 72], [], []⟩ 100 1 0 2 2 = .ok (some [66, 67, 68, 32, 69, 70, 71]) := by rfl
-- too small a buffer: failure, never a cut text
example : printRegionNT cfgR l1 ⟨1, 3, row [65, 66, 67], [], []⟩ 2 0 0 3 1 = .ok none := by rfl

/-- **Observation N1 (outside the property: C16 speaks about the table mode).**  "Blank lines are suppressed" is tested with
`spaces >= (x1 - x0)`, which is also true for a row whose only printable character is in the first scanned column
(`spaces == x1 - x0`): two rows `A___` / `B___` come out as `AB___`, the words glued together without the separating space,
while `AC__` / `B___` gives `AC B___`.  Same output on the real code (`corpus/C16/N1-printnt-glued-rows.ops`). -/
theorem print_nt_glue_counterexample :
    printRegionNT cfgR l1 ⟨2, 4, row [65, 32, 32, 32] ++ row [66, 32, 32, 32], [], []⟩ 100 0 0 4 2 = .ok (some [65, 66, 32, 32, 32]) ∧
    printRegionNT cfgR l1 ⟨2, 4, row [65, 67, 32, 32] ++ row [66, 32, 32, 32], [], []⟩ 100 0 0 4 2 = .ok (some [65, 67, 32, 66, 32, 32, 32]) := by
  constructor <;> rfl

/-- **Observation N2 (outside the property).**  The two-row special case ("all chars in row0, column0 ... column1 are double
height: skip row1") tests `doubleh >= (x - x0)` at `x == column1`, which holds for a region one column wide whatever the
character is (`0 >= 0`): of the two-row, one-column region at column 2 of `ABCD` / `EFGH` only `C` is printed, the second row
is dropped, while the region two columns wide gives `BCD EFG`.  Same output on the real code. -/
theorem print_nt_two_row_counterexample :
    printRegionNT cfgR l1 ⟨2, 4, row [65, 66, 67, 68] ++ row [69, 70, 71, 72], [], []⟩ 100 2 0 1 2 = .ok (some [67]) ∧
    printRegionNT cfgR l1 ⟨2, 4, row [65, 66, 67, 68] ++ row [69, 70, 71, 72], [], []⟩ 100 1 0 2 2 = .ok (some [66, 67, 68, 32, 69, 70, 71]) := by
  constructor <;> rfl

/-- the text of one scanned row: blanks (a space or a character that is not printable) as spaces, the rest converted;
    `none` when a character has no conversion and neither has the space -/
def ntRowText (conv : Nat → Option Bytes) : List Cell → Option Bytes
  | [] => some []
  | c :: cs =>
    match (match conv (if ntBlank c.unicode then 0x20 else c.unicode) with | some b => some b | none => conv 0x20), ntRowText conv cs with
    | some b, some r => some (b ++ r)
    | _, _ => none

/-- OPEN (not proved): the documented output of the non-table mode.  Formal part, one-row regions of normal-size cells: all
characters of the row segment, blanks included, when they fit (same text as the table mode, not printable -> space).
For several rows (prose; the two observations N1 N2 above are deviations from it): leading blanks of every row but the first
and trailing blanks of every row but the last are dropped, rows are joined by exactly one space, blank rows are suppressed,
covered cells are skipped.  Missing: the refinement proof with the pending `spaces` counter as the loop invariant (as
`printRows_exact` does for the table mode), and a decision which of N1 / N2 the specification should follow. -/
def print_nt_documented_full : Prop :=
  ∀ (cfg : Cfg) (conv : Nat → Option Bytes) (pg : Page) (size column row width : Int) (cells : List (Nat × Cell)) (e : Bytes),
    0 ≤ column → 0 ≤ row → 1 ≤ width →
    regionCells pg column.toNat row.toNat width.toNat 1 = .ok [cells] → (∀ c ∈ cells, c.2.size = sizeNormal) →
    (∀ c ∈ cells, ∀ b, conv c.2.unicode = some b → b.head? ≠ some 0x40) →
    ntRowText conv (cells.map (·.2)) = some e → (e.length : Int) ≤ size →
    printRegionNT cfg conv pg size column row width 1 = .ok (some e)

end Zvbi.Props.C16PrintNT
