import ZvbiModel.Ttx.ConsistentHdr
import ZvbiModel.Props.C02Roundtrip
/-!
# Property C02: reachability invariants and `interleaved_page_roundtrip`

* `reachable_shape`: in every state the decoder reaches from `vbi_decoder_new` by ANY packet history the arrays
  have their C extents (8 slots, `lop_raw[26]`, `raw[26]` of slot pages and cached pages) and no channel-switch
  countdown runs; `single_page_roundtrip_reachable` restates `single_page_roundtrip` from such a state without
  the shape hypotheses.
* `interleaved_page_roundtrip`: parallel mode, packets of OTHER magazines interleaved arbitrarily between P's
  header, rows and terminator.  Foreign packets must be `Ttx.Benign` - which excludes exactly the four ways other
  magazines interfere on packet.c (E1-E4); each exclusion is justified below by a kernel-checked counterexample
  on the model (`e1_*` .. `e4_*`), all four replayed on the C code (corpus/C02/interfere-e*.ops).
* `parallel_network_invariant`: the state hypothesis `IInv` of the theorem holds after ANY history of packets
  whose page headers do not carry C11.
-/
namespace Zvbi.Props.C02Interleave
open Zvbi.Ttx Zvbi.Hamm Zvbi.Fmt Zvbi.Fmt.L1Spec Zvbi.Props.C02Roundtrip

/-- **reachable_shape**.  For every packet history from a fresh decoder (handler registered or not): eight
assembly slots; every slot has 26 `lop_raw` rows and a page record with 26 rows; every cached page has 26 rows;
`vt.current` names one of the eight slots; no channel-switch countdown is running; the handler mask is the
one set at the start. -/
theorem reachable_shape (on : Bool) (hist : List Packet) :
    let s := (run (init.enable on) hist).1
    s.raw.length = 8 ∧ (∀ m, m < 8 → (s.rp m).lopRaw.length = 26 ∧ (s.rp m).page.raw.length = 26)
    ∧ (∀ q ∈ s.net.cache, q.raw.length = 26) ∧ (∀ c, s.current = some c → c < 8) ∧ s.chswcd = 0 ∧ s.mask = on := by
  obtain ⟨h, hm⟩ := run_shape hist (init.enable on) (init_shape on)
  refine ⟨h.len, h.slots, h.cache, h.cur, h.cd, ?_⟩
  rw [hm]; cases on <;> rfl

example : ((run (init.enable true) exStream).1.rp 1).lopRaw.length = 26 :=
  ((reachable_shape true exStream).2.1 1 (by decide)).1

/-- `step` keeps the shapes from ANY state that has them (the invariant itself, not only its reachable instances) -/
theorem shape_invariant (s : St) (p : Packet) (h : Shape s) : Shape (step s p).1 := (step_shape s p h).1

example : Shape (init.enable true) := init_shape true

/-- **single_page_roundtrip_reachable**: `single_page_roundtrip` from any state the decoder reaches from a fresh
decoder with a TTX_PAGE handler, without the hypotheses `raw.length = 8`, `mask`, `chswcd = 0`, `lopRaw.length = 26`. -/
theorem single_page_roundtrip_reachable (hist : List Packet)
    (t : Tx) (hdr : Packet) (hh : IsHeader hdr t.m t.page t.s12 t.s34 t.fl) (hdec : decimalPage t.page)
    (hpar : t.fl &&& 0x10 = 0)
    (s1 : St) (ev1 : List Event)
    (ht : terminatePage (tick (run (init.enable true) hist).1) t.m t.pgno t.page = (s1, ev1))
    (htext : TextPage s1.net t.pgno t.page (t.prev s1))
    (rp : List RowPkt) (hrp : ∀ x ∈ rp, IsPacket x.2 t.m x.1 ∧ 1 ≤ x.1 ∧ x.1 ≤ 25 ∧ GoodRow (payload x.2))
    (hq : Packet) (hterm : Terminator (run (run (init.enable true) hist).1 (hdr :: rp.map (·.2))).1 t.m t.page hq)
    (hnosw : Event.chsw ∉ (run (run (init.enable true) hist).1 (hdr :: rp.map (·.2) ++ [hq])).2) :
    ∃ q pt, Fetched q t s1 hdr (rowsOf rp) pt
      ∧ (pt = PT_CLOCK → (s1.net.getStat t.pgno).pageType = PT_CLOCK)
      ∧ (∀ subno mask, subno = q.subno ∨ subno = ANY_SUBNO →
          (cacheGet (run (run (init.enable true) hist).1 (hdr :: rp.map (·.2) ++ [hq])).1.net.cache t.pgno subno mask).map (·.1)
            = some q)
      ∧ ttxPages (run (run (init.enable true) hist).1 (hdr :: rp.map (·.2) ++ [hq])).2 = ttxPages ev1 ++ [(t.pgno, t.subno)] := by
  obtain ⟨h, hm⟩ := run_shape hist (init.enable true) (init_shape true)
  have hcl := terminatePage_closed (tick (run (init.enable true) hist).1) t.m t.pgno t.page
  rw [ht] at hcl
  have hL : (s1.rp t.m).lopRaw.length = 26 := by
    rw [(hcl.slots t.m).id.2.2.2.1]; exact (h.slots t.m hh.mag).1
  exact single_page_roundtrip _ h.len (by rw [hm]; rfl) h.cd t hdr hh hdec
    ⟨a16_lt hdr 4 _ hh.s12, a16_lt hdr 6 _ hh.s34, a16_lt hdr 8 _ hh.fl⟩ hpar s1 ev1 ht htext hL rp hrp hq hterm hnosw

/-- **consistent_headers_no_channel_switch**.  `GoodHdr tmpl off p`: if `p` is a page header whose page number decodes,
its columns 8..31 carry that page number at `off..off+2` (first occurrence) and otherwise equal the network's template
with odd parity (`HdrOk`, the sender-side form of `HeaderAgrees`; column `off+3` and the clock 32..39 are
free).  A history from a fresh decoder in which EVERY packet is such - whatever else it is: rows, X/26, undecodable
bytes, hex pages, C11 - never makes the decoder signal a channel switch (`vbi_chsw_reset` is not reached). -/
theorem consistent_headers_no_channel_switch (tmpl : List Nat) (off : Nat) (on : Bool) (hist : List Packet)
    (hg : ∀ p ∈ hist, GoodHdr tmpl off p) : Event.chsw ∉ (run (init.enable on) hist).2 :=
  (run_hinv tmpl off hist _ (init_hinv tmpl off on) hg).2

/-- **single_page_roundtrip_from_init**: `single_page_roundtrip` from a fresh decoder with a TTX_PAGE handler after ANY
history `hist`, with NO hypothesis about shapes and NO "no channel switch" hypothesis: instead all headers of the
history and the two headers of the transmission are consistent with one network header (`GoodHdr`). -/
theorem single_page_roundtrip_from_init (tmpl : List Nat) (off : Nat) (hist : List Packet)
    (hgood : ∀ p ∈ hist, GoodHdr tmpl off p)
    (t : Tx) (hdr : Packet) (hh : IsHeader hdr t.m t.page t.s12 t.s34 t.fl) (hdec : decimalPage t.page)
    (hpar : t.fl &&& 0x10 = 0) (hgh : GoodHdr tmpl off hdr)
    (s1 : St) (ev1 : List Event)
    (ht : terminatePage (tick (run (init.enable true) hist).1) t.m t.pgno t.page = (s1, ev1))
    (htext : TextPage s1.net t.pgno t.page (t.prev s1))
    (rp : List RowPkt) (hrp : ∀ x ∈ rp, IsPacket x.2 t.m x.1 ∧ 1 ≤ x.1 ∧ x.1 ≤ 25 ∧ GoodRow (payload x.2))
    (hq : Packet) (hterm : Terminator (run (run (init.enable true) hist).1 (hdr :: rp.map (·.2))).1 t.m t.page hq)
    (hgq : GoodHdr tmpl off hq) :
    ∃ q pt, Fetched q t s1 hdr (rowsOf rp) pt
      ∧ (pt = PT_CLOCK → (s1.net.getStat t.pgno).pageType = PT_CLOCK)
      ∧ (∀ subno mask, subno = q.subno ∨ subno = ANY_SUBNO →
          (cacheGet (run (run (init.enable true) hist).1 (hdr :: rp.map (·.2) ++ [hq])).1.net.cache t.pgno subno mask).map (·.1)
            = some q)
      ∧ ttxPages (run (run (init.enable true) hist).1 (hdr :: rp.map (·.2) ++ [hq])).2 = ttxPages ev1 ++ [(t.pgno, t.subno)] := by
  have hall : ∀ p ∈ hist ++ (hdr :: rp.map (·.2) ++ [hq]), GoodHdr tmpl off p := by
    intro p hp
    rw [List.mem_append] at hp
    rcases hp with hp | hp
    · exact hgood p hp
    · rw [List.mem_append] at hp
      rcases hp with hp | hp
      · rcases List.mem_cons.mp hp with rfl | hp
        · exact hgh
        · rw [List.mem_map] at hp
          obtain ⟨x, hx, rfl⟩ := hp
          exact (hrp x hx).1.goodHdr (hrp x hx).2.1 tmpl off
      · rw [List.mem_singleton] at hp; rw [hp]; exact hgq
  have hn := consistent_headers_no_channel_switch tmpl off true _ hall
  rw [run_append] at hn
  have hnosw : Event.chsw ∉ (run (run (init.enable true) hist).1 (hdr :: rp.map (·.2) ++ [hq])).2 :=
    fun h => hn (List.mem_append_right _ h)
  exact single_page_roundtrip_reachable hist t hdr hh hdec hpar s1 ev1 ht htext rp hrp hq hterm hnosw

/-- the TTX_PAGE events carrying page number `pgno` -/
def pagesOf (pgno : Nat) (ev : List Event) : List (Nat × Nat) := (ttxPages ev).filter (fun x => x.1 == pgno)

theorem pagesOf_append (pgno : Nat) (a b : List Event) : pagesOf pgno (a ++ b) = pagesOf pgno a ++ pagesOf pgno b := by
  unfold pagesOf; rw [ttxPages_append, List.filter_append]

/-- **parallel_network_invariant**: `IInv` (array shapes, handler registered, no page in progress carries C11,
every slot not discarded holds a page of its own magazine) holds after any history whose page headers do not
carry C11 - whatever else the network sends (undecodable packets, X/26 on a TOP page, inconsistent headers ...). -/
theorem parallel_network_invariant (hist : List Packet) (hpar : ∀ p ∈ hist, ParHdr p) :
    IInv (run (init.enable true) hist).1 := run_iinv hist _ init_iinv hpar

example : IInv (run (init.enable true) []).1 := parallel_network_invariant [] (fun _ h => by cases h)

/-- **interleaved_page_roundtrip**.  Decoder in a parallel-mode state (`IInv s`, see `parallel_network_invariant`).
Header of page P (magazine `t.m`, decimal page number, any sub-code and control bits with C11 = 0, erase flag set or
not); then ANY sequence of items, each either a row 1..25 of P (odd-parity bytes; any subset, order, repeats) or a
packet of ANOTHER magazine that is `Benign` in the state it arrives in (headers, rows, X/26, X/27, X/28, M/29, 8/30 -
anything that avoids E1-E4); then a terminating header of P's magazine (another decimal text page or a
time-filling header) that does not trigger a channel switch.  Then the conclusions of `single_page_roundtrip` hold
with the rows of P among the items: the cache holds, first in its chain for P's page number, a text page `q` with
P's numbers, national option, flags, rows = `mergeRows (previous version | blanks, row 0 := header) (rows of P
received)`; exact and wildcard look-ups return it; and among ALL events of the sequence those carrying P's page
number are the ones of closing the earlier page in P's slot followed by exactly one (P.pgno, P.subno). -/
theorem interleaved_page_roundtrip (s : St) (hi : IInv s)
    (t : Tx) (hdr : Packet) (hh : IsHeader hdr t.m t.page t.s12 t.s34 t.fl) (hdec : decimalPage t.page)
    (hpar : t.fl &&& 0x10 = 0)
    (s1 : St) (ev1 : List Event) (ht : terminatePage (tick s) t.m t.pgno t.page = (s1, ev1))
    (htext : TextPage s1.net t.pgno t.page (t.prev s1))
    (items : List Item) (hok : ItemsOk t.m (step s hdr).1 items) (hgood : ∀ x ∈ ownRows items, GoodRow (payload x.2))
    (hq : Packet) (hterm : Terminator (run s (hdr :: items.map Item.pkt)).1 t.m t.page hq)
    (hnosw : Event.chsw ∉ (step (run s (hdr :: items.map Item.pkt)).1 hq).2) :
    ∃ q pt, Fetched q t s1 hdr (rowsOf (ownRows items)) pt
      ∧ (pt = PT_CLOCK → ((run s (hdr :: items.map Item.pkt)).1.net.getStat t.pgno).pageType = PT_CLOCK)
      ∧ (∀ subno mask, subno = q.subno ∨ subno = ANY_SUBNO →
          (cacheGet (run s (hdr :: items.map Item.pkt ++ [hq])).1.net.cache t.pgno subno mask).map (·.1) = some q)
      ∧ pagesOf t.pgno (run s (hdr :: items.map Item.pkt ++ [hq])).2 = pagesOf t.pgno ev1 ++ [(t.pgno, t.subno)] := by
  have hparhdr : ParHdr hdr := by
    intro pmag _ _ fl hfl
    rw [hh.fl] at hfl; injection hfl with hfl; rw [← hfl]; exact hpar
  have hs1 : s1 = s1Of s t := (congrArg Prod.fst ht).symm
  have hev1 : ev1 = (terminatePage (tick s) t.m t.pgno t.page).2 := (congrArg Prod.snd ht).symm
  subst hs1 hev1
  obtain ⟨ho, he, hL⟩ := open_header s hi.shape hi.mask t hdr hh hdec htext
  have hi2 := step_iinv s hdr hi hparhdr
  obtain ⟨hr, hp, hpages, _⟩ := (ho.ready hh.mag hdec hi2.mask hi2.shape.cd hL).items items _ [] hi2 ⟨t.m, ho.cur⟩ hok hgood
  rw [show hdr :: items.map Item.pkt ++ [hq] = (hdr :: items.map Item.pkt) ++ [hq] from rfl, run_concat]
  rw [run_cons] at hterm hnosw ⊢
  generalize (run (step s hdr).1 (items.map Item.pkt)).1 = sR at hr hp hterm hnosw ⊢
  generalize (run (step s hdr).1 (items.map Item.pkt)).2 = evR at hpages ⊢
  generalize (step s hdr).2 = ev2 at he ⊢
  obtain ⟨q, pt, f1, f2, f3, f4⟩ := fetched_after sR _ t hdr _ hr hp hq hterm hnosw
  refine ⟨q, pt, f1, f2, f3, ?_⟩
  rw [pagesOf_append, pagesOf_append]
  have e1 : pagesOf t.pgno ev2 = pagesOf t.pgno (terminatePage (tick s) t.m t.pgno t.page).2 := by unfold pagesOf; rw [he]
  have e2 : pagesOf t.pgno evR = [] := by
    unfold pagesOf
    rw [List.filter_eq_nil_iff]
    intro x hx
    have := hpages x hx
    have hp := a16_lt hdr 2 _ hh.page
    simp only [beq_iff_eq]
    intro e
    rw [e] at this
    unfold Tx.pgno at this
    omega
  have e3 : pagesOf t.pgno (step sR hq).2 = [(t.pgno, t.subno)] := by
    unfold pagesOf; rw [f4]; simp
  rw [e1, e2, e3, List.append_nil]

/-! ### non-vacuity: a concrete interleaved transmission satisfies every hypothesis of the theorem -/

/-- header of (`m`, `page`), sub-code 0, control byte C7..C14 = `fl` (bit 4 = C11), 32 text bytes -/
def hdrPkt (m page fl : Nat) (text : List Nat) : Packet :=
  C02.addrBytes m 0 ++ [ham8 (page &&& 15), ham8 (page >>> 4), ham8 0, ham8 0, ham8 0, ham8 0, ham8 (fl &&& 15), ham8 (fl >>> 4)]
    ++ text
def blank32 : List Nat := List.replicate 32 0x20
def rowPkt (m k b : Nat) : Packet := C02.addrBytes m k ++ List.replicate 40 b

def tx123 : Tx := ⟨1, 0x23, 0, 0, 0⟩
/-- page 123 of magazine 1: row 1, [header 250 of magazine 2, row 1 of it], row 2, [header 251: 250 is stored] -/
def exItems : List Item :=
  [.own 1 (rowPkt 1 1 0xC1), .foreign 2 0 (hdrPkt 2 0x50 0 blank32), .foreign 2 1 (rowPkt 2 1 0xC1), .own 2 (rowPkt 1 2 0x43),
   .foreign 2 0 (hdrPkt 2 0x51 0 blank32)]
def stA : St := tick (init.enable true)

theorem isPkt (p : Packet) (m k : Nat) (h1 : m < 8) (h2 : k < 32) (h3 : a16 p 0 = some (m + 8 * k)) : IsPacket p m k :=
  ⟨h1, h2, h3⟩

set_option maxRecDepth 100000 in
/-- `interleaved_page_roundtrip` applies to these packets from a fresh decoder (all hypotheses discharged, the
    three foreign packets are `Benign` in the states they arrive in, terminator = time-filling header) -/
example : ∃ q pt, Fetched q tx123 stA (hdrPkt 1 0x23 0 blank32) (rowsOf (ownRows exItems)) pt := by
  have hh : IsHeader (hdrPkt 1 0x23 0 blank32) 1 0x23 0 0 0 :=
    ⟨by decide, by decide +kernel, by decide +kernel, by decide +kernel, by decide +kernel, by decide +kernel⟩
  have ht : terminatePage (tick (init.enable true)) tx123.m tx123.pgno tx123.page = (stA, []) :=
    terminatePage_fresh _ _ _ _ init_current
  have hprev : tx123.prev stA = none := by decide +kernel
  have htext : TextPage stA.net tx123.pgno tx123.page (tx123.prev stA) := by
    rw [hprev]; show TextType _ _ _; unfold TextType; decide +kernel
  have hfl : ∀ (p : Packet), a16 p 8 = some 0 → ∀ fl, a16 p 8 = some fl → fl &&& 0x10 = 0 := by
    intro p e fl hfl; rw [e] at hfl; injection hfl with hfl; rw [← hfl]; rfl
  have hok : ItemsOk tx123.m (step (init.enable true) (hdrPkt 1 0x23 0 blank32)).1 exItems := by
    refine ⟨⟨isPkt _ _ _ (by decide) (by decide) (by decide +kernel), by decide, by decide⟩,
      ⟨by decide, isPkt _ _ _ (by decide) (by decide) (by decide +kernel),
        ⟨fun _ => ⟨0x50, by decide +kernel⟩, fun h => absurd h (by decide), by decide +kernel, fun _ => hfl _ (by decide +kernel)⟩⟩,
      ⟨by decide, isPkt _ _ _ (by decide) (by decide) (by decide +kernel),
        ⟨fun h => absurd h (by decide), fun h => absurd h (by decide), by decide +kernel, fun h => absurd h (by decide)⟩⟩,
      ⟨isPkt _ _ _ (by decide) (by decide) (by decide +kernel), by decide, by decide⟩,
      ⟨by decide, isPkt _ _ _ (by decide) (by decide) (by decide +kernel),
        ⟨fun _ => ⟨0x51, by decide +kernel⟩, fun h => absurd h (by decide), by decide +kernel, fun _ => hfl _ (by decide +kernel)⟩⟩, trivial⟩
  have hgood : ∀ x ∈ ownRows exItems, GoodRow (payload x.2) := by
    intro x hx b hb
    have : ∀ x ∈ ownRows exItems, ∀ b ∈ payload x.2, b < 256 ∧ oddPar b = true := by decide +kernel
    exact this x hx b hb
  have hterm : Terminator (run (init.enable true) (hdrPkt 1 0x23 0 blank32 :: exItems.map Item.pkt)).1 tx123.m tx123.page
      (hdrPkt 1 0xFF 0 blank32) := Terminator.filler (by decide) (by decide +kernel) (by decide +kernel)
  obtain ⟨q, pt, h, _⟩ := interleaved_page_roundtrip (init.enable true) init_iinv tx123 _ hh ⟨by decide, by decide⟩ (by decide)
    stA [] ht htext exItems hok hgood _ hterm (by decide +kernel)
  exact ⟨q, pt, h⟩

/-- ... and the conclusion is what the model computes on them: 123 fetched with rows 1 and 2 as sent, exactly one
    event for 123 (the foreign page 250 has its own) -/
example : (cacheGet (run (init.enable true) (hdrPkt 1 0x23 0 blank32 :: exItems.map Item.pkt ++ [hdrPkt 1 0xFF 0 blank32])).1.net.cache
        0x123 ANY_SUBNO 0).map (fun r => (r.1.function, r.1.raw.getD 1 [], r.1.raw.getD 2 [], r.1.raw.getD 3 []))
      = some (FN_LOP, List.replicate 40 0xC1, List.replicate 40 0x43, blankRow)
    ∧ ttxPages (run (init.enable true) (hdrPkt 1 0x23 0 blank32 :: exItems.map Item.pkt ++ [hdrPkt 1 0xFF 0 blank32])).2
      = [(0x250, 0), (0x123, 0)] := by decide +kernel

/-! ### the four interferences are real: without each clause of `Benign` the page is lost (model; replayed on C) -/

/-- header text with the page number at columns 8..10 and byte `x` at column 20 -/
def textOf (pgno x : Nat) : List Nat :=
  [par8 ((pgno >>> 8) + 0x30), par8 (((pgno >>> 4) &&& 15) + 0x30), par8 ((pgno &&& 15) + 0x30)] ++ List.replicate 9 0x20
    ++ [x] ++ List.replicate 19 0x20

def fetchedRows (ps : List Packet) (pgno : Nat) : Option (List (List Nat)) :=
  (cacheGet (run (init.enable true) ps).1.net.cache pgno ANY_SUBNO 0).map (·.1.raw)

/-- a header of magazine 2 whose page number byte (0x01) is uncorrectable -/
def e1Foreign : Packet := C02.addrBytes 2 0 ++ [0x01, 0x01] ++ List.replicate 38 0x15
def e1Stream : List Packet :=
  [hdrPkt 1 0x23 0 blank32, rowPkt 1 1 0xC1, e1Foreign, rowPkt 1 2 0x43, hdrPkt 1 0x24 0 blank32]

/-- **E1** (`Benign.pgno` is needed): the foreign header's page number does not decode, and page 123 of magazine 1
    - header, rows and terminator all received intact - is neither stored nor announced.
    Replay on the C code: corpus/C02/interfere-e1-bad-pgno.ops. -/
theorem e1_bad_pgno_interferes : a16 e1Foreign 2 = none ∧ fetchedRows e1Stream 0x123 = none
    ∧ ttxPages (run (init.enable true) e1Stream).2 = [] := by decide +kernel

/-- magazine 1 opens its basic TOP table 1F0, then sends X/26 while page 223 of magazine 2 is in progress -/
def e2Stream : List Packet :=
  [hdrPkt 1 0xF0 0 blank32, hdrPkt 2 0x23 0 blank32, rowPkt 2 1 0xC1, rowPkt 1 26 0x15, rowPkt 2 2 0x43, hdrPkt 2 0x24 0 blank32]

/-- **E2** (`Benign.x26` is needed): the slot of magazine 1 has function BTT when its packet 26 arrives; page 223 is lost.
    Replay on the C code: corpus/C02/interfere-e2-x26-on-btt.ops. -/
theorem e2_x26_on_btt_interferes :
    X26Desync ((run (init.enable true) (e2Stream.take 3)).1.rp 1).page.function
    ∧ fetchedRows e2Stream 0x223 = none ∧ ttxPages (run (init.enable true) e2Stream).2 = [] := by decide +kernel

/-- magazine 1 sends 100 (text A), 101 (text B), 102; 223 of magazine 2 is in progress when 101 is stored -/
def e3Stream : List Packet :=
  [hdrPkt 1 0x00 0 (textOf 0x100 0x20), hdrPkt 1 0x01 0 (textOf 0x101 0xC1), hdrPkt 2 0x23 0 blank32, rowPkt 2 1 0xC1,
   hdrPkt 1 0x02 0 (textOf 0x102 0xC1), rowPkt 2 2 0x43, hdrPkt 2 0x24 0 blank32]

/-- **E3** (`Benign.nosw` is needed): storing the foreign page 101 fails the rolling-header test (`Event.chsw`): the
    cache is emptied (100 is gone) and page 223 is lost.
    Replay on the C code: corpus/C02/interfere-e3-rolling-header.ops. -/
theorem e3_rolling_header_interferes :
    Event.chsw ∈ (step (run (init.enable true) (e3Stream.take 4)).1 (hdrPkt 1 0x02 0 (textOf 0x102 0xC1))).2
    ∧ fetchedRows e3Stream 0x223 = none ∧ fetchedRows e3Stream 0x100 = none
    ∧ ttxPages (run (init.enable true) e3Stream).2 = [(0x100, 0)] := by decide +kernel

/-- a header of magazine 2 carrying C11 between the packets of page 123 of magazine 1 -/
def e4Stream : List Packet :=
  [hdrPkt 1 0x23 0 blank32, rowPkt 1 1 0xC1, hdrPkt 2 0x50 0x10 blank32, rowPkt 1 2 0x43, hdrPkt 1 0x24 0 blank32]

/-- **E4** (`Benign.par` is needed): the next header of magazine 1 terminates page 250 of magazine 2 (one event) instead
    of 123, which is overwritten unseen.  Replay on the C code: corpus/C02/interfere-e4-foreign-c11.ops. -/
theorem e4_foreign_c11_interferes : a16 (hdrPkt 2 0x50 0x10 blank32) 8 = some 0x10
    ∧ fetchedRows e4Stream 0x123 = none ∧ (fetchedRows e4Stream 0x250).isSome = true
    ∧ ttxPages (run (init.enable true) e4Stream).2 = [(0x250, 0)] := by decide +kernel

/-! ### non-vacuity of `GoodHdr`: the headers of `e3Stream` with text A are consistent, the one with text B is not -/

theorem hdrOk_textA (page : Nat) (hp : page < 3) :
    HdrOk (payload (hdrPkt 1 0 0 (textOf 0x100 0x20))) 8 (0x100 + page) (payload (hdrPkt 1 page 0 (textOf (0x100 + page) 0x20))) := by
  have h : ∀ page < 3, ∀ k < 32, 8 ≤ k → (k < 8 ∨ 8 + 4 ≤ k) →
      oddPar ((payload (hdrPkt 1 page 0 (textOf (0x100 + page) 0x20))).getD k 0) = true
      ∧ (payload (hdrPkt 1 page 0 (textOf (0x100 + page) 0x20))).getD k 0
        = (payload (hdrPkt 1 0 0 (textOf 0x100 0x20))).getD k 0 := by decide +kernel
  have hd : ∀ page < 3, (payload (hdrPkt 1 page 0 (textOf (0x100 + page) 0x20))).getD 8 0 = (pgDigits (0x100 + page)).1
      ∧ (payload (hdrPkt 1 page 0 (textOf (0x100 + page) 0x20))).getD (8 + 1) 0 = (pgDigits (0x100 + page)).2.1
      ∧ (payload (hdrPkt 1 page 0 (textOf (0x100 + page) 0x20))).getD (8 + 2) 0 = (pgDigits (0x100 + page)).2.2 := by
    decide +kernel
  exact ⟨by decide, by decide, hd page hp, fun k h1 h2 => by omega, fun k h1 h2 h3 => h page hp k h2 h1 h3⟩

/-- a cycle 100, 101, 102, 100 with that header does not signal a channel switch (by direct evaluation) -/
example : Event.chsw ∉ (run (init.enable true) [hdrPkt 1 0 0 (textOf 0x100 0x20), hdrPkt 1 1 0 (textOf 0x101 0x20),
    hdrPkt 1 2 0 (textOf 0x102 0x20), hdrPkt 1 0 0 (textOf 0x100 0x20)]).2 := by decide +kernel

end Zvbi.Props.C02Interleave
