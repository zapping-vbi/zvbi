import ZvbiModel.Xds.LemmasSep
import ZvbiModel.Xds.DecHist
/-!
# C09: frame routing, the sender's view of an interruption, the parity-error branch, the service decoder (`Dec`)

Property theorems only; lemmas are in `ZvbiModel/Xds/LemmasDemux.lean` (frame routing), `Reasm.lean`, `LemmasSep.lean`,
`DecLemmas.lean`, `DecHist.lean`; the notions the `Dec` theorems speak of in `DecSpec.lean`.
Models: `Frame.feedFrame` = `vbi_xds_demux_feed_frame` (xds_demux.c), `Sep.*` = caption.c separator
(Model.lean), `Dec.step` = one call of `xds_decoder` (Dec.lean; complete: every packet type, every
field, every event), `Dec.sysRun` = line 284 of `vbi_decode_caption` with `xds_decoder` behind it.
The four constants `Dec.capLangClearedFirst`, `Dec.aspectAlwaysCurrent`, `Dec.flushSendsOldAspect`,
`Dec.flushAspectAnyClass` describe the control flow of the current tree; `translate/gen_xdsdec.py` reads
them from src/caption.c on every run (`Generated/XdsDecFlags.lean`), every theorem below holds for either
value of each.
-/
namespace Zvbi.Props.C09Sep
open Zvbi.Xds Zvbi.Hamm Zvbi.Gen.Xds

/-! ## vbi_xds_demux_feed_frame -/

/-- feed_frame_routes_field2_only: for every frame (any number of lines, any ids, line numbers and
    bytes) and every demultiplexer state, `vbi_xds_demux_feed_frame` is `vbi_xds_demux_feed` over
    exactly the lines whose id is `VBI_SLICED_CAPTION_525_F2` or `VBI_SLICED_CAPTION_525` and whose line
    number is 284 or 0, in frame order, stopping behind the first pair that is refused: same final
    state, same deliveries, and the return value is FALSE iff a pair was refused. -/
theorem feed_frame_routes_field2_only (rk : Bool) (s : Demux.State) (fr : List Frame.Sliced) :
    Frame.feedFrame rk s fr = Frame.feedUntilRefused rk s (Frame.field2 fr) := by
  induction fr generalizing s with
  | nil => rfl
  | cons sl rest ih =>
    by_cases h : Frame.selected sl = true
    · have hf : Frame.field2 (sl :: rest) = sl.data :: Frame.field2 rest := by simp [Frame.field2, h]
      rw [hf]
      simp only [Frame.feedFrame, h, if_true, Frame.feedUntilRefused]
      split
      · rw [ih]
      · rfl
    · have hf : Frame.field2 (sl :: rest) = Frame.field2 rest := by simp [Frame.field2, h]
      rw [hf]
      simp only [Frame.feedFrame, h]
      exact ih s

/-- what is routed: never a line tagged field 1 (`VBI_SLICED_CAPTION_525_F1`), never another service or
    a set of ids, never another line number -/
theorem feed_frame_selects (sl : Frame.Sliced) :
    Frame.selected sl = true ↔ (sl.id = Frame.id525 ∨ sl.id = Frame.idF2) ∧ (sl.line = 284 ∨ sl.line = 0) := by
  simp [Frame.selected]

example : Frame.field2 [⟨0x20, 0, (0x94, 0x20)⟩, ⟨0x40, 284, (0x01, 0x83)⟩, ⟨0x42, 284, (1, 1)⟩, ⟨0x60, 21, (2, 2)⟩,
    ⟨0x60, 0, (0xC1, 0xC2)⟩] = [(0x01, 0x83), (0xC1, 0xC2)] := by decide

/-- return value semantics: if every field-2 pair of the frame has correct parity the call returns TRUE
    and is `Demux.run` over those pairs; otherwise it returns FALSE, having fed the pairs up to and
    including the first unreadable one and none behind it. -/
theorem feed_frame_return_value (rk : Bool) (s : Demux.State) (fr : List Frame.Sliced) :
    ((∀ b ∈ Frame.field2 fr, (unpar8 b.1).isSome ∧ (unpar8 b.2).isSome) →
      Frame.feedFrame rk s fr = ((Demux.run rk s (Frame.field2 fr)).1, true, (Demux.run rk s (Frame.field2 fr)).2)) ∧
    (∀ pre bad post, Frame.field2 fr = pre ++ bad :: post →
      (∀ b ∈ pre, (unpar8 b.1).isSome ∧ (unpar8 b.2).isSome) →
      ((unpar8 bad.1).isSome && (unpar8 bad.2).isSome) = false →
      (Frame.feedFrame rk s fr).1 = (Demux.run rk s (pre ++ [bad])).1 ∧ (Frame.feedFrame rk s fr).2.1 = false ∧
      (Frame.feedFrame rk s fr).2.2 = (Demux.run rk s (pre ++ [bad])).2) := by
  constructor
  · intro h; rw [feed_frame_routes_field2_only]; exact Frame.feedUntilRefused_readable rk _ s h
  · intro pre bad post e h1 h2; rw [feed_frame_routes_field2_only, e]; exact Frame.feedUntilRefused_refused rk pre bad post s h1 h2

/-- a frame with field-1 caption, a field-2 start pair, a teletext line: the title packet of the
    following frames is delivered, the field-1 bytes are not fed -/
example : (Frame.feedFrame true Demux.init [⟨0x20, 21, (0x94, 0x2C)⟩, ⟨0x40, 284, (0x01, 0x83)⟩, ⟨0x2, 7, (0, 0)⟩]).1.curr
    = some 3 ∧
    (Frame.feedFrame true (Frame.feedFrame true (Frame.feedFrame true Demux.init [⟨0x20, 0, (0xC1, 0xC2)⟩, ⟨0x40, 284, (0x01, 0x83)⟩]).1
      [⟨0x20, 0, (0x94, 0x2C)⟩, ⟨0x60, 0, (0xC1, 0xC2)⟩]).1 [⟨0x40, 0, (0x8F, 0xEA)⟩]).2.2.map (·.pkt)
    = [some ⟨0, 3, [0x41, 0x42]⟩] := by decide +kernel

/-! ## caption.c: interleaving as the sender writes it, the parity-error branch -/

/-- sep_interleaving_independent, sender's form (caption.c, either control flow, every reachable state):
    a packet with class < 4, type < 0x18 is interrupted any number of times; each interruption is any
    sequence of items a conforming encoder can insert - NUL pairs, caption runs (control code
    0x10..0x1F and text), pieces of other XDS packets (start or continue pair of another buffer other
    than the network name 2/1, payload pairs, with or without their end pair) - that starts with a
    caption run or a packet piece; after each interruption the packet is re-opened by its continue pair.
    Then it is handed to `xds_decoder` exactly as if sent in one piece: once, intact, iff its sum is 0.
    The conditions `Sep.ForeignBlock` asks for (no end pair in caption context ...) follow from the
    item grammar (`Sep.foreignBlock_of_items`), they are not hypotheses here. -/
theorem sep_interleaving_independent_sender (ec : Bool) (hist : List (Nat × Nat)) (p : Packet) (hv : p.Valid)
    (hacc : Sep.accepted p.cls p.sub) (ck : Nat) (hck : ck < 128)
    (chunk0 : List Pair) (segs : List ((Sep.Item × List Sep.Item) × List Pair))
    (hch : chunksOf chunk0 (segs.map fun sg => ((sg.1.1 :: sg.1.2).flatMap Sep.Item.pairs, sg.2)) = pairsOf p.payload)
    (hitems : ∀ sg ∈ segs, sg.1.1 ≠ Sep.Item.nul ∧ (∀ it ∈ sg.1.1 :: sg.1.2, it.ok (Sep.slotOf p.cls p.sub)) ∧
      ∀ q ∈ (sg.1.1 :: sg.1.2).flatMap Sep.Item.pairs, q.1 < 128 ∧ q.2 < 128) :
    Sep.forSlot (Sep.slotOf p.cls p.sub)
      (Sep.run ec (Sep.run ec Sep.init hist).1
        ((interleaved7 p ck chunk0 (segs.map fun sg => ((sg.1.1 :: sg.1.2).flatMap Sep.Item.pairs, sg.2))).map parPair)).2 =
      if (bodySum p + ck) % 128 = 0 then [p.toPkt] else [] := by
  have hb : ∀ sg ∈ segs.map (fun sg => ((sg.1.1 :: sg.1.2).flatMap Sep.Item.pairs, sg.2)),
      Sep.ForeignBlock (Sep.slotOf p.cls p.sub) sg.1 := by
    intro sg hsg
    simp only [List.mem_map] at hsg
    obtain ⟨sg0, h0, rfl⟩ := hsg
    obtain ⟨a, b, c⟩ := hitems sg0 h0
    exact Sep.foreignBlock_of_items _ sg0.1.1 sg0.1.2 a b c
  rw [Sep.run_eq ec (List.map parPair _)]
  exact (Sep.laws ec).interleaved (Sep.inv_run ec hist (Sep.inv_init ec)).1 hv hacc ck hck chunk0 _ hch
    fun sg h => ⟨hb sg h, (hb sg h).2.2⟩

/-- the delivery of the packet does not depend on *what* was merged in between: two transmissions that
    cut the packet at the same places but fill the gaps with different conforming material deliver the
    same thing for this packet's (class, type), in every reachable state -/
theorem sep_interleaving_fill_irrelevant (ec : Bool) (hist : List (Nat × Nat)) (p : Packet) (hv : p.Valid)
    (hacc : Sep.accepted p.cls p.sub) (ck : Nat) (hck : ck < 128) (chunk0 : List Pair)
    (segsA segsB : List (List Pair × List Pair)) (hsame : segsA.map (·.2) = segsB.map (·.2))
    (hch : chunksOf chunk0 segsA = pairsOf p.payload)
    (hA : ∀ sg ∈ segsA, Sep.ForeignBlock (Sep.slotOf p.cls p.sub) sg.1)
    (hB : ∀ sg ∈ segsB, Sep.ForeignBlock (Sep.slotOf p.cls p.sub) sg.1) :
    Sep.forSlot (Sep.slotOf p.cls p.sub)
      (Sep.run ec (Sep.run ec Sep.init hist).1 ((interleaved7 p ck chunk0 segsA).map parPair)).2 =
    Sep.forSlot (Sep.slotOf p.cls p.sub)
      (Sep.run ec (Sep.run ec Sep.init hist).1 ((interleaved7 p ck chunk0 segsB).map parPair)).2 := by
  have hchB : chunksOf chunk0 segsB = pairsOf p.payload := by
    rw [← hch]
    simp only [chunksOf]
    have e : ∀ l : List (List Pair × List Pair), l.flatMap (·.2) = (l.map (·.2)).flatten := by
      intro l; induction l with
      | nil => rfl
      | cons a l ih => simp [ih]
    rw [e, e, hsame]
  have hs := (Sep.inv_run ec hist (Sep.inv_init ec)).1
  rw [Sep.run_eq ec (List.map parPair (interleaved7 p ck chunk0 segsA)),
    Sep.run_eq ec (List.map parPair (interleaved7 p ck chunk0 segsB))]
  -- both sides are what `p` alone would give
  exact ((Sep.laws ec).interleaved hs hv hacc ck hck chunk0 segsA hch fun sg h => ⟨hA sg h, (hA sg h).2.2⟩).trans
    ((Sep.laws ec).interleaved hs hv hacc ck hck chunk0 segsB hchB fun sg h => ⟨hB sg h, (hB sg h).2.2⟩).symm

/-- the item grammar is inhabited by what a real encoder sends: a caption run, a complete packet 0/2,
    a NUL pair - and these items satisfy `Item.ok` for the title packet's buffer -/
example : ∀ it ∈ [Sep.Item.caption (0x14, 0x2C) [(0x54, 0x56)], Sep.Item.packet (1, 2) [(0x58, 0x59)] (some 0x3C), Sep.Item.nul],
    it.ok (Sep.slotOf 0 3) := by
  intro it hit
  simp only [List.mem_cons, List.not_mem_nil, or_false] at hit
  rcases hit with rfl | rfl | rfl
  · exact ⟨by decide, by decide, by intro q hq; simp at hq; subst hq; decide⟩
  · refine ⟨by decide, by decide, by decide, by decide, by intro q hq; simp at hq; subst hq; decide⟩
  · trivial

/-- sep_parity_error_not_delivered, what exactly happens (caption.c since commit 34b85fe): while an XDS
    packet is being received (XDS mode on), a pair that reaches the parity check with a damaged byte
    drops the current packet - its buffer is emptied (`count = 0, chksum = 0`), no packet is current
    afterwards, every other buffer and the network state are untouched, nothing is delivered, no error
    site.  (That nothing is delivered later either is `C09.sep_parity_error_not_delivered`.) -/
theorem sep_parity_error_drops_current (s : Sep.State) (hx : s.xds = true) (bad : Nat × Nat) (hbad : Sep.Damaged bad) :
    (Sep.step true s bad).1.slots = resetAt s.slots s.curr ∧ (Sep.step true s bad).1.curr = none ∧
    (Sep.step true s bad).1.net = s.net ∧ (Sep.step true s bad).2 = {} :=
  Sep.damaged_drops_current hx bad hbad

example : (Sep.run true Sep.init [(0x01, 0x83), (0xC1, 0xC2)]).1.xds = true ∧
    ((Sep.run true Sep.init [(0x01, 0x83), (0xC1, 0xC2), (0x43, 0x36)]).1.slots.getD 3 (Slot.zero 32)).count = 0 := by
  decide +kernel

/-! ## xds_decoder (`Dec`) -/

/-- never_oob for the service decoder, all histories: for every sequence of byte pairs on line 284 of a
    fresh decoder (either separator control flow), no call of `xds_decoder` reports an error site: its
    `assert (length > 0 && length <= 32)` holds and every index into `title[64]`, `description[8][33]`,
    `type_id[33]`, `name[64]`, `call[40]` is inside its array. -/
theorem dec_never_oob_all_histories (ec : Bool) (hist : List (Nat × Nat)) :
    ∀ o ∈ (Dec.sysRun ec (Sep.init, Dec.init) hist).2, o.2.err = none :=
  (Dec.sysRun_wf ec hist (Sep.inv_init ec) Dec.wf_init).2.2

example : (Dec.sysRun true (Sep.init, Dec.init) [(0x01, 0x83), (0xC1, 0xC2), (0x8F, 0xEA)]).2.map (·.2.err) =
    [none, none, none] := by decide +kernel

/-- every index is in range for every packet length 0..32, every class and type, every content, in every
    state whose arrays have their C extents (all reachable states: `Dec.sysRun_wf`): the only error a
    call can report is the length assertion, and only for length 0. -/
theorem dec_index_in_range_every_length (v : Dec.Info) (hv : Dec.Wf v) (p : Pkt) (nx : Nat) (h32 : p.data.length ≤ 32) :
    (Dec.step v p nx).2.err = none ∨ (p.data.length = 0 ∧ (Dec.step v p nx).2.err = some "dec.assert.length") := by
  by_cases h0 : p.data.length = 0
  · right; rw [Dec.step_assert v p nx (Or.inl h0)]; exact ⟨h0, rfl⟩
  · left; exact (Dec.step_clean hv p nx (by omega) h32).2

example : Dec.Wf Dec.init := Dec.wf_init

/-- prog_info_equals_packets, the text fields (any reachable state, any packet of 1..32 bytes): after a
    programme name, programme description, network name or call letters packet the array of its own
    field holds exactly the packet's text (`xds_strfu`: leading blanks dropped) as C string. -/
theorem dec_text_fields_equal_packet (v : Dec.Info) (hv : Dec.Wf v) (d : List Nat) (nx : Nat) (h1 : 1 ≤ d.length)
    (h32 : d.length ≤ 32) :
    (∀ cls, cls ≤ 1 → 2 ≤ d.length → Dec.cstr ((Dec.step v ⟨cls, 3, d⟩ nx).1.pi cls).title = Dec.text d) ∧
    (∀ cls t, cls ≤ 1 → 0x10 ≤ t ∧ t ≤ 0x17 →
      Dec.cstr (((Dec.step v ⟨cls, t, d⟩ nx).1.pi cls).description.getD (t &&& 7) []) = Dec.text d) ∧
    Dec.cstr (Dec.step v ⟨2, 1, d⟩ nx).1.net.name = Dec.text d ∧
    Dec.cstr (Dec.step v ⟨2, 2, d⟩ nx).1.net.call = Dec.text d := by
  have hn : ¬(d.length = 0 ∨ d.length > 32) := by omega
  refine ⟨?_, ?_, ?_, ?_⟩
  · intro cls hc h2
    simp only [Dec.step, hn, if_false, hc, if_true]
    exact Dec.feed_title hv cls d nx h2 h32
  · intro cls t hc ht
    simp only [Dec.step, hn, if_false, hc, if_true]
    exact Dec.feed_description hv cls t d nx ht h32
  · simp only [Dec.step, hn, if_false, show ¬((2 : Nat) ≤ 1) by omega, if_true]
    rw [(Dec.netFeed_fields v 1 d nx).1, if_pos rfl]
    exact (Dec.strfuArr_spec hv.name (Nat.lt_of_le_of_lt h32 (by decide))).2.2
  · simp only [Dec.step, hn, if_false, show ¬((2 : Nat) ≤ 1) by omega, if_true]
    rw [(Dec.netFeed_fields v 2 d nx).2.1, if_pos rfl]
    exact (Dec.strfuArr_spec hv.call (Nat.lt_of_le_of_lt h32 (by decide))).2.2

example : Dec.text [0x20, 0x20, 0x41, 0x10, 0x42] = [0x41, 0x20, 0x42] ∧
    Dec.cstr ((Dec.step Dec.init ⟨0, 3, [0x20, 0x41, 0x42]⟩ 0).1.pi 0).title = [0x41, 0x42] := by decide +kernel

/-- "an event is raised exactly on the repeat of unchanged content": the epilogue of the current / future
    branch sends PROG_INFO - with the stored information of that class - exactly when the packet changed
    nothing and the bit of its type is pending in `info_cycle`, and then clears all pending bits; a change
    sets the bit and sends nothing.  Instance for the simplest field, CGMS-A (type 8), in any state: a
    value different from the stored one raises nothing the first time, exactly one PROG_INFO carrying it
    the second time, nothing the third time. -/
theorem dec_announce_on_repeat (v : Dec.Info) (cls b nx : Nat) (hne : (v.pi cls).cgms ≠ ((b &&& 63 : Nat) : Int)) :
    let p : Pkt := ⟨cls, 8, [b]⟩
    let v1 := (Dec.feed v cls 8 [b] nx).1
    let v2 := (Dec.feed v1 cls 8 [b] nx).1
    (Dec.feed v cls 8 [b] nx).2.evs = [] ∧
    (∃ e, (Dec.feed v1 cls 8 [b] nx).2.evs = [Dec.Ev.progInfo cls e] ∧ e.cgms = ((b &&& 63 : Nat) : Int)) ∧
    (Dec.feed v2 cls 8 [b] nx).2.evs = [] ∧ (v2.pi cls).cgms = ((b &&& 63 : Nat) : Int) ∧ p.sub = 8 := by
  intro p v1 v2
  obtain ⟨h1, ⟨e, h2, he⟩, hv2, h3, _⟩ := Dec.announce_on_repeat_of_plain Dec.plain_cgms v cls [b] nx
    [((b &&& 63 : Nat) : Int)] rfl (fun h => hne (List.cons.inj h).1)
  exact ⟨h1, ⟨e, h2, (List.cons.inj he).1⟩, h3, (List.cons.inj hv2).1, rfl⟩

example : ((Dec.init.pi 0).cgms ≠ ((0x41 &&& 63 : Nat) : Int)) := by decide

/-- "no field is written by a packet of another type" (every state, every packet):
    * a packet of class current / future never touches the network information; of the *other* class's
      programme information and pending bits it touches nothing unless it is an aspect ratio packet
      (type 9, see the counterexample below); inside its own class a type other than programme id (1)
      and programme name (3) - the two documented flushes - leaves the fields of all other types alone;
    * a packet of class channel never touches the caption channel languages, and touches programme
      information, pending bits and `aspect_source` only through `vbi_chsw_reset`, which only the repeat
      of a changed network name (type 1) can trigger;
    * classes 3.. change nothing at all. -/
theorem dec_no_foreign_write (v : Dec.Info) (cls typ : Nat) (d : List Nat) (nx : Nat) :
    (Dec.feed v cls typ d nx).1.net = v.net ∧
    (cls ≤ 1 → typ ≠ 9 → (Dec.feed v cls typ d nx).1.pi (1 - cls) = v.pi (1 - cls) ∧
      (Dec.feed v cls typ d nx).1.cyc (1 - cls) = v.cyc (1 - cls)) ∧
    (typ ≠ 1 → typ ≠ 3 →
      let a := v.pi cls
      let b := (Dec.feed v cls typ d nx).1.pi cls
      b.month = a.month ∧ b.day = a.day ∧ b.hour = a.hour ∧ b.min = a.min ∧ b.tapeDelayed = a.tapeDelayed ∧
      b.title = a.title ∧
      (typ ≠ 2 → b.lengthHour = a.lengthHour ∧ b.lengthMin = a.lengthMin ∧ b.elapsedHour = a.elapsedHour ∧
        b.elapsedMin = a.elapsedMin ∧ b.elapsedSec = a.elapsedSec) ∧
      (typ ≠ 4 → b.typeEia = a.typeEia ∧ b.typeId = a.typeId) ∧
      (typ ≠ 5 → b.ratingAuth = a.ratingAuth ∧ b.ratingId = a.ratingId ∧ b.ratingDlsv = a.ratingDlsv) ∧
      (typ ≠ 6 → b.audioMode = a.audioMode ∧ b.audioLang = a.audioLang) ∧
      (typ ≠ 7 → b.capServices = a.capServices ∧ b.capLang = a.capLang) ∧
      (typ ≠ 8 → b.cgms = a.cgms) ∧
      (typ ≠ 9 → b.aspect = a.aspect) ∧
      (¬(0x10 ≤ typ ∧ typ ≤ 0x17) → b.description = a.description)) ∧
    ((Dec.netFeed v typ d nx).2.chsw = true → typ = 1) ∧
    ((Dec.netFeed v typ d nx).2.chsw = false →
      (Dec.netFeed v typ d nx).1.pi0 = v.pi0 ∧ (Dec.netFeed v typ d nx).1.pi1 = v.pi1 ∧
      (Dec.netFeed v typ d nx).1.cyc0 = v.cyc0 ∧ (Dec.netFeed v typ d nx).1.cyc1 = v.cyc1 ∧
      (Dec.netFeed v typ d nx).1.aspSrc = v.aspSrc) ∧
    (Dec.netFeed v typ d nx).1.chLang = v.chLang ∧
    (∀ c, 3 ≤ c → (Dec.step v ⟨c, typ, d⟩ nx).1 = v) := by
  have hn := Dec.netFeed_shape v typ d nx
  refine ⟨Dec.feed_net v cls typ d nx, fun hc h9 => Dec.feed_other_class v cls typ d nx hc (.inl h9),
    fun h1 h3 =>
      have ⟨k, e⟩ := Dec.feed_kept v cls typ d nx h1 h3
      have ⟨p1, p2, p3, p4, p5⟩ := k.pid h1
      ⟨p1, p2, p3, p4, p5, k.title h3, k.len, k.ptype, k.rating, k.audio, k.capsvc, k.cgms, k.aspect, e rfl⟩,
    ?_⟩
  have inert : ∀ c, 3 ≤ c → (Dec.step v ⟨c, typ, d⟩ nx).1 = v := by
    intro c hc
    unfold Dec.step
    split
    · rfl
    · simp [show ¬(c ≤ 1) by omega, show ¬(c = 2) by omega]
  generalize Dec.netFeed v typ d nx = r at hn ⊢
  cases hn with
  | quiet => exact ⟨fun h => absurd h Bool.false_ne_true, fun _ => ⟨rfl, rfl, rfl, rfl, rfl⟩, rfl, inert⟩
  | reset _ _ _ h1 => exact ⟨fun _ => h1, fun h => absurd h.symm Bool.false_ne_true, rfl, inert⟩

/-! ### where a tree without the repairs departs from "equals the delivered packets, announced after the repeat"
Each statement is decided on a concrete packet sequence and written so that it holds for either value
of the control-flow constant: the first alternative is what a tree without the repair does (replays in
corpus/C09/80..82, repairs in fixes/C09-*.diff), the second what the repaired code does. -/

/-- caption services packet (CC1, English) three times -/
def witnessCapsvc : List (Pkt × Nat) := [(⟨0, 7, [0x48]⟩, 0), (⟨0, 7, [0x48]⟩, 0), (⟨0, 7, [0x48]⟩, 0)]

/-- prog_info_capsvc_never_announced_counterexample: with `capLangClearedFirst` a caption services packet that
    names a language is never announced by its repeat (the stored languages are cleared before the
    comparison, so it always counts as changed and bit 7 stays pending); with the comparison done first
    the second occurrence raises PROG_INFO. -/
theorem prog_info_capsvc_never_announced_counterexample :
    (Dec.run Dec.init witnessCapsvc).2.map (fun o => o.evs.length) =
      (if Dec.capLangClearedFirst then [0, 0, 0] else [0, 1, 0]) ∧
    (Dec.run Dec.init witnessCapsvc).1.cyc0 = (if Dec.capLangClearedFirst then [7, 7, 7] else []) := by
  decide +kernel

/-- `flush_prog_info` itself, both source shapes: the ASPECT event described below and no other, and the stored aspect
    ratio is unknown afterwards -/
theorem dec_flush_events (v : Dec.Info) (cls : Nat) :
    (Dec.flush v cls).2 =
      (if (v.pi cls).aspect ≠ {} ∧ (Dec.flushAspectAnyClass = true ∨ cls = 0) then
        [Dec.Ev.aspect (if Dec.flushSendsOldAspect then (v.pi cls).aspect else {})] else []) ∧
    ((Dec.flush v cls).1.pi cls).aspect = {} :=
  ⟨by simp only [Dec.flush, bne_iff_ne, ne_eq], by simp [Dec.flush, Dec.PI.reset]⟩

/-- flush_prog_info and ASPECT, every state, both source shapes: the only ASPECT event a programme id
    (type 1) or programme name (type 3) packet can raise is the one of `flush_prog_info`.  It is raised
    only if a known aspect ratio of that programme was erased, and - `flushAspectAnyClass = false`, the
    repaired shape - only for the current programme (class 0): never for the future one, which is not on
    screen.  It carries the stored value, unknown (`flushSendsOldAspect = false`, repaired), resp. the
    value that was just erased (`true`, the shape before fixes/C09-flush-aspect.diff). -/
theorem dec_flush_aspect_event (v : Dec.Info) (cls typ : Nat) (d : List Nat) (nx : Nat) (ht : typ = 1 ∨ typ = 3)
    (a : Dec.Aspect) (ha : Dec.Ev.aspect a ∈ (Dec.feed v cls typ d nx).2.evs) :
    (v.pi cls).aspect ≠ {} ∧ (Dec.flushAspectAnyClass = true ∨ cls = 0) ∧
    a = (if Dec.flushSendsOldAspect then (v.pi cls).aspect else {}) :=
  by
  have h := Dec.feed_shape v cls typ d nx
  generalize Dec.feed v cls typ d nx = r at h ha
  cases h with
  | ignored => cases ha
  | fin neq pre err _ hpre =>
    rw [Dec.fin_events, List.mem_append] at ha
    rcases ha with ha | ha
    · rcases hpre with rfl | ⟨h9, _⟩ | ⟨p, rfl, hp⟩
      · cases ha
      · omega
      · rw [(dec_flush_events _ cls).1, Dec.pi_setPi, hp] at ha
        split at ha
        · rename_i hc
          exact ⟨hc.1, hc.2, Dec.Ev.aspect.inj (List.mem_singleton.1 ha)⟩
        · cases ha
    · split at ha
      · cases List.mem_singleton.1 ha
      · cases ha

/-- aspect ratio (twice), then a programme id -/
def witnessFlush : List (Pkt × Nat) :=
  [(⟨0, 9, [0x45, 0x46, 0x41]⟩, 0), (⟨0, 9, [0x45, 0x46, 0x41]⟩, 0), (⟨0, 1, [0x45, 0x46, 0x47, 0x43]⟩, 0)]

/-- the same for the future programme -/
def witnessFlushFuture : List (Pkt × Nat) :=
  [(⟨1, 9, [0x45, 0x46, 0x41]⟩, 0), (⟨1, 9, [0x45, 0x46, 0x41]⟩, 0), (⟨1, 1, [0x45, 0x46, 0x47, 0x43]⟩, 0)]

/-- prog_info_flush_announces_erased_aspect_counterexample (corpus/C09/81, 83): the programme id flushes
    the programme information; before the repair the ASPECT event carries the aspect ratio that was just
    erased instead of the value now stored (unknown), and - once the future programme has an aspect ratio
    of its own (201beae) - it is also raised when the *future* programme is flushed; repaired: the stored
    value, and nothing for the future programme.  Decided on both streams, stated for every combination
    of the constants. -/
theorem prog_info_flush_announces_erased_aspect_counterexample :
    ((Dec.run Dec.init witnessFlush).2.getD 2 {}).evs =
      [Dec.Ev.aspect (if Dec.flushSendsOldAspect then { first := 27, last := 256, ratio := 2 } else {})] ∧
    (Dec.run Dec.init witnessFlush).1.pi0.aspect = {} ∧
    ((Dec.run Dec.init witnessFlushFuture).2.getD 2 {}).evs =
      (if Dec.aspectAlwaysCurrent then []
       else if Dec.flushAspectAnyClass then
         [Dec.Ev.aspect (if Dec.flushSendsOldAspect then { first := 27, last := 256, ratio := 2 } else {})]
       else []) ∧
    (Dec.run Dec.init witnessFlushFuture).1.pi1.aspect = {} := by
  decide +kernel

/-- an aspect ratio packet of the *future* class -/
def witnessFuture : List (Pkt × Nat) := [(⟨1, 9, [0x55, 0x4A, 0x41]⟩, 0)]

/-- prog_info_future_aspect_overwrites_current_counterexample ("no field is written by a packet of another
    class" is false for type 9 with `aspectAlwaysCurrent`): the future-class packet is stored into the *current*
    programme's aspect ratio and announced as ASPECT, the future programme's stays unknown; repaired, it
    goes to the future programme and sends nothing. -/
theorem prog_info_future_aspect_overwrites_current_counterexample :
    ((Dec.run Dec.init witnessFuture).1.pi0.aspect, (Dec.run Dec.init witnessFuture).1.pi1.aspect,
      (Dec.run Dec.init witnessFuture).2.map (fun o => o.evs.length)) =
      (if Dec.aspectAlwaysCurrent then (({ first := 43, last := 252, ratio := 2 } : Dec.Aspect), ({} : Dec.Aspect), [1])
       else (({} : Dec.Aspect), ({ first := 43, last := 252, ratio := 2 } : Dec.Aspect), [0])) := by
  decide +kernel

/-! ### the statement over histories -/

/-- prog_info_equals_packets at full strength (proved in `Props/C09Hist.lean`, `prog_info_equals_packets_full`, from
    `prog_info_equals_packets_all_fields`, which is the statement for every field): for every history of delivered packets, every
    field group `g` of `Dec.Info` (programme id, length, name, type, rating, audio, caption services,
    CGMS-A, aspect, description lines - per class; network name, call letters, tape delay) equals the
    decoding of the last accepted packet of `g`'s (class, type) after the last flush that reaches `g`, and
    is "unknown" if there is none.  The `def` below is its CGMS-A instance.  The per-call facts from which it
    follows by induction over the history - own text fields equal the packet (`dec_text_fields_equal_packet`),
    nothing else is written (`dec_no_foreign_write`), announcements (`dec_announce_on_repeat`,
    `Dec.fin_events`), index safety over all histories (`dec_never_oob_all_histories`) - and, for the
    numeric fields, the correspondence run plus the field-by-field oracle of checks/C09.py. -/
def prog_info_equals_packets_full : Prop :=
  ∀ (hist : List (Pkt × Nat)) (cls : Nat), cls ≤ 1 →
    ∀ (c : Nat) (pre post : List (Pkt × Nat)), hist = pre ++ (⟨cls, 8, [c]⟩, 0) :: post →
      (∀ q ∈ post, ¬(q.1.cls = cls ∧ (q.1.sub = 8 ∨ q.1.sub = 1 ∨ q.1.sub = 3)) ∧ ¬(q.1.cls = 2 ∧ q.1.sub = 1)) →
      ((Dec.run Dec.init hist).1.pi cls).cgms = ((c &&& 63 : Nat) : Int)

/-- prog_info_equals_packets_partial: the instance of the full statement for one more call - whatever the
    state, after a CGMS-A packet the field holds its value, and a following packet of another type of the
    same class that is neither programme id nor programme name leaves it there. -/
theorem prog_info_equals_packets_partial (v : Dec.Info) (cls c typ : Nat) (d : List Nat) (nx : Nat)
    (h8 : typ ≠ 8) (h1 : typ ≠ 1) (h3 : typ ≠ 3) :
    (((Dec.feed (Dec.feed v cls 8 [c] 0).1 cls typ d nx).1).pi cls).cgms = ((c &&& 63 : Nat) : Int) := by
  rw [(Dec.feed_kept (Dec.feed v cls 8 [c] 0).1 cls typ d nx h1 h3).1.cgms h8, Dec.feed_cgms_eq]; simp [Dec.byteAt]

end Zvbi.Props.C09Sep
