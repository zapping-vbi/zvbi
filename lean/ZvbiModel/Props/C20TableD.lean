import ZvbiModel.Locks.Table
import ZvbiModel.Locks.Instance
/-!
# C20 - table theorems, part D: the discipline check is not vacuous
-/
namespace Zvbi.Props.C20
open Zvbi.Locks Zvbi.Locks.Instance Zvbi.Generated.Locks

/-- The check bites: were `vbi_raw_decoder_resize`/`_parameters`/`_reset` documented as concurrent
with `vbi_raw_decode`, the discipline would fail (unlocked read of `rd->count[]` vs. locked write). -/
theorem resize_concurrent_with_decode_would_race : tableDRF noKnown rolesWithExclusive = false :=
  -- role 3 is `vbi_raw_decode`, role 5 the exclusive functions
  tableDRF_eq_false (a := 3) (b := 5) rfl rfl rfl (by decide)

end Zvbi.Props.C20
