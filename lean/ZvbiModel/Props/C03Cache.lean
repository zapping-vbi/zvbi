import ZvbiModel.Props.C03
import ZvbiModel.Props.C10Ttx
import ZvbiModel.Ttx.CacheTrace
/-!
# C03 - "no page is stored under a page number other than one that was transmitted", as a statement
about what the cache HOLDS

`Props/C03.lean` has `no_foreign_page_number`: every call of `_vbi_cache_put_page` (`Event.put q`) of every
history carries the (pgno, subno) the decoder computed from an accepted header of that history.  That is a
statement about the list of events.  The theorems below are about the other end:

1. the pages IN the cache (`Net.cache`, the most recently used list the decoder model keeps) of every reachable
   decoder state,
2. the entries of every state of the cache.c model (C10, `Zvbi.Cache.State`) which is in simulation with the
   decoder's list (`Zvbi.Props.C10Ttx.Sim`; `sim_get` / `sim_put` there keep the simulation through look-ups and
   stores),
3. a packet with uncorrectable address, a header with uncorrectable page number: no cache operation at all, the
   same cache.c state is still in simulation.

The stored sub-code is the one of the header or 0: `_vbi_cache_put_page` files the page under sub-code 0 for
some key classes (`putKey`: sub-code 0, clock pages and sub-codes that are no BCD time, sub-codes above 0x79).

Property theorems only (model `ZvbiModel/Ttx/Model.lean`, `ZvbiModel/Cache/Model.lean`; helper lemmas
`ZvbiModel/Ttx/CacheTrace.lean`: `CacheOk` over all reachable states, next to `AsmOk` of AsmInv).
-/
namespace Zvbi.Props.C03Cache
open Zvbi.Ttx Zvbi.Ttx.Spec Zvbi.Hamm Zvbi.Gen

/-! ## 1. the decoder's cache -/

/-- Over every history of packets (any bytes whatever, decoder with or without a Teletext handler): every page
    that IS in the cache afterwards - Level one pages stored by `store_lop`, and the TOP (BTT / AIT / MPT), POP,
    DRCS and unknown-function pages stored when a header terminates them (`default:` and DRCS branches of the
    header code) - sits under a page number which the decoder computed (`hdrKey`: Hamming 8/4 decode of address
    and page number, header accepted) from some header packet of that history, and under the sub-code of that
    very header or under sub-code 0.  Look-ups (move to front), the table parsers, the statistics, channel
    switch resets (which empty the cache) and refused packets add nothing.
    Proved by an invariant over all reachable states (`CacheOk` with `AsmOk`). -/
theorem cached_page_numbers_transmitted (on : Bool) (ps : List Packet) (x : Page)
    (hx : x ∈ (run (init.enable on) ps).1.net.cache) :
    ∃ p ∈ ps, ∃ m sub, hdrKey p = some (m, x.pgno, sub) ∧ (x.subno = sub ∨ x.subno = 0) := by
  have := run_cacheOk (init.enable on) [] ps (init_ok on) (init_cacheOk on) x hx
  simpa [SentKey] using this

/-- non-vacuity: a header of page 123 sub-code 2359 followed by a second header of the same magazine: the cache
    then holds exactly one page, under number 0x123 - and under sub-code 0, not 0x2359 (`putKey`: 0x2359 is above
    0x2300, no clock time), which is why the sub-code clause reads "of that header or 0". -/
example : ((run (init.enable true) [C03.f21Tx, C03.f21Tx.set 2 21]).1.net.cache.map fun x => (x.pgno, x.subno))
      = [(0x123, 0)]
    ∧ hdrKey C03.f21Tx = some (1, 0x123, 0x2359) := by
  decide +kernel

/-! ## 2. the cache.c model -/

/-- The same about the state of the cache.c model (property C10).  Let `cs` be ANY state of that model in which
    the retrievable entries of network `nid` are the decoder's page list after history `ps`
    (`C10Ttx.Sim`; `enc` abstracts the page content; `C10Ttx.sim_get` / `sim_put` show that look-ups and stores
    performed on both sides keep this relation).  Then every entry of network `nid` in `cs` - everything
    `_vbi_cache_get_page (ca, cn, ..)` can ever return for that network - is filed under a page number the decoder
    computed from an accepted header of `ps`, and under that header's sub-code or 0. -/
theorem c10_state_holds_only_transmitted_numbers (on : Bool) (ps : List Packet) (nid : Nat) (enc : Page → Nat)
    (cs : Zvbi.Cache.State) (hsim : Zvbi.Props.C10Ttx.Sim nid enc (run (init.enable on) ps).1.net.cache cs)
    (e : Zvbi.Cache.Entry) (he : e ∈ cs.abs) (hn : e.net = nid) :
    ∃ p ∈ ps, ∃ m sub, hdrKey p = some (m, e.pgno, sub) ∧ (e.subno = sub ∨ e.subno = 0) := by
  have h1 : e ∈ cs.abs.filter (fun e => decide (e.net = nid)) := List.mem_filter.mpr ⟨he, by simpa using hn⟩
  unfold Zvbi.Props.C10Ttx.Sim at hsim
  rw [hsim] at h1
  unfold Zvbi.Cache.tstore at h1
  obtain ⟨x, hx, rfl⟩ := List.mem_map.mp h1
  exact cached_page_numbers_transmitted on ps x hx

/-- non-vacuity: the cache.c model after `cache_network` creation and one `_vbi_cache_put_page` of page 123 /
    2359 (a Level one page) is in simulation with the decoder after the two-header history above, and it holds an
    entry of that network. -/
example : Zvbi.Props.C10Ttx.Sim 0 (fun _ => 0) (run (init.enable true) [C03.f21Tx, C03.f21Tx.set 2 21]).1.net.cache
      (Zvbi.Cache.runF true Zvbi.Cache.init [.addNet, .put 0 ⟨0x123, 0x2359, 0, 0, 0, 0⟩])
    ∧ ((Zvbi.Cache.runF true Zvbi.Cache.init [.addNet, .put 0 ⟨0x123, 0x2359, 0, 0, 0, 0⟩]).abs.map
        fun e => (e.net, e.pgno, e.subno)) = [(0, 0x123, 0)] := by
  unfold Zvbi.Props.C10Ttx.Sim
  decide +kernel

/-! ## 3. refused packets -/

/-- A packet whose address bytes are uncorrectable, and a header whose page number is uncorrectable, perform no
    cache operation at all (no event, in particular no `put` and no look-up), and ANY cache.c state that was in
    simulation with the decoder's page list before the packet is in simulation with it afterwards: the cache
    stays exactly as it was - nothing is stored, replaced, moved or deleted on account of such a packet. -/
theorem rejected_packet_leaves_c10_state (s : St) (p : Packet) (nid : Nat) (enc : Page → Nat)
    (cs : Zvbi.Cache.State) (hsim : Zvbi.Props.C10Ttx.Sim nid enc s.net.cache cs) :
    (a16 p 0 = none →
      (decodeTeletext s p).ev = [] ∧ Zvbi.Props.C10Ttx.Sim nid enc (decodeTeletext s p).st.net.cache cs) ∧
    (∀ pmag, a16 p 0 = some pmag → pmag >>> 3 = 0 → s.mask = true → a16 p 2 = none →
      (decodeTeletext s p).ev = [] ∧ Zvbi.Props.C10Ttx.Sim nid enc (decodeTeletext s p).st.net.cache cs) := by
  constructor
  · intro h
    rw [C03.bad_address_no_effect s p h]
    exact ⟨rfl, hsim⟩
  · intro pmag ha h0 hm hpg
    obtain ⟨h1, h2⟩ := C03.bad_header_page_number s p pmag ha h0 hm hpg
    rw [h1]
    refine ⟨rfl, ?_⟩
    show Zvbi.Props.C10Ttx.Sim nid enc (desync s).net.cache cs
    rw [h2]; exact hsim

/-- non-vacuity: both kinds of packet exist (bad address; header of magazine 1 with a bad page number), and the
    state after the two-header history above has a handler registered - with the one-page cache.c state of the
    example in section 2 (which proves the `Sim`) it is an instance of the hypotheses. -/
example : a16 [0x01, 0x15] 0 = none
    ∧ (a16 ((C03.f21Tx.set 2 0x01).set 3 0x15) 0 = some 1 ∧ a16 ((C03.f21Tx.set 2 0x01).set 3 0x15) 2 = none)
    ∧ (run (init.enable true) [C03.f21Tx, C03.f21Tx.set 2 21]).1.mask = true := by
  decide +kernel

end Zvbi.Props.C03Cache
