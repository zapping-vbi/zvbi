import ZvbiModel.Ttx.CycleDec
import ZvbiModel.Props.C02Serial
/-!
# Property C02: a whole cycle of transmissions (`page_roundtrip_cycle`, `page_roundtrip_chain`)

`page_roundtrip_chain : C02Serial.page_roundtrip_chain_full` and the stronger `page_roundtrip_cycle` are the cycle theorem `Ttx.Mode.cycle` read for one magazine alone (`Ttx.soloMode`)
and for a magazine with the other seven interleaved (`Ttx.parMode`).  `page_roundtrip_cycle`, the parallel-mode,
several-magazines version:

* the decoder is in ANY state reached from a fresh decoder by a history of `Good` packets (consistent page headers
  `GoodHdr`, page headers of decimal or time-filling page numbers only `TextOnly`, no C11 `ParHdr`; nothing else is
  asked: rows, X/26, X/27, X/28, M/29, 8/30, undecodable bytes, any magazine);
* a cycle `x0 :: xs` of transmissions of magazine `m` (`SegOk`): header of a decimal page (any sub-code, control bits,
  erase flag on/off), then until the next header of `m` any items: rows 1..25 of the page (any subset / order /
  repeats, odd-parity bytes), (`Item.ownx`) the page's OWN packets X/26, X/27, X/28 - any designation but
  X/28/3, which makes packet.c discard a text page - and M/29 of its magazine, anywhere between the rows (they change
  enhancement / link / extension data only: `Ttx.own_aux_step`, Props/C02Own), and `Good` packets of the OTHER SEVEN magazines (whole pages of them being opened, stored,
  announced in between; a foreign header's page number must decode, E1);
* a final header `fin` of magazine `m` (time-filling or decimal; only its page number must decode), neighbours in the
  cycle carry different page numbers (`Alt`).

Conclusions, for the state after `fin`: (1) among ALL events those of magazine `m` are exactly one TTX_PAGE event per
transmission, in order, after those of closing the page that was open before; (2) every transmission was stored as
`Fetched` says (text page, its numbers / national option / flags, rows = previous version or blanks merged with the
rows received); (3) if no LATER transmission of the cycle (nor `fin`) carries the same page number, exact and wildcard
look-ups in the FINAL cache return exactly that entry - whatever the other magazines stored meanwhile; (4) rotating
subpages: if the later transmissions with the same page number carry other sub-codes 01..79, the exact look-up of
this sub-code still returns the entry.

The `TextPage` hypothesis of the per-transmission theorems is discharged along the run by the invariant "only text pages
were announced" (`Ttx.TInv`, kept by every `TextOnly` packet: `Ttx.run_tinv`).
Lemmas: `Ttx/TextOnly.lean`, `Ttx/FindFrame.lean`, `Ttx/Mode.lean`, `Ttx/Cycle.lean`.
-/
namespace Zvbi.Props.C02Chain
open Zvbi.Ttx Zvbi.Hamm Zvbi.Fmt Zvbi.Fmt.L1Spec Zvbi.Props.C02Roundtrip Zvbi.Props.C02Interleave

/-- **text_only_invariant**: after ANY history of packets whose page headers (when the page number decodes) carry a
decimal page number 00..99 or the time-filling FF, on a fresh decoder with a TTX_PAGE handler: every page type in the
page statistics is UNKNOWN or NORMAL, every cached page is a Level 1 text page (`PAGE_FUNCTION_LOP`), every page in
progress is a text page or discarded.  This is what makes the header branch of packet.c assemble every decimal page
as text (`TextPage`), the hypothesis the per-transmission theorems carry. -/
theorem text_only_invariant (hist : List Packet) (h : ∀ p ∈ hist, TextOnly p) :
    let s := (run (init.enable true) hist).1
    (∀ pgno, (s.net.getStat pgno).pageType = PT_UNKNOWN ∨ (s.net.getStat pgno).pageType = PT_NORMAL)
    ∧ (∀ q ∈ s.net.cache, q.function = FN_LOP)
    ∧ (∀ c, c < 8 → (s.rp c).page.function = FN_LOP ∨ (s.rp c).page.function = FN_DISCARD)
    ∧ ∀ (t : Tx), decimalPage t.page → TextPage s.net t.pgno t.page (t.prev s) := by
  have hs := init_shape true
  have ht := run_tinv hist (init.enable true) hs rfl init_tinv h
  exact ⟨ht.net.stat, ht.net.cache, ht.slots, fun t hdec => ht.net.textPage _ _ _ _ hdec⟩

example : (∀ q ∈ (run (init.enable true) exStream).1.net.cache, q.function = FN_LOP) :=
  (text_only_invariant exStream (fun p hp => textOnly_of_dec p
    ((by decide +kernel : ∀ p ∈ exStream, textOnlyB p = true) p hp))).2.1

/-- the conclusions of `page_roundtrip_cycle` about the transmission `x` at position `pre ++ x :: post` of the cycle,
    `s` = state before the cycle, `sF` = state after the final header -/
def PageClaim (m : Nat) (s sF : St) (finPage : Nat) (pre : List Seg) (x : Seg) (post : List Seg) : Prop :=
  ∃ q pt, Fetched q x.t (s1Of (run s (stream pre)).1 x.t) x.hdr x.rows pt ∧ pt ≠ PT_CLOCK
    -- last transmission of its page number: exact and wildcard look-ups in the final cache return it
    ∧ ((∀ y ∈ post, y.t.page ≠ x.t.page) → finPage ≠ x.t.page →
        q ∈ sF.net.cache ∧ ∀ subno mask, subno = q.subno ∨ subno = ANY_SUBNO →
          (cacheGet sF.net.cache x.t.pgno subno mask).map (·.1) = some q)
    -- rotating subpages: later transmissions of the page number carry other sub-codes 01..79
    ∧ (SubCode x.t.subno → (∀ y ∈ post, y.t.page = x.t.page → SubCode y.t.subno ∧ y.t.subno ≠ x.t.subno) →
        finPage ≠ x.t.page →
        q.subno = x.t.subno ∧ (cacheGet sF.net.cache x.t.pgno x.t.subno 0xFFFFFFFF).map (·.1) = some q)
    -- the entry carries the FLOF links (`link[]`, `have_flof`) and the X/28 record (`x28_designations`; the
    -- extension when X/28/0, /1 or /4 was received) of the page in progress at the moment its terminating header arrives
    ∧ CarriesAux q ((run (run s (stream pre)).1 x.pkts).1.rp m).page

/-- **page_roundtrip_cycle** (parallel mode, up to eight magazines interleaved; see the file header). -/
theorem page_roundtrip_cycle (tmpl : List Nat) (off m : Nat) (hm : m < 8)
    (hist : List Packet) (hhist : ∀ p ∈ hist, Good tmpl off p)
    (x0 : Seg) (xs : List Seg) (hx : ∀ x ∈ x0 :: xs, SegOk tmpl off m x)
    (fin : Packet) (finPage : Nat) (hfa : a16 fin 0 = some m) (hfp : a16 fin 2 = some finPage) (hft : TextOnly fin)
    (halt : Alt ((x0 :: xs).map (·.t.page) ++ [finPage])) :
    let s := (run (init.enable true) hist).1
    let all := run s (stream (x0 :: xs) ++ [fin])
    magPages m all.2 = magPages m (terminatePage (tick s) m x0.t.pgno x0.t.page).2 ++ (x0 :: xs).map Seg.key
    ∧ ∀ pre x post, x0 :: xs = pre ++ x :: post → PageClaim m s all.1 finPage pre x post := by
  intro s all
  obtain ⟨hev, hcl⟩ := (parMode tmpl off m hm).cycle s (run_cinv hist _ (init_cinv tmpl off) hhist).1 x0 xs hx
    fin m finPage finPage hfa hfp hft ⟨rfl, rfl⟩ halt
  rw [show (parMode tmpl off m hm).t x0 = x0.t from rfl, (hx x0 List.mem_cons_self).mag] at hev
  refine ⟨hev, fun pre x post e => ?_⟩
  obtain ⟨q, pt, hF, hpt, hl, hcar⟩ := hcl pre x post e
  have hxm : x.t.m = m := (hx x (by rw [e]; simp)).mag
  -- page numbers of the magazine differ as their low bytes do
  have hpg : ∀ y ∈ post, (y.t.pgno = x.t.pgno ↔ y.t.page = x.t.page) := by
    intro y hy
    unfold Tx.pgno
    rw [(hx y (by rw [e]; simp [hy])).mag, hxm]
    omega
  have hfp' : finPage ≠ x.t.page → mag8Of m * 256 + finPage ≠ x.t.pgno := by
    unfold Tx.pgno; rw [hxm]; omega
  exact ⟨q, pt, hF, hpt, fun hlast hfinne => hl.1 (fun y hy e => hlast y hy ((hpg y hy).mp e)) (hfp' hfinne),
    fun hsc hrot hfinne => hl.2 hsc (fun y hy e => hrot y hy ((hpg y hy).mp e)) (hfp' hfinne), hxm ▸ hcar⟩

/-- **page_roundtrip_cycle_fetch**: the cycle theorem joined with the formatter.  Under the hypotheses of
`page_roundtrip_cycle`, for the LAST transmission `x` of a page number in the cycle (no later transmission and not the
final header carry that page number): in the state after the final header `vbi_fetch_vt_page` (model `C02.fetch`: cache
look-up, LOP check, Level 1 / 1.5 formatting with default region `region`) with the wildcard sub-code - or the sub-code
the page was filed under - succeeds with the transmitted page number, and every cell of rows 0..24 is `L1Spec.cell`
(EN 300 706 12.2: character through the designated G0 set and national option subset, colours, flash, conceal,
size, opacity) of a page `q` whose national option bits are the transmitted C12-C14 and whose byte at (row r, column c),
for every row number r received in this transmission, is byte c of a packet r of this transmission (the last one). -/
theorem page_roundtrip_cycle_fetch (tmpl : List Nat) (off m : Nat) (hm : m < 8)
    (hist : List Packet) (hhist : ∀ p ∈ hist, Good tmpl off p)
    (x0 : Seg) (xs : List Seg) (hx : ∀ x ∈ x0 :: xs, SegOk tmpl off m x)
    (fin : Packet) (finPage : Nat) (hfa : a16 fin 0 = some m) (hfp : a16 fin 2 = some finPage) (hft : TextOnly fin)
    (halt : Alt ((x0 :: xs).map (·.t.page) ++ [finPage])) (region : Nat)
    (pre : List Seg) (x : Seg) (post : List Seg) (e : x0 :: xs = pre ++ x :: post)
    (hlast : ∀ y ∈ post, y.t.page ≠ x.t.page) (hfinne : finPage ≠ x.t.page) :
    let sF := (run (run (init.enable true) hist).1 (stream (x0 :: xs) ++ [fin])).1
    ∃ q, q.national = rev8 x.t.fl &&& 7
      ∧ (∀ subno, subno = q.subno ∨ subno = ANY_SUBNO →
          ∃ cells, C02.fetch sF region x.t.pgno subno = some (x.t.pgno, q.subno, cells)
            ∧ ∀ row col, row < 25 → col < 40 → cellAt cells row col = L1Spec.cell .lib (C02.pageInOf region q) row col)
      ∧ (∀ r ∈ x.rows, ∃ r' ∈ x.rows, r'.1 = r.1
          ∧ ∀ c, c < 40 → (C02.pageInOf region q).raw (40 * r.1 + c) = r'.2.getD c 0) := by
  intro sF
  obtain ⟨_, hclaims⟩ := page_roundtrip_cycle tmpl off m hm hist hhist x0 xs hx fin finPage hfa hfp hft halt
  obtain ⟨q, pt, hF, _, hknown, _⟩ := hclaims pre x post e
  obtain ⟨hqmem, hget⟩ := hknown hlast hfinne
  have hsh := (run_shape (hist ++ (stream (x0 :: xs) ++ [fin])) _ (init_shape true)).1
  rw [run_append] at hsh
  exact ⟨q, fetched_shown sF hsh region _ _ _ _ _ q hF hqmem
    (fun r hr => have g := ownRows_good x.items (fun it hit => ((hx x (by rw [e]; simp)).items it hit).1) r hr; ⟨g.1, g.2.1⟩) hget⟩

/-- **page_roundtrip_chain** (`C02Serial.page_roundtrip_chain_full`; receiver side of the unproved `C02.page_roundtrip_full`).  A fresh decoder with a TTX_PAGE handler receives a whole cycle of transmissions of one
magazine - each a header of a decimal page (any sub-code, control bits with C11 = 0, erase flag on/off, header text
consistent with one network header) followed by any rows 1..25 (subset, order, repeats free; odd parity) and
terminated by the next header, which carries another page number; the last one by a time-filling header.  Then
exactly one TTX_PAGE event per transmission was delivered, in order, with the transmitted page / sub-page number, and
every page number of the cycle is fetched (wildcard sub-page look-up) as a Level 1 text page with that number whose
rows show, for every row number received in the LAST transmission of the page number, a packet of that transmission. -/
theorem page_roundtrip_chain : C02Serial.page_roundtrip_chain_full := by
  intro tmpl off m txs fin hm htx hadj hfa hfp
  have hft : TextOnly fin := by
    intro pmag page _ _ hp
    rw [hfp] at hp; injection hp with hp
    exact Or.inr hp.symm
  cases txs with
  | nil =>
    simp only [List.flatMap_nil, List.nil_append, List.map_nil]
    refine ⟨?_, fun x hx => by cases hx⟩
    rw [run_cons, run_nil]
    simp only [List.append_nil]
    rw [(header_step (init.enable true) fin m 0xFF hm hfa hfp (init_shape true) rfl init_tinv hft).1,
      terminatePage_fresh _ _ _ _ init_current]
    rfl
  | cons a rest =>
    have halt := alt_of_adj (·.1.page) 0xFF (a :: rest) (fun x hx => by have := (htx x hx).2.2.1.1; omega) hadj
    obtain ⟨hev, hclaims⟩ := (soloMode tmpl off m hm).cycle (init.enable true) (init_cinv tmpl off) a rest htx fin m 0xFF 0xFF
      hfa hfp hft ⟨rfl, rfl⟩ halt
    dsimp only [soloMode] at hev hclaims
    intro stream sF
    refine ⟨?_, ?_⟩
    · -- events: nothing was open before
      rw [show terminatePage (tick (init.enable true)) a.1.m a.1.pgno a.1.page = (tick (init.enable true), [])
        from terminatePage_fresh _ _ _ _ init_current] at hev
      exact hev
    · -- every page number of the cycle: its last transmission
      intro x hx
      obtain ⟨pre, y, post, e, hy, hpost⟩ := exists_last (fun z : STx => z.1.pgno = x.1.pgno) (a :: rest) x hx rfl
      have hymem : y ∈ a :: rest := by rw [e]; simp
      have hyok := htx y hymem
      obtain ⟨q, pt, hF, _, hknown, _⟩ := hclaims pre y post e
      obtain ⟨hqmem, hget⟩ := hknown.1 (fun z hz hpg => hpost z hz (hpg.trans hy))
        (by have := hyok.2.2.1.1; show mag8Of m * 256 + 0xFF ≠ mag8Of y.1.m * 256 + y.1.page; rw [hyok.1]; omega)
      have hg := hget ANY_SUBNO 0 (Or.inr rfl)
      rw [show y.1.pgno = x.1.pgno from hy] at hg
      refine ⟨q, hg, hF.fn, hF.pgno.trans hy, y, hymem, hy, ?_⟩
      intro r hr
      have hsh := (reachable_shape true (List.flatMap (fun x => x.2.1 :: x.2.2.map (·.2)) (a :: rest) ++ [fin])).2.2.1 q hqmem
      obtain ⟨r0, hr0, e0, hc0⟩ := received_row_stored q _ (rowsOf y.2.2) hF.raw hsh
        (fun r hr => by
          obtain ⟨z, hz, rfl⟩ := List.mem_map.mp hr
          exact ⟨(hyok.2.2.2.2.2 z hz).2.1, (hyok.2.2.2.2.2 z hz).2.2.1⟩)
        (r.1, payload r.2) (List.mem_map.mpr ⟨r, hr, rfl⟩)
      obtain ⟨r', hr', er'⟩ := List.mem_map.mp hr0
      subst er'
      exact ⟨r', hr', e0, hc0⟩

/-! ### non-vacuity: a concrete interleaved cycle satisfies the hypotheses; the conclusion evaluated on the model -/

/-- header of page (`m`, `page`) with the page number at columns 8..10 of the header text -/
def hd (m page : Nat) : Packet := hdrPkt m page 0 (textOf (mag8Of m * 256 + page) 0x20)
def cycTmpl : List Nat := payload (hd 1 0)

/-- magazine 1 sends 100, 101, 100 (second version of 100: row 2 only, no erase flag) -/
def cyc0 : Seg := ⟨⟨1, 0x00, 0, 0, 0⟩, hd 1 0x00, [.own 1 (rowPkt 1 1 0xC1), .foreign 2 0 (hd 2 0x50)]⟩
/-- ... magazine 2 sends 250 and 251 in between -/
def cyc1 : Seg := ⟨⟨1, 0x01, 0, 0, 0⟩, hd 1 0x01, [.foreign 2 1 (rowPkt 2 1 0x43), .own 3 (rowPkt 1 3 0xC2)]⟩
def cyc2 : Seg := ⟨⟨1, 0x00, 0, 0, 0⟩, hd 1 0x00, [.own 2 (rowPkt 1 2 0x45), .foreign 2 0 (hd 2 0x51)]⟩

theorem cyc_ok : ∀ x ∈ [cyc0, cyc1, cyc2], SegOk cycTmpl 8 1 x :=
  have : ∀ x ∈ [cyc0, cyc1, cyc2], segOkB cycTmpl 8 1 x = true := by decide +kernel
  fun x hx => segOk_of_dec _ _ _ x (this x hx)

/-- `page_roundtrip_cycle` APPLIES to that cycle from a fresh decoder (every hypothesis discharged): the claim for the
    transmission of 101 in the middle, whose page number is not sent again -/
example : PageClaim 1 (init.enable true)
    (run (init.enable true) (stream [cyc0, cyc1, cyc2] ++ [hd 1 0xFF])).1 0xFF [cyc0] cyc1 [cyc2] := by
  exact (page_roundtrip_cycle cycTmpl 8 1 (by decide) [] (fun _ h => by cases h) cyc0 [cyc1, cyc2] cyc_ok (hd 1 0xFF) 0xFF
    (by decide +kernel) (by decide +kernel) (textOnly_of_dec _ (by decide +kernel))
    ⟨by decide, by decide, by decide, trivial⟩).2 [cyc0] cyc1 [cyc2] rfl

/-- ... and so does `page_roundtrip_cycle_fetch`: page 101 is fetched (wildcard sub-code) with cells = L1Spec of a page
    whose row 3 is the packet sent -/
example : ∃ q cells, C02.fetch (run (run (init.enable true) []).1 (stream [cyc0, cyc1, cyc2] ++ [hd 1 0xFF])).1 0 0x101 ANY_SUBNO
      = some (0x101, q.subno, cells)
    ∧ ∀ c, c < 40 → (C02.pageInOf 0 q).raw (40 * 3 + c) = 0xC2 := by
  obtain ⟨q, _, hfetch, hrows⟩ := page_roundtrip_cycle_fetch cycTmpl 8 1 (by decide) [] (fun _ h => by cases h) cyc0 [cyc1, cyc2] cyc_ok
    (hd 1 0xFF) 0xFF (by decide +kernel) (by decide +kernel) (textOnly_of_dec _ (by decide +kernel))
    ⟨by decide, by decide, by decide, trivial⟩ 0 [cyc0] cyc1 [cyc2] rfl (by decide) (by decide)
  obtain ⟨cells, hc, _⟩ := hfetch ANY_SUBNO (Or.inr rfl)
  exact ⟨q, cells, hc, shown_replicate 3 0xC2 hrows (by decide +kernel) (by decide +kernel)⟩

/-- what the model computes on that cycle: one event per transmission of magazine 1 (and one for 250), page 100 = row 1
    of its first and row 2 of its second transmission, 101 and 250 intact -/
example :
    let r := run (init.enable true) (stream [cyc0, cyc1, cyc2] ++ [hd 1 0xFF])
    magPages 1 r.2 = [(0x100, 0), (0x101, 0), (0x100, 0)] ∧ ttxPages r.2 = [(0x100, 0), (0x101, 0), (0x250, 0), (0x100, 0)]
    ∧ (cacheGet r.1.net.cache 0x100 ANY_SUBNO 0).map (fun g => (g.1.raw.getD 1 [], g.1.raw.getD 2 []))
        = some (List.replicate 40 0xC1, List.replicate 40 0x45)
    ∧ (cacheGet r.1.net.cache 0x101 ANY_SUBNO 0).map (fun g => g.1.raw.getD 3 []) = some (List.replicate 40 0xC2)
    ∧ (cacheGet r.1.net.cache 0x250 ANY_SUBNO 0).map (fun g => g.1.raw.getD 1 []) = some (List.replicate 40 0x43) := by
  decide +kernel

end Zvbi.Props.C02Chain
