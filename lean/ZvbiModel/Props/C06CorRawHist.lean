import ZvbiModel.Mux.CorRawHistory
import ZvbiModel.Props.C06CorRaw
/-!
# C06 - `vbi_dvb_mux_cor` = `vbi_dvb_mux_feed` over whole histories with raw VBI data

Property theorems only.  Models: `Mux/CorRawModel.lean`, `Mux/RawModel.lean`; the two applications `corRunR` / `runR` and the
lemmas: `Mux/CorRawHistory.lean`.
-/
namespace Zvbi.Props.C06CorRawHist
open Zvbi.Mux Zvbi.Mux.EnParse
open Zvbi.Props.C06Raw (StateOK exSp exRaw exLine)
open Zvbi.Props.C06CorRaw (exFrame exTs)

/-- Both source shapes, PES and TS, any multiplexer in a reachable state with nothing pending:
for EVERY history of non-empty well-formed frames - sliced lines and raw line requests, `raw` / `sp` NULL or given, sampling
parameters valid or not, accepted or rejected, each frame with its own non-empty list of positive output buffer sizes used
cyclically - and configuration changes, the application that runs the `vbi_dvb_mux_cor` loop produces byte for byte the stream
of the application that calls `vbi_dvb_mux_feed`, and both end with nothing pending, the same configuration, continuity counter
and raw-line state (`raw_samples_left == 0`). -/
theorem cor_history_equals_feed_raw (keep : Bool) (fuel : Nat) (hfuel : 66928 ≤ fuel) (ops : List (OpR × List Nat))
    (hops : ∀ op ∈ ops, CorOpROK op) (m : RMux) (hm : StateOK m) (hi : Idle m.mux) :
    (corRunR keep fuel m ops).2 = (runR keep m (ops.map Prod.fst)).2
    ∧ Idle (corRunR keep fuel m ops).1.mux
    ∧ (corRunR keep fuel m ops).1.mux.cfg = (runR keep m (ops.map Prod.fst)).1.mux.cfg
    ∧ (corRunR keep fuel m ops).1.mux.cc = (runR keep m (ops.map Prod.fst)).1.mux.cc
    ∧ (corRunR keep fuel m ops).1.raw = (runR keep m (ops.map Prod.fst)).1.raw
    ∧ (corRunR keep fuel m ops).1.raw.left = 0 := by
  obtain ⟨h1, h2⟩ := corRunR_eq_runR keep fuel hfuel ops hops m m ⟨hi, rfl, rfl, rfl, hm.raw, hm.cfg⟩
  exact ⟨h1, h2.idle, h2.cfg, h2.cc, h2.raw, h2.left⟩

/-! non-vacuity: TS mode; an accepted frame with a raw line, a rejected one (line 10 is outside the raw frame), a frame with
invalid sampling parameters, a configuration change, another accepted frame -/
def exHist : List (OpR × List Nat) :=
  [(.frame exFrame 0xFFFFFFFF (some exRaw) (some exSp) 7, [1, 7, 50]),
   (.frame [exLine SL_VBI625 10] 0xFFFFFFFF (some exRaw) (some exSp) 8, [3]),
   (.frame exFrame 0xFFFFFFFF (some exRaw) (some { exSp with offset := 131 }) 9, [100]),
   (.dataId 0x10, []),
   (.frame exFrame 0xFFFFFFFF (some exRaw) (some exSp) 10, [188, 5])]
example : ∀ op ∈ exHist, CorOpROK op := by
  have wf : ∀ id line : Nat, id < 2 ^ 32 → line < 2 ^ 32 → Sliced.WF (exLine id line) := fun id line hi hl =>
    ⟨hi, hl, by simp [exLine], by intro b hb; have := (List.mem_replicate.mp hb).2; omega⟩
  have fwf : ∀ s ∈ exFrame, Sliced.WF s := by
    intro s hs
    simp only [exFrame, List.mem_cons, List.not_mem_nil, or_false] at hs
    rcases hs with rfl | rfl | rfl <;> exact wf _ _ (by decide) (by decide)
  intro op hop
  simp only [exHist, List.mem_cons, List.not_mem_nil, or_false] at hop
  rcases hop with rfl | rfl | rfl | rfl | rfl
  · exact ⟨by decide, fwf, by decide, by decide⟩
  · exact ⟨by decide, by intro s hs; rw [List.mem_singleton] at hs; subst hs; exact wf _ _ (by decide) (by decide),
      by decide, by decide⟩
  · exact ⟨by decide, fwf, by decide, by decide⟩
  · trivial
  · exact ⟨by decide, fwf, by decide, by decide⟩
example : (corRunR true 66928 exTs exHist).2 = (runR true exTs (exHist.map Prod.fst)).2
    ∧ (runR true exTs (exHist.map Prod.fst)).2.length = 3 * 188 + 3 * 188 := by decide +kernel

end Zvbi.Props.C06CorRawHist
