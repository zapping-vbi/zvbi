import ZvbiModel.Props.C10Hi
import ZvbiModel.Cache.MaxStat
import ZvbiModel.Cache.LemmasDel
/-!
# C10: the page statistics (`struct ttx_page_stat`) and the size rule, over all histories

`n_subpages` is in `Inv` (Props/C10.lean, modulo 65536).  Here: `max_subpages` is a high-water mark of the number of
allocated versions of the page number (both source shapes, every history, deletes / replaces / recycling / statistics
resets included, through the wrap of the `uint16_t` counter), the recorded range is ordered whenever a version is
allocated, and the size rule `cache_page_size` that `cache_page_copy`, the struct-reuse branch of the store and the
memory accounting share stays inside `sizeof (cache_page)` for every page function.
-/
namespace Zvbi.Props.C10Stat
open Zvbi.Cache Zvbi.Gen.Cache Zvbi.Props.C10Evict Zvbi.Props.C10Hi

/-- `max_subpages` is a high-water mark: after ANY history (either source shape) and for every network and page number,
    `min (number of allocated versions of the page number) 65535 <= max_subpages`. -/
theorem max_subpages_highwater (fix : Bool) (ops : List Op) :
    ∀ n ∈ (runF fix init ops).nets, ∀ pg,
      min ((runF fix init ops).pages.countP (fun p => p.net = n.id ∧ p.pgno = pg)) 65535 ≤ (n.getStat pg).maxSub :=
  MaxStat.max_runF fix ops good_init MaxStat.max_init

/-- ... hence `n_subpages <= max_subpages` always - also right after the counter wrapped -/
theorem nsub_le_max_subpages (fix : Bool) (ops : List Op) :
    ∀ n ∈ (runF fix init ops).nets, ∀ pg, (n.getStat pg).nSub ≤ (n.getStat pg).maxSub := by
  intro n hn pg
  have h1 := max_subpages_highwater fix ops n hn pg
  have h2 := (good_reach fix ops).1.nSub n hn pg
  rw [h2]
  generalize (runF fix init ops).pages.countP (fun p => decide (p.net = n.id ∧ p.pgno = pg)) = c at h1 ⊢
  rw [Nat.min_def] at h1
  split at h1
  · have : c % 65536 = c := Nat.mod_eq_of_lt (by omega)
    omega
  · have : c % 65536 < 65536 := Nat.mod_lt _ (by decide)
    omega

/-- three versions of 0x101 cached, two replaced and released: the counter is back at 1, the high-water mark stays 3 -/
example : (runF true init [.addNet, .put 0 ⟨0x101, 1, 0, 0, 0, 1⟩, .put 0 ⟨0x101, 2, 0, 0, 0, 2⟩, .put 0 ⟨0x101, 3, 0, 0, 0, 3⟩,
      .unref 0, .unref 1, .unref 2, .put 0 ⟨0x101, 0x100, 0, 0, 0, 4⟩]).nets.map
    (fun n => ((n.getStat 0x101).nSub, (n.getStat 0x101).maxSub)) = [(1, 3)] := by decide

/-- The recorded range is ordered wherever it means something: repaired shape, client within `RefBound`, a version of
    the page number allocated => `subno_min <= subno_max` (so the page walk of C17 sees a non-empty interval). -/
theorem range_ordered_refbound (ops : List Op) (h1 : ∀ op ∈ ops, SubOk op)
    (h2 : ∀ k, 1 ≤ k → k ≤ ops.length → RefBound (runF true init (ops.take k)))
    (n : Net) (p : Page) (hn : n ∈ (runF true init ops).nets) (hp : p ∈ (runF true init ops).pages) (hnet : p.net = n.id) :
    (n.getStat p.pgno).subMin ≤ (n.getStat p.pgno).subMax := by
  have := hi_subno_agrees_refbound ops h1 h2 n p hn hp hnet
  omega

/-- **Size rule** (`cache_page_size`, used by `cache_page_copy`'s `memcpy`, by the struct-reuse branch of the store and by
    the memory accounting): for EVERY page function and designation sets the size is more than the header and at most
    `sizeof (cache_page)` - a copy into a full `cache_page` never overruns, whatever the function field says.  The sizes
    are the ones the translator reads from the compiled structs. -/
theorem page_size_bounds (func : Int) (x26 x28 : Nat) : hdrSize < pageSize func x26 x28 ∧ pageSize func x26 x28 ≤ fullSize := by
  have b := pageSize_bounds func x26 x28
  exact ⟨Nat.lt_of_lt_of_le (by decide) b.1, b.2⟩

/-- the size depends on the class of the page function only (the `switch` of `cache_page_size`) -/
theorem page_size_classes :
    pageSize fnLop 0 0 = hdrSize + lopSize ∧ pageSize fnUnknown 0 0 = hdrSize + lopSize
    ∧ (∀ x28, x28 &&& 0x13 ≠ 0 → ∀ x26, pageSize fnLop x26 x28 = hdrSize + extLopSize)
    ∧ pageSize fnPop 0 0 = hdrSize + popSize ∧ pageSize fnGpop 0 0 = hdrSize + popSize
    ∧ pageSize fnDrcs 0 0 = hdrSize + drcsSize ∧ pageSize fnGdrcs 0 0 = hdrSize + drcsSize
    ∧ pageSize fnAit 0 0 = hdrSize + aitSize ∧ pageSize 1 0 0 = fullSize := by
  refine ⟨by decide, by decide, ?_, by decide, by decide, by decide, by decide, by decide, by decide⟩
  intro x28 h x26
  unfold pageSize
  rw [if_pos (Or.inr rfl), if_pos h]

/-- **`vbi_cache_set_memory_limit`** (body as compiled for 0.3; 0.2 keeps the constant): after the call, from any
    reachable state and for any new limit, the limit is the new one, `memory_used` is within it, every page with
    `ref > 0` is still allocated with its content (referenced pages are never evicted), networks are untouched, and
    with a limit that is not below `memory_used` nothing is evicted at all. -/
theorem set_memory_limit_enforced (fix : Bool) (ops : List Op) (n : Nat) :
    let s := runF fix init ops
    let s' := (stepF fix s (.setLimit n)).1
    s'.memLimit = n ∧ s'.memUsed ≤ n
    ∧ (∀ p ∈ s.pages, 0 < p.ref → ∃ q ∈ s'.pages, q.id = p.id ∧ q.tag = p.tag ∧ q.ref = p.ref)
    ∧ s'.nets.map (·.id) = s.nets.map (·.id)
    ∧ (s.memUsed ≤ n → s'.pages = s.pages) := by
  intro s s'
  have g := good_reach fix ops
  have hs' : s' = ({ s with memLimit := n } : State).deleteSurplusPages := rfl
  have hw := invW_memLimit g.1 n
  have m := deleteSurplusPages_moves ({ s with memLimit := n } : State)
  have le := deleteSurplusPages_le hw
  rw [hs']
  refine ⟨m.frame.limit, by rw [m.frame.limit] at le; exact le, ?_, ?_, ?_⟩
  · intro p hp hr
    obtain ⟨q, hq, b⟩ := (m.mono (by decide)).held hw p hp hr
    exact ⟨q, hq, b.cont.id.symm, b.cont.tag.symm, b.ref.symm⟩
  · have := congrArg (List.map (fun k : Nat × Nat × Nat × Bool => k.1)) (m.key (by decide))
    simpa [List.map_map, netKey, Function.comp_def] using this
  · intro hle
    have := deleteSurplusPages_within ({ s with memLimit := n } : State) hle
    rw [this]

/-- a limit of one plain page: the unreferenced page goes, the held one stays; a generous limit evicts nothing -/
example : ((stepF true (runF true init [.addNet, .put 0 ⟨0x101, 0, 0, 0, 0, 1⟩, .put 0 ⟨0x102, 0, 0, 0, 0, 2⟩, .unref 0,
      .put 0 ⟨0x103, 0, 0, 0, 0, 3⟩, .unref 2]) (.setLimit 1564)).1.pages.map (·.pgno) = [0x103, 0x102])
    ∧ ((stepF true (runF true init [.addNet, .put 0 ⟨0x101, 0, 0, 0, 0, 1⟩, .put 0 ⟨0x102, 0, 0, 0, 0, 2⟩, .unref 0,
      .put 0 ⟨0x103, 0, 0, 0, 0, 3⟩, .unref 2]) (.setLimit 4000)).1.pages.map (·.pgno) = [0x103, 0x102, 0x101]) := by
  constructor <;> decide

end Zvbi.Props.C10Stat
