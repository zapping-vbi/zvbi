import ZvbiModel.Cc.Proj
import ZvbiModel.Props.C08Paint
/-!
# C08, continued - the two fields at trace level (`fields_independent_full`)

Property theorems only; lemmas are in `Cc/Proj.lean` (relation `Agree f`, own-field congruence, other-field frame)
and `Cc/Decoder.lean` (`decodePair_prog`: a pair runs a list of elementary steps of its own field; `decodePair_apart`).  All statements are about the tree with one current channel per field
(`currChanPerField = true`, extracted from cc.h / caption.c by translate/gen_cc.py on every run; with the shared
selector the statement is false: `C08Paint.fields_independent_counterexample`, finding F44).

What field `f` OWNS in the decoder state: its selector `curr_chan[f]`, its four channels - CC1 CC2 T1 T2 (indices
0 1 4 5) resp. CC3 CC4 T3 T4 (2 3 6 7), each with both memories, cursor, window, mode, pen, dirty region, event
counter and recorded error -, for field 1 the repetition latch `last[]`, for field 2 the XDS gate `cc->xds`
(the only trace `xds_separator` leaves in the caption decoder; `itv_separator` leaves none).
-/
namespace Zvbi.Props.C08Fields
open Zvbi.Cc Zvbi.Gen.Cc

/-- **own_field_congruence** (`fields_independent_partial` is about the other field; this is about the pair's own).  The effect of a byte pair of field `f`
on what field `f` owns is a function of what field `f` owns: if two decoder states agree on the selector of `f`, on its
four channels and on `last[]` (f = field 1) resp. the XDS gate (f = field 2), then after the same pair - ANY bytes, any
parity - they still agree on all of these.  Nothing of the other field is read. -/
theorem own_field_congruence (hpf : currChanPerField = true) (f : Bool) (s t : St) (b0 b1 : Nat)
    (hcur : s.curr f = t.curr f)
    (hlast : f = false → s.last0 = t.last0 ∧ s.last1 = t.last1)
    (hxds : f = true → s.xds = t.xds)
    (hch : ∀ i, i < 8 → (((i >>> 1) &&& 1 == 1) = f) → s.chans[i]? = t.chans[i]?) :
    (decodePair s f b0 b1).curr f = (decodePair t f b0 b1).curr f ∧
    (f = false → (decodePair s f b0 b1).last0 = (decodePair t f b0 b1).last0 ∧
                 (decodePair s f b0 b1).last1 = (decodePair t f b0 b1).last1) ∧
    (f = true → (decodePair s f b0 b1).xds = (decodePair t f b0 b1).xds) ∧
    (∀ i, i < 8 → (((i >>> 1) &&& 1 == 1) = f) → (decodePair s f b0 b1).chans[i]? = (decodePair t f b0 b1).chans[i]?) := by
  have A : Agree f s t := ⟨hcur, hlast, hxds, fun i hi => hch i hi.1 hi.2⟩
  have B := decodePair_agree hpf A b0 b1
  exact ⟨B.cur, B.last, B.xds, fun i h1 h2 => B.chs i ⟨h1, h2⟩⟩

/-- two states that differ in everything field 2 owns and agree on field 1: same result on field 1 (here CC1's channel) -/
example (hpf : currChanPerField = true) :
    (decodePair init false 0x94 0x25).chans[0]? =
    (decodePair (decodePair { init with xds := true } true 0x1C 0x25) false 0x94 0x25).chans[0]? := by
  have A1 : Agree false (decodePair { init with xds := true } true 0x1C 0x25) { init with xds := true } :=
    decodePair_other_agree hpf { init with xds := true } false 0x1C 0x25
  have A2 : Agree false { init with xds := true } init :=
    ⟨rfl, fun _ => ⟨rfl, rfl⟩, fun h => absurd h (by decide), fun _ _ => rfl⟩
  have A : Agree false init (decodePair { init with xds := true } true 0x1C 0x25) := (A1.trans A2).symm
  exact (decodePair_agree hpf A 0x94 0x25).chs 0 (by decide)

/-- **fields_independent_trace** (projection theorem).  For EVERY history `ops` - byte pairs of both fields with any
bytes, page fetches, channel switches, in any interleaving - everything field `f` owns after the whole history equals
what it is after the sub-history `ops.filter (opOfField f)`: the pairs of field `f`, the fetches of ITS pages
(1 2 5 6 resp. 3 4 7 8) and the channel switches, run on a fresh decoder.  So the memories, cursors, modes, pens,
dirty regions and EVENT COUNTS of CC1 CC2 T1 T2 are a function of the line-21 pair sequence alone, those of
CC3 CC4 T3 T4 and the XDS gate a function of the line-284 sequence alone. -/
theorem fields_independent_trace (hpf : currChanPerField = true) (f : Bool) (ops : List Op) :
    (run ops).curr f = (run (ops.filter (opOfField f))).curr f ∧
    (f = false → (run ops).last0 = (run (ops.filter (opOfField f))).last0 ∧
                 (run ops).last1 = (run (ops.filter (opOfField f))).last1) ∧
    (f = true → (run ops).xds = (run (ops.filter (opOfField f))).xds) ∧
    (∀ i, i < 8 → (((i >>> 1) &&& 1 == 1) = f) → (run ops).chans[i]? = (run (ops.filter (opOfField f))).chans[i]?) := by
  have B := run_proj hpf f ops init init (Agree.refl f init)
  exact ⟨B.cur, B.last, B.xds, fun i h1 h2 => B.chs i ⟨h1, h2⟩⟩

/-- what the projection keeps of a mixed history for field 1: its pairs, the fetch of page 1, the channel switch -/
example : [Op.pair false 0x94 0x25, .pair true 0x1C 0x25, .fetch 3, .pair true 0xC1 0xC2, .fetch 1, .chsw,
           .pair false 0xC1 0xC2].filter (opOfField false) =
          [Op.pair false 0x94 0x25, .fetch 1, .chsw, .pair false 0xC1 0xC2] := by rfl

/-- **fields_independent_full** - the statement `C08Paint.fields_independent_full` (for every
sequence of byte pairs, each channel of field `f` is what the pairs of field `f` alone produce) holds on the tree with
the per-field selector. -/
theorem fields_independent_full (hpf : currChanPerField = true) : C08Paint.fields_independent_full := by
  intro ps f i hi hb
  unfold runPairs
  rw [← filter_pairs]
  exact (fields_independent_trace hpf f _).2.2.2 i hi hb

/-- **fields_independent_fetch**: what a client SEES of field `f`.  The page `vbi_fetch_cc_page` returns for a page
number of field `f` after any history is the page it returns after field `f`'s sub-history; since the statement holds
for every `ops`, it holds at every point of the history where the client fetches. -/
theorem fields_independent_fetch (hpf : currChanPerField = true) (f : Bool) (ops : List Op) (n : Int)
    (hn : pageOfField f n = true) :
    fetchPage (run ops) n = fetchPage (run (ops.filter (opOfField f))) n :=
  fetchPage_agree (run_proj hpf f ops init init (Agree.refl f init)) n hn

example : pageOfField false 1 = true ∧ pageOfField false 6 = true ∧ pageOfField true 3 = true ∧
    pageOfField true 8 = true ∧ pageOfField true 1 = false ∧ pageOfField false 9 = false := by decide

/-- **interleaving_irrelevant**: two histories that contain the same field-`f` stream (however the other field's pairs,
fetches of the other field's pages are interleaved, added or removed) leave field `f` in the same state and show the
same pages. -/
theorem interleaving_irrelevant (hpf : currChanPerField = true) (f : Bool) (ops1 ops2 : List Op)
    (h : ops1.filter (opOfField f) = ops2.filter (opOfField f)) :
    (run ops1).curr f = (run ops2).curr f ∧
    (∀ i, i < 8 → (((i >>> 1) &&& 1 == 1) = f) → (run ops1).chans[i]? = (run ops2).chans[i]?) ∧
    (∀ n, pageOfField f n = true → fetchPage (run ops1) n = fetchPage (run ops2) n) := by
  have B1 := run_proj hpf f ops1 init init (Agree.refl f init)
  have B2 := run_proj hpf f ops2 init init (Agree.refl f init)
  rw [h] at B1
  have B := B1.trans B2.symm
  exact ⟨B.cur, fun i h1 h2 => B.chs i ⟨h1, h2⟩, fun n hn => fetchPage_agree B n hn⟩

example : [Op.pair false 0x94 0x25, .pair true 0x1C 0x25, .pair false 0xC1 0xC2].filter (opOfField false) =
          [Op.pair true 0x80 0x80, .pair false 0x94 0x25, .fetch 7, .pair false 0xC1 0xC2].filter (opOfField false) := by
  rfl

end Zvbi.Props.C08Fields
