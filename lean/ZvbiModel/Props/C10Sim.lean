import ZvbiModel.Props.C10Ttx
import ZvbiModel.Cache.LemmasTeardown
/-!
# C10: the abstract map under `cache_page_unref`, under the memory limit, and look-up order

Property theorems only.  Asked for by Props/C03Join.lean (`ttx_refined_by_cache_full`: the decoder releases every page
right after use, so the mirrored cache.c history interleaves `unref`s; `C10Ttx.Sim` must survive them) and by seed C10-f
(a page found by an exact look-up must be what the next wildcard look-up returns).

* `unref_keeps_store` / `sim_unref`: the release of a page reference leaves the retrievable versions - content and
  most-recently-used order - alone when the network of the page is not a zombie and the page fits the memory limit once
  it is unreferenced (`memory_used + size <= memory_limit`; always so in libzvbi 0.2, `C10.limit_unreachable_0_2`).
* `no_eviction_within_limit` / `sim_evict_within`: in every reachable state `memory_used <= memory_limit`, hence the
  eviction entry points (`delete_surplus_pages`, the check at the end of `cache_page_unref`) are the identity there:
  eviction under the memory limit keeps `Sim` because it evicts nothing.
* `sim_unref_last`: the same with the hypotheses only for the last reference; `sim_ptype` (a page-type write does not touch
  the pages); `sim_chsw` (the network `vbi_chsw_reset` hands out simulates the empty list): with `C10Ttx.sim_get` /
  `sim_put` these cover every call `mirrorOp` of Props/C03Join.lean makes.
* `sim_get_unref`: look-up + release of the page found keeps `Sim` from every reachable state with NO side condition.
* `sim_put_unref`: store + release of the page stored keeps `Sim` with room for one full page struct, given that no
  network is a zombie after the store (hypothesis; see NOTES/C10.md).
* `wildcard_after_lookup`: whatever position of its hash chain a look-up found a page at, the next wildcard look-up
  (`VBI_ANY_SUBNO`) of that page number in that network returns it.

All for both source shapes of `_vbi_cache_put_page` (`fix`) and every history.
-/
namespace Zvbi.Props.C10Sim
open Zvbi.Cache Zvbi.Gen.Cache Zvbi.Props.C10Ttx

/-- `cache_page_unref` after any history: if the network of the page is not a zombie and the page fits the memory limit
    once it counts as unreferenced, the retrievable versions (the abstract map, with its most-recently-used order) are
    exactly what they were - whether a further reference stays, the page moves to the priority list, or it was a
    replaced version (zombie) and is freed. -/
theorem unref_keeps_store (fix : Bool) (ops : List Op) (pid : Nat)
    (hz : ∀ p, (runF fix init ops).findPage pid = some p → ∀ n ∈ (runF fix init ops).nets, n.id = p.net → n.zombie = false)
    (hroom : ∀ p, (runF fix init ops).findPage pid = some p →
      (runF fix init ops).memUsed + p.size ≤ (runF fix init ops).memLimit) :
    (stepF fix (runF fix init ops) (.unref pid)).1.abs = (runF fix init ops).abs := by
  rw [stepF_unref]
  exact pageUnref_abs_keep (good_reach fix ops).1 pid hz hroom

/-- non-vacuity: store, release; the version is still retrievable (and the hypotheses hold: live network, 1 GiB limit) -/
example : ((runF true init [.addNet, .put 0 ⟨0x100, 0, 0, 0, 0, 7⟩, .unref 0]).abs.map fun e => (e.net, e.pgno, e.subno, e.tag))
      = [(0, 0x100, 0, 7)]
    ∧ ((runF true init [.addNet, .put 0 ⟨0x100, 0, 0, 0, 0, 7⟩]).nets.map (·.zombie)) = [false] := by
  decide +kernel

/-- `Sim` (the decoder model's page list = the retrievable versions of its network, Props/C10Ttx.lean) survives the
    release of a page reference (what `ttx_refined_by_cache_full` of Props/C03Join.lean needs from the cache side for the
    `cache_page_unref` the decoder issues after every look-up and store). -/
theorem sim_unref (fix : Bool) (ops : List Op) (nid : Nat) (enc : Zvbi.Ttx.Page → Nat) (c : List Zvbi.Ttx.Page)
    (hsim : Sim nid enc c (runF fix init ops)) (pid : Nat)
    (hz : ∀ p, (runF fix init ops).findPage pid = some p → ∀ n ∈ (runF fix init ops).nets, n.id = p.net → n.zombie = false)
    (hroom : ∀ p, (runF fix init ops).findPage pid = some p →
      (runF fix init ops).memUsed + p.size ≤ (runF fix init ops).memLimit) :
    Sim nid enc c (stepF fix (runF fix init ops) (.unref pid)).1 := by
  unfold Sim at hsim ⊢
  rw [unref_keeps_store fix ops pid hz hroom]
  exact hsim

example (fix : Bool) : Sim 0 (fun _ => 0) [] (stepF fix (runF fix init [.addNet]) (.unref 5)).1 := by
  unfold Sim; rfl

/-- Between two calls the cache is never over its limit (`Inv.memLe`), so both eviction entry points - the check at the end
    of `cache_page_unref` and `delete_surplus_pages` itself - are the identity on every reachable state: eviction under the
    memory limit evicts nothing (eviction happens only INSIDE a store / a release / a lowered limit that went over). -/
theorem no_eviction_within_limit (fix : Bool) (ops : List Op) :
    (runF fix init ops).memCheck = runF fix init ops ∧ (runF fix init ops).deleteSurplusPages = runF fix init ops :=
  ⟨memCheck_within (good_reach fix ops).2.2, deleteSurplusPages_within _ (good_reach fix ops).2.2⟩

/-- ... hence `Sim` survives them -/
theorem sim_evict_within (fix : Bool) (ops : List Op) (nid : Nat) (enc : Zvbi.Ttx.Page → Nat) (c : List Zvbi.Ttx.Page)
    (hsim : Sim nid enc c (runF fix init ops)) :
    Sim nid enc c (runF fix init ops).memCheck ∧ Sim nid enc c (runF fix init ops).deleteSurplusPages := by
  rw [(no_eviction_within_limit fix ops).1, (no_eviction_within_limit fix ops).2]
  exact ⟨hsim, hsim⟩

example (fix : Bool) : Sim 0 (fun _ => 0) [] (runF fix init [.addNet]).deleteSurplusPages :=
  (sim_evict_within fix [.addNet] 0 (fun _ => 0) [] (by unfold Sim; rfl)).2

/-- **Look-up order** (seed C10-f): a page returned by `_vbi_cache_get_page` - under any sub-page number and mask, found
    at any position of its hash chain - is the page the next wildcard look-up (`VBI_ANY_SUBNO`) of that page number in
    that network returns: `page_by_pgno` relinks what it finds to the head of the chain unconditionally. -/
theorem wildcard_after_lookup (fix : Bool) (ops : List Op) (nid pgno subno mask : Nat) (hv : validPgno pgno = true)
    (p : Page) (hget : ((runF fix init ops).getPage nid pgno subno mask).2 = some p) :
    ((((runF fix init ops).getPage nid pgno subno mask).1.getPage nid pgno anySubno 0).2.map Page.entry) = some p.entry := by
  have g := good_reach fix ops
  obtain ⟨g1, g2⟩ := getPage_abs g.1 nid pgno subno mask hv
  have g' := good_getPage g nid pgno subno mask
  obtain ⟨k1, _⟩ := getPage_abs g'.1 nid pgno anySubno 0 hv
  rw [k1, g2, if_pos rfl]
  rw [hget] at g1
  exact alookup_atouch_any g1.symm anySubno

/-- non-vacuity, the situation of the seed: 101.1 and 101.2 stored, 101.1 (second in its chain) looked up exactly, the
    wildcard look-up then returns 101.1 -/
example :
    let s := runF true init [.addNet, .put 0 ⟨0x101, 1, 0, 0, 0, 1⟩, .unref 0, .put 0 ⟨0x101, 2, 0, 0, 0, 2⟩, .unref 1]
    ((s.getPage 0 0x101 1 0xFF).2.map (·.subno)) = some 1
    ∧ (((s.getPage 0 0x101 1 0xFF).1.getPage 0 0x101 anySubno 0).2.map (·.subno)) = some 1
    ∧ ((s.getPage 0 0x101 anySubno 0).2.map (·.subno)) = some 2 := by
  decide +kernel

/-- `sim_unref` with the hypotheses only where `cache_page_unref` reads them: nothing is asked when a further reference
    stays (`ref_count > 1`); for the LAST reference the network must not be a zombie, and a page that stays cached must
    fit the limit (a replaced version - zombie - is freed and needs no room). -/
theorem sim_unref_last (fix : Bool) (ops : List Op) (nid : Nat) (enc : Zvbi.Ttx.Page → Nat) (c : List Zvbi.Ttx.Page)
    (hsim : Sim nid enc c (runF fix init ops)) (pid : Nat)
    (hz : ∀ p, (runF fix init ops).findPage pid = some p → p.ref = 1 →
      ∀ n ∈ (runF fix init ops).nets, n.id = p.net → n.zombie = false)
    (hroom : ∀ p, (runF fix init ops).findPage pid = some p → p.ref = 1 → p.pri ≠ .zombie →
      (runF fix init ops).memUsed + p.size ≤ (runF fix init ops).memLimit) :
    Sim nid enc c (stepF fix (runF fix init ops) (.unref pid)).1 := by
  have g := good_reach fix ops
  unfold Sim at hsim ⊢
  rw [stepF_unref, pageUnref_abs_keep_last g.1 g.2.2 pid hz hroom]
  exact hsim

/-- non-vacuity: a page looked up twice; the release of one of the two references asks for nothing -/
example : ((runF true init [.addNet, .put 0 ⟨0x100, 0, 0, 0, 0, 7⟩, .get 0 0x100 0 0xFF]).pages.map (·.ref)) = [2] := by
  decide +kernel

/-- the decoder writing a page type into the statistics (`cn->_pages[].page_type`; `.ptype`, issued by `mirrorOp` of
    Props/C03Join.lean before each store) does not touch the pages: `Sim` survives. -/
theorem sim_ptype (fix : Bool) (ops : List Op) (nid : Nat) (enc : Zvbi.Ttx.Page → Nat) (c : List Zvbi.Ttx.Page)
    (hsim : Sim nid enc c (runF fix init ops)) (nid' pgno t : Nat) :
    Sim nid enc c (stepF fix (runF fix init ops) (.ptype nid' pgno t)).1 := by
  unfold Sim at hsim ⊢
  rw [ptype_abs]
  exact hsim

example (fix : Bool) : Sim 0 (fun _ => 0) [] (stepF fix (runF fix init [.addNet]) (.ptype 0 0x100 1)).1 :=
  sim_ptype fix [.addNet] 0 (fun _ => 0) [] (by unfold Sim; rfl) 0 0x100 1

/-- `vbi_chsw_reset`: the network handed out simulates the EMPTY decoder list (the decoder model's `.clear`), whatever the
    cache held before - `chsw_unreachable` in the form the joint refinement needs. -/
theorem sim_chsw (fix : Bool) (ops : List Op) (nid : Nat) (cn : Net) (hf : (runF fix init ops).findNet nid = some cn)
    (nid' : Nat) (hout : (stepF fix (runF fix init ops) (.chsw nid)).2 = .net nid') (enc : Zvbi.Ttx.Page → Nat) :
    Sim nid' enc [] (stepF fix (runF fix init ops) (.chsw nid)).1 := by
  have h : ∀ q ∈ (stepF fix (runF fix init ops) (.chsw nid)).1.pages, q.net ≠ nid' :=
    chsw_empty (good_reach fix ops) nid cn hf nid' hout
  unfold Sim
  rw [abs_filter_empty h]
  rfl

/-- non-vacuity: a stored page still held by a client, channel switch: a new network (id 1) is handed out and simulates
    the empty list while the old page is still allocated -/
example : (stepF true (runF true init [.addNet, .put 0 ⟨0x100, 0, 0, 0, 0, 7⟩]) (.chsw 0)).2 = .net 1
    ∧ (stepF true (runF true init [.addNet, .put 0 ⟨0x100, 0, 0, 0, 0, 7⟩]) (.chsw 0)).1.pages.length = 1 := by
  decide +kernel

/-- **The decoder's look-up pattern, no side condition**: `_vbi_cache_get_page` followed by `cache_page_unref` of the page
    returned (what `vbi_is_cached`, the page fetch and `mirrorOp .get` of Props/C03Join.lean do) keeps `Sim`, from every
    reachable state, for every key and mask: the reference taken by the look-up un-zombies the network and the page needs,
    when it is unreferenced again, exactly the room it gave up when it was referenced. -/
theorem sim_get_unref (fix : Bool) (ops : List Op) (nid : Nat) (enc : Zvbi.Ttx.Page → Nat) (c : List Zvbi.Ttx.Page)
    (hsim : Sim nid enc c (runF fix init ops)) (pgno subno mask : Nat) (hv : validPgno pgno = true) :
    Sim nid enc (match Zvbi.Ttx.cacheGet c pgno subno mask with | some r => r.2 | none => c)
      (match (runF fix init ops).getPage nid pgno subno mask with
       | (s1, some q) => s1.pageUnref q.id
       | (s1, none) => s1) := by
  have hs := (sim_get fix ops nid enc c hsim pgno subno mask hv).2
  have hg := getPage_unref_abs (good_reach fix ops) nid pgno subno mask
  generalize (runF fix init ops).getPage nid pgno subno mask = r at hs hg
  obtain ⟨s1, o⟩ := r
  cases o with
  | none => exact hs
  | some q =>
    have := hg q rfl
    unfold Sim at hs ⊢
    simp only at this hs ⊢
    rw [this]
    exact hs

/-- non-vacuity: look-up of a stored page and release: still retrievable, `memory_used` back to the size of the page -/
example :
    let s := runF true init [.addNet, .put 0 ⟨0x100, 0, 0, 0, 0, 7⟩, .unref 0]
    (match s.getPage 0 0x100 0 0xFF with
     | (s1, some q) => ((s1.pageUnref q.id).abs.map (·.tag), (s1.pageUnref q.id).memUsed == s.memUsed, s1.memUsed)
     | (s1, none) => ([], false, 1)) = ([7], true, 0) := by
  decide +kernel

/-- **The decoder's store pattern**: `_vbi_cache_put_page` followed by `cache_page_unref` of the page returned (`mirrorOp .put`
    of Props/C03Join.lean).  Under the hypotheses of `sim_put` with room for one full `cache_page` struct (so the stored page
    fits again when it is unreferenced; `memory_used` does not grow in a store, `putPageF_mem`), `Sim` holds after the
    release provided no network is a zombie after the store (`hlive`, a hypothesis about the state after the store; a store
    never sets the flag, see NOTES/C10.md). -/
theorem sim_put_unref (fix : Bool) (ops : List Op) (nid : Nat) (enc : Zvbi.Ttx.Page → Nat) (c : List Zvbi.Ttx.Page)
    (hsim : Sim nid enc c (runF fix init ops)) (cn : Net) (hf : (runF fix init ops).findNet nid = some cn)
    (p : Zvbi.Ttx.Page) (hrange : 0x100 ≤ p.pgno ∧ p.pgno ≤ 0x8FF)
    (a : PutArg) (ha : a = ⟨p.pgno, p.subno, p.function, p.x26, p.x28, enc (tstored (cn.getStat p.pgno).ptype p)⟩)
    (hroom : (runF fix init ops).memUsed + fullSize ≤ (runF fix init ops).memLimit)
    (c' : List Zvbi.Ttx.Page) (hc : Zvbi.Ttx.cachePutF fix c (cn.getStat p.pgno).ptype p = some c')
    (s' : State) (q : Page) (hres : (runF fix init ops).putPageF fix nid a = .ok (s', some q))
    (hlive : ∀ n ∈ s'.nets, n.zombie = false) :
    Sim nid enc c' (s'.pageUnref q.id) := by
  have hsz := pageSize_le
  have g := good_reach fix ops
  have hroom1 : (runF fix init ops).memUsed + pageSize a.func a.x26 a.x28 ≤ (runF fix init ops).memLimit := by
    have := hsz a.func a.x26 a.x28; omega
  have hs := (sim_put fix ops nid enc c hsim cn hf p hrange a ha hroom1 c' hc s' (some q) hres).2
  have h' := (good_putPageF fix g nid a hres).1
  obtain ⟨hmu, hml⟩ := putPageF_mem fix g.1 nid a hres
  have hm' : s'.memUsed ≤ s'.memLimit := by rw [hml]; omega
  unfold Sim at hs ⊢
  rw [pageUnref_abs_keep_last h' hm' q.id (fun _ _ _ n hn _ => hlive n hn)
    (fun r _ _ _ => by
      have := hsz r.func r.x26 r.x28
      show s'.memUsed + pageSize r.func r.x26 r.x28 ≤ s'.memLimit
      rw [hml]; omega)]
  exact hs

/-- non-vacuity: a store into a fresh network: no zombie network afterwards, the page handed out has one reference -/
example : (match (runF true init [.addNet]).putPageF true 0 ⟨0x100, 0, 0, 0, 0, 7⟩ with
    | .ok (s', some q) => (s'.nets.map (·.zombie), q.ref, (s'.pageUnref q.id).abs.map (·.tag))
    | _ => ([], 0, [])) = ([false], 1, [7]) := by
  decide +kernel

end Zvbi.Props.C10Sim
