import ZvbiModel.Cache.HiSub
import ZvbiModel.Cache.UniqueKey
import ZvbiModel.Cache.LemmasLive
import ZvbiModel.Cache.LemmasWitness
import ZvbiModel.Cache.LemmasAbs
/-!
# C10: eviction / limits, 'highest subpage', the repaired source shape

The theorems of the sections 'eviction' .. 'highest subpage' hold for both source shapes of `_vbi_cache_put_page` (`fix`, see
Props/C10.lean), the last section is about the repaired shape only; all of them for histories with
ANY memory limit (`Op.setLimit`, the body of `vbi_cache_set_memory_limit`; the harness pokes the field) - `Inv` contains
`memory_used <= memory_limit`, so `inv_reachable` already says that the limit holds after every operation, also while
pages are referenced (referenced pages do not count, exactly as cache.c defines it).  The network limit is the
constant 1 of libzvbi 0.2 (`vbi_cache_set_network_limit` is compiled for 0.3 only); the statements are about
`nNetsLimit`, whatever it is.
-/
namespace Zvbi.Props.C10Evict
open Zvbi.Cache Zvbi.Gen.Cache

/-! ## eviction -/

/-- Eviction respects references (seeds C10-b, C10-d).  Through ANY operation - stores that evict under memory pressure,
    a lowered memory limit, network add / recycle, channel switch, purge -
    (1) a page with `ref > 0` is still allocated, same content (unless the operation is the release of its last reference),
    (2) the network of such a page is still on the network list,
    (3) the network handed out by `_vbi_cache_add_network (ca, NULL)` (also inside a channel switch) is either new or was a
        network with no network reference and no referenced page: `recycle_network` never takes a network that is in use
        in any way. -/
theorem evict_respects_references (fix : Bool) (ops : List Op) (op : Op) :
    let s := runF fix init ops
    (∀ p ∈ s.pages, 0 < p.ref → ¬ (op = .unref p.id ∧ p.ref = 1) →
      ∃ q ∈ (stepF fix s op).1.pages, q.id = p.id ∧ q.net = p.net ∧ q.pgno = p.pgno ∧ q.subno = p.subno ∧ q.tag = p.tag
        ∧ ∃ n' ∈ (stepF fix s op).1.nets, n'.id = p.net)
    ∧ (∀ n ∈ s.nets, n.id = s.addNetwork.2 → n.ref = 0 ∧ n.nRef = 0 ∧ ∀ p ∈ s.pages, p.net = n.id → p.ref = 0) := by
  intro s
  have g := good_reach fix ops
  refine ⟨fun p hp hr hno => ?_, fun n hn e => ?_⟩
  · rcases held_full_stepF fix g op p hp hr with h | ⟨q, hq, c, _⟩
    · exact absurd h hno
    · obtain ⟨e1, e2, e3, e4, _, _, _, e8⟩ := c
      obtain ⟨n', hn', en⟩ := (good_stepF fix g op).1.netOf q hq
      exact ⟨q, hq, e1.symm, e2.symm, e3.symm, e4.symm, e8.symm, n', hn', by rw [en, e2]⟩
  · obtain ⟨r0, r1⟩ := addNetwork_id_unreferenced g.1 n hn e
    refine ⟨r0, r1, fun p hp hnet => ?_⟩
    have hc := g.1.nRef n hn
    by_cases hz : p.ref = 0
    · exact hz
    · have : 0 < n.nRef := by
        rw [hc]
        exact List.countP_pos_iff.2 ⟨p, hp, by simp [hnet]; omega⟩
      omega

/-- the channel switch of the decoder: the old network is released, the new one is not a network anybody still uses -/
example : (runF false init [.addNet, .put 0 ⟨0x100, 0, 0, 0, 0, 7⟩, .chsw 0]).nets.map (fun n => (n.id, n.ref, n.nRef))
    = [(1, 1, 0), (0, 0, 1)] := by decide

/-- Bookkeeping is exact after any eviction (seeds C10-a, C10-c): after every history - with any sequence of memory limits -
    the counters of EVERY network (not only the one stored into) equal the number of allocated pages, referenced pages and
    versions per page number (the last modulo 65536, see `nsub_exact_partial`), `memory_used` is the sum of the sizes of the
    unreferenced pages and within the limit, the cache-wide page count is the number of allocated pages. -/
theorem evict_bookkeeping_exact (fix : Bool) (ops : List Op) :
    let s := runF fix init ops
    (∀ n ∈ s.nets, n.nCached = s.pages.countP (fun p => p.net = n.id)
      ∧ n.nRef = s.pages.countP (fun p => p.net = n.id ∧ 0 < p.ref)
      ∧ ∀ pg, (n.getStat pg).nSub = s.pages.countP (fun p => p.net = n.id ∧ p.pgno = pg) % 65536)
    ∧ s.memUsed = ((s.pages.filter (fun p => p.ref = 0)).map Page.size).sum ∧ s.memUsed ≤ s.memLimit
    ∧ s.nCachedPages = s.pages.length ∧ (∀ p ∈ s.pages, ∃ n ∈ s.nets, n.id = p.net) := by
  intro s
  have g := good_reach fix ops
  exact ⟨fun n hn => ⟨g.1.nCached n hn, g.1.nRef n hn, g.1.nSub n hn⟩, g.1.mem, g.2.2, g.1.nPages, g.1.netOf⟩

/-- non-vacuity, the situation of seed C10-c: two held networks, memory limit = one plain page, network 0 stores and
    releases page 0x123, network 1 stores 0x145: the victim is un-counted from ITS OWN network -/
example : (runF false init [.addNet, .addNet, .setLimit 1564, .put 0 ⟨0x123, 0, 0, 0, 0, 1⟩, .unref 0,
      .put 1 ⟨0x145, 0, 0, 0, 0, 2⟩]).nets.map (fun n => (n.id, n.nCached, (n.getStat 0x123).nSub, (n.getStat 0x145).nSub))
    = [(1, 1, 0, 1), (0, 0, 0, 0)] := by decide

/-! ## networks stay until a limit is exceeded -/

/-- Releasing a page reference never removes a network that is not a zombie (seed C10-e): every network that was on the
    list and not marked for deletion is still there afterwards, not marked - whatever its reference counts. -/
theorem network_kept_on_page_release (fix : Bool) (ops : List Op) (pid : Nat) :
    let s := runF fix init ops
    ∀ n ∈ s.nets, n.zombie = false → ∃ n' ∈ (stepF fix s (.unref pid)).1.nets, n'.id = n.id ∧ n'.zombie = false := by
  intro s n hn hz
  have g := good_reach fix ops
  rcases stepF_fst fix s (.unref pid) with e | e <;> rw [e]
  · exact ⟨n, hn, rfl, hz⟩
  · exact pageUnref_liveKept g.1 pid n hn hz

/-- An unreferenced network is kept until the network limit is exceeded: releasing a network reference while
    `n_cached_networks <= n_networks_limit` removes no network that is not a zombie (in particular not the one released). -/
theorem network_kept_until_limit (fix : Bool) (ops : List Op) (nid : Nat)
    (hl : (runF fix init ops).nCachedNets ≤ (runF fix init ops).nNetsLimit) :
    let s := runF fix init ops
    ∀ n ∈ s.nets, n.zombie = false → ∃ n' ∈ (stepF fix s (.netUnref nid)).1.nets, n'.id = n.id ∧ n'.zombie = false := by
  intro s n hn hz
  have g := good_reach fix ops
  rcases stepF_fst fix s (.netUnref nid) with e | e <;> rw [e]
  · exact ⟨n, hn, rfl, hz⟩
  · exact netUnref_liveKept g.1 hl nid n hn hz

/-- the situation of seed C10-e: network reference dropped first, page reference last - network and pages stay -/
example : (runF false init [.addNet, .put 0 ⟨0x100, 0, 0, 0, 0, 7⟩, .put 0 ⟨0x123, 0, 0, 0, 0, 8⟩, .unref 1, .netUnref 0, .unref 0]).nets.map
      (fun n => (n.id, n.zombie, n.nCached)) = [(0, false, 2)] := by decide

/-! ## 'highest subpage' -/

/-- `vbi_cache_hi_subno` agrees with the map: on a history whose states never hold 65536 or more allocated versions of
    one page number (`Tame`: the hypothesis of `nsub_exact_partial`, on every state of the history, plus sub-page numbers of
    at most 16 bits) the recorded range `subno_min .. subno_max` bounds the sub-page number of every allocated version of
    the page - cached ones and replaced ones still held. -/
theorem hi_subno_agrees (fix : Bool) (ops : List Op) (ht : Tame fix init ops) (n : Net) (p : Page)
    (hn : n ∈ (runF fix init ops).nets) (hp : p ∈ (runF fix init ops).pages) (hnet : p.net = n.id) :
    (n.getStat p.pgno).subMin ≤ p.subno ∧ p.subno ≤ (n.getStat p.pgno).subMax :=
  hi_runF fix ops good_init hi_init ht n hn p hp hnet

/-- ... and `hi_subno` itself answers `subno_max` -/
theorem hi_subno_answer (fix : Bool) (s : State) (nid pgno : Nat) (n : Net) (hf : s.findNet nid = some n)
    (hr : 0x100 ≤ pgno ∧ pgno ≤ 0x8FF) : (stepF fix s (.hiSubno nid pgno)).2 = .num (n.getStat pgno).subMax := by
  rw [stepF_hiSubno fix hf hr]

/-- the hypothesis is met by every history that never holds 65536 pages (sub-page numbers of at most 16 bits) -/
theorem hi_subno_agrees_small (fix : Bool) (ops : List Op) (h1 : ∀ op ∈ ops, SubOk op)
    (h2 : ∀ k, k ≤ ops.length → (runF fix init (ops.take k)).pages.length < 65536) : Tame fix init ops :=
  tame_of_small fix ops init h1 h2

/-- it is attained when the code claims so: right after a store that leaves exactly one allocated version of the page
    number, `subno_min = subno_max =` its sub-page number (non-vacuity of `hi_subno_agrees`, both shapes) -/
example : ((runF true init [.addNet, .put 0 ⟨0x101, 2, 0, 0, 0, 7⟩, .put 0 ⟨0x101, 5, 0, 0, 0, 8⟩]).nets.map
      (fun n => ((n.getStat 0x101).subMin, (n.getStat 0x101).subMax))) = [(2, 5)] := by decide

example : Tame true init [.addNet, .put 0 ⟨0x101, 2, 0, 0, 0, 7⟩] := by
  refine tame_of_small true _ init (by
    intro op hop
    simp only [List.mem_cons, List.not_mem_nil, or_false] at hop
    rcases hop with rfl | rfl
    · trivial
    · show (2 : Nat) < 65536; decide) ?_
  intro k hk
  have : k = 0 ∨ k = 1 ∨ k = 2 := by simp at hk; omega
  rcases this with rfl | rfl | rfl <;> decide

/-! ## the repaired source shape (fixes/C10-put-replaces-all-versions.diff) -/

/-- Repaired shape: the cache IS a map.  After any history (any memory limit, eviction, references, channel switches) at
    most one retrievable version exists per (network, page number, key inside the page number), where the key is the low
    byte of the sub-page number for BCD page numbers and the low nibble for hex page numbers (`lowKey`) - in particular per
    (network, pgno, subno): the statement `unique_key_counterexample` refutes for the shape as found. -/
theorem unique_key_repaired (ops : List Op) : ∀ p ∈ (runF true init ops).pages, ∀ q ∈ (runF true init ops).pages,
    p.pri ≠ .zombie → q.pri ≠ .zombie → p.net = q.net → p.pgno = q.pgno →
    lowKey p.pgno p.subno = lowKey q.pgno q.subno → p.id = q.id :=
  ukey_runR ops good_init ukey_init

/-- ... hence per exact key too (the form of `unique_key_counterexample`) -/
theorem unique_subno_repaired (ops : List Op) : ∀ p ∈ (runF true init ops).pages, ∀ q ∈ (runF true init ops).pages,
    p.pri ≠ .zombie → q.pri ≠ .zombie → p.net = q.net → p.pgno = q.pgno → p.subno = q.subno → p.id = q.id :=
  fun p hp q hq hpz hqz hn hg hs => unique_key_repaired ops p hp q hq hpz hqz hn hg (by rw [hg, hs])

/-- Repaired shape: at most 256 retrievable versions of one page number in one network (one per key; the BCD rule of
    `putKey` admits 80 of the keys, the bound cache.c asserts under CACHE_CONSISTENCY).  The count of the shape as found is
    unbounded (`page_bound_counterexample`).  This retires C17-D2 for a decoder that holds no page references: C17's
    hypothesis `NoWrap` (`chain.length < 65536`) is a consequence of the store rule. -/
theorem version_bound_repaired (ops : List Op) (nid pg : Nat) :
    (runF true init ops).pages.countP (fun p => p.net = nid ∧ p.pgno = pg ∧ p.pri ≠ .zombie) ≤ 256 :=
  version_bound_of_ukey (good_reach true ops).1 (unique_key_repaired ops) nid pg

/-- non-vacuity: the F17 replay on both shapes - 3 copies of 0x101.0x102 as found, one version repaired -/
example : ((runF true init (.addNet :: pairOps 3 0)).pages.map (fun p => (p.pgno, p.subno))) = [(0x101, 0x102)]
    ∧ ((runF false init (.addNet :: pairOps 3 0)).pages.map (fun p => (p.pgno, p.subno))) =
      [(0x101, 0x102), (0x101, 0x102), (0x101, 0x102)] := by decide

/-! ## two statements as definitions: one refuted, one proved -/

/-- `hi_subno_agrees` WITHOUT the hypothesis `Tame`.  **FALSE, on both source shapes** (Props/C10Hi.lean
    `hi_subno_agrees_full_counterexample`): `n_subpages` counts the allocated versions - replaced ones still held by a
    client included - so a client holding 65536 references on versions of one page number makes the `uint16_t` counter read
    0 and the next store restarts the range (`1 == ps->n_subpages`) below the sub-page number of a version that is still
    cached and retrievable.  What holds for
    every history of the repaired shape: `hi_subno_agrees_refbound` (fewer than 65280 page references held at any time). -/
def hi_subno_agrees_full : Prop :=
  ∀ (fix : Bool) (ops : List Op) (n : Net) (p : Page), n ∈ (runF fix init ops).nets → p ∈ (runF fix init ops).pages →
    p.net = n.id → p.subno ≤ (n.getStat p.pgno).subMax

/-- Repaired shape: store refines the map WITHOUT the F17 exception - under a single-version key all versions of the page
    number are replaced (`aputR`) - as a LIST equation: the most-recently-used order of the remaining versions included.
    Proved: `refines_map_put_repaired` below (Cache/LemmasAbs.lean: `delete_page` is a filter on the retrievable versions
    with their ids, the version found stays at the head of the chain through the loop). -/
def refines_map_put_repaired_full : Prop :=
  ∀ (ops : List Op) (nid : Nat) (cn : Net) (a : PutArg), (runF true init ops).findNet nid = some cn →
    a.pgno &&& 0xFF ≠ 0xFF → (0x100 ≤ a.pgno ∧ a.pgno ≤ 0x8FF) →
    (runF true init ops).memUsed + pageSize a.func a.x26 a.x28 ≤ (runF true init ops).memLimit →
    ∀ (s' : State) (r : Option Page), (runF true init ops).putPageF true nid a = .ok (s', r) →
      s'.abs = aputR (runF true init ops).abs (putEntry nid a (putKey (cn.getStat a.pgno).ptype a.pgno a.subno).1)
        (putKey (cn.getStat a.pgno).ptype a.pgno a.subno).2

/-- **Repaired shape: the store refines the map (list form).**  For every reachable state of the repaired source, a store
    with memory not short turns the abstract store into `aputR`: under a single-version key (`mask = 0`) EVERY version of
    the page number in that network is replaced, otherwise exactly the version found under the key; the new version is the
    most recent one and is the page handed out; every other version keeps its place in the most-recently-used order. -/
theorem refines_map_put_repaired : refines_map_put_repaired_full := by
  intro ops nid cn a hf hlow hrange hroom s' r hres
  rw [← aputF_true]
  exact (putPageF_abs true (good_reach true ops).1 hf a hlow hrange hroom hres).1

/-- ... and the page handed out is the new version; both source shapes at once (`aputF fix`) -/
theorem refines_map_put_both (fix : Bool) (ops : List Op) (nid : Nat) (cn : Net) (a : PutArg)
    (hf : (runF fix init ops).findNet nid = some cn) (hlow : a.pgno &&& 0xFF ≠ 0xFF) (hrange : 0x100 ≤ a.pgno ∧ a.pgno ≤ 0x8FF)
    (hroom : (runF fix init ops).memUsed + pageSize a.func a.x26 a.x28 ≤ (runF fix init ops).memLimit)
    (s' : State) (r : Option Page) (hres : (runF fix init ops).putPageF fix nid a = .ok (s', r)) :
    s'.abs = aputF fix (runF fix init ops).abs (putEntry nid a (putKey (cn.getStat a.pgno).ptype a.pgno a.subno).1)
        (putKey (cn.getStat a.pgno).ptype a.pgno a.subno).2
    ∧ r.map Page.entry = some (putEntry nid a (putKey (cn.getStat a.pgno).ptype a.pgno a.subno).1) :=
  putPageF_abs fix (good_reach fix ops).1 hf a hlow hrange hroom hres

/-- non-vacuity: a sub-page store, another, then a single-version store leaves ONE retrievable version -/
example : ((runF true init [.addNet, .put 0 ⟨0x100, 1, 0, 0, 0, 1⟩, .put 0 ⟨0x100, 2, 0, 0, 0, 2⟩,
    .put 0 ⟨0x100, 0x100, 0, 0, 0, 3⟩]).abs.map (·.subno)) = [0x100] := by decide +kernel

/-- what is proved about the repaired store WITHOUT the room hypothesis: after a store of the repaired shape no OTHER retrievable
    version of the network has the page number and key of the page handed out - the new version is THE version under its
    key (`putPageF_moves` + `insertNew`), for every reachable state and without a room hypothesis -/
theorem refines_map_put_repaired_partial (ops : List Op) (nid : Nat) (a : PutArg) (s' : State) (p : Page)
    (hres : (runF true init ops).putPageF true nid a = .ok (s', some p)) :
    ∀ q ∈ s'.pages, q.pri ≠ .zombie → q.net = p.net → q.pgno = p.pgno → lowKey q.pgno q.subno = lowKey p.pgno p.subno →
      p ∈ s'.pages → p.pri ≠ .zombie → q.id = p.id := by
  intro q hq hqz hn hg hl hp hpz
  have hu : UKey s' := ukey_putPageR (good_reach true ops) (unique_key_repaired ops) nid a hres
  exact hu q hq p hp hqz hpz hn hg hl

end Zvbi.Props.C10Evict
