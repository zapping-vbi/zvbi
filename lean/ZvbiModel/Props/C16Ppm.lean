import ZvbiModel.Export.Ppm
import ZvbiModel.Export.LemmasPpm
import ZvbiModel.Props.C16
/-!
# C16, PPM writer (exp-gfx.c `ppm_export`) inside the model

Header text, exact byte count as a function of (columns, rows, aspect) and row order, for every target; pixel
values are symbolic (`rowData`: the converted rows).
-/
namespace Zvbi.Props.C16Ppm
open Zvbi.Export Zvbi.Export.Spec

/-- **PPM output.**  For every target, page size and `aspect` setting, when the renderer delivers `rows` rows of
`ppmRowSize` bytes: the data is the header `P6 <width> <height> 255\n` followed by the rows in page order, nothing
else; its length is header + 3 * width * height bytes with width = 16 / 12 pixels per column (caption / Teletext)
and height = 13, 26 (caption, aspect 0 / 1) or 10, 20 (Teletext) lines per row.  The same bytes for all four targets. -/
theorem ppm_output_exact (t : Target) (columns rows : Nat) (dh : Bool) (rowData : List Bytes)
    (hn : rowData.length = rows) (hl : ∀ r ∈ rowData, r.length = ppmRowSize columns (ppmGeom columns dh)) :
    output (ppmOps t columns rows dh rowData)
      = ppmHeader (ppmWidth columns (ppmGeom columns dh)) (ppmHeight rows (ppmGeom columns dh)) ++ rowData.flatten ∧
    (output (ppmOps t columns rows dh rowData)).length
      = (ppmHeader (ppmWidth columns (ppmGeom columns dh)) (ppmHeight rows (ppmGeom columns dh))).length
        + 3 * (ppmWidth columns (ppmGeom columns dh) * ppmHeight rows (ppmGeom columns dh)) := by
  have hout : output (ppmOps t columns rows dh rowData)
      = ppmHeader (ppmWidth columns (ppmGeom columns dh)) (ppmHeight rows (ppmGeom columns dh)) ++ rowData.flatten := by
    have hrows : ∀ rs : List Bytes, (∀ r ∈ rs, r.length = ppmRowSize columns (ppmGeom columns dh)) →
        output (ppmRowOps columns (ppmGeom columns dh) rs) = rs.flatten := fun rs h => by
      rw [← List.flatMap_id]; exact directRows_output _ id rs h
    cases t
    · cases rowData with
      | nil => simp [ppmOps, output, opBytes]
      | cons r rs =>
        have hr : r.length = ppmRowSize columns (ppmGeom columns dh) := hl r (by simp)
        have hrs := hrows rs (fun q hq => hl q (by simp [hq]))
        have hle : r.length ≤ ppmNeeded .mem columns rows (ppmGeom columns dh) := by
          have : 1 ≤ rows := by rw [← hn]; simp
          simp only [ppmNeeded, hr]
          exact Nat.le_mul_of_pos_right _ this
        simp only [ppmOps, output_append, hrs]
        simp [output, opBytes, List.take_of_length_le hle]
    all_goals simp only [ppmOps, output_append, hrows rowData hl]; simp [output, opBytes]
  refine ⟨hout, ?_⟩
  rw [hout, List.length_append, ← List.flatMap_id, flatMap_length_const _ id _ hl, hn, ppmRowSize_eq, ppmHeight_eq]
  congr 1
  simp only [Nat.mul_comm, Nat.mul_left_comm, Nat.mul_assoc]

example : (ppmHeader (ppmWidth 40 (ppmGeom 40 true)) (ppmHeight 25 (ppmGeom 40 true))) = [80, 54, 32, 52, 56, 48, 32, 53, 48, 48, 32, 50, 53, 53, 10] := by
  decide      -- "P6 480 500 255\n"

/-- The space the module asks for in advance covers what it stores before the next flush: the whole image for
MEM and ALLOC (plus at most 64 bytes of header), one row for FP / FILE. -/
theorem ppm_needed_covers (t : Target) (columns rows : Nat) (dh : Bool) (hr : 1 ≤ rows) :
    (t = .mem → ppmNeeded t columns rows (ppmGeom columns dh) = rows * ppmRowSize columns (ppmGeom columns dh)) ∧
    (t = .alloc → 64 + rows * ppmRowSize columns (ppmGeom columns dh) ≤ ppmNeeded t columns rows (ppmGeom columns dh)) ∧
    ppmRowSize columns (ppmGeom columns dh) ≤ ppmNeeded t columns rows (ppmGeom columns dh) := by
  obtain ⟨k, rfl⟩ : ∃ k, rows = k + 1 := ⟨rows - 1, by omega⟩
  generalize ppmGeom columns dh = g
  have hmax := Nat.le_max_right (rgbaRowSize columns g - (if g.scale = 2 then ppmWidth columns g * 4 else 0)) (ppmRowSize columns g)
  have hmul : (k + 1) * ppmRowSize columns g = ppmRowSize columns g * k + ppmRowSize columns g := by
    rw [Nat.succ_mul, Nat.mul_comm]
  refine ⟨fun h => ?_, fun h => ?_, ?_⟩
  · subst h; simp [ppmNeeded, Nat.mul_comm]
  · subst h
    simp only [ppmNeeded, if_true, Nat.add_sub_cancel]
    omega
  · cases t
    · simp only [ppmNeeded]; rw [Nat.mul_succ]; omega
    all_goals
      simp only [ppmNeeded]
      try split
      all_goals omega

example : ppmNeeded .alloc 40 25 (ppmGeom 40 false) = 19200 + 64 + 14400 * 24 ∧ ppmNeeded .fp 40 25 (ppmGeom 40 true) = 28800 + 1920 := by decide

/-- **Joined with the write layer**: the PPM module's calls are an instance of the abstract call list of
`targets_agree` / `mem_bounded`: every target delivers header ++ rows, `vbi_export_mem` reports exactly that size. -/
theorem ppm_targets_agree (wcfg : Cfg) (t : Target) (columns rows : Nat) (dh : Bool) (rowData : List Bytes) (user : Option Bytes)
    (hn : rowData.length = rows) (hl : ∀ r ∈ rowData, r.length = ppmRowSize columns (ppmGeom columns dh)) :
    let ops := ppmOps t columns rows dh rowData
    let img := ppmHeader (ppmWidth columns (ppmGeom columns dh)) (ppmHeight rows (ppmGeom columns dh)) ++ rowData.flatten
    (exportMem wcfg .unlimited user ops).ret = some img.length ∧
    (exportMem wcfg .unlimited user ops).user.length = (user.getD []).length ∧
    (exportAlloc wcfg .unlimited ops).data = some img ∧
    (exportStdio wcfg .unlimited ops).sink = some img ∧ (exportFile wcfg .unlimited ops).sink = some img := by
  intro ops img
  have ho : output ops = img := (ppm_output_exact t columns rows dh rowData hn hl).1
  have ht := Zvbi.Props.C16.targets_agree wcfg user ops
  have hne : output ops ≠ [] := by rw [ho]; simp [img, ppmHeader]
  rw [ho] at ht
  exact ⟨ht.1, (Zvbi.Props.C16.mem_bounded wcfg .unlimited user ops).1, ht.2.2.1 (ho ▸ hne), ht.2.2.2.1.2, ht.2.2.2.2.2⟩

example : (ppmOps .fp 40 1 false [List.replicate (ppmRowSize 40 (ppmGeom 40 false)) 7]).length = 5 := by decide

end Zvbi.Props.C16Ppm
