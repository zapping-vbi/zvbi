import ZvbiModel.Props.C13
/-!
# C13, complete-value debounce: XDS network name / call letters and the VPS programme id

`Props/C13.lean` states the debounce of the CNI carriers and of WSS.  This file adds the two places where
the debounced value is a compound one and "received again unchanged" means *every part of it*:

* the XDS network name and call letters (`caption.c` `xds_strfu`): a C string stored in a fixed array;
  "unchanged" must mean equal as complete strings - a proper prefix of the stored name is a different name;
* the VPS programme id (`packet.c` `vbi_decode_vps`): a record of nine fields compared by `memcmp`;
  "unchanged" must mean every transmitted field equal.

Histories are lists of atoms as in `Props/C13.lean` (any state, any interleaving the hypotheses allow).
Helper lemmas: `Net/XdsStrLemmas.lean` (the array), `Net/LemmasRepeat.lean` (histories); the array-level model of `xds_strfu`:
`Net/XdsStr.lean` (tied to the C function by the `strfu` op of the correspondence, extents by `layout`).
-/
namespace Zvbi.Props.C13Str
open Zvbi.Net Zvbi.Codec Zvbi.Gen

/-! ## xds_strfu -/

/-- `xds_strfu (d, s, len)` for EVERY content of the destination array `d` (stale bytes behind the old
    terminator, no terminator at all, bytes with the sign bit set) and EVERY received text of 0..32
    seven-bit bytes, `d` at least 33 bytes long: the call stays inside the array; its result is non-zero
    exactly if the C string the array held differs from the filtered received text (as complete strings:
    a longer stored string counts through `neq |= *d`, a shorter one through the `*d ^ c` at its
    terminator); afterwards the array holds that text, and the bytes behind the new terminator are the
    ones that were there. -/
theorem strfu_neq_iff (d s : List Nat) (hs : ∀ c ∈ s, c < 128) (hd : ∀ x ∈ d, x < 256)
    (hlen : s.length ≤ xdsMaxLen) (hsize : xdsMaxLen < d.length) :
    ∃ d' n, strfu d s = some (d', n) ∧ (n ≠ 0 ↔ cstr d ≠ xdsFilter s) ∧ cstr d' = xdsFilter s ∧
      d'.length = d.length ∧ d'.drop ((xdsFilter s).length + 1) = d.drop ((xdsFilter s).length + 1) := by
  have hf : (xdsFilter s).length < d.length := Nat.lt_of_le_of_lt (Nat.le_trans (xdsFilter_length_le s) hlen) hsize
  obtain ⟨n, hn, hiff⟩ := strfuCopy_spec (strfuSkip s) d 0
    (fun c hc => hs c ((List.dropWhile_sublist _).subset hc)) hd (by rw [xdsFilter_eq, List.length_map] at hf; exact hf)
  have hn' : strfu d s = some (xdsFilter s ++ 0 :: d.drop ((xdsFilter s).length + 1), n) := by
    unfold strfu; rw [hn, xdsFilter_eq, List.length_map]
  refine ⟨_, n, hn', by rw [hiff, xdsFilter_eq]; simp, cstr_append_nul _ _ (xdsFilter_ne_zero s), ?_, ?_⟩
  · simp only [List.length_append, List.length_cons, List.length_drop]; omega
  · rw [show xdsFilter s ++ 0 :: d.drop ((xdsFilter s).length + 1) = (xdsFilter s ++ [0]) ++ d.drop ((xdsFilter s).length + 1) by simp]
    exact List.drop_left' (by simp)

-- non-vacuity: "ABCD" stored (a stale "E" behind the terminator), "ABC" received: different (neq = 'D'), array updated
example : strfu [0x41, 0x42, 0x43, 0x44, 0, 0x45] [0x41, 0x42, 0x43] = some ([0x41, 0x42, 0x43, 0, 0, 0x45], 0x44) := by decide
-- "AB" stored, stale "CD" behind it, "ABCD" received: different although every byte compared equal but the terminator
example : (strfu [0x41, 0x42, 0, 0x44, 0, 0] [0x41, 0x42, 0x43, 0x44]).map (·.2 != 0) = some true := by decide
-- same text, leading blanks and a control code: equal
example : strfu [0x41, 0x20, 0x42, 0, 0x45] [0x20, 0x01, 0x41, 0x01, 0x42] = some ([0x41, 0x20, 0x42, 0, 0x45], 0) := by decide

/-- The store never writes past `vbi_network.name` (64 bytes) or `.call` (40 bytes) for any packet the XDS
    separator can deliver (at most 32 bytes): in the model an access behind the array is `none`.  The extents
    are those of the compiled struct (`layout` op). -/
theorem strfu_never_writes_past_the_destination (d s : List Nat) (hs : ∀ c ∈ s, c < 128) (hd : ∀ x ∈ d, x < 256)
    (hlen : s.length ≤ xdsMaxLen) (hsize : d.length = nameSize ∨ d.length = callSize) :
    ∃ d' n, strfu d s = some (d', n) ∧ d'.length = d.length := by
  have h33 : xdsMaxLen < d.length := by
    rcases hsize with e | e <;> rw [e] <;> decide
  obtain ⟨d', n, h, _, _, hl, _⟩ := strfu_neq_iff d s hs hd hlen h33
  exact ⟨d', n, h, hl⟩

/-- The model does report an overrun when there is one: a text that with its terminator is longer than the array. -/
theorem strfu_overrun_is_reported (d s : List Nat) (h : d.length ≤ (xdsFilter s).length) : strfu d s = none := by
  unfold strfu
  apply strfuCopy_overrun
  rw [xdsFilter_eq, List.length_map] at h
  exact h

example : strfu [0x41, 0] [0x41, 0x42] = none := by decide

/-- The string-level `xdsStrfu` of `Net/Model.lean` (which all history theorems use) is a sound abstraction of the
    array-level function for every array content: same new string, same "changed" verdict. -/
theorem strfu_refines_string_model (d s : List Nat) (hs : ∀ c ∈ s, c < 128) (hd : ∀ x ∈ d, x < 256)
    (hlen : s.length ≤ xdsMaxLen) (hsize : xdsMaxLen < d.length) :
    ∃ d' n, strfu d s = some (d', n) ∧ (xdsStrfu (cstr d) s).1 = cstr d' ∧ ((xdsStrfu (cstr d) s).2 = true ↔ n ≠ 0) := by
  obtain ⟨d', n, h, hiff, hc, _, _⟩ := strfu_neq_iff d s hs hd hlen hsize
  refine ⟨d', n, h, ?_, ?_⟩
  · rw [xdsStrfu_eq, hc]
  · rw [xdsStrfu_eq, hiff]
    simp only [bne_iff_ne, ne_eq]
    exact ⟨fun h e => h e.symm, fun h e => h e.symm⟩

/-! ## the network name is announced on an equal repeat only -/

/-- From ANY state: a network-name packet `u`, then ANY atoms except name packets and VPS / Teletext lines (call
    letters, other XDS packets, WSS, pages, ticks with or without time-outs, mask changes, channel switches),
    then a name packet `v`.  A NETWORK or NETWORK_ID event at `v` needs `u` and `v` to be equal as complete
    filtered strings, and the event carries that string. -/
theorem name_announce_needs_equal_repeat (cfg : Cfg) (s0 : State) (t1 t2 : Nat) (u v : List Nat) (mid : List Atom)
    (hmid : ∀ a ∈ mid, a.nameFree = true) (n : Network)
    (h : Ev.network n ∈ (stepAtom cfg (runAtoms cfg (stepAtom cfg s0 (.line t1 (.xds 1 u))).1 mid).1 (.line t2 (.xds 1 v))).2 ∨
         Ev.networkId n ∈ (stepAtom cfg (runAtoms cfg (stepAtom cfg s0 (.line t1 (.xds 1 u))).1 mid).1 (.line t2 (.xds 1 v))).2) :
    xdsFilter u = xdsFilter v ∧ n.name = xdsFilter v := by
  have i1 : NameInv (xdsFilter u) (stepAtom cfg s0 (.line t1 (.xds 1 u))).1.net := by
    left; simp only [stepAtom, rxLine]; exact rxXds_name_stored _ s0 u
  have i2 := runAtoms_nameInv cfg (xdsFilter u) mid _ hmid i1
  simp only [stepAtom, rxLine] at h
  have a := Zvbi.Props.C13.event_values_faithful_xds _ _ 1 v n h
  have hst := xdsStrfu_same _ _ a.2.1
  rw [xdsStrfu_eq] at hst
  simp only [] at hst
  refine ⟨?_, ?_⟩
  · rcases i2 with e | e
    · rw [← e]; exact hst.symm
    · exact absurd a.2.2.1 e.2
  · rw [a.2.2.2.2.1, xdsStrfu_eq]

/-- A prefix is not a repeat: if the second name is a proper prefix of the first (or the other way round),
    nothing is announced. -/
theorem name_prefix_is_not_a_repeat (cfg : Cfg) (s0 : State) (t1 t2 : Nat) (u v : List Nat) (mid : List Atom)
    (hmid : ∀ a ∈ mid, a.nameFree = true) (w : List Nat) (hw : w ≠ [])
    (hp : xdsFilter u = xdsFilter v ++ w ∨ xdsFilter v = xdsFilter u ++ w) :
    Silent (stepAtom cfg (runAtoms cfg (stepAtom cfg s0 (.line t1 (.xds 1 u))).1 mid).1 (.line t2 (.xds 1 v))).2 := by
  have ne : xdsFilter u ≠ xdsFilter v := by
    intro e
    have hl : w.length = 0 := by
      rcases hp with h | h
      · have := congrArg List.length h; rw [e, List.length_append] at this; omega
      · have := congrArg List.length h; rw [e, List.length_append] at this; omega
    exact hw (List.eq_nil_of_length_eq_zero hl)
  intro e he
  cases e with
  | network n => exact absurd (name_announce_needs_equal_repeat cfg s0 t1 t2 u v mid hmid n (Or.inl he)).1 ne
  | networkId n => exact absurd (name_announce_needs_equal_repeat cfg s0 t1 t2 u v mid hmid n (Or.inr he)).1 ne
  | progId _ => exact ⟨rfl, rfl⟩
  | localTime _ _ => exact ⟨rfl, rfl⟩
  | aspect _ => exact ⟨rfl, rfl⟩
  | progInfo _ => exact ⟨rfl, rfl⟩

-- non-vacuity (the seeded change C13-d): "ABCD" then "ABC" announces nothing; "ABC" once more does
example : (runAtoms cfg0 init [.mask 3534, .line 0 (.xds 1 [0x41, 0x42, 0x43, 0x44]), .line 0 (.xds 1 [0x41, 0x42, 0x43])]).2 = [] := by
  decide
example : ((runAtoms cfg0 init [.mask 3534, .line 0 (.xds 1 [0x41, 0x42, 0x43, 0x44]), .line 0 (.xds 1 [0x41, 0x42, 0x43]),
    .line 0 (.xds 1 [0x41, 0x42, 0x43])]).2.map Ev.type) = [VBI_EVENT_NETWORK, VBI_EVENT_NETWORK_ID] := by decide

/-! ## the VPS programme id -/

/-- What the `memcmp (&pid, &vbi->vps_pid, sizeof (pid))` of `vbi_decode_vps` covers: two records are equal
    exactly if the nine fields the decoders write are (channel, CNI type, CNI, PIL, LUF, MI, PRF, PCS audio,
    PTY) - the model's record has no field outside the comparison.  (The C struct has `tape_delayed` and two
    reserved arrays besides, zero in both operands after `CLEAR`, and no padding: `layout` op, `pid ... :dirty`
    marker of the harness.) -/
theorem pid_compare_covers_every_field (p q : Pid) :
    p = q ↔ (p.channel = q.channel ∧ p.cniType = q.cniType ∧ p.cni = q.cni ∧ p.pil = q.pil ∧ p.luf = q.luf ∧
             p.mi = q.mi ∧ p.prf = q.prf ∧ p.pcsAudio = q.pcsAudio ∧ p.pty = q.pty) := by
  rw [pid_eq_iff_fields]
  simp [pidFields]

/-- For VPS the record comparison is the comparison of everything the line transmits for the label:
    CNI, PIL, PCS audio and PTY. -/
theorem vps_label_eq_iff (b1 b2 : Buf) :
    decodeVpsPdc b1 = decodeVpsPdc b2 ↔
      (decodeVpsCni b1 = decodeVpsCni b2 ∧ (decodeVpsPdc b1).pil = (decodeVpsPdc b2).pil ∧
       bt b1 2 >>> 6 = bt b2 2 >>> 6 ∧ bt b1 12 = bt b2 12) := by
  rw [pid_compare_covers_every_field]
  simp [decodeVpsPdc]

/-- From ANY state: a VPS line `b1`, then ANY ticks (time-outs included), channel switches, WSS lines and pages,
    then a VPS line `b2`.  A PROG_ID event at `b2` needs the two lines to carry labels equal in EVERY transmitted
    field (CNI, PIL, PCS audio, PTY), and the event carries exactly that label. -/
theorem vps_pid_repeat_complete (cfg : Cfg) (s0 : State) (t1 t2 : Nat) (b1 b2 : Buf) (mid : List Atom)
    (hmid : ∀ a ∈ mid, a.pidQuiet = true) (p : Pid)
    (h : Ev.progId p ∈ (stepAtom cfg (runAtoms cfg (stepAtom cfg s0 (.line t1 (.vps b1))).1 mid).1 (.line t2 (.vps b2))).2) :
    p = decodeVpsPdc b2 ∧ decodeVpsCni b1 = decodeVpsCni b2 ∧ (decodeVpsPdc b1).pil = (decodeVpsPdc b2).pil ∧
    bt b1 2 >>> 6 = bt b2 2 >>> 6 ∧ bt b1 12 = bt b2 12 := by
  have k : decodeVpsPdc b1 = decodeVpsPdc b2 ∧ p = decodeVpsPdc b2 := by
    simp only [stepAtom, rxLine] at h hmid ⊢
    have st := runAtoms_pidQuiet cfg mid (rxVps cfg s0 b1).1 hmid
    have f := rxVps_progId cfg _ b2 p h
    refine ⟨?_, f.1⟩
    rcases rxVps_after cfg s0 b1 with e | np
    · rw [← e, ← st.1]; exact f.2.1
    · exact absurd f.2.2.2.1 (st.2.not_pending cfg .vps np)
  exact ⟨k.2, (vps_label_eq_iff b1 b2).mp k.1⟩

/-- the seeded change C13-c in the model: same CNI, PIL and PCS, PTY 0x31 then 0x35 -/
def vpsPty (pty : Nat) : Line := .vps [0, 0, 0x80, 0, 0, 0, 0, 0, 0xC0, 0xD1, 0x5A, 0x81, pty]

-- non-vacuity: the identical line twice raises PROG_ID with its label; a different PTY on the second does not
example : ((runAtoms cfg0 init [.mask 3534, .line 0 (vpsPty 0x31), .line 0 (vpsPty 0x31)]).2.filter (·.isExtra)) =
    [Ev.progId (decodeVpsPdc [0, 0, 0x80, 0, 0, 0, 0, 0, 0xC0, 0xD1, 0x5A, 0x81, 0x31])] := by decide
example : ((runAtoms cfg0 init [.mask 3534, .line 0 (vpsPty 0x31), .line 0 (vpsPty 0x35)]).2.filter (·.isExtra)) = [] := by decide

/-- All histories, all interleavings of all carriers, from the start: whenever a VPS line raises PROG_ID, the
    event's label is this line's, and the very same complete label was carried by an earlier VPS line of the
    history (the stored record is always the complete label of one received line, never a mixture, and never
    the all-zero record a reset or a new handler leaves). -/
theorem vps_pid_was_received_before (cfg : Cfg) (hist : List Atom) (t : Nat) (b : Buf) (p : Pid)
    (h : Ev.progId p ∈ (stepAtom cfg (runAtoms cfg init hist).1 (.line t (.vps b))).2) :
    p = decodeVpsPdc b ∧ decodeVpsPdc b ∈ vpsLabels hist := by
  simp only [stepAtom, rxLine] at h
  have f := rxVps_progId cfg _ b p h
  refine ⟨f.1, ?_⟩
  have nz : decodeVpsPdc b ≠ {} := by
    intro e
    have := congrArg Pid.channel e
    simp [decodeVpsPdc, VBI_PID_CHANNEL_VPS] at this
  rcases runAtoms_vpsPid cfg hist init with e | e | e
  · rw [f.2.1] at e; exact absurd e nz
  · rw [f.2.1] at e; exact absurd e nz
  · rw [f.2.1] at e; exact e

/-- packet 8/30 format 1 with CNI 0x1234 -/
def p8301Demo : Line := .ttx [0x15,0xEA,0x15,0xEA,0xEA,0xEA,0x2F,0xEA,0x5E,0x48,0x2C,0x85,0x26,0x98,0x65,0x23,0x11,0x11,0x20,0x20,
  0x20,0x20,0x20,0x20,0x20,0x20,0x20,0x20,0x20,0x20,0x20,0x20,0x20,0x20,0x20,0x20,0x20,0x20,0x20,0x20,0x20,0x20]

/-- the table of the tree under test with the shared debounce cycle (F11 unrepaired) resp. one cycle per carrier -/
def cfgShared : Cfg := { cfg0 with perCarrier := false }
def cfgPer : Cfg := { cfg0 with perCarrier := true }

/-- Why `vps_pid_repeat_complete` excludes Teletext lines (and XDS names) between the two VPS lines: VPS lines that
    arrive while nothing is pending are not looked at, and in the shared-cycle shape (`perCarrier = false`, F11) the
    debounce cycle is shared with the other carriers.
    Label P1 announced; a line with another PTY (ignored); a new 8/30 format 1 CNI starts a cycle; P1 again is
    announced by comparison with the label stored three VPS lines ago, although the PREVIOUS VPS line carried a
    different one.  `vps_pid_was_received_before` is what holds in every interleaving.  (Observation; the same
    history on the real code: corpus/C13/obs-vps-pid-stale-label.ops.)  With one cycle per carrier the Teletext
    packet does not make the VPS block look at its line: no PROG_ID (last conjunct). -/
theorem vps_pid_interleaved_observation :
    (runAtoms cfgShared init [.mask 3534, .line 0 (vpsPty 0x31), .line 0 (vpsPty 0x31), .line 0 (vpsPty 0x35), .line 0 p8301Demo]).1.vpsPid
      = decodeVpsPdc [0, 0, 0x80, 0, 0, 0, 0, 0, 0xC0, 0xD1, 0x5A, 0x81, 0x31] ∧
    ((stepAtom cfgShared (runAtoms cfgShared init [.mask 3534, .line 0 (vpsPty 0x31), .line 0 (vpsPty 0x31), .line 0 (vpsPty 0x35),
        .line 0 p8301Demo]).1 (.line 0 (vpsPty 0x31))).2.filter (·.isExtra)) =
      [Ev.progId (decodeVpsPdc [0, 0, 0x80, 0, 0, 0, 0, 0, 0xC0, 0xD1, 0x5A, 0x81, 0x31])] ∧
    ((stepAtom cfgPer (runAtoms cfgPer init [.mask 3534, .line 0 (vpsPty 0x31), .line 0 (vpsPty 0x31), .line 0 (vpsPty 0x35),
        .line 0 p8301Demo]).1 (.line 0 (vpsPty 0x31))).2.filter (·.isExtra)) = [] := by decide

/-! ## packet 8/30 format 2 -/

/-- A PROG_ID event from Teletext is the label of this very packet in every field (LCI, LUF, PRF, PCS audio, MI,
    CNI, PIL, PTY as `vbi_decode_teletext_8302_pdc` decodes them).  libzvbi does not debounce it: the packet is
    Hamming 8/4 protected and every valid packet is announced (next theorem). -/
theorem pid_8302_is_this_packets_label (cfg : Cfg) (s : State) (b : Buf) (p : Pid)
    (h : Ev.progId p ∈ (rxTtx cfg s b).2) : decode8302Pdc b = some p ∧ pidFields p = (decode8302Pdc b).elim [] pidFields := by
  have e := Zvbi.Props.C13.event_values_faithful_pdc cfg s b p h
  exact ⟨e, by rw [e]; rfl⟩

/-- a packet 8/30 format 2: CNI 0x1234, PIL 0x2B0C0, PTY 0x31, LCI 1, PRF, PCS 2, MI -/
def p8302Demo : Line := .ttx [0x15,0xEA,0x49,0xEA,0xEA,0xEA,0x2F,0xEA,0x5E,0x8C,0x73,0xD0,0x15,0x73,0x5E,0xA1,0x15,0x15,0xB6,0x49,
  0xA1,0xD0,0x20,0x20,0x20,0x20,0x20,0x20,0x20,0x20,0x20,0x20,0x20,0x20,0x20,0x20,0x20,0x20,0x20,0x20,0x20,0x20]

/-- Observation, not a theorem about a debounce: the first reception of a format 2 packet already raises PROG_ID
    (with the complete label). -/
theorem pid_8302_first_reception_is_announced :
    (runAtoms cfg0 init [.mask 3534, .line 0 p8302Demo]).2.filter (·.isExtra) =
      [Ev.progId { channel := 1, cniType := VBI_CNI_TYPE_8302, cni := 0x1234, pil := 0x2B0C0, luf := 0, mi := 1, prf := 1,
                   pcsAudio := 2, pty := 0x31 }] := by decide

end Zvbi.Props.C13Str
