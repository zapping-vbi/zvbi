import ZvbiModel.Slicer.BitsStage
import ZvbiModel.Slicer.LemmasLegacy
import ZvbiModel.Rawdec.SvcLines
import ZvbiModel.Rawdec.SvcJobs
import ZvbiModel.Rawdec.Spec
import ZvbiModel.Props.C04
/-!
# C04 - bit-exact slicing in every mode, the search window, line numbers per field, service bookkeeping

Continues `Props/C04.lean` (same models: `Rawdec/Model.lean`, `Rawdec/SliceModel.lean`, `Slicer/Model.lean`).
* the payload stage of all three slicers is exact in all four `endian` modes, for every payload length and payload
  (`payload_stage_exact_all_modes`), with the two side conditions stated and discharged for every row of the
  regenerated service table (`table_rows_meet_side_conditions`), lifted to the three slicer entry points;
* the CRI search window admits exactly the positions at which data and look-ahead fit the line (`cri_window_exact`);
* ITU-R line number / field / memory line of every row for every accepted sampling parameter set;
* `rd->services`, the job list and what `remove_services` leaves, for ALL histories of the repaired code.
-/
namespace Zvbi.Props.C04Bits
open Zvbi.Rawdec Zvbi.Generated.ServiceTable
open Zvbi.Slicer (U32)

/-! ## 1. the slicers return exactly the transmitted bits -/

/-- All three slicers (`bit_slicer_<fmt>`, `low_pass_bit_slicer_Y8`, legacy
    `bit_slicer_tmpl`), all four modes (`endian` 0 octets MSB first, 1 octets LSB first, 2 bits MSB first, 3 bits LSB
    first), every payload length, every payload `w` in canonical form (`Canon`): if the FRC bits match and the decision
    at every payload sampling instant is the transmitted bit (`bitAt`: wire order), the bytes written to `buffer` are
    exactly `w`.  Side conditions: a bit mode is used with `payload % 8 ≠ 0` only (what `set_params` does); for
    `endian == 3` of `bit_slicer_<fmt>` the accumulator starts at `bs->frc`, which must be `< 256`. -/
theorem payload_stage_exact_all_modes (v : Variant) (bs : BS) (smp : Sampler) (w : List Nat)
    (hend : bs.endian ≤ 3) (hcanon : Canon bs w)
    (hbit : 2 ≤ bs.endian → bs.payload % 8 ≠ 0)
    (hc0 : v = .core → bs.endian = 3 → bs.frc < 256)
    (hfrc : frcValue bs smp = bs.frc)
    (heye : ∀ j, j < nBits bs → smp (payloadPos bs j) = bitAt bs.endian (nBits bs) w j) :
    payloadStage v bs smp = some w :=
  payloadStage_exact v bs smp w hend hcanon hbit hc0 hfrc heye

/-- non-vacuity: WSS-like payload, 14 bits LSB first, `0x2A5 = [0xA5, 0x02]`, sampled bit by bit, all three slicers -/
example : ∀ v : Variant, payloadStage v ⟨0, 0, 0, 1, 4, 9, 0, 0, 0, 256, 14, 3⟩
    (fun pos => (0x2A5 : Nat).testBit (pos / 256)) = some [0xA5, 0x02] := by intro v; cases v <;> decide
/-- ... and MSB first: the last byte holds the 6 remaining bits right-aligned -/
example : ∀ v : Variant, payloadStage v ⟨0, 0, 0, 1, 4, 9, 0, 0, 0, 256, 14, 2⟩
    (fun pos => (0x2A5 : Nat).testBit (13 - pos / 256)) = some [0x0A, 0x25] := by intro v; cases v <;> decide

/-- The side condition `frc < 256` of `endian == 3` is needed: with a 9 bit FRC
    `0x100` and a 9 bit all-zero payload the first byte `bit_slicer_<fmt>` stores is 1 - bit 8 of the FRC, shifted
    down by `c >> 1`.  (No table row has more than 8 FRC bits: `table_rows_meet_side_conditions`.) -/
theorem frc_ge_256_counterexample :
    payloadStage .core ⟨0, 0, 0, 1, 4, 9, 256, 9, 0, 256, 9, 3⟩ (fun pos => decide (pos = 0)) = some [1, 0] ∧
    payloadStage .lowpass ⟨0, 0, 0, 1, 4, 9, 256, 9, 0, 256, 9, 3⟩ (fun pos => decide (pos = 0)) = some [0, 0] := by
  decide

/-- For EVERY row of the regenerated `_vbi_service_table`, every pixel format,
    sampling rate and line length: the slicer `add_services` configures (`set_params` accepted) has `endian ≤ 3`, uses a
    bit mode only for a payload that is not a whole number of octets, has `frc < 256`, and samples exactly
    `par->payload` bits.  Same for the legacy `vbi_bit_slicer_init`. -/
theorem table_rows_meet_side_conditions (r : Row) (hr : r ∈ serviceTable) :
    (∀ (gf : GreenFmt) (fmt : Zvbi.Slicer.Fmt) (rate spl : Nat) (tight : Bool) (c : Zvbi.Slicer.Cfg),
      Zvbi.Slicer.setParams tight (Zvbi.Slicer.rowParams r fmt rate spl) = .ok c →
      (bsOfRow r gf c rate).endian ≤ 3 ∧ (2 ≤ (bsOfRow r gf c rate).endian → (bsOfRow r gf c rate).payload % 8 ≠ 0) ∧
      (bsOfRow r gf c rate).frc < 256 ∧ nBits (bsOfRow r gf c rate) = r.payload) ∧
    (∀ (tight : Bool) (p : Zvbi.Slicer.LParams) (rate : Nat), p.frcBits = r.frcBits →
      (legacyBsOfRow r (Zvbi.Slicer.legacyInit tight p) rate).endian ≤ 3 ∧
      (2 ≤ (legacyBsOfRow r (Zvbi.Slicer.legacyInit tight p) rate).endian →
        (legacyBsOfRow r (Zvbi.Slicer.legacyInit tight p) rate).payload % 8 ≠ 0) ∧
      (legacyBsOfRow r (Zvbi.Slicer.legacyInit tight p) rate).frc < 256 ∧
      nBits (legacyBsOfRow r (Zvbi.Slicer.legacyInit tight p) rate) = p.payloadBits) :=
  ⟨fun gf fmt rate spl tight c h => bsOfRow_side r hr gf fmt rate spl tight c h,
   fun tight p rate _ => legacyBsOfRow_side r hr tight p rate⟩

example : serviceTable.length = 18 := by decide

/-- (`vbi3_bit_slicer_slice` as `decode_pattern` calls it, either slicer function).  For a
    job configured from ANY table row, any pixel format, rate, line length: if the CRI search on the sample sequence
    `g` stops in iteration `k` with threshold `tr`, the FRC matches and the eye is open for payload `w` at every one of
    the `par->payload` sampling instants, `slice()` returns exactly `w` and leaves the threshold of the search. -/
theorem slice_exact_table_row (r : Row) (hr : r ∈ serviceTable) (gf : GreenFmt) (fmt : Zvbi.Slicer.Fmt) (rate spl : Nat)
    (c : Zvbi.Slicer.Cfg) (hcfg : Zvbi.Slicer.setParams slicerTight (Zvbi.Slicer.rowParams r fmt rate spl) = .ok c)
    (thresh : Nat) (g : Nat → Nat) (k tr th' : Nat) (w : List Nat) (hcanon : Canon (bsOfRow r gf c rate) w) :
    let bs := bsOfRow r gf c rate
    (coreSearch bs g bs.criSamples 0 thresh {} = some (k, tr, th') →
      frcValue bs (coreSampler g k tr) = bs.frc →
      (∀ j, j < r.payload → coreSampler g k tr (payloadPos bs j) = bitAt bs.endian r.payload w j) →
      coreSlice bs thresh g = (some w, th')) ∧
    (lpSearch bs g bs.criSamples 0 thresh (lpSum g 0 % U32) { c := U32 - 1 } = some (k, tr, th') →
      frcValue bs (lpSampler g k tr) = bs.frc →
      (∀ j, j < r.payload → lpSampler g k tr (payloadPos bs j) = bitAt bs.endian r.payload w j) →
      lowpassSlice bs thresh g = (some w, th')) := by
  intro bs
  obtain ⟨s1, s2, s3, s4⟩ := bsOfRow_side r hr gf fmt rate spl slicerTight c hcfg
  constructor
  · intro hcri hfrc heye
    unfold coreSlice
    rw [hcri]
    simp only []
    rw [payloadStage_exact .core bs _ w s1 hcanon s2 (fun _ _ => s3) hfrc (by rw [s4]; exact heye)]
  · intro hcri hfrc heye
    unfold lowpassSlice
    rw [hcri]
    simp only []
    rw [payloadStage_exact .lowpass bs _ w s1 hcanon s2 (fun h => by cases h) hfrc (by rw [s4]; exact heye)]

/-- (`vbi_bit_slice`, src/decoder.c), any configuration meeting the side conditions (every table
    row does), released or repaired 15/16 bit threshold update. -/
theorem legacy_slice_exact (fixed : Bool) (bs : BS) (shift thresh : Nat) (g : Nat → Nat) (k tr th' : Nat) (w : List Nat)
    (hend : bs.endian ≤ 3) (hcanon : Canon bs w) (hbit : 2 ≤ bs.endian → bs.payload % 8 ≠ 0)
    (hcri : legacySearch bs fixed shift g bs.criSamples 0 thresh {} = some (k, tr, th'))
    (hfrc : frcValue bs (coreSampler g k tr) = bs.frc)
    (heye : ∀ j, j < nBits bs → coreSampler g k tr (payloadPos bs j) = bitAt bs.endian (nBits bs) w j) :
    legacySlice fixed bs shift thresh g = (some w, th') := by
  unfold legacySlice
  rw [hcri]
  simp only []
  rw [payloadStage_exact .legacy bs _ w hend hcanon hbit (fun h => by cases h) hfrc heye]

/-! ## 2. the CRI search window is complete -/

/-- `vbi3_bit_slicer_set_params` (with the look-ahead block, as /repo has it) admits search
    iteration `k` - the CRI found `k` samples after `sample_offset` - EXACTLY when the data still fit
    (`offset + k + data_samples < samples_per_line`, zvbi's own `cri_end`) and the furthest sample the payload loops
    touch is inside the line (`offset + k + look_ahead < samples_per_line`), `look_ahead` counted in samples: last
    bit's sample `+ 1` (interpolation) resp. `+ 16` (low-pass window), for EVERY pixel format.  `→` is the safety bound
    of C05, `←` the completeness: no admissible position is lost (a look-ahead scaled by bytes per pixel loses 15, 30
    or 45 positions with 2, 3, 4 byte pixels).  `hnw`: the 32 bit sum `cri_samples + data_samples` does not wrap. -/
theorem cri_window_exact (p : Zvbi.Slicer.Params) (c : Zvbi.Slicer.Cfg) (h : Zvbi.Slicer.setParams true p = .ok c)
    (hend : p.criEnd = U32 - 1) (hnw : Zvbi.Slicer.criSamples0 p + Zvbi.Slicer.dataSamples p < U32) (k : Nat) :
    k < c.criSamples ↔
      (p.offset + k + Zvbi.Slicer.dataSamples p < p.spl ∧
       p.offset + k + Zvbi.Slicer.lookAhead c.kind c.phaseShift c.step c.nBits < p.spl) :=
  Zvbi.Slicer.setParams_window p c h hend hnw k

/-- non-vacuity: Caption 625 (table row 8), RGBA32, 27 MHz, 1400 samples: low-pass slicer, look-ahead 959 + 16 samples,
    1400 - 975 = 425 positions admitted - not 425 - 45 -/
example : (serviceTable[8]?.bind (fun r =>
      (Zvbi.Slicer.setParams true (Zvbi.Slicer.rowParams r ⟨4, 1, 1, true⟩ 27000000 1400)).toOption)).map
    (fun c => (c.kind, c.criSamples, Zvbi.Slicer.lookAhead c.kind c.phaseShift c.step c.nBits)) =
    some (Zvbi.Slicer.Kind.lowpass, 425, 975) := by decide +kernel

/-- The same for `vbi_bit_slicer_init` (interpolating slicer: look-ahead = last bit's sample + 1). -/
theorem legacy_window_exact (p : Zvbi.Slicer.LParams) (hraw : p.rawSamples < U32) (k : Nat) :
    k < (Zvbi.Slicer.legacyInit true p).iterations ↔
      (k + p.rate * (p.payloadBits + p.frcBits) / p.bitRate < p.rawSamples ∧
       k + (Zvbi.Slicer.lastBitSample (Zvbi.Slicer.legacyInit true p).phaseShift (Zvbi.Slicer.legacyInit true p).step
              (Zvbi.Slicer.legacyInit true p).nBits + 1) < p.rawSamples) := by
  unfold Zvbi.Slicer.LCfg.iterations
  have hU : U32 = 4294967296 := rfl
  rw [Zvbi.Slicer.legacyInit_criBytes]
  generalize Zvbi.Slicer.lastBitSample (Zvbi.Slicer.legacyInit true p).phaseShift (Zvbi.Slicer.legacyInit true p).step
    (Zvbi.Slicer.legacyInit true p).nBits = L
  generalize p.rate * (p.payloadBits + p.frcBits) / p.bitRate = D
  have hr := hraw
  rw [hU] at hr ⊢
  omega

/-! ## 3. line number, field and memory line of every row -/

/-- For EVERY sampling parameter set `_vbi_sampling_par_valid_log` accepts (625 or 525 lines, any
    start[2] / count[2] - known or unknown -, sequential or interlaced storage, synchronous or not; C `int` ranges) and
    every row `i` of the image:
    * the pointer `vbi3_raw_decoder_decode` hands to the slicer (C05: `lineOffset`) is the start of memory line
      `memLine`, inside the image; sequential storage: memory line `i`; interlaced: `2 * index + field`, i.e. even memory
      lines are the first field, odd ones the second, in this order;
    * `sliced->line` = `start[field] + index in field` when the field order and that field's start line are known, else 0;
    * a known line number lies in the field's range of the line system (first field 1..262 / 1..311, second field
      263..525 / 312..625): never a line of the other field. -/
theorem row_geometry (sp : SPar) (hv : sp.valid = true) (hc0 : sp.count0 < 2147483648) (hc1 : sp.count1 < 2147483648)
    (hs0 : sp.start0 < 2147483648) (hs1 : sp.start1 < 2147483648) (i : Nat) (hi : i < sp.scanLines) :
    Zvbi.Slicer.lineOffset (toSp sp) i = memLine sp i * sp.bpl ∧ memLine sp i < sp.scanLines ∧
    (sp.interlaced = true → memLine sp i % 2 = fieldOf sp i ∧ memLine sp i / 2 = idxInField sp i) ∧
    (sp.interlaced = false → memLine sp i = i) ∧
    idxInField sp i < sp.count (fieldOf sp i) ∧
    lineOf sp i = (if sp.synchronous = true ∧ sp.start (fieldOf sp i) ≠ 0 then sp.start (fieldOf sp i) + idxInField sp i else 0) ∧
    (sp.synchronous = true → sp.start (fieldOf sp i) ≠ 0 →
      fieldLo sp.scanning (fieldOf sp i) ≤ lineOf sp i ∧ lineOf sp i < fieldHi sp.scanning (fieldOf sp i) + 1 ∧
      fieldHi sp.scanning 0 < fieldLo sp.scanning 1) := by
  obtain ⟨hscan, _, _, hr0, hr1, hil⟩ := valid_spec sp hv
  have hsl : sp.scanLines = sp.count0 + sp.count1 := rfl
  have hf := field_cases sp i
  have hidx : idxInField sp i < sp.count (fieldOf sp i) := by
    rcases hf with ⟨h, e, x⟩ | ⟨h, e, x⟩ <;> rw [e]
    · show _ < sp.count0; omega
    · show _ < sp.count1; omega
  refine ⟨lineOffset_memLine sp i, ?_, ?_, ?_, hidx, lineOf_field sp i, ?_⟩
  · unfold memLine
    cases hI : sp.interlaced
    · simpa using hi
    · have := hil hI
      simp only [if_true]
      rcases hf with ⟨h, e, x⟩ | ⟨h, e, x⟩ <;> omega
  · intro hI
    unfold memLine
    simp only [hI, if_true]
    rcases hf with ⟨h, e, x⟩ | ⟨h, e, x⟩ <;> omega
  · intro hI
    unfold memLine
    simp [hI]
  · intro hsy hst
    rw [lineOf_field]
    simp only [hsy, hst, ne_eq, not_false_eq_true, and_self, if_true]
    have h01 : fieldHi sp.scanning 0 < fieldLo sp.scanning 1 := by
      rcases hscan with h | h <;> simp [fieldLo, fieldHi, h]
    rcases hf with ⟨h, e, x⟩ | ⟨h, e, x⟩ <;> rw [e] at hst hidx ⊢
    · have := (hr0 hst).2 hc0
      have := (hr0 hst).1
      have : sp.count 0 = sp.count0 := rfl
      have : sp.start 0 = sp.start0 := rfl
      omega
    · have := (hr1 hst).2 hc1
      have := (hr1 hst).1
      have : sp.count 1 = sp.count1 := rfl
      have : sp.start 1 = sp.start1 := rfl
      omega

/-- Different rows are stored in different memory lines (both storage orders). -/
theorem memory_lines_distinct (sp : SPar) (hil : sp.interlaced = true → sp.count0 = sp.count1) (i j : Nat)
    (hi : i < sp.scanLines) (hj : j < sp.scanLines) (h : memLine sp i = memLine sp j) : i = j := by
  unfold memLine at h
  cases hI : sp.interlaced
  · simpa [hI] using h
  · simp only [hI, if_true] at h
    rcases field_cases sp i with ⟨_, e, _⟩ | ⟨_, e, _⟩ <;> rcases field_cases sp j with ⟨_, e', _⟩ | ⟨_, e', _⟩ <;>
      rw [e, e'] at h <;> omega

/-- One call of `vbi3_raw_decoder_decode` with accepted sampling parameters, known field
    order and both start lines known: the line numbers of the returned records are strictly ascending - no further
    hypothesis (that the second field starts behind the first follows from the accepted ranges). -/
theorem lines_ascending_valid (fx : Fixes) (ti : Nat → Nat) (sp : SPar) (ops : List Op) (maxLines : Nat) (sl : Slicer)
    (hv : sp.valid = true) (hc0 : sp.count0 < 2147483648) (hsy : sp.synchronous = true) (h0 : sp.start0 ≠ 0) (h1 : sp.start1 ≠ 0) :
    List.Pairwise (· < ·) ((decodeFrame (run fx ti sp ops) maxLines sl).2.1.map (·.line)) :=
  (Zvbi.Props.C04.line_numbers_correct_ascending fx ti sp ops maxLines sl).2 hsy h0 h1
    (Zvbi.Props.C04.valid_fields_ordered sp hv h0 h1 hc0)

/-- non-vacuity: interlaced storage, rows 0..3 with count 2 + 2: memory lines 0, 2, 1, 3; ITU-R lines 21, 22, 284, 285 -/
example : (List.range 4).map (fun i => (memLine ⟨525, 1, 27000000, 1440, 0, 21, 2, 284, 2, true, true⟩ i,
    lineOf ⟨525, 1, 27000000, 1440, 0, 21, 2, 284, 2, true, true⟩ i)) = [(0, 21), (2, 22), (1, 284), (3, 285)] := by decide

/-! ## 4. services and jobs over all histories (repaired `remove_services`) -/

/-- The full statement of Props/C04.lean (false on the released code), for the repaired
    `vbi3_raw_decoder_remove_services`: after ANY history of add / remove / reset / decode calls, with any sampling
    parameters and images, `rd->services` is exactly the union of the ids of the live jobs. -/
theorem services_have_jobs : Zvbi.Props.C04.services_have_jobs_full Fixes.all := by
  intro ti sp ops
  have h := (run_jok Fixes.all rfl rfl ti sp ops).svc
  rw [foldl_or_eq]
  exact h

/-- After any history: at most 7 jobs (the merge classes of one video standard - so the
    `MAX_JOBS` (8) break of `add_services` is unreachable with the real table), every job id is non-empty, fits 32
    bits, and no two jobs share a service bit. -/
theorem job_ids_disjoint_at_most_7 (fx : Fixes) (hja : fx.jobAdvance = true) (hm : fx.merged = true) (ti : Nat → Nat)
    (sp : SPar) (ops : List Op) :
    (run fx ti sp ops).jobs.length ≤ 7 ∧ (∀ job ∈ (run fx ti sp ops).jobs, job.id ≠ 0 ∧ job.id < U32) ∧
    ((run fx ti sp ops).jobs.map (·.id)).Pairwise (fun a b => a &&& b = 0) := by
  have h := run_jok fx hja hm ti sp ops
  refine ⟨by simpa [State.ids] using h.length_le, ?_, h.pd⟩
  intro job hjob
  have hU := h.inU job.id (List.mem_map.mpr ⟨job, hjob, rfl⟩)
  exact ⟨fun h0 => T_zero_notin (h0 ▸ hU), T_U_lt _ hU⟩

/-- non-vacuity: 7 jobs on ONE line exist with the real table (625 lines, lines 7-11 sampled, strict 0: VPS, WSS and
    Caption are looked for on every line) - the bound is attained, and way 8 still holds the marker -/
example : (run Fixes.all (fun _ => 0) ⟨625, 1, 13500000, 720, 132, 7, 5, 320, 5, false, true⟩ [.add 0xffffffff 0]).jobs.length = 7 ∧
    ((run Fixes.all (fun _ => 0) ⟨625, 1, 13500000, 720, 132, 7, 5, 320, 5, false, true⟩ [.add 0xffffffff 0]).pattern.map (·.head?))
      = some (some [1, 2, 3, 4, 5, 6, 7, -128]) := by decide +kernel

/-- Repaired code, any history that did not run into the `set_params` assertion (a process
    abort in C; `no_index_error`): after `remove_services (sv)` no live job carries a bit of `sv`. -/
theorem ids_within_services (fx : Fixes) (hja : fx.jobAdvance = true) (hm : fx.merged = true) (ti : Nat → Nat)
    (sp : SPar) (ops : List Op) (sv : Nat) (herr : (run fx ti sp ops).err = none) :
    ∀ job ∈ (run fx ti sp (ops ++ [.remove sv])).jobs, job.id &&& sv = 0 := by
  intro job hjob
  rw [run_snoc] at hjob
  exact (removeServices_jok fx hja hm _ sv (run_jok fx hja hm ti sp ops) herr).2 job.id
    (List.mem_map.mpr ⟨job, hjob, rfl⟩)

example : (Zvbi.Props.C04.s3 Fixes.all [.remove 0x4]).jobs.map (·.id) = [3, 0x18] := by decide

/-- Every record returned by `decode` after any history of the repaired code carries a
    non-empty id that lies inside `rd->services` - never a service that is not (or no longer) requested. -/
theorem record_ids_within_services (fx : Fixes) (hja : fx.jobAdvance = true) (hm : fx.merged = true) (ti : Nat → Nat)
    (sp : SPar) (ops : List Op) (maxLines : Nat) (sl : Slicer) :
    ∀ r ∈ (decodeFrame (run fx ti sp ops) maxLines sl).2.1,
      r.id ≠ 0 ∧ r.id &&& (run fx ti sp ops).services = r.id := by
  intro r hr
  have hmem := Zvbi.Props.C04.right_service_only fx ti sp ops maxLines sl r hr
  have h := run_jok fx hja hm ti sp ops
  refine ⟨fun h0 => T_zero_notin (h0 ▸ h.inU r.id hmem), ?_⟩
  rw [h.svc]
  exact mem_sub_orAll hmem

/-- what /repo contains is the repaired `remove_services` (regenerated `Generated/RawdecFacts.lean`): the three theorems
    above apply to it.  Stops compiling when the repair is reverted. -/
theorem repo_is_repaired : Fixes.repo.jobAdvance = true ∧ Fixes.repo.merged = true ∧ Fixes.repo.marker = true := by decide

/-! ## what `add_services` accepts -/

/-- FULL statement (false also for the repaired code: `C04Reach.add_accepts_all_counterexample`; what holds is
    `C04Reach.add_accepts_exactly`): `add_services` never drops a service that
    `_vbi_sampling_par_check_services_log` accepts - neither the `MAX_JOBS` break nor "Out of decoder pattern space"
    (`add_job_to_pattern` returning FALSE) is reachable with the real table. -/
def add_accepts_all_full (fx : Fixes) : Prop :=
  ∀ (ti : Nat → Nat) (sp : SPar) (ops : List Op) (sv : Nat) (strict : Int),
    (run fx ti sp (ops ++ [.add sv strict])).err = none →
    (run fx ti sp (ops ++ [.add sv strict])).services =
      (run fx ti sp ops).services ||| checkServices sp (maskServices (run fx ti sp ops) sv) strict

/-- The `MAX_JOBS` break is unreachable - whenever `add_services` looks for a job slot there are at most 7 jobs, so the
    index it finds is `≤ 7 < MAX_JOBS`.  (That "Out of decoder pattern space" is unreachable as well:
    `C04Reach.rows_armed_distinct_after_every_history`.) -/
theorem add_accepts_all_partial (fx : Fixes) (hja : fx.jobAdvance = true) (hm : fx.merged = true) (ti : Nat → Nat)
    (sp : SPar) (ops : List Op) (p : Job → Bool) :
    ((run fx ti sp ops).jobs.findIdx? p).getD (run fx ti sp ops).jobs.length < maxJobs := by
  have h1 := findIdx_le p (run fx ti sp ops).jobs
  have h2 := (job_ids_disjoint_at_most_7 fx hja hm ti sp ops).1
  have : maxJobs = 8 := rfl
  omega

end Zvbi.Props.C04Bits
