import ZvbiModel.ProxyQ.Model
import ZvbiModel.ProxyQ.Spec
import ZvbiModel.ProxyQ.LemmasQueue
import ZvbiModel.ProxyQ.LemmasSpec
/-!
# C18 - each proxy client gets every captured frame, filtered to its services, in order

Two levels (see NOTES/C18.md):

* the **queue machine** (`Spec.lean`): the sliced queue and all client cursors under arbitrary histories of the
  operations the daemon performs on them, implemented by the same functions (`releaseQ`, `releaseAllQ`, ...)
  the model of the daemon calls.  The theorems named `*_partial` below are proved at this level, for all
  histories.
* the **daemon model** (`Model.lean`, `run`): sockets, messages, service negotiation, device open/close, the
  main loop.  It is what the correspondence check runs against the real daemon on every audit line.  The
  statements about it (`refcount_exact_full`, `release_assert_unreachable_full`, `each_frame_once_in_order_full`,
  `service_union_full`, `stalled_client_isolated_full`) are proved in `Props/C18Full.lean` by lifting the lemmas
  used here (`ProxyQ/Lift*.lean`).  The witnesses of the defects D1-D3 (repaired in /repo; stated as
  equivalences with the source facts the translator reads) are evaluated on the daemon model; D4 (destroy order) has none.
-/
namespace Zvbi.Props.C18
open Zvbi.ProxyQ Zvbi.Gen.ProxyQ

/-! ## refcount_exact -/

/-- Proved for all histories of the queue machine: the `ref_count` of the `j`-th newest buffer equals the number of
cursors at or before it, no cursor points outside the queue, and the head buffer is held by somebody (so a
buffer goes back to the free list exactly when its count reaches zero, and only from the head). -/
theorem refcount_exact_partial {s : QState} (h : QReach s) : QInv s.q s.bl := by
  induction h with
  | init free => exact QInv_nil [] (fun b hb => nomatch hb)
  | step op _ hs ih =>
    obtain ⟨_, hr, inv'⟩ := qstep_ok ih hs
    cases hr; exact inv'

/-- free + queued is constant under release: what leaves the queue goes to the free list -/
theorem refcount_exact_conservation {s : QState} (h : QReach s) {i : Nat} (hi : i < s.bl.length) (hp : 0 < s.bl.getD i 0) :
    ∃ q' f', releaseQ s.q s.free (s.bl.getD i 0) = .ok (q', f') ∧ q'.length + f' = s.q.length + s.free := by
  obtain ⟨⟨q', f'⟩, hr, R⟩ := releaseQ_ok s.free (refcount_exact_partial h) hi rfl hp
  exact ⟨q', f', hr, R.sum⟩

/-- non-vacuity: two clients, a frame for both, the first client sends it: count 2 -> 1, cursor moved -/
example : qstep { q := [{ frame := { seq := 0, ts := 1, lines := [] }, ref := 2 }], free := 7, bl := [1, 1] } (.release 0)
    = some (.ok { q := [{ frame := { seq := 0, ts := 1, lines := [] }, ref := 1 }], free := 7, bl := [0, 1] }) := by rfl

/-! ## release_assert_unreachable -/

/-- Proved for all histories of the queue machine: `assert (p_proxy_dev->p_sliced == p_buf)` in
`vbi_proxy_queue_release_sliced` cannot fire, no cursor is dangling and no NULL cursor is released - for a
single release (after a frame was sent, or inside force_free) and for the release loops of a service request
and a disconnect. -/
theorem release_assert_unreachable_partial {s : QState} (h : QReach s) (op : QOp) (e : Err) :
    qstep s op ≠ some (.error e) := by
  intro he
  obtain ⟨_, hr, _⟩ := qstep_ok (refcount_exact_partial h) he
  cases hr

/-- the same as a statement about the C function itself: whenever the invariant holds and the client's cursor
is not NULL, release_sliced succeeds -/
theorem release_sliced_succeeds {q : List QElem} {bl : List Nat} {i : Nat} (free : Nat) (inv : QInv q bl)
    (hi : i < bl.length) (hp : 0 < bl.getD i 0) : ∃ r, releaseQ q free (bl.getD i 0) = .ok r := by
  obtain ⟨⟨q', f'⟩, hr, _⟩ := releaseQ_ok free inv hi rfl hp
  exact ⟨(q', f'), hr⟩

/-- non-vacuity of the assertion site: WITHOUT the invariant it does fire (second buffer released to zero while
the head is still held) -/
example : releaseQ [{ frame := default, ref := 1 }, { frame := default, ref := 1 }] 0 1 = .error (.assertFail .releaseHead) := by
  rfl

def demoCfg : Cfg := { scanning := 625, supp := fun _ => 0xFFFF, count := fun _ => 3 }

def handshake : List Op := [.conn 1 1 0, .credit 0 100000, .iter, .iter, .iter, .iter]

/-- COUNTEREXAMPLE (genuine defect D1, replay corpus/C18/assert-line-count.ops): the other assertion,
`assert (p_buf->line_count < p_buf->max_lines)`, fires for a frame with exactly count[0]+count[1] lines - which
the capture interface allows and the buffer holds.  Stated as an equivalence with the generated source fact so
that it stays true when the assertion is repaired to `<=`. -/
theorem line_count_assert_counterexample :
    (match run demoCfg init (handshake ++ [.cap 1000 [⟨1, 7, 1⟩, ⟨1, 8, 2⟩, ⟨1, 9, 3⟩] true, .iter]) with
     | .error (.assertFail .lineCount) => true
     | _ => false) = assertLineCountStrict := by
  decide +kernel

/-! ## each_frame_once_in_order -/

/-- Proved at the queue level: a release by a client takes exactly the OLDEST frame still pending for it and
leaves the others, in order (FIFO, one at a time, nothing skipped, nothing repeated) ... -/
theorem each_frame_once_in_order_partial {s : QState} (h : QReach s) {i : Nat} (hi : i < s.bl.length)
    (hp : 0 < s.bl.getD i 0) :
    ∃ q' f', releaseQ s.q s.free (s.bl.getD i 0) = .ok (q', f') ∧
      pendingOf q' (s.bl.getD i 0 - 1) = (pendingOf s.q (s.bl.getD i 0)).take (s.bl.getD i 0 - 1) := by
  obtain ⟨⟨q', f'⟩, hr, R⟩ := releaseQ_ok s.free (refcount_exact_partial h) hi rfl hp
  refine ⟨q', f', hr, ?_⟩
  rw [pendingOf_of_prefix R.frames (R.inv.bound _ (List.mem_set hi _))]
  unfold pendingOf
  rw [← List.map_take, List.take_take, Nat.min_eq_left (Nat.sub_le _ _)]

/-- ... and a captured frame is put in front of (newer than) the pending frames of exactly the subscribed clients -/
theorem each_frame_enqueued_once (q : List QElem) (fr : Frame) (n b : Nat) :
    pendingOf ({ frame := fr, ref := n } :: q) (b + 1) = fr :: pendingOf q b := by
  simp [pendingOf]

/-! ## filter_exact -/

/-- Proved for the filter that bounds the frame index (`filterBoundsInput = true`, the code before 610a7a4): the
indication carries exactly the captured lines of the granted services, in
order - PROVIDED the frame has no more lines than the client's `vbi_count` snapshot. -/
theorem filter_exact_partial (maxLines granted : Nat) (lines : List Line) (h : lines.length ≤ maxLines) :
    filterLinesWith true maxLines granted lines = specLines granted lines := by
  simp [filterLinesWith, specLines, List.take_of_length_le h]

/-- COUNTEREXAMPLE (genuine defect D3, replay corpus/C18/filter-truncation.ops): the client was granted service
0x400 when the device delivered 3 lines per frame; another client widened the window; the 0x400 line at index 4
is not delivered. -/
theorem filter_exact_counterexample :
    filterLinesWith true 3 0x400 [⟨1, 7, 1⟩, ⟨2, 8, 2⟩, ⟨1, 9, 3⟩, ⟨2, 10, 4⟩, ⟨0x400, 23, 5⟩] = [] ∧
    specLines 0x400 [⟨1, 7, 1⟩, ⟨2, 8, 2⟩, ⟨1, 9, 3⟩, ⟨2, 10, 4⟩, ⟨0x400, 23, 5⟩] = [⟨0x400, 23, 5⟩] := by
  decide

/-- the proposed repair (bound the lines copied, not the index): exact whenever the client's own lines fit its buffer -/
theorem filter_exact_repaired (maxLines granted : Nat) (lines : List Line) (h : (specLines granted lines).length ≤ maxLines) :
    filterLinesWith false maxLines granted lines = specLines granted lines := by
  simp only [filterLinesWith, specLines] at *
  simp [List.take_of_length_le h]

example : filterLinesWith true 9 6 [⟨1, 7, 1⟩, ⟨2, 8, 2⟩, ⟨4, 9, 3⟩] = [⟨2, 8, 2⟩, ⟨4, 9, 3⟩] := by decide

/-! ## stalled_client_isolated / service_change_may_drop_only_own_queued -/

/-- Proved at the queue level (one-run form): whatever client `i` releases - one buffer in force_free because it
stalled, or everything on its own service request or disconnect - every OTHER client keeps its cursor and exactly
the frames that were pending for it, in order. -/
theorem stalled_client_isolated_partial {s s' : QState} (h : QReach s) {i : Nat}
    (hs : qstep s (.release i) = some (.ok s')) :
    ∀ j, j ≠ i → j < s.bl.length → s'.bl.getD j 0 = s.bl.getD j 0 ∧
      pendingOf s'.q (s'.bl.getD j 0) = pendingOf s.q (s.bl.getD j 0) := by
  intro j hj hjl
  obtain ⟨hc, hs⟩ := of_ite_some hs
  obtain ⟨r, hr, R⟩ := releaseQ_ok s.free (refcount_exact_partial h) hc.1 rfl hc.2
  rw [hr] at hs; cases hs
  exact others_keep R hj hjl

/-- `service_change_may_drop_only_own_queued` (queue level, all histories): the flush of client `i`'s queue on its
SERVICE_REQ (and on its disconnect) drops only frames queued for `i`: every other client keeps its cursor and
its pending frames. -/
theorem service_change_may_drop_only_own_queued {s s' : QState} (h : QReach s) {i : Nat}
    (hs : qstep s (.releaseAll i) = some (.ok s')) :
    s'.bl.getD i 0 = 0 ∧ ∀ j, j ≠ i → j < s.bl.length → s'.bl.getD j 0 = s.bl.getD j 0 ∧
      pendingOf s'.q (s'.bl.getD j 0) = pendingOf s.q (s.bl.getD j 0) := by
  obtain ⟨hc, hs⟩ := of_ite_some hs
  obtain ⟨r, hr, R⟩ := releaseAllQ_ok _ s.free (refcount_exact_partial h) hc rfl
  rw [hr] at hs; cases hs
  exact ⟨getD_set_self hc, fun j hj hjl => others_keep R hj hjl⟩

/-- non-vacuity: client 0 flushes its two queued frames, client 1 keeps its cursor on the newest one -/
example : qstep { q := [{ frame := { seq := 1, ts := 2, lines := [] }, ref := 2 }, { frame := { seq := 0, ts := 1, lines := [] }, ref := 1 }],
                  free := 6, bl := [2, 1] } (.releaseAll 0)
    = some (.ok { q := [{ frame := { seq := 1, ts := 2, lines := [] }, ref := 1 }], free := 7, bl := [0, 1] }) := by rfl

/-- twelve one-line frames, client 0 stalled right after the handshake, client 1 one frame ahead -/
def ffWitness : List Op :=
  [.conn 1 1 0, .credit 0 1040, .conn 1 1 0, .credit 1 1128, .iter, .iter, .iter, .iter, .iter, .iter] ++
  (List.range 12).flatMap (fun i => [Op.cap (1000 * (i + 1)) [⟨1, 7, i⟩] false, Op.iter])

/-- what is observed of the state `ffWitness` ends in: both clients are there and the queue is full; client 0 has
lost exactly frame 1, to an overflow that found it ten frames behind; client 1 has lost nothing (two frames sent, ten
queued) - unless force_free re-reads the queue head, in which case it has lost frame 2 -/
def ffObserved (s : State) : Bool :=
  (s.clients.any (fun c => c.id == 1 && c.done.any (fun x => x.1.seq == 2 && (match x.2 with | .overflow _ => true | _ => false)))
    == forceFreeLiveHead) &&
  (s.clients.length == 2 && s.dev.q.length == 10 && s.dev.free == 0 &&
    s.clients.any (fun c => c.done.any (fun x => match x.2 with | .overflow _ => true | _ => false))) &&
  (s.clients.any (fun c => c.id == 1 && c.expected.map (·.seq) == (List.range 12).reverse &&
      c.done.all (fun x => x.2 == Fate.sent) && c.backlog == 10) &&
    s.clients.any (fun c => c.id == 0 &&
      (c.done.filter (fun x => match x.2 with | .overflow 10 => true | _ => false)).map (·.1.seq) == [1]))

theorem ffWitness_run : ∃ s, run demoCfg init ffWitness = .ok s ∧ ffObserved s = true := by
  have h : (match run demoCfg init ffWitness with | .ok s => ffObserved s | .error _ => false) = true := by
    decide +kernel
  cases hr : run demoCfg init ffWitness with
  | error e => rw [hr] at h; cases h
  | ok s => rw [hr] at h; exact ⟨s, rfl, h⟩

/-- COUNTEREXAMPLE (genuine defect D2, replay corpus/C18/force-free-second.ops): in the code before 5eee39a, which
re-read the queue head inside the loop of `vbi_proxy_queue_force_free`, client 1 - one frame AHEAD of the stalled
client 0, never lagging by the whole queue - loses frame 2 to the overflow caused by client 0.  Equivalence with
the generated source fact `forceFreeLiveHead`, so that it holds for either shape of the loop. -/
theorem stalled_client_isolated_counterexample :
    (match run demoCfg init ffWitness with
     | .ok s => s.clients.any (fun c => c.id == 1 && c.done.any (fun x => x.1.seq == 2 && (match x.2 with | .overflow _ => true | _ => false)))
     | .error _ => false) = forceFreeLiveHead := by
  obtain ⟨s, hr, ho⟩ := ffWitness_run
  rw [hr]
  exact eq_of_beq (Bool.and_eq_true_iff.mp (Bool.and_eq_true_iff.mp ho).1).1

/-! ## service_union -/

/-- Proved: the grant the daemon computes for a client does not change when the daemon masks the client's stored
requests with what was granted (the `&=` after `vbi_capture_update_services`), level by level - so recomputing the
grants of the OTHER clients on somebody's service change gives them the same services again. -/
theorem service_union_partial (a supp : Nat) : (a &&& (a &&& supp)) &&& supp = a &&& supp :=
  and_and_self a supp

/-- the witness history: two clients, services 1 and 4|2 at different strictness, device opened for the union,
closed when both have left -/
theorem service_union_witness :
    (match run demoCfg init [.conn 1 1 0, .credit 0 100000, .conn 6 2 0, .credit 1 100000, .iter, .iter, .iter, .iter] with
     | .ok s => s.dev.opened && s.dev.allServices == 7
     | .error _ => false) = true ∧
    (match run demoCfg init [.conn 1 1 0, .credit 0 100000, .conn 6 2 0, .credit 1 100000, .iter, .iter, .iter, .iter,
        .close 0, .iter, .close 1, .iter, .iter] with
     | .ok s => !s.dev.opened && s.clients.isEmpty
     | .error _ => false) = true := by
  decide +kernel

end Zvbi.Props.C18
