import ZvbiModel.Search.DirPasses
import ZvbiModel.Search.Witnesses
/-!
# C17, whole-pass exactness: REPEATED `vbi_search_next` calls in forward direction

`Props/C17.lean` proves the property per call (first call of a pass exactly; SUCCESS soundness of any forward call).
Here: over ANY number of successive forward calls on an unchanging cache (what changes between the calls is the order
of the hash chains - `next_cache_equiv` - and the search context: start position = page returned last, cursor behind the
occurrence highlighted), up to the first answer that is not SUCCESS,

* `search_pass_sound`: every page reported contains the pattern (whole text, independent of the cursor),
* `search_pass_complete`: when that answer comes (NOT_FOUND), every cached level one page of a valid page number that
  contains the pattern has been reported,
* `search_pass_ordered`: the pages are reported in ascending pass order (`passRank`: ascending (page, sub-page) from the
  start position, wrapping once) - so the reports of one page (one per occurrence) are consecutive and no page comes back
  later: "each once, in walk order, then NOT_FOUND",
* `search_exact_pass` = the three together = `Zvbi.Search.search_exact_full` with the hypotheses it needs spelled out
  (below), `search_exact_pass_repaired` the same on the repaired source shapes with no exclusion left,
  `search_exact_pass_current` on the shapes the translators read from /repo on this run.

Hypotheses, and why `search_exact_full` as recorded in Search/Spec.lean is not literally what is proved:
* `NoWrap` (fewer than 65536 cached pages per page number: finding C17-D2 / F17) for the store shape as found; a theorem
  for the repaired store (`fix = true`).
* the pages of `search_pass_complete` have a page number in 0x100..0x8FF (`PgOk`): the model's store accepts any page
  number (`PutOp.pgno : Nat`), the walk visits 0x100..0x8FF only, the Teletext decoder stores nothing else; the recorded
  `def` forgot that restriction and is false for a page stored under number 5.
* start sub-page number `0 <= S <= 0xFFFF` (includes VBI_ANY_SUBNO).
* finding C17-D7: in the source shape `startExact = false` no cached page has sub-page number 0x3F7F (a continued call
  would look its start position up with the wildcard); void in the repaired shape.
* no hypothesis on the matcher (`exec` arbitrary, may even return empty matches).
Backward passes and direction changes: Props/C17PassRev.lean.

`fwd_continue_bol_counterexample`: finding C17-D8 (the flags `search_page_fwd` hands to ure_exec).
-/
namespace Zvbi.Props.C17Pass
open Zvbi.Search

/-- **next_cache_equiv.** Whatever `vbi_search_next` is asked (any direction, any context, any matcher, any fuel), the
cache it leaves behind has the statistics of the cache it got and answers every exact look-up alike: only the order of
the hash chains changes (most recently used first).  This is what lets the per-call theorems be chained. -/
theorem next_cache_equiv (sh : Shape) (exec : Exec) (fuel : Nat) (c : Cache) (s : SearchSt) (d : Int) :
    Equiv c (searchNext sh exec fuel c s d).cache ∧
    ∀ p sub : Int, lookupX (searchNext sh exec fuel c s d).cache p sub = lookupX c p sub :=
  ⟨searchNext_cache_equiv sh exec fuel c c s d (Equiv.refl c),
   fun p sub => lookupX_equiv (searchNext_cache_equiv sh exec fuel c c s d (Equiv.refl c)) p sub⟩

example : lookupX (searchNext Shape.repaired exAb 50 (buildF true [⟨0x100, 0, 0, abPage⟩]) {} 1).cache 0x100 0 =
    lookupX (buildF true [⟨0x100, 0, 0, abPage⟩]) 0x100 0 := (next_cache_equiv _ _ _ _ _ _).2 _ _

/-- **search_pass_sound.** (whole pass, first conjunct of `search_exact_full`)  A fresh forward search on any reachable
cache (either store shape, `NoWrap` = exclusion of C17-D2), any number `n` of successive `vbi_search_next (.., +1)`
calls: every page reported before the first answer other than SUCCESS is a cached level one page whose displayed text
contains the pattern (the matcher accepts the WHOLE text, although a continued call only searched behind the cursor).
Any matcher, any source shape of the D7 statements. -/
theorem search_pass_sound (fix : Bool) (sh : Shape) (exec : Exec) (ops : List PutOp) (P S : Int) (s0 : SearchSt) (n : Nat)
    (hops : ∀ o ∈ ops, o.subno ≤ 0x3F7F) (hnw : NoWrap (buildF fix ops)) (hP : PgOk P) (hS : 0 ≤ S ∧ S ≤ 0xFFFF)
    (hnew : searchNew P S 1 = some s0) :
    ∀ r ∈ (runNexts sh exec (buildF fix ops) s0 (List.replicate n 1)).takeWhile (fun r => r.1 = .ret SEARCH_SUCCESS),
      Matches exec (buildF fix ops) r.2.1 r.2.2 :=
  (Dir.fresh_pass .fwd sh exec (reach_buildF fix ops hops hnw) P S s0 n hP hS hnew).sound

/-- **search_pass_complete.** (whole pass, second conjunct)  Same setting: when one of the `n` calls answers something
other than SUCCESS (that is NOT_FOUND, or CACHE_EMPTY on an empty cache), every cached level one page with a page number
in 0x100..0x8FF whose text contains the pattern is among the pages reported before.  `hany` = exclusion of finding
C17-D7 in the unrepaired shape (void when `sh.startExact`). -/
theorem search_pass_complete (fix : Bool) (sh : Shape) (exec : Exec) (ops : List PutOp) (P S : Int) (s0 : SearchSt) (n : Nat)
    (hops : ∀ o ∈ ops, o.subno ≤ 0x3F7F) (hnw : NoWrap (buildF fix ops)) (hP : PgOk P) (hS : 0 ≤ S ∧ S ≤ 0xFFFF)
    (hany : sh.startExact = true ∨ ∀ p, ∀ e ∈ ((buildF fix ops).slots p).chain, (e.subno : Int) ≠ ANY_SUBNO)
    (hnew : searchNew P S 1 = some s0)
    (hlen : ((runNexts sh exec (buildF fix ops) s0 (List.replicate n 1)).takeWhile
      (fun r => r.1 = .ret SEARCH_SUCCESS)).length < n) :
    ∀ p s : Nat, PgOk p → Matches exec (buildF fix ops) p s →
      ∃ r ∈ (runNexts sh exec (buildF fix ops) s0 (List.replicate n 1)).takeWhile (fun r => r.1 = .ret SEARCH_SUCCESS),
        r.2 = (p, s) :=
  fun p s hp hm => (Dir.fresh_pass .fwd sh exec (reach_buildF fix ops hops hnw) P S s0 n hP hS hnew).complete hany hlen p s hp hm trivial

/-- **search_pass_ordered.** (whole pass, order)  Same setting: the pages reported before the first answer other than
SUCCESS come in ascending pass order (ascending (page, sub-page) from the start position, wrapping once behind 8FF);
equal ranks are the same page (one report per occurrence), so every page is reported in one block and never again. -/
theorem search_pass_ordered (fix : Bool) (sh : Shape) (exec : Exec) (ops : List PutOp) (P S : Int) (s0 : SearchSt) (n : Nat)
    (hops : ∀ o ∈ ops, o.subno ≤ 0x3F7F) (hnw : NoWrap (buildF fix ops)) (hP : PgOk P) (hS : 0 ≤ S ∧ S ≤ 0xFFFF)
    (hany : sh.startExact = true ∨ ∀ p, ∀ e ∈ ((buildF fix ops).slots p).chain, (e.subno : Int) ≠ ANY_SUBNO)
    (hnew : searchNew P S 1 = some s0) :
    (((runNexts sh exec (buildF fix ops) s0 (List.replicate n 1)).takeWhile (fun r => r.1 = .ret SEARCH_SUCCESS)).map
      (fun r => passRank P (if S = ANY_SUBNO then 0 else S) r.2.1 r.2.2)).Pairwise (· ≤ ·) := by
  have h := (Dir.fresh_pass .fwd sh exec (reach_buildF fix ops hops hnw) P S s0 n hP hS hnew).ordered hany
  simp only [Dir.rank_fwd] at h
  exact h

/-- **search_exact_pass.** (= `Zvbi.Search.search_exact_full` with its hypotheses spelled out; forward direction)
Over any number of successive forward `vbi_search_next` calls on an unchanging reachable cache: the pages reported are
exactly the matching pages, in pass order, each in one block of consecutive reports, then NOT_FOUND. -/
theorem search_exact_pass (fix : Bool) (sh : Shape) (exec : Exec) (ops : List PutOp) (P S : Int) (s0 : SearchSt) (n : Nat)
    (hops : ∀ o ∈ ops, o.subno ≤ 0x3F7F) (hnw : NoWrap (buildF fix ops)) (hP : PgOk P) (hS : 0 ≤ S ∧ S ≤ 0xFFFF)
    (hany : sh.startExact = true ∨ ∀ p, ∀ e ∈ ((buildF fix ops).slots p).chain, (e.subno : Int) ≠ ANY_SUBNO)
    (hnew : searchNew P S 1 = some s0) :
    let c := buildF fix ops
    let pass := (runNexts sh exec c s0 (List.replicate n 1)).takeWhile (fun r => r.1 = .ret SEARCH_SUCCESS)
    (∀ r ∈ pass, Matches exec c r.2.1 r.2.2) ∧
    (pass.length < n → ∀ p s : Nat, PgOk p → Matches exec c p s → ∃ r ∈ pass, r.2 = (p, s)) ∧
    (pass.map (fun r => passRank P (if S = ANY_SUBNO then 0 else S) r.2.1 r.2.2)).Pairwise (· ≤ ·) :=
  ⟨search_pass_sound fix sh exec ops P S s0 n hops hnw hP hS hnew,
   search_pass_complete fix sh exec ops P S s0 n hops hnw hP hS hany hnew,
   search_pass_ordered fix sh exec ops P S s0 n hops hnw hP hS hany hnew⟩

/-- **search_exact_pass_repaired.** The same on the repaired source shapes (store: fixes/C10-put-replaces-all-versions.diff,
walk start / turn: fixes/C17-turn-3f7f.diff - both applied in /repo): after EVERY history of page stores, no exclusion. -/
theorem search_exact_pass_repaired (exec : Exec) (ops : List PutOp) (P S : Int) (s0 : SearchSt) (n : Nat)
    (hops : ∀ o ∈ ops, o.subno ≤ 0x3F7F) (hP : PgOk P) (hS : 0 ≤ S ∧ S ≤ 0xFFFF) (hnew : searchNew P S 1 = some s0) :
    let c := buildF true ops
    let pass := (runNexts Shape.repaired exec c s0 (List.replicate n 1)).takeWhile (fun r => r.1 = .ret SEARCH_SUCCESS)
    (∀ r ∈ pass, Matches exec c r.2.1 r.2.2) ∧
    (pass.length < n → ∀ p s : Nat, PgOk p → Matches exec c p s → ∃ r ∈ pass, r.2 = (p, s)) ∧
    (pass.map (fun r => passRank P (if S = ANY_SUBNO then 0 else S) r.2.1 r.2.2)).Pairwise (· ≤ ·) :=
  search_exact_pass true Shape.repaired exec ops P S s0 n hops (noWrap_repaired ops) hP hS (Or.inl rfl) hnew

/-- **search_exact_pass_current.** The same for the source shapes of the CURRENT /repo, as the translators read them on
this run (`Shape.current`: translate/gen_search.py; store: `Zvbi.Gen.Cache.putReplacesAllVersions`, translate/gen_cache.py -
what `Driver/Search.lean` runs against the real code).  An exclusion is a hypothesis only while the corresponding repair
is not in the source: `NoWrap` (C17-D2) while the store is as found, "no cached page with sub-code 0x3F7F" (C17-D7) while
the walk looks its start position up with the wildcard.  Proved without looking at the generated values. -/
theorem search_exact_pass_current (exec : Exec) (ops : List PutOp) (P S : Int) (s0 : SearchSt) (n : Nat)
    (hops : ∀ o ∈ ops, o.subno ≤ 0x3F7F) (hP : PgOk P) (hS : 0 ≤ S ∧ S ≤ 0xFFFF)
    (hnw : Zvbi.Gen.Cache.putReplacesAllVersions = false → NoWrap (buildF Zvbi.Gen.Cache.putReplacesAllVersions ops))
    (hany : Shape.current.startExact = false →
      ∀ p, ∀ e ∈ ((buildF Zvbi.Gen.Cache.putReplacesAllVersions ops).slots p).chain, (e.subno : Int) ≠ ANY_SUBNO)
    (hnew : searchNew P S 1 = some s0) :
    let c := buildF Zvbi.Gen.Cache.putReplacesAllVersions ops
    let pass := (runNexts Shape.current exec c s0 (List.replicate n 1)).takeWhile (fun r => r.1 = .ret SEARCH_SUCCESS)
    (∀ r ∈ pass, Matches exec c r.2.1 r.2.2) ∧
    (pass.length < n → ∀ p s : Nat, PgOk p → Matches exec c p s → ∃ r ∈ pass, r.2 = (p, s)) ∧
    (pass.map (fun r => passRank P (if S = ANY_SUBNO then 0 else S) r.2.1 r.2.2)).Pairwise (· ≤ ·) :=
  search_exact_pass _ Shape.current exec ops P S s0 n hops (noWrapF_of _ ops hnw) hP hS (noAnyCached_of _ hany) hnew

/-- non-vacuity: a search on a two page cache, five calls -/
example : ∀ r ∈ (runNexts Shape.repaired exAb (buildF true [⟨0x100, 0, 0, abPage⟩, ⟨0x101, 0, 0, abPage⟩])
      { stopPgno0 := 0x100, stopSubno0 := 0, stopPgno1 := 0x8FF, stopSubno1 := 0x3F7E } (List.replicate 5 1)).takeWhile
        (fun r => r.1 = .ret SEARCH_SUCCESS),
    Matches exAb (buildF true [⟨0x100, 0, 0, abPage⟩, ⟨0x101, 0, 0, abPage⟩]) r.2.1 r.2.2 :=
  (search_exact_pass_repaired exAb _ 0x100 0 _ 5 (by decide) ⟨by decide, by decide⟩ ⟨by decide, by decide⟩ rfl).1

/-! ## finding C17-D8: the flags of `search_page_fwd` -/

/-- **fwd_continue_bol_counterexample.** (finding C17-D8, replay corpus/C17/D8-fwd-continue-bol.ops)  A forward search
that continues on the page of the previous hit hands the matcher the text from the cursor - here from column 2 of row 1,
in the middle of the row - with the flags 0: the matcher, which would refuse under URE_NOTBOL, accepts "mm" as standing
at a line start, and the page is reported again with columns 2-3 highlighted.  (`search_page_fwd` sets `flags =
URE_NOTBOL` behind every character and `flags = 0` behind every row separator while it builds the haystack, so at the
call the variable describes the end of the haystack, not the position `first`.) -/
theorem fwd_continue_bol_counterexample :
    (hayFwd bolPage.text 1 2).2 = 2 ∧
    ((pageFwd Shape.repaired bolSpy bolCtx 0x100 bolPage false).1, (pageFwd Shape.repaired bolSpy bolCtx 0x100 bolPage false).2.hl) = (1, [(1, 2), (1, 3)]) ∧
    (∀ t, bolSpy { notBol := true } t = none) := by
  rw [hayFwd_eq, pageFwd_eq, foundFwd_lin, ← and_assoc]
  exact ⟨by decide +kernel, bolSpy_notbol⟩

end Zvbi.Props.C17Pass
