import ZvbiModel.Mux.TsJoin
import ZvbiModel.Mux.NullCor
import ZvbiModel.Props.C06Join
/-!
# C06 / C07 joined, TS mode - `mux_demux_roundtrip_ts`

Property theorems only.  Models: `Mux/Model.lean` (src/dvb_mux.c, TS packetiser of `vbi_dvb_mux_feed`),
`Demux/Ts.lean` (src/dvb_demux.c `demux_ts_packet`, `ts_pes_packet_complete`); helper lemmas:
`Demux/TsJoin{Packet,Stream,Pes,All}.lean`, `Mux/TsJoin.lean`.

The round trip through `_vbi_dvb_ts_demux_new (pid)`: TS mode, every history of accepted / rejected frames
and configuration changes from ANY continuity counter, the output cut into 188-byte packets, packets the
demultiplexer has to pass over (`Foreign`: another PID - null packets included -, or the same PID with an
adaptation field only) interleaved at arbitrary packet boundaries, the resulting byte stream cut into feed
calls in ANY way.  Excluded frames are those of `Props/C06Join.lean` (`Separable`).  The source shape needs
`cfg.tsCompletesInHeader = true`, the shape of /repo (fix dvb-demux-ts-first-packet, F30); without it the
first frame is lost when its PES packet is one TS packet (`ts_roundtrip_needs_f30_fix`).

Which starts occur, and all are covered: a new demultiplexer searches for the sync byte with 197 bytes of
look-ahead, finds it at offset 0 of the first packet (own or foreign; confirmed by the sync byte of the second
packet), and does not know the continuity counter (`ts_continuity = -1`); the first packet of the PID it sees is
the first TS packet of the first accepted frame's PES packet: payload_unit_start_indicator 1, counter `m.cc mod 16` -
0 after `vbi_dvb_ts_mux_new`, any of the 16 values after `vbi_dvb_mux_reset` or an earlier history (`m.cc`
is universally quantified; `C07.ts_unknown_counter_accepts_any`).  Later packets carry payload_unit_start exactly
at PES packet starts and counters consecutive modulo 16 (`C06.ts_continuity`), across frames, rejected frames and
configuration changes.
-/
namespace Zvbi.Props.C06Ts
open Zvbi.Mux Zvbi.Mux.EnParse
open Zvbi.Demux (SrcCfg TsSt FrameOut tsFeed tsFeedAll Merge Foreign TsPkt V mkAt Holds outOf Sep)
open Zvbi.Props.C06Join (exLine exOps)

/-- An intact TS packet (188 bytes, sync byte) without transport_error_indicator
whose PID is not the demultiplexer's - whatever its payload_unit_start, scrambling bits, adaptation field,
continuity counter and payload are (sync bytes and PES start codes in the payload included) - read in sync at a TS
packet boundary delivers nothing and changes nothing: frame under assembly, PES bytes collected, bytes to go,
expected counter are kept; the demultiplexer is at the next packet boundary. -/
theorem ts_foreign_pid_ignored (cfg : SrcCfg) (pid : Nat) (v : V) (p : Bytes) (hp : TsPkt p)
    (htei : p.getD 1 0 &&& 0x80 = 0) (hpid : (p.getD 1 0 * 256 + p.getD 2 0) &&& 0x1FFF ≠ pid) :
    Foreign pid p ∧ tsFeed cfg (mkAt pid v []) p = { st := mkAt pid v [], frames := [] } := by
  have hf := Zvbi.Demux.foreign_of_pid pid p hp htei hpid
  have := Zvbi.Demux.feed_at (cfg := cfg) pid v v p [] 0 hp.1 hp.2 (by omega) (.skip v p hf.2)
  exact ⟨hf, by simpa using this⟩

/-- a null packet (PID 0x1FFF, payload_unit_start set, "scrambled", adaptation field + payload) full of sync bytes -/
def nullPkt : Bytes := [0x47, 0x5F, 0xFF, 0xFC] ++ List.replicate 184 0x47
theorem nullPkt_tsPkt : TsPkt nullPkt := ⟨by rw [nullPkt, List.length_append, List.length_replicate]; rfl, rfl⟩
example : Foreign 0x123 nullPkt := Zvbi.Demux.foreign_of_pid 0x123 nullPkt nullPkt_tsPkt (by decide) (by decide)

/-- For every multiplexer in a reachable configuration in TS mode
(`vbi_dvb_ts_mux_new (pid)`: PID 0x10..0x1FFE; ANY continuity counter `m.cc`), every history `ops` of frames
(accepted or rejected; well-formed `vbi_sliced`, no raw line requests) and configuration changes whose accepted
frames are `Separable`, the output cut into its 188-byte packets `pkts`, EVERY interleaving `xs` of `pkts` with
`Foreign` packets, EVERY partition `chunks` of the resulting stream into `vbi_dvb_demux_feed` calls (single
bytes, empty buffers included), a demultiplexer for the same PID whose source has fix dvb-demux-ts-first-packet:
it delivers exactly the accepted frames but the last - from the FIRST frame on -, in order, one callback each,
with PTS mod 2^33 and the lines in order with service id, line number and payload bits; when the stream has at
least two TS packets it ends in sync at a TS packet boundary, waiting for a PES packet start, holding the last
frame complete with its PTS.  (No call faults: `C07.ts_garbage_safe`, for all inputs.) -/
theorem mux_demux_roundtrip_ts (cfg : SrcCfg) (hflag : cfg.tsCompletesInHeader = true) (m : Mux) (hc : CfgOK m.cfg)
    (hp : m.cfg.pid ≠ 0) (hp2 : m.cfg.pid < 0x2000)
    (ops : List Op) (hops : ∀ op ∈ ops, Op.OK op) (hsep : Separable (run m ops).2.2)
    (pkts : List Bytes) (h188 : ∀ p ∈ pkts, p.length = 188) (hfl : pkts.flatten = (run m ops).2.1)
    (xs : List Bytes) (hm : Merge m.cfg.pid pkts xs)
    (chunks : List Bytes) (hch : chunks.flatten = xs.flatten) :
    (tsFeedAll cfg (TsSt.init m.cfg.pid) chunks).2 = (run m ops).2.2.dropLast.map received
    ∧ (2 ≤ xs.length → ∃ v', (tsFeedAll cfg (TsSt.init m.cfg.pid) chunks).1 = mkAt m.cfg.pid v' [] ∧ v'.todo = 0
        ∧ ∀ hne : (run m ops).2.2 ≠ [],
            Holds v'.fs ((run m ops).2.2.getLast hne).pts ((run m ops).2.2.getLast hne).lines) := by
  obtain ⟨pks, hparse, hbytes, hout, hcont⟩ := ts_history_packets ops hops m hc hp
  have hS : Sep cfg (pks.map fun x => x.2.lines) := by
    have := run_sep (cfg := cfg) ops hops m hsep
    rwa [← hcont, List.map_map] at this
  have hpk : pkts = Zvbi.Demux.tsAll m.cfg.pid m.cc (pks.map Prod.fst) :=
    flatten_188_inj _ _ h188 (fun x hx => (Zvbi.Demux.tsAll_tsPkt m.cfg.pid pks m.cc hparse x hx).1) (by rw [hfl, hout])
  rw [hpk] at hm
  obtain ⟨hfr, hst⟩ := Zvbi.Demux.ts_stream_frames (cfg := cfg) hflag m.cfg.pid hp2 pks m.cc xs hparse hbytes hS hm
  have hall := Zvbi.Demux.tsFeedAll_flatten (cfg := cfg) chunks (TsSt.init m.cfg.pid) (Zvbi.Demux.TsInv_init _)
  rw [hch] at hall
  have hsnd : (pks.map Prod.snd).map Pes.content = (run m ops).2.2 := by rw [← hcont, List.map_map]; rfl
  refine ⟨?_, ?_⟩
  · rw [hall]
    show (tsFeed cfg (TsSt.init m.cfg.pid) xs.flatten).frames = _
    have e : ∀ l : List Pes, l.dropLast.map outOf = (l.map Pes.content).dropLast.map received := by
      intro l; rw [← List.map_dropLast, List.map_map]; rfl
    rw [hfr, e, hsnd]
  · intro h2
    obtain ⟨v', h1, h0, hh⟩ := hst h2
    refine ⟨v', by rw [hall]; exact h1, h0, ?_⟩
    intro hne
    obtain ⟨hpne, hlast⟩ := getLast_content hsnd hne
    rw [← hlast]
    exact hh hpne

/-- the same for a multiplexer as `vbi_dvb_ts_mux_new (pid)` returns it (counter 0) -/
theorem mux_demux_roundtrip_ts_new (cfg : SrcCfg) (hflag : cfg.tsCompletesInHeader = true) (pid : Nat) (m : Mux)
    (hnew : newTs pid = some m) (ops : List Op) (hops : ∀ op ∈ ops, Op.OK op) (hsep : Separable (run m ops).2.2)
    (pkts : List Bytes) (h188 : ∀ p ∈ pkts, p.length = 188) (hfl : pkts.flatten = (run m ops).2.1)
    (xs : List Bytes) (hm : Merge pid pkts xs) (chunks : List Bytes) (hch : chunks.flatten = xs.flatten) :
    (tsFeedAll cfg (TsSt.init pid) chunks).2 = (run m ops).2.2.dropLast.map received := by
  have hc := cfgOK_newTs pid m hnew
  obtain ⟨rfl, _, _⟩ := newTs_some pid m hnew
  exact (mux_demux_roundtrip_ts cfg hflag _ hc (by show pid ≠ 0; omega) (by show pid < 0x2000; omega) ops hops hsep pkts h188 hfl xs hm
    chunks hch).1

/-! non-vacuity: a TS multiplexer, the history `exOps` of `Props/C06Join.lean` (five frames, one configuration change) -/

/-- `vbi_dvb_ts_mux_new (0x123)` -/
def exMux : Mux := { cfg := { pid := 0x123 } }
/-- the same after a history that left the counter at 14 (e.g. `vbi_dvb_mux_reset` from 15) -/
def exMux14 : Mux := { cfg := { pid := 0x123 }, cc := 14 }
/-- an adaptation-field-only packet of the multiplexer's own PID -/
def afPkt : Bytes := [0x47, 0x01, 0x23, 0x27] ++ List.replicate 184 0xBD
theorem afPkt_foreign : Foreign 0x123 afPkt := ⟨⟨by rw [afPkt, List.length_append, List.length_replicate]; rfl, rfl⟩, by decide⟩
theorem nullPkt_foreign : Foreign 0x123 nullPkt :=
  Zvbi.Demux.foreign_of_pid 0x123 nullPkt nullPkt_tsPkt (by decide) (by decide)

def exOut (m : Mux) : Bytes := (run m exOps).2.1
def exPkts (m : Mux) : List Bytes := chop188 (exOut m).length (exOut m)

example : newTs 0x123 = some exMux := rfl
example : ∀ op ∈ exOps, Op.OK op := by decide +kernel
example : Separable (run exMux exOps).2.2 ∧ (run exMux exOps).2.2.length = 5 := by decide +kernel
example : (exPkts exMux).length = 5 ∧ (∀ p ∈ exPkts exMux, p.length = 188) ∧ (exPkts exMux).flatten = exOut exMux := by
  decide +kernel

/-- the theorem instantiated: foreign packets before, between and after the multiplexer's packets, the stream cut
after byte 100, after byte 101 (a one-byte buffer) and an empty buffer: the first four frames come back -/
example : let xs := [nullPkt] ++ ((exPkts exMux).take 2 ++ ([nullPkt, afPkt] ++ ((exPkts exMux).drop 2 ++ [afPkt])))
    (tsFeedAll SrcCfg.repaired (TsSt.init 0x123) [xs.flatten.take 100, (xs.flatten.drop 100).take 1, [], xs.flatten.drop 101]).2
      = (run exMux exOps).2.2.dropLast.map received := by
  intro xs
  have hm : Merge 0x123 (exPkts exMux) xs := by
    have h1 : Merge 0x123 [] [nullPkt] := Merge.ofForeign _ (by intro f hf; simp at hf; subst hf; exact nullPkt_foreign)
    have h2 : Merge 0x123 [] [nullPkt, afPkt] := Merge.ofForeign _ (by
      intro f hf; simp at hf; rcases hf with rfl | rfl
      · exact nullPkt_foreign
      · exact afPkt_foreign)
    have h3 : Merge 0x123 [] [afPkt] := Merge.ofForeign _ (by intro f hf; simp at hf; subst hf; exact afPkt_foreign)
    have := Merge.append h1 (Merge.append (Merge.refl 0x123 ((exPkts exMux).take 2))
      (Merge.append h2 (Merge.append (Merge.refl 0x123 ((exPkts exMux).drop 2)) h3)))
    have e : [] ++ ((exPkts exMux).take 2 ++ ([] ++ ((exPkts exMux).drop 2 ++ []))) = exPkts exMux := by
      rw [List.nil_append, List.nil_append, List.append_nil, List.take_append_drop]
    rw [e] at this
    exact this
  exact (mux_demux_roundtrip_ts SrcCfg.repaired rfl exMux (cfgOK_newTs 0x123 exMux rfl) (by decide) (by decide) exOps
    (by decide +kernel) (by decide +kernel) (exPkts exMux) (by decide +kernel) (by decide +kernel) xs hm _
    (by simp only [List.flatten_cons, List.flatten_nil, List.append_nil, List.nil_append]
        have e : ∀ L : Bytes, L.drop 101 = (L.drop 100).drop 1 := fun L => by rw [List.drop_drop]
        rw [e, List.take_append_drop, List.take_append_drop])).1

/-- ... and evaluated in the kernel, also from continuity counter 14 (15, 0, 1, 2 follow): PTS (mod 2^33), service ids,
line numbers of what the TS demultiplexer model delivers for the plain stream fed whole -/
example : ((tsFeed SrcCfg.repaired (TsSt.init 0x123) (exOut exMux14)).frames.map
      (fun f => (f.pts, f.lines.map fun l => (l.id, l.line))))
    = [(5, [(3, 7), (4, 16), (0x400, 23)]), (6, [(3, 7), (3, 320)]), (7, [(3, 9)]), (8, [(3, 8), (8, 21)])] := by
  decide +kernel

/-- **why the F30 repair is a hypothesis**: in the source shape without fix dvb-demux-ts-first-packet the statement is
false - the first frame of `exOps` (its PES packet is one TS packet) is never delivered -/
theorem ts_roundtrip_needs_f30_fix :
    ((tsFeed { SrcCfg.repaired with tsCompletesInHeader := false } (TsSt.init 0x123) (exOut exMux)).frames.map (·.pts))
      = [6, 7, 8]
    ∧ ((run exMux exOps).2.2.dropLast.map received).map (·.pts) = [5, 6, 7, 8] := by decide +kernel

/-- **the round trip for the coroutine interface of the multiplexer in TS mode**: the stream an application produces
with `vbi_dvb_mux_cor` (any output buffer sizes per frame) from a new TS multiplexer, foreign packets interleaved, cut
into demultiplexer feed calls in any way, comes back as the accepted frames -/
theorem cor_mux_demux_roundtrip_ts (cfg : SrcCfg) (hflag : cfg.tsCompletesInHeader = true) (pid : Nat) (m : Mux)
    (hnew : newTs pid = some m) (fuel : Nat) (hfuel : 66928 ≤ fuel) (ops : List (Op × List Nat))
    (hops : ∀ op ∈ ops, CorOpOK op) (hsep : Separable (run m (ops.map Prod.fst)).2.2)
    (pkts : List Bytes) (h188 : ∀ p ∈ pkts, p.length = 188) (hfl : pkts.flatten = (corRun fuel m ops).2)
    (xs : List Bytes) (hm : Merge pid pkts xs) (chunks : List Bytes) (hch : chunks.flatten = xs.flatten) :
    (tsFeedAll cfg (TsSt.init pid) chunks).2 = (run m (ops.map Prod.fst)).2.2.dropLast.map received := by
  have hc := cfgOK_newTs pid m hnew
  have hidle : Idle m := by rw [(newTs_some pid m hnew).1]; exact Nat.le_refl 0
  have h := (cor_history_equals_feed fuel hfuel ops hops m m hidle rfl rfl hc).1
  exact mux_demux_roundtrip_ts_new cfg hflag pid m hnew (ops.map Prod.fst) (corOps_ok ops hops) hsep pkts h188 (by rw [hfl, h]) xs hm chunks hch

example : ((corRun 66928 exMux [(.frame corExLines 0xFFFFFFFF 5, [1, 7, 50]), (.frame corExLines 3 7, [188, 5])]).2.length) = 376 := by
  decide +kernel

end Zvbi.Props.C06Ts
