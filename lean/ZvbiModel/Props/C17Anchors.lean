import ZvbiModel.Search.LemmasPage
import ZvbiModel.Search.Witnesses
import ZvbiModel.Search.Current
/-!
# C17, line anchors: the flags search.c hands to ure_exec, in both source shapes

Finding C17-D8 and its repair fixes/C17-line-anchors.diff (search.c half) are two source shapes of the flags argument of
the `ure_exec` calls in `search_page_fwd` / `search_page_rev`, selected by `Shape.anchors`, read from /repo on every run by
translate/gen_search.py (`Zvbi.Gen.Search.lineAnchors` -> `Shape.current`).  All theorems of Props/C17.lean and
Props/C17Pass.lean hold for an arbitrary `sh`, i.e. in both shapes (the matcher is a parameter there).  Here: what the
matcher is TOLD about the text it gets.

* `anchors_fwd_flags` / `anchors_rev_flags` (repaired shape): URE_NOTBOL is handed over exactly when the text handed over
  does not begin at a row start (`lineStart`: offset 0 of the page text or directly behind a row separator) - also when a
  search continues inside a row (forward: text from the cursor; backward: every repeated exec behind a match).
* `anchors_fwd_success` (repaired shape): a SUCCESS of search_page_fwd is a match the engine found under those flags.
* `anchors_rev_report`: what search_page_rev reports is the result of an exec under `revFlags` at an offset inside the text.
* `anchors_found_shape`: the shape as found: forward always 0 (C17-D8), backward URE_NOTBOL for every `pos > 0` (so the
  `^` occurrences of later rows are never seen by the repeated exec: the FIRST `^` occurrence of a page is reported).
* `rev_loop_total`: the loop of search_page_rev ends for EVERY matcher, empty matches included (b5116c9); the same
  statement as `rev_matches_terminate` (Props/C17.lean).
* `fwd_continue_bol_repaired`: the witness of C17-D8 on the repaired shape - the page is not reported a second time.
What `^` / `$` then MEAN inside ure_exec is Props/C17UreAnchors.lean.
-/
namespace Zvbi.Props.C17Anchors
open Zvbi.Search

/-- **anchors_fwd_flags.** Repaired shape, `search_page_fwd`, any haystack and any position `first` inside it (the whole
page: `first = 0`; continued search: the cursor): URE_NOTBOL is handed to ure_exec if and only if `first` is NOT the
beginning of a row; URE_NOTEOL never (the forward haystack ends with a row separator). -/
theorem anchors_fwd_flags (sh : Shape) (ha : sh.anchors = true) (hay : List Nat) (first : Nat) (h : first ≤ hay.length) :
    ((fwdFlags sh hay first).notBol = true ↔ ¬ lineStart hay first) ∧ (fwdFlags sh hay first).notEol = false := by
  rw [fwdFlags_repaired sh ha]
  exact ⟨insideRow_iff hay first h, rfl⟩

example : (fwdFlags Shape.anchored [0x61, 0x62, 0x0A, 0x63] 3).notBol = false ∧
    (fwdFlags Shape.anchored [0x61, 0x62, 0x0A, 0x63] 1).notBol = true := by decide

/-- **anchors_rev_flags.** Repaired shape, `search_page_rev`, the exec that begins at offset `pos` of the haystack (0 for
the first, behind the previous match for the repeated ones): URE_NOTBOL if and only if `pos` is not the beginning of a
row; URE_NOTEOL is the flag `hayRev` computed (the haystack was cut inside a row). -/
theorem anchors_rev_flags (sh : Shape) (ha : sh.anchors = true) (hay : List Nat) (ne : Bool) (pos : Nat) (h : pos ≤ hay.length) :
    ((revFlags sh hay ne pos).notBol = true ↔ ¬ lineStart hay pos) ∧ (revFlags sh hay ne pos).notEol = ne := by
  rw [revFlags_repaired sh ha]
  exact ⟨insideRow_iff hay pos h, rfl⟩

example : (revFlags Shape.anchored [0x61, 0x0A, 0x61, 0x0A] true 2).notBol = false ∧
    (revFlags Shape.repaired [0x61, 0x0A, 0x61, 0x0A] true 2).notBol = true := by decide

/-- **anchors_found_shape.** The shape as found (C17-D8): `search_page_fwd` hands flags 0 wherever the text begins;
`search_page_rev` hands URE_NOTBOL for every offset behind 0, row start or not. -/
theorem anchors_found_shape (sh : Shape) (ha : sh.anchors = false) (hay : List Nat) (ne : Bool) (pos : Nat) :
    fwdFlags sh hay pos = {} ∧ revFlags sh hay ne pos = { notBol := decide (pos > 0), notEol := ne } :=
  ⟨fwdFlags_found sh ha hay pos, revFlags_found sh ha hay ne pos⟩

example : fwdFlags Shape.repaired [0x61, 0x62] 1 = {} := (anchors_found_shape Shape.repaired rfl _ false _).1

/-- **anchors_fwd_success.** Repaired shape: when `search_page_fwd` reports a page (return value 1), the engine returned
that match on the text from `first` under flags that say truthfully whether `first` is a row start. -/
theorem anchors_fwd_success (sh : Shape) (ha : sh.anchors = true) (exec : Exec) (s0 s' : SearchSt) (p : Nat) (e : Entry) (w : Bool)
    (h : pageFwd sh exec s0 p e w = (1, s')) :
    ∃ ms me, exec { notBol := insideRow (hayFwd e.text (cursorRow s0 p e) s0.col0).1 (hayFwd e.text (cursorRow s0 p e) s0.col0).2,
                    notEol := false }
        ((hayFwd e.text (cursorRow s0 p e) s0.col0).1.drop (hayFwd e.text (cursorRow s0 p e) s0.col0).2) = some (ms, me) := by
  obtain ⟨_, ms, me, hex, _⟩ := pageFwd_one h
  rw [fwdFlags_repaired sh ha] at hex
  exact ⟨ms, me, hex⟩

example : ∃ ms me, bolSpy { notBol := false, notEol := false } [0x6d, 0x6d] = some (ms, me) := ⟨0, 2, by decide⟩

/-- **anchors_rev_report.** Either shape: the loop of `search_page_rev` started at (0, 0, 0, 0) returns `i = 0` (nothing
found) or the result of an exec at an offset `pos'` inside the haystack that was handed exactly `revFlags sh hay ne pos'`
- in the repaired shape: URE_NOTBOL iff `pos'` is not a row start (`anchors_rev_flags`). -/
theorem anchors_rev_report (sh : Shape) (exec : Exec) (hay : List Nat) (ne : Bool) (f i ms me : Nat)
    (h : revMatches sh exec hay ne f 0 0 0 0 = some (i, ms, me)) (hi : i ≠ 0) :
    ∃ pos' ms1 me1, pos' < hay.length ∧ exec (revFlags sh hay ne pos') (hay.drop pos') = some (ms1, me1) ∧
      ms = pos' + ms1 ∧ me = pos' + me1 := by
  rcases (revMatches_last sh exec hay ne f 0 0 0 0 i ms me h).2 with ⟨h0, _⟩ | ⟨p, a, b, _, h2, h3, h4, h5⟩
  · exact absurd h0 hi
  · exact ⟨p, a, b, h2, h3, h4, h5⟩

example : revMatches Shape.anchored (fun _ t => if t.take 1 = [0x61] then some (0, 1) else none) [0x61] false 3 0 0 0 0 =
    some (1, 0, 1) := by decide

/-- **rev_loop_total.** The repeated `ure_exec` of `search_page_rev` ends for EVERY matcher, also one that returns empty
matches (`pos = (me > pos) ? me : pos + 1`, b5116c9): with the fuel `pageRev` gives it the model never runs out. -/
theorem rev_loop_total (sh : Shape) (exec : Exec) (hay : List Nat) (ne : Bool) :
    revMatches sh exec hay ne (hay.length + 2) 0 0 0 0 ≠ none :=
  revMatches_total sh exec hay ne _ _ _ _ _ (by omega)

example : revMatches Shape.repaired (fun _ _ => some (0, 0)) [1, 2, 3] false 5 0 0 0 0 ≠ none := rev_loop_total _ _ _ _

/-- **fwd_continue_bol_repaired.** The witness of finding C17-D8 (row "abmm", cursor behind "ab", matcher for `^mm` that
obeys URE_NOTBOL) in the repaired shape: the flags say NOTBOL, the page is not reported again. -/
theorem fwd_continue_bol_repaired :
    (pageFwd Shape.anchored bolSpy bolCtx 0x100 bolPage false).1 = 0 ∧
    fwdFlags Shape.anchored (hayFwd bolPage.text 1 2).1 (hayFwd bolPage.text 1 2).2 = { notBol := true } := by
  rw [hayFwd_eq, pageFwd_eq, foundFwd_lin]; decide +kernel

/-- **current_anchor_shape.** The shape gen_search.py read from /repo on this run is one of the two. -/
theorem current_anchor_shape : Shape.current.anchors = Zvbi.Gen.Search.lineAnchors := rfl

example : Shape.current.anchors = true ∨ Shape.current.anchors = false := by cases Shape.current.anchors <;> simp

end Zvbi.Props.C17Anchors
