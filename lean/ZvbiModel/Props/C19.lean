import ZvbiModel.Proxy.Model
import ZvbiModel.Proxy.TokenInv
import ZvbiModel.Proxy.LemmasLog
import ZvbiModel.Proxy.NoFault
import ZvbiModel.Proxy.LemmasSched
/-!
# Property C19 - the proxy daemon withstands faulty clients; channel control is held by one client

Model: `ZvbiModel/Proxy/Core.lean` (token machine) and `ZvbiModel/Proxy/Model.lean` (message validation, dispatch, main
loop).  Every `State` of the model carries the proof that its token fields were produced by the daemon's token
operations (`State.core : Core.Reach g`), so statements about `Core.Reachable` hold for every state of every history.
`g.ret` / `g.rel` say whether fixes/C19-token-return-by-non-owner and fixes/C19-release-waits-for-confirm are in the source
(`Cfg.current` reads them from the tree); the scheduler is an arbitrary function (`cfg.pick`).
-/
namespace Zvbi.Props.C19
open Zvbi.Proxy Zvbi.Proxy.Core Zvbi.Gen.Proxy

/-- token exclusivity of every model state, reachable or not: the type of `State` enforces it -/
theorem token_exclusive_state (g : Guards) (hret : g.ret = true) (s : State g) (d : Nat) : (owners s.core.st d).length ≤ 1 :=
  let hi := inv_reachable g hret s.core.ok
  owners_le_one hi.uniq hi.excl d

/-- **token_exclusive.** After any history of daemon inputs (connects, arbitrary bytes from any client, disconnects,
    clock ticks, alarms, frames) that the daemon survives, at most one client of each device has a token state other
    than NONE - whatever the scheduler picks - provided a token can only be returned by a client that has one. -/
theorem token_exclusive (cfg : Cfg) (hret : cfg.g.ret = true) (ops : List Op) (s : State cfg.g)
    (_h : run cfg ops = .ok s) (d : Nat) : (owners s.core.st d).length ≤ 1 :=
  token_exclusive_state cfg.g hret s d

example : (owners ((Reach.init ⟨true, true⟩).app (.add 0 0) |>.app (.tokenReq 0 prioBACKGROUND 1) |>.app (.grant 0)).st 0).length = 1 := by decide

/-- two clients of a device that both have a token state are the same client; in particular at most one client is in
    GRANTED / RECLAIM / RELEASE (the states in which the client itself believes it holds the token) -/
theorem token_holders_same (g : Guards) (hret : g.ret = true) (s : State g) (r1 r2 : Rec)
    (h1 : r1 ∈ s.core.st.recs) (h2 : r2 ∈ s.core.st.recs) (hd : r1.dev = r2.dev) (t1 : r1.tok ≠ .none) (t2 : r2.tok ≠ .none) :
    r1 = r2 :=
  let hi := inv_reachable g hret s.core.ok
  uniq_eq hi.uniq h1 h2 (hi.excl r1 h1 r2 h2 hd t1 t2)

theorem reachable_foldl (g : Guards) (ops : List COp) {c : CState} (hc : Reachable g c) : Reachable g (ops.foldl (apply g) c) := by
  induction ops generalizing c with
  | nil => exact hc
  | cons op rest ih => exact ih (.step op hc)

/-- **token_exclusive_counterexample** (unrepaired `CHN_NOTIFY_REQ`): client 0 holds the token, client 1 - which never
    had it - "returns" it and becomes a second owner.  Replay on the C code: corpus/C19/token-return-by-non-owner.ops
    (`assert (p_owner == NULL)` of vbi_proxyd_get_token_owner aborts the daemon at the next scheduling). -/
theorem token_exclusive_counterexample (rel : Bool) :
    ∃ c, Reachable ⟨false, rel⟩ c ∧ (owners c 0).length = 2 :=
  ⟨[COp.add 0 0, .add 1 0, .tokenReq 0 prioBACKGROUND 1, .grant 0, .sendGrant 0, .tokenReq 1 prioBACKGROUND 0, .ret 1].foldl (apply ⟨false, rel⟩) {},
   reachable_foldl _ _ .init, by cases rel <;> decide⟩

/-- **grant_only_to_requesters.** Every client that has any token state (is about to be granted the token, holds it,
    is being reclaimed, or has returned it) sent a CHN_TOKEN_REQ with a valid profile at background priority and has
    not withdrawn it since: the daemon grants channel control only to clients that asked for it. -/
theorem grant_only_to_requesters (cfg : Cfg) (hret : cfg.g.ret = true) (ops : List Op) (s : State cfg.g)
    (_h : run cfg ops = .ok s) (r : Rec) (hr : r ∈ s.core.st.recs) (ht : r.tok ≠ .none) : r.asked = true :=
  (inv_reachable cfg.g hret s.core.ok).asked r hr ht

example : ∃ c, Reachable ⟨true, true⟩ c ∧ ∃ r ∈ c.recs, r.tok = .granted ∧ r.asked = true :=
  ⟨[COp.add 0 0, .tokenReq 0 prioBACKGROUND 1, .grant 0, .sendGrant 0].foldl (apply ⟨true, true⟩) {}, reachable_foldl _ _ .init, by decide⟩

/-- a request without a valid profile, or at another priority, is never granted (the `grant` operation ignores it) -/
theorem grant_ignores_non_requesters (g : Guards) (c : CState) (h : Nat) (r : Rec) (hf : find c h = some r)
    (hn : r.asked = false) : apply g c (.grant h) = c := by
  simp [apply, hf, hn]

/-- **grant_only_after_return, state form.** At the moment the daemon produces a grant message for client `b`
    (TOKEN_IND or TOKEN_CNF with token_ind), no other client of the device has any token state: whoever held the token
    before is back in NONE. -/
theorem grant_when_others_none (g : Guards) (hret : g.ret = true) (c : CState) (hc : Reachable g c) (b : Nat) (rb : Rec)
    (hf : find c b = some rb) (hg : rb.tok = .grant) :
    ∀ r ∈ (apply g c (.sendGrant b)).recs, r.dev = rb.dev → r.h ≠ b → r.tok = .none := by
  intro r hr hd hne
  have hi := inv_reachable g hret hc
  obtain ⟨hrb, hhb⟩ := find_some hf
  simp only [apply, hf, hg, beq_self_eq_true, if_true, addLog] at hr
  rw [setTok_eq] at hr
  obtain ⟨y, my, ey⟩ := mem_map_tok hr
  subst ey
  by_cases e : y.h = b
  · simp [e] at hne
  · simp only [beq_iff_eq, e, if_false] at hd ⊢
    exact Decidable.byContradiction (fun hcon => e ((hi.excl y my rb hrb hd hcon (by rw [hg]; decide)).trans hhb))

/-- **grant_only_after_return, log form (state of the token machine).**  In every state the daemon's token operations
    can produce (both repairs present), the log of events is ordered: every grant message for device `d` is produced while
    the log shows no holder of `d` other than the grantee - the holder being the client of the last grant on `d` that has
    not since sent a return/release, a reclaim confirmation or a new token request, and has not gone away
    (`Proxy/Spec.lean`).  By induction over the operations with the invariant "the holder according to the log has a
    record of the device in GRANTED / RECLAIM / RELEASE" (`Core.LogInv`). -/
theorem grant_only_after_return (g : Guards) (hret : g.ret = true) (hrel : g.rel = true) (c : CState) (hc : Reachable g c) :
    grantsOrdered (fun _ => none) c.log = true :=
  (logInv_reachable g hret hrel hc).ordered

/-- the invariant behind it: whoever holds device `d` according to the log has a record of `d` in a holder state -/
theorem log_holder_has_record (g : Guards) (hret : g.ret = true) (hrel : g.rel = true) (c : CState) (hc : Reachable g c)
    (d a : Nat) (h : holdOf c.log d = some a) : ∃ r ∈ c.recs, r.h = a ∧ r.dev = d ∧ Holding r.tok :=
  (logInv_reachable g hret hrel hc).holder d a h

/-- **grant_only_after_return_full** (whole histories, any scheduler).  After ANY history of daemon inputs the daemon
    survives: if its log shows a grant message to client `a` on device `d` and later a grant message to another client
    `b` on `d` (no other grant on `d` in between), then between the two there is `a`'s return/release message, `a`'s
    reclaim confirmation, a new token request of `a`, or `a`'s disconnect. -/
theorem grant_only_after_return_full (cfg : Cfg) (hret : cfg.g.ret = true) (hrel : cfg.g.rel = true) (ops : List Op)
    (s : State cfg.g) (_h : run cfg ops = .ok s) (l1 l2 l3 : List Event) (a b d : Nat)
    (hlog : s.core.st.log = l1 ++ Event.granted a d :: (l2 ++ Event.granted b d :: l3)) (hab : a ≠ b)
    (hno : ∀ x, Event.granted x d ∉ l2) : ∃ e ∈ l2, e.frees a = true :=
  grant_preceded_by_free (fun _ => none) l1 l2 l3 a b d
    (hlog ▸ grant_only_after_return cfg.g hret hrel s.core.st s.core.ok) hab hno

/-- non-vacuity: a hand-over 0 -> 1 by reclaim and confirmation produces exactly such a log -/
example : ([COp.add 0 0, .add 1 0, .tokenReq 0 prioBACKGROUND 1, .grant 0, .sendGrant 0, .tokenReq 1 prioBACKGROUND 1, .stopped 0, .sendReclaim 0,
      .grant 1, .reclaimCnf 0, .grant 1, .sendGrant 1].foldl (apply ⟨true, true⟩) {}).log =
    [.tokenReq 0 0, .granted 0 0, .tokenReq 1 0, .reclaimCnf 0 0, .granted 1 0] := by decide

/-- **for the current tree** (guard flags read from the source by the translator): unconditional.  If one of the two
    repairs is reverted the flag flips and this proof no longer checks. -/
theorem grant_only_after_return_current (ops : List Op) (s : State Cfg.current.g) (_h : run Cfg.current ops = .ok s) :
    grantsOrdered (fun _ => none) s.core.st.log = true :=
  grant_only_after_return Cfg.current.g rfl rfl s.core.st s.core.ok

/-- **grant_only_after_return_counterexample** (unrepaired `vbi_proxyd_token_grant`): client 0 was granted the token and
    sent RECLAIM_REQ (state RELEASE); it is rescheduled (RELEASE -> GRANT), and a request of client 1 then takes the
    token away silently: client 1 is granted while client 0 never confirmed.  Replay: corpus/C19/grant-before-confirm.ops -/
theorem grant_only_after_return_counterexample :
    ∃ c, Reachable ⟨true, false⟩ c ∧ grantsOrdered (fun _ => none) c.log = false :=
  ⟨[COp.add 0 0, .add 1 0, .tokenReq 0 prioBACKGROUND 1, .grant 0, .sendGrant 0, .tokenReq 1 prioBACKGROUND 1, .stopped 0, .sendReclaim 0,
    .grant 0, .grant 1, .sendGrant 1].foldl (apply ⟨true, false⟩) {}, reachable_foldl _ _ .init, by decide⟩

/-- with the repair the same inputs leave client 0 in RELEASE and client 1 waiting -/
example : grantsOrdered (fun _ => none)
    ([COp.add 0 0, .add 1 0, .tokenReq 0 prioBACKGROUND 1, .grant 0, .sendGrant 0, .tokenReq 1 prioBACKGROUND 1, .stopped 0, .sendReclaim 0,
      .grant 0, .grant 1, .sendGrant 1].foldl (apply ⟨true, true⟩) {}).log = true := by decide

theorem find_map_ne (l : List Client) (h h' : Nat) (f : Client → Client) (hf : ∀ c, (f c).h = c.h) (hne : h' ≠ h) :
    (l.map (fun c => if c.h == h then f c else c)).find? (·.h == h') = l.find? (·.h == h') := by
  rw [find_map_h l _ (fun c => by split <;> simp [hf]) h']
  cases hc : l.find? (·.h == h') with
  | none => rfl
  | some c =>
    have := List.find?_some hc
    simp only [beq_iff_eq] at this
    simp [this, hne]

/-- closing a connection touches nothing but that connection -/
theorem close_frame {g : Guards} (s : State g) (h : Nat) :
    (closeClient s h).devs = s.devs ∧ (closeClient s h).core = s.core ∧
    (∀ h', h' ≠ h → findClient (closeClient s h) h' = findClient s h') ∧
    (closeClient s h).clients.map (·.h) = s.clients.map (·.h) := by
  unfold closeClient
  split
  · split
    · refine ⟨rfl, rfl, ?_, ?_⟩
      · intro h' hne
        exact find_map_ne _ h h' _ (fun _ => rfl) hne
      · simp only [setSock, modClient, List.map_map]
        apply List.map_congr_left
        intro a _
        simp only [Function.comp]
        split <;> rfl
    · exact ⟨rfl, rfl, fun _ _ => rfl, rfl⟩
  · exact ⟨rfl, rfl, fun _ _ => rfl, rfl⟩

/-- **bad_message_rejected (1).** A complete message that fails `vbi_proxyd_check_msg` (wrong length for its type, bad
    magic, a server-to-client or unknown type) closes this connection and changes nothing else. -/
theorem bad_message_rejected (cfg : Cfg) (s : State cfg.g) (h : Nat) (m : Msg) (sw : Bool) (hbad : checkMsg m sw = none) :
    onMessage cfg s h m sw = .ok (closeClient s h) := by
  simp [onMessage, hbad]

/-- an oversized length field fails the check whatever the type (sizes from Generated/ProxyLayout) -/
example : checkMsg { type := tSERVICEREQ, len := hdr + szServiceReq + 1, body := [] } false = none := by decide
example : checkMsg { type := tSERVICEREQ, len := hdr + szServiceReq, body := [] } false = some false := by decide
example : checkMsg { type := tCONNECTCNF, len := hdr + szConnectCnf, body := [] } false = none := by decide

/-- **bad_message_rejected (2).** A message that is well-formed but not legal in the connection's state is refused by
    `vbi_proxyd_take_message` without any state change (the caller then closes the connection, see `close_frame`). -/
theorem wrong_state_rejected (cfg : Cfg) (s s' : State cfg.g) (h : Nat) (m : Msg) (c : Client)
    (hc : findClient s h = some c)
    (hst : (m.type = tCONNECTREQ ∧ c.st ≠ .waitCon) ∨ (m.type = tDAEMONPIDREQ ∧ c.st ≠ .waitCon) ∨
           (m.type = tSERVICEREQ ∧ c.st ≠ .forward) ∨ (m.type = tCHNTOKENREQ ∧ c.st ≠ .forward) ∨
           (m.type = tCHNNOTIFYREQ ∧ c.st ≠ .forward) ∨ (m.type = tCHNIOCTLREQ ∧ c.st ≠ .forward) ∨
           (m.type = tDAEMONPIDCNF))
    (ht : takeMessage cfg s h m = .ok (s', true)) : False := by
  rw [takeMessage_refuses cfg s h m c hc hst] at ht
  cases ht

/-- the clamp of the connect path (and, once repaired, of the service request path) keeps `strict` inside the extent of
    `PROXY_CLNT.services` (extent and limits from the compiled code) -/
theorem clamp_in_range (v : Int) : 0 ≤ clampStrict true v - minStrict ∧ clampStrict true v - minStrict < (nServices : Int) :=
  Zvbi.Proxy.clamp_in_range v

/-- **index_fields_clamped.** With the clamp in place `vbi_proxyd_take_service_req` never indexes `services[]` out of
    range, for every value of `strict` a client can send. -/
theorem index_fields_clamped {g : Guards} (s : State g) (h d services : Nat) (v : Int) (site : String) :
    takeServiceReq s h d services (clampStrict true v) ≠ .error (.oob site) := by
  obtain ⟨r, e, _⟩ := takeServiceReq_ok s h d services v
  rw [e]; nofun

/-- **index_fields_counterexample** (the unrepaired service request path passes `strict` through): strict = 127 indexes
    `services[128]`.  Replay on the C code: corpus/C19/service-req-strict.ops (ASan: heap-buffer-overflow in
    vbi_proxyd_take_service_req). -/
theorem index_fields_counterexample {g : Guards} (s : State g) (h d services : Nat) :
    takeServiceReq s h d services (clampStrict false 127) = .error (.oob "take_service_req:services[strict]") := by
  unfold takeServiceReq clampStrict minStrict nServices
  simp

/-- the header check of `vbi_proxy_msg_handle_read`, repaired: after an illegal length nothing more is read, the
    function fails and the caller closes the connection - no out-of-bounds write into `msg_buf`, no assertion -/
theorem illegal_length_rejected (cfg : Cfg) (hg : cfg.readLenGuard = true) (now : Int) (c : Client) (inq : List Nat) (shut : Bool)
    (hoff : c.readOff < hdr) (hw : c.wr = none) (hl : c.readLen = 0)
    (hbad : (readHeader c now inq shut).2.2.2.2.2 = false) :
    ∃ c' rest b, handleRead cfg now c inq shut = .ok (c', rest, false, b) := by
  unfold handleRead
  simp only [hw, hl, Option.isSome_none, Bool.false_eq_true, if_false, bne_self_eq_false, Bool.and_false]
  generalize hrh : readHeader c now inq shut = rh at hbad
  obtain ⟨c1, inq1, err, lz, cz, res⟩ := rh
  simp only at hbad
  subst hbad
  simp only [hg, Bool.not_true, Bool.or_false, Bool.false_eq_true, Bool.and_false, Bool.false_and, if_false]
  split <;> exact ⟨_, _, _, rfl⟩

/-- **the owner assertion never fires**: `assert (p_owner == NULL)` in vbi_proxyd_get_token_owner is unreachable once a
    token can only be returned by its owner -/
theorem owner_assert_unreachable (g : Guards) (hret : g.ret = true) (s : State g) (h : Nat) :
    ∃ s' free, tokenGrant s h = .ok (s', free) :=
  let ⟨r, e, _⟩ := tokenGrant_ok hret s h
  ⟨r.1, r.2, e⟩

/-- **no_fault_full.**  With the repairs that guard a fault site in the source (`Cfg.Repaired`: both strict clamps, the
    length guard of handle_read, no idle assertions, the flush guard, the token-return guard) NO history of daemon inputs -
    connects, arbitrary bytes from any client in any fragmentation, half-closes, disconnects at any byte, clock ticks,
    alarms, frames of up to 31 lines, device variants - makes any step of the model return `.oob` or `.assertFail`,
    whatever the scheduler picks.  The fault sites are: `services[strict]` in take_service_req, the write into `msg_buf` and
    the three assertions of vbi_proxy_msg_handle_read (`writeLen == 0`, `readLen == 0` in phase one,
    `readLen <= max_read_len`), the two idle assertions, `assert (p_owner == NULL)` of get_token_owner,
    `vbi_capture_flush (NULL)`, `assert (line_count <= max_lines)` of forward_data.
    Proof: the invariant `NF` (every record `findClient` can return has a consistent read state `RI`; every device has
    frames of at most 31 lines and `max_lines >= 31` while open) holds initially and after every op
    (`Proxy/Frame.lean`: frame rules for the bookkeeping functions; `Proxy/NoFault.lean`: `handleRead_ok`, the main loop,
    `run_ok`). -/
theorem no_fault_full (cfg : Cfg) (hcfg : cfg.Repaired) (ops : List Op) : ∃ s, run cfg ops = .ok s :=
  let ⟨s, h, _⟩ := run_ok cfg hcfg ops
  ⟨s, h⟩

/-- all repairs applied, any scheduler -/
theorem no_fault_repaired (pick : Int → List Cand → Option Nat) (ops : List Op) : ∃ s, run (Cfg.repaired pick) ops = .ok s :=
  no_fault_full (Cfg.repaired pick) ⟨rfl, rfl, rfl, rfl, rfl, rfl⟩ ops

/-- **for the current tree**: the guard flags are read from the source by the translator (`Generated/ProxyLayout.lean`);
    if one of the six repairs is reverted its flag flips and this proof no longer checks -/
theorem no_fault_current (ops : List Op) : ∃ s, run Cfg.current ops = .ok s :=
  no_fault_full Cfg.current ⟨rfl, rfl, rfl, rfl, rfl, rfl⟩ ops

/-- non-vacuity: an oversized length, a partial header followed by a disconnect, and a service request with strict = 127
    are survived; the faulty connections are gone afterwards -/
example : (run (Cfg.repaired codePick) [.connect 0, .iter, .send 0 [0xff, 0xff, 0xff, 0xff, 0, 0, 0, 5], .iter, .connect 0, .iter,
    .send 1 [0, 0, 0], .iter, .shut 1, .iter, .iter]).toOption.map (·.clients.length) = some 0 := by decide

/-- the read-state invariant itself, after every history: a record with a complete header has a legal length and an
    offset inside the message (`msg_buf` cannot overflow), a record without has no length yet -/
theorem read_state_invariant (cfg : Cfg) (hcfg : cfg.Repaired) (ops : List Op) (s : State cfg.g) (h : run cfg ops = .ok s)
    (hd : Nat) (c : Client) (hf : findClient s hd = some c) : RI c := by
  obtain ⟨s', h', n⟩ := run_ok cfg hcfg ops
  rw [h] at h'; cases h'
  exact n.ci.ri hf

/-- the unrepaired length check: one header with length 0xffffffff aborts the daemon (`assert (readLen <= max_read_len)`);
    replay corpus/C19/oversize-length-assert.ops -/
theorem no_fault_counterexample :
    (match run { Cfg.repaired codePick with readLenGuard := false } [.connect 0, .iter, .send 0 [0xff, 0xff, 0xff, 0xff, 0, 0, 0, 5], .iter] with
     | .error e => some e
     | .ok _ => none) = some (.assertFail "handle_read:readLen<=max_read_len") := by decide

/-- token exclusivity for the tree as it is (flag from the source) -/
theorem token_exclusive_current (ops : List Op) (s : State Cfg.current.g) (h : run Cfg.current ops = .ok s) (d : Nat) :
    (owners s.core.st d).length ≤ 1 :=
  token_exclusive Cfg.current rfl ops s h d

/-- grants only to requesters for the tree as it is -/
theorem grant_only_to_requesters_current (ops : List Op) (s : State Cfg.current.g) (h : run Cfg.current ops = .ok s) (r : Rec)
    (hr : r ∈ s.core.st.recs) (ht : r.tok ≠ .none) : r.asked = true :=
  grant_only_to_requesters Cfg.current rfl ops s h r hr ht

/-- **only requesters are scheduled**, whatever the comparison chain does: the client `vbi_proxyd_channel_schedule` returns
    is a client of the device with a valid profile at background priority -/
theorem schedule_only_candidates (cfg : Cfg) (s : State cfg.g) (d h : Nat) (hp : (channelSchedule cfg s d).2 = some h) :
    ∃ c ∈ s.clients, c.dev = d ∧ c.h = h ∧ (recOf s c.h).asked = true :=
  Zvbi.Proxy.schedule_only_candidates cfg s d h hp

/-- **the pick is deterministic**: it is a function of the clock and of the scheduler's view of the device's clients
    (token state, sub-priority, min_duration, completed flag, cycle count, last start - `Cand`), nothing else -/
theorem schedule_deterministic (cfg : Cfg) (s s' : State cfg.g) (d : Nat) (hn : s.now = s'.now)
    (hc : (s.clients.filter (·.dev == d)).map (candOf s) = (s'.clients.filter (·.dev == d)).map (candOf s')) :
    (channelSchedule cfg s d).2 = (channelSchedule cfg s' d).2 := by
  rw [channelSchedule_pick, channelSchedule_pick, hn, hc]

/-- **what the code guarantees about waiting clients, and what it does not.**  `vbi_proxyd_channel_timer_update` arms the
    alarm only for a client that CONTROLS the channel (GRANTED / RETURNED).  A client that was just chosen is in state
    GRANT until its message is written, so the `channel_update` that grants a free token leaves the timer disarmed
    (`alarm (0)`); unless another message, disconnect or frame-independent event runs `channel_update` again, the
    scheduler never re-evaluates and equal-priority requesters wait for ever (replay corpus/C19/sched-timer-not-armed.ops,
    on the real code: one grant in 40 s with three equal requests and min_duration = 2 s).  The property does not demand
    fairness: an observation, not a violation. -/
theorem timer_not_armed_without_controller (g : Guards) (s : State g) (hn : ∀ c ∈ s.clients, (tokOf s c.h).controls = false) :
    (timerUpdate s).alarmAt = none ∧ (timerUpdate s).lastAlarm = some 0 :=
  timerUpdate_disarmed s hn

example : Tok.controls .grant = false ∧ Tok.controls .granted = true := by decide

/-- **close_releases.** When a closed connection is unlinked it leaves the client list and the token machine: it no
    longer has a record, so it holds no token state, and the slot is free for the scheduler run that follows in
    `clientReap`. -/
theorem close_releases {g : Guards} (s : State g) (h : Nat) :
    findClient (unlink s h) h = none ∧ find (unlink s h).core.st h = none ∧
    (∀ r ∈ (unlink s h).core.st.recs, r ∈ s.core.st.recs ∧ r.h ≠ h) := by
  have hr : (unlink s h).core.st.recs = s.core.st.recs.filter (·.h != h) := recs_remove g _ h
  refine ⟨by simp [unlink, coreOp, findClient, List.find?_eq_none], ?_, fun r hr' => ?_⟩
  · unfold find
    rw [hr]
    simp [List.find?_eq_none]
  · rw [hr, List.mem_filter] at hr'
    exact ⟨hr'.1, by simpa using hr'.2⟩

/-- a token holder that disconnects frees the token: afterwards the device has no owner -/
example : (owners (([COp.add 0 0, .tokenReq 0 prioBACKGROUND 1, .grant 0, .sendGrant 0, .remove 0].foldl (apply ⟨true, true⟩) {})) 0) = [] := by decide

end Zvbi.Props.C19
