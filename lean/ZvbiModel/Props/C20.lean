import ZvbiModel.Props.C20TableA
import ZvbiModel.Props.C20TableB
import ZvbiModel.Props.C20TableC
import ZvbiModel.Props.C20TableD
import ZvbiModel.Props.C20Snapshot
/-!
# C20 - documented cross-thread use of service decoder and raw decoder is race-free

Generic theorems (any thread programs, any schedule) and their instance on the table that
`translate/gen_locks.py` extracts from the current source.  `decide +kernel` evaluates the
Boolean discipline checks on the complete generated table.
-/
namespace Zvbi.Props.C20
open Zvbi.Locks Zvbi.Locks.Instance Zvbi.Generated.Locks

/-! ## generic: all thread programs, all schedules -/

/-- If every conflicting pair of accesses of two different threads is bracketed by a common mutex
(or is one of the listed `known` pairs), then in every state of every interleaving any two threads
that are both about to perform conflicting accesses form a `known` pair.  With `known = noKnown`:
no interleaving has a data race. -/
theorem lock_discipline_implies_drf {known : Site → Site → Bool} {progs : List (List Action)} {s : State}
    (disc : Discipline known progs) (rs : Reachable progs s) {i j : Nat} {a b : Action}
    (race : RaceAt s i j a b) : known (siteOf a) (siteOf b) = true := by
  have iv := inv_reachable rs
  obtain ⟨hij, ⟨hi, ri, hsi⟩, ⟨hj, rj, hsj⟩, cf⟩ := race
  obtain ⟨pi, hpi, mi⟩ := next_in_scan iv hsi
  obtain ⟨pj, hpj, mj⟩ := next_in_scan iv hsj
  exact (disc i j pi pj hij hpi hpj _ mi _ mj cf).resolve_left
    fun ⟨m, h1, h2⟩ => iv.excl i j _ _ hij hsi hsj m h1 h2

/-- not a race: thread 1 is about to take the lock, not yet to read -/
example : ¬ RaceAt [⟨[0], [.acc 0 true 0]⟩, ⟨[], [.lock 0, .acc 0 false 1]⟩] 0 1 (.acc 0 true 0) (.acc 0 false 1) := by
  intro h; obtain ⟨_, _, ⟨h, r, hh⟩, _⟩ := h; simp at hh

/-- Well-bracketed threads that respect a lock order (a mutex is taken only while holding mutexes
of smaller rank, unless no other thread ever takes it) never reach a state in which every
unfinished thread waits for a held mutex. -/
theorem no_deadlock {rank : Mutex → Nat} {bound : Nat} {progs : List (List Action)} {s : State}
    (bal : ∀ (i : Nat) p, progs[i]? = some p → Balanced p) (ord : Ordered rank progs)
    (hb : ∀ m, rank m < bound) (rs : Reachable progs s) : ¬ Deadlock s := by
  intro dl
  have key : ∀ k, ∃ m, (∃ t ∈ s, m ∈ t.held) ∧ k ≤ rank m := by
    intro k
    induction k with
    | zero =>
      obtain ⟨t, hts, hne⟩ := dl.1
      rcases dl.2 t hts with h0 | ⟨m, _, _, hh⟩
      · exact absurd h0 hne
      · exact ⟨m, hh, Nat.zero_le _⟩
    | succ k ih =>
      obtain ⟨m, hh, hk⟩ := ih
      obtain ⟨m', hh', hlt⟩ := blocked_chain (inv_reachable rs) bal ord dl hh
      exact ⟨m', hh', by omega⟩
  obtain ⟨m, _, hk⟩ := key bound
  have := hb m
  omega

/-- Without trylock the only way to be stuck is that deadlock, so such systems always make progress. -/
theorem progress {rank : Mutex → Nat} {bound : Nat} {progs : List (List Action)} {s : State}
    (bal : ∀ (i : Nat) p, progs[i]? = some p → Balanced p) (tf : ∀ (i : Nat) p, progs[i]? = some p → TryFree p)
    (ord : Ordered rank progs) (hb : ∀ m, rank m < bound) (rs : Reachable progs s) : ¬ Stuck s :=
  fun st => no_deadlock bal ord hb rs (stuck_is_deadlock bal tf rs st)

/-- Critical sections are exclusive: while thread `j` holds `m`, a step of another thread is never an
access that its program performs only under `m` (except at the sites `K`).  Hence what a thread reads
between `lock m` and `unlock m` is one state left by the other threads at points where they did not
hold `m` - a snapshot, not a torn mixture. -/
theorem snapshot_consistency {progs : List (List Action)} {s s' : State} {K : Site → Bool}
    (rs : Reachable progs s) {i j : Nat} {x : Var} {w : Bool} {site : Site}
    (st : Step s (i, .acc x w site) s') (hij : j ≠ i) {tj : Thread} (hj : s[j]? = some tj)
    {m : Mutex} (hm : m ∈ tj.held)
    (prot : ∀ p h, progs[i]? = some p → (Action.acc x w site, h) ∈ scan [] p → m ∈ h ∨ K site = true) :
    K site = true := by
  obtain ⟨p, h, hp, hs, hn⟩ :=
    (ExecHolding.cons ⟨tj, hj, hm⟩ st (.nil _)).outside rs (List.mem_singleton.2 rfl) (Ne.symm hij)
  exact (prot p h hp hs).resolve_left hn

/-- The same over a whole critical section: in any stretch of any schedule during which thread `j`
holds `m` (from its `lock m` to its `unlock m`), no other thread touches a field protected by `m`
(outside the sites `K`) - neither before, between, nor after `j`'s own reads.  So all reads of the
section see one and the same state of those fields: the state at the moment the lock was granted. -/
theorem snapshot_consistency_stretch {progs : List (List Action)} {s s' : State} {j : Nat} {m : Mutex}
    {ls : List (Nat × Action)} (X : Var → Bool) (K : Site → Bool)
    (prot : ∀ (i : Nat) p x w site h, progs[i]? = some p → X x = true →
      (Action.acc x w site, h) ∈ scan [] p → m ∈ h ∨ K site = true)
    (rs : Reachable progs s) (ex : ExecHolding j m s ls s') :
    ∀ i x w site, (i, Action.acc x w site) ∈ ls → i ≠ j → X x = true → K site = true :=
  fun i x w site hmem hij hx =>
    (ex.outside rs hmem hij).elim fun p ⟨h, hp, hs, hn⟩ => (prot i p x w site h hp hx hs).resolve_left hn

/-- The semantics is not vacuous: an unbracketed write racing with a bracketed read is reached. -/
theorem race_is_reachable_without_bracket :
    ∃ s, Reachable [[.acc 0 true 0], [.lock 1, .acc 0 false 1, .unlock 1]] s ∧
      RaceAt s 0 1 (.acc 0 true 0) (.acc 0 false 1) :=
  ⟨_, (reachable_init _).next (i := 1) (a := .lock 1) rfl (free_init _ _) rfl,
    by decide, ⟨[], [], rfl⟩, ⟨[1], [.unlock 1], rfl⟩, rfl⟩

/-- A callback delivered while `m` is held, whose handler locks `m` again (what
`caption_send_event` exists to prevent), deadlocks on its own thread. -/
theorem relock_in_callout_deadlocks :
    ∃ s, Reachable [[.lock 1, .callout 0 false, .lock 1, .unlock 1, .unlock 1]] s ∧ Deadlock s :=
  ⟨_, ((reachable_init _).next (i := 0) (a := .lock 1) rfl (free_init _ _) rfl).next (i := 0) (a := .callout 0 false) rfl trivial rfl,
    deadlock_self_relock (List.mem_singleton.2 rfl)⟩

/-! ## instance: the table extracted from the current source -/

/-- **Data-race freedom of the documented use, for all programs and schedules, no exception.**
Take any number of threads, each running one of the documented roles (any sequence of calls of the
role's functions, each along any control-flow path, event handlers calling
`vbi_fetch_cc_page`/`vbi_channel_switched` at every callout), with at most one `vbi_decode` thread.
No reachable state of any interleaving has two threads about to perform conflicting accesses to a
listed shared field. -/
theorem documented_roles_race_free {sys : List (Nat × List Action)} (wr : WellRoled roles sys)
    {s : State} (rs : Reachable (progsOf sys) s) {i j : Nat} {a b : Action} : ¬ RaceAt s i j a b := by
  intro race
  have := lock_discipline_implies_drf (discipline_of_table roles_annOK table_discipline wr) rs race
  simp [noKnown] at this

/-- corollary, with the exception list K1 of `Locks/Instance.lean`: every reachable race is a pair of `knownRace` -/
theorem documented_roles_race_free_modulo_known {sys : List (Nat × List Action)} (wr : WellRoled roles sys)
    {s : State} (rs : Reachable (progsOf sys) s) {i j : Nat} {a b : Action} (race : RaceAt s i j a b) :
    knownRace (siteOf a) (siteOf b) = true :=
  absurd race (documented_roles_race_free wr rs)

/-- **Callbacks are re-entrant, for all programs and schedules.**  In every reachable state of every
such system, a thread that is about to deliver an event callback holds neither `cc.mutex` nor
`chswcd_mutex` - the handler may call `vbi_fetch_cc_page` / `vbi_channel_switched` without
dead-locking on its own thread. -/
theorem callouts_reentrant {sys : List (Nat × List Action)} (wr : WellRoled roles sys)
    {s : State} (rs : Reachable (progsOf sys) s) {i : Nat} {h : List Mutex} {site : Site} {re : Bool}
    {r : List Action} (hi : s[i]? = some ⟨h, .callout site re :: r⟩) : mx_cc ∉ h ∧ mx_chswcd ∉ h := by
  have key := callout_unlocked_of_table roles_annOK (List.flatMap_eq_nil_iff.1 callouts_reentrant_table.1) wr rs hi
  exact ⟨fun hm => key _ hm (by decide), fun hm => key _ hm (by decide)⟩

/-- **No deadlock, always progress**, for the same systems. -/
theorem documented_roles_deadlock_free {sys : List (Nat × List Action)} (wr : WellRoled roles sys)
    {s : State} (rs : Reachable (progsOf sys) s) : ¬ Deadlock s ∧ ¬ Stuck s := by
  have bal := balanced_of_table roles_annOK wr
  have ord := ordered_of_table roles_annOK table_lock_order wr
  have hb : ∀ m, rank m < rankBound := by
    intro m; unfold rank rankBound
    split
    · omega
    · split <;> omega
  have tf := tryFree_of_table (List.all_eq_true.1 table_try_free) wr
  exact ⟨no_deadlock bal ord hb rs, progress bal tf ord hb rs⟩

/-- **A role never locks a mutex it already holds**, for all programs and schedules: in every reachable
state of every such system, a thread whose next action is `lock m` does not hold `m` (pthread mutexes
are not recursive: it would block on itself for ever, and with it every thread that needs `m`).
This is what `table_well_bracketed` buys (the held-set annotation rejects an edge `lock m` out of a
node that holds `m`); seed C20-e (`store_lop` calling `vbi_chsw_reset` inside its `chswcd_mutex`
section) makes exactly that theorem false. -/
theorem documented_roles_never_relock {sys : List (Nat × List Action)} (wr : WellRoled roles sys)
    {s : State} (rs : Reachable (progsOf sys) s) {i : Nat} {h : List Mutex} {m : Mutex} {r : List Action}
    (hi : s[i]? = some ⟨h, .lock m :: r⟩) : m ∉ h := by
  obtain ⟨h', htr⟩ := next_tracks (inv_reachable rs) (balanced_of_table roles_annOK wr) hi
  exact track_lock_not_mem htr

/-- the statement is not vacuous: a thread that does lock a mutex it holds is stuck for ever -/
example : ∃ s, Reachable [[.lock 2, .lock 2, .unlock 2, .unlock 2]] s ∧ Deadlock s :=
  ⟨_, (reachable_init _).next (i := 0) (a := .lock 2) rfl (free_init _ _) rfl, deadlock_self_relock (List.mem_singleton.2 rfl)⟩

/-- **A caption fetch is atomic.**  Over the whole stretch of any schedule during which a thread
holds `cc.mutex` - e.g. the `memcpy` of the page and the reset of its dirty fields in
`vbi_fetch_cc_page` - no other thread reads or writes `vbi->cc.channel[*]`. -/
theorem caption_fetch_atomic {sys : List (Nat × List Action)} (wr : WellRoled roles sys)
    {s s' : State} {j : Nat} {ls : List (Nat × Action)} (rs : Reachable (progsOf sys) s)
    (ex : ExecHolding j mx_cc s ls s') {i : Nat} {w : Bool} {site : Site}
    (hmem : (i, Action.acc var_cc_channel w site) ∈ ls) (hij : i ≠ j) : False :=
  exclusive_of_table roles_annOK (List.all_eq_true.1 table_protection.1) wr rs ex hmem hij rfl

/-- **Caption fetch sees a snapshot.**  While a thread holds `cc.mutex` (it is inside
`vbi_fetch_cc_page`, or inside `vbi_decode_caption` between two callbacks, or inside the caption
reset), no other thread reads or writes `vbi->cc.channel[*]` (pages, hidden flag, cursor ...). -/
theorem caption_fetch_snapshot {sys : List (Nat × List Action)} (wr : WellRoled roles sys)
    {s s' : State} (rs : Reachable (progsOf sys) s) {i j : Nat} {w : Bool} {site : Site}
    (st : Step s (i, .acc var_cc_channel w site) s') (hij : j ≠ i) {tj : Thread} (hj : s[j]? = some tj)
    (hm : mx_cc ∈ tj.held) : False :=
  caption_fetch_atomic wr rs (.cons ⟨tj, hj, hm⟩ st (.nil _)) (List.mem_singleton.2 rfl) (Ne.symm hij)

/-- corollary, with the exception K1 of `Locks/Instance.lean`: such an access is at a site of `unlockedCaptionReset` -/
theorem caption_fetch_snapshot_modulo_known {sys : List (Nat × List Action)} (wr : WellRoled roles sys)
    {s s' : State} (rs : Reachable (progsOf sys) s) {i j : Nat} {w : Bool} {site : Site}
    (st : Step s (i, .acc var_cc_channel w site) s') (hij : j ≠ i) {tj : Thread} (hj : s[j]? = some tj)
    (hm : mx_cc ∈ tj.held) : unlockedCaptionReset site = true :=
  (caption_fetch_snapshot wr rs st hij hj hm).elim

/-- **A raw decode is atomic with respect to the service set.**  Over the whole stretch of any
schedule during which a thread holds `rd->mutex` - e.g. one complete `vbi3_raw_decoder_decode` call
inside `vbi_raw_decode` - no other thread reads or writes the `vbi3_raw_decoder` state. -/
theorem raw_decode_atomic {sys : List (Nat × List Action)} (wr : WellRoled roles sys)
    {s s' : State} {j : Nat} {ls : List (Nat × Action)} (rs : Reachable (progsOf sys) s)
    (ex : ExecHolding j mx_rd s ls s') {i : Nat} {w : Bool} {site : Site}
    (hmem : (i, Action.acc var_rd3 w site) ∈ ls) (hij : i ≠ j) : False :=
  exclusive_of_table roles_annOK (List.all_eq_true.1 table_protection.2.1) wr rs ex hmem hij rfl

/-- **Every raw decode uses one consistent service set.**  While a thread holds `rd->mutex` (it is
inside `vbi_raw_decode`, or inside add/remove/check services), no other thread touches the
`vbi3_raw_decoder` state (services, jobs, pattern array). -/
theorem raw_decode_service_set_stable {sys : List (Nat × List Action)} (wr : WellRoled roles sys)
    {s s' : State} (rs : Reachable (progsOf sys) s) {i j : Nat} {w : Bool} {site : Site}
    (st : Step s (i, .acc var_rd3 w site) s') (hij : j ≠ i) {tj : Thread} (hj : s[j]? = some tj)
    (hm : mx_rd ∈ tj.held) : False :=
  raw_decode_atomic wr rs (.cons ⟨tj, hj, hm⟩ st (.nil _)) (List.mem_singleton.2 rfl) (Ne.symm hij)

/-- the instance is not vacuous: a decode thread, two fetch threads and a channel-switch thread,
each doing nothing yet, form a well-roled system -/
example : WellRoled roles [(0, []), (1, []), (1, []), (2, [])] := by
  have mem : ∀ {k r p}, [(0, []), (1, []), (1, []), (2, [])][k]? = some (r, p) →
      p = ([] : List Action) ∧ (r = 0 ∧ k = 0 ∨ r = 1 ∨ r = 2) := by
    intro k r p h
    match k, h with
    | 0, h | 1, h | 2, h | 3, h => cases h; simp
    | k + 4, h => cases h
  refine ⟨fun k r p h => ?_, fun k k' r p p' hk h h' => ?_⟩
  · obtain ⟨rfl, ⟨rfl, -⟩ | rfl | rfl⟩ := mem h <;> exact ⟨_, rfl, .nil⟩
  · obtain ⟨-, ⟨rfl, rfl⟩ | rfl | rfl⟩ := mem h
    · obtain ⟨-, ⟨-, rfl⟩ | h0 | h0⟩ := mem h'
      · exact absurd rfl hk
      all_goals cases h0
    all_goals exact ⟨_, rfl, rfl⟩

end Zvbi.Props.C20
