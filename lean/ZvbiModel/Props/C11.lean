import ZvbiModel.Ev.LemmasTerm
import ZvbiModel.Evl.LemmasExec
/-!
# C11 - event handlers run exactly once, in order, and may re-register from callbacks

Property theorems only; the model is `ZvbiModel/Ev/Model.lean` (vbi.c:143-381), the vocabulary
(`Inv`, `Reach`, `callIds`, `NoCallAfterFree`, `UndisturbedBefore`, `disables`) is
`ZvbiModel/Ev/Spec.lean`, helper lemmas are `ZvbiModel/Ev/Lemmas*.lean`.

All theorems quantify over every history of top-level operations (`Reach`: register / unregister /
add / remove with any handler, user pointer, 32-bit mask and allocation outcome, events of any
type, Teletext pages) and over every *behaviour* `beh` of the callbacks: an arbitrary function
from everything that happened so far to the list of API calls the callback issues - removing
or re-registering itself, any other handler, changing masks, adding new handlers, to any depth.
Record ids are allocation numbers: the handler list is always ordered by id (`Inv.sorted`) and a
new record gets the next id, so "increasing id" *is* "registration order".
-/
namespace Zvbi.Props.C11
open Zvbi.Ev Zvbi.Gen.Ev

/-- two handlers; the first one's callback unregisters the second and registers a third (test data) -/
def demoBeh : Behav := fun _ fn _ _ =>
  if fn = 1 then [{ kind := .reg, fn := 2, user := 8, mask := 0 }, { kind := .reg, fn := 3, user := 9, mask := 2 }] else []
def demoOps : List Op :=
  [.call { kind := .reg, fn := 1, user := 7, mask := 2 }, .call { kind := .reg, fn := 2, user := 8, mask := 6 },
   .call { kind := .reg, fn := 4, user := 0, mask := 2 }]

/-- Every reachable state satisfies the invariant (list ordered by allocation, cursor NULL or
live, `event_mask` = union, freed records unlinked for good, ...) and has `next_handler == NULL`. -/
theorem inv_reachable (beh : Behav) (fuel : Nat) (s : State) (hr : Reach beh fuel s) :
    Inv s ∧ s.cursor = none := by
  obtain ⟨ops, hops⟩ := hr
  have := run_spec beh fuel ops init inv_init rfl
  rw [hops] at this
  exact ⟨this.1, this.2.1⟩

example : Reach demoBeh 10 (apiCall { kind := .reg, fn := 1, user := 7, mask := 2 } init) :=
  ⟨[.call { kind := .reg, fn := 1, user := 7, mask := 2 }], rfl⟩

/-- `no_dead_deref`: in no history, with no behaviour of the callbacks, does `vbi_send_event`
dereference a freed handler record - the `next_handler` fix-up at vbi.c:206/297 always leaves the
cursor on a linked record or NULL. (The only ways a history can stop are running out of loop fuel
and the self-deadlock after a failed allocation, see `no_deadlock_without_oom`.) -/
theorem no_dead_deref (beh : Behav) (fuel : Nat) (ops : List Op) (c : Nat) :
    run beh fuel init ops ≠ .error (.deadDeref c) := by
  intro h
  have := run_spec beh fuel ops init inv_init rfl
  rw [h] at this
  rcases this with h1 | ⟨h1, _⟩ <;> cases h1

/-- ... and also mid-delivery: whatever calls a callback has issued so far, the cursor the loop
will dereference next is NULL or a linked record. -/
theorem cursor_live_in_callbacks (s : State) (h : Inv s) (cs : List Call) :
    ∀ c, (runScript s cs).cursor = some c → c ∈ ids (runScript s cs).handlers :=
  (runScript_ok cs s h).1.cursorLive

example : (run demoBeh 10 init (demoOps ++ [.send 2])).toOption.map (fun s => (ids s.handlers, s.cursor))
    = some ([0, 2, 3], none) := by decide +kernel

/-- `delivery_exactly_once_in_order`: in a delivery of event `ev` from any reachable state
* the invoked records have strictly increasing ids: nobody is called twice, and calls happen in
  registration order;
* every invocation passes the event type raised and the handler function and user pointer of the
  record it is made for;
* every handler registered before the event whose mask wants `ev` is invoked, unless a callback
  that ran before its turn removed it or took `ev` out of its mask (`UndisturbedBefore`). -/
theorem delivery_exactly_once_in_order (beh : Behav) (fuel ev : Nat) (s s' : State)
    (hr : Reach beh fuel s) (hs : send beh fuel ev s = .ok s') :
    ∃ X, s'.trace = s.trace ++ X ∧
      (callIds X).Pairwise (· < ·) ∧
      (∀ id f u e, Entry.call id f u e ∈ X →
        e = ev ∧ ∀ r ∈ s.handlers, r.id = id → r.fn = f ∧ r.user = u) ∧
      (∀ r ∈ s.handlers, r.mask &&& ev ≠ 0 →
        UndisturbedBefore beh ev r s.trace.length s'.trace → r.id ∈ callIds X) := by
  obtain ⟨h, hc⟩ := inv_reachable beh fuel s hr
  obtain ⟨_, X, D⟩ := send_ok beh fuel ev s s' h hc hs
  refine ⟨X, D.trace, D.ordered, ?_, ?_⟩
  · intro id f u e hin
    refine ⟨D.event id f u e hin, ?_⟩
    intro r hrm hid
    obtain ⟨m, hm⟩ := D.inv.calledAllocd id f u e (by rw [D.trace]; exact List.mem_append_right _ hin)
    obtain ⟨m', hm'⟩ := h.allocd r hrm
    have := D.inv.allocUniq id f u m r.fn r.user m' hm (by rw [D.trace, ← hid]; exact List.mem_append_left _ hm')
    exact ⟨this.1.symm, this.2.symm⟩
  · intro r hrm hmask hU
    obtain ⟨r1, hh1, hle1⟩ := Keys.head_le h.sorted hrm
    exact D.complete r r1.id (by rw [hh1]; rfl) hle1 ⟨r, hrm, rfl, rfl, rfl, hmask⟩ hU

/-- the demo: record 0 is called, removes record 1 (the cursor!) and adds record 3; records 2 and 3
are then called once each, record 1 is not -/
example : (run demoBeh 10 init (demoOps ++ [.send 2])).toOption.map (fun s => callIds s.trace)
    = some [0, 2, 3] := by decide +kernel

/-- In every history every invocation is made with the handler function and the user pointer the
record was allocated with (also for records created inside callbacks). -/
theorem called_with_own_user (beh : Behav) (fuel : Nat) (s : State) (hr : Reach beh fuel s)
    (id f u e : Nat) (hc : Entry.call id f u e ∈ s.trace) :
    (∃ m, Entry.alloc id f u m ∈ s.trace) ∧
    ∀ f' u' m', Entry.alloc id f' u' m' ∈ s.trace → f' = f ∧ u' = u := by
  obtain ⟨h, _⟩ := inv_reachable beh fuel s hr
  obtain ⟨m, hm⟩ := h.calledAllocd id f u e hc
  exact ⟨⟨m, hm⟩, fun f' u' m' h' => h.allocUniq id f' u' m' f u m h' hm⟩

example : (run demoBeh 10 init (demoOps ++ [.send 2])).toOption.map
    (fun s => s.trace.filter (fun e => e matches .call ..))
    = some [.call 0 1 7 2, .call 2 4 0 2, .call 3 3 9 2] := by decide +kernel

/-- `added_during_delivery_at_most_once`: no record - in particular none created by a callback
during this delivery (`s.nextId ≤ id`) - is invoked more than once for one event. -/
theorem added_during_delivery_at_most_once (beh : Behav) (fuel ev : Nat) (s s' : State)
    (hr : Reach beh fuel s) (hs : send beh fuel ev s = .ok s') (id : Nat) :
    (callIds (s'.trace.drop s.trace.length)).count id ≤ 1 := by
  obtain ⟨X, hX, hpw, _⟩ := delivery_exactly_once_in_order beh fuel ev s s' hr hs
  rw [hX, List.drop_left]
  exact List.nodup_iff_count.mp (hpw.imp Nat.ne_of_lt) id

/-- a handler added by the *last* handler of the list is not called for the running event (0 ≤ 1) -/
example : (run (fun _ fn _ _ => if fn = 1 then [{ kind := .reg, fn := 3, user := 9, mask := 2 }] else []) 10 init
    [.call { kind := .reg, fn := 1, user := 7, mask := 2 }, .send 2]).toOption.map (fun s => (callIds s.trace, ids s.handlers))
    = some ([0], [0, 1]) := by decide +kernel

/-- `removed_never_called`: in the complete trace of any history (everything that happened inside
all deliveries included) no record is invoked at any point after it was freed, and a freed record
is never linked again. -/
theorem removed_never_called (beh : Behav) (fuel : Nat) (s : State) (hr : Reach beh fuel s) :
    NoCallAfterFree s.trace ∧ ∀ x, Entry.free x ∈ s.trace → x ∉ ids s.handlers := by
  obtain ⟨h, _⟩ := inv_reachable beh fuel s hr
  exact ⟨h.ncaf, fun x hx => (h.freedDead x hx).1⟩

example : (run demoBeh 10 init (demoOps ++ [.send 2, .send 4])).toOption.map
    (fun s => (s.trace.contains (.free 1), (callIds s.trace).contains 1)) = some (true, false) := by decide +kernel

/-- `mask_union`: after every operation `vbi->event_mask` is the union of the masks of the
registered handlers; bit `b` is requested iff some registered handler requests it. -/
theorem mask_union (beh : Behav) (fuel : Nat) (s : State) (hr : Reach beh fuel s) :
    s.eventMask = orMasks s.handlers ∧
    ∀ b, (s.eventMask &&& b ≠ 0 ↔ ∃ r ∈ s.handlers, r.mask &&& b ≠ 0) := by
  obtain ⟨h, _⟩ := inv_reachable beh fuel s hr
  refine ⟨h.maskUnion, fun b => ?_⟩
  rw [h.maskUnion]; exact orMasks_and_ne_zero s.handlers b

/-- ... and the same after every single API call issued from inside a callback. -/
theorem mask_union_in_callbacks (s : State) (h : Inv s) (cs : List Call) :
    (runScript s cs).eventMask = orMasks (runScript s cs).handlers :=
  (runScript_ok cs s h).1.maskUnion

example : (run demoBeh 10 init demoOps).toOption.map (·.eventMask) = some 6 := by decide +kernel
example : (run demoBeh 10 init (demoOps ++ [.send 2])).toOption.map (·.eventMask) = some 2 := by decide +kernel

/-- `ttx_acquired_iff_handler` (model side): the gate of `vbi_decode_teletext`
(`event_mask & TTX_EVENTS`, packet.c:2209) is open exactly while at least one registered handler
requests `VBI_EVENT_TTX_PAGE`; and a complete page fed through the decoder ends up in the cache
iff it was there before or such a handler is registered. That the real decoder ignores the
packets when the gate is closed is checked on the C code by the `ttx` op (oracle), not proved. -/
theorem ttx_acquired_iff_handler (beh : Behav) (fuel : Nat) (s : State) (hr : Reach beh fuel s) :
    (ttxAcquiring s = true ↔ ∃ r ∈ s.handlers, r.mask &&& VBI_EVENT_TTX_PAGE ≠ 0) ∧
    ∀ p s', ttxPage beh fuel p s = .ok s' →
      (p ∈ s'.cached ↔ p ∈ s.cached ∨ ∃ r ∈ s.handlers, r.mask &&& VBI_EVENT_TTX_PAGE ≠ 0) := by
  obtain ⟨h, hc⟩ := inv_reachable beh fuel s hr
  have hacq : ttxAcquiring s = true ↔ ∃ r ∈ s.handlers, r.mask &&& VBI_EVENT_TTX_PAGE ≠ 0 := by
    rw [← (mask_union beh fuel s hr).2 VBI_EVENT_TTX_PAGE]
    exact decide_eq_true_iff
  refine ⟨hacq, fun p s' hs => ?_⟩
  unfold ttxPage at hs
  by_cases ha : ttxAcquiring s = true
  · rw [if_pos ha] at hs
    obtain ⟨_, _, D⟩ := send_ok beh fuel _ _ s' (h.setCached (if s.cached.contains p then s.cached else p :: s.cached)) hc hs
    rw [D.cached]
    by_cases hp : p ∈ s.cached <;> simp [hp, hacq.mp ha]
  · rw [if_neg ha] at hs
    cases hs
    simp [← hacq, ha]

example : (run (fun _ _ _ _ => []) 10 init [.ttx 0x100, .call { kind := .reg, fn := 1, user := 7, mask := 2 }, .ttx 0x101,
    .call { kind := .reg, fn := 1, user := 7, mask := 0 }, .ttx 0x102]).toOption.map (·.cached) = some [0x101] := by decide +kernel

/-- OUTSIDE THE PROPERTY (C11 does not quantify over allocation failure; kept because the models follow
the code on that path too).  The event mutex: as long as no *top-level* registration fails for lack of memory - or if the
allocation-failure path releases the mutex (`oomUnlocks`, read off vbi.c by the translator; true
once fixes/ev-oom-unlock.diff is applied) - the mutex is free between operations and no event
ever blocks. -/
theorem no_deadlock_without_oom (beh : Behav) (fuel : Nat) (ops : List Op)
    (hno : oomUnlocks = true ∨ NoTopOom ops) :
    run beh fuel init ops ≠ .error .deadlock ∧ ∀ s, run beh fuel init ops = .ok s → s.locked = false := by
  have := run_spec beh fuel ops init inv_init rfl
  constructor
  · intro he
    rw [he] at this
    rcases this with h | ⟨_, h⟩
    · cases h
    · exact h rfl hno
  · intro s hs
    rw [hs] at this
    exact this.2.2 rfl hno

example : NoTopOom demoOps := by
  intro c hc
  simp only [demoOps, List.mem_cons, Op.call.injEq, List.not_mem_nil, or_false] at hc
  rcases hc with rfl | rfl | rfl <;> rfl

/-- OUTSIDE THE PROPERTY - observation C11-F1 (NOTES/C11.md; input corpus/C11/oom-lock-leak.ops), not
judged by the check: on the code as it is
(`oomUnlocks = false`) the statement without the hypothesis is false. When `calloc` fails,
`vbi_event_handler_register` returns FALSE without unlocking (vbi.c:312-313, same in `_add`
221-222): the mutex stays locked and the next event blocks forever. -/
theorem oom_leaks_mutex_counterexample (hflag : oomUnlocks = false) :
    ¬ (∀ (ops : List Op), run (fun _ _ _ _ => []) 10 init ops ≠ .error .deadlock) := by
  intro h
  apply h [.call { kind := .reg, fn := 1, user := 1, mask := 2 },
           .call { kind := .reg, fn := 2, user := 2, mask := 2, oom := true }, .send 2]
  simp [run, step, send, apiCall, walk, Call.hits, init, hflag]

/-- `send_terminates`: a delivery ends (the loop fuel `|handlers| + K*L + 1` suffices) whenever the
callbacks issue at most `L` calls each and stop issuing calls after `K` invocations within the
delivery. (Without such a bound a delivery need not end: two handlers that each unregister and
re-register themselves keep appending each other behind the cursor - see the example below.) -/
theorem send_terminates (beh : Behav) (ev K L : Nat) (s : State) (fuel : Nat) (hr : Reach beh fuel s)
    (hb : BoundedBeh beh s.trace.length K L) (fuel' : Nat)
    (hf : s.handlers.length + K * L + 1 ≤ fuel') :
    send beh fuel' ev s ≠ .error .fuel := by
  obtain ⟨h, hc⟩ := inv_reachable beh fuel s hr
  exact send_no_fuel beh ev K L s fuel' h hb hf

/-- two handlers that re-register themselves: the delivery exhausts any fuel -/
example : run (fun _ fn user _ => [{ kind := .reg, fn := fn, user := user, mask := 0 }, { kind := .reg, fn := fn, user := user, mask := 2 }])
    50 init [.call { kind := .reg, fn := 1, user := 1, mask := 2 }, .call { kind := .reg, fn := 2, user := 2, mask := 2 }, .send 2]
    = .error .fuel := by rfl

/-! ## The second implementation of the same contract: `src/event.c` (cache.c, cc608_decoder.c)

Model `ZvbiModel/Evl/Model.lean`.  Removal during a delivery is deferred (`remove` mark, `ref_count`);
deliveries may nest: a behaviour may issue `send` calls, to any depth.  `rv` says whether `_add`
clears the `remove` mark of a record it finds again; the real value is read off event.c by the
translator (`readdRevives`, false in the original code).  All theorems hold for both values unless
the hypothesis says otherwise. -/

/-- handler (0,1) removes handler (1,2) and registers it again; handler (1,2) sends a nested event 4 -/
def demoBehL : Evl.Behav := fun _ fn _ ev =>
  if fn = 0 then [.add 1 2 0 false, .add 1 2 2 false]
  else if fn = 1 ∧ ev = 2 then [.send 4] else []
def demoCallsL : List Evl.Call := [.add 0 1 2 false, .add 1 2 6 false, .add 2 7 6 false]

/-- Every state a history of calls on the second list can reach satisfies `Evl.Inv` (list ordered
by allocation, no freed record linked, per-delivery call order, ...) and is outside any delivery. -/
theorem evl_inv_reachable (rv : Bool) (beh : Evl.Behav) (fuel : Nat) (s : Evl.State)
    (hr : Evl.Reach rv beh fuel s) : Evl.Inv rv s ∧ s.refCount = 0 := by
  obtain ⟨cs, hcs⟩ := hr
  have := (Evl.run_good rv beh fuel cs Evl.init (Evl.inv_init rv)).ok hcs
  exact ⟨this.inv, this.ext.refCount⟩

example : Evl.Reach false demoBehL 20 Evl.init := ⟨[], rfl⟩

/-- `no_dead_deref` for event.c: no history - nested deliveries and arbitrary callbacks included -
makes `__vbi_event_handler_list_send` touch a record that was freed; a run can only stop for lack
of fuel. -/
theorem evl_no_dead_deref (rv : Bool) (beh : Evl.Behav) (fuel : Nat) (cs : List Evl.Call) (c : Nat) :
    Evl.run rv beh fuel Evl.init cs ≠ .error (.deadDeref c) := by
  intro h
  cases (Evl.run_good rv beh fuel cs Evl.init (Evl.inv_init rv)).error h

example : (Evl.run false demoBehL 40 Evl.init (demoCallsL ++ [.send 2])).toOption.map
    (fun s => (Evl.ids s.list, s.refCount)) = some ([0, 2], 0) := by decide +kernel

/-- `delivery_at_most_once_in_order` for event.c: every delivery (numbered `d`; nested ones have
their own numbers) invokes records in strictly increasing id order - nobody twice, registration
order - whatever the callbacks do, including sending nested events. -/
theorem evl_delivery_at_most_once_in_order (rv : Bool) (beh : Evl.Behav) (fuel : Nat) (s : Evl.State)
    (hr : Evl.Reach rv beh fuel s) (d : Nat) : (Evl.callsOf d s.trace).Pairwise (· < ·) :=
  (evl_inv_reachable rv beh fuel s hr).1.ordered d

/-- delivery 0 (event 2) calls records 0 and 2 - record 1 was removed by record 0's callback and
its re-registration is lost (F50, original code) - and never the removed record -/
example : (Evl.run false demoBehL 40 Evl.init (demoCallsL ++ [.send 2])).toOption.map
    (fun s => (Evl.callsOf 0 s.trace, Evl.callsOf 1 s.trace)) = some ([0, 2], []) := by decide +kernel
/-- with the repair (`rv = true`) record 1 is called, and its callback's nested delivery 1 (event 4)
calls record 2 -/
example : (Evl.run true demoBehL 40 Evl.init (demoCallsL ++ [.send 2])).toOption.map
    (fun s => (Evl.callsOf 0 s.trace, Evl.callsOf 1 s.trace)) = some ([0, 1, 2], [2]) := by decide +kernel

/-- `delivery_exactly_once` for event.c, the at-least-once half, full strength: a top-level delivery of
`ev` invokes every registered handler that wants `ev` - with its own callback and user pointer and
the event type raised - unless an API call executed *before its turn* (`Evl.beforeTurn`: before the
first invocation, by this delivery, of a record with the same or a larger id; calls made by any
callback at any nesting depth count) disturbs it (`Evl.disturbs`: removes it, gives it a mask
without `ev`, or is a remove_by_event). -/
theorem evl_delivery_complete_full (rv : Bool) (beh : Evl.Behav) (fuel ev : Nat) (s s' : Evl.State)
    (hr : Evl.Reach rv beh fuel s) (hs : Evl.exec rv beh fuel s (.send ev) = .ok s')
    (r : Evl.Rec) (hrm : r ∈ s.list) (hmask : r.mask &&& ev ≠ 0)
    (hq : Evl.Quiet ev r (Evl.beforeTurn s.nextDid r.id (Evl.newPart s s'))) :
    Evl.Entry.call s.nextDid r.id r.fn r.user ev ∈ Evl.newPart s s' := by
  obtain ⟨h, hrc⟩ := evl_inv_reachable rv beh fuel s hr
  exact Evl.send_calls_kept h hs ⟨r, hrm, rfl, rfl, rfl, h.idleClean hrc r hrm, hmask⟩ hq

/-- corollary: a handler that no API call disturbs during the whole delivery is invoked -/
theorem evl_delivery_complete_untouched (rv : Bool) (beh : Evl.Behav) (fuel ev : Nat) (s s' : Evl.State)
    (hr : Evl.Reach rv beh fuel s) (hs : Evl.exec rv beh fuel s (.send ev) = .ok s')
    (r : Evl.Rec) (hrm : r ∈ s.list) (hmask : r.mask &&& ev ≠ 0)
    (hq : Evl.Quiet ev r (Evl.newPart s s')) :
    Evl.Entry.call s.nextDid r.id r.fn r.user ev ∈ Evl.newPart s s' :=
  evl_delivery_complete_full rv beh fuel ev s s' hr hs r hrm hmask
    fun c hc => hq c ((List.takeWhile_prefix _).subset hc)

/-- record 2 is touched by nobody during the demo delivery and is called -/
example : (Evl.run false demoBehL 40 Evl.init (demoCallsL ++ [.send 2])).toOption.map
    (fun s => s.trace.contains (.call 0 2 2 7 2)) = some true := by decide +kernel

/-- `removed_never_called` for event.c: no record is invoked after it was freed, freed records are
never linked again, and - original code - no record is invoked after an API call removed it
(this is what the `!eh->remove` test of the delivery loop is for). -/
theorem evl_removed_never_called (rv : Bool) (beh : Evl.Behav) (fuel : Nat) (s : Evl.State)
    (hr : Evl.Reach rv beh fuel s) :
    Evl.NoCallAfterFree s.trace ∧ (∀ x, Evl.Entry.free x ∈ s.trace → x ∉ Evl.ids s.list) ∧
    (rv = false → Evl.NoCallAfterUnreg s.trace) := by
  obtain ⟨h, _⟩ := evl_inv_reachable rv beh fuel s hr
  exact ⟨h.ncaf, fun x hx => (h.freedDead x hx).1, h.ncau⟩

example : (Evl.run false demoBehL 40 Evl.init (demoCallsL ++ [.send 2])).toOption.map
    (fun s => (s.trace.contains (.unreg 1), s.trace.contains (.free 1))) = some (true, true) := by decide +kernel

/-- deferred removal completes: between top-level calls no record is marked for removal. -/
theorem evl_idle_clean (rv : Bool) (beh : Evl.Behav) (fuel : Nat) (s : Evl.State)
    (hr : Evl.Reach rv beh fuel s) : ∀ r ∈ s.list, r.remove = false :=
  let h := evl_inv_reachable rv beh fuel s hr
  h.1.idleClean h.2

/-- `mask_union` for event.c, the direction that matters: every bit a registered handler asks for
is in `el->event_mask`, so the early return of `send` never drops an event somebody wants. -/
theorem evl_mask_superset (rv : Bool) (beh : Evl.Behav) (fuel : Nat) (s : Evl.State)
    (hr : Evl.Reach rv beh fuel s) :
    ∀ r ∈ s.list, ∀ b, r.mask &&& b ≠ 0 → s.eventMask &&& b ≠ 0 := by
  obtain ⟨h, hrc⟩ := evl_inv_reachable rv beh fuel s hr
  intro r hr b hb
  exact h.maskSup r hr (h.idleClean hrc r hr) b hb

/-- ... but not the other direction: `event_mask` can keep bits of handlers that are gone (a call
made during a delivery counts the masks of records already marked, and the sweep does not
recompute). Harmless (only the early return uses it); recorded as a witness, for both `rv`. -/
theorem evl_mask_union_counterexample (rv : Bool) :
    ∃ beh cs s, Evl.run rv beh 20 Evl.init cs = .ok s ∧
      s.eventMask ≠ s.list.foldr (fun r a => r.mask ||| a) 0 := by
  refine ⟨fun _ fn _ _ => if fn = 0 then [.add 1 1 0 false, .add 2 2 8 false] else [],
    [.add 0 0 2 false, .add 1 1 4 false, .send 2], ?_⟩
  have h : Evl.okAnd (Evl.run rv (fun _ fn _ _ => if fn = 0 then [.add 1 1 0 false, .add 2 2 8 false] else [])
      20 Evl.init [.add 0 0 2 false, .add 1 1 4 false, .send 2])
      (fun s => decide (s.eventMask ≠ s.list.foldr (fun r a => r.mask ||| a) 0)) = true := by
    cases rv <;> decide +kernel
  obtain ⟨s, hs, hp⟩ := Evl.okAnd_spec h
  exact ⟨s, hs, of_decide_eq_true hp⟩

/-- F50 (was C11-F2; fixed in /repo by commit ff327ee, replay corpus/C11/evl-readd-lost.ops): with the
original `_add` (`rv = false` only) a handler that a callback removes and registers again during a
delivery is lost: `_add` finds the record already marked `remove`, updates its mask, returns it as
success - and the sweep at the end of the delivery frees it.  After the delivery handler (1,2) is
not registered although the last call made for it was a successful `_add`. -/
theorem readd_in_delivery_lost_counterexample :
    ∃ s, Evl.run false demoBehL 40 Evl.init (demoCallsL ++ [.send 2]) = .ok s ∧
      (Evl.Entry.api (.add 1 2 2 false)) ∈ s.trace ∧ ∀ r ∈ s.list, ¬ (r.fn = 1 ∧ r.user = 2) := by
  have h : Evl.okAnd (Evl.run false demoBehL 40 Evl.init (demoCallsL ++ [.send 2]))
      (fun s => decide ((Evl.Entry.api (.add 1 2 2 false)) ∈ s.trace ∧ ∀ r ∈ s.list, ¬ (r.fn = 1 ∧ r.user = 2))) = true := by
    decide +kernel
  obtain ⟨s, hs, hp⟩ := Evl.okAnd_spec h
  exact ⟨s, hs, of_decide_eq_true hp⟩

/-- `evl_readd_in_delivery_kept` - the positive statement for the code as it is now (`readdRevives`,
read off event.c by the translator, is `true`; the proof's `rfl` fails, and the check reports it,
should the repair ever be lost): in any state - idle or in the middle of a (nested) delivery, the
handler unknown, registered, or already marked for removal - removing a handler and registering it
again leaves it linked, *not* marked for removal, with the new mask. -/
theorem evl_readd_in_delivery_kept (s : Evl.State) (fn user m : Nat) (hm : m ≠ 0) :
    ∃ r ∈ (Evl.apiAdd readdRevives fn user m false (Evl.apiAdd readdRevives fn user 0 false s)).list,
      r.fn = fn ∧ r.user = user ∧ r.mask = m ∧ r.remove = false := by
  have hflag : readdRevives = true := rfl
  rw [hflag]
  exact Evl.apiAdd_registers fn user m hm _

/-- ... and it stays registered: whatever is executed afterwards (further calls of the callbacks,
nested deliveries, the end of the delivery with its sweep of marked records), a linked unmarked
handler that wants `ev` remains one as long as no executed API call disturbs it. -/
theorem evl_kept_while_undisturbed (rv : Bool) (beh : Evl.Behav) (fuel ev : Nat) (r : Evl.Rec)
    (s s' : Evl.State) (c : Evl.Call) (h : Evl.Inv rv s) (hk : Evl.Kept ev r s)
    (hs : Evl.exec rv beh fuel s c = .ok s') (hq : Evl.Quiet ev r (Evl.newPart s s')) : Evl.Kept ev r s' :=
  (((Evl.exec_loop_ok rv beh fuel).1 s c h).ok hs).keeps ev r hk hq

/-- the demo history on the current model: handler (1,2) is still registered after the delivery -/
example : (Evl.run true demoBehL 40 Evl.init (demoCallsL ++ [.send 2])).toOption.map
    (fun s => s.list.filter (fun r => r.fn = 1 ∧ r.user = 2)) = some [⟨1, 1, 2, 2, false⟩] := by decide +kernel

end Zvbi.Props.C11
