import ZvbiModel.Cc.Events
import ZvbiModel.Cc.ByteScripts
/-!
# C08 - Closed Caption display memory follows EIA-608 for every command sequence

Property theorems only; the lemmas are in `Cc/` (`Inv`, `Steps` - the contracts of the channel functions -, `Decoder`, `Commands`,
`Events`, `CharRuns`; the script refinements in `Rows` .. `ByteScripts`).  Model: `Cc/Model.lean`
(src/caption.c 719-1623), reference: `Cc/Spec.lean` (`Eia608`, 47 CFR 15.119).
`set_option maxRecDepth` stands before what the kernel evaluates on a whole decoder state (9 channels x 2 pages x 1056 cells).
-/
namespace Zvbi.Props.C08
open Zvbi.Cc Zvbi.Gen.Cc

/-- **cursor_inv.** For every history of byte pairs (both fields, any bytes, any parity), page fetches
and channel switches, every one of the nine channels satisfies `1 <= col1 <= col <= 33`, `row <= 14`,
`roll >= 1`, `row1 + roll <= 15`, `line` = cell `row * 34` of the hidden page, both `text[]`
arrays keep their extent, and no access recorded an out-of-bounds index or a negative size.
(Uses two facts `translate/gen_cc.py` reads from the source on every run: `ch->hidden = 0` precedes
`set_cursor()` in `vbi_caption_channel_switched`, and the PAC window clamp
`if (row1 < 0) row1 = 0;` is present; if either disappears this proof no longer builds.) -/
theorem cursor_inv (ops : List Op) : Inv (run ops) :=
  foldl_inv ops (fun _ _ => Or.inr (by decide)) _ init_inv

example : Inv (run [.pair false 0x94 0x2C, .chsw, .fetch 1]) := cursor_inv _

/-- **no_oob** (the C01 obligation of caption.c): no history of byte pairs, fetches and channel switches
makes `put_char`, `word_break`, `update`, tabs, BS, DER, CR, `erase_memory`, the PAC window move or the
channel table index leave its array. -/
theorem no_oob (ops : List Op) : (run ops).firstErr = none :=
  firstErr_none (cursor_inv ops)

example : (run [.pair true 0x15 0x2D, .chsw]).firstErr = none := no_oob _

/-- **cursor_inv for either statement order** of `vbi_caption_channel_switched`: with `set_cursor()` first
(`hiddenFirst = false`) the invariant still holds for every history
WITHOUT channel switches; with `hidden = 0` first it holds for all histories. -/
theorem cursor_inv_either_order (hiddenFirst : Bool) (ops : List Op) (h : Op.chsw ∉ ops ∨ hiddenFirst = true) :
    Inv (runWith hiddenFirst ops) :=
  foldlWith_inv hiddenFirst ops (fun _ ho => h.elim (fun hn => Or.inl (fun e => hn (e ▸ ho))) Or.inr) _ init_inv

/-- the witness of finding F43: `RCL RCL EOC EOC <channel switch> RDC` on CC1 -/
def f17Witness : List Op :=
  [.pair false 0x94 0x20, .pair false 0x94 0x20, .pair false 0x94 0x2F, .pair false 0x94 0x2F, .chsw,
   .pair false 0x94 0x29]

set_option maxRecDepth 100000 in
/-- **chsw_counterexample** (finding F43).  With the unrepaired statement order
(`set_cursor` before `ch->hidden = 0`), after `RCL RCL EOC EOC <channel switch>` CC1's `line` points into
the displayed page, and the next command (`RDC`) makes `update()` compute a destination outside `pg[]`:
the model records that error.  Stated for the model with the order given explicitly, so it does not
depend on the order found in the source. -/
theorem chsw_counterexample :
    (runWith false f17Witness).firstErr = some "update: line is not in pg[hidden]" := by
  decide

/-- consequence: the invariant fails on that history with the unrepaired order -/
theorem chsw_breaks_inv : ¬ Inv (runWith false f17Witness) := by
  intro hI
  have h1 := firstErr_none hI
  rw [chsw_counterexample] at h1
  cases h1

/-! ## channels and fields -/

/-- **channels_independent.** A byte pair belongs to one data channel: field `f` and channel bit `k`
(bit 3 of a control code's first byte; for characters the bit of the latest mode command).  Whatever
the pair is - any bytes, any parity, any decoder state - every channel other than caption channel
`2f + k` and text channel `2f + k + 4` keeps its memories, cursor, mode, pen and event count. -/
theorem channels_independent (s : St) (field2 : Bool) (b0 b1 : Nat) (i : Nat)
    (h1 : i ≠ pairGroup s field2 b0) (h2 : i ≠ pairGroup s field2 b0 + 4) :
    (decodePair s field2 b0 b1).chans[i]? = s.chans[i]? :=
  (decodePair_apart s field2 b0 b1).chans i h1 h2

example : (decodePair init false 0x94 0x2C).chans[1]? = init.chans[1]? :=
  channels_independent _ _ _ _ _ (by decide) (by decide)

/-- **f1_control_dedup, field 1.** A control pair (both bytes odd parity, first byte 0x10..0x1F) that is
not itself a repetition executes `caption_command` once and arms the latch; the identical pair sent
again changes nothing except that it clears the latch (so a third copy would execute again). -/
theorem f1_control_dedup (s : St) (b0 b1 : Nat) (hp0 : (Zvbi.Hamm.unpar8 b0).isSome = true)
    (hp1 : (Zvbi.Hamm.unpar8 b1).isSome = true) (hc : 0x10 ≤ b0 &&& 0x7F ∧ b0 &&& 0x7F ≤ 0x1F)
    (hnew : ¬ (b0 = s.last0 ∧ b1 = s.last1)) :
    decodePair s false b0 b1 = { captionCommand s (b0 &&& 0x7F) (b1 &&& 0x7F) false with last0 := b0, last1 := b1 } ∧
    decodePair (decodePair s false b0 b1) false b0 b1 = { decodePair s false b0 b1 with last0 := 0 } := by
  have e1 := decodePair_f1_control s b0 b1 hp0 hp1 hc
  rw [if_neg hnew] at e1
  refine ⟨e1, ?_⟩
  have e2 := decodePair_f1_control (decodePair s false b0 b1) b0 b1 hp0 hp1 hc
  have hl : b0 = (decodePair s false b0 b1).last0 ∧ b1 = (decodePair s false b0 b1).last1 := by rw [e1]; exact ⟨rfl, rfl⟩
  rw [if_pos hl] at e2
  exact e2

example : (decodePair (decodePair init false 0x94 0x2C) false 0x94 0x2C).chans = (decodePair init false 0x94 0x2C).chans := by
  rw [(f1_control_dedup init 0x94 0x2C (by decide) (by decide) (by decide) (by decide)).2]

/-- **f1_control_dedup, field 2.** On field 2 there is no latch: every copy of a control pair runs
`caption_command` (a doubled pair executes twice). -/
theorem f2_control_executes_each_time (s : St) (b0 b1 : Nat) (hp0 : (Zvbi.Hamm.unpar8 b0).isSome = true)
    (hp1 : (Zvbi.Hamm.unpar8 b1).isSome = true) (hc : 0x10 ≤ b0 &&& 0x7F ∧ b0 &&& 0x7F ≤ 0x1F) :
    decodePair s true b0 b1 = captionCommand { s with xds := false } (b0 &&& 0x7F) (b1 &&& 0x7F) true := by
  have hn : (Zvbi.Hamm.unpar8 b0).isNone = false := by cases h : Zvbi.Hamm.unpar8 b0 <;> simp_all
  have hx : ¬(1 ≤ b0 &&& 0x7F ∧ b0 &&& 0x7F ≤ 0x0F) := by omega
  have h0 : ¬ b0 &&& 0x7F = 0 := by omega
  have h15 : ¬ b0 &&& 0x7F ≤ 0x0F := by omega
  unfold decodePair xdsGate
  simp only [if_true, hp0, h0, h15, if_false, hc.2]
  unfold decodeMain
  simp only [hn, Bool.false_eq_true, if_false, hx, hc, and_self, if_true, hp1, Bool.not_true, Bool.false_and]

/-! ## single commands -/

/-- **eoc_swaps.** End Of Caption (0x14/0x15/0x1C/0x1D 0x2F) selects caption channel `chan & 3`, and on
that channel (after the closing word break `x`): displayed and non-displayed memory are exchanged, the
new non-displayed memory is blank, mode is pop-on, the cursor is at row 15 column 1, and exactly one
caption event is raised. -/
theorem eoc_swaps (s : St) (c1 c2 : Nat) (f2 : Bool) (h1 : c1 &&& 7 = 4 ∨ c1 &&& 7 = 5) (h2 : c2 < 0x40)
    (h3 : c2 &&& 15 = 15) :
    captionCommand s c1 c2 f2 =
      (s.switchChannel (cmdChan s c1 f2) (cmdChan s c1 f2 &&& 3)).modCh (cmdChan s c1 f2 &&& 3) endOfCaption ∧
    ∀ ch, ChInv ch →
      let x := wordBreak { ch with mode := .popOn } true
      (endOfCaption ch).hidden = (!ch.hidden) ∧
      (endOfCaption ch).displayed = x.nonDisplayed ∧
      (endOfCaption ch).nonDisplayed = List.replicate (rows * columns) ch.ts ∧
      (endOfCaption ch).mode = .popOn ∧ (endOfCaption ch).col = 1 ∧ (endOfCaption ch).col1 = 1 ∧
      (endOfCaption ch).row = 14 ∧ (endOfCaption ch).nev = x.nev + 1 := by
  refine ⟨captionCommand_eq s f2 (cmd := .eoc) ⟨h2, h1, h3⟩, ?_⟩
  intro ch h
  have hx := wordBreak_inv (h.withMode .popOn) true
  have ux := wordBreak_upd (h.withMode .popOn) true
  obtain ⟨shid, sdisp, snon, smode, scol, scol1, srow, snev⟩ := eocSwap_spec hx
  unfold endOfCaption
  refine ⟨?_, sdisp, ?_, ?_, scol, scol1, srow, snev⟩
  · rw [shid, ux.hidden]
  · rw [snon, ts_of_idx ux.idx]; rfl
  · rw [smode, ux.mode]

set_option maxRecDepth 100000 in
example : (endOfCaption (init.chans.headD default)).hidden = true := by decide

/-- **edm_clears_displayed.** Erase Displayed Memory blanks the displayed memory of channel `edmChan chan` and raises a
caption event; in pop-on mode the non-displayed memory is untouched (in the other modes libzvbi's working copy is erased
as well).  `edmChan chan` is the addressed channel `chan` on a tree without the repair of finding F73, and with it
(`edmEnmOnCaption`, read from the source by translate/gen_cc.py) the CAPTION channel `chan & 3` of the data channel even
inside a Text Mode transmission (EIA-608-B 7.7 / Annex B.7) - `edm_enm_target` below states both shapes. -/
theorem edm_clears_displayed (s : St) (c1 c2 : Nat) (f2 : Bool) (h1 : c1 &&& 7 = 4 ∨ c1 &&& 7 = 5) (h2 : c2 < 0x40)
    (h3 : c2 &&& 15 = 12) :
    captionCommand s c1 c2 f2 = s.modCh (edmChan (cmdChan s c1 f2)) eraseDisplayed ∧
    ∀ ch, ChInv ch →
      (eraseDisplayed ch).displayed = List.replicate (rows * columns) ch.ts ∧
      (eraseDisplayed ch).nev = ch.nev + 1 ∧ (eraseDisplayed ch).hidden = ch.hidden ∧
      (ch.mode = .popOn → (eraseDisplayed ch).nonDisplayed = ch.nonDisplayed) :=
  ⟨captionCommand_eq s f2 (cmd := .edm) ⟨h2, h1, h3⟩, fun _ h =>
    ⟨(eraseDisplayed_spec h).1, (eraseDisplayed_spec h).2.1, (eraseDisplayed_spec h).2.2.1, (eraseDisplayed_spec h).2.2.2.1⟩⟩

/-- **enm_clears_hidden.** Erase Non-Displayed Memory, in pop-on mode, blanks the non-displayed memory
and leaves the displayed memory and the event count alone; it acts on channel `edmChan chan` (see `edm_clears_displayed`,
`edm_enm_target`).  (In any other mode libzvbi ignores the code - recorded as a deviation from EIA-608 in NOTES/C08.md.) -/
theorem enm_clears_hidden (s : St) (c1 c2 : Nat) (f2 : Bool) (h1 : c1 &&& 7 = 4 ∨ c1 &&& 7 = 5) (h2 : c2 < 0x40)
    (h3 : c2 &&& 15 = 14) :
    captionCommand s c1 c2 f2 = s.modCh (edmChan (cmdChan s c1 f2)) eraseNonDisplayed ∧
    ∀ ch, ChInv ch → ch.mode = .popOn →
      (eraseNonDisplayed ch).nonDisplayed = List.replicate (rows * columns) ch.ts ∧
      (eraseNonDisplayed ch).displayed = ch.displayed ∧ (eraseNonDisplayed ch).nev = ch.nev :=
  ⟨captionCommand_eq s f2 (cmd := .enm) ⟨h2, h1, h3⟩, fun _ h hm =>
    ⟨((eraseNonDisplayed_spec h).1 hm).1, ((eraseNonDisplayed_spec h).1 hm).2.1, ((eraseNonDisplayed_spec h).1 hm).2.2.1⟩⟩

/-- **edm_enm_target** (both source shapes).  Without the repair of finding F73 EDM / ENM act on the channel the control
pair addresses - a TEXT channel while a text transmission is current; with the repair they act on caption channel
`2 * field + channel bit` whatever the current class is, and never on a text channel. -/
theorem edm_enm_target (s : St) (c1 : Nat) (f2 : Bool) :
    (edmEnmOnCaption = false → edmChan (cmdChan s c1 f2) = cmdChan s c1 f2) ∧
    (edmEnmOnCaption = true → edmChan (cmdChan s c1 f2) = (if f2 then 2 else 0) + ((c1 >>> 3) &&& 1) ∧
      edmChan (cmdChan s c1 f2) < 4) := by
  refine ⟨fun h => by unfold edmChan; rw [h]; rfl, fun h => ?_⟩
  have hg := (cmdChan_group s c1 f2).2.1
  have hk : (c1 >>> 3) &&& 1 ≤ 1 := Nat.and_le_right
  have e : edmChan (cmdChan s c1 f2) = cmdChan s c1 f2 &&& 3 := by unfold edmChan; rw [h]; rfl
  rw [e, hg]
  exact ⟨rfl, by cases f2 <;> simp <;> omega⟩

example : edmChan 5 = 5 ∨ edmChan 5 = 1 := by unfold edmChan; cases edmEnmOnCaption <;> simp

/-- libzvbi's `row_mapping[]` is the PAC row table of 47 CFR 15.119 (f)(1) (`Eia608.pacRow`);
-1 exactly for the one undefined code. -/
theorem row_mapping_is_standard : ∀ c1 < 8, ∀ hi : Bool,
    rowMapping[(c1 <<< 1) + (if hi then 1 else 0)]? =
      some (match Eia608.pacRow c1 hi with | some r => (r : Int) | none => -1) := by decide

/-- **pac_positions** and the PAC half of **attributes_follow_codes.**  A Preamble Address Code
(second byte >= 0x40) runs `pac` on the addressed channel; if the channel has a mode and the row code is
defined, the cursor goes to that row (roll-up: that row becomes the base row, moved down if the window
would not fit), column 1 + indent, with `line` following, and the pen becomes `pacPen`:
underline bit, black opaque background, no flash, white for an indent code, colour k / white italics
for a colour code. -/
theorem pac_positions (s : St) (c1 c2 : Nat) (f2 : Bool) (h2 : 0x40 ≤ c2) :
    captionCommand s c1 c2 f2 = s.modCh (cmdChan s c1 f2) (fun ch => pac ch (cmdChan s c1 f2) (c1 &&& 7) c2) ∧
    ∀ ch chan, ChInv ch → ch.mode ≠ .none →
      ∀ r : Int, rowMapping[((c1 &&& 7) <<< 1) + ((c2 >>> 5) &&& 1)]? = some r → 0 ≤ r →
      let p := pac ch chan (c1 &&& 7) c2
      p.col = 1 + (if c2 &&& 0x10 != 0 then (c2 &&& 14) * 2 else 0) ∧ p.col1 = p.col ∧
      (ch.mode ≠ .rollUp → p.row = r.toNat) ∧
      (ch.mode = .rollUp → p.row1 = r.toNat + 1 - ch.roll ∧ p.row + 1 = p.row1 + ch.roll) ∧
      p.lineOff = p.row * 34 ∧ p.attr = pacPen ch.attr c2 ∧ p.mode = ch.mode :=
  ⟨captionCommand_eq s f2 (cmd := .preamble) h2, fun _ chan h hm r hr hr0 => pac_spec h chan _ c2 Nat.and_le_right r hr hr0 hm⟩

/-- the colours of `palette_mapping[]` are those of 15.119 (h) in code order -/
theorem palette_is_standard : ∀ k < 7, palette k = Eia608.colourOfCode k := palette_std

/-- the character tables of lang.c agree with 15.119 (g) (`Eia608.basicChar`, `Eia608.specialChar`) -/
theorem charset_is_standard :
    (∀ c, 0x20 ≤ c → c < 0x80 → captionUnicode c = Eia608.basicChar c) ∧
    (∀ k < 16, captionUnicode (0x1130 ||| k) = Eia608.specialChar k) :=
  ⟨fun c h1 h2 => basic_std c h2 h1, special_glyph⟩


/-- **rollup_window.**  Carriage return (0x14/0x15/0x1C/0x1D 0x2D) runs `carriageReturn` on the addressed
channel; for a channel in roll-up mode with the cursor on the base row of its window
(`row + 1 = row1 + roll`, which RUx and PAC establish): in the displayed memory the base row becomes
blank, each of the `roll - 1` window rows above receives the content of the row below it (as synced by
the closing word break), every row outside the window is untouched; the cursor returns to column 1 of
the base row and at least one caption event is raised. -/
theorem rollup_window (s : St) (c1 c2 : Nat) (f2 : Bool) (h1 : c1 &&& 7 = 4 ∨ c1 &&& 7 = 5) (h2 : c2 < 0x40)
    (h3 : c2 &&& 15 = 13) :
    captionCommand s c1 c2 f2 = s.modCh (cmdChan s c1 f2) (fun ch => carriageReturn ch (cmdChan s c1 f2)) ∧
    ∀ ch chan, ChInv ch → ch.mode = .rollUp → ch.row + 1 = ch.row1 + ch.roll →
      (carriageReturn ch chan).col = 1 ∧ (carriageReturn ch chan).col1 = 1 ∧
      (carriageReturn ch chan).row = ch.row ∧ (carriageReturn ch chan).hidden = ch.hidden ∧
      ch.nev < (carriageReturn ch chan).nev ∧
      ∀ i, i < 510 → (carriageReturn ch chan).displayed[i]? =
        if ch.row * 34 ≤ i ∧ i < ch.row * 34 + 34 then some (transpSpace (decide (4 ≤ chan)))
        else if ch.row1 * 34 ≤ i ∧ i < ch.row * 34 then (update (wordBreak ch true)).displayed[i + 34]?
        else (update (wordBreak ch true)).displayed[i]? :=
  ⟨captionCommand_eq s f2 (cmd := .cr) ⟨h2, h1, h3⟩, fun _ chan h hm hb => carriageReturn_rollup h chan hm hb⟩

/-- **attributes_follow_codes** (mid-row part; the PAC part is in `pac_positions`, the colour and
character tables in `palette_is_standard`, `charset_is_standard`).  A mid-row code (0x11/0x19 0x20..0x2F)
runs `midRow`, which types one space and leaves the pen `midRowPen`: flash off, underline = bit 0,
colour code k < 7 -> colour k non-italic; and every character typed afterwards carries the pen
(`refines_Eia608_partial`: cell = `{ attr with unicode }`).  For the italics code a tree without the
repair of finding F46 (`midrowItalicsKeepsColour = false`) also sets the colour to white, which 15.119 (h)(1)(ii)
does not allow (`refines_Eia608_counterexample`). -/
theorem attributes_follow_codes (s : St) (c1 c2 : Nat) (f2 : Bool) (h1 : c1 &&& 7 = 1) (h2 : c2 < 0x40)
    (h3 : c2 &&& 0x10 = 0) :
    captionCommand s c1 c2 f2 = s.modCh (cmdChan s c1 f2) (fun ch => midRow ch c2) ∧
    ∀ ch, ChInv ch → (midRow ch c2).attr = midRowPen ch.attr c2 := by
  refine ⟨captionCommand_eq s f2 (cmd := .midrow) ⟨h2, h1, h3⟩, fun ch h => ?_⟩
  rw [midRow_eq, putChar_attr (h.withAttr _)]

/-! ## refinement to the reference model `Eia608` -/

/-- **refines_Eia608_full** (OPEN, and false as it stands - see `refines_Eia608_counterexample`):
for every sequence of correctly transmitted byte pairs on both fields, every fetched page equals the
page the reference model makes visible.  Kept as the full-strength statement; what is proved is
`refines_Eia608_partial` below, what is checked on the real code is the well-formed script class of
checks/C08.py. -/
def refines_Eia608_full : Prop :=
  ∀ ps : List (Bool × Nat × Nat),
    (∀ p ∈ ps, (Zvbi.Hamm.unpar8 p.2.1).isSome = true ∧ (Zvbi.Hamm.unpar8 p.2.2).isSome = true) →
    ∀ i < 8, modelVisible (runPairs ps) i = some ((specPairs ps).visible i)

/-- witness of finding F46: `RCL ENM PAC(row 15, green) "A" <mid-row italics> "B" EOC` on CC1 -/
def f20Witness : List (Bool × Nat × Nat) :=
  [(false, 0x94, 0x20), (false, 0x94, 0x20), (false, 0x94, 0xAE), (false, 0x94, 0xAE), (false, 0x94, 0x62),
   (false, 0x94, 0x62), (false, 0xC1, 0x80), (false, 0x91, 0xAE), (false, 0x91, 0xAE), (false, 0xC2, 0x80),
   (false, 0x94, 0x2F), (false, 0x94, 0x2F)]

set_option maxRecDepth 1000000 in
/-- **refines_Eia608_counterexample** (finding F46).  15.119 (h)(1)(ii): colour "can only be changed by
the Mid-Row Code of another color ... the italics Mid-Row Code must follow the color assignment".
libzvbi's mid-row italics sets the foreground to white: after the witness the `B` in row 15 column 3 is
white italic in libzvbi and green italic in the reference model.  Replayed on the C code by
corpus/C08/f20-midrow-italics.ops. -/
theorem refines_Eia608_counterexample (hflag : midrowItalicsKeepsColour = false) : ¬ refines_Eia608_full := by
  intro h
  have h1 := h f20Witness (by decide) 0 (by decide)
  have h2 : (modelVisible (runPairs f20Witness) 0).map (fun l => l[14 * 34 + 3]?) =
      some (((specPairs f20Witness).visible 0)[14 * 34 + 3]?) := by rw [h1]; rfl
  have h3 : midrowItalicsKeepsColour = false →
      (modelVisible (runPairs f20Witness) 0).map (fun l => l[14 * 34 + 3]?) ≠
      some (((specPairs f20Witness).visible 0)[14 * 34 + 3]?) := by decide
  exact h3 hflag h2


/-- **refines_Eia608_partial.**  Character runs refine the reference model cell for cell: let a channel
satisfy the cursor invariant and a reference service be in some mode, with the same cursor column and
a pen that matches the channel's attributes.  Typing any run `cs` of word characters (codes 0x21..0x7E,
any length that fits the row) makes both cursors advance by `|cs|`; every cell `j` of the run holds in
libzvbi the glyph and attributes of the reference cell (`cellMatches`: same Unicode from the 15.119 (g)
table, same colour, underline, italic, flash, opacity); every other cell of libzvbi's row, the whole
other page, the event count and every other cell of the reference memory are unchanged.
Together with `pac_positions` (+ `row_mapping_is_standard`, `palette_is_standard`), `eoc_swaps`,
`edm_clears_displayed`, `enm_clears_hidden` and `rollup_window` these are the per-command pieces of the
refinement; their composition over whole pop-on / roll-up / paint-on scripts (solid spaces included) is
`refines_Eia608_scripts_popon`, `_rollup`, `_painton` below. -/
theorem refines_Eia608_partial (ch : Channel) (v : Eia608.Service) (cs : List Nat) (h : ChInv ch)
    (hw : ∀ ci ∈ cs, isWordCode ci = true) (hlen : ch.col + cs.length ≤ 33)
    (hm : v.mode ≠ none) (hcol : v.col = ch.col) (hpen : penMatches ch.attr v.pen) :
    (specRun v cs).col = (charRun ch cs).col ∧ (charRun ch cs).row = ch.row ∧ (specRun v cs).row = v.row ∧
    (charRun ch cs).nev = ch.nev ∧ (charRun ch cs).pg (!ch.linePg) = ch.pg (!ch.linePg) ∧
    (∀ j, ch.col ≤ j → j < ch.col + cs.length →
      ∃ c x, rd (charRun ch cs) j = some c ∧ (specRun v cs).target v.row j = some x ∧ cellMatches c x) ∧
    (∀ j, ¬ (ch.col ≤ j ∧ j < ch.col + cs.length) → rd (charRun ch cs) j = rd ch j) ∧
    (∀ r c, ¬ (r = v.row ∧ ch.col ≤ c ∧ c < ch.col + cs.length) → (specRun v cs).target r c = v.target r c) := by
  have m := charRun_spec cs h hw hlen
  simp only at m
  obtain ⟨_, m1, _, m3, _, m5, _, _, _, m9, m10⟩ := m
  obtain ⟨s1, s2, _, _, s5⟩ := specRun_spec cs v hm (by rw [hcol]; exact hlen)
  refine ⟨by rw [s1, m1, hcol], m3, s2, m5, m9, ?_, ?_, ?_⟩
  · intro j hj1 hj2
    have hg : cs[j - ch.col]? = some cs[j - ch.col] := List.getElem?_eq_getElem (by omega)
    refine ⟨_, _, by rw [m10 j, if_pos ⟨hj1, hj2⟩, hg]; rfl,
      by rw [s5 v.row j, if_pos ⟨rfl, hcol ▸ hj1, hcol ▸ hj2⟩, hcol, hg]; rfl, ?_, hpen⟩
    exact wordCode_std _ (hw _ (List.getElem_mem _))
  · intro j hj
    rw [m10 j, if_neg hj]
  · intro r c hrc
    rw [s5 r c, if_neg (by rw [hcol]; exact hrc)]

set_option maxRecDepth 100000 in
/-- the hypotheses are met by CC1 of a fresh decoder and a fresh reference service in pop-on mode -/
example : ∃ (ch : Channel) (v : Eia608.Service), ChInv ch ∧ ch.col + [0x41, 0x42].length ≤ 33 ∧ v.mode ≠ none ∧
    v.col = ch.col ∧ penMatches ch.attr v.pen :=
  ⟨init.chans[0]'(by rw [init_inv.len]; decide), { Eia608.Service.init false with mode := some .popOn },
   init_inv.chs _ (List.getElem_mem _), by decide, by decide, by decide, by decide⟩


/-! ## events -/

/-- **event_on_change_full** (false on a tree without the repairs of finding F45 - `event_on_change_counterexample` -,
true with them - `event_on_change_repaired`): after any history (channel switches included), every byte pair that changes the displayed memory of a channel raises a caption event
for that channel. -/
def event_on_change_full : Prop :=
  ∀ (ops : List Op) (f : Bool) (b0 b1 : Nat), EvSt (run ops) (decodePair (run ops) f b0 b1)

/-- **event_on_change_partial.**  In any state with the invariant (every reachable state:
`cursor_inv`), every byte pair - any bytes, either field - other than, on a tree without the repairs of finding F45
(`ruEraseRaisesEvent`, `crPopOnNoUpdate`), (a) a roll-up command RU2/RU3/RU4
and (b) a carriage return addressed to a channel in pop-on mode, leaves every channel in one of two
situations: at least one VBI_EVENT_CAPTION for that channel's page was raised, or none was raised and
the page `vbi_fetch_cc_page` returns (all 15 x 34 cells) is unchanged.  Hence between two fetches that
differ an event was raised, as long as no pair of kind (a)/(b) intervened (finding F45). -/
theorem event_on_change_partial (s : St) (hs : Inv s) (f : Bool) (b0 b1 : Nat)
    (hq : ¬ silentCmd s (b0 &&& 0x7F) (b1 &&& 0x7F) f) :
    ∀ (i : Nat) (ch ch' : Channel), s.chans[i]? = some ch → (decodePair s f b0 b1).chans[i]? = some ch' →
      ch.nev < ch'.nev ∨ (ch'.nev = ch.nev ∧ ch'.displayed = ch.displayed) :=
  (decodePair_evst hs f b0 b1 hq).2

example : ¬ silentCmd init (0x94 &&& 0x7F) (0x2C &&& 0x7F) false := by
  unfold silentCmd; decide

/-- **event_on_change_repaired.**  On a tree with the two repairs proposed for finding F45 (RUx raises the
event when it erases: `ruEraseRaisesEvent`; CR does not `update()` in pop-on mode: `crPopOnNoUpdate` - both facts
are read from the source by translate/gen_cc.py) the full statement holds: every byte pair, in every
reachable state, accounts for every change of a displayed memory by an event. -/
theorem event_on_change_repaired (h1 : ruEraseRaisesEvent = true) (h2 : crPopOnNoUpdate = true) :
    event_on_change_full := by
  intro ops f b0 b1
  exact decodePair_evst (cursor_inv ops) f b0 b1 (not_silent_of_repairs h1 h2 _ _ _ _)

/-- witness of finding F45a: a pop-on caption `AB` is on screen, then RU2 arrives -/
def f19Witness : List Op :=
  [.pair false 0x94 0x20, .pair false 0x94 0x20, .pair false 0xC1 0xC2, .pair false 0x94 0x2F, .pair false 0x94 0x2F]

set_option maxRecDepth 1000000 in
/-- **event_on_change_counterexample** (finding F45a).  Without the repair (`ruEraseRaisesEvent = false`):
after `RCL "AB" EOC` the roll-up command RU2 erases CC1's displayed memory and raises no event
(`word_break` returns early in pop-on mode, `erase_memory` never sends one).  Replayed on the C code by
corpus/C08/f19-no-event-ru.ops. -/
theorem event_on_change_counterexample (hflag : ruEraseRaisesEvent = false) : ¬ event_on_change_full := by
  intro h
  have h1 := (h f19Witness false 0x94 0x25).2 0
  have hI := cursor_inv f19Witness
  have hI' := decodePair_inv hI false 0x94 0x25
  have l1 : 0 < (run f19Witness).chans.length := by rw [hI.len]; decide
  have l2 : 0 < (decodePair (run f19Witness) false 0x94 0x25).chans.length := by rw [hI'.len]; decide
  have e3 : ruEraseRaisesEvent = false → (decodePair (run f19Witness) false 0x94 0x25).chans[0]?.map (·.nev) =
      (run f19Witness).chans[0]?.map (·.nev) := by decide
  have e4 : ruEraseRaisesEvent = false →
      (decodePair (run f19Witness) false 0x94 0x25).chans[0]?.map (fun c => c.displayed[477]?) ≠
      (run f19Witness).chans[0]?.map (fun c => c.displayed[477]?) := by decide
  have e3 := e3 hflag
  have e4 := e4 hflag
  have g1 := List.getElem?_eq_getElem l1
  have g2 := List.getElem?_eq_getElem l2
  rw [g1, g2] at e3 e4
  simp only [Option.map_some, Option.some.injEq] at e3
  rcases h1 _ _ g1 g2 with hl | ⟨_, hd⟩
  · omega
  · exact e4 (by simp only [Option.map_some, hd])


/-! ## refinement of whole caption scripts (`refines_Eia608_scripts`)

Scripts are byte pairs on field 1 addressed to CC1, every byte with odd parity, control pairs sent twice
(`ctl`), text pairs once (`txt`, second byte a character or the NUL filler).  Well-formedness is judged on
the state of the reference decoder (`streamOkB`, `rbopsOk`, `bopsOkPaint`):

* pop-on caption  `RCL ENM (PAC | text pair)* EOC`: each PAC has a defined row code and addresses a row that is
  still empty in the reference NON-displayed memory; text only after a PAC, characters 0x20..0x7F, fitting
  into the row (cursor + length <= column 33);
* roll-up script  `RUn [PAC] (text pair | CR)*`, n = 2, 3, 4, entered from a pop-on/fresh state;
* paint-on script `RDC (PAC | text pair)*`, entered from a state whose cursor row is empty on display; each PAC
  addresses a row that is empty in the reference DISPLAYED memory.

Excluded (libzvbi deviates, or the standard leaves it open - NOTES/C08.md): ENM omitted, mid-row / background /
FON / special-character / extended-character codes, tab offsets, BS, DER, EDM inside a script, a PAC to a row
that already holds text, PAC inside a roll-up line or after the first line, RUn with a new depth while in
roll-up mode, text that runs past column 32, NUL pairs between the two copies of a control pair, field 2
and the channel bit (CC2-CC4, covered at channel level: `popon_stream_refines`, `rollup_refines`,
`painton_refines` hold for every caption channel; `channels_independent` gives the separation). -/

/-- **refines_Eia608_scripts, pop-on.**  For every well-formed stream of pop-on captions fed to the fresh decoder,
after every End Of Caption the page `vbi_fetch_cc_page` returns for CC1 equals the page the reference model
makes visible - all 15 x 34 cells: characters, colours, underline, italics, flash, opacity and the solid spaces.
Induction over the captions of the stream, the rows of a caption and the characters of a row. -/
theorem refines_Eia608_scripts_popon (caps : List (List BOp)) (hok : streamOkB Eia608.init caps) :
    ∀ n, n ≤ caps.length →
      modelVisible (runPairs ((caps.take n).flatMap encCaption)) 0 =
        some ((specPairs ((caps.take n).flatMap encCaption)).visible 0) := by
  intro n hn
  rw [runPairs_eq_feed, specPairs_eq_sfeed]
  exact visible_of_simIdle (stream_bytes caps init_simIdle hok n hn)

set_option maxRecDepth 100000 in
/-- a well-formed one-caption stream: `RCL ENM PAC(row 15) "HI" EOC` -/
example : streamOkB Eia608.init [[.pac 4 0x70, .pair 0x48 0x49]] := by
  refine ⟨⟨⟨trivial, ((Eia608.Service.init false).exec .rcl).exec .enm, rfl, by decide, by decide, by decide, 14, 0, none, false, rfl,
    fun _ => rfl⟩, ⟨⟨by decide, by decide, Or.inr (by decide)⟩, _, rfl, rfl, by decide, by decide⟩, trivial⟩, trivial⟩

/-- **refines_Eia608_scripts, roll-up.**  After any well-formed stream of pop-on captions (possibly empty), a
well-formed roll-up script `RUn [PAC] (text pair | CR)*`: right after `RUn [PAC]`, after every text pair that ends
with a space and after every carriage return the fetched page equals the reference page. -/
theorem refines_Eia608_scripts_rollup (caps : List (List BOp)) (hok : streamOkB Eia608.init caps)
    (n : Nat) (h2 : 2 ≤ n) (h4 : n ≤ 4) (pac : Option (Nat × Nat))
    (hp : ∀ lo c2, pac = some (lo, c2) → lo < 8 ∧ c2 < 128 ∧ 0x40 ≤ c2 ∧ (pacArgs lo c2).isSome)
    (ops : List RBOp)
    (hops : rbopsOk (sfeed Eia608.init (caps.flatMap encCaption ++ encRollStart n pac)) ops) :
    (modelVisible (runPairs (caps.flatMap encCaption ++ encRollStart n pac)) 0 =
        some ((specPairs (caps.flatMap encCaption ++ encRollStart n pac)).visible 0)) ∧
    ∀ k, (hk0 : 0 < k) → (hk : k ≤ ops.length) → (ops[k - 1]'(by omega)).toROp.visible = true →
      modelVisible (runPairs (caps.flatMap encCaption ++ encRollStart n pac ++ (ops.take k).flatMap RBOp.enc)) 0 =
        some ((specPairs (caps.flatMap encCaption ++ encRollStart n pac ++ (ops.take k).flatMap RBOp.enc)).visible 0) := by
  have S0 := stream_bytes caps init_simIdle hok caps.length (Nat.le_refl _)
  rw [List.take_length] at S0
  have S1 := roll_start_bytes S0 h2 h4 pac hp
  rw [← feed_append, ← sfeed_append] at S1
  refine ⟨by rw [runPairs_eq_feed, specPairs_eq_sfeed]; exact visible_of_simRoll S1, ?_⟩
  intro k hk0 hk hvis
  rw [runPairs_eq_feed, specPairs_eq_sfeed, feed_append, sfeed_append]
  exact rbops_refine n ops S1 hops k hk0 hk hvis

set_option maxRecDepth 100000 in
/-- a well-formed roll-up script on the fresh decoder: `RU2 "A " CR` -/
example : rbopsOk (sfeed Eia608.init (([] : List (List BOp)).flatMap encCaption ++ encRollStart 2 none))
    [.pair 0x41 0x20, .cr] :=
  ⟨⟨by decide, by decide, Or.inr (by decide), _, rfl, by decide⟩, trivial, trivial⟩

/-- **refines_Eia608_scripts, paint-on.**  On the fresh decoder, a well-formed paint-on script
`RDC (PAC | text pair)*`: right after RDC, after every PAC and after every text pair that ends with a space the
fetched page equals the reference page.  (`paint_start_bytes` / `bops_paint_refine` give the same from any idle
state whose cursor row is empty on display; after a pop-on caption that used row 15 libzvbi's first PAC would
wipe that row - deviation D-paint in NOTES/C08.md.) -/
theorem refines_Eia608_scripts_painton (ops : List BOp)
    (hops : bopsOkPaint (sfeed Eia608.init (ctl 0x14 0x29)) false ops) :
    (modelVisible (runPairs (ctl 0x14 0x29)) 0 = some ((specPairs (ctl 0x14 0x29)).visible 0)) ∧
    ∀ k, (hk0 : 0 < k) → (hk : k ≤ ops.length) → (ops[k - 1]'(by omega)).toPOp.visible = true →
      modelVisible (runPairs (ctl 0x14 0x29 ++ (ops.take k).flatMap BOp.enc)) 0 =
        some ((specPairs (ctl 0x14 0x29 ++ (ops.take k).flatMap BOp.enc)).visible 0) := by
  have hrow : ∀ ch v, init.chans[0]? = some ch → Eia608.init.svc[0]? = some v → ∀ c, v.disp ch.row c = none := by
    intro ch v _ hv c
    have : v = Eia608.Service.init false := by
      have : Eia608.init.svc[0]? = some (Eia608.Service.init false) := rfl
      rw [this] at hv; cases hv; rfl
    rw [this]; rfl
  have S1 := paint_start_bytes init_simIdle hrow
  refine ⟨by rw [runPairs_eq_feed, specPairs_eq_sfeed]; exact visible_of_simPaint S1, ?_⟩
  intro k hk0 hk hvis
  rw [runPairs_eq_feed, specPairs_eq_sfeed, feed_append, sfeed_append]
  exact bops_paint_refine ops S1 hops k hk0 hk hvis


set_option maxRecDepth 100000 in
/-- a well-formed paint-on script on the fresh decoder: `RDC PAC(row 15) "A "` -/
example : bopsOkPaint (sfeed Eia608.init (ctl 0x14 0x29)) false [.pac 4 0x70, .pair 0x41 0x20] :=
  ⟨⟨trivial, _, rfl, by decide, by decide, by decide, 14, 0, none, false, rfl, fun _ => rfl⟩,
   ⟨⟨by decide, by decide, Or.inr (by decide)⟩, _, rfl, rfl, by decide, by decide, by decide⟩, trivial⟩

end Zvbi.Props.C08
