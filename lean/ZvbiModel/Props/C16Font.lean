import ZvbiModel.Export.Font
import ZvbiModel.Export.LemmasFont
import ZvbiModel.Ite
/-!
# C16, glyph lookup of the Teletext renderer stays inside the font image

`draw_char` reads the font image at `glyph * 12` bits of each of the 10 scan lines of 1536 glyphs; a glyph number
>= 1536 reads the next scan line and, on the last one, past the end of `wstfont2_bits`.
-/
namespace Zvbi.Props.C16Font
open Zvbi.Export

/-- With the G1 repair: for every character code and both styles the glyph number is inside the font image. -/
theorem glyph_in_font_repaired (c : Nat) (italic : Bool) : unicodeWstfont2 true c italic < fontGlyphs := by
  have hinv : glyphInvalid < fontGlyphs := by decide
  have tail : ∀ g, g < 31 * 32 → glyphTail true italic g < fontGlyphs := glyphTail_lt italic
  have spec : glyphSpecial italic c < fontGlyphs := glyphSpecial_lt italic c
  have lin : ∀ {g : Nat}, g < 1536 → g < fontGlyphs := id
  unfold unicodeWstfont2
  exact ite_lt
    -- below U+0180: ASCII and Latin, with the italic shift
    (fun _ => ite_lt (fun _ => ite_lt (fun _ => hinv) (fun _ => tail _ (by omega)))
      (fun _ => ite_lt (fun _ => hinv) (fun _ => tail _ (by omega))))
    (fun _ => ite_lt
      (fun _ => ite_lt
        -- below U+0460: specials, Greek, Cyrillic (which reaches glyph row 17: the row the clamp keeps unshifted)
        (fun _ => ite_lt (fun _ => ite_lt (fun _ => spec) (fun _ => tail _ (by omega)))
          (fun _ => ite_lt (fun _ => hinv) (fun _ => tail _ (by omega))))
        (fun _ => ite_lt
          -- Hebrew, Arabic, the private Arabic glyphs: no italic versions
          (fun _ => ite_lt (fun _ => ite_lt (fun _ => hinv) (fun _ => lin (by omega)))
            (fun _ => ite_lt (fun _ => hinv) (fun _ => lin (by omega))))
          (fun _ => ite_lt (fun _ => lin (by omega)) (fun _ => spec))))
      -- block mosaics, then smooth mosaics and line drawing (`c - 0xEF20` wraps for U+EF00 .. U+EF1F)
      (fun h => ite_lt (fun h2 => mosaic_glyph_lt (by omega) h2) (fun _ => ite_lt (fun _ => lin (by omega)) (fun _ => hinv))))

example : unicodeWstfont2 true 0x44F true = 559 ∧ unicodeWstfont2 true 0x41 true = 33 + 31 * 32 := by decide

/-- Upright characters are inside the font image in the unrepaired code too: only the italic attribute is affected. -/
theorem glyph_in_font_upright (clamp : Bool) (c : Nat) : unicodeWstfont2 clamp c false < fontGlyphs := by
  have h : unicodeWstfont2 clamp c false = unicodeWstfont2 true c false := by
    unfold unicodeWstfont2 glyphTail; simp
  rw [h]; exact glyph_in_font_repaired c false

example : unicodeWstfont2 false 0x44F false = 559 := by decide

/-- G1 witness (unrepaired code): every italic U+0440 .. U+045F gets a glyph number 1536 .. 1567, outside the image
(row 17 + 31 = row 48 of 48). -/
theorem glyph_outside_font_counterexample :
    unicodeWstfont2 false 0x44F true = 1551 ∧ ¬ (unicodeWstfont2 false 0x44F true < fontGlyphs) ∧
    (∀ c, 0x440 ≤ c → c ≤ 0x45F → fontGlyphs ≤ unicodeWstfont2 false c true) := by
  refine ⟨by decide, by decide, ?_⟩
  intro c h1 h2
  have e : unicodeWstfont2 false c true = c - 0x400 + 15 * 32 + 31 * 32 := by
    unfold unicodeWstfont2 glyphTail
    rw [if_neg (by omega), if_pos (by omega), if_pos (by omega), if_neg (by omega), if_neg (by omega)]
    simp
  rw [e]; unfold fontGlyphs; omega

/-- The tree under test (flag measured on the compiled code): when the repair is present every glyph is inside the font image. -/
theorem glyph_in_font (h : currentFontClamp = true) (c : Nat) (italic : Bool) : unicodeWstfont2 currentFontClamp c italic < fontGlyphs := by
  rw [h]; exact glyph_in_font_repaired c italic

end Zvbi.Props.C16Font
