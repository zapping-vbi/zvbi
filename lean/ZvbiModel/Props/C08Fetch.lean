import ZvbiModel.Cc.Commands
/-!
# C08, continued - `vbi_fetch_cc_page` hands the dirty region over exactly once

Property theorem only.  Model `Cc/Model.lean`: `fetchPage` = the page copied out, `fetchStep` = the reset of the
dirty fields of the page that was copied (`spg->dirty.y0 = ROWS; y1 = -1; roll = 0`).
-/
namespace Zvbi.Props.C08Fetch
open Zvbi.Cc Zvbi.Gen.Cc

/-- **fetch_hands_dirty_over_once.**  In every decoder state, for every valid page number: after `vbi_fetch_cc_page` a
second fetch of the same page (nothing decoded in between) returns the same cells with an EMPTY dirty region:
`y0 = ROWS > y1 = -1` and `roll = 0` - the three resets of the function, none may be missing (mutant: `dirty.roll = 0`
deleted; the oracle rule `dirty_once` of checks/C08.py states the same on the real code). -/
theorem fetch_hands_dirty_over_once (s : St) (pgno : Int) (h1 : 1 ≤ pgno) (h8 : pgno ≤ 8) (p : Page)
    (hp : fetchPage s pgno = some p) :
    ∃ q, fetchPage (fetchStep s pgno) pgno = some q ∧ q.text = p.text ∧ q.y0 = rows ∧ q.y1 = -1 ∧ q.roll = 0 := by
  have hr : (pgno < 1 || pgno > 8) = false := by
    simp only [Bool.or_eq_false_iff, decide_eq_false_iff_not]; omega
  unfold fetchPage at hp ⊢
  unfold fetchStep
  simp only [hr, Bool.false_eq_true, if_false] at hp ⊢
  cases hc : s.chans[(pgno - 1).toNat &&& 7]? with
  | none => rw [hc] at hp; exact absurd hp (by simp)
  | some ch =>
    rw [hc] at hp
    rw [modCh_get_same _ hc]
    have hg : ∀ (b : Bool) (q : Page), (ch.setPg b q).hidden = ch.hidden := by
      intro b q; cases b <;> rfl
    have hh := hg (!ch.hidden) { ch.pg (!ch.hidden) with y0 := rows, y1 := -1, roll := 0 }
    refine ⟨_, rfl, ?_, ?_, ?_, ?_⟩
    all_goals rw [hh, pg_setPg_same]
    · cases hp; rfl

/-- non-vacuity: page 1 of the fresh decoder can be fetched -/
example : ∃ p, fetchPage init 1 = some p := ⟨_, rfl⟩

end Zvbi.Props.C08Fetch
