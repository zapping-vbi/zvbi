import ZvbiModel.Pdc.LemmasWin
import ZvbiModel.Pdc.LemmasFwd
/-!
# C14 - PIL to time conversion picks the right year and instant and leaves TZ alone

Property theorems only.  Vocabulary: `ZvbiModel/Pdc/Spec.lean` (`PilValid`, `Tm.hasPil`,
`Tm.monthIndex`, `Zone.SoundAt`, `Zone.Lawful`, `World.Consistent`, `TzUntouched`,
`RestoreFailed`, `effectiveTz`), `refTime` (Pdc/LemmasTz.lean), `UtcIsCalendar` (Pdc/LemmasVal.lean),
`NoFailures` (Pdc/LemmasFwd.lean); model: `ZvbiModel/Pdc/Model.lean`, concrete calendar:
`ZvbiModel/Pdc/Calendar.lean`.  libc is the parameter `L : Libc` (failure injection at
strdup/setenv/time/localtime_r/gmtime_r/mktime, the clock, one `Zone` per TZ value); `cfg : Cfg`
is generated from the C source (which `_vbi_timegm` is compiled, shape of the three epoch guards).
All theorems but one hold for every `cfg`, hence for both shapes of the epoch guards (the source
before and after commit 00745a5, finding F9); `valid_representable_succeeds_current_source` is about the generated `cfg`.
-/
namespace Zvbi.Props.C14
open Zvbi.Pdc

/-! ## the concrete calendar (model of gmtime_r / timegm / fixed-offset zones) -/

/-- Every valid Gregorian date survives days-from-civil followed by civil-from-days. -/
theorem calendar_civil_roundtrip (y m d : Int) (hm0 : 1 ≤ m) (hm1 : m ≤ 12) (hd0 : 1 ≤ d)
    (hd1 : d ≤ daysInMonth (isLeap y) m) : civilFromDays (daysFromCivil y m d) = (y, m, d) :=
  civilFromDays_daysFromCivil ⟨hm0, hm1, hd0, hd1⟩

example : civilFromDays (daysFromCivil 2024 2 29) = (2024, 2, 29) := by decide +kernel

/-- Every day number maps to a valid Gregorian date that maps back to it (all of `Int`, both signs). -/
theorem calendar_days_roundtrip (z : Int) :
    daysFromCivil (civilFromDays z).1 (civilFromDays z).2.1 (civilFromDays z).2.2 = z
    ∧ 1 ≤ (civilFromDays z).2.1 ∧ (civilFromDays z).2.1 ≤ 12 ∧ 1 ≤ (civilFromDays z).2.2
    ∧ (civilFromDays z).2.2 ≤ daysInMonth (isLeap (civilFromDays z).1) (civilFromDays z).2.1 := by
  obtain ⟨y, m, d, hc, h⟩ := daysFromCivil_civilFromDays z
  rw [hc]; exact h

example : civilFromDays (-1) = (1969, 12, 31) := by decide +kernel

/-- gmtime after timegm returns the same valid broken-down time; timegm after gmtime returns the
same instant, and gmtime only produces valid civil times. -/
theorem calendar_tm_roundtrip :
    (∀ tm : Tm, tm.validCivil → (tmFromSecs (secsFromTm tm)).sameCivil tm)
    ∧ (∀ t : Int, secsFromTm (tmFromSecs t) = t ∧ (tmFromSecs t).validCivil) :=
  ⟨tmFromSecs_secsFromTm, secsFromTm_tmFromSecs⟩

/-- A zone with a fixed UTC offset satisfies the two libc laws the zone theorems assume:
`localtime_r` yields months 0..11 and an `int` year, and `mktime` of any valid civil time returns
an instant showing exactly that civil time (there are no gaps). -/
theorem fixed_zone_laws (east : Int) :
    (fixedZone east).Lawful ∧ ∀ tm : Tm, tm.validCivil → (fixedZone east).SoundAt tm :=
  ⟨fixedZone_lawful east, fixedZone_soundAt east⟩

/-! ## invalid PILs fail -/

/-- `vbi_pil_is_valid_date` accepts exactly the PILs that name a real month, day (29 February
included), hour and minute. -/
theorem valid_date_spec (pil : Nat) : pilIsValidDate pil = true ↔ PilValid pil := pilIsValidDate_iff pil

example : PilValid (mkPil 2 29 23 59) ∧ ¬ PilValid (mkPil 2 30 0 0) ∧ ¬ PilValid (mkPil 6 15 24 0) := by decide +kernel

/-- An invalid PIL makes both conversions return (time_t) -1 without any libc call or state change. -/
theorem invalid_fails (cfg : Cfg) (L : Libc) (w : World) (pil : Nat) (start east : Int) (tz : Option String)
    (h : ¬ PilValid pil) :
    vbiPilLtoToTime cfg L w pil start east = (-1, w) ∧ vbiPilToTime cfg L w pil start tz = (-1, w) := by
  have hv : pilIsValidDate pil = false := by
    cases hb : pilIsValidDate pil with
    | false => rfl
    | true => exact absurd ((pilIsValidDate_iff pil).1 hb) h
  exact invalid_returns cfg L w pil start east tz hv

/-- A successful offset conversion is a representable time_t. -/
theorem result_representable (cfg : Cfg) (L : Libc) (w : World) (pil : Nat) (start east t : Int)
    (hutc : UtcIsCalendar cfg L) (h : (validPilLtoToTime cfg L w pil start east).1 = .ok t) :
    TIME_MIN ≤ t ∧ t ≤ TIME_MAX := by
  obtain ⟨_, _, hgo, hr0, hr1⟩ := validPilLtoToTime_conv cfg L w pil start east t hutc h
  unfold guardOut at hgo
  unfold TIME_MIN TIME_MAX at *
  split at hgo
  · split at hgo <;> simp at hgo <;> omega
  · simp at hgo; omega

/-! ## TZ untouched -/

/-- `vbi_pil_to_time`: on every path - any `tz` (NULL, "UTC", valid, empty, with '='), TZ initially set
or unset, any combination of libc failures - either TZ, libc's zone state and the heap are exactly
as before, or `restore_tz`'s setenv failed (the documented ENOMEM exception), the strdup'ed copy is
freed and the call returns (time_t) -1. -/
theorem tz_restored_pil_to_time (cfg : Cfg) (L : Libc) (w : World) (pil : Nat) (start : Int) (tz : Option String)
    (hc : w.Consistent) :
    TzUntouched w (vbiPilToTime cfg L w pil start tz).2
    ∨ (RestoreFailed L w (vbiPilToTime cfg L w pil start tz).2 ∧ (vbiPilToTime cfg L w pil start tz).1 = -1) := by
  apply vbiPilToTime_cases (P := fun r => TzOutcome L w r (-1))
  case hinvalid => exact fun _ => Or.inl (TzUntouched.refl w hc.2)
  case hutc => exact fun r w1 _ _ hv => (validPilLtoToTime_tz hc hv).map fun h => congrArg LtoRes.toTime h
  case hlocal => exact fun old w1 _ _ hl => (localtimeTz_spec hc hl).2 rfl (-1)
  case hconv => exact fun tm old w1 _ _ hl => toTimeFromTm_tz hc ((localtimeTz_spec hc hl).1 tm rfl).1 rfl

/-- The same for `vbi_pil_lto_to_time` (whose `_vbi_timegm` switches TZ to "UTC" when HAVE_TIMEGM is undefined). -/
theorem tz_restored_pil_lto_to_time (cfg : Cfg) (L : Libc) (w : World) (pil : Nat) (start east : Int) (hc : w.Consistent) :
    TzUntouched w (vbiPilLtoToTime cfg L w pil start east).2
    ∨ (RestoreFailed L w (vbiPilLtoToTime cfg L w pil start east).2 ∧ (vbiPilLtoToTime cfg L w pil start east).1 = -1) := by
  apply vbiPilLtoToTime_cases (P := fun r => TzOutcome L w r (-1))
  case hinvalid => exact fun _ => Or.inl (TzUntouched.refl w hc.2)
  case hvalid => exact fun r w1 _ hv => (validPilLtoToTime_tz hc hv).map fun h => congrArg LtoRes.toTime h

/-- The same for `vbi_pil_validity_window` (all PIL classes, including NSPV -> `vbi_pty_validity_window`). -/
theorem tz_restored_pil_validity_window (cfg : Cfg) (L : Libc) (w : World) (pil : Nat) (start : Int) (tz : Option String)
    (hc : w.Consistent) :
    TzUntouched w (vbiPilValidityWindow cfg L w pil start tz).2
    ∨ (RestoreFailed L w (vbiPilValidityWindow cfg L w pil start tz).2 ∧ (vbiPilValidityWindow cfg L w pil start tz).1 = none) := by
  exact vbiPilValidityWindow_cases cfg L w pil start tz (P := fun r => TzOutcome L w r none)
    (hunallocated := fun _ => Or.inl (TzUntouched.refl w hc.2)) (hindefinite := fun _ => Or.inl (TzUntouched.refl w hc.2))
    (hdate := fun _ => validPilValidityWindow_tz cfg L w pil start tz hc)
    (hnspv := fun _ => vbiPtyValidityWindow_tz L w start tz hc)

/-- The same for `vbi_pil_lto_validity_window`. -/
theorem tz_restored_pil_lto_validity_window (cfg : Cfg) (L : Libc) (w : World) (pil : Nat) (start east : Int)
    (hc : w.Consistent) :
    TzUntouched w (vbiPilLtoValidityWindow cfg L w pil start east).2
    ∨ (RestoreFailed L w (vbiPilLtoValidityWindow cfg L w pil start east).2
       ∧ (vbiPilLtoValidityWindow cfg L w pil start east).1 = none) := by
  exact vbiPilLtoValidityWindow_cases cfg L w pil start east (P := fun r => TzOutcome L w r none)
    (hunallocated := fun _ => Or.inl (TzUntouched.refl w hc.2)) (hindefinite := fun _ => Or.inl (TzUntouched.refl w hc.2))
    (hdate := fun _ => validPilLtoValidityWindow_tz cfg L w pil start east hc)
    (hnspv := fun _ => Or.inl (ptyUtcValidityWindow_tz L w start hc))

/-- If setenv never fails, the TZ state is restored after every call, whatever else fails. -/
theorem tz_restored_without_enomem (cfg : Cfg) (L : Libc) (w : World) (pil : Nat) (start east : Int) (tz : Option String)
    (hc : w.Consistent) (hno : ∀ k, L.fails .setenv k = false) :
    TzUntouched w (vbiPilToTime cfg L w pil start tz).2 ∧ TzUntouched w (vbiPilLtoToTime cfg L w pil start east).2
    ∧ TzUntouched w (vbiPilValidityWindow cfg L w pil start tz).2
    ∧ TzUntouched w (vbiPilLtoValidityWindow cfg L w pil start east).2 := by
  have no : ∀ w', ¬ RestoreFailed L w w' := fun w' h => by
    obtain ⟨k, hk⟩ := h.2.2; rw [hno k] at hk; cases hk
  refine ⟨?_, ?_, ?_, ?_⟩
  · exact (tz_restored_pil_to_time cfg L w pil start tz hc).resolve_right (fun h => no _ h.1)
  · exact (tz_restored_pil_lto_to_time cfg L w pil start east hc).resolve_right (fun h => no _ h.1)
  · exact (tz_restored_pil_validity_window cfg L w pil start tz hc).resolve_right (fun h => no _ h.1)
  · exact (tz_restored_pil_lto_validity_window cfg L w pil start east hc).resolve_right (fun h => no _ h.1)

/-- non-vacuity: a consistent world with TZ set, and a libc in which the restoring setenv fails -/
example : ∃ (L : Libc) (w : World), w.Consistent ∧
    (vbiPilToTime Generated.cfg L w (mkPil 6 15 12 30) 1000000000 (some "AAA-1")).2.env = some "AAA-1"
    ∧ (vbiPilToTime Generated.cfg L w (mkPil 6 15 12 30) 1000000000 (some "AAA-1")).1 = -1 :=
  ⟨{ fails := fun s k => s == .setenv && k == 2, now := 0, zoneOf := fun _ => fixedZone 3600 },
   { env := some "BBB+5", libc := some "BBB+5", heap := 0, restoreFailed := false, calls := fun _ => 0 },
   ⟨rfl, rfl⟩, by decide, by decide⟩

/-! ## right year and instant, in a zone given by name (`vbi_pil_to_time`) -/

/-- A successful `vbi_pil_to_time`, viewed in the zone it was asked for, shows the
PIL's month, day, hour and minute (second 0).  Assumptions on libc: `localtime_r` yields a month in
0..11, and `mktime` is correct at this PIL's local time (true unless that local time falls into a
DST gap of the zone); the reference time lies in years 1 .. 2^31-2. -/
theorem fields_preserved (cfg : Cfg) (L : Libc) (w : World) (pil : Nat) (start : Int) (tz : Option String)
    (hc : w.Consistent) (htz : tz ≠ some "UTC")
    (hlaw : (L.zoneOf (effectiveTz w tz)).Lawful)
    (hsound : ∀ tm : Tm, tm.validCivil → tm.hasPil pil → (L.zoneOf (effectiveTz w tz)).SoundAt tm)
    (hyear : ∀ tms, (L.zoneOf (effectiveTz w tz)).toLocal (refTime L start) = some tms →
      1 ≤ tms.year + 1900 ∧ tms.year + 1901 ≤ INT_MAX)
    (hr : (vbiPilToTime cfg L w pil start tz).1 ≠ -1) :
    ∃ tmr, (L.zoneOf (effectiveTz w tz)).toLocal (vbiPilToTime cfg L w pil start tz).1 = some tmr ∧ tmr.hasPil pil := by
  obtain ⟨hv, h⟩ := vbiPilToTime_val cfg L w pil start tz _ hc htz rfl hr
  obtain ⟨_, tmr, _, h2, h3, _⟩ := h.shows hv hlaw hsound hyear
  exact ⟨tmr, h2, h3⟩

/-- The month of the result is at most 6 months before and at most 5 months after the
month of the reference time (both viewed in the zone), and no other year has this property. -/
theorem nearest_year (cfg : Cfg) (L : Libc) (w : World) (pil : Nat) (start : Int) (tz : Option String)
    (hc : w.Consistent) (htz : tz ≠ some "UTC")
    (hlaw : (L.zoneOf (effectiveTz w tz)).Lawful)
    (hsound : ∀ tm : Tm, tm.validCivil → tm.hasPil pil → (L.zoneOf (effectiveTz w tz)).SoundAt tm)
    (hyear : ∀ tms, (L.zoneOf (effectiveTz w tz)).toLocal (refTime L start) = some tms →
      1 ≤ tms.year + 1900 ∧ tms.year + 1901 ≤ INT_MAX)
    (hr : (vbiPilToTime cfg L w pil start tz).1 ≠ -1) :
    ∃ tms tmr, (L.zoneOf (effectiveTz w tz)).toLocal (refTime L start) = some tms
      ∧ (L.zoneOf (effectiveTz w tz)).toLocal (vbiPilToTime cfg L w pil start tz).1 = some tmr
      ∧ -6 ≤ tmr.monthIndex - tms.monthIndex ∧ tmr.monthIndex - tms.monthIndex ≤ 5
      ∧ ∀ y : Int, y ≠ tmr.year → ¬ (-6 ≤ 12 * y + tmr.mon - tms.monthIndex ∧ 12 * y + tmr.mon - tms.monthIndex ≤ 5) := by
  obtain ⟨hv, h⟩ := vbiPilToTime_val cfg L w pil start tz _ hc htz rfl hr
  obtain ⟨tms, tmr, h1, h2, _, h4, h5, _⟩ := h.shows hv hlaw hsound hyear
  refine ⟨tms, tmr, h1, h2, h4, h5, fun y hy => ?_⟩
  unfold Tm.monthIndex at h4 h5
  exact nearest_year_unique tmr.year tms.monthIndex y tmr.mon ⟨h4, h5⟩ hy

/-- A PIL of 29 February converts only into a leap year. -/
theorem leap_day_rule (cfg : Cfg) (L : Libc) (w : World) (pil : Nat) (start : Int) (tz : Option String)
    (hc : w.Consistent) (htz : tz ≠ some "UTC")
    (hlaw : (L.zoneOf (effectiveTz w tz)).Lawful)
    (hsound : ∀ tm : Tm, tm.validCivil → tm.hasPil pil → (L.zoneOf (effectiveTz w tz)).SoundAt tm)
    (hyear : ∀ tms, (L.zoneOf (effectiveTz w tz)).toLocal (refTime L start) = some tms →
      1 ≤ tms.year + 1900 ∧ tms.year + 1901 ≤ INT_MAX)
    (hr : (vbiPilToTime cfg L w pil start tz).1 ≠ -1) (hm : pilMonth pil = 2) (hd : pilDay pil = 29) :
    ∃ tmr, (L.zoneOf (effectiveTz w tz)).toLocal (vbiPilToTime cfg L w pil start tz).1 = some tmr
      ∧ isLeap (tmr.year + 1900) := by
  obtain ⟨hv, h⟩ := vbiPilToTime_val cfg L w pil start tz _ hc htz rfl hr
  obtain ⟨_, tmr, _, h2, _, _, _, h6⟩ := h.shows hv hlaw hsound hyear
  exact ⟨tmr, h2, h6 hm hd⟩

/-- The three statements above without any assumption on libc when the zone has a fixed offset
(`TZ=AAA-1` ...): fields, nearest year and leap day, on the proved calendar. -/
theorem fixed_zone_conversion (cfg : Cfg) (L : Libc) (w : World) (pil : Nat) (start east : Int) (tz : Option String)
    (hc : w.Consistent) (htz : tz ≠ some "UTC") (hz : L.zoneOf (effectiveTz w tz) = fixedZone east)
    (hyear : 1 ≤ (tmFromSecs (refTime L start + east)).year + 1900 ∧ (tmFromSecs (refTime L start + east)).year + 1901 ≤ INT_MAX)
    (hr : (vbiPilToTime cfg L w pil start tz).1 ≠ -1) :
    let r := (vbiPilToTime cfg L w pil start tz).1
    (tmFromSecs (r + east)).hasPil pil
    ∧ -6 ≤ (tmFromSecs (r + east)).monthIndex - (tmFromSecs (refTime L start + east)).monthIndex
    ∧ (tmFromSecs (r + east)).monthIndex - (tmFromSecs (refTime L start + east)).monthIndex ≤ 5
    ∧ (pilMonth pil = 2 → pilDay pil = 29 → isLeap ((tmFromSecs (r + east)).year + 1900)) := by
  obtain ⟨hv, h⟩ := vbiPilToTime_val cfg L w pil start tz _ hc htz rfl hr
  exact (hz ▸ h).fixed hv hyear

example : (vbiPilToTime Generated.cfg { fails := fun _ _ => false, now := 0, zoneOf := fun _ => fixedZone 3600 }
    { env := none, libc := none, heap := 0, restoreFailed := false, calls := fun _ => 0 }
    (mkPil 6 15 12 30) 1000000000 (some "AAA-1")).1 = 992604600 := by decide +kernel

/-! ## right year and instant, at a UTC offset (`vbi_pil_lto_to_time`, and `tz = "UTC"`) -/

/-- fields_preserved / nearest_year / leap_day_rule for `vbi_pil_lto_to_time`: a successful
conversion, viewed at the offset `seconds_east`, shows the PIL's month, day, hour, minute; its month
is within [-6, +5] months of the reference month, uniquely so; 29 February only in a leap year; the
result is representable.  libc's UTC is the proved calendar (`UtcIsCalendar`). -/
theorem lto_conversion (cfg : Cfg) (L : Libc) (w : World) (pil : Nat) (start east : Int)
    (hutc : UtcIsCalendar cfg L)
    (hyear : 1 ≤ (tmFromSecs (refTime L start + east)).year + 1900 ∧ (tmFromSecs (refTime L start + east)).year + 1901 ≤ INT_MAX)
    (hr : (vbiPilLtoToTime cfg L w pil start east).1 ≠ -1) :
    let t := (vbiPilLtoToTime cfg L w pil start east).1
    PilValid pil
    ∧ (tmFromSecs (t + east)).hasPil pil
    ∧ -6 ≤ (tmFromSecs (t + east)).monthIndex - (tmFromSecs (refTime L start + east)).monthIndex
    ∧ (tmFromSecs (t + east)).monthIndex - (tmFromSecs (refTime L start + east)).monthIndex ≤ 5
    ∧ (∀ y : Int, y ≠ (tmFromSecs (t + east)).year →
        ¬ (-6 ≤ 12 * y + (tmFromSecs (t + east)).mon - (tmFromSecs (refTime L start + east)).monthIndex
           ∧ 12 * y + (tmFromSecs (t + east)).mon - (tmFromSecs (refTime L start + east)).monthIndex ≤ 5))
    ∧ (pilMonth pil = 2 → pilDay pil = 29 → isLeap ((tmFromSecs (t + east)).year + 1900))
    ∧ TIME_MIN ≤ t ∧ t ≤ TIME_MAX := by
  intro t
  obtain ⟨hpv, hok⟩ := vbiPilLtoToTime_ok cfg L w pil start east hr
  have hrep := result_representable cfg L w pil start east t hutc hok
  obtain ⟨c3, c4, c5, c6⟩ := (validPilLtoToTime_conv cfg L w pil start east t hutc hok).1.utc hpv hyear
  refine ⟨hpv, c3, c4, c5, fun y hy => ?_, c6, hrep⟩
  unfold Tm.monthIndex at c4 c5
  exact nearest_year_unique _ _ y _ ⟨c4, c5⟩ hy

example : (vbiPilLtoToTime Generated.cfg { fails := fun _ _ => false, now := 0, zoneOf := fun _ => utcZone }
    { env := none, libc := none, heap := 0, restoreFailed := false, calls := fun _ => 0 }
    (mkPil 6 15 12 30) 1000000000 3600).1 = 992604600 := by decide +kernel

/-! ## F9: the epoch guards -/

/-- The hypothesis the offset arithmetic forced (F9, repaired by commit 00745a5): when the guards compare
against the epoch (`cfg.epochIn`, `cfg.epochOut`, as before the repair), a conversion can only succeed
if the reference time is at least `-seconds_east` (west of UTC) resp. the result is non-negative
(east of UTC). -/
theorem f9_epoch_guards_force (cfg : Cfg) (L : Libc) (w : World) (pil : Nat) (start east t : Int)
    (hutc : UtcIsCalendar cfg L) (h : (validPilLtoToTime cfg L w pil start east).1 = .ok t) :
    (cfg.epochIn = true → east < 0 → -east ≤ refTime L start) ∧ (cfg.epochOut = true → 0 < east → 0 ≤ t) := by
  obtain ⟨_, hgi, hgo, _⟩ := validPilLtoToTime_conv cfg L w pil start east t hutc h
  constructor
  · intro he hlt
    unfold guardIn at hgi; rw [if_pos hlt, if_pos he] at hgi; simp at hgi; omega
  · intro he hgt
    unfold guardOut at hgo; rw [if_pos hgt, if_pos he] at hgo; simp at hgo; omega

/-- F9 on the model: with the guards as they were before the repair, 15 June 12:30 with
reference time 100 s after the epoch and offset -3600 is refused, although with the guard written
against TIME_MIN the very same call yields the representable time -17231400 (15 June 1969 13:30 UTC).
The same input is replayed on the C code by corpus/C14/f9_epoch_guards.ops. -/
theorem f9_counterexample :
    let L : Libc := { fails := fun _ _ => false, now := 0, zoneOf := fun _ => utcZone }
    let w : World := { env := none, libc := none, heap := 0, restoreFailed := false, calls := fun _ => 0 }
    (vbiPilLtoToTime { haveTimegm := false, epochIn := true, epochOut := true, epochWin := true } L w (mkPil 6 15 12 30) 100 (-3600)).1 = -1
    ∧ (vbiPilLtoToTime { haveTimegm := false, epochIn := false, epochOut := false, epochWin := false } L w (mkPil 6 15 12 30) 100 (-3600)).1 = -17231400 := by
  decide +kernel

/-! ## validity windows -/

/-- Offset path: for a PIL with a real month and day, a window returned
by `vbi_pil_lto_validity_window` is either the indefinite window (29 February in a non-leap year),
or: begin is 00:00 of the PIL's day at the given offset (20:00 of the previous day if the PIL hour is
below 4), end is 04:00 of the next day, so begin < end and the length is 28 h resp. 32 h
(EN 300 231 9.3); and if the PIL itself converts, the converted time lies in [begin, end).
Explicit exception `t0 ≠ -1`: (time_t) -1 is the error value of the documented interface, so a day whose
00:00 is exactly one second before the epoch (possible only when seconds_east = 1 mod 60) gets no window:
`window_minus_one_refused`. -/
theorem window_contains_and_ordered (cfg : Cfg) (L : Libc) (w : World) (pil : Nat) (start east b e : Int)
    (hutc : UtcIsCalendar cfg L) (hcl : classifyPil pil = .date)
    (hyear : 1 ≤ (tmFromSecs (refTime L start + east)).year + 1900 ∧ (tmFromSecs (refTime L start + east)).year + 1901 ≤ INT_MAX)
    (h : (vbiPilLtoValidityWindow cfg L w pil start east).1 = some (b, e)) :
    (b = TIME_MIN ∧ e = TIME_MAX) ∨
    (∃ t0 : Int,
      -- t0 = 00:00 of the PIL's day, viewed at the offset
      (tmFromSecs (t0 + east)).mon + 1 = pilMonth pil ∧ (tmFromSecs (t0 + east)).mday = pilDay pil
      ∧ (tmFromSecs (t0 + east)).hour = 0 ∧ (tmFromSecs (t0 + east)).min = 0 ∧ (tmFromSecs (t0 + east)).sec = 0
      ∧ t0 ≠ -1
      ∧ b = t0 - (if pilHour pil < 4 then 4 * 60 * 60 else 0) ∧ e = t0 + 28 * 60 * 60
      ∧ b < e ∧ (e - b = 28 * 60 * 60 ∨ e - b = 32 * 60 * 60)
      ∧ (∀ T, (validPilLtoToTime cfg L w pil start east).1 = .ok T → PilValid pil → b ≤ T ∧ T < e)) := by
  rcases vbiPilLtoValidityWindow_val cfg L w pil start east b e hcl h with ⟨_, hb, he⟩ | ⟨t0, hok, hb, he, hne⟩
  · exact Or.inl ⟨hb, he⟩
  · right
    obtain ⟨fm, fd, fh, fmi⟩ := pil_mask_fields pil
    have c0 := (validPilLtoToTime_conv cfg L w _ start east t0 hutc hok).1
    obtain ⟨⟨g1, g2, g3, g4, g5⟩, _⟩ := c0.utc (PilValid_mask pil hcl) hyear
    rw [fm] at g1; rw [fd] at g2; rw [fh] at g3; rw [fmi] at g4
    refine ⟨t0, g1, g2, by simpa using g3, by simpa using g4, g5, hne, hb, he, ?_, ?_, ?_⟩
    · rw [hb, he]; split <;> omega
    · rw [hb, he]; split
      · right; omega
      · left; omega
    · intro T hT hpvT
      have := c0.same_day (validPilLtoToTime_conv cfg L w pil start east T hutc hT).1 fm fd
      rw [fh, fmi] at this
      have hh := pilHour_lt pil
      have hmi := pilMinute_lt pil
      obtain ⟨_, _, _, _, hh24, hm60⟩ := hpvT
      rw [hb, he]
      constructor
      · split <;> omega
      · omega

example : (vbiPilLtoValidityWindow Generated.cfg { fails := fun _ _ => false, now := 0, zoneOf := fun _ => utcZone }
    { env := none, libc := none, heap := 0, restoreFailed := false, calls := fun _ => 0 }
    (mkPil 6 15 12 30) 1000000000 3600).1 = some (992559600, 992660400) := by decide +kernel

/-- The sentinel exception, stated: if 00:00 of the PIL's day converts to exactly (time_t) -1, the offset
window function returns FALSE (the C code cannot tell the value from the error return). -/
theorem window_minus_one_refused (cfg : Cfg) (L : Libc) (w : World) (pil : Nat) (start east : Int)
    (hcl : classifyPil pil = .date)
    (h : (validPilLtoToTime cfg L w (pil &&& mkPil 15 31 0 0) start east).1 = .ok (-1)) :
    (vbiPilLtoValidityWindow cfg L w pil start east).1 = none := by
  rw [vbiPilLtoValidityWindow_date hcl]
  apply validPilLtoValidityWindow_cases (P := fun q => q.1 = none)
  case hfail => exact fun _ _ => rfl
  case hrefuse => exact fun _ _ _ _ => rfl
  case hinvalid => intro w1 hv; rw [hv] at h; cases h
  case hearly => intro t w1 hv h1; rw [hv] at h; cases h; exact absurd rfl h1
  case hday => intro t w1 hv h1; rw [hv] at h; cases h; exact absurd rfl h1

example : (vbiPilLtoValidityWindow Generated.cfg { fails := fun _ _ => false, now := 0, zoneOf := fun _ => utcZone }
    { env := none, libc := none, heap := 0, restoreFailed := false, calls := fun _ => 0 }
    (mkPil 1 1 4 9) 86400 1).1 = none := by decide +kernel

/-- Zone path (`vbi_pil_validity_window` with a tz other than "UTC") in a zone with a fixed offset: a
date window is the indefinite window or is ordered and exactly 28 h (32 h for PIL hours 0-3) long.
In zones with DST libc decides the two instants (begin = mktime of 00:00 / 20:00 local, end = mktime
of 04:00 local next day: `winFromTm_val`), so the length can differ by the DST shift. -/
theorem window_lengths_fixed_zone (cfg : Cfg) (L : Libc) (w : World) (pil : Nat) (start east b e : Int) (tz : Option String)
    (hc : w.Consistent) (htz : tz ≠ some "UTC") (hz : L.zoneOf (effectiveTz w tz) = fixedZone east)
    (hcl : classifyPil pil = .date) (h : (vbiPilValidityWindow cfg L w pil start tz).1 = some (b, e)) :
    (b = TIME_MIN ∧ e = TIME_MAX) ∨ (b < e ∧ e - b = (if pilHour pil < 4 then 32 else 28) * 60 * 60) := by
  rw [vbiPilValidityWindow_date hcl] at h
  rcases validPilValidityWindow_val cfg L w pil start tz b e hc htz h with hi | ⟨tm1, hb, he⟩
  · exact Or.inl hi
  · right
    rw [hz] at hb he
    have eb := (fixedZone_fromLocal east b _ hb).1
    have ee := (fixedZone_fromLocal east e _ he).1
    split at eb <;> rename_i h4 <;> rw [secsFromTm_lin] at eb ee <;> dsimp only at eb ee
    · rw [if_pos h4]; omega
    · rw [if_neg h4]; omega

example : (vbiPilValidityWindow Generated.cfg { fails := fun _ _ => false, now := 0, zoneOf := fun _ => fixedZone 3600 }
    { env := none, libc := none, heap := 0, restoreFailed := false, calls := fun _ => 0 }
    (mkPil 6 15 2 0) 1000000000 (some "AAA-1")).1 = some (992545200, 992660400) := by decide +kernel

/-- Windows of the PILs that carry no date (EN 300 231 Annex F): unallocated codes are refused,
service codes, months 13/14 and unreal days give the indefinite window - in both window functions,
without touching libc. -/
theorem window_classes (cfg : Cfg) (L : Libc) (w : World) (pil : Nat) (start east : Int) (tz : Option String) :
    (classifyPil pil = .unallocated →
      vbiPilLtoValidityWindow cfg L w pil start east = (none, w) ∧ vbiPilValidityWindow cfg L w pil start tz = (none, w))
    ∧ (classifyPil pil = .indefinite →
      vbiPilLtoValidityWindow cfg L w pil start east = (some (TIME_MIN, TIME_MAX), w)
      ∧ vbiPilValidityWindow cfg L w pil start tz = (some (TIME_MIN, TIME_MAX), w)) := by
  constructor <;> intro h <;> unfold vbiPilLtoValidityWindow vbiPilValidityWindow <;> rw [h] <;> exact ⟨rfl, rfl⟩

example : classifyPil PIL_TIMER_CONTROL = .indefinite ∧ classifyPil (mkPil 0 1 1 1) = .unallocated
    ∧ classifyPil PIL_NSPV = .nspv ∧ classifyPil (mkPil 2 30 0 0) = .indefinite ∧ classifyPil (mkPil 2 29 0 0) = .date := by decide +kernel

/-! ## completeness and the seconds form of the nearest-year rule -/

/-- When the guards are written against TIME_MIN (the repaired source)
and libc does not fail, every valid PIL converts, for every reference time whose year (at the given
offset) lies in 1 .. 2^31-3 and every `int` offset - all such results are representable, so there is no
representability hypothesis left and none about the epoch.  The result is exactly the PIL's date
and time in the year picked by the nearest-year rule, minus the offset; the only refusal is
29 February in a non-leap year. -/
theorem valid_representable_succeeds (cfg : Cfg) (L : Libc) (w : World) (pil : Nat) (start east : Int)
    (hin : cfg.epochIn = false) (hout : cfg.epochOut = false)
    (hnf : NoFailures L) (hutc : UtcIsCalendar cfg L) (hv : PilValid pil) (href : refTime L start ≠ -1)
    (he0 : INT_MIN ≤ east) (he1 : east ≤ INT_MAX)
    (hy0 : 1 ≤ (tmFromSecs (refTime L start + east)).year + 1900)
    (hy1 : (tmFromSecs (refTime L start + east)).year + 1902 ≤ INT_MAX) :
    ∃ tm1, tmMonMdayFromPil (tmFromSecs (refTime L start + east)) pil = some tm1 ∧
      (vbiPilLtoToTime cfg L w pil start east).1 =
        if pilMonth pil = 2 ∧ pilDay pil = 29 ∧ ¬ isLeap (tm1.year + 1900) then -1
        else secsFromTm { tm1 with hour := (pilHour pil : Int), min := (pilMinute pil : Int), sec := 0 } - east := by
  have hI : INT_MAX = 2147483647 := rfl
  have hI' : INT_MIN = -2147483648 := rfl
  obtain ⟨tm1, h1⟩ := tmMonMday_some (tmFromSecs (refTime L start + east)) pil (by omega) (by omega)
  have hres := validPilLtoToTime_fwd cfg w pil start east hin hout hnf hutc hv href he0 he1 hy0 (by omega) h1
  refine ⟨tm1, h1, ?_⟩
  refine vbiPilLtoToTime_cases cfg L w pil start east (P := fun q => q.1 = _)
    (hinvalid := fun hn => by rw [(pilIsValidDate_iff pil).2 hv] at hn; cases hn) (hvalid := fun r w1 _ hvl => ?_)
  rw [hvl] at hres
  show r.toTime = _
  rw [show r = _ from hres]
  split <;> rfl

/-- The same for the source as it is now: `Generated.cfg` (regenerated from src/pdc.c on every run) has
both guards against TIME_MIN.  This proof breaks if an epoch guard comes back. -/
theorem valid_representable_succeeds_current_source (L : Libc) (w : World) (pil : Nat) (start east : Int)
    (hnf : NoFailures L) (hutc : UtcIsCalendar Generated.cfg L) (hv : PilValid pil) (href : refTime L start ≠ -1)
    (he0 : INT_MIN ≤ east) (he1 : east ≤ INT_MAX)
    (hy0 : 1 ≤ (tmFromSecs (refTime L start + east)).year + 1900)
    (hy1 : (tmFromSecs (refTime L start + east)).year + 1902 ≤ INT_MAX) :
    ∃ tm1, tmMonMdayFromPil (tmFromSecs (refTime L start + east)) pil = some tm1 ∧
      (vbiPilLtoToTime Generated.cfg L w pil start east).1 =
        if pilMonth pil = 2 ∧ pilDay pil = 29 ∧ ¬ isLeap (tm1.year + 1900) then -1
        else secsFromTm { tm1 with hour := (pilHour pil : Int), min := (pilMinute pil : Int), sec := 0 } - east :=
  valid_representable_succeeds Generated.cfg L w pil start east rfl rfl hnf hutc hv href he0 he1 hy0 hy1

/-- the call of `f9_counterexample` with the current source: it converts -/
example : (vbiPilLtoToTime Generated.cfg { fails := fun _ _ => false, now := 0, zoneOf := fun _ => utcZone }
    { env := none, libc := none, heap := 0, restoreFailed := false, calls := fun _ => 0 }
    (mkPil 6 15 12 30) 100 (-3600)).1 = -17231400 := by decide +kernel

/-- A successful offset conversion lies strictly within 217 days (seven calendar
months of at most 31 days) of the reference time. -/
theorem nearest_year_seconds (cfg : Cfg) (L : Libc) (w : World) (pil : Nat) (start east : Int)
    (hutc : UtcIsCalendar cfg L)
    (hyear : 1 ≤ (tmFromSecs (refTime L start + east)).year + 1900 ∧ (tmFromSecs (refTime L start + east)).year + 1901 ≤ INT_MAX)
    (hr : (vbiPilLtoToTime cfg L w pil start east).1 ≠ -1) :
    -(217 * 86400) < (vbiPilLtoToTime cfg L w pil start east).1 - refTime L start
    ∧ (vbiPilLtoToTime cfg L w pil start east).1 - refTime L start < 217 * 86400 := by
  obtain ⟨hpv, hok⟩ := vbiPilLtoToTime_ok cfg L w pil start east hr
  have := (validPilLtoToTime_conv cfg L w pil start east _ hutc hok).1.fixed_near (e := 0) hpv
    (by simpa only [Int.add_zero] using hyear)
  omega

/-- The same bound for `vbi_pil_to_time` in a zone with a fixed offset. -/
theorem nearest_year_seconds_fixed_zone (cfg : Cfg) (L : Libc) (w : World) (pil : Nat) (start east : Int) (tz : Option String)
    (hc : w.Consistent) (htz : tz ≠ some "UTC") (hz : L.zoneOf (effectiveTz w tz) = fixedZone east)
    (hyear : 1 ≤ (tmFromSecs (refTime L start + east)).year + 1900 ∧ (tmFromSecs (refTime L start + east)).year + 1901 ≤ INT_MAX)
    (hr : (vbiPilToTime cfg L w pil start tz).1 ≠ -1) :
    -(217 * 86400) < (vbiPilToTime cfg L w pil start tz).1 - refTime L start
    ∧ (vbiPilToTime cfg L w pil start tz).1 - refTime L start < 217 * 86400 := by
  obtain ⟨hv, h⟩ := vbiPilToTime_val cfg L w pil start tz _ hc htz rfl hr
  exact (hz ▸ h).fixed_near hv hyear

/-! ## zones with daylight-saving time -/

/-- fields_preserved for a named zone with DST, the gap/overlap rule explicit.  The zone is described by
its UTC offset `off t` at every instant and glibc's mktime behaviour for `tm_isdst = -1`
(`Zone.FollowsOffsets`, validated against libc on every run).  A successful `vbi_pil_to_time` has a
valid civil time `tmP` showing the PIL in the year picked by the nearest-year rule, and the result,
viewed in the zone, (a) shows exactly `tmP` whenever that local time exists in the zone (once, or
twice in an overlap - then either instant), and (b) in every case shows `tmP` moved by
`off result - off t'` for an instant `t'` within two days, i.e. by the DST jump when `tmP` falls into
a gap and by nothing otherwise. -/
theorem fields_preserved_dst (cfg : Cfg) (L : Libc) (w : World) (pil : Nat) (start : Int) (tz : Option String)
    (off : Int → Int) (hc : w.Consistent) (htz : tz ≠ some "UTC")
    (hz : (L.zoneOf (effectiveTz w tz)).FollowsOffsets off)
    (hyear : ∀ tms, (L.zoneOf (effectiveTz w tz)).toLocal (refTime L start) = some tms →
      1 ≤ tms.year + 1900 ∧ tms.year + 1901 ≤ INT_MAX)
    (hr : (vbiPilToTime cfg L w pil start tz).1 ≠ -1) :
    ∃ tms tmP tmr, (L.zoneOf (effectiveTz w tz)).toLocal (refTime L start) = some tms
      ∧ tmP.validCivil ∧ tmP.hasPil pil
      ∧ -6 ≤ tmP.monthIndex - tms.monthIndex ∧ tmP.monthIndex - tms.monthIndex ≤ 5
      ∧ (pilMonth pil = 2 → pilDay pil = 29 → isLeap (tmP.year + 1900))
      ∧ (L.zoneOf (effectiveTz w tz)).toLocal (vbiPilToTime cfg L w pil start tz).1 = some tmr
      ∧ ((∃ t0, t0 + off t0 = secsFromTm tmP) → tmr.hasPil pil ∧ tmr.sameCivil tmP)
      ∧ (∃ t', (vbiPilToTime cfg L w pil start tz).1 - 172800 ≤ t' ∧ t' ≤ (vbiPilToTime cfg L w pil start tz).1 + 172800
          ∧ tmr.sameCivil (tmFromSecs (secsFromTm tmP + (off (vbiPilToTime cfg L w pil start tz).1 - off t')))) := by
  obtain ⟨hv, h⟩ := vbiPilToTime_val cfg L w pil start tz _ hc htz rfl hr
  obtain ⟨tms, tmP, h0, v1, v2, v3, v4, v5, h3⟩ := h.pre hv hz.lawful hyear
  obtain ⟨tmr, hr1⟩ := hz.mktime_converts _ _ h3
  have hloc := hz.localtime _ _ hr1
  refine ⟨tms, tmP, tmr, h0, v1, v2, v3, v4, v5, hr1, ?_, ?_⟩
  · intro hex
    have := hz.mktime_hit _ _ v1 h3 hex
    rw [this] at hloc
    have hs := hloc.trans (tmFromSecs_secsFromTm tmP v1)
    exact ⟨hs.hasPil v2, hs⟩
  · obtain ⟨t', g1, g2, g3⟩ := hz.mktime_gap _ _ v1 h3
    refine ⟨t', g1, g2, ?_⟩
    have : (vbiPilToTime cfg L w pil start tz).1 + off (vbiPilToTime cfg L w pil start tz).1
        = secsFromTm tmP + (off (vbiPilToTime cfg L w pil start tz).1 - off t') := by omega
    rw [this] at hloc
    exact hloc

/-- non-vacuity of `Zone.FollowsOffsets`: every fixed-offset zone is an instance (constant offset) -/
theorem fixed_zone_follows_offsets (east : Int) : (fixedZone east).FollowsOffsets (fun _ => east) :=
  { localtime := fun t tm h => by
      obtain ⟨rfl, _⟩ := fixedZone_toLocal east t tm h
      exact ⟨rfl, rfl, rfl, rfl, rfl, rfl⟩
    year_int := (fixedZone_lawful east).year_int
    mktime_converts := fun tm t h => by
      obtain ⟨_, hc⟩ := fixedZone_fromLocal east t tm h
      exact ⟨tmFromSecs (t + east), by unfold fixedZone; dsimp only; rw [if_pos hc]⟩
    mktime_hit := fun tm t _ h _ => by
      obtain ⟨rfl, _⟩ := fixedZone_fromLocal east t tm h
      omega
    mktime_gap := fun tm t _ h => by
      obtain ⟨rfl, _⟩ := fixedZone_fromLocal east t tm h
      exact ⟨secsFromTm tm - east, by omega, by omega, by omega⟩ }

end Zvbi.Props.C14
