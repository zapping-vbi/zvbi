import ZvbiModel.Mux.JoinFrames
import ZvbiModel.Mux.NullCor
/-!
# C06 (joined with C07) - the multiplexer's output demultiplexes to its input; coroutine = callback

Property theorems only.  Models: `Mux/Model.lean` (src/dvb_mux.c), `Demux/Model.lean`
(src/dvb_demux.c, PES path); helper lemmas: `Mux/Join*.lean`, `Mux/Cor*.lean`, `Demux/Join*.lean`.

Round trip through the library's own demultiplexer (`mux_demux_roundtrip_lib`): PES mode, every
history of accepted/rejected frames and configuration changes, the concatenated output cut into
feed calls in ANY way.  Frames excluded, and why (each exclusion is a hypothesis, none is hidden):

* raw line requests (`NoRaw`, part of `Op.OK`): the library's demultiplexer does not decode raw data units; frames with raw
  lines are read back by `RawSpec` in `Props/C06Raw.lean`;
* accepted frames without any selected line: the multiplexer sends a packet of stuffing only, which
  the demultiplexer cannot see as a frame (and when it is the first packet after a frame start, its
  PTS is taken for the frame that follows - `empty_first_frame_pts` below);
* lines with the undefined line number 0 (`line_offset` 0): frame boundaries then depend on the
  field parity bit, which the multiplexer derives from the previous line and which its reset after a
  masked raw line can get wrong (NOTES/C06.md); stays open as `mux_demux_roundtrip_undef_full`;
* consecutive frames the receiver cannot tell apart: a frame boundary is recognisable only "by a
  non-increasing line number" (properties.jsonl), so each frame must begin on a line not beyond the
  last line of the frame before (`Separable`); otherwise the two frames arrive as one
  (`merged_frames_example`);
* the last accepted frame is not delivered (nothing follows that would end it): it is held in the
  frame buffer with its PTS, which the theorem states.
Vocabulary (`Mux/JoinFrames.lean`): `received s` = the `FrameOut` the demultiplexer's callback is to
get for a sent frame `s` (PTS mod 2^33; per line libzvbi's service id - Teletext B 3, VPS 4, WSS
0x400, Caption 8 -, line number, payload bits: `Demux.ofLine`); `Defined s` = at least one line and
no line number 0; `Separable ss` = all `Defined`, and each frame's first line number is not beyond
the last line number of the frame before; `Holds fs pts lines` (`Demux/JoinFrame.lean`) = the frame
buffer holds exactly `lines` with `frame_pts = pts` and `new_frame` clear.
The TS path of the demultiplexer is joined in `Props/C06Ts.lean`.
-/
namespace Zvbi.Props.C06Join
open Zvbi.Mux Zvbi.Mux.EnParse
open Zvbi.Demux (SrcCfg St FrameOut pesFeeds pesFeed frames ofLine AscFrom lastLineOf firstLine Sep SepFrom FrameLinesOK outOf Holds)

def exLine (id line fill : Nat) : Sliced := ⟨id, line, List.replicate 56 fill⟩
/-- five frames: Teletext + VPS + WSS; two Teletext lines in both fields; one line; Teletext + Caption; one line after a data_identifier change -/
def exOps : List Op :=
  [.frame [exLine 3 7 0x15, exLine 4 16 0x31, exLine 0x400 23 0xF7] 0xFFFFFFFF 5,
   .frame [exLine 3 7 0x80, exLine 3 320 0x01] 0xFFFFFFFF (2 ^ 33 + 6),
   .frame [exLine 3 9 0x55] 0xFFFFFFFF 7, .frame [exLine 3 8 0, exLine 0x18 21 0x2A] 0xFFFFFFFF 8, .dataId 0x99,
   .frame [exLine 3 7 0x11] 0xFFFFFFFF 9]

/-- **output bytes < 256.** PES mode, every history: every value handed to the callback is a byte. -/
theorem mux_output_bytes (m : Mux) (hp : m.cfg.pid = 0) (ops : List Op) (hops : ∀ op ∈ ops, Op.OK op) :
    ∀ b ∈ (run m ops).2.1, b < 256 :=
  run_bytes_lt ops hops m hp

example : (run newPes exOps).2.1.length = 920 ∧ ∀ b ∈ (run newPes exOps).2.1, b < 256 :=
  ⟨by decide +kernel, mux_output_bytes newPes rfl exOps (by decide +kernel)⟩

/-- **accepted frames ascend.** Every history, any mode: the lines of an accepted frame, when all of
them have a defined line number, are strictly ascending in line number (all ≥ 1) and at most 39. -/
theorem mux_frames_ascend (m : Mux) (ops : List Op) (hops : ∀ op ∈ ops, Op.OK op) :
    ∀ s ∈ (run m ops).2.2, (∀ l ∈ s.lines, l.line ≠ 0) → AscFrom 0 s.lines ∧ s.lines.length ≤ 39 :=
  run_asc ops hops m

example : ((run newPes exOps).2.2.map fun s => s.lines.map (·.line)) = [[7, 16, 23], [7, 320], [9], [8, 21], [7]] := by
  decide +kernel

/-- **mux_demux_roundtrip through the library's demultiplexer (PES path).**  For every multiplexer
in a reachable configuration (PES mode), every history `ops` of frames (accepted or rejected;
well-formed `vbi_sliced`, no raw line requests) and configuration changes whose accepted frames are
`Separable` frames of defined lines, and EVERY partition `chunks` of the concatenated output into
`vbi_dvb_demux_feed` calls (down to single bytes, empty buffers included), for either shape of the
two repaired statements of dvb_demux.c (`cfg`):
the demultiplexer never faults and delivers exactly the accepted frames but the last, in order,
one callback per frame, each with its PTS (mod 2^33) and its lines in order with service id, line
number and payload bits; the last frame is held complete in the frame buffer with its PTS
(`new_frame` clear: the next frame will deliver it), and all input is consumed. -/
theorem mux_demux_roundtrip_lib (cfg : SrcCfg) (m : Mux) (hc : CfgOK m.cfg) (hp : m.cfg.pid = 0)
    (ops : List Op) (hops : ∀ op ∈ ops, Op.OK op) (hsep : Separable (run m ops).2.2)
    (chunks : List Bytes) (hch : chunks.flatten = (run m ops).2.1) :
    (pesFeeds cfg St.init chunks).err = none
    ∧ (pesFeeds cfg St.init chunks).frames = (run m ops).2.2.dropLast.map received
    ∧ (pesFeeds cfg St.init chunks).st.pending = []
    ∧ ∀ hne : (run m ops).2.2 ≠ [],
        Holds (pesFeeds cfg St.init chunks).st.fs ((run m ops).2.2.getLast hne).pts ((run m ops).2.2.getLast hne).lines := by
  obtain ⟨ps, hps, hcont⟩ := pes_history ops hops m hc hp
  have hbytes := run_bytes_lt ops hops m hp
  have hS : Sep cfg (ps.map (·.lines)) := by
    have := run_sep (cfg := cfg) ops hops m hsep
    rwa [← hcont, List.map_map] at this
  obtain ⟨fsEnd, har, hend⟩ := Zvbi.Demux.frames_of_pesStream (cfg := cfg) _ ps hps hbytes hS
  obtain ⟨he, _, href⟩ := Zvbi.Demux.pesFeeds_init (cfg := cfg) chunks
  rw [hch, har] at href
  simp only [Zvbi.Demux.ARes.mk.injEq] at href
  obtain ⟨hcore, hpend, hframes, _⟩ := href
  have hfs : (pesFeeds cfg St.init chunks).st.fs = fsEnd := (congrArg Zvbi.Demux.Core.fs hcore).symm
  refine ⟨he, ?_, hpend.symm, ?_⟩
  · rw [← hframes, ← hcont, ← List.map_dropLast, List.map_map]; rfl
  · intro hne
    obtain ⟨hpne, hlast⟩ := getLast_content hcont hne
    rw [hfs, ← hlast]
    exact hend hpne

/-! non-vacuity: a history that meets every hypothesis, and the theorem applied to it -/

example : ∀ op ∈ exOps, Op.OK op := by decide +kernel
example : Separable (run newPes exOps).2.2 := by decide +kernel
example : (run newPes exOps).2.2.length = 5 := by decide +kernel

/-- the theorem instantiated: the output of `exOps` cut after byte 100 and after byte 101 (a one-byte
buffer) and an empty buffer: the first four frames come back, the fifth is held -/
example : let out := (run newPes exOps).2.1
    (pesFeeds SrcCfg.current St.init [out.take 100, (out.drop 100).take 1, [], out.drop 101]).frames
      = (run newPes exOps).2.2.dropLast.map received :=
  (mux_demux_roundtrip_lib SrcCfg.current newPes cfgOK_default rfl exOps (by decide +kernel) (by decide +kernel)
    _ (by simp only [List.flatten_cons, List.flatten_nil, List.append_nil, List.nil_append]
          have e : ∀ L : Bytes, L.drop 101 = (L.drop 100).drop 1 := fun L => by rw [List.drop_drop]
          rw [e, List.take_append_drop, List.take_append_drop])).2.1

/-- ... and what comes back, evaluated: PTS (mod 2^33), service ids, line numbers -/
example : ((run newPes exOps).2.2.dropLast.map received).map (fun f => (f.pts, f.lines.map fun l => (l.id, l.line)))
    = [(5, [(3, 7), (4, 16), (0x400, 23)]), (6, [(3, 7), (3, 320)]), (7, [(3, 9)]), (8, [(3, 8), (8, 21)])] := by
  decide +kernel

/-- why `Separable` is needed: a frame that begins beyond the last line of the frame before it is
appended to that frame by the demultiplexer (one frame [7, 9] with the first PTS instead of [7], [9]) -/
theorem merged_frames_example :
    ((frames SrcCfg.repaired (run newPes [.frame [exLine 3 7 1] 3 1, .frame [exLine 3 9 2] 3 2, .frame [exLine 3 7 3] 3 3]).2.1).map
      fun f => (f.pts, f.lines.map (·.line))) = [(1, [7, 9])] := by decide +kernel

/-- why frames without lines are excluded: a packet of stuffing as the first packet after a frame
start lends its PTS to the frame that follows (frame [7] sent with PTS 2 arrives with PTS 1) -/
theorem empty_first_frame_pts :
    ((frames SrcCfg.repaired (run newPes [.frame [] 3 1, .frame [exLine 3 7 2] 3 2, .frame [exLine 3 7 3] 3 3]).2.1).map
      fun f => (f.pts, f.lines.map (·.line))) = [(1, [7])] := by decide +kernel

/-- OPEN (not proved): the round trip for frames that also carry lines with an undefined line
number (`line` 0, accepted for Teletext only) anywhere but at the start of a frame: frame boundaries
by the first (defined) line against the last defined line of the frame before; at most `frameCap cfg`
lines per frame (64 = all of `dx->sliced[64]` with fix dvb-demux-full-frame in /repo, 63 before it: finding
C07-full-frame).  `mux_demux_roundtrip_lib` is the case without such lines (there 39 lines is the maximum).
Proved of it: the multiplexer's half (`Props/C06Undef.undef_field_parity_ascends`) and the demultiplexer's half for one packet
(`Props/C06UndefDemux.lean`); open is carrying them over whole streams. -/
def mux_demux_roundtrip_undef_full : Prop :=
  ∀ (cfg : SrcCfg) (m : Mux), CfgOK m.cfg → m.cfg.pid = 0 → ∀ (ops : List Op), (∀ op ∈ ops, Op.OK op) →
    (∀ s ∈ (run m ops).2.2, 1 ≤ s.lines.length ∧ s.lines.length ≤ Zvbi.Demux.frameCap cfg ∧ firstLine s.lines ≠ 0) →
    (∀ i, i + 1 < (run m ops).2.2.length →
      firstLine ((run m ops).2.2.getD (i + 1) ⟨0, 0, []⟩).lines
        ≤ (((run m ops).2.2.getD i ⟨0, 0, []⟩).lines.filter (·.line ≠ 0)).foldl (fun _ l => l.line) 0) →
    ∀ (chunks : List Bytes), chunks.flatten = (run m ops).2.1 →
      (pesFeeds cfg St.init chunks).frames = (run m ops).2.2.dropLast.map received

/-! ## `vbi_dvb_mux_cor` = `vbi_dvb_mux_feed` (C06 `cor_equals_feed`)

`Idle m`: no coroutine output pending (`cor_offset >= cor_end`), the state of a new or reset
multiplexer and after every completed frame.  `cor` needs a non-empty frame: with
`*sliced_left == 0` it returns FALSE by contract, whereas `feed` sends stuffing. -/

/-- Whenever `vbi_dvb_mux_feed` accepts a frame (PES or TS mode), then for EVERY
sequence of positive output buffer sizes the loop around `vbi_dvb_mux_cor` never fails and has
stored, after the calls so far, exactly the first `sizes.sum` bytes of what `feed` hands to its
callback; once the sizes reach the length of those bytes the loop has ended with
`*sliced_left = 0` and exactly `feed`'s bytes, nothing is pending, the configuration is unchanged and
the continuity counter is the one `feed` leaves. -/
theorem cor_equals_feed (m : Mux) (hi : Idle m) (hc : CfgOK m.cfg) (lines : List Sliced) (hl : lines ≠ [])
    (hwf : ∀ s ∈ lines, Sliced.WF s) (hnr : NoRaw lines) (mask pts : Nat)
    (hok : (feed m lines mask pts 0).2.ok = true) (sizes : List Nat) (hpos : ∀ s ∈ sizes, 0 < s) :
    ∃ m', m'.cfg = m.cfg
      ∧ (sizes.sum < (FeedOut.bytes (feed m lines mask pts 0).2).length →
          corSeq lines mask pts sizes m []
            = (m', true, true, (FeedOut.bytes (feed m lines mask pts 0).2).take sizes.sum))
      ∧ ((FeedOut.bytes (feed m lines mask pts 0).2).length ≤ sizes.sum →
          corSeq lines mask pts sizes m [] = (m', true, false, FeedOut.bytes (feed m lines mask pts 0).2)
          ∧ Idle m' ∧ m'.cc = (feed m lines mask pts 0).1.cc) :=
  Zvbi.Mux.cor_equals_feed m hi hc lines hl hwf hnr mask pts hok sizes hpos

example : ((newTs 0x123).map fun m => ((corSeq corExLines 0xFFFFFFFF 5 [1, 7, 188, 1000] m []).2,
      (corSeq corExLines 0xFFFFFFFF 5 [1, 7, 188, 1000] m []).1.cc))
    = (newTs 0x123).map fun m => ((true, false, FeedOut.bytes (feed m corExLines 0xFFFFFFFF 5 0).2),
      (feed m corExLines 0xFFFFFFFF 5 0).1.cc) := by decide +kernel
example : (FeedOut.bytes (feed newPes corExLines 0xFFFFFFFF 5 0).2).length = 184 ∧ Idle newPes := by decide +kernel

/-- **every single call** of that loop: after any calls `pre` that did not finish the frame, the next
call with `s > 0` bytes of space returns TRUE, stores exactly the next `min s rest` bytes, and either
finishes the frame (`*sliced_left = 0`, `*sliced` past the frame, nothing pending, counter as after
`feed`) or leaves `*sliced` / `*sliced_left` untouched with output pending. -/
theorem cor_equals_feed_call (m : Mux) (hi : Idle m) (hc : CfgOK m.cfg) (lines : List Sliced) (hl : lines ≠ [])
    (hwf : ∀ s ∈ lines, Sliced.WF s) (hnr : NoRaw lines) (mask pts : Nat)
    (hok : (feed m lines mask pts 0).2.ok = true) (pre : List Nat) (hpre : ∀ x ∈ pre, 0 < x)
    (hlt : pre.sum < (FeedOut.bytes (feed m lines mask pts 0).2).length) (s : Nat) (hs : 0 < s) :
    ∃ m2, cor (corSeq lines mask pts pre m []).1 s lines mask pts
        = (m2, { ok := true, out := ((FeedOut.bytes (feed m lines mask pts 0).2).drop pre.sum).take s,
                 slicedLeft := if (FeedOut.bytes (feed m lines mask pts 0).2).length ≤ pre.sum + s then 0 else lines.length,
                 slicedIdx := if (FeedOut.bytes (feed m lines mask pts 0).2).length ≤ pre.sum + s then lines.length else 0 })
      ∧ m2.cfg = m.cfg
      ∧ ((FeedOut.bytes (feed m lines mask pts 0).2).length ≤ pre.sum + s →
          Idle m2 ∧ m2.cc = (feed m lines mask pts 0).1.cc)
      ∧ (pre.sum + s < (FeedOut.bytes (feed m lines mask pts 0).2).length → ¬ Idle m2) := by
  obtain ⟨hr, hne⟩ := readyR_null m hi hc lines hl hwf mask pts hok
  obtain ⟨m1, h1, h2, _⟩ := corSeqR_ready false lines hl mask none none nofun pts _ _ pre ⟨m, {}⟩ [] _ hr hne hpre
  obtain ⟨hseq, hr1⟩ := h2 hlt
  rw [corSeqR_null lines mask pts {} rfl pre m [], hseq]
  have hne1 : (FeedOut.bytes (feed m lines mask pts 0).2).drop pre.sum ≠ [] := by
    intro h; have := List.drop_eq_nil_iff.1 h; omega
  have hraw1 : m1.raw.left = 0 := by
    rcases hr1 with ⟨_, _, h⟩ | ⟨_, _, h, _⟩
    · rw [h]
    · exact h
  obtain ⟨m2, hcor, hp2, hcfg2, _⟩ := corR_ready false lines mask none none nofun pts _ _ _ m1 s hr1 hne1 hs
  obtain ⟨n1, n2⟩ := corR_null m1.mux m1.raw hraw1 s lines mask pts
  have hcor' : cor m1.mux s lines mask pts
      = ((corR false m1 s lines mask none none pts).1.mux, (corR false m1 s lines mask none none pts).2.res) :=
    Prod.ext (congrArg RMux.mux n1).symm n2.symm
  rw [hcor', hcor]
  have hiff : ((FeedOut.bytes (feed m lines mask pts 0).2).drop pre.sum).length ≤ s
      ↔ (FeedOut.bytes (feed m lines mask pts 0).2).length ≤ pre.sum + s := by
    rw [List.length_drop]; omega
  rw [List.drop_drop] at hp2
  refine ⟨m2.mux, ?_, by rw [hcfg2, h1], fun h => ?_, fun h => ?_⟩
  · by_cases hle : (FeedOut.bytes (feed m lines mask pts 0).2).length ≤ pre.sum + s
    · rw [if_pos (hiff.2 hle), if_pos (hiff.2 hle), if_pos hle, if_pos hle]
    · rw [if_neg (fun x => hle (hiff.1 x)), if_neg (fun x => hle (hiff.1 x)), if_neg hle, if_neg hle]
  · have hd : (FeedOut.bytes (feed m lines mask pts 0).2).drop (pre.sum + s) = [] := List.drop_eq_nil_iff.2 h
    rw [hd] at hp2
    exact ⟨hp2.idle_iff.2 rfl, hp2.cc_end⟩
  · intro hidle
    have := List.drop_eq_nil_iff.1 (hp2.idle_iff.1 hidle)
    omega

example : ((newTs 0x123).map fun m => (cor (corSeq corExLines 0xFFFFFFFF 5 [1, 7] m []).1 180 corExLines 0xFFFFFFFF 5).2.out)
    = (newTs 0x123).map fun m => ((FeedOut.bytes (feed m corExLines 0xFFFFFFFF 5 0).2).drop 8).take 180 := by
  decide +kernel

/-- **rejected frames.** A frame `feed` rejects (any reason) is rejected by `cor` with any buffer
space: FALSE, nothing stored, nothing pending, configuration and continuity counter untouched (as
with `feed`), and every later `feed` call behaves as if the frame had never been offered. -/
theorem cor_rejects_like_feed (m : Mux) (hi : Idle m) (lines : List Sliced) (mask pts : Nat)
    (hrej : (feed m lines mask pts 0).2.ok = false) (size : Nat) (hs : 0 < size) :
    (cor m size lines mask pts).2.ok = false ∧ (cor m size lines mask pts).2.out = []
    ∧ Idle (cor m size lines mask pts).1
    ∧ (cor m size lines mask pts).1.cfg = m.cfg ∧ (cor m size lines mask pts).1.cc = m.cc
    ∧ (feed m lines mask pts 0).1.cfg = m.cfg ∧ (feed m lines mask pts 0).1.cc = m.cc
    ∧ ∀ lines' mask' pts' k,
        (feed (cor m size lines mask pts).1 lines' mask' pts' k).2 = (feed m lines' mask' pts' k).2
        ∧ (feed (cor m size lines mask pts).1 lines' mask' pts' k).1.cc = (feed m lines' mask' pts' k).1.cc
        ∧ (feed (cor m size lines mask pts).1 lines' mask' pts' k).1.cfg = (feed m lines' mask' pts' k).1.cfg := by
  have hfeed : (feed m lines mask pts 0).1 = m := by
    rw [(feed_rejected m lines mask pts hrej).2, dropPending_idle m hi]
  rw [hfeed]
  by_cases hl : lines = []
  · have hcor : cor m size [] mask pts = (m, { ok := false, out := [], slicedLeft := 0, slicedIdx := 0 }) := by
      unfold cor
      simp only [List.length_nil, if_neg (show ¬ size = 0 by omega), if_pos (show m.corOffset ≥ m.corEnd from hi), if_true]
    rw [hl, hcor]
    exact ⟨rfl, rfl, hi, rfl, rfl, rfl, rfl, fun _ _ _ _ => ⟨rfl, rfl, rfl⟩⟩
  · obtain ⟨n1, n2⟩ := corR_null m {} rfl size lines mask pts
    obtain ⟨r1, r2, _, _, r5, r6, r7, _⟩ := corR_reject_state false ⟨m, {}⟩ lines mask none none pts size (by omega) nofun hi hl
      ((feedR_null ⟨m, {}⟩ rfl lines mask pts).1.trans hrej)
    rw [n1] at r5 r6 r7
    rw [n2] at r1 r2
    exact ⟨r1, r2, r5, r6, r7, rfl, rfl, fun l' k' p' f' => feed_congr _ m r6 r7 l' k' p' f'⟩

example : (feed newPes [exLine 3 8 1, exLine 3 7 1] 0xFFFFFFFF 5 0).2.ok = false
    ∧ (cor newPes 100 [exLine 3 8 1, exLine 3 7 1] 0xFFFFFFFF 5).2.ok = false := by decide +kernel

/-- **the loop the correspondence driver runs** (`corAll`, op `corall`: buffer sizes taken cyclically
from a non-empty list of positive sizes) yields for every frame `feed` accepts exactly `feed`'s
bytes, `*sliced_left = 0`, `*sliced` at the end of the frame, nothing pending, `feed`'s counter. -/
theorem corAll_equals_feed (m : Mux) (hi : Idle m) (hc : CfgOK m.cfg) (lines : List Sliced) (hl : lines ≠ [])
    (hwf : ∀ s ∈ lines, Sliced.WF s) (hnr : NoRaw lines) (mask pts : Nat)
    (hok : (feed m lines mask pts 0).2.ok = true) (sizes : List Nat) (hsz : sizes ≠ [])
    (hpos : ∀ s ∈ sizes, 0 < s) (fuel : Nat) (hfuel : (FeedOut.bytes (feed m lines mask pts 0).2).length ≤ fuel) :
    ∃ m' calls, corAll sizes lines mask pts fuel m 0 []
        = (m', true, calls, 0, lines.length, FeedOut.bytes (feed m lines mask pts 0).2)
      ∧ 1 ≤ calls ∧ calls ≤ (FeedOut.bytes (feed m lines mask pts 0).2).length
      ∧ Idle m' ∧ m'.cfg = m.cfg ∧ m'.cc = (feed m lines mask pts 0).1.cc := by
  obtain ⟨hr, hne⟩ := readyR_null m hi hc lines hl hwf mask pts hok
  obtain ⟨m', c', heq, h1, h2, h3, h4, h5, _⟩ :=
    corAllR_ready false sizes hsz hpos lines hl mask none none nofun pts _ _ fuel ⟨m, {}⟩ 0 [] _ hr hne hfuel
  rw [(corAllR_null sizes lines mask pts {} rfl fuel m 0 []).1, heq]
  exact ⟨m'.mux, c', rfl, by omega, by omega, h3, h4, h5⟩

example : ((newTs 0x123).map fun m => (corAll [1, 7, 50] corExLines 0xFFFFFFFF 5 188 m 0 []).2)
    = (newTs 0x123).map fun m => (true, 12, 0, 2, FeedOut.bytes (feed m corExLines 0xFFFFFFFF 5 0).2) := by
  decide +kernel

/-- **whole histories.** An application that converts every frame with the `vbi_dvb_mux_cor` loop
(each frame with its own non-empty list of positive buffer sizes) and one that uses
`vbi_dvb_mux_feed` with a callback produce byte for byte the same stream over every history of
non-empty frames (accepted or rejected) and configuration changes, PES or TS mode, and end with the
same configuration and continuity counter. -/
theorem cor_history_equals_feed (fuel : Nat) (hfuel : 66928 ≤ fuel) (ops : List (Op × List Nat))
    (hops : ∀ op ∈ ops, CorOpOK op) (m1 m2 : Mux) (hi : Idle m1) (hcfg : m1.cfg = m2.cfg) (hcc : m1.cc = m2.cc)
    (hc : CfgOK m2.cfg) :
    (corRun fuel m1 ops).2 = (run m2 (ops.map Prod.fst)).2.1
    ∧ Idle (corRun fuel m1 ops).1
    ∧ (corRun fuel m1 ops).1.cfg = (run m2 (ops.map Prod.fst)).1.cfg
    ∧ (corRun fuel m1 ops).1.cc = (run m2 (ops.map Prod.fst)).1.cc :=
  Zvbi.Mux.cor_history_equals_feed fuel hfuel ops hops m1 m2 hi hcfg hcc hc

example : ((newTs 0x123).map fun m =>
      (corRun 66928 m [(.frame corExLines 0xFFFFFFFF 5, [1, 7, 50]),
        (.frame [exLine 3 8 1, exLine 3 7 1] 0xFFFFFFFF 6, [3]),
        (.dataId 0x99, []), (.frame corExLines 3 7, [188, 5])]).2.length) = some 376 := by decide +kernel

/-- the round trip for the coroutine interface of the multiplexer: the stream an application
produces with `vbi_dvb_mux_cor` (any buffer sizes), cut into demultiplexer feed calls in any way,
comes back as the accepted frames -/
theorem cor_mux_demux_roundtrip (cfg : SrcCfg) (fuel : Nat) (hfuel : 66928 ≤ fuel) (ops : List (Op × List Nat))
    (hops : ∀ op ∈ ops, CorOpOK op) (hsep : Separable (run newPes (ops.map Prod.fst)).2.2)
    (chunks : List Bytes) (hch : chunks.flatten = (corRun fuel newPes ops).2) :
    (pesFeeds cfg St.init chunks).err = none
    ∧ (pesFeeds cfg St.init chunks).frames = (run newPes (ops.map Prod.fst)).2.2.dropLast.map received := by
  have h := (cor_history_equals_feed fuel hfuel ops hops newPes newPes (by decide) rfl rfl cfgOK_default).1
  have r := mux_demux_roundtrip_lib cfg newPes cfgOK_default rfl (ops.map Prod.fst) (corOps_ok ops hops) hsep chunks (by rw [hch, h])
  exact ⟨r.1, r.2.1⟩

end Zvbi.Props.C06Join
