import ZvbiModel.Fmt.LemmasStd
import ZvbiModel.Fmt.Ext
import ZvbiModel.Props.C02
import ZvbiModel.Ttx.PageList
/-!
# Property C02: how far the refinement to the STANDARD's rules reaches, and X/28 at Level 1

`C02.format_refines_L1Spec_full` (every cell = `L1Spec.cell .std`) is false because of the held-mosaic reset rule
(known finding F37).  Props/C02.lean proves it for all attributes but the character (`..._partial`) and for pages without
any reset event (`..._noReset`).  What those two leave out without need:

* a page with one reset event anywhere was excluded as a whole.  `format_refines_L1Spec_no_stale_hold`: every cell up to
  the first mode / size change OF ITS OWN ROW that follows a captured mosaic equals the standard's cell in all seven attributes
  (lower halves of double-height rows: the row above decides);
* `format_refines_L1Spec_unless_blank_held`: every cell where the standard does not show the blank held mosaic
  U+EE20 equals the standard's cell in all attributes - all text, all mosaics, all held mosaics that the standard
  keeps, double height / width / size cells and their lower / right halves, boxed and transparent cells on
  newsflash / subtitle / inhibit-display pages (`flags` is quantified), concealed cells (the fetched cell carries the
  character AND the conceal flag; blanking under "reveal off" is done by the exporters, not by the fetch), every
  national option subset and G0 set (`national`, `charset0/1` quantified).
* the remaining deviation is exactly F37: `format_std_deviation_shape`.

X/28 / M/29 at Level 1: the join `C02.fetch` formatted every cached page with the default magazine's extension
(`charset_code = {default region, 0}`, CLUT offsets 0).  teletext.c does that only for pages WITHOUT X/28/0 and X/28/4:
`if (vtp->x28_designations & 0x11) ext = &vtp->data.ext_lop.ext` holds at every level, so a page's own character set
designation and CLUT offsets apply at Level 1 too (M/29 never does at Level 1/1.5: `vt.default_magazine`).  The model
`Fmt.pageInX` follows that selection (correspondence op `fmtx`); `fetchX_refines_L1Spec` is the join for EVERY packet
history including X/28 packets, `fetchX_eq_fetch_without_x28` shows `C02.fetch` is its X/28-free instance.
-/
namespace Zvbi.Props.C02Std
open Zvbi.Fmt Zvbi.Fmt.L1Spec Zvbi.Props.C02

/-- **format_refines_L1Spec_unless_blank_held**: for every page and cell, if the standard's cell is not the blank
held mosaic U+EE20, the formatted cell IS the standard's cell (unicode, fg, bg, flash, conceal, size, opacity). -/
theorem format_refines_L1Spec_unless_blank_held (p : PageIn) (row col : Nat) (hr : row < 25) (hc : col < 40)
    (h : (L1Spec.cell .std p row col).unicode ≠ 0xEE20) :
    cellAt (format p) row col = L1Spec.cell .std p row col :=
  cell_eq_of_rel _ _ (format_refines_L1Spec_partial p row col hr hc) h

/-- non-vacuity: on the F37 witness a mosaic character before the stale cell is the standard's -/
example : cellAt (format heldWitness) 1 1 = L1Spec.cell .std heldWitness 1 1 :=
  format_refines_L1Spec_unless_blank_held heldWitness 1 1 (by decide) (by decide) (by decide +kernel)

/-- **format_refines_L1Spec_no_stale_hold**: a cell whose deciding row (`srcRow`: the row itself, or the row above
for the lower half of a double-height row) has, at the columns `0..col`, no change of alpha/mosaics mode or of size
AFTER a mosaic character was captured (`ResetBeforeCapture`; in particular: no such change at all, `NoResetUpto`)
equals the standard's cell in every attribute - whatever the rest of the row and the other rows contain. -/
theorem format_refines_L1Spec_no_stale_hold (p : PageIn) (row col : Nat) (hr : row < 25) (hc : col < 40)
    (h : ResetBeforeCapture (rowCtx p (srcRow p row)) col) :
    cellAt (format p) row col = L1Spec.cell .std p row col := by
  rw [format_cellAt p row col hr hc, cell_eq_of_rbc p row col h]

/-- non-vacuity: row 1 of the F37 witness switches to mosaics at column 0 (a reset event, nothing captured yet),
    captures a block at column 1, holds at column 2, changes mode at column 3: columns 0..2 are covered - including
    the held-mosaic cell at column 2 - while the page as a whole is NOT covered by `format_refines_L1Spec_noReset` -/
example : ResetBeforeCapture (rowCtx heldWitness (srcRow heldWitness 1)) 2
    ∧ (cellAt (format heldWitness) 1 2).unicode = 0xEE7F
    ∧ ¬ (∀ r, r < 25 → NoHeldReset (rowCtx heldWitness r)) := by
  refine ⟨?_, by decide +kernel, ?_⟩
  · have : ∀ j, j ≤ 2 → (heldResetAfter (rowCtx heldWitness (srcRow heldWitness 1)) j = true
        ∨ heldResetAt (rowCtx heldWitness (srcRow heldWitness 1)) j = true) →
        ∀ i, i ≤ j → heldCapture (rowCtx heldWitness (srcRow heldWitness 1)) i = none := by decide +kernel
    exact this
  · intro h
    have := (h 1 (by decide) 3 (by decide)).1
    revert this
    decide +kernel

/-- **format_std_deviation_shape**: wherever the formatted cell differs from the standard's, the standard shows the
blank mosaic U+EE20, the library a different character, all other attributes agree, and the deciding row has, at or
before that column, a mosaic character captured and then a change of alpha/mosaics mode or of size (finding F37 and
nothing else). -/
theorem format_std_deviation_shape (p : PageIn) (row col : Nat) (hr : row < 25) (hc : col < 40)
    (hne : cellAt (format p) row col ≠ L1Spec.cell .std p row col) :
    (L1Spec.cell .std p row col).unicode = 0xEE20
    ∧ cellAt (format p) row col = { L1Spec.cell .std p row col with unicode := (cellAt (format p) row col).unicode }
    ∧ ∃ i j, i ≤ j ∧ j ≤ col ∧ (heldCapture (rowCtx p (srcRow p row)) i).isSome = true
        ∧ (heldResetAfter (rowCtx p (srcRow p row)) j = true ∨ heldResetAt (rowCtx p (srcRow p row)) j = true) := by
  have hrel := format_refines_L1Spec_partial p row col hr hc
  refine ⟨?_, ?_, ?_⟩
  · apply Classical.byContradiction
    intro h
    exact hne (cell_eq_of_rel _ _ hrel h)
  · exact hrel.eq_but_unicode
  · apply Classical.byContradiction
    intro h
    apply hne
    apply format_refines_L1Spec_no_stale_hold p row col hr hc
    intro j hj hreset i hi
    cases hx : heldCapture (rowCtx p (srcRow p row)) i with
    | none => rfl
    | some v => exact absurd ⟨i, j, hi, hj, by rw [hx]; rfl, hreset⟩ h

example : cellAt (format heldWitness) 1 5 ≠ L1Spec.cell .std heldWitness 1 5 := by decide +kernel

/-- the formatter's view of a cached page of the decoder model INCLUDING its X/28 record -/
def pageInOfX (region : Nat) (pg : Zvbi.Ttx.Page) : PageIn :=
  pageInX region pg.pgno pg.subno pg.flags pg.national
    ⟨pg.x28, pg.ext.charset0, pg.ext.charset1, pg.ext.fgClut, pg.ext.bgClut⟩
    (fun i => (pg.raw.getD (i / 40) []).getD (i % 40) 0)

/-- `vbi_fetch_vt_page` at Level 1 / 1.5 over the decoder state, with the extension selection of teletext.c -/
def fetchX (s : Zvbi.Ttx.St) (region pgno subno : Nat) : Option (Nat × Nat × List (List Cell)) :=
  match Zvbi.Ttx.cacheGet (cacheOf s) pgno subno 0xFFFFFFFF with
  | some (pg, _) =>
    if pg.function = Zvbi.Ttx.FN_LOP ∨ pg.function = Zvbi.Ttx.FN_EACEM then
      some (pg.pgno, pg.subno, format (pageInOfX region pg))
    else none
  | none => none

/-- **ext_selection**: the page's own character set codes and CLUT offsets are used exactly when X/28/0 or X/28/4
was received (`x28_designations & 0x11`), otherwise `{default region, 0}` and offsets 0 (no M/29 record enters `pageInX`:
`vt.default_magazine` at Level 1 and 1.5). -/
theorem ext_selection (region pgno subno flags national : Nat) (e : ExtIn) (raw : Nat → Nat) :
    (e.x28 &&& 0x11 = 0 →
      pageInX region pgno subno flags national e raw
        = { pgno := pgno, subno := subno, flags := flags, national := national, charset0 := region, charset1 := 0,
            fgClut := 0, bgClut := 0, raw := raw })
    ∧ (e.x28 &&& 0x11 ≠ 0 →
      pageInX region pgno subno flags national e raw
        = { pgno := pgno, subno := subno, flags := flags, national := national, charset0 := e.cs0, charset1 := e.cs1,
            fgClut := e.fgClut, bgClut := e.bgClut, raw := raw }) := by
  unfold pageInX ownExt
  constructor
  · intro h; simp [h]
  · intro h; simp [h]

/-- X/28/4 only (bit 4), Cyrillic-2 designation 0x24 with national option 0 and CLUT offsets 8 / 16 on a page of
    region 0: the letter 0x41 of row 1 is fetched as U+0410 in colour 8 + 7 on 16 + 0 -/
example :
    cellAt (format (pageInX 0 0x100 0 0 0 ⟨0x10, 0x24, 0, 8, 16⟩ (fun i => if i = 40 then 0xC1 else 0x20))) 1 0
      = { unicode := 0x0410, fg := 15, bg := 16, size := 0, opacity := 3 }
    ∧ cellAt (format (pageInX 0 0x100 0 0 0 ⟨0x02, 0x24, 0, 8, 16⟩ (fun i => if i = 40 then 0xC1 else 0x20))) 1 0
      = { unicode := 0x41, fg := 7, bg := 0, size := 0, opacity := 3 } := by decide +kernel

/-- **fetchX_refines_L1Spec**: for EVERY packet history (X/28 and M/29 packets included), whenever the fetch succeeds
its page / subpage numbers are the cached ones and every cell is L1Spec of the cached bytes under the character
set designation and CLUT offsets teletext.c selects for that page. -/
theorem fetchX_refines_L1Spec (history : List Zvbi.Ttx.Packet) (region pgno subno : Nat)
    (rp rs : Nat) (rows : List (List Cell))
    (h : fetchX (history.foldl (fun s pk => (Zvbi.Ttx.step s pk).1) (Zvbi.Ttx.init.enable true)) region pgno subno
          = some (rp, rs, rows)) :
    ∃ pg rest, Zvbi.Ttx.cacheGet (cacheOf (history.foldl (fun s pk => (Zvbi.Ttx.step s pk).1) (Zvbi.Ttx.init.enable true)))
        pgno subno 0xFFFFFFFF = some (pg, rest)
      ∧ rp = pg.pgno ∧ rs = pg.subno
      ∧ ∀ row col, row < 25 → col < 40 → cellAt rows row col = L1Spec.cell .lib (pageInOfX region pg) row col := by
  unfold fetchX at h
  split at h
  · rename_i pg rest hget
    split at h
    · cases h
      exact ⟨pg, rest, hget, rfl, rfl, fun row col hr hc => format_cellAt _ row col hr hc⟩
    · cases h
  · cases h

example : fetchX (Zvbi.Ttx.init.enable true) 0 0x100 0 = none := by decide +kernel

/-- **fetchX_eq_fetch_without_x28**: on a state whose cached pages carry neither X/28/0 nor X/28/4 the fetch of the
default extension (`C02.fetch`) is the same function. -/
theorem fetchX_eq_fetch_without_x28 (s : Zvbi.Ttx.St) (region pgno subno : Nat)
    (h : ∀ pg ∈ cacheOf s, pg.x28 &&& 0x11 = 0) : fetchX s region pgno subno = fetch s region pgno subno := by
  unfold fetchX fetch fetchCache
  cases hg : Zvbi.Ttx.cacheGet (cacheOf s) pgno subno 0xFFFFFFFF with
  | none => rfl
  | some r =>
    obtain ⟨pg, rest⟩ := r
    have hmem : pg ∈ cacheOf s := (Zvbi.Ttx.cacheGet_sub _ _ _ _ _ _ hg).1
    have e : pageInOfX region pg = pageInOf region pg := by
      unfold pageInOfX pageInOf
      exact (ext_selection _ _ _ _ _ _ _).1 (h pg hmem)
    simp only [e]

example : fetchX (Zvbi.Ttx.init.enable true) 0 0x100 0 = fetch (Zvbi.Ttx.init.enable true) 0 0x100 0 :=
  fetchX_eq_fetch_without_x28 _ _ _ _ (fun _ h => by cases h)

end Zvbi.Props.C02Std
