import ZvbiModel.Idl.Formats
/-!
# C15, IDL formats other than A: refused without any effect

`vbi_idl_demux_feed` dispatches on `dx->format`.  Only format A is implemented; format B, Datavideo,
Audetel and LBRA end in `/* TODO */` stubs.  The theorems say what the current code does with such
a demultiplexer for every state, every buffer and every history.
-/
namespace Zvbi.Props.C15
open Zvbi.Hamm Zvbi.Idl

/-- A demultiplexer of format B, Datavideo, Audetel or LBRA, in ANY state and fed ANY buffer:
    `vbi_idl_demux_feed` returns normally (no assertion), leaves the whole struct unchanged and
    never calls the callback.  The return value is FALSE exactly when
    (1) the channel or the designation nibble (bytes 0, 1) is undecodable, or
    (2) the packet is a packet 30/31 (designation 15) of our channel and
        - format B: the format type nibble (byte 2) is undecodable or `ft & 3 == 1`
          (the only packets handed to the stub `idl_b_demux_feed`),
        - Datavideo / Audetel / LBRA: always (every such packet goes to a stub);
    it is TRUE in every other case (foreign channel, not packet 30/31, format B with another ft). -/
theorem idl_unsupported_format_refused (s : StF) (buf : List Nat) (h : UnsupportedFmt s.fmt) :
    ∃ ret, feedF s buf = .done s ret none ∧
      (ret = false ↔
        (unham8 (rd buf 0) = none ∨ unham8 (rd buf 1) = none) ∨
        (unham8 (rd buf 0) = some s.st.channel ∧ unham8 (rd buf 1) = some 15 ∧
          (s.fmt = 2 → unham8 (rd buf 2) = none ∨
            ∃ ft, unham8 (rd buf 2) = some ft ∧ ft &&& 3 = 1))) := by
  obtain ⟨fmt, st⟩ := s
  simp only [UnsupportedFmt] at h
  unfold feedF
  cases h0 : unham8 (rd buf 0) with
  | none => exact ⟨false, rfl, by simp⟩
  | some channel =>
    cases h1 : unham8 (rd buf 1) with
    | none => exact ⟨false, rfl, by simp⟩
    | some designation =>
      by_cases hd : designation ≠ 15 ∨ channel ≠ st.channel
      · refine ⟨true, by simp only [hd, if_true], ?_⟩
        simp only [Bool.true_eq_false, false_iff, reduceCtorEq, or_self, false_or, Option.some.injEq]
        rintro ⟨hc, hdd, _⟩
        rcases hd with hd | hd
        · exact hd hdd
        · exact hd hc
      · simp only [hd, if_false]
        have hd' : designation = 15 ∧ channel = st.channel := by
          constructor
          · exact Decidable.byContradiction fun hn => hd (Or.inl hn)
          · exact Decidable.byContradiction fun hn => hd (Or.inr hn)
        obtain ⟨rfl, rfl⟩ := hd'
        rcases h with h | h | h | h <;> subst h
        · -- format B
          simp only [fmtA, fmtB, show ¬ (2 : Nat) = 1 by decide, if_false, if_true]
          cases h2 : unham8 (rd buf 2) with
          | none => exact ⟨false, rfl, by simp⟩
          | some ft =>
            by_cases hf : ft &&& 3 = 1
            · exact ⟨false, by simp only [hf, if_true, doneOf, feedB], by simp [hf]⟩
            · exact ⟨true, by simp only [hf, if_false], by simp [hf]⟩
        · exact ⟨false, by simp [fmtA, fmtB, fmtDatavideo, doneOf, feedDatavideo], by simp⟩
        · exact ⟨false, by simp [fmtA, fmtB, fmtDatavideo, fmtAudetel, doneOf, feedAudetel], by simp⟩
        · exact ⟨false, by simp [fmtA, fmtB, fmtDatavideo, fmtAudetel, fmtLbra, doneOf, feedLbra],
            by simp⟩

/-- a Datavideo demultiplexer on channel 3 refuses a (format A style) packet 30/31 of channel 3 with FALSE,
    ignores a packet of channel 2 with TRUE; a format B demultiplexer refuses ft = 5 and ignores ft = 3 -/
example :
    feedF ⟨4, ⟨3, 0, some 7, some 9, 5⟩⟩ [ham8 3, ham8 15, ham8 0]
      = .done ⟨4, ⟨3, 0, some 7, some 9, 5⟩⟩ false none
    ∧ feedF ⟨4, ⟨3, 0, none, none, 0⟩⟩ [ham8 2, ham8 15, ham8 0] = .done ⟨4, ⟨3, 0, none, none, 0⟩⟩ true none
    ∧ feedF ⟨2, ⟨3, 0, none, none, 0⟩⟩ [ham8 3, ham8 15, ham8 5] = .done ⟨2, ⟨3, 0, none, none, 0⟩⟩ false none
    ∧ feedF ⟨2, ⟨3, 0, none, none, 0⟩⟩ [ham8 3, ham8 15, ham8 3] = .done ⟨2, ⟨3, 0, none, none, 0⟩⟩ true none
    ∧ UnsupportedFmt 4 ∧ UnsupportedFmt 2 := by decide

/-- Whatever is fed to (and however often `vbi_idl_demux_reset` is called on) a demultiplexer that
    `_vbi_idl_demux_init` built for format B, Datavideo, Audetel or LBRA: no assertion fails, the
    callback is never called and the struct is still exactly as initialised.  (Induction over the
    history; also holds from any state with `ci = ri = -1`.) -/
theorem idl_unsupported_format_silent_history (fmt channel address fill : Nat) (s0 : StF)
    (h : UnsupportedFmt fmt) (hinit : initF fmt channel address fill = .ok s0) (ops : List OpF) :
    runF s0 ops = some (s0, []) := by
  have hs0 := (initF_ok hinit).1
  have hf : UnsupportedFmt s0.fmt := by rw [hs0]; exact h
  have hr : resetF s0 = s0 := by rw [hs0]; rfl
  induction ops with
  | nil => rfl
  | cons op r ih =>
    cases op with
    | reset => simp only [runF, hr, ih]
    | feed b =>
      obtain ⟨ret, hfeed, _⟩ := idl_unsupported_format_refused s0 b hf
      simp only [runF, hfeed, ih, Option.toList, List.append_nil]

/-- an LBRA demultiplexer is built (address 2^24 is accepted), then fed a packet of its channel, reset,
    fed garbage and a foreign packet: nothing delivered, state as initialised -/
example :
    initF 16 5 (2 ^ 24) 0xAA = .ok (initFields 16 5 (2 ^ 24) 0xAA)
    ∧ runF (initFields 16 5 (2 ^ 24) 0xAA)
        [.feed [ham8 5, ham8 15, ham8 0, ham8 0], .reset, .feed [1, 1, 1], .feed [ham8 4, ham8 15]]
      = some (initFields 16 5 (2 ^ 24) 0xAA, []) := by
  constructor
  · decide
  · rfl

/-- For `dx->format == _VBI_IDL_FORMAT_A` the general `vbi_idl_demux_feed` model is the format A model
    `Zvbi.Idl.feed` of the other C15 theorems: same new state, same return value, same callback, and the
    format field stays 1.  Every format A theorem therefore speaks about `feedF` too. -/
theorem idl_format_a_is_feed (st : St) (buf : List Nat) :
    feedF ⟨1, st⟩ buf = .done ⟨1, (feed st buf).1⟩ (feed st buf).2.1 (feed st buf).2.2 := by
  show feedF ⟨fmtA, st⟩ buf = .done ⟨fmtA, (feed st buf).1⟩ (feed st buf).2.1 (feed st buf).2.2
  unfold feedF feed
  cases unham8 (rd buf 0) with
  | none => rfl
  | some channel =>
    cases unham8 (rd buf 1) with
    | none => rfl
    | some designation =>
      by_cases hd : designation ≠ 15 ∨ channel ≠ st.channel
      · simp only [hd, if_true]
      · simp only [hd, if_false, if_true]
        cases unham8 (rd buf 2) with
        | none => rfl
        | some ft =>
          by_cases hf : ft &&& 1 = 0
          · simp only [hf, if_true, doneOf]
          · simp only [hf, if_false]

/-- a foreign-channel packet through both functions -/
example :
    feedF ⟨1, ⟨3, 0, none, none, 0⟩⟩ [ham8 2, ham8 15, ham8 0] = .done ⟨1, ⟨3, 0, none, none, 0⟩⟩ true none
    ∧ feed ⟨3, 0, none, none, 0⟩ [ham8 2, ham8 15, ham8 0] = (⟨3, 0, none, none, 0⟩, true, none) := by
  decide

/-- What `_vbi_idl_demux_init` accepts, as the code is:
    * FALSE exactly when `channel >= 16`, or format A with `address >= 2^24`;
    * `assert (0)` exactly when `channel < 16` and the format is none of 1, 2, 4, 8, 16
      (the channel test comes first, so a bad format with a bad channel returns FALSE);
    * format A with channel < 16 and address < 2^24: the state of `vbi_idl_a_demux_new`;
    * format B, Datavideo, Audetel, LBRA with channel < 16: accepted with ANY address - the 24 bit
      test of format A is not made - and the address is stored as given. -/
theorem idl_init_accepts (fmt channel address fill : Nat) :
    (initF fmt channel address fill = .null ↔ channel ≥ 16 ∨ (fmt = 1 ∧ address ≥ 2 ^ 24)) ∧
    (initF fmt channel address fill = .assertFail ↔
       channel < 16 ∧ fmt ≠ 1 ∧ ¬ UnsupportedFmt fmt) ∧
    (initF 1 channel address fill =
       match new channel address fill with
       | some s => .ok ⟨1, s⟩
       | none => .null) ∧
    (UnsupportedFmt fmt → channel < 16 →
       initF fmt channel address fill = .ok (initFields fmt channel address fill) ∧
       (initFields fmt channel address fill).st.address = address ∧
       (initFields fmt channel address fill).st.channel = channel ∧
       (initFields fmt channel address fill).st.ci = none ∧
       (initFields fmt channel address fill).st.ri = none) := by
  refine ⟨?_, ?_, initF_fmtA channel address fill, fun hu hc => ⟨?_, rfl, rfl, rfl, rfl⟩⟩
  all_goals rw [initF_eq]
  · by_cases hc : channel ≥ 16
    · simp [hc]
    · by_cases hA : fmt = 1
      · by_cases ha : address ≥ 2 ^ 24 <;> simp [hc, hA, ha]
      · by_cases hu : UnsupportedFmt fmt <;> simp [hc, hA, hu]
  · by_cases hc : channel ≥ 16
    · simp [hc]; omega
    · have hc' : channel < 16 := by omega
      by_cases hA : fmt = 1
      · by_cases ha : address ≥ 2 ^ 24 <;> simp [hc, hA, ha]
      · by_cases hu : UnsupportedFmt fmt <;> simp [hc, hc', hA, hu]
  · rw [if_neg (by omega), if_neg (by unfold UnsupportedFmt at hu; omega), if_pos hu]

/-- format B takes an address of 2^24 (format A does not), channel 16 is refused for every format,
    format value 3 fails the assertion -/
example :
    initF 2 15 (2 ^ 24) 0 = .ok (initFields 2 15 (2 ^ 24) 0)
    ∧ initF 1 15 (2 ^ 24) 0 = .null
    ∧ initF 1 15 (2 ^ 24 - 1) 0 = .ok (initFields 1 15 (2 ^ 24 - 1) 0)
    ∧ initF 8 16 0 0 = .null
    ∧ initF 3 16 0 0 = .null
    ∧ initF 3 15 0 0 = .assertFail
    ∧ initF 0 0 0 0 = .assertFail := by decide

/-- No history of calls on a demultiplexer that `_vbi_idl_demux_init` accepted (any of the five formats)
    reaches the `default: assert (0)` of `vbi_idl_demux_feed`: the format field is never written after
    construction. -/
theorem idl_feed_never_asserts (fmt channel address fill : Nat) (s0 : StF)
    (hinit : initF fmt channel address fill = .ok s0) (ops : List OpF) :
    (runF s0 ops).isSome = true := by
  obtain ⟨rfl, rfl | hu⟩ := initF_ok hinit
  · -- format A: `feedF` is `feed`, whatever the state
    clear hinit
    show (runF ⟨1, (initFields 1 channel address fill).st⟩ ops).isSome = true
    generalize (initFields 1 channel address fill).st = st
    induction ops generalizing st with
    | nil => rfl
    | cons op r ih =>
      cases op with
      | reset => exact ih _
      | feed b =>
        have := ih (feed st b).1
        simp only [runF, idl_format_a_is_feed]
        cases hr : runF ⟨1, (feed st b).1⟩ r with
        | none => rw [hr] at this; cases this
        | some p => rfl
  · rw [idl_unsupported_format_silent_history fmt channel address fill _ hu hinit ops]; rfl

/-- a format A and a format B demultiplexer both survive a garbage packet and a reset -/
example :
    (runF (initFields 1 5 0 0) [.feed [1, 2, 3], .reset]).isSome = true
    ∧ (runF (initFields 2 5 0 0) [.feed [ham8 5, ham8 15, ham8 1], .reset]).isSome = true
    ∧ feedF ⟨3, ⟨5, 0, none, none, 0⟩⟩ [ham8 5, ham8 15] = .assertFail := by decide

end Zvbi.Props.C15
