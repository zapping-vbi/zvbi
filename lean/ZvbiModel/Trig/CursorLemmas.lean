import ZvbiModel.Trig.Model
import ZvbiModel.Ite
/-!
# Lemmas about the cursor loops of the trigger parsers (well-formed block, progress, bounds)
-/
namespace Zvbi.Trig

/-- a block handed to a parser: bytes without NUL, then the terminating NUL -/
def Wf (l : List Nat) : Prop := ∃ t, l = t ++ [0] ∧ ∀ x ∈ t, x ≠ 0

theorem Wf.ne_nil {l} (h : Wf l) : l ≠ [] := by
  obtain ⟨t, rfl, _⟩ := h; simp

theorem Wf.tail_of_ne {c : Nat} {r} (h : Wf (c :: r)) (hc : c ≠ 0) : Wf r := by
  obtain ⟨t, ht, hz⟩ := h
  cases t with
  | nil => simp at ht; exact absurd ht.1 hc
  | cons a t' =>
    simp at ht
    exact ⟨t', ht.2, fun x hx => hz x (List.mem_cons_of_mem _ hx)⟩

theorem Wf.tail_nil_of_zero {r} (h : Wf (0 :: r)) : r = [] := by
  obtain ⟨t, ht, hz⟩ := h
  cases t with
  | nil => simp at ht; exact ht
  | cons a t' =>
    simp at ht
    exact absurd ht.1.symm (hz a (List.mem_cons_self ..))

theorem Wf.cons_cases {l} (h : Wf l) : ∃ c r, l = c :: r ∧ (c ≠ 0 → Wf r) := by
  cases l with
  | nil => exact absurd rfl h.ne_nil
  | cons c r => exact ⟨c, r, rfl, h.tail_of_ne⟩

theorem mem_takeWhile_ne_zero : ∀ (b : List Nat) (x : Nat), x ∈ b.takeWhile (· ≠ 0) → x ≠ 0 := by
  intro b
  induction b with
  | nil => intro x hx; simp at hx
  | cons a t ih =>
    intro x hx
    by_cases ha : a = 0
    · simp [List.takeWhile, ha] at hx
    · simp [List.takeWhile, ha] at hx
      rcases hx with rfl | hx
      · exact ha
      · exact ih x (by simpa using hx)

theorem wf_cstr (b : List Nat) : Wf (cstr b) :=
  ⟨b.takeWhile (· ≠ 0), rfl, mem_takeWhile_ne_zero b⟩

/-- the one fault the repaired parsers may end in: the signed overflow of parse_time -/
def Fault.isOvf : Fault → Prop
  | .ovf _ => True
  | _ => False

/-- no fault except, possibly, the signed overflow of parse_time: no out-of-object access, no freed node touched,
no exhausted loop bound -/
def NoOob {α} : R α → Prop
  | .error (.ovf _) => True
  | .error _ => False
  | .ok _ => True

/-- fault-free in that sense, and the value satisfies `Q` -/
def Ret {α} (Q : α → Prop) : R α → Prop
  | .error (.ovf _) => True
  | .error _ => False
  | .ok a => Q a

/-- the same for a computation that may refuse (`none`): a payload satisfies `P` -/
def GoodT {α} (P : α → Prop) : R (Option α) → Prop
  | .error (.ovf _) => True
  | .error _ => False
  | .ok none => True
  | .ok (some a) => P a

/-! Each of the three notions is used through its `step` rule.  What holds of the overflow and of every value holds of `x`,
whatever context `x` stands in: the motive is found by abstracting `x` in the goal, so the rule also goes through a model's
own `match x with | .error f => .error f | ..`. -/

@[elab_as_elim] theorem NoOob.step {α} {motive : R α → Prop} {x : R α} (h : NoOob x)
    (ovf : ∀ s, motive (.error (.ovf s))) (ok : ∀ a, motive (.ok a)) : motive x := by
  match x, h with
  | .error (.ovf s), _ => exact ovf s
  | .ok a, _ => exact ok a

@[elab_as_elim] theorem Ret.step {α} {Q : α → Prop} {motive : R α → Prop} {x : R α} (h : Ret Q x)
    (ovf : ∀ s, motive (.error (.ovf s))) (ok : ∀ a, Q a → motive (.ok a)) : motive x := by
  match x, h with
  | .error (.ovf s), _ => exact ovf s
  | .ok a, h => exact ok a h

/-- `step` for a walk that is read with and without its hypotheses `H`: the guarantee of `x` is known under `H` only, so a
fault is the overflow only under `H` -/
@[elab_as_elim] theorem GoodT.stepIf {α} {H : Prop} {P : α → Prop} {motive : R (Option α) → Prop} {x : R (Option α)}
    (h : H → GoodT P x) (fault : ∀ f, (H → f.isOvf) → motive (.error f)) (none : motive (.ok none))
    (some : ∀ a, (H → P a) → motive (.ok (some a))) : motive x := by
  match x with
  | .error f => exact fault f fun hh => by have := h hh; cases f <;> first | exact this | trivial
  | .ok .none => exact none
  | .ok (.some a) => exact some a h

@[elab_as_elim] theorem GoodT.step {α} {P : α → Prop} {motive : R (Option α) → Prop} {x : R (Option α)} (h : GoodT P x)
    (ovf : ∀ s, motive (.error (.ovf s))) (none : motive (.ok none)) (some : ∀ a, P a → motive (.ok (some a))) : motive x :=
  GoodT.stepIf (H := True) (fun _ => h) (fun f hf => match f, hf trivial with | .ovf s, _ => ovf s) none fun a ha => some a (ha trivial)

theorem GoodT.mono {α} {P Q : α → Prop} {x : R (Option α)} (h : GoodT P x) (hpq : ∀ a, P a → Q a) : GoodT Q x :=
  h.step (fun _ => trivial) trivial hpq

theorem store_ok {site size d} (h : d < size) : store site size d = .ok () := by simp [store, h]

@[elab_as_elim] theorem store_stepIf {H : Prop} {motive : R Unit → Prop} {site : String} {size d : Nat} (h : H → d < size)
    (fault : ∀ f, (H → f.isOvf) → motive (.error f)) (ok : motive (.ok ())) : motive (store site size d) :=
  ite_ind (fun _ => ok) fun hn => fault _ fun hh => absurd (h hh) hn

/-- what every cursor loop guarantees about its result: no bad access; the payload satisfies `P`; a returned cursor
is well-formed and at most `n` long -/
def Good {α} (P : α → Prop) (n : Nat) : R (Option (α × List Nat)) → Prop
  | .error (.ovf _) => True
  | .error _ => False
  | .ok none => True
  | .ok (some (a, rest')) => P a ∧ Wf rest' ∧ rest'.length ≤ n

theorem good_iff {α} {P : α → Prop} {n : Nat} {x : R (Option (α × List Nat))} :
    Good P n x ↔ GoodT (fun (a, r) => P a ∧ Wf r ∧ r.length ≤ n) x := by
  rcases x with (_ | _ | _ | _) | _ | ⟨_, _⟩ <;> exact Iff.rfl

theorem Good.mono {α} {P : α → Prop} {n m : Nat} {res : R (Option (α × List Nat))} (h : Good P n res) (hnm : n ≤ m) :
    Good P m res :=
  good_iff.mpr ((good_iff.mp h).mono fun (_, _) hp => ⟨hp.1, hp.2.1, Nat.le_trans hp.2.2 hnm⟩)

theorem urlLoop_good (lim size : Nat) (hl : lim < size) :
    ∀ (rest acc : List Nat), Wf rest → acc.length ≤ lim →
      Good (fun url => url.length ≤ lim) (rest.length - 1) (urlLoop lim size rest acc) := by
  intro rest
  induction rest with
  | nil => intro acc h; exact absurd rfl h.ne_nil
  | cons c r ih =>
    intro acc hw ha
    unfold urlLoop
    refine ite_ind (fun h62 => ?_) fun _ => ite_ind (fun hc => ?_) fun _ => trivial
    · rw [store_ok (by omega)]
      exact ⟨ha, hw.tail_of_ne (by omega), by simp⟩
    · rw [store_ok (by omega)]
      exact (ih (acc ++ [c]) (hw.tail_of_ne hc.1) (by simp; omega)).mono (by simp)

theorem isXDigit_ne_zero {c : Nat} (h : isXDigit c = true) : c ≠ 0 := by
  intro h0; subst h0; simp [isXDigit, isDigit] at h

/-- result of the attribute name loop: inside `buf[]`; the cursor it returns stands AT the terminating `:` / delimiter, a byte
that is not NUL, so behind it the block is still well-formed -/
def AttrGood (lim n : Nat) : R (Option (List Nat × Nat × List Nat)) → Prop :=
  GoodT fun (a, _, r) => a.length ≤ lim ∧ Wf r.tail ∧ r.tail.length + 1 ≤ n

theorem attrLoop_good (lim size delim : Nat) (hl : lim < size) (hd : delim ≠ 0) :
    ∀ (n : Nat) (rest acc : List Nat), rest.length ≤ n → Wf rest → acc.length ≤ lim →
      AttrGood lim rest.length (attrLoop lim size delim rest acc) := by
  intro n
  induction n with
  | zero =>
    intro rest acc hn hw
    obtain ⟨c, r, rfl, _⟩ := hw.cons_cases
    simp at hn
  | succ n ih =>
    intro rest acc hn hw ha
    obtain ⟨c, r, rfl, hwr⟩ := hw.cons_cases
    simp only [List.length_cons] at hn
    unfold attrLoop
    refine ite_ind (fun hterm => ?_) fun _ => ite_ind (fun h37 => ?_) fun _ => ite_ind (fun hc => ?_) fun _ => trivial
    · exact ⟨ha, hwr (by rcases hterm with h | h <;> omega), Nat.le_refl _⟩
    · -- `%xx`
      obtain ⟨h1, r1, rfl, hwr1⟩ := (hwr (by omega)).cons_cases
      refine ite_ind (fun _ => trivial) fun hx1 => ?_
      obtain ⟨h2, r2, rfl, hwr2⟩ := (hwr1 (isXDigit_ne_zero (by simpa using hx1))).cons_cases
      refine ite_ind (fun _ => trivial) fun hx2 => ?_
      refine ite_ind (fun _ => trivial) fun hv => ite_ind (fun hlen => ?_) fun _ => trivial
      rw [store_ok (by omega)]
      simp only [List.length_cons] at hn ⊢
      exact (ih r2 (acc ++ [hexVal h1 * 16 + hexVal h2]) (by omega) (hwr2 (isXDigit_ne_zero (by simpa using hx2)))
        (by simp; omega)).mono fun (_, _, _) h => ⟨h.1, h.2.1, by have := h.2.2; omega⟩
    · rw [store_ok (by omega)]
      exact (ih r (acc ++ [c]) (by omega) (hwr hc.1) (by simp; omega)).mono fun (_, _, _) h =>
        ⟨h.1, h.2.1, by have := h.2.2; simp only [List.length_cons]; omega⟩

/-- what the text loop guarantees about the text it stored behind `buf[d0]` -/
def TextOk (lim d0 : Nat) (text : List Nat) : Prop := text = [] ∨ d0 + text.length ≤ lim

theorem TextOk.snoc {lim d0 acc c} (hl : d0 + acc.length < lim) : TextOk lim d0 (acc ++ [c]) :=
  Or.inr (by simp; omega)

theorem textLoopFix_good (lim size delim d0 : Nat) (hl : lim ≤ size) (hd : delim ≠ 0) :
    ∀ (n : Nat) (rest : List Nat) (quote : Bool) (acc : List Nat), rest.length ≤ n → Wf rest → TextOk lim d0 acc →
      Good (TextOk lim d0) (rest.length - 1) (textLoopFix lim size delim d0 rest quote acc) := by
  intro n
  induction n with
  | zero =>
    intro rest quote acc hn hw
    obtain ⟨c, r, rfl, _⟩ := hw.cons_cases
    simp at hn
  | succ n ih =>
    intro rest quote acc hn hw hz
    obtain ⟨c, r, rfl, hwr⟩ := hw.cons_cases
    simp only [List.length_cons] at hn
    unfold textLoopFix
    refine ite_ind (fun hterm => ?_) fun _ => ite_ind (fun h37 => ?_) fun _ => ite_ind (fun hc => ?_) fun _ => trivial
    · have hc : c = delim := by
        simp only [Bool.and_eq_true, beq_iff_eq] at hterm; exact hterm.2
      exact ⟨hz, hwr (by omega), by simp⟩
    · -- `%xx`
      obtain ⟨h1, r1, rfl, hwr1⟩ := (hwr (by omega)).cons_cases
      refine ite_ind (fun _ => trivial) fun hx1 => ?_
      obtain ⟨h2, r2, rfl, hwr2⟩ := (hwr1 (isXDigit_ne_zero (by simpa using hx1))).cons_cases
      refine ite_ind (fun _ => trivial) fun hx2 => ?_
      refine ite_ind (fun _ => trivial) fun hv => ite_ind (fun hlen => ?_) fun _ => trivial
      rw [store_ok (by omega)]
      simp only [List.length_cons] at hn ⊢
      exact (ih r2 quote (acc ++ [hexVal h1 * 16 + hexVal h2]) (by omega) (hwr2 (isXDigit_ne_zero (by simpa using hx2)))
        (.snoc hlen)).mono (by omega)
    · rw [store_ok (by omega)]
      exact (ih r _ (acc ++ [c]) (by omega) (hwr hc.1) (.snoc hc.2)).mono (by simp)

/-- the text loop and the NUL stored behind the text -/
theorem textLoop_good {fix : Bool} (hf : fix = true) (lim size delim d0 : Nat) (hl : lim < size) (h0 : d0 < size) (hd : delim ≠ 0)
    (rest : List Nat) (hw : Wf rest) :
    Good (TextOk lim d0) (rest.length - 1) (textLoop fix lim size delim d0 rest) := by
  subst hf
  unfold textLoop
  simp only [if_true, bind, Except.bind]
  refine (good_iff.mp (textLoopFix_good lim size delim d0 (Nat.le_of_lt hl) hd rest.length rest false [] (Nat.le_refl _) hw
    (Or.inl rfl))).step (fun _ => trivial) trivial fun (text, r') hg => ?_
  have hidx : d0 + text.length < size := by
    rcases hg.1 with h | h
    · subst h; simpa using h0
    · omega
  simp only [store_ok hidx, pure, Except.pure]
  exact hg

end Zvbi.Trig
