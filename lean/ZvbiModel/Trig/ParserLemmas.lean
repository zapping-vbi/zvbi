import ZvbiModel.Trig.HelperLemmas
/-!
# The main loops of parse_eacem / parse_atvef: no access outside the block or the buffers, progress, fuel; and the checksum
# gate: a parser accepts a string only at its end or behind a checksum attribute which verified
-/
namespace Zvbi.Trig

/-- bound on the cursor a main loop returns: it moved unless it stood on the NUL.  With it the `while` loop of
vbi_eacem_trigger, which parses again from the returned cursor, consumes a byte per round. -/
def cursorBound (rest : List Nat) : Nat := if rest.head? = some 0 then rest.length else rest.length - 1

theorem cursorBound_le (rest : List Nat) : cursorBound rest ≤ rest.length := by unfold cursorBound; split <;> omega

theorem cursorBound_cons {c : Nat} (r : List Nat) (hc : c ≠ 0) : cursorBound (c :: r) = r.length := by simp [cursorBound, hc]

theorem le_cursorBound (c : Nat) (r : List Nat) : r.length ≤ cursorBound (c :: r) := by unfold cursorBound; split <;> simp

theorem linkOk_url {cfg : Cfg} {t : Trigger} (h : LinkOk cfg t) (url : List Nat) (hu : url.length < cfg.urlSize) :
    LinkOk cfg { t with link := { t.link with url := url } } := ⟨hu, h.2.1, h.2.2⟩

/-- how an accepted parse ended: the cursor stands on the terminating NUL, or a checksum attribute was verified over
the bytes in front of it -/
def Gate (mem rest' : List Nat) : Prop :=
  rest'.head? = some 0 ∨ ∃ k attr, verifyChecksum (mem.take k) (toI32 (strtoul attr 16).1) = true

def GateR (mem : List Nat) : R (Option (Trigger × List Nat)) → Prop
  | .ok (some (_, rest')) => Gate mem rest'
  | _ => True

/-- the hypotheses under which a main loop at cursor `rest` with trigger `t` is safe; `fix`: the repaired forms it needs -/
structure LoopHyp (cfg : Cfg) (fix : Prop) (fuel : Nat) (rest : List Nat) (t : Trigger) : Prop where
  bounds : cfg.BoundsOk
  fix : fix
  fuel : rest.length < fuel
  wf : Wf rest
  link : LinkOk cfg t

theorem LoopHyp.next {cfg : Cfg} {fix : Prop} {fuel c : Nat} {r rest' : List Nat} {t t' : Trigger}
    (h : LoopHyp cfg fix (fuel + 1) (c :: r) t) (ht : LinkOk cfg t') (hw : Wf rest') (hl : rest'.length ≤ r.length) :
    LoopHyp cfg fix fuel rest' t' ∧ cursorBound rest' ≤ cursorBound (c :: r) :=
  ⟨⟨h.bounds, h.fix, by have := h.fuel; simp only [List.length_cons] at this; omega, hw, ht⟩,
    Nat.le_trans (cursorBound_le rest') (Nat.le_trans hl (le_cursorBound c r))⟩

/-- What a main loop returns: an accepted parse passed the gate, in every configuration; under the hypotheses `H` there is no
access outside and no exhausted bound, and a cursor it returns is well-formed and at most `n` long.  Each loop is walked once
for both (`eacemLoop_post`, `atvefLoop_post`): the checksum is abstracted before the case analysis (no step may evaluate it),
every callee is followed with its `stepIf` rule, every exit is one of the four below. -/
def LoopPost (cfg : Cfg) (mem : List Nat) (H : Prop) (n : Nat) (x : R (Option (Trigger × List Nat))) : Prop :=
  GateR mem x ∧ (H → Good (LinkOk cfg) n x)

namespace LoopPost
variable {cfg : Cfg} {mem : List Nat} {H : Prop} {n : Nat}

theorem fault {f : Fault} (h : H → f.isOvf) : LoopPost cfg mem H n (.error f) :=
  ⟨trivial, fun hh => match f, h hh with | .ovf _, _ => trivial⟩

theorem refuse : LoopPost cfg mem H n (.ok none) := ⟨trivial, fun _ => trivial⟩

theorem accept {t' : Trigger} {rest' : List Nat} (g : Gate mem rest') (h : H → LinkOk cfg t' ∧ Wf rest' ∧ rest'.length ≤ n) :
    LoopPost cfg mem H n (.ok (some (t', rest'))) := ⟨g, h⟩

theorem next {H' : Prop} {n' : Nat} {x : R (Option (Trigger × List Nat))} (p : LoopPost cfg mem H' n' x) (h : H → H' ∧ n' ≤ n) :
    LoopPost cfg mem H n x := ⟨p.1, fun hh => (p.2 (h hh).1).mono (h hh).2⟩

end LoopPost

theorem eacemLoop_post (cfg : Cfg) (nuid : Nat) (now : Int) (mem : List Nat) :
    ∀ (fuel : Nat) (rest : List Nat) (t : Trigger) (active : Int),
      LoopPost cfg mem (LoopHyp cfg (cfg.eQuoteFix = true) fuel rest t) (cursorBound rest) (eacemLoop cfg nuid now mem fuel rest t active)
  | 0, _, _, _ => .fault fun h => absurd h.fuel (Nat.not_lt_zero _)
  | _ + 1, [], _, _ => .fault fun h => absurd rfl h.wf.ne_nil
  | fuel + 1, c :: r, t, active => by
    unfold eacemLoop
    dsimp only
    generalize hv : verifyChecksum (List.take (mem.length - (c :: r).length) mem) = vc
    refine ite_ind (fun h60 => ite_both .refuse ?_) fun _ => ite_ind (fun hbr => ?_) fun _ =>
      ite_ind (fun h0 => ?_) fun _ => .refuse
    · -- `<url>`
      refine GoodT.stepIf (fun h => good_iff.mp (urlLoop_good cfg.eUrlLim cfg.urlSize h.bounds.eUrl r [] (h.wf.tail_of_ne (by omega))
        (by simp))) (fun _ => .fault) .refuse fun (url, rest') hu => ?_
      exact (eacemLoop_post cfg nuid now mem fuel rest' _ active).next fun h =>
        h.next (linkOk_url h.link url (by have := (hu h).1; have := h.bounds.eUrl; omega)) (hu h).2.1 (by have := (hu h).2.2; omega)
    · -- `[attr:text]`, `(attr:text)`, `[checksum]`
      have hc0 : c ≠ 0 := by rcases hbr with h | h <;> omega
      have hdel : (if c = 91 then 93 else 41) ≠ 0 := by split <;> omega
      generalize (if c = 91 then 93 else 41) = delim at hdel ⊢
      refine GoodT.stepIf (fun h => attrLoop_good cfg.eAttrLim cfg.eBufSize delim (by have := h.bounds.eAttr; omega) hdel r.length r []
        (Nat.le_refl _) (h.wf.tail_of_ne hc0) (by simp)) (fun _ => .fault) .refuse fun (attr, term, rest1) ha => ?_
      dsimp only
      refine store_stepIf (fun h => by have := (ha h).1; have := h.bounds.eAttr; omega) (fun _ => .fault) ?_
      dsimp only
      refine ite_both .refuse (ite_both (ite_ind (fun hvc => ?_) fun _ => .refuse) ?_)
      · refine GoodT.stepIf (fun h => eacemFinish_good cfg nuid t active h.link) (fun _ => .fault) .refuse fun t' ht' => ?_
        exact .accept (Or.inr ⟨_, attr, hv ▸ hvc⟩) fun h => ⟨ht' h, (ha h).2.1, by rw [cursorBound_cons r hc0]; have := (ha h).2.2; omega⟩
      · refine GoodT.stepIf (fun h => good_iff.mp (textLoop_good h.fix cfg.eTextLim cfg.eBufSize delim (attr.length + 1)
          h.bounds.eText (by have := (ha h).1; have := h.bounds.eAttr; omega) hdel rest1.tail (ha h).2.1)) (fun _ => .fault) .refuse
          fun (text, rest2) hx => ?_
        dsimp only
        refine GoodT.stepIf (fun h => eacemAttr_good cfg h.bounds now t active attr text h.link) (fun _ => .fault) .refuse
          fun (t', active') ht' => ?_
        exact (eacemLoop_post cfg nuid now mem fuel rest2 t' active').next fun h =>
          h.next (ht' h) (hx h).2.1 (by have := (hx h).2.2; have := (ha h).2.2; omega)
    · -- the terminating NUL
      refine GoodT.stepIf (fun h => eacemFinish_good cfg nuid t active h.link) (fun _ => .fault) .refuse fun t' ht' => ?_
      exact .accept (Or.inl (by rw [h0]; rfl)) fun h => ⟨ht' h, h.wf, by rw [h0]; simp [cursorBound]⟩

theorem atvefLoop_post (cfg : Cfg) (mem : List Nat) :
    ∀ (fuel : Nat) (rest : List Nat) (t : Trigger),
      LoopPost cfg mem (LoopHyp cfg (cfg.aQuoteFix = true ∧ cfg.contFix = true) fuel rest t) (cursorBound rest) (atvefLoop cfg mem fuel rest t)
  | 0, _, _ => .fault fun h => absurd h.fuel (Nat.not_lt_zero _)
  | _ + 1, [], _ => .fault fun h => absurd rfl h.wf.ne_nil
  | fuel + 1, c :: r, t => by
    unfold atvefLoop
    dsimp only
    generalize hv : verifyChecksum (List.take (mem.length - (c :: r).length) mem) = vc
    refine ite_ind (fun h60 => ite_both .refuse ?_) fun _ => ite_ind (fun h91 => ?_) fun _ =>
      ite_ind (fun h0 => ?_) fun _ => .refuse
    · -- `<url>`
      refine GoodT.stepIf (fun h => good_iff.mp (urlLoop_good cfg.aUrlLim cfg.urlSize h.bounds.aUrl r [] (h.wf.tail_of_ne (by omega))
        (by simp))) (fun _ => .fault) .refuse fun (url, rest') hu => ?_
      exact (atvefLoop_post cfg mem fuel rest' _).next fun h =>
        h.next (linkOk_url h.link url (by have := (hu h).1; have := h.bounds.aUrl; omega)) (hu h).2.1 (by have := (hu h).2.2; omega)
    · -- `[attr:text]`, `[type]`, `[checksum]`
      have hc0 : c ≠ 0 := by omega
      refine GoodT.stepIf (fun h => attrLoop_good cfg.aAttrLim cfg.aBufSize 93 (by have := h.bounds.aAttr; omega) (by omega) r.length r []
        (Nat.le_refl _) (h.wf.tail_of_ne hc0) (by simp)) (fun _ => .fault) .refuse fun (attr, term, rest1) ha => ?_
      dsimp only
      refine store_stepIf (fun h => by have := (ha h).1; have := h.bounds.aAttr; omega) (fun _ => .fault) ?_
      dsimp only
      refine ite_both .refuse (ite_both ?_ ?_)
      · refine GoodT.stepIf (fun h => bareType_good cfg attr (cfg.typeLoopHi - cfg.typeLoopLo) cfg.typeLoopLo h.bounds.bare) (fun _ => .fault)
          (ite_ind (fun hvc => ?_) fun _ => .refuse) fun i _ => (atvefLoop_post cfg mem fuel _ _).next fun h => ?_
        · -- `[checksum]`
          cases hfa : atvefFinish t with
          | none => exact .refuse
          | some t' =>
            exact .accept (Or.inr ⟨_, attr, hv ▸ hvc⟩) fun h =>
              ⟨atvefFinish_ok cfg t t' h.link hfa, (ha h).2.1, by rw [cursorBound_cons r hc0]; have := (ha h).2.2; omega⟩
        · -- `[type]`, `continue`: with the repair the cursor stands behind the delimiter
          rw [if_pos h.fix.2]
          exact h.next (by exact h.link) (ha h).2.1 (by have := (ha h).2.2; omega)
      · refine GoodT.stepIf (fun h => good_iff.mp (textLoop_good h.fix.1 cfg.aTextLim cfg.aBufSize 93 (attr.length + 1)
          h.bounds.aText (by have := (ha h).1; have := h.bounds.aAttr; omega) (by omega) rest1.tail (ha h).2.1)) (fun _ => .fault) .refuse
          fun (text, rest2) hx => ?_
        dsimp only
        refine GoodT.stepIf (fun h => atvefAttr_good cfg h.bounds t attr text h.link) (fun _ => .fault) .refuse fun t' ht' => ?_
        exact (atvefLoop_post cfg mem fuel rest2 t').next fun h =>
          h.next (ht' h) (hx h).2.1 (by have := (hx h).2.2; have := (ha h).2.2; omega)
    · -- the terminating NUL
      cases hfa : atvefFinish t with
      | none => exact .refuse
      | some t' =>
        exact .accept (Or.inl (by rw [h0]; rfl)) fun h => ⟨atvefFinish_ok cfg t t' h.link hfa, h.wf, by rw [h0]; simp [cursorBound]⟩

theorem linkOk_init (cfg : Cfg) (hb : cfg.BoundsOk) (now : Int) : LinkOk cfg { fire := now } := by
  refine ⟨?_, hb.namePos, hb.scriptPos⟩
  have := hb.eUrl
  show 0 < cfg.urlSize
  omega

theorem parseEacem_good (cfg : Cfg) (hb : cfg.BoundsOk) (hq : cfg.eQuoteFix = true) (nuid : Nat) (now : Int)
    (mem : List Nat) (hw : Wf mem) : Good (LinkOk cfg) (cursorBound mem) (parseEacem cfg nuid now mem) :=
  (eacemLoop_post cfg nuid now mem _ mem _ _).2 ⟨hb, hq, Nat.lt_succ_self _, hw, linkOk_init cfg hb now⟩

theorem parseAtvef_good (cfg : Cfg) (hb : cfg.BoundsOk) (hq : cfg.aQuoteFix = true) (hc : cfg.contFix = true) (now : Int)
    (mem : List Nat) (hw : Wf mem) : Good (LinkOk cfg) (cursorBound mem) (parseAtvef cfg now mem) :=
  (atvefLoop_post cfg mem _ mem _).2 ⟨hb, ⟨hq, hc⟩, Nat.lt_succ_self _, hw, linkOk_init cfg hb now⟩

end Zvbi.Trig
