import ZvbiModel.Trig.CursorLemmas
import ZvbiModel.Safe
/-!
# The helpers of trigger.c never read behind the terminating NUL of the string they are given
(`parse_dec`, `parse_hex`, `parse_date`, `parse_time`, `keyword`, the url dissection of parse_eacem), for EVERY string.
-/
namespace Zvbi.Trig

theorem noOob_bind {α β} {x : R α} {f : α → R β} (hx : NoOob x) (hf : ∀ a, x = .ok a → NoOob (f a)) :
    NoOob (x >>= f) := by
  revert hf
  exact hx.step (fun _ _ => trivial) fun a hf => hf a rfl

theorem cget_ok {site l i} (h : i ≤ l.length) : Safe (fun c => c ≠ 0 → i < l.length) (cget site l i) := by
  unfold cget
  split
  · exact .ok fun _ => ‹_›
  · rw [if_pos (by omega)]
    exact .ok fun h0 => absurd rfl h0

theorem isDigit_ne_zero {c : Nat} (h : isDigit c = true) : c ≠ 0 := by
  intro h0; subst h0; simp [isDigit] at h

/-- parse_dec and parse_hex are one loop up to the digit class and the value: `f` is either, by its two equations.  A digit is
not NUL, so the loop stops at the terminator: it reads inside `l` and consumes `d` bytes if it returns a number. -/
theorem digits_spec {site : String} {l : List Nat} {f : Nat → Nat → Nat → R (Option Nat)} {isD : Nat → Bool} {val : Nat → Nat → Nat}
    (h0 : ∀ off n, f off 0 n = .ok (some n))
    (hs : ∀ off d n, f off (d + 1) n =
      match cget site l off with
      | .error e => .error e
      | .ok c => if isD c then f (off + 1) d (val n c) else .ok none)
    (hz : ∀ {c}, isD c = true → c ≠ 0) :
    ∀ (d off n : Nat), off ≤ l.length → Safe (fun r => r.isSome → off + d ≤ l.length) (f off d n) := by
  intro d
  induction d with
  | zero => exact fun off n h => h0 off n ▸ .ok fun _ => by omega
  | succ d ih =>
    intro off n h
    rw [hs]
    refine (cget_ok (site := site) h).elim fun c hlt => ?_
    exact ite_ind (fun hd => (ih (off + 1) _ (by have := hlt (hz hd); omega)).mono fun r hb hs => by
      have := hb hs; omega) fun _ => .ok fun h => by simp at h

theorem parseDec_spec (site : String) (l : List Nat) :
    ∀ (d off n : Nat), off ≤ l.length → Safe (fun r => r.isSome → off + d ≤ l.length) (parseDec site l off d n) :=
  digits_spec (fun _ _ => rfl) (fun _ _ _ => rfl) isDigit_ne_zero

theorem parseHex_spec (site : String) (l : List Nat) :
    ∀ (d off n : Nat), off ≤ l.length → Safe (fun r => r.isSome → off + d ≤ l.length) (parseHex site l off d n) :=
  digits_spec (fun _ _ => rfl) (fun _ _ _ => rfl) isXDigit_ne_zero

theorem isDigit_le {c : Nat} (h : isDigit c = true) : c - 48 ≤ 9 := by
  simp [isDigit] at h; omega

theorem parseDec_lt (site : String) (l : List Nat) :
    ∀ (d off n v : Nat), parseDec site l off d n = .ok (some v) → v < (n + 1) * 10 ^ d := by
  intro d
  induction d with
  | zero => intro off n v h; simp [parseDec] at h; omega
  | succ d ih =>
    intro off n v h
    unfold parseDec at h
    cases hc : cget site l off with
    | error f => simp [hc] at h
    | ok c =>
      simp only [hc] at h
      by_cases hd : isDigit c = true
      · simp only [hd, if_true] at h
        have := ih (off + 1) (n * 10 + (c - 48)) v h
        have h9 := isDigit_le hd
        calc v < (n * 10 + (c - 48) + 1) * 10 ^ d := this
          _ ≤ ((n + 1) * 10) * 10 ^ d := Nat.mul_le_mul_right _ (by omega)
          _ = (n + 1) * 10 ^ (d + 1) := by rw [Nat.pow_succ, Nat.mul_assoc, Nat.mul_comm 10]
      · simp [hd] at h

theorem parseDate_noOob (l : List Nat) : NoOob (parseDate l) := by
  unfold parseDate
  refine (parseDec_spec "parse_date" l 4 0 0 (by omega)).elim fun r1 b1 => ?_
  cases r1 with
  | none => trivial
  | some y =>
  refine (parseDec_spec "parse_date" l 2 4 0 (by have := b1 rfl; omega)).elim fun r2 b2 => ?_
  cases r2 with
  | none => trivial
  | some mo =>
  refine (parseDec_spec "parse_date" l 2 6 0 (by have := b2 rfl; omega)).elim fun r3 b3 => ?_
  cases r3 with
  | none => trivial
  | some d =>
  refine (cget_ok (site := "parse_date") (i := 8) (by have := b3 rfl; omega)).elim fun c8 hl8 =>
    ite_ind (fun _ => trivial) fun h80 => ite_both trivial ?_
  refine (parseDec_spec "parse_date" l 2 9 0 (by have := hl8 h80; omega)).elim fun r4 b4 => ?_
  cases r4 with
  | none => trivial
  | some hh =>
  refine (parseDec_spec "parse_date" l 2 11 0 (by have := b4 rfl; omega)).elim fun r5 b5 => ?_
  cases r5 with
  | none => trivial
  | some mi =>
  refine (cget_ok (site := "parse_date") (i := 13) (by have := b5 rfl; omega)).elim fun c13 hl13 =>
    ite_ind (fun _ => trivial) fun h130 => ?_
  refine (parseDec_spec "parse_date" l 2 13 0 (by have := hl13 h130; omega)).elim fun r6 _ => ?_
  cases r6 <;> trivial

theorem noOob_ovf {α} (s : String) : NoOob (throw (Fault.ovf s) : R α) := trivial

theorem strtoul_end_le (l : List Nat) (base : Nat) : (strtoul l base).2 ≤ l.length := by
  unfold strtoul
  simp only
  split
  · simp
  · exact Nat.sub_le _ _

theorem parseTime_noOob (tm : Option Nat) (l : List Nat) : NoOob (parseTime tm l) := by
  unfold parseTime
  dsimp only
  generalize (match tm with | some _ => ((strtoul l 10).1 : Int) | none => toI32 (strtoul l 10).1) = seconds
  refine ite_both trivial ((cget_ok (site := "parse_time") (strtoul_end_le l 10)).elim fun c hlt => ?_)
  show NoOob ((if c = 0 then pure (some 0) else if c ≠ 70 then pure none
    else parseDec "parse_time" l ((strtoul l 10).2 + 1) 2 0) >>= _)
  refine noOob_bind (ite_ind (fun _ => trivial) fun h0 => ite_both trivial ?_) fun fr _ => ?_
  · exact (parseDec_spec "parse_time" l 2 ((strtoul l 10).2 + 1) 0 (by have := hlt h0; omega)).elim fun _ _ => trivial
  · cases fr with
    | none => trivial
    | some fr => exact ite_both trivial (ite_both trivial trivial)

theorem parseDec_ok (site : String) (l : List Nat) (d off : Nat) (h : off ≤ l.length) :
    Safe (fun r => ∀ v, r = some v → v < 10 ^ d) (parseDec site l off d 0) := by
  obtain ⟨r, hr, _⟩ := parseDec_spec site l d off 0 h
  exact ⟨r, hr, fun v hv => by have := parseDec_lt site l d off 0 v (hv ▸ hr); omega⟩

/-- with a bound on the seconds that leaves room for `* 25 + 99`, parse_time returns: no read outside, no overflow -/
theorem parseTime_total (m : Nat) (hm : m ≤ timeMaxRepaired) (l : List Nat) : Safe (fun _ => True) (parseTime (some m) l) := by
  have hmax : timeMaxRepaired = 85899341 := by decide
  unfold parseTime
  dsimp only
  refine ite_ind (fun _ => .ok trivial) fun hv => ?_
  have hv : (strtoul l 10).1 ≤ 85899341 := by simp only [decide_eq_true_eq] at hv; omega
  refine (cget_ok (site := "parse_time") (strtoul_end_le l 10)).bind fun c hlt =>
    Safe.bind (P := fun fr => ∀ v, fr = some v → v < 100) ?_ fun fr hfr => ?_
  · exact ite_ind (fun _ => .ok fun v hv => by cases hv; omega) fun h0 => ite_both (.ok fun v hv => by cases hv)
      (parseDec_ok "parse_time" l 2 _ (by have := hlt h0; omega))
  · cases fr with
    | none => exact .ok trivial
    | some fr =>
      have := hfr fr rfl
      dsimp only
      rw [show inI32 (((strtoul l 10).1 : Int) * 25) = true by unfold inI32; simp; omega,
        show inI32 (((strtoul l 10).1 : Int) * 25 + fr) = true by unfold inI32; simp; omega]
      exact .ok trivial

/-- the relations between loop limits, strlcpy sizes, table counts and the extents which make the parsers safe -/
structure Cfg.BoundsOk (cfg : Cfg) : Prop where
  eUrl : cfg.eUrlLim < cfg.urlSize
  aUrl : cfg.aUrlLim < cfg.urlSize
  eAttr : cfg.eAttrLim + 1 < cfg.eBufSize
  eText : cfg.eTextLim < cfg.eBufSize
  aAttr : cfg.aAttrLim + 1 < cfg.aBufSize
  aText : cfg.aTextLim < cfg.aBufSize
  namePos : 0 < cfg.nameSize
  scriptPos : 0 < cfg.scriptSize
  eName : cfg.eNameN ≤ cfg.nameSize
  aName : cfg.aNameN ≤ cfg.nameSize
  eScript : cfg.eScriptN ≤ cfg.scriptSize
  aScript : cfg.aScriptN ≤ cfg.scriptSize
  eKw : cfg.eKwNum ≤ cfg.eAttrs.length
  aKw : cfg.aKwNum ≤ cfg.aAttrs.length
  aType : cfg.aTypeNum ≤ cfg.typeAttrs.length
  bare : cfg.typeLoopLo + (cfg.typeLoopHi - cfg.typeLoopLo) ≤ cfg.typeAttrs.length
  itv : cfg.itvResetAbove + 1 < cfg.itvBufSize

theorem keywordGo_noOob (site : String) (table : List (List Nat)) (test : List Nat → Bool) :
    ∀ (n i : Nat), i + n ≤ table.length → NoOob (keywordGo site table test i n) := by
  intro n
  induction n with
  | zero => intro i _; trivial
  | succ n ih =>
    intro i h
    unfold keywordGo
    have hi : i < table.length := by omega
    simp only [List.getElem?_eq_getElem hi]
    split
    · trivial
    · exact ih (i + 1) (by omega)

theorem keyword_noOob (site : String) (s : List Nat) (table : List (List Nat)) (num : Nat) (h : num ≤ table.length) :
    NoOob (keyword site s table num) := by
  unfold keyword
  split
  · trivial
  · exact keywordGo_noOob _ _ _ _ _ (by omega)
  · exact keywordGo_noOob _ _ _ _ _ (by omega)

theorem bareType_eq (cfg : Cfg) (attr : List Nat) : ∀ (n i : Nat),
    bareType cfg attr i n = keywordGo "type_attrs" cfg.typeAttrs (fun kw => kw.map lower == attr.map lower) i n
  | 0, _ => rfl
  | n + 1, i => by unfold bareType keywordGo; simp only [bareType_eq cfg attr n]

theorem bareType_good (cfg : Cfg) (attr : List Nat) (n i : Nat) (h : i + n ≤ cfg.typeAttrs.length) :
    GoodT (fun _ => True) (bareType cfg attr i n) :=
  bareType_eq cfg attr n i ▸ (keywordGo_noOob _ _ _ n i h).step (fun _ => trivial) fun o => by cases o <;> trivial

theorem strlcpyTo_spec (site : String) (size n : Nat) (text : List Nat) (hs : 0 < size) (hn : n ≤ size) :
    Safe (fun r => r.length < size) (strlcpyTo site size n text) := by
  -- the explicit terminator and the result, behind the store of strlcpy or without it
  have tail : Safe (fun r => r.length < size)
      (do store site size (size - 1); pure (if n = 0 then [] else text.take (n - 1)) : R (List Nat)) := by
    rw [store_ok (by omega)]
    exact .ok (ite_ind (P := fun r : List Nat => r.length < size) (fun _ => hs) fun _ => by rw [List.length_take]; omega)
  unfold strlcpyTo
  exact ite_ind (fun _ => by rw [store_ok (by omega)]; exact tail) fun _ => tail

/-- the three strings of the link fit their arrays together with the terminating NUL -/
def LinkOk (cfg : Cfg) (t : Trigger) : Prop :=
  t.link.url.length < cfg.urlSize ∧ t.link.name.length < cfg.nameSize ∧ t.link.script.length < cfg.scriptSize

theorem goodT_of_noOob_none {α} {P : α → Prop} {x : R (Option α)} (h : NoOob x) (hn : ∀ a, x ≠ .ok (some a)) : GoodT P x := by
  match x, h, hn with
  | .error (.uaf _), h, _ => exact h.elim
  | .error (.ovf _), _, _ => trivial
  | .ok none, _, _ => trivial
  | .ok (some a), _, hn => exact absurd rfl (hn a)

theorem GoodT.bind {α β} {P : β → Prop} {x : R α} {f : α → R (Option β)} (hx : NoOob x) (hf : ∀ a, GoodT P (f a)) :
    GoodT P (x >>= f) :=
  hx.step (fun _ => trivial) hf

theorem eacemAttr_good (cfg : Cfg) (hb : cfg.BoundsOk) (now : Int) (t : Trigger) (active : Int) (attr text : List Nat)
    (ht : LinkOk cfg t) : GoodT (fun p => LinkOk cfg p.1) (eacemAttr cfg now t active attr text) := by
  unfold eacemAttr
  refine GoodT.bind (keyword_noOob "keyword:eacem" attr cfg.eAttrs cfg.eKwNum hb.eKw) fun k => ?_
  split
  · exact GoodT.bind (parseTime_noOob cfg.timeMax text) fun _ => ite_both trivial ht
  · exact GoodT.bind (parseTime_noOob cfg.timeMax text) fun _ => ite_both trivial ht
  · exact ht
  · exact GoodT.bind (parseDate_noOob text) fun _ => ite_both trivial ht
  · exact (strlcpyTo_spec "name" cfg.nameSize cfg.eNameN text hb.namePos hb.eName).elim fun r hl => ⟨ht.1, hl, ht.2.2⟩
  · exact ite_both trivial ht
  · exact (strlcpyTo_spec "script" cfg.scriptSize cfg.eScriptN text hb.scriptPos hb.eScript).elim fun r hl =>
      ⟨ht.1, ht.2.1, hl⟩
  · exact ht

theorem atvefAttr_good (cfg : Cfg) (hb : cfg.BoundsOk) (t : Trigger) (attr text : List Nat)
    (ht : LinkOk cfg t) : GoodT (LinkOk cfg) (atvefAttr cfg t attr text) := by
  unfold atvefAttr
  refine GoodT.bind (keyword_noOob "keyword:atvef" attr cfg.aAttrs cfg.aKwNum hb.aKw) fun k => ?_
  split
  · exact ht
  · exact GoodT.bind (parseDate_noOob text) fun _ => ite_both trivial ht
  · exact (strlcpyTo_spec "name" cfg.nameSize cfg.aNameN text hb.namePos hb.aName).elim fun r hl => ⟨ht.1, hl, ht.2.2⟩
  · exact (strlcpyTo_spec "script" cfg.scriptSize cfg.aScriptN text hb.scriptPos hb.aScript).elim fun r hl =>
      ⟨ht.1, ht.2.1, hl⟩
  · exact GoodT.bind (keyword_noOob "keyword:type" text cfg.typeAttrs cfg.aTypeNum hb.aType) fun _ => ht
  · exact GoodT.bind (parseDate_noOob text) fun _ => ite_both trivial ht
  · exact ht
  · exact ht

theorem hasPrefix_len {p l : List Nat} (h : hasPrefix p l = true) : p.length ≤ l.length := by
  unfold hasPrefix at h
  have : (l.take p.length).length = p.length := by
    have := beq_iff_eq.mp h
    rw [this]
  simp only [List.length_take] at this
  omega

theorem linkOk_setType {cfg : Cfg} {t : Trigger} (h : LinkOk cfg t) (ty pg sub nu : Nat) :
    LinkOk cfg { t with link := { t.link with type := ty, pgno := pg, subno := sub, nuid := nu } } := h

theorem eacemFinish_good (cfg : Cfg) (nuid : Nat) (t : Trigger) (active : Int) (ht : LinkOk cfg t) :
    GoodT (LinkOk cfg) (eacemFinish nuid t active) := by
  unfold eacemFinish
  simp only [bind, Except.bind, pure, Except.pure]
  generalize hte : (if t.link.expires ≤ 0 then { t with link := { t.link with expires := t.fire + active } } else t) = t'
  have ht' : LinkOk cfg t' := by
    subst hte; split <;> exact ht
  clear hte ht
  refine ite_both ht' (ite_both ht' (ite_both ht' (ite_ind (fun h4 => ?_) fun _ => ite_ind (fun h5 => ?_) fun _ => trivial)))
  · have hl5 : 5 ≤ t'.link.url.length := by simpa [sDummy, strBytes] using hasPrefix_len h4
    refine (parseDec_spec "url:dummy" t'.link.url 2 5 0 hl5).elim fun r hbd => ?_
    cases r with
    | none => trivial
    | some pg =>
      exact (cget_ok (site := "url:dummy") (l := t'.link.url) (i := 7) (by have := hbd rfl; omega)).elim fun c7 _ =>
        ite_both trivial ht'
  · have hl6 : 6 ≤ t'.link.url.length := by simpa [sTtx, strBytes] using hasPrefix_len h5
    refine (parseHex_spec "url:ttx" t'.link.url 4 6 0 hl6).elim fun r hb1 => ?_
    cases r with
    | none => trivial
    | some cni =>
      refine (cget_ok (site := "url:ttx") (l := t'.link.url) (i := 10) (by have := hb1 rfl; omega)).elim fun c10 hl10 =>
        ite_ind (fun _ => trivial) fun h47 => ?_
      refine (parseHex_spec "url:ttx" t'.link.url 3 11 0 (by have := hl10 (by omega); omega)).elim fun r2 hb2 => ?_
      cases r2 with
      | none => trivial
      | some pg =>
        refine ite_both trivial ?_
        refine (cget_ok (site := "url:ttx") (l := t'.link.url) (i := 14) (by have := hb2 rfl; omega)).elim fun c14 hl14 =>
          ite_ind (fun _ => trivial) fun h47b => ?_
        refine (parseHex_spec "url:ttx" t'.link.url 4 15 0 (by have := hl14 (by omega); omega)).elim fun r3 _ => ?_
        cases r3 with
        | none => trivial
        | some sub =>
          refine ite_both ?_ ht'
          split
          · trivial
          · exact ht'

theorem atvefFinish_ok (cfg : Cfg) (t t' : Trigger) (ht : LinkOk cfg t) (h : atvefFinish t = some t') : LinkOk cfg t' := by
  unfold atvefFinish at h
  split at h
  · cases h; exact ht
  · split at h
    · cases h; exact ht
    · cases h
end Zvbi.Trig
