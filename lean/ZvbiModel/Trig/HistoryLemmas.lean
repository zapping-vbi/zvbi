import ZvbiModel.Trig.ParserLemmas
import ZvbiModel.Trig.Spec
import ZvbiModel.Log
/-!
# The trigger list (add_trigger, vbi_deferred_trigger, vbi_trigger_flush), vbi_eacem_trigger's loop, itv_separator, and all
# histories: the ITV buffer index, the book-keeping invariant, no fault
-/
namespace Zvbi.Trig

/-- book-keeping invariant: every allocated node is in the list -/
def Inv (st : St) : Prop := st.live = st.list.length

theorem deleteWalk_fix (a : Trigger) : ∀ (l : List Trigger),
    Safe (fun p => p.1.length + p.2 = l.length) (deleteWalk true a l)
  | [] => .ok rfl
  | t :: ts => by
    unfold deleteWalk
    refine (deleteWalk_fix a ts).elim fun (l2, n2) hl => ?_
    dsimp only [List.length_cons] at hl ⊢
    exact ite_both (ite_ind (fun _ => .ok (by dsimp only; omega)) fun h => absurd rfl h) (.ok (by dsimp only [List.length_cons]; omega))

theorem deferredWalk_fix (time : Int) : ∀ (l : List Trigger),
    Safe (fun p => p.1.length + p.2.2 = l.length ∧ p.2.1.length = p.2.2 ∧ ∀ t ∈ p.1, ¬ t.fire ≤ time) (deferredWalk true time l)
  | [] => .ok ⟨rfl, rfl, List.forall_mem_nil _⟩
  | t :: ts => by
    unfold deferredWalk
    refine (deferredWalk_fix time ts).elim fun (l2, ev2, n2) ⟨hl, he, hf⟩ => ?_
    dsimp only [List.length_cons] at hl he hf ⊢
    exact ite_ind (fun _ => ite_ind (fun _ => .ok ⟨by dsimp only; omega, by dsimp only [List.length_cons]; omega, hf⟩)
        fun h => absurd rfl h)
      fun hfire => .ok ⟨by dsimp only [List.length_cons]; omega, he, List.forall_mem_cons.mpr ⟨hfire, hf⟩⟩

theorem addTrigger_inv (cfg : Cfg) (st : St) (a : Trigger) (hi : Inv st) (hw : cfg.walkFixDelete = true) :
    Safe (fun p => Inv p.1 ∧ p.1.itv = st.itv) (addTrigger cfg st a) := by
  have same : ∀ ev, Safe (fun p => Inv p.1 ∧ p.1.itv = st.itv) (.ok (st, ev) : R (St × List Link)) := fun _ => .ok ⟨hi, rfl⟩
  unfold Inv at hi
  unfold addTrigger
  refine ite_both ?_ (ite_both (same _) (ite_both (same _) (.ok ⟨by unfold Inv; simp only [List.length_cons]; omega, rfl⟩)))
  rw [hw]
  exact (deleteWalk_fix a st.list).elim fun (l, n) hl => .ok ⟨by unfold Inv; simp only at hl ⊢; omega, rfl⟩

theorem deferred_inv (cfg : Cfg) (st : St) (hi : Inv st) (hw : cfg.walkFixDeferred = true) :
    Safe (fun p => Inv p.1 ∧ p.1.itv = st.itv ∧ (∀ t ∈ p.1.list, ¬ t.fire ≤ (st.time : Int) * 25) ∧
      p.1.live + p.2.length = st.live) (deferred cfg st) := by
  unfold Inv at hi
  unfold deferred
  rw [hw]
  exact (deferredWalk_fix ((st.time : Int) * 25) st.list).elim fun (l, ev, n) ⟨hl, he, hf⟩ =>
    .ok ⟨by unfold Inv; simp only at hl ⊢; omega, rfl, hf, by simp only at hl he ⊢; omega⟩

theorem flush_inv (st : St) (hi : Inv st) : Inv (flush st) ∧ (flush st).live = 0 ∧ (flush st).list = [] := by
  unfold Inv at hi
  unfold flush Inv
  simp [hi]

/-- parse_eacem on a block which starts with the NUL returns NULL (the url is empty) -/
theorem parseEacem_nul (cfg : Cfg) (nuid : Nat) (now : Int) (r : List Nat) : parseEacem cfg nuid now (0 :: r) = .ok none := by
  unfold parseEacem
  simp only [List.length_cons]
  unfold eacemLoop
  simp [eacemFinish, hasPrefix, sHttp, sLid, sTw, sDummy, sTtx, strBytes, pure, Except.pure]

/-- result of an op on the decoder state: no bad access, loop bounds suffice, book-keeping invariant kept -/
def GoodSt (st0 : St) : R (St × List Link) → Prop := Ret fun p => Inv p.1 ∧ p.1.itv = st0.itv

theorem eacemTrigger_good (cfg : Cfg) (hb : cfg.BoundsOk) (hq : cfg.eQuoteFix = true) (hwd : cfg.walkFixDelete = true) :
    ∀ (fuel : Nat) (st : St) (mem : List Nat) (evs : List Link), mem.length < fuel → Wf mem → Inv st →
      GoodSt st (eacemTrigger cfg fuel st mem evs) := by
  intro fuel
  induction fuel with
  | zero => intro st mem evs h; omega
  | succ fuel ih =>
    intro st mem evs hf hw hi
    unfold eacemTrigger
    have hg := parseEacem_good cfg hb hq st.nuid ((st.time : Int) * 25) mem hw
    obtain ⟨c, r, rfl, _⟩ := hw.cons_cases
    by_cases hc : c = 0
    · subst hc
      rw [parseEacem_nul]
      exact ⟨hi, rfl⟩
    · rw [cursorBound_cons r hc] at hg
      refine (good_iff.mp hg).step (fun _ => trivial) ⟨hi, rfl⟩ fun (t, rest) ⟨_, hwr, hl⟩ => ?_
      dsimp only
      refine ite_both ⟨hi, rfl⟩ ?_
      refine (addTrigger_inv cfg st { t with link := { t.link with eacem := 1 } } hi hwd).elim fun (st', ev) ⟨hi', hitv⟩ => ?_
      dsimp only at hi' hitv ⊢
      exact (ih st' rest (evs ++ ev) (by simp only [List.length_cons] at hf; omega) hwr hi').step (fun _ => trivial) fun _ h =>
        ⟨h.1, h.2.trans hitv⟩

theorem atvefTrigger_good (cfg : Cfg) (hb : cfg.BoundsOk) (hq : cfg.aQuoteFix = true) (hc : cfg.contFix = true)
    (hwd : cfg.walkFixDelete = true) (st : St) (mem : List Nat) (hw : Wf mem) (hi : Inv st) :
    GoodSt st (atvefTrigger cfg st mem) := by
  unfold atvefTrigger
  refine (good_iff.mp (parseAtvef_good cfg hb hq hc ((st.time : Int) * 25) mem hw)).step (fun _ => trivial) ⟨hi, rfl⟩
    fun (t, rest) _ => ?_
  dsimp only
  refine ite_both ⟨hi, rfl⟩ ?_
  exact (addTrigger_inv cfg st { t with link := { t.link with eacem := 0 } } hi hwd).elim fun _ h => h

/-- every fix of fixes/C01-trig-*.diff that concerns memory safety is present -/
structure Cfg.Repaired (cfg : Cfg) : Prop where
  eq : cfg.eQuoteFix = true
  aq : cfg.aQuoteFix = true
  cont : cfg.contFix = true
  wdef : cfg.walkFixDeferred = true
  wdel : cfg.walkFixDelete = true

def NZ (l : List Nat) : Prop := ∀ x ∈ l, x ≠ 0

/-- state invariant over all histories: allocation book-keeping, `itv_count <= sizeof (itv_buf) - 1`, no NUL stored -/
def ItvInv (cfg : Cfg) (st : St) : Prop := Inv st ∧ st.itv.length ≤ cfg.itvResetAbove + 1 ∧ NZ st.itv

def GoodI (cfg : Cfg) : R (St × List Link) → Prop := Ret fun p => ItvInv cfg p.1

theorem wf_of_nz {l : List Nat} (h : NZ l) : Wf (l ++ [0]) := ⟨l, rfl, h⟩

theorem goodI_of_goodSt {cfg : Cfg} {st0 : St} {r : R (St × List Link)} (h : GoodSt st0 r)
    (hl : st0.itv.length ≤ cfg.itvResetAbove + 1) (hz : NZ st0.itv) : GoodI cfg r :=
  h.step (fun _ => trivial) fun _ h => ⟨h.1, by rw [h.2]; exact hl, by rw [h.2]; exact hz⟩

theorem itvStep_good (cfg : Cfg) (hb : cfg.BoundsOk) (hr : cfg.Repaired) (st : St) (c : Nat) (hi : ItvInv cfg st) :
    GoodI cfg (itvStep cfg st c) := by
  obtain ⟨hinv, hlen, hz⟩ := hi
  have hsz := hb.itv
  unfold itvStep
  have hnul : store "itv:nul" cfg.itvBufSize st.itv.length = .ok () := store_ok (by omega)
  have htrig := atvefTrigger_good cfg hb hr.aq hr.cont hr.wdel { st with itv := [] } (st.itv ++ [0]) (wf_of_nz hz) hinv
  refine ite_ind (fun hc => ite_both ?_ ?_) fun _ => ?_
  · rw [hnul]
    dsimp only
    refine Ret.step htrig (fun _ => trivial) fun (st', ev) h => ?_
    dsimp only
    rw [store_ok (by omega)]
    exact ⟨h.1, by simp, fun x hx => by simp at hx; omega⟩
  · have hcur : (if st.itv.length > cfg.itvResetAbove then [] else st.itv).length ≤ cfg.itvResetAbove :=
      ite_ind (P := fun l : List Nat => l.length ≤ cfg.itvResetAbove) (fun _ => Nat.zero_le _) fun h => by omega
    have hcz : NZ (if st.itv.length > cfg.itvResetAbove then [] else st.itv) :=
      ite_both (P := NZ) (fun x hx => by simp at hx) hz
    dsimp only
    rw [store_ok (by omega)]
    exact ⟨hinv, by simp; omega, Log.snoc hcz (by omega)⟩
  · rw [hnul]
    exact goodI_of_goodSt htrig (by simp) (by intro x hx; simp at hx)

theorem itvFeed_good (cfg : Cfg) (hb : cfg.BoundsOk) (hr : cfg.Repaired) :
    ∀ (bytes : List Nat) (st : St) (evs : List Link), ItvInv cfg st → GoodI cfg (itvFeed cfg st bytes evs) := by
  intro bytes
  induction bytes with
  | nil => exact fun st evs hi => hi
  | cons c cs ih =>
    intro st evs hi
    unfold itvFeed
    exact Ret.step (itvStep_good cfg hb hr st c hi) (fun _ => trivial) fun (st', ev) h => ih _ _ h

theorem stepOp_good (cfg : Cfg) (hb : cfg.BoundsOk) (hr : cfg.Repaired) (st : St) (op : Op) (hi : ItvInv cfg st) :
    GoodI cfg (stepOp cfg st op) := by
  cases op with
  | eacem b =>
    exact goodI_of_goodSt (eacemTrigger_good cfg hb hr.eq hr.wdel _ st (cstr b) [] (Nat.lt_succ_self _) (wf_cstr b) hi.1) hi.2.1 hi.2.2
  | atvef b =>
    exact goodI_of_goodSt (atvefTrigger_good cfg hb hr.aq hr.cont hr.wdel st (cstr b) (wf_cstr b) hi.1) hi.2.1 hi.2.2
  | itv b => exact itvFeed_good cfg hb hr b st [] hi
  | time n => exact ⟨hi.1, hi.2.1, hi.2.2⟩
  | tick n =>
    show GoodI cfg (deferred cfg { st with time := n })
    exact (deferred_inv cfg { st with time := n } hi.1 hr.wdef).elim fun _ ⟨hinv, hitv, _⟩ =>
      ⟨hinv, by rw [hitv]; exact hi.2.1, by rw [hitv]; exact hi.2.2⟩
  | flush =>
    have := flush_inv st hi.1
    exact ⟨this.1, hi.2.1, hi.2.2⟩

/-- `Ret (ItvInv cfg)`, written out -/
def GoodRun (cfg : Cfg) : R St → Prop
  | .error (.ovf _) => True
  | .error _ => False
  | .ok st => ItvInv cfg st

theorem run_good (cfg : Cfg) (hb : cfg.BoundsOk) (hr : cfg.Repaired) :
    ∀ (ops : List Op) (st : St), ItvInv cfg st → GoodRun cfg (run cfg st ops) := by
  intro ops
  induction ops with
  | nil => exact fun st hi => hi
  | cons op ops ih =>
    intro st hi
    unfold run
    exact Ret.step (stepOp_good cfg hb hr st op hi) (fun _ => trivial) fun (st', _) h => ih _ h

theorem itvInv_init (cfg : Cfg) : ItvInv cfg {} := ⟨rfl, by simp, by intro x hx; simp at hx⟩

end Zvbi.Trig
