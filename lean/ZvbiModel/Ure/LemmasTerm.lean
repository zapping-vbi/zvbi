import ZvbiModel.Ure.LemmasExec
/-!
# `ure_exec` terminates - lemmas for `exec_terminates`

Every pass of the loop either consumes a character of the current attempt, or starts the next attempt one position
further right, or takes the zero-width `^` transition at the start of the text.  The last kind is bounded only in the
repaired shape (`bolGuard`), or absent (URE_NOTBOL, no `^` in the DFA).
-/
namespace Zvbi.Ure

variable (sh : Shape) (ct : CType) (d : Dfa) (flags : Nat) (text : List Nat)

/-- how a taken transition moves the loop variables (`sp` = `lp + 1` on entry) -/
inductive MoveShape (lp zw lp' me sp' zw' : Nat) : Prop
  | consume (h1 : lp ≤ lp') (h2 : lp' ≤ me) (h3 : me ≤ sp') (h4 : lp + 1 ≤ sp') (h5 : sp' ≤ text.length) (h6 : zw' = zw)
  | zero (h1 : lp = 0) (h2 : lp' = 0) (h3 : me = 0) (h4 : sp' = 0) (h5 : notBol flags = false) (h7 : Sym.bol ∈ d.syms)
      (h8 : sh.bolGuard = true → zw ≤ d.states.length ∧ zw' = zw + 1) (h9 : sh.bolGuard = false → zw' = zw)

theorem symTry_shape (sym : Sym) (hsym : sym ∈ d.syms) (c lp zw lp' me zw' : Nat) (hlp : lp < text.length)
    (h : symTry sh ct d flags text sym c lp (lp + 1) zw = .yes lp' me zw') :
    MoveShape sh d flags text lp zw lp' me (eolSkip text sym c me) zw' := by
  cases sym with
  | eol =>
    simp only [symTry] at h
    split at h
    · cases h
    · split at h
      · injection h with a b e
        have := lfSkip_bounds text c (lp + 1)
        subst b
        exact .consume (by omega) (by omega) (Nat.le_of_succ_le this.1) this.1 (this.2 hlp) e.symm
      · cases h
  | bol =>
    rw [symTry_bol] at h
    split at h
    · cases h
    · rename_i hnb
      split at h
      · rename_i h0
        have hnb' : notBol flags = false := by simpa using hnb
        split at h
        · rename_i hg
          split at h
          · cases h
          · injection h with a b e
            exact .zero h0 (by omega) (by omega) (by show me = 0; omega) hnb' hsym (fun _ => ⟨by omega, e.symm⟩)
              (fun hf => by simp [hg] at hf)
        · rename_i hg
          injection h with a b e
          exact .zero h0 (by omega) (by omega) (by show me = 0; omega) hnb' hsym (fun ht => absurd ht hg) (fun _ => e.symm)
      · split at h
        · injection h with a b e
          have := lfSkip_bounds text c (lp + 1)
          exact .consume (by omega) (by omega) (Nat.le_refl _) (by show lp + 1 ≤ me; omega) (by show me ≤ _; omega) e.symm
        · cases h
  | _ =>
    rw [symTry_char] at h
    · split at h
      · injection h with a b e
        exact .consume (by omega) (by omega) (Nat.le_refl _) (by show lp + 1 ≤ me; omega) (by show me ≤ _; omega) e.symm
      · cases h
    all_goals nofun

theorem scan_shape (c lp zw : Nat) (hlp : lp < text.length) (trs : List (Nat × Nat)) (nx : Nat) (q : DState)
    (lp' me sp' zw' : Nat) (h : scan sh ct d flags text c lp (lp + 1) zw trs = .to nx q lp' me sp' zw') :
    MoveShape sh d flags text lp zw lp' me sp' zw' := by
  obtain ⟨si, sym, _, hs, _, hty, rfl⟩ := scan_to sh ct d flags text _ _ _ _ _ _ _ _ _ _ _ h
  exact symTry_shape sh ct d flags text sym (List.mem_of_getElem? hs) c lp zw lp' me zw' hlp hty

/-- zero-width `^` transitions are bounded or absent -/
def ZwBounded : Prop := sh.bolGuard = true ∨ notBol flags = true ∨ Sym.bol ∉ d.syms

/-- start of the attempt in progress -/
def base (s : ESt) : Nat := msOf s.m s.sp

theorem base_some (sp ms me : Nat) (acc : Option Nat) (st zw : Nat) :
    base { sp := sp, m := some (ms, me), acc := acc, st := st, zw := zw } = ms := rfl

theorem msOf_cases (m : Option (Nat × Nat)) (a b : Nat) : (msOf m a = a ∧ msOf m b = b) ∨ msOf m a = msOf m b := by
  rcases m with _ | ⟨ms, me⟩
  · exact .inl ⟨rfl, rfl⟩
  · exact .inr rfl

structure TInv (s : ESt) : Prop where
  sp_le : s.sp ≤ text.length
  base_le : base s ≤ s.sp
  zw_le : sh.bolGuard = true → s.zw ≤ d.states.length + 1

/-- characters left in the text + zero-width `^` steps left (repaired shape) -/
def inner (s : ESt) : Nat :=
  (text.length - s.sp) + (if sh.bolGuard then d.states.length + 1 - s.zw else 0)

variable {sh d text} in
/-- the next attempt -/
theorem TInv.restart {s : ESt} (hI : TInv sh d text s) (hlt : base s + 1 ≤ text.length) :
    TInv sh d text { sp := base s + 1, m := none, acc := none, st := 0, zw := s.zw } :=
  ⟨hlt, Nat.le_refl _, hI.zw_le⟩

variable {sh d flags text} in
/-- a transition taken: the attempt keeps its start (or begins at `lp'`), and `inner` falls -/
theorem TInv.step {s : ESt} (hI : TInv sh d text s) (hz : ZwBounded sh d flags) {lp' me sp' zw' : Nat}
    (hsh : MoveShape sh d flags text s.sp s.zw lp' me sp' zw') (acc : Option Nat) (st : Nat) :
    TInv sh d text { sp := sp', m := some (msOf s.m lp', me), acc := acc, st := st, zw := zw' } ∧
    base s ≤ msOf s.m lp' ∧
    inner sh d text { sp := sp', m := some (msOf s.m lp', me), acc := acc, st := st, zw := zw' } < inner sh d text s := by
  have hb : base s = msOf s.m s.sp ∧ base s ≤ s.sp := ⟨rfl, hI.base_le⟩
  have hm := msOf_cases s.m s.sp lp'
  cases hsh with
  | consume h1 h2 h3 h4 h5 h6 =>
    subst h6
    exact ⟨⟨h5, by show msOf s.m lp' ≤ sp'; omega, hI.zw_le⟩, by omega, by simp only [inner]; omega⟩
  | zero h1 h2 h3 h4 h5 h7 h8 h9 =>
    have hg : sh.bolGuard = true := by
      rcases hz with hz | hz | hz
      · exact hz
      · rw [h5] at hz; cases hz
      · exact absurd h7 hz
    have hzw := h8 hg
    exact ⟨⟨by dsimp only; omega, by show msOf s.m lp' ≤ sp'; omega, fun _ => by dsimp only; omega⟩, by omega,
      by simp only [inner, hg, if_true]; omega⟩

/-- one pass never answers `.hang`, keeps the invariant, and the measure (attempt start, characters left + zero-width
    budget) decreases -/
theorem iter_measure (hz : ZwBounded sh d flags) (s : ESt) (hsp : s.sp < text.length) (hI : TInv sh d text s) :
    (iter sh ct d flags text s).Sat (fun s' => TInv sh d text s' ∧
      ((base s ≤ base s' ∧ inner sh d text s' < inner sh d text s) ∨ (base s < base s' ∧ base s < text.length)))
      (· ≠ .hang) := by
  cases hq : d.states[s.st]? with
  | none => rw [iter_no_state sh ct d flags text s hsp hq]; nofun
  | some q =>
    have ht := iter_table sh ct d flags text s _ _ (List.getElem?_eq_getElem hsp) hq
    generalize hsc : scan _ _ _ _ _ _ _ _ _ _ = mv at ht
    generalize iter sh ct d flags text s = r at ht
    have hb := hI.base_le
    cases ht with
    | retry _ _ => exact ⟨hI.restart (by omega), Or.inr ⟨Nat.lt_succ_self _, by omega⟩⟩
    | move nx q' lp' me sp' zw' _ =>
      obtain ⟨h1, hb1, hin⟩ := hI.step hz (scan_shape sh ct d flags text _ _ _ hsp _ _ _ _ _ _ _ hsc) _ nx
      exact ⟨h1, Or.inl ⟨hb1, hin⟩⟩
    | eotRetry nx q' lp' me sp' zw' _ _ _ _ _ hlt =>
      -- the restart of the state after the step
      obtain ⟨h1, hb1, _⟩ := hI.step hz (scan_shape sh ct d flags text _ _ _ hsp _ _ _ _ _ _ _ hsc) none nx
      exact ⟨h1.restart (Nat.le_of_lt hlt), Or.inr ⟨Nat.lt_succ_of_le hb1, by omega⟩⟩
    | stuckAcc a _ _ => intro h; split at h <;> cases h
    | stuckHere _ => intro h; split at h <;> cases h
    | scanOob e => nofun
    | eotFound nx q' lp' me sp' zw' _ _ => nofun
    | eotAcc nx q' lp' me sp' zw' a _ _ _ _ => nofun
    | hackOob nx q' lp' me sp' zw' e _ _ hh => nofun

/-- each attempt start (`text.length + 1` of them) is held for at most `text.length + d.states.length + 2` passes -/
theorem exec_not_hang (hz : ZwBounded sh d flags) : exec sh ct d flags text ≠ .hang := by
  unfold exec
  split
  · simp
  · refine run_sat sh ct d flags text (P := (· ≠ .hang))
      (I := fun f s => TInv sh d text s ∧ ∃ a, text.length + 1 - base s ≤ a ∧
        a * (text.length + d.states.length + 2) + inner sh d text s < f)
      nofun ?_ ?_ _ _ ⟨⟨Nat.zero_le _, Nat.le_refl _, fun _ => Nat.zero_le _⟩, text.length + 1, Nat.sub_le _ _, ?_⟩
    · rintro s _ ⟨_, a, _, h⟩; omega
    · rintro f s hsp ⟨hI, a, ha, hf⟩
      refine (iter_measure sh ct d flags text hz s hsp hI).mono ?_ (fun _ h => h)
      rintro s' ⟨hI', hm⟩
      have hin' : inner sh d text s' ≤ text.length + d.states.length + 1 := by
        have := hI'.sp_le
        simp only [inner]
        split <;> omega
      refine ⟨hI', ?_⟩
      rcases hm with ⟨hb, hi⟩ | ⟨hb, hl⟩
      · exact ⟨a, by omega, by omega⟩
      · cases a with
        | zero => omega
        | succ a' => rw [Nat.succ_mul] at hf; exact ⟨a', by omega, by omega⟩
    · simp only [inner, ESt.init, execFuel]
      have h1 : (text.length + 2) * (text.length + d.states.length + 4)
          = (text.length + 1) * (text.length + d.states.length + 2) + 2 * (text.length + 1) + (text.length + d.states.length + 4) := by
        rw [show text.length + 2 = (text.length + 1) + 1 from rfl, Nat.succ_mul,
            show text.length + d.states.length + 4 = (text.length + d.states.length + 2) + 2 from rfl, Nat.mul_add]
        omega
      rw [h1]
      split <;> omega

/-- the converse: a pass that comes back to its own state never ends -/
theorem run_fix {sh : Shape} {ct : CType} {d : Dfa} {flags : Nat} {text : List Nat} {s : ESt} (hsp : s.sp < text.length)
    (hit : iter sh ct d flags text s = .cont s) : ∀ fuel, run sh ct d flags text fuel s = .hang
  | 0 => by rw [run, if_pos hsp]
  | f + 1 => by rw [run, if_pos hsp, hit]; exact run_fix hsp hit f

end Zvbi.Ure
