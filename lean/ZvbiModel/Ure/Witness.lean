import ZvbiModel.Ure.Syntax
/-!
# Concrete DFAs (as `ure_compile` produces them; dumps replayed on the C code in corpus/C17/ure-*.ops): the witnesses of
the findings C17-U2, U5, U6, U7 and of the repaired shape (Props/C17Ure.lean evaluates `compile` and `exec` on them)
-/
namespace Zvbi.Ure

/-- `^+` -/
def dBolPlus : Dfa := ⟨false, true, [Sym.bol], [⟨false, [(0, 1)]⟩, ⟨true, [(0, 1)]⟩]⟩
/-- `a*` -/
def dAStar : Dfa := ⟨false, false, [Sym.chr 0x61], [⟨true, [(0, 0)]⟩]⟩
/-- `abc|b` -/
def dAbcB : Dfa := ⟨false, false, [Sym.chr 0x61, Sym.chr 0x62, Sym.chr 0x63],
  [⟨false, [(0, 1), (1, 2)]⟩, ⟨false, [(1, 3)]⟩, ⟨true, []⟩, ⟨false, [(2, 2)]⟩]⟩
/-- `f.*o` -/
def dFDotO : Dfa := ⟨false, false, [Sym.chr 0x66, Sym.any, Sym.chr 0x6f],
  [⟨false, [(0, 1)]⟩, ⟨false, [(1, 1), (2, 2)]⟩, ⟨true, []⟩]⟩
/-- the literal "ab" (escaped pattern of `vbi_search_new`) -/
def dLitAb : Dfa := ⟨false, false, [Sym.chr 0x61, Sym.chr 0x62], [⟨false, [(0, 1)]⟩, ⟨false, [(1, 2)]⟩, ⟨true, []⟩]⟩

end Zvbi.Ure
