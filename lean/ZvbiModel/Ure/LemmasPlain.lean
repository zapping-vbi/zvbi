import ZvbiModel.Ure.LemmasTerm
/-!
# `ure_exec` on a DFA without anchors: leftmost start, longest extension (lemmas for `exec_sound` / `exec_leftmost` /
`exec_longest_from_ms`)
-/
namespace Zvbi.Ure

variable (sh : Shape) (ct : CType) (d : Dfa) (flags : Nat) (text : List Nat)

theorem plain_iff : d.plain = true ↔ ∀ sym ∈ d.syms, sym ≠ .bol ∧ sym ≠ .eol := by
  unfold Dfa.plain
  simp [List.all_eq_true]

/-- `scan` on a DFA without anchors takes the first transition whose symbol takes the character -/
theorem scan_plain (hpl : d.plain = true) (c lp sp zw : Nat) : ∀ trs, TransOk d trs →
    scan sh ct d flags text c lp sp zw trs =
      match trs.find? (takes sh ct d flags c) with
      | none => .none
      | some t =>
        match d.states[t.2]? with
        | some q' => .to t.2 q' lp sp sp zw
        | none => .oob "states" := by
  intro trs
  induction trs with
  | nil => intro _; rfl
  | cons t rest ih =>
    obtain ⟨si, nx⟩ := t
    intro h
    obtain ⟨ht, hrest⟩ := List.forall_mem_cons.1 h
    have hs : d.syms[si]? = some d.syms[si] := List.getElem?_eq_getElem ht.1
    have hp := (plain_iff d).1 hpl _ (List.getElem_mem ht.1)
    rw [scan_cons, List.find?_cons, hs, show takes sh ct d flags c (si, nx) = symTakes sh ct flags d.syms[si] c by simp [takes, hs]]
    dsimp only
    rw [symTry_char sh ct d flags text _ hp.1 hp.2]
    cases symTakes sh ct flags d.syms[si] c with
    | false => exact ih hrest
    | true => simp only [if_true, eolSkip_of_ne text hp.2]; cases d.states[nx]? <;> rfl

theorem eolHack_plain (hpl : d.plain = true) (trs : List (Nat × Nat)) (h : TransOk d trs) : eolHack d trs = .no :=
  (eolHack_ok d trs h).resolve_right fun h => ((plain_iff d).1 hpl _ h.2).2 rfl

theorem runFrom_none_mono (q p : Nat) : ∀ n m, n ≤ m → runFrom sh ct d flags text q p n = none →
    runFrom sh ct d flags text q p m = none := by
  intro n m hnm h
  induction m with
  | zero => have : n = 0 := by omega
            subst this; exact h
  | succ m ih =>
    by_cases hn : n = m + 1
    · subst hn; exact h
    · have := ih (by omega)
      simp [runFrom, this]

theorem runFrom_some_le (q p : Nat) : ∀ n q', 1 ≤ n → runFrom sh ct d flags text q p n = some q' → p + n ≤ text.length := by
  intro n q' hn h
  cases n with
  | zero => omega
  | succ n =>
    simp only [runFrom] at h
    cases hr : runFrom sh ct d flags text q p n with
    | none => rw [hr] at h; simp at h
    | some q1 =>
      rw [hr] at h
      simp only [] at h
      cases ht : text[p + n]? with
      | none => rw [ht] at h; simp at h
      | some c =>
        have := (List.getElem?_eq_some_iff.1 ht).1
        omega

theorem runFrom_succ (q p n q1 c : Nat) (hr : runFrom sh ct d flags text q p n = some q1) (ht : text[p + n]? = some c) :
    runFrom sh ct d flags text q p (n + 1) = delta sh ct d flags q1 (foldChar ct d c) := by
  simp [runFrom, hr, ht]

/-- no transition for the character at `p + k`: nothing longer than `k` is read -/
theorem runFrom_stuck (q p k q1 c : Nat) (hr : runFrom sh ct d flags text q p k = some q1) (ht : text[p + k]? = some c)
    (hd : delta sh ct d flags q1 (foldChar ct d c) = none) : ∀ n, k < n → runFrom sh ct d flags text q p n = none := by
  intro n hn
  apply runFrom_none_mono sh ct d flags text q p (k + 1) n (by omega)
  rw [runFrom_succ sh ct d flags text q p k q1 c hr ht, hd]

theorem not_acc_beyond (p n : Nat) (hn : 1 ≤ n) (h : text.length < p + n) : ¬ Acc sh ct d flags text p n := by
  rintro ⟨q, hq, _⟩
  have := runFrom_some_le sh ct d flags text 0 p n q hn hq
  omega

theorem isAcc_eq (st : Nat) (q : DState) (h : d.states[st]? = some q) : isAcc d st = q.accepting := by
  simp [isAcc, h]

/-- in terms of the attempt in progress: it starts at `base s` and has read `text[base s .. s.sp)` -/
structure PInv (s : ESt) : Prop where
  sp_le : s.sp ≤ text.length
  st_lt : s.st < d.states.length
  att : ∀ ms me, s.m = some (ms, me) → ms < s.sp ∧ me = s.sp
  run : runFrom sh ct d flags text 0 (base s) (s.sp - base s) = some s.st
  sound : ∀ a, s.acc = some a → base s < a ∧ a ≤ s.sp ∧ Acc sh ct d flags text (base s) (a - base s)
  max : ∀ n, 1 ≤ n → base s + n ≤ s.sp → Acc sh ct d flags text (base s) n → ∃ a, s.acc = some a ∧ base s + n ≤ a
  left : ∀ p, p < base s → ∀ n, 1 ≤ n → ¬ Acc sh ct d flags text p n

variable {sh ct d flags text} in
theorem PInv.base_le {s : ESt} (hI : PInv sh ct d flags text s) : base s ≤ s.sp := by
  rcases hm : s.m with _ | ⟨ms, me⟩
  · simp [base, msOf, hm]
  · have := (hI.att ms me hm).1
    simp only [base, msOf, hm]; omega

variable {sh ct d flags text} in
/-- the next attempt, when nothing is accepted from the start of this one -/
theorem PInv.restart {s : ESt} (hI : PInv sh ct d flags text s) (h0 : 0 < d.states.length) (hlt : base s < text.length)
    (hno : ∀ n, 1 ≤ n → ¬ Acc sh ct d flags text (base s) n) (zw : Nat) :
    PInv sh ct d flags text { sp := base s + 1, m := none, acc := none, st := 0, zw := zw } := by
  refine ⟨hlt, h0, nofun, ?_, nofun, ?_, ?_⟩
  · show runFrom sh ct d flags text 0 (base s + 1) (base s + 1 - (base s + 1)) = some 0
    rw [Nat.sub_self]; rfl
  · intro n hn (hle : base s + 1 + n ≤ base s + 1); omega
  · intro p (hp : p < base s + 1) n hn
    by_cases hpe : p = base s
    · subst hpe; exact hno n hn
    · exact hI.left p (by omega) n hn

/-- what a reported match satisfies -/
def Good : Res → Prop
  | .found ms me => ms < me ∧ me ≤ text.length ∧ Acc sh ct d flags text ms (me - ms) ∧
      (∀ n, me - ms < n → ¬ Acc sh ct d flags text ms n) ∧
      (∀ p, p < ms → ∀ n, 1 ≤ n → ¬ Acc sh ct d flags text p n)
  | _ => True

/-- state at the end of the loop (`sp = ep`) or result `none` of a pass: nothing is accepted anywhere, provided the start
    state is not accepting and the attempt in progress (if any) cannot hide a later start -/
def Exhausted (s : ESt) : Prop :=
  ∀ p, base s ≤ p → ∀ n, 1 ≤ n → ¬ Acc sh ct d flags text p n

variable {sh ct d flags text} in
/-- one more character read -/
theorem PInv.step {s : ESt} (hI : PInv sh ct d flags text s) (hsp : s.sp < text.length) (nx : Nat)
    (hnx : nx < d.states.length) (hd : delta sh ct d flags s.st (foldChar ct d text[s.sp]) = some nx) (zw : Nat) :
    PInv sh ct d flags text
      { sp := s.sp + 1, m := some (base s, s.sp + 1), acc := if d.states[nx].accepting then some (s.sp + 1) else s.acc,
        st := nx, zw := zw } := by
  have hble := hI.base_le
  have hrun' : runFrom sh ct d flags text 0 (base s) (s.sp + 1 - base s) = some nx := by
    have : s.sp + 1 - base s = (s.sp - base s) + 1 := by omega
    rw [this, runFrom_succ sh ct d flags text 0 (base s) _ s.st text[s.sp] hI.run
      (by rw [show base s + (s.sp - base s) = s.sp by omega]; exact List.getElem?_eq_getElem hsp), hd]
  have hacc_nx : isAcc d nx = d.states[nx].accepting := isAcc_eq d _ _ (List.getElem?_eq_getElem hnx)
  refine ⟨hsp, hnx, fun ms me h => by cases h; exact ⟨Nat.lt_succ_of_le hble, rfl⟩, hrun', fun a ha => ?_,
    fun n hn hle hA => ?_, hI.left⟩
  · dsimp only at ha
    split at ha
    · rename_i hacc
      cases ha
      exact ⟨Nat.lt_succ_of_le hble, Nat.le_refl _, ⟨nx, hrun', by rw [hacc_nx]; exact hacc⟩⟩
    · obtain ⟨s1, s2, s3⟩ := hI.sound a ha
      exact ⟨s1, Nat.le_succ_of_le s2, s3⟩
  · simp only [base_some] at hle hA ⊢
    by_cases he : base s + n = s.sp + 1
    · obtain ⟨q, hq1, hq2⟩ := hA
      obtain rfl : n = s.sp + 1 - base s := by omega
      rw [hrun'] at hq1; cases hq1
      rw [hacc_nx] at hq2
      exact ⟨s.sp + 1, by rw [if_pos hq2], by omega⟩
    · obtain ⟨a, ha, hge⟩ := hI.max n hn (by omega) hA
      split
      · exact ⟨s.sp + 1, rfl, by omega⟩
      · exact ⟨a, ha, hge⟩

variable {sh ct d flags text} in
theorem PInv.acc_here {s : ESt} (hI : PInv sh ct d flags text s) (hacc : isAcc d s.st = true) (hlt : base s < s.sp) :
    s.acc = some s.sp := by
  obtain ⟨a, ha, hge⟩ := hI.max (s.sp - base s) (by omega) (by omega) ⟨s.st, hI.run, hacc⟩
  have := (hI.sound a ha).2.1
  rw [ha, show a = s.sp by omega]

variable {sh ct d flags text} in
/-- The attempt is over - nothing longer than what was read is accepted from its start: the recorded `acc_me` is a `Good`
    match, and without one nothing at all is accepted from there. -/
theorem PInv.over {s : ESt} (hI : PInv sh ct d flags text s)
    (hdead : ∀ n, s.sp < base s + n → ¬ Acc sh ct d flags text (base s) n) :
    (∀ a, s.acc = some a → Good sh ct d flags text (.found (base s) a)) ∧
    (s.acc = none → ∀ n, 1 ≤ n → ¬ Acc sh ct d flags text (base s) n) := by
  have hall : ∀ n, 1 ≤ n → Acc sh ct d flags text (base s) n → ∃ a, s.acc = some a ∧ base s + n ≤ a := fun n hn hA =>
    if hle : base s + n ≤ s.sp then hI.max n hn hle hA else absurd hA (hdead n (by omega))
  refine ⟨fun a ha => ?_, fun hacc n hn hA => ?_⟩
  · obtain ⟨s1, s2, s3⟩ := hI.sound a ha
    refine ⟨s1, Nat.le_trans s2 hI.sp_le, s3, fun n hn hA => ?_, hI.left⟩
    obtain ⟨a', ha', hge⟩ := hall n (by omega) hA
    rw [ha] at ha'; cases ha'; omega
  · obtain ⟨a, ha, _⟩ := hall n hn hA
    rw [hacc] at ha; cases ha

/-- `scan` on a DFA without anchors is the transition function `delta` -/
theorem scan_delta (hpl : d.plain = true) (st : Nat) (q : DState) (hq : d.states[st]? = some q) (hok : TransOk d q.trans)
    (c lp sp zw : Nat) :
    (delta sh ct d flags st c = none ∧ scan sh ct d flags text c lp sp zw q.trans = .none) ∨
    ∃ (nx : Nat) (h : nx < d.states.length), delta sh ct d flags st c = some nx ∧
      scan sh ct d flags text c lp sp zw q.trans = .to nx d.states[nx] lp sp sp zw := by
  rw [scan_plain sh ct d flags text hpl c lp sp zw _ hok]
  simp only [delta, hq]
  cases hf : q.trans.find? (takes sh ct d flags c) with
  | none => exact .inl ⟨rfl, rfl⟩
  | some t =>
    have hnx := (hok t (List.mem_of_find?_eq_some hf)).2
    exact .inr ⟨t.2, hnx, rfl, by simp only [List.getElem?_eq_getElem hnx]⟩

theorem iter_good (hwf : d.wf = true) (hpl : d.plain = true) (s : ESt) (hsp : s.sp < text.length)
    (hI : PInv sh ct d flags text s) :
    (iter sh ct d flags text s).Sat (PInv sh ct d flags text) (Good sh ct d flags text) := by
  obtain ⟨h0, hall⟩ := (wf_iff d).1 hwf
  have hc : text[s.sp]? = some text[s.sp] := List.getElem?_eq_getElem hsp
  have hstlt := hI.st_lt
  have hq : d.states[s.st]? = some d.states[s.st] := List.getElem?_eq_getElem hstlt
  have hble := hI.base_le
  have hm : ∀ ms me, s.m = some (ms, me) → ms = base s := fun ms me h => by simp [base, msOf, h]
  have ht := iter_table sh ct d flags text s _ _ hc hq
  generalize iter sh ct d flags text s = r at ht
  rcases scan_delta sh ct d flags text hpl _ _ hq (hall _ (List.getElem_mem hstlt)) (foldChar ct d text[s.sp])
    s.sp (s.sp + 1) s.zw with ⟨hd, hsc⟩ | ⟨nx, hnx, hd, hsc⟩ <;> rw [hsc] at ht
  · -- no transition for the character: the attempt is over here
    obtain ⟨hfound, hnone⟩ := hI.over fun n hn => by
      rintro ⟨q, hq', _⟩
      rw [runFrom_stuck sh ct d flags text 0 (base s) _ s.st text[s.sp] hI.run
        (by rw [show base s + (s.sp - base s) = s.sp by omega]; exact hc) hd n (by omega)] at hq'
      cases hq'
    cases ht with
    | retry _ hacc => exact hI.restart h0 (by omega) (hnone hacc) _
    | stuckAcc a _ ha =>
      rcases hsm : s.m with _ | ⟨ms, me⟩
      · trivial
      · obtain rfl := hm ms me hsm
        exact hfound a ha
    | stuckHere hqa =>
      rcases hsm : s.m with _ | ⟨ms, me⟩
      · trivial
      · obtain rfl := hm ms me hsm
        obtain ⟨e1, rfl⟩ := hI.att _ me hsm
        exact hfound _ (hI.acc_here (by rw [isAcc_eq d _ _ hq]; exact hqa) e1)
  · -- one more character read; if that was the last one, the attempt is over behind it
    have h1 := hI.step hsp nx hnx hd s.zw
    have hover := fun hend : s.sp + 1 = text.length => h1.over fun n (hn : s.sp + 1 < base s + n) =>
      not_acc_beyond sh ct d flags text (base s) n (by omega) (by omega)
    have hhack := eolHack_plain d hpl _ (hall _ (List.getElem_mem hnx))
    cases ht with
    | move _ _ _ _ _ _ _ => exact h1
    | eotRetry _ _ _ _ _ _ hend hqa _ hacc _ _ =>
      exact h1.restart h0 (by show base s < _; omega) ((hover hend).2 (by dsimp only; rw [hqa]; exact hacc)) _
    | eotFound _ _ _ _ _ _ hend hqa =>
      rw [hhack] at hqa
      exact (hover hend).1 _ (by dsimp only; rw [if_pos (by simpa using hqa)])
    | eotAcc _ _ _ _ _ _ a hend hqa _ ha => exact (hover hend).1 a (by dsimp only; rw [hqa]; exact ha)
    | hackOob _ _ _ _ _ _ e _ _ hh => rw [hhack] at hh; cases hh

/-- `hbl`: the blank line flag (the "^$" special case) is set by `ure_compile` only while every symbol is an anchor -/
theorem exec_good (hwf : d.wf = true) (hpl : d.plain = true) (hbl : d.blankline = false) :
    Good sh ct d flags text (exec sh ct d flags text) := by
  unfold exec
  split
  · rename_i h
    rw [hbl] at h
    exact absurd h.2 (by simp)
  · exact run_sat sh ct d flags text (I := fun _ => PInv sh ct d flags text) trivial (fun _ _ _ => trivial)
      (fun _ s hsp hI => iter_good sh ct d flags text hwf hpl s hsp hI) _ _
      ⟨Nat.zero_le _, ((wf_iff d).1 hwf).1, nofun, rfl, nofun, fun n hn (hle : 0 + n ≤ 0) => by omega, fun p hp => by cases hp⟩

end Zvbi.Ure
