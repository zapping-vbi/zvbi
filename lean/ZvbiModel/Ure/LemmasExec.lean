import ZvbiModel.Ure.Spec
/-!
# `ure_exec`: what `symTry`, `scan` and one pass of the loop do (`IterStep`), and that no table is left by a well-formed
DFA - lemmas for `exec_never_oob`; `iter_table`, `Step.Sat` and `run_sat` are shared with LemmasTerm and LemmasPlain
-/
namespace Zvbi.Ure

variable (sh : Shape) (ct : CType) (d : Dfa) (flags : Nat) (text : List Nat)

/-- well-formedness as propositions -/
def TransOk (trs : List (Nat × Nat)) : Prop :=
  ∀ t ∈ trs, t.1 < d.syms.length ∧ t.2 < d.states.length

theorem wf_iff : d.wf = true ↔ 0 < d.states.length ∧ ∀ q ∈ d.states, TransOk d q.trans := by
  simp [Dfa.wf, TransOk, List.all_eq_true, List.length_pos_iff]

/-- the character symbols (`.`, a character, a class) take a character or not, and do nothing else -/
theorem symTry_char (sym : Sym) (hb : sym ≠ .bol) (he : sym ≠ .eol) (c lp sp zw : Nat) :
    symTry sh ct d flags text sym c lp sp zw = if symTakes sh ct flags sym c = true then .yes lp sp zw else .no := by
  cases sym with
  | bol => exact absurd rfl hb
  | eol => exact absurd rfl he
  | any => rfl
  | chr k => simp [symTry, symTakes]
  | ccl neg props ranges => cases neg <;> rfl

/-- the position `p` behind the separator `c`, or behind the LF when `c` is the CR of a CR LF -/
def lfSkip (c p : Nat) : Nat := if c = 0x0d ∧ p < text.length ∧ text[p]? = some 0x0a then p + 1 else p

theorem lfSkip_bounds (c p : Nat) : p ≤ lfSkip text c p ∧ (p ≤ text.length → lfSkip text c p ≤ text.length) := by
  simp only [lfSkip]; split <;> omega

/-- `^` unfolded once; the look at the character behind a CR cannot leave the text -/
theorem symTry_bol (c lp sp zw : Nat) :
    symTry sh ct d flags text .bol c lp sp zw =
      if notBol flags then .no
      else if lp = 0 then
        (if sh.bolGuard then (if zw > d.states.length then .no else .yes lp lp (zw + 1)) else .yes lp lp zw)
      else if isbrk c then .yes (lfSkip text c sp) (lfSkip text c sp) zw
      else .no := by
  simp only [symTry]
  -- the two `if` chains differ in the innermost branch only
  refine ite_congr rfl (fun _ => rfl) fun _ => ite_congr rfl (fun _ => rfl) fun _ => ite_congr rfl (fun _ => ?_) fun _ => rfl
  unfold lfSkip
  by_cases h : c = 0x0d ∧ sp < text.length
  · simp only [h, and_self, if_true, true_and, List.getElem?_eq_getElem h.2, Option.some.injEq]
    split <;> rfl
  · rw [if_neg h, if_neg (fun h' => h ⟨h'.1, h'.2.1⟩)]

theorem symTry_not_oob (sym : Sym) (c lp sp zw : Nat) (e : String) :
    symTry sh ct d flags text sym c lp sp zw ≠ .oob e := by
  cases sym with
  | eol => simp only [symTry]; repeat' split
           all_goals nofun
  | bol => rw [symTry_bol]; repeat' split
           all_goals nofun
  | _ => rw [symTry_char]; (split <;> nofun); all_goals nofun

/-- `sp` behind a taken transition: `$` skips the separator that caused the match -/
def eolSkip (sym : Sym) (c sp' : Nat) : Nat :=
  match sym with
  | .eol => lfSkip text c (sp' + 1)
  | _ => sp'

theorem eolSkip_of_ne {sym : Sym} (h : sym ≠ .eol) (c sp' : Nat) : eolSkip text sym c sp' = sp' := by
  cases sym <;> first | rfl | exact absurd rfl h

/-- `scan` unfolded once; the `$` adjustment cannot leave the text -/
theorem scan_cons (c lp sp zw si nx : Nat) (rest : List (Nat × Nat)) :
    scan sh ct d flags text c lp sp zw ((si, nx) :: rest) =
      match d.syms[si]? with
      | none => .oob "syms"
      | some sym =>
        match symTry sh ct d flags text sym c lp sp zw with
        | .oob e => .oob e
        | .no => scan sh ct d flags text c lp sp zw rest
        | .yes lp' sp' zw' =>
          match d.states[nx]? with
          | none => .oob "states"
          | some q' => .to nx q' lp' sp' (eolSkip text sym c sp') zw' := by
  rw [scan]
  cases d.syms[si]? with
  | none => rfl
  | some sym =>
    dsimp only
    cases symTry sh ct d flags text sym c lp sp zw with
    | oob e => rfl
    | no => rfl
    | yes lp' sp' zw' =>
      dsimp only
      cases d.states[nx]? with
      | none => rfl
      | some q' =>
        cases sym with
        | eol =>
          dsimp only [eolSkip, lfSkip]
          by_cases h : sp' + 1 < text.length ∧ c = 0x0d
          · simp only [h, and_self, if_true, true_and, List.getElem?_eq_getElem h.1, Option.some.injEq]
          · rw [if_neg h, if_neg (fun h' => h ⟨h'.2.1, h'.1⟩)]
        | _ => rfl

theorem scan_not_oob (c lp sp zw : Nat) (e : String) :
    ∀ trs, TransOk d trs → scan sh ct d flags text c lp sp zw trs ≠ .oob e := by
  intro trs
  induction trs with
  | nil => intro _; simp [scan]
  | cons t rest ih =>
    obtain ⟨si, nx⟩ := t
    intro h
    obtain ⟨ht, hrest⟩ := List.forall_mem_cons.1 h
    rw [scan_cons, List.getElem?_eq_getElem ht.1, List.getElem?_eq_getElem ht.2]
    dsimp only
    cases hty : symTry sh ct d flags text d.syms[si] c lp sp zw with
    | oob e' => exact absurd hty (symTry_not_oob sh ct d flags text _ _ _ _ _ _)
    | no => exact ih hrest
    | yes lp' sp' zw' => nofun

/-- where a taken transition comes from -/
theorem scan_to (c lp sp zw : Nat) : ∀ trs nx q lp' me sp' zw',
    scan sh ct d flags text c lp sp zw trs = .to nx q lp' me sp' zw' →
    ∃ si sym, (si, nx) ∈ trs ∧ d.syms[si]? = some sym ∧ d.states[nx]? = some q ∧
      symTry sh ct d flags text sym c lp sp zw = .yes lp' me zw' ∧ sp' = eolSkip text sym c me := by
  intro trs
  induction trs with
  | nil => intro nx q lp' me sp' zw' h; simp [scan] at h
  | cons t rest ih =>
    obtain ⟨si, nx0⟩ := t
    intro nx q lp' me sp' zw' h
    rw [scan_cons] at h
    cases hs : d.syms[si]? with
    | none => rw [hs] at h; cases h
    | some sym =>
      rw [hs] at h
      dsimp only at h
      cases hty : symTry sh ct d flags text sym c lp sp zw with
      | oob e' => rw [hty] at h; cases h
      | no =>
        rw [hty] at h
        obtain ⟨si', sym', hmem, hr⟩ := ih _ _ _ _ _ _ h
        exact ⟨si', sym', List.mem_cons_of_mem _ hmem, hr⟩
      | yes lp1 sp1 zw1 =>
        rw [hty] at h
        dsimp only at h
        cases hq : d.states[nx0]? with
        | none => rw [hq] at h; cases h
        | some q0 => rw [hq] at h; cases h; exact ⟨si, sym, List.mem_cons_self, hs, hq, hty, rfl⟩

/-- with indices in range the end-of-text look-ahead answers `.no`, or `.found` through a `$` transition -/
theorem eolHack_ok : ∀ trs, TransOk d trs → eolHack d trs = .no ∨ (eolHack d trs = .found ∧ Sym.eol ∈ d.syms) := by
  intro trs
  induction trs with
  | nil => intro _; exact .inl rfl
  | cons t rest ih =>
    obtain ⟨si, nx⟩ := t
    intro h
    obtain ⟨ht, hrest⟩ := List.forall_mem_cons.1 h
    rw [eolHack, List.getElem?_eq_getElem ht.1]
    have hmem := List.getElem_mem ht.1
    generalize d.syms[si] = sym at hmem
    cases sym with
    | eol =>
      simp only [List.getElem?_eq_getElem ht.2]
      split
      · exact .inr ⟨rfl, hmem⟩
      · exact .inl rfl
    | _ => exact ih hrest

/-- next state satisfies `I` / result satisfies `P`: the form of every statement about one pass of the loop -/
def Step.Sat (I : ESt → Prop) (P : Res → Prop) : Step → Prop
  | .cont s => I s
  | .done r => P r

theorem Step.Sat.mono {I I' : ESt → Prop} {P P' : Res → Prop} {st : Step} (h : st.Sat I P)
    (hI : ∀ s, I s → I' s) (hP : ∀ r, P r → P' r) : st.Sat I' P' := by
  cases st with
  | cont s => exact hI s h
  | done r => exact hP r h

/-- What one pass of the loop of `ure_exec` does in state `s`, in DFA state `q`, when the transition loop answered `mv`:
    one constructor per way through the body.  `msOf s.m s.sp` is the start of the attempt in progress. -/
inductive IterStep (s : ESt) (q : DState) : Move → Step → Prop
  /-- no transition, no accepting state passed: next attempt one character further -/
  | retry : q.accepting = false → s.acc = none →
      IterStep s q .none (.cont { sp := msOf s.m s.sp + 1, m := none, acc := none, st := 0, zw := s.zw })
  /-- no transition, the attempt passed an accepting state -/
  | stuckAcc (a : Nat) : q.accepting = false → s.acc = some a →
      IterStep s q .none (.done (match s.m with | some (ms, _) => .found ms a | none => .none))
  /-- no transition in an accepting state -/
  | stuckHere : q.accepting = true →
      IterStep s q .none (.done (match s.m with | some (ms, me) => .found ms me | none => .none))
  | scanOob (e : String) : IterStep s q (.oob e) (.done (.oob e))
  /-- a transition; if it reaches the end of the text, nothing is accepted there and the attempt is not restarted -/
  | move (nx : Nat) (q' : DState) (lp' me sp' zw' : Nat) :
      (sp' = text.length → q'.accepting = false ∧ eolHack d q'.trans = .no ∧ s.acc = none ∧
        ¬ (sh.eotRestart ∧ msOf s.m lp' + 1 < text.length)) →
      IterStep s q (.to nx q' lp' me sp' zw')
        (.cont { sp := sp', m := some (msOf s.m lp', me), acc := if q'.accepting then some me else s.acc, st := nx, zw := zw' })
  /-- end of the text, nothing accepted: restart behind the start of the attempt (`eotRestart`) -/
  | eotRetry (nx : Nat) (q' : DState) (lp' me sp' zw' : Nat) : sp' = text.length →
      q'.accepting = false → eolHack d q'.trans = .no → s.acc = none →
      sh.eotRestart = true → msOf s.m lp' + 1 < text.length →
      IterStep s q (.to nx q' lp' me sp' zw') (.cont { sp := msOf s.m lp' + 1, m := none, acc := none, st := 0, zw := zw' })
  /-- end of the text in an accepting state, or before a `$` that leads to one -/
  | eotFound (nx : Nat) (q' : DState) (lp' me sp' zw' : Nat) : sp' = text.length →
      (q'.accepting = true ∨ eolHack d q'.trans = .found) →
      IterStep s q (.to nx q' lp' me sp' zw') (.done (.found (msOf s.m lp') sp'))
  /-- end of the text, an accepting state was passed -/
  | eotAcc (nx : Nat) (q' : DState) (lp' me sp' zw' a : Nat) : sp' = text.length →
      q'.accepting = false → eolHack d q'.trans = .no → s.acc = some a →
      IterStep s q (.to nx q' lp' me sp' zw') (.done (.found (msOf s.m lp') a))
  | hackOob (nx : Nat) (q' : DState) (lp' me sp' zw' : Nat) (e : String) : sp' = text.length →
      q'.accepting = false → eolHack d q'.trans = .oob e → IterStep s q (.to nx q' lp' me sp' zw') (.done (.oob e))

theorem iter_table (s : ESt) (c0 : Nat) (q : DState) (hc : text[s.sp]? = some c0) (hq : d.states[s.st]? = some q) :
    IterStep sh d text s q (scan sh ct d flags text (foldChar ct d c0) s.sp (s.sp + 1) s.zw q.trans)
      (iter sh ct d flags text s) := by
  unfold iter
  simp only [hc, hq]
  cases scan sh ct d flags text (foldChar ct d c0) s.sp (s.sp + 1) s.zw q.trans with
  | oob e => exact .scanOob e
  | none =>
    simp only []
    cases hqa : q.accepting with
    | true =>
      simp only [Bool.not_true, Bool.false_eq_true, if_false]
      rcases s with ⟨sp, _ | ⟨ms, me⟩, acc, st, zw⟩ <;> exact .stuckHere hqa
    | false =>
      simp only [Bool.not_false, if_true]
      cases ha : s.acc <;> rcases s with ⟨sp, _ | ⟨ms, me⟩, acc, st, zw⟩
      all_goals first | exact .retry hqa ha | exact .stuckAcc _ hqa ha
  | to nx q' lp' me sp' zw' =>
    simp only []
    by_cases hend : sp' = text.length
    · rw [if_pos hend]
      cases hqa : q'.accepting with
      | true => exact .eotFound nx q' lp' me sp' zw' hend (Or.inl hqa)
      | false =>
        simp only [Bool.not_false, if_true, Bool.false_eq_true, if_false]
        cases hh : eolHack d q'.trans with
        | oob e => exact .hackOob nx q' lp' me sp' zw' e hend hqa hh
        | found => exact .eotFound nx q' lp' me sp' zw' hend (Or.inr hh)
        | no =>
          simp only []
          cases ha : s.acc with
          | some a => exact .eotAcc nx q' lp' me sp' zw' a hend hqa hh ha
          | none =>
            simp only []
            by_cases hr : sh.eotRestart = true ∧ msOf s.m lp' + 1 < text.length
            · rw [if_pos hr]; exact .eotRetry nx q' lp' me sp' zw' hend hqa hh ha hr.1 hr.2
            · rw [if_neg hr]
              have := IterStep.move (sh := sh) (d := d) (text := text) (s := s) (q := q) nx q' lp' me sp' zw'
                (fun _ => ⟨hqa, hh, ha, hr⟩)
              simpa [hqa, ha] using this
    · rw [if_neg hend]
      exact .move nx q' lp' me sp' zw' (fun h => absurd h hend)

theorem iter_no_state (s : ESt) (hsp : s.sp < text.length) (hq : d.states[s.st]? = none) :
    iter sh ct d flags text s = .done (.oob "states") := by
  simp only [iter, List.getElem?_eq_getElem hsp, hq]

/-- The one induction over the fuel: an invariant `I` (it may count the fuel) that every pass keeps, while every result
    satisfies `P`. -/
theorem run_sat {I : Nat → ESt → Prop} {P : Res → Prop} (hnone : P .none)
    (hhang : ∀ s, s.sp < text.length → I 0 s → P .hang)
    (hstep : ∀ f s, s.sp < text.length → I (f + 1) s → (iter sh ct d flags text s).Sat (I f) P) :
    ∀ fuel s, I fuel s → P (run sh ct d flags text fuel s) := by
  intro fuel
  induction fuel with
  | zero =>
    intro s hI
    unfold run
    split
    · exact hhang s ‹_› hI
    · exact hnone
  | succ f ih =>
    intro s hI
    unfold run
    split
    · have hs := hstep f s ‹_› hI
      cases hit : iter sh ct d flags text s with
      | cont s' => rw [hit] at hs; exact ih s' hs
      | done r => rw [hit] at hs; exact hs
    · exact hnone

/-- one pass of the loop: no access outside a table, and the next state is a state of the table -/
theorem iter_ok (hwf : d.wf = true) (s : ESt) (hsp : s.sp < text.length) (hst : s.st < d.states.length) :
    (iter sh ct d flags text s).Sat (·.st < d.states.length) (fun r => ∀ e, r ≠ .oob e) := by
  obtain ⟨h0, hall⟩ := (wf_iff d).1 hwf
  have hqok : TransOk d d.states[s.st].trans := hall _ (List.getElem_mem hst)
  have ht := iter_table sh ct d flags text s _ _ (List.getElem?_eq_getElem hsp) (List.getElem?_eq_getElem hst)
  generalize hsc : scan _ _ _ _ _ _ _ _ _ _ = mv at ht
  generalize iter sh ct d flags text s = r at ht
  cases ht with
  | retry _ _ => exact h0
  | stuckAcc a _ _ => intro e; split <;> nofun
  | stuckHere _ => intro e; split <;> nofun
  | scanOob e => exact absurd hsc (scan_not_oob sh ct d flags text _ _ _ _ _ _ hqok)
  | move nx q' lp' me sp' zw' _ =>
    obtain ⟨si, _, hmem, _⟩ := scan_to sh ct d flags text _ _ _ _ _ _ _ _ _ _ _ hsc
    exact (hqok _ hmem).2
  | eotRetry nx q' lp' me sp' zw' _ _ _ _ _ _ => exact h0
  | eotFound nx q' lp' me sp' zw' _ _ => nofun
  | eotAcc nx q' lp' me sp' zw' a _ _ _ _ => nofun
  | hackOob nx q' lp' me sp' zw' e _ _ hh =>
    obtain ⟨_, _, _, _, hq', _⟩ := scan_to sh ct d flags text _ _ _ _ _ _ _ _ _ _ _ hsc
    rcases eolHack_ok d _ (hall _ (List.mem_of_getElem? hq')) with h | ⟨h, _⟩ <;> rw [h] at hh <;> cases hh

end Zvbi.Ure
