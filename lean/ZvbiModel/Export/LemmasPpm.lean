import ZvbiModel.Export.Xpm
import ZvbiModel.Export.Lemmas
import ZvbiModel.Export.LemmasRegion
/-! Helper lemmas for the PPM and XPM writer theorems (`Props/C16Ppm.lean`, `Props/C16Xpm.lean`) -/
namespace Zvbi.Export
open Zvbi.Export.Spec

theorem directRows_output {α : Type} (n : Nat) (f : α → Bytes) (l : List α) (h : ∀ a ∈ l, (f a).length = n) :
    output (l.flatMap fun a => [Op.direct n (f a), .flush]) = l.flatMap f := by
  induction l with
  | nil => rfl
  | cons r rs ih =>
    simp only [List.flatMap_cons, output_append, ih (fun q hq => h q (by simp [hq]))]
    simp [output, opBytes, ← h r (by simp)]

theorem ppmGeom_cases (columns : Nat) (dh : Bool) :
    ppmGeom columns dh = ⟨16, 26, 0⟩ ∨ ppmGeom columns dh = ⟨16, 26, 1⟩ ∨ ppmGeom columns dh = ⟨12, 10, 1⟩ ∨ ppmGeom columns dh = ⟨12, 10, 2⟩ := by
  unfold ppmGeom; cases dh <;> split <;> simp

theorem ppmRowSize_eq (columns : Nat) (dh : Bool) :
    ppmRowSize columns (ppmGeom columns dh) = 3 * (ppmWidth columns (ppmGeom columns dh) * ppmLines (ppmGeom columns dh)) := by
  rcases ppmGeom_cases columns dh with h | h | h | h <;> rw [h] <;>
    simp [ppmRowSize, ppmWidth, ppmLines, Nat.shiftLeft_eq, Nat.shiftRight_eq_div_pow] <;> omega

theorem ppmHeight_eq (columns rows : Nat) (dh : Bool) :
    ppmHeight rows (ppmGeom columns dh) = ppmLines (ppmGeom columns dh) * rows := by
  rcases ppmGeom_cases columns dh with h | h | h | h <;> rw [h] <;>
    simp [ppmHeight, ppmLines, Nat.shiftLeft_eq, Nat.shiftRight_eq_div_pow] <;> omega

theorem everyOther_length {α : Type} : ∀ (l : List α), (everyOther l).length = (l.length + 1) / 2
  | [] => by simp [everyOther]
  | [_] => by simp [everyOther]
  | _ :: _ :: rest => by
    simp only [everyOther, List.length_cons, everyOther_length rest]; omega

theorem mem_everyOther {α : Type} (x : α) : ∀ (l : List α), x ∈ everyOther l → x ∈ l
  | [], h => by simp [everyOther] at h
  | [a], h => by simpa [everyOther] using h
  | a :: b :: rest, h => by
    simp only [everyOther, List.mem_cons] at h ⊢
    rcases h with h | h
    · exact Or.inl h
    · exact Or.inr (Or.inr (mem_everyOther x rest h))

theorem mem_xpmPick (scale : Nat) (lines : List (List Nat)) (l : List Nat) (h : l ∈ xpmPick scale lines) : l ∈ lines := by
  unfold xpmPick at h
  split at h
  · exact mem_everyOther l lines h
  · split at h
    · obtain ⟨a, ha, hl⟩ := List.mem_flatMap.1 h
      simp at hl; rw [hl]; exact ha
    · exact h

theorem xpmLine_length (line : List Nat) : (xpmLine line).length = line.length + 4 := by simp [xpmLine]

theorem xpmPick_length (scale : Nat) (lines : List (List Nat)) :
    (xpmPick scale lines).length = if scale = 0 then (lines.length + 1) / 2 else if scale = 2 then lines.length * 2 else lines.length := by
  unfold xpmPick
  split
  · exact everyOther_length lines
  · split
    · exact flatMap_length_const lines (fun l => [l, l]) 2 (fun _ _ => rfl)
    · rfl

/-- the bytes of one text row are exactly the `needed` of `xpm_write_row` -/
theorem xpmRowBytes_length (columns : Nat) (dh : Bool) (lines : List (List Nat))
    (hn : lines.length = (ppmGeom columns dh).charH) (hl : ∀ l ∈ lines, l.length = ppmWidth columns (ppmGeom columns dh)) :
    (xpmRowBytes (ppmGeom columns dh).scale lines).length = xpmRowSize columns (ppmGeom columns dh) := by
  have hline : ∀ l ∈ xpmPick (ppmGeom columns dh).scale lines, (xpmLine l).length = ppmWidth columns (ppmGeom columns dh) + 4 := by
    intro l hm; rw [xpmLine_length, hl l (mem_xpmPick _ _ _ hm)]
  unfold xpmRowBytes
  rw [flatMap_length_const _ _ _ hline, xpmPick_length, hn]
  rcases ppmGeom_cases columns dh with h | h | h | h <;> rw [h] <;>
    simp [xpmRowSize, ppmWidth, Nat.shiftLeft_eq, Nat.shiftRight_eq_div_pow] <;> omega

theorem hex2U_length (v : Nat) : (hex2U v).length = 2 := rfl

theorem xpmColorLine_length (tr : Bool) (colorAt : Nat → Nat) (i : Nat) :
    (xpmColorLine tr colorAt i).length = if i = 8 ∧ tr = true then 12 else 15 := by
  unfold xpmColorLine
  split
  · simp [s2b]
  · simp [s2b, hex2U_length]

/-- the colour table: 40 lines of 15 bytes, the `None` line 3 bytes shorter -/
theorem xpmColorTable_length (tr : Bool) (colorAt : Nat → Nat) :
    ((List.range 40).flatMap (xpmColorLine tr colorAt)).length = if tr then 597 else 600 := by
  rw [List.length_flatMap]
  have : (fun i => (xpmColorLine tr colorAt i).length) = fun i => if i = 8 ∧ tr = true then 12 else 15 :=
    funext (xpmColorLine_length tr colorAt)
  rw [this]
  cases tr <;> decide

theorem xpmHeaderOps_output (env : XpmEnv) (colorAt : Nat → Nat) (w h : Nat) :
    output (xpmHeaderOps env colorAt w h)
      = xpmHeaderText w h (xpmExt env) ++ (List.range 40).flatMap (xpmColorLine env.transparency colorAt) ++ xpmPixelsComment := by
  unfold xpmHeaderOps
  simp only [output_append]
  have : output ((List.range 40).map (fun i => Op.printf (xpmColorLine env.transparency colorAt i)))
      = (List.range 40).flatMap (xpmColorLine env.transparency colorAt) := by
    generalize List.range 40 = l
    induction l with
    | nil => simp [output]
    | cons a as ih => simp only [List.map_cons, List.flatMap_cons]; rw [← ih]; simp [output, opBytes]
  rw [this]
  simp [output, opBytes]

/-- every colour code is a character of `xpm_col_codes`, none of them `"`, `\` or a line feed -/
theorem xpmCode_safe (c : Nat) : xpmCode c ∈ xpmColCodes ∧ xpmCode c ≠ 34 ∧ xpmCode c ≠ 92 ∧ xpmCode c ≠ 10 := by
  unfold xpmCode
  split
  · rename_i h
    have : ∀ k, k < 40 → xpmColCodes.getD k 46 ∈ xpmColCodes ∧ xpmColCodes.getD k 46 ≠ 34 ∧ xpmColCodes.getD k 46 ≠ 92
        ∧ xpmColCodes.getD k 46 ≠ 10 := by decide
    exact this c h
  · decide

end Zvbi.Export
