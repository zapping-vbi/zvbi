import ZvbiModel.Export.Font
/-! Glyph numbers of the parts of `unicode_wstfont2`: the specials, the italic shift, the mosaic range. -/
namespace Zvbi.Export

theorem glyphSpecial_lt (italic : Bool) (c : Nat) : glyphSpecial italic c < fontGlyphs := by
  unfold glyphSpecial
  simp only []
  split
  · rename_i h
    have : wstSpecials.length = 41 := rfl
    rw [this] at h
    split <;> (unfold fontGlyphs; omega)
  · decide

theorem glyphTail_lt (italic : Bool) (g : Nat) (h : g < 31 * 32) : glyphTail true italic g < fontGlyphs := by
  unfold glyphTail fontGlyphs
  cases italic <;> simp
  · omega
  · split <;> omega

/-- the block mosaics U+EE00 .. U+EEFF (bit 5 swaps the contiguous and separated sets): glyph rows 23 .. 30 -/
theorem mosaic_glyph_lt {c : Nat} (h1 : 0xEE00 ≤ c) (h2 : c < 0xEF00) : (c ^^^ 0x20) - 0xEE00 + 23 * 32 < fontGlyphs := by
  have : ∀ k, k < 256 → ((0xEE00 + k) ^^^ 0x20) - 0xEE00 + 23 * 32 < 1536 := by decide +kernel
  have := this (c - 0xEE00) (by omega)
  rwa [show 0xEE00 + (c - 0xEE00) = c by omega] at this

end Zvbi.Export
