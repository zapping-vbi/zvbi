import ZvbiModel.Export.Lemmas
import ZvbiModel.Export.LemmasPrint
/-! The text export module against its specification: what `printChar` returns for a character that converts and fits (without
and with a control sequence, or skipped), the column and row loops against `plainText` / `ctlText`, and the size of a control
sequence (`SmallBytes`, added up part by part). -/
namespace Zvbi.Export
open Zvbi.Export.Spec

theorem charOps_output {bs : Bytes} (hb : ∀ b ∈ bs, b < 256) : output (charOps bs) = bs := by
  unfold charOps
  split
  · next b =>
    have : b < 256 := hb b (by simp)
    simp [output, opBytes, Nat.mod_eq_of_lt this]
  · simp [output, opBytes]

theorem lastCell_cons (old c : Cell) (cs : List Cell) : lastCell old (c :: cs) = lastCell c cs := by
  unfold lastCell
  cases cs with
  | nil => simp
  | cons d ds =>
    simp only [List.getLast?_cons_cons]
    cases h : (d :: ds).getLast? with
    | none => simp [List.getLast?_eq_none_iff] at h
    | some x => rfl

section
variable {cfg : Cfg} {conv : Nat → Option Bytes}

theorem printChar_plain {gfx : Nat} {cm : List Nat} {old c : Cell} {a : Bytes} (hA : AtFits cfg conv)
    (hF : ConvFits cfg conv 32) (he : encU cfg conv (substChar gfx c.unicode) = some a) :
    printChar cfg conv 0 gfx cm old c = .ok (.bytes a) := by
  obtain ⟨h0, h32, _⟩ := hF _ _ he
  have hpu : printUnicode cfg conv (substChar gfx c.unicode) textBufSize = some a := printUnicode_exact hA he h32
  have hne : a ≠ [] := by intro h; rw [h] at h0; simp at h0
  unfold printChar
  simp [hpu, hne]

theorem textRowOps_plain {gfx : Nat} {cm : List Nat} (hA : AtFits cfg conv) (hF : ConvFits cfg conv 32) :
    ∀ (cs : List Cell) (old : Cell) (e : Bytes), plainRow cfg conv gfx cs = some e →
      ∃ ops, textRowOps cfg conv 0 gfx cm old cs = .ok (ops, lastCell old cs, true) ∧ output ops ++ [0x0A] = e := by
  intro cs
  induction cs with
  | nil => intro old e h; simp [plainRow] at h; subst h; exact ⟨[], by simp [textRowOps, lastCell], by simp [output]⟩
  | cons c cs ih =>
    intro old e h
    unfold plainRow at h
    cases h1 : encU cfg conv (substChar gfx c.unicode) with
    | none => simp [h1] at h
    | some a =>
      cases h2 : plainRow cfg conv gfx cs with
      | none => simp [h1, h2] at h
      | some b =>
        simp only [h1, h2] at h
        cases h
        obtain ⟨ops, hops, hout⟩ := ih c b h2
        refine ⟨charOps a ++ ops, ?_, ?_⟩
        · unfold textRowOps
          rw [printChar_plain hA hF h1]
          simp only [hops, lastCell_cons]
        · rw [output_append, charOps_output (hF _ _ h1).2.2, List.append_assoc, hout]

theorem textRowsOps_plain {gfx : Nat} {cm : List Nat} (hA : AtFits cfg conv) (hF : ConvFits cfg conv 32) :
    ∀ (rows : List (List Cell)) (old : Cell) (e : Bytes), rows ≠ [] → plainText cfg conv gfx rows = some e →
      ∃ ops, textRowsOps cfg conv 0 gfx cm old rows = .ok (ops, true) ∧ output ops = e := by
  intro rows
  induction rows with
  | nil => intro old e hne; exact absurd rfl hne
  | cons r rs ih =>
    intro old e _ h
    unfold plainText at h
    cases h1 : plainRow cfg conv gfx r with
    | none => simp [h1] at h
    | some a =>
      cases h2 : plainText cfg conv gfx rs with
      | none => simp [h1, h2] at h
      | some b =>
        simp only [h1, h2] at h
        cases h
        obtain ⟨ops, hops, hout⟩ := textRowOps_plain (gfx := gfx) (cm := cm) hA hF r old a h1
        cases rs with
        | nil =>
          simp [plainText] at h2; subst h2
          refine ⟨ops ++ [.putc 0x0A], ?_, ?_⟩
          · simp [textRowsOps, hops]
          · rw [output_append, ← hout]; simp [output, opBytes]
        | cons r2 rs2 =>
          obtain ⟨ops2, hops2, hout2⟩ := ih (lastCell old r) b (by simp) h2
          refine ⟨ops ++ [.putc 0x0A] ++ ops2, ?_, ?_⟩
          · simp [textRowsOps, hops, hops2]
          · rw [output_append, output_append, hout2, ← hout]; simp [output, opBytes]

theorem matchColor8_le (rgba : Nat) : matchColor8 rgba ≤ 7 := by
  unfold matchColor8
  have key : ∀ (l : List Nat) (best : Nat), (∀ i ∈ l, i ≤ 7) → best ≤ 7 →
      l.foldl (fun best i => if colorDist rgba i < colorDist rgba best then i else best) best ≤ 7 := by
    intro l
    induction l with
    | nil => intro best _ hb; simpa using hb
    | cons x xs ih =>
      intro best hl hb
      simp only [List.foldl]
      apply ih
      · intro i hi; exact hl i (List.mem_cons_of_mem _ hi)
      · split
        · exact hl x (List.mem_cons_self ..)
        · exact hb
  exact key (List.range 8) 0 (by intro i hi; have := List.mem_range.1 hi; omega) (by omega)

def SmallBytes (n : Nat) (bs : Bytes) : Prop := bs.length ≤ n ∧ ∀ b ∈ bs, b < 256

theorem SmallBytes.append {n m : Nat} {a b : Bytes} (ha : SmallBytes n a) (hb : SmallBytes m b) : SmallBytes (n + m) (a ++ b) := by
  refine ⟨by simp; have := ha.1; have := hb.1; omega, ?_⟩
  intro x hx
  rcases List.mem_append.1 hx with h | h
  · exact ha.2 x h
  · exact hb.2 x h

theorem sizeSeq_small {old this : Cell} {sz : Bytes} (h : sizeSeq old this = some sz) : SmallBytes 3 sz := by
  have leaf : ∀ l : Bytes, SmallBytes 3 l → some l = some sz → SmallBytes 3 sz := fun l hl e => by cases e; exact hl
  have key := @ite_ind _ (fun r : Option Bytes => r = some sz → SmallBytes 3 sz)
  have e : SmallBytes 3 [] := ⟨by decide, by decide⟩
  exact key (fun _ => key (fun _ => leaf _ ⟨by decide, by decide⟩) fun _ => key (fun _ => leaf _ ⟨by decide, by decide⟩) fun _ =>
    key (fun _ => leaf _ ⟨by decide, by decide⟩) fun _ => key (fun _ => leaf _ ⟨by decide, by decide⟩) fun _ =>
    key (fun _ h => by cases h) fun _ => leaf _ e) (fun _ => leaf _ e) h

theorem attrSeq_small (c on : Bool) (code : Nat) (hc : code < 256) : SmallBytes 3 (attrSeq c on code) := by
  unfold attrSeq
  cases c <;> cases on <;> simp [SmallBytes] <;> omega

theorem colSeq_small (c : Bool) (lead rgba : Nat) (hl : lead < 256) : SmallBytes 3 (colSeq c lead rgba) := by
  unfold colSeq
  have := matchColor8_le rgba
  cases c <;> simp [SmallBytes] <;> omega

theorem closeSeq_small {n : Nat} {body : Bytes} (h : SmallBytes n body) : SmallBytes (n + 2) (closeSeq body) := by
  unfold closeSeq
  split
  · exact ⟨by simp, by simp⟩
  · next hne =>
    have hpos : 0 < body.length := by
      cases body with
      | nil => simp at hne
      | cons x xs => simp
    refine ⟨by simp; have := h.1; omega, ?_⟩
    intro x hx
    simp only [List.mem_append, List.mem_cons, List.not_mem_nil, or_false] at hx
    rcases hx with (h1 | h1) | h1
    · rcases h1 with rfl | rfl <;> decide
    · exact h.2 x (List.dropLast_subset _ h1)
    · rw [h1]; decide

/-- 21 = 3 (line size) + 2 (`ESC [`) + 1 (the `;` of a reset) + 3 * 3 (underline, bold, flash: `2`, code, `;`) + 2 * 3 (two colours);
the closing `m` takes the place of the last `;` -/
theorem ctlSeq_small {term : Nat} {cm : List Nat} {old this : Cell} {ctl : Bytes}
    (h : ctlSeq term cm old this = .ok (some ctl)) : SmallBytes 21 ctl := by
  unfold ctlSeq at h
  cases hs : sizeSeq old this with
  | none => simp [hs] at h
  | some sz =>
    simp only [hs] at h
    split at h
    · cases h
      have hr : ∀ (r : Bool), SmallBytes 1 (if r = true then [0x3B] else ([] : Bytes)) := by
        intro r; cases r <;> simp [SmallBytes]
      exact (sizeSeq_small hs).append (closeSeq_small
        ((((((hr _).append (attrSeq_small _ _ 0x34 (by decide))).append (attrSeq_small _ _ 0x31 (by decide))).append
          (attrSeq_small _ _ 0x35 (by decide))).append (colSeq_small _ 0x33 _ (by decide))).append (colSeq_small _ 0x34 _ (by decide))))
    · cases h

theorem printChar_ctl {term gfx : Nat} {cm : List Nat} {old c : Cell} {ctl a : Bytes} (ht : 0 < term) (hA : AtFits cfg conv)
    (hF : ConvFits cfg conv 11) (hc : ctlSeq term cm old c = .ok (some ctl))
    (he : encU cfg conv (substChar gfx c.unicode) = some a) :
    printChar cfg conv term gfx cm old c = .ok (.bytes (ctl ++ a)) := by
  obtain ⟨h0, h11, _⟩ := hF _ _ he
  have hl := (ctlSeq_small hc).1
  unfold printChar
  have hpu : printUnicode cfg conv (substChar gfx c.unicode) (textBufSize - ctl.length) = some a :=
    printUnicode_exact hA he (by show a.length ≤ 32 - ctl.length; omega)
  have hne' : ctl ++ a ≠ [] := by
    intro h
    have : a = [] := (List.append_eq_nil_iff.1 h).2
    rw [this] at h0; simp at h0
  have hnb : ¬ ctl.length > textBufSize := by show ¬ ctl.length > 32; omega
  simp [ht, hc, hnb, hpu, hne']

theorem printChar_skip {term gfx : Nat} {cm : List Nat} {old c : Cell} (ht : 0 < term)
    (hc : ctlSeq term cm old c = .ok none) : printChar cfg conv term gfx cm old c = .ok .skip := by
  unfold printChar
  simp [ht, hc]

theorem textRowOps_ctl {term gfx : Nat} {cm : List Nat} (ht : 0 < term) (hA : AtFits cfg conv) (hF : ConvFits cfg conv 11) :
    ∀ (cs : List Cell) (old : Cell) (e : Bytes), ctlRow cfg conv term gfx cm old cs = some e →
      ∃ ops, textRowOps cfg conv term gfx cm old cs = .ok (ops, lastCell old cs, true) ∧ output ops = e := by
  intro cs
  induction cs with
  | nil => intro old e h; simp [ctlRow] at h; subst h; exact ⟨[], by simp [textRowOps, lastCell], by simp [output]⟩
  | cons c cs ih =>
    intro old e h
    unfold ctlRow at h
    cases h1 : ctlSeq term cm old c with
    | error f => simp [h1] at h
    | ok o =>
      cases h2 : ctlRow cfg conv term gfx cm c cs with
      | none => cases o <;> simp [h1, h2] at h
      | some b =>
        obtain ⟨ops, hops, hout⟩ := ih c b h2
        cases o with
        | none =>
          simp only [h1, h2] at h
          cases h
          refine ⟨ops, ?_, hout⟩
          unfold textRowOps
          rw [printChar_skip ht h1]
          simp only [hops, lastCell_cons]
        | some ctl =>
          simp only [h1, h2] at h
          cases h3 : encU cfg conv (substChar gfx c.unicode) with
          | none => simp [h3] at h
          | some a =>
            simp only [h3, Option.map_some, Option.some.injEq] at h
            subst h
            refine ⟨charOps (ctl ++ a) ++ ops, ?_, ?_⟩
            · unfold textRowOps
              rw [printChar_ctl ht hA hF h1 h3]
              simp only [hops, lastCell_cons]
            · have hb : ∀ x ∈ ctl ++ a, x < 256 := by
                intro x hx
                rcases List.mem_append.1 hx with hx | hx
                · exact (ctlSeq_small h1).2 x hx
                · exact (hF _ _ h3).2.2 x hx
              rw [output_append, charOps_output hb, hout, List.append_assoc]

theorem textRowsOps_ctl {term gfx : Nat} {cm : List Nat} (ht : 0 < term) (hA : AtFits cfg conv) (hF : ConvFits cfg conv 11) :
    ∀ (rows : List (List Cell)) (old : Cell) (e : Bytes), rows ≠ [] → ctlText cfg conv term gfx cm old rows = some e →
      ∃ ops, textRowsOps cfg conv term gfx cm old rows = .ok (ops, true) ∧ output ops = e := by
  intro rows
  induction rows with
  | nil => intro old e hne; exact absurd rfl hne
  | cons r rs ih =>
    intro old e _ h
    cases rs with
    | nil =>
      simp only [ctlText] at h
      cases h1 : ctlRow cfg conv term gfx cm old r with
      | none => simp [h1] at h
      | some a =>
        simp only [h1, Option.map_some, Option.some.injEq] at h
        subst h
        obtain ⟨ops, hops, hout⟩ := textRowOps_ctl (gfx := gfx) (cm := cm) ht hA hF r old a h1
        refine ⟨ops ++ [.printf [esc, 0x5B, 0x6D, 0x0A]], ?_, ?_⟩
        · simp [textRowsOps, hops, ht]
        · rw [output_append, hout]; simp [output, opBytes]
    | cons r2 rs2 =>
      simp only [ctlText] at h
      cases h1 : ctlRow cfg conv term gfx cm old r with
      | none => simp [h1] at h
      | some a =>
        cases h2 : ctlText cfg conv term gfx cm (lastCell old r) (r2 :: rs2) with
        | none => simp [h1, h2] at h
        | some b =>
          simp only [h1, h2] at h
          cases h
          obtain ⟨ops, hops, hout⟩ := textRowOps_ctl (gfx := gfx) (cm := cm) ht hA hF r old a h1
          obtain ⟨ops2, hops2, hout2⟩ := ih (lastCell old r) b (by simp) h2
          refine ⟨ops ++ [.putc 0x0A] ++ ops2, ?_, ?_⟩
          · simp [textRowsOps, hops, hops2]
          · rw [output_append, output_append, hout2, hout]; simp [output, opBytes]

end
end Zvbi.Export
