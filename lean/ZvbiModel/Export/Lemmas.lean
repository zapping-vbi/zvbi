import ZvbiModel.Export.Spec
import ZvbiModel.Ite
/-! The write layer (C16).  `Inv cfg t0 size st acc`: the state is well formed (`Inv0`) and, while no error has been met, what reached
the sink plus what is buffered is `acc` (`Content`).  Every call keeps `Inv` with its bytes appended to `acc` and, without injected
failures, keeps a healthy state healthy (`Step`); `run_inv` says it for call lists, the `export*_spec` lemmas read it at the four
entry points. -/
namespace Zvbi.Export
open Zvbi.Export.Spec

theorem output_append (a b : List Op) : output (a ++ b) = output a ++ output b := by simp [output]
theorem output_nil : output [] = [] := rfl
theorem output_cons (a : Op) (b : List Op) : output (a :: b) = opBytes a ++ output b := by simp [output]

theorem storeAt_length {b : Bytes} {off : Nat} {src b' : Bytes} (h : storeAt b off src = some b') :
    b'.length = b.length := by
  unfold storeAt at h
  split at h
  · cases h; simp; omega
  · cases h

theorem storeAt_take {b : Bytes} {off : Nat} {src b' : Bytes} (h : storeAt b off src = some b') :
    b'.take off = b.take off := by
  unfold storeAt at h
  split at h
  · next hle =>
    cases h
    have : (List.take off b).length = off := by simp; omega
    rw [List.append_assoc, List.take_append_of_le_length (by omega)]
    simp [List.take_take]
  · cases h

theorem storeAt_take_end {b : Bytes} {off : Nat} {src b' : Bytes} (h : storeAt b off src = some b') :
    b'.take (off + src.length) = b.take off ++ src := by
  unfold storeAt at h
  split at h
  · next hle =>
    cases h
    have h1 : (List.take off b ++ src).length = off + src.length := by simp; omega
    rw [List.take_append_of_le_length (by omega)]
    rw [← h1, List.take_length]
  · cases h

theorem storeAt_isSome {b : Bytes} {off : Nat} {src : Bytes} (h : off + src.length ≤ b.length) :
    ∃ b', storeAt b off src = some b' := by
  unfold storeAt; simp [h]

theorem resize_length (b : Bytes) (n : Nat) : (resize b n).length = n := by
  unfold resize; simp; omega

theorem resize_take {b : Bytes} {n off : Nat} (h1 : off ≤ b.length) (h2 : off ≤ n) :
    (resize b n).take off = b.take off := by
  unfold resize
  rw [List.take_append_of_le_length (by simp; omega)]
  simp [List.take_take]; omega

theorem growVec_spec {env : Env} {old nb : Bytes} {minCap : Nat} (h : growVec env old minCap = some nb) :
    minCap ≤ nb.length ∧ ∀ off, off ≤ old.length → off ≤ minCap → nb.take off = old.take off := by
  simp only [growVec] at h
  generalize hnc : (if old.length ≥ 65536 then max minCap (old.length + 65536) else max minCap (old.length * 2)) = nc at h
  have hnc' : minCap ≤ nc := by subst hnc; split <;> omega
  by_cases h1 : fits env.heapLimit nc = true
  · simp only [h1, ite_true, Option.some.injEq] at h
    subst h
    exact ⟨by rw [resize_length]; exact hnc', fun off a b => resize_take a (by omega)⟩
  · by_cases h2 : nc ≤ minCap
    · simp [h1, h2] at h
    · by_cases h3 : fits env.heapLimit minCap = true
      · simp [h1, h2, h3] at h
        subst h
        exact ⟨by rw [resize_length]; omega, fun off a b => resize_take a b⟩
      · simp [h1, h2, h3] at h

def Healthy (st : St) : Prop := st.werr = false ∧ st.aborted = false ∧ st.fault = none

/-- structural invariant of the write layer state (`t0`, `size`: initial target and caller buffer size) -/
structure Inv0 (cfg : Cfg) (t0 : Target) (size : Nat) (st : St) : Prop where
  noOob : ∀ s, st.fault ≠ some (.oob s)
  memSink : isStream st.target = false → st.sink = []
  lenMem : st.target = .mem → st.buf.length = size
  lenUser : t0 = .mem → st.target = .alloc → st.user.length = size
  tgtMem : st.target = .mem → t0 = .mem
  tgtStream : isStream st.target = isStream t0
  /-- with the F12 repair `memcpy` never sees a NULL pointer -/
  noUb : cfg.nullGuard = true → st.ub = false

/-- refinement invariant: what was delivered so far plus what is buffered is the output so far -/
def Content (st : St) (acc : Bytes) : Prop :=
  Healthy st → st.offset ≤ st.buf.length ∧ st.sink ++ st.buf.take st.offset = acc

section steps
variable {cfg : Cfg} {env : Env} {t0 : Target} {size : Nat} {st : St} {acc : Bytes}

/-- what `_vbi_export_grow_buffer_space (e, n)`, called in state `st` inside the invariant, guarantees of its result `r` (state and
return value): on TRUE there is room for `n` more bytes and the data are as before; FALSE does not happen to a healthy state
unless `realloc` fails -/
structure GrowPost (cfg : Cfg) (env : Env) (t0 : Target) (size : Nat) (st : St) (acc : Bytes) (n : Nat) (r : St × Bool) : Prop where
  inv : Inv0 cfg t0 size r.1
  room : r.2 = true → Healthy r.1 ∧ r.1.offset = st.offset ∧ r.1.offset + n ≤ r.1.buf.length ∧
    r.1.sink ++ r.1.buf.take r.1.offset = acc
  fails : r.2 = false → env.heapLimit = none → Healthy st → False

theorem growSpace_spec (n : Nat)
    (h0 : Inv0 cfg t0 size st) (hc : Content st acc) (hf : st.fault = none) (ha : st.aborted = false) :
    GrowPost cfg env t0 size st acc n (growSpace cfg env st n) := by
  have key := @ite_ind (St × Bool) (GrowPost cfg env t0 size st acc n)
  have hv : ∀ old m, env.heapLimit = none → growVec env old m ≠ none := fun old m hl => by simp [growVec, hl, fits]
  have flt : ∀ a, Inv0 cfg t0 size { st with fault := some (.assertFail a) } := fun a => { h0 with noOob := by intro s; simp }
  unfold growSpace
  refine key (fun h1 => ⟨flt _, nofun, fun _ _ hh => by have := (hc hh).1; omega⟩) fun h1 =>
    key (fun hw => ⟨h0, nofun, fun _ _ hh => by rw [hh.1] at hw; cases hw⟩) fun hw => ?_
  have hh : Healthy st := ⟨by simpa using hw, ha, hf⟩
  have hcc := hc hh
  refine key (fun h2 => ⟨h0, fun _ => ⟨hh, rfl, show st.offset + n ≤ st.buf.length by omega, hcc.2⟩, nofun⟩) fun h2 =>
    key (fun h3 => ⟨flt _, nofun, fun _ _ _ => by omega⟩) fun h3 => key (fun hm => ?_) fun hm => ?_
  · have sw : Inv0 cfg t0 size { st with target := .alloc, user := st.buf, buf := [] } :=
      ⟨h0.noOob, fun _ => h0.memSink (by simp [hm, isStream]), nofun, fun _ _ => h0.lenMem hm, nofun,
        by have := h0.tgtStream; simp [hm, isStream] at this ⊢; exact this, h0.noUb⟩
    cases hg : growVec env [] (st.offset + n) with
    | none => exact ⟨sw, nofun, fun _ hl _ => hv _ _ hl hg⟩
    | some nb =>
      have hs := growVec_spec hg
      have hlen : (st.buf.take st.offset ++ nb.drop st.offset).length = nb.length := by simp; omega
      refine ⟨{ sw with lenMem := nofun, noUb := fun hg => by simp [hg, h0.noUb hg] }, fun _ => ⟨by simp [Healthy, ha, hf, hh.1], rfl, ?_, ?_⟩, nofun⟩
      · show st.offset + n ≤ (st.buf.take st.offset ++ nb.drop st.offset).length
        rw [hlen]; exact hs.1
      · show st.sink ++ (st.buf.take st.offset ++ nb.drop st.offset).take st.offset = acc
        rw [List.take_append_of_le_length (by simp; omega)]
        simp [List.take_take]
        exact hcc.2
  · cases hg : growVec env st.buf (st.offset + n) with
    | none => exact ⟨h0, nofun, fun _ hl _ => hv _ _ hl hg⟩
    | some nb =>
      have hs := growVec_spec hg
      refine ⟨{ h0 with lenMem := fun h => absurd h hm, tgtMem := fun h => absurd h hm }, fun _ => ⟨hh, rfl, hs.1, ?_⟩, nofun⟩
      show st.sink ++ nb.take st.offset = acc
      rw [hs.2 st.offset (by omega) (by omega)]; exact hcc.2

theorem Content_of_werr (h : st.werr = true) : Content st acc := by
  intro hh; rw [hh.1] at h; cases h
theorem Content_of_aborted (h : st.aborted = true) : Content st acc := by
  intro hh; rw [hh.2.1] at h; cases h
theorem Content_of_fault {st : St} {acc : Bytes} (h : st.fault ≠ none) : Content st acc := by
  intro hh; exact absurd hh.2.2 h

theorem Inv0.werr (h : Inv0 cfg t0 size st) : Inv0 cfg t0 size { st with werr := true } := { h with }
theorem Inv0.aborted (h : Inv0 cfg t0 size st) : Inv0 cfg t0 size { st with aborted := true } := { h with }
theorem Inv0.setUb {x : Bool} (h : Inv0 cfg t0 size st) (hx : cfg.nullGuard = true → x = st.ub) : Inv0 cfg t0 size { st with ub := x } :=
  { h with noUb := fun hg => (hx hg).trans (h.noUb hg) }
theorem Inv0.setBuf {b : Bytes} (h : Inv0 cfg t0 size st) (hb : b.length = st.buf.length) : Inv0 cfg t0 size { st with buf := b } :=
  { h with lenMem := fun hm => hb.trans (h.lenMem hm) }

theorem append_inv {src : Bytes} {site : String}
    (h0 : Inv0 cfg t0 size st) (hh : Healthy st) (hfit : st.offset + src.length ≤ st.buf.length)
    (hc : st.sink ++ st.buf.take st.offset = acc) :
    Inv0 cfg t0 size (append st src site) ∧ Content (append st src site) (acc ++ src) ∧ Healthy (append st src site) := by
  obtain ⟨b, hb⟩ := storeAt_isSome hfit
  unfold append
  rw [hb]
  have hl := storeAt_length hb
  refine ⟨{ h0.setBuf hl with }, ?_, hh⟩
  · intro _
    refine ⟨?_, ?_⟩
    · show st.offset + src.length ≤ b.length; omega
    · show st.sink ++ b.take (st.offset + src.length) = acc ++ src
      rw [storeAt_take_end hb, ← List.append_assoc, hc]

theorem sinkWrite_fields {bs : Bytes} :
    ∃ x, (sinkWrite env st bs).1 = { st with sink := x } := by
  unfold sinkWrite
  split
  · exact ⟨_, rfl⟩
  · split <;> exact ⟨_, rfl⟩

theorem sinkWrite_inv0 {bs : Bytes}
    (h0 : Inv0 cfg t0 size st) (hs : isStream st.target = true) : Inv0 cfg t0 size (sinkWrite env st bs).1 := by
  obtain ⟨x, hx⟩ := sinkWrite_fields (env := env) (st := st) (bs := bs)
  rw [hx]
  exact { h0 with memSink := by intro h; rw [hs] at h; cases h }

theorem sinkWrite_ok {bs : Bytes} (h : (sinkWrite env st bs).2 = true) :
    (sinkWrite env st bs).1 = { st with sink := st.sink ++ bs } := by
  unfold sinkWrite at h ⊢
  cases hl : env.sinkLimit with
  | none => rfl
  | some l =>
    simp only [hl] at h ⊢
    by_cases hc : st.sink.length + bs.length ≤ l
    · simp [hc]
    · simp [hc] at h

theorem fastFlush_spec
    (h0 : Inv0 cfg t0 size st) (hh : Healthy st) (hs : isStream st.target = true)
    (hc : st.offset ≤ st.buf.length ∧ st.sink ++ st.buf.take st.offset = acc) :
    Inv0 cfg t0 size (fastFlush env st).1 ∧
    ((fastFlush env st).2 = true →
      Healthy (fastFlush env st).1 ∧ (fastFlush env st).1.offset = 0 ∧ (fastFlush env st).1.sink = acc ∧
      (fastFlush env st).1.target = st.target ∧ (fastFlush env st).1.buf = st.buf) ∧
    ((fastFlush env st).2 = false → (fastFlush env st).1.werr = true) := by
  unfold fastFlush
  by_cases hz : st.offset > 0
  · simp only [hz, ite_true]
    have hi := sinkWrite_inv0 (env := env) (bs := st.buf.take st.offset) h0 hs
    cases hok : (sinkWrite env st (st.buf.take st.offset)).2 with
    | true =>
      simp only [ite_true]
      have he := sinkWrite_ok hok
      refine ⟨?_, ?_, (by intro h; cases h)⟩
      · exact { hi with }
      · intro _
        rw [he]
        refine ⟨hh, ?_, ?_, ?_, ?_⟩
        · trivial
        · exact hc.2
        · trivial
        · trivial
    | false =>
      simp only [Bool.false_eq_true, ite_false]
      exact ⟨hi.werr, (by intro h; cases h), (fun _ => by trivial)⟩
  · simp only [hz, ite_false]
    have hz' : st.offset = 0 := by omega
    refine ⟨h0, ?_, (by intro h; cases h)⟩
    intro _
    refine ⟨hh, hz', ?_, (by trivial), (by trivial)⟩
    have := hc.2; rw [hz'] at this; simpa using this

def Inv (cfg : Cfg) (t0 : Target) (size : Nat) (st : St) (acc : Bytes) : Prop := Inv0 cfg t0 size st ∧ Content st acc

def Unl (env : Env) : Prop := env.heapLimit = none ∧ env.sinkLimit = none

/-- what every call of the write layer guarantees: the invariant with the call's bytes appended, and, without injected
failures, a healthy state stays healthy -/
def Step (cfg : Cfg) (env : Env) (t0 : Target) (size : Nat) (st st' : St) (acc' : Bytes) : Prop :=
  Inv cfg t0 size st' acc' ∧ (Unl env → Healthy st → Healthy st')

theorem vsn_spec {b : Bytes} {off avail : Nat} {s : Bytes} (h : off + avail ≤ b.length) :
    ∃ b1, vsn b off avail s = some b1 ∧ b1.length = b.length ∧ b1.take off = b.take off ∧
      (s.length < avail → b1.take (off + s.length) = b.take off ++ s) := by
  unfold vsn
  by_cases hz : avail = 0
  · simp only [hz, ite_true]
    exact ⟨b, rfl, rfl, rfl, by intro h; omega⟩
  · simp only [hz, ite_false]
    have hlen : (s.take (avail - 1) ++ [0]).length ≤ avail := by simp; omega
    obtain ⟨b1, hb1⟩ := storeAt_isSome (b := b) (off := off) (src := s.take (avail - 1) ++ [0]) (by omega)
    refine ⟨b1, hb1, storeAt_length hb1, storeAt_take hb1, ?_⟩
    intro hs
    have hst : s.take (avail - 1) = s := List.take_of_length_le (by omega)
    have he := storeAt_take_end hb1
    rw [hst] at he
    have : b1.take (off + s.length) = (b1.take (off + (s ++ [0]).length)).take (off + s.length) := by
      rw [List.take_take]; congr 1; simp; 
    rw [this, he, ← List.append_assoc, List.take_append_of_le_length (by simp; omega)]
    have h2 : (List.take off b ++ s).length = off + s.length := by simp; omega
    rw [← h2, List.take_length]

theorem sinkWrite_unlimited (bs : Bytes) (hl : env.sinkLimit = none) : (sinkWrite env st bs).2 = true := by
  simp [sinkWrite, hl]

theorem fastFlush_unlimited (hl : env.sinkLimit = none) : (fastFlush env st).2 = true := by
  unfold fastFlush
  by_cases hz : st.offset > 0
  · simp [hz, sinkWrite_unlimited (env := env) (st := st) _ hl]
  · simp [hz]

theorem grow_fail_step {n : Nat} {acc' : Bytes} {r : St} (h0 : Inv0 cfg t0 size st) (hc : Content st acc)
    (hf : st.fault = none) (ha : st.aborted = false)
    (hok : (growSpace cfg env st n).2 = false) (hi : Inv0 cfg t0 size (growSpace cfg env st n).1 → Inv0 cfg t0 size r) (hr : Content r acc') :
    Step cfg env t0 size st r acc' :=
  ⟨⟨hi (growSpace_spec n h0 hc hf ha).inv, hr⟩, fun hu hh => ((growSpace_spec n h0 hc hf ha).fails hok hu.1 hh).elim⟩

theorem grow_append_inv (n : Nat) (bs : Bytes) (site : String) (x : St → Bool) (hn : bs.length ≤ n)
    (hx : cfg.nullGuard = true → ∀ r : St, x r = r.ub) (h0 : Inv0 cfg t0 size st) (hc : Content st acc) (hf : st.fault = none) (ha : st.aborted = false)
    (hok : (growSpace cfg env st n).2 = true) :
    Step cfg env t0 size st (append { (growSpace cfg env st n).1 with ub := x (growSpace cfg env st n).1 } bs site) (acc ++ bs) := by
  obtain ⟨i0, hT, _⟩ := growSpace_spec (env := env) n h0 hc hf ha
  obtain ⟨hh, _, hfit, hcont⟩ := hT hok
  have := append_inv (src := bs) (site := site) (i0.setUb fun hg => hx hg _) hh
    (by show (growSpace cfg env st n).1.offset + bs.length ≤ (growSpace cfg env st n).1.buf.length; omega) hcont
  exact ⟨⟨this.1, this.2.1⟩, fun _ _ => this.2.2⟩

theorem putc_inv (c : Nat) (h0 : Inv0 cfg t0 size st) (hc : Content st acc) (hf : st.fault = none) (ha : st.aborted = false) :
    Step cfg env t0 size st (putc cfg env st c) (acc ++ [c % 256]) := by
  unfold putc
  exact ite_ind (P := fun r => Step cfg env t0 size st r (acc ++ [c % 256]))
    (fun hok => grow_append_inv 1 [c % 256] _ (fun r => r.ub) (Nat.le_refl _) (fun _ _ => rfl) h0 hc hf ha hok)
    (fun hok => grow_fail_step h0 hc hf ha (by simpa using hok) Inv0.werr (Content_of_werr rfl))

theorem stream_write_inv (bs : Bytes) (h0 : Inv0 cfg t0 size st) (hc : Content st acc) (hh : Healthy st)
    (hs : isStream st.target = true) :
    Step cfg env t0 size st
      (if (fastFlush env st).2 = true then
        (if (sinkWrite env (fastFlush env st).1 bs).2 = true then (sinkWrite env (fastFlush env st).1 bs).1
         else { (sinkWrite env (fastFlush env st).1 bs).1 with werr := true })
       else (fastFlush env st).1) (acc ++ bs) := by
  have key := @ite_ind St (fun r => Step cfg env t0 size st r (acc ++ bs))
  obtain ⟨i1, hT, hF⟩ := fastFlush_spec (env := env) h0 hh hs (hc hh)
  refine key (fun hok => ?_) fun hok =>
    ⟨⟨i1, Content_of_werr (hF (by simpa using hok))⟩, fun hu _ => absurd (fastFlush_unlimited hu.2) hok⟩
  obtain ⟨hh1, ho1, hs1, ht1, _⟩ := hT hok
  have i2 := sinkWrite_inv0 (env := env) (bs := bs) i1 (by rw [ht1]; exact hs)
  refine key (fun hok2 => ?_) fun hok2 =>
    ⟨⟨i2.werr, Content_of_werr rfl⟩, fun hu _ => absurd (sinkWrite_unlimited bs hu.2) hok2⟩
  refine ⟨⟨i2, ?_⟩, fun _ _ => by rw [sinkWrite_ok hok2]; exact hh1⟩
  rw [sinkWrite_ok hok2]
  intro _
  refine ⟨?_, ?_⟩
  · show (fastFlush env st).1.offset ≤ _; omega
  · show ((fastFlush env st).1.sink ++ bs) ++ (fastFlush env st).1.buf.take (fastFlush env st).1.offset = acc ++ bs
    rw [ho1, hs1]; simp

theorem write_inv (bs : Bytes) (h0 : Inv0 cfg t0 size st) (hc : Content st acc) (hf : st.fault = none) (ha : st.aborted = false) :
    Step cfg env t0 size st (write cfg env st bs) (acc ++ bs) := by
  have key := @ite_ind St (fun r => Step cfg env t0 size st r (acc ++ bs))
  unfold write
  exact key (fun hw => ⟨⟨h0, Content_of_werr hw⟩, fun _ hh => hh⟩) fun hw =>
    key (fun hbig => stream_write_inv bs h0 hc ⟨by simpa using hw, ha, hf⟩ (by simp at hbig; exact hbig.1)) fun _ =>
    key (fun hok => grow_append_inv bs.length bs _ (fun r => r.ub || (r.dataNull && bs.isEmpty && !cfg.nullGuard)) (Nat.le_refl _)
        (fun hg r => by simp [hg]) h0 hc hf ha hok)
      (fun hok => grow_fail_step h0 hc hf ha (by simpa using hok) Inv0.werr (Content_of_werr rfl))

theorem flush_inv (h0 : Inv0 cfg t0 size st) (hc : Content st acc) (hf : st.fault = none) (ha : st.aborted = false) :
    Step cfg env t0 size st (flush env st) acc := by
  have key := @ite_ind St (fun r => Step cfg env t0 size st r acc)
  unfold flush
  refine key (fun _ => ⟨⟨h0, hc⟩, fun _ hh => hh⟩) fun hw => key (fun hs => ?_) fun _ => ⟨⟨h0, hc⟩, fun _ hh => hh⟩
  have hh : Healthy st := ⟨by simpa using hw, ha, hf⟩
  obtain ⟨i1, hT, hF⟩ := fastFlush_spec (env := env) h0 hh hs (hc hh)
  refine ⟨⟨i1, ?_⟩, fun hu _ => (hT (fastFlush_unlimited hu.2)).1⟩
  cases hok : (fastFlush env st).2 with
  | false => exact Content_of_werr (hF hok)
  | true =>
    obtain ⟨_, ho1, hs1, _, _⟩ := hT hok
    intro _
    refine ⟨by omega, ?_⟩
    rw [ho1, hs1]; simp

theorem direct_inv (n : Nat) (bs : Bytes) (h0 : Inv0 cfg t0 size st) (hc : Content st acc) (hf : st.fault = none) (ha : st.aborted = false) :
    Step cfg env t0 size st (direct cfg env st n bs) (acc ++ bs.take n) := by
  have key := @ite_ind St (fun r => Step cfg env t0 size st r (acc ++ bs.take n))
  unfold direct
  refine key (fun hok => key (fun he => ?_) fun _ => ?_) fun hok =>
    grow_fail_step h0 hc hf ha (by simpa using hok) Inv0.aborted (Content_of_aborted rfl)
  · obtain ⟨i0, hT, _⟩ := growSpace_spec (env := env) n h0 hc hf ha
    obtain ⟨hh, _, hfit, hcont⟩ := hT hok
    rw [show bs.take n = [] by simpa using he, List.append_nil]
    exact ⟨⟨i0, fun _ => ⟨by omega, hcont⟩⟩, fun _ _ => hh⟩
  · exact grow_append_inv n (bs.take n) _ (fun r => r.ub) (by simp; omega) (fun _ _ => rfl) h0 hc hf ha hok

theorem printf_inv (s : Bytes) (h0 : Inv0 cfg t0 size st) (hc : Content st acc) (hf : st.fault = none) (ha : st.aborted = false) :
    Step cfg env t0 size st (printf cfg env st s) (acc ++ s) := by
  have key := @ite_ind St (fun r => Step cfg env t0 size st r (acc ++ s))
  unfold printf
  refine key (fun hw => ⟨⟨h0, Content_of_werr hw⟩, fun _ hh => hh⟩) fun hw => ?_
  have hw' : st.werr = false := by simpa using hw
  have hh : Healthy st := ⟨hw', ha, hf⟩
  refine key (fun hfp => stream_write_inv (env := env) s h0 hc hh (by rw [hfp]; rfl)) fun _ => ?_
  obtain ⟨hle, hcont⟩ := hc hh
  obtain ⟨b1, hv1, hl1, ht1, he1⟩ :=
    vsn_spec (b := st.buf) (off := st.offset) (avail := st.buf.length - st.offset) (s := s) (by omega)
  simp only [hv1]
  have i1 : Inv0 cfg t0 size { st with buf := b1 } :=
    h0.setBuf hl1
  refine key (fun hfit => ?_) fun _ => ?_
  · refine ⟨⟨{ i1 with }, fun _ => ⟨?_, ?_⟩⟩, fun _ _ => hh⟩
    · show st.offset + s.length ≤ b1.length; omega
    · show st.sink ++ b1.take (st.offset + s.length) = acc ++ s
      rw [he1 hfit, ← List.append_assoc, hcont]
  · have c1 : Content { st with buf := b1 } acc := fun _ =>
      ⟨(by show st.offset ≤ b1.length; omega), (by show st.sink ++ b1.take st.offset = acc; rw [ht1]; exact hcont)⟩
    obtain ⟨i2, hT, hF⟩ := growSpace_spec (env := env) (s.length + 1) i1 c1 hf ha
    refine key (fun hok => ?_) fun hok => ⟨⟨i2.werr, Content_of_werr rfl⟩,
      fun hu _ => (hF (by simpa using hok) hu.1 hh).elim⟩
    obtain ⟨hh2, ho2, hfit2, hcont2⟩ := hT hok
    generalize (growSpace cfg env { st with buf := b1 } (s.length + 1)).1 = r at *
    have ho2' : r.offset = st.offset := ho2
    obtain ⟨b2, hv2, hl2, ht2, he2⟩ :=
      vsn_spec (b := r.buf) (off := st.offset) (avail := r.buf.length - st.offset) (s := s) (by omega)
    simp only [hv2]
    have hfit3 : s.length < r.buf.length - st.offset := by omega
    simp only [hfit3, ite_true]
    refine ⟨⟨{ i2.setBuf hl2 with }, fun _ => ⟨?_, ?_⟩⟩, fun _ _ => hh2⟩
    · show st.offset + s.length ≤ b2.length; omega
    · show r.sink ++ b2.take (st.offset + s.length) = acc ++ s
      rw [he2 hfit3, ← List.append_assoc, ← ho2', hcont2]

theorem step_inv (op : Op) (hI : Inv cfg t0 size st acc) : Step cfg env t0 size st (step cfg env st op) (acc ++ opBytes op) := by
  unfold step
  by_cases hg : (st.fault.isSome || st.aborted) = true
  · simp only [hg, ite_true]
    refine ⟨⟨hI.1, ?_⟩, fun _ hh => hh⟩
    intro hh
    rw [hh.2.1, hh.2.2] at hg
    simp at hg
  · simp only [hg, Bool.false_eq_true, ite_false]
    have hf : st.fault = none := by
      cases h : st.fault with
      | none => rfl
      | some f => rw [h] at hg; simp at hg
    have ha : st.aborted = false := by
      cases h : st.aborted with
      | false => rfl
      | true => rw [h] at hg; simp at hg
    cases op with
    | putc c => exact putc_inv c hI.1 hI.2 hf ha
    | write bs => exact write_inv bs hI.1 hI.2 hf ha
    | putsNull => exact ⟨by simpa [opBytes] using hI, fun _ hh => hh⟩
    | puts bs => exact write_inv bs hI.1 hI.2 hf ha
    | printf bs => exact printf_inv bs hI.1 hI.2 hf ha
    | flush =>
      rw [show opBytes Op.flush = [] from rfl, List.append_nil]
      exact flush_inv (env := env) hI.1 hI.2 hf ha
    | direct n bs => exact direct_inv n bs hI.1 hI.2 hf ha

theorem run_inv (ops : List Op) : ∀ (st : St) (acc : Bytes), Inv cfg t0 size st acc →
    Step cfg env t0 size st (run cfg env st ops) (acc ++ output ops) := by
  induction ops with
  | nil => intro st acc h; exact ⟨by simpa [run, output] using h, fun _ hh => by simpa [run] using hh⟩
  | cons op rest ih =>
    intro st acc h
    obtain ⟨h1, n1⟩ := step_inv (cfg := cfg) (env := env) op h
    obtain ⟨h2, n2⟩ := ih (step cfg env st op) (acc ++ opBytes op) h1
    exact ⟨by simpa [run, output, List.append_assoc] using h2, fun hu hh => by simpa [run] using n2 hu (n1 hu hh)⟩

theorem init_inv (t : Target) (buf : Bytes) (un : Bool) : Inv cfg t buf.length (init t buf un) [] ∧ Healthy (init t buf un) := by
  refine ⟨⟨⟨?_, ?_, ?_, ?_, ?_, ?_, fun _ => rfl⟩, ?_⟩, ?_⟩
  · intro s; simp [init]
  · intro _; rfl
  · intro _; rfl
  · intro h1 h2; simp [init] at h2; rw [h1] at h2; cases h2
  · intro h; exact h
  · rfl
  · intro _; simp [init]
  · exact ⟨rfl, rfl, rfl⟩

theorem success_iff_healthy (st : St) : st.success = true ↔ Healthy st := by
  unfold St.success Healthy
  cases st.werr <;> cases st.aborted <;> cases st.fault <;> simp

theorem flush_flags (env : Env) (st : St) : (flush env st).aborted = st.aborted ∧ (flush env st).fault = st.fault := by
  unfold flush
  split
  · exact ⟨rfl, rfl⟩
  · split
    · unfold fastFlush
      split
      · obtain ⟨x, hx⟩ := sinkWrite_fields (env := env) (st := st) (bs := st.buf.take st.offset)
        cases hb : (sinkWrite env st (List.take st.offset st.buf)).2 <;> simp [hx, hb]
      · exact ⟨rfl, rfl⟩
    · exact ⟨rfl, rfl⟩

theorem flush_stream_ok
    (h0 : Inv0 cfg t0 size st) (hc : Content st acc) (hh : Healthy st) (hs : isStream st.target = true)
    (hw : (flush env st).werr = false) : (flush env st).sink = acc := by
  unfold flush at hw ⊢
  have hw0 : ¬ st.werr = true := by rw [hh.1]; simp
  rw [if_neg hw0] at hw ⊢
  simp only [hs, ite_true] at hw ⊢
  obtain ⟨_, hT, hF⟩ := fastFlush_spec (env := env) h0 hh hs (hc hh)
  cases hok : (fastFlush env st).2 with
  | true => exact (hT hok).2.2.1
  | false => rw [hF hok] at hw; cases hw

theorem run_init (cfg : Cfg) (env : Env) (t : Target) (buf : Bytes) (un : Bool) (ops : List Op) :
    Inv cfg t buf.length (run cfg env (init t buf un) ops) (output ops) := by
  have := (run_inv (cfg := cfg) (env := env) ops (init t buf un) [] (init_inv t buf un).1).1
  simpa using this

theorem run_init_healthy (cfg : Cfg) {env : Env} (hu : Unl env) (t : Target) (buf : Bytes) (un : Bool) (ops : List Op) :
    Healthy (run cfg env (init t buf un) ops) :=
  (run_inv (cfg := cfg) ops (init t buf un) [] (init_inv (cfg := cfg) t buf un).1).2 hu (init_inv (cfg := cfg) t buf un).2

theorem nonstream_cases (h0 : Inv0 cfg t0 size st) (ht : isStream t0 = false) :
    st.target = .mem ∨ st.target = .alloc := by
  have := h0.tgtStream; rw [ht] at this
  cases h : st.target <;> simp [h, isStream] at this ⊢

end steps

section targets
variable (cfg : Cfg) (env : Env) (ops : List Op)

/-- the final `vbi_export_flush` of the stream targets, after a successful exporter -/
theorem final_flush (t : Target) (ht : isStream t = true) (hs : (run cfg env (init t [] false) ops).success = true) :
    Inv0 cfg t 0 (flush env (run cfg env (init t [] false) ops)) ∧
    ((flush env (run cfg env (init t [] false) ops)).werr = false →
      (flush env (run cfg env (init t [] false) ops)).sink = output ops) ∧
    (Unl env → (flush env (run cfg env (init t [] false) ops)).werr = false) := by
  have hI := run_init cfg env t [] false ops
  have hh := (success_iff_healthy _).1 hs
  have hf := flush_inv (env := env) hI.1 hI.2 hh.2.2 hh.2.1
  exact ⟨hf.1.1, flush_stream_ok hI.1 hI.2 hh (hI.1.tgtStream.trans ht), fun hu => (hf.2 hu hh).1⟩

theorem exportStdio_spec :
    ((exportStdio cfg env ops).ok = true → (exportStdio cfg env ops).sink = some (output ops)) ∧
    (Unl env → (exportStdio cfg env ops).ok = true) ∧
    (cfg.nullGuard = true → (exportStdio cfg env ops).st.ub = false) := by
  have hI := run_init cfg env .fp [] false ops
  refine ite_ind (P := fun r : StreamResult => (r.ok = true → r.sink = some (output ops)) ∧ (Unl env → r.ok = true) ∧
      (cfg.nullGuard = true → r.st.ub = false)) (fun hs => ?_)
    fun hs => ⟨(fun h => by cases h), fun hu => absurd ((success_iff_healthy _).2 (run_init_healthy cfg hu _ _ _ ops)) hs, hI.1.noUb⟩
  obtain ⟨i, hk, hu⟩ := final_flush cfg env ops .fp rfl hs
  exact ⟨fun hok => by rw [hk (by simpa using hok)], fun h => by simp [hu h], i.noUb⟩

theorem exportFile_spec :
    ((exportFile cfg env ops).ok = true → (exportFile cfg env ops).sink = some (output ops)) ∧
    ((exportFile cfg env ops).ok = false → (exportFile cfg env ops).sink = none) ∧
    (Unl env → (exportFile cfg env ops).ok = true) ∧
    (cfg.nullGuard = true → (exportFile cfg env ops).st.ub = false) := by
  have hI := run_init cfg env .file [] false ops
  refine ite_ind (P := fun r : StreamResult => (r.ok = true → r.sink = some (output ops)) ∧ (r.ok = false → r.sink = none) ∧
      (Unl env → r.ok = true) ∧ (cfg.nullGuard = true → r.st.ub = false)) (fun hs => ?_)
    fun hs => ⟨(fun h => by cases h), fun _ => rfl,
      fun hu => absurd ((success_iff_healthy _).2 (run_init_healthy cfg hu _ _ _ ops)) hs, hI.1.noUb⟩
  obtain ⟨i, hk, hu⟩ := final_flush cfg env ops .file rfl hs
  refine ⟨fun hok => ?_, fun hok => ?_, fun h => by simp [hu h], i.noUb⟩
  · have hw : (flush env (run cfg env (init .file [] false) ops)).werr = false := by simpa using hok
    simp only [hw, Bool.false_eq_true, ite_false, hk hw]
  · have hw : (flush env (run cfg env (init .file [] false) ops)).werr = true := by simpa using hok
    simp [hw]

theorem exportAlloc_spec :
    (∀ d, (exportAlloc cfg env ops).data = some d → d = output ops) ∧
    (Unl env → output ops ≠ [] → (exportAlloc cfg env ops).data = some (output ops)) ∧
    (cfg.nullGuard = true → (exportAlloc cfg env ops).st.ub = false) := by
  have hI := run_init cfg env .alloc [] false ops
  have a := @ite_ind AllocResult (fun r => (∀ d, r.data = some d → d = output ops) ∧
    (Unl env → output ops ≠ [] → r.data = some (output ops)) ∧ (cfg.nullGuard = true → r.st.ub = false))
  refine a (fun hs => ?_) fun hs => ⟨(fun _ h => by cases h),
    fun hu => absurd ((success_iff_healthy _).2 (run_init_healthy cfg hu _ _ _ ops)) hs, hI.1.noUb⟩
  obtain ⟨hle, hcont⟩ := hI.2 ((success_iff_healthy _).1 hs)
  rw [hI.1.memSink (by rcases nonstream_cases hI.1 rfl with h | h <;> simp [h, isStream]), List.nil_append] at hcont
  refine a (fun hz => ?_) fun _ => ⟨(fun d h => by cases h; exact hcont), (fun _ _ => by rw [hcont]), hI.1.noUb⟩
  have he : output ops = [] := by rw [← hcont, hz]; rfl
  have no : ∀ st : St, st.ub = (run cfg env (init .alloc [] false) ops).ub →
      (∀ d, (⟨none, st⟩ : AllocResult).data = some d → d = output ops) ∧
      (Unl env → output ops ≠ [] → (⟨none, st⟩ : AllocResult).data = some (output ops)) ∧
      (cfg.nullGuard = true → (⟨none, st⟩ : AllocResult).st.ub = false) := fun _ hub =>
    ⟨(fun _ h => by cases h), fun _ hne => absurd he hne, fun hg => hub.trans (hI.1.noUb hg)⟩
  exact a (fun _ => no _ rfl) fun _ => a (fun _ => no _ rfl)
    fun _ => ⟨(fun d h => by cases h; exact he.symm), fun _ hne => absurd he hne, hI.1.noUb⟩

theorem exportMem_spec (user : Option Bytes) :
    (exportMem cfg env user ops).user.length = (user.getD []).length ∧
    (∀ n, (exportMem cfg env user ops).ret = some n →
      n = (output ops).length ∧
      (exportMem cfg env user ops).user.take (min n (user.getD []).length) = (output ops).take (user.getD []).length) ∧
    (Unl env → (exportMem cfg env user ops).ret = some (output ops).length) ∧
    (cfg.nullGuard = true → (exportMem cfg env user ops).st.ub = false) := by
  have hI := run_init cfg env .mem (user.getD []) user.isNone ops
  have hH := fun hu => (success_iff_healthy _).2 (run_init_healthy cfg (env := env) hu .mem (user.getD []) user.isNone ops)
  have hcases := nonstream_cases hI.1 rfl
  unfold exportMem
  generalize run cfg env (init .mem (user.getD []) user.isNone) ops = st at *
  have hmem : ¬ st.target = .alloc → st.buf.length = (user.getD []).length := fun ha =>
    hI.1.lenMem (hcases.resolve_right ha)
  have huser := hI.1.lenUser rfl
  have m := @ite_ind MemResult (fun r => r.user.length = (user.getD []).length ∧ (∀ n, r.ret = some n →
    n = (output ops).length ∧ r.user.take (min n (user.getD []).length) = (output ops).take (user.getD []).length) ∧
    (Unl env → r.ret = some (output ops).length) ∧ (cfg.nullGuard = true → r.st.ub = false))
  refine m (fun hs => ?_) fun hs => ⟨ite_ind (P := fun l : Bytes => l.length = _) huser hmem, (fun n hn => by cases hn),
    fun hu => absurd (hH hu) hs, hI.1.noUb⟩
  obtain ⟨hle, hcont⟩ := hI.2 ((success_iff_healthy st).1 hs)
  rw [hI.1.memSink (by rcases hcases with h | h <;> simp [h, isStream]), List.nil_append] at hcont
  have hlen : (output ops).length = st.offset := by rw [← hcont]; simp; omega
  refine m (fun ha => ⟨by simp; have := huser ha; omega, fun n hn => ?_, (fun _ => by rw [hlen]), fun hg => by simp [hg, hI.1.noUb hg]⟩)
    fun ha => ⟨hmem ha, fun n hn => ?_, (fun _ => by rw [hlen]), hI.1.noUb⟩
  · cases hn
    refine ⟨hlen.symm, ?_⟩
    rw [← huser ha, List.take_append_of_le_length (by simp; omega), List.take_take, ← hcont, List.take_take]
    congr 1; omega
  · cases hn
    refine ⟨hlen.symm, ?_⟩
    rw [← hmem ha, ← hcont, List.take_take]
    congr 1; omega

end targets

end Zvbi.Export
