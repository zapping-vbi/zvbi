import ZvbiModel.Export.Page
/-! The region cell matrix (`regionCells`, read by the print functions, the renderers and the export modules) through `mapE`,
and two facts about sums over lists. -/
namespace Zvbi.Export

theorem sum_map_const {α : Type} (l : List α) (f : α → Nat) (n : Nat) (h : ∀ a ∈ l, f a = n) : (l.map f).sum = l.length * n := by
  induction l with
  | nil => simp
  | cons a as ih => simp [ih (fun q hq => h q (by simp [hq])), h a (by simp), Nat.succ_mul, Nat.add_comm]

theorem flatMap_length_const {α β : Type} (l : List α) (f : α → List β) (n : Nat) (h : ∀ a ∈ l, (f a).length = n) :
    (l.flatMap f).length = l.length * n := by
  rw [List.length_flatMap]; exact sum_map_const l _ n h

theorem mapE_ok {β : Type} (f : Nat → Except Fault β) : ∀ (l : List Nat) (ys : List β), mapE f l = .ok ys → l.map f = ys.map .ok := by
  intro l
  induction l with
  | nil => intro ys h; simp [mapE] at h; subst h; rfl
  | cons x xs ih =>
    intro ys h
    unfold mapE at h
    cases hx : f x with
    | error e => simp [hx] at h
    | ok y =>
      simp only [hx] at h
      cases hxs : mapE f xs with
      | error e => simp [hxs] at h
      | ok ys' =>
        simp only [hxs] at h
        cases h
        simp [hx, ih ys' hxs]

theorem mapE_length {β : Type} (f : Nat → Except Fault β) (l : List Nat) (ys : List β) (h : mapE f l = .ok ys) : ys.length = l.length := by
  simpa using (congrArg List.length (mapE_ok f l ys h)).symm

theorem mapE_getElem {β : Type} (f : Nat → Except Fault β) (l : List Nat) (ys : List β) (h : mapE f l = .ok ys)
    (i : Nat) (hi : i < ys.length) (hl : i < l.length) : f l[i] = .ok ys[i] := by
  have e := List.getElem_of_eq (mapE_ok f l ys h) (by simpa using hl)
  simpa using e

theorem mapE_error {β : Type} (g : Nat → Except Fault β) (E : Fault) (hg : ∀ x e, g x = .error e → e = E) :
    ∀ (l : List Nat) (e : Fault), mapE g l = .error e → e = E := by
  intro l
  induction l with
  | nil => intro e h; simp [mapE] at h
  | cons x xs ih =>
    intro e h
    unfold mapE at h
    split at h
    · next e' he => cases h; exact hg x _ he
    · split at h
      · next e' he => cases h; exact ih _ he
      · cases h

theorem cellAt_error {pg : Page} {y x : Nat} {f : Fault} (h : cellAt pg y x = .error f) : f = .oob "pg->text" := by
  unfold cellAt at h
  dsimp only at h
  split at h
  · split at h
    · cases h
    · cases h; rfl
  · cases h; rfl

/-- element of the region cell matrix = the checked read of `pg->text` -/
theorem regionCells_getElem {pg : Page} {col row w h : Nat} {cells : List (List (Nat × Cell))}
    (hc : regionCells pg col row w h = .ok cells) (ry cx : Nat) (hry : ry < cells.length) (hcx : cx < cells[ry].length) :
    cellAt pg (row + ry) (col + cx) = .ok cells[ry][cx] := by
  unfold regionCells at hc
  have hh := mapE_length _ _ _ hc
  have h1 := mapE_getElem _ _ _ hc ry hry (by omega)
  simp only [List.getElem_range] at h1
  have hw := mapE_length _ _ _ h1
  have h2 := mapE_getElem _ _ _ h1 cx hcx (by omega)
  simpa using h2

theorem regionCells_shape {pg : Page} {col row w h : Nat} {cells : List (List (Nat × Cell))}
    (hc : regionCells pg col row w h = .ok cells) : cells.length = h ∧ ∀ r ∈ cells, r.length = w := by
  unfold regionCells at hc
  have hh := mapE_length _ _ _ hc
  refine ⟨by simpa using hh, fun r hr => ?_⟩
  obtain ⟨ry, hry, rfl⟩ := List.getElem_of_mem hr
  have h1 := mapE_getElem _ _ _ hc ry hry (by omega)
  simpa using mapE_length _ _ _ h1

end Zvbi.Export
