import ZvbiModel.Export.HtmlUnescape
import ZvbiModel.Export.LemmasHtml
/-! Helper lemmas: `unescape` is a left inverse of `escChar` (round trip of the decimal entities included) -/
namespace Zvbi.Export
open Zvbi.Export.Spec

theorem unesc_name (name rest acc : Bytes) (h : 59 ∉ name) :
    unesc (some acc) (name ++ 59 :: rest) = (match entity (acc ++ name) with
      | some c => (unesc none rest).map (c :: ·)
      | none => none) := by
  induction name generalizing acc with
  | nil => simp [unesc]; cases entity acc <;> rfl
  | cons a m ih =>
    have h1 : a ≠ 59 := fun e => h (by simp [e])
    have h2 : 59 ∉ m := fun e => h (by simp [e])
    simp [unesc, h1, ih _ h2, List.append_assoc]

theorem digitsLE_value (f n : Nat) (h : n < 10 ^ f) : (digitsLE f n).foldr (fun d a => a * 10 + d) 0 = n := by
  induction f generalizing n with
  | zero => simp at h; subst h; simp [digitsLE]
  | succ f ih =>
    unfold digitsLE
    split
    · simp
    · have : n / 10 < 10 ^ f := by rw [Nat.pow_succ] at h; omega
      simp [ih _ this]; omega

theorem digitsLE_ne_nil (f n : Nat) : digitsLE (f + 1) n ≠ [] := by
  unfold digitsLE; split <;> simp

theorem dec_value (u : Nat) (h : u < 10 ^ 20) : (dec u).foldl (fun a d => a * 10 + (d - 48)) 0 = u := by
  unfold dec
  rw [List.foldl_map, List.foldl_reverse]
  simpa using digitsLE_value 20 u h

theorem dec_digits (u : Nat) : (dec u).all isDigitB = true := by
  rw [List.all_eq_true]
  intro x hx
  simp [dec] at hx
  obtain ⟨d, hd, rfl⟩ := hx
  have := digitsLE_lt 20 u d hd
  simp [isDigitB]; omega

theorem dec_ne_nil (u : Nat) : dec u ≠ [] := by
  simp [dec]; exact digitsLE_ne_nil 19 u

theorem entity_num (u : Nat) (h : u < 10 ^ 20) : entity (35 :: dec u) = some (.ucs u) := by
  have h1 := dec_digits u
  have h2 := dec_ne_nil u
  have h3 := dec_value u h
  simp [entity, h1, h2, h3]

theorem unesc_escChar (c : HChar) (rest : Bytes) (h : ∀ u, c = .ucs u → u < 10 ^ 20) :
    unesc none (escChar c ++ rest) = (unesc none rest).map (c :: ·) := by
  cases c with
  | byte b =>
    unfold escChar
    by_cases h1 : b = 60
    · subst h1; simp [entLt, unesc, entity]
    · by_cases h2 : b = 62
      · subst h2; simp [entGt, unesc, entity]
      · by_cases h3 : b = 38
        · subst h3; simp [entAmp, unesc, entity]
        · simp [h1, h2, h3, unesc]
  | ucs u =>
    have hp : 59 ∉ (35 :: dec u) := by
      intro hm
      simp at hm
      have hd := dec_digits u
      rw [List.all_eq_true] at hd
      have := hd 59 hm
      simp [isDigitB] at this
    have := unesc_name (35 :: dec u) rest [] hp
    simp only [List.nil_append, entity_num u (h u rfl)] at this
    have h35 : unesc (some []) (35 :: (dec u ++ 59 :: rest)) = unesc (some [35]) (dec u ++ 59 :: rest) := by simp [unesc]
    simp only [escChar, entNum, List.cons_append, List.nil_append, List.append_assoc, unesc]
    rw [← h35]; simpa using this

theorem unescape_escaped (cs : List HChar) (h : ∀ u, HChar.ucs u ∈ cs → u < 10 ^ 20) :
    unescape (cs.flatMap escChar) = some cs := by
  unfold unescape
  induction cs with
  | nil => simp [unesc]
  | cons c cs ih =>
    have ih' := ih (fun u hu => h u (by simp [hu]))
    simp only [List.flatMap_cons]
    rw [unesc_escChar c _ (fun u hu => h u (by simp [hu])), ih']
    simp

end Zvbi.Export
