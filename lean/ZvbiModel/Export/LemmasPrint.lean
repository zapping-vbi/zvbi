import ZvbiModel.Export.Spec
import ZvbiModel.Export.LemmasRegion
import ZvbiModel.Export.PrintNT
import ZvbiModel.Ite
/-! `vbi_print_page_region` (C16): size bound and possible faults of both modes, and for the table mode the text it stores. -/
namespace Zvbi.Export
open Zvbi.Export.Spec

/-! `Rets P o` and `Post E P x` say what holds of whatever a checked computation returns (they do not say that it returns).
The models spell out their `none` / error propagation as `match`es.  A rule whose conclusion is that `match`, written at the
model's own discriminant type, applies to the model's term as it stands (`andThenB` .. `andThenCells`, each an instance of
`elim`), so a statement about a model function is proved by a term that follows the function: each call contributes its own
lemma, each `if` an `ite_ind`. -/

def Rets {α : Type} (P : α → Prop) (o : Option α) : Prop := ∀ r, o = some r → P r

def Post {α : Type} (E : Fault → Prop) (P : α → Prop) : Except Fault α → Prop
  | .error f => E f
  | .ok r => P r

namespace Rets
variable {α : Type} {P : α → Prop} {o : Option α}

theorem none : Rets P (Option.none : Option α) := nofun
theorem some {r : α} (h : P r) : Rets P (Option.some r) := fun _ e => Option.some.inj e ▸ h

@[elab_as_elim] theorem elim {motive : Option α → Prop} (h : Rets P o) (none : motive .none) (some : ∀ r, P r → motive (.some r)) :
    motive o := by
  cases o with
  | none => exact none
  | some r => exact some r (h r rfl)

end Rets

namespace Post
variable {α : Type} {E E' : Fault → Prop} {P P' : α → Prop} {x : Except Fault α}

@[elab_as_elim] theorem elim {motive : Except Fault α → Prop} (h : Post E P x) (error : ∀ f, E f → motive (.error f))
    (ok : ∀ r, P r → motive (.ok r)) : motive x := by
  cases x with
  | error f => exact error f h
  | ok r => exact ok r h

theorem mono (h : Post E P x) (he : ∀ f, E f → E' f) (hp : ∀ r, P r → P' r) : Post E' P' x := h.elim he hp

theorem of_ok {r : α} (h : Post E P x) (e : x = .ok r) : P r := by rw [e] at h; exact h

theorem of_error {f : Fault} (h : Post E P x) (e : x = .error f) : E f := by rw [e] at h; exact h

end Post

section rules
variable {β : Type} {E : Fault → Prop} {Q : β → Prop} {R : Bytes → Prop}

theorem Rets.andThenB {P : Bytes → Prop} {o : Option Bytes} {k : Bytes → Option β} (h : Rets P o) (hk : ∀ r, P r → Rets Q (k r)) :
    Rets Q (match (generalizing := false) o with | .none => .none | .some r => k r) :=
  h.elim Rets.none hk

theorem Rets.orNoneB {P : Bytes → Prop} {o : Option Bytes} {k : Bytes → Except Fault (Option Bytes)} (h : Rets P o)
    (hk : ∀ r, P r → Post E (Rets R) (k r)) :
    Post E (Rets R) (match (generalizing := false) o with | .none => .ok .none | .some r => k r) :=
  h.elim Rets.none hk

theorem Rets.orNoneRow {P : NtRow → Prop} {o : Option NtRow} {k : NtRow → Except Fault (Option Bytes)} (h : Rets P o)
    (hk : ∀ r, P r → Post E (Rets R) (k r)) :
    Post E (Rets R) (match (generalizing := false) o with | .none => .ok .none | .some r => k r) :=
  h.elim Rets.none hk

theorem Post.andThenCells {P : List (Nat × Cell) → Prop} {x : Except Fault (List (Nat × Cell))} {k : List (Nat × Cell) → Except Fault β}
    (h : Post E P x) (hk : ∀ r, P r → Post E Q (k r)) :
    Post E Q (match (generalizing := false) x with | .error f => .error f | .ok r => k r) :=
  h.elim (fun _ e => e) hk

end rules

theorem spaceTry_some {conv : Nat → Option Bytes} {n : Nat} {bs : Bytes} (h : spaceTry conv n = some bs) :
    conv 0x20 = some bs ∧ bs.length ≤ n := by
  unfold spaceTry at h
  cases hs : conv 0x20 with
  | none => simp [hs] at h
  | some sp =>
    simp only [hs] at h
    by_cases h1 : sp.length ≤ n
    · simp only [h1, ite_true] at h; cases h; exact ⟨rfl, h1⟩
    · simp [h1] at h

variable {cfg : Cfg} {conv : Nat → Option Bytes} {size : Nat}

theorem firstTry_some {u n : Nat} {bs : Bytes} (h : firstTry cfg conv u n = some bs) :
    conv u = some bs ∧ bs.length ≤ n ∧ atSign cfg bs u = false := by
  unfold firstTry at h
  cases hc : conv u with
  | none => simp [hc] at h
  | some b0 =>
    simp only [hc] at h
    by_cases h1 : (decide (b0.length ≤ n) && !atSign cfg b0 u) = true
    · simp only [h1, ite_true] at h; cases h; simp at h1; exact ⟨rfl, h1.1, h1.2⟩
    · simp [h1] at h

theorem printUnicode_len {u n : Nat} {bs : Bytes} (h : printUnicode cfg conv u n = some bs) :
    bs.length ≤ n := by
  unfold printUnicode at h
  split at h
  · cases h
  · cases hf : firstTry cfg conv u n with
    | some b => simp only [hf] at h; cases h; exact (firstTry_some hf).2.1
    | none => simp only [hf] at h; exact (spaceTry_some h).2

theorem printUnicode_fits {u : Nat} {p : Bytes} (hp : p.length ≤ size) :
    Rets (fun bs => (p ++ bs).length ≤ size) (printUnicode cfg conv u (size - p.length)) :=
  fun bs h => by have := printUnicode_len h; simp; omega

theorem printCells_len : ∀ (cs : List Cell) (p : Bytes), p.length ≤ size → Rets (·.length ≤ size) (printCells cfg conv size cs p)
  | [], _, hp => Rets.some hp
  | c :: cs, p, hp => by unfold printCells; exact (printUnicode_fits hp).andThenB fun _ h => printCells_len cs _ h

/-- more than one row: a row, then the line feed when there is room for it; the guarded store never goes wrong -/
theorem printRows_cons_cons (r r2 : List Cell) (rs : List (List Cell)) (p : Bytes) :
    printRows cfg conv size (r :: r2 :: rs) p =
      match printCells cfg conv size r p with
      | none => .ok none
      | some p1 => if p1.length < size then printRows cfg conv size (r2 :: rs) (p1 ++ [0x0A]) else .ok none := by
  simp only [printRows]
  cases printCells cfg conv size r p with
  | none => rfl
  | some p1 =>
    by_cases h : p1.length < size
    · simp [h, show ¬ size - p1.length < 1 by omega]
    · simp [h, show size - p1.length < 1 by omega]

theorem printRows_cons_cons_some {r r2 : List Cell} {rs : List (List Cell)} {p out : Bytes}
    (h : printRows cfg conv size (r :: r2 :: rs) p = .ok (some out)) :
    ∃ p1, printCells cfg conv size r p = some p1 ∧ p1.length < size ∧
      printRows cfg conv size (r2 :: rs) (p1 ++ [0x0A]) = .ok (some out) := by
  rw [printRows_cons_cons] at h
  cases hc : printCells cfg conv size r p with
  | none => simp [hc] at h
  | some p1 =>
    simp only [hc] at h
    by_cases h2 : p1.length < size
    · exact ⟨p1, rfl, h2, by simpa [h2] using h⟩
    · simp [h2] at h

/-- the result fits the buffer, and the store of the '\n' never happens outside it -/
theorem printRows_post : ∀ (rows : List (List Cell)) (p : Bytes), p.length ≤ size →
    Post (fun _ => False) (Rets fun out : Bytes => out.length ≤ size) (printRows cfg conv size rows p)
  | [], _, hp => Rets.some hp
  | [r], p, hp => printCells_len r p hp
  | r :: r2 :: rs, p, hp => by
    rw [printRows_cons_cons]
    exact (printCells_len r p hp).orNoneB fun p1 _ =>
      ite_ind (P := Post (fun _ => False) (Rets fun out : Bytes => out.length ≤ size))
        (fun h => printRows_post (r2 :: rs) _ (by simp; omega)) fun _ => Rets.none

/-- `vbi_print_page_region`, table mode: an error is the failed read of `pg->text`, a result fits the stated size -/
theorem printRegion_post (pg : Page) (sz column row width height : Int) :
    Post (fun f => regionCells pg column.toNat row.toNat width.toNat height.toNat = .error f)
      (Rets fun out : Bytes => (out.length : Int) ≤ sz) (printRegion cfg conv pg sz column row width height) := by
  unfold printRegion
  refine ite_ind (P := Post _ (Rets fun out : Bytes => (out.length : Int) ≤ sz)) (fun _ => Rets.none) fun hcond => ?_
  cases regionCells pg column.toNat row.toNat width.toNat height.toNat with
  | error f => exact rfl
  | ok cells => exact (printRows_post _ [] (Nat.zero_le _)).mono nofun fun o ho out e => by have := ho out e; omega

theorem printUnicode_exact {u : Nat} {e : Bytes} {n : Nat} (hA : AtFits cfg conv)
    (he : encU cfg conv u = some e) (hn : e.length ≤ n) : printUnicode cfg conv u n = some e := by
  unfold encU at he
  unfold printUnicode firstTry spaceTry tooBig
  cases hc : conv u with
  | none =>
    simp only [hc] at he ⊢
    simp [he, hn]
  | some b0 =>
    simp only [hc] at he ⊢
    cases hat : atSign cfg b0 u with
    | true =>
      simp only [hat, ite_true] at he
      by_cases hE : cfg.printE2big = true
      · have := hA hE _ _ _ hc hat he
        have hb : ¬ n < b0.length := by omega
        simp [hb, he, hn]
      · simp [hE, he, hn]
    | false =>
      simp only [hat, Bool.false_eq_true, ite_false] at he
      cases he
      have hb : ¬ n < e.length := by omega
      simp [hn, hb]

theorem printCells_exact (hA : AtFits cfg conv) : ∀ (cs : List Cell) (p e : Bytes),
    rowText cfg conv cs = some e → p.length + e.length ≤ size → printCells cfg conv size cs p = some (p ++ e) := by
  intro cs
  induction cs with
  | nil => intro p e h _; simp [rowText] at h; subst h; simp [printCells]
  | cons c cs ih =>
    intro p e h hs
    unfold rowText at h
    cases h1 : encUnbounded cfg conv c with
    | none => simp [h1] at h
    | some a =>
      cases h2 : rowText cfg conv cs with
      | none => simp [h1, h2] at h
      | some b =>
        simp only [h1, h2] at h
        cases h
        unfold printCells
        have := printUnicode_exact (n := size - p.length) hA h1 (by simp at hs; omega)
        simp only [this]
        have := ih (p ++ a) b h2 (by simp at hs ⊢; omega)
        simpa [List.append_assoc] using this

theorem printRows_exact (hA : AtFits cfg conv) : ∀ (rows : List (List Cell)) (p e : Bytes),
    tableText cfg conv rows = some e → p.length + e.length ≤ size → printRows cfg conv size rows p = .ok (some (p ++ e))
  | [], p, e, h, _ => by simp [tableText] at h; subst h; simp [printRows]
  | [r], p, e, h, hs => by
    simp only [tableText] at h
    simp only [printRows, printCells_exact hA r p e h hs]
  | r :: r2 :: rs, p, e, h, hs => by
    simp only [tableText] at h
    cases h1 : rowText cfg conv r with
    | none => simp [h1] at h
    | some a =>
      cases h2 : tableText cfg conv (r2 :: rs) with
      | none => simp [h1, h2] at h
      | some b =>
        simp only [h1, h2] at h
        cases h
        have hl : p.length + a.length + 1 + b.length ≤ size := by simp at hs; omega
        rw [printRows_cons_cons, printCells_exact hA r p a h1 (by omega)]
        simp only [show (p ++ a).length < size by simp; omega, ite_true]
        have := printRows_exact hA (r2 :: rs) (p ++ a ++ [0x0A]) b h2 (by simp; omega)
        simpa [List.append_assoc] using this

/-! ### with the F27a repair every successful result is the table text -/

theorem printUnicode_sound {u n : Nat} {bs : Bytes} (hE : cfg.printE2big = true)
    (h : printUnicode cfg conv u n = some bs) : encU cfg conv u = some bs := by
  unfold printUnicode at h
  unfold encU
  by_cases hT : tooBig conv u n = true
  · simp [hE, hT] at h
  · simp only [hE, hT, Bool.and_false, Bool.false_eq_true, ite_false] at h
    cases hf : firstTry cfg conv u n with
    | some b =>
      simp only [hf] at h; cases h
      obtain ⟨h1, _, h3⟩ := firstTry_some hf
      simp [h1, h3]
    | none =>
      simp only [hf] at h
      have hsp := (spaceTry_some h).1
      cases hc : conv u with
      | none => simpa using hsp
      | some b0 =>
        simp only
        have hfit : b0.length ≤ n := by
          unfold tooBig at hT; simp [hc] at hT; exact hT
        cases hat : atSign cfg b0 u with
        | true => simpa using hsp
        | false =>
          unfold firstTry at hf
          simp [hc, hfit, hat] at hf

theorem printCells_sound (hE : cfg.printE2big = true) : ∀ (cs : List Cell) (p out : Bytes),
    printCells cfg conv size cs p = some out → ∃ e, rowText cfg conv cs = some e ∧ out = p ++ e := by
  intro cs
  induction cs with
  | nil => intro p out h; simp [printCells] at h; subst h; exact ⟨[], rfl, by simp⟩
  | cons c cs ih =>
    intro p out h
    unfold printCells at h
    cases hu : printUnicode cfg conv (effUnicode c) (size - p.length) with
    | none => simp [hu] at h
    | some bs =>
      simp only [hu] at h
      obtain ⟨e, he, ho⟩ := ih (p ++ bs) out h
      refine ⟨bs ++ e, ?_, by rw [ho, List.append_assoc]⟩
      unfold rowText
      simp [encUnbounded, printUnicode_sound hE hu, he]

theorem printRows_sound (hE : cfg.printE2big = true) : ∀ (rows : List (List Cell)) (p out : Bytes),
    printRows cfg conv size rows p = .ok (some out) → ∃ e, tableText cfg conv rows = some e ∧ out = p ++ e
  | [], p, out, h => by simp [printRows] at h; subst h; exact ⟨[], rfl, by simp⟩
  | [r], p, out, h => by simpa [tableText] using printCells_sound hE r p out (by simpa [printRows] using h)
  | r :: r2 :: rs, p, out, h => by
    obtain ⟨p1, hc, _, h'⟩ := printRows_cons_cons_some h
    obtain ⟨a, ha, hp1⟩ := printCells_sound hE r p p1 hc
    obtain ⟨b, hb, ho⟩ := printRows_sound hE (r2 :: rs) _ out h'
    exact ⟨a ++ [0x0A] ++ b, by simp only [tableText, ha, hb], by rw [ho, hp1]; simp [List.append_assoc]⟩

theorem ntSpaces_len : ∀ (k : Nat) (p : Bytes), p.length ≤ size → Rets (·.length ≤ size) (ntSpaces cfg conv size k p)
  | 0, _, hp => Rets.some hp
  | k + 1, p, hp => by unfold ntSpaces; exact (printUnicode_fits hp).andThenB fun _ h => ntSpaces_len k _ h

theorem ntFlush_len {doIt : Bool} {k : Nat} {p : Bytes} (hp : p.length ≤ size) : Rets (·.length ≤ size) (ntFlush cfg conv size doIt k p) :=
  ite_ind (P := Rets fun out : Bytes => out.length ≤ size) (fun _ => ntSpaces_len k p hp) fun _ => Rets.some hp

theorem ntCells_len {isRow0 : Bool} {x0 : Nat} {xl : Option Nat} :
    ∀ (cells : List (Nat × Cell)) (st : NtRow), st.p.length ≤ size → Rets (·.p.length ≤ size) (ntCells cfg conv size isRow0 x0 xl cells st)
  | [], _, hp => Rets.some hp
  | (x, c) :: rest, st, hp => by
    unfold ntCells
    exact ite_ind (P := Rets fun out : NtRow => out.p.length ≤ size) (fun _ => Rets.some hp) fun _ =>
      ite_ind (fun _ => ntCells_len rest st hp) fun _ => ite_ind (fun _ => ntCells_len rest _ hp) fun _ =>
      (ntFlush_len hp).andThenB fun p1 h1 => (printUnicode_fits h1).andThenB fun bs h2 => ntCells_len rest _ h2

theorem ntRowCells_post (pg : Page) (y x0 : Nat) (x1 : Int) : Post (· = .oob "pg->text") (fun _ => True) (ntRowCells pg y x0 x1) := by
  cases h : ntRowCells pg y x0 x1 with
  | ok r => trivial
  | error f =>
    refine mapE_error _ _ (fun x e he => ?_) _ _ h
    split at he
    · cases he
    · next f2 hf2 => cases he; exact cellAt_error hf2

theorem ntRows_post {pg : Page} {column0 : Nat} {column1 : Int} {row0 : Nat} {row1 : Int} :
    ∀ (ys : List Nat) (p : Bytes) (dh : Nat), p.length ≤ size →
      Post (· = .oob "pg->text") (Rets fun out : Bytes => out.length ≤ size) (ntRows cfg conv size pg column0 column1 row0 row1 ys p dh)
  | [], p, _, hp => Rets.some hp
  | y :: ys, p, dh, hp => by
    unfold ntRows
    exact (ntRowCells_post ..).andThenCells fun cells _ => (ntCells_len cells _ hp).orNoneRow fun st hst =>
      ite_ind (P := Post (· = .oob "pg->text") (Rets fun out : Bytes => out.length ≤ size))
        (fun _ => ite_ind (fun _ => Rets.none) fun _ => ite_ind (fun _ => ntRows_post ys _ _ hst) fun _ =>
          (printUnicode_fits hst).orNoneB fun bs h => ntRows_post ys _ _ h)
        fun _ => ite_ind (fun _ => Rets.some hst) fun _ => ntSpaces_len _ _ hst

/-- `vbi_print_page_region`, non-table mode: the only error is a read outside `pg->text`, a result fits the stated size -/
theorem printRegionNT_post (pg : Page) (sz column row width height : Int) :
    Post (· = .oob "pg->text") (Rets fun out : Bytes => (out.length : Int) ≤ sz) (printRegionNT cfg conv pg sz column row width height) := by
  unfold printRegionNT
  exact ite_ind (P := Post _ (Rets fun out : Bytes => (out.length : Int) ≤ sz)) (fun _ => Rets.none) fun hcond =>
    (ntRows_post _ [] 0 (Nat.zero_le _)).mono (fun _ h => h) fun o ho out e => by
      have := ho out e; omega

end Zvbi.Export
