import ZvbiModel.Export.Spec
import ZvbiModel.Export.LemmasRender
import ZvbiModel.Export.LemmasRegion
/-! Lemmas for `region_equals_full` (C16): the last-write-wins value of a canvas byte. -/
namespace Zvbi.Export
open Zvbi.Export.Spec

abbrev Val := Nat × Nat × Nat × Nat × Nat

def cov (a : Nat) (r : Run) : Bool := decide (r.start ≤ a) && decide (a < r.start + r.len)
def valOf (a : Nat) (r : Run) : Val := (r.cell, r.dy, r.kind, r.size, a - r.start)

theorem finalAt_def (runs : List Run) (a : Nat) : finalAt runs a = (runs.reverse.find? (cov a)).map (valOf a) := rfl

theorem finalAt_nil (a : Nat) : finalAt [] a = none := rfl

theorem finalAt_append (xs ys : List Run) (a : Nat) : finalAt (xs ++ ys) a = (finalAt ys a).or (finalAt xs a) := by
  simp only [finalAt_def, List.reverse_append, List.find?_append]
  cases (List.find? (cov a) ys.reverse) <;> simp

theorem finalAt_none {xs : List Run} {a : Nat} (h : ∀ r ∈ xs, cov a r = false) : finalAt xs a = none := by
  simp only [finalAt_def, Option.map_eq_none_iff, List.find?_eq_none]
  intro r hr
  simp [h r (List.mem_reverse.1 hr)]

theorem finalAt_unique {xs : List Run} {a : Nat} {r : Run} (hr : r ∈ xs) (hc : cov a r = true)
    (hu : ∀ r' ∈ xs, cov a r' = true → r' = r) : finalAt xs a = some (valOf a r) := by
  simp only [finalAt_def]
  cases hf : List.find? (cov a) xs.reverse with
  | none =>
    have := List.find?_eq_none.1 hf r (List.mem_reverse.2 hr)
    simp [hc] at this
  | some r' =>
    have h1 := List.find?_some hf
    have h2 := List.mem_reverse.1 (List.mem_of_find?_eq_some hf)
    simp [hu r' h2 h1]

/-- a run lying inside canvas line `L'` covers byte `b` of line `L` iff it is the same line and `b` is inside -/
theorem line_cov_iff {S L L' x len b : Nat} (hx : x + len ≤ S) (hb : b < S) :
    (L' * S + x ≤ L * S + b ∧ L * S + b < L' * S + x + len) ↔ (L = L' ∧ x ≤ b ∧ b < x + len) := by
  constructor
  · intro ⟨h1, h2⟩
    have hL : L = L' := by
      rcases Nat.lt_trichotomy L L' with h | h | h
      · have := Nat.mul_le_mul_right S (Nat.succ_le_of_lt h)
        rw [Nat.succ_mul] at this
        omega
      · exact h
      · have := Nat.mul_le_mul_right S (Nat.succ_le_of_lt h)
        rw [Nat.succ_mul] at this
        omega
    subst hL
    omega
  · intro ⟨h1, h2, h3⟩
    subst h1
    omega

theorem finalAt_cellRuns {S ct cw ch L0 x0 idx kind s La b : Nat} (hd : ct ∣ S) (hb : b < S)
    (hx : x0 + (if isWide s then 2 else 1) * cw * ct ≤ S) :
    finalAt (cellRuns S ct cw ch (L0 * S + x0) idx kind s) (La * S + b) =
      if L0 ≤ La ∧ La < L0 + ch ∧ x0 ≤ b ∧ b < x0 + (if isWide s then 2 else 1) * cw * ct
      then some (idx, La - L0, kind, s, b - x0) else none := by
  generalize hk : (if isWide s = true then 2 else 1) * cw * ct = len at *
  have hstart : ∀ dy, L0 * S + x0 + lineOff S ct s dy = (L0 + dy) * S + x0 := by
    intro dy; rw [lineOff_eq s dy hd, Nat.add_mul]; omega
  have hcov : ∀ dy, cov (La * S + b) { start := L0 * S + x0 + lineOff S ct s dy, len := len, cell := idx, dy := dy, kind := kind, size := s }
      = true ↔ (La = L0 + dy ∧ x0 ≤ b ∧ b < x0 + len) := by
    intro dy
    simp only [cov, Bool.and_eq_true, decide_eq_true_eq, hstart]
    exact line_cov_iff hx hb
  by_cases hc : L0 ≤ La ∧ La < L0 + ch ∧ x0 ≤ b ∧ b < x0 + len
  · simp only [hc, and_self, ite_true]
    obtain ⟨h1, h2, h3, h4⟩ := hc
    have hmem : ({ start := L0 * S + x0 + lineOff S ct s (La - L0), len := len, cell := idx, dy := La - L0, kind := kind, size := s } : Run)
        ∈ cellRuns S ct cw ch (L0 * S + x0) idx kind s := by
      unfold cellRuns
      exact List.mem_map.2 ⟨La - L0, List.mem_range.2 (by omega), by simp [hk]⟩
    have := finalAt_unique (a := La * S + b) hmem ((hcov _).2 ⟨by omega, h3, h4⟩) (by
      intro r' hr' hcr'
      unfold cellRuns at hr'
      obtain ⟨dy', _, rfl⟩ := List.mem_map.1 hr'
      rw [hk] at hcr'
      have := (hcov dy').1 hcr'
      have hdy : dy' = La - L0 := by omega
      rw [hk, hdy])
    rw [this]
    simp only [valOf, hstart]
    have : L0 + (La - L0) = La := by omega
    rw [this]
    congr 5
    omega
  · simp only [hc, ite_false]
    apply finalAt_none
    intro r hr
    unfold cellRuns at hr
    obtain ⟨dy', hdy', rfl⟩ := List.mem_map.1 hr
    have hdy'' : dy' < ch := List.mem_range.1 hdy'
    rw [hk]
    cases hcv : cov (La * S + b) { start := L0 * S + x0 + lineOff S ct s dy', len := len, cell := idx, dy := dy', kind := kind, size := s } with
    | false => rfl
    | true =>
      have := (hcov dy').1 hcv
      exact absurd ⟨by omega, by omega, this.2.1, this.2.2⟩ hc

theorem orChain_skip {α : Type} {T c : Nat → Option α} (hstep : ∀ k, T k = (T (k + 1)).or (c k)) :
    ∀ (n k : Nat), (∀ j, k ≤ j → j < k + n → c j = none) → T k = T (k + n) := by
  intro n
  induction n with
  | zero => intro k _; rfl
  | succ n ih =>
    intro k h
    rw [hstep k, h k (Nat.le_refl _) (by omega), ih (k + 1) (fun j h1 h2 => h j (by omega) (by omega))]
    simp [Nat.add_assoc, Nat.add_comm 1 n]

theorem orChain_none {α : Type} {T c : Nat → Option α} (hstep : ∀ k, T k = (T (k + 1)).or (c k)) {N : Nat} (hend : T N = none)
    (k : Nat) (hk : k ≤ N) (h : ∀ j, k ≤ j → j < N → c j = none) : T k = none := by
  rw [orChain_skip hstep (N - k) k (fun j h1 h2 => h j h1 (by omega)), show k + (N - k) = N by omega, hend]

section row
variable {cfg : Cfg} {drcs : List Bool} {S ct : Nat} {rv fl : Bool}

/-- contribution of column `j` of the row `L` (drawn as character row `ry`) to byte `b` of canvas line `La` -/
def colVal (cfg : Cfg) (drcs : List Bool) (rv fl : Bool) (ct : Nat) (L : List (Nat × Cell)) (ry La b j : Nat) : Option Val :=
  match L[j]? with
  | none => none
  | some ic =>
    match vtDrawn cfg drcs rv fl (L.drop (j + 1)).isEmpty ic.2 with
    | none => none
    | some ks =>
      if ry * 10 ≤ La ∧ La < ry * 10 + 10 ∧ j * 12 * ct ≤ b ∧ b < j * 12 * ct + (if isWide ks.2 then 2 else 1) * 12 * ct
      then some (ic.1, La - ry * 10, ks.1, ks.2, b - j * 12 * ct) else none

/-- the value the suffix of the row starting at column `k` leaves at (La, b) -/
def rowT (cfg : Cfg) (drcs : List Bool) (S ct : Nat) (rv fl : Bool) (L : List (Nat × Cell)) (ry La b k : Nat) : Option Val :=
  finalAt (vtRowRuns cfg drcs S ct rv fl (ry * 10 * S) k (L.drop k)) (La * S + b)

theorem getLast_of_drop_empty {α : Type} (L : List α) (k : Nat) (hk : k < L.length) (he : (L.drop (k + 1)).isEmpty = true) :
    L.getLast? = some L[k] := by
  have hlen : L.length = k + 1 := by
    have : L.length ≤ k + 1 := by simpa using he
    omega
  rw [List.getLast?_eq_getElem?]
  simp [hlen]

theorem rowT_step (L : List (Nat × Cell)) (ry La b k : Nat) (hd : ct ∣ S) (hb : b < S)
    (hS : L.length * 12 * ct ≤ S)
    (hw : cfg.wideClip = true ∨ ∀ ic, L.getLast? = some ic → isWide ic.2.size = false) :
    rowT cfg drcs S ct rv fl L ry La b k = (rowT cfg drcs S ct rv fl L ry La b (k + 1)).or (colVal cfg drcs rv fl ct L ry La b k) := by
  unfold rowT colVal
  by_cases hk : k < L.length
  · rw [List.drop_eq_getElem_cons hk]
    simp only [vtRowRuns, finalAt_append, List.getElem?_eq_getElem hk]
    congr 1
    unfold vtCellRuns
    cases hdr : vtDrawn cfg drcs rv fl (L.drop (k + 1)).isEmpty L[k].2 with
    | none => simp [finalAt_nil]
    | some ks =>
      simp only
      have hx : k * 12 * ct + (if isWide ks.2 then 2 else 1) * 12 * ct ≤ S := by
        have hle : k + (if isWide ks.2 then 2 else 1) ≤ L.length := by
          cases he : (L.drop (k + 1)).isEmpty with
          | true =>
            have hnw := vtDrawn_not_wide (cfg := cfg) (drcs := drcs) (reveal := rv) (flashOn := fl) (L.drop (k + 1)).isEmpty L[k].2
              (fun _ => hw.imp_right fun h1 => h1 _ (getLast_of_drop_empty L k hk he)) hdr he
            simp [hnw]; omega
          | false =>
            have : ¬ L.length ≤ k + 1 := by
              intro h0; have : (L.drop (k + 1)).isEmpty = true := by simpa using h0
              rw [this] at he; cases he
            split <;> omega
        have := Nat.mul_le_mul_right ct (Nat.mul_le_mul_right 12 hle)
        rw [Nat.add_mul, Nat.add_mul] at this
        omega
      have := finalAt_cellRuns (S := S) (ct := ct) (cw := 12) (ch := 10) (L0 := ry * 10) (x0 := k * 12 * ct) (idx := L[k].1)
        (kind := ks.1) (s := ks.2) (La := La) (b := b) hd hb hx
      rw [this]
  · have h1 : L.drop k = [] := List.drop_eq_nil_of_le (by omega)
    have h2 : L.drop (k + 1) = [] := List.drop_eq_nil_of_le (by omega)
    have h3 : L[k]? = none := List.getElem?_eq_none (by omega)
    simp [h1, h2, h3, vtRowRuns, finalAt_nil]

theorem colVal_none_of (L : List (Nat × Cell)) (ry La b j : Nat)
    (h : ∀ kk, kk ≤ 2 → ¬ (ry * 10 ≤ La ∧ La < ry * 10 + 10 ∧ j * 12 * ct ≤ b ∧ b < j * 12 * ct + kk * 12 * ct)) :
    colVal cfg drcs rv fl ct L ry La b j = none := by
  unfold colVal
  cases h1 : L[j]? with
  | none => rfl
  | some ic =>
    simp only
    cases h2 : vtDrawn cfg drcs rv fl (L.drop (j + 1)).isEmpty ic.2 with
    | none => rfl
    | some ks =>
      simp only
      rw [if_neg]
      exact h _ (by split <;> omega)

theorem colVal_none_of_lt (L : List (Nat × Cell)) (ry La b j : Nat) (h : b < j * 12 * ct) :
    colVal cfg drcs rv fl ct L ry La b j = none :=
  colVal_none_of L ry La b j (fun kk _ hc => by omega)

theorem colVal_none_of_ge (L : List (Nat × Cell)) (ry La b j : Nat) (h : (j + 2) * 12 * ct ≤ b) :
    colVal cfg drcs rv fl ct L ry La b j = none :=
  colVal_none_of L ry La b j (fun kk hk hc => by
    have e : (j + 2) * 12 * ct = j * 12 * ct + 2 * 12 * ct := by rw [Nat.add_mul, Nat.add_mul]
    have : kk * 12 * ct ≤ 2 * 12 * ct := Nat.mul_le_mul_right _ (Nat.mul_le_mul_right _ hk)
    omega)

theorem colVal_none_of_line (L : List (Nat × Cell)) (ry La b j : Nat) (h : ¬ (ry * 10 ≤ La ∧ La < ry * 10 + 10)) :
    colVal cfg drcs rv fl ct L ry La b j = none :=
  colVal_none_of L ry La b j (fun _ _ hc => h ⟨hc.1, hc.2.1⟩)

theorem rowT_of_ge_length (L : List (Nat × Cell)) (ry La b k : Nat) (hk : L.length ≤ k) :
    rowT cfg drcs S ct rv fl L ry La b k = none := by
  unfold rowT
  rw [List.drop_eq_nil_of_le hk]
  simp [vtRowRuns, finalAt_nil]

section closed
variable (L : List (Nat × Cell)) (ry La b : Nat) (hct : 0 < ct) (hd : ct ∣ S) (hb : b < S) (hS : L.length * 12 * ct ≤ S)
  (hw : cfg.wideClip = true ∨ ∀ ic, L.getLast? = some ic → isWide ic.2.size = false)
include hct hd hb hS hw

/-- the value under byte `b` of a row: the cell under the byte, else the (wide) cell to its left -/
def under (cfg : Cfg) (drcs : List Bool) (rv fl : Bool) (ct : Nat) (L : List (Nat × Cell)) (ry La b : Nat) : Option Val :=
  (colVal cfg drcs rv fl ct L ry La b (b / (12 * ct))).or
    (if b / (12 * ct) = 0 then none else colVal cfg drcs rv fl ct L ry La b (b / (12 * ct) - 1))

/- The row is a right-to-left chain: the value left by the columns from `k` on is that of the columns from `k + 1` on, else column
`k`'s own (`rowT_step`).  Columns right of the byte's own column `c0` start behind it, columns left of `c0 - 1` end before it even
when drawn double width, so the chain is cut down to `c0`, then `c0 - 1` (`orChain_none`, `orChain_skip`). -/
theorem rowT_closed : rowT cfg drcs S ct rv fl L ry La b 0 = under cfg drcs rv fl ct L ry La b := by
  unfold under
  have hu : 0 < 12 * ct := by omega
  generalize hc0 : b / (12 * ct) = c0
  have hdm := Nat.div_add_mod b (12 * ct)
  have hml := Nat.mod_lt b hu
  rw [hc0] at hdm
  have h1 : c0 * 12 * ct ≤ b := by
    rw [Nat.mul_assoc, Nat.mul_comm c0]; omega
  have h2 : b < (c0 + 1) * 12 * ct := by
    rw [Nat.mul_assoc, Nat.add_mul, Nat.mul_comm c0]; omega
  have hstep := fun k => rowT_step (cfg := cfg) (drcs := drcs) (rv := rv) (fl := fl) L ry La b k hd hb hS hw
  have hT1 : rowT cfg drcs S ct rv fl L ry La b (c0 + 1) = none :=
    orChain_none hstep (rowT_of_ge_length L ry La b (c0 + 1 + L.length) (by omega)) (c0 + 1) (by omega) fun j hj _ =>
      colVal_none_of_lt L ry La b j (Nat.lt_of_lt_of_le h2 (Nat.mul_le_mul_right _ (Nat.mul_le_mul_right _ hj)))
  have hT0 : rowT cfg drcs S ct rv fl L ry La b c0 = colVal cfg drcs rv fl ct L ry La b c0 := by
    rw [rowT_step L ry La b c0 hd hb hS hw, hT1]; rfl
  by_cases hz : c0 = 0
  · subst hz
    simp only [ite_true]
    rw [hT0]; simp
  · simp only [hz, ite_false]
    have hskip := orChain_skip hstep (c0 - 1) 0 fun j _ hj => colVal_none_of_ge L ry La b j (by
      have : (j + 2) * 12 * ct ≤ c0 * 12 * ct := Nat.mul_le_mul_right _ (Nat.mul_le_mul_right _ (by omega))
      omega)
    rw [hskip, Nat.zero_add, rowT_step L ry La b (c0 - 1) hd hb hS hw]
    have : c0 - 1 + 1 = c0 := by omega
    rw [this, hT0]
end closed

end row

section rows
variable {cfg : Cfg} {drcs : List Bool} {S ct : Nat} {rv fl : Bool}

def rowsT (cfg : Cfg) (drcs : List Bool) (S ct : Nat) (rv fl : Bool) (cells : List (List (Nat × Cell))) (La b k : Nat) : Option Val :=
  finalAt (vtRuns cfg drcs S ct rv fl k (cells.drop k)) (La * S + b)

/-- every row fits into a canvas line and does not end in an unclipped wide character -/
def RowsOk (cfg : Cfg) (S ct : Nat) (cells : List (List (Nat × Cell))) : Prop :=
  ∀ r ∈ cells, r.length * 12 * ct ≤ S ∧ (cfg.wideClip = true ∨ ∀ ic, r.getLast? = some ic → isWide ic.2.size = false)

variable (cells : List (List (Nat × Cell))) (La b : Nat)

theorem rowsT_of_ge_length (k : Nat) (hk : cells.length ≤ k) : rowsT cfg drcs S ct rv fl cells La b k = none := by
  unfold rowsT
  rw [List.drop_eq_nil_of_le hk]
  simp [vtRuns, finalAt_nil]

theorem rowsT_chain (k : Nat) :
    rowsT cfg drcs S ct rv fl cells La b k = (rowsT cfg drcs S ct rv fl cells La b (k + 1)).or
      (if h : k < cells.length then rowT cfg drcs S ct rv fl cells[k] k La b 0 else none) := by
  by_cases hk : k < cells.length
  · rw [dif_pos hk]
    unfold rowsT rowT
    rw [List.drop_eq_getElem_cons hk]
    simp only [vtRuns, finalAt_append, List.drop_zero]
  · rw [dif_neg hk, rowsT_of_ge_length cells La b k (by omega), rowsT_of_ge_length cells La b (k + 1) (by omega)]
    rfl

theorem rowT_other_line (hd : ct ∣ S) (hb : b < S) (hok : RowsOk cfg S ct cells) (k : Nat) (hk : k < cells.length)
    (hl : ¬ (k * 10 ≤ La ∧ La < k * 10 + 10)) : rowT cfg drcs S ct rv fl cells[k] k La b 0 = none := by
  have h := hok cells[k] (List.getElem_mem hk)
  exact orChain_none (fun j => rowT_step cells[k] k La b j hd hb h.1 h.2) (rowT_of_ge_length cells[k] k La b _ (Nat.le_refl _))
    0 (Nat.zero_le _) fun j _ _ => colVal_none_of_line cells[k] k La b j hl

end rows

/-- closed form of a rendering: byte `b` of line `ry * 10 + dy` gets its value from character row `ry` alone -/
theorem vtRuns_closed {cfg : Cfg} {drcs : List Bool} {S ct : Nat} {rv fl : Bool} (cells : List (List (Nat × Cell))) (b ry dy : Nat)
    (hct : 0 < ct) (hd : ct ∣ S) (hb : b < S) (hok : RowsOk cfg S ct cells) (hry : ry < cells.length) (hdy : dy < 10) :
    finalAt (vtRuns cfg drcs S ct rv fl 0 cells) ((ry * 10 + dy) * S + b) =
      under cfg drcs rv fl ct cells[ry] ry (ry * 10 + dy) b := by
  have h := hok cells[ry] (List.getElem_mem hry)
  have h0 : finalAt (vtRuns cfg drcs S ct rv fl 0 cells) ((ry * 10 + dy) * S + b) =
      rowsT cfg drcs S ct rv fl cells (ry * 10 + dy) b 0 := by simp [rowsT]
  have hchain := rowsT_chain (cfg := cfg) (drcs := drcs) (S := S) (ct := ct) (rv := rv) (fl := fl) cells (ry * 10 + dy) b
  have hoff : ∀ j, j < cells.length → j ≠ ry →
      (if h : j < cells.length then rowT cfg drcs S ct rv fl cells[j] j (ry * 10 + dy) b 0 else none) = none := fun j hj hne => by
    rw [dif_pos hj]; exact rowT_other_line cells (ry * 10 + dy) b hd hb hok j hj (by omega)
  rw [h0, orChain_skip hchain ry 0 (fun j _ hj => hoff j (by omega) (by omega)), Nat.zero_add, hchain ry, dif_pos hry,
    orChain_none hchain (rowsT_of_ge_length cells (ry * 10 + dy) b cells.length (Nat.le_refl _)) (ry + 1) (by omega)
      (fun j hj hj2 => hoff j hj2 (by omega))]
  exact rowT_closed cells[ry] ry (ry * 10 + dy) b hct hd hb h.1 h.2

theorem vtDrawn_last_irrel {cfg : Cfg} {drcs : List Bool} {rv fl : Bool} (l1 l2 : Bool) (c : Cell)
    (h : l1 = l2 ∨ isWide c.size = false) :
    vtDrawn cfg drcs rv fl l1 c = vtDrawn cfg drcs rv fl l2 c := by
  rcases h with h | h
  · rw [h]
  · unfold vtDrawn drawSize
    simp [clipSize_of_not_wide h]

theorem vtDrawn_isSome {cfg : Cfg} {drcs : List Bool} {rv fl : Bool} (l : Bool) (c : Cell) (h : isOver c.size = false) :
    ∃ ks, vtDrawn cfg drcs rv fl l c = some ks := by
  unfold vtDrawn
  simp only [h, Bool.false_eq_true, ite_false]
  split
  · split <;> exact ⟨_, rfl⟩
  · exact ⟨_, rfl⟩

theorem cover_shift {α : Type} (y Y dy C J W b : Nat) (hdy : dy < 10) (f : Nat → Nat → α) :
    (if y ≤ y + dy ∧ y + dy < y + 10 ∧ J ≤ b ∧ b < J + W then some (f (y + dy - y) (b - J)) else none) =
    (if Y ≤ Y + dy ∧ Y + dy < Y + 10 ∧ C + J ≤ C + b ∧ C + b < C + J + W then some (f (Y + dy - Y) (C + b - (C + J))) else none) := by
  have a1 : y ≤ y + dy ∧ y + dy < y + 10 := by omega
  have a2 : Y ≤ Y + dy ∧ Y + dy < Y + 10 := by omega
  have a3 : (C + J ≤ C + b ∧ C + b < C + J + W) ↔ (J ≤ b ∧ b < J + W) := by omega
  have a4 : y + dy - y = Y + dy - Y := by omega
  have a5 : C + b - (C + J) = b - J := by omega
  simp only [a1, a2, a3, a4, a5, true_and]

section shift
variable {cfg : Cfg} {drcs : List Bool} {ct : Nat} {rv fl : Bool}

/-- a column of the region row `R` (= columns `col ..` of the page row `F`) contributes to the region canvas
    what it contributes to the full-page canvas at the shifted place -/
theorem colVal_shift (R F : List (Nat × Cell)) (col w ry row dy b j : Nat) (hdy : dy < 10)
    (hRlen : R.length = w) (hFlen : col + w ≤ F.length) (hj : j < w)
    (hRF : ∀ i (hi : i < R.length) (hi' : col + i < F.length), R[i] = F[col + i])
    (hnw : ∀ ic, R.getLast? = some ic → isWide ic.2.size = false) :
    colVal cfg drcs rv fl ct R ry (ry * 10 + dy) b j =
      colVal cfg drcs rv fl ct F (row + ry) ((row + ry) * 10 + dy) (col * 12 * ct + b) (col + j) := by
  unfold colVal
  have hjR : j < R.length := by omega
  have hjF : col + j < F.length := by omega
  rw [List.getElem?_eq_getElem hjR, List.getElem?_eq_getElem hjF, ← hRF j hjR hjF]
  have hdrawn : vtDrawn cfg drcs rv fl (R.drop (j + 1)).isEmpty R[j].2 = vtDrawn cfg drcs rv fl (F.drop (col + j + 1)).isEmpty R[j].2 := by
    apply vtDrawn_last_irrel
    cases he : (R.drop (j + 1)).isEmpty with
    | true => exact Or.inr (hnw _ (getLast_of_drop_empty R j hjR he))
    | false =>
      have h1 : ¬ R.length ≤ j + 1 := by simpa using he
      have : ¬ F.length ≤ col + j + 1 := by omega
      exact Or.inl (by simpa using this)
  simp only [hdrawn]
  cases vtDrawn cfg drcs rv fl (F.drop (col + j + 1)).isEmpty R[j].2 with
  | none => rfl
  | some ks =>
    rw [show (col + j) * 12 * ct = col * 12 * ct + j * 12 * ct by rw [Nat.add_mul, Nat.add_mul]]
    exact cover_shift _ _ dy _ _ _ b hdy (fun d x => (R[j].1, d, ks.1, ks.2, x))

theorem colVal_first (L : List (Nat × Cell)) (ry dy b : Nat) (hdy : dy < 10) (hb : b < 12 * ct) (hL : 0 < L.length)
    (hno : isOver L[0].2.size = false) : ∃ v, colVal cfg drcs rv fl ct L ry (ry * 10 + dy) b 0 = some v := by
  obtain ⟨ks, hks⟩ := vtDrawn_isSome (cfg := cfg) (drcs := drcs) (rv := rv) (fl := fl) (L.drop (0 + 1)).isEmpty L[0].2 hno
  unfold colVal
  rw [List.getElem?_eq_getElem hL]
  simp only [hks]
  have hW : 12 * ct ≤ (if isWide ks.2 then 2 else 1) * 12 * ct := by split <;> omega
  rw [if_pos ⟨by omega, by omega, by omega, by omega⟩]
  exact ⟨_, rfl⟩

theorem under_shift (R F : List (Nat × Cell)) (col w ry row dy b : Nat) (hct : 0 < ct) (hdy : dy < 10)
    (hRlen : R.length = w) (hFlen : col + w ≤ F.length) (hb : b < w * 12 * ct)
    (hRF : ∀ i (hi : i < R.length) (hi' : col + i < F.length), R[i] = F[col + i])
    (hnw : ∀ ic, R.getLast? = some ic → isWide ic.2.size = false)
    (hno : ∀ ic, R.head? = some ic → isOver ic.2.size = false) :
    under cfg drcs rv fl ct R ry (ry * 10 + dy) b =
      under cfg drcs rv fl ct F (row + ry) ((row + ry) * 10 + dy) (col * 12 * ct + b) := by
  have hu : 0 < 12 * ct := by omega
  have hc0' : (col * 12 * ct + b) / (12 * ct) = col + b / (12 * ct) := by
    rw [Nat.mul_assoc, Nat.mul_comm col, Nat.mul_add_div hu]
  have hc0w : b / (12 * ct) < w := by
    rw [Nat.div_lt_iff_lt_mul hu, ← Nat.mul_assoc]; exact hb
  have hsh := fun j (hj : j < w) => colVal_shift (cfg := cfg) (drcs := drcs) (ct := ct) (rv := rv) (fl := fl)
    R F col w ry row dy b j hdy hRlen hFlen hj hRF hnw
  have hz0 : b / (12 * ct) = 0 → b < 12 * ct := (Nat.div_eq_zero_iff_lt hu).1
  unfold under
  rw [hc0']
  generalize b / (12 * ct) = c0 at *
  by_cases hz : c0 = 0
  · -- the first cell of the region row is drawn and covers the byte: what stands left of it on the page is hidden
    have hw0 : 0 < R.length := by omega
    obtain ⟨v, hv⟩ := colVal_first (cfg := cfg) (drcs := drcs) (rv := rv) (fl := fl) R ry dy b hdy (hz0 hz) hw0
      (hno _ (by rw [List.head?_eq_getElem?, List.getElem?_eq_getElem hw0]))
    rw [hz, ← hsh 0 (by omega), hv]
    rfl
  · have hne : ¬ col + c0 = 0 := by omega
    rw [if_neg hz, if_neg hne, hsh _ hc0w, hsh (c0 - 1) (by omega), show col + (c0 - 1) = col + c0 - 1 by omega]

end shift

theorem regionCells_sub {pg : Page} {col row w h : Nat} {cells fcells : List (List (Nat × Cell))}
    (hc : regionCells pg col row w h = .ok cells) (hfc : regionCells pg 0 0 pg.columns pg.rows = .ok fcells)
    (ry : Nat) (hry : ry < cells.length) (hryf : row + ry < fcells.length)
    (i : Nat) (hi : i < cells[ry].length) (hi' : col + i < fcells[row + ry].length) :
    cells[ry][i] = fcells[row + ry][col + i] := by
  have h1 := regionCells_getElem hc ry i hry hi
  have h2 := regionCells_getElem hfc (row + ry) (col + i) hryf hi'
  simp only [Nat.zero_add] at h2
  rw [h1] at h2
  exact Except.ok.inj h2

end Zvbi.Export
