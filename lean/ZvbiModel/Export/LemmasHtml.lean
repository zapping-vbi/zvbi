import ZvbiModel.Export.HtmlSpec
import ZvbiModel.Export.HtmlInst
import ZvbiModel.Export.Lemmas
/-! Helper lemmas for the HTML export theorems (`Props/C16Html.lean`): bytes that cannot be markup, the two readers `strip` and
`tagsIn` on a sequence of pieces, and the body loop described by one relation (`Seg`). -/
namespace Zvbi.Export
open Zvbi.Export.Spec

def AllPlain (bs : Bytes) : Prop := ∀ x ∈ bs, Plain x

theorem allPlain_nil : AllPlain [] := by intro x hx; cases hx

theorem allPlain_append {a b : Bytes} : AllPlain (a ++ b) ↔ AllPlain a ∧ AllPlain b := by
  simp [AllPlain, List.mem_append, or_imp, forall_and]

theorem allPlain_cons {a : Nat} {b : Bytes} : AllPlain (a :: b) ↔ Plain a ∧ AllPlain b := by
  simp [AllPlain]

theorem plain_of_range {x lo hi : Nat} (h1 : lo ≤ x) (h2 : x ≤ hi) (h3 : 38 < lo ∧ hi < 60 ∨ 62 < lo) : Plain x := by
  unfold Plain; omega

theorem digitsLE_lt (f n : Nat) : ∀ d ∈ digitsLE f n, d < 10 := by
  induction f generalizing n with
  | zero => intro d hd; simp [digitsLE] at hd
  | succ f ih =>
    intro d hd
    unfold digitsLE at hd
    split at hd
    · simp at hd; omega
    · simp at hd
      rcases hd with h | h
      · omega
      · exact ih _ _ h

theorem digitsLE_length (f n : Nat) : (digitsLE f n).length ≤ f := by
  induction f generalizing n with
  | zero => simp [digitsLE]
  | succ f ih =>
    unfold digitsLE
    split
    · simp
    · simp; exact ih _

theorem dec_length (n : Nat) : (dec n).length ≤ 20 := by
  simp [dec]; exact digitsLE_length 20 n

theorem dec_plain (n : Nat) : AllPlain (dec n) := by
  intro x hx
  simp [dec] at hx
  obtain ⟨d, hd, rfl⟩ := hx
  have := digitsLE_lt 20 n d hd
  unfold Plain; omega

theorem hexDigit_plain (d : Nat) (h : d < 16) : Plain (hexDigit d) := by
  unfold hexDigit Plain; split <;> omega

theorem hashColor_plain (v : Nat) : AllPlain (hashColor v) := by
  intro x hx
  simp [hashColor, hex2] at hx
  rcases hx with h | h | h | h | h | h | h
  · subst h; unfold Plain; omega
  all_goals (subst h; apply hexDigit_plain; omega)

theorem hashColor_length (v : Nat) : (hashColor v).length = 7 := by simp [hashColor, hex2]

theorem strip_true_plain (mid rest : Bytes) (h : AllPlain mid) :
    strip true (mid ++ 62 :: rest) = strip false rest := by
  induction mid with
  | nil => simp [strip]
  | cons a m ih =>
    have ha := (allPlain_cons.1 h)
    have : a ≠ 62 := ha.1.2.1
    simp [strip, this, ih ha.2]

theorem strip_tag {bs : Bytes} (h : IsTag bs) (rest : Bytes) : strip false (bs ++ rest) = strip false rest := by
  obtain ⟨mid, rfl, hm⟩ := h
  have := strip_true_plain mid rest hm
  simp [strip, List.append_assoc, this]

theorem strip_noLt (bs rest : Bytes) (h : 60 ∉ bs) : strip false (bs ++ rest) = bs ++ strip false rest := by
  induction bs with
  | nil => simp
  | cons a m ih =>
    have h1 : a ≠ 60 := fun e => h (by simp [e])
    have h2 : 60 ∉ m := fun e => h (by simp [e])
    simp [strip, h1, ih h2]

theorem tagsIn_some_plain (mid rest cur : Bytes) (h : AllPlain mid) :
    tagsIn (some cur) (mid ++ 62 :: rest) = (cur ++ mid ++ [62]) :: tagsIn none rest := by
  induction mid generalizing cur with
  | nil => simp [tagsIn]
  | cons a m ih =>
    have ha := allPlain_cons.1 h
    have : a ≠ 62 := ha.1.2.1
    simp [tagsIn, this, ih _ ha.2]

theorem tagsIn_tag {bs : Bytes} (h : IsTag bs) (rest : Bytes) : tagsIn none (bs ++ rest) = bs :: tagsIn none rest := by
  obtain ⟨mid, rfl, hm⟩ := h
  have := tagsIn_some_plain mid rest [60] hm
  simp [tagsIn, List.append_assoc, this]

theorem tagsIn_noLt (bs rest : Bytes) (h : 60 ∉ bs) : tagsIn none (bs ++ rest) = tagsIn none rest := by
  induction bs with
  | nil => simp
  | cons a m ih =>
    have h1 : a ≠ 60 := fun e => h (by simp [e])
    have h2 : 60 ∉ m := fun e => h (by simp [e])
    simp [tagsIn, h1, ih h2]

theorem scanTags_append (a b : List Bytes) : ∀ o, scanTags o (a ++ b) = (scanTags o a).bind (fun o' => scanTags o' b) := by
  induction a with
  | nil => intro o; simp [scanTags]
  | cons t ts ih =>
    intro o
    simp only [List.cons_append, scanTags]
    cases tagEvent t with
    | none => simp
    | some e =>
      rcases h : openStep o e with _ | o'
      · simp only [h]; rfl
      · simp only [h]; exact ih o'

theorem piecesOps_append (a b : List Piece) : piecesOps (a ++ b) = piecesOps a ++ piecesOps b := by simp [piecesOps]
theorem piecesOps_cons (a : Piece) (b : List Piece) : piecesOps (a :: b) = a.ops ++ piecesOps b := by simp [piecesOps]
theorem piecesOps_nil : piecesOps [] = [] := rfl

def PieceOk (p : Piece) : Prop :=
  if p.isTag then IsTag (output p.ops) else IsEscaped (output p.ops)

theorem isEscaped_noLt {bs : Bytes} (h : IsEscaped bs) : 60 ∉ bs ∧ 62 ∉ bs := by
  rcases h with ⟨b, rfl, hb⟩ | rfl | rfl | rfl | ⟨n, rfl⟩
  · unfold Plain at hb; simp; omega
  · decide
  · decide
  · decide
  · have := dec_plain n
    constructor <;>
    · intro hm
      simp [entNum, List.mem_append] at hm
      have := this _ hm
      unfold Plain at this; omega

def tagsOf (ps : List Piece) : List Bytes := (ps.filter (·.isTag)).map (fun p => output p.ops)

theorem tagsOf_append (a b : List Piece) : tagsOf (a ++ b) = tagsOf a ++ tagsOf b := by simp [tagsOf]

theorem strip_tagsIn_pieces (ps : List Piece) (h : ∀ p ∈ ps, PieceOk p) :
    stripTags (output (piecesOps ps)) = output (piecesOps (ps.filter (fun p => !p.isTag))) ∧
    tagsIn none (output (piecesOps ps)) = tagsOf ps := by
  unfold stripTags
  induction ps with
  | nil => simp [piecesOps, output, strip, tagsIn, tagsOf]
  | cons p ps ih =>
    have hp := h p (by simp)
    obtain ⟨i1, i2⟩ := ih (fun q hq => h q (by simp [hq]))
    rw [piecesOps_cons, output_append]
    unfold PieceOk at hp
    by_cases ht : p.isTag = true
    · simp only [ht, if_true] at hp
      rw [strip_tag hp, tagsIn_tag hp, i1, i2]
      simp [tagsOf, List.filter, ht]
    · have ht' : p.isTag = false := by simpa using ht
      simp only [ht', Bool.false_eq_true, if_false] at hp
      rw [strip_noLt _ _ (isEscaped_noLt hp).1, tagsIn_noLt _ _ (isEscaped_noLt hp).1, i1, i2]
      simp [tagsOf, List.filter, ht', piecesOps_cons, output_append]

def plen (ps : List Piece) : Nat := (output (piecesOps ps)).length

theorem plen_append (a b : List Piece) : plen (a ++ b) = plen a + plen b := by
  simp [plen, piecesOps_append, output_append]

theorem isTag_const (mid : Bytes) (h : AllPlain mid) : IsTag (60 :: (mid ++ [62])) := ⟨mid, rfl, h⟩

theorem allPlain_decide (bs : Bytes) (h : bs.all (fun x => x != 60 && x != 62 && x != 38) = true) : AllPlain bs := by
  intro x hx
  have := List.all_eq_true.1 h x hx
  simp at this
  exact ⟨this.1.1, this.1.2, this.2⟩

theorem isTag_IOff : IsTag tagIOff := isTag_const [47, 105] (allPlain_decide _ (by decide))
theorem isTag_IOn : IsTag tagIOn := isTag_const [105] (allPlain_decide _ (by decide))
theorem isTag_BOff : IsTag tagBOff := isTag_const [47, 98] (allPlain_decide _ (by decide))
theorem isTag_BOn : IsTag tagBOn := isTag_const [98] (allPlain_decide _ (by decide))
theorem isTag_UOff : IsTag tagUOff := isTag_const [47, 117] (allPlain_decide _ (by decide))
theorem isTag_UOn : IsTag tagUOn := isTag_const [117] (allPlain_decide _ (by decide))
theorem isTag_SpanOff : IsTag tagSpanOff := isTag_const [47, 115, 112, 97, 110] (allPlain_decide _ (by decide))

def ConvByte (conv : Nat → Option Nat) : Prop := ∀ u b, conv u = some b → b < 256

/-- `gfx_chr` cannot be taken for markup (always true once it is escaped) -/
def GfxSafe (cfg : HtmlCfg) (gfx : Nat) : Prop := cfg.gfxEscaped = true ∨ Plain (gfx % 256)

theorem escapedPutc_bytes (b : Nat) (hb : b < 256) : opBytes (escapedPutc b) = escChar (.byte b) := by
  unfold escapedPutc escChar
  by_cases h1 : b = 60
  · simp [h1, opBytes]
  · by_cases h2 : b = 62
    · simp [h2, opBytes]
    · by_cases h3 : b = 38
      · simp [h3, opBytes]
      · simp [h1, h2, h3, opBytes, Nat.mod_eq_of_lt hb]

theorem charOp_bytes (cfg : HtmlCfg) (conv : Nat → Option Nat) (gfx u : Nat) (hc : ConvByte conv) (hg : GfxSafe cfg gfx) :
    opBytes (charOp cfg conv gfx u) = escChar (pageChar conv gfx u) := by
  unfold charOp pageChar
  by_cases hp : u < 0xE600
  · simp only [isPrint, hp, decide_true, if_true]
    cases hcv : conv u with
    | none => simp [opBytes, escChar]
    | some b =>
      by_cases hat : b = 0x40 ∧ u ≠ 0x40
      · simp [hat, opBytes, escChar]
      · have : (b == 0x40 && u != 0x40) = false := by
          by_cases hb : b = 0x40
          · have : u = 0x40 := by
              by_cases hu : u = 0x40
              · exact hu
              · exact absurd ⟨hb, hu⟩ hat
            simp [this]
          · simp [hb]
        simp only [this, Bool.false_eq_true, if_false, hat]
        exact escapedPutc_bytes b (hc u b hcv)
  · simp only [isPrint, hp, decide_false, Bool.false_eq_true, if_false]
    by_cases hgf : 0xEE00 ≤ u ∧ u ≤ 0xEFFF
    · have : isGfx u = true := by simp [isGfx, hgf.1, hgf.2]
      simp only [this, if_true, hgf, and_self]
      have hlt : gfx % 256 < 256 := Nat.mod_lt _ (by decide)
      cases hge : cfg.gfxEscaped
      · rcases hg with h | h
        · simp [hge] at h
        · unfold Plain at h
          simp [opBytes, escChar, h.1, h.2.1, h.2.2, Nat.mod_eq_of_lt hlt]
      · simp only [if_true]
        exact escapedPutc_bytes _ hlt
    · have : isGfx u = false := by
        simp only [isGfx]
        by_cases h : 0xEE00 ≤ u
        · have : ¬ u ≤ 0xEFFF := fun h2 => hgf ⟨h, h2⟩
          simp [this]
        · simp [h]
      simp [this, hgf, opBytes, escChar]

theorem escChar_isEscaped (c : HChar) : IsEscaped (escChar c) := by
  cases c with
  | byte b =>
    unfold escChar
    by_cases h1 : b = 60
    · simp [h1, IsEscaped]
    · by_cases h2 : b = 62
      · simp [h2, IsEscaped]
      · by_cases h3 : b = 38
        · simp [h3, IsEscaped]
        · simp only [h1, h2, h3, if_false]
          exact Or.inl ⟨b, rfl, h1, h2, h3⟩
  | ucs u => exact Or.inr (Or.inr (Or.inr (Or.inr ⟨u, rfl⟩)))

theorem escapedPutc_len (b : Nat) : (opBytes (escapedPutc b)).length ≤ 5 := by
  unfold escapedPutc; split <;> (try split) <;> (try split) <;> simp [opBytes, entLt, entGt, entAmp]

theorem charOp_len (cfg : HtmlCfg) (conv : Nat → Option Nat) (gfx u : Nat) : (opBytes (charOp cfg conv gfx u)).length ≤ 23 := by
  have hd := dec_length u
  have he : ∀ b, (opBytes (escapedPutc b)).length ≤ 23 := fun b => Nat.le_trans (escapedPutc_len b) (by decide)
  unfold charOp
  split
  · split
    · split
      · simp [opBytes, entNum]; omega
      · exact he _
    · simp [opBytes, entNum]; omega
  · split
    · split
      · exact he _
      · simp [opBytes]
    · simp [opBytes]

def chrPiece (cfg : HtmlCfg) (conv : Nat → Option Nat) (gfx : Nat) (c : HCell) : Piece := ⟨false, [charOp cfg conv gfx c.unicode]⟩

def nlPiece : Piece := ⟨false, [.putc 10]⟩

section chr
variable (cfg : HtmlCfg) (env : HtmlEnv) (conv : Nat → Option Nat) (hc : ConvByte conv) (hg : GfxSafe cfg env.gfx)

include hc hg in
theorem chrPiece_ok (c : HCell) : PieceOk (chrPiece cfg conv env.gfx c) := by
  simp only [PieceOk, chrPiece, Bool.false_eq_true, if_false, output_cons, output_nil, List.append_nil]
  rw [charOp_bytes cfg conv env.gfx c.unicode hc hg]
  exact escChar_isEscaped _

theorem nlPiece_ok : PieceOk nlPiece := by
  simp only [PieceOk, nlPiece, Bool.false_eq_true, if_false]
  exact Or.inl ⟨10, by simp [output, opBytes], by unfold Plain; omega⟩

end chr

def openOf (st : HSt) : Open := ⟨st.span, st.underline, st.bold, st.italic⟩

/-- without colours no span is ever opened -/
def SpanInv (env : HtmlEnv) (st : HSt) : Prop := env.color = false → st.span = false

/-- bytes one cell can produce at most: 19 (closing tags) + 77 (span) + 12 (u, b, i) + 23 (character) -/
def cellMax : Nat := 131

def chars (ps : List Piece) : List Piece := ps.filter (fun p => !p.isTag)

/-- a stretch of the body: its tags are well formed and take the open elements from `o` to `o'`, it is at most `n` bytes
long, and its character data are the pieces `cs` -/
structure Seg (o : Open) (ps : List Piece) (o' : Open) (n : Nat) (cs : List Piece) : Prop where
  tag : ∀ p ∈ ps, p.isTag = true → IsTag (output p.ops)
  scan : scanTags o (tagsOf ps) = some o'
  len : plen ps ≤ n
  chr : chars ps = cs

namespace Seg
variable {o o1 o2 : Open} {a b cs ds : List Piece} {n m : Nat}

theorem nil : Seg o [] o 0 [] := ⟨nofun, rfl, Nat.le_refl _, rfl⟩

theorem append (h1 : Seg o a o1 n cs) (h2 : Seg o1 b o2 m ds) : Seg o (a ++ b) o2 (n + m) (cs ++ ds) :=
  ⟨fun p hp => (List.mem_append.1 hp).elim (h1.tag p) (h2.tag p),
    by rw [tagsOf_append, scanTags_append, h1.scan]; exact h2.scan,
    by rw [plen_append]; exact Nat.add_le_add h1.len h2.len,
    by rw [← h1.chr, ← h2.chr]; exact List.filter_append ..⟩

theorem mono (h : Seg o a o1 n cs) (hn : n ≤ m) : Seg o a o1 m cs := { h with len := Nat.le_trans h.len hn }

theorem cast (h : Seg o a o1 n cs) (ho : o1 = o2) : Seg o a o2 n cs := ho ▸ h

theorem one {p : Piece} {e : Kind × Bool} (ht : p.isTag = true) (hok : IsTag (output p.ops)) (he : tagEvent (output p.ops) = some e)
    (hs : openStep o e = some o1) (hl : (output p.ops).length ≤ n) : Seg o [p] o1 n [] :=
  ⟨fun q hq _ => (List.mem_singleton.1 hq) ▸ hok, by simp [tagsOf, ht, scanTags, he, hs],
    (by simpa [plen, piecesOps] using hl), by simp [chars, ht]⟩

theorem data {p : Piece} (ht : p.isTag = false) (hl : (output p.ops).length ≤ n) : Seg o [p] o n [p] :=
  ⟨(fun q hq h => by rw [List.mem_singleton.1 hq, ht] at h; cases h), (by simp [tagsOf, ht, scanTags]),
    (by simpa [plen, piecesOps] using hl), by simp [chars, ht]⟩

end Seg

/-- a tag written only under a condition `c`: `o1` is the state after it, equal to `o` when nothing is written -/
theorem optTag_seg {c : Bool} {o o1 : Open} {bs : Bytes} {e : Kind × Bool} {n : Nat} (hok : IsTag bs) (he : tagEvent bs = some e)
    (hl : bs.length ≤ n) (hs : c = true → openStep o e = some o1) (hn : c = false → o = o1) :
    Seg o (if c then [tagP bs] else []) o1 n [] := by
  cases c
  · rw [← hn rfl]; exact Seg.nil.mono (Nat.zero_le _)
  · exact Seg.one rfl (by simpa [tagP, output, opBytes] using hok) (by simpa [tagP, output, opBytes] using he) (hs rfl)
      (by simpa [tagP, output, opBytes] using hl)

theorem closers_seg (st : HSt) : Seg (openOf st) (closers st) {} 19 [] := by
  obtain ⟨fg, bg, fl, u, b, i, s⟩ := st
  exact (((optTag_seg (o1 := ⟨s, u, b, false⟩) (n := 4) isTag_IOff rfl (by decide) (by rintro rfl; rfl) (by rintro rfl; rfl)).append
    (optTag_seg (o1 := ⟨s, u, false, false⟩) (n := 4) isTag_BOff rfl (by decide) (by rintro rfl; rfl) (by rintro rfl; rfl))).append
    (optTag_seg (o1 := ⟨s, false, false, false⟩) (n := 4) isTag_UOff rfl (by decide) (by rintro rfl; rfl) (by rintro rfl; rfl))).append
    (optTag_seg (n := 7) isTag_SpanOff rfl (by decide) (by rintro rfl; rfl) (by rintro rfl; rfl))

/-- one of u / b / i: the tag is written iff the cell's attribute `c` differs from the state's `x` -/
theorem toggle_seg {o o1 : Open} {c x : Bool} {on off : Bytes} {k : Kind} (hon : IsTag on) (hoff : IsTag off)
    (eon : tagEvent on = some (k, true)) (eoff : tagEvent off = some (k, false)) (hl : on.length ≤ 4 ∧ off.length ≤ 4)
    (hs : (c != x) = true → openStep o (k, c) = some o1) (hn : (c != x) = false → o = o1) :
    Seg o (if c != x then [tagP (if c then on else off)] else []) o1 4 [] := by
  cases c
  · exact optTag_seg hoff eoff hl.2 hs hn
  · exact optTag_seg hon eon hl.1 hs hn

theorem attrPieces_seg (st : HSt) (c : HCell) :
    Seg (openOf st) (attrPieces st c) ⟨st.span, c.underline, c.bold, c.italic⟩ 12 [] := by
  obtain ⟨fg, bg, fl, u, b, i, s⟩ := st
  obtain ⟨_, _, _, _, cu, cb, ci⟩ := c
  exact ((toggle_seg (o1 := ⟨s, cu, b, i⟩) isTag_UOn isTag_UOff rfl rfl (by decide) (by cases cu <;> cases u <;> simp [openStep, openOf])
      (by cases cu <;> cases u <;> simp [openOf])).append
    (toggle_seg (o1 := ⟨s, cu, cb, i⟩) isTag_BOn isTag_BOff rfl rfl (by decide) (by cases cb <;> cases b <;> simp [openStep])
      (by cases cb <;> cases b <;> simp))).append
    (toggle_seg isTag_IOn isTag_IOff rfl rfl (by decide) (by cases ci <;> cases i <;> simp [openStep]) (by cases ci <;> cases i <;> simp))

theorem classSpan_seg (ord : Nat) : Seg {} [classSpan ord] ⟨true, false, false, false⟩ 36 [] := by
  have e : output (classSpan ord).ops = 60 :: (([115, 112, 97, 110, 32, 99, 108, 97, 115, 115, 61, 34, 99] ++ dec ord ++ [34]) ++ [62]) := by
    simp [classSpan, output, opBytes, tagSpanClass, tagQuoteGt]
  refine Seg.one (e := (.span, true)) rfl ?_ ?_ rfl ?_
  · rw [e]
    refine isTag_const _ ?_
    rw [allPlain_append, allPlain_append]
    exact ⟨⟨allPlain_decide _ (by decide), dec_plain ord⟩, allPlain_decide _ (by decide)⟩
  · simp [tagEvent, classSpan, output, opBytes, tagSpanClass, tagUOn, tagUOff, tagBOn, tagBOff, tagIOn, tagIOff, tagSpanOff]
  · rw [e]
    simp only [List.length_cons, List.length_append, List.length_nil]
    have := dec_length ord
    omega

theorem inlineSpan_seg (colorAt : Nat → Nat) (fg bg : Nat) (flash : Bool) :
    Seg {} [inlineSpan colorAt fg bg flash] ⟨true, false, false, false⟩ 77 [] := by
  have e : output (inlineSpan colorAt fg bg flash).ops =
      60 :: (([115, 112, 97, 110, 32, 115, 116, 121, 108, 101, 61, 34, 99, 111, 108, 111, 114, 58] ++ hashColor (colorAt fg) ++ tagBgColor
        ++ hashColor (colorAt bg) ++ (if flash then tagBlink else []) ++ [34]) ++ [62]) := by
    cases flash <;> simp [inlineSpan, output, opBytes, tagSpanStyle, tagQuoteGt]
  refine Seg.one (e := (.span, true)) rfl ?_ ?_ rfl ?_
  · rw [e]
    refine isTag_const _ ?_
    simp only [allPlain_append]
    refine ⟨⟨⟨⟨⟨allPlain_decide _ (by decide), hashColor_plain _⟩, allPlain_decide _ (by decide)⟩, hashColor_plain _⟩, ?_⟩,
      allPlain_decide _ (by decide)⟩
    cases flash
    · exact allPlain_nil
    · exact allPlain_decide _ (by decide)
  · simp [tagEvent, inlineSpan, output, opBytes, tagSpanStyle, tagUOn, tagUOff, tagBOn, tagBOff, tagIOn, tagIOff, tagSpanOff]
  · rw [e]
    simp only [List.length_cons, List.length_append, List.length_nil, hashColor_length, tagBgColor, tagBlink]
    cases flash <;> decide

theorem openSpan_seg (env : HtmlEnv) (colorAt : Nat → Nat) (styles : List Style) (st : HSt) (c : HCell)
    (hu : st.underline = false) (hb : st.bold = false) (hi : st.italic = false) :
    Seg {} (openSpan env colorAt styles st c).2 (openOf (openSpan env colorAt styles st c).1) 77 [] := by
  have inl := inlineSpan_seg colorAt
  have e : ∀ x : HSt, x.underline = st.underline → x.bold = st.bold → x.italic = st.italic → x.span = true →
      (⟨true, false, false, false⟩ : Open) = openOf x := fun x h1 h2 h3 h4 => by simp [openOf, h1, h2, h3, h4, hu, hb, hi]
  unfold openSpan
  split
  · exact (inl ..).cast (e _ rfl rfl rfl rfl)
  · split
    · exact (Seg.nil.mono (Nat.zero_le _)).cast (by simp [openOf, hu, hb, hi])
    · split
      · split
        · exact ((classSpan_seg _).mono (by decide)).cast (e _ rfl rfl rfl rfl)
        · exact (inl ..).cast (e _ rfl rfl rfl rfl)
      · exact (inl ..).cast (e _ rfl rfl rfl rfl)

theorem spanStep_seg (env : HtmlEnv) (colorAt : Nat → Nat) (styles : List Style) (st : HSt) (c : HCell) (hinv : SpanInv env st) :
    Seg (openOf st) (spanStep env colorAt styles st c).2 (openOf (spanStep env colorAt styles st c).1) 96 [] ∧
    SpanInv env (spanStep env colorAt styles st c).1 := by
  unfold spanStep
  split
  · split
    · next hcol =>
      exact ⟨(closers_seg st).append (openSpan_seg env colorAt styles _ c rfl rfl rfl), fun h => by rw [hcol] at h; cases h⟩
    · next hcol =>
      have hs : st.span = false := hinv (by simpa using hcol)
      exact ⟨by simpa [openOf, hs] using (closers_seg st).mono (by decide : 19 ≤ 96), fun _ => hs⟩
  · exact ⟨Seg.nil.mono (Nat.zero_le _), hinv⟩

section steps
variable (cfg : HtmlCfg) (env : HtmlEnv) (conv : Nat → Option Nat) (colorAt : Nat → Nat) (styles : List Style)
variable (hc : ConvByte conv) (hg : GfxSafe cfg env.gfx)

theorem cellStep_seg (st : HSt) (c : HCell) (hinv : SpanInv env st) :
    Seg (openOf st) (cellStep cfg env conv colorAt styles st c).2 (openOf (cellStep cfg env conv colorAt styles st c).1) cellMax
      [chrPiece cfg conv env.gfx c] ∧ SpanInv env (cellStep cfg env conv colorAt styles st c).1 := by
  obtain ⟨h1, h2⟩ := spanStep_seg env colorAt styles st c hinv
  exact ⟨(h1.append (attrPieces_seg _ c)).append (Seg.data (n := 23) (p := chrPiece cfg conv env.gfx c) rfl (by simpa [chrPiece, output] using charOp_len ..)), h2⟩

theorem rowStep_seg (cells : List HCell) : ∀ (st : HSt), SpanInv env st →
    Seg (openOf st) (rowStep cfg env conv colorAt styles st cells).2 (openOf (rowStep cfg env conv colorAt styles st cells).1)
      (cellMax * cells.length + 1) (cells.map (chrPiece cfg conv env.gfx) ++ [nlPiece]) ∧
    SpanInv env (rowStep cfg env conv colorAt styles st cells).1 := by
  induction cells with
  | nil => exact fun st hinv => ⟨Seg.data (p := nlPiece) rfl (by decide), hinv⟩
  | cons c cs ih =>
    intro st hinv
    obtain ⟨h1, h2⟩ := cellStep_seg cfg env conv colorAt styles st c hinv
    obtain ⟨h3, h4⟩ := ih _ h2
    exact ⟨(h1.append h3).mono (by simp [Nat.mul_succ]; omega), h4⟩

theorem rowsStep_seg (rows : List (List HCell)) : ∀ (st : HSt), SpanInv env st →
    Seg (openOf st) (rowsStep cfg env conv colorAt styles st rows).2 (openOf (rowsStep cfg env conv colorAt styles st rows).1)
      (rows.map fun r => cellMax * r.length + 1).sum (rows.flatMap fun r => r.map (chrPiece cfg conv env.gfx) ++ [nlPiece]) ∧
    SpanInv env (rowsStep cfg env conv colorAt styles st rows).1 := by
  induction rows with
  | nil => exact fun st hinv => ⟨Seg.nil, hinv⟩
  | cons r rs ih =>
    intro st hinv
    obtain ⟨h1, h2⟩ := rowStep_seg cfg env conv colorAt styles r st hinv
    obtain ⟨h3, h4⟩ := ih _ h2
    exact ⟨h1.append h3, h4⟩

/-- the pieces between `<pre>` and `</pre>`, for any style list and any rows -/
theorem bodyPieces_seg (rows : List (List HCell)) :
    Seg {} (bodyPieces cfg env conv colorAt styles rows) {} ((rows.map fun r => cellMax * r.length + 1).sum + 19)
      (rows.flatMap fun r => r.map (chrPiece cfg conv env.gfx) ++ [nlPiece]) := by
  have := (rowsStep_seg cfg env conv colorAt styles rows (bodyInit env) (fun _ => rfl)).1.append (closers_seg _)
  rwa [List.append_nil] at this

include hc hg in
theorem bodyPieces_ok (rows : List (List HCell)) : ∀ p ∈ bodyPieces cfg env conv colorAt styles rows, PieceOk p := by
  intro p hp
  have h := bodyPieces_seg cfg env conv colorAt styles rows
  unfold PieceOk
  split
  · exact h.tag p hp ‹_›
  · have : p ∈ chars (bodyPieces cfg env conv colorAt styles rows) := List.mem_filter.2 ⟨hp, by simp [‹¬ _›]⟩
    rw [h.chr] at this
    obtain ⟨r, _, hr⟩ := List.mem_flatMap.1 this
    rcases List.mem_append.1 hr with hr | hr
    · obtain ⟨c, _, rfl⟩ := List.mem_map.1 hr
      have := chrPiece_ok cfg env conv hc hg c
      simpa [PieceOk, chrPiece] using this
    · rw [List.mem_singleton.1 hr]
      simpa [PieceOk, nlPiece] using nlPiece_ok

end steps

theorem pageU_eq (reveal : Bool) (c : Cell) :
    (if isBlankU (htmlUnicode reveal c) then 0x20 else htmlUnicode reveal c) = pageU reveal c := by
  unfold htmlUnicode pageU
  by_cases h1 : c.size > sizeDoubleSize          -- covered by an enlarged character
  · simp [h1, isBlankU]
  · by_cases h2 : c.conceal = true ∧ reveal = false          -- concealed
    · simp [h1, h2, isBlankU]
    · have h2' : (c.conceal && !reveal) = false := by
        cases hc : c.conceal <;> cases hr : reveal <;> simp_all
      simp only [h1, h2, h2', or_self, ite_false, Bool.false_eq_true]
      by_cases h3 : c.unicode = 0xA0          -- no-break space
      · simp [h3, isBlankU]
      · by_cases h4 : c.unicode = 0x20
        · simp [h4, isBlankU]
        · simp [h3, h4, isBlankU]

theorem normRow_unicode (reveal : Bool) (cs : List Cell) : ∀ (pend : List Cell) (last : Option Cell),
    (normRow reveal cs pend last).map (·.unicode) = pend.map (fun _ => 0x20) ++ cs.map (pageU reveal) := by
  induction cs with
  | nil => intro pend last; simp [normRow, blankFrom, toH]
  | cons c cs ih =>
    intro pend last
    unfold normRow
    have hp := pageU_eq reveal c
    by_cases hb : isBlankU (htmlUnicode reveal c) = true
    · simp only [hb, if_true] at hp ⊢
      rw [ih]; simp [hp]
    · simp only [hb, Bool.false_eq_true, if_false] at hp ⊢
      simp [ih, blankFrom, toH, hp]

theorem normRow_length (reveal : Bool) (cs : List Cell) (pend : List Cell) (last : Option Cell) :
    (normRow reveal cs pend last).length = pend.length + cs.length := by
  have := congrArg List.length (normRow_unicode reveal cs pend last)
  simpa using this

theorem chr_output (cfg : HtmlCfg) (conv : Nat → Option Nat) (gfx : Nat) (hc : ConvByte conv) (hg : GfxSafe cfg gfx)
    (rows : List (List HCell)) :
    output (piecesOps (rows.flatMap (fun r => r.map (chrPiece cfg conv gfx) ++ [nlPiece])))
      = (rows.flatMap (fun r => r.map (fun c => pageChar conv gfx c.unicode) ++ [.byte 10])).flatMap escChar := by
  have hrow : ∀ r : List HCell, output (piecesOps (r.map (chrPiece cfg conv gfx)))
      = (r.map (fun c => pageChar conv gfx c.unicode)).flatMap escChar := by
    intro r
    induction r with
    | nil => simp [piecesOps, output]
    | cons c cs ih =>
      simp only [List.map_cons, piecesOps_cons, output_append, ih, List.flatMap_cons]
      simp [chrPiece, output, charOp_bytes cfg conv gfx c.unicode hc hg]
  induction rows with
  | nil => simp [piecesOps, output]
  | cons r rs ih =>
    simp only [List.flatMap_cons, piecesOps_append, output_append, ih, hrow, List.flatMap_append]
    simp [nlPiece, piecesOps, output, opBytes, escChar]

theorem htmlRows_chars (conv : Nat → Option Nat) (gfx : Nat) (reveal : Bool) (cells : List (List Cell)) :
    (htmlRows reveal cells).flatMap (fun r => r.map (fun c => pageChar conv gfx c.unicode) ++ [HChar.byte 10])
      = pageText conv gfx reveal cells := by
  unfold htmlRows pageText
  induction cells with
  | nil => simp
  | cons r rs ih =>
    simp only [List.map_cons, List.flatMap_cons, ih]
    have := normRow_unicode reveal r [] none
    have h2 : (normRow reveal r [] none).map (fun c => pageChar conv gfx c.unicode)
        = ((normRow reveal r [] none).map (·.unicode)).map (pageChar conv gfx) := by simp [List.map_map]
    rw [h2, this]; simp [List.map_map]

theorem pageChar_ucs {conv : Nat → Option Nat} {gfx u v : Nat} (h : pageChar conv gfx u = .ucs v) : v = u := by
  unfold pageChar at h
  split at h
  · split at h
    · split at h
      · cases h; rfl
      · cases h
    · cases h; rfl
  · split at h <;> cases h

theorem pageU_le (reveal : Bool) (c : Cell) : pageU reveal c ≤ max 0x20 c.unicode := by
  unfold pageU; split
  · omega
  · split <;> omega

theorem pageText_ucs_bound (conv : Nat → Option Nat) (gfx : Nat) (reveal : Bool) (cells : List (List Cell)) (B : Nat) (hB : 0x20 ≤ B)
    (h : ∀ r ∈ cells, ∀ c ∈ r, c.unicode ≤ B) : ∀ u, HChar.ucs u ∈ pageText conv gfx reveal cells → u ≤ B := by
  intro u hu
  unfold pageText at hu
  obtain ⟨r, hr, hur⟩ := List.mem_flatMap.1 hu
  simp only [List.mem_append, List.mem_map, List.mem_singleton] at hur
  rcases hur with ⟨c, hc, hcu⟩ | hx
  · have := pageChar_ucs hcu
    have h1 := pageU_le reveal c
    have h2 := h r hr c hc
    omega
  · cases hx

/-- with the resets in `free_styles`, an export either leaves the object as `html_new` made it, or it failed (a read outside the
page) and left the object alone -/
theorem htmlExport_state (cfg : HtmlCfg) (conv : Nat → Option Nat) (i : HtmlInst) (env : HtmlEnv) (pg : Page) :
    (htmlExport true cfg conv i env pg).2 = HtmlInst.fresh ∨
      ((htmlExport true cfg conv i env pg).2 = i ∧ ∃ f, (htmlExport true cfg conv i env pg).1 = .error f) := by
  unfold htmlExport
  cases regionCells pg 0 0 pg.columns pg.rows with
  | error f => exact Or.inr ⟨rfl, f, rfl⟩
  | ok cells =>
    dsimp only
    cases colorsOk pg env (cells.map (·.map (·.2))) with
    | true => exact Or.inl rfl
    | false => exact Or.inr ⟨rfl, _, rfl⟩

end Zvbi.Export
