import ZvbiModel.Export.Spec
/-! The region renderers write inside the region's rectangle: the runs of one character (`cellRuns_inRect`, for a character of one
or two cell widths), then `vtRuns` / `ccRuns`, which append one block of runs per cell (`mem_blocks`). -/
namespace Zvbi.Export
open Zvbi.Export.Spec

theorem lineOff_eq {S ct : Nat} (s dy : Nat) (hd : ct ∣ S) : lineOff S ct s dy = dy * S := by
  unfold lineOff
  split
  · rw [Nat.div_mul_cancel hd]
    have h := Nat.div_add_mod dy 2
    have e : dy / 2 * 2 * S + dy % 2 * S = (dy / 2 * 2 + dy % 2) * S := by rw [Nat.add_mul]
    rw [e]; congr 1; omega
  · rfl

/-- the repair narrows the three wide sizes 1, 3, 7 to 0, 2, 6 and leaves the others -/
theorem clipSize_eq (s : Nat) : clipSize s = if isWide s then s - 1 else s := by
  unfold clipSize isWide sizeDoubleWidth sizeDoubleSize sizeDoubleSize2 sizeNormal sizeDoubleHeight sizeDoubleHeight2
  by_cases h1 : s = 1
  · subst h1; rfl
  · by_cases h3 : s = 3
    · subst h3; rfl
    · by_cases h7 : s = 7
      · subst h7; rfl
      · simp [h1, h3, h7]

theorem clipSize_not_wide (s : Nat) : isWide (clipSize s) = false := by
  rw [clipSize_eq]
  split
  · next h =>
    simp only [isWide, sizeDoubleWidth, sizeDoubleSize, sizeDoubleSize2, Bool.or_eq_true, beq_iff_eq] at h
    rcases h with (rfl | rfl) | rfl <;> rfl
  · next h => simpa using h

theorem clipSize_of_not_wide {s : Nat} (h : isWide s = false) : clipSize s = s := by
  rw [clipSize_eq, h]; rfl

/-- a character of `k` cell widths at column `cx`, character row `ry`, stays in the rectangle when `cx + k <= w` -/
theorem cellRuns_inRect {S ct cw ch ry cx w h idx kind s : Nat} (hd : ct ∣ S)
    (hk : cx + (if isWide s then 2 else 1) ≤ w) (hry : ry < h)
    {run : Run} (hm : run ∈ cellRuns S ct cw ch (ry * ch * S + cx * cw * ct) idx kind s) {a : Nat}
    (ha : Run.covers run a) : InRect S (h * ch) (w * cw * ct) a := by
  unfold cellRuns at hm
  obtain ⟨dy, hdy, rfl⟩ := List.mem_map.1 hm
  have hdy' : dy < ch := List.mem_range.1 hdy
  obtain ⟨h1, h2⟩ := ha
  simp only at h1 h2
  rw [lineOff_eq s dy hd] at h1 h2
  generalize hkk : (if isWide s = true then 2 else 1) = k at *
  refine ⟨ry * ch + dy, a - (ry * ch + dy) * S, ?_, ?_, ?_⟩
  · calc ry * ch + dy < ry * ch + ch := by omega
      _ = (ry + 1) * ch := by rw [Nat.add_mul]; omega
      _ ≤ h * ch := Nat.mul_le_mul_right _ (by omega)
  · have e1 : (ry * ch + dy) * S = ry * ch * S + dy * S := Nat.add_mul _ _ _
    have e2 : (cx + k) * cw * ct = cx * cw * ct + k * cw * ct := by rw [Nat.add_mul, Nat.add_mul]
    have e3 : (cx + k) * cw * ct ≤ w * cw * ct := Nat.mul_le_mul_right _ (Nat.mul_le_mul_right _ hk)
    omega
  · have e1 : (ry * ch + dy) * S = ry * ch * S + dy * S := Nat.add_mul _ _ _
    omega

/-- a loop that appends, for the element at position `k + i`, a block computed from the position, the elements still to
come and the element: every member of the result comes from one of the blocks -/
theorem mem_blocks {α β : Type} {F : Nat → List α → List β} {g : Nat → List α → α → List β}
    (hnil : ∀ k, F k [] = []) (hcons : ∀ k x r, F k (x :: r) = g k r x ++ F (k + 1) r) :
    ∀ (l : List α) (k : Nat) (y : β), y ∈ F k l → ∃ i, ∃ h : i < l.length, y ∈ g (k + i) (l.drop (i + 1)) l[i] := by
  intro l
  induction l with
  | nil => intro k y hy; rw [hnil] at hy; cases hy
  | cons x r ih =>
    intro k y hy
    rw [hcons, List.mem_append] at hy
    rcases hy with hy | hy
    · exact ⟨0, by simp, by simpa using hy⟩
    · obtain ⟨i, hi, h⟩ := ih (k + 1) y hy
      exact ⟨i + 1, by simpa using hi, by simpa [Nat.add_assoc, Nat.add_comm 1 i] using h⟩

section vt
variable {cfg : Cfg} {drcs : List Bool} {S ct : Nat} {reveal flashOn : Bool}

theorem vtDrawn_not_wide (last : Bool) (c : Cell) (hw : last = true → cfg.wideClip = true ∨ isWide c.size = false)
    {ks : Nat × Nat} (h : vtDrawn cfg drcs reveal flashOn last c = some ks) (hl : last = true) : isWide ks.2 = false := by
  have hs : isWide (drawSize cfg last c.size) = false := by
    unfold drawSize
    rcases hw hl with h1 | h1
    · simp [h1, hl, clipSize_not_wide]
    · split
      · exact clipSize_not_wide _
      · exact h1
  unfold vtDrawn at h
  by_cases h1 : isOver c.size = true
  · simp [h1] at h
  · by_cases h2 : isDrcs (effU reveal flashOn c) = true
    · by_cases h3 : hasFont drcs (effU reveal flashOn c) = true
      · simp [h1, h2, h3] at h; rw [← h]; exact hs
      · simp [h1, h2, h3] at h; rw [← h]; decide
    · simp [h1, h2] at h; rw [← h]; exact hs

theorem vtCellRuns_cases (origin : Nat) (last : Bool) (ic : Nat × Cell)
    (hw : last = true → cfg.wideClip = true ∨ isWide ic.2.size = false) :
    vtCellRuns cfg drcs S ct reveal flashOn origin last ic = [] ∨
    ∃ kind s, (last = true → isWide s = false) ∧
      vtCellRuns cfg drcs S ct reveal flashOn origin last ic = cellRuns S ct 12 10 origin ic.1 kind s := by
  unfold vtCellRuns
  cases h : vtDrawn cfg drcs reveal flashOn last ic.2 with
  | none => left; rfl
  | some ks => right; exact ⟨ks.1, ks.2, vtDrawn_not_wide last ic.2 hw h, rfl⟩

theorem vtCellRuns_inRect {ry cx w h : Nat} {last : Bool} {ic : Nat × Cell} (hd : ct ∣ S)
    (hry : ry < h) (hfit : cx + 1 ≤ w) (hlast : last = false → cx + 2 ≤ w)
    (hw : last = true → cfg.wideClip = true ∨ isWide ic.2.size = false)
    {run : Run} (hm : run ∈ vtCellRuns cfg drcs S ct reveal flashOn (ry * 10 * S + cx * 12 * ct) last ic) {a : Nat}
    (ha : Run.covers run a) : InRect S (h * 10) (w * 12 * ct) a := by
  have key : ∀ s, (last = true → isWide s = false) → cx + (if isWide s then 2 else 1) ≤ w := by
    intro s hs
    cases hl : last with
    | true => rw [hs hl]; simpa using hfit
    | false => have := hlast hl; split <;> omega
  rcases vtCellRuns_cases (cfg := cfg) (drcs := drcs) (S := S) (ct := ct) (reveal := reveal) (flashOn := flashOn)
    (ry * 10 * S + cx * 12 * ct) last ic hw with h0 | ⟨kind, s, hs, he⟩
  · rw [h0] at hm; cases hm
  · rw [he] at hm
    exact cellRuns_inRect hd (key s hs) hry hm ha

theorem vtRuns_inRect {w : Nat} (hd : ct ∣ S) (cells : List (List (Nat × Cell))) (hw : ∀ r ∈ cells, r.length = w)
    (hsafe : cfg.wideClip = true ∨ NoWideLast cells) :
    ∀ run ∈ vtRuns cfg drcs S ct reveal flashOn 0 cells, ∀ a, Run.covers run a → InRect S (cells.length * 10) (w * 12 * ct) a := by
  intro run hm a ha
  obtain ⟨ry, hry, hm⟩ := mem_blocks (g := fun ry _ r => vtRowRuns cfg drcs S ct reveal flashOn (ry * 10 * S) 0 r)
    (fun _ => rfl) (fun _ _ _ => rfl) cells 0 run hm
  obtain ⟨cx, hcx, hm⟩ := mem_blocks
    (g := fun cx rest ic => vtCellRuns cfg drcs S ct reveal flashOn ((0 + ry) * 10 * S + cx * 12 * ct) rest.isEmpty ic)
    (fun _ => rfl) (fun _ _ _ => rfl) cells[ry] 0 run hm
  have hlen := hw _ (List.getElem_mem hry)
  simp only [Nat.zero_add] at hm hry
  refine vtCellRuns_inRect hd hry (by omega) (fun hl => ?_) (fun hl => hsafe.imp_right fun h1 => h1 _ (List.getElem_mem hry) _ ?_) hm ha
  · have : ¬ cells[ry].length ≤ cx + 1 := by simpa using hl
    omega
  · have : cells[ry].length ≤ cx + 1 := by simpa using hl
    rw [List.getLast?_eq_getElem?]; simp [show cells[ry].length - 1 = cx by omega]

end vt

theorem ccRuns_inRect {S ct w : Nat} (hd : ct ∣ S) (cells : List (List (Nat × Cell))) (hw : ∀ r ∈ cells, r.length = w) :
    ∀ run ∈ ccRuns S ct 0 cells, ∀ a, Run.covers run a → InRect S (cells.length * 26) (w * 16 * ct) a := by
  intro run hm a ha
  obtain ⟨ry, hry, hm⟩ := mem_blocks (g := fun ry _ r => ccRowRuns S ct (ry * 26 * S) 0 r) (fun _ => rfl) (fun _ _ _ => rfl) cells 0 run hm
  obtain ⟨cx, hcx, hm⟩ := mem_blocks (g := fun cx _ ic => cellRuns S ct 16 26 ((0 + ry) * 26 * S + cx * 16 * ct) ic.1 0 sizeNormal)
    (fun _ => rfl) (fun _ _ _ => rfl) cells[ry] 0 run hm
  have hlen := hw _ (List.getElem_mem hry)
  simp only [Nat.zero_add] at hm hry
  exact cellRuns_inRect (s := sizeNormal) hd (by simp [isWide, sizeNormal, sizeDoubleWidth, sizeDoubleSize, sizeDoubleSize2]; omega) hry hm ha

theorem drawVt_ok {cfg : Cfg} {pg : Page} {ct col row w h : Nat} {cells : List (List (Nat × Cell))} (stride : Option Nat) (rv fl : Bool)
    (hct : 0 < ct) (hc : regionCells pg col row w h = .ok cells) :
    drawVt cfg pg ct stride col row w h rv fl = .ok (vtRuns cfg pg.drcs (stride.getD (pg.columns * 12 * ct)) ct rv fl 0 cells) := by
  simp [drawVt, Nat.ne_of_gt hct, hc]

theorem drawCc_ok {pg : Page} {ct col row w h : Nat} {cells : List (List (Nat × Cell))} (stride : Option Nat)
    (hct : 0 < ct) (hc : regionCells pg col row w h = .ok cells) :
    drawCc pg ct stride col row w h = .ok (ccRuns (stride.getD (pg.columns * 16 * ct)) ct 0 cells) := by
  simp [drawCc, Nat.ne_of_gt hct, hc]

theorem inRect_lt_canvas {S lines wbytes a : Nat} (h : InRect S lines wbytes a) (hS : wbytes ≤ S) : a < S * lines := by
  obtain ⟨line, b, h1, h2, rfl⟩ := h
  calc line * S + b < line * S + S := by omega
    _ = (line + 1) * S := by rw [Nat.add_mul]; omega
    _ ≤ lines * S := Nat.mul_le_mul_right _ (by omega)
    _ = S * lines := Nat.mul_comm _ _

end Zvbi.Export
