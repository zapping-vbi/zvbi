/-!
# Checked computations in `Option` that return

The models with checked accesses return `none` for an access outside its object or a used-up bound.  `Yields Q o` is
`∃ r, o = some r ∧ Q r` under a name, so a statement written out in that form takes the rules below as it stands.  For
conditionals in `o` use `ite_ind` / `ite_both` (`ZvbiModel/Ite.lean`) with the goal `Yields Q (if ..)`.
`Safe` (`ZvbiModel/Safe.lean`) is the same notion for `Except ε`, its rules `ok`, `elim`, `mono`, `bind` are these with the same
argument order: there are these two result types only, and one statement for both would need a class for "the value a result
returns", carried by every rule and every motive.
-/
namespace Zvbi

def Yields {α : Type} (Q : α → Prop) (o : Option α) : Prop := ∃ r, o = some r ∧ Q r

namespace Yields
variable {α β : Type} {P : α → Prop} {o : Option α}

theorem some {r : α} (h : P r) : Yields P (Option.some r) := ⟨r, rfl, h⟩

/-- What holds of every value `o` can return holds of `o`, whatever context `o` stands in: the motive is found by abstracting
`o` in the goal, so the rule also goes through a model's own `match o with | none => none | some r => ..`. -/
@[elab_as_elim] theorem elim {motive : Option α → Prop} (h : Yields P o) (some : ∀ r, P r → motive (Option.some r)) : motive o :=
  let ⟨r, e, p⟩ := h
  e ▸ some r p

theorem mono {Q : α → Prop} (h : Yields P o) (hpq : ∀ r, P r → Q r) : Yields Q o := h.elim fun r p => .some (hpq r p)

theorem bind {Q : β → Prop} {f : α → Option β} (h : Yields P o) (hf : ∀ r, P r → Yields Q (f r)) : Yields Q (o >>= f) :=
  h.elim hf

end Yields
end Zvbi
