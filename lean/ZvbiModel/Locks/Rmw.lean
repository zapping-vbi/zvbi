/-!
# Locks - atomicity of read-modify-write sequences (no lost update)

Lock discipline (`Spec.lean`, `Lemmas.lean`) and section atomicity (`Atomic.lean`) say that a critical
section runs as if alone.  They do not say that a value a thread READ in one section is still current
when it WRITES the variable in a later section: `v := get (); set (v - 1)` with `get`/`set` locking
for one load / one store is race free and loses a concurrent update.

This file has the value-level model for that obligation.  A critical section is a list of
micro-operations on the shared store and the thread's registers (= local variables, they survive
the section):

* `ld r x`        register `r` := shared variable `x`
* `st x deps f`   `x := f (values of the registers deps)`; `f = none` means the guard of the store is
                  false (control dependence), the store is skipped.  `deps` is the SYNTACTIC dependence
                  of the store (value and guard) on registers.

Sections are the atomic steps of the interleaving semantics (`step`); that this is what a mutex gives
is `Zvbi.Locks.atomic_sections` (`Locks/Atomic.lean`; this file does not depend on it).
`Sec.confined`: every store of the section depends only on registers the SAME section loaded before it.  The transactional semantics (`sstep`) runs every section
from blank registers: a section is an isolated transaction `Store → Store`, nothing read in an
earlier section can be written back.
-/
namespace Zvbi.Locks.Rmw

abbrev Var := Nat
abbrev Reg := Nat
abbrev Store := Var → Int
abbrev Regs := Reg → Int

inductive Op where
  | ld (r : Reg) (x : Var)
  | st (x : Var) (deps : List Reg) (f : List Int → Option Int)

def upd (σ : Nat → Int) (k : Nat) (v : Int) : Nat → Int := fun j => if j = k then v else σ j

def Op.run : Op → Store × Regs → Store × Regs
  | .ld r x, c => (c.1, upd c.2 r (c.1 x))
  | .st x deps f, c =>
    match f (deps.map c.2) with
    | some v => (upd c.1 x v, c.2)
    | none => c

abbrev Sec := List Op

def Sec.run : Sec → Store × Regs → Store × Regs
  | [], c => c
  | o :: t, c => Sec.run t (o.run c)

/-- every store depends only on registers loaded earlier in the same section (`loaded`) -/
def confinedFrom (loaded : List Reg) : Sec → Bool
  | [] => true
  | .ld r _ :: t => confinedFrom (r :: loaded) t
  | .st _ deps _ :: t => deps.all (fun r => loaded.contains r) && confinedFrom loaded t

def Sec.confined (s : Sec) : Bool := confinedFrom [] s

/-- registers the section loads -/
def loadsOf : Sec → List Reg
  | [] => []
  | .ld r _ :: t => r :: loadsOf t
  | .st _ _ _ :: t => loadsOf t

def blank : Regs := fun _ => 0

/-- the section as an isolated transaction on the shared store -/
def secFun (s : Sec) (σ : Store) : Store := (Sec.run s (σ, blank)).1

/-! ## interleaving semantics: any thread runs its next section -/
structure Cfg where
  σ : Store
  regs : Nat → Regs
  todo : Nat → List Sec

def step (c : Cfg) (i : Nat) : Cfg :=
  match c.todo i with
  | [] => c
  | s :: rest =>
    let r := Sec.run s (c.σ, c.regs i)
    ⟨r.1, fun j => if j = i then r.2 else c.regs j, fun j => if j = i then rest else c.todo j⟩

def run (c : Cfg) (sch : List Nat) : Cfg := sch.foldl step c

/-! ## transactional semantics: the same schedule, every section an isolated transaction -/
structure SCfg where
  σ : Store
  todo : Nat → List Sec

def sstep (c : SCfg) (i : Nat) : SCfg :=
  match c.todo i with
  | [] => c
  | s :: rest => ⟨secFun s c.σ, fun j => if j = i then rest else c.todo j⟩

def srun (c : SCfg) (sch : List Nat) : SCfg := sch.foldl sstep c

/-! ## the key lemma: a confined section does not see the registers it did not load itself -/

theorem run_agree (s : Sec) : ∀ (loaded : List Reg) (σ : Store) (ρ ρ' : Regs),
    confinedFrom loaded s = true → (∀ r ∈ loaded, ρ r = ρ' r) →
    (Sec.run s (σ, ρ)).1 = (Sec.run s (σ, ρ')).1 ∧
    (∀ r, r ∈ loaded ∨ r ∈ loadsOf s → (Sec.run s (σ, ρ)).2 r = (Sec.run s (σ, ρ')).2 r) := by
  induction s with
  | nil =>
    intro loaded σ ρ ρ' _ hag
    exact ⟨rfl, fun r hr => hr.elim (hag r) (fun h => nomatch h)⟩
  | cons o t ih =>
    intro loaded σ ρ ρ' hc hag
    cases o with
    | ld r x =>
      have hag' : ∀ q ∈ r :: loaded, upd ρ r (σ x) q = upd ρ' r (σ x) q := by
        intro q hq
        unfold upd
        split
        · rfl
        · exact hag q ((List.mem_cons.1 hq).resolve_left ‹_›)
      have := ih (r :: loaded) σ _ _ hc hag'
      refine ⟨this.1, fun q hq => this.2 q ?_⟩
      rcases hq with hq | hq
      · exact .inl (List.mem_cons_of_mem _ hq)
      · rcases List.mem_cons.1 hq with rfl | hq
        · exact .inl List.mem_cons_self
        · exact .inr hq
    | st x deps f =>
      simp only [confinedFrom, Bool.and_eq_true] at hc
      have hm : deps.map ρ = deps.map ρ' :=
        List.map_congr_left fun d hd => hag d (List.contains_iff_mem.1 (List.all_eq_true.1 hc.1 d hd))
      simp only [Sec.run, Op.run, hm]
      cases f (deps.map ρ') with
      | none => exact ih loaded σ ρ ρ' hc.2 hag
      | some v => exact ih loaded (upd σ x v) ρ ρ' hc.2 hag

theorem confined_store (s : Sec) (h : s.confined = true) (σ : Store) (ρ : Regs) :
    (Sec.run s (σ, ρ)).1 = secFun s σ :=
  (run_agree s [] σ ρ blank h fun _ hr => nomatch hr).1

theorem step_sstep (c : Cfg) (i : Nat) (h : ∀ j, ∀ s ∈ c.todo j, Sec.confined s = true) :
    (step c i).σ = (sstep ⟨c.σ, c.todo⟩ i).σ ∧ (step c i).todo = (sstep ⟨c.σ, c.todo⟩ i).todo ∧
    (∀ j, ∀ s ∈ (step c i).todo j, Sec.confined s = true) := by
  cases hti : c.todo i with
  | nil => simp only [step, sstep, hti]; exact ⟨trivial, trivial, h⟩
  | cons s rest =>
    simp only [step, sstep, hti]
    refine ⟨confined_store s (h i s (by rw [hti]; exact List.mem_cons_self)) c.σ (c.regs i), trivial, ?_⟩
    intro j s' hs'
    by_cases hj : j = i
    · simp only [hj, if_true] at hs'
      exact h i s' (by rw [hti]; exact List.mem_cons_of_mem _ hs')
    · simp only [hj, if_false] at hs'
      exact h j s' hs'

end Zvbi.Locks.Rmw
