import ZvbiModel.Locks.Atomic
import ZvbiModel.Cc.Model
/-!
# Locks - the caption decoder at lock granularity, over the Cc model (C08)

A concrete instance of `Atomic.lean` whose shared state is the state `Zvbi.Cc.St` of the caption
model:

* thread 0 is the decoding thread.  At lock granularity it is a sequence of *sections*: the stretches
  of `vbi_decode_caption` / `vbi_caption_channel_switched` during which it holds `cc.mutex`.  Between
  two sections the mutex is free - because `caption_send_event` (or `itv_separator`, `xds_decoder`)
  dropped it around a callback, or because the call returned; both look the same to another thread,
  so the program is `lock; section k; unlock; callout` for `k = 0, 1, ...`.  Section `k` transforms the
  state by `secs k`.  How the sections group into calls is not needed for the concurrency argument;
  `callsRefine` below states the tie to `Zvbi.Cc.step`: the sections of one call compose to the
  model's step function.
* every other thread performs one `vbi_fetch_cc_page (pgno = n)`:
  `lock; copy the page and reset its dirty fields; unlock`, with the data effect
  `Zvbi.Cc.fetchStep` / `Zvbi.Cc.fetchPage` of the model.  Any number of such threads.

`Zvbi.Props.C20.caption_fetched_pages_are_sequential_snapshots`: under every schedule, every page any fetch ever
returns is `Zvbi.Cc.fetchPage σ n` for a state `σ` of the section-serial execution in which `cc.mutex` is free,
i.e. a state the decoding thread's sequential execution (with the earlier fetches' dirty resets in
between, as a single-threaded client calling `vbi_fetch_cc_page` from its event handler would see
them) has at one of its unlock points.  A log entry is written by one kind of step, a fetching thread's access; at
that step the state is the one of the thread's lock point (`fetch_at_lock_point`).
-/
namespace Zvbi.Locks.CcSections
open Zvbi.Locks

abbrev St := Zvbi.Cc.St
abbrev Page := Zvbi.Cc.Page
abbrev Log := List (Option Page)

/-- `cc.mutex` -/
def cc : Mutex := 1
/-- `vbi->cc.channel[*]` -/
def chv : Var := 0
def X (x : Var) : Bool := x == chv

def decBlock (k : Nat) : List Action := [.lock cc, .acc chv true k, .unlock cc, .callout 0 true]
/-- the decoding thread: sections `0 .. nsec-1` -/
def decProg (nsec : Nat) : List Action := (List.range nsec).flatMap decBlock
/-- one `vbi_fetch_cc_page (pgno = n)` -/
def fetchProg (n : Nat) : List Action := [.lock cc, .acc chv true n, .unlock cc]
def progs (nsec : Nat) (reqs : List Nat) : List (List Action) := decProg nsec :: reqs.map fetchProg

/-- data semantics: thread 0 applies its sections, the others fetch -/
def sem (secs : Nat → St → St) : DataSem St Log where
  eff i a σ l := match a with
    | .acc x _ k =>
      if X x then
        if i = 0 then (secs k σ, l) else (Zvbi.Cc.fetchStep σ (k : Int), l ++ [Zvbi.Cc.fetchPage σ (k : Int)])
      else (σ, l)
    | _ => (σ, l)

theorem sem_frame (secs : Nat → St → St) : Frame X (sem secs) := by
  intro i a hx
  refine ⟨id, ?_⟩
  intro σ l
  cases a with
  | acc x w k =>
    simp only [isXacc] at hx
    simp [sem, hx]
  | _ => rfl

theorem scan_flatMap {α : Type} (f : α → List Action) (hb : ∀ x, trackList [] (f x) = some []) (l : List α) :
    scan [] (l.flatMap f) = l.flatMap fun x => scan [] (f x) := by
  induction l with
  | nil => simp [scan]
  | cons a r ih =>
    simp only [List.flatMap_cons]
    rw [scan_append _ (hb a), ih]

theorem mem_scan_dec {nsec : Nat} {q : Action × List Mutex} (h : q ∈ scan [] (decProg nsec)) :
    ∃ k, q = (.lock cc, []) ∨ q = (.acc chv true k, [cc]) ∨ q = (.unlock cc, [cc]) ∨ q = (.callout 0 true, []) := by
  unfold decProg at h
  rw [scan_flatMap decBlock (by intro x; simp [decBlock, trackList, track, cc])] at h
  obtain ⟨k, _, hk⟩ := List.mem_flatMap.1 h
  refine ⟨k, ?_⟩
  simpa [decBlock, scan, track, cc] using hk

theorem mem_scan_fetch {n : Nat} {q : Action × List Mutex} (h : q ∈ scan [] (fetchProg n)) :
    q = (.lock cc, []) ∨ q = (.acc chv true n, [cc]) ∨ q = (.unlock cc, [cc]) := by
  simpa [fetchProg, scan, track, cc] using h

theorem progs_get {nsec : Nat} {reqs : List Nat} {i : Nat} {p : List Action} (h : (progs nsec reqs)[i]? = some p) :
    (i = 0 ∧ p = decProg nsec) ∨ (∃ i' n, i = i' + 1 ∧ reqs[i']? = some n ∧ p = fetchProg n) := by
  cases i with
  | zero => exact .inl ⟨rfl, (Option.some.inj h).symm⟩
  | succ i' =>
    simp only [progs, List.getElem?_cons_succ, List.getElem?_map, Option.map_eq_some_iff] at h
    obtain ⟨n, hr, rfl⟩ := h
    exact .inr ⟨i', n, rfl, hr, rfl⟩

/-- every (action, held set) pair of every thread: the mutex is taken with nothing held, the protected field is
accessed and the mutex released with exactly it held, callbacks are delivered with nothing held -/
theorem mem_scan_progs {nsec : Nat} {reqs : List Nat} {i : Nat} {p : List Action} (hp : (progs nsec reqs)[i]? = some p)
    {q : Action × List Mutex} (hs : q ∈ scan [] p) :
    ∃ k, q = (.lock cc, []) ∨ q = (.acc chv true k, [cc]) ∨ q = (.unlock cc, [cc]) ∨ q = (.callout 0 true, []) := by
  rcases progs_get hp with ⟨_, rfl⟩ | ⟨_, n, _, _, rfl⟩
  · exact mem_scan_dec hs
  · exact ⟨n, (mem_scan_fetch hs).imp_right fun h => h.imp_right .inl⟩

theorem discipline (nsec : Nat) (reqs : List Nat) : SectionDiscipline X cc (progs nsec reqs) := by
  refine ⟨fun i p x w site h hp hx hs => ?_, fun i p a h hp hs hm hmo => ?_, fun i p hp hmem => ?_⟩
  · obtain ⟨k, hk | hk | hk | hk⟩ := mem_scan_progs hp hs <;> cases hk
    exact List.mem_singleton.2 rfl
  · obtain ⟨k, hk | hk | hk | hk⟩ := mem_scan_progs hp hs <;> cases hk
    · cases hm
    · cases hmo
    · rfl
    · cases hm
  · rcases progs_get hp with ⟨_, rfl⟩ | ⟨_, n, _, _, rfl⟩
    · unfold decProg at hmem
      obtain ⟨k, _, hk⟩ := List.mem_flatMap.1 hmem
      simp [decBlock] at hk
    · simp [fetchProg] at hmem

theorem eff_log (secs : Nat → St → St) (i : Nat) (a : Action) (σ : St) (l : Log) :
    ((sem secs).eff i a σ l).2 = l ∨
      ∃ w n, i ≠ 0 ∧ a = .acc chv w n ∧ ((sem secs).eff i a σ l).2 = l ++ [Zvbi.Cc.fetchPage σ (n : Int)] := by
  cases a with
  | acc x w n =>
    simp only [sem]
    split
    · split
      · exact .inl rfl
      · exact .inr ⟨w, n, ‹_›, by rw [show x = chv from beq_iff_eq.1 ‹X x = true›], rfl⟩
    · exact .inl rfl
  | _ => exact .inl rfl

/-- `fetchProg n` takes its lock first and accesses the field right after it: a section that has begun and is
followed by the access is the lock alone. -/
theorem fetchProg_split {n m : Nat} {w : Bool} {pre body rr : List Action} {acq : Action}
    (hacq : acq = .lock cc ∨ acq = .tryOk cc)
    (h : pre ++ (acq :: body ++ .acc chv w m :: rr) = fetchProg n) : body = [] := by
  simp only [fetchProg] at h
  -- the only lock is at position 0
  rcases hacq with rfl | rfl <;> rcases pre with _ | ⟨_, _ | ⟨_, _ | ⟨_, _⟩⟩⟩ <;> simp [cc] at h
  -- `body ++ acc :: rr = [acc, unlock]`, and `unlock` is no access
  rcases body with _ | ⟨_, _ | ⟨_, _⟩⟩ <;> simp at h
  rfl

/-- A fetching thread that is about to copy the page holds `cc.mutex` since its `lock`: the shared state is still
that of its lock point, a state of the section-serial execution in which `cc.mutex` is free. -/
theorem fetch_at_lock_point {secs : Nat → St → St} {nsec : Nat} {reqs : List Nat} {σ0 : St} {ls0 : List Log}
    {S : DState St Log} (r : DReach (sem secs) (progs nsec reqs) σ0 ls0 S) {i : Nat} (hi0 : i ≠ 0) {h : List Mutex}
    {w : Bool} {n : Nat} {rr : List Action} (hi : S.thr[i]? = some ⟨h, .acc chv w n :: rr⟩) :
    ∃ S0 : DState St Log, AReach (sem secs) cc (progs nsec reqs) σ0 ls0 S0 ∧ Free S0.thr cc ∧ S0.sh = S.sh := by
  have sd := discipline nsec reqs
  obtain ⟨p, hp, hsc⟩ := next_in_scan (inv_reachable r.reachable) hi
  have hm : cc ∈ h := sd.prot i p chv w n h hp rfl hsc
  obtain ⟨S0, acq, body, t0, aS0, hfree0, hacq, -, run, -⟩ := (section_invariant (sem_frame secs) sd r).2 i _ hi hm
  obtain ⟨h0, hj0⟩ := run.consumes hi
  obtain ⟨pre, hp0, -⟩ := (inv_reachable aS0.dreach.reachable).pre i _ hj0
  rcases progs_get hp0 with ⟨rfl, -⟩ | ⟨i', n', -, -, hprog⟩
  · exact absurd rfl hi0
  · refine ⟨S0, aS0, hfree0, ?_⟩
    cases fetchProg_split hacq hprog
    cases run with
    | cons st rb =>
      cases rb
      obtain ⟨-, l, -, hsh, -⟩ := st
      rw [hsh]; rcases hacq with rfl | rfl <;> rfl

/-- the sections of the decoding thread refine a sequence of model operations: call `c` consists of
the sections `bounds c .. bounds (c+1) - 1`, and executed one after the other without a fetch in
between they compute `Zvbi.Cc.step · (ops c)` -/
def callsRefine (secs : Nat → St → St) (ops : List Zvbi.Cc.Op) (bounds : Nat → Nat) : Prop :=
  ∀ c op, ops[c]? = some op → bounds c ≤ bounds (c + 1) ∧
    ∀ σ, ((List.range (bounds (c + 1) - bounds c)).foldl (fun s k => secs (bounds c + k) s) σ) = Zvbi.Cc.step σ op

/-- non-vacuity: one section per call, the whole step (a call without callback) -/
example (ops : List Zvbi.Cc.Op) :
    callsRefine (fun k σ => match ops[k]? with | some op => Zvbi.Cc.step σ op | none => σ) ops id := by
  intro c op hc
  refine ⟨Nat.le_succ _, ?_⟩
  intro σ
  simp [hc]

end Zvbi.Locks.CcSections
