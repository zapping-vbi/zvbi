import ZvbiModel.Locks.Lemmas
/-!
# Locks - from a table of role graphs to the premises of the generic theorems

A thread of a system runs calls of its role's functions, each along a path of the function's graph.  If the held-set
annotation of the graphs is inductive, every (action, held set) pair the thread's program scans is a pair of an edge
(`wellRoled_thread`); so a Boolean check of all edges of a table gives the corresponding premise (`Discipline`,
`Balanced`, `Ordered`, `TryFree`, protection) for every system over that table.
-/
namespace Zvbi.Locks

theorem path_track {c : Cfg} (ok : ∀ e ∈ c.edges, c.edgeOK e = true) {u v : Nat} {t : List Action} (p : Path c u t v)
    {hu : List Mutex} (hu' : c.annAt u = some hu) :
    ∃ hv, c.annAt v = some hv ∧ trackList hu t = some hv ∧ ∀ x ∈ scan hu t, x ∈ c.accs := by
  induction p generalizing hu with
  | nil u => exact ⟨hu, hu', rfl, by simp [scan]⟩
  | @cons u v t e he hsrc _ ih =>
    have hok := ok e he
    unfold Cfg.edgeOK at hok
    rw [hsrc, hu'] at hok
    cases hd : c.annAt e.dst with
    | none => simp [hd] at hok
    | some hd' =>
      simp only [hd, beq_iff_eq] at hok
      obtain ⟨hv, h1, h2, h3⟩ := ih hd
      refine ⟨hv, h1, by simp [trackList, hok, h2], ?_⟩
      intro x hx
      simp only [scan, hok, List.mem_cons] at hx
      rcases hx with rfl | hx
      · unfold Cfg.accs
        refine List.mem_filterMap.2 ⟨e, he, ?_⟩
        simp [hsrc, hu']
      · exact h3 x hx

theorem path_locks {c : Cfg} {u v : Nat} {t : List Action} (p : Path c u t v) :
    ∀ m ∈ locksOf t, m ∈ c.locks := by
  induction p with
  | nil u => simp [locksOf]
  | @cons u v t e he _ _ ih =>
    intro m hm
    rcases mem_locksOf_cons.1 hm with hact | hm
    · exact List.mem_filterMap.2 ⟨e, he, by rcases hact with h | h <;> simp [h]⟩
    · exact ih m hm

theorem calls_track {fs : List Cfg} (ok : ∀ c ∈ fs, c.annOK = true) {t : List Action} (ct : Calls fs t) :
    trackList [] t = some [] ∧ (∀ x ∈ scan [] t, x ∈ fs.flatMap Cfg.accs) ∧
      ∀ m ∈ locksOf t, m ∈ fs.flatMap Cfg.locks := by
  induction ct with
  | nil => exact ⟨rfl, by simp [scan], by simp [locksOf]⟩
  | @cons t r c hc fp _ ih =>
    have hok := ok c hc
    simp only [Cfg.annOK, Bool.and_eq_true, beq_iff_eq, List.all_eq_true] at hok
    obtain ⟨⟨hen, hex⟩, hed⟩ := hok
    obtain ⟨hv, h1, h2, h3⟩ := path_track hed fp hen
    cases hex.symm.trans h1
    refine ⟨?_, ?_, ?_⟩
    · rw [trackList_append, h2]; exact ih.1
    · intro x hx
      rw [scan_append r h2] at hx
      rcases List.mem_append.1 hx with hx | hx
      · exact List.mem_flatMap.2 ⟨c, hc, h3 x hx⟩
      · exact ih.2.1 x hx
    · intro m hm
      rw [locksOf_append] at hm
      rcases List.mem_append.1 hm with hm | hm
      · exact List.mem_flatMap.2 ⟨c, hc, path_locks fp m hm⟩
      · exact ih.2.2 m hm

theorem conflict_isAcc {p q : Action × List Mutex} (cf : Conflict p.1 q.1) : isAcc p = true ∧ isAcc q = true := by
  obtain ⟨a, h1⟩ := p
  obtain ⟨b, h2⟩ := q
  cases a with
  | acc =>
    cases b with
    | acc => exact ⟨rfl, rfl⟩
    | _ => exact Bool.noConfusion cf
  | _ => exact Bool.noConfusion cf

theorem pairsOKB_iff {known : Site → Site → Bool} {A B : List (Action × List Mutex)} :
    pairsOKB known A B = true ↔
      ∀ p ∈ A, ∀ q ∈ B, isAcc p = true → isAcc q = true → pairOKB known p q = true := by
  simp only [pairsOKB, List.all_eq_true, List.mem_filter, and_imp]
  exact ⟨fun h p hp q hq ap aq => h p hp ap q hq aq, fun h p hp ap q hq aq => h p hp q hq ap aq⟩

theorem pairOK_of_pairsOKB {known : Site → Site → Bool} {A B : List (Action × List Mutex)}
    (ok : pairsOKB known A B = true) {p q : Action × List Mutex} (hp : p ∈ A) (hq : q ∈ B) :
    PairOK known p q := by
  intro cf
  have h2 := pairsOKB_iff.1 ok p hp q hq (conflict_isAcc cf).1 (conflict_isAcc cf).2
  unfold Conflict at cf
  simp only [pairOKB, cf, Bool.not_true, Bool.false_or, Bool.or_eq_true, commonB, List.any_eq_true,
    List.contains_iff_mem] at h2
  exact h2

/-- a system: every thread runs one role (index into `roles`) and executes calls of that role's
functions; a role that is not `multi` is run by at most one thread -/
structure WellRoled (roles : List Role) (sys : List (Nat × List Action)) : Prop where
  calls : ∀ (k : Nat) r p, sys[k]? = some (r, p) → ∃ R, roles[r]? = some R ∧ Calls R.fns p
  single : ∀ (k k' : Nat) r p p', k ≠ k' → sys[k]? = some (r, p) → sys[k']? = some (r, p') →
    ∃ R, roles[r]? = some R ∧ R.multi = true

def progsOf (sys : List (Nat × List Action)) : List (List Action) := sys.map (·.2)

theorem progsOf_get {sys : List (Nat × List Action)} {i : Nat} {p : List Action}
    (h : (progsOf sys)[i]? = some p) : ∃ r, sys[i]? = some (r, p) := by
  simp only [progsOf, List.getElem?_map, Option.map_eq_some_iff] at h
  obtain ⟨⟨r, q⟩, hs, rfl⟩ := h
  exact ⟨r, hs⟩

theorem role_index_lt {roles : List Role} {r : Nat} {R : Role} (h : roles[r]? = some R) : r < roles.length :=
  (List.getElem?_eq_some_iff.1 h).1

theorem tableDRF_iff {known : Site → Site → Bool} {roles : List Role} :
    tableDRF known roles = true ↔ ∀ (a b : Nat) A B, roles[a]? = some A → roles[b]? = some B →
      (a = b ∧ A.multi = false) ∨ pairsOKB known A.accs B.accs = true := by
  simp only [tableDRF, List.all_eq_true, List.mem_range]
  constructor
  · intro h a b A B hA hB
    simpa [hA, hB] using h a (role_index_lt hA) b (role_index_lt hB)
  · intro h a _ b _
    cases hA : roles[a]? with
    | none => rfl
    | some A =>
      cases hB : roles[b]? with
      | none => rfl
      | some B => simpa using h a b A B hA hB

theorem wellRoled_thread {roles : List Role} (ok : ∀ R ∈ roles, R.annOK = true)
    {sys : List (Nat × List Action)} (wr : WellRoled roles sys) {i : Nat} {p : List Action}
    (hi : (progsOf sys)[i]? = some p) :
    ∃ r R, sys[i]? = some (r, p) ∧ roles[r]? = some R ∧ Balanced p ∧ (∀ x ∈ scan [] p, x ∈ R.accs) ∧
      ∀ m ∈ locksOf p, m ∈ R.locks := by
  obtain ⟨r, hs⟩ := progsOf_get hi
  obtain ⟨R, hR, hc⟩ := wr.calls i r p hs
  exact ⟨r, R, hs, hR, calls_track (List.all_eq_true.1 (ok R (List.mem_of_getElem? hR))) hc⟩

theorem discipline_of_table {known : Site → Site → Bool} {roles : List Role}
    (ok : ∀ R ∈ roles, R.annOK = true) (tb : tableDRF known roles = true)
    {sys : List (Nat × List Action)} (wr : WellRoled roles sys) : Discipline known (progsOf sys) := by
  intro i j pi pj hij hi hj p hp q hq
  obtain ⟨ri, Ri, hsi, hRi, _, hai, _⟩ := wellRoled_thread ok wr hi
  obtain ⟨rj, Rj, hsj, hRj, _, haj, _⟩ := wellRoled_thread ok wr hj
  rcases tableDRF_iff.1 tb ri rj Ri Rj hRi hRj with ⟨rfl, hm⟩ | h2
  · obtain ⟨R, hR, hmulti⟩ := wr.single i j ri pi pj hij hsi hsj
    cases hRi.symm.trans hR
    cases hm.symm.trans hmulti
  · exact pairOK_of_pairsOKB h2 (hai p hp) (haj q hq)

theorem balanced_of_table {roles : List Role} (ok : ∀ R ∈ roles, R.annOK = true)
    {sys : List (Nat × List Action)} (wr : WellRoled roles sys) :
    ∀ (i : Nat) p, (progsOf sys)[i]? = some p → Balanced p := by
  intro i p hi
  obtain ⟨_, _, _, _, hb, _⟩ := wellRoled_thread ok wr hi
  exact hb

theorem ordered_of_table {rank : Mutex → Nat} {roles : List Role}
    (ok : ∀ R ∈ roles, R.annOK = true) (tb : tableOrdered rank roles = true)
    {sys : List (Nat × List Action)} (wr : WellRoled roles sys) : Ordered rank (progsOf sys) := by
  intro i pi hi m h hmem
  obtain ⟨ri, Ri, hsi, hRi, _, hai, _⟩ := wellRoled_thread ok wr hi
  have h1 := List.all_eq_true.1 tb ri (List.mem_range.2 (role_index_lt hRi))
  simp only [hRi] at h1
  have h2 := List.all_eq_true.1 h1 _ (hai _ hmem)
  simp only [Bool.or_eq_true, List.all_eq_true, decide_eq_true_eq] at h2
  refine h2.symm.imp id fun hp j pj hji hj hml => ?_
  -- `m` is private to role `ri`: another thread would run the same single-threaded role or never lock `m`
  obtain ⟨rj, Rj, hsj, hRj, _, _, hlj⟩ := wellRoled_thread ok wr hj
  simp only [privB, hRi, Bool.and_eq_true, Bool.not_eq_true', List.all_eq_true, List.mem_range] at hp
  have h3 := hp.2 rj (role_index_lt hRj)
  simp only [hRj, Bool.or_eq_true, beq_iff_eq, Bool.not_eq_true'] at h3
  rcases h3 with rfl | hnc
  · obtain ⟨R, hR, hmulti⟩ := wr.single i j rj pi pj (Ne.symm hji) hsi hsj
    cases hRi.symm.trans hR
    cases hp.1.symm.trans hmulti
  · exact Bool.eq_false_iff.1 hnc (List.contains_iff_mem.2 (hlj m hml))

theorem tryFree_of_path {c : Cfg} (tf : c.tryFree = true) {u v : Nat} {t : List Action} (p : Path c u t v) :
    TryFree t := by
  induction p with
  | nil u => intro a ha; cases ha
  | @cons u v t e he _ _ ih =>
    intro a ha m
    rcases List.mem_cons.1 ha with rfl | ha
    · unfold Cfg.tryFree at tf
      have := List.all_eq_true.1 tf e he
      cases hact : e.act <;> simp [hact] at this <;> simp
    · exact ih a ha m

theorem tryFree_of_calls {fs : List Cfg} (tf : ∀ c ∈ fs, c.tryFree = true) {t : List Action} (ct : Calls fs t) :
    TryFree t := by
  induction ct with
  | nil => intro a ha; cases ha
  | @cons t r c hc fp _ ih =>
    intro a ha m
    rcases List.mem_append.1 ha with ha | ha
    · exact tryFree_of_path (tf c hc) fp a ha m
    · exact ih a ha m

theorem tryFree_of_table {roles : List Role} (tf : ∀ R ∈ roles, R.tryFree = true)
    {sys : List (Nat × List Action)} (wr : WellRoled roles sys) :
    ∀ (i : Nat) p, (progsOf sys)[i]? = some p → TryFree p := by
  intro i p hi
  obtain ⟨r, hs⟩ := progsOf_get hi
  obtain ⟨R, hR, hc⟩ := wr.calls i r p hs
  exact tryFree_of_calls (List.all_eq_true.1 (tf R (List.mem_of_getElem? hR))) hc

theorem protected_of_table {m : Mutex} {X : Var → Bool} {K : Site → Bool} {roles : List Role}
    (ok : ∀ R ∈ roles, R.annOK = true) (tb : ∀ R ∈ roles, protectedB m X K R.accs = true)
    {sys : List (Nat × List Action)} (wr : WellRoled roles sys)
    {i : Nat} {p : List Action} (hi : (progsOf sys)[i]? = some p)
    {x : Var} {w : Bool} {site : Site} {h : List Mutex} (hx : X x = true)
    (hmem : (Action.acc x w site, h) ∈ scan [] p) : m ∈ h ∨ K site = true := by
  obtain ⟨r, R, _, hR, _, ha, _⟩ := wellRoled_thread ok wr hi
  have h2 := List.all_eq_true.1 (tb R (List.mem_of_getElem? hR)) _ (ha _ hmem)
  simpa only [hx, Bool.not_true, Bool.false_or, Bool.or_eq_true, List.contains_iff_mem] using h2

theorem exclusive_of_table {m : Mutex} {X : Var → Bool} {roles : List Role}
    (ok : ∀ R ∈ roles, R.annOK = true) (tb : ∀ R ∈ roles, protectedB m X (fun _ => false) R.accs = true)
    {sys : List (Nat × List Action)} (wr : WellRoled roles sys) {s s' : State} {j : Nat}
    {ls : List (Nat × Action)} (rs : Reachable (progsOf sys) s) (ex : ExecHolding j m s ls s')
    {i : Nat} {x : Var} {w : Bool} {site : Site} (hmem : (i, Action.acc x w site) ∈ ls) (hij : i ≠ j)
    (hx : X x = true) : False := by
  obtain ⟨p, h, hp, hs, hn⟩ := ex.outside rs hmem hij
  exact (protected_of_table ok tb wr hp hx hs).elim hn Bool.false_ne_true

/-! ## evaluating the table checks

A check of all (action, held-before) pairs of a role is a check of all edges of its graphs.  Stated with
the graph's `held` and `edges` fields only, it can be evaluated one stretch of a long edge list at a time
(`List.all_append`); evaluating the left-nested `++` of the stretches itself costs a pass per stretch. -/

theorem Role.all_accs (R : Role) (q : Action × List Mutex → Bool) :
    R.accs.all q = R.fns.all fun c => c.edges.all fun e =>
      (c.held[e.src % c.held.length]?).all fun h => q (e.act, h) := by
  simp only [Role.accs, Cfg.accs, Cfg.annAt, List.all_flatMap, List.all_filterMap]
  congr; funext c; congr; funext e
  cases c.held[e.src % c.held.length]? <;> rfl

theorem filterMap_eq_nil_iff_all {α β : Type} {f : α → Option β} {l : List α} :
    l.filterMap f = [] ↔ l.all (fun a => (f a).isNone) = true := by
  simp [List.filterMap_eq_nil_iff]

/-! ## lock sets: why a table satisfies the pairwise discipline

Every shared field is kept race free in one of three ways: every access to it holds one fixed mutex, or
nobody writes it, or only a role that runs in a single thread touches it. -/

inductive Guard where
  | mutex (m : Mutex)
  | readOnly
  | owned

/-- every access of `A` respects the guard of its field; `own`: the accesses belong to a single-threaded role -/
def guardedB (g : Var → Guard) (own : Bool) (A : List (Action × List Mutex)) : Bool :=
  A.all fun p => match p.1 with
    | .acc x w _ => match g x with
      | .mutex m => p.2.contains m
      | .readOnly => !w
      | .owned => own
    | _ => true

/-- Two lists of accesses that respect the same guards have no unbracketed conflicting pair, unless both belong to the
owner (`own₁`, `own₂`: may this list touch the fields that are `owned`?). -/
theorem pairsOKB_of_guarded {g : Var → Guard} {known : Site → Site → Bool} {own₁ own₂ : Bool}
    {A B : List (Action × List Mutex)} (hA : guardedB g own₁ A = true) (hB : guardedB g own₂ B = true)
    (hown : (own₁ && own₂) = false) : pairsOKB known A B = true := by
  refine pairsOKB_iff.2 fun p hp q hq ap aq => ?_
  have h1 := List.all_eq_true.1 hA p hp
  have h2 := List.all_eq_true.1 hB q hq
  obtain ⟨a, h⟩ := p
  obtain ⟨b, h'⟩ := q
  cases a <;> cases ap
  cases b <;> cases aq
  rename_i x w s y v t
  simp only [pairOKB, conflictB, commonB, Bool.or_eq_true, Bool.not_eq_true', Bool.and_eq_false_iff, List.any_eq_true]
  by_cases hxy : x = y
  · subst hxy
    simp only at h1 h2
    cases hg : g x with
    | mutex m =>
      rw [hg] at h1 h2
      exact Or.inl (Or.inr ⟨m, List.contains_iff_mem.1 h1, h2⟩)
    | readOnly =>
      -- nobody writes `x`: two reads do not conflict
      rw [hg] at h1 h2
      exact .inl (.inl (.inr (by rw [(Bool.not_eq_true' w).mp h1, (Bool.not_eq_true' v).mp h2]; rfl)))
    | owned =>
      -- both lists would belong to the owner of `x`
      rw [hg] at h1 h2
      have e1 : own₁ = true := h1
      have e2 : own₂ = true := h2
      rw [e1, e2] at hown
      cases hown
  · exact .inl (.inl (.inl (beq_eq_false_iff_ne.2 hxy)))

/-- A table in which no two roles are both single-threaded and every role respects the guards - the `owned` fields
being touched by a single-threaded role only - satisfies the pairwise discipline: two different roles are never both
the owner, and a single-threaded role is excused against itself. -/
theorem tableDRF_of_guards {known : Site → Site → Bool} (g : Var → Guard) {roles : List Role}
    (hs : roles.Pairwise fun A B => A.multi = true ∨ B.multi = true)
    (hg : ∀ R ∈ roles, guardedB g (!R.multi) R.accs = true) : tableDRF known roles = true := by
  refine tableDRF_iff.2 fun a b A B hA hB => ?_
  have pair := pairsOKB_of_guarded (known := known) (hg A (List.mem_of_getElem? hA)) (hg B (List.mem_of_getElem? hB))
  obtain ⟨ha, rfl⟩ := List.getElem?_eq_some_iff.1 hA
  obtain ⟨hb, rfl⟩ := List.getElem?_eq_some_iff.1 hB
  have two : a ≠ b → roles[a].multi = true ∨ roles[b].multi = true := fun hab =>
    (Nat.lt_or_gt_of_ne hab).elim (fun h => List.pairwise_iff_getElem.1 hs a b ha hb h)
      fun h => (List.pairwise_iff_getElem.1 hs b a hb ha h).symm
  by_cases hab : a = b
  · subst hab
    cases hm : roles[a].multi with
    | false => exact .inl ⟨rfl, rfl⟩
    | true => exact .inr (pair (by simp [hm]))
  · exact .inr (pair (by rcases two hab with h | h <;> simp [h]))

theorem protectedB_of_guarded {g : Var → Guard} {own : Bool} {A : List (Action × List Mutex)} {m : Mutex}
    {X : Var → Bool} {K : Site → Bool} (hX : ∀ x, X x = true → g x = .mutex m)
    (h : guardedB g own A = true) : protectedB m X K A = true := by
  refine List.all_eq_true.2 fun p hp => ?_
  have h1 := List.all_eq_true.1 h p hp
  cases hact : p.1 with
  | acc x w s =>
    simp only [hact] at h1 ⊢
    cases hx : X x with
    | false => rfl
    | true => rw [hX x hx] at h1; simp [List.contains_iff_mem.1 h1]
  | _ => rfl

theorem tableDRF_eq_false {known : Site → Site → Bool} {roles : List Role} {a b : Nat} {A B : Role}
    (hA : roles[a]? = some A) (hB : roles[b]? = some B) (hab : (a == b && !A.multi) = false)
    (bad : pairsOKB known A.accs B.accs = false) : tableDRF known roles = false := by
  refine Bool.eq_false_iff.2 fun h => ?_
  rcases tableDRF_iff.1 h a b A B hA hB with ⟨rfl, hm⟩ | h
  · simp [hm] at hab
  · exact Bool.false_ne_true (bad.symm.trans h)

theorem protectedB_mono {m : Mutex} {X : Var → Bool} {K1 K2 : Site → Bool} (h : ∀ s, K1 s = true → K2 s = true)
    {A : List (Action × List Mutex)} (ok : protectedB m X K1 A = true) : protectedB m X K2 A = true := by
  unfold protectedB at ok ⊢
  refine List.all_eq_true.2 fun p hp => ?_
  have h2 := List.all_eq_true.1 ok p hp
  cases hact : p.1 with
  | acc x w s =>
    simp only [hact, Bool.or_eq_true] at h2 ⊢
    exact h2.imp_right (h _)
  | _ => simp

theorem callout_ok_of_badCallouts_nil {hl : List Mutex} {A : List (Action × List Mutex)}
    (h0 : badCallouts hl A = []) {s : Site} {re : Bool} {h : List Mutex}
    (hm : (Action.callout s re, h) ∈ A) : ∀ m ∈ h, m ∉ hl := by
  intro m hmh hml
  unfold badCallouts at h0
  have := List.filterMap_eq_nil_iff.1 h0 _ hm
  simp at this
  exact this m hmh hml

theorem callout_unlocked_of_table {hl : List Mutex} {roles : List Role}
    (ok : ∀ R ∈ roles, R.annOK = true) (tb : ∀ R ∈ roles, badCallouts hl R.accs = [])
    {sys : List (Nat × List Action)} (wr : WellRoled roles sys) {s : State}
    (rs : Reachable (progsOf sys) s) {i : Nat} {h : List Mutex} {site : Site} {re : Bool} {r : List Action}
    (hi : s[i]? = some ⟨h, .callout site re :: r⟩) : ∀ m ∈ h, m ∉ hl := by
  obtain ⟨p, hp, hs⟩ := next_in_scan (inv_reachable rs) hi
  obtain ⟨ri, R, _, hR, _, ha, _⟩ := wellRoled_thread ok wr hp
  exact callout_ok_of_badCallouts_nil (tb R (List.mem_of_getElem? hR)) (ha _ hs)

end Zvbi.Locks
