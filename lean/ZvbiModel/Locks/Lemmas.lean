import ZvbiModel.Locks.Spec
/-!
# Locks - the generic proofs (all thread programs, all schedules)

Everything rests on the invariant `Inv` of reachable states: what a thread holds is what the static tracker
computes for the prefix it has executed, and two threads never hold the same mutex.
-/
namespace Zvbi.Locks

theorem trackList_cons {h h' : List Mutex} {a : Action} {r : List Action} :
    trackList h (a :: r) = some h' ↔ ∃ h1, track h a = some h1 ∧ trackList h1 r = some h' := by
  simp only [trackList]
  cases track h a <;> simp

theorem trackList_append (h : List Mutex) (p q : List Action) :
    trackList h (p ++ q) = (trackList h p).bind fun h' => trackList h' q := by
  induction p generalizing h with
  | nil => rfl
  | cons a r ih =>
    simp only [List.cons_append, trackList]
    cases track h a with
    | none => rfl
    | some h' => exact ih h'

theorem scan_append {h0 h : List Mutex} {p : List Action} (q : List Action)
    (hp : trackList h0 p = some h) : scan h0 (p ++ q) = scan h0 p ++ scan h q := by
  induction p generalizing h0 with
  | nil => cases hp; rfl
  | cons b p ih =>
    obtain ⟨h1, hb, hp⟩ := trackList_cons.1 hp
    simp only [List.cons_append, scan, hb, ih hp]

theorem track_mem {h h' : List Mutex} {a : Action} {m : Mutex}
    (tr : track h a = some h') (hm : m ∈ h') : m ∈ h ∨ a = .lock m ∨ a = .tryOk m := by
  cases a <;> simp only [track, Option.ite_none_left_eq_some, Option.ite_none_right_eq_some, Option.some.injEq] at tr
  case unlock => exact .inl (List.mem_of_mem_erase (tr.2 ▸ hm))
  case lock | tryOk => rcases List.mem_cons.1 (tr.2 ▸ hm) with rfl | hm <;> simp [*]
  all_goals exact .inl (tr ▸ hm)

theorem track_lock_not_mem {h h' : List Mutex} {m : Mutex} (tr : track h (.lock m) = some h') : m ∉ h := by
  simp only [track, Option.ite_none_left_eq_some] at tr
  exact tr.1

theorem mem_locksOf_cons {m : Mutex} {a : Action} {t : List Action} :
    m ∈ locksOf (a :: t) ↔ (a = .lock m ∨ a = .tryOk m) ∨ m ∈ locksOf t := by
  cases a <;> simp [locksOf, eq_comm]

theorem locksOf_append (p q : List Action) : locksOf (p ++ q) = locksOf p ++ locksOf q := by
  induction p with
  | nil => rfl
  | cons a r ih => cases a <;> simp [locksOf, ih]

theorem trackList_mem {h0 h : List Mutex} {pre : List Action} {m : Mutex}
    (hp : trackList h0 pre = some h) (hm : m ∈ h) : m ∈ h0 ∨ m ∈ locksOf pre := by
  induction pre generalizing h0 with
  | nil => cases hp; exact .inl hm
  | cons a r ih =>
    obtain ⟨h1, ha, hp⟩ := trackList_cons.1 hp
    rw [mem_locksOf_cons]
    rcases ih hp with h | h
    · rcases track_mem ha h with h | h | h <;> simp [h]
    · simp [h]

structure Inv (progs : List (List Action)) (s : State) : Prop where
  len : s.length = progs.length
  pre : ∀ (i : Nat) t, s[i]? = some t → ∃ pre, progs[i]? = some (pre ++ t.rest) ∧ trackList [] pre = some t.held
  excl : ∀ (i j : Nat) ti tj, i ≠ j → s[i]? = some ti → s[j]? = some tj → ∀ m, m ∈ ti.held → m ∉ tj.held

theorem Inv.holder_unique {progs : List (List Action)} {s : State} (iv : Inv progs s) {j k : Nat} {tj tk : Thread}
    {m : Mutex} (hj : s[j]? = some tj) (hm : m ∈ tj.held) (hk : s[k]? = some tk) (hm' : m ∈ tk.held) : k = j :=
  Decidable.byContradiction fun hne => iv.excl j k tj tk (Ne.symm hne) hj hk m hm hm'

theorem getElem?_set_same {α : Type _} {l : List α} {i : Nat} {a b : α} (h : l[i]? = some b) : (l.set i a)[i]? = some a :=
  List.getElem?_set_self (List.getElem?_eq_some_iff.1 h).1

theorem init_get {progs : List (List Action)} {i : Nat} {t : Thread} (h : (init progs)[i]? = some t) :
    ∃ p, progs[i]? = some p ∧ t = ⟨[], p⟩ := by
  simp only [init, List.getElem?_map, Option.map_eq_some_iff] at h
  obtain ⟨p, hp, rfl⟩ := h
  exact ⟨p, hp, rfl⟩

theorem inv_init (progs : List (List Action)) : Inv progs (init progs) := by
  refine ⟨by simp [init], fun i t ht => ?_, fun i j ti tj _ hi _ m hm => ?_⟩
  · obtain ⟨p, hp, rfl⟩ := init_get ht
    exact ⟨[], hp, rfl⟩
  · obtain ⟨p, _, rfl⟩ := init_get hi
    cases hm

theorem inv_step {progs : List (List Action)} {s s' : State} {l : Nat × Action}
    (st : Step s l s') (iv : Inv progs s) : Inv progs s' := by
  cases st with
  | @mk i h a r h' hi en tr =>
    have new : ∀ (l : Nat) tl, i ≠ l → s[l]? = some tl → ∀ m ∈ h', m ∉ tl.held := by
      intro l tl hil hl m hm
      rcases track_mem tr hm with hm | rfl | rfl
      · exact iv.excl i l _ tl hil hi hl m hm
      all_goals exact en tl (List.mem_of_getElem? hl)
    refine ⟨by simp [iv.len], fun k t hk => ?_, fun k l tk tl hkl hk hl m hm => ?_⟩
    · by_cases hik : i = k
      · subst hik
        cases (getElem?_set_same hi).symm.trans hk
        obtain ⟨pre, hp, ht⟩ := iv.pre i _ hi
        exact ⟨pre ++ [a], by simpa using hp, by simp [trackList_append, ht, trackList, tr]⟩
      · exact iv.pre k t (List.getElem?_set_ne hik ▸ hk)
    · by_cases hik : i = k
      · subst hik
        cases (getElem?_set_same hi).symm.trans hk
        exact new l tl hkl (List.getElem?_set_ne hkl ▸ hl) m hm
      · rw [List.getElem?_set_ne hik] at hk
        by_cases hil : i = l
        · subst hil
          cases (getElem?_set_same hi).symm.trans hl
          exact fun hm' => new k tk hik hk m hm' hm
        · exact iv.excl k l tk tl hkl hk (List.getElem?_set_ne hil ▸ hl) m hm

theorem inv_exec {progs : List (List Action)} {s s' : State} {ls : List (Nat × Action)}
    (ex : Exec s ls s') (iv : Inv progs s) : Inv progs s' := by
  induction ex with
  | nil => exact iv
  | cons st _ ih => exact ih (inv_step st iv)

theorem inv_reachable {progs : List (List Action)} {s : State} (r : Reachable progs s) : Inv progs s := by
  obtain ⟨ls, ex⟩ := r
  exact inv_exec ex (inv_init progs)

theorem exec_snoc {s0 s s' : State} {ls : List (Nat × Action)} {l : Nat × Action}
    (ex : Exec s0 ls s) (st : Step s l s') : Exec s0 (ls ++ [l]) s' := by
  induction ex with
  | nil => exact .cons st (.nil _)
  | cons st' _ ih => exact .cons st' (ih st)

theorem reachable_step {progs : List (List Action)} {s s' : State} {l : Nat × Action}
    (r : Reachable progs s) (st : Step s l s') : Reachable progs s' := by
  obtain ⟨ls, ex⟩ := r
  exact ⟨ls ++ [l], exec_snoc ex st⟩

theorem free_init (progs : List (List Action)) (m : Mutex) : Free (init progs) m := by
  intro t ht
  obtain ⟨i, hi⟩ := List.mem_iff_getElem?.1 ht
  obtain ⟨p, _, rfl⟩ := init_get hi
  exact List.not_mem_nil

theorem reachable_init (progs : List (List Action)) : Reachable progs (init progs) := ⟨[], .nil _⟩

theorem Reachable.next {progs : List (List Action)} {s : State} (rs : Reachable progs s) {i : Nat}
    {h h' : List Mutex} {a : Action} {r : List Action} (hi : s[i]? = some ⟨h, a :: r⟩) (en : Enabled s a)
    (tr : track h a = some h') : Reachable progs (s.set i ⟨h', r⟩) :=
  reachable_step rs (.mk hi en tr)

theorem deadlock_self_relock {h : List Mutex} {m : Mutex} {r : List Action} (hm : m ∈ h) :
    Deadlock [⟨h, .lock m :: r⟩] := by
  refine ⟨⟨_, List.mem_singleton.2 rfl, List.cons_ne_nil _ _⟩, fun t ht => ?_⟩
  cases List.mem_singleton.1 ht
  exact .inr ⟨m, r, rfl, _, List.mem_singleton.2 rfl, hm⟩

theorem next_in_scan {progs : List (List Action)} {s : State} (iv : Inv progs s)
    {i : Nat} {h : List Mutex} {a : Action} {r : List Action} (hi : s[i]? = some ⟨h, a :: r⟩) :
    ∃ p, progs[i]? = some p ∧ (a, h) ∈ scan [] p := by
  obtain ⟨pre, hp, ht⟩ := iv.pre i _ hi
  exact ⟨_, hp, scan_append (a :: r) ht ▸ List.mem_append_right _ (List.mem_cons_self ..)⟩

theorem ExecHolding.outside {progs : List (List Action)} {s s' : State} {j : Nat} {m : Mutex}
    {ls : List (Nat × Action)} (ex : ExecHolding j m s ls s') (rs : Reachable progs s)
    {i : Nat} {a : Action} (hmem : (i, a) ∈ ls) (hij : i ≠ j) :
    ∃ p h, progs[i]? = some p ∧ (a, h) ∈ scan [] p ∧ m ∉ h := by
  induction ex with
  | nil s => cases hmem
  | @cons s s1 s2 l ls hold st _ ih =>
    rcases List.mem_cons.1 hmem with rfl | hmem
    · obtain ⟨tj, hj, hm⟩ := hold
      have iv := inv_reachable rs
      cases st with
      | @mk _ h _ r h' hi en tr =>
        obtain ⟨p, hp, hs⟩ := next_in_scan iv hi
        exact ⟨p, h, hp, hs, iv.excl j i tj _ (Ne.symm hij) hj hi m hm⟩
    · exact ih (reachable_step rs st) hmem

theorem finished_holds_nothing {progs : List (List Action)} {s : State} (iv : Inv progs s)
    (bal : ∀ (i : Nat) p, progs[i]? = some p → Balanced p)
    {i : Nat} {t : Thread} (hi : s[i]? = some t) (hr : t.rest = []) : t.held = [] := by
  obtain ⟨pre, hp, ht⟩ := iv.pre i t hi
  rw [hr, List.append_nil] at hp
  exact (Option.some.inj ((bal i pre hp).symm.trans ht)).symm

theorem next_tracks {progs : List (List Action)} {s : State} (iv : Inv progs s)
    (bal : ∀ (i : Nat) p, progs[i]? = some p → Balanced p)
    {i : Nat} {h : List Mutex} {a : Action} {r : List Action} (hi : s[i]? = some ⟨h, a :: r⟩) :
    ∃ h', track h a = some h' := by
  obtain ⟨pre, hp, ht⟩ := iv.pre i _ hi
  have hb := bal i _ hp
  rw [Balanced, trackList_append, ht, Option.bind_some] at hb
  obtain ⟨h', ha, _⟩ := trackList_cons.1 hb
  exact ⟨h', ha⟩

theorem holder_locks {progs : List (List Action)} {s : State} (iv : Inv progs s)
    {k : Nat} {t : Thread} (hk : s[k]? = some t) {m : Mutex} (hm : m ∈ t.held) :
    ∃ p, progs[k]? = some p ∧ m ∈ locksOf p := by
  obtain ⟨pre, hp, ht⟩ := iv.pre k t hk
  refine ⟨_, hp, ?_⟩
  rcases trackList_mem ht hm with h | h
  · cases h
  · rw [locksOf_append]
    exact List.mem_append_left _ h

/-- in a deadlock the holder of a mutex waits for a held mutex of larger rank -/
theorem blocked_chain {rank : Mutex → Nat} {progs : List (List Action)} {s : State}
    (iv : Inv progs s) (bal : ∀ (i : Nat) p, progs[i]? = some p → Balanced p) (ord : Ordered rank progs)
    (dl : Deadlock s) {m : Mutex} (hheld : ∃ t ∈ s, m ∈ t.held) :
    ∃ m', (∃ t ∈ s, m' ∈ t.held) ∧ rank m < rank m' := by
  obtain ⟨t, hts, hmt⟩ := hheld
  obtain ⟨j, hj⟩ := List.mem_iff_getElem?.1 hts
  -- the holder is unfinished, hence blocked itself
  rcases dl.2 t hts with h0 | ⟨m', r', hr', hheld'⟩
  · rw [finished_holds_nothing iv bal hj h0] at hmt
    cases hmt
  · refine ⟨m', hheld', ?_⟩
    have hj' : s[j]? = some ⟨t.held, .lock m' :: r'⟩ := hr' ▸ hj
    obtain ⟨pj, hpj, hsc⟩ := next_in_scan iv hj'
    rcases ord j pj hpj m' t.held hsc with hrank | hpriv
    · exact hrank m hmt
    · -- private to j, but somebody holds it: not j itself, which is about to lock it
      exfalso
      obtain ⟨t'', ht''s, hm''⟩ := hheld'
      obtain ⟨k, hk⟩ := List.mem_iff_getElem?.1 ht''s
      by_cases hkj : k = j
      · subst hkj
        cases hj.symm.trans hk
        obtain ⟨h', htr⟩ := next_tracks iv bal hj'
        exact track_lock_not_mem htr hm''
      · obtain ⟨pk, hpk, hlk⟩ := holder_locks iv hk hm''
        exact hpriv k pk hkj hpk hlk

theorem stuck_is_deadlock {progs : List (List Action)} {s : State}
    (bal : ∀ (i : Nat) p, progs[i]? = some p → Balanced p) (tf : ∀ (i : Nat) p, progs[i]? = some p → TryFree p)
    (rs : Reachable progs s) (st : Stuck s) : Deadlock s := by
  have iv := inv_reachable rs
  refine ⟨st.1, ?_⟩
  intro t hts
  obtain ⟨i, hi⟩ := List.mem_iff_getElem?.1 hts
  cases hrest : t.rest with
  | nil => exact Or.inl rfl
  | cons a r =>
    right
    have hi' : s[i]? = some ⟨t.held, a :: r⟩ := hrest ▸ hi
    obtain ⟨h', htr⟩ := next_tracks iv bal hi'
    have nen : ¬ Enabled s a := fun en => st.2 _ _ (Step.mk hi' en htr)
    obtain ⟨pre, hp, _⟩ := iv.pre i _ hi'
    have htf := tf i _ hp a (List.mem_append_right _ List.mem_cons_self)
    cases a with
    | lock m =>
      exact ⟨m, r, hrest, Classical.byContradiction fun hno => nen fun t' ht' hm => hno ⟨t', ht', hm⟩⟩
    | tryOk m => exact absurd rfl (htf m).1
    | tryFail m => exact absurd rfl (htf m).2
    | _ => exact absurd trivial nen

end Zvbi.Locks
