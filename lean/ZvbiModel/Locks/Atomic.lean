import ZvbiModel.Locks.Table
/-!
# Locks - critical sections are atomic: every interleaving is a serial execution of whole sections

`Spec.lean` gives thread programs an interleaving semantics without data.  Here the actions get a
data semantics (`DataSem`: what thread `i` executing action `a` does to the *protected* shared state
and to its own local state), and the classical consequence of mutual exclusion is proved for all
programs and all schedules:

if (1) every access to the protected fields `X` happens under the mutex `m`, (2) only those accesses
see or change the protected state (`Frame`), (3) inside a section of `m` no other mutex operation
occurs, (4) no `trylock` on `m` fails (a successful one opens a section like `lock`), then every state of every interleaving in which `m` is free
is reached as well by the **section-serial** semantics `AReach`, in which a thread executes
`lock m; body; unlock m` as one uninterrupted run and the other steps happen between the sections.

So what a section computes (the page `vbi_fetch_cc_page` copies, the lines `vbi_raw_decode`
decodes) is a function of the shared state at the moment the lock was granted, and that state is
a state of the sequential execution of whole sections - the other threads are at points where they
do not hold `m` (their "unlock points").
-/
namespace Zvbi.Locks

universe u v
variable {Sh : Type u} {Lo : Type v}

/-- data semantics of the actions: thread `i` executes `a` on the protected shared state and its
own local state -/
structure DataSem (Sh : Type u) (Lo : Type v) where
  eff : Nat → Action → Sh → Lo → Sh × Lo

/-- an access to one of the protected fields -/
def isXacc (X : Var → Bool) : Action → Bool
  | .acc x _ _ => X x
  | _ => false

def isMutexOp : Action → Bool
  | .lock _ => true
  | .unlock _ => true
  | .tryOk _ => true
  | .tryFail _ => true
  | _ => false

/-- only accesses to the protected fields see or change the protected state -/
def Frame (X : Var → Bool) (D : DataSem Sh Lo) : Prop :=
  ∀ (i : Nat) (a : Action), isXacc X a = false → ∃ f : Lo → Lo, ∀ σ l, D.eff i a σ l = (σ, f l)

/-- threads, the protected shared state, one local state per thread -/
structure DState (Sh : Type u) (Lo : Type v) where
  thr : State
  sh : Sh
  loc : List Lo

/-- one step of thread `lab.1`: a `Step` of the lock semantics plus the data effect -/
def DStep (D : DataSem Sh Lo) (S : DState Sh Lo) (lab : Nat × Action) (S' : DState Sh Lo) : Prop :=
  Step S.thr lab S'.thr ∧ ∃ l, S.loc[lab.1]? = some l ∧
    S'.sh = (D.eff lab.1 lab.2 S.sh l).1 ∧ S'.loc = S.loc.set lab.1 (D.eff lab.1 lab.2 S.sh l).2

def dinit (progs : List (List Action)) (σ0 : Sh) (ls0 : List Lo) : DState Sh Lo := ⟨init progs, σ0, ls0⟩

/-- reachable under arbitrary interleaving -/
inductive DReach (D : DataSem Sh Lo) (progs : List (List Action)) (σ0 : Sh) (ls0 : List Lo) : DState Sh Lo → Prop
  | init : DReach D progs σ0 ls0 (dinit progs σ0 ls0)
  | step {S S' : DState Sh Lo} {lab : Nat × Action} :
      DReach D progs σ0 ls0 S → DStep D S lab S' → DReach D progs σ0 ls0 S'

/-- thread `j` alone executes the actions `as` one after the other -/
inductive Run (D : DataSem Sh Lo) (j : Nat) : DState Sh Lo → List Action → DState Sh Lo → Prop
  | nil (S : DState Sh Lo) : Run D j S [] S
  | cons {S S1 S2 : DState Sh Lo} {a : Action} {as : List Action} :
      DStep D S (j, a) S1 → Run D j S1 as S2 → Run D j S (a :: as) S2

/-- the section-serial semantics for the mutex `m`: single steps while `m` is free before and after,
and whole sections `lock m; body; unlock m` of one thread executed without interruption -/
inductive AReach (D : DataSem Sh Lo) (m : Mutex) (progs : List (List Action)) (σ0 : Sh) (ls0 : List Lo) :
    DState Sh Lo → Prop
  | init : AReach D m progs σ0 ls0 (dinit progs σ0 ls0)
  | step {S S' : DState Sh Lo} {lab : Nat × Action} :
      AReach D m progs σ0 ls0 S → Free S.thr m → DStep D S lab S' → Free S'.thr m → AReach D m progs σ0 ls0 S'
  | sect {S S' : DState Sh Lo} {j : Nat} {acq : Action} {body : List Action} :
      AReach D m progs σ0 ls0 S → (acq = .lock m ∨ acq = .tryOk m) → (∀ b ∈ body, isMutexOp b = false) →
      Run D j S (acq :: body ++ [.unlock m]) S' → AReach D m progs σ0 ls0 S'

/-- what a thread computes when it runs `as` alone from shared state `σ` and local state `l` -/
def foldEff (D : DataSem Sh Lo) (j : Nat) : List Action → Sh × Lo → Sh × Lo
  | [], x => x
  | a :: as, x => foldEff D j as (D.eff j a x.1 x.2)

theorem Step.dest {s s' : State} {i : Nat} {a : Action} (st : Step s (i, a) s') :
    ∃ h r h', s[i]? = some ⟨h, a :: r⟩ ∧ Enabled s a ∧ track h a = some h' ∧ s' = s.set i ⟨h', r⟩ := by
  cases st with
  | @mk _ h _ r h' hi en tr => exact ⟨h, r, h', hi, en, tr, rfl⟩

theorem free_iff {s : State} {m : Mutex} : Free s m ↔ ∀ (k : Nat) tk, s[k]? = some tk → m ∉ tk.held :=
  ⟨fun h _ tk hk => h tk (List.mem_of_getElem? hk),
    fun h t ht => (List.mem_iff_getElem?.1 ht).elim fun k hk => h k t hk⟩

theorem free_set {s : State} {i : Nat} {t t' : Thread} {m : Mutex} (hi : s[i]? = some t) (hm : m ∉ t'.held)
    (hf : ∀ (k : Nat) tk, k ≠ i → s[k]? = some tk → m ∉ tk.held) : Free (s.set i t') m := by
  refine free_iff.2 fun k tk hk => ?_
  by_cases hki : k = i
  · subst hki; cases (getElem?_set_same hi).symm.trans hk; exact hm
  · exact hf k tk hki (List.getElem?_set_ne (Ne.symm hki) ▸ hk)

theorem track_not_mem {h h' : List Mutex} {a : Action} {m : Mutex} (tr : track h a = some h') (hm : m ∉ h)
    (h1 : a ≠ .lock m) (h2 : a ≠ .tryOk m) : m ∉ h' := fun hm' => by
  rcases track_mem tr hm' with h | h | h <;> contradiction

theorem DReach.reachable {D : DataSem Sh Lo} {progs : List (List Action)} {σ0 : Sh} {ls0 : List Lo} {S : DState Sh Lo}
    (r : DReach D progs σ0 ls0 S) : Reachable progs S.thr := by
  induction r with
  | init => exact ⟨[], .nil _⟩
  | step _ st ih => exact reachable_step ih st.1

theorem Run.snoc {D : DataSem Sh Lo} {j : Nat} {S S1 S2 : DState Sh Lo} {as : List Action} {a : Action}
    (r : Run D j S as S1) (st : DStep D S1 (j, a) S2) : Run D j S (as ++ [a]) S2 := by
  induction r with
  | nil S => exact .cons st (.nil _)
  | cons st' _ ih => exact .cons st' (ih st)

theorem Run.dreach {D : DataSem Sh Lo} {progs : List (List Action)} {σ0 : Sh} {ls0 : List Lo} {j : Nat}
    {S S' : DState Sh Lo} {as : List Action} (r : Run D j S as S') (h : DReach D progs σ0 ls0 S) :
    DReach D progs σ0 ls0 S' := by
  induction r with
  | nil S => exact h
  | cons st _ ih => exact ih (.step h st)

theorem AReach.dreach {D : DataSem Sh Lo} {m : Mutex} {progs : List (List Action)} {σ0 : Sh} {ls0 : List Lo}
    {S : DState Sh Lo} (r : AReach D m progs σ0 ls0 S) : DReach D progs σ0 ls0 S := by
  induction r with
  | init => exact .init
  | step _ _ st _ ih => exact .step ih st
  | sect _ _ _ run ih => exact run.dreach ih

theorem Run.result {D : DataSem Sh Lo} {j : Nat} {S S' : DState Sh Lo} {as : List Action} (r : Run D j S as S')
    {l : Lo} (hl : S.loc[j]? = some l) :
    S'.sh = (foldEff D j as (S.sh, l)).1 ∧ S'.loc[j]? = some (foldEff D j as (S.sh, l)).2 := by
  induction r generalizing l with
  | nil S => exact ⟨rfl, hl⟩
  | @cons S S1 S2 a as st _ ih =>
    obtain ⟨_, l', hl', hsh, hloc⟩ := st
    cases hl.symm.trans hl'
    have := ih (hloc ▸ getElem?_set_same hl)
    rw [hsh] at this
    simpa [foldEff] using this

theorem Run.consumes {D : DataSem Sh Lo} {j : Nat} {S S' : DState Sh Lo} {as : List Action} (r : Run D j S as S')
    {t' : Thread} (hj : S'.thr[j]? = some t') : ∃ h, S.thr[j]? = some ⟨h, as ++ t'.rest⟩ := by
  induction r with
  | nil S => exact ⟨t'.held, hj⟩
  | @cons S S1 S2 a as st _ ih =>
    obtain ⟨h1, hj1⟩ := ih hj
    obtain ⟨h, r0, h', hj0, _, _, hs1⟩ := st.1.dest
    rw [hs1, getElem?_set_same hj0] at hj1
    cases hj1
    exact ⟨h, hj0⟩

theorem Run.other {D : DataSem Sh Lo} {j : Nat} {S S' : DState Sh Lo} {as : List Action} (r : Run D j S as S')
    {k : Nat} (hk : k ≠ j) : S.thr[k]? = S'.thr[k]? ∧ S.loc[k]? = S'.loc[k]? := by
  induction r with
  | nil S => exact ⟨rfl, rfl⟩
  | @cons S S1 S2 a as st _ ih =>
    obtain ⟨stp, l, _, _, hloc⟩ := st
    obtain ⟨_, _, _, _, _, _, hthr⟩ := stp.dest
    rw [← ih.1, ← ih.2, hthr, hloc]
    exact ⟨(List.getElem?_set_ne (Ne.symm hk)).symm, (List.getElem?_set_ne (Ne.symm hk)).symm⟩

theorem track_of_not_mutexOp {h h' : List Mutex} {a : Action} (hn : isMutexOp a = false) (tr : track h a = some h') :
    h' = h := by
  cases a <;> simp [isMutexOp] at hn <;> simp [track] at tr <;> exact tr.symm

theorem enabled_of_not_mutexOp {s : State} {a : Action} (hn : isMutexOp a = false) : Enabled s a := by
  cases a <;> simp [isMutexOp] at hn <;> trivial

/-! ## moving a step of another thread across a run -/

def DState.upd (S : DState Sh Lo) (i : Nat) (t : Thread) (l : Lo) : DState Sh Lo :=
  ⟨S.thr.set i t, S.sh, S.loc.set i l⟩

theorem DStep.upd_other {D : DataSem Sh Lo} {S S1 : DState Sh Lo} {i j : Nat} {b : Action} {t : Thread} {l : Lo}
    (st : DStep D S (j, b) S1) (hij : i ≠ j) (en : Enabled (S.thr.set i t) b) :
    DStep D (S.upd i t l) (j, b) (S1.upd i t l) := by
  obtain ⟨stp, lj, hlj, hsh, hloc⟩ := st
  obtain ⟨h, r, h', hj, _, tr, hs'⟩ := stp.dest
  refine ⟨?_, lj, (List.getElem?_set_ne hij).trans hlj, hsh, ?_⟩
  · have := Step.mk ((List.getElem?_set_ne hij).trans hj) en tr
    simp only [DState.upd]
    rw [hs', List.set_comm _ _ (Ne.symm hij)]
    exact this
  · simp only [DState.upd]
    rw [hloc, List.set_comm _ _ (Ne.symm hij)]

theorem Run.upd_other {D : DataSem Sh Lo} {S S1 : DState Sh Lo} {i j : Nat} {as : List Action} {t : Thread} {l : Lo}
    (r : Run D j S as S1) (hij : i ≠ j) (hn : ∀ b ∈ as, isMutexOp b = false) :
    Run D j (S.upd i t l) as (S1.upd i t l) := by
  induction r with
  | nil S => exact .nil _
  | @cons S S1 S2 a as st _ ih =>
    exact .cons (st.upd_other hij (enabled_of_not_mutexOp (hn a List.mem_cons_self)))
      (ih fun b hb => hn b (List.mem_cons_of_mem _ hb))

/-- a section of thread `j` is open in `S`: rolling `j` back to its lock point gives a state `S0` of
the serial semantics with `m` free, from which `j` alone reaches `S` -/
abbrev OpenSection (D : DataSem Sh Lo) (m : Mutex) (progs : List (List Action)) (σ0 : Sh) (ls0 : List Lo)
    (S : DState Sh Lo) (j : Nat) (tj : Thread) : Prop :=
  ∃ (S0 : DState Sh Lo) (acq : Action) (body : List Action) (t0 : Thread),
    AReach D m progs σ0 ls0 S0 ∧ Free S0.thr m ∧ (acq = .lock m ∨ acq = .tryOk m) ∧
    (∀ b ∈ body, isMutexOp b = false) ∧ Run D j S0 (acq :: body) S ∧
    S0.thr[j]? = some t0 ∧ tj.held = m :: t0.held

structure SectionDiscipline (X : Var → Bool) (m : Mutex) (progs : List (List Action)) : Prop where
  prot : ∀ (i : Nat) p x w site h, progs[i]? = some p → X x = true →
    (Action.acc x w site, h) ∈ scan [] p → m ∈ h
  nonest : ∀ (i : Nat) p a h, progs[i]? = some p → (a, h) ∈ scan [] p → m ∈ h → isMutexOp a = true → a = .unlock m
  notry : ∀ (i : Nat) p, progs[i]? = some p → Action.tryFail m ∉ p

attribute [ext] DState

/-- the invariant of the interleaving semantics: a state with `m` free is section-serial, and whoever holds `m` has
an open section -/
def SectInv (D : DataSem Sh Lo) (m : Mutex) (progs : List (List Action)) (σ0 : Sh) (ls0 : List Lo)
    (S : DState Sh Lo) : Prop :=
  (Free S.thr m → AReach D m progs σ0 ls0 S) ∧
    ∀ (j : Nat) tj, S.thr[j]? = some tj → m ∈ tj.held → OpenSection D m progs σ0 ls0 S j tj

theorem section_invariant {D : DataSem Sh Lo} {X : Var → Bool} {m : Mutex} {progs : List (List Action)}
    {σ0 : Sh} {ls0 : List Lo} (frame : Frame X D) (sd : SectionDiscipline X m progs)
    {S : DState Sh Lo} (r : DReach D progs σ0 ls0 S) : SectInv D m progs σ0 ls0 S := by
  induction r with
  | init =>
    refine ⟨fun _ => .init, ?_⟩
    intro j tj hj hm
    obtain ⟨p, _, rfl⟩ := init_get hj
    cases hm
  | @step S S' lab rS st ih =>
    obtain ⟨i, a⟩ := lab
    have ivS := inv_reachable rS.reachable
    have ivS' := inv_reachable (DReach.step rS st).reachable
    obtain ⟨stp, l, hl, hsh, hloc⟩ := st
    simp only at hl hsh hloc
    obtain ⟨h, rr, h', hi, en, tr, hthr⟩ := stp.dest
    have hother : ∀ k, k ≠ i → S'.thr[k]? = S.thr[k]? := by
      intro k hk; rw [hthr]; exact List.getElem?_set_ne (Ne.symm hk)
    have hself : S'.thr[i]? = some ⟨h', rr⟩ := by rw [hthr]; exact getElem?_set_same hi
    -- the two ways to conclude: `m` is free in `S'`, or one thread holds it and its section is open
    have of_free : Free S'.thr m → AReach D m progs σ0 ls0 S' → SectInv D m progs σ0 ls0 S' :=
      fun hf a => ⟨fun _ => a, fun j tj hj hm => absurd hm (free_iff.1 hf j tj hj)⟩
    have of_held : ∀ (j : Nat) tj, S'.thr[j]? = some tj → m ∈ tj.held → OpenSection D m progs σ0 ls0 S' j tj →
        SectInv D m progs σ0 ls0 S' := by
      intro j tj hj hm o
      refine ⟨fun hf => absurd hm (free_iff.1 hf j tj hj), fun k tk hk hm' => ?_⟩
      cases ivS'.holder_unique hj hm hk hm'
      cases hj.symm.trans hk
      exact o
    by_cases hfree : Free S.thr m
    · -- nobody is inside a section
      have aS := ih.1 hfree
      have hmh : m ∉ h := free_iff.1 hfree i _ hi
      by_cases hacq : a = .lock m ∨ a = .tryOk m
      · -- thread i opens a section
        have hh' : h' = m :: h := by
          rcases hacq with rfl | rfl <;> simp [track, hmh] at tr <;> exact tr.symm
        refine of_held i _ hself (hh' ▸ List.mem_cons_self ..)
          ⟨S, a, [], ⟨h, a :: rr⟩, aS, hfree, hacq, by simp, .cons ⟨stp, l, hl, hsh, hloc⟩ (.nil _), hi, hh'⟩
      · -- an ordinary step outside the sections
        have hfree' : Free S'.thr m :=
          hthr ▸ free_set hi (track_not_mem tr hmh (fun e => hacq (.inl e)) fun e => hacq (.inr e))
            fun k tk _ hk => free_iff.1 hfree k tk hk
        exact of_free hfree' (.step aS hfree ⟨stp, l, hl, hsh, hloc⟩ hfree')
    · -- some thread j is inside a section
      obtain ⟨j, tj, hj, hmj⟩ : ∃ (j : Nat) (tj : Thread), S.thr[j]? = some tj ∧ m ∈ tj.held :=
        Classical.byContradiction fun hno => hfree (free_iff.2 fun k tk hk hm => hno ⟨k, tk, hk, hm⟩)
      obtain ⟨S0, acq, body, t0, aS0, hfree0, hacq, hbody, run, ht0, hheld⟩ := ih.2 j tj hj hmj
      by_cases hij : i = j
      · -- the owner of the section steps
        subst hij
        rw [hi] at hj
        cases hj
        simp only at hmj hheld
        obtain ⟨p, hp, hsc⟩ := next_in_scan ivS hi
        by_cases hun : a = .unlock m
        · -- the section closes
          subst hun
          have run' := run.snoc (S2 := S') ⟨stp, l, hl, hsh, hloc⟩
          have aS' : AReach D m progs σ0 ls0 S' := .sect (j := i) aS0 hacq hbody run'
          -- `h = m :: t0.held`, and `t0` is a thread of the free state `S0`
          have hh' : h' = t0.held := by simp [track, hheld] at tr; exact tr.symm
          have hfree' : Free S'.thr m :=
            hthr ▸ free_set hi (hh' ▸ free_iff.1 hfree0 i t0 ht0)
              fun k tk hki hk => ivS.excl i k _ tk (Ne.symm hki) hi hk m hmj
          exact of_free hfree' aS'
        · -- the section continues
          have hnm : isMutexOp a = false :=
            Bool.eq_false_iff.2 fun hmo => hun (sd.nonest i p a h hp hsc hmj hmo)
          have hh' : h' = h := track_of_not_mutexOp hnm tr
          refine of_held i _ hself (hh' ▸ hmj)
            ⟨S0, acq, body ++ [a], t0, aS0, hfree0, hacq, ?_, ?_, ht0, hh' ▸ hheld⟩
          · intro b hb
            rcases List.mem_append.1 hb with hb | hb
            · exact hbody b hb
            · cases List.mem_singleton.1 hb; exact hnm
          · simpa using run.snoc (S2 := S') ⟨stp, l, hl, hsh, hloc⟩
      · -- another thread steps while j is inside its section: move the step before the section
        have hmh : m ∉ h := fun hm => ivS.excl j i tj _ (Ne.symm hij) hj hi m hmj hm
        obtain ⟨p, hp, hsc⟩ := next_in_scan ivS hi
        have hap : a ∈ p := by
          obtain ⟨pre, hp', _⟩ := ivS.pre i _ hi
          rw [hp] at hp'
          cases hp'
          simp
        have hna1 : a ≠ .lock m := by rintro rfl; exact hfree en
        have hna2 : a ≠ .tryOk m := by rintro rfl; exact hfree en
        have hna3 : a ≠ .tryFail m := by rintro rfl; exact sd.notry i p hp hap
        have hmh' : m ∉ h' := track_not_mem tr hmh hna1 hna2
        have hx : isXacc X a = false := by
          cases a with
          | acc x w site => exact Bool.eq_false_iff.2 fun hX => hmh (sd.prot i p x w site h hp hX hsc)
          | _ => rfl
        obtain ⟨f, hf⟩ := frame i a hx
        have hS' : S' = S.upd i ⟨h', rr⟩ (f l) := by
          refine DState.ext hthr ?_ ?_
          · rw [hsh, hf]; rfl
          · rw [hloc, hf]; rfl
        obtain ⟨e1, e2⟩ := run.other hij
        have hi0 : S0.thr[i]? = some ⟨h, a :: rr⟩ := by rw [e1]; exact hi
        have hl0 : S0.loc[i]? = some l := by rw [e2]; exact hl
        -- rolling `j` back changes who holds `m` only, so enabledness carries over
        have hfree_iff : ∀ m', m' ≠ m → (Free S0.thr m' ↔ Free S.thr m') := by
          intro m' hne
          simp only [free_iff]
          refine forall_congr' fun k => ?_
          by_cases hkj : k = j
          · subst hkj
            simp [ht0, hj, hheld, hne]
          · rw [(run.other hkj).1]
        have en0 : Enabled S0.thr a := by
          cases a with
          | lock m' => exact (hfree_iff m' fun e => hna1 (e ▸ rfl)).2 en
          | tryOk m' => exact (hfree_iff m' fun e => hna2 (e ▸ rfl)).2 en
          | tryFail m' => exact fun hf' => en ((hfree_iff m' fun e => hna3 (e ▸ rfl)).1 hf')
          | _ => trivial
        let S0' : DState Sh Lo := S0.upd i ⟨h', rr⟩ (f l)
        have st0 : DStep D S0 (i, a) S0' := by
          refine ⟨?_, l, hl0, ?_, ?_⟩
          · exact Step.mk hi0 en0 tr
          · show S0.sh = _
            rw [hf]
          · show S0.loc.set i (f l) = _
            rw [hf]
        have hfree0' : Free S0'.thr m := free_set hi0 hmh' fun k tk _ hk => free_iff.1 hfree0 k tk hk
        have aS0' : AReach D m progs σ0 ls0 S0' := .step aS0 hfree0 st0 hfree0'
        have run' : Run D j S0' (acq :: body) S' := by
          rw [hS']
          cases run with
          | @cons _ S1 _ _ _ stacq rbody =>
            refine .cons (stacq.upd_other hij ?_) (rbody.upd_other hij hbody)
            have hfm : Free (S0.thr.set i ⟨h', rr⟩) m := hfree0'
            rcases hacq with rfl | rfl <;> exact hfm
        have hjS' : S'.thr[j]? = some tj := by rw [hother j (Ne.symm hij)]; exact hj
        exact of_held j tj hjS' hmj ⟨S0', acq, body, t0, aS0', hfree0', hacq, hbody, run',
          (List.getElem?_set_ne hij).trans ht0, hheld⟩

/-- **Critical sections are atomic.**  Under the section discipline, every state of every
interleaving in which `m` is free is a state of the section-serial semantics. -/
theorem atomic_sections {D : DataSem Sh Lo} {X : Var → Bool} {m : Mutex} {progs : List (List Action)}
    {σ0 : Sh} {ls0 : List Lo} (frame : Frame X D) (sd : SectionDiscipline X m progs)
    {S : DState Sh Lo} (r : DReach D progs σ0 ls0 S) (hf : Free S.thr m) : AReach D m progs σ0 ls0 S :=
  (section_invariant frame sd r).1 hf

/-- ... and while a thread is inside a section, the state is what that thread alone computes from a
state of the section-serial semantics in which `m` was free -/
theorem open_section_is_serial {D : DataSem Sh Lo} {X : Var → Bool} {m : Mutex} {progs : List (List Action)}
    {σ0 : Sh} {ls0 : List Lo} (frame : Frame X D) (sd : SectionDiscipline X m progs)
    {S : DState Sh Lo} (r : DReach D progs σ0 ls0 S) {j : Nat} {tj : Thread} (hj : S.thr[j]? = some tj)
    (hm : m ∈ tj.held) :
    ∃ (S0 : DState Sh Lo) (as : List Action) (l0 : Lo), AReach D m progs σ0 ls0 S0 ∧ Free S0.thr m ∧
      Run D j S0 as S ∧ S0.loc[j]? = some l0 ∧
      S.sh = (foldEff D j as (S0.sh, l0)).1 ∧ S.loc[j]? = some (foldEff D j as (S0.sh, l0)).2 := by
  obtain ⟨S0, acq, body, t0, aS0, hfree0, _, _, run, _, _⟩ := (section_invariant frame sd r).2 j tj hj hm
  cases run with
  | @cons _ S1 _ _ _ st rb =>
    obtain ⟨stp, l, hl, hsh, hloc⟩ := st
    have run : Run D j S0 (acq :: body) S := .cons ⟨stp, l, hl, hsh, hloc⟩ rb
    obtain ⟨h1, h2⟩ := run.result hl
    exact ⟨S0, acq :: body, l, aS0, hfree0, run, hl, h1, h2⟩

/-- inside a section of `m` the only mutex operation is the closing `unlock m` -/
def noNestB (m : Mutex) (A : List (Action × List Mutex)) : Bool :=
  A.all fun p => !isMutexOp p.1 || !p.2.contains m || p.1 == .unlock m

theorem sectionDiscipline_of_table {m : Mutex} {X : Var → Bool} {roles : List Role}
    (ok : ∀ R ∈ roles, R.annOK = true) (tp : ∀ R ∈ roles, protectedB m X (fun _ => false) R.accs = true)
    (tn : ∀ R ∈ roles, noNestB m R.accs = true) (tf : ∀ R ∈ roles, R.tryFree = true)
    {sys : List (Nat × List Action)} (wr : WellRoled roles sys) : SectionDiscipline X m (progsOf sys) := by
  refine ⟨?_, ?_, ?_⟩
  · intro i p x w site h hp hx hs
    exact (protected_of_table ok tp wr hp hx hs).resolve_right Bool.false_ne_true
  · intro i p a h hp hs hm hmo
    obtain ⟨r, R, _, hR, _, ha, _⟩ := wellRoled_thread ok wr hp
    have h2 := List.all_eq_true.1 (tn R (List.mem_of_getElem? hR)) _ (ha _ hs)
    simpa only [hmo, List.contains_iff_mem.2 hm, Bool.not_true, Bool.false_or, beq_iff_eq] using h2
  · intro i p hp hmem
    exact (tryFree_of_table tf wr i p hp _ hmem m).2 rfl

end Zvbi.Locks
