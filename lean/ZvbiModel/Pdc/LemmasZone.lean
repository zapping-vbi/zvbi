import ZvbiModel.Pdc.Spec
import ZvbiModel.Pdc.LemmasCal
/-!
# libc's side on `Tm`: `timegm` / `gmtime` (`secsFromTm`, `tmFromSecs`) are mutually inverse, the range of `timegm`, and the laws of zones with a fixed offset
-/
namespace Zvbi.Pdc

theorem secsFromTm_lin (tm : Tm) :
    secsFromTm tm = secsFromTm { tm with mday := 1, hour := 0, min := 0, sec := 0 }
      + (tm.mday - 1) * 86400 + tm.hour * 3600 + tm.min * 60 + tm.sec := by
  unfold secsFromTm; dsimp only; omega

/-- a time with second 0 is never the error value (time_t) -1 -/
theorem secsFromTm_sec0_ne (tm : Tm) (h : tm.sec = 0) : secsFromTm tm ≠ -1 := by
  unfold secsFromTm; dsimp only; rw [h]
  generalize daysFromCivil (tm.year + 1900 + tm.mon / 12) (tm.mon % 12 + 1) 1 + (tm.mday - 1) = D
  omega

theorem tmFromSecs_secsFromTm (tm : Tm) (hv : tm.validCivil) : (tmFromSecs (secsFromTm tm)).sameCivil tm := by
  obtain ⟨hm0, hm1, hd0, hd1, ht⟩ := hv
  have hrt := civilFromDays_daysFromCivil (y := tm.year + 1900) (m := tm.mon + 1) ⟨by omega, by omega, hd0, hd1⟩
  unfold secsFromTm
  dsimp only
  rw [show tm.mon / 12 = 0 by omega, show tm.mon % 12 + 1 = tm.mon + 1 by omega, Int.add_zero, daysFromCivil_add_day]
  generalize daysFromCivil (tm.year + 1900) (tm.mon + 1) tm.mday = D at *
  unfold tmFromSecs Tm.sameCivil
  dsimp only
  rw [show (D * 86400 + tm.hour * 3600 + tm.min * 60 + tm.sec) / 86400 = D by omega,
    show (D * 86400 + tm.hour * 3600 + tm.min * 60 + tm.sec) % 86400 = tm.hour * 3600 + tm.min * 60 + tm.sec by omega, hrt]
  dsimp only
  omega

theorem secsFromTm_tmFromSecs (t : Int) : secsFromTm (tmFromSecs t) = t ∧ (tmFromSecs t).validCivil := by
  obtain ⟨y, m, d, hc, h1, hm0, hm1, hd0, hd1⟩ := daysFromCivil_civilFromDays (t / 86400)
  unfold tmFromSecs secsFromTm Tm.validCivil
  simp only [hc]
  rw [show y - 1900 + 1900 + (m - 1) / 12 = y by omega, show (m - 1) % 12 + 1 = m by omega, daysFromCivil_add_day, h1,
    show m - 1 + 1 = m by omega, show y - 1900 + 1900 = y by omega]
  exact ⟨by omega, by omega, by omega, hd0, hd1, by omega⟩

theorem secsFromTm_monthStart (tm : Tm) (hv : tm.validCivil) :
    monthStart tm.monthIndex * 86400 ≤ secsFromTm tm ∧ secsFromTm tm < (monthStart tm.monthIndex + 31) * 86400 := by
  obtain ⟨hm0, hm1, hd0, hd1, hh0, hh1, hmi0, hmi1, hs0, hs1⟩ := hv
  have hd31 := (daysInMonth_range (isLeap (tm.year + 1900)) (tm.mon + 1)).2
  unfold monthStart Tm.monthIndex secsFromTm
  dsimp only
  rw [show (12 * tm.year + tm.mon) / 12 = tm.year by omega, show (12 * tm.year + tm.mon) % 12 = tm.mon by omega,
    show tm.mon / 12 = 0 by omega, show tm.mon % 12 = tm.mon by omega, show tm.year + 1900 + 0 = 1900 + tm.year by omega]
  generalize daysFromCivil (1900 + tm.year) (tm.mon + 1) 1 = D
  omega

theorem seconds_bound (a b : Tm) (ha : a.validCivil) (hb : b.validCivil)
    (h0 : -6 ≤ b.monthIndex - a.monthIndex) (h1 : b.monthIndex - a.monthIndex ≤ 5) :
    -(217 * 86400) < secsFromTm b - secsFromTm a ∧ secsFromTm b - secsFromTm a < 217 * 86400 := by
  have sa := secsFromTm_monthStart a ha
  have sb := secsFromTm_monthStart b hb
  rcases Int.le_total a.monthIndex b.monthIndex with hk | hk
  · have := monthStart_diff _ _ hk; omega
  · have := monthStart_diff _ _ hk; omega

/-- a civil time whose year fits `int` is far inside the 64-bit time_t range: month 0 starts on day -25567
and months are at most 31 days long -/
theorem secsFromTm_bound (tm : Tm) (hv : tm.validCivil) (hy0 : INT_MIN ≤ tm.year) (hy1 : tm.year ≤ INT_MAX) :
    -(7 * 10 ^ 16) ≤ secsFromTm tm ∧ secsFromTm tm ≤ 7 * 10 ^ 16 := by
  have hs := secsFromTm_monthStart tm hv
  have h00 : monthStart 0 = -25567 := by decide
  have hi : tm.monthIndex = 12 * tm.year + tm.mon := rfl
  obtain ⟨hm0, hm1, _⟩ := hv
  unfold INT_MIN at hy0; unfold INT_MAX at hy1
  rcases Int.le_total 0 tm.monthIndex with hk | hk
  · have := monthStart_diff _ _ hk; omega
  · have := monthStart_diff _ _ hk; omega

theorem fixedZone_toLocal (e t : Int) (tm : Tm) (h : (fixedZone e).toLocal t = some tm) :
    tm = tmFromSecs (t + e) ∧ convertible e t = true := by
  unfold fixedZone at h; dsimp only at h
  split at h
  · rename_i hc; cases h; exact ⟨rfl, hc⟩
  · cases h

theorem fixedZone_fromLocal (e t : Int) (tm : Tm) (h : (fixedZone e).fromLocal tm = some t) :
    t = secsFromTm tm - e ∧ convertible e t = true := by
  unfold fixedZone at h; dsimp only at h
  split at h
  · rename_i hc; cases h
    simp only [Bool.and_eq_true] at hc
    exact ⟨rfl, hc.1⟩
  · cases h

theorem fitsInt_iff (x : Int) : fitsInt x = true ↔ INT_MIN ≤ x ∧ x ≤ INT_MAX := by
  unfold fitsInt; simp

theorem fixedZone_lawful (e : Int) : (fixedZone e).Lawful where
  mon_range t tm h := by
    obtain ⟨rfl, _⟩ := fixedZone_toLocal e t tm h
    have := (secsFromTm_tmFromSecs (t + e)).2
    exact ⟨this.1, this.2.1⟩
  year_int t tm h := by
    obtain ⟨rfl, hc⟩ := fixedZone_toLocal e t tm h
    unfold convertible at hc
    simp only [Bool.and_eq_true] at hc
    exact (fitsInt_iff _).1 hc.2

theorem fixedZone_soundAt (e : Int) (tm : Tm) (hv : tm.validCivil) : (fixedZone e).SoundAt tm := by
  intro t h
  obtain ⟨rfl, hc⟩ := fixedZone_fromLocal e t tm h
  refine ⟨tmFromSecs (secsFromTm tm - e + e), ?_, ?_⟩
  · unfold fixedZone; dsimp only; rw [if_pos hc]
  · have : secsFromTm tm - e + e = secsFromTm tm := by omega
    rw [this]; exact tmFromSecs_secsFromTm tm hv

theorem Tm.sameCivil.trans {a b c : Tm} (h1 : a.sameCivil b) (h2 : b.sameCivil c) : a.sameCivil c :=
  ⟨h1.1.trans h2.1, h1.2.1.trans h2.2.1, h1.2.2.1.trans h2.2.2.1, h1.2.2.2.1.trans h2.2.2.2.1,
   h1.2.2.2.2.1.trans h2.2.2.2.2.1, h1.2.2.2.2.2.trans h2.2.2.2.2.2⟩

theorem Tm.sameCivil.hasPil {a b : Tm} {pil : Nat} (h : a.sameCivil b) (hb : b.hasPil pil) : a.hasPil pil := by
  obtain ⟨_, e2, e3, e4, e5, e6⟩ := h
  unfold Tm.hasPil at hb ⊢; rw [e2, e3, e4, e5, e6]; exact hb

theorem Tm.sameCivil.monthIndex {a b : Tm} (h : a.sameCivil b) : a.monthIndex = b.monthIndex := by
  unfold Tm.monthIndex; rw [h.1, h.2.1]

theorem Zone.FollowsOffsets.lawful {Z : Zone} {off : Int → Int} (h : Z.FollowsOffsets off) : Z.Lawful where
  mon_range t tm ht := by
    obtain ⟨_, e2, _⟩ := h.localtime t tm ht
    have := (secsFromTm_tmFromSecs (t + off t)).2
    rw [e2]; exact ⟨this.1, this.2.1⟩
  year_int := h.year_int

theorem utcZone_fromLocal (t : Int) (tm : Tm) (h : utcZone.fromLocal tm = some t) : t = secsFromTm tm := by
  have := (fixedZone_fromLocal 0 t tm h).1
  rwa [Int.sub_zero] at this

theorem utcZone_toLocal_some (t : Int) (hy : fitsInt (tmFromSecs t).year = true) : utcZone.toLocal t = some (tmFromSecs t) := by
  unfold utcZone fixedZone convertible
  dsimp only
  rw [Int.add_zero, hy]; rfl

theorem utcZone_fromLocal_some (tm : Tm) (hv : tm.validCivil) (hy0 : INT_MIN ≤ tm.year) (hy1 : tm.year ≤ INT_MAX) :
    utcZone.fromLocal tm = some (secsFromTm tm) := by
  have hb := secsFromTm_bound tm hv hy0 hy1
  have hrt := (tmFromSecs_secsFromTm tm hv).1
  have hfit : fitsInt (tmFromSecs (secsFromTm tm)).year = true := by rw [hrt]; exact (fitsInt_iff _).2 ⟨hy0, hy1⟩
  unfold utcZone fixedZone convertible
  dsimp only
  rw [Int.sub_zero, Int.add_zero, hfit]
  unfold TIME_MIN TIME_MAX
  simp only [Bool.and_self, Bool.true_and, decide_eq_true_eq]
  rw [if_pos (by omega)]

end Zvbi.Pdc
