import ZvbiModel.Pdc.LemmasTz
import ZvbiModel.Pdc.LemmasArith
import ZvbiModel.Pdc.LemmasZone
/-!
# What a successful conversion computed: the inversion of each function, the relation `Converted` they lead to, and the theorems about it
-/
namespace Zvbi.Pdc

/-- libc's UTC is the concrete calendar (or libc's timegm is used and modelled by it) -/
def UtcIsCalendar (cfg : Cfg) (L : Libc) : Prop := cfg.haveTimegm = true ∨ L.zoneOf (some "UTC") = utcZone

/-- what every successful conversion did, on the zone path and on the offset path alike: the reference time `ref`, shown in
`Z` as `tm0`, fixes the year of the PIL's date (`tm1`, nearest-year rule), the leap-day check passes, and `Z`'s mktime turns
the PIL's date and time in that year into `r`.  `d` is the `tm_isdst` handed to mktime: -1 on the zone path, the reference
time's on the offset path; nothing depends on it. -/
def Converted (Z : Zone) (pil : Nat) (ref r : Int) : Prop :=
  ∃ tm0 tm1 d, Z.toLocal ref = some tm0 ∧ tmMonMdayFromPil tm0 pil = some tm1 ∧ tmLeapDayCheck tm1 = true
    ∧ Z.fromLocal { tm1 with hour := (pilHour pil : Int), min := (pilMinute pil : Int), sec := 0, isdst := d } = some r

theorem vbiTimegm_val {cfg : Cfg} {L : Libc} {w : World} {tm : Tm} {r : Int} {w' : World} (hutc : UtcIsCalendar cfg L)
    (h : vbiTimegm cfg L w tm = (r, w')) (hr : r ≠ -1) :
    utcZone.fromLocal tm = some r ∧ TIME_MIN < r ∧ r < TIME_MAX := by
  revert h
  refine vbiTimegm_cases cfg L w tm (P := fun q _ => q = (r, w') → _) ?hlibc ?hchange ?hmktime
  case hlibc => intro _ h; cases h; exact clampResult_ne _ hr
  case hchange => intro _ _ _ _ h; cases h; exact absurd rfl hr
  case hmktime =>
    intro old w1 x w2 hcfg hct hm h
    cases leave_val (congrArg Prod.fst h) hr
    have hcl := clampResult_ne _ hr
    have henv : w1.env = some "UTC" := ((changeTz_spec hct).1 rfl).2.1
    have hv := (libcMktime_spec hm).2.2.1 _ hcl.1
    rw [henv, hutc.resolve_left (by simp [hcfg])] at hv
    exact ⟨hv, hcl.2⟩

theorem ltoFromTm_val (cfg : Cfg) (L : Libc) (w : World) (tm : Tm) (pil : Nat) (east t : Int) (hutc : UtcIsCalendar cfg L)
    (h : (ltoFromTm cfg L w tm pil east).1 = .ok t) :
    ∃ tm1 r, tmMonMdayFromPil tm pil = some tm1 ∧ tmLeapDayCheck tm1 = true
      ∧ utcZone.fromLocal { tm1 with hour := (pilHour pil : Int), min := (pilMinute pil : Int), sec := 0 } = some r
      ∧ guardOut cfg r east = false ∧ t = r - east ∧ TIME_MIN < r ∧ r < TIME_MAX := by
  revert h
  refine ltoFromTm_cases cfg L w tm pil east (P := fun q => q.1 = .ok t → _) (hyear := fun _ => nofun)
    (hleap := fun _ _ _ => nofun) (htimegm := fun _ _ _ _ _ => nofun) (hguard := fun _ _ _ _ _ _ _ _ => nofun) (hok := ?_)
  intro tm1 r w1 h1 hl ht hr hg h
  cases h
  exact ⟨tm1, r, h1, hl, (vbiTimegm_val hutc ht hr).1, hg, rfl, (vbiTimegm_val hutc ht hr).2⟩

theorem ltoFromTm_invalid (cfg : Cfg) (L : Libc) (w : World) (tm : Tm) (pil : Nat) (east : Int)
    (h : (ltoFromTm cfg L w tm pil east).1 = .invalidPil) :
    ∃ tm1, tmMonMdayFromPil tm pil = some tm1 ∧ tmLeapDayCheck tm1 = false := by
  revert h
  exact ltoFromTm_cases cfg L w tm pil east (P := fun q => q.1 = .invalidPil → _) (hyear := fun _ => nofun)
    (hleap := fun tm1 h1 hl _ => ⟨tm1, h1, hl⟩) (htimegm := fun _ _ _ _ _ => nofun)
    (hguard := fun _ _ _ _ _ _ _ _ => nofun) (hok := fun _ _ _ _ _ _ _ _ => nofun)

theorem validPilLtoToTime_val (cfg : Cfg) (L : Libc) (w : World) (pil : Nat) (start east : Int) (r : LtoRes) (hr : r ≠ .fail)
    (h : (validPilLtoToTime cfg L w pil start east).1 = r) :
    ∃ tm0 w1, utcZone.toLocal (refTime L start + east) = some tm0 ∧ guardIn cfg (refTime L start) east = false
      ∧ (ltoFromTm cfg L w1 tm0 pil east).1 = r := by
  revert h
  refine validPilLtoToTime_cases cfg L w pil start east (P := fun q _ => q.1 = r → _)
    (htime := fun _ _ h => absurd h.symm hr) (hguard := fun _ _ _ _ _ h => absurd h.symm hr)
    (hgmtime := fun _ _ _ _ _ _ h => absurd h.symm hr) (hconv := ?_)
  intro s w1 tm0 hs hne hg _ ht h
  cases startOrNow_ref hs (Or.inl hne)
  exact ⟨tm0, _, ht, hg, h⟩

theorem toTimeFromTm_val (L : Libc) (w : World) (tm : Tm) (old : Option String) (tzGiven : Bool) (pil : Nat) (r : Int)
    (h : (toTimeFromTm L w tm old tzGiven pil).1 = r) (hr : r ≠ -1) :
    ∃ tm1, tmMonMdayFromPil tm pil = some tm1 ∧ tmLeapDayCheck tm1 = true
      ∧ (L.zoneOf w.env).fromLocal { tm1 with hour := (pilHour pil : Int), min := (pilMinute pil : Int), sec := 0, isdst := -1 }
          = some r := by
  revert h
  refine toTimeFromTm_cases L w tm old tzGiven pil (P := fun q => q.1 = r → _)
    (hyear := fun _ h => absurd (leave_val h hr).symm hr) (hleap := fun _ _ _ h => absurd (leave_val h hr).symm hr)
    (hmktime := ?_)
  intro tm1 x w1 h1 hl hmk h
  cases leave_val h hr
  exact ⟨tm1, h1, hl, (vbiMktime_spec hmk).2.2 hr⟩

theorem vbiPilToTime_val (cfg : Cfg) (L : Libc) (w0 : World) (pil : Nat) (start : Int) (tz : Option String) (r : Int)
    (hc : w0.Consistent) (htz : tz ≠ some "UTC") (h : (vbiPilToTime cfg L w0 pil start tz).1 = r) (hr : r ≠ -1) :
    PilValid pil ∧ Converted (L.zoneOf (effectiveTz w0 tz)) pil (refTime L start) r := by
  revert h
  refine vbiPilToTime_cases cfg L w0 pil start tz (P := fun q => q.1 = r → _) (hinvalid := fun _ h => absurd h.symm hr)
    (hutc := fun _ _ _ hu => absurd hu htz) (hlocal := fun _ _ _ _ _ h => absurd h.symm hr) (hconv := ?_)
  intro tm old w1 hv _ hl h
  obtain ⟨hm, h0⟩ := (localtimeTz_spec hc hl).1 tm rfl
  obtain ⟨tm1, h1, h2, h3⟩ := toTimeFromTm_val L w1 tm old tz.isSome pil r h hr
  rw [hm.2.1] at h3
  exact ⟨(pilIsValidDate_iff pil).1 hv, tm, tm1, -1, h0, h1, h2, h3⟩

theorem invalid_returns (cfg : Cfg) (L : Libc) (w : World) (pil : Nat) (start east : Int) (tz : Option String)
    (h : pilIsValidDate pil = false) :
    vbiPilLtoToTime cfg L w pil start east = (-1, w) ∧ vbiPilToTime cfg L w pil start tz = (-1, w) :=
  have no : pilIsValidDate pil ≠ true := by rw [h]; nofun
  ⟨vbiPilLtoToTime_cases cfg L w pil start east (P := fun q => q = (-1, w)) (hinvalid := fun _ => rfl)
      (hvalid := fun _ _ hv => absurd hv no),
   vbiPilToTime_cases cfg L w pil start tz (P := fun q => q = (-1, w)) (hinvalid := fun _ => rfl)
      (hutc := fun _ _ hv => absurd hv no) (hlocal := fun _ _ hv => absurd hv no) (hconv := fun _ _ _ hv => absurd hv no)⟩

/-- the offset path is the same conversion in UTC, on times moved by the offset, between the two guards -/
theorem validPilLtoToTime_conv (cfg : Cfg) (L : Libc) (w : World) (pil : Nat) (start east t : Int) (hutc : UtcIsCalendar cfg L)
    (h : (validPilLtoToTime cfg L w pil start east).1 = .ok t) :
    Converted utcZone pil (refTime L start + east) (t + east)
      ∧ guardIn cfg (refTime L start) east = false ∧ guardOut cfg (t + east) east = false
      ∧ TIME_MIN < t + east ∧ t + east < TIME_MAX := by
  obtain ⟨tm0, w1, h0, hgi, h1⟩ := validPilLtoToTime_val cfg L w pil start east _ (by simp) h
  obtain ⟨tm1, r, h2, h3, h4, hgo, rfl, hr⟩ := ltoFromTm_val cfg L w1 tm0 pil east t hutc h1
  rw [show r - east + east = r by omega]
  exact ⟨⟨tm0, tm1, tm1.isdst, h0, h2, h3, h4⟩, hgi, hgo, hr⟩

theorem vbiPilLtoToTime_ok (cfg : Cfg) (L : Libc) (w : World) (pil : Nat) (start east : Int)
    (hr : (vbiPilLtoToTime cfg L w pil start east).1 ≠ -1) :
    PilValid pil ∧ (validPilLtoToTime cfg L w pil start east).1 = .ok (vbiPilLtoToTime cfg L w pil start east).1 := by
  revert hr
  refine vbiPilLtoToTime_cases cfg L w pil start east (P := fun q => q.1 ≠ -1 → PilValid pil ∧ _ = LtoRes.ok q.1)
    (hinvalid := fun _ h => absurd rfl h) (hvalid := ?_)
  intro r w1 hv hvl hr
  rw [hvl]
  refine ⟨(pilIsValidDate_iff pil).1 hv, ?_⟩
  cases r with
  | ok t => rfl
  | invalidPil => exact absurd rfl hr
  | fail => exact absurd rfl hr

/-- the civil time a conversion hands to mktime, with no assumption on mktime -/
theorem Converted.pre {Z : Zone} {pil : Nat} {ref r : Int} (h : Converted Z pil ref r) (hv : PilValid pil) (hlaw : Z.Lawful)
    (hyear : ∀ tms, Z.toLocal ref = some tms → 1 ≤ tms.year + 1900 ∧ tms.year + 1901 ≤ INT_MAX) :
    ∃ tms tmP, Z.toLocal ref = some tms ∧ tmP.validCivil ∧ tmP.hasPil pil
      ∧ -6 ≤ tmP.monthIndex - tms.monthIndex ∧ tmP.monthIndex - tms.monthIndex ≤ 5
      ∧ (pilMonth pil = 2 → pilDay pil = 29 → isLeap (tmP.year + 1900)) ∧ Z.fromLocal tmP = some r := by
  obtain ⟨tm0, tm1, d, h0, h1, h2, h3⟩ := h
  have hmon := hlaw.mon_range _ _ h0
  have hy := hyear _ h0
  obtain ⟨tm1', e1, _, _, hX⟩ := pilTm_total tm0 pil hv hmon.1 hmon.2 hy.1 hy.2
  rw [h1] at e1; cases e1
  obtain ⟨v1, v2, v3, v4, v5⟩ := hX h2 d
  exact ⟨tm0, _, h0, v1, v2, v3, v4, v5, h3⟩

/-- where mktime is right at the PIL's local time, the result shows the PIL in the nearest year -/
theorem Converted.shows {Z : Zone} {pil : Nat} {ref r : Int} (h : Converted Z pil ref r) (hv : PilValid pil) (hlaw : Z.Lawful)
    (hsound : ∀ tm : Tm, tm.validCivil → tm.hasPil pil → Z.SoundAt tm)
    (hyear : ∀ tms, Z.toLocal ref = some tms → 1 ≤ tms.year + 1900 ∧ tms.year + 1901 ≤ INT_MAX) :
    ∃ tms tmr, Z.toLocal ref = some tms ∧ Z.toLocal r = some tmr ∧ tmr.hasPil pil
      ∧ -6 ≤ tmr.monthIndex - tms.monthIndex ∧ tmr.monthIndex - tms.monthIndex ≤ 5
      ∧ (pilMonth pil = 2 → pilDay pil = 29 → isLeap (tmr.year + 1900)) := by
  obtain ⟨tms, tmP, h0, v1, v2, v3, v4, v5, h3⟩ := h.pre hv hlaw hyear
  obtain ⟨tmr, hr1, hr2⟩ := hsound _ v1 v2 _ h3
  rw [← hr2.monthIndex, ← hr2.1] at *
  exact ⟨tms, tmr, h0, hr1, hr2.hasPil v2, v3, v4, v5⟩

/-- in a zone with a fixed offset nothing is assumed: its laws are those of the proved calendar -/
theorem Converted.fixed {e : Int} {pil : Nat} {ref r : Int} (h : Converted (fixedZone e) pil ref r) (hv : PilValid pil)
    (hyear : 1 ≤ (tmFromSecs (ref + e)).year + 1900 ∧ (tmFromSecs (ref + e)).year + 1901 ≤ INT_MAX) :
    (tmFromSecs (r + e)).hasPil pil
    ∧ -6 ≤ (tmFromSecs (r + e)).monthIndex - (tmFromSecs (ref + e)).monthIndex
    ∧ (tmFromSecs (r + e)).monthIndex - (tmFromSecs (ref + e)).monthIndex ≤ 5
    ∧ (pilMonth pil = 2 → pilDay pil = 29 → isLeap ((tmFromSecs (r + e)).year + 1900)) := by
  obtain ⟨tms, tmr, h1, h2, c⟩ := h.shows hv (fixedZone_lawful e) (fun tm hv _ => fixedZone_soundAt e tm hv)
    (fun tms h => (fixedZone_toLocal e _ tms h).1 ▸ hyear)
  cases (fixedZone_toLocal e _ tms h1).1
  cases (fixedZone_toLocal e _ tmr h2).1
  exact c

/-- the seconds form of the nearest-year rule: seven calendar months of at most 31 days -/
theorem Converted.fixed_near {e : Int} {pil : Nat} {ref r : Int} (h : Converted (fixedZone e) pil ref r) (hv : PilValid pil)
    (hyear : 1 ≤ (tmFromSecs (ref + e)).year + 1900 ∧ (tmFromSecs (ref + e)).year + 1901 ≤ INT_MAX) :
    -(217 * 86400) < r - ref ∧ r - ref < 217 * 86400 := by
  obtain ⟨_, c4, c5, _⟩ := h.fixed hv hyear
  obtain ⟨sa, va⟩ := secsFromTm_tmFromSecs (ref + e)
  obtain ⟨sb, vb⟩ := secsFromTm_tmFromSecs (r + e)
  have := seconds_bound _ _ va vb c4 c5
  rw [sa, sb] at this
  omega

theorem Converted.utc {pil : Nat} {ref r : Int} (h : Converted utcZone pil ref r) (hv : PilValid pil)
    (hyear : 1 ≤ (tmFromSecs ref).year + 1900 ∧ (tmFromSecs ref).year + 1901 ≤ INT_MAX) :
    (tmFromSecs r).hasPil pil ∧ -6 ≤ (tmFromSecs r).monthIndex - (tmFromSecs ref).monthIndex
    ∧ (tmFromSecs r).monthIndex - (tmFromSecs ref).monthIndex ≤ 5
    ∧ (pilMonth pil = 2 → pilDay pil = 29 → isLeap ((tmFromSecs r).year + 1900)) := by
  simpa only [Int.add_zero] using h.fixed (e := 0) hv (by simpa only [Int.add_zero] using hyear)

theorem Converted.same_day {p q : Nat} {ref r r' : Int} (h : Converted utcZone p ref r) (h' : Converted utcZone q ref r')
    (hm : pilMonth p = pilMonth q) (hd : pilDay p = pilDay q) :
    r' - r = ((pilHour q : Int) - pilHour p) * 3600 + ((pilMinute q : Int) - pilMinute p) * 60 := by
  obtain ⟨tm0, tm1, d, h0, h1, _, h3⟩ := h
  obtain ⟨tm0', tm1', d', h0', h1', _, h3'⟩ := h'
  rw [h0] at h0'; cases h0'
  rw [tmMonMday_congr tm0 p q hm hd, h1'] at h1; cases h1
  rw [utcZone_fromLocal _ _ h3, utcZone_fromLocal _ _ h3', secsFromTm_lin,
    secsFromTm_lin { tm1 with hour := (pilHour p : Int), min := _, sec := _, isdst := _ }]
  dsimp only
  unfold secsFromTm; dsimp only; omega

end Zvbi.Pdc
