import ZvbiModel.Pdc.Calendar
/-!
# Laws of the concrete calendar (`Calendar.lean`)

`civilFromDays` is a right inverse of `daysFromCivil` that lands in valid dates (computed: digits of the year of era, month
floor).  Consecutive months abut with exactly their lengths (`monthStart_succ`), so `daysFromCivil` orders valid dates as
(year, month, day), is injective on them, and the other round trip follows.
-/
namespace Zvbi.Pdc

/-- the March-based year `yoe` of an era ends with a leap day iff civil year yoe+1 is leap -/
def leapM (yoe : Int) : Prop := (yoe + 1) % 4 = 0 ∧ ((yoe + 1) % 100 ≠ 0 ∨ (yoe + 1) % 400 = 0)
instance (y : Int) : Decidable (leapM y) := by unfold leapM; infer_instance

theorem daysInMonth_mono (p q : Prop) [Decidable p] [Decidable q] (h : p → q) (m : Int) :
    daysInMonth p m ≤ daysInMonth q m := by
  unfold daysInMonth
  split
  · by_cases hp : p <;> by_cases hq : q <;> simp [hp, hq]
    exact absurd (h hp) hq
  · exact Int.le_refl _

/-- a date of the proleptic Gregorian calendar -/
def ValidDate (y m d : Int) : Prop := 1 ≤ m ∧ m ≤ 12 ∧ 1 ≤ d ∧ d ≤ daysInMonth (isLeap y) m

theorem daysInMonth_range (leap : Prop) [Decidable leap] (m : Int) : 28 ≤ daysInMonth leap m ∧ daysInMonth leap m ≤ 31 := by
  unfold daysInMonth; split <;> (try split) <;> omega

/-- the year of era on its digits: century `c`, 4-year cycle `q`, year `yq` -/
theorem doeOf_digits (c q yq doy : Int) (hq : 0 ≤ q ∧ q ≤ 24) (hy : 0 ≤ yq ∧ yq ≤ 3) :
    doeOf (c * 100 + q * 4 + yq) doy = 36524 * c + 1461 * q + 365 * yq + doy := by
  unfold doeOf; omega

theorem doeOf_splitDoe (doe : Int) (h0 : 0 ≤ doe) (h1 : doe ≤ 146096) :
    ∃ yoe doy, splitDoe doe = (yoe, doy) ∧ doeOf yoe doy = doe ∧ 0 ≤ yoe ∧ yoe ≤ 399 ∧ 0 ≤ doy ∧ doy ≤ 365
      ∧ (doy = 365 → leapM yoe) := by
  obtain ⟨c, q, yq, doy, hs, hdoe, hq, hy, hd⟩ : ∃ c q yq doy, splitDoe doe = (c * 100 + q * 4 + yq, doy)
      ∧ doe = 36524 * c + 1461 * q + 365 * yq + doy ∧ (0 ≤ q ∧ q ≤ 24) ∧ (0 ≤ yq ∧ yq ≤ 3)
      ∧ 0 ≤ c ∧ c ≤ 3 ∧ 0 ≤ doy ∧ doy ≤ 365 ∧ (doy = 365 → yq = 3 ∧ (q = 24 → c = 3)) := by
    refine ⟨_, _, _, _, rfl, ?_⟩
    omega
  refine ⟨_, _, hs, ?_⟩
  rw [doeOf_digits c q yq doy hq hy]
  unfold leapM
  omega

/-- month `mp` of the March-based year (0 = March) begins on day `(153 * mp + 2) / 5` of that year -/
theorem month_floor (doy mp : Int) :
    (5 * doy + 2) / 153 = mp ↔ (153 * mp + 2) / 5 ≤ doy ∧ doy < (153 * (mp + 1) + 2) / 5 := by omega

/-- the month lengths are the differences of the month starts, except for February, the last month -/
theorem daysInMonth_eq (leap : Prop) [Decidable leap] (m : Int) (hm0 : 1 ≤ m) (hm1 : m ≤ 12) :
    daysInMonth leap m = if m = 2 then (if leap then 29 else 28)
      else (153 * ((m + 9) % 12 + 1) + 2) / 5 - (153 * ((m + 9) % 12) + 2) / 5 := by
  have hm : m = 1 ∨ m = 2 ∨ m = 3 ∨ m = 4 ∨ m = 5 ∨ m = 6 ∨ m = 7 ∨ m = 8 ∨ m = 9 ∨ m = 10 ∨ m = 11 ∨ m = 12 := by omega
  rcases hm with rfl | rfl | rfl | rfl | rfl | rfl | rfl | rfl | rfl | rfl | rfl | rfl <;> rfl

theorem doyOf_monthDay (doy : Int) (h0 : 0 ≤ doy) (h1 : doy ≤ 365) :
    ∃ m d, monthDay doy = (m, d) ∧ doyOf m d = doy ∧ 1 ≤ m ∧ m ≤ 12 ∧ 1 ≤ d ∧ d ≤ daysInMonth (doy = 365) m
      ∧ (doy = 365 → m = 2) := by
  unfold monthDay
  dsimp only
  obtain ⟨mp, hmp⟩ : ∃ mp, (5 * doy + 2) / 153 = mp := ⟨_, rfl⟩
  have hfl := (month_floor doy mp).1 hmp
  rw [hmp]
  obtain ⟨m, hm⟩ : ∃ m, (if mp < 10 then mp + 3 else mp - 9) = m := ⟨_, rfl⟩
  have hm' : 1 ≤ m ∧ m ≤ 12 ∧ (m + 9) % 12 = mp := by omega
  rw [hm]
  refine ⟨_, _, rfl, ?_⟩
  rw [daysInMonth_eq _ m hm'.1 hm'.2.1]
  unfold doyOf
  rw [hm'.2.2]
  omega

theorem daysFromCivil_civilFromDays (z : Int) :
    ∃ y m d, civilFromDays z = (y, m, d) ∧ daysFromCivil y m d = z ∧ ValidDate y m d := by
  unfold civilFromDays
  dsimp only
  obtain ⟨yoe, doy, hyd, h1, hy0, hy1, hd0, hd1, hl⟩ := doeOf_splitDoe ((z + 719468) % 146097) (by omega) (by omega)
  rw [hyd]
  dsimp only
  obtain ⟨m, d, hmd, g1, gm0, gm1, gd0, gd1, g365⟩ := doyOf_monthDay doy hd0 hd1
  rw [hmd]
  dsimp only
  refine ⟨_, _, _, rfl, ?_, gm0, gm1, gd0, ?_⟩
  · unfold daysFromCivil
    dsimp only
    rw [show (if m ≤ 2 then yoe + (z + 719468) / 146097 * 400 + (if m ≤ 2 then 1 else 0) - 1
        else yoe + (z + 719468) / 146097 * 400 + (if m ≤ 2 then 1 else 0)) = yoe + (z + 719468) / 146097 * 400 by omega,
      show (yoe + (z + 719468) / 146097 * 400) / 400 = (z + 719468) / 146097 by omega,
      show (yoe + (z + 719468) / 146097 * 400) % 400 = yoe by omega, g1, h1]
    omega
  · -- the leap flag of the civil year agrees with "day of year = 365"
    have hflag : doy = 365 → isLeap (yoe + (z + 719468) / 146097 * 400 + (if m ≤ 2 then 1 else 0)) := by
      intro h
      have hm2 := g365 h
      have := hl h
      unfold leapM at this; unfold isLeap; subst hm2; simp; omega
    exact Int.le_trans gd1 (daysInMonth_mono _ _ hflag m)

theorem daysFromCivil_add_day (y m d : Int) : daysFromCivil y m 1 + (d - 1) = daysFromCivil y m d := by
  unfold daysFromCivil doeOf doyOf; dsimp only; omega

/-- day number of the first day of month index `i` (months since year 1900) -/
def monthStart (i : Int) : Int := daysFromCivil (1900 + i / 12) (i % 12 + 1) 1

/-- 1 March of year `Y + 1` (day number before the shift to 1970) comes 365 days after 1 March of year `Y`, 366 if `Y + 1` is leap -/
theorem year_succ (Y : Int) :
    ((Y + 1) / 400 * 146097 + doeOf ((Y + 1) % 400) 0) - (Y / 400 * 146097 + doeOf (Y % 400) 0)
      = if isLeap (Y + 1) then 366 else 365 := by
  obtain ⟨q, r, rfl, hr⟩ : ∃ q r, Y = 400 * q + r ∧ 0 ≤ r ∧ r < 400 := ⟨Y / 400, Y % 400, by omega⟩
  have hl : isLeap (400 * q + r + 1) ↔ (r + 1) % 4 = 0 ∧ ((r + 1) % 100 ≠ 0 ∨ r = 399) := by unfold isLeap; omega
  unfold doeOf
  by_cases h : r = 399
  · subst h
    rw [show (400 * q + 399 + 1) / 400 = q + 1 by omega, show (400 * q + 399 + 1) % 400 = 0 by omega,
      show (400 * q + 399) / 400 = q by omega, show (400 * q + 399) % 400 = 399 by omega, if_pos (hl.2 (by decide))]
    omega
  · rw [show (400 * q + r + 1) / 400 = q by omega, show (400 * q + r + 1) % 400 = r + 1 by omega,
      show (400 * q + r) / 400 = q by omega, show (400 * q + r) % 400 = r by omega]
    split <;> rename_i hh <;> rw [hl] at hh <;> omega

/-- months counted from March: month index `i` is month `(i - 2) % 12` of the March-based year
`1900 + (i - 2) / 12`, which begins on day `(153 * mp + 2) / 5` of that year -/
theorem monthStart_eq (i : Int) :
    monthStart i = (1900 + (i - 2) / 12) / 400 * 146097 + doeOf ((1900 + (i - 2) / 12) % 400) 0
      + (153 * ((i - 2) % 12) + 2) / 5 - 719468 := by
  unfold monthStart daysFromCivil doyOf doeOf
  dsimp only
  rw [show (if i % 12 + 1 ≤ 2 then 1900 + i / 12 - 1 else 1900 + i / 12) = 1900 + (i - 2) / 12 by omega,
    show (i % 12 + 1 + 9) % 12 = (i - 2) % 12 by omega]
  omega

theorem monthStart_succ (i : Int) :
    monthStart (i + 1) = monthStart i + daysInMonth (isLeap (1900 + i / 12)) (i % 12 + 1) := by
  rw [monthStart_eq, monthStart_eq]
  by_cases h : (i - 2) % 12 = 11
  · have hy := year_succ (1900 + (i - 2) / 12)
    rw [show (i + 1 - 2) / 12 = (i - 2) / 12 + 1 by omega, show (i + 1 - 2) % 12 = 0 by omega, h,
      show 1900 + ((i - 2) / 12 + 1) = 1900 + (i - 2) / 12 + 1 by omega,
      show i % 12 + 1 = 2 by omega, show 1900 + i / 12 = 1900 + (i - 2) / 12 + 1 by omega]
    unfold daysInMonth
    rw [if_pos rfl]
    split at hy <;> rename_i hl
    · rw [if_pos hl]; omega
    · rw [if_neg hl]; omega
  · rw [show (i + 1 - 2) / 12 = (i - 2) / 12 by omega, show (i + 1 - 2) % 12 = (i - 2) % 12 + 1 by omega,
      daysInMonth_eq _ _ (by omega) (by omega), if_neg (by omega),
      show (i % 12 + 1 + 9) % 12 = (i - 2) % 12 by omega]
    omega

theorem monthStart_step (i : Int) : 28 ≤ monthStart (i + 1) - monthStart i ∧ monthStart (i + 1) - monthStart i ≤ 31 := by
  have := daysInMonth_range (isLeap (1900 + i / 12)) (i % 12 + 1)
  rw [monthStart_succ]; omega

theorem monthStart_add (i : Int) (n : Nat) :
    28 * (n : Int) ≤ monthStart (i + n) - monthStart i ∧ monthStart (i + n) - monthStart i ≤ 31 * (n : Int) := by
  induction n with
  | zero => simp
  | succ n ih =>
    have hs := monthStart_step (i + n)
    have e : i + ((n + 1 : Nat) : Int) = i + (n : Int) + 1 := by omega
    rw [e]
    have : ((n + 1 : Nat) : Int) = (n : Int) + 1 := by omega
    rw [this]
    omega

theorem monthStart_diff (i j : Int) (h : i ≤ j) :
    28 * (j - i) ≤ monthStart j - monthStart i ∧ monthStart j - monthStart i ≤ 31 * (j - i) := by
  have := monthStart_add i (j - i).toNat
  rwa [show i + ((j - i).toNat : Int) = j by omega, show ((j - i).toNat : Int) = j - i by omega] at this

theorem daysFromCivil_monthStart (y m d : Int) (hm0 : 1 ≤ m) (hm1 : m ≤ 12) :
    daysFromCivil y m d = monthStart (12 * (y - 1900) + (m - 1)) + (d - 1) := by
  unfold monthStart
  rw [show 1900 + (12 * (y - 1900) + (m - 1)) / 12 = y by omega, show (12 * (y - 1900) + (m - 1)) % 12 + 1 = m by omega,
    daysFromCivil_add_day]

/-- a later month starts after the last day of an earlier one -/
theorem daysFromCivil_lt {y m d y' m' d' : Int} (h : ValidDate y m d) (h' : ValidDate y' m' d') (hlt : 12 * y + m < 12 * y' + m') :
    daysFromCivil y m d < daysFromCivil y' m' d' := by
  obtain ⟨hm0, hm1, _, hd1⟩ := h
  obtain ⟨hm0', hm1', hd0', _⟩ := h'
  rw [daysFromCivil_monthStart y m d hm0 hm1, daysFromCivil_monthStart y' m' d' hm0' hm1']
  have hs := monthStart_succ (12 * (y - 1900) + (m - 1))
  rw [show 1900 + (12 * (y - 1900) + (m - 1)) / 12 = y by omega, show (12 * (y - 1900) + (m - 1)) % 12 + 1 = m by omega] at hs
  have := monthStart_diff (12 * (y - 1900) + (m - 1) + 1) (12 * (y' - 1900) + (m' - 1)) (by omega)
  omega

theorem daysFromCivil_inj {y m d y' m' d' : Int} (h : ValidDate y m d) (h' : ValidDate y' m' d')
    (he : daysFromCivil y m d = daysFromCivil y' m' d') : (y, m, d) = (y', m', d') := by
  have h1 := daysFromCivil_lt h h'
  have h2 := daysFromCivil_lt h' h
  obtain ⟨hm0, hm1, _⟩ := h
  obtain ⟨hm0', hm1', _⟩ := h'
  obtain ⟨rfl, rfl⟩ : y = y' ∧ m = m' := by omega
  rw [← daysFromCivil_add_day y m d, ← daysFromCivil_add_day y m d'] at he
  congr 2; omega

theorem civilFromDays_daysFromCivil {y m d : Int} (h : ValidDate y m d) : civilFromDays (daysFromCivil y m d) = (y, m, d) := by
  obtain ⟨y', m', d', hc, he, hv⟩ := daysFromCivil_civilFromDays (daysFromCivil y m d)
  rw [hc]
  exact daysFromCivil_inj hv h he

end Zvbi.Pdc
