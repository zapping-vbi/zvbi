import ZvbiModel.Pdc.LemmasCases
/-!
# The TZ save / switch / restore dance: every path either puts everything back or reports failure
-/
namespace Zvbi.Pdc

@[simp] theorem call_env (L : Libc) (w : World) (s : Site) : (w.call L s).2.env = w.env := rfl
@[simp] theorem call_libc (L : Libc) (w : World) (s : Site) : (w.call L s).2.libc = w.libc := rfl
@[simp] theorem call_heap (L : Libc) (w : World) (s : Site) : (w.call L s).2.heap = w.heap := rfl
@[simp] theorem call_rf (L : Libc) (w : World) (s : Site) : (w.call L s).2.restoreFailed = w.restoreFailed := rfl
theorem call_fst (L : Libc) (w : World) (s : Site) : (w.call L s).1 = L.fails s (w.calls s + 1) := rfl

theorem TzUntouched.refl (w : World) (h : w.restoreFailed = false) : TzUntouched w w := ⟨rfl, rfl, rfl, h⟩

theorem TzUntouched.trans {a b c : World} (h1 : TzUntouched a b) (h2 : TzUntouched b c) : TzUntouched a c :=
  ⟨h2.1.trans h1.1, h2.2.1.trans h1.2.1, h2.2.2.1.trans h1.2.2.1, h2.2.2.2⟩

theorem TzUntouched.call {a b : World} (L : Libc) (s : Site) (h : TzUntouched a b) : TzUntouched a (b.call L s).2 :=
  ⟨h.1, h.2.1, h.2.2.1, h.2.2.2⟩

theorem TzUntouched.consistent {a b : World} (ha : a.Consistent) (h : TzUntouched a b) : b.Consistent :=
  ⟨by rw [h.2.1, h.1]; exact ha.1, h.2.2.2⟩

theorem RestoreFailed.of_untouched {L : Libc} {a b c : World} (h1 : TzUntouched a b) (h2 : RestoreFailed L b c) :
    RestoreFailed L a c := ⟨h2.1, h2.2.1.trans h1.2.2.1, h2.2.2⟩

/-- the state between `change_tz` and `restore_tz` -/
def Mid (w0 w : World) (old tz : Option String) : Prop :=
  w.restoreFailed = w0.restoreFailed ∧ w.env = effectiveTz w0 tz ∧ w.libc = effectiveTz w0 tz ∧
  match tz with
  | some _ => old = w0.env ∧ w.heap = w0.heap + (if w0.env.isSome then 1 else 0)
  | none => old = none ∧ w.heap = w0.heap

theorem Mid.call {w0 w : World} {old tz : Option String} (L : Libc) (s : Site) (h : Mid w0 w old tz) :
    Mid w0 (w.call L s).2 old tz := h

/-- `restore_tz` undoes the switch: `Mid` recorded the old TZ value and one more live block exactly when TZ was set, so
env and heap come back; the libc state comes back because it was that of env before (`Consistent`).  The proof takes
both worlds and `Mid` apart to their fields, after which every component of the claim is `rfl`. -/
theorem restoreTz_mid (L : Libc) {w0 w : World} {old tz : Option String} (hc : w0.Consistent) (h : Mid w0 w old tz) :
    ((restoreTz L w old tz.isSome).1 = true ∧ TzUntouched w0 (restoreTz L w old tz.isSome).2)
    ∨ ((restoreTz L w old tz.isSome).1 = false ∧ RestoreFailed L w0 (restoreTz L w old tz.isSome).2) := by
  obtain ⟨env, libc, heap, rf, calls⟩ := w
  obtain ⟨env0, libc0, heap0, rf0, calls0⟩ := w0
  obtain ⟨⟨⟩, ⟨⟩⟩ := hc
  obtain ⟨⟨⟩, ⟨⟩, ⟨⟩, h⟩ := h
  unfold restoreTz
  cases tz with
  | none =>
    obtain ⟨_, ⟨⟩⟩ := h
    exact Or.inl ⟨rfl, rfl, rfl, rfl, rfl⟩
  | some z =>
    obtain ⟨⟨⟩, ⟨⟩⟩ := h
    cases env0 with
    | none => exact Or.inl ⟨rfl, rfl, rfl, rfl, rfl⟩
    | some o =>
      simp only [Option.isSome_some, Bool.not_true, Bool.false_eq_true, ↓reduceIte]
      split
      · rename_i hf; exact Or.inr ⟨rfl, rfl, rfl, _, hf⟩
      · exact Or.inl ⟨rfl, rfl, rfl, rfl, rfl⟩

theorem changeTz_spec {L : Libc} {w : World} {z : String} {ok : Bool} {old : Option String} {w1 : World}
    (h : changeTz L w z = (ok, old, w1)) :
    (ok = true → Mid w w1 old (some z))
    ∧ (ok = false → (∃ s k, L.fails s k = true) ∧ (w.restoreFailed = false → TzUntouched w w1)) := by
  obtain ⟨env, libc, heap, rf, calls⟩ := w
  unfold changeTz at h
  cases env with
  | none =>
    dsimp only at h
    split at h <;> cases h
    · exact ⟨nofun, fun _ => ⟨⟨_, _, ‹_›⟩, fun h => ⟨rfl, rfl, rfl, h⟩⟩⟩
    · exact ⟨fun _ => ⟨rfl, rfl, rfl, rfl, rfl⟩, nofun⟩
  | some s =>
    dsimp only at h
    split at h
    · cases h; exact ⟨nofun, fun _ => ⟨⟨_, _, ‹_›⟩, fun h => ⟨rfl, rfl, rfl, h⟩⟩⟩
    · split at h <;> cases h
      · exact ⟨nofun, fun _ => ⟨⟨_, _, ‹_›⟩, fun h => ⟨rfl, rfl, rfl, h⟩⟩⟩
      · exact ⟨fun _ => ⟨rfl, rfl, rfl, rfl, rfl⟩, nofun⟩

/-- what a call returning `r` (value, world) guarantees: everything is as before, or `restore_tz` failed and the
value is the failure value -/
def TzOutcome {α : Type} (L : Libc) (w0 : World) (r : α × World) (fail : α) : Prop :=
  TzUntouched w0 r.2 ∨ (RestoreFailed L w0 r.2 ∧ r.1 = fail)

theorem TzOutcome.of_untouched {α : Type} {L : Libc} {a b : World} {r : α × World} {x : α} (h1 : TzUntouched a b)
    (h2 : TzOutcome L b r x) : TzOutcome L a r x := by
  rcases h2 with h | ⟨h, hp⟩
  · exact Or.inl (h1.trans h)
  · exact Or.inr ⟨RestoreFailed.of_untouched h1 h, hp⟩

theorem TzOutcome.map {α β : Type} {L : Libc} {a : World} {r : α × World} {x : α} {v : β} {y : β}
    (h : TzOutcome L a r x) (hf : r.1 = x → v = y) : TzOutcome L a (v, r.2) y := by
  rcases h with h | ⟨h, hp⟩
  · exact Or.inl h
  · exact Or.inr ⟨h, hf hp⟩

/-- leaving through `restore_tz` from the state between switch and restore: the one exit of every function that switched TZ -/
theorem leave_tz {α : Type} (L : Libc) {w0 w : World} {old tz : Option String} (hc : w0.Consistent) (hm : Mid w0 w old tz)
    (v fail : α) : TzOutcome L w0 (leave L w old tz.isSome v fail) fail := by
  rw [leave_eq]
  rcases restoreTz_mid L hc hm with ⟨hr, h⟩ | ⟨hr, h⟩
  · exact Or.inl h
  · exact Or.inr ⟨h, by rw [hr]; rfl⟩

theorem leave_val {α : Type} {L : Libc} {w : World} {old : Option String} {g : Bool} {v fail x : α}
    (h : (leave L w old g v fail).1 = x) (hx : x ≠ fail) : v = x := by
  rw [leave_eq] at h
  split at h
  · exact h
  · exact absurd h.symm hx

theorem restoreTz_fails {L : Libc} {w : World} {old : Option String} {g : Bool} (h : (restoreTz L w old g).1 = false) :
    ∃ k, L.fails .setenv k = true := by
  unfold restoreTz at h
  split at h
  · cases h
  · cases old with
    | none => cases h
    | some o =>
      dsimp only at h
      split at h
      · exact ⟨_, ‹_›⟩
      · cases h

theorem clampResult_ne (r : Option Int) (h : clampResult r ≠ -1) : r = some (clampResult r) ∧ TIME_MIN < clampResult r ∧ clampResult r < TIME_MAX := by
  unfold clampResult at h ⊢
  cases r with
  | none => exact absurd rfl h
  | some x =>
    dsimp only at h ⊢
    split at h
    · exact absurd rfl h
    · rename_i hx
      rw [if_neg hx]
      exact ⟨rfl, by omega, by omega⟩

theorem libcMktime_spec {L : Libc} {w : World} {tm : Tm} {r : Option Int} {w' : World} (h : libcMktime L w tm = (r, w')) :
    w'.env = w.env ∧ (∀ {w0 old tz}, Mid w0 w old tz → Mid w0 w' old tz)
    ∧ (∀ x, r = some x → (L.zoneOf w.env).fromLocal tm = some x)
    ∧ (L.fails .mktime (w.calls .mktime + 1) = false → r = (L.zoneOf w.env).fromLocal tm) := by
  unfold libcMktime at h; dsimp only at h
  split at h <;> cases h
  · rename_i hf; exact ⟨rfl, fun hm => hm.call L .mktime, nofun, fun hn => absurd (hf.symm.trans hn) nofun⟩
  · exact ⟨rfl, fun hm => ⟨hm.1, hm.2.1, hm.2.1, hm.2.2.2⟩, fun x hx => hx, fun _ => rfl⟩

theorem vbiMktime_spec {L : Libc} {w : World} {tm : Tm} {r : Int} {w' : World} (h : vbiMktime L w tm = (r, w')) :
    w'.env = w.env ∧ (∀ {w0 old tz}, Mid w0 w old tz → Mid w0 w' old tz)
    ∧ (r ≠ -1 → (L.zoneOf w.env).fromLocal tm = some r) := by
  unfold vbiMktime at h
  cases h
  have hl := libcMktime_spec (L := L) (w := w) (tm := tm) rfl
  exact ⟨hl.1, hl.2.1, fun hr => hl.2.2.1 _ (clampResult_ne _ hr).1⟩

/-- the reference time the conversion works with: `start`, or the clock when `start` is (time_t) -1 -/
def refTime (L : Libc) (t : Int) : Int := if t = -1 then L.now else t

theorem startOrNow_spec {L : Libc} {w : World} {t s : Int} {w1 : World} (h : startOrNow L w t = (s, w1)) :
    w1 = (if t = -1 then (w.call L .time).2 else w)
    ∧ s = if t = -1 ∧ L.fails .time (w.calls .time + 1) = true then -1 else refTime L t := by
  unfold startOrNow at h
  unfold refTime
  by_cases ht : t = -1
  · rw [if_pos ht] at h; cases h
    refine ⟨(if_pos ht).symm, ?_⟩
    show (if L.fails .time (w.calls .time + 1) = true then (-1 : Int) else L.now) = _
    by_cases hf : L.fails .time (w.calls .time + 1) = true <;> simp [ht, hf]
  · rw [if_neg ht] at h; cases h
    exact ⟨(if_neg ht).symm, by simp [ht]⟩

theorem startOrNow_given (L : Libc) (w : World) {t : Int} (ht : t ≠ -1) : startOrNow L w t = (t, w) := by
  unfold startOrNow; rw [if_neg ht]

theorem startOrNow_keeps {L : Libc} {w : World} {t s : Int} {w1 : World} (h : startOrNow L w t = (s, w1))
    {P : World → Prop} (hcall : P w → P (w.call L .time).2) (hw : P w) : P w1 := by
  rw [(startOrNow_spec h).1]; split
  · exact hcall hw
  · exact hw

theorem startOrNow_ref {L : Libc} {w : World} {t s : Int} {w1 : World} (h : startOrNow L w t = (s, w1))
    (hs : s ≠ -1 ∨ L.fails .time (w.calls .time + 1) = false) : s = refTime L t := by
  have e := (startOrNow_spec h).2
  split at e
  · rename_i hc
    rcases hs with hs | hs
    · exact absurd e hs
    · exact absurd (hc.2.symm.trans hs) nofun
  · exact e

theorem startOrNow_neg_one {L : Libc} {w : World} {t s : Int} {w1 : World} (h : startOrNow L w t = (s, w1)) :
    s = -1 ↔ t = -1 ∧ (L.fails .time (w.calls .time + 1) = true ∨ L.now = -1) := by
  rw [(startOrNow_spec h).2]; unfold refTime
  by_cases ht : t = -1 <;> by_cases hf : L.fails .time (w.calls .time + 1) = true <;> simp [ht, hf]

/-- what a (tm or FALSE, old_tz, world) result of `localtime_tz` guarantees -/
def LocaltimeOk (L : Libc) (w0 : World) (t : Int) (tz : Option String) (r : Option Tm × Option String × World) : Prop :=
  (∀ tm, r.1 = some tm → Mid w0 r.2.2 r.2.1 tz ∧ (L.zoneOf (effectiveTz w0 tz)).toLocal (refTime L t) = some tm)
  ∧ (r.1 = none → ∀ {α : Type} (x : α), TzOutcome L w0 (x, r.2.2) x)

theorem localtimeTzRest_spec (L : Libc) (w0 w1 : World) (t : Int) (old tz : Option String) (hc : w0.Consistent)
    (hmid : Mid w0 w1 old tz) : LocaltimeOk L w0 t tz (localtimeTzRest L w1 t old tz.isSome) := by
  have hrest : ∀ w, Mid w0 w old tz → LocaltimeOk L w0 t tz (none, none, (restoreTz L w old tz.isSome).2) :=
    fun w hm => ⟨nofun, fun _ _ x => leave_fail L w old tz.isSome x ▸ leave_tz L hc hm x x⟩
  have hkeep : ∀ s w2, startOrNow L w1 t = (s, w2) → Mid w0 w2 old tz :=
    fun s w2 hs => startOrNow_keeps hs (P := fun w => Mid w0 w old tz) (Mid.call L .time) hmid
  apply localtimeTzRest_cases (P := fun r _ => LocaltimeOk L w0 t tz r)
  case htime => exact fun w2 hs => hrest _ (hkeep _ _ hs)
  case hlocal => exact fun s w2 hs _ _ => hrest _ ((hkeep _ _ hs).call L .localtime)
  case hok =>
    intro s w2 tm hs hne _ ht
    have hm := (hkeep _ _ hs).call L .localtime
    refine ⟨fun tm' h => ?_, nofun⟩
    cases h
    rw [hm.2.2.1, startOrNow_ref hs (Or.inl hne)] at ht
    exact ⟨hm, ht⟩

theorem localtimeTz_spec {L : Libc} {w0 : World} {t : Int} {tz : Option String} {r : Option Tm × Option String × World}
    (hc : w0.Consistent) (h : localtimeTz L w0 t tz = r) : LocaltimeOk L w0 t tz r := by
  subst h
  apply localtimeTz_cases (P := fun r _ => LocaltimeOk L w0 t tz r)
  case hnone => rintro rfl; exact localtimeTzRest_spec L w0 w0 t none none hc ⟨rfl, rfl, hc.1, rfl, rfl⟩
  case hchange =>
    rintro z old w1 rfl hct
    exact ⟨nofun, fun _ _ _ => Or.inl (((changeTz_spec hct).2 rfl).2 hc.2)⟩
  case hrest =>
    rintro z old w1 rfl hct
    exact localtimeTzRest_spec L w0 w1 t old (some z) hc ((changeTz_spec hct).1 rfl)

theorem vbiTimegm_tz {cfg : Cfg} {L : Libc} {w0 : World} {tm : Tm} {r : Int × World} (hc : w0.Consistent)
    (h : vbiTimegm cfg L w0 tm = r) : TzOutcome L w0 r (-1) := by
  subst h
  apply vbiTimegm_cases (P := fun r _ => TzOutcome L w0 r (-1))
  case hlibc => exact fun _ => Or.inl (.refl _ hc.2)
  case hchange => exact fun old w1 _ hct => Or.inl (((changeTz_spec hct).2 rfl).2 hc.2)
  case hmktime =>
    exact fun old w1 r w2 _ hct hm => leave_tz L hc ((libcMktime_spec hm).2.1 ((changeTz_spec hct).1 rfl)) _ _

theorem ltoFromTm_tz {cfg : Cfg} {L : Libc} {w0 : World} {tm : Tm} {pil : Nat} {east : Int} {r : LtoRes × World}
    (hc : w0.Consistent) (h : ltoFromTm cfg L w0 tm pil east = r) : TzOutcome L w0 r .fail := by
  subst h
  have hrefl := TzUntouched.refl w0 hc.2
  apply ltoFromTm_cases (P := fun r => TzOutcome L w0 r .fail)
  case hyear => exact fun _ => Or.inl hrefl
  case hleap => exact fun _ _ _ => Or.inl hrefl
  case htimegm => exact fun _ _ _ _ ht => (vbiTimegm_tz hc ht).map fun _ => rfl
  case hguard => exact fun _ _ _ _ _ ht hr _ => (vbiTimegm_tz hc ht).map fun h => absurd h hr
  case hok => exact fun _ _ _ _ _ ht hr _ => (vbiTimegm_tz hc ht).map fun h => absurd h hr

theorem validPilLtoToTime_tz {cfg : Cfg} {L : Libc} {w0 : World} {pil : Nat} {start east : Int} {r : LtoRes × World}
    (hc : w0.Consistent) (h : validPilLtoToTime cfg L w0 pil start east = r) : TzOutcome L w0 r .fail := by
  subst h
  have hkeep : ∀ s w1, startOrNow L w0 start = (s, w1) → TzUntouched w0 w1 :=
    fun s w1 hs => startOrNow_keeps hs (TzUntouched.call L .time) (.refl _ hc.2)
  apply validPilLtoToTime_cases (P := fun r _ => TzOutcome L w0 r .fail)
  case htime => exact fun w1 hs => Or.inl (hkeep _ _ hs)
  case hguard => exact fun s w1 hs _ _ => Or.inl (hkeep _ _ hs)
  case hgmtime => exact fun s w1 hs _ _ _ => Or.inl ((hkeep _ _ hs).call L .gmtime)
  case hconv =>
    intro s w1 tm0 hs _ _ _ _
    have hu := (hkeep _ _ hs).call L .gmtime
    exact .of_untouched hu (ltoFromTm_tz (hu.consistent hc) rfl)

theorem toTimeFromTm_tz {L : Libc} {w0 w : World} {old tz : Option String} {tm : Tm} {pil : Nat} {r : Int × World}
    (hc : w0.Consistent) (hm : Mid w0 w old tz) (h : toTimeFromTm L w tm old tz.isSome pil = r) : TzOutcome L w0 r (-1) := by
  subst h
  apply toTimeFromTm_cases (P := fun r => TzOutcome L w0 r (-1))
  case hyear => exact fun _ => leave_tz L hc hm _ _
  case hleap => exact fun _ _ _ => leave_tz L hc hm _ _
  case hmktime => exact fun _ _ _ _ _ hmk => leave_tz L hc ((vbiMktime_spec hmk).2.1 hm) _ _

theorem winFromTm_tz {L : Libc} {w0 w : World} {old tz : Option String} {tm : Tm} {pil : Nat}
    {r : Option (Int × Int) × World} (hc : w0.Consistent) (hm : Mid w0 w old tz)
    (h : winFromTm L w tm old tz.isSome pil = r) : TzOutcome L w0 r none := by
  subst h
  apply winFromTm_cases (P := fun r => TzOutcome L w0 r none)
  case hyear => exact fun _ => leave_tz L hc hm _ _
  case hleap => exact fun _ _ _ => leave_tz L hc hm _ _
  case hstart => exact fun _ _ _ _ hmk => leave_tz L hc ((vbiMktime_spec hmk).2.1 hm) _ _
  case hstop =>
    exact fun _ _ _ _ _ _ _ hb _ he => leave_tz L hc ((vbiMktime_spec he).2.1 ((vbiMktime_spec hb).2.1 hm)) _ _

theorem ptyUtcValidityWindow_tz (L : Libc) (w0 : World) (t : Int) (hc : w0.Consistent) :
    TzUntouched w0 (ptyUtcValidityWindow L w0 t).2 := by
  unfold ptyUtcValidityWindow
  dsimp only
  have h := (TzUntouched.refl w0 hc.2).call L .gmtime
  split
  · exact h
  · split <;> exact h

theorem vbiPtyValidityWindow_tz (L : Libc) (w0 : World) (t : Int) (tz : Option String) (hc : w0.Consistent) :
    TzOutcome L w0 (vbiPtyValidityWindow L w0 t tz) none := by
  apply vbiPtyValidityWindow_cases (P := fun r _ => TzOutcome L w0 r none)
  case hutc => exact fun _ => Or.inl (ptyUtcValidityWindow_tz L w0 t hc)
  case hlocal => exact fun old w1 _ hl => (localtimeTz_spec hc hl).2 rfl none
  case hpty =>
    exact fun tm old w1 e w2 _ hl hmk =>
      leave_tz L hc ((vbiMktime_spec hmk).2.1 ((localtimeTz_spec hc hl).1 tm rfl).1) _ _

theorem validPilLtoValidityWindow_tz (cfg : Cfg) (L : Libc) (w0 : World) (pil : Nat) (start east : Int) (hc : w0.Consistent) :
    TzOutcome L w0 (validPilLtoValidityWindow cfg L w0 pil start east) none := by
  apply validPilLtoValidityWindow_cases (P := fun r => TzOutcome L w0 r none)
  case hinvalid => exact fun _ hv => (validPilLtoToTime_tz hc hv).map nofun
  case hfail => exact fun _ hv => (validPilLtoToTime_tz hc hv).map fun _ => rfl
  case hrefuse => exact fun _ _ hv _ => (validPilLtoToTime_tz hc hv).map fun _ => rfl
  case hearly => exact fun _ _ hv _ _ _ _ => (validPilLtoToTime_tz hc hv).map nofun
  case hday => exact fun _ _ hv _ _ _ => (validPilLtoToTime_tz hc hv).map nofun

theorem validPilValidityWindow_tz (cfg : Cfg) (L : Libc) (w0 : World) (pil : Nat) (start : Int) (tz : Option String)
    (hc : w0.Consistent) :
    TzOutcome L w0 (validPilValidityWindow cfg L w0 pil start tz) none := by
  apply validPilValidityWindow_cases (P := fun r => TzOutcome L w0 r none)
  case hutc => exact fun _ => validPilLtoValidityWindow_tz cfg L w0 pil start 0 hc
  case hlocal => exact fun old w1 _ hl => (localtimeTz_spec hc hl).2 rfl none
  case hwin => exact fun tm old w1 _ hl => winFromTm_tz hc ((localtimeTz_spec hc hl).1 tm rfl).1 rfl

end Zvbi.Pdc
