import ZvbiModel.Pdc.LemmasVal
/-!
# Completeness direction: without libc failures every stage of the offset conversion succeeds
-/
namespace Zvbi.Pdc

/-- libc never fails (no ENOMEM, the clock works, conversions succeed when representable) -/
def NoFailures (L : Libc) : Prop := ∀ s k, L.fails s k = false

theorem leave_ok {α : Type} {L : Libc} (hnf : NoFailures L) (w : World) (old : Option String) (g : Bool) (v fail : α) :
    (leave L w old g v fail).1 = v := by
  rw [leave_eq]
  cases h : (restoreTz L w old g).1
  · obtain ⟨k, hk⟩ := restoreTz_fails h
    rw [hnf] at hk; cases hk
  · rfl

theorem clampResult_some (r : Int) (h0 : TIME_MIN < r) (h1 : r < TIME_MAX) : clampResult (some r) = r := by
  unfold clampResult; dsimp only; rw [if_neg]; omega

theorem vbiTimegm_fwd (cfg : Cfg) {L : Libc} (hnf : NoFailures L) (hutc : UtcIsCalendar cfg L) (w : World) (tm : Tm) (r : Int)
    (h : utcZone.fromLocal tm = some r) (h0 : TIME_MIN < r) (h1 : r < TIME_MAX) : (vbiTimegm cfg L w tm).1 = r := by
  apply vbiTimegm_cases (P := fun q _ => q.1 = r)
  case hlibc => intro _; show clampResult _ = r; rw [h]; exact clampResult_some r h0 h1
  case hchange =>
    intro old w1 _ hct
    obtain ⟨⟨s, k, hf⟩, _⟩ := (changeTz_spec hct).2 rfl
    rw [hnf] at hf; cases hf
  case hmktime =>
    intro old w1 x w2 hcfg hct hm
    have henv : w1.env = some "UTC" := ((changeTz_spec hct).1 rfl).2.1
    rw [leave_ok hnf, (libcMktime_spec hm).2.2.2 (hnf _ _), henv, hutc.resolve_left (by simp [hcfg]), h]
    exact clampResult_some r h0 h1

theorem ltoFromTm_fwd (cfg : Cfg) {L : Libc} (w : World) (tm0 : Tm) (pil : Nat) (east : Int)
    (hout : cfg.epochOut = false) (hnf : NoFailures L) (hutc : UtcIsCalendar cfg L) (hv : PilValid pil)
    (hm0 : 0 ≤ tm0.mon) (hm1 : tm0.mon ≤ 11) (hy0 : 1 ≤ tm0.year + 1900) (hy1 : tm0.year + 1901 ≤ INT_MAX)
    (he0 : INT_MIN ≤ east) (he1 : east ≤ INT_MAX) {tm1 : Tm} (h1 : tmMonMdayFromPil tm0 pil = some tm1) :
    (ltoFromTm cfg L w tm0 pil east).1 =
      if pilMonth pil = 2 ∧ pilDay pil = 29 ∧ ¬ isLeap (tm1.year + 1900) then .invalidPil
      else .ok (secsFromTm { tm1 with hour := (pilHour pil : Int), min := (pilMinute pil : Int), sec := 0 } - east) := by
  have hI : INT_MAX = 2147483647 := rfl
  have hI' : INT_MIN = -2147483648 := rfl
  obtain ⟨tm1', e1, hy, hbad, hX⟩ := pilTm_total tm0 pil hv hm0 hm1 hy0 (by omega)
  rw [h1] at e1; cases e1
  have hbad' : tmLeapDayCheck tm1 = true ↔ ¬ (pilMonth pil = 2 ∧ pilDay pil = 29 ∧ ¬ isLeap (tm1.year + 1900)) := by
    rw [← hbad, Bool.not_eq_false]
  have key : ∀ tm1' r w1, tmMonMdayFromPil tm0 pil = some tm1' → tmLeapDayCheck tm1' = true →
      vbiTimegm cfg L w { tm1' with hour := (pilHour pil : Int), min := (pilMinute pil : Int), sec := 0 } = (r, w1) →
      tm1' = tm1 ∧ r = secsFromTm { tm1 with hour := (pilHour pil : Int), min := (pilMinute pil : Int), sec := 0 }
      ∧ guardOut cfg r east = false := by
    intro tm1' r w1 e1 hl ht
    rw [h1] at e1; cases e1
    obtain ⟨v1, _⟩ := hX hl tm1.isdst
    have hfrom := utcZone_fromLocal_some _ v1 (by show INT_MIN ≤ tm1.year; omega) (by show tm1.year ≤ INT_MAX; omega)
    have hb := secsFromTm_bound _ v1 (by show INT_MIN ≤ tm1.year; omega) (by show tm1.year ≤ INT_MAX; omega)
    have htg := vbiTimegm_fwd cfg hnf hutc w _ _ hfrom (by unfold TIME_MIN; omega) (by unfold TIME_MAX; omega)
    rw [ht] at htg
    cases htg
    exact ⟨rfl, rfl, guardOut_false cfg _ east hout hb.1 hb.2 he0 he1⟩
  apply ltoFromTm_cases (P := fun q => q.1 = _)
  case hyear => intro hn; rw [h1] at hn; cases hn
  case hleap =>
    intro tm1' e1 hl
    rw [h1] at e1; cases e1
    exact (if_pos (hbad.1 hl)).symm
  case htimegm =>
    intro tm1' w1 e1 hl ht
    exact absurd (key _ _ _ e1 hl ht).2.1 (secsFromTm_sec0_ne _ rfl).symm
  case hguard =>
    intro tm1' r w1 e1 hl ht _ hg
    rw [(key _ _ _ e1 hl ht).2.2] at hg; cases hg
  case hok =>
    intro tm1' r w1 e1 hl ht _ _
    obtain ⟨rfl, rfl, _⟩ := key _ _ _ e1 hl ht
    exact (if_neg (hbad'.1 hl)).symm

theorem validPilLtoToTime_fwd (cfg : Cfg) {L : Libc} (w : World) (pil : Nat) (start east : Int)
    (hin : cfg.epochIn = false) (hout : cfg.epochOut = false) (hnf : NoFailures L) (hutc : UtcIsCalendar cfg L)
    (hv : PilValid pil) (href : refTime L start ≠ -1) (he0 : INT_MIN ≤ east) (he1 : east ≤ INT_MAX)
    (hy0 : 1 ≤ (tmFromSecs (refTime L start + east)).year + 1900)
    (hy1 : (tmFromSecs (refTime L start + east)).year + 1901 ≤ INT_MAX) {tm1 : Tm}
    (h1 : tmMonMdayFromPil (tmFromSecs (refTime L start + east)) pil = some tm1) :
    (validPilLtoToTime cfg L w pil start east).1 =
      if pilMonth pil = 2 ∧ pilDay pil = 29 ∧ ¬ isLeap (tm1.year + 1900) then .invalidPil
      else .ok (secsFromTm { tm1 with hour := (pilHour pil : Int), min := (pilMinute pil : Int), sec := 0 } - east) := by
  have hI : INT_MAX = 2147483647 := rfl
  have hI' : INT_MIN = -2147483648 := rfl
  obtain ⟨hsec, hval⟩ := secsFromTm_tmFromSecs (refTime L start + east)
  have hb := secsFromTm_bound _ hval (by omega) (by omega)
  rw [hsec] at hb
  have hloc := utcZone_toLocal_some (refTime L start + east) ((fitsInt_iff _).2 ⟨by omega, by omega⟩)
  have hs : ∀ {s w1}, startOrNow L w start = (s, w1) → s = refTime L start :=
    fun h => startOrNow_ref h (Or.inr (hnf _ _))
  apply validPilLtoToTime_cases (P := fun q _ => q.1 = _)
  case htime => exact fun w1 h => absurd (hs h).symm href
  case hguard =>
    intro s w1 h _ hg
    cases hs h
    rw [guardIn_false cfg _ east hin hb.1 hb.2] at hg; cases hg
  case hgmtime =>
    intro s w1 h _ _ hf
    cases hs h
    rcases hf with hf | hf
    · rw [call_fst, hnf] at hf; cases hf
    · rw [hloc] at hf; cases hf
  case hconv =>
    intro s w1 tm0 h _ _ _ ht
    cases hs h
    rw [hloc] at ht; cases ht
    exact ltoFromTm_fwd cfg _ _ pil east hout hnf hutc hv hval.1 hval.2.1 hy0 hy1 he0 he1 h1

end Zvbi.Pdc
