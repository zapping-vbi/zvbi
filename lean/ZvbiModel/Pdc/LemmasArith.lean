import ZvbiModel.Pdc.Spec
import ZvbiModel.Pdc.LemmasCal
/-!
# Arithmetic of zvbi's PIL conversion: validity, nearest-year rule, leap-day check, the guards
-/
namespace Zvbi.Pdc

theorem pilMonth_lt (pil : Nat) : pilMonth pil < 16 := by
  unfold pilMonth; exact Nat.lt_of_le_of_lt Nat.and_le_right (by decide)
theorem pilDay_lt (pil : Nat) : pilDay pil < 32 := by
  unfold pilDay; exact Nat.lt_of_le_of_lt Nat.and_le_right (by decide)
theorem pilHour_lt (pil : Nat) : pilHour pil < 32 := by
  unfold pilHour; exact Nat.lt_of_le_of_lt Nat.and_le_right (by decide)
theorem pilMinute_lt (pil : Nat) : pilMinute pil < 64 := by
  unfold pilMinute; exact Nat.lt_of_le_of_lt Nat.and_le_right (by decide)

/-- `month_days[m-1]` (from the C source) is the length of month m in a leap year -/
theorem monthDaysOf_eq (m : Nat) (h1 : 1 ≤ m) (h12 : m ≤ 12) : monthDaysOf m = some (daysInMonth True (m : Int)).toNat := by
  have : m = 1 ∨ m = 2 ∨ m = 3 ∨ m = 4 ∨ m = 5 ∨ m = 6 ∨ m = 7 ∨ m = 8 ∨ m = 9 ∨ m = 10 ∨ m = 11 ∨ m = 12 := by omega
  rcases this with rfl | rfl | rfl | rfl | rfl | rfl | rfl | rfl | rfl | rfl | rfl | rfl <;> decide

theorem monthDaysOf_none (m : Nat) (h : ¬ (1 ≤ m ∧ m ≤ 12)) : monthDaysOf m = none := by
  unfold monthDaysOf; rw [if_neg h]

/-- `vbi_pil_is_valid_date` decides the EN 300 231 notion of a real date and time -/
theorem pilIsValidDate_iff (pil : Nat) : pilIsValidDate pil = true ↔ PilValid pil := by
  unfold pilIsValidDate PilValid
  by_cases hm : 1 ≤ pilMonth pil ∧ pilMonth pil ≤ 12
  · rw [monthDaysOf_eq _ hm.1 hm.2]
    have := daysInMonth_range True (pilMonth pil : Int)
    simp only [Bool.and_eq_true, decide_eq_true_eq]
    constructor
    · rintro ⟨⟨⟨h1, h2⟩, h3⟩, h4⟩; exact ⟨hm.1, hm.2, h1, by omega, h3, h4⟩
    · rintro ⟨_, _, h1, h2, h3, h4⟩; exact ⟨⟨⟨h1, by omega⟩, h3⟩, h4⟩
  · rw [monthDaysOf_none _ hm]
    constructor
    · intro h; cases h
    · rintro ⟨h1, h2, _⟩; exact absurd ⟨h1, h2⟩ hm

/-- the nearest-year rule of `tm_mon_mday_from_pil`: the year moves by `δ` = -1, 0 or 1 so that the PIL's month lands within
[-6, +5] months of the reference month; FALSE only if that year does not fit `int` -/
theorem tmMonMday_eq (tm tm' : Tm) (pil : Nat) (hm0 : 0 ≤ tm.mon) (hm1 : tm.mon ≤ 11)
    (hp0 : 1 ≤ pilMonth pil) (hp1 : pilMonth pil ≤ 12) (h : tmMonMdayFromPil tm pil = some tm') :
    ∃ δ : Int, tm' = { tm with year := tm.year + δ, mon := (pilMonth pil : Int) - 1, mday := pilDay pil }
      ∧ -1 ≤ δ ∧ δ ≤ 1 ∧ -6 ≤ 12 * δ + (pilMonth pil - 1) - tm.mon ∧ 12 * δ + (pilMonth pil - 1) - tm.mon ≤ 5
      ∧ (δ = -1 → INT_MIN < tm.year) ∧ (δ = 1 → tm.year < INT_MAX) := by
  unfold tmMonMdayFromPil at h
  dsimp only at h
  -- no unsigned operation of the C code wraps for these months
  rw [show toU32 tm.mon = tm.mon.toNat by unfold toU32; omega,
    show (pilMonth pil + 4294967295) % 4294967296 = pilMonth pil - 1 by omega,
    show (tm.mon.toNat + 6) % 4294967296 = tm.mon.toNat + 6 by omega,
    show (pilMonth pil - 1 + 6) % 4294967296 = pilMonth pil - 1 + 6 by omega] at h
  split at h
  · split at h
    · cases h
    · cases h; exact ⟨-1, by congr 1; omega, by omega⟩
  · split at h
    · split at h
      · cases h
      · cases h; exact ⟨1, by congr 1; omega, by omega⟩
    · cases h; exact ⟨0, by congr 1 <;> omega, by omega⟩

theorem tmMonMday_congr (tm : Tm) (p q : Nat) (hm : pilMonth p = pilMonth q) (hd : pilDay p = pilDay q) :
    tmMonMdayFromPil tm p = tmMonMdayFromPil tm q := by
  unfold tmMonMdayFromPil; rw [hm, hd]

theorem nearest_year_unique (a b y : Int) (mon : Int) (h : -6 ≤ 12 * a + mon - b ∧ 12 * a + mon - b ≤ 5) (hy : y ≠ a) :
    ¬ (-6 ≤ 12 * y + mon - b ∧ 12 * y + mon - b ≤ 5) := by omega

theorem isLeapYearU_iff (y : Int) (h0 : 0 ≤ y) (h1 : y < 4294967296) : isLeapYearU (toU32 y) = true ↔ isLeap y := by
  unfold isLeapYearU isLeap toU32
  have e : ((y % 4294967296).toNat : Int) = y := by omega
  generalize (y % 4294967296).toNat = n at e
  subst e
  split
  · simp; omega
  · split
    · simp; omega
    · simp; omega

theorem tmLeapDayCheck_iff (tm : Tm) (hy0 : 0 ≤ tm.year + 1900) (hy1 : tm.year + 1900 < 4294967296) :
    tmLeapDayCheck tm = true ↔ (tm.mon = 1 → 28 < tm.mday → isLeap (tm.year + 1900)) := by
  unfold tmLeapDayCheck
  simp only [Bool.or_eq_true, decide_eq_true_eq, ne_eq, isLeapYearU_iff _ hy0 hy1]
  constructor
  · rintro ((h | h) | h) hm hd
    · exact absurd hm h
    · omega
    · exact h
  · intro h
    by_cases hm : tm.mon = 1
    · by_cases hd : tm.mday ≤ 28
      · exact Or.inl (Or.inr hd)
      · exact Or.inr (h hm (by omega))
    · exact Or.inl (Or.inl hm)

theorem leapCheck_valid (tm : Tm) (hd1 : tm.mday ≤ daysInMonth True (tm.mon + 1)) (hy0 : 0 ≤ tm.year + 1900)
    (hy1 : tm.year + 1900 < 4294967296) (h : tmLeapDayCheck tm = true) :
    tm.mday ≤ daysInMonth (isLeap (tm.year + 1900)) (tm.mon + 1) := by
  have hl := (tmLeapDayCheck_iff tm hy0 hy1).1 h
  unfold daysInMonth at hd1 ⊢
  by_cases hf : tm.mon + 1 = 2
  · rw [if_pos hf] at hd1 ⊢
    by_cases hleap : isLeap (tm.year + 1900)
    · rw [if_pos hleap]; exact hd1
    · rw [if_neg hleap]
      have := mt (hl (by omega)) hleap
      omega
  · rw [if_neg hf] at hd1 ⊢; exact hd1

theorem tmMonMday_some (tm : Tm) (pil : Nat) (hy0 : INT_MIN < tm.year)
    (hy1 : tm.year < INT_MAX) : ∃ tm1, tmMonMdayFromPil tm pil = some tm1 := by
  unfold tmMonMdayFromPil
  dsimp only
  split
  · rw [if_neg (by omega)]; exact ⟨_, rfl⟩
  · split
    · rw [if_neg (by omega)]; exact ⟨_, rfl⟩
    · exact ⟨_, rfl⟩

/-- the pure content of the conversion: for a valid PIL and a reference date in range, the nearest-year rule finds a year
(at most one away), the leap-day check refuses exactly 29 February of a non-leap year, and what passes is a real date that shows
the PIL within [-6, +5] months of the reference.  The two bounds on the reference year keep `tm_year + 1900` of the year
before non-negative (the leap-year test is unsigned) and `tm_year` of the year after within `int`. -/
theorem pilTm_total (tm0 : Tm) (pil : Nat) (hv : PilValid pil) (hm0 : 0 ≤ tm0.mon) (hm1 : tm0.mon ≤ 11)
    (hy0 : 1 ≤ tm0.year + 1900) (hy1 : tm0.year + 1901 ≤ INT_MAX) :
    ∃ tm1, tmMonMdayFromPil tm0 pil = some tm1 ∧ (tm0.year - 1 ≤ tm1.year ∧ tm1.year ≤ tm0.year + 1)
      ∧ (tmLeapDayCheck tm1 = false ↔ pilMonth pil = 2 ∧ pilDay pil = 29 ∧ ¬ isLeap (tm1.year + 1900))
      ∧ (tmLeapDayCheck tm1 = true → ∀ isdst : Int,
          let tmX : Tm := { tm1 with hour := (pilHour pil : Int), min := (pilMinute pil : Int), sec := 0, isdst := isdst }
          tmX.validCivil ∧ tmX.hasPil pil
          ∧ -6 ≤ tmX.monthIndex - tm0.monthIndex ∧ tmX.monthIndex - tm0.monthIndex ≤ 5
          ∧ (pilMonth pil = 2 → pilDay pil = 29 → isLeap (tmX.year + 1900))) := by
  obtain ⟨hp0, hp1, hd0, hd1, hh, hmi⟩ := hv
  have hI : INT_MAX = 2147483647 := rfl
  have hI' : INT_MIN = -2147483648 := rfl
  obtain ⟨tm1, h1⟩ := tmMonMday_some tm0 pil (by omega) (by omega)
  obtain ⟨δ, rfl, hδ⟩ := tmMonMday_eq tm0 _ pil hm0 hm1 hp0 hp1 h1
  have hiff := tmLeapDayCheck_iff { tm0 with year := tm0.year + δ, mon := (pilMonth pil : Int) - 1, mday := pilDay pil }
    (by dsimp only; omega) (by dsimp only; omega)
  dsimp only at hiff
  refine ⟨_, h1, ⟨by dsimp only; omega, by dsimp only; omega⟩, ?_, fun h2 isdst => ?_⟩
  · have hd29 : (pilMonth pil : Int) = 2 → (pilDay pil : Int) ≤ 29 := by
      intro hm
      rw [hm] at hd1
      simp [daysInMonth] at hd1
      omega
    rw [← Bool.not_eq_true, hiff, Classical.not_imp, Classical.not_imp]
    constructor
    · rintro ⟨a, b, c⟩; exact ⟨by omega, by have := hd29 (by omega); omega, c⟩
    · rintro ⟨a, b, c⟩; exact ⟨by omega, by omega, c⟩
  · have hvalid := leapCheck_valid _ (by dsimp only; rw [show (pilMonth pil : Int) - 1 + 1 = pilMonth pil by omega]; exact hd1)
      (by dsimp only; omega) (by dsimp only; omega) h2
    intro tmX
    refine ⟨?_, ⟨by dsimp only [tmX]; omega, rfl, rfl, rfl, rfl⟩, ?_, ?_, fun hm hd => hiff.1 h2 (by omega) (by omega)⟩
    · unfold Tm.validCivil
      dsimp only [tmX] at hvalid ⊢
      omega
    · unfold Tm.monthIndex; dsimp only [tmX]; omega
    · unfold Tm.monthIndex; dsimp only [tmX]; omega

/-! times within +-7*10^16 s (every `int` year: `secsFromTm_bound` in LemmasZone) pass the guards written against TIME_MIN / TIME_MAX -/

theorem guardOut_false (cfg : Cfg) (r east : Int) (hout : cfg.epochOut = false) (hr0 : -(7 * 10 ^ 16) ≤ r) (hr1 : r ≤ 7 * 10 ^ 16)
    (he0 : INT_MIN ≤ east) (he1 : east ≤ INT_MAX) : guardOut cfg r east = false := by
  unfold guardOut INT_MIN INT_MAX TIME_MIN TIME_MAX at *
  rw [hout]
  split <;> simp <;> omega

theorem guardIn_false (cfg : Cfg) (s east : Int) (hin : cfg.epochIn = false) (hr0 : -(7 * 10 ^ 16) ≤ s + east)
    (hr1 : s + east ≤ 7 * 10 ^ 16) : guardIn cfg s east = false := by
  unfold guardIn TIME_MIN TIME_MAX at *
  rw [hin]
  split <;> simp <;> omega

end Zvbi.Pdc
