import ZvbiModel.Pdc.LemmasVal
/-!
# Validity windows: the offset path (`vbi_pil_lto_validity_window`) and the two mktime calls of the zone path
-/
namespace Zvbi.Pdc

/-- `pil & VBI_PIL (15, 31, 0, 0)` keeps month and day and clears hour and minute -/
theorem pil_mask_fields (pil : Nat) :
    pilMonth (pil &&& mkPil 15 31 0 0) = pilMonth pil ∧ pilDay (pil &&& mkPil 15 31 0 0) = pilDay pil
    ∧ pilHour (pil &&& mkPil 15 31 0 0) = 0 ∧ pilMinute (pil &&& mkPil 15 31 0 0) = 0 := by
  have hM : mkPil 15 31 0 0 = 1046528 := by decide
  rw [hM]
  unfold pilMonth pilDay pilHour pilMinute
  refine ⟨?_, ?_, ?_, ?_⟩
  · rw [Nat.shiftRight_and_distrib, Nat.and_assoc]; rfl
  · rw [Nat.shiftRight_and_distrib, Nat.and_assoc]; rfl
  · rw [Nat.shiftRight_and_distrib, Nat.and_assoc]
    have : (1046528 >>> 6 &&& 31 : Nat) = 0 := by decide
    rw [this, Nat.and_zero]
  · rw [Nat.and_assoc]
    have : (1046528 &&& 63 : Nat) = 0 := by decide
    rw [this, Nat.and_zero]

theorem classify_date (pil : Nat) (h : classifyPil pil = .date) :
    1 ≤ pilMonth pil ∧ pilMonth pil ≤ 12 ∧ 1 ≤ pilDay pil ∧ (pilDay pil : Int) ≤ daysInMonth True (pilMonth pil) := by
  unfold classifyPil at h
  dsimp only at h
  by_cases h0 : pilMonth pil = 0
  · rw [if_pos h0] at h; cases h
  rw [if_neg h0] at h
  by_cases h12 : pilMonth pil ≤ 12
  · rw [if_pos h12, monthDaysOf_eq _ (by omega) h12] at h
    dsimp only at h
    have := daysInMonth_range True (pilMonth pil : Int)
    split at h
    · rename_i hd; exact ⟨by omega, h12, hd.1, by omega⟩
    · cases h
  · rw [if_neg h12] at h
    split at h
    · cases h
    · split at h
      · cases h
      · split at h <;> cases h

theorem PilValid_mask (pil : Nat) (h : classifyPil pil = .date) : PilValid (pil &&& mkPil 15 31 0 0) := by
  obtain ⟨m, d, hh, mi⟩ := pil_mask_fields pil
  obtain ⟨h1, h2, h3, h4⟩ := classify_date pil h
  unfold PilValid; rw [m, d, hh, mi]
  exact ⟨h1, h2, h3, h4, by decide, by decide⟩

theorem vbiPilLtoValidityWindow_date {cfg : Cfg} {L : Libc} {w : World} {pil : Nat} {start east : Int}
    (hcl : classifyPil pil = .date) :
    vbiPilLtoValidityWindow cfg L w pil start east = validPilLtoValidityWindow cfg L w pil start east :=
  vbiPilLtoValidityWindow_cases cfg L w pil start east (P := fun r => r = _) (hdate := fun _ => rfl)
    (hunallocated := fun h => by rw [hcl] at h; cases h) (hindefinite := fun h => by rw [hcl] at h; cases h)
    (hnspv := fun h => by rw [hcl] at h; cases h)

theorem vbiPilValidityWindow_date {cfg : Cfg} {L : Libc} {w : World} {pil : Nat} {start : Int} {tz : Option String}
    (hcl : classifyPil pil = .date) :
    vbiPilValidityWindow cfg L w pil start tz = validPilValidityWindow cfg L w pil start tz :=
  vbiPilValidityWindow_cases cfg L w pil start tz (P := fun r => r = _) (hdate := fun _ => rfl)
    (hunallocated := fun h => by rw [hcl] at h; cases h) (hindefinite := fun h => by rw [hcl] at h; cases h)
    (hnspv := fun h => by rw [hcl] at h; cases h)

theorem vbiPilLtoValidityWindow_val (cfg : Cfg) (L : Libc) (w : World) (pil : Nat) (start east b e : Int)
    (hcl : classifyPil pil = .date)
    (h : (vbiPilLtoValidityWindow cfg L w pil start east).1 = some (b, e)) :
    ((validPilLtoToTime cfg L w (pil &&& mkPil 15 31 0 0) start east).1 = .invalidPil ∧ b = TIME_MIN ∧ e = TIME_MAX)
    ∨ ∃ t, (validPilLtoToTime cfg L w (pil &&& mkPil 15 31 0 0) start east).1 = .ok t
        ∧ b = t - (if pilHour pil < 4 then 4 * 60 * 60 else 0) ∧ e = t + 28 * 60 * 60 ∧ t ≠ -1 := by
  rw [vbiPilLtoValidityWindow_date hcl] at h
  revert h
  refine validPilLtoValidityWindow_cases cfg L w pil start east (P := fun q => q.1 = some (b, e) → _)
    (hfail := fun _ _ => nofun) (hrefuse := fun _ _ _ _ => nofun) ?hinvalid ?hearly ?hday
  case hinvalid => intro w1 hv h; cases h; exact Or.inl ⟨by rw [hv], rfl, rfl⟩
  case hearly =>
    intro t w1 hv h1 _ h4 _ h; cases h
    exact Or.inr ⟨_, by rw [hv], by rw [if_pos h4], rfl, h1⟩
  case hday =>
    intro t w1 hv h1 _ h4 h; cases h
    exact Or.inr ⟨_, by rw [hv], by rw [if_neg h4]; omega, rfl, h1⟩

theorem winFromTm_val (L : Libc) (w : World) (tm : Tm) (old : Option String) (tzGiven : Bool) (pil : Nat) (b e : Int)
    (h : (winFromTm L w tm old tzGiven pil).1 = some (b, e)) :
    ∃ tm1, tmMonMdayFromPil tm pil = some tm1 ∧
      ((tmLeapDayCheck tm1 = false ∧ b = TIME_MIN ∧ e = TIME_MAX)
       ∨ (tmLeapDayCheck tm1 = true
          ∧ (L.zoneOf w.env).fromLocal (if pilHour pil < 4
                then { tm1 with mday := tm1.mday - 1, hour := 20, min := 0, sec := 0, isdst := -1 }
                else { tm1 with hour := 0, min := 0, sec := 0, isdst := -1 }) = some b
          ∧ (L.zoneOf w.env).fromLocal { tm1 with mday := tm1.mday + 1, hour := 4, min := 0, sec := 0, isdst := -1 } = some e)) := by
  revert h
  refine winFromTm_cases L w tm old tzGiven pil (P := fun q => q.1 = some (b, e) → _) ?hyear ?hleap ?hstart ?hstop
  case hyear => intro _ h; rw [leave_fail] at h; cases h
  case hstart => intro _ _ _ _ _ h; rw [leave_fail] at h; cases h
  case hleap =>
    intro tm1 h1 hl h
    cases leave_val h nofun
    exact ⟨tm1, h1, Or.inl ⟨hl, rfl, rfl⟩⟩
  case hstop =>
    intro tm1 b' w1 e' w2 h1 hl hb hne he h
    by_cases hs : e' = -1
    · rw [if_pos hs, leave_fail] at h; cases h
    · rw [if_neg hs] at h
      cases leave_val h nofun
      have vB := (vbiMktime_spec he).2.2 hs
      rw [(vbiMktime_spec hb).1] at vB
      exact ⟨tm1, h1, Or.inr ⟨hl, (vbiMktime_spec hb).2.2 hne, vB⟩⟩

theorem validPilValidityWindow_val (cfg : Cfg) (L : Libc) (w : World) (pil : Nat) (start : Int) (tz : Option String) (b e : Int)
    (hc : w.Consistent) (htz : tz ≠ some "UTC") (h : (validPilValidityWindow cfg L w pil start tz).1 = some (b, e)) :
    (b = TIME_MIN ∧ e = TIME_MAX)
    ∨ ∃ tm1 : Tm, (L.zoneOf (effectiveTz w tz)).fromLocal (if pilHour pil < 4
            then { tm1 with mday := tm1.mday - 1, hour := 20, min := 0, sec := 0, isdst := -1 }
            else { tm1 with hour := 0, min := 0, sec := 0, isdst := -1 }) = some b
        ∧ (L.zoneOf (effectiveTz w tz)).fromLocal { tm1 with mday := tm1.mday + 1, hour := 4, min := 0, sec := 0, isdst := -1 }
            = some e := by
  revert h
  refine validPilValidityWindow_cases cfg L w pil start tz (P := fun q => q.1 = some (b, e) → _)
    (hutc := fun hu => absurd hu htz) (hlocal := fun _ _ _ _ => nofun) (hwin := ?_)
  intro tm old w1 _ hl h
  obtain ⟨tm1, _, ⟨_, hb, he⟩ | ⟨_, hb, he⟩⟩ := winFromTm_val L w1 tm old tz.isSome pil b e h
  · exact Or.inl ⟨hb, he⟩
  · rw [((localtimeTz_spec hc hl).1 tm rfl).1.2.1] at hb he
    exact Or.inr ⟨tm1, hb, he⟩

end Zvbi.Pdc
