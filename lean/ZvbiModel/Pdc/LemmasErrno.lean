import ZvbiModel.Pdc.Errno
import ZvbiModel.Pdc.LemmasVal
/-!
# The value model is the error-kind model of Pdc/Errno.lean with the kind forgotten, function by function, as equations
-/
namespace Zvbi.Pdc

/-- forgetting the error kind of a time -/
def valOf : Except Err Int → Int
  | .ok t => t
  | .error _ => -1

/-- a result of `_vbi_timegm`: never the value -1, and no error kind other than EOVERFLOW and ENOMEM -/
def TimegmRes : Except Err Int → Prop
  | .ok t => t ≠ -1
  | .error k => k = .overflow ∨ k = .noMem

theorem clampE_spec (r : Option Int) : valOf (clampE r) = clampResult r ∧ TimegmRes (clampE r) := by
  unfold clampE; split
  · exact ⟨by simp_all [valOf], Or.inl rfl⟩
  · exact ⟨rfl, by assumption⟩

/-- every error kind has a non-zero errno (the constants are regenerated from the platform's headers) -/
theorem Err.toErrno_ne_zero (k : Err) : k.toErrno ≠ 0 := by cases k <;> decide

theorem vbiTimegmE_spec (cfg : Cfg) (L : Libc) (w : World) (tm : Tm) :
    vbiTimegm cfg L w tm = (valOf (vbiTimegmE cfg L w tm).1, (vbiTimegmE cfg L w tm).2)
    ∧ TimegmRes (vbiTimegmE cfg L w tm).1 := by
  apply vbiTimegm_cases (P := fun q qE => q = (valOf qE.1, qE.2) ∧ TimegmRes qE.1)
  case hlibc => exact fun _ => ⟨by rw [(clampE_spec _).1], (clampE_spec _).2⟩
  case hchange => exact fun _ _ _ _ => ⟨rfl, Or.inr rfl⟩
  case hmktime =>
    intro old w1 r w2 _ _ _
    rw [← (clampE_spec r).1, leave_eq, leave_eq]
    split
    · exact ⟨rfl, (clampE_spec r).2⟩
    · exact ⟨rfl, Or.inr rfl⟩

theorem ltoFromTmE_spec (cfg : Cfg) (L : Libc) (w : World) (tm : Tm) (pil : Nat) (east : Int) :
    ltoFromTm cfg L w tm pil east = (toLtoRes (ltoFromTmE cfg L w tm pil east).1, (ltoFromTmE cfg L w tm pil east).2)
    ∧ (ltoFromTmE cfg L w tm pil east).1 ≠ .error .noTime := by
  -- what the error-kind version returns once the value version's call of `_vbi_timegm` is known
  have tail : ∀ tm1 r w1, tmMonMdayFromPil tm pil = some tm1 → tmLeapDayCheck tm1 = true →
      vbiTimegm cfg L w { tm1 with hour := (pilHour pil : Int), min := (pilMinute pil : Int), sec := 0 } = (r, w1) →
      (r = -1 → ∃ k, (k = .overflow ∨ k = .noMem) ∧ ltoFromTmE cfg L w tm pil east = (.error k, w1))
      ∧ (r ≠ -1 → ltoFromTmE cfg L w tm pil east
          = (if guardOut cfg r east then .error .overflow else .ok (r - east), w1)) := by
    intro tm1 r w1 h1 hl ht
    obtain ⟨he, hk⟩ := vbiTimegmE_spec cfg L w { tm1 with hour := (pilHour pil : Int), min := (pilMinute pil : Int), sec := 0 }
    rw [ht] at he
    unfold ltoFromTmE
    simp only [h1, hl, Bool.not_true, Bool.false_eq_true, ↓reduceIte]
    rcases hE : vbiTimegmE cfg L w { tm1 with hour := (pilHour pil : Int), min := (pilMinute pil : Int), sec := 0 } with ⟨k | t, wE⟩
      <;> rw [hE] at he hk <;> cases he
    · exact ⟨fun _ => ⟨k, hk, rfl⟩, fun h => absurd rfl h⟩
    · exact ⟨fun h => absurd h hk, fun _ => by dsimp only [valOf]; exact (apply_ite (fun x => (x, wE)) ..).symm⟩
  apply ltoFromTm_cases (P := fun q => q = _ ∧ _)
  case hyear => intro h1; unfold ltoFromTmE; rw [h1]; exact ⟨rfl, nofun⟩
  case hleap =>
    intro tm1 h1 hl; unfold ltoFromTmE; simp only [h1, hl, Bool.not_false, ↓reduceIte]; exact ⟨rfl, nofun⟩
  case htimegm =>
    intro tm1 w1 h1 hl ht
    obtain ⟨k, hk, e⟩ := (tail tm1 _ w1 h1 hl ht).1 rfl
    rw [e]; rcases hk with rfl | rfl <;> exact ⟨rfl, nofun⟩
  case hguard =>
    intro tm1 r w1 h1 hl ht hr hg
    rw [(tail tm1 r w1 h1 hl ht).2 hr, hg]; exact ⟨rfl, nofun⟩
  case hok =>
    intro tm1 r w1 h1 hl ht hr hg
    rw [(tail tm1 r w1 h1 hl ht).2 hr, hg]; exact ⟨rfl, nofun⟩

theorem validPilLtoToTimeE_eq (cfg : Cfg) (L : Libc) (w : World) (pil : Nat) (start east : Int) :
    validPilLtoToTime cfg L w pil start east
      = (toLtoRes (validPilLtoToTimeE cfg L w pil start east).1, (validPilLtoToTimeE cfg L w pil start east).2) :=
  validPilLtoToTime_cases cfg L w pil start east (P := fun q qE => q = (toLtoRes qE.1, qE.2)) (htime := fun _ _ => rfl)
    (hguard := fun _ _ _ _ _ => rfl) (hgmtime := fun _ _ _ _ _ _ => rfl)
    (hconv := fun _ _ _ _ _ _ _ _ => (ltoFromTmE_spec ..).1)

end Zvbi.Pdc
