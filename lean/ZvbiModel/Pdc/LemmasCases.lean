import ZvbiModel.Pdc.Spec
import ZvbiModel.Pdc.Errno
/-!
# Every function of the model taken apart once: what each exit returns

`f_cases` says: a property holds of `f ..` if it holds of what `f` returns at each of its exits, under the conditions that
lead there.  A libc step taken on the way appears as an equation `step .. = (result, world)`; what such a step does is said
once per primitive (`change_tz`, `restore_tz`, `mktime`, `startOrNow`) in LemmasTz.  The value, TZ and error-kind facts of the
other lemma files are read from these exits.
-/
namespace Zvbi.Pdc

/-- leave through `restore_tz`: the value `v`, or `fail` when the restoring failed -/
def leave {α : Type} (L : Libc) (w : World) (old : Option String) (tzGiven : Bool) (v fail : α) : α × World :=
  match restoreTz L w old tzGiven with
  | (rok, w) => if !rok then (fail, w) else (v, w)

theorem leave_eq {α : Type} (L : Libc) (w : World) (old : Option String) (g : Bool) (v fail : α) :
    leave L w old g v fail = (if (restoreTz L w old g).1 = true then v else fail, (restoreTz L w old g).2) := by
  unfold leave; rcases restoreTz L w old g with ⟨_ | _, _⟩ <;> rfl

/-- the failing exits restore as well and ignore the outcome -/
theorem leave_fail {α : Type} (L : Libc) (w : World) (old : Option String) (g : Bool) (fail : α) :
    leave L w old g fail fail = (fail, (restoreTz L w old g).2) := by
  rw [leave_eq, ite_self]

/-- `_vbi_timegm` and its error-kind version side by side -/
theorem vbiTimegm_cases (cfg : Cfg) (L : Libc) (w : World) (tm : Tm) (P : Int × World → Except Err Int × World → Prop)
    (hlibc : cfg.haveTimegm = true → P (clampResult (utcZone.fromLocal tm), w) (clampE (utcZone.fromLocal tm), w))
    (hchange : ∀ old w1, cfg.haveTimegm = false → changeTz L w "UTC" = (false, old, w1) → P (-1, w1) (.error .noMem, w1))
    (hmktime : ∀ old w1 r w2, cfg.haveTimegm = false → changeTz L w "UTC" = (true, old, w1) → libcMktime L w1 tm = (r, w2) →
      P (leave L w2 old true (clampResult r) (-1)) (leave L w2 old true (clampE r) (.error .noMem))) :
    P (vbiTimegm cfg L w tm) (vbiTimegmE cfg L w tm) := by
  unfold vbiTimegm vbiTimegmE
  cases hc : cfg.haveTimegm with
  | true => exact hlibc hc
  | false =>
    simp only [Bool.false_eq_true, ↓reduceIte]
    rcases hct : changeTz L w "UTC" with ⟨_ | _, old, w1⟩
    · exact hchange old w1 hc hct
    · rcases hm : libcMktime L w1 tm with ⟨r, w2⟩
      exact hmktime old w1 r w2 hc hct hm

theorem ltoFromTm_cases (cfg : Cfg) (L : Libc) (w : World) (tm : Tm) (pil : Nat) (east : Int) (P : LtoRes × World → Prop)
    (hyear : tmMonMdayFromPil tm pil = none → P (.fail, w))
    (hleap : ∀ tm1, tmMonMdayFromPil tm pil = some tm1 → tmLeapDayCheck tm1 = false → P (.invalidPil, w))
    (htimegm : ∀ tm1 w1, tmMonMdayFromPil tm pil = some tm1 → tmLeapDayCheck tm1 = true →
      vbiTimegm cfg L w { tm1 with hour := (pilHour pil : Int), min := (pilMinute pil : Int), sec := 0 } = (-1, w1) → P (.fail, w1))
    (hguard : ∀ tm1 r w1, tmMonMdayFromPil tm pil = some tm1 → tmLeapDayCheck tm1 = true →
      vbiTimegm cfg L w { tm1 with hour := (pilHour pil : Int), min := (pilMinute pil : Int), sec := 0 } = (r, w1) → r ≠ -1 →
      guardOut cfg r east = true → P (.fail, w1))
    (hok : ∀ tm1 r w1, tmMonMdayFromPil tm pil = some tm1 → tmLeapDayCheck tm1 = true →
      vbiTimegm cfg L w { tm1 with hour := (pilHour pil : Int), min := (pilMinute pil : Int), sec := 0 } = (r, w1) → r ≠ -1 →
      guardOut cfg r east = false → P (.ok (r - east), w1)) :
    P (ltoFromTm cfg L w tm pil east) := by
  unfold ltoFromTm
  cases h1 : tmMonMdayFromPil tm pil with
  | none => exact hyear h1
  | some tm1 =>
    dsimp only
    cases hl : tmLeapDayCheck tm1 with
    | false => exact hleap tm1 h1 hl
    | true =>
      simp only [Bool.not_true, Bool.false_eq_true, ↓reduceIte]
      rcases ht : vbiTimegm cfg L w { tm1 with hour := (pilHour pil : Int), min := (pilMinute pil : Int), sec := 0 } with ⟨r, w1⟩
      dsimp only
      by_cases hr : r = -1
      · subst hr; exact htimegm tm1 w1 h1 hl ht
      · rw [if_neg hr]
        cases hg : guardOut cfg r east with
        | true => exact hguard tm1 r w1 h1 hl ht hr hg
        | false => exact hok tm1 r w1 h1 hl ht hr hg

theorem validPilLtoToTime_cases (cfg : Cfg) (L : Libc) (w : World) (pil : Nat) (start east : Int)
    (P : LtoRes × World → Except Err Int × World → Prop)
    (htime : ∀ w1, startOrNow L w start = (-1, w1) → P (.fail, w1) (.error .noTime, w1))
    (hguard : ∀ s w1, startOrNow L w start = (s, w1) → s ≠ -1 → guardIn cfg s east = true →
      P (.fail, w1) (.error .overflow, w1))
    (hgmtime : ∀ s w1, startOrNow L w start = (s, w1) → s ≠ -1 → guardIn cfg s east = false →
      (w1.call L .gmtime).1 = true ∨ utcZone.toLocal (s + east) = none →
      P (.fail, (w1.call L .gmtime).2) (.error .overflow, (w1.call L .gmtime).2))
    (hconv : ∀ s w1 tm0, startOrNow L w start = (s, w1) → s ≠ -1 → guardIn cfg s east = false →
      (w1.call L .gmtime).1 = false → utcZone.toLocal (s + east) = some tm0 →
      P (ltoFromTm cfg L (w1.call L .gmtime).2 tm0 pil east) (ltoFromTmE cfg L (w1.call L .gmtime).2 tm0 pil east)) :
    P (validPilLtoToTime cfg L w pil start east) (validPilLtoToTimeE cfg L w pil start east) := by
  unfold validPilLtoToTime validPilLtoToTimeE
  rcases hs : startOrNow L w start with ⟨s, w1⟩
  dsimp only
  by_cases h1 : s = -1
  · subst h1; exact htime w1 hs
  rw [if_neg h1, if_neg h1]
  cases hg : guardIn cfg s east with
  | true => exact hguard s w1 hs h1 hg
  | false =>
    simp only [Bool.false_eq_true, ↓reduceIte]
    cases hf : (w1.call L .gmtime).1 with
    | true => exact hgmtime s w1 hs h1 hg (Or.inl hf)
    | false =>
      simp only [Bool.false_eq_true, ↓reduceIte]
      cases ht : utcZone.toLocal (s + east) with
      | none => exact hgmtime s w1 hs h1 hg (Or.inr ht)
      | some tm0 => exact hconv s w1 tm0 hs h1 hg hf ht

theorem toTimeFromTm_cases (L : Libc) (w : World) (tm : Tm) (old : Option String) (g : Bool) (pil : Nat) (P : Int × World → Prop)
    (hyear : tmMonMdayFromPil tm pil = none → P (leave L w old g (-1) (-1)))
    (hleap : ∀ tm1, tmMonMdayFromPil tm pil = some tm1 → tmLeapDayCheck tm1 = false → P (leave L w old g (-1) (-1)))
    (hmktime : ∀ tm1 r w1, tmMonMdayFromPil tm pil = some tm1 → tmLeapDayCheck tm1 = true →
      vbiMktime L w { tm1 with hour := (pilHour pil : Int), min := (pilMinute pil : Int), sec := 0, isdst := -1 } = (r, w1) →
      P (leave L w1 old g r (-1))) :
    P (toTimeFromTm L w tm old g pil) := by
  unfold toTimeFromTm
  cases h1 : tmMonMdayFromPil tm pil with
  | none => dsimp only; rw [← leave_fail]; exact hyear h1
  | some tm1 =>
    dsimp only
    cases hl : tmLeapDayCheck tm1 with
    | false => simp only [Bool.not_false, ↓reduceIte]; rw [← leave_fail]; exact hleap tm1 h1 hl
    | true =>
      simp only [Bool.not_true, Bool.false_eq_true, ↓reduceIte]
      rcases hm : vbiMktime L w { tm1 with hour := (pilHour pil : Int), min := (pilMinute pil : Int), sec := 0, isdst := -1 } with ⟨r, w1⟩
      dsimp only
      by_cases hr : r = -1
      · subst hr; rw [if_pos rfl, ← leave_fail]; exact hmktime tm1 _ w1 h1 hl hm
      · rw [if_neg hr]; exact hmktime tm1 r w1 h1 hl hm

theorem winFromTm_cases (L : Libc) (w : World) (tm : Tm) (old : Option String) (g : Bool) (pil : Nat)
    (P : Option (Int × Int) × World → Prop)
    (hyear : tmMonMdayFromPil tm pil = none → P (leave L w old g none none))
    (hleap : ∀ tm1, tmMonMdayFromPil tm pil = some tm1 → tmLeapDayCheck tm1 = false →
      P (leave L w old g (some (TIME_MIN, TIME_MAX)) none))
    (hstart : ∀ tm1 w1, tmMonMdayFromPil tm pil = some tm1 → tmLeapDayCheck tm1 = true →
      vbiMktime L w (if pilHour pil < 4 then { tm1 with mday := tm1.mday - 1, hour := 20, min := 0, sec := 0, isdst := -1 }
        else { tm1 with hour := 0, min := 0, sec := 0, isdst := -1 }) = (-1, w1) → P (leave L w1 old g none none))
    (hstop : ∀ tm1 b w1 e w2, tmMonMdayFromPil tm pil = some tm1 → tmLeapDayCheck tm1 = true →
      vbiMktime L w (if pilHour pil < 4 then { tm1 with mday := tm1.mday - 1, hour := 20, min := 0, sec := 0, isdst := -1 }
        else { tm1 with hour := 0, min := 0, sec := 0, isdst := -1 }) = (b, w1) → b ≠ -1 →
      vbiMktime L w1 { tm1 with mday := tm1.mday + 1, hour := 4, min := 0, sec := 0, isdst := -1 } = (e, w2) →
      P (leave L w2 old g (if e = -1 then none else some (b, e)) none)) :
    P (winFromTm L w tm old g pil) := by
  unfold winFromTm
  cases h1 : tmMonMdayFromPil tm pil with
  | none => dsimp only; rw [← leave_fail]; exact hyear h1
  | some tm1 =>
    dsimp only
    cases hl : tmLeapDayCheck tm1 with
    | false => exact hleap tm1 h1 hl
    | true =>
      simp only [Bool.not_true, Bool.false_eq_true, ↓reduceIte]
      rcases hm : vbiMktime L w (if pilHour pil < 4 then { tm1 with mday := tm1.mday - 1, hour := 20, min := 0, sec := 0, isdst := -1 }
        else { tm1 with hour := 0, min := 0, sec := 0, isdst := -1 }) with ⟨b, w1⟩
      dsimp only
      by_cases hb : b = -1
      · subst hb; rw [if_pos rfl, ← leave_fail]; exact hstart tm1 w1 h1 hl hm
      · rw [if_neg hb]
        rcases hm2 : vbiMktime L w1 { tm1 with mday := tm1.mday + 1, hour := 4, min := 0, sec := 0, isdst := -1 } with ⟨e, w2⟩
        have := hstop tm1 b w1 e w2 h1 hl hm hb hm2
        dsimp only
        by_cases he : e = -1
        · rw [if_pos he] at this; rw [if_pos he, ← leave_fail]; exact this
        · rw [if_neg he] at this; rw [if_neg he]; exact this

/-- `localtime_tz` after the TZ switch, with the errno it leaves: no time, no local time (both restore), or a local time -/
theorem localtimeTzRest_cases (L : Libc) (w : World) (t : Int) (old : Option String) (g : Bool)
    (P : Option Tm × Option String × World → Int → Prop)
    (htime : ∀ w1, startOrNow L w t = (-1, w1) →
      P (none, none, (restoreTz L w1 old g).2) (if !(restoreTz L w1 old g).1 then Err.noMem.toErrno else Err.noTime.toErrno))
    (hlocal : ∀ s w1, startOrNow L w t = (s, w1) → s ≠ -1 →
      (w1.call L .localtime).1 = true ∨ (L.zoneOf (w1.call L .localtime).2.libc).toLocal s = none →
      P (none, none, (restoreTz L (w1.call L .localtime).2 old g).2)
        (if !(restoreTz L (w1.call L .localtime).2 old g).1 then Err.noMem.toErrno else Err.overflow.toErrno))
    (hok : ∀ s w1 tm, startOrNow L w t = (s, w1) → s ≠ -1 → (w1.call L .localtime).1 = false →
      (L.zoneOf (w1.call L .localtime).2.libc).toLocal s = some tm → P (some tm, old, (w1.call L .localtime).2) 0) :
    P (localtimeTzRest L w t old g) (localtimeTzRestErrno L w t old g) := by
  unfold localtimeTzRest localtimeTzRestErrno
  rcases hs : startOrNow L w t with ⟨s, w1⟩
  dsimp only
  by_cases h1 : s = -1
  · subst h1; exact htime w1 hs
  rw [if_neg h1, if_neg h1]
  cases hf : (w1.call L .localtime).1 with
  | true => exact hlocal s w1 hs h1 (Or.inl hf)
  | false =>
    simp only [Bool.false_eq_true, ↓reduceIte]
    cases ht : (L.zoneOf (w1.call L .localtime).2.libc).toLocal s with
    | none => exact hlocal s w1 hs h1 (Or.inr ht)
    | some tm => exact hok s w1 tm hs h1 hf ht

theorem localtimeTz_cases (L : Libc) (w : World) (t : Int) (tz : Option String)
    (P : Option Tm × Option String × World → Int → Prop)
    (hnone : tz = none → P (localtimeTzRest L w t none false) (localtimeTzRestErrno L w t none false))
    (hchange : ∀ z old w1, tz = some z → changeTz L w z = (false, old, w1) → P (none, none, w1) Err.noMem.toErrno)
    (hrest : ∀ z old w1, tz = some z → changeTz L w z = (true, old, w1) →
      P (localtimeTzRest L w1 t old true) (localtimeTzRestErrno L w1 t old true)) :
    P (localtimeTz L w t tz) (localtimeTzErrno L w t tz) := by
  unfold localtimeTz localtimeTzErrno
  cases tz with
  | none => exact hnone rfl
  | some z =>
    dsimp only
    rcases hct : changeTz L w z with ⟨_ | _, old, w1⟩
    · exact hchange z old w1 rfl hct
    · exact hrest z old w1 rfl hct

theorem validPilLtoValidityWindow_cases (cfg : Cfg) (L : Libc) (w : World) (pil : Nat) (start east : Int)
    (P : Option (Int × Int) × World → Prop)
    (hinvalid : ∀ w1, validPilLtoToTime cfg L w (pil &&& mkPil 15 31 0 0) start east = (.invalidPil, w1) →
      P (some (TIME_MIN, TIME_MAX), w1))
    (hfail : ∀ w1, validPilLtoToTime cfg L w (pil &&& mkPil 15 31 0 0) start east = (.fail, w1) → P (none, w1))
    (hrefuse : ∀ t w1, validPilLtoToTime cfg L w (pil &&& mkPil 15 31 0 0) start east = (.ok t, w1) →
      t = -1 ∨ t > TIME_MAX - 28 * 60 * 60 ∨ (pilHour pil < 4 ∧ guardWin cfg t = true) → P (none, w1))
    (hearly : ∀ t w1, validPilLtoToTime cfg L w (pil &&& mkPil 15 31 0 0) start east = (.ok t, w1) → t ≠ -1 →
      t ≤ TIME_MAX - 28 * 60 * 60 → pilHour pil < 4 → guardWin cfg t = false → P (some (t - 4 * 60 * 60, t + 28 * 60 * 60), w1))
    (hday : ∀ t w1, validPilLtoToTime cfg L w (pil &&& mkPil 15 31 0 0) start east = (.ok t, w1) → t ≠ -1 →
      t ≤ TIME_MAX - 28 * 60 * 60 → ¬ pilHour pil < 4 → P (some (t, t + 28 * 60 * 60), w1)) :
    P (validPilLtoValidityWindow cfg L w pil start east) := by
  unfold validPilLtoValidityWindow
  rcases hv : validPilLtoToTime cfg L w (pil &&& mkPil 15 31 0 0) start east with ⟨_ | _ | _, w1⟩
  · rename_i t
    dsimp only
    by_cases h1 : t = -1
    · rw [if_pos h1]; exact hrefuse t w1 hv (Or.inl h1)
    rw [if_neg h1]
    by_cases h2 : t > TIME_MAX - 28 * 60 * 60
    · rw [if_pos h2]; exact hrefuse t w1 hv (Or.inr (Or.inl h2))
    rw [if_neg h2]
    by_cases h4 : pilHour pil < 4
    · rw [if_pos h4]
      cases hg : guardWin cfg t with
      | true => exact hrefuse t w1 hv (Or.inr (Or.inr ⟨h4, hg⟩))
      | false => exact hearly t w1 hv h1 (Int.not_lt.1 h2) h4 hg
    · rw [if_neg h4]; exact hday t w1 hv h1 (Int.not_lt.1 h2) h4
  · exact hinvalid w1 hv
  · exact hfail w1 hv

theorem vbiPilLtoToTime_cases (cfg : Cfg) (L : Libc) (w : World) (pil : Nat) (start east : Int) (P : Int × World → Prop)
    (hinvalid : pilIsValidDate pil = false → P (-1, w))
    (hvalid : ∀ r w1, pilIsValidDate pil = true → validPilLtoToTime cfg L w pil start east = (r, w1) → P (r.toTime, w1)) :
    P (vbiPilLtoToTime cfg L w pil start east) := by
  unfold vbiPilLtoToTime
  cases hv : pilIsValidDate pil with
  | false => exact hinvalid hv
  | true => exact hvalid _ _ hv rfl

theorem vbiPilToTime_cases (cfg : Cfg) (L : Libc) (w : World) (pil : Nat) (start : Int) (tz : Option String)
    (P : Int × World → Prop)
    (hinvalid : pilIsValidDate pil = false → P (-1, w))
    (hutc : ∀ r w1, pilIsValidDate pil = true → tz = some "UTC" → validPilLtoToTime cfg L w pil start 0 = (r, w1) →
      P (r.toTime, w1))
    (hlocal : ∀ old w1, pilIsValidDate pil = true → tz ≠ some "UTC" → localtimeTz L w start tz = (none, old, w1) → P (-1, w1))
    (hconv : ∀ tm old w1, pilIsValidDate pil = true → tz ≠ some "UTC" → localtimeTz L w start tz = (some tm, old, w1) →
      P (toTimeFromTm L w1 tm old tz.isSome pil)) :
    P (vbiPilToTime cfg L w pil start tz) := by
  unfold vbiPilToTime
  cases hv : pilIsValidDate pil with
  | false => exact hinvalid hv
  | true =>
    simp only [Bool.not_true, Bool.false_eq_true, ↓reduceIte]
    by_cases hu : tz = some "UTC"
    · rw [if_pos hu]; exact hutc _ _ hv hu rfl
    · rw [if_neg hu]
      rcases hl : localtimeTz L w start tz with ⟨_ | tm, old, w1⟩
      · exact hlocal old w1 hv hu hl
      · exact hconv tm old w1 hv hu hl

theorem validPilValidityWindow_cases (cfg : Cfg) (L : Libc) (w : World) (pil : Nat) (start : Int) (tz : Option String)
    (P : Option (Int × Int) × World → Prop)
    (hutc : tz = some "UTC" → P (validPilLtoValidityWindow cfg L w pil start 0))
    (hlocal : ∀ old w1, tz ≠ some "UTC" → localtimeTz L w start tz = (none, old, w1) → P (none, w1))
    (hwin : ∀ tm old w1, tz ≠ some "UTC" → localtimeTz L w start tz = (some tm, old, w1) →
      P (winFromTm L w1 tm old tz.isSome pil)) :
    P (validPilValidityWindow cfg L w pil start tz) := by
  unfold validPilValidityWindow
  by_cases hu : tz = some "UTC"
  · rw [if_pos hu]; exact hutc hu
  · rw [if_neg hu]
    rcases hl : localtimeTz L w start tz with ⟨_ | tm, old, w1⟩
    · exact hlocal old w1 hu hl
    · exact hwin tm old w1 hu hl

theorem vbiPtyValidityWindow_cases (L : Libc) (w : World) (t : Int) (tz : Option String)
    (P : Option (Int × Int) × World → Int → Prop)
    (hutc : tz = some "UTC" → P (ptyUtcValidityWindow L w t) 0)
    (hlocal : ∀ old w1, tz ≠ some "UTC" → localtimeTz L w t tz = (none, old, w1) → P (none, w1) 0)
    (hpty : ∀ tm old w1 e w2, tz ≠ some "UTC" → localtimeTz L w t tz = (some tm, old, w1) →
      vbiMktime L w1 { tm with mday := tm.mday + (4 * 7 + 1), hour := 4, min := 0, sec := 0, isdst := -1 } = (e, w2) →
      P (leave L w2 old tz.isSome (if e = -1 then none else some (t, e)) none)
        (if e = -1 then if !(restoreTz L w2 old tz.isSome).1 then Err.noMem.toErrno else 0 else 0)) :
    P (vbiPtyValidityWindow L w t tz) (vbiPtyValidityWindowErrno L w t tz) := by
  unfold vbiPtyValidityWindow vbiPtyValidityWindowErrno
  by_cases hu : tz = some "UTC"
  · rw [if_pos hu, if_pos hu]; exact hutc hu
  · rw [if_neg hu, if_neg hu]
    rcases hl : localtimeTz L w t tz with ⟨_ | tm, old, w1⟩
    · exact hlocal old w1 hu hl
    · unfold ptyFromTm
      dsimp only
      rcases hm : vbiMktime L w1 { tm with mday := tm.mday + (4 * 7 + 1), hour := 4, min := 0, sec := 0, isdst := -1 } with ⟨e, w2⟩
      have := hpty tm old w1 e w2 hu hl hm
      dsimp only
      by_cases he : e = -1
      · rw [if_pos he, if_pos he] at this; rw [if_pos he, if_pos he, ← leave_fail]; exact this
      · rw [if_neg he, if_neg he] at this; rw [if_neg he, if_neg he]; exact this

theorem vbiPilLtoValidityWindow_cases (cfg : Cfg) (L : Libc) (w : World) (pil : Nat) (start east : Int)
    (P : Option (Int × Int) × World → Prop)
    (hunallocated : classifyPil pil = .unallocated → P (none, w))
    (hindefinite : classifyPil pil = .indefinite → P (some (TIME_MIN, TIME_MAX), w))
    (hdate : classifyPil pil = .date → P (validPilLtoValidityWindow cfg L w pil start east))
    (hnspv : classifyPil pil = .nspv → P (ptyUtcValidityWindow L w start)) :
    P (vbiPilLtoValidityWindow cfg L w pil start east) := by
  unfold vbiPilLtoValidityWindow
  cases h : classifyPil pil
  · exact hunallocated h
  · exact hindefinite h
  · exact hdate h
  · exact hnspv h

theorem vbiPilValidityWindow_cases (cfg : Cfg) (L : Libc) (w : World) (pil : Nat) (start : Int) (tz : Option String)
    (P : Option (Int × Int) × World → Prop)
    (hunallocated : classifyPil pil = .unallocated → P (none, w))
    (hindefinite : classifyPil pil = .indefinite → P (some (TIME_MIN, TIME_MAX), w))
    (hdate : classifyPil pil = .date → P (validPilValidityWindow cfg L w pil start tz))
    (hnspv : classifyPil pil = .nspv → P (vbiPtyValidityWindow L w start tz)) :
    P (vbiPilValidityWindow cfg L w pil start tz) := by
  unfold vbiPilValidityWindow
  cases h : classifyPil pil
  · exact hunallocated h
  · exact hindefinite h
  · exact hdate h
  · exact hnspv h

end Zvbi.Pdc
