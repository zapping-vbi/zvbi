import ZvbiModel.Proxy.Frame
/-!
# no_fault: with the repairs in place no function of the main loop faults, and the invariants hold after every op

Bottom up: the service request, the token machine (`channelUpdate`), `vbi_proxy_msg_handle_read`, the message handlers,
the four parts of the client loop body, one iteration, one op, a whole history (`run_ok`).  The functions that only do
bookkeeping are frame steps (`Proxy/Frame.lean`); the invariants themselves are needed where a connection is closed, where
a record's read state changes and where a frame is forwarded.
-/
namespace Zvbi.Proxy
open Zvbi.Gen.Proxy

/-- all repairs that guard a fault site are present in the source (see `Generated/ProxyLayout.lean`) -/
structure Cfg.Repaired (cfg : Cfg) : Prop where
  con : cfg.conStrictClamp = true
  svc : cfg.svcStrictClamp = true
  rd : cfg.readLenGuard = true
  idle : cfg.idleAssertsRemoved = true
  fl : cfg.flushNullGuard = true
  ret : cfg.g.ret = true

variable {g : Core.Guards}

theorem clamp_in_range (v : Int) : 0 ≤ clampStrict true v - minStrict ∧ clampStrict true v - minStrict < (nServices : Int) := by
  unfold clampStrict minStrict maxStrict nServices
  simp only [if_true]
  split
  · decide
  · split
    · decide
    · constructor <;> omega

theorem takeServiceReq_ok (s : State g) (h d services : Nat) (v : Int) :
    ∃ r, takeServiceReq s h d services (clampStrict true v) = .ok r ∧ Fr s r.1 := by
  show Safe (fun r : State g × Bool × String => Fr s r.1) _
  unfold takeServiceReq
  have hr := clamp_in_range v
  have h1 : ¬ (clampStrict true v - minStrict < 0) := by omega
  have h2 : ¬ (clampStrict true v - minStrict ≥ (nServices : Int)) := by omega
  simp only [h1, h2, decide_false, Bool.or_false, Bool.false_eq_true, if_false]
  generalize hm : modClient s h _ = sm
  have fm : Fr s sm := by rw [← hm]; exact fr_modClient h _ (fun _ => rfl) (Fr.refl s)
  have hf := fm.trans (fr_updateServices sm d (some h) (clampStrict true v - minStrict))
  generalize updateServices sm d (some h) _ = u at hf ⊢
  exact ite_both (.ok hf) <| .ok hf

theorem tokenGrant_ok (hret : g.ret = true) (s : State g) (h : Nat) :
    Safe (fun r => r.1 = coreOp s (.grant h)) (tokenGrant s h) := by
  have hi := Core.inv_reachable g hret s.core.ok
  have := Core.owners_le_one hi.uniq hi.excl (recOf s h).dev
  exact ite_ind (fun hc => by simp only [Bool.and_eq_true, decide_eq_true_eq] at hc; omega) fun _ => .ok rfl

theorem flushForced_ok (cfg : Cfg) (hfl : cfg.flushNullGuard = true) (s : State cfg.g) (d : Nat) (forced : Bool) :
    Safe (Fr s) (flushForced cfg s d forced) :=
  ite_both (ite_both (ite_ind (fun _ => .ok (Fr.refl s)) (absurd hfl)) <|
    .ok (fr_setDev _ _ (fun _ hx => ⟨nofun, hx.2⟩) (Fr.refl s))) <| .ok (Fr.refl s)

theorem chnFin_ok {s0 s : State g} (mp : Nat) (r : Bool) (h0 : Fr s0 s) : Safe (fun x => Fr s0 x.1) (chnFin s mp r) :=
  .ok (ite_both (fr_timerUpdate h0) h0)

theorem channelUpdate_ok (cfg : Cfg) (hret : cfg.g.ret = true) (hfl : cfg.flushNullGuard = true) (s : State cfg.g) (d : Nat)
    (req : Option Nat) (forced : Bool) : ∃ r, channelUpdate cfg s d req forced = .ok r ∧ Fr s r.1 := by
  show Safe (fun r : State cfg.g × Bool => Fr s r.1) _
  unfold channelUpdate
  have f2 := fr_chnPrep cfg s d forced
  generalize chnPrep cfg s d forced = pr at f2 ⊢
  obtain ⟨s2, maxPrio⟩ := pr
  dsimp only at f2 ⊢
  have f3 := fr_chnPick cfg d req maxPrio f2
  generalize chnPick cfg s2 d req maxPrio = pk at f3 ⊢
  obtain ⟨s3, sched⟩ := pk
  dsimp only at f3 ⊢
  have hflush : Safe (fun r => Fr s r.1) (match flushForced cfg s3 d forced with
      | .error e => (.error e : M (State cfg.g × Bool))
      | .ok s => chnFin s maxPrio false) := by
    exact (flushForced_ok cfg hfl s3 d forced).elim fun s4 f4 => chnFin_ok maxPrio _ (f3.trans f4)
  split
  · rename_i p hp
    refine ite_both ?_ <| hflush
    refine (tokenGrant_ok hret s3 p.h).elim fun (s4, free) htg => ?_
    have f4 : Fr s s4 := (show s4 = _ from htg) ▸ fr_coreOp _ f3
    exact ite_both (chnFin_ok _ _ (fr_modClient _ _ (fun _ => rfl) f4)) <| chnFin_ok _ _ f4
  · exact hflush

theorem channelTimer_ok (cfg : Cfg) (hret : cfg.g.ret = true) (hfl : cfg.flushNullGuard = true) (s : State cfg.g) :
    ∃ s', channelTimer cfg s = .ok s' ∧ Fr s s' :=
  Safe.foldlM (P := Fr s) (fun s1 d h1 => ite_both
    (ite_both (.map (Safe.mono (channelUpdate_ok cfg hret hfl s1 d none false) fun _ => h1.trans)) <| .ok h1) <| .ok h1) _ (Fr.refl s)

theorem findClient_modClient_some {s : State g} {h h' : Nat} {f : Client → Client} {c : Client}
    (hf : findClient (modClient s h f) h' = some c) (hh : ∀ c, c.h = h → (f c).h = h) :
    ∃ c0, findClient s h' = some c0 ∧ ((h' = h ∧ c = f c0) ∨ (h' ≠ h ∧ c = c0)) := by
  rw [findClient_modClient s h f h' hh, Option.map_eq_some_iff] at hf
  obtain ⟨c0, hf0, rfl⟩ := hf
  have hc0 := (findClient_some hf0).2
  refine ⟨c0, hf0, ?_⟩
  by_cases e : h' = h
  · exact .inl ⟨e, by simp [hc0, e]⟩
  · exact .inr ⟨e, by simp [hc0, e]⟩

def CIo (h : Nat) (s : State g) : Prop := ∀ h' c, h' ≠ h → findClient s h' = some c → RI c

theorem CI.toCIo {h : Nat} {s : State g} (hc : CI (some h) s) : CIo h s :=
  fun h' c hne hf => (hc h' c hf).elim id fun ⟨e, _⟩ => absurd (Option.some.inj e).symm hne

theorem ci_of_cio {s : State g} {h : Nat} (hc : CIo h s) (hcl : ∀ c, findClient s h = some c → c.st = .closed) : CI (some h) s := by
  intro h' c hf
  by_cases e : h' = h
  · subst e; exact .inr ⟨rfl, hcl c hf⟩
  · exact .inl (hc h' c e hf)

theorem cio_modClient {s : State g} (h : Nat) (f : Client → Client) (hh : ∀ c, c.h = h → (f c).h = h) (hc : CIo h s) :
    CIo h (modClient s h f) := by
  intro h' c hne hf
  obtain ⟨c0, hf0, ⟨e, _⟩ | ⟨_, rfl⟩⟩ := findClient_modClient_some hf hh
  · exact absurd e hne
  · exact hc h' c hne hf0

theorem ci_modClient_ri {s : State g} (h : Nat) (f : Client → Client) (hh : ∀ c, c.h = h → (f c).h = h) (hr : ∀ c, RI (f c))
    (hc : CI none s) : CI none (modClient s h f) := by
  intro h' c hf
  obtain ⟨c0, hf0, ⟨_, rfl⟩ | ⟨_, rfl⟩⟩ := findClient_modClient_some hf hh
  · exact .inl (hr c0)
  · exact .inl (hc.ri hf0)

theorem ci_closeClient {s : State g} (h : Nat) (hc : CIo h s) : CI (some h) (closeClient s h) := by
  unfold closeClient
  cases hf : findClient s h with
  | none => exact ci_of_cio hc fun c hc' => nomatch hf ▸ hc'
  | some c0 =>
    dsimp only
    split
    · have hcl : ∀ c, findClient (modClient s h fun c => { c with st := .closed, sockOpen := false, pend := [] }) h = some c →
          c.st = .closed := fun c hc' => by
        obtain ⟨c1, _, ⟨_, rfl⟩ | ⟨e, _⟩⟩ := findClient_modClient_some hc' fun _ e => e
        · rfl
        · exact absurd rfl e
      exact ci_of_cio (s := setSock (modClient s h _) h _) (cio_modClient h _ (fun _ e => e) hc) hcl
    · rename_i hst
      exact ci_of_cio hc (findClient_only hf (by simpa using hst))

theorem di_closeClient {s : State g} (h : Nat) (hd : DI s) : DI (closeClient s h) := by
  unfold closeClient
  split
  · split <;> exact hd
  · exact hd

/-- the two invariants as they stand while connection `h` is handled -/
def CDI (h : Nat) (s : State g) : Prop := CI (some h) s ∧ DI s

theorem CDI.close {h : Nat} {s : State g} (hs : CDI h s) : CDI h (closeClient s h) :=
  ⟨ci_closeClient h hs.1.toCIo, di_closeClient h hs.2⟩

theorem CDI.fr {h : Nat} {s s' : State g} (hs : CDI h s) (f : Fr s s') : CDI h s' := ⟨f.ci hs.1, f.di hs.2⟩

/-- what phase one of handle_read hands to phase two -/
def HdrOk (c : Client) (r : Client × List Nat × Bool × Bool × Bool × Bool) : Prop :=
  r.1.h = c.h ∧ (r.2.2.2.2.2 = true → RI r.1)

theorem readHeader_ok (c : Client) (now : Int) (inq : List Nat) (shut : Bool) (hri : RI c) :
    HdrOk c (readHeader c now inq shut) := by
  have hm : hdr ≤ msg := by decide
  unfold readHeader
  refine ite_ind (fun hoff => ?_) fun _ => ⟨rfl, fun _ => hri⟩
  refine ite_ind (fun hk => ?_) fun _ => ⟨rfl, fun _ => hri⟩
  refine ite_ind (fun hfull => ⟨rfl, fun hres => ?_⟩) fun hnf => ⟨rfl, fun _ => ⟨fun _ => hri.1 hoff, fun h => ?_⟩⟩
  · simp only [Bool.not_eq_true', Bool.or_eq_false_iff, decide_eq_false_iff_not] at hres
    dsimp only at hfull
    exact ⟨fun h => by dsimp only at h; omega, fun _ => by dsimp only; omega⟩
  · dsimp only at h hnf; omega

theorem of_ite_false {c : Prop} [Decidable c] {b : Bool} (h : (if c then false else b) = true) : b = true := by
  split at h
  · cases h
  · exact h

theorem handleRead_ok (cfg : Cfg) (hrd : cfg.readLenGuard = true) (now : Int) (c : Client) (inq : List Nat) (shut : Bool)
    (hw : c.wr = none) (hri : RI c) :
    Safe (fun r => r.1.h = c.h ∧ (r.2.2.1 = true → RI r.1)) (handleRead cfg now c inq shut) := by
  unfold handleRead
  refine ite_ind (fun h => by simp [hw] at h) fun _ => ite_ind (fun h => ?_) fun _ => ?_
  · simp only [Bool.and_eq_true, decide_eq_true_eq, bne_iff_ne] at h
    exact absurd (hri.1 h.1) h.2
  obtain ⟨hh, hr⟩ := readHeader_ok c now inq shut hri
  generalize readHeader c now inq shut = rh at hh hr ⊢
  obtain ⟨c1, inq1, err, lz, cz, res⟩ := rh
  dsimp only at hh hr ⊢
  refine ite_ind (fun hcond => ?_) fun _ => .ok ⟨hh, fun hok => hr (of_ite_false hok)⟩
  simp only [hrd, Bool.not_true, Bool.or_false, Bool.and_eq_true, decide_eq_true_eq] at hcond
  obtain ⟨hl1, hl2⟩ := (hr hcond.1.2).2 hcond.2
  have hwant : u32 (c1.readLen + 4294967296 - c1.readOff) = c1.readLen - c1.readOff := by
    have : msg < 4294967296 := by decide
    unfold u32; omega
  refine ite_ind (fun h => by omega) fun _ => ?_
  rw [hwant]
  exact ite_ind (fun hk => ite_ind (fun h => by omega) fun _ => .ok ⟨hh, fun _ => ⟨fun h => by dsimp only at h; omega, fun _ => by dsimp only; omega⟩⟩)
    fun _ => .ok ⟨hh, fun hok => hr (of_ite_false hok)⟩

theorem notClosed_of_fr {s s' : State g} {h : Nat} (hfr : Fr s s') (hn : ∀ c, findClient s h = some c → c.st ≠ .closed) :
    ∀ c', findClient s' h = some c' → c'.st ≠ .closed :=
  fun _ hf' e => let ⟨c, hf0, hk⟩ := hfr.kp.find hf'; hn c hf0 ((key_eq hk).2.1.mp e)

theorem fr_modClient_open {s0 s : State g} (h : Nat) (f : Client → Client) (hf : ∀ c, key (f c) = (c.h, false, c.readOff, c.readLen))
    (hn : ∀ c, findClient s h = some c → c.st ≠ .closed) (h0 : Fr s0 s) : Fr s0 (modClient s h f) := by
  refine h0.trans ⟨fun h' => ?_, fun _ x => x⟩
  rw [findClient_modClient s h f h' fun c e => (congrArg (·.1) (hf c)).trans e]
  cases hf0 : findClient s h' with
  | none => rfl
  | some c =>
    have hc := (findClient_some hf0).2
    by_cases e : c.h = h
    · have hk : key c = (c.h, false, c.readOff, c.readLen) := by simp [key, hn c ((hc.symm.trans e) ▸ hf0)]
      simp [e, hf, hk]
    · simp [e]

theorem onConnect_ok (cfg : Cfg) (hcfg : cfg.Repaired) (s : State cfg.g) (h d : Nat) (m : Msg)
    (hn : ∀ c, findClient s h = some c → c.st ≠ .closed) : Safe (fun r => Fr s r.1) (onConnect cfg s h d m) := by
  unfold onConnect
  have rej : ∀ {s' : State cfg.g} (txt : String), Fr s s' →
      Fr s (modClient (msgWrite s' h "CONNECT_REJ" szConnectRej txt) h (fun c => { c with st := .waitClose })) := fun _ f =>
    fr_modClient_open h _ (fun _ => rfl) (notClosed_of_fr (fr_msgWrite _ _ _ _ f) hn) (fr_msgWrite _ _ _ _ f)
  refine ite_both ?_ <| .ok (rej _ (Fr.refl s))
  dsimp only
  generalize hsa : (if m.u32 oConScanning != 0 then _ else s) = sa
  have fa : Fr s sa := hsa ▸ ite_both (fr_setDev _ _ (fun _ hx => ⟨hx.1, hx.2⟩) (Fr.refl s)) (Fr.refl s)
  generalize hsb : modClient sa h _ = sb
  have fb : Fr s sb := hsb ▸ fr_modClient_open h _ (fun _ => rfl) (notClosed_of_fr fa hn) fa
  simp only [hcfg.con]
  exact Safe.elim (takeServiceReq_ok sb h d (m.u32 oConServices) (m.i8 oConStrict)) fun (s', ok, txt) fr =>
    ite_both (.ok (fr_msgWrite _ _ _ _ (fb.trans fr))) <| .ok (rej _ (fb.trans fr))

theorem onService_ok (cfg : Cfg) (hcfg : cfg.Repaired) (s : State cfg.g) (h d : Nat) (m : Msg) :
    Safe (fun r => Fr s r.1) (onService cfg s h d m) := by
  unfold onService
  dsimp only
  generalize hsa : modClient (if m.u8 oSvcReset != 0 then _ else s) h _ = sa
  have fa : Fr s sa :=
    hsa ▸ fr_modClient _ _ (fun _ => rfl) (ite_both (fr_modClient _ _ (fun _ => rfl) (Fr.refl s)) (Fr.refl s))
  simp only [hcfg.svc]
  exact Safe.elim (takeServiceReq_ok sa h d (m.u32 oSvcServices) (m.i8 oSvcStrict)) fun (s', ok, txt) fr =>
    ite_both (.ok (fr_msgWrite _ _ _ _ (fa.trans fr))) <| .ok (fr_msgWrite _ _ _ _ (fa.trans fr))

theorem onTokenReq_ok (cfg : Cfg) (hcfg : cfg.Repaired) (s : State cfg.g) (h d : Nat) (m : Msg) :
    Safe (fun r => Fr s r.1) (onTokenReq cfg s h d m) := by
  unfold onTokenReq
  dsimp only
  generalize hsa : coreOp (modClient s h _) (Core.COp.tokenReq h (m.u32 oTokPrio) (m.u8 oTokValid)) = sa
  have fa : Fr s sa := hsa ▸ fr_coreOp _ (fr_modClient _ _ (fun _ => rfl) (Fr.refl s))
  exact Safe.elim (channelUpdate_ok cfg hcfg.ret hcfg.fl sa d (some h) false) fun (s', b) fr =>
    ite_both (.ok (fr_msgWrite _ _ _ _ (fr_coreOp _ (fa.trans fr)))) <| .ok (fr_msgWrite _ _ _ _ (fa.trans fr))

theorem onNotify_ok (cfg : Cfg) (hcfg : cfg.Repaired) (s : State cfg.g) (h d : Nat) (m : Msg) :
    Safe (fun r => Fr s r.1) (onNotify cfg s h d m) := by
  unfold onNotify
  dsimp only
  generalize hsa : (if hasFlag (m.u32 oNtfFlags) fNORM then _ else s) = sa
  have fa : Fr s sa := hsa ▸ ite_both (fr_updateScanning _ _ _ (Fr.refl s)) (Fr.refl s)
  generalize hsb : (if hasFlag (m.u32 oNtfFlags) fFLUSH then _ else (sa, false, false)) = pb
  have fb : Fr s pb.1 := hsb ▸ ite_both (P := fun p : State cfg.g × Bool × Bool => Fr s p.1) (fr_channelFlush d fa) fa
  obtain ⟨sb, upd1, forced⟩ := pb
  dsimp only at fb ⊢
  generalize hsc : (if hasFlag (m.u32 oNtfFlags) fRELEASE then _ else _) = pc
  have fc : Fr s pc.1 := hsc ▸ ite_both (P := fun p : State cfg.g × Bool => Fr s p.1) (fr_coreOp _ fb)
    (ite_both (P := fun p : State cfg.g × Bool => Fr s p.1) (fr_coreOp _ fb) fb)
  obtain ⟨sc, upd2⟩ := pc
  dsimp only at fc ⊢
  have fin : ∀ s' : State cfg.g, Fr s s' → Safe (fun r => Fr s r.1) (.ok (modClient (msgWrite s' h "NOTIFY_CNF" szNotifyCnf
      s!"scan{(getDev s' d).scanning}") h (fun c => { c with ind := 0 }), true) : M (State cfg.g × Bool)) :=
    fun s' hs' => .ok (fr_modClient _ _ (fun _ => rfl) (fr_msgWrite _ _ _ _ hs'))
  exact ite_both (Safe.elim (channelUpdate_ok cfg hcfg.ret hcfg.fl sc d (some h) forced) fun r fr => fin _ (fc.trans fr)) <| fin _ fc

/-- the invariants after a message was taken: the connection may have been closed by CLOSE_REQ -/
theorem takeMessage_ok (cfg : Cfg) (hcfg : cfg.Repaired) (s : State cfg.g) (h : Nat) (m : Msg) (hs : CDI h s) :
    Safe (fun r => CDI h r.1) (takeMessage cfg s h m) := by
  have ofFr : ∀ {x : M (State cfg.g × Bool)}, Safe (fun r => Fr s r.1) x → Safe (fun r => CDI h r.1) x :=
    fun f => f.mono fun _ => hs.fr
  have same : ∀ b, Safe (fun r => CDI h r.1) (.ok (s, b) : M (State cfg.g × Bool)) := fun _ => .ok hs
  unfold takeMessage
  cases hf : findClient s h with
  | none => exact same _
  | some req =>
    have hn : ¬ (req.st != .waitCon) = true → ∀ c, findClient s h = some c → c.st ≠ .closed :=
      fun hst => findClient_only hf fun e => by simp [e] at hst
    dsimp only
    -- the `if` chain of vbi_proxyd_take_message, one line per message type; where the type has a state test, its first
    -- branch is "not expected in this state"
    refine
      /- CONNECT_REQ -/ ite_both (ite_ind (fun _ => same _) fun hst => ?con) <|
      /- DAEMON_PID_REQ -/ ite_both (ite_ind (fun _ => same _) fun hst => ?pid) <|
      /- SERVICE_REQ -/ ite_both (ite_both (same _) <| ofFr (onService_ok cfg hcfg s h req.dev m)) <|
      /- CHN_TOKEN_REQ -/ ite_both (ite_both (same _) <| ofFr (onTokenReq_ok cfg hcfg s h req.dev m)) <|
      /- CHN_NOTIFY_REQ -/ ite_both (ite_both (same _) <| ofFr (onNotify_ok cfg hcfg s h req.dev m)) <|
      /- CHN_SUSPEND_REQ -/ ite_both (ofFr (.ok (fr_msgWrite _ _ _ _ (Fr.refl s)))) <|
      /- CHN_IOCTL_REQ -/ ite_both (ite_both (same _) <| ?ioc) <|
      /- CHN_RECLAIM_CNF, token state RELEASE or not -/ ite_both (ite_both ?cnf <| same _) <|
      /- CLOSE_REQ, else unknown type -/ ite_both (.ok hs.close) <| same _
    case con => exact ofFr (onConnect_ok cfg hcfg s h req.dev m (hn hst))
    case pid =>
      have f1 : Fr s (msgWrite s h "PID_CNF" szPidCnf "magic1") := fr_msgWrite _ _ _ _ (Fr.refl s)
      exact ofFr (.ok (fr_modClient_open h _ (fun _ => rfl) (notClosed_of_fr f1 (hn hst)) f1))
    case ioc =>
      have fio := fr_takeIoctl s h (m.u32 oIocRequest) (m.u32 oIocArgsize)
      generalize takeIoctl s h (m.u32 oIocRequest) (m.u32 oIocArgsize) = io at fio ⊢
      exact ofFr (ite_both (.ok (fr_msgWrite _ _ _ _ fio)) <| .ok (fr_msgWrite _ _ _ _ fio))
    case cnf =>
      exact ofFr (.map (Safe.mono (channelUpdate_ok cfg hcfg.ret hcfg.fl (coreOp s (.reclaimCnf h)) req.dev none false)
        fun _ => (fr_coreOp _ (Fr.refl s)).trans))

/-- A message that is not legal in the connection's state is refused with `(s, false)`: every arm of
    `vbi_proxyd_take_message` that has a state test makes it first.  DAEMON_PID_CNF, which only the daemon sends, has no arm. -/
theorem takeMessage_refuses (cfg : Cfg) (s : State cfg.g) (h : Nat) (m : Msg) (c : Client) (hc : findClient s h = some c)
    (hst : (m.type = tCONNECTREQ ∧ c.st ≠ .waitCon) ∨ (m.type = tDAEMONPIDREQ ∧ c.st ≠ .waitCon) ∨
           (m.type = tSERVICEREQ ∧ c.st ≠ .forward) ∨ (m.type = tCHNTOKENREQ ∧ c.st ≠ .forward) ∨
           (m.type = tCHNNOTIFYREQ ∧ c.st ≠ .forward) ∨ (m.type = tCHNIOCTLREQ ∧ c.st ≠ .forward) ∨
           (m.type = tDAEMONPIDCNF)) :
    takeMessage cfg s h m = .ok (s, false) := by
  unfold takeMessage
  rw [hc]
  -- the message types are distinct numerals, so `e` decides every test on the type: it selects the arm, or the last `else`
  simp only [tCONNECTREQ, tDAEMONPIDREQ, tSERVICEREQ, tCHNTOKENREQ, tCHNNOTIFYREQ, tCHNSUSPENDREQ, tCHNIOCTLREQ, tCHNRECLAIMCNF,
    tCLOSEREQ, tDAEMONPIDCNF] at hst ⊢
  -- and `n` decides the state test the arm begins with
  rcases hst with ⟨e, n⟩ | ⟨e, n⟩ | ⟨e, n⟩ | ⟨e, n⟩ | ⟨e, n⟩ | ⟨e, n⟩ | e <;> simp [*]

/-- the invariant of the daemon between two passes of the client loop -/
structure NF (s : State g) : Prop where
  ci : CI none s
  di : DI s

theorem NF.of_fr {s s' : State g} (h : Fr s s') (hn : NF s) : NF s' := ⟨h.ci hn.ci, h.di hn.di⟩

theorem NF.cdi {s : State g} (hn : NF s) (h : Nat) : CDI h s := ⟨ci_weaken _ hn.ci, hn.di⟩

theorem onMessage_ok (cfg : Cfg) (hcfg : cfg.Repaired) (s : State cfg.g) (h : Nat) (m : Msg) (sw : Bool) (hn : NF s) :
    Safe (CDI h) (onMessage cfg s h m sw) := by
  unfold onMessage
  split
  · rename_i sw' _
    dsimp only
    generalize hsa : modClient s h _ = sa
    have na : NF sa := hsa ▸ ⟨ci_modClient_ri h _ (fun _ e => e) (fun _ => .fresh rfl rfl) hn.ci, hn.di⟩
    exact (takeMessage_ok cfg hcfg sa h m (na.cdi h)).elim fun (s', ok) hr => .ok (ite_both hr hr.close)
  · exact .ok (hn.cdi h).close

theorem CDI.nf {h : Nat} {s : State g} (hs : CDI h s) (hcl : ∀ c, findClient s h = some c → c.st ≠ .closed) : NF s :=
  ⟨fun h' c hf => (hs.1 h' c hf).elim .inl fun ⟨e, e2⟩ => by cases e; exact absurd e2 (hcl c hf), hs.2⟩

theorem isIdle_ok {cfg : Cfg} (hidle : cfg.idleAssertsRemoved = true) (c : Client) :
    isIdle cfg c = .ok (c.wr.isNone && c.readOff == 0) := by
  simp [isIdle, hidle]

theorem fdSet_ok {cfg : Cfg} (hidle : cfg.idleAssertsRemoved = true) (c : Client) : Safe (fun _ => True) (fdSet cfg c) := by
  have : readIdle cfg c = .ok (c.readOff == 0) := by simp [readIdle, hidle]
  rw [fdSet, this]
  exact .ok trivial

theorem clientIo_ok (cfg : Cfg) (hcfg : cfg.Repaired) (s : State cfg.g) (h : Nat) (sel : Option Sel) (ready : Bool) (hn : NF s) :
    Safe (fun r => CDI h r.1) (clientIo cfg s h sel ready) := by
  have hs := hn.cdi h
  unfold clientIo
  cases hf : findClient s h with
  | none => exact .ok hs
  | some c =>
    dsimp only
    have hch := (findClient_some hf).2
    refine ite_ind (fun hcond => ?rd) fun _ => ite_both (ite_both (.ok hs.close) <| ?wr) <| .ok hs
    case wr =>
      split
      · exact .ok (hs.fr (fr_deliver _ _ (fr_modClient _ _ (fun _ => rfl) (Fr.refl s))))
      · exact .ok hs
    case rd =>
      have hw : c.wr = none := by
        simp only [Bool.and_eq_true] at hcond; simpa using hcond.2
      refine (handleRead_ok cfg hcfg.rd s.now c (getSock s h).inq (getSock s h).shut hw (hn.ci.ri hf)).elim
        fun (c', inq', ok, b) ⟨hh', hri'⟩ => ?_
      dsimp only at hh' hri' ⊢
      refine ite_ind (fun hok => ?_) fun _ =>
        .ok ⟨ci_closeClient h (cio_modClient h _ (fun _ _ => hh'.trans hch) hs.1.toCIo), di_closeClient h hn.di⟩
      have n1 : NF (setSock (modClient s h (fun _ => c')) h (fun k => { k with inq := inq' })) :=
        ⟨ci_modClient_ri h _ (fun _ _ => hh'.trans hch) (fun _ => hri' hok) hn.ci, hn.di⟩
      exact ite_both (.map (onMessage_ok cfg hcfg _ h _ _ n1)) <| .ok (n1.cdi h)

theorem clientIdle_ok (cfg : Cfg) (hcfg : cfg.Repaired) (s : State cfg.g) (h : Nat) (b : Bool) (hs : CDI h s) :
    Safe (CDI h) (clientIdle cfg s h b) := by
  unfold clientIdle
  cases hf : findClient s h with
  | none => exact .ok hs
  | some c =>
    dsimp only
    refine ite_both (.ok hs.close) <| ?_
    rw [isIdle_ok hcfg.idle]
    generalize (c.wr.isNone && c.readOff == 0) = idle
    cases idle with
    | false => exact .ok hs
    | true =>
      exact ite_both (.ok (hs.fr (fr_coreOp _ (fr_msgWrite _ _ _ _ (Fr.refl s))))) <|
        ite_both (.ok (hs.fr (fr_coreOp _ (fr_msgWrite _ _ _ _ (Fr.refl s))))) <|
        ite_both (.ok (hs.fr (fr_modClient _ _ (fun _ => rfl) (fr_msgWrite _ _ _ _ (Fr.refl s))))) <|
        ite_both (ite_both (.ok hs.close) <| .ok (hs.fr (fr_modClient _ _ (fun _ => rfl)
          (fr_foldl _ _ (fun _ _ hs' => fr_deliver _ _ hs') _ (Fr.refl s))))) <| .ok hs

theorem clientTimeout_ok (cfg : Cfg) (hcfg : cfg.Repaired) (s : State cfg.g) (h : Nat) (hs : CDI h s) :
    Safe (CDI h) (clientTimeout cfg s h) := by
  unfold clientTimeout
  cases hf : findClient s h with
  | none => exact .ok hs
  | some c =>
    dsimp only
    refine ite_both (.ok hs.close) <| ite_both ?_ <| ite_both (.ok hs.close) <| .ok hs
    rw [isIdle_ok hcfg.idle]
    exact ite_both (.ok hs.close) <| ite_both (.ok hs.close) <| .ok hs

theorem find_filter_ne (l : List Client) (h h' : Nat) :
    (l.filter (·.h != h)).find? (·.h == h') = if h' = h then none else l.find? (·.h == h') := by
  rw [List.find?_filter]
  split
  · subst h'; simp [List.find?_eq_none]
  · congr 1; funext a
    by_cases e : a.h = h' <;> simp [*]

theorem nf_unlink {s : State g} (h : Nat) (hs : CDI h s) : NF (unlink s h) := by
  refine ⟨fun h' c hf => ?_, hs.2⟩
  have : findClient (unlink s h) h' = if h' = h then none else findClient s h' := find_filter_ne _ _ _
  rw [this] at hf
  split at hf
  · cases hf
  · exact .inl (hs.1.toCIo h' c ‹_› hf)

theorem clientReap_ok (cfg : Cfg) (hcfg : cfg.Repaired) (s : State cfg.g) (h : Nat) (hs : CDI h s) :
    Safe NF (clientReap cfg s h) := by
  unfold clientReap
  cases hf : findClient s h with
  | none => exact .ok (hs.nf fun c hc => nomatch hf ▸ hc)
  | some c =>
    dsimp only
    refine ite_ind (fun _ => ?_) fun hst => .ok (hs.nf (findClient_only hf (by simpa using hst)))
    generalize hsa : (if c.allSv != 0 then _ else unlink s h) = sa
    have na : NF sa := (nf_unlink h hs).of_fr (hsa ▸ ite_both (fr_updateServices ..) (Fr.refl _))
    exact ite_both (.map (Safe.mono (channelUpdate_ok cfg hcfg.ret hcfg.fl sa c.dev none false) fun _ f => na.of_fr f)) <| .ok na

theorem handleClient_ok (cfg : Cfg) (hcfg : cfg.Repaired) (s : State cfg.g) (h : Nat) (sel : Option Sel) (ready : Bool)
    (hc : CI none s) (hd : DI s) : ∃ s', handleClient cfg s h sel ready = .ok s' ∧ CI none s' ∧ DI s' :=
  (clientIo_ok cfg hcfg s h sel ready ⟨hc, hd⟩).bind fun (s1, b) h1 => (clientIdle_ok cfg hcfg s1 h b h1).bind fun s2 h2 =>
    (clientTimeout_ok cfg hcfg s2 h h2).bind fun s3 h3 => (clientReap_ok cfg hcfg s3 h h3).mono fun _ n => ⟨n.ci, n.di⟩

theorem forwardData_ok (s : State g) (d : Nat) (hcap : (getDev s d).cap = true) (hd : DI s) :
    ∃ s', forwardData s d = .ok s' ∧ Fr s s' := by
  show Safe (Fr s) _
  unfold forwardData
  dsimp only
  cases hq : (getDev s d).fq with
  | nil => exact .ok (Fr.refl s)
  | cons f rest =>
    have hok := hd d
    have h1 : f.ids.length ≤ 31 := hok.fq f (by rw [hq]; exact List.mem_cons_self ..)
    have h2 := hok.ml hcap
    refine ite_ind (fun _ => by omega) fun _ => .ok (fr_modDevClients _ _ (fun _ => key_ite rfl rfl) (fr_setDev _ _
      (fun x hx => ⟨fun f' hf' => hok.fq f' (by rw [hq]; exact List.mem_cons_of_mem _ hf'), hx.ml⟩) (Fr.refl s)))

theorem nf_init : NF (init g) := by
  constructor
  · intro h c hf; simp [findClient, init] at hf
  · intro d
    unfold getDev init
    simp only [List.getD_eq_getElem?_getD]
    match d with
    | 0 => exact devOk_default
    | 1 => exact devOk_default
    | n + 2 => exact devOk_default

theorem acceptAndCapture_ok (s : State g) (listen : Bool) (d : Nat) (hn : NF s) : Safe NF (acceptAndCapture s listen d) := by
  unfold acceptAndCapture
  dsimp only
  generalize hsa : (if listen then _ else s) = sa
  have na : NF sa := by
    rw [← hsa]
    refine ite_both ?_ hn
    split
    · rename_i h _
      refine ⟨fun h' c hf => ?_, hn.di⟩
      change List.find? (fun x => x.h == h') (s.clients ++ [({ h := h, dev := d, lastIo := s.now } : Client)]) = some c at hf
      rw [List.find?_append] at hf
      cases hf0 : s.clients.find? (·.h == h') with
      | some c0 =>
        rw [hf0] at hf
        simp at hf
        exact hf ▸ hn.ci h' c0 hf0
      | none =>
        rw [hf0] at hf
        simp only [Option.none_or, List.find?_cons] at hf
        split at hf
        · cases hf; exact .inl (.fresh rfl rfl)
        · simp at hf
    · exact hn
  refine ite_ind (fun hcond => ?_) fun _ => .ok na
  simp only [Bool.and_eq_true] at hcond
  exact Safe.mono (forwardData_ok sa d hcond.1 na.di) fun _ f => na.of_fr f

theorem iter_ok (cfg : Cfg) (hcfg : cfg.Repaired) (s : State cfg.g) (hn : NF s) : Safe NF (iter cfg s) := by
  unfold iter
  refine Safe.elim (Safe.mapM (fun c => Safe.map (Q := fun _ => True) (fdSet_ok hcfg.idle c)) s.clients) fun sels _ => ?_
  have hc (s : State cfg.g) (h : Nat) (sel : Option Sel) (ready : Bool) (hn : NF s) : Safe NF (handleClient cfg s h sel ready) :=
    Safe.mono (handleClient_ok cfg hcfg s h sel ready hn.ci hn.di) fun _ n => ⟨n.1, n.2⟩
  exact (Safe.foldlM (P := NF) (fun s d h => acceptAndCapture_ok s true d h) _ hn).bind fun s1 n1 =>
    (Safe.foldlM (P := NF) (fun s p h => hc s p.1 (some p.2.1) p.2.2 h) _ n1).bind fun s2 n2 =>
    (Safe.foldlM (P := NF) (fun s c h => hc s c.h none false h) _ n2).bind fun s3 n3 =>
    ite_both (Safe.mono (channelTimer_ok cfg hcfg.ret hcfg.fl _) fun _ f =>
      (n3.of_fr (fr_of_eq (s' := { s3 with schedAlarm := false }) (Fr.refl s3) rfl rfl)).of_fr f) <| .ok n3

theorem step_ok (cfg : Cfg) (hcfg : cfg.Repaired) (s : State cfg.g) (op : Op) (hn : NF s) : Safe NF (step cfg s op) := by
  have same : ∀ {s' : State cfg.g}, s'.clients = s.clients → s'.devs = s.devs → NF s' :=
    fun hc hd => hn.of_fr (fr_of_eq (Fr.refl s) hc hd)
  unfold step
  refine ite_ind (fun _ => .ok hn) fun hop => ?_
  cases op with
  | iter => exact iter_ok cfg hcfg s hn
  | send h bs => exact .ok (ite_both hn (same rfl rfl))
  | tick n =>
    refine .ok ?_
    split
    · exact ite_both (same rfl rfl) (same rfl rfl)
    · exact same rfl rfl
  | frame d ids =>
    have hlen : ids.length ≤ 31 := by
      simp only [opOk, Bool.not_eq_true, Bool.not_eq_false', Bool.and_eq_true, decide_eq_true_eq] at hop
      exact hop.1.2
    refine .ok (hn.of_fr (fr_setDev _ _ (fun x hx => ⟨fun f hf => ?_, hx.ml⟩) (fr_of_eq (Fr.refl s) rfl rfl)))
    simp only [List.mem_append, List.mem_singleton] at hf
    rcases hf with hf | hf
    · exact hx.fq f hf
    · rw [hf]; exact hlen
  | devCfg d sup api scan gs => exact .ok (hn.of_fr (fr_setDev _ _ (fun _ hx => ⟨hx.1, hx.2⟩) (Fr.refl s)))
  | _ => exact .ok (same rfl rfl)

/-- **no step of the repaired model faults**, for whole histories -/
theorem run_ok (cfg : Cfg) (hcfg : cfg.Repaired) (ops : List Op) : ∃ s, run cfg ops = .ok s ∧ NF s :=
  Safe.foldlM (fun s op h => step_ok cfg hcfg s op h) ops nf_init

end Zvbi.Proxy
