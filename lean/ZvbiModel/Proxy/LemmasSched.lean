import ZvbiModel.Proxy.Model
/-!
# Facts about the scheduler of the model: what `channelSchedule` returns for any pick function, when `timerUpdate` disarms the alarm
-/
namespace Zvbi.Proxy
open Zvbi.Gen.Proxy

variable {g : Core.Guards}

theorem channelSchedule_pick (cfg : Cfg) (s : State cfg.g) (d : Nat) :
    (channelSchedule cfg s d).2 = (cfg.pick s.now ((s.clients.filter (·.dev == d)).map (candOf s))).filter
      (fun h => ((s.clients.filter (·.dev == d)).map (candOf s)).any (fun c => c.h == h && c.cand)) := by
  unfold channelSchedule
  dsimp only
  split
  · split <;> rfl
  · rfl

/-- whatever the pick function returns, `vbi_proxyd_channel_schedule` hands out only a client of the device that asked for
    channel control (valid profile at background priority): the loop only visits those -/
theorem schedule_only_candidates (cfg : Cfg) (s : State cfg.g) (d h : Nat) (hp : (channelSchedule cfg s d).2 = some h) :
    ∃ c ∈ s.clients, c.dev = d ∧ c.h = h ∧ (recOf s c.h).asked = true := by
  rw [channelSchedule_pick, Option.filter_eq_some_iff] at hp
  simpa only [List.any_map, List.any_filter, List.any_eq_true, Function.comp, Bool.and_eq_true, beq_iff_eq, candOf] using hp.2

/-- a state in which no client controls the channel disarms the scheduler's timer: `alarm (0)`.  In particular a client
    that was just granted the token (state GRANT; it becomes GRANTED only when the message is written) does not count -/
theorem timerUpdate_disarmed (s : State g) (hn : ∀ c ∈ s.clients, (tokOf s c.h).controls = false) :
    (timerUpdate s).alarmAt = none ∧ (timerUpdate s).lastAlarm = some 0 := by
  unfold timerUpdate
  generalize hnext : s.clients.foldl _ (0 : Int) = next
  have h0 : next = 0 := hnext ▸ List.foldlRecOn (motive := (· = 0)) _ _ rfl fun b hb c hc => by
    simp only [hn c hc, Bool.and_false, Bool.false_and, Bool.false_eq_true, if_false]
    exact hb
  subst h0
  exact ⟨rfl, rfl⟩

end Zvbi.Proxy
