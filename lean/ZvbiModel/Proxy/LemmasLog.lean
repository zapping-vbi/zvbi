import ZvbiModel.Proxy.Spec
import ZvbiModel.Proxy.TokenInv
/-!
# The log <-> holder invariant of the token machine (for `grant_only_after_return`)

`HolderRec c`: whoever holds device `d` according to the log has a record of device `d` in GRANTED, RECLAIM or RELEASE.
Together with exclusivity (`Inv`) this forces every grant event to happen while the log shows no other holder.
-/
namespace Zvbi.Proxy.Core
open Zvbi.Proxy

def HolderRec (c : CState) : Prop :=
  ∀ d a, holdOf c.log d = some a → ∃ r ∈ c.recs, r.h = a ∧ r.dev = d ∧ Holding r.tok

theorem holdOf_append (l : List Event) (e : Event) : holdOf (l ++ [e]) = holderStep (holdOf l) e := by
  simp [holdOf, List.foldl_append]

theorem grantsOrdered_append_list (hold : Nat → Option Nat) (l l' : List Event) :
    grantsOrdered hold (l ++ l') = (grantsOrdered hold l && grantsOrdered (l.foldl holderStep hold) l') := by
  induction l generalizing hold with
  | nil => simp [grantsOrdered]
  | cons a l ih => simp [grantsOrdered, ih, Bool.and_assoc]

theorem grantsOrdered_append (hold : Nat → Option Nat) (l : List Event) (e : Event) :
    grantsOrdered hold (l ++ [e]) = (grantsOrdered hold l && grantOk (l.foldl holderStep hold) e) := by
  simp [grantsOrdered_append_list, grantsOrdered]

theorem holderStep_eq_some {hold : Nat → Option Nat} {e : Event} {x a : Nat} :
    holderStep hold e x = some a ↔
      e = .granted a x ∨ ((∀ y, e ≠ .granted y x) ∧ hold x = some a ∧ e.frees a = false) := by
  cases e with
  | granted y d =>
    simp only [holderStep, Event.frees]
    by_cases hx : x = d
    · subst hx; simp
    · simp [hx, Ne.symm hx]
  | _ =>
    simp only [holderStep, reduceCtorEq, false_or, ne_eq, not_false_eq_true, implies_true, true_and]
    cases hold x with
    | none => simp
    | some b =>
      dsimp only
      refine ⟨fun h => ?_, fun h => by rw [Option.some.inj h.1, if_neg (by simp [h.2])]⟩
      split at h
      · cases h
      · exact ⟨h, by cases h; exact Bool.eq_false_iff.mpr ‹_›⟩

theorem grantOk_free {hold : Nat → Option Nat} {e : Event} (hng : ∀ x d, e ≠ .granted x d) : grantOk hold e = true := by
  cases e with
  | granted y d => exact absurd rfl (hng y d)
  | _ => rfl

theorem holderRec_nolog {c c' : CState} {h : Nat} (hlog : c'.log = c.log)
    (hkeep : ∀ r ∈ c.recs, r.h ≠ h → r ∈ c'.recs)
    (hh : ∀ r ∈ c.recs, r.h = h → Holding r.tok → ∃ r' ∈ c'.recs, r'.h = h ∧ r'.dev = r.dev ∧ Holding r'.tok)
    (hr : HolderRec c) : HolderRec c' := by
  intro d a ha
  rw [hlog] at ha
  obtain ⟨r, m, e1, e2, e3⟩ := hr d a ha
  by_cases e : r.h = h
  · obtain ⟨r', m', f1, f2, f3⟩ := hh r m e e3
    exact ⟨r', m', by rw [f1, ← e, e1], by rw [f2, e2], f3⟩
  · exact ⟨r, hkeep r m e, e1, e2, e3⟩

theorem logStep_free {c c' : CState} {e : Event} {h : Nat} (hlog : c'.log = c.log ++ [e]) (hfr : e.frees h = true)
    (hkeep : ∀ r ∈ c.recs, r.h ≠ h → r ∈ c'.recs) (ho : grantsOrdered (fun _ => none) c.log = true) (hr : HolderRec c) :
    grantsOrdered (fun _ => none) c'.log = true ∧ HolderRec c' := by
  have hng : ∀ x d, e ≠ .granted x d := fun x d he => by rw [he] at hfr; cases hfr
  refine ⟨?_, fun d a ha => ?_⟩
  · rw [hlog, grantsOrdered_append, ho, grantOk_free hng]; rfl
  · rw [hlog, holdOf_append] at ha
    obtain e' | ⟨_, h1, h2⟩ := holderStep_eq_some.mp ha
    · exact absurd e' (hng a d)
    obtain ⟨r, m, e1, e2, e3⟩ := hr d a h1
    exact ⟨r, hkeep r m (by rw [e1]; rintro rfl; rw [hfr] at h2; cases h2), e1, e2, e3⟩

theorem holderRec_upd {c : CState} (hu : Uniq c) {r : Rec} (m : r ∈ c.recs) {f : Rec → Rec} (hf : Keeps f)
    (hk : Holding r.tok → Holding (f r).tok) (hr : HolderRec c) : HolderRec (upd c r.h f) := by
  refine holderRec_nolog (c := c) (h := r.h) rfl (fun x hx hne => mem_upd_of_ne hx hne) (fun x hx he hold => ?_) hr
  cases uniq_eq hu hx m he
  exact ⟨_, mem_upd_self m, (hf r).1, (hf r).2.1, hk hold⟩

structure LogInv (c : CState) : Prop where
  inv : Inv c
  ordered : grantsOrdered (fun _ => none) c.log = true
  holder : HolderRec c

theorem logInv_init : LogInv {} :=
  ⟨inv_init, rfl, by intro d a h; simp [holdOf] at h⟩

/-- every step keeps the log in order and its holders on record (both repairs present) -/
theorem Step.log {g : Guards} (hret : g.ret = true) (hrel : g.rel = true) {c c' : CState} (hs : Step g c c') (hi : Inv c)
    (hl : grantsOrdered (fun _ => none) c.log = true ∧ HolderRec c) : grantsOrdered (fun _ => none) c'.log = true ∧ HolderRec c' := by
  induction hs with
  | refl => exact hl
  | trans s1 _ ih1 ih2 => exact ih2 (s1.inv hret hi) (ih1 hi hl)
  | @add c h d _ =>
    exact ⟨hl.1, holderRec_nolog (c := c) (h := h) rfl (fun r m _ => by simp [m]) (fun r m e hold => ⟨r, by simp [m], e, rfl, hold⟩) hl.2⟩
  | @remove c r _ =>
    exact logStep_free (c := c) (h := r.h) rfl (beq_self_eq_true r.h) (fun x m hne => by simp [addLog, List.mem_filter, m, hne]) hl.1 hl.2
  | quiet f hr hk _ hh => exact ⟨hl.1, holderRec_upd hi.uniq hr hk (hh hrel) hl.2⟩
  | fresh hr _ ho =>
    exact ⟨hl.1, holderRec_upd hi.uniq hr (keeps_tok _) (fun hold => nomatch ho ▸ owners_mem.mpr ⟨hr, rfl, hold.ne_none⟩) hl.2⟩
  | @free c r f e _ _ hfr _ => exact logStep_free (c := c) rfl hfr (fun _ m hne => mem_upd_of_ne m hne) hl.1 hl.2
  | @granted c r hr ht =>
    have hl' : (addLog (setTok c r.h .granted) (.granted r.h r.dev)).log = c.log ++ [.granted r.h r.dev] := rfl
    refine ⟨?_, fun d a ha => ?_⟩
    · -- the grant is in order: a holder of the device according to the log has a record with a token state, which by
      -- exclusivity is the grantee's
      rw [hl', grantsOrdered_append, hl.1]
      simp only [Bool.true_and, grantOk]
      show (match holdOf c.log r.dev with | none => true | some a => a == r.h) = true
      split
      · rfl
      · rename_i a ha
        obtain ⟨ra, ma, e1, e2, e3⟩ := hl.2 r.dev a ha
        have := hi.excl ra ma r hr e2 e3.ne_none (by rw [ht]; decide)
        simp [← e1, this]
    · rw [hl', holdOf_append] at ha
      obtain e | ⟨hng, ha, _⟩ := holderStep_eq_some.mp ha
      · cases e
        exact ⟨_, mem_upd_self hr, rfl, rfl, Or.inl rfl⟩
      · obtain ⟨ra, ma, e1, e2, e3⟩ := hl.2 d a ha
        exact ⟨ra, mem_upd_of_ne ma fun e => hng r.h (by rw [← e2, uniq_eq hi.uniq ma hr e]), e1, e2, e3⟩

theorem logInv_apply (g : Guards) (hret : g.ret = true) (hrel : g.rel = true) {c : CState} (hi : LogInv c) (op : COp) :
    LogInv (apply g c op) :=
  have hs := step_apply g hi.inv.uniq op
  have hl := hs.log hret hrel hi.inv ⟨hi.ordered, hi.holder⟩
  ⟨hs.inv hret hi.inv, hl.1, hl.2⟩

theorem logInv_reachable (g : Guards) (hret : g.ret = true) (hrel : g.rel = true) {c : CState} (hr : Reachable g c) : LogInv c := by
  induction hr with
  | init => exact logInv_init
  | step op _ ih => exact logInv_apply g hret hrel ih op

theorem hold_persist (l : List Event) (hold : Nat → Option Nat) (a d : Nat) (hf : ∀ e ∈ l, e.frees a = false)
    (hno : ∀ x, Event.granted x d ∉ l) (h0 : hold d = some a) : (l.foldl holderStep hold) d = some a := by
  induction l generalizing hold with
  | nil => exact h0
  | cons e l ih =>
    simp only [List.foldl_cons]
    apply ih _ (fun e' m => hf e' (List.mem_cons_of_mem _ m)) (fun x m => hno x (List.mem_cons_of_mem _ m))
    exact holderStep_eq_some.mpr (.inr ⟨fun y he => hno y (he ▸ List.mem_cons_self ..), h0, hf e (List.mem_cons_self ..)⟩)

/-- **the log reading of grant_only_after_return**: if the log contains a grant to `a` on device `d` and later a grant to
    another client `b` on `d`, with no grant on `d` in between, then in between there is an event that frees `a`:
    `a`'s return/release message, its reclaim confirmation, a new token request of `a`, or `a`'s disconnect -/
theorem grant_preceded_by_free (hold : Nat → Option Nat) (l1 l2 l3 : List Event) (a b d : Nat)
    (h : grantsOrdered hold (l1 ++ Event.granted a d :: (l2 ++ Event.granted b d :: l3)) = true) (hab : a ≠ b)
    (hno : ∀ x, Event.granted x d ∉ l2) : ∃ e ∈ l2, e.frees a = true := by
  apply Decidable.byContradiction
  intro hcon
  have hf : ∀ e ∈ l2, e.frees a = false := by
    intro e m
    cases hfe : e.frees a with
    | false => rfl
    | true => exact absurd ⟨e, m, hfe⟩ hcon
  rw [grantsOrdered_append_list] at h
  simp only [grantsOrdered, Bool.and_eq_true] at h
  obtain ⟨_, _, h2⟩ := h
  rw [grantsOrdered_append_list] at h2
  simp only [grantsOrdered, Bool.and_eq_true] at h2
  obtain ⟨_, h3, _⟩ := h2
  have hp := hold_persist l2 (holderStep (List.foldl holderStep hold l1) (Event.granted a d)) a d hf hno (holderStep_eq_some.mpr (.inl rfl))
  simp only [grantOk, hp] at h3
  exact hab (by simpa using h3)

end Zvbi.Proxy.Core
