import ZvbiModel.Proxy.Core
import ZvbiModel.Ite
/-!
# Invariants of the token machine (`Core`)

`Step g c c'` lists the kinds of change an operation can make, with the conditions under which `apply` and `grant` make
them (`step_apply`); an invariant is shown to survive each kind (`Step.inv`, and `Step.log` in `Proxy/LemmasLog.lean`) and
so holds in every `Reachable` state.
-/
namespace Zvbi.Proxy

namespace Core

/-- handles are unique -/
def Uniq (c : CState) : Prop := c.recs.Pairwise (fun a b => a.h ≠ b.h)

/-- at most one record per device has a token state -/
def Excl (c : CState) : Prop :=
  ∀ r1 ∈ c.recs, ∀ r2 ∈ c.recs, r1.dev = r2.dev → r1.tok ≠ .none → r2.tok ≠ .none → r1.h = r2.h

/-- every record with a token state asked for channel control -/
def AskedInv (c : CState) : Prop := ∀ r ∈ c.recs, r.tok ≠ .none → r.asked = true

theorem find_some {c : CState} {h : Nat} {r : Rec} (hf : find c h = some r) : r ∈ c.recs ∧ r.h = h := by
  unfold find at hf
  have h1 := List.mem_of_find?_eq_some hf
  have h2 := List.find?_some hf
  exact ⟨h1, by simpa using h2⟩

def mapRecs (c : CState) (f : Rec → Rec) : CState := { c with recs := c.recs.map f }

def upd (c : CState) (h : Nat) (f : Rec → Rec) : CState := mapRecs c fun x => if x.h == h then f x else x

theorem uniq_map {c : CState} {f : Rec → Rec} (hf : ∀ r, (f r).h = r.h) (hu : Uniq c) : Uniq (mapRecs c f) := by
  unfold Uniq mapRecs at *
  simp only [List.pairwise_map]
  exact hu.imp (fun {a b} hab => by rw [hf a, hf b]; exact hab)

theorem setTok_eq (c : CState) (h : Nat) (t : Tok) :
    setTok c h t = mapRecs c (fun r => if r.h == h then { r with tok := t } else r) := rfl

theorem uniq_setTok {c : CState} (h : Nat) (t : Tok) (hu : Uniq c) : Uniq (setTok c h t) := by
  rw [setTok_eq]
  apply uniq_map _ hu
  intro r; split <;> rfl

theorem uniq_addLog {c : CState} (e : Event) (hu : Uniq c) : Uniq (addLog c e) := hu

theorem uniq_eq {c : CState} (hu : Uniq c) {r1 r2 : Rec} (h1 : r1 ∈ c.recs) (h2 : r2 ∈ c.recs) (hh : r1.h = r2.h) : r1 = r2 := by
  unfold Uniq at hu
  generalize c.recs = l at hu h1 h2
  induction l with
  | nil => cases h1
  | cons a l ih =>
    rw [List.pairwise_cons] at hu
    rcases List.mem_cons.mp h1 with e1 | m1 <;> rcases List.mem_cons.mp h2 with e2 | m2
    · rw [e1, e2]
    · exact absurd (e1 ▸ hh) (hu.1 r2 m2)
    · exact absurd (e2 ▸ hh.symm) (hu.1 r1 m1)
    · exact ih hu.2 m1 m2

theorem mem_map_tok {c : CState} {f : Rec → Rec} {r' : Rec} (hm : r' ∈ (mapRecs c f).recs) : ∃ r ∈ c.recs, r' = f r := by
  unfold mapRecs at hm
  simp only [List.mem_map] at hm
  obtain ⟨r, hr, e⟩ := hm
  exact ⟨r, hr, e.symm⟩

theorem owners_mem {c : CState} {d : Nat} {r : Rec} : r ∈ owners c d ↔ r ∈ c.recs ∧ r.dev = d ∧ r.tok ≠ .none := by
  unfold owners
  simp [List.mem_filter]

/-- `token_exclusive` for the token machine: the list `vbi_proxyd_get_token_owner` walks has at most one entry -/
theorem owners_le_one {c : CState} (hu : Uniq c) (hx : Excl c) (d : Nat) : (owners c d).length ≤ 1 := by
  have hsub : (owners c d).Pairwise (fun a b => a.h ≠ b.h) := by
    unfold owners; exact List.Pairwise.filter _ hu
  match ho : owners c d with
  | [] => simp
  | [_] => simp
  | a :: b :: rest =>
    exfalso
    rw [ho] at hsub
    have hab : a.h ≠ b.h := (List.pairwise_cons.mp hsub).1 b (by simp)
    have ma : a ∈ owners c d := by rw [ho]; simp
    have mb : b ∈ owners c d := by rw [ho]; simp
    obtain ⟨ma1, ma2, ma3⟩ := owners_mem.mp ma
    obtain ⟨mb1, mb2, mb3⟩ := owners_mem.mp mb
    exact hab (hx a ma1 b mb1 (by rw [ma2, mb2]) ma3 mb3)

structure Inv (c : CState) : Prop where
  uniq : Uniq c
  excl : Excl c
  asked : AskedInv c

theorem inv_init : Inv {} := ⟨List.Pairwise.nil, (fun _ h => by cases h), (fun _ h => by cases h)⟩

theorem Inv.addLog {c : CState} (hi : Inv c) (e : Event) : Inv (addLog c e) := ⟨hi.uniq, hi.excl, hi.asked⟩

/-- `Excl` and `AskedInv` speak only of the records that have a token state -/
theorem Inv.of_sub {c c' : CState} (hi : Inv c) (hu : Uniq c') (hs : ∀ x ∈ c'.recs, x.tok ≠ .none → x ∈ c.recs) : Inv c' :=
  ⟨hu, fun r1 m1 r2 m2 hd h1 h2 => hi.excl r1 (hs r1 m1 h1) r2 (hs r2 m2 h2) hd h1 h2, fun x hx ht => hi.asked x (hs x hx ht) ht⟩

theorem inv_update {c : CState} (hi : Inv c) (h : Nat) (f : Rec → Rec) (hf : ∀ x, (f x).h = x.h ∧ (f x).dev = x.dev)
    (hgain : ∀ x ∈ c.recs, x.h = h → (f x).tok ≠ .none →
      (f x).asked = true ∧ ∀ y ∈ c.recs, y.dev = x.dev → y.tok ≠ .none → y.h = h) :
    Inv (upd c h f) := by
  have hh : ∀ x : Rec, (if x.h == h then f x else x).h = x.h := fun x => by split <;> simp [hf]
  have hd : ∀ x : Rec, (if x.h == h then f x else x).dev = x.dev := fun x => by split <;> simp [hf]
  have tok : ∀ x : Rec, (if x.h == h then f x else x).tok ≠ .none → (x.h = h ∧ (f x).tok ≠ .none) ∨ (x.h ≠ h ∧ x.tok ≠ .none) :=
    fun x ht => by
      by_cases e : x.h = h
      · exact .inl ⟨e, by simpa [e] using ht⟩
      · exact .inr ⟨e, by simpa [e] using ht⟩
  refine ⟨uniq_map hh hi.uniq, fun a ha b hb hdev h1 h2 => ?_, fun x hx hxt => ?_⟩
  · obtain ⟨r1, m1, rfl⟩ := mem_map_tok ha
    obtain ⟨r2, m2, rfl⟩ := mem_map_tok hb
    rw [hh, hh]
    rw [hd, hd] at hdev
    rcases tok r1 h1 with ⟨e1, t1⟩ | ⟨e1, t1⟩ <;> rcases tok r2 h2 with ⟨e2, t2⟩ | ⟨e2, t2⟩
    · exact e1.trans e2.symm
    · exact e1.trans ((hgain r1 m1 e1 t1).2 r2 m2 hdev.symm t2).symm
    · exact ((hgain r2 m2 e2 t2).2 r1 m1 hdev t1).trans e2.symm
    · exact hi.excl r1 m1 r2 m2 hdev t1 t2
  · obtain ⟨y, my, rfl⟩ := mem_map_tok hx
    rcases tok y hxt with ⟨e, t⟩ | ⟨e, t⟩
    · simp only [e, beq_self_eq_true, if_true]; exact (hgain y my e t).1
    · simp only [beq_iff_eq, e, if_false]; exact hi.asked y my t

/-- the token states in which a client that was sent a grant message still holds the token -/
def Holding (t : Tok) : Prop := t = .granted ∨ t = .reclaim ∨ t = .release

instance (t : Tok) : Decidable (Holding t) := inferInstanceAs (Decidable (_ ∨ _ ∨ _))

theorem Holding.ne_none {t : Tok} (h : Holding t) : t ≠ .none := by
  rintro rfl; revert h; decide

def Keeps (f : Rec → Rec) : Prop := ∀ x, (f x).h = x.h ∧ (f x).dev = x.dev ∧ ((f x).tok ≠ .none → (f x).asked = x.asked)

theorem keeps_tok (t : Tok) : Keeps ({ · with tok := t }) := fun _ => ⟨rfl, rfl, fun _ => rfl⟩

/-- the record that has a token state may change it: by exclusivity no other record of its device has one -/
theorem inv_keep {c : CState} (hi : Inv c) {r : Rec} (hr : r ∈ c.recs) {f : Rec → Rec} (hk : Keeps f)
    (hin : (f r).tok ≠ .none → r.tok ≠ .none) : Inv (upd c r.h f) :=
  inv_update hi r.h f (fun x => ⟨(hk x).1, (hk x).2.1⟩) fun x mx e ht => by
    cases uniq_eq hi.uniq mx hr e
    exact ⟨((hk r).2.2 ht).trans (hi.asked r hr (hin ht)), fun y hy hd hyt => hi.excl y hy r hr hd hyt (hin ht)⟩

theorem mem_upd_of_ne {c : CState} {h : Nat} {f : Rec → Rec} {x : Rec} (hx : x ∈ c.recs) (hne : x.h ≠ h) : x ∈ (upd c h f).recs :=
  List.mem_map.mpr ⟨x, hx, by simp [hne]⟩

theorem mem_upd_self {c : CState} {f : Rec → Rec} {r : Rec} (hr : r ∈ c.recs) : f r ∈ (upd c r.h f).recs :=
  List.mem_map.mpr ⟨r, hr, by simp⟩

theorem mem_setTok_of_ne {c : CState} {h : Nat} {t : Tok} {x : Rec} (hx : x ∈ c.recs) (hne : x.h ≠ h) : x ∈ (setTok c h t).recs :=
  mem_upd_of_ne hx hne

theorem owners_single {c : CState} {d : Nat} {o : Rec} (ho : owners c d = [o]) :
    o ∈ c.recs ∧ o.tok ≠ .none ∧ ∀ x ∈ c.recs, x.dev = d → x.tok ≠ .none → x = o := by
  obtain ⟨m1, _, m3⟩ := owners_mem.mp (ho ▸ List.mem_singleton_self o : o ∈ owners c d)
  exact ⟨m1, m3, fun x hx hd ht => List.mem_singleton.mp (ho ▸ owners_mem.mpr ⟨hx, hd, ht⟩)⟩

/-- What an operation of the daemon can do to the token machine, as far as the invariants can tell.  The conditions are
    those under which `apply` and `grant` make the change; `g` enters where a repair rules a change out. -/
inductive Step (g : Guards) : CState → CState → Prop
  | refl (c : CState) : Step g c c
  | trans {a b c : CState} : Step g a b → Step g b c → Step g a c
  | add {c : CState} (h d : Nat) : (∀ x ∈ c.recs, x.h ≠ h) → Step g c { c with recs := c.recs ++ [{ h := h, dev := d }] }
  | remove {c : CState} {r : Rec} : r ∈ c.recs → Step g c (addLog { c with recs := c.recs.filter (·.h != r.h) } (.gone r.h r.dev))
  /-- no message: a record gains no token state, and a client that holds the token still holds it -/
  | quiet {c : CState} {r : Rec} (f : Rec → Rec) : r ∈ c.recs → Keeps f → ((f r).tok ≠ .none → r.tok ≠ .none) →
      (g.rel = true → Holding r.tok → Holding (f r).tok) → Step g c (upd c r.h f)
  /-- the free token of a device goes to a client that asked -/
  | fresh {c : CState} {r : Rec} : r ∈ c.recs → r.asked = true → owners c r.dev = [] → Step g c (setTok c r.h .grant)
  /-- a message of the client gives the token up -/
  | free {c : CState} {r : Rec} (f : Rec → Rec) (e : Event) : r ∈ c.recs → Keeps f → e.frees r.h = true →
      (g.ret = true → (f r).tok ≠ .none → r.tok ≠ .none) → Step g c (addLog (upd c r.h f) e)
  | granted {c : CState} {r : Rec} : r ∈ c.recs → r.tok = .grant → Step g c (addLog (setTok c r.h .granted) (.granted r.h r.dev))

theorem Step.tok {g : Guards} {c : CState} {r : Rec} (hr : r ∈ c.recs) (t : Tok) (hin : t ≠ .none → r.tok ≠ .none)
    (hh : g.rel = true → Holding r.tok → Holding t) : Step g c (setTok c r.h t) :=
  .quiet _ hr (keeps_tok t) hin hh

theorem step_grant (g : Guards) {c : CState} (hu : Uniq c) {r : Rec} (hr : r ∈ c.recs) (ha : r.asked = true) : Step g c (grant g c r) := by
  unfold grant
  split
  · rename_i htok
    split
    · exact .fresh hr ha ‹_›
    · rename_i o ho
      obtain ⟨mo, hot, only⟩ := owners_single ho
      refine ite_ind (fun hc => ?_) fun _ => ite_both (.tok mo _ (fun _ => hot) fun _ _ => .inr (.inl rfl)) (.refl c)
      -- the owner gives the token up at once
      have hne : r.h ≠ o.h := fun e => hot (uniq_eq hu hr mo e ▸ htok)
      refine .trans (.tok mo .none (fun h => absurd rfl h) fun _ hold => ?_) (.fresh (mem_upd_of_ne hr hne) ha ?_)
      · rcases hold with e | e | e <;> simp [e] at hc
      · refine List.filter_eq_nil_iff.mpr fun x hx => ?_
        obtain ⟨y, my, rfl⟩ := mem_map_tok hx
        by_cases e : y.h = o.h
        · simp [e]
        · simp only [beq_iff_eq, e, if_false, Bool.and_eq_true, bne_iff_ne, not_and, Decidable.not_not]
          exact fun hd => Decidable.byContradiction fun ht => e (by rw [only y my hd ht])
    · exact .refl c
  · exact .tok hr _ (fun _ => by rw [‹r.tok = .reclaim›]; decide) fun _ _ => .inl rfl
  · exact ite_ind (fun _ => .refl c) fun hn => .tok hr _ (fun _ => by rw [‹r.tok = .release›]; decide)
      fun hrel => absurd hrel (by simpa using hn)
  · exact .refl c

theorem step_apply (g : Guards) {c : CState} (hu : Uniq c) (op : COp) : Step g c (apply g c op) := by
  have found : ∀ (h : Nat) {body : Rec → CState}, (∀ r ∈ c.recs, r.h = h → Step g c (body r)) →
      Step g c (match find c h with | some r => body r | none => c) := fun h _ hb => by
    split
    · rename_i r hf; exact hb r (find_some hf).1 (find_some hf).2
    · exact .refl c
  have clear : ∀ {f : Rec → Rec}, (∀ x, f x = { f x with h := x.h, dev := x.dev, tok := .none }) → Keeps f :=
    fun hf x => by rw [hf x]; exact ⟨rfl, rfl, fun h => absurd rfl h⟩
  cases op with
  | add h d =>
    refine ite_ind (fun _ => .refl c) fun hn => .add h d fun x hx e => hn ?_
    unfold find
    rw [List.find?_isSome]
    exact ⟨x, hx, by simpa using e⟩
  | remove h => exact found h fun r hr e => e ▸ .remove hr
  | grant h => exact found h fun r hr _ => ite_ind (step_grant g hu hr) fun _ => .refl c
  | stopped h =>
    exact found h fun r hr e => e ▸ ite_ind (fun ht => .tok hr _ (fun _ => by rw [eq_of_beq ht]; decide) fun _ _ => .inr (.inl rfl)) fun _ =>
      ite_ind (fun ht => .tok hr _ (fun h => absurd rfl h) fun _ hold => by rw [eq_of_beq ht] at hold; exact absurd hold (by decide)) fun _ => .refl c
  | tokenReq h prio valid => exact found h fun r hr e => e ▸ .free _ _ hr (clear fun _ => rfl) (beq_self_eq_true _) fun _ h => absurd rfl h
  | release h =>
    exact found h fun r hr e => e ▸ ite_ind (fun _ => .free _ _ hr (clear fun _ => rfl) (beq_self_eq_true _) fun _ h => absurd rfl h)
      fun ht => .quiet _ hr (clear fun _ => rfl) (fun h => absurd rfl h) fun _ hold => absurd (by simpa using ht) hold.ne_none
  | ret h =>
    exact found h fun r hr e => e ▸ ite_ind (fun _ => .refl c) fun hc =>
      .free _ _ hr (keeps_tok _) (beq_self_eq_true _) fun hg _ e => hc (by simp [hg, e])
  | reclaimCnf h =>
    exact found h fun r hr e => e ▸ ite_ind (fun _ => .free _ _ hr (keeps_tok _) (beq_self_eq_true _) fun _ h => absurd rfl h) fun _ => .refl c
  | sendReclaim h =>
    exact found h fun r hr e => e ▸ ite_ind (fun ht => .tok hr _ (fun _ => by rw [eq_of_beq ht]; decide) fun _ _ => .inr (.inr rfl)) fun _ => .refl c
  | sendGrant h => exact found h fun r hr e => e ▸ ite_ind (fun ht => .granted hr (eq_of_beq ht)) fun _ => .refl c

/-- every step keeps the invariants, provided a token can only be "returned" by a client that has a token state -/
theorem Step.inv {g : Guards} (hg : g.ret = true) {c c' : CState} (hs : Step g c c') (hi : Inv c) : Inv c' := by
  induction hs with
  | refl => exact hi
  | trans _ _ ih1 ih2 => exact ih2 (ih1 hi)
  | add h d hnone =>
    refine hi.of_sub (List.pairwise_append.mpr ⟨hi.uniq, List.pairwise_singleton _ _, fun a ha b hb => ?_⟩) fun x hx ht => ?_
    · cases List.mem_singleton.mp hb; exact hnone a ha
    · exact (List.mem_append.mp hx).elim id fun hm => absurd (List.mem_singleton.mp hm ▸ rfl) ht
  | remove _ => exact hi.of_sub (hi.uniq.filter _) fun x hx _ => (List.mem_filter.mp hx).1
  | quiet f hr hk hin _ => exact inv_keep hi hr hk hin
  | @fresh c r hr ha ho =>
    exact inv_update hi r.h _ (fun _ => ⟨rfl, rfl⟩) fun x mx e _ => by
      cases uniq_eq hi.uniq mx hr e
      exact ⟨ha, fun y hy hd ht => nomatch ho ▸ owners_mem.mpr ⟨hy, hd, ht⟩⟩
  | free f e hr hk _ hin => exact (inv_keep hi hr hk (hin hg)).addLog e
  | granted hr ht => exact (inv_keep hi hr (keeps_tok _) fun _ => by rw [ht]; decide).addLog _

theorem inv_apply (g : Guards) (hg : g.ret = true) {c : CState} (hi : Inv c) (op : COp) : Inv (apply g c op) :=
  (step_apply g hi.uniq op).inv hg hi

theorem recs_remove (g : Guards) (c : CState) (h : Nat) : (apply g c (.remove h)).recs = c.recs.filter (·.h != h) := by
  show (match find c h with | some r => addLog { c with recs := c.recs.filter (·.h != h) } (.gone h r.dev) | none => c).recs = _
  split
  · rfl
  · rename_i hn
    unfold find at hn
    rw [List.find?_eq_none] at hn
    exact (List.filter_eq_self.mpr fun r hr => by simpa using hn r hr).symm

theorem inv_reachable (g : Guards) (hg : g.ret = true) {c : CState} (hr : Reachable g c) : Inv c := by
  induction hr with
  | init => exact inv_init
  | step op _ ih => exact inv_apply g hg ih op

end Core
end Zvbi.Proxy
