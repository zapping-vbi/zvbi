import ZvbiModel.Proxy.Model
import ZvbiModel.Proxy.TokenInv
import ZvbiModel.Safe
/-!
# The invariants behind no_fault and the frame rules of the model's bookkeeping functions

`RI c`     : read-state invariant of one client record (what `vbi_proxy_msg_handle_read` relies on)
`CI x s`   : every record `findClient` can return satisfies `RI`, except a CLOSED record of handle `x` (the connection that
             is being torn down in the current pass of `handleClient`)
`DI s`     : every device: queued frames have at most 31 lines, an open device has `max_lines >= 31`
`Fr s s'`  : frame relation "s' differs from s only in ways that keep `CI` and `DI`" - reflexive, transitive; the
             bookkeeping functions of the model are `Fr` steps, so the invariants pass through them.  The rules for the
             functions that other functions call with a state they have already changed have the form
             `Fr s0 s → Fr s0 (f s ..)`, so that the proof for a composite state expression is read off the expression,
             outermost function first; the others (`fr_updateServices`, `fr_chnPrep`, `fr_takeIoctl`) say `Fr s (f s ..).1`.
`DQ d s s'`: the weaker device frame that holds while device `d` is being opened and closed (`startAcq` sets `cap` before
             `max_lines` is known); with `Settled d` at the end it gives back `Fr` (`DQ.toFr`).
-/
namespace Zvbi.Proxy
open Zvbi.Gen.Proxy

variable {g : Core.Guards}

/-- the read state `vbi_proxy_msg_handle_read` relies on: no length before the header is complete; afterwards a legal
    length and an offset inside the message -/
def RI (c : Client) : Prop :=
  (c.readOff < hdr → c.readLen = 0) ∧ (hdr ≤ c.readOff → c.readLen ≤ msg ∧ c.readOff ≤ c.readLen)

theorem RI.fresh {c : Client} (ho : c.readOff = 0) (hl : c.readLen = 0) : RI c :=
  ⟨fun _ => hl, fun h => absurd (ho ▸ h) (by decide)⟩

/-- what the invariant looks at -/
def key (c : Client) : Nat × Bool × Nat × Nat := (c.h, c.st == .closed, c.readOff, c.readLen)

theorem key_ite {p : Prop} [Decidable p] {a b c : Client} (ha : key a = key c) (hb : key b = key c) :
    key (if p then a else b) = key c :=
  ite_both (P := (key · = key c)) ha hb

theorem key_eq {a b : Client} (h : key a = key b) :
    a.h = b.h ∧ (a.st = .closed ↔ b.st = .closed) ∧ a.readOff = b.readOff ∧ a.readLen = b.readLen := by
  simp only [key, Prod.mk.injEq] at h
  obtain ⟨h1, h2, h3, h4⟩ := h
  exact ⟨h1, by rw [← beq_iff_eq (a := a.st), h2, beq_iff_eq], h3, h4⟩

theorem RI_of_key {a b : Client} (h : key a = key b) (hr : RI a) : RI b := by
  obtain ⟨_, _, h3, h4⟩ := key_eq h
  unfold RI at *
  rw [← h3, ← h4]; exact hr

def CI (x : Option Nat) (s : State g) : Prop :=
  ∀ h c, findClient s h = some c → RI c ∨ (x = some h ∧ c.st = .closed)

/-- what `vbi_proxyd_forward_data` asserts of a device: `line_count <= max_lines`.  31 is the most lines the harness puts into
    one frame (`opOk` of `Op.frame`); an open device has `max_lines = 32`, the `count[0] + count[1]` of the fake device, once
    `updTail` has run. -/
structure DevOk (x : Dev) : Prop where
  fq : ∀ f ∈ x.fq, f.ids.length ≤ 31
  ml : x.cap = true → 31 ≤ x.maxLines

def DI (s : State g) : Prop := ∀ d, DevOk (getDev s d)

def KP (s s' : State g) : Prop := ∀ h, (findClient s' h).map key = (findClient s h).map key

def DP (s s' : State g) : Prop := ∀ d, DevOk (getDev s d) → DevOk (getDev s' d)

structure Fr (s s' : State g) : Prop where
  kp : KP s s'
  dp : DP s s'

theorem Fr.refl (s : State g) : Fr s s := ⟨fun _ => rfl, fun _ h => h⟩
theorem Fr.trans {a b c : State g} (h1 : Fr a b) (h2 : Fr b c) : Fr a c :=
  ⟨fun h => (h2.kp h).trans (h1.kp h), fun d h => h2.dp d (h1.dp d h)⟩

theorem KP.find {s s' : State g} (hk : KP s s') {h : Nat} {c' : Client} (hf : findClient s' h = some c') :
    ∃ c, findClient s h = some c ∧ key c' = key c := by
  have := hk h
  rw [hf, Option.map_some, eq_comm, Option.map_eq_some_iff] at this
  obtain ⟨c, hc, e⟩ := this
  exact ⟨c, hc, e.symm⟩

theorem Fr.ci {s s' : State g} {x : Option Nat} (h : Fr s s') (hc : CI x s) : CI x s' := by
  intro h' c' hf
  obtain ⟨c, hf0, hk⟩ := h.kp.find hf
  exact (hc h' c hf0).imp (RI_of_key hk.symm) fun ⟨e1, e2⟩ => ⟨e1, (key_eq hk).2.1.mpr e2⟩

theorem Fr.di {s s' : State g} (h : Fr s s') (hd : DI s) : DI s' := fun d => h.dp d (hd d)

theorem CI.ri {s : State g} (hc : CI none s) {h : Nat} {c : Client} (hf : findClient s h = some c) : RI c :=
  (hc h c hf).elim id fun ⟨e, _⟩ => nomatch e

theorem ci_weaken {s : State g} (x : Option Nat) (hc : CI none s) : CI x s :=
  fun _ _ hf => .inl (hc.ri hf)

theorem find_map_h (l : List Client) (gf : Client → Client) (hh : ∀ c, (gf c).h = c.h) (h : Nat) :
    (l.map gf).find? (·.h == h) = (l.find? (·.h == h)).map gf := by
  induction l with
  | nil => rfl
  | cons a l ih =>
    simp only [List.map_cons, List.find?_cons, hh]
    split
    · rfl
    · exact ih

theorem findClient_some {s : State g} {h : Nat} {c : Client} (hf : findClient s h = some c) : c ∈ s.clients ∧ c.h = h := by
  unfold findClient at hf
  exact ⟨List.mem_of_find?_eq_some hf, by simpa using List.find?_some hf⟩

theorem findClient_only {s : State g} {h : Nat} {c0 : Client} (hf : findClient s h = some c0) {P : Client → Prop} (hp : P c0) :
    ∀ c, findClient s h = some c → P c :=
  fun _ hc => Option.some.inj (hf.symm.trans hc) ▸ hp

theorem findClient_modClient (s : State g) (h : Nat) (f : Client → Client) (h' : Nat) (hh : ∀ c, c.h = h → (f c).h = h) :
    findClient (modClient s h f) h' = (findClient s h').map (fun c => if c.h == h then f c else c) := by
  refine find_map_h _ _ (fun c => ?_) h'
  by_cases e : c.h = h
  · simp [e, hh c e]
  · simp [e]

theorem kp_map {s s' : State g} (gf : Client → Client) (hk : ∀ c, key (gf c) = key c) (hs : s'.clients = s.clients.map gf) : KP s s' := by
  intro h
  have hh : ∀ c, (gf c).h = c.h := fun c => (key_eq (hk c)).1
  unfold findClient
  rw [hs, find_map_h _ gf hh, Option.map_map]
  congr 1
  funext c; exact hk c

theorem setDev_len (s : State g) (d : Nat) (f : Dev → Dev) : (setDev s d f).devs.length = s.devs.length := by
  simp [setDev]

theorem getDev_oob (s : State g) (d : Nat) (h : s.devs.length ≤ d) : getDev s d = {} := by
  unfold getDev
  rw [List.getD_eq_getElem?_getD, List.getElem?_eq_none h]
  rfl

theorem getDev_setDev (s : State g) (d d' : Nat) (f : Dev → Dev) :
    getDev (setDev s d f) d' = if d' = d ∧ d < s.devs.length then f (getDev s d) else getDev s d' := by
  unfold getDev setDev
  simp only [List.getD_eq_getElem?_getD, List.getElem?_mapIdx]
  by_cases e : d' = d
  · subst e
    by_cases hd : d' < s.devs.length <;> simp [hd]
  · cases s.devs[d']? <;> simp [e]

theorem devOk_default : DevOk ({} : Dev) := ⟨by intro f h; simp at h, by intro h; simp at h⟩

theorem fr_of_eq {s0 s s' : State g} (h0 : Fr s0 s) (hc : s'.clients = s.clients) (hd : s'.devs = s.devs) : Fr s0 s' :=
  h0.trans ⟨fun h => by unfold findClient; rw [hc], fun d hok => by unfold getDev; rw [hd]; exact hok⟩

theorem fr_clients_map {s0 s : State g} (gf : Client → Client) (hk : ∀ c, key (gf c) = key c) (h0 : Fr s0 s) :
    Fr s0 { s with clients := s.clients.map gf } :=
  h0.trans ⟨kp_map gf hk rfl, fun _ x => x⟩

theorem fr_modClient {s0 s : State g} (h : Nat) (f : Client → Client) (hk : ∀ c, key (f c) = key c) (h0 : Fr s0 s) :
    Fr s0 (modClient s h f) :=
  fr_clients_map _ (fun c => key_ite (hk c) rfl) h0

theorem fr_modDevClients {s0 s : State g} (d : Nat) (f : Client → Client) (hk : ∀ c, key (f c) = key c) (h0 : Fr s0 s) :
    Fr s0 (modDevClients s d f) :=
  fr_clients_map _ (fun c => key_ite (hk c) rfl) h0

theorem fr_setDev {s0 s : State g} (d : Nat) (f : Dev → Dev) (hf : ∀ x, DevOk x → DevOk (f x)) (h0 : Fr s0 s) :
    Fr s0 (setDev s d f) := by
  refine h0.trans ⟨fun _ => rfl, fun d' h => ?_⟩
  rw [getDev_setDev]
  split
  · rename_i e; rw [← e.1]; exact hf _ h
  · exact h

theorem fr_setSock {s0 s : State g} (h : Nat) (f : Sock → Sock) (h0 : Fr s0 s) : Fr s0 (setSock s h f) :=
  fr_of_eq h0 rfl rfl

theorem fr_coreOp {s0 s : State g} (op : Core.COp) (h0 : Fr s0 s) : Fr s0 (coreOp s op) :=
  fr_of_eq h0 rfl rfl

theorem fr_msgWrite {s0 s : State g} (h : Nat) (name : String) (n : Nat) (fields : String) (h0 : Fr s0 s) :
    Fr s0 (msgWrite s h name n fields) :=
  fr_modClient h _ (fun _ => rfl) h0

theorem fr_deliver {s0 s : State g} (h : Nat) (t : String) (h0 : Fr s0 s) : Fr s0 (deliver s h t) :=
  fr_setSock h _ h0

theorem fr_foldl {α : Type} {s0 : State g} (l : List α) (f : State g → α → State g) (hf : ∀ s a, Fr s0 s → Fr s0 (f s a))
    (s : State g) (h0 : Fr s0 s) : Fr s0 (l.foldl f s) :=
  List.foldlRecOn l f h0 fun s h a _ => hf s a h

theorem fr_stopAcq {s0 s : State g} (d : Nat) (h0 : Fr s0 s) : Fr s0 (stopAcq s d) :=
  ite_both (fr_setDev _ _ (fun _ hx => ⟨hx.1, nofun⟩) h0) h0

theorem fr_updateScanning {s0 s : State g} (d : Nat) (b : Bool) (sc : Nat) (h0 : Fr s0 s) : Fr s0 (updateScanning s d b sc) :=
  ite_both h0 (ite_both (fr_modDevClients d _ (fun _ => key_ite rfl rfl) (fr_setDev d _ (fun _ hx => ⟨hx.1, hx.2⟩) h0)) h0)

theorem fr_channelCompleted {s0 s : State g} (h : Nat) (w : Int) (h0 : Fr s0 s) : Fr s0 (channelCompleted s h w) := by
  unfold channelCompleted
  cases findClient s h with
  | none => exact h0
  | some req =>
    have h1 := fr_modClient h (fun c => { c with lastDur := w - c.lastStart, completed := true, cycle := req.cycle + 1 })
      (fun _ => rfl) h0
    exact ite_both (fr_modDevClients _ _ (fun _ => key_ite rfl rfl) h1)
      (ite_both (ite_both (fr_modClient _ _ (fun _ => rfl) h1) h1) h1)

theorem fr_channelStopped {s0 s : State g} (h : Nat) (h0 : Fr s0 s) : Fr s0 (channelStopped s h) := by
  unfold channelStopped
  cases findClient s h with
  | none => exact h0
  | some req =>
    exact fr_coreOp _ (fr_modClient _ _ (fun _ => rfl) (ite_both (fr_channelCompleted _ _ h0) h0))

theorem fr_timerUpdate {s0 s : State g} (h0 : Fr s0 s) : Fr s0 (timerUpdate s) :=
  fr_of_eq h0 rfl rfl

theorem fr_channelFlush {s0 s : State g} (d : Nat) (h0 : Fr s0 s) : Fr s0 (channelFlush s d) :=
  fr_modDevClients _ _ (fun _ => key_ite rfl rfl) (ite_both (fr_modDevClients _ _ (fun _ => rfl) (fr_setDev _ _ (fun _ hx => ⟨nofun, hx.2⟩) h0)) h0)

/-- device `d` is being reconfigured: the records keep their keys, no frame queue changes, every other device keeps
    `cap` and `max_lines` -/
structure DQ (d : Nat) (s s' : State g) : Prop where
  kp : KP s s'
  fq : ∀ d', (getDev s' d').fq = (getDev s d').fq
  other : ∀ d', d' ≠ d → (getDev s' d').cap = (getDev s d').cap ∧ (getDev s' d').maxLines = (getDev s d').maxLines

/-- device `d` is fit for `forward_data` -/
def Settled (d : Nat) (s : State g) : Prop := (getDev s d).cap = true → 31 ≤ (getDev s d).maxLines

theorem DQ.refl (d : Nat) (s : State g) : DQ d s s := ⟨fun _ => rfl, fun _ => rfl, fun _ _ => ⟨rfl, rfl⟩⟩

theorem DQ.trans {d : Nat} {a b c : State g} (h1 : DQ d a b) (h2 : DQ d b c) : DQ d a c :=
  ⟨fun h => (h2.kp h).trans (h1.kp h), fun d' => (h2.fq d').trans (h1.fq d'),
   fun d' hne => ⟨((h2.other d' hne).1).trans ((h1.other d' hne).1), ((h2.other d' hne).2).trans ((h1.other d' hne).2)⟩⟩

theorem DQ.toFr {d : Nat} {s s' : State g} (hq : DQ d s s') (hb : Settled d s') : Fr s s' := by
  refine ⟨hq.kp, fun d' hok => ⟨hq.fq d' ▸ hok.fq, ?_⟩⟩
  by_cases e : d' = d
  · exact e ▸ hb
  · rw [(hq.other d' e).1, (hq.other d' e).2]; exact hok.ml

theorem dq_clients {d : Nat} {s0 s s' : State g} (h0 : DQ d s0 s) (hk : KP s s') (hd : s'.devs = s.devs) : DQ d s0 s' := by
  have : ∀ d', getDev s' d' = getDev s d' := by intro d'; unfold getDev; rw [hd]
  exact h0.trans ⟨hk, fun d' => by rw [this], fun d' _ => by rw [this]; exact ⟨rfl, rfl⟩⟩

theorem dq_setDev {s0 s : State g} (d : Nat) (f : Dev → Dev) (hf : ∀ x, (f x).fq = x.fq) (h0 : DQ d s0 s) :
    DQ d s0 (setDev s d f) := by
  refine h0.trans ⟨fun _ => rfl, fun d' => ?_, fun d' hne => ?_⟩
  · rw [getDev_setDev]
    split
    · rename_i e; rw [hf, e.1]
    · rfl
  · rw [getDev_setDev]
    simp [hne]

theorem dq_modDevClients {d : Nat} {s0 s : State g} (d' : Nat) (f : Client → Client) (hk : ∀ c, key (f c) = key c)
    (h0 : DQ d s0 s) : DQ d s0 (modDevClients s d' f) :=
  dq_clients h0 (kp_map _ (fun c => key_ite (hk c) rfl) rfl) rfl

theorem dq_startAcq {s0 s : State g} (d : Nat) (h0 : DQ d s0 s) : DQ d s0 (startAcq s d).1 :=
  ite_both (P := fun p : State g × Bool => DQ d s0 p.1) (dq_setDev _ _ (fun _ => rfl) h0)
    (ite_both (P := fun p : State g × Bool => DQ d s0 p.1) (dq_setDev _ _ (fun _ => rfl) h0) (dq_setDev _ _ (fun _ => rfl) h0))

theorem dq_stopAcq {s0 s : State g} (d : Nat) (h0 : DQ d s0 s) : DQ d s0 (stopAcq s d) :=
  ite_both (dq_setDev _ _ (fun _ => rfl) h0) h0

theorem dq_updateScanning {s0 s : State g} (d : Nat) (b : Bool) (sc : Nat) (h0 : DQ d s0 s) : DQ d s0 (updateScanning s d b sc) :=
  ite_both h0 (ite_both (dq_modDevClients d _ (fun _ => key_ite rfl rfl) (dq_setDev d _ (fun _ => rfl) h0)) h0)

theorem cap_stopAcq (s : State g) (d : Nat) : (getDev (stopAcq s d) d).cap = false := by
  refine ite_ind (P := fun x : State g => (getDev x d).cap = false) (fun hc => ?_) fun hc => by simpa using hc
  rw [getDev_setDev]
  -- a device outside the list reads as the default device, which is closed
  refine ite_ind (P := fun x : Dev => x.cap = false) (fun _ => rfl) fun hn => ?_
  rw [getDev_oob s d (Nat.le_of_not_lt fun h => hn ⟨rfl, h⟩)] at hc
  cases hc

theorem settled_stopAcq (s : State g) (d : Nat) : Settled d (stopAcq s d) :=
  fun h => nomatch (cap_stopAcq s d).symm.trans h

theorem settled_setDev32 (s : State g) (d : Nat) (f : Dev → Dev) (hf : ∀ x, (f x).maxLines = 32) : Settled d (setDev s d f) := by
  unfold Settled
  rw [getDev_setDev]
  by_cases hin : d < s.devs.length
  · simp only [hin, and_self, if_true, hf]; intro _; omega
  · simp only [hin, and_false, if_false]
    rw [getDev_oob s d (Nat.le_of_not_lt hin)]
    nofun

theorem foldl_fst_map {β γ : Type} (step : List β × γ → β → List β × γ) (F : β → β)
    (hs : ∀ acc c, (step acc c).1 = acc.1 ++ [F c]) (l : List β) (acc : List β × γ) :
    (l.foldl step acc).1 = acc.1 ++ l.map F := by
  induction l generalizing acc with
  | nil => simp
  | cons a l ih => simp [ih, hs]

theorem key_updClientServices (sup : Nat) (isNew : Bool) (ni : Int) (c : Client) :
    key (updClientServices sup isNew ni c).1 = key c := by
  unfold updClientServices
  refine List.foldlRecOn (motive := fun (acc : Client × Nat × Nat × Bool) => key acc.1 = key c) _ _ rfl ?_
  intro ⟨c', dsv, n, e⟩ hacc i _
  exact ite_both (P := fun p : Client × Nat × Nat × Bool => key p.1 = key c) hacc
    (key_ite hacc hacc)

theorem dq_updTail (s : State g) (d : Nat) (nr : Option Nat) (ni : Int) (e0 : Bool) :
    DQ d s (updTail s d nr ni e0).1 ∧ Settled d (updTail s d nr ni e0).1 := by
  unfold updTail
  dsimp only
  generalize hacc : s.clients.foldl _ _ = acc
  have hmap : acc.1 = [] ++ s.clients.map fun c => if c.dev == d && c.st == .forward then
      (updClientServices (getDev s d).sup (nr == some c.h) ni c).1 else c :=
    hacc ▸ foldl_fst_map _ _ (fun ⟨_, _, _, _⟩ _ => by dsimp only; split <;> rfl) _ _
  obtain ⟨cs, dsv, n, e⟩ := acc
  dsimp only at hmap ⊢
  generalize hs3 : updateScanning _ d false _ = s3
  have h3 : DQ d s s3 := hs3 ▸ dq_updateScanning d false _ (dq_setDev d _ (fun _ => rfl)
    (dq_clients (DQ.refl d s) (kp_map _ (fun _ => key_ite (key_updClientServices ..) rfl) hmap) rfl))
  by_cases hd : dsv = 0
  · subst hd
    simp only [bne_self_eq_false, Bool.false_eq_true, if_false, beq_self_eq_true, Bool.true_or, if_true]
    exact ⟨dq_stopAcq d h3, settled_stopAcq _ d⟩
  · have hb : (dsv != 0) = true := by simpa using hd
    have hb2 : (dsv == 0) = false := by simpa using hd
    simp only [hb, if_true, hb2, Bool.not_true, Bool.or_false, Bool.false_eq_true, if_false]
    exact ⟨dq_setDev d _ (fun _ => rfl) h3, settled_setDev32 _ d _ (fun _ => rfl)⟩

theorem fr_updateServices (s : State g) (d : Nat) (nr : Option Nat) (ni : Int) : Fr s (updateServices s d nr ni).1 := by
  -- however the device was opened or left alone (a `DQ` step), it is now either closed or about to be settled by `updTail`
  have tail : ∀ t : State g × Bool × Bool, DQ d s t.1 →
      Fr s (if !(getDev t.1 d).cap then (t.1, t.2.1, t.2.2) else updTail t.1 d nr ni t.2.2).1 := fun t hq =>
    ite_ind (P := fun x : State g × Bool × Bool => Fr s x.1) (fun hc => hq.toFr fun h => by simp [h] at hc)
      fun _ => (hq.trans (dq_updTail t.1 d nr ni t.2.2).1).toFr (dq_updTail t.1 d nr ni t.2.2).2
  have both {c : Prop} [Decidable c] {a b : State g × Bool × Bool} : DQ d s a.1 → DQ d s b.1 → DQ d s (if c then a else b).1 :=
    ite_both (P := fun t : State g × Bool × Bool => DQ d s t.1)
  have q1 := dq_startAcq d (DQ.refl d s)
  exact tail _ (both (both q1 <| both (dq_stopAcq d q1) (DQ.refl d s)) (DQ.refl d s))

theorem fr_channelSchedule (cfg : Cfg) {s0 s : State cfg.g} (d : Nat) (h0 : Fr s0 s) : Fr s0 (channelSchedule cfg s d).1 := by
  unfold channelSchedule
  dsimp only
  generalize hs1 : s.clients.foldl _ s = s1
  have hf : Fr s0 s1 := by
    rw [← hs1]
    refine fr_foldl _ _ (fun s a hs => ?_) _ h0
    split
    · exact ite_both (fr_channelCompleted _ _ hs) hs
    · exact hs
  split
  · exact ite_both (P := fun p : State cfg.g × Option Nat => Fr s0 p.1) (fr_channelStopped _ hf) hf
  · exact hf

theorem fr_chnPrep (cfg : Cfg) (s : State cfg.g) (d : Nat) (forced : Bool) : Fr s (chnPrep cfg s d forced).1 := by
  unfold chnPrep
  dsimp only
  generalize s.clients.foldl _ prioBACKGROUND = maxPrio
  generalize hs1 : (if (getDev s d).prio != maxPrio then _ else s) = s1
  have f1 : Fr s s1 := hs1 ▸ ite_both (fr_setDev _ _ (fun _ hx => ⟨hx.1, hx.2⟩) (Fr.refl s)) (Fr.refl s)
  refine ite_both (fr_foldl _ _ (fun s a hs => ?_) _ f1) f1
  split
  · exact ite_both (fr_channelStopped _ hs) hs
  · exact hs

theorem fr_chnPick (cfg : Cfg) {s0 s : State cfg.g} (d : Nat) (req : Option Nat) (mp : Nat) (h0 : Fr s0 s) :
    Fr s0 (chnPick cfg s d req mp).1 := by
  unfold chnPick
  refine ite_both (P := fun p : State cfg.g × Option Nat => Fr s0 p.1) (fr_channelSchedule cfg d h0) ?_
  split
  · exact ite_both (P := fun p : State cfg.g × Option Nat => Fr s0 p.1) h0 h0
  · exact h0

theorem fr_takeIoctl (s : State g) (h req sz : Nat) : Fr s (takeIoctl s h req sz).1 := by
  unfold takeIoctl
  dsimp only
  by_cases hcap : (getDev s (recOf s h).dev).cap = true
  · simp only [hcap, Bool.not_true, Bool.false_eq_true, if_false]
    exact Fr.refl s
  · have hcap' : (getDev s (recOf s h).dev).cap = false := by simpa using hcap
    simp only [hcap', Bool.not_false, if_true]
    exact (dq_stopAcq _ (dq_startAcq _ (DQ.refl _ s))).toFr (settled_stopAcq _ _)

end Zvbi.Proxy
