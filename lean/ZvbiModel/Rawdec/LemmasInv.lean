import ZvbiModel.Rawdec.Lemmas
import ZvbiModel.Ite
/-!
# Lemmas for C04: the pattern invariant under add / remove / reset, one frame (`vbi3_raw_decoder_decode`), and the
state invariant over every history
-/
namespace Zvbi.Rawdec
open Zvbi.Generated.ServiceTable

def PatOK (n lines : Nat) (pat : Pattern) : Prop := pat.length = lines ∧ ∀ row ∈ pat, RowOK n row

theorem PatOK.mono {n m lines : Nat} {pat : Pattern} (h : PatOK n lines pat) (hnm : n ≤ m) : PatOK m lines pat :=
  ⟨h.1, fun row hr => (h.2 row hr).mono hnm⟩

theorem patOK_blank (n lines : Nat) : PatOK n lines (List.replicate lines blankRow) := by
  refine ⟨by simp, ?_⟩
  intro row hr
  rw [List.mem_replicate] at hr
  rw [hr.2]
  exact blankRow_ok n

/-- every row satisfies `W`, and `G` outside the index set `S`: the rows a running `add_job_to_pattern` has compacted but not yet
    given their marker back -/
def PG (W G : PRow → Prop) (S : Nat → Prop) (pat : Pattern) : Prop :=
  ∀ i row, pat[i]? = some row → W row ∧ (¬ S i → G row)

theorem pg_of_all {W G : PRow → Prop} (hgw : ∀ r, G r → W r) {pat : Pattern} (h : ∀ row ∈ pat, G row) :
    PG W G (fun _ => False) pat :=
  fun _ row hi => ⟨hgw _ (h row (List.mem_of_getElem? hi)), fun _ => h row (List.mem_of_getElem? hi)⟩

theorem all_of_pg {W G : PRow → Prop} {S : Nat → Prop} {pat : Pattern} (h : PG W G S pat) (hS : ∀ i, ¬ S i) :
    ∀ row ∈ pat, G row := by
  intro row hr
  obtain ⟨i, hi, rfl⟩ := List.mem_iff_getElem.mp hr
  exact (h i _ (List.getElem?_eq_getElem hi)).2 (hS i)

/-- first loop of `add_job_to_pattern`, over any row predicate `W` that compaction keeps: no assertion fails when the rows exist,
    its rows lose `G`; it runs to the end when every row has two free ways -/
theorem addPass1_rows (jn : Int) {W G : PRow → Prop} (hc : ∀ r, W r → W (compactRow jn r).1) (lines start : Nat)
    (S : Nat → Prop) :
    ∀ (count : Nat) (pat : Pattern), pat.length = lines → start + count ≤ lines → PG W G S pat →
      Safe (fun r => r.1.length = lines ∧ PG W G (fun i => S i ∨ (start ≤ i ∧ i < start + count)) r.1 ∧
        ((∀ r, W r → 1 < (compactRow jn r).2) → r.2 = true)) (addPass1 jn start count pat) := by
  intro count
  unfold addPass1
  induction count with
  | zero =>
    intro pat hl _ h
    exact ⟨(pat, true), rfl, hl, fun i row hi => ⟨(h i row hi).1, fun hns => (h i row hi).2 (fun hs => hns (Or.inl hs))⟩, fun _ => rfl⟩
  | succ c ih =>
    intro pat hl hb h
    obtain ⟨⟨pat1, b1⟩, he, hl1, h1, hb1⟩ := ih pat hl (by omega) h
    simp only [] at hl1 h1 hb1
    have hmono : PG W G (fun i => S i ∨ (start ≤ i ∧ i < start + (c + 1))) pat1 := fun i row hi =>
      ⟨(h1 i row hi).1, fun hns => (h1 i row hi).2 (fun hs => hns (hs.imp id (fun hs => ⟨hs.1, by omega⟩)))⟩
    rw [List.range_succ, List.foldlM_append, he]
    simp only [bind, Except.bind, List.foldlM_cons, List.foldlM_nil]
    cases b1 with
    | false => exact ⟨(pat1, false), rfl, hl1, hmono, fun hr => by cases hb1 hr⟩
    | true =>
      have hlt : start + c < pat1.length := by omega
      simp only [Bool.not_true, Bool.false_eq_true, if_false]
      rw [List.getElem?_eq_getElem hlt]
      have hwk := (h1 (start + c) _ (List.getElem?_eq_getElem hlt)).1
      refine ⟨(_, _), rfl, by rw [List.length_set]; exact hl1, ?_, fun hr => by simpa using hr _ hwk⟩
      intro i row hi
      rw [List.getElem?_set] at hi
      by_cases hic : start + c = i
      · rw [if_pos hic, if_pos hlt] at hi
        cases hi
        exact ⟨hc _ hwk, fun hns => absurd (Or.inr ⟨by omega, by omega⟩) hns⟩
      · rw [if_neg hic] at hi
        exact hmono i row hi

/-- second loop of `add_job_to_pattern`: placement turns `W` into `G`; the rows of its range have `G` again -/
theorem mapRows_place_rows (jn : Int) {W G : PRow → Prop} (hp : ∀ r, W r → Safe G (placeRow jn r))
    (hgw : ∀ r, G r → W r) (lines start : Nat) (S : Nat → Prop) :
    ∀ (count : Nat) (pat : Pattern), pat.length = lines → start + count ≤ lines → PG W G S pat →
      Safe (fun p => p.length = lines ∧ PG W G (fun i => S i ∧ ¬ (start ≤ i ∧ i < start + count)) p)
        (mapRowsM (placeRow jn) start count pat) := by
  intro count
  unfold mapRowsM
  induction count with
  | zero =>
    intro pat hl _ h
    refine ⟨pat, rfl, hl, ?_⟩
    intro i row hi
    exact ⟨(h i row hi).1, fun hns => (h i row hi).2 (fun hs => hns ⟨hs, by omega⟩)⟩
  | succ c ih =>
    intro pat hl hb h
    obtain ⟨pat1, he, hl1, h1⟩ := ih pat hl (by omega) h
    rw [List.range_succ, List.foldlM_append, he]
    simp only [bind, Except.bind, List.foldlM_cons, List.foldlM_nil]
    have hlt : start + c < pat1.length := by omega
    rw [List.getElem?_eq_getElem hlt]
    obtain ⟨row', hpl, hg⟩ := hp _ (h1 (start + c) _ (List.getElem?_eq_getElem hlt)).1
    simp only [hpl, pure, Except.pure]
    refine ⟨_, rfl, by rw [List.length_set]; exact hl1, ?_⟩
    intro i row hi
    rw [List.getElem?_set] at hi
    by_cases hic : start + c = i
    · rw [if_pos hic, if_pos hlt] at hi
      cases hi
      exact ⟨hgw _ hg, fun _ => hg⟩
    · rw [if_neg hic] at hi
      obtain ⟨w, g⟩ := h1 i row hi
      refine ⟨w, fun hns => g (fun hs => hns ⟨hs.1, fun hr => hs.2 ⟨hr.1, by omega⟩⟩)⟩

theorem pg_all {W : PRow → Prop} {S : Nat → Prop} {pat : Pattern} : PG W W S pat ↔ ∀ row ∈ pat, W row :=
  ⟨fun h row hr => by
      obtain ⟨i, hi, rfl⟩ := List.mem_iff_getElem.mp hr
      exact (h i _ (List.getElem?_eq_getElem hi)).1,
   fun h _ row hi => ⟨h row (List.mem_of_getElem? hi), fun _ => h row (List.mem_of_getElem? hi)⟩⟩

theorem linesField_bound (sp : SPar) (r : Row) (f s0 : Nat) :
    (linesField sp r f s0).1 + (linesField sp r f s0).2 ≤ s0 + sp.count f := by
  -- every exit returns `start0` with the whole count or with none, except the one that cuts the range to the row's lines
  let P : Nat × Nat → Prop := fun x => x.1 + x.2 ≤ s0 + sp.count f
  have whole : P (s0, sp.count f) := Nat.le_refl _
  have none : P (s0, 0) := Nat.le_add_right _ _
  exact ite_both (P := P) whole <| ite_both (P := P) none <|
    ite_ind (P := P) (fun hpos => ite_ind (P := P) (fun _ => whole) fun hin => by
      show _ + (_ - _) + (_ + 1 - _) ≤ _; omega) fun _ => whole

/-- what `lines_containing_data` returns stays inside the pattern -/
theorem linesContainingData_bounds (sp : SPar) (r : Row) :
    (linesContainingData sp r).1.1 + (linesContainingData sp r).1.2 ≤ sp.scanLines ∧
    (linesContainingData sp r).2.1 + (linesContainingData sp r).2.2 ≤ sp.scanLines := by
  unfold linesContainingData SPar.scanLines
  have h0 := linesField_bound sp r 0 0
  have h1 := linesField_bound sp r 1 sp.count0
  simp only [SPar.count, if_true, show ((1 : Nat) = 0) = False from by simp, if_false] at h0 h1
  constructor <;> simp only [] <;> omega

/-- `add_job_to_pattern`: never an index error; the invariant holds for `n+1` jobs (the new job number may be `n+1`), and for
    `n` jobs when the job is not new or no room was found -/
theorem addJobToPattern_ok (j n lines : Nat) (hj : j ≤ n) (ls : (Nat × Nat) × (Nat × Nat)) (pat : Pattern)
    (h : PatOK n lines pat) (h1 : ls.1.1 + ls.1.2 ≤ lines) (h2 : ls.2.1 + ls.2.2 ≤ lines) :
    Safe (fun r => PatOK (n + 1) lines r.1 ∧ ((j < n ∨ r.2 = false) → PatOK n lines r.1)) (addJobToPattern j ls pat) := by
  have hc : ∀ r, RowOK n r → RowOK n (compactRow ((j : Int) + 1) r).1 := fun _ => compactRow_ok _
  -- placement keeps `RowOK (n + 1)`, and `RowOK n` when the job number is not new
  have hp : ∀ r, (RowOK (n + 1) r ∧ (j < n → RowOK n r)) →
      Safe (fun r' => RowOK (n + 1) r' ∧ (j < n → RowOK n r')) (placeRow ((j : Int) + 1) r) := fun r ⟨k, k'⟩ => by
    obtain ⟨r', e, kr⟩ := placeRow_ok ((j : Int) + 1) k (by omega)
    refine ⟨r', e, kr, fun hjn => ?_⟩
    obtain ⟨r'', e', kr'⟩ := placeRow_ok ((j : Int) + 1) (k' hjn) (by omega)
    rw [e] at e'; cases e'; exact kr'
  unfold addJobToPattern
  exact (addPass1_rows _ hc lines _ (fun _ => False) _ pat h.1 h1 (pg_all.2 h.2)).bind fun (p1, b1) ⟨l1, g1, _⟩ => by
    have k1 : PatOK n lines p1 := ⟨l1, pg_all.1 g1⟩
    cases b1
    · exact .ok ⟨k1.mono (by omega), fun _ => k1⟩
    exact (addPass1_rows _ hc lines _ (fun _ => False) _ p1 l1 h2 (pg_all.2 k1.2)).bind fun (p2, b2) ⟨l2, g2, _⟩ => by
      have k2 : PatOK n lines p2 := ⟨l2, pg_all.1 g2⟩
      cases b2
      · exact .ok ⟨k2.mono (by omega), fun _ => k2⟩
      exact (mapRows_place_rows _ hp (fun _ => id) lines _ (fun _ => False) _ p2 l2 h1
          (pg_all.2 fun row hr => ⟨(k2.2 row hr).mono (by omega), fun _ => k2.2 row hr⟩)).bind fun p3 ⟨l3, g3⟩ =>
        (mapRows_place_rows _ hp (fun _ => id) lines _ _ _ p3 l3 h2 g3).bind fun p4 ⟨l4, g4⟩ =>
          .ok ⟨⟨l4, fun row hr => (pg_all.1 g4 row hr).1⟩,
            fun hjn => ⟨l4, fun row hr => (pg_all.1 g4 row hr).2 (hjn.resolve_right nofun)⟩⟩

theorem zip_range_snoc (old : List PRow) (row : PRow) :
    (List.range (old ++ [row]).length).zip (old ++ [row]) = (List.range old.length).zip old ++ [(old.length, row)] := by
  rw [List.length_append, List.length_singleton, List.range_succ, List.zip_append (by simp)]
  rfl

/-- invariant of the loop of `vbi3_raw_decoder_decode` after the rows `old` (as they were before the call); `jobs0` = the jobs
    at the start of the call.  The last clause is what an armed pattern adds: row by row the same jobs, and - for an image whose
    slicing does not depend on the thresholds - the records are those of `lineSpec`. -/
structure Acc (sp : SPar) (m : Nat) (sl : Slicer) (jobs0 : List Job) (old : List PRow) (a : DecAcc) : Prop where
  err : a.err = none
  rel : JobsRel jobs0 a.jobs
  rowsLen : a.rows.length = old.length
  rowsOK : ∀ r ∈ a.rows, RowOK jobs0.length r
  wlen : a.writes.length = a.out.length
  /-- the records were stored in `sliced[0], sliced[1], ...` in this order (lists are newest first) -/
  slots : a.writes.map (·.1) = (List.range a.out.length).reverse
  le : a.out.length ≤ m
  stop : a.stopped = true → m ≤ a.out.length
  rowsLt : ∀ w ∈ a.writes, w.2 < old.length
  /-- rows of the records strictly ascending (newest first: descending) -/
  desc : List.Pairwise (fun x y => y.2 < x.2) a.writes
  lines : a.out.map (·.line) = a.writes.map (fun w => lineOf sp w.2)
  idsIn : ∀ r ∈ a.out, r.id ∈ jobs0.map (·.id)
  blank : (∀ i j job, (sl i j job).1 = none) → a.out = []
  armed : (∀ r ∈ old, RowArmed r) → RowsRel jobs0.length old a.rows.reverse ∧
    (ThreshFree sl → a.out.reverse =
      (((List.range old.length).zip old).filterMap (fun ir => lineSpec sp sl jobs0 ir.1 ir.2)).take m)

theorem decodeLine_acc (sp : SPar) (rj m : Nat) (sl : Slicer) (jobs0 : List Job) (old : List PRow) (a : DecAcc) (row : PRow)
    (h : Acc sp m sl jobs0 old a) (hok : RowOK jobs0.length row) :
    Acc sp m sl jobs0 (old ++ [row]) (decodeLine sp rj m sl a (old.length, row)) := by
  unfold decodeLine
  have herr : a.err.isSome = false := by rw [h.err]; rfl
  simp only [herr, Bool.false_eq_true, if_false]
  have hlen := h.rel.length
  have hlt' : ∀ w ∈ a.writes, w.2 < (old ++ [row]).length := fun w hw => by
    have := h.rowsLt w hw; rw [List.length_append, List.length_singleton]; omega
  have hall : (∀ r ∈ old ++ [row], RowArmed r) → (∀ r ∈ old, RowArmed r) ∧ RowArmed row :=
    fun ha => ⟨fun r hr => ha r (by simp [hr]), ha row (by simp)⟩
  by_cases hstop : a.stopped = true ∨ a.out.length ≥ m
  · rw [if_pos hstop]
    have hm : m ≤ a.out.length := hstop.elim h.stop id
    refine ⟨h.err, h.rel, by simp [h.rowsLen], ?_, h.wlen, h.slots, h.le, fun _ => hm, hlt', h.desc, h.lines, h.idsIn, h.blank, ?_⟩
    · intro r hr
      rcases List.mem_cons.1 hr with rfl | hr
      · exact hok
      · exact h.rowsOK r hr
    · intro ha
      obtain ⟨ha1, ha2⟩ := hall ha
      obtain ⟨hr, ho⟩ := h.armed ha1
      refine ⟨by rw [List.reverse_cons]; exact hr.snoc ⟨hok, ha2, fun _ _ => rfl⟩, fun htf => ?_⟩
      have ho := ho htf
      rw [zip_range_snoc, List.filterMap_append, ho]
      have hl : m ≤ (((List.range old.length).zip old).filterMap (fun ir => lineSpec sp sl jobs0 ir.1 ir.2)).length := by
        have := congrArg List.length ho
        rw [List.length_reverse, List.length_take] at this
        omega
      rw [List.take_append_of_le_length hl]
  · rw [if_neg hstop]
    have hns : ¬ (a.stopped = true) := fun hh => hstop (Or.inl hh)
    have hlt : a.out.length < m := by
      have : ¬ (a.out.length ≥ m) := fun hh => hstop (Or.inr hh)
      omega
    obtain ⟨⟨row', jobs', rec⟩, he, ⟨hstep, hjr, hrec, hnone, harm⟩⟩ :=
      decodeWays_spec sp rj (sl old.length) old.length row.length 0 row a.jobs (by rw [hok.len]) (hlen ▸ hok)
        (by intro q hq; omega)
    have hrel' : JobsRel jobs0 jobs' := h.rel.trans hjr
    have hrows' : ∀ r ∈ row' :: a.rows, RowOK jobs0.length r := by
      intro r hr
      rcases List.mem_cons.1 hr with rfl | hr
      · exact hlen ▸ hstep.ok
      · exact h.rowsOK r hr
    -- what an armed pattern adds: the row relation, and the record is `lineSpec`
    have harmed : ∀ out' : List Rec, (∀ r ∈ old ++ [row], RowArmed r) →
        (ThreshFree sl → out'.reverse = (a.out.reverse ++ (lineSpec sp sl jobs0 old.length row).toList).take m) →
        RowsRel jobs0.length (old ++ [row]) (row' :: a.rows).reverse ∧ (ThreshFree sl → out'.reverse =
          (((List.range (old ++ [row]).length).zip (old ++ [row])).filterMap (fun ir => lineSpec sp sl jobs0 ir.1 ir.2)).take m) := by
      intro out' ha hout
      obtain ⟨ha1, ha2⟩ := hall ha
      obtain ⟨hr, ho⟩ := h.armed ha1
      refine ⟨by rw [List.reverse_cons]; exact hr.snoc (hlen ▸ hstep.rel ha2), fun htf => ?_⟩
      have ho := ho htf
      have hF : (((List.range old.length).zip old).filterMap (fun ir => lineSpec sp sl jobs0 ir.1 ir.2)).length = a.out.length := by
        have := congrArg List.length ho
        rw [List.length_reverse, List.length_take] at this
        omega
      rw [List.take_of_length_le (by omega)] at ho
      rw [hout htf, zip_range_snoc, List.filterMap_append, ho]
      cases hls : lineSpec sp sl jobs0 old.length row <;> simp [hls]
    have hspec : RowArmed row → ThreshFree sl → rec = lineSpec sp sl jobs0 old.length row := by
      intro ha2 htf
      obtain ⟨_, hrec'⟩ := harm ha2
      rw [List.drop_zero] at hrec'
      rw [show rec = _ from hrec', lineSpec_eq]
      exact tryJobs_lineSpec sp sl htf old.length jobs0 (jobsOf row) a.jobs h.rel hok.jobs
    unfold decodePattern
    rw [he]
    cases rec with
    | none =>
      simp only []
      refine ⟨h.err, hrel', by simp [h.rowsLen], hrows', h.wlen, h.slots, h.le, fun hh => absurd hh hns, hlt', h.desc, h.lines,
        h.idsIn, h.blank, fun ha => harmed a.out ha (fun htf => ?_)⟩
      rw [← hspec (hall ha).2 htf, Option.toList, List.append_nil, List.take_of_length_le (by simp; omega)]
    | some r =>
      simp only []
      obtain ⟨hline, hid⟩ := hrec r rfl
      refine ⟨h.err, hrel', by simp [h.rowsLen], hrows', by simp [h.wlen], ?_, by simp only [List.length_cons]; omega,
        fun hh => absurd hh hns, ?_, List.pairwise_cons.2 ⟨fun w hw => h.rowsLt w hw, h.desc⟩, ?_, ?_, ?_,
        fun ha => harmed (r :: a.out) ha (fun htf => ?_)⟩
      · simp only [List.map_cons, List.length_cons]
        rw [h.slots, List.range_succ, List.reverse_append]
        rfl
      · intro w hw
        rcases List.mem_cons.1 hw with rfl | hw
        · simp
        · exact hlt' w hw
      · simp only [List.map_cons]
        rw [h.lines, hline]
      · intro r' hr'
        rcases List.mem_cons.1 hr' with rfl | hr'
        · rw [← h.rel.ids]; exact hid
        · exact h.idsIn r' hr'
      · intro hall'
        cases hnone (hall' old.length)
      · rw [← hspec (hall ha).2 htf, List.reverse_cons, Option.toList, List.take_of_length_le (by simp; omega)]

theorem fold_acc (sp : SPar) (rj m : Nat) (sl : Slicer) (jobs0 : List Job) :
    ∀ (rest old : List PRow) (a : DecAcc), Acc sp m sl jobs0 old a → (∀ r ∈ rest, RowOK jobs0.length r) →
      Acc sp m sl jobs0 (old ++ rest) (((List.range' old.length rest.length).zip rest).foldl (decodeLine sp rj m sl) a)
  | [], old, a, h, _ => by simpa using h
  | row :: rest, old, a, h, hr => by
    have := fold_acc sp rj m sl jobs0 rest (old ++ [row]) _ (decodeLine_acc sp rj m sl jobs0 old a row h (hr row (by simp)))
      (fun r hr' => hr r (by simp [hr']))
    simpa [List.range'_succ] using this

/-- the error value of `assert (!"bit_slicer_set_params")` in `add_services` -/
def slicerAssert : String := "assert bit_slicer_set_params"

/-- the bookkeeping invariant of the decoder state; holds after every history of the released and of the repaired code -/
structure Inv (s : State) : Prop where
  jobsLe : s.jobs.length ≤ maxJobs
  pat : ∀ p, s.pattern = some p → PatOK s.jobs.length s.sp.scanLines p
  noIdx : s.err = none ∨ s.err = some slicerAssert
  /-- `rd->pattern` is allocated as soon as a service is decoded -/
  svcPat : s.services ≠ 0 → s.pattern.isSome

theorem inv_init (sp : SPar) : Inv (init sp) :=
  ⟨by simp [init], by intro p h; simp [init] at h, Or.inl rfl, by intro h; simp [init] at h⟩

theorem inv_fail {s : State} (h : Inv s) : Inv (s.fail slicerAssert) :=
  ⟨h.jobsLe, h.pat, Or.inr rfl, h.svcPat⟩

theorem findIdx_le {α : Type} (p : α → Bool) (l : List α) : (l.findIdx? p).getD l.length ≤ l.length := by
  cases h : l.findIdx? p with
  | none => simp
  | some i =>
    have := (List.findIdx?_eq_some_iff_getElem.mp h).1
    simp; omega

/-- One iteration of the table loop of `add_services`, branch by branch: nothing to do; `break`; an abort (`msg` says
    which); `add_job_to_pattern` ran (`b` = it found room) and job `j` was reconfigured (`b = false`) resp. merged or
    appended (`b = true`). -/
theorem addOne_elim (ti : Nat → Nat) (M : Nat) (strict : Int) (s : State) (ri : Nat) (r : Row) {P : Option State → Prop}
    (same : s.err.isSome ∨ r.id &&& M = 0 ∨ checkServices s.sp r.id strict = 0 → P (some s))
    (rest : s.err = none → r.id &&& M ≠ 0 →
      ∀ j, j = (s.jobs.findIdx? (fun job => mergeable job.id r.id)).getD s.jobs.length → j ≤ s.jobs.length →
      (maxJobs ≤ j → P none) ∧
      (j < maxJobs → checkServices s.sp r.id strict ≠ 0 →
        (∀ msg, (msg = slicerAssert ∧ (Zvbi.Slicer.fmtOfCode s.sp.fmt = none ∨ ∃ fmt e, Zvbi.Slicer.fmtOfCode s.sp.fmt = some fmt ∧
            Zvbi.Slicer.setParams slicerTight (Zvbi.Slicer.rowParams r fmt s.sp.rate (s.sp.bpl / bppOf s.sp.fmt)) = .error e)) ∨
          s.pattern = none ∨
          (∃ pat, s.pattern = some pat ∧ addJobToPattern j (linesContainingData s.sp r) pat = .error msg) →
          P (some (s.fail msg))) ∧
        (∀ pat pat' jobId, s.pattern = some pat → jobId = (match s.jobs[j]? with | some job => job.id | none => 0) →
          (addJobToPattern j (linesContainingData s.sp r) pat = .ok (pat', false) →
            P (some { s with jobs := if j < s.jobs.length then s.jobs.set j { id := jobId, row := ri, thresh := ti ri } else s.jobs,
                             pattern := some pat' })) ∧
          (addJobToPattern j (linesContainingData s.sp r) pat = .ok (pat', true) →
            P (some { s with jobs := if j < s.jobs.length then s.jobs.set j { id := jobId ||| r.id, row := ri, thresh := ti ri }
                                     else s.jobs ++ [{ id := jobId ||| r.id, row := ri, thresh := ti ri }],
                             pattern := some pat', services := s.services ||| r.id }))))) :
    P (addOne ti M strict s ri r) := by
  unfold addOne
  split
  · exact same (.inl ‹_›)
  split
  · exact same (.inr (.inl ‹_›))
  rename_i h1 h2
  obtain ⟨brk, go⟩ := rest (by cases hh : s.err <;> simp [hh] at h1 ⊢) h2 _ rfl (findIdx_le _ _)
  simp only []
  split
  · exact brk ‹_›
  split
  · exact same (.inr (.inr ‹_›))
  rename_i h3 h4
  obtain ⟨fail, ok⟩ := go (by omega) h4
  split
  · exact fail _ (.inl ⟨rfl, .inl ‹_›⟩)
  rename_i fmt hf
  split
  · exact fail _ (.inl ⟨rfl, .inr ⟨fmt, _, hf, ‹_›⟩⟩)
  split
  · exact fail _ (.inr (.inl ‹_›))
  rename_i pat hpat
  split
  · exact fail _ (.inr (.inr ⟨pat, hpat, ‹_›⟩))
  · exact (ok pat _ _ hpat rfl).1 ‹_›
  · exact (ok pat _ _ hpat rfl).2 ‹_›

theorem addOne_inv (ti : Nat → Nat) (services : Nat) (strict : Int) (s : State) (ri : Nat) (r : Row)
    (h : Inv s) (hp : s.pattern.isSome) :
    ∀ s', addOne ti services strict s ri r = some s' → Inv s' ∧ s'.pattern.isSome ∧ s'.sp = s.sp := by
  apply addOne_elim ti services strict s ri r (P := fun o => ∀ s', o = some s' → Inv s' ∧ s'.pattern.isSome ∧ s'.sp = s.sp)
  · intro _ s' he; cases he; exact ⟨h, hp, rfl⟩
  intro _ _ j _ hjl
  have hmax : maxJobs = 8 := rfl
  have hadd := fun pat hpat => addJobToPattern_ok j s.jobs.length s.sp.scanLines hjl (linesContainingData s.sp r) pat
    (h.pat pat hpat) (linesContainingData_bounds s.sp r).1 (linesContainingData_bounds s.sp r).2
  refine ⟨fun _ s' he => (nomatch he), fun hj8 _ => ⟨?_, fun pat pat' jobId hpat _ => ?_⟩⟩
  · rintro msg (⟨rfl, _⟩ | hnone | ⟨pat, hpat, he⟩) s' hs'
    · cases hs'; exact ⟨inv_fail h, hp, rfl⟩
    · rw [hnone] at hp; cases hp
    · obtain ⟨_, hok, _⟩ := hadd pat hpat
      rw [hok] at he; cases he
  · obtain ⟨⟨pat'', b⟩, hok, hk1, hk2⟩ := hadd pat hpat
    constructor
    · -- no room: job `j` reconfigured, no job more
      intro he s' hs'
      rw [he] at hok; cases hok; cases hs'
      have hlen : (if j < s.jobs.length then s.jobs.set j { id := jobId, row := ri, thresh := ti ri } else s.jobs).length
          = s.jobs.length := by split <;> simp
      refine ⟨⟨?_, ?_, h.noIdx, fun _ => rfl⟩, rfl, rfl⟩
      · show _ ≤ maxJobs
        rw [hlen]; exact h.jobsLe
      · intro p hp'
        cases hp'
        show PatOK _ _ _
        rw [hlen]; exact hk2 (Or.inr rfl)
    · intro he s' hs'
      rw [he] at hok; cases hok; cases hs'
      refine ⟨⟨?_, ?_, h.noIdx, fun _ => rfl⟩, rfl, rfl⟩
      · show (if j < s.jobs.length then _ else _ : List Job).length ≤ maxJobs
        split
        · rw [List.length_set]; exact h.jobsLe
        · rw [List.length_append, List.length_singleton]; omega
      · intro p hp'
        cases hp'
        show PatOK (if j < s.jobs.length then _ else _ : List Job).length _ _
        split
        · rename_i hlt; rw [List.length_set]; exact hk2 (Or.inl hlt)
        · rw [List.length_append]; exact hk1

/-- The table loop of `add_services`: what holds in front of the rows `l` and is re-established by every iteration holds
    when the loop is left, at the end of the table or by `break`. -/
theorem addLoop_ind (ti : Nat → Nat) (M : Nat) (strict : Int) {P : List (Nat × Row) → State → Prop} {Q : State → Prop}
    (hexit : ∀ l s, P l s → (l = [] ∨ ∃ ri r l', l = (ri, r) :: l' ∧ addOne ti M strict s ri r = none) → Q s)
    (hstep : ∀ ri r l s s', P ((ri, r) :: l) s → addOne ti M strict s ri r = some s' → P l s') :
    ∀ (l : List (Nat × Row)) (s : State), P l s → Q (addLoop ti M strict s l)
  | [], s, h => hexit _ s h (.inl rfl)
  | (ri, r) :: l, s, h => by
    unfold addLoop
    cases he : addOne ti M strict s ri r with
    | none => exact hexit _ s h (.inr ⟨ri, r, l, rfl, he⟩)
    | some s' => exact addLoop_ind ti M strict hexit hstep l s' (hstep ri r l s s' h he)

theorem addLoop_inv (ti : Nat → Nat) (services : Nat) (strict : Int) (l : List (Nat × Row)) (s : State) (h : Inv s)
    (hp : s.pattern.isSome) : Inv (addLoop ti services strict s l) ∧ (addLoop ti services strict s l).sp = s.sp :=
  addLoop_ind ti services strict (P := fun _ s' => Inv s' ∧ s'.pattern.isSome ∧ s'.sp = s.sp)
    (Q := fun s' => Inv s' ∧ s'.sp = s.sp) (fun _ _ h _ => ⟨h.1, h.2.2⟩)
    (fun ri r _ s1 s' h he => by
      obtain ⟨a, b, c⟩ := addOne_inv ti services strict s1 ri r h.1 h.2.1 s' he
      exact ⟨a, b, c.trans h.2.2⟩) l s ⟨h, hp, rfl⟩

/-- the state the table loop of `add_services` starts from: `rd->pattern` is allocated (the `let s1` inside
    `addServicesCore`, under a name so that the loop lemmas can speak of it) -/
def addStart (s : State) : State :=
  match s.pattern with
  | some _ => s
  | none => { s with pattern := some (List.replicate s.sp.scanLines blankRow) }

theorem addServices_eq (ti : Nat → Nat) (s : State) (sv : Nat) (strict : Int) :
    addServices ti s sv strict =
      if s.err.isSome ∨ maskServices s sv = 0 then s else addLoop ti (maskServices s sv) strict (addStart s) enumTable := by
  unfold addServices addServicesCore addStart
  by_cases h1 : s.err.isSome = true
  · simp [h1]
  · by_cases h2 : maskServices s sv = 0
    · simp [h1, h2]
    · simp only [h1, h2, if_false]
      cases s.pattern <;> rfl

theorem addStart_same (s : State) :
    (addStart s).jobs = s.jobs ∧ (addStart s).services = s.services ∧ (addStart s).sp = s.sp ∧ (addStart s).err = s.err ∧
    (addStart s).pattern.isSome := by
  unfold addStart
  cases h : s.pattern <;> simp [h]

theorem addStart_inv {s : State} (h : Inv s) : Inv (addStart s) := by
  unfold addStart
  cases hp : s.pattern with
  | some p => exact h
  | none =>
    exact ⟨h.jobsLe, by intro p hp'; simp only [Option.some.injEq] at hp'; subst hp'; exact patOK_blank _ _, h.noIdx, fun _ => rfl⟩

theorem addServices_inv (ti : Nat → Nat) (s : State) (services : Nat) (strict : Int) (h : Inv s) :
    Inv (addServices ti s services strict) ∧ (addServices ti s services strict).sp = s.sp := by
  rw [addServices_eq]
  split
  · exact ⟨h, rfl⟩
  · have := addLoop_inv ti (maskServices s services) strict enumTable _ (addStart_inv h) (addStart_same s).2.2.2.2
    exact ⟨this.1, this.2.trans (addStart_same s).2.2.1⟩

theorem shiftJobs_len (jobs : List Job) (a k : Nat) : (shiftJobs jobs a k).length = jobs.length - 1 := by
  simp [shiftJobs]

/-- The loop of `remove_services` deletes jobs one at a time, each time applying `remove_job_from_pattern` to every row: what
    such a deletion keeps (for one job less), the loop keeps. -/
theorem removeLoop_pat (fx : Fixes) {Q : Nat → Pattern → Prop}
    (hQ : ∀ n p (jn : Int), Q n p → 0 < jn → jn ≤ (n : Int) → Q (n - 1) (p.map (removeRow fx.marker jn))) :
    ∀ (fuel services jobNum : Nat) (jobs : List Job) (pat : Option Pattern) (acc : Nat),
      (∀ p, pat = some p → Q jobs.length p) →
      (removeLoop fx fuel services jobNum jobs pat acc).1.length ≤ jobs.length ∧
      (∀ p, (removeLoop fx fuel services jobNum jobs pat acc).2.1 = some p →
        Q (removeLoop fx fuel services jobNum jobs pat acc).1.length p) ∧
      ((removeLoop fx fuel services jobNum jobs pat acc).2.1.isSome = pat.isSome) := by
  intro fuel
  induction fuel with
  | zero => intro services jobNum jobs pat acc h; exact ⟨Nat.le_refl _, h, rfl⟩
  | succ fuel ih =>
    intro services jobNum jobs pat acc h
    unfold removeLoop
    split
    · exact ⟨Nat.le_refl _, h, rfl⟩
    rename_i hlt
    simp only []
    split
    · exact ⟨Nat.le_refl _, h, rfl⟩
    split
    · -- the job is deleted
      have hlen := shiftJobs_len jobs (if fx.jobAdvance = true then jobNum else 0) jobNum
      obtain ⟨i1, i2, i3⟩ := ih _ jobNum (shiftJobs jobs (if fx.jobAdvance = true then jobNum else 0) jobNum)
        (pat.map (fun p => p.map (removeRow fx.marker ((jobNum : Int) + 1)))) _ (by
          intro p hp
          cases hpat : pat with
          | none => rw [hpat] at hp; cases hp
          | some p0 =>
            rw [hpat] at hp
            simp only [Option.map_some, Option.some.injEq] at hp
            subst hp
            rw [hlen]
            exact hQ _ p0 _ (h p0 hpat) (by omega) (by omega))
      refine ⟨by omega, i2, ?_⟩
      rw [i3]; cases pat <;> rfl
    · exact ih _ (jobNum + 1) jobs pat acc h

theorem patOK_remove (km : Bool) (lines n : Nat) (p : Pattern) (jn : Int) (h : PatOK n lines p) (h1 : 0 < jn)
    (h2 : jn ≤ (n : Int)) : PatOK (n - 1) lines (p.map (removeRow km jn)) :=
  ⟨by rw [List.length_map]; exact h.1, fun row hrow => by
    obtain ⟨row0, hr0, rfl⟩ := List.mem_map.1 hrow
    exact removeRow_ok km jn (h.2 row0 hr0) h1 h2⟩

theorem removeServices_eq (fx : Fixes) {s : State} (services : Nat) (herr : s.err = none) :
    removeServices fx s services =
      { s with jobs := (removeLoop fx (2 * s.jobs.length + 1) services 0 s.jobs s.pattern services).1,
               pattern := (removeLoop fx (2 * s.jobs.length + 1) services 0 s.jobs s.pattern services).2.1,
               services := s.services &&&
                 (Zvbi.Slicer.U32 - 1 -
                   ((removeLoop fx (2 * s.jobs.length + 1) services 0 s.jobs s.pattern services).2.2 % Zvbi.Slicer.U32)) } := by
  unfold removeServices
  rw [if_neg (by rw [herr]; simp)]

theorem removeServices_inv (fx : Fixes) (s : State) (services : Nat) (h : Inv s) (herr : s.err = none) :
    Inv (removeServices fx s services) ∧ (removeServices fx s services).sp = s.sp := by
  rw [removeServices_eq fx services herr]
  obtain ⟨i1, i2, i3⟩ := removeLoop_pat fx (Q := fun n p => PatOK n s.sp.scanLines p) (patOK_remove fx.marker s.sp.scanLines)
    (2 * s.jobs.length + 1) services 0 s.jobs s.pattern services h.pat
  refine ⟨⟨?_, i2, h.noIdx, ?_⟩, rfl⟩
  · have := h.jobsLe
    simp only []
    omega
  · intro hs
    simp only [] at hs ⊢
    rw [i3]
    apply h.svcPat
    intro h0
    rw [h0] at hs
    simp at hs

theorem reset_inv (s : State) (h : Inv s) : Inv (reset s) :=
  ⟨by simp [reset], by intro p hp; simp [reset] at hp, h.noIdx, by intro hs; simp [reset] at hs⟩

/-- with an error value or without services `vbi3_raw_decoder_decode` changes nothing and returns nothing -/
theorem decodeFrame_idle {s : State} (m : Nat) (sl : Slicer) (h : s.err.isSome ∨ s.services = 0) :
    decodeFrame s m sl = (s, [], []) := by
  unfold decodeFrame
  by_cases h1 : s.err.isSome = true
  · simp [h1]
  · simp [h1, h.resolve_left h1]

/-- What one call of `vbi3_raw_decoder_decode` returns, `r` = (new state, records, (slot of `sliced[]`, row) of every record).
    The last clause is what an armed pattern adds. -/
structure Frame (s : State) (m : Nat) (sl : Slicer) (r : State × List Rec × List (Nat × Nat)) : Prop where
  inv : Inv s → Inv r.1
  sp : r.1.sp = s.sp
  services : r.1.services = s.services
  err : r.1.err = s.err
  jobs : JobsRel s.jobs r.1.jobs
  /-- slots written: 0, 1, ..., n-1 and n ≤ max_lines -/
  slots : r.2.2.map (·.1) = List.range r.2.1.length
  le : r.2.1.length ≤ m
  wlen : r.2.2.length = r.2.1.length
  /-- rows strictly ascending, inside the image -/
  asc : List.Pairwise (fun x y => x.2 < y.2) r.2.2
  inImage : ∀ w ∈ r.2.2, ∃ p, s.pattern = some p ∧ w.2 < p.length
  lines : r.2.1.map (·.line) = r.2.2.map (fun w => lineOf s.sp w.2)
  ids : ∀ x ∈ r.2.1, x.id ∈ s.jobs.map (·.id)
  blank : (∀ i j job, (sl i j job).1 = none) → r.2.1 = []
  armed : ∀ p, s.pattern = some p → PatArmed p → ∃ p', r.1.pattern = some p' ∧ RowsRel s.jobs.length p p' ∧
    (s.err = none → s.services ≠ 0 → ThreshFree sl → r.2.1 = frameSpec s.sp sl s.jobs p m)

/-- everything about one call of `vbi3_raw_decoder_decode` from a state whose rows are valid -/
theorem decodeFrame_spec (s : State) (m : Nat) (sl : Slicer)
    (hrows : ∀ p, s.pattern = some p → ∀ r ∈ p, RowOK s.jobs.length r) (hsvc : s.services ≠ 0 → s.pattern.isSome) :
    Frame s m sl (decodeFrame s m sl) := by
  by_cases hidle : s.err.isSome ∨ s.services = 0
  · rw [decodeFrame_idle m sl hidle]
    refine ⟨id, rfl, rfl, rfl, JobsRel.refl _, rfl, Nat.zero_le _, rfl, .nil, nofun, rfl, nofun, fun _ => rfl, fun p hp ha =>
      ⟨p, hp, RowsRel.refl p (fun r hr => ⟨hrows p hp r hr, ha r hr⟩), fun he hsv => ?_⟩⟩
    rcases hidle with h | h
    · rw [he] at h; cases h
    · exact absurd h hsv
  have herr : s.err = none := by
    cases he : s.err with
    | none => rfl
    | some e => exact absurd (.inl (by rw [he]; rfl)) hidle
  have hsv : s.services ≠ 0 := fun h0 => hidle (.inr h0)
  cases hpat : s.pattern with
  | none => have := hsvc hsv; rw [hpat] at this; cases this
  | some pat =>
    have h0 : Acc s.sp m sl s.jobs [] { jobs := s.jobs } :=
      ⟨rfl, JobsRel.refl _, rfl, nofun, rfl, rfl, Nat.zero_le _, nofun, nofun, .nil, rfl, nofun, fun _ => rfl,
        fun _ => ⟨.nil, fun _ => by simp⟩⟩
    have hf := fold_acc s.sp s.readjust m sl s.jobs pat [] _ h0 (hrows pat hpat)
    rw [List.nil_append, List.length_nil, ← List.range_eq_range'] at hf
    have hd : decodeFrame s m sl =
        (let a := ((List.range pat.length).zip pat).foldl (decodeLine s.sp s.readjust m sl) { jobs := s.jobs }
         ({ s with pattern := some a.rows.reverse, jobs := a.jobs, readjust := (s.readjust + 1) % 16, err := a.err },
          a.out.reverse, a.writes.reverse)) := by
      unfold decodeFrame
      have h1 : s.err.isSome = false := by rw [herr]; rfl
      simp only [h1, Bool.false_eq_true, if_false, hsv, hpat]
    rw [hd]
    generalize ((List.range pat.length).zip pat).foldl (decodeLine s.sp s.readjust m sl) { jobs := s.jobs } = a at hf
    have hjl := hf.rel.length
    refine ⟨fun hi => ⟨hjl ▸ hi.jobsLe, ?_, Or.inl hf.err, fun _ => rfl⟩, rfl, rfl, hf.err.trans herr.symm, hf.rel, ?_, ?_, ?_, ?_,
      ?_, ?_, ?_, ?_, ?_⟩
    · intro p hp
      simp only [Option.some.injEq] at hp
      subst hp
      refine ⟨by rw [List.length_reverse, hf.rowsLen]; exact (hi.pat pat hpat).1, fun row hrow => ?_⟩
      rw [List.mem_reverse] at hrow
      exact hjl ▸ hf.rowsOK row hrow
    · simp only []
      rw [List.map_reverse, hf.slots, List.reverse_reverse, List.length_reverse]
    · simp only [List.length_reverse]; exact hf.le
    · simp only [List.length_reverse]; exact hf.wlen
    · simp only []
      rw [List.pairwise_reverse]
      exact hf.desc
    · intro w hw
      exact ⟨pat, hpat, hf.rowsLt w (List.mem_reverse.1 hw)⟩
    · simp only []
      rw [List.map_reverse, List.map_reverse, hf.lines]
    · intro r hr
      exact hf.idsIn r (List.mem_reverse.1 hr)
    · intro hall
      simp only []
      rw [hf.blank hall]
      rfl
    · intro p hp ha
      rw [hpat] at hp
      cases hp
      obtain ⟨hr, ho⟩ := hf.armed ha
      exact ⟨_, rfl, hr, fun _ _ htf => ho htf⟩

/-- the error value is sticky: no operation does anything once it is set -/
theorem step_of_err (fx : Fixes) (ti : Nat → Nat) {s : State} (op : Op) (h : s.err.isSome) : step fx ti s op = s := by
  cases op <;> simp [step, addServices, removeServices, decodeFrame_idle _ _ (.inl h), h]

theorem err_cases (s : State) : s.err.isSome ∨ s.err = none := by
  cases s.err <;> simp

theorem step_inv (fx : Fixes) (ti : Nat → Nat) (s : State) (op : Op) (h : Inv s) :
    Inv (step fx ti s op) ∧ (step fx ti s op).sp = s.sp := by
  rcases err_cases s with he | herr
  · rw [step_of_err fx ti op he]; exact ⟨h, rfl⟩
  cases op with
  | add sv st => exact addServices_inv ti s sv st h
  | remove sv => exact removeServices_inv fx s sv h herr
  | reset => simp only [step, herr]; exact ⟨reset_inv s h, rfl⟩
  | decode m sl =>
    have := decodeFrame_spec s m sl (fun p hp => (h.pat p hp).2) h.svcPat
    exact ⟨this.inv h, this.sp⟩

/-- Induction over histories: only steps from a state without error value count, and the invariant `Inv` and the sampling
    parameters come for free. -/
theorem run_ind (fx : Fixes) (ti : Nat → Nat) (sp : SPar) {P : State → Prop} (h0 : P (init sp))
    (hs : ∀ s op, Inv s → s.sp = sp → s.err = none → P s → P (step fx ti s op)) (ops : List Op) : P (run fx ti sp ops) := by
  unfold run
  have : ∀ (ops : List Op) (s : State), Inv s → s.sp = sp → P s → P (ops.foldl (step fx ti) s) := by
    intro ops
    induction ops with
    | nil => intro s _ _ h; exact h
    | cons op rest ih =>
      intro s hi hsp h
      have := step_inv fx ti s op hi
      refine ih _ this.1 (this.2.trans hsp) ?_
      rcases err_cases s with he | herr
      · rw [step_of_err fx ti op he]; exact h
      · exact hs s op hi hsp herr h
  exact this ops _ (inv_init sp) rfl h0

theorem run_inv (fx : Fixes) (ti : Nat → Nat) (sp : SPar) (ops : List Op) :
    Inv (run fx ti sp ops) ∧ (run fx ti sp ops).sp = sp :=
  run_ind fx ti sp (P := fun s => Inv s ∧ s.sp = sp) ⟨inv_init sp, rfl⟩
    (fun s op hi hsp _ _ => ⟨(step_inv fx ti s op hi).1, (step_inv fx ti s op hi).2.trans hsp⟩) ops

theorem run_snoc (fx : Fixes) (ti : Nat → Nat) (sp : SPar) (ops : List Op) (op : Op) :
    run fx ti sp (ops ++ [op]) = step fx ti (run fx ti sp ops) op := by
  unfold run; rw [List.foldl_append]; rfl

theorem frame_of_run (fx : Fixes) (ti : Nat → Nat) (sp : SPar) (ops : List Op) (m : Nat) (sl : Slicer) :
    Frame (run fx ti sp ops) m sl (decodeFrame (run fx ti sp ops) m sl) :=
  decodeFrame_spec _ m sl (fun p hp => ((run_inv fx ti sp ops).1.pat p hp).2) (run_inv fx ti sp ops).1.svcPat

end Zvbi.Rawdec
