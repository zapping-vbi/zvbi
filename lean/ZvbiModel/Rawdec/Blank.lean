import ZvbiModel.Rawdec.Model
/-!
# The per-line prediction state of `decode_pattern` across decode calls

`pattern[row * 8 .. row * 8 + 7]` is the only thing `vbi3_raw_decoder_decode` remembers about a scan line from one call
to the next (plus `rd->readjust`, a call counter modulo 16, and the slicers' adaptive thresholds):
* the jobs searched on the line, in the order they are tried (`j > 0`), followed by free ways (`0`);
* the matched job is swapped to way 0 (`*pat = pattern[0]; pattern[0] = j;`): the ORDER is history;
* the last way holds a counter `-128 .. -1` ("not blank", set to -128 by a match and by `add_job_to_pattern`); the
  statement that would count it up after a call without match,
  `pattern[_VBI3_RAW_DECODER_MAX_WAYS - 1] = j + 1;`, is inside a comment in the released code;
* were the counter to reach 0 the "found nothing" branch would swap a 0 into way 0: the line is *predicted blank* and
  `decode_pattern` returns before calling any slicer, except that with `rd->readjust == 0` the row is rotated.

`decodeWaysC ctr` is `decode_pattern` with the counter statement as a switch; `Generated.RawdecFlags.blankCounterOn`
(regenerated from the statement text of /repo on every run) says which one /repo contains.  `Rawdec.Model.decodeWays`
is the instance `ctr = false` (`decodeWaysC_false`).

`tryJobs` is the history-free meaning of one `decode_pattern` call: the jobs of a list are tried in order, each with
the threshold its slicer has at that moment, until one matches.
-/
namespace Zvbi.Rawdec
open Zvbi.Generated.ServiceTable

/-- `decode_pattern` from way `p` on, with the statement `pattern[MAX_WAYS - 1] = j + 1;` live iff `ctr` -/
def decodeWaysC (ctr : Bool) (sp : SPar) (readjust : Nat) (sl : Nat → Job → Option (List Nat) × Nat) (i : Nat) :
    Nat → Nat → PRow → List Job → Except String (PRow × List Job × Option Rec)
  | 0, _, _, _ => .error "oob decode.pat"
  | fuel + 1, p, row, jobs =>
    match row[p]? with
    | none => .error "oob decode.pat"
    | some j =>
      if j > 0 then
        match jobs[j.toNat - 1]? with
        | none => .error "oob decode.job"
        | some job =>
          let (res, th) := sl (j.toNat - 1) job
          let jobs' := jobs.set (j.toNat - 1) { job with thresh := th }
          match res with
          | none => decodeWaysC ctr sp readjust sl i fuel (p + 1) row jobs'
          | some data =>
            let row1 := row.set (maxWays - 1) (-128)
            .ok (moveToFront row1 p j, jobs', some { id := job.id, line := lineOf sp i, data := data })
      else if p = 0 then
        .ok (if readjust = 0 then rotateRow row else row, jobs, none)
      else
        match row[maxWays - 1]? with
        | none => .error "oob decode.last"
        | some j7 =>
          if j7 < 0 then .ok (if ctr then row.set (maxWays - 1) (j7 + 1) else row, jobs, none)
          else .ok (moveToFront row p j7, jobs, none)

def decodePatternC (ctr : Bool) (sp : SPar) (readjust : Nat) (sl : Nat → Job → Option (List Nat) × Nat) (i : Nat)
    (row : PRow) (jobs : List Job) : Except String (PRow × List Job × Option Rec) :=
  decodeWaysC ctr sp readjust sl i row.length 0 row jobs

/-- the model of `Rawdec/Model.lean` is the one with the counter statement commented out -/
theorem decodeWaysC_false (sp : SPar) (rj : Nat) (sl : Nat → Job → Option (List Nat) × Nat) (i : Nat) :
    ∀ (fuel p : Nat) (row : PRow) (jobs : List Job),
      decodeWaysC false sp rj sl i fuel p row jobs = decodeWays sp rj sl i fuel p row jobs := by
  intro fuel
  induction fuel with
  | zero => intro p row jobs; rfl
  | succ fuel ih =>
    intro p row jobs
    unfold decodeWaysC decodeWays
    cases row[p]? with
    | none => rfl
    | some j =>
      simp only []
      by_cases hj : j > 0
      · simp only [hj, if_true]
        cases jobs[j.toNat - 1]? with
        | none => rfl
        | some job =>
          simp only []
          cases (sl (j.toNat - 1) job).1 with
          | none => simp only []; exact ih _ _ _
          | some d => rfl
      · simp only [hj, if_false]
        rfl

/-- one decode call on ONE line of a persistent decoder: `(row, jobs, readjust)` -> the same after the call and the
    record written; the loop of `vbi3_raw_decoder_decode` restricted to a single scan line -/
def lineCall (ctr : Bool) (sp : SPar) (i : Nat) (st : PRow × List Job × Nat) (sl : Nat → Job → Option (List Nat) × Nat) :
    (PRow × List Job × Nat) × Option Rec :=
  match decodePatternC ctr sp st.2.2 sl i st.1 st.2.1 with
  | .ok (row', jobs', rec) => ((row', jobs', (st.2.2 + 1) % 16), rec)
  | .error _ => ((st.1, st.2.1, (st.2.2 + 1) % 16), none)

/-- a history of calls on one line; the records of every call -/
def lineHistory (ctr : Bool) (sp : SPar) (i : Nat) :
    (PRow × List Job × Nat) → List (Nat → Job → Option (List Nat) × Nat) → (PRow × List Job × Nat) × List (Option Rec)
  | st, [] => (st, [])
  | st, sl :: rest =>
    let (st', r) := lineCall ctr sp i st sl
    let (st'', rs) := lineHistory ctr sp i st' rest
    (st'', r :: rs)

/-! ## what a call means when nothing is remembered -/

/-- the jobs `ways` (job numbers, 1-based) are tried in this order, each slicer with the threshold it has at that
    moment, until one matches: (job index, payload) of the match, and the jobs with their new thresholds -/
def tryJobs (sl : Nat → Job → Option (List Nat) × Nat) : List Int → List Job → Option (Nat × Job × List Nat) × List Job
  | [], jobs => (none, jobs)
  | j :: rest, jobs =>
    match jobs[j.toNat - 1]? with
    | none => (none, jobs)
    | some job =>
      let (res, th) := sl (j.toNat - 1) job
      let jobs' := jobs.set (j.toNat - 1) { job with thresh := th }
      match res with
      | some data => (some (j.toNat - 1, job, data), jobs')
      | none => tryJobs sl rest jobs'

/-- the job numbers listed for a line: all positive entries of its row, in way order -/
def jobsOf (row : PRow) : List Int := row.filter (fun x => decide (0 < x))

/-- a row in which no prediction can hide a job: the jobs come first (no job behind a free way), and while the line
    has a job the last way holds the (negative) "not blank" marker -/
structure RowArmed (row : PRow) : Prop where
  compact : ∀ p q, p < q → q < 8 → 0 < row.getD q 0 → 0 < row.getD p 0
  marker : 0 < row.getD 0 0 → row.getD 7 0 < 0

instance (row : PRow) : Decidable (RowArmed row) :=
  decidable_of_iff ((∀ p q : Fin 8, p.val < q.val → 0 < row.getD q.val 0 → 0 < row.getD p.val 0) ∧
      (0 < row.getD 0 0 → row.getD 7 0 < 0))
    ⟨fun h => ⟨fun p q hpq hq hpos => h.1 ⟨p, by omega⟩ ⟨q, hq⟩ hpq hpos, h.2⟩,
     fun h => ⟨fun p q hpq hpos => h.compact p.val q.val hpq q.isLt hpos, h.marker⟩⟩

def PatArmed (pat : Pattern) : Prop := ∀ row ∈ pat, RowArmed row

instance (pat : Pattern) : Decidable (PatArmed pat) := by unfold PatArmed; infer_instance

/-- the part of a job a decode call never changes (everything but the slicer threshold) -/
def jobKey (j : Job) : Nat × Nat := (j.id, j.row)

/-- the slicers' verdict does not depend on the adaptive threshold left behind by earlier lines and frames -/
def ThreshFree (sl : Slicer) : Prop :=
  ∀ i k (job job' : Job), jobKey job = jobKey job' → (sl i k job).1 = (sl i k job').1

/-- does job number `x` (1-based) match on row `i`? -/
def hitOf (sl : Slicer) (jobs : List Job) (i : Nat) (x : Int) : Option (List Nat) :=
  match jobs[x.toNat - 1]? with
  | some job => (sl i (x.toNat - 1) job).1
  | none => none

/-- the record a line yields when nothing is remembered: the first listed job whose slicer matches -/
def lineSpec (sp : SPar) (sl : Slicer) (jobs : List Job) (i : Nat) (row : PRow) : Option Rec :=
  match (jobsOf row).find? (fun x => (hitOf sl jobs i x).isSome) with
  | none => none
  | some x =>
    match jobs[x.toNat - 1]?, hitOf sl jobs i x with
    | some job, some d => some { id := job.id, line := lineOf sp i, data := d }
    | _, _ => none

/-- the records of a frame when nothing is remembered: row by row, at most `maxLines` -/
def frameSpec (sp : SPar) (sl : Slicer) (jobs : List Job) (pat : Pattern) (maxLines : Nat) : List Rec :=
  (((List.range pat.length).zip pat).filterMap (fun ir => lineSpec sp sl jobs ir.1 ir.2)).take maxLines

end Zvbi.Rawdec
