import ZvbiModel.Rawdec.BlankSpec
import ZvbiModel.Safe
/-!
# Lemmas for C04: the row invariant, the pattern operations, and `decode_pattern` on one row
-/
namespace Zvbi.Rawdec
open Zvbi.Generated.ServiceTable

/-- invariant of one scan line's way list; `n` = number of live jobs -/
structure RowOK (n : Nat) (row : PRow) : Prop where
  len : row.length = 8
  /-- a free (non-positive) way exists: the unbounded scans of `decode_pattern` / `add_job_to_pattern` stop inside the row -/
  free : ∃ x ∈ row, x ≤ 0
  /-- job numbers refer to live jobs -/
  bound : ∀ x ∈ row, x ≤ (n : Int)
  /-- "last or first": the last way holds a job only while the line is predicted blank (way 0 free) -/
  lof : row.getD 7 0 ≤ 0 ∨ row.getD 0 0 ≤ 0

theorem row8 (row : PRow) (h : row.length = 8) : ∃ a0 a1 a2 a3 a4 a5 a6 a7, row = [a0, a1, a2, a3, a4, a5, a6, a7] := by
  match row, h with
  | [a0, a1, a2, a3, a4, a5, a6, a7], _ => exact ⟨a0, a1, a2, a3, a4, a5, a6, a7, rfl⟩

/-- The row layer is written for the 8 ways of the released code: `RowOK.len`, `RowArmed`, `row8`, `mem8`, `armed8_iff` and the
    explicit rows of `mtf_match` .. say 8 and 7 where the C code says `MAX_WAYS` and `MAX_WAYS - 1`. -/
theorem maxWays_eq : maxWays = 8 := rfl

theorem RowOK.mono {n m : Nat} {row : PRow} (h : RowOK n row) (hnm : n ≤ m) : RowOK m row :=
  ⟨h.len, h.free, fun x hx => by have := h.bound x hx; omega, h.lof⟩

theorem RowOK.jobs {n : Nat} {row : PRow} (h : RowOK n row) : ∀ x ∈ jobsOf row, 0 < x ∧ x ≤ (n : Int) := by
  intro x hx
  rw [mem_jobsOf] at hx
  exact ⟨hx.2, h.bound x hx.1⟩

theorem getD_eq_getElem' (row : PRow) (p : Nat) (hp : p < row.length) : row.getD p 0 = row[p] :=
  (List.getElem_eq_getD 0).symm

theorem RowOK.of_last {n : Nat} {row : PRow} (hl : row.length = 8) (h7 : row.getD 7 0 ≤ 0)
    (hb : ∀ x ∈ row, x ≤ (n : Int)) : RowOK n row := by
  refine ⟨hl, ⟨row.getD 7 0, ?_, h7⟩, hb, .inl h7⟩
  rw [getD_eq_getElem' row 7 (by omega)]
  exact List.getElem_mem _

theorem blankRow_ok (n : Nat) : RowOK n blankRow :=
  .of_last rfl (by decide) (fun x hx => by rw [List.eq_of_mem_replicate hx]; omega)

/-- what one `decode_pattern` call does to a row: valid again, the same jobs (in whatever order), armed stays armed -/
structure RowStep (n : Nat) (r r' : PRow) : Prop where
  ok : RowOK n r'
  same : SameJobs r r'
  armed : RowArmed r → RowArmed r'

/-- row `r'` of a later state against row `r` of an earlier one: valid, armed, the same jobs (in whatever order) -/
def RowRel (n : Nat) (r r' : PRow) : Prop := RowOK n r' ∧ RowArmed r' ∧ SameJobs r r'

inductive RowsRel (n : Nat) : List PRow → List PRow → Prop
  | nil : RowsRel n [] []
  | cons {r r' : PRow} {rs rs' : List PRow} : RowRel n r r' → RowsRel n rs rs' → RowsRel n (r :: rs) (r' :: rs')

theorem RowsRel.snoc {n : Nat} {l l' : List PRow} {r r' : PRow} (h : RowsRel n l l') (hr : RowRel n r r') :
    RowsRel n (l ++ [r]) (l' ++ [r']) := by
  induction h with
  | nil => exact .cons hr .nil
  | cons h1 _ ih => exact .cons h1 ih

theorem RowRel.trans {n : Nat} {a b c : PRow} (h1 : RowRel n a b) (h2 : RowRel n b c) : RowRel n a c :=
  ⟨h2.1, h2.2.1, fun x hx => by rw [h2.2.2 x hx, h1.2.2 x hx]⟩

theorem RowsRel.trans {n : Nat} {a b c : List PRow} (h1 : RowsRel n a b) (h2 : RowsRel n b c) : RowsRel n a c := by
  induction h1 generalizing c with
  | nil => cases h2; exact .nil
  | cons hr _ ih =>
    cases h2 with
    | cons hr2 h2' => exact .cons (hr.trans hr2) (ih h2')

theorem RowsRel.refl {n : Nat} (p : List PRow) (h : ∀ r ∈ p, RowOK n r ∧ RowArmed r) : RowsRel n p p := by
  induction p with
  | nil => exact .nil
  | cons r rs ih =>
    exact .cons ⟨(h r (by simp)).1, (h r (by simp)).2, fun _ _ => rfl⟩ (ih (fun r' hr' => h r' (by simp [hr'])))

theorem RowsRel.right {n : Nat} {a b : List PRow} (h : RowsRel n a b) : ∀ r ∈ b, RowOK n r ∧ RowArmed r := by
  induction h with
  | nil => intro r hr; cases hr
  | cons hr _ ih =>
    intro r hmem
    rcases List.mem_cons.mp hmem with rfl | h'
    · exact ⟨hr.1, hr.2.1⟩
    · exact ih r h'

theorem RowStep.rel {n : Nat} {r r' : PRow} (h : RowStep n r r') (ha : RowArmed r) : RowRel n r r' :=
  ⟨h.ok, h.armed ha, h.same⟩

theorem rowsRel_getElem? {n : Nat} {a b : List PRow} (h : RowsRel n a b) :
    ∀ (i : Nat) (row : PRow), b[i]? = some row → ∃ row0, a[i]? = some row0 ∧ RowRel n row0 row := by
  induction h with
  | nil => intro i row hr; simp at hr
  | cons hr _ ih =>
    intro i row hrow
    cases i with
    | zero =>
      simp only [List.getElem?_cons_zero, Option.some.injEq] at hrow
      subst hrow
      exact ⟨_, by simp, hr⟩
    | succ i =>
      simp only [List.getElem?_cons_succ] at hrow ⊢
      exact ih i row hrow

/-! ### compaction (first loop of `add_job_to_pattern`) -/

theorem compactRow_eq (jn : Int) (row : PRow) :
    (compactRow jn row).1 = jobsOf row ++ List.replicate (row.length - (jobsOf row).length) 0 := rfl

theorem compactRow_ok {n : Nat} {row : PRow} (jn : Int) (h : RowOK n row) : RowOK n (compactRow jn row).1 := by
  have hlen := h.len
  obtain ⟨x, hx, hx0⟩ := h.free
  have hlt : (jobsOf row).length < row.length := by
    unfold jobsOf
    rw [List.length_filter_lt_length_iff_exists]
    exact ⟨x, hx, by simp; omega⟩
  rw [compactRow_eq]
  have hl : (jobsOf row ++ List.replicate (row.length - (jobsOf row).length) (0 : Int)).length = 8 := by
    simp; omega
  refine .of_last hl ?_ ?_
  · rw [getD_eq_getElem' _ 7 (by rw [hl]; omega), List.getElem_append_right (by omega)]
    simp
  · intro y hy
    rw [List.mem_append, List.mem_replicate] at hy
    rcases hy with hy | hy
    · exact h.bound y (List.mem_filter.mp hy).1
    · omega

/-! ### placement (second loop of `add_job_to_pattern`) -/

theorem placeRow_ok {n : Nat} {row : PRow} (jn : Int) (h : RowOK n row) (hjn : jn ≤ (n : Int)) :
    Safe (RowOK n) (placeRow jn row) := by
  obtain ⟨x, hx, hx0⟩ := h.free
  unfold placeRow
  cases hf : findWay jn row with
  | none =>
    exfalso
    simp only [findWay, List.findIdx?_eq_none_iff] at hf
    have := hf x hx
    simp at this
    omega
  | some way =>
    refine ⟨_, rfl, ?_⟩
    have hl : ((row.set way jn).set (maxWays - 1) (-128)).length = 8 := by simp [h.len]
    refine .of_last hl ?_ ?_
    · rw [getD_eq_getElem' _ 7 (by rw [hl]; omega)]
      simp [maxWays_eq]
    · intro y hy
      rcases List.mem_or_eq_of_mem_set hy with hy | hy
      · rcases List.mem_or_eq_of_mem_set hy with hy | hy
        · exact h.bound y hy
        · omega
      · omega

/-! ### removal (`remove_job_from_pattern`) -/

/-- a `filterMap` that drops nothing acts position by position -/
theorem filterMap_full {α β : Type} (f : α → Option β) :
    ∀ (l : List α), (l.filterMap f).length = l.length → ∀ i : Nat, (l.filterMap f)[i]? = (l[i]?).bind f
  | [], _, i => by simp
  | x :: xs, h, i => by
    cases hf : f x with
    | none =>
      rw [List.filterMap_cons_none hf] at h
      have := List.length_filterMap_le f xs
      simp at h; omega
    | some y =>
      rw [List.filterMap_cons_some hf] at h ⊢
      have ih := filterMap_full f xs (by simpa using h)
      cases i with
      | zero => simp [hf]
      | succ i => simpa using ih i

/-- the function `remove_job_from_pattern` applies to (way index, entry): the anonymous function inside `removeRow`, under a
    name so that `removeRow_app` can say on which entries it is `gR` -/
def removeF (km : Bool) (jn : Int) (len : Nat) (x : Nat × Int) : Option Int :=
  if x.2 > jn then some (x.2 - 1)
  else if x.2 ≠ jn ∧ (!km ∨ x.2 ≥ 0 ∨ x.1 + 1 < len) then some x.2 else none

theorem removeRow_eq (km : Bool) (jn : Int) (row : PRow) :
    removeRow km jn row =
      (let kept := ((List.range row.length).zip row).filterMap (removeF km jn row.length)
       let filled := kept ++ List.replicate (row.length - kept.length) 0
       if km ∧ row.getD (row.length - 1) 0 < 0 then filled.set (row.length - 1) (row.getD (row.length - 1) 0) else filled) := by
  unfold removeRow removeF
  rfl

/-- what `remove_job_from_pattern` does to an entry that is not a marker in the last way -/
def gR (jn : Int) (x : Int) : Option Int := if x > jn then some (x - 1) else if x ≠ jn then some x else none

theorem filterMap_zip_range' (F : Nat × Int → Option Int) (G : Int → Option Int) (N : Nat)
    (hF : ∀ i x, i < N → F (i, x) = G x) :
    ∀ (l : List Int) (s : Nat), s + l.length ≤ N → ((List.range' s l.length).zip l).filterMap F = l.filterMap G
  | [], s, _ => by simp
  | x :: xs, s, h => by
    simp only [List.length_cons, List.range'_succ, List.zip_cons_cons, List.filterMap_cons]
    rw [hF s x (by simp at h; omega), filterMap_zip_range' F G N hF xs (s + 1) (by simp at h; omega)]

theorem set_last (l : List Int) (x m : Int) : (l ++ [x]).set l.length m = l ++ [m] := by
  rw [List.set_append]; simp

/-- `remove_job_from_pattern` on one scan line, for every row and either version: the entries are filtered and renumbered
    (`gR`), zeros fill up; a negative last way is set aside and written back when the marker is kept -/
theorem removeRow_app (km : Bool) (jn : Int) (hjn : 0 < jn) (init : List Int) (last : Int) :
    removeRow km jn (init ++ [last]) =
      if km = true ∧ last < 0 then
        init.filterMap (gR jn) ++ List.replicate (init.length - (init.filterMap (gR jn)).length) 0 ++ [last]
      else (init ++ [last]).filterMap (gR jn) ++
        List.replicate (init.length + 1 - ((init ++ [last]).filterMap (gR jn)).length) 0 := by
  rw [removeRow_eq]
  have hlen : (init ++ [last]).length = init.length + 1 := by simp
  have hK : (init.filterMap (gR jn)).length ≤ init.length := List.length_filterMap_le _ _
  have hg : (init ++ [last]).getD (init.length + 1 - 1) 0 = last := by
    rw [List.getD_eq_getElem?_getD, List.getElem?_append_right (by omega)]; simp
  have hzip : ((List.range (init.length + 1)).zip (init ++ [last])).filterMap (removeF km jn (init.length + 1)) =
      init.filterMap (gR jn) ++ (if km = true ∧ last < 0 then [] else [last].filterMap (gR jn)) := by
    rw [List.range_succ, List.zip_append (by simp), List.filterMap_append]
    congr 1
    · rw [List.range_eq_range']
      apply filterMap_zip_range' _ _ init.length
      · intro i x hi
        unfold removeF gR
        by_cases h2 : x = jn <;> simp [h2, hi]
      · omega
    · unfold removeF gR
      simp only [List.zip_cons_cons, List.zip_nil_right, List.filterMap_cons, List.filterMap_nil]
      by_cases hm : km = true ∧ last < 0
      · have h1 : ¬ (last > jn) := by omega
        have h2 : ¬ (last ≥ 0) := by omega
        simp [hm, h1, h2]
      · rw [if_neg hm]
        have : km = false ∨ 0 ≤ last := by
          cases km <;> simp at hm ⊢; omega
        by_cases h1 : last > jn <;> by_cases h2 : last = jn <;> simp [h1, h2, this]
  simp only []
  rw [hlen, hzip, hg]
  by_cases hm : km = true ∧ last < 0
  · simp only [hm, and_self, if_true, List.append_nil]
    generalize init.filterMap (gR jn) = K at hK ⊢
    rw [show init.length + 1 - K.length = (init.length - K.length) + 1 by omega, List.replicate_succ', ← List.append_assoc,
      show init.length + 1 - 1 = (K ++ List.replicate (init.length - K.length) (0 : Int)).length by simp; omega]
    exact set_last _ _ _
  · simp only [hm, if_false, List.filterMap_append]

theorem gR_nonpos {jn x : Int} (hjn : 0 < jn) (hx : x ≤ 0) : gR jn x = some x := by
  unfold gR
  rw [if_neg (by omega), if_pos (by omega)]

/-- the repaired version on a row whose last way holds no job: the last way keeps its content -/
theorem removeRow_marker (jn : Int) (hjn : 0 < jn) (init : List Int) (last : Int) (hlast : last ≤ 0) :
    removeRow true jn (init ++ [last]) =
      init.filterMap (gR jn) ++ List.replicate (init.length - (init.filterMap (gR jn)).length) 0 ++ [last] := by
  rw [removeRow_app true jn hjn]
  split
  · rfl
  · rename_i hm
    have h0 : last = 0 := by
      have : ¬ last < 0 := fun hh => hm ⟨rfl, hh⟩
      omega
    subst h0
    have hK := List.length_filterMap_le (gR jn) init
    rw [List.filterMap_append, List.filterMap_cons_some (gR_nonpos hjn (Int.le_refl 0)), List.filterMap_nil, List.append_assoc,
      List.append_assoc, List.length_append, List.length_singleton,
      show init.length + 1 - ((init.filterMap (gR jn)).length + 1) = init.length - (init.filterMap (gR jn)).length by omega,
      show [(0 : Int)] ++ List.replicate (init.length - (init.filterMap (gR jn)).length) 0 =
        List.replicate (init.length - (init.filterMap (gR jn)).length) 0 ++ [0] by
          rw [← List.replicate_succ', List.replicate_succ]; rfl]

theorem gR_pos {jn x y : Int} (h : gR jn x = some y) :
    (x < jn ∧ y = x) ∨ (jn < x ∧ y = x - 1) := by
  unfold gR at h
  split at h
  · simp at h; omega
  · split at h
    · simp at h; omega
    · cases h

theorem gR_le {jn x y : Int} {n : Nat} (hjn' : jn ≤ (n : Int)) (hx : x ≤ (n : Int)) (h : gR jn x = some y) :
    y ≤ ((n - 1 : Nat) : Int) := by
  rcases gR_pos h with h | h <;> omega

theorem removeRow_ok {n : Nat} {row : PRow} (km : Bool) (jn : Int) (h : RowOK n row) (hjn : 0 < jn) (hjn' : jn ≤ (n : Int)) :
    RowOK (n - 1) (removeRow km jn row) := by
  have hlen8 := h.len
  obtain ⟨init, last, rfl⟩ : ∃ init last, row = init ++ [last] :=
    ⟨row.dropLast, row.getLast (by intro h0; rw [h0] at hlen8; cases hlen8), (List.dropLast_concat_getLast _).symm⟩
  have hil : init.length = 7 := by simpa using hlen8
  have hgb : ∀ l : List Int, (∀ x ∈ l, x ≤ (n : Int)) → ∀ y ∈ l.filterMap (gR jn), y ≤ ((n - 1 : Nat) : Int) := by
    intro l hl y hy
    obtain ⟨x, hx, hxy⟩ := List.mem_filterMap.1 hy
    exact gR_le hjn' (hl x hx) hxy
  have hlof := h.lof
  rw [List.getD_eq_getElem?_getD, List.getD_eq_getElem?_getD, List.getElem?_append_right (by omega), hil] at hlof
  simp only [Nat.sub_self, List.getElem?_cons_zero, Option.getD_some] at hlof
  rw [removeRow_app km jn hjn, hil]
  split
  · -- the marker is set aside and written back
    rename_i hm
    have hK := List.length_filterMap_le (gR jn) init
    refine .of_last (by simp; omega) ?_ ?_
    · rw [List.getD_eq_getElem?_getD, List.getElem?_append_right (by simp; omega)]
      simp [show 7 - ((init.filterMap (gR jn)).length + (7 - (init.filterMap (gR jn)).length)) = 0 by omega]
      omega
    · intro y hy
      simp only [List.mem_append, List.mem_replicate, List.mem_singleton] at hy
      rcases hy with (hy | hy) | hy
      · exact hgb init (fun x hx => h.bound x (by simp [hx])) y hy
      · omega
      · omega
  · generalize hK : (init ++ [last]).filterMap (gR jn) = K
    have hKl : K.length ≤ 8 := by
      have := List.length_filterMap_le (gR jn) (init ++ [last]); rw [hK] at this; simpa [hil] using this
    have hKb : ∀ y ∈ K ++ List.replicate (7 + 1 - K.length) (0 : Int), y ≤ ((n - 1 : Nat) : Int) := by
      intro y hy
      rw [List.mem_append, List.mem_replicate] at hy
      rcases hy with hy | hy
      · exact hgb _ h.bound y (hK ▸ hy)
      · omega
    have hfl : (K ++ List.replicate (7 + 1 - K.length) (0 : Int)).length = 8 := by simp; omega
    by_cases hk8 : K.length = 8
    · -- nothing was dropped: position by position
      have hfull := filterMap_full (gR jn) (init ++ [last]) (by rw [hK]; simp; omega)
      rw [hK] at hfull
      have hap : K ++ List.replicate (7 + 1 - K.length) (0 : Int) = K := by simp; omega
      rw [hap] at hKb hfl ⊢
      rcases hlof with hl | hl
      · refine .of_last hfl ?_ hKb
        rw [List.getD_eq_getElem?_getD, hfull 7, List.getElem?_append_right (by omega), hil]
        simp [gR_nonpos hjn hl, hl]
      · have h0 : K[0]? = some ((init ++ [last])[0]?.getD 0) := by
          rw [hfull 0]
          cases h00 : (init ++ [last])[0]? with
          | none => simp at h00
          | some a =>
            rw [h00] at hl
            simp only [Option.getD_some] at hl
            simp [gR_nonpos hjn hl]
        refine ⟨hfl, ⟨_, List.mem_of_getElem? h0, hl⟩, hKb, .inr ?_⟩
        rw [List.getD_eq_getElem?_getD, h0]; exact hl
    · refine .of_last hfl ?_ hKb
      rw [List.getD_eq_getElem?_getD, List.getElem?_append_right (by omega), List.getElem?_replicate]
      split <;> simp

theorem mem8 {a0 a1 a2 a3 a4 a5 a6 a7 x : Int} (h : x ∈ [a0, a1, a2, a3, a4, a5, a6, a7]) :
    x = a0 ∨ x = a1 ∨ x = a2 ∨ x = a3 ∨ x = a4 ∨ x = a5 ∨ x = a6 ∨ x = a7 := by
  simpa using h

theorem bound8 {a0 a1 a2 a3 a4 a5 a6 a7 : Int} {n : Int} (h : ∀ x ∈ [a0, a1, a2, a3, a4, a5, a6, a7], x ≤ n) :
    a0 ≤ n ∧ a1 ≤ n ∧ a2 ≤ n ∧ a3 ≤ n ∧ a4 ≤ n ∧ a5 ≤ n ∧ a6 ≤ n ∧ a7 ≤ n := by
  simpa using h

/-- jobs before free ways, stated for neighbours only -/
theorem compact_of_chain (row : PRow) (h : ∀ k, k + 1 < 8 → 0 < row.getD (k + 1) 0 → 0 < row.getD k 0) :
    ∀ p q, p < q → q < 8 → 0 < row.getD q 0 → 0 < row.getD p 0 := by
  intro p q
  induction q with
  | zero => intro hpq; omega
  | succ q ih =>
    intro hpq hq hpos
    have hq0 := h q hq hpos
    by_cases hp : p = q
    · rw [hp]; exact hq0
    · exact ih (by omega) (by omega) hq0

/-- `RowArmed` of an explicit row: a chain of implications between neighbours, and the marker -/
theorem armed8_iff (a0 a1 a2 a3 a4 a5 a6 a7 : Int) :
    RowArmed [a0, a1, a2, a3, a4, a5, a6, a7] ↔
      ((0 < a1 → 0 < a0) ∧ (0 < a2 → 0 < a1) ∧ (0 < a3 → 0 < a2) ∧ (0 < a4 → 0 < a3) ∧ (0 < a5 → 0 < a4) ∧
       (0 < a6 → 0 < a5) ∧ (0 < a7 → 0 < a6) ∧ (0 < a0 → a7 < 0)) := by
  constructor
  · intro h
    have c := h.compact
    exact ⟨c 0 1 (by omega) (by omega), c 1 2 (by omega) (by omega), c 2 3 (by omega) (by omega),
      c 3 4 (by omega) (by omega), c 4 5 (by omega) (by omega), c 5 6 (by omega) (by omega),
      c 6 7 (by omega) (by omega), h.marker⟩
  · intro ⟨c1, c2, c3, c4, c5, c6, c7, m⟩
    refine ⟨compact_of_chain _ (fun k hk => ?_), m⟩
    have hk' : k = 0 ∨ k = 1 ∨ k = 2 ∨ k = 3 ∨ k = 4 ∨ k = 5 ∨ k = 6 := by omega
    rcases hk' with rfl | rfl | rfl | rfl | rfl | rfl | rfl
    · exact c1
    · exact c2
    · exact c3
    · exact c4
    · exact c5
    · exact c6
    · exact c7

theorem blankRow_armed : RowArmed blankRow := by decide

/-- the matched job moves to way 0, the marker is set.  Move-to-front exchanges ways 0 and `p`, and the marker way held no job,
    so every positive value occurs as often as before (the `count` goal, way by way for the seven positions of `p`). -/
theorem mtf_match (a0 a1 a2 a3 a4 a5 a6 a7 : Int) (p : Nat) (hp : p < 7) (j : Int)
    (hj : [a0, a1, a2, a3, a4, a5, a6, a7].getD p 0 = j) (hj0 : 0 < j) (h7 : a7 ≤ 0) (n : Nat)
    (hb : ∀ x ∈ [a0, a1, a2, a3, a4, a5, a6, a7], x ≤ (n : Int)) :
    RowStep n [a0, a1, a2, a3, a4, a5, a6, a7]
      (moveToFront ([a0, a1, a2, a3, a4, a5, a6, a7].set (maxWays - 1) (-128)) p j) := by
  have hb' := bound8 hb
  have hp' : p = 0 ∨ p = 1 ∨ p = 2 ∨ p = 3 ∨ p = 4 ∨ p = 5 ∨ p = 6 := by omega
  rcases hp' with rfl | rfl | rfl | rfl | rfl | rfl | rfl <;>
  · simp only [List.getD_cons_succ, List.getD_cons_zero] at hj
    subst hj
    simp only [moveToFront, maxWays_eq, List.set_cons_succ, List.set_cons_zero, List.getD_cons_zero,
      show (8 - 1 : Nat) = 7 from rfl]
    refine ⟨⟨rfl, ⟨-128, by simp, by omega⟩, ?_, .inl (by simp)⟩, ?_, ?_⟩
    · intro x hx
      have := mem8 hx
      omega
    · intro x hx
      have e1 : ¬ (a7 = x) := by omega
      have e2 : ¬ ((-128 : Int) = x) := by omega
      simp only [List.count_cons, List.count_nil, beq_iff_eq, e1, e2, if_false]
      try omega
    · rw [armed8_iff, armed8_iff]
      intro ⟨c1, c2, c3, c4, c5, c6, c7, m⟩
      refine ⟨?_, ?_, ?_, ?_, ?_, ?_, ?_, ?_⟩ <;> omega

/-- "found nothing" on a row that has lost its marker: way 0's job goes to the first free way, way 0 becomes 0 -/
theorem mtf_nothing (a0 a1 a2 a3 a4 a5 a6 a7 : Int) (p : Nat) (hp0 : 0 < p) (hp : p < 8)
    (hj : [a0, a1, a2, a3, a4, a5, a6, a7].getD p 0 ≤ 0) (h0 : 0 < a0) (h7 : ¬ a7 < 0) (n : Nat)
    (hb : ∀ x ∈ [a0, a1, a2, a3, a4, a5, a6, a7], x ≤ (n : Int)) :
    RowStep n [a0, a1, a2, a3, a4, a5, a6, a7] (moveToFront [a0, a1, a2, a3, a4, a5, a6, a7] p 0) := by
  have hb' := bound8 hb
  have hp' : p = 1 ∨ p = 2 ∨ p = 3 ∨ p = 4 ∨ p = 5 ∨ p = 6 ∨ p = 7 := by omega
  rcases hp' with rfl | rfl | rfl | rfl | rfl | rfl | rfl <;>
  · simp only [List.getD_cons_succ, List.getD_cons_zero] at hj
    simp only [moveToFront, List.set_cons_succ, List.set_cons_zero, List.getD_cons_zero]
    refine ⟨⟨rfl, ⟨0, by simp, by omega⟩, ?_, .inr (by simp)⟩, ?_, fun ha => absurd (by simpa using ha.marker h0) h7⟩
    · intro x hx
      have := mem8 hx
      omega
    · intro x hx
      have e1 : ¬ ((0 : Int) = x) := by omega
      have hne : ∀ a : Int, a ≤ 0 → ¬ (a = x) := by intro a h; omega
      simp only [List.count_cons, List.count_nil, beq_iff_eq, e1, hne _ hj, if_false]
      try omega

theorem rotate_ok (a0 a1 a2 a3 a4 a5 a6 a7 : Int) (h0 : a0 ≤ 0) (n : Nat)
    (hb : ∀ x ∈ [a0, a1, a2, a3, a4, a5, a6, a7], x ≤ (n : Int)) :
    RowStep n [a0, a1, a2, a3, a4, a5, a6, a7] (rotateRow [a0, a1, a2, a3, a4, a5, a6, a7]) := by
  have hb' := bound8 hb
  refine ⟨⟨by simp [rotateRow], ⟨a0, by simp [rotateRow], h0⟩, ?_, by simp [rotateRow]; omega⟩, ?_, ?_⟩
  · intro x hx
    simp [rotateRow] at hx
    omega
  · intro x _
    simp [rotateRow, List.count_cons]
    omega
  · simp only [rotateRow, List.cons_append, List.nil_append]
    rw [armed8_iff, armed8_iff]
    intro ⟨c1, c2, c3, c4, c5, c6, c7, m⟩
    refine ⟨?_, ?_, ?_, ?_, ?_, ?_, ?_, ?_⟩ <;> omega

theorem RowStep.refl {n : Nat} {row : PRow} (h : RowOK n row) : RowStep n row row := ⟨h, fun _ _ => rfl, id⟩

theorem getD_of_mem8 {row : PRow} (h : row.length = 8) {x : Int} (hx : x ∈ row) : ∃ q, q < 8 ∧ row.getD q 0 = x := by
  obtain ⟨q, hq, rfl⟩ := List.mem_iff_getElem.mp hx
  exact ⟨q, by omega, getD_eq_getElem' row q hq⟩

/-- behind the first free way of an armed row there is no job -/
theorem jobsOf_drop_nil (row : PRow) (hlen : row.length = 8) (ha : RowArmed row) (p : Nat) (hp : p < 8)
    (hfree : row.getD p 0 ≤ 0) : jobsOf (row.drop p) = [] := by
  unfold jobsOf
  rw [List.filter_eq_nil_iff]
  intro x hx
  obtain ⟨k, hk, rfl⟩ := List.mem_iff_getElem.mp hx
  rw [List.length_drop] at hk
  rw [List.getElem_drop]
  have hq : p + k < row.length := by omega
  have := getD_eq_getElem' row (p + k) hq
  rw [← this]
  simp only [decide_eq_true_eq]
  intro hpos
  by_cases hk0 : k = 0
  · subst hk0; rw [Nat.add_zero] at hpos; omega
  · have := ha.compact p (p + k) (by omega) (by omega) hpos
    omega

theorem jobsOf_drop_cons (row : PRow) (p : Nat) (hp : p < row.length) (hpos : 0 < row[p]) :
    jobsOf (row.drop p) = row[p] :: jobsOf (row.drop (p + 1)) := by
  rw [List.drop_eq_getElem_cons hp]
  unfold jobsOf
  rw [List.filter_cons]
  simp [hpos]

/-- what `decode_pattern` from way `p` on returns on a valid row, `r` = (row, jobs, record): the row makes a `RowStep`, the jobs
    change in thresholds only; on an armed row what it does to the jobs and what it reports is exactly `tryJobs` over the jobs
    listed from way `p` on -/
structure WaysOK (sp : SPar) (sl : Nat → Job → Option (List Nat) × Nat) (i p : Nat) (row : PRow) (jobs : List Job)
    (r : PRow × List Job × Option Rec) : Prop where
  step : RowStep jobs.length row r.1
  rel : JobsRel jobs r.2.1
  record : ∀ x, r.2.2 = some x → x.line = lineOf sp i ∧ x.id ∈ jobs.map (·.id)
  blank : (∀ j job, (sl j job).1 = none) → r.2.2 = none
  armed : RowArmed row → r.2.1 = (tryJobs sl (jobsOf (row.drop p)) jobs).2 ∧
    r.2.2 = (tryJobs sl (jobsOf (row.drop p)) jobs).1.map
      (fun m => ({ id := m.2.1.id, line := lineOf sp i, data := m.2.2 } : Rec))

/-- `decode_pattern` on one valid row returns inside the row -/
theorem decodeWays_spec (sp : SPar) (rj : Nat) (sl : Nat → Job → Option (List Nat) × Nat) (i : Nat) :
    ∀ (fuel p : Nat) (row : PRow) (jobs : List Job), fuel + p = 8 → RowOK jobs.length row →
      (∀ q, q < p → 0 < row.getD q 0) →
      Safe (WaysOK sp sl i p row jobs) (decodeWays sp rj sl i fuel p row jobs) := by
  intro fuel
  induction fuel with
  | zero =>
    intro p row jobs hf hok hpre
    exfalso
    obtain ⟨x, hx, hx0⟩ := hok.free
    obtain ⟨q, hq, hqx⟩ := getD_of_mem8 hok.len hx
    have := hpre q (by omega)
    omega
  | succ fuel ih =>
    intro p row jobs hf hok hpre
    have hp : p < row.length := by rw [hok.len]; omega
    have hjv := getD_eq_getElem' row p hp
    unfold decodeWays
    rw [List.getElem?_eq_getElem hp]
    simp only []
    by_cases hj : row[p] > 0
    · rw [if_pos hj]
      have hjb := hok.bound row[p] (List.getElem_mem hp)
      have hk : row[p].toNat - 1 < jobs.length := by omega
      rw [List.getElem?_eq_getElem hk]
      simp only []
      have hset := jobsRel_set jobs _ hk (sl (row[p].toNat - 1) jobs[row[p].toNat - 1]).2
      cases hres : (sl (row[p].toNat - 1) jobs[row[p].toNat - 1]).1 with
      | none =>
        obtain ⟨r, he, hr⟩ :=
          ih (p + 1) row (jobs.set (row[p].toNat - 1) { jobs[row[p].toNat - 1] with
            thresh := (sl (row[p].toNat - 1) jobs[row[p].toNat - 1]).2 }) (by omega) (by rw [← hset.length]; exact hok)
            (by
              intro q hq
              by_cases hqp : q = p
              · subst hqp; rw [hjv]; exact hj
              · exact hpre q (by omega))
        refine ⟨r, ?_, hset.length ▸ hr.step, hset.trans hr.rel, ?_, hr.blank, fun ha => ?_⟩
        · rw [← he]
        · intro x hx
          have := hr.record x hx
          rw [hset.ids] at this
          exact this
        · obtain ⟨hjobs, hrec'⟩ := hr.armed ha
          rw [jobsOf_drop_cons row p hp hj]
          refine ⟨?_, ?_⟩
          · rw [hjobs]
            simp only [tryJobs, List.getElem?_eq_getElem hk, hres]
          · rw [hrec']
            simp only [tryJobs, List.getElem?_eq_getElem hk, hres]
      | some data =>
        obtain ⟨a0, a1, a2, a3, a4, a5, a6, a7, rfl⟩ := row8 row hok.len
        -- a free way lies behind p
        obtain ⟨x, hx, hx0⟩ := hok.free
        obtain ⟨q, hq, hqx⟩ := getD_of_mem8 hok.len hx
        have hqp : p < q := by
          rcases Nat.lt_trichotomy q p with h | h | h
          · have := hpre q h; omega
          · subst h; rw [hjv] at hqx; omega
          · exact h
        have hp7 : p < 7 := by omega
        have h0pos : 0 < [a0, a1, a2, a3, a4, a5, a6, a7].getD 0 0 := by
          by_cases hp0 : p = 0
          · subst hp0; rw [hjv]; exact hj
          · exact hpre 0 (by omega)
        have h7 : a7 ≤ 0 := by
          have := hok.lof
          simp only [List.getD_cons_succ, List.getD_cons_zero] at this h0pos
          omega
        refine ⟨_, rfl, mtf_match a0 a1 a2 a3 a4 a5 a6 a7 p hp7 _ hjv hj h7 jobs.length hok.bound, hset, ?_, ?_,
          fun ha => ?_⟩
        · intro r hr
          simp at hr
          subst hr
          exact ⟨rfl, List.mem_map.mpr ⟨_, List.getElem_mem hk, rfl⟩⟩
        · intro hall
          have := hall (([a0, a1, a2, a3, a4, a5, a6, a7][p]).toNat - 1) jobs[([a0, a1, a2, a3, a4, a5, a6, a7][p]).toNat - 1]
          rw [hres] at this
          cases this
        · rw [jobsOf_drop_cons _ p hp hj]
          refine ⟨?_, ?_⟩
          · simp only [tryJobs, List.getElem?_eq_getElem hk, hres]
          · simp only [tryJobs, List.getElem?_eq_getElem hk, hres, Option.map_some]
    · rw [if_neg hj]
      -- no job from way `p` on: nothing is tried
      have hnil : RowArmed row → jobsOf (row.drop p) = [] :=
        fun ha => jobsOf_drop_nil row hok.len ha p (by omega) (by rw [hjv]; omega)
      have hleaf : ∀ row', RowStep jobs.length row row' →
          Safe (WaysOK sp sl i p row jobs) (.ok (row', jobs, none) : Except String (PRow × List Job × Option Rec)) :=
        fun row' hs => .ok ⟨hs, JobsRel.refl _, (fun r hr => nomatch hr), fun _ => rfl,
          fun ha => by rw [hnil ha]; exact ⟨rfl, rfl⟩⟩
      obtain ⟨a0, a1, a2, a3, a4, a5, a6, a7, rfl⟩ := row8 row hok.len
      by_cases hp0 : p = 0
      · subst hp0
        simp only [if_true]
        have h0 : a0 ≤ 0 := by simpa using hj
        by_cases hr : rj = 0
        · rw [if_pos hr]
          exact hleaf _ (rotate_ok a0 a1 a2 a3 a4 a5 a6 a7 h0 jobs.length hok.bound)
        · rw [if_neg hr]
          exact hleaf _ (.refl hok)
      · rw [if_neg hp0]
        simp only [maxWays_eq]
        simp only [show (8 - 1 : Nat) = 7 from rfl, List.getElem?_cons_succ, List.getElem?_cons_zero]
        have h0pos := hpre 0 (by omega)
        by_cases h7 : a7 < 0
        · rw [if_pos h7]
          exact hleaf _ (.refl hok)
        · rw [if_neg h7]
          have hlof := hok.lof
          simp only [List.getD_cons_succ, List.getD_cons_zero] at h0pos hlof
          have h70 : a7 = 0 := by omega
          subst h70
          exact hleaf _ (mtf_nothing a0 a1 a2 a3 a4 a5 a6 0 p (by omega) (by omega) (by rw [hjv]; omega) h0pos h7
            jobs.length hok.bound)

end Zvbi.Rawdec
