import ZvbiModel.Rawdec.Model
import ZvbiModel.Ite
/-!
# `_vbi_sampling_par_permit_service` as the conjunction of its tests

`permitService_iff` walks the `if` chain of the model once; what the other files need of `permit_service` (the video standard
test, the rate and length tests, TRUE from the eight parts) is read off it.
-/
namespace Zvbi.Rawdec
open Zvbi.Generated.ServiceTable
open Zvbi.Slicer (U32)

/-- the `samples < signal` test of `_vbi_sampling_par_permit_service` (TRUE = long enough): the three `let`s inside
    `permitService`, under a name so that the test can be one of the parts of `permitService_iff` -/
def permitLen (sp : SPar) (r : Row) (strict : Int) : Bool :=
  let spl := sp.bpl / bppOf sp.fmt
  let lhs : Int := (10^6 * spl * r.criRate * r.bitRate : Nat)
  let lhs : Int := if strictU strict > 0 then lhs - (sp.rate * r.criRate * r.bitRate : Nat) else lhs
  let rhs : Int := (10^6 * sp.rate * (r.criBits * r.bitRate + (r.frcBits + r.payload) * r.criRate) : Nat)
  !decide (lhs < rhs)

theorem permitService_iff (sp : SPar) (r : Row) (strict : Int) : permitService sp r strict = true ↔
    r.videostd &&& videostdOfScanning sp.scanning ≠ 0 ∧
    ¬ (r.flags &&& spLineNum ≠ 0 ∧ ((r.first0 > 0 ∧ sp.start0 = 0) ∨ (r.first1 > 0 ∧ sp.start1 = 0))) ∧
    Zvbi.Slicer.permitRate r sp.rate = true ∧ ¬ (r.criRate = 0 ∨ r.bitRate = 0 ∨ sp.rate = 0) ∧
    permitLen sp r strict = true ∧ ¬ (r.flags &&& spFieldNum ≠ 0 ∧ sp.synchronous = false) ∧
    permitField sp r strict 0 = true ∧ permitField sp r strict 1 = true := by
  unfold permitService permitLen
  simp only []
  generalize (if strictU strict > 0 then _ else _ : Int) = lhs
  refine ite_ind (P := fun b => b = true ↔ _) (fun h1 => ⟨nofun, fun h => absurd h1 h.1⟩) fun h1 => ?_
  refine ite_ind (P := fun b => b = true ↔ _) (fun h2 => ⟨nofun, fun h => absurd h2 h.2.1⟩) fun h2 => ?_
  refine ite_ind (P := fun b => b = true ↔ _) (fun h3 => ⟨nofun, fun h => by rw [h.2.2.1] at h3; cases h3⟩) fun h3 => ?_
  refine ite_ind (P := fun b => b = true ↔ _) (fun h4 => ⟨nofun, fun h => absurd h4 h.2.2.2.1⟩) fun h4 => ?_
  refine ite_ind (P := fun b => b = true ↔ _) (fun h5 => ⟨nofun, fun h => by
    have := h.2.2.2.2.1; rw [Bool.not_eq_true', decide_eq_false_iff_not] at this; exact absurd h5 this⟩) fun h5 => ?_
  refine ite_ind (P := fun b => b = true ↔ _)
    (fun h6 => ⟨nofun, fun h => absurd ⟨h6.1, by simpa using h6.2⟩ h.2.2.2.2.2.1⟩) fun h6 => ?_
  rw [Bool.and_eq_true]
  exact ⟨fun h => ⟨h1, h2, by simpa using h3, h4, by rw [Bool.not_eq_true', decide_eq_false_iff_not]; exact h5, fun h' => h6 ⟨h'.1, by simp [h'.2]⟩, h⟩,
    fun h => h.2.2.2.2.2.2⟩

/-- the length test in natural numbers, without the strictness margin: the line holds CRI, FRC and payload at their exact
    rational length -/
theorem permitLen_le (sp : SPar) (r : Row) (strict : Int) (h : permitLen sp r strict = true) :
    sp.rate * (r.criBits * r.bitRate + (r.frcBits + r.payload) * r.criRate) ≤ (sp.bpl / bppOf sp.fmt) * r.criRate * r.bitRate := by
  unfold permitLen at h
  simp only [Bool.not_eq_true', decide_eq_false_iff_not] at h
  have hnn : (0 : Int) ≤ ((sp.rate * r.criRate * r.bitRate : Nat) : Int) := Int.natCast_nonneg _
  have hA : ((10 ^ 6 * sp.rate * (r.criBits * r.bitRate + (r.frcBits + r.payload) * r.criRate) : Nat) : Int) ≤
      ((10 ^ 6 * (sp.bpl / bppOf sp.fmt) * r.criRate * r.bitRate : Nat) : Int) := by
    split at h <;> omega
  have hB := Int.ofNat_le.mp hA
  have e1 : 10 ^ 6 * sp.rate * (r.criBits * r.bitRate + (r.frcBits + r.payload) * r.criRate) =
      10 ^ 6 * (sp.rate * (r.criBits * r.bitRate + (r.frcBits + r.payload) * r.criRate)) := Nat.mul_assoc _ _ _
  have e2 : 10 ^ 6 * (sp.bpl / bppOf sp.fmt) * r.criRate * r.bitRate =
      10 ^ 6 * ((sp.bpl / bppOf sp.fmt) * r.criRate * r.bitRate) := by
    rw [Nat.mul_assoc, Nat.mul_assoc, Nat.mul_assoc]
  rw [e1, e2] at hB
  exact Nat.le_of_mul_le_mul_left hB (by decide)

/-- what `_vbi_sampling_par_permit_service` has checked when it returns TRUE, as far as `set_params` is concerned -/
theorem permit_facts (sp : SPar) (r : Row) (strict : Int) (h : permitService sp r strict = true) :
    Zvbi.Slicer.permitRate r sp.rate = true ∧ r.criRate ≠ 0 ∧ r.bitRate ≠ 0 ∧
    sp.rate * (r.criBits * r.bitRate + (r.frcBits + r.payload) * r.criRate) ≤ (sp.bpl / bppOf sp.fmt) * r.criRate * r.bitRate := by
  obtain ⟨_, _, h3, h4, h5, _⟩ := (permitService_iff sp r strict).1 h
  exact ⟨h3, fun h0 => h4 (.inl h0), fun h0 => h4 (.inr (.inl h0)), permitLen_le sp r strict h5⟩

end Zvbi.Rawdec
