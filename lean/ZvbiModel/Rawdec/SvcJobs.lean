import ZvbiModel.Rawdec.SvcTable
import ZvbiModel.Rawdec.LemmasInv
import ZvbiModel.Rawdec.PermitParts
/-!
# The job list and `rd->services` over every history (repaired `remove_services`)

`JOK std services ids`: every job id is one of `jobIdU`, no two jobs lie in the same merge class (hence the ids are
pairwise disjoint), `rd->services` is exactly the union of the job ids, every job belongs to the video standard of the
sampling parameters.  Preserved by `add_services` (`addLoop_jok`), the repaired `remove_services`
(`removeServices_jok`), `reset`, `decode` - `run_jok`.
-/
namespace Zvbi.Rawdec
open Zvbi.Generated.ServiceTable
open Zvbi.Slicer (U32)

/-- "jobs OK": the ids of the jobs and `rd->services` fit together (the file header says how) -/
structure JOK (std services : Nat) (ids : List Nat) : Prop where
  inU : ∀ a ∈ ids, a ∈ jobIdU
  nodup : (ids.map clsIdx).Nodup
  svc : services = orAll ids
  std : ∀ a ∈ ids, clsStd (clsIdx a) = std

def State.ids (s : State) : List Nat := s.jobs.map (·.id)
def State.std (s : State) : Nat := videostdOfScanning s.sp.scanning

def JInv (s : State) : Prop := JOK s.std s.services s.ids

theorem JOK.pd {std sv : Nat} {ids : List Nat} (h : JOK std sv ids) : ids.Pairwise (fun a b => a &&& b = 0) := by
  have hn := h.nodup
  rw [List.Nodup, List.pairwise_map] at hn
  have : ids.Pairwise (fun a b => a ∈ jobIdU ∧ b ∈ jobIdU ∧ clsIdx a ≠ clsIdx b) := by
    rw [List.pairwise_iff_getElem] at hn ⊢
    intro i j hi hj hij
    exact ⟨h.inU _ (List.getElem_mem hi), h.inU _ (List.getElem_mem hj), hn i j hi hj hij⟩
  exact this.imp (fun {a b} hab => T_disjoint a hab.1 b hab.2.1 hab.2.2)

theorem JOK.sublist {std sv : Nat} {ids ids' : List Nat} (h : JOK std sv ids) (hs : ids'.Sublist ids) :
    JOK std (orAll ids') ids' :=
  ⟨fun a ha => h.inU a (hs.subset ha), (hs.map clsIdx).nodup h.nodup, rfl, fun a ha => h.std a (hs.subset ha)⟩

theorem JOK.nil (std : Nat) : JOK std 0 [] := ⟨nofun, .nil, rfl, nofun⟩

/-- a job of a class no job has yet -/
theorem JOK.append {std sv : Nat} {ids : List Nat} (h : JOK std sv ids) {a : Nat} (ha : a ∈ jobIdU)
    (hc : clsIdx a ∉ ids.map clsIdx) (hs : clsStd (clsIdx a) = std) : JOK std (sv ||| a) (ids ++ [a]) := by
  refine ⟨?_, ?_, ?_, ?_⟩
  · intro b hb
    rcases List.mem_append.mp hb with hb | hb
    · exact h.inU b hb
    · rw [List.mem_singleton.1 hb]; exact ha
  · rw [List.map_append, List.nodup_append]
    refine ⟨h.nodup, by simp, ?_⟩
    intro k hk k' hk' hkk
    rw [List.map_singleton, List.mem_singleton] at hk'
    exact hc (hk' ▸ hkk ▸ hk)
  · rw [orAll_append, h.svc]; simp [orAll]
  · intro b hb
    rcases List.mem_append.mp hb with hb | hb
    · exact h.std b hb
    · rw [List.mem_singleton.1 hb]; exact hs

theorem map_set_same {α β : Type} (f : α → β) (l : List α) (j : Nat) (a b : α) (h : l[j]? = some a) (hf : f b = f a) :
    (l.set j b).map f = l.map f := by
  obtain ⟨hl, he⟩ := List.getElem?_eq_some_iff.1 h
  rw [List.map_set, hf, ← he, ← List.getElem_map f (h := by simpa using hl), List.set_getElem_self]

/-- the id of job `j` grows inside its class -/
theorem JOK.set {std sv : Nat} {ids : List Nat} (h : JOK std sv ids) {j a y : Nat} (hj : ids[j]? = some a)
    (ha : (a ||| y) ∈ jobIdU) (hc : clsIdx (a ||| y) = clsIdx a) : JOK std (sv ||| y) (ids.set j (a ||| y)) := by
  have hmem : a ∈ ids := List.mem_of_getElem? hj
  refine ⟨?_, ?_, ?_, ?_⟩
  · intro b hb
    rcases List.mem_or_eq_of_mem_set hb with hb | hb
    · exact h.inU b hb
    · rw [hb]; exact ha
  · rw [map_set_same clsIdx ids j a _ hj hc]; exact h.nodup
  · rw [orAll_set_or _ j _ _ hj, h.svc]
  · intro b hb
    rcases List.mem_or_eq_of_mem_set hb with hb | hb
    · exact h.std b hb
    · rw [hb, hc]; exact h.std a hmem

theorem JOK.lt {std sv : Nat} {ids : List Nat} (h : JOK std sv ids) : sv < U32 := by
  rw [h.svc]; exact orAll_lt (fun x hx => T_U_lt x (h.inU x hx))

/-- at most 7 jobs: the classes of one video standard -/
theorem JOK.length_le {std sv : Nat} {ids : List Nat} (h : JOK std sv ids) : ids.length ≤ 7 := by
  have h1 : (ids.map clsIdx).length ≤ (clsOfStd std).length := by
    apply List.Nodup.length_le_of_subset h.nodup
    intro k hk
    rw [List.mem_map] at hk
    obtain ⟨a, ha, rfl⟩ := hk
    unfold clsOfStd
    rw [List.mem_filter, List.mem_range]
    exact ⟨T_cls_lt a (h.inU a ha), by rw [h.std a ha]; simp⟩
  have := T_classes_per_std std
  simp at h1
  omega

/-! ### `remove_services` -/

theorem shiftJobs_eq (jobs : List Job) (jn : Nat) (h : jn < jobs.length) : shiftJobs jobs jn jn = jobs.eraseIdx jn := by
  apply List.ext_getElem
  · simp [shiftJobs, List.length_eraseIdx, h]
  · intro i h1 h2
    simp only [shiftJobs, List.getElem_map, List.getElem_range]
    simp only [shiftJobs, List.length_map, List.length_range] at h1
    rw [List.getElem_eraseIdx]
    by_cases hi : i < jn
    · have : ¬ (jn ≤ i ∧ i < jn + (jobs.length - jn - 1)) := by omega
      simp only [this, if_false, hi, dif_pos]
      rw [List.getElem?_eq_getElem (by omega)]; rfl
    · have : jn ≤ i ∧ i < jn + (jobs.length - jn - 1) := by omega
      simp only [this, and_self, if_true, hi, dif_neg, not_false_eq_true]
      rw [List.getElem?_eq_getElem (by omega)]; rfl

theorem map_eraseIdx' {α β : Type} (f : α → β) : ∀ (l : List α) (i : Nat), (l.eraseIdx i).map f = (l.map f).eraseIdx i
  | [], _ => rfl
  | _ :: _, 0 => rfl
  | x :: xs, i + 1 => by simp only [List.eraseIdx_cons_succ, List.map_cons, map_eraseIdx' f xs i]

/-- the repaired loop of `vbi3_raw_decoder_remove_services` from job `jn` on: what is left is a sublist, disjoint from the
    final `services` (which contains the requested set), and nothing but the removed ids went into `services` -/
theorem removeLoop_spec (fx : Fixes) (hja : fx.jobAdvance = true) (hm : fx.merged = true) :
    ∀ (fuel sv jn : Nat) (jobs : List Job) (pat : Option Pattern), jobs.length - jn < fuel →
      (jobs.map (·.id)).Pairwise (fun a b => a &&& b = 0) →
      (∀ i, i < jn → ∀ a, (jobs.map (·.id))[i]? = some a → a &&& sv = 0) →
      ((removeLoop fx fuel sv jn jobs pat sv).1.map (·.id)).Sublist (jobs.map (·.id)) ∧
      (∀ a ∈ (removeLoop fx fuel sv jn jobs pat sv).1.map (·.id), a &&& (removeLoop fx fuel sv jn jobs pat sv).2.2 = 0) ∧
      orAll ((removeLoop fx fuel sv jn jobs pat sv).1.map (·.id)) ||| (removeLoop fx fuel sv jn jobs pat sv).2.2
        = orAll (jobs.map (·.id)) ||| sv ∧
      sv &&& (removeLoop fx fuel sv jn jobs pat sv).2.2 = sv := by
  intro fuel
  induction fuel with
  | zero => intro sv jn jobs pat h; omega
  | succ fuel ih =>
    intro sv jn jobs pat hf hpd hpre
    unfold removeLoop
    simp only [hja, hm, if_true]
    by_cases hge : jn ≥ jobs.length
    · -- all jobs examined
      simp only [hge, if_true]
      refine ⟨List.Sublist.refl _, ?_, trivial, Nat.and_self _⟩
      intro a ha
      obtain ⟨i, hi, rfl⟩ := List.mem_iff_getElem.mp ha
      exact hpre i (by simp at hi; omega) _ (List.getElem?_eq_getElem hi)
    simp only [hge, if_false]
    have hjn : jn < jobs.length := by omega
    rw [List.getElem?_eq_getElem hjn]
    simp only []
    split
    · -- job `jn` is removed
      rename_i hhit
      rw [shiftJobs_eq jobs jn hjn]
      have hidx : (jobs.map (·.id))[jn]? = some jobs[jn].id := by simp [hjn]
      have hmap : (jobs.eraseIdx jn).map (·.id) = (jobs.map (·.id)).eraseIdx jn := map_eraseIdx' _ _ _
      obtain ⟨i1, i2, i3, i4⟩ := ih (sv ||| jobs[jn].id) jn (jobs.eraseIdx jn)
        (pat.map (fun p => p.map (removeRow fx.marker ((jn : Int) + 1))))
        (by rw [List.length_eraseIdx]; simp only [hjn, if_true]; omega)
        (by rw [hmap]; exact hpd.sublist (List.eraseIdx_sublist _ _))
        (by
          intro i hi a ha
          rw [hmap, List.getElem?_eraseIdx] at ha
          simp only [hi, if_true] at ha
          rw [and_or_zero]
          refine ⟨hpre i hi a ha, ?_⟩
          have hil : i < (jobs.map (·.id)).length := by simp; omega
          rw [List.getElem?_eq_getElem hil] at ha
          cases ha
          have := (List.pairwise_iff_getElem.mp hpd) i jn hil (by simp; exact hjn) hi
          simpa using this)
      refine ⟨?_, i2, ?_, sub_of_or_sub i4⟩
      · rw [hmap] at i1
        exact i1.trans (List.eraseIdx_sublist _ _)
      · rw [i3, hmap, ← orAll_eraseIdx_or (jobs.map (·.id)) jn _ hidx]
        simp only [Nat.or_assoc]
        rw [Nat.or_comm jobs[jn].id sv]
    · -- job `jn` stays
      rename_i hmiss
      have hz : jobs[jn].id &&& sv = 0 := by
        simp only [ne_eq, Decidable.not_not] at hmiss
        exact hmiss
      exact ih sv (jn + 1) jobs pat (by omega) hpd (by
        intro i hi a ha
        by_cases hi' : i < jn
        · exact hpre i hi' a ha
        · have : i = jn := by omega
          subst this
          simp [hjn] at ha
          rw [← ha]; exact hz)

theorem removeServices_jok (fx : Fixes) (hja : fx.jobAdvance = true) (hm : fx.merged = true) (s : State) (sv : Nat)
    (h : JInv s) (herr : s.err = none) :
    JInv (removeServices fx s sv) ∧ (∀ a ∈ (removeServices fx s sv).ids, a &&& sv = 0) := by
  rw [removeServices_eq fx sv herr]
  obtain ⟨i1, i2, i3, i4⟩ := removeLoop_spec fx hja hm (2 * s.jobs.length + 1) sv 0 s.jobs s.pattern (by omega) h.pd
    (by intro i hi; omega)
  generalize removeLoop fx (2 * s.jobs.length + 1) sv 0 s.jobs s.pattern sv = r at i1 i2 i3 i4
  obtain ⟨jobs', pat', sv'⟩ := r
  simp only [] at i1 i2 i3 i4 ⊢
  have hj := h.sublist i1
  refine ⟨⟨hj.inU, hj.nodup, ?_, hj.std⟩, ?_⟩
  · -- services & ~sv' = union of the remaining ids
    show s.services &&& (U32 - 1 - sv' % U32) = orAll (jobs'.map (·.id))
    have hk : orAll (jobs'.map (·.id)) &&& sv' = 0 := orAll_and_zero.mpr i2
    have hklt : orAll (jobs'.map (·.id)) < U32 := hj.lt
    have e1 : (orAll (jobs'.map (·.id)) ||| sv') &&& (U32 - 1 - sv' % U32) = orAll (jobs'.map (·.id)) := by
      rw [Nat.and_or_distrib_right, and_compl_of_disjoint _ _ hklt hk, and_compl_of_subset sv' sv' (Nat.and_self _)]
      simp
    have e2 : (orAll (s.jobs.map (·.id)) ||| sv) &&& (U32 - 1 - sv' % U32) = s.services &&& (U32 - 1 - sv' % U32) := by
      have := h.svc
      unfold State.ids at this
      rw [Nat.and_or_distrib_right, and_compl_of_subset sv sv' i4, ← this]
      simp
    rw [← e2, ← i3, e1]
  · intro a ha
    have h1 := i2 a ha
    -- a ∩ sv ⊆ a ∩ sv' = 0
    refine Decidable.byContradiction fun hne => disjoint_of_subset sv sv' a i4 (fun h0 => hne ?_) ?_
    · rw [Nat.and_comm]; exact h0
    · rw [Nat.and_comm]; exact h1

/-! ### `add_services` -/

/-- what one table row contributes to `_vbi_sampling_par_check_services_log (sp, M, strict)` -/
def chkId (sp : SPar) (M : Nat) (strict : Int) (r : Row) : Nat :=
  if r.id &&& M = 0 then 0 else if permitService sp r strict then r.id else 0

theorem checkFold_eq (sp : SPar) (M : Nat) (strict : Int) : ∀ (l : List Row) (acc : Nat),
    l.foldl (fun acc r => if r.id &&& M = 0 then acc else if permitService sp r strict then acc ||| r.id else acc) acc
      = acc ||| orAll (l.map (chkId sp M strict))
  | [], acc => by simp [orAll]
  | r :: rs, acc => by
    simp only [List.foldl_cons, List.map_cons, orAll]
    rw [checkFold_eq sp M strict rs, ← Nat.or_assoc]
    congr 1
    unfold chkId
    by_cases h1 : r.id &&& M = 0
    · simp [h1]
    · by_cases h2 : permitService sp r strict = true <;> simp [h1, h2]

theorem checkServices_eq (sp : SPar) (M : Nat) (strict : Int) :
    checkServices sp M strict = orAll (serviceTable.map (chkId sp M strict)) := by
  unfold checkServices
  rw [checkFold_eq]; simp

/-- a non-empty answer of `_vbi_sampling_par_check_services_log` comes from a permitted table row of the request -/
theorem checkServices_ne_zero {sp : SPar} {M : Nat} {strict : Int} (h : checkServices sp M strict ≠ 0) :
    ∃ r ∈ serviceTable, r.id &&& M ≠ 0 ∧ permitService sp r strict = true := by
  rw [checkServices_eq] at h
  refine Classical.byContradiction fun hn => h (orAll_zero _ fun x hx => ?_)
  obtain ⟨r, hr, rfl⟩ := List.mem_map.1 hx
  unfold chkId
  by_cases h1 : r.id &&& M = 0
  · rw [if_pos h1]
  · by_cases h2 : permitService sp r strict = true
    · exact absurd ⟨r, hr, h1, h2⟩ hn
    · rw [if_neg h1, if_neg h2]

/-- a permitted row passes the test `add_services` makes -/
theorem permitted_row_accepted (sp : SPar) (strict : Int) (r : Row) (hr : r ∈ serviceTable) (h0 : r.id ≠ 0)
    (hp : permitService sp r strict = true) : checkServices sp r.id strict ≠ 0 := by
  intro hz
  rw [checkServices_eq] at hz
  have hmem : chkId sp r.id strict r ∈ serviceTable.map (chkId sp r.id strict) := List.mem_map.mpr ⟨r, hr, rfl⟩
  have := mem_sub_orAll hmem
  rw [hz, Nat.and_zero] at this
  unfold chkId at this
  rw [Nat.and_self] at this
  simp [h0, hp] at this
  exact h0 this.symm

/-- a row accepted by `_vbi_sampling_par_check_services_log` belongs to the video standard of the decoder -/
theorem accepted_std (sp : SPar) (r : Row) (hr : r ∈ serviceTable) (hu : r.id &&& vbiMask = 0) (strict : Int)
    (h : checkServices sp r.id strict ≠ 0) : clsStd (clsIdx r.id) = videostdOfScanning sp.scanning := by
  obtain ⟨r', hr', hov, hp⟩ := checkServices_ne_zero h
  have h1 := ((permitService_iff sp r' strict).1 hp).1
  rw [(T_share r hr r' hr' hov).1] at h1
  obtain ⟨h2, h3⟩ := T_std r hr hu
  rw [h2]
  -- both sides are 1 or 2 (or 0 for an unknown line system): a common bit makes them equal
  have key : ∀ a ∈ [1, 2], ∀ b ∈ [0, 1, 2], a &&& b ≠ 0 → a = b := by decide
  refine key _ (by rcases h3 with h3 | h3 <;> simp [h3]) _ ?_ h1
  unfold videostdOfScanning videostd525 videostd625
  split
  · simp
  · split <;> simp

theorem usable_of_mask (r : Row) (hr : r ∈ serviceTable) (M : Nat) (hM : M &&& vbiMask = 0) (h : r.id &&& M ≠ 0) :
    r.id &&& vbiMask = 0 := by
  by_cases hz : r.id &&& vbiMask = 0
  · exact hz
  · exfalso
    apply h
    have hs := T_vbi_rows r hr hz
    calc r.id &&& M = (r.id &&& vbiMask) &&& M := by rw [hs]
      _ = r.id &&& (M &&& vbiMask) := by rw [Nat.and_assoc, Nat.and_comm vbiMask M]
      _ = 0 := by rw [hM, Nat.and_zero]

/-- a table row that merges with no job is of a class no job has -/
theorem fresh_class (s : State) (r : Row) (hr : r ∈ serviceTable) (hu : r.id &&& vbiMask = 0) (h : JInv s)
    (hq : mergeable r.id r.id = false → r.id &&& s.services = 0)
    (hfi : s.jobs.findIdx? (fun job => mergeable job.id r.id) = none) : clsIdx r.id ∉ s.ids.map clsIdx := by
  intro hk
  obtain ⟨a, ha, hca⟩ := List.mem_map.mp hk
  obtain ⟨job, hjob', hja⟩ := List.mem_map.mp (show a ∈ s.jobs.map (·.id) from ha)
  have hnm : mergeable a r.id = false := by
    have := List.findIdx?_eq_none_iff.mp hfi job hjob'
    rw [← hja]; simpa using this
  obtain ⟨hEq, hself⟩ := T_nomerge a (h.inU a ha) r hr hu hnm hca
  have hdis := hq hself
  rw [h.svc] at hdis
  have : a &&& r.id = 0 := (orAll_and_zero.mp (by rw [Nat.and_comm]; exact hdis)) a ha
  rw [hEq, Nat.and_self] at this
  exact T_zero_notin (this ▸ T_usable_in_U r hr hu)

theorem addOne_jok (ti : Nat → Nat) (M : Nat) (strict : Int) (s : State) (ri : Nat) (r : Row) (hr : r ∈ serviceTable)
    (hM : M &&& vbiMask = 0) (h : JInv s)
    (hq : mergeable r.id r.id = false → r.id &&& M ≠ 0 → r.id &&& s.services = 0) :
    ∀ s', addOne ti M strict s ri r = some s' →
      JInv s' ∧ s'.sp = s.sp ∧ (s'.services = s.services ∨ s'.services = s.services ||| r.id) := by
  apply addOne_elim ti M strict s ri r (P := fun o => ∀ s', o = some s' →
    JInv s' ∧ s'.sp = s.sp ∧ (s'.services = s.services ∨ s'.services = s.services ||| r.id))
  · intro _ s' he; cases he; exact ⟨h, rfl, Or.inl rfl⟩
  intro _ hrM j hj _
  have hu := usable_of_mask r hr M hM hrM
  refine ⟨fun _ s' he => (nomatch he), fun _ hchk => ⟨fun msg _ s' he => ?_, fun pat pat' jobId _ hid => ?_⟩⟩
  · cases he; exact ⟨h, rfl, Or.inl rfl⟩
  cases hfi : s.jobs.findIdx? (fun job => mergeable job.id r.id) with
  | some j' =>
    rw [hfi, Option.getD_some] at hj
    subst hj
    obtain ⟨hjl, hmj, _⟩ := List.findIdx?_eq_some_iff_getElem.mp hfi
    have hjob : s.jobs[j]? = some s.jobs[j] := List.getElem?_eq_getElem hjl
    rw [hjob] at hid
    subst hid
    have hidj : s.ids[j]? = some s.jobs[j].id := by unfold State.ids; simp [hjl]
    obtain ⟨hnewU, hnewC⟩ := T_merge _ (h.inU _ (List.mem_of_getElem? hidj)) r hr hu hmj
    constructor
    · -- pattern full: ids unchanged
      intro _ s' he
      cases he
      refine ⟨?_, rfl, Or.inl rfl⟩
      unfold JInv State.ids State.std
      simp only [hjl, if_true]
      rw [map_set_same (·.id) s.jobs j s.jobs[j] { id := s.jobs[j].id, row := ri, thresh := ti ri } hjob rfl]
      exact h
    · -- merged into job j
      intro _ s' he
      cases he
      rw [if_pos hjl]
      refine ⟨?_, rfl, Or.inr rfl⟩
      show JOK _ (s.services ||| r.id) ((s.jobs.set j _).map (fun x : Job => x.id))
      rw [List.map_set]
      exact h.set hidj hnewU hnewC
  | none =>
    rw [hfi, Option.getD_none] at hj
    subst hj
    constructor
    · intro _ s' he
      cases he
      rw [if_neg (Nat.lt_irrefl _)]
      exact ⟨h, rfl, Or.inl rfl⟩
    · -- a new job
      intro _ s' he
      cases he
      rw [List.getElem?_eq_none (Nat.le_refl _)] at hid
      subst hid
      rw [if_neg (Nat.lt_irrefl _)]
      refine ⟨?_, rfl, Or.inr rfl⟩
      show JOK _ (s.services ||| r.id) ((s.jobs ++ [_]).map (fun x : Job => x.id))
      simp only [List.map_append, List.map_cons, List.map_nil, Nat.zero_or]
      exact h.append (T_usable_in_U r hr hu) (fresh_class s r hr hu h (fun h1 => hq h1 hrM) hfi)
        (accepted_std s.sp r hr hu strict hchk)

/-- the table loop of `add_services` in front of the rows `l`: they are table rows, a later row that cannot merge shares no
    bit with an earlier one, and none of them that cannot merge is part of `rd->services` yet -/
structure Pending (M : Nat) (s : State) (l : List (Nat × Row)) : Prop where
  mem : ∀ x ∈ l, x.2 ∈ serviceTable
  later : l.Pairwise (fun x y => mergeable y.2.id y.2.id = false → y.2.id &&& x.2.id = 0)
  fresh : ∀ x ∈ l, mergeable x.2.id x.2.id = false → x.2.id &&& M ≠ 0 → x.2.id &&& s.services = 0

theorem Pending.tail {M : Nat} {s s' : State} {ri : Nat} {r : Row} {l : List (Nat × Row)} (h : Pending M s ((ri, r) :: l))
    (hsv : s'.services = s.services ∨ s'.services = s.services ||| r.id) : Pending M s' l := by
  have hpw := List.pairwise_cons.1 h.later
  refine ⟨fun y hy => h.mem y (by simp [hy]), hpw.2, fun y hy h1 h2 => ?_⟩
  have hy0 := h.fresh y (by simp [hy]) h1 h2
  rcases hsv with hsv | hsv
  · rw [hsv]; exact hy0
  · rw [hsv, and_or_zero]; exact ⟨hy0, hpw.1 y hy h1⟩

theorem maskServices_spec (s : State) (sv : Nat) (h : JInv s) :
    maskServices s sv &&& vbiMask = 0 ∧ maskServices s sv &&& s.services = 0 := by
  have hc : U32 - 1 - (slicedVbi525 ||| slicedVbi625) = U32 - 1 - (vbiMask % U32) := by decide
  have h1 : (sv &&& (U32 - 1 - (slicedVbi525 ||| slicedVbi625))) &&& vbiMask = 0 := by
    rw [hc]; exact compl_and_disjoint sv vbiMask
  unfold maskServices
  simp only []
  split
  · refine ⟨and_and_zero h1, ?_⟩
    have hlt := h.lt
    have : U32 - 1 - s.services = U32 - 1 - (s.services % U32) := by rw [Nat.mod_eq_of_lt hlt]
    rw [this]
    exact compl_and_disjoint _ _
  · rename_i hz
    simp only [ne_eq, Decidable.not_not] at hz
    exact ⟨h1, by rw [Nat.and_comm]; exact hz⟩

/-- the whole table is pending when the loop starts: the request was masked with `rd->services` -/
theorem pending_start {s s1 : State} {sv : Nat} (h : JInv s) (e : s1.services = s.services) :
    Pending (maskServices s sv) s1 enumTable := by
  refine ⟨T_enum_mem, T_later_disjoint, fun x hx hself hxM => ?_⟩
  obtain ⟨b, _, hb⟩ := T_single x.2 (T_enum_mem x hx) hself
  rw [hb] at hxM ⊢
  rw [e]
  exact bit_disjoint b _ _ hxM (maskServices_spec s sv h).2

theorem addLoop_jok (ti : Nat → Nat) (M : Nat) (strict : Int) (hM : M &&& vbiMask = 0) (l : List (Nat × Row)) (s : State)
    (h : JInv s) (hp : Pending M s l) : JInv (addLoop ti M strict s l) :=
  addLoop_ind ti M strict (P := fun l s => JInv s ∧ Pending M s l) (Q := JInv) (fun _ _ h _ => h.1)
    (fun ri r l s s' ⟨h, hp⟩ he => by
      obtain ⟨h', _, hsv⟩ := addOne_jok ti M strict s ri r (hp.mem (ri, r) (by simp)) hM h (hp.fresh (ri, r) (by simp)) s' he
      exact ⟨h', hp.tail hsv⟩) l s ⟨h, hp⟩

theorem jinv_addStart {s : State} (h : JInv s) : JInv (addStart s) := by
  obtain ⟨e1, e2, e3, _⟩ := addStart_same s
  unfold JInv State.ids State.std
  rw [e1, e2, e3]; exact h

theorem addServices_jok (ti : Nat → Nat) (s : State) (sv : Nat) (strict : Int) (h : JInv s) :
    JInv (addServices ti s sv strict) := by
  rw [addServices_eq]
  split
  · exact h
  · exact addLoop_jok ti _ strict (maskServices_spec s sv h).1 enumTable _ (jinv_addStart h)
      (pending_start h (addStart_same s).2.1)

theorem reset_jok (s : State) : JInv (reset s) := JOK.nil _

theorem step_jok (fx : Fixes) (hja : fx.jobAdvance = true) (hm : fx.merged = true) (ti : Nat → Nat) (s : State) (op : Op)
    (hi : Inv s) (herr : s.err = none) (h : JInv s) : JInv (step fx ti s op) := by
  cases op with
  | add sv st => exact addServices_jok ti s sv st h
  | remove sv => exact (removeServices_jok fx hja hm s sv h herr).1
  | reset => simp only [step, herr]; exact reset_jok s
  | decode m sl =>
    simp only [step]
    have F := decodeFrame_spec s m sl (fun p hp => (hi.pat p hp).2) hi.svcPat
    unfold JInv State.ids State.std
    rw [F.jobs.ids, F.services, F.sp]
    exact h

theorem jinv_init (sp : SPar) : JInv (init sp) := JOK.nil _

theorem run_jok (fx : Fixes) (hja : fx.jobAdvance = true) (hm : fx.merged = true) (ti : Nat → Nat) (sp : SPar) (ops : List Op) :
    JInv (run fx ti sp ops) :=
  run_ind fx ti sp (jinv_init sp) (fun s op hi _ herr h => step_jok fx hja hm ti s op hi herr h) ops

end Zvbi.Rawdec
