import ZvbiModel.Rawdec.LemmasInv
/-!
# Histories of decode calls on an armed pattern: `runDecodes`, the relation `StateRel` between the start and a later state
-/
namespace Zvbi.Rawdec
open Zvbi.Generated.ServiceTable

/-- a history of decode calls on one decoder: (max_lines, image) per call -/
def runDecodes (s : State) (h : List (Nat × Slicer)) : State :=
  h.foldl (fun s c => (decodeFrame s c.1 c.2).1) s

/-- `s` is `s0` after some decode calls: same services, same jobs up to thresholds, row by row the same jobs in some order -/
structure StateRel (s0 s : State) : Prop where
  sp : s.sp = s0.sp
  services : s.services = s0.services
  err : s.err = none
  jobs : JobsRel s0.jobs s.jobs
  pat : ∃ p0 p, s0.pattern = some p0 ∧ s.pattern = some p ∧ RowsRel s0.jobs.length p0 p

theorem StateRel.refl {s0 : State} {p : Pattern} (herr : s0.err = none) (hp : s0.pattern = some p)
    (hr : ∀ r ∈ p, RowOK s0.jobs.length r ∧ RowArmed r) : StateRel s0 s0 :=
  ⟨rfl, rfl, herr, JobsRel.refl _, p, p, hp, hp, RowsRel.refl p hr⟩

theorem StateRel.decode {s0 s : State} (h : StateRel s0 s) (m : Nat) (sl : Slicer) :
    StateRel s0 (decodeFrame s m sl).1 := by
  obtain ⟨p0, p, hp0, hp, hrr⟩ := h.pat
  have hlen := h.jobs.length
  have F := decodeFrame_spec s m sl (fun q hq r hr => by rw [hp] at hq; cases hq; exact hlen ▸ (hrr.right r hr).1)
    (fun _ => by rw [hp]; rfl)
  obtain ⟨p', hp', hrr', _⟩ := F.armed p hp (fun r hr => (hrr.right r hr).2)
  exact ⟨F.sp.trans h.sp, F.services.trans h.services, F.err.trans h.err, h.jobs.trans F.jobs, p0, p', hp0, hp',
    hrr.trans (hlen ▸ hrr')⟩

theorem runDecodes_rel {s0 : State} : ∀ (h : List (Nat × Slicer)) (s : State), StateRel s0 s → StateRel s0 (runDecodes s h) := by
  intro h
  induction h with
  | nil => intro s hs; exact hs
  | cons c rest ih =>
    intro s hs
    unfold runDecodes
    rw [List.foldl_cons]
    exact ih _ (hs.decode c.1 c.2)

/-- `frameSpec` of a later state = `frameSpec` of the earlier one when at most one job matches each line -/
theorem frameSpec_congr (sp : SPar) (sl : Slicer) (htf : ThreshFree sl) {jobs0 jobs : List Job} (hrel : JobsRel jobs0 jobs)
    (n : Nat) : ∀ (p0 p : List PRow) (k : Nat), RowsRel n p0 p →
      (∀ ir ∈ (List.range' k p0.length).zip p0, UniqueHit sl jobs0 ir.1 ir.2) →
      ((List.range' k p.length).zip p).filterMap (fun ir => lineSpec sp sl jobs ir.1 ir.2) =
      ((List.range' k p0.length).zip p0).filterMap (fun ir => lineSpec sp sl jobs0 ir.1 ir.2) := by
  intro p0 p k h
  induction h generalizing k with
  | nil => intro _; rfl
  | cons hr _ ih =>
    intro hu
    simp only [List.length_cons, List.range'_succ, List.zip_cons_cons, List.filterMap_cons]
    have hhead := lineSpec_order_free sp sl htf hrel k _ _ hr.2.2
      (hu (k, _) (by simp [List.range'_succ]))
    rw [hhead]
    have htail := ih (k + 1) (by
      intro ir hir
      apply hu
      simp only [List.length_cons, List.range'_succ, List.zip_cons_cons]
      exact List.mem_cons_of_mem _ hir)
    rw [htail]

/-- decode calls after a history that left an armed pattern and no error value -/
theorem stateRel_of_run (fx : Fixes) (ti : Nat → Nat) (sp : SPar) (ops : List Op) (p0 : Pattern)
    (hp0 : (run fx ti sp ops).pattern = some p0) (herr : (run fx ti sp ops).err = none) (ha : PatArmed p0)
    (h : List (Nat × Slicer)) : StateRel (run fx ti sp ops) (runDecodes (run fx ti sp ops) h) :=
  runDecodes_rel h _ (.refl herr hp0 fun r hr => ⟨((run_inv fx ti sp ops).1.pat p0 hp0).2 r hr, ha r hr⟩)

/-- `∃ p, o = some p ∧ P p` about a closed term `o`: one evaluation of `o.map (decide (P ·))` (there is no
    `DecidableEq` on the states, so the existential cannot be `decide`d as it stands) -/
theorem exists_of_map_decide {α : Type} {o : Option α} {P : α → Prop} [DecidablePred P]
    (h : o.map (fun p => decide (P p)) = some true) : ∃ p, o = some p ∧ P p :=
  (Option.map_eq_some_iff.1 h).imp fun _ h => ⟨h.1, of_decide_eq_true h.2⟩

end Zvbi.Rawdec
