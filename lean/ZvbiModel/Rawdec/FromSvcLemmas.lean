import ZvbiModel.Rawdec.FromSvc
import ZvbiModel.Rawdec.SvcBits
import ZvbiModel.Rawdec.PermitParts
/-!
# The table loop of `_vbi_sampling_par_from_services_log` with the repaired range update

`Keep a r`: the accumulated parameters `a` have the video standard of row `r` and, for each field `r` uses, a non-empty
line range that contains `r.first .. r.last`.  Established by the iteration that takes `r` (`step_takes`), kept by every
later iteration (`step_keep`) - the released range update breaks the second part.
-/
namespace Zvbi.Rawdec
open Zvbi.Generated.ServiceTable Zvbi.Generated.RawdecFromSvc
open Zvbi.Slicer (U32)

def FsAcc.start (a : FsAcc) (f : Nat) : Nat := if f = 0 then a.start0 else a.start1
def FsAcc.count (a : FsAcc) (f : Nat) : Nat := if f = 0 then a.count0 else a.count1

/-- field `f` of `a` covers the lines of row `r` -/
def Cov (a : FsAcc) (r : Row) (f : Nat) : Prop :=
  r.first f > 0 → r.last f > 0 →
    a.count f > 0 ∧ 0 < a.start f ∧ a.start f ≤ r.first f ∧ r.last f + 1 ≤ a.start f + a.count f

def Keep (a : FsAcc) (r : Row) : Prop :=
  a.vstd = r.videostd ∧ (r.videostd = 1 ∨ r.videostd = 2) ∧ Cov a r 0 ∧ Cov a r 1 ∧ r.id &&& a.rsv = r.id

def GoodAcc (fam : Nat) (a : FsAcc) : Prop :=
  (a.vstd = 0 ∨ a.vstd = 1 ∨ a.vstd = 2) ∧ 0 < a.start0 ∧ 0 < a.start1 ∧ (fam ≠ 0 → a.vstd = fam)

theorem T_rows : ∀ r ∈ serviceTable, (r.videostd = 1 ∨ r.videostd = 2) ∧ r.first0 ≤ r.last0 ∧ r.first1 ≤ r.last1 := by
  decide +kernel

theorem fsVstd_cases (fam : Nat) (a : FsAcc) (r : Row) (hr : r.videostd = 1 ∨ r.videostd = 2)
    (ha : a.vstd = 0 ∨ a.vstd = 1 ∨ a.vstd = 2) (hf : fam ≠ 0 → a.vstd = fam) :
    (fsVstd fam a r = a.vstd ∨ (a.vstd = 0 ∧ fam = 0 ∧ fsVstd fam a r = r.videostd)) ∧
    (r.videostd &&& fsVstd fam a r ≠ 0 → fsVstd fam a r = r.videostd) := by
  unfold fsVstd
  by_cases h0 : fam = 0
  · rcases hr with hr | hr <;> rcases ha with ha | ha | ha <;> simp [h0, hr, ha, videostd625, videostd525]
  · have := hf h0
    rcases hr with hr | hr <;> rcases ha with ha | ha | ha <;> simp [h0, hr, ha]

theorem fsField_fixed (start count first last : Nat) (hs : 0 < start) (hfl : first ≤ last) :
    (first > 0 → last > 0 →
      (fsField true start count first last).2 > 0 ∧ 0 < (fsField true start count first last).1 ∧
      (fsField true start count first last).1 ≤ first ∧
      last + 1 ≤ (fsField true start count first last).1 + (fsField true start count first last).2) ∧
    0 < (fsField true start count first last).1 ∧
    (count > 0 → (fsField true start count first last).2 > 0 ∧ (fsField true start count first last).1 ≤ start ∧
      start + count ≤ (fsField true start count first last).1 + (fsField true start count first last).2) := by
  unfold fsField
  by_cases h : first > 0 ∧ last > 0
  · simp only [h, and_self, if_true]
    by_cases hc : count > 0
    · simp only [hc, if_true]; omega
    · have hc0 : count = 0 := by omega
      subst hc0
      simp only [gt_iff_lt, Nat.lt_irrefl, if_false, Nat.zero_max]
      exact ⟨fun _ _ => by omega, by omega, fun hh => hh.elim⟩
  · simp only [h, if_false]
    omega

theorem step_good (fam sv : Nat) (a : FsAcc) (r : Row) (c : Nat × Nat) (hr : r ∈ serviceTable) (hg : GoodAcc fam a) :
    GoodAcc fam (fsStep true fam sv a r c) := by
  obtain ⟨hv, h0, h1, hf⟩ := hg
  obtain ⟨t1, t2, t3⟩ := T_rows r hr
  obtain ⟨v1, _⟩ := fsVstd_cases fam a r t1 hv hf
  have hv' : fsVstd fam a r = 0 ∨ fsVstd fam a r = 1 ∨ fsVstd fam a r = 2 := by
    rcases v1 with v1 | ⟨_, _, v1⟩
    · rw [v1]; exact hv
    · rw [v1]; rcases t1 with t | t <;> simp [t]
  have hf' : fam ≠ 0 → fsVstd fam a r = fam := by
    intro h
    rcases v1 with v1 | ⟨_, v0, _⟩
    · rw [v1]; exact hf h
    · exact absurd v0 h
  unfold fsStep
  split
  · exact ⟨hv, h0, h1, hf⟩
  split
  · exact ⟨hv', h0, h1, hf'⟩
  · exact ⟨hv', (fsField_fixed a.start0 a.count0 r.first0 r.last0 h0 t2).2.1,
      (fsField_fixed a.start1 a.count1 r.first1 r.last1 h1 t3).2.1, hf'⟩

theorem cov_mono (a a' : FsAcc) (r' : Row) (f : Nat)
    (h : a.count f > 0 → a'.count f > 0 ∧ a'.start f ≤ a.start f ∧ a.start f + a.count f ≤ a'.start f + a'.count f)
    (hs : 0 < a'.start f) (hk : Cov a r' f) : Cov a' r' f := by
  intro f1 f2
  obtain ⟨c1, c2, c3, c4⟩ := hk f1 f2
  have := h c1
  exact ⟨this.1, hs, by omega, by omega⟩

/-- later iterations keep what an earlier one has established (repaired range update) -/
theorem step_keep (fam sv : Nat) (a : FsAcc) (r : Row) (c : Nat × Nat) (hr : r ∈ serviceTable) (hg : GoodAcc fam a)
    (r' : Row) (hk : Keep a r') : Keep (fsStep true fam sv a r c) r' := by
  obtain ⟨hv, h0, h1, hf⟩ := hg
  obtain ⟨t1, t2, t3⟩ := T_rows r hr
  obtain ⟨k1, k2, k3, k4, k5⟩ := hk
  have hvs : fsVstd fam a r = a.vstd := by
    rcases (fsVstd_cases fam a r t1 hv hf).1 with v | ⟨v0, _, _⟩
    · exact v
    · rw [v0] at k1; rcases k2 with k | k <;> omega
  unfold fsStep
  split
  · exact ⟨k1, k2, k3, k4, k5⟩
  split
  · exact ⟨by simp only []; rw [hvs]; exact k1, k2, k3, k4, k5⟩
  · refine ⟨by simp only []; rw [hvs]; exact k1, k2, ?_, ?_, by simp only []; exact subset_trans_or _ _ _ k5⟩
    · exact cov_mono a _ r' 0 (fun hc => (fsField_fixed a.start0 a.count0 r.first0 r.last0 h0 t2).2.2 hc)
        (fsField_fixed a.start0 a.count0 r.first0 r.last0 h0 t2).2.1 k3
    · exact cov_mono a _ r' 1 (fun hc => (fsField_fixed a.start1 a.count1 r.first1 r.last1 h1 t3).2.2 hc)
        (fsField_fixed a.start1 a.count1 r.first1 r.last1 h1 t3).2.1 k4

/-- the iteration that takes a row covers it -/
theorem step_takes (fam sv : Nat) (a : FsAcc) (r : Row) (c : Nat × Nat) (hr : r ∈ serviceTable) (hg : GoodAcc fam a)
    (ht : fsTakes fam sv a r = true) : Keep (fsStep true fam sv a r c) r := by
  obtain ⟨hv, h0, h1, hf⟩ := hg
  obtain ⟨t1, t2, t3⟩ := T_rows r hr
  unfold fsTakes at ht
  simp only [Bool.and_eq_true, decide_eq_true_eq] at ht
  obtain ⟨ht1, ht2⟩ := ht
  have hvs := (fsVstd_cases fam a r t1 hv hf).2 ht2
  unfold fsStep
  rw [if_neg ht1, if_neg ht2]
  refine ⟨hvs, t1, ?_, ?_, by simp only []; rw [Nat.or_comm]; exact subset_trans_or _ _ _ (Nat.and_self _)⟩
  · intro f1 f2
    have := (fsField_fixed a.start0 a.count0 r.first0 r.last0 h0 t2).1
    simp only [FsAcc.start, FsAcc.count, Row.first, Row.last, if_true] at f1 f2 ⊢
    exact this f1 f2
  · intro f1 f2
    have := (fsField_fixed a.start1 a.count1 r.first1 r.last1 h1 t3).1
    simp only [FsAcc.start, FsAcc.count, Row.first, Row.last, show ((1 : Nat) = 0) = False from by simp, if_false] at f1 f2 ⊢
    exact this f1 f2

theorem trace_keep (fam sv : Nat) : ∀ (l : List (Row × (Nat × Nat))) (a : FsAcc), (∀ x ∈ l, x.1 ∈ serviceTable) →
    GoodAcc fam a →
    GoodAcc fam (fsTrace true fam sv l a).1 ∧ (∀ r, Keep a r → Keep (fsTrace true fam sv l a).1 r) ∧
    (∀ r ∈ (fsTrace true fam sv l a).2, Keep (fsTrace true fam sv l a).1 r)
  | [], a, _, hg => ⟨hg, fun _ h => h, fun _ h => nomatch h⟩
  | x :: rest, a, hm, hg => by
    have hx := hm x (by simp)
    have hg1 := step_good fam sv a x.1 x.2 hx hg
    obtain ⟨i1, i2, i3⟩ := trace_keep fam sv rest _ (fun y hy => hm y (by simp [hy])) hg1
    unfold fsTrace
    simp only []
    refine ⟨i1, fun r hk => i2 r (step_keep fam sv a x.1 x.2 hx hg r hk), ?_⟩
    intro r hr
    by_cases ht : fsTakes fam sv a x.1 = true
    · rw [if_pos ht] at hr
      rcases List.mem_cons.mp hr with rfl | hr
      · exact i2 _ (step_takes fam sv a x.1 x.2 hx hg ht)
      · exact i3 r hr
    · rw [if_neg ht] at hr
      exact i3 r hr

theorem T_rate : ∀ r ∈ serviceTable, Zvbi.Slicer.permitRate r fsRate = true ∧ r.criRate ≠ 0 ∧ r.bitRate ≠ 0 ∧
    ((r.first0 > 0 → r.last0 > 0) ∧ (r.first1 > 0 → r.last1 > 0)) := by decide +kernel

/-- at 27 MHz, 1440 samples are long enough for every table row without the strictness margin, and with the 1 us
    margin for every row except Teletext D 625 and the two VBI pseudo services -/
theorem T_len : ∀ r ∈ serviceTable,
    10 ^ 6 * fsRate * (r.criBits * r.bitRate + (r.frcBits + r.payload) * r.criRate) ≤ 10 ^ 6 * 1440 * r.criRate * r.bitRate ∧
    (r.id ≠ 0x8000 → r.id &&& (slicedVbi525 ||| slicedVbi625) = 0 →
      fsRate * r.criRate * r.bitRate + 10 ^ 6 * fsRate * (r.criBits * r.bitRate + (r.frcBits + r.payload) * r.criRate)
        ≤ 10 ^ 6 * 1440 * r.criRate * r.bitRate) := by decide +kernel

theorem permitLen_1440 (sp : SPar) (r : Row) (hr : r ∈ serviceTable) (strict : Int) (hfmt : sp.fmt = 1) (hrate : sp.rate = fsRate)
    (hbpl : 1440 ≤ sp.bpl)
    (hs : strictU strict = 0 ∨ (r.id ≠ 0x8000 ∧ r.id &&& (slicedVbi525 ||| slicedVbi625) = 0)) :
    permitLen sp r strict = true := by
  obtain ⟨t1, t2⟩ := T_len r hr
  unfold permitLen
  simp only [Bool.not_eq_true', decide_eq_false_iff_not]
  have hb : bppOf sp.fmt = 1 := by rw [hfmt]; rfl
  rw [hb, Nat.div_one, hrate]
  have hmono : 10 ^ 6 * 1440 * r.criRate * r.bitRate ≤ 10 ^ 6 * sp.bpl * r.criRate * r.bitRate :=
    Nat.mul_le_mul_right _ (Nat.mul_le_mul_right _ (Nat.mul_le_mul_left _ hbpl))
  generalize hA : 10 ^ 6 * sp.bpl * r.criRate * r.bitRate = A at hmono ⊢
  generalize hB : 10 ^ 6 * 1440 * r.criRate * r.bitRate = B at hmono t1 t2
  generalize hR : 10 ^ 6 * fsRate * (r.criBits * r.bitRate + (r.frcBits + r.payload) * r.criRate) = R at t1 t2 ⊢
  generalize hT : fsRate * r.criRate * r.bitRate = T at t2 ⊢
  by_cases hst : strictU strict > 0
  · simp only [hst, if_true]
    rcases hs with hs | hs
    · omega
    · have := t2 hs.1 hs.2
      omega
  · simp only [hst, if_false]
    omega

theorem trace_mem (fixed : Bool) (fam sv : Nat) : ∀ (l : List (Row × (Nat × Nat))) (a : FsAcc),
    ∀ r ∈ (fsTrace fixed fam sv l a).2, ∃ x ∈ l, x.1 = r
  | [], _, r, h => nomatch h
  | x :: rest, a, r, h => by
    unfold fsTrace at h
    simp only [] at h
    by_cases ht : fsTakes fam sv a x.1 = true
    · rw [if_pos ht] at h
      rcases List.mem_cons.mp h with rfl | h
      · exact ⟨x, by simp, rfl⟩
      · obtain ⟨y, hy, e⟩ := trace_mem fixed fam sv rest _ r h
        exact ⟨y, by simp [hy], e⟩
    · rw [if_neg ht] at h
      obtain ⟨y, hy, e⟩ := trace_mem fixed fam sv rest _ r h
      exact ⟨y, by simp [hy], e⟩

/-- a row that contributed: the video standard argument was not "both", some service was found, and the result is that of the
    table loop -/
theorem fromServices_mem {fixed : Bool} {fam sv : Nat} {r : Row} (hr : r ∈ (fromServices fixed fam sv).2.2.2) :
    fam < 3 ∧ fromServices fixed fam sv =
      ((fsTrace fixed fam sv (serviceTable.zip fsConsts) (fsInit fam)).1.rsv,
       fsFinal (fsTrace fixed fam sv (serviceTable.zip fsConsts) (fsInit fam)).1,
       (fsTrace fixed fam sv (serviceTable.zip fsConsts) (fsInit fam)).1.rate,
       (fsTrace fixed fam sv (serviceTable.zip fsConsts) (fsInit fam)).2) := by
  unfold fromServices at hr ⊢
  by_cases h3 : fam ≥ 3
  · simp only [h3, if_true] at hr; cases hr
  by_cases hz : (fsTrace fixed fam sv (serviceTable.zip fsConsts) (fsInit fam)).1.rsv = 0
  · simp only [h3, hz, if_true, if_false] at hr; cases hr
  simp only [h3, hz, if_false, and_true]
  omega

/-- what `_vbi_sampling_par_from_services_log` always writes when it returns a non-empty set -/
theorem fromServices_sp_facts (fixed : Bool) (fam sv : Nat) (r : Row) (hr : r ∈ (fromServices fixed fam sv).2.2.2) :
    r ∈ serviceTable ∧ (fromServices fixed fam sv).2.1.fmt = 1 ∧ (fromServices fixed fam sv).2.1.rate = fsRate ∧
    1440 ≤ (fromServices fixed fam sv).2.1.bpl ∧ (fromServices fixed fam sv).2.1.synchronous = true := by
  have e := (fromServices_mem hr).2
  rw [e] at hr ⊢
  obtain ⟨x, hx, e⟩ := trace_mem fixed fam sv _ _ r hr
  exact ⟨e ▸ (List.of_mem_zip hx).1, rfl, rfl, Nat.le_max_left _ _, rfl⟩

end Zvbi.Rawdec
