import ZvbiModel.Rawdec.SvcJobs
/-!
# The job numbers of a row stay pairwise distinct - row level

`Gd n row`: the row is `pos ++ rest ++ [last]` with `pos` the jobs (positive, `≤ n`, pairwise distinct), `rest` free
ways, `last` the marker way (negative while the line has a job).  This is `RowArmed` plus distinctness
(`Gd.armed`, `Gd.nodup`, `Gd.rowOK` one way, `gd_of_armed` back).  `Wk n row` is the same without the marker clause: what
the first loop of `add_job_to_pattern` leaves behind.

* `compactRow_wk`, `compactRow_free`: the first loop keeps `Wk`; `free` is `8 - #jobs (+ 1 if the job is listed)`;
* `placeRow_gd`: the second loop turns a `Wk` row into a `Gd` row;
* `removeRow_gd`: the repaired `remove_job_from_pattern` keeps `Gd` (for one job less);
* `gd_of_rel`: a decode call keeps `Gd` (from `RowRel`);
* `free_gt_one`: with at most 7 job numbers in use a `Wk` row always has two free ways for the job being added.
-/
namespace Zvbi.Rawdec
open Zvbi.Generated.ServiceTable

/-- "weak": `Gd` without the marker clause -/
def Wk (n : Nat) (row : PRow) : Prop :=
  ∃ pos rest last, row = pos ++ rest ++ [last] ∧ pos.length + rest.length = 7 ∧ (∀ x ∈ pos, 0 < x ∧ x ≤ (n : Int)) ∧
    (∀ x ∈ rest, x ≤ 0) ∧ last ≤ 0 ∧ pos.Nodup

/-- "good": jobs first and pairwise distinct, then free ways, the marker way last (the file header spells it out) -/
def Gd (n : Nat) (row : PRow) : Prop :=
  ∃ pos rest last, row = pos ++ rest ++ [last] ∧ pos.length + rest.length = 7 ∧ (∀ x ∈ pos, 0 < x ∧ x ≤ (n : Int)) ∧
    (∀ x ∈ rest, x ≤ 0) ∧ last ≤ 0 ∧ pos.Nodup ∧ (pos ≠ [] → last < 0)

theorem Gd.wk {n : Nat} {row : PRow} (h : Gd n row) : Wk n row := by
  obtain ⟨pos, rest, last, e, hl, hp, hr, hla, hnd, _⟩ := h
  exact ⟨pos, rest, last, e, hl, hp, hr, hla, hnd⟩

theorem Gd.mono {n m : Nat} {row : PRow} (h : Gd n row) (hnm : n ≤ m) : Gd m row := by
  obtain ⟨pos, rest, last, e, hl, hp, hr, hla, hnd, hm⟩ := h
  exact ⟨pos, rest, last, e, hl, fun x hx => ⟨(hp x hx).1, by have := (hp x hx).2; omega⟩, hr, hla, hnd, hm⟩

theorem Wk.mono {n m : Nat} {row : PRow} (h : Wk n row) (hnm : n ≤ m) : Wk m row := by
  obtain ⟨pos, rest, last, e, hl, hp, hr, hla, hnd⟩ := h
  exact ⟨pos, rest, last, e, hl, fun x hx => ⟨(hp x hx).1, by have := (hp x hx).2; omega⟩, hr, hla, hnd⟩

theorem Wk.len {n : Nat} {row : PRow} (h : Wk n row) : row.length = 8 := by
  obtain ⟨pos, rest, last, e, hl, _⟩ := h
  subst e; simp; omega

theorem jobsOf_shape (pos rest : List Int) (last : Int) (hp : ∀ x ∈ pos, 0 < x) (hr : ∀ x ∈ rest, x ≤ 0) (hl : last ≤ 0) :
    jobsOf (pos ++ rest ++ [last]) = pos := by
  unfold jobsOf
  rw [List.filter_append, List.filter_append]
  have h1 : pos.filter (fun x => decide (0 < x)) = pos :=
    List.filter_eq_self.mpr (fun x hx => by simpa using hp x hx)
  have h2 : rest.filter (fun x => decide (0 < x)) = [] :=
    List.filter_eq_nil_iff.mpr (fun x hx => by have := hr x hx; simp; omega)
  have h3 : [last].filter (fun x => decide (0 < x)) = [] := by
    rw [List.filter_eq_nil_iff]; intro x hx; simp at hx; subst hx; simp; omega
  rw [h1, h2, h3]; simp

theorem shape_getD_lt (pos tl : List Int) (p : Nat) (hp : p < pos.length) : (pos ++ tl).getD p 0 = pos[p] := by
  rw [List.getD_eq_getElem?_getD, List.getElem?_append_left hp, List.getElem?_eq_getElem hp]; rfl

theorem shape_getD_ge (pos tl : List Int) (htl : ∀ x ∈ tl, x ≤ 0) (q : Nat) (hq : pos.length ≤ q) :
    (pos ++ tl).getD q 0 ≤ 0 := by
  rw [List.getD_eq_getElem?_getD, List.getElem?_append_right hq]
  cases h : tl[q - pos.length]? with
  | none => simp
  | some x => simpa using htl x (List.mem_of_getElem? h)

theorem shape_getD_last (pos rest : List Int) (last : Int) (hl : pos.length + rest.length = 7) :
    (pos ++ rest ++ [last]).getD 7 0 = last := by
  rw [List.getD_eq_getElem?_getD, List.getElem?_append_right (by simp; omega)]
  simp [hl]

theorem Gd.armed {n : Nat} {row : PRow} (h : Gd n row) : RowArmed row := by
  obtain ⟨pos, rest, last, e, hl, hp, hr, hla, hnd, hm⟩ := h
  subst e
  have htl : ∀ x ∈ rest ++ [last], x ≤ 0 := by
    intro x hx
    rcases List.mem_append.mp hx with h | h
    · exact hr x h
    · simp at h; omega
  refine ⟨?_, ?_⟩
  · intro p q hpq _ hq
    rw [List.append_assoc] at hq ⊢
    by_cases hql : q < pos.length
    · rw [shape_getD_lt pos _ p (by omega)]
      exact (hp _ (List.getElem_mem _)).1
    · have := shape_getD_ge pos _ htl q (by omega)
      omega
  · intro h0
    have hne : pos ≠ [] := by
      intro hnil
      subst hnil
      have := shape_getD_ge [] _ htl 0 (by simp)
      rw [List.append_assoc] at h0
      omega
    have hlt := hm hne
    have := shape_getD_last pos rest last hl
    omega

/-- a `Gd` row is valid: the last way is the free way -/
theorem Gd.rowOK {n : Nat} {row : PRow} (h : Gd n row) : RowOK n row := by
  obtain ⟨pos, rest, last, e, hl, hp, hr, hla, _⟩ := h
  subst e
  refine .of_last (by simp; omega) (by rw [shape_getD_last pos rest last hl]; exact hla) fun x hx => ?_
  simp only [List.mem_append, List.mem_singleton] at hx
  rcases hx with (hx | hx) | hx
  · exact (hp x hx).2
  · have := hr x hx; omega
  · omega

theorem Gd.nodup {n : Nat} {row : PRow} (h : Gd n row) : (jobsOf row).Nodup := by
  obtain ⟨pos, rest, last, e, hl, hp, hr, hla, hnd, hm⟩ := h
  subst e
  rw [jobsOf_shape pos rest last (fun x hx => (hp x hx).1) hr hla]
  exact hnd

theorem gd_of_parts (n : Nat) (pos rest : List Int) (last : Int) (hlen : pos.length + rest.length = 7)
    (hp : ∀ x ∈ pos, 0 < x) (hr : ∀ x ∈ rest, x ≤ 0) (hl : last ≤ 0)
    (hb : ∀ x ∈ pos ++ rest ++ [last], x ≤ (n : Int)) (hnd : (jobsOf (pos ++ rest ++ [last])).Nodup)
    (hm : pos ≠ [] → last < 0) : Gd n (pos ++ rest ++ [last]) := by
  rw [jobsOf_shape pos rest last hp hr hl] at hnd
  exact ⟨pos, rest, last, rfl, hlen, fun x hx => ⟨hp x hx, hb x (by simp [hx])⟩, hr, hl, hnd, hm⟩

theorem gd_of_armed (n : Nat) (row : PRow) (hlen : row.length = 8) (ha : RowArmed row)
    (hb : ∀ x ∈ row, x ≤ (n : Int)) (hnd : (jobsOf row).Nodup) : Gd n row := by
  obtain ⟨a0, a1, a2, a3, a4, a5, a6, a7, rfl⟩ := row8 row hlen
  rw [armed8_iff] at ha
  obtain ⟨c1, c2, c3, c4, c5, c6, c7, m⟩ := ha
  have h7 : a7 ≤ 0 := by omega
  by_cases h6 : 0 < a6
  · exact gd_of_parts n [a0, a1, a2, a3, a4, a5, a6] [] a7 rfl (by intro x hx; simp at hx; omega)
      (by intro x hx; simp at hx) h7 hb hnd (by intro _; omega)
  by_cases h5 : 0 < a5
  · exact gd_of_parts n [a0, a1, a2, a3, a4, a5] [a6] a7 rfl (by intro x hx; simp at hx; omega)
      (by intro x hx; simp at hx; omega) h7 hb hnd (by intro _; omega)
  by_cases h4 : 0 < a4
  · exact gd_of_parts n [a0, a1, a2, a3, a4] [a5, a6] a7 rfl (by intro x hx; simp at hx; omega)
      (by intro x hx; simp at hx; omega) h7 hb hnd (by intro _; omega)
  by_cases h3 : 0 < a3
  · exact gd_of_parts n [a0, a1, a2, a3] [a4, a5, a6] a7 rfl (by intro x hx; simp at hx; omega)
      (by intro x hx; simp at hx; omega) h7 hb hnd (by intro _; omega)
  by_cases h2 : 0 < a2
  · exact gd_of_parts n [a0, a1, a2] [a3, a4, a5, a6] a7 rfl (by intro x hx; simp at hx; omega)
      (by intro x hx; simp at hx; omega) h7 hb hnd (by intro _; omega)
  by_cases h1 : 0 < a1
  · exact gd_of_parts n [a0, a1] [a2, a3, a4, a5, a6] a7 rfl (by intro x hx; simp at hx; omega)
      (by intro x hx; simp at hx; omega) h7 hb hnd (by intro _; omega)
  by_cases h0 : 0 < a0
  · exact gd_of_parts n [a0] [a1, a2, a3, a4, a5, a6] a7 rfl (by intro x hx; simp at hx; omega)
      (by intro x hx; simp at hx; omega) h7 hb hnd (by intro _; omega)
  · exact gd_of_parts n [] [a0, a1, a2, a3, a4, a5, a6] a7 rfl (by intro x hx; simp at hx)
      (by intro x hx; simp at hx; omega) h7 hb hnd (by intro h; exact absurd rfl h)

theorem blankRow_gd (n : Nat) : Gd n blankRow :=
  gd_of_armed n blankRow rfl blankRow_armed (blankRow_ok n).bound (by decide)

theorem nodup_of_sameJobs {r r' : PRow} (h : SameJobs r r') (hnd : (jobsOf r).Nodup) : (jobsOf r').Nodup := by
  rw [List.nodup_iff_count] at hnd ⊢
  intro a
  by_cases ha : 0 < a
  · have e1 : (jobsOf r').count a = r'.count a := List.count_filter (by simpa using ha)
    have e2 : (jobsOf r).count a = r.count a := List.count_filter (by simpa using ha)
    rw [e1, h a ha, ← e2]
    exact hnd a
  · have : a ∉ jobsOf r' := by
      intro hm
      rw [mem_jobsOf] at hm
      exact ha hm.2
    rw [List.count_eq_zero_of_not_mem this]
    omega

theorem gd_of_rel {n : Nat} {r r' : PRow} (h : RowRel n r r') (hg : Gd n r) : Gd n r' :=
  gd_of_armed n r' h.1.len h.2.1 h.1.bound (nodup_of_sameJobs h.2.2 hg.nodup)

/-! ### the first loop of `add_job_to_pattern` -/

theorem compactRow_wk {n : Nat} {row : PRow} (jn : Int) (h : Wk n row) : Wk n (compactRow jn row).1 := by
  obtain ⟨pos, rest, last, e, hl, hp, hr, hla, hnd⟩ := h
  have hjo := jobsOf_shape pos rest last (fun x hx => (hp x hx).1) hr hla
  subst e
  rw [compactRow_eq]
  rw [hjo]
  have hlen : (pos ++ rest ++ [last]).length - pos.length = (7 - pos.length) + 1 := by simp; omega
  rw [hlen, List.replicate_succ', ← List.append_assoc]
  exact ⟨pos, List.replicate (7 - pos.length) 0, 0, rfl, by simp; omega, hp,
    by intro x hx; rw [List.mem_replicate] at hx; omega, by omega, hnd⟩

theorem filter_len_append3 (p : Int → Bool) (a b c : List Int) :
    ((a ++ b ++ c).filter p).length = (a.filter p).length + (b.filter p).length + (c.filter p).length := by
  simp [List.filter_append]; omega

/-- `free` as counted by the first loop: the non-job ways, plus one if the job is already listed -/
theorem compactRow_free (pos rest : List Int) (last : Int) (jn : Int) (hr : ∀ x ∈ rest, x ≤ 0) (hl : last ≤ 0) :
    rest.length + 1 ≤ (compactRow jn (pos ++ rest ++ [last])).2 ∧
    (jn ∈ pos → rest.length + 2 ≤ (compactRow jn (pos ++ rest ++ [last])).2) := by
  have hfree : (compactRow jn (pos ++ rest ++ [last])).2 =
      ((pos ++ rest ++ [last]).filter (fun x => decide (x ≤ 0))).length +
      ((pos ++ rest ++ [last]).filter (fun x => decide (x = jn))).length := rfl
  rw [hfree, filter_len_append3, filter_len_append3]
  have h2 : rest.filter (fun x => decide (x ≤ 0)) = rest :=
    List.filter_eq_self.mpr (fun x hx => by simpa using hr x hx)
  have h3 : [last].filter (fun x => decide (x ≤ 0)) = [last] :=
    List.filter_eq_self.mpr (fun x hx => by simp at hx; subst hx; simpa using hl)
  rw [h2, h3]
  refine ⟨by simp; omega, ?_⟩
  intro hj
  have : 0 < (pos.filter (fun x => decide (x = jn))).length :=
    List.length_pos_of_mem (List.mem_filter.mpr ⟨hj, by simp⟩)
  simp; omega

/-- pigeonhole: pairwise distinct integers in `1 .. N` -/
theorem pigeon (l : List Int) (N : Nat) (hnd : l.Nodup) (hb : ∀ x ∈ l, 0 < x ∧ x ≤ (N : Int)) : l.length ≤ N := by
  have h1 : (l.map Int.toNat).Nodup := by
    rw [List.Nodup, List.pairwise_map]
    exact hnd.imp_of_mem (fun {a b} ha hb' hab heq => by
      have := hb a ha; have := hb b hb'; apply hab; omega)
  have h2 : l.map Int.toNat ⊆ (List.range N).map (· + 1) := by
    intro k hk
    obtain ⟨x, hx, rfl⟩ := List.mem_map.mp hk
    have := hb x hx
    exact List.mem_map.mpr ⟨x.toNat - 1, by rw [List.mem_range]; omega, by omega⟩
  have := List.Nodup.length_le_of_subset h1 h2
  simpa using this

/-- two free ways for the job being added, as long as at most 7 job numbers (the new one included) are in use -/
theorem free_gt_one {n : Nat} {row : PRow} (jn : Int) (N : Nat) (h : Wk n row) (hn : n ≤ N) (hN : N ≤ 7) (hjn : 0 < jn)
    (hjN : jn ≤ (N : Int)) : 1 < (compactRow jn row).2 := by
  obtain ⟨pos, rest, last, e, hl, hp, hr, hla, hnd⟩ := h
  subst e
  obtain ⟨f1, f2⟩ := compactRow_free pos rest last jn hr hla
  by_cases hj : jn ∈ pos
  · have := f2 hj
    omega
  · have hlen : (jn :: pos).length ≤ N := by
      apply pigeon (jn :: pos) N (List.nodup_cons.mpr ⟨hj, hnd⟩)
      intro x hx
      rcases List.mem_cons.mp hx with rfl | hx
      · exact ⟨hjn, hjN⟩
      · have := hp x hx; omega
    simp at hlen
    omega

theorem set7 (init : List Int) (last m : Int) (h : init.length = 7) : (init ++ [last]).set 7 m = init ++ [m] :=
  h ▸ set_last init last m

/-- second loop of `add_job_to_pattern` on a `Wk` row: the job is entered behind the listed jobs (unless it is
    listed, or no way but the marker way is left), the marker is set - the row is `Gd` -/
theorem placeRow_gd {n : Nat} {row : PRow} (jn : Int) (h : Wk n row) (hjn : 0 < jn) (hjn' : jn ≤ (n : Int)) :
    Safe (Gd n) (placeRow jn row) := by
  obtain ⟨pos, rest, last, e, hl, hp, hr, hla, hnd⟩ := h
  subst e
  unfold placeRow findWay
  rw [show maxWays - 1 = 7 from rfl]
  by_cases hj : jn ∈ pos
  · -- the job is listed: nothing but the marker changes
    cases hfi : pos.findIdx? (fun num => !(decide (num > 0)) || num == jn) with
    | none =>
      exfalso
      have := (List.findIdx?_eq_none_iff.mp hfi) jn hj
      simp at this
    | some i =>
      obtain ⟨hi, hpi, _⟩ := List.findIdx?_eq_some_iff_getElem.mp hfi
      have hpos := (hp pos[i] (List.getElem_mem hi)).1
      have heq : pos[i] = jn := by
        simp at hpi
        rcases hpi with h1 | h1
        · omega
        · exact h1
      rw [List.append_assoc, List.findIdx?_append, hfi]
      simp only [Option.some_or]
      rw [List.set_append, if_pos hi]
      have hset : pos.set i jn = pos := by rw [← heq]; exact List.set_getElem_self hi
      rw [hset, ← List.append_assoc, set7 _ _ _ (by simp; omega)]
      exact ⟨_, rfl, pos, rest, -128, rfl, hl, hp, hr, by omega, hnd, fun _ => by omega⟩
  · -- not listed: first free way
    have hnone : pos.findIdx? (fun num => !(decide (num > 0)) || num == jn) = none := by
      rw [List.findIdx?_eq_none_iff]
      intro x hx
      have := (hp x hx).1
      have hne : x ≠ jn := fun hh => hj (hh ▸ hx)
      simp [hne]; omega
    rw [List.append_assoc, List.findIdx?_append, hnone]
    cases rest with
    | nil =>
      -- only the marker way is left: the job number is overwritten by the marker
      have hl7 : pos.length = 7 := by simpa using hl
      have : List.findIdx? (fun num => !(decide (num > 0)) || num == jn) ([] ++ [last]) = some 0 := by
        simp [List.findIdx?_cons]; omega
      rw [this]
      simp only [Option.map_some, Option.none_or, Nat.zero_add, List.nil_append]
      rw [hl7, set7 _ _ _ hl7, set7 _ _ _ hl7]
      exact ⟨_, rfl, pos, [], -128, by simp, by simp [hl7], hp, (by intro x hx; cases hx), by omega, hnd, fun _ => by omega⟩
    | cons r0 rest' =>
      have hr0 := hr r0 (by simp)
      have : List.findIdx? (fun num => !(decide (num > 0)) || num == jn) (r0 :: rest' ++ [last]) = some 0 := by
        simp [List.findIdx?_cons]; omega
      rw [this]
      simp only [Option.map_some, Option.none_or, Nat.zero_add]
      rw [List.set_append, if_neg (by omega), Nat.sub_self]
      simp only [List.cons_append, List.set_cons_zero]
      have e1 : pos ++ jn :: (rest' ++ [last]) = (pos ++ [jn] ++ rest') ++ [last] := by simp
      rw [e1, set7 _ _ _ (by simp at hl ⊢; omega)]
      refine ⟨_, rfl, pos ++ [jn], rest', -128, rfl, by simp at hl ⊢; omega, ?_, fun x hx => hr x (by simp [hx]), by omega, ?_,
        fun _ => by omega⟩
      · intro x hx
        rcases List.mem_append.mp hx with hx | hx
        · exact hp x hx
        · simp at hx; subst hx; exact ⟨hjn, hjn'⟩
      · rw [List.nodup_append]
        refine ⟨hnd, by simp, ?_⟩
        intro a ha b hb
        simp at hb; subst hb
        exact fun hh => hj (hh ▸ ha)

theorem filterMap_self (f : Int → Option Int) : ∀ (l : List Int), (∀ x ∈ l, f x = some x) → l.filterMap f = l
  | [], _ => rfl
  | x :: xs, h => by
    rw [List.filterMap_cons, h x (by simp), filterMap_self f xs (fun y hy => h y (by simp [hy]))]

theorem removeRow_gd {n : Nat} {row : PRow} (jn : Int) (h : Gd n row) (hjn : 0 < jn) (hjn' : jn ≤ (n : Int)) :
    Gd (n - 1) (removeRow true jn row) := by
  obtain ⟨pos, rest, last, e, hl, hp, hr, hla, hnd, hm⟩ := h
  subst e
  rw [removeRow_marker jn hjn (pos ++ rest) last hla, List.filterMap_append,
    show (pos ++ rest).length = 7 by simp; omega]
  rw [filterMap_self _ rest fun x hx => gR_nonpos hjn (hr x hx)]
  have hK : (pos.filterMap (gR jn)).length ≤ pos.length := List.length_filterMap_le _ _
  refine ⟨pos.filterMap (gR jn), rest ++ List.replicate (7 - (pos.filterMap (gR jn) ++ rest).length) 0, last, by simp, ?_, ?_, ?_,
    hla, ?_, ?_⟩
  · simp; omega
  · intro y hy
    obtain ⟨x, hx, hxy⟩ := List.mem_filterMap.mp hy
    obtain ⟨hx0, hxn⟩ := hp x hx
    have := gR_pos hxy
    omega
  · intro x hx
    rcases List.mem_append.mp hx with hx | hx
    · exact hr x hx
    · rw [List.mem_replicate] at hx; omega
  · apply List.Pairwise.filterMap (R := fun a b => 0 < a ∧ 0 < b ∧ a ≠ b) (gR jn) _
      (hnd.imp_of_mem (fun {a b} ha hb hab => ⟨(hp a ha).1, (hp b hb).1, hab⟩))
    intro a a' ⟨ha, ha', hne⟩ b hb b' hb'
    have := gR_pos hb
    have := gR_pos hb'
    omega
  · intro hne
    apply hm
    intro hnil
    apply hne
    rw [hnil]; rfl

end Zvbi.Rawdec
