import ZvbiModel.Rawdec.Distinct
/-!
# Pattern level: `add_job_to_pattern` never runs out of pattern space; every reachable pattern of the
repaired code is armed with pairwise distinct job numbers per line

* `addJobToPattern_gd`: on `Gd` rows with at most 7 job numbers in use the first loop never stops early (`free > 1` by
  `free_gt_one`), the second gives every compacted row its marker back: TRUE is returned and every row is `Gd` again
  (`addPass1_rows`, `mapRows_place_rows` of `LemmasInv` at `W = Wk n`, `G = Gd n`);
* `new_job_room`: when a table row that merges with no job is accepted, at most 6 jobs exist (merge classes).
-/
namespace Zvbi.Rawdec
open Zvbi.Generated.ServiceTable
open Zvbi.Slicer (U32)

/-- `add_job_to_pattern` on a pattern of `Gd` rows, with at most 7 job numbers in use (the new one included): returns
    TRUE, every row is `Gd` again -/
theorem addJobToPattern_gd (j n lines : Nat) (hn : n ≤ 7) (hj : j < n) (ls : (Nat × Nat) × (Nat × Nat)) (pat : Pattern)
    (hl : pat.length = lines) (h : ∀ row ∈ pat, Gd n row) (h1 : ls.1.1 + ls.1.2 ≤ lines) (h2 : ls.2.1 + ls.2.2 ≤ lines) :
    Safe (fun r => r.2 = true ∧ r.1.length = lines ∧ ∀ row ∈ r.1, Gd n row) (addJobToPattern j ls pat) := by
  have hjn : (0 : Int) < (j : Int) + 1 := by omega
  have hjn' : (j : Int) + 1 ≤ (n : Int) := by omega
  have hc : ∀ r, Wk n r → Wk n (compactRow ((j : Int) + 1) r).1 := fun _ => compactRow_wk _
  have hroom : ∀ r, Wk n r → 1 < (compactRow ((j : Int) + 1) r).2 := fun _ hw => free_gt_one _ n hw (Nat.le_refl _) hn hjn hjn'
  have hp : ∀ r, Wk n r → Safe (Gd n) (placeRow ((j : Int) + 1) r) := fun _ hw => placeRow_gd _ hw hjn hjn'
  unfold addJobToPattern
  exact (addPass1_rows _ hc lines _ _ _ pat hl h1 (pg_of_all (fun _ => Gd.wk) h)).bind fun (p1, b1) ⟨l1, g1, r1⟩ => by
    cases r1 hroom
    exact (addPass1_rows _ hc lines _ _ _ p1 l1 h2 g1).bind fun (p2, b2) ⟨l2, g2, r2⟩ => by
      cases r2 hroom
      exact (mapRows_place_rows _ hp (fun _ => Gd.wk) lines _ _ _ p2 l2 h1 g2).bind fun p3 ⟨l3, g3⟩ =>
        (mapRows_place_rows _ hp (fun _ => Gd.wk) lines _ _ _ p3 l3 h2 g3).bind fun p4 ⟨l4, g4⟩ =>
          .ok ⟨rfl, l4, all_of_pg g4 fun i ⟨⟨hs1, hs2⟩, hs3⟩ => hs1.elim (·.elim id hs2) hs3⟩

/-! ### at most 6 jobs when a new one is created -/

theorem new_job_room (s : State) (r : Row) (hr : r ∈ serviceTable) (M : Nat) (hM : M &&& vbiMask = 0) (hrM : r.id &&& M ≠ 0)
    (strict : Int) (h : JInv s) (hq : mergeable r.id r.id = false → r.id &&& M ≠ 0 → r.id &&& s.services = 0)
    (hfi : s.jobs.findIdx? (fun job => mergeable job.id r.id) = none) (hchk : checkServices s.sp r.id strict ≠ 0) :
    s.jobs.length + 1 ≤ 7 := by
  have hu := usable_of_mask r hr M hM hrM
  have := (JOK.append h (T_usable_in_U r hr hu) (fresh_class s r hr hu h (fun h1 => hq h1 hrM) hfi)
    (accepted_std s.sp r hr hu strict hchk)).length_le
  simpa [State.ids] using this

/-- every row of the pattern is armed, its job numbers pairwise distinct and `≤ n_jobs` -/
def PatG (s : State) : Prop := ∀ p, s.pattern = some p → ∀ row ∈ p, Gd s.jobs.length row

/-- what one iteration of the table loop adds to `rd->services` (if no assertion fails) -/
def accId (sp : SPar) (M : Nat) (strict : Int) (r : Row) : Nat :=
  if r.id &&& M ≠ 0 ∧ checkServices sp r.id strict ≠ 0 then r.id else 0

theorem addOne_ne_none (ti : Nat → Nat) (M : Nat) (strict : Int) (s : State) (ri : Nat) (r : Row) (h : JInv s) :
    addOne ti M strict s ri r ≠ none := by
  have h7 : s.jobs.length ≤ 7 := by simpa [State.ids] using h.length_le
  apply addOne_elim ti M strict s ri r (P := (· ≠ none))
  · intro _ he; cases he
  intro _ _ j _ hjl
  have hmax : maxJobs = 8 := rfl
  exact ⟨fun h8 => by omega, fun _ _ => ⟨fun _ _ => Option.some_ne_none _,
    fun _ _ _ _ _ => ⟨fun _ => Option.some_ne_none _, fun _ => Option.some_ne_none _⟩⟩⟩

/-- one iteration of the table loop of `add_services`: `add_job_to_pattern` succeeds, the pattern stays `Gd`, and the
    row's id enters `rd->services` iff `check_services` accepts it -/
theorem addOne_gd (ti : Nat → Nat) (M : Nat) (strict : Int) (s : State) (ri : Nat) (r : Row) (hr : r ∈ serviceTable)
    (hM : M &&& vbiMask = 0) (hi : Inv s) (h : JInv s) (hg : PatG s)
    (hq : mergeable r.id r.id = false → r.id &&& M ≠ 0 → r.id &&& s.services = 0) :
    ∀ s', addOne ti M strict s ri r = some s' → PatG s' ∧ (s'.err = none → s.err = none) ∧
      (s'.err = none → s'.services = s.services ||| accId s.sp M strict r) := by
  apply addOne_elim ti M strict s ri r (P := fun o => ∀ s', o = some s' → PatG s' ∧ (s'.err = none → s.err = none) ∧
    (s'.err = none → s'.services = s.services ||| accId s.sp M strict r))
  · intro hsame s' he
    cases he
    refine ⟨hg, fun h1 => h1, fun h1 => ?_⟩
    rcases hsame with herr | hrM | hchk
    · rw [h1] at herr; cases herr
    · simp [accId, hrM]
    · simp [accId, hchk]
  intro herr' hrM j hj hjl
  have h7 : s.jobs.length ≤ 7 := by simpa [State.ids] using h.length_le
  refine ⟨fun _ s' he => (nomatch he), fun _ hchk => ⟨fun msg _ s' he => ?_, fun pat pat' jobId hpat _ => ?_⟩⟩
  · cases he; exact ⟨hg, fun _ => herr', fun h1 => by simp [State.fail] at h1⟩
  have hj7 : j + 1 ≤ 7 := by
    cases hfi : s.jobs.findIdx? (fun job => mergeable job.id r.id) with
    | some j' =>
      have := (List.findIdx?_eq_some_iff_getElem.mp hfi).1
      rw [hfi, Option.getD_some] at hj; omega
    | none =>
      rw [hfi, Option.getD_none] at hj
      rw [hj]; exact new_job_room s r hr M hM hrM strict h hq hfi hchk
  obtain ⟨hb1, hb2⟩ := linesContainingData_bounds s.sp r
  have hgd0 : ∀ row ∈ pat, Gd (max s.jobs.length (j + 1)) row :=
    fun row hrow => (hg pat hpat row hrow).mono (Nat.le_max_left _ _)
  obtain ⟨⟨pat'', b⟩, hadd, rfl, hl', hgd'⟩ := addJobToPattern_gd j (max s.jobs.length (j + 1)) s.sp.scanLines (by omega) (by omega)
    (linesContainingData s.sp r) pat (hi.pat pat hpat).1 hgd0 hb1 hb2
  constructor
  · intro he; rw [he] at hadd; cases hadd
  · intro he s' hs'
    rw [he] at hadd; cases hadd; cases hs'
    refine ⟨?_, fun _ => herr', fun _ => by simp [accId, hrM, hchk]⟩
    intro p hp
    cases hp
    show ∀ row ∈ pat', Gd (if j < s.jobs.length then _ else _ : List Job).length row
    split
    · rw [List.length_set, show s.jobs.length = max s.jobs.length (j + 1) by omega]; exact hgd'
    · rw [List.length_append, List.length_singleton, show s.jobs.length + 1 = max s.jobs.length (j + 1) by omega]
      exact hgd'

theorem addLoop_gd (ti : Nat → Nat) (M : Nat) (strict : Int) (hM : M &&& vbiMask = 0) (l : List (Nat × Row)) (s : State)
    (hi : Inv s) (h : JInv s) (hpend : Pending M s l) (hg : PatG s) (hp : s.pattern.isSome) :
    PatG (addLoop ti M strict s l) ∧
    ((addLoop ti M strict s l).err = none → s.err = none ∧
      (addLoop ti M strict s l).services = s.services ||| orAll (l.map (fun x => accId s.sp M strict x.2))) := by
  -- in front of the rows `l'`: what was accepted so far and what `l'` will add make up the whole
  refine addLoop_ind ti M strict
    (P := fun l' s' => Inv s' ∧ JInv s' ∧ Pending M s' l' ∧ PatG s' ∧ s'.pattern.isSome ∧ s'.sp = s.sp ∧
      (s'.err = none → s.err = none ∧ s'.services ||| orAll (l'.map (fun x => accId s.sp M strict x.2)) =
        s.services ||| orAll (l.map (fun x => accId s.sp M strict x.2))))
    (Q := fun s' => PatG s' ∧ (s'.err = none → s.err = none ∧
      s'.services = s.services ||| orAll (l.map (fun x => accId s.sp M strict x.2))))
    ?_ ?_ l s ⟨hi, h, hpend, hg, hp, rfl, fun he => ⟨he, rfl⟩⟩
  · rintro l' s' ⟨_, h', _, hg', _, _, hsv⟩ (rfl | ⟨ri, r, _, rfl, he⟩)
    · exact ⟨hg', fun he => by simpa [orAll] using hsv he⟩
    · exact absurd he (addOne_ne_none ti M strict s' ri r h')
  · rintro ri r l' s1 s' ⟨hi1, h1, hp1, hg1, hps, hsp, hsv⟩ he
    have hr := hp1.mem (ri, r) (by simp)
    have hq := hp1.fresh (ri, r) (by simp)
    obtain ⟨h', _, hsv'⟩ := addOne_jok ti M strict s1 ri r hr hM h1 hq s' he
    obtain ⟨hi', hp', hsp'⟩ := addOne_inv ti M strict s1 ri r hi1 hps s' he
    obtain ⟨hg', herr1, hsvc⟩ := addOne_gd ti M strict s1 ri r hr hM hi1 h1 hg1 hq s' he
    refine ⟨hi', h', hp1.tail hsv', hg', hp', hsp'.trans hsp, fun hend => ?_⟩
    obtain ⟨e1, e2⟩ := hsv (herr1 hend)
    refine ⟨e1, ?_⟩
    rw [← e2, hsvc hend, hsp]
    simp only [List.map_cons, orAll, Nat.or_assoc]

/-- the services `add_services` accepts from the (masked) request `M` -/
def acceptedSet (sp : SPar) (M : Nat) (strict : Int) : Nat := orAll (serviceTable.map (accId sp M strict))

theorem enumTable_snd : enumTable.map (·.2) = serviceTable := List.map_snd_zip (by simp)

theorem addStart_gd {s : State} (h : PatG s) : PatG (addStart s) := by
  unfold addStart
  cases hp : s.pattern with
  | some p => exact h
  | none =>
    intro p hp' row hrow
    simp only [Option.some.injEq] at hp'
    subst hp'
    rw [(List.mem_replicate.1 hrow).2]
    exact blankRow_gd _

theorem addServices_gd (ti : Nat → Nat) (s : State) (sv : Nat) (strict : Int) (hi : Inv s) (h : JInv s) (hg : PatG s) :
    PatG (addServices ti s sv strict) ∧
    ((addServices ti s sv strict).err = none →
      (addServices ti s sv strict).services = s.services ||| acceptedSet s.sp (maskServices s sv) strict) := by
  rw [addServices_eq]
  split
  · rename_i hz
    refine ⟨hg, fun h1 => ?_⟩
    have hz := hz.resolve_left (by rw [h1]; simp)
    have : acceptedSet s.sp (maskServices s sv) strict = 0 := by
      apply orAll_zero
      intro x hx
      obtain ⟨y, _, rfl⟩ := List.mem_map.mp hx
      simp [accId, hz]
    rw [this, Nat.or_zero]
  · obtain ⟨_, e2, e3, _, e5⟩ := addStart_same s
    obtain ⟨g, f⟩ := addLoop_gd ti _ strict (maskServices_spec s sv h).1 enumTable _ (addStart_inv hi) (jinv_addStart h)
      (pending_start h e2) (addStart_gd hg) e5
    refine ⟨g, fun hend => ?_⟩
    rw [(f hend).2, e2, e3, acceptedSet, ← enumTable_snd, List.map_map]
    rfl

theorem removeServices_gd (fx : Fixes) (hmk : fx.marker = true) (s : State) (sv : Nat) (hg : PatG s) (herr : s.err = none) :
    PatG (removeServices fx s sv) := by
  rw [removeServices_eq fx sv herr]
  exact (removeLoop_pat fx (Q := fun n p => ∀ row ∈ p, Gd n row) (fun n p jn h h1 h2 row hrow => by
      obtain ⟨row0, hr0, rfl⟩ := List.mem_map.1 hrow
      exact hmk ▸ removeRow_gd jn (h row0 hr0) h1 h2) (2 * s.jobs.length + 1) sv 0 s.jobs s.pattern sv hg).2.1

theorem rowsRel_right_of_left {n : Nat} {a b : List PRow} (h : RowsRel n a b) (hg : ∀ r ∈ a, Gd n r) : ∀ r ∈ b, Gd n r := by
  induction h with
  | nil => intro r hr; cases hr
  | cons hr _ ih =>
    intro r hmem
    rcases List.mem_cons.mp hmem with rfl | h'
    · exact gd_of_rel hr (hg _ (by simp))
    · exact ih (fun r' hr' => hg r' (by simp [hr'])) r h'

theorem decodeFrame_gd (s : State) (m : Nat) (sl : Slicer) (hi : Inv s) (hg : PatG s) : PatG (decodeFrame s m sl).1 := by
  by_cases hidle : s.err.isSome ∨ s.services = 0
  · rw [decodeFrame_idle m sl hidle]; exact hg
  · obtain ⟨p, hp⟩ := Option.isSome_iff_exists.1 (hi.svcPat fun h0 => hidle (.inr h0))
    have F := decodeFrame_spec s m sl (fun p hp r hr => (hg p hp r hr).rowOK) hi.svcPat
    obtain ⟨p', hp', hrr, _⟩ := F.armed p hp (fun r hr => (hg p hp r hr).armed)
    intro q hq row hrow
    rw [hp'] at hq
    cases hq
    rw [← F.jobs.length]
    exact rowsRel_right_of_left hrr (hg p hp) row hrow

theorem step_gd (fx : Fixes) (hmk : fx.marker = true) (ti : Nat → Nat) (s : State) (op : Op)
    (hi : Inv s) (herr : s.err = none) (h : JInv s) (hg : PatG s) : PatG (step fx ti s op) := by
  cases op with
  | add sv st => exact (addServices_gd ti s sv st hi h hg).1
  | remove sv => exact removeServices_gd fx hmk s sv hg herr
  | reset => simp only [step, herr]; intro p hp; simp [reset] at hp
  | decode m sl => exact decodeFrame_gd s m sl hi hg

/-- after every history of the repaired code: every row of the pattern is armed and lists pairwise distinct jobs -/
theorem run_gd (fx : Fixes) (hja : fx.jobAdvance = true) (hm : fx.merged = true) (hmk : fx.marker = true) (ti : Nat → Nat)
    (sp : SPar) (ops : List Op) : PatG (run fx ti sp ops) :=
  (run_ind fx ti sp (P := fun s => JInv s ∧ PatG s) ⟨jinv_init sp, by intro p hp; simp [init] at hp⟩
    (fun s op hi _ herr h => ⟨step_jok fx hja hm ti s op hi herr h.1, step_gd fx hmk ti s op hi herr h.1 h.2⟩) ops).2

end Zvbi.Rawdec
