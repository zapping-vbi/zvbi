import ZvbiModel.Rawdec.DistinctPat
import ZvbiModel.Slicer.LemmasRows
/-!
# `assert (!"bit_slicer_set_params")` of `add_services` is unreachable

For sampling parameters whose pixel format `vbi3_bit_slicer_set_params` knows, with at most 32767 samples per line (its
own `assert (samples_per_line <= 32767)`) and a 32 bit sampling rate: whenever `add_services` reaches `set_params` for a
table row - i.e. `_vbi_sampling_par_check_services_log (sp, par->id, strict)` is non-zero - `set_params` (with the
look-ahead block) accepts.  Chain: `check_services != 0` gives a permitted row sharing a bit with `par` (only the two
Teletext B 625 rows share one; `T_share`: same slicer parameters); `permit_service` has compared the line length with
the signal length (`permit_facts`), which is the "samples_per_line too small" test of `set_params` (`small_ok`: sum of
the two floors <= exact sum); the rate test gives `cri_rate, bit_rate <= sampling_rate`; `Slicer.row_tight_accepts`
carries the acceptance over to the version with the look-ahead limit (`setParams_accepts`: either limit).
-/
namespace Zvbi.Rawdec
open Zvbi.Generated.ServiceTable
open Zvbi.Slicer (U32)

theorem fmtOfName_wf (name : String) (fmt : Zvbi.Slicer.Fmt) (h : Zvbi.Slicer.fmtOfName name = some fmt) :
    fmt.WF ∧ fmt.bpp ≤ 4 := by
  unfold Zvbi.Slicer.fmtOfName at h
  split at h <;> first | (cases h; decide) | cases h

theorem fmtOfCode_wf (code : Nat) (fmt : Zvbi.Slicer.Fmt) (h : Zvbi.Slicer.fmtOfCode code = some fmt) :
    fmt.WF ∧ fmt.bpp ≤ 4 := by
  unfold Zvbi.Slicer.fmtOfCode at h
  cases hn : Zvbi.Slicer.fmtName code with
  | none => rw [hn] at h; cases h
  | some name => rw [hn] at h; exact fmtOfName_wf name fmt h

/-- floors add up to at most the exact sum -/
theorem small_ok (rate criBits c bits d spl : Nat) (hc : 0 < c) (hd : 0 < d)
    (h : rate * (criBits * d + bits * c) ≤ spl * c * d) : rate * criBits / c + rate * bits / d ≤ spl := by
  have h1 : rate * criBits / c * c ≤ rate * criBits := Nat.div_mul_le_self _ _
  have h2 : rate * bits / d * d ≤ rate * bits := Nat.div_mul_le_self _ _
  have h3 : (rate * criBits / c + rate * bits / d) * (c * d) ≤ spl * (c * d) := by
    calc (rate * criBits / c + rate * bits / d) * (c * d)
        = (rate * criBits / c * c) * d + (rate * bits / d * d) * c := by
          rw [Nat.add_mul, ← Nat.mul_assoc, Nat.mul_comm c d, ← Nat.mul_assoc]
      _ ≤ (rate * criBits) * d + (rate * bits) * c := Nat.add_le_add (Nat.mul_le_mul_right _ h1) (Nat.mul_le_mul_right _ h2)
      _ = rate * (criBits * d + bits * c) := by rw [Nat.mul_add, Nat.mul_assoc, Nat.mul_assoc]
      _ ≤ spl * c * d := h
      _ = spl * (c * d) := Nat.mul_assoc _ _ _
  exact Nat.le_of_mul_le_mul_right h3 (Nat.mul_pos hc hd)

/-- `set_params`, released or repaired, accepts what `add_services` hands it -/
theorem setParams_accepts (tight : Bool) (r : Row) (hr : r ∈ Zvbi.Slicer.usableRows) (fmt : Zvbi.Slicer.Fmt) (hf : fmt.WF)
    (hb : fmt.bpp ≤ 4) (rate spl : Nat) (hrate : rate < U32) (hspl : spl ≤ 32767) (hperm : Zvbi.Slicer.permitRate r rate = true)
    (hlen : rate * (r.criBits * r.bitRate + (r.frcBits + r.payload) * r.criRate) ≤ spl * r.criRate * r.bitRate) :
    ∃ c, Zvbi.Slicer.setParams tight (Zvbi.Slicer.rowParams r fmt rate spl) = .ok c := by
  have hs := Zvbi.Slicer.rows_sane r hr
  have hc : 0 < r.criRate := by have := hs.criBits_pos; have := hs.criRate; omega
  have hd : 0 < r.bitRate := by have := hs.bitRate512; omega
  have hsm := small_ok rate r.criBits r.criRate (r.frcBits + r.payload) r.bitRate spl hc hd hlen
  have hpr : r.criRate ≤ rate ∧ r.bitRate ≤ rate := by
    unfold Zvbi.Slicer.permitRate at hperm
    simp only [decide_eq_true_eq] at hperm
    split at hperm <;> omega
  -- the floors of `cri_samples` and `data_samples` add up to at most the line
  have a1 : Zvbi.Slicer.criSamples0 (Zvbi.Slicer.rowParams r fmt rate spl) ≤ rate * r.criBits / r.criRate := Nat.mod_le _ _
  have a2 : Zvbi.Slicer.dataSamples (Zvbi.Slicer.rowParams r fmt rate spl) ≤ rate * (r.frcBits + r.payload) / r.bitRate := by
    rw [Nat.add_comm r.frcBits r.payload]; exact Nat.mod_le _ _
  have a3 := Nat.mod_le (Zvbi.Slicer.criSamples0 (Zvbi.Slicer.rowParams r fmt rate spl) +
    Zvbi.Slicer.dataSamples (Zvbi.Slicer.rowParams r fmt rate spl)) U32
  have h0 := Zvbi.Slicer.setParams_false.2 (Zvbi.Slicer.setParams0_iff.2
    ⟨hs.criBits, hs.frcBits, hs.payload, hspl, hpr.1, hpr.2, hc, hd, Nat.zero_le _,
      show (Zvbi.Slicer.criSamples0 (Zvbi.Slicer.rowParams r fmt rate spl) +
        Zvbi.Slicer.dataSamples (Zvbi.Slicer.rowParams r fmt rate spl)) % U32 ≤ spl - 0 by omega, rfl⟩)
  cases tight with
  | false => exact ⟨_, h0⟩
  | true =>
    obtain ⟨c, hcc, _⟩ := Zvbi.Slicer.row_tight_accepts hr hf hb hrate hperm h0
    exact ⟨c, hcc⟩

/-- the configurations in which `add_services` cannot abort -/
def CfgOK (sp : SPar) : Prop :=
  (Zvbi.Slicer.fmtOfCode sp.fmt).isSome = true ∧ sp.bpl / bppOf sp.fmt ≤ 32767 ∧ sp.rate < U32

theorem mem_usable (r : Row) (hr : r ∈ serviceTable) (hu : r.id &&& vbiMask = 0) : r ∈ Zvbi.Slicer.usableRows := by
  unfold Zvbi.Slicer.usableRows
  rw [List.mem_filter]
  exact ⟨hr, by simpa [vbiMask] using hu⟩

theorem addOne_noerr (ti : Nat → Nat) (M : Nat) (strict : Int) (s : State) (ri : Nat) (r : Row) (hr : r ∈ serviceTable)
    (hM : M &&& vbiMask = 0) (hi : Inv s) (hp : s.pattern.isSome) (hc : CfgOK s.sp) :
    ∀ s', addOne ti M strict s ri r = some s' → s.err = none → s'.err = none := by
  intro s' he herr
  revert s' he
  apply addOne_elim ti M strict s ri r (P := fun o => ∀ s', o = some s' → s'.err = none)
  · intro _ s' he; cases he; exact herr
  intro _ hrM j _ hjl
  have hu := usable_of_mask r hr M hM hrM
  refine ⟨fun _ s' he => (nomatch he), fun _ hchk => ⟨?_, fun _ _ _ _ _ => ⟨fun _ s' he => by cases he; exact herr,
    fun _ s' he => by cases he; exact herr⟩⟩⟩
  -- none of the aborts can happen
  rintro msg (⟨_, hnone | ⟨fmt, e, hfmt, herr'⟩⟩ | hnone | ⟨pat, hpat, he⟩) s' _
  · have := hc.1
    rw [hnone] at this
    cases this
  · obtain ⟨hwf, hb4⟩ := fmtOfCode_wf _ fmt hfmt
    have hacc : ∃ c, Zvbi.Slicer.setParams slicerTight (Zvbi.Slicer.rowParams r fmt s.sp.rate (s.sp.bpl / bppOf s.sp.fmt)) = .ok c := by
      obtain ⟨r', hr', hov, hperm⟩ := checkServices_ne_zero hchk
      obtain ⟨p1, p2, p3, p4⟩ := permit_facts s.sp r' strict hperm
      obtain ⟨_, t1, t2, t3, t4, t5, t6⟩ := T_share r hr r' hr' hov
      rw [t1, t2, t3, t4, t5] at p4
      have hpr : Zvbi.Slicer.permitRate r s.sp.rate = true := by
        unfold Zvbi.Slicer.permitRate at p1 ⊢
        rw [t1, t2] at p1
        by_cases hw : r.id = slicedWss625
        · simpa [hw, t6.mpr hw] using p1
        · have hw' : ¬ r'.id = slicedWss625 := fun hh => hw (t6.mp hh)
          simpa [hw, hw'] using p1
      exact setParams_accepts _ r (mem_usable r hr hu) fmt hwf hb4 s.sp.rate _ hc.2.2 hc.2.1 hpr p4
    obtain ⟨c, hcc⟩ := hacc
    rw [hcc] at herr'; cases herr'
  · rw [hnone] at hp; cases hp
  · obtain ⟨_, hok, _⟩ := addJobToPattern_ok j s.jobs.length s.sp.scanLines hjl (linesContainingData s.sp r) pat
      (hi.pat pat hpat) (linesContainingData_bounds s.sp r).1 (linesContainingData_bounds s.sp r).2
    rw [hok] at he; cases he

theorem addLoop_noerr (ti : Nat → Nat) (M : Nat) (strict : Int) (hM : M &&& vbiMask = 0) (l : List (Nat × Row)) (s : State)
    (hmem : ∀ x ∈ l, x.2 ∈ serviceTable) (hi : Inv s) (hp : s.pattern.isSome) (hc : CfgOK s.sp) (herr : s.err = none) :
    (addLoop ti M strict s l).err = none :=
  addLoop_ind ti M strict
    (P := fun l s => (∀ x ∈ l, x.2 ∈ serviceTable) ∧ Inv s ∧ s.pattern.isSome ∧ CfgOK s.sp ∧ s.err = none)
    (Q := fun s => s.err = none) (fun _ _ h _ => h.2.2.2.2)
    (fun ri r l s s' ⟨hmem, hi, hp, hc, herr⟩ he => by
      obtain ⟨hi', hp', hsp⟩ := addOne_inv ti M strict s ri r hi hp s' he
      exact ⟨fun y hy => hmem y (by simp [hy]), hi', hp', hsp ▸ hc,
        addOne_noerr ti M strict s ri r (hmem (ri, r) (by simp)) hM hi hp hc s' he herr⟩)
    l s ⟨hmem, hi, hp, hc, herr⟩

theorem addServices_noerr (ti : Nat → Nat) (s : State) (sv : Nat) (strict : Int) (hi : Inv s) (h : JInv s) (hc : CfgOK s.sp)
    (herr : s.err = none) : (addServices ti s sv strict).err = none := by
  rw [addServices_eq]
  split
  · exact herr
  · obtain ⟨_, _, e3, e4, e5⟩ := addStart_same s
    exact addLoop_noerr ti _ strict (maskServices_spec s sv h).1 enumTable _ T_enum_mem (addStart_inv hi) e5 (e3 ▸ hc)
      (e4.trans herr)

/-- no history of the repaired code reaches the `set_params` assertion (or any other error value) -/
theorem run_noerr (fx : Fixes) (hja : fx.jobAdvance = true) (hm : fx.merged = true) (ti : Nat → Nat)
    (sp : SPar) (hc : CfgOK sp) (ops : List Op) : (run fx ti sp ops).err = none :=
  (run_ind fx ti sp (P := fun s => JInv s ∧ s.err = none) ⟨jinv_init sp, rfl⟩
    (fun s op hi hsp herr ⟨h, _⟩ => by
      refine ⟨step_jok fx hja hm ti s op hi herr h, ?_⟩
      cases op with
      | add sv st => exact addServices_noerr ti s sv st hi h (hsp ▸ hc) herr
      | remove sv => simp only [step]; rw [removeServices_eq fx sv herr]; exact herr
      | reset => simp only [step, herr]; exact herr
      | decode m sl =>
        exact (decodeFrame_spec s m sl (fun p hp => (hi.pat p hp).2) hi.svcPat).err.trans herr) ops).2

end Zvbi.Rawdec
