import ZvbiModel.Rawdec.Model
/-!
# Line numbers, fields and the storage order of the two fields

`lineOf` (Rawdec/Model.lean) is the value `decode_pattern` stores in `sliced->line` for row `i` of the image;
`Zvbi.Slicer.lineOffset` (C05: proved equal to the pointer arithmetic of `vbi3_raw_decoder_decode`) is where that row
starts in the image.  Here: what `_vbi_sampling_par_valid_log` guarantees (`valid_spec`), and for every accepted
(start[2], count[2], interlaced, synchronous): which memory line a row is, which field it belongs to, which ITU-R
line number it gets.
-/
namespace Zvbi.Rawdec
open Zvbi.Generated.ServiceTable
open Zvbi.Slicer (U32)

/-- first / last line of field `f` (0, 1) in the line system -/
def fieldLo (scanning f : Nat) : Nat := if f = 0 then 1 else (if scanning = 525 then 263 else 312)
def fieldHi (scanning f : Nat) : Nat :=
  if f = 0 then (if scanning = 525 then 262 else 311) else (if scanning = 525 then 525 else 625)

/-- what `_vbi_sampling_par_valid_log` (0.2 branch) establishes; the upper ends need the count to be a C `int` (`< 2^31`) -/
theorem valid_spec (sp : SPar) (hv : sp.valid = true) :
    (sp.scanning = 525 ∨ sp.scanning = 625) ∧ sp.bpl ≠ 0 ∧ 0 < sp.scanLines ∧
    (sp.start0 ≠ 0 → fieldLo sp.scanning 0 ≤ sp.start0 ∧
      (sp.count0 < 2147483648 → sp.start0 + sp.count0 ≤ fieldHi sp.scanning 0)) ∧
    (sp.start1 ≠ 0 → fieldLo sp.scanning 1 ≤ sp.start1 ∧
      (sp.count1 < 2147483648 → sp.start1 + sp.count1 ≤ fieldHi sp.scanning 1)) ∧
    (sp.interlaced = true → sp.count0 = sp.count1 ∧ 0 < sp.count0) := by
  unfold SPar.valid at hv
  simp only [videostdOfScanning, videostd525, videostd625, rangeCheck, U32, fieldLo, fieldHi, SPar.scanLines] at hv ⊢
  have hscan : sp.scanning = 525 ∨ sp.scanning = 625 := by
    by_cases h5 : sp.scanning = 525
    · exact .inl h5
    · by_cases h6 : sp.scanning = 625
      · exact .inr h6
      · simp [h5, h6] at hv
  rcases hscan with h | h <;>
  · simp [h] at hv ⊢
    obtain ⟨⟨⟨⟨_, hb⟩, hz⟩, hr0, hr1⟩, hi⟩ := hv
    refine ⟨hb, by omega, ?_, ?_, ?_⟩
    · intro h0
      rcases hr0 with hr0 | ⟨⟨ha, hd⟩, hc⟩
      · exact absurd hr0 h0
      · have := of_decide_eq_true hd; omega
    · intro h1
      rcases hr1 with hr1 | ⟨⟨ha, hd⟩, hc⟩
      · exact absurd hr1 h1
      · have := of_decide_eq_true hd; omega
    · intro hil
      rcases hi with hi | hi
      · rw [hil] at hi; cases hi
      · omega

/-- field (0 = first, 1 = second) a row of the image belongs to; the same for both storage orders -/
def fieldOf (sp : SPar) (i : Nat) : Nat := if i < sp.count0 then 0 else 1
/-- index of the row inside its field -/
def idxInField (sp : SPar) (i : Nat) : Nat := if i < sp.count0 then i else i - sp.count0

/-- memory line (units of `bytes_per_line`) at which row `i` is stored: fields one after the other, or interleaved -/
def memLine (sp : SPar) (i : Nat) : Nat :=
  if sp.interlaced then 2 * idxInField sp i + fieldOf sp i else i

/-- a row lies in the first field, with its own index, or in the second, `count[0]` rows further on -/
theorem field_cases (sp : SPar) (i : Nat) :
    (i < sp.count0 ∧ fieldOf sp i = 0 ∧ idxInField sp i = i) ∨
    (sp.count0 ≤ i ∧ fieldOf sp i = 1 ∧ idxInField sp i + sp.count0 = i) := by
  unfold fieldOf idxInField
  by_cases h : i < sp.count0 <;> simp [h] <;> omega

def toSp (sp : SPar) : Zvbi.Slicer.Sp := ⟨sp.count0, sp.count1, sp.bpl, sp.interlaced⟩

/-- the pointer `vbi3_raw_decoder_decode` hands to `decode_pattern` for row `i` is the start of memory line `memLine` -/
theorem lineOffset_memLine (sp : SPar) (i : Nat) : Zvbi.Slicer.lineOffset (toSp sp) i = memLine sp i * sp.bpl := by
  unfold Zvbi.Slicer.lineOffset memLine idxInField fieldOf toSp
  cases hil : sp.interlaced
  · simp
  · by_cases hi : i < sp.count0
    · simp [hi]; rw [Nat.mul_comm sp.bpl 2, ← Nat.mul_assoc, Nat.mul_comm i 2]
    · simp [hi]; rw [Nat.add_mul, Nat.mul_comm sp.bpl 2, ← Nat.mul_assoc, Nat.mul_comm (i - sp.count0) 2]; omega

/-- `sliced->line` in terms of field and index -/
theorem lineOf_field (sp : SPar) (i : Nat) :
    lineOf sp i = if sp.synchronous = true ∧ sp.start (fieldOf sp i) ≠ 0 then sp.start (fieldOf sp i) + idxInField sp i else 0 := by
  unfold lineOf fieldOf idxInField SPar.start
  by_cases hi : i < sp.count0
  · have : ¬ (i ≥ sp.count0) := by omega
    simp [hi, this]
  · have : i ≥ sp.count0 := by omega
    simp only [hi, this, if_true, if_false, show ¬ ((1 : Nat) = 0) from by omega]
    split <;> omega

/-- `sliced->line` as a function of the row is strictly increasing when the field order and both start lines are
    known and field 2 starts after field 1 ends (which `_vbi_sampling_par_valid_log` enforces, `valid_fields_ordered`) -/
theorem lineOf_strictMono (sp : SPar) (hs : sp.synchronous = true) (h0 : sp.start0 ≠ 0) (h1 : sp.start1 ≠ 0)
    (hord : sp.start0 + sp.count0 ≤ sp.start1) (i j : Nat) (hij : i < j) : lineOf sp i < lineOf sp j := by
  unfold lineOf
  simp only [hs, h0, h1, ne_eq, not_false_eq_true, and_self, if_true]
  split <;> split <;> omega

end Zvbi.Rawdec
