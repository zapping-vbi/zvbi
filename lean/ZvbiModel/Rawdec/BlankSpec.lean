import ZvbiModel.Rawdec.Blank
/-!
# `tryJobs` = `lineSpec` for threshold-insensitive images; `lineSpec` does not depend
# on the order of the ways when at most one job matches
-/
namespace Zvbi.Rawdec
open Zvbi.Generated.ServiceTable

/-- same jobs up to the slicer thresholds -/
def JobsRel (a b : List Job) : Prop := a.map jobKey = b.map jobKey

theorem JobsRel.refl (a : List Job) : JobsRel a a := rfl
theorem JobsRel.trans {a b c : List Job} (h1 : JobsRel a b) (h2 : JobsRel b c) : JobsRel a c := Eq.trans h1 h2
theorem JobsRel.symm {a b : List Job} (h : JobsRel a b) : JobsRel b a := Eq.symm h
theorem JobsRel.length {a b : List Job} (h : JobsRel a b) : a.length = b.length := by
  have := congrArg List.length h
  simpa using this

theorem JobsRel.ids {a b : List Job} (h : JobsRel a b) : b.map (·.id) = a.map (·.id) := by
  have := congrArg (List.map Prod.fst) h
  simpa [List.map_map, Function.comp_def, jobKey] using this.symm

theorem JobsRel.getElem? {a b : List Job} (h : JobsRel a b) (k : Nat) :
    (a[k]?).map jobKey = (b[k]?).map jobKey := by
  have := congrArg (fun l => l[k]?) h
  simpa [List.getElem?_map] using this

theorem jobsRel_set (jobs : List Job) (k : Nat) (hk : k < jobs.length) (th : Nat) :
    JobsRel jobs (jobs.set k { jobs[k] with thresh := th }) := by
  unfold JobsRel
  apply List.ext_getElem
  · simp
  · intro i h1 h2
    simp [List.getElem_set]
    intro h; subst h; rfl

theorem tryJobs_rel (sl : Nat → Job → Option (List Nat) × Nat) :
    ∀ (l : List Int) (jobs : List Job), JobsRel jobs (tryJobs sl l jobs).2 := by
  intro l
  induction l with
  | nil => intro jobs; exact JobsRel.refl _
  | cons x rest ih =>
    intro jobs
    unfold tryJobs
    cases hj : jobs[x.toNat - 1]? with
    | none => exact JobsRel.refl _
    | some job =>
      simp only []
      have hk : x.toNat - 1 < jobs.length := by
        rcases List.getElem?_eq_some_iff.mp hj with ⟨h, _⟩; exact h
      have hjob : job = jobs[x.toNat - 1] := by
        rcases List.getElem?_eq_some_iff.mp hj with ⟨_, h⟩; exact h.symm
      subst hjob
      cases hres : (sl (x.toNat - 1) jobs[x.toNat - 1]).1 with
      | some d => exact jobsRel_set jobs _ hk _
      | none =>
        exact (jobsRel_set jobs _ hk _).trans (ih _)

/-- `lineSpec` over an explicit list of job numbers (`lineSpec` itself filters the row first: the inductions over the jobs
    tried need the list as a variable) -/
def lineSpecL (sp : SPar) (sl : Slicer) (jobs : List Job) (i : Nat) (l : List Int) : Option Rec :=
  match l.find? (fun x => (hitOf sl jobs i x).isSome) with
  | none => none
  | some x =>
    match jobs[x.toNat - 1]?, hitOf sl jobs i x with
    | some job, some d => some { id := job.id, line := lineOf sp i, data := d }
    | _, _ => none

theorem lineSpec_eq (sp : SPar) (sl : Slicer) (jobs : List Job) (i : Nat) (row : PRow) :
    lineSpec sp sl jobs i row = lineSpecL sp sl jobs i (jobsOf row) := rfl

theorem JobsRel.cases {a b : List Job} (h : JobsRel a b) (k : Nat) :
    (a[k]? = none ∧ b[k]? = none) ∨ ∃ ja jb, a[k]? = some ja ∧ b[k]? = some jb ∧ jobKey ja = jobKey jb := by
  have hk := h.getElem? k
  cases ha : a[k]? <;> cases hb : b[k]? <;> rw [ha, hb] at hk <;> simp at hk
  · exact .inl ⟨rfl, rfl⟩
  · exact .inr ⟨_, _, rfl, rfl, hk⟩

theorem hitOf_rel (sl : Slicer) (htf : ThreshFree sl) {jobs0 jobs : List Job} (h : JobsRel jobs0 jobs) (i : Nat) (x : Int) :
    hitOf sl jobs i x = hitOf sl jobs0 i x := by
  unfold hitOf
  rcases h.cases (x.toNat - 1) with ⟨h0, h1⟩ | ⟨j0, j, h0, h1, hk⟩
  · rw [h0, h1]
  · rw [h0, h1]; exact htf i _ j j0 hk.symm

/-- `tryJobs` is `lineSpec` when the slicers' verdicts do not depend on the thresholds: the first listed job whose
    slicer matches, whatever thresholds earlier lines and earlier tries left behind -/
theorem tryJobs_lineSpec (sp : SPar) (sl : Slicer) (htf : ThreshFree sl) (i : Nat) (jobs0 : List Job) :
    ∀ (l : List Int) (jobs : List Job), JobsRel jobs0 jobs → (∀ x ∈ l, 0 < x ∧ x ≤ (jobs0.length : Int)) →
      (tryJobs (sl i) l jobs).1.map (fun m => ({ id := m.2.1.id, line := lineOf sp i, data := m.2.2 } : Rec))
        = lineSpecL sp sl jobs0 i l := by
  intro l
  induction l with
  | nil => intro jobs _ _; rfl
  | cons x rest ih =>
    intro jobs hrel hl
    obtain ⟨hx0, hxn⟩ := hl x (by simp)
    have hlen := hrel.length
    have hk : x.toNat - 1 < jobs.length := by omega
    have hk0 : x.toNat - 1 < jobs0.length := by omega
    have hhit : hitOf sl jobs0 i x = (sl i (x.toNat - 1) jobs[x.toNat - 1]).1 := by
      rw [← hitOf_rel sl htf hrel i x]
      unfold hitOf
      rw [List.getElem?_eq_getElem hk]
    have hkey : jobKey jobs0[x.toNat - 1] = jobKey jobs[x.toNat - 1] := by
      have := hrel.getElem? (x.toNat - 1)
      rw [List.getElem?_eq_getElem hk, List.getElem?_eq_getElem hk0] at this
      simpa using this
    unfold tryJobs
    rw [List.getElem?_eq_getElem hk]
    simp only []
    unfold lineSpecL
    rw [List.find?_cons]
    cases hres : (sl i (x.toNat - 1) jobs[x.toNat - 1]).1 with
    | some d =>
      rw [hres] at hhit
      simp only [hhit, Option.isSome_some, Option.map_some, List.getElem?_eq_getElem hk0]
      have hid : jobs0[x.toNat - 1].id = jobs[x.toNat - 1].id := congrArg Prod.fst hkey
      rw [hid]
    | none =>
      rw [hres] at hhit
      simp only [hhit, Option.isSome_none]
      have := ih (jobs.set (x.toNat - 1) { jobs[x.toNat - 1] with thresh := (sl i (x.toNat - 1) jobs[x.toNat - 1]).2 })
        (hrel.trans (jobsRel_set jobs _ hk _)) (fun y hy => hl y (by simp [hy]))
      rw [this]
      rfl

/-! ## the order of the ways does not matter when at most one job matches -/

/-- at most one of the jobs listed for row `i` matches the image -/
def UniqueHit (sl : Slicer) (jobs : List Job) (i : Nat) (row : PRow) : Prop :=
  ∀ x ∈ row, ∀ y ∈ row, 0 < x → 0 < y → (hitOf sl jobs i x).isSome = true → (hitOf sl jobs i y).isSome = true → x = y

theorem find?_perm_unique {α : Type} (P : α → Bool) (l l' : List α) (hmem : ∀ x, x ∈ l ↔ x ∈ l')
    (huniq : ∀ x ∈ l, ∀ y ∈ l, P x = true → P y = true → x = y) : l.find? P = l'.find? P := by
  cases h : l.find? P with
  | none =>
    rw [List.find?_eq_none] at h
    symm
    rw [List.find?_eq_none]
    intro x hx
    exact h x ((hmem x).mpr hx)
  | some x =>
    have hx := List.mem_of_find?_eq_some h
    have hpx := List.find?_some h
    cases h' : l'.find? P with
    | none =>
      rw [List.find?_eq_none] at h'
      have := h' x ((hmem x).mp hx)
      rw [hpx] at this
      exact absurd rfl this
    | some y =>
      have hy := List.mem_of_find?_eq_some h'
      have hpy := List.find?_some h'
      rw [huniq x hx y ((hmem y).mpr hy) hpx hpy]

theorem mem_jobsOf (row : PRow) (x : Int) : x ∈ jobsOf row ↔ (x ∈ row ∧ 0 < x) := by
  unfold jobsOf
  rw [List.mem_filter]
  simp

/-- rows with the same jobs (as multisets) -/
def SameJobs (r r' : PRow) : Prop := ∀ x, 0 < x → r'.count x = r.count x

theorem SameJobs.mem {r r' : PRow} (h : SameJobs r r') (x : Int) : x ∈ jobsOf r ↔ x ∈ jobsOf r' := by
  rw [mem_jobsOf, mem_jobsOf]
  constructor
  · intro ⟨hm, hp⟩
    refine ⟨?_, hp⟩
    have := h x hp
    rw [← List.count_pos_iff] at hm ⊢
    omega
  · intro ⟨hm, hp⟩
    refine ⟨?_, hp⟩
    have := h x hp
    rw [← List.count_pos_iff] at hm ⊢
    omega

/-- the order in which the ways are tried cannot change the result when at most one job matches the line -/
theorem lineSpec_order_free (sp : SPar) (sl : Slicer) (htf : ThreshFree sl) {jobs0 jobs : List Job}
    (hrel : JobsRel jobs0 jobs) (i : Nat) (r r' : PRow) (hsame : SameJobs r r') (hu : UniqueHit sl jobs0 i r) :
    lineSpec sp sl jobs i r' = lineSpec sp sl jobs0 i r := by
  rw [lineSpec_eq, lineSpec_eq]
  unfold lineSpecL
  have hh : (fun x => (hitOf sl jobs i x).isSome) = (fun x => (hitOf sl jobs0 i x).isSome) := by
    funext x; rw [hitOf_rel sl htf hrel i x]
  rw [hh]
  have hf := find?_perm_unique (fun x => (hitOf sl jobs0 i x).isSome) (jobsOf r) (jobsOf r') (hsame.mem)
    (by
      intro x hx y hy hpx hpy
      rw [mem_jobsOf] at hx hy
      exact hu x hx.1 y hy.1 hx.2 hy.2 hpx hpy)
  rw [← hf]
  cases (jobsOf r).find? (fun x => (hitOf sl jobs0 i x).isSome) with
  | none => rfl
  | some x =>
    simp only []
    rw [hitOf_rel sl htf hrel i x]
    rcases hrel.cases (x.toNat - 1) with ⟨h0, h1⟩ | ⟨j0, j, h0, h1, hk⟩
    · rw [h0, h1]
    · rw [h0, h1]
      have hid : j0.id = j.id := congrArg Prod.fst hk
      cases hitOf sl jobs0 i x with
      | none => rfl
      | some d => simp only [hid]

end Zvbi.Rawdec
