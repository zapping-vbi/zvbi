import ZvbiModel.Slicer.Model
import ZvbiModel.Util.Bits
/-!
# Bit-set algebra on service sets (`vbi_service_set` = `unsigned int`)

Small library over `Nat` bit operations, proved bit by bit (`Nat.testBit`): union of the ids of a job list
(`orAll`), disjointness, the 32 bit complement `~x` as the model writes it (`U32 - 1 - x`).
-/
namespace Zvbi.Rawdec
open Zvbi.Slicer (U32)

/-- union of a list of service sets -/
def orAll : List Nat → Nat
  | [] => 0
  | x :: xs => x ||| orAll xs

theorem foldl_or_init (l : List Nat) (a : Nat) : l.foldl (· ||| ·) a = a ||| orAll l := by
  induction l generalizing a with
  | nil => simp [orAll]
  | cons x xs ih => simp only [List.foldl_cons, orAll]; rw [ih, Nat.or_assoc]

theorem foldl_or_eq (l : List Nat) : l.foldl (· ||| ·) 0 = orAll l := by
  rw [foldl_or_init]; simp

theorem and_or_zero {a b c : Nat} : c &&& (a ||| b) = 0 ↔ c &&& a = 0 ∧ c &&& b = 0 := by
  rw [Nat.and_comm c, Nat.and_comm c a, Nat.and_comm c b]; exact Bits.or_and_zero

theorem orAll_and_zero {l : List Nat} {c : Nat} : orAll l &&& c = 0 ↔ ∀ x ∈ l, x &&& c = 0 := by
  induction l with
  | nil => simp [orAll]
  | cons x xs ih => simp only [orAll, Bits.or_and_zero, ih, List.mem_cons, forall_eq_or_imp]

theorem orAll_zero (l : List Nat) (h : ∀ x ∈ l, x = 0) : orAll l = 0 := by
  induction l with
  | nil => rfl
  | cons x xs ih =>
    simp only [orAll]
    rw [h x (by simp), ih (fun y hy => h y (by simp [hy]))]
    rfl

theorem orAll_append (a b : List Nat) : orAll (a ++ b) = orAll a ||| orAll b := by
  induction a with
  | nil => simp [orAll]
  | cons x xs ih => simp only [List.cons_append, orAll, ih, Nat.or_assoc]

theorem orAll_lt {l : List Nat} (h : ∀ x ∈ l, x < U32) : orAll l < U32 := by
  induction l with
  | nil => simp [orAll, U32]
  | cons x xs ih =>
    simp only [orAll]
    exact Nat.or_lt_two_pow (n := 32) (h x (by simp)) (ih (fun y hy => h y (by simp [hy])))

theorem orAll_set_or (l : List Nat) (j : Nat) (x y : Nat) (h : l[j]? = some x) :
    orAll (l.set j (x ||| y)) = orAll l ||| y := by
  induction l generalizing j with
  | nil => simp at h
  | cons a as ih =>
    cases j with
    | zero =>
      simp only [List.getElem?_cons_zero, Option.some.injEq] at h
      subst h
      simp only [List.set_cons_zero, orAll]
      rw [Nat.or_assoc, Nat.or_comm y, ← Nat.or_assoc]
    | succ j =>
      simp only [List.getElem?_cons_succ] at h
      simp only [List.set_cons_succ, orAll, ih j h, Nat.or_assoc]

theorem orAll_eraseIdx_or (l : List Nat) (j : Nat) (x : Nat) (h : l[j]? = some x) :
    orAll (l.eraseIdx j) ||| x = orAll l := by
  induction l generalizing j with
  | nil => simp at h
  | cons a as ih =>
    cases j with
    | zero =>
      simp only [List.getElem?_cons_zero, Option.some.injEq] at h
      subst h
      simp only [List.eraseIdx_cons_zero, orAll]
      exact Nat.or_comm _ _
    | succ j =>
      simp only [List.getElem?_cons_succ] at h
      simp only [List.eraseIdx_cons_succ, orAll, Nat.or_assoc, ih j h]

/-- `~y` in 32 bits, bit by bit -/
theorem testBit_compl32 (y i : Nat) : (U32 - 1 - (y % U32)).testBit i = (decide (i < 32) && !y.testBit i) := by
  have hU : U32 = 2 ^ 32 := rfl
  rw [hU]
  have hy : y % 2 ^ 32 < 2 ^ 32 := Nat.mod_lt _ (by omega)
  have : 2 ^ 32 - 1 - (y % 2 ^ 32) = 2 ^ 32 - (y % 2 ^ 32 + 1) := by omega
  rw [this, Nat.testBit_two_pow_sub_succ hy, Nat.testBit_mod_two_pow]
  by_cases hi : i < 32 <;> simp [hi]

/-- a set below 2^32 that is disjoint from `m` survives `& ~m` -/
theorem and_compl_of_disjoint (k m : Nat) (hk : k < U32) (h : k &&& m = 0) : k &&& (U32 - 1 - (m % U32)) = k := by
  apply Nat.eq_of_testBit_eq
  intro i
  rw [Nat.testBit_and, testBit_compl32]
  have hd : (k &&& m).testBit i = false := by rw [h]; simp
  rw [Nat.testBit_and] at hd
  by_cases hi : i < 32
  · cases hk' : k.testBit i <;> simp_all
  · have : k.testBit i = false := Bits.testBit_of_lt (n := 32) hk (by omega)
    simp [this]

/-- a subset of `m` is wiped out by `& ~m` -/
theorem and_compl_of_subset (a m : Nat) (h : a &&& m = a) : a &&& (U32 - 1 - (m % U32)) = 0 := by
  apply Nat.eq_of_testBit_eq
  intro i
  rw [Nat.testBit_and, testBit_compl32]
  have hd : (a &&& m).testBit i = a.testBit i := by rw [h]
  rw [Nat.testBit_and] at hd
  cases ha : a.testBit i <;> cases hm : m.testBit i <;> simp_all

/-- `x & ~m` is disjoint from `m` and from 2^32 upward -/
theorem compl_and_disjoint (x m : Nat) : (x &&& (U32 - 1 - (m % U32))) &&& m = 0 := by
  apply Nat.eq_of_testBit_eq
  intro i
  rw [Nat.testBit_and, Nat.testBit_and, testBit_compl32]
  cases hm : m.testBit i <;> simp

theorem compl_and_lt (x m : Nat) : x &&& (U32 - 1 - (m % U32)) < U32 := by
  have : U32 - 1 - (m % U32) < 2 ^ 32 := by unfold U32; omega
  exact Nat.lt_of_le_of_lt Nat.and_le_right this

/-- a single bit that meets `M` lies in `M`: if `M` is disjoint from `S`, so is the bit -/
theorem bit_disjoint (b M S : Nat) (hM : 2 ^ b &&& M ≠ 0) (hd : M &&& S = 0) : 2 ^ b &&& S = 0 := by
  have hMb : M.testBit b = true := by
    obtain ⟨i, hi⟩ := Nat.exists_testBit_of_ne_zero hM
    rw [Nat.testBit_and, Nat.testBit_two_pow] at hi
    simp only [Bool.and_eq_true, decide_eq_true_eq] at hi
    rw [hi.1]; exact hi.2
  have h2 : (M &&& S).testBit b = false := by rw [hd]; simp
  rw [Nat.testBit_and, hMb] at h2
  apply Nat.eq_of_testBit_eq
  intro i
  rw [Nat.testBit_and, Nat.testBit_two_pow]
  by_cases hbi : b = i
  · subst hbi; simp at h2; simp [h2]
  · simp [hbi]

theorem subset_trans_or (a s b : Nat) (h : a &&& s = a) : a &&& (s ||| b) = a := by
  apply Nat.eq_of_testBit_eq
  intro i
  have hd : (a &&& s).testBit i = a.testBit i := by rw [h]
  rw [Nat.testBit_and] at hd
  rw [Nat.testBit_and, Nat.testBit_or]
  cases ha : a.testBit i <;> cases hs : s.testBit i <;> simp_all

theorem disjoint_of_subset (a s c : Nat) (h : a &&& s = a) (hd : a &&& c = 0 → False) : s &&& c = 0 → False := by
  intro hs
  apply hd
  apply Nat.eq_of_testBit_eq
  intro i
  have h1 : (a &&& s).testBit i = a.testBit i := by rw [h]
  have h2 : (s &&& c).testBit i = false := by rw [hs]; simp
  rw [Nat.testBit_and] at h1 h2
  rw [Nat.testBit_and]
  cases ha : a.testBit i <;> cases hs' : s.testBit i <;> simp_all

theorem sub_of_or_sub {a b c : Nat} (h : (a ||| b) &&& c = a ||| b) : a &&& c = a := by
  apply Nat.eq_of_testBit_eq
  intro i
  have hd : ((a ||| b) &&& c).testBit i = (a ||| b).testBit i := by rw [h]
  rw [Nat.testBit_and, Nat.testBit_or] at hd
  rw [Nat.testBit_and]
  cases ha : a.testBit i <;> cases hc : c.testBit i <;> simp_all

theorem and_and_zero {a b c : Nat} (h : a &&& c = 0) : (a &&& b) &&& c = 0 := by
  rw [Nat.and_assoc, Nat.and_comm b c, ← Nat.and_assoc, h, Nat.zero_and]

theorem or_sub_or {a b c d : Nat} (h1 : a &&& c = a) (h2 : b &&& d = b) : (a ||| b) &&& (c ||| d) = a ||| b := by
  apply Nat.eq_of_testBit_eq
  intro i
  have e1 : (a &&& c).testBit i = a.testBit i := by rw [h1]
  have e2 : (b &&& d).testBit i = b.testBit i := by rw [h2]
  simp only [Nat.testBit_and, Nat.testBit_or] at *
  cases ha : a.testBit i <;> cases hb : b.testBit i <;> cases hc : c.testBit i <;> cases hd : d.testBit i <;> simp_all

theorem orAll_sub_orAll {α : Type} (f g : α → Nat) : ∀ (l : List α), (∀ r ∈ l, f r &&& g r = f r) →
    orAll (l.map f) &&& orAll (l.map g) = orAll (l.map f)
  | [], _ => by simp [orAll]
  | r :: rs, h => by
    simp only [List.map_cons, orAll]
    exact or_sub_or (h r (by simp)) (orAll_sub_orAll f g rs (fun x hx => h x (by simp [hx])))

theorem mem_sub_orAll {l : List Nat} {a : Nat} (h : a ∈ l) : a &&& orAll l = a := by
  induction l with
  | nil => cases h
  | cons x xs ih =>
    simp only [orAll]
    rcases List.mem_cons.mp h with rfl | h
    · exact subset_trans_or _ _ _ (Nat.and_self _)
    · rw [Nat.or_comm]; exact subset_trans_or _ _ _ (ih h)

end Zvbi.Rawdec
