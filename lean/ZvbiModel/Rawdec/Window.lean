import ZvbiModel.Rawdec.Model
import ZvbiModel.Generated.RawdecFlags
/-!
# The CRI search range `vbi3_raw_decoder_add_services` sets up covers the sampled window

`add_services` passes a `cri_end` to `vbi3_bit_slicer_set_params`: the sample, counted from the start of the sampled
window, at which the search for the clock run-in gives up.  `set_params` itself reduces it to
`samples_per_line - data_samples` (and, repaired, to what the payload look-ahead allows).  In the released code
`cri_end = ~0` for every service - the `TODO: WSS 625 occupies only first half of line` is not implemented.  The text of
the two assignments is read from /repo on every run (`Generated.RawdecFlags.criEndWss / criEndOther`).

`samples_per_line` describes the sampled WINDOW (it starts `sp->offset` samples after 0H and may be much shorter than a
line), so a limit like `samples_per_line / 2` is not "half of the video line": with a window that starts early and is
short the run-in ends behind it (`wss_half_window_counterexample`).
-/
namespace Zvbi.Rawdec
open Zvbi.Generated.ServiceTable Zvbi.Generated.RawdecFlags
open Zvbi.Slicer (U32 Params Cfg Fmt)

/-- value of a `cri_end` expression of `add_services` (an `unsigned int`) for a window of `spl` samples;
    an expression the translator does not know counts as 0: no position is known to be covered -/
def criEndValue : CriEnd → Nat → Nat
  | .all, _ => U32 - 1
  | .splDiv n, spl => spl / n
  | .unknown, _ => 0

/-- `if (VBI_SLICED_WSS_625 & par->id) cri_end = <wss>; else cri_end = <other>;` -/
def criEndOfRow (wss other : CriEnd) (r : Row) (spl : Nat) : Nat :=
  if slicedWss625 &&& r.id ≠ 0 then criEndValue wss spl else criEndValue other spl

/-- the arguments `add_services` hands to `vbi3_bit_slicer_set_params` for table row `r`: those of C05's `rowParams`
    with the `cri_end` of the two assignments -/
def rowParamsW (wss other : CriEnd) (r : Row) (fmt : Fmt) (rate spl : Nat) : Params :=
  { Zvbi.Slicer.rowParams r fmt rate spl with criEnd := criEndOfRow wss other r spl }

/-- no 32 bit wrap in `cri_samples + data_samples` for a row with at most one CRI bit and one payload bit per Hz -/
theorem row_no_wrap (r : Row) (fmt : Fmt) (rate spl : Nat) (hrate : rate < 2147483648)
    (h1 : r.criBits ≤ r.criRate) (h2 : r.payload + r.frcBits ≤ r.bitRate) (wss other : CriEnd) :
    Zvbi.Slicer.criSamples0 (rowParamsW wss other r fmt rate spl) + Zvbi.Slicer.dataSamples (rowParamsW wss other r fmt rate spl) < U32 := by
  unfold Zvbi.Slicer.criSamples0 Zvbi.Slicer.dataSamples Zvbi.Slicer.dataBits rowParamsW Zvbi.Slicer.rowParams
  simp only []
  have a : rate * r.criBits / r.criRate ≤ rate := by
    apply Nat.div_le_of_le_mul
    rw [Nat.mul_comm r.criRate rate]
    exact Nat.mul_le_mul_left rate h1
  have b : rate * (r.payload + r.frcBits) / r.bitRate ≤ rate := by
    apply Nat.div_le_of_le_mul
    rw [Nat.mul_comm r.bitRate rate]
    exact Nat.mul_le_mul_left rate h2
  have hU : U32 = 4294967296 := rfl
  rw [hU]
  have := Nat.mod_le (rate * r.criBits / r.criRate) 4294967296
  have := Nat.mod_le (rate * (r.payload + r.frcBits) / r.bitRate) 4294967296
  omega

/-- every row of the table sends at most one bit per Hz of its rates -/
theorem table_bits_le_rates : ∀ r ∈ serviceTable, r.criBits ≤ r.criRate ∧ r.payload + r.frcBits ≤ r.bitRate := by decide

end Zvbi.Rawdec
