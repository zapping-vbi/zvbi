import ZvbiModel.Rawdec.SvcBits
import ZvbiModel.Rawdec.Model
/-!
# Merge classes of the regenerated service table

`vbi3_raw_decoder_add_services` merges a table row into an existing job when both ids lie inside one of four groups
(Teletext B 0x3, Caption 525 0x60, Caption 625 0x18, VPS 0x1004); every other row gets a job of its own.  `classes`
lists the resulting 12 *merge classes* with their video standard, `jobIdU` every value a job id can take.  All facts
below are `decide`d over the complete generated table (`Generated/ServiceTable.lean`): if `_vbi_service_table`
changes so that a fact no longer holds, this file stops compiling.
-/
namespace Zvbi.Rawdec
open Zvbi.Generated.ServiceTable
open Zvbi.Slicer (U32)

/-- (mask of the class, videostd_set of its rows) -/
def classes : List (Nat × Nat) :=
  [(0x2000, 1), (0x3, 1), (0x4000, 1), (0x8000, 1), (0x1004, 1), (0x400, 1), (0x18, 1),
   (0x10000, 2), (0x100, 2), (0x20000, 2), (0x60, 2), (0x80, 2)]

/-- index of the (first) class a non-empty id set meets -/
def clsIdx (x : Nat) : Nat := classes.findIdx (fun c => x &&& c.1 != 0)
def clsStd (k : Nat) : Nat := (classes.getD k (0, 0)).2

/-- every id a job can carry: the ids of the usable rows and the unions inside a group -/
def jobIdU : List Nat :=
  [0x2000, 0x1, 0x3, 0x4000, 0x8000, 0x4, 0x1000, 0x1004, 0x400, 0x8, 0x10, 0x18,
   0x10000, 0x100, 0x20000, 0x20, 0x40, 0x60, 0x80]

/-- the two "raw VBI" pseudo services `add_services` masks out -/
def vbiMask : Nat := slicedVbi525 ||| slicedVbi625

/-- class indices belonging to a video standard -/
def clsOfStd (std : Nat) : List Nat := (List.range classes.length).filter (fun k => clsStd k == std)

theorem T_usable_in_U : ∀ r ∈ serviceTable, r.id &&& vbiMask = 0 → r.id ∈ jobIdU := by decide +kernel

theorem T_vbi_rows : ∀ r ∈ serviceTable, r.id &&& vbiMask ≠ 0 → r.id &&& vbiMask = r.id := by decide +kernel

theorem T_zero_notin : (0 : Nat) ∉ jobIdU := by decide

theorem T_U_lt : ∀ a ∈ jobIdU, a < U32 := by decide

theorem T_merge : ∀ a ∈ jobIdU, ∀ r ∈ serviceTable, r.id &&& vbiMask = 0 → mergeable a r.id = true →
    (a ||| r.id) ∈ jobIdU ∧ clsIdx (a ||| r.id) = clsIdx a := by decide +kernel

theorem T_nomerge : ∀ a ∈ jobIdU, ∀ r ∈ serviceTable, r.id &&& vbiMask = 0 → mergeable a r.id = false →
    clsIdx a = clsIdx r.id → a = r.id ∧ mergeable r.id r.id = false := by decide +kernel

theorem T_disjoint : ∀ a ∈ jobIdU, ∀ b ∈ jobIdU, clsIdx a ≠ clsIdx b → a &&& b = 0 := by decide +kernel

/-- a row that cannot be merged (not even with itself) is a single bit (that no other row shares it: `T_later_disjoint`) -/
theorem T_single : ∀ r ∈ serviceTable, mergeable r.id r.id = false → ∃ b ∈ List.range 32, r.id = 2 ^ b := by
  decide +kernel

theorem T_later_disjoint :
    enumTable.Pairwise (fun x y => mergeable y.2.id y.2.id = false → y.2.id &&& x.2.id = 0) := by decide +kernel

theorem T_enum_mem : ∀ x ∈ enumTable, x.2 ∈ serviceTable := by decide +kernel

theorem T_std : ∀ r ∈ serviceTable, r.id &&& vbiMask = 0 → clsStd (clsIdx r.id) = r.videostd ∧ (r.videostd = 1 ∨ r.videostd = 2) := by
  decide +kernel

/-- table rows that share a service bit belong to the same video standard and configure the same slicer -/
theorem T_share : ∀ r ∈ serviceTable, ∀ r' ∈ serviceTable, r'.id &&& r.id ≠ 0 →
    r'.videostd = r.videostd ∧ r'.criRate = r.criRate ∧ r'.bitRate = r.bitRate ∧ r'.criBits = r.criBits ∧
    r'.frcBits = r.frcBits ∧ r'.payload = r.payload ∧ (r'.id = slicedWss625 ↔ r.id = slicedWss625) := by decide +kernel

theorem T_cls_lt : ∀ a ∈ jobIdU, clsIdx a < classes.length := by decide +kernel

/-- at most 7 classes per video standard (625: Teletext A, B, C, D, VPS, WSS, Caption; 525: Teletext B, C, D, Caption,
    2xCaption) -/
theorem T_classes_per_std : ∀ std, (clsOfStd std).length ≤ 7 := by
  intro std
  have h : ∀ s, s < 3 → (clsOfStd s).length ≤ 7 := by decide +kernel
  by_cases hs : std < 3
  · exact h std hs
  · have : clsOfStd std = [] := by
      unfold clsOfStd
      rw [List.filter_eq_nil_iff]
      intro k hk
      have hk' : k < 12 := by simpa [classes] using hk
      have : ∀ k, k < 12 → clsStd k < 3 := by decide +kernel
      have := this k hk'
      simp only [beq_iff_eq]
      omega
    rw [this]; simp

end Zvbi.Rawdec
