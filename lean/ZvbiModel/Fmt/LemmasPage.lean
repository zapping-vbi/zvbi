import ZvbiModel.Fmt.LemmasCells
/-!
# Helper lemmas for C02: the double-height lower row and the row loop with its row skipping
-/
namespace Zvbi.Fmt
open L1Spec

theorem formatRow_dh (cx : RowCtx) : (formatRow cx).2 = hasDH cx := by
  simp only [formatRow, doubleHeight_inv, hasDH]

theorem rowCell_size3 (cx : RowCtx) (h : HeldRule) (c : Nat) (hc : c < 40) (h3 : (rowCell cx h c).size = 3) :
    c < 39 ∧ (rowCell cx h (c + 1)).size = 4 := by
  unfold rowCell at h3
  cases hcov : covered cx c
  · simp only [hcov, Bool.false_eq_true, if_false] at h3
    by_cases h39 : sizeAt cx c % 2 = 1 ∧ c = 39
    · obtain ⟨ho, rfl⟩ := h39
      simp [ho] at h3
    · simp only [h39, if_false, baseCell] at h3
      have hodd : sizeAt cx c % 2 = 1 := by omega
      have hc39 : c < 39 := by
        rcases Nat.lt_or_ge c 39 with h | h
        · exact h
        · exact absurd ⟨hodd, by omega⟩ h39
      refine ⟨hc39, ?_⟩
      have : covered cx (c + 1) = true := by rw [covered_succ, hcov]; simp [hodd]
      simp [rowCell, this]
  · simp [hcov] at h3

abbrev colsOf (l : List Cell) : Nat → Cell := fun j => l.getD j {}

theorem lowerCell_congr (u v : Nat → Cell) (c : Nat) (h0 : u c = v c) (h1 : u (c - 1) = v (c - 1)) :
    lowerCell u c = lowerCell v c := by
  unfold lowerCell; rw [h0, h1]

theorem lowerCell_cons (a : Cell) (l : List Cell) (i : Nat) (h : i = 0 → a.size ≠ 3) :
    lowerCell (colsOf (a :: l)) (i + 1) = lowerCell (colsOf l) i := by
  unfold lowerCell colsOf
  cases i with
  | zero => simp [h rfl]
  | succ k => simp

theorem lowerCell_zero (c : Cell) (l : List Cell) :
    lowerCell (colsOf (c :: l)) 0 =
      if c.size = 2 then { c with size := 6 } else if c.size = 3 then { c with size := 7 } else { c with size := 0, unicode := 0x20 } := by
  simp [lowerCell, colsOf]

/-- `lowerRow`, cell by cell, for a row in which the left half of a double-size character (size 3) is followed by its
    right half (size 4) -/
theorem lowerRow_getElem : ∀ (l : List Cell),
    (∀ i, i + 1 < l.length → (colsOf l i).size = 3 → (colsOf l (i + 1)).size = 4) →
    ∀ i, i < l.length → (lowerRow l)[i]? = some (lowerCell (colsOf l) i)
  | [], _, i, hi => by simp at hi
  | [c], _, i, hi => by
    obtain rfl : i = 0 := by simpa using hi
    rw [lowerCell_zero]; unfold lowerRow
    split
    · rfl
    · split <;> rfl
  | c :: d :: rest, hH, i, hi => by
    have hH1 : ∀ j, j + 1 < (d :: rest).length → (colsOf (d :: rest) j).size = 3 → (colsOf (d :: rest) (j + 1)).size = 4 :=
      fun j hj => hH (j + 1) (by simpa using hj)
    have tl := lowerRow_getElem (d :: rest) hH1
    unfold lowerRow
    by_cases h3 : c.size = 3
    · have h2 : ¬ c.size = 2 := by omega
      have hd4 : d.size = 4 := hH 0 (by simp) h3
      rw [if_neg h2, if_pos h3]
      match i, hi with
      | 0, _ => rw [lowerCell_zero, if_neg h2, if_pos h3]; rfl
      | 1, _ => simp [lowerCell, colsOf, hd4, h3]
      | k + 2, hi =>
        have hH2 : ∀ j, j + 1 < rest.length → (colsOf rest j).size = 3 → (colsOf rest (j + 1)).size = 4 :=
          fun j hj => hH (j + 2) (by simp at hj ⊢; omega)
        rw [List.getElem?_cons_succ, List.getElem?_cons_succ, lowerRow_getElem rest hH2 k (by simpa using hi),
          lowerCell_cons c _ (k + 1) (by omega), lowerCell_cons d _ k (fun _ => by omega)]
    · have e : (if c.size = 2 then ({ c with size := 6 } : Cell) :: lowerRow (d :: rest)
          else if c.size = 3 then { c with size := 7 } :: { c with size := 5 } :: lowerRow rest
          else { c with size := 0, unicode := 0x20 } :: lowerRow (d :: rest))
          = lowerCell (colsOf (c :: d :: rest)) 0 :: lowerRow (d :: rest) := by
        rw [lowerCell_zero]; split
        · rfl
        · rfl
      rw [e]
      match i, hi with
      | 0, _ => rfl
      | k + 1, hi => rw [List.getElem?_cons_succ, tl k (by simpa using hi), lowerCell_cons c _ k (fun _ => h3)]

theorem formatRow_length (cx : RowCtx) : (formatRow cx).1.length = 41 := (acp_inv cx 40 (Nat.le_refl _)).1

theorem formatRow_cells (cx : RowCtx) (c : Nat) (hc : c < 40) : (formatRow cx).1[c]? = some (rowCell cx .lib c) :=
  (acp_inv cx 40 (Nat.le_refl _)).2.2 c hc (.inl hc)

theorem lower_cells (cx : RowCtx) (c : Nat) (hc : c < 40) :
    (lowerRow (formatRow cx).1)[c]? = some (lowerCell (rowCell cx .lib) c) := by
  have hl := formatRow_length cx
  have hcol : ∀ i, i < 40 → colsOf (formatRow cx).1 i = rowCell cx .lib i := fun i hi => by
    simp [colsOf, List.getD_eq_getElem?_getD, formatRow_cells cx i hi]
  rw [lowerRow_getElem _ (fun i hi h3 => ?_) c (by omega), lowerCell_congr _ _ c (hcol c hc) (hcol (c - 1) (by omega))]
  rw [hcol i (by omega)] at h3
  obtain ⟨h39, h4⟩ := rowCell_size3 cx .lib i (by omega) h3
  rw [hcol (i + 1) (by omega)]; exact h4

/-- row `r` of the formatted page: the cells of the row loop, or the lower half of the row above -/
def pageRow (p : PageIn) (r : Nat) : List Cell :=
  if isLower p r then lowerRow (formatRow (rowCtx p (r - 1))).1 else (formatRow (rowCtx p r)).1

theorem formatFrom_getElem (p : PageIn) : ∀ (fuel row : Nat), 25 ≤ row + fuel → isLower p row = false →
    ∀ k, row + k < 25 → (formatFrom p fuel row)[k]? = some (pageRow p (row + k))
  | 0, _, h, _, _, hk => by omega
  | fuel + 1, row, hf, hlow, k, hk => by
    have hnext : isLower p (row + 1) = (formatRow (rowCtx p row)).2 := by simp [isLower, hlow, formatRow_dh]
    have h0 : pageRow p row = (formatRow (rowCtx p row)).1 := by simp [pageRow, hlow]
    unfold formatFrom
    rw [if_neg (by omega)]
    cases hdh : (formatRow (rowCtx p row)).2 with
    | true =>
      simp only [hdh, if_true]
      match k with
      | 0 => simp [h0]
      | 1 => simp [pageRow, hnext, hdh]
      | k + 2 =>
        have := formatFrom_getElem p fuel (row + 2) (by omega) (by rw [isLower, hnext, hdh]; rfl) k (by omega)
        simpa [Nat.add_assoc, Nat.add_comm 2 k] using this
    | false =>
      simp only [hdh, Bool.false_eq_true, if_false]
      match k with
      | 0 => simp [h0]
      | k + 1 =>
        have := formatFrom_getElem p fuel (row + 1) (by omega) (by rw [hnext, hdh]) k (by omega)
        simpa [Nat.add_assoc, Nat.add_comm 1 k] using this

theorem format_cellAt (p : PageIn) (r c : Nat) (hr : r < 25) (hc : c < 40) :
    cellAt (format p) r c = cell .lib p r c := by
  have := formatFrom_getElem p 25 0 (by omega) rfl r (by omega)
  rw [Nat.zero_add] at this
  simp only [cellAt, format, List.getD_eq_getElem?_getD, this, Option.getD_some, pageRow, cell, cellCx]
  split
  · rw [lower_cells _ c hc, Option.getD_some]
  · rw [formatRow_cells _ c hc, Option.getD_some]

end Zvbi.Fmt
