import ZvbiModel.Fmt.LemmasInv
/-!
# Helper lemmas for C02: the cells `acp[0..40]` written by the row loop are L1Spec's `rowCell`s
-/
namespace Zvbi.Fmt
open L1Spec

/-- the `vbi_char` the loop holds in `ac` when it reaches `acp[column] = ac` -/
def emitted (cx : RowCtx) (n : Nat) : Cell :=
  (charStep cx (setAt cx (runCols cx n) (cx.code n)) (cx.code n)).cell

theorem emitted_eq_baseCell (cx : RowCtx) (n : Nat) : emitted cx n = baseCell cx .lib n := by
  simp only [emitted, charStep_eq, RowSt.cell, baseCell, charAt, fgAt_eq, bgAt_eq, flashAt_eq, concealAt_eq, sizeAt_eq,
    opacityAt_eq, holdAt_eq, mosaicAt_eq, sepAt_eq, heldAt_lib_eq, escAt_eq]

theorem step_acp (cx : RowCtx) (n : Nat) (hn : n ≤ 39) :
    (runCols cx (n + 1)).acp =
      if covered cx n then (runCols cx n).acp
      else if covered cx (n + 1) ∧ n < 39 then
        ((runCols cx n).acp.set n (rowCell cx .lib n)).set (n + 1) (rowCell cx .lib (n + 1))
      else (runCols cx n).acp.set n (rowCell cx .lib n) := by
  have hm : (runCols cx (n + 1)).acp =
      if covered cx n then (runCols cx n).acp
      else if sizeAt cx n % 2 = 1 then
        (if n < 39 then ((runCols cx n).acp.set n (baseCell cx .lib n)).set (n + 1) { baseCell cx .lib n with size := 4 }
         else (runCols cx n).acp.set n { baseCell cx .lib n with size := 0 })
      else (runCols cx n).acp.set n (baseCell cx .lib n) := by
    rw [← emitted_eq_baseCell, ← wideChar_inv cx n hn, sizeAt_eq]
    simp only [emitted, runCols_succ, stepCol_fields, emit_eq, charStep_eq, setAt_eq, Nat.and_one_is_mod]
  rw [hm]
  cases hcov : covered cx n with
  | true => rfl
  | false =>
    have hr : rowCell cx .lib n = if sizeAt cx n % 2 = 1 ∧ n = 39 then { baseCell cx .lib n with size := 0 }
        else baseCell cx .lib n := by simp only [rowCell, hcov, Bool.false_eq_true, if_false]
    rw [covered_succ, hcov, hr]
    by_cases hs : sizeAt cx n % 2 = 1
    · by_cases h39 : n < 39
      · have hr1 : rowCell cx .lib (n + 1) = { baseCell cx .lib n with size := 4 } := by
          simp only [rowCell, covered_succ, hcov, hs, Bool.not_false, decide_true, Bool.and_self, if_true, Nat.add_sub_cancel]
        have : ¬ n = 39 := by omega
        simp only [hr1, hs, h39, this, Bool.false_eq_true, if_false, if_true, Bool.not_false, decide_true, Bool.and_self,
          and_self, and_false]
      · obtain rfl : n = 39 := by omega
        simp only [hs, Nat.lt_irrefl, if_false, if_true, and_false, and_self]
    · simp only [hs, Bool.false_eq_true, if_false, false_and, Bool.not_false, decide_false, Bool.and_false]

/-- the cells after `n` columns: those left of column `n` are final, and so is cell `n` where it is the right half of the
    character before; the artificial 41st cell keeps the row-start attributes -/
theorem acp_inv (cx : RowCtx) : ∀ n, n ≤ 40 →
    (runCols cx n).acp.length = 41 ∧ (runCols cx n).acp[40]? = some (initRow cx).cell ∧
      ∀ j, j < 40 → j < n ∨ j = n ∧ covered cx n = true → (runCols cx n).acp[j]? = some (rowCell cx .lib j)
  | 0, _ => ⟨by simp [runCols, initRow], by simp [runCols, initRow, RowSt.cell],
      fun j _ hc => by simp [covered_zero] at hc⟩
  | n + 1, hn => by
    obtain ⟨hl, h40, ih⟩ := acp_inv cx n (by omega)
    rw [step_acp cx n (by omega)]
    cases hcov : covered cx n with
    | true =>
      have hcs : covered cx (n + 1) = false := by rw [covered_succ, hcov]; rfl
      simp only [if_true, hcs, Bool.false_eq_true, and_false, or_false]
      exact ⟨hl, h40, fun j hj hc => ih j hj (by rcases Nat.lt_or_ge j n with h | h; exact .inl h; exact .inr ⟨by omega, hcov⟩)⟩
    | false =>
      simp only [Bool.false_eq_true, if_false]
      have h1 : ∀ j, j < 40 → j < n + 1 →
          ((runCols cx n).acp.set n (rowCell cx .lib n))[j]? = some (rowCell cx .lib j) := fun j hj hc => by
        rcases Nat.lt_or_ge j n with h | h
        · rw [List.getElem?_set_ne (by omega), ih j hj (.inl h)]
        · obtain rfl : j = n := by omega
          rw [List.getElem?_set_self (by omega)]
      split
      · rename_i h
        refine ⟨by simpa using hl, ?_, fun j hj hc => ?_⟩
        · rw [List.getElem?_set_ne (by omega), List.getElem?_set_ne (by omega), h40]
        · rcases Nat.lt_or_ge j (n + 1) with hj1 | hj1
          · rw [List.getElem?_set_ne (by omega), h1 j hj hj1]
          · obtain rfl : j = n + 1 := by omega
            rw [List.getElem?_set_self (by simp; omega)]
      · rename_i h
        refine ⟨by simpa using hl, ?_, fun j hj hc => h1 j hj ?_⟩
        · rw [List.getElem?_set_ne (by omega), h40]
        · rcases hc with hc | ⟨rfl, hc⟩
          · exact hc
          · exact absurd ⟨hc, by omega⟩ h

end Zvbi.Fmt
