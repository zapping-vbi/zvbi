import ZvbiModel.Fmt.LemmasHdr
import ZvbiModel.Fmt.Ext
/-!
# Helper lemmas for C02: the ESC (0x1B) "G0 switch" spacing attribute

teletext.c `vbi_format_vt_page` keeps `esc` / `font` per row (`font = pg->font[0]; esc = 0;` at the start of every
row, `font = pg->font[esc ^= 1]` in the set-after switch).  `escCount` counts the ESC codes of one row before a
column; a *plain* cell (not lower half, not covered, printable code not shown as a mosaic) displays its code through
the first / second G0 set according to the parity of that count.
-/
namespace Zvbi.Fmt
open L1Spec

/-- number of ESC (0x1B) codes in columns `0 .. c-1` of a row whose codes are `code` -/
def escCount (code : Nat → Nat) (c : Nat) : Nat := ((List.range c).filter (fun j => code j = 0x1B)).length

/-- the same count restricted to columns `lo .. c-1` -/
def escCountFrom (lo : Nat) (code : Nat → Nat) (c : Nat) : Nat :=
  ((List.range c).filter (fun j => decide (lo ≤ j) && decide (code j = 0x1B))).length

/-- a cell that shows its own byte as a character of a G0 set: the row is not the lower half of a double-height row,
    the cell is not the right half of a double-width character, the code is printable and either the row is in
    alphanumerics mode at that column or the code has bit 0x20 clear (0x40..0x5F: "blast-through" capitals) -/
structure PlainCell (p : PageIn) (row col : Nat) : Prop where
  upper : isLower p row = false
  uncovered : covered (rowCtx p row) col = false
  printable : 0x20 ≤ codeAt p row col
  alpha : mosaicAt (rowCtx p row) col = false ∨ codeAt p row col &&& 0x20 = 0

theorem hdr_no_esc (p : PageIn) (h1 : 0x100 ≤ p.pgno) (h2 : p.pgno < 0x1000) (j : Nat) (hj : j < 8) :
    codeAt p 0 j ≠ 0x1B := by
  have := hdrCode_cases p j hj h1 h2
  show (rowCtx p 0).code j ≠ 0x1B
  omega

theorem escCount_hdr (p : PageIn) (h1 : 0x100 ≤ p.pgno) (h2 : p.pgno < 0x1000) (c : Nat) :
    escCount (codeAt p 0) c = escCountFrom 8 (codeAt p 0) c := by
  unfold escCount escCountFrom
  congr 1
  apply List.filter_congr
  intro j _
  by_cases hj : 8 ≤ j
  · simp [hj]
  · have := hdr_no_esc p h1 h2 j (by omega)
    simp [hj, this]

theorem escCount_congr (f g : Nat → Nat) (c : Nat) (h : ∀ j, j < c → f j = g j) : escCount f c = escCount g c := by
  unfold escCount
  congr 1
  apply List.filter_congr
  intro j hj
  rw [h j (List.mem_range.mp hj)]

theorem escCount_zero_of_none (f : Nat → Nat) (c : Nat) (h : ∀ j, j < c → f j ≠ 0x1B) : escCount f c = 0 := by
  unfold escCount
  rw [List.length_eq_zero_iff, List.filter_eq_nil_iff]
  intro j hj
  simp [h j (List.mem_range.mp hj)]

/-- `character_set_designation`, one loop iteration, read as three cases -/
theorem charsetDesignation_cases (code national : Nat) :
    charsetDesignation code national =
      if validCharset (code / 8 * 8 + national) then code / 8 * 8 + national
      else if validCharset code then code else 0 := by
  unfold charsetDesignation
  simp only

/-- the page of seeded/C02-h/demo.c: national option 6 under default region 16, rows 1 and 2 both
    `$ @ ESC $ @` (odd parity bytes 0xA4 0x40 0x9B 0xA4 0x40), everything else blank -/
def escWitness : PageIn :=
  { pgno := 0x150, subno := 0, flags := 0, national := 6, charset0 := 16, charset1 := 0,
    raw := fun i =>
      if i = 40 ∨ i = 80 then 0xA4 else if i = 41 ∨ i = 81 then 0x40 else if i = 42 ∨ i = 82 then 0x9B
      else if i = 43 ∨ i = 83 then 0xA4 else if i = 44 ∨ i = 84 then 0x40 else 0x20 }

end Zvbi.Fmt
