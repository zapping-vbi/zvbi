import ZvbiModel.Fmt.LemmasPage
/-!
# Helper lemmas for C02: the page-number cells of the header row (row 0, columns 0..7)

`vbi_format_vt_page` overwrites the first eight bytes of row 0 by `"\2%x.%02x\7"` (alpha green, page number in
hex, '.', low byte of the sub-code in hex, alpha white).  `QuietSt`: the attribute variables of the row loop are at
their row-start values except the foreground colour; kept by alpha colour codes 0..7 and by all codes >= 0x20.
-/
namespace Zvbi.Fmt
open L1Spec

structure QuietSt (cx : RowCtx) (s : RowSt) (fg : Nat) : Prop where
  fg : s.fg = fg
  bg : s.bg = cx.bgClut + 0
  flash : s.flash = false
  conceal : s.conceal = false
  size : s.size = 0
  opacity : s.opacity = cx.pageOp
  esc : s.esc = false
  hold : s.hold = false
  mosaic : s.mosaic = false
  wide : s.wideChar = false

theorem quiet_init (cx : RowCtx) : QuietSt cx (initRow cx) (cx.fgClut + 7) :=
  ⟨rfl, rfl, rfl, rfl, rfl, rfl, rfl, rfl, rfl, rfl⟩

theorem stepCol_quiet (cx : RowCtx) (s : RowSt) (col fg : Nat) (h : QuietSt cx s fg)
    (hk : cx.code col ≤ 7 ∨ 0x20 ≤ cx.code col) :
    QuietSt cx (stepCol cx s col) (if cx.code col ≤ 7 then cx.fgClut + (cx.code col &&& 7) else fg) := by
  obtain ⟨h1, h2, h3, h4, h5, h6, h7, h8, h9, h10⟩ := h
  have hw : (!s.wideChar && decide (s.size &&& 1 = 1) && decide (col < 39)) = false := by simp [h5]
  simp only [stepCol, setAt_plain cx s _ hk, setAfter_plain cx _ _ col hk, emit_eq, charStep_eq]
  by_cases hc : cx.code col ≤ 7 <;> simp only [hc, if_true, if_false]
  · exact ⟨rfl, h2, h3, rfl, h5, h6, h7, h8, rfl, hw⟩
  · exact ⟨h1, h2, h3, h4, h5, h6, h7, h8, h9, hw⟩

theorem rowCell_quiet (cx : RowCtx) (c fg : Nat) (hc : c < 40) (h : QuietSt cx (runCols cx c) fg)
    (hk : cx.code c ≤ 7 ∨ 0x20 ≤ cx.code c) :
    rowCell cx .lib c =
      { unicode := if cx.code c ≤ 7 then 0x20 else teletextUnicode cx.font0.g0 cx.font0.subset (cx.code c),
        fg := fg, bg := cx.bgClut + 0, flash := false, conceal := false, size := 0, opacity := cx.pageOp } := by
  obtain ⟨h1, h2, h3, h4, h5, h6, h7, h8, h9, h10⟩ := h
  have hcov : covered cx c = false := by rw [← wideChar_inv cx c (by omega)]; exact h10
  have hsz : sizeAt cx c = 0 := by rw [sizeAt_eq, setAt_plain cx _ _ hk, h5]
  simp only [rowCell, hcov, hsz, Bool.false_eq_true, if_false, Nat.zero_mod, Nat.zero_ne_one, false_and]
  rw [← emitted_eq_baseCell, emitted, setAt_plain cx _ _ hk, charStep_eq]
  simp only [RowSt.cell, h1, h2, h3, h4, h5, h6, h7, h8, h9, Bool.false_and, Bool.false_eq_true, if_false]
  by_cases hc7 : cx.code c ≤ 7
  · have : cx.code c ≤ 0x1F := by omega
    simp [hc7, this]
  · have : ¬ cx.code c ≤ 0x1F := by omega
    simp [hc7, this]

/-- `"\2%x.%02x\7"` for a three-digit page number -/
def hdrCodes (pgno subno : Nat) : List Nat :=
  [0x02, hexDigit (pgno / 256), hexDigit (pgno / 16 % 16), hexDigit (pgno % 16), 0x2E,
   hexDigit ((subno &&& 0xff) / 16), hexDigit ((subno &&& 0xff) % 16), 0x07]

theorem hdrBuf_eq (pgno subno : Nat) (h1 : 0x100 ≤ pgno) (h2 : pgno < 0x1000) :
    hdrBuf pgno subno = hdrCodes pgno subno ++ [0] := by
  have a : ¬ pgno < 16 := by omega
  have b : ¬ pgno / 16 < 16 := by omega
  have c : pgno / 256 < 16 := by omega
  simp [hdrBuf, hdrCodes, hexDigits, a, b, c, Nat.div_div_eq_div_mul]

theorem codeAt_hdr (p : PageIn) (c : Nat) (hc : c < 8) (h1 : 0x100 ≤ p.pgno) (h2 : p.pgno < 0x1000) :
    (rowCtx p 0).code c = (hdrCodes p.pgno p.subno).getD c 0 := by
  show codeAt p 0 c = _
  unfold codeAt
  rw [if_pos ⟨rfl, hc⟩, hdrBuf_eq _ _ h1 h2]
  have hl : (hdrCodes p.pgno p.subno).length = 8 := rfl
  rw [List.getD_eq_getElem?_getD, List.getD_eq_getElem?_getD, List.getElem?_append_left (by omega)]

theorem hdrCode_cases (p : PageIn) (c : Nat) (hc : c < 8) (h1 : 0x100 ≤ p.pgno) (h2 : p.pgno < 0x1000) :
    c = 0 ∧ (rowCtx p 0).code c = 2 ∨ c = 7 ∧ (rowCtx p 0).code c = 7 ∨
      0 < c ∧ c < 7 ∧ 0x20 ≤ (rowCtx p 0).code c ∧ (rowCtx p 0).code c < 0x80 := by
  rw [codeAt_hdr p c hc h1 h2]
  have hx : ∀ d, d < 16 → 0x20 ≤ hexDigit d ∧ hexDigit d < 0x80 := fun d hd => by unfold hexDigit; split <;> omega
  have hs : p.subno &&& 0xff ≤ 0xff := Nat.and_le_right
  have : c = 0 ∨ c = 1 ∨ c = 2 ∨ c = 3 ∨ c = 4 ∨ c = 5 ∨ c = 6 ∨ c = 7 := by omega
  rcases this with rfl | rfl | rfl | rfl | rfl | rfl | rfl | rfl
  · simp [hdrCodes]
  · simpa [hdrCodes] using hx (p.pgno / 256) (by omega)
  · simpa [hdrCodes] using hx (p.pgno / 16 % 16) (by omega)
  · simpa [hdrCodes] using hx (p.pgno % 16) (by omega)
  · simp [hdrCodes]
  · simpa [hdrCodes] using hx ((p.subno &&& 0xff) / 16) (by omega)
  · simpa [hdrCodes] using hx ((p.subno &&& 0xff) % 16) (by omega)
  · simp [hdrCodes]

/-- the state of the row loop before column `c <= 8` of row 0: quiet, foreground white before column 0 and after
    column 7, green in between -/
theorem hdr_quiet (p : PageIn) (h1 : 0x100 ≤ p.pgno) (h2 : p.pgno < 0x1000) : ∀ c, c ≤ 8 →
    QuietSt (rowCtx p 0) (runCols (rowCtx p 0) c) (if c = 0 ∨ c = 8 then p.fgClut + 7 else p.fgClut + 2)
  | 0, _ => quiet_init _
  | c + 1, hc => by
    have hk := hdrCode_cases p c (by omega) h1 h2
    have := stepCol_quiet _ _ c _ (hdr_quiet p h1 h2 c (by omega)) (by omega)
    rw [← runCols_succ] at this
    rcases hk with ⟨rfl, h⟩ | ⟨rfl, h⟩ | ⟨h0, h7, h, _⟩
    · simp [h] at this; exact this
    · simp [h] at this; exact this
    · have e1 : ¬ (rowCtx p 0).code c ≤ 7 := by omega
      have e2 : ¬ (c = 0 ∨ c = 8) := by omega
      have e3 : ¬ (c + 1 = 0 ∨ c + 1 = 8) := by omega
      rw [if_neg e1, if_neg e2] at this
      rw [if_neg e3]; exact this

end Zvbi.Fmt
