import ZvbiModel.Fmt.Spec
/-!
# Helper lemmas for C02: `lastIdx`, the set-at / set-after recurrences of `attrAt` / `attrBefore`
-/
namespace Zvbi.Fmt.L1Spec
open Zvbi.Fmt

theorem lastIdx_congr {p q : Nat → Bool} : ∀ {n}, (∀ j, j < n → p j = q j) → lastIdx p n = lastIdx q n
  | 0, _ => rfl
  | n + 1, h => by
    unfold lastIdx
    rw [h n (Nat.lt_succ_self n), lastIdx_congr (fun j hj => h j (Nat.lt_succ_of_lt hj))]

theorem lastIdx_spec (p : Nat → Bool) : ∀ n,
    match lastIdx p n with
    | some j => j < n ∧ p j = true ∧ ∀ k, j < k → k < n → p k = false
    | none => ∀ k, k < n → p k = false
  | 0 => fun _ h => absurd h (Nat.not_lt_zero _)
  | n + 1 => by
    unfold lastIdx
    cases hp : p n with
    | true => exact ⟨Nat.lt_succ_self n, hp, fun k h1 h2 => by omega⟩
    | false =>
      have ih := lastIdx_spec p n
      simp only [Bool.false_eq_true, if_false]
      have hk : ∀ k, k < n + 1 → ¬ k < n → p k = false := fun k h1 h2 => by
        obtain rfl : k = n := by omega
        exact hp
      split <;> rename_i heq <;> rw [heq] at ih
      · exact ⟨by omega, ih.2.1, fun k h1 h2 => if h : k < n then ih.2.2 k h1 h else hk k h2 h⟩
      · exact fun k h1 => if h : k < n then ih k h else hk k h1 h

theorem lastIdx_eq_some_iff {p : Nat → Bool} : ∀ {n j},
    lastIdx p n = some j ↔ (j < n ∧ p j = true ∧ ∀ k, j < k → k < n → p k = false) := by
  intro n j
  have := lastIdx_spec p n
  constructor
  · intro h; rw [h] at this; exact this
  · intro ⟨h1, h2, h3⟩
    split at this <;> rename_i heq
    · rename_i i
      rw [heq]
      rcases Nat.lt_trichotomy i j with h | h | h
      · rw [this.2.2 j h h1] at h2; cases h2
      · rw [h]
      · rw [h3 i h this.1] at this; cases this.2.1
    · rw [this j h1] at h2; cases h2

theorem lastIdx_lt {p : Nat → Bool} {n j : Nat} (h : lastIdx p n = some j) : j < n := (lastIdx_eq_some_iff.mp h).1

theorem lastIdx_eq_none_iff {p : Nat → Bool} : ∀ {n}, lastIdx p n = none ↔ ∀ k, k < n → p k = false := by
  intro n
  have := lastIdx_spec p n
  constructor
  · intro h; rw [h] at this; exact this
  · intro h
    split at this <;> rename_i heq
    · rw [h _ this.1] at this; cases this.2.1
    · exact heq

section Rec
variable {α : Type} (wAt wAfter : Nat → Option α) (d : α)

theorem attrBefore_zero : attrBefore wAt wAfter d 0 = d := rfl

theorem attrAt_eq (c : Nat) :
    attrAt wAt wAfter d c = (wAt c).getD (attrBefore wAt wAfter d c) := by
  unfold attrAt attrBefore
  rw [lastIdx]
  have hc : ((wAt c).isSome || (decide (c < c) && (wAfter c).isSome)) = (wAt c).isSome := by
    simp
  rw [hc]
  cases hw : wAt c with
  | some v => simp [pick, hw]
  | none =>
    simp only [Option.isSome_none, Bool.false_eq_true, if_false, Option.getD_none]
    have : lastIdx (fun j => (wAt j).isSome || (decide (j < c) && (wAfter j).isSome)) c
        = lastIdx (fun j => (wAt j).isSome || (wAfter j).isSome) c :=
      lastIdx_congr (fun j hj => by simp [hj])
    rw [this]
    cases hl : lastIdx (fun j => (wAt j).isSome || (wAfter j).isSome) c with
    | none => rfl
    | some j => simp [lastIdx_lt hl]

theorem attrBefore_succ (c : Nat) :
    attrBefore wAt wAfter d (c + 1) = (wAfter c).getD (attrAt wAt wAfter d c) := by
  rw [attrAt_eq]
  unfold attrBefore
  rw [lastIdx]
  cases h1 : wAfter c with
  | some v => simp [pick, h1]
  | none =>
    cases h2 : wAt c with
    | some v => simp [pick, h1, h2]
    | none => simp

theorem attrBefore_step (c : Nat) :
    attrBefore wAt wAfter d (c + 1) = (wAfter c).getD ((wAt c).getD (attrBefore wAt wAfter d c)) := by
  rw [attrBefore_succ, attrAt_eq]

end Rec

theorem attrBefore_congr {α : Type} (wAt wAfter wAt' wAfter' : Nat → Option α) (d : α) : ∀ n,
    (∀ c, c < n → (wAfter' c).getD ((wAt' c).getD (attrBefore wAt wAfter d c))
      = (wAfter c).getD ((wAt c).getD (attrBefore wAt wAfter d c))) →
    attrBefore wAt' wAfter' d n = attrBefore wAt wAfter d n
  | 0, _ => rfl
  | n + 1, h => by
    rw [attrBefore_step, attrBefore_step, attrBefore_congr wAt wAfter wAt' wAfter' d n (fun c hc => h c (by omega)),
      h n (by omega)]

end Zvbi.Fmt.L1Spec
