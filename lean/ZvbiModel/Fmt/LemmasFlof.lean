import ZvbiModel.Fmt.Spec
import ZvbiModel.Hamm.Lemmas
/-!
# Helper lemmas for C02: the FLOF link of packet X/27/0 (EN 300 706 9.6.1) is decoded as sent
-/
namespace Zvbi.Fmt
open Zvbi.Hamm

/-- sender side of one X/27 link: page units and tens, S1, S2 + M1, S3, S4 + M2 + M3, each Hamming 8/4;
    `mrel` = M3 M2 M1 is the magazine of the target relative (XOR) to the packet's magazine -/
def encLink (pu pt s1 s2 s3 s4 mrel : Nat) : List Nat :=
  [ham8 pu, ham8 pt, ham8 s1, ham8 (s2 ||| ((mrel &&& 1) <<< 3)), ham8 s3,
   ham8 (s4 ||| (((mrel >>> 1) &&& 1) <<< 2) ||| (((mrel >>> 2) &&& 1) <<< 3))]

theorem and_bytes (a b c d : Nat) (hb : b < 256) (hd : d < 256) :
    (a * 256 + b) &&& (c * 256 + d) = (a &&& c) * 256 + (b &&& d) := by
  have h : (b &&& d) < 2 ^ 8 := Nat.lt_of_le_of_lt Nat.and_le_left hb
  apply Nat.eq_of_testBit_eq
  intro j
  rw [Nat.testBit_and, Nat.mul_comm a, Nat.mul_comm c, Nat.mul_comm (a &&& c),
    Nat.testBit_two_pow_mul_add (i := 8) a hb, Nat.testBit_two_pow_mul_add (i := 8) c hd,
    Nat.testBit_two_pow_mul_add (i := 8) _ h]
  split <;> simp [Nat.testBit_and]

theorem nib3_spec : ∀ s2 < 8, ∀ m < 8,
    let n := s2 ||| ((m &&& 1) <<< 3)
    n < 16 ∧ n >>> 3 = m &&& 1 ∧ n &&& 7 = s2 := by decide
theorem nib5_spec : ∀ s4 < 4, ∀ m < 8,
    let n := s4 ||| (((m >>> 1) &&& 1) <<< 2) ||| (((m >>> 2) &&& 1) <<< 3)
    n < 16 ∧ ((n >>> 1) &&& 6) + (m &&& 1) = m ∧ n &&& 3 = s4 := by decide
/-- the masks and shifts of `unham_page_link` on a byte made of two nibbles -/
theorem byte_fields : ∀ lo < 16, ∀ n < 16,
    let b := lo ||| (n <<< 4)
    b < 256 ∧ b >>> 7 = n >>> 3 ∧ b &&& 0x7f = lo + 16 * (n &&& 7)
      ∧ (b >>> 5) &&& 6 = (n >>> 1) &&& 6 ∧ b &&& 0x3f = lo + 16 * (n &&& 3) := by decide

/-- byte 2 (S1, S2, M1) and byte 3 (S3, S4, M2, M3): the decoder's bit picking returns the fields -/
theorem link_bits : ∀ s1 < 16, ∀ s2 < 8, ∀ s3 < 16, ∀ s4 < 4, ∀ m < 8,
    let b2 := s1 ||| ((s2 ||| ((m &&& 1) <<< 3)) <<< 4)
    let b3 := s3 ||| ((s4 ||| (((m >>> 1) &&& 1) <<< 2) ||| (((m >>> 2) &&& 1) <<< 3)) <<< 4)
    ((b3 >>> 5) &&& 6) + (b2 >>> 7) = m ∧ (b3 * 256 + b2) &&& 0x3f7f = s1 + 16 * s2 + 256 * s3 + 4096 * s4 := by
  intro s1 h1 s2 h2 s3 h3 s4 h4 m hm
  obtain ⟨l3, m1, f2⟩ := nib3_spec s2 h2 m hm
  obtain ⟨l5, m23, f4⟩ := nib5_spec s4 h4 m hm
  obtain ⟨hlt, e7, e2, -, -⟩ := byte_fields s1 h1 _ l3
  obtain ⟨-, -, -, e5, e3⟩ := byte_fields s3 h3 _ l5
  refine ⟨by rw [e7, e5, m1]; exact m23, ?_⟩
  rw [and_bytes _ _ 0x3f 0x7f hlt (by decide), e2, e3, f2, f4]
  omega

end Zvbi.Fmt
