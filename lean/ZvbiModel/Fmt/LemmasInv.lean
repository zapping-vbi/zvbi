import ZvbiModel.Fmt.LemmasRow
/-!
# Helper lemmas for C02: every attribute variable of the row loop, at each column, equals the
# declarative "last relevant code" value of L1Spec (induction over the columns)
-/
namespace Zvbi.Fmt
open L1Spec

theorem decide_eq_not_decide {P Q : Prop} [Decidable P] [Decidable Q] (h : P ↔ ¬Q) :
    decide P = !decide Q := by
  by_cases hq : Q <;> simp [hq, h]

theorem runCols_succ (cx : RowCtx) (n : Nat) : runCols cx (n + 1) = stepCol cx (runCols cx n) n := by
  simp [runCols, List.range_succ, List.foldl_append]

/-- A loop variable `f` that the set-at switch of column `n` takes through `wAt n` and the rest of the step through
    `wAfter n` is L1Spec's last-relevant-writer value: `attrAt` after the set-at switch of each column (`attrBefore` before
    it, which is the induction) -/
theorem attr_inv {α : Type} (cx : RowCtx) (f : RowSt → α) (wAt wAfter : Nat → Option α) (d : α) (h0 : f (initRow cx) = d)
    (hAt : ∀ n, f (setAt cx (runCols cx n) (cx.code n)) = (wAt n).getD (f (runCols cx n)))
    (hAfter : ∀ n, f (stepCol cx (runCols cx n) n) = (wAfter n).getD (f (setAt cx (runCols cx n) (cx.code n)))) (n : Nat) :
    attrAt wAt wAfter d n = f (setAt cx (runCols cx n) (cx.code n)) := by
  have hb : ∀ n, f (runCols cx n) = attrBefore wAt wAfter d n := by
    intro n
    induction n with
    | zero => exact h0
    | succ n ih => rw [runCols_succ, hAfter, hAt, ih, attrBefore_step]
  rw [hAt, hb, attrAt_eq]

-- `(.. :)` where a writer is `noneW`: the expected right side reduces to `f _`, which would misguide `congrArg`
theorem fgAt_eq (cx : RowCtx) (n : Nat) : fgAt cx n = (setAt cx (runCols cx n) (cx.code n)).fg :=
  attr_inv cx RowSt.fg noneW (fgW cx) _ rfl (fun n => (congrArg RowSt.fg (setAt_eq cx _ n) :))
    (fun n => congrArg RowSt.fg (stepCol_fields cx _ n)) n

theorem mosaicAt_eq (cx : RowCtx) (n : Nat) : mosaicAt cx n = (setAt cx (runCols cx n) (cx.code n)).mosaic :=
  attr_inv cx RowSt.mosaic noneW (mosaicW cx) _ rfl (fun n => (congrArg RowSt.mosaic (setAt_eq cx _ n) :))
    (fun n => congrArg RowSt.mosaic (stepCol_fields cx _ n)) n

theorem opacityAt_eq (cx : RowCtx) (n : Nat) : opacityAt cx n = (setAt cx (runCols cx n) (cx.code n)).opacity :=
  attr_inv cx RowSt.opacity noneW (opacityW cx) _ rfl (fun n => (congrArg RowSt.opacity (setAt_eq cx _ n) :))
    (fun n => congrArg RowSt.opacity (stepCol_fields cx _ n)) n

theorem sepAt_eq (cx : RowCtx) (n : Nat) : sepAt cx n = (setAt cx (runCols cx n) (cx.code n)).mosaicUnicodes :=
  attr_inv cx RowSt.mosaicUnicodes (sepW cx) noneW _ rfl (fun n => congrArg RowSt.mosaicUnicodes (setAt_eq cx _ n))
    (fun n => (congrArg RowSt.mosaicUnicodes (stepCol_fields cx _ n) :)) n

theorem sizeAt_eq (cx : RowCtx) (n : Nat) : sizeAt cx n = (setAt cx (runCols cx n) (cx.code n)).size :=
  attr_inv cx RowSt.size (sizeWAt cx) (sizeWAfter cx) _ rfl (fun n => congrArg RowSt.size (setAt_eq cx _ n))
    (fun n => congrArg RowSt.size (stepCol_fields cx _ n)) n

theorem flashAt_eq (cx : RowCtx) (n : Nat) : flashAt cx n = (setAt cx (runCols cx n) (cx.code n)).flash :=
  attr_inv cx RowSt.flash (flashWAt cx) (flashWAfter cx) _ rfl (fun n => congrArg RowSt.flash (setAt_eq cx _ n))
    (fun n => congrArg RowSt.flash (stepCol_fields cx _ n)) n

theorem concealAt_eq (cx : RowCtx) (n : Nat) : concealAt cx n = (setAt cx (runCols cx n) (cx.code n)).conceal :=
  attr_inv cx RowSt.conceal (concealWAt cx) (concealWAfter cx) _ rfl (fun n => congrArg RowSt.conceal (setAt_eq cx _ n))
    (fun n => congrArg RowSt.conceal (stepCol_fields cx _ n)) n

theorem holdAt_eq (cx : RowCtx) (n : Nat) : holdAt cx n = (setAt cx (runCols cx n) (cx.code n)).hold :=
  attr_inv cx RowSt.hold (holdWAt cx) (holdWAfter cx) _ rfl (fun n => congrArg RowSt.hold (setAt_eq cx _ n))
    (fun n => congrArg RowSt.hold (stepCol_fields cx _ n)) n

/-- the background writer reads the foreground in force at its column -/
theorem bgAt_eq (cx : RowCtx) (n : Nat) : bgAt cx n = (setAt cx (runCols cx n) (cx.code n)).bg :=
  attr_inv cx RowSt.bg (bgW cx) noneW _ rfl (fun n => by
      rw [bgW, fgAt_eq, setAt_eq]
      by_cases h1 : cx.code n = 0x1C
      · simp only [h1, if_true]; rfl
      · by_cases h2 : cx.code n = 0x1D <;> simp only [h1, h2, if_true, if_false] <;> rfl)
    (fun n => (congrArg RowSt.bg (stepCol_fields cx _ n) :)) n

theorem escAt_eq (cx : RowCtx) (n : Nat) : escAt cx n = (setAt cx (runCols cx n) (cx.code n)).esc := by
  rw [setAt_eq]
  show escAt cx n = (runCols cx n).esc
  induction n with
  | zero => rfl
  | succ n ih =>
    simp only [runCols_succ, stepCol_fields, setAt_eq, ← ih]
    unfold escAt
    rw [List.range_succ, List.filter_append, List.length_append]
    by_cases h : cx.code n = 0x1B
    · simp [h]
      apply decide_eq_not_decide; omega
    · simp [h]

/-- libzvbi's held mosaic: captured from a mosaic character shown in mosaics mode, never reset within the row -/
theorem heldAt_lib_eq (cx : RowCtx) (n : Nat) : heldAt cx .lib n = (setAt cx (runCols cx n) (cx.code n)).held :=
  attr_inv cx RowSt.held noneW (heldCapture cx) _ rfl (fun n => (congrArg RowSt.held (setAt_eq cx _ n) :))
    (fun n => by
      simp only [stepCol_fields, emit_eq, charStep_eq, heldCapture, mosaicAt_eq, sepAt_eq]
      by_cases h1 : cx.code n ≤ 0x1F
      · have : ¬ 0x20 ≤ cx.code n := by omega
        simp [h1, this]
      · have : 0x20 ≤ cx.code n := by omega
        by_cases h2 : ((setAt cx (runCols cx n) (cx.code n)).mosaic && (cx.code n &&& 0x20 != 0)) = true <;> simp [h1, this, h2]) n

theorem doubleHeight_inv (cx : RowCtx) (n : Nat) :
    (runCols cx n).doubleHeight =
      (List.range n).any (fun j => (cx.code j = 0x0D && rowOK cx) || (cx.code j = 0x0F && decide (j < 39) && rowOK cx)) := by
  induction n with
  | zero => rfl
  | succ n ih =>
    simp only [runCols_succ, stepCol_fields, setAt_eq, List.range_succ, List.any_append, ← ih, List.any_cons, List.any_nil,
      Bool.or_false, Bool.or_assoc]

theorem covered_zero (cx : RowCtx) : covered cx 0 = false := by simp [covered, lastIdx]

theorem covered_succ (cx : RowCtx) (n : Nat) :
    covered cx (n + 1) = (!covered cx n && decide (sizeAt cx n % 2 = 1)) := by
  unfold covered
  rw [lastIdx]
  by_cases h : sizeAt cx n % 2 = 0
  · simp [h]
  · have h1 : sizeAt cx n % 2 = 1 := by omega
    simp only [h1, decide_true, Bool.and_true]
    cases hl : lastIdx (fun j => decide (sizeAt cx j % 2 = 0)) n with
    | none => simp; apply decide_eq_not_decide; omega
    | some e =>
      have := lastIdx_lt hl
      simp; apply decide_eq_not_decide; omega

theorem wideChar_inv (cx : RowCtx) (n : Nat) (hn : n ≤ 39) : (runCols cx n).wideChar = covered cx n := by
  induction n with
  | zero => simp [covered_zero, runCols, initRow]
  | succ n ih =>
    have : n < 39 := by omega
    simp only [runCols_succ, covered_succ, ← ih (by omega), sizeAt_eq, stepCol_fields, emit_eq, charStep_eq, setAt_eq,
      Nat.and_one_is_mod, this, decide_true, Bool.and_true]

end Zvbi.Fmt
