import ZvbiModel.Fmt.LemmasPage
/-!
# Helper lemmas for C02: L1Spec with the standard's held-mosaic reset rule vs. libzvbi's reading.
The two can differ only in the character of a cell, and only by the standard showing the blank mosaic
(U+EE20) where libzvbi shows a held mosaic captured before a mode/size change.
-/
namespace Zvbi.Fmt
open L1Spec

/-- `a` (libzvbi's reading) and `b` (standard) agree except possibly: `b` shows the blank held mosaic -/
def HeldRel (a b : Cell) : Prop :=
  a.fg = b.fg ∧ a.bg = b.bg ∧ a.flash = b.flash ∧ a.conceal = b.conceal ∧ a.size = b.size ∧
  a.opacity = b.opacity ∧ (a.unicode = b.unicode ∨ b.unicode = 0xEE20)

theorem HeldRel.refl (a : Cell) : HeldRel a a := ⟨rfl, rfl, rfl, rfl, rfl, rfl, Or.inl rfl⟩

theorem HeldRel.size {a b : Cell} (h : HeldRel a b) (s : Nat) : HeldRel { a with size := s } { b with size := s } :=
  ⟨h.1, h.2.1, h.2.2.1, h.2.2.2.1, rfl, h.2.2.2.2.2⟩

theorem HeldRel.blank {a b : Cell} (h : HeldRel a b) :
    HeldRel { a with size := 0, unicode := 0x20 } { b with size := 0, unicode := 0x20 } :=
  ⟨h.1, h.2.1, h.2.2.1, h.2.2.2.1, rfl, h.2.2.2.2.2.1, .inl rfl⟩

theorem heldBefore_rel (cx : RowCtx) (c : Nat) :
    attrBefore (heldWAt cx .lib) (heldWAfter cx .lib) 0xEE20 c = attrBefore (heldWAt cx .std) (heldWAfter cx .std) 0xEE20 c
    ∨ attrBefore (heldWAt cx .std) (heldWAfter cx .std) 0xEE20 c = 0xEE20 := by
  induction c with
  | zero => exact Or.inl rfl
  | succ c ih =>
    rw [attrBefore_step, attrBefore_step]
    simp only [heldWAt, heldWAfter]
    by_cases h1 : heldResetAfter cx c = true
    · right; simp [h1]
    · simp only [h1, Bool.false_eq_true, if_false]
      cases hc : heldCapture cx c with
      | some v => left; simp
      | none =>
        by_cases h2 : heldResetAt cx c = true
        · right; simp [h2]
        · simpa [h2] using ih

theorem heldAt_rel (cx : RowCtx) (c : Nat) :
    heldAt cx .lib c = heldAt cx .std c ∨ heldAt cx .std c = 0xEE20 := by
  unfold heldAt
  rw [attrAt_eq, attrAt_eq]
  simp only [heldWAt]
  by_cases h2 : heldResetAt cx c = true
  · right; simp [h2]
  · simpa [h2] using heldBefore_rel cx c

theorem charAt_rel (cx : RowCtx) (c : Nat) :
    charAt cx .lib c = charAt cx .std c ∨ charAt cx .std c = 0xEE20 := by
  unfold charAt
  by_cases h1 : cx.code c ≤ 0x1F
  · simp only [h1, if_true]
    by_cases h2 : (holdAt cx c && mosaicAt cx c) = true
    · simp only [h2, if_true]; exact heldAt_rel cx c
    · simp [h2]
  · simp [h1]

theorem baseCell_rel (cx : RowCtx) (c : Nat) : HeldRel (baseCell cx .lib c) (baseCell cx .std c) :=
  ⟨rfl, rfl, rfl, rfl, rfl, rfl, charAt_rel cx c⟩

theorem rowCell_rel (cx : RowCtx) (c : Nat) : HeldRel (rowCell cx .lib c) (rowCell cx .std c) := by
  unfold rowCell
  split
  · exact (baseCell_rel cx _).size 4
  · split
    · exact (baseCell_rel cx _).size 0
    · exact baseCell_rel cx _

theorem lowerCell_rel (u v : Nat → Cell) (h : ∀ c, HeldRel (u c) (v c)) (c : Nat) :
    HeldRel (lowerCell u c) (lowerCell v c) := by
  unfold lowerCell
  rw [(h c).2.2.2.2.1, (h (c - 1)).2.2.2.2.1]
  split
  · exact (h c).size 6
  · split
    · exact (h c).size 7
    · split
      · exact (h _).size 5
      · exact (h c).blank

theorem cell_rel (p : PageIn) (r c : Nat) : HeldRel (cell .lib p r c) (cell .std p r c) := by
  unfold cell cellCx
  split
  · exact lowerCell_rel _ _ (rowCell_rel _) c
  · exact rowCell_rel _ c

/-! The two readings agree wherever the standard does not show the blank held mosaic (`cell_eq_of_rel`), and in every cell
up to (and including) the first column of its row that changes alpha/mosaics mode or size after a mosaic character was
captured (`cell_eq_of_rbc`), whatever happens further right or in other rows. -/

theorem HeldRel.eq_but_unicode {a b : Cell} (h : HeldRel a b) : a = { b with unicode := a.unicode } := by
  obtain ⟨h1, h2, h3, h4, h5, h6, _⟩ := h
  cases a; cases b
  simp only [] at h1 h2 h3 h4 h5 h6
  simp only [Cell.mk.injEq, true_and]
  exact ⟨h1, h2, h3, h4, h5, h6⟩

theorem cell_eq_of_rel (a b : Cell) (h : HeldRel a b) (hb : b.unicode ≠ 0xEE20) : a = b := by
  rw [h.eq_but_unicode, h.2.2.2.2.2.2.resolve_right hb]

/-- every change of mode / size at the columns `0..c` happens before any mosaic character of the row was captured
    (so there is no stale held mosaic the standard would have to blank) -/
def ResetBeforeCapture (cx : RowCtx) (c : Nat) : Prop :=
  ∀ j, j ≤ c → (heldResetAfter cx j = true ∨ heldResetAt cx j = true) → ∀ i, i ≤ j → heldCapture cx i = none

/-- no mode / size change at the columns `0..c` of the row (a special case) -/
def NoResetUpto (cx : RowCtx) (c : Nat) : Prop :=
  ∀ j, j ≤ c → heldResetAfter cx j = false ∧ heldResetAt cx j = false

theorem NoResetUpto.rbc {cx : RowCtx} {c : Nat} (h : NoResetUpto cx c) : ResetBeforeCapture cx c := by
  intro j hj hr
  have := h j hj
  rcases hr with hr | hr
  · rw [this.1] at hr; cases hr
  · rw [this.2] at hr; cases hr

theorem ResetBeforeCapture.mono {cx : RowCtx} {c c' : Nat} (h : ResetBeforeCapture cx c) (hc : c' ≤ c) :
    ResetBeforeCapture cx c' := fun j hj => h j (by omega)

theorem heldBefore_blank (cx : RowCtx) (c : Nat) (h : ∀ i, i < c → heldCapture cx i = none) :
    attrBefore (heldWAt cx .lib) (heldWAfter cx .lib) 0xEE20 c = 0xEE20 := by
  induction c with
  | zero => rfl
  | succ c ih =>
    rw [attrBefore_step, ih (fun i hi => h i (by omega))]
    simp [heldWAt, heldWAfter, h c (by omega)]

/-- a reset before any capture blanks a blank: the two writer tables then make the same of libzvbi's value -/
theorem heldBefore_eq_of_rbc (cx : RowCtx) (c : Nat)
    (h : ∀ j, j < c → (heldResetAfter cx j = true ∨ heldResetAt cx j = true) → ∀ i, i ≤ j → heldCapture cx i = none) :
    attrBefore (heldWAt cx .std) (heldWAfter cx .std) 0xEE20 c = attrBefore (heldWAt cx .lib) (heldWAfter cx .lib) 0xEE20 c :=
  attrBefore_congr _ _ _ _ _ c fun j hj => by
    by_cases hr : heldResetAfter cx j = true ∨ heldResetAt cx j = true
    · have hn := h j hj hr
      rw [heldBefore_blank cx j (fun i hi => hn i (by omega))]
      simp only [heldWAt, heldWAfter, hn j (Nat.le_refl j)]
      split <;> split <;> rfl
    · simp only [not_or, Bool.not_eq_true] at hr
      simp [heldWAt, heldWAfter, hr.1, hr.2]

theorem charAt_eq_of_rbc (cx : RowCtx) (c : Nat) (h : ResetBeforeCapture cx c) :
    charAt cx .std c = charAt cx .lib c := by
  unfold charAt heldAt
  rw [attrAt_eq, attrAt_eq]
  cases hx : heldResetAt cx c with
  | false =>
    rw [heldBefore_eq_of_rbc cx c (fun j hj => h j (by omega))]
    simp [heldWAt, hx]
  | true =>
    have hn := h c (Nat.le_refl c) (Or.inr hx)
    rw [heldBefore_blank cx c (fun i hi => hn i (by omega))]
    simp [heldWAt, hx]

theorem rowCell_eq_of_rbc (cx : RowCtx) (c : Nat) (h : ResetBeforeCapture cx c) : rowCell cx .std c = rowCell cx .lib c := by
  unfold rowCell baseCell
  rw [charAt_eq_of_rbc cx c h, charAt_eq_of_rbc cx (c - 1) (h.mono (by omega))]

/-- the row whose codes decide the cells of row `r`: the row above for the lower half of a double-height row -/
def srcRow (p : PageIn) (r : Nat) : Nat := if isLower p r then r - 1 else r

theorem cell_eq_of_rbc (p : PageIn) (r c : Nat) (h : ResetBeforeCapture (rowCtx p (srcRow p r)) c) :
    cell .std p r c = cell .lib p r c := by
  unfold cell cellCx
  unfold srcRow at h
  split
  · rename_i hl
    rw [if_pos hl] at h
    exact lowerCell_congr _ _ c (rowCell_eq_of_rbc _ c h) (rowCell_eq_of_rbc _ (c - 1) (h.mono (by omega)))
  · rename_i hl
    rw [if_neg hl] at h
    exact rowCell_eq_of_rbc _ c h

/-- no change of alpha/mosaics mode or of size (reinforcements do not count) at the displayed columns of the row -/
def NoHeldReset (cx : RowCtx) : Prop :=
  ∀ j, j < 40 → heldResetAfter cx j = false ∧ heldResetAt cx j = false

theorem cell_eq_of_noReset (p : PageIn) (h : ∀ r, r < 25 → NoHeldReset (rowCtx p r)) (r c : Nat)
    (hr : r < 25) (hc : c < 40) : cell .std p r c = cell .lib p r c :=
  cell_eq_of_rbc p r c (NoResetUpto.rbc fun j hj => h (srcRow p r) (by unfold srcRow; split <;> omega) j (by omega))

end Zvbi.Fmt
