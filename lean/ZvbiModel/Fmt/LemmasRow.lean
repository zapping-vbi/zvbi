import ZvbiModel.Fmt.LemmasAttr
/-!
# Helper lemmas for C02: the four phases of one column step as record equations, and `stepCol_fields`:
# every attribute variable after a column in the writers of L1Spec
-/
namespace Zvbi.Fmt
open L1Spec

@[simp] theorem setAt_unicode (cx : RowCtx) (s : RowSt) (raw : Nat) : (setAt cx s raw).unicode = s.unicode := by
  simp only [setAt, apply_ite RowSt.unicode, ite_self]

@[simp] theorem setAfter_unicode (cx : RowCtx) (s : RowSt) (raw col : Nat) : (setAfter cx s raw col).unicode = s.unicode := by
  simp only [setAfter, apply_ite RowSt.unicode, ite_self]

theorem rowOK_iff (cx : RowCtx) : rowOK cx = true ↔ ¬ (cx.row = 0 ∨ 23 ≤ cx.row) := by
  simp only [rowOK, Bool.and_eq_true, decide_eq_true_eq]; omega

/-- the first `switch (raw)` at column `n`: each field it writes, in the set-at writers of L1Spec -/
theorem setAt_eq (cx : RowCtx) (s : RowSt) (n : Nat) :
    setAt cx s (cx.code n) = { s with
      flash := (flashWAt cx n).getD s.flash, size := (sizeWAt cx n).getD s.size,
      conceal := (concealWAt cx n).getD s.conceal, mosaicUnicodes := (sepW cx n).getD s.mosaicUnicodes,
      bg := if cx.code n = 0x1C then cx.bgClut + 0 else if cx.code n = 0x1D then cx.bgClut + (s.fg &&& 7) else s.bg,
      hold := (holdWAt cx n).getD s.hold } := by
  simp only [setAt, flashWAt, sizeWAt, concealWAt, sepW, holdWAt]
  generalize cx.code n = raw
  by_cases h1 : raw = 0x09; · subst h1; rfl
  by_cases h2 : raw = 0x0C; · subst h2; rfl
  by_cases h3 : raw = 0x18; · subst h3; rfl
  by_cases h4 : raw = 0x19; · subst h4; rfl
  by_cases h5 : raw = 0x1A; · subst h5; rfl
  by_cases h6 : raw = 0x1C; · subst h6; rfl
  by_cases h7 : raw = 0x1D; · subst h7; rfl
  by_cases h8 : raw = 0x1E; · subst h8; rfl
  simp only [h1, h2, h3, h4, h5, h6, h7, h8, if_false, Option.getD_none]

theorem charStep_eq (cx : RowCtx) (s : RowSt) (raw : Nat) :
    charStep cx s raw = { s with
      unicode :=
        if raw ≤ 0x1F then (if s.hold && s.mosaic then s.held else 0x20)
        else if s.mosaic && (raw &&& 0x20 != 0) then s.mosaicUnicodes + raw - 0x20
        else teletextUnicode (if s.esc then cx.font1 else cx.font0).g0 (if s.esc then cx.font1 else cx.font0).subset raw,
      held := if ¬ raw ≤ 0x1F ∧ (s.mosaic && (raw &&& 0x20 != 0)) = true then s.mosaicUnicodes + raw - 0x20 else s.held } := by
  unfold charStep
  by_cases h : raw ≤ 0x1F
  · simp only [h, if_true, not_true, false_and, if_false]
  · by_cases h2 : (s.mosaic && (raw &&& 0x20 != 0)) = true <;>
      simp only [h, h2, if_false, if_true, not_false_eq_true, true_and, and_false, Bool.false_eq_true]

theorem emit_eq (s : RowSt) (col : Nat) :
    emit s col = { s with
      wideChar := !s.wideChar && decide (s.size &&& 1 = 1) && decide (col < 39),
      acp :=
        if s.wideChar then s.acp
        else if s.size &&& 1 = 1 then
          (if col < 39 then (s.acp.set col s.cell).set (col + 1) { s.cell with size := 4 }
           else s.acp.set col { s.cell with size := 0 })
        else s.acp.set col s.cell } := by
  unfold emit
  cases hw : s.wideChar
  · by_cases h1 : s.size &&& 1 = 1 <;> by_cases h2 : col < 39 <;>
      simp only [h1, h2, if_true, if_false, Bool.false_eq_true, Bool.not_false, decide_true, decide_false,
        Bool.and_true, Bool.and_false, Bool.and_self]
  · simp only [if_true, Bool.not_true, Bool.false_and]

@[simp] theorem emit_unicode (s : RowSt) (col : Nat) : (emit s col).unicode = s.unicode :=
  (congrArg RowSt.unicode (emit_eq s col) :)

/-- the second `switch (raw)` at column `n`: each field it writes, in the set-after writers of L1Spec -/
theorem setAfter_eq (cx : RowCtx) (s : RowSt) (n : Nat) :
    setAfter cx s (cx.code n) n = { s with
      fg := (fgW cx n).getD s.fg, conceal := (concealWAfter cx n).getD s.conceal,
      mosaic := (mosaicW cx n).getD s.mosaic, flash := (flashWAfter cx n).getD s.flash,
      opacity := (opacityW cx n).getD s.opacity, size := (sizeWAfter cx n).getD s.size,
      doubleHeight := s.doubleHeight || (cx.code n = 0x0D && rowOK cx) || (cx.code n = 0x0F && decide (n < 39) && rowOK cx),
      hold := (holdWAfter cx n).getD s.hold, esc := if cx.code n = 0x1B then !s.esc else s.esc } := by
  simp only [setAfter, fgW, concealWAfter, mosaicW, flashWAfter, opacityW, sizeWAfter, holdWAfter, isAlpha, isMosaicCol]
  generalize cx.code n = raw
  have hr := rowOK_iff cx
  by_cases h0 : raw ≤ 0x07
  · have : raw ≠ 8 ∧ raw ≠ 0xA ∧ raw ≠ 0xB ∧ raw ≠ 0xD ∧ raw ≠ 0xE ∧ raw ≠ 0xF ∧ raw ≠ 0x1F ∧ raw ≠ 0x1B := by omega
    simp [h0, this]
  by_cases h1 : raw = 0x08; · subst h1; simp
  by_cases h2 : raw = 0x0A
  · subst h2; by_cases c : n < 39 ∧ cx.nxt n = some 0x0A <;> simp [c]
  by_cases h3 : raw = 0x0B
  · subst h3; by_cases c : n < 39 ∧ cx.nxt n = some 0x0B <;> simp [c]
  by_cases h4 : raw = 0x0D
  · subst h4; by_cases c : cx.row = 0 ∨ 23 ≤ cx.row
    · have : rowOK cx = false := by simpa using mt hr.mp (fun h => h c)
      simp [c, this]
    · simp [c, hr.mpr c]
  by_cases h5 : raw = 0x0E
  · subst h5; by_cases c : n < 39 <;> simp [c]
  by_cases h6 : raw = 0x0F
  · subst h6; by_cases c : 39 ≤ n ∨ cx.row = 0 ∨ 23 ≤ cx.row
    · have c2 : ¬ (n < 39 ∧ rowOK cx = true) := fun h => hr.mp h.2 (c.resolve_left (by omega))
      have : (decide (n < 39) && rowOK cx) = false := by simpa using c2
      simp [c, this, c2]
    · have c1 : n < 39 := by omega
      have c2 : rowOK cx = true := hr.mpr (fun h => c (Or.inr h))
      simp [c, c1, c2]
  by_cases h7 : 0x10 ≤ raw ∧ raw ≤ 0x17
  · have : raw ≠ 0x1F ∧ raw ≠ 0x1B := by omega
    simp [h0, h1, h2, h3, h4, h5, h6, h7, this]
  by_cases h8 : raw = 0x1F; · subst h8; simp
  by_cases h9 : raw = 0x1B; · subst h9; simp
  simp [h0, h1, h2, h3, h4, h5, h6, h7, h8, h9]

/-- **one column of the row loop**, seen from the state `a` after its set-at switch: every attribute variable after the
    column, in the set-after writers of L1Spec; character, held mosaic and cells are those of the emitting phase -/
theorem stepCol_fields (cx : RowCtx) (s : RowSt) (n : Nat) :
    stepCol cx s n =
      let a := setAt cx s (cx.code n)
      { emit (charStep cx a (cx.code n)) n with
        fg := (fgW cx n).getD a.fg, bg := a.bg, flash := (flashWAfter cx n).getD a.flash,
        conceal := (concealWAfter cx n).getD a.conceal, size := (sizeWAfter cx n).getD a.size,
        opacity := (opacityW cx n).getD a.opacity, mosaicUnicodes := a.mosaicUnicodes,
        hold := (holdWAfter cx n).getD a.hold, mosaic := (mosaicW cx n).getD a.mosaic,
        esc := if cx.code n = 0x1B then !a.esc else a.esc,
        doubleHeight := a.doubleHeight || (cx.code n = 0x0D && rowOK cx) || (cx.code n = 0x0F && decide (n < 39) && rowOK cx) } := by
  simp only [stepCol, setAfter_eq, emit_eq, charStep_eq]

theorem setAt_plain (cx : RowCtx) (s : RowSt) (raw : Nat) (hk : raw ≤ 7 ∨ 0x20 ≤ raw) : setAt cx s raw = s := by
  have : raw ≠ 9 ∧ raw ≠ 0xC ∧ raw ≠ 0x18 ∧ raw ≠ 0x19 ∧ raw ≠ 0x1A ∧ raw ≠ 0x1C ∧ raw ≠ 0x1D ∧ raw ≠ 0x1E := by omega
  simp only [setAt, this, if_false]

theorem setAfter_plain (cx : RowCtx) (s : RowSt) (raw col : Nat) (hk : raw ≤ 7 ∨ 0x20 ≤ raw) :
    setAfter cx s raw col =
      if raw ≤ 7 then { s with fg := cx.fgClut + (raw &&& 7), conceal := false, mosaic := false } else s := by
  by_cases h : raw ≤ 7
  · simp only [setAfter, h, if_true]
  · have : raw ≠ 8 ∧ raw ≠ 0xA ∧ raw ≠ 0xB ∧ raw ≠ 0xD ∧ raw ≠ 0xE ∧ raw ≠ 0xF ∧ ¬ (0x10 ≤ raw ∧ raw ≤ 0x17) ∧ raw ≠ 0x1F
        ∧ raw ≠ 0x1B := by omega
    simp only [setAfter, h, this, if_false]

end Zvbi.Fmt
