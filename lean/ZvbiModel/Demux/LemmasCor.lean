import ZvbiModel.Demux.LemmasFrame
import ZvbiModel.Demux.LemmasIter
import ZvbiModel.Demux.LemmasWrap
/-!
# With the `continue` for a frame without lines (`cfg.corSkipsEmpty`) the coroutine interface always makes progress
(helper lemmas for C07)
-/
namespace Zvbi.Demux

variable {cfg : SrcCfg}

/-- with `skipEmpty`, `demux_pes_packet_frame` returns VBI_ERR_CALLBACK only with lines to deliver -/
theorem pesPacketFrame_callback_lines : ∀ (n : Nat) (cb : Bool) (fs : FS) (d : Bytes),
    (pesPacketFrame cfg n cb true fs d).2.2.1 = .callback →
    (pesPacketFrame cfg n cb true fs d).1.frame.lines ≠ [] := by
  intro n
  induction n with
  | zero => intro cb fs d h; simp [pesPacketFrame] at h
  | succ n ih =>
    intro cb fs d
    rcases hx : extract cfg (fsStart fs).frame d with ⟨f, r, rest⟩
    by_cases hr : r = .newFrame
    · subst hr
      rw [pesPacketFrame_nf n cb true fs d f rest hx]
      cases cb
      · by_cases he : f.lines.isEmpty = true
        · simp only [Bool.not_false, if_true, true_and, he]; exact ih _ _ _
        · simp only [Bool.not_false, if_true, true_and, he, Bool.false_eq_true, if_false]
          exact fun _ hl => he (by rw [hl]; rfl)
      · exact ih _ _ _
    · rw [pesPacketFrame_round n cb true fs d f r rest hx hr]
      cases r <;> simp [xrPR]

theorem pesIter_callback_lines (cfg : SrcCfg) (hse : cfg.corSkipsEmpty = true) (cb : Bool) (sk la : Nat) (fs : FS)
    (win : Bytes) (h : (pesIter cb cfg sk la fs win).2.2.2 = some .callback) :
    (pesIter cb cfg sk la fs win).2.1.frame.lines ≠ [] := by
  have hx := pesIter_exit (cfg := cfg) cb sk la fs win
  generalize pesIter cb cfg sk la fs win = x at hx h
  cases hx with
  | payload fs1 outs r rest _ _ hp =>
    have := pesPacketFrame_callback_lines (cfg := cfg) 3 cb { fs with frame := { fs.frame with nDu := 0 } } (win.take la)
    rw [← hse, hp] at this
    cases r with
    | callback => exact this rfl
    | _ => simp [payFin] at h
  | _ => simp at h

theorem pesIter_stop_ne_needMore (cfg : SrcCfg) (cb : Bool) (sk la : Nat) (fs : FS) (win : Bytes) :
    (pesIter cb cfg sk la fs win).2.2.2 ≠ some .needMore := by
  have hx := pesIter_exit (cfg := cfg) cb sk la fs win
  generalize pesIter cb cfg sk la fs win = x at hx
  cases hx with
  | payload fs1 outs r => cases r <;> simp [payFin]
  | _ => simp

/-- `demux_pes_packet` with `callback == NULL`: "need more data" means the buffer is exhausted,
VBI_ERR_CALLBACK means there are lines to hand over -/
theorem pesLoop_cor_progress (cfg : SrcCfg) (hse : cfg.corSkipsEmpty = true) :
    ∀ (fuel : Nat) (s : St) (buf : Bytes) (si srcSize : Nat),
    ((pesLoop fuel false cfg s buf si srcSize).2.2.2 = .needMore →
        buf.length ≤ (pesLoop fuel false cfg s buf si srcSize).2.2.1) ∧
    ((pesLoop fuel false cfg s buf si srcSize).2.2.2 = .callback →
        (pesLoop fuel false cfg s buf si srcSize).1.fs.frame.lines ≠ []) := by
  intro fuel
  induction fuel with
  | zero => intro s buf si srcSize; simp [pesLoop]
  | succ fuel ih =>
    intro s buf si srcSize
    unfold pesLoop
    cases hw : wrapAround PES_BUF_SIZE s.pw buf si srcSize with
    | fault e => simp
    | more w si' =>
      dsimp only
      exact ⟨fun _ => wrapAround_more_si _ _ _ _ _ _ _ hw, fun h => by simp at h⟩
    | win w si' win =>
      dsimp only
      have hcb := pesIter_callback_lines cfg hse false w.skip w.lookahead s.fs win
      rcases hp : pesIter false cfg w.skip w.lookahead s.fs win with ⟨⟨sk, la⟩, fs', outs, st⟩
      rw [hp] at hcb
      cases st with
      | some stop =>
        dsimp only
        refine ⟨fun h => ?_, fun h => ?_⟩
        · exfalso
          have := pesIter_stop_ne_needMore cfg false w.skip w.lookahead s.fs win
          rw [hp, h] at this
          exact this rfl
        · subst h; exact hcb rfl
      | none =>
        dsimp only
        exact ih _ _ _ _

/-- one `vbi_dvb_demux_cor` call that does not fault either returns a frame or exhausts the buffer -/
theorem pesCor_progress (cfg : SrcCfg) (hse : cfg.corSkipsEmpty = true) (s : St) (buf : Bytes) (si maxLines : Nat)
    (hm : 1 ≤ maxLines) (he : (pesCor cfg s buf si maxLines).2.2.2 = none) :
    (pesCor cfg s buf si maxLines).2.2.1.isSome = true ∨ buf.length ≤ (pesCor cfg s buf si maxLines).2.1 := by
  unfold pesCor at he ⊢
  have hp := pesLoop_cor_progress cfg hse (pesFuel s buf) s buf si (buf.length - si)
  rcases hl : pesLoop (pesFuel s buf) false cfg s buf si (buf.length - si) with ⟨s', o, si', stop⟩
  rw [hl] at he hp
  cases stop with
  | fault e => simp at he
  | needMore => right; exact hp.1 rfl
  | callback =>
    left
    have hne := hp.2 rfl
    dsimp only at hne ⊢
    have hpos : 0 < s'.fs.frame.lines.length := List.length_pos_iff.2 hne
    rw [if_pos (by omega)]
    rfl

end Zvbi.Demux
