import ZvbiModel.Demux.LemmasSpec
import ZvbiModel.Demux.LemmasIter
/-!
# The start code scan over a window equals position-by-position micro steps  (helper lemmas for C07)
-/
namespace Zvbi.Demux

variable {cfg : SrcCfg}

theorem foundRes_shift (p : Nat) (fs : FS) (h : Bytes) :
    foundRes p fs h = ((p + (foundRes 0 fs h).1.1, (foundRes 0 fs h).1.2), (foundRes 0 fs h).2) := by
  unfold foundRes
  simp only []
  generalize (h.getD 4 0 % 256) * 256 + h.getD 5 0 % 256 = pl
  split
  · simp; omega
  · split
    · simp; omega
    · simp

theorem foundRes_skip (p : Nat) (fs : FS) (h : Bytes) : p + 6 ≤ (foundRes p fs h).1.1 := by
  unfold foundRes
  simp only []
  split
  · simp only []; omega
  · split <;> simp only [] <;> omega

/-! ## one position: the skip-by-3 decision against the byte-by-byte definition of a start code -/

theorem scanPos_stop (a b c d : Nat) (rest : Bytes) (h : scanPos a b c d = .found ∨ scanPos a b c d = .foreign) :
    isStart (a :: b :: c :: d :: rest) = true := by
  unfold scanPos at h
  simp only [isStart]
  split at h
  · simp at h
  · split at h
    · simp at h
    · -- only the last two arms stop the scan; both stand behind `a = b = 0`, `c = 1`
      rename_i h2
      obtain ⟨hab, hc⟩ := not_or.1 h2
      obtain ⟨ha, hb⟩ := Nat.or_eq_zero_iff.1 (Decidable.not_not.1 hab)
      have hc := Decidable.not_not.1 hc
      split at h
      · simp [PRIVATE_STREAM_1, *]
      · split at h
        · simp at h
        · simp [ha, hb, hc]; omega

theorem scanPos_adv_noStart (a b c d n : Nat) (rest : Bytes) (h : scanPos a b c d = .adv n) :
    isStart (a :: b :: c :: d :: rest) = false ∧
    (n = 3 → isStart (b :: c :: d :: rest) = false ∧ isStart (c :: d :: rest) = false) ∧ (n = 1 ∨ n = 3) := by
  unfold scanPos at h
  by_cases h1 : c &&& 0xFE ≠ 0
  · rw [if_pos h1] at h
    have hn : n = 3 := by cases h; rfl
    have hc0 : c ≠ 0 := by intro hc; subst hc; simp at h1
    have hc1 : c ≠ 1 := by intro hc; subst hc; simp at h1
    refine ⟨by simp [isStart, hc1], fun _ => ⟨?_, ?_⟩, Or.inr hn⟩
    · rcases rest with _ | ⟨e, r⟩ <;> simp [isStart, hc0]
    · rcases rest with _ | ⟨e, _ | ⟨f, r⟩⟩ <;> simp [isStart, hc0]
  · rw [if_neg h1] at h
    by_cases h2 : (a ||| b) ≠ 0 ∨ c ≠ 1
    · rw [if_pos h2] at h
      have hn : n = 1 := by cases h; rfl
      refine ⟨?_, fun h3 => by omega, Or.inl hn⟩
      simp only [isStart]
      rcases h2 with h2 | h2
      · have : ¬ (a = 0 ∧ b = 0) := by
          intro ⟨ha, hb⟩; subst ha; subst hb; simp at h2
        simp; intro ha hb; exact absurd ⟨ha, hb⟩ this
      · simp; intro _ _ hc; exact absurd hc h2
    · rw [if_neg h2] at h
      by_cases h3 : d = PRIVATE_STREAM_1
      · rw [if_pos h3] at h; simp at h
      · rw [if_neg h3] at h
        by_cases h4 : d < 0xBC
        · rw [if_pos h4] at h
          have hn : n = 1 := by cases h; rfl
          refine ⟨?_, fun h3 => by omega, Or.inl hn⟩
          simp [isStart]; intro _ _ _; omega
        · rw [if_neg h4] at h; simp at h

theorem scanPos_adv (a b c d n : Nat) (h : scanPos a b c d = .adv n) : 1 ≤ n := by
  rcases (scanPos_adv_noStart a b c d n [] h).2.2 with rfl | rfl <;> decide

/-- what the scan loop returns when it ends at `p` with the decision taken there -/
def ScanD.res (p : Nat) : ScanD → ScanR
  | .adv n => .notFound (p + n)
  | .found => .found p
  | .foreign => .foreign p

theorem scanLoop_step (fuel : Nat) (win : Bytes) (scanEnd p a b c d : Nat) (rest : Bytes)
    (hd : win.drop p = a :: b :: c :: d :: rest) :
    scanLoop (fuel + 1) win scanEnd p =
      match scanPos a b c d with
      | .adv n => if p + n ≥ scanEnd then .notFound (p + n) else scanLoop fuel win scanEnd (p + n)
      | dd => dd.res p := by
  rw [scanLoop, hd]
  dsimp only
  cases scanPos a b c d <;> rfl

/-- micro step on a 48 byte window in scan mode: the scan loop ends at position 0 -/
theorem micro_scan48 (fs : FS) (a b c d : Nat) (r : Bytes) (hr : r.length = 44) :
    micro cfg { skip := 0, lookahead := 48, fs := fs } (a :: b :: c :: d :: r)
      = scanFinish 0 48 fs (a :: b :: c :: d :: r) ((scanPos a b c d).res 0) := by
  have hl : (a :: b :: c :: d :: r).length = 48 := by simp [hr]
  unfold micro
  rw [pesIter_scan _ _ _ _ (by omega), hl, scanLoop_step 48 _ 0 0 a b c d r rfl]
  cases scanPos a b c d <;> rfl

/-- one position of the scan: deciding at `p` on the window is the micro step at `p` of the stream machine on every
stream that begins with the window -/
theorem arun_scan_step (win : Bytes) (fs : FS) (sk0 p : Nat) (hp : p + 48 ≤ win.length)
    (a b c d : Nat) (rest : Bytes) (hd : win.drop p = a :: b :: c :: d :: rest) :
    ∃ sk la fs', scanFinish sk0 48 fs win ((scanPos a b c d).res p) = ((sk, la), fs', [], none) ∧ p + 1 ≤ sk
      ∧ ∀ L, win <+: L →
          arun cfg { skip := p, lookahead := 48, fs := fs } L = arun cfg { skip := sk, lookahead := la, fs := fs' } L := by
  have hrl : rest.length = win.length - p - 4 := by
    have := congrArg List.length hd
    simp at this; omega
  -- the 48 byte window at p
  have hv : (win.drop p).take 48 = a :: b :: c :: d :: rest.take 44 := by rw [hd]; simp
  have hm := micro_scan48 (cfg := cfg) fs a b c d (rest.take 44) (by simp; omega)
  rw [← hv] at hm
  -- from the micro step on that window to the run on a stream that begins with `win`
  have run : ∀ (sk la : Nat) (fs' : FS),
      micro cfg { skip := 0, lookahead := 48, fs := fs } ((win.drop p).take 48) = ((sk, la), fs', [], none) → 1 ≤ sk →
      ∀ L, win <+: L → arun cfg { skip := p, lookahead := 48, fs := fs } L
        = arun cfg { skip := p + sk, lookahead := la, fs := fs' } L := by
    intro sk la fs' hm hsk L ⟨t, ht⟩
    subst ht
    have hpL : p ≤ (win ++ t).length := by simp; omega
    have hvL : ((win ++ t).drop p).take 48 = (win.drop p).take 48 := by
      rw [List.drop_append_of_le_length (by omega), List.take_append_of_le_length (by simp; omega)]
    have e0 := arun_skip (cfg := cfg) (win ++ t) p 0 48 fs hpL
    rw [Nat.add_zero] at e0
    rw [e0, arun_micro _ _ sk la fs' [] rfl (by simp; omega) (by simp; omega) (hvL ▸ hm) hsk, ARes.pre_nil,
      arun_skip (cfg := cfg) (win ++ t) p sk la fs' hpL]
  cases hsp : scanPos a b c d with
  | adv n =>
    rw [hsp] at hm
    have hn := scanPos_adv _ _ _ _ _ hsp
    refine ⟨p + n, 48, fs, rfl, by omega, ?_⟩
    have := run (0 + n) 48 fs hm (by omega)
    rwa [Nat.zero_add] at this
  | found =>
    have h46 : ¬ ((win.drop p).take 46).length < 46 := by simp; omega
    have hh : (((win.drop p).take 48).drop 0).take 46 = (win.drop p).take 46 := by simp [List.take_take]
    rw [hsp, ScanD.res, scanFinish_found _ _ _ _ (by rw [hh]; exact h46), hh] at hm
    have hb := foundRes_skip p fs ((win.drop p).take 46)
    have hb0 := foundRes_skip 0 fs ((win.drop p).take 46)
    refine ⟨(foundRes p fs ((win.drop p).take 46)).1.1, (foundRes p fs ((win.drop p).take 46)).1.2,
      (foundRes p fs ((win.drop p).take 46)).2, scanFinish_found _ _ _ _ h46, by omega, ?_⟩
    rw [foundRes_shift p]
    exact run _ _ _ hm (by omega)
  | foreign =>
    have hd4 : win.drop (p + 4) = rest := by
      rw [← List.drop_drop, hd]; rfl
    rcases rest with _ | ⟨l1, _ | ⟨l2, t2⟩⟩
    · simp at hrl; omega
    · simp at hrl; omega
    · replace hm : micro cfg { skip := 0, lookahead := 48, fs := fs } ((win.drop p).take 48)
          = ((0 + 6 + (l1 * 256 + l2), 48), fs, [], none) := by
        rw [hm, hsp, hv]; rfl
      refine ⟨p + 6 + (l1 * 256 + l2), 48, fs, by simp only [ScanD.res, scanFinish, hd4], by omega, ?_⟩
      have := run _ _ _ hm (by omega)
      simpa only [Nat.zero_add, Nat.add_assoc] using this

theorem drop_four (l : Bytes) (p : Nat) (h : p + 4 ≤ l.length) :
    ∃ a b c d rest, l.drop p = a :: b :: c :: d :: rest := by
  have hl : (l.drop p).length = l.length - p := by simp
  rcases hd : l.drop p with _ | ⟨a, _ | ⟨b, _ | ⟨c, _ | ⟨d, rest⟩⟩⟩⟩
  all_goals first
    | exact ⟨_, _, _, _, _, rfl⟩
    | (rw [hd] at hl; simp at hl; omega)

/-- the inner scan loop over a window does exactly what the stream machine does position by position on every stream
that begins with the window; it never faults and always advances -/
theorem scanLoop_arun (win : Bytes) (fs : FS) (sk0 : Nat) (h48 : 48 ≤ win.length) :
    ∀ (fuel p : Nat), p ≤ win.length - 48 → win.length - 48 - p < fuel →
    ∃ sk la fs', scanFinish sk0 48 fs win (scanLoop fuel win (win.length - 48) p) = ((sk, la), fs', [], none) ∧ p + 1 ≤ sk
      ∧ ∀ L, win <+: L →
          arun cfg { skip := p, lookahead := 48, fs := fs } L = arun cfg { skip := sk, lookahead := la, fs := fs' } L := by
  intro fuel
  induction fuel with
  | zero => intro p _ h; omega
  | succ fuel ih =>
    intro p hp hf
    obtain ⟨a, b, c, d, rest, hd⟩ := drop_four win p (by omega)
    have hstep := arun_scan_step (cfg := cfg) win fs sk0 p (by omega) a b c d rest hd
    rw [scanLoop_step fuel win _ p a b c d rest hd]
    cases hsp : scanPos a b c d with
    | adv n =>
      rw [hsp] at hstep
      dsimp only
      split
      · exact hstep
      · obtain ⟨_, _, _, e, _, h0⟩ := hstep
        cases e
        obtain ⟨sk, la, fs', h1, h2, h5⟩ := ih (p + n) (by omega) (by omega)
        exact ⟨sk, la, fs', h1, by omega, fun L hL => (h0 L hL).trans (h5 L hL)⟩
    | found => rw [hsp] at hstep; exact hstep
    | foreign => rw [hsp] at hstep; exact hstep

/-! ## the scan loop against the byte-by-byte definition -/

/-- what the scan loop returns, stated against the byte-by-byte definition of a start code -/
def ScanFirst (win : Bytes) (p : Nat) : ScanR → Prop
  | .fault _ => False
  | .found q => p ≤ q ∧ isStart (win.drop q) = true ∧ ∀ r, p ≤ r → r < q → isStart (win.drop r) = false
  | .foreign q => p ≤ q ∧ isStart (win.drop q) = true ∧ ∀ r, p ≤ r → r < q → isStart (win.drop r) = false
  | .notFound q => p < q ∧ ∀ r, p ≤ r → r < q → isStart (win.drop r) = false

/-- no start code in the positions the scan stepped over: the result from `p + n` is a result from `p` -/
theorem ScanFirst.from (win : Bytes) (p n : Nat) (R : ScanR) (h : ScanFirst win (p + n) R)
    (hnone : ∀ r, p ≤ r → r < p + n → isStart (win.drop r) = false) : ScanFirst win p R := by
  have hall : ∀ q r, (∀ r, p + n ≤ r → r < q → isStart (win.drop r) = false) → p ≤ r → r < q →
      isStart (win.drop r) = false := fun q r h3 hr1 hr2 =>
    if hlt : r < p + n then hnone r hr1 hlt else h3 r (by omega) hr2
  cases R with
  | fault e => exact h
  | found q | foreign q => exact ⟨by have := h.1; omega, h.2.1, fun r => hall q r h.2.2⟩
  | notFound q => exact ⟨by have := h.1; omega, fun r => hall q r h.2⟩

theorem scanLoop_first (win : Bytes) (scanEnd : Nat) (hse : scanEnd + 4 ≤ win.length) :
    ∀ (fuel p : Nat), p ≤ scanEnd → scanEnd - p < fuel → ScanFirst win p (scanLoop fuel win scanEnd p) := by
  intro fuel
  induction fuel with
  | zero => intro p _ h; omega
  | succ fuel ih =>
    intro p hp hf
    obtain ⟨a, b, c, d, rest, hd⟩ := drop_four win p (by omega)
    rw [scanLoop_step fuel win scanEnd p a b c d rest hd]
    cases hsp : scanPos a b c d with
    | found => exact ⟨Nat.le_refl _, by rw [hd]; exact scanPos_stop a b c d rest (Or.inl hsp), fun r h1 h2 => by omega⟩
    | foreign => exact ⟨Nat.le_refl _, by rw [hd]; exact scanPos_stop a b c d rest (Or.inr hsp), fun r h1 h2 => by omega⟩
    | adv n =>
      obtain ⟨h0, h3, hn⟩ := scanPos_adv_noStart a b c d n rest hsp
      have hd1 : win.drop (p + 1) = b :: c :: d :: rest := by
        rw [← List.drop_drop, hd]; rfl
      have hd2 : win.drop (p + 2) = c :: d :: rest := by
        rw [← List.drop_drop, hd]; rfl
      have hnone : ∀ r, p ≤ r → r < p + n → isStart (win.drop r) = false := by
        intro r h1 h2
        rcases hn with hn | hn
        · have : r = p := by omega
          subst this; rw [hd]; exact h0
        · have : r = p ∨ r = p + 1 ∨ r = p + 2 := by omega
          rcases this with rfl | rfl | rfl
          · rw [hd]; exact h0
          · rw [hd1]; exact (h3 hn).1
          · rw [hd2]; exact (h3 hn).2
      dsimp only
      split
      · exact ⟨by omega, hnone⟩
      · exact (ih (p + n) (by omega) (by omega)).from win p n _ hnone

end Zvbi.Demux
