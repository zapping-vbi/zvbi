import ZvbiModel.Demux.Spec
/-!
# The stream machine `arun`  (helper lemmas for C07)

Step equations `arun_cons_skip/_short/_stop/_go`, the induction rule `arun_core_ind`, `ARes.pre`; the machine does not care
where the stream is cut (`arun_append`); `arun_skip/_short/_micro`.
-/
namespace Zvbi.Demux

variable {cfg : SrcCfg}

/-- prefix frames to a result -/
def ARes.pre (outs : List FrameOut) (r : ARes) : ARes := { r with frames := outs ++ r.frames }

@[simp] theorem ARes.pre_nil (r : ARes) : r.pre [] = r := by cases r; rfl

theorem ARes.pre_inj {outs : List FrameOut} {r1 r2 : ARes} (h : r1.pre outs = r2.pre outs) : r1 = r2 := by
  cases r1; cases r2
  simp only [ARes.pre, ARes.mk.injEq, List.append_cancel_left_eq] at h
  simp [h]

theorem arun_cons_skip (c : Core) (x : Nat) (L : Bytes) (hs : c.skip > 0) :
    arun cfg c (x :: L) = arun cfg { c with skip := c.skip - 1 } L := by
  rw [arun, if_pos hs]

theorem arun_cons_short (c : Core) (x : Nat) (L : Bytes) (hs : ¬ c.skip > 0) (hl : (x :: L).length < c.lookahead) :
    arun cfg c (x :: L) = { core := c, pend := x :: L, frames := [], stop := none } := by
  rw [arun, if_neg hs, if_pos hl]

theorem arun_cons_stop (c : Core) (x : Nat) (L : Bytes) (hs : ¬ c.skip > 0) (hl : ¬ (x :: L).length < c.lookahead)
    (p : Nat × Nat) (fs' : FS) (outs : List FrameOut) (k : Stop)
    (hm : micro cfg c ((x :: L).take c.lookahead) = (p, fs', outs, some k)) :
    arun cfg c (x :: L) = { core := { c with fs := fs' }, pend := x :: L, frames := outs, stop := some k } := by
  rw [arun, if_neg hs, if_neg hl, hm]

theorem arun_cons_go (c : Core) (x : Nat) (L : Bytes) (hs : ¬ c.skip > 0) (hl : ¬ (x :: L).length < c.lookahead)
    (sk la : Nat) (fs' : FS) (outs : List FrameOut) (hm : micro cfg c ((x :: L).take c.lookahead) = ((sk, la), fs', outs, none)) :
    arun cfg c (x :: L) = (arun cfg { skip := sk - 1, lookahead := la, fs := fs' } L).pre outs := by
  rw [arun, if_neg hs, if_neg hl, hm]; rfl

/-- a property of the core that a skipped byte and a micro step keep holds at the end of every run -/
theorem arun_core_ind (P : Core → Prop) (hskip : ∀ c, P c → P { c with skip := c.skip - 1 })
    (hmicro : ∀ c win sk la fs' outs st, P c → micro cfg c win = ((sk, la), fs', outs, st) →
      P { c with fs := fs' } ∧ P { skip := sk - 1, lookahead := la, fs := fs' }) :
    ∀ (L : Bytes) (c : Core), P c → P (arun cfg c L).core := by
  intro L
  induction L with
  | nil => intro c h; exact h
  | cons x L ih =>
    intro c h
    by_cases hs : c.skip > 0
    · rw [arun_cons_skip c x L hs]; exact ih _ (hskip c h)
    by_cases hl : (x :: L).length < c.lookahead
    · rw [arun_cons_short c x L hs hl]; exact h
    rcases hm : micro cfg c ((x :: L).take c.lookahead) with ⟨⟨sk, la⟩, fs', outs, _ | k⟩
    · rw [arun_cons_go c x L hs hl sk la fs' outs hm]; exact ih _ (hmicro c _ sk la fs' outs none h hm).2
    · rw [arun_cons_stop c x L hs hl _ fs' outs k hm]; exact (hmicro c _ sk la fs' outs (some k) h hm).1

theorem arun_append (a : Bytes) : ∀ (c : Core) (b : Bytes), (arun cfg c a).stop = none →
    arun cfg c (a ++ b) = (arun cfg (arun cfg c a).core ((arun cfg c a).pend ++ b)).pre (arun cfg c a).frames := by
  induction a with
  | nil => intro c b _; simp [arun]
  | cons x a ih =>
    intro c b hstop
    rw [List.cons_append]
    by_cases hs : c.skip > 0
    · rw [arun_cons_skip c x a hs] at hstop ⊢
      rw [arun_cons_skip c x _ hs]
      exact ih _ b hstop
    by_cases hl : (x :: a).length < c.lookahead
    · rw [arun_cons_short c x a hs hl]; simp
    have hl' : ¬ (x :: (a ++ b)).length < c.lookahead := by
      simp only [List.length_cons, List.length_append] at hl ⊢; omega
    have ht : (x :: (a ++ b)).take c.lookahead = (x :: a).take c.lookahead := by
      rw [← List.cons_append]
      exact List.take_append_of_le_length (by omega)
    rcases hm : micro cfg c ((x :: a).take c.lookahead) with ⟨⟨sk, la⟩, fs', outs, _ | k⟩
    · rw [arun_cons_go c x a hs hl sk la fs' outs hm] at hstop ⊢
      rw [arun_cons_go c x _ hs hl' sk la fs' outs (ht ▸ hm), ih _ b hstop]
      simp [ARes.pre, List.append_assoc]
    · rw [arun_cons_stop c x a hs hl _ fs' outs k hm] at hstop
      cases hstop

theorem arun_skip (L : Bytes) : ∀ (k j la : Nat) (fs : FS), k ≤ L.length →
    arun cfg { skip := k + j, lookahead := la, fs := fs } L = arun cfg { skip := j, lookahead := la, fs := fs } (L.drop k) := by
  induction L with
  | nil => intro k j la fs h; simp at h; subst h; simp
  | cons x L ih =>
    intro k j la fs h
    cases k with
    | zero => simp
    | succ k =>
      rw [arun_cons_skip _ x L (by simp only []; omega), List.drop_succ_cons]
      have : k + 1 + j - 1 = k + j := by omega
      simp only [this]
      exact ih k j la fs (by simpa using h)

theorem arun_short (L : Bytes) : ∀ (c : Core), (c.skip ≥ L.length ∨ (L.drop c.skip).length < c.lookahead) →
    arun cfg c L = { core := { c with skip := c.skip - L.length }, pend := L.drop c.skip, frames := [], stop := none } := by
  induction L with
  | nil => intro c _; simp [arun]
  | cons x L ih =>
    intro c h
    obtain ⟨sk, la, fs⟩ := c
    simp only at h
    by_cases hs : sk > 0
    · obtain ⟨j, rfl⟩ : ∃ j, sk = j + 1 := ⟨sk - 1, by omega⟩
      rw [arun_cons_skip _ x L hs, ih _ (by simpa [List.drop_succ_cons] using h)]
      simp
    · have h0 : sk = 0 := by omega
      subst h0
      rw [arun_cons_short _ x L hs (by simpa using h)]
      simp

theorem arun_micro (c : Core) (L : Bytes) (sk la : Nat) (fs' : FS) (outs : List FrameOut)
    (h0 : c.skip = 0) (hl : c.lookahead ≤ L.length) (hpos : 0 < L.length)
    (hm : micro cfg c (L.take c.lookahead) = ((sk, la), fs', outs, none)) (hsk : 1 ≤ sk) :
    arun cfg c L = (arun cfg { skip := sk, lookahead := la, fs := fs' } L).pre outs := by
  cases L with
  | nil => simp at hpos
  | cons x L =>
    rw [arun_cons_go c x L (by omega) (by omega) sk la fs' outs hm,
      arun_cons_skip { skip := sk, lookahead := la, fs := fs' } x L (by simp only []; omega)]

end Zvbi.Demux
