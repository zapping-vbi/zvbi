import ZvbiModel.Demux.JoinStream
/-!
# Resynchronisation on an intact stream from any context at a packet boundary  (join of C06 and C07)

A demultiplexer at a packet boundary that still holds a stale frame (not at a frame start), reading an
intact stream of separable frames: either the first packet closes the stale frame (one extra frame,
nothing lost), or its lines cannot be told apart from the stale ones and are appended (the merged
frame comes out when the second packet begins: one extra frame, the first one lost).  Before fix
dvb-demux-full-frame this needs room for the first packet's lines (at most `frameCap` = 63 in all, see
finding C07-full-frame).  With the fix and the discard of 7c6e61c nothing is needed: a full buffer is
closed like any other, and when the first packet's lines do not fit the overflow error discards the
stale frame and the first packet (third case), after which the stream is read from a frame start.
-/
namespace Zvbi.Demux
open Zvbi.Mux.EnParse
variable {cfg : SrcCfg}

/-- `demux_pes_packet_frame` on a packet whose first line lies beyond the last line of the frame under
assembly: no boundary is recognisable, the lines are appended, nothing is delivered -/
theorem pesPacketFrame_append (se : Bool) (fs : FS) (us : List DataUnit) (l : Line) (ls : List Line)
    (hnf : fs.newFrame = false) (hul : unitsLines us = some (l :: ls)) (hasc : AscFrom 0 (l :: ls))
    (hcap : fs.frame.lines.length + (l :: ls).length ≤ 64) (hgt : fs.frame.lastFrameLine < l.line) :
    ∃ fs', pesPacketFrame cfg 3 true se fs (encUnits us) = (fs', [], .done, [])
      ∧ fs'.newFrame = false ∧ fs'.frame.lines = fs.frame.lines ++ (l :: ls).map ofLine
      ∧ fs'.frame.lastFrameLine = lastLineOf 0 (l :: ls) ∧ fs'.framePts = fs.framePts := by
  obtain ⟨f', h1, hl, hla⟩ := extractLoop_stores (cfg := cfg) us (l :: ls) fs.frame _ hul ⟨hgt, hasc.2⟩ hcap
    (Nat.lt_succ_self _)
  rw [pesPacketFrame_round 2 true se fs _ f' .done [] (by rw [fsStart_old fs hnf, extract_accepted _ _ l ls hul]; exact h1)
    (by simp), fsStart_old fs hnf]
  exact ⟨_, rfl, hnf, hl, by rw [hla]; rfl, rfl⟩

/-- the same packet when its lines do not fit into the buffer: the overflow error, nothing delivered -/
theorem pesPacketFrame_overflow (se : Bool) (fs : FS) (us : List DataUnit) (l : Line) (ls : List Line)
    (hnf : fs.newFrame = false) (hul : unitsLines us = some (l :: ls)) (hasc : AscFrom 0 (l :: ls))
    (h64 : fs.frame.lines.length ≤ 64) (hcap : 64 < fs.frame.lines.length + (l :: ls).length)
    (hgt : fs.frame.lastFrameLine < l.line) :
    ∃ fs' rest, pesPacketFrame cfg 3 true se fs (encUnits us) = (fs', [], .err, rest) ∧ fs'.packetPts = fs.packetPts := by
  obtain ⟨f', rest, h1⟩ := extractLoop_overflow (cfg := cfg) us (l :: ls) fs.frame _ hul ⟨hgt, hasc.2⟩ h64 hcap
    (Nat.lt_succ_self _)
  rw [pesPacketFrame_round 2 true se fs _ f' .err rest (by rw [fsStart_old fs hnf, extract_accepted _ _ l ls hul]; exact h1)
    (by simp), fsStart_old fs hnf]
  exact ⟨_, _, rfl, rfl⟩

/-- what `arun_resync` needs of the context: the stale lines and the first packet's lines make a frame
that can be held and closed (`frameCap`: 63 lines before fix dvb-demux-full-frame, 64 with it) - or the
source has both the full-frame fix and the discard of 7c6e61c, then nothing but the array bound -/
def ResyncRoom (cfg : SrcCfg) (fs : FS) (k : Nat) : Prop :=
  fs.frame.lines.length + k ≤ frameCap cfg
  ∨ (cfg.lateOverflow = true ∧ cfg.pesDiscards = true ∧ fs.frame.lines.length ≤ 64)

/-- **resync on an intact stream**: from a context at a packet boundary holding a stale frame -/
theorem arun_resync (fs : FS) (hnf : fs.newFrame = false) (x : Bytes × Pes) (pks : List (Bytes × Pes))
    (hp : ∀ y ∈ x :: pks, parsePes y.1 = some y.2) (hb : ∀ y ∈ x :: pks, ∀ b ∈ y.1, b < 256)
    (hsep : Sep cfg ((x :: pks).map fun y => y.2.lines)) (hcap : ResyncRoom cfg fs x.2.lines.length) :
    ∃ X Y rest, (arun cfg { skip := 0, lookahead := 48, fs := fs } ((x :: pks).map Prod.fst).flatten).frames = X ++ rest
      ∧ (((x :: pks).map Prod.snd).dropLast).map outOf = Y ++ rest ∧ X.length ≤ 1 ∧ Y.length ≤ 1
      ∧ (arun cfg { skip := 0, lookahead := 48, fs := fs } ((x :: pks).map Prod.fst).flatten).stop = none := by
  have hcap64 := frameCap_le cfg
  by_cases hle : firstLine x.2.lines ≤ fs.frame.lastFrameLine
  · -- the first packet closes the stale frame: the whole stream is a run after a frame under assembly
    have hne : x.2.lines ≠ [] := by simp only [List.map_cons, Sep] at hsep; exact hsep.1.1
    obtain ⟨fsEnd, hpk, _⟩ := pkts_held (cfg := cfg) (x :: pks) fs hp hb hnf
      (by rcases hcap with h | ⟨h, _, _⟩
          · rcases frameCap_room (cfg := cfg) _ h with h | h
            · exact Or.inl h
            · right; have := List.length_pos_iff.mpr hne; omega
          · exact Or.inl h)
      (by simp only [List.map_cons, Sep] at hsep; simp only [List.map_cons, SepFrom]; exact ⟨hsep.1, hle, hsep.2⟩)
    rw [arun_pkts hpk]
    exact ⟨[⟨fs.framePts, fs.frame.lines⟩], [], (((x :: pks).map Prod.snd).dropLast).map outOf,
      by simp [List.map_dropLast], rfl, by simp, by simp, rfl⟩
  obtain ⟨pk, p⟩ := x
  simp only [List.map_cons, Sep] at hsep
  obtain ⟨⟨hne, hasc, hlt⟩, hsep'⟩ := hsep
  have hpp : parsePes pk = some p := hp (pk, p) (List.mem_cons_self ..)
  have hbb := hb (pk, p) (List.mem_cons_self ..)
  obtain ⟨us, hul, hdrop, -⟩ := pes_shape pk p hpp hbb
  obtain ⟨l, ls, hls⟩ := List.exists_cons_of_ne_nil hne
  simp only at hcap hle
  rw [hls] at hul hasc hlt hcap
  have hgt : fs.frame.lastFrameLine < l.line := by simpa [firstLine, hls] using hle
  have hp' : ∀ y ∈ pks, parsePes y.1 = some y.2 := fun y hy => hp y (List.mem_cons_of_mem _ hy)
  have hb' : ∀ y ∈ pks, ∀ b ∈ y.1, b < 256 := fun y hy => hb y (List.mem_cons_of_mem _ hy)
  by_cases hfit : fs.frame.lines.length + (l :: ls).length ≤ 64
  · -- no boundary: the lines are appended to the stale frame, which the next packet closes
    obtain ⟨fsM, hpf, hnfM, hlM, hlaM, hptsM⟩ := pesPacketFrame_append (cfg := cfg) false
      { fs with packetPts := p.pts, frame := { fs.frame with nDu := 0 } } us l ls hnf hul hasc
      (by show fs.frame.lines.length + (l :: ls).length ≤ 64; exact hfit) (by show fs.frame.lastFrameLine < l.line; exact hgt)
    obtain ⟨fsEnd, hpk, _⟩ := pkts_held (cfg := cfg) pks fsM hp' hb' hnfM
      (by rw [hlM, List.length_append, List.length_map]
          rcases hcap with h | ⟨h, _, _⟩
          · exact frameCap_room (cfg := cfg) _ h
          · exact Or.inl h)
      (by rw [hlaM, ← hls]; exact hsep')
    have := Pkts.cons hpp hbb (fun se => by rw [pesPacketFrame_se se false, hdrop]; exact hpf) hpk
    rw [arun_pkts this]
    rcases pks with _ | ⟨y, r⟩
    · exact ⟨[], [], [], by simp, rfl, by simp, by simp, rfl⟩
    · exact ⟨[⟨fsM.framePts, fsM.frame.lines⟩], [outOf p], (((y :: r).map Prod.snd).dropLast).map outOf,
        by simp [List.map_dropLast], by simp, by simp, by simp, rfl⟩
  · -- no boundary and no room (repaired source only): the overflow error discards the stale frame and
    -- this packet; the rest of the stream is read from a frame start
    obtain ⟨hlo, hpd, h64⟩ : cfg.lateOverflow = true ∧ cfg.pesDiscards = true ∧ fs.frame.lines.length ≤ 64 := by
      rcases hcap with h | h
      · exact absurd (Nat.le_trans h hcap64) hfit
      · exact h
    obtain ⟨fsE, restE, hpf, _⟩ := pesPacketFrame_overflow (cfg := cfg) cfg.corSkipsEmpty
      { fs with packetPts := p.pts, frame := { fs.frame with nDu := 0 } } us l ls hnf hul hasc
      (by show fs.frame.lines.length ≤ 64; exact h64)
      (by show 64 < fs.frame.lines.length + (l :: ls).length; omega) (by show fs.frame.lastFrameLine < l.line; exact hgt)
    have hstep' := (arun_packet (cfg := cfg) fs pk (pks.map Prod.fst).flatten p hpp hbb).2 fsE _ restE (by rw [hdrop]; exact hpf)
    have hnfE : (pesErrFs cfg fsE).newFrame = true := by simp [pesErrFs, hpd]
    simp only [List.map_cons, List.flatten_cons]
    rw [hstep']
    cases pks with
    | nil => exact ⟨[], [], [], by simp [arun, ARes.pre], rfl, by simp, by simp, by simp [arun, ARes.pre]⟩
    | cons y pks' =>
      simp only [List.map_cons, SepFrom] at hsep'
      obtain ⟨hok2, _, hsep2⟩ := hsep'
      obtain ⟨fsEnd, hpk, _⟩ := pkts_start (cfg := cfg) y pks' (pesErrFs cfg fsE) hnfE hp' hb'
        (by simp only [List.map_cons, Sep]; exact ⟨hok2, hsep2⟩)
      rw [arun_pkts hpk]
      exact ⟨[], [outOf p], (((y :: pks').map Prod.snd).dropLast).map outOf, rfl,
        by simp only [List.map_cons, List.dropLast_cons_cons, List.cons_append, List.nil_append], by simp, by simp, rfl⟩

end Zvbi.Demux
