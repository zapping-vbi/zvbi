import ZvbiModel.Demux.CorExtract
/-!
# Coroutine interface: `demux_pes_packet_frame`, and one iteration of `demux_pes_packet`, without a callback vs. with a
callback  (helper lemmas for C07)
-/
namespace Zvbi.Demux

variable {cfg : SrcCfg}

theorem fsStart_ndu (fs : FS) : (fsStart { fs with frame := { fs.frame with nDu := 0 } }).frame.nDu = 0 := by
  unfold fsStart
  split <;> rfl

theorem fsStart_lines (fs : FS) (h : fs.frame.lines.length ≤ 64) : (fsStart fs).frame.lines.length ≤ 64 := by
  cases hn : fs.newFrame
  · rw [fsStart_old _ hn]; exact h
  · rw [fsStart_new _ hn]; exact Nat.zero_le _

/-- a round that starts at a frame start -/
theorem pesPacketFrame_new (n : Nat) (cb se : Bool) (fs : FS) (d : Bytes) (f : Frame) (r : XR) (rest : Bytes)
    (hn : fs.newFrame = true) (hx : extract cfg {} d = (f, r, rest)) (hr : r ≠ .newFrame) :
    pesPacketFrame cfg (n + 1) cb se fs d = (fsAt fs.packetPts f, [], xrPR r, rest) := by
  have := pesPacketFrame_round n cb se fs d f r rest (by rw [fsStart_new fs hn]; exact hx) hr
  rw [this, fsStart_new fs hn]
  rfl

/-- the frames that reach the application -/
def nonEmpty (f : FrameOut) : Bool := !f.lines.isEmpty

theorem payFin_next (cfg : SrcCfg) (sk la : Nat) (fs1 : FS) (outs : List FrameOut) (r : XR) (hr : r = .done ∨ r = .err) :
    payFin cfg sk la fs1 outs (xrPR r) = ((la, 48), payFs cfg fs1 (xrPR r), outs, none) := by
  rcases hr with rfl | rfl <;> rfl

theorem pesErrFs_frame (cfg : SrcCfg) (fs : FS) : (pesErrFs cfg fs).frame = fs.frame := by
  unfold pesErrFs; split <;> rfl

theorem payFs_lines (cfg : SrcCfg) (fs1 : FS) (r : PR) (h : fs1.frame.lines.length ≤ 64) :
    (payFs cfg fs1 r).frame.lines.length ≤ 64 := by
  cases r <;> simp only [payFs, pesErrFs_frame] <;> exact h

/-- `dx->sliced[64]` never overflows, in any shape of the source -/
theorem pesPacketFrame_lines : ∀ (n : Nat) (cb se : Bool) (fs : FS) (d : Bytes), fs.frame.lines.length ≤ 64 →
    (pesPacketFrame cfg n cb se fs d).1.frame.lines.length ≤ 64 := by
  intro n
  induction n with
  | zero => intro cb se fs d h; exact h
  | succ n ih =>
    intro cb se fs d h
    rcases hx : extract cfg (fsStart fs).frame d with ⟨f, r, rest⟩
    have hf := extract_lines _ d f r rest hx (fsStart_lines _ h)
    by_cases hr : r = .newFrame
    · subst hr
      rw [pesPacketFrame_nf n cb se fs d f rest hx]
      cases cb
      · simp only [Bool.not_false, if_true]
        split
        · exact ih _ _ _ _ hf
        · exact hf
      · exact ih _ _ _ _ hf
    · rw [pesPacketFrame_round n cb se fs d f r rest hx hr]; exact hf

theorem pesIter_lines (cb : Bool) (sk la : Nat) (fs : FS) (win : Bytes) (h : fs.frame.lines.length ≤ 64) :
    (pesIter cb cfg sk la fs win).2.1.frame.lines.length ≤ 64 := by
  by_cases hla : la ≤ 48
  · rw [(pesIter_scan_frame cb sk la fs win hla).2]; exact h
  · have hx := pesIter_exit (cfg := cfg) cb sk la fs win
    generalize pesIter cb cfg sk la fs win = x at hx
    cases hx with
    | fault e => exact h
    | payload fs1 outs r rest _ _ hp =>
      have := pesPacketFrame_lines (cfg := cfg) 3 cb cfg.corSkipsEmpty { fs with frame := { fs.frame with nDu := 0 } } (win.take la) h
      rw [hp] at this
      cases r <;> first | exact this | exact payFs_lines cfg fs1 _ this
    | skip _ h' => exact absurd h' hla
    | accept _ _ _ h' => exact absurd h' hla

/-- the hand-over clause: every later `demux_pes_packet` iteration on the payload `d` that starts at a frame start
(`new_frame` set, any stale frame, packet PTS `pts`) delivers no frame with lines and ends in `fs'`, up to what a frame
start forgets -/
def Restarts (cfg : SrcCfg) (la : Nat) (d : Bytes) (pts : Nat) (fs' : FS) : Prop :=
  ∀ (fsH : FS) (sk2 : Nat) (cb : Bool), fsH.newFrame = true → fsH.packetPts = pts →
    ∃ fs'' outs'', payloadRes cb cfg sk2 la fsH d = ((la, 48), fs'', outs'', none) ∧
      outs''.filter nonEmpty = [] ∧ FsForget 48 fs'' fs' ∧ fs''.frame.lines.length ≤ 64

/-- **the call after a hand-over.**  `extract_data_units` said -1 at `rest` of the payload `d`: a later iteration on
`d` ends where the callback variant ends when it continues at `rest` with a reset frame. -/
theorem payload_restart (cfg : SrcCfg) (hse : cfg.corSkipsEmpty = true) (hpd : cfg.pesDiscards = true) (la : Nat)
    (f f1 : Frame) (d rest : Bytes) (hn : f.nDu = 0) (hx : extract cfg f d = (f1, .newFrame, rest)) :
    ∃ f2 r2 rest2, extract cfg {} rest = (f2, r2, rest2) ∧ (r2 = .done ∨ r2 = .err) ∧
      ∀ pts, Restarts cfg la d pts (payFs cfg (fsAt pts f2) (xrPR r2)) := by
  have haft := extract_after_newFrame f f1 d rest hx
  rcases hx2 : extract cfg {} rest with ⟨f2, r2, rest2⟩
  rw [hx2] at haft
  have hr2 := extract_done_or_err {} rest f2 r2 rest2 haft.1 hx2 haft.2
  have hl2 := extract_lines {} rest f2 r2 rest2 hx2 (Nat.zero_le _)
  refine ⟨f2, r2, rest2, rfl, hr2, ?_⟩
  intro pts fsH sk2 cb hnew hpts
  subst hpts
  have hnew0 : ({ fsH with frame := { fsH.frame with nDu := 0 } } : FS).newFrame = true := hnew
  obtain ⟨x, hc | hc | ⟨f3, rest3, hc1, hc2⟩⟩ := extract_restart f d f1 rest hn hx
  · -- -1 again at `rest`, no lines: one more round from `rest` with a reset frame
    have hx' : extract cfg (fsStart { fsH with frame := { fsH.frame with nDu := 0 } }).frame d = (frX x, .newFrame, rest) := by
      rw [fsStart_new _ hnew0]; exact hc
    have hp := pesPacketFrame_nf 2 cb cfg.corSkipsEmpty _ d (frX x) rest hx'
    have hp2 := pesPacketFrame_new 1 cb cfg.corSkipsEmpty
      { fsStart { fsH with frame := { fsH.frame with nDu := 0 } } with frame := frX x, newFrame := true } rest f2 r2 rest2
      rfl hx2 haft.2
    rw [hp2] at hp
    have hpp : ({ fsStart { fsH with frame := { fsH.frame with nDu := 0 } } with frame := frX x, newFrame := true } : FS).packetPts
        = fsH.packetPts := by rw [fsStart_new _ hnew0]; rfl
    rw [hpp] at hp
    cases cb with
    | false =>
      have hcond : cfg.corSkipsEmpty = true ∧ (frX x).lines.isEmpty = true := ⟨hse, rfl⟩
      simp only [Bool.not_false, if_true] at hp
      rw [if_pos hcond] at hp
      exact ⟨_, [], by rw [payloadRes_of false cfg sk2 la fsH _ d [] _ rest2 hp, payFin_next _ _ _ _ _ _ hr2], rfl,
        Or.inl rfl, payFs_lines cfg _ _ hl2⟩
    | true =>
      simp only [Bool.not_true, Bool.false_eq_true, if_false] at hp
      exact ⟨_, _, by rw [payloadRes_of true cfg sk2 la fsH _ d _ _ rest2 hp, payFin_next _ _ _ _ _ _ hr2],
        by simp [nonEmpty, frX], Or.inl rfl, payFs_lines cfg _ _ hl2⟩
  · -- the same as continuing at `rest`
    rw [hx2] at hc
    have hp := pesPacketFrame_new 2 cb cfg.corSkipsEmpty { fsH with frame := { fsH.frame with nDu := 0 } } d f2 r2 rest2
      hnew0 hc haft.2
    exact ⟨_, [], by rw [payloadRes_of cb cfg sk2 la fsH _ d [] _ rest2 hp, payFin_next _ _ _ _ _ _ hr2], rfl,
      Or.inl rfl, payFs_lines cfg _ _ hl2⟩
  · -- the unit at `rest` fails in both: the frames differ in `last_data_unit_id`, the error discards both
    rw [hx2] at hc1
    simp only [Prod.mk.injEq] at hc1
    obtain ⟨rfl, rfl, rfl⟩ := hc1
    have hp := pesPacketFrame_new 2 cb cfg.corSkipsEmpty { fsH with frame := { fsH.frame with nDu := 0 } } d
      { f2 with lastDuId := x } .err rest2 hnew0 hc2 (by simp)
    have hne : ∀ g : FS, (pesErrFs cfg g).newFrame = true := by
      intro g; unfold pesErrFs; rw [if_pos hpd]
    refine ⟨pesErrFs cfg (fsAt fsH.packetPts { f2 with lastDuId := x }), [], ?_, rfl,
      Or.inr ⟨hne _, hne _, fun h => absurd h (Nat.lt_irrefl 48)⟩, ?_⟩
    · rw [payloadRes_of cb cfg sk2 la fsH _ d [] _ rest2 hp]; rfl
    · show (pesErrFs cfg _).frame.lines.length ≤ 64
      rw [pesErrFs_frame]; exact hl2

/-- **one payload, without and with a callback** (repaired source).  Either both variants do the same
except that the callback variant also delivers a frame without lines; or the variant without callback
stops with `VBI_ERR_CALLBACK` holding the frame the callback variant delivers, and any later
iteration on the same payload from a frame start ends like the callback variant did. -/
theorem payload_cor (cfg : SrcCfg) (hse : cfg.corSkipsEmpty = true) (hpd : cfg.pesDiscards = true)
    (sk la : Nat) (fs : FS) (d : Bytes) (hd : 2 ≤ d.length) (hL : fs.frame.lines.length ≤ 64) :
    (∃ fs' outs, payloadRes true cfg sk la fs d = ((la, 48), fs', outs, none) ∧
        payloadRes false cfg sk la fs d = ((la, 48), fs', [], none) ∧
        outs.filter nonEmpty = [] ∧ fs'.frame.lines.length ≤ 64) ∨
    (∃ fs1 fs', payloadRes false cfg sk la fs d = ((sk, la), fs1, [], some .callback) ∧
        fs1.newFrame = true ∧ fs1.frame.lines ≠ [] ∧ fs1.frame.lines.length ≤ 64 ∧ fs'.frame.lines.length ≤ 64 ∧
        payloadRes true cfg sk la fs d = ((la, 48), fs', [{ pts := fs1.framePts, lines := fs1.frame.lines }], none) ∧
        Restarts cfg la d fs1.packetPts fs') := by
  rcases hx : extract cfg (fsStart { fs with frame := { fs.frame with nDu := 0 } }).frame d with ⟨f, r, rest⟩
  have hlf := extract_lines _ d f r rest hx (fsStart_lines _ hL)
  by_cases hr : r = .newFrame
  · subst hr
    obtain ⟨f2, r2, rest2, hx2, hr2, hH⟩ := payload_restart cfg hse hpd la _ f d rest (fsStart_ndu fs) hx
    have hr2n : r2 ≠ .newFrame := by rcases hr2 with rfl | rfl <;> simp
    have hnf := fun cb => pesPacketFrame_nf 2 cb cfg.corSkipsEmpty _ d f rest hx
    have hnew := fun cb => pesPacketFrame_new 1 cb cfg.corSkipsEmpty
      { fsStart { fs with frame := { fs.frame with nDu := 0 } } with frame := f, newFrame := true } rest f2 r2 rest2
      rfl hx2 hr2n
    generalize hfs2 : ({ fsStart { fs with frame := { fs.frame with nDu := 0 } } with frame := f, newFrame := true } : FS)
      = fs2 at hnf hnew
    have hfs2n : fs2.newFrame = true := by rw [← hfs2]
    have hfs2f : fs2.frame = f := by rw [← hfs2]
    have hfs2p : fs2.framePts = (fsStart { fs with frame := { fs.frame with nDu := 0 } }).framePts := by rw [← hfs2]
    have hl2 := extract_lines {} rest f2 r2 rest2 hx2 (Nat.zero_le _)
    have ht := hnf true
    rw [hnew true] at ht
    simp only [Bool.not_true, Bool.false_eq_true, if_false] at ht
    have h1 := payloadRes_of true cfg sk la fs _ d _ _ rest2 ht
    rw [payFin_next _ _ _ _ _ _ hr2] at h1
    have hf := hnf false
    simp only [Bool.not_false, if_true] at hf
    by_cases hemp : f.lines.isEmpty = true
    · left
      rw [if_pos ⟨hse, hemp⟩, hnew false] at hf
      have h2 := payloadRes_of false cfg sk la fs _ d _ _ rest2 hf
      rw [payFin_next _ _ _ _ _ _ hr2] at h2
      exact ⟨_, _, h1, h2, by simp [nonEmpty, hemp], payFs_lines cfg _ _ hl2⟩
    · right
      rw [if_neg (fun h => hemp h.2)] at hf
      have hne : fs2.frame.lines ≠ [] := by
        rw [hfs2f]; intro h; rw [h] at hemp; exact hemp rfl
      exact ⟨fs2, _, payloadRes_of false cfg sk la fs _ d _ _ rest hf, hfs2n, hne, by rw [hfs2f]; exact hlf,
        payFs_lines cfg _ _ hl2, by rw [h1, hfs2p, hfs2f], hH fs2.packetPts⟩
  · left
    have hr2 := extract_done_or_err _ d f r rest hd hx hr
    have hp := fun cb => pesPacketFrame_round 2 cb cfg.corSkipsEmpty _ d f r rest hx hr
    exact ⟨_, [], by rw [payloadRes_of true cfg sk la fs _ d [] _ rest (hp true), payFin_next _ _ _ _ _ _ hr2],
      by rw [payloadRes_of false cfg sk la fs _ d [] _ rest (hp false), payFin_next _ _ _ _ _ _ hr2], rfl,
      payFs_lines cfg _ _ hlf⟩

/-- an iteration on a payload that starts at a frame start never stops with `VBI_ERR_CALLBACK`
(the call after a hand-over always gets past the packet it was interrupted in) -/
theorem payload_new_no_callback (cfg : SrcCfg) (hse : cfg.corSkipsEmpty = true) (sk la : Nat) (fs : FS) (d : Bytes)
    (hd : 2 ≤ d.length) (hn : fs.newFrame = true) : (payloadRes false cfg sk la fs d).2.2.2 = none := by
  have hn0 : ({ fs with frame := { fs.frame with nDu := 0 } } : FS).newFrame = true := hn
  rcases hx : extract cfg {} d with ⟨f, r, rest⟩
  by_cases hr : r = .newFrame
  · subst hr
    have hl : f.lines = [] := extract_newFrame_lines {} d f rest hx
    have haft := extract_after_newFrame {} f d rest hx
    rcases hx2 : extract cfg {} rest with ⟨f2, r2, rest2⟩
    rw [hx2] at haft
    have hr2 := extract_done_or_err {} rest f2 r2 rest2 haft.1 hx2 haft.2
    have hx' : extract cfg (fsStart { fs with frame := { fs.frame with nDu := 0 } }).frame d = (f, .newFrame, rest) := by
      rw [fsStart_new _ hn0]; exact hx
    have hp := pesPacketFrame_nf 2 false cfg.corSkipsEmpty _ d f rest hx'
    have hp2 := pesPacketFrame_new 1 false cfg.corSkipsEmpty
      { fsStart { fs with frame := { fs.frame with nDu := 0 } } with frame := f, newFrame := true } rest f2 r2 rest2
      rfl hx2 haft.2
    simp only [Bool.not_false, if_true] at hp
    rw [if_pos ⟨hse, by rw [hl]; rfl⟩, hp2] at hp
    rw [payloadRes_of false cfg sk la fs _ d [] _ rest2 hp, payFin_next _ _ _ _ _ _ hr2]
  · have hr2 := extract_done_or_err {} d f r rest hd hx hr
    have hp := pesPacketFrame_new 2 false cfg.corSkipsEmpty _ d f r rest hn0 hx hr
    rw [payloadRes_of false cfg sk la fs _ d [] _ rest hp, payFin_next _ _ _ _ _ _ hr2]

/-- one loop body without / with a callback on the same window (repaired source) -/
theorem pesIter_cor (hse : cfg.corSkipsEmpty = true) (hpd : cfg.pesDiscards = true)
    (sk la : Nat) (fs : FS) (win : Bytes) (hla : 48 ≤ la) (hw : la ≤ win.length)
    (hL : fs.frame.lines.length ≤ 64) :
    (∃ sk' la' fs' outs, pesIter true cfg sk la fs win = ((sk', la'), fs', outs, none) ∧
        pesIter false cfg sk la fs win = ((sk', la'), fs', [], none) ∧
        outs.filter nonEmpty = [] ∧ fs'.frame.lines.length ≤ 64 ∧
        1 ≤ sk' ∧ 48 ≤ la' ∧ la' ≤ 65495 ∧ la < sk' + la') ∨
    (la > 48 ∧ ∃ fs1 fs', pesIter false cfg sk la fs win = ((sk, la), fs1, [], some .callback) ∧
        fs1.newFrame = true ∧ fs1.frame.lines ≠ [] ∧ fs1.frame.lines.length ≤ 64 ∧ fs'.frame.lines.length ≤ 64 ∧
        pesIter true cfg sk la fs win = ((la, 48), fs', [{ pts := fs1.framePts, lines := fs1.frame.lines }], none) ∧
        Restarts cfg la (win.take la) fs1.packetPts fs') := by
  by_cases hp : la > 48
  · have htl : 2 ≤ (win.take la).length := by simp only [List.length_take]; omega
    rw [pesIter_payload _ _ _ _ _ hp hw, pesIter_payload _ _ _ _ _ hp hw]
    rcases payload_cor cfg hse hpd sk la fs (win.take la) htl hL with
      ⟨fs', outs, h1, h2, h3, h4⟩ | ⟨fs1, fs', h⟩
    · exact Or.inl ⟨la, 48, fs', outs, h1, h2, h3, h4, by omega, by omega, by omega, by omega⟩
    · exact Or.inr ⟨hp, fs1, fs', h⟩
  · left
    have h48 : la = 48 := by omega
    subst h48
    obtain ⟨sk', la', fs', outs, h1, b1, b2, b3, _⟩ :=
      pesIter_arun (cfg := cfg) win fs sk 48 hla hw
    -- the scan branch does not look at the callback; it delivers nothing and leaves the frame alone
    have hcb : pesIter false cfg sk 48 fs win = pesIter true cfg sk 48 fs win := by
      rw [pesIter_scan false sk fs win hw, pesIter_scan true sk fs win hw]
    have hfr := pesIter_scan_frame (cfg := cfg) true sk 48 fs win (Nat.le_refl _)
    rw [h1] at hfr
    obtain ⟨rfl, hf1⟩ := hfr
    exact ⟨sk', la', fs', [], h1, hcb.trans h1, rfl, by rw [hf1]; exact hL, b1, b2, b3, by omega⟩

theorem pesIter_new_no_callback (hse : cfg.corSkipsEmpty = true) (sk la : Nat) (fs : FS) (win : Bytes)
    (hp : la > 48) (hw : la ≤ win.length) (hn : fs.newFrame = true) :
    (pesIter false cfg sk la fs win).2.2.2 = none := by
  rw [pesIter_payload _ _ _ _ _ hp hw]
  exact payload_new_no_callback cfg hse sk la fs _ (by simp only [List.length_take]; omega) hn

end Zvbi.Demux
