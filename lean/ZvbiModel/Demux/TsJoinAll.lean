import ZvbiModel.Demux.TsJoinPes
/-!
# TS path joined with the multiplexer: a whole TS stream of accepted PES packets

`tsAll pid cc pks` = the TS packets the multiplexer makes of the PES packets `pks` one after the other
(continuity counter running on from `cc`).  With foreign packets interleaved anywhere and fed to a new
TS demultiplexer, the frames delivered are the PES packets but the last (which is held), exactly as in the
PES path (`Pkts`, `pkts_start`, `arun_pkts` in `JoinStream.lean`) - from the FIRST packet on when
the source has fix dvb-demux-ts-first-packet (F30).
-/
namespace Zvbi.Demux
open Zvbi.Mux.EnParse
variable {cfg : SrcCfg}

/-- the TS packets of a sequence of PES packets (`vbi_dvb_mux_feed` in TS mode, one call per packet) -/
def tsAll (pid : Nat) : Nat → List Bytes → List Bytes
  | _, [] => []
  | cc, pk :: pks => Zvbi.Mux.tsLoop pid (pk.length / 184) true cc pk ++ tsAll pid ((cc + pk.length / 184) % 2 ^ 32) pks

theorem tsLoop_tsPkt (pid : Nat) : ∀ (n : Nat) (first : Bool) (cc : Nat) (rest : Bytes), rest.length = 184 * n →
    ∀ x ∈ Zvbi.Mux.tsLoop pid n first cc rest, TsPkt x := by
  intro n
  induction n with
  | zero => intro first cc rest _ x hx; cases hx
  | succ n ih =>
    intro first cc rest hl x hx
    rw [tsLoop_succ] at hx
    rcases List.mem_cons.mp hx with rfl | hx
    · exact muxPkt_tsPkt pid cc first _ (by rw [List.length_take]; omega)
    · exact ih false _ (rest.drop 184) (by rw [List.length_drop]; omega) x hx

theorem parsePes_len (pk : Bytes) (p : Pes) (h : parsePes pk = some p) : pk.length = 184 * (pk.length / 184) ∧ 1 ≤ pk.length / 184 := by
  obtain ⟨_, h184, hpos⟩ := Zvbi.Mux.parsePes_sizefield pk p h
  omega

theorem tsAll_tsPkt (pid : Nat) : ∀ (pks : List (Bytes × Pes)) (cc : Nat), (∀ x ∈ pks, parsePes x.1 = some x.2) →
    ∀ y ∈ tsAll pid cc (pks.map Prod.fst), TsPkt y := by
  intro pks
  induction pks with
  | nil => intro cc _ y hy; cases hy
  | cons x pks ih =>
    intro cc hp y hy
    simp only [List.map_cons, tsAll] at hy
    rcases List.mem_append.mp hy with hy | hy
    · exact tsLoop_tsPkt pid _ true cc x.1 (parsePes_len x.1 x.2 (hp x (List.mem_cons_self ..))).1 y hy
    · exact ih _ (fun z hz => hp z (List.mem_cons_of_mem _ hz)) y hy

theorem tsAll_length (pid : Nat) : ∀ (pks : List (Bytes × Pes)) (cc : Nat), (∀ x ∈ pks, parsePes x.1 = some x.2) →
    pks.length ≤ (tsAll pid cc (pks.map Prod.fst)).length := by
  intro pks
  induction pks with
  | nil => intro _ _; simp [tsAll]
  | cons x pks ih =>
    intro cc hp
    have h1 := (parsePes_len x.1 x.2 (hp x (List.mem_cons_self ..))).2
    have h2 := ih ((cc + x.1.length / 184) % 2 ^ 32) (fun z hz => hp z (List.mem_cons_of_mem _ hz))
    simp only [List.map_cons, tsAll, List.length_append, Zvbi.Mux.tsLoop_length, List.length_cons]
    omega

theorem Merge.length_le {pid : Nat} : ∀ {xs ps : List Bytes}, Merge pid ps xs → ps.length ≤ xs.length := by
  intro xs
  induction xs with
  | nil => intro ps h; cases h; simp
  | cons x xs ih =>
    intro ps h
    cases h with
    | own p ps' _ h' => have := ih h'; simp only [List.length_cons]; omega
    | other _ _ _ _ h' => have := ih h'; simp only [List.length_cons]; omega

/-- TS path: the TS demultiplexer waiting for a PES packet start, reading the packets `pks` as the multiplexer's TS packets
(foreign packets interleaved), does to the frame state what `Pkts` says -/
theorem effs_pkts (pid : Nat) (hpid : pid < 0x2000) {fs fs2 : FS} {pks : List (Bytes × Pes)} {outs : List FrameOut}
    (h : Pkts cfg fs pks fs2 outs) : ∀ (xs : List Bytes) (pesOld : Bytes) (cont : Option Nat) (cc : Nat), ContOK cont cc →
      Merge pid (tsAll pid cc (pks.map Prod.fst)) xs →
      ∃ pesEnd contEnd, Effs cfg pid ⟨fs, pesOld, 0, cont⟩ xs ⟨fs2, pesEnd, 0, contEnd⟩ outs := by
  induction h with
  | nil fs =>
    intro xs pesOld cont cc _ hm
    exact ⟨pesOld, cont, by simpa [tsAll] using effs_foreign (cfg := cfg) pid ⟨fs, pesOld, 0, cont⟩ xs hm⟩
  | @cons fs fs1 fs2 pk p pks o1 o2 hp hb h1 _ ih =>
    intro xs pesOld cont cc hcont hm
    simp only [List.map_cons, tsAll] at hm
    obtain ⟨xa, xb, rfl, hma, hmb⟩ := Merge.split hm
    obtain ⟨c', hea, hc'⟩ := effs_pes (cfg := cfg) pid hpid fs fs1 o1 pk p hp hb (h1 false) xa pesOld cont cc hcont hma
    obtain ⟨pesEnd, contEnd, heb⟩ := ih xb pk (some c') ((cc + pk.length / 184) % 2 ^ 32) (Or.inr ⟨c', rfl, by omega⟩) hmb
    exact ⟨pesEnd, contEnd, Effs.append hea heb⟩

/-- fewer than 197 bytes into a new demultiplexer: it still collects bytes for the sync search -/
theorem tsFeed_short (pid : Nat) (b : Bytes) (h : b.length < 197) : (tsFeed cfg (TsSt.init pid) b).frames = [] := by
  by_cases hne : b.length = 0
  · unfold tsFeed; rw [if_pos hne]
  · have hstep : tsStep cfg true false (TsSt.init pid) b
        = ({ TsSt.init pid with tsBuf := b, lookahead := 197 - b.length }, [], b.length, .stop .needMore) := by
      have h1 : 197 > b.length := h
      have h2 : ¬ 208 < b.length := by omega
      rw [tsStep_idle _ _ _ _ rfl rfl rfl]
      simp [tsPhaseD, TsSt.init, TS_SYNC_SEARCH_LOOKAHEAD, TS_BUF_SIZE, h1, h2]
    rw [tsFeed_of_run _ _ b [] b.length hne (by rw [tsRun, hstep])]

/-- **a TS stream of accepted PES packets through a new TS demultiplexer (whole).**  PES packets `pks` the
standards reader accepts (bytes < 256) that are separable frames, packetised as the multiplexer does it from
any continuity counter `cc`, foreign packets interleaved anywhere (`Merge`), source with fix
dvb-demux-ts-first-packet: the frames delivered are the packets but the last, from the first one on; with at
least two TS packets in the stream the demultiplexer ends in sync at a TS packet boundary, waits for a PES
packet start and holds the last frame. -/
theorem ts_stream_frames (hflag : cfg.tsCompletesInHeader = true) (pid : Nat) (hpid : pid < 0x2000)
    (pks : List (Bytes × Pes)) (cc : Nat) (xs : List Bytes)
    (hp : ∀ y ∈ pks, parsePes y.1 = some y.2) (hb : ∀ y ∈ pks, ∀ b ∈ y.1, b < 256)
    (hsep : Sep cfg (pks.map fun x => x.2.lines)) (hm : Merge pid (tsAll pid cc (pks.map Prod.fst)) xs) :
    (tsFeed cfg (TsSt.init pid) xs.flatten).frames = ((pks.map Prod.snd).dropLast).map outOf
    ∧ (2 ≤ xs.length → ∃ v', (tsFeed cfg (TsSt.init pid) xs.flatten).st = mkAt pid v' [] ∧ v'.todo = 0
        ∧ ∀ hne : pks.map Prod.snd ≠ [], Holds v'.fs ((pks.map Prod.snd).getLast hne).pts ((pks.map Prod.snd).getLast hne).lines) := by
  have hpk : ∀ x ∈ xs, TsPkt x := merge_tsPkt hm (tsAll_tsPkt pid pks cc hp)
  have hlen := Nat.le_trans (tsAll_length pid pks cc hp) (Merge.length_le hm)
  have heff : ∃ v', Effs cfg pid V.init xs v' (((pks.map Prod.snd).dropLast).map outOf) ∧ v'.todo = 0
      ∧ ∀ hne : pks.map Prod.snd ≠ [], Holds v'.fs ((pks.map Prod.snd).getLast hne).pts ((pks.map Prod.snd).getLast hne).lines := by
    cases pks with
    | nil =>
      refine ⟨V.init, ?_, rfl, fun hne => absurd rfl hne⟩
      simpa [tsAll] using effs_foreign (cfg := cfg) pid V.init xs (by simpa [tsAll] using hm)
    | cons x pks =>
      obtain ⟨fsEnd, hpk, hend⟩ := pkts_start (cfg := cfg) x pks {} rfl hp hb hsep
      obtain ⟨pesEnd, contEnd, he⟩ := effs_pkts pid hpid hpk xs [] none cc (Or.inl rfl) hm
      exact ⟨⟨fsEnd, pesEnd, 0, contEnd⟩, he, rfl, fun _ => hend⟩
  obtain ⟨v', he, hv0, hend⟩ := heff
  rcases xs with _ | ⟨x1, _ | ⟨x2, rest⟩⟩
  · refine ⟨?_, fun h => by simp at h⟩
    have : pks = [] := List.eq_nil_of_length_eq_zero (by simpa using hlen)
    subst this
    simp [tsFeed]
  · refine ⟨?_, fun h => by simp at h⟩
    rw [tsFeed_short pid _ (by simp [(hpk x1 (List.mem_cons_self ..)).1])]
    have h1 : pks.length ≤ 1 := by simpa using hlen
    rcases pks with _ | ⟨a, _ | ⟨b, t⟩⟩
    · rfl
    · rfl
    · simp at h1
  · obtain ⟨hst, hfr⟩ := tsFeed_stream (cfg := cfg) hflag pid x1 x2 rest v' _ hpk he
    exact ⟨hfr, fun _ => ⟨v', hst, hv0, hend⟩⟩

end Zvbi.Demux
