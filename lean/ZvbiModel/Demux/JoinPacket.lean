import ZvbiModel.Demux.JoinFrame
import ZvbiModel.Mux.LemmasStream
import ZvbiModel.Util.Bits
/-!
# Parser equivalence, PES packet level  (join of C06 and C07)

One packet that the standards reader accepts (`EnParse.parsePes pk = some p`, bytes < 256), seen by
the stream machine `arun` at a packet boundary (`skip = 0`, `lookahead = 48`): the start code is
found at once, the header is valid, the PTS the demultiplexer decodes is the reader's PTS, the
payload is the data unit region, and afterwards the machine is at the next packet boundary.
-/
namespace Zvbi.Demux
open Zvbi.Mux.EnParse

theorem parseUnitsF_inv : ∀ (f : Nat) (bs : Bytes) (us : List DataUnit), parseUnitsF f bs = some us → encUnits us = bs := by
  intro f
  induction f with
  | zero =>
    intro bs us h
    cases bs with
    | nil => simp only [parseUnitsF, Option.some.injEq] at h; subst h; rfl
    | cons b bs => simp [parseUnitsF] at h
  | succ f ih =>
    intro bs us h
    rcases bs with _ | ⟨id, _ | ⟨len, rest⟩⟩
    · simp only [parseUnitsF, Option.some.injEq] at h; subst h; rfl
    · simp [parseUnitsF] at h
    · simp only [parseUnitsF] at h
      split at h
      · rename_i hle
        cases hr : parseUnitsF f (rest.drop len) with
        | none => rw [hr] at h; simp at h
        | some us' =>
          rw [hr] at h
          simp only [Option.some.injEq] at h
          subst h
          have := ih _ _ hr
          simp only [encUnits, this, List.length_take, Nat.min_eq_left hle, List.take_append_drop]
      · cases h

theorem parseUnits_inv (bs : Bytes) (us : List DataUnit) (h : parseUnits bs = some us) : encUnits us = bs :=
  parseUnitsF_inv _ bs us h

theorem andFE (x : Nat) (h : x < 256) : x &&& 0xFE = x / 2 * 2 := by
  have := Zvbi.Bits.and_field x 1 7
  simp only [Nat.reducePow, Nat.reduceAdd, Nat.reduceSub] at this
  omega

/-- `decode_timestamp` computes the number ISO 13818-1 2.4.3.7 defines (`EnParse.parsePts`) -/
theorem decodeTimestamp_eq (p0 p1 p2 p3 p4 : Nat) (rest : Bytes) (h1 : p1 < 256) (h2 : p2 < 256) (h3 : p3 < 256)
    (h4 : p4 < 256) :
    decodeTimestamp (p0 :: p1 :: p2 :: p3 :: p4 :: rest)
      = p0 / 2 % 8 * 2 ^ 30 + p1 * 2 ^ 22 + p2 / 2 * 2 ^ 15 + p3 * 2 ^ 7 + p4 / 2 := by
  unfold decodeTimestamp
  simp only [List.getD_cons_zero, List.getD_cons_succ]
  have e2 : (p2 / 2 * 2) <<< 14 = (p2 / 2) <<< 15 := by rw [Nat.shiftLeft_eq, Nat.shiftLeft_eq]; omega
  have e0 : (p0 % 16 / 2 * 2) <<< 29 = (p0 % 16 / 2) <<< 30 := by rw [Nat.shiftLeft_eq, Nat.shiftLeft_eq]; omega
  rw [andFE p2 h2, Zvbi.Mux.and14 p0, e2, e0, Nat.or_comm, Nat.or_assoc, Nat.or_assoc, Nat.shiftRight_eq_div_pow,
    Bits.shl_or p3 _ 7 (by omega), Bits.shl_or _ _ 15 (by omega), Bits.shl_or p1 _ 22 (by omega),
    Bits.shl_or _ _ 30 (by omega)]
  omega

theorem decodeTimestamp_parsePts (T rest : Bytes) (v : Nat) (hb : ∀ b ∈ T, b < 256) (h : parsePts T = some v) :
    decodeTimestamp (T ++ rest) = v := by
  unfold parsePts at h
  split at h
  · rename_i p0 p1 p2 p3 p4
    split at h
    · simp only [Option.some.injEq] at h
      subst h
      exact decodeTimestamp_eq p0 p1 p2 p3 p4 rest (hb p1 (by simp)) (hb p2 (by simp)) (hb p3 (by simp)) (hb p4 (by simp))
    · cases h
  · cases h

def flagsCheck (b : Nat) : Bool := !(b / 64 = 2 ∧ b / 16 % 4 = 0 ∧ b / 4 % 2 = 1) || (b &&& 0xF4 = 0x84)
theorem flagsCheck_all : ∀ b < 256, flagsCheck b = true := by decide +kernel

/-- the reader's conditions on the first PES flag byte are the demultiplexer's mask test -/
theorem flags_agree (b : Nat) (h1 : b / 64 = 2) (h2 : b / 16 % 4 = 0) (h3 : b / 4 % 2 = 1) : b &&& 0xF4 = 0x84 := by
  have := flagsCheck_all b (by omega)
  simpa [flagsCheck, h1, h2, h3] using this

/-- the shape of a packet the reader accepts -/
theorem parsePes_inv (bs : Bytes) (p : Pes) (h : parsePes bs = some p) :
    ∃ lenHi lenLo b6 T did us,
      bs = 0x00 :: 0x00 :: 0x01 :: 0xBD :: lenHi :: lenLo :: b6 :: 0x80 :: 0x24 :: (T ++ (List.replicate 31 0xFF ++ did :: encUnits us))
      ∧ T.length = 5 ∧ lenHi * 256 + lenLo + 6 = bs.length ∧ bs.length % 184 = 0
      ∧ b6 &&& 0xF4 = 0x84 ∧ validDataId did = true ∧ parsePts T = some p.pts ∧ unitsLines us = some p.lines
      ∧ p.size = bs.length ∧ p.dataId = did := by
  unfold parsePes at h
  split at h
  · rename_i lenHi lenLo b6 b7 b8 rest
    simp only [] at h
    split at h
    · cases h
    · rename_i hc1
      split at h
      · cases h
      · rename_i hc2
        split at h
        · cases h
        · rename_i hc3
          split at h
          · rename_i pts us hpts hus
            split at h
            · cases h
            · split at h
              · rename_i ls hls
                simp only [Option.some.injEq] at h
                subst h
                -- the reader's three rejection tests failed: each of their disjuncts is false
                simp only [not_or, Decidable.not_not] at hc1 hc2 hc3
                obtain ⟨h6a, h6b, h6c, h7, h8⟩ := hc2
                obtain ⟨hlen', hst, hdid⟩ := hc3
                have hlen : 37 ≤ rest.length := by omega
                have hsz := hc1
                subst h7; subst h8
                refine ⟨lenHi, lenLo, b6, rest.take 5, (rest.drop 36).getD 0 0, us, ?_, by simp; omega, hsz.1, hsz.2,
                  flags_agree b6 h6a h6b h6c, hdid, hpts, hls, rfl, rfl⟩
                have hbody := parseUnits_inv _ _ hus
                rw [hbody, ← hst]
                have e1 : rest.drop 36 = (rest.drop 36).getD 0 0 :: rest.drop 37 := by
                  have : rest.drop 36 ≠ [] := by
                    intro hn; have := congrArg List.length hn; simp at this; omega
                  obtain ⟨x, xs, hx⟩ := List.exists_cons_of_ne_nil this
                  have h37 : rest.drop 37 = xs := by
                    have : rest.drop 37 = (rest.drop 36).drop 1 := by rw [List.drop_drop]
                    rw [this, hx]; rfl
                  rw [h37, hx]; rfl
                have e2 : rest = rest.take 5 ++ ((rest.drop 5).take 31 ++ rest.drop 36) := by
                  have a : rest.drop 36 = (rest.drop 5).drop 31 := by rw [List.drop_drop]
                  rw [a, List.take_append_drop, List.take_append_drop]
                rw [← e1, ← e2]
              · cases h
          · cases h
  · cases h

variable {cfg : SrcCfg}

/-- the 46 header bytes of a VBI PES packet (start code .. data_identifier) -/
def hdr46 (lenHi lenLo b6 t0 t1 t2 t3 t4 did : Nat) : Bytes :=
  [0x00, 0x00, 0x01, 0xBD, lenHi, lenLo, b6, 0x80, 0x24, t0, t1, t2, t3, t4,
   0xFF, 0xFF, 0xFF, 0xFF, 0xFF, 0xFF, 0xFF, 0xFF, 0xFF, 0xFF, 0xFF, 0xFF, 0xFF, 0xFF, 0xFF, 0xFF,
   0xFF, 0xFF, 0xFF, 0xFF, 0xFF, 0xFF, 0xFF, 0xFF, 0xFF, 0xFF, 0xFF, 0xFF, 0xFF, 0xFF, 0xFF, did]

theorem hdr46_eq (lenHi lenLo b6 t0 t1 t2 t3 t4 did : Nat) (body : Bytes) :
    0x00 :: 0x00 :: 0x01 :: 0xBD :: lenHi :: lenLo :: b6 :: 0x80 :: 0x24 :: ([t0, t1, t2, t3, t4] ++ (List.replicate 31 0xFF ++ did :: body))
      = hdr46 lenHi lenLo b6 t0 t1 t2 t3 t4 did ++ body := by
  simp [hdr46, List.replicate]

theorem validHeader_hdr46 (fs : FS) (lenHi lenLo b6 t0 t1 t2 t3 t4 did : Nat) (h6 : b6 &&& 0xF4 = 0x84)
    (hdid : validDataId did = true) :
    validHeader fs (hdr46 lenHi lenLo b6 t0 t1 t2 t3 t4 did)
      = some { fs with packetPts := decodeTimestamp [t0, t1, t2, t3, t4] } := by
  have hv : validDataId did = true := hdid
  unfold validDataId at hv
  simp only [Bool.or_eq_true, Bool.and_eq_true, decide_eq_true_eq] at hv
  unfold validHeader hdr46
  simp only [List.getD_cons_zero, List.getD_cons_succ, h6]
  simp only [ne_eq, not_true_eq_false, if_false]
  rw [if_neg (fun h => h hv), if_pos (Or.inl (by decide))]
  rfl

/-- the shape of an accepted PES packet, as both paths look at it: start code, `PES_packet_length`, a header that
`valid_vbi_pes_packet_header` accepts with the reader's PTS, then the data units `us` -/
structure PesShape (pk : Bytes) (p : Pes) (us : List DataUnit) : Prop where
  lines : unitsLines us = some p.lines
  units : pk.drop 46 = encUnits us
  len : 184 ≤ pk.length
  mod : pk.length % 184 = 0
  b0 : pk.getD 0 0 = 0
  b1 : pk.getD 1 0 = 0
  b2 : pk.getD 2 0 = 1
  b3 : pk.getD 3 0 = 0xBD
  size : (pk.getD 4 0 % 256) * 256 + pk.getD 5 0 % 256 + 6 = pk.length
  hdr : ∀ fs : FS, validHeader fs (pk.take 46) = some { fs with packetPts := p.pts }

theorem pes_shape (pk : Bytes) (p : Pes) (hp : parsePes pk = some p) (hb : ∀ b ∈ pk, b < 256) : ∃ us, PesShape pk p us := by
  obtain ⟨lenHi, lenLo, b6, T, did, us, hpk, hT, hlen, h184, h6, hdid, hpts, hul, _, _⟩ := parsePes_inv pk p hp
  rcases T with _ | ⟨t0, _ | ⟨t1, _ | ⟨t2, _ | ⟨t3, _ | ⟨t4, _ | ⟨t5, T⟩⟩⟩⟩⟩⟩ <;> simp at hT
  rw [hdr46_eq] at hpk
  have hh : (hdr46 lenHi lenLo b6 t0 t1 t2 t3 t4 did).length = 46 := rfl
  have hpl : pk.length = 46 + (encUnits us).length := by rw [hpk, List.length_append, hh]
  have hHi : lenHi < 256 := hb _ (by rw [hpk]; simp [hdr46])
  have hLo : lenLo < 256 := hb _ (by rw [hpk]; simp [hdr46])
  have hbT : ∀ b ∈ [t0, t1, t2, t3, t4], b < 256 := by
    intro b hbm; apply hb; rw [hpk]
    simp only [List.mem_cons, List.not_mem_nil, or_false] at hbm
    rcases hbm with rfl | rfl | rfl | rfl | rfl <;> simp [hdr46]
  have hv : decodeTimestamp [t0, t1, t2, t3, t4] = p.pts := by
    have := decodeTimestamp_parsePts [t0, t1, t2, t3, t4] [] p.pts hbT hpts
    simpa using this
  have g : ∀ i, i < 46 → pk.getD i 0 = (hdr46 lenHi lenLo b6 t0 t1 t2 t3 t4 did).getD i 0 := by
    intro i hi; rw [hpk]; exact getD_append_left _ _ i (by rw [hh]; exact hi)
  refine ⟨us, hul, ?_, by omega, h184, ?_, ?_, ?_, ?_, ?_, ?_⟩
  · rw [hpk, List.drop_append_of_le_length (by rw [hh]; exact Nat.le_refl _), List.drop_of_length_le (by rw [hh]; exact Nat.le_refl _)]
    rfl
  · rw [g 0 (by omega)]; rfl
  · rw [g 1 (by omega)]; rfl
  · rw [g 2 (by omega)]; rfl
  · rw [g 3 (by omega)]; rfl
  · rw [g 4 (by omega), g 5 (by omega)]
    show lenHi % 256 * 256 + lenLo % 256 + 6 = pk.length
    rw [Nat.mod_eq_of_lt hHi, Nat.mod_eq_of_lt hLo]; exact hlen
  · intro fs
    have : pk.take 46 = hdr46 lenHi lenLo b6 t0 t1 t2 t3 t4 did := by
      rw [hpk, List.take_append_of_le_length (by rw [hh]; exact Nat.le_refl _), List.take_of_length_le (by rw [hh]; exact Nat.le_refl _)]
    rw [this, validHeader_hdr46 fs _ _ _ _ _ _ _ _ _ h6 hdid, hv]

theorem cons4_of_getD (l : Bytes) (h : 4 ≤ l.length) :
    l = l.getD 0 0 :: l.getD 1 0 :: l.getD 2 0 :: l.getD 3 0 :: l.drop 4 := by
  rcases l with _ | ⟨a, _ | ⟨b, _ | ⟨c, _ | ⟨d, r⟩⟩⟩⟩ <;> simp at h ⊢

/-- header step at a packet boundary, from the shape of an accepted packet -/
theorem micro_accepted (fs : FS) (pk rest : Bytes) (p : Pes) (hp : parsePes pk = some p) (hb : ∀ b ∈ pk, b < 256) :
    micro cfg { skip := 0, lookahead := 48, fs := fs } ((pk ++ rest).take 48)
      = ((46, pk.length - 46), { fs with packetPts := p.pts }, [], none) := by
  obtain ⟨us, hs⟩ := pes_shape pk p hp hb
  have h184 := hs.len
  have glen := hs.size
  have hw : (pk ++ rest).take 48 = pk.take 48 := List.take_append_of_le_length (by omega)
  have hwl : (pk.take 48).length = 48 := by rw [List.length_take]; omega
  have g : ∀ i, i < 48 → (pk.take 48).getD i 0 = pk.getD i 0 := fun i hi => getD_take pk 48 i hi
  have hc := cons4_of_getD (pk.take 48) (by omega)
  rw [g 0 (by omega), g 1 (by omega), g 2 (by omega), g 3 (by omega), hs.b0, hs.b1, hs.b2, hs.b3] at hc
  rw [hw, hc, micro_scan48 _ _ _ _ _ _ (by rw [List.length_drop, hwl]), show scanPos 0 0 1 189 = .found from by decide,
    ScanD.res, ← hc, scanFinish_found _ _ _ _ (by simp only [List.drop_zero, List.take_take, List.length_take]; omega)]
  simp only [List.drop_zero, List.take_take, show min 46 48 = 46 from rfl]
  unfold foundRes
  simp only [getD_take pk 46 4 (by omega), getD_take pk 46 5 (by omega)]
  rw [if_neg (by omega), hs.hdr fs]
  simp only [Prod.mk.injEq, true_and, and_true]
  omega

/-- one accepted packet at a packet boundary: header step, skip to the payload, payload step, skip to
the next packet boundary - for whatever the payload step (`payloadRes`: `demux_pes_packet_frame` and
the error handling behind it) does to the frame state, as long as it does not stop the loop. -/
theorem arun_packet_res (fs : FS) (pk rest : Bytes) (p : Pes) (hp : parsePes pk = some p) (hb : ∀ b ∈ pk, b < 256)
    (fs2 : FS) (outs : List FrameOut)
    (hpf : payloadRes true cfg 0 (pk.length - 46) { fs with packetPts := p.pts } (pk.drop 46)
            = ((pk.length - 46, 48), fs2, outs, none)) :
    arun cfg { skip := 0, lookahead := 48, fs := fs } (pk ++ rest)
      = (arun cfg { skip := 0, lookahead := 48, fs := fs2 } rest).pre outs := by
  obtain ⟨_, hs⟩ := pes_shape pk p hp hb
  have h184 := hs.len
  have hl : (pk.drop 46).length = pk.length - 46 := List.length_drop
  have hd46 : (pk ++ rest).drop 46 = pk.drop 46 ++ rest := List.drop_append_of_le_length (by omega)
  rw [arun_micro _ _ 46 (pk.length - 46) { fs with packetPts := p.pts } [] rfl (by simp only [List.length_append]; omega)
    (by simp only [List.length_append]; omega) (micro_accepted fs pk rest p hp hb) (by omega), ARes.pre_nil]
  have s2 := arun_skip (cfg := cfg) (pk ++ rest) 46 0 (pk.length - 46) { fs with packetPts := p.pts }
    (by simp only [List.length_append]; omega)
  rw [Nat.add_zero, hd46] at s2
  rw [s2]
  rw [arun_micro _ _ (pk.length - 46) 48 fs2 outs rfl (by simp only [List.length_append, hl]; omega)
    (by simp only [List.length_append, hl]; omega)
    (by show pesIter true cfg 0 (pk.length - 46) _ ((pk.drop 46 ++ rest).take (pk.length - 46)) = _
        rw [List.take_append_of_le_length (Nat.le_of_eq hl.symm), pesIter_payload _ _ _ _ _ (by omega) (by rw [List.length_take]; omega),
          List.take_take, Nat.min_self, List.take_of_length_le (Nat.le_of_eq hl)]
        exact hpf)
    (by omega)]
  have s4 := arun_skip (cfg := cfg) (pk.drop 46 ++ rest) (pk.length - 46) 0 48 fs2 (by simp only [List.length_append, hl]; omega)
  rw [Nat.add_zero, List.drop_append_of_le_length (Nat.le_of_eq hl.symm), List.drop_of_length_le (Nat.le_of_eq hl), List.nil_append] at s4
  rw [s4]

/-- one accepted packet when the payload step succeeds (result 0) or ends with a data unit error.  What it does to the frame state is
left to the caller (`pesPacketFrame_first` / `pesPacketFrame_next` ..). -/
theorem arun_packet (fs : FS) (pk rest : Bytes) (p : Pes) (hp : parsePes pk = some p) (hb : ∀ b ∈ pk, b < 256) :
    (∀ fs2 outs,
      pesPacketFrame cfg 3 true cfg.corSkipsEmpty
          { fs with packetPts := p.pts, frame := { fs.frame with nDu := 0 } } (pk.drop 46) = (fs2, outs, .done, []) →
      arun cfg { skip := 0, lookahead := 48, fs := fs } (pk ++ rest)
        = (arun cfg { skip := 0, lookahead := 48, fs := fs2 } rest).pre outs)
    ∧ (∀ fs2 outs rest',
      pesPacketFrame cfg 3 true cfg.corSkipsEmpty
          { fs with packetPts := p.pts, frame := { fs.frame with nDu := 0 } } (pk.drop 46) = (fs2, outs, .err, rest') →
      arun cfg { skip := 0, lookahead := 48, fs := fs } (pk ++ rest)
        = (arun cfg { skip := 0, lookahead := 48, fs := pesErrFs cfg fs2 } rest).pre outs) := by
  refine ⟨fun fs2 outs hpf => ?_, fun fs2 outs rest' hpf => ?_⟩
  · exact arun_packet_res fs pk rest p hp hb _ _ (payloadRes_of true cfg _ _ _ _ _ _ .done _ hpf)
  · exact arun_packet_res fs pk rest p hp hb _ _ (payloadRes_of true cfg _ _ _ _ _ _ .err _ hpf)

end Zvbi.Demux
