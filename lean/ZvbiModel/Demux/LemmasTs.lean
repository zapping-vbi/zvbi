import ZvbiModel.Demux.Ts
import ZvbiModel.Demux.LemmasFrame
/-!
# TS path: the loop body does not care where the input is cut  (helper lemmas for C07, TS part)
-/
namespace Zvbi.Demux

variable {cfg : SrcCfg}

def Ph.shift (k : Nat) : Ph → Ph
  | .stop s r => .stop s r
  | .go s n => .go s (k + n)

/-! ## phase C (skip) -/

theorem tsPhaseC_go (s s' : TsSt) (x y : Bytes) (n : Nat) (h : tsPhaseC s x = .go s' n) :
    n ≤ x.length ∧ tsPhaseC s (x ++ y) = .go s' n ∧ s'.skip = 0 ∧ s'.consume = s.consume ∧ s'.frameRest = s.frameRest := by
  unfold tsPhaseC at h ⊢
  split at h
  · cases h
  · rename_i hle
    cases h
    refine ⟨by omega, ?_, rfl, rfl, rfl⟩
    rw [if_neg (by simp; omega)]

theorem tsPhaseC_needMore (s s' : TsSt) (x : Bytes) (h : tsPhaseC s x = .stop s' .needMore) :
    s.skip > x.length ∧ s' = { s with skip := s.skip - x.length } := by
  unfold tsPhaseC at h
  split at h
  · cases h; exact ⟨by assumption, rfl⟩
  · cases h

theorem tsPhaseC_more (s s' : TsSt) (x y : Bytes) (h : tsPhaseC s x = .stop s' .needMore) :
    tsPhaseC s (x ++ y) = (tsPhaseC s' y).shift x.length := by
  obtain ⟨hgt, rfl⟩ := tsPhaseC_needMore s s' x h
  unfold tsPhaseC
  simp only [List.length_append]
  by_cases h2 : s.skip > x.length + y.length
  · rw [if_pos h2, if_pos (by omega)]
    simp only [Ph.shift]
    congr 2
    omega
  · rw [if_neg h2, if_neg (by omega)]
    simp only [Ph.shift]
    congr 1
    omega

theorem tsPhaseC_reentry (s : TsSt) (y : Bytes) (h : s.skip = 0) : tsPhaseC s y = .go s 0 := by
  obtain ⟨fs, tb, sk, co, la, sy, fr, pes, td, ct, pid⟩ := s
  simp only at h
  subst h
  unfold tsPhaseC
  rw [if_neg (Nat.not_lt_zero _)]

/-! ## phase D (lookahead bytes into ts_buffer) -/

theorem tsPhaseD_go (s s' : TsSt) (x y : Bytes) (n : Nat) (h : tsPhaseD s x = .go s' n) :
    n ≤ x.length ∧ tsPhaseD s (x ++ y) = .go s' n := by
  unfold tsPhaseD at h ⊢
  split at h
  · split at h <;> cases h
  · rename_i hle
    split at h
    · cases h
    · rename_i hcap
      cases h
      refine ⟨by omega, ?_⟩
      rw [if_neg (by simp; omega), if_neg hcap, List.take_append_of_le_length (by omega)]

/-- like `shift`, and the (dead) `lookahead` field of a completed copy holds the caller's value -/
def Ph.shiftLa (k la : Nat) : Ph → Ph
  | .stop s r => .stop s r
  | .go s n => .go { s with lookahead := la } (k + n)

theorem tsPhaseD_needMore (s s' : TsSt) (x : Bytes) (h : tsPhaseD s x = .stop s' .needMore) :
    s.lookahead > x.length ∧ ¬ s.tsBuf.length + x.length > TS_BUF_SIZE ∧
      s' = { s with tsBuf := s.tsBuf ++ x, lookahead := s.lookahead - x.length } := by
  unfold tsPhaseD at h
  split at h
  · rename_i hgt
    split at h
    · cases h
    · rename_i hcap; cases h; exact ⟨hgt, hcap, rfl⟩
  · split at h <;> cases h

theorem tsPhaseD_more (s s' : TsSt) (x y : Bytes) (h : tsPhaseD s x = .stop s' .needMore)
    (hok : ∀ t e, tsPhaseD s' y ≠ .stop t (.fault e)) : tsPhaseD s (x ++ y) = (tsPhaseD s' y).shiftLa x.length s.lookahead := by
  obtain ⟨hgt, hcap, hs'⟩ := tsPhaseD_needMore s s' x h
  have e1 : s'.lookahead = s.lookahead - x.length := by rw [hs']
  have e2 : s'.tsBuf.length = s.tsBuf.length + x.length := by rw [hs']; simp
  unfold tsPhaseD at hok ⊢
  simp only [List.length_append]
  by_cases h2 : s.lookahead > x.length + y.length
  · have h2' : s'.lookahead > y.length := by omega
    rw [if_pos h2]
    rw [if_pos h2'] at hok ⊢
    by_cases h3 : s.tsBuf.length + (x.length + y.length) > TS_BUF_SIZE
    · have h3' : s'.tsBuf.length + y.length > TS_BUF_SIZE := by omega
      rw [if_pos h3'] at hok
      exact absurd rfl (hok _ _)
    · have h3' : ¬ s'.tsBuf.length + y.length > TS_BUF_SIZE := by omega
      rw [if_neg h3, if_neg h3']
      subst hs'
      simp only [Ph.shiftLa, List.append_assoc, Nat.sub_sub]
  · have h2' : ¬ s'.lookahead > y.length := by omega
    rw [if_neg h2]
    rw [if_neg h2'] at hok ⊢
    by_cases h3 : s.tsBuf.length + s.lookahead > TS_BUF_SIZE
    · have h3' : s'.tsBuf.length + s'.lookahead > TS_BUF_SIZE := by omega
      rw [if_pos h3'] at hok
      exact absurd rfl (hok _ _)
    · have h3' : ¬ s'.tsBuf.length + s'.lookahead > TS_BUF_SIZE := by omega
      rw [if_neg h3, if_neg h3']
      have ht : (x ++ y).take s.lookahead = x ++ y.take (s.lookahead - x.length) := by
        rw [List.take_append, List.take_of_length_le (by omega)]
      subst hs'
      simp only [Ph.shiftLa, ht, List.append_assoc]
      congr 1
      omega

/-! ## phase A (payload bytes into pes_buffer) -/

theorem tsPesDone_shift (s1 : TsSt) (k n : Nat) : tsPesDone s1 (k + n) = (tsPesDone s1 n).shift k := by
  unfold tsPesDone
  split
  · split
    · rfl
    · split <;> rfl
  · rfl

theorem tsPesDone_consume (s1 s' : TsSt) (n m : Nat) (h : tsPesDone s1 n = .go s' m) :
    m = n ∧ s'.consume = s1.consume := by
  unfold tsPesDone at h
  split at h
  · split at h
    · cases h
    · split at h <;> (cases h; exact ⟨rfl, rfl⟩)
  · cases h; exact ⟨rfl, rfl⟩

theorem tsPhaseA_append_of_le (s : TsSt) (x y : Bytes) (h : s.consume ≤ x.length) :
    tsPhaseA s (x ++ y) = tsPhaseA s x := by
  unfold tsPhaseA
  by_cases hc : s.consume > 0
  · simp only [if_pos hc]
    rw [if_neg (show ¬ s.consume > (x ++ y).length by simp; omega),
      if_neg (show ¬ s.consume > x.length by omega), List.take_append_of_le_length h]
  · simp only [if_neg hc]

theorem tsPhaseA_go (s s' : TsSt) (x y : Bytes) (n : Nat) (h : tsPhaseA s x = .go s' n) :
    n ≤ x.length ∧ tsPhaseA s (x ++ y) = .go s' n ∧ s'.consume = 0 := by
  have hle : s.consume ≤ x.length ∧ n ≤ x.length ∧ s'.consume = 0 := by
    unfold tsPhaseA at h
    by_cases hc : s.consume > 0
    · rw [if_pos hc] at h
      by_cases hgt : s.consume > x.length
      · rw [if_pos hgt] at h
        split at h
        · cases h
        · split at h <;> cases h
      · rw [if_neg hgt] at h
        split at h
        · cases h
        · split at h
          · cases h
          · have := tsPesDone_consume _ _ _ _ h
            exact ⟨by omega, by omega, by rw [this.2]⟩
    · rw [if_neg hc] at h
      cases h
      exact ⟨by omega, Nat.zero_le _, by omega⟩
  exact ⟨hle.2.1, by rw [tsPhaseA_append_of_le s x y hle.1]; exact h, hle.2.2⟩

theorem tsPhaseA_reentry (s : TsSt) (y : Bytes) (h : s.consume = 0) : tsPhaseA s y = .go s 0 := by
  unfold tsPhaseA
  rw [if_neg (by omega)]

theorem tsPhaseA_more (s s' : TsSt) (x y : Bytes) (h : tsPhaseA s x = .stop s' .needMore)
    (hok : ∀ t e, tsPhaseA s' y ≠ .stop t (.fault e)) : tsPhaseA s (x ++ y) = (tsPhaseA s' y).shift x.length := by
  have hfacts : s.consume > x.length ∧ ¬ s.pes.length + x.length > PES_BUF_SIZE ∧ ¬ s.pesTodo < x.length ∧
      s' = { s with pes := s.pes ++ x, pesTodo := s.pesTodo - x.length, consume := s.consume - x.length } := by
    unfold tsPhaseA at h
    by_cases hc : s.consume > 0
    · rw [if_pos hc] at h
      by_cases hgt : s.consume > x.length
      · rw [if_pos hgt] at h
        split at h
        · cases h
        · rename_i h1
          split at h
          · cases h
          · rename_i h2; cases h; exact ⟨hgt, h1, h2, rfl⟩
      · rw [if_neg hgt] at h
        split at h
        · cases h
        · split at h
          · cases h
          · exfalso
            unfold tsPesDone at h
            split at h
            · split at h
              · cases h
              · split at h <;> cases h
            · cases h
    · rw [if_neg hc] at h; cases h
  obtain ⟨hgt, hcap, hund, hs'⟩ := hfacts
  have e1 : s'.consume = s.consume - x.length := by rw [hs']
  have e2 : s'.pes.length = s.pes.length + x.length := by rw [hs']; simp
  have e3 : s'.pesTodo = s.pesTodo - x.length := by rw [hs']
  unfold tsPhaseA at hok ⊢
  simp only [List.length_append]
  have hc : s.consume > 0 := by omega
  have hc' : s'.consume > 0 := by omega
  rw [if_pos hc]
  rw [if_pos hc'] at hok ⊢
  by_cases h2 : s.consume > x.length + y.length
  · have h2' : s'.consume > y.length := by omega
    rw [if_pos h2]
    rw [if_pos h2'] at hok ⊢
    by_cases h3 : s.pes.length + (x.length + y.length) > PES_BUF_SIZE
    · rw [if_pos (show s'.pes.length + y.length > PES_BUF_SIZE by omega)] at hok
      exact absurd rfl (hok _ _)
    · rw [if_neg h3]
      rw [if_neg (show ¬ s'.pes.length + y.length > PES_BUF_SIZE by omega)] at hok ⊢
      by_cases h4 : s.pesTodo < x.length + y.length
      · rw [if_pos (show s'.pesTodo < y.length by omega)] at hok
        exact absurd rfl (hok _ _)
      · rw [if_neg h4, if_neg (show ¬ s'.pesTodo < y.length by omega)]
        subst hs'
        simp only [Ph.shift, List.append_assoc, Nat.sub_sub]
  · have h2' : ¬ s'.consume > y.length := by omega
    rw [if_neg h2]
    rw [if_neg h2'] at hok ⊢
    by_cases h3 : s.pes.length + s.consume > PES_BUF_SIZE
    · rw [if_pos (show s'.pes.length + s'.consume > PES_BUF_SIZE by omega)] at hok
      exact absurd rfl (hok _ _)
    · rw [if_neg h3]
      rw [if_neg (show ¬ s'.pes.length + s'.consume > PES_BUF_SIZE by omega)] at hok ⊢
      by_cases h4 : s.pesTodo < s.consume
      · rw [if_pos (show s'.pesTodo < s'.consume by omega)] at hok
        exact absurd rfl (hok _ _)
      · rw [if_neg h4, if_neg (show ¬ s'.pesTodo < s'.consume by omega)]
        have ht : (x ++ y).take s.consume = x ++ y.take (s.consume - x.length) := by
          rw [List.take_append, List.take_of_length_le (by omega)]
        have hn : s.consume = x.length + s'.consume := by omega
        have hs1 : ({ s with pes := s.pes ++ (x ++ y).take s.consume, pesTodo := s.pesTodo - s.consume,
                             consume := 0 } : TsSt)
            = { s' with pes := s'.pes ++ y.take s'.consume, pesTodo := s'.pesTodo - s'.consume, consume := 0 } := by
          subst hs'
          simp only [ht, List.append_assoc, TsSt.mk.injEq, true_and, and_true]
          omega
        rw [hs1]
        conv => lhs; rw [hn]
        exact tsPesDone_shift _ _ _

/-! ## phase E does not read `ts_wrap.lookahead` -/

/-- on a fault the (unchanged) state is handed back, `lookahead` included -/
def fixLa (l : Nat) (r : TsSt × Option Err) : TsSt × Option Err :=
  match r with
  | (s, none) => (s, none)
  | (s, some e) => ({ s with lookahead := l }, some e)

theorem tsAdvance_la (s : TsSt) (l : Nat) (q : Bytes) (b : Bool) :
    tsAdvance { s with lookahead := l } q b = tsAdvance s q b := by
  unfold tsAdvance
  split <;> rfl

theorem tsSkipPacket_la (s : TsSt) (l : Nat) (q : Bytes) :
    tsSkipPacket { s with lookahead := l } q = tsSkipPacket s q := tsAdvance_la s l q true

theorem tsSkipPesPacket_la (s : TsSt) (l : Nat) (q : Bytes) :
    tsSkipPesPacket { s with lookahead := l } q = tsSkipPesPacket s q :=
  tsAdvance_la { s with fs := { s.fs with newFrame := true }, pesTodo := 0, consume := 0 } l q true

theorem tsStart_la (s : TsSt) (l : Nat) (q : Bytes) :
    tsStart { s with lookahead := l } q = (tsStart s q).map (fun t => { t with lookahead := l }) := by
  unfold tsStart
  simp only []
  split
  · split
    · rfl
    · split <;> rfl
  · split <;> rfl

theorem tsAdvance_mk (fs : FS) (tsBuf : Bytes) (skip consume la la' : Nat) (inSync : Bool)
    (frameRest pes : Bytes) (pesTodo : Nat) (cont : Option Nat) (pid : Nat) (q : Bytes) (b : Bool) :
    tsAdvance ⟨fs, tsBuf, skip, consume, la, inSync, frameRest, pes, pesTodo, cont, pid⟩ q b
      = tsAdvance ⟨fs, tsBuf, skip, consume, la', inSync, frameRest, pes, pesTodo, cont, pid⟩ q b :=
  (tsAdvance_la ⟨fs, tsBuf, skip, consume, la, inSync, frameRest, pes, pesTodo, cont, pid⟩ la' q b).symm

theorem tsComplete_la (s : TsSt) (l : Nat) :
    tsComplete { s with lookahead := l } = ({ (tsComplete s).1 with lookahead := l }, (tsComplete s).2) := by
  unfold tsComplete
  dsimp only
  split
  · rfl
  · split <;> rfl

theorem tsCopyDone_la (s : TsSt) (l : Nat) :
    tsCopyDone cfg { s with lookahead := l } = ({ (tsCopyDone cfg s).1 with lookahead := l }, (tsCopyDone cfg s).2) := by
  unfold tsCopyDone
  dsimp only
  split
  · exact tsComplete_la s l
  · rfl

theorem tsCopyFin_la (sOrig s1 s1' : TsSt) (l : Nat) (q : Bytes) (h : s1' = { s1 with lookahead := l }) :
    tsCopyFin cfg { sOrig with lookahead := l } s1' q = fixLa l (tsCopyFin cfg sOrig s1 q) := by
  subst h
  unfold tsCopyFin
  rw [tsCopyDone_la]
  rcases tsCopyDone cfg s1 with ⟨s2, _ | e⟩
  · simp only [fixLa]
    exact congrArg (fun t => (t, (none : Option Err))) (tsAdvance_la s2 l q false)
  · rfl

theorem tsCopy_la (s : TsSt) (l : Nat) (q : Bytes) :
    tsCopy cfg { s with lookahead := l } q = fixLa l (tsCopy cfg s q) := by
  unfold tsCopy
  dsimp only
  split
  · split
    · rfl
    · exact tsCopyFin_la s _ _ l q rfl
  · split
    · rfl
    · exact tsCopyFin_la s _ _ l q rfl

theorem tsHeader_la (s : TsSt) (l : Nat) (q : Bytes) :
    tsHeader cfg { s with lookahead := l } q = fixLa l (tsHeader cfg s q) := by
  unfold tsHeader
  have hc : tsHeaderCheck { s with lookahead := l } q = tsHeaderCheck s q := rfl
  rw [hc]
  have h1 := tsSkipPacket_la s l q
  have h2 := tsSkipPesPacket_la s l q
  have h3 := tsSkipPesPacket_la { s with cont := some (q.getD 3 0 + 1) } l q
  have hs := tsStart_la { s with cont := some (q.getD 3 0 + 1) } l q
  dsimp only at h1 h2 h3 hs
  cases tsHeaderCheck s q with
  | some b =>
    cases b
    · simp only [fixLa, h1]
    · simp only [fixLa, h2]
  | none =>
    dsimp only
    cases tsContCheck s.cont (q.getD 3 0) with
    | repeated => simp only [fixLa, h1]
    | lost => simp only [fixLa, h3]
    | ok =>
      dsimp only
      rw [hs]
      cases tsStart { s with cont := some (q.getD 3 0 + 1) } q with
      | none => simp only [Option.map, fixLa, h3]
      | some s1 => simp only [Option.map]; exact tsCopy_la s1 l q

/-- the same for the whole block E -/
def fixLaK (l : Nat) (r : TsSt × TsK) : TsSt × TsK :=
  match r with
  | (s, .stop (.fault e)) => ({ s with lookahead := l }, .stop (.fault e))
  | r => r

theorem fixLaK_of_fixLa (l : Nat) (r : TsSt × Option Err) :
    (match fixLa l r with
      | (s', none) => (s', TsK.cont)
      | (s', some e) => (s', TsK.stop (.fault e)))
    = fixLaK l (match r with
      | (s', none) => (s', TsK.cont)
      | (s', some e) => (s', TsK.stop (.fault e))) := by
  rcases r with ⟨s', _ | e⟩ <;> rfl

theorem tsPhaseE_la (s : TsSt) (l : Nat) : tsPhaseE cfg { s with lookahead := l } = fixLaK l (tsPhaseE cfg s) := by
  unfold tsPhaseE
  have h1 := tsHeader_la (cfg := cfg) s l s.tsBuf
  dsimp only at h1 ⊢
  split
  · split
    · rfl
    · split
      · split <;> rfl
      · rw [h1]; exact fixLaK_of_fixLa l _
  · split
    · rfl
    · split
      · split <;> rfl
      · rename_i p hp
        split
        · rfl
        · have h2 := tsHeader_la (cfg := cfg) { s with inSync := true } l (s.tsBuf.drop p)
          dsimp only at h2
          rw [h2]; exact fixLaK_of_fixLa l _

/-! ## blocks D+E and C+D+E as functions of the unread input -/

def Stop.isFault : Stop → Prop
  | .fault _ => True
  | _ => False

def TsK.isFault : TsK → Prop
  | .stop r => r.isFault
  | .cont => False

/-- blocks D and E on `rest`: (state, bytes consumed, outcome) -/
def tsDE (cfg : SrcCfg) (s3 : TsSt) (rest : Bytes) : TsSt × Nat × TsK :=
  match tsPhaseD s3 rest with
  | .stop s4 k => (s4, rest.length, .stop k)
  | .go s4 n4 => ((tsPhaseE cfg s4).1, n4, (tsPhaseE cfg s4).2)

/-- blocks C, D and E on `rest` -/
def tsCDE (cfg : SrcCfg) (s2 : TsSt) (rest : Bytes) : TsSt × Nat × TsK :=
  match tsPhaseC s2 rest with
  | .stop s3 k => (s3, rest.length, .stop k)
  | .go s3 n3 => ((tsDE cfg s3 (rest.drop n3)).1, n3 + (tsDE cfg s3 (rest.drop n3)).2.1, (tsDE cfg s3 (rest.drop n3)).2.2)

/-- block E reads no input: it never asks for more (nor reports a frame) -/
theorem tsPhaseE_stop (s : TsSt) (k : Stop) (h : (tsPhaseE cfg s).2 = .stop k) : ∃ e, k = .fault e := by
  unfold tsPhaseE at h
  dsimp only at h
  repeat' split at h
  all_goals first
    | (cases h; done)
    | (cases h; exact ⟨_, rfl⟩)

theorem tsDE_needMore (s3 s4 : TsSt) (x : Bytes) (n : Nat) (h : tsDE cfg s3 x = (s4, n, .stop .needMore)) :
    n = x.length ∧ tsPhaseD s3 x = .stop s4 .needMore := by
  unfold tsDE at h
  cases hD : tsPhaseD s3 x with
  | go s4' n4 =>
    rw [hD] at h
    simp only [Prod.mk.injEq] at h
    obtain ⟨e, he⟩ := tsPhaseE_stop s4' .needMore h.2.2
    cases he
  | stop s4' k =>
    rw [hD] at h
    simp only [Prod.mk.injEq, TsK.stop.injEq] at h
    obtain ⟨rfl, rfl, rfl⟩ := h
    exact ⟨rfl, rfl⟩

theorem tsDE_cont (s3 s5 : TsSt) (x y : Bytes) (n : Nat) (h : tsDE cfg s3 x = (s5, n, .cont)) :
    n ≤ x.length ∧ tsDE cfg s3 (x ++ y) = (s5, n, .cont) := by
  unfold tsDE at h ⊢
  cases hD : tsPhaseD s3 x with
  | stop s4 k => rw [hD] at h; simp at h
  | go s4 n4 =>
    rw [hD] at h
    obtain ⟨hle, hgo⟩ := tsPhaseD_go s3 s4 x y n4 hD
    rw [hgo]
    simp only [Prod.mk.injEq] at h
    obtain ⟨h1, h2, h3⟩ := h
    subst h2
    exact ⟨hle, by simp [h1, h3]⟩

/-- D stopped for lack of input: with more input the result is that of resuming -/
theorem tsDE_more (s3 s4 : TsSt) (x y : Bytes) (n : Nat) (h : tsDE cfg s3 x = (s4, n, .stop .needMore))
    (hok : ¬ (tsDE cfg s4 y).2.2.isFault) :
    n = x.length ∧ tsDE cfg s3 (x ++ y) = ((tsDE cfg s4 y).1, x.length + (tsDE cfg s4 y).2.1, (tsDE cfg s4 y).2.2) := by
  obtain ⟨rfl, hD⟩ := tsDE_needMore s3 s4 x n h
  have hokD : ∀ t e, tsPhaseD s4 y ≠ .stop t (.fault e) := by
    intro t e hD2
    apply hok
    unfold tsDE
    rw [hD2]
    trivial
  have hm := tsPhaseD_more s3 s4 x y hD hokD
  refine ⟨rfl, ?_⟩
  unfold tsDE
  rw [hm]
  cases hD2 : tsPhaseD s4 y with
  | stop a k => simp [Ph.shiftLa]
  | go a b =>
    simp only [Ph.shiftLa]
    have hE := tsPhaseE_la (cfg := cfg) a s3.lookahead
    rw [hE]
    have hnf : ¬ (tsPhaseE cfg a).2.isFault := by
      unfold tsDE at hok
      rw [hD2] at hok
      exact hok
    rcases hr : tsPhaseE cfg a with ⟨s5, k⟩
    rw [hr] at hnf
    cases k with
    | cont => rfl
    | stop st =>
      cases st with
      | fault e => exact absurd trivial hnf
      | needMore => rfl
      | callback => rfl

theorem tsCDE_cont (s2 s5 : TsSt) (x y : Bytes) (n : Nat) (h : tsCDE cfg s2 x = (s5, n, .cont)) :
    n ≤ x.length ∧ tsCDE cfg s2 (x ++ y) = (s5, n, .cont) := by
  unfold tsCDE at h ⊢
  cases hC : tsPhaseC s2 x with
  | stop s3 k => rw [hC] at h; simp at h
  | go s3 n3 =>
    rw [hC] at h
    obtain ⟨hle, hgo, _⟩ := tsPhaseC_go s2 s3 x y n3 hC
    rw [hgo]
    dsimp only at h ⊢
    rcases hDE : tsDE cfg s3 (x.drop n3) with ⟨a, m, k⟩
    rw [hDE] at h
    simp only [Prod.mk.injEq] at h
    obtain ⟨rfl, rfl, rfl⟩ := h
    have := tsDE_cont s3 a (x.drop n3) y m hDE
    rw [List.drop_append_of_le_length hle, this.2]
    have hl : (x.drop n3).length = x.length - n3 := by simp
    exact ⟨by omega, rfl⟩

theorem tsCDE_needMore (s2 a : TsSt) (x : Bytes) (n : Nat) (h : tsCDE cfg s2 x = (a, n, .stop .needMore)) :
    a.consume = s2.consume ∧ a.frameRest = s2.frameRest := by
  unfold tsCDE at h
  cases hC : tsPhaseC s2 x with
  | stop s3 k =>
    rw [hC] at h
    simp only [Prod.mk.injEq, TsK.stop.injEq] at h
    obtain ⟨rfl, _, rfl⟩ := h
    rw [(tsPhaseC_needMore s2 s3 x hC).2]
    exact ⟨rfl, rfl⟩
  | go s3 n3 =>
    rw [hC] at h
    dsimp only at h
    obtain ⟨_, _, _, hco, hfr⟩ := tsPhaseC_go s2 s3 x [] n3 hC
    rcases hDE : tsDE cfg s3 (x.drop n3) with ⟨b, m, k⟩
    rw [hDE] at h
    simp only [Prod.mk.injEq] at h
    obtain ⟨rfl, _, rfl⟩ := h
    rw [(tsPhaseD_needMore s3 b _ (tsDE_needMore s3 b _ m hDE).2).2.2]
    exact ⟨hco, hfr⟩

theorem tsCDE_more (s2 s' : TsSt) (x y : Bytes) (n : Nat) (h : tsCDE cfg s2 x = (s', n, .stop .needMore))
    (hok : ¬ (tsCDE cfg s' y).2.2.isFault) :
    n = x.length ∧ tsCDE cfg s2 (x ++ y) = ((tsCDE cfg s' y).1, x.length + (tsCDE cfg s' y).2.1, (tsCDE cfg s' y).2.2) := by
  unfold tsCDE at h
  cases hC : tsPhaseC s2 x with
  | stop s3 k =>
    rw [hC] at h
    simp only [Prod.mk.injEq, TsK.stop.injEq] at h
    obtain ⟨rfl, rfl, rfl⟩ := h
    refine ⟨rfl, ?_⟩
    unfold tsCDE
    rw [tsPhaseC_more s2 s3 x y hC]
    cases hC2 : tsPhaseC s3 y with
    | stop a k => simp [Ph.shift]
    | go a m =>
      simp only [Ph.shift]
      rw [List.drop_length_add_append]
      simp only [Prod.mk.injEq, true_and, and_true]
      omega
  | go s3 n3 =>
    rw [hC] at h
    dsimp only at h
    obtain ⟨hle, hgo, hsk, _, _⟩ := tsPhaseC_go s2 s3 x y n3 hC
    rcases hDE : tsDE cfg s3 (x.drop n3) with ⟨a, m, k⟩
    rw [hDE] at h
    simp only [Prod.mk.injEq] at h
    obtain ⟨rfl, rfl, rfl⟩ := h
    have hl : (x.drop n3).length = x.length - n3 := by simp
    -- resuming from `a`: block C is a no-op
    have hska : a.skip = 0 := by
      rw [(tsPhaseD_needMore s3 a _ (tsDE_needMore s3 a _ m hDE).2).2.2]
      exact hsk
    have hre : tsCDE cfg a y = ((tsDE cfg a y).1, (tsDE cfg a y).2.1, (tsDE cfg a y).2.2) := by
      unfold tsCDE
      rw [tsPhaseC_reentry a y hska]
      simp
    rw [hre] at hok ⊢
    have hmore := tsDE_more s3 a (x.drop n3) y m hDE hok
    refine ⟨by omega, ?_⟩
    unfold tsCDE
    rw [hgo]
    dsimp only
    rw [List.drop_append_of_le_length hle, hmore.2]
    simp only [Prod.mk.injEq, true_and, and_true]
    omega

/-! ## block B -/

theorem tsPhaseB_none (cb se : Bool) (s s2 : TsSt) (o : List FrameOut) (h : tsPhaseB cfg cb se s = (s2, o, none)) :
    s2.frameRest = [] ∧ s2.consume = s.consume := by
  unfold tsPhaseB at h
  split at h
  · rcases hp : pesPacketFrame cfg 3 cb se s.fs s.frameRest with ⟨fs1, outs, r, rest⟩
    rw [hp] at h
    cases r with
    | callback => simp at h
    | fault e => simp at h
    | err => simp only [Prod.mk.injEq] at h; obtain ⟨rfl, _, _⟩ := h; exact ⟨rfl, rfl⟩
    | done =>
      simp only [Prod.mk.injEq] at h
      obtain ⟨rfl, _, _⟩ := h
      have := pesPacketFrame_done_rest 3 cb se s.fs s.frameRest (by rw [hp])
      rw [hp] at this
      exact ⟨this, rfl⟩
  · rename_i hl
    simp only [Prod.mk.injEq] at h
    obtain ⟨rfl, _, _⟩ := h
    exact ⟨List.eq_nil_of_length_eq_zero (by omega), rfl⟩

theorem tsPhaseB_reentry (cb se : Bool) (s : TsSt) (h : s.frameRest = []) : tsPhaseB cfg cb se s = (s, [], none) := by
  unfold tsPhaseB
  rw [if_neg (by simp [h])]

theorem tsPhaseB_some (cb se : Bool) (s s2 : TsSt) (o : List FrameOut) (k : Stop)
    (h : tsPhaseB cfg cb se s = (s2, o, some k)) : k ≠ .needMore := by
  unfold tsPhaseB at h
  split at h
  · rcases hp : pesPacketFrame cfg 3 cb se s.fs s.frameRest with ⟨fs1, outs, r, rest⟩
    rw [hp] at h
    cases r <;> simp at h <;> (obtain ⟨_, _, rfl⟩ := h; simp)
  · simp at h

/-! ## the loop body -/

/-- the loop body with blocks C, D, E folded into `tsCDE` -/
theorem tsStep_eq (cb se : Bool) (s : TsSt) (rest : Bytes) :
    tsStep cfg cb se s rest =
      match tsPhaseA s rest with
      | .stop s' k => (s', [], rest.length, .stop k)
      | .go s1 n1 =>
        match tsPhaseB cfg cb se s1 with
        | (s2, outs, some k) => (s2, outs, n1, .stop k)
        | (s2, outs, none) =>
          ((tsCDE cfg s2 (rest.drop n1)).1, outs, n1 + (tsCDE cfg s2 (rest.drop n1)).2.1, (tsCDE cfg s2 (rest.drop n1)).2.2) := by
  unfold tsStep
  cases hA : tsPhaseA s rest with
  | stop s' k => rfl
  | go s1 n1 =>
    have hle := (tsPhaseA_go s s1 rest [] n1 hA).1
    dsimp only
    rcases hB : tsPhaseB cfg cb se s1 with ⟨s2, outs, _ | k⟩
    · dsimp only
      have hl : (rest.drop n1).length = rest.length - n1 := by simp
      unfold tsCDE
      cases hC : tsPhaseC s2 (rest.drop n1) with
      | stop s3 k =>
        dsimp only
        simp only [Prod.mk.injEq, true_and, and_true]
        omega
      | go s3 n3 =>
        dsimp only
        have hle3 := (tsPhaseC_go s2 s3 (rest.drop n1) [] n3 hC).1
        unfold tsDE
        rw [List.drop_drop]
        cases hD : tsPhaseD s3 (rest.drop (n1 + n3)) with
        | stop s4 k =>
          dsimp only
          simp only [Prod.mk.injEq, true_and, and_true, List.length_drop]
          omega
        | go s4 n4 =>
          dsimp only
          simp only [Prod.mk.injEq, true_and, and_true]
          omega
    · rfl

/-- nothing to copy, no data units waiting, nothing to skip: the loop body is blocks D and E -/
theorem tsStep_idle (cb se : Bool) (s : TsSt) (x : Bytes) (h1 : s.consume = 0) (h2 : s.frameRest = []) (h3 : s.skip = 0) :
    tsStep cfg cb se s x = match tsPhaseD s x with
      | .stop s4 k => (s4, [], x.length, .stop k)
      | .go s4 n4 => ((tsPhaseE cfg s4).1, [], n4, (tsPhaseE cfg s4).2) := by
  unfold tsStep
  rw [tsPhaseA_reentry _ _ h1]; dsimp only
  rw [tsPhaseB_reentry _ _ _ h2]; dsimp only
  rw [tsPhaseC_reentry _ _ h3]; dsimp only
  simp only [Nat.add_zero, List.drop_zero, Nat.zero_add]
  cases tsPhaseD s x <;> rfl

theorem tsStep_cont (cb se : Bool) (s s' : TsSt) (x y : Bytes) (o : List FrameOut) (n : Nat)
    (h : tsStep cfg cb se s x = (s', o, n, .cont)) :
    n ≤ x.length ∧ tsStep cfg cb se s (x ++ y) = (s', o, n, .cont) := by
  rw [tsStep_eq] at h ⊢
  cases hA : tsPhaseA s x with
  | stop a k => rw [hA] at h; simp at h
  | go s1 n1 =>
    rw [hA] at h
    obtain ⟨hle, hgo, _⟩ := tsPhaseA_go s s1 x y n1 hA
    rw [hgo]
    dsimp only at h ⊢
    rcases hB : tsPhaseB cfg cb se s1 with ⟨s2, outs, _ | k⟩
    · rw [hB] at h
      dsimp only at h ⊢
      rcases hT : tsCDE cfg s2 (x.drop n1) with ⟨a, m, k⟩
      rw [hT] at h
      simp only [Prod.mk.injEq] at h
      obtain ⟨rfl, rfl, rfl, rfl⟩ := h
      have := tsCDE_cont s2 a (x.drop n1) y m hT
      rw [List.drop_append_of_le_length hle, this.2]
      have hl : (x.drop n1).length = x.length - n1 := by simp
      exact ⟨by omega, rfl⟩
    · rw [hB] at h; simp at h

theorem tsStep_more (cb se : Bool) (s s' : TsSt) (x y : Bytes) (o : List FrameOut) (n : Nat)
    (h : tsStep cfg cb se s x = (s', o, n, .stop .needMore)) (hok : ¬ (tsStep cfg cb se s' y).2.2.2.isFault) :
    n = x.length ∧ tsStep cfg cb se s (x ++ y)
      = ((tsStep cfg cb se s' y).1, o ++ (tsStep cfg cb se s' y).2.1, x.length + (tsStep cfg cb se s' y).2.2.1,
         (tsStep cfg cb se s' y).2.2.2) := by
  rw [tsStep_eq] at h
  cases hA : tsPhaseA s x with
  | stop a k =>
    rw [hA] at h
    simp only [Prod.mk.injEq, TsK.stop.injEq] at h
    obtain ⟨rfl, rfl, rfl, rfl⟩ := h
    have hokA : ∀ t e, tsPhaseA a y ≠ .stop t (.fault e) := by
      intro t e hA2
      apply hok
      rw [tsStep_eq, hA2]
      trivial
    have hm := tsPhaseA_more s a x y hA hokA
    refine ⟨rfl, ?_⟩
    rw [tsStep_eq, tsStep_eq, hm]
    cases hA2 : tsPhaseA a y with
    | stop b k => simp [Ph.shift]
    | go b c =>
      simp only [Ph.shift]
      rw [List.drop_length_add_append]
      rcases tsPhaseB cfg cb se b with ⟨s2, outs, _ | k⟩
      · simp only [List.nil_append, Prod.mk.injEq, true_and, and_true]
        omega
      · simp
  | go s1 n1 =>
    rw [hA] at h
    dsimp only at h
    obtain ⟨hle, hgo, hc0⟩ := tsPhaseA_go s s1 x y n1 hA
    rcases hB : tsPhaseB cfg cb se s1 with ⟨s2, outs, _ | k⟩
    · rw [hB] at h
      dsimp only at h
      rcases hT : tsCDE cfg s2 (x.drop n1) with ⟨a, m, k⟩
      rw [hT] at h
      simp only [Prod.mk.injEq] at h
      obtain ⟨rfl, rfl, rfl, rfl⟩ := h
      obtain ⟨hfr, hco⟩ := tsPhaseB_none cb se s1 s2 outs hB
      have hl : (x.drop n1).length = x.length - n1 := by simp
      have hpres := tsCDE_needMore s2 a (x.drop n1) m hT
      have ha0 : a.consume = 0 := by rw [hpres.1, hco, hc0]
      have hafr : a.frameRest = [] := by rw [hpres.2, hfr]
      -- resuming from `a`: blocks A and B are no-ops
      have hre : tsStep cfg cb se a y = ((tsCDE cfg a y).1, [], (tsCDE cfg a y).2.1, (tsCDE cfg a y).2.2) := by
        rw [tsStep_eq, tsPhaseA_reentry a y ha0]
        dsimp only
        rw [tsPhaseB_reentry cb se a hafr]
        simp
      rw [hre] at hok ⊢
      have hmore := tsCDE_more s2 a (x.drop n1) y m hT hok
      refine ⟨by omega, ?_⟩
      rw [tsStep_eq, hgo]
      dsimp only
      rw [hB]
      dsimp only
      rw [List.drop_append_of_le_length hle, hmore.2]
      simp only [List.append_nil, Prod.mk.injEq, true_and, and_true]
      omega
    · rw [hB] at h
      simp only [Prod.mk.injEq, TsK.stop.injEq] at h
      exact absurd h.2.2.2 (tsPhaseB_some cb se s1 s2 outs k hB)

/-! ## the loop -/

theorem tsRun_mono (cb se : Bool) : ∀ (f : Nat) (s : TsSt) (x : Bytes) (k : Nat),
    ¬ (tsRun cfg f cb se s x).2.2.2.isFault → tsRun cfg (f + k) cb se s x = tsRun cfg f cb se s x := by
  intro f
  induction f with
  | zero => intro s x k h; exact absurd trivial h
  | succ f ih =>
    intro s x k h
    have e : f + 1 + k = (f + k) + 1 := by omega
    rw [e]
    unfold tsRun at h ⊢
    rcases hs : tsStep cfg cb se s x with ⟨s', o, n, kk⟩
    rw [hs] at h
    cases kk with
    | stop r => rfl
    | cont =>
      dsimp only at h ⊢
      rw [ih s' (x.drop n) k h]

theorem tsRun_append (cb se : Bool) : ∀ (f1 : Nat) (s s1 : TsSt) (x : Bytes) (o1 : List FrameOut) (n1 : Nat),
    tsRun cfg f1 cb se s x = (s1, o1, n1, .needMore) →
    ∀ (f2 : Nat) (y : Bytes), ¬ (tsRun cfg f2 cb se s1 y).2.2.2.isFault →
    n1 = x.length ∧
    tsRun cfg (f1 + f2) cb se s (x ++ y)
      = ((tsRun cfg f2 cb se s1 y).1, o1 ++ (tsRun cfg f2 cb se s1 y).2.1, x.length + (tsRun cfg f2 cb se s1 y).2.2.1,
         (tsRun cfg f2 cb se s1 y).2.2.2) := by
  intro f1
  induction f1 with
  | zero => intro s s1 x o1 n1 h; simp [tsRun] at h
  | succ f1 ih =>
    intro s s1 x o1 n1 h f2 y hok
    unfold tsRun at h
    rcases hs : tsStep cfg cb se s x with ⟨s', o, n, kk⟩
    rw [hs] at h
    cases kk with
    | stop r =>
      simp only [Prod.mk.injEq] at h
      obtain ⟨rfl, rfl, rfl, rfl⟩ := h
      cases f2 with
      | zero => exact absurd trivial hok
      | succ f2 =>
        -- the resumed run begins with a step that is not a fault
        have hstep : ¬ (tsStep cfg cb se s' y).2.2.2.isFault := by
          unfold tsRun at hok
          rcases hs2 : tsStep cfg cb se s' y with ⟨a, b, c, kk⟩
          rw [hs2] at hok
          cases kk with
          | cont => exact fun h => h
          | stop r => exact hok
        have hm := tsStep_more cb se s s' x y o n hs hstep
        refine ⟨hm.1, ?_⟩
        have e : f1 + 1 + (f2 + 1) = (f2 + (f1 + 1)) + 1 := by omega
        rw [e]
        unfold tsRun at hok ⊢
        rw [hm.2]
        rcases hs2 : tsStep cfg cb se s' y with ⟨a, b, c, kk⟩
        rw [hs2] at hok
        cases kk with
        | stop r => rfl
        | cont =>
          dsimp only at hok ⊢
          rw [List.drop_length_add_append, tsRun_mono cb se f2 a (y.drop c) (f1 + 1) hok]
          simp only [List.append_assoc, Prod.mk.injEq, true_and, and_true]
          omega
    | cont =>
      dsimp only at h
      rcases hr : tsRun cfg f1 cb se s' (x.drop n) with ⟨a, b, c, r⟩
      rw [hr] at h
      simp only [Prod.mk.injEq] at h
      obtain ⟨rfl, rfl, rfl, rfl⟩ := h
      obtain ⟨hle, hcont⟩ := tsStep_cont cb se s s' x y o n hs
      obtain ⟨hc, hrun⟩ := ih s' a (x.drop n) b c hr f2 y hok
      have hl : (x.drop n).length = x.length - n := by simp
      refine ⟨by omega, ?_⟩
      have e : f1 + 1 + f2 = (f1 + f2) + 1 := by omega
      rw [e]
      conv => lhs; unfold tsRun
      rw [hcont]
      dsimp only
      rw [List.drop_append_of_le_length hle, hrun]
      simp only [List.append_assoc, Prod.mk.injEq, true_and, and_true]
      omega

theorem tsFeed_of_run (s s2 : TsSt) (buf : Bytes) (outs : List FrameOut) (n : Nat) (hne : buf.length ≠ 0)
    (h : tsRun cfg (buf.length + 2) true false s buf = (s2, outs, n, .needMore)) :
    tsFeed cfg s buf = { st := s2, frames := outs } := by
  unfold tsFeed tsLoop tsFuel
  rw [if_neg hne]
  simp only [List.drop_zero, Nat.sub_zero, h]

end Zvbi.Demux
