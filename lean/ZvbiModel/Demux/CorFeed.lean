import ZvbiModel.Demux.CorLoop
/-!
# Draining a buffer through `vbi_dvb_demux_cor` = feeding it to `vbi_dvb_demux_feed`, minus the frames
without lines  (C07 `cor_equals_feed`, repaired source)
-/
namespace Zvbi.Demux

variable {cfg : SrcCfg}

/-- `vbi_dvb_demux_cor` after it copied the frame out: `dx->frame.sp = dx->frame.sliced_begin` -/
def handOver (s : St) : St := { s with fs := { s.fs with frame := { s.fs.frame with lines := [] } } }

/-- one `vbi_dvb_demux_cor` call (max_lines = 64): it consumes the buffer without a frame, or returns the
complete frame the context held; then the stream machine delivers that frame first on every continuation `X` -/
theorem pesCor_refines (hse : cfg.corSkipsEmpty = true) (hpd : cfg.pesDiscards = true)
    (s : St) (buf hist : Bytes) (si : Nat) (hok : CtxOK s) (hsi : si ≤ buf.length)
    (hsuf : s.pending <:+ hist ++ buf.take si) :
    (∃ s', pesCor cfg s buf si 64 = (s', buf.length, none, none) ∧ CorA cfg s (s.pending ++ buf.drop si) s') ∨
    (∃ s' si', pesCor cfg s buf si 64
        = (handOver s', si', some { pts := s'.fs.framePts, lines := s'.fs.frame.lines }, none) ∧
        CorB cfg s buf hist (s.pending ++ buf.drop si) s' si' ∧ HandsOver cfg s buf si s' si') := by
  have hpl : s.pending.length = s.pw.leftover := s.pw.pend_length hok.inv.1
  unfold pesCor
  rcases corLoop_refines (cfg := cfg) hse hpd (pesFuel s buf) s buf hist si (buf.length - si) hok hsi
      (Nat.sub_le _ _) hsuf
      (by simp only [pesFuel, List.length_append, List.length_drop, hpl]; omega) with
    ⟨s', hloop, hA⟩ | ⟨s', si', hloop, hB, hext⟩
  · left
    rw [hloop]
    exact ⟨s', rfl, hA⟩
  · right
    rw [hloop]
    simp only []
    have hne := hB.ne
    have h64 := hB.le64
    have hmin : min s'.fs.frame.lines.length 64 = s'.fs.frame.lines.length := Nat.min_eq_left h64
    have hpos : s'.fs.frame.lines.length > 0 := by
      cases hl : s'.fs.frame.lines with
      | nil => exact absurd hl hne
      | cons a t => simp
    rw [hmin, if_pos hpos, List.take_length]
    exact ⟨s', si', rfl, hB, hext⟩

/-- 0 when the next payload window cannot end in `VBI_ERR_CALLBACK` (the call after a hand-over) -/
def corFlag (s : St) : Nat := if s.fs.newFrame = true ∧ s.pw.lookahead > 48 then 0 else 1

/-- bound on the number of `vbi_dvb_demux_cor` calls that return a frame: twice the number of stream
bytes behind the end of the next window, plus one unless the next window cannot return a frame -/
def corMeasure (s : St) (n : Nat) : Nat := 2 * (n - (s.pw.skip + s.pw.lookahead)) + corFlag s

theorem handOver_core (s : St) (h0 : s.pw.skip = 0) :
    (handOver s).core = { skip := 0, lookahead := s.pw.lookahead, fs := (handOver s).fs } := by
  simp only [St.core, handOver, h0]

/-- nothing with lines is pending in the bytes the context holds -/
def Quiet (cfg : SrcCfg) (s : St) : Prop := (arun cfg s.core s.pending).frames.filter nonEmpty = []

/-- invariant of the contexts a drain loop leaves behind (weaker than `CorInv`: after a hand-over at the
very end of a buffer the context still sits at that packet's payload window) -/
def DrainInv (cfg : SrcCfg) (s : St) : Prop := CtxOK s ∧ Quiet cfg s

theorem corDrain_refines (hse : cfg.corSkipsEmpty = true) (hpd : cfg.pesDiscards = true) (buf hist : Bytes) :
    ∀ (fuel : Nat) (s : St) (si : Nat), CtxOK s → si ≤ buf.length →
    s.pending <:+ hist ++ buf.take si →
    corMeasure s (s.pending ++ buf.drop si).length + 2 ≤ fuel →
    (si = buf.length → Quiet cfg s) →
    ((pesCorDrain fuel cfg 0 s buf si 64).err = none ∧ (pesCorDrain fuel cfg 0 s buf si 64).stalled = false ∧
      (pesCorDrain fuel cfg 0 s buf si 64).frames
        = (arun cfg s.core (s.pending ++ buf.drop si)).frames.filter nonEmpty) ∧
    DrainInv cfg (pesCorDrain fuel cfg 0 s buf si 64).st ∧
    ∀ X : Bytes, (arun cfg s.core (s.pending ++ buf.drop si ++ X)).frames.filter nonEmpty
      = (arun cfg s.core (s.pending ++ buf.drop si)).frames.filter nonEmpty ++
        (arun cfg (pesCorDrain fuel cfg 0 s buf si 64).st.core
          ((pesCorDrain fuel cfg 0 s buf si 64).st.pending ++ X)).frames.filter nonEmpty := by
  intro fuel
  induction fuel with
  | zero => intro s si _ _ _ h; omega
  | succ fuel ih =>
    intro s si hok hsi hsuf hfuel hq
    unfold pesCorDrain
    by_cases hge : si ≥ buf.length
    · rw [if_pos hge]
      have : si = buf.length := by omega
      have hq' : (arun cfg s.core s.pending).frames.filter nonEmpty = [] := hq this
      rw [this, List.drop_length, List.append_nil, hq']
      exact ⟨⟨rfl, rfl, rfl⟩, ⟨hok, hq'⟩, fun X => by rw [List.nil_append]⟩
    · rw [if_neg hge]
      rcases pesCor_refines (cfg := cfg) hse hpd s buf hist si hok hsi hsuf with
        ⟨s', hcor, hA⟩ | ⟨s', si', hcor, hB, hext⟩
      · -- the call consumed the rest of the buffer without a frame
        rw [hcor]
        have hne : ¬ (buf.length = si ∧ (none : Option FrameOut).isNone = true) := fun h => hge (by omega)
        simp only [if_neg hne, COR_STALL_LIMIT]
        rw [if_neg (by omega)]
        cases fuel with
        | zero => omega
        | succ k =>
          unfold pesCorDrain
          rw [if_pos (Nat.le_refl _)]
          simp only [Option.toList, List.nil_append]
          have hidem := arun_idem (cfg := cfg) s.core (s.pending ++ buf.drop si) hA.stop
          rw [hA.core, hA.pend] at hidem
          refine ⟨⟨trivial, trivial, hA.quiet.symm⟩, ⟨hA.ok, by unfold Quiet; rw [hidem]; rfl⟩, fun X => ?_⟩
          rw [arun_append (cfg := cfg) (s.pending ++ buf.drop si) s.core X hA.stop]
          simp only [ARes.pre, List.filter_append, hA.core, hA.pend]
      · -- the call returned a frame
        rw [hcor]
        have hne : ¬ (si' = si ∧ (some ({ pts := s'.fs.framePts, lines := s'.fs.frame.lines } : FrameOut)).isNone = true) :=
          fun h => by simp at h
        simp only [if_neg hne, COR_STALL_LIMIT]
        rw [if_neg (by omega)]
        have hpendH : (handOver s').pending = s'.pending := rfl
        have hcoreH := handOver_core s' hB.skip0
        have hplH : s'.pending.length = s'.pw.leftover := s'.pw.pend_length hB.inv.1
        have hjH : s'.pw.leftover ≤ s'.pw.skip + s'.pw.lookahead := hB.j
        have hmeas : corMeasure (handOver s') ((handOver s').pending ++ buf.drop si').length + 2 ≤ fuel := by
          have hf0 : corFlag (handOver s') = 0 := by
            unfold corFlag; rw [if_pos ⟨hB.nf, hB.la⟩]
          have h1 := hB.meas
          have h2 := hB.meas2
          have h3 := hB.win
          have h4 := hB.skip0
          rw [hpendH]
          unfold corMeasure at hfuel ⊢
          rw [hf0]
          show 2 * ((s'.pending ++ buf.drop si').length - (s'.pw.skip + s'.pw.lookahead)) + 0 + 2 ≤ fuel
          unfold corFlag at hfuel
          split at hfuel
          · rename_i hc
            have := h2 hc.1 hc.2
            omega
          · omega
        have hquiet : si' = buf.length → Quiet cfg (handOver s') := by
          intro hsi'
          have h3 := hB.win
          have h4 := hB.skip0
          rw [hsi', List.drop_length, List.append_nil] at h3
          have := hB.last (by rw [hsi', List.drop_length, List.append_nil]; omega) (handOver s').fs hB.nf rfl
          rw [hsi', List.drop_length, List.append_nil] at this
          unfold Quiet
          rw [hcoreH, hpendH]; exact this
        obtain ⟨⟨e1, e2, e3⟩, d1, d2⟩ := ih (handOver s') si' ⟨hB.inv, hB.j, Nat.zero_le _⟩ hB.si_le hB.suf hmeas hquiet
        refine ⟨⟨e1, e2, ?_⟩, d1, fun X => ?_⟩
        · show [_] ++ _ = _
          rw [e3, hcoreH, hpendH]
          exact (hB.frames (handOver s').fs hB.nf rfl).symm
        · have e2X := d2 X
          rw [hcoreH, hpendH] at e2X
          rw [hext X (handOver s').fs hB.nf rfl, hB.frames (handOver s').fs hB.nf rfl, e2X]
          rfl

theorem arun_lines (L : Bytes) (c : Core) (h : c.fs.frame.lines.length ≤ 64) :
    (arun cfg c L).core.fs.frame.lines.length ≤ 64 :=
  arun_core_ind (fun c => c.fs.frame.lines.length ≤ 64) (fun _ h => h)
    (fun c win sk la fs' outs st h hm => by
      have := pesIter_lines (cfg := cfg) true 0 c.lookahead c.fs win h
      rw [show pesIter true cfg 0 c.lookahead c.fs win = _ from hm] at this
      exact ⟨this, this⟩) L c h

/-- what a context must satisfy for the drain theorem: the invariant of every reachable context, and at
most 64 lines collected -/
def CorInv (cfg : SrcCfg) (s : St) : Prop := Inv cfg s ∧ LinesOK s

theorem CorInv_init : CorInv cfg St.init := ⟨Inv_init, by simp [LinesOK, St.init]⟩

theorem CorInv_feeds (chunks : List Bytes) : CorInv cfg (pesFeeds cfg St.init chunks).st := by
  obtain ⟨_, hi, har⟩ := pesFeeds_init (cfg := cfg) chunks
  refine ⟨hi, ?_⟩
  have hl := arun_lines (cfg := cfg) chunks.flatten Core.init (Nat.zero_le _)
  rwa [har] at hl

theorem DrainInv_of_CorInv (s : St) (h : CorInv cfg s) : DrainInv cfg s := by
  refine ⟨⟨h.1.1, JInv_of_Inv s h.1, h.2⟩, ?_⟩
  have hs : arun cfg s.core s.pending = _ := h.1.2
  unfold Quiet; rw [hs]; rfl

/-- the coroutine-side context `sc` and the feed-side context `sf` deliver the same frames with lines on
every continuation of the stream (the coroutine side may lag inside its wrap window) -/
def CorSim (cfg : SrcCfg) (sc sf : St) : Prop :=
  ∀ X : Bytes, (arun cfg sc.core (sc.pending ++ X)).frames.filter nonEmpty
    = (arun cfg sf.core (sf.pending ++ X)).frames.filter nonEmpty

theorem CorSim.refl (s : St) : CorSim cfg s s := fun _ => rfl

/-- one drained buffer from related contexts: same frames, related contexts again -/
theorem corDrain_step (hse : cfg.corSkipsEmpty = true) (hpd : cfg.pesDiscards = true) (sc sf : St) (b : Bytes)
    (hc : DrainInv cfg sc) (hf : Inv cfg sf) (hsim : CorSim cfg sc sf) :
    (pesCorDrain (2 * b.length + 4) cfg 0 sc b 0 64).err = none ∧
    (pesCorDrain (2 * b.length + 4) cfg 0 sc b 0 64).stalled = false ∧
    (pesCorDrain (2 * b.length + 4) cfg 0 sc b 0 64).frames = (pesFeed cfg sf b).frames.filter nonEmpty ∧
    DrainInv cfg (pesCorDrain (2 * b.length + 4) cfg 0 sc b 0 64).st ∧
    CorSim cfg (pesCorDrain (2 * b.length + 4) cfg 0 sc b 0 64).st (pesFeed cfg sf b).st := by
  obtain ⟨⟨hinv, hj, hl⟩, hq⟩ := hc
  have hpl : sc.pending.length = sc.pw.leftover := sc.pw.pend_length hinv.1
  have hmeas : corMeasure sc (sc.pending ++ b.drop 0).length + 2 ≤ 2 * b.length + 4 := by
    have hj' : sc.pw.leftover ≤ sc.pw.skip + sc.pw.lookahead := hj
    have hfl : corFlag sc ≤ 1 := by unfold corFlag; split <;> omega
    unfold corMeasure
    simp only [List.drop_zero, List.length_append, hpl]
    omega
  obtain ⟨hd, hx⟩ := corDrain_refines (cfg := cfg) hse hpd b sc.pending (2 * b.length + 4) sc 0 ⟨hinv, hj, hl⟩ (Nat.zero_le _)
    (by simp) hmeas (fun _ => hq)
  rw [List.drop_zero] at hd hx
  obtain ⟨_, _, har⟩ := pesFeed_refines (cfg := cfg) sf b hf
  have hA : (arun cfg sc.core (sc.pending ++ b)).frames.filter nonEmpty = (pesFeed cfg sf b).frames.filter nonEmpty := by
    rw [hsim b, har]
  refine ⟨hd.1, hd.2.1, by rw [hd.2.2, hA], hx.1, fun X => ?_⟩
  have h1 := hx.2 X
  have h2 := hsim (b ++ X)
  rw [← List.append_assoc, h1, ← List.append_assoc,
    arun_append (cfg := cfg) (sf.pending ++ b) sf.core X (by rw [har]), har] at h2
  simp only [ARes.pre, List.filter_append, hA] at h2
  exact List.append_cancel_left h2


/-- non-vacuity: three packets in one buffer; the drained coroutine returns the two frames that are
complete (the third packet's frame is still open), the same as feed -/
example : ((pesCorDrain (2 * (linePacket 3 7 0x55 ++ linePacket 4 7 0x66 ++ linePacket 5 7 0x77).length + 4)
      SrcCfg.repaired 0 St.init (linePacket 3 7 0x55 ++ linePacket 4 7 0x66 ++ linePacket 5 7 0x77) 0 64).frames.map
    fun f => (f.pts, f.lines.map fun l => (l.id, l.line))) = [(3, [(3, 7)]), (4, [(3, 7)])] := by decide +kernel

/-- non-vacuity: `livelockPacket` makes feed deliver a frame without lines, which the filter removes and the
coroutine never returns; the frame after it (two lines) is returned by both -/
example : (pesFeed SrcCfg.repaired St.init (livelockPacket ++ linePacket 3 7 0x55 ++ linePacket 4 7 0x66)).frames.map
      (fun f => (f.pts, f.lines.length)) = [(1, 0), (1, 2)] ∧
    (pesCorDrain (2 * (livelockPacket ++ linePacket 3 7 0x55 ++ linePacket 4 7 0x66).length + 4) SrcCfg.repaired 0 St.init
      (livelockPacket ++ linePacket 3 7 0x55 ++ linePacket 4 7 0x66) 0 64).frames.map
      (fun f => (f.pts, f.lines.length)) = [(1, 2)] := by decide +kernel

/-- the shape `SrcCfg.repaired`, on which the examples above are evaluated, satisfies both hypotheses -/
example : SrcCfg.repaired.corSkipsEmpty = true ∧ SrcCfg.repaired.pesDiscards = true := ⟨rfl, rfl⟩

/-- five packets (920 bytes): line 7 | stuffing + Teletext line 3 of the first field (a line number error) |
Teletext, undefined line, second field | line 7 | line 7 -/
def corNoDiscardWitness : Bytes :=
  linePacket 1 7 0x11 ++ witPacket 2 (witStuffing ++ witTtxUnit 0xE3 0x22) ++ witPacket 3 (witTtxUnit 0xC0 0x33) ++
    linePacket 4 7 0x44 ++ linePacket 5 7 0x55

/-- non-vacuity: a context in the middle of a packet (100 bytes fed before), rest drained -/
example : ((pesCorDrain (2 * ((linePacket 3 7 0x55).drop 100 ++ linePacket 4 7 0x66).length + 4) SrcCfg.repaired 0
      (pesFeeds SrcCfg.repaired St.init [(linePacket 3 7 0x55).take 100]).st
      ((linePacket 3 7 0x55).drop 100 ++ linePacket 4 7 0x66) 0 64).frames.map
    fun f => (f.pts, f.lines.map fun l => (l.id, l.line))) = [(3, [(3, 7)])] := by decide +kernel

/-! ## Successive drained buffers

`C07Cor.cor_equals_feed_from` starts from a context that satisfies `CorInv`, i.e. one left behind by
`vbi_dvb_demux_feed` calls.  The context a *drain* leaves behind need not satisfy it: when the last call
returned a frame exactly at the end of the buffer, the context still sits at that packet's payload window
(`pending` = the whole window, `new_frame` set, `Stuck` fails).  `corDrain_refines` does apply to such a
context (`DrainInv`), and its continuation form says that the run from the coroutine context and the run from the
context feed left behind deliver the same frames on every continuation (`CorSim`, kept by `corDrain_step` above);
`pesCorDrains_eq_feeds_from` composes the drains with it. -/

/-- successive drain loops over one context -/
def pesCorDrains (cfg : SrcCfg) (s : St) : List Bytes → List FrameOut
  | [] => []
  | b :: bs =>
    let r := pesCorDrain (2 * b.length + 4) cfg 0 s b 0 64
    r.frames ++ pesCorDrains cfg r.st bs

theorem pesCorDrains_eq_feeds_from (hse : cfg.corSkipsEmpty = true) (hpd : cfg.pesDiscards = true) :
    ∀ (bufs : List Bytes) (sc sf : St), DrainInv cfg sc → Inv cfg sf → CorSim cfg sc sf →
    pesCorDrains cfg sc bufs = (pesFeeds cfg sf bufs).frames.filter (fun f => !f.lines.isEmpty) := by
  intro bufs
  induction bufs with
  | nil => intro sc sf _ _ _; rfl
  | cons b bs ih =>
    intro sc sf hc hf hsim
    obtain ⟨_, _, h3, h4, h5⟩ := corDrain_step (cfg := cfg) hse hpd sc sf b hc hf hsim
    obtain ⟨he, hi1, _⟩ := pesFeed_refines (cfg := cfg) sf b hf
    have hrec := ih _ _ h4 hi1 h5
    simp only [pesCorDrains, pesFeeds, he, List.filter_append]
    rw [h3, hrec]
    rfl


/-- two drained buffers evaluated in the kernel, the first ending exactly
at the end of a packet whose frame was just handed over -/
example : pesCorDrains SrcCfg.repaired St.init
      [linePacket 3 7 0x55 ++ linePacket 4 7 0x66, linePacket 5 7 0x77 ++ linePacket 6 7 0x11]
    = (pesFeeds SrcCfg.repaired St.init
        [linePacket 3 7 0x55 ++ linePacket 4 7 0x66, linePacket 5 7 0x77 ++ linePacket 6 7 0x11]).frames.filter
        (fun f => !f.lines.isEmpty) := by decide +kernel

/-- non-vacuity: the second buffer starts in a context that is not `CorInv` (hand-over at the very end of
the first buffer) and still yields its frames -/
example : (pesCorDrains SrcCfg.repaired St.init
      [linePacket 3 7 0x55 ++ linePacket 4 7 0x66, linePacket 5 7 0x77 ++ linePacket 6 7 0x11]).map
    (fun f => (f.pts, f.lines.length)) = [(3, 1), (4, 1), (5, 1)] := by decide +kernel

end Zvbi.Demux
