import ZvbiModel.Demux.Ts
import ZvbiModel.Util.Bits
/-!
# TS path: the continuity_counter rule  (helper lemmas for C07)

`tsContCheck cont b3` models `if (0 != ((dx->ts_continuity ^ b3) & 0x0F)) { if (dx->ts_continuity >= 0) { prev_cont =
dx->ts_continuity - 1; if (0 == ((prev_cont ^ b3) & 0x0F)) repeated else lost } }` of `demux_ts_packet`;
`cont = none` is `ts_continuity == -1` (stream start, after every loss of sync), `some c` the expected counter
(`b3 + 1` of the last accepted packet, not reduced modulo 16: only the low four bits are compared).
-/
namespace Zvbi.Demux

variable {cfg : SrcCfg}

/-- `(a ^ b) & 0x0F == 0` compares the low four bits -/
theorem low4 (a b : Nat) : ((a ^^^ b) &&& 0x0F = 0) ↔ a % 16 = b % 16 := by
  rw [Nat.and_xor_distrib_right, Zvbi.Bits.xor_eq_zero, Zvbi.Bits.and_0F, Zvbi.Bits.and_0F]

theorem tsContCheck_none (b3 : Nat) : tsContCheck none b3 = .ok := rfl

theorem tsContCheck_ok_iff (c b3 : Nat) : tsContCheck (some c) b3 = .ok ↔ b3 % 16 = c % 16 := by
  unfold tsContCheck
  simp only [ne_eq]
  by_cases h : (c ^^^ b3) &&& 0x0F = 0
  · rw [if_neg (by simpa using h)]
    have := (low4 c b3).1 h
    exact ⟨fun _ => this.symm, fun _ => rfl⟩
  · rw [if_pos h]
    have hne : ¬ c % 16 = b3 % 16 := fun e => h ((low4 c b3).2 e)
    split
    · exact ⟨(fun e => by cases e), fun e => absurd e.symm hne⟩
    · exact ⟨(fun e => by cases e), fun e => absurd e.symm hne⟩

/-- expected counter `c` known: taken for a repeated packet iff the packet carries not the expected counter but the one
before it -/
theorem tsContCheck_repeated_iff (c b3 : Nat) :
    tsContCheck (some c) b3 = .repeated ↔ (b3 % 16 ≠ c % 16 ∧ b3 % 16 = (c - 1) % 16) := by
  unfold tsContCheck
  simp only [ne_eq]
  by_cases h : (c ^^^ b3) &&& 0x0F = 0
  · rw [if_neg (by simpa using h)]
    have := (low4 c b3).1 h
    exact ⟨(fun e => by cases e), fun e => absurd this.symm e.1⟩
  · rw [if_pos h]
    have hne : ¬ b3 % 16 = c % 16 := fun e => h ((low4 c b3).2 e.symm)
    by_cases h2 : ((c - 1) ^^^ b3) &&& 0x0F = 0
    · rw [if_pos h2]
      exact ⟨fun _ => ⟨hne, ((low4 (c - 1) b3).1 h2).symm⟩, fun _ => rfl⟩
    · rw [if_neg h2]
      exact ⟨(fun e => by cases e), fun e => absurd ((low4 (c - 1) b3).2 e.2.symm) h2⟩

/-- after a packet with header byte `p` was accepted (`ts_continuity = p + 1`): the next packet of the PID is
dropped as "Repeated TS packet" exactly when its counter equals that of the packet before -/
theorem tsContCheck_repeated_prev (p q : Nat) : tsContCheck (some (p + 1)) q = .repeated ↔ q % 16 = p % 16 := by
  rw [tsContCheck_repeated_iff, Nat.add_sub_cancel]
  constructor
  · exact fun h => h.2
  · intro h
    refine ⟨?_, h⟩
    omega

/-- after a packet with header byte `p` was accepted: the next packet of the PID is accepted exactly when it carries the
next counter -/
theorem tsContCheck_ok_next (p q : Nat) : tsContCheck (some (p + 1)) q = .ok ↔ q % 16 = (p + 1) % 16 :=
  tsContCheck_ok_iff (p + 1) q

/-- header evaluation of a repeated packet: it is skipped (`skip_ts_packet`) and nothing else changes - the
expected counter, the PES packet under assembly and the frame are kept -/
theorem tsHeader_repeated (s : TsSt) (q : Bytes) (c : Nat) (hc : s.cont = some c) (hh : tsHeaderCheck s q = none)
    (hr : q.getD 3 0 % 16 = (c - 1) % 16) (hn : q.getD 3 0 % 16 ≠ c % 16) :
    tsHeader cfg s q = (tsSkipPacket s q, none) := by
  unfold tsHeader
  rw [hh]
  simp only [hc, (tsContCheck_repeated_iff c (q.getD 3 0)).2 ⟨hn, hr⟩]

/-! ## `ts_continuity >= 0` vs. `> 0`

`tsContCheckStrict` is `tsContCheck` with `if (dx->ts_continuity > 0)` as the sign test.
The two agree on every expected counter that is unknown or at least 1; at 0 they differ.  (At 0 the model's
truncated `c - 1` would also differ from the C code's `unsigned int prev_cont = 0 - 1`; the clause `cnt` of `TsInv`
(`Demux/LemmasTsSafe.lean`) shows that 0 is never stored, for 1 <= c < 2^32 the two subtractions are the same.) -/

/-- `tsContCheck` with `if (dx->ts_continuity > 0)` in place of `>= 0` -/
def tsContCheckStrict (cont : Option Nat) (b3 : Nat) : ContV :=
  match cont with
  | none => .ok
  | some c =>
    if (c ^^^ b3) &&& 0x0F ≠ 0 then
      if 0 < c then
        if ((c - 1) ^^^ b3) &&& 0x0F = 0 then .repeated else .lost
      else .ok
    else .ok

theorem tsContCheckStrict_eq (o : Option Nat) (h : ∀ c, o = some c → 1 ≤ c) (b3 : Nat) :
    tsContCheckStrict o b3 = tsContCheck o b3 := by
  cases o with
  | none => rfl
  | some c =>
    have h0 : 0 < c := h c rfl
    show (if (c ^^^ b3) &&& 0x0F ≠ 0 then
            (if 0 < c then (if ((c - 1) ^^^ b3) &&& 0x0F = 0 then ContV.repeated else ContV.lost) else ContV.ok)
          else ContV.ok)
        = (if (c ^^^ b3) &&& 0x0F ≠ 0 then (if ((c - 1) ^^^ b3) &&& 0x0F = 0 then ContV.repeated else ContV.lost)
          else ContV.ok)
    rw [if_pos h0]

/-- at 0 (what the invariant excludes) the two tests differ -/
theorem tsContCheckStrict_differs_at_zero : tsContCheckStrict (some 0) 15 ≠ tsContCheck (some 0) 15 := by decide

end Zvbi.Demux
