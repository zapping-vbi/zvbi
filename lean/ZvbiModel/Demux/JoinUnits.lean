import ZvbiModel.Demux.LemmasFeed
import ZvbiModel.Mux.LemmasLines
/-!
# Parser equivalence, data unit level  (join of C06 and C07)

`extract_data_units` (model: `extractLoop`) on a data unit region that the standards reader
`EnParse` (ZvbiModel/Mux/Spec.lean) accepts: every line unit is stored with the service id, line
number and payload bits the reader sees; stuffing is skipped; the only way to leave the loop early
is the frame boundary rule of `line_address`.  Lines with an undefined line number
(`line_offset` 0) are outside these lemmas: for them the reader drops the field parity on which
`line_address` decides.
-/
namespace Zvbi.Demux
open Zvbi.Hamm (rev8)
open Zvbi.Mux.EnParse (Line Svc DataUnit Pes unitLine unitsLines lofpLine encUnits parseUnits parseUnitsF allFF)

variable {cfg : SrcCfg}

/-- the `vbi_sliced` the demultiplexer delivers for a line of the stream: service id as libzvbi
reports it (Teletext B 3, VPS 4, WSS 0x400, Caption first field 8), the frame line, the payload
(WSS: the 14 bits and the two reserved bits, which the standard sets to 1) -/
def ofLine (l : Line) : Sliced :=
  match l.svc with
  | .ttx => ⟨SL_TELETEXT_B, l.line, l.data⟩
  | .vps => ⟨SL_VPS, l.line, l.data⟩
  | .wss => ⟨SL_WSS_625, l.line, [l.data.getD 0 0, l.data.getD 1 0 + 192]⟩
  | .cc => ⟨SL_CAPTION_625_F1, l.line, l.data⟩

def lofpCheck (lofp : Nat) : Bool :=
  match lofpLine lofp with
  | some l => l = 0 ∨ lofpToLine lofp true = (if l < 313 then 0 else 1, lofp % 32, l)
  | none => true

theorem lofpCheck_all : ∀ lofp < 256, lofpCheck lofp = true := by decide +kernel

theorem lofp_lt (lofp l : Nat) (h : lofpLine lofp = some l) : lofp < 256 := by
  unfold lofpLine at h
  split at h
  · cases h
  · omega

/-- the reader's line number of a `lofp` byte is `lofp_to_line`'s frame line -/
theorem lofp_agree (lofp l : Nat) (h : lofpLine lofp = some l) (h0 : l ≠ 0) :
    lofpToLine lofp true = (if l < 313 then 0 else 1, lofp % 32, l) := by
  have := lofpCheck_all lofp (lofp_lt lofp l h)
  unfold lofpCheck at this
  rw [h] at this
  simpa [h0] using this

theorem wss_top : ∀ c < 256, c % 4 = 3 → rev8 c % 64 + 192 = rev8 c := by decide +kernel

theorem rev8_mod (c : Nat) : rev8 c = rev8 (c % 256) := by
  unfold rev8; rw [Nat.mod_mod]

/-- the frame after `line_address` allocated a slot for defined line `l` -/
def addrFrame (f : Frame) (lofp l : Nat) : Frame :=
  { f with lastField := if l < 313 then 0 else 1, lastFieldLine := lofp % 32, lastFrameLine := l, nDu := f.nDu + 1 }

/-- the tests of `line_address` on a defined line number `l`, in both shapes of the source: the overflow error comes
first (`cfg.lateOverflow = false`) or after the frame boundary / line order tests (fix dvb-demux-full-frame) -/
def lineTests (cfg : SrcCfg) (f : Frame) (l : Nat) (err newFrame ok : α) : α :=
  if cfg.lateOverflow = false ∧ f.lines.length ≥ 64 then err
  else if l ≤ f.lastFrameLine then (if f.nDu > 0 then err else newFrame)
  else if f.lines.length ≥ 64 then err
  else ok

theorem lineAddress_defined (f : Frame) (lofp l : Nat) (h : lofpLine lofp = some l) (h0 : l ≠ 0) :
    lineAddress cfg f lofp true = lineTests cfg f l .err .newFrame (.ok (addrFrame f lofp l) l) := by
  unfold lineAddress lineTests
  rw [lofp_agree lofp l h h0]
  simp only [h0, ne_eq, not_false_eq_true, if_true, N_SLICED]
  rfl

/-- what storing line `l` does to the frame -/
def storeFrame (f : Frame) (lofp : Nat) (l : Line) : Frame :=
  pushLine (addrFrame f lofp l.line) (ofLine l).id l.line (ofLine l).data

/-- what a line unit with the defined line `l` does -/
def lineRes (cfg : SrcCfg) (f : Frame) (lofp : Nat) (l : Line) : DU :=
  lineTests cfg f l.line (.fail f .err) (.fail f .newFrame) (.store (storeFrame f lofp l))

/-- with room in the buffer the shape of the source does not matter -/
theorem lineRes_room (f : Frame) (lofp : Nat) (l : Line) (hf : f.lines.length < 64) :
    lineRes cfg f lofp l =
      if l.line ≤ f.lastFrameLine then (if f.nDu > 0 then .fail f .err else .fail f .newFrame)
      else .store (storeFrame f lofp l) := by
  unfold lineRes lineTests
  rw [if_neg (by omega)]
  split
  · rfl
  · rw [if_neg (by omega)]

/-- a frame of `n` lines can still be closed by the next packet: `line_address` gets as far as its frame boundary
rule - always with the overflow test behind it, with room in the buffer otherwise -/
def Closable (cfg : SrcCfg) (n : Nat) : Prop := cfg.lateOverflow = true ∨ n < 64

theorem lineRes_newFrame (f : Frame) (lofp : Nat) (l : Line) (hcap : Closable cfg f.lines.length)
    (hle : l.line ≤ f.lastFrameLine) (hn : f.nDu = 0) : lineRes cfg f lofp l = .fail f .newFrame := by
  rcases hcap with hlo | hroom
  · -- fix dvb-demux-full-frame: the first unit of a packet closes the frame under assembly also when the buffer is full
    unfold lineRes lineTests
    rw [if_neg (by simp [hlo]), if_pos hle, if_neg (by omega)]
  · rw [lineRes_room f lofp l hroom, if_pos hle, if_neg (by omega)]

/-- a full buffer and a line beyond the frame's last line: the overflow error, in both shapes -/
theorem lineRes_overflow (f : Frame) (lofp : Nat) (l : Line) (hf : f.lines.length ≥ 64)
    (hgt : f.lastFrameLine < l.line) : lineRes cfg f lofp l = .fail f .err := by
  have h1 : ¬ l.line ≤ f.lastFrameLine := by omega
  unfold lineRes lineTests
  simp only [h1, hf, if_true, if_false, ite_self]

theorem dataUnit_defined (f : Frame) (d : Bytes) (id len : Nat) (u : UnitKind) (lofp l : Nat)
    (hh : unitHead d id len = .line u lofp) (hs : u.sys625 = true) (hl : lofpLine lofp = some l) (h0 : l ≠ 0)
    (hok : u.lineOk (lofp % 32) l = true) (hd : len + 2 ≤ d.length) :
    dataUnit cfg f d id len =
      lineTests cfg f l (.fail f .err) (.fail f .newFrame)
        (.store (pushLine (addrFrame f lofp l) (u.sid (if l < 313 then 0 else 1)) l
          (if u.rev then ((d.drop u.off).take u.n).map rev8 else (d.drop u.off).take u.n))) := by
  have hlen := (unitHead_line d id len u lofp hh).2
  rw [dataUnit_eq, hh]
  simp only [hs, lineAddress_defined f lofp l hl h0]
  unfold lineTests
  by_cases he : cfg.lateOverflow = false ∧ f.lines.length ≥ 64
  · simp only [he, and_self, if_true]
  simp only [if_neg he]
  by_cases hle : l ≤ f.lastFrameLine
  · simp only [hle, if_true]
    by_cases hn : f.nDu > 0 <;> simp only [hn, if_true, if_false]
  simp only [hle, if_false]
  by_cases hfull : f.lines.length ≥ 64
  · simp only [hfull, if_true]
  simp only [hfull, if_false, unitStore, addrFrame, hok, Bool.true_eq_false]
  rw [if_pos (by simp only [List.length_take, List.length_drop]; omega)]

theorem unit_lofp (a b : Nat) (p tail : Bytes) (h : 0 < p.length) :
    (a :: b :: (p ++ tail))[2]? = some (p.getD 0 0) := by
  cases p with
  | nil => simp at h
  | cons x p => rfl

theorem unit_payload (a b : Nat) (p tail : Bytes) (k n : Nat) (hk : 2 ≤ k) (h : k - 2 + n ≤ p.length) :
    ((a :: b :: (p ++ tail)).drop k).take n = (p.drop (k - 2)).take n := by
  obtain ⟨j, rfl⟩ : ∃ j, k = j + 2 := ⟨k - 2, by omega⟩
  simp only [List.drop_succ_cons, Nat.add_sub_cancel] at h ⊢
  rw [List.drop_append_of_le_length (by omega), List.take_append_of_le_length (by simp; omega)]

/-- a line unit the reader accepts (defined line number) does to the frame what `lineRes` says -/
theorem dataUnit_line (f : Frame) (u : DataUnit) (l : Line) (tail : Bytes)
    (hu : unitLine u = some (some l)) (h0 : l.line ≠ 0) :
    ∃ lofp, dataUnit cfg f (u.id :: u.payload.length :: (u.payload ++ tail)) u.id u.payload.length = lineRes cfg f lofp l := by
  obtain ⟨id, p⟩ := u
  refine ⟨p.getD 0 0, ?_⟩
  have hlofp := fun h => unit_lofp id p.length p tail h
  cases Zvbi.Mux.unitLine_eq_some id p (some l) hu with
  | ttx lv hid hlen _ hfc hlv hoff =>
    have h3 : (id :: p.length :: (p ++ tail))[3]? = some 0xE4 := by
      rcases p with _ | ⟨p0, _ | ⟨p1, r⟩⟩
      · simp at hlen
      · simp at hlen
      · simpa using hfc
    rw [dataUnit_defined f _ id _ .ttx _ lv
      (unitHead_line_of _ _ _ _ _ (by rcases hid with rfl | rfl <;> rfl) (by simp [UnitKind.ttx]; omega) (fun _ => h3) (hlofp (by omega)))
      rfl hlv h0 (by simp only [UnitKind.ttx, Bool.not_eq_true', decide_eq_false_iff_not]; omega) (by simp)]
    simp only [lineRes, storeFrame, ofLine, UnitKind.ttx, unit_payload id _ p tail 4 42 (by omega) (by omega)]
    simp
  | vps hid hlen _ hlv =>
    rw [dataUnit_defined f _ id _ .vps _ 16
      (unitHead_line_of _ _ _ _ _ (by rw [hid]; rfl) (by simp [UnitKind.vps]; omega)
        (by simp [UnitKind.vps]) (hlofp (by omega)))
      rfl hlv (by decide) (by simp [UnitKind.vps]) (by simp)]
    simp only [lineRes, storeFrame, ofLine, UnitKind.vps, unit_payload id _ p tail 3 13 (by omega) (by omega)]
    simp
  | wss hid hlen _ h4 hlv =>
    rw [dataUnit_defined f _ id _ .wss _ 23
      (unitHead_line_of _ _ _ _ _ (by rw [hid]; rfl)
        (by simp [UnitKind.wss]; omega) (by simp [UnitKind.wss]) (hlofp (by omega)))
      rfl hlv (by decide) (by simp [UnitKind.wss]) (by simp)]
    simp only [lineRes, storeFrame, ofLine, UnitKind.wss, unit_payload id _ p tail 3 2 (by omega) (by omega)]
    rcases p with _ | ⟨p0, _ | ⟨p1, _ | ⟨p2, r⟩⟩⟩
    · simp at hlen
    · simp at hlen
    · simp at hlen
    · have hw : rev8 p2 % 64 + 192 = rev8 p2 := by
        rw [rev8_mod p2]
        exact wss_top (p2 % 256) (Nat.mod_lt _ (by decide)) (by simpa using h4)
      simp [hw]
  | cc hid hlen _ hlv =>
    rw [dataUnit_defined f _ id _ .cc _ 21
      (unitHead_line_of _ _ _ _ _
        (by rw [hid]; rfl)
        (by simp [UnitKind.cc]; omega) (by simp [UnitKind.cc]) (hlofp (by omega)))
      rfl hlv (by decide) (by simp [UnitKind.cc]) (by simp)]
    simp only [lineRes, storeFrame, ofLine, UnitKind.cc, unit_payload id _ p tail 3 2 (by omega) (by omega)]
    rcases p with _ | ⟨p0, _ | ⟨p1, _ | ⟨p2, r⟩⟩⟩
    · simp at hlen
    · simp at hlen
    · simp at hlen
    · simp

theorem dataUnit_stuffing (f : Frame) (d : Bytes) (len : Nat) : dataUnit cfg f d 0xFF len = .skip := by
  rw [dataUnit_eq]
  simp [unitHead, unitKind, DU_TTX_NON_SUBTITLE, DU_TTX_SUBTITLE, DU_VPS, DU_WSS, DU_ZVBI_WSS_CPR1204, DU_ZVBI_CC_525, DU_CC]

theorem dataUnit_stuff_unit (f : Frame) (u : DataUnit) (d : Bytes) (hu : unitLine u = some none) :
    dataUnit cfg f d u.id u.payload.length = .skip := by
  have hid : u.id = 0xFF := Zvbi.Mux.unitLine_eq_some u.id u.payload none hu
  rw [hid]; exact dataUnit_stuffing f d _

end Zvbi.Demux
