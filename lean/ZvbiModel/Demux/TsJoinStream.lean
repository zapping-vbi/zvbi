import ZvbiModel.Demux.TsJoinPacket
import ZvbiModel.Demux.LemmasTsSafe
/-!
# TS path joined with the multiplexer, TS stream level

A stream that is a sequence of intact 188-byte TS packets (`xs`), read by a new TS demultiplexer in
ANY partition into feed calls: the frames delivered and the context at the end are the composition
of the per-packet effects (`Effs`).  `Merge` = packets of the PID's own stream with foreign packets
(`Foreign`) interleaved at arbitrary packet boundaries.
-/
namespace Zvbi.Demux
variable {cfg : SrcCfg}

/-- an intact TS packet as far as the framing is concerned: 188 bytes, sync byte -/
def TsPkt (p : Bytes) : Prop := p.length = 188 ∧ p.getD 0 0 = 0x47

/-- the effects of a sequence of TS packets, composed -/
inductive Effs (cfg : SrcCfg) (pid : Nat) : V → List Bytes → V → List FrameOut → Prop
  | nil (v : V) : Effs cfg pid v [] v []
  | cons (v v1 v2 : V) (p : Bytes) (ps : List Bytes) (o1 o2 : List FrameOut)
      (h1 : PktEff cfg pid v p v1 o1) (h2 : Effs cfg pid v1 ps v2 o2) : Effs cfg pid v (p :: ps) v2 (o1 ++ o2)

theorem Effs.append {pid : Nat} : ∀ {xa : List Bytes} {v v1 v2 : V} {xb : List Bytes} {o1 o2 : List FrameOut},
    Effs cfg pid v xa v1 o1 → Effs cfg pid v1 xb v2 o2 → Effs cfg pid v (xa ++ xb) v2 (o1 ++ o2) := by
  intro xa
  induction xa with
  | nil =>
    intro v v1 v2 xb o1 o2 h1 h2
    cases h1
    simpa using h2
  | cons p ps ih =>
    intro v v1 v2 xb o1 o2 h1 h2
    cases h1 with
    | cons _ v' _ _ _ oa ob ha hb =>
      have := Effs.cons v v' v2 p (ps ++ xb) oa (ob ++ o2) ha (ih hb h2)
      simpa [List.append_assoc] using this

/-- a TS packet the demultiplexer for `pid` passes over: no transport error, and another PID or
(same PID, not scrambled) adaptation field only -/
def Foreign (pid : Nat) (p : Bytes) : Prop := TsPkt p ∧ tsHeaderCheck { pid := pid } p = some false

/-- any intact packet of another PID (null packets included) without transport_error_indicator is `Foreign`,
whatever its payload_unit_start, scrambling, adaptation field, counter and payload bytes are -/
theorem foreign_of_pid (pid : Nat) (p : Bytes) (hp : TsPkt p) (htei : p.getD 1 0 &&& 0x80 = 0)
    (hpid : (p.getD 1 0 * 256 + p.getD 2 0) &&& 0x1FFF ≠ pid) : Foreign pid p := by
  refine ⟨hp, ?_⟩
  unfold tsHeaderCheck
  simp only [htei, ne_eq, not_true_eq_false, if_false]
  rw [if_pos hpid]

/-- `xs` = the packets `ps` in order with foreign packets put between them anywhere -/
inductive Merge (pid : Nat) : List Bytes → List Bytes → Prop
  | nil : Merge pid [] []
  | own (p : Bytes) (ps xs : List Bytes) (h : Merge pid ps xs) : Merge pid (p :: ps) (p :: xs)
  | other (f : Bytes) (ps xs : List Bytes) (hf : Foreign pid f) (h : Merge pid ps xs) : Merge pid ps (f :: xs)

theorem Merge.refl (pid : Nat) : ∀ ps : List Bytes, Merge pid ps ps
  | [] => .nil
  | p :: ps => .own p ps ps (Merge.refl pid ps)

theorem Merge.split {pid : Nat} : ∀ {xs a b : List Bytes}, Merge pid (a ++ b) xs →
    ∃ xa xb, xs = xa ++ xb ∧ Merge pid a xa ∧ Merge pid b xb := by
  intro xs
  induction xs with
  | nil =>
    intro a b h
    generalize hab : a ++ b = ab at h
    cases h with
    | nil =>
      obtain ⟨ha, hb⟩ := List.append_eq_nil_iff.1 hab
      subst ha; subst hb
      exact ⟨[], [], rfl, .nil, .nil⟩
  | cons x xs ih =>
    intro a b h
    generalize hab : a ++ b = ab at h
    cases h with
    | own p ps _ h' =>
      cases a with
      | nil =>
        simp only [List.nil_append] at hab
        subst hab
        exact ⟨[], x :: xs, rfl, .nil, .own x ps xs h'⟩
      | cons a0 a' =>
        simp only [List.cons_append, List.cons.injEq] at hab
        obtain ⟨rfl, rfl⟩ := hab
        obtain ⟨xa, xb, rfl, h1, h2⟩ := ih h'
        exact ⟨a0 :: xa, xb, rfl, .own a0 a' xa h1, h2⟩
    | other _ _ _ hf h' =>
      subst hab
      obtain ⟨xa, xb, rfl, h1, h2⟩ := ih h'
      exact ⟨x :: xa, xb, rfl, .other x a xa hf h1, h2⟩

theorem Merge.ofForeign {pid : Nat} : ∀ fs : List Bytes, (∀ f ∈ fs, Foreign pid f) → Merge pid [] fs
  | [], _ => .nil
  | f :: fs, h => .other f [] fs (h f (List.mem_cons_self ..)) (Merge.ofForeign fs fun g hg => h g (List.mem_cons_of_mem _ hg))

theorem Merge.append {pid : Nat} {a xa b xb : List Bytes} (h1 : Merge pid a xa) (h2 : Merge pid b xb) :
    Merge pid (a ++ b) (xa ++ xb) := by
  induction h1 with
  | nil => simpa using h2
  | own p ps xs _ ih => exact .own p (ps ++ b) (xs ++ xb) ih
  | other f ps xs hf _ ih => exact .other f (ps ++ b) (xs ++ xb) hf ih

theorem effs_foreign (pid : Nat) (v : V) : ∀ xs : List Bytes, Merge pid [] xs → Effs cfg pid v xs v [] := by
  intro xs
  induction xs with
  | nil => intro _; exact .nil v
  | cons x xs ih =>
    intro h
    cases h with
    | other _ _ _ hf h' =>
      have := Effs.cons v v v x xs [] [] (PktEff.skip v x hf.2) (ih h')
      simpa using this

theorem merge_tsPkt {pid : Nat} : ∀ {xs ps : List Bytes}, Merge pid ps xs → (∀ p ∈ ps, TsPkt p) → ∀ x ∈ xs, TsPkt x := by
  intro xs
  induction xs with
  | nil => intro ps _ _ x hx; cases hx
  | cons y xs ih =>
    intro ps h hps x hx
    cases h with
    | own p ps' _ h' =>
      rcases List.mem_cons.mp hx with rfl | hx
      · exact hps _ (List.mem_cons_self ..)
      · exact ih h' (fun q hq => hps q (List.mem_cons_of_mem _ hq)) x hx
    | other _ _ _ hf h' =>
      rcases List.mem_cons.mp hx with rfl | hx
      · exact hf.1
      · exact ih h' hps x hx

/-! ## successive feed calls -/

/-- packets fed one per call from a packet boundary -/
theorem tsFeedAll_packets (pid : Nat) : ∀ (xs : List Bytes) (v v' : V) (outs : List FrameOut),
    (∀ x ∈ xs, TsPkt x) → Effs cfg pid v xs v' outs →
    tsFeedAll cfg (mkAt pid v []) xs = (mkAt pid v' [], outs) := by
  intro xs
  induction xs with
  | nil => intro v v' outs _ h; cases h; rfl
  | cons x xs ih =>
    intro v v' outs hx h
    cases h with
    | cons _ v1 _ _ _ o1 o2 h1 h2 =>
      obtain ⟨hl, h47⟩ := hx x (List.mem_cons_self ..)
      have hf := feed_at (cfg := cfg) pid v v1 x o1 0 hl h47 (by omega) h1
      simp only [List.take_zero, List.drop_zero] at hf
      simp only [tsFeedAll, hf, ih v1 v' o2 (fun y hy => hx y (List.mem_cons_of_mem _ hy)) h2]

/-- **a stream of at least two intact TS packets through a new demultiplexer, fed whole.** -/
theorem tsFeed_stream (hflag : cfg.tsCompletesInHeader = true) (pid : Nat) (x1 x2 : Bytes) (rest : List Bytes)
    (v' : V) (outs : List FrameOut) (hx : ∀ x ∈ x1 :: x2 :: rest, TsPkt x)
    (h : Effs cfg pid V.init (x1 :: x2 :: rest) v' outs) :
    (tsFeed cfg (TsSt.init pid) (x1 :: x2 :: rest).flatten).st = mkAt pid v' []
    ∧ (tsFeed cfg (TsSt.init pid) (x1 :: x2 :: rest).flatten).frames = outs := by
  cases h with
  | cons _ v1 _ _ _ o1 o23 h1 h23 =>
    cases h23 with
    | cons _ v2 _ _ _ o2 o3 h2 h3 =>
      obtain ⟨hl1, h471⟩ := hx x1 (List.mem_cons_self ..)
      obtain ⟨hl2, h472⟩ := hx x2 (List.mem_cons_of_mem _ (List.mem_cons_self ..))
      have hA := feed_first (cfg := cfg) hflag pid v1 x1 x2 o1 hl1 h471 hl2 h472 h1
      have hB := feed_at (cfg := cfg) pid v1 v2 x2 o2 9 hl2 h472 (by omega) h2
      have hC := tsFeedAll_packets (cfg := cfg) pid rest v2 v' o3
        (fun y hy => hx y (List.mem_cons_of_mem _ (List.mem_cons_of_mem _ hy))) h3
      have hall : tsFeedAll cfg (TsSt.init pid) ((x1 ++ x2.take 9) :: x2.drop 9 :: rest)
          = (mkAt pid v' [], o1 ++ (o2 ++ o3)) := by
        simp only [tsFeedAll, hA, hB, hC]
      have hfl : ((x1 ++ x2.take 9) :: x2.drop 9 :: rest).flatten = (x1 :: x2 :: rest).flatten := by
        simp only [List.flatten_cons, List.append_assoc]
        rw [← List.append_assoc (x2.take 9), List.take_append_drop]
      have := tsFeedAll_flatten (cfg := cfg) ((x1 ++ x2.take 9) :: x2.drop 9 :: rest) (TsSt.init pid) (TsInv_init pid)
      rw [hall, hfl] at this
      simp only [Prod.mk.injEq] at this
      exact ⟨this.1.symm, this.2.symm⟩

end Zvbi.Demux
