import ZvbiModel.Demux.LemmasFeed
/-!
# While `line_address` tests for the overflow first, a full line buffer is an absorbing state of the PES path
(finding C07-pes-lockup)

`cfg.lateOverflow = false` (and `cfg.pesDiscards = false`: a data unit error keeps the lines).  With the overflow test
behind the new-frame tests (fix dvb-demux-full-frame) a full buffer is closed like any other (`lineAddress_full_closes`).
-/
namespace Zvbi.Demux

variable {cfg : SrcCfg}

def Full (f : Frame) : Prop := f.lines.length ≥ N_SLICED

/-- while the overflow test is the first statement of `line_address`, a full buffer answers every unit
with the error - also the unit that would have closed the frame (finding C07-full-frame) -/
theorem lineAddress_full (hlo : cfg.lateOverflow = false) (f : Frame) (lofp : Nat) (sys : Bool) (h : Full f) :
    lineAddress cfg f lofp sys = .err := by
  unfold lineAddress
  rw [if_pos ⟨hlo, h⟩]

/-- in either shape a full buffer never yields a slot: the result is the error or "new frame" -/
theorem lineAddress_full_no_slot (f : Frame) (lofp : Nat) (sys : Bool) (h : Full f) :
    ∀ f' line, lineAddress cfg f lofp sys ≠ .ok f' line := by
  intro f' line he
  have h' : f.lines.length ≥ N_SLICED := h
  have hx := lineAddress_exit (cfg := cfg) f lofp sys
  rw [he] at hx
  cases hx
  omega

/-- with the overflow test behind the new-frame tests (fix dvb-demux-full-frame) a full buffer is closed
by exactly the units that close a buffer with room: the first unit of a packet whose defined line is not
beyond the last line of the frame -/
theorem lineAddress_full_closes (hlo : cfg.lateOverflow = true) (f : Frame) (lofp : Nat) (sys : Bool)
    (hl : (lofpToLine lofp sys).2.2 ≠ 0) (hle : (lofpToLine lofp sys).2.2 ≤ f.lastFrameLine) (hn : f.nDu = 0) :
    lineAddress cfg f lofp sys = .newFrame := by
  unfold lineAddress
  rw [if_neg (by simp [hlo])]
  simp only [hl, ne_eq, not_false_eq_true, if_true, hle, hn, gt_iff_lt, Nat.lt_irrefl, if_false]

/-- with a full buffer a data unit is skipped or fails without touching the frame, never "new frame" -/
def FullDU (f : Frame) : DU → Prop
  | .skip => True
  | .store _ => False
  | .fail f' r => f' = f ∧ r ≠ .newFrame

theorem dataUnit_full (hlo : cfg.lateOverflow = false) (f : Frame) (d : Bytes) (id len : Nat) (h : Full f) : FullDU f (dataUnit cfg f d id len) := by
  have hla := fun lofp sys => lineAddress_full (cfg := cfg) hlo f lofp sys h
  have hx := dataUnit_exit (cfg := cfg) f d id len
  generalize dataUnit cfg f d id len = r at hx
  cases hx with
  | skip => trivial
  | err => exact ⟨rfl, by simp⟩
  | fault e _ => exact ⟨rfl, by simp⟩
  | newFrame lofp sys hn => rw [hla] at hn; cases hn
  | lineErr lofp sys f' line hn => rw [hla] at hn; cases hn
  | store lofp sys f' line sid data hn => rw [hla] at hn; cases hn

theorem extractLoop_full (hlo : cfg.lateOverflow = false) (fuel : Nat) (f : Frame) (d : Bytes) (h : Full f) :
    (extractLoop cfg fuel f d).1.lines = f.lines ∧ (extractLoop cfg fuel f d).2.1 ≠ .newFrame := by
  have hx := extractLoop_exit (cfg := cfg) (fun g => Full g ∧ g.lines = f.lines) (fun _ _ h => h)
    (fun g d id len f' hg hd => by have := dataUnit_full hlo g d id len hg.1; rw [hd] at this; exact this.elim)
    fuel f d ⟨h, rfl⟩
  generalize extractLoop cfg fuel f d = x at hx
  cases hx with
  | unit fa f1 r id len t ha _ _ hdu =>
    have := dataUnit_full hlo fa (id :: len :: t) id len ha.1
    rw [hdu] at this
    exact ⟨by rw [this.1]; exact ha.2, this.2⟩
  | done f1 h1 => exact ⟨h1.2, by simp⟩
  | overrun f1 _ h1 => exact ⟨h1.2, by simp⟩
  | fuel f1 _ h1 => exact ⟨h1.2, by simp⟩

theorem extract_full (hlo : cfg.lateOverflow = false) (f : Frame) (d : Bytes) (h : Full f) :
    (extract cfg f d).1.lines = f.lines ∧ (extract cfg f d).2.1 ≠ .newFrame := by
  unfold extract
  split
  · simp
  · exact extractLoop_full hlo _ f d h

/-- properties of the frame state that make the PES demux deaf -/
def Deaf (fs : FS) : Prop := Full fs.frame ∧ fs.newFrame = false

theorem pesPacketFrame_deaf (hlo : cfg.lateOverflow = false) (fuel : Nat) (cb se : Bool) (fs : FS) (d : Bytes) (h : Deaf fs) :
    (pesPacketFrame cfg (fuel + 1) cb se fs d).2.1 = [] ∧ Deaf (pesPacketFrame cfg (fuel + 1) cb se fs d).1 ∧
    (pesPacketFrame cfg (fuel + 1) cb se fs d).2.2.1 ≠ .callback := by
  obtain ⟨hf, hn⟩ := h
  have hx := extract_full (cfg := cfg) hlo fs.frame d hf
  rcases he : extract cfg fs.frame d with ⟨f, r, rest⟩
  rw [he] at hx
  rw [pesPacketFrame_round fuel cb se fs d f r rest (by rw [fsStart_old fs hn]; exact he) hx.2, fsStart_old fs hn]
  exact ⟨rfl, ⟨by unfold Full; rw [hx.1]; exact hf, hn⟩, by cases r <;> simp [xrPR]⟩

theorem pesIter_deaf (hlo : cfg.lateOverflow = false) (hflag : cfg.pesDiscards = false) (sk la : Nat) (fs : FS) (win : Bytes)
    (h : Deaf fs) :
    (pesIter true cfg sk la fs win).2.2.1 = [] ∧ Deaf (pesIter true cfg sk la fs win).2.1 := by
  have hx := pesIter_exit (cfg := cfg) true sk la fs win
  generalize pesIter true cfg sk la fs win = x at hx
  cases hx with
  | fault e => exact ⟨rfl, h⟩
  | skip sk' => exact ⟨rfl, h⟩
  | accept p hd fs' _ _ hv =>
    rcases validHeader_some fs fs' hd hv with ⟨rfl, _⟩ | ⟨t, rfl⟩ <;> exact ⟨rfl, h⟩
  | payload fs1 outs r rest _ _ hp =>
    have hd := pesPacketFrame_deaf (cfg := cfg) hlo 2 true cfg.corSkipsEmpty _ (win.take la)
      (show Deaf { fs with frame := { fs.frame with nDu := 0 } } from h)
    rw [hp] at hd
    obtain ⟨rfl, h2, h3⟩ := hd
    cases r with
    | callback => exact absurd rfl h3
    | err => exact ⟨rfl, by simp only [payFin, payFs, pesErrFs, hflag]; exact h2⟩
    | _ => exact ⟨rfl, h2⟩

/-- **lock-up.** A PES demux whose line buffer is full and which is not at a frame start delivers nothing,
whatever follows. -/
theorem arun_deaf (hlo : cfg.lateOverflow = false) (hflag : cfg.pesDiscards = false) (L : Bytes) :
    ∀ (c : Core), Deaf c.fs → (arun cfg c L).frames = [] ∧ Deaf (arun cfg c L).core.fs := by
  induction L with
  | nil => intro c h; exact ⟨rfl, h⟩
  | cons x L ih =>
    intro c h
    by_cases hs : c.skip > 0
    · rw [arun_cons_skip c x L hs]; exact ih _ h
    by_cases hl : (x :: L).length < c.lookahead
    · rw [arun_cons_short c x L hs hl]; exact ⟨rfl, h⟩
    have hd := pesIter_deaf hlo hflag 0 c.lookahead c.fs ((x :: L).take c.lookahead) h
    rcases hm : micro cfg c ((x :: L).take c.lookahead) with ⟨⟨sk, la⟩, fs', outs, _ | k⟩
    all_goals
      rw [show pesIter true cfg 0 c.lookahead c.fs _ = _ from hm] at hd
      obtain ⟨rfl, h2⟩ := hd
    · rw [arun_cons_go c x L hs hl sk la fs' [] hm]
      exact ih { skip := sk - 1, lookahead := la, fs := fs' } h2
    · rw [arun_cons_stop c x L hs hl _ fs' [] k hm]
      exact ⟨rfl, h2⟩

end Zvbi.Demux
