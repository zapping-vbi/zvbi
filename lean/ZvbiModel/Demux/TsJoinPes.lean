import ZvbiModel.Demux.TsJoinStream
import ZvbiModel.Demux.LemmasTsCont
import ZvbiModel.Demux.JoinStream
/-!
# TS path joined with the multiplexer, PES packet level

The TS packets the multiplexer makes of one PES packet (`Mux.tsLoop`: header with PID, payload_unit_start
on the first, consecutive continuity counters; 184 payload bytes each), with foreign packets interleaved
anywhere, seen by the demultiplexer at TS packet granularity (`PktEff` / `Effs`): the PES packet is
reassembled in `pes_buffer` byte for byte; when its last TS packet has been read, the PES header check
and the data unit extraction run on exactly the bytes the PES path sees (`pes_shape` in `JoinPacket.lean`).
-/
namespace Zvbi.Demux
open Zvbi.Mux.EnParse
variable {cfg : SrcCfg}

/-! ## the multiplexer's TS packets, as the demultiplexer's header tests see them -/

theorem and80 (x : Nat) (h : x < 128) : x &&& 0x80 = 0 := by
  have := Zvbi.Bits.and_field x 7 1
  simp only [Nat.reducePow, Nat.reduceAdd, Nat.reduceSub] at this
  omega
theorem and40 (x : Nat) (h : x < 32) : x &&& 0x40 = 0 := by
  have := Zvbi.Bits.and_field x 6 1
  simp only [Nat.reducePow, Nat.reduceAdd, Nat.reduceSub] at this
  omega
theorem b3bits (x : Nat) (h : x < 16) : (16 + x) &&& 0xC0 = 0 ∧ (16 + x) &&& 0x30 = 0x10 := by
  have h1 := Zvbi.Bits.and_field (16 + x) 6 2
  have h2 := Zvbi.Bits.and_field (16 + x) 4 2
  simp only [Nat.reducePow, Nat.reduceAdd, Nat.reduceSub] at h1 h2
  omega

/-- one TS packet of the multiplexer -/
def muxPkt (pid cc : Nat) (first : Bool) (chunk : Bytes) : Bytes := Zvbi.Mux.tsHeader pid cc first ++ chunk

theorem muxPkt_tsPkt (pid cc : Nat) (first : Bool) (chunk : Bytes) (h : chunk.length = 184) :
    TsPkt (muxPkt pid cc first chunk) := by
  constructor
  · simp [muxPkt, Zvbi.Mux.tsHeader, h]
  · rfl

theorem muxPkt_b3 (pid cc : Nat) (first : Bool) (chunk : Bytes) :
    (muxPkt pid cc first chunk).getD 3 0 = 16 + cc % 16 := by
  simp [muxPkt, Zvbi.Mux.tsHeader, Zvbi.Bits.and_0F]

theorem muxPkt_payload (pid cc : Nat) (first : Bool) (chunk : Bytes) : (muxPkt pid cc first chunk).drop 4 = chunk := by
  simp [muxPkt, Zvbi.Mux.tsHeader]

theorem muxPkt_getD (pid cc : Nat) (first : Bool) (chunk : Bytes) (i : Nat) :
    (muxPkt pid cc first chunk).getD (i + 4) 0 = chunk.getD i 0 := by
  simp [muxPkt, Zvbi.Mux.tsHeader]

theorem muxPkt_check (pid cc : Nat) (first : Bool) (chunk : Bytes) (hpid : pid < 0x2000) :
    tsHeaderCheck { pid := pid } (muxPkt pid cc first chunk) = none := by
  have hx : pid / 256 < 32 := by omega
  obtain ⟨hb1, hb0⟩ := Zvbi.Mux.pid_bits (pid / 256) hx
  have g1 : (muxPkt pid cc first chunk).getD 1 0 = ((if first then 0x40 else 0) ||| (pid >>> 8)) % 256 := by
    simp [muxPkt, Zvbi.Mux.tsHeader]
  have g2 : (muxPkt pid cc first chunk).getD 2 0 = pid % 256 := by simp [muxPkt, Zvbi.Mux.tsHeader]
  have g3 := muxPkt_b3 pid cc first chunk
  have e1 : ((if first then 0x40 else 0) ||| (pid >>> 8)) % 256 = (if first then 64 else 0) + pid / 256 := by
    rw [Nat.shiftRight_eq_div_pow]
    cases first
    · simp only [Bool.false_eq_true, if_false]; rw [show (2:Nat) ^ 8 = 256 from rfl, hb0]; omega
    · simp only [if_true]; rw [show (2:Nat) ^ 8 = 256 from rfl, hb1]; omega
  unfold tsHeaderCheck
  simp only [g1, g2, g3, e1]
  have hlt : (if first = true then 64 else 0) + pid / 256 < 128 := by split <;> omega
  rw [and80 _ hlt]
  have hpidv : (((if first = true then 64 else 0) + pid / 256) * 256 + pid % 256) &&& 0x1FFF = pid := by
    rw [show (0x1FFF : Nat) = 2 ^ 13 - 1 from rfl, Nat.and_two_pow_sub_one_eq_mod]
    split <;> omega
  obtain ⟨hc0, h30⟩ := b3bits (cc % 16) (Bits.mod_lt _ _)
  rw [hpidv, hc0, h30]
  simp

theorem muxPkt_nopusi (pid cc : Nat) (chunk : Bytes) (hpid : pid < 0x2000) :
    (muxPkt pid cc false chunk).getD 1 0 &&& 0x40 = 0 := by
  have hx : pid / 256 < 32 := by omega
  obtain ⟨_, hb0⟩ := Zvbi.Mux.pid_bits (pid / 256) hx
  have g1 : (muxPkt pid cc false chunk).getD 1 0 = (0 ||| (pid >>> 8)) % 256 := by
    simp [muxPkt, Zvbi.Mux.tsHeader]
  rw [g1, Nat.shiftRight_eq_div_pow, show (2:Nat) ^ 8 = 256 from rfl, hb0, Nat.mod_eq_of_lt (by omega)]
  exact and40 _ hx

/-- the demultiplexer's expectation matches the multiplexer's counter: unknown (-1), or equal modulo 16 -/
def ContOK (cont : Option Nat) (cc : Nat) : Prop := cont = none ∨ ∃ c, cont = some c ∧ c % 16 = cc % 16

theorem contOK_check (cont : Option Nat) (cc : Nat) (h : ContOK cont cc) : tsContCheck cont (16 + cc % 16) = .ok := by
  rcases h with rfl | ⟨c, rfl, hc⟩
  · rfl
  · rw [tsContCheck_ok_iff]; omega


/-! ## the TS packets of one PES packet -/

theorem tsLoop_succ (pid n : Nat) (first : Bool) (cc : Nat) (pes : Bytes) :
    Zvbi.Mux.tsLoop pid (n + 1) first cc pes
      = muxPkt pid cc first (pes.take 184) :: Zvbi.Mux.tsLoop pid n false ((cc + 1) % 2 ^ 32) (pes.drop 184) := rfl

/-- the TS packets of a PES packet `pk` from the one that carries `rest` on (`first`: it is the packet with
payload_unit_start), foreign packets interleaved: `pes_buffer` holds `acc`, the start test of the next own packet leaves
`acc'` in it (`acc' ++ rest = pk`: `[]` at the start of the packet, `acc` later) -/
theorem effs_loop (pid : Nat) (hpid : pid < 0x2000) (fs fs' fs2 : FS) (outs : List FrameOut) (pk : Bytes)
    (hv : validHeader fs (pk.take 46) = some fs')
    (hpf : pesPacketFrame cfg 3 true false { fs' with frame := { fs'.frame with nDu := 0 } } (pk.drop 46) = (fs2, outs, .done, []))
    (hcap : pk.length ≤ PES_BUF_SIZE) :
    ∀ (xs : List Bytes) (m : Nat) (first : Bool) (acc acc' rest : Bytes) (todo : Nat) (cont : Option Nat) (cc : Nat),
      acc' ++ rest = pk → rest.length = 184 * (m + 1) → ContOK cont cc →
      startOf acc todo (muxPkt pid cc first (rest.take 184)) = some (acc', rest.length) →
      Merge pid (Zvbi.Mux.tsLoop pid (m + 1) first cc rest) xs →
      ∃ c', Effs cfg pid ⟨fs, acc, todo, cont⟩ xs ⟨fs2, pk, 0, some c'⟩ outs ∧ c' % 16 = (cc + (m + 1)) % 16 := by
  intro xs
  induction xs with
  | nil =>
    intro m first acc acc' rest todo cont cc _ _ _ _ hm
    rw [tsLoop_succ] at hm
    cases hm
  | cons x xs ih =>
    intro m first acc acc' rest todo cont cc hpk hrl hc hstart hm
    rw [tsLoop_succ] at hm
    have htk : (rest.take 184).length = 184 := by rw [List.length_take]; omega
    cases hm with
    | other _ _ _ hf h' =>
      obtain ⟨c', he, hc'⟩ := ih m first acc acc' rest todo cont cc hpk hrl hc hstart (by rw [tsLoop_succ]; exact h')
      refine ⟨c', ?_, hc'⟩
      have := Effs.cons _ _ _ x xs [] outs (PktEff.skip ⟨fs, acc, todo, cont⟩ x hf.2) he
      simpa using this
    | own _ _ _ h' =>
      have hchk := muxPkt_check pid cc first (rest.take 184) hpid
      have hb3 := muxPkt_b3 pid cc first (rest.take 184)
      have hcont : tsContCheck cont ((muxPkt pid cc first (rest.take 184)).getD 3 0) = .ok := by
        rw [hb3]; exact contOK_check cont cc hc
      have hpay := muxPkt_payload pid cc first (rest.take 184)
      have hacc : acc'.length + rest.length = pk.length := by rw [← hpk, List.length_append]
      cases m with
      | zero =>
        have hr184 : rest.length = 184 := by omega
        have hrt : rest.take 184 = rest := List.take_of_length_le (by omega)
        have hps : Zvbi.Mux.tsLoop pid 0 false ((cc + 1) % 2 ^ 32) (rest.drop 184) = [] := rfl
        rw [hps] at h'
        rw [hrt] at hchk hb3 hcont hstart hpay ⊢
        have e1 := PktEff.last (cfg := cfg) (pid := pid) ⟨fs, acc, todo, cont⟩ (muxPkt pid cc first rest) acc' fs' fs2 outs
          hchk hcont (by rw [hstart, hr184]) (by omega) (by rw [hpay, hpk]; exact hv) (by rw [hpay, hpk]; exact hpf)
        rw [hpay, hpk, hb3] at e1
        have := Effs.cons _ _ _ _ xs outs [] e1 (effs_foreign pid _ xs h')
        refine ⟨16 + cc % 16 + 1, by simpa using this, by omega⟩
      | succ m =>
        have e1 := PktEff.part (cfg := cfg) (pid := pid) ⟨fs, acc, todo, cont⟩ (muxPkt pid cc first (rest.take 184)) acc' rest.length
          hchk hcont hstart (by omega) (by omega)
        rw [hpay, hb3] at e1
        have hrl' : (rest.drop 184).length = 184 * (m + 1) := by rw [List.length_drop]; omega
        -- the packets that follow carry no payload_unit_start and find `ts_pes_todo` positive
        have hstart' : startOf (acc' ++ rest.take 184) (rest.drop 184).length
            (muxPkt pid ((cc + 1) % 2 ^ 32) false ((rest.drop 184).take 184)) = some (acc' ++ rest.take 184, (rest.drop 184).length) := by
          unfold startOf
          rw [if_neg (by omega), muxPkt_nopusi pid _ _ hpid]
          simp
        obtain ⟨c', he, hc'⟩ := ih m false (acc' ++ rest.take 184) (acc' ++ rest.take 184) (rest.drop 184) (rest.drop 184).length
          (some (16 + cc % 16 + 1)) ((cc + 1) % 2 ^ 32)
          (by rw [List.append_assoc, List.take_append_drop]; exact hpk) hrl' (Or.inr ⟨_, rfl, by omega⟩) hstart' h'
        have e2 : rest.length - 184 = (rest.drop 184).length := by rw [List.length_drop]
        rw [e2] at e1
        have := Effs.cons _ _ _ _ xs [] outs e1 he
        refine ⟨c', by simpa using this, by omega⟩

/-- **one PES packet through the TS layer.**  The TS packets the multiplexer makes of the accepted PES
packet `pk` (first one with payload_unit_start, counters from `cc`), foreign packets interleaved anywhere,
read by a demultiplexer that waits for a PES packet start (`ts_pes_todo = 0`) and whose expected counter
is unknown or equals `cc` mod 16: the packet is reassembled and handed to the header check and the data
unit extraction exactly once, after its last TS packet. -/
theorem effs_pes (pid : Nat) (hpid : pid < 0x2000) (fs fs2 : FS) (outs : List FrameOut) (pk : Bytes) (p : Pes)
    (hp : parsePes pk = some p) (hb : ∀ b ∈ pk, b < 256)
    (hpf : pesPacketFrame cfg 3 true false { fs with packetPts := p.pts, frame := { fs.frame with nDu := 0 } } (pk.drop 46)
            = (fs2, outs, .done, []))
    (xs : List Bytes) (pesOld : Bytes) (cont : Option Nat) (cc : Nat) (hcont : ContOK cont cc)
    (hm : Merge pid (Zvbi.Mux.tsLoop pid (pk.length / 184) true cc pk) xs) :
    ∃ c', Effs cfg pid ⟨fs, pesOld, 0, cont⟩ xs ⟨fs2, pk, 0, some c'⟩ outs ∧ c' % 16 = (cc + pk.length / 184) % 16 := by
  obtain ⟨us, hs⟩ := pes_shape pk p hp hb
  have h184 := hs.len
  have hmod := hs.mod
  have glen := hs.size
  have hcap : pk.length ≤ PES_BUF_SIZE := by
    have h4 : pk.getD 4 0 % 256 < 256 := Bits.mod_lt _ _
    have h5 : pk.getD 5 0 % 256 < 256 := Bits.mod_lt _ _
    unfold PES_BUF_SIZE; omega
  obtain ⟨m, hm'⟩ : ∃ m, pk.length / 184 = m + 1 := ⟨pk.length / 184 - 1, by omega⟩
  rw [hm'] at hm ⊢
  have gg : ∀ i, i < 184 → (muxPkt pid cc true (pk.take 184)).getD (i + 4) 0 = pk.getD i 0 := by
    intro i hi; rw [muxPkt_getD, getD_take pk 184 i hi]
  have hstart : startOf pesOld 0 (muxPkt pid cc true (pk.take 184)) = some ([], pk.length) := by
    unfold startOf
    rw [if_pos rfl, gg 0 (by omega), gg 1 (by omega), gg 2 (by omega), gg 3 (by omega), gg 4 (by omega), gg 5 (by omega),
      hs.b0, hs.b1, hs.b2, hs.b3]
    rw [if_neg (by simp [PRIVATE_STREAM_1]), if_neg (by omega), glen]
  exact effs_loop (cfg := cfg) pid hpid fs { fs with packetPts := p.pts } fs2 outs pk (hs.hdr fs) hpf hcap xs m true pesOld [] pk 0
    cont cc rfl (by omega) hcont hstart hm

end Zvbi.Demux
