import ZvbiModel.Demux.LemmasScan
import ZvbiModel.Demux.LemmasFrame
import ZvbiModel.Demux.LemmasWrap
/-!
# `demux_pes_packet` refines the stream machine  (helper lemmas for C07)

`pesIter_arun`, `wrapAround_arun` (`WrapArun`), `pesLoop_refines`, `pesFeed_refines`, `pesFeeds_refines/_init` for the successive
calls `pesFeeds`; the invariants `PInv`, `Stuck`, `Inv`; `arun_la`.
-/
namespace Zvbi.Demux

variable {cfg : SrcCfg}

theorem payloadRes_ok (cfg : SrcCfg) (la : Nat) (fs : FS) (data : Bytes) (h : 2 ≤ data.length) :
    ∃ fs1 outs, ∀ sk, payloadRes true cfg sk la fs data = ((la, 48), fs1, outs, none) := by
  unfold payloadRes
  have hok := pesPacketFrame_ok (cfg := cfg) 1 cfg.corSkipsEmpty { fs with frame := { fs.frame with nDu := 0 } } data h
  rcases hp : pesPacketFrame cfg 3 true cfg.corSkipsEmpty { fs with frame := { fs.frame with nDu := 0 } } data with ⟨fs1, outs, r, rest⟩
  rw [hp] at hok
  simp only at hok
  rcases hok with rfl | rfl
  · exact ⟨fs1, outs, fun _ => rfl⟩
  · exact ⟨pesErrFs cfg fs1, outs, fun _ => rfl⟩

/-- **iteration = micro steps**: whatever window (at least `lookahead` long) `wrap_around` hands out, the loop body
never faults and sets a skip of at least one byte; on every stream that begins with the window it moves the stream
machine exactly as its byte-wise definition does, and the frames are those of the micro step on exactly `lookahead` bytes -/
theorem pesIter_arun (win : Bytes) (fs : FS) (sk la : Nat) (hla : 48 ≤ la) (hwin : la ≤ win.length) :
    ∃ sk' la' fs' outs, pesIter true cfg sk la fs win = ((sk', la'), fs', outs, none)
      ∧ 1 ≤ sk' ∧ 48 ≤ la' ∧ la' ≤ 65495
      ∧ ∀ L, win <+: L →
          arun cfg { skip := 0, lookahead := la, fs := fs } L
            = (arun cfg { skip := sk', lookahead := la', fs := fs' } L).pre outs
          ∧ outs = (micro cfg { skip := 0, lookahead := la, fs := fs } (L.take la)).2.2.1 := by
  by_cases hp : la > 48
  · have htl : (win.take la).length = la := by simp; omega
    obtain ⟨fs1, outs, hr⟩ := payloadRes_ok cfg la fs (win.take la) (by omega)
    refine ⟨la, 48, fs1, outs, by rw [pesIter_payload _ _ _ _ _ hp hwin, hr], by omega, by omega, by omega, ?_⟩
    intro L hpre
    have hLlen : win.length ≤ L.length := hpre.length_le
    have hLt : L.take la = win.take la := by
      obtain ⟨t, rfl⟩ := hpre
      exact List.take_append_of_le_length hwin
    have hm : micro cfg { skip := 0, lookahead := la, fs := fs } (L.take la) = ((la, 48), fs1, outs, none) := by
      show pesIter true cfg 0 la fs (L.take la) = _
      rw [hLt, pesIter_payload _ _ _ _ _ hp (by omega), List.take_take, Nat.min_self, hr]
    exact ⟨arun_micro _ L la 48 fs1 outs rfl (by simp; omega) (by omega) hm (by omega), by rw [hm]⟩
  · have h48 : la = 48 := by omega
    subst h48
    obtain ⟨sk', la', fs', h1, h2, h5⟩ :=
      scanLoop_arun (cfg := cfg) win fs sk hwin (win.length + 1) 0 (Nat.zero_le _) (by omega)
    have hit : pesIter true cfg sk 48 fs win = ((sk', la'), fs', [], none) := by rw [pesIter_scan _ _ _ _ hwin]; exact h1
    have hla : LaOK la' := by have := pesIter_la (cfg := cfg) true sk 48 fs win (Or.inl rfl); rwa [hit] at this
    refine ⟨sk', la', fs', [], hit, by omega, by rcases hla with rfl | h <;> omega, by rcases hla with rfl | h <;> omega,
      fun L hpre => ⟨?_, ?_⟩⟩
    · rw [ARes.pre_nil]; exact h5 L hpre
    · exact (pesIter_scan_frame true 0 48 fs (L.take 48) (Nat.le_refl _)).1.symm

/-- invariant of a PES demux context between calls -/
def PInv (s : St) : Prop :=
  s.pw.leftover ≤ s.pw.wb.length ∧ 48 ≤ s.pw.lookahead ∧ s.pw.lookahead ≤ 65495

theorem PInv_init : PInv St.init := by
  refine ⟨?_, ?_, ?_⟩ <;> decide

/-- what `wrap_around` and the loop body behind it (callback installed) do to the stream machine, for every continuation
`X` of the stream: FALSE = nothing happens on what is there; TRUE = the skip, then the micro steps of `pesIter` -/
def WrapArun (cfg : SrcCfg) (s : St) (buf hist : Bytes) (si : Nat) : WR → Prop
  | .fault _ => False
  | .more w' si' => WrapMore s.pw buf hist si w' si' ∧
      arun cfg s.core (s.pending ++ buf.drop si)
        = { core := { skip := w'.skip, lookahead := w'.lookahead, fs := s.fs }, pend := w'.pend, frames := [], stop := none }
  | .win w' si' win => WrapWin s.pw buf hist si w' si' win ∧ win <+: w'.pend ++ buf.drop si' ∧
      ∃ sk' la' fs' outs, pesIter true cfg w'.skip w'.lookahead s.fs win = ((sk', la'), fs', outs, none) ∧
        1 ≤ sk' ∧ 48 ≤ la' ∧ la' ≤ 65495 ∧
        ∀ X : Bytes, arun cfg s.core (s.pending ++ buf.drop si ++ X)
          = (arun cfg { skip := sk', lookahead := la', fs := fs' } (w'.pend ++ buf.drop si' ++ X)).pre outs

theorem wrapAround_arun (s : St) (buf hist : Bytes) (si srcSize : Nat) (hinv : PInv s) (hsi : si ≤ buf.length)
    (hsz : srcSize ≤ buf.length) (hsuf : s.pending <:+ hist ++ buf.take si) :
    WrapArun cfg s buf hist si (wrapAround PES_BUF_SIZE s.pw buf si srcSize) := by
  obtain ⟨hlo, hla1, hla2⟩ := hinv
  have hspec := wrapAround_spec PES_BUF_SIZE s.pw buf hist si srcSize hlo hsi hsz
    (by simp only [PES_BUF_SIZE]; omega) hsuf
  cases hwr : wrapAround PES_BUF_SIZE s.pw buf si srcSize with
  | fault e => rw [hwr] at hspec; exact hspec.elim
  | more w' si' =>
    rw [hwr] at hspec
    have hm : WrapMore s.pw buf hist si w' si' := hspec
    refine ⟨hm, ?_⟩
    have hsh : s.core.skip ≥ (s.pending ++ buf.drop si).length ∨
        ((s.pending ++ buf.drop si).drop s.core.skip).length < s.core.lookahead := by
      rcases hm.short with h | h
      · left; have := hm.skip; simp only [St.core, St.pending]; omega
      · right; rw [hm.pend] at h; exact h
    rw [arun_short _ _ hsh]
    simp only [St.core, St.pending, hm.skip, hm.la, hm.pend]
  | win w' si' win =>
    rw [hwr] at hspec
    have hw : WrapWin s.pw buf hist si w' si' win := hspec
    have hL1 : w'.pend ++ buf.drop si' = (s.pending ++ buf.drop si).drop s.pw.skip := hw.rest
    have hpre : win <+: w'.pend ++ buf.drop si' := by rw [hL1]; exact hw.pre
    have hwl : w'.lookahead ≤ win.length := by rw [hw.la]; exact hw.len
    have hb1 : 48 ≤ w'.lookahead := by rw [hw.la]; exact hla1
    obtain ⟨sk', la', fs', outs, hit, hsk, hl1, hl2, har⟩ :=
      pesIter_arun (cfg := cfg) win s.fs w'.skip w'.lookahead hb1 hwl
    refine ⟨hw, hpre, sk', la', fs', outs, hit, hsk, hl1, hl2, fun X => ?_⟩
    -- the skip, then this iteration on the longer stream
    have hskL : s.pw.skip ≤ (s.pending ++ buf.drop si).length := hw.skip_le
    have e0 := arun_skip (cfg := cfg) (s.pending ++ buf.drop si ++ X) s.pw.skip 0 s.pw.lookahead s.fs
      (by rw [List.length_append]; omega)
    rw [Nat.add_zero, List.drop_append_of_le_length hskL, ← hL1] at e0
    have har' := (har (w'.pend ++ buf.drop si' ++ X) (hpre.trans (List.prefix_append _ _))).1
    rw [hw.la] at har'
    exact e0.trans har'

theorem pesLoop_refines : ∀ (fuel : Nat) (s : St) (buf hist : Bytes) (si : Nat),
    PInv s → si ≤ buf.length → s.pending <:+ hist ++ buf.take si →
    (s.pending ++ buf.drop si).length - s.pw.skip + 2 ≤ fuel →
    ∃ s' outs, pesLoop fuel true cfg s buf si buf.length = (s', outs, buf.length, .needMore)
      ∧ PInv s'
      ∧ arun cfg s.core (s.pending ++ buf.drop si)
          = { core := s'.core, pend := s'.pending, frames := outs, stop := none } := by
  intro fuel
  induction fuel with
  | zero => intro s buf hist si _ _ _ h; omega
  | succ fuel ih =>
    intro s buf hist si hinv hsi hsuf hfuel
    have hwa := wrapAround_arun (cfg := cfg) s buf hist si buf.length hinv hsi (Nat.le_refl _) hsuf
    unfold pesLoop
    cases hwr : wrapAround PES_BUF_SIZE s.pw buf si buf.length with
    | fault e => rw [hwr] at hwa; exact hwa.elim
    | more w' si' =>
      rw [hwr] at hwa
      obtain ⟨hm, har⟩ := hwa
      refine ⟨{ s with pw := w' }, [], ?_, ⟨hm.lo, by rw [hm.la]; exact hinv.2.1, by rw [hm.la]; exact hinv.2.2⟩, har⟩
      simp only [hm.si_eq]
    | win w' si' win =>
      rw [hwr] at hwa
      obtain ⟨hw, hpre, sk', la', fs', outs1, hit, hsk, hl1, hl2, har⟩ := hwa
      simp only []
      rw [hit]
      simp only []
      have hlen1 : (w'.pend ++ buf.drop si').length = (s.pending ++ buf.drop si).length - s.pw.skip := by
        rw [hw.rest, List.length_drop]; rfl
      have hwinlen := hpre.length_le
      have hwl := hw.len
      have hla1 := hinv.2.1
      obtain ⟨s2, outs2, hloop, hinv2, har2⟩ :=
        ih (St.mk { w' with skip := sk', lookahead := la' } fs') buf hist si'
          ⟨hw.lo, hl1, hl2⟩ hw.si_le hw.suf (by show (w'.pend ++ buf.drop si').length - sk' + 2 ≤ fuel; omega)
      rw [hloop]
      refine ⟨s2, outs1 ++ outs2, rfl, hinv2, ?_⟩
      have := har []
      rw [List.append_nil, List.append_nil] at this
      rw [this]
      have e2 : arun cfg { skip := sk', lookahead := la', fs := fs' } (w'.pend ++ buf.drop si')
          = { core := s2.core, pend := s2.pending, frames := outs2, stop := none } := har2
      rw [e2]
      rfl

/-- the bytes a context still holds are not enough for another step of the stream machine -/
def Stuck (cfg : SrcCfg) (s : St) : Prop :=
  arun cfg s.core s.pending = { core := s.core, pend := s.pending, frames := [], stop := none }

/-- invariant of every reachable PES demux context -/
def Inv (cfg : SrcCfg) (s : St) : Prop := PInv s ∧ Stuck cfg s

theorem Inv_init : Inv cfg St.init := ⟨PInv_init, by simp [Stuck, St.pending, St.init, Wrap.pend, arun]⟩

/-- what a run leaves is not enough for another step: `arun_append` with nothing appended -/
theorem arun_idem (c : Core) (L : Bytes) (h : (arun cfg c L).stop = none) :
    arun cfg (arun cfg c L).core (arun cfg c L).pend
      = { core := (arun cfg c L).core, pend := (arun cfg c L).pend, frames := [], stop := none } := by
  have h1 := arun_append (cfg := cfg) L c [] h
  rw [List.append_nil, List.append_nil] at h1
  generalize arun cfg c L = r at h h1
  generalize arun cfg r.core r.pend = r2 at h1
  obtain ⟨c1, p1, f1, s1⟩ := r
  obtain ⟨c2, p2, f2, s2⟩ := r2
  simp only [ARes.pre, ARes.mk.injEq, List.self_eq_append_right] at h1 h
  obtain ⟨rfl, rfl, rfl, rfl⟩ := h1
  simp [h]

/-- one `vbi_dvb_demux_feed` call: no fault, invariant kept, and the call is the stream machine run
on `pending ++ buffer` -/
theorem pesFeed_refines (s : St) (buf : Bytes) (h : Inv cfg s) :
    (pesFeed cfg s buf).err = none ∧ Inv cfg (pesFeed cfg s buf).st ∧
    arun cfg s.core (s.pending ++ buf)
      = { core := (pesFeed cfg s buf).st.core, pend := (pesFeed cfg s buf).st.pending,
          frames := (pesFeed cfg s buf).frames, stop := none } := by
  have hpl : s.pending.length = s.pw.leftover := s.pw.pend_length h.1.1
  obtain ⟨s', outs, hloop, hinv, har⟩ := pesLoop_refines (cfg := cfg) (pesFuel s buf) s buf s.pending 0 h.1 (Nat.zero_le _)
    (by simp) (by simp only [pesFuel, List.drop_zero, List.length_append, hpl]; omega)
  rw [List.drop_zero] at har
  have hf : pesFeed cfg s buf = { st := s', frames := outs } := by
    unfold pesFeed; rw [hloop]
  rw [hf]
  refine ⟨rfl, ⟨hinv, ?_⟩, har⟩
  have hs : (arun cfg s.core (s.pending ++ buf)).stop = none := by rw [har]
  have := arun_idem (cfg := cfg) s.core (s.pending ++ buf) hs
  rw [har] at this
  exact this

/-- successive feed calls -/
def pesFeeds (cfg : SrcCfg) (s : St) : List Bytes → Res
  | [] => { st := s }
  | b :: bs =>
    let r := pesFeed cfg s b
    match r.err with
    | some e => { r with err := some e }
    | none => let r2 := pesFeeds cfg r.st bs; { r2 with frames := r.frames ++ r2.frames }

theorem pesFeeds_refines : ∀ (chunks : List Bytes) (s : St), Inv cfg s →
    (pesFeeds cfg s chunks).err = none ∧ Inv cfg (pesFeeds cfg s chunks).st ∧
    arun cfg s.core (s.pending ++ chunks.flatten)
      = { core := (pesFeeds cfg s chunks).st.core, pend := (pesFeeds cfg s chunks).st.pending,
          frames := (pesFeeds cfg s chunks).frames, stop := none } := by
  intro chunks
  induction chunks with
  | nil =>
    intro s h
    refine ⟨rfl, h, ?_⟩
    simp only [List.flatten_nil, List.append_nil, pesFeeds]
    exact h.2
  | cons b bs ih =>
    intro s h
    obtain ⟨he, hi1, h1⟩ := pesFeed_refines (cfg := cfg) s b h
    obtain ⟨he2, hi2, h2⟩ := ih (pesFeed cfg s b).st hi1
    have hs : (arun cfg s.core (s.pending ++ b)).stop = none := by rw [h1]
    have happ := arun_append (cfg := cfg) (s.pending ++ b) s.core bs.flatten hs
    rw [List.append_assoc, h1, h2] at happ
    simp only [pesFeeds, he, List.flatten_cons]
    exact ⟨he2, hi2, happ⟩

/-- successive feed calls on a new demultiplexer: the stream machine from its initial state on the concatenated buffers -/
theorem pesFeeds_init (chunks : List Bytes) :
    (pesFeeds cfg St.init chunks).err = none ∧ Inv cfg (pesFeeds cfg St.init chunks).st ∧
    arun cfg Core.init chunks.flatten
      = { core := (pesFeeds cfg St.init chunks).st.core, pend := (pesFeeds cfg St.init chunks).st.pending,
          frames := (pesFeeds cfg St.init chunks).frames, stop := none } :=
  pesFeeds_refines (cfg := cfg) chunks St.init Inv_init

theorem arun_la (L : Bytes) (c : Core) (h : LaOK c.lookahead) : LaOK (arun cfg c L).core.lookahead :=
  arun_core_ind (fun c => LaOK c.lookahead) (fun _ h => h)
    (fun c win sk la fs' outs st h hm => ⟨h, by have := pesIter_la (cfg := cfg) true 0 c.lookahead c.fs win h; rwa [show pesIter true cfg 0 c.lookahead c.fs win = _ from hm] at this⟩)
    L c h

end Zvbi.Demux
