import ZvbiModel.Demux.Model
import ZvbiModel.Ite
/-!
# Frame assembly, each function taken apart once  (helper lemmas for C07)

`dataUnit` (`dataUnit_eq`: the tests on the unit alone `unitHead_spec`, then `line_address`, then the store; its ways out
`UnitExit` / `dataUnit_exit`), `line_address` (`LineExit` / `lineAddress_exit`), `extract_data_units` (the equations
`extractLoop_short/_overrun/_step`, the exits `LoopExit` / `extractLoop_exit`; no fault, fuel irrelevance, the array bound
`extract_lines`), `demux_pes_packet_frame` one round at a time (`fsStart`, `pesPacketFrame_round/_nf`, the two-round bound
`pesPacketFrame_ok`, `pesPacketFrame_se`, `pesPacketFrame_done_rest`).
-/
namespace Zvbi.Demux
open Zvbi.Hamm (rev8)

variable {cfg : SrcCfg}

theorem getD_take (p : Bytes) (n i : Nat) (h : i < n) : (p.take n).getD i 0 = p.getD i 0 := by
  simp [List.getD_eq_getElem?_getD, h]

theorem getD_append_left (a b : Bytes) (i : Nat) (h : i < a.length) : (a ++ b).getD i 0 = a.getD i 0 := by
  simp [List.getD_eq_getElem?_getD, List.getElem?_append_left h]

/-- what distinguishes the cases of the `switch (data_unit_id)` that store a line -/
structure UnitKind where
  sys625 : Bool
  /-- byte 3 is a framing code; a unit with another code than 0xE4 is skipped -/
  framing : Bool
  /-- the payload is `d[off .. off + n)`; the least `data_unit_length` is `off + n - 2` -/
  off : Nat
  n : Nat
  /-- the test on `last_field_line` and the frame line after `line_address` -/
  lineOk : Nat → Nat → Bool
  /-- the service id by field -/
  sid : Nat → Nat
  rev : Bool

namespace UnitKind
def ttx : UnitKind :=
  ⟨true, true, 4, 42, fun fl _ => !(fl > 0 ∧ (fl < 7 ∨ fl - 7 ≥ 23 - 7)), fun _ => SL_TELETEXT_B, true⟩
def vps : UnitKind := ⟨true, false, 3, 13, fun _ l => l = 16, fun fld => if fld = 0 then SL_VPS else SL_VPS_F2, false⟩
def wss : UnitKind := ⟨true, false, 3, 2, fun _ l => l = 23, fun _ => SL_WSS_625, true⟩
def wssCpr1204 : UnitKind := ⟨false, false, 3, 3, fun _ _ => true, fun _ => SL_WSS_CPR1204, false⟩
def cc525 : UnitKind :=
  ⟨false, false, 3, 2, fun _ _ => true, fun fld => if fld = 0 then SL_CAPTION_525_F1 else SL_CAPTION_525_F2, true⟩
def cc : UnitKind :=
  ⟨true, false, 3, 2, fun _ l => l = 21, fun fld => if fld = 0 then SL_CAPTION_625_F1 else SL_CAPTION_625_F2, true⟩
end UnitKind

def unitKind (id : Nat) : Option UnitKind :=
  if id = DU_TTX_NON_SUBTITLE ∨ id = DU_TTX_SUBTITLE then some .ttx
  else if id = DU_VPS then some .vps
  else if id = DU_WSS then some .wss
  else if id = DU_ZVBI_WSS_CPR1204 then some .wssCpr1204
  else if id = DU_ZVBI_CC_525 then some .cc525
  else if id = DU_CC then some .cc
  else none

/-- the unit once `line_address` gave the slot `f'`, `line` -/
def unitStore (u : UnitKind) (d : Bytes) (f f' : Frame) (line : Nat) : DU :=
  if u.lineOk f'.lastFieldLine line = false then .fail f' .err
  else
    let b := (d.drop u.off).take u.n
    if b.length = u.n then .store (pushLine f' (u.sid f'.lastField) line (if u.rev then b.map rev8 else b))
    else .fail f (.fault (.oob "du_payload"))   -- `f`, not `f'`: as `dataUnit` has it

/-- the part of the switch that does not look at the frame -/
inductive UnitHead where
  | skip
  /-- the unit fails with the frame untouched -/
  | bad (r : XR)
  /-- `line_address` is asked for a slot -/
  | line (u : UnitKind) (lofp : Nat)

def unitHead (d : Bytes) (id len : Nat) : UnitHead :=
  match unitKind id with
  | none => .skip
  | some u =>
    if len < u.off + u.n - 2 then .bad .err
    else if u.framing ∧ d[3]? = none then .bad (.fault (.oob "du_framing"))
    else if u.framing ∧ d[3]? ≠ some 0xE4 then .skip
    else match d[2]? with
      | none => .bad (.fault (.oob "du_lofp"))
      | some lofp => .line u lofp

/-- a kind of unit without framing code: length test, `lofp` byte, `line_address`, then `unitStore` - this is what
`unitHead` followed by `line_address` and `unitStore` comes to -/
theorem unitLine_eq (u : UnitKind) (hf : u.framing = false) (f : Frame) (d : Bytes) (len : Nat) :
    (if len < u.off + u.n - 2 then DU.fail f .err
      else match d[2]? with
        | none => .fail f (.fault (.oob "du_lofp"))
        | some lofp =>
          match lineAddress cfg f lofp u.sys625 with
          | .err => .fail f .err
          | .newFrame => .fail f .newFrame
          | .ok f' line => unitStore u d f f' line)
    = match (if len < u.off + u.n - 2 then UnitHead.bad .err
        else if u.framing ∧ d[3]? = none then .bad (.fault (.oob "du_framing"))
        else if u.framing ∧ d[3]? ≠ some 0xE4 then .skip
        else match d[2]? with
          | none => .bad (.fault (.oob "du_lofp"))
          | some lofp => .line u lofp) with
      | .skip => .skip
      | .bad r => .fail f r
      | .line u lofp =>
        match lineAddress cfg f lofp u.sys625 with
        | .err => .fail f .err
        | .newFrame => .fail f .newFrame
        | .ok f' line => unitStore u d f f' line := by
  simp only [hf, Bool.false_eq_true, false_and, if_false]
  split
  · rfl
  · cases d[2]? <;> rfl

/-- `dataUnit` in two stages: the tests on the unit alone, then `line_address` and the store -/
theorem dataUnit_eq (f : Frame) (d : Bytes) (id len : Nat) :
    dataUnit cfg f d id len = match unitHead d id len with
      | .skip => .skip
      | .bad r => .fail f r
      | .line u lofp =>
        match lineAddress cfg f lofp u.sys625 with
        | .err => .fail f .err
        | .newFrame => .fail f .newFrame
        | .ok f' line => unitStore u d f f' line := by
  unfold dataUnit unitHead unitKind
  by_cases h1 : id = DU_TTX_NON_SUBTITLE ∨ id = DU_TTX_SUBTITLE
  · simp only [if_pos h1, UnitKind.ttx]
    -- `dataUnit` tests the length of a Teletext unit twice
    by_cases hl : len < 44
    · simp only [hl, if_true, Nat.reduceAdd, Nat.reduceSub]
    · simp only [hl, if_false, Nat.reduceAdd, Nat.reduceSub, true_and]
      cases d[3]? with
      | none => simp only [if_true]
      | some fc =>
        by_cases hfc : fc = 0xE4
        · subst hfc
          simp only [reduceCtorEq, if_false, ne_eq, not_true_eq_false]
          cases d[2]? with
          | none => rfl
          | some lofp =>
            simp only [unitStore, if_true, Bool.not_eq_false', decide_eq_true_eq]
            rfl
        · simp only [reduceCtorEq, if_false, ne_eq, Option.some.injEq, hfc, not_false_eq_true, if_true]
  simp only [if_neg h1]
  by_cases h2 : id = DU_VPS
  · simp only [if_pos h2]
    refine Eq.trans ?_ (unitLine_eq UnitKind.vps rfl f d len)
    -- the store of this kind, as `dataUnit` spells it
    simp only [UnitKind.vps, unitStore, Bool.false_eq_true, if_false, decide_eq_false_iff_not, ne_eq,
      Nat.reduceAdd, Nat.reduceSub]
    rfl
  simp only [if_neg h2]
  by_cases h3 : id = DU_WSS
  · simp only [if_pos h3]
    refine Eq.trans ?_ (unitLine_eq UnitKind.wss rfl f d len)
    simp only [UnitKind.wss, unitStore, if_true, decide_eq_false_iff_not, ne_eq,
      Nat.reduceAdd, Nat.reduceSub]
    rfl
  simp only [if_neg h3]
  by_cases h4 : id = DU_ZVBI_WSS_CPR1204
  · simp only [if_pos h4]
    refine Eq.trans ?_ (unitLine_eq UnitKind.wssCpr1204 rfl f d len)
    simp only [UnitKind.wssCpr1204, unitStore, Bool.false_eq_true, if_false,
      Nat.reduceAdd, Nat.reduceSub]
    rfl
  simp only [if_neg h4]
  by_cases h5 : id = DU_ZVBI_CC_525
  · simp only [if_pos h5]
    refine Eq.trans ?_ (unitLine_eq UnitKind.cc525 rfl f d len)
    simp only [UnitKind.cc525, unitStore, if_true,
      Nat.reduceAdd, Nat.reduceSub]
    rfl
  simp only [if_neg h5]
  by_cases h6 : id = DU_CC
  · simp only [if_pos h6]
    refine Eq.trans ?_ (unitLine_eq UnitKind.cc rfl f d len)
    simp only [UnitKind.cc, unitStore, if_true, decide_eq_false_iff_not, ne_eq,
      Nat.reduceAdd, Nat.reduceSub]
    rfl
  simp only [if_neg h6]


theorem unitKind_off (id : Nat) (u : UnitKind) (h : unitKind id = some u) :
    3 ≤ u.off ∧ 1 ≤ u.n ∧ (u.framing = true → u.off = 4) := by
  unfold unitKind at h
  repeat' split at h
  all_goals first
    | (cases h; done)
    | (cases h; decide)

/-- what the tests on the unit alone establish: a fault needs a unit that ends beyond the data -/
def UnitHead.Spec (d : Bytes) (len : Nat) : UnitHead → Prop
  | .skip => True
  | .bad r => r = .err ∨ ∃ e, r = .fault e ∧ (d.length ≤ 2 ∨ d.length < len + 2)
  | .line u lofp => d[2]? = some lofp ∧ u.off + u.n ≤ len + 2

theorem unitHead_spec (d : Bytes) (id len : Nat) : (unitHead d id len).Spec d len := by
  unfold unitHead
  cases hk : unitKind id with
  | none => trivial
  | some u =>
    have hu := unitKind_off id u hk
    dsimp only
    refine ite_ind (fun _ => Or.inl rfl) fun h1 => ite_ind (fun h2 => Or.inr ⟨_, rfl, ?_⟩) fun _ => ite_both trivial ?_
    · -- byte 3 of a unit with a framing code is missing
      have := List.getElem?_eq_none_iff.1 h2.2
      have := hu.2.2 h2.1
      omega
    · cases hd2 : d[2]? with
      | none => exact Or.inr ⟨_, rfl, Or.inl (by have := List.getElem?_eq_none_iff.1 hd2; omega)⟩
      | some lofp => exact ⟨hd2, by omega⟩

theorem unitHead_bad (d : Bytes) (id len : Nat) (r : XR) (h : unitHead d id len = .bad r) :
    r = .err ∨ ∃ e, r = .fault e ∧ (d.length ≤ 2 ∨ d.length < len + 2) := by
  have := unitHead_spec d id len; rwa [h] at this

theorem unitHead_line (d : Bytes) (id len : Nat) (u : UnitKind) (lofp : Nat) (h : unitHead d id len = .line u lofp) :
    d[2]? = some lofp ∧ u.off + u.n ≤ len + 2 := by
  have := unitHead_spec d id len; rwa [h] at this

theorem unitHead_line_of (d : Bytes) (id len : Nat) (u : UnitKind) (lofp : Nat) (hk : unitKind id = some u)
    (hlen : u.off + u.n ≤ len + 2) (hf : u.framing = true → d[3]? = some 0xE4) (h2 : d[2]? = some lofp) :
    unitHead d id len = .line u lofp := by
  unfold unitHead
  rw [hk]
  simp only [h2]
  rw [if_neg (by omega), if_neg (fun h => by simp [hf h.1] at h), if_neg (fun h => h.2 (hf h.1))]

theorem unitStore_cases (u : UnitKind) (d : Bytes) (f f' : Frame) (line : Nat) :
    unitStore u d f f' line = .fail f' .err ∨
    (unitStore u d f f' line = .fail f (.fault (.oob "du_payload")) ∧ d.length < u.off + u.n) ∨
    ∃ sid data, unitStore u d f f' line = .store (pushLine f' sid line data) := by
  unfold unitStore
  split
  · exact Or.inl rfl
  · by_cases hb : ((d.drop u.off).take u.n).length = u.n
    · simp only [hb, if_true]; exact Or.inr (Or.inr ⟨_, _, rfl⟩)
    · simp only [hb, if_false]
      simp only [List.length_take, List.length_drop] at hb
      exact Or.inr (Or.inl ⟨trivial, by omega⟩)

/-- the ways out of the `switch (data_unit_id)`: the frame in a failure is the one handed in, or the one
`line_address` returned together with the slot; a fault needs a unit that ends beyond the data -/
inductive UnitExit (cfg : SrcCfg) (f : Frame) (d : Bytes) (len : Nat) : DU → Prop
  | skip : UnitExit cfg f d len .skip
  | err : UnitExit cfg f d len (.fail f .err)
  | fault (e : Err) : d.length ≤ 2 ∨ d.length < len + 2 → UnitExit cfg f d len (.fail f (.fault e))
  | newFrame (lofp : Nat) (sys : Bool) : lineAddress cfg f lofp sys = .newFrame → UnitExit cfg f d len (.fail f .newFrame)
  | lineErr (lofp : Nat) (sys : Bool) (f' : Frame) (line : Nat) :
      lineAddress cfg f lofp sys = .ok f' line → UnitExit cfg f d len (.fail f' .err)
  | store (lofp : Nat) (sys : Bool) (f' : Frame) (line sid : Nat) (data : Bytes) :
      lineAddress cfg f lofp sys = .ok f' line → UnitExit cfg f d len (.store (pushLine f' sid line data))

theorem dataUnit_exit (f : Frame) (d : Bytes) (id len : Nat) : UnitExit cfg f d len (dataUnit cfg f d id len) := by
  rw [dataUnit_eq]
  cases hh : unitHead d id len with
  | skip => exact .skip
  | bad r =>
    rcases unitHead_bad d id len r hh with rfl | ⟨e, rfl, he⟩
    · exact .err
    · exact .fault e he
  | line u lofp =>
    have hl := unitHead_line d id len u lofp hh
    dsimp only
    cases hla : lineAddress cfg f lofp u.sys625 with
    | err => exact .err
    | newFrame => exact .newFrame lofp _ hla
    | ok f' line =>
      dsimp only
      rcases unitStore_cases u d f f' line with h | ⟨h, hd⟩ | ⟨sid, data, h⟩ <;> rw [h]
      · exact .lineErr lofp _ f' line hla
      · exact .fault _ (by omega)
      · exact .store lofp _ f' line sid data hla

theorem dataUnit_no_fault (f : Frame) (d : Bytes) (id len : Nat) (h2 : 2 < d.length) (hl : len + 2 ≤ d.length) :
    ∀ f' e, dataUnit cfg f d id len ≠ .fail f' (.fault e) := by
  intro f' e h
  have hx := dataUnit_exit (cfg := cfg) f d id len
  rw [h] at hx
  cases hx
  omega

theorem dataUnit_not_done (f : Frame) (d : Bytes) (id len : Nat) : ∀ f', dataUnit cfg f d id len ≠ .fail f' .done := by
  intro f' h
  have hx := dataUnit_exit (cfg := cfg) f d id len
  rw [h] at hx
  cases hx

theorem dataUnit_skip_iff (f : Frame) (d : Bytes) (id len : Nat) :
    dataUnit cfg f d id len = .skip ↔ unitHead d id len = .skip := by
  rw [dataUnit_eq]
  cases unitHead d id len with
  | line u lofp =>
    simp only [reduceCtorEq, iff_false]
    cases lineAddress cfg f lofp u.sys625 with
    | ok f' line => rcases unitStore_cases u d f f' line with h | ⟨h, _⟩ | ⟨_, _, h⟩ <;> simp [h]
    | _ => simp
  | _ => simp

theorem dataUnit_skip_indep (f g : Frame) (d : Bytes) (id len : Nat) (h : dataUnit cfg f d id len = .skip) :
    dataUnit cfg g d id len = .skip :=
  (dataUnit_skip_iff g d id len).2 ((dataUnit_skip_iff f d id len).1 h)

/-! ## `extract_data_units`: the loop, one unit at a time -/

theorem extractLoop_short (fuel : Nat) (f : Frame) (d : Bytes) (h : d.length ≤ 2) :
    extractLoop cfg (fuel + 1) f d = (f, .done, []) := by
  unfold extractLoop; rw [if_pos h]

theorem extractLoop_overrun (fuel : Nat) (f : Frame) (id len : Nat) (rest : Bytes)
    (h1 : 2 < (id :: len :: rest).length) (h2 : len + 2 > (id :: len :: rest).length) :
    extractLoop cfg (fuel + 1) f (id :: len :: rest) = (f, .err, id :: len :: rest) := by
  rw [extractLoop, if_neg (by omega)]
  exact if_pos h2

theorem extractLoop_step (fuel : Nat) (f : Frame) (id len : Nat) (rest : Bytes)
    (h1 : 2 < (id :: len :: rest).length) (h2 : len + 2 ≤ (id :: len :: rest).length) :
    extractLoop cfg (fuel + 1) f (id :: len :: rest) =
      match dataUnit cfg f (id :: len :: rest) id len with
      | .fail f' r => (f', r, id :: len :: rest)
      | .skip => extractLoop cfg fuel { f with lastDuId := id } ((id :: len :: rest).drop (len + 2))
      | .store f' => extractLoop cfg fuel { f' with lastDuId := id } ((id :: len :: rest).drop (len + 2)) := by
  rw [extractLoop, if_neg (by omega)]
  rw [if_neg (by omega)]
  rfl

theorem extract_eq (f : Frame) (d : Bytes) (h : 2 ≤ d.length) : extract cfg f d = extractLoop cfg (d.length + 1) f d := by
  unfold extract; rw [if_neg (by omega)]

theorem cons2_of_length (d : Bytes) (h : 2 ≤ d.length) : ∃ id len t, d = id :: len :: t := by
  rcases d with _ | ⟨id, _ | ⟨len, t⟩⟩
  · simp at h
  · simp at h
  · exact ⟨id, len, t, rfl⟩

/-- how `extract_data_units` ends, given a property `I` of the frame that stepping over a unit and storing a
line keep: with `I` still true at the end of the data (0), at a unit header that overruns the data (error)
or when the fuel runs out; or at a unit that fails, reached by a frame with `I`. -/
inductive LoopExit (cfg : SrcCfg) (I : Frame → Prop) (fuel : Nat) (d : Bytes) : Frame × XR × Bytes → Prop
  | done (f1 : Frame) : I f1 → LoopExit cfg I fuel d (f1, .done, [])
  | overrun (f1 : Frame) (rest : Bytes) : I f1 → LoopExit cfg I fuel d (f1, .err, rest)
  | fuel (f1 : Frame) (rest : Bytes) : I f1 → fuel ≤ d.length →
      LoopExit cfg I fuel d (f1, .fault (.assertFail "extract_fuel"), rest)
  | unit (fa f1 : Frame) (r : XR) (id len : Nat) (t : Bytes) : I fa → 2 < (id :: len :: t).length →
      len + 2 ≤ (id :: len :: t).length → dataUnit cfg fa (id :: len :: t) id len = .fail f1 r →
      LoopExit cfg I fuel d (f1, r, id :: len :: t)

theorem extractLoop_exit (I : Frame → Prop) (hskip : ∀ f id, I f → I { f with lastDuId := id })
    (hstore : ∀ f d id len f', I f → dataUnit cfg f d id len = .store f' → I f') :
    ∀ (fuel : Nat) (f : Frame) (d : Bytes), I f → LoopExit cfg I fuel d (extractLoop cfg fuel f d) := by
  intro fuel
  induction fuel with
  | zero => intro f d h; exact .fuel f d h (Nat.zero_le _)
  | succ fuel ih =>
    intro f d h
    by_cases h2 : d.length ≤ 2
    · rw [extractLoop_short fuel f d h2]; exact .done f h
    obtain ⟨id, len, t, rfl⟩ := cons2_of_length d (by omega)
    by_cases hl : len + 2 > (id :: len :: t).length
    · rw [extractLoop_overrun fuel f id len t (by omega) hl]; exact .overrun f _ h
    rw [extractLoop_step fuel f id len t (by omega) (by omega)]
    -- the rest of the loop, from a frame with `I`; its fuel bound is the one of this round
    have step : ∀ g, I g → LoopExit cfg I (fuel + 1) (id :: len :: t)
        (extractLoop cfg fuel { g with lastDuId := id } ((id :: len :: t).drop (len + 2))) := by
      intro g hg
      have hx := ih _ ((id :: len :: t).drop (len + 2)) (hskip g id hg)
      generalize extractLoop cfg fuel _ _ = x at hx
      cases hx with
      | done f1 h1 => exact .done f1 h1
      | overrun f1 rest h1 => exact .overrun f1 rest h1
      | fuel f1 rest h1 hf => exact .fuel f1 rest h1 (by simp only [List.length_drop, List.length_cons] at hf hl ⊢; omega)
      | unit fa f1 r id' len' t' h1 h3 h4 h5 => exact .unit fa f1 r id' len' t' h1 h3 h4 h5
    cases hdu : dataUnit cfg f (id :: len :: t) id len with
    | skip => exact step f h
    | store f' => exact step f' (hstore f _ id len f' h hdu)
    | fail f' r => exact .unit f f' r id len t h (Nat.lt_of_not_le h2) (Nat.le_of_not_lt hl) hdu

theorem extractLoop_exit_any (fuel : Nat) (f : Frame) (d : Bytes) :
    LoopExit cfg (fun _ => True) fuel d (extractLoop cfg fuel f d) :=
  extractLoop_exit (fun _ => True) (fun _ _ _ => trivial) (fun _ _ _ _ _ _ _ => trivial) fuel f d trivial

theorem extractLoop_no_fault (fuel : Nat) (f : Frame) (d : Bytes) (h : d.length < fuel) :
    ∀ e, (extractLoop cfg fuel f d).2.1 ≠ .fault e := by
  intro e
  have hx := extractLoop_exit_any (cfg := cfg) fuel f d
  generalize extractLoop cfg fuel f d = x at hx
  cases hx with
  | done => simp
  | overrun => simp
  | fuel _ _ _ hf => omega
  | unit fa f1 r id len t _ h2 hl hdu => intro hr; exact dataUnit_no_fault fa _ id len h2 hl f1 e (by rw [hdu]; exact congrArg _ hr)

theorem extract_no_fault (f : Frame) (d : Bytes) (h : 2 ≤ d.length) : ∀ e, (extract cfg f d).2.1 ≠ .fault e := by
  intro e
  rw [extract_eq f d h]
  exact extractLoop_no_fault _ f d (by omega) e

/-- the frame right after `reset_frame` gives every unit a slot -/
theorem lineAddress_fresh (lofp : Nat) (sys : Bool) :
    ∃ f' line, lineAddress cfg {} lofp sys = .ok f' line ∧ f'.nDu ≥ 1 := by
  unfold lineAddress
  have hlen : ¬ (([] : List Sliced).length ≥ N_SLICED) := by simp [N_SLICED]
  rw [if_neg (fun h => hlen h.2)]
  simp only [if_neg hlen]
  split
  · rw [if_neg (by simp; omega)]; exact ⟨_, _, rfl, by simp⟩
  · simp

/-- the results of `line_address`: -1 only for the first unit of a packet, and (in either shape of the source) where a
slot could be had; a slot only with room, and the frame changed in the line counters only -/
inductive LineExit (cfg : SrcCfg) (f : Frame) : LA → Prop
  | err : LineExit cfg f .err
  | newFrame : f.nDu = 0 → LineExit cfg f .newFrame
  | ok (field fieldLine frameLine line : Nat) : f.lines.length < N_SLICED →
      LineExit cfg f
        (.ok { f with lastField := field, lastFieldLine := fieldLine, lastFrameLine := frameLine, nDu := f.nDu + 1 } line)

theorem lineAddress_exit (f : Frame) (lofp : Nat) (sys : Bool) : LineExit cfg f (lineAddress cfg f lofp sys) := by
  unfold lineAddress
  refine ite_both .err ?_
  dsimp only
  refine ite_ind (fun _ => ite_both (ite_ind (fun _ => .err) fun h => .newFrame (by omega))
      (ite_ind (fun _ => .err) fun h => .ok _ _ _ _ (by omega)))
    fun _ => ite_ind (fun h => .newFrame h.2.2) fun _ => ite_both .err (ite_ind (fun _ => .err) fun h => .ok _ _ _ _ (by omega))

theorem lineAddress_ndu (f : Frame) (lofp : Nat) (sys : Bool) (h : f.nDu ≥ 1) :
    lineAddress cfg f lofp sys ≠ .newFrame := by
  intro he
  have hx := lineAddress_exit (cfg := cfg) f lofp sys
  rw [he] at hx
  cases hx
  omega

theorem lineAddress_ok_props (f : Frame) (lofp : Nat) (sys : Bool) (f' : Frame) (line : Nat)
    (h : lineAddress cfg f lofp sys = .ok f' line) :
    f'.nDu ≥ 1 ∧ f'.lines = f.lines ∧ f.lines.length < 64 := by
  have hx := lineAddress_exit (cfg := cfg) f lofp sys
  rw [h] at hx
  cases hx with
  | ok _ _ _ _ hr => exact ⟨Nat.le_add_left 1 _, rfl, hr⟩

theorem dataUnit_store_props (f : Frame) (d : Bytes) (id len : Nat) (f' : Frame)
    (h : dataUnit cfg f d id len = .store f') : f'.nDu ≥ 1 ∧ f'.lines.length ≤ 64 := by
  have hx := dataUnit_exit (cfg := cfg) f d id len
  rw [h] at hx
  cases hx with
  | store lofp sys f'' line sid data hla =>
    have := lineAddress_ok_props f lofp sys f'' line hla
    simp only [pushLine, List.length_append, List.length_singleton, this.2.1]
    omega

theorem dataUnit_fail_lines (f : Frame) (d : Bytes) (id len : Nat) (f' : Frame) (r : XR)
    (h : dataUnit cfg f d id len = .fail f' r) : f'.lines = f.lines := by
  have hx := dataUnit_exit (cfg := cfg) f d id len
  rw [h] at hx
  cases hx with
  | lineErr lofp sys f'' line hla => exact (lineAddress_ok_props f lofp sys f' line hla).2.1
  | _ => rfl

theorem dataUnit_ndu_nf (f : Frame) (d : Bytes) (id len : Nat) (h : f.nDu ≥ 1) :
    ∀ f', dataUnit cfg f d id len ≠ .fail f' .newFrame := by
  intro f' hd
  have hx := dataUnit_exit (cfg := cfg) f d id len
  rw [hd] at hx
  cases hx with
  | newFrame lofp sys hla => exact lineAddress_ndu f lofp sys h hla

theorem extractLoop_ndu (fuel : Nat) (f : Frame) (d : Bytes) (h : f.nDu ≥ 1) :
    (extractLoop cfg fuel f d).2.1 ≠ .newFrame := by
  have hx := extractLoop_exit (cfg := cfg) (fun g => g.nDu ≥ 1) (fun _ _ h => h)
    (fun f d id len f' _ hd => (dataUnit_store_props f d id len f' hd).1) fuel f d h
  generalize extractLoop cfg fuel f d = x at hx
  cases hx with
  | unit fa f1 r id len t ha _ _ hdu => intro hr; exact dataUnit_ndu_nf fa _ id len ha f1 (by rw [hdu]; exact congrArg _ hr)
  | _ => simp

/-- when the loop stops with -1, `*src` points at a unit whose `line_address` said -1 -/
theorem extractLoop_newFrame_rest (fuel : Nat) (f : Frame) (d : Bytes) (f1 : Frame) (rest : Bytes)
    (h : extractLoop cfg fuel f d = (f1, .newFrame, rest)) :
    ∃ fa id len t, rest = id :: len :: t ∧ 2 < rest.length ∧ len + 2 ≤ rest.length ∧
      dataUnit cfg fa rest id len = .fail f1 .newFrame := by
  have hx := extractLoop_exit_any (cfg := cfg) fuel f d
  rw [h] at hx
  cases hx with
  | unit fa _ _ id len t _ h2 hl hdu => exact ⟨fa, id, len, t, rfl, h2, hl, hdu⟩

/-- a unit that made some frame say -1 got as far as `line_address`; a freshly reset frame gives it a slot -/
theorem dataUnit_fresh (f f1 : Frame) (d : Bytes) (id len : Nat)
    (h : dataUnit cfg f d id len = .fail f1 .newFrame) :
    (∃ f', dataUnit cfg {} d id len = .store f' ∧ f'.nDu ≥ 1) ∨
    ∃ f' r, dataUnit cfg {} d id len = .fail f' r ∧ r ≠ .newFrame := by
  rw [dataUnit_eq] at h ⊢
  cases hh : unitHead d id len with
  | skip => rw [hh] at h; cases h
  | bad r =>
    rw [hh] at h
    rcases unitHead_bad d id len r hh with rfl | ⟨e, rfl, _⟩ <;> cases h
  | line u lofp =>
    obtain ⟨f', line, hla, hn⟩ := lineAddress_fresh (cfg := cfg) lofp u.sys625
    simp only [hla]
    rcases unitStore_cases u d {} f' line with h | ⟨h, _⟩ | ⟨sid, data, h⟩ <;> rw [h]
    · exact Or.inr ⟨_, _, rfl, by simp⟩
    · exact Or.inr ⟨_, _, rfl, by simp⟩
    · exact Or.inl ⟨_, rfl, hn⟩

/-- -1 comes from the loop (the entry assertion held) -/
theorem extract_newFrame (f f1 : Frame) (d rest : Bytes) (h : extract cfg f d = (f1, .newFrame, rest)) :
    2 ≤ d.length ∧ extractLoop cfg (d.length + 1) f d = (f1, .newFrame, rest) := by
  unfold extract at h
  split at h
  · cases h
  · exact ⟨by omega, h⟩

theorem extract_after_newFrame (f f1 : Frame) (d rest : Bytes) (h : extract cfg f d = (f1, .newFrame, rest)) :
    2 ≤ rest.length ∧ (extract cfg {} rest).2.1 ≠ .newFrame := by
  obtain ⟨fa, id, len, t, rfl, h2, hl, hdu⟩ := extractLoop_newFrame_rest _ _ _ _ _ (extract_newFrame f f1 d rest h).2
  refine ⟨by omega, ?_⟩
  rw [extract_eq _ _ (by omega), extractLoop_step _ _ id len t h2 hl]
  rcases dataUnit_fresh fa f1 _ id len hdu with ⟨f', hdu0, hn⟩ | ⟨f', r, hdu0, hr⟩ <;> rw [hdu0]
  · exact extractLoop_ndu _ _ _ hn
  · exact hr

theorem extractLoop_done_rest (fuel : Nat) (f : Frame) (d : Bytes) :
    (extractLoop cfg fuel f d).2.1 = .done → (extractLoop cfg fuel f d).2.2 = [] := by
  have hx := extractLoop_exit_any (cfg := cfg) fuel f d
  generalize extractLoop cfg fuel f d = x at hx
  cases hx with
  | done => exact fun _ => rfl
  | unit fa f1 r id len t _ _ _ hdu => intro h; exact absurd (by rw [hdu]; exact congrArg _ h) (dataUnit_not_done fa _ id len f1)
  | _ => intro h; cases h

theorem extract_done_rest (f f' : Frame) (d rest : Bytes) (h : extract cfg f d = (f', .done, rest)) : rest = [] := by
  unfold extract at h
  split at h
  · cases h
  · have := extractLoop_done_rest (cfg := cfg) (d.length + 1) f d
    rw [h] at this
    exact this rfl

theorem extractLoop_fuel : ∀ (k1 k2 : Nat) (f : Frame) (d : Bytes), d.length < k1 → d.length < k2 →
    extractLoop cfg k1 f d = extractLoop cfg k2 f d := by
  intro k1
  induction k1 with
  | zero => intro k2 f d h; omega
  | succ k1 ih =>
    intro k2 f d h1 h2
    cases k2 with
    | zero => omega
    | succ k2 =>
      by_cases hd : d.length ≤ 2
      · rw [extractLoop_short k1 f d hd, extractLoop_short k2 f d hd]
      obtain ⟨id, len, t, rfl⟩ := cons2_of_length d (by omega)
      by_cases hl : len + 2 > (id :: len :: t).length
      · rw [extractLoop_overrun k1 f id len t (by omega) hl, extractLoop_overrun k2 f id len t (by omega) hl]
      rw [extractLoop_step k1 f id len t (by omega) (by omega), extractLoop_step k2 f id len t (by omega) (by omega)]
      have hdrop : ((id :: len :: t).drop (len + 2)).length < k1 ∧ ((id :: len :: t).drop (len + 2)).length < k2 := by
        simp only [List.length_drop]; omega
      cases dataUnit cfg f (id :: len :: t) id len with
      | skip => exact ih _ _ _ hdrop.1 hdrop.2
      | store f' => exact ih _ _ _ hdrop.1 hdrop.2
      | fail f' r => rfl

/-- `dx->sliced[64]` never overflows -/
theorem extractLoop_lines (fuel : Nat) (f : Frame) (d : Bytes) (h : f.lines.length ≤ 64) :
    (extractLoop cfg fuel f d).1.lines.length ≤ 64 := by
  have hx := extractLoop_exit (cfg := cfg) (fun g => g.lines.length ≤ 64) (fun _ _ h => h)
    (fun g d id len f' _ hd => (dataUnit_store_props g d id len f' hd).2) fuel f d h
  generalize extractLoop cfg fuel f d = x at hx
  cases hx with
  | unit fa f1 r id len t ha _ _ hdu => show f1.lines.length ≤ 64; rw [dataUnit_fail_lines fa _ id len f1 r hdu]; exact ha
  | done _ h1 => exact h1
  | overrun _ _ h1 => exact h1
  | fuel _ _ h1 => exact h1

theorem extract_lines (f : Frame) (d : Bytes) (f' : Frame) (r : XR) (rest : Bytes)
    (hx : extract cfg f d = (f', r, rest)) (h : f.lines.length ≤ 64) : f'.lines.length ≤ 64 := by
  rw [show f' = (extract cfg f d).1 by rw [hx]]
  unfold extract
  split
  · exact h
  · exact extractLoop_lines _ f d h

/-! ## `demux_pes_packet_frame`, one round at a time -/

/-- the frame state `demux_pes_packet_frame` starts a round with -/
def fsStart (fs : FS) : FS :=
  if fs.newFrame then { fs with frame := resetFrame fs.frame, framePts := fs.packetPts, newFrame := false } else fs

/-- frame state in the middle of a frame whose first packet had PTS `p` -/
def fsAt (p : Nat) (f : Frame) : FS := { frame := f, framePts := p, packetPts := p, newFrame := false }

theorem fsStart_new (fs : FS) (h : fs.newFrame = true) : fsStart fs = fsAt fs.packetPts {} := by
  unfold fsStart; rw [if_pos h]; rfl

theorem fsStart_old (fs : FS) (h : fs.newFrame = false) : fsStart fs = fs := by
  unfold fsStart; rw [if_neg (by simp [h])]

def xrPR : XR → PR
  | .done => .done
  | .err => .err
  | .fault e => .fault e
  | .newFrame => .done

/-- a round in which `extract_data_units` does not say -1 ends the function -/
theorem pesPacketFrame_round (n : Nat) (cb se : Bool) (fs : FS) (d : Bytes) (f : Frame) (r : XR) (rest : Bytes)
    (hx : extract cfg (fsStart fs).frame d = (f, r, rest)) (hr : r ≠ .newFrame) :
    pesPacketFrame cfg (n + 1) cb se fs d = ({ fsStart fs with frame := f }, [], xrPR r, rest) := by
  unfold pesPacketFrame
  simp only []
  unfold fsStart at hx
  rw [hx]
  cases r with
  | newFrame => exact absurd rfl hr
  | done => rfl
  | err => rfl
  | fault e => rfl

/-- a round in which it says -1: the frame is complete; without a callback it is handed over unless it is skipped for
having no lines, with a callback it is delivered and the function goes on with the next round -/
theorem pesPacketFrame_nf (n : Nat) (cb se : Bool) (fs : FS) (d : Bytes) (f : Frame) (rest : Bytes)
    (hx : extract cfg (fsStart fs).frame d = (f, .newFrame, rest)) :
    pesPacketFrame cfg (n + 1) cb se fs d =
      (if !cb then
        if se ∧ f.lines.isEmpty then pesPacketFrame cfg n cb se { fsStart fs with frame := f, newFrame := true } rest
        else ({ fsStart fs with frame := f, newFrame := true }, [], .callback, rest)
      else
        ((pesPacketFrame cfg n cb se { fsStart fs with frame := f, newFrame := true } rest).1,
         { pts := (fsStart fs).framePts, lines := f.lines } ::
           (pesPacketFrame cfg n cb se { fsStart fs with frame := f, newFrame := true } rest).2.1,
         (pesPacketFrame cfg n cb se { fsStart fs with frame := f, newFrame := true } rest).2.2.1,
         (pesPacketFrame cfg n cb se { fsStart fs with frame := f, newFrame := true } rest).2.2.2)) := by
  conv => lhs; unfold pesPacketFrame
  simp only []
  unfold fsStart at hx ⊢
  rw [hx]

theorem extract_done_or_err (f : Frame) (d : Bytes) (f2 : Frame) (r : XR) (rest : Bytes) (hd : 2 ≤ d.length)
    (hx : extract cfg f d = (f2, r, rest)) (hnn : r ≠ .newFrame) : r = .done ∨ r = .err := by
  have hnf := extract_no_fault (cfg := cfg) f d hd
  rw [hx] at hnf
  cases r with
  | done => exact Or.inl rfl
  | err => exact Or.inr rfl
  | newFrame => exact absurd rfl hnn
  | fault e => exact absurd rfl (hnf e)

/-- `demux_pes_packet_frame` with a callback: at most two rounds (any fuel from 2 on), never a fault, result 0 or an
error -/
theorem pesPacketFrame_ok (n : Nat) (se : Bool) (fs : FS) (d : Bytes) (hd : 2 ≤ d.length) :
    (pesPacketFrame cfg (n + 2) true se fs d).2.2.1 = .done ∨ (pesPacketFrame cfg (n + 2) true se fs d).2.2.1 = .err := by
  have hfin : ∀ (n : Nat) (fs : FS) (d : Bytes) (f : Frame) (r : XR) (rest : Bytes), 2 ≤ d.length →
      extract cfg (fsStart fs).frame d = (f, r, rest) → r ≠ .newFrame →
      (pesPacketFrame cfg (n + 1) true se fs d).2.2.1 = .done ∨ (pesPacketFrame cfg (n + 1) true se fs d).2.2.1 = .err := by
    intro n fs d f r rest hd hx hr
    rw [pesPacketFrame_round n true se fs d f r rest hx hr]
    rcases extract_done_or_err _ d f r rest hd hx hr with rfl | rfl
    · exact Or.inl rfl
    · exact Or.inr rfl
  rcases hx : extract cfg (fsStart fs).frame d with ⟨f, r, rest⟩
  by_cases hr : r = .newFrame
  · -- the second round starts from a reset frame at the unit that said -1
    subst hr
    obtain ⟨h2, hnn⟩ := extract_after_newFrame _ f d rest hx
    rw [pesPacketFrame_nf (n + 1) true se fs d f rest hx]
    rcases hx2 : extract cfg {} rest with ⟨f2, r2, rest2⟩
    rw [hx2] at hnn
    exact hfin n { fsStart fs with frame := f, newFrame := true } rest f2 r2 rest2 h2 (by rw [fsStart_new _ rfl]; exact hx2) hnn
  · exact hfin (n + 1) fs d f r rest hd hx hr

/-- with a callback installed `skipEmpty` is not read -/
theorem pesPacketFrame_se (se se' : Bool) : ∀ (n : Nat) (fs : FS) (d : Bytes),
    pesPacketFrame cfg n true se fs d = pesPacketFrame cfg n true se' fs d := by
  intro n
  induction n with
  | zero => intro fs d; rfl
  | succ n ih =>
    intro fs d
    rcases hx : extract cfg (fsStart fs).frame d with ⟨f, r, rest⟩
    by_cases hr : r = .newFrame
    · subst hr
      rw [pesPacketFrame_nf n true se fs d f rest hx, pesPacketFrame_nf n true se' fs d f rest hx]
      simp only [Bool.not_true, Bool.false_eq_true, if_false, ih]
    · rw [pesPacketFrame_round n true se fs d f r rest hx hr, pesPacketFrame_round n true se' fs d f r rest hx hr]

theorem pesPacketFrame_done_rest : ∀ (n : Nat) (cb se : Bool) (fs : FS) (d : Bytes),
    (pesPacketFrame cfg n cb se fs d).2.2.1 = .done → (pesPacketFrame cfg n cb se fs d).2.2.2 = [] := by
  intro n
  induction n with
  | zero => intro cb se fs d h; simp [pesPacketFrame] at h
  | succ n ih =>
    intro cb se fs d
    rcases hx : extract cfg (fsStart fs).frame d with ⟨f, r, rest⟩
    by_cases hr : r = .newFrame
    · subst hr
      rw [pesPacketFrame_nf n cb se fs d f rest hx]
      cases cb
      · simp only [Bool.not_false, if_true]
        split
        · exact ih _ _ _ _
        · intro h; cases h
      · exact ih _ _ _ _
    · rw [pesPacketFrame_round n cb se fs d f r rest hx hr]
      cases r with
      | done => exact fun _ => extract_done_rest _ f d rest hx
      | newFrame => exact absurd rfl hr
      | _ => intro h; cases h

end Zvbi.Demux
