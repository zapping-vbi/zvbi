import ZvbiModel.Demux.Model
import ZvbiModel.Util.Bits
/-!
# One iteration of `demux_pes_packet`, taken apart  (helper lemmas for C07)

`pesIter_eq`: the payload branch is `payloadRes` on the first `lookahead` bytes, the scan branch is `scanFinish` on the
result of the inner scan loop; `pesIter_exit` lists what an iteration can do, whatever the lookahead and the window.
`validHeader_some` is the inversion of the header check; the last section holds the `lookahead` encoding of the state
(`LaOK`, `foundRes_short`, `pesIter_la`).
-/
namespace Zvbi.Demux

variable {cfg : SrcCfg}

/-- what `pesIter` returns: new (skip, lookahead), frame state, frames delivered, `some` = the function returns -/
abbrev IterRes := (Nat × Nat) × FS × List FrameOut × Option Stop

/-- `PES_packet_length` as the header stage reads it -/
def packetLengthOf (h : Bytes) : Nat := (h.getD 4 0 % 256) * 256 + h.getD 5 0 % 256

/-- header evaluation once a VBI start code was found at `p`; `h = p[0 .. 46)` -/
def foundRes (p : Nat) (fs : FS) (h : Bytes) : (Nat × Nat) × FS :=
  let packetLength := (h.getD 4 0 % 256) * 256 + h.getD 5 0 % 256
  if packetLength < 178 then ((p + 6 + packetLength, 48), fs)
  else match validHeader fs h with
    | none => ((p + 6 + packetLength, 48), fs)
    | some fs' => ((p + 9 + 36 + 1, packetLength - 3 - 36 - 1), fs')

theorem validHeader_some (fs fs' : FS) (h : Bytes) (hv : validHeader fs h = some fs') :
    fs' = fs ∧ fs.newFrame = false ∨ ∃ t, fs' = { fs with packetPts := t } := by
  unfold validHeader at hv
  simp only [] at hv
  split at hv
  · cases hv
  · split at hv
    · cases hv
    · split at hv
      · cases hv
      · split at hv
        · cases hv; exact Or.inr ⟨_, rfl⟩
        · split at hv
          · cases hv
          · cases hv; exact Or.inl ⟨rfl, by simpa using ‹¬ fs.newFrame = true›⟩

/-- what `pesIter` makes of the result of the inner scan loop; the lookahead `la` is 48 in every reachable state -/
def scanFinish (sk la : Nat) (fs : FS) (win : Bytes) : ScanR → IterRes
  | .fault e => ((sk, la), fs, [], some (.fault e))
  | .notFound p => ((p, la), fs, [], none)
  | .foreign p =>
    match win.drop (p + 4) with
    | l1 :: l2 :: _ => ((p + 6 + (l1 * 256 + l2), la), fs, [], none)
    | _ => ((sk, la), fs, [], some (.fault (.oob "pes_foreign_len")))
  | .found p =>
    let h := (win.drop p).take 46
    if h.length < 46 then ((sk, la), fs, [], some (.fault (.oob "pes_header")))
    else if packetLengthOf h < 178 then ((p + 6 + packetLengthOf h, la), fs, [], none)
    else match validHeader fs h with
      | none => ((p + 6 + packetLengthOf h, la), fs, [], none)
      | some fs' => ((p + 46, packetLengthOf h - 40), fs', [], none)

/-- the frame state `demux_pes_packet` goes on with when `demux_pes_packet_frame` returned `r` -/
def payFs (cfg : SrcCfg) (fs1 : FS) : PR → FS
  | .err => pesErrFs cfg fs1
  | _ => fs1

/-- what `pesIter` makes of the result of `demux_pes_packet_frame` -/
def payFin (cfg : SrcCfg) (sk la : Nat) (fs1 : FS) (outs : List FrameOut) : PR → IterRes
  | .callback => ((sk, la), fs1, outs, some .callback)
  | .fault e => ((sk, la), fs1, outs, some (.fault e))
  | r => ((la, 48), payFs cfg fs1 r, outs, none)

/-- payload branch of `pesIter` as a function of the payload bytes -/
def payloadRes (cb : Bool) (cfg : SrcCfg) (sk la : Nat) (fs : FS) (data : Bytes) : IterRes :=
  let x := pesPacketFrame cfg 3 cb cfg.corSkipsEmpty { fs with frame := { fs.frame with nDu := 0 } } data
  payFin cfg sk la x.1 x.2.1 x.2.2.1

theorem payloadRes_of (cb : Bool) (cfg : SrcCfg) (sk la : Nat) (fs fs1 : FS) (d : Bytes) (outs : List FrameOut) (r : PR)
    (rest : Bytes)
    (h : pesPacketFrame cfg 3 cb cfg.corSkipsEmpty { fs with frame := { fs.frame with nDu := 0 } } d = (fs1, outs, r, rest)) :
    payloadRes cb cfg sk la fs d = payFin cfg sk la fs1 outs r := by
  unfold payloadRes; rw [h]

theorem pesIter_eq (cb : Bool) (sk la : Nat) (fs : FS) (win : Bytes) :
    pesIter cb cfg sk la fs win =
      if la > 48 then
        if la > win.length then ((sk, la), fs, [], some (.fault (.oob "pes_payload")))
        else payloadRes cb cfg sk la fs (win.take la)
      else if la > win.length then ((sk, la), fs, [], some (.fault (.oob "pes_scan_end")))
      else scanFinish sk la fs win (scanLoop (win.length + 1) win (win.length - la) 0) := by
  unfold pesIter payloadRes
  simp only [PES_HEADER_LOOKAHEAD]
  split
  · split
    · rfl
    · generalize pesPacketFrame cfg 3 cb _ _ _ = x
      obtain ⟨a, b, r, c⟩ := x
      cases r <;> rfl
  · split
    · rfl
    · cases scanLoop (win.length + 1) win (win.length - la) 0 with
      | foreign p =>
        simp only [scanFinish]
        rcases win.drop (p + 4) with _ | ⟨l1, _ | ⟨l2, t⟩⟩ <;> rfl
      | _ => rfl

theorem pesIter_scan (cb : Bool) (sk : Nat) (fs : FS) (win : Bytes) (h : 48 ≤ win.length) :
    pesIter cb cfg sk 48 fs win = scanFinish sk 48 fs win (scanLoop (win.length + 1) win (win.length - 48) 0) := by
  rw [pesIter_eq, if_neg (Nat.lt_irrefl 48), if_neg (by omega)]

theorem pesIter_payload (cb : Bool) (sk la : Nat) (fs : FS) (win : Bytes) (h1 : la > 48) (h2 : la ≤ win.length) :
    pesIter cb cfg sk la fs win = payloadRes cb cfg sk la fs (win.take la) := by
  rw [pesIter_eq, if_pos h1, if_neg (by omega)]

/-- in a reachable state the header stage is `foundRes` -/
theorem scanFinish_found (sk : Nat) (fs : FS) (win : Bytes) (p : Nat) (h : ¬ ((win.drop p).take 46).length < 46) :
    scanFinish sk 48 fs win (.found p)
      = ((foundRes p fs ((win.drop p).take 46)).1, (foundRes p fs ((win.drop p).take 46)).2, [], none) := by
  simp only [scanFinish, foundRes, if_neg h]
  by_cases hl : packetLengthOf ((win.drop p).take 46) < 178
  · rw [if_pos hl]; unfold packetLengthOf at hl; rw [if_pos hl]; rfl
  · rw [if_neg hl]; unfold packetLengthOf at hl; rw [if_neg hl]
    cases validHeader fs ((win.drop p).take 46) <;> rfl

/-- what one iteration can do: a read beyond the window; the payload branch; in the scan branch a skip with everything
else untouched (no start code, a foreign packet, a VBI packet that is too short or has no valid header), or a header
accepted -/
inductive IterExit (cb : Bool) (cfg : SrcCfg) (sk la : Nat) (fs : FS) (win : Bytes) : IterRes → Prop
  | fault (e : Err) : IterExit cb cfg sk la fs win ((sk, la), fs, [], some (.fault e))
  | payload (fs1 : FS) (outs : List FrameOut) (r : PR) (rest : Bytes) : la > 48 → la ≤ win.length →
      pesPacketFrame cfg 3 cb cfg.corSkipsEmpty { fs with frame := { fs.frame with nDu := 0 } } (win.take la)
        = (fs1, outs, r, rest) → IterExit cb cfg sk la fs win (payFin cfg sk la fs1 outs r)
  | skip (sk' : Nat) : la ≤ 48 → IterExit cb cfg sk la fs win ((sk', la), fs, [], none)
  | accept (p : Nat) (h : Bytes) (fs' : FS) : la ≤ 48 → 178 ≤ packetLengthOf h → validHeader fs h = some fs' →
      IterExit cb cfg sk la fs win ((p + 46, packetLengthOf h - 40), fs', [], none)

theorem pesIter_exit (cb : Bool) (sk la : Nat) (fs : FS) (win : Bytes) :
    IterExit cb cfg sk la fs win (pesIter cb cfg sk la fs win) := by
  rw [pesIter_eq]
  split
  · split
    · exact .fault _
    · exact .payload _ _ _ _ ‹_› (by omega) rfl
  · have hla : la ≤ 48 := by omega
    split
    · exact .fault _
    · cases scanLoop (win.length + 1) win (win.length - la) 0 with
      | fault e => exact .fault e
      | notFound p => exact .skip p hla
      | foreign p =>
        simp only [scanFinish]
        split
        · exact .skip _ hla
        · exact .fault _
      | found p =>
        simp only [scanFinish]
        split
        · exact .fault _
        · split
          · exact .skip _ hla
          · split
            · exact .skip _ hla
            · exact .accept p _ _ hla (by omega) ‹_›

/-- the scan branch delivers nothing and leaves the frame alone -/
theorem pesIter_scan_frame (cb : Bool) (sk la : Nat) (fs : FS) (win : Bytes) (h : la ≤ 48) :
    (pesIter cb cfg sk la fs win).2.2.1 = [] ∧ (pesIter cb cfg sk la fs win).2.1.frame = fs.frame := by
  have hx := pesIter_exit (cfg := cfg) cb sk la fs win
  generalize pesIter cb cfg sk la fs win = x at hx
  cases hx with
  | fault e => exact ⟨rfl, rfl⟩
  | skip sk' => exact ⟨rfl, rfl⟩
  | payload _ _ _ _ h' => omega
  | accept p hd fs' _ _ hv => rcases validHeader_some fs fs' hd hv with ⟨rfl, _⟩ | ⟨t, rfl⟩ <;> exact ⟨rfl, rfl⟩

/-! ## the `lookahead` encoding of the PES state

`demux_pes_packet` has no state variable: "payload state" is `pes_wrap.lookahead > 48`.  The
encoding is sound because the header stage rejects every `PES_packet_length < 178`, so the payload
lookahead `PES_packet_length - 40` is at least 138; everywhere else the lookahead is exactly 48,
the number of bytes the scan and `valid_vbi_pes_packet_header` read (`p[0] .. p[45]`, `p + 3 < end`). -/

/-- the lookahead values of the PES state machine: 48 (start code scan / header), or a payload length -/
def LaOK (la : Nat) : Prop := la = 48 ∨ (138 ≤ la ∧ la ≤ 65495)

/-- the header stage rejects every packet shorter than 178: the packet is skipped by its own length,
the lookahead stays 48 and the frame / PTS state is untouched, whatever the rest of the header says -/
theorem foundRes_short (p : Nat) (fs : FS) (h : Bytes) (hl : packetLengthOf h < 178) :
    foundRes p fs h = ((p + 6 + packetLengthOf h, 48), fs) := by
  unfold foundRes packetLengthOf at *
  simp only []
  rw [if_pos hl]

theorem pesIter_la (cb : Bool) (sk la : Nat) (fs : FS) (win : Bytes) (h : LaOK la) :
    LaOK (pesIter cb cfg sk la fs win).1.2 := by
  have hx := pesIter_exit (cfg := cfg) cb sk la fs win
  generalize pesIter cb cfg sk la fs win = x at hx
  cases hx with
  | fault e => exact h
  | skip sk' => exact h
  | payload fs1 outs r => cases r <;> first | exact h | exact Or.inl rfl
  | accept p hd fs' _ h178 =>
    have h1 : hd.getD 4 0 % 256 < 256 := Bits.mod_lt _ _
    have h2 : hd.getD 5 0 % 256 < 256 := Bits.mod_lt _ _
    unfold packetLengthOf at h178 ⊢
    exact Or.inr ⟨by show 138 ≤ _ - 40; omega, by show _ - 40 ≤ 65495; omega⟩

end Zvbi.Demux
