import ZvbiModel.Demux.JoinUnits
/-!
# Parser equivalence, packet payload level  (join of C06 and C07)

`extract_data_units` / `demux_pes_packet_frame` on a data unit region `encUnits us` whose lines
(`unitsLines us = some ls`) have defined, strictly ascending line numbers: the lines are appended to
the frame; if the first line does not lie beyond the last line of the frame under assembly, that
frame is delivered first and a new one begins (only at the start of a packet).  In the shape of the
source before fix dvb-demux-full-frame this needs room in the buffer (fewer than 64 lines held); with
the fix a frame that fills the buffer exactly is closed like any other (`Closable`).
-/
namespace Zvbi.Demux
open Zvbi.Mux.EnParse (Line Svc DataUnit Pes unitLine unitsLines lofpLine encUnits parseUnits parseUnitsF allFF)

variable {cfg : SrcCfg}

/-- line numbers strictly ascending, the first one above `x` (so all are defined, i.e. non-zero) -/
def AscFrom : Nat → List Line → Prop
  | _, [] => True
  | x, l :: ls => x < l.line ∧ AscFrom l.line ls

/-- the line number `line_address` remembers after these lines (`last_frame_line`) -/
def lastLineOf : Nat → List Line → Nat
  | x, [] => x
  | _, l :: ls => lastLineOf l.line ls

instance : ∀ x ls, Decidable (AscFrom x ls)
  | _, [] => isTrue trivial
  | x, l :: ls => by unfold AscFrom; exact @instDecidableAnd _ _ _ (instDecidableAscFrom l.line ls)

theorem encUnits_nil_iff (us : List DataUnit) : encUnits us = [] ↔ us = [] := by
  cases us with
  | nil => simp [encUnits]
  | cons u us => simp [encUnits]

theorem unitLine_nil_payload (id : Nat) (l : Line) : unitLine ⟨id, []⟩ ≠ some (some l) := by
  intro h
  cases Zvbi.Mux.unitLine_eq_some id [] (some l) h with
  | ttx _ _ hlen => simp at hlen
  | vps _ hlen => simp at hlen
  | wss _ hlen => simp at hlen
  | cc _ hlen => simp at hlen

theorem drop_unit (id : Nat) (p t : Bytes) : (id :: p.length :: (p ++ t)).drop (p.length + 2) = t := by
  simp [List.drop_succ_cons]

/-- one step of the loop over an accepted region `u :: us`: a last unit without payload ends it (it can only
be stuffing); stuffing is stepped over; a line unit does what `lineRes` says -/
theorem extractLoop_accepted (u : DataUnit) (us : List DataUnit) (ls : List Line) (f : Frame) (fuel : Nat)
    (hul : unitsLines (u :: us) = some ls) (hfuel : (encUnits (u :: us)).length < fuel + 1) :
    (ls = [] ∧ extractLoop cfg (fuel + 1) f (encUnits (u :: us)) = (f, .done, [])) ∨
    ((encUnits us).length < fuel ∧
      ((unitsLines us = some ls ∧ extractLoop cfg (fuel + 1) f (encUnits (u :: us))
          = extractLoop cfg fuel { f with lastDuId := u.id } (encUnits us)) ∨
       ∃ l ls', ls = l :: ls' ∧ unitsLines us = some ls' ∧ unitLine u = some (some l) ∧
        (l.line ≠ 0 → ∃ lofp, extractLoop cfg (fuel + 1) f (encUnits (u :: us)) =
          match lineRes cfg f lofp l with
          | .fail f' r => (f', r, encUnits (u :: us))
          | .skip => extractLoop cfg fuel { f with lastDuId := u.id } (encUnits us)
          | .store f' => extractLoop cfg fuel { f' with lastDuId := u.id } (encUnits us)))) := by
  obtain ⟨id, p⟩ := u
  simp only [encUnits] at hfuel ⊢
  simp only [unitsLines] at hul
  by_cases hshort : (id :: p.length :: (p ++ encUnits us)).length ≤ 2
  · left
    have hp : p = [] := by
      apply List.eq_nil_of_length_eq_zero
      simp only [List.length_cons, List.length_append] at hshort; omega
    have hus : us = [] := by
      rw [← encUnits_nil_iff]; apply List.eq_nil_of_length_eq_zero
      simp only [List.length_cons, List.length_append] at hshort; omega
    subst hp; subst hus
    refine ⟨?_, extractLoop_short fuel f _ hshort⟩
    cases hu : unitLine ⟨id, []⟩ with
    | none => rw [hu] at hul; simp at hul
    | some o =>
      cases o with
      | none => rw [hu] at hul; simpa [unitsLines] using hul.symm
      | some l => exact absurd hu (unitLine_nil_payload id l)
  · right
    refine ⟨by simp only [List.length_cons, List.length_append] at hfuel; omega, ?_⟩
    rw [extractLoop_step fuel f id p.length _ (by omega)
      (by simp only [List.length_cons, List.length_append]; omega), drop_unit]
    rcases Zvbi.Mux.unitsLines_cons_inv ⟨id, p⟩ us ls (by simpa only [unitsLines] using hul) with
      ⟨hu, hrest⟩ | ⟨l, ls', hu, hrest, rfl⟩
    · have := dataUnit_stuff_unit (cfg := cfg) f ⟨id, p⟩ (id :: p.length :: (p ++ encUnits us)) hu
      simp only at this
      rw [this]
      exact Or.inl ⟨hrest, rfl⟩
    · refine Or.inr ⟨l, ls', rfl, hrest, hu, fun h0 => ?_⟩
      obtain ⟨lofp, hdu⟩ := dataUnit_line (cfg := cfg) f ⟨id, p⟩ l (encUnits us) hu h0
      simp only at hdu
      exact ⟨lofp, by rw [hdu]; rfl⟩

/-- the loop over an accepted region whose lines continue the frame: all lines stored, result 0 -/
theorem extractLoop_stores : ∀ (us : List DataUnit) (ls : List Line) (f : Frame) (fuel : Nat),
    unitsLines us = some ls → AscFrom f.lastFrameLine ls → f.lines.length + ls.length ≤ 64 →
    (encUnits us).length < fuel →
    ∃ f', extractLoop cfg fuel f (encUnits us) = (f', .done, []) ∧ f'.lines = f.lines ++ ls.map ofLine
      ∧ f'.lastFrameLine = lastLineOf f.lastFrameLine ls := by
  intro us
  induction us with
  | nil =>
    intro ls f fuel hul _ _ hfuel
    simp only [unitsLines, Option.some.injEq] at hul
    subst hul
    cases fuel with
    | zero => simp at hfuel
    | succ fuel => exact ⟨f, extractLoop_short fuel f [] (Nat.zero_le _), by simp, rfl⟩
  | cons u us ih =>
    intro ls f fuel hul hasc hcap hfuel
    cases fuel with
    | zero => simp at hfuel
    | succ fuel =>
      rcases extractLoop_accepted u us ls f fuel hul hfuel with
        ⟨rfl, h⟩ | ⟨hfuel', ⟨hrest, h⟩ | ⟨l, ls', rfl, hrest, _, h⟩⟩
      · exact ⟨f, h, by simp, rfl⟩
      · rw [h]; exact ih ls _ fuel hrest hasc hcap hfuel'
      · obtain ⟨hlt, hasc'⟩ := hasc
        simp only [List.length_cons] at hcap
        obtain ⟨lofp, h⟩ := h (by omega)
        rw [h, lineRes_room _ _ _ (by omega), if_neg (by omega)]
        simp only []
        obtain ⟨f', h1, h2, h3⟩ := ih ls' { storeFrame f lofp l with lastDuId := u.id } fuel hrest
          (by simpa [storeFrame, pushLine, addrFrame] using hasc')
          (by simp [storeFrame, pushLine, addrFrame]; omega) hfuel'
        refine ⟨f', h1, ?_, ?_⟩
        · rw [h2]; simp [storeFrame, pushLine, addrFrame, ofLine]
          cases l.svc <;> rfl
        · rw [h3]; simp [storeFrame, pushLine, addrFrame, lastLineOf]

/-- the loop over an accepted region whose lines continue the frame but do not all fit into the
buffer: the lines are stored until the buffer is full, the next line unit gets
VBI_ERR_SLICED_BUFFER_OVERFLOW (in both shapes of `line_address`: its line lies beyond the frame's last
line, so no frame boundary is seen) -/
theorem extractLoop_overflow : ∀ (us : List DataUnit) (ls : List Line) (f : Frame) (fuel : Nat),
    unitsLines us = some ls → AscFrom f.lastFrameLine ls → f.lines.length ≤ 64 → 64 < f.lines.length + ls.length →
    (encUnits us).length < fuel →
    ∃ f' rest, extractLoop cfg fuel f (encUnits us) = (f', .err, rest) := by
  intro us
  induction us with
  | nil =>
    intro ls f fuel hul _ h64 hcap _
    simp only [unitsLines, Option.some.injEq] at hul
    subst hul
    simp only [List.length_nil] at hcap; omega
  | cons u us ih =>
    intro ls f fuel hul hasc h64 hcap hfuel
    cases fuel with
    | zero => simp at hfuel
    | succ fuel =>
      rcases extractLoop_accepted u us ls f fuel hul hfuel with
        ⟨rfl, _⟩ | ⟨hfuel', ⟨hrest, h⟩ | ⟨l, ls', rfl, hrest, _, h⟩⟩
      · simp only [List.length_nil] at hcap; omega
      · rw [h]; exact ih ls _ fuel hrest hasc h64 hcap hfuel'
      · obtain ⟨hlt, hasc'⟩ := hasc
        simp only [List.length_cons] at hcap
        obtain ⟨lofp, h⟩ := h (by omega)
        rw [h]
        by_cases hroom : f.lines.length < 64
        · rw [lineRes_room _ _ _ hroom, if_neg (by omega)]
          simp only []
          exact ih ls' { storeFrame f lofp l with lastDuId := u.id } fuel hrest
            (by simpa [storeFrame, pushLine, addrFrame] using hasc')
            (by simp [storeFrame, pushLine, addrFrame]; omega)
            (by simp [storeFrame, pushLine, addrFrame]; omega) hfuel'
        · rw [lineRes_overflow _ _ _ (by omega) hlt]
          exact ⟨_, _, rfl⟩

/-- at the start of a packet (`n_data_units_extracted_from_packet = 0`) a first line that does not lie
beyond the frame's last line ends the loop with -1 at that unit; the frame keeps its lines -/
theorem extractLoop_newFrame : ∀ (us : List DataUnit) (l : Line) (ls : List Line) (f : Frame) (fuel : Nat),
    unitsLines us = some (l :: ls) → l.line ≠ 0 → l.line ≤ f.lastFrameLine → f.nDu = 0 →
    Closable cfg f.lines.length →
    (encUnits us).length < fuel →
    ∃ f1 us1, extractLoop cfg fuel f (encUnits us) = (f1, .newFrame, encUnits us1) ∧ f1.lines = f.lines
      ∧ unitsLines us1 = some (l :: ls) ∧ (encUnits us1).length ≤ (encUnits us).length := by
  intro us
  induction us with
  | nil => intro l ls f fuel hul; simp [unitsLines] at hul
  | cons u us ih =>
    intro l ls f fuel hul h0 hle hn hcap hfuel
    cases fuel with
    | zero => simp at hfuel
    | succ fuel =>
      rcases extractLoop_accepted u us (l :: ls) f fuel hul hfuel with
        ⟨hnil, _⟩ | ⟨hfuel', ⟨hrest, h⟩ | ⟨l', ls', hcons, hrest, hu, h⟩⟩
      · cases hnil
      · rw [h]
        obtain ⟨f1, us1, h1, h2, h3, h4⟩ := ih l ls { f with lastDuId := u.id } fuel hrest h0 hle hn hcap hfuel'
        refine ⟨f1, us1, h1, h2, h3, ?_⟩
        simp only [encUnits, List.length_cons, List.length_append]; omega
      · cases hcons
        obtain ⟨lofp, h⟩ := h h0
        rw [h, lineRes_newFrame _ _ _ hcap hle hn]
        refine ⟨f, u :: us, rfl, rfl, ?_, Nat.le_refl _⟩
        simp only [unitsLines, hu, hrest]

theorem length_encUnits_cons (u : DataUnit) (us : List DataUnit) : 2 ≤ (encUnits (u :: us)).length := by
  simp only [encUnits, List.length_cons]; omega

/-- a region with a line is long enough for `extract_data_units`' assertion -/
theorem extract_accepted (f : Frame) (us : List DataUnit) (l : Line) (ls : List Line) (hul : unitsLines us = some (l :: ls)) :
    extract cfg f (encUnits us) = extractLoop cfg ((encUnits us).length + 1) f (encUnits us) := by
  cases us with
  | nil => simp [unitsLines] at hul
  | cons u us => exact extract_eq _ _ (length_encUnits_cons u us)

/-- a frame/PTS state that holds the lines `ls` of a frame sent with `pts` (and is not at a frame start) -/
structure Holds (fs : FS) (pts : Nat) (ls : List Line) : Prop where
  nf : fs.newFrame = false
  lines : fs.frame.lines = ls.map ofLine
  last : fs.frame.lastFrameLine = lastLineOf 0 ls
  pts : fs.framePts = pts

/-- `demux_pes_packet_frame` on the first packet after a frame start (`new_frame`): the frame is
reset, takes the packet's PTS and all lines; nothing is delivered -/
theorem pesPacketFrame_first (n : Nat) (se : Bool) (fs : FS) (us : List DataUnit) (l : Line) (ls : List Line)
    (hnf : fs.newFrame = true) (hul : unitsLines us = some (l :: ls)) (hasc : AscFrom 0 (l :: ls))
    (hcap : (l :: ls).length ≤ 64) :
    ∃ fs', pesPacketFrame cfg (n + 1) true se fs (encUnits us) = (fs', [], .done, [])
      ∧ Holds fs' fs.packetPts (l :: ls) ∧ fs'.packetPts = fs.packetPts := by
  obtain ⟨f', h1, hl, hla⟩ := extractLoop_stores (cfg := cfg) us (l :: ls) {} _ hul hasc (by simpa using hcap) (Nat.lt_succ_self _)
  rw [pesPacketFrame_round n true se fs _ f' .done [] (by rw [fsStart_new fs hnf, extract_accepted _ _ l ls hul]; exact h1)
    (by simp), fsStart_new fs hnf]
  exact ⟨_, rfl, ⟨rfl, by simpa using hl, by simpa using hla, rfl⟩, rfl⟩

/-- `demux_pes_packet_frame` on a packet whose first line does not lie beyond the last line of the
frame under assembly: that frame is delivered with its PTS, then the new frame takes the packet's
PTS and lines (the second round is `pesPacketFrame_first`) -/
theorem pesPacketFrame_next (se : Bool) (fs : FS) (us : List DataUnit) (l : Line) (ls : List Line)
    (hnf : fs.newFrame = false) (hn : fs.frame.nDu = 0)
    (hfull : Closable cfg fs.frame.lines.length)
    (hul : unitsLines us = some (l :: ls)) (hasc : AscFrom 0 (l :: ls))
    (hcap : (l :: ls).length ≤ 64) (hle : l.line ≤ fs.frame.lastFrameLine) :
    ∃ fs', pesPacketFrame cfg 3 true se fs (encUnits us) = (fs', [⟨fs.framePts, fs.frame.lines⟩], .done, [])
      ∧ Holds fs' fs.packetPts (l :: ls) ∧ fs'.packetPts = fs.packetPts := by
  have h0 : l.line ≠ 0 := by have := hasc.1; omega
  obtain ⟨f1, us1, h1, hl1, hul1, hlen1⟩ := extractLoop_newFrame us l ls fs.frame _ hul h0 hle hn hfull
    (Nat.lt_succ_self _)
  rw [pesPacketFrame_nf 2 true se fs _ f1 _ (by rw [fsStart_old fs hnf, extract_accepted _ _ l ls hul]; exact h1),
    fsStart_old fs hnf]
  obtain ⟨fs', h2, hh, hp⟩ := pesPacketFrame_first (cfg := cfg) 1 se { fs with frame := f1, newFrame := true } us1 l ls rfl hul1
    hasc hcap
  rw [h2, hl1]
  exact ⟨fs', rfl, hh, hp⟩

end Zvbi.Demux
