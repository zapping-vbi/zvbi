import ZvbiModel.Demux.JoinPacket
/-!
# Parser equivalence, stream level  (join of C06 and C07)

A PES stream that the standards reader `EnParse.pesStream` accepts, whose packets are frames the
demultiplexer can tell apart (`SepFrom`), read by the stream machine `arun` from a packet boundary:
every packet but the last comes out as one frame with its PTS and lines; the last one is held in the
frame buffer (it is delivered when the next frame begins).  The argument is made once, on the frame state
(`Pkts`, `pkts_held`, `pkts_start`), and carried to the stream machine by `arun_pkts` (to the TS path by
`effs_pkts` in `TsJoinAll.lean`).
-/
namespace Zvbi.Demux
open Zvbi.Mux.EnParse
variable {cfg : SrcCfg}

/-- the frame the demultiplexer is to deliver for a packet -/
def outOf (p : Pes) : FrameOut := ⟨p.pts, p.lines.map ofLine⟩

/-- the first line number of a frame (0 if it has no lines) -/
def firstLine (ls : List Line) : Nat := (ls.head?.map (·.line)).getD 0

/-- the largest frame the demultiplexer delivers: all 64 slots of `dx->sliced[64]` with fix
dvb-demux-full-frame; 63 before it (a 64th line can be stored, but the frame is then never closed:
`line_address` reports the overflow before it looks at the line number, finding C07-full-frame) -/
def frameCap (cfg : SrcCfg) : Nat := if cfg.lateOverflow = true then 64 else 63

theorem frameCap_le (cfg : SrcCfg) : frameCap cfg ≤ 64 := by unfold frameCap; split <;> omega
theorem frameCap_ge (cfg : SrcCfg) : 63 ≤ frameCap cfg := by unfold frameCap; split <;> omega
theorem frameCap_late (h : cfg.lateOverflow = true) : frameCap cfg = 64 := by simp [frameCap, h]
theorem frameCap_room (n : Nat) (h : n ≤ frameCap cfg) : Closable cfg n := by
  unfold frameCap at h
  split at h
  · left; assumption
  · right; omega

/-- the lines of one packet are one frame the demultiplexer can hold and close: at least one line, all
line numbers defined and strictly ascending, at most `frameCap` lines (64 with the repaired
`line_address`) -/
def FrameLinesOK (cfg : SrcCfg) (ls : List Line) : Prop := ls ≠ [] ∧ AscFrom 0 ls ∧ ls.length ≤ frameCap cfg

/-- consecutive packets are separable frames: each begins on a line not beyond the last line of the
one before (`x`: last line of the frame before the first packet) -/
def SepFrom (cfg : SrcCfg) : Nat → List (List Line) → Prop
  | _, [] => True
  | x, a :: r => FrameLinesOK cfg a ∧ firstLine a ≤ x ∧ SepFrom cfg (lastLineOf 0 a) r

/-- a whole stream of separable frames (nothing is required of the first frame's first line) -/
def Sep (cfg : SrcCfg) : List (List Line) → Prop
  | [] => True
  | a :: r => FrameLinesOK cfg a ∧ SepFrom cfg (lastLineOf 0 a) r

instance (cfg : SrcCfg) (ls : List Line) : Decidable (FrameLinesOK cfg ls) := by unfold FrameLinesOK; infer_instance
instance decSepFrom (cfg : SrcCfg) : ∀ x r, Decidable (SepFrom cfg x r)
  | _, [] => isTrue trivial
  | x, a :: r => by
    unfold SepFrom
    exact @instDecidableAnd _ _ _ (@instDecidableAnd _ _ _ (decSepFrom cfg (lastLineOf 0 a) r))
instance (cfg : SrcCfg) : ∀ r, Decidable (Sep cfg r)
  | [] => isTrue trivial
  | a :: r => by unfold Sep; infer_instance

/-- accepted PES packets seen at the level of `demux_pes_packet_frame`: each packet's header sets the PTS, its data
unit region is extracted (result 0); `fs` .. `fs'` the frame state before and after, `outs` the frames delivered -/
inductive Pkts (cfg : SrcCfg) : FS → List (Bytes × Pes) → FS → List FrameOut → Prop
  | nil (fs : FS) : Pkts cfg fs [] fs []
  | cons {fs fs1 fs2 : FS} {pk : Bytes} {p : Pes} {pks : List (Bytes × Pes)} {o1 o2 : List FrameOut}
      (hp : parsePes pk = some p) (hb : ∀ b ∈ pk, b < 256)
      (h1 : ∀ se, pesPacketFrame cfg 3 true se { fs with packetPts := p.pts, frame := { fs.frame with nDu := 0 } } (pk.drop 46)
              = (fs1, o1, .done, []))
      (h2 : Pkts cfg fs1 pks fs2 o2) : Pkts cfg fs ((pk, p) :: pks) fs2 (o1 ++ o2)

/-- PES path: the stream machine at a packet boundary on the packets' bytes -/
theorem arun_pkts {fs fs2 : FS} {pks : List (Bytes × Pes)} {outs : List FrameOut} (h : Pkts cfg fs pks fs2 outs) :
    arun cfg { skip := 0, lookahead := 48, fs := fs } (pks.map Prod.fst).flatten
      = { core := { skip := 0, lookahead := 48, fs := fs2 }, pend := [], frames := outs, stop := none } := by
  induction h with
  | nil fs => simp [arun]
  | @cons fs fs1 fs2 pk p pks o1 o2 hp hb h1 _ ih =>
    simp only [List.map_cons, List.flatten_cons]
    rw [(arun_packet fs pk _ p hp hb).1 fs1 o1 (h1 _), ih]
    rfl

/-- separable frames after a frame under assembly (any lines that a next packet can still close, any PTS): every packet
closes the frame before it and is held in turn -/
theorem pkts_held : ∀ (pks : List (Bytes × Pes)) (fs : FS),
    (∀ x ∈ pks, parsePes x.1 = some x.2) → (∀ x ∈ pks, ∀ b ∈ x.1, b < 256) →
    fs.newFrame = false → Closable cfg fs.frame.lines.length →
    SepFrom cfg fs.frame.lastFrameLine (pks.map fun x => x.2.lines) →
    ∃ fsEnd, Pkts cfg fs pks fsEnd ((⟨fs.framePts, fs.frame.lines⟩ :: (pks.map Prod.snd).map outOf).dropLast)
      ∧ (pks = [] → fsEnd = fs) ∧ ∀ q ∈ (pks.map Prod.snd).getLast?, Holds fsEnd q.pts q.lines := by
  intro pks
  induction pks with
  | nil => intro fs _ _ _ _ _; exact ⟨fs, .nil fs, fun _ => rfl, fun q hq => by cases hq⟩
  | cons x pks ih =>
    intro fs hp hb hnf hroom hsep
    have hcap64 := frameCap_le cfg
    obtain ⟨pk, p⟩ := x
    simp only [List.map_cons, SepFrom] at hsep
    obtain ⟨⟨hne, hasc, hlt⟩, hfirst, hsep'⟩ := hsep
    have hpp : parsePes pk = some p := hp (pk, p) (List.mem_cons_self ..)
    have hbb := hb (pk, p) (List.mem_cons_self ..)
    obtain ⟨us, hul, hdrop, -⟩ := pes_shape pk p hpp hbb
    obtain ⟨l, ls, hls⟩ := List.exists_cons_of_ne_nil hne
    rw [hls] at hul hasc hlt
    have hfl : firstLine p.lines = l.line := by simp [firstLine, hls]
    obtain ⟨fs', hpf, hh', -⟩ := pesPacketFrame_next (cfg := cfg) false
      { fs with packetPts := p.pts, frame := { fs.frame with nDu := 0 } } us l ls hnf rfl hroom
      hul hasc (by omega) (by show l.line ≤ fs.frame.lastFrameLine; rw [← hfl]; exact hfirst)
    obtain ⟨fsEnd, hpk, hnil, hend⟩ := ih fs' (fun y hy => hp y (List.mem_cons_of_mem _ hy))
      (fun y hy => hb y (List.mem_cons_of_mem _ hy)) hh'.nf
      (by rw [hh'.lines, List.length_map]; exact frameCap_room _ hlt) (by rw [hh'.last, ← hls]; exact hsep')
    refine ⟨fsEnd, ?_, (fun h => nomatch h), fun q hq => ?_⟩
    · have := Pkts.cons hpp hbb (fun se => by rw [pesPacketFrame_se se false, hdrop]; exact hpf) hpk
      rw [hh'.pts, hh'.lines] at this
      simpa [outOf, hls] using this
    · rcases pks with _ | ⟨y, r⟩
      · rw [hnil rfl]
        simp only [List.map_cons, List.map_nil, List.getLast?_singleton, Option.mem_def, Option.some.injEq] at hq
        subst hq; rw [hls]; exact hh'
      · exact hend q (by simpa [List.getLast?_cons_cons] using hq)

/-- the same from a frame start (new demultiplexer, after a reset, after a discard): the first
packet only opens a frame -/
theorem pkts_start (x : Bytes × Pes) (pks : List (Bytes × Pes)) (fs : FS) (hnf : fs.newFrame = true)
    (hp : ∀ y ∈ x :: pks, parsePes y.1 = some y.2) (hb : ∀ y ∈ x :: pks, ∀ b ∈ y.1, b < 256)
    (hsep : Sep cfg ((x :: pks).map fun x => x.2.lines)) :
    ∃ fsEnd, Pkts cfg fs (x :: pks) fsEnd ((((x :: pks).map Prod.snd).dropLast).map outOf)
      ∧ Holds fsEnd (((x :: pks).map Prod.snd).getLast (by simp)).pts (((x :: pks).map Prod.snd).getLast (by simp)).lines := by
  have hcap64 := frameCap_le cfg
  obtain ⟨pk, p⟩ := x
  simp only [List.map_cons, Sep] at hsep
  obtain ⟨⟨hne, hasc, hlt⟩, hsep'⟩ := hsep
  have hpp : parsePes pk = some p := hp (pk, p) (List.mem_cons_self ..)
  have hbb := hb (pk, p) (List.mem_cons_self ..)
  obtain ⟨us, hul, hdrop, -⟩ := pes_shape pk p hpp hbb
  obtain ⟨l, ls, hls⟩ := List.exists_cons_of_ne_nil hne
  rw [hls] at hul hasc hlt
  obtain ⟨fs', hpf, hh', -⟩ := pesPacketFrame_first (cfg := cfg) 2 false
    { fs with packetPts := p.pts, frame := { fs.frame with nDu := 0 } } us l ls hnf hul hasc (by omega)
  obtain ⟨fsEnd, hpk, hnil, hend⟩ := pkts_held (cfg := cfg) pks fs' (fun y hy => hp y (List.mem_cons_of_mem _ hy))
    (fun y hy => hb y (List.mem_cons_of_mem _ hy)) hh'.nf
    (by rw [hh'.lines, List.length_map]; exact frameCap_room _ hlt) (by rw [hh'.last, ← hls]; exact hsep')
  refine ⟨fsEnd, ?_, ?_⟩
  · have := Pkts.cons hpp hbb (fun se => by rw [pesPacketFrame_se se false, hdrop]; exact hpf) hpk
    rw [hh'.pts, hh'.lines] at this
    simpa [outOf, hls, List.map_dropLast] using this
  · rcases pks with _ | ⟨y, r⟩
    · rw [hnil rfl]; simpa [hls] using hh'
    · exact hend _ (by simp [List.getLast?_eq_some_getLast])

theorem pesStreamF_inv : ∀ (f : Nat) (bs : Bytes) (ps : List Pes), pesStreamF f bs = some ps →
    ∃ pks : List (Bytes × Pes), (∀ x ∈ pks, parsePes x.1 = some x.2) ∧ (pks.map Prod.fst).flatten = bs
      ∧ pks.map Prod.snd = ps := by
  intro f
  induction f with
  | zero =>
    intro bs ps h
    cases bs with
    | nil => simp only [pesStreamF, Option.some.injEq] at h; subst h; exact ⟨[], by simp, rfl, rfl⟩
    | cons b bs => simp [pesStreamF] at h
  | succ f ih =>
    intro bs ps h
    cases bs with
    | nil => simp only [pesStreamF, Option.some.injEq] at h; subst h; exact ⟨[], by simp, rfl, rfl⟩
    | cons b bs =>
      simp only [pesStreamF] at h
      split at h
      · cases h
      · split at h
        · rename_i p ps' hpp hrest
          simp only [Option.some.injEq] at h
          subst h
          obtain ⟨pks, h1, h2, h3⟩ := ih _ _ hrest
          refine ⟨((b :: bs).take ((b :: bs).getD 4 0 * 256 + (b :: bs).getD 5 0 + 6), p) :: pks, ?_, ?_, ?_⟩
          · intro x hx
            rcases List.mem_cons.mp hx with rfl | hx
            · exact hpp
            · exact h1 x hx
          · simp only [List.map_cons, List.flatten_cons, h2, List.take_append_drop]
          · simp only [List.map_cons, h3]
        · cases h

/-- a stream of separable frames read from any context at a packet boundary that is at a frame start (`new_frame`
set: new demultiplexer, after `vbi_dvb_demux_reset`, after a discarded frame), whatever stale lines, counters and PTS it holds -/
theorem frames_of_pesStream_from (fs : FS) (hnf : fs.newFrame = true) (bs : Bytes) (ps : List Pes)
    (h : pesStream bs = some ps) (hb : ∀ b ∈ bs, b < 256) (hsep : Sep cfg (ps.map (·.lines))) (hne : ps ≠ []) :
    ∃ fsEnd, arun cfg { skip := 0, lookahead := 48, fs := fs } bs
        = { core := { skip := 0, lookahead := 48, fs := fsEnd }, pend := [], frames := ps.dropLast.map outOf,
            stop := none }
      ∧ Holds fsEnd (ps.getLast hne).pts (ps.getLast hne).lines := by
  obtain ⟨pks, h1, h2, h3⟩ := pesStreamF_inv _ bs ps h
  subst h2; subst h3
  cases pks with
  | nil => exact absurd rfl hne
  | cons x pks =>
    obtain ⟨fsEnd, h, hend⟩ := pkts_start (cfg := cfg) x pks fs hnf h1 (List.forall_mem_map.1 (List.forall_mem_flatten.1 hb))
      (by simpa [List.map_map, Function.comp_def] using hsep)
    exact ⟨fsEnd, arun_pkts h, hend⟩

/-- **Parser equivalence (PES path).**  For every byte stream (bytes < 256) that the standards
reader accepts as a sequence of VBI PES packets `ps` which are separable frames (`Sep`): the
demultiplexer, as a function of the stream (`frames`), delivers exactly the packets but the last,
each as one frame with its PTS, its lines in order, their service ids, line numbers and payload
bits; it has consumed everything, stands at a packet boundary, and holds the last frame with its
PTS in the frame buffer. -/
theorem frames_of_pesStream (bs : Bytes) (ps : List Pes) (h : pesStream bs = some ps)
    (hb : ∀ b ∈ bs, b < 256) (hsep : Sep cfg (ps.map (·.lines))) :
    ∃ fsEnd, arun cfg Core.init bs
        = { core := { skip := 0, lookahead := 48, fs := fsEnd }, pend := [], frames := ps.dropLast.map outOf,
            stop := none }
      ∧ ∀ hne : ps ≠ [], Holds fsEnd (ps.getLast hne).pts (ps.getLast hne).lines := by
  obtain ⟨pks, _, h2, h3⟩ := pesStreamF_inv _ bs ps h
  cases pks with
  | nil =>
    subst h2; subst h3
    exact ⟨{}, by simp [arun, Core.init, PES_HEADER_LOOKAHEAD], fun hne => absurd rfl hne⟩
  | cons x pks =>
    have hne : ps ≠ [] := by rw [← h3]; simp
    obtain ⟨fsEnd, har, hend⟩ := frames_of_pesStream_from (cfg := cfg) {} rfl bs ps h hb hsep hne
    exact ⟨fsEnd, har, fun _ => hend⟩

theorem frames_pesStream (bs : Bytes) (ps : List Pes) (h : pesStream bs = some ps)
    (hb : ∀ b ∈ bs, b < 256) (hsep : Sep cfg (ps.map (·.lines))) : frames cfg bs = ps.dropLast.map outOf := by
  obtain ⟨_, har, _⟩ := frames_of_pesStream (cfg := cfg) bs ps h hb hsep
  unfold frames; rw [har]

end Zvbi.Demux
