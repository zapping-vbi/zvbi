import ZvbiModel.Demux.LemmasForget
/-!
# Coroutine interface: `extract_data_units` restarted at the packet start  (helper lemmas for C07 `cor_equals_feed`)

The packet is extracted again with a reset frame whose `last_data_unit_id` is stale (`frX`): unit by unit
(`dataUnit_frX`) and over the loop (`extractLoop_restart`, `extractLoop_frX`, `extract_restart`); -1 leaves the lines as they were
(`extractLoop_newFrame_lines`).
-/
namespace Zvbi.Demux

variable {cfg : SrcCfg}

/-- a freshly reset frame that has already seen (skipped) units of this packet -/
def frX (x : Nat) : Frame := { lastDuId := x }

/-- `line_address` on a reset frame whose `last_data_unit_id` is stale: -1 for an undefined line of
the second field (independent of the system), otherwise what the reset frame does -/
theorem lineAddress_frX (x lofp : Nat) :
    (∀ sys, lineAddress cfg (frX x) lofp sys = .newFrame) ∨
    (∀ sys, ∃ f' line, lineAddress cfg {} lofp sys = .ok f' line ∧
        lineAddress cfg (frX x) lofp sys = .ok { f' with lastDuId := x } line) := by
  unfold lineAddress lofpToLine frX
  simp only [List.length_nil, N_SLICED]
  by_cases h31 : lofp &&& 31 > 0
  · right; intro sys
    simp only [if_pos h31]
    by_cases h32 : lofp &&& 32 = 0
    · simp [h32]; cases sys <;> simp <;> omega
    · have h0 : ¬ (lofp &&& 31 = 0) := by omega
      simp [h32, h0]
  · by_cases h32 : lofp &&& 32 = 0
    · by_cases hx : x = 0
      · right; intro sys; simp [h31, h32, hx]
      · left; intro sys; simp [h31, h32, hx]
    · right; intro sys; simp [h31, h32]

def mapDU (x : Nat) : DU → DU
  | .skip => .skip
  | .fail f r => .fail { f with lastDuId := x } r
  | .store f => .store { f with lastDuId := x }

/-- one data unit on a reset frame with a stale `last_data_unit_id`: -1 without touching the frame,
or what the reset frame does -/
theorem dataUnit_frX (x : Nat) (d : Bytes) (id len : Nat) :
    dataUnit cfg (frX x) d id len = .fail (frX x) .newFrame ∨
    dataUnit cfg (frX x) d id len = mapDU x (dataUnit cfg {} d id len) := by
  rw [dataUnit_eq, dataUnit_eq]
  cases unitHead d id len with
  | skip => exact Or.inr rfl
  | bad r => exact Or.inr rfl
  | line u lofp =>
    rcases lineAddress_frX (cfg := cfg) x lofp with hn | hok
    · exact Or.inl (by simp only [hn])
    · obtain ⟨f', line, h0, hx⟩ := hok u.sys625
      refine Or.inr ?_
      simp only [h0, hx]
      -- the store reads `last_field` and `last_field_line` only
      unfold unitStore
      by_cases hok : u.lineOk f'.lastFieldLine line = false
      · simp only [hok, if_true]; rfl
      · by_cases hb : ((d.drop u.off).take u.n).length = u.n
        · simp only [hok, hb, if_true]; rfl
        · simp only [hok, hb, if_false]; rfl


/-- when `extract_data_units` said -1 at `rest`, every unit before `rest` was stepped over without
looking at the frame: any other frame arrives at `rest` too, changed only in `last_data_unit_id` -/
theorem extractLoop_restart : ∀ (fuel : Nat) (f : Frame) (d : Bytes) (f1 : Frame) (rest : Bytes),
    d.length < fuel → f.nDu = 0 → extractLoop cfg fuel f d = (f1, .newFrame, rest) →
    ∃ k, rest.length < k ∧ ∀ g : Frame, ∃ x, extractLoop cfg fuel g d = extractLoop cfg k { g with lastDuId := x } rest := by
  intro fuel
  induction fuel with
  | zero => intro f d f1 rest h; omega
  | succ fuel ih =>
    intro f d f1 rest hfu hn h
    by_cases h2 : d.length ≤ 2
    · rw [extractLoop_short fuel f d h2] at h; cases h
    obtain ⟨id, len, t, rfl⟩ := cons2_of_length d (by omega)
    by_cases hl : len + 2 > (id :: len :: t).length
    · rw [extractLoop_overrun fuel f id len t (by omega) hl] at h; cases h
    rw [extractLoop_step fuel f id len t (by omega) (by omega)] at h
    have hdrop : ((id :: len :: t).drop (len + 2)).length < fuel := by
      simp only [List.length_drop]; omega
    cases hdu : dataUnit cfg f (id :: len :: t) id len with
    | skip =>
      rw [hdu] at h
      obtain ⟨k, hk, hg⟩ := ih _ _ _ _ hdrop (by exact hn) h
      refine ⟨k, hk, fun g => ?_⟩
      obtain ⟨x, hx⟩ := hg { g with lastDuId := id }
      exact ⟨x, by rw [← hx, extractLoop_step fuel g id len t (by omega) (by omega), dataUnit_skip_indep f g _ id len hdu]⟩
    | store f' =>
      rw [hdu] at h
      exfalso
      have := extractLoop_ndu (cfg := cfg) fuel { f' with lastDuId := id } ((id :: len :: t).drop (len + 2))
        (dataUnit_store_props f _ id len f' hdu).1
      exact this (congrArg (fun r => r.2.1) h)
    | fail f' r =>
      rw [hdu] at h
      simp only [Prod.mk.injEq] at h
      obtain ⟨rfl, rfl, rfl⟩ := h
      exact ⟨fuel + 1, hfu, fun g => ⟨g.lastDuId, rfl⟩⟩

/-- the reset frame with a stale `last_data_unit_id` at a unit: -1 with the frame untouched, or the same
as the reset frame, or the same failure with frames that differ in `last_data_unit_id` only -/
theorem extractLoop_frX (k x : Nat) (rest : Bytes) (hk : rest.length < k) (h2 : 2 < rest.length) :
    extractLoop cfg k (frX x) rest = (frX x, .newFrame, rest) ∨
    extractLoop cfg k (frX x) rest = extractLoop cfg k {} rest ∨
    ∃ f2 r, r ≠ .done ∧ extractLoop cfg k {} rest = (f2, r, rest) ∧
      extractLoop cfg k (frX x) rest = ({ f2 with lastDuId := x }, r, rest) := by
  cases k with
  | zero => omega
  | succ k =>
    obtain ⟨id, len, t, rfl⟩ := cons2_of_length rest (by omega)
    by_cases hl : len + 2 > (id :: len :: t).length
    · rw [extractLoop_overrun k _ id len t h2 hl, extractLoop_overrun k _ id len t h2 hl]
      exact Or.inr (Or.inr ⟨{}, .err, by simp, rfl, rfl⟩)
    rw [extractLoop_step k _ id len t h2 (by omega), extractLoop_step k _ id len t h2 (by omega)]
    rcases dataUnit_frX x (id :: len :: t) id len with hs | hm
    · rw [hs]; exact Or.inl rfl
    · rw [hm]
      cases hdu : dataUnit cfg {} (id :: len :: t) id len with
      | skip => exact Or.inr (Or.inl rfl)
      | store f' => exact Or.inr (Or.inl rfl)
      | fail f' r =>
        refine Or.inr (Or.inr ⟨f', r, ?_, rfl, rfl⟩)
        intro hr
        rw [hr] at hdu
        exact dataUnit_not_done _ _ _ _ _ hdu

/-- **restart.**  `extract_data_units` said -1 at `rest` (frame counter `n_data_units` 0 at entry).
Extracting the packet again from its start with a reset frame: -1 at `rest` again with no line stored,
or exactly what extracting from `rest` with a reset frame gives, or the same data unit error with
frames that differ in `last_data_unit_id` only. -/
theorem extract_restart (f : Frame) (d : Bytes) (f1 : Frame) (rest : Bytes) (hn : f.nDu = 0)
    (h : extract cfg f d = (f1, .newFrame, rest)) :
    ∃ x, extract cfg {} d = (frX x, .newFrame, rest) ∨ extract cfg {} d = extract cfg {} rest ∨
      ∃ f2 rest2, extract cfg {} rest = (f2, .err, rest2) ∧ extract cfg {} d = ({ f2 with lastDuId := x }, .err, rest2) := by
  have haft := extract_after_newFrame f f1 d rest h
  have hnf := extract_no_fault (cfg := cfg) {} rest haft.1
  obtain ⟨hd, h⟩ := extract_newFrame f f1 d rest h
  obtain ⟨_, _, _, _, _, h2, _, _⟩ := extractLoop_newFrame_rest _ _ _ _ _ h
  obtain ⟨k, hk, hg⟩ := extractLoop_restart _ _ _ _ _ (Nat.lt_succ_self _) hn h
  obtain ⟨x, hx⟩ := hg {}
  have e1 : extract cfg {} d = extractLoop cfg k (frX x) rest := (extract_eq _ d hd).trans hx
  have e2 : extract cfg {} rest = extractLoop cfg k {} rest :=
    (extract_eq _ rest haft.1).trans (extractLoop_fuel _ _ _ _ (Nat.lt_succ_self _) hk)
  refine ⟨x, ?_⟩
  rw [e1, e2]
  rcases extractLoop_frX k x rest hk h2 with h1 | h1 | ⟨f2, r, hr, h3, h4⟩
  · exact Or.inl h1
  · exact Or.inr (Or.inl h1)
  · rw [e2, h3] at haft hnf
    cases r with
    | done => exact absurd rfl hr
    | newFrame => exact absurd rfl haft.2
    | fault e => exact absurd rfl (hnf e)
    | err => exact Or.inr (Or.inr ⟨f2, rest, h3, h4⟩)

/-- -1 is only said while no line of this packet was stored: the frame holds the lines it held at entry -/
theorem extractLoop_newFrame_lines (fuel : Nat) (f : Frame) (d : Bytes) (f1 : Frame) (rest : Bytes)
    (h : extractLoop cfg fuel f d = (f1, .newFrame, rest)) : f1.lines = f.lines := by
  -- once a line is stored `n_data_units` is positive and -1 is not said any more
  have hx := extractLoop_exit (cfg := cfg) (fun g => g.lines = f.lines ∨ g.nDu ≥ 1) (fun _ _ h => h)
    (fun g d id len f' _ hd => Or.inr (dataUnit_store_props g d id len f' hd).1) fuel f d (Or.inl rfl)
  rw [h] at hx
  cases hx with
  | unit fa _ _ id len t ha _ _ hdu =>
    rcases ha with ha | ha
    · rw [dataUnit_fail_lines fa _ id len f1 _ hdu, ha]
    · exact absurd hdu (dataUnit_ndu_nf fa _ id len ha f1)

theorem extract_newFrame_lines (f : Frame) (d : Bytes) (f1 : Frame) (rest : Bytes)
    (h : extract cfg f d = (f1, .newFrame, rest)) : f1.lines = f.lines := by
  exact extractLoop_newFrame_lines _ _ _ _ _ (extract_newFrame f f1 d rest h).2

end Zvbi.Demux
