import ZvbiModel.Demux.LemmasFeed
/-!
# A frame start forgets everything: stale lines, stale PTS  (helper lemmas for C07 `resync`)
-/
namespace Zvbi.Demux

variable {cfg : SrcCfg}

/-- two frame states that the demultiplexer cannot tell apart when `lookahead = la`: equal, or both
at a frame start (and, once a header was accepted, with the same packet PTS) -/
def FsForget (la : Nat) (a b : FS) : Prop :=
  a = b ∨ (a.newFrame = true ∧ b.newFrame = true ∧ (la > 48 → a.packetPts = b.packetPts))

theorem FsForget.rfl' (la : Nat) (a : FS) : FsForget la a a := Or.inl rfl

theorem pesPacketFrame_forget (fuel : Nat) (cb se : Bool) (a b : FS) (d : Bytes)
    (ha : a.newFrame = true) (hb : b.newFrame = true) (hp : a.packetPts = b.packetPts) :
    pesPacketFrame cfg (fuel + 1) cb se a d = pesPacketFrame cfg (fuel + 1) cb se b d := by
  -- the function reads `fsStart` only
  have hs : fsStart a = fsStart b := by rw [fsStart_new a ha, fsStart_new b hb, hp]
  rcases hx : extract cfg (fsStart a).frame d with ⟨f, r, rest⟩
  by_cases hr : r = .newFrame
  · subst hr
    rw [pesPacketFrame_nf fuel cb se a d f rest hx, pesPacketFrame_nf fuel cb se b d f rest (hs ▸ hx), hs]
  · rw [pesPacketFrame_round fuel cb se a d f r rest hx hr, pesPacketFrame_round fuel cb se b d f r rest (hs ▸ hx) hr, hs]

theorem payloadRes_forget (sk la : Nat) (a b : FS) (d : Bytes)
    (ha : a.newFrame = true) (hb : b.newFrame = true) (hp : a.packetPts = b.packetPts) :
    payloadRes true cfg sk la a d = payloadRes true cfg sk la b d := by
  unfold payloadRes
  rw [pesPacketFrame_forget 2 true cfg.corSkipsEmpty
    { a with frame := { a.frame with nDu := 0 } } { b with frame := { b.frame with nDu := 0 } } d ha hb hp]

theorem validHeader_forget (a b : FS) (h : Bytes) (ha : a.newFrame = true) (hb : b.newFrame = true) :
    (validHeader a h = none ∧ validHeader b h = none) ∨
    ∃ t, validHeader a h = some { a with packetPts := t } ∧ validHeader b h = some { b with packetPts := t } := by
  unfold validHeader
  simp only [ha, hb, if_true]
  repeat' split
  all_goals first
    | exact Or.inl ⟨rfl, rfl⟩
    | exact Or.inr ⟨_, rfl, rfl⟩

theorem foundRes_forget (p : Nat) (a b : FS) (h : Bytes) (ha : a.newFrame = true) (hb : b.newFrame = true) :
    (foundRes p a h).1 = (foundRes p b h).1 ∧ FsForget (foundRes p a h).1.2 (foundRes p a h).2 (foundRes p b h).2 := by
  unfold foundRes
  simp only []
  split
  · exact ⟨rfl, Or.inr ⟨ha, hb, fun h => absurd h (Nat.lt_irrefl 48)⟩⟩
  · rcases validHeader_forget a b h ha hb with ⟨h1, h2⟩ | ⟨t, h1, h2⟩
    · rw [h1, h2]
      exact ⟨rfl, Or.inr ⟨ha, hb, fun h => absurd h (Nat.lt_irrefl 48)⟩⟩
    · rw [h1, h2]
      exact ⟨rfl, Or.inr ⟨ha, hb, fun _ => rfl⟩⟩

theorem scanFinish_forget (sk : Nat) (a b : FS) (win : Bytes) (R : ScanR)
    (ha : a.newFrame = true) (hb : b.newFrame = true) :
    (scanFinish sk 48 a win R).1 = (scanFinish sk 48 b win R).1 ∧
    (scanFinish sk 48 a win R).2.2 = (scanFinish sk 48 b win R).2.2 ∧
    FsForget (scanFinish sk 48 a win R).1.2 (scanFinish sk 48 a win R).2.1 (scanFinish sk 48 b win R).2.1 := by
  have hf : FsForget 48 a b := Or.inr ⟨ha, hb, fun h => by omega⟩
  cases R with
  | fault e => exact ⟨rfl, rfl, hf⟩
  | notFound p => exact ⟨rfl, rfl, hf⟩
  | foreign p =>
    simp only [scanFinish]
    split
    · exact ⟨rfl, rfl, hf⟩
    · exact ⟨rfl, rfl, hf⟩
  | found p =>
    by_cases h46 : ((win.drop p).take 46).length < 46
    · simp only [scanFinish, if_pos h46, true_and]; exact hf
    · rw [scanFinish_found sk a win p h46, scanFinish_found sk b win p h46]
      have := foundRes_forget p a b ((win.drop p).take 46) ha hb
      exact ⟨this.1, rfl, this.2⟩

/-- one loop body on states that differ only in what a frame start forgets: same skip / lookahead,
same frames, same stop reason, and the resulting states again differ only in that way -/
theorem pesIter_forget (sk la : Nat) (a b : FS) (win : Bytes) (hla : 48 ≤ la) (hw : la ≤ win.length)
    (h : FsForget la a b) :
    (pesIter true cfg sk la a win).1 = (pesIter true cfg sk la b win).1 ∧
    (pesIter true cfg sk la a win).2.2 = (pesIter true cfg sk la b win).2.2 ∧
    FsForget (pesIter true cfg sk la a win).1.2 (pesIter true cfg sk la a win).2.1
      (pesIter true cfg sk la b win).2.1 := by
  rcases h with rfl | ⟨ha, hb, hp⟩
  · exact ⟨rfl, rfl, Or.inl rfl⟩
  · by_cases hpl : la > 48
    · rw [pesIter_payload _ _ _ _ _ hpl hw, pesIter_payload _ _ _ _ _ hpl hw,
        payloadRes_forget sk la a b _ ha hb (hp hpl)]
      exact ⟨rfl, rfl, Or.inl rfl⟩
    · have : la = 48 := by omega
      subst this
      rw [pesIter_scan _ _ _ _ hw, pesIter_scan _ _ _ _ hw]
      exact scanFinish_forget sk a b win _ ha hb

/-- **forgetting.** Two stream machines at the same position whose frame states differ only in what a
frame start throws away produce the same frames on every continuation. -/
theorem arun_forget (L : Bytes) : ∀ (c1 c2 : Core), c1.skip = c2.skip → c1.lookahead = c2.lookahead →
    48 ≤ c1.lookahead → FsForget c1.lookahead c1.fs c2.fs →
    (arun cfg c1 L).frames = (arun cfg c2 L).frames ∧ (arun cfg c1 L).stop = (arun cfg c2 L).stop := by
  induction L with
  | nil => intro c1 c2 _ _ _ _; exact ⟨rfl, rfl⟩
  | cons x L ih =>
    intro c1 c2 hs hl h48 hf
    obtain ⟨s1, l1, f1⟩ := c1
    obtain ⟨s2, l2, f2⟩ := c2
    simp only at hs hl h48 hf
    subst hs; subst hl
    by_cases hsk : s1 > 0
    · rw [arun_cons_skip _ x L hsk, arun_cons_skip _ x L hsk]; exact ih _ _ rfl rfl h48 hf
    by_cases hlen : (x :: L).length < l1
    · rw [arun_cons_short _ x L hsk hlen, arun_cons_short _ x L hsk hlen]; exact ⟨rfl, rfl⟩
    have hw : l1 ≤ ((x :: L).take l1).length := by
      simp only [List.length_take, List.length_cons] at hlen ⊢; omega
    have hit := pesIter_forget (cfg := cfg) 0 l1 f1 f2 ((x :: L).take l1) h48 hw hf
    obtain ⟨sk', la', fs', outs, e1, hsk', hl1, hl2, _⟩ :=
      pesIter_arun (cfg := cfg) ((x :: L).take l1) f1 0 l1 h48 hw
    rcases e2 : pesIter true cfg 0 l1 f2 ((x :: L).take l1) with ⟨⟨sk2, la2⟩, fs2, outs2, st2⟩
    rw [e1, e2] at hit
    simp only [Prod.mk.injEq] at hit
    obtain ⟨⟨rfl, rfl⟩, ⟨rfl, rfl⟩, hf'⟩ := hit
    rw [arun_cons_go ⟨s1, l1, f1⟩ x L hsk hlen sk' la' fs' outs e1, arun_cons_go ⟨s1, l1, f2⟩ x L hsk hlen sk' la' fs2 outs e2]
    have := ih { skip := sk' - 1, lookahead := la', fs := fs' } { skip := sk' - 1, lookahead := la', fs := fs2 }
      rfl rfl hl1 hf'
    exact ⟨by simp only [ARes.pre, this.1], this.2⟩

end Zvbi.Demux
