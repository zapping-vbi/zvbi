import ZvbiModel.Demux.CorPacket
/-!
# `demux_pes_packet` without a callback refines the stream machine up to the next frame with lines
(the second refinement; helper lemmas for C07 `cor_equals_feed`)
-/
namespace Zvbi.Demux

variable {cfg : SrcCfg}

/-! ## the wrap buffer never holds more than skip + lookahead -/

theorem arun_pend_le : ∀ (L : Bytes) (c : Core), (arun cfg c L).pend.length ≤ L.length := by
  intro L
  induction L with
  | nil => intro c; simp [arun]
  | cons x L ih =>
    intro c
    by_cases hs : c.skip > 0
    · rw [arun_cons_skip c x L hs]; exact Nat.le_succ_of_le (ih _)
    by_cases hl : (x :: L).length < c.lookahead
    · rw [arun_cons_short c x L hs hl]; exact Nat.le_refl _
    rcases hm : micro cfg c ((x :: L).take c.lookahead) with ⟨⟨sk, la⟩, fs', outs, _ | k⟩
    · rw [arun_cons_go c x L hs hl sk la fs' outs hm]; exact Nat.le_succ_of_le (ih _)
    · rw [arun_cons_stop c x L hs hl _ fs' outs k hm]; exact Nat.le_refl _

/-- a context that cannot make a step holds no bytes, or fewer than `lookahead` with nothing to skip -/
theorem stuck_short (c : Core) (L : Bytes)
    (h : arun cfg c L = { core := c, pend := L, frames := [], stop := none }) :
    L = [] ∨ (c.skip = 0 ∧ L.length < c.lookahead) := by
  cases L with
  | nil => exact Or.inl rfl
  | cons x L =>
    right
    -- a skipped byte or a micro step would have consumed `x`
    have hshort : ∀ c', (arun cfg c' L).pend ≠ x :: L := fun c' he => by
      have := arun_pend_le (cfg := cfg) L c'
      rw [he, List.length_cons] at this
      omega
    by_cases hs : c.skip > 0
    · rw [arun_cons_skip c x L hs] at h; exact absurd (congrArg ARes.pend h) (hshort _)
    by_cases hl : (x :: L).length < c.lookahead
    · exact ⟨by omega, hl⟩
    rcases hm : micro cfg c ((x :: L).take c.lookahead) with ⟨⟨sk, la⟩, fs', outs, _ | k⟩
    · rw [arun_cons_go c x L hs hl sk la fs' outs hm] at h; exact absurd (congrArg ARes.pend h) (hshort _)
    · rw [arun_cons_stop c x L hs hl _ fs' outs k hm] at h; cases congrArg ARes.stop h

/-- the wrap buffer holds at most `skip + lookahead` bytes -/
def JInv (s : St) : Prop := s.pw.leftover ≤ s.pw.skip + s.pw.lookahead

theorem JInv_of_Inv (s : St) (h : Inv cfg s) : JInv s := by
  have hpl : s.pending.length = s.pw.leftover := s.pw.pend_length h.1.1
  rcases stuck_short (cfg := cfg) s.core s.pending h.2 with h0 | ⟨_, h1⟩
  · rw [h0] at hpl; simp at hpl; unfold JInv; omega
  · unfold JInv; simp only [St.core] at h1; omega

/-! ## the loop -/

/-- `dx->sliced[64]` holds the lines of the frame -/
def LinesOK (s : St) : Prop := s.fs.frame.lines.length ≤ 64

/-- what this refinement asks of a context -/
structure CtxOK (s : St) : Prop where
  inv : PInv s
  j : JInv s
  lines : LinesOK s

/-- `demux_pes_packet` (callback == NULL) returned 0: the buffer is consumed, and the stream machine run on
the same bytes ends in the same state having delivered only frames without lines -/
structure CorA (cfg : SrcCfg) (s : St) (L : Bytes) (s' : St) : Prop where
  ok : CtxOK s'
  core : (arun cfg s.core L).core = s'.core
  pend : (arun cfg s.core L).pend = s'.pending
  stop : (arun cfg s.core L).stop = none
  quiet : (arun cfg s.core L).frames.filter nonEmpty = []

/-- `demux_pes_packet` (callback == NULL) returned `VBI_ERR_CALLBACK`: the context sits at a payload window
holding a frame with lines; the stream machine delivers that frame next and then goes on like the
stream machine restarted at this window from a frame start -/
structure CorB (cfg : SrcCfg) (s : St) (buf hist L : Bytes) (s' : St) (si' : Nat) : Prop where
  si_le : si' ≤ buf.length
  inv : PInv s'
  j : JInv s'
  suf : s'.pending <:+ hist ++ buf.take si'
  skip0 : s'.pw.skip = 0
  la : s'.pw.lookahead > 48
  nf : s'.fs.newFrame = true
  ne : s'.fs.frame.lines ≠ []
  le64 : s'.fs.frame.lines.length ≤ 64
  win : s'.pw.lookahead ≤ (s'.pending ++ buf.drop si').length
  /-- the window ends where the first window of the call ended, or later -/
  meas : (s'.pending ++ buf.drop si').length + s.pw.skip + s.pw.lookahead ≤ L.length + s'.pw.lookahead
  /-- a call that starts at a frame start gets past its first payload window -/
  meas2 : s.fs.newFrame = true → s.pw.lookahead > 48 →
    (s'.pending ++ buf.drop si').length + s.pw.skip + s.pw.lookahead < L.length + s'.pw.lookahead
  frames : ∀ fsH : FS, fsH.newFrame = true → fsH.packetPts = s'.fs.packetPts →
    (arun cfg s.core L).frames.filter nonEmpty =
      { pts := s'.fs.framePts, lines := s'.fs.frame.lines } ::
        (arun cfg { skip := 0, lookahead := s'.pw.lookahead, fs := fsH } (s'.pending ++ buf.drop si')).frames.filter nonEmpty
  last : (s'.pending ++ buf.drop si').length = s'.pw.lookahead →
    ∀ fsH : FS, fsH.newFrame = true → fsH.packetPts = s'.fs.packetPts →
      (arun cfg { skip := 0, lookahead := s'.pw.lookahead, fs := fsH } (s'.pending ++ buf.drop si')).frames.filter nonEmpty = []

/-- `CorB.frames` for every continuation `X` of the stream: the stream machine delivers the frame held by `s'` next and
then goes on like the machine restarted at the window of `s'` from a frame start -/
def HandsOver (cfg : SrcCfg) (s : St) (buf : Bytes) (si : Nat) (s' : St) (si' : Nat) : Prop :=
  ∀ (X : Bytes) (fsH : FS), fsH.newFrame = true → fsH.packetPts = s'.fs.packetPts →
    (arun cfg s.core (s.pending ++ buf.drop si ++ X)).frames.filter nonEmpty =
      { pts := s'.fs.framePts, lines := s'.fs.frame.lines } ::
        (arun cfg { skip := 0, lookahead := s'.pw.lookahead, fs := fsH } (s'.pending ++ buf.drop si' ++ X)).frames.filter nonEmpty

/-- the loop without a callback, in lock step with the loop with a callback (`pesIter_cor`) up to the first hand-over: the
stream machine has delivered only frames without lines so far (`CorA`); at the hand-over it delivers the frame held, and a
restart of that payload window from a frame start ends, up to what a frame start forgets (`arun_forget`), where the callback
variant goes on (`CorB`, `HandsOver`).  `CorB.meas`, `meas2` bound the number of hand-overs (`corMeasure`). -/
theorem corLoop_refines (hse : cfg.corSkipsEmpty = true) (hpd : cfg.pesDiscards = true) :
    ∀ (fuel : Nat) (s : St) (buf hist : Bytes) (si srcSize : Nat),
    CtxOK s → si ≤ buf.length → srcSize ≤ buf.length → s.pending <:+ hist ++ buf.take si →
    (s.pending ++ buf.drop si).length - s.pw.skip + 2 ≤ fuel →
    (∃ s', pesLoop fuel false cfg s buf si srcSize = (s', [], buf.length, .needMore)
        ∧ CorA cfg s (s.pending ++ buf.drop si) s') ∨
    (∃ s' si', pesLoop fuel false cfg s buf si srcSize = (s', [], si', .callback)
        ∧ CorB cfg s buf hist (s.pending ++ buf.drop si) s' si' ∧ HandsOver cfg s buf si s' si') := by
  intro fuel
  induction fuel with
  | zero => intro s buf hist si srcSize _ _ _ _ h; omega
  | succ fuel ih =>
    intro s buf hist si srcSize ⟨hinv, hj, hlines⟩ hsi hsz hsuf hfuel
    have hwa := wrapAround_arun (cfg := cfg) s buf hist si srcSize hinv hsi hsz hsuf
    obtain ⟨hlo, hla1, hla2⟩ := hinv
    unfold pesLoop
    cases hwr : wrapAround PES_BUF_SIZE s.pw buf si srcSize with
    | fault e => rw [hwr] at hwa; exact hwa.elim
    | more w' si' =>
      rw [hwr] at hwa
      obtain ⟨hm, har⟩ := hwa
      left
      have hpl' : w'.pend.length = w'.leftover := w'.pend_length hm.lo
      refine ⟨{ s with pw := w' }, by simp only [hm.si_eq],
        ⟨⟨hm.lo, by rw [hm.la]; exact hla1, by rw [hm.la]; exact hla2⟩, ?_, hlines⟩, ?_, ?_, ?_, ?_⟩
      · show w'.leftover ≤ w'.skip + w'.lookahead
        rcases hm.short with h | h
        · have h1 := hm.pend
          have h2 := hm.skip
          have : w'.pend = [] := by
            rw [h1]; apply List.drop_of_length_le; omega
          rw [this] at hpl'; simp at hpl'; omega
        · rw [hm.la]; omega
      · rw [har]; rfl
      · rw [har]; rfl
      · rw [har]
      · rw [har]; rfl
    | win w' si' win =>
      rw [hwr] at hwa
      obtain ⟨hw, hpre, sk', la', fs', outs1, hit, hsk, hl1, hl2, harX⟩ := hwa
      simp only []
      have hwl : w'.lookahead ≤ win.length := by rw [hw.la]; exact hw.len
      have hb1 : 48 ≤ w'.lookahead := by rw [hw.la]; exact hla1
      have hb2 : w'.lookahead ≤ 65495 := by rw [hw.la]; exact hla2
      have hlo' : w'.leftover ≤ w'.lookahead := by
        have hj' : s.pw.leftover ≤ s.pw.skip + s.pw.lookahead := hj
        rcases wrapAround_win_leftover _ _ _ _ _ _ _ _ hwr with h | h
        · rw [hw.la]; omega
        · rw [hw.la, h]; exact Nat.le_refl _
      have hlen1 : (w'.pend ++ buf.drop si').length = (s.pending ++ buf.drop si).length - s.pw.skip := by
        rw [hw.rest, List.length_drop]; rfl
      have hwinlen : win.length ≤ (w'.pend ++ buf.drop si').length := hpre.length_le
      have hpreX : ∀ X : Bytes, win <+: w'.pend ++ buf.drop si' ++ X := fun X => hpre.trans (List.prefix_append _ _)
      have har : arun cfg s.core (s.pending ++ buf.drop si)
          = (arun cfg { skip := sk', lookahead := la', fs := fs' } (w'.pend ++ buf.drop si')).pre outs1 := by
        simpa using harX []
      rcases pesIter_cor (cfg := cfg) hse hpd w'.skip w'.lookahead s.fs win hb1 hwl hlines with
        ⟨sk2, la2, fs2, outs2, ht, hf, hq, hl64, b1, b2, b3, b4⟩ | ⟨hp, fs1, fsF, hf, hn, hne, h64, _, ht, hH⟩
      · -- the loop goes on
        rw [hit] at ht
        simp only [Prod.mk.injEq] at ht
        obtain ⟨⟨rfl, rfl⟩, rfl, rfl, _⟩ := ht
        rw [hf]
        simp only []
        have hpend1 : (St.mk { w' with skip := sk', lookahead := la' } fs').pending = w'.pend := rfl
        have e2 : arun cfg s.core (s.pending ++ buf.drop si)
            = (arun cfg (St.mk { w' with skip := sk', lookahead := la' } fs').core (w'.pend ++ buf.drop si')).pre outs1 := by
          rw [har]; rfl
        have hfil : ∀ r : ARes, (r.pre outs1).frames.filter nonEmpty = r.frames.filter nonEmpty := by
          intro r; simp only [ARes.pre, List.filter_append, hq, List.nil_append]
        rcases ih (St.mk { w' with skip := sk', lookahead := la' } fs') buf hist si' srcSize
            ⟨⟨hw.lo, hl1, hl2⟩, by show w'.leftover ≤ sk' + la'; omega, hl64⟩ hw.si_le hsz
            (by rw [hpend1]; exact hw.suf) (by rw [hpend1, hlen1]; simp only []; omega) with
          ⟨s2, hloop, hA⟩ | ⟨s2, si2, hloop, hB, hX⟩
        · left
          rw [hloop]
          rw [hpend1] at hA
          refine ⟨s2, rfl, hA.ok, ?_, ?_, ?_, ?_⟩
          · rw [e2]; exact hA.core
          · rw [e2]; exact hA.pend
          · rw [e2]; exact hA.stop
          · rw [e2, hfil]; exact hA.quiet
        · right
          rw [hloop]
          rw [hpend1] at hB
          have hm := hB.meas
          have hm' : (s2.pending ++ buf.drop si2).length + sk' + la' ≤ (w'.pend ++ buf.drop si').length + s2.pw.lookahead := hm
          have hla' : s.pw.lookahead = w'.lookahead := hw.la.symm
          refine ⟨s2, si2, rfl, ⟨hB.si_le, hB.inv, hB.j, hB.suf, hB.skip0, hB.la, hB.nf, hB.ne, hB.le64, hB.win,
            by omega, fun _ _ => by omega, ?_, hB.last⟩, ?_⟩
          · intro fsH h1 h2
            rw [e2, hfil]
            exact hB.frames fsH h1 h2
          · intro X fsH h1 h2
            rw [harX X]
            exact (hfil _).trans (hX X fsH h1 h2)
      · -- VBI_ERR_CALLBACK in this iteration
        right
        rw [hf]
        simp only []
        rw [hit] at ht
        simp only [Prod.mk.injEq] at ht
        obtain ⟨⟨rfl, rfl⟩, rfl, rfl, _⟩ := ht
        have hrestart : ∀ (X : Bytes) (fsH : FS), fsH.newFrame = true → fsH.packetPts = fs1.packetPts →
            ∃ fs'' outs'', outs''.filter nonEmpty = [] ∧ FsForget 48 fs'' fs' ∧
              arun cfg { skip := 0, lookahead := w'.lookahead, fs := fsH } (w'.pend ++ buf.drop si' ++ X)
                = (arun cfg { skip := w'.lookahead, lookahead := 48, fs := fs'' } (w'.pend ++ buf.drop si' ++ X)).pre outs'' := by
          intro X fsH h1 h2
          have hLt : (w'.pend ++ buf.drop si' ++ X).take w'.lookahead = win.take w'.lookahead := by
            obtain ⟨t, ht⟩ := hpreX X; rw [← ht]; exact List.take_append_of_le_length hwl
          have hlenX := (hpreX X).length_le
          obtain ⟨fs'', outs'', e1, e2, e3, _⟩ := hH fsH 0 true h1 h2
          refine ⟨fs'', outs'', e2, e3, ?_⟩
          refine arun_micro _ _ w'.lookahead 48 fs'' outs'' rfl (by simp only []; omega) (by omega) ?_ (by omega)
          show pesIter true cfg 0 w'.lookahead fsH _ = _
          rw [pesIter_payload _ _ _ _ _ hp (by simp only [List.length_take]; omega), List.take_take, Nat.min_self, hLt, e1]
        have hF : nonEmpty { pts := fs1.framePts, lines := fs1.frame.lines } = true := by
          simp only [nonEmpty]
          cases hl : fs1.frame.lines with
          | nil => exact absurd hl hne
          | cons a t => rfl
        have hX : HandsOver cfg s buf si { pw := w', fs := fs1 } si' := by
          intro X fsH h1 h2
          show _ = (⟨fs1.framePts, fs1.frame.lines⟩ : FrameOut) ::
            (arun cfg { skip := 0, lookahead := w'.lookahead, fs := fsH } (w'.pend ++ buf.drop si' ++ X)).frames.filter nonEmpty
          obtain ⟨fs'', outs'', e2, e3, e4⟩ := hrestart X fsH h1 h2
          have hfg := arun_forget (cfg := cfg) (w'.pend ++ buf.drop si' ++ X)
            { skip := w'.lookahead, lookahead := 48, fs := fs'' } { skip := w'.lookahead, lookahead := 48, fs := fs' }
            rfl rfl (Nat.le_refl _) e3
          rw [harX X, e4]
          simp only [ARes.pre, List.filter_append, e2, List.nil_append, hfg.1]
          simp only [List.filter_cons, hF, if_true, List.filter_nil, List.singleton_append]
        refine ⟨{ pw := w', fs := fs1 }, si', rfl, ?_, hX⟩
        refine ⟨hw.si_le, ⟨hw.lo, hb1, hb2⟩, ?_, hw.suf, hw.skip0, hp, hn, hne, h64, ?_, ?_, ?_, ?_, ?_⟩
        · show w'.leftover ≤ w'.skip + w'.lookahead; omega
        · show w'.lookahead ≤ (w'.pend ++ buf.drop si').length; omega
        · show (w'.pend ++ buf.drop si').length + s.pw.skip + s.pw.lookahead ≤ _ + w'.lookahead
          rw [hw.la]; omega
        · intro hnew hla
          exfalso
          have := pesIter_new_no_callback (cfg := cfg) hse w'.skip w'.lookahead s.fs win hp hwl hnew
          rw [hf] at this
          simp at this
        · intro fsH h1 h2
          have := hX [] fsH h1 h2
          rw [List.append_nil, List.append_nil] at this
          exact this
        · intro hlen fsH h1 h2
          obtain ⟨fs'', outs'', e2, e3, e4⟩ := hrestart [] fsH h1 h2
          rw [List.append_nil] at e4
          show (arun cfg _ (w'.pend ++ buf.drop si')).frames.filter nonEmpty = []
          have hlen' : (w'.pend ++ buf.drop si').length = w'.lookahead := hlen
          rw [e4, arun_short _ _ (Or.inl (by simp only []; omega))]
          simp only [ARes.pre, List.append_nil, e2]

end Zvbi.Demux
