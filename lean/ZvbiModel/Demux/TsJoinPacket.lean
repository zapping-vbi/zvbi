import ZvbiModel.Demux.LemmasTs
/-!
# TS path joined with the multiplexer, TS packet level  (C06 / C07 `mux_demux_roundtrip_ts`)

One intact 188-byte TS packet `p` (sync byte 0x47) read by a demultiplexer that is in sync at a TS
packet boundary (`mkAt`), or as the very first packet of a stream by a new demultiplexer (sync
search, `feed_first`).  What the packet does to the part of the context that outlives it - frame
state, PES bytes collected so far, `ts_pes_todo`, expected continuity counter (`V`) - is described by
`PktEff`; the two feed lemmas say that `vbi_dvb_demux_feed` on exactly the bytes of that packet has
exactly that effect and is back at a TS packet boundary.
-/
namespace Zvbi.Demux
variable {cfg : SrcCfg}

/-- the part of a TS demultiplexer context that matters between TS packets -/
structure V where
  fs : FS
  pes : Bytes
  todo : Nat
  cont : Option Nat
  deriving DecidableEq, Repr

/-- new demultiplexer (`_vbi_dvb_ts_demux_new`, `vbi_dvb_demux_reset`) -/
def V.init : V := ⟨{}, [], 0, none⟩

/-- in sync at a TS packet boundary; `pre` = the first bytes (at most 9) of the next packet that are
already in `ts_buffer` -/
def mkAt (pid : Nat) (v : V) (pre : Bytes) : TsSt :=
  ⟨v.fs, pre, 0, 0, 10 - pre.length, true, [], v.pes, v.todo, v.cont, pid⟩

/-- `if (0 == dx->ts_pes_todo) { PES start expected } else { no PUSI allowed }` as a function of the
packet: (PES bytes collected before this packet's payload, bytes to go including this payload) -/
def startOf (pes : Bytes) (todo : Nat) (p : Bytes) : Option (Bytes × Nat) :=
  if todo = 0 then
    if (p.getD 4 0 ||| p.getD 5 0) ≠ 0 ∨ p.getD 6 0 ≠ 1 ∨ p.getD 7 0 ≠ PRIVATE_STREAM_1 then none
    else if (p.getD 8 0 % 256) * 256 + p.getD 9 0 % 256 < 178 then none
    else some ([], (p.getD 8 0 % 256) * 256 + p.getD 9 0 % 256 + 6)
  else if p.getD 1 0 &&& 0x40 ≠ 0 then none
  else some (pes, todo)

/-- what one intact TS packet does to `V`, and the frames it makes the demultiplexer deliver -/
inductive PktEff (cfg : SrcCfg) (pid : Nat) : V → Bytes → V → List FrameOut → Prop
  /-- another PID, or adaptation field only: nothing changes -/
  | skip (v : V) (p : Bytes) (h : tsHeaderCheck { pid := pid } p = some false) : PktEff cfg pid v p v []
  /-- a packet of the PID with the expected counter that does not complete the PES packet -/
  | part (v : V) (p : Bytes) (pes0 : Bytes) (todo0 : Nat)
      (hh : tsHeaderCheck { pid := pid } p = none) (hc : tsContCheck v.cont (p.getD 3 0) = .ok)
      (hs : startOf v.pes v.todo p = some (pes0, todo0)) (ht : 184 < todo0) (hcap : pes0.length + 184 ≤ PES_BUF_SIZE) :
      PktEff cfg pid v p ⟨v.fs, pes0 ++ p.drop 4, todo0 - 184, some (p.getD 3 0 + 1)⟩ []
  /-- a packet of the PID with the expected counter that completes the PES packet: header check, data units, frames -/
  | last (v : V) (p : Bytes) (pes0 : Bytes) (fs' fs2 : FS) (outs : List FrameOut)
      (hh : tsHeaderCheck { pid := pid } p = none) (hc : tsContCheck v.cont (p.getD 3 0) = .ok)
      (hs : startOf v.pes v.todo p = some (pes0, 184)) (hcap : pes0.length + 184 ≤ PES_BUF_SIZE)
      (hv : validHeader v.fs ((pes0 ++ p.drop 4).take 46) = some fs')
      (hp : pesPacketFrame cfg 3 true false { fs' with frame := { fs'.frame with nDu := 0 } } ((pes0 ++ p.drop 4).drop 46)
              = (fs2, outs, .done, [])) :
      PktEff cfg pid v p ⟨fs2, pes0 ++ p.drop 4, 0, some (p.getD 3 0 + 1)⟩ outs

/-! ## the header tests read ten bytes -/

theorem tsHeaderCheck_congr (s t : TsSt) (q p : Bytes) (hp : s.pid = t.pid)
    (h : ∀ i, i < 10 → q.getD i 0 = p.getD i 0) : tsHeaderCheck s q = tsHeaderCheck t p := by
  unfold tsHeaderCheck
  simp only [h 1 (by omega), h 2 (by omega), h 3 (by omega), hp]

theorem tsStart_startOf (s : TsSt) (q p : Bytes) (h : ∀ i, i < 10 → q.getD i 0 = p.getD i 0) :
    tsStart s q = (startOf s.pes s.pesTodo p).map fun x => { s with pes := x.1, pesTodo := x.2 } := by
  unfold tsStart startOf
  simp only [h 1 (by omega), h 4 (by omega), h 5 (by omega), h 6 (by omega), h 7 (by omega), h 8 (by omega),
    h 9 (by omega)]
  split
  · split
    · rfl
    · split <;> rfl
  · split
    · rfl
    · rfl


theorem take_split10 (p : Bytes) (k : Nat) (hk : k ≤ 10) : p.take k ++ (p.drop k).take (10 - k) = p.take 10 := by
  have : p.take 10 = (p.take 10).take k ++ (p.take 10).drop k := (List.take_append_drop k _).symm
  rw [this, List.take_take, List.drop_take, Nat.min_eq_left hk]

theorem tsHeader_skip (s : TsSt) (q p : Bytes) (h10 : ∀ i, i < 10 → q.getD i 0 = p.getD i 0)
    (h : tsHeaderCheck { pid := s.pid } p = some false) : tsHeader cfg s q = (tsSkipPacket s q, none) := by
  unfold tsHeader
  rw [tsHeaderCheck_congr s { pid := s.pid } q p rfl h10, h]

theorem tsHeader_copy (s : TsSt) (q p pes0 : Bytes) (todo0 : Nat) (h10 : ∀ i, i < 10 → q.getD i 0 = p.getD i 0)
    (hh : tsHeaderCheck { pid := s.pid } p = none) (hc : tsContCheck s.cont (p.getD 3 0) = .ok)
    (hs : startOf s.pes s.pesTodo p = some (pes0, todo0)) :
    tsHeader cfg s q = tsCopy cfg { s with cont := some (p.getD 3 0 + 1), pes := pes0, pesTodo := todo0 } q := by
  unfold tsHeader
  rw [tsHeaderCheck_congr s { pid := s.pid } q p rfl h10, hh]
  simp only [h10 3 (by omega), hc]
  rw [tsStart_startOf _ q p h10]
  simp only [hs, Option.map_some]

/-- block E in sync with a sync byte in front: the header evaluation -/
theorem tsPhaseE_sync (s : TsSt) (q : Bytes) (hq : s.tsBuf = q) (hs : s.inSync = true) (h10 : 10 ≤ q.length)
    (h47 : q.getD 0 0 = 0x47) :
    tsPhaseE cfg s = match tsHeader cfg s q with
      | (s', none) => (s', .cont)
      | (s', some e) => (s', .stop (.fault e)) := by
  subst hq
  unfold tsPhaseE
  simp only [hs, if_true, TS_HEADER_LOOKAHEAD, h47]
  rw [if_neg (by omega), if_neg (by decide)]
  rfl

/-- first pass through the loop body at a TS packet boundary: the header bytes are completed in
`ts_buffer` and evaluated -/
theorem step_hdr (pid : Nat) (v : V) (p : Bytes) (k : Nat) (hl : p.length = 188) (h47 : p.getD 0 0 = 0x47) (hk : k ≤ 9) :
    tsStep cfg true false (mkAt pid v (p.take k)) (p.drop k)
      = match tsHeader cfg { mkAt pid v (p.take 10) with lookahead := 10 - k } (p.take 10) with
        | (s', none) => (s', [], 10 - k, .cont)
        | (s', some e) => (s', [], 10 - k, .stop (.fault e)) := by
  have hlk : (p.take k).length = k := by rw [List.length_take]; omega
  have hD : tsPhaseD (mkAt pid v (p.take k)) (p.drop k)
      = .go { mkAt pid v (p.take 10) with lookahead := 10 - k } (10 - k) := by
    unfold tsPhaseD mkAt
    simp only [List.length_drop, hlk, hl, TS_BUF_SIZE]
    rw [if_neg (by omega), if_neg (by omega), take_split10 p k (by omega)]
  rw [tsStep_idle _ _ _ _ rfl rfl rfl, hD]
  dsimp only
  rw [tsPhaseE_sync _ (p.take 10) rfl rfl (by rw [List.length_take]; omega) (by rw [getD_take p 10 0 (by omega), h47])]
  rcases tsHeader cfg { mkAt pid v (p.take 10) with lookahead := 10 - k } (p.take 10) with ⟨s', _ | e⟩ <;> simp

/-! ## the header evaluation of an in-sync packet (10 bytes in `ts_buffer`) -/

theorem hdr_skip (pid : Nat) (v : V) (la : Nat) (p : Bytes) (hl : p.length = 188)
    (h : tsHeaderCheck { pid := pid } p = some false) :
    tsHeader cfg { mkAt pid v (p.take 10) with lookahead := la } (p.take 10) = ({ mkAt pid v [] with skip := 178 }, none) := by
  rw [tsHeader_skip _ _ p (fun i hi => getD_take p 10 i hi) h]
  simp only [tsSkipPacket, tsAdvance, mkAt, List.length_take, hl, TS_HEADER_LOOKAHEAD]
  rfl

theorem hdr_copy (pid : Nat) (v : V) (la : Nat) (p pes0 : Bytes) (todo0 : Nat) (hl : p.length = 188)
    (hh : tsHeaderCheck { pid := pid } p = none) (hc : tsContCheck v.cont (p.getD 3 0) = .ok)
    (hs : startOf v.pes v.todo p = some (pes0, todo0)) (ht : 184 ≤ todo0)
    (hcap : pes0.length + 184 ≤ PES_BUF_SIZE) :
    tsHeader cfg { mkAt pid v (p.take 10) with lookahead := la } (p.take 10)
      = ({ mkAt pid ⟨v.fs, pes0 ++ (p.drop 4).take 6, todo0 - 6, some (p.getD 3 0 + 1)⟩ [] with consume := 178 }, none) := by
  rw [tsHeader_copy _ _ p pes0 todo0 (fun i hi => getD_take p 10 i hi) hh hc hs]
  unfold tsCopy
  simp only [mkAt, List.length_take, hl]
  have e1 : min 10 188 ≤ 188 := by omega
  rw [if_pos e1]
  have e2 : min todo0 184 = 184 := by omega
  have e3 : min (min 10 188 - 4) 184 = 6 := by omega
  rw [e2, e3]
  rw [if_neg (by unfold PES_BUF_SIZE at hcap ⊢; omega)]
  unfold tsCopyFin tsCopyDone
  rw [if_neg (by intro h; have := h.2; simp only at this; omega)]
  simp only [tsAdvance, List.length_take, hl, TS_HEADER_LOOKAHEAD]
  rw [if_pos (by omega)]
  have e4 : (p.take 10).drop 4 = (p.drop 4).take 6 := by rw [List.drop_take]
  rw [e4, List.take_take]
  rfl

/-! ## the second pass: the rest of the packet -/

theorem step_skip (pid : Nat) (v : V) (r : Bytes) (hr : r.length = 178) :
    tsStep cfg true false { mkAt pid v [] with skip := 178 } r = (mkAt pid v [], [], 178, .stop .needMore) := by
  unfold tsStep
  rw [tsPhaseA_reentry _ _ rfl]; dsimp only
  rw [tsPhaseB_reentry _ _ _ rfl]; dsimp only
  simp only [tsPhaseC, mkAt, List.drop_zero, hr]
  rw [if_neg (by omega)]; dsimp only
  simp only [tsPhaseD, Nat.zero_add, List.length_drop, hr, TS_BUF_SIZE, List.length_nil]
  rw [if_pos (by omega), if_neg (by omega)]
  simp only [List.drop_of_length_le (show r.length ≤ 178 by omega), List.append_nil, Nat.sub_self, Nat.sub_zero]

theorem step_copy_part (pid : Nat) (v : V) (r : Bytes) (hr : r.length = 178) (ht : 178 < v.todo)
    (hcap : v.pes.length + 178 ≤ PES_BUF_SIZE) :
    tsStep cfg true false { mkAt pid v [] with consume := 178 } r
      = (mkAt pid ⟨v.fs, v.pes ++ r, v.todo - 178, v.cont⟩ [], [], 178, .stop .needMore) := by
  unfold tsStep
  have hA : tsPhaseA { mkAt pid v [] with consume := 178 } r
      = .go (mkAt pid ⟨v.fs, v.pes ++ r, v.todo - 178, v.cont⟩ []) 178 := by
    have h1 : ¬ v.pes.length + 178 > PES_BUF_SIZE := by omega
    have h2 : ¬ v.todo < 178 := by omega
    have h3 : ¬ v.todo - 178 = 0 := by omega
    simp [tsPhaseA, tsPesDone, mkAt, hr, h1, h2, h3, List.take_of_length_le (show r.length ≤ 178 by omega)]
  rw [hA]; dsimp only
  rw [tsPhaseB_reentry _ _ _ rfl]; dsimp only
  rw [tsPhaseC_reentry _ _ rfl]; dsimp only
  simp only [tsPhaseD, mkAt, Nat.add_zero, List.length_drop, hr, TS_BUF_SIZE, List.length_nil]
  rw [if_pos (by omega), if_neg (by omega)]
  simp only [List.drop_of_length_le (show r.length ≤ 178 by omega), List.append_nil, Nat.sub_self, Nat.sub_zero]

theorem step_copy_last (pid : Nat) (v : V) (fs' fs2 : FS) (outs : List FrameOut) (r : Bytes)
    (hr : r.length = 178) (ht : v.todo = 178) (hcap : v.pes.length + 178 ≤ PES_BUF_SIZE)
    (hv : validHeader v.fs ((v.pes ++ r).take 46) = some fs')
    (hp : pesPacketFrame cfg 3 true false { fs' with frame := { fs'.frame with nDu := 0 } } ((v.pes ++ r).drop 46)
            = (fs2, outs, .done, [])) (hne : (v.pes ++ r).drop 46 ≠ []) :
    tsStep cfg true false { mkAt pid v [] with consume := 178 } r
      = (mkAt pid ⟨fs2, v.pes ++ r, 0, v.cont⟩ [], outs, 178, .stop .needMore) := by
  unfold tsStep
  have hA : tsPhaseA { mkAt pid v [] with consume := 178 } r
      = .go { mkAt pid ⟨{ fs' with frame := { fs'.frame with nDu := 0 } }, v.pes ++ r, 0, v.cont⟩ [] with
              frameRest := (v.pes ++ r).drop 46 } 178 := by
    have h1 : ¬ v.pes.length + 178 > PES_BUF_SIZE := by omega
    simp [tsPhaseA, tsPesDone, mkAt, hr, ht, h1, hv, List.take_of_length_le (show r.length ≤ 178 by omega)]
  rw [hA]; dsimp only
  have hB : tsPhaseB cfg true false { mkAt pid ⟨{ fs' with frame := { fs'.frame with nDu := 0 } }, v.pes ++ r, 0, v.cont⟩ [] with
        frameRest := (v.pes ++ r).drop 46 }
      = (mkAt pid ⟨fs2, v.pes ++ r, 0, v.cont⟩ [], outs, none) := by
    unfold tsPhaseB
    simp only [mkAt]
    rw [if_pos (List.length_pos_iff.mpr hne), hp]
  rw [hB]; dsimp only
  rw [tsPhaseC_reentry _ _ rfl]; dsimp only
  simp only [tsPhaseD, mkAt, Nat.add_zero, List.length_drop, hr, TS_BUF_SIZE, List.length_nil]
  rw [if_pos (by omega), if_neg (by omega)]
  simp only [List.drop_of_length_le (show r.length ≤ 178 by omega), List.append_nil, Nat.sub_self, Nat.sub_zero]


/-! ## one feed call = one TS packet -/

theorem tsRun_two (f : Nat) (s s1 s2 : TsSt) (buf : Bytes) (n n2 : Nat) (outs : List FrameOut)
    (h1 : tsStep cfg true false s buf = (s1, [], n, .cont))
    (h2 : tsStep cfg true false s1 (buf.drop n) = (s2, outs, n2, .stop .needMore)) :
    tsRun cfg (f + 2) true false s buf = (s2, outs, n + n2, .needMore) := by
  rw [tsRun, h1]
  dsimp only
  rw [tsRun, h2]
  rfl

/-- **one in-sync TS packet.**  A demultiplexer in sync at a TS packet boundary (`k <= 9` bytes of the
packet already in `ts_buffer`) that is fed the rest of an intact packet `p` delivers what `PktEff` says
and is at the next packet boundary. -/
theorem feed_at (pid : Nat) (v v' : V) (p : Bytes) (outs : List FrameOut) (k : Nat)
    (hl : p.length = 188) (h47 : p.getD 0 0 = 0x47) (hk : k ≤ 9) (he : PktEff cfg pid v p v' outs) :
    tsFeed cfg (mkAt pid v (p.take k)) (p.drop k) = { st := mkAt pid v' [], frames := outs } := by
  have hlk : (p.take k).length = k := by rw [List.length_take]; omega
  have hne : (p.drop k).length ≠ 0 := by rw [List.length_drop]; omega
  have hdd : (p.drop k).drop (10 - k) = p.drop 10 := by rw [List.drop_drop]; congr 1; omega
  have hr : (p.drop 10).length = 178 := by simp [hl]
  have h10 : p.drop 4 = (p.drop 4).take 6 ++ p.drop 10 := by
    have : p.drop 10 = (p.drop 4).drop 6 := by rw [List.drop_drop]
    rw [this, List.take_append_drop]
  cases he with
  | skip h =>
    apply tsFeed_of_run _ _ _ _ (10 - k + 178) hne
    apply tsRun_two
    · rw [step_hdr pid v p k hl h47 hk, hdr_skip pid v (10 - k) p hl h]
    · rw [hdd]; exact step_skip pid v _ hr
  | part pes0 todo0 hh hc hs ht hcap =>
    apply tsFeed_of_run _ _ _ _ (10 - k + 178) hne
    apply tsRun_two
    · rw [step_hdr pid v p k hl h47 hk, hdr_copy pid v (10 - k) p pes0 todo0 hl hh hc hs (by omega) hcap]
    · rw [hdd, step_copy_part pid ⟨v.fs, pes0 ++ (p.drop 4).take 6, todo0 - 6, some (p.getD 3 0 + 1)⟩ (p.drop 10) hr
        (by show 178 < todo0 - 6; omega)
        (by show (pes0 ++ (p.drop 4).take 6).length + 178 ≤ PES_BUF_SIZE
            rw [List.length_append, List.length_take, List.length_drop]; unfold PES_BUF_SIZE at hcap ⊢; omega)]
      simp only [List.append_assoc, ← h10, Nat.sub_sub]
  | last pes0 fs' fs2 _ hh hc hs hcap hv hp =>
    apply tsFeed_of_run _ _ _ _ (10 - k + 178) hne
    apply tsRun_two
    · rw [step_hdr pid v p k hl h47 hk, hdr_copy pid v (10 - k) p pes0 184 hl hh hc hs (by omega) hcap]
    · have hpe : (pes0 ++ (p.drop 4).take 6) ++ p.drop 10 = pes0 ++ p.drop 4 := by rw [List.append_assoc, ← h10]
      have hlen : (pes0 ++ p.drop 4).length = pes0.length + 184 := by simp [hl]
      rw [hdd, step_copy_last pid ⟨v.fs, pes0 ++ (p.drop 4).take 6, 184 - 6, some (p.getD 3 0 + 1)⟩ fs' fs2 outs (p.drop 10) hr rfl
        (by show (pes0 ++ (p.drop 4).take 6).length + 178 ≤ PES_BUF_SIZE
            rw [List.length_append, List.length_take, List.length_drop]; unfold PES_BUF_SIZE at hcap ⊢; omega)
        (by show validHeader v.fs (((pes0 ++ (p.drop 4).take 6) ++ p.drop 10).take 46) = _; rw [hpe]; exact hv)
        (by show pesPacketFrame cfg 3 true false _ (((pes0 ++ (p.drop 4).take 6) ++ p.drop 10).drop 46) = _; rw [hpe]; exact hp)
        (by show ((pes0 ++ (p.drop 4).take 6) ++ p.drop 10).drop 46 ≠ []
            rw [hpe]; intro h; have := congrArg List.length h; rw [List.length_drop, hlen] at this; simp at this)]
      simp only [hpe]


/-! ## the first TS packet of a stream: sync search -/

theorem startOf_fresh (p pes0 : Bytes) (todo0 : Nat) (h : startOf [] 0 p = some (pes0, todo0)) : pes0 = [] := by
  unfold startOf at h
  rw [if_pos rfl] at h
  repeat' split at h
  all_goals cases h
  rfl

theorem tsSyncSearch_zero (b : Bytes) (h0 : b.getD 0 0 = 0x47) (hl : 188 < b.length) (h1 : b.getD 188 0 = 0x47) :
    tsSyncSearch b 189 0 = some 0 := by
  rw [tsSyncSearch]
  rw [if_neg (by omega)]
  simp only [Nat.zero_add, h0, h1, hl, true_and, true_or, if_true]

/-- first pass of a new demultiplexer over the first 197 bytes of a stream that begins with two TS packets -/
theorem step_first (pid : Nat) (b : Bytes) (hl : b.length = 197) (h0 : b.getD 0 0 = 0x47) (h1 : b.getD 188 0 = 0x47) :
    tsStep cfg true false (TsSt.init pid) b
      = match tsHeader cfg { TsSt.init pid with tsBuf := b, inSync := true } b with
        | (s', none) => (s', [], 197, .cont)
        | (s', some e) => (s', [], 197, .stop (.fault e)) := by
  have hD : tsPhaseD (TsSt.init pid) b = .go { TsSt.init pid with tsBuf := b } 197 := by
    have h2 : ¬ 197 > b.length := by omega
    simp [tsPhaseD, TsSt.init, TS_SYNC_SEARCH_LOOKAHEAD, TS_BUF_SIZE, hl, List.take_of_length_le (show b.length ≤ 197 by omega)]
  have hE : tsPhaseE cfg { TsSt.init pid with tsBuf := b }
      = match tsHeader cfg { TsSt.init pid with tsBuf := b, inSync := true } b with
        | (s', none) => (s', .cont)
        | (s', some e) => (s', .stop (.fault e)) := by
    unfold tsPhaseE
    simp only [TsSt.init, hl, TS_SYNC_SEARCH_LOOKAHEAD, TS_HEADER_LOOKAHEAD, Bool.false_eq_true, if_false]
    rw [if_neg (by omega), tsSyncSearch_zero b h0 (by omega) h1]
    simp only [List.drop_zero, hl]
    rw [if_neg (by omega)]
    rfl
  rw [tsStep_idle _ _ _ _ rfl rfl rfl, hD]
  dsimp only
  rw [hE]
  rcases tsHeader cfg { TsSt.init pid with tsBuf := b, inSync := true } b with ⟨s', _ | e⟩ <;> rfl

theorem hdr_first_skip (pid : Nat) (x1 pre : Bytes) (hl : x1.length = 188) (hp : pre.length = 9)
    (h : tsHeaderCheck { pid := pid } x1 = some false) :
    tsHeader cfg { TsSt.init pid with tsBuf := x1 ++ pre, inSync := true } (x1 ++ pre) = (mkAt pid V.init pre, none) := by
  rw [tsHeader_skip _ _ x1 (fun i hi => getD_append_left x1 pre i (by omega)) h]
  simp only [tsSkipPacket, tsAdvance, mkAt, List.length_append, hl, hp, TS_HEADER_LOOKAHEAD]
  rw [if_neg (by omega)]
  rw [List.drop_left' hl]
  rfl

theorem hdr_first_copy (pid : Nat) (x1 pre : Bytes) (todo0 : Nat) (hl : x1.length = 188) (hp : pre.length = 9)
    (hh : tsHeaderCheck { pid := pid } x1 = none) (hs : startOf [] 0 x1 = some ([], todo0)) (ht : 184 < todo0) :
    tsHeader cfg { TsSt.init pid with tsBuf := x1 ++ pre, inSync := true } (x1 ++ pre)
      = (mkAt pid ⟨{}, x1.drop 4, todo0 - 184, some (x1.getD 3 0 + 1)⟩ pre, none) := by
  rw [tsHeader_copy _ _ x1 [] _ (fun i hi => getD_append_left x1 pre i (by omega)) hh rfl hs]
  unfold tsCopy
  simp only [List.length_append, hl, hp]
  rw [if_neg (by omega)]
  have e2 : min todo0 184 = 184 := by omega
  rw [e2]
  rw [if_neg (by unfold PES_BUF_SIZE; simp)]
  unfold tsCopyFin tsCopyDone
  rw [if_neg (by intro h; have := h.2; simp only at this; omega)]
  simp only [tsAdvance, mkAt, TsSt.init, List.length_append, hl, hp, TS_HEADER_LOOKAHEAD]
  rw [if_neg (by omega)]
  have e4 : ((x1 ++ pre).drop 4).take 184 = x1.drop 4 := by
    rw [List.drop_append_of_le_length (by omega), List.take_left' (by simp [hl])]
  rw [e4, List.drop_left' hl]
  rfl

theorem hdr_first_last (hflag : cfg.tsCompletesInHeader = true) (pid : Nat) (x1 pre : Bytes) (fs' : FS)
    (hl : x1.length = 188) (hp : pre.length = 9)
    (hh : tsHeaderCheck { pid := pid } x1 = none) (hs : startOf [] 0 x1 = some ([], 184))
    (hv : validHeader {} ((x1.drop 4).take 46) = some fs') :
    tsHeader cfg { TsSt.init pid with tsBuf := x1 ++ pre, inSync := true } (x1 ++ pre)
      = ({ mkAt pid ⟨{ fs' with frame := { fs'.frame with nDu := 0 } }, x1.drop 4, 0, some (x1.getD 3 0 + 1)⟩ pre with
            frameRest := (x1.drop 4).drop 46 }, none) := by
  rw [tsHeader_copy _ _ x1 [] _ (fun i hi => getD_append_left x1 pre i (by omega)) hh rfl hs]
  unfold tsCopy
  simp only [List.length_append, hl, hp]
  rw [if_neg (by omega)]
  rw [if_neg (by unfold PES_BUF_SIZE; simp)]
  have e4 : ((x1 ++ pre).drop 4).take 184 = x1.drop 4 := by
    rw [List.drop_append_of_le_length (by omega), List.take_left' (by simp [hl])]
  unfold tsCopyFin tsCopyDone
  simp only [Nat.min_self, Nat.sub_self, List.nil_append, e4]
  rw [if_pos ⟨hflag, trivial⟩]
  unfold tsComplete
  simp only [TsSt.init, List.length_drop, hl]
  rw [if_neg (by omega), hv]
  simp only [tsAdvance, mkAt, List.length_append, hl, hp, TS_HEADER_LOOKAHEAD]
  rw [if_neg (by omega), List.drop_left' hl]
  rfl

/-- second pass after the first packet: data units of a PES packet that the header evaluation completed (if any),
then one more byte of look-ahead is wanted -/
theorem step_first2_none (pid : Nat) (v : V) (pre : Bytes) (hp : pre.length = 9) :
    tsStep cfg true false (mkAt pid v pre) [] = (mkAt pid v pre, [], 0, .stop .needMore) := by
  rw [tsStep_idle _ _ _ _ rfl rfl rfl]
  simp [tsPhaseD, mkAt, TS_BUF_SIZE, hp]

theorem step_first2_frames (pid : Nat) (v : V) (fs2 : FS) (outs : List FrameOut) (pre fr : Bytes) (hp : pre.length = 9)
    (hne : fr ≠ []) (hpf : pesPacketFrame cfg 3 true false v.fs fr = (fs2, outs, .done, [])) :
    tsStep cfg true false { mkAt pid v pre with frameRest := fr } []
      = (mkAt pid { v with fs := fs2 } pre, outs, 0, .stop .needMore) := by
  unfold tsStep
  rw [tsPhaseA_reentry _ _ rfl]; dsimp only
  have hB : tsPhaseB cfg true false { mkAt pid v pre with frameRest := fr } = (mkAt pid { v with fs := fs2 } pre, outs, none) := by
    unfold tsPhaseB
    simp only [mkAt]
    rw [if_pos (List.length_pos_iff.mpr hne), hpf]
  rw [hB]; dsimp only
  rw [tsPhaseC_reentry _ _ rfl]; dsimp only
  simp [tsPhaseD, mkAt, TS_BUF_SIZE, hp]

/-- **the first TS packet of a stream.**  A new demultiplexer that is fed the first TS packet `x1` of a stream
and nine bytes of the next packet `x2` (197 bytes: what the sync search asks for) finds the sync byte at
offset 0 (confirmed by the sync byte of `x2`), does to `x1` what `PktEff` says - with fix
dvb-demux-ts-first-packet also when `x1` alone is a whole PES packet - and is in sync at the boundary to `x2`. -/
theorem feed_first (hflag : cfg.tsCompletesInHeader = true) (pid : Nat) (v' : V) (x1 x2 : Bytes) (outs : List FrameOut)
    (hl1 : x1.length = 188) (h1 : x1.getD 0 0 = 0x47) (hl2 : x2.length = 188) (h2 : x2.getD 0 0 = 0x47)
    (he : PktEff cfg pid V.init x1 v' outs) :
    tsFeed cfg (TsSt.init pid) (x1 ++ x2.take 9) = { st := mkAt pid v' (x2.take 9), frames := outs } := by
  have hp : (x2.take 9).length = 9 := by rw [List.length_take]; omega
  have hb : (x1 ++ x2.take 9).length = 197 := by rw [List.length_append, hp, hl1]
  have hne : (x1 ++ x2.take 9).length ≠ 0 := by omega
  have hb0 : (x1 ++ x2.take 9).getD 0 0 = 0x47 := by rw [getD_append_left x1 _ 0 (by omega), h1]
  have hb1 : (x1 ++ x2.take 9).getD 188 0 = 0x47 := by
    have : (x1 ++ x2.take 9).getD 188 0 = (x2.take 9).getD 0 0 := by
      simp [List.getD_eq_getElem?_getD, List.getElem?_append_right (show x1.length ≤ 188 by omega), hl1]
    rw [this, getD_take x2 9 0 (by omega), h2]
  have hdr : (x1 ++ x2.take 9).drop 197 = [] := List.drop_of_length_le (by omega)
  cases he with
  | skip h =>
    apply tsFeed_of_run _ _ _ _ (197 + 0) hne
    apply tsRun_two
    · rw [step_first pid _ hb hb0 hb1, hdr_first_skip pid x1 _ hl1 hp h]
    · rw [hdr]; exact step_first2_none pid _ _ hp
  | part pes0 todo0 hh hc hs ht hcap =>
    have hs1 : startOf [] 0 x1 = some (pes0, todo0) := hs
    obtain rfl := startOf_fresh x1 pes0 todo0 hs1
    apply tsFeed_of_run _ _ _ _ (197 + 0) hne
    apply tsRun_two
    · rw [step_first pid _ hb hb0 hb1, hdr_first_copy pid x1 _ todo0 hl1 hp hh hs1 ht]
    · rw [hdr]; exact step_first2_none pid _ _ hp
  | last pes0 fs' fs2 _ hh hc hs hcap hv hpf =>
    have hs1 : startOf [] 0 x1 = some (pes0, 184) := hs
    obtain rfl := startOf_fresh x1 pes0 184 hs1
    simp only [List.nil_append] at hv hpf
    apply tsFeed_of_run _ _ _ _ (197 + 0) hne
    apply tsRun_two
    · rw [step_first pid _ hb hb0 hb1, hdr_first_last hflag pid x1 _ fs' hl1 hp hh hs1 hv]
    · rw [hdr]
      exact step_first2_frames pid ⟨_, _, _, _⟩ fs2 outs _ _ hp
        (by intro h; have := congrArg List.length h; simp [hl1] at this) hpf

end Zvbi.Demux
