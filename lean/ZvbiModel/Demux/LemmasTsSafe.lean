import ZvbiModel.Demux.LemmasTs
import ZvbiModel.Util.Bits
/-!
# TS path: the invariant of every reachable context - no fault, progress, the expected continuity_counter is never 0 -
and, from it, a feed call does not care where its buffer is cut  (helper lemmas for C07, TS part)
-/
namespace Zvbi.Demux

variable {cfg : SrcCfg}

/-- the part of the invariant that blocks A..D keep while `frameRest` is in use -/
structure TsInvA (s : TsSt) : Prop where
  bufSync : s.inSync = true → s.tsBuf.length + s.lookahead = 10
  bufSearch : s.inSync = false → s.tsBuf.length + s.lookahead = 197
  la : 1 ≤ s.lookahead
  con : s.consume ≤ s.pesTodo
  cap : s.pes.length + s.pesTodo ≤ 65541
  low : s.pesTodo > 0 → 184 ≤ s.pes.length + s.pesTodo
  /-- the expected continuity_counter, when known, is at least 1 (`-1` and `b3 + 1` are all that is stored) -/
  cnt : ∀ c, s.cont = some c → 1 ≤ c

/-- invariant of a TS demux context between loop iterations (callback installed) -/
structure TsInv (s : TsSt) : Prop extends TsInvA s where
  /-- no data units are waiting in `pes_buffer` - except (fix dvb-demux-ts-first-packet) those of a PES packet
  that the header evaluation of the last TS packet completed; nothing is left to copy then -/
  fr : s.frameRest = [] ∨ (2 ≤ s.frameRest.length ∧ s.consume = 0)

theorem TsInv_init (pid : Nat) : TsInv (TsSt.init pid) := by
  refine ⟨⟨?_, ?_, ?_, ?_, ?_, ?_, ?_⟩, ?_⟩ <;> simp [TsSt.init, TS_SYNC_SEARCH_LOOKAHEAD]

theorem tsPesDone_safe (s1 : TsSt) (n : Nat) (h : TsInvA s1) (h0 : s1.consume = 0)
    (hl : s1.pesTodo = 0 → 184 ≤ s1.pes.length) :
    ∃ s2, tsPesDone s1 n = .go s2 n ∧ TsInvA s2 ∧ s2.consume = 0 ∧ (s2.frameRest = s1.frameRest ∨ s2.frameRest = [] ∨ 2 ≤ s2.frameRest.length) := by
  unfold tsPesDone
  split
  · rename_i hz
    have := hl hz
    rw [if_neg (by omega)]
    split
    · exact ⟨_, rfl, ⟨h.bufSync, h.bufSearch, h.la, h.con, h.cap, h.low, h.cnt⟩, h0, Or.inr (Or.inl rfl)⟩
    · refine ⟨_, rfl, ⟨h.bufSync, h.bufSearch, h.la, h.con, h.cap, h.low, h.cnt⟩, h0, Or.inr (Or.inr ?_)⟩
      simp only [List.length_drop]; omega
  · exact ⟨s1, rfl, h, h0, Or.inl rfl⟩

theorem tsPhaseA_safe (s : TsSt) (x : Bytes) (h : TsInv s) :
    (∃ s', tsPhaseA s x = .stop s' .needMore ∧ TsInv s') ∨
    (∃ s1 n, tsPhaseA s x = .go s1 n ∧ TsInvA s1 ∧ s1.consume = 0 ∧ (s1.frameRest = [] ∨ 2 ≤ s1.frameRest.length)) := by
  unfold tsPhaseA
  by_cases hc : s.consume > 0
  · rw [if_pos hc]
    have hfr0 : s.frameRest = [] := by
      rcases h.fr with h0 | ⟨_, h0⟩
      · exact h0
      · omega
    have hcon := h.con
    have hcap := h.cap
    have hlow := h.low (by omega)
    by_cases hgt : s.consume > x.length
    · rw [if_pos hgt, if_neg (by simp only [PES_BUF_SIZE]; omega), if_neg (by omega)]
      left
      refine ⟨_, rfl, ⟨⟨h.bufSync, h.bufSearch, h.la, ?_, ?_, ?_, h.cnt⟩, Or.inl hfr0⟩⟩
      · show s.consume - x.length ≤ s.pesTodo - x.length; omega
      · show (s.pes ++ x).length + (s.pesTodo - x.length) ≤ 65541; simp; omega
      · intro _; show 184 ≤ (s.pes ++ x).length + (s.pesTodo - x.length); simp; omega
    · rw [if_neg hgt, if_neg (by simp only [PES_BUF_SIZE]; omega), if_neg (by omega)]
      right
      have hlen : (s.pes ++ x.take s.consume).length = s.pes.length + s.consume := by simp; omega
      obtain ⟨s2, e, hi, h0, hfr⟩ := tsPesDone_safe
        { s with pes := s.pes ++ x.take s.consume, pesTodo := s.pesTodo - s.consume, consume := 0 } s.consume
        ⟨h.bufSync, h.bufSearch, h.la, Nat.zero_le _,
          by show (s.pes ++ x.take s.consume).length + (s.pesTodo - s.consume) ≤ 65541; rw [hlen]; omega,
          fun hp => by
            have hp : s.pesTodo - s.consume > 0 := hp
            show 184 ≤ (s.pes ++ x.take s.consume).length + (s.pesTodo - s.consume); rw [hlen]; omega, h.cnt⟩ rfl
        (fun hz => by
          have hz : s.pesTodo - s.consume = 0 := hz
          show 184 ≤ (s.pes ++ x.take s.consume).length; rw [hlen]; omega)
      refine ⟨s2, s.consume, e, hi, h0, ?_⟩
      rcases hfr with hfr | hfr | hfr
      · left; rw [hfr]; exact hfr0
      · left; exact hfr
      · right; exact hfr
  · rw [if_neg hc]
    right
    exact ⟨s, 0, rfl, h.toTsInvA, by omega, h.fr.imp id (fun h => h.1)⟩

theorem tsPhaseB_safe (se : Bool) (s1 : TsSt) (hfr : s1.frameRest = [] ∨ 2 ≤ s1.frameRest.length) :
    ∃ fs2 o, tsPhaseB cfg true se s1 = ({ s1 with fs := fs2, frameRest := [] }, o, none) := by
  unfold tsPhaseB
  by_cases hl : s1.frameRest.length > 0
  · rw [if_pos hl]
    have h2 : 2 ≤ s1.frameRest.length := by
      rcases hfr with h | h
      · rw [h] at hl; simp at hl
      · exact h
    have hok := pesPacketFrame_ok (cfg := cfg) 1 se s1.fs s1.frameRest h2
    have hdr := pesPacketFrame_done_rest (cfg := cfg) 3 true se s1.fs s1.frameRest
    rcases hp : pesPacketFrame cfg 3 true se s1.fs s1.frameRest with ⟨fs1, outs, r, rest⟩
    rw [hp] at hok hdr
    simp only at hok hdr
    rcases hok with rfl | rfl
    · have : rest = [] := hdr rfl
      subst this
      exact ⟨fs1, outs, rfl⟩
    · exact ⟨{ fs1 with newFrame := true }, outs, rfl⟩
  · rw [if_neg hl]
    have : s1.frameRest = [] := List.eq_nil_of_length_eq_zero (by omega)
    refine ⟨s1.fs, [], ?_⟩
    obtain ⟨fs, tb, sk, co, la, sy, fr, pes, td, ct, pid⟩ := s1
    simp only at this
    subst this
    rfl

theorem tsAdvance_inv (t : TsSt) (q : Bytes) (b : Bool) (hs : t.inSync = true)
    (hq1 : 10 ≤ q.length) (hq2 : q.length ≤ 197) (hcon : t.consume ≤ t.pesTodo)
    (hcap : t.pes.length + t.pesTodo ≤ 65541) (hlow : t.pesTodo > 0 → 184 ≤ t.pes.length + t.pesTodo)
    (hfr : t.frameRest = [] ∨ (2 ≤ t.frameRest.length ∧ t.consume = 0)) (hcnt : ∀ c, t.cont = some c → 1 ≤ c) :
    TsInv (tsAdvance t q b) := by
  unfold tsAdvance
  dsimp only
  split
  · refine ⟨⟨fun _ => ?_, fun h => ?_, ?_, hcon, hcap, hlow, hcnt⟩, hfr⟩
    · simp [TS_HEADER_LOOKAHEAD]
    · exact absurd (hs.symm.trans h) (by simp)
    · simp [TS_HEADER_LOOKAHEAD]
  · rename_i hgt
    refine ⟨⟨fun _ => ?_, fun h => ?_, ?_, hcon, hcap, hlow, hcnt⟩, hfr⟩
    · simp only [List.length_drop, TS_HEADER_LOOKAHEAD]; omega
    · exact absurd (hs.symm.trans h) (by simp)
    · simp only [TS_HEADER_LOOKAHEAD]; omega

theorem tsSyncSearch_lt (b : Bytes) : ∀ (fuel p q : Nat), tsSyncSearch b fuel p = some q → q < 188 := by
  intro fuel
  induction fuel with
  | zero => intro p q h; simp [tsSyncSearch] at h
  | succ fuel ih =>
    intro p q h
    unfold tsSyncSearch at h
    split at h
    · cases h
    · rename_i hp
      dsimp only at h
      split at h
      · cases h; omega
      · exact ih _ _ h

/-- the completion step at the end of the header evaluation (fix dvb-demux-ts-first-packet): never reads
`pes_buffer` beyond what was copied (a complete packet has at least 184 bytes), touches only the frame
state and `ts_frame_bp / ts_frame_todo` -/
theorem tsCopyDone_safe (s1 : TsSt) (hfr : s1.frameRest = []) (hcon : s1.consume ≤ s1.pesTodo)
    (hl : s1.pesTodo = 0 → 184 ≤ s1.pes.length) :
    ∃ fs2 fr2, tsCopyDone cfg s1 = ({ s1 with fs := fs2, frameRest := fr2 }, none)
      ∧ (fr2 = [] ∨ (2 ≤ fr2.length ∧ s1.consume = 0)) := by
  unfold tsCopyDone
  split
  · rename_i hz
    have h184 := hl hz.2
    unfold tsComplete
    rw [if_neg (by omega)]
    split
    · exact ⟨_, _, rfl, Or.inl rfl⟩
    · refine ⟨_, _, rfl, Or.inr ⟨?_, by omega⟩⟩
      simp only [List.length_drop]; omega
  · refine ⟨s1.fs, [], ?_, Or.inl rfl⟩
    obtain ⟨fs, tb, sk, co, la, sy, fr, pes, td, ct, pid⟩ := s1
    simp only at hfr
    subst hfr
    rfl

theorem tsCopyFin_inv (sOrig s1 : TsSt) (q frag : Bytes) (k c : Nat) (hs : s1.inSync = true) (hfr : s1.frameRest = [])
    (hq1 : 10 ≤ q.length) (hq2 : q.length ≤ 197) (hfrag : frag.length = k) (hk : k ≤ s1.pesTodo)
    (hc : c ≤ s1.pesTodo - k) (hcap : s1.pes.length + s1.pesTodo ≤ 65541)
    (hlow : 184 ≤ s1.pes.length + s1.pesTodo) (hcnt : ∀ c, s1.cont = some c → 1 ≤ c) :
    ∃ r, tsCopyFin cfg sOrig { s1 with pes := s1.pes ++ frag, pesTodo := s1.pesTodo - k, consume := c } q = (r, none)
      ∧ TsInv r := by
  have hlen : (s1.pes ++ frag).length = s1.pes.length + k := by rw [List.length_append, hfrag]
  obtain ⟨fs2, fr2, e, hfr2⟩ := tsCopyDone_safe (cfg := cfg)
    { s1 with pes := s1.pes ++ frag, pesTodo := s1.pesTodo - k, consume := c } hfr hc
    (fun hz => by
      have hz : s1.pesTodo - k = 0 := hz
      show 184 ≤ (s1.pes ++ frag).length
      rw [hlen]; omega)
  unfold tsCopyFin
  rw [e]
  refine ⟨_, rfl, tsAdvance_inv _ q false hs hq1 hq2 hc ?_ ?_ hfr2 hcnt⟩
  · show (s1.pes ++ frag).length + (s1.pesTodo - k) ≤ 65541
    rw [hlen]; omega
  · intro _
    show 184 ≤ (s1.pes ++ frag).length + (s1.pesTodo - k)
    rw [hlen]; omega

theorem tsHeader_inv (t : TsSt) (q : Bytes) (hs : t.inSync = true)
    (hq1 : 10 ≤ q.length) (hq2 : q.length ≤ 197) (hc0 : t.consume = 0)
    (hcap : t.pes.length + t.pesTodo ≤ 65541) (hlow : t.pesTodo > 0 → 184 ≤ t.pes.length + t.pesTodo)
    (hfr : t.frameRest = []) (hcnt : ∀ c, t.cont = some c → 1 ≤ c) : ∃ r, tsHeader cfg t q = (r, none) ∧ TsInv r := by
  have hnew : ∀ c, some (q.getD 3 0 + 1) = some c → 1 ≤ c := fun c h => by cases h; omega
  have hskipPkt : ∀ (u : TsSt), u.inSync = true → u.consume = 0 → u.pes.length + u.pesTodo ≤ 65541 →
      (u.pesTodo > 0 → 184 ≤ u.pes.length + u.pesTodo) → u.frameRest = [] → (∀ c, u.cont = some c → 1 ≤ c) → TsInv (tsSkipPacket u q) :=
    fun u h1 h2 h3 h4 h5 h6 => tsAdvance_inv u q true h1 hq1 hq2 (by omega) h3 h4 (Or.inl h5) h6
  have hskipPes : ∀ (u : TsSt), u.inSync = true → u.pes.length + u.pesTodo ≤ 65541 → u.frameRest = [] →
      (∀ c, u.cont = some c → 1 ≤ c) → TsInv (tsSkipPesPacket u q) :=
    fun u h1 h3 h5 h6 => tsAdvance_inv _ q true h1 hq1 hq2 (Nat.le_refl _) (by show u.pes.length + 0 ≤ 65541; omega)
      (fun h => absurd h (by simp)) (Or.inl h5) h6
  unfold tsHeader
  cases tsHeaderCheck t q with
  | some b =>
    cases b
    · exact ⟨_, rfl, hskipPkt t hs hc0 hcap hlow hfr hcnt⟩
    · exact ⟨_, rfl, hskipPes t hs hcap hfr hcnt⟩
  | none =>
    dsimp only
    cases tsContCheck t.cont (q.getD 3 0) with
    | repeated => exact ⟨_, rfl, hskipPkt t hs hc0 hcap hlow hfr hcnt⟩
    | lost => exact ⟨_, rfl, hskipPes { t with cont := some (q.getD 3 0 + 1) } hs hcap hfr hnew⟩
    | ok =>
      dsimp only
      cases hst : tsStart { t with cont := some (q.getD 3 0 + 1) } q with
      | none => exact ⟨_, rfl, hskipPes { t with cont := some (q.getD 3 0 + 1) } hs hcap hfr hnew⟩
      | some s1 =>
        dsimp only
        -- what `tsStart` guarantees
        have hs1 : s1.inSync = true ∧ s1.consume = 0 ∧ s1.frameRest = [] ∧ s1.pesTodo > 0 ∧
            s1.pes.length + s1.pesTodo ≤ 65541 ∧ 184 ≤ s1.pes.length + s1.pesTodo ∧ s1.cont = some (q.getD 3 0 + 1) := by
          unfold tsStart at hst
          dsimp only at hst
          split at hst
          · split at hst
            · cases hst
            · split at hst
              · cases hst
              · cases hst
                have h1 : q.getD 8 0 % 256 < 256 := Bits.mod_lt _ _
                have h2 : q.getD 9 0 % 256 < 256 := Bits.mod_lt _ _
                rename_i hlen
                refine ⟨hs, hc0, hfr, ?_, ?_, ?_, rfl⟩
                · show q.getD 8 0 % 256 * 256 + q.getD 9 0 % 256 + 6 > 0; omega
                · show ([] : Bytes).length + (q.getD 8 0 % 256 * 256 + q.getD 9 0 % 256 + 6) ≤ 65541
                  simp only [List.length_nil]; omega
                · show 184 ≤ ([] : Bytes).length + (q.getD 8 0 % 256 * 256 + q.getD 9 0 % 256 + 6)
                  simp only [List.length_nil]; omega
          · rename_i hne
            split at hst
            · cases hst
            · cases hst
              have hp : t.pesTodo > 0 := by omega
              exact ⟨hs, hc0, hfr, hp, hcap, hlow hp, rfl⟩
        obtain ⟨h1, h2, h3, h4, h5, h6, h7⟩ := hs1
        have h7' : ∀ c, s1.cont = some c → 1 ≤ c := by rw [h7]; exact hnew
        unfold tsCopy
        dsimp only
        split
        · rw [if_neg (by simp only [PES_BUF_SIZE]; omega)]
          exact tsCopyFin_inv _ s1 q _ (min (q.length - 4) (min s1.pesTodo 184)) _ h1 h3 hq1 hq2
            (by simp only [List.length_take, List.length_drop]; omega) (by omega) (by omega) h5 h6 h7'
        · rw [if_neg (by simp only [PES_BUF_SIZE]; omega)]
          exact tsCopyFin_inv _ s1 q _ (min s1.pesTodo 184) s1.consume h1 h3 hq1 hq2
            (by simp only [List.length_take, List.length_drop]; omega) (by omega) (by omega) h5 h6 h7'

theorem tsPhaseE_safe (s4 : TsSt) (hsync : s4.inSync = true → s4.tsBuf.length = 10)
    (hsearch : s4.inSync = false → s4.tsBuf.length = 197) (hc0 : s4.consume = 0)
    (hcap : s4.pes.length + s4.pesTodo ≤ 65541) (hlow : s4.pesTodo > 0 → 184 ≤ s4.pes.length + s4.pesTodo)
    (hfr : s4.frameRest = []) (hcnt : ∀ c, s4.cont = some c → 1 ≤ c) : ∃ s5, tsPhaseE cfg s4 = (s5, .cont) ∧ TsInv s5 := by
  unfold tsPhaseE
  dsimp only
  by_cases hs : s4.inSync = true
  · have hl := hsync hs
    rw [if_pos hs, if_neg (by simp only [TS_HEADER_LOOKAHEAD]; omega)]
    split
    · rw [if_neg (by simp only [TS_SYNC_SEARCH_LOOKAHEAD]; omega)]
      refine ⟨_, rfl, ⟨⟨fun h => absurd h (by simp), fun _ => ?_, ?_, Nat.le_refl _, ?_, fun h => absurd h (by simp),
        fun c h => by cases h⟩, Or.inl hfr⟩⟩
      · simp only [TS_SYNC_SEARCH_LOOKAHEAD]; omega
      · simp only [TS_SYNC_SEARCH_LOOKAHEAD]; omega
      · show s4.pes.length + 0 ≤ 65541; omega
    · obtain ⟨r, e, hi⟩ := tsHeader_inv s4 s4.tsBuf hs (by omega) (by omega) hc0 hcap hlow hfr hcnt
      rw [e]
      exact ⟨r, rfl, hi⟩
  · have hsf : s4.inSync = false := Bool.eq_false_iff.2 hs
    have hl := hsearch hsf
    rw [if_neg hs, if_neg (by simp only [TS_SYNC_SEARCH_LOOKAHEAD]; omega)]
    cases hss : tsSyncSearch s4.tsBuf 189 0 with
    | none =>
      dsimp only
      rw [if_neg (by simp only [TS_SYNC_SEARCH_LOOKAHEAD]; omega)]
      refine ⟨_, rfl, ⟨⟨fun h => absurd (hsf.symm.trans h) (by simp), fun _ => ?_, ?_,
        by show s4.consume ≤ s4.pesTodo; omega, hcap, hlow, hcnt⟩, Or.inl hfr⟩⟩
      · simp only [List.length_drop, TS_SYNC_SEARCH_LOOKAHEAD]; omega
      · simp only [TS_SYNC_SEARCH_LOOKAHEAD]; omega
    | some p =>
      dsimp only
      have hp := tsSyncSearch_lt _ _ _ _ hss
      have hq : (s4.tsBuf.drop p).length = 197 - p := by simp [hl]
      rw [if_neg (by simp only [TS_HEADER_LOOKAHEAD]; omega)]
      obtain ⟨r, e, hi⟩ := tsHeader_inv { s4 with inSync := true } (s4.tsBuf.drop p) rfl (by omega) (by omega)
        hc0 hcap hlow hfr hcnt
      rw [e]
      exact ⟨r, rfl, hi⟩

/-- the loop body with a callback, from a context satisfying the invariant: no fault, invariant kept,
either "need more data" (everything consumed) or at least one byte consumed -/
theorem tsStep_safe (se : Bool) (s : TsSt) (x : Bytes) (h : TsInv s) :
    ∃ s' o n, TsInv s' ∧
      (tsStep cfg true se s x = (s', o, n, .stop .needMore) ∨ (tsStep cfg true se s x = (s', o, n, .cont) ∧ 1 ≤ n)) := by
  unfold tsStep
  rcases tsPhaseA_safe s x h with ⟨s', e, hi⟩ | ⟨s1, n1, e, hiA, hc0, hfr⟩
  · rw [e]; exact ⟨s', [], _, hi, Or.inl rfl⟩
  · rw [e]
    dsimp only
    obtain ⟨fs2, o, eB⟩ := tsPhaseB_safe se s1 hfr
    rw [eB]
    dsimp only
    -- block C
    by_cases hsk : s1.skip > (x.drop n1).length
    · have eC : tsPhaseC { s1 with fs := fs2, frameRest := [] } (x.drop n1)
          = .stop { s1 with fs := fs2, frameRest := [], skip := s1.skip - (x.drop n1).length } .needMore := by
        unfold tsPhaseC; rw [if_pos hsk]
      rw [eC]
      exact ⟨{ s1 with fs := fs2, frameRest := [], skip := s1.skip - (x.drop n1).length }, o, _,
        ⟨⟨hiA.bufSync, hiA.bufSearch, hiA.la, hiA.con, hiA.cap, hiA.low, hiA.cnt⟩, Or.inl rfl⟩, Or.inl rfl⟩
    · have eC : tsPhaseC { s1 with fs := fs2, frameRest := [] } (x.drop n1)
          = .go { s1 with fs := fs2, frameRest := [], skip := 0 } s1.skip := by
        unfold tsPhaseC; rw [if_neg hsk]
      rw [eC]
      dsimp only
      -- block D
      have hsum : s1.tsBuf.length + s1.lookahead ≤ 197 := by
        cases hsy : s1.inSync
        · have := hiA.bufSearch hsy; omega
        · have := hiA.bufSync hsy; omega
      have hla := hiA.la
      by_cases hgt : s1.lookahead > (x.drop (n1 + s1.skip)).length
      · have eD : tsPhaseD { s1 with fs := fs2, frameRest := [], skip := 0 } (x.drop (n1 + s1.skip))
            = .stop { s1 with fs := fs2, frameRest := [], skip := 0,
                              tsBuf := s1.tsBuf ++ x.drop (n1 + s1.skip),
                              lookahead := s1.lookahead - (x.drop (n1 + s1.skip)).length } .needMore := by
          unfold tsPhaseD
          rw [if_pos hgt, if_neg (by simp only [TS_BUF_SIZE]; show ¬ s1.tsBuf.length + _ > 208; omega)]
        rw [eD]
        refine ⟨{ s1 with fs := fs2, frameRest := [], skip := 0,
                          tsBuf := s1.tsBuf ++ x.drop (n1 + s1.skip),
                          lookahead := s1.lookahead - (x.drop (n1 + s1.skip)).length }, o, _,
          ⟨⟨?_, ?_, ?_, hiA.con, hiA.cap, hiA.low, hiA.cnt⟩, Or.inl rfl⟩, Or.inl rfl⟩
        · intro hsy
          have := hiA.bufSync hsy
          show (s1.tsBuf ++ x.drop (n1 + s1.skip)).length + (s1.lookahead - (x.drop (n1 + s1.skip)).length) = 10
          simp only [List.length_append]; omega
        · intro hsy
          have := hiA.bufSearch hsy
          show (s1.tsBuf ++ x.drop (n1 + s1.skip)).length + (s1.lookahead - (x.drop (n1 + s1.skip)).length) = 197
          simp only [List.length_append]; omega
        · show 1 ≤ s1.lookahead - (x.drop (n1 + s1.skip)).length; omega
      · have eD : tsPhaseD { s1 with fs := fs2, frameRest := [], skip := 0 } (x.drop (n1 + s1.skip))
            = .go { s1 with fs := fs2, frameRest := [], skip := 0,
                            tsBuf := s1.tsBuf ++ (x.drop (n1 + s1.skip)).take s1.lookahead } s1.lookahead := by
          unfold tsPhaseD
          rw [if_neg hgt, if_neg (by simp only [TS_BUF_SIZE]; show ¬ s1.tsBuf.length + s1.lookahead > 208; omega)]
        rw [eD]
        dsimp only
        have hlen : (s1.tsBuf ++ (x.drop (n1 + s1.skip)).take s1.lookahead).length
            = s1.tsBuf.length + s1.lookahead := by
          simp only [List.length_append, List.length_take]; omega
        obtain ⟨s5, eE, hi5⟩ := tsPhaseE_safe
          { s1 with fs := fs2, frameRest := [], skip := 0,
                    tsBuf := s1.tsBuf ++ (x.drop (n1 + s1.skip)).take s1.lookahead }
          (fun hsy => by
            have := hiA.bufSync hsy
            show (s1.tsBuf ++ (x.drop (n1 + s1.skip)).take s1.lookahead).length = 10; rw [hlen]; omega)
          (fun hsy => by
            have := hiA.bufSearch hsy
            show (s1.tsBuf ++ (x.drop (n1 + s1.skip)).take s1.lookahead).length = 197; rw [hlen]; omega)
          hc0 hiA.cap hiA.low rfl hiA.cnt
        rw [eE]
        exact ⟨s5, o, _, hi5, Or.inr ⟨rfl, by omega⟩⟩

theorem tsRun_safe (se : Bool) : ∀ (f : Nat) (s : TsSt) (x : Bytes), TsInv s → x.length < f →
    ∃ s' o n, tsRun cfg f true se s x = (s', o, n, .needMore) ∧ TsInv s' := by
  intro f
  induction f with
  | zero => intro s x _ h; omega
  | succ f ih =>
    intro s x hi hf
    obtain ⟨s', o, n, hi', hst⟩ := tsStep_safe se s x hi
    unfold tsRun
    rcases hst with e | ⟨e, hn⟩
    · rw [e]; exact ⟨s', o, n, rfl, hi'⟩
    · rw [e]
      dsimp only
      have hle := (tsStep_cont true se s s' x [] o n e).1
      obtain ⟨s2, o2, n2, e2, hi2⟩ := ih s' (x.drop n) hi' (by simp only [List.length_drop]; omega)
      rw [e2]
      exact ⟨s2, o ++ o2, n + n2, rfl, hi2⟩

/-- a feed call from a context with the invariant is a run that ends with "need more data" -/
theorem tsFeed_run (s : TsSt) (buf : Bytes) (hne : buf.length ≠ 0) (h : TsInv s) :
    ∃ s' o n, tsRun cfg (buf.length + 2) true false s buf = (s', o, n, .needMore) ∧ TsInv s' ∧
      tsFeed cfg s buf = { st := s', frames := o } := by
  obtain ⟨s', o, n, e, hi⟩ := tsRun_safe (cfg := cfg) false (buf.length + 2) s buf h (by omega)
  exact ⟨s', o, n, e, hi, tsFeed_of_run s s' buf o n hne e⟩

/-- one feed call from a context with the invariant: no fault (running out of fuel is one, so the loop ends), and the
invariant holds again -/
theorem tsFeed_safe (s : TsSt) (buf : Bytes) (h : TsInv s) :
    (tsFeed cfg s buf).err = none ∧ TsInv (tsFeed cfg s buf).st := by
  by_cases hne : buf.length = 0
  · unfold tsFeed; rw [if_pos hne]; exact ⟨rfl, h⟩
  · obtain ⟨s', o, n, _, hi, e⟩ := tsFeed_run (cfg := cfg) s buf hne h
    rw [e]; exact ⟨rfl, hi⟩

/-- **ts_feed_split_invariant**, from any context with the invariant -/
theorem tsFeed_split (s : TsSt) (a b : Bytes) (h : TsInv s) :
    (tsFeed cfg s (a ++ b)).frames = (tsFeed cfg s a).frames ++ (tsFeed cfg (tsFeed cfg s a).st b).frames ∧
    (tsFeed cfg s (a ++ b)).st = (tsFeed cfg (tsFeed cfg s a).st b).st := by
  by_cases ha : a.length = 0
  · have : a = [] := List.eq_nil_of_length_eq_zero ha
    subst this
    simp [tsFeed]
  · by_cases hb : b.length = 0
    · have : b = [] := List.eq_nil_of_length_eq_zero hb
      subst this
      simp [tsFeed]
    · have hab : (a ++ b).length ≠ 0 := by rw [List.length_append]; omega
      obtain ⟨s1, o1, n1, r1, hi1, e1⟩ := tsFeed_run (cfg := cfg) s a ha h
      rw [e1]
      obtain ⟨s2, o2, n2, r2, _, e2⟩ := tsFeed_run (cfg := cfg) s1 b hb hi1
      obtain ⟨s3, o3, n3, r3, _, e3⟩ := tsFeed_run (cfg := cfg) s (a ++ b) hab h
      rw [e2, e3]
      have happ := (tsRun_append true false (a.length + 2) s s1 a o1 n1 r1 (b.length + 2) b (by rw [r2]; exact fun h => h)).2
      rw [r2] at happ
      have hm := tsRun_mono true false ((a ++ b).length + 2) s (a ++ b) 2 (by rw [r3]; exact fun h => h)
      have e : (a ++ b).length + 2 + 2 = a.length + 2 + (b.length + 2) := by rw [List.length_append]; omega
      rw [e, happ, r3] at hm
      simp only [Prod.mk.injEq] at hm
      exact ⟨hm.2.1.symm, hm.1.symm⟩

/-- successive `vbi_dvb_demux_feed` calls on a TS demultiplexer: final context, all frames delivered -/
def tsFeedAll (cfg : SrcCfg) : TsSt → List Bytes → TsSt × List FrameOut
  | s, [] => (s, [])
  | s, c :: cs => ((tsFeedAll cfg (tsFeed cfg s c).st cs).1, (tsFeed cfg s c).frames ++ (tsFeedAll cfg (tsFeed cfg s c).st cs).2)

/-- any partition = the whole (from a context that satisfies the TS invariant, e.g. a new demultiplexer) -/
theorem tsFeedAll_flatten : ∀ (chunks : List Bytes) (s : TsSt), TsInv s →
    tsFeedAll cfg s chunks = ((tsFeed cfg s chunks.flatten).st, (tsFeed cfg s chunks.flatten).frames) := by
  intro chunks
  induction chunks with
  | nil => intro s _; simp [tsFeedAll, tsFeed]
  | cons c cs ih =>
    intro s hi
    obtain ⟨e1, e2⟩ := tsFeed_split (cfg := cfg) s c cs.flatten hi
    simp only [tsFeedAll, List.flatten_cons, ih _ (tsFeed_safe s c hi).2]
    rw [e1, e2]

end Zvbi.Demux
