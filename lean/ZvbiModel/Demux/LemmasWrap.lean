import ZvbiModel.Demux.Model
/-!
# `wrap_around`: the window it hands out is the logical stream  (helper lemmas for C07)

Logical stream of a wrap state at source offset `si`: `w.pend ++ buf.drop si`.  `hist` is what was fed before `buf`:
the unconsumed wrap bytes are a suffix of `hist ++ buf.take si` (`suf`).  That is what makes the window the C code takes
inside the caller's buffer (`*src - leftover`, possible since `available <= src_size`) a window onto the logical stream.
-/
namespace Zvbi.Demux

theorem Wrap.pend_length (w : Wrap) (h : w.leftover ≤ w.wb.length) : w.pend.length = w.leftover := by
  simp [Wrap.pend]; omega

theorem Wrap.pend_full (wb : Bytes) (sk la lo : Nat) (h : lo = wb.length) :
    ({ wb := wb, skip := sk, lookahead := la, leftover := lo } : Wrap).pend = wb := by
  simp [Wrap.pend, h]

/-- what `wrap_around` guarantees when it returns FALSE -/
structure WrapMore (w : Wrap) (buf hist : Bytes) (si : Nat) (w' : Wrap) (si' : Nat) : Prop where
  si_eq : si' = buf.length
  la : w'.lookahead = w.lookahead
  lo : w'.leftover ≤ w'.wb.length
  pend : w'.pend = (w.pend ++ buf.drop si).drop w.skip
  skip : w'.skip = w.skip - (w.pend ++ buf.drop si).length
  short : w'.skip > 0 ∨ w'.pend.length < w.lookahead
  suf : w'.pend <:+ hist ++ buf.take si'

/-- what `wrap_around` guarantees when it returns TRUE -/
structure WrapWin (w : Wrap) (buf hist : Bytes) (si : Nat) (w' : Wrap) (si' : Nat) (win : Bytes) : Prop where
  si_le : si' ≤ buf.length
  skip0 : w'.skip = 0
  la : w'.lookahead = w.lookahead
  lo : w'.leftover ≤ w'.wb.length
  skip_le : w.skip ≤ (w.pend ++ buf.drop si).length
  pre : win <+: (w.pend ++ buf.drop si).drop w.skip
  len : w.lookahead ≤ win.length
  rest : w'.pend ++ buf.drop si' = (w.pend ++ buf.drop si).drop w.skip
  suf : w'.pend <:+ hist ++ buf.take si'

/-- the contract of `wrap_around` as a predicate on its result -/
def WrapSpec (w : Wrap) (buf hist : Bytes) (si : Nat) : WR → Prop
  | .fault _ => False
  | .more w' si' => WrapMore w buf hist si w' si'
  | .win w' si' win => WrapWin w buf hist si w' si' win

theorem suffix_take_succ_append (p hist buf : Bytes) (si n : Nat) (h : p <:+ hist ++ buf.take si) :
    p ++ (buf.drop si).take n <:+ hist ++ buf.take (si + n) := by
  obtain ⟨t, ht⟩ := h
  refine ⟨t, ?_⟩
  have : buf.take (si + n) = buf.take si ++ (buf.drop si).take n := by
    rw [List.take_add]
  rw [this, ← List.append_assoc, ← List.append_assoc, ht]

theorem wrapFill_spec (cap : Nat) (w : Wrap) (buf hist : Bytes) (si srcSize : Nat)
    (hskip : w.skip = 0) (hlo : w.leftover ≤ w.wb.length) (hsi : si ≤ buf.length)
    (hsz : srcSize ≤ buf.length) (hcap : w.lookahead ≤ cap)
    (hsuf : w.pend <:+ hist ++ buf.take si) :
    WrapSpec w buf hist si (wrapFill cap w buf si srcSize) := by
  have hpl := w.pend_length hlo
  unfold wrapFill
  simp only []
  split
  · -- must wrap
    split
    · -- need more data in the wrap buffer
      rw [if_neg (by omega)]
      split
      · -- not enough: copy all, FALSE
        rename_i h1 h2 h3
        rw [if_neg (by omega)]
        have hd : (buf.drop si).length = buf.length - si := by simp
        have hp' : ({ w with wb := w.pend ++ buf.drop si, leftover := w.leftover + (buf.length - si) } : Wrap).pend
                  = w.pend ++ buf.drop si := by
          apply Wrap.pend_full; simp [hpl]
        show WrapMore _ _ _ _ _ _
        refine ⟨by omega, rfl, ?_, ?_, ?_, ?_, ?_⟩
        · simp [hpl, hd]
        · rw [hp', hskip, List.drop_zero]
        · simp [hskip]
        · right; rw [hp']; simp [hpl, hd]; omega
        · rw [hp']
          have h := suffix_take_succ_append w.pend hist buf si (buf.length - si) hsuf
          have e : (buf.drop si).take (buf.length - si) = buf.drop si := by
            apply List.take_of_length_le; simp
          rw [e] at h
          exact h
      · -- copy `required` bytes, TRUE
        rename_i h1 h2 h3
        rw [if_neg (by omega)]
        have hd : ((buf.drop si).take (w.lookahead - w.leftover)).length = w.lookahead - w.leftover := by
          simp; omega
        rw [if_neg (by simp [hpl, hd]; omega)]
        have hwl : (w.pend ++ (buf.drop si).take (w.lookahead - w.leftover)).length = w.lookahead := by
          simp [hpl]; omega
        have hp' : ({ w with wb := w.pend ++ (buf.drop si).take (w.lookahead - w.leftover),
                             leftover := w.lookahead } : Wrap).pend
                  = w.pend ++ (buf.drop si).take (w.lookahead - w.leftover) := by
          apply Wrap.pend_full; exact hwl.symm
        show WrapWin _ _ _ _ _ _ _
        refine ⟨by omega, hskip, rfl, ?_, ?_, ?_, ?_, ?_, ?_⟩
        · simp only []; rw [hwl]; exact Nat.le_refl _
        · simp [hskip]
        · rw [hskip, List.drop_zero]
          exact (List.prefix_append_right_inj _).2 (List.take_prefix _ _)
        · rw [hwl]; exact Nat.le_refl _
        · rw [hp', hskip, List.drop_zero, List.append_assoc, ← List.drop_drop, List.take_append_drop]
        · rw [hp']; exact suffix_take_succ_append _ _ _ _ _ hsuf
    · -- enough in the wrap buffer already
      rename_i h1 h2
      rw [if_neg (by omega)]
      show WrapWin _ _ _ _ _ _ _
      refine ⟨hsi, hskip, rfl, hlo, by simp [hskip], ?_, by omega, by simp [hskip], hsuf⟩
      rw [hskip, List.drop_zero]; exact List.prefix_append _ _
  · -- in place
    rename_i h1
    have hle : w.leftover ≤ si := by omega
    rw [if_neg (by omega)]
    have hs2 : w.pend <:+ buf.take si := by
      apply List.suffix_of_suffix_length_le hsuf (List.suffix_append _ _)
      simp [hpl]; omega
    have heq : w.pend = (buf.take si).drop (si - w.leftover) := by
      have := List.suffix_iff_eq_drop.1 hs2
      rw [this]; simp [hpl]; congr 1; omega
    have hwin : buf.drop (si - w.leftover) = w.pend ++ buf.drop si := by
      rw [heq]
      have : buf.drop (si - w.leftover) = (buf.take si ++ buf.drop si).drop (si - w.leftover) := by
        rw [List.take_append_drop]
      rw [this, List.drop_append_of_le_length (by simp; omega)]
    show WrapWin _ _ _ _ _ _ _
    refine ⟨hsi, hskip, rfl, hlo, by simp [hskip], ?_, ?_, by simp [hskip], hsuf⟩
    · rw [hskip, List.drop_zero, hwin]; exact List.prefix_refl _
    · rw [hwin]; simp [hpl]; omega

theorem WrapSpec.transfer (w w1 : Wrap) (buf hist : Bytes) (si si1 : Nat) (r : WR)
    (h0 : w1.skip = 0) (hla : w1.lookahead = w.lookahead)
    (hL : w1.pend ++ buf.drop si1 = (w.pend ++ buf.drop si).drop w.skip)
    (hle : w.skip ≤ (w.pend ++ buf.drop si).length)
    (h : WrapSpec w1 buf hist si1 r) : WrapSpec w buf hist si r := by
  cases r with
  | fault e => exact h
  | more w' si' =>
    have h : WrapMore w1 buf hist si1 w' si' := h
    show WrapMore _ _ _ _ _ _
    refine ⟨h.si_eq, h.la.trans hla, h.lo, ?_, ?_, ?_, h.suf⟩
    · rw [h.pend, h0, List.drop_zero, hL]
    · rw [h.skip, h0]; omega
    · rw [← hla]; exact h.short
  | win w' si' win =>
    have h : WrapWin w1 buf hist si1 w' si' win := h
    show WrapWin _ _ _ _ _ _ _
    refine ⟨h.si_le, h.skip0, h.la.trans hla, h.lo, hle, ?_, ?_, ?_, h.suf⟩
    · have := h.pre; rwa [h0, List.drop_zero, hL] at this
    · rw [← hla]; exact h.len
    · rw [h.rest, h0, List.drop_zero, hL]

/-- the contract of `wrap_around` (`WrapSpec`) from a context whose unconsumed bytes are a suffix of what was fed; the statement of
`C07.wrap_window` -/
theorem wrapAround_spec (cap : Nat) (w : Wrap) (buf hist : Bytes) (si srcSize : Nat)
    (hlo : w.leftover ≤ w.wb.length) (hsi : si ≤ buf.length)
    (hsz : srcSize ≤ buf.length) (hcap : w.lookahead ≤ cap)
    (hsuf : w.pend <:+ hist ++ buf.take si) :
    WrapSpec w buf hist si (wrapAround cap w buf si srcSize) := by
  have hpl := w.pend_length hlo
  unfold wrapAround wrapSkip
  simp only []
  by_cases hs : w.skip > 0
  · rw [if_pos hs]
    by_cases hs2 : w.skip > w.leftover
    · rw [if_pos hs2]
      by_cases hs3 : w.skip - w.leftover > buf.length - si
      · rw [if_pos hs3]
        show WrapMore _ _ _ _ _ _
        have hL : (w.pend ++ buf.drop si).length = w.leftover + (buf.length - si) := by simp [hpl]
        have hp' : ({ w with skip := w.skip - w.leftover - (buf.length - si), leftover := 0 } : Wrap).pend = [] := by
          simp [Wrap.pend]
        refine ⟨by omega, rfl, Nat.zero_le _, ?_, ?_, ?_, ?_⟩
        · rw [hp']; symm; apply List.drop_of_length_le; omega
        · rw [hL]; show w.skip - w.leftover - (buf.length - si) = _; omega
        · left; show w.skip - w.leftover - (buf.length - si) > 0; omega
        · rw [hp']; exact List.nil_suffix
      · rw [if_neg hs3]
        have hp1 : ({ w with skip := 0, leftover := 0 } : Wrap).pend = [] := by simp [Wrap.pend]
        show WrapSpec _ _ _ _ (wrapFill cap { w with skip := 0, leftover := 0 } buf (si + (w.skip - w.leftover)) srcSize)
        apply WrapSpec.transfer w { w with skip := 0, leftover := 0 } buf hist si (si + (w.skip - w.leftover)) _ rfl rfl
        · rw [hp1, List.nil_append, List.drop_append, List.drop_of_length_le (l := w.pend) (i := w.skip) (by omega),
            List.nil_append, hpl, List.drop_drop]
        · simp [hpl]; omega
        · apply wrapFill_spec cap { w with skip := 0, leftover := 0 } buf hist _ srcSize rfl (Nat.zero_le _)
            (by omega) hsz (by exact hcap)
          rw [hp1]; exact List.nil_suffix
    · rw [if_neg hs2]
      have hp1 : ({ w with skip := 0, leftover := w.leftover - w.skip } : Wrap).pend = w.pend.drop w.skip := by
        simp only [Wrap.pend, List.drop_drop]; congr 1; omega
      show WrapSpec _ _ _ _ (wrapFill cap { w with skip := 0, leftover := w.leftover - w.skip } buf (si + 0) srcSize)
      apply WrapSpec.transfer w { w with skip := 0, leftover := w.leftover - w.skip } buf hist si (si + 0) _ rfl rfl
      · rw [hp1, Nat.add_zero, List.drop_append_of_le_length (by omega)]
      · simp [hpl]; omega
      · apply wrapFill_spec cap { w with skip := 0, leftover := w.leftover - w.skip } buf hist _ srcSize rfl
          (by show w.leftover - w.skip ≤ w.wb.length; omega) (by omega) hsz (by exact hcap)
        rw [hp1, Nat.add_zero]
        exact (List.drop_suffix _ _).trans hsuf
  · rw [if_neg hs]
    have h0 : w.skip = 0 := by omega
    simpa using wrapFill_spec cap w buf hist si srcSize h0 hlo hsi hsz hcap hsuf

/-! ## what holds of `wrap_around` from any context, invariant or not -/

/-- FALSE means `*src_left == 0` -/
theorem wrapAround_more_si (cap : Nat) (w : Wrap) (buf : Bytes) (si srcSize : Nat) (w' : Wrap) (si' : Nat)
    (h : wrapAround cap w buf si srcSize = .more w' si') : buf.length ≤ si' := by
  unfold wrapAround at h
  dsimp only at h
  cases hsk : wrapSkip w (buf.length - si) with
  | none => rw [hsk] at h; cases h; omega
  | some p =>
    obtain ⟨w1, adv⟩ := p
    rw [hsk] at h
    unfold wrapFill at h
    dsimp only at h
    repeat' split at h
    all_goals first
      | (cases h; done)
      | (cases h; omega)

theorem wrapFill_win_leftover (cap : Nat) (w : Wrap) (buf : Bytes) (si srcSize : Nat) (w' : Wrap) (si' : Nat)
    (win : Bytes) (h : wrapFill cap w buf si srcSize = .win w' si' win) :
    w'.leftover = w.leftover ∨ w'.leftover = w.lookahead := by
  unfold wrapFill at h
  simp only [] at h
  repeat' split at h
  all_goals first
    | (cases h; done)
    | (cases h; exact Or.inl rfl)
    | (cases h; exact Or.inr rfl)

/-- after `wrap_around` returned TRUE the wrap buffer holds what it held minus the skip, or exactly
`lookahead` bytes -/
theorem wrapAround_win_leftover (cap : Nat) (w : Wrap) (buf : Bytes) (si srcSize : Nat) (w' : Wrap) (si' : Nat)
    (win : Bytes) (h : wrapAround cap w buf si srcSize = .win w' si' win) :
    w'.leftover ≤ w.leftover - w.skip ∨ w'.leftover = w.lookahead := by
  unfold wrapAround wrapSkip at h
  simp only [] at h
  by_cases hs : w.skip > 0
  · rw [if_pos hs] at h
    by_cases hs2 : w.skip > w.leftover
    · rw [if_pos hs2] at h
      by_cases hs3 : w.skip - w.leftover > buf.length - si
      · rw [if_pos hs3] at h; cases h
      · rw [if_neg hs3] at h
        rcases wrapFill_win_leftover _ _ _ _ _ _ _ _ h with e | e
        · left; rw [e]; exact Nat.zero_le _
        · right; exact e
    · rw [if_neg hs2] at h
      rcases wrapFill_win_leftover _ _ _ _ _ _ _ _ h with e | e
      · left; rw [e]; exact Nat.le_refl _
      · right; exact e
  · rw [if_neg hs] at h
    rcases wrapFill_win_leftover _ _ _ _ _ _ _ _ h with e | e
    · left; rw [e]; omega
    · right; exact e

end Zvbi.Demux
