import ZvbiModel.Nav.Model
import ZvbiModel.Nav.L1
import ZvbiModel.Fmt.LemmasInv
import ZvbiModel.Log
/-!
# The access logs of the formatter are in range: the Level 1 character loop (with `vbi_teletext_unicode`), `flof_links`
-/
namespace Zvbi.Nav
open Zvbi.Fmt Zvbi.Gen.C01Nav

theorem hexDigit_le (d : Nat) (h : d < 16) : hexDigit d ≤ 0x7F := by
  unfold hexDigit; split <;> omega

theorem hexDigits_le : ∀ fuel n, ∀ x ∈ hexDigits fuel n, x ≤ 0x7F := by
  intro fuel
  induction fuel with
  | zero => exact fun _ => List.forall_mem_nil _
  | succ f ih =>
    intro n
    unfold hexDigits
    exact Log.ite (fun _ => List.forall_mem_singleton.mpr (hexDigit_le _ (by omega))) fun _ =>
      List.forall_mem_append.mpr ⟨ih _, List.forall_mem_singleton.mpr (hexDigit_le _ (Nat.mod_lt _ (by omega)))⟩

theorem hdrBuf_le (pgno subno : Nat) : ∀ x ∈ hdrBuf pgno subno, x ≤ 0x7F := by
  have hs : (subno &&& 0xff) < 256 := by
    have := @Nat.and_le_right subno 0xff; omega
  exact List.forall_mem_append.mpr ⟨List.forall_mem_cons.mpr ⟨by omega, hexDigits_le _ _⟩,
    List.forall_mem_cons.mpr ⟨by omega, List.forall_mem_cons.mpr ⟨hexDigit_le _ (by omega),
      List.forall_mem_cons.mpr ⟨hexDigit_le _ (Nat.mod_lt _ (by omega)), List.forall_mem_cons.mpr ⟨by omega,
        List.forall_mem_singleton.mpr (by omega)⟩⟩⟩⟩⟩

/-- the C variable `raw` is a 7-bit value at every position of every page -/
theorem codeAt_le (p : PageIn) (row col : Nat) : codeAt p row col ≤ 0x7F := by
  unfold codeAt
  refine ite_ind (P := (· ≤ 0x7F)) (fun _ => ?_) fun _ => ?_
  · -- a header column: a byte of `buf[]`, or the 0 behind it
    rw [List.getD_eq_getElem?_getD]
    cases hg : (hdrBuf p.pgno p.subno)[col]? with
    | none => exact Nat.zero_le _
    | some v => exact hdrBuf_le _ _ v (List.mem_of_getElem? hg)
  · -- `vbi_unpar8` clears bit 7; a parity error leaves a blank
    cases h : Zvbi.Hamm.unpar8 (p.raw (40 * row + col)) with
    | none => exact (by decide : 0x20 ≤ 0x7F)
    | some v =>
      unfold Zvbi.Hamm.unpar8 at h
      split at h
      · exact Option.some.inj h ▸ Nat.and_le_right
      · cases h

/-- a font the formatter can select: G0 set known to vbi_teletext_unicode, national subset below 14 -/
def FontOK (f : Font) : Prop := (f.g0 = kLatinG0 ∨ (tuTable f.g0).isSome) ∧ f.subset < tuSubsetLimit ∧ f.subset < nationalRows

theorem fonts_ok : ∀ idx < 88, (Zvbi.Gen.Fmt.fontG0 idx ≠ 0 ∨ idx = 0) → FontOK (fontOf idx) := by
  unfold FontOK fontOf; decide +kernel

theorem charsetDesignation_ok (c n : Nat) : FontOK (fontOf (charsetDesignation c n)) := by
  -- a designation that passes `VALID_CHARACTER_SET` names a font of `vbi_font_descriptors[]`; the last resort is font 0
  let OK := fun d => FontOK (fontOf d)
  have valid : ∀ d, validCharset d = true → OK d := fun d h => by
    simp only [validCharset, Bool.and_eq_true, decide_eq_true_eq, bne_iff_ne, ne_eq] at h
    exact fonts_ok d h.1 (Or.inl h.2)
  exact ite_ind (P := OK) (valid _) fun _ => ite_ind (P := OK) (valid _) fun _ => fonts_ok 0 (by omega) (Or.inr rfl)

/-- table facts: a table is indexed from its first entry on (`base` is at most the guard or the first character 0x20, so the
    `c - base` of the C code is not negative; the log holds it as a `Nat`) and reaches up to the last character 0x7F -/
def tuTabOK (s : Nat) : Bool :=
  match tuTable s with
  | some (guard, base) => decide ((base ≤ guard ∨ base ≤ tuCharLo) ∧ tuCharHi < base + tableLen s)
  | none => true

theorem tu_tables_ok : ∀ s < 16, tuTabOK s = true := by decide

theorem tuTable_lt (s : Nat) (h : (tuTable s).isSome) : s < 16 := by
  refine Nat.lt_of_not_le fun h1 => ?_
  -- for `s ≥ 16` every condition `s = k` of the generated chain fails (however many tables the translator found) and `none` is left
  revert h; unfold tuTable
  repeat rw [if_neg (by omega)]
  exact Bool.false_ne_true

theorem tuAcc_ok (f : Font) (hf : FontOK f) (c : Nat) (h1 : tuCharLo ≤ c) (h2 : c ≤ tuCharHi) :
    ∀ a ∈ tuAcc f.g0 f.subset c, okAcc a := by
  refine List.forall_mem_append.mpr ⟨List.forall_mem_append.mpr ⟨List.forall_mem_cons.mpr ⟨⟨h1, h2⟩,
    List.forall_mem_singleton.mpr hf.1⟩, Log.opt fun _ => hf.2⟩, ?_⟩
  cases heq : tuTable f.g0 with
  | none => exact List.forall_mem_nil _
  | some gb =>
    obtain ⟨g, b⟩ := gb
    have := tu_tables_ok f.g0 (tuTable_lt _ (by rw [heq]; rfl))
    unfold tuTabOK at this; rw [heq] at this
    have ⟨lo, hi⟩ : (b ≤ g ∨ b ≤ tuCharLo) ∧ tuCharHi < b + tableLen f.g0 := of_decide_eq_true this
    exact Log.opt fun hg => show c - b < tableLen f.g0 by omega

/- The model reads two generated lists by position: `l1PeekLasts` holds the bound `column < 39` of the look-ahead behind 0x0A
(position 0) and behind 0x0B (1); `l1LowerStrides` the four `EXT_COLUMNS` of the lower-half copy in source order (DOUBLE_HEIGHT,
DOUBLE_SIZE twice, default), of which `lowerAcc` reads 1 and 2 for DOUBLE_SIZE and 0 for every other size. -/
theorem peek0 : l1PeekLasts.getD 0 0 = 39 := rfl
theorem peek1 : l1PeekLasts.getD 1 0 = 39 := rfl
theorem lower0 : l1LowerStrides.getD 0 0 = 41 := rfl
theorem lower1 : l1LowerStrides.getD 1 0 = 41 := rfl
theorem lower2 : l1LowerStrides.getD 2 0 = 41 := rfl

/-- unfold the regenerated constants, then linear arithmetic -/
macro "nav_omega" : tactic => `(tactic|
  (simp only [l1Stride, l1RowSkip, l1HdrCols, l1WideLast, l1CharCtl, l1Col40, l1ColLoop, l1LowerLoop, textLen, rawLen,
     hdrBufLen, opacityLen, fontLen, intBits, peek0, peek1, lower0, lower1, lower2] at *
   omega))

theorem dh_row (cx : RowCtx) (h : (formatRow cx).2 = true) : 0 < cx.row ∧ cx.row < 23 := by
  have h1 : (runCols cx 40).doubleHeight = true := h
  rw [doubleHeight_inv] at h1
  obtain ⟨j, _, hj⟩ := List.any_eq_true.mp h1
  have h2 : L1Spec.rowOK cx = true := by
    revert hj; cases (L1Spec.rowOK cx) <;> simp
  simpa [L1Spec.rowOK] using h2

theorem colAcc_ok (p : PageIn) (row col : Nat) (s : RowSt) (hr : row ≤ 24) (hc : col < 40) :
    ∀ a ∈ colAcc (rowCtx p row) s row col, okAcc a := by
  have hcode : (rowCtx p row).code col ≤ 0x7F := codeAt_le p row col
  have hop : okAcc (.opacity, if row > 0 then 1 else 0) := ite_both (P := (· < opacityLen)) (by decide) (by decide)
  exact List.forall_mem_append.mpr ⟨List.forall_mem_append.mpr ⟨List.forall_mem_append.mpr ⟨List.forall_mem_append.mpr ⟨
    -- `buf[column]` in the header, else `raw[0][i]`
    Log.ite (fun _ => List.forall_mem_singleton.mpr (show col < hdrBufLen by nav_omega)) fun _ =>
      List.forall_mem_singleton.mpr (show l1RowSkip * row + col < rawLen by nav_omega),
    -- vbi_teletext_unicode, for a character that is neither a control code nor a mosaic
    Log.ite (fun _ => List.forall_mem_nil _) fun _ => Log.ite (fun _ => List.forall_mem_nil _) fun _ =>
      tuAcc_ok _ (ite_both (P := FontOK) (charsetDesignation_ok _ _) (charsetDesignation_ok _ _)) _
        (by have : tuCharLo = 32 := rfl; nav_omega) (by have : tuCharHi = 127 := rfl; omega)⟩,
    -- `acp[column]`, and `acp[column + 1]` for double width
    Log.ite (fun _ => List.forall_mem_nil _) fun _ => List.forall_mem_cons.mpr ⟨show l1Stride * row + col < textLen by nav_omega,
      Log.opt fun _ => show l1Stride * row + col + 1 < textLen by nav_omega⟩⟩,
    -- the look-ahead behind 0x0A / 0x0B: `raw[0][i + 1]`, `page_opacity[row > 0]`
    Log.ite (fun _ => List.forall_mem_cons.mpr ⟨show l1RowSkip * row + col + 1 < rawLen by nav_omega,
      List.forall_mem_singleton.mpr hop⟩) fun _ => List.forall_mem_nil _⟩,
    -- ESC: `pg->font[esc]`
    Log.opt fun _ => ite_both (P := (· < fontLen)) (by decide) (by decide)⟩

theorem rowAcc_ok (p : PageIn) (row : Nat) (hr : row ≤ 24) : ∀ a ∈ rowAcc (rowCtx p row) row, okAcc a :=
  List.forall_mem_cons.mpr ⟨ite_both (P := (· < opacityLen)) (by decide) (by decide),
    List.forall_mem_cons.mpr ⟨show 0 < fontLen by decide,
      List.forall_mem_cons.mpr ⟨show l1Stride * row + l1Col40 < textLen by nav_omega,
        List.forall_mem_flatMap.mpr (Log.range fun col hcol => colAcc_ok p row col _ hr hcol)⟩⟩⟩

theorem lowerAcc_ok (cells : List Cell) (row : Nat) (hr : row < 23) :
    ∀ fuel col, ∀ a ∈ lowerAcc cells row fuel col, okAcc a := by
  intro fuel
  induction fuel with
  | zero => exact fun _ => List.forall_mem_nil _
  | succ f ih =>
    intro col
    unfold lowerAcc
    refine Log.ite (fun _ => List.forall_mem_nil _) fun hcol => ?_
    have hcol : col < 41 := by simpa [l1LowerLoop] using hcol
    exact List.forall_mem_cons.mpr ⟨show l1Stride * row + col < textLen by nav_omega,
      Log.ite (fun _ => List.forall_mem_cons.mpr ⟨show l1Stride * row + l1LowerStrides.getD 1 0 + col < textLen by nav_omega,
          List.forall_mem_cons.mpr ⟨show l1Stride * row + l1LowerStrides.getD 2 0 + (col + 1) < textLen by nav_omega, ih _⟩⟩)
        fun _ => List.forall_mem_cons.mpr ⟨show l1Stride * row + l1LowerStrides.getD 0 0 + col < textLen by nav_omega, ih _⟩⟩

theorem pageAcc_ok (p : PageIn) (dr : Nat) (hdr : dr ≤ 25) :
    ∀ fuel row, ∀ a ∈ pageAcc p dr fuel row, okAcc a := by
  intro fuel
  induction fuel with
  | zero => exact fun _ => List.forall_mem_nil _
  | succ f ih =>
    intro row
    unfold pageAcc
    refine Log.ite (fun _ => List.forall_mem_nil _) fun hrow =>
      List.forall_mem_append.mpr ⟨rowAcc_ok p row (by omega), Log.ite (fun hdh => ?_) fun _ => ih _⟩
    have hrr : 0 < row ∧ row < 23 := dh_row (rowCtx p row) hdh
    exact List.forall_mem_append.mpr ⟨lowerAcc_ok _ row hrr.2 _ _,
      List.forall_mem_cons.mpr ⟨show row + 1 < intBits - 1 by nav_omega, ih _⟩⟩

theorem saturate_le (dr : Int) : 1 ≤ saturate dr ∧ saturate dr ≤ 25 := by
  unfold saturate
  have a : satLo = 1 := rfl
  have b : satHi = 25 := rfl
  split
  · omega
  · split
    · omega
    · omega

/-- tag 0: `acp[idx]` with `acp = pg->text + LAST_ROW`; tag 1: `pg->nav_index[idx]`; tag 2: `lop.link[k]`, `pg->nav_link[k]` -/
def okFlof (a : Nat × Nat) : Prop :=
  (a.1 = 0 ∧ flofLinksBase + a.2 < textLen) ∨ (a.1 = 1 ∧ a.2 < navIndexLen) ∨ (a.1 = 2 ∧ a.2 < navLinkLen ∧ a.2 < lopLinkLen)

theorem flofMark_lt (uni : Nat → Nat) (start i : Nat) :
    ∀ a ∈ flofMark uni start i, (a.1 = 0 ∨ a.1 = 1) ∧ a.2 < i := by
  have key : ∀ j ∈ ((List.range i).filter (fun j => start ≤ j)).reverse, j < i := by
    intro j hj; simp at hj; exact hj.1
  exact List.forall_mem_append.mpr ⟨List.forall_mem_map.mpr fun j hj => ⟨Or.inl rfl, key j (List.mem_of_mem_take hj)⟩,
    List.forall_mem_flatMap.mpr fun j hj => List.forall_mem_cons.mpr ⟨⟨Or.inl rfl, key j (List.mem_of_mem_drop hj)⟩,
      List.forall_mem_singleton.mpr ⟨Or.inr rfl, key j (List.mem_of_mem_drop hj)⟩⟩⟩

theorem flofStepLog_ok (fg uni : Nat → Nat) (noPage : Nat → Bool) (s : FlofSt) (i : Nat) (hi : i < flofLinksEnd) :
    ∀ a ∈ flofStepLog fg uni noPage s i, okFlof a := by
  have e1 : flofLinksEnd = 41 := rfl
  have e3 : flofLinksBase = 984 := rfl
  have e4 : textLen = 1056 := rfl
  have self0 : okFlof (0, i) := Or.inl ⟨rfl, show flofLinksBase + i < textLen by omega⟩
  have rd : ∀ a ∈ (if i = flofLinksStop then [] else [(0, i)]), okFlof a :=
    Log.ite (fun _ => List.forall_mem_nil _) fun _ => List.forall_mem_singleton.mpr self0
  refine Log.ite (fun _ => List.forall_mem_append.mpr ⟨List.forall_mem_append.mpr ⟨rd,
      Log.ite (fun hk => ?_) fun _ => List.forall_mem_nil _⟩,
      Log.ite (fun _ => List.forall_mem_nil _) fun _ => List.forall_mem_cons.mpr ⟨self0, List.forall_mem_singleton.mpr self0⟩⟩)
    fun _ => List.forall_mem_append.mpr ⟨rd, Log.opt fun _ => self0⟩
  -- a key was found: `lop.link[k]`, the marked cells, `nav_link[k]`
  have k2 : okFlof (2, flofKey s.col) := Or.inr (Or.inr ⟨rfl,
    show flofKey s.col < navLinkLen by have : flofLinksKeys2 = 4 := rfl; have : navLinkLen = 6 := rfl; omega,
    show flofKey s.col < lopLinkLen by have : flofLinksKeys2 = 4 := rfl; have : lopLinkLen = 36 := rfl; omega⟩)
  refine List.forall_mem_cons.mpr ⟨k2, Log.ite (fun _ => List.forall_mem_append.mpr ⟨fun a ha => ?_,
    List.forall_mem_singleton.mpr k2⟩) fun _ => List.forall_mem_nil _⟩
  obtain ⟨ht, hlt⟩ := flofMark_lt uni s.start i a ha
  have e5 : navIndexLen = 64 := rfl
  exact ht.elim (fun ht => Or.inl ⟨ht, by omega⟩) fun ht => Or.inr (Or.inl ⟨ht, by omega⟩)

theorem flofLinksFrom_ok (fg uni : Nat → Nat) (noPage : Nat → Bool) :
    ∀ n i s, i + n ≤ flofLinksEnd → ∀ a ∈ flofLinksFrom fg uni noPage n i s, okFlof a := by
  intro n
  induction n with
  | zero => exact fun _ _ _ => List.forall_mem_nil _
  | succ n ih =>
    intro i s h
    unfold flofLinksFrom
    refine List.forall_mem_append.mpr ⟨flofStepLog_ok fg uni noPage s i (by omega), ?_⟩
    cases flofStep fg uni s i with
    | none => exact List.forall_mem_nil _
    | some s' => exact ih (i + 1) s' (by omega)

end Zvbi.Nav
