import ZvbiModel.Nav.Model
import ZvbiModel.Log
import ZvbiModel.Yields
/-!
# `keyword` and `zap_links` never fault: the scans of `keyword` stop at the sentinels zap_links puts around the row, the loops of
# zap_links stay inside `buffer[]` and `link[]`
-/
namespace Zvbi.Nav
open Zvbi.Gen.C01Nav

theorem exists_getElem? {α} (l : List α) (i : Nat) (h : i < l.length) : ∃ v, l[i]? = some v :=
  ⟨l[i], List.getElem?_eq_getElem h⟩

/-- The one reason why the scans of `keyword` stay inside the buffer: a position at or in front of the sentinel whose byte
differs from the sentinel's lies in front of it, so the next position is still inside. -/
theorem lt_sentinel {buf : List Nat} {e x pos v : Nat} (he : buf[e]? = some x) (hv : buf[pos]? = some v) (hpe : pos ≤ e)
    (hne : v ≠ x) : pos < e :=
  Nat.lt_of_le_of_ne hpe fun h => hne (Option.some.inj ((h ▸ hv).symm.trans he))

/-- a forward scan stops at the latest at a position `e` whose byte fails the predicate, and reads nothing behind it -/
theorem scanFwd_sentinel (p : Nat → Bool) (buf : List Nat) (e x : Nat) (he : buf[e]? = some x) (hx : p x = false) :
    ∀ fuel pos, pos ≤ e → e - pos < fuel →
      Yields (fun r => pos ≤ r ∧ r ≤ e ∧ ∃ y, buf[r]? = some y ∧ p y = false) (scanFwd p buf fuel pos) := by
  intro fuel
  induction fuel with
  | zero => intro pos _ h; omega
  | succ f ih =>
    intro pos hpe hf
    have hlen : e < buf.length := (List.getElem?_eq_some_iff.1 he).1
    obtain ⟨v, hv⟩ := exists_getElem? buf pos (by omega)
    unfold scanFwd
    rw [hv]
    refine ite_ind (fun hp => ?_) fun hp => .some ⟨Nat.le_refl _, hpe, v, hv, by simpa using hp⟩
    have hlt : pos < e := lt_sentinel he hv hpe fun h => by rw [h, hx] at hp; cases hp
    exact (ih (pos + 1) hlt (by omega)).mono fun r h => ⟨by omega, h.2⟩

/-- a backward scan stops at the latest at `buffer[0]` when that byte fails the predicate -/
theorem scanBack_sentinel (p : Nat → Bool) (buf : List Nat) (x0 : Nat) (h0 : buf[0]? = some x0) (hp : p x0 = false) :
    ∀ q, q < buf.length → Yields (· ≤ q) (scanBack p buf q) := by
  intro q
  induction q with
  | zero =>
    intro _
    unfold scanBack; rw [h0]
    exact ite_ind (fun h => absurd (hp ▸ h) Bool.false_ne_true) fun _ => .some (Nat.le_refl _)
  | succ q ih =>
    intro hq
    obtain ⟨v, hv⟩ := exists_getElem? buf (q + 1) hq
    unfold scanBack; rw [hv]
    exact ite_ind (fun _ => (ih (by omega)).mono fun r hr => by omega) fun _ => .some (Nat.le_refl _)

theorem toLower_space : toLower 0x20 = 0x20 := by decide

/-- `strncasecmp` against a literal without a blank stops at the blank at `e` -/
theorem matchLit_sentinel (buf : List Nat) (e : Nat) (he : buf[e]? = some 0x20) :
    ∀ lit pos, (∀ c ∈ lit, toLower c ≠ 0x20) → pos ≤ e →
      Yields (fun b => b = true → pos + lit.length ≤ e) (matchLit buf pos lit) := by
  intro lit
  induction lit with
  | nil => exact fun pos _ h => .some fun _ => by simpa using h
  | cons c cs ih =>
    intro pos hl hpe
    have hlen : e < buf.length := (List.getElem?_eq_some_iff.1 he).1
    obtain ⟨v, hv⟩ := exists_getElem? buf pos (by omega)
    unfold matchLit; rw [hv]
    refine ite_ind (fun hm => ?_) fun _ => .some fun h => by cases h
    have hlt : pos < e := lt_sentinel he hv hpe fun h => hl c List.mem_cons_self (by rw [← hm, h]; exact toLower_space)
    exact (ih (pos + 1) (fun c' hc' => hl c' (List.mem_cons_of_mem _ hc')) hlt).mono fun b hb h => by
      have := hb h; simp only [List.length_cons]; omega

/-- the buffer zap_links builds: `len + 3` bytes, blanks at 0 and `len + 1` -/
structure WF (buf : List Nat) (len : Nat) : Prop where
  length : buf.length = len + 3
  first : buf[0]? = some 0x20
  last : buf[len + 1]? = some 0x20
  fits : len + 3 ≤ zapBufferLen

theorem isDigit_space : isDigit 0x20 = false := by decide
theorem urlCh_space : urlCh 0x20 = false := by decide
theorem backCh_space : backCh 0x20 = false := by decide

/-- in the buffer of zap_links a forward scan over a class of bytes the blank is not in stops at the trailing blank at the
    latest, within `scanFuel` -/
theorem WF.scan {buf : List Nat} {len : Nat} (wf : WF buf len) (p : Nat → Bool) (hp : p 0x20 = false) (pos : Nat)
    (h : pos ≤ len + 1) :
    Yields (fun r => pos ≤ r ∧ r ≤ len + 1 ∧ ∃ y, buf[r]? = some y ∧ p y = false) (scanFwd p buf scanFuel pos) :=
  scanFwd_sentinel p buf (len + 1) 0x20 wf.last hp scanFuel pos h (by have := wf.fits; unfold scanFuel; omega)

/-- what zap_links needs of a `keyword` result at column `col` (1-based position in `buffer[]`) -/
structure Good (col len pre : Nat) (r : Kw) : Prop where
  pos : 1 ≤ r.n
  stays : col + r.n ≤ len + 1
  back : r.back + 1 ≤ col
  url : r.url ≤ pre + len + 1

theorem urlLoop_sentinel (buf : List Nat) (len : Nat) (wf : WF buf len) :
    ∀ fuel pos k l, pos ≤ len + 1 → len + 1 - pos < fuel →
      Yields (fun res => ∀ e k' l', res = .done e k' l' → pos ≤ e ∧ e ≤ len + 1) (urlLoop buf fuel pos k l) := by
  intro fuel
  induction fuel with
  | zero => intro pos _ _ _ h; omega
  | succ f ih =>
    intro pos k l hpe hf
    unfold urlLoop
    refine (wf.scan urlCh urlCh_space pos hpe).elim fun e ⟨h1, h2, y, hy, _⟩ => ?_
    dsimp only
    rw [hy]
    refine ite_ind (fun hd => ite_both (.some fun _ _ _ h => by cases h) ?_) fun _ =>
      .some fun e' k' l' h => by cases h; exact ⟨h1, h2⟩
    have hlt : e < len + 1 := lt_sentinel wf.last hy h2 (by rw [hd]; decide)
    exact (ih (e + 1) (k + 1) 0 hlt (by omega)).mono fun res hb e' k' l' h => by have := hb e' k' l' h; omega

theorem kwTail_good (buf : List Nat) (len : Nat) (wf : WF buf len) (col i : Nat) (email : Bool) (pre : Nat)
    (hc : 1 ≤ col) (hi : 1 ≤ i) (hci : col + i ≤ len + 1) :
    Yields (Good col len pre) (kwTail buf col i email pre) := by
  -- a result that consumes the prefix only
  have short : ∀ linked, Good col len pre { n := i, linked := linked, url := pre } := fun _ =>
    ⟨hi, hci, hc, (by omega : pre ≤ pre + len + 1)⟩
  unfold kwTail
  refine (urlLoop_sentinel buf len wf scanFuel (col + i) 0 0 hci (by have := wf.fits; unfold scanFuel; omega)).elim
    fun res hb => ?_
  cases res with
  | early => exact .some (short true)
  | done e k l =>
    obtain ⟨h1, h2⟩ := hb e k l rfl
    -- a result that consumes the URL as well: it ends at `e`, and `col + i ≤ e ≤ len + 1`
    have long : ∀ bk url, bk + 1 ≤ col → url ≤ pre + len + 1 →
        Good col len pre { n := i + (e - (col + i)), back := bk, linked := true, url := url } := fun _ _ hbk hurl =>
      ⟨(by omega : 1 ≤ i + (e - (col + i))), (by omega : col + (i + (e - (col + i))) ≤ len + 1), hbk, hurl⟩
    dsimp only
    refine ite_both (.some (short false)) (ite_both (ite_ind (fun h0 => absurd h0 (by omega)) fun _ => ?_)
      (.some (long 0 _ hc (by omega))))
    -- e-mail address: `back` counts from `col - 1` down to where the backward scan stopped, so it is below `col`
    refine (scanBack_sentinel backCh buf 0x20 wf.first backCh_space (col - 1) (by have := wf.length; omega)).elim
      fun r _ => ?_
    dsimp only
    exact ite_both (.some (short false)) (.some (long _ _ (by omega) (by unfold kwAtSign; omega)))

/-- soundness of a prefix table: no blank in the compared part, count = length >= 1, initial url text at most 7 bytes
    (`"mailto:"` = `kwMailto`, and `"http://"` in front of `www.`: the longest text `keyword` copies into `ld->url[]` first) -/
def PrefOK (ps : List (List Nat × Nat × Bool × Nat)) : Prop :=
  ∀ q ∈ ps, (∀ c ∈ q.1.take q.2.1, toLower c ≠ 0x20) ∧ 1 ≤ q.2.1 ∧ (q.1.take q.2.1).length = q.2.1 ∧ q.2.2.2 ≤ 7

instance (ps) : Decidable (PrefOK ps) := by unfold PrefOK; infer_instance

theorem kwPrefix_sentinel (buf : List Nat) (e : Nat) (he : buf[e]? = some 0x20) (col : Nat) (hcol : col ≤ e) :
    ∀ ps, PrefOK ps →
      Yields (fun res => ∀ i email pre, res = some (i, email, pre) → 1 ≤ i ∧ col + i ≤ e ∧ pre ≤ 7) (kwPrefix buf col ps) := by
  intro ps
  induction ps with
  | nil => exact fun _ => .some fun _ _ _ h => by cases h
  | cons q rest ih =>
    intro hok
    obtain ⟨lit, n, em, pre⟩ := q
    obtain ⟨h1, h2, h3, h4⟩ := hok (lit, n, em, pre) List.mem_cons_self
    unfold kwPrefix
    refine (matchLit_sentinel buf e he (lit.take n) col h1 hcol).elim fun b hb => ?_
    cases b with
    | true =>
      refine .some fun i email pre' h => ?_
      cases h
      have := hb rfl
      simp only at h3 h2 h4
      exact ⟨h2, by omega, h4⟩
    | false => exact ih fun q hq => hok q (List.mem_cons_of_mem _ hq)

theorem kwDigits_good (buf : List Nat) (len : Nat) (wf : WF buf len) (col subno c0 : Nat)
    (hc : 1 ≤ col) (hcl : col ≤ len) (h0 : buf[col]? = some c0) (hd : isDigit c0 = true) :
    Yields (Good col len 0) (kwDigits buf col subno) := by
  have scan := wf.scan isDigit isDigit_space
  -- no result of the digit branch has a `back` or an url
  have plain : ∀ n linked, 1 ≤ n → col + n ≤ len + 1 → Good col len 0 { n := n, linked := linked } :=
    fun _ _ h1 h2 => ⟨h1, h2, hc, Nat.zero_le _⟩
  unfold kwDigits
  refine (scan col (by omega)).elim fun e1 ⟨h1, h2, y, hy, hpy⟩ => ?_
  have hgt : col < e1 := lt_sentinel hy h0 h1 fun h => by rw [h, hpy] at hd; cases hd
  obtain ⟨prev, hprev⟩ := exists_getElem? buf (col - 1) (by have := wf.length; omega)
  dsimp only
  refine ite_ind (fun h => absurd h (by omega)) fun _ => ?_
  rw [hprev]
  refine ite_both (.some (plain _ _ (by omega) (by omega))) (ite_both (.some (plain _ _ (by omega) (by omega))) ?_)
  rw [hy]
  refine ite_ind (fun _ => .some (plain _ _ (by omega) (by omega))) fun hsep => ?_
  have hlt : e1 < len + 1 := lt_sentinel wf.last hy h2 fun h => by rw [h] at hsep; revert hsep; decide
  exact (scan (e1 + 1) hlt).elim fun e2 ⟨g1, g2, _⟩ => .some (plain _ _ (by omega) (by omega))

theorem kwPrefixes_ok : PrefOK kwPrefixes := by decide
theorem kwPrefixesAt_ok : PrefOK kwPrefixesAt := by decide

theorem Good.mono {col len pre pre' r} (h : Good col len pre r) (hp : pre ≤ pre') : Good col len pre' r :=
  ⟨h.pos, h.stays, h.back, by have := h.url; omega⟩

/-- `keyword` at any column `1 .. len` of a well-formed buffer: no read outside the initialised bytes, no scan bound used
    up, at least one byte consumed, nothing consumed behind the row, `back` stays behind the leading blank, url fits -/
theorem keyword_good (buf : List Nat) (len : Nat) (wf : WF buf len) (col subno : Nat) (hc : 1 ≤ col) (hcl : col ≤ len) :
    ∃ r, keyword buf col subno = some r ∧ Good col len 7 r := by
  obtain ⟨c0, h0⟩ := exists_getElem? buf col (by have := wf.length; omega)
  have pref := fun ps (hps : PrefOK ps) => kwPrefix_sentinel buf (len + 1) wf.last col (by omega) ps hps
  have tail := fun i email pre (h : 1 ≤ i ∧ col + i ≤ len + 1 ∧ pre ≤ 7) =>
    (kwTail_good buf len wf col i email pre hc h.1 h.2.1).mono fun r hg => hg.mono h.2.2
  show Yields (Good col len 7) (keyword buf col subno)
  unfold keyword; rw [h0]
  refine ite_ind (fun hd => (kwDigits_good buf len wf col subno c0 hc hcl h0 hd).mono fun r hg => hg.mono (Nat.zero_le 7))
    fun _ => (pref kwPrefixes kwPrefixes_ok).elim fun res hr => ?_
  match res, hr with
  | some (i, email, pre), hr => exact tail i email pre (hr i email pre rfl)
  | none, _ =>
    refine ite_both (tail kwAtLen true kwMailto ⟨by decide, by unfold kwAtLen; omega, by decide⟩)
      ((pref kwPrefixesAt kwPrefixesAt_ok).elim fun res2 hr2 => ?_)
    match res2, hr2 with
    | some (i, email, pre), hr2 => exact tail i email pre (hr2 i email pre rfl)
    | none, _ => exact .some ⟨Nat.le_refl 1, Nat.succ_le_succ hcl, hc, Nat.zero_le _⟩

/-- every value of `link[]` is one the function stored (`memset` or a keyword result), none indeterminate -/
def AllSome (l : List (Option Bool)) : Prop := ∀ v ∈ l, v.isSome = true

theorem setRange_some (link : List (Option Bool)) (lo hi : Nat) (v : Bool) (h : hi ≤ link.length) :
    Yields (fun l' => l'.length = link.length ∧ (AllSome link → AllSome l')) (setRange link lo hi v) := by
  unfold setRange
  refine ite_ind (fun h' => absurd h'.2 (by omega)) fun _ => .some ⟨by simp, fun hs =>
    List.forall_mem_map.mpr (Log.range fun idx hidx => ite_both (P := fun o : Option Bool => o.isSome = true) rfl ?_)⟩
  -- a position outside `lo .. hi` keeps its value
  rw [List.getD_eq_getElem?_getD, List.getElem?_eq_getElem hidx]
  exact hs _ (List.getElem_mem hidx)

theorem zapLoop_ok (buf : List Nat) (len : Nat) (wf : WF buf len) (subno : Nat) :
    ∀ fuel i link, i ≤ len → len - i < fuel → link.length = zapLinkLen →
      Yields (fun l' => l'.length = zapLinkLen ∧ (AllSome link → AllSome l')) (zapLoop buf len subno fuel i link) := by
  intro fuel
  induction fuel with
  | zero => intro i _ _ h; omega
  | succ f ih =>
    intro i link hi hf hl
    unfold zapLoop
    refine ite_ind (fun _ => .some ⟨hl, id⟩) fun hge => ?_
    rw [show zapOffsets.getD 4 1 = 1 from rfl]      -- position 4: the `+ 1` of `keyword (&ld, buffer, i + 1, ...)`
    refine Yields.elim (keyword_good buf len wf (i + 1) subno (by omega) (by omega)) fun r hg => ?_
    have h1 := hg.back; have h2 := hg.stays; have h3 := hg.pos; have h4 := hg.url; have h5 := wf.fits
    have hz : zapBufferLen = 43 := rfl
    refine ite_ind (fun h => absurd h (by omega)) fun _ => ite_ind (fun h => absurd h (by unfold urlLen; omega)) fun _ => ?_
    refine (setRange_some link (i - r.back) (i + r.n) r.linked (by rw [hl]; unfold zapLinkLen; omega)).elim
      fun l' ⟨hlen, hs⟩ => ?_
    exact (ih (i + r.n) l' (by omega) (by omega) (by rw [hlen, hl])).mono fun l2 h => ⟨h.1, fun a => h.2 (hs a)⟩

theorem zapAssign_ok (link : List (Option Bool)) :
    ∀ cells j, j + cells.length ≤ link.length →
      Yields (fun vs => vs.length = cells.length ∧ (AllSome link → AllSome vs)) (zapAssign link cells j) := by
  intro cells
  induction cells with
  | nil => exact fun j _ => .some ⟨rfl, fun _ => List.forall_mem_nil _⟩
  | cons c cs ih =>
    intro j hj
    simp only [List.length_cons] at hj
    obtain ⟨v, hv⟩ := exists_getElem? link j (by omega)
    unfold zapAssign; rw [hv]
    exact (ih (if skipped c then j else j + 1) (by split <;> omega)).elim fun vs ⟨hl, ha⟩ =>
      .some ⟨by simp [hl], fun h => List.forall_mem_cons.mpr ⟨h _ (List.mem_of_getElem? hv), ha h⟩⟩

theorem zapBuffer_wf (cells : List ZCell) (h : cells.length ≤ zapCols) :
    WF (zapBuffer cells) (cells.filter (fun c => !skipped c)).length := by
  have hf : (cells.filter (fun c => !skipped c)).length ≤ cells.length := List.length_filter_le _ _
  have hz : zapCols = 40 := rfl
  refine ⟨?_, ?_, ?_, ?_⟩
  · simp [zapBuffer]
  · simp [zapBuffer, zapPads]
  · simp [zapBuffer, zapPads]
  · have : zapBufferLen = 43 := rfl
    omega

/-- zap_links on any row content: no fault, one link value per cell; with `link[]` cleared before the keyword loop none
of them is indeterminate -/
theorem zapLinksF_ok (cleared : Bool) (cells : List ZCell) (subno : Nat) :
    Yields (fun vs => vs.length = min zapCols cells.length ∧ (cleared = true → AllSome vs)) (zapLinksF cleared cells subno) := by
  have hz : zapCols = 40 := rfl
  have hz2 : zapCols2 = 40 := rfl
  have hlen : (cells.take zapCols).length ≤ zapCols := by simp; omega
  have wf := zapBuffer_wf (cells.take zapCols) hlen
  have hf : ((cells.take zapCols).filter (fun c => !skipped c)).length ≤ (cells.take zapCols).length :=
    List.length_filter_le _ _
  unfold zapLinksF
  dsimp only
  refine ite_ind (fun h => absurd h (by rw [wf.length]; have := wf.fits; omega)) fun _ => ?_
  rw [show (zapBuffer (cells.take zapCols)).length - 3 = ((cells.take zapCols).filter (fun c => !skipped c)).length by
    rw [wf.length]; omega]
  refine (zapLoop_ok _ _ wf subno (zapCols + 1) 0 (List.replicate zapLinkLen (if cleared then some false else none))
    (by omega) (by omega) (by simp)).elim fun l' ⟨hlen', hs⟩ => ?_
  refine (zapAssign_ok l' ((cells.take zapCols).take zapCols2) 0 (by rw [hlen']; simp [zapLinkLen]; omega)).mono
    fun vs ⟨hvl, ha⟩ => ⟨by rw [hvl]; simp [hz, hz2] <;> omega, fun hc => ha (hs fun v hv => ?_)⟩
  rw [hc] at hv; simp at hv; rw [hv.2]; rfl

theorem zapLinks_ok (cells : List ZCell) (subno : Nat) :
    ∃ vs, zapLinks cells subno = some vs ∧ vs.length = min zapCols cells.length :=
  (zapLinksF_ok zapLinkCleared cells subno).mono fun _ h => h.1

/-- `cleared = true`, the source with `memset (link, 0, sizeof (link))`: no link attribute zap_links stores is indeterminate -/
theorem zapLinksF_cleared_allSome (cells : List ZCell) (subno : Nat) :
    ∀ vs, zapLinksF true cells subno = some vs → AllSome vs :=
  (zapLinksF_ok true cells subno).elim fun _ q _ h => Option.some.inj h ▸ q.2 rfl

end Zvbi.Nav
