import ZvbiModel.Nav.Link
import ZvbiModel.Nav.KeywordLemmas
import ZvbiModel.Log
/-!
# vbi_resolve_link never faults: the buffer loop keeps `-1 <= b <= j <= i` and every byte `buffer[1 .. j]` written; the finished
# buffer is well-formed for the keyword lemmas; on a blank (column 0 and column `len + 1`) `keyword` reads that byte only
-/
namespace Zvbi.Nav.Link
open Zvbi.Nav Zvbi.Gen.C01Link

/-- the bytes `buffer[1 .. j]` have been written -/
def Written (buf : List (Option Nat)) (j : Int) : Prop :=
  ∀ k : Nat, 1 ≤ k → (k : Int) ≤ j → ∃ v, buf[k]? = some (some v)

theorem rd_written {buf : List (Option Nat)} {j : Int} (h : Written buf j) (p : Int) (h1 : 1 ≤ p) (h2 : p ≤ j) :
    Yields (fun _ => True) (rd buf p) := by
  obtain ⟨v, hv⟩ := h p.toNat (by omega) (by omega)
  unfold rd
  rw [if_neg (by omega), hv]
  exact .some trivial

theorem matchO_ok (buf : List (Option Nat)) (j : Int) (h : Written buf j) :
    ∀ (lit : List Nat) (p : Int), 1 ≤ p → p + (lit.length : Int) ≤ j + 1 → Yields (fun _ => True) (matchO buf p lit) := by
  intro lit
  induction lit with
  | nil => exact fun _ _ _ => .some trivial
  | cons c cs ih =>
    intro p h1 h2
    simp only [List.length_cons] at h2
    unfold matchO
    refine (rd_written h p h1 (by omega)).elim fun v _ => ?_
    exact ite_both (ih (p + 1) (by omega) (by omega)) (.some trivial)

/-- the look-back block never reads in front of `buffer[1]` nor an unwritten byte, and leaves `-1 <= b <= j` -/
theorem newB_ok (buf : List (Option Nat)) (j b : Int) (ch : Nat) (h : Written buf j) (hb1 : -1 ≤ b) (hb2 : b ≤ j)
    (hj : -1 ≤ j) : Yields (fun b' => -1 ≤ b' ∧ b' ≤ j) (newB buf j b ch) := by
  -- what the proof needs of the regenerated numbers: with `j > guard` both look-back pointers are at `buffer[1]` or behind,
  -- the compared bytes end at `buffer[j]`, and the new `b` is -1 or more
  have a1 : 1 ≤ (rlLookGuard + 1) + rlStoreOff - rlAtSub := by decide
  have a2 : rlStoreOff - rlAtSub + ((rlAtLit.take rlAtCnt).length : Int) ≤ 1 := by decide
  have a3 : -1 ≤ (rlLookGuard + 1) - rlAtB ∧ 0 ≤ rlAtB := by decide
  have c1 : 1 ≤ (rlLookGuard + 1) + rlStoreOff - rlASub := by decide
  have c2 : rlStoreOff - rlASub + ((rlALit.take rlACnt).length : Int) ≤ 1 := by decide
  have c3 : -1 ≤ (rlLookGuard + 1) - rlAB ∧ 0 ≤ rlAB := by decide
  have same : Yields (fun b' => -1 ≤ b' ∧ b' ≤ j) (some b) := .some ⟨hb1, hb2⟩
  unfold newB
  refine ite_both (ite_ind (fun hg => ?_) fun _ => ite_both (.some ⟨hj, Int.le_refl _⟩) same) same
  refine (matchO_ok buf j h (rlAtLit.take rlAtCnt) (j + rlStoreOff - rlAtSub) (by omega) (by omega)).elim fun r1 _ => ?_
  cases r1 with
  | true => exact .some ⟨by omega, by omega⟩
  | false =>
    refine (matchO_ok buf j h (rlALit.take rlACnt) (j + rlStoreOff - rlASub) (by omega) (by omega)).elim fun r2 _ => ?_
    cases r2 with
    | true => exact .some ⟨by omega, by omega⟩
    | false => exact same

/-- loop invariant; `lo` = 0 between iterations, -1 behind the restart -/
structure Inv (lo : Int) (i : Nat) (s : LSt) : Prop where
  len : s.buf.length = rlBufferLen
  j1 : lo ≤ s.j
  j2 : s.j ≤ i
  b1 : -1 ≤ s.b
  b2 : s.b ≤ s.j
  wr : Written s.buf s.j

theorem st_some (buf : List (Option Nat)) (idx : Int) (v : Nat) (h0 : 0 ≤ idx) (h1 : idx < buf.length) :
    st buf idx v = some (buf.set idx.toNat (some v)) := by
  unfold st; rw [if_neg (by omega)]

theorem rlStart_inv : Inv 0 0 rlStart :=
  ⟨by simp [rlStart], by decide, by decide, by decide, by decide, fun k h1 h2 => by
    have : rlStart.j = 0 := rfl
    omega⟩

theorem rlRestart_inv (column : Int) (i : Nat) (c : LCell) (s : LSt) (h : Inv 0 i s) :
    Inv (-1) i (rlRestartSt column i c s) :=
  have r : rlRestart = -1 := rfl
  -- behind a restart `j = b = -1`, and no byte counts as written
  ite_ind (fun _ => ⟨h.len, (by omega : (-1 : Int) ≤ rlRestart), (by omega : rlRestart ≤ (i : Int)),
      (by omega : (-1 : Int) ≤ rlRestart), Int.le_refl _, fun k (h1 : 1 ≤ k) (h2 : (k : Int) ≤ rlRestart) => by omega⟩)
    fun _ => ⟨h.len, by have := h.j1; omega, h.j2, h.b1, h.b2, h.wr⟩

theorem rlPut_inv (i : Nat) (s : LSt) (ch : Nat) (hi : i < rlCols) (h : Inv (-1) i s) :
    Yields (Inv 0 (i + 1)) (rlPut s ch) := by
  have o : rlStoreOff = 1 := rfl
  have cl : rlCols + 3 ≤ rlBufferLen := by decide
  have hlen := h.len
  have hj1 := h.j1
  have hj2 := h.j2
  have hidx : (s.j + rlStoreOff).toNat < s.buf.length := by omega
  unfold rlPut
  rw [st_some _ _ _ (by omega) (by omega)]
  dsimp only
  have hw : Written (s.buf.set (s.j + rlStoreOff).toNat (some ch)) (s.j + 1) := by
    intro k k1 k2
    by_cases hk : (s.j + rlStoreOff).toNat = k
    · exact ⟨ch, by rw [← hk, List.getElem?_set_self hidx]⟩
    · obtain ⟨w, hw⟩ := h.wr k k1 (by omega)
      exact ⟨w, by rw [List.getElem?_set_ne hk]; exact hw⟩
  refine (newB_ok (s.buf.set (s.j + rlStoreOff).toNat (some ch)) s.j s.b ch (fun k k1 k2 => hw k k1 (by omega)) h.b1 h.b2
    h.j1).elim fun b' ⟨hb1, hb2⟩ => ?_
  exact .some ⟨List.length_set.trans hlen, (by omega : (0 : Int) ≤ s.j + 1), (by omega : s.j + 1 ≤ ((i + 1 : Nat) : Int)), hb1,
    (by omega : b' ≤ s.j + 1), hw⟩

theorem rlStep_inv (column : Int) (i : Nat) (c : LCell) (s : LSt) (hi : i < rlCols) (h : Inv 0 i s) :
    Yields (Inv 0 (i + 1)) (rlStep column i c s) :=
  ite_both (.some ⟨h.len, h.j1, by have := h.j2; omega, h.b1, h.b2, h.wr⟩) (rlPut_inv i _ _ hi (rlRestart_inv column i c s h))

theorem rlLoop_inv (column : Int) (cell : Nat → LCell) :
    ∀ n i s, i + n ≤ rlCols → Inv 0 i s → ∃ s', rlLoop column cell n i s = some s' ∧ Inv 0 (i + n) s' := by
  intro n
  induction n with
  | zero => exact fun i s _ h => ⟨s, rfl, h⟩
  | succ n ih =>
    intro i s hn h
    show Yields (Inv 0 (i + (n + 1))) (rlLoop column cell (n + 1) i s)
    unfold rlLoop
    exact (rlStep_inv column i (cell i) s (by omega) h).elim fun s1 hi1 =>
      (show i + 1 + n = i + (n + 1) by omega) ▸ ih (i + 1) s1 (by omega) hi1

theorem allWritten_ok : ∀ (l : List (Option Nat)), (∀ k, k < l.length → ∃ v, l[k]? = some (some v)) →
    Yields (fun bs => bs.length = l.length ∧ ∀ (k v : Nat), l[k]? = some (some v) → bs[k]? = some v) (allWritten l)
  | [], _ => .some ⟨rfl, fun k v h => by simp at h⟩
  | none :: xs, h => by obtain ⟨v, hv⟩ := h 0 (by simp); simp at hv
  | some x :: xs, h => by
    unfold allWritten
    refine (allWritten_ok xs fun k hk => by
      obtain ⟨v, hv⟩ := h (k + 1) (by simp; omega)
      exact ⟨v, by simpa using hv⟩).elim fun bs ⟨h2, h3⟩ => .some ⟨by simp [h2], fun k v hk => ?_⟩
    cases k with
    | zero => simp at hk; simp [hk]
    | succ k => simp at hk; simp; exact h3 k v hk

/-- the three stores of `rlFinish` seen from one position: the latest store to it wins -/
theorem getElem?_set3 {α : Type} (buf : List α) (n k : Nat) (a b c : α) (h : n + 2 < buf.length) :
    (((buf.set 0 a).set (n + 1) b).set (n + 2) c)[k]? =
      if n + 2 = k then some c else if n + 1 = k then some b else if 0 = k then some a else buf[k]? := by
  simp only [List.getElem?_set, List.length_set]
  rw [if_pos h, if_pos (by omega : n + 1 < buf.length), if_pos (by omega : 0 < buf.length)]

/-- The buffer `rlFinish` hands over: a buffer that holds `' ' :: buffer[1 .. n] ++ [' ', NUL]` in front (`b3`, what the three stores
leave) has, with `buffer[1 .. n]` written, all of these `n + 3` bytes written. -/
theorem finish_ok (b3 buf : List (Option Nat)) (n : Nat) (hlen : n + 2 < b3.length)
    (at_ : ∀ k, b3[k]? =
      if n + 2 = k then some (some 0) else if n + 1 = k then some (some 0x20) else if 0 = k then some (some 0x20) else buf[k]?)
    (wr : ∀ k, 1 ≤ k → k ≤ n → ∃ v, buf[k]? = some (some v)) :
    Yields (fun bytes => bytes.length = n + 3 ∧ bytes[0]? = some 0x20 ∧ bytes[n + 1]? = some 0x20)
      (allWritten (b3.take (n + 3))) := by
  have len : (b3.take (n + 3)).length = n + 3 := List.length_take_of_le (by omega)
  have take : ∀ k, k < n + 3 → (b3.take (n + 3))[k]? = b3[k]? := fun k hk => List.getElem?_take_of_lt hk
  refine (allWritten_ok _ fun k hk => ?_).mono fun bytes ⟨hl, hv⟩ => ⟨hl.trans len, hv 0 _ ?_, hv (n + 1) _ ?_⟩
  · -- position `k` holds what one of the three stores put there, or a byte the loop has written
    have hk : k < n + 3 := len ▸ hk
    let W := fun o : Option (Option Nat) => ∃ v, o = some (some v)
    rw [take k hk, at_]
    exact ite_ind (P := W) (fun _ => ⟨_, rfl⟩) fun k2 => ite_ind (P := W) (fun _ => ⟨_, rfl⟩) fun k1 =>
      ite_ind (P := W) (fun _ => ⟨_, rfl⟩) fun k0 => wr k (by omega) (by omega)
  · rw [take 0 (by omega), at_, if_neg (by omega), if_neg (by omega), if_pos rfl]
  · rw [take (n + 1) (by omega), at_, if_neg (by omega), if_pos rfl]

/-- the finished buffer: blank, `j` written bytes, blank, NUL - the shape the keyword lemmas are stated for -/
theorem rlFinish_ok (s : LSt) (i : Nat) (hi : i ≤ rlCols) (h : Inv 0 i s) :
    ∃ bytes, rlFinish s = some bytes ∧ WF bytes s.j.toNat := by
  have hlen := h.len
  have hj1 := h.j1
  have hj2 := h.j2
  have c1 : rlCols + 3 ≤ rlBufferLen := by decide
  have c2 : rlCols + 3 ≤ Zvbi.Gen.C01Nav.zapBufferLen := by decide
  have c3 : rlEnd1 = 1 := rfl
  have c4 : rlEnd2 = 2 := rfl
  have t1 : (s.j + rlEnd1).toNat = s.j.toNat + 1 := by omega
  have t2 : (s.j + rlEnd2).toNat = s.j.toNat + 2 := by omega
  have t3 : (s.j + rlEnd2 + 1).toNat = s.j.toNat + 3 := by omega
  show Yields (fun bytes => WF bytes s.j.toNat) (rlFinish s)
  unfold rlFinish
  -- the three stores are inside `buffer[]`
  rw [st_some _ _ _ (by decide) (by rw [hlen]; decide)]; dsimp only
  rw [st_some _ _ _ (by omega) (by rw [List.length_set, hlen]; omega)]; dsimp only
  rw [st_some _ _ _ (by omega) (by rw [List.length_set, List.length_set, hlen]; omega)]; dsimp only
  rw [if_neg (by omega), t1, t2, t3]
  exact (finish_ok _ s.buf s.j.toNat (by simp only [List.length_set]; omega)
    (fun k => getElem?_set3 s.buf s.j.toNat k _ _ _ (by omega)) fun k k1 k2 => h.wr k k1 (by omega)).mono
    fun bytes ⟨hl, hf, hla⟩ => ⟨hl, hf, hla, by omega⟩

theorem kwPrefix_blank (buf : List Nat) (col : Nat) (h : buf[col]? = some 0x20) (ps) (hok : PrefOK ps) :
    kwPrefix buf col ps = some none :=
  -- a prefix that matched would end in front of the blank at `col` where it begins
  (kwPrefix_sentinel buf col h col (Nat.le_refl _) ps hok).elim fun res hr => by
    cases res with
    | none => rfl
    | some q => have := hr q.1 q.2.1 q.2.2 rfl; omega

/-- on a blank `keyword` looks at nothing but that byte (no `s[-1]`, no scan) and returns 1 -/
theorem keyword_blank (buf : List Nat) (col subno : Nat) (h : buf[col]? = some 0x20) :
    keyword buf col subno = some { n := 1 } := by
  unfold keyword; rw [h]; simp only
  rw [if_neg (by decide)]
  rw [kwPrefix_blank buf col h _ kwPrefixes_ok]; simp only
  rw [if_neg (by decide)]
  rw [kwPrefix_blank buf col h _ kwPrefixesAt_ok]

/-- a `keyword` call of vbi_resolve_link at any column `0 .. len + 1` of a well-formed buffer -/
theorem kwCall_ok (bytes : List Nat) (len : Nat) (wf : WF bytes len) (col : Int) (subno : Nat) (h0 : 0 ≤ col)
    (h1 : col ≤ len + 1) :
    ∃ r, kwCall bytes col subno = some r ∧ 1 ≤ r.n ∧ col.toNat + r.n ≤ len + 2 ∧ r.back ≤ col.toNat ∧ r.url + 1 < urlLen := by
  have hf := wf.fits
  have z : Zvbi.Gen.C01Nav.zapBufferLen = 43 := rfl
  have u : urlLen = 256 := rfl
  show Yields (fun r => 1 ≤ r.n ∧ col.toNat + r.n ≤ len + 2 ∧ r.back ≤ col.toNat ∧ r.url + 1 < urlLen) (kwCall bytes col subno)
  unfold kwCall
  refine ite_ind (fun h => absurd h (by omega)) fun _ => ?_
  by_cases hb : col.toNat = 0 ∨ col.toNat = len + 1
  · -- on one of the two blanks
    have hbl : bytes[col.toNat]? = some 0x20 := by
      rcases hb with h | h <;> rw [h]
      · exact wf.first
      · exact wf.last
    rw [keyword_blank bytes _ subno hbl]
    exact ite_ind (fun h => absurd h (by show ¬ (0 + 1 ≥ urlLen); omega)) fun _ =>
      .some ⟨Nat.le_refl 1, by show col.toNat + 1 ≤ len + 2; omega, Nat.zero_le _, by show 0 + 1 < urlLen; omega⟩
  · refine Yields.elim (keyword_good bytes len wf col.toNat subno (by omega) (by omega)) fun r hg => ?_
    have := hg.url
    have := hg.stays
    have := hg.back
    exact ite_ind (fun h => absurd h (by omega)) fun _ => .some ⟨hg.pos, by omega, by omega, by omega⟩

/-- the scan `for (i = 11; i >= 0; i--) if (ait->text[i] > 0x20) break;` ends with `-1 <= i` and reads only `text[0 .. start]` -/
theorem atScan_ok (text : Nat → Nat) : ∀ n (i : Int), -1 ≤ i →
    -1 ≤ (atScan text n i).1 ∧ (atScan text n i).1 ≤ i ∧ ∀ x ∈ (atScan text n i).2, 0 ≤ x ∧ x ≤ i := by
  intro n
  induction n with
  | zero => exact fun i hi => ⟨hi, Int.le_refl _, List.forall_mem_nil _⟩
  | succ n ih =>
    intro i hi
    have s0 : atStop = 0 := rfl
    unfold atScan
    split
    · split
      · exact ⟨hi, Int.le_refl _, List.forall_mem_singleton.mpr ⟨by omega, Int.le_refl _⟩⟩
      · obtain ⟨a, b, c⟩ := ih (i - 1) (by omega)
        exact ⟨a, show (atScan text n (i - 1)).1 ≤ i by omega,
          List.forall_mem_cons.mpr ⟨⟨by omega, Int.le_refl _⟩, fun x hx => by have := c x hx; omega⟩⟩
    · exact ⟨hi, Int.le_refl _, List.forall_mem_nil _⟩

/-- what is in range for an access of ait_title (tags of `atLog`) -/
def okAit (a : Nat × Int) : Prop :=
  if a.1 = 0 then 0 ≤ a.2 ∧ a.2 < (aitTextLen : Int)
  else if a.1 = 1 then 0 ≤ a.2 ∧ a.2 ≤ atStart + 1 ∧ a.2 < (ptBufDoc : Int)
  else if a.1 = 2 then 0 ≤ a.2 ∧ a.2 < (atFonts : Int)
  else (Zvbi.Gen.C01Nav.tuCharLo : Int) ≤ a.2 ∧ a.2 ≤ (Zvbi.Gen.C01Nav.tuCharHi : Int)

theorem atLog_ok (text : Nat → Nat) (h : ∀ k, text k ≤ 0x7F) : ∀ a ∈ atLog text, okAit a := by
  obtain ⟨s1, s2, s3⟩ := atScan_ok text (atStart + 1).toNat atStart (by decide)
  have c1 : atStart = 11 := rfl
  have c2 : (aitTextLen : Int) = 12 := rfl
  have c3 : (ptBufDoc : Int) = 41 := rfl
  have c4 : atNulOff = 1 := rfl
  have c5 : (atFonts : Int) = 2 := rfl
  have c6 : atCharLo = 32 := rfl
  have c7 : atCharPad = 32 := rfl
  have c8 : (Zvbi.Gen.C01Nav.tuCharLo : Int) = 32 := rfl
  have c9 : (Zvbi.Gen.C01Nav.tuCharHi : Int) = 127 := rfl
  -- the tags as `okAit` reads them: 0 = `ait->text[idx]`, 1 = `buf[idx]` (the title and its NUL inside the documented 41 bytes),
  -- 2 = `font[idx]`, 3 = the character handed to vbi_teletext_unicode
  exact List.forall_mem_append.mpr ⟨List.forall_mem_append.mpr ⟨
      List.forall_mem_map.mpr fun x hx => show 0 ≤ x ∧ x < (aitTextLen : Int) by have := s3 x hx; omega,
      List.forall_mem_singleton.mpr (show 0 ≤ _ ∧ _ ≤ atStart + 1 ∧ _ < (ptBufDoc : Int) by omega)⟩,
    List.forall_mem_flatMap.mpr (Log.range fun k hk =>
      List.forall_mem_cons.mpr ⟨show (0 : Int) ≤ 0 ∧ (0 : Int) < (atFonts : Int) by omega,
      List.forall_mem_cons.mpr ⟨show 0 ≤ (k : Int) ∧ (k : Int) < (aitTextLen : Int) by omega,
      List.forall_mem_cons.mpr ⟨show (Zvbi.Gen.C01Nav.tuCharLo : Int) ≤ _ ∧ _ ≤ (Zvbi.Gen.C01Nav.tuCharHi : Int) by
          have := h k; split <;> omega,
        List.forall_mem_singleton.mpr (show 0 ≤ (k : Int) ∧ (k : Int) ≤ atStart + 1 ∧ (k : Int) < (ptBufDoc : Int) by omega)⟩⟩⟩)⟩

theorem ptRefs_balanced (c : PtCase) : (ptRefs c).1 = (ptRefs c).2 ∧ (ptRefs c).1 ≤ 1 := by
  cases c <;> decide

theorem ptLedger_balanced : ∀ cs : List PtCase, (ptLedger cs).1 = (ptLedger cs).2
  | [] => rfl
  | c :: cs => by
    have h := (ptRefs_balanced c).1
    have ih := ptLedger_balanced cs
    unfold ptLedger
    split
    · exact h
    · show (ptRefs c).1 + (ptLedger cs).1 = (ptRefs c).2 + (ptLedger cs).2
      omega

end Zvbi.Nav.Link
