/-!
# Bit fields of natural numbers as `/`, `%`, `*`, `+`

The C code masks with literals, joins disjoint fields with `|||` and shifts by literals. The lemmas down to `div_mod_pair`
turn one of these each into arithmetic that `omega` decides; those after it are about single bits, disjoint operands and
`^^^`, where arithmetic does not reach. None mentions a model. A mask that is all ones below `2 ^ n` applied to a value
already below `2 ^ n`, and the bound `x &&& m < 2 ^ n`, are core's `Nat.and_two_pow_sub_one_of_lt_two_pow` and
`Nat.and_lt_two_pow`.
-/
namespace Zvbi.Bits

theorem and_01 (x : Nat) : x &&& 1 = x % 2 := Nat.and_two_pow_sub_one_eq_mod x 1
theorem and_03 (x : Nat) : x &&& 0x03 = x % 4 := Nat.and_two_pow_sub_one_eq_mod x 2
theorem and_07 (x : Nat) : x &&& 0x07 = x % 8 := Nat.and_two_pow_sub_one_eq_mod x 3
theorem and_0F (x : Nat) : x &&& 0x0F = x % 16 := Nat.and_two_pow_sub_one_eq_mod x 4
theorem and_3F (x : Nat) : x &&& 0x3F = x % 64 := Nat.and_two_pow_sub_one_eq_mod x 6
theorem and_FF (x : Nat) : x &&& 0xFF = x % 256 := Nat.and_two_pow_sub_one_eq_mod x 8

/-- AND with the mask of bits `lo .. lo+n-1`: that field of `x`, left at position `lo`. A literal mask is an instance as a
term, the kernel evaluates the powers: `(and_field x 8 4 : x &&& 0xF00 = x / 256 % 16 * 256)`. -/
theorem and_field (x lo n : Nat) : x &&& (2 ^ (lo + n) - 2 ^ lo) = x / 2 ^ lo % 2 ^ n * 2 ^ lo := by
  have e : 2 ^ (lo + n) - 2 ^ lo = (2 ^ n - 1) * 2 ^ lo := by
    rw [Nat.sub_mul, Nat.one_mul, ← Nat.pow_add, Nat.add_comm]
  rw [e]
  apply Nat.eq_of_testBit_eq; intro i
  simp only [Nat.testBit_and, Nat.testBit_mul_two_pow, Nat.testBit_two_pow_sub_one,
    Nat.testBit_div_two_pow, Nat.testBit_mod_two_pow]
  by_cases h : lo ≤ i
  · simp [h, Bool.and_comm]
  · simp [h]

theorem shl_or (a c k : Nat) (hc : c < 2 ^ k) : a <<< k ||| c = a * 2 ^ k + c := by
  rw [← Nat.shiftLeft_add_eq_or_of_lt hc, Nat.shiftLeft_eq]

theorem or_shl (x y k : Nat) (hx : x < 2 ^ k) : x ||| y <<< k = x + y * 2 ^ k := by
  rw [Nat.or_comm, shl_or y x k hx, Nat.add_comm]

theorem mul_or (a c k : Nat) (hc : c < 2 ^ k) : a * 2 ^ k ||| c = a * 2 ^ k + c :=
  Nat.shiftLeft_eq a k ▸ shl_or a c k hc

theorem or_eq_add_hl (k a b : Nat) (ha : a % 2 ^ k = 0) (hb : b < 2 ^ k) : a ||| b = a + b :=
  Nat.div_mul_cancel (Nat.dvd_of_mod_eq_zero ha) ▸ mul_or (a / 2 ^ k) b k hb

theorem or_eq_add_lh (k a b : Nat) (ha : a % 2 ^ k = 0) (hb : b < 2 ^ k) : b ||| a = a + b :=
  Nat.or_comm a b ▸ or_eq_add_hl k a b ha hb

theorem mod_lt (x n : Nat) (h : 0 < n := by decide) : x % n < n := Nat.mod_lt x h

theorem div_mod_pair (a c n : Nat) (hc : c < n) : (a * n + c) / n = a ∧ (a * n + c) % n = c := by
  have hn : 0 < n := Nat.lt_of_le_of_lt (Nat.zero_le c) hc
  rw [Nat.mul_comm, Nat.mul_add_div hn, Nat.mul_add_mod, Nat.div_eq_of_lt hc, Nat.mod_eq_of_lt hc]
  exact ⟨rfl, rfl⟩

theorem and_two_pow_eq_zero (x i : Nat) : x &&& 2 ^ i = 0 ↔ x.testBit i = false := by
  have e := and_field x i 1
  rw [Nat.pow_succ, Nat.mul_two, Nat.add_sub_cancel] at e
  rw [e, Nat.testBit_eq_decide_div_mod_eq, decide_eq_false_iff_not, Nat.mul_eq_zero]
  have := Nat.two_pow_pos i
  omega

theorem testBit_of_lt {x n i : Nat} (hx : x < 2 ^ n) (hi : n ≤ i) : x.testBit i = false :=
  Nat.testBit_lt_two_pow (Nat.lt_of_lt_of_le hx (Nat.pow_le_pow_right (by decide) hi))

theorem and_shiftLeft_of_lt {a k : Nat} (h : a < 2 ^ k) (b : Nat) : a &&& (b <<< k) = 0 := by
  apply Nat.eq_of_testBit_eq
  intro i
  rw [Nat.testBit_and, Nat.testBit_shiftLeft, Nat.zero_testBit]
  by_cases hi : k ≤ i
  · rw [testBit_of_lt h hi, Bool.false_and]
  · simp [hi]

theorem or_eq_xor_of_and_zero (a b : Nat) (h : a &&& b = 0) : a ||| b = a ^^^ b := by
  apply Nat.eq_of_testBit_eq
  intro i
  have e := congrArg (fun x => x.testBit i) h
  simp only [Nat.testBit_and, Nat.zero_testBit] at e
  rw [Nat.testBit_or, Nat.testBit_xor]
  cases ha : a.testBit i <;> cases hb : b.testBit i <;> simp_all

theorem or_and_zero {a b c : Nat} : (a ||| b) &&& c = 0 ↔ a &&& c = 0 ∧ b &&& c = 0 := by
  rw [Nat.and_or_distrib_right, Nat.or_eq_zero_iff]

theorem xor_eq_zero {a b : Nat} : a ^^^ b = 0 ↔ a = b :=
  ⟨fun h => by
    have : a ^^^ b ^^^ b = 0 ^^^ b := by rw [h]
    rwa [Nat.xor_assoc, Nat.xor_self, Nat.xor_zero, Nat.zero_xor] at this,
   fun h => h ▸ Nat.xor_self a⟩

end Zvbi.Bits
