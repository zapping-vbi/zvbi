import ZvbiModel.Gfx.Model
import ZvbiModel.Log
/-!
The facts about the loops of draw_drcs are decided over the COMPLETE iteration space of each loop (bounds are regenerated
constants, independent of any input); everything that depends on an input (glyph, colour, font bytes, cell position, row
stride, canvas type, region size, unicode) is proved structurally.
-/
namespace Zvbi.Gfx
open Zvbi.Gen.C01Gfx

/-- every byte a loop of draw_drcs reads lies in the 60 bytes of ITS glyph (also with the `src += 30` of the lower halves) -/
theorem loopReads_lt : ∀ l ∈ drcsLoops, ∀ r ∈ loopReads l, r < glyphStride := by decide +kernel

/-- every pixel a loop writes lies in the 10 lines of the cell row and in the 12 (24 for the sizes clip_size replaces) pixel
columns of the character -/
theorem loopPokes_lt : ∀ l ∈ drcsLoops, ∀ p ∈ loopPokes l, p.1 + p.2.1 < tch ∧ p.2.2 < cellW l.1 * tcw := by decide +kernel

theorem clipPairs_narrow : ∀ p ∈ clipPairs, cellW p.2 = 1 := by decide +kernel

theorem consts_agree : glyphStride = charsBytes ∧ advW = tcw ∧ advH = tch ∧ composedLen = composed.length := by decide +kernel

theorem findLoop_mem {size : Nat} {l : Loop} (h : findLoop size = some l) : l ∈ drcsLoops ∧ l.1 = size := by
  unfold findLoop at h
  exact ⟨List.mem_of_find?_eq_some h, by simpa using List.find?_some h⟩

theorem cellW_cases (s : Nat) : cellW s = 1 ∨ cellW s = 2 := by unfold cellW; split <;> simp

theorem cellW_le (s : Nat) : cellW s ≤ 2 := by
  rcases cellW_cases s with h | h <;> omega

/-- in the last column clip_size leaves only sizes one cell wide -/
theorem cellW_clip_last (s : Nat) : cellW (clipSize s true) = 1 := by
  unfold clipSize
  simp only [if_true]
  split
  · next p hp => exact clipPairs_narrow p (List.mem_of_find?_eq_some hp)
  · next hn => unfold cellW; rw [hn]

theorem nibble_hi (b : Nat) : b % 256 >>> 4 ≤ 15 := by
  rw [Nat.shiftRight_eq_div_pow]; have := Nat.mod_lt b (by decide : 256 > 0); omega

/-- the arithmetic of one poke: cell (r, c) of a region `width` cells wide in a canvas of `height * 10` lines of `rs` bytes -/
theorem canvas_bound {r c ln rm px ct rs width height : Nat} (hct : 0 < ct) (hrs : width * 12 * ct ≤ rs) (hr : r < height)
    (hl : ln + rm < 10) (hp : c * 12 + px < width * 12) :
    r * (rs * 10) + c * (12 * ct) + ln * rs + (rm * (rs / ct) + px) * ct + (ct - 1) < rs * (height * 10) := by
  -- the pixel is in line `r * 10 + ln + rm` of the canvas; in that line its last byte is below `(c * 12 + px + 1) * ct`, at most `rs`
  have hline : rm * (rs / ct) * ct ≤ rm * rs := Nat.mul_assoc .. ▸ Nat.mul_le_mul_left rm (Nat.div_mul_le_self rs ct)
  have hbyte : (c * 12 + px + 1) * ct ≤ rs := Nat.le_trans (Nat.mul_le_mul_right ct hp) hrs
  have hpos : 0 < (c * 12 + px + 1) * ct := Nat.mul_pos (Nat.succ_pos _) hct
  calc r * (rs * 10) + c * (12 * ct) + ln * rs + (rm * (rs / ct) + px) * ct + (ct - 1)
      = (r * 10 + ln) * rs + rm * (rs / ct) * ct + ((c * 12 + px + 1) * ct - 1) := by
        simp only [Nat.mul_add, Nat.mul_comm, Nat.mul_left_comm]; omega
    _ < (r * 10 + ln) * rs + rm * rs + rs := by omega
    _ = (r * 10 + ln + rm + 1) * rs := by simp only [Nat.add_mul, Nat.one_mul]
    _ ≤ height * 10 * rs := Nat.mul_le_mul_right rs (by omega)
    _ = rs * (height * 10) := Nat.mul_comm ..

/-- pokes of a loop whose pixels stay in `w` cells, drawn in cell (r, c) with `w` cells left in the region row -/
theorem pokeBytes_ok (l : Loop) {w ct rs width height r c : Nat}
    (hl : ∀ p ∈ loopPokes l, p.1 + p.2.1 < tch ∧ p.2.2 < w * tcw) (hct : 0 < ct)
    (hrs : width * tcw * ct ≤ rs) (hr : r < height) (hc : c + w ≤ width) :
    ∀ a ∈ pokeBytes l ct rs (r * (rs * 10) + c * (12 * ct)), okAcc (rs * (height * tch)) a :=
  List.forall_mem_map.mpr fun p hp => by
    obtain ⟨h1, h2⟩ := hl p hp
    show _ < rs * (height * tch)
    simp only [tcw, tch] at *
    exact canvas_bound hct hrs hr h1 (by omega)

theorem chars_lt {glyph rd : Nat} (hg : glyph < charsGlyphs) (hr : rd < glyphStride) :
    glyph * glyphStride + rd < charsGlyphs * charsBytes := by
  simp only [glyphStride, charsGlyphs, charsBytes] at *; omega

/-- the bytes draw_drcs reads through `src` are those of its loop, counted from the start of the glyph -/
theorem mem_drawDrcs_chars {font : Nat → Nat} {ct rs base color glyph size i : Nat}
    (h : (Site.chars, i) ∈ drawDrcs font ct rs base color glyph size) :
    ∃ l ∈ drcsLoops, ∃ rd ∈ loopReads l, i = glyph * glyphStride + rd := by
  unfold drawDrcs at h
  split at h
  · cases h
  · next l hl =>
    rcases List.mem_append.mp h with h | h
    · obtain ⟨rd, hrd, h⟩ := List.mem_flatMap.mp h
      simp only [List.mem_cons, List.mem_nil_iff, or_false, Prod.mk.injEq, reduceCtorEq, false_and, true_and] at h
      exact ⟨l, (findLoop_mem hl).1, rd, hrd, h⟩
    · obtain ⟨p, _, hp⟩ := List.mem_map.mp h
      cases hp

/-- draw_drcs with a glyph below 48 and a colour offset that leaves room for a 4 bit pixel value, in cell (r, c) of the
region, with a size that fits the cells left in the row -/
theorem drawDrcs_ok (font : Nat → Nat) {ct rs width height r c color glyph size : Nat} (hct : 0 < ct)
    (hrs : width * tcw * ct ≤ rs) (hr : r < height) (hc : c + cellW size ≤ width) (hg : glyph < charsGlyphs)
    (hcol : color + penNibbleMax < penLen) :
    ∀ a ∈ drawDrcs font ct rs (r * (rs * 10) + c * (12 * ct)) color glyph size, okAcc (rs * (height * tch)) a := by
  unfold drawDrcs
  split
  · exact List.forall_mem_nil _
  · next l hl =>
    obtain ⟨hmem, hsz⟩ := findLoop_mem hl
    -- the pokes are `pokeBytes l ct rs base` written out
    refine List.forall_mem_append.mpr ⟨List.forall_mem_flatMap.mpr fun rd hrd => ?_,
      pokeBytes_ok l (hsz ▸ loopPokes_lt l hmem) hct hrs hr hc⟩
    have lo := @Nat.and_le_right (font (glyph * glyphStride + rd) % 256) 15
    have hi := nibble_hi (font (glyph * glyphStride + rd))
    exact List.forall_mem_cons.mpr ⟨chars_lt hg (loopReads_lt l hmem rd hrd),
      List.forall_mem_cons.mpr ⟨show _ < penLen by simp only [penNibbleMax, penLen] at *; omega,
        List.forall_mem_singleton.mpr (show _ < penLen by simp only [penNibbleMax, penLen] at *; omega)⟩⟩

/-- the search loop: indexes below the extent only, result 0 or 0xC0 + (an index of the table) -/
theorem cuLoop_ok (c : Nat) (cb : Nat) : ∀ (f i : Nat),
    (∀ a ∈ (cuLoop c f i).1, okAcc cb a) ∧ ((cuLoop c f i).2 = 0 ∨ (cuBase ≤ (cuLoop c f i).2 ∧ (cuLoop c f i).2 < cuBase + composedLen)) := by
  intro f
  induction f with
  | zero => exact fun _ => ⟨List.forall_mem_nil _, Or.inl rfl⟩
  | succ f ih =>
    intro i
    unfold cuLoop
    split
    · next hi =>
      have hlen : okAcc cb (Site.composed, i) := show i < composed.length by rw [← consts_agree.2.2.2]; exact hi
      split
      · split
        · exact ⟨List.forall_mem_singleton.mpr hlen, Or.inr ⟨by omega, by omega⟩⟩
        · exact ⟨List.forall_mem_cons.mpr ⟨hlen, (ih _).1⟩, (ih _).2⟩
      · exact ⟨List.forall_mem_singleton.mpr hlen, Or.inl rfl⟩
    · exact ⟨List.forall_mem_nil _, Or.inl rfl⟩

/-- the search loop returns `invalid` or, for the special at index `i < 41`, glyph `i` of row 41 (slanted) or row 10 -/
theorem uwSpecial_lt (c : Nat) (italic : Bool) : ∀ f i, uwSpecial c italic f i < tcpl
  | 0, _ => (by decide : uwInvalid < tcpl)
  | f + 1, i => by
    unfold uwSpecial
    have : uwSpecials.length = 41 := by decide
    exact ite_lt (fun hi => ite_lt (fun _ => ite_lt (fun _ => by simp only [uwN93, uwN94, tcpl]; omega)
        fun _ => by simp only [uwN95, uwN96, tcpl]; omega) fun _ => uwSpecial_lt c italic f (i + 1)) fun _ => by decide

/-- a range `lo .. hi - 1` of codes drawn with the glyphs from number `g` on: `c - lo + g` does not wrap in `unsigned` arithmetic -/
theorem block_lt {c lo hi g : Nat} (h1 : lo ≤ c) (h2 : c < hi) (h3 : hi - lo + g ≤ tcpl) : add32 (sub32 c lo) g < tcpl := by
  simp only [add32, sub32, tcpl] at *; omega

/-- flipping bit 5 does not lead out of the 256 codes from 0xEE00 on -/
theorem xor_block : ∀ k : Fin 256, uwN80 ≤ (uwN80 + k.val) ^^^ uwN79 ∧ (uwN80 + k.val) ^^^ uwN79 < uwN78 := by decide +kernel

/-- the slanted glyphs of the first 17 rows are rows 31 .. 47 of the 48 -/
theorem uwTail_lt {c : Nat} (italic : Bool) (h : c < tcpl) : uwTail c italic < tcpl :=
  ite_lt (fun hc => by simp only [add32, uwN87, uwN88, uwN89, uwN90, tcpl] at *; omega) fun _ => h

theorem unicodeWstfont2_lt (c : Nat) (italic : Bool) (hc : c < 4294967296) : unicodeWstfont2 c italic < tcpl := by
  have special := uwSpecial_lt c italic (uwSpecials.length + 1) uwN91
  have invalid : uwInvalid < tcpl := by decide
  have tail {x : Nat} : x < tcpl → uwTail x italic < tcpl := uwTail_lt italic
  unfold unicodeWstfont2
  dsimp only
  -- branch by branch as in the C function; a block of codes is drawn with consecutive glyphs, 32 to a row of the font image
  refine
    ite_lt (fun h42 =>                                                          -- c < 0x180
        ite_lt (fun h43 => ite_lt (fun _ => invalid) fun h44 =>                 -- below 0x20: invalid
            tail (block_lt (Nat.le_of_not_lt h44) h43 (by decide)))             -- Basic Latin 0x20 .. 0x7F, rows 0 .. 2
          fun _ => ite_lt (fun _ => invalid) fun h48 =>                         -- 0x80 .. 0x9F: invalid
            tail (block_lt (Nat.le_of_not_lt h48) h42 (by decide)))             -- Latin-1 Supplement, Latin Extended-A 0xA0 .. 0x17F, rows 3 .. 9
      fun _ => ite_lt (fun h52 =>                                               -- c < 0xEE00
        ite_lt (fun h53 =>                                                      -- c < 0x460
            ite_lt (fun h54 => ite_lt (fun _ => special) fun h55 =>             -- 0x180 .. 0x36F: specials
                tail (block_lt (Nat.le_of_not_lt h55) h54 (by decide)))         -- Greek 0x370 .. 0x3CF, rows 12 .. 14
              fun _ => ite_lt (fun _ => invalid) fun h59 =>                     -- 0x3D0 .. 0x3FF: invalid
                tail (block_lt (Nat.le_of_not_lt h59) h53 (by decide)))         -- Cyrillic 0x400 .. 0x45F, rows 15 .. 17
          fun _ => ite_lt (fun h63 =>                                           -- c < 0x620
              ite_lt (fun h64 => ite_lt (fun _ => invalid) fun h65 =>           -- 0x460 .. 0x5CF: invalid
                  block_lt (Nat.le_of_not_lt h65) h64 (by decide))              -- Hebrew 0x5D0 .. 0x5EF, row 18
                fun _ => ite_lt (fun _ => invalid) fun h69 =>                   -- 0x5F0 .. 0x5FF: invalid
                  block_lt (Nat.le_of_not_lt h69) h63 (by decide))              -- Arabic 0x600 .. 0x61F, row 19
            fun _ => ite_lt (fun h73 => block_lt h73.1 h73.2 (by decide))       -- Arabic (TTX) 0xE600 .. 0xE73F, rows 19 .. 28
              fun _ => special)                                                 -- the rest below 0xEE00: specials
        fun h52 => ite_lt (fun h78 => ?g1) fun h78 => ite_lt (fun h83 => ?g3) fun _ => invalid  -- from 0xF000 on (DRCS): invalid
  case g1 =>
    -- G1 graphics 0xEE00 .. 0xEEFF, rows 23 .. 30, in the order of `c ^ 0x20`
    have hk : c - uwN80 < 256 := by simp only [uwN52, uwN78, uwN80] at *; omega
    have hx := xor_block ⟨c - uwN80, hk⟩
    rw [show uwN80 + (c - uwN80) = c by simp only [uwN52, uwN80] at *; omega] at hx
    exact block_lt hx.1 hx.2 (by decide)
  case g3 =>
    -- G3 graphics 0xEF00 .. 0xEFFF: `c - 0xEF20` wraps below 0xEF20, with 27 * 32 added the result is `c - 0xEF00 + 26 * 32`
    simp only [add32, sub32, tcpl, uwN78, uwN83, uwN84, uwN85, uwN86] at *; omega

theorem lower_sub_half : ∀ s ∈ dcLowerSizes, s ∈ dcHalfSizes := by decide

/-- draw_char with the Teletext font: with a glyph number below TCPL every byte read (`src[0]`, `src[1]` of every line, upper
and lower halves) lies inside wstfont2_bits -/
theorem drawCharReads_ok (glyph size cb : Nat) (hg : glyph < tcpl) : ∀ a ∈ drawCharReads tcpl tcw tch glyph size, okAcc cb a := by
  unfold drawCharReads
  refine List.forall_mem_flatMap.mpr fun y hy => List.forall_mem_map.mpr fun k hk => ?_
  rw [List.mem_range] at hy
  have hk' : k ≤ 1 := by simp [dcSrcIdx] at hk; omega
  -- the lines read are lines of the image: the lower halves begin 5 lines down and, being half height variants, have 5 lines
  have hfit : (if size ∈ dcLowerSizes then tcpl * tcw / dcDiv * tch / dcHalf else 0) +
      (if size ∈ dcHalfSizes then tch >>> dcChShift else tch) * (tcpl * tcw / dcDiv2) ≤ wstBytes :=
    ite_ind (P := fun a => a + _ ≤ wstBytes) (fun h1 => by rw [if_pos (lower_sub_half size h1)]; decide) fun _ =>
      ite_both (P := fun n => 0 + n * _ ≤ wstBytes) (by decide) (by decide)
  show _ < wstBytes
  generalize (if size ∈ dcLowerSizes then _ else 0) = a at hfit ⊢
  generalize (if size ∈ dcHalfSizes then _ else tch) = n at hfit hy
  -- `src[0]`, `src[1]` of a glyph below TCPL lie in one line of 1536 * 12 / 8 bytes
  simp only [tcpl, tcw, dcShift, dcDiv2, wstBytes, Nat.shiftRight_eq_div_pow, Nat.reducePow] at *; omega

theorem charPokes_lt : ∀ l ∈ charLoops, ∀ p ∈ loopPokes l, p.1 + p.2.1 < tch ∧ p.2.2 < cellW l.1 * tcw := by decide +kernel
theorem blankPokes_lt : ∀ p ∈ loopPokes blankLoop, p.1 + p.2.1 < tch ∧ p.2.2 < 1 * tcw := by decide +kernel

/-- the canvas side of draw_char in cell (r, c), with a size that fits the cells left in the row -/
theorem drawCharPokes_ok {ct rs width height r c size : Nat} (hct : 0 < ct) (hrs : width * tcw * ct ≤ rs) (hr : r < height)
    (hc : c + cellW size ≤ width) :
    ∀ a ∈ drawCharPokes ct rs (r * (rs * 10) + c * (12 * ct)) size, okAcc (rs * (height * tch)) a := by
  unfold drawCharPokes
  split
  · exact List.forall_mem_nil _
  · next l hl =>
    have hsz : l.1 = size := by simpa using List.find?_some hl
    exact pokeBytes_ok l (hsz ▸ charPokes_lt l (List.mem_of_find?_eq_some hl)) hct hrs hr hc

theorem size_fits (s c width : Nat) (hc : c < width) : c + cellW (clipSize s (decide (c + 1 = width))) ≤ width := by
  by_cases hl : c + 1 = width
  · rw [decide_eq_true hl, cellW_clip_last]; omega
  · have := cellW_le (clipSize s (decide (c + 1 = width))); omega

/-- the cell loop of vbi_draw_vt_page_region, for any log `cell r c base` of a cell: `row_adv` is not negative, and cell
(r, c) is drawn with the canvas pointer at line `r * 10`, pixel `c * 12` -/
theorem region_ok {ct rs width height cb : Nat} (cell : Nat → Nat → Nat → List (Site × Nat)) (hrs : width * tcw * ct ≤ rs)
    (h : ∀ r c, r < height → c < width → ∀ a ∈ cell r c (r * (rs * 10) + c * (12 * ct)), okAcc cb a) :
    ∀ a ∈ (Site.rowAdv, width * advW * ct - rs * advH) ::
      (List.range height).flatMap fun r => (List.range width).flatMap fun c =>
        cell r c (r * (width * tcw * ct + (rs * advH - width * advW * ct)) + c * (tcw * ct)), okAcc cb a := by
  have hb : ∀ r c, r * (width * tcw * ct + (rs * advH - width * advW * ct)) + c * (tcw * ct) = r * (rs * 10) + c * (12 * ct) := by
    intro r c
    have : width * 12 * ct + (rs * 10 - width * 12 * ct) = rs * 10 := by simp only [tcw] at hrs; omega
    simp only [tcw, advW, advH]; rw [this]
  refine List.forall_mem_cons.mpr ⟨show _ = 0 by simp only [tcw, advW, advH] at *; omega,
    List.forall_mem_flatMap.mpr (Log.range fun r hr => List.forall_mem_flatMap.mpr (Log.range fun c hc => ?_))⟩
  rw [hb]; exact h r c hr hc

theorem planeOf_lt (u : Nat) : planeOf u < pageDrcsLen := by
  have : planeOf u ≤ planeMask := Nat.and_le_right
  simp only [planeMask, pageDrcsLen] at *; omega

/-- the DRCS branch of a cell; `other` is what is drawn when the plane is not set -/
theorem drcsCell_ok (font : Nat → Nat → Nat) (planeSet : Nat → Bool) {ct rs width height r c : Nat} (cl : Cell) (last : Bool)
    {other : List (Site × Nat)} (hct : 0 < ct) (hrs : width * tcw * ct ≤ rs) (hr : r < height)
    (hfit : c + cellW (clipSize cl.size last) ≤ width)
    (hcell : planeSet (planeOf cl.unicode) = true → glyphOf cl.unicode < charsGlyphs ∧ cl.color + penNibbleMax < penLen)
    (ho : ∀ a ∈ other, okAcc (rs * (height * tch)) a) :
    ∀ a ∈ (Site.plane, planeOf cl.unicode) :: (if planeSet (planeOf cl.unicode) then
        drawDrcs (font (planeOf cl.unicode)) ct rs (r * (rs * 10) + c * (12 * ct)) cl.color (glyphOf cl.unicode) (clipSize cl.size last)
      else other), okAcc (rs * (height * tch)) a :=
  List.forall_mem_cons.mpr ⟨planeOf_lt _, Log.ite (fun hps => drawDrcs_ok _ hct hrs hr hfit (hcell hps).1 (hcell hps).2) fun _ => ho⟩

theorem regionAccFull_ok (font : Nat → Nat → Nat) (planeSet : Nat → Bool) (ct rs width height : Nat) (cells : Nat → Nat → Cell)
    (italic : Nat → Nat → Bool) (hct : 0 < ct) (hrs : width * tcw * ct ≤ rs)
    (hu : ∀ r c, r < height → c < width → (cells r c).unicode < 2 ^ 32)
    (hcells : ∀ r c, r < height → c < width → isDrcs (cells r c).unicode = true → planeSet (planeOf (cells r c).unicode) = true →
      glyphOf (cells r c).unicode < charsGlyphs ∧ (cells r c).color + penNibbleMax < penLen) :
    ∀ a ∈ regionAccFull font planeSet ct rs width height cells italic, okAcc (rs * (height * tch)) a :=
  region_ok (fun r c base => cellAccFull font planeSet ct rs base (cells r c) (italic r c) (decide (c + 1 = width))) hrs fun r c hr hc =>
    have hfit := size_fits (cells r c).size c width hc
    Log.ite (fun hd => drcsCell_ok font planeSet _ _ hct hrs hr hfit (hcells r c hr hc hd)
        (pokeBytes_ok blankLoop blankPokes_lt hct hrs hr (by omega))) fun _ =>
      List.forall_mem_append.mpr ⟨List.forall_mem_append.mpr ⟨drawCharReads_ok _ _ _ (unicodeWstfont2_lt _ _ (hu r c hr hc)),
        List.forall_mem_cons.mpr ⟨show 0 < penLen by decide, List.forall_mem_singleton.mpr (show 1 < penLen by decide)⟩⟩,
        drawCharPokes_ok hct hrs hr hfit⟩

end Zvbi.Gfx
