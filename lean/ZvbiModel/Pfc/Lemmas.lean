import ZvbiModel.Hamm.Lemmas
import ZvbiModel.Pfc.Model
import ZvbiModel.Pfc.Spec
import ZvbiModel.Ite
/-!
# Lemmas for the PFC demultiplexer (C15): the state - the buffer index invariant, the decoder's frame, the halves of `feed`

`Inv s`: `bi + left <= 2047`; that it is kept, and that under it no step reads outside the packet, writes outside
`block[2048]` or runs out of fuel, comes with the refinement walk of `Pfc/Grammar.lean` (`decode_ok`, `feed_ok`).
`decode_rePage`: the decoder neither reads nor writes the page bookkeeping, except that `desynced` resets it.
`feedHdr` / `feedRow` are the two halves of `vbi_pfc_demux_feed` (`feed_eq`); `Near`, `Key`: what the paths that do not
decode leave of the state.
-/
namespace Zvbi.Pfc
open Zvbi.Hamm Zvbi.Gen

def Inv (s : St) : Prop := s.blk.length + s.left ≤ 2047

theorem inv_reset (s : St) : Inv (reset s) := by simp [Inv, reset]

theorem inv_new (pgno stream : Nat) : Inv (new pgno stream) := inv_reset _

/-- the rest of the loop body after the `if (dx->left > 0)` statement -/
def afterConsume (buf : List Nat) (bp fuel : Nat) (s : St) (col : Nat) (acc : List Block) : Except Err Out :=
  match findSep buf bp col with
  | .error e => .error e
  | .ok none => .ok ⟨s, true, acc⟩
  | .ok (some (bs, col)) =>
    if bs ≠ some pfcBlockSeparator then .ok (desync s acc)
    else loop buf bp fuel { s with blk := [], left := 4, appId := none } col acc

theorem loop_succ (buf : List Nat) (bp fuel : Nat) (s : St) (col : Nat) (acc : List Block) :
    loop buf bp (fuel + 1) s col acc =
      if col ≥ 42 then .ok ⟨s, true, acc⟩ else
      match consume buf s col acc with
      | .error e => .error e
      | .ok (.ret o) => .ok o
      | .ok (.cont s col) => loop buf bp fuel s col acc
      | .ok (.fall s col acc) => afterConsume buf bp fuel s col acc := by
  rw [loop]
  split
  · rfl
  · cases consume buf s col acc with
    | error e => rfl
    | ok c => cases c <;> rfl

/-- the page bookkeeping is untouched -/
structure Same (s s' : St) : Prop where
  ci : s'.ci = s.ci
  packet : s'.packet = s.packet
  nPackets : s'.nPackets = s.nPackets
  pgno : s'.pgno = s.pgno
  stream : s'.stream = s.stream

/-- `s` with the page bookkeeping (`ci`, `packet`, `n_packets`, `pgno`, `stream`) of `p` -/
def rePage (p s : St) : St :=
  { s with ci := p.ci, packet := p.packet, nPackets := p.nPackets, pgno := p.pgno, stream := p.stream }

/-- a result with return value TRUE carries the page bookkeeping along, FALSE (`desynced`) that of a reset -/
def reOut (p : St) (o : Out) : Out := { o with st := rePage (if o.ret then p else reset p) o.st }

def reC (p : St) : Consumed → Consumed
  | .ret o => .ret (reOut p o)
  | .cont s col => .cont (rePage p s) col
  | .fall s col acc => .fall (rePage p s) col acc

-- every condition reads a field that `rePage` leaves alone, so the two sides branch in step (`ite_congr rfl`)
theorem consume_rePage (buf : List Nat) (p s : St) (col : Nat) (acc : List Block) :
    consume buf (rePage p s) col acc = Except.map (reC p) (consume buf s col acc) := by
  obtain ⟨ci, pk, n, blk, left, appId, bs, pg, st⟩ := s
  unfold consume
  dsimp only [rePage]
  simp only [apply_ite (Except.map (reC p))]
  refine ite_congr rfl (fun _ => ite_congr rfl (fun _ => rfl) fun _ => ite_congr rfl (fun _ => rfl) fun _ =>
    ite_congr rfl (fun _ => rfl) fun _ => ?_) fun _ => rfl
  cases appId with
  | some app => rfl
  | none =>
    show (match pair16 _ _ with | none => _ | some sh => _) = Except.map (reC p) (match pair16 _ _ with | none => _ | some sh => _)
    cases pair16 _ _ <;> rfl

theorem loop_rePage (buf : List Nat) (bp : Nat) (p : St) : ∀ (fuel : Nat) (s : St) (col : Nat) (acc : List Block),
    loop buf bp fuel (rePage p s) col acc = Except.map (reOut p) (loop buf bp fuel s col acc) := by
  intro fuel
  induction fuel with
  | zero => intro s col acc; rfl
  | succ f ih =>
    intro s col acc
    rw [loop_succ, loop_succ, consume_rePage, apply_ite (Except.map (reOut p))]
    refine ite_congr rfl (fun _ => rfl) fun _ => ?_
    cases consume buf s col acc with
    | error e => rfl
    | ok c =>
      cases c with
      | ret o => rfl
      | cont s' col' => exact ih s' col' acc
      | fall s' col' acc' =>
        show afterConsume buf bp f (rePage p s') col' acc' = Except.map (reOut p) (afterConsume buf bp f s' col' acc')
        unfold afterConsume
        cases findSep buf bp col' with
        | error e => rfl
        | ok r =>
          cases r with
          | none => rfl
          | some x =>
            show (if _ then _ else _) = Except.map (reOut p) (if _ then _ else _)
            rw [apply_ite (Except.map (reOut p))]
            exact ite_congr rfl (fun _ => rfl) fun _ => ih { s' with blk := [], left := 4, appId := none } _ _

/-- **the decoder's frame**: `_vbi_pfc_demux_decode` neither reads nor writes the page bookkeeping, except that
    `desynced` resets it -/
theorem decode_rePage (p s : St) (buf : List Nat) :
    decode (rePage p s) buf = Except.map (reOut p) (decode s buf) := by
  unfold decode
  cases rdE buf 2 "buffer[2]" with
  | error e => rfl
  | ok b2 =>
    show (match unham8 b2 with | none => _ | some n => _) = Except.map (reOut p) (match unham8 b2 with | none => _ | some n => _)
    cases unham8 b2 with
    | none => rfl
    | some n =>
      show (if _ then _ else _) = Except.map (reOut p) (if _ then _ else _)
      rw [apply_ite (Except.map (reOut p))]
      exact ite_congr rfl (fun _ => rfl) fun _ => loop_rePage buf _ p 42 s 3 []

theorem decode_page {s : St} {buf : List Nat} {o : Out} (h : decode s buf = .ok o) :
    o.st = rePage (if o.ret then s else reset s) o.st := by
  have := decode_rePage s s buf
  rw [show rePage s s = s from rfl, h] at this
  exact congrArg Out.st (Except.ok.inj this)

theorem decode_same {s : St} {buf : List Nat} {o : Out} (h : decode s buf = .ok o) (hr : o.ret = true) : Same s o.st := by
  have := decode_page h
  rw [hr, if_pos rfl] at this
  rw [this]; exact ⟨rfl, rfl, rfl, rfl, rfl⟩

theorem inv_pageEnd (s : St) (h : Inv s) : Inv (pageEnd s) := by
  unfold pageEnd; split
  · exact inv_reset _
  · exact h

/-- the page header branch of `vbi_pfc_demux_feed` (`packet == 0`) after the page number test:
    the sub-code -/
def feedSub (s : St) (buf : List Nat) : Except Err Out :=
  match pair16 (unham16pI (buf.getD 4 0) (buf.getD 5 0)) (unham16pI (buf.getD 6 0) (buf.getD 7 0)) with
  | none => .ok (desync s [])
  | some subno =>
    if (subno >>> 8) &&& 15 ≠ s.stream then .ok ⟨{ pageEnd s with nPackets := 0 }, true, []⟩ else
    .ok ⟨{ (if subno &&& 15 ≠ s.ci then reset s else pageEnd s) with
            ci := ((subno &&& 15) + 1) &&& 15, packet := 1,
            nPackets := ((subno >>> 4) &&& 7) + ((subno >>> 9) &&& 0x18) }, true, []⟩

/-- the page header branch of `vbi_pfc_demux_feed`; `pgno0` is the magazine, as a page number -/
def feedHdr (s : St) (buf : List Nat) (pgno0 : Nat) : Except Err Out :=
  if unham16pI (buf.getD 2 0) (buf.getD 3 0) < 0 then .ok (desync s []) else
  let pgno := pgno0 ||| (unham16pI (buf.getD 2 0) (buf.getD 3 0)).toNat
  if pgno ≠ s.pgno then
    (if pfcForeignMagHeaderIgnored && decide ((pgno ^^^ s.pgno) &&& 0xF00 ≠ 0) then .ok ⟨s, true, []⟩
     else .ok ⟨{ pageEnd s with nPackets := 0 }, true, []⟩)
  else feedSub s buf

/-- the branch of `vbi_pfc_demux_feed` for the other packets -/
def feedRow (s : St) (buf : List Nat) (pgno0 packet : Nat) : Except Err Out :=
  if (pgno0 ^^^ s.pgno) &&& 0xF00 ≠ 0 then .ok ⟨s, true, []⟩ else
  if s.nPackets = 0 then .ok ⟨s, true, []⟩ else
  if packet > 25 then .ok ⟨s, true, []⟩ else
  if packet ≠ s.packet ∨ packet > s.nPackets then .ok ⟨reset s, true, []⟩ else
  decode { s with packet := packet + 1 } buf

theorem feed_eq (s : St) (buf : List Nat) : feed s buf =
    if buf.length < 8 then .error (.oob "buffer (header)") else
    if unham16pI (buf.getD 0 0) (buf.getD 1 0) < 0 then .ok (desync s []) else
    let pmag := (unham16pI (buf.getD 0 0) (buf.getD 1 0)).toNat
    let pgno0 := if pmag &&& 7 = 0 then 0x800 else (pmag &&& 7) <<< 8
    if pmag >>> 3 = 0 then feedHdr s buf pgno0 else feedRow s buf pgno0 (pmag >>> 3) := by
  unfold feed feedHdr feedRow feedSub  -- opened by name first: a bare `rfl` is slow to check
  rfl

theorem pageEnd_cases (s : St) : pageEnd s = s ∨ pageEnd s = reset s := by
  unfold pageEnd; split
  · exact .inr rfl
  · exact .inl rfl

/-- `s'` is `s` or `reset s` up to the page bookkeeping (`ci`, `packet`, `n_packets`) -/
def Near (s s' : St) : Prop :=
  ∃ s1, (s1 = s ∨ s1 = reset s) ∧ s'.blk = s1.blk ∧ s'.left = s1.left ∧ s'.pgno = s1.pgno ∧ s'.stream = s1.stream

theorem Near.inv {s s' : St} (h : Near s s') (hinv : Inv s) : Inv s' := by
  obtain ⟨s1, h1, hb, hl, _, _⟩ := h
  unfold Inv; rw [hb, hl]
  rcases h1 with rfl | rfl
  · exact hinv
  · exact inv_reset _

theorem Near.book {s s1 : St} (h : s1 = s ∨ s1 = reset s) (a b c : Nat) :
    Near s { s1 with ci := a, packet := b, nPackets := c } := ⟨s1, h, rfl, rfl, rfl, rfl⟩

theorem feedHdr_near (s : St) (buf : List Nat) (pgno0 : Nat) :
    ∃ o, feedHdr s buf pgno0 = .ok o ∧ Near s o.st := by
  let P : Except Err Out → Prop := fun r => ∃ o, r = .ok o ∧ Near s o.st
  have same : P (.ok ⟨s, true, []⟩) := ⟨_, rfl, Near.book (.inl rfl) _ _ _⟩
  have desynced : P (.ok (desync s [])) := ⟨_, rfl, Near.book (.inr rfl) _ _ _⟩
  have closed : P (.ok ⟨{ pageEnd s with nPackets := 0 }, true, []⟩) := ⟨_, rfl, Near.book (pageEnd_cases s) _ _ _⟩
  show P _
  unfold feedHdr feedSub
  refine ite_ind (fun _ => desynced) fun _ => ite_ind (fun _ => ite_both same closed) fun _ => ?_
  cases pair16 _ _ with
  | none => exact desynced
  | some subno => exact ite_both closed ⟨_, rfl, Near.book (ite_both (P := fun x => x = s ∨ x = reset s) (.inr rfl) (pageEnd_cases s)) _ _ _⟩

theorem feedRow_near (s : St) (buf : List Nat) (pgno0 packet : Nat) :
    (∃ o, feedRow s buf pgno0 packet = .ok o ∧ Near s o.st) ∨
      feedRow s buf pgno0 packet = decode { s with packet := packet + 1 } buf := by
  let P : Except Err Out → Prop := fun r => (∃ o, r = .ok o ∧ Near s o.st) ∨ r = decode { s with packet := packet + 1 } buf
  have same : P (.ok ⟨s, true, []⟩) := .inl ⟨_, rfl, Near.book (.inl rfl) _ _ _⟩
  show P _
  unfold feedRow
  exact ite_both same (ite_both same (ite_both same
    (ite_both (.inl ⟨_, rfl, Near.book (.inr rfl) _ _ _⟩) (.inr rfl))))

theorem feed_near (s : St) (buf : List Nat) (h8 : ¬ buf.length < 8) :
    (∃ o, feed s buf = .ok o ∧ Near s o.st) ∨ ∃ p, feed s buf = decode { s with packet := p } buf := by
  rw [feed_eq, if_neg h8]
  dsimp only
  split
  · exact .inl ⟨_, rfl, _, .inr rfl, rfl, rfl, rfl, rfl⟩
  · split
    · exact .inl (feedHdr_near s buf _)
    · rcases feedRow_near s buf _ _ with h | h
      · exact .inl h
      · exact .inr ⟨_, h⟩

/-- the page number and stream the demultiplexer was created for are unchanged -/
def Key (s s' : St) : Prop := s'.pgno = s.pgno ∧ s'.stream = s.stream

theorem decode_key (buf : List Nat) (s : St) (o : Out) (h : decode s buf = .ok o) : Key s o.st := by
  rw [decode_page h]; split <;> exact ⟨rfl, rfl⟩

theorem Near.key {s s' : St} (h : Near s s') : Key s s' := by
  obtain ⟨s1, h1, _, _, hp, hst⟩ := h
  rw [Key, hp, hst]
  rcases h1 with rfl | rfl <;> exact ⟨rfl, rfl⟩

theorem feed_key (buf : List Nat) (s : St) (o : Out) (h : feed s buf = .ok o) : Key s o.st := by
  by_cases h8 : buf.length < 8
  · rw [feed_eq, if_pos h8] at h; cases h
  rcases feed_near s buf h8 with ⟨o', ho, hn⟩ | ⟨p, hp⟩
  · rw [ho] at h; cases h; exact hn.key
  · rw [hp] at h; exact decode_key buf { s with packet := p } o h

/-- what can be done to a demultiplexer -/
inductive Op
  | feed (buf : List Nat)
  | reset

/-- run a history; callbacks are collected in order -/
def runOps (s : St) : List Op → Except Err (St × List Block)
  | [] => .ok (s, [])
  | .reset :: r => runOps (reset s) r
  | .feed b :: r =>
    match feed s b with
    | .error e => .error e
    | .ok o =>
      match runOps o.st r with
      | .error e => .error e
      | .ok (s', bl) => .ok (s', o.blocks ++ bl)

end Zvbi.Pfc
