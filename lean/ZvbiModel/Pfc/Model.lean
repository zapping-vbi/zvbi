import ZvbiModel.Hamm.Model
import ZvbiModel.Generated.IdlPfc
/-!
# Model of src/pfc_demux.c (Page Format Clear demultiplexer)

Follows `vbi_pfc_demux_reset`, `_vbi_pfc_demux_decode`, `vbi_pfc_demux_feed`,
`_vbi_pfc_demux_init` statement by statement.

* `dx->block.block[0 .. dx->bi)` is the list `blk` (`dx->bi = blk.length`); bytes of the 2048 byte
  array beyond `bi` are never observed (a callback sees `block_size = bi` bytes).  The `memcpy`
  into `block + bi` is guarded: writing past `Gen.pfcBlockExtent` yields `.error (.oob ..)`.
* every read of the 42 byte packet goes through `rdE`; a miss yields `.error (.oob ..)`.
* `(int) application_id < 0` is `appId = none`.
* the `while (col < 42)` loop and the filler scan take fuel; `.error .fuel` is proved unreachable
  with fuel 42 (`decode_ok`, `Pfc/Grammar.lean`).
* `vbi_unham16p` is kept as a C `int` (`Int`): `-1` if the first byte fails, `a - 16` if only the
  second fails, because the code *adds* two such values and only tests the sign of the sum.
* the callback returns TRUE (as in the harness).
-/
namespace Zvbi.Pfc
open Zvbi.Hamm Zvbi.Gen

structure Block where
  app : Nat
  size : Nat
  bytes : List Nat
deriving Repr, DecidableEq

structure St where
  ci : Nat
  packet : Nat
  nPackets : Nat
  blk : List Nat
  left : Nat
  appId : Option Nat
  blockSize : Nat
  pgno : Nat
  stream : Nat
deriving Repr, DecidableEq

inductive Err
  | oob (site : String)
  | fuel
deriving Repr, DecidableEq

/-- result of one call: new state, return value, callbacks in order -/
structure Out where
  st : St
  ret : Bool
  blocks : List Block
deriving Repr, DecidableEq

/-- `vbi_pfc_demux_reset` -/
def reset (s : St) : St :=
  { s with ci := 256, packet := 256, nPackets := 0, blk := [], left := 0, appId := none }

/-- `vbi_pfc_demux_new (pgno, stream, ...)` -/
def new (pgno stream : Nat) : St :=
  reset { ci := 0, packet := 0, nPackets := 0, blk := [], left := 0, appId := none, blockSize := 0,
          pgno := pgno, stream := stream }

/-- `vbi_unham16p` as the C `int` it returns -/
def unham16pI (p0 p1 : Nat) : Int :=
  match unham8 p0, unham8 p1 with
  | some a, some b => ((a ||| (b <<< 4) : Nat) : Int)
  | none, _ => -1
  | some a, none => (a : Int) - 16

/-- `lo + hi * 256` followed by `if (x < 0) goto desynced`: `none` = desynced.
    With `Gen.pfcPairSignChecked` (source repaired) each half is tested on its own. -/
def pair16 (lo hi : Int) : Option Nat :=
  if pfcPairSignChecked && (decide (lo < 0) || decide (hi < 0)) then none
  else if lo + hi * 256 < 0 then none else some (lo + hi * 256).toNat

def rdE (buf : List Nat) (j : Nat) (site : String) : Except Err Nat :=
  match buf[j]? with
  | some b => .ok b
  | none => .error (.oob site)

/-- `goto desynced` -/
def desync (s : St) (acc : List Block) : Out := ⟨reset s, false, acc⟩

inductive Consumed
  | ret (o : Out)                                  -- `return`
  | cont (s : St) (col : Nat)                      -- `continue` (structure header parsed)
  | fall (s : St) (col : Nat) (acc : List Block)   -- go on to the separator search

/-- the `if (dx->left > 0) { ... }` statement of the loop body -/
def consume (buf : List Nat) (s : St) (col : Nat) (acc : List Block) : Except Err Consumed :=
  if s.left > 0 then
    let size := min s.left (42 - col)
    if s.blk.length + size > pfcBlockExtent then .error (.oob "block[]") else
    if col + size > buf.length then .error (.oob "buffer (memcpy)") else
    let s1 : St := { s with blk := s.blk ++ (buf.drop col).take size, left := s.left - size }
    if s1.left > 0 then .ok (.ret ⟨s1, true, acc⟩) else
    let col := col + size
    match s1.appId with
    | none =>
      -- sh = vbi_unham16p (block) + vbi_unham16p (block + 2) * 256
      match pair16 (unham16pI (s1.blk.getD 0 0) (s1.blk.getD 1 0))
                   (unham16pI (s1.blk.getD 2 0) (s1.blk.getD 3 0)) with
      | none => .ok (.ret (desync s1 acc))
      | some sh =>
        .ok (.cont { s1 with appId := some (sh &&& 0x1F), blockSize := sh >>> 5,
                             blk := [], left := sh >>> 5 } col)
    | some app => .ok (.fall s1 col (acc ++ [⟨app, s1.blockSize, s1.blk⟩]))
  else .ok (.fall s col acc)

/-- `while (FILLER_BYTE == (bs = vbi_unham8 (buffer[col++]))) { if (col >= 42) return TRUE; }`
    `none` = returned TRUE, `some (bs, col)` = loop left with this `bs` and `col` -/
def skipFill (buf : List Nat) : Nat → Nat → Except Err (Option (Option Nat × Nat))
  | 0, _ => .error .fuel
  | fuel + 1, col =>
    match rdE buf col "buffer (filler scan)" with
    | .error e => .error e
    | .ok b =>
      let bs := unham8 b
      let col := col + 1
      if bs = some pfcFillerByte then
        if col ≥ 42 then .ok none else skipFill buf fuel col
      else .ok (some (bs, col))

/-- the `if (col <= 3) {...} else {...}` statement: `none` = returned TRUE -/
def findSep (buf : List Nat) (bp col : Nat) : Except Err (Option (Option Nat × Nat)) :=
  if col ≤ 3 then
    if bp ≥ 39 then .ok none
    else
      match rdE buf (bp + 4 - 1) "buffer (bp)" with
      | .error e => .error e
      | .ok b => .ok (some (unham8 b, bp + 4))
  else
    if col ≥ 42 then .ok none
    else skipFill buf 42 col

/-- `while (col < 42) { ... }` of `_vbi_pfc_demux_decode` -/
def loop (buf : List Nat) (bp : Nat) : Nat → St → Nat → List Block → Except Err Out
  | 0, _, _, _ => .error .fuel
  | fuel + 1, s, col, acc =>
    if col ≥ 42 then .ok ⟨s, true, acc⟩ else
    match consume buf s col acc with
    | .error e => .error e
    | .ok (.ret o) => .ok o
    | .ok (.cont s col) => loop buf bp fuel s col acc
    | .ok (.fall s col acc) =>
      match findSep buf bp col with
      | .error e => .error e
      | .ok none => .ok ⟨s, true, acc⟩
      | .ok (some (bs, col)) =>
        if bs ≠ some pfcBlockSeparator then .ok (desync s acc)
        else loop buf bp fuel { s with blk := [], left := 4, appId := none } col acc

/-- `_vbi_pfc_demux_decode (dx, buffer)` -/
def decode (s : St) (buf : List Nat) : Except Err Out :=
  match rdE buf 2 "buffer[2]" with
  | .error e => .error e
  | .ok b2 =>
    match unham8 b2 with
    | none => .ok (desync s [])
    | some n =>
      let bp := n * 3
      if bp > 39 then .ok (desync s []) else loop buf bp 42 s 3 []

/-- the check `if (dx->n_packets > 0 && dx->packet != dx->n_packets + 1) vbi_pfc_demux_reset (dx)` that a
    repaired source makes when a page of ours ends (`Gen.pfcPageEndChecked`); the identity on the unrepaired source -/
def pageEnd (s : St) : St :=
  if pfcPageEndChecked && decide (s.nPackets > 0) && decide (s.packet ≠ s.nPackets + 1) then reset s else s

/-- `vbi_pfc_demux_feed (dx, buffer)` -/
def feed (s : St) (buf : List Nat) : Except Err Out :=
  if buf.length < 8 then .error (.oob "buffer (header)") else
  let pmagI := unham16pI (buf.getD 0 0) (buf.getD 1 0)
  if pmagI < 0 then .ok (desync s []) else
  let pmag := pmagI.toNat
  let pgno0 := if pmag &&& 7 = 0 then 0x800 else (pmag &&& 7) <<< 8
  let packet := pmag >>> 3
  if packet = 0 then
    let pp := unham16pI (buf.getD 2 0) (buf.getD 3 0)
    if pp < 0 then .ok (desync s []) else
    let pgno := pgno0 ||| pp.toNat
    if pgno ≠ s.pgno then
      (if pfcForeignMagHeaderIgnored && decide ((pgno ^^^ s.pgno) &&& 0xF00 ≠ 0) then .ok ⟨s, true, []⟩
       else .ok ⟨{ pageEnd s with nPackets := 0 }, true, []⟩) else
    match pair16 (unham16pI (buf.getD 4 0) (buf.getD 5 0)) (unham16pI (buf.getD 6 0) (buf.getD 7 0)) with
    | none => .ok (desync s [])
    | some subno =>
      let stream := (subno >>> 8) &&& 15
      if stream ≠ s.stream then .ok ⟨{ pageEnd s with nPackets := 0 }, true, []⟩ else
      let ci := subno &&& 15
      let s1 := if ci ≠ s.ci then reset s else pageEnd s
      .ok ⟨{ s1 with ci := (ci + 1) &&& 15, packet := 1,
                     nPackets := ((subno >>> 4) &&& 7) + ((subno >>> 9) &&& 0x18) }, true, []⟩
  else
    if (pgno0 ^^^ s.pgno) &&& 0xF00 ≠ 0 then .ok ⟨s, true, []⟩ else
    if s.nPackets = 0 then .ok ⟨s, true, []⟩ else
    if packet > 25 then .ok ⟨s, true, []⟩ else
    if packet ≠ s.packet ∨ packet > s.nPackets then .ok ⟨reset s, true, []⟩ else
    decode { s with packet := packet + 1 } buf

end Zvbi.Pfc
