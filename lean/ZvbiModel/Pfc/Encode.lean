import ZvbiModel.Pfc.Multi
/-!
# Lemmas for the PFC demultiplexer (C15): the executable sender `Spec.encode` and the transmitter `transmit`

The payloads of `Spec.encode`, concatenated, are the flat stream of its blocks (`encode_stream_flat`), and its block pointers
are always usable (`encode_admissible`):
`sepsOK`: every separator that is the first of a packet starting between blocks sits at a multiple
of 3 (<= 36) - an invariant of the layout fold, from the definition of `alignPad`.  `WT` / `Suf`:
the token stream consists of fillers and whole blocks, and the grammar's phase at any cut is the
one the token roles say.  `chunk_adm`: hence each 39 token packet is `Spec.Admissible`.
`encodeChecked_delivers` is about the variant of the sender that checks its own output.
-/
namespace Zvbi.Pfc
open Zvbi.Hamm Zvbi.Gen
open Spec (Ph Res run shDecode)

theorem admissibleB1_sound (ph : Ph) (bp : Nat) (pl : List Nat) (h : Spec.admissibleB1 ph bp pl = true) :
    Spec.Admissible ph bp pl := by
  unfold Spec.admissibleB1 at h
  simp only [Bool.and_eq_true, decide_eq_true_eq] at h
  obtain ⟨⟨h1, h2⟩, h3⟩ := h
  refine ⟨h1, h2, ?_⟩
  intro hph
  subst hph
  simp only [Bool.or_eq_true, Bool.and_eq_true, decide_eq_true_eq, List.all_eq_true, beq_iff_eq] at h3
  rcases h3 with ⟨a, b⟩ | ⟨⟨a, b⟩, c⟩
  · exact Or.inl ⟨a, b⟩
  · exact Or.inr ⟨a, b, c⟩

theorem admissibleB_sound : ∀ (rows : List (Nat × List Nat)) (ph : Ph),
    Spec.admissibleB ph rows = true → Spec.AdmissibleAll ph rows := by
  intro rows
  induction rows with
  | nil => intro _ _; trivial
  | cons row t ih =>
    intro ph h
    obtain ⟨bp, pl⟩ := row
    simp only [Spec.admissibleB, Bool.and_eq_true] at h
    exact ⟨admissibleB1_sound ph bp pl h.1, ih _ h.2⟩

/-- **the self-checking sender is always right**: whatever `encodeChecked` lets through, however
    its rows are distributed over pages, is delivered as exactly the non-empty blocks -/
theorem encodeChecked_delivers (pgno stream : Nat) (hpg1 : 0x100 ≤ pgno) (hpg2 : pgno < 0x900) (hst : stream < 16)
    (lead : Nat) (items : List Spec.Item) (rows : List (Nat × List Nat))
    (henc : Spec.encodeChecked lead items = some rows)
    (ci : Nat) (hci : ci < 16) (pages : List Spec.Page) (hn : ∀ pg ∈ pages, pg.rows.length ≤ 25)
    (hrows : Spec.allRows pages = rows) :
    ∃ s' bl, feedAll (new pgno stream) (Spec.pagesPkts pgno stream ci pages) = .ok (s', bl) ∧
      bl.map toSpec = Spec.delivered (Spec.itemBlocks items) := by
  unfold Spec.encodeChecked at henc
  dsimp only at henc
  split at henc
  · rename_i hc
    cases henc
    simp only [Bool.and_eq_true, decide_eq_true_eq] at hc
    exact feed_delivers_run pgno stream hpg1 hpg2 hst _ ci hci pages hn (by rw [hrows]; exact hc.2)
      (by rw [hrows]; exact admissibleB_sound _ _ hc.1)
  · cases henc

theorem chunks_flatten : ∀ (n : Nat) (l : List (Spec.Role × Nat)), l.length ≤ n → (Spec.chunks n l).flatten = l := by
  intro n
  induction n with
  | zero => intro l h; have : l = [] := List.length_eq_zero_iff.mp (by omega); subst this; rfl
  | succ k ih =>
    intro l h
    unfold Spec.chunks
    by_cases he : l.isEmpty = true
    · rw [if_pos he]; have : l = [] := List.isEmpty_iff.mp he; subst this; rfl
    · rw [if_neg he, List.flatten_cons, ih _ (by
        have : l ≠ [] := fun h0 => he (by rw [h0]; rfl)
        have : 0 < l.length := List.length_pos_iff.mpr this
        rw [List.length_drop]; omega), List.take_append_drop]

theorem encode_flatten (lead : Nat) (items : List Spec.Item) :
    ((Spec.encode lead items).map (·.2)).flatten = (Spec.layout lead items).map (·.2) := by
  unfold Spec.encode
  simp only [List.map_map]
  have : ((fun x : Nat × List Nat => x.2) ∘ fun c : List (Spec.Role × Nat) => (Spec.bpOf c, c.map (·.2))) =
      fun c => c.map (·.2) := rfl
  rw [this, ← List.map_flatten, chunks_flatten _ _ (Nat.le_refl _)]

def stepL (out : List (Spec.Role × Nat)) (it : Spec.Item) : List (Spec.Role × Nat) :=
  out ++ Spec.fills (Spec.alignPad out) ++ Spec.blockToks it ++ Spec.fills it.gap

theorem layout_eq (lead : Nat) (items : List Spec.Item) : Spec.layout lead items =
    items.foldl stepL (Spec.fills lead) ++ Spec.fills ((39 - (items.foldl stepL (Spec.fills lead)).length % 39) % 39) := rfl

/-- the fold of `layout` only appends, per item, some fillers, the block and its gap -/
theorem fold_shape : ∀ (items : List Spec.Item) (out : List (Spec.Role × Nat)),
    ∃ pads : List Nat, pads.length = items.length ∧
      items.foldl stepL out = out ++ (items.zip pads).flatMap
        (fun ip => Spec.fills ip.2 ++ Spec.blockToks ip.1 ++ Spec.fills ip.1.gap) := by
  intro items
  induction items with
  | nil => intro out; exact ⟨[], rfl, by simp⟩
  | cons it t ih =>
    intro out
    obtain ⟨pads, hl, he⟩ := ih (stepL out it)
    refine ⟨Spec.alignPad out :: pads, by simp [hl], ?_⟩
    rw [List.foldl_cons, he]
    simp [stepL, List.append_assoc]

theorem fills_bytes (n : Nat) : (Spec.fills n).map (·.2) = List.replicate n Spec.fillByte := by
  simp [Spec.fills]

theorem blockToks_bytes (it : Spec.Item) :
    (Spec.blockToks it).map (·.2) = Spec.blockBytes ⟨it.app, it.data⟩ := by
  simp [Spec.blockToks, Spec.blockBytes, List.map_map, Function.comp_def]

theorem flat_cons (lead : Nat) (b : Spec.Blk) (g : Nat) (z : List (Spec.Blk × Nat)) :
    Spec.flat lead ((b, g) :: z) = List.replicate lead Spec.fillByte ++ (Spec.blockBytes b ++ Spec.flat g z) := by
  simp [Spec.flat, List.append_assoc]

/-- fillers before each block can be read as part of the previous gap -/
theorem conv_flat : ∀ (l : List (Spec.Item × Nat)) (k fin : Nat),
    ∃ lead' gaps, gaps.length = l.length ∧
      List.replicate k Spec.fillByte ++
        (l.flatMap (fun ip => List.replicate ip.2 Spec.fillByte ++ Spec.blockBytes ⟨ip.1.app, ip.1.data⟩ ++
          List.replicate ip.1.gap Spec.fillByte) ++ List.replicate fin Spec.fillByte) =
      Spec.flat lead' ((l.map (fun ip => (⟨ip.1.app, ip.1.data⟩ : Spec.Blk))).zip gaps) := by
  intro l
  induction l with
  | nil =>
    intro k fin
    refine ⟨k + fin, [], rfl, ?_⟩
    simp [Spec.flat]
  | cons ip t ih =>
    intro k fin
    obtain ⟨lead'', gaps, hl, he⟩ := ih ip.1.gap fin
    refine ⟨k + ip.2, lead'' :: gaps, by simp [hl], ?_⟩
    simp only [List.map_cons, List.zip_cons_cons, flat_cons, ← he, List.flatMap_cons, ← List.replicate_append_replicate,
      List.append_assoc]

theorem encode_stream_flat (lead : Nat) (items : List Spec.Item) :
    ∃ lead' gaps, gaps.length = items.length ∧
      ((Spec.encode lead items).map (·.2)).flatten =
        Spec.flat lead' ((items.map (fun it => (⟨it.app, it.data⟩ : Spec.Blk))).zip gaps) := by
  rw [encode_flatten]
  obtain ⟨pads, hpl, hfold⟩ := fold_shape items (Spec.fills lead)
  rw [layout_eq, hfold]
  obtain ⟨lead', gaps, hgl, hconv⟩ := conv_flat (items.zip pads) lead
    ((39 - (Spec.fills lead ++ (items.zip pads).flatMap
        (fun ip => Spec.fills ip.2 ++ Spec.blockToks ip.1 ++ Spec.fills ip.1.gap)).length % 39) % 39)
  have hmapfst : (items.zip pads).map (fun ip => (⟨ip.1.app, ip.1.data⟩ : Spec.Blk)) =
      items.map (fun it => (⟨it.app, it.data⟩ : Spec.Blk)) := by
    have : (items.zip pads).map Prod.fst = items := List.map_fst_zip (by omega)
    conv => rhs; rw [← this]
    rw [List.map_map]; rfl
  refine ⟨lead', gaps, ?_, ?_⟩
  · rw [hgl, List.length_zip, hpl]; simp
  · rw [← hmapfst, ← hconv]
    simp only [List.map_append, fills_bytes, List.map_flatMap, blockToks_bytes, List.append_assoc]

open Spec (Role)

abbrev Tok := Role × Nat

/-- an item that can be sent: `Spec.Blk.Ok` of its block -/
def Spec.Item.Ok (it : Spec.Item) : Prop := it.app < 32 ∧ it.data.length ≤ 2047

/-- a separator after `A` would be the first of a packet that starts between blocks: the condition `firstInPkt ∧ startsIdle`
    under which `Spec.alignPad` pads -/
def FirstSep (A : List Tok) : Prop :=
  ((A.drop (A.length - A.length % 39)).all (fun t => t.1 ≠ Role.sep)) = true ∧
  (A.length % 39 = 0 ∨ (A[A.length - A.length % 39]?).map (·.1) = some Role.fill)

instance (A : List Tok) : Decidable (FirstSep A) := by unfold FirstSep; infer_instance

/-- a separator after `A` can be announced by the block pointer: its offset in the packet is a multiple of 3, at most 36 -/
def Aligned (A : List Tok) : Prop := A.length % 39 % 3 = 0 ∧ A.length % 39 ≤ 36

theorem alignPad_eq (out : List Tok) : Spec.alignPad out =
    if FirstSep out then (if out.length % 39 ≤ 36 then (3 - out.length % 39 % 3) % 3 else 39 - out.length % 39) else 0 := by
  unfold Spec.alignPad FirstSep
  rfl

theorem pad_aligned (out : List Tok) (h : FirstSep (out ++ Spec.fills (Spec.alignPad out))) :
    Aligned (out ++ Spec.fills (Spec.alignPad out)) := by
  rw [alignPad_eq] at h ⊢
  by_cases hc : FirstSep out
  · rw [if_pos hc] at h ⊢
    unfold Aligned
    simp only [List.length_append, Spec.fills, List.length_replicate]
    split <;> omega
  · rw [if_neg hc] at h
    simp only [Spec.fills, List.replicate_zero, List.append_nil] at h
    exact absurd h hc

/-- every separator of `rest` (which follows `pre`) that needs announcing can be announced -/
def sepsOK : List Tok → List Tok → Prop
  | _, [] => True
  | pre, t :: r => (t.1 = Role.sep → FirstSep pre → Aligned pre) ∧ sepsOK (pre ++ [t]) r

theorem sepsOK_append (a b : List Tok) : ∀ pre, sepsOK pre (a ++ b) ↔ sepsOK pre a ∧ sepsOK (pre ++ a) b := by
  induction a with
  | nil => intro pre; simp [sepsOK]
  | cons t r ih =>
    intro pre
    simp only [List.cons_append, sepsOK, ih (pre ++ [t]), List.append_assoc, List.cons_append, List.nil_append, and_assoc]

theorem sepsOK_nosep (l : List Tok) (h : ∀ t ∈ l, t.1 ≠ Role.sep) : ∀ pre, sepsOK pre l := by
  induction l with
  | nil => intro pre; trivial
  | cons t r ih =>
    intro pre
    exact ⟨fun hs => absurd hs (h t (by simp)), ih (fun x hx => h x (by simp [hx])) _⟩

theorem fills_nosep (n : Nat) : ∀ t ∈ Spec.fills n, t.1 ≠ Role.sep := by
  intro t ht
  rw [Spec.fills] at ht
  rw [List.eq_of_mem_replicate ht]
  decide

def hdrToks (hs : List Nat) : List Tok := hs.map (fun b => (Role.hdr, b))
def dataToks (ds : List Nat) : List Tok := ds.map (fun b => (Role.data, b))

theorem blockToks_eq (it : Spec.Item) : Spec.blockToks it = (Role.sep, Spec.sepByte) ::
    (hdrToks (Spec.hdrBytes it.app it.data.length) ++ dataToks it.data) := rfl

theorem block_tail_nosep (it : Spec.Item) :
    ∀ t ∈ hdrToks (Spec.hdrBytes it.app it.data.length) ++ dataToks it.data, t.1 ≠ Role.sep := by
  intro t ht
  simp only [hdrToks, dataToks, List.mem_append, List.mem_map] at ht
  rcases ht with ⟨b, _, rfl⟩ | ⟨b, _, rfl⟩ <;> simp

theorem sepsOK_step (out : List Tok) (it : Spec.Item) (h : sepsOK [] out) : sepsOK [] (stepL out it) := by
  unfold stepL
  rw [sepsOK_append, sepsOK_append, sepsOK_append]
  refine ⟨⟨⟨h, sepsOK_nosep _ (fills_nosep _) _⟩, ?_⟩, sepsOK_nosep _ (fills_nosep _) _⟩
  rw [blockToks_eq]
  simp only [List.nil_append]
  exact ⟨fun _ hc => pad_aligned out hc, sepsOK_nosep _ (block_tail_nosep it) _⟩

theorem sepsOK_layout (lead : Nat) (items : List Spec.Item) : sepsOK [] (Spec.layout lead items) := by
  rw [layout_eq, sepsOK_append]
  refine ⟨?_, sepsOK_nosep _ (fills_nosep _) _⟩
  have : ∀ (items : List Spec.Item) (out : List Tok), sepsOK [] out → sepsOK [] (items.foldl stepL out) := by
    intro items
    induction items with
    | nil => intro out h; exact h
    | cons it t ih => intro out h; exact ih _ (sepsOK_step out it h)
  exact this items _ (sepsOK_nosep _ (fills_nosep _) _)

def fillTok : Tok := (Role.fill, Spec.fillByte)

/-- a token stream that consists of fillers and whole sendable blocks -/
inductive WT : List Tok → Prop
  | nil : WT []
  | fill (t : List Tok) : WT t → WT (fillTok :: t)
  | block (it : Spec.Item) (t : List Tok) : it.Ok → WT t → WT (Spec.blockToks it ++ t)

theorem WT_fills (n : Nat) (t : List Tok) (h : WT t) : WT (Spec.fills n ++ t) := by
  induction n with
  | zero => simpa [Spec.fills] using h
  | succ k ih =>
    have : Spec.fills (k + 1) ++ t = fillTok :: (Spec.fills k ++ t) := by
      simp [Spec.fills, List.replicate_succ, fillTok]
    rw [this]; exact WT.fill _ ih

theorem WT_flatMap (l : List (Spec.Item × Nat)) (hok : ∀ ip ∈ l, ip.1.Ok)
    (t : List Tok) (h : WT t) :
    WT (l.flatMap (fun ip => Spec.fills ip.2 ++ Spec.blockToks ip.1 ++ Spec.fills ip.1.gap) ++ t) := by
  induction l with
  | nil => simpa using h
  | cons ip r ih =>
    have h1 := hok ip (by simp)
    rw [List.flatMap_cons, List.append_assoc, List.append_assoc, List.append_assoc]
    apply WT_fills
    apply WT.block _ _ h1
    apply WT_fills
    exact ih (fun x hx => hok x (by simp [hx]))

theorem WT_layout (lead : Nat) (items : List Spec.Item) (hok : ∀ it ∈ items, it.Ok) :
    WT (Spec.layout lead items) := by
  obtain ⟨pads, hpl, hfold⟩ := fold_shape items (Spec.fills lead)
  rw [layout_eq, hfold, List.append_assoc]
  apply WT_fills
  apply WT_flatMap
  · intro ip hip
    exact hok ip.1 (List.of_mem_zip hip).1
  · have := WT_fills ((39 - (Spec.fills lead ++ (items.zip pads).flatMap
        (fun ip => Spec.fills ip.2 ++ Spec.blockToks ip.1 ++ Spec.fills ip.1.gap)).length % 39) % 39) [] WT.nil
    rwa [List.append_nil] at this

/-- `S` is what remains of a well-tagged stream when the grammar is in phase `ph` -/
def Suf : Ph → List Tok → Prop
  | .idle, S => WT S
  | .hdr g, S => ∃ app size hs ds rest, S = hdrToks hs ++ (dataToks ds ++ rest) ∧
      g ++ hs = Spec.hdrBytes app size ∧ ds.length = size ∧ hs ≠ [] ∧ app < 32 ∧ size ≤ 2047 ∧ WT rest
  | .data _ n g, S => ∃ ds rest, S = dataToks ds ++ rest ∧ g.length + ds.length = n ∧ ds ≠ [] ∧ WT rest

/-- one token: the grammar accepts it and the rest is again a suffix for the new phase -/
theorem suf_step (ph : Ph) (t : Tok) (S : List Tok) (h : Suf ph (t :: S)) :
    ∃ ph', Suf ph' S ∧ ∀ acc r, ∃ acc', run ph acc (t.2 :: r) = run ph' acc' r := by
  cases ph with
  | idle =>
    have hw : WT (t :: S) := h
    generalize hL : t :: S = L at hw
    cases hw with
    | nil => cases hL
    | fill t' ht' =>
      cases hL
      refine ⟨.idle, ht', fun acc r => ⟨acc, ?_⟩⟩
      rw [run_idle_cons]
      simp [fillTok, unham8_fill]
    | block it t' hok ht' =>
      rw [blockToks_eq, List.cons_append] at hL
      cases hL
      refine ⟨.hdr [], ⟨it.app, it.data.length, Spec.hdrBytes it.app it.data.length, it.data, t', ?_, rfl, rfl, ?_, hok.1, hok.2, ht'⟩,
        fun acc r => ⟨acc, ?_⟩⟩
      · exact List.append_assoc ..
      · simp [Spec.hdrBytes]
      · rw [run_idle_cons]
        simp [unham8_sep]
  | hdr g =>
    obtain ⟨app, size, hs, ds, rest, hS, hg, hds, hne, ha, hsz, hw⟩ := h
    subst hds
    cases hs with
    | nil => exact absurd rfl hne
    | cons b hs' =>
      simp only [hdrToks, List.map_cons, List.cons_append] at hS
      cases hS
      have hlen : (g ++ b :: hs').length = 4 := by rw [hg]; rfl
      simp only [List.length_append, List.length_cons] at hlen
      by_cases hn : hs' = []
      · subst hn
        simp only [List.length_nil] at hlen
        have hgb : g ++ [b] = Spec.hdrBytes app ds.length := hg
        have hrun : ∀ acc r, run (.hdr g) acc (b :: r) =
            if ds.length = 0 then run .idle acc r else run (.data app ds.length []) acc r := fun acc r => by
          rw [run_hdr_cons, if_neg (by omega), hgb, hdrDone_hdrBytes _ _ _ _ ha hsz]
        by_cases hz : ds.length = 0
        · refine ⟨.idle, ?_, fun acc r => ⟨acc, by rw [hrun, if_pos hz]⟩⟩
          rw [List.length_eq_zero_iff.mp hz]; exact hw
        · have hz' : ds ≠ [] := fun h0 => hz (by rw [h0]; rfl)
          exact ⟨.data app ds.length [], ⟨ds, rest, by simp, by simp, hz', hw⟩,
            fun acc r => ⟨acc, by rw [hrun, if_neg hz]⟩⟩
      · have hl' : 0 < hs'.length := List.length_pos_iff.mpr hn
        refine ⟨.hdr (g ++ [b]), ⟨app, ds.length, hs', ds, rest, rfl, by simpa using hg, rfl, hn, ha, hsz, hw⟩,
          fun acc r => ⟨acc, ?_⟩⟩
        rw [run_hdr_cons, if_pos (by omega)]
  | data a n g =>
    obtain ⟨ds, rest, hS, hlen, hne, hw⟩ := h
    cases ds with
    | nil => exact absurd rfl hne
    | cons d ds' =>
      simp only [dataToks, List.map_cons, List.cons_append] at hS
      cases hS
      simp only [List.length_cons] at hlen
      by_cases hn : ds' = []
      · subst hn
        simp only [List.length_nil] at hlen
        refine ⟨.idle, hw, fun acc r => ⟨acc ++ [(a, g ++ [d])], ?_⟩⟩
        rw [run_data_cons, if_neg (by omega)]
      · have hl' : 0 < ds'.length := List.length_pos_iff.mpr hn
        refine ⟨.data a n (g ++ [d]), ⟨ds', rest, rfl, by simp; omega, hn, hw⟩, fun acc r => ⟨acc, ?_⟩⟩
        rw [run_data_cons, if_pos (by omega)]

theorem suf_chunk : ∀ (c : List Tok) (ph : Ph) (S : List Tok), Suf ph (c ++ S) →
    ∃ ph', Suf ph' S ∧ ∀ acc, ∃ acc', run ph acc (c.map (·.2)) = ⟨ph', acc', true⟩ := by
  intro c
  induction c with
  | nil => intro ph S h; exact ⟨ph, h, fun acc => ⟨acc, by simp [run_nil]⟩⟩
  | cons t c' ih =>
    intro ph S h
    obtain ⟨ph1, h1, hr1⟩ := suf_step ph t (c' ++ S) h
    obtain ⟨ph', h2, hr2⟩ := ih ph1 S h1
    refine ⟨ph', h2, fun acc => ?_⟩
    obtain ⟨acc1, e1⟩ := hr1 acc (c'.map (·.2))
    obtain ⟨acc', e2⟩ := hr2 acc1
    exact ⟨acc', by rw [List.map_cons, e1, e2]⟩

theorem wt_prefix_fills : ∀ (fs R : List Tok), WT (fs ++ R) → (∀ t ∈ fs, t.1 ≠ Role.sep) →
    (∀ t ∈ fs, t = fillTok) ∧ WT R := by
  intro fs
  induction fs with
  | nil => intro R h _; exact ⟨by simp, h⟩
  | cons x fs' ih =>
    intro R h hns
    generalize hL : (x :: fs') ++ R = L at h
    cases h with
    | nil => cases hL
    | fill t' ht' =>
      simp only [List.cons_append] at hL
      cases hL
      obtain ⟨i1, i2⟩ := ih R ht' (fun t ht => hns t (by simp [ht]))
      exact ⟨by intro t ht; simp only [List.mem_cons] at ht; rcases ht with rfl | ht; rfl; exact i1 t ht, i2⟩
    | block it t' _ _ =>
      rw [blockToks_eq] at hL
      simp only [List.cons_append] at hL
      have : x = (Role.sep, Spec.sepByte) := by injection hL with h1 _
      exact absurd (by rw [this]) (hns x (by simp))

theorem wt_sep_byte (t : Tok) (L : List Tok) (h : WT (t :: L)) (hs : t.1 = Role.sep) : t.2 = Spec.sepByte := by
  generalize hL : t :: L = M at h
  cases h with
  | nil => cases hL
  | fill t' _ => cases hL; simp [fillTok] at hs
  | block it t' _ _ =>
    rw [blockToks_eq, List.cons_append] at hL
    cases hL; rfl

theorem findIdx_split (p : Tok → Bool) : ∀ (l : List Tok),
    (l.findIdx? p = none ∧ ∀ t ∈ l, p t = false) ∨
    (∃ fs t rest, l = fs ++ t :: rest ∧ l.findIdx? p = some fs.length ∧ (∀ x ∈ fs, p x = false) ∧ p t = true) := by
  intro l
  induction l with
  | nil => left; simp
  | cons x r ih =>
    by_cases hx : p x = true
    · right
      exact ⟨[], x, r, rfl, by simp [List.findIdx?_cons, hx], by simp, hx⟩
    · have hx' : p x = false := by simpa using hx
      rcases ih with ⟨h1, h2⟩ | ⟨fs, t, rest, h1, h2, h3, h4⟩
      · left
        refine ⟨by simp [List.findIdx?_cons, hx', h1], ?_⟩
        intro t ht; simp only [List.mem_cons] at ht; rcases ht with rfl | ht; exact hx'; exact h2 t ht
      · right
        refine ⟨x :: fs, t, rest, by rw [h1]; rfl, by simp [List.findIdx?_cons, hx', h2], ?_, h4⟩
        intro y hy; simp only [List.mem_cons] at hy; rcases hy with rfl | hy; exact hx'; exact h3 y hy

theorem bpOf_le (c : List Tok) : Spec.bpOf c ≤ 13 := by
  unfold Spec.bpOf
  split
  · split <;> omega
  · omega

theorem chunk_adm (P c S' : List Tok) (hP : P.length % 39 = 0) (hc : c.length = 39)
    (hw : WT (c ++ S')) (hs : sepsOK P (c ++ S')) :
    Spec.Admissible .idle (Spec.bpOf c) (c.map (·.2)) := by
  refine ⟨by simp [hc], bpOf_le c, fun _ => ?_⟩
  rcases findIdx_split (fun t => decide (t.1 = Role.sep)) c with ⟨h1, h2⟩ | ⟨fs, t, rest, hsplit, hidx, hfs, ht⟩
  · -- no separator in this packet: fillers only
    left
    have hns : ∀ t ∈ c, t.1 ≠ Role.sep := fun t ht => by simpa using h2 t ht
    have hall := (wt_prefix_fills c S' hw hns).1
    refine ⟨by unfold Spec.bpOf; rw [h1], ?_⟩
    intro b hb
    simp only [List.mem_map] at hb
    obtain ⟨t, ht, rfl⟩ := hb
    rw [hall t ht]; exact unham8_fill
  · right
    have hns : ∀ x ∈ fs, x.1 ≠ Role.sep := fun x hx => by simpa using hfs x hx
    have hts : t.1 = Role.sep := by simpa using ht
    rw [hsplit, List.append_assoc, List.cons_append] at hw hs
    obtain ⟨hall, hw2⟩ := wt_prefix_fills fs _ hw hns
    have htb : t.2 = Spec.sepByte := wt_sep_byte t _ hw2 hts
    have hi : fs.length < 39 := by
      have := congrArg List.length hsplit
      simp only [List.length_append, List.length_cons] at this
      omega
    have hcond : FirstSep (P ++ fs) := by
      have hl : (P ++ fs).length % 39 = fs.length := by rw [List.length_append]; omega
      have hst : (P ++ fs).length - (P ++ fs).length % 39 = P.length := by rw [hl, List.length_append]; omega
      unfold FirstSep
      rw [hst, hl]
      refine ⟨?_, ?_⟩
      · rw [List.drop_left']
        · simp only [List.all_eq_true, decide_eq_true_eq]; exact hns
        · rfl
      · by_cases h0 : fs.length = 0
        · exact Or.inl h0
        · right
          rw [List.getElem?_append_right (Nat.le_refl _), Nat.sub_self]
          cases fs with
          | nil => exact absurd rfl h0
          | cons x r => simp [hall x (by simp), fillTok]
    have hgood : Aligned (P ++ fs) := ((sepsOK_append fs _ P).1 hs).2.1 hts hcond
    have hl : (P ++ fs).length % 39 = fs.length := by rw [List.length_append]; omega
    unfold Aligned at hgood
    rw [hl] at hgood
    have hbp : Spec.bpOf c = fs.length / 3 := by
      unfold Spec.bpOf; rw [hidx]; simp only; rw [if_pos hgood]
    rw [hbp]
    have h3 : 3 * (fs.length / 3) = fs.length := by omega
    refine ⟨by omega, ?_, ?_⟩
    · rw [h3, hsplit, List.map_append, List.take_left' (by simp)]
      intro b hb
      simp only [List.mem_map] at hb
      obtain ⟨x, hx, rfl⟩ := hb
      rw [hall x hx]; exact unham8_fill
    · rw [h3, hsplit, List.map_append, List.getElem?_append_right (by simp)]
      simp [htb, unham8_sep]

theorem chunks_adm : ∀ (n : Nat) (P l : List Tok) (ph : Ph), P.length % 39 = 0 → l.length % 39 = 0 → l.length ≤ n →
    sepsOK P l → Suf ph l →
    Spec.AdmissibleAll ph ((Spec.chunks n l).map (fun c => (Spec.bpOf c, c.map (·.2)))) := by
  intro n
  induction n with
  | zero =>
    intro P l ph _ _ _ _ _
    simp [Spec.chunks, Spec.AdmissibleAll]
  | succ k ih =>
    intro P l ph hP hl hn hs hsuf
    unfold Spec.chunks
    by_cases he : l.isEmpty = true
    · rw [if_pos he]; simp [Spec.AdmissibleAll]
    · rw [if_neg he]
      have hne : l ≠ [] := fun h0 => he (by rw [h0]; rfl)
      have hpos : 0 < l.length := List.length_pos_iff.mpr hne
      have h39 : 39 ≤ l.length := by omega
      have hc : (l.take 39).length = 39 := by rw [List.length_take]; omega
      have hsplit : l = l.take 39 ++ l.drop 39 := (List.take_append_drop 39 l).symm
      simp only [List.map_cons, Spec.AdmissibleAll]
      rw [hsplit] at hs hsuf
      obtain ⟨ph', hsuf', hrun⟩ := suf_chunk (l.take 39) ph (l.drop 39) hsuf
      obtain ⟨acc', hr⟩ := hrun []
      refine ⟨?_, ?_⟩
      · cases ph with
        | idle => exact chunk_adm P (l.take 39) (l.drop 39) hP hc hsuf hs
        | hdr g => exact ⟨by rw [List.length_map, hc], bpOf_le _, fun h => by cases h⟩
        | data a m g => exact ⟨by rw [List.length_map, hc], bpOf_le _, fun h => by cases h⟩
      · rw [hr]
        exact ih (P ++ l.take 39) (l.drop 39) ph' (by rw [List.length_append, hc]; omega)
          (by rw [List.length_drop]; omega) (by rw [List.length_drop]; omega)
          ((sepsOK_append _ _ P).1 hs).2 hsuf'

theorem encode_admissible (lead : Nat) (items : List Spec.Item)
    (hok : ∀ it ∈ items, it.Ok) :
    Spec.AdmissibleAll .idle (Spec.encode lead items) := by
  unfold Spec.encode
  have hlen : (Spec.layout lead items).length % 39 = 0 := by
    rw [layout_eq, List.length_append]
    simp only [Spec.fills, List.length_replicate]
    omega
  exact chunks_adm _ [] (Spec.layout lead items) .idle rfl hlen (Nat.le_refl _) (sepsOK_layout lead items)
    (WT_layout lead items hok)

theorem delivered_eq (l : List (Spec.Blk × Nat)) :
    Spec.delivered l = (l.map Prod.fst).filterMap (fun b => if b.data = [] then none else some (b.app, b.data)) := by
  unfold Spec.delivered
  rw [List.filterMap_map]; rfl

theorem encode_reception (pgno stream : Nat) (hpg1 : 0x100 ≤ pgno) (hpg2 : pgno < 0x900) (hst : stream < 16)
    (ci : Nat) (hci : ci < 16) (lead : Nat) (items : List Spec.Item)
    (hok : ∀ it ∈ items, it.Ok)
    (pages : List PageG) (hn : ∀ pg ∈ pages, pg.rows.length = pg.n ∧ pg.n ≤ 25)
    (hrows : allRowsG pages = Spec.encode lead items)
    (hint : IntersOk pgno stream true pages) (post : List (List Nat)) (hpost : Interlude pgno stream false post)
    (l : List (List Nat)) (hthin : Thin pgno l (pagesGPkts pgno stream ci pages ++ post)) :
    ∃ s' bl, feedAll (new pgno stream) l = .ok (s', bl) ∧ bl.map toSpec = Spec.delivered (Spec.itemBlocks items) := by
  obtain ⟨lead', gaps, hgl, hflat⟩ := encode_stream_flat lead items
  have hitems : ∀ it ∈ (items.map (fun it => (⟨it.app, it.data⟩ : Spec.Blk))).zip gaps, it.1.Ok := by
    intro it hit
    obtain ⟨x, hx, hxe⟩ := List.mem_map.mp (List.of_mem_zip hit).1
    rw [← hxe]; exact hok x hx
  obtain ⟨s', bl, h1, h2, _⟩ := feed_reception pgno stream hpg1 hpg2 hst ci hci pages
    (fun pg hpg => .of_complete (hn pg hpg)) hint post hpost _ .idle
    (by rw [hrows, hflat, run_flat_idle _ hitems]) (by rw [hrows]; exact encode_admissible lead items hok) l hthin
  refine ⟨s', bl, h1, ?_⟩
  rw [h2, delivered_eq, delivered_eq, List.map_fst_zip (by simp; omega)]
  simp [Spec.itemBlocks, List.map_map, Function.comp_def]

theorem encode_delivers (pgno stream : Nat) (hpg1 : 0x100 ≤ pgno) (hpg2 : pgno < 0x900) (hst : stream < 16)
    (lead : Nat) (items : List Spec.Item) (hok : ∀ it ∈ items, it.Ok)
    (ci : Nat) (hci : ci < 16) (pages : List Spec.Page) (hn : ∀ pg ∈ pages, pg.rows.length ≤ 25)
    (hrows : Spec.allRows pages = Spec.encode lead items) :
    ∃ s' bl, feedAll (new pgno stream) (Spec.pagesPkts pgno stream ci pages) = .ok (s', bl) ∧
      bl.map toSpec = Spec.delivered (Spec.itemBlocks items) := by
  have := encode_reception pgno stream hpg1 hpg2 hst ci hci lead items hok (pages.map .ofPage)
    (fun pg hpg => by obtain ⟨p, hp, rfl⟩ := List.mem_map.mp hpg; exact ⟨rfl, hn p hp⟩) (by rw [← allRows_eq]; exact hrows)
    (intersOk_ofPage pgno stream pages true) [] trivial _ (Thin.refl pgno _)
  rwa [List.append_nil, ← pagesPkts_eq] at this

/-- number of rows of the next page: the head of `sizes` clamped to 1..25 (25 when `sizes` is used up) -/
def pageSize (sizes : List Nat) : Nat := max 1 (min 25 (sizes.headD 25))

theorem pageSize_bounds (sizes : List Nat) : 1 ≤ pageSize sizes ∧ pageSize sizes ≤ 25 := by
  unfold pageSize; omega

/-- cut the rows into consecutive pages of the given sizes -/
def splitRows : Nat → List Nat → List (Nat × List Nat) → List (List (Nat × List Nat))
  | 0, _, _ => []
  | f + 1, sizes, rows =>
    if rows.isEmpty then [] else
      rows.take (pageSize sizes) :: splitRows f sizes.tail (rows.drop (pageSize sizes))

theorem splitRows_flatten : ∀ (f : Nat) (sizes : List Nat) (rows : List (Nat × List Nat)), rows.length ≤ f →
    (splitRows f sizes rows).flatten = rows := by
  intro f
  induction f with
  | zero => intro sizes rows h; have : rows = [] := List.length_eq_zero_iff.mp (by omega); subst this; rfl
  | succ k ih =>
    intro sizes rows h
    unfold splitRows
    by_cases he : rows.isEmpty
    · rw [if_pos he]; simp at he; subst he; rfl
    · rw [if_neg he]
      have hne : rows ≠ [] := by simpa using he
      have hpos : 0 < rows.length := List.length_pos_iff.mpr hne
      have hb := pageSize_bounds sizes
      rw [List.flatten_cons, ih _ _ (by rw [List.length_drop]; omega), List.take_append_drop]

theorem splitRows_len : ∀ (f : Nat) (sizes : List Nat) (rows : List (Nat × List Nat)),
    ∀ p ∈ splitRows f sizes rows, p.length ≤ 25 := by
  intro f
  induction f with
  | zero => intro sizes rows p hp; simp [splitRows] at hp
  | succ k ih =>
    intro sizes rows p hp
    unfold splitRows at hp
    by_cases he : rows.isEmpty
    · rw [if_pos he] at hp; simp at hp
    · rw [if_neg he] at hp
      simp only [List.mem_cons] at hp
      rcases hp with rfl | hp
      · have hb := pageSize_bounds sizes
        rw [List.length_take]; omega
      · exact ih _ _ p hp

/-- the pages of a transmission: `sizes` rows per page, every header completed by `tail` -/
def paginate (sizes : List Nat) (tail : List Nat) (rows : List (Nat × List Nat)) : List Spec.Page :=
  (splitRows rows.length sizes rows).map (fun r => ⟨tail, r⟩)

theorem allRows_map (tail : List Nat) (l : List (List (Nat × List Nat))) :
    Spec.allRows (l.map (fun r => (⟨tail, r⟩ : Spec.Page))) = l.flatten := by
  induction l with
  | nil => rfl
  | cons a t ih =>
    have : Spec.allRows ((a :: t).map (fun r => (⟨tail, r⟩ : Spec.Page))) =
        a ++ Spec.allRows (t.map (fun r => (⟨tail, r⟩ : Spec.Page))) := by simp [Spec.allRows]
    rw [this, ih]; rfl

theorem allRows_paginate (sizes tail : List Nat) (rows : List (Nat × List Nat)) :
    Spec.allRows (paginate sizes tail rows) = rows := by
  unfold paginate
  rw [allRows_map, splitRows_flatten _ _ _ (Nat.le_refl _)]

theorem paginate_len (sizes tail : List Nat) (rows : List (Nat × List Nat)) :
    ∀ pg ∈ paginate sizes tail rows, pg.rows.length ≤ 25 := by
  intro pg hpg
  unfold paginate at hpg
  simp only [List.mem_map] at hpg
  obtain ⟨r, hr, rfl⟩ := hpg
  exact splitRows_len _ _ _ r hr

/-- **the transmitter**: blocks (with the filler bytes wanted after each, `lead` fillers first) to
    the 42 byte packets of page `pgno`, stream `stream`, first continuity index `ci` -/
def transmit (pgno stream ci lead : Nat) (items : List Spec.Item) (sizes tail : List Nat) : List (List Nat) :=
  Spec.pagesPkts pgno stream ci (paginate sizes tail (Spec.encode lead items))

def nonEmptyBlocks (items : List Spec.Item) : List (Nat × List Nat) :=
  (items.filter (fun it => !it.data.isEmpty)).map (fun it => (it.app, it.data))

theorem delivered_itemBlocks (items : List Spec.Item) :
    Spec.delivered (Spec.itemBlocks items) = nonEmptyBlocks items := by
  unfold Spec.delivered Spec.itemBlocks nonEmptyBlocks
  induction items with
  | nil => rfl
  | cons it t ih =>
    cases hd : it.data with
    | nil => simp [hd, ih]
    | cons x xs => simp [hd, ih]

end Zvbi.Pfc
