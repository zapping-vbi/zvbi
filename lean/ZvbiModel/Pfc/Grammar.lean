import ZvbiModel.Pfc.Lemmas
import ZvbiModel.Util.Bits
/-!
# The PFC demultiplexer (C15) against the stream grammar

`Spec.run` is the byte-level acceptor of the PFC stream grammar.  The separator search is stated once, with what
the grammar makes of the bytes it passes (`skipFill_run`, `findSep_run`).  `loop_run`: from any column of a packet (from the
block pointer logic at column 3 on, `BpOk`) the `while` loop of `_vbi_pfc_demux_decode` (with its `memcpy` chunks,
the structure header parse, the filler scan) is safe whatever the bytes (`Inv` kept, no read or write out of
bounds, fuel 42 enough), and if the grammar accepts the remaining bytes it ends in the state that stands for the
grammar's phase and has called back exactly the grammar's completed blocks.  Then whole packets (`decode_ok_run`;
`decode_ok`, `feed_ok`, `runOps_ok` and `decode_run` read it), packet sequences (`decode_rows`), and the grammar
reading a transmitted block sequence back (`run_flat`: parse ∘ print).
-/
namespace Zvbi.Pfc
open Zvbi.Hamm Zvbi.Gen
open Spec (Ph Res run shDecode)

theorem nib_pair_lt (a : Nat) (ha : a < 16) (b : Nat) (hb : b < 16) : a ||| (b <<< 4) < 256 := by
  rw [Bits.or_shl a b 4 ha]; omega

theorem unham16pI_le (p0 p1 : Nat) : unham16pI p0 p1 ≤ 255 := by
  unfold unham16pI
  cases h0 : unham8 p0 with
  | none => simp
  | some a =>
    cases h1 : unham8 p1 with
    | none => simp; have := unham8_lt16 _ _ h0; omega
    | some b =>
      simp only
      have := nib_pair_lt a (unham8_lt16 _ _ h0) b (unham8_lt16 _ _ h1)
      omega

theorem pair16_le (lo hi : Int) (hlo : lo ≤ 255) (hhi : hi ≤ 255) (sh : Nat)
    (h : pair16 lo hi = some sh) : sh ≤ 65535 := by
  unfold pair16 at h
  split at h
  · cases h
  · split at h
    · cases h
    · cases h; omega

theorem rdE_ok (buf : List Nat) (j : Nat) (site : String) (h : j < buf.length) :
    rdE buf j site = .ok buf[j] := by
  unfold rdE
  rw [List.getElem?_eq_getElem h]

/-- result shape of the separator search from `col`: either "return TRUE" or a column further right -/
def SepOk (col : Nat) : Option (Option Nat × Nat) → Prop
  | none => True
  | some (_, c) => col < c ∧ c ≤ 42

theorem run_nil (ph : Spec.Ph) (acc) : Spec.run ph acc [] = ⟨ph, acc, true⟩ := by
  cases ph <;> rfl

theorem run_idle_cons (acc) (b : Nat) (r : List Nat) : Spec.run .idle acc (b :: r) =
    if unham8 b = some 0x3 then Spec.run .idle acc r
    else if unham8 b = some 0xC then Spec.run (.hdr []) acc r
    else ⟨.idle, acc, false⟩ := by rw [Spec.run]

/-- what the grammar does after the filler scan stopped -/
def sepDone (A : List (Nat × List Nat)) (buf : List Nat) : Option (Option Nat × Nat) → Spec.Res
  | none => ⟨.idle, A, true⟩
  | some (bs, c) => if bs = some 0xC then Spec.run (.hdr []) A (buf.drop c) else ⟨.idle, A, false⟩

theorem skipFill_run (buf : List Nat) (hbuf : buf.length = 42) (A : List (Nat × List Nat)) :
    ∀ fuel col, col < 42 → 42 - col ≤ fuel →
      ∃ r, skipFill buf fuel col = .ok r ∧ SepOk col r ∧ Spec.run .idle A (buf.drop col) = sepDone A buf r := by
  intro fuel
  induction fuel with
  | zero => intro col h1 h2; omega
  | succ f ih =>
    intro col h1 h2
    unfold skipFill
    rw [rdE_ok buf col _ (by omega)]
    dsimp only
    have hd : buf.drop col = buf[col] :: buf.drop (col + 1) := List.drop_eq_getElem_cons (by omega)
    rw [hd, run_idle_cons]
    by_cases hf : unham8 buf[col] = some pfcFillerByte
    · have hf' : unham8 buf[col] = some 0x3 := hf
      rw [if_pos hf, if_pos hf']
      by_cases h42 : col + 1 ≥ 42
      · rw [if_pos h42]
        refine ⟨none, rfl, trivial, ?_⟩
        rw [List.drop_eq_nil_of_le (by omega), run_nil]; rfl
      · rw [if_neg h42]
        obtain ⟨r, hr, hok, heq⟩ := ih (col + 1) (by omega) (by omega)
        refine ⟨r, hr, ?_, heq⟩
        cases r with
        | none => trivial
        | some x => obtain ⟨bs, c⟩ := x; simp only [SepOk] at hok ⊢; omega
    · have hf' : ¬ unham8 buf[col] = some 0x3 := hf
      rw [if_neg hf, if_neg hf']
      exact ⟨_, rfl, by simp only [SepOk]; omega, rfl⟩

theorem run_idle_fillers (acc) (r : List Nat) : ∀ fs : List Nat, (∀ b ∈ fs, unham8 b = some 0x3) →
    Spec.run .idle acc (fs ++ r) = Spec.run .idle acc r := by
  intro fs
  induction fs with
  | nil => intro _; rfl
  | cons b t ih =>
    intro h
    rw [List.cons_append, run_idle_cons, if_pos (h b (by simp)), ih (fun x hx => h x (by simp [hx]))]

/-- the block pointer (as a byte offset `bp`) is usable between blocks: only fillers before the separator it
    announces, or (`bp >= 39`) fillers only; the idle clause of `Spec.Admissible` -/
def BpOk (bp : Nat) (pl : List Nat) : Prop :=
  (39 ≤ bp ∧ ∀ b ∈ pl, unham8 b = some 0x3) ∨
  (bp < 39 ∧ (∀ b ∈ pl.take bp, unham8 b = some 0x3) ∧ (pl[bp]?).bind unham8 = some 0xC)

/-- the separator search, by the block pointer at the start of the packet and by the filler scan later: it
    succeeds, moves right, and - with a usable block pointer - stops where the grammar stops skipping fillers -/
theorem findSep_run (buf : List Nat) (hbuf : buf.length = 42) (A : List (Nat × List Nat)) (bp col : Nat) (hcol : col ≤ 42) :
    ∃ r, findSep buf bp col = .ok r ∧ SepOk col r ∧
      ((col ≤ 3 → col = 3 ∧ BpOk bp (buf.drop 3)) → Spec.run .idle A (buf.drop col) = sepDone A buf r) := by
  unfold findSep
  by_cases h3 : col ≤ 3
  · rw [if_pos h3]
    by_cases hbp : bp ≥ 39
    · rw [if_pos hbp]
      refine ⟨none, rfl, trivial, fun h => ?_⟩
      obtain ⟨rfl, ⟨_, hfill⟩ | ⟨hlt, _⟩⟩ := h h3
      · have := run_idle_fillers A [] (buf.drop 3) hfill
        rw [List.append_nil] at this
        rw [this, run_nil]; rfl
      · omega
    · rw [if_neg hbp, rdE_ok buf (bp + 4 - 1) _ (by omega)]
      refine ⟨_, rfl, by simp only [SepOk]; omega, fun h => ?_⟩
      obtain ⟨rfl, ⟨hge, _⟩ | ⟨_, hfill, hsep⟩⟩ := h h3
      · omega
      · have hidx : bp + 4 - 1 < buf.length := by omega
        have hd : (buf.drop 3).drop bp = buf[bp + 4 - 1] :: buf.drop (bp + 4) := by
          rw [List.drop_drop, show 3 + bp = bp + 4 - 1 by omega, List.drop_eq_getElem_cons hidx,
            show bp + 4 - 1 + 1 = bp + 4 by omega]
        have hsepb : unham8 buf[bp + 4 - 1] = some 0xC := by
          rw [List.getElem?_drop, show 3 + bp = bp + 4 - 1 by omega, List.getElem?_eq_getElem hidx] at hsep
          simpa using hsep
        rw [← List.take_append_drop bp (buf.drop 3), hd, run_idle_fillers A _ _ hfill, run_idle_cons, hsepb]
        simp [sepDone]
  · rw [if_neg h3]
    by_cases h42 : col ≥ 42
    · rw [if_pos h42]
      refine ⟨none, rfl, trivial, fun _ => ?_⟩
      rw [List.drop_eq_nil_of_le (by omega), run_nil]; rfl
    · rw [if_neg h42]
      obtain ⟨r, hr, hok, heq⟩ := skipFill_run buf hbuf A 42 col (by omega) (by omega)
      exact ⟨r, hr, hok, fun _ => heq⟩

/-- what the grammar does once the four structure header bytes are in -/
def hdrDone (acc : List (Nat × List Nat)) (r : List Nat) : Option Nat → Res
  | none => ⟨.idle, acc, false⟩
  | some sh =>
    if sh >>> 5 = 0 then run .idle acc r
    else run (.data (sh &&& 0x1F) (sh >>> 5) []) acc r

theorem run_hdr_cons (g acc) (b : Nat) (r : List Nat) : run (.hdr g) acc (b :: r) =
    if g.length + 1 < 4 then run (.hdr (g ++ [b])) acc r
    else hdrDone acc r (shDecode (g ++ [b])) := by
  rw [run]
  split
  · rfl
  · cases shDecode (g ++ [b]) <;> rfl

theorem run_data_cons (a n g acc) (b : Nat) (r : List Nat) : run (.data a n g) acc (b :: r) =
    if g.length + 1 < n then run (.data a n (g ++ [b])) acc r
    else run .idle (acc ++ [(a, g ++ [b])]) r := by rw [run]

/-- bytes arriving in one piece in a phase `P g` that collects `n` bytes (`.hdr`, `.data a n`) and leaving it incomplete
    are only appended to `g` -/
theorem run_part {P : List Nat → Ph} {n : Nat}
    (hP : ∀ g acc b r, g.length + 1 < n → run (P g) acc (b :: r) = run (P (g ++ [b])) acc r) (acc) (r : List Nat) :
    ∀ (xs g : List Nat), g.length + xs.length < n → run (P g) acc (xs ++ r) = run (P (g ++ xs)) acc r := by
  intro xs
  induction xs with
  | nil => intro g _; simp
  | cons b t ih =>
    intro g h
    simp only [List.length_cons] at h
    rw [List.cons_append, hP g acc b _ (by omega), ih (g ++ [b]) (by simp; omega)]
    simp

theorem run_hdr_step (g acc) (b : Nat) (r : List Nat) (h : g.length + 1 < 4) :
    run (.hdr g) acc (b :: r) = run (.hdr (g ++ [b])) acc r := by rw [run_hdr_cons, if_pos h]

theorem run_data_step (a n g acc) (b : Nat) (r : List Nat) (h : g.length + 1 < n) :
    run (.data a n g) acc (b :: r) = run (.data a n (g ++ [b])) acc r := by rw [run_data_cons, if_pos h]

theorem run_hdr_full (acc) (r : List Nat) (xs g : List Nat) (hne : xs ≠ []) (h : g.length + xs.length = 4) :
    run (.hdr g) acc (xs ++ r) = hdrDone acc r (shDecode (g ++ xs)) := by
  obtain ⟨ini, b, rfl⟩ : ∃ ini b, xs = ini ++ [b] :=
    ⟨xs.dropLast, xs.getLast hne, (List.dropLast_concat_getLast hne).symm⟩
  simp only [List.length_append, List.length_cons, List.length_nil] at h
  rw [List.append_assoc, run_part run_hdr_step acc _ ini g (by omega)]
  show run (.hdr (g ++ ini)) acc (b :: r) = _
  rw [run_hdr_cons, if_neg (by simp only [List.length_append]; omega), List.append_assoc]

theorem run_data_full (a n acc) (r : List Nat) (xs g : List Nat) (hne : xs ≠ []) (h : g.length + xs.length = n) :
    run (.data a n g) acc (xs ++ r) = run .idle (acc ++ [(a, g ++ xs)]) r := by
  obtain ⟨ini, b, rfl⟩ : ∃ ini b, xs = ini ++ [b] :=
    ⟨xs.dropLast, xs.getLast hne, (List.dropLast_concat_getLast hne).symm⟩
  simp only [List.length_append, List.length_cons, List.length_nil] at h
  rw [List.append_assoc, run_part (run_data_step a n) acc _ ini g (by omega)]
  show run (.data a n (g ++ ini)) acc (b :: r) = _
  rw [run_data_cons, if_neg (by simp only [List.length_append]; omega), List.append_assoc]

/-- phase of the grammar a demultiplexer state stands for -/
def phase (s : St) : Ph :=
  if s.left = 0 then .idle
  else match s.appId with
    | none => .hdr s.blk
    | some a => .data a s.blockSize s.blk

/-- `bi + left` is 4 while a structure header is read, `block_size` while data is read -/
def WF (s : St) : Prop :=
  s.left > 0 → (match s.appId with
    | none => s.blk.length + s.left = 4
    | some _ => s.blk.length + s.left = s.blockSize)

def toSpec (b : Block) : Nat × List Nat := (b.app, b.bytes)

theorem unham16pI_of_some (p0 p1 a b : Nat) (h0 : unham8 p0 = some a) (h1 : unham8 p1 = some b) :
    unham16pI p0 p1 = ((a ||| (b <<< 4) : Nat) : Int) := by
  unfold unham16pI; rw [h0, h1]

theorem unham16pI_ham8 (a b : Nat) (ha : a < 16) (hb : b < 16) :
    unham16pI (ham8 a) (ham8 b) = ((a ||| (b <<< 4) : Nat) : Int) :=
  unham16pI_of_some _ _ a b (unham8_ham8 a ha) (unham8_ham8 b hb)

theorem pair16_nonneg (lo hi : Nat) : pair16 (lo : Int) (hi : Int) = some (lo + hi * 256) := by
  unfold pair16
  have h1 : ¬ ((lo : Int) < 0) := by omega
  have h2 : ¬ ((hi : Int) < 0) := by omega
  have h3 : ¬ ((lo : Int) + (hi : Int) * 256 < 0) := by omega
  simp only [h1, h2, h3, decide_false, Bool.or_false, Bool.and_false, if_false, Bool.false_eq_true]
  congr 1

/-- a structure header the grammar accepts is read the same way by the C code -/
theorem pair16_of_shDecode (a b c d sh : Nat) (h : shDecode [a, b, c, d] = some sh) :
    pair16 (unham16pI a b) (unham16pI c d) = some sh := by
  simp only [shDecode] at h
  split at h
  · next na nb nc nd ha hb hc hd =>
    cases h
    rw [unham16pI_of_some _ _ na nb ha hb, unham16pI_of_some _ _ nc nd hc hd, pair16_nonneg,
      Bits.or_shl _ _ 8 (nib_pair_lt na (unham8_lt16 _ _ ha) nb (unham8_lt16 _ _ hb))]
  · cases h

theorem phase_idle (s : St) (h : s.left = 0) : phase s = .idle := by simp [phase, h]
theorem left_of_phase_idle {s : St} (h : phase s = .idle) : s.left = 0 := by
  unfold phase at h
  split at h
  · assumption
  · cases ha : s.appId <;> rw [ha] at h <;> cases h
theorem phase_hdr (s : St) (h : s.left > 0) (ha : s.appId = none) : phase s = .hdr s.blk := by
  have : s.left ≠ 0 := by omega
  simp [phase, this, ha]
theorem phase_data (s : St) (h : s.left > 0) (a : Nat) (ha : s.appId = some a) :
    phase s = .data a s.blockSize s.blk := by
  have : s.left ≠ 0 := by omega
  simp [phase, this, ha]

/-- `consume`'s result at a column inside the packet: for any bytes the invariant and progress; and where `G` holds
    (the state is well formed and the grammar accepts the rest of the packet) the grammar's account `R` of it -/
def ConsumeRun (buf : List Nat) (acc : List Block) (s : St) (col : Nat) (G : Prop) (R : Res) : Consumed → Prop
  | .ret o => Inv o.st ∧ (G → o.ret = true ∧ o.blocks = acc ∧ WF o.st ∧ R = ⟨phase o.st, acc.map toSpec, true⟩)
  | .cont s' col' => col < col' ∧ col' ≤ 42 ∧ Inv s' ∧
      (G → WF s' ∧ run (phase s') (acc.map toSpec) (buf.drop col') = R)
  | .fall s' col' acc' => col ≤ col' ∧ (s.left > 0 → col < col') ∧ col' ≤ 42 ∧ s'.left = 0 ∧ Inv s' ∧
      (G → run .idle (acc'.map toSpec) (buf.drop col') = R)

theorem list4 (l : List Nat) (h : l.length = 4) : l = [l.getD 0 0, l.getD 1 0, l.getD 2 0, l.getD 3 0] := by
  match l, h with
  | [a, b, c, d], _ => rfl

theorem consume_run (buf : List Nat) (hbuf : buf.length = 42) (s : St) (col : Nat) (acc : List Block)
    (hinv : Inv s) (hcol : col < 42) :
    ∃ c, consume buf s col acc = .ok c ∧
      ConsumeRun buf acc s col (WF s ∧ (run (phase s) (acc.map toSpec) (buf.drop col)).ok = true)
        (run (phase s) (acc.map toSpec) (buf.drop col)) c := by
  unfold consume
  rcases Nat.eq_zero_or_pos s.left with hl0 | hl
  · rw [if_neg (by omega)]
    exact ⟨_, rfl, Nat.le_refl _, fun h => by omega, by omega, hl0, hinv, fun _ => by rw [phase_idle s hl0]⟩
  simp only [hl, if_true]
  have hsz : min s.left (42 - col) ≤ s.left := Nat.min_le_left _ _
  have hsz2 : min s.left (42 - col) ≤ 42 - col := Nat.min_le_right _ _
  have hsz3 : 0 < min s.left (42 - col) := by omega
  have h1 : ¬ (s.blk.length + min s.left (42 - col) > pfcBlockExtent) := by
    unfold Inv at hinv; simp only [pfcBlockExtent]; omega
  have h2 : ¬ (col + min s.left (42 - col) > buf.length) := by omega
  simp only [h1, h2, if_false]
  generalize hsize : min s.left (42 - col) = size at *
  have hsplit : buf.drop col = (buf.drop col).take size ++ buf.drop (col + size) := by
    rw [← List.drop_drop, List.take_append_drop]
  have hxl : ((buf.drop col).take size).length = size := by
    rw [List.length_take, List.length_drop]; omega
  have hxne : (buf.drop col).take size ≠ [] := by
    intro h; rw [h] at hxl; simp at hxl; omega
  generalize hxs : (buf.drop col).take size = xs at *
  rw [hsplit]
  by_cases hl2 : s.left - size > 0
  · -- the packet ends inside the header / the block
    simp only [hl2, if_true]
    have hsz4 : size = 42 - col := by omega
    have hrest : buf.drop (col + size) = [] := by
      apply List.drop_eq_nil_of_le; omega
    rw [hrest, List.append_nil]
    refine ⟨_, rfl, ?_, fun ⟨hwf, hok⟩ => ⟨rfl, rfl, ?_, ?_⟩⟩
    · unfold Inv at hinv ⊢; simp only [List.length_append, hxl]; omega
    · have hwf' := hwf hl
      intro _
      cases ha : s.appId with
      | none => simp only [ha] at hwf' ⊢; simp only [List.length_append, hxl]; omega
      | some a => simp only [ha] at hwf' ⊢; simp only [List.length_append, hxl]; omega
    · have hwf' := hwf hl
      cases ha : s.appId with
      | none =>
        simp only [ha] at hwf'
        rw [phase_hdr s hl ha]
        have := run_part run_hdr_step (acc.map toSpec) [] xs s.blk (by omega)
        rw [List.append_nil] at this
        rw [this, run_nil]; congr 1; symm; apply phase_hdr
        · exact hl2
        · rfl
      | some a =>
        simp only [ha] at hwf'
        rw [phase_data s hl a ha]
        have := run_part (run_data_step a s.blockSize) (acc.map toSpec) [] xs s.blk (by omega)
        rw [List.append_nil] at this
        rw [this, run_nil]; congr 1; symm; apply phase_data
        · exact hl2
        · rfl
  · -- the header / the block is complete
    simp only [hl2, if_false]
    have hsz4 : size = s.left := by omega
    cases ha : s.appId with
    | none =>
      dsimp only
      rw [phase_hdr s hl ha]
      have key : WF s ∧ (run (.hdr s.blk) (acc.map toSpec) (xs ++ buf.drop (col + size))).ok = true →
          ∃ sh, pair16 (unham16pI ((s.blk ++ xs).getD 0 0) ((s.blk ++ xs).getD 1 0))
              (unham16pI ((s.blk ++ xs).getD 2 0) ((s.blk ++ xs).getD 3 0)) = some sh ∧
            run (.hdr s.blk) (acc.map toSpec) (xs ++ buf.drop (col + size)) =
              hdrDone (acc.map toSpec) (buf.drop (col + size)) (some sh) := by
        intro ⟨hwf, hok⟩
        have hwf' := hwf hl
        simp only [ha] at hwf'
        rw [run_hdr_full (acc.map toSpec) (buf.drop (col + size)) xs s.blk hxne (by omega)] at hok ⊢
        cases hsd : shDecode (s.blk ++ xs) with
        | none => rw [hsd] at hok; simp [hdrDone] at hok
        | some sh =>
          have h4 : (s.blk ++ xs).length = 4 := by simp only [List.length_append, hxl]; omega
          exact ⟨sh, pair16_of_shDecode _ _ _ _ sh (list4 _ h4 ▸ hsd), rfl⟩
      cases hp : pair16 (unham16pI ((s.blk ++ xs).getD 0 0) ((s.blk ++ xs).getD 1 0))
          (unham16pI ((s.blk ++ xs).getD 2 0) ((s.blk ++ xs).getD 3 0)) with
      | none =>
        refine ⟨_, rfl, inv_reset _, fun hG => ?_⟩
        obtain ⟨sh, h, _⟩ := key hG
        rw [hp] at h; cases h
      | some sh =>
        have hshle := pair16_le _ _ (unham16pI_le _ _) (unham16pI_le _ _) sh hp
        have hsz5 : sh >>> 5 ≤ 2047 := by rw [Nat.shiftRight_eq_div_pow]; omega
        refine ⟨_, rfl, by omega, by omega, by simp only [Inv, List.length_nil]; omega, fun hG => ⟨by intro _; simp, ?_⟩⟩
        obtain ⟨sh', h, hr⟩ := key hG
        rw [hp] at h; cases h
        rw [hr]
        simp only [hdrDone]
        by_cases hz : sh >>> 5 = 0
        · rw [if_pos hz, phase_idle _ (by simpa using hz)]
        · rw [if_neg hz, phase_data _ (by simp; omega) (sh &&& 0x1F) rfl]
    | some a =>
      dsimp only
      refine ⟨_, rfl, by omega, fun _ => by omega, by omega, by simp; omega, ?_, fun ⟨hwf, hok⟩ => ?_⟩
      · unfold Inv at hinv ⊢; simp only [List.length_append, hxl]; omega
      · have hwf' := hwf hl
        simp only [ha] at hwf'
        rw [phase_data s hl a ha,
          run_data_full a s.blockSize (acc.map toSpec) (buf.drop (col + size)) xs s.blk hxne (by omega)]
        simp [toSpec]

/-- the result `o` of the loop agrees with the grammar's result `R`: TRUE, and the state stands for the phase, the callbacks
    are the blocks of `R` -/
def LoopRun (R : Res) (o : Out) : Prop :=
  o.ret = true ∧ WF o.st ∧ R = ⟨phase o.st, o.blocks.map toSpec, true⟩

/-- **the C loop is safe, and refines the grammar**: from a column of the packet the loop neither fails nor breaks
    the invariant, whatever the bytes; and if the state is well formed (at column 3 between blocks: the block pointer
    usable) and the grammar accepts the rest of the packet, it ends in the state standing for the grammar's phase,
    having called back exactly the grammar's blocks -/
theorem loop_run (buf : List Nat) (hbuf : buf.length = 42) (bp : Nat) :
    ∀ fuel s col acc, Inv s → 3 ≤ col → col ≤ 42 → 42 - col < fuel →
      ∃ o, loop buf bp fuel s col acc = .ok o ∧ Inv o.st ∧
        (WF s → (3 < col ∨ s.left > 0 ∨ BpOk bp (buf.drop 3)) →
          (run (phase s) (acc.map toSpec) (buf.drop col)).ok = true →
          LoopRun (run (phase s) (acc.map toSpec) (buf.drop col)) o) := by
  intro fuel
  induction fuel with
  | zero => intro s col acc _ _ _ h; omega
  | succ f ih =>
    intro s col acc hinv h3 hcol hfuel
    -- the separator search, shared by both branches
    have idle_part : ∀ (s' : St) (col' : Nat) (acc' : List Block), s'.left = 0 → Inv s' → 3 ≤ col' → col' ≤ 42 →
        col ≤ col' →
        ∃ o, afterConsume buf bp f s' col' acc' = .ok o ∧ Inv o.st ∧
          ((3 < col' ∨ BpOk bp (buf.drop 3)) → (run .idle (acc'.map toSpec) (buf.drop col')).ok = true →
            LoopRun (run .idle (acc'.map toSpec) (buf.drop col')) o) := by
      intro s' col' acc' hl' hinv' hge' hcol' hle
      unfold afterConsume
      have hwf' : WF s' := by intro h; omega
      obtain ⟨r, hr, hsok, heq⟩ := findSep_run buf hbuf (acc'.map toSpec) bp col' hcol'
      have heq' : (3 < col' ∨ BpOk bp (buf.drop 3)) →
          run .idle (acc'.map toSpec) (buf.drop col') = sepDone (acc'.map toSpec) buf r :=
        fun h3' => heq (fun h => ⟨by omega, h3'.resolve_left (by omega)⟩)
      rw [hr]
      cases r with
      | none =>
        exact ⟨_, rfl, hinv', fun h3' _ => ⟨rfl, hwf', by rw [heq' h3']; simp only [sepDone, phase_idle _ hl']⟩⟩
      | some x =>
        obtain ⟨bs, c⟩ := x
        simp only [SepOk] at hsok
        dsimp only
        by_cases hbs : bs = some 0xC
        · rw [if_neg (by simp [hbs, pfcBlockSeparator])]
          have hph : phase { s' with blk := [], left := 4, appId := none } = .hdr [] := by
            apply phase_hdr <;> simp
          obtain ⟨o, ho, hio, hgr⟩ := ih { s' with blk := [], left := 4, appId := none } c acc'
            (by simp [Inv]) (by omega) hsok.2 (by omega)
          refine ⟨o, ho, hio, fun h3' hok' => ?_⟩
          rw [heq' h3'] at hok' ⊢
          simp only [sepDone, if_pos hbs] at hok' ⊢
          rw [← hph]
          exact hgr (by intro _; simp) (Or.inl (by omega)) (by rw [hph]; exact hok')
        · rw [if_pos (by simpa [pfcBlockSeparator] using hbs)]
          refine ⟨_, rfl, inv_reset _, fun h3' hok' => ?_⟩
          rw [heq' h3'] at hok'
          simp [sepDone, hbs] at hok'
    rw [loop_succ]
    by_cases h42 : col ≥ 42
    · rw [if_pos h42]
      exact ⟨_, rfl, hinv, fun hwf _ _ => ⟨rfl, hwf, by rw [List.drop_eq_nil_of_le (by omega), run_nil]⟩⟩
    · rw [if_neg h42]
      obtain ⟨c, hc, hcr⟩ := consume_run buf hbuf s col acc hinv (by omega)
      rw [hc]
      cases c with
      | ret o =>
        obtain ⟨hi, hg⟩ := hcr
        refine ⟨o, rfl, hi, fun hwf _ hok => ?_⟩
        obtain ⟨g1, g2, g3, g6⟩ := hg ⟨hwf, hok⟩
        exact ⟨g1, g3, by rw [g6, g2]⟩
      | cont s' col' =>
        obtain ⟨h1, h2, hi, hg⟩ := hcr
        dsimp only
        obtain ⟨o, ho, hio, hgr⟩ := ih s' col' acc hi (by omega) h2 (by omega)
        refine ⟨o, ho, hio, fun hwf _ hok => ?_⟩
        obtain ⟨hw', h6⟩ := hg ⟨hwf, hok⟩
        rw [← h6]
        exact hgr hw' (Or.inl (by omega)) (by rw [h6]; exact hok)
      | fall s' col' acc' =>
        obtain ⟨h1, h1', h2, hl', hi, hg⟩ := hcr
        dsimp only
        obtain ⟨o, ho, hio, hgr⟩ := idle_part s' col' acc' hl' hi (by omega) h2 h1
        refine ⟨o, ho, hio, fun hwf hpos hok => ?_⟩
        have h6 := hg ⟨hwf, hok⟩
        rw [← h6]
        refine hgr ?_ (by rw [h6]; exact hok)
        rcases hpos with h | h | h
        · exact .inl (by omega)
        · exact .inl (by have := h1' h; omega)
        · exact .inr h

theorem decode_ok_run (buf : List Nat) (hbuf : buf.length = 42) (s : St) (hinv : Inv s) :
    ∃ o, decode s buf = .ok o ∧ Inv o.st ∧
      ∀ n, unham8 (buf.getD 2 0) = some n → WF s → Spec.Admissible (phase s) n (buf.drop 3) →
        (run (phase s) [] (buf.drop 3)).ok = true → LoopRun (run (phase s) [] (buf.drop 3)) o := by
  unfold decode
  rw [rdE_ok buf 2 _ (by omega), List.getElem_eq_getD 0]
  dsimp only
  cases hn : unham8 (buf.getD 2 0) with
  | none => exact ⟨_, rfl, inv_reset _, fun n h => by cases h⟩
  | some n =>
    dsimp only
    by_cases hbp : n * 3 > 39
    · rw [if_pos hbp]
      exact ⟨_, rfl, inv_reset _, fun m hm _ hadm _ => by cases hm; have := hadm.2.1; omega⟩
    · rw [if_neg hbp]
      obtain ⟨o, ho, hio, hgr⟩ := loop_run buf hbuf (n * 3) 42 s 3 [] hinv (by omega) (by omega) (by omega)
      refine ⟨o, ho, hio, fun m hm hwf hadm hok => hgr hwf ?_ hok⟩
      cases hm
      obtain ⟨_, _, hidle⟩ := hadm
      by_cases hl : s.left > 0
      · exact .inr (.inl hl)
      · rw [Nat.mul_comm]
        rcases hidle (phase_idle s (by omega)) with ⟨h13, hfill⟩ | ⟨hlt, hfill, hsep⟩
        · exact .inr (.inr (.inl ⟨by omega, hfill⟩))
        · exact .inr (.inr (.inr ⟨by omega, hfill, hsep⟩))

theorem decode_ok (buf : List Nat) (hbuf : buf.length = 42) (s : St) (hinv : Inv s) :
    ∃ o, decode s buf = .ok o ∧ Inv o.st := by
  obtain ⟨o, ho, hio, _⟩ := decode_ok_run buf hbuf s hinv
  exact ⟨o, ho, hio⟩

/-- reading `bytes` in phase `ph` has led to the state `s'` with the callbacks `bl`: `s'` stands for the phase the grammar
    is in after them, and the callbacks are the blocks the grammar completes -/
structure Reads (ph : Ph) (bytes : List Nat) (s' : St) (bl : List Block) : Prop where
  wf : WF s'
  inv : Inv s'
  run_eq : run ph [] bytes = ⟨phase s', bl.map toSpec, true⟩

theorem decode_run (buf : List Nat) (hbuf : buf.length = 42) (s : St) (hwf : WF s) (hinv : Inv s)
    (n : Nat) (hn : unham8 (buf.getD 2 0) = some n)
    (hadm : Spec.Admissible (phase s) n (buf.drop 3))
    (hok : (run (phase s) [] (buf.drop 3)).ok = true) :
    ∃ o, decode s buf = .ok o ∧ o.ret = true ∧ Reads (phase s) (buf.drop 3) o.st o.blocks := by
  obtain ⟨o, ho, hio, hgr⟩ := decode_ok_run buf hbuf s hinv
  obtain ⟨h1, h2, h3⟩ := hgr n hn hwf hadm hok
  exact ⟨o, ho, h1, h2, hio, h3⟩

theorem feed_ok (buf : List Nat) (hbuf : buf.length = 42) (s : St) (hinv : Inv s) :
    ∃ o, feed s buf = .ok o ∧ Inv o.st := by
  rcases feed_near s buf (by omega) with ⟨o, ho, hn⟩ | ⟨p, hp⟩
  · exact ⟨o, ho, hn.inv hinv⟩
  · rw [hp]; exact decode_ok buf hbuf _ hinv

theorem runOps_ok (ops : List Op) (hops : ∀ b, Op.feed b ∈ ops → b.length = 42) :
    ∀ s, Inv s → ∃ r, runOps s ops = .ok r ∧ Inv r.1 := by
  induction ops with
  | nil => intro s h; exact ⟨_, rfl, h⟩
  | cons op r ih =>
    intro s hinv
    have hr : ∀ b, Op.feed b ∈ r → b.length = 42 := fun b hb => hops b (by simp [hb])
    cases op with
    | reset => exact ih hr _ (inv_reset s)
    | feed b =>
      obtain ⟨o, ho, hio⟩ := feed_ok b (hops b (by simp)) s hinv
      obtain ⟨r', hr', hir⟩ := ih hr o.st hio
      refine ⟨(r'.1, o.blocks ++ r'.2), ?_, hir⟩
      simp only [runOps, ho, hr']

theorem run_split : ∀ (xs ys : List Nat) ph acc, run ph acc (xs ++ ys) =
    if (run ph [] xs).ok then run (run ph [] xs).ph (acc ++ (run ph [] xs).out) ys
    else ⟨(run ph [] xs).ph, acc ++ (run ph [] xs).out, false⟩ := by
  intro xs
  induction xs with
  | nil => intro ys ph acc; simp [run_nil]
  | cons b t ih =>
    intro ys ph acc
    rw [List.cons_append]
    cases ph with
    | idle =>
      rw [run_idle_cons, run_idle_cons]
      split
      · exact ih ..
      · split
        · exact ih ..
        · simp
    | hdr g =>
      rw [run_hdr_cons, run_hdr_cons]
      split
      · exact ih ..
      · cases shDecode (g ++ [b]) with
        | none => simp [hdrDone]
        | some sh => simp only [hdrDone]; split <;> exact ih ..
    | data a n g =>
      rw [run_data_cons, run_data_cons]
      split
      · exact ih ..
      · have e := ih [] .idle ([] ++ [(a, g ++ [b])])
        rw [List.append_nil] at e
        rw [ih, e]
        cases (run .idle [] t).ok <;> simp [run_nil]

/-- the accumulator of `run` is only a prefix of its output -/
theorem run_acc (xs : List Nat) (ph acc) :
    run ph acc xs = ⟨(run ph [] xs).ph, acc ++ (run ph [] xs).out, (run ph [] xs).ok⟩ := by
  have h := run_split xs [] ph acc
  rw [List.append_nil, run_nil] at h
  rw [h]
  cases (run ph [] xs).ok <;> rfl

theorem run_append (ys xs : List Nat) (ph acc) :
    run ph acc (xs ++ ys) = if (run ph acc xs).ok then run (run ph acc xs).ph (run ph acc xs).out ys else run ph acc xs := by
  rw [run_split, run_acc xs ph acc]
  cases (run ph [] xs).ok <;> rfl

theorem shDecode_hdrBytes (app size : Nat) (ha : app < 32) (hs : size ≤ 2047) :
    shDecode (Spec.hdrBytes app size) = some (app + size * 32) := by
  have hsh : Spec.shOf app size = app + size * 32 := by
    unfold Spec.shOf
    have h1 : app &&& 0x1F = app := by
      have := Nat.and_two_pow_sub_one_eq_mod app 5
      simp at this; omega
    have := Nat.shiftLeft_add_eq_or_of_lt (a := size) (b := app) (i := 5) (by omega)
    rw [h1, Nat.or_comm, ← this, Nat.shiftLeft_eq]; omega
  unfold Spec.hdrBytes shDecode
  simp only [hsh]
  have hlt : app + size * 32 < 65536 := by omega
  generalize app + size * 32 = sh at *
  simp only [Bits.and_0F, Nat.shiftRight_eq_div_pow]
  rw [unham8_ham8 _ (by omega), unham8_ham8 _ (by omega), unham8_ham8 _ (by omega), unham8_ham8 _ (by omega)]
  simp only [Option.some.injEq]
  rw [Bits.or_shl _ _ 4 (by omega), Bits.or_shl _ _ 4 (by omega), Bits.or_shl _ _ 8 (by omega)]
  omega

theorem unham8_sep : unham8 Spec.sepByte = some 0xC := by decide
theorem unham8_fill : unham8 Spec.fillByte = some 0x3 := by decide

theorem hdrBytes_length (app size : Nat) : (Spec.hdrBytes app size).length = 4 := rfl

theorem hdrDone_hdrBytes (acc : List (Nat × List Nat)) (r : List Nat) (app size : Nat) (ha : app < 32) (hs : size ≤ 2047) :
    hdrDone acc r (shDecode (Spec.hdrBytes app size)) =
      if size = 0 then run .idle acc r else run (.data app size []) acc r := by
  have h5 : (app + size * 32) >>> 5 = size := by rw [Nat.shiftRight_eq_div_pow]; omega
  have h1f : (app + size * 32) &&& 0x1F = app := by
    rw [show (0x1F : Nat) = 2 ^ 5 - 1 from rfl, Nat.and_two_pow_sub_one_eq_mod]; omega
  rw [shDecode_hdrBytes _ _ ha hs]
  simp only [hdrDone, h5, h1f]

theorem run_block (b : Spec.Blk) (hb : b.Ok) (acc : List (Nat × List Nat)) (r : List Nat) :
    run .idle acc (Spec.blockBytes b ++ r) =
      run .idle (acc ++ (if b.data = [] then [] else [(b.app, b.data)])) r := by
  obtain ⟨ha, hs⟩ := hb
  unfold Spec.blockBytes
  rw [List.cons_append, run_idle_cons, unham8_sep]
  simp only [show ¬ ((some 0xC : Option Nat) = some 0x3) by decide, if_false, if_true]
  rw [List.append_assoc]
  have := run_hdr_full acc (b.data ++ r) (Spec.hdrBytes b.app b.data.length) [] (by simp [Spec.hdrBytes]) (by simp [hdrBytes_length])
  rw [this, List.nil_append, hdrDone_hdrBytes _ _ _ _ ha hs]
  by_cases hd : b.data = []
  · simp [hd]
  · rw [if_neg (fun h => hd (List.length_eq_zero_iff.mp h)), if_neg hd,
      run_data_full b.app b.data.length acc r b.data [] hd (by simp), List.nil_append]

theorem run_fills (acc : List (Nat × List Nat)) (n : Nat) (r : List Nat) :
    run .idle acc (List.replicate n Spec.fillByte ++ r) = run .idle acc r :=
  run_idle_fillers acc r _ (fun b hb => by rw [List.eq_of_mem_replicate hb]; exact unham8_fill)

/-- **parse ∘ print**: the grammar reads a transmitted block sequence back, whatever the fillers -/
theorem run_flat (items : List (Spec.Blk × Nat)) (hok : ∀ it ∈ items, it.1.Ok) (lead : Nat) (r : List Nat) :
    ∀ acc, run .idle acc (Spec.flat lead items ++ r) = run .idle (acc ++ Spec.delivered items) r := by
  unfold Spec.flat
  intro acc
  rw [List.append_assoc, run_fills]
  clear lead
  induction items generalizing acc with
  | nil => simp [Spec.delivered]
  | cons it t ih =>
    have h1 := hok it (by simp)
    rw [List.flatMap_cons, List.append_assoc, List.append_assoc, run_block _ h1, run_fills,
      ih (fun x hx => hok x (by simp [hx]))]
    congr 1
    simp only [Spec.delivered, List.filterMap_cons]
    split <;> simp_all

theorem run_flat_idle (items : List (Spec.Blk × Nat)) (hok : ∀ it ∈ items, it.1.Ok) (lead : Nat) :
    run .idle [] (Spec.flat lead items) = ⟨.idle, Spec.delivered items, true⟩ := by
  have := run_flat items hok lead [] []
  rwa [List.append_nil, run_nil, List.nil_append] at this

theorem runRows_eq (rows : List (List Nat)) : ∀ ph acc,
    Spec.runRows ph acc rows = run ph acc rows.flatten := by
  induction rows with
  | nil => intro ph acc; rw [List.flatten_nil, run_nil]; rfl
  | cons pl t ih =>
    intro ph acc
    rw [List.flatten_cons, run_append, Spec.runRows]
    split
    · exact ih _ _
    · rfl

theorem run_append_ok (xs ys : List Nat) (ph : Ph) (h : (run ph [] (xs ++ ys)).ok = true) :
    (run ph [] xs).ok = true ∧ (run (run ph [] xs).ph [] ys).ok = true ∧
    (run ph [] (xs ++ ys)).ph = (run (run ph [] xs).ph [] ys).ph ∧
    (run ph [] (xs ++ ys)).out = (run ph [] xs).out ++ (run (run ph [] xs).ph [] ys).out := by
  rw [run_split, List.nil_append] at h ⊢
  split at h
  · next h1 =>
    rw [if_pos h1]
    rw [run_acc ys _ (run ph [] xs).out] at h ⊢
    exact ⟨h1, h, rfl, rfl⟩
  · cases h

theorem admAll_append (a b : List (Nat × List Nat)) : ∀ ph, Spec.AdmissibleAll ph (a ++ b) →
    (run ph [] (a.map (·.2)).flatten).ok = true →
    Spec.AdmissibleAll ph a ∧ Spec.AdmissibleAll (run ph [] (a.map (·.2)).flatten).ph b := by
  induction a with
  | nil => intro ph h _; simpa [Spec.AdmissibleAll, run_nil] using h
  | cons row t ih =>
    intro ph h hok
    obtain ⟨bp, pl⟩ := row
    simp only [List.cons_append, Spec.AdmissibleAll] at h
    simp only [List.map_cons, List.flatten_cons] at hok ⊢
    obtain ⟨o1, o2, o3, _⟩ := run_append_ok pl _ ph hok
    obtain ⟨i1, i2⟩ := ih _ h.2 o2
    refine ⟨⟨h.1, i1⟩, ?_⟩
    rw [o3]; exact i2

/-- a receiver in phase `ph` can take the rows (block pointer nibble, payload): every block pointer is usable and the
    grammar accepts the payloads -/
def Takes (ph : Ph) (rows : List (Nat × List Nat)) : Prop :=
  Spec.AdmissibleAll ph rows ∧ (run ph [] (rows.map (·.2)).flatten).ok = true

theorem Takes.cons {ph : Ph} {bp : Nat} {pl : List Nat} {t : List (Nat × List Nat)} (h : Takes ph ((bp, pl) :: t)) :
    Spec.Admissible ph bp pl ∧ (run ph [] pl).ok = true ∧ Takes (run ph [] pl).ph t := by
  obtain ⟨⟨a1, a2⟩, hok⟩ := h
  obtain ⟨o1, o2, _, _⟩ := run_append_ok pl _ ph hok
  exact ⟨a1, o1, a2, o2⟩

theorem Takes.append {ph : Ph} {a b : List (Nat × List Nat)} (h : Takes ph (a ++ b)) :
    Takes ph a ∧ Takes (run ph [] (a.map (·.2)).flatten).ph b := by
  obtain ⟨hadm, hok⟩ := h
  rw [List.map_append, List.flatten_append] at hok
  obtain ⟨o1, o2, _, _⟩ := run_append_ok _ _ _ hok
  obtain ⟨a1, a2⟩ := admAll_append _ _ _ hadm o1
  exact ⟨⟨a1, o1⟩, a2, o2⟩

theorem Reads.nil {s : St} (hwf : WF s) (hinv : Inv s) : Reads (phase s) [] s [] := ⟨hwf, hinv, run_nil _ _⟩

theorem Reads.ph_eq {ph : Ph} {bytes : List Nat} {s' : St} {bl : List Block} (h : Reads ph bytes s' bl) :
    (run ph [] bytes).ph = phase s' := by rw [h.run_eq]

theorem Reads.append {ph : Ph} {xs ys : List Nat} {s1 s2 : St} {bl1 bl2 : List Block} (h1 : Reads ph xs s1 bl1)
    (h2 : Reads (phase s1) ys s2 bl2) : Reads ph (xs ++ ys) s2 (bl1 ++ bl2) :=
  ⟨h2.wf, h2.inv, by rw [List.map_append, run_append, h1.run_eq, if_pos rfl, run_acc, h2.run_eq]⟩

/-- `_vbi_pfc_demux_decode` on consecutive packets -/
def decodeAll (s : St) : List (List Nat) → Except Err (St × List Block)
  | [] => .ok (s, [])
  | b :: r =>
    match decode s b with
    | .error e => .error e
    | .ok o =>
      match decodeAll o.st r with
      | .error e => .error e
      | .ok (s', bl) => .ok (s', o.blocks ++ bl)

/-- **consecutive packets**: blocks may span any number of packets -/
theorem decode_rows (bufs : List (List Nat)) : ∀ s, WF s → Inv s → (∀ b ∈ bufs, b.length = 42) →
    Takes (phase s) (bufs.map Spec.bpAndPayload) →
    ∃ s' bl, decodeAll s bufs = .ok (s', bl) ∧
      Reads (phase s) ((bufs.map Spec.bpAndPayload).map (·.2)).flatten s' bl := by
  induction bufs with
  | nil => intro s hwf hinv _ _; exact ⟨s, [], rfl, .nil hwf hinv⟩
  | cons b t ih =>
    intro s hwf hinv hlen htakes
    obtain ⟨hadm1, hok1, ht⟩ := htakes.cons
    -- the block pointer nibble decodes (it is <= 13)
    obtain ⟨n, hn⟩ : ∃ n, unham8 (b.getD 2 0) = some n := by
      cases h : unham8 (b.getD 2 0) with
      | none => simp only [h] at hadm1; have := hadm1.2.1; simp at this
      | some n => exact ⟨n, rfl⟩
    simp only [hn, Option.getD_some] at hadm1
    obtain ⟨o, ho, _, hr⟩ := decode_run b (hlen b (by simp)) s hwf hinv n hn hadm1 hok1
    rw [hr.ph_eq] at ht
    obtain ⟨s', bl, hd, r2⟩ := ih o.st hr.wf hr.inv (fun x hx => hlen x (by simp [hx])) ht
    exact ⟨s', o.blocks ++ bl, by simp only [decodeAll, ho, hd], hr.append r2⟩

end Zvbi.Pfc
