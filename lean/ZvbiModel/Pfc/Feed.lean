import ZvbiModel.Pfc.Grammar
/-!
# `vbi_pfc_demux_feed` (C15) by what it is fed

`feed` is described by the packet's address (`feed_of_addr`, `feed_addr_none`) and, for a page header, its page number
(`feedHdr_of_page`); on the packets of `Spec.rowPkt` / `Spec.headerPkt` this gives `feed_row`, `feed_header`.  From a state `Ready`
for it, a header of ours and the rows that follow are read as the grammar reads their payloads (`feed_header_rows`, in the
terms `Takes` / `Reads` of `Pfc/Grammar.lean`).
-/
namespace Zvbi.Pfc
open Zvbi.Hamm Zvbi.Gen
open Spec (Ph Res run shDecode)

theorem feed_of_addr (s : St) (buf : List Nat) (h8 : 8 ≤ buf.length) (m y : Nat)
    (haddr : Spec.addrOf buf = some (m, y)) :
    feed s buf = if y = 0 then feedHdr s buf m else feedRow s buf m y := by
  unfold Spec.addrOf at haddr
  split at haddr
  · next a b h0 h1 =>
    simp only [Option.some.injEq, Prod.mk.injEq] at haddr
    rw [feed_eq, if_neg (by omega), unham16pI_of_some _ _ a b h0 h1, if_neg (by omega)]
    simp only [Int.toNat_natCast, haddr.1, haddr.2]
  · cases haddr

theorem feed_addr_none (s : St) (buf : List Nat) (h8 : 8 ≤ buf.length) (h : Spec.addrOf buf = none) :
    feed s buf = .ok (desync s []) := by
  have hneg : unham16pI (buf.getD 0 0) (buf.getD 1 0) < 0 := by
    unfold Spec.addrOf at h
    unfold unham16pI
    cases h0 : unham8 (buf.getD 0 0) with
    | none => simp only; omega
    | some a =>
      cases h1 : unham8 (buf.getD 1 0) with
      | none => have := unham8_lt16 _ _ h0; simp only; omega
      | some c => rw [h0, h1] at h; cases h
  rw [feed_eq, if_neg (by omega), if_pos hneg]

theorem feedHdr_of_page (s : St) (buf : List Nat) (m pp : Nat) (hpage : Spec.pageByteOf buf = some pp) :
    feedHdr s buf m =
      if m ||| pp ≠ s.pgno then
        (if pfcForeignMagHeaderIgnored && decide (((m ||| pp) ^^^ s.pgno) &&& 0xF00 ≠ 0) then .ok ⟨s, true, []⟩
         else .ok ⟨{ pageEnd s with nPackets := 0 }, true, []⟩)
      else feedSub s buf := by
  unfold Spec.pageByteOf at hpage
  split at hpage
  · next c d h2 h3 =>
    cases hpage
    unfold feedHdr
    rw [unham16pI_of_some _ _ c d h2 h3, if_neg (by omega)]
    rfl
  · cases hpage

theorem feedRow_ignored (s : St) (buf : List Nat) (m y : Nat)
    (h : (m ^^^ s.pgno) &&& 0xF00 ≠ 0 ∨ s.nPackets = 0 ∨ y > 25) : feedRow s buf m y = .ok ⟨s, true, []⟩ := by
  unfold feedRow
  exact ite_ind (P := (· = _)) (fun _ => rfl) fun h1 => ite_ind (P := (· = _)) (fun _ => rfl) fun h2 =>
    if_pos ((h.resolve_left h1).resolve_left h2)

theorem feedRow_gap (s : St) (buf : List Nat) (m y : Nat) (hm : (m ^^^ s.pgno) &&& 0xF00 = 0)
    (hn : s.nPackets ≠ 0) (h25 : y ≤ 25) (hgap : y ≠ s.packet ∨ y > s.nPackets) :
    feedRow s buf m y = .ok ⟨reset s, true, []⟩ := by
  unfold feedRow
  rw [if_neg (by simp [hm]), if_neg hn, if_neg (by omega), if_pos hgap]

theorem feedRow_seq (s : St) (buf : List Nat) (m y : Nat) (hm : (m ^^^ s.pgno) &&& 0xF00 = 0)
    (hn : s.nPackets ≠ 0) (h25 : y ≤ 25) (hseq : y = s.packet) (hle : y ≤ s.nPackets) :
    feedRow s buf m y = decode { s with packet := y + 1 } buf := by
  unfold feedRow
  rw [if_neg (by simp [hm]), if_neg hn, if_neg (by omega), if_neg (by omega)]

theorem same_mag (a b : Nat) (h : a >>> 8 = b >>> 8) : (a ^^^ b) &&& 0xF00 = 0 := by
  apply Nat.eq_of_testBit_eq
  intro i
  rw [Nat.testBit_and, Nat.testBit_xor, Nat.zero_testBit, show (0xF00 : Nat) = 15 <<< 8 from rfl,
    Nat.testBit_shiftLeft]
  by_cases hi : 8 ≤ i
  · obtain ⟨j, rfl⟩ := Nat.exists_eq_add_of_le hi
    rw [← Nat.testBit_shiftRight, ← Nat.testBit_shiftRight, h]; simp
  · simp [hi]

theorem addrOf_addrBytes (pgno y : Nat) (rest : List Nat) (h1 : 0x100 ≤ pgno) (h2 : pgno < 0x900) (hy : y < 32) :
    Spec.addrOf (Spec.addrBytes pgno y ++ rest) = some (pgno / 256 * 256, y) := by
  have hv : ((pgno >>> 8) &&& 7) ||| (y <<< 3) = pgno / 256 % 8 + y * 8 := by
    rw [Bits.and_07, Nat.shiftRight_eq_div_pow, Bits.or_shl _ _ 3 (by omega)]
  show (match unham8 (ham8 _), unham8 (ham8 _) with
    | some a, some b => _
    | _, _ => none) = _
  rw [hv, Bits.and_0F, Nat.shiftRight_eq_div_pow, unham8_ham8 _ (by omega), unham8_ham8 _ (by omega)]
  simp only
  rw [Bits.or_shl _ _ 4 (by omega), Bits.and_07, Nat.shiftRight_eq_div_pow, Nat.shiftLeft_eq]
  congr 2
  · split <;> omega
  · omega

theorem headerPkt_addr (pgno stream ci n : Nat) (tail : List Nat) (h1 : 0x100 ≤ pgno) (h2 : pgno < 0x900) :
    Spec.addrOf (Spec.headerPkt pgno stream ci n tail) = some (pgno / 256 * 256, 0) := by
  unfold Spec.headerPkt
  rw [List.append_assoc]
  exact addrOf_addrBytes pgno 0 _ h1 h2 (by omega)

theorem headerPkt_page (pgno stream ci n : Nat) (tail : List Nat) :
    Spec.pageByteOf (Spec.headerPkt pgno stream ci n tail) = some (pgno % 256) := by
  show (match unham8 (ham8 _), unham8 (ham8 _) with
    | some a, some b => some (a ||| (b <<< 4))
    | _, _ => none) = _
  rw [unham8_ham8 _ (Nat.and_lt_two_pow _ (n := 4) (by decide)), unham8_ham8 _ (Nat.and_lt_two_pow _ (n := 4) (by decide))]
  simp only [Bits.and_0F, Nat.shiftRight_eq_div_pow]
  rw [Bits.or_shl _ _ 4 (by omega)]
  congr 1; omega

theorem mag_or_page (pgno : Nat) : pgno / 256 * 256 ||| pgno % 256 = pgno := by
  rw [Bits.mul_or _ _ 8 (Bits.mod_lt _ _)]; omega

theorem and_18 (x : Nat) : x &&& 0x18 = x / 8 % 4 * 8 := Bits.and_field x 3 2

theorem nibbles_join (w : Nat) (hw : w < 65536) :
    ((w &&& 15) ||| (((w >>> 4) &&& 15) <<< 4)) + (((w >>> 8) &&& 15) ||| (((w >>> 12) &&& 15) <<< 4)) * 256 = w := by
  simp only [Bits.and_0F, Nat.shiftRight_eq_div_pow, Nat.reducePow]
  rw [Bits.or_shl _ _ 4 (by omega), Bits.or_shl _ _ 4 (by omega)]
  omega

theorem subno_eq (ci n st : Nat) (hci : ci < 16) (hst : st < 16) :
    (ci &&& 15) ||| ((n &&& 7) <<< 4) ||| ((st &&& 15) <<< 8) ||| (((n >>> 3) &&& 3) <<< 12) =
      ci + n % 8 * 16 + st * 256 + n / 8 % 4 * 4096 := by
  rw [Bits.and_0F, Bits.and_0F, Bits.and_07, Bits.and_03, Nat.shiftRight_eq_div_pow, Bits.or_shl _ _ 4 (by omega),
    Bits.or_shl _ _ 8 (by omega), Bits.or_shl _ _ 12 (by omega)]
  omega

/-- sub-code arithmetic: continuity index, packet count and stream survive encoding and decoding -/
theorem subno_fields (ci n st : Nat) (hci : ci < 16) (hn : n < 32) (hst : st < 16)
    (v : Nat) (hv : v = ci + n % 8 * 16 + st * 256 + n / 8 % 4 * 4096) :
    (v >>> 8) &&& 15 = st ∧ v &&& 15 = ci ∧ ((v >>> 4) &&& 7) + ((v >>> 9) &&& 0x18) = n := by
  simp only [Bits.and_0F, Bits.and_07, Nat.shiftRight_eq_div_pow, Nat.reducePow]
  rw [and_18]
  have h1 : v / 16 % 8 = n % 8 := by omega
  have h2 : v / 512 / 8 = n / 8 % 4 := by rw [Nat.div_div_eq_div_mul]; omega
  omega

theorem feedSub_headerPkt (s : St) (pgno stream ci n : Nat) (tail : List Nat)
    (hst : stream < 16) (hci : ci < 16) (hn : n < 32) :
    feedSub s (Spec.headerPkt pgno stream ci n tail) =
      if stream ≠ s.stream then .ok ⟨{ pageEnd s with nPackets := 0 }, true, []⟩ else
      .ok ⟨{ (if ci ≠ s.ci then reset s else pageEnd s) with
              ci := (ci + 1) &&& 15, packet := 1, nPackets := n }, true, []⟩ := by
  have hp : pair16 (unham16pI ((Spec.headerPkt pgno stream ci n tail).getD 4 0) ((Spec.headerPkt pgno stream ci n tail).getD 5 0))
      (unham16pI ((Spec.headerPkt pgno stream ci n tail).getD 6 0) ((Spec.headerPkt pgno stream ci n tail).getD 7 0)) =
      some (ci + n % 8 * 16 + stream * 256 + n / 8 % 4 * 4096) := by
    show pair16 (unham16pI (ham8 _) (ham8 _)) (unham16pI (ham8 _) (ham8 _)) = _
    rw [unham16pI_ham8 _ _ (Nat.and_lt_two_pow _ (n := 4) (by decide)) (Nat.and_lt_two_pow _ (n := 4) (by decide)), unham16pI_ham8 _ _ (Nat.and_lt_two_pow _ (n := 4) (by decide)) (Nat.and_lt_two_pow _ (n := 4) (by decide)), pair16_nonneg,
      subno_eq ci n stream hci hst, nibbles_join _ (by omega)]
  obtain ⟨e1, e2, e3⟩ := subno_fields ci n stream hci hn hst _ rfl
  unfold feedSub
  rw [hp]
  simp only [e1, e2, e3]

theorem feed_row (s : St) (pgno y bp : Nat) (payload : List Nat)
    (hpg1 : 0x100 ≤ pgno) (hpg2 : pgno < 0x900) (hy1 : 1 ≤ y) (hy2 : y ≤ 25)
    (hs : s.pgno = pgno) (hopen : s.nPackets ≠ 0) (hseq : y = s.packet) (hle : y ≤ s.nPackets)
    (hpl : payload.length = 39) :
    feed s (Spec.rowPkt pgno y bp payload) =
      decode { s with packet := y + 1 } (Spec.rowPkt pgno y bp payload) := by
  rw [feed_of_addr s (Spec.rowPkt pgno y bp payload) (by simp [Spec.rowPkt, Spec.addrBytes, hpl]) _ _
      (addrOf_addrBytes pgno y _ hpg1 hpg2 (by omega)),
    if_neg (by omega), feedRow_seq s _ _ y (same_mag _ _ (by rw [hs]; simp only [Nat.shiftRight_eq_div_pow]; omega))
      hopen hy2 hseq hle]

theorem feed_header_any (s : St) (pgno stream ci n : Nat) (tail : List Nat)
    (hpg1 : 0x100 ≤ pgno) (hpg2 : pgno < 0x900) (hst : stream < 16) (hci : ci < 16) (hn : n < 32)
    (hs : s.pgno = pgno) :
    feed s (Spec.headerPkt pgno stream ci n tail) =
      if stream ≠ s.stream then .ok ⟨{ pageEnd s with nPackets := 0 }, true, []⟩ else
      .ok ⟨{ (if ci ≠ s.ci then reset s else pageEnd s) with
              ci := (ci + 1) &&& 15, packet := 1, nPackets := n }, true, []⟩ := by
  rw [feed_of_addr s _ (by simp [Spec.headerPkt, Spec.addrBytes]) _ _ (headerPkt_addr pgno stream ci n tail hpg1 hpg2),
    if_pos rfl, feedHdr_of_page s _ _ _ (headerPkt_page pgno stream ci n tail), mag_or_page, if_neg (by simp [hs]),
    feedSub_headerPkt s pgno stream ci n tail hst hci hn]

theorem feed_header (s : St) (pgno stream ci n : Nat) (tail : List Nat)
    (hpg1 : 0x100 ≤ pgno) (hpg2 : pgno < 0x900) (hst : stream < 16) (hci : ci < 16) (hn : n < 32)
    (hs : s.pgno = pgno) (hss : s.stream = stream) :
    feed s (Spec.headerPkt pgno stream ci n tail) =
      .ok ⟨{ (if ci ≠ s.ci then reset s else pageEnd s) with
              ci := (ci + 1) &&& 15, packet := 1, nPackets := n }, true, []⟩ := by
  rw [feed_header_any s pgno stream ci n tail hpg1 hpg2 hst hci hn hs, if_neg (by simp [hss])]

/-- feed packets one after the other -/
def feedAll (s : St) (bufs : List (List Nat)) : Except Err (St × List Block) := runOps s (bufs.map Op.feed)

theorem feedAll_nil (s : St) : feedAll s [] = .ok (s, []) := rfl

theorem feedAll_cons (s : St) (b : List Nat) (r : List (List Nat)) : feedAll s (b :: r) =
    match feed s b with
    | .error e => .error e
    | .ok o =>
      match feedAll o.st r with
      | .error e => .error e
      | .ok (s', bl) => .ok (s', o.blocks ++ bl) := rfl

theorem feedAll_append (b : List (List Nat)) : ∀ (a : List (List Nat)) (s : St),
    feedAll s (a ++ b) = match feedAll s a with
      | .error e => .error e
      | .ok (s1, bl1) =>
        match feedAll s1 b with
        | .error e => .error e
        | .ok (s', bl) => .ok (s', bl1 ++ bl) := by
  intro a
  induction a with
  | nil =>
    intro s
    rw [feedAll_nil, List.nil_append]
    dsimp only
    cases feedAll s b with
    | error e => rfl
    | ok r => rfl
  | cons x t ih =>
    intro s
    rw [List.cons_append, feedAll_cons, feedAll_cons]
    cases feed s x with
    | error e => rfl
    | ok o =>
      dsimp only
      rw [ih]
      cases feedAll o.st t with
      | error e => rfl
      | ok r =>
        dsimp only
        cases feedAll r.1 b with
        | error e => rfl
        | ok r' => dsimp only; rw [List.append_assoc]

theorem bpAndPayload_rowPkt (pgno y bp : Nat) (pl : List Nat) (hbp : bp < 16) :
    Spec.bpAndPayload (Spec.rowPkt pgno y bp pl) = (bp, pl) := by
  simp [Spec.bpAndPayload, Spec.rowPkt, Spec.addrBytes, unham8_ham8 bp hbp]

theorem rowPkt_length (pgno y bp : Nat) (pl : List Nat) (h : pl.length = 39) :
    (Spec.rowPkt pgno y bp pl).length = 42 := by
  simp [Spec.rowPkt, Spec.addrBytes, h]

theorem feed_rows (pgno : Nat) (hpg1 : 0x100 ≤ pgno) (hpg2 : pgno < 0x900) (rows : List (Nat × List Nat)) :
    ∀ y0 s, WF s → Inv s → s.pgno = pgno → s.packet = y0 → 1 ≤ y0 → y0 + rows.length ≤ s.nPackets + 1 →
      s.nPackets ≤ 25 → Takes (phase s) rows →
      ∃ s' bl, feedAll s (Spec.rowsPkts pgno y0 rows) = .ok (s', bl) ∧
        Reads (phase s) (rows.map (·.2)).flatten s' bl ∧ Same { s with packet := y0 + rows.length } s' := by
  induction rows with
  | nil =>
    intro y0 s hwf hinv _ hp _ _ _ _
    exact ⟨s, [], rfl, .nil hwf hinv, rfl, hp, rfl, rfl, rfl⟩
  | cons row t ih =>
    intro y0 s hwf hinv hpgs hp hy1 hyn hn25 htakes
    obtain ⟨bp, pl⟩ := row
    obtain ⟨hadm1, hok1, ht⟩ := htakes.cons
    have hpl : pl.length = 39 := hadm1.1
    have hbp : bp < 16 := by have := hadm1.2.1; omega
    simp only [List.length_cons] at hyn
    have hfeed := feed_row s pgno y0 bp pl hpg1 hpg2 hy1 (by omega) hpgs (by omega) hp.symm (by omega) hpl
    have hgd : unham8 ((Spec.rowPkt pgno y0 bp pl).getD 2 0) = some bp := by
      simp [Spec.rowPkt, Spec.addrBytes, unham8_ham8 bp hbp]
    have hdrop : (Spec.rowPkt pgno y0 bp pl).drop 3 = pl := by simp [Spec.rowPkt, Spec.addrBytes]
    obtain ⟨o, ho, h1, hr⟩ := decode_run _ (rowPkt_length pgno y0 bp pl hpl) { s with packet := y0 + 1 } hwf hinv bp hgd
      (by rw [hdrop]; exact hadm1) (by rw [hdrop]; exact hok1)
    rw [hdrop] at hr
    replace hr : Reads (phase s) pl o.st o.blocks := hr
    rw [hr.ph_eq] at ht
    have e := decode_same ho h1
    have e2 : o.st.packet = y0 + 1 := e.packet
    have e3 : o.st.nPackets = s.nPackets := e.nPackets
    obtain ⟨s', bl, hd, r2, g⟩ :=
      ih (y0 + 1) o.st hr.wf hr.inv (e.pgno.trans hpgs) e2 (by omega) (by omega) (by omega) ht
    refine ⟨s', o.blocks ++ bl, ?_, hr.append r2, g.ci.trans e.ci,
      g.packet.trans (by show y0 + 1 + t.length = y0 + (t.length + 1); omega), g.nPackets.trans e3, g.pgno.trans e.pgno,
      g.stream.trans e.stream⟩
    rw [Spec.rowsPkts, feedAll_cons, hfeed, ho]
    simp only [hd]

theorem pageEnd_of_complete (s : St) (h : s.nPackets = 0 ∨ s.packet = s.nPackets + 1) : pageEnd s = s := by
  unfold pageEnd
  split
  · rename_i hc
    simp only [Bool.and_eq_true, decide_eq_true_eq] at hc
    omega
  · rfl

theorem pageEnd_id (hfinding : pfcPageEndChecked = false) (s : St) : pageEnd s = s := by
  unfold pageEnd; rw [hfinding]; rfl

/-- the state is ready for a header of ours with continuity index `ci`: in step with it (the index is the expected one and the
    open page is complete), or between blocks (the header then resets it) -/
def Ready (ci : Nat) (s : St) : Prop := (s.ci = ci ∧ pageEnd s = s) ∨ (s.ci ≠ ci ∧ s.left = 0)

theorem feed_header_rows (pgno stream : Nat) (hpg1 : 0x100 ≤ pgno) (hpg2 : pgno < 0x900) (hst : stream < 16)
    (ci : Nat) (hci : ci < 16) (n : Nat) (tail : List Nat) (rows : List (Nat × List Nat))
    (hrows : rows.length ≤ n) (hn : n ≤ 25)
    (s : St) (hwf : WF s) (hinv : Inv s) (hpgs : s.pgno = pgno) (hss : s.stream = stream)
    (hready : Ready ci s) (htakes : Takes (phase s) rows) :
    ∃ s' bl, feedAll s (Spec.headerPkt pgno stream ci n tail :: Spec.rowsPkts pgno 1 rows) = .ok (s', bl) ∧
      Reads (phase s) (rows.map (·.2)).flatten s' bl ∧
      Same { s with ci := (ci + 1) &&& 15, packet := 1 + rows.length, nPackets := n } s' := by
  have hfh := feed_header s pgno stream ci n tail hpg1 hpg2 hst hci (by omega) hpgs hss
  -- the state the rows meet
  obtain ⟨s0, hs0, hwf0, hinv0, hph0, hpg0, hst0⟩ : ∃ s0 : St, (if ci ≠ s.ci then reset s else pageEnd s) = s0 ∧
      WF s0 ∧ Inv s0 ∧ phase s0 = phase s ∧ s0.pgno = s.pgno ∧ s0.stream = s.stream := by
    rcases hready with ⟨hc, hpe⟩ | ⟨hc, hl⟩
    · rw [if_neg (fun h => h hc.symm), hpe]
      exact ⟨s, rfl, hwf, hinv, rfl, rfl, rfl⟩
    · rw [if_pos (fun h => hc h.symm)]
      exact ⟨reset s, rfl, fun h => absurd h (Nat.lt_irrefl 0), inv_reset s, by rw [phase_idle s hl]; rfl, rfl, rfl⟩
  rw [hs0] at hfh
  have hph1 : phase { s0 with ci := (ci + 1) &&& 15, packet := 1, nPackets := n } = phase s := hph0
  obtain ⟨s', bl, h1, hr, g1, g2, g3, g4, g5⟩ :=
    feed_rows pgno hpg1 hpg2 rows 1 { s0 with ci := (ci + 1) &&& 15, packet := 1, nPackets := n } hwf0 hinv0
      (hpg0.trans hpgs) rfl (Nat.le_refl 1) (show 1 + rows.length ≤ n + 1 by omega) hn (by rw [hph1]; exact htakes)
  rw [hph1] at hr
  refine ⟨s', bl, ?_, hr, g1, g2, g3, g4.trans hpg0, g5.trans hst0⟩
  rw [feedAll_cons, hfh]
  simp only [h1, List.nil_append]

theorem feed_nonheader (s : St) (buf : List Nat) (hlen : buf.length = 42) (m y : Nat)
    (haddr : Spec.addrOf buf = some (m, y)) (hy : y ≠ 0) : feed s buf = feedRow s buf m y := by
  rw [feed_of_addr s buf (by omega) m y haddr, if_neg hy]

theorem reset_eq_new (s : St) : reset s = { new s.pgno s.stream with blockSize := s.blockSize } := rfl

/-- (application id, size, bytes) of the callbacks of a run, `[]` if the run failed -/
def blocksOf (r : Except Err (St × List Block)) : List (Nat × Nat × List Nat) :=
  match r with
  | .ok (_, bl) => bl.map (fun b => (b.app, b.size, b.bytes))
  | .error _ => []

theorem feed_foreign_mag_header (hfix : pfcForeignMagHeaderIgnored = true) (s : St) (buf : List Nat)
    (hlen : buf.length = 42) (m pp : Nat)
    (haddr : Spec.addrOf buf = some (m, 0)) (hpage : Spec.pageByteOf buf = some pp)
    (hmag : ((m ||| pp) ^^^ s.pgno) &&& 0xF00 ≠ 0) :
    feed s buf = .ok ⟨s, true, []⟩ := by
  have hne : m ||| pp ≠ s.pgno := by
    intro h; rw [h, Nat.xor_self] at hmag; simp at hmag
  rw [feed_of_addr s buf (by omega) m 0 haddr, if_pos rfl, feedHdr_of_page s buf m pp hpage, if_pos hne,
    if_pos (by simp [hfix, hmag])]

end Zvbi.Pfc
