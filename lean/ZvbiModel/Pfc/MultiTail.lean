import ZvbiModel.Pfc.Multi
/-!
# Lemmas for the PFC demultiplexer (C15): the packet count of a page header beyond the rows that
arrive has no effect (finding F42, hypothesis-free form)

`setN a s` is `s` with `n_packets = a`.  `_vbi_pfc_demux_decode` never looks at `n_packets`
(`decode_setN`); `vbi_pfc_demux_feed` compares a row number with it, so two demultiplexers that
differ only in `n_packets` (`n` and `b`, `1 <= b <= n`) stay in step on every packet that is not a row
`b+1 .. n` of our magazine (`feed_sim`), and are equal again after the next header of ours (`feedAll_sim_header`) - provided
the header does not check the end of the previous page (`Gen.pfcPageEndChecked = false`).
-/
namespace Zvbi.Pfc
open Zvbi.Hamm Zvbi.Gen
open Spec (Ph Res run shDecode)

def setN (a : Nat) (s : St) : St := { s with nPackets := a }

/-- `n_packets := a` in a result with return value TRUE; one with FALSE carries a reset state, whose `n_packets` is 0 -/
def liftO (a : Nat) (o : Out) : Out := if o.ret then { o with st := setN a o.st } else o

/-- `_vbi_pfc_demux_decode` does not look at `n_packets` -/
theorem decode_setN (a : Nat) (s : St) (buf : List Nat) :
    decode (setN a s) buf = Except.map (liftO a) (decode s buf) := by
  have h := decode_rePage (setN a s) s buf
  rw [show rePage (setN a s) s = setN a s from rfl] at h
  rw [h]
  cases hd : decode s buf with
  | error e => rfl
  | ok o =>
    obtain ⟨st, ret, bl⟩ := o
    have hp : st = rePage (if ret then s else reset s) st := decode_page hd
    cases ret
    · show Except.ok (Out.mk (rePage (reset (setN a s)) st) false bl) = Except.ok (Out.mk st false bl)
      conv => rhs; rw [hp]
      rfl
    · show Except.ok (Out.mk (rePage (setN a s) st) true bl) = Except.ok (Out.mk (setN a st) true bl)
      conv => rhs; rw [hp]
      rfl

/-- the packet is not a row `b+1 .. n` of the magazine of `pgno` -/
def NotBetween (pgno b n : Nat) (buf : List Nat) : Prop :=
  ∀ m y, Spec.addrOf buf = some (m, y) → (m ^^^ pgno) &&& 0xF00 = 0 → ¬ (b < y ∧ y ≤ n)

/-- results of the demultiplexer with `n_packets = n` and of the one with `n_packets = b`: equal, or still
    differing only in `n_packets` -/
def Sim (b n : Nat) (r r' : Except Err Out) : Prop :=
  r' = r ∨ ∃ o, r = .ok o ∧ r' = .ok { o with st := setN b o.st } ∧ o.st.nPackets = n

-- a header overwrites `n_packets` unless it is ignored; no condition reads it when the page end is not checked
theorem feedHdr_sim (hfinding : pfcPageEndChecked = false) (x : St) (b : Nat) (buf : List Nat) (m : Nat) :
    Sim b x.nPackets (feedHdr x buf m) (feedHdr (setN b x) buf m) := by
  unfold feedHdr feedSub
  simp only [pageEnd_id hfinding]
  refine ite_rel .rfl (fun _ => .inl rfl) fun _ => ite_rel .rfl (fun _ => ite_rel .rfl (fun _ => .inr ⟨_, rfl, rfl, rfl⟩) fun _ => .inl rfl)
    fun _ => ?_
  cases pair16 _ _ with
  | none => exact .inl rfl
  | some subno =>
    exact ite_rel .rfl (fun _ => .inl rfl) fun _ => .inl (by by_cases hc : subno &&& 15 = x.ci <;> simp [setN, hc, reset])

theorem feedRow_sim (x : St) (n b : Nat) (hb : 1 ≤ b) (hbn : b ≤ n) (hx : x.nPackets = n) (buf : List Nat) (m y : Nat)
    (hnb : (m ^^^ x.pgno) &&& 0xF00 = 0 → ¬ (b < y ∧ y ≤ n)) :
    Sim b n (feedRow x buf m y) (feedRow (setN b x) buf m y) := by
  by_cases hig : (m ^^^ x.pgno) &&& 0xF00 ≠ 0 ∨ y > 25
  · have h : ∀ s : St, s.pgno = x.pgno → feedRow s buf m y = .ok ⟨s, true, []⟩ := fun s hs =>
      feedRow_ignored s buf m y (by rw [hs]; rcases hig with h | h; exact .inl h; exact .inr (.inr h))
    rw [h x rfl, h (setN b x) rfl]
    exact .inr ⟨_, rfl, rfl, hx⟩
  · have hm : (m ^^^ x.pgno) &&& 0xF00 = 0 := Decidable.byContradiction fun h => hig (.inl h)
    have h25 : y ≤ 25 := by omega
    have hbt := hnb hm
    by_cases hgap : y ≠ x.packet ∨ y > n
    · rw [feedRow_gap x buf m y hm (by omega) h25 (by rw [hx]; exact hgap),
        feedRow_gap (setN b x) buf m y hm (show b ≠ 0 by omega) h25
          (by rcases hgap with h | h; exact .inl h; exact .inr (show y > b by omega))]
      exact .inl rfl
    · rw [feedRow_seq x buf m y hm (by omega) h25 (by omega) (by omega),
        feedRow_seq (setN b x) buf m y hm (show b ≠ 0 by omega) h25 (show y = x.packet by omega) (show y ≤ b by omega)]
      show Sim b n _ (decode (setN b { x with packet := y + 1 }) buf)
      rw [decode_setN]
      cases hd : decode { x with packet := y + 1 } buf with
      | error e => exact .inl rfl
      | ok o =>
        show Sim b n (.ok o) (.ok (liftO b o))
        unfold liftO
        by_cases hr : o.ret = true
        · rw [if_pos hr]; exact .inr ⟨o, rfl, rfl, by rw [(decode_same hd hr).nPackets]; exact hx⟩
        · rw [if_neg hr]; exact .inl rfl

theorem feed_sim (hfinding : pfcPageEndChecked = false) (x : St) (n b : Nat) (hb : 1 ≤ b) (hbn : b ≤ n)
    (hx : x.nPackets = n) (buf : List Nat) (hlen : buf.length = 42) (hnb : NotBetween x.pgno b n buf) :
    Sim b n (feed x buf) (feed (setN b x) buf) := by
  cases ha : Spec.addrOf buf with
  | none => rw [feed_addr_none x buf (by omega) ha, feed_addr_none _ buf (by omega) ha]; exact .inl rfl
  | some my =>
    obtain ⟨m, y⟩ := my
    rw [feed_of_addr x buf (by omega) m y ha, feed_of_addr _ buf (by omega) m y ha]
    by_cases hy : y = 0
    · rw [if_pos hy, if_pos hy, ← hx]; exact feedHdr_sim hfinding x b buf m
    · rw [if_neg hy, if_neg hy]; exact feedRow_sim x n b hb hbn hx buf m y (hnb m y ha)

/-- results of feeding a packet sequence to the two demultiplexers -/
def SimA (b n pgno stream : Nat) (r r' : Except Err (St × List Block)) : Prop :=
  r' = r ∨ ∃ s bl, r = .ok (s, bl) ∧ r' = .ok (setN b s, bl) ∧ s.nPackets = n ∧ s.pgno = pgno ∧ s.stream = stream

theorem feedAll_sim (hfinding : pfcPageEndChecked = false) (n b : Nat) (hb : 1 ≤ b) (hbn : b ≤ n) (pgno stream : Nat)
    (l : List (List Nat)) : ∀ (x : St), x.nPackets = n → x.pgno = pgno → x.stream = stream →
    (∀ buf ∈ l, buf.length = 42 ∧ NotBetween pgno b n buf) →
    SimA b n pgno stream (feedAll x l) (feedAll (setN b x) l) := by
  induction l with
  | nil => intro x hx hp hs _; exact .inr ⟨_, _, rfl, rfl, hx, hp, hs⟩
  | cons buf r ih =>
    intro x hx hp hss hl
    obtain ⟨hlen, hnb⟩ := hl buf (by simp)
    rw [feedAll_cons, feedAll_cons]
    rcases feed_sim hfinding x n b hb hbn hx buf hlen (by rw [hp]; exact hnb) with h | ⟨o, h1, h2, hno⟩
    · rw [h]; exact .inl rfl
    · have hk := feed_key buf x o h1
      rw [h1, h2]
      dsimp only
      rcases ih o.st hno (by rw [hk.1, hp]) (by rw [hk.2, hss]) (fun b' hb' => hl b' (by simp [hb'])) with
        g | ⟨s2, bl2, g1, g2, g3⟩
      · rw [g]; exact .inl rfl
      · rw [g1, g2]; exact .inr ⟨s2, _, rfl, rfl, g3⟩

theorem feedAll_sim_header (hfinding : pfcPageEndChecked = false) (n b : Nat) (hb : 1 ≤ b) (hbn : b ≤ n) (pgno stream : Nat)
    (hpg1 : 0x100 ≤ pgno) (hpg2 : pgno < 0x900) (hst : stream < 16)
    (x : St) (hxn : x.nPackets = n) (hxp : x.pgno = pgno) (hxs : x.stream = stream)
    (mid : List (List Nat)) (hmid : ∀ buf ∈ mid, buf.length = 42 ∧ NotBetween pgno b n buf)
    (ci n' : Nat) (hci : ci < 16) (hn' : n' < 32) (tail : List Nat) (rest : List (List Nat)) :
    feedAll (setN b x) (mid ++ Spec.headerPkt pgno stream ci n' tail :: rest) =
      feedAll x (mid ++ Spec.headerPkt pgno stream ci n' tail :: rest) := by
  rw [feedAll_append, feedAll_append]
  rcases feedAll_sim hfinding n b hb hbn pgno stream mid x hxn hxp hxs hmid with h | ⟨s1, bl1, h1, h2, _, hp1, hs1⟩
  · rw [h]
  · rw [h1, h2]
    dsimp only
    rw [feedAll_cons, feedAll_cons, feed_header s1 pgno stream ci n' tail hpg1 hpg2 hst hci hn' hp1 hs1,
      feed_header (setN b s1) pgno stream ci n' tail hpg1 hpg2 hst hci hn' hp1 hs1, pageEnd_id hfinding, pageEnd_id hfinding]
    rw [show (setN b s1).ci = s1.ci from rfl]
    by_cases hc : ci ≠ s1.ci
    · rw [if_pos hc, if_pos hc]; rfl
    · rw [if_neg hc, if_neg hc]; rfl

end Zvbi.Pfc
