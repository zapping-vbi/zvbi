import ZvbiModel.Pfc.Feed
/-!
# Lemmas for the PFC demultiplexer (C15): whole transmissions with foreign traffic

* `Transparent` - packets a demultiplexer for page `pgno` ignores in every state (rows of other
  magazines, rows 26..31, page headers of other magazines); `Thin`/`feedAll_thin`: deleting any
  number of them anywhere in a packet sequence changes nothing.
* `Closing` / `Interlude` - what may arrive *between* two pages of ours in serial transmission:
  headers of other pages of our magazine or of other streams of our page (they close our page),
  followed by any rows (ignored while our page is closed).
* `PageG`, `feed_pageG`, `feed_pagesG` - pages of ours, each preceded by an interlude, announcing
  `n` packets of which a prefix arrives.  With all packets arriving this is the multi-page theorem
  with foreign traffic; with a proper prefix (and `Gen.pfcPageEndChecked = false`) it says what the
  demultiplexer does when the last packets of a page are lost (finding F42): nothing - it reads the
  stream with the lost packets cut out.
* `PageG.ofPage` - a `Spec.Page` is the `PageG` without interlude whose rows all arrive; the theorems about
  `Spec.pagesPkts` (`feed_delivers_run`, `feed_pages`) are cases of the above.
-/
namespace Zvbi.Pfc
open Zvbi.Hamm Zvbi.Gen
open Spec (Ph Res run shDecode)

/-- a 42 byte packet that is a row of another magazine, a row 26..31, or a page header of another
    magazine -/
def Transparent (pgno : Nat) (buf : List Nat) : Prop :=
  buf.length = 42 ∧ ∃ m y, Spec.addrOf buf = some (m, y) ∧
    ((y ≠ 0 ∧ ((m ^^^ pgno) &&& 0xF00 ≠ 0 ∨ y > 25)) ∨
     (y = 0 ∧ ∃ pp, Spec.pageByteOf buf = some pp ∧ ((m ||| pp) ^^^ pgno) &&& 0xF00 ≠ 0))

theorem feed_transparent (pgno : Nat) (buf : List Nat) (h : Transparent pgno buf) (s : St) (hs : s.pgno = pgno) :
    feed s buf = .ok ⟨s, true, []⟩ := by
  obtain ⟨hlen, m, y, haddr, h⟩ := h
  rcases h with ⟨hy, h⟩ | ⟨hy, pp, hpage, hmag⟩
  · rw [feed_nonheader s buf hlen m y haddr hy]
    exact feedRow_ignored s buf m y (by rw [hs]; rcases h with h | h <;> simp [h])
  · subst hy
    exact feed_foreign_mag_header (by decide) s buf hlen m pp haddr hpage (by rw [hs]; exact hmag)

/-- `l'` is `l` with some transparent packets deleted -/
inductive Thin (pgno : Nat) : List (List Nat) → List (List Nat) → Prop
  | nil : Thin pgno [] []
  | keep (b : List Nat) {l l' : List (List Nat)} : Thin pgno l l' → Thin pgno (b :: l) (b :: l')
  | skip (b : List Nat) {l l' : List (List Nat)} : Transparent pgno b → Thin pgno l l' → Thin pgno (b :: l) l'

theorem Thin.refl (pgno : Nat) : ∀ l, Thin pgno l l
  | [] => .nil
  | b :: l => .keep b (Thin.refl pgno l)

theorem feedAll_thin (pgno : Nat) {l l' : List (List Nat)} (h : Thin pgno l l') :
    ∀ s : St, s.pgno = pgno → feedAll s l = feedAll s l' := by
  induction h with
  | nil => intro s _; rfl
  | keep b _ ih =>
    intro s hs
    rw [feedAll_cons, feedAll_cons]
    cases hx : feed s b with
    | error e => rfl
    | ok o =>
      simp only
      rw [ih o.st (by rw [(feed_key b s o hx).1, hs])]
  | skip b hb _ ih =>
    intro s hs
    rw [feedAll_cons, feed_transparent pgno b hb s hs]
    simp only
    rw [ih s hs]
    cases feedAll s _ with
    | error e => rfl
    | ok r => obtain ⟨s', bl⟩ := r; simp

theorem Thin.insert {pgno : Nat} {b : List Nat} (hb : Transparent pgno b) (l' : List (List Nat)) :
    ∀ l : List (List Nat), Thin pgno (l ++ b :: l') (l ++ l')
  | [] => .skip b hb (Thin.refl pgno l')
  | x :: l => .keep x (Thin.insert hb l' l)

/-- a page header of another page of our magazine -/
def OtherPageHeader (pgno : Nat) (buf : List Nat) : Prop :=
  buf.length = 42 ∧ ∃ m pp, Spec.addrOf buf = some (m, 0) ∧ Spec.pageByteOf buf = some pp ∧
    m ||| pp ≠ pgno ∧ ((m ||| pp) ^^^ pgno) &&& 0xF00 = 0

theorem feed_other_page_header (s : St) (buf : List Nat) (h : OtherPageHeader s.pgno buf) :
    feed s buf = .ok ⟨{ pageEnd s with nPackets := 0 }, true, []⟩ := by
  obtain ⟨hlen, m, pp, haddr, hpage, hne, hmag⟩ := h
  rw [feed_of_addr s buf (by omega) m 0 haddr, if_pos rfl, feedHdr_of_page s buf m pp hpage, if_pos hne,
    if_neg (by simp [hmag])]

/-- a header that ends our page in serial transmission: another page of our magazine, or another
    stream of our page -/
def Closing (pgno stream : Nat) (buf : List Nat) : Prop :=
  OtherPageHeader pgno buf ∨
  ∃ stream' ci n tail, stream' < 16 ∧ ci < 16 ∧ n < 32 ∧ stream' ≠ stream ∧ buf = Spec.headerPkt pgno stream' ci n tail

/-- any 42 byte packet that is not a page header -/
def AnyRow (buf : List Nat) : Prop := buf.length = 42 ∧ ∃ m y, Spec.addrOf buf = some (m, y) ∧ y ≠ 0

/-- packets between two pages of ours: closing headers, and - once our page is closed (`closed`) -
    any rows (those of the other pages of our magazine) -/
def Interlude (pgno stream : Nat) : Bool → List (List Nat) → Prop
  | _, [] => True
  | closed, b :: r =>
    (Closing pgno stream b ∧ Interlude pgno stream true r) ∨
    (closed = true ∧ AnyRow b ∧ Interlude pgno stream true r)

theorem feed_closing (pgno stream : Nat) (hpg1 : 0x100 ≤ pgno) (hpg2 : pgno < 0x900) (buf : List Nat)
    (h : Closing pgno stream buf) (s : St) (hs : s.pgno = pgno) (hss : s.stream = stream) :
    feed s buf = .ok ⟨{ pageEnd s with nPackets := 0 }, true, []⟩ := by
  rcases h with h | ⟨stream', ci, n, tail, h1, h2, h3, h4, rfl⟩
  · exact feed_other_page_header s buf (by rw [hs]; exact h)
  · rw [feed_header_any s pgno stream' ci n tail hpg1 hpg2 h1 h2 h3 hs, if_pos (by rw [hss]; exact h4)]

theorem feed_closed_row (buf : List Nat) (h : AnyRow buf) (s : St) (hn : s.nPackets = 0) :
    feed s buf = .ok ⟨s, true, []⟩ := by
  obtain ⟨hlen, m, y, haddr, hy⟩ := h
  rw [feed_nonheader s buf hlen m y haddr hy, feedRow_ignored s buf m y (.inr (.inl hn))]

theorem feed_interlude (pgno stream : Nat) (hpg1 : 0x100 ≤ pgno) (hpg2 : pgno < 0x900) (bufs : List (List Nat)) :
    ∀ (c : Bool) (s : St), Interlude pgno stream c bufs → s.pgno = pgno → s.stream = stream →
      pageEnd s = s → (c = true → s.nPackets = 0) →
      ∃ s', feedAll s bufs = .ok (s', []) ∧ (s' = s ∨ s' = { s with nPackets := 0 }) := by
  induction bufs with
  | nil => intro c s _ _ _ _ _; exact ⟨s, rfl, Or.inl rfl⟩
  | cons b r ih =>
    intro c s hint hs hss hpe hc
    rcases hint with ⟨hcl, hr⟩ | ⟨hct, hrow, hr⟩
    · have hf := feed_closing pgno stream hpg1 hpg2 b hcl s hs hss
      rw [hpe] at hf
      obtain ⟨s', h1, h2⟩ := ih true { s with nPackets := 0 } hr hs hss (pageEnd_of_complete _ (Or.inl rfl)) (fun _ => rfl)
      refine ⟨s', ?_, ?_⟩
      · rw [feedAll_cons, hf]; simp only [h1, List.nil_append]
      · rcases h2 with h2 | h2 <;> exact Or.inr h2
    · have hf := feed_closed_row b hrow s (hc hct)
      obtain ⟨s', h1, h2⟩ := ih true s hr hs hss hpe (fun _ => hc hct)
      refine ⟨s', ?_, h2⟩
      rw [feedAll_cons, hf]; simp only [h1, List.nil_append]

/-- one page of ours as it reaches the receiver -/
structure PageG where
  inter : List (List Nat)        -- packets received before the page header
  tail : List Nat                -- rest of the page header
  n : Nat                        -- number of packets the header announces
  rows : List (Nat × List Nat)   -- (block pointer nibble, payload) of the rows X/1, X/2, ... that arrive

def pageGPkts (pgno stream ci : Nat) (pg : PageG) : List (List Nat) :=
  pg.inter ++ Spec.headerPkt pgno stream ci pg.n pg.tail :: Spec.rowsPkts pgno 1 pg.rows

/-- consecutive pages, continuity index counting up from `ci` modulo 16 -/
def pagesGPkts (pgno stream : Nat) : Nat → List PageG → List (List Nat)
  | _, [] => []
  | ci, pg :: r => pageGPkts pgno stream ci pg ++ pagesGPkts pgno stream ((ci + 1) &&& 15) r

def allRowsG (pages : List PageG) : List (Nat × List Nat) := pages.flatMap (·.rows)

/-- every interlude is legitimate; only the first may rely on the page being closed already -/
def IntersOk (pgno stream : Nat) : Bool → List PageG → Prop
  | _, [] => True
  | c, pg :: r => Interlude pgno stream c pg.inter ∧ IntersOk pgno stream false r

/-- the page arrives completely, or the source does not check the end of a page (finding F42) -/
def PageArrives (pg : PageG) : Prop :=
  pg.rows.length ≤ pg.n ∧ pg.n ≤ 25 ∧ (pg.rows.length = pg.n ∨ pfcPageEndChecked = false)

theorem PageArrives.of_complete {pg : PageG} (h : pg.rows.length = pg.n ∧ pg.n ≤ 25) : PageArrives pg :=
  ⟨Nat.le_of_eq h.1, h.2, .inl h.1⟩

theorem Ready.closed {ci : Nat} {s : St} (h : Ready ci s) : Ready ci { s with nPackets := 0 } :=
  h.imp (fun h => ⟨h.1, pageEnd_of_complete _ (.inl rfl)⟩) id

theorem feed_pageG (pgno stream : Nat) (hpg1 : 0x100 ≤ pgno) (hpg2 : pgno < 0x900) (hst : stream < 16)
    (ci : Nat) (hci : ci < 16) (pg : PageG) (hrows : pg.rows.length ≤ pg.n) (hn : pg.n ≤ 25)
    (c : Bool) (hint : Interlude pgno stream c pg.inter)
    (s : St) (hwf : WF s) (hinv : Inv s) (hpgs : s.pgno = pgno) (hss : s.stream = stream)
    (hc : c = true → s.nPackets = 0) (hready : Ready ci s) (hpe : pg.inter ≠ [] → pageEnd s = s)
    (htakes : Takes (phase s) pg.rows) :
    ∃ s' bl, feedAll s (pageGPkts pgno stream ci pg) = .ok (s', bl) ∧
      Reads (phase s) (pg.rows.map (·.2)).flatten s' bl ∧
      Same { s with ci := (ci + 1) &&& 15, packet := 1 + pg.rows.length, nPackets := pg.n } s' := by
  -- the interlude at most closes the open page
  obtain ⟨k, hf1, hr1⟩ : ∃ k, feedAll s pg.inter = .ok ({ s with nPackets := k }, []) ∧ Ready ci { s with nPackets := k } := by
    by_cases hnil : pg.inter = []
    · rw [hnil]; exact ⟨s.nPackets, rfl, hready⟩
    · obtain ⟨s1, hf1, rfl | rfl⟩ := feed_interlude pgno stream hpg1 hpg2 pg.inter c s hint hpgs hss (hpe hnil) hc
      · exact ⟨_, hf1, hready⟩
      · exact ⟨0, hf1, hready.closed⟩
  obtain ⟨s', bl, h1, hr, hsame⟩ := feed_header_rows pgno stream hpg1 hpg2 hst ci hci pg.n pg.tail pg.rows hrows hn
    { s with nPackets := k } hwf hinv hpgs hss hr1 htakes
  refine ⟨s', bl, ?_, hr, hsame⟩
  unfold pageGPkts
  rw [feedAll_append, hf1]; dsimp only; rw [h1]; rfl

/-- **consecutive pages with interludes** (blocks may span pages; of each page a prefix arrives) -/
theorem feed_pagesG (pgno stream : Nat) (hpg1 : 0x100 ≤ pgno) (hpg2 : pgno < 0x900) (hst : stream < 16)
    (pages : List PageG) (hpages : ∀ pg ∈ pages, PageArrives pg) :
    ∀ ci c s, ci < 16 → IntersOk pgno stream c pages → WF s → Inv s → s.pgno = pgno → s.stream = stream →
      (c = true → s.nPackets = 0) → Ready ci s → (∀ pg ∈ pages.head?, pg.inter ≠ [] → pageEnd s = s) →
      Takes (phase s) (allRowsG pages) →
      ∃ s' bl, feedAll s (pagesGPkts pgno stream ci pages) = .ok (s', bl) ∧
        Reads (phase s) ((allRowsG pages).map (·.2)).flatten s' bl ∧
        (pageEnd s = s → pageEnd s' = s') ∧ s'.pgno = pgno ∧ s'.stream = stream := by
  induction pages with
  | nil =>
    intro ci c s _ _ hwf hinv hpgs hss _ _ _ _
    exact ⟨s, [], rfl, .nil hwf hinv, id, hpgs, hss⟩
  | cons pg t ih =>
    intro ci c s hci hint hwf hinv hpgs hss hc hready hpe htakes
    obtain ⟨hp1, hp2, hp3⟩ := hpages pg (by simp)
    have hall : allRowsG (pg :: t) = pg.rows ++ allRowsG t := by simp [allRowsG]
    rw [hall] at htakes ⊢
    obtain ⟨t1, t2⟩ := htakes.append
    obtain ⟨s1, bl1, f1, r1, b1⟩ :=
      feed_pageG pgno stream hpg1 hpg2 hst ci hci pg hp1 hp2 c hint.1 s hwf hinv hpgs hss hc hready (hpe pg rfl) t1
    have hpe1 : pageEnd s1 = s1 := by
      rcases hp3 with h | h
      · exact pageEnd_of_complete s1 (.inr (by rw [b1.packet, b1.nPackets]; show 1 + pg.rows.length = pg.n + 1; omega))
      · exact pageEnd_id h s1
    rw [r1.ph_eq] at t2
    obtain ⟨s', bl, f2, r2, e2, g2, h2⟩ :=
      ih (fun x hx => hpages x (by simp [hx])) ((ci + 1) &&& 15) false s1 (Nat.and_lt_two_pow _ (n := 4) (by decide)) hint.2
        r1.wf r1.inv (b1.pgno.trans hpgs) (b1.stream.trans hss) (fun h => by cases h) (.inl ⟨b1.ci, hpe1⟩) (fun _ _ _ => hpe1) t2
    refine ⟨s', bl1 ++ bl, ?_, ?_, fun _ => e2 hpe1, g2, h2⟩
    · rw [pagesGPkts, feedAll_append, f1]; dsimp only; rw [f2]
    · rw [List.map_append, List.flatten_append]; exact r1.append r2

/-- **a whole reception from a new demultiplexer**: any packets `l` from which deleting transparent
    packets leaves our pages with their interludes, followed by a final interlude: the callbacks are
    what the grammar reads from the payloads of the rows that arrived -/
theorem feed_reception (pgno stream : Nat) (hpg1 : 0x100 ≤ pgno) (hpg2 : pgno < 0x900) (hst : stream < 16)
    (ci : Nat) (hci : ci < 16) (pages : List PageG) (hpages : ∀ pg ∈ pages, PageArrives pg)
    (hint : IntersOk pgno stream true pages) (post : List (List Nat)) (hpost : Interlude pgno stream false post)
    (D : List (Nat × List Nat)) (ph : Ph)
    (hrun : run .idle [] ((allRowsG pages).map (·.2)).flatten = ⟨ph, D, true⟩)
    (hadm : Spec.AdmissibleAll .idle (allRowsG pages))
    (l : List (List Nat)) (hthin : Thin pgno l (pagesGPkts pgno stream ci pages ++ post)) :
    ∃ s' bl, feedAll (new pgno stream) l = .ok (s', bl) ∧ bl.map toSpec = D ∧ phase s' = ph := by
  have hpen : pageEnd (new pgno stream) = new pgno stream := pageEnd_of_complete _ (.inl rfl)
  rw [feedAll_thin pgno hthin (new pgno stream) rfl]
  obtain ⟨s1, bl, h1, hr, h4, h5, h6⟩ := feed_pagesG pgno stream hpg1 hpg2 hst pages hpages ci true
    (new pgno stream) hci hint (fun h => absurd h (Nat.lt_irrefl 0)) (inv_new _ _) rfl rfl (fun _ => rfl)
    (.inr ⟨fun h : 256 = ci => by omega, rfl⟩) (fun _ _ _ => hpen) ⟨hadm, by rw [show phase (new pgno stream) = .idle from rfl, hrun]⟩
  have h7 := hr.run_eq
  rw [show phase (new pgno stream) = .idle from rfl, hrun] at h7
  obtain ⟨s2, g1, g2⟩ := feed_interlude pgno stream hpg1 hpg2 post false s1 hpost h5 h6 (h4 hpen) (fun h => by cases h)
  refine ⟨s2, bl, ?_, (congrArg Spec.Res.out h7).symm, ?_⟩
  · rw [feedAll_append, h1]; dsimp only; rw [g1]; dsimp only; rw [List.append_nil]
  · rcases g2 with rfl | rfl <;> exact (congrArg Spec.Res.ph h7).symm

/-- a page all of whose announced rows arrive, with nothing before its header -/
def PageG.ofPage (pg : Spec.Page) : PageG := ⟨[], pg.tail, pg.rows.length, pg.rows⟩

theorem pagesPkts_eq (pgno stream : Nat) (pages : List Spec.Page) : ∀ ci,
    Spec.pagesPkts pgno stream ci pages = pagesGPkts pgno stream ci (pages.map .ofPage) := by
  induction pages with
  | nil => intro _; rfl
  | cons pg t ih => intro ci; rw [Spec.pagesPkts, ih]; rfl

theorem allRows_eq (pages : List Spec.Page) : Spec.allRows pages = allRowsG (pages.map .ofPage) := by
  unfold Spec.allRows allRowsG; rw [List.flatMap_map]; rfl

theorem intersOk_ofPage (pgno stream : Nat) (pages : List Spec.Page) : ∀ c, IntersOk pgno stream c (pages.map .ofPage) := by
  induction pages with
  | nil => intro _; trivial
  | cons pg t ih => intro c; exact ⟨trivial, ih _⟩

theorem pageArrives_ofPage (pages : List Spec.Page) (hn : ∀ pg ∈ pages, pg.rows.length ≤ 25) :
    ∀ pg ∈ pages.map PageG.ofPage, PageArrives pg := by
  intro pg hpg
  obtain ⟨p, hp, rfl⟩ := List.mem_map.mp hpg
  exact .of_complete ⟨rfl, hn p hp⟩

theorem feed_delivers_run (pgno stream : Nat) (hpg1 : 0x100 ≤ pgno) (hpg2 : pgno < 0x900) (hst : stream < 16)
    (D : List (Nat × List Nat))
    (ci : Nat) (hci : ci < 16) (pages : List Spec.Page) (hn : ∀ pg ∈ pages, pg.rows.length ≤ 25)
    (hrun : run .idle [] ((Spec.allRows pages).map (·.2)).flatten = ⟨.idle, D, true⟩)
    (hadm : Spec.AdmissibleAll .idle (Spec.allRows pages)) :
    ∃ s' bl, feedAll (new pgno stream) (Spec.pagesPkts pgno stream ci pages) = .ok (s', bl) ∧
      bl.map toSpec = D := by
  rw [allRows_eq] at hrun hadm
  obtain ⟨s', bl, h1, h2, _⟩ := feed_reception pgno stream hpg1 hpg2 hst ci hci _ (pageArrives_ofPage pages hn)
    (intersOk_ofPage pgno stream pages true) [] trivial D .idle hrun hadm _ (Thin.refl pgno _)
  rw [List.append_nil, ← pagesPkts_eq] at h1
  exact ⟨s', bl, h1, h2⟩

theorem feed_pages (pgno stream : Nat) (hpg1 : 0x100 ≤ pgno) (hpg2 : pgno < 0x900) (hst : stream < 16)
    (pages : List Spec.Page) (hn : ∀ pg ∈ pages, pg.rows.length ≤ 25)
    (ci : Nat) (s : St) (hci : ci < 16) (hwf : WF s) (hinv : Inv s) (hpgs : s.pgno = pgno) (hss : s.stream = stream)
    (hready : Ready ci s) (htakes : Takes (phase s) (Spec.allRows pages)) :
    ∃ s' bl, feedAll s (Spec.pagesPkts pgno stream ci pages) = .ok (s', bl) ∧
      Reads (phase s) ((Spec.allRows pages).map (·.2)).flatten s' bl := by
  rw [allRows_eq] at htakes ⊢
  rw [pagesPkts_eq]
  obtain ⟨s', bl, h1, hr, _⟩ := feed_pagesG pgno stream hpg1 hpg2 hst _ (pageArrives_ofPage _ hn) ci false
    s hci (intersOk_ofPage pgno stream _ false) hwf hinv hpgs hss (fun h => by cases h) hready
    (fun pg hpg hne => by cases pages <;> cases hpg; exact absurd rfl hne) htakes
  exact ⟨s', bl, h1, hr⟩

end Zvbi.Pfc
