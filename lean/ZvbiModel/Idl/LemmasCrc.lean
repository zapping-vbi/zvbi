import ZvbiModel.Hamm.Lemmas
import ZvbiModel.Idl.Model
import ZvbiModel.Idl.Spec
import ZvbiModel.Util.Bits
/-!
# CRC lemmas for the IDL demultiplexer (C15): table driven CRC = bit-serial CRC

The bit-serial step `Spec.shift1` is linear over `^^^` and halves an even register, so eight steps
move the high byte of a register down and reduce only the low byte (`shift8_split`); that is the
table-driven update of `idl_a_demux_feed`.  `Spec.unshift1` is a right inverse of `Spec.shift1`.
-/
namespace Zvbi.Idl
open Zvbi.Hamm Zvbi.Gen

theorem crcTab_eq_shift8 : ∀ i < 256, crcTab i = Spec.shift8 i := by decide +kernel

theorem and_ff_of_lt (b : Nat) (hb : b < 256) : b &&& 0xFF = b :=
  Nat.and_two_pow_sub_one_of_lt_two_pow (n := 8) hb

theorem shift1_eq (c : Nat) : Spec.shift1 c = (c >>> 1) ^^^ (if c.testBit 0 then 0x8940 else 0) := by
  simp [Spec.shift1, Nat.and_one_is_mod, Nat.testBit_zero]

theorem xor_xor_xor_comm (a b c d : Nat) : (a ^^^ b) ^^^ (c ^^^ d) = (a ^^^ c) ^^^ (b ^^^ d) := by
  rw [Nat.xor_assoc, Nat.xor_assoc, ← Nat.xor_assoc b, ← Nat.xor_assoc c, Nat.xor_comm b]

theorem shift1_xor (a b : Nat) : Spec.shift1 (a ^^^ b) = Spec.shift1 a ^^^ Spec.shift1 b := by
  rw [shift1_eq, shift1_eq, shift1_eq, Nat.shiftRight_xor_distrib, Nat.testBit_xor, xor_xor_xor_comm]
  cases a.testBit 0 <;> cases b.testBit 0 <;> rfl

theorem shift1_two_mul (x : Nat) : Spec.shift1 (2 * x) = x := by
  simp [Spec.shift1, Nat.and_one_is_mod, Nat.shiftRight_eq_div_pow]

theorem shift1_lt (c : Nat) (hc : c < 2 ^ 16) : Spec.shift1 c < 2 ^ 16 := by
  rw [shift1_eq]
  refine Nat.xor_lt_two_pow ?_ (by split <;> decide)
  rw [Nat.shiftRight_eq_div_pow]; omega

theorem shift8_xor (a b : Nat) : Spec.shift8 (a ^^^ b) = Spec.shift8 a ^^^ Spec.shift8 b := by
  simp only [Spec.shift8, shift1_xor]

theorem shift8_shiftLeft (x : Nat) : Spec.shift8 (x <<< 8) = x := by
  have : x <<< 8 = 2 * (2 * (2 * (2 * (2 * (2 * (2 * (2 * x))))))) := by
    rw [Nat.shiftLeft_eq]; omega
  simp only [this, Spec.shift8, shift1_two_mul]

theorem split_byte (w : Nat) : w = ((w >>> 8) <<< 8) ^^^ (w &&& 0xFF) := by
  have hlt : w &&& 0xFF < 2 ^ 8 := Nat.and_lt_two_pow _ (by decide)
  rw [← Bits.or_eq_xor_of_and_zero _ _ (by rw [Nat.and_comm]; exact Bits.and_shiftLeft_of_lt hlt _),
    Bits.shl_or _ _ 8 hlt, Bits.and_FF, Nat.shiftRight_eq_div_pow]
  omega

theorem shift8_split (w : Nat) : Spec.shift8 w = (w >>> 8) ^^^ Spec.shift8 (w &&& 0xFF) := by
  conv => lhs; rw [split_byte w]
  rw [shift8_xor, shift8_shiftLeft]

theorem shift8_lt (w : Nat) (hw : w < 65536) : Spec.shift8 w < 65536 := by
  exact shift1_lt _ (shift1_lt _ (shift1_lt _ (shift1_lt _ (shift1_lt _ (shift1_lt _ (shift1_lt _ (shift1_lt _ hw)))))))

theorem crcStep_eq (c b : Nat) (hb : b < 256) : crcStep c b = Spec.crcByte c b := by
  unfold crcStep Spec.crcByte
  rw [shift8_split, Nat.shiftRight_xor_distrib, Nat.shiftRight_eq_zero b 8 hb, Nat.xor_zero, Nat.and_xor_distrib_right,
    and_ff_of_lt b hb, crcTab_eq_shift8]
  exact Nat.xor_lt_two_pow (n := 8) (Nat.and_lt_two_pow c (n := 8) (by decide)) hb

theorem crcByte_lt (c b : Nat) (hc : c < 65536) (hb : b < 256) : Spec.crcByte c b < 65536 :=
  shift8_lt _ (Nat.xor_lt_two_pow (n := 16) hc (by omega))

theorem crcOf_eq (bytes : List Nat) (hb : ∀ b ∈ bytes, b < 256) : crcOf bytes = Spec.crc bytes := by
  unfold crcOf Spec.crc
  generalize 0 = c
  induction bytes generalizing c with
  | nil => rfl
  | cons b r ih =>
    rw [List.foldl_cons, List.foldl_cons, crcStep_eq c b (hb b (by simp))]
    exact ih (fun x hx => hb x (by simp [hx])) _

theorem crc_lt (bytes : List Nat) (hb : ∀ b ∈ bytes, b < 256) : Spec.crc bytes < 65536 := by
  unfold Spec.crc
  have hc : 0 < 65536 := by decide
  generalize 0 = c at hc ⊢
  induction bytes generalizing c with
  | nil => exact hc
  | cons b r ih =>
    exact ih (fun x hx => hb x (by simp [hx])) _ (crcByte_lt c b hc (hb b (by simp)))

/-- the generated polynomial is x^16+x^9+x^7+x^4+1, LSB first -/
theorem poly_spec : idlCrcPoly = 2 ^ 15 + 2 ^ 11 + 2 ^ 8 + 2 ^ 6 := by decide

theorem shift1_unshift1 (o : Nat) : Spec.shift1 (Spec.unshift1 o) = o := by
  unfold Spec.unshift1
  split
  · rw [shift1_eq]
    simp [Nat.shiftRight_or_distrib, Nat.shiftLeft_shiftRight, Nat.xor_assoc]
  · rw [shift1_eq]; simp [Nat.shiftLeft_shiftRight]

theorem shift8_unshift8 (o : Nat) : Spec.shift8 (Spec.unshift8 o) = o := by
  simp only [Spec.shift8, Spec.unshift8, shift1_unshift1]

theorem lt_of_testBit_false {o n : Nat} (h : o < 2 ^ (n + 1)) (hn : o.testBit n = false) : o < 2 ^ n := by
  apply Nat.lt_pow_two_of_testBit
  intro i hi
  rcases Nat.eq_or_lt_of_le hi with e | e
  · rw [← e, hn]
  · exact Bits.testBit_of_lt h e

theorem and_bit15 (o : Nat) : o &&& 0x8000 ≠ 0 ↔ o.testBit 15 = true := by
  rw [ne_eq, show (0x8000 : Nat) = 2 ^ 15 from rfl, Bits.and_two_pow_eq_zero, Bool.not_eq_false]

/-- `unshift1` keeps a register within 16 bits: with bit 15 set the generator clears it before the
    shift, otherwise there is room -/
theorem unshift1_lt (o : Nat) (h : o < 2 ^ 16) : Spec.unshift1 o < 2 ^ 16 := by
  unfold Spec.unshift1
  simp only [and_bit15]
  split
  next h15 =>
    have : o ^^^ 0x8940 < 2 ^ 15 := by
      apply lt_of_testBit_false (Nat.xor_lt_two_pow h (by decide))
      rw [Nat.testBit_xor, h15]; decide
    exact Nat.or_lt_two_pow (by rw [Nat.shiftLeft_eq]; omega) (by decide)
  next h15 =>
    have := lt_of_testBit_false h (by simpa using h15)
    rw [Nat.shiftLeft_eq]; omega

theorem unshift8_lt (o : Nat) (h : o < 65536) : Spec.unshift8 o < 65536 := by
  exact unshift1_lt _ (unshift1_lt _ (unshift1_lt _ (unshift1_lt _ (unshift1_lt _ (unshift1_lt _ (unshift1_lt _ (unshift1_lt _ h)))))))

end Zvbi.Idl
