import ZvbiModel.Idl.Model
/-!
# Model of src/idl_demux.c for every value of `dx->format`

`Zvbi.Idl.feed` (Model.lean) is `vbi_idl_demux_feed` for `dx->format == _VBI_IDL_FORMAT_A` only.
This file follows `vbi_idl_demux_feed` and `_vbi_idl_demux_init` statement by statement for all
five `_VBI_IDL_FORMAT_*` values (idl_demux.h: A = 1, B = 2, DATAVIDEO = 4, AUDETEL = 8, LBRA = 16).
In the current source `idl_b_demux_feed`, `datavideo_demux_feed`, `audetel_demux_feed` and
`lbra_demux_feed` are `/* TODO */` stubs that touch nothing and return FALSE.

Any other format value reaches `default: assert (0)` in both functions (assertions are enabled):
that is the explicit result `assertFail`, never a silent acceptance.
-/
namespace Zvbi.Idl
open Zvbi.Hamm Zvbi.Gen

/-- `_VBI_IDL_FORMAT_A` -/
def fmtA : Nat := 1
/-- `_VBI_IDL_FORMAT_B` -/
def fmtB : Nat := 2
/-- `_VBI_IDL_FORMAT_DATAVIDEO` -/
def fmtDatavideo : Nat := 4
/-- `_VBI_IDL_FORMAT_AUDETEL` -/
def fmtAudetel : Nat := 8
/-- `_VBI_IDL_FORMAT_LBRA` -/
def fmtLbra : Nat := 16

/-- `dx->format` is one of the four formats whose sub-demultiplexer is a `/* TODO */` stub
    (B, DATAVIDEO, AUDETEL, LBRA) -/
def UnsupportedFmt (fmt : Nat) : Prop := fmt = 2 ∨ fmt = 4 ∨ fmt = 8 ∨ fmt = 16

instance (fmt : Nat) : Decidable (UnsupportedFmt fmt) := by unfold UnsupportedFmt; exact inferInstance

/-- `struct _vbi_idl_demux` with its `format` field -/
structure StF where
  fmt : Nat
  st : St
deriving Repr, DecidableEq

/-- result of `_vbi_idl_demux_init`: TRUE with the initialised struct, FALSE, or `assert (0)` -/
inductive InitR where
  | ok (s : StF)
  | null
  | assertFail
deriving Repr, DecidableEq

/-- result of `vbi_idl_demux_feed`: returned (new state, return value, callback) or `assert (0)` -/
inductive FeedR where
  | done (s : StF) (ret : Bool) (cb : Option Cb)
  | assertFail
deriving Repr, DecidableEq

/-- the assignments after the `switch` of `_vbi_idl_demux_init`.  `dx->flags` is assigned only if the
    translator saw the assignment in the current source (`Gen.idlFlagsInitialised`), otherwise it keeps
    what the allocator left there (`fill`), exactly as in `Zvbi.Idl.new`.
    `dx->channel` / `dx->address` are `int` fields assigned from `unsigned int` parameters: the model keeps the
    parameter value (the same 32 bits; the driver and the harness print them as unsigned).  Only format A, where
    `address < 2^24` is enforced, ever reads `dx->address`. -/
def initFields (format channel address fill : Nat) : StF :=
  { fmt := format,
    st := { channel := channel, address := address, ci := none, ri := none,
            flags := if idlFlagsInitialised then 0 else (fill % 256) * 0x01010101 } }

/-- `_vbi_idl_demux_init (dx, format, channel, address, ...)` on memory filled with byte `fill` -/
def initF (format channel address fill : Nat) : InitR :=
  -- if (channel >= (1 << 4)) return FALSE;
  if channel ≥ 16 then .null
  -- switch (format)
  else if format = fmtA then
    -- if (address >= (1 << 24)) return FALSE;   (then the CRC table)
    if address ≥ 2 ^ 24 then .null else .ok (initFields format channel address fill)
  else if format = fmtDatavideo ∨ format = fmtB ∨ format = fmtAudetel ∨ format = fmtLbra then
    -- /* TODO */ break;   -- no test of `address`
    .ok (initFields format channel address fill)
  else
    -- default: assert (0);
    .assertFail

/-- `vbi_idl_demux_reset` -/
def resetF (s : StF) : StF := { s with st := reset s.st }

/-- `idl_b_demux_feed (dx, buffer, ft)`: `/* TODO */ return FALSE;` -/
def feedB (s : St) (_buf : List Nat) (_ft : Nat) : St × Bool × Option Cb := (s, false, none)

/-- `datavideo_demux_feed (dx, buffer)`: `/* TODO */ return FALSE;` -/
def feedDatavideo (s : St) (_buf : List Nat) : St × Bool × Option Cb := (s, false, none)

/-- `audetel_demux_feed (dx, buffer)`: `/* TODO */ return FALSE;` -/
def feedAudetel (s : St) (_buf : List Nat) : St × Bool × Option Cb := (s, false, none)

/-- `lbra_demux_feed (dx, buffer)`: `/* TODO */ return FALSE;` -/
def feedLbra (s : St) (_buf : List Nat) : St × Bool × Option Cb := (s, false, none)

/-- a sub-demultiplexer's result put back into the struct -/
def doneOf (s : StF) (r : St × Bool × Option Cb) : FeedR := .done { s with st := r.1 } r.2.1 r.2.2

/-- `vbi_idl_demux_feed (dx, buffer)` -/
def feedF (s : StF) (buf : List Nat) : FeedR :=
  match unham8 (rd buf 0), unham8 (rd buf 1) with
  | some channel, some designation =>
    -- if (15 != designation || channel != dx->channel) return TRUE;
    if designation ≠ 15 ∨ channel ≠ s.st.channel then .done s true none
    -- switch (dx->format)
    else if s.fmt = fmtA then
      (match unham8 (rd buf 2) with
       | none => .done s false none
       | some ft => if ft &&& 1 = 0 then doneOf s (feedA s.st buf ft) else .done s true none)
    else if s.fmt = fmtB then
      (match unham8 (rd buf 2) with
       | none => .done s false none
       | some ft => if ft &&& 3 = 1 then doneOf s (feedB s.st buf ft) else .done s true none)
    else if s.fmt = fmtDatavideo then doneOf s (feedDatavideo s.st buf)
    else if s.fmt = fmtAudetel then doneOf s (feedAudetel s.st buf)
    else if s.fmt = fmtLbra then doneOf s (feedLbra s.st buf)
    else .assertFail
  -- if ((channel | designation) < 0) return FALSE;
  | _, _ => .done s false none

/-- one call of the public interface after construction -/
inductive OpF where
  | feed (buf : List Nat)
  | reset
deriving Repr, DecidableEq

/-- a history of calls: final state and the callbacks in order; `none` = an assertion failed -/
def runF : StF → List OpF → Option (StF × List Cb)
  | s, [] => some (s, [])
  | s, .reset :: r => runF (resetF s) r
  | s, .feed b :: r =>
    match feedF s b with
    | .assertFail => none
    | .done s' _ cb =>
      match runF s' r with
      | none => none
      | some (t, cbs) => some (t, cb.toList ++ cbs)

/-- construction with format A is `vbi_idl_a_demux_new` of Model.lean -/
theorem initF_fmtA (channel address fill : Nat) :
    initF fmtA channel address fill =
      (match new channel address fill with
       | some s => .ok ⟨fmtA, s⟩
       | none => .null) := by
  unfold initF new initFields
  by_cases h1 : channel ≥ 16
  · simp [h1]
  · by_cases h2 : address ≥ 2 ^ 24
    · simp [h1, h2]
    · simp [h1, h2]

theorem initF_eq (fmt channel address fill : Nat) : initF fmt channel address fill =
    if channel ≥ 16 then .null
    else if fmt = 1 then (if address ≥ 2 ^ 24 then .null else .ok (initFields fmt channel address fill))
    else if UnsupportedFmt fmt then .ok (initFields fmt channel address fill) else .assertFail := by
  unfold initF fmtA fmtB fmtDatavideo fmtAudetel fmtLbra UnsupportedFmt
  exact ite_congr rfl (fun _ => rfl) fun _ => ite_congr rfl (fun _ => rfl) fun _ =>
    ite_congr (propext ⟨by omega, by omega⟩) (fun _ => rfl) fun _ => rfl

theorem initF_ok {fmt channel address fill : Nat} {s0 : StF} (h : initF fmt channel address fill = .ok s0) :
    s0 = initFields fmt channel address fill ∧ (fmt = 1 ∨ UnsupportedFmt fmt) := by
  rw [initF_eq] at h
  split at h
  · cases h
  · split at h
    · split at h
      · cases h
      · cases h; exact ⟨rfl, .inl ‹_›⟩
    · split at h
      · cases h; exact ⟨rfl, .inr ‹_›⟩
      · cases h

end Zvbi.Idl
