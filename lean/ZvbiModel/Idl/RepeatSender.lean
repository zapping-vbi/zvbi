import ZvbiModel.Idl.Lemmas
/-!
# The IDL format A sender (C15)

`Spec.mkPacket` yields `Valid` packets for all inputs in range, so what is proved of `Valid` packets holds of all the sender
emits.  A sender numbers its messages consecutively (continuity index modulo 256) and repeats them; `Ev` says what happens to
each message on the air, `want` what the application must see.  `expectedR_pk` says what transmission `j` of a message, arriving
intact (`intactTx`), means to the intended receiver `Spec.expectedR false`; with it `Spec.expectedR false` of such a stream is
`want` (`expectedR_events`), and of the per-transmission streams of `RiStream.lean` `wantT`.
-/
namespace Zvbi.Idl
open Zvbi.Hamm Zvbi.Gen

theorem shr8_lt (w : Nat) (hw : w < 65536) : w >>> 8 < 256 := by
  rw [Nat.shiftRight_eq_div_pow]; omega

/-- appending the two bytes of `c ^^^ u` (low, high) to a message with CRC register `c` leaves the
    register at sixteen shifts of `u` -/
theorem crc_check_bytes (c u : Nat) :
    Spec.crcByte (Spec.crcByte c ((c ^^^ u) &&& 0xFF)) ((c ^^^ u) >>> 8) = Spec.shift8 (Spec.shift8 u) := by
  unfold Spec.crcByte
  -- the low byte of `c ^^^ u` cancels the low byte of `c`: the register becomes `c >>> 8 ^^^ shift8 (u &&& 0xFF)`; the high
  -- byte then cancels `c >>> 8`, and `shift8 (u >>> 8 ^^^ shift8 (u &&& 0xFF))` is `shift8 (shift8 u)` (`shift8_split`)
  rw [shift8_split (c ^^^ _), Nat.shiftRight_xor_distrib, Nat.shiftRight_eq_zero _ 8 (Nat.and_lt_two_pow _ (n := 8) (by decide)), Nat.xor_zero,
    Nat.and_xor_distrib_right, Nat.and_assoc, Nat.and_self, ← Nat.and_xor_distrib_right, ← Nat.xor_assoc,
    Nat.xor_self, Nat.zero_xor, Nat.shiftRight_xor_distrib, xor_xor_xor_comm, Nat.xor_self, Nat.zero_xor, Nat.xor_comm,
    ← shift8_split u]

/-- number of bytes available for the stuffed payload and the padding of a format A packet -/
def capacity (ft spaLen : Nat) : Nat :=
  36 - spaLen - (if ft &&& 2 ≠ 0 then 1 else 0) - (if ft &&& 4 ≠ 0 then 1 else 0) - (if ft &&& 8 ≠ 0 then 1 else 0)

theorem mkPacket_fields (channel ft ial : Nat) (spa : List Nat) (ri ci : Nat) (data : List Nat) (dummy : Nat)
    (pad : List Nat) :
    let p := Spec.mkPacket channel ft ial spa ri ci data dummy pad
    p.channel = channel ∧ p.ft = ft ∧ p.ial = ial ∧ p.spa = spa ∧ p.ri = ri ∧ p.ci = ci ∧ p.data = data ∧
    p.dummy = dummy ∧ p.pad = pad := ⟨rfl, rfl, rfl, rfl, rfl, rfl, rfl, rfl, rfl⟩

theorem mkPacket_valid (channel ft ial : Nat) (spa : List Nat) (ri ci : Nat) (data : List Nat) (dummy : Nat)
    (pad : List Nat)
    (hch : channel < 16) (hft : ft < 16) (hfta : ft &&& 1 = 0) (hial : ial < 16)
    (hspa : spa.length = ial &&& 7) (hne : ial &&& 7 ≠ 7) (hspalt : ∀ n ∈ spa, n < 16)
    (hri : ri < 256) (hci : ci < 256) (hdata : ∀ b ∈ data, b < 256) (hdummy : dummy < 256)
    (hd0 : dummy ≠ 0 ∧ dummy ≠ 0xFF) (hpad : ∀ b ∈ pad, b < 256) (hpadnil : ft &&& 8 = 0 → pad = [])
    (hfit : (Spec.stuff dummy ci 0 data).length + pad.length = capacity ft (ial &&& 7)) :
    (Spec.mkPacket channel ft ial spa ri ci data dummy pad).Valid := by
  let p0 : Spec.Pkt := { channel, ft, ial, spa, ri, ci, data, dummy, pad, crcLo := 0, crcHi := 0 }
  have hreg : (Spec.mkPacket channel ft ial spa ri ci data dummy pad).region = p0.region := rfl
  have hpay : (Spec.mkPacket channel ft ial spa ri ci data dummy pad).payload = Spec.stuff dummy ci 0 data := rfl
  have hpay0 : p0.payload = Spec.stuff dummy ci 0 data := rfl
  have hlt7 : ial &&& 7 < 8 := Nat.and_lt_two_pow _ (n := 3) (by decide)
  have hpl : (Spec.stuff dummy ci 0 data).length ≤ 36 := by unfold capacity at hfit; omega
  have hpayb : ∀ b ∈ Spec.stuff dummy ci 0 data, b < 256 := stuff_lt dummy hdummy data hdata _ _
  have hregb : ∀ b ∈ p0.region, b < 256 := region_bytes p0 hci hpayb (by rw [hpay0]; omega) hpad
  have hc : Spec.crc p0.region < 65536 := crc_lt _ hregb
  have hu : Spec.unshift8 (Spec.unshift8 (if p0.haveCi then 0 else ci * 257)) < 65536 := by
    refine unshift8_lt _ (unshift8_lt _ ?_)
    split <;> omega
  have hlen : (Spec.mkPacket channel ft ial spa ri ci data dummy pad).bytes.length = 42 := by
    rw [bytes_length]
    show 6 + spa.length + (if decide (ft &&& 2 ≠ 0) then 1 else 0) + (if decide (ft &&& 4 ≠ 0) then 1 else 0) +
      (if decide (ft &&& 8 ≠ 0) then 1 else 0) + (Spec.stuff dummy ci 0 data).length + pad.length = 42
    unfold capacity at hfit
    simp only [decide_eq_true_eq]
    have b1 : (if ft &&& 2 ≠ 0 then 1 else 0) ≤ 1 := by split <;> omega
    have b2 : (if ft &&& 4 ≠ 0 then 1 else 0) ≤ 1 := by split <;> omega
    have b3 : (if ft &&& 8 ≠ 0 then 1 else 0) ≤ 1 := by split <;> omega
    omega
  refine { channel_lt := hch, ft_lt := hft, ft_a := hfta, ial_lt := hial, spa_len := hspa, spa_len_ne := hne,
           spa_lt := hspalt, ri_lt := hri, ci_lt := hci, data_lt := hdata, dummy_lt := hdummy, dummy_ne := hd0,
           pad_lt := hpad, pad_nil := ?_, crcLo_lt := Nat.and_lt_two_pow _ (n := 8) (by decide), crcHi_lt := ?_, length_eq := hlen, crc_ok := ?_ }
  · intro h
    apply hpadnil
    have : (Spec.mkPacket channel ft ial spa ri ci data dummy pad).haveDl = decide (ft &&& 8 ≠ 0) := rfl
    rw [this] at h
    simpa using h
  · exact shr8_lt _ (Nat.xor_lt_two_pow (n := 16) hc hu)
  · show Spec.crc (p0.region ++ [_, _]) = _
    unfold Spec.crc
    rw [List.foldl_append]
    simp only [List.foldl_cons, List.foldl_nil]
    have elo : (Spec.mkPacket channel ft ial spa ri ci data dummy pad).crcLo =
        (Spec.crc p0.region ^^^ Spec.unshift8 (Spec.unshift8 (if p0.haveCi then 0 else ci * 257))) &&& 0xFF := rfl
    have ehi : (Spec.mkPacket channel ft ial spa ri ci data dummy pad).crcHi =
        (Spec.crc p0.region ^^^ Spec.unshift8 (Spec.unshift8 (if p0.haveCi then 0 else ci * 257))) >>> 8 := rfl
    rw [elo, ehi]
    have := crc_check_bytes (Spec.crc p0.region) (Spec.unshift8 (Spec.unshift8 (if p0.haveCi then 0 else ci * 257)))
    unfold Spec.crc at this ⊢
    rw [this, shift8_unshift8, shift8_unshift8]
    rfl

/-- one message the application hands to the sender -/
structure Msg where
  ft : Nat          -- format type nibble (options RI / CI / DL)
  dep : Nat         -- 0 or 8: the "dependent" bit of IAL
  ri : Nat          -- repeat indicator byte of the first transmission (low nibble 0; bit 7: repeats follow)
  data : List Nat
  dummy : Nat
  pad : List Nat

/-- the message can be sent with address length `spaLen` and continuity index `ci` -/
def Msg.Ok (spaLen ci : Nat) (m : Msg) : Prop :=
  m.ft < 16 ∧ m.ft &&& 1 = 0 ∧ (m.dep = 0 ∨ m.dep = 8) ∧ m.ri < 256 ∧ m.ri &&& 0xF = 0 ∧
  (∀ b ∈ m.data, b < 256) ∧ m.dummy < 256 ∧ (m.dummy ≠ 0 ∧ m.dummy ≠ 0xFF) ∧ (∀ b ∈ m.pad, b < 256) ∧
  (m.ft &&& 8 = 0 → m.pad = []) ∧
  (Spec.stuff m.dummy ci 0 m.data).length + m.pad.length = capacity m.ft spaLen

theorem Msg.Ok.ri_low {n ci : Nat} {m : Msg} (h : m.Ok n ci) : m.ri &&& 0xF = 0 := h.2.2.2.2.1
theorem Msg.Ok.dep_bit {n ci : Nat} {m : Msg} (h : m.Ok n ci) : m.dep = 0 ∨ m.dep = 8 := h.2.2.1

/-- transmission number `j` of message `m` (0 = first transmission, `j >= 1` = repeat number `j`) -/
def pk (channel : Nat) (spa : List Nat) (ci : Nat) (m : Msg) (j : Nat) : Spec.Pkt :=
  Spec.mkPacket channel m.ft (spa.length + m.dep) spa (m.ri + j) ci m.data m.dummy m.pad

/-- what happens on the air to the next message of the sender (or: an unrelated packet) -/
inductive Ev
  /-- the first transmission arrives intact; then the repeats numbered `dups` arrive intact -/
  | intact (m : Msg) (dups : List Nat)
  /-- the first transmission and possibly some repeats arrive damaged (`ds`, then `d`), each announcing
      a(nother) repeat; `d` is transmission number `k - 1`, and repeat `k` arrives intact, then the
      repeats numbered `dups` -/
  | repaired (m : Msg) (ds : List Spec.Pkt) (d : Spec.Pkt) (k : Nat) (dups : List Nat)
  /-- the first transmission and possibly some repeats arrive damaged (`ds`, then `d`), each announcing
      a(nother) repeat; no repeat arrives intact -/
  | unrepaired (ds : List Spec.Pkt) (d : Spec.Pkt)
  /-- as before, but the repeat that arrives intact (number `j`) is not the one announced last: the
      announced one was lost, the receiver cannot know what else it missed -/
  | lateRepeat (m : Msg) (ds : List Spec.Pkt) (d : Spec.Pkt) (j : Nat)
  /-- the first transmission arrives as `d`, damaged, announcing no repeat -/
  | lost (d : Spec.Pkt)
  /-- nothing of this message arrives -/
  | dropped
  /-- a packet of another channel / address / format -/
  | foreign (buf : List Nat)

/-- the event uses up a continuity index -/
def Ev.isMsg : Ev → Bool
  | .foreign _ => false
  | _ => true

def evTxs (channel : Nat) (spa : List Nat) (ci : Nat) : Ev → List Spec.Tx
  | .intact m dups => .data (pk channel spa ci m 0) :: dups.map (fun j => .rep (pk channel spa ci m j))
  | .repaired m ds d k dups =>
    ds.map .damagedRep ++
      (.damagedRep d :: .rep (pk channel spa ci m k) :: dups.map (fun j => .rep (pk channel spa ci m j)))
  | .unrepaired ds d => ds.map .damagedRep ++ [.damagedRep d]
  | .lateRepeat m ds d j => ds.map .damagedRep ++ [.damagedRep d, .rep (pk channel spa ci m j)]
  | .lost d => [.damaged d]
  | .dropped => []
  | .foreign b => [.foreign b]

/-- what the receiver is fed; `c` counts the messages so far, the continuity index is `c % 256` -/
def txsOf (channel : Nat) (spa : List Nat) : Nat → List Ev → List Spec.Tx
  | _, [] => []
  | c, e :: r => evTxs channel spa (c % 256) e ++ txsOf channel spa (if e.isMsg then c + 1 else c) r

def dupsOk (m : Msg) (dups : List Nat) : Prop := (∀ j ∈ dups, 1 ≤ j ∧ j ≤ 15) ∧ (dups ≠ [] → m.ft &&& 2 ≠ 0)

/-- a packet of ours that arrives damaged and announces a repeat -/
def DmgRep (channel : Nat) (spa : List Nat) (d : Spec.Pkt) : Prop :=
  d.DamagedRep ∧ d.channel = channel ∧ Spec.spaVal d.spa = Spec.spaVal spa

def EvOk (channel : Nat) (spa : List Nat) (ci : Nat) : Ev → Prop
  | .intact m dups => m.Ok spa.length ci ∧ dupsOk m dups
  | .repaired m ds d k dups => m.Ok spa.length ci ∧ m.ft &&& 2 ≠ 0 ∧ dupsOk m dups ∧
      (∀ x ∈ ds, DmgRep channel spa x) ∧ DmgRep channel spa d ∧ 1 ≤ k ∧ k ≤ 15 ∧ d.ri &&& 0xF = k - 1
  | .unrepaired ds d => (∀ x ∈ ds, DmgRep channel spa x) ∧ DmgRep channel spa d ∧ d.ri &&& 0xF ≤ 14
  | .lateRepeat m ds d j => m.Ok spa.length ci ∧ m.ft &&& 2 ≠ 0 ∧ (∀ x ∈ ds, DmgRep channel spa x) ∧
      DmgRep channel spa d ∧ 1 ≤ j ∧ j ≤ 15 ∧ (d.ri + 1) &&& 0xF ≠ j
  | .lost d => d.Damaged ∧ d.channel = channel ∧ Spec.spaVal d.spa = Spec.spaVal spa
  | .dropped => True
  | .foreign b => Spec.NotForUs channel (Spec.spaVal spa) b

def EvsOk (channel : Nat) (spa : List Nat) : Nat → List Ev → Prop
  | _, [] => True
  | c, e :: r => EvOk channel spa (c % 256) e ∧ EvsOk channel spa (if e.isMsg then c + 1 else c) r

/-- a gap the continuity index reveals: `g` messages were not delivered since the last delivery,
    and `g` is not a multiple of 256 -/
def gapBad : Option Nat → Bool
  | some g => decide (g % 256 ≠ 0)
  | none => false

/-- **what the application must see**: every message that arrived intact or was repaired by its
    repeat, once, in order; DATA_LOST iff something was lost since the previous delivery (`pend`: a
    damaged packet without repeat; `aw`: an announced repeat never came; `sync = some g`: `g` messages
    missing according to the continuity index). -/
def want : Bool → Option Nat → Bool → List Ev → List (Nat × List Nat)
  | _, _, _, [] => []
  | pend, sync, aw, .intact m _ :: r =>
    ((if (pend || aw || gapBad (if aw then none else sync)) then 1 else 0) ||| m.dep, m.data) ::
      want false (some 0) false r
  | pend, sync, _, .repaired m _ _ _ _ :: r =>
    ((if (pend || gapBad sync) then 1 else 0) ||| m.dep, m.data) :: want false (some 0) false r
  | pend, sync, _, .unrepaired _ _ :: r => want pend (sync.map (· + 1)) true r
  | _, _, _, .lateRepeat _ _ _ _ :: r => want true none false r
  | _, _, _, .lost _ :: r => want true none false r
  | pend, sync, aw, .dropped :: r => want pend (sync.map (· + 1)) aw r
  | pend, sync, aw, .foreign _ :: r => want pend sync aw r

theorem ial_facts (n dep : Nat) (hn : n ≤ 6) (hd : dep = 0 ∨ dep = 8) :
    n + dep < 16 ∧ (n + dep) &&& 7 = n ∧ (n + dep) &&& 7 ≠ 7 ∧ (n + dep) &&& 8 = dep := by
  have h0 : ∀ n < 7, n + 0 < 16 ∧ (n + 0) &&& 7 = n ∧ (n + 0) &&& 7 ≠ 7 ∧ (n + 0) &&& 8 = 0 := by decide
  have h8 : ∀ n < 7, n + 8 < 16 ∧ (n + 8) &&& 7 = n ∧ (n + 8) &&& 7 ≠ 7 ∧ (n + 8) &&& 8 = 8 := by decide
  rcases hd with rfl | rfl
  · exact h0 n (by omega)
  · exact h8 n (by omega)

theorem low_nibble_add (x j : Nat) (hx : x &&& 0xF = 0) (hj : j ≤ 15) : (x + j) &&& 0xF = j := by
  rw [Bits.and_0F] at hx ⊢; omega

theorem pk_valid (channel : Nat) (spa : List Nat) (ci : Nat) (m : Msg) (j : Nat)
    (hch : channel < 16) (hspa : spa.length ≤ 6) (hspalt : ∀ n ∈ spa, n < 16) (hci : ci < 256)
    (hm : m.Ok spa.length ci) (hj : j ≤ 15) : (pk channel spa ci m j).Valid := by
  obtain ⟨h1, h2, h3, h4, h5, h6, h7, h8, h9, h10, h11⟩ := hm
  obtain ⟨i1, i2, i3, _⟩ := ial_facts spa.length m.dep hspa h3
  exact mkPacket_valid channel m.ft (spa.length + m.dep) spa (m.ri + j) ci m.data m.dummy m.pad
    hch h1 h2 i1 i2.symm i3 hspalt (by rw [Bits.and_0F] at h5; omega) hci h6 h7 h8 h9 h10 (by rw [i2]; exact h11)

theorem pk_riv (channel : Nat) (spa : List Nat) (ci : Nat) (m : Msg) (j : Nat) :
    (pk channel spa ci m j).riv = if m.ft &&& 2 ≠ 0 then m.ri + j else 0 := by
  show (if decide (m.ft &&& 2 ≠ 0) = true then m.ri + j else 0) = _
  by_cases h : m.ft &&& 2 ≠ 0 <;> simp [h]

/-- transmission `j` of message `m` as it is on the air when it arrives intact -/
def intactTx (channel : Nat) (spa : List Nat) (ci : Nat) (m : Msg) (j : Nat) : Spec.Tx :=
  if j = 0 then .data (pk channel spa ci m 0) else .rep (pk channel spa ci m j)

theorem intactTx_rep {channel : Nat} {spa : List Nat} {ci : Nat} {m : Msg} {j : Nat} (h : j ≠ 0) :
    Spec.Tx.rep (pk channel spa ci m j) = intactTx channel spa ci m j := (if_neg h).symm

theorem intactTx_sent (channel : Nat) (spa : List Nat) (ci : Nat) (m : Msg) (j : Nat)
    (hch : channel < 16) (hspa : spa.length ≤ 6) (hspalt : ∀ n ∈ spa, n < 16) (hci : ci < 256)
    (hm : m.Ok spa.length ci) (hft : j ≠ 0 → m.ft &&& 2 ≠ 0) (hj : j ≤ 15) :
    Spec.Tx.Sent channel (Spec.spaVal spa) (intactTx channel spa ci m j) := by
  unfold intactTx
  split
  · exact ⟨pk_valid channel spa ci m 0 hch hspa hspalt hci hm (by omega), rfl, rfl, fun _ => hm.ri_low⟩
  · next h0 =>
    refine ⟨pk_valid channel spa ci m j hch hspa hspalt hci hm hj, rfl, rfl, ?_, ?_⟩
    · show decide (m.ft &&& 2 ≠ 0) = true
      simpa using hft h0
    · show (m.ri + j) &&& 0xF ≠ 0
      rw [low_nibble_add _ _ hm.ri_low hj]; exact h0

theorem txs_sent (channel : Nat) (spa : List Nat) (hch : channel < 16) (hspa : spa.length ≤ 6)
    (hspalt : ∀ n ∈ spa, n < 16) (evs : List Ev) : ∀ c, EvsOk channel spa c evs →
    ∀ t ∈ txsOf channel spa c evs, Spec.Tx.Sent channel (Spec.spaVal spa) t := by
  induction evs with
  | nil => intro c _ t ht; simp [txsOf] at ht
  | cons e r ih =>
    intro c hok
    obtain ⟨he, hr⟩ := hok
    have hci : c % 256 < 256 := Bits.mod_lt _ _
    have hrep : ∀ (m : Msg) (j : Nat), m.Ok spa.length (c % 256) → m.ft &&& 2 ≠ 0 → 1 ≤ j → j ≤ 15 →
        Spec.Tx.Sent channel (Spec.spaVal spa) (.rep (pk channel spa (c % 256) m j)) := fun m j hm hft h1 h2 =>
      intactTx_rep (show j ≠ 0 by omega) ▸ intactTx_sent channel spa _ m j hch hspa hspalt hci hm (fun _ => hft) h2
    rw [txsOf, List.forall_mem_append]
    refine ⟨?_, ih _ hr⟩
    cases e with
    | intact m dups =>
      obtain ⟨hm, hd1, hd2⟩ := he
      rw [evTxs, List.forall_mem_cons, List.forall_mem_map]
      exact ⟨intactTx_sent channel spa _ m 0 hch hspa hspalt hci hm (fun h => absurd rfl h) (by omega),
        fun j hj => hrep m j hm (hd2 (List.ne_nil_of_mem hj)) (hd1 j hj).1 (hd1 j hj).2⟩
    | repaired m ds d k dups =>
      obtain ⟨hm, hri, ⟨hd1, hd2⟩, hds, hd, hk1, hk2, _⟩ := he
      simp only [evTxs, List.forall_mem_append, List.forall_mem_cons, List.forall_mem_map]
      exact ⟨hds, hd, hrep m k hm hri hk1 hk2, fun j hj => hrep m j hm hri (hd1 j hj).1 (hd1 j hj).2⟩
    | unrepaired ds d =>
      simp only [evTxs, List.forall_mem_append, List.forall_mem_singleton, List.forall_mem_map]
      exact ⟨he.1, he.2.1⟩
    | lateRepeat m ds d j =>
      obtain ⟨hm, hri, hds, hd, hj1, hj2, _⟩ := he
      simp only [evTxs, List.forall_mem_append, List.forall_mem_cons, List.forall_mem_map]
      exact ⟨hds, hd, hrep m j hm hri hj1 hj2, fun _ h => by cases h⟩
    | lost d => rw [evTxs, List.forall_mem_singleton]; exact he
    | dropped => intro t ht; cases ht
    | foreign b => rw [evTxs, List.forall_mem_singleton]; exact he

theorem xor_and_ff_eq_zero_iff (a b : Nat) : (a ^^^ b) &&& 0xFF = 0 ↔ a % 256 = b % 256 := by
  rw [Nat.and_xor_distrib_right, Bits.xor_eq_zero, Bits.and_FF, Bits.and_FF]

/-- receiver's expected continuity index vs. the number of messages missing since the last delivery -/
def SyncRel (c : Nat) : Option Nat → Option Nat → Prop
  | none, none => True
  | some e, some g => g ≤ c ∧ e % 256 = (c - g) % 256
  | _, _ => False

theorem lostFlag_some (e ci : Nat) : Spec.lostFlag (some e) ci = if ci % 256 = e % 256 then 0 else 1 := by
  simp only [Spec.lostFlag, ne_eq, xor_and_ff_eq_zero_iff, ite_not]

theorem lostFlag_sync (c : Nat) (eci sync : Option Nat) (h : SyncRel c eci sync) :
    Spec.lostFlag eci (c % 256) = if gapBad sync then 1 else 0 := by
  cases eci <;> cases sync
  · rfl
  · exact h.elim
  · exact h.elim
  · obtain ⟨h1, h2⟩ := h
    rw [lostFlag_some]
    simp only [gapBad, decide_eq_true_eq]
    split <;> split <;> omega

theorem syncRel_succ (c : Nat) (eci sync : Option Nat) (h : SyncRel c eci sync) :
    SyncRel (c + 1) eci (sync.map (· + 1)) := by
  cases eci <;> cases sync
  · trivial
  · exact h.elim
  · exact h.elim
  · exact ⟨Nat.succ_le_succ h.1, by rw [Nat.add_sub_add_right]; exact h.2⟩

theorem syncRel_delivered (c : Nat) : SyncRel (c + 1) (some (c % 256 + 1)) (some 0) :=
  ⟨by omega, by omega⟩

theorem syncRel_inStep (c : Nat) (ci : Option Nat) (h : ci = none ∨ ∃ e, ci = some e ∧ e % 256 = c % 256) :
    ∃ sync, SyncRel c ci sync ∧ gapBad sync = false := by
  rcases h with rfl | ⟨e, rfl, he⟩
  · exact ⟨none, trivial, rfl⟩
  · exact ⟨some 0, ⟨by omega, by simpa using he⟩, rfl⟩

/-- awaited repeat indicator of the receiver vs. "a repeat is awaited" -/
def AwRel : Option Nat → Bool → Prop
  | none, false => True
  | some a, true => a &&& 0xF ≠ 0
  | _, _ => False

theorem flagBit (b : Bool) : ((if b then 1 else 0 : Nat) &&& 0xFFFFFFFE) = 0 := by cases b <;> decide

theorem pend_or_one (pend : Bool) : ((if pend then 1 else 0 : Nat) ||| 1) = 1 := by cases pend <;> decide

theorem flag_sync (c : Nat) (eci sync : Option Nat) (pend : Bool) (h : SyncRel c eci sync) :
    (if pend then 1 else 0) ||| Spec.lostFlag eci (c % 256) = if (pend || gapBad sync) then 1 else 0 := by
  rw [lostFlag_sync c eci sync h]
  cases pend <;> cases gapBad sync <;> rfl

theorem expectedR_pk (channel : Nat) (spa : List Nat) (hspa : spa.length ≤ 6) (ci : Nat) (m : Msg) (j : Nat)
    (hm : m.Ok spa.length ci) (hj : j ≤ 15) (hft : j ≠ 0 → m.ft &&& 2 ≠ 0)
    (fl : Nat) (eci aw : Option Nat) (rest : List Spec.Tx) :
    Spec.expectedR false fl eci aw (intactTx channel spa ci m j :: rest) =
      let deliver := (fl ||| Spec.lostFlag eci ci ||| m.dep, m.data) ::
        Spec.expectedR false ((fl ||| Spec.lostFlag eci ci) &&& 0xFFFFFFFE) (some (ci + 1)) none rest
      match aw with
      | none => if j = 0 then deliver else Spec.expectedR false fl eci none rest
      | some a =>
        if a &&& 0xF = j then deliver
        else if j = 0 then
          (fl ||| 1 ||| m.dep, m.data) :: Spec.expectedR false ((fl ||| 1) &&& 0xFFFFFFFE) (some (ci + 1)) none rest
        else Spec.expectedR false (fl ||| 1) none none rest := by
  have hdep : (pk channel spa ci m j).ial &&& 8 = m.dep := (ial_facts spa.length m.dep hspa hm.dep_bit).2.2.2
  have hlow : (pk channel spa ci m j).riv &&& 0xF = j := by
    rw [pk_riv]; split
    · exact low_nibble_add _ _ hm.ri_low hj
    · by_cases h0 : j = 0
      · rw [h0]; rfl
      · exact absurd (hft h0) ‹_›
  have hstep : Spec.expectedR false fl eci aw (intactTx channel spa ci m j :: rest) =
      Spec.intactR false (pk channel spa ci m j).riv ci m.dep m.data fl eci aw
        (fun f e w => Spec.expectedR false f e w rest) := by
    unfold intactTx
    by_cases h0 : j = 0
    · subst h0; rw [if_pos rfl]; simp only [Spec.expectedR]; rw [hdep]; rfl
    · rw [if_neg h0]; simp only [Spec.expectedR]; rw [hdep]; rfl
  rw [hstep]
  unfold Spec.intactR
  cases aw with
  | none => simp only [hlow, ne_eq, ite_not]
  | some a =>
    have hx : ((pk channel spa ci m j).riv ^^^ a) &&& 0xF ≠ 0 ↔ ¬ a &&& 0xF = j := by
      rw [Nat.and_xor_distrib_right, hlow]
      constructor
      · intro h e; apply h; rw [e, Nat.xor_self]
      · intro h e; exact h (Bits.xor_eq_zero.1 e).symm
    simp only [hx, hlow, ne_eq, ite_not, Bool.false_eq_true, if_false, Spec.lostFlag, Nat.or_zero]

theorem expectedR_dups (channel : Nat) (spa : List Nat) (hspa : spa.length ≤ 6) (ci : Nat) (m : Msg) (hm : m.Ok spa.length ci)
    (rest : List Spec.Tx) (fl : Nat) (eci : Option Nat) :
    ∀ dups : List Nat, dupsOk m dups →
    Spec.expectedR false fl eci none (dups.map (fun j => Spec.Tx.rep (pk channel spa ci m j)) ++ rest) =
      Spec.expectedR false fl eci none rest := by
  intro dups
  induction dups with
  | nil => intro _; rfl
  | cons j t ih =>
    intro hd
    have hj := hd.1 j (by simp)
    have hj0 : j ≠ 0 := by omega
    rw [List.map_cons, List.cons_append, intactTx_rep hj0,
      expectedR_pk channel spa hspa ci m j hm hj.2 (fun _ => hd.2 (by simp))]
    simp only [hj0, if_false]
    exact ih ⟨fun x hx => hd.1 x (by simp [hx]), fun _ => hd.2 (by simp)⟩

theorem expectedR_dmg (fl : Nat) (eci : Option Nat) (rest : List Spec.Tx) (d : Spec.Pkt) :
    ∀ (ds : List Spec.Pkt) (aw : Option Nat),
    Spec.expectedR false fl eci aw (ds.map Spec.Tx.damagedRep ++ (Spec.Tx.damagedRep d :: rest)) =
      Spec.expectedR false fl eci (some (d.ri + 1)) rest := by
  intro ds
  induction ds with
  | nil => intro aw; rfl
  | cons x t ih => intro aw; simp only [List.map_cons, List.cons_append, Spec.expectedR]; exact ih _

theorem expectedR_events (channel : Nat) (spa : List Nat) (hspa : spa.length ≤ 6) (evs : List Ev) :
    ∀ (c : Nat) (eci aw : Option Nat) (pend : Bool) (sync : Option Nat) (awb : Bool),
    EvsOk channel spa c evs → SyncRel c eci sync → AwRel aw awb →
    Spec.expectedR false (if pend then 1 else 0) eci aw (txsOf channel spa c evs) = want pend sync awb evs := by
  induction evs with
  | nil => intro c eci aw pend sync awb _ _ _; rfl
  | cons e r ih =>
    intro c eci aw pend sync awb hok hsync haw
    obtain ⟨he, hr⟩ := hok
    have hD := fun h => ih (c + 1) (some (c % 256 + 1)) none false (some 0) false h (syncRel_delivered c) trivial
    have hL := fun h => ih (c + 1) none none true none false h trivial trivial
    simp only [Bool.false_eq_true, if_false, if_true] at hD hL
    cases e with
    | intact m dups =>
      obtain ⟨hm, hd⟩ := he
      show Spec.expectedR false _ eci aw (intactTx channel spa (c % 256) m 0 :: (_ ++ txsOf channel spa (c + 1) r)) = _
      rw [expectedR_pk channel spa hspa _ m 0 hm (by omega) (fun h => absurd rfl h)]
      cases aw with
      | none =>
        cases awb with
        | true => exact haw.elim
        | false =>
          simp only [if_true, want, Bool.or_false, Bool.false_eq_true, if_false]
          rw [flag_sync c eci sync pend hsync, flagBit, expectedR_dups channel spa hspa _ m hm _ _ _ dups hd, hD hr]
      | some a =>
        cases awb with
        | false => exact haw.elim
        | true =>
          have ha : ¬ a &&& 0xF = 0 := haw
          simp only [ha, if_false, if_true, want, Bool.or_true, Bool.true_or]
          rw [pend_or_one, expectedR_dups channel spa hspa _ m hm _ _ _ dups hd, show (1 : Nat) &&& 0xFFFFFFFE = 0 from rfl, hD hr]
    | repaired m ds d k dups =>
      obtain ⟨hm, hft, hd, _, _, hk1, hk2, hdri⟩ := he
      have hdk : (d.ri + 1) &&& 0xF = k := by rw [Bits.and_0F] at hdri ⊢; omega
      have hk0 : k ≠ 0 := by omega
      simp only [txsOf, evTxs, Ev.isMsg, if_true, List.append_assoc, List.cons_append, want]
      rw [expectedR_dmg, intactTx_rep hk0, expectedR_pk channel spa hspa _ m k hm hk2 (fun _ => hft)]
      simp only [hdk, if_true]
      rw [flag_sync c eci sync pend hsync, flagBit, expectedR_dups channel spa hspa _ m hm _ _ _ dups hd, hD hr]
    | unrepaired ds d =>
      obtain ⟨_, _, hdri⟩ := he
      have hdk : (d.ri + 1) &&& 0xF ≠ 0 := by rw [Bits.and_0F] at hdri ⊢; omega
      simp only [txsOf, evTxs, Ev.isMsg, if_true, List.append_assoc, List.cons_append, List.nil_append, want]
      rw [expectedR_dmg]
      exact ih (c + 1) eci (some (d.ri + 1)) pend (sync.map (· + 1)) true hr (syncRel_succ c eci sync hsync) hdk
    | lateRepeat m ds d j =>
      obtain ⟨hm, hft, _, _, hj1, hj2, hne⟩ := he
      have hj0 : j ≠ 0 := by omega
      simp only [txsOf, evTxs, Ev.isMsg, if_true, List.append_assoc, List.cons_append, List.nil_append, want]
      rw [expectedR_dmg, intactTx_rep hj0, expectedR_pk channel spa hspa _ m j hm hj2 (fun _ => hft)]
      simp only [hne, hj0, if_false]
      rw [pend_or_one]
      exact hL hr
    | lost d =>
      simp only [txsOf, evTxs, Ev.isMsg, if_true, List.cons_append, List.nil_append, Spec.expectedR, want]
      rw [pend_or_one]
      exact hL hr
    | dropped => exact ih (c + 1) eci aw pend (sync.map (· + 1)) awb hr (syncRel_succ c eci sync hsync) haw
    | foreign b => exact ih c eci aw pend sync awb hr hsync haw
/-- the user data of the messages that arrive in a loss-free transmission -/
def cleanPayloads : List Ev → List (Nat × List Nat)
  | [] => []
  | .intact m _ :: r => (m.dep, m.data) :: cleanPayloads r
  | _ :: r => cleanPayloads r

theorem want_clean (evs : List Ev) (hclean : ∀ e ∈ evs, (∃ m d, e = .intact m d) ∨ (∃ b, e = .foreign b)) :
    ∀ sync, gapBad sync = false → want false sync false evs = cleanPayloads evs := by
  induction evs with
  | nil => intro _ _; rfl
  | cons e r ih =>
    intro sync hs
    have ihr := ih (fun x hx => hclean x (by simp [hx]))
    rcases hclean e (by simp) with ⟨m, d, rfl⟩ | ⟨b, rfl⟩
    · simp only [want, cleanPayloads, Bool.false_or, hs, Bool.false_eq_true, if_false, Nat.zero_or]
      rw [ihr (some 0) rfl]
    · simp only [want, cleanPayloads]
      exact ihr sync hs

end Zvbi.Idl
