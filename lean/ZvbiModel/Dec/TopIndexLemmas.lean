import ZvbiModel.Dec.TopIndex
/-!
# The title loop of `top_index`, one title at a time
-/
namespace Zvbi.Props.C01Seq
open Zvbi.Dec.TopIndex

theorem rows_succ (n : Nat) (s : St) : rows (n + 1) s = (step s).2.toList ++ rows n (step s).1 := by
  rcases h : step s with ⟨s', _ | r⟩ <;> simp [rows, h]

end Zvbi.Props.C01Seq
