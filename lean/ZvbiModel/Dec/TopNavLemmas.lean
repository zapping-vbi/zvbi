import ZvbiModel.Dec.TopNav
import ZvbiModel.Log
namespace Zvbi.Dec.TopNav
open Zvbi.Gen.C01

/-- masking with 0x7FF and adding 0x100 lands in the page range, whatever is masked (also a negative value) -/
theorem mask_add_in_range (x : BitVec 32) : InRange ((x &&& 2047#32) + 256#32) := by
  unfold InRange
  have h : (x &&& 2047#32).toNat ≤ 2047 := by
    rw [BitVec.toNat_and]; exact Nat.and_le_right
  have hn : ((x &&& 2047#32) + 256#32).toNat = (x &&& 2047#32).toNat + 256 := by
    rw [BitVec.toNat_add]; simp only [BitVec.toNat_ofNat]; omega
  rw [BitVec.toInt_eq_toNat_cond, hn]
  simp only [pageStatLo, nPageStats]
  split <;> omega

/-- The two scans of top_navigation_bar are one loop up to the direction and the two stop tests: `scan` is either, by its two
equations.  Every page number it visits came out of `add_modulo`. -/
theorem scan_in_range {scan : Nat → BitVec 32 → List (BitVec 32)} {stop1 stop2 : BitVec 32 → Prop} [DecidablePred stop1]
    [DecidablePred stop2] {incr : BitVec 32} (h0 : ∀ i, scan 0 i = [])
    (hs : ∀ f i, scan (f + 1) i = if stop1 i then [] else i :: (if stop2 i then [] else scan f (addModulo i incr))) :
    ∀ (fuel : Nat) (i : BitVec 32), InRange i → ∀ p ∈ scan fuel i, InRange p := by
  intro fuel
  induction fuel with
  | zero => exact fun i _ => h0 i ▸ List.forall_mem_nil _
  | succ f ih =>
    intro i hi
    rw [hs]
    exact Log.ite (fun _ => List.forall_mem_nil _) fun _ => List.forall_mem_cons.mpr ⟨hi,
      Log.ite (fun _ => List.forall_mem_nil _) fun _ => ih _ (mask_add_in_range _)⟩

end Zvbi.Dec.TopNav
