import ZvbiModel.Dec.ConvertReads
import ZvbiModel.Ite
namespace Zvbi.Dec.ConvertReads
open Zvbi.Gen.C01

/-- `cache_page_size` of a page of function UNKNOWN or LOP: with an `ext_lop` if X/28/0, /1 or /4 came (mask 0x13), else with an
`enh_lop` if X/26 came, else the plain `lop` -/
theorem lopSize_cases {P : Nat → Prop} {fn : Int} (hf : fn = fn_UNKNOWN ∨ fn = fn_LOP) (x26 x28 : Nat)
    (ext : x28 &&& 19 ≠ 0 → P (hdrSize + sizeof_ext_lop)) (enh : x28 &&& 19 = 0 → x26 ≠ 0 → P (hdrSize + sizeof_enh_lop))
    (lop : x28 &&& 19 = 0 → x26 = 0 → P (hdrSize + sizeof_lop)) : P (cachePageSize fn x26 x28) := by
  unfold cachePageSize
  rw [if_pos hf]
  exact ite_ind ext fun h28 => ite_ind (enh (Decidable.not_not.mp h28)) fun h => lop (Decidable.not_not.mp h28) (Decidable.not_not.mp h)

theorem cachePageSize_bounds (fn : Int) (x26 x28 : Nat) :
    hdrSize ≤ cachePageSize fn x26 x28 ∧ fullSize ≥ cachePageSize fn x26 x28 := by
  unfold cachePageSize
  exact ⟨ite_both (ite_both (by decide) (ite_both (by decide) (by decide)))
      (ite_both (by decide) (ite_both (by decide) (ite_both (by decide) (by decide)))),
    ite_both (ite_both (by decide) (ite_both (by decide) (by decide)))
      (ite_both (by decide) (ite_both (by decide) (ite_both (by decide) (by decide))))⟩

theorem srcSize_ge_lop (s : Src) : hdrSize + sizeof_lop ≤ srcSize s :=
  lopSize_cases (Or.inl rfl) s.x26 s.x28 (fun _ => by decide) (fun _ _ => by decide) fun _ _ => Nat.le_refl _

theorem srcSize_ge_enh (s : Src) (h : s.x26 ≠ 0) : hdrSize + sizeof_enh_lop ≤ srcSize s :=
  lopSize_cases (Or.inl rfl) s.x26 s.x28 (fun _ => by decide) (fun _ _ => Nat.le_refl _) fun _ h0 => absurd h0 h

theorem rowReads_within (lo hi lp : Nat) (hhi : hi < rawRows) (s : Src) :
    ∀ r ∈ rowReads lo hi lp, r.1 + r.2 ≤ srcSize s := by
  intro r hr
  simp only [rowReads, List.mem_map, List.mem_filter, List.mem_range] at hr
  obtain ⟨i, ⟨⟨k, hk, rfl⟩, _⟩, rfl⟩ := hr
  have := srcSize_ge_lop s
  simp only [dataOff, rawOff, rawCols, hdrSize, sizeof_lop, rawRows] at *
  omega

theorem and_ne_zero_of_sub (x a b : Nat) (hab : b &&& a = a) (h : x &&& a ≠ 0) : x &&& b ≠ 0 := by
  intro hb
  apply h
  have : x &&& a = (x &&& b) &&& a := by rw [Nat.and_assoc, hab]
  rw [this, hb]; simp

end Zvbi.Dec.ConvertReads
