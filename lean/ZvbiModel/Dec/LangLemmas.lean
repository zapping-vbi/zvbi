/-
The subtitle language bookkeeping of Dec/Lang.lean: what VALID_CHARACTER_SET and page_language() return (inside and outside the
font table), the 8-bit store, the invariant over the page_stat array and its preservation by every event.
-/
import ZvbiModel.Dec.Lang
import ZvbiModel.Ite
import ZvbiModel.Yields

namespace Zvbi.Dec.Lang
open Zvbi.Gen.C01Lang

theorem validInTable_lt (n : Nat) (h : validInTable n = true) : n < fontLen := by
  simp only [validInTable, decide_eq_true_eq] at h
  simp only [fontLen]; omega

theorem fontHasG0_length : fontHasG0.length = fontLen := by decide

theorem validSet_spec (n : Nat) : Yields (fun b => b = true → n < fontLen ∧ fontHasG0[n]? = some true) (validSet n) := by
  unfold validSet
  refine ite_ind (fun h => ?_) fun _ => .some fun h => by cases h
  have hn := validInTable_lt n h
  have hl : n < fontHasG0.length := by rw [fontHasG0_length]; exact hn
  unfold fontG0
  rw [if_pos hn, List.getElem?_eq_getElem hl]
  exact .some fun hb => ⟨hn, by rw [hb]⟩

theorem validSet_ge {n : Nat} (h : fontLen ≤ n) : validSet n = some false :=
  if_neg fun hv => absurd (validInTable_lt n hv) (Nat.not_lt.mpr h)

/-- `& ~7` does not lead back below the extent, which is a multiple of 8 -/
theorem clear3_ge {d : Nat} (h : fontLen ≤ d) (n : Nat) : fontLen ≤ clear3 d + n := by
  simp only [fontLen, clear3] at *; omega

theorem pageLanguage_spec (isLop : Bool) (d n : Nat) :
    Yields (fun r => r = -1 ∨ ∃ c : Nat, r = (c : Int) ∧ c < fontLen ∧ fontHasG0[c]? = some true)
      (pageLanguage .validated isLop d n) := by
  unfold pageLanguage
  refine ite_ind (fun _ => .some (Or.inl rfl)) fun _ =>
    (validSet_spec d).bind fun b1 p1 => (validSet_spec (clear3 d + n)).bind fun b2 p2 => .some ?_
  cases b2
  · cases b1
    · exact Or.inl rfl
    · exact Or.inr ⟨d, rfl, p1 rfl⟩
  · exact Or.inr ⟨_, rfl, p2 rfl⟩

theorem pageLanguage_undefined (isLop : Bool) {d : Nat} (h : fontLen ≤ d) (n : Nat) :
    pageLanguage .validated isLop d n = some (-1) := by
  simp only [pageLanguage, validSet_ge h, validSet_ge (clear3_ge h n)]
  exact ite_both (P := (· = some (-1))) rfl rfl

theorem pageLanguage_raw {d : Nat} (h : fontLen ≤ d) (n : Nat) : pageLanguage .rawFallback true d n = some (d : Int) := by
  simp only [pageLanguage, validSet_ge (clear3_ge h n)]
  rfl

theorem toField_neg1 : toField (-1) = initCode := by decide

theorem toField_of_lt (c : Nat) (h : c < 2 ^ codeBits) : toField (c : Int) = c := by
  have h' : c < 256 := h
  have e : ((2 ^ codeBits : Nat) : Int) = 256 := by decide
  unfold toField
  rw [e]
  omega

theorem stored_ok (isLop : Bool) (d n : Nat) : Yields (fun r => CodeOK (toField r)) (pageLanguage .validated isLop d n) :=
  (pageLanguage_spec isLop d n).mono fun r h => by
    rcases h with h | ⟨c, hc, hlt, hg⟩
    · subst h; exact Or.inl toField_neg1
    · subst hc; rw [toField_of_lt c (Nat.lt_trans hlt (by decide))]; exact Or.inr ⟨hlt, hg⟩

/-- the invariant over the whole page_stat array -/
def Inv (s : St) : Prop := ∀ p, CodeOK (s.code p)

theorem set_inv (s : St) (h : Inv s) (p v : Nat) (hv : CodeOK v) : Inv (s.set p v) := by
  intro q
  show CodeOK (if q = p then v else s.code q)
  exact ite_both hv (h q)

theorem classifyRead_ok (v : Nat) (h : CodeOK v) : Yields (fun r => ∀ i, r = some i → i < fontLen) (classifyRead v) := by
  unfold classifyRead
  refine ite_ind (fun hg => ?_) fun _ => .some nofun
  -- a code that passes the `!= 0xFF` test is not the initial one, so it is a table index
  have hl : v < fontLen := (h.resolve_left fun e => by rw [e] at hg; exact absurd hg (by decide)).1
  rw [if_pos hl]
  exact .some fun i hi => Option.some.inj hi ▸ hl

/-- what `CodeOK` rules out: any other code that passes the test is read outside the table -/
theorem classifyRead_outside {v : Nat} (h : fontLen ≤ v) (hg : v ≠ classifyGuard) : classifyRead v = none := by
  unfold classifyRead
  rw [if_pos (bne_iff_ne.mpr hg), if_neg (Nat.not_lt.mpr h)]

theorem statRead_ok (code : Nat) : Yields (fun r => ∀ i, r = some i → i < fontLen) (statRead code) := by
  unfold statRead
  refine ite_both (.some fun i hi => by cases hi) ((validSet_spec code).bind fun b p => .some ?_)
  cases b
  · exact fun i hi => by cases hi
  · exact fun i hi => by cases hi; exact (p rfl).1

theorem step_inv (s : St) (h : Inv s) (o : Op) : Yields Inv (step .validated s o) := by
  cases o with
  | setLang p l d n => exact (stored_ok l d n).bind fun r ok => .some (set_inv s h p _ ok)
  | setLangIfUnknown p l d n =>
    exact ite_both ((stored_ok l d n).bind fun r ok => .some (set_inv s h p _ ok)) (.some h)
  | reset p => exact .some (set_inv s h p _ (Or.inl rfl))
  | classify p => exact (classifyRead_ok (s.code p) (h p)).bind fun _ _ => .some h
  | stat p => exact (statRead_ok (s.code p)).bind fun _ _ => .some h

theorem run_inv : ∀ (ops : List Op) (s : St), Inv s → Yields Inv (run .validated s ops)
  | [], _, h => .some h
  | o :: os, s, h => by
    unfold run
    exact (step_inv s h o).elim fun s1 i1 => run_inv os s1 i1

end Zvbi.Dec.Lang
