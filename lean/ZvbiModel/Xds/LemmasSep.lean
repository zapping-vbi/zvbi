import ZvbiModel.Xds.LemmasDemux
/-!
# C09: caption.c (`vbi_decode_caption` line 284 routing, `xds_separator`)

`ec` is the control-flow fact `errClears` (does the parity-error branch clear `cc->curr_sp`).
The invariant has a part that holds either way (extents, `count <= 34`: no store at or above
`buffer[32]`, `assert (length <= 32)` unreachable) and a part that needs `ec = true`
(`count` is 0 or at least 2, so `buffer[count - 2]` is never below the array).
-/
namespace Zvbi.Xds
open Zvbi.Hamm Zvbi.Gen.Xds
namespace Sep

def SlotOk (sl : Slot) : Prop := sl.buf.length = sepBufExtent ∧ sl.count ≤ sepStoreGuard + 2
def SlotStrong (sl : Slot) : Prop := sl.count = 0 ∨ 2 ≤ sl.count

structure Inv (ec : Bool) (s : State) : Prop where
  len : s.slots.length = sepClasses * sepSubclasses
  ok : ∀ (j : Nat) (sl : Slot), s.slots[j]? = some sl → SlotOk sl
  cur : ∀ i : Nat, s.curr = some i → i < sepClasses * sepSubclasses
  strong : ec = true → (∀ (j : Nat) (sl : Slot), s.slots[j]? = some sl → SlotStrong sl) ∧
    ∀ (i : Nat) (sl : Slot), s.curr = some i → s.slots[i]? = some sl → 2 ≤ sl.count

def PktOk (p : Pkt) : Prop := 1 ≤ p.data.length ∧ p.data.length ≤ sepBufExtent ∧ accepted p.cls p.sub

/-- the only error site a step can report is the store below the buffer, and only when the
    parity-error branch keeps `curr_sp` -/
def OutOk (ec : Bool) (o : Out) : Prop :=
  (o.err = none ∨ (ec = false ∧ o.err = some "sep.store.under")) ∧ ∀ p, o.dec = some p → PktOk p

theorem outOk_empty (ec : Bool) : OutOk ec {} := ⟨Or.inl rfl, by intro p h; cases h⟩

theorem zero_get {j : Nat} {sl : Slot} (h : zeroSlots[j]? = some sl) : sl = Slot.zero sepBufExtent := by
  simp only [zeroSlots, List.getElem?_replicate] at h
  split at h
  · cases h; rfl
  · cases h

theorem inv_zero (ec : Bool) (x : Bool) (n : Net) : Inv ec { slots := zeroSlots, curr := none, xds := x, net := n } := by
  refine ⟨by simp [zeroSlots], ?_, (by intro i h; cases h), ?_⟩
  · intro j sl h; rw [zero_get h]; simp [SlotOk, Slot.zero, sepBufExtent]
  · intro _
    refine ⟨?_, by intro i sl h; cases h⟩
    intro j sl h; rw [zero_get h]; exact Or.inl rfl

theorem inv_init (ec : Bool) : Inv ec init := inv_zero ec false {}

theorem slotOk_reset {sl : Slot} (h : SlotOk sl) : SlotOk sl.reset := ⟨h.1, Nat.zero_le _⟩

theorem inv_reset_none {ec : Bool} {s : State} (h : Inv ec s) (sp : Option Nat) :
    Inv ec { s with slots := resetAt s.slots sp, curr := none } :=
  ⟨(resetAt_length _ _).trans h.len, all_resetAt h.ok (fun _ => slotOk_reset) sp, nofun,
    fun e => ⟨all_resetAt (h.strong e).1 (fun _ _ => Or.inl rfl) sp, nofun⟩⟩

theorem inv_clear {ec : Bool} {s : State} (h : Inv ec s) : Inv ec { s with curr := none } :=
  inv_reset_none h none

theorem Inv.of_eq {ec : Bool} {s t : State} (h : Inv ec s) (e1 : t.slots = s.slots) (e2 : t.curr = s.curr) : Inv ec t :=
  ⟨e1 ▸ h.len, e1 ▸ h.ok, e2 ▸ h.cur, e1 ▸ e2 ▸ h.strong⟩

/-- storing into a buffer keeps the invariant when the new contents are well-formed and, where counts
    below 2 are excluded (`ec`), hold at least the start pair -/
theorem inv_set {ec : Bool} {s : State} (h : Inv ec s) (i : Nat) (x : Slot) (hx : SlotOk x)
    (hs : ec = true → 2 ≤ x.count) : Inv ec { s with slots := s.slots.set i x } := by
  refine ⟨by simp [h.len], all_set h.ok hx, h.cur, fun e => ⟨all_set (h.strong e).1 (Or.inr (hs e)), ?_⟩⟩
  intro j sl hj hsl
  rw [List.getElem?_set] at hsl
  split at hsl
  · split at hsl <;> cases hsl
    exact hs e
  · exact (h.strong e).2 j sl hj hsl

theorem inv_point {ec : Bool} {s : State} (h : Inv ec s) {i : Nat} {sl : Slot} (hsl : s.slots[i]? = some sl)
    (h2 : ec = true → 2 ≤ sl.count) : Inv ec { s with curr := some i } := by
  refine ⟨h.len, h.ok, ?_, fun e => ⟨(h.strong e).1, ?_⟩⟩
  · intro j hj; cases hj; rw [← h.len]; exact lt_of_getElem? hsl
  · intro j sl' hj hsl'; cases hj; rw [hsl] at hsl'; cases hsl'; exact h2 e

theorem idx_accepted {i : Nat} (h : i < sepClasses * sepSubclasses) :
    accepted (i / sepSubclasses) (i % sepSubclasses) := by
  simp only [accepted, sepClasses, sepSubclasses] at *
  omega

theorem slot_lt {ec : Bool} {s : State} (h : Inv ec s) {cls sub : Nat} (hacc : accepted cls sub) :
    ∃ sl, s.slots[slotOf cls sub]? = some sl := by
  apply getElem?_lt
  rw [h.len]
  simp only [accepted, slotOf, sepSubclasses, sepClasses] at *
  omega

/-! ## caption.c: the cases of `xds_separator`, one equation each

As for xds_demux.c: the branches left out (a buffer index outside the array, a packet longer than 32
characters) are excluded by `Inv`. -/

theorem rejected_iff (cls c2 : Nat) : (cls ≥ sepClasses ∨ c2 ≥ sepSubclasses) ↔ ¬ accepted cls c2 := by
  simp only [accepted]; omega

theorem header_rejected (s : State) {c1 c2 : Nat} (h : ¬ accepted ((c1 - 1) >>> 1) c2) :
    header s c1 c2 = ({ s with curr := none }, {}) := by
  simp only [header, rejected_iff, h, not_false_eq_true, if_true]

theorem header_accepted {s : State} {c1 c2 cls : Nat} {sl : Slot} (hc : (c1 - 1) >>> 1 = cls)
    (h : accepted cls c2) (hsl : s.slots[slotOf cls c2]? = some sl) :
    header s c1 c2 =
      (if c1 % 2 = 1 then { s with slots := s.slots.set (slotOf cls c2) (sl.start c1 c2), curr := some (slotOf cls c2) }
       else if sl.count = 0 then { s with curr := none }
       else { s with curr := some (slotOf cls c2) }, {}) := by
  subst hc
  simp only [slotOf] at hsl ⊢
  simp only [header, rejected_iff, h, not_true_eq_false, if_false, hsl]
  split
  · rfl
  · split <;> rfl

theorem terminator_idle {s : State} (c1 c2 : Nat) (h : s.curr = none) : terminator s c1 c2 = (s, {}) := by
  simp only [terminator, h]

/-- the packet `case 15` hands to `xds_decoder` when buffer `i` holds `sl` -/
abbrev sentPkt (i : Nat) (sl : Slot) : Pkt := ⟨i / sepSubclasses, i % sepSubclasses, sl.buf.take (sl.count - 2)⟩

theorem terminator_ok {s : State} {i : Nat} {sl : Slot} (c1 c2 : Nat) (hi : s.curr = some i)
    (hsl : s.slots[i]? = some sl) (hok : SlotOk sl) :
    terminator s c1 c2 =
      if (sl.cksum + c1 + c2) % 128 = 0 ∧ 2 < sl.count then
        (if (netDecode s.net (sentPkt i sl)).2
         then { slots := zeroSlots, curr := none, xds := false, net := (netDecode s.net (sentPkt i sl)).1 }
         else { s with slots := s.slots.set i sl.reset, curr := none, net := (netDecode s.net (sentPkt i sl)).1 },
         { dec := some (sentPkt i sl) })
      else ({ s with slots := s.slots.set i sl.reset, curr := none }, {}) := by
  have hn := hok.2
  simp only [sepStoreGuard] at hn
  have h3 : ¬(sl.count - 2 > 32) := by omega
  simp only [terminator, hi, hsl, h3, if_false, term_cond]
  split
  · generalize netDecode s.net _ = r
    obtain ⟨n', chsw⟩ := r
    cases chsw <;> rfl
  · rfl

theorem content_idle {s : State} (c1 c2 : Nat) (h : s.curr = none) : content s c1 c2 = (s, {}) := by
  simp only [content, h]

theorem content_at {s : State} {i : Nat} {sl : Slot} (c1 c2 : Nat) (hi : s.curr = some i)
    (hsl : s.slots[i]? = some sl) :
    content s c1 c2 =
      if sl.count > sepStoreGuard then ({ s with slots := s.slots.set i sl.reset, curr := none }, {})
      else if sl.count < 2 then
        ({ s with slots := s.slots.set i (sl.storeUnder c1 c2) }, { err := some "sep.store.under" })
      else ({ s with slots := s.slots.set i (sl.store c1 c2) }, {}) := by
  simp only [content, hi, hsl]
  split
  · rfl
  · rename_i hg
    simp only [sepStoreGuard] at hg
    split
    · rfl
    · rw [if_neg (by simp only [sepBufExtent]; omega)]

theorem Inv.cur_slot {ec : Bool} {s : State} {i : Nat} (h : Inv ec s) (hi : s.curr = some i) :
    ∃ sl, s.slots[i]? = some sl ∧ SlotOk sl := by
  obtain ⟨sl, hsl⟩ := getElem?_lt (by rw [h.len]; exact h.cur i hi : i < s.slots.length)
  exact ⟨sl, hsl, h.ok _ _ hsl⟩

theorem inv_header (ec : Bool) {s : State} (h : Inv ec s) (c1 c2 : Nat) :
    Inv ec (header s c1 c2).1 ∧ OutOk ec (header s c1 c2).2 := by
  by_cases hacc : accepted ((c1 - 1) >>> 1) c2
  · obtain ⟨sl, hsl⟩ := slot_lt h hacc
    rw [header_accepted rfl hacc hsl]
    refine ⟨?_, outOk_empty ec⟩
    simp only []
    split
    · exact inv_point (inv_set h _ (sl.start c1 c2) ⟨(h.ok _ _ hsl).1, by simp [Slot.start, sepStoreGuard]⟩ (fun _ => Nat.le_refl 2))
        (List.getElem?_set_self (lt_of_getElem? hsl)) (fun _ => Nat.le_refl 2)
    · split
      · exact inv_clear h
      · refine inv_point h hsl (fun e => ?_)
        have := (h.strong e).1 _ _ hsl
        simp only [SlotStrong] at this; omega
  · rw [header_rejected s hacc]; exact ⟨inv_clear h, outOk_empty ec⟩

theorem inv_terminator (ec : Bool) {s : State} (h : Inv ec s) (c1 c2 : Nat) :
    Inv ec (terminator s c1 c2).1 ∧ OutOk ec (terminator s c1 c2).2 := by
  cases hc : s.curr with
  | none => rw [terminator_idle _ _ hc]; exact ⟨h, outOk_empty ec⟩
  | some i =>
    obtain ⟨sl, hsl, hok⟩ := h.cur_slot hc
    have hd : Inv ec { s with slots := s.slots.set i sl.reset, curr := none } := by
      simpa [resetAt_some hsl] using inv_reset_none h (some i)
    rw [terminator_ok c1 c2 hc hsl hok]
    split
    · refine ⟨?_, Or.inl rfl, ?_⟩
      · simp only []
        split
        · exact inv_zero ec false _
        · exact hd.of_eq rfl rfl
      · intro p hp
        cases hp
        obtain ⟨hlen, hcnt⟩ := hok
        simp only [sepStoreGuard] at hcnt
        simp only [PktOk, List.length_take, hlen, sepBufExtent]
        exact ⟨by omega, by omega, idx_accepted (h.cur i hc)⟩
    · exact ⟨hd, outOk_empty ec⟩

theorem inv_content (ec : Bool) {s : State} (h : Inv ec s) (c1 c2 : Nat) :
    Inv ec (content s c1 c2).1 ∧ OutOk ec (content s c1 c2).2 := by
  cases hc : s.curr with
  | none => rw [content_idle _ _ hc]; exact ⟨h, outOk_empty ec⟩
  | some i =>
    obtain ⟨sl, hsl, hok⟩ := h.cur_slot hc
    simp only [SlotOk, sepBufExtent, sepStoreGuard] at hok
    rw [content_at c1 c2 hc hsl]
    split
    · exact ⟨by simpa [resetAt_some hsl] using inv_reset_none h (some i), outOk_empty ec⟩
    · rename_i hg
      simp only [sepStoreGuard] at hg
      split
      · -- store below the buffer: only possible when the parity branch keeps curr_sp
        have hec : ec = false := by
          cases ec with
          | false => rfl
          | true => have := (h.strong rfl).2 i sl hc hsl; omega
        refine ⟨inv_set h i _ ?_ (fun e => by rw [hec] at e; cases e), Or.inr ⟨hec, rfl⟩, nofun⟩
        simp only [SlotOk, sepBufExtent, sepStoreGuard, Slot.storeUnder]
        split
        · exact ⟨hok.1, by split <;> (dsimp only; omega)⟩
        · exact ⟨by simp [hok.1], by split <;> (dsimp only; omega)⟩
      · refine ⟨inv_set h i _ ?_ (fun _ => by simp only [Slot.store]; omega), outOk_empty ec⟩
        simp only [SlotOk, sepBufExtent, sepStoreGuard, Slot.store_buf_length]
        exact ⟨hok.1, by simp only [Slot.store]; split <;> omega⟩

theorem inv_separator (ec : Bool) {s : State} (h : Inv ec s) (b : Nat × Nat)
    (hreach : ∀ c1, unpar8 b.1 = some c1 → (1 ≤ c1 ∧ c1 ≤ 15) ∨ 0x20 ≤ c1) :
    Inv ec (separator ec s b).1 ∧ OutOk ec (separator ec s b).2 := by
  unfold separator
  split
  · rename_i c1 c2 h1 h2
    split
    · exact inv_header ec h c1 c2
    · split
      · exact inv_terminator ec h c1 c2
      · split
        · exact inv_content ec h c1 c2
        · exfalso
          have := hreach c1 h1
          omega
  · refine ⟨?_, outOk_empty ec⟩
    cases ec with
    | true => exact inv_reset_none h s.curr
    | false =>
      have hn := inv_reset_none h s.curr
      refine ⟨hn.len, hn.ok, ?_, by intro e; cases e⟩
      intro i hi; exact h.cur i hi

theorem inv_step (ec : Bool) {s : State} (h : Inv ec s) (b : Nat × Nat) :
    Inv ec (step ec s b).1 ∧ OutOk ec (step ec s b).2 := by
  unfold step
  split
  · rename_i c1 h1
    split
    · exact ⟨h, outOk_empty ec⟩
    · rename_i hc0
      split
      · rename_i hc15
        have := inv_separator ec h b (by intro c hc; rw [h1] at hc; cases hc; left; omega)
        exact ⟨this.1.of_eq rfl rfl, this.2⟩
      · split
        · exact ⟨h.of_eq rfl rfl, outOk_empty ec⟩
        · rename_i hc31
          split
          · exact inv_separator ec h b (by intro c hc; rw [h1] at hc; cases hc; right; omega)
          · exact ⟨h, outOk_empty ec⟩
  · rename_i h1
    split
    · exact inv_separator ec h b (by intro c hc; rw [h1] at hc; cases hc)
    · exact ⟨h, outOk_empty ec⟩

theorem run_eq (ec : Bool) : ∀ (bs : List (Nat × Nat)) (s : State), run ec s bs = grun (step ec) s bs
  | [], _ => rfl
  | b :: bs, s => by simp only [run, grun, run_eq ec bs]

theorem inv_run (ec : Bool) (bs : List (Nat × Nat)) {s : State} (h : Inv ec s) :
    Inv ec (run ec s bs).1 ∧ ∀ o ∈ (run ec s bs).2, OutOk ec o := by
  rw [run_eq]; exact grun_inv bs (fun b _ s hs => inv_step ec hs b) h

/-! ## caption.c: the phases of one packet -/

/-- `step` on a readable pair (both parity checks passed): the routing of line 284 sets XDS mode on a header, ends it on
    an end pair or a caption control code, and hands characters to `xds_separator` only in XDS mode -/
def step7 (s : State) (c1 c2 : Nat) : State × Out :=
  switch c1 (s, {}) ({ (header s c1 c2).1 with xds := true }, (header s c1 c2).2)
    ({ (terminator s c1 c2).1 with xds := false }, (terminator s c1 c2).2) ({ s with xds := false }, {})
    (if s.xds then content s c1 c2 else (s, {}))

theorem step7_header (s : State) {c1 : Nat} (c2 : Nat) (h1 : 1 ≤ c1) (h14 : c1 ≤ 14) :
    step7 s c1 c2 = ({ (header s c1 c2).1 with xds := true }, (header s c1 c2).2) := switch_hdr _ _ _ _ _ h1 h14

theorem step7_term (s : State) (c2 : Nat) :
    step7 s 15 c2 = ({ (terminator s 15 c2).1 with xds := false }, (terminator s 15 c2).2) := rfl

theorem step7_ctrl (s : State) {c1 : Nat} (c2 : Nat) (h16 : 16 ≤ c1) (h31 : c1 ≤ 31) :
    step7 s c1 c2 = ({ s with xds := false }, {}) := switch_ctrl _ _ _ _ _ h16 h31

theorem step7_content (s : State) {c1 : Nat} (c2 : Nat) (h : 32 ≤ c1) :
    step7 s c1 c2 = if s.xds then content s c1 c2 else (s, {}) := switch_chr _ _ _ _ _ h

theorem step7_eq (s : State) (c1 c2 : Nat) :
    (c1 = 0 ∧ step7 s c1 c2 = (s, {})) ∨
    (1 ≤ c1 ∧ c1 ≤ 14 ∧ step7 s c1 c2 = ({ (header s c1 c2).1 with xds := true }, (header s c1 c2).2)) ∨
    (c1 = 15 ∧ step7 s c1 c2 = ({ (terminator s c1 c2).1 with xds := false }, (terminator s c1 c2).2)) ∨
    (16 ≤ c1 ∧ c1 ≤ 31 ∧ step7 s c1 c2 = ({ s with xds := false }, {})) ∨
    (32 ≤ c1 ∧ step7 s c1 c2 = if s.xds then content s c1 c2 else (s, {})) := switch_cases _ _ _ _ _ c1

/-- on a readable pair the routing of `vbi_decode_caption` and the `switch` of `xds_separator` make the same five-way
    distinction, which is `step7` -/
theorem step_parPair (ec : Bool) (s : State) (q : Pair) (h : q.1 < 128 ∧ q.2 < 128) :
    step ec s (parPair q) = step7 s q.1 q.2 := by
  have u1 := unpar8_par8 _ h.1
  have u2 := unpar8_par8 _ h.2
  rcases step7_eq s q.1 q.2 with ⟨h0, e⟩ | ⟨h1, h14, e⟩ | ⟨h15, e⟩ | ⟨h16, h31, e⟩ | ⟨h32, e⟩ <;> rw [e] <;>
    simp only [step, separator, parPair, u1, u2]
  · simp [h0]
  · have h15 : (q.1 != 15) = true := by simp; omega
    simp [show ¬q.1 = 0 by omega, show q.1 ≤ 15 by omega, h1, h14, h15]
  · simp [h15]
  · simp [show ¬q.1 = 0 by omega, show ¬q.1 ≤ 15 by omega, h31]
  · simp [show ¬q.1 = 0 by omega, show ¬q.1 ≤ 15 by omega, show ¬q.1 ≤ 31 by omega, show ¬q.1 ≤ 14 by omega,
      show ¬q.1 = 15 by omega, show 32 ≤ q.1 by omega]

variable (ec : Bool) {s : State} {cls sub : Nat} {done : List Pair}

theorem inv_step7 (h : Inv ec s) (q : Pair) (hq : q.1 < 128 ∧ q.2 < 128) :
    Inv ec (step7 s q.1 q.2).1 := by
  rw [← step_parPair ec s q hq]; exact (inv_step ec h _).1

/-- packet (cls, sub) is the current one, XDS mode is on, `done` are the payload pairs stored so far -/
structure OpenAt (ec : Bool) (cls sub : Nat) (done : List Pair) (s : State) : Prop where
  inv : Inv ec s
  cur : s.curr = some (slotOf cls sub)
  xds : s.xds = true
  slot : ∃ sl, s.slots[slotOf cls sub]? = some sl ∧ Holds cls sub done sl

/-- buffer of the network-name packet 2/1, whose announcement may flush every buffer -/
def slotNet : Nat := slotOf 2 1

theorem slotOf_ne_net {cls sub : Nat} (hacc : accepted cls sub) (h : ¬(cls = 2 ∧ sub = 1)) :
    slotOf cls sub ≠ slotNet :=
  fun e => h (slot_inj hacc.2 (by decide) e)

theorem netDecode_chsw {n : Net} {p : Pkt} (h : (netDecode n p).2 = true) : p.cls = 2 ∧ p.sub = 1 := by
  by_cases h21 : p.cls = 2 ∧ p.sub = 1
  · exact h21
  · simp only [netDecode, h21, if_false, apply_ite Prod.snd, ite_self] at h
    cases h

theorem header_frame (h : Inv ec s) (i c1 c2 : Nat)
    (hno : ¬(accepted ((c1 - 1) >>> 1) c2 ∧ slotOf ((c1 - 1) >>> 1) c2 = i))
    (hnet : ¬((c1 - 1) >>> 1 = 2 ∧ c2 = 1)) :
    (header s c1 c2).1.slots[i]? = s.slots[i]? ∧ (header s c1 c2).1.curr ≠ some i ∧
    (∀ j, (header s c1 c2).1.curr = some j → j ≠ slotNet) ∧ (header s c1 c2).2.dec = none := by
  by_cases hacc : accepted ((c1 - 1) >>> 1) c2
  · obtain ⟨sl, hsl⟩ := slot_lt h hacc
    have hidx : slotOf ((c1 - 1) >>> 1) c2 ≠ i := fun e => hno ⟨hacc, e⟩
    have hidn : ∀ j, some (slotOf ((c1 - 1) >>> 1) c2) = some j → j ≠ slotNet := by
      intro j hj
      cases hj
      exact slotOf_ne_net hacc hnet
    rw [header_accepted rfl hacc hsl]
    simp only []
    split
    · exact ⟨List.getElem?_set_ne hidx, some_ne hidx, hidn, trivial⟩
    · split
      · exact ⟨rfl, nofun, nofun, trivial⟩
      · exact ⟨rfl, some_ne hidx, hidn, trivial⟩
  · rw [header_rejected s hacc]; exact ⟨rfl, nofun, nofun, rfl⟩

theorem terminator_frame (h : Inv ec s) (i c1 c2 : Nat) (hcur : s.curr ≠ some i)
    (hnet : ∀ j, s.curr = some j → j ≠ slotNet) :
    (terminator s c1 c2).1.slots[i]? = s.slots[i]? ∧ (terminator s c1 c2).1.curr = none ∧
    ∀ p, (terminator s c1 c2).2.dec = some p → slotOf p.cls p.sub ≠ i := by
  cases hc : s.curr with
  | none => rw [terminator_idle _ _ hc]; exact ⟨rfl, hc, nofun⟩
  | some j =>
    obtain ⟨sl, hsl, hok⟩ := h.cur_slot hc
    have hji : j ≠ i := fun e => hcur (hc.trans (congrArg some e))
    rw [terminator_ok c1 c2 hc hsl hok]
    split
    · -- the delivered packet is not 2/1, so the decoder is not reset
      have hch : (netDecode s.net (sentPkt j sl)).2 = false := by
        cases hh : (netDecode s.net (sentPkt j sl)).2 with
        | false => rfl
        | true =>
          have h21 := netDecode_chsw hh
          have hn := hnet j hc
          simp only [slotNet, slotOf, sepSubclasses] at h21 hn
          omega
      simp only [hch, Bool.false_eq_true, if_false]
      refine ⟨List.getElem?_set_ne hji, trivial, ?_⟩
      intro p hp
      cases hp
      simp only [slotOf, sepSubclasses]; omega
    · exact ⟨List.getElem?_set_ne hji, rfl, nofun⟩

theorem content_frame (h : Inv ec s) (i c1 c2 : Nat) (hcur : s.curr ≠ some i) :
    (content s c1 c2).1.slots[i]? = s.slots[i]? ∧ (∀ j, (content s c1 c2).1.curr = some j → s.curr = some j) ∧
    (content s c1 c2).2.dec = none := by
  cases hc : s.curr with
  | none => rw [content_idle _ _ hc]; exact ⟨rfl, fun _ hj => hc ▸ hj, rfl⟩
  | some j =>
    obtain ⟨sl, hsl, _⟩ := h.cur_slot hc
    have hji : j ≠ i := fun e => hcur (hc.trans (congrArg some e))
    rw [content_at c1 c2 hc hsl]
    split
    · exact ⟨List.getElem?_set_ne hji, nofun, rfl⟩
    · split <;> exact ⟨List.getElem?_set_ne hji, fun _ hj => hc ▸ hj, rfl⟩

theorem blockOk_switch (i : Nat) (m : Bool) (q : Pair) (r : List Pair) :
    blockOk i m (q :: r) = switch q.1 (blockOk i m r)
      ((!(decide (accepted ((q.1 - 1) >>> 1) q.2) && slotOf ((q.1 - 1) >>> 1) q.2 == i))
        && !((q.1 - 1) >>> 1 == 2 && q.2 == 1) && blockOk i true r)
      (m && blockOk i false r) (blockOk i false r) (blockOk i m r) := rfl

theorem blockOk_zero (i : Nat) (m : Bool) {q : Pair} (r : List Pair) (h : q.1 = 0) :
    blockOk i m (q :: r) = blockOk i m r := switch_nul _ _ _ _ _ h

theorem blockOk_header (i : Nat) (m : Bool) {q : Pair} (r : List Pair) (h1 : 1 ≤ q.1) (h14 : q.1 ≤ 14) :
    blockOk i m (q :: r) = true ↔
      ¬(accepted ((q.1 - 1) >>> 1) q.2 ∧ slotOf ((q.1 - 1) >>> 1) q.2 = i) ∧
      ¬((q.1 - 1) >>> 1 = 2 ∧ q.2 = 1) ∧ blockOk i true r = true := by
  rw [blockOk_switch, switch_hdr _ _ _ _ _ h1 h14]
  simp only [Bool.and_eq_true, Bool.not_eq_true', Bool.and_eq_false_imp, decide_eq_true_eq, beq_eq_false_iff_ne,
    beq_iff_eq, ne_eq, not_and, and_assoc]

theorem blockOk_term (i : Nat) (m : Bool) {q : Pair} (r : List Pair) (h : q.1 = 15) :
    blockOk i m (q :: r) = (m && blockOk i false r) := switch_term _ _ _ _ _ h

theorem blockOk_ctrl (i : Nat) (m : Bool) {q : Pair} (r : List Pair) (h16 : 16 ≤ q.1) (h31 : q.1 ≤ 31) :
    blockOk i m (q :: r) = blockOk i false r := switch_ctrl _ _ _ _ _ h16 h31

theorem blockOk_char (i : Nat) (m : Bool) {q : Pair} (r : List Pair) (h : 32 ≤ q.1) :
    blockOk i m (q :: r) = blockOk i m r := switch_chr _ _ _ _ _ h

theorem blockOk_text (i : Nat) (m : Bool) : ∀ (t rest : List Pair), (∀ q ∈ t, 0x20 ≤ q.1) →
    blockOk i m (t ++ rest) = blockOk i m rest
  | [], _, _ => rfl
  | q :: t, rest, h => by
    rw [List.cons_append, blockOk_char _ _ _ (h q (by simp))]
    exact blockOk_text i m t rest (fun q' h' => h q' (by simp [h']))

/-- every sequence of well-formed items passes the scan `blockOk`, whatever was open before -/
theorem blockOk_items (i : Nat) : ∀ (items : List Item) (m : Bool), (∀ it ∈ items, it.ok i) →
    blockOk i m (items.flatMap Item.pairs) = true
  | [], _, _ => rfl
  | it :: items, m, h => by
    have hit := h it (by simp)
    have ih := fun m' => blockOk_items i items m' (fun it' h' => h it' (by simp [h']))
    rw [List.flatMap_cons]
    cases it with
    | nul => rw [Item.pairs, List.cons_append, blockOk_zero _ _ _ rfl]; exact ih m
    | caption c t =>
      obtain ⟨c1, c2, c3⟩ := hit
      rw [Item.pairs, List.cons_append, blockOk_ctrl _ _ _ c1 c2, blockOk_text i false t _ c3]; exact ih false
    | packet hd b last =>
      obtain ⟨p1, p2, p3, p4, p5⟩ := hit
      cases last with
      | none =>
        rw [Item.pairs, List.cons_append]
        exact (blockOk_header _ _ _ p1 p2).mpr ⟨p3, p4, by rw [blockOk_text i true b _ p5]; exact ih true⟩
      | some ck =>
        simp only [Item.pairs, List.cons_append, List.append_assoc]
        refine (blockOk_header _ _ _ p1 p2).mpr ⟨p3, p4, ?_⟩
        rw [blockOk_text i true b _ p5, blockOk_term _ _ _ rfl, Bool.true_and]
        exact ih false

/-- an interruption written by a conforming sender (first item a caption run or a piece of another
    packet, all bytes 7-bit) is a `ForeignBlock` -/
theorem foreignBlock_of_items (i : Nat) (first : Item) (items : List Item) (hf : first ≠ Item.nul)
    (hok : ∀ it ∈ first :: items, it.ok i)
    (hlt : ∀ q ∈ (first :: items).flatMap Item.pairs, q.1 < 128 ∧ q.2 < 128) :
    ForeignBlock i ((first :: items).flatMap Item.pairs) := by
  refine ⟨?_, blockOk_items i _ false hok, hlt⟩
  have h1 := hok first (by simp)
  cases first with
  | nul => exact absurd rfl hf
  | caption c t =>
    obtain ⟨c1, c2, _⟩ := h1
    exact ⟨c, t ++ items.flatMap Item.pairs, by simp [Item.pairs], by omega, c2, by omega⟩
  | packet hd b last =>
    obtain ⟨p1, p2, _⟩ := h1
    cases last with
    | none => exact ⟨hd, b ++ items.flatMap Item.pairs, by simp [Item.pairs], p1, by omega, by omega⟩
    | some ck => exact ⟨hd, b ++ [(0x0F, ck)] ++ items.flatMap Item.pairs, by simp [Item.pairs], p1, by omega, by omega⟩

/-- packet (cls, sub) is interrupted: its buffer keeps `done`; either something else (or nothing) is
    current, or the pointer still rests on it but caption mode is on (`m = false`: no XDS header since
    the last caption control code) -/
structure Parked (ec : Bool) (cls sub : Nat) (done : List Pair) (m : Bool) (s : State) : Prop where
  inv : Inv ec s
  slot : ∃ sl, s.slots[slotOf cls sub]? = some sl ∧ Holds cls sub done sl
  stale : s.curr = some (slotOf cls sub) → m = false ∧ s.xds = false
  /-- the pointer does not rest on the network-name packet 2/1: its delivery may run `vbi_chsw_reset`, which zeroes
      every buffer -/
  nonet : ∀ j, s.curr = some j → j ≠ slotOf cls sub → j ≠ slotNet

/-! ## caption.c is a reassembler -/

/-- `xds_separator` behind the line-284 routing as a reassembler.  Unlike xds_demux.c it keeps `curr_sp` across caption
    control codes (hence the mode bit of `Parked` and of the scan `blockOk`), and its parity-error branch is reached only
    in XDS mode and drops the current packet only where it clears `cc->curr_sp` (`ec`). -/
def reasm (ec : Bool) : Reasm State Out where
  raw := step ec
  step s q := step7 s q.1 q.2
  pkt := (·.dec)
  slot := slotOf
  acc := accepted
  Inv := Inv ec
  Idle s := s.curr = none
  Open := OpenAt ec
  Parked cls sub done s := ∃ m, Parked ec cls sub done m s
  Foreign := ForeignBlock
  Bad b := ec = true ∧ Damaged b
  Armed s := s.curr = none ∨ s.xds = true

theorem deliveries_cons (o : Out) (os : List Out) : deliveries (o :: os) = o.dec.toList ++ deliveries os :=
  dels_cons _ o os

theorem parked_step {m : Bool}
    (h : Parked ec cls sub done m s) (q : Pair) (hq : q.1 < 128 ∧ q.2 < 128) (r : List Pair)
    (hb : blockOk (slotOf cls sub) m (q :: r) = true) :
    ∃ m', Parked ec cls sub done m' (step7 s q.1 q.2).1 ∧ blockOk (slotOf cls sub) m' r = true ∧
      ∀ p, (step7 s q.1 q.2).2.dec = some p → slotOf p.cls p.sub ≠ slotOf cls sub := by
  have hinv := inv_step7 ec h.inv q hq
  rcases step7_eq s q.1 q.2 with ⟨h0, e⟩ | ⟨h1, h14, e⟩ | ⟨h15, e⟩ | ⟨h16, h31, e⟩ | ⟨h32, e⟩ <;> rw [e] at hinv ⊢
  · rw [blockOk_zero _ _ _ h0] at hb
    exact ⟨m, h, hb, nofun⟩
  · obtain ⟨hno, hnet, hr⟩ := (blockOk_header _ _ _ h1 h14).mp hb
    obtain ⟨f1, f2, f3, f4⟩ := header_frame ec h.inv (slotOf cls sub) q.1 q.2 hno hnet
    exact ⟨true, ⟨hinv, by simpa [f1] using h.slot, fun hc => absurd hc f2, fun j hj _ => f3 j hj⟩, hr,
      by rw [f4]; exact nofun⟩
  · -- end pair: only with an XDS packet open (m = true), so the pointer is not on our buffer
    rw [blockOk_term _ _ _ h15, Bool.and_eq_true] at hb
    have hcur : s.curr ≠ some (slotOf cls sub) := fun hc => by
      have := (h.stale hc).1; rw [hb.1] at this; cases this
    obtain ⟨f1, f2, f3⟩ := terminator_frame ec h.inv (slotOf cls sub) q.1 q.2 hcur
      (fun j hj => h.nonet j hj (fun e => hcur (e ▸ hj)))
    exact ⟨false, ⟨hinv, by simpa [f1] using h.slot, (fun hc => by simp only [f2] at hc; cases hc),
      (fun j hj => by simp only [f2] at hj; cases hj)⟩, hb.2, f3⟩
  · rw [blockOk_ctrl _ _ _ h16 h31] at hb
    exact ⟨false, ⟨hinv, h.slot, fun _ => ⟨rfl, rfl⟩, h.nonet⟩, hb, nofun⟩
  · rw [blockOk_char _ _ _ h32] at hb
    cases hx : s.xds with
    | false => exact ⟨m, h, hb, nofun⟩
    | true =>
      rw [hx, if_pos rfl] at hinv
      have hcur : s.curr ≠ some (slotOf cls sub) := fun hc => by
        have := (h.stale hc).2; rw [hx] at this; cases this
      obtain ⟨f1, f2, f3⟩ := content_frame ec h.inv (slotOf cls sub) q.1 q.2 hcur
      rw [if_pos rfl]
      exact ⟨m, ⟨hinv, by simpa [f1] using h.slot, fun hc => absurd (f2 _ hc) hcur, fun j hj => h.nonet j (f2 j hj)⟩,
        hb, by rw [f3]; exact nofun⟩

theorem parked_run : ∀ (qs : List Pair) {s : State} {m : Bool},
    Parked ec cls sub done m s → (∀ q ∈ qs, q.1 < 128 ∧ q.2 < 128) → blockOk (slotOf cls sub) m qs = true →
    (∃ m', Parked ec cls sub done m' (grun (reasm ec).step s qs).1) ∧
    forSlot (slotOf cls sub) (grun (reasm ec).step s qs).2 = []
  | [], s, m, h, _, _ => ⟨⟨m, h⟩, rfl⟩
  | q :: qs, s, m, h, hq, hb => by
    obtain ⟨m', p1, p2, p3⟩ := parked_step ec h q (hq q (by simp)) qs hb
    obtain ⟨g1, g2⟩ := parked_run qs p1 (fun q' hq' => hq q' (by simp [hq'])) p2
    exact ⟨g1, (forSlot_cons_ne _ _ _ p3).trans g2⟩

theorem separator_damaged (s : State) {bad : Nat × Nat} (hbad : Damaged bad) :
    separator true s bad = ({ s with slots := resetAt s.slots s.curr, curr := none }, {}) := by
  rcases hbad with hb | ⟨c1, h1, _, h2⟩
  · simp [separator, hb]
  · simp [separator, h1, h2]

/-- in XDS mode every `Damaged` pair reaches the parity-error branch of `xds_separator`, which drops
    the current packet: its buffer is emptied, no packet is current any more, nothing else changes,
    nothing is delivered and no error site is reported -/
theorem damaged_drops_current {s : State} (hx : s.xds = true) (bad : Nat × Nat) (hbad : Damaged bad) :
    (step true s bad).1.slots = resetAt s.slots s.curr ∧ (step true s bad).1.curr = none ∧
    (step true s bad).1.net = s.net ∧ (step true s bad).2 = {} := by
  have sep := separator_damaged s hbad
  unfold step
  rcases hbad with hb | ⟨c1, h1, hr, h2⟩
  · simp only [hb, hx, if_true, sep, and_self]
  · simp only [h1]
    have h0 : ¬(c1 = 0) := by omega
    simp only [h0, if_false]
    split
    · simp only [sep, and_self]
    · have h31 : ¬(c1 ≤ 31) := by omega
      simp only [h31, if_false, hx, sep, and_self]

/-- `xds_separator` obeys the laws, for either value of `ec` (with `ec = false` no pair is `Bad`) -/
theorem laws : (reasm ec).Laws where
  par h := step_parPair ec _ _ h
  start {s cls sub} h hacc := by
    obtain ⟨sl, hsl⟩ := slot_lt h hacc
    have hc : cls < 4 := hacc.1
    have hs : sub < 24 := hacc.2
    have hinv := inv_step7 ec h (2 * cls + 1, sub) (by simp only []; omega)
    dsimp only [Reasm.Quiet, reasm] at hinv ⊢
    rw [step7_header s sub (by omega) (by omega), header_accepted (shift_cls cls).1 hacc hsl,
      if_pos (by omega)] at hinv ⊢
    exact ⟨⟨hinv, rfl, rfl, _, List.getElem?_set_self (lt_of_getElem? hsl), Holds.start sl cls sub⟩, rfl⟩
  content {s cls sub done q} h hq hfit := by
    obtain ⟨sl, hsl, hh⟩ := h.slot
    have hlen := (h.inv.ok _ _ hsl).1
    have hinv := inv_step7 ec h.inv q (by have := hq.2; omega)
    dsimp only [Reasm.Quiet, reasm]
    rw [step7_content s q.2 hq.1, if_pos h.xds, content_at q.1 q.2 h.cur hsl,
      if_neg (by rw [hh.1]; simp only [sepStoreGuard]; omega), if_neg (by rw [hh.1]; omega)] at hinv ⊢
    exact ⟨⟨hinv, h.cur, h.xds, _, List.getElem?_set_self (lt_of_getElem? hsl),
      hh.store q (by rw [hlen]; simp only [sepBufExtent]; omega)⟩, rfl⟩
  overflow {s cls sub done q} h hq hfull := by
    obtain ⟨sl, hsl, hc, _, _⟩ := h.slot
    dsimp only [Reasm.Quiet, reasm]
    rw [step7_content s q.2 hq.1, if_pos h.xds, content_at q.1 q.2 h.cur hsl,
      if_pos (by simp only [sepStoreGuard]; omega)]
    exact ⟨rfl, rfl⟩
  finish {s p} ck hv hacc h := by
    obtain ⟨sl, hsl, hh⟩ := h.slot
    obtain ⟨hcond, htake⟩ := hh.complete hv ck
    -- the label `xds_decoder` gets is computed from the buffer index
    have hcls : slotOf p.cls p.sub / sepSubclasses = p.cls ∧ slotOf p.cls p.sub % sepSubclasses = p.sub := by
      have := hacc.2
      simp only [slotOf, sepSubclasses] at this ⊢
      omega
    dsimp only [reasm]
    rw [step7_term, terminator_ok 15 ck h.cur hsl (h.inv.ok _ _ hsl)]
    simp only [sentPkt, hcond, hcls.1, hcls.2, htake, Packet.toPkt]
    constructor
    · split
      · split <;> rfl
      · rfl
    · split <;> rfl
  idle {s q} hc hq := by
    dsimp only [Reasm.Quiet, reasm]
    rcases step7_eq s q.1 q.2 with ⟨_, e⟩ | ⟨h1, h14, _⟩ | ⟨_, e⟩ | ⟨_, _, e⟩ | ⟨_, e⟩
    · rw [e]; exact ⟨hc, rfl⟩
    · exact absurd ⟨h1, h14⟩ hq
    · rw [e, terminator_idle _ _ hc]; exact ⟨hc, rfl⟩
    · rw [e]; exact ⟨hc, rfl⟩
    · rw [e, content_idle _ _ hc, ite_self]; exact ⟨hc, rfl⟩
  leave {s cls sub done blk} h hb := by
    obtain ⟨⟨q, r, rfl, h1, h31, h15⟩, hok, hlt⟩ := hb
    have hinv := inv_step7 ec h.inv q (hlt q (by simp))
    -- the first pair: a header for another buffer moves `curr_sp`; a caption control code leaves it but ends XDS mode
    have a : ∃ m', Parked ec cls sub done m' (step7 s q.1 q.2).1 ∧ blockOk (slotOf cls sub) m' r = true ∧
        (step7 s q.1 q.2).2.dec = none := by
      by_cases h14 : q.1 ≤ 14
      · rw [step7_header s q.2 h1 h14] at hinv ⊢
        obtain ⟨hno, hnet, hr⟩ := (blockOk_header _ _ _ h1 h14).mp hok
        obtain ⟨f1, f2, f3, f4⟩ := header_frame ec h.inv (slotOf cls sub) q.1 q.2 hno hnet
        exact ⟨true, ⟨hinv, by simpa [f1] using h.slot, fun hc => absurd hc f2, fun j hj _ => f3 j hj⟩, hr, f4⟩
      · rw [step7_ctrl s q.2 (by omega) h31] at hinv ⊢
        rw [blockOk_ctrl _ _ _ (by omega) h31] at hok
        refine ⟨false, ⟨hinv, h.slot, fun _ => ⟨rfl, rfl⟩, ?_⟩, hok, rfl⟩
        intro j hj hji; rw [h.cur] at hj; cases hj; exact absurd rfl hji
    obtain ⟨m1, a1, a2, a3⟩ := a
    obtain ⟨b1, b2⟩ := parked_run ec r a1 (fun q' hq' => hlt q' (by simp [hq'])) a2
    exact ⟨b1, (forSlot_cons_none _ _ _ _ a3).trans b2⟩
  cont {s cls sub done} h hacc := by
    obtain ⟨m, h⟩ := h
    obtain ⟨sl, hsl, hh⟩ := h.slot
    have hc : cls < 4 := hacc.1
    have hs : sub < 24 := hacc.2
    have hinv := inv_step7 ec h.inv (2 * cls + 2, sub) (by simp only []; omega)
    dsimp only [Reasm.Quiet, reasm] at hinv ⊢
    rw [step7_header s sub (by omega) (by omega), header_accepted (shift_cls cls).2 hacc hsl,
      if_neg (by omega), if_neg (by rw [hh.1]; omega)] at hinv ⊢
    exact ⟨⟨hinv, rfl, rfl, sl, hsl, hh⟩, rfl⟩
  armed h := Or.inr h.xds
  bad {s b} hbad hs := by
    obtain ⟨rfl, hbad⟩ := hbad
    have sep := separator_damaged s hbad
    have idle : ¬ s.xds = true → (s, ({} : Out)).1.curr = none ∧ (s, ({} : Out)).2.dec = none :=
      fun hx => ⟨hs.resolve_right hx, rfl⟩
    dsimp only [reasm]
    unfold step
    rcases hbad with hb | ⟨c1, h1, hr, h2⟩
    · simp only [hb]
      split
      · rw [sep]; exact ⟨rfl, rfl⟩
      · exact idle ‹_›
    · simp only [h1, show ¬(c1 = 0) by omega, if_false]
      split
      · rw [sep]; exact ⟨rfl, rfl⟩
      · simp only [show ¬(c1 ≤ 31) by omega, if_false]
        split
        · rw [sep]; exact ⟨rfl, rfl⟩
        · exact idle ‹_›

/-- the end pair also ends XDS mode -/
theorem wire_xds (p : Packet) (hv : p.Valid) (ck : Nat) (hck : ck < 128) (s : State) :
    (grun (step ec) s (wire p ck)).1.xds = false := by
  unfold wire
  rw [show grun (step ec) s _ = _ from (laws ec).run_par _ s (wire7_lt p hv ck hck), wire7, grun_append]
  rfl

/-- a byte sent with odd parity and received with bit 7 flipped fails the parity check -/
theorem flip_unreadable : ∀ c < 128, unpar8 (par8 c ^^^ 0x80) = none := by
  decide +kernel

/-- first byte of every pair of a transmitted packet: XDS control code 1..15 or a character -/
theorem wire7_c1 (p : Packet) (hv : p.Valid) (ck : Nat) : ∀ q ∈ wire7 p ck, (1 ≤ q.1 ∧ q.1 ≤ 15) ∨ 32 ≤ q.1 := by
  obtain ⟨_, _, hcont, _⟩ := pairsOf_spec p.payload hv.chars
  intro q hq
  simp only [wire7_eq, List.mem_cons, List.mem_append, List.not_mem_nil, or_false] at hq
  rcases hq with rfl | hq | rfl
  · have := hv.cls_lt; simp only [startPair]; omega
  · have := hcont q hq; simp only [IsContent] at this; omega
  · simp

end Sep
end Zvbi.Xds
