import ZvbiModel.Xds.Spec
/-!
# C09: what holds of both XDS demultiplexers

Lists, slots, the sender spec, and the reassembly of one packet by any demultiplexer that obeys `Reasm.Laws`
(`vbi_xds_demux_feed`: `Demux.laws` in LemmasDemux.lean; `xds_separator`: `Sep.laws` in LemmasSep.lean).
-/
namespace Zvbi.Xds
open Zvbi.Hamm Zvbi.Gen.Xds

/-! ## lists -/

theorem take_set_set {α} (l : List α) (k : Nat) (a b : α) (h : k + 1 < l.length) :
    ((l.set k a).set (k + 1) b).take (k + 1) = l.take k ++ [a] ∧
    ((l.set k a).set (k + 1) b).take (k + 2) = l.take k ++ [a, b] := by
  have h1 : ((l.set k a).set (k + 1) b).take (k + 1) = l.take k ++ [a] := by
    rw [List.take_set_of_le (Nat.le_refl _), List.take_add_one, List.take_set_of_le (Nat.le_refl _),
      List.getElem?_set_self (by omega)]
    rfl
  refine ⟨h1, ?_⟩
  rw [show k + 2 = (k + 1) + 1 from rfl, List.take_add_one, h1,
    List.getElem?_set_self (by simp [List.length_set]; omega)]
  simp

theorem pair_ite {α β} (c : Prop) [Decidable c] (a : α) (x y : β) :
    (if c then (a, x) else (a, y)) = (a, if c then x else y) := by split <;> rfl

theorem some_ne {a b : Nat} (h : a ≠ b) : (some a : Option Nat) ≠ some b := fun e => h (Option.some.inj e)

theorem slot_inj {n c1 a c2 b : Nat} (ha : a < n) (hb : b < n) (h : c1 * n + a = c2 * n + b) : c1 = c2 ∧ a = b := by
  have hc : c1 = c2 := by
    rcases Nat.lt_trichotomy c1 c2 with hlt | heq | hgt
    · have : (c1 + 1) * n ≤ c2 * n := Nat.mul_le_mul_right n hlt
      rw [Nat.add_mul] at this; omega
    · exact heq
    · have : (c2 + 1) * n ≤ c1 * n := Nat.mul_le_mul_right n hgt
      rw [Nat.add_mul] at this; omega
  subst hc
  exact ⟨rfl, by omega⟩

/-- class of a start / continue code -/
theorem shift_cls (cls : Nat) : (2 * cls + 1 - 1) >>> 1 = cls ∧ (2 * cls + 2 - 1) >>> 1 = cls := by
  rw [Nat.shiftRight_eq_div_pow, Nat.shiftRight_eq_div_pow]; omega

/-- the `switch (c1)` that both demultiplexers, and the scan `Sep.blockOk`, make on the first byte of a readable pair:
    NUL, header 1 .. 14, end pair 15, caption control code 16 .. 31, character -/
def switch {α : Sort _} (c1 : Nat) (nul hdr term ctrl chr : α) : α :=
  if c1 = 0 then nul else if c1 ≤ 14 then hdr else if c1 = 15 then term else if c1 ≤ 31 then ctrl else chr

section
variable {α : Sort _} {c1 : Nat} (a b c d e : α)

theorem switch_nul (h : c1 = 0) : switch c1 a b c d e = a := if_pos h

theorem switch_hdr (h1 : 1 ≤ c1) (h14 : c1 ≤ 14) : switch c1 a b c d e = b := by
  rw [switch, if_neg (by omega), if_pos h14]

theorem switch_term (h : c1 = 15) : switch c1 a b c d e = c := by subst h; rfl

theorem switch_ctrl (h16 : 16 ≤ c1) (h31 : c1 ≤ 31) : switch c1 a b c d e = d := by
  rw [switch, if_neg (by omega), if_neg (by omega), if_neg (by omega), if_pos h31]

theorem switch_chr (h : 32 ≤ c1) : switch c1 a b c d e = e := by
  rw [switch, if_neg (by omega), if_neg (by omega), if_neg (by omega), if_neg (by omega)]

theorem switch_cases (c1 : Nat) :
    (c1 = 0 ∧ switch c1 a b c d e = a) ∨ (1 ≤ c1 ∧ c1 ≤ 14 ∧ switch c1 a b c d e = b) ∨ (c1 = 15 ∧ switch c1 a b c d e = c) ∨
    (16 ≤ c1 ∧ c1 ≤ 31 ∧ switch c1 a b c d e = d) ∨ (32 ≤ c1 ∧ switch c1 a b c d e = e) := by
  by_cases h0 : c1 = 0
  · exact .inl ⟨h0, switch_nul _ _ _ _ _ h0⟩
  by_cases h14 : c1 ≤ 14
  · exact .inr (.inl ⟨by omega, h14, switch_hdr _ _ _ _ _ (by omega) h14⟩)
  by_cases h15 : c1 = 15
  · exact .inr (.inr (.inl ⟨h15, switch_term _ _ _ _ _ h15⟩))
  by_cases h31 : c1 ≤ 31
  · exact .inr (.inr (.inr (.inl ⟨by omega, h31, switch_ctrl _ _ _ _ _ (by omega) h31⟩)))
  · exact .inr (.inr (.inr (.inr ⟨by omega, switch_chr _ _ _ _ _ (by omega)⟩)))

end

/-- the checksum and length tests of `case 0x0F`, as one condition -/
theorem term_cond {α} (ck cnt : Nat) (a b : α) :
    (if ck % 128 ≠ 0 then a else if cnt ≤ 2 then a else b) = if ck % 128 = 0 ∧ 2 < cnt then b else a := by
  by_cases ha : ck % 128 = 0
  · by_cases hb : cnt ≤ 2
    · rw [if_neg (by simpa using ha), if_pos hb, if_neg (by omega)]
    · rw [if_neg (by simpa using ha), if_neg hb, if_pos ⟨ha, by omega⟩]
  · rw [if_pos ha, if_neg (fun h => ha h.1)]

/-! ## slots -/

theorem Slot.store_buf_length (sl : Slot) (c1 c2 : Nat) : (sl.store c1 c2).buf.length = sl.buf.length := by
  simp [Slot.store]

/-- characters a payload pair contributes -/
def pairBytes (q : Pair) : List Nat := if q.2 = 0 then [q.1] else [q.1, q.2]

theorem Slot.store_view (sl : Slot) (c1 c2 : Nat) (h2 : 2 ≤ sl.count) (hn : sl.count ≤ sl.buf.length) :
    (sl.store c1 c2).count = sl.count + (pairBytes (c1, c2)).length ∧
    (sl.store c1 c2).cksum = sl.cksum + c1 + c2 ∧
    (sl.store c1 c2).buf.take ((sl.store c1 c2).count - 2) = sl.buf.take (sl.count - 2) ++ pairBytes (c1, c2) := by
  obtain ⟨k, hk⟩ : ∃ k, sl.count = k + 2 := ⟨sl.count - 2, by omega⟩
  have hlen : k + 1 < sl.buf.length := by omega
  have := take_set_set sl.buf k c1 c2 hlen
  by_cases hc : c2 = 0
  · simp [Slot.store, pairBytes, hc, hk] at *
    have := take_set_set sl.buf k c1 0 hlen
    simpa using this.1
  · simp [Slot.store, pairBytes, hc, hk] at *
    exact this.2

/-! ## slot array -/

theorem resetAt_some {slots : List Slot} {i : Nat} {sl : Slot} (h : slots[i]? = some sl) :
    resetAt slots (some i) = slots.set i sl.reset := by simp [resetAt, h]

theorem getElem?_lt {slots : List Slot} {i : Nat} (h : i < slots.length) : ∃ sl, slots[i]? = some sl :=
  ⟨slots[i], List.getElem?_eq_getElem h⟩

theorem lt_of_getElem? {slots : List Slot} {i : Nat} {sl : Slot} (h : slots[i]? = some sl) : i < slots.length := by
  rcases Nat.lt_or_ge i slots.length with h' | h'
  · exact h'
  · rw [List.getElem?_eq_none h'] at h; cases h

theorem all_set {P : Slot → Prop} {l : List Slot} {i : Nat} {x : Slot}
    (h : ∀ (j : Nat) (sl : Slot), l[j]? = some sl → P sl) (hx : P x) :
    ∀ (j : Nat) (sl : Slot), (l.set i x)[j]? = some sl → P sl := by
  intro j sl hj
  rw [List.getElem?_set] at hj
  split at hj
  · split at hj
    · cases hj; exact hx
    · cases hj
  · exact h j sl hj

theorem resetAt_ne (slots : List Slot) (sp : Option Nat) (i : Nat) (h : sp ≠ some i) :
    (resetAt slots sp)[i]? = slots[i]? := by
  cases sp with
  | none => rfl
  | some j =>
    simp only [resetAt]
    split
    · exact List.getElem?_set_ne (by intro e; exact h (by rw [e])) 
    · rfl

theorem resetAt_length (slots : List Slot) (sp : Option Nat) : (resetAt slots sp).length = slots.length := by
  cases sp with
  | none => rfl
  | some i => simp only [resetAt]; split <;> simp

theorem all_resetAt {P : Slot → Prop} {l : List Slot} (h : ∀ (j : Nat) (sl : Slot), l[j]? = some sl → P sl)
    (hr : ∀ sl, P sl → P sl.reset) (sp : Option Nat) :
    ∀ (j : Nat) (sl : Slot), (resetAt l sp)[j]? = some sl → P sl := by
  cases sp with
  | none => exact h
  | some i =>
    simp only [resetAt]
    split
    · rename_i sl hsl; exact all_set h (hr sl (h i sl hsl))
    · exact h

/-! ## sender spec -/

def bytesOf (qs : List Pair) : List Nat := qs.flatMap pairBytes
def sumOf (qs : List Pair) : Nat := (qs.map fun q => q.1 + q.2).sum

theorem bytesOf_append (a b : List Pair) : bytesOf (a ++ b) = bytesOf a ++ bytesOf b := by
  simp [bytesOf]
theorem sumOf_append (a b : List Pair) : sumOf (a ++ b) = sumOf a + sumOf b := by
  simp [sumOf]

/-- payload pair: first byte an informational character, second any 7-bit value -/
def IsContent (q : Pair) : Prop := 0x20 ≤ q.1 ∧ q.1 ≤ 0x7F ∧ q.2 < 128

/-- payload pairs that are all stored: the byte count before each pair is within the guard.  Both C files store a pair
    while `count <= 32` (`demuxStoreGuard`, `sepStoreGuard`) and `count` is 2 + the bytes stored, hence 30; with 31 or 32
    bytes stored the pair is dropped (law `overflow`) -/
def Fits : Nat → List Pair → Prop
  | _, [] => True
  | n, q :: r => IsContent q ∧ n ≤ 30 ∧ Fits (n + (pairBytes q).length) r

theorem fits_append : ∀ (a b : List Pair) (n : Nat), Fits n (a ++ b) ↔ Fits n a ∧ Fits (n + (bytesOf a).length) b
  | [], b, n => by simp [Fits, bytesOf]
  | q :: a, b, n => by
    simp only [List.cons_append, Fits, fits_append a b, bytesOf, List.flatMap_cons, List.length_append]
    rw [Nat.add_assoc]
    simp only [and_assoc]

theorem pairsOf_spec : ∀ (p : List Nat), (∀ c ∈ p, isChar c) →
    bytesOf (pairsOf p) = p ∧ sumOf (pairsOf p) = p.sum ∧ (∀ q ∈ pairsOf p, IsContent q) ∧
    ∀ n, n % 2 = 0 → n + p.length ≤ 32 → Fits n (pairsOf p)
  | [], _ => by simp [pairsOf, bytesOf, sumOf, Fits]
  | [a], h => by
    have ha := h a (by simp)
    simp only [isChar] at ha
    refine ⟨by simp [pairsOf, bytesOf, pairBytes], by simp [pairsOf, sumOf], ?_, ?_⟩
    · intro q hq; simp only [pairsOf, List.mem_singleton] at hq; subst hq; simp only [IsContent]; omega
    · intro n hn hl; simp only [List.length_singleton] at hl; exact ⟨by simp only [IsContent]; omega, by omega, trivial⟩
  | a :: b :: r, h => by
    have ha := h a (by simp)
    have hb := h b (by simp)
    simp only [isChar] at ha hb
    obtain ⟨h1, h2, h3, h4⟩ := pairsOf_spec r (fun c hc => h c (by simp [hc]))
    have hb0 : b ≠ 0 := by omega
    refine ⟨?_, ?_, ?_, ?_⟩
    · simp only [pairsOf, bytesOf, List.flatMap_cons, pairBytes, hb0, if_false]
      simp only [bytesOf] at h1; rw [h1]; rfl
    · simp only [pairsOf, sumOf, List.map_cons, List.sum_cons]
      simp only [sumOf] at h2; rw [h2]; omega
    · intro q hq
      simp only [pairsOf, List.mem_cons] at hq
      rcases hq with rfl | hq
      · simp only [IsContent]; omega
      · exact h3 q hq
    · intro n hn hl
      simp only [List.length_cons] at hl
      simp only [pairsOf, Fits, pairBytes, hb0, if_false, List.length_cons, List.length_nil]
      exact ⟨by simp only [IsContent]; omega, by omega, h4 (n + 2) (by omega) (by omega)⟩

theorem tail_no_header {qs : List Pair} (hc : ∀ q ∈ qs, IsContent q) (ck : Nat) :
    ∀ q ∈ qs ++ [(0x0F, ck)], ¬(1 ≤ q.1 ∧ q.1 ≤ 14) := by
  intro q hq
  rcases List.mem_append.mp hq with h | h
  · have := (hc q h).1; omega
  · simp only [List.mem_singleton] at h; subst h; simp

theorem Packet.Valid.fits {p : Packet} (hv : p.Valid) : Fits 0 (pairsOf p.payload) :=
  (pairsOf_spec p.payload hv.chars).2.2.2 0 rfl (by have := hv.len_le; omega)

theorem pairsOf_append_even : ∀ (a b : List Nat), a.length % 2 = 0 → pairsOf (a ++ b) = pairsOf a ++ pairsOf b
  | [], b, _ => by simp [pairsOf]
  | [x], b, h => by simp at h
  | x :: y :: a, b, h => by
    simp only [List.cons_append, pairsOf]
    rw [pairsOf_append_even a b (by simp only [List.length_cons] at h; omega)]

theorem pairsOf_cons (x : Nat) (b : List Nat) : ∃ q r, pairsOf (x :: b) = q :: r := by
  cases b with
  | nil => exact ⟨_, _, rfl⟩
  | cons y b => exact ⟨_, _, rfl⟩

/-- an oversize payload: 16 full pairs, one more payload pair, and a rest without headers -/
theorem oversize_split (payload : List Nat) (hc : ∀ c ∈ payload, isChar c) (hlen : 32 < payload.length) (ck : Nat) :
    ∃ (a : List Nat) (q : Pair) (rest : List Pair),
      pairsOf payload ++ [(0x0F, ck)] = pairsOf a ++ q :: rest ∧ a.length = 32 ∧ (∀ c ∈ a, isChar c) ∧
      IsContent q ∧ ∀ q' ∈ rest, ¬(1 ≤ q'.1 ∧ q'.1 ≤ 14) := by
  obtain ⟨_, _, hcont, _⟩ := pairsOf_spec payload hc
  have hsplit : payload = payload.take 32 ++ payload.drop 32 := (List.take_append_drop 32 _).symm
  have hla : (payload.take 32).length = 32 := by simp [List.length_take]; omega
  have hb : payload.drop 32 ≠ [] := by
    intro e; have := congrArg List.length e; simp [List.length_drop] at this; omega
  obtain ⟨x, b, hxb⟩ : ∃ x b, payload.drop 32 = x :: b := by
    cases h : payload.drop 32 with
    | nil => exact absurd h hb
    | cons x b => exact ⟨x, b, rfl⟩
  obtain ⟨q, r, hq⟩ := pairsOf_cons x b
  have hp : pairsOf payload = pairsOf (payload.take 32) ++ q :: r := by
    conv => lhs; rw [hsplit]
    rw [pairsOf_append_even _ _ (by rw [hla]), hxb, hq]
  refine ⟨payload.take 32, q, r ++ [(0x0F, ck)], by rw [hp]; simp, hla,
    fun c h => hc c (List.mem_of_mem_take h), hcont q (by rw [hp]; simp),
    tail_no_header (fun q' h => hcont q' (by rw [hp]; simp [h])) ck⟩

/-- what buffer `sl` holds after the start pair of (cls, sub) and the payload pairs `done` -/
def Holds (cls sub : Nat) (done : List Pair) (sl : Slot) : Prop :=
  sl.count = 2 + (bytesOf done).length ∧ sl.cksum = (2 * cls + 1) + sub + sumOf done ∧
  sl.buf.take (bytesOf done).length = bytesOf done

theorem Holds.start (sl : Slot) (cls sub : Nat) : Holds cls sub [] (sl.start (2 * cls + 1) sub) := by
  simp [Holds, Slot.start, bytesOf, sumOf]

theorem Holds.store {cls sub : Nat} {done : List Pair} {sl : Slot} (h : Holds cls sub done sl) (q : Pair)
    (hlen : (bytesOf done).length + 2 ≤ sl.buf.length) : Holds cls sub (done ++ [q]) (sl.store q.1 q.2) := by
  obtain ⟨hc, hk, ht⟩ := h
  obtain ⟨v1, v2, v3⟩ := Slot.store_view sl q.1 q.2 (by omega) (by omega)
  have hcnt : sl.count - 2 = (bytesOf done).length := by omega
  simp only [Holds, bytesOf_append, sumOf_append, List.length_append]
  refine ⟨?_, ?_, ?_⟩
  · rw [v1, hc]; simp [bytesOf, Nat.add_assoc]
  · rw [v2, hk]; simp [sumOf]; omega
  · have : (bytesOf [q]) = pairBytes (q.1, q.2) := by simp [bytesOf]
    rw [this]
    have hc' : (sl.store q.1 q.2).count - 2 = (bytesOf done).length + (pairBytes (q.1, q.2)).length := by omega
    rw [← hc', v3, hcnt, ht]

/-- a buffer holding the whole payload of a valid packet: the end pair passes the checks of `case 0x0F`
    iff the sum of the packet is 0 mod 128, and the bytes handed over are the payload -/
theorem Holds.complete {p : Packet} (hv : p.Valid) {sl : Slot} (h : Holds p.cls p.sub (pairsOf p.payload) sl)
    (ck : Nat) :
    ((sl.cksum + 15 + ck) % 128 = 0 ∧ 2 < sl.count ↔ (bodySum p + ck) % 128 = 0) ∧
    sl.buf.take (sl.count - 2) = p.payload := by
  obtain ⟨hb, hs, _, _⟩ := pairsOf_spec p.payload hv.chars
  obtain ⟨hc, hk, ht⟩ := h
  rw [hb] at hc ht
  rw [hs] at hk
  have := hv.len_pos
  refine ⟨by simp only [bodySum]; omega, ?_⟩
  rw [show sl.count - 2 = p.payload.length by omega]
  exact ht

/-! ## the wire form -/

theorem wire7_eq (p : Packet) (ck : Nat) :
    wire7 p ck = startPair p :: (pairsOf p.payload ++ [(0x0F, ck)]) := by simp [wire7]

theorem wire7_lt_chars (p : Packet) (hcls : p.cls < 7) (hsub : p.sub < 128) (hc : ∀ c ∈ p.payload, isChar c)
    (ck : Nat) (hck : ck < 128) : ∀ q ∈ wire7 p ck, q.1 < 128 ∧ q.2 < 128 := by
  obtain ⟨_, _, hcont, _⟩ := pairsOf_spec p.payload hc
  intro q hq
  simp only [wire7_eq, List.mem_cons, List.mem_append, List.not_mem_nil, or_false] at hq
  rcases hq with rfl | hq | rfl
  · simp only [startPair]; omega
  · have := hcont q hq; simp only [IsContent] at this; omega
  · simp; omega

theorem wire7_lt (p : Packet) (hv : p.Valid) (ck : Nat) (hck : ck < 128) :
    ∀ q ∈ wire7 p ck, q.1 < 128 ∧ q.2 < 128 :=
  wire7_lt_chars p hv.cls_lt hv.sub_lt hv.chars ck hck

theorem interleaved7_lt (p : Packet) (hv : p.Valid) (ck : Nat) (hck : ck < 128) (chunk0 : List Pair)
    (segs : List (List Pair × List Pair)) (hch : chunksOf chunk0 segs = pairsOf p.payload)
    (hb : ∀ sg ∈ segs, ∀ q ∈ sg.1, q.1 < 128 ∧ q.2 < 128) :
    ∀ q ∈ interleaved7 p ck chunk0 segs, q.1 < 128 ∧ q.2 < 128 := by
  have hw := wire7_lt p hv ck hck
  have hpay : ∀ q ∈ chunksOf chunk0 segs, q.1 < 128 ∧ q.2 < 128 := by
    intro q hq; apply hw; rw [hch] at hq; simp [wire7, hq]
  intro q hq
  simp only [interleaved7, List.mem_cons, List.mem_append, List.mem_flatMap, List.not_mem_nil, or_false,
    List.cons_append] at hq
  rcases hq with rfl | (hq | ⟨sg, hsg, hq⟩) | rfl
  · apply hw; simp [wire7]
  · apply hpay; simp [chunksOf, hq]
  · rcases hq with hq | rfl | hq
    · exact hb sg hsg q hq
    · have := hv.cls_lt; have := hv.sub_lt; simp only [contPair]; omega
    · apply hpay; simp only [chunksOf, List.mem_append, List.mem_flatMap]
      exact Or.inr ⟨sg, hsg, hq⟩
  · apply hw; simp [wire7]

/-- a transmitted packet with its `n`-th pair replaced: a proper prefix of the packet (nothing, or the
    start pair and some payload pairs), the replacement, and a rest without headers -/
theorem wire_set_split (p : Packet) (hv : p.Valid) (ck : Nat) (hck : ck < 128) (n : Nat)
    (hn : n < (wire7 p ck).length) (bad : Nat × Nat) :
    ∃ pre post : List Pair, (wire p ck).set n bad = pre.map parPair ++ bad :: post.map parPair ∧
      (∀ q ∈ pre, q.1 < 128 ∧ q.2 < 128) ∧ (∀ q ∈ post, q.1 < 128 ∧ q.2 < 128) ∧
      (∀ q ∈ post, ¬(1 ≤ q.1 ∧ q.1 ≤ 14)) ∧
      ((n = 0 ∧ pre = []) ∨ ∃ m, pre = startPair p :: (pairsOf p.payload).take m) := by
  obtain ⟨_, _, hcont, _⟩ := pairsOf_spec p.payload hv.chars
  have hlt := wire7_lt p hv ck hck
  refine ⟨(wire7 p ck).take n, (wire7 p ck).drop (n + 1), ?_, fun q hq => hlt q (List.mem_of_mem_take hq),
    fun q hq => hlt q (List.mem_of_mem_drop hq), ?_, ?_⟩
  · rw [List.set_eq_take_append_cons_drop, if_pos (by simpa [wire] using hn)]
    simp only [wire, ← List.map_take, ← List.map_drop]
  · intro q hq
    simp only [wire7_eq, List.drop_succ_cons] at hq
    exact tail_no_header hcont ck q (List.mem_of_mem_drop hq)
  · cases n with
    | zero => exact Or.inl ⟨rfl, rfl⟩
    | succ m =>
      have hm : m ≤ (pairsOf p.payload).length := by
        simp only [wire7_eq, List.length_cons, List.length_append, List.length_nil] at hn; omega
      exact Or.inr ⟨m, by rw [wire7_eq, List.take_succ_cons, List.take_append_of_le_length hm]⟩

/-! ## a step function run over a list of inputs -/

def grun {σ ι ω : Type} (f : σ → ι → σ × ω) : σ → List ι → σ × List ω
  | s, [] => (s, [])
  | s, b :: bs => ((grun f (f s b).1 bs).1, (f s b).2 :: (grun f (f s b).1 bs).2)

section
variable {σ ι κ ω : Type} {f : σ → ι → σ × ω}

theorem grun_append : ∀ (a b : List ι) (s : σ),
    grun f s (a ++ b) = ((grun f (grun f s a).1 b).1, (grun f s a).2 ++ (grun f (grun f s a).1 b).2)
  | [], _, _ => rfl
  | q :: a, b, s => by simp [grun, grun_append a b]

/-- what the steps on the inputs of the list keep is kept by the run, with what it says of each output -/
theorem grun_inv {I : σ → Prop} {O : ω → Prop} : ∀ (bs : List ι) {s : σ},
    (∀ b ∈ bs, ∀ s, I s → I (f s b).1 ∧ O (f s b).2) → I s → I (grun f s bs).1 ∧ ∀ o ∈ (grun f s bs).2, O o
  | [], _, _, hs => ⟨hs, nofun⟩
  | b :: bs, s, h, hs =>
    have h1 := h b (by simp) s hs
    have h2 := grun_inv bs (fun b' hb' => h b' (by simp [hb'])) h1.1
    ⟨h2.1, List.forall_mem_cons.mpr ⟨h1.2, h2.2⟩⟩

theorem grun_map {f' : σ → κ → σ × ω} (g : κ → ι) : ∀ (qs : List κ) (s : σ),
    (∀ q ∈ qs, ∀ s, f s (g q) = f' s q) → grun f s (qs.map g) = grun f' s qs
  | [], _, _ => rfl
  | q :: qs, s, h => by
    simp only [List.map_cons, grun, h q (by simp)]
    rw [grun_map g qs _ (fun q' hq' => h q' (by simp [hq']))]

end

/-! ## what the client received -/

section
variable {ω : Type} (pkt : ω → Option Pkt) (slot : Nat → Nat → Nat)

def dels (os : List ω) : List Pkt := os.filterMap pkt

/-- deliveries labelled with a (class, type) that uses buffer `i` -/
def forSlot (i : Nat) (os : List ω) : List Pkt := (dels pkt os).filter fun d => slot d.cls d.sub == i

theorem dels_cons (o : ω) (os : List ω) : dels pkt (o :: os) = (pkt o).toList ++ dels pkt os := by
  cases h : pkt o <;> simp [dels, h]

theorem dels_append (a b : List ω) : dels pkt (a ++ b) = dels pkt a ++ dels pkt b := by simp [dels]

theorem forSlot_append (i : Nat) (a b : List ω) : forSlot pkt slot i (a ++ b) = forSlot pkt slot i a ++ forSlot pkt slot i b := by
  simp [forSlot, dels_append]

theorem forSlot_of_none {i : Nat} {os : List ω} (h : dels pkt os = []) : forSlot pkt slot i os = [] := by
  simp [forSlot, h]

theorem forSlot_cons_ne {i : Nat} {o : ω} (os : List ω) (h : ∀ p, pkt o = some p → slot p.cls p.sub ≠ i) :
    forSlot pkt slot i (o :: os) = forSlot pkt slot i os := by
  cases ho : pkt o with
  | none => simp [forSlot, dels_cons, ho]
  | some p =>
    simp only [forSlot, dels_cons, ho, Option.toList, List.cons_append, List.nil_append]
    exact List.filter_cons_of_neg (by simpa using h p ho)

theorem forSlot_cons_none (i : Nat) {o : ω} (os : List ω) (h : pkt o = none) :
    forSlot pkt slot i (o :: os) = forSlot pkt slot i os :=
  forSlot_cons_ne pkt slot os (by rw [h]; exact nofun)

end

/-! ## reassembly of one packet, by any demultiplexer -/

/-- A demultiplexer as the sender of ONE packet sees it: `raw` is the call on two received bytes, `step` the `switch (c1)`
    on a pair that passed both parity checks, `pkt` what a step hands to the client, `slot` the buffer of a (class, type),
    `acc` the (class, type) pairs that have one, `Inv` what holds of every reachable state.  The packet (class, type) is
    `Open`: it is the current one and `done` are its payload pairs stored so far; `Parked`: it is interrupted and its
    buffer keeps `done`; or the demultiplexer is `Idle`: no packet is current.  `Foreign i blk`: the block of pairs `blk`
    may interrupt the packet in buffer `i`.  `Bad b`: the pair `b` reaches the parity-error branch, and `Armed`: that
    branch then drops whatever is current. -/
structure Reasm (σ ω : Type) where
  raw : σ → Nat × Nat → σ × ω
  step : σ → Pair → σ × ω
  pkt : ω → Option Pkt
  slot : Nat → Nat → Nat
  acc : Nat → Nat → Prop
  Inv : σ → Prop
  Idle : σ → Prop
  Open : Nat → Nat → List Pair → σ → Prop
  Parked : Nat → Nat → List Pair → σ → Prop
  Foreign : Nat → List Pair → Prop
  Bad : Nat × Nat → Prop
  Armed : σ → Prop

namespace Reasm
variable {σ ω : Type} (M : Reasm σ ω)

/-- the step on the readable pair `q` reaches `P` and hands nothing to the client -/
def Quiet (P : σ → Prop) (s : σ) (q : Pair) : Prop := P (M.step s q).1 ∧ M.pkt (M.step s q).2 = none

/-- What the pairs of a transmission do to the packet's phase: the specification of a reassembler.  Each law is one
    `case` of the `switch (c1)` of `vbi_xds_demux_feed` (xds_demux.c) resp. `xds_separator` (caption.c), seen from the packet. -/
structure Laws : Prop where
  /-- the parity check passes a pair with two odd parities on to the `switch` -/
  par {s q} : q.1 < 128 ∧ q.2 < 128 → M.raw s (parPair q) = M.step s q
  /-- `case 1 ... 14`, odd code: the start pair makes the packet current with an empty buffer,
      `sp->count = 2; sp->checksum = c1 + c2` -/
  start {s cls sub} : M.Inv s → M.acc cls sub → M.Quiet (M.Open cls sub []) s (2 * cls + 1, sub)
  /-- `case 0x20 ... 0x7F` below the guard: both bytes are stored and summed -/
  content {s cls sub done q} : M.Open cls sub done s → IsContent q → (bytesOf done).length ≤ 30 →
    M.Quiet (M.Open cls sub (done ++ [q])) s q
  /-- `case 0x20 ... 0x7F` at the guard (31 or 32 characters stored): `goto discard`, the packet is dropped -/
  overflow {s cls sub done q} : M.Open cls sub done s → IsContent q → 31 ≤ (bytesOf done).length → M.Quiet M.Idle s q
  /-- `case 0x0F` with the whole payload stored: the client gets the packet iff the 7-bit sum is 0; either way the
      buffer is reset and nothing is current -/
  finish {s} {p : Packet} (ck : Nat) : p.Valid → M.acc p.cls p.sub → M.Open p.cls p.sub (pairsOf p.payload) s →
    M.Idle (M.step s (0x0F, ck)).1 ∧
    M.pkt (M.step s (0x0F, ck)).2 = if (bodySum p + ck) % 128 = 0 then some p.toPkt else none
  /-- `if (!sp) break`: without a current packet only a header does anything -/
  idle {s q} : M.Idle s → ¬(1 ≤ q.1 ∧ q.1 ≤ 14) → M.Quiet M.Idle s q
  /-- an interruption leaves the packet's buffer as it is and delivers nothing under the packet's label -/
  leave {s cls sub done blk} : M.Open cls sub done s → M.Foreign (M.slot cls sub) blk →
    M.Parked cls sub done (grun M.step s blk).1 ∧ forSlot M.pkt M.slot (M.slot cls sub) (grun M.step s blk).2 = []
  /-- `case 1 ... 14`, even code on a buffer in use: the continue pair makes the packet current again -/
  cont {s cls sub done} : M.Parked cls sub done s → M.acc cls sub → M.Quiet (M.Open cls sub done) s (2 * cls + 2, sub)
  /-- while the packet is being received the parity-error branch is armed -/
  armed {s cls sub done} : M.Open cls sub done s → M.Armed s
  /-- the parity-error branch: the current packet is dropped, nothing is delivered -/
  bad {s b} : M.Bad b → M.Armed s → M.Idle (M.raw s b).1 ∧ M.pkt (M.raw s b).2 = none

namespace Laws
variable {M} (L : M.Laws) {s : σ} {cls sub : Nat} {done : List Pair} {p : Packet}
include L

theorem run_par (qs : List Pair) (s : σ) (h : ∀ q ∈ qs, q.1 < 128 ∧ q.2 < 128) :
    grun M.raw s (qs.map parPair) = grun M.step s qs :=
  grun_map parPair qs s fun q hq _ => L.par (h q hq)

/-- a missing start is never delivered: payload pairs, end pairs, control codes do nothing while nothing is current -/
theorem idle_run (qs : List Pair) (h : M.Idle s) (hq : ∀ q ∈ qs, ¬(1 ≤ q.1 ∧ q.1 ≤ 14)) :
    M.Idle (grun M.step s qs).1 ∧ dels M.pkt (grun M.step s qs).2 = [] := by
  obtain ⟨g1, g2⟩ := grun_inv (O := fun o => M.pkt o = none) qs (fun q h s hs => L.idle hs (hq q h)) h
  exact ⟨g1, List.filterMap_eq_nil_iff.2 g2⟩

theorem content_run : ∀ (qs : List Pair) {s : σ} {done : List Pair},
    M.Open cls sub done s → Fits (bytesOf done).length qs →
    M.Open cls sub (done ++ qs) (grun M.step s qs).1 ∧ dels M.pkt (grun M.step s qs).2 = []
  | [], s, done, h, _ => by simpa [grun, dels] using h
  | q :: qs, s, done, h, ⟨hq, hf1, hf2⟩ => by
    obtain ⟨h1, h2⟩ := L.content h hq hf1
    obtain ⟨h3, h4⟩ := content_run qs h1 (by simpa [bytesOf_append, bytesOf] using hf2)
    simp only [grun]
    exact ⟨by simpa using h3, by rw [dels_cons, h2, h4]; rfl⟩

/-- deliver_iff_valid: a packet sent in one piece is handed to the client once, intact, iff its sum is 0 -/
theorem deliver (h : M.Inv s) (hv : p.Valid) (hacc : M.acc p.cls p.sub) (ck : Nat) (hck : ck < 128) :
    dels M.pkt (grun M.raw s (wire p ck)).2 = (if (bodySum p + ck) % 128 = 0 then [p.toPkt] else []) ∧
    M.Idle (grun M.raw s (wire p ck)).1 := by
  obtain ⟨h1, h1'⟩ := L.start h hacc
  obtain ⟨h2, h2'⟩ := content_run L (pairsOf p.payload) h1 hv.fits
  obtain ⟨h3, h3'⟩ := L.finish ck hv hacc h2
  unfold wire
  rw [run_par L _ _ (wire7_lt p hv ck hck)]
  simp only [wire7, startPair, grun, grun_append]
  refine ⟨?_, h3⟩
  rw [dels_append, dels_cons, h1', h2', dels_cons, h3']
  split <;> rfl

theorem segment (h : M.Open cls sub done s) (hacc : M.acc cls sub) {blk chunk : List Pair}
    (hb : M.Foreign (M.slot cls sub) blk) (hf : Fits (bytesOf done).length chunk) :
    M.Open cls sub (done ++ chunk) (grun M.step s (blk ++ (2 * cls + 2, sub) :: chunk)).1 ∧
    forSlot M.pkt M.slot (M.slot cls sub) (grun M.step s (blk ++ (2 * cls + 2, sub) :: chunk)).2 = [] := by
  obtain ⟨b1, b2⟩ := L.leave h hb
  obtain ⟨c1, c2⟩ := L.cont b1 hacc
  obtain ⟨d1, d2⟩ := content_run L chunk c1 hf
  simp only [grun, grun_append]
  exact ⟨d1, by rw [forSlot_append, b2, forSlot_cons_none _ _ _ _ c2, forSlot_of_none _ _ d2]; rfl⟩

theorem segments (hacc : M.acc cls sub) :
    ∀ (segs : List (List Pair × List Pair)) {s : σ} {done : List Pair}, M.Open cls sub done s →
    (∀ sg ∈ segs, M.Foreign (M.slot cls sub) sg.1) → Fits (bytesOf done).length (segs.flatMap (·.2)) →
    M.Open cls sub (done ++ segs.flatMap (·.2))
      (grun M.step s (segs.flatMap fun sg => sg.1 ++ (2 * cls + 2, sub) :: sg.2)).1 ∧
    forSlot M.pkt M.slot (M.slot cls sub) (grun M.step s (segs.flatMap fun sg => sg.1 ++ (2 * cls + 2, sub) :: sg.2)).2 = []
  | [], s, done, h, _, _ => by simpa [grun] using ⟨h, rfl⟩
  | sg :: segs, s, done, h, hb, hf => by
    simp only [List.flatMap_cons] at hf ⊢
    rw [fits_append] at hf
    obtain ⟨a1, a2⟩ := segment L h hacc (hb sg (by simp)) hf.1
    obtain ⟨b1, b2⟩ := segments hacc segs a1 (fun sg' h' => hb sg' (by simp [h']))
      (by simpa [bytesOf_append] using hf.2)
    rw [grun_append]
    exact ⟨by simpa [List.append_assoc] using b1, by rw [forSlot_append, a2, b2]; rfl⟩

/-- interleaving_independent: a packet interrupted by foreign blocks, re-opened by its continue pair each time, is
    handed over as if sent in one piece -/
theorem interleaved (h : M.Inv s) (hv : p.Valid) (hacc : M.acc p.cls p.sub) (ck : Nat) (hck : ck < 128)
    (chunk0 : List Pair) (segs : List (List Pair × List Pair)) (hch : chunksOf chunk0 segs = pairsOf p.payload)
    (hb : ∀ sg ∈ segs, M.Foreign (M.slot p.cls p.sub) sg.1 ∧ ∀ q ∈ sg.1, q.1 < 128 ∧ q.2 < 128) :
    forSlot M.pkt M.slot (M.slot p.cls p.sub) (grun M.raw s ((interleaved7 p ck chunk0 segs).map parPair)).2 =
      if (bodySum p + ck) % 128 = 0 then [p.toPkt] else [] := by
  have hfit := hv.fits
  rw [← hch, chunksOf, fits_append] at hfit
  obtain ⟨a1, a2⟩ := L.start h hacc
  obtain ⟨b1, b2⟩ := content_run L chunk0 a1 hfit.1
  obtain ⟨c1, c2⟩ := segments L hacc segs b1 (fun sg h => (hb sg h).1) (by simpa [bytesOf] using hfit.2)
  obtain ⟨_, d1⟩ := L.finish ck hv hacc (by rw [← hch]; simpa [chunksOf] using c1)
  rw [run_par L _ _ (interleaved7_lt p hv ck hck chunk0 segs hch fun sg h => (hb sg h).2)]
  simp only [interleaved7, startPair, contPair, List.append_assoc, grun, grun_append, List.cons_append]
  rw [forSlot_cons_none _ _ _ _ a2, forSlot_append, forSlot_of_none _ _ b2, forSlot_append, c2, forSlot, dels_cons, d1]
  split <;> simp [dels, Packet.toPkt]

/-- oversize_not_delivered: start pair, more than 32 characters, end pair - nothing is delivered, not even a
    truncated packet -/
theorem oversize (h : M.Inv s) (hcls : p.cls < 7) (hsub : p.sub < 128) (hc : ∀ c ∈ p.payload, isChar c)
    (hlen : 32 < p.payload.length) (hacc : M.acc p.cls p.sub) (ck : Nat) (hck : ck < 128) :
    dels M.pkt (grun M.raw s (wire p ck)).2 = [] := by
  obtain ⟨a, q, rest, hw, hla, hca, hq, hrest⟩ := oversize_split p.payload hc hlen ck
  obtain ⟨hb, _, _, hfit⟩ := pairsOf_spec a hca
  obtain ⟨a1, a2⟩ := L.start h hacc
  obtain ⟨b1, b2⟩ := content_run L (pairsOf a) a1 (hfit 0 rfl (by omega))
  obtain ⟨c1, c2⟩ := L.overflow b1 hq (by simp [hb, hla])
  obtain ⟨_, d2⟩ := idle_run L rest c1 hrest
  unfold wire
  rw [run_par L _ _ (wire7_lt_chars p hcls hsub hc ck hck), wire7_eq, hw]
  simp only [grun, grun_append, startPair, dels_cons, dels_append, a2, b2, c2, d2, Option.toList, List.append_nil]

/-- a parity error is never delivered: a transmitted packet with its `n`-th pair replaced by one that reaches the
    parity-error branch delivers nothing, whatever the checksum byte -/
theorem fault (h : M.Inv s) (hv : p.Valid) (hacc : M.acc p.cls p.sub) (ck : Nat) (hck : ck < 128) (n : Nat)
    (hn : n < (wire p ck).length) (harmed : n = 0 → M.Armed s) {bad : Nat × Nat} (hbad : M.Bad bad) :
    dels M.pkt (grun M.raw s ((wire p ck).set n bad)).2 = [] := by
  obtain ⟨pre, post, e, hpre, hpost, hno, hshape⟩ := wire_set_split p hv ck hck n (by simpa [wire] using hn) bad
  rw [e, grun_append, run_par L _ _ hpre]
  simp only [grun]
  rw [run_par L _ _ hpost]
  have g : dels M.pkt (grun M.step s pre).2 = [] ∧ M.Armed (grun M.step s pre).1 := by
    rcases hshape with ⟨h0, rfl⟩ | ⟨m, rfl⟩
    · exact ⟨rfl, harmed h0⟩
    · obtain ⟨a1, a2⟩ := L.start h hacc
      have hf := hv.fits
      rw [← List.take_append_drop m (pairsOf p.payload), fits_append] at hf
      obtain ⟨b1, b2⟩ := content_run L ((pairsOf p.payload).take m) a1 hf.1
      exact ⟨by simp only [grun, startPair, dels_cons, a2, b2]; rfl, L.armed b1⟩
  obtain ⟨k1, k2⟩ := L.bad hbad g.2
  obtain ⟨_, k3⟩ := idle_run L post k1 hno
  simp only [dels_append, dels_cons, g.1, k2, k3, Option.toList, List.append_nil]

end Laws
end Reasm

end Zvbi.Xds
