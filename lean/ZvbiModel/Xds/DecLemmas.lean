import ZvbiModel.Xds.DecSpec
import ZvbiModel.Xds.LemmasSep
import ZvbiModel.Ite
/-!
# C09: one call of `xds_decoder` (`Dec`)

The write loop, array extents and error sites; the normal forms of a call (`feed_shape`, `netFeed_shape`), own fields,
what a packet of another (class, type) may touch (`Own`, `Keep`).
-/
namespace Zvbi.Xds
namespace Dec
open Zvbi.Gen.Xds

/-! ## the cases of `xds_decoder` for class current / future, one equation per packet type

`feed` is opened here and nowhere else: every lemma about it picks its case with `feed_typ_cases` and rewrites with the
equation of that case.  The conditions of `case 1` are those the specification names (`pidBad`, `pidNeq`). -/

section
variable (v : Info) (cls : Nat) (d : List Nat) (nx : Nat)

theorem feed_pid_eq : feed v cls 1 d nx =
    if d.length ≠ 4 then (v, {}) else if pidBad d nx then (v, {}) else
    let pi := v.pi cls
    let td := byteAt d nx 3 &&& 0x10 != 0
    let v1 := v.setPi cls { pi with tapeDelayed := td }
    if pidNeq v cls d nx then
      let f := flush v1 cls
      let pf := f.1.pi cls
      fin (f.1.setPi cls { pf with
        month := ((byteAt d nx 3 &&& 15 : Nat) : Int) - 1, day := ((byteAt d nx 2 &&& 31 : Nat) : Int) - 1,
        hour := (byteAt d nx 1 &&& 31 : Nat), min := (byteAt d nx 0 &&& 63 : Nat), tapeDelayed := td }) cls 1 true f.2 none
    else fin v1 cls 1 (pidTapeDelayCounted && pi.tapeDelayed != td) [] none := rfl

theorem feed_len_eq : feed v cls 2 d nx =
    let n := d.length
    let pi := v.pi cls
    let b := byteAt d nx
    if n < 2 ∨ n > 6 then (v, {}) else
    let lhour : Int := ((b 1 &&& 63 : Nat) : Int)
    let lmin : Int := ((b 0 &&& 63 : Nat) : Int)
    let ehour : Int := if n ≥ 3 then ((b 3 &&& 63 : Nat) : Int) else -1
    let emin : Int := if n ≥ 3 then ((b 2 &&& 63 : Nat) : Int) else -1
    let esec : Int := if n ≥ 5 then ((b 4 &&& 63 : Nat) : Int) else 0
    if lmin > 59 ∨ emin > 59 ∨ esec > 59 then (v, {}) else
    fin (v.setPi cls { pi with lengthHour := lhour, lengthMin := lmin, elapsedHour := ehour, elapsedMin := emin,
                                 elapsedSec := esec }) cls 2
      (pi.lengthHour != lhour || pi.lengthMin != lmin || pi.elapsedHour != ehour || pi.elapsedMin != emin ||
        pi.elapsedSec != esec) [] none := rfl

theorem feed_title_eq : feed v cls 3 d nx =
    if d.length < 2 then (v, {}) else
    let pi := v.pi cls
    let w := strfuArr pi.title d
    let v1 := v.setPi cls { pi with title := w.arr }
    if w.neq then fin v1 cls 3 true [] (errIf w.oob "dec.title.index")
    else if !(v1.cyc cls).contains 3 then fin v1 cls 3 false [] (errIf w.oob "dec.title.index")
    else if !(v1.cyc cls).contains 1 then
      let f := flush v1 cls
      let pf := f.1.pi cls
      let w2 := strfuArr pf.title d
      fin ((f.1.setPi cls { pf with title := w2.arr }).setCyc cls [3]) cls 3 false f.2
        (errIf (w.oob || w2.oob) "dec.title.index")
    else fin v1 cls 3 false [] (errIf w.oob "dec.title.index") := rfl

theorem feed_ptype_eq : feed v cls 4 d nx =
    let pi := v.pi cls
    let w := (d ++ [0]).foldl putc { arr := pi.typeId, neq := !pi.typeEia }
    fin (v.setPi cls { pi with typeEia := true, typeId := w.arr }) cls 4 w.neq [] (errIf w.oob "dec.type.index") := rfl

theorem feed_rating_eq : feed v cls 5 d nx =
    let pi := v.pi cls
    if d.length ≠ 2 then (v, {}) else
    match ratingDecode (byteAt d nx 0) (byteAt d nx 1) with
    | none => (v, {})
    | some (auth, r, dlsv, zero) =>
      let pi1 := if zero then { pi with ratingDlsv := 0 } else pi
      let neq := pi1.ratingAuth != auth || pi1.ratingId != r || pi1.ratingDlsv != dlsv
      let pi2 := if neq then { pi1 with ratingAuth := auth, ratingId := r, ratingDlsv := dlsv } else pi1
      fin (v.setPi cls pi2) cls 5 neq [] none := rfl

theorem feed_audio_eq : feed v cls 6 d nx =
    if d.length ≠ 2 then (v, {}) else
    let r0 := audioStep (v.pi cls) false 0 (byteAt d nx 0)
    let r1 := audioStep r0.1 r0.2 1 (byteAt d nx 1)
    fin (v.setPi cls r1.1) cls 6 r1.2 [] none := rfl

theorem feed_capsvc_eq : feed v cls 7 d nx =
    if d.length > 8 then (v, {}) else
    let pi := v.pi cls
    let r := d.foldl (capStep (cls == 0)) (List.replicate 8 0, 0, false, v.chLang)
    let sv : Int := (r.2.1 : Int)
    fin (({ v with chLang := r.2.2.2 } : Info).setPi cls { pi with capLang := r.1, capServices := sv }) cls 7
      ((if capLangClearedFirst then r.2.2.1 else r.1 != pi.capLang) || pi.capServices != sv) [] none := rfl

theorem feed_cgms_eq : feed v cls 8 d nx =
    if d.length ≠ 1 then (v, {}) else
    let pi := v.pi cls
    let c : Int := ((byteAt d nx 0 &&& 63 : Nat) : Int)
    fin (v.setPi cls { pi with cgms := c }) cls 8 (pi.cgms != c) [] none := rfl

theorem feed_aspect_eq : feed v cls 9 d nx =
    let b := byteAt d nx
    if d.length > 3 then (v, {}) else
    let r : Aspect := { first := ((b 0 &&& 63 : Nat) : Int) + 22, last := 262 - ((b 1 &&& 63 : Nat) : Int),
                        ratio := if d.length ≥ 3 ∧ b 2 &&& 1 != 0 then 2 else 1 }
    let tc := if aspectAlwaysCurrent then 0 else cls
    let pt := v.pi tc
    if r != pt.aspect then
      let v1 := v.setPi tc { pt with aspect := r }
      if tc = 0 then fin { v1 with aspSrc := 3 } cls 9 true [Ev.aspect r] none
      else fin v1 cls 9 true [] none
    else fin v cls 9 false [] none := rfl

theorem feed_desc_eq {t : Nat} (ht : 0x10 ≤ t ∧ t ≤ 0x17) : feed v cls t d nx =
    let pi := v.pi cls
    let w := strfuArr (pi.description.getD (t &&& 7) []) d
    fin (v.setPi cls { pi with description := pi.description.set (t &&& 7) w.arr }) cls t w.neq []
      (errIf (w.oob || decide (pi.description.length ≤ t &&& 7)) "dec.description.index") := by
  unfold feed
  split <;> first | omega | exact if_pos ht

theorem feed_other_eq {t : Nat} (h : t = 0 ∨ (10 ≤ t ∧ t < 0x10) ∨ 0x18 ≤ t) : feed v cls t d nx = (v, {}) := by
  obtain ⟨_, _, _, _, _, _, _, _, _, hd⟩ :
      t ≠ 1 ∧ t ≠ 2 ∧ t ≠ 3 ∧ t ≠ 4 ∧ t ≠ 5 ∧ t ≠ 6 ∧ t ≠ 7 ∧ t ≠ 8 ∧ t ≠ 9 ∧ ¬(0x10 ≤ t ∧ t ≤ 0x17) := by omega
  unfold feed
  split <;> first | contradiction | exact if_neg hd

end

theorem feed_typ_cases (t : Nat) :
    t = 1 ∨ t = 2 ∨ t = 3 ∨ t = 4 ∨ t = 5 ∨ t = 6 ∨ t = 7 ∨ t = 8 ∨ t = 9 ∨ (0x10 ≤ t ∧ t ≤ 0x17) ∨
    (t = 0 ∨ (10 ≤ t ∧ t < 0x10) ∨ 0x18 ≤ t) := by omega

/-! ## the cases of `xds_decoder` for class channel -/

section
variable (v : Info) (d : List Nat) (nx : Nat)

theorem netFeed_name_eq : netFeed v 1 d nx =
    let n := v.net
    let w := strfuArr n.name d
    let n1 := { n with name := w.arr }
    let err := errIf w.oob "dec.name.index"
    if w.neq then ({ v with net := { n1 with cycle := 1 } }, { err := err })
    else if n.cycle = 1 then
      let sum := Sep.nuidOf (if n1.call.getD 0 0 != 0 then cstr n1.call else cstr n1.name)
      if sepNuidCompared && sum == n.nuid then
        ({ v with net := { n1 with cycle := 3 } }, { evs := [Ev.networkId], err := err })
      else
        let doReset := n.nuid != 0
        let r := if doReset then chswReset v else (v, [])
        let n2 := { n1 with nuid := sum }
        ({ r.1 with net := { n2 with cycle := 3 } },
         { evs := r.2 ++ [Ev.network (cstr n2.name) (cstr n2.call) sum n2.tapeDelay, Ev.networkId], chsw := doReset,
           err := err })
    else ({ v with net := n1 }, { err := err }) := rfl

theorem netFeed_call_eq : netFeed v 2 d nx =
    let n := v.net
    let w := strfuArr n.call d
    let n1 := { n with call := w.arr }
    let err := errIf w.oob "dec.call.index"
    if w.neq && n.cycle != 1 then ({ v with net := { n1 with name := n1.name.set 0 0, cycle := 0 } }, { err := err })
    else ({ v with net := n1 }, { err := err }) := rfl

theorem netFeed_delay_eq : netFeed v 3 d nx =
    if d.length ≠ 2 then (v, {}) else
    ({ v with net := { v.net with tapeDelay := (byteAt d nx 1 &&& 31) * 60 + (byteAt d nx 0 &&& 63) } }, {}) := rfl

theorem netFeed_other_eq {t : Nat} (h : t ≠ 1 ∧ t ≠ 2 ∧ t ≠ 3) : netFeed v t d nx = (v, {}) := by
  unfold netFeed
  split <;> first | omega | rfl

end

theorem netFeed_typ_cases (t : Nat) : t = 1 ∨ t = 2 ∨ t = 3 ∨ (t ≠ 1 ∧ t ≠ 2 ∧ t ≠ 3) := by omega

/-! ## the write loop -/

theorem putc_in (w : Wr) (c : Nat) (h : w.idx < w.arr.length) :
    putc w c = { w with arr := w.arr.set w.idx c, idx := w.idx + 1, neq := w.neq || (w.arr.getD w.idx 0 != c) } := by
  simp [putc, h]

/-- a run of `putc` that stays inside the array: no error, same extent, the bytes land where the
    cursor was -/
theorem foldl_putc : ∀ (cs : List Nat) (w : Wr), w.idx + cs.length ≤ w.arr.length →
    (cs.foldl putc w).oob = w.oob ∧ (cs.foldl putc w).arr.length = w.arr.length ∧
    (cs.foldl putc w).idx = w.idx + cs.length ∧
    (cs.foldl putc w).arr = w.arr.take w.idx ++ cs ++ w.arr.drop (w.idx + cs.length)
  | [], w, _ => by simp
  | c :: cs, w, h => by
    have hi : w.idx < w.arr.length := by simp only [List.length_cons] at h; omega
    simp only [List.foldl_cons, putc_in w c hi]
    obtain ⟨a1, a2, a3, a4⟩ := foldl_putc cs
      { w with arr := w.arr.set w.idx c, idx := w.idx + 1, neq := w.neq || (w.arr.getD w.idx 0 != c) }
      (by simp only [List.length_set, List.length_cons] at h ⊢; omega)
    refine ⟨a1, by simpa using a2, by simp only [a3, List.length_cons]; omega, ?_⟩
    rw [a4]
    simp only [List.length_cons, List.take_set, List.drop_set]
    have e1 : ¬ (w.idx + 1 + cs.length ≤ w.idx) := by omega
    have e2 : w.idx + 1 + cs.length = w.idx + (cs.length + 1) := by omega
    rw [List.take_succ_eq_append_getElem hi, List.set_append_right _ _ (by simp [List.length_take]; omega)]
    simp [List.length_take, Nat.min_eq_left (Nat.le_of_lt hi), e2]

/-- every byte `xds_strfu` stores before its terminator is at least 0x20 -/
theorem text_ge (s : List Nat) : ∀ c ∈ text s, 0x20 ≤ c := by
  intro c hc
  simp only [text, List.mem_map] at hc
  obtain ⟨a, _, rfl⟩ := hc
  exact Nat.le_max_left _ _

theorem text_length_le (s : List Nat) : (text s).length ≤ s.length := by
  simp only [text, List.length_map]
  exact (List.dropWhile_sublist _).length_le

/-- the C string ends at the first NUL -/
theorem cstr_append_zero (t rest : List Nat) : cstr (t ++ 0 :: rest) = cstr t := by
  induction t with
  | nil => simp [cstr]
  | cons a t ih =>
    simp only [cstr, List.cons_append, List.takeWhile_cons] at ih ⊢
    split
    · rw [ih]
    · rfl

theorem cstr_of_ne_zero : ∀ (t : List Nat), (∀ c ∈ t, c ≠ 0) → cstr t = t
  | [], _ => rfl
  | a :: t, h => by
    have : (a != 0) = true := bne_iff_ne.2 (h a (by simp))
    have ih := cstr_of_ne_zero t fun c hc => h c (by simp [hc])
    simp only [cstr, List.takeWhile_cons, this, if_true] at ih ⊢
    rw [ih]

/-- `xds_strfu` into an array with room for the text and its terminator: every index is inside the
    array, the extent is kept, and the array then holds exactly the text as C string -/
theorem strfuArr_spec {d s : List Nat} {n : Nat} (hd : d.length = n) (h : s.length < n) :
    (strfuArr d s).oob = false ∧ (strfuArr d s).arr.length = n ∧ cstr (strfuArr d s).arr = text s := by
  have := text_length_le s
  obtain ⟨a1, a2, _, a4⟩ := foldl_putc (text s ++ [0]) { arr := d } (by simp; omega)
  refine ⟨a1, a2.trans hd, ?_⟩
  simp only [strfuArr, a4, List.take_zero, List.nil_append, List.append_assoc, List.singleton_append]
  rw [cstr_append_zero, cstr_of_ne_zero _ fun c hc => by have := text_ge s c hc; omega]

theorem foldl_putc_length : ∀ (cs : List Nat) (w : Wr), (cs.foldl putc w).arr.length = w.arr.length
  | [], _ => rfl
  | c :: cs, w => by
    simp only [List.foldl_cons]
    rw [foldl_putc_length cs]
    unfold putc; split <;> simp

theorem strfuArr_length (d s : List Nat) : (strfuArr d s).arr.length = d.length := foldl_putc_length _ _

/-! ## extents are invariant, no error site is reachable -/

theorem PIWf.line_lt {p : PI} (h : PIWf p) (t : Nat) : t &&& 7 < p.description.length :=
  h.descN ▸ Nat.lt_succ_of_le Nat.and_le_right

theorem PIWf.line_length {p : PI} (h : PIWf p) {i : Nat} (hi : i < p.description.length) :
    (p.description.getD i []).length = descExt := by
  rw [List.getD_eq_getElem?_getD, List.getElem?_eq_getElem hi]
  exact h.desc _ (List.getElem_mem hi)

theorem piwf_init : PIWf {} := ⟨by simp [titleExt], by simp [typeExt], by simp, by
  intro l hl; simp only [List.mem_replicate] at hl; simp [hl.2, descExt]⟩

theorem wf_init : Wf init := ⟨piwf_init, piwf_init, by simp [init, nameExt], by simp [init, callExt]⟩

theorem piwf_reset {p : PI} (h : PIWf p) : PIWf p.reset :=
  ⟨by simp [PI.reset, h.title], h.typeId, by simp [PI.reset, h.descN], by
    intro l hl
    simp only [PI.reset, List.mem_map] at hl
    obtain ⟨l', hl', rfl⟩ := hl
    simp [h.desc l' hl']⟩

theorem wf_pi {v : Info} (h : Wf v) (cls : Nat) : PIWf (v.pi cls) := by
  unfold Info.pi; split
  · exact h.pi0
  · exact h.pi1

theorem wf_setPi {v : Info} (h : Wf v) (cls : Nat) {p : PI} (hp : PIWf p) : Wf (v.setPi cls p) := by
  unfold Info.setPi; split
  · exact ⟨hp, h.pi1, h.name, h.call⟩
  · exact ⟨h.pi0, hp, h.name, h.call⟩

theorem wf_setCyc {v : Info} (h : Wf v) (cls : Nat) (c : List Nat) : Wf (v.setCyc cls c) := by
  unfold Info.setCyc; split <;> exact ⟨h.pi0, h.pi1, h.name, h.call⟩

theorem wf_flush {v : Info} (h : Wf v) (cls : Nat) : Wf (flush v cls).1 :=
  wf_setCyc (wf_setPi h cls (piwf_reset (wf_pi h cls))) cls []

/-- a call that keeps the extents and reports no error site -/
def Clean (r : Info × Out) : Prop := Wf r.1 ∧ r.2.err = none

theorem safe_fin {v : Info} (h : Wf v) (cls typ : Nat) (neq : Bool) (pre : List Ev) {err : Option String}
    (he : err = none) : Clean (fin v cls typ neq pre err) := by
  refine ⟨?_, he⟩
  simp only [fin, epilogue]
  split
  · exact wf_setCyc h _ _
  · split
    · exact wf_setCyc h _ _
    · exact h

/-- a record update that leaves the arrays alone -/
theorem piwf_keep {p q : PI} (h : PIWf p) (e1 : q.title = p.title := by rfl) (e2 : q.typeId = p.typeId := by rfl)
    (e3 : q.description = p.description := by rfl) : PIWf q :=
  ⟨e1 ▸ h.title, e2 ▸ h.typeId, e3 ▸ h.descN, e3 ▸ h.desc⟩

/-- `xds_strfu (pi->title, buffer, length)` with at most 32 bytes -/
theorem wf_title {v : Info} (h : Wf v) (cls : Nat) (d : List Nat) (hd : d.length ≤ 32) :
    Wf (v.setPi cls { v.pi cls with title := (strfuArr (v.pi cls).title d).arr }) ∧
    (strfuArr (v.pi cls).title d).oob = false := by
  have hp := wf_pi h cls
  obtain ⟨o1, o2, _⟩ := strfuArr_spec hp.title (Nat.lt_of_le_of_lt hd (by decide))
  exact ⟨wf_setPi h cls ⟨o2, hp.typeId, hp.descN, hp.desc⟩, o1⟩

theorem errIf_false (site : String) : errIf false site = none := rfl

theorem errIf_none {b : Bool} (h : b = false) (site : String) : errIf b site = none := by rw [h]; rfl

theorem wf_aspSrc {v : Info} (h : Wf v) (a : Nat) : Wf { v with aspSrc := a } := ⟨h.pi0, h.pi1, h.name, h.call⟩
theorem wf_chLang {v : Info} (h : Wf v) (l : List Nat) : Wf { v with chLang := l } := ⟨h.pi0, h.pi1, h.name, h.call⟩

theorem feed_wf {v : Info} (h : Wf v) (cls typ : Nat) (d : List Nat) (nx : Nat) (hd : d.length ≤ 32) :
    Clean (feed v cls typ d nx) := by
  have hp := wf_pi h cls
  have ign : Clean (v, {}) := ⟨h, rfl⟩
  have keep : ∀ {v : Info} (_ : Wf v) {q : PI} {neq : Bool} {pre : List Ev}, PIWf q →
      Clean (fin (v.setPi cls q) cls typ neq pre none) :=
    @fun _ h _ _ _ hq => safe_fin (wf_setPi h cls hq) _ _ _ _ rfl
  rcases feed_typ_cases typ with rfl | rfl | rfl | rfl | rfl | rfl | rfl | rfl | rfl | ht | ho
  · have h1 : ∀ td, Wf (flush (v.setPi cls { v.pi cls with tapeDelayed := td }) cls).1 :=
      fun _ => wf_flush (wf_setPi h cls (piwf_keep hp)) cls
    rw [feed_pid_eq]
    exact ite_both ign (ite_both ign (ite_both (keep (h1 _) (piwf_keep (wf_pi (h1 _) cls))) (keep h (piwf_keep hp))))
  · rw [feed_len_eq]
    exact ite_both ign (ite_both ign (keep h (piwf_keep hp)))
  · obtain ⟨hv1, o1⟩ := wf_title h cls d hd
    obtain ⟨hv3, q1⟩ := wf_title (wf_flush hv1 cls) cls d hd
    have s1 := fun neq => safe_fin hv1 cls 3 neq [] (errIf_none o1 "dec.title.index")
    rw [feed_title_eq]
    exact ite_both ign (ite_both (s1 _) (ite_both (s1 _) (ite_both
      (safe_fin (wf_setCyc hv3 cls [3]) _ _ _ _ (errIf_none (Bool.or_eq_false_iff.2 ⟨o1, q1⟩) _)) (s1 _))))
  · obtain ⟨a1, a2, _, _⟩ := foldl_putc (d ++ [0]) { arr := (v.pi cls).typeId, neq := !(v.pi cls).typeEia }
      (by simp [hp.typeId, typeExt]; omega)
    rw [feed_ptype_eq]
    refine safe_fin (wf_setPi h cls ?_) _ _ _ _ (errIf_none a1 _)
    exact ⟨hp.title, a2.trans hp.typeId, hp.descN, hp.desc⟩
  · rw [feed_rating_eq]
    refine ite_both ign ?_
    split
    · exact ign
    · extract_lets pi1 neq pi2
      have k1 : PIWf pi1 := ite_both (piwf_keep hp) hp
      exact keep h (ite_both (piwf_keep k1) k1)
  · rw [feed_audio_eq]
    exact ite_both ign (keep h (piwf_keep hp))
  · rw [feed_capsvc_eq]
    exact ite_both ign (keep (wf_chLang h _) (piwf_keep hp))
  · rw [feed_cgms_eq]
    exact ite_both ign (keep h (piwf_keep hp))
  · have a : ∀ (c : Nat) (r : Aspect), Wf (v.setPi c { v.pi c with aspect := r }) :=
      fun c _ => wf_setPi h c (piwf_keep (wf_pi h c))
    rw [feed_aspect_eq]
    exact ite_both ign (ite_both (ite_both (safe_fin (wf_aspSrc (a _ _) 3) _ _ _ _ rfl) (safe_fin (a _ _) _ _ _ _ rfl))
      (safe_fin h _ _ _ _ rfl))
  · have hl := hp.line_lt typ
    obtain ⟨o1, o2, _⟩ := strfuArr_spec (hp.line_length hl) (Nat.lt_of_le_of_lt hd (by decide))
    rw [feed_desc_eq _ _ _ _ ht]
    refine safe_fin (wf_setPi h cls ?_) _ _ _ _
      (errIf_none (Bool.or_eq_false_iff.2 ⟨o1, decide_eq_false (Nat.not_le_of_lt hl)⟩) _)
    refine ⟨hp.title, hp.typeId, ?_, ?_⟩
    · exact (List.length_set ..).trans hp.descN
    · intro l hl'
      rcases List.mem_or_eq_of_mem_set hl' with hl' | rfl
      · exact hp.desc l hl'
      · exact o2
  · rw [feed_other_eq _ _ _ _ ho]; exact ign

theorem wf_chswReset {v : Info} (h : Wf v) : Wf (chswReset v).1 :=
  ⟨piwf_reset h.pi0, piwf_reset h.pi1, h.name, h.call⟩

theorem netFeed_wf {v : Info} (h : Wf v) (typ : Nat) (d : List Nat) (nx : Nat) (hd : d.length ≤ 32) :
    Clean (netFeed v typ d nx) := by
  have hr := wf_chswReset h
  rcases netFeed_typ_cases typ with rfl | rfl | rfl | ho
  · obtain ⟨o1, hn, _⟩ := strfuArr_spec h.name (Nat.lt_of_le_of_lt hd (by decide))
    have e := errIf_none o1 "dec.name.index"
    rw [netFeed_name_eq]
    refine ite_both ⟨⟨h.pi0, h.pi1, hn, h.call⟩, e⟩ (ite_both (ite_both ⟨⟨h.pi0, h.pi1, hn, h.call⟩, e⟩ ?_)
      ⟨⟨h.pi0, h.pi1, hn, h.call⟩, e⟩)
    exact ⟨ite_both (P := fun r : Info × List Ev => Wf { r.1 with net := _ }) ⟨hr.pi0, hr.pi1, hn, h.call⟩
      ⟨h.pi0, h.pi1, hn, h.call⟩, e⟩
  · obtain ⟨o1, hc, _⟩ := strfuArr_spec h.call (Nat.lt_of_le_of_lt hd (by decide))
    have e := errIf_none o1 "dec.call.index"
    rw [netFeed_call_eq]
    exact ite_both ⟨⟨h.pi0, h.pi1, (List.length_set ..).trans h.name, hc⟩, e⟩ ⟨⟨h.pi0, h.pi1, h.name, hc⟩, e⟩
  · rw [netFeed_delay_eq]; exact ite_both ⟨h, rfl⟩ ⟨⟨h.pi0, h.pi1, h.name, h.call⟩, rfl⟩
  · rw [netFeed_other_eq _ _ _ ho]; exact ⟨h, rfl⟩

/-- one call of `xds_decoder` with 1..32 bytes: the extents are kept and no error site is reported -/
theorem step_clean {v : Info} (h : Wf v) (p : Pkt) (nx : Nat) (h1 : 1 ≤ p.data.length) (h32 : p.data.length ≤ 32) :
    Clean (step v p nx) := by
  unfold step
  have : ¬(p.data.length = 0 ∨ p.data.length > 32) := by omega
  simp only [this, if_false]
  split
  · exact feed_wf h _ _ _ _ h32
  · split
    · exact netFeed_wf h _ _ _ h32
    · exact ⟨h, rfl⟩

/-- with a length outside 1..32 only the assertion at the top of `xds_decoder` is reported and nothing
    is written -/
theorem step_assert (v : Info) (p : Pkt) (nx : Nat) (h : p.data.length = 0 ∨ p.data.length > 32) :
    step v p nx = (v, { err := some "dec.assert.length" }) := by
  unfold step; rw [if_pos h]

theorem run_wf : ∀ (hist : List (Pkt × Nat)) {v : Info}, Wf v →
    (∀ c ∈ hist, 1 ≤ c.1.data.length ∧ c.1.data.length ≤ 32) →
    Wf (run v hist).1 ∧ ∀ o ∈ (run v hist).2, o.err = none
  | [], v, h, _ => ⟨h, by intro o ho; cases ho⟩
  | c :: cs, v, h, hc => by
    obtain ⟨hc1, hcs⟩ := List.forall_mem_cons.1 hc
    obtain ⟨a1, a2⟩ := step_clean h c.1 c.2 hc1.1 hc1.2
    obtain ⟨b1, b2⟩ := run_wf cs a1 hcs
    exact ⟨b1, List.forall_mem_cons.2 ⟨a2, b2⟩⟩

/-! ## behind the separator: all byte-pair histories -/

theorem sysStep_wf (ec : Bool) {s : Sep.State} {v : Info} (hs : Sep.Inv ec s) (hv : Wf v) (b : Nat × Nat) :
    Sep.Inv ec (sysStep ec (s, v) b).1.1 ∧ Wf (sysStep ec (s, v) b).1.2 ∧ (sysStep ec (s, v) b).2.2.err = none := by
  obtain ⟨i1, i2⟩ := Sep.inv_step ec hs b
  cases hd : (Sep.step ec s b).2.dec with
  | none => simp only [sysStep, hd]; exact ⟨i1, hv, trivial⟩
  | some p =>
    have hp := i2.2 p hd
    simp only [sysStep, hd]
    exact ⟨i1, step_clean hv p (nxOf s) hp.1 hp.2.1⟩

theorem sysRun_wf (ec : Bool) : ∀ (bs : List (Nat × Nat)) {s : Sep.State} {v : Info}, Sep.Inv ec s → Wf v →
    Wf (sysRun ec (s, v) bs).1.2 ∧ Sep.Inv ec (sysRun ec (s, v) bs).1.1 ∧
    ∀ o ∈ (sysRun ec (s, v) bs).2, o.2.err = none
  | [], s, v, hs, hv => ⟨hv, hs, by intro o ho; cases ho⟩
  | b :: bs, s, v, hs, hv => by
    obtain ⟨i, w, e⟩ := sysStep_wf ec hs hv b
    obtain ⟨g1, g2, g3⟩ := sysRun_wf ec bs i w
    exact ⟨g1, g2, List.forall_mem_cons.2 ⟨e, g3⟩⟩

@[simp] theorem pi_setPi (v : Info) (cls : Nat) (p : PI) : (v.setPi cls p).pi cls = p := by
  unfold Info.setPi Info.pi; split <;> simp [*]
@[simp] theorem pi_setCyc (v : Info) (cls c : Nat) (l : List Nat) : (v.setCyc cls l).pi c = v.pi c := by
  unfold Info.setCyc Info.pi; split <;> split <;> rfl
@[simp] theorem cyc_setCyc (v : Info) (cls : Nat) (l : List Nat) : (v.setCyc cls l).cyc cls = l := by
  unfold Info.setCyc Info.cyc; split <;> simp [*]
@[simp] theorem cyc_setPi (v : Info) (cls c : Nat) (p : PI) : (v.setPi cls p).cyc c = v.cyc c := by
  unfold Info.setPi Info.cyc; split <;> split <;> rfl
@[simp] theorem net_setPi (v : Info) (cls : Nat) (p : PI) : (v.setPi cls p).net = v.net := by
  unfold Info.setPi; split <;> rfl
@[simp] theorem net_setCyc (v : Info) (cls : Nat) (l : List Nat) : (v.setCyc cls l).net = v.net := by
  unfold Info.setCyc; split <;> rfl

/-- the epilogue only touches `info_cycle[class]` -/
@[simp] theorem pi_fin (v : Info) (cls typ c : Nat) (neq : Bool) (pre : List Ev) (err : Option String) :
    (fin v cls typ neq pre err).1.pi c = v.pi c := by
  simp only [fin, epilogue]; split
  · simp
  · split <;> simp
@[simp] theorem net_fin (v : Info) (cls typ : Nat) (neq : Bool) (pre : List Ev) (err : Option String) :
    (fin v cls typ neq pre err).1.net = v.net := by
  simp only [fin, epilogue]; split
  · simp
  · split <;> simp

/-- what the epilogue announces: PROG_INFO with the stored information of that class, exactly when the
    packet changed nothing (`neq = false`) and the bit of its type is pending -/
theorem fin_events (v : Info) (cls typ : Nat) (neq : Bool) (pre : List Ev) (err : Option String) :
    (fin v cls typ neq pre err).2.evs =
      pre ++ (if neq = false ∧ (v.cyc cls).contains typ = true then [Ev.progInfo cls (v.pi cls)] else []) := by
  simp only [fin, epilogue]
  cases neq <;> cases (v.cyc cls).contains typ <;> simp

/-- and what it does to the pending bits: set on a change, all cleared by the announcement -/
theorem fin_cyc (v : Info) (cls typ : Nat) (neq : Bool) (pre : List Ev) (err : Option String) :
    (fin v cls typ neq pre err).1.cyc cls =
      if neq then typ :: v.cyc cls else if (v.cyc cls).contains typ then [] else v.cyc cls := by
  simp only [fin, epilogue]
  cases neq <;> cases (v.cyc cls).contains typ <;> simp

/-! ## own fields -/

/-- programme name: whatever the state, the title array then holds the packet's text.  Every branch that is not ignored
    runs the epilogue on a state whose title is `xds_strfu` of the packet into an array of the title's extent (the stored
    one, or after the flush the reset one), and the epilogue leaves the programme information alone. -/
theorem feed_title {v : Info} (h : Wf v) (cls : Nat) (d : List Nat) (nx : Nat) (h2 : 2 ≤ d.length) (hd : d.length ≤ 32) :
    cstr ((feed v cls 3 d nx).1.pi cls).title = text d := by
  let P : Info × Out → Prop := fun r => cstr (r.1.pi cls).title = text d
  have key : ∀ {w : Info} {neq pre err} {a : List Nat}, a.length = titleExt → (w.pi cls).title = (strfuArr a d).arr →
      P (fin w cls 3 neq pre err) := by
    intro w neq pre err a ha e
    show cstr _ = _
    rw [pi_fin, e]; exact (strfuArr_spec ha (Nat.lt_of_le_of_lt hd (by decide))).2.2
  have t0 := (wf_pi h cls).title
  have t1 := (wf_pi (wf_flush (wf_title h cls d hd).1 cls) cls).title
  rw [feed_title_eq, if_neg (by omega)]
  show P _
  exact ite_both (key t0 (by rw [pi_setPi])) (ite_both (key t0 (by rw [pi_setPi]))
    (ite_both (key t1 (by rw [pi_setCyc, pi_setPi])) (key t0 (by rw [pi_setPi]))))

/-- programme description line `t & 7` -/
theorem feed_description {v : Info} (h : Wf v) (cls t : Nat) (d : List Nat) (nx : Nat) (ht : 0x10 ≤ t ∧ t ≤ 0x17)
    (hd : d.length ≤ 32) :
    cstr (((feed v cls t d nx).1.pi cls).description.getD (t &&& 7) []) = text d := by
  have hl := (wf_pi h cls).line_lt t
  rw [feed_desc_eq _ _ _ _ ht]
  simp only [pi_fin, pi_setPi, List.getD_eq_getElem?_getD, List.getElem?_set_self hl, Option.getD_some]
  exact (strfuArr_spec ((wf_pi h cls).line_length hl) (Nat.lt_of_le_of_lt hd (by decide))).2.2

def NetFields (v : Info) (typ : Nat) (d : List Nat) (nx : Nat) (r : Info × Out) : Prop :=
  r.1.net.name = (if typ = 1 then (strfuArr v.net.name d).arr
    else if typ = 2 ∧ callClears v d = true then v.net.name.set 0 0 else v.net.name) ∧
  r.1.net.call = (if typ = 2 then (strfuArr v.net.call d).arr else v.net.call) ∧
  r.1.net.tapeDelay = (if typ = 3 ∧ d.length = 2 then (byteAt d nx 1 &&& 31) * 60 + (byteAt d nx 0 &&& 63)
    else v.net.tapeDelay)

theorem netFeed_fields (v : Info) (typ : Nat) (d : List Nat) (nx : Nat) : NetFields v typ d nx (netFeed v typ d nx) := by
  rcases netFeed_typ_cases typ with rfl | rfl | rfl | ⟨h1, h2, h3⟩
  · rw [netFeed_name_eq]
    exact ite_both ⟨rfl, rfl, rfl⟩ (ite_both (ite_both ⟨rfl, rfl, rfl⟩ ⟨rfl, rfl, rfl⟩) ⟨rfl, rfl, rfl⟩)
  · rw [netFeed_call_eq]
    exact ite_ind (fun h => ⟨(if_pos ⟨rfl, h⟩).symm, rfl, rfl⟩) (fun h => ⟨(if_neg fun c => h c.2).symm, rfl, rfl⟩)
  · rw [netFeed_delay_eq]
    exact ite_ind (fun h => ⟨rfl, rfl, (if_neg fun c => h c.2).symm⟩)
      (fun h => ⟨rfl, rfl, (if_pos ⟨rfl, Decidable.not_not.1 h⟩).symm⟩)
  · rw [netFeed_other_eq _ _ _ ⟨h1, h2, h3⟩]
    exact ⟨by rw [if_neg h1, if_neg fun c => h2 c.1], by rw [if_neg h2], by rw [if_neg fun c => h3 c.1]⟩

/-! ## what a packet may touch -/

/-- `w` arises from `v` by writes a packet of class `cls` and type `typ` is entitled to: the programme
    information of its class and the pending bits of that class, the caption channel languages,
    `aspect_source`; an aspect ratio packet (type 9) may write the programme information of another class
    unless `aspectAlwaysCurrent = false` -/
inductive Own (cls typ : Nat) (v : Info) : Info → Prop
  | refl : Own cls typ v v
  | setPi {w} (p : PI) : Own cls typ v w → Own cls typ v (w.setPi cls p)
  | setCyc {w} (l : List Nat) : Own cls typ v w → Own cls typ v (w.setCyc cls l)
  | chLang {w} (l : List Nat) : Own cls typ v w → Own cls typ v { w with chLang := l }
  | aspSrc {w} (a : Nat) : Own cls typ v w → Own cls typ v { w with aspSrc := a }
  | aspect {w} (c : Nat) (p : PI) : typ = 9 → (aspectAlwaysCurrent = false → c = cls) → Own cls typ v w →
      Own cls typ v (w.setPi c p)

section
variable {cls typ : Nat} {v w : Info}

theorem Own.flush (h : Own cls typ v w) : Own cls typ v (flush w cls).1 := .setCyc _ (.setPi _ h)

theorem Own.fin (h : Own cls typ v w) (t : Nat) (neq : Bool) (pre : List Ev) (err : Option String) :
    Own cls typ v (fin w cls t neq pre err).1 := by
  unfold Dec.fin epilogue
  split
  · exact .setCyc _ h
  · split
    · exact .setCyc _ h
    · exact h

theorem Own.net (h : Own cls typ v w) : w.net = v.net := by
  induction h with
  | refl => rfl
  | setPi p _ ih => rw [net_setPi, ih]
  | setCyc l _ ih => rw [net_setCyc, ih]
  | chLang l _ ih => exact ih
  | aspSrc a _ ih => exact ih
  | aspect c p _ _ _ ih => rw [net_setPi, ih]

theorem Own.other (h : Own cls typ v w) (hc : cls ≤ 1) (h9 : typ ≠ 9 ∨ aspectAlwaysCurrent = false) :
    w.pi (1 - cls) = v.pi (1 - cls) ∧ w.cyc (1 - cls) = v.cyc (1 - cls) := by
  have hcls : cls = 0 ∨ cls = 1 := by omega
  induction h with
  | refl => exact ⟨rfl, rfl⟩
  | setPi p _ ih => rcases hcls with rfl | rfl <;> exact ih
  | setCyc l _ ih => rcases hcls with rfl | rfl <;> exact ih
  | chLang l _ ih => exact ih
  | aspSrc a _ ih => exact ih
  | aspect c p e hf _ ih =>
    rcases h9 with h9 | h9
    · exact absurd e h9
    · rw [hf h9]; rcases hcls with rfl | rfl <;> exact ih

end

/-- the events in front of the epilogue: none, the ASPECT event of an aspect ratio packet, or those of
    `flush_prog_info` on a programme with the stored aspect ratio -/
def PreOk (v : Info) (cls typ : Nat) (pre : List Ev) : Prop :=
  pre = [] ∨ (typ = 9 ∧ ∃ r, pre = [Ev.aspect r]) ∨
    ∃ p : PI, pre = (flush (v.setPi cls p) cls).2 ∧ p.aspect = (v.pi cls).aspect

/-- the two ways a call for class current / future ends: the packet is ignored, or the epilogue runs on
    a state the packet was entitled to produce -/
inductive Shape (v : Info) (cls typ : Nat) : Info × Out → Prop
  | ignored : Shape v cls typ (v, {})
  | fin {w} (neq pre err) : Own cls typ v w → PreOk v cls typ pre → Shape v cls typ (fin w cls typ neq pre err)

theorem feed_shape (v : Info) (cls typ : Nat) (d : List Nat) (nx : Nat) : Shape v cls typ (feed v cls typ d nx) := by
  have plain : ∀ (p : PI) neq err, Shape v cls typ (fin (v.setPi cls p) cls typ neq [] err) :=
    fun p _ _ => .fin _ _ _ (.setPi p .refl) (.inl rfl)
  have tc : aspectAlwaysCurrent = false → (if aspectAlwaysCurrent = true then 0 else cls) = cls :=
    fun h => if_neg (h ▸ Bool.false_ne_true)
  rcases feed_typ_cases typ with rfl | rfl | rfl | rfl | rfl | rfl | rfl | rfl | rfl | ht | ho
  · rw [feed_pid_eq]
    exact ite_both .ignored (ite_both .ignored (ite_both
      (.fin _ _ _ (.setPi _ (.flush (.setPi _ .refl))) (.inr (.inr ⟨_, rfl, rfl⟩))) (plain _ _ _)))
  · rw [feed_len_eq]; exact ite_both .ignored (ite_both .ignored (plain _ _ _))
  · rw [feed_title_eq]
    exact ite_both .ignored (ite_both (plain _ _ _) (ite_both (plain _ _ _) (ite_both
      (.fin _ _ _ (.setCyc _ (.setPi _ (.flush (.setPi _ .refl)))) (.inr (.inr ⟨_, rfl, rfl⟩))) (plain _ _ _))))
  · rw [feed_ptype_eq]; exact plain _ _ _
  · rw [feed_rating_eq]
    refine ite_both .ignored ?_
    split
    · exact .ignored
    · exact plain _ _ _
  · rw [feed_audio_eq]; exact ite_both .ignored (plain _ _ _)
  · rw [feed_capsvc_eq]; exact ite_both .ignored (.fin _ _ _ (.setPi _ (.chLang _ .refl)) (.inl rfl))
  · rw [feed_cgms_eq]; exact ite_both .ignored (plain _ _ _)
  · rw [feed_aspect_eq]
    exact ite_both .ignored (ite_both (ite_both (.fin _ _ _ (.aspSrc _ (.aspect _ _ rfl tc .refl)) (.inr (.inl ⟨rfl, _, rfl⟩)))
      (.fin _ _ _ (.aspect _ _ rfl tc .refl) (.inl rfl))) (.fin _ _ _ .refl (.inl rfl)))
  · rw [feed_desc_eq _ _ _ _ ht]; exact plain _ _ _
  · rw [feed_other_eq _ _ _ _ ho]; exact .ignored

theorem feed_net (v : Info) (cls typ : Nat) (d : List Nat) (nx : Nat) : (feed v cls typ d nx).1.net = v.net := by
  have h := feed_shape v cls typ d nx
  generalize feed v cls typ d nx = r at h ⊢
  cases h with
  | ignored => rfl
  | fin _ _ _ ho _ => exact (net_fin ..).trans ho.net

theorem feed_other_class (v : Info) (cls typ : Nat) (d : List Nat) (nx : Nat) (hc : cls ≤ 1)
    (h9 : typ ≠ 9 ∨ aspectAlwaysCurrent = false) :
    (feed v cls typ d nx).1.pi (1 - cls) = v.pi (1 - cls) ∧ (feed v cls typ d nx).1.cyc (1 - cls) = v.cyc (1 - cls) := by
  have h := feed_shape v cls typ d nx
  generalize feed v cls typ d nx = r at h ⊢
  cases h with
  | ignored => exact ⟨rfl, rfl⟩
  | fin _ _ _ ho _ => exact (ho.fin ..).other hc h9

/-- the two ways a call for class channel ends: only the network information is written and no
    PROG_INFO is sent, or - network name (type 1) only - `vbi_chsw_reset` runs first and the
    new network is announced -/
inductive NetShape (v : Info) (typ : Nat) : Info × Out → Prop
  | quiet (n : Net) (evs : List Ev) (err : Option String) : (∀ x ∈ evs, x.isProgInfo = false) →
      NetShape v typ ({ v with net := n }, { evs := evs, err := err })
  | reset (n : Net) (e : Ev) (err : Option String) : typ = 1 → e.isProgInfo = false →
      NetShape v typ ({ (chswReset v).1 with net := n },
        { evs := (chswReset v).2 ++ [e, Ev.networkId], chsw := true, err := err })

theorem netFeed_shape (v : Info) (typ : Nat) (d : List Nat) (nx : Nat) : NetShape v typ (netFeed v typ d nx) := by
  have q0 : ∀ n err, NetShape v typ ({ v with net := n }, { err := err }) :=
    fun n err => .quiet n [] err (fun _ h => nomatch h)
  have rs : ∀ (c : Bool) n e err, typ = 1 → e.isProgInfo = false →
      NetShape v typ ({ (if c = true then chswReset v else (v, [])).1 with net := n },
        { evs := (if c = true then chswReset v else (v, [])).2 ++ [e, Ev.networkId], chsw := c, err := err }) := by
    intro c n e err h1 he
    cases c
    · refine .quiet n _ err (fun x hx => ?_)
      rcases List.mem_cons.1 hx with rfl | hx
      · exact he
      · cases List.mem_singleton.1 hx; rfl
    · exact .reset n e err h1 he
  rcases netFeed_typ_cases typ with rfl | rfl | rfl | ho
  · rw [netFeed_name_eq]
    exact ite_both (q0 _ _) (ite_both (ite_both (.quiet _ _ _ (fun _ h => List.mem_singleton.1 h ▸ rfl))
      (rs _ _ _ _ rfl rfl)) (q0 _ _))
  · rw [netFeed_call_eq]; exact ite_both (q0 _ _) (q0 _ _)
  · rw [netFeed_delay_eq]; exact ite_both (q0 _ _) (q0 _ _)
  · rw [netFeed_other_eq _ _ _ ho]; exact q0 _ _

theorem netFeed_pi (v : Info) (typ : Nat) (d : List Nat) (nx : Nat) (c : Nat) :
    (netFeed v typ d nx).1.pi c = if (netFeed v typ d nx).2.chsw then (v.pi c).reset else v.pi c := by
  have h := netFeed_shape v typ d nx
  generalize netFeed v typ d nx = r at h ⊢
  cases h with
  | quiet => rfl
  | reset => unfold Info.pi; split <;> rfl

theorem netFeed_no_proginfo (v : Info) (typ : Nat) (d : List Nat) (nx : Nat) :
    ∀ x ∈ (netFeed v typ d nx).2.evs, x.isProgInfo = false := by
  have h := netFeed_shape v typ d nx
  generalize netFeed v typ d nx = r at h ⊢
  cases h with
  | quiet _ _ _ he => exact he
  | reset _ _ _ _ he =>
    intro x hx
    rcases List.mem_append.1 hx with hx | hx
    · unfold chswReset at hx
      split at hx
      · cases List.mem_singleton.1 hx; rfl
      · cases hx
    · rcases List.mem_cons.1 hx with rfl | hx
      · exact he
      · cases List.mem_singleton.1 hx; rfl

/-- closes `Keep k a b` when `k` is a literal and `b` is `a` with fields of group `k` replaced: the
    group's own clause is void, every other is an equation between unchanged fields -/
macro "keep_rfl" : tactic =>
  `(tactic| (constructor <;> intro h <;> first | exact absurd rfl h | (intros; repeat' constructor)))

theorem keep_refl (typ : Nat) (a : PI) : Keep typ a a := by
  constructor <;> intros <;> repeat' constructor

theorem keep_len (a : PI) (x1 x2 x3 x4 x5 : Int) :
    Keep 2 a { a with lengthHour := x1, lengthMin := x2, elapsedHour := x3, elapsedMin := x4, elapsedSec := x5 } := by
  keep_rfl
theorem keep_ptype (a : PI) (x : Bool) (l : List Nat) : Keep 4 a { a with typeEia := x, typeId := l } := by keep_rfl
theorem keep_rating (a : PI) (x y z : Nat) : Keep 5 a { a with ratingAuth := x, ratingId := y, ratingDlsv := z } := by
  keep_rfl
theorem keep_audio (a : PI) (m l : List Nat) : Keep 6 a { a with audioMode := m, audioLang := l } := by keep_rfl
theorem keep_capsvc (a : PI) (x : Int) (l : List Nat) : Keep 7 a { a with capLang := l, capServices := x } := by keep_rfl
theorem keep_cgms (a : PI) (x : Int) : Keep 8 a { a with cgms := x } := by keep_rfl
theorem keep_aspect (a : PI) (r : Aspect) : Keep 9 a { a with aspect := r } := by keep_rfl

/-- the aspect ratio stored into the programme of class `c`, seen from class `cls` -/
theorem keep_aspect_of (v : Info) (c cls : Nat) (r : Aspect) :
    Keep 9 (v.pi cls) ((v.setPi c { v.pi c with aspect := r }).pi cls) ∧
    ((v.setPi c { v.pi c with aspect := r }).pi cls).description = (v.pi cls).description := by
  unfold Info.setPi Info.pi
  split <;> split <;> first | exact ⟨keep_refl _ _, rfl⟩ | (subst_vars; exact ⟨keep_aspect _ _, rfl⟩)

/-- packet type `0x10 + l` writes description line `l` -/
theorem desc_line : ∀ l : Fin 8, (0x10 + l.val) &&& 7 = l.val := by decide

theorem keep_desc (a : PI) {t : Nat} (ht : 0x10 ≤ t ∧ t ≤ 0x17) (l : List Nat) :
    Keep t a { a with description := a.description.set (t &&& 7) l } := by
  constructor <;> intro h <;> first | (intros; and_intros <;> rfl) | skip
  intro hl
  refine congrArg (Option.getD · []) (List.getElem?_set_ne fun e => ?_)
  have := desc_line ⟨t - 0x10, by omega⟩
  simp only [show 0x10 + (t - 0x10) = t by omega] at this
  omega

end Dec
end Zvbi.Xds
