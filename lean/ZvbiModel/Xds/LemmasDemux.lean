import ZvbiModel.Xds.Reasm
import ZvbiModel.Xds.SpecRecv
import ZvbiModel.Xds.SepFrame
import ZvbiModel.Hamm.Lemmas
/-!
# C09: xds_demux.c

`vbi_xds_demux_feed`: the invariant, the cases of the `switch` as equations, `Demux.laws` (it is a reassembler in the sense
of `Reasm.Laws`); `vbi_xds_demux_feed_frame`.
-/
namespace Zvbi.Xds
open Zvbi.Hamm Zvbi.Gen.Xds

/-! ## xds_demux.c: invariant of every reachable state -/

/-- an index `remapWith` does not refuse is either a moved high subclass or an unchanged low one -/
theorem Demux.remapWith_of_lt {f t l n s : Nat} (h : Demux.remapWith f t l n s < n) :
    (f ≤ s ∧ Demux.remapWith f t l n s = s + t - f) ∨ (s < f ∧ s < l ∧ Demux.remapWith f t l n s = s) := by
  unfold Demux.remapWith at h ⊢
  split
  · exact Or.inl ⟨‹_›, rfl⟩
  · rename_i hf
    rw [if_neg hf] at h
    split
    · rename_i hl; rw [if_pos hl] at h; omega
    · exact Or.inr ⟨by omega, by omega, rfl⟩

namespace Demux

/-- a buffer is either idle (count 0) or holds a start pair plus at most 32 characters -/
def SlotOk (sl : Slot) : Prop :=
  sl.buf.length = demuxBufExtent ∧ (sl.count = 0 ∨ 2 ≤ sl.count) ∧ sl.count ≤ demuxStoreGuard + 2

structure Inv (s : State) : Prop where
  len : s.slots.length = demuxClasses * demuxSubclasses
  ok : ∀ (j : Nat) (sl : Slot), s.slots[j]? = some sl → SlotOk sl
  cur : ∀ i : Nat, s.curr = some i → (∃ sl, s.slots[i]? = some sl ∧ 2 ≤ sl.count) ∧
    accepted s.curCls s.curSub ∧ i = slotOf s.curCls s.curSub

/-- what a step may hand to the client -/
def PktOk (p : Pkt) : Prop := 1 ≤ p.data.length ∧ p.data.length ≤ demuxBufExtent ∧ accepted p.cls p.sub

def OutOk (o : Out) : Prop := o.err = none ∧ ∀ p, o.pkt = some p → PktOk p

theorem outOk_empty : OutOk {} := ⟨rfl, by intro p h; cases h⟩

theorem inv_init : Inv init := by
  refine ⟨by simp [init], ?_, by intro i h; cases h⟩
  intro j sl h
  simp only [init, List.getElem?_replicate] at h
  split at h
  · cases h; simp [SlotOk, Slot.zero, demuxBufExtent, demuxStoreGuard]
  · cases h

theorem slotOk_reset {sl : Slot} (h : SlotOk sl) : SlotOk sl.reset := ⟨h.1, Or.inl rfl, Nat.zero_le _⟩

theorem inv_discard {s : State} (hlen : s.slots.length = demuxClasses * demuxSubclasses)
    (hok : ∀ (j : Nat) (sl : Slot), s.slots[j]? = some sl → SlotOk sl) (sp : Option Nat) : Inv (discard s sp) :=
  ⟨(resetAt_length _ _).trans hlen, all_resetAt hok (fun _ => slotOk_reset) sp, by intro i hi; cases hi⟩

theorem inv_clear {s : State} (h : Inv s) : Inv { s with curr := none } :=
  inv_discard h.len h.ok none

theorem Inv.cur_slot {s : State} {i : Nat} (h : Inv s) (hi : s.curr = some i) :
    ∃ sl, s.slots[i]? = some sl ∧ SlotOk sl ∧ 2 ≤ sl.count := by
  obtain ⟨⟨sl, hsl, h2⟩, _⟩ := h.cur i hi
  exact ⟨sl, hsl, h.ok _ _ hsl, h2⟩

theorem slot_lt {s : State} (h : Inv s) {cls sub : Nat} (hacc : accepted cls sub) :
    ∃ sl, s.slots[slotOf cls sub]? = some sl := by
  apply getElem?_lt
  rw [h.len]
  simp only [accepted, slotOf, demuxMaxClass, demuxSubclasses, demuxClasses] at *
  omega

theorem cls_le (c1 : Nat) (h : c1 ≤ 14) : (c1 - 1) >>> 1 ≤ 6 := by
  rw [Nat.shiftRight_eq_div_pow]; omega

/-! ### the cases of the `switch`, one equation each

The remaining branches of `header`, `terminator`, `content` (a buffer index outside the array, a
count of 1, a length the packet structure cannot hold) are excluded by `Inv`. -/

theorem rejected_iff (cls c2 : Nat) : (cls > demuxMaxClass ∨ remap c2 ≥ demuxSubclasses) ↔ ¬ accepted cls c2 := by
  simp only [accepted]; omega

theorem header_rejected (rk : Bool) (s : State) {c1 c2 : Nat} (h : ¬ accepted ((c1 - 1) >>> 1) c2) :
    header rk s c1 c2 = (if rk then { s with curr := none } else discard s s.curr, {}) := by
  simp only [header, rejected_iff, h, not_false_eq_true, if_true]
  cases rk <;> rfl

theorem header_accepted (rk : Bool) {s : State} {c1 c2 cls : Nat} {sl : Slot} (hc : (c1 - 1) >>> 1 = cls)
    (h : accepted cls c2) (hsl : s.slots[slotOf cls c2]? = some sl) :
    header rk s c1 c2 =
      (if c1 % 2 = 1 then
         { slots := s.slots.set (slotOf cls c2) (sl.start c1 c2), curr := some (slotOf cls c2), curCls := cls, curSub := c2 }
       else if sl.count = 0 then
         discard { s with curr := some (slotOf cls c2), curCls := cls, curSub := c2 } (some (slotOf cls c2))
       else { s with curr := some (slotOf cls c2), curCls := cls, curSub := c2 }, {}) := by
  subst hc
  simp only [slotOf] at hsl ⊢
  simp only [header, rejected_iff, h, not_true_eq_false, if_false, hsl]
  split
  · rfl
  · split <;> rfl

theorem terminator_idle {s : State} (c1 c2 : Nat) (h : s.curr = none) : terminator s c1 c2 = (s, {}) := by
  simp only [terminator, h]

theorem terminator_ok {s : State} {i : Nat} {sl : Slot} (c1 c2 : Nat) (hi : s.curr = some i)
    (hsl : s.slots[i]? = some sl) (hok : SlotOk sl) :
    terminator s c1 c2 = (discard s (some i),
      if (sl.cksum + c1 + c2) % 128 = 0 ∧ 2 < sl.count
      then { pkt := some ⟨s.curCls, s.curSub, sl.buf.take (sl.count - 2)⟩ } else {}) := by
  have hn := hok.2.2
  simp only [demuxStoreGuard] at hn
  have h3 : ¬(sl.count - 2 ≥ demuxPktExtent) := by simp only [demuxPktExtent]; omega
  have h4 : ¬(sl.count - 2 > demuxBufExtent) := by simp only [demuxBufExtent]; omega
  simp only [terminator, hi, hsl, h3, h4, if_false, pair_ite, term_cond]

theorem content_idle {s : State} (c1 c2 : Nat) (h : s.curr = none) : content s c1 c2 = (s, {}) := by
  simp only [content, h]

theorem content_ok {s : State} {i : Nat} {sl : Slot} (c1 c2 : Nat) (hi : s.curr = some i)
    (hsl : s.slots[i]? = some sl) (h2 : 2 ≤ sl.count) :
    content s c1 c2 =
      if sl.count > demuxStoreGuard then (discard s (some i), {})
      else ({ s with slots := s.slots.set i (sl.store c1 c2) }, {}) := by
  have h5 : ¬(sl.count < 2) := by omega
  simp only [content, hi, hsl, h5, if_false]
  split
  · rfl
  · rename_i hg
    simp only [demuxStoreGuard] at hg
    rw [if_neg (by simp only [demuxBufExtent]; omega)]

theorem step7_header (rk : Bool) (s : State) {c1 : Nat} (c2 : Nat) (h1 : 1 ≤ c1) (h14 : c1 ≤ 14) :
    step7 rk s c1 c2 = header rk s c1 c2 := switch_hdr _ _ _ _ _ h1 h14

theorem step7_term (rk : Bool) (s : State) (c2 : Nat) : step7 rk s 15 c2 = terminator s 15 c2 := rfl

theorem step7_content (rk : Bool) (s : State) {c1 : Nat} (c2 : Nat) (h : 32 ≤ c1) :
    step7 rk s c1 c2 = content s c1 c2 := switch_chr _ _ _ _ _ h

theorem step7_eq (rk : Bool) (s : State) (c1 c2 : Nat) :
    (c1 = 0 ∧ step7 rk s c1 c2 = (s, {})) ∨
    (1 ≤ c1 ∧ c1 ≤ 14 ∧ step7 rk s c1 c2 = header rk s c1 c2) ∨
    (c1 = 15 ∧ step7 rk s c1 c2 = terminator s c1 c2) ∨
    (16 ≤ c1 ∧ c1 ≤ 31 ∧ step7 rk s c1 c2 = ({ s with curr := none }, {})) ∨
    (32 ≤ c1 ∧ step7 rk s c1 c2 = content s c1 c2) := switch_cases _ _ _ _ _ c1

theorem inv_header (rk : Bool) {s : State} (h : Inv s) (c1 c2 : Nat) :
    Inv (header rk s c1 c2).1 ∧ OutOk (header rk s c1 c2).2 := by
  by_cases hacc : accepted ((c1 - 1) >>> 1) c2
  · obtain ⟨sl, hsl⟩ := slot_lt h hacc
    have hok := h.ok _ _ hsl
    rw [header_accepted rk rfl hacc hsl]
    refine ⟨?_, outOk_empty⟩
    simp only []
    split
    · refine ⟨by simp [h.len], all_set h.ok ⟨hok.1, Or.inr (Nat.le_refl _), by simp [Slot.start, demuxStoreGuard]⟩, ?_⟩
      intro i hi; cases hi
      exact ⟨⟨_, List.getElem?_set_self (lt_of_getElem? hsl), Nat.le_refl 2⟩, hacc, rfl⟩
    · split
      · exact inv_discard (s := { s with curr := some _, curCls := _, curSub := _ }) h.len h.ok _
      · refine ⟨h.len, h.ok, ?_⟩
        intro i hi; cases hi
        exact ⟨⟨sl, hsl, by have := hok.2.1; omega⟩, hacc, rfl⟩
  · rw [header_rejected rk s hacc]
    cases rk
    · exact ⟨inv_discard h.len h.ok _, outOk_empty⟩
    · exact ⟨inv_clear h, outOk_empty⟩

theorem inv_terminator {s : State} (h : Inv s) (c1 c2 : Nat) :
    Inv (terminator s c1 c2).1 ∧ OutOk (terminator s c1 c2).2 := by
  cases hc : s.curr with
  | none => rw [terminator_idle _ _ hc]; exact ⟨h, outOk_empty⟩
  | some i =>
    obtain ⟨sl, hsl, hok, _⟩ := h.cur_slot hc
    rw [terminator_ok c1 c2 hc hsl hok]
    refine ⟨inv_discard h.len h.ok _, ?_⟩
    simp only []
    split
    · rename_i hd
      refine ⟨rfl, ?_⟩
      intro p hp
      cases hp
      obtain ⟨hlen, _, hcnt⟩ := hok
      simp only [demuxStoreGuard] at hcnt
      simp only [PktOk, List.length_take, hlen, demuxBufExtent]
      exact ⟨by omega, by omega, (h.cur i hc).2.1⟩
    · exact outOk_empty

theorem inv_content {s : State} (h : Inv s) (c1 c2 : Nat) :
    Inv (content s c1 c2).1 ∧ OutOk (content s c1 c2).2 := by
  cases hc : s.curr with
  | none => rw [content_idle _ _ hc]; exact ⟨h, outOk_empty⟩
  | some i =>
    obtain ⟨sl, hsl, hok, h2⟩ := h.cur_slot hc
    rw [content_ok c1 c2 hc hsl h2]
    split
    · exact ⟨inv_discard h.len h.ok _, outOk_empty⟩
    · rename_i hg
      refine ⟨⟨by simp [h.len], all_set h.ok ?_, ?_⟩, outOk_empty⟩
      · simp only [SlotOk, demuxStoreGuard, Slot.store_buf_length] at hg ⊢
        refine ⟨hok.1, Or.inr ?_, ?_⟩ <;> (simp only [Slot.store]; split <;> omega)
      · intro j hj
        rw [hc] at hj
        cases hj
        exact ⟨⟨_, List.getElem?_set_self (lt_of_getElem? hsl), by simp only [Slot.store]; omega⟩, (h.cur i hc).2⟩

theorem inv_step7 (rk : Bool) {s : State} (h : Inv s) (c1 c2 : Nat) :
    Inv (step7 rk s c1 c2).1 ∧ OutOk (step7 rk s c1 c2).2 := by
  rcases step7_eq rk s c1 c2 with ⟨_, e⟩ | ⟨_, _, e⟩ | ⟨_, e⟩ | ⟨_, _, e⟩ | ⟨_, e⟩ <;> rw [e]
  · exact ⟨h, outOk_empty⟩
  · exact inv_header rk h c1 c2
  · exact inv_terminator h c1 c2
  · exact ⟨inv_clear h, outOk_empty⟩
  · exact inv_content h c1 c2

theorem inv_step (rk : Bool) {s : State} (h : Inv s) (b : Nat × Nat) :
    Inv (step rk s b).1 ∧ OutOk (step rk s b).2 := by
  unfold step
  split
  · exact inv_step7 rk h _ _
  · exact ⟨inv_discard h.len h.ok _, rfl, by intro p hp; cases hp⟩

theorem run_eq (rk : Bool) : ∀ (bs : List (Nat × Nat)) (s : State), run rk s bs = grun (step rk) s bs
  | [], _ => rfl
  | b :: bs, s => by simp only [run, grun, run_eq rk bs]

theorem inv_run (rk : Bool) (bs : List (Nat × Nat)) {s : State} (h : Inv s) :
    Inv (run rk s bs).1 ∧ ∀ o ∈ (run rk s bs).2, OutOk o := by
  rw [run_eq]; exact grun_inv bs (fun b _ s hs => inv_step rk hs b) h

/-! ## xds_demux.c: the phases of one packet -/

variable (rk : Bool) {s : State} {cls sub : Nat} {done : List Pair}

theorem step_parPair (s : State) (q : Pair) (h : q.1 < 128 ∧ q.2 < 128) :
    step rk s (parPair q) = step7 rk s q.1 q.2 := by
  simp [step, parPair, unpar8_par8 _ h.1, unpar8_par8 _ h.2]

/-- packet (cls, sub) is the current one, `done` are the payload pairs stored so far -/
structure OpenAt (cls sub : Nat) (done : List Pair) (s : State) : Prop where
  inv : Inv s
  cur : s.curr = some (slotOf cls sub)
  lab : s.curCls = cls ∧ s.curSub = sub
  slot : ∃ sl, s.slots[slotOf cls sub]? = some sl ∧ Holds cls sub done sl

/-- packet (cls, sub) is interrupted: its buffer keeps `done`, something else (or nothing) is current -/
structure Parked (cls sub : Nat) (done : List Pair) (s : State) : Prop where
  inv : Inv s
  cur : s.curr ≠ some (slotOf cls sub)
  slot : ∃ sl, s.slots[slotOf cls sub]? = some sl ∧ Holds cls sub done sl

/-! ## xds_demux.c: pairs that do not belong to the packet in buffer `i` -/

/-- a header for another buffer leaves buffer `i` alone, also when `i` is the current one - unless the
    header is refused and the refusal resets the interrupted packet (`rk = false`) -/
theorem header_frame (h : Inv s) (i c1 c2 : Nat)
    (hno : ¬(accepted ((c1 - 1) >>> 1) c2 ∧ slotOf ((c1 - 1) >>> 1) c2 = i))
    (hcur : s.curr = some i → accepted ((c1 - 1) >>> 1) c2 ∨ rk = true) :
    (header rk s c1 c2).1.slots[i]? = s.slots[i]? ∧ (header rk s c1 c2).1.curr ≠ some i ∧
    (header rk s c1 c2).2.pkt = none := by
  by_cases hacc : accepted ((c1 - 1) >>> 1) c2
  · obtain ⟨sl, hsl⟩ := slot_lt h hacc
    have hidx : slotOf ((c1 - 1) >>> 1) c2 ≠ i := fun e => hno ⟨hacc, e⟩
    rw [header_accepted rk rfl hacc hsl]
    simp only []
    split
    · exact ⟨List.getElem?_set_ne hidx, some_ne hidx, trivial⟩
    · split
      · exact ⟨resetAt_ne _ _ _ (some_ne hidx), nofun, trivial⟩
      · exact ⟨rfl, some_ne hidx, trivial⟩
  · rw [header_rejected rk s hacc]
    cases rk
    · exact ⟨resetAt_ne _ _ _ (fun e => by cases hcur e <;> contradiction), nofun, rfl⟩
    · exact ⟨rfl, nofun, rfl⟩

theorem terminator_frame (h : Inv s) (i c1 c2 : Nat) (hcur : s.curr ≠ some i) :
    (terminator s c1 c2).1.slots[i]? = s.slots[i]? ∧ (terminator s c1 c2).1.curr ≠ some i ∧
    ∀ p, (terminator s c1 c2).2.pkt = some p → slotOf p.cls p.sub ≠ i := by
  cases hc : s.curr with
  | none => rw [terminator_idle _ _ hc]; exact ⟨rfl, hc ▸ nofun, nofun⟩
  | some j =>
    obtain ⟨sl, hsl, hok, _⟩ := h.cur_slot hc
    rw [terminator_ok c1 c2 hc hsl hok]
    refine ⟨resetAt_ne _ _ _ (hc ▸ hcur), nofun, ?_⟩
    intro p hp
    simp only [apply_ite Out.pkt] at hp
    split at hp
    · cases hp
      rw [← (h.cur j hc).2.2]
      exact fun e => hcur (hc.trans (congrArg some e))
    · cases hp

theorem content_frame (h : Inv s) (i c1 c2 : Nat) (hcur : s.curr ≠ some i) :
    (content s c1 c2).1.slots[i]? = s.slots[i]? ∧ (content s c1 c2).1.curr ≠ some i ∧
    (content s c1 c2).2.pkt = none := by
  cases hc : s.curr with
  | none => rw [content_idle _ _ hc]; exact ⟨rfl, hc ▸ nofun, rfl⟩
  | some j =>
    obtain ⟨sl, hsl, _, h2⟩ := h.cur_slot hc
    rw [content_ok c1 c2 hc hsl h2]
    split
    · exact ⟨resetAt_ne _ _ _ (hc ▸ hcur), nofun, rfl⟩
    · exact ⟨List.getElem?_set_ne (fun e => hcur (hc.trans (congrArg some e))), hc ▸ hcur, rfl⟩

theorem frame_step7 (h : Inv s) (i : Nat) (hcur : s.curr ≠ some i) (c1 c2 : Nat)
    (hno : ¬ Opens i (c1, c2)) :
    (step7 rk s c1 c2).1.slots[i]? = s.slots[i]? ∧ (step7 rk s c1 c2).1.curr ≠ some i ∧
    ∀ p, (step7 rk s c1 c2).2.pkt = some p → slotOf p.cls p.sub ≠ i := by
  rcases step7_eq rk s c1 c2 with ⟨_, e⟩ | ⟨h1, h14, e⟩ | ⟨_, e⟩ | ⟨_, _, e⟩ | ⟨_, e⟩ <;> rw [e]
  · exact ⟨rfl, hcur, nofun⟩
  · obtain ⟨f1, f2, f3⟩ := header_frame rk h i c1 c2 (fun ⟨a, b⟩ => hno ⟨h1, h14, a, b⟩) (fun e => absurd e hcur)
    exact ⟨f1, f2, by rw [f3]; exact nofun⟩
  · exact terminator_frame h i c1 c2 hcur
  · exact ⟨rfl, nofun, nofun⟩
  · obtain ⟨f1, f2, f3⟩ := content_frame h i c1 c2 hcur
    exact ⟨f1, f2, by rw [f3]; exact nofun⟩

/-! ## xds_demux.c is a reassembler -/

/-- `vbi_xds_demux_feed` as a reassembler: a packet is interrupted by a block that starts with a caption control code or a
    header for another buffer; every unreadable pair drops the current packet, whatever the state -/
def reasm (rk : Bool) : Reasm State Out where
  raw := step rk
  step s q := step7 rk s q.1 q.2
  pkt := (·.pkt)
  slot := slotOf
  acc := accepted
  Inv := Inv
  Idle s := s.curr = none
  Open := OpenAt
  Parked := Parked
  Foreign := ForeignBlock rk
  Bad b := unpar8 b.1 = none ∨ unpar8 b.2 = none
  Armed _ := True

theorem parked_run : ∀ (qs : List Pair) {s : State},
    Parked cls sub done s → (∀ q ∈ qs, ¬ Opens (slotOf cls sub) q) →
    Parked cls sub done (grun (reasm rk).step s qs).1 ∧ forSlot (slotOf cls sub) (grun (reasm rk).step s qs).2 = []
  | [], s, h, _ => ⟨h, rfl⟩
  | q :: qs, s, h, hq => by
    obtain ⟨f1, f2, f3⟩ := frame_step7 rk h.inv (slotOf cls sub) h.cur q.1 q.2 (hq q (by simp))
    have hp : Parked cls sub done (step7 rk s q.1 q.2).1 :=
      ⟨(inv_step7 rk h.inv q.1 q.2).1, f2, by rw [f1]; exact h.slot⟩
    obtain ⟨g1, g2⟩ := parked_run qs hp (fun q' hq' => hq q' (by simp [hq']))
    exact ⟨g1, (forSlot_cons_ne _ _ _ f3).trans g2⟩

theorem idle_step (hc : s.curr = none) {q : Pair} (hq : ¬(1 ≤ q.1 ∧ q.1 ≤ 14)) : step7 rk s q.1 q.2 = (s, {}) := by
  rcases step7_eq rk s q.1 q.2 with ⟨_, e⟩ | ⟨h1, h14, _⟩ | ⟨_, e⟩ | ⟨_, _, e⟩ | ⟨_, e⟩
  · exact e
  · exact absurd ⟨h1, h14⟩ hq
  · rw [e, terminator_idle _ _ hc]
  · obtain ⟨sl, cu, a, b⟩ := s
    cases hc; exact e
  · rw [e, content_idle _ _ hc]

/-- while nothing is current, pairs other than headers do nothing at all -/
theorem idle_run (hc : s.curr = none) : ∀ (qs : List Pair), (∀ q ∈ qs, ¬(1 ≤ q.1 ∧ q.1 ≤ 14)) →
    grun (reasm rk).step s qs = (s, qs.map fun _ => {})
  | [], _ => rfl
  | q :: qs, hq => by
    have e : (reasm rk).step s q = (s, {}) := idle_step rk hc (hq q (by simp))
    rw [grun, e, idle_run hc qs fun q' h => hq q' (by simp [h])]; rfl

theorem run7_eq : ∀ (qs : List Pair) (s : State), run7 rk s qs = grun (reasm rk).step s qs
  | [], _ => rfl
  | q :: qs, s => by simp only [run7, grun, run7_eq qs]; rfl

/-- `vbi_xds_demux_feed` obeys the laws.  The flag `rk` only matters in `leave`: with `rk = false` a refused header is
    no `Leaves` pair, because the refusal resets the packet it interrupts. -/
theorem laws : (reasm rk).Laws where
  par h := step_parPair rk _ _ h
  start {s cls sub} h hacc := by
    obtain ⟨sl, hsl⟩ := slot_lt h hacc
    have hc : cls ≤ 3 := hacc.1
    have hinv := (inv_step7 rk h (2 * cls + 1) sub).1
    dsimp only [Reasm.Quiet, reasm]
    rw [step7_header rk s sub (by omega) (by omega), header_accepted rk (shift_cls cls).1 hacc hsl,
      if_pos (by omega)] at hinv ⊢
    exact ⟨⟨hinv, rfl, ⟨rfl, rfl⟩, _, List.getElem?_set_self (lt_of_getElem? hsl), Holds.start sl cls sub⟩, rfl⟩
  content {s cls sub done q} h hq hfit := by
    obtain ⟨sl, hsl, hh⟩ := h.slot
    have hlen := (h.inv.ok _ _ hsl).1
    have hinv := (inv_step7 rk h.inv q.1 q.2).1
    dsimp only [Reasm.Quiet, reasm]
    rw [step7_content rk s q.2 hq.1, content_ok q.1 q.2 h.cur hsl (by rw [hh.1]; omega),
      if_neg (by rw [hh.1]; simp only [demuxStoreGuard]; omega)] at hinv ⊢
    exact ⟨⟨hinv, h.cur, h.lab, _, List.getElem?_set_self (lt_of_getElem? hsl),
      hh.store q (by rw [hlen]; simp only [demuxBufExtent]; omega)⟩, rfl⟩
  overflow {s cls sub done q} h hq hfull := by
    obtain ⟨sl, hsl, hc, _, _⟩ := h.slot
    dsimp only [Reasm.Quiet, reasm]
    rw [step7_content rk s q.2 hq.1, content_ok q.1 q.2 h.cur hsl (by omega),
      if_pos (by simp only [demuxStoreGuard]; omega)]
    exact ⟨rfl, rfl⟩
  finish {s p} ck hv _ h := by
    obtain ⟨sl, hsl, hh⟩ := h.slot
    obtain ⟨hcond, htake⟩ := hh.complete hv ck
    dsimp only [reasm]
    rw [step7_term, terminator_ok 15 ck h.cur hsl (h.inv.ok _ _ hsl)]
    exact ⟨rfl, by simp only [hcond, apply_ite Out.pkt, h.lab.1, h.lab.2, htake, Packet.toPkt]⟩
  idle hc hq := by
    dsimp only [Reasm.Quiet, reasm]
    rw [idle_step rk hc hq]; exact ⟨hc, rfl⟩
  leave {s cls sub done blk} h hb := by
    obtain ⟨q, r, rfl, hl, hr⟩ := hb
    -- the first pair: a caption control code clears `sp`, a header for another buffer moves it
    have a : Parked cls sub done (step7 rk s q.1 q.2).1 ∧ (step7 rk s q.1 q.2).2.pkt = none := by
      have hinv := (inv_step7 rk h.inv q.1 q.2).1
      rcases hl with ⟨h1, h2⟩ | ⟨h1, h2, hno, hacc⟩
      · rcases step7_eq rk s q.1 q.2 with ⟨_, _⟩ | ⟨_, _, _⟩ | ⟨_, _⟩ | ⟨_, _, e⟩ | ⟨_, _⟩ <;> try omega
        rw [e] at hinv ⊢
        exact ⟨⟨hinv, nofun, h.slot⟩, rfl⟩
      · rw [step7_header rk s q.2 h1 h2] at hinv ⊢
        obtain ⟨f1, f2, f3⟩ := header_frame rk h.inv (slotOf cls sub) q.1 q.2 (fun ⟨a, b⟩ => hno ⟨h1, h2, a, b⟩)
          (fun _ => hacc)
        exact ⟨⟨hinv, f2, by rw [f1]; exact h.slot⟩, f3⟩
    obtain ⟨b1, b2⟩ := parked_run rk r a.1 hr
    exact ⟨b1, (forSlot_cons_none _ _ _ _ a.2).trans b2⟩
  cont {s cls sub done} h hacc := by
    obtain ⟨sl, hsl, hh⟩ := h.slot
    have hc : cls ≤ 3 := hacc.1
    have hinv := (inv_step7 rk h.inv (2 * cls + 2) sub).1
    dsimp only [Reasm.Quiet, reasm]
    rw [step7_header rk s sub (by omega) (by omega), header_accepted rk (shift_cls cls).2 hacc hsl,
      if_neg (by omega), if_neg (by rw [hh.1]; omega)] at hinv ⊢
    exact ⟨⟨hinv, rfl, ⟨rfl, rfl⟩, sl, hsl, hh⟩, rfl⟩
  armed _ := trivial
  bad {s b} hbad _ := by
    dsimp only [reasm]
    unfold step
    rcases hbad with hb | hb
    · rw [hb]; exact ⟨rfl, rfl⟩
    · rw [hb]; cases unpar8 b.1 <;> exact ⟨rfl, rfl⟩

/-! ## vbi_xds_demux_feed_frame -/

theorem header_r (s : State) (c1 c2 : Nat) : (header rk s c1 c2).2.r = true := by
  unfold header
  simp only []
  split
  · split <;> rfl
  · split
    · rfl
    · split
      · rfl
      · split <;> rfl

theorem terminator_r (s : State) (c1 c2 : Nat) : (terminator s c1 c2).2.r = true := by
  unfold terminator
  split
  · rfl
  · split
    · rfl
    · simp only [apply_ite Prod.snd, apply_ite Out.r, ite_self]

theorem content_r (s : State) (c1 c2 : Nat) : (content s c1 c2).2.r = true := by
  unfold content
  split
  · rfl
  · split
    · rfl
    · simp only [apply_ite Prod.snd, apply_ite Out.r, ite_self]

/-- only the parity check refuses a pair: every branch of the `switch` ends in `return TRUE` (in the model: every `Out`
    the three cases build is `{}`, `{ pkt := _ }` or `{ err := _ }`, whose `r` is the default `true`) -/
theorem step7_r (s : State) (c1 c2 : Nat) : (step7 rk s c1 c2).2.r = true := by
  unfold step7
  simp only [apply_ite Prod.snd, apply_ite Out.r, header_r, terminator_r, content_r, ite_self]

end Demux

namespace Frame

/-- `vbi_xds_demux_feed` returns TRUE exactly for a pair with two correct parities -/
theorem step_r (rk : Bool) (s : Demux.State) (b : Nat × Nat) :
    (Demux.step rk s b).2.r = ((unpar8 b.1).isSome && (unpar8 b.2).isSome) := by
  unfold Demux.step
  cases h1 : unpar8 b.1 with
  | none => rfl
  | some c1 =>
    cases h2 : unpar8 b.2 with
    | none => rfl
    | some c2 => exact Demux.step7_r rk s c1 c2

theorem feedUntilRefused_readable (rk : Bool) : ∀ (bs : List (Nat × Nat)) (s : Demux.State),
    (∀ b ∈ bs, (unpar8 b.1).isSome ∧ (unpar8 b.2).isSome) →
    feedUntilRefused rk s bs = ((Demux.run rk s bs).1, true, (Demux.run rk s bs).2)
  | [], s, _ => rfl
  | b :: bs, s, h => by
    have hb := h b (by simp)
    have hr : (Demux.step rk s b).2.r = true := by rw [step_r, hb.1, hb.2]; rfl
    simp only [feedUntilRefused, hr, if_true, Demux.run]
    rw [feedUntilRefused_readable rk bs _ (fun b' h' => h b' (by simp [h']))]

/-- the first unreadable pair ends the call with FALSE; the pairs behind it are not fed -/
theorem feedUntilRefused_refused (rk : Bool) : ∀ (pre : List (Nat × Nat)) (bad : Nat × Nat) (post : List (Nat × Nat))
    (s : Demux.State), (∀ b ∈ pre, (unpar8 b.1).isSome ∧ (unpar8 b.2).isSome) →
    ((unpar8 bad.1).isSome && (unpar8 bad.2).isSome) = false →
    (feedUntilRefused rk s (pre ++ bad :: post)).1 = (Demux.run rk s (pre ++ [bad])).1 ∧
    (feedUntilRefused rk s (pre ++ bad :: post)).2.1 = false ∧
    (feedUntilRefused rk s (pre ++ bad :: post)).2.2 = (Demux.run rk s (pre ++ [bad])).2
  | [], bad, post, s, _, hb => by
    have hr : (Demux.step rk s bad).2.r = false := by rw [step_r]; exact hb
    simp [feedUntilRefused, hr, Demux.run]
  | b :: pre, bad, post, s, h, hb => by
    have hb' := h b (by simp)
    have hr : (Demux.step rk s b).2.r = true := by rw [step_r, hb'.1, hb'.2]; rfl
    obtain ⟨g1, g2, g3⟩ := feedUntilRefused_refused rk pre bad post (Demux.step rk s b).1
      (fun b' h' => h b' (by simp [h'])) hb
    simp only [List.cons_append, feedUntilRefused, hr, if_true, Demux.run]
    exact ⟨g1, g2, by rw [g3]⟩

end Frame

end Zvbi.Xds
