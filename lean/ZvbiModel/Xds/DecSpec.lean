import ZvbiModel.Xds.Dec
/-!
# C09: what the theorems about `xds_decoder` (`Dec`) speak of

The array extents (`PIWf`, `Wf`, `AWf`), the field groups of a `vbi_program_info` and of the network (`Grp`, `NetF`,
`Field`) with what an application reads of them (`view`, `nview`, `fview`), the decoding of a packet for a group
(`decode`, `ndecode`, `fdecode`; `none` = `xds_decoder` ignores it), the documented flushes as conditions on the state
before the call (`pidFlush`, `titleFlush`, `flushes`, `callClears`, `ferased`), "unknown" (`unknown`, `funknown`),
histories that do not touch a field (`Undisturbed`, `StaticallyApart`), the fields a packet of another type leaves
alone (`Keep`), and the calls a byte-pair history causes (`sysCalls`).
`decode` is written from the packet layouts of EIA-608 / libzvbi.h (`vbi_program_info`); for the three table-driven types
it uses the same pure byte functions as the model (`ratingDecode`, `audioModeTab`, `lang`, `capStep`), which the `q`
correspondence ops compare with the C code for every byte value.
-/
namespace Zvbi.Xds
namespace Dec
open Zvbi.Gen.Xds

/-! ## array extents -/

structure PIWf (p : PI) : Prop where
  title : p.title.length = titleExt
  typeId : p.typeId.length = typeExt
  descN : p.description.length = 8
  desc : ∀ l ∈ p.description, l.length = descExt

structure Wf (v : Info) : Prop where
  pi0 : PIWf v.pi0
  pi1 : PIWf v.pi1
  name : v.net.name.length = nameExt
  call : v.net.call.length = callExt

structure AWf (v : Info) : Prop where
  m0 : v.pi0.audioMode.length = 2
  l0 : v.pi0.audioLang.length = 2
  m1 : v.pi1.audioMode.length = 2
  l1 : v.pi1.audioLang.length = 2

/-! ## the field groups of one `vbi_program_info` -/

/-- one group per packet type of the classes current / future -/
inductive Grp where
  | pid | len | title | ptype | rating | audio | capsvc | cgms | aspect
  | desc (line : Fin 8)
deriving DecidableEq, Repr

/-- the packet type carrying the group -/
def Grp.typ : Grp → Nat
  | .pid => 1 | .len => 2 | .title => 3 | .ptype => 4 | .rating => 5 | .audio => 6 | .capsvc => 7
  | .cgms => 8 | .aspect => 9 | .desc l => 0x10 + l.val

def ofNats (l : List Nat) : List Int := l.map Int.ofNat

/-- what an application reads of the group in a `vbi_program_info` (strings as C strings; the rating
    id / dlsv only when an authority is set, the type list only when `type_classf` is set - libzvbi.h) -/
def view : Grp → PI → List Int
  | .pid, p => [p.month, p.day, p.hour, p.min, if p.tapeDelayed then 1 else 0]
  | .len, p => [p.lengthHour, p.lengthMin, p.elapsedHour, p.elapsedMin, p.elapsedSec]
  | .title, p => ofNats (cstr p.title)
  | .ptype, p => if p.typeEia then 1 :: ofNats (cstr p.typeId) else [0]
  | .rating, p => if p.ratingAuth = 0 then [0] else [(p.ratingAuth : Int), (p.ratingId : Int), (p.ratingDlsv : Int)]
  | .audio, p => ofNats [p.audioMode.getD 0 9, p.audioMode.getD 1 9, p.audioLang.getD 0 0, p.audioLang.getD 1 0]
  | .capsvc, p => p.capServices :: ofNats p.capLang
  | .cgms, p => [p.cgms]
  | .aspect, p => [p.aspect.first, p.aspect.last, (p.aspect.ratio : Int)]
  | .desc l, p => ofNats (cstr (p.description.getD l.val []))

/-- the group after `vbi_reset_prog_info` -/
def unknown : Grp → List Int
  | .pid => [-1, -1, -1, -1, 0]
  | .len => [-1, -1, -1, -1, -1]
  | .title => []
  | .ptype => [0]
  | .rating => [0]
  | .audio => [9, 9, 0, 0]
  | .capsvc => [-1, 0, 0, 0, 0, 0, 0, 0, 0]
  | .cgms => [-1]
  | .aspect => [-1, -1, 0]
  | .desc _ => []

/-- a programme id packet with an impossible date or time (it is ignored) -/
def pidBad (d : List Nat) (nx : Nat) : Prop :=
  byteAt d nx 3 &&& 15 = 0 ∨ byteAt d nx 3 &&& 15 > 12 ∨ byteAt d nx 2 &&& 31 = 0 ∨ byteAt d nx 2 &&& 31 > 31 ∨
    byteAt d nx 1 &&& 31 > 23 ∨ byteAt d nx 0 &&& 63 > 59
instance (d : List Nat) (nx : Nat) : Decidable (pidBad d nx) := by unfold pidBad; infer_instance

/-- programme id: month, day, hour, minute + tape-delay flag; `none` = the packet is ignored -/
def decodePid (d : List Nat) (nx : Nat) : Option (List Int) :=
  let b := byteAt d nx
  if d.length ≠ 4 then none
  else if pidBad d nx then none
  else some [((b 3 &&& 15 : Nat) : Int) - 1, ((b 2 &&& 31 : Nat) : Int) - 1, ((b 1 &&& 31 : Nat) : Int),
             ((b 0 &&& 63 : Nat) : Int), if b 3 &&& 0x10 != 0 then 1 else 0]

/-- length (2 bytes), elapsed time (4), elapsed seconds (6) -/
def decodeLen (d : List Nat) (nx : Nat) : Option (List Int) :=
  let b := byteAt d nx
  let n := d.length
  let lhour : Int := ((b 1 &&& 63 : Nat) : Int)
  let lmin : Int := ((b 0 &&& 63 : Nat) : Int)
  let ehour : Int := if n ≥ 3 then ((b 3 &&& 63 : Nat) : Int) else -1
  let emin : Int := if n ≥ 3 then ((b 2 &&& 63 : Nat) : Int) else -1
  let esec : Int := if n ≥ 5 then ((b 4 &&& 63 : Nat) : Int) else 0
  if n < 2 ∨ n > 6 then none
  else if lmin > 59 ∨ emin > 59 ∨ esec > 59 then none
  else some [lhour, lmin, ehour, emin, esec]

/-- the decoding of a packet of the group's type with payload `d` (`nx` = the byte behind the payload,
    0 for the standard NUL-padded form); `none` = `xds_decoder` ignores the packet -/
def decode (g : Grp) (d : List Nat) (nx : Nat) : Option (List Int) :=
  let b := byteAt d nx
  let n := d.length
  match g with
  | .pid => decodePid d nx
  | .len => decodeLen d nx
  | .title => if n < 2 then none else some (ofNats (text d))
  | .ptype => some (1 :: ofNats (cstr d))
  | .rating =>
    if n ≠ 2 then none else
    match ratingDecode (b 0) (b 1) with
    | none => none
    | some (a, r, dl, _) => some [(a : Int), (r : Int), (dl : Int)]
  | .audio =>
    if n ≠ 2 then none else
    some (ofNats [audioModeTab 0 (b 0 &&& 7), audioModeTab 1 (b 1 &&& 7), lang ((b 0 >>> 3) &&& 7), lang ((b 1 >>> 3) &&& 7)])
  | .capsvc =>
    if n > 8 then none else
    let r := d.foldl (capStep false) (List.replicate 8 0, 0, false, [])
    some ((r.2.1 : Int) :: ofNats r.1)
  | .cgms => if n ≠ 1 then none else some [((b 0 &&& 63 : Nat) : Int)]
  | .aspect =>
    if n > 3 then none else
    some [((b 0 &&& 63 : Nat) : Int) + 22, 262 - ((b 1 &&& 63 : Nat) : Int), if n ≥ 3 ∧ b 2 &&& 1 != 0 then 2 else 1]
  | .desc _ => some (ofNats (text d))

/-! ## the documented flushes, as conditions on the state before the call -/

/-- month / day / hour / minute of the packet differ from the stored programme id -/
def pidNeq (v : Info) (cls : Nat) (d : List Nat) (nx : Nat) : Bool :=
  (v.pi cls).month != ((byteAt d nx 3 &&& 15 : Nat) : Int) - 1 || (v.pi cls).day != ((byteAt d nx 2 &&& 31 : Nat) : Int) - 1 ||
    (v.pi cls).hour != ((byteAt d nx 1 &&& 31 : Nat) : Int) || (v.pi cls).min != ((byteAt d nx 0 &&& 63 : Nat) : Int)

/-- a programme id packet that is valid and differs from the stored programme id: a new programme -/
def pidFlush (v : Info) (cls : Nat) (d : List Nat) (nx : Nat) : Bool :=
  decide (d.length = 4) && !decide (pidBad d nx) && pidNeq v cls d nx

/-- a programme name packet that repeats the stored name while the name is pending and no programme id
    is: "second occurrence without PIN" -/
def titleFlush (v : Info) (cls : Nat) (d : List Nat) : Bool :=
  decide (2 ≤ d.length) && !(strfuArr (v.pi cls).title d).neq && (v.cyc cls).contains 3 && !(v.cyc cls).contains 1

/-- call letters that differ from the stored ones while no changed network name is pending: the stored
    network name is forgotten -/
def callClears (v : Info) (d : List Nat) : Bool := (strfuArr v.net.call d).neq && v.net.cycle != 1

/-- does the call `xds_decoder (p)` in state `v` erase the programme information of class `cls`
    (`flush_prog_info` of that class, or `vbi_chsw_reset` after a changed network name)? -/
def flushes (v : Info) (p : Pkt) (nx : Nat) (cls : Nat) : Bool :=
  if p.data.length = 0 ∨ p.data.length > 32 then false
  else if p.cls = cls then (p.sub == 1 && pidFlush v cls p.data nx) || (p.sub == 3 && titleFlush v cls p.data)
  else if p.cls = 2 then (netFeed v p.sub p.data nx).2.chsw
  else false

/-! ## one call, one group -/

/-- the decoding of packet `p` for group `g` of class `cls`: `none` unless it is a packet of that class
    and type with 1..32 bytes that `xds_decoder` accepts -/
def progDecode (cls : Nat) (g : Grp) (p : Pkt) (nx : Nat) : Option (List Int) :=
  if p.data.length = 0 ∨ p.data.length > 32 then none
  else if p.cls = cls ∧ p.sub = g.typ then decode g p.data nx else none

/-! ## network fields -/

inductive NetF where
  | name | call | delay
deriving DecidableEq, Repr

def NetF.typ : NetF → Nat
  | .name => 1 | .call => 2 | .delay => 3

def nview : NetF → Net → List Int
  | .name, n => ofNats (cstr n.name)
  | .call, n => ofNats (cstr n.call)
  | .delay, n => [(n.tapeDelay : Int)]

/-- network name / call letters: the text; tape delay: minutes -/
def ndecode (f : NetF) (d : List Nat) (nx : Nat) : Option (List Int) :=
  match f with
  | .name => some (ofNats (text d))
  | .call => some (ofNats (text d))
  | .delay => if d.length ≠ 2 then none else some [(((byteAt d nx 1 &&& 31) * 60 + (byteAt d nx 0 &&& 63) : Nat) : Int)]

/-! ## every field `xds_decoder` exposes, uniformly -/

/-- a field group: one of the ten groups of the current (0) or future (1) programme, or a network field -/
inductive Field where
  | prog (cls : Fin 2) (g : Grp)
  | net (f : NetF)
deriving DecidableEq, Repr

/-- what the application reads -/
def fview : Field → Info → List Int
  | .prog c g, v => view g (v.pi c.val)
  | .net f, v => nview f v.net

/-- the decoding of packet `p` for the field: `none` unless `p` is a packet of the field's (class, type)
    with 1..32 bytes that `xds_decoder` accepts -/
def fdecode : Field → Pkt → Nat → Option (List Int)
  | .prog c g, p, nx => progDecode c.val g p nx
  | .net f, p, nx =>
    if p.data.length = 0 ∨ p.data.length > 32 then none
    else if p.cls = 2 ∧ p.sub = f.typ then ndecode f p.data nx else none

/-- does the call `xds_decoder (p)` in state `v` erase the field (a flush that reaches it)? -/
def ferased : Field → Info → Pkt → Nat → Bool
  | .prog c _, v, p, nx => flushes v p nx c.val
  | .net .name, v, p, _ => decide (¬(p.data.length = 0 ∨ p.data.length > 32)) && p.cls == 2 && p.sub == 2 && callClears v p.data
  | .net _, _, _, _ => false

/-- the field after a flush -/
def funknown : Field → List Int
  | .prog _ g => unknown g
  | .net .delay => [0]
  | .net _ => []

/-- the source shape the field law needs: the aspect ratio is stored in the programme of the packet's
    own class (`aspectAlwaysCurrent = false`, since 201beae; generated flag) -/
def Field.shapeOK : Field → Prop
  | .prog _ .aspect => aspectAlwaysCurrent = false
  | _ => True

/-! ## histories -/

/-- no call of the history, run from state `v`, touches field `f`: none is an accepted packet of `f`'s
    (class, type) and none is a flush that reaches `f` -/
def Undisturbed (f : Field) : Info → List (Pkt × Nat) → Prop
  | _, [] => True
  | v, q :: qs => fdecode f q.1 q.2 = none ∧ ferased f v q.1 q.2 = false ∧ Undisturbed f (step v q.1 q.2).1 qs

/-- field `f` is not the kind of thing packet `q` can touch, judged from `q`'s class and type alone:
    not `f`'s own (class, type), not a programme id / programme name of the same class, not a network
    name (2/1) - for the network name field: not call letters (2/2) either -/
def StaticallyApart : Field → Pkt → Prop
  | .prog c g, q => ¬(q.cls = c.val ∧ (q.sub = g.typ ∨ q.sub = 1 ∨ q.sub = 3)) ∧ ¬(q.cls = 2 ∧ q.sub = 1)
  | .net f, q => ¬(q.cls = 2 ∧ (q.sub = f.typ ∨ (f = .name ∧ q.sub = 2)))

instance (f : Field) (q : Pkt) : Decidable (StaticallyApart f q) := by
  cases f <;> simp only [StaticallyApart] <;> infer_instance

/-! ## events, and what a packet of another type leaves alone -/

def Ev.isProgInfo : Ev → Bool
  | .progInfo _ _ => true
  | _ => false

/-- `b` has the fields of `a` in every group other than the one of packet type `typ` -/
structure Keep (typ : Nat) (a b : PI) : Prop where
  pid : typ ≠ 1 → b.month = a.month ∧ b.day = a.day ∧ b.hour = a.hour ∧ b.min = a.min ∧ b.tapeDelayed = a.tapeDelayed
  len : typ ≠ 2 → b.lengthHour = a.lengthHour ∧ b.lengthMin = a.lengthMin ∧ b.elapsedHour = a.elapsedHour ∧
      b.elapsedMin = a.elapsedMin ∧ b.elapsedSec = a.elapsedSec
  title : typ ≠ 3 → b.title = a.title
  ptype : typ ≠ 4 → b.typeEia = a.typeEia ∧ b.typeId = a.typeId
  rating : typ ≠ 5 → b.ratingAuth = a.ratingAuth ∧ b.ratingId = a.ratingId ∧ b.ratingDlsv = a.ratingDlsv
  audio : typ ≠ 6 → b.audioMode = a.audioMode ∧ b.audioLang = a.audioLang
  capsvc : typ ≠ 7 → b.capServices = a.capServices ∧ b.capLang = a.capLang
  cgms : typ ≠ 8 → b.cgms = a.cgms
  aspect : typ ≠ 9 → b.aspect = a.aspect
  desc : ∀ l : Fin 8, typ ≠ 0x10 + l.val → b.description.getD l.val [] = a.description.getD l.val []

/-! ## behind the separator: the calls a byte-pair history makes -/

/-- the calls `xds_decoder (packet, buffer[length])` that the byte pairs `bs` on line 284 cause, in order,
    starting from separator state `s` -/
def sysCalls (ec : Bool) : Sep.State → List (Nat × Nat) → List (Pkt × Nat)
  | _, [] => []
  | s, b :: bs =>
    match (Sep.step ec s b).2.dec with
    | none => sysCalls ec (Sep.step ec s b).1 bs
    | some p => (p, nxOf s) :: sysCalls ec (Sep.step ec s b).1 bs

end Dec
end Zvbi.Xds
