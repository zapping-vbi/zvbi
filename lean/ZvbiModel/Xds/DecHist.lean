import ZvbiModel.Xds.DecLemmas
/-!
# C09: `Dec` over packet histories

The one-call law "own packet -> its decoding; flush -> unknown; anything else -> unchanged" (`step_field`) from what a
call does to its own group (`feed_own`) and what it leaves alone (`feed_keep`), the induction over histories (`run_cut`),
events, and the announcement on the repeat.  The notions are those of DecSpec.lean.
-/
namespace Zvbi.Xds
namespace Dec
open Zvbi.Gen.Xds

theorem awf_init : AWf init := ⟨rfl, rfl, rfl, rfl⟩

theorem awf_pi {v : Info} (h : AWf v) (cls : Nat) : (v.pi cls).audioMode.length = 2 ∧ (v.pi cls).audioLang.length = 2 := by
  unfold Info.pi; split
  · exact ⟨h.m0, h.l0⟩
  · exact ⟨h.m1, h.l1⟩

/-! ## `view` of a reset programme -/

theorem cstr_set_zero (l : List Nat) (h : 0 < l.length) : cstr (l.set 0 0) = [] := by
  cases l with
  | nil => simp at h
  | cons a t => simp [cstr]

theorem view_reset (g : Grp) {p : PI} (h : PIWf p) : view g p.reset = unknown g := by
  cases g with
  | title => simp [view, unknown, PI.reset, ofNats, cstr_set_zero p.title (by rw [h.title]; decide)]
  | desc l =>
    have hl : l.val < p.description.length := by rw [h.descN]; exact l.isLt
    have hlen : (p.description[l.val]).length = descExt := h.desc _ (List.getElem_mem hl)
    simp [view, unknown, PI.reset, ofNats, List.getD_eq_getElem?_getD, List.getElem?_map,
      List.getElem?_eq_getElem hl, cstr_set_zero (p.description[l.val]) (by rw [hlen]; decide)]
  | pid => simp [view, unknown, PI.reset]
  | len => simp [view, unknown, PI.reset]
  | ptype => simp [view, unknown, PI.reset]
  | rating => simp [view, unknown, PI.reset]
  | audio => simp [view, unknown, PI.reset, ofNats]
  | capsvc => simp [view, unknown, PI.reset, ofNats, List.replicate]
  | cgms => simp [view, unknown, PI.reset]
  | aspect => simp [view, unknown, PI.reset]

theorem view_init (g : Grp) (cls : Nat) : view g (init.pi cls) = unknown g := by
  have e : init.pi cls = ({} : PI) := by unfold Info.pi init; split <;> rfl
  rw [e]
  have : ({} : PI) = ({} : PI).reset := by decide
  rw [this]; exact view_reset g piwf_init

/-! ## what a packet leaves alone -/

/-- what a call leaves of the programme information of class `c`: outside the packet's own group the fields it had - or,
    with `fl` (the call erases the programme first), those of the reset record; and the whole description array unless
    the programme is erased or the packet is a description line -/
def Kept (typ c : Nat) (v : Info) (fl : Bool) (r : Info × Out) : Prop :=
  Keep typ (if fl then (v.pi c).reset else v.pi c) (r.1.pi c) ∧
  (fl = false → ¬(0x10 ≤ typ ∧ typ ≤ 0x17) → (r.1.pi c).description = (v.pi c).description)

section
variable {typ c : Nat} {v w : Info} {fl : Bool} {r : Info × Out}

theorem Kept.of_eq {fl' : Bool} (h : fl = fl') (k : Kept typ c v fl' r) : Kept typ c v fl r := h ▸ k

theorem Kept.ignored : Kept typ c v false (v, {}) := ⟨keep_refl _ _, fun _ _ => rfl⟩

theorem Kept.erased (t : Nat) (neq : Bool) (pre : List Ev) (err : Option String) (k : Keep typ (v.pi c).reset (w.pi c)) :
    Kept typ c v true (fin w c t neq pre err) := by
  unfold Kept; rw [pi_fin]; exact ⟨k, nofun⟩

end

theorem keep_pid (a : PI) (m dd h mi : Int) (t : Bool) :
    Keep 1 a { a with month := m, day := dd, hour := h, min := mi, tapeDelayed := t } := by keep_rfl

theorem keep_title (a : PI) (l : List Nat) : Keep 3 a { a with title := l } := by keep_rfl

/-- an aspect ratio packet, seen from either class -/
theorem feed_aspect_kept (v : Info) (cls c : Nat) (d : List Nat) (nx : Nat) : Kept 9 c v false (feed v cls 9 d nx) := by
  have k := fun tc r => keep_aspect_of v tc c r
  have a : ∀ {w : Info} {neq pre} (tc r), w.pi c = (v.setPi tc { v.pi tc with aspect := r }).pi c →
      Kept 9 c v false (fin w cls 9 neq pre none) := by
    intro w neq pre tc r e
    unfold Kept
    rw [pi_fin, e]
    exact ⟨(k _ _).1, fun _ _ => (k _ _).2⟩
  rw [feed_aspect_eq]
  exact ite_both .ignored (ite_both (ite_both (a _ _ rfl) (a _ _ rfl))
    (by unfold Kept; rw [pi_fin]; exact ⟨keep_refl _ _, fun _ _ => rfl⟩))

/-- what a call for class `cls` leaves of that class: the programme is erased first exactly by the two documented
    flushes.  In `case 1` and `case 3` each path condition of the equation settles one factor of `pidFlush` resp.
    `titleFlush`, which is what the `of_eq` at each leaf says. -/
theorem feed_keep (v : Info) (cls typ : Nat) (d : List Nat) (nx : Nat) :
    Kept typ cls v ((typ == 1 && pidFlush v cls d nx) || (typ == 3 && titleFlush v cls d)) (feed v cls typ d nx) := by
  have upd : ∀ {q : PI} {w : Info} {neq err}, Keep typ (v.pi cls) q → q.description = (v.pi cls).description →
      Kept typ cls v false (fin (w.setPi cls q) cls typ neq [] err) := by
    intro q w neq err k e
    unfold Kept; rw [pi_fin, pi_setPi]; exact ⟨k, fun _ _ => e⟩
  rcases feed_typ_cases typ with rfl | rfl | rfl | rfl | rfl | rfl | rfl | rfl | rfl | ht | ho
  · refine .of_eq (fl' := pidFlush v cls d nx) (by simp) ?_
    rw [feed_pid_eq]
    refine ite_ind (fun h => .of_eq (fl' := false) (by simp [pidFlush, h]) .ignored) fun h4 =>
      ite_ind (fun hb => .of_eq (fl' := false) (by simp [pidFlush, hb]) .ignored) fun hb =>
      ite_ind (fun hq => .of_eq (fl' := true) (by simp [pidFlush, Decidable.not_not.1 h4, hb, hq]) (.erased _ _ _ _ ?_))
        fun hq => .of_eq (fl' := false) (by simp [pidFlush, hq]) (upd (keep_pid ..) rfl)
    simp only [flush, pi_setCyc, pi_setPi]
    exact keep_pid ..
  · rw [feed_len_eq]; exact .of_eq rfl (ite_both .ignored (ite_both .ignored (upd (keep_len ..) rfl)))
  · refine .of_eq (fl' := titleFlush v cls d) (by simp) ?_
    rw [feed_title_eq]
    refine ite_ind (fun h => .of_eq (fl' := false) (by simp [titleFlush, Nat.not_le.2 h]) .ignored) fun h2 =>
      ite_ind (fun hq => .of_eq (fl' := false) (by simp [titleFlush, hq]) (upd (keep_title ..) rfl)) fun hq =>
      ite_ind (fun c3 => .of_eq (fl' := false) ?_ (upd (keep_title ..) rfl)) fun c3 =>
      ite_ind (fun c1 => .of_eq (fl' := true) ?_ (.erased _ _ _ _ ?_)) fun c1 =>
        .of_eq (fl' := false) ?_ (upd (keep_title ..) rfl)
    · simp [cyc_setPi] at c3; simp [titleFlush, c3]
    · simp [cyc_setPi] at c3 c1; simp [titleFlush, Nat.not_lt.1 h2, hq, c3, c1]
    · simp only [flush, pi_setCyc, pi_setPi]; exact keep_title ..
    · simp [cyc_setPi] at c1; simp [titleFlush, c1]
  · rw [feed_ptype_eq]; exact .of_eq rfl (upd (keep_ptype ..) rfl)
  · rw [feed_rating_eq]
    refine .of_eq rfl (ite_both .ignored ?_)
    split
    · exact .ignored
    · rename_i zero _
      extract_lets pi1 neq pi2
      have k : Keep 5 (v.pi cls) pi2 ∧ pi2.description = (v.pi cls).description := by
        cases zero <;> refine ite_both (P := fun q => Keep 5 (v.pi cls) q ∧ q.description = _) ⟨keep_rating .., rfl⟩ ?_
        · exact ⟨keep_refl .., rfl⟩
        · exact ⟨keep_rating _ _ _ 0, rfl⟩
      exact upd k.1 k.2
  · rw [feed_audio_eq]; exact .of_eq rfl (ite_both .ignored (upd (keep_audio ..) rfl))
  · rw [feed_capsvc_eq]; exact .of_eq rfl (ite_both .ignored (upd (keep_capsvc ..) rfl))
  · rw [feed_cgms_eq]; exact .of_eq rfl (ite_both .ignored (upd (keep_cgms ..) rfl))
  · exact .of_eq rfl (feed_aspect_kept v cls cls d nx)
  · rw [feed_desc_eq _ _ _ _ ht]
    refine .of_eq (fl' := false) (by simp; omega) ?_
    unfold Kept
    rw [pi_fin, pi_setPi]
    exact ⟨keep_desc _ ht _, fun _ h => absurd ht h⟩
  · rw [feed_other_eq _ _ _ _ ho]; exact .of_eq (fl' := false) (by simp; omega) .ignored

/-- a packet that is neither programme id nor programme name erases nothing -/
theorem feed_kept (v : Info) (cls typ : Nat) (d : List Nat) (nx : Nat) (h1 : typ ≠ 1) (h3 : typ ≠ 3) :
    Kept typ cls v false (feed v cls typ d nx) :=
  (feed_keep v cls typ d nx).of_eq (by simp [h1, h3])

/-! ## own fields -/

def Owns (g : Grp) (v : Info) (cls : Nat) (o : Option (List Int)) (r : Info × Out) : Prop :=
  view g (r.1.pi cls) = match o with | some val => val | none => view g (v.pi cls)

section
variable {g : Grp} {v : Info} {cls : Nat}

theorem Owns.fin {w : Info} {q : PI} {val : List Int} (t : Nat) (neq : Bool) (pre : List Ev) (err : Option String)
    (h : view g q = val) : Owns g v cls (some val) (fin (w.setPi cls q) cls t neq pre err) := by
  unfold Owns; rw [pi_fin, pi_setPi]; exact h

end

/-- every rating system `case 5` accepts has an authority other than `VBI_RATING_AUTH_NONE` -/
def AuthSet (o : Option (Nat × Nat × Nat × Bool)) : Prop := ∀ q, o = some q → q.1 ≠ 0

theorem ratingDecode_auth (b0 b1 : Nat) : AuthSet (ratingDecode b0 b1) := by
  have n : AuthSet none := fun _ h => nomatch h
  have s : ∀ {a r d z}, a ≠ 0 → AuthSet (some (a, r, d, z)) := fun ha _ h => by cases h; exact ha
  unfold ratingDecode
  extract_lets
  exact ite_both (ite_both n (s (by decide))) (ite_both (s (by decide)) (ite_both
    (ite_both (ite_both n (s (by decide))) (ite_both n (s (by decide)))) n))

theorem view_rating_store (p : PI) {a : Nat} (r dl : Nat) (ha : a ≠ 0) :
    view .rating (if (p.ratingAuth != a || p.ratingId != r || p.ratingDlsv != dl) = true then
      { p with ratingAuth := a, ratingId := r, ratingDlsv := dl } else p) = [(a : Int), (r : Int), (dl : Int)] := by
  split
  · simp [view, ha]
  · rename_i h
    simp only [Bool.or_eq_true, bne_iff_ne, ne_eq, not_or, Decidable.not_not] at h
    simp [view, h.1.1, h.1.2, h.2, ha]

theorem getD_setIf (l : List Nat) (i j x dflt : Nat) (h : i < l.length) :
    (if (l.getD i dflt != x) = true then l.set i x else l).getD j dflt = if j = i then x else l.getD j dflt := by
  by_cases e : j = i
  · subst e
    split
    · simp [List.getD_eq_getElem?_getD, h]
    · rename_i hh; simpa using hh
  · rw [if_neg e]
    split
    · simp [List.getD_eq_getElem?_getD, List.getElem?_set_ne (Ne.symm e)]
    · rfl

theorem audioStep_len (pi : PI) (neq : Bool) (i b : Nat) :
    (audioStep pi neq i b).1.audioMode.length = pi.audioMode.length ∧
    (audioStep pi neq i b).1.audioLang.length = pi.audioLang.length := by
  unfold audioStep; simp only []
  constructor <;> split <;> simp

/-- one iteration of `case 6` stores mode and language of audio service `i` and leaves the other alone -/
theorem audioStep_get (pi : PI) (neq : Bool) (i b j : Nat) (hm : i < pi.audioMode.length) (hl : i < pi.audioLang.length) :
    (audioStep pi neq i b).1.audioMode.getD j 9 = (if j = i then audioModeTab i (b &&& 7) else pi.audioMode.getD j 9) ∧
    (audioStep pi neq i b).1.audioLang.getD j 0 = (if j = i then lang ((b >>> 3) &&& 7) else pi.audioLang.getD j 0) :=
  ⟨getD_setIf _ _ _ _ _ hm, getD_setIf _ _ _ _ _ hl⟩

@[simp] theorem pi_withAspSrc (v : Info) (a c : Nat) : Info.pi { v with aspSrc := a } c = v.pi c := rfl

theorem capFold_indep (c c' : Bool) : ∀ (d : List Nat) (st st' : List Nat × Nat × Bool × List Nat),
    st.1 = st'.1 → st.2.1 = st'.2.1 →
    (d.foldl (capStep c) st).1 = (d.foldl (capStep c') st').1 ∧ (d.foldl (capStep c) st).2.1 = (d.foldl (capStep c') st').2.1
  | [], _, _, h1, h2 => ⟨h1, h2⟩
  | b :: d, st, st', h1, h2 => by
    simp only [List.foldl_cons]
    apply capFold_indep c c' d
    · simp [capStep, h1]
    · simp [capStep, h2]

theorem view_of_keep {typ : Nat} {a b : PI} (h : Keep typ a b) (g : Grp) (hg : g.typ ≠ typ) : view g b = view g a := by
  cases g with
  | pid => obtain ⟨e1, e2, e3, e4, e5⟩ := h.pid (Ne.symm hg); simp [view, *]
  | len => obtain ⟨e1, e2, e3, e4, e5⟩ := h.len (Ne.symm hg); simp [view, *]
  | title => simp [view, h.title (Ne.symm hg)]
  | ptype => obtain ⟨e1, e2⟩ := h.ptype (Ne.symm hg); simp [view, *]
  | rating => obtain ⟨e1, e2, e3⟩ := h.rating (Ne.symm hg); simp [view, *]
  | audio => obtain ⟨e1, e2⟩ := h.audio (Ne.symm hg); simp [view, *]
  | capsvc => obtain ⟨e1, e2⟩ := h.capsvc (Ne.symm hg); simp [view, *]
  | cgms => simp [view, h.cgms (Ne.symm hg)]
  | aspect => simp [view, h.aspect (Ne.symm hg)]
  | desc l => simp only [view, h.desc l (Ne.symm hg)]

/-! ## one call, one group -/

theorem decodePid_none_noflush (v : Info) (cls : Nat) (d : List Nat) (nx : Nat) (h : decodePid d nx = none) :
    pidFlush v cls d nx = false := by
  unfold decodePid at h
  unfold pidFlush
  by_cases h4 : d.length ≠ 4
  · simp [h4]
  · by_cases hb : pidBad d nx
    · simp [hb]
    · simp only [] at h; rw [if_neg h4, if_neg hb] at h; cases h

theorem feed_own {v : Info} (hv : Wf v) (ha : AWf v) (cls : Nat) (g : Grp) (d : List Nat) (nx : Nat) (h32 : d.length ≤ 32)
    (hflag : g = .aspect → aspectAlwaysCurrent = false) :
    view g ((feed v cls g.typ d nx).1.pi cls) =
      match decode g d nx with | some val => val | none => view g (v.pi cls) := by
  show Owns g v cls _ _
  cases g with
  | pid =>
    unfold decode decodePid Grp.typ
    rw [feed_pid_eq]
    refine ite_rel .rfl (fun _ => rfl) fun _ => ite_rel .rfl (fun _ => rfl) fun _ =>
      ite_ind (fun _ => .fin _ _ _ _ rfl) fun hq => .fin _ _ _ _ ?_
    -- the date is the stored one, only the tape-delay flag is written
    simp only [pidNeq, Bool.or_eq_true, bne_iff_ne, ne_eq, not_or, Decidable.not_not] at hq
    simp [view, hq.1.1.1, hq.1.1.2, hq.1.2, hq.2]
  | len =>
    unfold decode decodeLen Grp.typ
    rw [feed_len_eq]
    exact ite_rel .rfl (fun _ => rfl) fun _ => ite_rel .rfl (fun _ => rfl) fun _ => .fin _ _ _ _ rfl
  | title =>
    unfold decode Grp.typ
    refine ite_ind (P := fun o => Owns .title v cls o _) (fun hn => ?_) (fun hn => ?_)
    · rw [feed_title_eq, if_pos hn]; rfl
    · exact congrArg ofNats (feed_title hv cls d nx (by omega) h32)
  | ptype =>
    obtain ⟨_, _, _, a4⟩ := foldl_putc (d ++ [0]) { arr := (v.pi cls).typeId, neq := !(v.pi cls).typeEia }
      (by simp [(wf_pi hv cls).typeId, typeExt]; omega)
    unfold decode Grp.typ
    rw [feed_ptype_eq]
    refine .fin _ _ _ _ ?_
    simp only [view, if_true, a4]
    simp [cstr_append_zero]
  | rating =>
    unfold decode Grp.typ
    rw [feed_rating_eq]
    refine ite_rel .rfl (fun _ => rfl) fun _ => ?_
    split
    · rename_i hr; rw [hr]; rfl
    · rename_i a r dl z hr
      rw [hr]
      exact .fin _ _ _ _ (view_rating_store _ r dl (ratingDecode_auth _ _ _ hr))
  | audio =>
    obtain ⟨hm, hl⟩ := awf_pi ha cls
    obtain ⟨m0, l0⟩ := audioStep_len (v.pi cls) false 0 (byteAt d nx 0)
    have g0 := fun j => audioStep_get (v.pi cls) false 0 (byteAt d nx 0) j (by omega) (by omega)
    have g1 := fun j => audioStep_get (audioStep (v.pi cls) false 0 (byteAt d nx 0)).1
      (audioStep (v.pi cls) false 0 (byteAt d nx 0)).2 1 (byteAt d nx 1) j (by omega) (by omega)
    unfold decode Grp.typ
    rw [feed_audio_eq]
    refine ite_rel .rfl (fun _ => rfl) fun _ => .fin _ _ _ _ ?_
    simp only [view, (g1 0).1, (g1 1).1, (g1 0).2, (g1 1).2, (g0 0).1, (g0 0).2]
    rfl
  | capsvc =>
    obtain ⟨e1, e2⟩ := capFold_indep (cls == 0) false d (List.replicate 8 0, 0, false, v.chLang)
      (List.replicate 8 0, 0, false, []) rfl rfl
    unfold decode Grp.typ
    rw [feed_capsvc_eq]
    refine ite_rel .rfl (fun _ => rfl) fun _ => .fin _ _ _ _ ?_
    simp only [view, e1, e2]
  | cgms =>
    unfold decode Grp.typ
    rw [feed_cgms_eq]
    exact ite_rel .rfl (fun _ => rfl) fun _ => .fin _ _ _ _ rfl
  | aspect =>
    unfold decode Grp.typ
    rw [feed_aspect_eq]
    simp only [hflag rfl, Bool.false_eq_true, if_false]
    refine ite_rel .rfl (fun _ => rfl) fun _ =>
      ite_ind (fun _ => ite_both ?_ (.fin _ _ _ _ (by simp [view]; split <;> rfl))) fun hq => ?_
    · unfold Owns; rw [pi_fin, pi_withAspSrc, pi_setPi]; simp [view]; split <;> rfl
    · unfold Owns; rw [pi_fin]; simp [view, ← Decidable.of_not_not (mt bne_iff_ne.2 hq)]; split <;> rfl
  | desc l =>
    have := feed_description hv cls (0x10 + l.val) d nx (by omega) h32
    rw [desc_line l] at this
    exact congrArg ofNats this

theorem pi_eq (v : Info) (c : Nat) (hc : c ≤ 1) : v.pi c = if c = 0 then v.pi0 else v.pi1 := rfl

/-- a packet that `xds_decoder` ignores flushes nothing -/
theorem noflush_of_ignored (v : Info) (cls : Nat) (g : Grp) (d : List Nat) (nx : Nat) (hd : decode g d nx = none) :
    ((g.typ == 1 && pidFlush v cls d nx) || (g.typ == 3 && titleFlush v cls d)) = false := by
  cases g <;> simp [Grp.typ] at hd ⊢
  · exact decodePid_none_noflush v cls d nx (by simpa [decode] using hd)
  · simp [decode] at hd; simp [titleFlush]; omega
  · omega

/-- a packet of another type of the same class: unknown if the call flushes, else unchanged -/
theorem feed_view_other {v : Info} (hv : Wf v) (cls typ : Nat) (g : Grp) (d : List Nat) (nx : Nat) (ht : typ ≠ g.typ) :
    view g ((feed v cls typ d nx).1.pi cls) =
      if (typ == 1 && pidFlush v cls d nx) || (typ == 3 && titleFlush v cls d) then unknown g else view g (v.pi cls) := by
  rw [view_of_keep (feed_keep v cls typ d nx).1 g (Ne.symm ht)]
  split
  · exact view_reset g (wf_pi hv cls)
  · rfl

/-- a packet of the other class: unchanged (an aspect ratio packet may write the other class, but only its aspect group, and
    not at all where `hflag` applies) -/
theorem feed_view_cross (v : Info) (cls typ : Nat) (hc : cls ≤ 1) (g : Grp) (hflag : g = .aspect → aspectAlwaysCurrent = false)
    (d : List Nat) (nx : Nat) : view g ((feed v cls typ d nx).1.pi (1 - cls)) = view g (v.pi (1 - cls)) := by
  by_cases hg : typ = 9 ∧ g ≠ .aspect
  · rw [hg.1]
    exact view_of_keep (feed_aspect_kept v cls _ d nx).1 g (by cases g <;> simp_all [Grp.typ] <;> omega)
  · rw [(feed_other_class v cls typ d nx hc (by
      by_cases h9 : typ = 9
      · exact .inr (hflag (Decidable.not_not.1 fun h => hg ⟨h9, h⟩))
      · exact .inl h9)).1]

/-- a packet of class channel: unknown if `vbi_chsw_reset` runs, else unchanged -/
theorem netFeed_view_pi {v : Info} (hv : Wf v) (typ : Nat) (d : List Nat) (nx : Nat) (c : Nat) (g : Grp) :
    view g ((netFeed v typ d nx).1.pi c) = if (netFeed v typ d nx).2.chsw then unknown g else view g (v.pi c) := by
  rw [netFeed_pi]
  split
  · exact view_reset g (wf_pi hv c)
  · rfl

/-- one call of `xds_decoder` and one group of one class: own accepted packet -> its decoding;
    a flush of that class -> unknown; anything else -> unchanged -/
theorem step_view {v : Info} (hv : Wf v) (ha : AWf v) (cls : Nat) (hc : cls ≤ 1) (g : Grp)
    (hflag : g = .aspect → aspectAlwaysCurrent = false) (p : Pkt) (nx : Nat) :
    view g ((step v p nx).1.pi cls) =
      match progDecode cls g p nx with
      | some val => val
      | none => if flushes v p nx cls then unknown g else view g (v.pi cls) := by
  unfold progDecode flushes
  by_cases hl : p.data.length = 0 ∨ p.data.length > 32
  · rw [step_assert v p nx hl, if_pos hl, if_pos hl]; rfl
  rw [if_neg hl, if_neg hl]
  unfold step
  rw [if_neg hl]
  by_cases hp : p.cls ≤ 1
  · rw [if_pos hp]
    by_cases hcc : p.cls = cls
    · subst hcc
      rw [if_pos rfl]
      by_cases ht : p.sub = g.typ
      · rw [ht, if_pos ⟨rfl, rfl⟩, feed_own hv ha p.cls g p.data nx (by omega) hflag]
        cases hd : decode g p.data nx with
        | some val => rfl
        | none => simp [noflush_of_ignored v p.cls g p.data nx hd]
      · rw [if_neg fun h => ht h.2]
        exact feed_view_other hv _ _ g _ _ ht
    · obtain rfl : cls = 1 - p.cls := by omega
      simp only [hcc, show ¬p.cls = 2 by omega, false_and, if_false]
      exact feed_view_cross v p.cls p.sub hp g hflag p.data nx
  · have hcc : ¬p.cls = cls := fun h => hp (h ▸ hc)
    simp only [hp, hcc, false_and, if_false]
    by_cases h2 : p.cls = 2
    · simp only [h2, if_true]; exact netFeed_view_pi hv _ _ _ _ g
    · simp only [h2, if_false]; rfl

/-! ## the audio arrays keep their extent over every call -/

theorem Keep.audio_len {typ : Nat} {a b : PI} (k : Keep typ a b) (h6 : typ ≠ 6)
    (ha : a.audioMode.length = 2 ∧ a.audioLang.length = 2) : b.audioMode.length = 2 ∧ b.audioLang.length = 2 := by
  obtain ⟨e1, e2⟩ := k.audio h6
  rw [e1, e2]; exact ha

theorem feed_audio_len {v : Info} (ha : AWf v) (cls typ c : Nat) (hc : cls ≤ 1) (hcc : c ≤ 1) (d : List Nat) (nx : Nat) :
    ((feed v cls typ d nx).1.pi c).audioMode.length = 2 ∧ ((feed v cls typ d nx).1.pi c).audioLang.length = 2 := by
  by_cases e : c = cls
  · subst e
    by_cases h6 : typ = 6
    · subst h6
      obtain ⟨hm, hl⟩ := awf_pi ha c
      obtain ⟨a1, a2⟩ := audioStep_len (v.pi c) false 0 (byteAt d nx 0)
      obtain ⟨b1, b2⟩ := audioStep_len (audioStep (v.pi c) false 0 (byteAt d nx 0)).1
        (audioStep (v.pi c) false 0 (byteAt d nx 0)).2 1 (byteAt d nx 1)
      rw [feed_audio_eq]
      exact ite_both (P := fun r : Info × Out => (r.1.pi c).audioMode.length = 2 ∧ (r.1.pi c).audioLang.length = 2) ⟨hm, hl⟩
        (by rw [pi_fin, pi_setPi]; exact ⟨b1.trans (a1.trans hm), b2.trans (a2.trans hl)⟩)
    · exact (feed_keep v c typ d nx).1.audio_len h6
        (ite_both (P := fun q : PI => q.audioMode.length = 2 ∧ q.audioLang.length = 2) ⟨rfl, rfl⟩ (awf_pi ha c))
  · obtain rfl : c = 1 - cls := by omega
    by_cases h9 : typ = 9
    · subst h9
      exact (feed_aspect_kept v cls _ d nx).1.audio_len (by decide) (awf_pi ha _)
    · rw [(feed_other_class v cls typ d nx hc (.inl h9)).1]; exact awf_pi ha _

theorem step_awf {v : Info} (ha : AWf v) (p : Pkt) (nx : Nat) : AWf (step v p nx).1 := by
  have key : ∀ c, c ≤ 1 → ((step v p nx).1.pi c).audioMode.length = 2 ∧ ((step v p nx).1.pi c).audioLang.length = 2 := by
    intro c hc
    unfold step
    split
    · exact awf_pi ha c
    · split
      · rename_i hp; exact feed_audio_len ha p.cls p.sub c hp hc p.data nx
      · split
        · rw [netFeed_pi]
          split
          · exact ⟨rfl, rfl⟩
          · exact awf_pi ha c
        · exact awf_pi ha c
  exact ⟨(key 0 (by omega)).1, (key 0 (by omega)).2, (key 1 (by omega)).1, (key 1 (by omega)).2⟩

/-- for a length outside 1..32 nothing is written, so the extents are kept by every call -/
theorem step_wf {v : Info} (h : Wf v) (p : Pkt) (nx : Nat) : Wf (step v p nx).1 := by
  by_cases hl : p.data.length = 0 ∨ p.data.length > 32
  · rw [step_assert v p nx hl]; exact h
  · exact (step_clean h p nx (by omega) (by omega)).1

theorem netFeed_view {v : Info} (hv : Wf v) (f : NetF) (typ : Nat) (d : List Nat) (nx : Nat) (h32 : d.length ≤ 32) :
    nview f (netFeed v typ d nx).1.net =
      if typ = f.typ then (match ndecode f d nx with | some val => val | none => nview f v.net)
      else if f = .name ∧ typ = 2 ∧ callClears v d = true then [] else nview f v.net := by
  have kn := (strfuArr_spec hv.name (Nat.lt_of_le_of_lt h32 (by decide))).2.2
  have kc := (strfuArr_spec hv.call (Nat.lt_of_le_of_lt h32 (by decide))).2.2
  have hn0 : cstr (v.net.name.set 0 0) = [] := cstr_set_zero _ (by rw [hv.name]; decide)
  obtain ⟨e1, e2, e3⟩ := netFeed_fields v typ d nx
  cases f
  · simp only [nview, e1, NetF.typ, ndecode, true_and]
    split
    · rw [kn]
    · split
      · rw [hn0]; rfl
      · rfl
  · simp only [nview, e2, NetF.typ, ndecode, reduceCtorEq, false_and, if_false]
    split
    · rw [kc]
    · rfl
  · simp only [nview, e3, NetF.typ, ndecode, reduceCtorEq, false_and, if_false]
    by_cases h3 : typ = 3 <;> by_cases h2 : d.length = 2 <;> simp [h3, h2]

/-- THE one-call law: own accepted packet -> its decoding; a flush reaching the field -> unknown;
    any other call -> unchanged -/
theorem step_field {v : Info} (hv : Wf v) (ha : AWf v) (f : Field) (hs : f.shapeOK) (p : Pkt) (nx : Nat) :
    fview f (step v p nx).1 =
      match fdecode f p nx with
      | some val => val
      | none => if ferased f v p nx then funknown f else fview f v := by
  cases f with
  | prog c g =>
    exact step_view hv ha c.val (by omega) g (by intro e; subst e; exact hs) p nx
  | net f =>
    simp only [fview, fdecode, funknown]
    by_cases hl : p.data.length = 0 ∨ p.data.length > 32
    · rw [step_assert v p nx hl, if_pos hl]
      cases f
      · simp only [ferased, decide_eq_false (fun h : ¬(p.data.length = 0 ∨ p.data.length > 32) => h hl), Bool.false_and,
          Bool.false_eq_true, if_false]
      · simp [ferased]
      · simp [ferased]
    · rw [if_neg hl]
      unfold step; rw [if_neg hl]
      by_cases hp : p.cls ≤ 1
      · rw [if_pos hp, feed_net]
        have h2 : ¬ p.cls = 2 := by omega
        cases f <;> simp [ferased, h2]
      · rw [if_neg hp]
        by_cases h2 : p.cls = 2
        · rw [if_pos h2, netFeed_view hv f p.sub p.data nx (by omega)]
          by_cases ht : p.sub = f.typ
          · simp only [ht, h2, and_self, if_true]
            cases hd : ndecode f p.data nx with
            | some val => rfl
            | none =>
              cases f <;> simp [ndecode] at hd
              simp [ferased]
          · simp only [ht, h2, and_false, if_false]
            cases f
            · simp only [ferased, hl, true_and, h2]
              by_cases h22 : p.sub = 2 <;> simp [h22]
            · simp [ferased]
            · simp [ferased]
        · rw [if_neg h2]
          cases f <;> simp [ferased, h2]

theorem fview_init (f : Field) : fview f init = funknown f := by
  cases f with
  | prog c g => exact view_init g c.val
  | net f => cases f <;> decide

/-! ## histories -/

theorem run_cons (v : Info) (c : Pkt × Nat) (cs : List (Pkt × Nat)) :
    (run v (c :: cs)).1 = (run (step v c.1 c.2).1 cs).1 := rfl

theorem run_append : ∀ (a b : List (Pkt × Nat)) (v : Info), (run v (a ++ b)).1 = (run (run v a).1 b).1
  | [], _, _ => rfl
  | c :: a, b, v => by
    simp only [List.cons_append, run_cons]
    exact run_append a b _

theorem run_inv : ∀ (hist : List (Pkt × Nat)) {v : Info}, Wf v → AWf v → Wf (run v hist).1 ∧ AWf (run v hist).1
  | [], _, h, a => ⟨h, a⟩
  | c :: cs, v, h, a => by
    rw [run_cons]
    exact run_inv cs (step_wf h c.1 c.2) (step_awf a c.1 c.2)

theorem run_undisturbed (f : Field) (hs : f.shapeOK) : ∀ (post : List (Pkt × Nat)) {v : Info}, Wf v → AWf v →
    Undisturbed f v post → fview f (run v post).1 = fview f v
  | [], _, _, _, _ => rfl
  | q :: qs, v, h, a, hu => by
    obtain ⟨h1, h2, h3⟩ := hu
    rw [run_cons, run_undisturbed f hs qs (step_wf h q.1 q.2) (step_awf a q.1 q.2) h3, step_field h a f hs, h1]
    simp [h2]

theorem run_cut (f : Field) (hs : f.shapeOK) (pre post : List (Pkt × Nat)) (p : Pkt) (nx : Nat)
    (hpost : Undisturbed f (run init (pre ++ [(p, nx)])).1 post) :
    fview f (run init (pre ++ (p, nx) :: post)).1 =
      match fdecode f p nx with
      | some val => val
      | none => if ferased f (run init pre).1 p nx then funknown f else fview f (run init pre).1 := by
  obtain ⟨w1, a1⟩ := run_inv pre wf_init awf_init
  obtain ⟨w2, a2⟩ := run_inv (pre ++ [(p, nx)]) wf_init awf_init
  rw [show pre ++ (p, nx) :: post = (pre ++ [(p, nx)]) ++ post by simp, run_append,
    run_undisturbed f hs post w2 a2 hpost, run_append]
  exact step_field w1 a1 f hs p nx

theorem apart_step (f : Field) (v : Info) (q : Pkt) (nx : Nat) (h : StaticallyApart f q) :
    fdecode f q nx = none ∧ ferased f v q nx = false := by
  cases f with
  | prog c g =>
    obtain ⟨h1, h2⟩ := h
    refine ⟨?_, ?_⟩
    · simp only [fdecode, progDecode]
      split
      · rfl
      · split
        · rename_i hh; exact absurd ⟨hh.1, Or.inl hh.2⟩ h1
        · rfl
    · simp only [ferased, flushes]
      split
      · rfl
      · split
        · rename_i hc
          have n1 : ¬ q.sub = 1 := fun e => h1 ⟨hc, Or.inr (Or.inl e)⟩
          have n3 : ¬ q.sub = 3 := fun e => h1 ⟨hc, Or.inr (Or.inr e)⟩
          simp [n1, n3]
        · split
          · rename_i hc2
            have n1 : ¬ q.sub = 1 := fun e => h2 ⟨hc2, e⟩
            have h := netFeed_shape v q.sub q.data nx
            generalize netFeed v q.sub q.data nx = r at h ⊢
            cases h with
            | quiet => rfl
            | reset _ _ _ e => exact absurd e n1
          · rfl
  | net f =>
    simp only [StaticallyApart] at h
    refine ⟨?_, ?_⟩
    · simp only [fdecode]
      split
      · rfl
      · split
        · rename_i hh; exact absurd ⟨hh.1, Or.inl hh.2⟩ h
        · rfl
    · cases f
      · simp only [ferased]
        by_cases hc : q.cls = 2
        · have : ¬ q.sub = 2 := fun e => h ⟨hc, Or.inr ⟨rfl, e⟩⟩
          simp [this]
        · simp [hc]
      · rfl
      · rfl

theorem undisturbed_of_apart (f : Field) : ∀ (post : List (Pkt × Nat)) (v : Info),
    (∀ q ∈ post, StaticallyApart f q.1) → Undisturbed f v post
  | [], _, _ => trivial
  | q :: qs, v, h =>
    ⟨(apart_step f v q.1 q.2 (h q (by simp))).1, (apart_step f v q.1 q.2 (h q (by simp))).2,
     undisturbed_of_apart f qs _ (fun q' hq' => h q' (by simp [hq']))⟩

/-! ## events -/

theorem fin_proginfo (X : Info) (cls typ : Nat) (neq : Bool) (pre : List Ev) (err : Option String)
    (hpre : ∀ x ∈ pre, x.isProgInfo = false) (x : Ev) (hx : x ∈ (fin X cls typ neq pre err).2.evs) (hi : x.isProgInfo = true) :
    x = Ev.progInfo cls ((fin X cls typ neq pre err).1.pi cls) ∧ neq = false ∧ (X.cyc cls).contains typ = true := by
  rw [fin_events] at hx
  rw [pi_fin]
  simp only [List.mem_append] at hx
  rcases hx with hx | hx
  · rw [hpre x hx] at hi; cases hi
  · split at hx
    · rename_i hc
      simp only [List.mem_singleton] at hx
      exact ⟨hx, hc.1, hc.2⟩
    · cases hx

theorem flush_no_proginfo (v : Info) (cls : Nat) : ∀ x ∈ (flush v cls).2, x.isProgInfo = false := by
  intro x hx
  simp only [flush] at hx
  split at hx
  · simp only [List.mem_singleton] at hx; subst hx; rfl
  · cases hx

/-- one call of `xds_decoder`: a PROG_INFO event is raised only by packets of class current / future, it
    names the packet's class and carries the programme information of that class as stored on return -/
theorem step_proginfo_payload (v : Info) (p : Pkt) (nx : Nat) (x : Ev) (hx : x ∈ (step v p nx).2.evs)
    (hi : x.isProgInfo = true) : p.cls ≤ 1 ∧ x = Ev.progInfo p.cls ((step v p nx).1.pi p.cls) := by
  unfold step at hx ⊢
  split at hx
  · cases hx
  · rename_i hl
    rw [if_neg hl]
    split at hx
    · rename_i hp
      rw [if_pos hp]
      have h := feed_shape v p.cls p.sub p.data nx
      generalize feed v p.cls p.sub p.data nx = r at h hx ⊢
      cases h with
      | ignored => cases hx
      | fin neq pre err _ hpre =>
        refine ⟨hp, (fin_proginfo _ _ _ _ _ _ ?_ x hx hi).1⟩
        rcases hpre with rfl | ⟨_, r, rfl⟩ | ⟨q, rfl, _⟩
        · intro y hy; cases hy
        · intro y hy; cases List.mem_singleton.1 hy; rfl
        · exact flush_no_proginfo _ _
    · split at hx
      · rw [netFeed_no_proginfo v p.sub p.data nx x hx] at hi; cases hi
      · cases hx

/-! ## announcement on the repeat, generically -/

def PlainOn (g : Grp) (v : Info) (cls : Nat) (o : Option (List Int)) (r : Info × Out) : Prop :=
  ∀ val, o = some val → ∃ X : Info, r = fin X cls g.typ (view g (v.pi cls) != val) [] none ∧
    X.cyc cls = v.cyc cls ∧ view g (X.pi cls) = val

def PlainGroup (g : Grp) : Prop :=
  ∀ (v : Info) (cls : Nat) (d : List Nat) (nx : Nat), PlainOn g v cls (decode g d nx) (feed v cls g.typ d nx)

theorem PlainOn.fin {g : Grp} {v : Info} {cls : Nat} {q : PI} {val : List Int} {neq : Bool}
    (hn : (view g (v.pi cls) != val) = neq) (h : view g q = val) :
    PlainOn g v cls (some val) (fin (v.setPi cls q) cls g.typ neq [] none) := by
  rintro _ ⟨⟩
  exact ⟨_, by rw [hn], cyc_setPi .., by rw [pi_setPi, h]⟩

theorem plain_call {g : Grp} (hg : PlainGroup g) (v : Info) (cls : Nat) (d : List Nat) (nx : Nat) (val : List Int)
    (hdec : decode g d nx = some val) :
    let r := feed v cls g.typ d nx
    view g (r.1.pi cls) = val ∧
    (view g (v.pi cls) ≠ val → r.2.evs = [] ∧ r.1.cyc cls = g.typ :: v.cyc cls) ∧
    (view g (v.pi cls) = val →
      r.2.evs = (if (v.cyc cls).contains g.typ then [Ev.progInfo cls (r.1.pi cls)] else []) ∧
      r.1.cyc cls = if (v.cyc cls).contains g.typ then [] else v.cyc cls) := by
  obtain ⟨X, f, c, w⟩ := hg v cls d nx val hdec
  simp only [f, pi_fin, fin_events, fin_cyc, c, w, List.nil_append, true_and]
  constructor
  · intro h; simp [h]
  · intro h; simp [h]

/-- announced after the documented repeat, for every plain group: a packet whose decoding differs from
    what is stored raises nothing the first time; its immediate repeat raises exactly one PROG_INFO, for
    its class, carrying the decoding; a third occurrence raises nothing -/
theorem announce_on_repeat_of_plain {g : Grp} (hg : PlainGroup g) (v : Info) (cls : Nat) (d : List Nat) (nx : Nat)
    (val : List Int) (hdec : decode g d nx = some val) (hchg : view g (v.pi cls) ≠ val) :
    let r1 := feed v cls g.typ d nx
    let r2 := feed r1.1 cls g.typ d nx
    let r3 := feed r2.1 cls g.typ d nx
    r1.2.evs = [] ∧ (∃ e, r2.2.evs = [Ev.progInfo cls e] ∧ view g e = val) ∧ view g (r2.1.pi cls) = val ∧
      r3.2.evs = [] ∧ view g (r3.1.pi cls) = val := by
  intro r1 r2 r3
  obtain ⟨v1, c1, _⟩ := plain_call hg v cls d nx val hdec
  obtain ⟨e1, y1⟩ := c1 hchg
  obtain ⟨v2, _, c2⟩ := plain_call hg r1.1 cls d nx val hdec
  obtain ⟨e2, y2⟩ := c2 v1
  obtain ⟨v3, _, c3⟩ := plain_call hg r2.1 cls d nx val hdec
  obtain ⟨e3, _⟩ := c3 v2
  refine ⟨e1, ⟨_, ?_, v2⟩, v2, ?_, v3⟩
  · rw [e2, y1]; simp
  · rw [e3, y2, y1]; simp

theorem bne_cons (a b : Int) (l m : List Int) : (a :: l != b :: m) = (a != b || l != m) := by
  cases h1 : a == b <;> cases h2 : l == m <;> simp_all [bne]

theorem plain_cgms : PlainGroup .cgms := by
  intro v cls d nx
  unfold decode Grp.typ
  rw [feed_cgms_eq]
  exact ite_rel .rfl (fun _ _ h => nomatch h) fun _ => .fin (by simp [view, bne_cons]) rfl

theorem plain_len : PlainGroup .len := by
  intro v cls d nx
  unfold decode decodeLen Grp.typ
  rw [feed_len_eq]
  exact ite_rel .rfl (fun _ _ h => nomatch h) fun _ => ite_rel .rfl (fun _ _ h => nomatch h) fun _ => .fin (by simp [view, bne_cons, Bool.or_assoc]) rfl

theorem sysRun_info (ec : Bool) : ∀ (bs : List (Nat × Nat)) (s : Sep.State) (v : Info),
    (sysRun ec (s, v) bs).1.2 = (run v (sysCalls ec s bs)).1
  | [], _, _ => rfl
  | b :: bs, s, v => by
    simp only [sysRun, sysStep, sysCalls]
    cases (Sep.step ec s b).2.dec with
    | none => exact sysRun_info ec bs _ _
    | some p => exact sysRun_info ec bs _ _

end Dec
end Zvbi.Xds
