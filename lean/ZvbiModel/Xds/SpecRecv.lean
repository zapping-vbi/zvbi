import ZvbiModel.Xds.Spec
/-!
# C09: what the delivery theorems say on the receiving side

Which pairs may interrupt a packet (`Demux.Leaves`, `Demux.Opens`, `Demux.ForeignBlock`; `Sep.blockOk`, `Sep.ForeignBlock`,
and the sender's grammar `Sep.Item` from which it follows), the deliveries under the label of one buffer (`forSlot`), the
pairs that reach the parity-error branch of `xds_separator` (`Sep.Damaged`), and `Demux.run7`, the demultiplexer on pairs
that passed the parity check.
-/
namespace Zvbi.Xds
open Zvbi.Hamm Zvbi.Gen.Xds

/-! ## xds_demux.c -/
namespace Demux

/-- `step7` over a list of parity-checked pairs -/
def run7 (rk : Bool) : State → List Pair → State × List Out
  | s, [] => (s, [])
  | s, q :: qs =>
    let r := step7 rk s q.1 q.2
    let r2 := run7 rk r.1 qs
    (r2.1, r.2 :: r2.2)

/-- header pair (start or continue) that addresses buffer `i` -/
def Opens (i : Nat) (q : Pair) : Prop :=
  1 ≤ q.1 ∧ q.1 ≤ 14 ∧ accepted ((q.1 - 1) >>> 1) q.2 ∧ slotOf ((q.1 - 1) >>> 1) q.2 = i

/-- readable pair that takes the demultiplexer away from the current packet in buffer `i`: a caption
    control code, or a header for another buffer (a header the demultiplexer refuses only counts when
    the refusal leaves the interrupted packet alone, `rk`) -/
def Leaves (rk : Bool) (i : Nat) (q : Pair) : Prop :=
  (0x10 ≤ q.1 ∧ q.1 ≤ 0x1F) ∨
  (1 ≤ q.1 ∧ q.1 ≤ 14 ∧ ¬ Opens i q ∧ (accepted ((q.1 - 1) >>> 1) q.2 ∨ rk = true))

/-- a block of foreign pairs: the first one leaves the packet, none re-opens its buffer -/
def ForeignBlock (rk : Bool) (i : Nat) (blk : List Pair) : Prop :=
  ∃ q r, blk = q :: r ∧ Leaves rk i q ∧ ∀ q' ∈ r, ¬ Opens i q'

/-- deliveries labelled with a (class, type) that uses buffer `i` -/
def forSlot (i : Nat) (os : List Out) : List Pkt := (deliveries os).filter fun d => slotOf d.cls d.sub == i

end Demux

/-! ## caption.c -/
namespace Sep

/-- deliveries labelled with the (class, type) of buffer `i` -/
def forSlot (i : Nat) (os : List Out) : List Pkt := (deliveries os).filter fun d => slotOf d.cls d.sub == i

/-- scan of a foreign block: `m` = an XDS packet is open (a header was seen since the last caption
    control code / end pair).  Refuses a header for buffer `i`, a header of the network-name packet
    2/1 (its announcement flushes all buffers by design), and an end pair in caption context. -/
def blockOk (i : Nat) : Bool → List Pair → Bool
  | _, [] => true
  | m, q :: r =>
    if q.1 = 0 then blockOk i m r
    else if q.1 ≤ 14 then
      (!(decide (accepted ((q.1 - 1) >>> 1) q.2) && slotOf ((q.1 - 1) >>> 1) q.2 == i))
        && !((q.1 - 1) >>> 1 == 2 && q.2 == 1) && blockOk i true r
    else if q.1 = 15 then m && blockOk i false r
    else if q.1 ≤ 31 then blockOk i false r
    else blockOk i m r

/-- a block of readable foreign pairs a conforming sender may insert into the packet of buffer `i`:
    it starts with a caption control code or a header, and passes `blockOk` -/
def ForeignBlock (i : Nat) (blk : List Pair) : Prop :=
  (∃ q r, blk = q :: r ∧ 1 ≤ q.1 ∧ q.1 ≤ 0x1F ∧ q.1 ≠ 15) ∧ blockOk i false blk = true ∧
  ∀ q ∈ blk, q.1 < 128 ∧ q.2 < 128

/-- what a conforming encoder puts between two pieces of a packet: NUL pairs, caption runs (a
    caption control code 0x10..0x1F followed by text pairs), and pieces of other XDS packets (a
    start or continue pair, payload pairs, possibly the end pair) -/
inductive Item where
  | nul
  | caption (ctrl : Pair) (text : List Pair)
  | packet (hdr : Pair) (body : List Pair) (last : Option Nat)
deriving Repr

def Item.pairs : Item → List Pair
  | .nul => [(0, 0)]
  | .caption c t => c :: t
  | .packet h b none => h :: b
  | .packet h b (some ck) => h :: b ++ [(0x0F, ck)]

/-- well-formed for the interruption of the packet in buffer `i`: codes in their ranges; a foreign
    packet uses another buffer and is not the network name packet 2/1 -/
def Item.ok (i : Nat) : Item → Prop
  | .nul => True
  | .caption c t => 0x10 ≤ c.1 ∧ c.1 ≤ 0x1F ∧ ∀ q ∈ t, 0x20 ≤ q.1
  | .packet h b _ => 1 ≤ h.1 ∧ h.1 ≤ 14 ∧
      ¬(accepted ((h.1 - 1) >>> 1) h.2 ∧ slotOf ((h.1 - 1) >>> 1) h.2 = i) ∧
      ¬((h.1 - 1) >>> 1 = 2 ∧ h.2 = 1) ∧ ∀ q ∈ b, 0x20 ≤ q.1

/-- a pair that reaches the parity-error branch of `xds_separator`: first byte unreadable, or first
    byte a readable XDS control code / character and second byte unreadable -/
def Damaged (bad : Nat × Nat) : Prop :=
  unpar8 bad.1 = none ∨
  ∃ c1, unpar8 bad.1 = some c1 ∧ ((1 ≤ c1 ∧ c1 ≤ 15) ∨ 32 ≤ c1) ∧ unpar8 bad.2 = none

end Sep
end Zvbi.Xds
