import ZvbiModel.Xds.Service
import ZvbiModel.Xds.LemmasSep
/-!
# C09: the service decoder as modelled by `Svc` (title, network name, call letters)
-/
namespace Zvbi.Xds
namespace Svc
open Sep

@[simp] theorem pi_setPi (v : State) (cls : Nat) (p : PI) : (v.setPi cls p).pi cls = p := by
  unfold State.setPi State.pi; split <;> simp_all
@[simp] theorem cyc_setPi (v : State) (cls : Nat) (p : PI) : (v.setPi cls p).cyc cls = v.cyc cls := by
  unfold State.setPi State.cyc; split <;> simp_all
@[simp] theorem cyc_setCyc (v : State) (cls : Nat) (c : List Nat) : (v.setCyc cls c).cyc cls = c := by
  unfold State.setCyc State.cyc; split <;> simp_all
@[simp] theorem pi_setCyc (v : State) (cls : Nat) (c : List Nat) : (v.setCyc cls c).pi cls = v.pi cls := by
  unfold State.setCyc State.pi; split <;> simp_all

theorem strfu_eq (old s : List Nat) : strfu old s = (strfuText s, strfuText s != old) := by
  simp [strfu, strfuText]

theorem feed_title (v : State) (cls : Nat) (data : List Nat) (hn : 2 ≤ data.length) :
    feed v ⟨cls, 3, data⟩ =
      (let t := strfuText data
       let v1 := v.setPi cls { v.pi cls with title := t }
       if t != (v.pi cls).title then epilogue v1 cls 3 true
       else if !(v.cyc cls).contains 3 then epilogue v1 cls 3 false
       else if !(v.cyc cls).contains 1 then
         epilogue (((flush v1 cls).setPi cls { ((flush v1 cls).pi cls) with title := t }).setCyc cls [3]) cls 3 false
       else epilogue v1 cls 3 false) := by
  have h : ¬ data.length < 2 := by omega
  simp only [feed, h, if_false, strfu_eq, cyc_setPi]

theorem epilogue_pi (v : State) (cls typ : Nat) (neq : Bool) :
    (epilogue v cls typ neq).1.pi cls = v.pi cls ∧
    ∀ ev ∈ (epilogue v cls typ neq).2, ev = Ev.progInfo cls (v.pi cls) := by
  unfold epilogue
  split
  · exact ⟨pi_setCyc _ _ _, by simp⟩
  · split
    · exact ⟨pi_setCyc _ _ _, by simp⟩
    · exact ⟨rfl, by simp⟩

/-! ## network name / call letters -/

/-- `case XDS_CHANNEL`, type 1 (network name), as one equation -/
theorem netDecode_name_eq (n : Net) (data : List Nat) :
    netDecode n ⟨2, 1, data⟩ =
      (if strfuText data != n.name then ({ n with name := strfuText data, cycle := 1 }, false)
       else if n.cycle = 1 then
         (if Gen.Xds.sepNuidCompared && nuidOf (if n.call.isEmpty then strfuText data else n.call) == n.nuid
          then ({ n with name := strfuText data, cycle := 3 }, false)
          else ({ n with name := strfuText data, cycle := 3,
                         nuid := nuidOf (if n.call.isEmpty then strfuText data else n.call) }, n.nuid != 0))
       else ({ n with name := strfuText data }, false)) := by
  simp only [netDecode, strfu_eq, and_self, if_true]

theorem netDecode_call_eq (n : Net) (data : List Nat) :
    netDecode n ⟨2, 2, data⟩ =
      (if strfuText data != n.call ∧ n.cycle ≠ 1 then ({ n with call := strfuText data, name := [], cycle := 0 }, false)
       else ({ n with call := strfuText data }, false)) := by
  simp only [netDecode, strfu_eq, Nat.reduceEqDiff, and_false, and_self, if_true, if_false]

theorem netEvents_name_eq (n : Net) (data : List Nat) :
    netEvents n ⟨2, 1, data⟩ =
      (if strfuText data != n.name then []
       else if n.cycle = 1 then
         (if (netDecode n ⟨2, 1, data⟩).1.nuid != n.nuid
          then [Ev.network (strfuText data) n.call (netDecode n ⟨2, 1, data⟩).1.nuid n.tapeDelay] else [])
           ++ [Ev.networkId]
       else []) := by
  simp only [netEvents, strfu_eq, and_self, if_true]

/-! ## behind the separator: programme-info events are a function of the delivered packets -/

/-- feed a list of delivered packets of the classes current / future -/
def feedAll : State → List Pkt → State × List Ev
  | v, [] => (v, [])
  | v, p :: ps =>
    let r := feed v p
    let r2 := feedAll r.1 ps
    (r2.1, r.2 ++ r2.2)

theorem run_feedAll (ec : Bool) : ∀ (bs : List (Nat × Nat)) (s : Sep.State) (v : State),
    (∀ p ∈ Sep.deliveries (Sep.run ec s bs).2, p.cls ≤ 1) →
    (run ec (s, v) bs).1.2 = (feedAll v (Sep.deliveries (Sep.run ec s bs).2)).1 ∧
    (run ec (s, v) bs).2 = (feedAll v (Sep.deliveries (Sep.run ec s bs).2)).2
  | [], s, v, _ => ⟨rfl, rfl⟩
  | b :: bs, s, v, h => by
    simp only [Sep.run, Sep.deliveries_cons] at h
    simp only [run, step, Sep.run, Sep.deliveries_cons]
    cases hd : (Sep.step ec s b).2.dec with
    | none =>
      simp only [hd, Option.toList, List.nil_append] at h ⊢
      exact run_feedAll ec bs _ v h
    | some p =>
      simp only [hd, Option.toList, List.cons_append, List.nil_append] at h ⊢
      have hp : p.cls ≤ 1 := h p (by simp)
      simp only [decode, hp, if_true, feedAll]
      obtain ⟨g2, g3⟩ := run_feedAll ec bs (Sep.step ec s b).1 (feed v p).1 (fun q hq => h q (by simp [hq]))
      exact ⟨g2, by rw [g3]⟩

theorem run_sep (ec : Bool) : ∀ (bs : List (Nat × Nat)) (s : Sep.State) (v : State),
    (run ec (s, v) bs).1.1 = (Sep.run ec s bs).1
  | [], _, _ => rfl
  | b :: bs, s, v => by
    simp only [run, step, Sep.run]
    cases (Sep.step ec s b).2.dec <;> exact run_sep ec bs _ _

theorem deliveries_twice (ec : Bool) {s : Sep.State} (h : Sep.Inv ec s) (p : Packet) (hv : p.Valid)
    (hacc : Sep.accepted p.cls p.sub) :
    Sep.deliveries (Sep.run ec s (wire p (checksum p) ++ wire p (checksum p))).2 = [p.toPkt, p.toPkt] := by
  have hck : (bodySum p + checksum p) % 128 = 0 ∧ checksum p < 128 := by unfold checksum; omega
  have h1 := (Sep.laws ec).deliver h hv hacc (checksum p) hck.2
  have hs' := (Sep.inv_run ec (wire p (checksum p)) h).1
  rw [Sep.run_eq] at hs'
  have h2 := (Sep.laws ec).deliver hs' hv hacc (checksum p) hck.2
  rw [Sep.run_eq, grun_append]
  exact (dels_append _ _ _).trans ((congr (congrArg _ h1.1) h2.1).trans (by simp [hck.1]))

end Svc
end Zvbi.Xds
