/-!
# Computations in `Except` that return

`Safe P x` is `∃ r, x = .ok r ∧ P r` under a name.  A lemma stated in the written-out form is a `Safe` by unfolding: it can be
handed to the rules below as it stands (`Safe.elim (foo_ok ..) ..`); to prove it by them, begin with `show Safe _ _`, since
`.ok` and the motives of `ite_ind` need `Safe` as the head of the goal.  For conditionals in `x` use `ite_ind` / `ite_both`
(`ZvbiModel/Ite.lean`) with the goal `Safe P (if ..)`.
-/
namespace Zvbi

def Safe {ε α : Type} (P : α → Prop) (x : Except ε α) : Prop := ∃ r, x = .ok r ∧ P r

namespace Safe
variable {ε α β : Type} {P : α → Prop}

theorem ok {r : α} (h : P r) : Safe P (.ok r : Except ε α) := ⟨r, rfl, h⟩

/-- What holds of every result of `x` holds of `x`, whatever context `x` stands in: the motive is found by abstracting `x`
    in the goal, so the rule also goes through a model's own `match x with | .error e => .error e | .ok r => ..`.
    Take the result apart in the binder (`fun (s, b) h => ..`) so that the match on `.ok (s, b)` reduces. -/
@[elab_as_elim] theorem elim {motive : Except ε α → Prop} {x : Except ε α} (h : Safe P x)
    (ok : ∀ r, P r → motive (.ok r)) : motive x :=
  let ⟨r, e, p⟩ := h
  e ▸ ok r p

theorem mono {Q : α → Prop} {x : Except ε α} (h : Safe P x) (hpq : ∀ r, P r → Q r) : Safe Q x :=
  h.elim fun r p => ok (hpq r p)

theorem bind {Q : β → Prop} {x : Except ε α} {f : α → Except ε β} (h : Safe P x) (hf : ∀ r, P r → Safe Q (f r)) :
    Safe Q (x >>= f) :=
  h.elim hf

theorem map {Q : β → Prop} {f : α → β} {x : Except ε α} (h : Safe (fun r => Q (f r)) x) : Safe Q (x.map f) :=
  h.elim fun _ => ok

theorem foldlM {ι : Type} {f : α → ι → Except ε α} (hf : ∀ s a, P s → Safe P (f s a)) (l : List ι) {s : α} (h : P s) :
    Safe P (l.foldlM f s) := by
  induction l generalizing s with
  | nil => exact ok h
  | cons a l ih => rw [List.foldlM_cons]; exact (hf s a h).bind fun _ => ih

theorem mapM {ι : Type} {f : ι → Except ε α} (hf : ∀ a, Safe P (f a)) (l : List ι) :
    Safe (fun rs => ∀ r ∈ rs, P r) (l.mapM f) := by
  induction l with
  | nil => exact ok nofun
  | cons a l ih =>
    rw [List.mapM_cons]
    exact (hf a).bind fun b pb => ih.bind fun bs pbs => ok fun r hr => by
      rcases List.mem_cons.mp hr with rfl | m
      · exact pb
      · exact pbs r m

end Safe

/-- the converse of `Safe.bind`: a `do` block that returns, its first statement returned, and so did the rest -/
theorem bind_ok {ε α β : Type} {x : Except ε α} {f : α → Except ε β} {b : β} (h : x >>= f = .ok b) :
    ∃ a, x = .ok a ∧ f a = .ok b := by
  cases x with
  | error e => cases h
  | ok a => exact ⟨a, rfl, h⟩

end Zvbi
