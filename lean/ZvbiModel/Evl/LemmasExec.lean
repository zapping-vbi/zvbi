import ZvbiModel.Safe
import ZvbiModel.Evl.LemmasState
/-!
# exec / loop of the second list: invariant, kept handlers and at-least-once through nested deliveries; histories (C11, evl)
-/
namespace Zvbi.Evl

/-- `Except.bind` in the form in which `exec`, `loop` and `run` write it out -/
theorem bind_eq (x : Except Err State) (k : State → Except Err State) :
    x.bind k = match x with | .error e => .error e | .ok s => k s := by
  cases x <;> rfl

theorem run_eq_foldlM (rv : Bool) (beh : Behav) (fuel : Nat) (cs : List Call) (s : State) :
    run rv beh fuel s cs = cs.foldlM (fun s c => exec rv beh fuel s c) s := by
  induction cs generalizing s with
  | nil => rfl
  | cons c cs ih =>
    rw [run, List.foldlM_cons]
    cases exec rv beh fuel s c with
    | error e => rfl
    | ok s1 => exact ih s1

/-- the state in which `send` number `s.nextDid` enters its loop -/
def enter (s : State) (ev : Nat) : State :=
  { s with trace := s.trace ++ [Entry.api (.send ev), Entry.begin s.nextDid ev], nextDid := s.nextDid + 1,
           refCount := s.refCount + 1 }

/-- what `send` number `d` makes of the state its loop ends in: one level up, and the sweep if that
was the outermost level -/
def leave (d : Nat) (s1 : State) : State :=
  let s2 := { s1 with refCount := s1.refCount - 1 }
  let s3 := if s2.refCount > 0 then s2 else sweep s2
  { s3 with trace := s3.trace ++ [Entry.done d] }

theorem exec_send_succ (rv : Bool) (beh : Behav) (fuel : Nat) (s : State) (ev : Nat) :
    exec rv beh (fuel + 1) s (.send ev) =
      if s.eventMask &&& ev = 0 then
        .ok { s with trace := s.trace ++ [Entry.api (.send ev), Entry.begin s.nextDid ev] ++ [Entry.done s.nextDid],
                     nextDid := s.nextDid + 1 }
      else (loop rv beh s.nextDid ev fuel (s.list.head?.map (·.id)) (enter s ev)).bind
        fun s1 => .ok (leave s.nextDid s1) := by
  rw [exec, bind_eq]; rfl

/-- the callback of record `eh` (if it wants the event and is not marked) with all the calls it issues -/
def callbackRun (rv : Bool) (beh : Behav) (d ev fuel : Nat) (eh : Rec) (s : State) : Except Err State :=
  if eh.mask &&& ev ≠ 0 && !eh.remove then
    (beh s.trace eh.fn eh.user ev).foldlM (fun s c => exec rv beh fuel s c)
      { s with trace := s.trace ++ [Entry.call d eh.id eh.fn eh.user ev] }
  else .ok s

theorem callbackRun_pos {rv : Bool} {beh : Behav} {d ev fuel : Nat} {eh : Rec} {s : State}
    (hm : eh.mask &&& ev ≠ 0) (hrm : eh.remove = false) :
    callbackRun rv beh d ev fuel eh s =
      (beh s.trace eh.fn eh.user ev).foldlM (fun s c => exec rv beh fuel s c)
        { s with trace := s.trace ++ [Entry.call d eh.id eh.fn eh.user ev] } := by
  simp [callbackRun, hm, hrm]

theorem callbackRun_neg {rv : Bool} {beh : Behav} {d ev fuel : Nat} {eh : Rec} {s : State}
    (h : ¬ (eh.mask &&& ev ≠ 0 ∧ eh.remove = false)) : callbackRun rv beh d ev fuel eh s = .ok s := by
  simp only [callbackRun, ite_eq_right_iff, Bool.and_eq_true, decide_eq_true_eq, Bool.not_eq_eq_eq_not,
    Bool.not_true]
  exact fun h' => absurd h' h

theorem nextOf_eq_seek {l : List Rec} {c : Nat} (hs : (ids l).Pairwise (· < ·)) (hc : c ∈ ids l) :
    nextOf c l = some (Keys.seek (c + 1) (ids l)) := by
  induction l with
  | nil => cases hc
  | cons a l ih =>
    rw [nextOf, show ids (a :: l) = a.id :: ids l from rfl, Keys.seek_succ_cons (a := a.id) (L := ids l) hs hc]
    split
    · exact congrArg some List.head?_map.symm
    · next ha => exact ih (List.pairwise_cons.mp hs).2 ((List.mem_cons.mp hc).resolve_left (Ne.symm ha))

theorem loop_succ {rv : Bool} {beh : Behav} {d ev fuel c : Nat} {s : State} (hc : c ∈ ids s.list) :
    ∃ eh ∈ s.list, eh.id = c ∧ loop rv beh d ev (fuel + 1) (some c) s =
      (callbackRun rv beh d ev fuel eh s).bind fun s2 =>
        match nextOf c s2.list with
        | none => .error (.deadDeref c)
        | some nx => loop rv beh d ev fuel nx s2 := by
  obtain ⟨eh, hm, hid, hf⟩ := Keys.find_key hc
  exact ⟨eh, hm, hid, by rw [loop, hf, bind_eq]; rfl⟩

theorem loop_none (rv : Bool) (beh : Behav) (d ev fuel : Nat) (s : State) :
    loop rv beh d ev fuel none s = .ok s := by
  cases fuel <;> rw [loop]

theorem inv_append_call {rv : Bool} {s : State} (h : Inv rv s) {eh : Rec} (hm : eh ∈ s.list)
    (hrm : eh.remove = false) (d ev : Nat) (hd : d < s.nextDid) (hlt : ∀ x ∈ callsOf d s.trace, x < eh.id) :
    Inv rv { s with trace := s.trace ++ [Entry.call d eh.id eh.fn eh.user ev] } := by
  have L := h.linked.call hm (e := Entry.call d eh.id eh.fn eh.user ev) rfl nofun
  refine ⟨h.sorted, h.bound, h.idleClean, h.maskSup, L.freedDead, L.ncaf, ?_, ?_, ?_, ?_, ?_⟩
  · intro d' id f u e hin
    simp only [List.mem_append, List.mem_singleton, Entry.call.injEq] at hin
    rcases hin with hin | ⟨rfl, _⟩
    · exact h.callDid d' id f u e hin
    · exact hd
  · intro d'
    show (callsOf d' (s.trace ++ [Entry.call d eh.id eh.fn eh.user ev])).Pairwise (· < ·)
    rw [callsOf_append]
    by_cases hdd : d = d'
    · subst hdd
      rw [callsOf_single_same, List.pairwise_append]
      refine ⟨h.ordered d, List.pairwise_singleton _ _, ?_⟩
      intro a ha b hb
      simp only [List.mem_singleton] at hb
      subst hb
      exact hlt a ha
    · rw [callsOf_eq_nil (t := [_]) (fun _ _ _ _ _ hin hd => by
        simp only [List.mem_singleton, Entry.call.injEq] at hin; omega), List.append_nil]
      exact h.ordered d'
  · intro hrv x hx
    simp only [List.mem_append, List.mem_singleton, reduceCtorEq, or_false] at hx
    exact h.unregMarked hrv x hx
  · intro hrv
    exact Keys.NoCallAfter.append_call (h.ncau hrv) rfl
      (fun ha => by have := h.unregMarked hrv eh.id ha eh hm rfl; rw [hrm] at this; cases this)
  · intro x hx
    simp only [List.mem_append, List.mem_singleton, reduceCtorEq, or_false] at hx
    exact h.unregBound x hx

/-- what the delivery loop of `send` number `d` needs of its cursor and state: inside a delivery, the
cursor linked and ahead of everything this delivery has called -/
structure LoopPre (rv : Bool) (d : Nat) (cur : Option Nat) (s : State) : Prop where
  inv : Inv rv s
  inside : 0 < s.refCount
  did : d < s.nextDid
  live : ∀ c, cur = some c → c ∈ ids s.list
  ahead : ∀ c, cur = some c → ∀ x ∈ callsOf d s.trace, x < c

theorem enter_pre {rv : Bool} {s : State} (h : Inv rv s) (ev : Nat) :
    LoopPre rv s.nextDid (s.list.head?.map (·.id)) (enter s ev) where
  inv := inv_refCount_pos (inv_ghost h [Entry.api (.send ev), Entry.begin s.nextDid ev] (s.nextDid + 1)
    (Nat.le_succ _) rfl) (s.refCount + 1) (Nat.succ_pos _)
  inside := Nat.succ_pos _
  did := Nat.lt_succ_self _
  live := Keys.head_mem s.list
  ahead := by
    intro c _ x hx
    rw [callsOf_eq_nil (t := (enter s ev).trace)] at hx
    · cases hx
    · intro d' id f u e hin hd
      subst hd
      rcases List.mem_append.mp hin with hin | hin
      · exact Nat.lt_irrefl _ (h.callDid _ id f u e hin)
      · simp at hin

theorem leave_ok {rv : Bool} {s s1 : State} {ev : Nat} (h1 : Inv rv s1) (e1 : Ext s.nextDid (enter s ev) s1) :
    Inv rv (leave s.nextDid s1) ∧ Ext s.nextDid s (leave s.nextDid s1) ∧
    ∃ tail, newPart s (leave s.nextDid s1)
      = [Entry.api (.send ev), Entry.begin s.nextDid ev] ++ (newPart (enter s ev) s1 ++ tail) := by
  have hrc : s1.refCount = s.refCount + 1 := e1.refCount
  have htr := e1.trace
  have hcalls : ∀ tail : List Entry, (∀ e ∈ tail, e.callId = none) → ∀ d id f u e,
      Entry.call d id f u e ∈ [Entry.api (.send ev), Entry.begin s.nextDid ev] ++ (newPart (enter s ev) s1 ++ tail) →
      s.nextDid ≤ d := by
    intro tail ht d id f u e hin
    simp only [List.cons_append, List.nil_append, List.mem_cons, reduceCtorEq, false_or, List.mem_append] at hin
    rcases hin with hin | hin
    · exact e1.calls d id f u e hin
    · exact nomatch ht _ hin
  unfold leave
  by_cases hpos : 0 < s.refCount
  · -- nested: no sweep
    have hgt : s1.refCount - 1 > 0 := by omega
    simp only [hgt, if_true]
    have hshape : s1.trace ++ [Entry.done s.nextDid] = s.trace ++ ([Entry.api (.send ev), Entry.begin s.nextDid ev]
        ++ (newPart (enter s ev) s1 ++ [Entry.done s.nextDid])) := by
      rw [htr]; simp [enter]
    refine ⟨inv_ghost (inv_refCount_pos h1 _ hgt) [Entry.done s.nextDid] s1.nextDid (Nat.le_refl _) rfl,
      .of_append (by simp only; omega) (Nat.le_of_succ_le e1.nextDid) (fun _ => e1.pre (Nat.succ_pos _))
        hshape (hcalls _ (ghost_nocall rfl)), _, newPart_of_append hshape⟩
  · -- outermost: sweep
    have h0 : s1.refCount - 1 = 0 := by omega
    rw [h0]; simp only [gt_iff_lt, Nat.lt_irrefl, if_false]
    have hshape : (sweep { s1 with refCount := 0 }).trace ++ [Entry.done s.nextDid]
        = s.trace ++ ([Entry.api (.send ev), Entry.begin s.nextDid ev] ++ (newPart (enter s ev) s1 ++
          ((s1.list.filter (·.remove)).map (fun r => Entry.free r.id) ++ [Entry.done s.nextDid]))) := by
      simp only [sweep]; rw [htr]; simp [enter]
    refine ⟨inv_ghost (sweep_inv h1) [Entry.done s.nextDid] _ (Nat.le_refl _) rfl,
      .of_append (by simp only [sweep]; omega) (Nat.le_of_succ_le e1.nextDid) (fun hp => absurd hp hpos)
        hshape (hcalls _ (List.forall_mem_append.mpr ⟨List.forall_mem_map.mpr fun _ _ => rfl, ghost_nocall rfl⟩)), _,
        newPart_of_append hshape⟩

theorem leave_kept {ev : Nat} {r0 : Rec} {s1 : State} (d : Nat) (hk : Kept ev r0 s1) : Kept ev r0 (leave d s1) := by
  by_cases hgt : s1.refCount - 1 > 0
  · simp only [leave, hgt, if_true]; exact hk
  · obtain ⟨r, hr, hid, hfn, huser, hrm, hmask⟩ := hk
    exact ⟨r, by simp [leave, hgt, sweep, hr, hrm], hid, hfn, huser, hrm, hmask⟩

/-- `s'` comes after `s`: it satisfies the invariant, extends `s` and keeps the handlers nobody disturbed -/
structure After (rv : Bool) (lo : Nat) (s s' : State) : Prop where
  inv : Inv rv s'
  ext : Ext lo s s'
  keeps : Keeps s s'

/-- what running something from `s` may end in: lack of fuel, or a state that comes after `s` -/
def Good (rv : Bool) (lo : Nat) (s : State) : Except Err State → Prop
  | .ok s' => After rv lo s s'
  | .error e => e = .fuel

theorem Good.ok {rv : Bool} {lo : Nat} {s s' : State} {r : Except Err State} (h : Good rv lo s r)
    (hs : r = .ok s') : After rv lo s s' := by rw [hs] at h; exact h

theorem Good.error {rv : Bool} {lo : Nat} {s : State} {r : Except Err State} {e : Err} (h : Good rv lo s r)
    (hs : r = .error e) : e = .fuel := by rw [hs] at h; exact h

theorem Good.refl {rv : Bool} {s : State} (h : Inv rv s) (lo : Nat) : Good rv lo s (.ok s) :=
  ⟨h, Ext.refl _ _, .of_list rfl⟩

theorem Good.after {rv : Bool} {lo : Nat} {s s0 : State} {r : Except Err State} (e : Ext lo s s0) (k : Keeps s s0)
    (h : Good rv lo s0 r) : Good rv lo s r := by
  cases r with
  | error e => exact h
  | ok s' => exact ⟨h.inv, e.trans h.ext, k.trans e h.ext h.keeps⟩

theorem Good.bind {rv : Bool} {lo : Nat} {s : State} {r : Except Err State} {k : State → Except Err State}
    (hr : Good rv lo s r) (hk : ∀ s1, r = .ok s1 → Inv rv s1 → Ext lo s s1 → Good rv lo s1 (k s1)) :
    Good rv lo s (r.bind k) := by
  cases r with
  | error e => exact hr
  | ok s1 => exact (hk s1 rfl hr.inv hr.ext).after hr.ext hr.keeps

theorem Good.mono {rv : Bool} {lo lo' : Nat} {s : State} {r : Except Err State} (h : Good rv lo s r)
    (hl : lo' ≤ lo) : Good rv lo' s r := by
  cases r with
  | error e => exact h
  | ok s' => exact ⟨h.inv, h.ext.mono hl, h.keeps⟩

def ExecOK (rv : Bool) (beh : Behav) (fuel : Nat) : Prop :=
  ∀ s c, Inv rv s → Good rv s.nextDid s (exec rv beh fuel s c)

/-- the test of `beforeTurn` -/
def turnP (d rid : Nat) : Entry → Bool := fun e =>
  match e with
  | .call d' id _ _ _ => !(d' == d && decide (rid ≤ id))
  | _ => true

theorem beforeTurn_eq (d rid : Nat) (t : List Entry) : beforeTurn d rid t = t.takeWhile (turnP d rid) := rfl

theorem mem_takeWhile_append_left {p : Entry → Bool} {a : List Entry} (b : List Entry) {e : Entry}
    (h : e ∈ a.takeWhile p) : e ∈ (a ++ b).takeWhile p := by
  rw [List.takeWhile_append]
  split
  · exact List.mem_append_left _ ((List.takeWhile_prefix p).subset h)
  · exact h

/-- At-least-once for the loop of delivery `d` entered at `cur`: a handler that is kept in `s`, at or after the cursor,
is invoked unless an API call logged before its turn disturbs it. -/
def Reaches (d ev : Nat) (cur : Option Nat) (s s' : State) : Prop :=
  ∀ r0 c, cur = some c → c ≤ r0.id → Kept ev r0 s → Quiet ev r0 (beforeTurn d r0.id (newPart s s')) →
    Entry.call d r0.id r0.fn r0.user ev ∈ newPart s s'

def LoopOK (rv : Bool) (beh : Behav) (fuel : Nat) : Prop :=
  ∀ d ev cur s, LoopPre rv d cur s → Good rv d s (loop rv beh d ev fuel cur s) ∧
    ∀ s', loop rv beh d ev fuel cur s = .ok s' → Reaches d ev cur s s'

theorem exec_api_ok {rv : Bool} {beh : Behav} {fuel : Nat} {s : State} {c : Call} (hc : ∀ ev, c ≠ .send ev)
    (h : Inv rv s) (lo : Nat) :
    ∃ s', exec rv beh fuel s c = .ok s' ∧ After rv lo s s' := by
  have h0 := inv_ghost h [Entry.api c] s.nextDid (Nat.le_refl _) rfl
  have e0 : Ext lo s { s with trace := s.trace ++ [Entry.api c] } :=
    .log rfl (Nat.le_refl _) (fun _ => rfl) rfl (ghost_nocall rfl)
  -- the call logs itself first, so a quiet log says that it does not disturb
  have fin : ∀ {s1 : State}, (Inv rv s1 ∧ Ext lo { s with trace := s.trace ++ [Entry.api c] } s1 ∧
      ∀ ev r0, ¬ disturbs ev r0 c → Kept ev r0 s → Kept ev r0 s1) → After rv lo s s1 :=
    fun ⟨h1, e1, hk⟩ => ⟨h1, e0.trans e1, fun ev r0 hk0 hq => hk ev r0 (hq c (by
      rw [e0.newPart_trans e1, newPart_of_append (s := s) (δ := [Entry.api c]) rfl]; exact List.mem_cons_self ..)) hk0⟩
  cases c with
  | add fn user m oom => exact ⟨_, by rw [exec], fin (apiAdd_ok rv fn user m oom _ h0 lo)⟩
  | removeRec id => exact ⟨_, by rw [exec], fin (apiRemove_ok rv id _ h0 lo)⟩
  | removeByEvent m =>
    exact ⟨_, by rw [exec], fin ⟨(apiRemoveByEvent_ok rv m _ h0 lo).1, (apiRemoveByEvent_ok rv m _ h0 lo).2,
      fun _ _ hnd => absurd trivial hnd⟩⟩
  | send ev => exact absurd rfl (hc ev)

theorem script_ok {rv : Bool} {beh : Behav} {fuel : Nat} (hx : ExecOK rv beh fuel) :
    ∀ (cs : List Call) (s : State), Inv rv s →
      Good rv s.nextDid s (cs.foldlM (fun s c => exec rv beh fuel s c) s) := by
  intro cs
  induction cs with
  | nil => exact fun s h => .refl h _
  | cons c cs ih =>
    intro s h
    rw [List.foldlM_cons]
    exact (hx s c h).bind fun s1 _ h1 e1 => (ih s1 h1).mono e1.nextDid

theorem callbackRun_ok {rv : Bool} {beh : Behav} {fuel : Nat} (hx : ExecOK rv beh fuel) {d ev : Nat} {eh : Rec}
    {s : State} (pre : LoopPre rv d (some eh.id) s) (hem : eh ∈ s.list) :
    Good rv d s (callbackRun rv beh d ev fuel eh s) ∧
    ∀ s2, callbackRun rv beh d ev fuel eh s = .ok s2 → (∀ x ∈ callsOf d s2.trace, x ≤ eh.id) ∧
      (eh.mask &&& ev ≠ 0 → eh.remove = false → Entry.call d eh.id eh.fn eh.user ev ∈ newPart s s2) := by
  have hlt := pre.ahead eh.id rfl
  by_cases hcall : eh.mask &&& ev ≠ 0 ∧ eh.remove = false
  · rw [callbackRun_pos hcall.1 hcall.2]
    have hg := script_ok hx (beh s.trace eh.fn eh.user ev) _ (inv_append_call pre.inv hem hcall.2 d ev pre.did hlt)
    have e1 : Ext d s { s with trace := s.trace ++ [Entry.call d eh.id eh.fn eh.user ev] } :=
      .of_append rfl (Nat.le_refl _) (fun _ => ⟨[], by simp⟩) rfl (by
        intro d' id f u e hin
        simp only [List.mem_singleton, Entry.call.injEq] at hin
        omega)
    refine ⟨(hg.mono (Nat.le_of_lt pre.did)).after e1 (.of_list rfl), fun s2 hs2 => ?_⟩
    have e2 := (hg.ok hs2).ext
    refine ⟨fun x hx => ?_, fun _ _ => ?_⟩
    · have h0 := callsOf_eq_nil (d := d) fun d' id f u e hin =>
        Nat.ne_of_gt (Nat.lt_of_lt_of_le pre.did (e2.calls d' id f u e hin))
      rw [e2.trace, callsOf_append, callsOf_append, callsOf_single_same, h0, List.append_nil] at hx
      rcases List.mem_append.mp hx with hx | hx
      · exact Nat.le_of_lt (hlt x hx)
      · simp only [List.mem_singleton] at hx; omega
    · rw [e1.newPart_trans e2, newPart_of_append (s := s) (δ := [Entry.call d eh.id eh.fn eh.user ev]) rfl]
      exact List.mem_cons_self ..
  · rw [callbackRun_neg hcall]
    exact ⟨.refl pre.inv _, fun s2 hs2 => by
      cases hs2; exact ⟨fun x hx => Nat.le_of_lt (hlt x hx), fun h1 h2 => absurd ⟨h1, h2⟩ hcall⟩⟩

/-- after the callback the record is still linked (the list only grew), so `eh->next` can be read -/
theorem LoopPre.next {rv : Bool} {d : Nat} {eh : Rec} {s s2 : State} (pre : LoopPre rv d (some eh.id) s)
    (hem : eh ∈ s.list) (h2 : Inv rv s2) (e2 : Ext d s s2) (hle : ∀ x ∈ callsOf d s2.trace, x ≤ eh.id) :
    ∃ nx, nextOf eh.id s2.list = some nx ∧ LoopPre rv d nx s2 ∧
      ∀ r ∈ s2.list, eh.id < r.id → ∃ c', nx = some c' ∧ c' ≤ r.id := by
  obtain ⟨t, ht⟩ := e2.pre pre.inside
  have hin2 : eh.id ∈ ids s2.list := by
    rw [ht]; exact List.mem_append_left _ (List.mem_map_of_mem hem)
  exact ⟨_, nextOf_eq_seek h2.sorted hin2, ⟨h2, by rw [e2.refCount]; exact pre.inside,
    Nat.lt_of_lt_of_le pre.did e2.nextDid, fun c' hc' => (Keys.seek_some hc').1,
    fun c' hc' x hx => Nat.lt_of_le_of_lt (hle x hx) (Keys.seek_some hc').2⟩,
    fun r hr hlt => Keys.seek_le h2.sorted (List.mem_map_of_mem hr) hlt⟩

/-- The hypothesis speaks of the predecessor of `fuel` if there is one, so that the step also serves at `fuel = 0`. -/
theorem execOK_step {rv : Bool} {beh : Behav} {fuel : Nat} (hl : ∀ f, fuel = f + 1 → LoopOK rv beh f) :
    ExecOK rv beh fuel := by
  intro s c h
  by_cases hc : ∀ ev, c ≠ .send ev
  · obtain ⟨s1, hs1, hg⟩ := exec_api_ok (beh := beh) (fuel := fuel) hc h s.nextDid
    rw [hs1]; exact hg
  · obtain ⟨ev, rfl⟩ : ∃ ev, c = .send ev := by
      cases c with
      | send ev => exact ⟨ev, rfl⟩
      | _ => exact absurd (fun _ => nofun) hc
    cases fuel with
    | zero => rw [exec]; exact rfl
    | succ fuel =>
      rw [exec_send_succ]
      by_cases hz : s.eventMask &&& ev = 0
      · rw [if_pos hz]
        exact ⟨by rw [List.append_assoc]; exact inv_ghost h _ (s.nextDid + 1) (Nat.le_succ _) rfl,
          .log rfl (Nat.le_succ _) (fun _ => rfl) (List.append_assoc ..) (ghost_nocall rfl), .of_list rfl⟩
      · rw [if_neg hz]
        have hg := (hl fuel rfl s.nextDid ev _ _ (enter_pre h ev)).1
        cases hloop : loop rv beh s.nextDid ev fuel _ (enter s ev) with
        | error e => exact hg.error hloop
        | ok s1 =>
          obtain ⟨h1, e1, k1⟩ := hg.ok hloop
          obtain ⟨h2, e2, tail, hsh⟩ := leave_ok h1 e1
          refine ⟨h2, e2, fun ev' r0 hk hq => ?_⟩
          rw [hsh, quiet_append, quiet_append] at hq
          exact leave_kept _ (k1 ev' r0 (kept_trace hk _ _ _) hq.2.1)

theorem loopOK_step {rv : Bool} {beh : Behav} {fuel : Nat}
    (hx : ∀ f, fuel = f + 1 → ExecOK rv beh f ∧ LoopOK rv beh f) : LoopOK rv beh fuel := by
  intro d ev cur s pre
  cases cur with
  | none => rw [loop_none]; exact ⟨.refl pre.inv _, fun _ _ _ _ h => nomatch h⟩
  | some c =>
    cases fuel with
    | zero => rw [loop]; exact ⟨rfl, nofun⟩
    | succ fuel =>
      obtain ⟨ihx, ihl⟩ := hx fuel rfl
      obtain ⟨eh, hem, rfl, heq⟩ := loop_succ (rv := rv) (beh := beh) (d := d) (ev := ev) (fuel := fuel) (pre.live c rfl)
      rw [heq]
      obtain ⟨hg, hle⟩ := callbackRun_ok (ev := ev) ihx pre hem
      refine ⟨hg.bind fun s2 hrun h2 e2 => ?_, fun s' hs r0 c0 hc0 hle0 hk hq => ?_⟩
      · obtain ⟨nx, hnx, pre2, _⟩ := pre.next hem h2 e2 (hle s2 hrun).1
        simp only [hnx]
        exact (ihl d ev nx s2 pre2).1
      · -- Each iteration only logs invocations by `d` of records up to its own, so for a record ahead of it the whole
        -- iteration lies before `r0`'s turn: `beforeTurn` passes over it, the quiet log covers it, and `Keeps` hands
        -- `r0` on to the rest of the loop.
        cases hc0
        obtain ⟨s2, hrun, hs⟩ := bind_ok hs
        obtain ⟨h2, e2, k2⟩ := hg.ok hrun
        obtain ⟨hle, hcalled⟩ := hle s2 hrun
        obtain ⟨nx, hnx, pre2, hnle⟩ := pre.next hem h2 e2 hle
        simp only [hnx] at hs
        obtain ⟨hg3, r3⟩ := ihl d ev nx s2 pre2
        have hnp := e2.newPart_trans (hg3.ok hs).ext
        obtain ⟨r, hr, hid, hfn, huser, hrm, hmask⟩ := hk
        by_cases heq : eh.id = r0.id
        · -- its turn: it is called whatever happens later
          cases Keys.inj pre.inv.sorted hem hr (heq.trans hid.symm)
          rw [hnp, ← hid, ← hfn, ← huser]
          exact List.mem_append_left _ (hcalled hmask hrm)
        · have hall : ∀ e ∈ newPart s s2, turnP d r0.id e = true := by
            intro e he
            cases e with
            | call d' id f u e' =>
              by_cases hd : d' = d
              · subst hd
                have : id ≤ eh.id := hle id (by
                  rw [e2.trace, callsOf_append]
                  exact List.mem_append_right _ (List.mem_filterMap.mpr ⟨_, he, by simp⟩))
                have : ¬ (r0.id ≤ id) := by omega
                simp [turnP, this]
              · simp [turnP, hd]
            | _ => rfl
          rw [hnp, beforeTurn_eq, List.takeWhile_append_of_pos hall, quiet_append] at hq
          obtain ⟨r2, hr2, hid2, hk2⟩ := k2 ev r0 ⟨r, hr, hid, hfn, huser, hrm, hmask⟩ hq.1
          obtain ⟨c', rfl, hle'⟩ := hnle r2 hr2 (by omega)
          rw [hnp]
          exact List.mem_append_right _ (r3 s' hs r0 c' rfl (by omega) ⟨r2, hr2, hid2, hk2⟩ hq.2)

theorem exec_loop_ok (rv : Bool) (beh : Behav) : ∀ fuel, ExecOK rv beh fuel ∧ LoopOK rv beh fuel := by
  intro fuel
  induction fuel with
  | zero => exact ⟨execOK_step nofun, loopOK_step nofun⟩
  | succ fuel ih =>
    exact ⟨execOK_step (fun f hf => by cases hf; exact ih.2), loopOK_step (fun f hf => by cases hf; exact ih)⟩

/-- At-least-once for any delivery, top-level or nested: a handler that is kept when `send` is entered is
invoked by it unless an API call executed before its turn disturbs it. -/
theorem send_calls_kept {rv : Bool} {beh : Behav} {fuel ev : Nat} {s s' : State} {r : Rec} (h : Inv rv s)
    (hs : exec rv beh fuel s (.send ev) = .ok s') (hk : Kept ev r s)
    (hq : Quiet ev r (beforeTurn s.nextDid r.id (newPart s s'))) :
    Entry.call s.nextDid r.id r.fn r.user ev ∈ newPart s s' := by
  cases fuel with
  | zero => rw [exec] at hs; cases hs
  | succ fuel =>
    have ⟨r0, hr0, hid0, _, _, hrm0, hmask0⟩ := hk
    rw [exec_send_succ, if_neg (h.maskSup r0 hr0 hrm0 ev hmask0)] at hs
    obtain ⟨s1, hloop, hs⟩ := bind_ok hs
    cases hs
    obtain ⟨hg, hreach⟩ := (exec_loop_ok rv beh fuel).2 _ ev _ _ (enter_pre h ev)
    obtain ⟨tail, hsh⟩ := (leave_ok (hg.ok hloop).inv (hg.ok hloop).ext).2.2
    have hpre : ∀ e ∈ [Entry.api (.send ev), Entry.begin s.nextDid ev], turnP s.nextDid r.id e = true :=
      List.all_eq_true.mp rfl
    obtain ⟨r1, hh1, hle1⟩ := Keys.head_le h.sorted hr0
    rw [hsh]
    refine List.mem_append_right _ (List.mem_append_left _
      (hreach s1 hloop r r1.id (by rw [hh1]; rfl) (hid0 ▸ hle1) (kept_trace hk _ _ _) ?_))
    intro c' hc'
    apply hq c'
    rw [hsh, beforeTurn_eq, List.takeWhile_append_of_pos hpre]
    exact List.mem_append_right _ (mem_takeWhile_append_left tail hc')

theorem inv_init (rv : Bool) : Inv rv init :=
  ⟨.nil, nofun, fun _ => nofun, nofun, nofun, .nil, nofun, fun _ => .nil, fun _ => nofun, fun _ => .nil, nofun⟩

theorem run_good (rv : Bool) (beh : Behav) (fuel : Nat) (cs : List Call) (s : State) (h : Inv rv s) :
    Good rv s.nextDid s (run rv beh fuel s cs) := by
  rw [run_eq_foldlM]
  exact script_ok (exec_loop_ok rv beh fuel).1 cs s h

/-- decidable form of "the run succeeded and its final state satisfies `p`" -/
def okAnd (r : Except Err State) (p : State → Bool) : Bool :=
  match r with
  | .ok s => p s
  | .error _ => false

theorem okAnd_spec {r : Except Err State} {p : State → Bool} (h : okAnd r p = true) :
    ∃ s, r = .ok s ∧ p s = true := by
  cases r with
  | ok s => exact ⟨s, rfl, h⟩
  | error e => simp [okAnd] at h

end Zvbi.Evl
