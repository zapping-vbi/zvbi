import ZvbiModel.Evl.LemmasWalk
/-!
# One step of the second list (C11, evl): log entries, API calls and the sweep keep `Inv`; `Ext`
-/
namespace Zvbi.Evl

theorem callsOf_append (d : Nat) (t t' : List Entry) : callsOf d (t ++ t') = callsOf d t ++ callsOf d t' := by
  simp [callsOf, List.filterMap_append]

theorem callsOf_eq_nil {d : Nat} {t : List Entry} (h : ∀ d' id f u e, Entry.call d' id f u e ∈ t → d' ≠ d) :
    callsOf d t = [] := by
  unfold callsOf
  rw [List.filterMap_eq_nil_iff]
  intro e he
  cases e with
  | call d' id f u e' => simp [h d' id f u e' he]
  | _ => rfl

theorem callsOf_nocall (d : Nat) {t : List Entry} (h : ∀ e ∈ t, e.callId = none) : callsOf d t = [] :=
  callsOf_eq_nil fun _ _ _ _ _ hin => nomatch h _ hin

theorem callsOf_single_same (d id f u e : Nat) : callsOf d [Entry.call d id f u e] = [id] := by
  simp [callsOf]

/-- entries that only annotate the log -/
def Entry.ghost : Entry → Bool
  | .api _ | .begin _ _ | .done _ | .oom => true
  | _ => false

theorem ghost_nocall {δ : List Entry} (h : δ.all Entry.ghost = true) : ∀ e ∈ δ, e.callId = none := by
  intro e he
  have := List.all_eq_true.mp h e he
  cases e with
  | call => cases this
  | _ => rfl

theorem Inv.linked {rv : Bool} {s : State} (h : Inv rv s) :
    Keys.Linked (·.id) Entry.free Entry.callId s.list s.nextId s.trace :=
  ⟨h.sorted, h.bound, h.freedDead, h.ncaf⟩

/-- A step that invokes nobody: the list becomes `l'`, the next fresh id `n'`, the log grows by `δ`, and `L` says that
ids and freed records are in order.  What `δ` removes is marked if still linked, and what was
marked stays marked (both for `rv = false`). -/
theorem inv_step {rv : Bool} {s : State} (h : Inv rv s) {l' : List Rec} {em rc n' nd : Nat} {δ : List Entry}
    (L : Keys.Linked (·.id) Entry.free Entry.callId l' n' (s.trace ++ δ)) (hn' : s.nextId ≤ n')
    (hclean : rc = 0 → ∀ r' ∈ l', r'.remove = false) (hmask : Covers em l') (hn : s.nextDid ≤ nd)
    (hδc : ∀ e ∈ δ, e.callId = none)
    (hδu : ∀ x, Entry.unreg x ∈ δ → x < n' ∧ (rv = false → ∀ r' ∈ l', r'.id = x → r'.remove = true))
    (hkeep : rv = false → ∀ x, Entry.unreg x ∈ s.trace → ∀ r' ∈ l', r'.id = x → r'.remove = true) :
    Inv rv { list := l', eventMask := em, refCount := rc, nextId := n', nextDid := nd, trace := s.trace ++ δ } := by
  refine ⟨L.sorted, L.bound, hclean, hmask, L.freedDead, L.ncaf, ?_, ?_,
    ?_, fun hrv => Keys.NoCallAfter.append_nocall (h.ncau hrv) hδc, ?_⟩
  · intro d id f u e hin
    rcases List.mem_append.mp hin with hin | hin
    · exact Nat.lt_of_lt_of_le (h.callDid d id f u e hin) hn
    · exact nomatch hδc _ hin
  · intro d
    show (callsOf d (s.trace ++ δ)).Pairwise (· < ·)
    rw [callsOf_append, callsOf_nocall d hδc, List.append_nil]; exact h.ordered d
  · intro hrv x hx
    exact (List.mem_append.mp hx).elim (hkeep hrv x) (fun hx => (hδu x hx).2 hrv)
  · intro x hx
    exact (List.mem_append.mp hx).elim (fun hx => Nat.lt_of_lt_of_le (h.unregBound x hx) hn') (fun hx => (hδu x hx).1)

theorem walkLog_nocall (un fr : List Nat) : ∀ e ∈ un.map Entry.unreg ++ fr.map Entry.free, e.callId = none :=
  List.forall_mem_append.mpr ⟨List.forall_mem_map.mpr fun _ _ => rfl, List.forall_mem_map.mpr fun _ _ => rfl⟩

theorem newPart_of_append {s s' : State} {δ : List Entry} (h : s'.trace = s.trace ++ δ) : newPart s s' = δ := by
  unfold newPart; rw [h, List.drop_left]

/-- `s'` is a later state: same nesting depth, while a delivery runs the list only grows at the
tail, and every invocation logged in between belongs to a delivery numbered `lo` or later -/
structure Ext (lo : Nat) (s s' : State) : Prop where
  refCount : s'.refCount = s.refCount
  nextDid : s.nextDid ≤ s'.nextDid
  pre : 0 < s.refCount → ∃ t, ids s'.list = ids s.list ++ t
  trace : s'.trace = s.trace ++ newPart s s'
  calls : ∀ d id f u e, Entry.call d id f u e ∈ newPart s s' → lo ≤ d

theorem Ext.of_append {lo : Nat} {s s' : State} {δ : List Entry} (hrc : s'.refCount = s.refCount)
    (hdid : s.nextDid ≤ s'.nextDid)
    (hpre : 0 < s.refCount → ∃ t, ids s'.list = ids s.list ++ t) (htr : s'.trace = s.trace ++ δ)
    (hc : ∀ d id f u e, Entry.call d id f u e ∈ δ → lo ≤ d) : Ext lo s s' :=
  ⟨hrc, hdid, hpre, by rw [newPart_of_append htr]; exact htr, by rw [newPart_of_append htr]; exact hc⟩

theorem Ext.refl (lo : Nat) (s : State) : Ext lo s s :=
  .of_append (δ := []) rfl (Nat.le_refl _) (fun _ => ⟨[], by simp⟩) (by simp) nofun

theorem Ext.mono {lo lo' : Nat} {s s' : State} (h : Ext lo s s') (hl : lo' ≤ lo) : Ext lo' s s' :=
  { h with calls := fun d id f u e hin => Nat.le_trans hl (h.calls d id f u e hin) }

theorem Ext.newPart_trans {lo lo' : Nat} {s s1 s' : State} (h1 : Ext lo s s1) (h2 : Ext lo' s1 s') :
    newPart s s' = newPart s s1 ++ newPart s1 s' := by
  have := h2.trace
  rw [h1.trace, List.append_assoc] at this
  exact newPart_of_append this

theorem Ext.trans {lo : Nat} {s s' s'' : State} (h1 : Ext lo s s') (h2 : Ext lo s' s'') : Ext lo s s'' := by
  have hnp := h1.newPart_trans h2
  refine ⟨by rw [h2.refCount, h1.refCount], Nat.le_trans h1.nextDid h2.nextDid, ?_, by rw [hnp, ← List.append_assoc, ← h1.trace, ← h2.trace], ?_⟩
  · intro hp
    obtain ⟨t1, ht1⟩ := h1.pre hp
    obtain ⟨t2, ht2⟩ := h2.pre (by rw [h1.refCount]; exact hp)
    exact ⟨t1 ++ t2, by rw [ht2, ht1, List.append_assoc]⟩
  · intro d id f u e hin
    rw [hnp] at hin
    exact (List.mem_append.mp hin).elim (h1.calls d id f u e) (h2.calls d id f u e)

theorem quiet_append {ev : Nat} {r0 : Rec} {a b : List Entry} :
    Quiet ev r0 (a ++ b) ↔ Quiet ev r0 a ∧ Quiet ev r0 b := by
  simp only [Quiet, List.mem_append]
  exact ⟨fun h => ⟨fun c hc => h c (Or.inl hc), fun c hc => h c (Or.inr hc)⟩, fun h c hc => hc.elim (h.1 c) (h.2 c)⟩

/-- a handler kept in `s` is kept in `s'` unless an API call logged in between disturbs it -/
def Keeps (s s' : State) : Prop := ∀ ev r0, Kept ev r0 s → Quiet ev r0 (newPart s s') → Kept ev r0 s'

theorem Keeps.of_list {s s' : State} (h : s'.list = s.list) : Keeps s s' :=
  fun _ _ hk _ => by unfold Kept at *; rw [h]; exact hk

theorem Keeps.trans {lo lo' : Nat} {s s1 s' : State} (e1 : Ext lo s s1) (e2 : Ext lo' s1 s') (k1 : Keeps s s1)
    (k2 : Keeps s1 s') : Keeps s s' := by
  intro ev r0 hk hq
  rw [e1.newPart_trans e2, quiet_append] at hq
  exact k2 ev r0 (k1 ev r0 hk hq.1) hq.2

theorem Ext.log {lo : Nat} {s s' : State} {δ : List Entry} (hrc : s'.refCount = s.refCount)
    (hdid : s.nextDid ≤ s'.nextDid)
    (hpre : 0 < s.refCount → ids s'.list = ids s.list) (htr : s'.trace = s.trace ++ δ)
    (hδ : ∀ e ∈ δ, e.callId = none) : Ext lo s s' :=
  .of_append hrc hdid (fun hp => ⟨[], by simp [hpre hp]⟩) htr (fun _ _ _ _ _ hin => nomatch hδ _ hin)

theorem inv_ghost {rv : Bool} {s : State} (h : Inv rv s) (δ : List Entry) (n : Nat) (hn : s.nextDid ≤ n)
    (hδ : δ.all Entry.ghost = true) : Inv rv { s with trace := s.trace ++ δ, nextDid := n } :=
  have hg := List.all_eq_true.mp hδ
  inv_step h (h.linked.sub (List.Sublist.refl _) (ghost_nocall hδ) fun _ hx => nomatch hg _ hx) (Nat.le_refl _)
    h.idleClean h.maskSup hn (ghost_nocall hδ) (fun _ hx => nomatch hg _ hx) h.unregMarked

theorem inv_refCount_pos {rv : Bool} {s : State} (h : Inv rv s) (n : Nat) (hn : 0 < n) :
    Inv rv { s with refCount := n } :=
  { h with idleClean := fun h0 => absurd h0 (Nat.ne_of_gt hn) }

theorem inv_append_rec {rv : Bool} {s : State} (h : Inv rv s) (fn user evm : Nat) :
    Inv rv { s with list := s.list ++ [{ id := s.nextId, fn := fn, user := user, mask := evm, remove := false }],
                    eventMask := s.eventMask ||| evm, nextId := s.nextId + 1,
                    trace := s.trace ++ [Entry.alloc s.nextId fn user evm] } := by
  have hnc : ∀ e ∈ [Entry.alloc s.nextId fn user evm], e.callId = none := List.forall_mem_singleton.mpr rfl
  refine inv_step h (h.linked.fresh (r := ⟨s.nextId, fn, user, evm, false⟩) rfl hnc (by simp)) (Nat.le_succ _)
    (fun hrc r hr => ?_) (fun r hr hrm b hb => ?_) (Nat.le_refl _) hnc (by simp) (fun hrv x hx r hr hid => ?_) <;>
    rcases List.mem_append.mp hr with hr | hr
  · exact h.idleClean hrc r hr
  · rw [List.mem_singleton.mp hr]
  · exact Keys.and_or_ne_zero.mpr (.inl (h.maskSup r hr hrm b hb))
  · rw [List.mem_singleton.mp hr] at hb; exact Keys.and_or_ne_zero.mpr (.inr hb)
  · exact h.unregMarked hrv x hx r hr hid
  · rw [List.mem_singleton.mp hr] at hid
    exact absurd (hid ▸ h.unregBound x hx) (Nat.lt_irrefl _)

/-- An API call through its walk: the records `hit` are removed, `upd` is written into the others, and `em`, which
covers the list that is left, is stored in `el->event_mask`.  The invariant holds again, and a handler the call spares
is kept. -/
theorem pass_ok {rv : Bool} {s : State} (h : Inv rv s) (hit : Rec → Bool) {upd : Rec → Rec} (hu : Upd rv upd) {em : Nat}
    (hmask : Covers em (chainBy hit upd (s.refCount == 0) s.list)) (lo : Nat) :
    let s' := { s with list := chainBy hit upd (s.refCount == 0) s.list, eventMask := em,
                       trace := s.trace ++ (unregBy hit (s.refCount == 0) s.list).map Entry.unreg
                         ++ (freedBy hit (s.refCount == 0) s.list).map Entry.free }
    Inv rv s' ∧ Ext lo s s' ∧ ∀ ev r0, Spares hit upd ev r0 → Kept ev r0 s → Kept ev r0 s' := by
  refine and_assoc.mp ⟨?_, fun ev r0 hsp ⟨r, hr, hid, hfn, huser, hrm, hmask⟩ =>
    have ⟨hh, hm⟩ := hsp r hfn huser hid hmask
    ⟨upd r, mem_chainBy.mpr ⟨r, hr, .inl ⟨hh, rfl⟩⟩, (hu.id r).trans hid, (hu.fn r).trans hfn, (hu.user r).trans huser,
      hu.clean r hrm, hm⟩⟩
  have hsub : (ids (chainBy hit upd (s.refCount == 0) s.list)).Sublist (ids s.list) := by
    rw [ids_chainBy hu]; split
    · exact List.Sublist.map _ List.filter_sublist
    · exact List.Sublist.refl _
  -- a record of the new list with the id of a removed one is that one, marked
  have hhit : ∀ r ∈ s.list, hit r = true → ∀ r' ∈ chainBy hit upd (s.refCount == 0) s.list, r'.id = r.id →
      r'.remove = true := by
    intro r hr hh r' hr' hid
    obtain ⟨r2, hr2, hid2, h2⟩ := chainBy_origin hu hr'
    cases Keys.inj h.sorted hr2 hr (hid2.symm.trans hid)
    rcases h2 with ⟨h2, _⟩ | ⟨_, _, rfl⟩
    · rw [hh] at h2; cases h2
    · rfl
  have hlog := walkLog_nocall (unregBy hit (s.refCount == 0) s.list) (freedBy hit (s.refCount == 0) s.list)
  have := inv_step h (rc := s.refCount) (h.linked.sub hsub hlog ?_) (Nat.le_refl _) ?_ hmask (Nat.le_refl _) hlog ?_ ?_
  · rw [← List.append_assoc] at this
    exact ⟨this, .log rfl (Nat.le_refl _) (fun hp => by rw [ids_chainBy hu, if_neg]; simp; omega)
      (List.append_assoc ..) hlog⟩
  · intro x hx
    have hx : x ∈ freedBy hit (s.refCount == 0) s.list := by simpa using hx
    unfold freedBy at hx
    split at hx
    next hi =>
      obtain ⟨r, hr, rfl⟩ := mem_ids.mp hx
      obtain ⟨hr, hh⟩ := List.mem_filter.mp hr
      show r.id ∉ ids _ ∧ _
      rw [ids_chainBy hu, if_pos hi]
      exact ⟨Keys.not_mem_filter_not h.sorted hr hh, h.bound r hr⟩
    · cases hx
  · intro hrc r' hr'
    obtain ⟨r, hr, _, h2⟩ := chainBy_origin hu hr'
    rcases h2 with ⟨_, rfl⟩ | ⟨_, h2, _⟩
    · exact hu.clean r (h.idleClean hrc r hr)
    · simp [hrc] at h2
  · intro x hx
    have hx : x ∈ unregBy hit (s.refCount == 0) s.list := by simpa using hx
    obtain ⟨r, hr, rfl⟩ := mem_ids.mp hx
    obtain ⟨hr, hh⟩ := List.mem_filter.mp hr
    exact ⟨h.bound r hr, fun _ r' hr' hid => hhit r hr (by simp at hh; exact hh.1) r' hr' hid⟩
  · intro hrv x hx r' hr' hid
    obtain ⟨r, hr, hid2, h2⟩ := chainBy_origin hu hr'
    rcases h2 with ⟨_, rfl⟩ | ⟨_, _, rfl⟩
    · exact hu.marked hrv r (h.unregMarked hrv x hx r hr (hid2.symm.trans hid))
    · rfl

theorem apiAdd_ok (rv : Bool) (fn user evm : Nat) (oom : Bool) (s : State) (h : Inv rv s) (lo : Nat) :
    Inv rv (apiAdd rv fn user evm oom s) ∧ Ext lo s (apiAdd rv fn user evm oom s) ∧
    ∀ ev r0, ¬ disturbs ev r0 (.add fn user evm oom) → Kept ev r0 s → Kept ev r0 (apiAdd rv fn user evm oom s) := by
  obtain ⟨h1, e1, k1⟩ := pass_ok h (hitAdd fn user evm) (Upd.add rv fn user evm) (covers_unionBy _ _ _ _) lo
  have k1 := fun ev r0 (hnd : ¬ disturbs ev r0 (.add fn user evm oom)) => k1 ev r0 (add_spares hnd)
  simp only [apiAdd, walkAdd_eq]
  split
  · cases oom with
    | true =>
      exact ⟨inv_ghost h1 [Entry.oom] s.nextDid (Nat.le_refl _) rfl,
        e1.trans (.log rfl (Nat.le_refl _) (fun _ => rfl) rfl (ghost_nocall rfl)), k1⟩
    | false =>
      exact ⟨inv_append_rec h1 fn user evm, e1.trans (.of_append rfl (Nat.le_refl _)
        (fun _ => ⟨[s.nextId], by simp [ids]⟩) rfl (by simp)), fun ev r0 hnd hk =>
          let ⟨r', hr', h'⟩ := k1 ev r0 hnd hk
          ⟨r', List.mem_append_left _ hr', h'⟩⟩
  · exact ⟨h1, e1, k1⟩

/-- With `rv = true` a successful `_add` leaves the handler linked and unmarked in any state, also inside a delivery in
which its record was marked for removal. -/
theorem apiAdd_registers (fn user evm : Nat) (hz : evm ≠ 0) (s : State) :
    ∃ r ∈ (apiAdd true fn user evm false s).list, r.fn = fn ∧ r.user = user ∧ r.mask = evm ∧ r.remove = false := by
  have hz' : (evm != 0) = true := by simpa using hz
  simp only [apiAdd, walkAdd_eq, hz', Bool.and_true, ne_eq, hz, not_false_eq_true, decide_true]
  cases hf : s.list.any fun r => r.fn == fn && r.user == user
  · exact ⟨_, List.mem_append_right _ (List.mem_singleton.mpr rfl), rfl, rfl, rfl, rfl⟩
  · obtain ⟨r, hr, hm⟩ := List.any_eq_true.mp hf
    have hfu : r.fn = fn ∧ r.user = user := by simpa using hm
    refine ⟨_, mem_chainBy.mpr ⟨r, hr, .inl ⟨by simp [hitAdd, hz], rfl⟩⟩, ?_⟩
    simp [updAdd, hz', hfu]

theorem kept_trace {ev : Nat} {r0 : Rec} {s : State} (hk : Kept ev r0 s) (t : List Entry) (n m : Nat) :
    Kept ev r0 { s with trace := t, nextDid := n, refCount := m } := hk

theorem apiRemove_ok (rv : Bool) (id : Nat) (s : State) (h : Inv rv s) (lo : Nat) :
    Inv rv (apiRemove id s) ∧ Ext lo s (apiRemove id s) ∧
    ∀ ev r0, ¬ disturbs ev r0 (.removeRec id) → Kept ev r0 s → Kept ev r0 (apiRemove id s) := by
  simp only [apiRemove, walkRemove_eq]
  obtain ⟨h1, e1, k1⟩ := pass_ok h (·.id == id) (Upd.same rv) (covers_unionBy _ _ _ _) lo
  exact ⟨h1, e1, fun ev r0 hnd => k1 ev r0 fun r _ _ hid hm => ⟨beq_false_of_ne fun h => hnd (h.symm.trans hid), hm⟩⟩

theorem apiRemoveByEvent_ok (rv : Bool) (evm : Nat) (s : State) (h : Inv rv s) (lo : Nat) :
    Inv rv (apiRemoveByEvent evm s) ∧ Ext lo s (apiRemoveByEvent evm s) := by
  simp only [apiRemoveByEvent, walkByEvent_eq]
  refine (and_assoc.mpr (pass_ok h _ (Upd.narrow rv _) (fun r' hr' hrm b hb => ?_) lo)).1
  obtain ⟨r, hr, _, h2⟩ := chainBy_origin (Upd.narrow rv _) hr'
  rcases h2 with ⟨_, rfl⟩ | ⟨_, _, rfl⟩
  · have hb : r.mask &&& (M32 ^^^ evm) &&& b ≠ 0 := hb
    rw [Nat.and_assoc] at hb ⊢
    exact h.maskSup r hr hrm _ hb
  · cases hrm

theorem sweep_inv {rv : Bool} {s : State} (h : Inv rv s) : Inv rv (sweep { s with refCount := 0 }) := by
  have hδc : ∀ e ∈ (s.list.filter (·.remove)).map (fun r => Entry.free r.id), e.callId = none :=
    List.forall_mem_map.mpr fun _ _ => rfl
  refine inv_step h (l' := s.list.filter (fun r => !r.remove))
    (h.linked.sub (List.Sublist.map _ List.filter_sublist) hδc fun x hx => ?_) (Nat.le_refl _)
    (fun _ r hr => by simpa using (List.mem_filter.mp hr).2)
    (fun r hr => h.maskSup r (List.mem_filter.mp hr).1) (Nat.le_refl _) hδc ?_
    (fun hrv x hx r hr => h.unregMarked hrv x hx r (List.mem_filter.mp hr).1)
  · simp only [List.mem_map, List.mem_filter, Entry.free.injEq] at hx
    obtain ⟨r, ⟨hr, hrm⟩, rfl⟩ := hx
    exact ⟨Keys.not_mem_filter_not h.sorted hr hrm, h.bound r hr⟩
  · intro x hx
    obtain ⟨r0, _, h0⟩ := List.mem_map.mp hx
    cases h0

end Zvbi.Evl
