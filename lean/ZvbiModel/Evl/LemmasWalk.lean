import ZvbiModel.Evl.Spec
import ZvbiModel.Ev.Keys
import ZvbiModel.Ite
/-!
# The three list walks of src/event.c (add / remove / remove_by_event) in closed form (C11, evl)

Each walk removes the records its test `hit` names (unlinks them on an idle list, marks them inside a delivery) and
writes `upd` into the others; what the API calls need of a walk is proved once, for `chainBy hit upd`.
-/
namespace Zvbi.Evl

theorem mem_ids {l : List Rec} {x : Nat} : x ∈ ids l ↔ ∃ r ∈ l, r.id = x := by
  simp [ids]

/-- `u` has every bit that an unmarked record of `l` asks for (`Inv.maskSup`: `el->event_mask` covers the list) -/
def Covers (u : Nat) (l : List Rec) : Prop := ∀ r ∈ l, r.remove = false → ∀ b, r.mask &&& b ≠ 0 → u &&& b ≠ 0

/-- `eh->remove = TRUE` -/
def Rec.mark (r : Rec) : Rec := { r with remove := true }

/-- The list a walk leaves that removes the records `hit` and writes `upd` into the others: on an idle list the
removed records are unlinked, inside a delivery they stay and are marked. -/
def chainBy (hit : Rec → Bool) (upd : Rec → Rec) (idle : Bool) (l : List Rec) : List Rec :=
  if idle then (l.filter fun r => !hit r).map upd else l.map fun r => if hit r then (upd r).mark else upd r

/-- the ids logged as removed (inside a delivery: those not marked before) and as freed -/
def unregBy (hit : Rec → Bool) (idle : Bool) (l : List Rec) : List Nat :=
  ids (l.filter fun r => hit r && (idle || !r.remove))
def freedBy (hit : Rec → Bool) (idle : Bool) (l : List Rec) : List Nat := if idle then ids (l.filter hit) else []

/-- `mask |= eh->event_mask` over the records that are not removed -/
def unionBy (hit : Rec → Bool) (upd : Rec → Rec) (l : List Rec) : Nat :=
  ((l.filter fun r => !hit r).map upd).foldr (fun r a => r.mask ||| a) 0

section cons
variable (hit : Rec → Bool) (upd : Rec → Rec) (idle : Bool) (eh : Rec) (rest : List Rec)

theorem chainBy_cons : chainBy hit upd idle (eh :: rest) =
    if hit eh then if idle then chainBy hit upd idle rest else (upd eh).mark :: chainBy hit upd idle rest
    else upd eh :: chainBy hit upd idle rest := by
  cases idle <;> cases h : hit eh <;> simp [chainBy, h]

theorem unionBy_cons : unionBy hit upd (eh :: rest) =
    if hit eh then unionBy hit upd rest else (upd eh).mask ||| unionBy hit upd rest := by
  cases h : hit eh <;> simp [unionBy, h]

theorem unregBy_cons : unregBy hit idle (eh :: rest) =
    if hit eh && (idle || !eh.remove) then eh.id :: unregBy hit idle rest else unregBy hit idle rest := by
  cases h : hit eh && (idle || !eh.remove) <;> simp [unregBy, ids, h]

theorem freedBy_cons : freedBy hit idle (eh :: rest) =
    if hit eh && idle then eh.id :: freedBy hit idle rest else freedBy hit idle rest := by
  cases idle <;> cases h : hit eh <;> simp [freedBy, ids, h]

end cons

theorem walkRemove_eq (id : Nat) (idle : Bool) (l : List Rec) :
    walkRemove id idle l = ⟨chainBy (·.id == id) (fun r => r) idle l, false, unionBy (·.id == id) (fun r => r) l,
      unregBy (·.id == id) idle l, freedBy (·.id == id) idle l⟩ := by
  induction l with
  | nil => cases idle <;> rfl
  | cons eh rest ih =>
    rw [walkRemove, ih, chainBy_cons, unionBy_cons, unregBy_cons, freedBy_cons]
    cases idle <;> cases eh.id == id <;> cases eh.remove <;> rfl

def hitAdd (fn user evm : Nat) (r : Rec) : Bool := r.fn == fn && r.user == user && evm == 0
/-- `eh->event_mask = event_mask` (and, if `rv`, `eh->remove = FALSE`) on the records a non-zero `_add` names -/
def updAdd (rv : Bool) (fn user evm : Nat) (r : Rec) : Rec :=
  if r.fn == fn && r.user == user && evm != 0 then { r with mask := evm, remove := if rv then false else r.remove } else r

theorem walkAdd_eq (rv : Bool) (fn user evm : Nat) (idle : Bool) (l : List Rec) :
    walkAdd rv fn user evm idle l = ⟨chainBy (hitAdd fn user evm) (updAdd rv fn user evm) idle l,
      l.any (fun r => r.fn == fn && r.user == user && evm != 0), unionBy (hitAdd fn user evm) (updAdd rv fn user evm) l,
      unregBy (hitAdd fn user evm) idle l, freedBy (hitAdd fn user evm) idle l⟩ := by
  induction l with
  | nil => cases idle <;> rfl
  | cons eh rest ih =>
    rw [walkAdd, ih, chainBy_cons, unionBy_cons, unregBy_cons, freedBy_cons, List.any_cons]
    unfold hitAdd updAdd
    by_cases hz : evm = 0
    · subst hz
      cases idle <;> cases (eh.fn == fn && eh.user == user) <;> cases eh.remove <;> rfl
    · have h0 : (evm == 0) = false := by simpa using hz
      have h0' : (evm != 0) = true := by simpa using hz
      rw [if_neg hz, h0, h0']
      cases idle <;> cases (eh.fn == fn && eh.user == user) <;> cases eh.remove <;> rfl

/-- `eh->event_mask &= clear_mask` -/
def narrow (clear : Nat) (r : Rec) : Rec := { r with mask := r.mask &&& clear }

theorem walkByEvent_eq (clear : Nat) (idle : Bool) (l : List Rec) :
    walkByEvent clear idle l = ⟨chainBy (fun r => r.mask &&& clear == 0) (narrow clear) idle l, false, 0,
      unregBy (fun r => r.mask &&& clear == 0) idle l, freedBy (fun r => r.mask &&& clear == 0) idle l⟩ := by
  induction l with
  | nil => cases idle <;> rfl
  | cons eh rest ih =>
    rw [walkByEvent, ih, chainBy_cons, unregBy_cons, freedBy_cons]
    by_cases hhit : eh.mask &&& clear = 0 <;> cases idle <;> cases hr : eh.remove <;> simp [hhit, hr, narrow, Rec.mark]

/-- what a walk may write into the records it keeps -/
structure Upd (rv : Bool) (upd : Rec → Rec) : Prop where
  id : ∀ r, (upd r).id = r.id
  fn : ∀ r, (upd r).fn = r.fn
  user : ∀ r, (upd r).user = r.user
  marked : rv = false → ∀ r, r.remove = true → (upd r).remove = true
  clean : ∀ r, r.remove = false → (upd r).remove = false

variable {rv idle : Bool} {hit : Rec → Bool} {upd : Rec → Rec} {l : List Rec}

theorem mem_chainBy {r' : Rec} : r' ∈ chainBy hit upd idle l ↔
    ∃ r ∈ l, hit r = false ∧ r' = upd r ∨ hit r = true ∧ idle = false ∧ r' = (upd r).mark := by
  cases idle <;> simp only [chainBy, if_true, Bool.false_eq_true, if_false, List.mem_map, List.mem_filter]
  · refine exists_congr fun r => and_congr_right fun _ => ?_
    cases hit r <;> simp [eq_comm]
  · exact ⟨fun ⟨r, ⟨hr, hh⟩, e⟩ => ⟨r, hr, .inl ⟨by simpa using hh, e.symm⟩⟩,
      fun ⟨r, hr, h⟩ => h.elim (fun ⟨hh, e⟩ => ⟨r, ⟨hr, by simp [hh]⟩, e.symm⟩) (fun ⟨_, h, _⟩ => nomatch h)⟩

theorem chainBy_origin (hu : Upd rv upd) {r' : Rec} (h : r' ∈ chainBy hit upd idle l) :
    ∃ r ∈ l, r'.id = r.id ∧ (hit r = false ∧ r' = upd r ∨ hit r = true ∧ idle = false ∧ r' = (upd r).mark) := by
  obtain ⟨r, hr, h⟩ := mem_chainBy.mp h
  refine ⟨r, hr, ?_, h⟩
  rcases h with ⟨_, rfl⟩ | ⟨_, _, rfl⟩ <;> exact hu.id r

theorem ids_chainBy (hu : Upd rv upd) :
    ids (chainBy hit upd idle l) = if idle then ids (l.filter fun r => !hit r) else ids l := by
  cases idle <;> simp only [chainBy, ids, List.map_map, Bool.false_eq_true, if_false, if_true] <;>
    refine List.map_congr_left fun r _ => ?_
  · show (if hit r then (upd r).mark else upd r).id = r.id
    split <;> simp [Rec.mark, hu.id]
  · exact hu.id r

theorem covers_unionBy (hit : Rec → Bool) (upd : Rec → Rec) (idle : Bool) (l : List Rec) :
    Covers (unionBy hit upd l) (chainBy hit upd idle l) := by
  intro r' hr' hrm b hb
  obtain ⟨r, hr, h⟩ := mem_chainBy.mp hr'
  rcases h with ⟨hh, rfl⟩ | ⟨_, _, rfl⟩
  · exact (Keys.union_and_ne_zero _ b).mpr ⟨_, List.mem_map_of_mem (List.mem_filter.mpr ⟨hr, by simp [hh]⟩), hb⟩
  · cases hrm

theorem Upd.same (rv : Bool) : Upd rv fun r => r := ⟨fun _ => rfl, fun _ => rfl, fun _ => rfl, fun _ _ h => h, fun _ h => h⟩

theorem Upd.narrow (rv : Bool) (clear : Nat) : Upd rv (narrow clear) :=
  ⟨fun _ => rfl, fun _ => rfl, fun _ => rfl, fun _ _ h => h, fun _ h => h⟩

theorem Upd.add (rv : Bool) (fn user evm : Nat) : Upd rv (updAdd rv fn user evm) where
  id r := ite_both (P := fun x : Rec => x.id = r.id) rfl rfl
  fn r := ite_both (P := fun x : Rec => x.fn = r.fn) rfl rfl
  user r := ite_both (P := fun x : Rec => x.user = r.user) rfl rfl
  marked hrv r hr := ite_both (P := fun x : Rec => x.remove = true) (by rw [hrv]; exact hr) hr
  clean r hr := ite_both (P := fun x : Rec => x.remove = false) (ite_both (P := fun b : Bool => b = false) rfl hr) hr

/-- a call that neither removes the record of a handler nor takes `ev` out of its mask -/
def Spares (hit : Rec → Bool) (upd : Rec → Rec) (ev : Nat) (r0 : Rec) : Prop :=
  ∀ r, r.fn = r0.fn → r.user = r0.user → r.id = r0.id → r.mask &&& ev ≠ 0 → hit r = false ∧ (upd r).mask &&& ev ≠ 0

theorem add_spares {rv : Bool} {fn user evm ev : Nat} {r0 : Rec}
    (hnd : ¬ (fn = r0.fn ∧ user = r0.user ∧ evm &&& ev = 0)) : Spares (hitAdd fn user evm) (updAdd rv fn user evm) ev r0 := by
  intro r hfn huser _ hm
  unfold hitAdd updAdd
  by_cases hz : evm = 0
  · refine ⟨?_, by simp [hz, hm]⟩
    cases hh : (r.fn == fn && r.user == user) with
    | false => rfl
    | true =>
      simp only [Bool.and_eq_true, beq_iff_eq] at hh
      exact absurd ⟨hh.1 ▸ hfn, hh.2 ▸ huser, by rw [hz, Nat.zero_and]⟩ hnd
  · refine ⟨by simp [hz], ?_⟩
    split
    · next hh =>
      simp only [Bool.and_eq_true, beq_iff_eq] at hh
      exact fun h0 => hnd ⟨hh.1.1 ▸ hfn, hh.1.2 ▸ huser, h0⟩
    · exact hm

end Zvbi.Evl
