import ZvbiModel.Mux.JoinBytes
import ZvbiModel.Demux.JoinStream
/-!
# Accepted frames ascend  (C06 side of the join with C07)

The lines of a frame the multiplexer accepts are in strictly ascending order of their line numbers
(lines with an undefined line number aside) and lie within lines 1..23 / 320..335, hence are at most 39 = 23 + 16.
Also the vocabulary of `Props/C06Join.lean` (`received`, `Defined`, `Separable`), `run_sep` (a history of separable
frames meets C07's `Sep`) and `frames_of_mux` (C07's `frames` on the whole output).
-/
namespace Zvbi.Mux
open Zvbi.Mux.EnParse Zvbi.Hamm
open Zvbi.Demux (AscFrom lastLineOf firstLine SepFrom FrameLinesOK FrameOut ofLine SrcCfg frameCap_ge)

theorem canon_line (s : Sliced) (l : Line) (h : canon s = some l) : l.line = s.line := by
  unfold canon at h
  iterate 4 (split at h; · cases h; rfl)
  cases h

theorem mem_sent (mask : Nat) (lines : List Sliced) (l : Line) (h : l ∈ sent mask lines) :
    ∃ s ∈ lines, s.id &&& mask ≠ 0 ∧ canon s = some l := by
  unfold sent at h
  rw [List.mem_filterMap] at h
  obtain ⟨s, hs, hc⟩ := h
  rw [List.mem_filter] at hs
  exact ⟨s, hs.1, by simpa using hs.2, hc⟩

/-- a range that holds every line number of a permitted line (0, 7..23, 320..335), cut so that the count of defined lines is 23 + 16 -/
def VbiLine (n : Nat) : Prop := n ≤ 23 ∨ (320 ≤ n ∧ n ≤ 335)

theorem permitted_line (s : Sliced) (h : Permitted s) : VbiLine s.line := by
  unfold Permitted at h
  unfold VbiLine
  omega

/-- at most 39 defined lines ascend above `x` within 1..23 / 320..335 -/
theorem ascFrom_length : ∀ (ls : List Line) (x : Nat), AscFrom x ls → (∀ l ∈ ls, VbiLine l.line) →
    ls.length ≤ (23 - x) + (335 - max x 319) := by
  intro ls
  induction ls with
  | nil => intro x _ _; simp
  | cons l ls ih =>
    intro x hasc hv
    obtain ⟨hlt, hasc'⟩ := hasc
    have h1 := ih l.line hasc' (fun y hy => hv y (List.mem_cons_of_mem _ hy))
    have h2 : VbiLine l.line := hv l (List.mem_cons_self ..)
    unfold VbiLine at h2
    simp only [List.length_cons]
    omega

/-- defined line numbers strictly ascending from `x`, lines with the undefined line number 0 skipped -/
def DefAsc : Nat → List Line → Prop
  | _, [] => True
  | x, l :: ls => if l.line = 0 then DefAsc x ls else x < l.line ∧ DefAsc l.line ls

instance decDefAsc : (x : Nat) → (ls : List Line) → Decidable (DefAsc x ls)
  | _, [] => isTrue trivial
  | x, l :: ls => by
    unfold DefAsc
    by_cases h : l.line = 0
    · rw [if_pos h]; exact decDefAsc x ls
    · rw [if_neg h]; have := decDefAsc l.line ls; exact inferInstance

theorem defAsc_asc : ∀ (ls : List Line) (x : Nat), DefAsc x ls → (∀ l ∈ ls, l.line ≠ 0) → AscFrom x ls
  | [], _, _, _ => trivial
  | l :: ls, x, h, hnz => by
    unfold DefAsc at h
    rw [if_neg (hnz l (List.mem_cons_self ..))] at h
    exact ⟨h.1, defAsc_asc ls _ h.2 fun y hy => hnz y (List.mem_cons_of_mem _ hy)⟩

/-- the line order check of `insert_sliced_data_units`: the defined line numbers handed to the receiver ascend strictly
    from `last_line` -/
theorem Stored.defasc {mask : Nat} {fixed : Bool} {ll ll' : Nat} {pre : List Sliced} {us : List DataUnit}
    (h : Stored mask fixed ll pre us ll') : DefAsc ll (sent mask pre) := by
  induction h with
  | nil => trivial
  | skip hm _ ih => rw [sent_cons_masked _ _ _ hm]; exact ih
  | @unit ll _ _ s _ _ _ hm ho _ _ hu _ ih =>
    obtain ⟨l, hc, _⟩ := hu.canon
    rw [sent_cons_kept _ _ _ l hm hc]
    have hll := canon_line s l hc
    unfold nextLine at ih
    unfold DefAsc
    by_cases hz : l.line = 0
    · rw [if_neg (show ¬ s.line > 0 by omega)] at ih
      rwa [if_pos hz]
    · rw [if_neg hz]
      rw [if_pos (show s.line > 0 by omega)] at ih
      exact ⟨by omega, by rw [hll]; exact ih⟩

theorem generatePes_defasc (cfg : Cfg) (lines : List Sliced) (mask pts : Nat)
    (hwf : ∀ s ∈ lines, Sliced.WF s) (hnr : NoRaw lines) (pes : Bytes)
    (hg : generatePes cfg lines mask pts = .ok (pes, [])) : DefAsc 0 (sent mask lines) :=
  have ⟨_, _, hS⟩ := generatePes_stored cfg lines mask pts hwf hnr pes hg
  hS.defasc

theorem generatePes_asc (cfg : Cfg) (lines : List Sliced) (mask pts : Nat)
    (hwf : ∀ s ∈ lines, Sliced.WF s) (hnr : NoRaw lines) (pes : Bytes)
    (hg : generatePes cfg lines mask pts = .ok (pes, [])) (hnz : ∀ l ∈ sent mask lines, l.line ≠ 0) :
    AscFrom 0 (sent mask lines) ∧ (sent mask lines).length ≤ 39 := by
  obtain ⟨us, ll', hS⟩ := generatePes_stored cfg lines mask pts hwf hnr pes hg
  have hasc := defAsc_asc _ 0 hS.defasc hnz
  have hv : ∀ l ∈ sent mask lines, VbiLine l.line := by
    intro l hl
    obtain ⟨s, hs, hsm, hc⟩ := mem_sent mask lines l hl
    rw [canon_line s l hc]
    exact permitted_line s (hS.units.2.2 s hs hsm)
  refine ⟨hasc, ?_⟩
  have := ascFrom_length _ 0 hasc hv
  omega

theorem run_asc (ops : List Op) (hops : ∀ op ∈ ops, Op.OK op) :
    ∀ m, ∀ s ∈ (run m ops).2.2, (∀ l ∈ s.lines, l.line ≠ 0) → AscFrom 0 s.lines ∧ s.lines.length ≤ 39 := by
  intro m
  obtain ⟨fs, h1, h2, _⟩ := run_frames ops hops m
  rw [h2]
  intro s hs
  obtain ⟨f, hf, rfl⟩ := List.mem_map.mp hs
  have := (h1 f hf).1
  exact generatePes_asc f.cfg f.lines f.mask f.pts this.1 this.2.1 f.pes this.2.2

/-- the frame the application of the demultiplexer is to receive for a frame the multiplexer sent:
PTS modulo 2^33 and, per line, libzvbi's service id (Teletext B 3, VPS 4, WSS 0x400, Caption 8),
the line number and the payload bits (`Demux.ofLine`) -/
def received (s : Sent) : FrameOut := ⟨s.pts, s.lines.map ofLine⟩

/-- a frame with at least one line, all on defined line numbers -/
def Defined (s : Sent) : Prop := s.lines ≠ [] ∧ ∀ l ∈ s.lines, l.line ≠ 0

/-- consecutive frames begin on a line not beyond the last line of the frame before -/
def Separable : List Sent → Prop
  | [] => True
  | [s] => Defined s
  | s :: t :: r => Defined s ∧ firstLine t.lines ≤ lastLineOf 0 s.lines ∧ Separable (t :: r)

theorem separable_defined : ∀ (ss : List Sent), Separable ss → ∀ s ∈ ss, Defined s := by
  intro ss
  induction ss with
  | nil => intro _ s hs; simp at hs
  | cons a ss ih =>
    intro hsep s hs
    cases ss with
    | nil =>
      simp only [List.mem_singleton] at hs
      subst hs; exact hsep
    | cons b r =>
      obtain ⟨hd, _, hsep'⟩ := hsep
      rcases List.mem_cons.mp hs with rfl | hs
      · exact hd
      · exact ih hsep' s hs

theorem sepFrom_of_separable {cfg : SrcCfg} : ∀ (ss : List Sent) (s : Sent),
    (∀ t ∈ s :: ss, (∀ l ∈ t.lines, l.line ≠ 0) → AscFrom 0 t.lines ∧ t.lines.length ≤ 39) →
    Separable (s :: ss) → FrameLinesOK cfg s.lines ∧ SepFrom cfg (lastLineOf 0 s.lines) (ss.map (·.lines)) := by
  have hcap := frameCap_ge cfg
  intro ss
  induction ss with
  | nil =>
    intro s hasc hsep
    have hd : Defined s := hsep
    obtain ⟨h1, h2⟩ := hasc s (List.mem_cons_self ..) hd.2
    exact ⟨⟨hd.1, h1, by omega⟩, trivial⟩
  | cons t ss ih =>
    intro s hasc hsep
    obtain ⟨hd, hfirst, hsep'⟩ := hsep
    obtain ⟨h1, h2⟩ := hasc s (List.mem_cons_self ..) hd.2
    obtain ⟨h3, h4⟩ := ih t (fun u hu => hasc u (List.mem_cons_of_mem _ hu)) hsep'
    exact ⟨⟨hd.1, h1, by omega⟩, h3, hfirst, h4⟩

theorem run_sep {cfg : SrcCfg} (ops : List Op) (hops : ∀ op ∈ ops, Op.OK op) (m : Mux) (hsep : Separable (run m ops).2.2) :
    Zvbi.Demux.Sep cfg ((run m ops).2.2.map (·.lines)) := by
  have hasc := run_asc ops hops m
  cases hss : (run m ops).2.2 with
  | nil => trivial
  | cons s ss =>
    rw [hss] at hsep hasc
    exact sepFrom_of_separable ss s hasc hsep

theorem getLast_content {ps : List Pes} {ss : List Sent} (h : ps.map Pes.content = ss) (hne : ss ≠ []) :
    ∃ hp : ps ≠ [], (ps.getLast hp).content = ss.getLast hne := by
  subst h
  exact ⟨by simpa using hne, by rw [List.getLast_map]⟩

instance (s : Sent) : Decidable (Defined s) := by unfold Defined; infer_instance
instance decSeparable : ∀ ss : List Sent, Decidable (Separable ss)
  | [] => isTrue trivial
  | [s] => by unfold Separable; infer_instance
  | s :: t :: r => by
    unfold Separable
    exact @instDecidableAnd _ _ _ (@instDecidableAnd _ _ _ (decSeparable (t :: r)))

open Zvbi.Demux (Sep frames frames_pesStream) in
/-- the demultiplexer as a function of the stream, on the whole output of C06's multiplexer model for a history
whose accepted frames are separable frames of defined lines: all accepted frames but the last -/
theorem frames_of_mux (cfg : SrcCfg) (ops : List Op) (hops : ∀ op ∈ ops, Op.OK op)
    (hsep : Separable (run newPes ops).2.2) :
    frames cfg (run newPes ops).2.1 = (run newPes ops).2.2.dropLast.map received := by
  obtain ⟨ps, hps, hcont⟩ := pes_history ops hops newPes cfgOK_default rfl
  have hbytes := run_bytes_lt ops hops newPes rfl
  have hlines : ps.map (·.lines) = (run newPes ops).2.2.map (·.lines) := by
    rw [← hcont, List.map_map]; rfl
  have hS : Sep cfg (ps.map (·.lines)) := hlines ▸ run_sep ops hops _ hsep
  rw [frames_pesStream _ ps hps hbytes hS, ← hcont, ← List.map_dropLast, List.map_map]; rfl

end Zvbi.Mux
