import ZvbiModel.Mux.CorTs
import ZvbiModel.Mux.LemmasFeed
/-!
# `vbi_dvb_mux_cor`: the output part of the coroutine

`corBody` is what a call does once a packet is there; `Pending` is the invariant between calls (`TsInv` in TS mode) and
`corBody_spec` the step: a call with `size` bytes of room emits the next `size` bytes of what is due.  `corSeq`, `corStep`,
`corRun` are the application loops the C06 theorems speak about.  That these produce the bytes of `vbi_dvb_mux_feed` is
proved for the model with raw data (`Mux/CorRaw.lean`, `Mux/CorRawHistory.lean`) and specialised to `raw`, `sp` NULL in
`Mux/NullCor.lean`.  Also `feed_congr`, `dropPending_idle`, `getD_pos`, `CorOpOK` / `corOps_ok`, and the example frame `corExLines`
(`corEx_wf`, `corEx_noraw`) of the non-vacuity examples.
-/
namespace Zvbi.Mux
open Zvbi.Mux.EnParse

/-- no coroutine output pending: `cor_offset >= cor_end` -/
def Idle (m : Mux) : Prop := m.corOffset ≥ m.corEnd

instance (m : Mux) : Decidable (Idle m) := by unfold Idle; infer_instance

/-- the part of `vbi_dvb_mux_cor` after the `if (offset >= mx->cor_end) { generate_pes_packet ... }` -/
def corBody (m : Mux) (bufLeft n : Nat) : Mux × CorOut :=
  let offset := m.corOffset
  let (m, offset, out) :=
    if m.cfg.pid = 0 then
      let size := min bufLeft (m.corEnd - offset)
      (m, offset + size, (m.packet.drop offset).take size)
    else
      let (packet, cc, offset, tsLeft, out) :=
        corTsLoop m.cfg.pid m.corEnd (bufLeft + 1) m.packet m.cc offset m.corTsLeft bufLeft []
      ({ m with packet := packet, cc := cc, corTsLeft := tsLeft }, offset, out)
  let m := { m with corOffset := offset }
  if offset ≥ m.corEnd then (m, { ok := true, out, slicedLeft := 0, slicedIdx := n })
  else (m, { ok := true, out, slicedLeft := n, slicedIdx := 0 })

/-- the state `vbi_dvb_mux_cor` is in right after a successful `generate_pes_packet` -/
def corStart (m : Mux) (pes : Bytes) : Mux :=
  { m with packet := [0, 0, 0, 0] ++ pes, corEnd := pes.length + 4, corOffset := 4, corTsLeft := 0 }

theorem corBody_pes (m : Mux) (bufLeft n : Nat) (hp : m.cfg.pid = 0) :
    corBody m bufLeft n
      = ({ m with corOffset := m.corOffset + min bufLeft (m.corEnd - m.corOffset) },
         { ok := true, out := (m.packet.drop m.corOffset).take (min bufLeft (m.corEnd - m.corOffset)),
           slicedLeft := if m.corOffset + min bufLeft (m.corEnd - m.corOffset) ≥ m.corEnd then 0 else n,
           slicedIdx := if m.corOffset + min bufLeft (m.corEnd - m.corOffset) ≥ m.corEnd then n else 0 }) := by
  unfold corBody
  simp only [if_pos hp]
  split
  · rfl
  · rfl

theorem corBody_ts (m : Mux) (bufLeft n : Nat) (hp : m.cfg.pid ≠ 0) (packet : Bytes) (cc offset tsLeft : Nat) (out : Bytes)
    (hloop : corTsLoop m.cfg.pid m.corEnd (bufLeft + 1) m.packet m.cc m.corOffset m.corTsLeft bufLeft []
      = (packet, cc, offset, tsLeft, out)) :
    corBody m bufLeft n
      = ({ m with packet := packet, cc := cc, corTsLeft := tsLeft, corOffset := offset },
         { ok := true, out := out,
           slicedLeft := if offset ≥ m.corEnd then 0 else n,
           slicedIdx := if offset ≥ m.corEnd then n else 0 }) := by
  unfold corBody
  simp only [if_neg hp, hloop]
  split
  · rfl
  · rfl

/-- coroutine output pending: `R` is what remains to be emitted of the current packet(s), `ccEnd` the
    continuity counter after it.  PES mode: `R` is the rest of the packet buffer.  TS mode: `TsInv`. -/
def Pending (ccEnd : Nat) (R : Bytes) (m : Mux) : Prop :=
  (m.cfg.pid = 0 → m.packet.drop m.corOffset = R ∧ m.packet.length = m.corEnd ∧ m.cc = ccEnd)
  ∧ (m.cfg.pid ≠ 0 → TsInv m.cfg.pid m.corEnd ccEnd R m.packet m.cc m.corOffset m.corTsLeft)

theorem Pending.idle_iff {ccEnd : Nat} {R : Bytes} {m : Mux} (h : Pending ccEnd R m) : Idle m ↔ R = [] := by
  unfold Idle
  by_cases hp : m.cfg.pid = 0
  · obtain ⟨h1, h2, _⟩ := h.1 hp
    rw [← h1, List.drop_eq_nil_iff, h2]
  · exact ((h.2 hp).nil_iff).symm

theorem Pending.cc_end {ccEnd : Nat} {m : Mux} (h : Pending ccEnd [] m) : m.cc = ccEnd := by
  by_cases hp : m.cfg.pid = 0
  · exact (h.1 hp).2.2
  · exact (h.2 hp).cc_end

theorem corBody_spec (ccEnd : Nat) (R : Bytes) (m : Mux) (size n : Nat)
    (h : Pending ccEnd R m) (hne : R ≠ []) (hs : 0 < size) :
    ∃ m', corBody m size n
        = (m', { ok := true, out := R.take size,
                 slicedLeft := if R.length ≤ size then 0 else n,
                 slicedIdx := if R.length ≤ size then n else 0 })
      ∧ Pending ccEnd (R.drop size) m' ∧ m'.cfg = m.cfg := by
  by_cases hp : m.cfg.pid = 0
  · obtain ⟨h1, h2, h3⟩ := h.1 hp
    have hlen : R.length = m.corEnd - m.corOffset := by rw [← h1, List.length_drop, h2]
    have hpos : 0 < R.length := List.length_pos_iff.2 hne
    rw [corBody_pes m size n hp]
    refine ⟨{ m with corOffset := m.corOffset + min size (m.corEnd - m.corOffset) }, ?_,
      ⟨fun _ => ⟨?_, h2, h3⟩, fun hq => absurd hp hq⟩, rfl⟩
    · have hc : (m.corOffset + min size (m.corEnd - m.corOffset) ≥ m.corEnd) ↔ R.length ≤ size := by omega
      have ht : (m.packet.drop m.corOffset).take (min size (m.corEnd - m.corOffset)) = R.take size := by
        rw [h1, ← hlen]
        by_cases hle : size ≤ R.length
        · rw [Nat.min_eq_left hle]
        · rw [Nat.min_eq_right (by omega), List.take_of_length_le (Nat.le_refl _), List.take_of_length_le (by omega)]
      rw [ht]
      by_cases hle : R.length ≤ size
      · rw [if_pos (hc.2 hle), if_pos (hc.2 hle), if_pos hle, if_pos hle]
      · rw [if_neg (fun x => hle (hc.1 x)), if_neg (fun x => hle (hc.1 x)), if_neg hle, if_neg hle]
    · show m.packet.drop (m.corOffset + min size (m.corEnd - m.corOffset)) = R.drop size
      rw [← List.drop_drop, h1, ← hlen]
      by_cases hle : size ≤ R.length
      · rw [Nat.min_eq_left hle]
      · rw [Nat.min_eq_right (by omega), List.drop_of_length_le (Nat.le_refl _), List.drop_of_length_le (by omega)]
  · have hinv := h.2 hp
    obtain ⟨p', c', o', t', hloop, hinv'⟩ :=
      corTsLoop_spec m.cfg.pid m.corEnd ccEnd (size + 1) m.packet m.cc m.corOffset m.corTsLeft size [] R
        hinv hne hs (by omega)
    rw [List.nil_append] at hloop
    rw [corBody_ts m size n hp p' c' o' t' _ hloop]
    refine ⟨{ m with packet := p', cc := c', corTsLeft := t', corOffset := o' }, ?_,
      ⟨fun hq => absurd hq hp, fun _ => hinv'⟩, rfl⟩
    have hc : (o' ≥ m.corEnd) ↔ R.length ≤ size := by
      rw [← hinv'.nil_iff, List.drop_eq_nil_iff]
    by_cases hle : R.length ≤ size
    · rw [if_pos (hc.2 hle), if_pos (hc.2 hle), if_pos hle, if_pos hle]
    · rw [if_neg (fun x => hle (hc.1 x)), if_neg (fun x => hle (hc.1 x)), if_neg hle, if_neg hle]

/-- the application loop over an explicit list of output buffer sizes (one per `vbi_dvb_mux_cor` call,
    each call with the same frame): until `*sliced_left == 0`, a failure, or the sizes run out.
    Result: state, last return value, "sizes ran out before the frame was finished", all output. -/
def corSeq (lines : List Sliced) (mask pts : Nat) : List Nat → Mux → Bytes → Mux × Bool × Bool × Bytes
  | [], m, acc => (m, true, true, acc)
  | s :: ss, m, acc =>
    let r := cor m s lines mask pts
    if r.2.ok ∧ r.2.slicedLeft > 0 then corSeq lines mask pts ss r.1 (acc ++ r.2.out)
    else (r.1, r.2.ok, false, acc ++ r.2.out)

/-- the frame used in the non-vacuity examples: a Teletext line and a VPS line -/
def corExLines : List Sliced := [⟨3, 7, List.replicate 56 0x15⟩, ⟨4, 16, List.replicate 56 0x2A⟩]

theorem corEx_wf : ∀ s ∈ corExLines, Sliced.WF s := by
  intro s hs
  simp only [corExLines, List.mem_cons, List.not_mem_nil, or_false] at hs
  rcases hs with rfl | rfl <;> exact ⟨by decide, by decide, by decide, by decide⟩

theorem corEx_noraw : NoRaw corExLines := by
  intro s hs
  simp only [corExLines, List.mem_cons, List.not_mem_nil, or_false] at hs
  rcases hs with rfl | rfl <;> decide

example : corSeq corExLines 0xFFFFFFFF 5 [1, 7, 188, 1000] newPes []
    = (((cor (cor (cor newPes 1 corExLines 0xFFFFFFFF 5).1 7 corExLines 0xFFFFFFFF 5).1 188 corExLines 0xFFFFFFFF 5).1),
       true, false, FeedOut.bytes (feed newPes corExLines 0xFFFFFFFF 5 0).2) := by decide +kernel
example : (FeedOut.bytes (feed newPes corExLines 0xFFFFFFFF 5 0).2).length = 184 := by decide +kernel
example : ((newTs 0x123).map fun m => ((corSeq corExLines 0xFFFFFFFF 5 [1, 7, 188, 1000] m []).2,
      (corSeq corExLines 0xFFFFFFFF 5 [1, 7, 188, 1000] m []).1.cc))
    = (newTs 0x123).map fun m => ((true, false, FeedOut.bytes (feed m corExLines 0xFFFFFFFF 5 0).2),
      (feed m corExLines 0xFFFFFFFF 5 0).1.cc) := by decide +kernel
example : ((newTs 0x123).map fun m => (corSeq corExLines 0xFFFFFFFF 5 [1, 7, 100] m []).2)
    = (newTs 0x123).map fun m => (true, true, (FeedOut.bytes (feed m corExLines 0xFFFFFFFF 5 0).2).take 108) := by
  decide +kernel
example : ((newTs 0x123).map fun m => ((FeedOut.bytes (feed m corExLines 0xFFFFFFFF 5 0).2).length,
    (feed m corExLines 0xFFFFFFFF 5 0).2.ok, (feed m corExLines 0xFFFFFFFF 5 0).1.cc)) = some (188, true, 1) := by
  decide +kernel

example : ((newTs 0x123).map fun m => (cor (corSeq corExLines 0xFFFFFFFF 5 [1, 7] m []).1 180 corExLines 0xFFFFFFFF 5).2.out)
    = (newTs 0x123).map fun m => ((FeedOut.bytes (feed m corExLines 0xFFFFFFFF 5 0).2).drop 8).take 180 := by
  decide +kernel

theorem dropPending_idle (m : Mux) (hi : Idle m) : dropPending m = m := by
  unfold Idle at hi
  unfold dropPending
  rw [if_neg (by omega)]

theorem feed_congr (m1 m2 : Mux) (hcfg : m1.cfg = m2.cfg) (hcc : m1.cc = m2.cc) (lines : List Sliced)
    (mask pts k : Nat) :
    (feed m1 lines mask pts k).2 = (feed m2 lines mask pts k).2
    ∧ (feed m1 lines mask pts k).1.cc = (feed m2 lines mask pts k).1.cc
    ∧ (feed m1 lines mask pts k).1.cfg = (feed m2 lines mask pts k).1.cfg := by
  have e1 : (dropPending m1).cfg = (dropPending m2).cfg := by rw [dropPending_cfg, dropPending_cfg, hcfg]
  have e2 : (dropPending m1).cc = (dropPending m2).cc := by rw [dropPending_cc, dropPending_cc, hcc]
  rw [feed_unfold, feed_unfold, e1, e2]
  cases generatePes (dropPending m2).cfg lines mask pts with
  | error e => exact ⟨rfl, e2, e1⟩
  | ok r =>
    obtain ⟨pes, left⟩ := r
    simp only []
    by_cases hl : left ≠ []
    · rw [if_pos hl, if_pos hl]; exact ⟨rfl, e2, e1⟩
    · rw [if_neg hl, if_neg hl]
      by_cases hp : (dropPending m2).cfg.pid = 0
      · rw [if_pos hp, if_pos hp]
        by_cases hk : k = 1
        · rw [if_pos hk, if_pos hk]; exact ⟨rfl, e2, e1⟩
        · rw [if_neg hk, if_neg hk]; exact ⟨rfl, e2, e1⟩
      · rw [if_neg hp, if_neg hp]
        split
        · exact ⟨rfl, rfl, e1⟩
        · exact ⟨rfl, rfl, e1⟩

example : (feed newPes [⟨3, 8, List.replicate 56 0x15⟩, ⟨3, 7, List.replicate 56 0x15⟩] 0xFFFFFFFF 5 0).2.ok = false := by
  decide +kernel
example : (cor newPes 100 [⟨3, 8, List.replicate 56 0x15⟩, ⟨3, 7, List.replicate 56 0x15⟩] 0xFFFFFFFF 5).2.ok = false := by
  decide +kernel
example : Idle newPes := by decide

theorem getD_pos (sizes : List Nat) (hpos : ∀ s ∈ sizes, 0 < s) (i : Nat) (hi : i < sizes.length) :
    0 < sizes.getD i 0 := by
  rw [List.getD_eq_getElem?_getD, List.getElem?_eq_getElem hi, Option.getD_some]
  exact hpos _ (List.getElem_mem hi)

example : ((newTs 0x123).map fun m => (corAll [1, 7, 50] corExLines 0xFFFFFFFF 5 188 m 0 []).2)
    = (newTs 0x123).map fun m => (true, 12, 0, 2, FeedOut.bytes (feed m corExLines 0xFFFFFFFF 5 0).2) := by
  decide +kernel

/-! `cor` requires a non-empty frame: with `*sliced_left == 0` it returns FALSE by contract, whereas `feed` sends a packet
of stuffing. -/

/-- an application step with `vbi_dvb_mux_cor`: a frame with its buffer sizes, or a configuration change -/
def corStep (fuel : Nat) (m : Mux) : Op × List Nat → Mux × Bytes
  | (.frame lines mask pts, sizes) =>
    let r := corAll sizes lines mask pts fuel m 0 []
    (r.1, r.2.2.2.2.2)
  | (.dataId d, _) => ((setDataIdentifier m d).1, [])
  | (.size a b, _) => (setPesPacketSize m a b, [])

def corRun (fuel : Nat) (m : Mux) : List (Op × List Nat) → Mux × Bytes
  | [] => (m, [])
  | op :: ops =>
    let r1 := corStep fuel m op
    let r2 := corRun fuel r1.1 ops
    (r2.1, r1.2 ++ r2.2)

/-- frames as the `cor` API takes them: non-empty, well-formed, no raw lines; buffer sizes positive -/
def CorOpOK : Op × List Nat → Prop
  | (.frame lines _ _, sizes) =>
    lines ≠ [] ∧ (∀ s ∈ lines, Sliced.WF s) ∧ NoRaw lines ∧ sizes ≠ [] ∧ ∀ s ∈ sizes, 0 < s
  | _ => True

theorem corOps_ok (ops : List (Op × List Nat)) (hops : ∀ op ∈ ops, CorOpOK op) : ∀ op ∈ ops.map Prod.fst, Op.OK op := by
  intro op hop
  obtain ⟨⟨o, sizes⟩, hx, rfl⟩ := List.mem_map.mp hop
  have := hops _ hx
  cases o with
  | frame lines mask pts => exact ⟨this.2.1, this.2.2.1⟩
  | dataId d => trivial
  | size a b => trivial

/-! non-vacuity: two accepted frames around a rejected one and a configuration change, TS mode -/
example : ((newTs 0x123).map fun m =>
      (corRun 66928 m [(.frame corExLines 0xFFFFFFFF 5, [1, 7, 50]),
        (.frame [⟨3, 8, List.replicate 56 0x15⟩, ⟨3, 7, List.replicate 56 0x15⟩] 0xFFFFFFFF 6, [3]),
        (.dataId 0x99, []), (.frame corExLines 3 7, [188, 5])]).2)
    = (newTs 0x123).map fun m =>
      (run m [.frame corExLines 0xFFFFFFFF 5,
        .frame [⟨3, 8, List.replicate 56 0x15⟩, ⟨3, 7, List.replicate 56 0x15⟩] 0xFFFFFFFF 6,
        .dataId 0x99, .frame corExLines 3 7]).2.1 := by decide +kernel
example : ((newTs 0x123).map fun m =>
      (run m [.frame corExLines 0xFFFFFFFF 5,
        .frame [⟨3, 8, List.replicate 56 0x15⟩, ⟨3, 7, List.replicate 56 0x15⟩] 0xFFFFFFFF 6,
        .dataId 0x99, .frame corExLines 3 7]).2.1.length) = some 376 := by decide +kernel
example : CorOpOK (.frame corExLines 0xFFFFFFFF 5, [1, 7, 50]) := by
  exact ⟨by decide, corEx_wf, corEx_noraw, by decide, by decide⟩

end Zvbi.Mux
