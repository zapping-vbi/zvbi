import ZvbiModel.Mux.CorRaw
/-!
# `vbi_dvb_mux_cor` = `vbi_dvb_mux_feed` over whole histories, frames with raw VBI data

An application which converts every frame (sliced
lines and raw line requests, `raw` / `sp` NULL or given, valid or invalid sampling parameters) with the `vbi_dvb_mux_cor`
loop and one which uses `vbi_dvb_mux_feed` produce the same byte stream over any history and end in the same configuration,
continuity counter and raw-line state.  `OpR`, `stepR`, `runR`, `corStepR`, `corRunR` are the two applications; histories
without raw data (`run`, `corRun`) are the instance of `Mux/NullCor.lean`.
-/
namespace Zvbi.Mux
open Zvbi.Mux.EnParse

/-- an application step with raw VBI data: a frame with `raw` / `sp`, or a configuration change -/
inductive OpR
  | frame (lines : List Sliced) (mask : Nat) (raw : Option Bytes) (sp : Option Sp) (pts : Nat)
  | dataId (d : Nat)
  | size (a b : Nat)

/-- the application that uses `vbi_dvb_mux_feed` with a callback -/
def stepR (keep : Bool) (m : RMux) : OpR → RMux × Bytes
  | .frame lines mask raw sp pts => ((feedR keep m lines mask raw sp pts).1, (feedR keep m lines mask raw sp pts).2.bytes)
  | .dataId d => ({ m with mux := (setDataIdentifier m.mux d).1 }, [])
  | .size a b => ({ m with mux := setPesPacketSize m.mux a b }, [])

def runR (keep : Bool) (m : RMux) : List OpR → RMux × Bytes
  | [] => (m, [])
  | op :: ops =>
    let r1 := stepR keep m op
    let r2 := runR keep r1.1 ops
    (r2.1, r1.2 ++ r2.2)

/-- the application that uses the `vbi_dvb_mux_cor` loop, each frame with its own list of buffer sizes (used cyclically) -/
def corStepR (keep : Bool) (fuel : Nat) (m : RMux) : OpR × List Nat → RMux × Bytes
  | (.frame lines mask raw sp pts, sizes) =>
    ((corAllR keep sizes lines mask raw sp pts fuel m 0 []).1, (corAllR keep sizes lines mask raw sp pts fuel m 0 []).2.2.2.2.2.1)
  | (.dataId d, _) => ({ m with mux := (setDataIdentifier m.mux d).1 }, [])
  | (.size a b, _) => ({ m with mux := setPesPacketSize m.mux a b }, [])

def corRunR (keep : Bool) (fuel : Nat) (m : RMux) : List (OpR × List Nat) → RMux × Bytes
  | [] => (m, [])
  | op :: ops =>
    let r1 := corStepR keep fuel m op
    let r2 := corRunR keep fuel r1.1 ops
    (r2.1, r1.2 ++ r2.2)

/-- frames as the `cor` API takes them: non-empty, well-formed; buffer sizes positive -/
def CorOpROK : OpR × List Nat → Prop
  | (.frame lines _ _ _ _, sizes) => lines ≠ [] ∧ (∀ s ∈ lines, Sliced.WF s) ∧ sizes ≠ [] ∧ ∀ s ∈ sizes, 0 < s
  | _ => True

/-- the `cor` application's multiplexer `m1` and the `feed` application's `m2` agree on everything a later call depends on -/
structure RelR (m1 m2 : RMux) : Prop where
  idle : Idle m1.mux
  cfg : m1.mux.cfg = m2.mux.cfg
  cc : m1.mux.cc = m2.mux.cc
  raw : m1.raw = m2.raw
  left : m1.raw.left = 0
  ok : CfgOK m2.mux.cfg

theorem feedR_congr (keep : Bool) (m1 m2 : RMux) (hcfg : m1.mux.cfg = m2.mux.cfg) (hcc : m1.mux.cc = m2.mux.cc)
    (hraw : m1.raw = m2.raw) (lines : List Sliced) (mask : Nat) (raw : Option Bytes) (sp : Option Sp) (pts : Nat) :
    (feedR keep m1 lines mask raw sp pts).2.ok = (feedR keep m2 lines mask raw sp pts).2.ok
    ∧ (feedR keep m1 lines mask raw sp pts).2.bytes = (feedR keep m2 lines mask raw sp pts).2.bytes
    ∧ (feedR keep m1 lines mask raw sp pts).1.mux.cfg = (feedR keep m2 lines mask raw sp pts).1.mux.cfg
    ∧ (feedR keep m1 lines mask raw sp pts).1.mux.cc = (feedR keep m2 lines mask raw sp pts).1.mux.cc
    ∧ (feedR keep m1 lines mask raw sp pts).1.raw = (feedR keep m2 lines mask raw sp pts).1.raw := by
  by_cases hsp : SpValid sp
  · -- both pass the sampling parameter test: `feedR.go` reads only configuration, counter and raw state
    rw [feedR_go keep m1 lines mask raw sp pts hsp, feedR_go keep m2 lines mask raw sp pts hsp]
    unfold feedR.go
    simp only [dropPending_cfg, dropPending_cc, ← hcfg, ← hcc, ← hraw]
    cases hg : generatePesR keep m1.mux.cfg m1.raw lines mask raw sp pts with
    | error e => obtain ⟨e1, e2⟩ := e; simp [dropPending_cfg, dropPending_cc, hcfg, hcc]
    | ok r =>
      obtain ⟨pes, left, st'⟩ := r
      simp only []
      by_cases hl : left ≠ []
      · simp [hl, dropPending_cfg, dropPending_cc, hcfg, hcc]
      · by_cases hp : m1.mux.cfg.pid = 0
        · have hp2 : m2.mux.cfg.pid = 0 := by rw [← hcfg]; exact hp
          simp [hl, hp2, dropPending_cfg, dropPending_cc, hcfg, hcc]
        · have hp2 : ¬ m2.mux.cfg.pid = 0 := by rw [← hcfg]; exact hp
          simp [hl, hp2, hcfg, hcc]
  · obtain ⟨sp', rfl, hf⟩ := not_spValid hsp
    rw [feedR_badSp keep m1 lines mask raw sp' pts hf, feedR_badSp keep m2 lines mask raw sp' pts hf]
    exact ⟨rfl, rfl, hcfg, hcc, hraw⟩

/-- the callback bytes of an accepted frame: at most 356 TS packets (65504 / 184), 66928 bytes -/
theorem feedR_bytes_length_le (keep : Bool) (m : RMux) (hc : CfgOK m.mux.cfg) (hraw : m.raw.left = 0) (lines : List Sliced)
    (hwf : ∀ s ∈ lines, Sliced.WF s) (mask : Nat) (raw : Option Bytes) (sp : Option Sp) (pts : Nat)
    (hok : (feedR keep m lines mask raw sp pts).2.ok = true) :
    (feedR keep m lines mask raw sp pts).2.bytes.length ≤ 66928
    ∧ (feedR keep m lines mask raw sp pts).1.raw.left = 0 := by
  obtain ⟨_, pes, st', _, hst, hleft, hpos, h184, hmax, hB, _⟩ := feedR_bytes keep m hc hraw lines hwf mask raw sp pts hok
  have hM := hc.max
  refine ⟨?_, by rw [hst]; exact hleft⟩
  rw [hB]
  split
  · omega
  · rw [tsLoop_flatten_length _ _ _ _ _ (by omega)]; omega

theorem corStepR_frame (keep : Bool) (fuel : Nat) (hfuel : 66928 ≤ fuel) (m1 m2 : RMux) (h : RelR m1 m2)
    (lines : List Sliced) (mask : Nat) (raw : Option Bytes) (sp : Option Sp) (pts : Nat) (sizes : List Nat)
    (hok : CorOpROK (.frame lines mask raw sp pts, sizes)) :
    (corStepR keep fuel m1 (.frame lines mask raw sp pts, sizes)).2 = (stepR keep m2 (.frame lines mask raw sp pts)).2
    ∧ RelR (corStepR keep fuel m1 (.frame lines mask raw sp pts, sizes)).1 (stepR keep m2 (.frame lines mask raw sp pts)).1 := by
  obtain ⟨hl, hwf, hsz, hpos⟩ := hok
  obtain ⟨e0, e1, e2, e3, e4⟩ := feedR_congr keep m1 m2 h.cfg h.cc h.raw lines mask raw sp pts
  have hc1 : CfgOK m1.mux.cfg := by rw [h.cfg]; exact h.ok
  obtain ⟨fuel', rfl⟩ : ∃ f, fuel = f + 1 := ⟨fuel - 1, by omega⟩
  have hlen : 0 < sizes.length := List.length_pos_iff.2 hsz
  have hs : 0 < sizes.getD (0 % sizes.length) 0 := getD_pos sizes hpos _ (Nat.mod_lt _ hlen)
  show (corAllR keep sizes lines mask raw sp pts (fuel' + 1) m1 0 []).2.2.2.2.2.1 = (feedR keep m2 lines mask raw sp pts).2.bytes
    ∧ RelR (corAllR keep sizes lines mask raw sp pts (fuel' + 1) m1 0 []).1 (feedR keep m2 lines mask raw sp pts).1
  by_cases hv : SpValid sp
  · cases hacc : (feedR keep m1 lines mask raw sp pts).2.ok with
    | true =>
      obtain ⟨hb, hleft⟩ := feedR_bytes_length_le keep m1 hc1 h.left lines hwf mask raw sp pts hacc
      obtain ⟨hsp, hr, hne, hfc⟩ := readyR_of_feedR_ok keep m1 h.idle hc1 h.left lines hl hwf mask raw sp pts hacc
      obtain ⟨m', c', heq, _, _, hidle, hcfg', hcc', hraw'⟩ :=
        corAllR_ready keep sizes hsz hpos lines hl mask raw sp hsp pts _ _ (fuel' + 1) m1 0 [] _ hr hne (by omega)
      rw [heq]
      simp only [List.nil_append]
      exact ⟨e1, ⟨hidle, by rw [hcfg', ← e2, hfc], by rw [hcc', e3], by rw [hraw', e4], by rw [hraw']; exact hleft,
        by rw [← e2, hfc]; exact hc1⟩⟩
    | false =>
      obtain ⟨r1, r2, r3, r4, r5, r6, r7, r8, r9, r10⟩ :=
        corR_reject_state keep m1 lines mask raw sp pts (sizes.getD (0 % sizes.length) 0) (by omega) hv h.idle hl hacc
      have hall : (corAllR keep sizes lines mask raw sp pts (fuel' + 1) m1 0 []).1
            = (corR keep m1 (sizes.getD (0 % sizes.length) 0) lines mask raw sp pts).1
          ∧ (corAllR keep sizes lines mask raw sp pts (fuel' + 1) m1 0 []).2.2.2.2.2.1 = [] := by
        rw [corAllR]
        simp only [r1, r2, Bool.false_eq_true, false_and, if_false, List.append_nil, and_self]
      rw [hall.1, hall.2, ← e1, r10]
      exact ⟨rfl, ⟨r5, by rw [r6, ← e2, r8], by rw [r7, ← e3, r9], by rw [r3, e4], r4, by rw [← e2, r8]; exact hc1⟩⟩
  · -- invalid sampling parameters: FALSE from both, nothing changes
    obtain ⟨sp', rfl, hf⟩ := not_spValid hv
    have i2 := corR_badSp keep m1 lines mask raw sp' pts hf (sizes.getD (0 % sizes.length) 0)
    have hall : (corAllR keep sizes lines mask raw (some sp') pts (fuel' + 1) m1 0 []).1 = m1
        ∧ (corAllR keep sizes lines mask raw (some sp') pts (fuel' + 1) m1 0 []).2.2.2.2.2.1 = [] := by
      rw [corAllR, i2]
      simp only [Bool.false_eq_true, false_and, if_false, List.append_nil, and_self]
    rw [hall.1, hall.2, feedR_badSp keep m2 lines mask raw sp' pts hf]
    exact ⟨rfl, h⟩

theorem corRunR_eq_runR (keep : Bool) (fuel : Nat) (hfuel : 66928 ≤ fuel) (ops : List (OpR × List Nat))
    (hops : ∀ op ∈ ops, CorOpROK op) :
    ∀ m1 m2 : RMux, RelR m1 m2 →
      (corRunR keep fuel m1 ops).2 = (runR keep m2 (ops.map Prod.fst)).2
      ∧ RelR (corRunR keep fuel m1 ops).1 (runR keep m2 (ops.map Prod.fst)).1 := by
  induction ops with
  | nil => intro m1 m2 h; exact ⟨rfl, h⟩
  | cons op ops ih =>
    intro m1 m2 h
    have hok := hops op (List.mem_cons_self ..)
    have ih' := ih (fun o ho => hops o (List.mem_cons_of_mem _ ho))
    obtain ⟨o, sizes⟩ := op
    have key : (corStepR keep fuel m1 (o, sizes)).2 = (stepR keep m2 o).2
        ∧ RelR (corStepR keep fuel m1 (o, sizes)).1 (stepR keep m2 o).1 := by
      cases o with
      | frame lines mask raw sp pts => exact corStepR_frame keep fuel hfuel m1 m2 h lines mask raw sp pts sizes hok
      | dataId d =>
        have hidle : Idle (setDataIdentifier m1.mux d).1 := by
          unfold Idle setDataIdentifier; split <;> exact h.idle
        have hcc : (setDataIdentifier m1.mux d).1.cc = (setDataIdentifier m2.mux d).1.cc := by
          rw [setDataIdentifier_cc, setDataIdentifier_cc]; exact h.cc
        refine ⟨rfl, ⟨hidle, ?_, hcc, h.raw, h.left, ?_⟩⟩
        · show (setDataIdentifier m1.mux d).1.cfg = (setDataIdentifier m2.mux d).1.cfg
          simp only [setDataIdentifier]
          split
          · simp only [h.cfg]
          · exact h.cfg
        · exact cfgOK_setDataIdentifier m2.mux d h.ok
      | size a b =>
        refine ⟨rfl, ⟨h.idle, ?_, h.cc, h.raw, h.left, ?_⟩⟩
        · show (setPesPacketSize m1.mux a b).cfg = (setPesPacketSize m2.mux a b).cfg
          simp only [setPesPacketSize, h.cfg]
        · exact cfgOK_setPesPacketSize m2.mux a b h.ok
    obtain ⟨k1, k2⟩ := key
    obtain ⟨j1, j2⟩ := ih' _ _ k2
    simp only [corRunR, List.map_cons, runR]
    exact ⟨by rw [k1, j1], j2⟩

end Zvbi.Mux
