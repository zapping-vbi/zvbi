import ZvbiModel.Mux.Model
import ZvbiModel.Mux.Spec
/-!
# Lemmas: data unit regions and `encode_stuffing`
-/
namespace Zvbi.Mux
open Zvbi.Mux.EnParse

instance (s : Sliced) : Decidable (Sliced.WF s) := by unfold Sliced.WF; infer_instance
instance (op : Op) : Decidable (Op.OK op) := by
  cases op <;> unfold Op.OK <;> infer_instance

theorem encUnits_append (a b : List DataUnit) : encUnits (a ++ b) = encUnits a ++ encUnits b := by
  induction a with
  | nil => rfl
  | cons u us ih => simp [encUnits, ih]

theorem encUnits_single (u : DataUnit) : encUnits [u] = u.id :: u.payload.length :: u.payload := by
  simp [encUnits]

theorem parseUnitsF_encUnits (us : List DataUnit) :
    ∀ f, (encUnits us).length ≤ f → parseUnitsF f (encUnits us) = some us := by
  induction us with
  | nil => intro f _; cases f <;> rfl
  | cons u us ih =>
    intro f hf
    cases f with
    | zero => simp [encUnits] at hf
    | succ f =>
      simp only [encUnits] at hf ⊢
      have hlen : u.payload.length ≤ (u.payload ++ encUnits us).length := by simp
      have h1 : (encUnits us).length ≤ f := by simp at hf; omega
      simp [parseUnitsF, ih f h1]

theorem parseUnits_encUnits (us : List DataUnit) : parseUnits (encUnits us) = some us :=
  parseUnitsF_encUnits us _ (Nat.le_refl _)

theorem encUnits_inj (a b : List DataUnit) (h : encUnits a = encUnits b) : a = b := by
  have h1 := parseUnits_encUnits a
  rw [h, parseUnits_encUnits b] at h1
  injection h1 with h1
  exact h1.symm

/-- a stuffing data unit of total size `n` -/
def stuffDU (n : Nat) : DataUnit := ⟨0xFF, List.replicate (n - 2) 0xFF⟩

theorem stuffUnit_eq (n : Nat) : stuffUnit n = encUnits [stuffDU n] := by
  simp [stuffUnit, stuffDU, encUnits, DU_STUFF]

theorem stuffUnits_eq (ns : List Nat) : (ns.map stuffUnit).flatten = encUnits (ns.map stuffDU) := by
  induction ns with
  | nil => rfl
  | cons n ns ih =>
    rw [List.map_cons, List.flatten_cons, ih, stuffUnit_eq, List.map_cons]
    exact (encUnits_append [stuffDU n] _).symm

/-- append one stuffing byte to the last data unit -/
def padLast : List DataUnit → List DataUnit
  | [] => []
  | [u] => [⟨u.id, u.payload ++ [0xFF]⟩]
  | u :: v :: us => u :: padLast (v :: us)

/-- total size of the last data unit (0 if there is none): the C code's `last_du_size` -/
def lastSize : List DataUnit → Nat
  | [] => 0
  | [u] => u.payload.length + 2
  | _ :: v :: us => lastSize (v :: us)

def IsStuffing (fixed : Bool) (u : DataUnit) : Prop :=
  u.id = 0xFF ∧ allFF u.payload = true ∧ (fixed = true → u.payload.length = 0x2C)

theorem allFF_replicate (n : Nat) : allFF (List.replicate n 0xFF) = true := by
  simp [allFF]

theorem isStuffing_stuffDU (fixed : Bool) (n : Nat) (h : fixed = true → n = 46) : IsStuffing fixed (stuffDU n) :=
  ⟨rfl, allFF_replicate _, fun hf => by rw [h hf]; rfl⟩

theorem lastSize_cons (u : DataUnit) (us : List DataUnit) :
    lastSize (u :: us) = if us = [] then u.payload.length + 2 else lastSize us := by
  cases us <;> simp [lastSize]

theorem lastSize_append (a b : List DataUnit) : lastSize (a ++ b) = if b = [] then lastSize a else lastSize b := by
  induction a with
  | nil => cases b <;> simp [lastSize]
  | cons u a ih =>
    by_cases hb : b = []
    · subst hb; simp
    · rw [if_neg hb] at ih ⊢
      rw [List.cons_append, lastSize_cons, if_neg (by simp [hb]), ih]

theorem lastSize_concat (init : List DataUnit) (u : DataUnit) :
    lastSize (init ++ [u]) = u.payload.length + 2 := by
  rw [lastSize_append, if_neg (List.cons_ne_nil _ _)]; rfl

theorem padLast_concat (init : List DataUnit) (u : DataUnit) :
    padLast (init ++ [u]) = init ++ [⟨u.id, u.payload ++ [0xFF]⟩] := by
  induction init with
  | nil => rfl
  | cons a as ih =>
    cases as with
    | nil => rfl
    | cons b bs => simpa [padLast] using ih

theorem exists_concat (us : List DataUnit) (hne : us ≠ []) : ∃ init u, us = init ++ [u] :=
  ⟨us.dropLast, us.getLast hne, (List.dropLast_concat_getLast hne).symm⟩

theorem lastSize_ge (us : List DataUnit) (hne : us ≠ []) : 2 ≤ lastSize us := by
  obtain ⟨init, u, rfl⟩ := exists_concat us hne
  rw [lastSize_concat]; omega

/-- `p[1 - last_du_size] = last_du_size - 1` plus the byte at `p` : the last unit grows by one stuffing byte -/
theorem poke_padLast (us : List DataUnit) (hne : us ≠ []) (h256 : lastSize us ≤ 256) (site : String) :
    poke site (encUnits us ++ [0xFF]) (encUnits us).length (lastSize us) (lastSize us - 1)
      = .ok (encUnits (padLast us)) := by
  obtain ⟨init, u, rfl⟩ := exists_concat us hne
  rw [lastSize_concat] at h256 ⊢
  rw [padLast_concat, encUnits_append, encUnits_append, encUnits_single, encUnits_single]
  unfold poke
  simp only [List.length_append, List.length_cons]
  rw [if_pos (by constructor <;> omega)]
  have e : (encUnits init).length + (u.payload.length + 1 + 1) + 1 - (u.payload.length + 2)
      = (encUnits init).length + 1 := by omega
  have h1 : (u.payload.length + 2 - 1) % 256 = u.payload.length + 1 := by omega
  rw [e, h1, List.append_assoc, List.set_append_right _ _ (by omega)]
  simp

/-- the `set` at `|A| + 1` turns the length byte `n + 1` into `n`, the one at `|A| + n + 3` the last 0xFF into 0.  For any `n`, so
    that the 255 bytes of `poke257` stay symbolic: the concrete lists are too deep for the evaluation within `maxRecDepth` -/
theorem poke257_gen (A : Bytes) (n : Nat) (s1 s2 : String) (hn : n < 256) :
    (match poke s1 (A ++ (0xFF :: (n + 1) :: (List.replicate n 0xFF ++ [0xFF])) ++ [0xFF]) (A.length + (n + 3)) (n + 3) n with
     | .error e => (.error e : Except Err Bytes)
     | .ok b => poke s2 b (A.length + (n + 3)) 1 0)
    = .ok (A ++ (0xFF :: n :: List.replicate n 0xFF) ++ [0xFF, 0]) := by
  unfold poke
  have hlen : (A ++ (0xFF :: (n + 1) :: (List.replicate n 0xFF ++ [0xFF])) ++ [0xFF]).length = A.length + (n + 4) := by
    simp only [List.length_append, List.length_cons, List.length_replicate, List.length_nil]; omega
  rw [hlen, if_pos (by constructor <;> omega)]
  simp only []
  rw [List.length_set, hlen, if_pos (by constructor <;> omega)]
  congr 1
  have e1 : A.length + (n + 3) + 1 - (n + 3) = A.length + 1 := by omega
  have e2 : A.length + (n + 3) + 1 - 1 = A.length + (n + 3) := by omega
  have e3 : n % 256 = n := Nat.mod_eq_of_lt hn
  rw [e1, e2, e3, List.append_assoc, List.set_append_right _ _ (by omega)]
  have e4 : A.length + 1 - A.length = 1 := by omega
  rw [e4]
  simp only [List.cons_append, List.set_cons_succ, List.set_cons_zero]
  rw [List.set_append_right _ _ (by omega)]
  have e5 : A.length + (n + 3) - A.length = (n + 2) + 1 := by omega
  rw [e5]
  simp only [List.set_cons_succ]
  have e6 : ∀ (l : Bytes) (k : Nat), l.length = k → (l ++ [255, 255]).set (k + 1) (0 % 256) = l ++ [255, 0] := by
    intro l k hk
    rw [List.set_append_right _ _ (by omega)]
    have : k + 1 - l.length = 1 := by omega
    rw [this]; rfl
  have := e6 (List.replicate n 255) n (by simp)
  simp only [List.append_assoc, List.cons_append, List.nil_append] at this ⊢
  rw [this]

/-- the two pokes of the `257 == last_du_size` branch turn `[FF, 255, FF*255] ++ [FF]` into
    `[FF, 254, FF*254] ++ [FF, 0]` -/
theorem poke257 (A : Bytes) (s1 s2 : String) :
    (match poke s1 (A ++ encUnits [stuffDU 257] ++ [0xFF]) (A ++ encUnits [stuffDU 257]).length 257 (256 - 2) with
     | .error e => (.error e : Except Err Bytes)
     | .ok b => poke s2 b (A ++ encUnits [stuffDU 257]).length 1 (2 - 2))
    = .ok (A ++ encUnits [stuffDU 256, stuffDU 2]) := by
  have h1 : encUnits [stuffDU 257] = 0xFF :: (254 + 1) :: (List.replicate 254 0xFF ++ [0xFF]) := by
    rw [encUnits_single]
    show 0xFF :: (List.replicate (254 + 1) 0xFF).length :: List.replicate (254 + 1) 0xFF = _
    rw [List.length_replicate, List.replicate_succ']
  have h2 : encUnits [stuffDU 256, stuffDU 2] = (0xFF :: 254 :: List.replicate 254 0xFF) ++ [0xFF, 0] := by
    show 0xFF :: (List.replicate 254 0xFF).length :: (List.replicate 254 0xFF ++ (0xFF :: (List.replicate 0 0xFF).length :: (List.replicate 0 0xFF ++ []))) = _
    rw [List.length_replicate, List.length_replicate]
    rfl
  have hl : (A ++ encUnits [stuffDU 257]).length = A.length + (254 + 3) := by
    rw [List.length_append, h1]
    simp only [List.length_append, List.length_cons, List.length_replicate, List.length_nil]
  rw [hl, h1, h2, ← List.append_assoc]
  exact poke257_gen A 254 s1 s2 (by omega)

/-- what `encode_stuffing` makes of the units `us` when `pLeft` bytes are to fill: `us₁` - the units `us`, the last one a byte
    longer when exactly one byte was to fill (variable-length format only, and that unit had at most 256 bytes) - followed by
    the stuffing units `st` -/
structure Stuffed (fixed : Bool) (us : List DataUnit) (pLeft : Nat) (us₁ st : List DataUnit) : Prop where
  len : (encUnits (us₁ ++ st)).length = (encUnits us).length + pLeft
  pad : us₁ = us ∨ (pLeft = 1 ∧ us₁ = padLast us ∧ fixed = false ∧ us ≠ [] ∧ lastSize us ≤ 256)
  stuffing : ∀ u ∈ st, IsStuffing fixed u

theorem Stuffed.fixedLen {fixed : Bool} {us us₁ st : List DataUnit} {pLeft : Nat} (S : Stuffed fixed us pLeft us₁ st)
    (hf : fixed = true) (h : ∀ u ∈ us, u.payload.length = 0x2C) : ∀ u ∈ us₁ ++ st, u.payload.length = 0x2C := by
  intro u hu
  rcases List.mem_append.mp hu with hu | hu
  · rcases S.pad with rfl | ⟨_, _, hnf, _⟩
    · exact h u hu
    · rw [hf] at hnf; cases hnf
  · exact (S.stuffing u hu).2.2 hf

/-- every data_unit_length but that of a stuffing unit still fits its byte -/
theorem Stuffed.len255 {fixed : Bool} {us us₁ st : List DataUnit} {pLeft : Nat} (S : Stuffed fixed us pLeft us₁ st)
    (h : ∀ u ∈ us, u.payload.length + 2 ≤ 257) : ∀ u ∈ us₁ ++ st, u.id ≠ 0xFF → u.payload.length ≤ 255 := by
  intro u hu hid
  rcases List.mem_append.mp hu with hu | hu
  · rcases S.pad with rfl | ⟨_, rfl, _, hne, h256⟩
    · have := h u hu; omega
    · obtain ⟨init, w, rfl⟩ := exists_concat us hne
      rw [lastSize_concat] at h256
      rw [padLast_concat] at hu
      rcases List.mem_append.mp hu with hu | hu
      · have := h u (List.mem_append_left _ hu); omega
      · rw [List.mem_singleton.mp hu]
        simp only [List.length_append, List.length_cons, List.length_nil]
        omega
  · exact absurd (S.stuffing u hu).1 hid

theorem Stuffed.ofSizes (fixed : Bool) (us : List DataUnit) (ns : List Nat) (h : ∀ n ∈ ns, 2 ≤ n ∧ (fixed = true → n = 46)) :
    Stuffed fixed us ns.sum us (ns.map stuffDU) := by
  refine ⟨?_, .inl rfl, fun u hu => ?_⟩
  · rw [encUnits_append, List.length_append]
    congr 1
    induction ns with
    | nil => rfl
    | cons n ns ih =>
      have := (h n (List.mem_cons_self ..)).1
      rw [List.map_cons, List.sum_cons, ← ih fun x hx => h x (List.mem_cons_of_mem _ hx)]
      simp only [encUnits, stuffDU, List.length_cons, List.length_append, List.length_replicate]
      omega
  · obtain ⟨n, hn, rfl⟩ := List.mem_map.mp hu
    exact isStuffing_stuffDU fixed n (h n hn).2

theorem encodeStuffing_spec (us : List DataUnit) (pLeft : Nat) (fixed : Bool)
    (hfix : fixed = true → pLeft % 46 = 0)
    (hone : fixed = false → pLeft = 1 → us ≠ [] ∧ lastSize us ≤ 256) :
    ∃ us₁ st, encodeStuffing (encUnits us) pLeft (lastSize us) fixed = .ok (encUnits (us₁ ++ st))
      ∧ Stuffed fixed us pLeft us₁ st := by
  -- the units of the `memset` and the `while` loop
  have full : ∀ k n : Nat, (List.replicate k (stuffUnit n)).flatten = encUnits ((List.replicate k n).map stuffDU) := fun k n => by
    rw [← stuffUnits_eq, List.map_replicate]
  -- units of the sizes `ns`, which add up to `pLeft`, each at least 2 (and 46 in the fixed format), do
  have sizes : ∀ ns : List Nat, ns.sum = pLeft → (∀ n ∈ ns, 2 ≤ n ∧ (fixed = true → n = 46)) →
      encodeStuffing (encUnits us) pLeft (lastSize us) fixed = .ok (encUnits (us ++ ns.map stuffDU)) →
      ∃ us₁ st, encodeStuffing (encUnits us) pLeft (lastSize us) fixed = .ok (encUnits (us₁ ++ st)) ∧ Stuffed fixed us pLeft us₁ st :=
    fun ns hs hn he => ⟨us, _, he, hs ▸ Stuffed.ofSizes fixed us ns hn⟩
  cases fixed with
  | true =>
    have h0 := hfix rfl
    refine sizes (List.replicate (pLeft / 46) 46) ?_ (fun n hn => by rw [(List.mem_replicate.mp hn).2]; exact ⟨by decide, fun _ => rfl⟩) ?_
    · rw [List.sum_replicate_nat]; have := Nat.div_add_mod pLeft 46; omega
    · simp [encodeStuffing, h0, full, encUnits_append]
  | false =>
    have hdm := Nat.div_add_mod pLeft 257
    by_cases hr0 : pLeft % 257 = 0
    · refine sizes (List.replicate (pLeft / 257) 257) ?_ (fun n hn => by rw [(List.mem_replicate.mp hn).2]; exact ⟨by decide, nofun⟩) ?_
      · rw [List.sum_replicate_nat]; omega
      · simp [encodeStuffing, hr0, full, encUnits_append]
    by_cases hr2 : 2 ≤ pLeft % 257
    · refine sizes (List.replicate (pLeft / 257) 257 ++ [pLeft % 257]) ?_ (fun n hn => ⟨?_, nofun⟩) ?_
      · rw [List.sum_append_nat, List.sum_replicate_nat]; simp only [List.sum_cons, List.sum_nil]; omega
      · rcases List.mem_append.mp hn with hn | hn
        · rw [(List.mem_replicate.mp hn).2]; decide
        · rw [List.mem_singleton.mp hn]; exact hr2
      · simp only [encodeStuffing, hr0, hr2, full, Bool.false_eq_true, if_false, if_true]
        rw [stuffUnit_eq, List.map_append, ← List.append_assoc, encUnits_append, encUnits_append]; rfl
    have hr1 : pLeft % 257 = 1 := by omega
    by_cases hk : 0 < pLeft / 257
    · -- the last full stuffing unit is shortened by one and a two-byte unit follows
      obtain ⟨k, hk'⟩ : ∃ k, pLeft / 257 = k + 1 := ⟨pLeft / 257 - 1, by omega⟩
      refine sizes (List.replicate k 257 ++ [256, 2]) ?_ (fun n hn => ⟨?_, nofun⟩) ?_
      · rw [List.sum_append_nat, List.sum_replicate_nat]; simp only [List.sum_cons, List.sum_nil]; omega
      · rcases List.mem_append.mp hn with hn | hn
        · rw [(List.mem_replicate.mp hn).2]; decide
        · simp only [List.mem_cons, List.not_mem_nil, or_false] at hn; omega
      · unfold encodeStuffing
        simp only [full, Bool.false_eq_true, if_false]
        rw [hr1, hk']
        have hk0 : (if k + 1 > 0 then 257 else lastSize us) = 257 := if_pos (by omega)
        simp only [hk0]
        rw [if_neg (by omega), if_neg (by omega), if_neg (by omega), if_pos trivial]
        rw [List.replicate_succ', List.map_append, List.map_append, encUnits_append, ← List.append_assoc, ← List.append_assoc,
          encUnits_append, encUnits_append]
        exact poke257 _ _ _
    · have hp1 : pLeft = 1 := by omega
      obtain ⟨hne, h256⟩ := hone rfl hp1
      have h2 := lastSize_ge us hne
      refine ⟨padLast us, [], ?_, ?_, Or.inr ⟨hp1, rfl, rfl, hne, h256⟩, by simp⟩
      · subst hp1
        have hne257 : ¬ lastSize us = 257 := by omega
        unfold encodeStuffing
        simp only [Bool.false_eq_true, if_false]
        have d0 : 1 / 257 = 0 := by decide
        have m1 : 1 % 257 = 1 := by decide
        rw [d0, m1]
        have hk0 : (if 0 > 0 then 257 else lastSize us) = lastSize us := if_neg (by omega)
        simp only [hk0, List.replicate_zero, List.flatten_nil]
        rw [if_neg (by omega), if_neg (by omega), if_neg (by omega), if_neg hne257]
        show poke _ (encUnits us ++ [] ++ [0xFF]) (encUnits us ++ []).length _ _ = _
        rw [List.append_nil, List.append_nil]
        exact poke_padLast us hne h256 _
      · obtain ⟨init, u, rfl⟩ := exists_concat us hne
        rw [List.append_nil, padLast_concat, encUnits_append, encUnits_append]
        simp [encUnits]; omega

/-- `last_du_size` matters to `encode_stuffing` only when exactly one byte is left -/
theorem encodeStuffing_lastDu (prev : Bytes) (pLeft a b : Nat) (fixed : Bool) (h : pLeft ≠ 1) :
    encodeStuffing prev pLeft a fixed = encodeStuffing prev pLeft b fixed := by
  unfold encodeStuffing
  simp only []
  by_cases hk : pLeft / (if fixed = true then 46 else 257) > 0
  · simp only [hk, if_true]
  · by_cases hr : pLeft % (if fixed = true then 46 else 257) = 0
    · simp only [hr, if_true]
    · rw [if_neg hr, if_neg hr]
      cases fixed
      · simp only [Bool.false_eq_true, if_false] at hk hr ⊢
        have : pLeft % 257 ≥ 2 := by have := Nat.div_add_mod pLeft 257; omega
        rw [if_pos this, if_pos this]
      · simp

theorem encodeStuffing_small (prev : Bytes) (n du : Nat) (h2 : 2 ≤ n) (h : n < 257) :
    encodeStuffing prev n du false = .ok (prev ++ stuffUnit n) := by
  unfold encodeStuffing
  simp only [Bool.false_eq_true, if_false, Nat.div_eq_of_lt h, Nat.mod_eq_of_lt h, List.replicate_zero, List.flatten_nil,
    List.append_nil]
  rw [if_neg (by omega), if_pos h2]

theorem encodeStuffing_one_zero (prev : Bytes) :
    encodeStuffing prev 1 0 false = .error (.assertFail "dvb_mux.c:167 last_du_size >= 2") := by
  unfold encodeStuffing
  simp

theorem lastSize_le (us : List DataUnit) (n : Nat) (h : ∀ u ∈ us, u.payload.length + 2 ≤ n) : lastSize us ≤ n := by
  induction us with
  | nil => simp [lastSize]
  | cons u us ih =>
    rw [lastSize_cons]
    split
    · exact h u (List.mem_cons_self ..)
    · exact ih (fun x hx => h x (List.mem_cons_of_mem _ hx))

/-- all `encode_stuffing` has to know about a unit before it -/
def UnitOK (fixed : Bool) (u : DataUnit) : Prop :=
  u.payload.length + 2 ≤ 257 ∧ (fixed = true → u.payload.length = 0x2C)

/-- `last_du_size` behind the units `us`.  `exact = true`: the size of the last unit, `lastDu0` if there is none (one insert
    call; the loop of the repaired `generate_pes_packet`).  `exact = false` (the loop of the unchanged tree, where every
    insert call overwrites it, finding F29): that size, or 0 -/
def DuOK : Bool → Nat → List DataUnit → Nat → Prop
  | true, lastDu0, us, du => du = if us = [] then lastDu0 else lastSize us
  | false, _, us, du => du = 0 ∨ (us ≠ [] ∧ du = lastSize us)

/-- what `insert_sliced_data_units`, `insert_raw_data_units` or the loop of `generate_pes_packet` has stored when it was entered
    with `pLeft` bytes of room and `last_du_size = lastDu`: the bytes `out` of the units `us`, `pLeft'` bytes left,
    `last_du_size = du`, and never exactly one byte left behind a unit of 257 bytes -/
structure Region (exact fixed : Bool) (pLeft lastDu : Nat) (out : Bytes) (du pLeft' : Nat) (us : List DataUnit) : Prop where
  enc : out = encUnits us
  ok : ∀ u ∈ us, UnitOK fixed u
  du : DuOK exact lastDu us du
  room : (encUnits us).length ≤ pLeft
  left : pLeft' = pLeft - (encUnits us).length
  crit : us ≠ [] → lastSize us ≥ 257 → pLeft - (encUnits us).length ≠ 1

theorem Region.nil (fixed : Bool) (pLeft lastDu : Nat) : Region true fixed pLeft lastDu [] lastDu pLeft [] :=
  ⟨rfl, nofun, rfl, Nat.zero_le _, rfl, fun h => absurd rfl h⟩

theorem Region.single (fixed : Bool) (pLeft lastDu : Nat) (u : DataUnit) (hu : UnitOK fixed u) (h256 : u.payload.length + 2 ≤ 256)
    (hroom : u.payload.length + 2 ≤ pLeft) :
    Region true fixed pLeft lastDu (encUnits [u]) (u.payload.length + 2) (pLeft - (u.payload.length + 2)) [u] := by
  have e : (encUnits [u]).length = u.payload.length + 2 := by rw [encUnits_single]; rfl
  refine ⟨rfl, fun x hx => by rw [List.mem_singleton.mp hx]; exact hu, rfl, by omega, by rw [e], fun _ h => ?_⟩
  simp only [lastSize] at h; omega

theorem Region.append {exact fixed : Bool} {pLeft lastDu : Nat} {o1 : Bytes} {d1 p1 : Nat} {u1 : List DataUnit}
    (R1 : Region exact fixed pLeft lastDu o1 d1 p1 u1) {o2 : Bytes} {d2 p2 : Nat} {u2 : List DataUnit}
    (R2 : Region exact fixed p1 d1 o2 d2 p2 u2) : Region exact fixed pLeft lastDu (o1 ++ o2) d2 p2 (u1 ++ u2) := by
  have hl := R1.left
  have hr1 := R1.room
  have hr2 := R2.room
  refine ⟨by rw [R1.enc, R2.enc, encUnits_append], fun u hu => (List.mem_append.mp hu).elim (R1.ok u) (R2.ok u), ?_,
    by rw [encUnits_append, List.length_append]; omega,
    by rw [R2.left, hl, encUnits_append, List.length_append]; omega, fun _ h257 => ?_⟩
  · have h1 := R1.du
    have h2 := R2.du
    cases exact
    · rcases h2 with h | ⟨hn, h⟩
      · exact .inl h
      · exact .inr ⟨by simp [hn], by rw [lastSize_append, if_neg hn]; exact h⟩
    · show d2 = _
      rw [show d2 = _ from h2, show d1 = _ from h1, lastSize_append]
      by_cases h2 : u2 = []
      · subst h2; simp
      · simp [h2]
  · rw [encUnits_append, List.length_append]
    rw [lastSize_append] at h257
    by_cases h2 : u2 = []
    · rw [if_pos h2] at h257
      subst h2
      by_cases h1 : u1 = []
      · subst h1; simp [lastSize] at h257
      · have := R1.crit h1 h257
        simp only [encUnits, List.length_nil, Nat.add_zero]; exact this
    · rw [if_neg h2] at h257
      have := R2.crit h2 h257
      omega

/-- `last_du_size` behind a region entered with `last_du_size = 0`: the size of the last unit, unless the unchanged tree has
    forgotten it -/
theorem Region.lastDu_or_forgotten {exact fixed : Bool} {pLeft : Nat} {out : Bytes} {du p' : Nat} {us : List DataUnit}
    (R : Region exact fixed pLeft 0 out du p' us) : du = lastSize us ∨ (exact = false ∧ du = 0) := by
  have := R.du
  cases exact
  · exact this.elim (fun h => .inr ⟨rfl, h⟩) fun h => .inl h.2
  · refine .inl (this.trans ?_)
    split
    · rename_i hn; rw [hn]; rfl
    · rfl

theorem Region.lastDu {fixed : Bool} {pLeft : Nat} {out : Bytes} {du p' : Nat} {us : List DataUnit}
    (R : Region true fixed pLeft 0 out du p' us) : du = lastSize us :=
  R.lastDu_or_forgotten.resolve_right fun h => nomatch h.1

end Zvbi.Mux
