import ZvbiModel.Mux.AcceptLemmas
import ZvbiModel.Mux.RawPes
import ZvbiModel.Mux.LemmasPes
/-!
# Lemmas: the converse direction with raw lines - every ordered, permitted, fitting frame is accepted
(repaired shape of `generate_pes_packet`)
-/
namespace Zvbi.Mux
open Zvbi.Mux.EnParse Zvbi.Mux.RawSpec

/-- bytes the data units of one raw line of `n` samples take: units of up to 251 samples with 6
    header bytes, or 46-byte units of up to 40 samples in the EN 300 472 compatible format -/
def rawSize (fixed : Bool) (n : Nat) : Nat :=
  if fixed then 46 * ((n + 39) / 40) else n + 6 * ((n + 250) / 251)

/-- bytes the selected lines of a frame need, raw line requests included (`spl` samples each) -/
def frameSize (fixed : Bool) (mask spl : Nat) : List Sliced → Nat
  | [] => 0
  | s :: rest =>
    (if s.id &&& mask = 0 then 0 else if s.id = SL_VBI625 then rawSize fixed spl else unitSize fixed s)
      + frameSize fixed mask spl rest

theorem frameSize_append (fixed : Bool) (mask spl : Nat) (a b : List Sliced) :
    frameSize fixed mask spl (a ++ b) = frameSize fixed mask spl a + frameSize fixed mask spl b := by
  induction a with
  | nil => simp [frameSize]
  | cons s a ih => simp only [List.cons_append, frameSize, ih]; omega

theorem frameSize_noraw (fixed : Bool) (mask spl : Nat) (seg : List Sliced)
    (h : ∀ s ∈ seg, s.id &&& mask ≠ 0 → s.id ≠ SL_VBI625) : frameSize fixed mask spl seg = unitsSize fixed mask seg := by
  induction seg with
  | nil => rfl
  | cons s seg ih =>
    rw [frameSize, unitsSize, ih fun x hx => h x (List.mem_cons_of_mem _ hx)]
    by_cases hm : s.id &&& mask = 0
    · rw [if_pos hm, if_pos hm]
    · rw [if_neg hm, if_neg hm, if_neg (h s (List.mem_cons_self ..) hm)]

theorem frameSize_gap (fixed : Bool) (mask spl : Nat) (hspl : 0 < spl) (lines : List Sliced) :
    frameSize fixed mask spl lines = 0 ∨ 5 ≤ frameSize fixed mask spl lines := by
  induction lines with
  | nil => left; rfl
  | cons s rest ih =>
    simp only [frameSize]
    by_cases hm : s.id &&& mask = 0
    · rw [if_pos hm, Nat.zero_add]; exact ih
    · rw [if_neg hm]
      right
      by_cases hr : s.id = SL_VBI625
      · rw [if_pos hr]
        unfold rawSize
        cases fixed
        · simp only [Bool.false_eq_true, if_false]; omega
        · simp only [if_true]; omega
      · rw [if_neg hr]
        unfold unitSize
        cases fixed
        · simp only [Bool.false_eq_true, if_false]; split
          · omega
          · split <;> omega
        · simp only [if_true]; omega

theorem length_rawUnit (fixed : Bool) (lofp : Nat) (first last : Bool) (fpp : Nat) (px : Bytes)
    (hf : fixed = true → px.length ≤ 40) :
    (rawUnit fixed lofp first last fpp px).length = rawDuSize fixed px.length := by
  unfold rawUnit rawDuSize
  cases fixed
  · simp
    omega
  · have := hf rfl
    simp
    omega

/-- `hslack` is the one case `insert_raw_data_units` cannot serve (its comment at `crit_p_left`: one byte left is too small for a
    stuffing unit, so a unit that would leave exactly one byte takes a sample less): the data must not end one byte before the end -/
theorem rawSize_step (fixed : Bool) (pLeft rlen : Nat) (hr : 0 < rlen) (hfit : rawSize fixed rlen ≤ pLeft)
    (hslack : fixed = false → pLeft - rawSize false rlen ≠ 1) :
    (if fixed then 46 else 7) ≤ pLeft
    ∧ rawSize fixed rlen = rawDuSize fixed (rawChunk fixed true pLeft rlen) + rawSize fixed (rlen - rawChunk fixed true pLeft rlen)
    ∧ (fixed = false → pLeft - rawDuSize fixed (rawChunk fixed true pLeft rlen)
        - rawSize fixed (rlen - rawChunk fixed true pLeft rlen) ≠ 1) := by
  unfold rawSize rawDuSize rawChunk at *
  cases fixed
  · have := hslack rfl
    simp only [Bool.false_eq_true, if_false, if_true, true_implies, eq_self] at *
    split <;> omega
  · simp only [if_true, Bool.true_eq_false, false_implies, and_true] at *
    omega

theorem insertRawLoop_accepts (fixed : Bool) (lofp nTotal : Nat) :
    ∀ (fuel pLeft fpp lastDu : Nat) (r : Bytes), r.length ≤ fuel → rawSize fixed r.length ≤ pLeft →
      (fixed = false → pLeft - rawSize false r.length ≠ 1) →
      (insertRawLoop fixed true lofp nTotal fuel pLeft fpp lastDu r).rest = []
      ∧ (insertRawLoop fixed true lofp nTotal fuel pLeft fpp lastDu r).out.length = rawSize fixed r.length
      ∧ (insertRawLoop fixed true lofp nTotal fuel pLeft fpp lastDu r).pLeft = pLeft - rawSize fixed r.length := by
  have h0 : rawSize fixed 0 = 0 := by cases fixed <;> rfl
  intro fuel
  induction fuel with
  | zero =>
    intro pLeft fpp lastDu r hfu _ _
    have hr : r = [] := List.eq_nil_of_length_eq_zero (by omega)
    subst hr
    exact ⟨rfl, h0.symm, by rw [List.length_nil, h0]; rfl⟩
  | succ fuel ih =>
    intro pLeft fpp lastDu r hfu hfit hslack
    by_cases hr : r = []
    · subst hr
      rw [insertRawLoop_stop _ _ _ _ _ _ _ _ _ (.inl rfl)]
      exact ⟨rfl, h0.symm, by rw [List.length_nil, h0]; rfl⟩
    obtain ⟨hmin, hrs, hsl⟩ := rawSize_step fixed pLeft r.length (List.length_pos_iff.mpr hr) hfit hslack
    obtain ⟨_, hnr, _, hn40, _⟩ := rawChunk_spec fixed true pLeft r.length (List.length_pos_iff.mpr hr) hmin
    rw [insertRawLoop_step _ _ _ _ _ _ _ _ _ hr hmin]
    generalize rawChunk fixed true pLeft r.length = n at *
    have hlen_take : (r.take n).length = n := by rw [List.length_take]; omega
    obtain ⟨h1, h2, h3⟩ := ih (pLeft - rawDuSize fixed n) (fpp + n) (rawDuSize fixed n) (r.drop n)
      (by rw [List.length_drop]; omega) (by rw [List.length_drop]; omega)
      (by intro hf; have := hsl hf; subst hf; rwa [List.length_drop])
    refine ⟨h1, ?_, ?_⟩
    · show (rawUnit fixed lofp _ _ fpp (r.take n) ++ _).length = _
      rw [List.length_append, length_rawUnit _ _ _ _ _ _ (by rw [hlen_take]; exact hn40), h2, List.length_drop, hlen_take]
      omega
    · show (insertRawLoop fixed true lofp nTotal fuel _ _ _ _).pLeft = _
      rw [h3, List.length_drop]; omega

theorem insertRaw_accepts (pLeft : Nat) (fixed : Bool) (line : Nat)
    (hl : (7 ≤ line ∧ line ≤ 23) ∨ (320 ≤ line ∧ line ≤ 336)) (sp : Sp) (hv : validSp sp = true)
    (smp : Bytes) (hlen : smp.length = sp.spl) (hfit : rawSize fixed sp.spl ≤ pLeft)
    (hslack : fixed = false → pLeft - rawSize false sp.spl ≠ 1) :
    ∃ rr, insertRaw pLeft smp fixed VIDEOSTD_625 line ((sp.offset + 2 ^ 32 - BT601_625_OFFSET) % 2 ^ 32) sp.spl true = .ok rr
      ∧ rr.rest = [] ∧ rr.out.length = rawSize fixed sp.spl ∧ rr.pLeft = pLeft - rawSize fixed sp.spl := by
  obtain ⟨par, l, hpl, hpar, heq⟩ := insertRaw_call pLeft fixed line sp hv smp hlen
  have hl7 : 7 ≤ l ∧ l ≤ 23 := by
    cases par
    · simp only [Bool.false_eq_true, if_false] at hpl; omega
    · have := hpar rfl; simp only [if_true] at hpl; omega
  rw [heq, if_neg (by omega)]
  refine ⟨_, rfl, ?_⟩
  have := insertRawLoop_accepts fixed ((if par then 0x20 else 0) + l) sp.spl smp.length pLeft (sp.offset - 132) 0 smp
    (Nat.le_refl _) (by rw [hlen]; exact hfit) (by rw [hlen]; exact hslack)
  rwa [hlen] at this ⊢

theorem samplesPointer_accepts (rawb : Bytes) (sp : Sp) (hv : validSp sp = true)
    (hh : (sp.count0 + sp.count1) * sp.spl ≤ rawb.length) (s : Sliced) (hp : PermittedRaw sp s) :
    ∃ smp, samplesPointer (some rawb) (some sp) s.line = .ok smp := by
  obtain ⟨_, hl, hrange⟩ := hp
  obtain ⟨row, _, hrow, heq⟩ := samplesPointer_some rawb sp s.line
  rw [heq, if_neg (by omega), if_neg (not_not_intro hrange), if_neg (Nat.not_lt.mpr (hrow (validSp_spec sp hv).2.2.2 hh hrange))]
  exact ⟨_, rfl⟩

/-- a selected line the caller may hand over: a permitted sliced line, or a raw line request
    inside the raw frame on lines 7..23 / 320..336 -/
def Admitted (raw : Option Bytes) (sp : Option Sp) (s : Sliced) : Prop :=
  Permitted s ∨ ((∃ rawb, raw = some rawb) ∧ ∃ sp', sp = some sp' ∧ PermittedRaw sp' s)

theorem genLoopR_accepts (keep : Bool) (mask : Nat) (fixed : Bool) (raw : Option Bytes) (sp : Option Sp)
    (hsp : SpValid sp) (hraw : RawHolds raw sp) :
    ∀ (fuel pLeft L lastDu : Nat) (st : RawSt) (todo : List Sliced), todo.length < fuel → st.left = 0 →
      (∀ s ∈ todo, Sliced.WF s) → (∀ s ∈ todo, s.id &&& mask ≠ 0 → Admitted raw sp s) → Ordered L todo →
      frameSize fixed mask (sp.getD dfltSp).spl todo ≤ pLeft →
      (fixed = false → pLeft - frameSize false mask (sp.getD dfltSp).spl todo ≠ 1) →
      ∃ out du st', genLoopR keep mask fixed raw sp fuel pLeft L lastDu st todo = .ok (out, du, [], st')
        ∧ out.length = frameSize fixed mask (sp.getD dfltSp).spl todo := by
  intro fuel
  induction fuel with
  | zero => intro pLeft L lastDu st todo h; omega
  | succ fuel ih =>
    intro pLeft L lastDu st todo hfu hst hwf hperm hord hfit hslack
    rw [genLoopR]
    have hsc := scanSeg_spec todo L
    obtain ⟨seg, ll, rest, hs⟩ : ∃ seg ll rest, scanSeg L todo = .ok (seg, ll, rest) := by
      cases hs : scanSeg L todo with
      | error off => rw [hs] at hsc; exact absurd hord hsc
      | ok x => exact ⟨x.1, x.2.1, x.2.2, rfl⟩
    rw [hs] at hsc
    obtain ⟨htodo, hnoraw, hrest2, ho⟩ := hsc
    obtain ⟨hoseg, hrest⟩ := ho hord
    rw [hs]
    simp only []
    have hwfseg : ∀ s ∈ seg, Sliced.WF s := fun x hx => hwf x (by rw [htodo]; exact List.mem_append_left _ hx)
    have hpermseg : ∀ s ∈ seg, s.id &&& mask ≠ 0 → Permitted s := by
      intro x hx hm
      rcases hperm x (by rw [htodo]; exact List.mem_append_left _ hx) hm with h | ⟨_, sp', _, hr, _⟩
      · exact h
      · exact absurd hr (hnoraw x hx)
    rw [htodo, frameSize_append, frameSize_noraw _ _ _ seg fun s hs _ => hnoraw s hs] at hfit hslack
    obtain ⟨hr, he, hlen, hpl⟩ := insertSliced_accepts mask fixed seg hwfseg hpermseg pLeft (segStart L) 0 L (segStart_le L) hoseg (by omega)
    rw [he]
    simp only []
    rw [if_neg (by simp [hr])]
    cases rest with
    | nil =>
      simp only []
      refine ⟨_, _, _, rfl, ?_⟩
      rw [hlen, htodo, frameSize_append, frameSize_noraw _ _ _ seg fun s hs _ => hnoraw s hs]
      simp [frameSize]
    | cons rawLine rest' =>
      simp only []
      have hrawid : rawLine.id = SL_VBI625 := hrest2 rawLine rfl
      have hord' : Ordered ll rest' := hrest
      have hfu' : rest'.length < fuel := by
        rw [htodo, List.length_append, List.length_cons] at hfu; omega
      have hwf' : ∀ s ∈ rest', Sliced.WF s := fun x hx => hwf x (by rw [htodo]; simp [hx])
      have hperm' : ∀ s ∈ rest', s.id &&& mask ≠ 0 → Admitted raw sp s := fun x hx => hperm x (by rw [htodo]; simp [hx])
      simp only [frameSize] at hfit hslack
      by_cases hm : mask &&& SL_VBI625 = 0
      · rw [if_pos hm]
        have hmaskraw : rawLine.id &&& mask = 0 := by rw [hrawid, Nat.and_comm]; exact hm
        rw [if_pos hmaskraw, Nat.zero_add] at hfit hslack
        obtain ⟨o, du', st'', hrec, holen⟩ := ih (insertSliced mask fixed pLeft (segStart L) 0 seg).pLeft ll
          (nextLastDu keep lastDu (insertSliced mask fixed pLeft (segStart L) 0 seg).lastDu) st rest' hfu' hst hwf' hperm' hord'
          (by rw [hpl]; omega) (by intro hf; subst hf; rw [hpl]; have := hslack rfl; omega)
        rw [hrec]
        simp only []
        refine ⟨_, _, _, rfl, ?_⟩
        rw [List.length_append, hlen, holen, htodo, frameSize_append, frameSize_noraw _ _ _ seg fun s hs _ => hnoraw s hs]
        simp only [frameSize, hmaskraw, if_true, Nat.zero_add]
      · rw [if_neg hm]
        have hselraw : ¬ rawLine.id &&& mask = 0 := by rw [hrawid, Nat.and_comm]; exact hm
        rw [if_neg hselraw, if_pos hrawid] at hfit hslack
        -- the request is admitted: raw frame and sampling parameters are there
        obtain ⟨rawb, sp', hrawsome, hspsome, hpr⟩ : ∃ rawb sp', raw = some rawb ∧ sp = some sp' ∧ PermittedRaw sp' rawLine := by
          rcases hperm rawLine (by rw [htodo]; simp) hselraw with h | ⟨⟨rawb, h1⟩, sp', h2, h3⟩
          · exact absurd hrawid (permitted_not_raw rawLine h)
          · exact ⟨rawb, sp', h1, h2, h3⟩
        subst hrawsome hspsome
        simp only [Option.getD_some] at hfit hslack ih ⊢
        have hv := hsp sp' rfl
        obtain ⟨ho, hend, hspl, _⟩ := validSp_spec sp' hv
        obtain ⟨smp, hsmp⟩ := samplesPointer_accepts rawb sp' hv (hraw rawb sp' rfl rfl) rawLine hpr
        obtain ⟨rawb2, sp2, _, hs2, _, hsmplen, _⟩ := samplesPointer_ok _ _ _ smp hsmp
        injection hs2 with hs2
        subst hs2
        simp only [hst, if_true, hsmp]
        rw [if_neg (by omega)]
        have hgap := frameSize_gap fixed mask sp'.spl hspl rest'
        have hgapf := frameSize_gap false mask sp'.spl hspl rest'
        obtain ⟨rr, hir, hrr1, hrr2, hrr3⟩ := insertRaw_accepts (insertSliced mask fixed pLeft (segStart L) 0 seg).pLeft fixed rawLine.line
          hpr.2.1 sp' hv smp hsmplen (by rw [hpl]; omega)
          (by intro hf; subst hf; have := hslack rfl; rw [hpl]; omega)
        rw [hir]
        simp only []
        rw [if_neg (by rw [hrr1]; simp)]
        obtain ⟨o, du', st'', hrec, holen⟩ := ih rr.pLeft ll
          (nextLastDu keep (nextLastDu keep lastDu (insertSliced mask fixed pLeft (segStart L) 0 seg).lastDu) rr.lastDu)
          { st with left := 0 } rest' hfu' rfl hwf' hperm' hord'
          (by rw [hrr3, hpl]; omega) (by intro hf; subst hf; rw [hrr3, hpl]; have := hslack rfl; omega)
        rw [hrec]
        simp only []
        refine ⟨_, _, _, rfl, ?_⟩
        rw [List.length_append, List.length_append, hlen, hrr2, holen, htodo, frameSize_append,
          frameSize_noraw _ _ _ seg fun s hs _ => hnoraw s hs]
        simp only [frameSize]
        rw [if_neg hselraw, if_pos hrawid]
        omega

end Zvbi.Mux
