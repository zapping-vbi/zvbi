import ZvbiModel.Demux.JoinFrame
import ZvbiModel.Mux.UndefField
/-!
# The demultiplexer's side for data units with the undefined line_offset 0

C07's join lemmas (`Demux/JoinUnits.lean`, `Demux/JoinFrame.lean`) treat line units with a defined line number.  Here:
`line_address` (dvb_demux.c:498) in its `line_offset == 0` branch (`lineAddress_undef`), what a Teletext unit with
line_offset 0 does to the frame (`undefRes`, `dataUnit_line_undef`), and `extract_data_units` over a whole data unit
region that mixes defined and undefined lines (`extractLoop_stores_cont`): when the defined line numbers ascend and the
field parity of an undefined line is that of the frame so far - or moves from the first to the second field after at
least one unit of the packet - (`ContUnits`), every line is stored, in order, the undefined ones with line number 0.
-/
/- a namespace of its own: nothing here can shadow or extend a name of `Zvbi.Demux` -/
namespace Zvbi.C06UD
open Zvbi.Demux
open Zvbi.Hamm (rev8)
open Zvbi.Mux.EnParse (Line Svc DataUnit unitLine unitsLines lofpLine encUnits allFF)

variable {cfg : SrcCfg}

/-- the field `lofp_to_line` reads from the field_parity bit: 0 = first field (bit set), 1 = second field -/
def undefField (lofp : Nat) : Nat := if lofp / 32 % 2 = 1 then 0 else 1

def lofpUndefCheck (lofp : Nat) : Bool :=
  match lofpLine lofp with
  | some 0 => lofpToLine lofp true = (undefField lofp, 0, 0)
  | _ => true

theorem lofpUndefCheck_all : ∀ lofp < 256, lofpUndefCheck lofp = true := by decide +kernel

theorem lofp_agree_undef (lofp : Nat) (h : lofpLine lofp = some 0) : lofpToLine lofp true = (undefField lofp, 0, 0) := by
  have := lofpUndefCheck_all lofp (lofp_lt lofp 0 h)
  unfold lofpUndefCheck at this
  rw [h] at this
  simpa using this

/-- `line_address` for a unit with line_offset 0, both shapes of the source: a new frame when the field differs from the
last unit's at the start of a packet, "illegal line order" when the field goes back, else the slot with line number 0 -/
theorem lineAddress_undef (f : Frame) (lofp : Nat) (h : lofpLine lofp = some 0) :
    lineAddress cfg f lofp true =
      if cfg.lateOverflow = false ∧ f.lines.length ≥ 64 then .err
      else if f.lastDuId ≠ 0 ∧ undefField lofp ≠ f.lastField ∧ f.nDu = 0 then .newFrame
      else if f.lastDuId ≠ 0 ∧ undefField lofp ≠ f.lastField ∧ undefField lofp < f.lastField then .err
      else if f.lines.length ≥ 64 then .err
      else .ok { f with lastField := undefField lofp, lastFieldLine := 0, nDu := f.nDu + 1 } 0 := by
  unfold lineAddress
  rw [lofp_agree_undef lofp h]
  simp only [ne_eq, not_true_eq_false, if_false, N_SLICED]
  rfl

/-- the frame after a Teletext line with undefined line number was stored -/
def undefFrame (f : Frame) (lofp : Nat) (data : Bytes) : Frame :=
  pushLine { f with lastField := undefField lofp, lastFieldLine := 0, nDu := f.nDu + 1 } SL_TELETEXT_B 0 data

/-- what a Teletext unit with line_offset 0 does -/
def undefRes (cfg : SrcCfg) (f : Frame) (lofp : Nat) (data : Bytes) : DU :=
  if cfg.lateOverflow = false ∧ f.lines.length ≥ 64 then .fail f .err
  else if f.lastDuId ≠ 0 ∧ undefField lofp ≠ f.lastField ∧ f.nDu = 0 then .fail f .newFrame
  else if f.lastDuId ≠ 0 ∧ undefField lofp ≠ f.lastField ∧ undefField lofp < f.lastField then .fail f .err
  else if f.lines.length ≥ 64 then .fail f .err
  else .store (undefFrame f lofp data)

theorem dataUnit_ttx_undef (f : Frame) (id len p0 p1 : Nat) (r tail : Bytes)
    (hid : id = 2 ∨ id = 3) (hlen : 44 ≤ len) (hr : 42 ≤ r.length) (hp1 : p1 = 0xE4)
    (hl : lofpLine p0 = some 0) :
    dataUnit cfg f (id :: len :: p0 :: p1 :: (r ++ tail)) id len = undefRes cfg f p0 ((r.take 42).map rev8) := by
  unfold dataUnit undefRes
  simp only [DU_TTX_NON_SUBTITLE, DU_TTX_SUBTITLE, hid, if_true]
  rw [if_neg (by omega)]
  simp only [List.getElem?_cons_succ, List.getElem?_cons_zero, hp1, ne_eq, not_true_eq_false, if_false]
  rw [if_neg (by omega), lineAddress_undef f p0 hl]
  by_cases he : cfg.lateOverflow = false ∧ f.lines.length ≥ 64
  · simp only [he, and_self, if_true]
  rw [if_neg he, if_neg he]
  by_cases h1 : f.lastDuId ≠ 0 ∧ undefField p0 ≠ f.lastField ∧ f.nDu = 0
  · rw [if_pos h1, if_pos h1]
  rw [if_neg h1, if_neg h1]
  by_cases h2 : f.lastDuId ≠ 0 ∧ undefField p0 ≠ f.lastField ∧ undefField p0 < f.lastField
  · rw [if_pos h2, if_pos h2]
  rw [if_neg h2, if_neg h2]
  by_cases hfull : f.lines.length ≥ 64
  · simp only [hfull, if_true]
  rw [if_neg hfull, if_neg hfull]
  simp only []
  rw [if_neg (by omega)]
  have ht : ((id :: len :: p0 :: 228 :: (r ++ tail)).drop 4).take 42 = r.take 42 := by
    simp only [List.drop_succ_cons, List.drop_zero]
    exact List.take_append_of_le_length hr
  rw [ht, if_pos (by simp; omega)]
  rfl

/-- a line unit the reader accepts with the undefined line number 0 (only Teletext units can have it) does to the frame
what `undefRes` says, with the unit's field parity byte and the payload the reader sees -/
theorem dataUnit_line_undef (f : Frame) (u : DataUnit) (l : Line) (tail : Bytes)
    (hu : unitLine u = some (some l)) (h0 : l.line = 0) :
    dataUnit cfg f (u.id :: u.payload.length :: (u.payload ++ tail)) u.id u.payload.length
      = undefRes cfg f (u.payload.getD 0 0) l.data ∧ l.svc = .ttx := by
  obtain ⟨id, p⟩ := u
  cases Zvbi.Mux.unitLine_eq_some id p (some l) hu with
  | ttx lv hid hc1 _ hc3 hlv _ =>
    subst h0
    rcases p with _ | ⟨p0, _ | ⟨p1, r⟩⟩
    · simp at hc1
    · simp at hc1
    · simp only [List.getD_cons_zero, List.getD_cons_succ, List.length_cons, List.drop_succ_cons,
        List.drop_zero] at hc1 hc3 hlv ⊢
      refine ⟨?_, trivial⟩
      rw [List.cons_append, List.cons_append]
      exact dataUnit_ttx_undef f id _ p0 p1 r tail hid hc1 (by omega) hc3 hlv
  | vps | wss | cc => cases h0

/-- The data units of a region continue the frame under assembly.  `st`: a unit of this packet was already stored
(`n_data_units_extracted_from_packet > 0`), `ll` = `last_frame_line`, `lf` = `last_field`.  A defined line lies beyond
`ll`; an undefined line has the field of the unit before it, or - after at least one stored unit of the packet - moves
from the first to the second field. -/
def ContUnits : Bool → Nat → Nat → List DataUnit → Prop
  | _, _, _, [] => True
  | st, ll, lf, u :: us =>
    match unitLine u with
    | some (some l) =>
      if l.line ≠ 0 then ll < l.line ∧ ContUnits true l.line (if l.line < 313 then 0 else 1) us
      else (undefField (u.payload.getD 0 0) = lf ∨ (st = true ∧ lf < undefField (u.payload.getD 0 0)))
           ∧ ContUnits true ll (undefField (u.payload.getD 0 0)) us
    | _ => ContUnits st ll lf us

instance decContUnits : (st : Bool) → (ll lf : Nat) → (us : List DataUnit) → Decidable (ContUnits st ll lf us)
  | _, _, _, [] => isTrue trivial
  | st, ll, lf, u :: us => by
    unfold ContUnits
    cases h : unitLine u with
    | none => simp only []; exact decContUnits st ll lf us
    | some o =>
      cases o with
      | none => simp only []; exact decContUnits st ll lf us
      | some l =>
        simp only []
        by_cases h0 : l.line ≠ 0
        · rw [if_pos h0]
          have := decContUnits true l.line (if l.line < 313 then 0 else 1) us
          exact inferInstance
        · rw [if_neg h0]
          have := decContUnits true ll (undefField (u.payload.getD 0 0)) us
          exact inferInstance

/-- `extract_data_units` over an accepted region whose units continue the frame (`ContUnits`), defined and undefined
line numbers mixed: every line is stored, in order, result 0; both shapes of `line_address`. -/
theorem extractLoop_stores_cont : ∀ (us : List DataUnit) (ls : List Line) (f : Frame) (fuel : Nat),
    unitsLines us = some ls → ContUnits (decide (f.nDu > 0)) f.lastFrameLine f.lastField us →
    f.lines.length + ls.length ≤ 64 → (encUnits us).length < fuel →
    ∃ f', extractLoop cfg fuel f (encUnits us) = (f', .done, []) ∧ f'.lines = f.lines ++ ls.map ofLine := by
  intro us
  induction us with
  | nil =>
    intro ls f fuel hul _ _ hfuel
    simp only [unitsLines, Option.some.injEq] at hul
    subst hul
    cases fuel with
    | zero => simp at hfuel
    | succ fuel => exact ⟨f, by simp [encUnits, extractLoop], by simp⟩
  | cons u us ih =>
    intro ls f fuel hul hcont hcap hfuel
    cases fuel with
    | zero => simp at hfuel
    | succ fuel =>
      obtain ⟨id, p⟩ := u
      simp only [encUnits] at hfuel ⊢
      by_cases hshort : (id :: p.length :: (p ++ encUnits us)).length ≤ 2
      · have hp : p = [] := by
          apply List.eq_nil_of_length_eq_zero
          simp only [List.length_cons, List.length_append] at hshort; omega
        have hus : us = [] := by
          rw [← encUnits_nil_iff]; apply List.eq_nil_of_length_eq_zero
          simp only [List.length_cons, List.length_append] at hshort; omega
        subst hp; subst hus
        have hls : ls = [] := by
          simp only [unitsLines] at hul
          cases hu : unitLine ⟨id, []⟩ with
          | none => rw [hu] at hul; simp at hul
          | some o =>
            cases o with
            | none => rw [hu] at hul; simpa using hul.symm
            | some l => exact absurd hu (unitLine_nil_payload id l)
        subst hls
        refine ⟨f, ?_, by simp⟩
        rw [extractLoop, if_pos hshort]
      · rw [extractLoop_step fuel f id p.length _ (by omega)
          (by simp only [List.length_cons, List.length_append]; omega), drop_unit]
        unfold ContUnits at hcont
        have hfuel' : (encUnits us).length < fuel := by
          simp only [List.length_cons, List.length_append] at hfuel; omega
        rcases Zvbi.Mux.unitsLines_cons_inv ⟨id, p⟩ us ls hul with ⟨hu, hrest⟩ | ⟨l, ls', hu, hrest, rfl⟩
        · rw [hu] at hcont
          have := dataUnit_stuff_unit (cfg := cfg) f ⟨id, p⟩ (id :: p.length :: (p ++ encUnits us)) hu
          simp only at this
          rw [this]
          exact ih ls { f with lastDuId := id } fuel hrest hcont hcap hfuel'
        · rw [hu] at hcont
          simp only [List.length_cons] at hcap
          simp only [] at hcont
          by_cases h0 : l.line ≠ 0
          · rw [if_pos h0] at hcont
            obtain ⟨hlt, hcont'⟩ := hcont
            obtain ⟨lofp, hdu⟩ := dataUnit_line (cfg := cfg) f ⟨id, p⟩ l (encUnits us) hu h0
            simp only at hdu
            rw [hdu, lineRes_room _ _ _ (by omega), if_neg (by omega)]
            simp only []
            obtain ⟨f', h1, h2⟩ := ih ls' { storeFrame f lofp l with lastDuId := id } fuel hrest
              (by simpa [storeFrame, pushLine, addrFrame] using hcont')
              (by simp [storeFrame, pushLine, addrFrame]; omega) hfuel'
            refine ⟨f', h1, ?_⟩
            rw [h2]; simp [storeFrame, pushLine, addrFrame, ofLine]
            cases l.svc <;> rfl
          · rw [if_neg h0] at hcont
            have h0' : l.line = 0 := by omega
            obtain ⟨hfld, hcont'⟩ := hcont
            obtain ⟨hdu, hsvc⟩ := dataUnit_line_undef (cfg := cfg) f ⟨id, p⟩ l (encUnits us) hu h0'
            simp only at hdu hfld hcont'
            rw [hdu]
            unfold undefRes
            rw [if_neg (by omega)]
            have hn1 : ¬ (f.lastDuId ≠ 0 ∧ undefField (p.getD 0 0) ≠ f.lastField ∧ f.nDu = 0) := by
              rintro ⟨_, hne, hz⟩
              rcases hfld with he | ⟨hst, _⟩
              · exact hne he
              · simp only [decide_eq_true_eq] at hst; omega
            have hn2 : ¬ (f.lastDuId ≠ 0 ∧ undefField (p.getD 0 0) ≠ f.lastField
                ∧ undefField (p.getD 0 0) < f.lastField) := by
              rintro ⟨_, hne, hlt⟩
              rcases hfld with he | ⟨_, hgt⟩
              · exact hne he
              · omega
            rw [if_neg hn1, if_neg hn2, if_neg (by omega)]
            simp only []
            obtain ⟨f', h1, h2⟩ := ih ls' { undefFrame f (p.getD 0 0) l.data with lastDuId := id } fuel hrest
              (by simpa [undefFrame, pushLine] using hcont')
              (by simp [undefFrame, pushLine]; omega) hfuel'
            refine ⟨f', h1, ?_⟩
            rw [h2]
            obtain ⟨svc, line, data⟩ := l
            simp only at hsvc h0'
            subst hsvc; subst h0'
            simp [undefFrame, pushLine, ofLine]

/-- first packet after a frame start (`new_frame`): the frame is reset, takes the packet's PTS and all lines - the ones
with line number 0 too -; nothing is delivered -/
theorem pesPacketFrame_first_cont (n : Nat) (se : Bool) (fs : FS) (us : List DataUnit) (ls : List Line)
    (hnf : fs.newFrame = true) (hne : us ≠ []) (hul : unitsLines us = some ls) (hc : ContUnits false 0 0 us)
    (hcap : ls.length ≤ 64) :
    ∃ fs', pesPacketFrame cfg (n + 1) true se fs (encUnits us) = (fs', [], .done, [])
      ∧ fs'.newFrame = false ∧ fs'.frame.lines = ls.map ofLine ∧ fs'.framePts = fs.packetPts
      ∧ fs'.packetPts = fs.packetPts := by
  obtain ⟨u, us', rfl⟩ := List.exists_cons_of_ne_nil hne
  have h2 := length_encUnits_cons u us'
  rw [pesPacketFrame]
  simp only [hnf, if_true]
  rw [extract_eq _ _ h2]
  obtain ⟨f', h1, hl⟩ := extractLoop_stores_cont (cfg := cfg) (u :: us') ls (resetFrame fs.frame) _ hul
    (by simpa [resetFrame] using hc) (by simpa [resetFrame] using hcap) (Nat.lt_succ_self _)
  rw [h1]
  exact ⟨_, rfl, rfl, by simpa [resetFrame] using hl, rfl, rfl⟩

/-- a packet that begins with a line unit whose (defined) line does not lie beyond the last line of the frame under
assembly: that frame is delivered with its PTS, then the new frame takes the packet's PTS and all its lines -/
theorem pesPacketFrame_next_cont (se : Bool) (fs : FS) (u : DataUnit) (us : List DataUnit) (l : Line) (ls : List Line)
    (hnf : fs.newFrame = false) (hn : fs.frame.nDu = 0)
    (hfull : cfg.lateOverflow = true ∨ fs.frame.lines.length < 64)
    (hu : unitLine u = some (some l)) (h0 : l.line ≠ 0) (hle : l.line ≤ fs.frame.lastFrameLine)
    (hul : unitsLines (u :: us) = some ls) (hc : ContUnits false 0 0 (u :: us)) (hcap : ls.length ≤ 64) :
    ∃ fs', pesPacketFrame cfg 3 true se fs (encUnits (u :: us)) = (fs', [⟨fs.framePts, fs.frame.lines⟩], .done, [])
      ∧ fs'.newFrame = false ∧ fs'.frame.lines = ls.map ofLine ∧ fs'.framePts = fs.packetPts
      ∧ fs'.packetPts = fs.packetPts := by
  have h2 := length_encUnits_cons u us
  have hfirst : extractLoop cfg ((encUnits (u :: us)).length + 1) fs.frame (encUnits (u :: us))
      = (fs.frame, .newFrame, encUnits (u :: us)) := by
    obtain ⟨id, p⟩ := u
    have hp : p ≠ [] := by
      intro h; subst h; exact unitLine_nil_payload id l hu
    have hpl : 0 < p.length := List.length_pos_iff.mpr hp
    simp only [encUnits]
    rw [extractLoop_step _ fs.frame id p.length _ (by simp only [List.length_cons, List.length_append]; omega)
      (by simp only [List.length_cons, List.length_append]; omega)]
    obtain ⟨lofp, hdu⟩ := dataUnit_line (cfg := cfg) fs.frame ⟨id, p⟩ l (encUnits us) hu h0
    simp only at hdu
    rw [hdu, lineRes_newFrame _ _ _ hfull hle hn]
  rw [pesPacketFrame]
  simp only [hnf, Bool.false_eq_true, if_false]
  rw [extract_eq _ _ h2, hfirst]
  simp only [Bool.not_true, Bool.false_eq_true, if_false]
  obtain ⟨fs', h, r⟩ := pesPacketFrame_first_cont (cfg := cfg) 1 se { fs with newFrame := true } (u :: us) ls rfl
    (List.cons_ne_nil _ _) hul hc hcap
  rw [h]
  exact ⟨fs', rfl, r⟩

end Zvbi.C06UD
