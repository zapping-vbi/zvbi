import ZvbiModel.Mux.LemmasFrame
import ZvbiModel.Util.Bits
/-!
# Lemmas: PTS, PES header, `generate_pes_packet`

Definitions: `parseHdr` (what `parsePes` and `parsePesR` read alike; `parsePes_eq`, `parseHdr_some`, `parseHdr_build`), `NoRaw`,
`CfgOK`, `pesFill` (`pesFill_spec`).  Also `stuffing_done` (the stuffing step behind a `Region`), `segStart_zero/_le`, the
`unitsLines_*stuffing` / `unitsLines_padLast` lemmas, `generatePes_done/_units/_ok`.
-/
namespace Zvbi.Mux
open Zvbi.Mux.EnParse Zvbi.Hamm

theorem and14 (x : Nat) : x &&& 0xE = x % 16 / 2 * 2 := by
  have := Bits.and_field x 1 3
  simp only [Nat.reducePow, Nat.reduceAdd, Nat.reduceSub] at this
  omega

theorem or1 (x : Nat) : (x ||| 1) % 256 = x % 256 / 2 * 2 + 1 := by
  have h2 : (x ||| 1) % 2 ^ 8 = x % 2 ^ 8 ||| 1 % 2 ^ 8 := Nat.or_mod_two_pow
  have h3 : ∀ y < 256, y ||| 1 = y / 2 * 2 + 1 := by decide +kernel
  have h5 := h3 (x % 256) (Bits.mod_lt _ _)
  simp only [Nat.reducePow, Nat.reduceMod] at h2
  omega

theorem parsePts_layout (v : Nat) (hv : v < 2 ^ 33) :
    parsePts [0x20 + (v / 2 ^ 30) * 2 + 1, v / 2 ^ 22 % 256, (v / 2 ^ 15 % 128) * 2 + 1, v / 2 ^ 7 % 256, (v % 128) * 2 + 1]
      = some v := by
  show (if _ then _ else _) = _
  rw [if_pos (by omega)]
  refine congrArg some ?_
  omega

theorem encodeTimestamp_layout (u : Nat) :
    encodeTimestamp u
      = [0x20 + (u % 2 ^ 33 / 2 ^ 30) * 2 + 1, u % 2 ^ 33 / 2 ^ 22 % 256, (u % 2 ^ 33 / 2 ^ 15 % 128) * 2 + 1,
         u % 2 ^ 33 / 2 ^ 7 % 256, (u % 2 ^ 33 % 128) * 2 + 1] := by
  unfold encodeTimestamp
  simp only [Nat.shiftRight_eq_div_pow, and14, or1, Nat.reducePow]
  congr 1
  · omega
  congr 1
  · omega
  congr 1
  · omega
  congr 1
  · omega
  congr 1
  omega

theorem parsePts_encodeTimestamp (u : Nat) : parsePts (encodeTimestamp u) = some (u % 2 ^ 33) := by
  rw [encodeTimestamp_layout, parsePts_layout _ (Bits.mod_lt _ _)]

theorem length_encodeTimestamp (u : Nat) : (encodeTimestamp u).length = 5 := rfl

theorem length_pesHeader (size pts did : Nat) : (pesHeader size pts did).length = 46 := by
  simp only [pesHeader, List.length_append, List.length_cons, List.length_nil, length_encodeTimestamp,
    List.length_replicate]

theorem pesHeader_shape (size pts did : Nat) (body : Bytes) :
    pesHeader size pts did ++ body
      = 0x00 :: 0x00 :: 0x01 :: 0xBD :: ((size - 6) / 256 % 256) :: ((size - 6) % 256) :: 0x84 :: 0x80 :: 0x24 ::
          (encodeTimestamp pts ++ (List.replicate 31 0xFF ++ (did % 256) :: body)) := by
  simp only [pesHeader, PRIVATE_STREAM_1, Nat.shiftRight_eq_div_pow, Nat.reducePow, List.cons_append,
    List.nil_append, List.append_assoc]

/-- header and data unit region of a VBI PES packet - PTS, data_identifier, the data units -: what `EnParse.parsePes` and
    `RawSpec.parsePesR` read in the same way before they interpret the units -/
def parseHdr (bs : Bytes) : Option (Nat × Nat × List DataUnit) :=
  match bs with
  | 0x00 :: 0x00 :: 0x01 :: 0xBD :: lenHi :: lenLo :: b6 :: b7 :: b8 :: rest =>
    if lenHi * 256 + lenLo + 6 ≠ bs.length ∨ bs.length % 184 ≠ 0 then none
    else if b6 / 64 ≠ 2 ∨ b6 / 16 % 4 ≠ 0 ∨ b6 / 4 % 2 ≠ 1 ∨ b7 ≠ 0x80 ∨ b8 ≠ 0x24 then none
    else if rest.length < 37 ∨ (rest.drop 5).take 31 ≠ List.replicate 31 0xFF ∨ ¬ validDataId ((rest.drop 36).getD 0 0) then none
    else
      match parsePts (rest.take 5), parseUnits (rest.drop 37) with
      | some pts, some us =>
        if (rest.drop 36).getD 0 0 ≤ 0x1F ∧ ¬ us.all (fun u => u.payload.length == 0x2C) then none
        else some (pts, (rest.drop 36).getD 0 0, us)
      | _, _ => none
  | _ => none

theorem parsePes_eq (bs : Bytes) :
    parsePes bs = (parseHdr bs).bind fun h => (unitsLines h.2.2).map fun ls => ⟨h.1, h.2.1, bs.length, ls⟩ := by
  unfold parsePes parseHdr
  split
  · simp only []
    split
    · rfl
    split
    · rfl
    split
    · rfl
    rename_i rest _ _ _
    cases parsePts (rest.take 5) <;> cases parseUnits (rest.drop 37) <;> try rfl
    simp only
    split
    · rfl
    · simp only [Option.bind_some]
      cases (unitsLines _) <;> rfl
  · rename_i hno
    split
    · exact (hno _ _ _ _ _ _ rfl).elim
    · rfl

theorem parseHdr_some (bs : Bytes) (pts did : Nat) (us : List DataUnit) (h : parseHdr bs = some (pts, did, us)) :
    bs.getD 4 0 * 256 + bs.getD 5 0 + 6 = bs.length ∧ bs.length % 184 = 0
    ∧ parseUnits (bs.drop 46) = some us ∧ (did ≤ 0x1F → ∀ u ∈ us, u.payload.length = 0x2C) := by
  unfold parseHdr at h
  split at h
  · rename_i lenHi lenLo b6 b7 b8 rest
    split at h
    · cases h
    rename_i hc
    split at h
    · cases h
    split at h
    · cases h
    split at h
    · rename_i p us' hpts hus
      split at h
      · cases h
      · rename_i hfix
        simp only [Option.some.injEq, Prod.mk.injEq] at h
        obtain ⟨rfl, rfl, rfl⟩ := h
        simp only [List.getD_cons_succ, List.getD_cons_zero, List.length_cons, List.drop_succ_cons] at hc ⊢
        refine ⟨by omega, by omega, hus, fun hd u hu => ?_⟩
        have : us'.all (fun u => u.payload.length == 0x2C) = true :=
          Decidable.byContradiction fun hn => hfix ⟨hd, hn⟩
        rw [List.all_eq_true] at this
        simpa using this u hu
    · cases h
  · cases h

/-- reading a packet assembled from header fields, a 5-byte PTS field `T`, 31 stuffing bytes `S`,
    the data_identifier and a data unit region -/
theorem parseHdr_build (lenHi lenLo did v : Nat) (T S body : Bytes) (us : List DataUnit)
    (hT : T.length = 5) (hS : S = List.replicate 31 0xFF) (hv : parsePts T = some v)
    (hlen : lenHi * 256 + lenLo + 6 = 46 + body.length) (h184 : (46 + body.length) % 184 = 0)
    (hdid : validDataId did = true) (hbody : parseUnits body = some us)
    (hfix : ¬ (did ≤ 0x1F ∧ ¬ (us.all (fun u => u.payload.length == 0x2C)) = true)) :
    parseHdr (0x00 :: 0x00 :: 0x01 :: 0xBD :: lenHi :: lenLo :: 0x84 :: 0x80 :: 0x24 :: (T ++ (S ++ did :: body)))
      = some (v, did, us) := by
  have hSl : S.length = 31 := by rw [hS]; simp
  have htot : (0x00 :: 0x00 :: 0x01 :: 0xBD :: lenHi :: lenLo :: 0x84 :: 0x80 :: 0x24 :: (T ++ (S ++ did :: body))).length
      = 46 + body.length := by
    simp only [List.length_cons, List.length_append, hT, hSl]; omega
  have h1 : (T ++ (S ++ did :: body)).take 5 = T := by
    rw [List.take_append_of_le_length (by omega), List.take_of_length_le (by omega)]
  have h2 : ((T ++ (S ++ did :: body)).drop 5).take 31 = S := by
    rw [List.drop_append_of_le_length (by omega), List.drop_of_length_le (by omega), List.nil_append,
      List.take_append_of_le_length (by omega), List.take_of_length_le (by omega)]
  have h3 : (T ++ (S ++ did :: body)).drop 36 = did :: body := by
    rw [← List.append_assoc, List.drop_append_of_le_length (by simp [hT, hSl]),
      List.drop_of_length_le (by simp [hT, hSl]), List.nil_append]
  have h4 : (T ++ (S ++ did :: body)).drop 37 = body := by
    have : 37 = 36 + 1 := rfl
    rw [this, ← List.drop_drop, h3]; rfl
  have h5 : (T ++ (S ++ did :: body)).length = 37 + body.length := by
    simp only [List.length_cons, List.length_append, hT, hSl]; omega
  unfold parseHdr
  simp only [htot, h1, h2, h3, h4, h5, hv, hbody]
  rw [if_neg (by omega), if_neg (by decide), if_neg (by simp [hS]; omega)]
  simp only [List.getD_cons_zero]
  rw [if_neg hfix]

theorem unitsLines_stuffing (fixed : Bool) (st : List DataUnit) (h : ∀ u ∈ st, IsStuffing fixed u) :
    unitsLines st = some [] := by
  induction st with
  | nil => rfl
  | cons u st ih =>
    simp [unitsLines, (h u (List.mem_cons_self ..)).unitLine, ih (fun x hx => h x (List.mem_cons_of_mem _ hx))]

theorem unitsLines_append_stuffing (fixed : Bool) (a st : List DataUnit) (h : ∀ u ∈ st, IsStuffing fixed u) :
    unitsLines (a ++ st) = unitsLines a := by
  induction a with
  | nil =>
    rw [List.nil_append, unitsLines_stuffing fixed st h]; rfl
  | cons u a ih => simp only [List.cons_append, unitsLines, ih]

theorem unitsLines_padLast (us : List DataUnit) (h : ∀ u ∈ us, ∃ l, unitLine u = some (some l)) :
    unitsLines (padLast us) = unitsLines us := by
  induction us with
  | nil => rfl
  | cons u us ih =>
    cases us with
    | nil =>
      obtain ⟨l, hl⟩ := h u (List.mem_cons_self ..)
      simp only [padLast, unitsLines, hl, unitLine_pad u l hl]
    | cons v vs =>
      have := ih (fun x hx => h x (List.mem_cons_of_mem _ hx))
      simp only [padLast, unitsLines] at this ⊢
      rw [this]

theorem Stuffed.lines {fixed : Bool} {us us₁ st : List DataUnit} {pLeft : Nat} (S : Stuffed fixed us pLeft us₁ st)
    (h : ∀ u ∈ us, ∃ l, unitLine u = some (some l)) : unitsLines (us₁ ++ st) = unitsLines us := by
  rw [unitsLines_append_stuffing _ us₁ st S.stuffing]
  rcases S.pad with rfl | ⟨_, rfl, _⟩
  · rfl
  · exact unitsLines_padLast us h

theorem length_encUnits_fixed (us : List DataUnit) (h : ∀ u ∈ us, u.payload.length = 0x2C) :
    (encUnits us).length % 46 = 0 := by
  induction us with
  | nil => rfl
  | cons u us ih =>
    have := ih (fun x hx => h x (List.mem_cons_of_mem _ hx))
    have hu := h u (List.mem_cons_self ..)
    simp only [encUnits, List.length_cons, List.length_append, hu]
    omega

theorem all_len_append (a b : List DataUnit) :
    (a ++ b).all (fun u => u.payload.length == 0x2C) = (a.all (fun u => u.payload.length == 0x2C) && b.all (fun u => u.payload.length == 0x2C)) :=
  List.all_append

/-- no raw-line requests in the frame (`raw == NULL` use of the multiplexer) -/
def NoRaw (lines : List Sliced) : Prop := ∀ s ∈ lines, s.id ≠ SL_VBI625

theorem scanSeg_noraw (lines : List Sliced) (h : NoRaw lines) (ll : Nat) :
    (∃ off, scanSeg ll lines = .error off) ∨ (∃ ll', scanSeg ll lines = .ok (lines, ll', [])) := by
  cases hs : scanSeg ll lines with
  | error off => exact .inl ⟨off, rfl⟩
  | ok r =>
    obtain ⟨seg, ll', rest⟩ := r
    obtain ⟨h1, _, h3, _⟩ : _ ∧ _ := hs ▸ scanSeg_spec lines ll
    cases rest with
    | nil => rw [List.append_nil] at h1; subst h1; exact .inr ⟨ll', rfl⟩
    | cons r rest => exact absurd (h3 r rfl) (h r (by rw [h1]; simp))

theorem segStart_zero : segStart 0 = 0 := by unfold segStart; split <;> rfl

theorem segStart_le (l : Nat) : segStart l ≤ l := by unfold segStart; split <;> omega

/-- with no raw-line requests the loop of `generate_pes_packet` is one `insert_sliced_data_units` call -/
theorem genLoop_noraw (mask : Nat) (fixed : Bool) (fuel pLeft : Nat) (lines : List Sliced) (h : NoRaw lines)
    (out : Bytes) (lastDu : Nat)
    (hg : genLoop mask fixed (fuel + 1) pLeft 0 lines = .ok (out, lastDu, [])) :
    (insertSliced mask fixed pLeft 0 0 lines).err = none ∧ (insertSliced mask fixed pLeft 0 0 lines).rest = []
    ∧ out = (insertSliced mask fixed pLeft 0 0 lines).out ∧ lastDu = (insertSliced mask fixed pLeft 0 0 lines).lastDu := by
  rw [genLoop, segStart_zero] at hg
  rcases scanSeg_noraw lines h 0 with ⟨off, hs⟩ | ⟨ll', hs⟩
  · rw [hs] at hg; simp at hg
  · rw [hs] at hg
    simp only [] at hg
    cases he : (insertSliced mask fixed pLeft 0 0 lines).err with
    | some e => rw [he] at hg; simp at hg
    | none =>
      rw [he] at hg
      simp only [] at hg
      by_cases hr : (insertSliced mask fixed pLeft 0 0 lines).rest ≠ []
      · rw [if_pos hr] at hg
        simp only [List.append_nil, Except.ok.injEq, Prod.mk.injEq] at hg
        exact absurd hg.2.2 hr
      · rw [if_neg hr] at hg
        simp only [Except.ok.injEq, Prod.mk.injEq, and_true] at hg
        exact ⟨rfl, by simpa using hr, hg.1.symm, hg.2.symm⟩

structure CfgOK (cfg : Cfg) : Prop where
  min184 : 184 ≤ cfg.minSize
  minmax : cfg.minSize ≤ cfg.maxSize
  max : cfg.maxSize ≤ 65504
  minMod : cfg.minSize % 184 = 0
  maxMod : cfg.maxSize % 184 = 0
  did : validDataId cfg.dataId = true

theorem fixed_iff (d : Nat) (hd : validDataId d = true) : fixedLengthFormat d = true ↔ d ≤ 0x1F := by
  unfold fixedLengthFormat validDataId at *
  simp only [Bool.or_eq_true, Bool.and_eq_true, decide_eq_true_eq, beq_iff_eq] at *
  omega

/-- the header `generate_pes_packet` writes in front of a data unit region `us` that completes the packet reads back: PTS
    modulo 2^33, the configured data_identifier, the units -/
theorem pesHeader_parses (cfg : Cfg) (hc : CfgOK cfg) (pts : Nat) (us : List DataUnit)
    (h184 : (46 + (encUnits us).length) % 184 = 0) (hmax : 46 + (encUnits us).length ≤ cfg.maxSize)
    (hfix : fixedLengthFormat cfg.dataId = true → ∀ u ∈ us, u.payload.length = 0x2C) :
    parseHdr (pesHeader (46 + (encUnits us).length) pts cfg.dataId ++ encUnits us) = some (pts % 2 ^ 33, cfg.dataId, us) := by
  have hlt : cfg.dataId < 256 := by
    have := hc.did
    unfold validDataId at this
    simp only [Bool.or_eq_true, Bool.and_eq_true, decide_eq_true_eq] at this
    omega
  have hM := hc.max
  rw [pesHeader_shape, Nat.mod_eq_of_lt hlt]
  refine parseHdr_build _ _ cfg.dataId (pts % 2 ^ 33) (encodeTimestamp pts) (List.replicate 31 0xFF) _ us
    (length_encodeTimestamp pts) rfl (parsePts_encodeTimestamp pts) (by omega) h184 hc.did (parseUnits_encUnits _) ?_
  rintro ⟨hle, hnall⟩
  apply hnall
  rw [List.all_eq_true]
  intro u hu
  rw [beq_iff_eq]
  exact hfix ((fixed_iff _ hc.did).2 hle) u hu

/-- ... and so does the packet `generate_pes_packet` completes with `encode_stuffing` -/
theorem packet_parses (cfg : Cfg) (hc : CfgOK cfg) (pts : Nat) {us us₁ st : List DataUnit} {pLeft : Nat}
    (S : Stuffed (fixedLengthFormat cfg.dataId) us pLeft us₁ st) (hok : ∀ u ∈ us, UnitOK (fixedLengthFormat cfg.dataId) u)
    (h184 : (46 + (encUnits us).length + pLeft) % 184 = 0) (hmax : 46 + (encUnits us).length + pLeft ≤ cfg.maxSize) :
    parseHdr (pesHeader (46 + (encUnits us).length + pLeft) pts cfg.dataId ++ encUnits (us₁ ++ st))
      = some (pts % 2 ^ 33, cfg.dataId, us₁ ++ st) := by
  rw [Nat.add_assoc, ← S.len] at h184 hmax ⊢
  exact pesHeader_parses cfg hc pts _ h184 hmax fun hf => S.fixedLen hf fun u hu => (hok u hu).2 hf

/-- bytes `generate_pes_packet` adds behind `n` bytes of data units: up to `min_packet_size`, else to a multiple of 184 -/
def pesFill (cfg : Cfg) (n : Nat) : Nat :=
  if 46 + n < cfg.minSize then cfg.minSize - (46 + n) else if (46 + n) % 184 > 0 then 184 - (46 + n) % 184 else 0

/-- the last two conjuncts serve `stuffing_done`: behind an empty region never one byte is to fill; where one byte is to fill, one
    more TS payload still fits `max_packet_size` -/
theorem pesFill_spec (cfg : Cfg) (hc : CfgOK cfg) (n : Nat) (hn : n ≤ cfg.maxSize - 46) :
    (46 + n + pesFill cfg n) % 184 = 0 ∧ cfg.minSize ≤ 46 + n + pesFill cfg n ∧ 46 + n + pesFill cfg n ≤ cfg.maxSize
    ∧ (n % 46 = 0 → pesFill cfg n % 46 = 0) ∧ (n = 0 → pesFill cfg n ≠ 1)
    ∧ (pesFill cfg n = 1 → (cfg.maxSize - 46 - n) % 184 = 1) := by
  have hmin := hc.min184; have hmm := hc.minmax; have hminMod := hc.minMod; have hmaxMod := hc.maxMod
  unfold pesFill
  split
  · omega
  · split <;> omega

/-- the stuffing step of `generate_pes_packet` behind a region `us` that begins at byte 46: `pLeft` is the fill, one TS payload
    more when the repaired tree finds one byte to fill behind a unit of 257 bytes.  `encode_stuffing` is called within its
    preconditions and completes the packet.  In the unchanged shape (`keep = false`: `last_du_size` may have been forgotten
    or be that of a raw unit, finding F29) this needs, when one byte is to fill, that `last_du_size` is at most that of a
    sliced unit and that `encode_stuffing` returns at all -/
theorem stuffing_done (keep : Bool) (cfg : Cfg) (hc : CfgOK cfg) {out : Bytes} {du p' : Nat} {us : List DataUnit}
    (R : Region keep (fixedLengthFormat cfg.dataId) (cfg.maxSize - 46) 0 out du p' us) (pLeft : Nat)
    (hpl : (if keep = true ∧ pesFill cfg out.length = 1 ∧ du ≥ 257 then pesFill cfg out.length + 184 else pesFill cfg out.length)
      = pLeft)
    (hone : keep = false → pLeft = 1 →
      du ≤ 46 ∧ ∃ body, encodeStuffing out pLeft du (fixedLengthFormat cfg.dataId) = .ok body) :
    ∃ us₁ st, encodeStuffing out pLeft du (fixedLengthFormat cfg.dataId) = .ok (encUnits (us₁ ++ st))
      ∧ Stuffed (fixedLengthFormat cfg.dataId) us pLeft us₁ st
      ∧ (46 + out.length + pLeft) % 184 = 0 ∧ cfg.minSize ≤ 46 + out.length + pLeft
      ∧ 46 + out.length + pLeft ≤ cfg.maxSize := by
  have h1 := R.enc
  have hroom : out.length ≤ cfg.maxSize - 46 := by rw [h1]; exact R.room
  obtain ⟨hF184, hFlo, hFhi, hf46, hf0, hf1⟩ := pesFill_spec cfg hc out.length hroom
  generalize pesFill cfg out.length = pLeft0 at *
  have hp0fix : fixedLengthFormat cfg.dataId = true → pLeft0 % 46 = 0 := fun hf =>
    hf46 (by rw [h1]; exact length_encUnits_fixed us fun u hu => (R.ok u hu).2 hf)
  have hbump : (pLeft = pLeft0 ∧ ¬ (keep = true ∧ pLeft0 = 1 ∧ du ≥ 257))
      ∨ (pLeft = pLeft0 + 184 ∧ keep = true ∧ pLeft0 = 1 ∧ du ≥ 257) := by
    rw [← hpl]
    by_cases hb : keep = true ∧ pLeft0 = 1 ∧ du ≥ 257
    · rw [if_pos hb]; exact .inr ⟨rfl, hb⟩
    · rw [if_neg hb]; exact .inl ⟨rfl, hb⟩
  have hfixmod : fixedLengthFormat cfg.dataId = true → pLeft % 46 = 0 := by
    intro hf
    have := hp0fix hf
    rcases hbump with ⟨hb, _⟩ | ⟨hb, _, hb1, _⟩ <;> omega
  have hnf : pLeft = 1 → fixedLengthFormat cfg.dataId = false := fun hp1 => by
    cases hf : fixedLengthFormat cfg.dataId
    · rfl
    · have := hfixmod hf; omega
  have hunil : us = [] → pLeft0 ≠ 1 := by
    rintro rfl; exact hf0 (by rw [h1]; rfl)
  have hsizes : (46 + out.length + pLeft) % 184 = 0 ∧ cfg.minSize ≤ 46 + out.length + pLeft
      ∧ 46 + out.length + pLeft ≤ cfg.maxSize := by
    rcases hbump with ⟨hb, _⟩ | ⟨hb, hk, hp01, h257⟩
    · rw [hb]; exact ⟨hF184, hFlo, hFhi⟩
    · -- one more TS payload: there is room because a full raw unit never ends one byte before the end
      have hne : us ≠ [] := fun hnil => hunil hnil hp01
      have hcrit := R.crit hne (by have := (hk ▸ R).lastDu; omega)
      rw [← h1] at hcrit
      have := hf1 hp01
      have hmax := hc.maxMod
      omega
  rcases R.lastDu_or_forgotten with hls | ⟨rfl, rfl⟩
  · obtain ⟨us₁, st, hes, S⟩ := encodeStuffing_spec us pLeft _ hfixmod fun _ hp1 => by
      have hp01 : pLeft0 = 1 ∧ ¬ (keep = true ∧ pLeft0 = 1 ∧ du ≥ 257) := by
        rcases hbump with ⟨hb, hn⟩ | ⟨hb, _⟩
        · exact ⟨by omega, hn⟩
        · omega
      refine ⟨fun hnil => hunil hnil hp01.1, ?_⟩
      cases keep
      · have := (hone rfl hp1).1; omega
      · have : ¬ du ≥ 257 := fun hx => hp01.2 ⟨rfl, hp01.1, hx⟩
        omega
    rw [← h1, ← hls] at hes
    exact ⟨us₁, st, hes, S, hsizes⟩
  · -- the unchanged tree has forgotten the size (the last insert call stored nothing): `encode_stuffing` gets 0
    have hp1 : pLeft ≠ 1 := by
      intro hp1
      obtain ⟨_, body, hb⟩ := hone rfl hp1
      rw [hp1, hnf hp1, encodeStuffing_one_zero] at hb
      cases hb
    obtain ⟨us₁, st, hes, S⟩ := encodeStuffing_spec us pLeft _ hfixmod (fun _ h => absurd h hp1)
    rw [← h1, ← encodeStuffing_lastDu out pLeft 0 (lastSize us) _ hp1] at hes
    exact ⟨us₁, st, hes, S, hsizes⟩

/-- an accepted frame without raw line requests: `insert_sliced_data_units` converted every line, and the packet is the
    header followed by its output with the stuffing `encode_stuffing` added -/
theorem generatePes_done (cfg : Cfg) (lines : List Sliced) (mask pts : Nat) (hnr : NoRaw lines) (pes : Bytes)
    (hg : generatePes cfg lines mask pts = .ok (pes, [])) :
    let r := insertSliced mask (fixedLengthFormat cfg.dataId) (cfg.maxSize - 46) 0 0 lines
    r.rest = [] ∧ ∃ body, encodeStuffing r.out (pesFill cfg r.out.length) r.lastDu (fixedLengthFormat cfg.dataId) = .ok body
      ∧ pesHeader (46 + r.out.length + pesFill cfg r.out.length) pts cfg.dataId ++ body = pes := by
  intro r
  unfold generatePes at hg
  simp only [] at hg
  cases hgl : genLoop mask (fixedLengthFormat cfg.dataId) (lines.length + 1) (cfg.maxSize - 46) 0 lines with
  | error e => rw [hgl] at hg; simp at hg
  | ok r =>
    obtain ⟨out, lastDu, left⟩ := r
    rw [hgl] at hg
    obtain ⟨_, hr, hout, hdu⟩ := genLoop_noraw mask _ _ _ lines hnr out lastDu (by
      cases left with
      | nil => exact hgl
      | cons x xs => simp only [] at hg; split at hg <;> cases hg)
    refine ⟨hr, ?_⟩
    rw [← hout, ← hdu]
    simp only [] at hg
    split at hg
    · cases hg
    · rename_i body hst
      cases hg
      exact ⟨body, hst, rfl⟩

theorem generatePes_stored (cfg : Cfg) (lines : List Sliced) (mask pts : Nat) (hwf : ∀ s ∈ lines, Sliced.WF s)
    (hnr : NoRaw lines) (pes : Bytes) (hg : generatePes cfg lines mask pts = .ok (pes, [])) :
    ∃ us ll', Stored mask (fixedLengthFormat cfg.dataId) 0 lines us ll' :=
  have ⟨us, ll', hS, _⟩ := insertSliced_done mask (fixedLengthFormat cfg.dataId) lines hwf _ 0 0
    (generatePes_done cfg lines mask pts hnr pes hg).1
  ⟨us, ll', hS⟩

/-- an accepted frame without raw line requests: the units `us` of the selected lines, stuffed up to the packet size -/
theorem generatePes_units (cfg : Cfg) (hc : CfgOK cfg) (lines : List Sliced) (mask pts : Nat)
    (hwf : ∀ s ∈ lines, Sliced.WF s) (hnr : NoRaw lines) (pes : Bytes)
    (hg : generatePes cfg lines mask pts = .ok (pes, [])) :
    ∃ us ll' us₁ st pLeft, Stored mask (fixedLengthFormat cfg.dataId) 0 lines us ll'
      ∧ pesHeader (46 + (encUnits us).length + pLeft) pts cfg.dataId ++ encUnits (us₁ ++ st) = pes
      ∧ Stuffed (fixedLengthFormat cfg.dataId) us pLeft us₁ st
      ∧ (46 + (encUnits us).length + pLeft) % 184 = 0 ∧ cfg.minSize ≤ 46 + (encUnits us).length + pLeft
      ∧ 46 + (encUnits us).length + pLeft ≤ cfg.maxSize := by
  obtain ⟨hr, body, hst, hpes⟩ := generatePes_done cfg lines mask pts hnr pes hg
  obtain ⟨us, ll', hS, R⟩ := insertSliced_done mask (fixedLengthFormat cfg.dataId) lines hwf _ 0 0 hr
  have hdu : ¬ (insertSliced mask (fixedLengthFormat cfg.dataId) (cfg.maxSize - 46) 0 0 lines).lastDu ≥ 257 := by
    rw [R.lastDu]
    have := lastSize_le us 46 fun u hu => (hS.units.2.1 u hu).le46
    omega
  obtain ⟨us₁, st, hes, S, hsz⟩ := stuffing_done true cfg hc R _ (if_neg fun h => hdu h.2.2) nofun
  rw [hes] at hst
  injection hst with hbody
  rw [R.enc] at hpes hsz S
  exact ⟨us, ll', us₁, st, _, hS, by rw [hbody]; exact hpes, S, hsz⟩

/-- main lemma: an accepted frame becomes one well-formed PES packet carrying exactly the selected lines -/
theorem generatePes_ok (cfg : Cfg) (hc : CfgOK cfg) (lines : List Sliced) (mask pts : Nat)
    (hwf : ∀ s ∈ lines, Sliced.WF s) (hnr : NoRaw lines) (pes : Bytes)
    (hg : generatePes cfg lines mask pts = .ok (pes, [])) :
    parsePes pes = some ⟨pts % 2 ^ 33, cfg.dataId, pes.length, sent mask lines⟩
    ∧ pes.length % 184 = 0 ∧ cfg.minSize ≤ pes.length ∧ pes.length ≤ cfg.maxSize
    ∧ (∀ s ∈ lines, s.id &&& mask ≠ 0 → Permitted s) := by
  obtain ⟨us, ll', us₁, st, pLeft, hS, hpes, S, h184, hlo, hhi⟩ := generatePes_units cfg hc lines mask pts hwf hnr pes hg
  obtain ⟨h2, h3, h6⟩ := hS.units
  have hsz : pes.length = 46 + (encUnits us).length + pLeft := by
    rw [← hpes, List.length_append, S.len, length_pesHeader]
    omega
  refine ⟨?_, by rw [hsz]; exact h184, by rw [hsz]; exact hlo, by rw [hsz]; exact hhi, h6⟩
  rw [parsePes_eq, ← hpes, packet_parses cfg hc pts S (fun u hu => (h3 u hu).ok) h184 hhi]
  simp only [Option.bind_some, S.lines fun u hu => (h3 u hu).line, h2, Option.map_some, List.length_append, length_pesHeader]

end Zvbi.Mux
