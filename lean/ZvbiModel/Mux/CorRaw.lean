import ZvbiModel.Mux.CorFeed
import ZvbiModel.Mux.RawFeed
import ZvbiModel.Mux.CorRawModel
/-!
# `vbi_dvb_mux_cor` with raw / sp produces the bytes of `vbi_dvb_mux_feed` with raw / sp

The output part of the coroutine does not look at the frame, so the invariant `Pending` / `TsInv` and `corBody_spec` of
`Mux/CorFeed.lean` apply as they are; what differs is the entry of `corR` (sampling parameter test on every call,
`generatePesR`, raw state).  With `raw`, `sp` NULL, `corR` is `cor` of the model without raw data (`Mux/NullCor.lean`).
-/
namespace Zvbi.Mux
open Zvbi.Mux.EnParse

theorem corBodyM_eq (m : Mux) (bufLeft n : Nat) : corBodyM m bufLeft n = corBody m bufLeft n := rfl

theorem spTest_false (sp : Option Sp) (h : SpValid sp) : ¬ spInvalid sp = true := by
  cases sp with
  | none => simp [spInvalid]
  | some sp' => simp [spInvalid, h sp' rfl]

theorem corR_pending (keep : Bool) (m : RMux) (bufLeft : Nat) (lines : List Sliced) (mask : Nat) (raw : Option Bytes)
    (sp : Option Sp) (pts : Nat) (hb : bufLeft ≠ 0) (hsp : SpValid sp) (hp : ¬ Idle m.mux) :
    corR keep m bufLeft lines mask raw sp pts
      = ({ m with mux := (corBody m.mux bufLeft lines.length).1 }, { res := (corBody m.mux bufLeft lines.length).2 }) := by
  unfold Idle at hp
  unfold corR
  simp only [if_neg hb, if_neg (spTest_false sp hsp), if_neg hp, corBodyM_eq]

theorem corR_idle_accept (keep : Bool) (m : RMux) (bufLeft : Nat) (lines : List Sliced) (mask : Nat) (raw : Option Bytes)
    (sp : Option Sp) (pts : Nat) (pes : Bytes) (st' : RawSt) (hb : bufLeft ≠ 0) (hsp : SpValid sp) (hi : Idle m.mux)
    (hl : lines ≠ []) (hg : generatePesR keep m.mux.cfg m.raw lines mask raw sp pts = .ok (pes, [], st')) :
    corR keep m bufLeft lines mask raw sp pts
      = ({ mux := (corBody (corStart m.mux pes) bufLeft lines.length).1, raw := st' },
         { res := (corBody (corStart m.mux pes) bufLeft lines.length).2 }) := by
  unfold Idle at hi
  have hn : lines.length ≠ 0 := fun h => hl (List.eq_nil_of_length_eq_zero h)
  unfold corR
  simp only [if_neg hb, if_neg (spTest_false sp hsp), if_pos hi, if_neg hn, hg, corBodyM_eq]
  rfl

theorem corR_reject_state (keep : Bool) (m : RMux) (lines : List Sliced) (mask : Nat) (raw : Option Bytes) (sp : Option Sp)
    (pts : Nat) (size : Nat) (hb : size ≠ 0) (hsp : SpValid sp) (hi : Idle m.mux) (hl : lines ≠ [])
    (hrej : (feedR keep m lines mask raw sp pts).2.ok = false) :
    (corR keep m size lines mask raw sp pts).2.res.ok = false ∧ (corR keep m size lines mask raw sp pts).2.res.out = []
    ∧ (corR keep m size lines mask raw sp pts).1.raw = (feedR keep m lines mask raw sp pts).1.raw
    ∧ (corR keep m size lines mask raw sp pts).1.raw.left = 0
    ∧ Idle (corR keep m size lines mask raw sp pts).1.mux
    ∧ (corR keep m size lines mask raw sp pts).1.mux.cfg = m.mux.cfg
    ∧ (corR keep m size lines mask raw sp pts).1.mux.cc = m.mux.cc
    ∧ (feedR keep m lines mask raw sp pts).1.mux.cfg = m.mux.cfg
    ∧ (feedR keep m lines mask raw sp pts).1.mux.cc = m.mux.cc
    ∧ (feedR keep m lines mask raw sp pts).2.bytes = [] := by
  have hn : lines.length ≠ 0 := fun h => hl (List.eq_nil_of_length_eq_zero h)
  have hi' : m.mux.corOffset ≥ m.mux.corEnd := hi
  have hs := feedR_spec keep m lines mask raw sp pts
  generalize feedR keep m lines mask raw sp pts = r at hs hrej ⊢
  unfold corR
  simp only [if_neg hb, if_neg (spTest_false sp hsp), if_pos hi', if_neg hn]
  cases hs with
  | badSp sp' h1 h2 => rw [hsp sp' h1] at h2; cases h2
  | error e off _ hg =>
    rw [hg]
    exact ⟨rfl, rfl, rfl, rfl, Nat.zero_le _, rfl, rfl, dropPending_cfg _, dropPending_cc _, rfl⟩
  | part pes left st' _ hg hleft =>
    rw [hg]
    dsimp only
    rw [if_pos hleft]
    exact ⟨rfl, rfl, rfl, rfl, Nat.zero_le _, rfl, rfl, dropPending_cfg _, dropPending_cc _, rfl⟩
  | pes | ts => cases hrej

/-- the state in which the application calls `vbi_dvb_mux_cor` with the frame `lines`, `raw`, `sp`: output is
    pending and the raw state is already the final one, or nothing is pending and `generate_pes_packet` will
    convert the frame completely, leaving the raw state `stEnd` (no raw line is half sent then) -/
inductive ReadyR (keep : Bool) (lines : List Sliced) (mask : Nat) (raw : Option Bytes) (sp : Option Sp) (pts ccEnd : Nat)
    (stEnd : RawSt) (R : Bytes) : RMux → Prop
  | pending {m : RMux} : ¬ Idle m.mux → Pending ccEnd R m.mux → m.raw = stEnd → ReadyR keep lines mask raw sp pts ccEnd stEnd R m
  | idle {m : RMux} (pes : Bytes) : Idle m.mux → m.raw.left = 0 → lines ≠ [] →
      generatePesR keep m.mux.cfg m.raw lines mask raw sp pts = .ok (pes, [], stEnd) → Pending ccEnd R (corStart m.mux pes) →
      ReadyR keep lines mask raw sp pts ccEnd stEnd R m

theorem corR_ready (keep : Bool) (lines : List Sliced) (mask : Nat) (raw : Option Bytes) (sp : Option Sp) (hsp : SpValid sp)
    (pts ccEnd : Nat) (stEnd : RawSt) (R : Bytes) (m : RMux) (size : Nat)
    (h : ReadyR keep lines mask raw sp pts ccEnd stEnd R m) (hne : R ≠ []) (hs : 0 < size) :
    ∃ m', corR keep m size lines mask raw sp pts
        = (m', { res := { ok := true, out := R.take size,
                          slicedLeft := if R.length ≤ size then 0 else lines.length,
                          slicedIdx := if R.length ≤ size then lines.length else 0 } })
      ∧ Pending ccEnd (R.drop size) m'.mux ∧ m'.mux.cfg = m.mux.cfg ∧ m'.raw = stEnd := by
  rcases h with ⟨hni, hp, hst⟩ | ⟨pes, hi, _, hl, hg, hp⟩
  · rw [corR_pending keep m size lines mask raw sp pts (by omega) hsp hni]
    obtain ⟨m', h1, h2, h3⟩ := corBody_spec ccEnd R m.mux size lines.length hp hne hs
    exact ⟨{ m with mux := m' }, by rw [h1], h2, h3, hst⟩
  · rw [corR_idle_accept keep m size lines mask raw sp pts pes stEnd (by omega) hsp hi hl hg]
    obtain ⟨m', h1, h2, h3⟩ := corBody_spec ccEnd R (corStart m.mux pes) size lines.length hp hne hs
    exact ⟨{ mux := m', raw := stEnd }, by rw [h1], h2, h3, rfl⟩

theorem ReadyR.ofPending {keep : Bool} {lines : List Sliced} {mask : Nat} {raw : Option Bytes} {sp : Option Sp}
    {pts ccEnd : Nat} {stEnd : RawSt} {R : Bytes} {m : RMux}
    (h : Pending ccEnd R m.mux) (hst : m.raw = stEnd) (hne : R ≠ []) : ReadyR keep lines mask raw sp pts ccEnd stEnd R m :=
  .pending (fun hi => hne (h.idle_iff.1 hi)) h hst

theorem feedR_bytes (keep : Bool) (m : RMux) (hc : CfgOK m.mux.cfg) (hraw : m.raw.left = 0) (lines : List Sliced)
    (hwf : ∀ s ∈ lines, Sliced.WF s) (mask : Nat) (raw : Option Bytes) (sp : Option Sp) (pts : Nat)
    (hok : (feedR keep m lines mask raw sp pts).2.ok = true) :
    SpValid sp ∧ ∃ pes st', generatePesR keep m.mux.cfg m.raw lines mask raw sp pts = .ok (pes, [], st')
      ∧ (feedR keep m lines mask raw sp pts).1.raw = st' ∧ st'.left = 0
      ∧ 0 < pes.length ∧ pes.length % 184 = 0 ∧ pes.length ≤ m.mux.cfg.maxSize
      ∧ (feedR keep m lines mask raw sp pts).2.bytes
          = (if m.mux.cfg.pid = 0 then pes else (tsLoop m.mux.cfg.pid (pes.length / 184) true m.mux.cc pes).flatten)
      ∧ (feedR keep m lines mask raw sp pts).1.mux.cc
          = if m.mux.cfg.pid = 0 then m.mux.cc else (m.mux.cc + pes.length / 184) % 2 ^ 32 := by
  obtain ⟨hsp, pes, st', hg, _, hst, hpes, hts⟩ := feedR_accepted keep m lines mask raw sp pts hok
  obtain ⟨_, h184, hmin, hmax, _, hleft⟩ := generatePesR_ok keep m.mux.cfg hc m.raw hraw lines mask raw sp hsp pts hwf pes st' hg
  have hpos : 0 < pes.length := by have := hc.min184; omega
  refine ⟨hsp, pes, st', hg, hst, hleft, hpos, h184, hmax, ?_⟩
  by_cases hp : m.mux.cfg.pid = 0
  · simp [FeedROut.bytes, hpes hp, hp]
  · simp only [FeedROut.bytes, hts hp, filterMap_id_map_some, if_neg hp]
    rw [tsPackets_eq _ _ _ h184 hpos, tsLoop_length]
    exact ⟨rfl, rfl⟩

/-- the bytes `vbi_dvb_mux_feed` hands to the callback for an accepted frame with raw lines are what a
    `vbi_dvb_mux_cor` call sequence starting in the idle state has to produce -/
theorem readyR_of_feedR_ok (keep : Bool) (m : RMux) (hi : Idle m.mux) (hc : CfgOK m.mux.cfg) (hraw : m.raw.left = 0)
    (lines : List Sliced) (hl : lines ≠ []) (hwf : ∀ s ∈ lines, Sliced.WF s) (mask : Nat) (raw : Option Bytes)
    (sp : Option Sp) (pts : Nat) (hok : (feedR keep m lines mask raw sp pts).2.ok = true) :
    SpValid sp
    ∧ ReadyR keep lines mask raw sp pts (feedR keep m lines mask raw sp pts).1.mux.cc (feedR keep m lines mask raw sp pts).1.raw
        (feedR keep m lines mask raw sp pts).2.bytes m
    ∧ (feedR keep m lines mask raw sp pts).2.bytes ≠ []
    ∧ (feedR keep m lines mask raw sp pts).1.mux.cfg = m.mux.cfg := by
  obtain ⟨hsp, pes, st', hg, hst, _, hpos, h184, _, hB, hcc⟩ := feedR_bytes keep m hc hraw lines hwf mask raw sp pts hok
  refine ⟨hsp, ?_, ?_, feedR_cfg ..⟩ <;> rw [hB]
  · rw [hst, hcc]
    by_cases hp : m.mux.cfg.pid = 0
    · rw [if_pos hp, if_pos hp]
      refine .idle pes hi hraw hl hg ⟨fun _ => ⟨?_, ?_, rfl⟩, fun hq => absurd hp hq⟩
      · simp [corStart]
      · simp only [corStart, List.length_append, List.length_cons, List.length_nil]; omega
    · rw [if_neg hp, if_neg hp]
      exact .idle pes hi hraw hl hg ⟨fun hq => absurd hq hp, fun _ => TsInv.init _ _ pes _ (by omega) (by omega)⟩
  · by_cases hp : m.mux.cfg.pid = 0
    · rw [if_pos hp]; intro hn; rw [hn] at hpos; simp at hpos
    · rw [if_neg hp]; intro hn
      have := (TsInv.init m.mux.cfg.pid m.mux.cc pes (pes.length / 184) (by omega) (by omega)).nil_iff.1 hn
      omega

/-- the application loop over an explicit list of output buffer sizes (one per `vbi_dvb_mux_cor` call, each call
    with the same frame, `raw`, `sp`): until `*sliced_left == 0`, a failure, or the sizes run out.
    Result: state, last return value, "sizes ran out before the frame was finished", all output, abort. -/
def corSeqR (keep : Bool) (lines : List Sliced) (mask : Nat) (raw : Option Bytes) (sp : Option Sp) (pts : Nat) :
    List Nat → RMux → Bytes → RMux × Bool × Bool × Bytes × Option RErr
  | [], m, acc => (m, true, true, acc, none)
  | s :: ss, m, acc =>
    let r := corR keep m s lines mask raw sp pts
    if r.2.res.ok ∧ r.2.res.slicedLeft > 0 then corSeqR keep lines mask raw sp pts ss r.1 (acc ++ r.2.res.out)
    else (r.1, r.2.res.ok, false, acc ++ r.2.res.out, r.2.abort)

theorem corSeqR_ready (keep : Bool) (lines : List Sliced) (hl : lines ≠ []) (mask : Nat) (raw : Option Bytes)
    (sp : Option Sp) (hsp : SpValid sp) (pts ccEnd : Nat) (stEnd : RawSt) :
    ∀ (sizes : List Nat) (m : RMux) (acc R : Bytes), ReadyR keep lines mask raw sp pts ccEnd stEnd R m → R ≠ [] →
      (∀ s ∈ sizes, 0 < s) →
      ∃ m', m'.mux.cfg = m.mux.cfg
        ∧ (sizes.sum < R.length →
            corSeqR keep lines mask raw sp pts sizes m acc = (m', true, true, acc ++ R.take sizes.sum, none)
            ∧ ReadyR keep lines mask raw sp pts ccEnd stEnd (R.drop sizes.sum) m')
        ∧ (R.length ≤ sizes.sum →
            corSeqR keep lines mask raw sp pts sizes m acc = (m', true, false, acc ++ R, none)
            ∧ Idle m'.mux ∧ m'.mux.cc = ccEnd ∧ m'.raw = stEnd) := by
  intro sizes
  induction sizes with
  | nil =>
    intro m acc R hr hne _
    have hpos : 0 < R.length := List.length_pos_iff.2 hne
    refine ⟨m, rfl, fun _ => ⟨by simp [corSeqR], by simpa using hr⟩, fun h => ?_⟩
    simp only [List.sum_nil] at h; omega
  | cons s ss ih =>
    intro m acc R hr hne hall
    have hs : 0 < s := hall s (List.mem_cons_self ..)
    have hss : ∀ x ∈ ss, 0 < x := fun x hx => hall x (List.mem_cons_of_mem _ hx)
    have hn : 0 < lines.length := List.length_pos_iff.2 hl
    obtain ⟨m1, hcor, hp1, hcfg1, hst1⟩ := corR_ready keep lines mask raw sp hsp pts ccEnd stEnd R m s hr hne hs
    by_cases hfin : R.length ≤ s
    · have hd : R.drop s = [] := List.drop_eq_nil_iff.2 hfin
      rw [hd] at hp1
      refine ⟨m1, hcfg1, fun h => ?_, fun _ => ⟨?_, hp1.idle_iff.2 rfl, hp1.cc_end, hst1⟩⟩
      · simp only [List.sum_cons] at h; omega
      · rw [corSeqR, hcor]
        simp only [if_pos hfin, Nat.lt_irrefl, gt_iff_lt, and_false, if_false, List.take_of_length_le hfin]
    · have hd : R.drop s ≠ [] := fun h => hfin (List.drop_eq_nil_iff.1 h)
      obtain ⟨m2, hcfg2, hA, hB⟩ := ih m1 (acc ++ R.take s) (R.drop s) (ReadyR.ofPending hp1 hst1 hd) hd hss
      have hstep : corSeqR keep lines mask raw sp pts (s :: ss) m acc
          = corSeqR keep lines mask raw sp pts ss m1 (acc ++ R.take s) := by
        rw [corSeqR, hcor]
        simp only [if_neg hfin, gt_iff_lt, hn, and_self, if_true]
      refine ⟨m2, by rw [hcfg2, hcfg1], fun h => ?_, fun h => ?_⟩
      · simp only [List.sum_cons] at h
        obtain ⟨h1, h2⟩ := hA (by rw [List.length_drop]; omega)
        rw [hstep, h1, List.append_assoc, ← List.take_add]
        rw [List.drop_drop] at h2
        exact ⟨by simp only [List.sum_cons], by simpa only [List.sum_cons] using h2⟩
      · simp only [List.sum_cons] at h
        obtain ⟨h1, h2⟩ := hB (by rw [List.length_drop]; omega)
        rw [hstep, h1, List.append_assoc, List.take_append_drop]
        exact ⟨rfl, h2⟩

/-- the correspondence driver's loop `corAllR` from a state in which the rest `R` of the output is due -/
theorem corAllR_ready (keep : Bool) (sizes : List Nat) (hsz : sizes ≠ []) (hpos : ∀ s ∈ sizes, 0 < s)
    (lines : List Sliced) (hl : lines ≠ []) (mask : Nat) (raw : Option Bytes) (sp : Option Sp) (hsp : SpValid sp)
    (pts ccEnd : Nat) (stEnd : RawSt) :
    ∀ (fuel : Nat) (m : RMux) (calls : Nat) (acc R : Bytes), ReadyR keep lines mask raw sp pts ccEnd stEnd R m → R ≠ [] →
      R.length ≤ fuel →
      ∃ m' calls', corAllR keep sizes lines mask raw sp pts fuel m calls acc
          = (m', true, calls', 0, lines.length, acc ++ R, none)
        ∧ calls < calls' ∧ calls' ≤ calls + R.length ∧ Idle m'.mux ∧ m'.mux.cfg = m.mux.cfg ∧ m'.mux.cc = ccEnd
        ∧ m'.raw = stEnd := by
  have hlen : 0 < sizes.length := List.length_pos_iff.2 hsz
  have hn : 0 < lines.length := List.length_pos_iff.2 hl
  intro fuel
  induction fuel with
  | zero =>
    intro m calls acc R _ hne hf
    have : 0 < R.length := List.length_pos_iff.2 hne
    omega
  | succ fuel ih =>
    intro m calls acc R hr hne hf
    have hpR : 0 < R.length := List.length_pos_iff.2 hne
    have hs : 0 < sizes.getD (calls % sizes.length) 0 := getD_pos sizes hpos _ (Nat.mod_lt _ hlen)
    obtain ⟨m1, hcor, hp1, hcfg1, hst1⟩ := corR_ready keep lines mask raw sp hsp pts ccEnd stEnd R m _ hr hne hs
    rw [corAllR, hcor]
    simp only []
    by_cases hfin : R.length ≤ sizes.getD (calls % sizes.length) 0
    · have hd : R.drop (sizes.getD (calls % sizes.length) 0) = [] := List.drop_eq_nil_iff.2 hfin
      rw [hd] at hp1
      refine ⟨m1, calls + 1, ?_, by omega, by omega, hp1.idle_iff.2 rfl, hcfg1, hp1.cc_end, hst1⟩
      simp only [if_pos hfin, Nat.lt_irrefl, gt_iff_lt, and_false, if_false, List.take_of_length_le hfin]
    · have hd : R.drop (sizes.getD (calls % sizes.length) 0) ≠ [] := fun h => hfin (List.drop_eq_nil_iff.1 h)
      obtain ⟨m2, c2, heq, hc1, hc2, hidle, hcfg2, hcc2, hst2⟩ :=
        ih m1 (calls + 1) (acc ++ R.take (sizes.getD (calls % sizes.length) 0)) _ (ReadyR.ofPending hp1 hst1 hd) hd
          (by rw [List.length_drop]; omega)
      refine ⟨m2, c2, ?_, by omega, ?_, hidle, by rw [hcfg2, hcfg1], hcc2, hst2⟩
      · simp only [if_neg hfin, gt_iff_lt, hn, and_self, if_true]
        rw [heq, List.append_assoc, List.take_append_drop]
      · rw [List.length_drop] at hc2; omega

theorem corR_badSp (keep : Bool) (m : RMux) (lines : List Sliced) (mask : Nat) (raw : Option Bytes) (sp' : Sp)
    (pts : Nat) (h : validSp sp' = false) (size : Nat) :
    corR keep m size lines mask raw (some sp') pts
      = (m, { res := { ok := false, out := [], slicedLeft := lines.length, slicedIdx := 0 } }) := by
  unfold corR
  by_cases hb : size = 0
  · simp [hb]
  · simp [hb, spInvalid, h]

end Zvbi.Mux
