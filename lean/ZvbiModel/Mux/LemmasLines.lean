import ZvbiModel.Mux.LemmasUnits
import ZvbiModel.Hamm.Lemmas
import ZvbiModel.Ite
/-!
# Lemmas: one sliced line -> one data unit -> the same line back (EnParse.unitLine)
-/
namespace Zvbi.Mux
open Zvbi.Mux.EnParse Zvbi.Hamm

theorem allFF_append_replicate (n : Nat) : allFF ([] ++ List.replicate n 0xFF) = true := by
  simp [allFF]

theorem wss_bits : ∀ c < 256, (rev8 c ||| 3) % 4 = 3 ∧ rev8 (rev8 c ||| 3) % 64 = c % 64 := by decide +kernel

theorem rev8_lt_any (c : Nat) : rev8 c < 256 := by
  have : rev8 c = rev8 (c % 256) := by unfold rev8; rw [Nat.mod_mod]
  rw [this]; exact rev8_lt (c % 256) (Nat.mod_lt _ (by decide))

theorem or3_lt : ∀ c < 256, c ||| 3 < 256 := by decide +kernel

theorem lofpLine_first (line : Nat) (h0 : 0 < line) (h : line < 32) : lofpLine (0xE0 + line) = some line := by
  unfold lofpLine
  have h1 : (0xE0 + line) / 64 = 3 := by omega
  have h2 : (0xE0 + line) % 32 = line := by omega
  have h3 : (0xE0 + line) / 32 % 2 = 1 := by omega
  simp [h1, h2, h3]; omega

theorem lofpLine_second (off : Nat) (h0 : 0 < off) (h : off < 32) : lofpLine (0xC0 + off) = some (313 + off) := by
  unfold lofpLine
  have h1 : (0xC0 + off) / 64 = 3 := by omega
  have h2 : (0xC0 + off) % 32 = off := by omega
  have h3 : (0xC0 + off) / 32 % 2 = 0 := by omega
  simp [h1, h2, h3]; omega

theorem lofpLine_undef : lofpLine 0xC0 = some 0 ∧ lofpLine 0xE0 = some 0 := by decide

/-- Teletext data unit: `02 len lofp E4 <42 bytes msb first> FF*` -/
theorem unitLine_ttx (lofp l : Nat) (X : Bytes) (n : Nat) (hX : X.length = 42) (hb : ∀ b ∈ X, b < 256)
    (hl : lofpLine lofp = some l) (hoff : lofp % 32 = 0 ∨ (7 ≤ lofp % 32 ∧ lofp % 32 ≤ 22)) :
    unitLine ⟨0x02, lofp :: 0xE4 :: (X.map rev8 ++ List.replicate n 0xFF)⟩ = some (some ⟨.ttx, l, X⟩) := by
  have hlen : ¬ ((X.map rev8 ++ List.replicate n 0xFF).length + 1 + 1 < 44) := by simp [hX]
  have hdrop : (lofp :: 0xE4 :: (X.map rev8 ++ List.replicate n 0xFF)).drop 44 = List.replicate n 0xFF := by
    show (X.map rev8 ++ List.replicate n 0xFF).drop 42 = _
    rw [List.drop_append_of_le_length (by simp [hX])]
    rw [List.drop_of_length_le (by simp [hX])]; rfl
  have htake : ((lofp :: 0xE4 :: (X.map rev8 ++ List.replicate n 0xFF)).drop 2).take 42 = X.map rev8 := by
    show (X.map rev8 ++ List.replicate n 0xFF).take 42 = _
    rw [List.take_append_of_le_length (by simp [hX])]
    rw [List.take_of_length_le (by simp [hX])]
  have hrev : (X.map rev8).map rev8 = X := by
    rw [List.map_map]
    conv => rhs; rw [← List.map_id X]
    apply List.map_congr_left
    intro b hb'
    exact rev8_involutive b (hb b hb')
  unfold unitLine
  simp only [hdrop, htake, hrev, allFF_replicate]
  have hoff' : ¬ (lofp % 32 ≠ 0 ∧ (lofp % 32 < 7 ∨ lofp % 32 > 22)) := by omega
  simp [hX, hoff', hl]

/-- VPS data unit: `C3 len lofp <13 bytes> FF*`, line 16 -/
theorem unitLine_vps (X : Bytes) (n : Nat) (hX : X.length = 13) :
    unitLine ⟨0xC3, (0xE0 + 16) :: (X ++ List.replicate n 0xFF)⟩ = some (some ⟨.vps, 16, X⟩) := by
  have hdrop : ((0xE0 + 16) :: (X ++ List.replicate n 0xFF)).drop 14 = List.replicate n 0xFF := by
    show (X ++ List.replicate n 0xFF).drop 13 = _
    rw [List.drop_append_of_le_length (by simp [hX])]
    rw [List.drop_of_length_le (by simp [hX])]; rfl
  have htake : (((0xE0 + 16) :: (X ++ List.replicate n 0xFF)).drop 1).take 13 = X := by
    show (X ++ List.replicate n 0xFF).take 13 = _
    rw [List.take_append_of_le_length (by simp [hX])]
    rw [List.take_of_length_le (by simp [hX])]
  have hl : lofpLine (0xE0 + 16) = some 16 := by decide
  unfold unitLine
  simp only [hdrop, htake, allFF_replicate]
  simp [hX, hl]

/-- WSS data unit: `C4 len lofp b0 b1|3 FF*`, line 23 -/
theorem unitLine_wss (d0 d1 n : Nat) (h0 : d0 < 256) (h1 : d1 < 256) :
    unitLine ⟨0xC4, (0xE0 + 23) :: rev8 d0 :: (rev8 d1 ||| 3) :: List.replicate n 0xFF⟩
      = some (some ⟨.wss, 23, [d0, d1 % 64]⟩) := by
  have hl : lofpLine (0xE0 + 23) = some 23 := by decide
  have hw := wss_bits d1 h1
  unfold unitLine
  simp [allFF_replicate, hl, hw.1, hw.2, rev8_involutive d0 h0]

/-- Caption data unit: `C5 len lofp b0 b1 FF*`, line 21 -/
theorem unitLine_cc (d0 d1 n : Nat) (h0 : d0 < 256) (h1 : d1 < 256) :
    unitLine ⟨0xC5, (0xE0 + 21) :: rev8 d0 :: rev8 d1 :: List.replicate n 0xFF⟩
      = some (some ⟨.cc, 21, [d0, d1]⟩) := by
  have hl : lofpLine (0xE0 + 21) = some 21 := by decide
  unfold unitLine
  simp [allFF_replicate, hl, rev8_involutive d0 h0, rev8_involutive d1 h1]

/-- the shapes of a data unit that reads as a line, by `data_unit_id` -/
inductive LineUnit (id : Nat) (p : Bytes) : Line → Prop
  | ttx (l : Nat) : (id = 0x02 ∨ id = 0x03) → 44 ≤ p.length → allFF (p.drop 44) = true → p.getD 1 0 = 0xE4 →
      lofpLine (p.getD 0 0) = some l → (p.getD 0 0 % 32 = 0 ∨ (7 ≤ p.getD 0 0 % 32 ∧ p.getD 0 0 % 32 ≤ 22)) →
      LineUnit id p ⟨.ttx, l, ((p.drop 2).take 42).map rev8⟩
  | vps : id = 0xC3 → 14 ≤ p.length → allFF (p.drop 14) = true → lofpLine (p.getD 0 0) = some 16 →
      LineUnit id p ⟨.vps, 16, (p.drop 1).take 13⟩
  | wss : id = 0xC4 → 3 ≤ p.length → allFF (p.drop 3) = true → p.getD 2 0 % 4 = 3 → lofpLine (p.getD 0 0) = some 23 →
      LineUnit id p ⟨.wss, 23, [rev8 (p.getD 1 0), rev8 (p.getD 2 0) % 64]⟩
  | cc : id = 0xC5 → 3 ≤ p.length → allFF (p.drop 3) = true → lofpLine (p.getD 0 0) = some 21 →
      LineUnit id p ⟨.cc, 21, [rev8 (p.getD 1 0), rev8 (p.getD 2 0)]⟩

/-- what `unitLine ⟨id, p⟩` can return: "stuffing" only for a stuffing unit, a line only for a unit of a shape `LineUnit` lists -/
def UnitReads (id : Nat) (p : Bytes) : Option (Option Line) → Prop
  | none => True
  | some none => id = 0xFF ∧ allFF p = true
  | some (some l) => LineUnit id p l

theorem unitLine_reads (id : Nat) (p : Bytes) : UnitReads id p (unitLine ⟨id, p⟩) := by
  unfold unitLine
  dsimp only
  refine ite_ind (fun hff => ite_ind (fun ha => ⟨hff, ha⟩) fun _ => trivial) fun _ => ?_
  refine ite_ind (fun h2 => ite_ind (fun _ => trivial) fun hc => ?_) fun _ => ?_
  · cases hl : lofpLine (p.getD 0 0) with
    | none => trivial
    | some l =>
      exact ite_ind (fun _ => trivial) fun ho => .ttx l h2 (by omega) (Decidable.byContradiction fun x => hc (.inr (.inl x)))
        (Decidable.byContradiction fun x => hc (.inr (.inr x))) hl (by omega)
  refine ite_ind (fun h3 => ite_ind (fun _ => trivial) fun hc => ite_ind (fun _ => trivial) fun hl => ?_) fun _ => ?_
  · exact .vps h3 (by omega) (Decidable.byContradiction fun x => hc (.inr x)) (Decidable.byContradiction hl)
  refine ite_ind (fun h4 => ite_ind (fun _ => trivial) fun hc => ite_ind (fun _ => trivial) fun hl => ?_) fun _ => ?_
  · exact .wss h4 (by omega) (Decidable.byContradiction fun x => hc (.inr (.inl x))) (by omega) (Decidable.byContradiction hl)
  exact ite_ind (fun h5 => ite_ind (fun _ => trivial) fun hc => ite_ind (fun _ => trivial) fun hl =>
    .cc h5 (by omega) (Decidable.byContradiction fun x => hc (.inr x)) (Decidable.byContradiction hl)) fun _ => trivial

theorem unitLine_eq_some (id : Nat) (p : Bytes) (o : Option Line) (h : unitLine ⟨id, p⟩ = some o) :
    match o with
    | none => id = 0xFF
    | some l => LineUnit id p l := by
  have := unitLine_reads id p
  rw [h] at this
  cases o
  · exact this.1
  · exact this

theorem unitLine_stuffing (u : DataUnit) (hid : u.id = 0xFF) (hff : allFF u.payload = true) : unitLine u = some none := by
  unfold unitLine
  rw [if_pos hid, if_pos hff]

theorem IsStuffing.unitLine {fixed : Bool} {u : DataUnit} (h : IsStuffing fixed u) : unitLine u = some none :=
  unitLine_stuffing u h.1 h.2.1

theorem allFF_snoc (x : Bytes) : allFF (x ++ [0xFF]) = allFF x := by simp [allFF]

/-- observations of a payload that do not see an appended byte -/
theorem obs_pad (p : Bytes) (N : Nat) (hN : N ≤ p.length) :
    allFF ((p ++ [0xFF]).drop N) = allFF (p.drop N)
    ∧ (∀ i, i < N → (p ++ [0xFF]).getD i 0 = p.getD i 0)
    ∧ (∀ k m, k + m ≤ N → ((p ++ [0xFF]).drop k).take m = (p.drop k).take m) := by
  refine ⟨?_, ?_, ?_⟩
  · rw [List.drop_append_of_le_length hN, allFF_snoc]
  · intro i hi
    simp [List.getD_eq_getElem?_getD, List.getElem?_append_left (show i < p.length by omega)]
  · intro k m hkm
    rw [List.drop_append_of_le_length (by omega), List.take_append_of_le_length (by simp; omega)]

theorem LineUnit.unitLine {id : Nat} {p : Bytes} {l : Line} (h : LineUnit id p l) :
    unitLine ⟨id, p⟩ = some (some l) := by
  unfold EnParse.unitLine
  simp only
  cases h with
  | ttx l h2 hlen hff he hl ho =>
    rw [if_neg (by omega), if_pos h2, if_neg (not_or.mpr ⟨by omega, not_or.mpr ⟨not_not_intro hff, not_not_intro he⟩⟩)]
    simp only [hl]
    rw [if_neg (by omega)]
  | vps h3 hlen hff hl =>
    rw [if_neg (by omega), if_neg (by omega), if_pos h3, if_neg (not_or.mpr ⟨by omega, not_not_intro hff⟩),
      if_neg (not_not_intro hl)]
  | wss h4 hlen hff h3 hl =>
    rw [if_neg (by omega), if_neg (by omega), if_neg (by omega), if_pos h4,
      if_neg (not_or.mpr ⟨by omega, not_or.mpr ⟨not_not_intro hff, not_not_intro h3⟩⟩), if_neg (not_not_intro hl)]
  | cc h5 hlen hff hl =>
    rw [if_neg (by omega), if_neg (by omega), if_neg (by omega), if_neg (by omega), if_pos h5,
      if_neg (not_or.mpr ⟨by omega, not_not_intro hff⟩), if_neg (not_not_intro hl)]

theorem LineUnit.pad {id : Nat} {p : Bytes} {l : Line} (h : LineUnit id p l) : LineUnit id (p ++ [0xFF]) l := by
  have hlen : (p ++ [0xFF]).length = p.length + 1 := by simp
  cases h with
  | ttx l h2 hlen' hff he hl ho =>
    obtain ⟨o1, o2, o3⟩ := obs_pad p 44 hlen'
    have := LineUnit.ttx (id := id) (p := p ++ [0xFF]) l h2 (by omega) (by rw [o1, hff]) (by rw [o2 1 (by omega), he])
      (by rw [o2 0 (by omega), hl]) (by rw [o2 0 (by omega)]; exact ho)
    rwa [o3 2 42 (by omega)] at this
  | vps h3 hlen' hff hl =>
    obtain ⟨o1, o2, o3⟩ := obs_pad p 14 hlen'
    have := LineUnit.vps (id := id) (p := p ++ [0xFF]) h3 (by omega) (by rw [o1, hff]) (by rw [o2 0 (by omega), hl])
    rwa [o3 1 13 (by omega)] at this
  | wss h4 hlen' hff h3 hl =>
    obtain ⟨o1, o2, _⟩ := obs_pad p 3 hlen'
    have := LineUnit.wss (id := id) (p := p ++ [0xFF]) h4 (by omega) (by rw [o1, hff]) (by rw [o2 2 (by omega), h3])
      (by rw [o2 0 (by omega), hl])
    rwa [o2 1 (by omega), o2 2 (by omega)] at this
  | cc h5 hlen' hff hl =>
    obtain ⟨o1, o2, _⟩ := obs_pad p 3 hlen'
    have := LineUnit.cc (id := id) (p := p ++ [0xFF]) h5 (by omega) (by rw [o1, hff]) (by rw [o2 0 (by omega), hl])
    rwa [o2 1 (by omega), o2 2 (by omega)] at this

theorem unitLine_pad (u : DataUnit) (l : Line) (h : unitLine u = some (some l)) :
    unitLine ⟨u.id, u.payload ++ [0xFF]⟩ = some (some l) :=
  (unitLine_eq_some u.id u.payload (some l) h).pad.unitLine

theorem unitLine_lofp (u : DataUnit) (l : Line) (hu : unitLine u = some (some l)) :
    lofpLine (u.payload.getD 0 0) = some l.line := by
  cases unitLine_eq_some u.id u.payload (some l) hu <;> assumption

theorem unitsLines_cons_inv (u : DataUnit) (us : List DataUnit) (ls : List Line) (h : unitsLines (u :: us) = some ls) :
    (unitLine u = some none ∧ unitsLines us = some ls)
    ∨ ∃ l ls', unitLine u = some (some l) ∧ unitsLines us = some ls' ∧ ls = l :: ls' := by
  simp only [unitsLines] at h
  cases hu : unitLine u with
  | none => rw [hu] at h; cases h
  | some o =>
    rw [hu] at h
    cases hr : unitsLines us with
    | none => rw [hr] at h; cases o <;> cases h
    | some ls' =>
      rw [hr] at h
      cases o with
      | none => cases h; exact .inl ⟨rfl, rfl⟩
      | some l => cases h; exact .inr ⟨l, ls', rfl, rfl, rfl⟩

end Zvbi.Mux
