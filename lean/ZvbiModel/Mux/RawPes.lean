import ZvbiModel.Mux.RawLemmas
/-!
# Lemmas: the loop of `generate_pes_packet` with raw lines, both source shapes
-/
namespace Zvbi.Mux
open Zvbi.Mux.EnParse Zvbi.Mux.RawSpec

theorem sentR_append (mask : Nat) (raw : Bytes) (sp : Sp) (a b : List Sliced) :
    sentR mask raw sp (a ++ b) = sentR mask raw sp a ++ sentR mask raw sp b := by
  induction a with
  | nil => rfl
  | cons s a ih =>
    simp only [List.cons_append, sentR]
    split
    · exact ih
    · split
      · rw [ih]; rfl
      · split
        · rw [ih]; rfl
        · exact ih

theorem sentR_noraw (mask : Nat) (raw : Bytes) (sp : Sp) (seg : List Sliced) (h : ∀ s ∈ seg, s.id ≠ SL_VBI625) :
    sentR mask raw sp seg = (sent mask seg).map Out.line := by
  induction seg with
  | nil => rfl
  | cons s seg ih =>
    have ih := ih (fun x hx => h x (List.mem_cons_of_mem _ hx))
    have hs := h s (List.mem_cons_self ..)
    simp only [sentR]
    by_cases hm : s.id &&& mask = 0
    · rw [if_pos hm, sent_cons_masked mask s seg hm]; exact ih
    · rw [if_neg hm, if_neg hs]
      cases hc : canon s with
      | some l => simp only []; rw [sent_cons_kept mask s seg l hm hc, ih]; rfl
      | none =>
        simp only []
        rw [ih]
        simp [sent, hm, hc]

/-- `samples_pointer` with a raw frame and sampling parameters: the line must be defined and lie in the range of its
    field, and the frame must hold its row `row`; the result is the line `rawLineOf` describes.  Rows of an interlaced
    frame with as many lines in both fields, or of a frame with stacked fields, lie below `count[0] + count[1]`: inside a
    frame that holds so many lines. -/
theorem samplesPointer_some (rawb : Bytes) (sp : Sp) (line : Nat) :
    ∃ row, (rawLineOf rawb sp line).px = (rawb.drop (row * sp.spl)).take sp.spl
      ∧ ((sp.interlaced = true → sp.count0 = sp.count1) → (sp.count0 + sp.count1) * sp.spl ≤ rawb.length →
        (if line ≥ 313 then sp.start1 ≤ line ∧ line < sp.start1 + sp.count1
          else sp.start0 ≤ line ∧ line < sp.start0 + sp.count0) → (row + 1) * sp.spl ≤ rawb.length)
      ∧ samplesPointer (some rawb) (some sp) line =
        if line = 0 then .error (.base .lineNumber)
        else if ¬ (if line ≥ 313 then sp.start1 ≤ line ∧ line < sp.start1 + sp.count1
          else sp.start0 ≤ line ∧ line < sp.start0 + sp.count0) then .error .rawBufferOverflow
        else if (row + 1) * sp.spl > rawb.length then
          .error (.base (.oob "samples_pointer: line outside the raw buffer"))
        else .ok (rawLineOf rawb sp line).px := by
  unfold samplesPointer rawLineOf
  -- the field's `start` / `count`, as the C code selects them
  have hrange : (if line ≥ 313 then sp.start1 ≤ line ∧ line < sp.start1 + sp.count1 else sp.start0 ≤ line ∧ line < sp.start0 + sp.count0)
      ↔ (if line ≥ 313 then sp.start1 else sp.start0) ≤ line
        ∧ line < (if line ≥ 313 then sp.start1 else sp.start0) + (if line ≥ 313 then sp.count1 else sp.count0) := by
    split <;> rfl
  have hcount : (if line ≥ 313 then sp.count1 else sp.count0) ≤ sp.count0 + sp.count1 ∧
      (line ≥ 313 → (if line ≥ 313 then sp.count1 else sp.count0) = sp.count1) ∧
      (¬ line ≥ 313 → (if line ≥ 313 then sp.count1 else sp.count0) = sp.count0) := by split <;> omega
  simp only [hrange]
  generalize (if line ≥ 313 then sp.start1 else sp.start0) = start
  generalize (if line ≥ 313 then sp.count1 else sp.count0) = count at hcount
  refine ⟨if sp.interlaced then (line - start) * 2 + (if line ≥ 313 then 1 else 0)
    else if line ≥ 313 then line - start + sp.count0 else line - start, rfl, fun hi hh hr => ?_, ?_⟩
  · refine Nat.le_trans (Nat.mul_le_mul_right sp.spl (?_ : _ + 1 ≤ sp.count0 + sp.count1)) hh
    cases h : sp.interlaced
    · simp only [Bool.false_eq_true, if_false]; split <;> omega
    · have := hi h; simp only [if_true]; split <;> omega
  · by_cases h0 : line = 0
    · rw [if_pos h0, if_pos h0]
    rw [if_neg h0, if_neg h0]
    by_cases h1 : line < start
    · rw [if_pos h1, if_pos (show ¬ (start ≤ line ∧ line < start + count) by omega)]
    rw [if_neg h1]
    by_cases h2 : line - start ≥ count
    · rw [if_pos h2, if_pos (show ¬ (start ≤ line ∧ line < start + count) by omega)]
    rw [if_neg h2, if_neg (show ¬ ¬ (start ≤ line ∧ line < start + count) by omega)]

theorem samplesPointer_ok (raw : Option Bytes) (sp : Option Sp) (line : Nat) (s : Bytes)
    (h : samplesPointer raw sp line = .ok s) :
    ∃ rawb sp', raw = some rawb ∧ sp = some sp' ∧ s = (rawLineOf rawb sp' line).px ∧ s.length = sp'.spl
      ∧ (if line ≥ 313 then sp'.start1 ≤ line ∧ line < sp'.start1 + sp'.count1
         else sp'.start0 ≤ line ∧ line < sp'.start0 + sp'.count0) := by
  cases raw with
  | none => cases h
  | some rawb =>
    cases sp with
    | none => cases h
    | some sp' =>
      obtain ⟨row, hpx, _, heq⟩ := samplesPointer_some rawb sp' line
      rw [heq] at h
      by_cases h0 : line = 0
      · rw [if_pos h0] at h; cases h
      by_cases hr : if line ≥ 313 then sp'.start1 ≤ line ∧ line < sp'.start1 + sp'.count1
          else sp'.start0 ≤ line ∧ line < sp'.start0 + sp'.count0
      · by_cases hlen : (row + 1) * sp'.spl > rawb.length
        · rw [if_neg h0, if_neg (not_not_intro hr), if_pos hlen] at h; cases h
        rw [if_neg h0, if_neg (not_not_intro hr), if_neg hlen] at h
        cases h
        refine ⟨rawb, sp', rfl, rfl, rfl, ?_, hr⟩
        rw [hpx, List.length_take, List.length_drop]
        rw [Nat.add_mul, Nat.one_mul] at hlen
        omega
      · rw [if_neg h0, if_pos hr] at h; cases h

theorem validSp_spec (sp : Sp) (h : validSp sp = true) :
    132 ≤ sp.offset ∧ sp.offset + sp.spl ≤ 852 ∧ 0 < sp.spl ∧ (sp.interlaced = true → sp.count0 = sp.count1) := by
  unfold validSp BT601_625_OFFSET at h
  by_cases h1 : sp.offset < 132
  · rw [if_pos h1] at h; cases h
  rw [if_neg h1] at h
  by_cases h2 : sp.offset + sp.spl > 132 + 720
  · rw [if_pos h2] at h; cases h
  rw [if_neg h2] at h
  by_cases h3 : sp.spl = 0
  · rw [if_pos h3] at h; cases h
  refine ⟨by omega, by omega, by omega, fun hi => Decidable.byContradiction fun hne => ?_⟩
  rw [if_neg h3] at h
  iterate 3 (split at h; · cases h)
  rw [if_pos ⟨hi, .inl hne⟩] at h; cases h

/-- `sp == NULL` or `valid_sampling_par (mx, sp)` -/
def SpValid (sp : Option Sp) : Prop := ∀ sp', sp = some sp' → validSp sp' = true

theorem not_spValid {sp : Option Sp} (h : ¬ SpValid sp) : ∃ sp', sp = some sp' ∧ validSp sp' = false := by
  cases sp with
  | none => exact absurd nofun h
  | some sp' =>
    refine ⟨sp', rfl, ?_⟩
    cases hv : validSp sp' with
    | false => rfl
    | true => exact absurd (fun _ hx => by cases hx; exact hv) h

/-- `insert_raw_data_units` as `generate_pes_packet` calls it for a line of `samples_per_line` samples: the checks on the sample
    numbers pass, the line check remains, then the loop from `first_pixel_position = offset - 132` -/
theorem insertRaw_call (pLeft : Nat) (fixed : Bool) (line : Nat) (sp : Sp) (hv : validSp sp = true) (smp : Bytes)
    (hlen : smp.length = sp.spl) :
    ∃ par l, (if par = true then l else 313 + l) = line ∧ (par = true → line < 313) ∧
      insertRaw pLeft smp fixed VIDEOSTD_625 line ((sp.offset + 2 ^ 32 - BT601_625_OFFSET) % 2 ^ 32) sp.spl true =
        if (l + 2 ^ 32 - 7) % 2 ^ 32 > 16 then .error (.base .lineNumber)
        else .ok (insertRawLoop fixed true ((if par then 0x20 else 0) + l) sp.spl smp.length pLeft (sp.offset - 132) 0 smp) := by
  obtain ⟨ho, hend, hspl, _⟩ := validSp_spec sp hv
  obtain ⟨par, l, hpl, hpar, heq⟩ := insertRaw_std pLeft smp fixed VIDEOSTD_625 313 line (sp.offset - 132) sp.spl true (.inl ⟨rfl, rfl⟩)
  refine ⟨par, l, hpl, hpar, ?_⟩
  rw [show (sp.offset + 2 ^ 32 - BT601_625_OFFSET) % 2 ^ 32 = sp.offset - 132 by unfold BT601_625_OFFSET; omega, heq,
    Nat.mod_eq_of_lt (show sp.offset - 132 + sp.spl < 2 ^ 32 by omega), if_neg (by omega),
    show (sp.offset - 132 + (sp.spl - smp.length)) % 2 ^ 32 = sp.offset - 132 by omega]

theorem insertRaw_region (pLeft : Nat) (fixed : Bool) (line : Nat) (hline : line < 2 ^ 32) (sp : Sp) (hv : validSp sp = true)
    (smp : Bytes) (hlen : smp.length = sp.spl) (rr : RawRes)
    (h : insertRaw pLeft smp fixed VIDEOSTD_625 line ((sp.offset + 2 ^ 32 - BT601_625_OFFSET) % 2 ^ 32) sp.spl true = .ok rr) :
    ((7 ≤ line ∧ line ≤ 23) ∨ (320 ≤ line ∧ line ≤ 336))
    ∧ ∃ us, Region true fixed pLeft 0 rr.out rr.lastDu rr.pLeft us
      ∧ (rr.rest = [] → us ≠ [] ∧ Reads us [Out.raw ⟨line, sp.offset - 132, smp⟩]) := by
  obtain ⟨ho, hend, hspl, _⟩ := validSp_spec sp hv
  obtain ⟨par, l, hpl, _, heq⟩ := insertRaw_call pLeft fixed line sp hv smp hlen
  have hll : l ≤ line := by rw [← hpl]; split <;> omega
  rw [heq] at h
  by_cases hc : (l + 2 ^ 32 - 7) % 2 ^ 32 > 16
  · rw [if_pos hc] at h; cases h
  rw [if_neg hc] at h
  cases h
  have hsmp : smp ≠ [] := by
    intro hnil; rw [hnil] at hlen; simp at hlen; omega
  obtain ⟨us, segs, hrun⟩ := insertRawLoop_segs fixed true par l sp.spl (sp.offset - 132) (by omega) (by omega) (by omega)
    smp.length pLeft (sp.offset - 132) 0 smp (Nat.le_refl _) (by omega)
  obtain ⟨R, hc⟩ := hrun.region
  rw [hpl] at hc
  exact ⟨by rw [← hpl]; split <;> omega, us, R, hc rfl hsmp hlen⟩

theorem Stop.noabort {mask : Nat} {fixed : Bool} {ll pLeft : Nat} {rest : List Sliced} {e : Option Err}
    (h : Stop mask fixed ll pLeft rest e) (x : Err) (hx : e = some x) : (RErr.base x).isAbort = false := by
  cases h with
  | done | full => cases hx
  | order => cases hx; rfl
  | refused _ _ he => cases hx; rcases he with rfl | rfl <;> rfl

/-- the caller's contract on the raw frame: it holds `count[0] + count[1]` lines of `bytes_per_line` -/
def RawHolds (raw : Option Bytes) (sp : Option Sp) : Prop :=
  ∀ rawb sp', raw = some rawb → sp = some sp' → (sp'.count0 + sp'.count1) * sp'.spl ≤ rawb.length

theorem samplesPointer_err (raw : Option Bytes) (sp : Option Sp) (line : Nat) (e : RErr)
    (hsp : SpValid sp) (hraw : RawHolds raw sp)
    (h : samplesPointer raw sp line = .error e) : e.isAbort = false := by
  cases raw with
  | none => cases h; rfl
  | some rawb =>
    cases sp with
    | none => cases h; rfl
    | some sp' =>
      obtain ⟨row, _, hrow, heq⟩ := samplesPointer_some rawb sp' line
      rw [heq] at h
      by_cases h0 : line = 0
      · rw [if_pos h0] at h; cases h; rfl
      by_cases hr : if line ≥ 313 then sp'.start1 ≤ line ∧ line < sp'.start1 + sp'.count1
          else sp'.start0 ≤ line ∧ line < sp'.start0 + sp'.count0
      · rw [if_neg h0, if_neg (not_not_intro hr),
          if_neg (Nat.not_lt.mpr (hrow (validSp_spec sp' (hsp sp' rfl)).2.2.2 (hraw rawb sp' rfl rfl) hr))] at h
        cases h
      · rw [if_neg h0, if_pos hr] at h; cases h; rfl

theorem insertRaw_err (pLeft : Nat) (r : Bytes) (fixed : Bool) (line fpp nTotal : Nat) (e : RErr)
    (h : insertRaw pLeft r fixed VIDEOSTD_625 line fpp nTotal true = .error e) : e.isAbort = false := by
  obtain ⟨par, l, _, _, heq⟩ := insertRaw_std pLeft r fixed VIDEOSTD_625 313 line fpp nTotal true (.inl ⟨rfl, rfl⟩)
  rw [heq] at h
  split at h
  · cases h; rfl
  · split at h
    · cases h; rfl
    · cases h

def dfltSp : Sp := ⟨0, 0, 0, 0, 0, 0, false⟩

/-- a permitted sliced line, or a raw line request `PermittedRaw` admits with `raw`, `sp` given and its row of the raw frame `spl`
    samples long (what an accepted selected line is known to be; the precondition side is `Admitted`, `Mux/AcceptRaw.lean`) -/
def PermittedAny (raw : Option Bytes) (sp : Option Sp) (s : Sliced) : Prop :=
  Permitted s ∨ ∃ rawb sp', raw = some rawb ∧ sp = some sp' ∧ PermittedRaw sp' s
    ∧ (rawLineOf rawb sp' s.line).px.length = sp'.spl

/-- a call of `insert_sliced_data_units` or `insert_raw_data_units` (both start from `last_du_size = 0`) inside the loop of
    `generate_pes_packet`, in the source shape `keep` -/
theorem Region.ofCall {fixed : Bool} {pLeft : Nat} {out : Bytes} {du p' : Nat} {us : List DataUnit}
    (R : Region true fixed pLeft 0 out du p' us) (keep : Bool) (lastDu : Nat) :
    Region keep fixed pLeft lastDu out (nextLastDu keep lastDu du) p' us := by
  refine ⟨R.enc, R.ok, ?_, R.room, R.left, R.crit⟩
  rw [R.lastDu]; unfold nextLastDu
  by_cases hn : us = []
  · cases keep <;> simp [DuOK, hn, lastSize]
  · have := lastSize_ge us hn
    cases keep <;> simp [DuOK, hn, show lastSize us > 0 by omega]

/-- the loop of `generate_pes_packet`, every outcome, either source shape: an error, when the raw frame is as large as
    declared, is a `VBI_ERR_*` value; otherwise a region is stored (in the unchanged shape `last_du_size` may have been
    forgotten), and when the whole frame was converted it reads as exactly the selected lines, all of them permitted -/
theorem genLoopR_region (keep : Bool) (mask : Nat) (fixed : Bool) (raw : Option Bytes) (sp : Option Sp)
    (hsp : SpValid sp) :
    ∀ (fuel pLeft lastLine lastDu : Nat) (st : RawSt) (todo : List Sliced),
      todo.length < fuel → (∀ s ∈ todo, Sliced.WF s) → st.left = 0 →
      match genLoopR keep mask fixed raw sp fuel pLeft lastLine lastDu st todo with
      | .error (e, _) => RawHolds raw sp → e.isAbort = false
      | .ok (out, du, left, st') => ∃ us p', Region keep fixed pLeft lastDu out du p' us
          ∧ (left = [] → Reads us (sentR mask (raw.getD []) (sp.getD dfltSp) todo) ∧ st'.left = 0 ∧ (keep = false → du ≤ 46)
              ∧ ∀ s ∈ todo, s.id &&& mask ≠ 0 → PermittedAny raw sp s) := by
  intro fuel
  induction fuel with
  | zero => intro pLeft lastLine lastDu st todo h; omega
  | succ fuel ih =>
    intro pLeft lastLine lastDu st todo hfu hwf hst
    rw [genLoopR]
    cases hs : scanSeg lastLine todo with
    | error off => simp only []; intro _; rfl
    | ok x =>
      obtain ⟨seg, ll, rest⟩ := x
      simp only []
      obtain ⟨htodo, hnoraw, hrest, _⟩ : _ ∧ _ := hs ▸ scanSeg_spec todo lastLine
      have hwfseg : ∀ s ∈ seg, Sliced.WF s := fun x hx => hwf x (by rw [htodo]; exact List.mem_append_left _ hx)
      have hwfrest : ∀ s ∈ rest, Sliced.WF s := fun x hx => hwf x (by rw [htodo]; exact List.mem_append_right _ hx)
      obtain ⟨pre, us0, ll', hpre, hS, R, hstop⟩ := insertSliced_stored mask fixed seg hwfseg pLeft (segStart lastLine) 0
      cases he : (insertSliced mask fixed pLeft (segStart lastLine) 0 seg).err with
      | some e =>
        simp only []; intro _; rw [he] at hstop
        exact hstop.noabort e rfl
      | none =>
        simp only []
        obtain ⟨hul, hgood, hperm0⟩ := hS.units
        have W0 := R.ofCall keep lastDu
        have hdu0 : keep = false → nextLastDu keep lastDu (insertSliced mask fixed pLeft (segStart lastLine) 0 seg).lastDu ≤ 46 := by
          rintro rfl
          show (insertSliced mask fixed pLeft (segStart lastLine) 0 seg).lastDu ≤ 46
          rw [R.lastDu]
          exact lastSize_le us0 46 fun u hu => (hgood u hu).le46
        by_cases hr : (insertSliced mask fixed pLeft (segStart lastLine) 0 seg).rest ≠ []
        · rw [if_pos hr]
          exact ⟨us0, _, W0, fun h => absurd (List.append_eq_nil_iff.mp h).1 hr⟩
        rw [if_neg hr]
        rw [Decidable.not_not.mp hr, List.append_nil] at hpre
        subst hpre
        have C0 : Reads us0 (sentR mask (raw.getD []) (sp.getD dfltSp) seg) := by
          rw [sentR_noraw mask _ _ seg hnoraw]; exact Reads.lines hgood hul
        have P0 : ∀ s ∈ seg, s.id &&& mask ≠ 0 → PermittedAny raw sp s := fun s hs hm => .inl (hperm0 s hs hm)
        cases rest with
        | nil =>
          rw [List.append_nil] at htodo
          subst htodo
          exact ⟨us0, _, W0, fun _ => ⟨C0, hst, hdu0, P0⟩⟩
        | cons rawLine rest' =>
          have hrawid : rawLine.id = SL_VBI625 := hrest rawLine rfl
          have hwfrest' : ∀ s ∈ rest', Sliced.WF s := fun x hx => hwfrest x (List.mem_cons_of_mem _ hx)
          have hfu' : rest'.length < fuel := by
            rw [htodo, List.length_append, List.length_cons] at hfu; omega
          simp only []
          by_cases hm : mask &&& SL_VBI625 = 0
          · rw [if_pos hm]
            have hmaskraw : rawLine.id &&& mask = 0 := by rw [hrawid, Nat.and_comm]; exact hm
            have := ih (insertSliced mask fixed pLeft (segStart lastLine) 0 seg).pLeft ll
              (nextLastDu keep lastDu (insertSliced mask fixed pLeft (segStart lastLine) 0 seg).lastDu) st rest' hfu' hwfrest' hst
            cases hrec : genLoopR keep mask fixed raw sp fuel (insertSliced mask fixed pLeft (segStart lastLine) 0 seg).pLeft ll
                (nextLastDu keep lastDu (insertSliced mask fixed pLeft (segStart lastLine) 0 seg).lastDu) st rest' with
            | error e => rw [hrec] at this; obtain ⟨e1, e2⟩ := e; simpa using this
            | ok y =>
              obtain ⟨o, du', left, st''⟩ := y
              rw [hrec] at this
              obtain ⟨us1, p', W1, c1⟩ := this
              refine ⟨us0 ++ us1, p', W0.append W1, fun hl => ?_⟩
              obtain ⟨r1, s1, d1, p1⟩ := c1 hl
              refine ⟨?_, s1, d1, fun s hs hms => ?_⟩
              · rw [htodo, sentR_append]
                simp only [sentR, hmaskraw, if_true]
                exact C0.append r1
              · rw [htodo] at hs
                rcases List.mem_append.mp hs with hs | hs
                · exact P0 s hs hms
                · rcases List.mem_cons.mp hs with rfl | hs
                  · exact absurd hmaskraw hms
                  · exact p1 s hs hms
          · rw [if_neg hm]
            simp only [hst, if_true]
            cases hsmp : samplesPointer raw sp rawLine.line with
            | error e =>
              simp only []
              exact fun hraw => samplesPointer_err raw sp _ e hsp hraw hsmp
            | ok smp =>
              obtain ⟨rawb, sp', hrawsome, hspsome, hsmpeq, hsmplen, hrange⟩ := samplesPointer_ok raw sp _ smp hsmp
              subst hrawsome hspsome
              simp only []
              have hv := hsp sp' rfl
              obtain ⟨ho, hend, hspl, _⟩ := validSp_spec sp' hv
              rw [if_neg (by omega)]
              have hline : rawLine.line < 2 ^ 32 := (hwfrest rawLine (List.mem_cons_self ..)).2.1
              cases hir : insertRaw (insertSliced mask fixed pLeft (segStart lastLine) 0 seg).pLeft smp fixed VIDEOSTD_625 rawLine.line
                  ((sp'.offset + 2 ^ 32 - BT601_625_OFFSET) % 2 ^ 32) sp'.spl true with
              | error e =>
                simp only []
                exact fun _ => insertRaw_err _ _ _ _ _ _ e hir
              | ok rr =>
                simp only []
                obtain ⟨hlr, usr, Rr, cr⟩ := insertRaw_region _ fixed rawLine.line hline sp' hv smp hsmplen rr hir
                have W01 := W0.append (Rr.ofCall keep _)
                by_cases hrl : rr.rest.length > 0
                · rw [if_pos hrl]; exact ⟨us0 ++ usr, _, W01, fun h => by cases h⟩
                rw [if_neg hrl]
                obtain ⟨rne, rrd⟩ := cr (List.eq_nil_of_length_eq_zero (by omega))
                have := ih rr.pLeft ll
                  (nextLastDu keep (nextLastDu keep lastDu (insertSliced mask fixed pLeft (segStart lastLine) 0 seg).lastDu) rr.lastDu)
                  { st with left := 0 } rest' hfu' hwfrest' rfl
                cases hrec : genLoopR keep mask fixed (some rawb) (some sp') fuel rr.pLeft ll
                    (nextLastDu keep (nextLastDu keep lastDu (insertSliced mask fixed pLeft (segStart lastLine) 0 seg).lastDu) rr.lastDu)
                    { st with left := 0 } rest' with
                | error e => rw [hrec] at this; obtain ⟨e1, e2⟩ := e; simpa using this
                | ok y =>
                  obtain ⟨o, du', left, st''⟩ := y
                  rw [hrec] at this
                  obtain ⟨us1, p', W1, c1⟩ := this
                  refine ⟨(us0 ++ usr) ++ us1, p', W01.append W1, fun hl => ?_⟩
                  obtain ⟨r1, s1, d1, p1⟩ := c1 hl
                  have hselraw : ¬ SL_VBI625 &&& mask = 0 := by rw [Nat.and_comm]; exact hm
                  refine ⟨?_, s1, d1, fun s hs hms => ?_⟩
                  · rw [htodo, sentR_append]
                    simp only [Option.getD_some, sentR, hrawid, hselraw, if_false, if_true]
                    have e : Out.raw (rawLineOf rawb sp' rawLine.line) = Out.raw ⟨rawLine.line, sp'.offset - 132, smp⟩ := by
                      rw [hsmpeq]; rfl
                    rw [e, ← List.singleton_append, ← List.append_assoc]
                    exact (C0.append rrd).append r1
                  · rw [htodo] at hs
                    rcases List.mem_append.mp hs with hs | hs
                    · exact P0 s hs hms
                    · rcases List.mem_cons.mp hs with rfl | hs
                      · exact .inr ⟨rawb, sp', rfl, rfl, ⟨hrawid, hlr, hrange⟩, by rw [← hsmpeq]; exact hsmplen⟩
                      · exact p1 s hs hms

end Zvbi.Mux
