import ZvbiModel.Mux.RawFeed
/-!
# `raw == NULL`, `sp == NULL`: the model without raw data is the raw-capable model of the unchanged tree

`genLoop`, `generatePes`, `feed` (`Mux/Model.lean`) and `genLoopR`, `generatePesR`, `feedR` (`Mux/RawModel.lean`) model the same C
functions; with `raw`, `sp` NULL and `keep = false` they agree (`genLoopR_null`, `generatePesR_null`, `feedR_null`), so what is
proved about `feedR` is read off for `feed`.  The coroutine's half is `Mux/NullCor.lean`.
-/
namespace Zvbi.Mux
open Zvbi.Mux.EnParse Zvbi.Mux.RawSpec

/-- results of `genLoop`, seen as results of `genLoopR` -/
def liftLoop (st : RawSt) : Except (Err × List Sliced) (Bytes × Nat × List Sliced) →
    Except (RErr × List Sliced) (Bytes × Nat × List Sliced × RawSt)
  | .error (e, off) => .error (.base e, off)
  | .ok (o, du, left) => .ok (o, du, left, st)

theorem genLoopR_null (mask : Nat) (fixed : Bool) :
    ∀ (fuel pLeft ll lastDu : Nat) (st : RawSt) (todo : List Sliced), st.left = 0 →
      genLoopR false mask fixed none none fuel pLeft ll lastDu st todo = liftLoop st (genLoop mask fixed fuel pLeft ll todo) := by
  intro fuel
  induction fuel with
  | zero => intro pLeft ll lastDu st todo _; rfl
  | succ fuel ih =>
    intro pLeft ll lastDu st todo hst
    rw [genLoopR, genLoop]
    cases hs : scanSeg ll todo with
    | error off => rfl
    | ok x =>
      obtain ⟨seg, l, rest⟩ := x
      simp only []
      cases he : (insertSliced mask fixed pLeft (segStart ll) 0 seg).err with
      | some e => rfl
      | none =>
        simp only []
        have hn : nextLastDu false lastDu (insertSliced mask fixed pLeft (segStart ll) 0 seg).lastDu
            = (insertSliced mask fixed pLeft (segStart ll) 0 seg).lastDu := rfl
        rw [hn]
        by_cases hr : (insertSliced mask fixed pLeft (segStart ll) 0 seg).rest ≠ []
        · rw [if_pos hr, if_pos hr]; rfl
        · rw [if_neg hr, if_neg hr]
          cases rest with
          | nil => rfl
          | cons rawLine rest' =>
            simp only []
            by_cases hm : mask &&& SL_VBI625 = 0
            · rw [if_pos hm, if_pos hm, ih _ _ _ _ _ hst]
              cases genLoop mask fixed fuel (insertSliced mask fixed pLeft (segStart ll) 0 seg).pLeft l rest' with
              | error e => obtain ⟨e1, e2⟩ := e; rfl
              | ok y => obtain ⟨o, du, left⟩ := y; rfl
            · rw [if_neg hm, if_neg hm]
              simp only [hst, if_true, samplesPointer]
              rfl

theorem generatePesR_null (cfg : Cfg) (st : RawSt) (hst : st.left = 0) (lines : List Sliced) (mask pts : Nat) :
    generatePesR false cfg st lines mask none none pts
      = match generatePes cfg lines mask pts with
        | .error (e, off) => .error (.base e, off)
        | .ok (pes, left) => .ok (pes, left, st) := by
  rw [generatePesR_eq false cfg st hst, genLoopR_null mask _ _ _ _ _ st lines hst]
  unfold generatePes pesFill
  simp only []
  cases genLoop mask (fixedLengthFormat cfg.dataId) (lines.length + 1) (cfg.maxSize - 46) 0 lines with
  | error e => obtain ⟨e1, e2⟩ := e; rfl
  | ok y =>
    obtain ⟨o, du, left⟩ := y
    simp only [liftLoop, Bool.false_eq_true, false_and, if_false]
    cases encodeStuffing o (if 46 + o.length < cfg.minSize then cfg.minSize - (46 + o.length)
        else if (46 + o.length) % 184 > 0 then 184 - (46 + o.length) % 184 else 0) du (fixedLengthFormat cfg.dataId) with
    | error e => rfl
    | ok body => rfl

/-- `vbi_dvb_mux_feed (mx, sliced, n, mask, NULL, NULL, pts)` of the unchanged tree: same answer, same
    callbacks, same multiplexer as `feed` -/
theorem feedR_null (m : RMux) (hst : m.raw.left = 0) (lines : List Sliced) (mask pts : Nat) :
    (feedR false m lines mask none none pts).2.ok = (feed m.mux lines mask pts 0).2.ok
    ∧ (feedR false m lines mask none none pts).2.calls = (feed m.mux lines mask pts 0).2.calls
    ∧ (feedR false m lines mask none none pts).1.mux = (feed m.mux lines mask pts 0).1
    ∧ (feedR false m lines mask none none pts).1.raw = m.raw := by
  have hst' : ({ m.raw with left := 0 } : RawSt) = m.raw := by
    obtain ⟨mux, st⟩ := m; cases st; cases hst; rfl
  rw [feedR_go false m lines mask none none pts nofun]
  unfold feedR.go
  simp only []
  rw [feed_unfold, generatePesR_null _ _ hst]
  cases generatePes (dropPending m.mux).cfg lines mask pts with
  | error e => obtain ⟨e1, e2⟩ := e; exact ⟨rfl, rfl, rfl, hst'⟩
  | ok y =>
    obtain ⟨pes, left⟩ := y
    simp only []
    by_cases hl : left ≠ []
    · rw [if_pos hl, if_pos hl]; exact ⟨rfl, rfl, rfl, hst'⟩
    · rw [if_neg hl, if_neg hl]
      by_cases hp : (dropPending m.mux).cfg.pid = 0
      · rw [if_pos hp, if_pos hp, if_neg (by decide)]; exact ⟨rfl, rfl, rfl, rfl⟩
      · rw [if_neg hp, if_neg hp]
        simp only []
        rw [if_neg (by omega)]
        exact ⟨rfl, rfl, rfl, trivial⟩

theorem feed_cfg (m : Mux) (lines : List Sliced) (mask pts : Nat) : (feed m lines mask pts 0).1.cfg = m.cfg := by
  rw [← (feedR_null ⟨m, {}⟩ rfl lines mask pts).2.2.1]
  exact feedR_cfg false ⟨m, {}⟩ lines mask none none pts

theorem feed_rejected (m : Mux) (lines : List Sliced) (mask pts : Nat)
    (h : (feed m lines mask pts 0).2.ok = false) :
    (feed m lines mask pts 0).2.calls = [] ∧ (feed m lines mask pts 0).1 = dropPending m := by
  obtain ⟨e1, e2, e3, _⟩ := feedR_null ⟨m, {}⟩ rfl lines mask pts
  obtain ⟨hc, hst⟩ := feedR_rejected false ⟨m, {}⟩ lines mask none none pts (e1.trans h)
  exact ⟨e2 ▸ hc, e3 ▸ hst.elim (·.2) fun h => absurd nofun h.1⟩

theorem feed_accepted (m : Mux) (lines : List Sliced) (mask pts : Nat)
    (h : (feed m lines mask pts 0).2.ok = true) :
    ∃ pes, generatePes m.cfg lines mask pts = .ok (pes, [])
      ∧ (m.cfg.pid = 0 → (feed m lines mask pts 0).2.calls = [some pes] ∧ (feed m lines mask pts 0).1.cc = m.cc)
      ∧ (m.cfg.pid ≠ 0 → (feed m lines mask pts 0).2.calls = (tsPackets m.cfg.pid m.cc pes).map some
          ∧ (feed m lines mask pts 0).1.cc = (m.cc + (tsPackets m.cfg.pid m.cc pes).length) % 2 ^ 32) := by
  obtain ⟨e1, e2, e3, _⟩ := feedR_null ⟨m, {}⟩ rfl lines mask pts
  obtain ⟨_, pes, st', hg, _, _, hpes, hts⟩ := feedR_accepted false ⟨m, {}⟩ lines mask none none pts (e1.trans h)
  rw [e2, e3] at hpes hts
  refine ⟨pes, ?_, hpes, hts⟩
  rw [generatePesR_null _ _ rfl] at hg
  cases hgp : generatePes m.cfg lines mask pts with
  | error e => rw [hgp] at hg; cases hg
  | ok r =>
    rw [hgp] at hg
    obtain ⟨pes', left⟩ := r
    cases hg
    rfl

end Zvbi.Mux
