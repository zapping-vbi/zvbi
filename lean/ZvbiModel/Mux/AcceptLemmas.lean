import ZvbiModel.Mux.LemmasFrame
/-!
# Lemmas: the converse direction - every ordered, permitted, fitting frame is accepted
-/
namespace Zvbi.Mux
open Zvbi.Mux.EnParse

/-- bytes the selected lines of a frame need -/
def unitsSize (fixed : Bool) (mask : Nat) : List Sliced → Nat
  | [] => 0
  | s :: rest => (if s.id &&& mask = 0 then 0 else unitSize fixed s) + unitsSize fixed mask rest

theorem unitsSize_append (fixed : Bool) (mask : Nat) (a b : List Sliced) :
    unitsSize fixed mask (a ++ b) = unitsSize fixed mask a + unitsSize fixed mask b := by
  induction a with
  | nil => simp [unitsSize]
  | cons s a ih => simp only [List.cons_append, unitsSize, ih]; omega

theorem permitted_not_raw (s : Sliced) (h : Permitted s) : s.id ≠ SL_VBI625 := by
  unfold Permitted at h
  unfold SL_VBI625
  rcases h with ⟨h | h | h, _⟩ | ⟨h, _⟩ | ⟨h, _⟩ | ⟨h | h, _⟩ <;> omega

theorem Stored.size {mask : Nat} {fixed : Bool} {ll ll' : Nat} {pre : List Sliced} {us : List DataUnit}
    (h : Stored mask fixed ll pre us ll') : (encUnits us).length = unitsSize fixed mask pre := by
  induction h with
  | nil => rfl
  | skip hm _ ih => rw [unitsSize, if_pos hm, Nat.zero_add]; exact ih
  | unit hm _ _ _ hu _ ih =>
    rw [unitsSize, if_neg hm, ← ih, ← hu.len]
    simp only [encUnits, List.length_cons, List.length_append]; omega

/-- the order check follows the frame's order from behind: `last_line` stays where it was at a line the mask leaves out -/
theorem Stored.ordered {mask : Nat} {fixed : Bool} {ll ll' : Nat} {pre : List Sliced} {us : List DataUnit}
    (h : Stored mask fixed ll pre us ll') (rest : List Sliced) :
    ∀ L, ll ≤ L → Ordered L (pre ++ rest) → ∃ L', ll' ≤ L' ∧ Ordered L' rest := by
  induction h with
  | nil => exact fun L hL ho => ⟨L, hL, ho⟩
  | @skip ll ll' s _ _ _ _ ih =>
    intro L hL ho
    obtain ⟨h1, h2⟩ := (ordered_cons L s _).mp ho
    exact ih _ (by unfold nextLine; split <;> omega) h2
  | @unit ll ll' _ s _ _ _ _ _ _ _ _ _ ih =>
    intro L hL ho
    obtain ⟨h1, h2⟩ := (ordered_cons L s _).mp ho
    exact ih _ (by unfold nextLine; split <;> omega) h2

theorem insertSliced_accepts (mask : Nat) (fixed : Bool) (lines : List Sliced) (hwf : ∀ s ∈ lines, Sliced.WF s)
    (hperm : ∀ s ∈ lines, s.id &&& mask ≠ 0 → Permitted s) (pLeft lastLine lastDu L : Nat) (hL : lastLine ≤ L)
    (hord : Ordered L lines) (hfit : unitsSize fixed mask lines ≤ pLeft) :
    (insertSliced mask fixed pLeft lastLine lastDu lines).rest = []
    ∧ (insertSliced mask fixed pLeft lastLine lastDu lines).err = none
    ∧ (insertSliced mask fixed pLeft lastLine lastDu lines).out.length = unitsSize fixed mask lines
    ∧ (insertSliced mask fixed pLeft lastLine lastDu lines).pLeft = pLeft - unitsSize fixed mask lines := by
  obtain ⟨pre, us, ll', hpre, hS, R, hstop⟩ := insertSliced_stored mask fixed lines hwf pLeft lastLine lastDu
  have hleft := R.left
  rw [hS.size] at hleft
  generalize (insertSliced mask fixed pLeft lastLine lastDu lines).rest = rest at hpre hstop ⊢
  generalize (insertSliced mask fixed pLeft lastLine lastDu lines).err = e at hstop ⊢
  have hin : ∀ s r, rest = s :: r → s ∈ lines := fun s r h => by rw [hpre, h]; simp
  cases hstop with
  | done =>
    rw [List.append_nil] at hpre
    subst hpre
    exact ⟨rfl, rfl, by rw [R.enc, hS.size], hleft⟩
  | @order s r hm ho =>
    obtain ⟨L', hL', ho'⟩ := hS.ordered (s :: r) L hL (hpre ▸ hord)
    exact absurd ⟨ho.1, by omega⟩ ((ordered_cons L' s r).mp ho').1
  | @refused s r e hm hnp => exact absurd (hperm s (hin s r rfl) hm) hnp
  | @full s r hm _ _ hbig =>
    rw [hpre, unitsSize_append, unitsSize, if_neg hm] at hfit
    omega

/-- the data of a permitted ordered frame of sliced lines never ends one byte before a packet boundary: its size is
    `46 a + 16 b + 5 c` with at most one VPS line (16) and at most one Caption (21) and one WSS (23) line, all beyond `L` -/
theorem unitsSize_shape (mask : Nat) (lines : List Sliced) (hperm : ∀ s ∈ lines, s.id &&& mask ≠ 0 → Permitted s) :
    ∀ L, Ordered L lines → ∃ a b c, unitsSize false mask lines = 46 * a + 16 * b + 5 * c
      ∧ b ≤ 1 ∧ (16 ≤ L → b = 0) ∧ c ≤ 2 ∧ (21 ≤ L → c ≤ 1) ∧ (23 ≤ L → c = 0) := by
  induction lines with
  | nil => intro L _; exact ⟨0, 0, 0, rfl, by omega⟩
  | cons s rest ih =>
    intro L hord
    obtain ⟨hno, hnext⟩ := (ordered_cons L s rest).mp hord
    obtain ⟨a, b, c, he, hb⟩ := ih (fun x hx => hperm x (List.mem_cons_of_mem _ hx)) _ hnext
    have hL : L ≤ nextLine L s ∧ (s.line > 0 → nextLine L s = s.line ∧ L < s.line) := by unfold nextLine; split <;> omega
    generalize nextLine L s = L' at hb hL
    rw [unitsSize, he]
    by_cases hm : s.id &&& mask = 0
    · rw [if_pos hm]; exact ⟨a, b, c, by omega, by omega⟩
    rw [if_neg hm]
    have hp := hperm s (List.mem_cons_self ..) hm
    unfold Permitted at hp
    unfold unitSize
    rw [if_neg Bool.false_ne_true]
    rcases hp with ⟨hid, _⟩ | ⟨hid, hl⟩ | ⟨hid, hl⟩ | ⟨hid, hl⟩
    · rw [if_neg (by omega), if_pos hid]; exact ⟨a + 1, b, c, by omega, by omega⟩
    · rw [if_pos hid]; exact ⟨a, b + 1, c, by omega, by omega⟩
    · rw [if_neg (by omega), if_neg (by omega)]; exact ⟨a, b, c + 1, by omega, by omega⟩
    · rw [if_neg (by omega), if_neg (by omega)]; exact ⟨a, b, c + 1, by omega, by omega⟩

theorem unitsSize_fixed (mask : Nat) (lines : List Sliced) : unitsSize true mask lines % 46 = 0 := by
  induction lines with
  | nil => rfl
  | cons s rest ih =>
    simp only [unitsSize, unitSize, if_true]
    split <;> omega

end Zvbi.Mux
