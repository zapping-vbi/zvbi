import ZvbiModel.Mux.LemmasPes
/-!
# Lemmas: the multiplexer object (`vbi_dvb_mux_feed`), configuration invariant, TS packets
-/
namespace Zvbi.Mux
open Zvbi.Mux.EnParse

theorem cfgOK_default : CfgOK {} := ⟨by decide, by decide, by decide, by decide, by decide, by decide⟩

theorem newTs_some (pid : Nat) (m : Mux) (h : newTs pid = some m) : m = { cfg := { pid := pid } } ∧ 0x000F < pid ∧ pid < 0x1FFF := by
  unfold newTs at h
  split at h
  · cases h
  · exact ⟨(Option.some.inj h).symm, by omega⟩

theorem cfgOK_newTs (pid : Nat) (m : Mux) (h : newTs pid = some m) : CfgOK m.cfg := by
  rw [(newTs_some pid m h).1]
  constructor <;> simp [MAX_PES, validDataId]

theorem cfgOK_setDataIdentifier (m : Mux) (d : Nat) (h : CfgOK m.cfg) : CfgOK (setDataIdentifier m d).1.cfg := by
  unfold setDataIdentifier
  split
  · rename_i hd
    refine ⟨h.min184, h.minmax, h.max, h.minMod, h.maxMod, ?_⟩
    simp only [validDataId, Bool.or_eq_true, Bool.and_eq_true, decide_eq_true_eq]
    omega
  · exact h

theorem setDataIdentifier_cc (m : Mux) (d : Nat) : (setDataIdentifier m d).1.cc = m.cc := by
  unfold setDataIdentifier; split <;> rfl

theorem setDataIdentifier_pid (m : Mux) (d : Nat) : (setDataIdentifier m d).1.cfg.pid = m.cfg.pid := by
  unfold setDataIdentifier; split <;> rfl

theorem minSize_props (a : Nat) :
    let mn := if a < 184 then 184 else if a > 65504 then 65504 else (a + 183) - (a + 183) % 184
    184 ≤ mn ∧ mn ≤ 65504 ∧ mn % 184 = 0 := by
  intro mn
  simp only [mn]
  split
  · omega
  · split <;> omega

theorem maxSize_props (mn b : Nat) (h1 : 184 ≤ mn) (h2 : mn ≤ 65504) (h3 : mn % 184 = 0) :
    let mx := if b < mn then mn else if b > 65504 then 65504 else b - b % 184
    mn ≤ mx ∧ mx ≤ 65504 ∧ mx % 184 = 0 := by
  intro mx
  simp only [mx]
  split
  · omega
  · split <;> omega

theorem cfgOK_setPesPacketSize (m : Mux) (a b : Nat) (h : CfgOK m.cfg) : CfgOK (setPesPacketSize m a b).cfg := by
  unfold setPesPacketSize
  simp only [MAX_PES]
  obtain ⟨p1, p2, p3⟩ := minSize_props a
  obtain ⟨q1, q2, q3⟩ := maxSize_props _ b p1 p2 p3
  exact ⟨p1, q1, q2, p3, q3, h.did⟩

theorem dropPending_idem (m : Mux) : dropPending (dropPending m) = dropPending m := by
  unfold dropPending
  by_cases h : m.corOffset < m.corEnd
  · simp [h]
  · simp [h]

theorem dropPending_cfg (m : Mux) : (dropPending m).cfg = m.cfg := by unfold dropPending; split <;> rfl
theorem dropPending_cc (m : Mux) : (dropPending m).cc = m.cc := by unfold dropPending; split <;> rfl

theorem feed_unfold (m : Mux) (lines : List Sliced) (mask pts k : Nat) :
    feed m lines mask pts k =
      (match generatePes (dropPending m).cfg lines mask pts with
        | .error _ => (dropPending m, { ok := false, calls := [] })
        | .ok (pes, left) =>
          if left ≠ [] then (dropPending m, { ok := false, calls := [] })
          else if (dropPending m).cfg.pid = 0 then
            if k = 1 then (dropPending m, { ok := false, calls := [none] })
            else (dropPending m, { ok := true, calls := [some pes] })
          else
            let pkts := tsPackets (dropPending m).cfg.pid (dropPending m).cc pes
            if k ≥ 1 ∧ k ≤ pkts.length then
              ({ dropPending m with cc := ((dropPending m).cc + k) % 2 ^ 32 },
               { ok := false, calls := (pkts.take (k - 1)).map some ++ [none] })
            else
              ({ dropPending m with cc := ((dropPending m).cc + pkts.length) % 2 ^ 32 },
               { ok := true, calls := pkts.map some })) := rfl

theorem feed_dropPending (m : Mux) (lines : List Sliced) (mask pts k : Nat) :
    feed (dropPending m) lines mask pts k = feed m lines mask pts k := by
  rw [feed_unfold, feed_unfold, dropPending_idem]

theorem pid_bits (x : Nat) (h : x < 32) : (0x40 ||| x) = 64 + x ∧ (0 ||| x) = x :=
  ⟨Bits.mul_or 1 x 6 (by omega), Nat.zero_or x⟩

theorem tsGroup_tsLoop (pid : Nat) (hpid : pid < 0x2000) :
    ∀ (n : Nat) (first : Bool) (cc c : Nat) (pes rest : Bytes), pes.length = 184 * n → c % 16 = cc % 16 →
      tsGroup pid n first c ((tsLoop pid n first cc pes).flatten ++ rest) = some (pes, rest) := by
  intro n
  induction n with
  | zero =>
    intro first cc c pes rest hl _
    have : pes = [] := List.eq_nil_of_length_eq_zero (by omega)
    subst this
    simp [tsLoop, tsGroup]
  | succ n ih =>
    intro first cc c pes rest hl hc
    obtain ⟨hb1, hb0⟩ := pid_bits (pid / 256) (by omega)
    have htake : (pes.take 184).length = 184 := by rw [List.length_take]; omega
    have hdrop : (pes.drop 184).length = 184 * n := by rw [List.length_drop]; omega
    have hih := ih false ((cc + 1) % 2 ^ 32) (c + 1) (pes.drop 184) rest hdrop (by omega)
    generalize htl : (tsLoop pid n false ((cc + 1) % 2 ^ 32) (pes.drop 184)).flatten ++ rest = tl at hih
    have e : (tsLoop pid (n + 1) first cc pes).flatten ++ rest
        = 0x47 :: ((if first then 0x40 else 0) ||| pid / 256) % 256 :: pid % 256 :: (0x10 + cc % 16) :: (pes.take 184 ++ tl) := by
      simp only [tsLoop, tsHeader, List.flatten_cons, List.cons_append, List.nil_append, List.append_assoc,
        Nat.shiftRight_eq_div_pow, Nat.reducePow, Bits.and_0F, htl]
    have hle : 184 ≤ (pes.take 184).length := by omega
    have hge : (pes.take 184).length ≤ 184 := by omega
    rw [e, tsGroup, List.drop_append_of_le_length hle, List.drop_of_length_le hge, List.nil_append, hih,
      List.take_append_of_le_length hle, List.take_of_length_le hge]
    refine (if_pos ⟨rfl, ?_, ?_, ?_, by omega, by omega, by rw [List.length_append]; omega⟩).trans ?_
    · show some (pes.take 184 ++ pes.drop 184, rest) = _
      rw [List.take_append_drop]
    all_goals cases first <;> simp only [Bool.false_eq_true, if_false, if_true, iff_false, iff_true] <;> omega

theorem tsPackets_eq (pid cc : Nat) (pes : Bytes) (h184 : pes.length % 184 = 0) (hpos : 0 < pes.length) :
    tsPackets pid cc pes = tsLoop pid (pes.length / 184) true cc pes := by
  unfold tsPackets
  congr 1
  omega

theorem tsLoop_length (pid : Nat) : ∀ (n : Nat) (first : Bool) (cc : Nat) (pes : Bytes),
    (tsLoop pid n first cc pes).length = n := by
  intro n
  induction n with
  | zero => intros; rfl
  | succ n ih => intros; simp [tsLoop, ih]

theorem filterMap_id_map_some (l : List Bytes) : List.filterMap id (l.map some) = l := by
  induction l with
  | nil => rfl
  | cons a l ih => simp [ih]

end Zvbi.Mux
