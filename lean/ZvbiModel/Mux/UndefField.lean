import ZvbiModel.Mux.LemmasPes
/-!
# Field parity of the data units of a frame without raw line requests

The multiplexer's half of the round trip of lines with the undefined line number 0 (`mux_demux_roundtrip_undef_full`): the
field parity `insert_sliced_data_units` writes (for an undefined line: the field of the last defined line sent before it,
`lofpOf`) never goes back from the second to the first field inside a packet.
-/
namespace Zvbi.Mux
open Zvbi.Mux.EnParse

/-- field_parity of a data unit (bit 5 of the byte that holds reserved / field_parity / line_offset): `true` = first field -/
def unitFirstField (u : DataUnit) : Bool := u.payload.getD 0 0 / 32 % 2 == 1

/-- inside one packet the field parity never goes back from "second field" to "first field" (`sec`: a second-field unit was
    seen): EN 301 775 4.5.2 "the toggling of the field_parity flag indicates a new field", and the condition under which
    `line_address` of the demultiplexer accepts a unit with the undefined line_offset 0 (dvb_demux.c:603-614) -/
def FieldsAscend : Bool → List DataUnit → Prop
  | _, [] => True
  | sec, u :: us => (sec = true → unitFirstField u = false) ∧ FieldsAscend (sec || !unitFirstField u) us

instance decFieldsAscend : (b : Bool) → (us : List DataUnit) → Decidable (FieldsAscend b us)
  | _, [] => isTrue trivial
  | b, u :: us =>
    have := decFieldsAscend (b || !unitFirstField u) us
    inferInstanceAs (Decidable ((b = true → unitFirstField u = false) ∧ FieldsAscend (b || !unitFirstField u) us))

/-- `insert_sliced_data_units`: the field parities of the stored units ascend, starting from the field of `last_line` -/
theorem Stored.fields {mask : Nat} {fixed : Bool} {ll ll' : Nat} {pre : List Sliced} {us : List DataUnit}
    (h : Stored mask fixed ll pre us ll') : FieldsAscend (decide (ll ≥ 313)) us ∧ ∀ u ∈ us, u.payload ≠ [] := by
  induction h with
  | nil => exact ⟨trivial, nofun⟩
  | skip _ _ ih => exact ih
  | @unit lastLine ll' lofp s rest u us hm ho hp hl hu _ ih =>
    obtain ⟨h2, h3⟩ := ih
    have hpne : u.payload ≠ [] := by
      intro hnil
      have hlen := hu.len
      have := (unitSize_bounds fixed s).1
      rw [hnil] at hlen
      simp only [List.length_nil] at hlen
      omega
    -- the field of this unit is the field of `last_line` behind it
    have hfield : unitFirstField u = decide ¬ (nextLine lastLine s ≥ 313) := by
      unfold unitFirstField
      rw [hu.lofp]
      unfold nextLine at hl ⊢
      generalize hL : (if s.line > 0 then s.line else lastLine) = L at hl ⊢
      rcases lofpOf_cases s.line L with ⟨h0, hc⟩ | ⟨h0, h32, hc⟩ | ⟨h313, h345, hc⟩ | ⟨_, hc⟩ <;> rw [hc] at hl
      · obtain rfl := Except.ok.inj hl
        by_cases hc : L ≥ 313 <;> simp [hc]
      · obtain rfl := Except.ok.inj hl
        rw [if_pos h0] at hL
        rw [show (0xE0 + s.line) / 32 % 2 = 1 by omega]
        simp; omega
      · obtain rfl := Except.ok.inj hl
        rw [if_pos (by omega)] at hL
        rw [show (0xC0 + s.line - 313) / 32 % 2 = 0 by omega]
        simp; omega
      · cases hl
    refine ⟨⟨?_, ?_⟩, fun x hx => (List.mem_cons.mp hx).elim (· ▸ hpne) (h3 x)⟩
    · intro hsec
      rw [hfield]
      have hsec' : lastLine ≥ 313 := by simpa using hsec
      unfold nextLine
      by_cases hpos : s.line > 0
      · have : s.line > lastLine := by omega
        simp [hpos]; omega
      · simp [hpos, hsec']
    · have : (decide (lastLine ≥ 313) || !unitFirstField u) = decide (nextLine lastLine s ≥ 313) := by
        rw [hfield]
        unfold nextLine
        by_cases hpos : s.line > 0
        · have : s.line > lastLine := by omega
          simp only [hpos, if_true]
          by_cases h313 : s.line ≥ 313 <;> by_cases hll : lastLine ≥ 313 <;> simp [h313, hll] <;> omega
        · simp only [hpos, if_false]
          by_cases hll : lastLine ≥ 313 <;> simp [hll]
      rw [this]; exact h2

theorem fieldsAscend_padLast : ∀ (us : List DataUnit) (b : Bool), (∀ u ∈ us, u.payload ≠ []) → FieldsAscend b us →
    FieldsAscend b (padLast us)
  | [], _, _, _ => trivial
  | [u], b, hp, h => by
    have hne := hp u (List.mem_singleton.mpr rfl)
    have e : unitFirstField ⟨u.id, u.payload ++ [0xFF]⟩ = unitFirstField u := by
      unfold unitFirstField
      cases hpl : u.payload with
      | nil => exact absurd hpl hne
      | cons a t => simp
    exact ⟨by rw [e]; exact h.1, trivial⟩
  | u :: v :: us, b, hp, h => by
    refine ⟨h.1, ?_⟩
    exact fieldsAscend_padLast (v :: us) _ (fun x hx => hp x (List.mem_cons_of_mem _ hx)) h.2

theorem padLast_ids : ∀ (us : List DataUnit), (∀ u ∈ us, u.id ≠ 0xFF) → ∀ u ∈ padLast us, u.id ≠ 0xFF
  | [], _ => by intro u hu; cases hu
  | [v], h => by
    intro u hu
    simp only [padLast, List.mem_singleton] at hu
    rw [hu]; exact h v (List.mem_singleton.mpr rfl)
  | a :: v :: us, h => by
    intro u hu
    simp only [padLast] at hu
    rcases List.mem_cons.mp hu with rfl | hu
    · exact h _ (List.mem_cons_self ..)
    · exact padLast_ids (v :: us) (fun x hx => h x (List.mem_cons_of_mem _ hx)) u hu

/-- the data unit region of the PES packet of an accepted frame without raw line requests: the units of the selected
    lines with ascending field parity, then stuffing -/
theorem generatePes_fields (cfg : Cfg) (hc : CfgOK cfg) (lines : List Sliced) (mask pts : Nat)
    (hwf : ∀ s ∈ lines, Sliced.WF s) (hnr : NoRaw lines) (pes : Bytes)
    (hg : generatePes cfg lines mask pts = .ok (pes, [])) :
    ∃ us st, parseUnits (pes.drop 46) = some (us ++ st) ∧ (∀ u ∈ st, IsStuffing (fixedLengthFormat cfg.dataId) u)
      ∧ (∀ u ∈ us, u.id ≠ 0xFF) ∧ unitsLines us = some (sent mask lines) ∧ FieldsAscend false us := by
  obtain ⟨us, ll', us₁, st, pLeft, hS, hpes, S, _⟩ := generatePes_units cfg hc lines mask pts hwf hnr pes hg
  obtain ⟨h2, h3, _⟩ := hS.units
  obtain ⟨hfa, g3⟩ := hS.fields
  have hdrop : pes.drop 46 = encUnits (us₁ ++ st) := by
    rw [← hpes]
    exact List.drop_left' (length_pesHeader _ pts cfg.dataId)
  refine ⟨us₁, st, by rw [hdrop]; exact parseUnits_encUnits _, S.stuffing, ?_⟩
  rcases S.pad with rfl | ⟨_, rfl, _⟩
  · exact ⟨fun u hu => (h3 u hu).id, h2, hfa⟩
  · exact ⟨padLast_ids _ fun u hu => (h3 u hu).id, by rw [unitsLines_padLast _ fun u hu => (h3 u hu).line]; exact h2,
      fieldsAscend_padLast _ false g3 hfa⟩

end Zvbi.Mux
