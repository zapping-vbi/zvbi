import ZvbiModel.Mux.Model
/-!
# Lemmas: the TS loop of `vbi_dvb_mux_cor` (`corTsLoop`) emits the bytes of `tsLoop`

`vbi_dvb_mux_feed` writes a TS header in front of each 184-byte slice of the PES packet and
hands the 188 bytes to the callback.  `vbi_dvb_mux_cor` does the same lazily: whenever the
current TS packet is exhausted (`ts_left == 0`) it overwrites the four bytes before the current
offset (PES bytes which were already copied out, or the four spare bytes the first time) with
the next header, and then copies `min (p_left, ts_left)` bytes.  `TsInv` is the loop invariant:
the rest `R` of the output still to be produced is the rest `cur` of the current TS packet,
which is in the buffer at `offset`, followed by the TS packets of the PES bytes after it.
-/
namespace Zvbi.Mux

theorem length_tsHeader (pid cc : Nat) (first : Bool) : (tsHeader pid cc first).length = 4 := rfl

theorem tsLoop_flatten_length (pid : Nat) : ∀ (r : Nat) (first : Bool) (cc : Nat) (rest : Bytes),
    rest.length = 184 * r → (tsLoop pid r first cc rest).flatten.length = 188 * r := by
  intro r
  induction r with
  | zero => intros; rfl
  | succ r ih =>
    intro first cc rest hl
    have h1 : (rest.take 184).length = 184 := by rw [List.length_take]; omega
    have h2 : (rest.drop 184).length = 184 * r := by rw [List.length_drop]; omega
    simp only [tsLoop, List.flatten_cons, List.length_append, length_tsHeader, h1, ih false _ _ h2]
    omega

/-- the loop invariant of the TS branch of `vbi_dvb_mux_cor`; `R` = output still to be produced,
    `ccEnd` = the continuity counter after the last TS packet; the clause `r = 0 → cc < 2 ^ 32` is there so that at the end
    (`r = 0`) `ccEnd = (cc + 0) % 2 ^ 32` is `cc` itself -/
def TsInv (pid corEnd ccEnd : Nat) (R packet : Bytes) (cc offset tsLeft : Nat) : Prop :=
  ∃ (r : Nat) (cur rest : Bytes) (first : Bool),
    cur.length = tsLeft ∧ rest.length = 184 * r
    ∧ packet.drop offset = cur ++ rest
    ∧ packet.length = corEnd
    ∧ offset + tsLeft + 184 * r = corEnd
    ∧ 4 ≤ offset + tsLeft
    ∧ (first = true ↔ offset + tsLeft = 4)
    ∧ R = cur ++ (tsLoop pid r first cc rest).flatten
    ∧ ccEnd = (cc + r) % 2 ^ 32
    ∧ (r = 0 → cc < 2 ^ 32)

theorem TsInv.length {pid corEnd ccEnd : Nat} {R packet : Bytes} {cc offset tsLeft : Nat}
    (h : TsInv pid corEnd ccEnd R packet cc offset tsLeft) : R.length + offset = corEnd + 4 * ((corEnd - offset - tsLeft) / 184) := by
  obtain ⟨r, cur, rest, first, h1, h2, _, _, h5, _, _, h8, _, _⟩ := h
  rw [h8, List.length_append, tsLoop_flatten_length pid r first cc rest h2, h1]
  omega

theorem TsInv.nil_iff {pid corEnd ccEnd : Nat} {R packet : Bytes} {cc offset tsLeft : Nat}
    (h : TsInv pid corEnd ccEnd R packet cc offset tsLeft) : R = [] ↔ offset ≥ corEnd := by
  have hl := h.length
  rw [← List.length_eq_zero_iff]
  constructor <;> intro h0 <;> omega

theorem TsInv.cc_end {pid corEnd ccEnd : Nat} {packet : Bytes} {cc offset tsLeft : Nat}
    (h : TsInv pid corEnd ccEnd [] packet cc offset tsLeft) : cc = ccEnd := by
  have hl := h.length
  obtain ⟨r, _, _, _, _, _, _, _, h5, _, _, _, h9, h10⟩ := h
  have hr : r = 0 := by rw [List.length_nil] at hl; omega
  have := h10 hr
  subst hr
  rw [h9]; simp only [Nat.add_zero]; exact (Nat.mod_eq_of_lt this).symm

/-- the state right after `generate_pes_packet`: buffer `[4 spare bytes] ++ pes`, offset 4, `ts_left = 0` -/
theorem TsInv.init (pid cc : Nat) (pes : Bytes) (n : Nat) (hl : pes.length = 184 * n) (hn : 0 < n) :
    TsInv pid (pes.length + 4) ((cc + n) % 2 ^ 32) (tsLoop pid n true cc pes).flatten ([0, 0, 0, 0] ++ pes) cc 4 0 := by
  refine ⟨n, [], pes, true, rfl, hl, ?_, ?_, by omega, by omega, by simp, by simp, rfl, by omega⟩
  · simp
  · simp only [List.length_append, List.length_cons, List.length_nil]; omega

theorem corTsLoop_zero_tsLeft (pid corEnd fuel : Nat) (packet : Bytes) (cc offset pLeft : Nat) (acc : Bytes) :
    corTsLoop pid corEnd (fuel + 1) packet cc offset 0 pLeft acc
      = corTsLoop pid corEnd (fuel + 1) (putHeader packet (offset - 4) (tsHeader pid cc (offset - 4 == 0)))
          ((cc + 1) % 2 ^ 32) (offset - 4) 188 pLeft acc := by
  rw [corTsLoop, corTsLoop]
  simp only [if_true, Nat.reduceEqDiff, if_false]

theorem corTsLoop_pos_tsLeft (pid corEnd fuel : Nat) (packet : Bytes) (cc offset tsLeft pLeft : Nat) (acc : Bytes)
    (h : tsLeft ≠ 0) :
    corTsLoop pid corEnd (fuel + 1) packet cc offset tsLeft pLeft acc
      = if pLeft - min pLeft tsLeft > 0 ∧ offset + min pLeft tsLeft < corEnd then
          corTsLoop pid corEnd fuel packet cc (offset + min pLeft tsLeft) (tsLeft - min pLeft tsLeft)
            (pLeft - min pLeft tsLeft) (acc ++ (packet.drop offset).take (min pLeft tsLeft))
        else (packet, cc, offset + min pLeft tsLeft, tsLeft - min pLeft tsLeft,
              acc ++ (packet.drop offset).take (min pLeft tsLeft)) := by
  rw [corTsLoop]
  simp only [if_neg h]

/-- writing the next TS header: same remaining output, now with 188 bytes of the current packet -/
theorem TsInv.header {pid corEnd ccEnd : Nat} {R packet : Bytes} {cc offset : Nat}
    (h : TsInv pid corEnd ccEnd R packet cc offset 0) (hne : R ≠ []) :
    TsInv pid corEnd ccEnd R (putHeader packet (offset - 4) (tsHeader pid cc (offset - 4 == 0)))
      ((cc + 1) % 2 ^ 32) (offset - 4) 188 := by
  obtain ⟨r, cur, rest, first, h1, h2, h3, h4, h5, h6, h7, h8, h9, h10⟩ := h
  have hcur : cur = [] := List.eq_nil_of_length_eq_zero h1
  subst hcur
  simp only [List.nil_append] at h3 h8
  cases r with
  | zero => rw [h8] at hne; exact absurd rfl hne
  | succ r =>
    have hfirst : (offset - 4 == 0) = first := by
      cases first with
      | true => have := h7.1 rfl; simp only [beq_iff_eq]; omega
      | false =>
        have : ¬ (offset + 0 = 4) := fun hh => by have := h7.2 hh; cases this
        simp only [beq_eq_false_iff_ne, ne_eq]; omega
    rw [hfirst]
    have ht : (rest.take 184).length = 184 := by rw [List.length_take]; omega
    have hd : (rest.drop 184).length = 184 * r := by rw [List.length_drop]; omega
    have hoff : offset - 4 + 4 = offset := by omega
    have htk : (packet.take (offset - 4)).length = offset - 4 := by rw [List.length_take]; omega
    refine ⟨r, tsHeader pid cc first ++ rest.take 184, rest.drop 184, false, ?_, hd, ?_, ?_, by omega, by omega,
      ?_, ?_, by omega, by intro _; omega⟩
    · rw [List.length_append, length_tsHeader, ht]
    · unfold putHeader
      rw [hoff, h3, List.append_assoc, List.drop_left' htk, List.append_assoc, List.take_append_drop]
    · unfold putHeader
      rw [List.length_append, List.length_append, htk, length_tsHeader, List.length_drop]
      omega
    · constructor
      · intro hh; cases hh
      · intro hh; omega
    · rw [h8]; simp only [tsLoop, List.flatten_cons, List.append_assoc]

theorem TsInv.copy {pid corEnd ccEnd : Nat} {R packet : Bytes} {cc offset tsLeft : Nat}
    (h : TsInv pid corEnd ccEnd R packet cc offset tsLeft) (size : Nat) (hs : size ≤ tsLeft) :
    (packet.drop offset).take size = R.take size
    ∧ TsInv pid corEnd ccEnd (R.drop size) packet cc (offset + size) (tsLeft - size) := by
  obtain ⟨r, cur, rest, first, h1, h2, h3, h4, h5, h6, h7, h8, h9, h10⟩ := h
  have hsc : size ≤ cur.length := by omega
  constructor
  · rw [h3, h8, List.take_append_of_le_length hsc, List.take_append_of_le_length hsc]
  · refine ⟨r, cur.drop size, rest, first, ?_, h2, ?_, h4, by omega, by omega, ?_, ?_, h9, h10⟩
    · rw [List.length_drop]; omega
    · rw [← List.drop_drop, h3, List.drop_append_of_le_length hsc]
    · rw [h7]; omega
    · rw [h8, List.drop_append_of_le_length hsc]

/-- what `fuel > p_left` iterations achieve: the next `p_left` bytes of the TS packet sequence (or all that is left), and the
    invariant again.  The fuel suffices because every iteration copies at least one byte: writing a TS header and copying
    are ONE iteration of the model (`corTsLoop_zero_tsLeft` re-enters at the same fuel) -/
def LoopSpec (pid corEnd ccEnd fuel : Nat) : Prop :=
  ∀ (packet : Bytes) (cc offset tsLeft pLeft : Nat) (acc R : Bytes),
    TsInv pid corEnd ccEnd R packet cc offset tsLeft → R ≠ [] → 0 < pLeft → pLeft < fuel →
    ∃ packet' cc' offset' tsLeft',
      corTsLoop pid corEnd fuel packet cc offset tsLeft pLeft acc = (packet', cc', offset', tsLeft', acc ++ R.take pLeft)
      ∧ TsInv pid corEnd ccEnd (R.drop pLeft) packet' cc' offset' tsLeft'

theorem loopSpec_step_pos (pid corEnd ccEnd fuel : Nat) (ih : LoopSpec pid corEnd ccEnd fuel)
    (packet : Bytes) (cc offset tsLeft pLeft : Nat) (acc R : Bytes)
    (hinv : TsInv pid corEnd ccEnd R packet cc offset tsLeft) (hts : tsLeft ≠ 0) (hp : 0 < pLeft)
    (hf : pLeft < fuel + 1) :
    ∃ packet' cc' offset' tsLeft',
      corTsLoop pid corEnd (fuel + 1) packet cc offset tsLeft pLeft acc
        = (packet', cc', offset', tsLeft', acc ++ R.take pLeft)
      ∧ TsInv pid corEnd ccEnd (R.drop pLeft) packet' cc' offset' tsLeft' := by
  rw [corTsLoop_pos_tsLeft pid corEnd fuel packet cc offset tsLeft pLeft acc hts]
  have hsz : min pLeft tsLeft ≤ tsLeft := Nat.min_le_right _ _
  have hszp : 0 < min pLeft tsLeft := by omega
  obtain ⟨hout, hinv'⟩ := hinv.copy (min pLeft tsLeft) hsz
  rw [hout]
  by_cases hc : pLeft - min pLeft tsLeft > 0 ∧ offset + min pLeft tsLeft < corEnd
  · rw [if_pos hc]
    have hne' : R.drop (min pLeft tsLeft) ≠ [] := by
      intro hn
      have := (hinv'.nil_iff).1 hn
      omega
    obtain ⟨p', c', o', t', heq, hinv''⟩ :=
      ih packet cc (offset + min pLeft tsLeft) (tsLeft - min pLeft tsLeft) (pLeft - min pLeft tsLeft)
        (acc ++ R.take (min pLeft tsLeft)) (R.drop (min pLeft tsLeft)) hinv' hne' hc.1 (by omega)
    refine ⟨p', c', o', t', ?_, ?_⟩
    · rw [heq, List.append_assoc, ← List.take_add]
      have : min pLeft tsLeft + (pLeft - min pLeft tsLeft) = pLeft := by omega
      rw [this]
    · rw [List.drop_drop] at hinv''
      have : min pLeft tsLeft + (pLeft - min pLeft tsLeft) = pLeft := by omega
      rw [this] at hinv''
      exact hinv''
  · rw [if_neg hc]
    refine ⟨packet, cc, offset + min pLeft tsLeft, tsLeft - min pLeft tsLeft, ?_, ?_⟩
    · by_cases hle : pLeft ≤ tsLeft
      · rw [Nat.min_eq_left hle]
      · -- the TS packet and the PES packet end here
        have hnil : R.drop (min pLeft tsLeft) = [] := (hinv'.nil_iff).2 (by omega)
        have hlen : R.length ≤ min pLeft tsLeft := List.drop_eq_nil_iff.1 hnil
        rw [List.take_of_length_le hlen, List.take_of_length_le (by omega)]
    · by_cases hle : pLeft ≤ tsLeft
      · rw [Nat.min_eq_left hle] at hinv' ⊢; exact hinv'
      · have hnil : R.drop (min pLeft tsLeft) = [] := (hinv'.nil_iff).2 (by omega)
        have hlen : R.length ≤ min pLeft tsLeft := List.drop_eq_nil_iff.1 hnil
        have : R.drop pLeft = R.drop (min pLeft tsLeft) := by
          rw [hnil]; exact List.drop_of_length_le (by omega)
        rw [this]; exact hinv'

theorem corTsLoop_spec (pid corEnd ccEnd : Nat) : ∀ fuel, LoopSpec pid corEnd ccEnd fuel := by
  intro fuel
  induction fuel with
  | zero => intro packet cc offset tsLeft pLeft acc R _ _ _ hf; omega
  | succ fuel ih =>
    intro packet cc offset tsLeft pLeft acc R hinv hne hp hf
    by_cases hts : tsLeft = 0
    · subst hts
      rw [corTsLoop_zero_tsLeft]
      exact loopSpec_step_pos pid corEnd ccEnd fuel ih _ _ _ 188 pLeft acc R (hinv.header hne) (by omega) hp hf
    · exact loopSpec_step_pos pid corEnd ccEnd fuel ih packet cc offset tsLeft pLeft acc R hinv hts hp hf

end Zvbi.Mux
