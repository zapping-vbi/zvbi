import ZvbiModel.Mux.NullFeed
/-!
# Lemmas: whole streams (histories of frames and configuration changes)
-/
namespace Zvbi.Mux
open Zvbi.Mux.EnParse

theorem parsePes_sizefield (bs : Bytes) (p : Pes) (h : parsePes bs = some p) :
    bs.getD 4 0 * 256 + bs.getD 5 0 + 6 = bs.length ∧ bs.length % 184 = 0 ∧ 0 < bs.length := by
  rw [parsePes_eq] at h
  cases hh : parseHdr bs with
  | none => rw [hh] at h; cases h
  | some x =>
    obtain ⟨h1, h2, _⟩ := parseHdr_some bs x.1 x.2.1 x.2.2 hh
    exact ⟨h1, h2, by omega⟩

theorem pesStreamF_fuel : ∀ (f1 f2 : Nat) (bs : Bytes), bs.length ≤ f1 → bs.length ≤ f2 →
    pesStreamF f1 bs = pesStreamF f2 bs := by
  intro f1
  induction f1 with
  | zero =>
    intro f2 bs h1 _
    have : bs = [] := List.eq_nil_of_length_eq_zero (by omega)
    subst this
    cases f2 <;> rfl
  | succ f1 ih =>
    intro f2 bs h1 h2
    cases bs with
    | nil => cases f2 <;> rfl
    | cons b bs =>
      cases f2 with
      | zero => simp at h2
      | succ f2 =>
        simp only [pesStreamF]
        split
        · rfl
        · rename_i hsz
          have hd : ((b :: bs).drop ((b :: bs).getD 4 0 * 256 + (b :: bs).getD 5 0 + 6)).length ≤ bs.length := by
            rw [List.length_drop]; simp only [List.length_cons]; omega
          simp only [List.length_cons] at h1 h2
          rw [ih f2 _ (by omega) (by omega)]

theorem pesStream_cons (pk rest : Bytes) (p : Pes) (h : parsePes pk = some p) :
    pesStream (pk ++ rest) = (pesStream rest).map (p :: ·) := by
  obtain ⟨hsz, _, hpos⟩ := parsePes_sizefield pk p h
  have g4 : (pk ++ rest).getD 4 0 = pk.getD 4 0 := by
    simp [List.getD_eq_getElem?_getD, List.getElem?_append_left (show 4 < pk.length by omega)]
  have g5 : (pk ++ rest).getD 5 0 = pk.getD 5 0 := by
    simp [List.getD_eq_getElem?_getD, List.getElem?_append_left (show 5 < pk.length by omega)]
  have hl : (pk ++ rest).length = (pk.length + rest.length - 1) + 1 := by rw [List.length_append]; omega
  unfold pesStream
  rw [hl, pesStreamF.eq_3 _ _ (fun hn => by rw [hn] at hl; cases hl), g4, g5, hsz, if_neg (by rw [List.length_append]; omega),
    List.take_append_of_le_length (Nat.le_refl _), List.take_of_length_le (Nat.le_refl _),
    List.drop_append_of_le_length (Nat.le_refl _), List.drop_of_length_le (Nat.le_refl _), List.nil_append, h,
    pesStreamF_fuel (pk.length + rest.length - 1) rest.length rest (by omega) (Nat.le_refl _)]
  cases pesStreamF rest.length rest <;> rfl

theorem step_cfg (m : Mux) (op : Op) :
    (CfgOK m.cfg → CfgOK (step m op).1.cfg) ∧ (step m op).1.cfg.pid = m.cfg.pid := by
  cases op with
  | frame lines mask pts =>
    rw [show (step m (.frame lines mask pts)).1.cfg = m.cfg from feed_cfg m lines mask pts]
    exact ⟨id, rfl⟩
  | dataId d =>
    exact ⟨cfgOK_setDataIdentifier m d, setDataIdentifier_pid m d⟩
  | size a b => exact ⟨cfgOK_setPesPacketSize m a b, rfl⟩

/-- one accepted frame of a history: the configuration it met, its arguments, its PES packet -/
structure Accepted where
  cfg : Cfg
  lines : List Sliced
  mask : Nat
  pts : Nat
  pes : Bytes

def Accepted.OK (f : Accepted) : Prop :=
  (∀ s ∈ f.lines, Sliced.WF s) ∧ NoRaw f.lines ∧ generatePes f.cfg f.lines f.mask f.pts = .ok (f.pes, [])

/-- what the receiver is to get for the frame -/
def Accepted.sent (f : Accepted) : Sent := ⟨f.pts % 2 ^ 33, f.cfg.dataId, EnParse.sent f.mask f.lines⟩

/-- what the independent reader makes of the frame's packet -/
def Accepted.read (f : Accepted) : Pes := ⟨f.pts % 2 ^ 33, f.cfg.dataId, f.pes.length, EnParse.sent f.mask f.lines⟩

theorem Accepted.OK.parse {f : Accepted} (h : f.OK) (hc : CfgOK f.cfg) : parsePes f.pes = some f.read :=
  (generatePes_ok f.cfg hc f.lines f.mask f.pts h.1 h.2.1 f.pes h.2.2).1

/-- what the callback gets for consecutive PES packets, and the continuity counter afterwards: the packets themselves
    (PES mode, `pid = 0`) or their TS packets -/
def emitAll (pid : Nat) : Nat → List Bytes → Bytes × Nat
  | cc, [] => ([], cc)
  | cc, pk :: pks =>
    if pid = 0 then (pk ++ (emitAll pid cc pks).1, (emitAll pid cc pks).2)
    else ((tsPackets pid cc pk).flatten ++ (emitAll pid ((cc + (tsPackets pid cc pk).length) % 2 ^ 32) pks).1,
          (emitAll pid ((cc + (tsPackets pid cc pk).length) % 2 ^ 32) pks).2)

/-- every history, either mode: its output and its continuity counter are those of the packets of the accepted frames, in
    order; rejected frames and configuration changes leave no trace in them -/
theorem run_frames (ops : List Op) (hops : ∀ op ∈ ops, Op.OK op) :
    ∀ m, ∃ fs : List Accepted, (∀ f ∈ fs, f.OK ∧ f.cfg.pid = m.cfg.pid ∧ (CfgOK m.cfg → CfgOK f.cfg))
      ∧ (run m ops).2.2 = fs.map Accepted.sent
      ∧ (run m ops).2.1 = (emitAll m.cfg.pid m.cc (fs.map Accepted.pes)).1
      ∧ (run m ops).1.cc = (emitAll m.cfg.pid m.cc (fs.map Accepted.pes)).2 := by
  induction ops with
  | nil => intro m; exact ⟨[], nofun, rfl, rfl, rfl⟩
  | cons op ops ih =>
    intro m
    obtain ⟨hc1, hp1⟩ := step_cfg m op
    obtain ⟨fs, h1, h2, h3⟩ := ih (fun o ho => hops o (List.mem_cons_of_mem _ ho)) (step m op).1
    have h3 : _ ∧ _ := h3
    have hok := hops op (List.mem_cons_self ..)
    rw [hp1] at h1 h3
    replace h1 : ∀ f ∈ fs, f.OK ∧ f.cfg.pid = m.cfg.pid ∧ (CfgOK m.cfg → CfgOK f.cfg) :=
      fun f hf => ⟨(h1 f hf).1, (h1 f hf).2.1, fun hc => (h1 f hf).2.2 (hc1 hc)⟩
    simp only [run, h2]
    -- a step that emits nothing and keeps the counter
    have quiet : (step m op).2.1 = [] → (step m op).2.2 = [] → (step m op).1.cc = m.cc →
        ∃ gs : List Accepted, (∀ f ∈ gs, f.OK ∧ f.cfg.pid = m.cfg.pid ∧ (CfgOK m.cfg → CfgOK f.cfg))
          ∧ (step m op).2.2 ++ fs.map Accepted.sent = gs.map Accepted.sent
          ∧ (step m op).2.1 ++ (run (step m op).1 ops).2.1 = (emitAll m.cfg.pid m.cc (gs.map Accepted.pes)).1
          ∧ (run (step m op).1 ops).1.cc = (emitAll m.cfg.pid m.cc (gs.map Accepted.pes)).2 :=
      fun e1 e2 e3 => ⟨fs, h1, by rw [e2]; rfl, by rw [e1, ← e3]; exact h3.1, by rw [← e3]; exact h3.2⟩
    cases op with
    | dataId d => exact quiet rfl rfl (setDataIdentifier_cc m d)
    | size a b => exact quiet rfl rfl rfl
    | frame lines mask pts =>
      cases hacc : (feed m lines mask pts 0).2.ok with
      | false =>
        obtain ⟨hcalls, hst⟩ := feed_rejected m lines mask pts hacc
        exact quiet (by simp [step, FeedOut.allBytes, hcalls]) (by simp [step, hacc]) (by simp only [step, hst, dropPending_cc])
      | true =>
        obtain ⟨pes, hg, hpes, hts⟩ := feed_accepted m lines mask pts hacc
        refine ⟨⟨m.cfg, lines, mask, pts, pes⟩ :: fs, ?_, by simp [step, hacc, Accepted.sent], ?_⟩
        · intro f hf
          rcases List.mem_cons.mp hf with rfl | hf
          · exact ⟨⟨hok.1, hok.2, hg⟩, rfl, id⟩
          · exact h1 f hf
        · simp only [List.map_cons, emitAll]
          by_cases hp : m.cfg.pid = 0
          · obtain ⟨hcalls, hst⟩ := hpes hp
            rw [if_pos hp]
            rw [show (step m (.frame lines mask pts)).1.cc = m.cc from hst] at h3
            simp only [step, FeedOut.allBytes, hcalls] at h3 ⊢
            exact ⟨by simp [h3.1], h3.2⟩
          · obtain ⟨hcalls, hst⟩ := hts hp
            rw [if_neg hp]
            rw [show (step m (.frame lines mask pts)).1.cc = _ from hst] at h3
            simp only [step, FeedOut.allBytes, hcalls, filterMap_id_map_some] at h3 ⊢
            exact ⟨by rw [h3.1], h3.2⟩

theorem pes_history (ops : List Op) (hops : ∀ op ∈ ops, Op.OK op) :
    ∀ m, CfgOK m.cfg → m.cfg.pid = 0 →
      ∃ ps, pesStream (run m ops).2.1 = some ps ∧ ps.map Pes.content = (run m ops).2.2 := by
  intro m hc hp
  obtain ⟨fs, h1, h2, h3, h4⟩ := run_frames ops hops m
  rw [h2, h3, hp]
  refine ⟨fs.map Accepted.read, ?_, by rw [List.map_map]; rfl⟩
  clear h2 h3 h4
  induction fs with
  | nil => rfl
  | cons f fs ih =>
    have hf := h1 f (List.mem_cons_self ..)
    simp only [List.map_cons, emitAll, if_true]
    rw [pesStream_cons _ _ _ (hf.1.parse (hf.2.2 hc)), ih fun g hg => h1 g (List.mem_cons_of_mem _ hg)]
    rfl

theorem tsGroup_length (pid : Nat) : ∀ (n : Nat) (first : Bool) (cc : Nat) (bs payload rest : Bytes),
    tsGroup pid n first cc bs = some (payload, rest) → bs.length = 188 * n + rest.length := by
  intro n
  induction n with
  | zero =>
    intro first cc bs payload rest h
    simp only [tsGroup, Option.some.injEq, Prod.mk.injEq] at h
    rw [h.2]; omega
  | succ n ih =>
    intro first cc bs payload rest h
    match bs, h with
    | sync :: b1 :: b2 :: b3 :: tail, h =>
      rw [tsGroup] at h
      split at h
      · rename_i hc
        cases hr : tsGroup pid n false (cc + 1) (tail.drop 184) with
        | none => rw [hr] at h; simp at h
        | some r =>
          obtain ⟨p, r'⟩ := r
          rw [hr] at h
          simp only [Option.some.injEq, Prod.mk.injEq] at h
          have := ih false (cc + 1) (tail.drop 184) p r' hr
          rw [List.length_drop] at this
          rw [← h.2]
          simp only [List.length_cons]
          omega
      · cases h
    | [], h => simp [tsGroup] at h
    | [_], h => simp [tsGroup] at h
    | [_, _], h => simp [tsGroup] at h
    | [_, _, _], h => simp [tsGroup] at h

theorem tsStreamF_fuel (pid : Nat) : ∀ (f1 f2 cc : Nat) (bs : Bytes), bs.length ≤ f1 → bs.length ≤ f2 →
    tsStreamF pid f1 cc bs = tsStreamF pid f2 cc bs := by
  intro f1
  induction f1 with
  | zero =>
    intro f2 cc bs h1 _
    have : bs = [] := List.eq_nil_of_length_eq_zero (by omega)
    subst this
    cases f2 <;> rfl
  | succ f1 ih =>
    intro f2 cc bs h1 h2
    cases bs with
    | nil => cases f2 <;> rfl
    | cons b bs =>
      cases f2 with
      | zero => simp at h2
      | succ f2 =>
        simp only [tsStreamF]
        split
        · rfl
        · rename_i hsz
          cases hg : tsGroup pid (((b :: bs).getD 8 0 * 256 + (b :: bs).getD 9 0 + 6) / 184) true cc (b :: bs) with
          | none => rfl
          | some r =>
            obtain ⟨payload, rest⟩ := r
            have hl := tsGroup_length pid _ _ _ _ _ _ hg
            simp only []
            have hn : 1 ≤ ((b :: bs).getD 8 0 * 256 + (b :: bs).getD 9 0 + 6) / 184 := by omega
            simp only [List.length_cons] at h1 h2 hl
            rw [ih f2 _ rest (by omega) (by omega)]

theorem tsStream_cons (pid : Nat) (hpid : pid < 0x2000) (pes rest : Bytes) (p : Pes) (cc c : Nat)
    (h : parsePes pes = some p) (hc : c % 16 = cc % 16) :
    tsStream pid c ((tsPackets pid cc pes).flatten ++ rest)
      = (tsStream pid (c + pes.length / 184) rest).map fun r => (p :: r.1, r.2) := by
  obtain ⟨hsz, h184, hpos⟩ := parsePes_sizefield pes p h
  rw [tsPackets_eq pid cc pes h184 hpos]
  obtain ⟨n, hn⟩ : ∃ n, pes.length / 184 = n + 1 := ⟨pes.length / 184 - 1, by omega⟩
  have hlen : pes.length = 184 * (n + 1) := by omega
  have hgrp := tsGroup_tsLoop pid hpid (n + 1) true cc c pes rest hlen hc
  rw [hn]
  obtain ⟨t, hshape⟩ : ∃ t, (tsLoop pid (n + 1) true cc pes).flatten ++ rest
      = 0x47 :: ((0x40 ||| (pid >>> 8)) % 256) :: (pid % 256) :: (0x10 + (cc &&& 15)) :: (pes.take 184 ++ t) :=
    ⟨(tsLoop pid n false ((cc + 1) % 2 ^ 32) (pes.drop 184)).flatten ++ rest, by simp [tsLoop, tsHeader]⟩
  have htk : (pes.take 184).length = 184 := by rw [List.length_take]; omega
  have g8 : ((tsLoop pid (n + 1) true cc pes).flatten ++ rest).getD 8 0 = pes.getD 4 0 := by
    rw [hshape]
    simp only [List.getD_cons_succ]
    simp [List.getD_eq_getElem?_getD, List.getElem?_append_left (show 4 < (pes.take 184).length by omega)]
  have g9 : ((tsLoop pid (n + 1) true cc pes).flatten ++ rest).getD 9 0 = pes.getD 5 0 := by
    rw [hshape]
    simp only [List.getD_cons_succ]
    simp [List.getD_eq_getElem?_getD, List.getElem?_append_left (show 5 < (pes.take 184).length by omega)]
  have hl := tsGroup_length pid _ _ _ _ _ _ hgrp
  unfold tsStream
  obtain ⟨f, hf⟩ : ∃ f, ((tsLoop pid (n + 1) true cc pes).flatten ++ rest).length = f + 1 :=
    ⟨188 * (n + 1) + rest.length - 1, by rw [hl]; omega⟩
  rw [hf, tsStreamF.eq_3 _ _ _ _ (fun hnil => by rw [hnil] at hf; cases hf), g8, g9, hsz, if_neg (by omega), hn, hgrp]
  simp only [h]
  rw [tsStreamF_fuel pid f rest.length _ rest (by rw [hl] at hf; omega) (Nat.le_refl _)]
  cases tsStreamF pid rest.length (c + (n + 1)) rest with
  | none => rfl
  | some r => rfl

theorem ts_history (ops : List Op) (hops : ∀ op ∈ ops, Op.OK op) :
    ∀ m, CfgOK m.cfg → m.cfg.pid ≠ 0 → m.cfg.pid < 0x2000 → ∀ c, c % 16 = m.cc % 16 →
      ∃ ps, tsStream m.cfg.pid c (run m ops).2.1 = some (ps, (run m ops).1.cc % 16)
        ∧ ps.map Pes.content = (run m ops).2.2 := by
  intro m hcfg hp hp2 c hc
  obtain ⟨fs, h1, h2, h3, h4⟩ := run_frames ops hops m
  rw [h2, h3, h4]
  refine ⟨fs.map Accepted.read, ?_, by rw [List.map_map]; rfl⟩
  clear h2 h3 h4
  generalize m.cc = cc at hc
  induction fs generalizing cc c with
  | nil => simp only [List.map_nil, emitAll, tsStream, List.length_nil, tsStreamF, hc]
  | cons f fs ih =>
    have hparse := (h1 f (List.mem_cons_self ..)).1.parse ((h1 f (List.mem_cons_self ..)).2.2 hcfg)
    obtain ⟨_, h184, hpos⟩ := parsePes_sizefield _ _ hparse
    have hn : (tsPackets m.cfg.pid cc f.pes).length = f.pes.length / 184 := by
      rw [tsPackets_eq _ _ _ h184 hpos, tsLoop_length]
    simp only [List.map_cons, emitAll, if_neg hp]
    rw [tsStream_cons m.cfg.pid hp2 f.pes _ _ cc c hparse hc,
      ih (h1 := fun g hg => h1 g (List.mem_cons_of_mem _ hg)) (hc := by rw [hn]; omega)]
    rfl

end Zvbi.Mux
