import ZvbiModel.Mux.RawModel
/-!
# The source shape of the size computation of `generate_pes_packet`

`Mux.generatePesR` dispatches on `Zvbi.Gen.muxBumpBothPaths`, which translate/gen_muxflags.py reads from
src/dvb_mux.c on every run: where the test `1 == p_left && last_du_size >= 257` sits.  All lemmas about
`generatePesR` go through `generatePesR_both`; it is true only when the test follows both size branches (the
shape of /repo).  On a tree where the test was moved into the round-up branch this file - and with it every
theorem module of C06 that speaks about raw lines - stops building, while the model driver keeps following the
source (`generatePesRRound`), so that the correspondence check and the oracle still run and supply the failing
input (`Props/C06Fill.lean minfill_moved_counterexample`).
-/
namespace Zvbi.Mux

/-- the tree under test applies the 257 test after both the fill-up and the round-up branch -/
theorem bump_both_paths : Zvbi.Gen.muxBumpBothPaths = true := rfl

theorem generatePesR_both (keep : Bool) (cfg : Cfg) (st : RawSt) (lines : List Sliced) (mask : Nat) (raw : Option Bytes)
    (sp : Option Sp) (pts : Nat) :
    generatePesR keep cfg st lines mask raw sp pts = generatePesRBoth keep cfg st lines mask raw sp pts := rfl

end Zvbi.Mux
