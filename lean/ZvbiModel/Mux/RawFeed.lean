import ZvbiModel.Mux.PesShape
import ZvbiModel.Mux.RawPes
import ZvbiModel.Mux.LemmasFeed
/-!
# Lemmas: the PES packet of a frame with raw lines, `vbi_dvb_mux_feed` with `raw` / `sp`
-/
namespace Zvbi.Mux
open Zvbi.Mux.EnParse Zvbi.Mux.RawSpec

theorem length_encUnits_fixed' (us : List DataUnit) (h : ∀ u ∈ us, u.payload.length = 0x2C) :
    (encUnits us).length % 46 = 0 := length_encUnits_fixed us h

theorem parsePesR_eq (bs : Bytes) :
    parsePesR bs = (parseHdr bs).bind fun h =>
      ((unitsItems h.2.2).bind assemble).map fun os => ⟨h.1, h.2.1, bs.length, h.2.2, os⟩ := by
  unfold parsePesR parseHdr
  split
  · simp only []
    split
    · rfl
    split
    · rfl
    split
    · rfl
    rename_i rest _ _ _
    cases parsePts (rest.take 5) <;> cases parseUnits (rest.drop 37) <;> try rfl
    simp only
    split
    · rfl
    · simp only [Option.bind_some]
      cases ((unitsItems _).bind assemble) <;> rfl
  · rename_i hno
    split
    · exact (hno _ _ _ _ _ _ rfl).elim
    · rfl

/-- `generate_pes_packet` entered with no raw line half sent: the loop, then the stuffing step -/
theorem generatePesR_eq (keep : Bool) (cfg : Cfg) (st : RawSt) (hst : st.left = 0) (lines : List Sliced) (mask : Nat)
    (raw : Option Bytes) (sp : Option Sp) (pts : Nat) :
    generatePesR keep cfg st lines mask raw sp pts =
      match genLoopR keep mask (fixedLengthFormat cfg.dataId) raw sp (lines.length + 1) (cfg.maxSize - 46) 0 0 st lines with
      | .error e => .error e
      | .ok (out, lastDu, left, st') =>
        match encodeStuffing out (if keep = true ∧ pesFill cfg out.length = 1 ∧ lastDu ≥ 257 then pesFill cfg out.length + 184
            else pesFill cfg out.length) lastDu (fixedLengthFormat cfg.dataId) with
        | .error e => .error (.base e, left)
        | .ok body => .ok (pesHeader (46 + out.length + (if keep = true ∧ pesFill cfg out.length = 1 ∧ lastDu ≥ 257
            then pesFill cfg out.length + 184 else pesFill cfg out.length)) pts cfg.dataId ++ body, left, st') := by
  rw [generatePesR_both]
  unfold generatePesRBoth
  have hnl : ¬ st.left > 0 := by omega
  simp only [hnl, if_false]
  rfl

/-- main lemma: an accepted frame (sliced and raw lines) becomes one well-formed PES packet whose
    data units, read by `RawSpec`, reassemble to exactly the selected lines; both source shapes -/
theorem generatePesR_ok (keep : Bool) (cfg : Cfg) (hc : CfgOK cfg) (st : RawSt) (hst : st.left = 0)
    (lines : List Sliced) (mask : Nat) (raw : Option Bytes) (sp : Option Sp)
    (hsp : SpValid sp) (pts : Nat)
    (hwf : ∀ s ∈ lines, Sliced.WF s) (pes : Bytes) (st' : RawSt)
    (hg : generatePesR keep cfg st lines mask raw sp pts = .ok (pes, [], st')) :
    (∃ us, parsePesR pes = some ⟨pts % 2 ^ 33, cfg.dataId, pes.length, us,
        sentR mask (raw.getD []) (sp.getD dfltSp) lines⟩ ∧ ∀ u ∈ us, u.id ≠ 0xFF → u.payload.length ≤ 255)
    ∧ pes.length % 184 = 0 ∧ cfg.minSize ≤ pes.length ∧ pes.length ≤ cfg.maxSize
    ∧ (∀ s ∈ lines, s.id &&& mask ≠ 0 → PermittedAny raw sp s) ∧ st'.left = 0 := by
  rw [generatePesR_eq keep cfg st hst] at hg
  have hloop := genLoopR_region keep mask (fixedLengthFormat cfg.dataId) raw sp hsp _ (cfg.maxSize - 46) 0 0 st lines
    (Nat.lt_succ_self _) hwf hst
  cases hgl : genLoopR keep mask (fixedLengthFormat cfg.dataId) raw sp (lines.length + 1) (cfg.maxSize - 46) 0 0 st lines with
  | error e => rw [hgl] at hg; cases hg
  | ok r =>
    obtain ⟨out, lastDu, left, st''⟩ := r
    rw [hgl] at hg hloop
    obtain ⟨us, p', R, hcomplete⟩ := hloop
    simp only [] at hg
    generalize hpl : (if keep = true ∧ pesFill cfg out.length = 1 ∧ lastDu ≥ 257 then pesFill cfg out.length + 184
      else pesFill cfg out.length) = pLeft at hg
    cases hstf : encodeStuffing out pLeft lastDu (fixedLengthFormat cfg.dataId) with
    | error e => rw [hstf] at hg; cases hg
    | ok body =>
      rw [hstf] at hg
      simp only [Except.ok.injEq, Prod.mk.injEq] at hg
      obtain ⟨hpes, rfl, rfl⟩ := hg
      obtain ⟨hreads, hleft, h46, hperm⟩ := hcomplete rfl
      obtain ⟨us₁, stf, hes, S, h184, hlo, hhi⟩ := stuffing_done keep cfg hc R pLeft hpl fun hk _ => ⟨h46 hk, body, hstf⟩
      obtain rfl : body = encUnits (us₁ ++ stf) := Except.ok.inj (hstf.symm.trans hes)
      have hsz : pes.length = 46 + out.length + pLeft := by
        rw [← hpes, List.length_append, S.len, length_pesHeader, R.enc]; omega
      refine ⟨⟨us₁ ++ stf, ?_, S.len255 fun u hu => (R.ok u hu).1⟩, by rw [hsz]; exact h184, by rw [hsz]; exact hlo,
        by rw [hsz]; exact hhi, hperm, hleft⟩
      rw [R.enc] at h184 hhi hpes
      rw [parsePesR_eq, ← hpes, packet_parses cfg hc pts S R.ok h184 hhi]
      simp only [Option.bind_some, (S.reads hreads).assemble, Option.map_some, List.length_append, length_pesHeader]

/-- what a call `vbi_dvb_mux_feed (mx, sliced, n, mask, raw, sp, pts)` can do: refuse the sampling parameters and touch nothing;
    or drop pending coroutine output and then fail in `generate_pes_packet`, convert only a part of the frame (both clear
    `raw_samples_left`), or hand the packet - or its TS packets - to the callback -/
inductive FeedR (m : RMux) (sp : Option Sp) (g : Except (RErr × List Sliced) (Bytes × List Sliced × RawSt)) :
    RMux × FeedROut → Prop
  | badSp (sp' : Sp) : sp = some sp' → validSp sp' = false → FeedR m sp g (m, { ok := false, calls := [] })
  | error (e : RErr) (off : List Sliced) : SpValid sp → g = .error (e, off) →
      FeedR m sp g ({ mux := dropPending m.mux, raw := { m.raw with left := 0 } },
        { ok := false, calls := [], abort := if e.isAbort then some e else none })
  | part (pes : Bytes) (left : List Sliced) (st' : RawSt) : SpValid sp → g = .ok (pes, left, st') → left ≠ [] →
      FeedR m sp g ({ mux := dropPending m.mux, raw := { st' with left := 0 } }, { ok := false, calls := [] })
  | pes (pes : Bytes) (st' : RawSt) : SpValid sp → g = .ok (pes, [], st') → m.mux.cfg.pid = 0 →
      FeedR m sp g ({ mux := dropPending m.mux, raw := st' }, { ok := true, calls := [some pes] })
  | ts (pes : Bytes) (st' : RawSt) : SpValid sp → g = .ok (pes, [], st') → m.mux.cfg.pid ≠ 0 →
      FeedR m sp g
        ({ mux := { dropPending m.mux with cc := ((dropPending m.mux).cc
              + (tsPackets (dropPending m.mux).cfg.pid (dropPending m.mux).cc pes).length) % 2 ^ 32 }, raw := st' },
         { ok := true, calls := (tsPackets (dropPending m.mux).cfg.pid (dropPending m.mux).cc pes).map some })

theorem feedR_go (keep : Bool) (m : RMux) (lines : List Sliced) (mask : Nat) (raw : Option Bytes) (sp : Option Sp) (pts : Nat)
    (hsp : SpValid sp) : feedR keep m lines mask raw sp pts = feedR.go keep m lines mask raw sp pts := by
  unfold feedR
  cases sp with
  | none => rfl
  | some sp' => exact if_neg (by simp [hsp sp' rfl])

theorem feedR_badSp (keep : Bool) (m : RMux) (lines : List Sliced) (mask : Nat) (raw : Option Bytes) (sp' : Sp) (pts : Nat)
    (h : validSp sp' = false) : feedR keep m lines mask raw (some sp') pts = (m, { ok := false, calls := [] }) := by
  unfold feedR; simp [h]

theorem feedR_spec (keep : Bool) (m : RMux) (lines : List Sliced) (mask : Nat) (raw : Option Bytes) (sp : Option Sp)
    (pts : Nat) :
    FeedR m sp (generatePesR keep m.mux.cfg m.raw lines mask raw sp pts) (feedR keep m lines mask raw sp pts) := by
  by_cases hsp : SpValid sp
  · rw [feedR_go keep m lines mask raw sp pts hsp]
    unfold feedR.go
    dsimp only
    cases hg : generatePesR keep (dropPending m.mux).cfg m.raw lines mask raw sp pts with
    | error x => exact .error x.1 x.2 hsp (dropPending_cfg _ ▸ hg)
    | ok r =>
      obtain ⟨pes, left, st'⟩ := r
      rw [dropPending_cfg] at hg
      dsimp only
      by_cases hl : left ≠ []
      · rw [if_pos hl]; exact .part pes left st' hsp hg hl
      obtain rfl : left = [] := Decidable.not_not.mp hl
      rw [if_neg hl]
      by_cases hp : (dropPending m.mux).cfg.pid = 0
      · rw [if_pos hp]; exact .pes pes st' hsp hg (dropPending_cfg _ ▸ hp)
      · rw [if_neg hp]; exact .ts pes st' hsp hg (dropPending_cfg _ ▸ hp)
  · obtain ⟨sp', rfl, hv⟩ := not_spValid hsp
    rw [feedR_badSp keep m lines mask raw sp' pts hv]
    exact .badSp sp' rfl hv

theorem feedR_accepted (keep : Bool) (m : RMux) (lines : List Sliced) (mask : Nat) (raw : Option Bytes) (sp : Option Sp)
    (pts : Nat) (h : (feedR keep m lines mask raw sp pts).2.ok = true) :
    SpValid sp
    ∧ ∃ pes st', generatePesR keep m.mux.cfg m.raw lines mask raw sp pts = .ok (pes, [], st')
      ∧ (feedR keep m lines mask raw sp pts).2.abort = none
      ∧ (feedR keep m lines mask raw sp pts).1.raw = st'
      ∧ (m.mux.cfg.pid = 0 → (feedR keep m lines mask raw sp pts).2.calls = [some pes]
          ∧ (feedR keep m lines mask raw sp pts).1.mux.cc = m.mux.cc)
      ∧ (m.mux.cfg.pid ≠ 0 → (feedR keep m lines mask raw sp pts).2.calls = (tsPackets m.mux.cfg.pid m.mux.cc pes).map some
          ∧ (feedR keep m lines mask raw sp pts).1.mux.cc
            = (m.mux.cc + (tsPackets m.mux.cfg.pid m.mux.cc pes).length) % 2 ^ 32) := by
  have hs := feedR_spec keep m lines mask raw sp pts
  generalize feedR keep m lines mask raw sp pts = r at hs h ⊢
  cases hs with
  | badSp | error | part => cases h
  | pes pes st' hsp hg hp => exact ⟨hsp, pes, st', hg, rfl, rfl, fun _ => ⟨rfl, dropPending_cc _⟩, fun hq => absurd hp hq⟩
  | ts pes st' hsp hg hp =>
    refine ⟨hsp, pes, st', hg, rfl, rfl, fun hq => absurd hq hp, fun _ => ?_⟩
    rw [← dropPending_cfg m.mux, ← dropPending_cc m.mux]
    exact ⟨rfl, rfl⟩

theorem feedR_rejected (keep : Bool) (m : RMux) (lines : List Sliced) (mask : Nat) (raw : Option Bytes) (sp : Option Sp)
    (pts : Nat) (h : (feedR keep m lines mask raw sp pts).2.ok = false) :
    (feedR keep m lines mask raw sp pts).2.calls = []
    ∧ (((feedR keep m lines mask raw sp pts).1.raw.left = 0 ∧ (feedR keep m lines mask raw sp pts).1.mux = dropPending m.mux)
        ∨ (¬ SpValid sp ∧ (feedR keep m lines mask raw sp pts).1 = m)) := by
  have hs := feedR_spec keep m lines mask raw sp pts
  generalize feedR keep m lines mask raw sp pts = r at hs h ⊢
  cases hs with
  | badSp sp' h1 h2 => exact ⟨rfl, .inr ⟨(fun hv => by rw [hv sp' h1] at h2; cases h2), rfl⟩⟩
  | error | part => exact ⟨rfl, .inl ⟨rfl, rfl⟩⟩
  | pes | ts => cases h

theorem feedR_ok_iff (keep : Bool) (m : RMux) (lines : List Sliced) (mask : Nat) (raw : Option Bytes) (sp : Option Sp)
    (pts : Nat) (hsp : SpValid sp) :
    (feedR keep m lines mask raw sp pts).2.ok = true
      ↔ ∃ pes st', generatePesR keep m.mux.cfg m.raw lines mask raw sp pts = .ok (pes, [], st') := by
  have hs := feedR_spec keep m lines mask raw sp pts
  generalize feedR keep m lines mask raw sp pts = r at hs ⊢
  cases hs with
  | badSp sp' h1 h2 => rw [hsp sp' h1] at h2; cases h2
  | error e off _ hg => exact ⟨nofun, fun ⟨_, _, h⟩ => by rw [hg] at h; cases h⟩
  | part pes left st' _ hg hl => exact ⟨nofun, fun ⟨_, _, h⟩ => by rw [hg] at h; cases h; exact (hl rfl).elim⟩
  | pes pes st' _ hg => exact ⟨fun _ => ⟨pes, st', hg⟩, fun _ => rfl⟩
  | ts pes st' _ hg => exact ⟨fun _ => ⟨pes, st', hg⟩, fun _ => rfl⟩

theorem feedR_cfg (keep : Bool) (m : RMux) (lines : List Sliced) (mask : Nat) (raw : Option Bytes) (sp : Option Sp)
    (pts : Nat) : (feedR keep m lines mask raw sp pts).1.mux.cfg = m.mux.cfg := by
  have hs := feedR_spec keep m lines mask raw sp pts
  generalize feedR keep m lines mask raw sp pts = r at hs ⊢
  cases hs <;> first | rfl | exact dropPending_cfg _

/-- the loop of `generate_pes_packet` returns a `VBI_ERR_*` value, or the packet is completed whether or not every line
    was converted: `encode_stuffing` is called within its preconditions (no `hone`-like side condition is left to the
    caller) - in the unchanged shape unless exactly one byte is to fill -/
theorem generatePesR_total (keep : Bool) (cfg : Cfg) (hc : CfgOK cfg) (st : RawSt) (hst : st.left = 0)
    (lines : List Sliced) (mask : Nat) (raw : Option Bytes) (sp : Option Sp)
    (hsp : SpValid sp) (pts : Nat) (hwf : ∀ s ∈ lines, Sliced.WF s) :
    match genLoopR keep mask (fixedLengthFormat cfg.dataId) raw sp (lines.length + 1) (cfg.maxSize - 46) 0 0 st lines with
    | .error (e, off) => generatePesR keep cfg st lines mask raw sp pts = .error (e, off) ∧ (RawHolds raw sp → e.isAbort = false)
    | .ok (out, _, left, st') => (keep = false → pesFill cfg out.length ≠ 1) →
        ∃ pes, generatePesR keep cfg st lines mask raw sp pts = .ok (pes, left, st') := by
  rw [generatePesR_eq keep cfg st hst]
  have hloop := genLoopR_region keep mask (fixedLengthFormat cfg.dataId) raw sp hsp _ (cfg.maxSize - 46) 0 0 st lines
    (Nat.lt_succ_self _) hwf hst
  cases hgl : genLoopR keep mask (fixedLengthFormat cfg.dataId) raw sp (lines.length + 1) (cfg.maxSize - 46) 0 0 st lines with
  | error x => rw [hgl] at hloop; exact ⟨rfl, hloop⟩
  | ok r =>
    obtain ⟨out, du, left, st'⟩ := r
    rw [hgl] at hloop
    obtain ⟨us, p', R, _⟩ := hloop
    intro hne1
    obtain ⟨us₁, stf, hes, _⟩ := stuffing_done keep cfg hc R _ rfl fun hk h1 => by
      rw [if_neg (by rw [hk]; simp)] at h1; exact absurd h1 (hne1 hk)
    dsimp only
    rw [hes]
    exact ⟨_, rfl⟩

theorem generatePesR_completes (cfg : Cfg) (hc : CfgOK cfg) (st : RawSt) (hst : st.left = 0)
    (lines : List Sliced) (mask : Nat) (raw : Option Bytes) (sp : Option Sp)
    (hsp : SpValid sp) (pts : Nat)
    (hwf : ∀ s ∈ lines, Sliced.WF s) (out : Bytes) (du : Nat) (st' : RawSt)
    (hgl : genLoopR true mask (fixedLengthFormat cfg.dataId) raw sp (lines.length + 1) (cfg.maxSize - 46) 0 0 st lines
      = .ok (out, du, [], st')) :
    ∃ pes, generatePesR true cfg st lines mask raw sp pts = .ok (pes, [], st') := by
  have := generatePesR_total true cfg hc st hst lines mask raw sp hsp pts hwf
  rw [hgl] at this
  exact this nofun

theorem generatePesR_noabort (cfg : Cfg) (hc : CfgOK cfg) (st : RawSt) (hst : st.left = 0)
    (lines : List Sliced) (mask : Nat) (raw : Option Bytes) (sp : Option Sp)
    (hsp : SpValid sp) (hraw : RawHolds raw sp) (pts : Nat)
    (hwf : ∀ s ∈ lines, Sliced.WF s) (e : RErr) (off : List Sliced)
    (hg : generatePesR true cfg st lines mask raw sp pts = .error (e, off)) : e.isAbort = false := by
  have := generatePesR_total true cfg hc st hst lines mask raw sp hsp pts hwf
  split at this
  · rw [this.1] at hg
    cases hg
    exact this.2 hraw
  · obtain ⟨pes, h⟩ := this nofun
    rw [h] at hg; cases hg

theorem unitsItems_mem_seg (us : List DataUnit) (is : List Item) (h : unitsItems us = some is) :
    ∀ u ∈ us, u.id = 0xC6 → ∃ s, unitSeg u = some s ∧ Item.seg s ∈ is := by
  induction us generalizing is with
  | nil => nofun
  | cons v us ih =>
    obtain ⟨i, is', hv, hr, rfl⟩ := (unitsItems_cons v us is).mp h
    intro u hu hid
    rcases List.mem_cons.mp hu with rfl | hu
    · rw [unitItem, if_pos hid] at hv
      cases hs : unitSeg u with
      | none => rw [hs] at hv; cases hv
      | some s => rw [hs] at hv; cases hv; exact ⟨s, rfl, List.mem_cons_self ..⟩
    · obtain ⟨s, h1, h2⟩ := ih is' hr u hu hid
      exact ⟨s, h1, List.mem_cons_of_mem _ h2⟩

theorem parsePesR_units (pes : Bytes) (p : PesR) (h : parsePesR pes = some p) :
    (unitsItems p.units).bind assemble = some p.items
    ∧ (p.dataId ≤ 0x1F → ∀ u ∈ p.units, u.payload.length = 0x2C)
    ∧ parseUnits (pes.drop 46) = some p.units := by
  rw [parsePesR_eq] at h
  cases hh : parseHdr pes with
  | none => rw [hh] at h; cases h
  | some x =>
    obtain ⟨pts, did, us⟩ := x
    rw [hh, Option.bind_some] at h
    cases ho : (unitsItems us).bind assemble with
    | none => rw [ho] at h; cases h
    | some os =>
      rw [ho] at h
      cases h
      obtain ⟨_, _, h3, h4⟩ := parseHdr_some pes pts did us hh
      exact ⟨ho, h4, h3⟩

theorem mem_sentR_raw_iff (mask : Nat) (raw : Bytes) (sp : Sp) (lines : List Sliced) (r : RawLine) :
    Out.raw r ∈ sentR mask raw sp lines
      ↔ ∃ s ∈ lines, s.id = SL_VBI625 ∧ s.id &&& mask ≠ 0 ∧ r = rawLineOf raw sp s.line := by
  induction lines with
  | nil => simp [sentR]
  | cons x rest ih =>
    rw [sentR]
    simp only [List.mem_cons, or_and_right, exists_or, exists_eq_left]
    split
    · rename_i hm; rw [ih]; exact ⟨.inr, fun h => h.resolve_left fun hx => hx.2.1 hm⟩
    split
    · rename_i hm hid
      rw [List.mem_cons, ih]
      exact or_congr ⟨fun h => ⟨hid, hm, Out.raw.inj h⟩, fun h => congrArg Out.raw h.2.2⟩ Iff.rfl
    · rename_i hid
      have : Out.raw r ∈ sentR mask raw sp rest ↔ _ := ih
      split <;> simp only [List.mem_cons, reduceCtorEq, false_or, this] <;>
        exact ⟨.inr, fun h => h.resolve_left fun hx => hid hx.1⟩

end Zvbi.Mux
