import ZvbiModel.Mux.LemmasStream
/-!
# Every byte the multiplexer emits is a byte  (C06 side of the join with C07)

The models carry bytes as `Nat`; the demultiplexer model reads `uint8_t` (`% 256` on the length
field, bit masks in the start code scan), so the join needs: all output bytes are < 256.
-/
namespace Zvbi.Mux
open Zvbi.Mux.EnParse

theorem Stored.lt {mask : Nat} {fixed : Bool} {ll ll' : Nat} {pre : List Sliced} {us : List DataUnit}
    (h : Stored mask fixed ll pre us ll') : ∀ x ∈ encUnits us, x < 256 := by
  induction h with
  | nil => nofun
  | skip _ _ ih => exact ih
  | @unit _ _ _ _ _ u us _ _ _ _ hu _ ih =>
    intro x hx
    rw [show u :: us = [u] ++ us from rfl, encUnits_append, List.mem_append] at hx
    exact hx.elim (hu.lt x) (ih x)

theorem stuffUnit_lt (n : Nat) (hn : n ≤ 257) : ∀ x ∈ stuffUnit n, x < 256 := by
  intro x hx
  simp only [stuffUnit, List.mem_cons, List.mem_replicate, DU_STUFF] at hx
  rcases hx with rfl | rfl | ⟨_, rfl⟩ <;> omega

theorem poke_lt (site : String) (buf : Bytes) (pos back v : Nat) (out : Bytes) (hb : ∀ x ∈ buf, x < 256)
    (h : poke site buf pos back v = .ok out) : ∀ x ∈ out, x < 256 := by
  unfold poke at h
  split at h
  · simp only [Except.ok.injEq] at h
    subst h
    intro x hx
    rcases List.mem_or_eq_of_mem_set hx with hx | rfl
    · exact hb x hx
    · exact Bits.mod_lt _ _
  · cases h

theorem stuffUnits_lt (prev : Bytes) (k n : Nat) (hn : n ≤ 257) (hp : ∀ x ∈ prev, x < 256) :
    ∀ x ∈ prev ++ (List.replicate k (stuffUnit n)).flatten, x < 256 := by
  intro x hx
  rcases List.mem_append.mp hx with hx | hx
  · exact hp x hx
  · rw [List.mem_flatten] at hx
    obtain ⟨l, hl, hxl⟩ := hx
    rw [List.mem_replicate] at hl
    rw [hl.2] at hxl
    exact stuffUnit_lt _ hn x hxl

theorem encodeStuffing_lt (prev : Bytes) (pLeft lastDu : Nat) (fixed : Bool) (out : Bytes)
    (hp : ∀ x ∈ prev, x < 256) (h : encodeStuffing prev pLeft lastDu fixed = .ok out) : ∀ x ∈ out, x < 256 := by
  unfold encodeStuffing at h
  cases fixed with
  | true =>
    simp only [↓reduceIte] at h
    have hbuf := stuffUnits_lt prev (pLeft / 46) 46 (by omega) hp
    by_cases hr : pLeft % 46 = 0
    · rw [if_pos hr] at h
      simp only [Except.ok.injEq] at h; subst h; exact hbuf
    · rw [if_neg hr] at h; cases h
  | false =>
    simp only [Bool.false_eq_true, ↓reduceIte] at h
    have hbuf := stuffUnits_lt prev (pLeft / 257) 257 (by omega) hp
    have hr257 : pLeft % 257 < 257 := Bits.mod_lt _ _
    by_cases hr : pLeft % 257 = 0
    · rw [if_pos hr] at h
      simp only [Except.ok.injEq] at h; subst h; exact hbuf
    · rw [if_neg hr] at h
      by_cases hr2 : pLeft % 257 ≥ 2
      · rw [if_pos hr2] at h
        simp only [Except.ok.injEq] at h; subst h
        intro x hx
        rcases List.mem_append.mp hx with hx | hx
        · exact hbuf x hx
        · exact stuffUnit_lt _ (by omega) x hx
      · rw [if_neg hr2] at h
        have hbuf1 : ∀ x ∈ (prev ++ (List.replicate (pLeft / 257) (stuffUnit 257)).flatten) ++ [0xFF], x < 256 := by
          intro x hx
          rcases List.mem_append.mp hx with hx | hx
          · exact hbuf x hx
          · simp at hx; omega
        generalize (if pLeft / 257 > 0 then 257 else lastDu) = ld at h
        by_cases hld : ld < 2
        · rw [if_pos hld] at h; cases h
        · rw [if_neg hld] at h
          by_cases h257 : ld = 257
          · rw [if_pos h257] at h
            split at h
            · cases h
            · rename_i b hb
              exact poke_lt _ _ _ _ _ _ (poke_lt _ _ _ _ _ _ hbuf1 hb) h
          · rw [if_neg h257] at h
            exact poke_lt _ _ _ _ _ _ hbuf1 h

theorem pesHeader_lt (size pts did : Nat) : ∀ x ∈ pesHeader size pts did, x < 256 := by
  intro x hx
  simp only [pesHeader, encodeTimestamp, PRIVATE_STREAM_1, List.mem_append, List.mem_cons, List.mem_replicate,
    List.not_mem_nil, or_false] at hx
  have h256 : ∀ y, y % 256 < 256 := fun y => Bits.mod_lt _ _
  rcases hx with ((hx | hx) | hx) | hx
  · rcases hx with rfl | rfl | rfl | rfl | rfl | rfl | rfl | rfl | rfl <;> first | omega | exact h256 _
  · rcases hx with rfl | rfl | rfl | rfl | rfl <;> exact h256 _
  · omega
  · subst hx; exact h256 _

theorem generatePes_lt (cfg : Cfg) (lines : List Sliced) (mask pts : Nat)
    (hwf : ∀ s ∈ lines, Sliced.WF s) (hnr : NoRaw lines) (pes : Bytes)
    (hg : generatePes cfg lines mask pts = .ok (pes, [])) : ∀ x ∈ pes, x < 256 := by
  obtain ⟨hr, body, hst, hpes⟩ := generatePes_done cfg lines mask pts hnr pes hg
  obtain ⟨us, _, hS, R⟩ := insertSliced_done mask (fixedLengthFormat cfg.dataId) lines hwf _ 0 0 hr
  have hbody := encodeStuffing_lt _ _ _ _ body (by rw [R.enc]; exact hS.lt) hst
  intro x hx
  rw [← hpes] at hx
  rcases List.mem_append.mp hx with hx | hx
  · exact pesHeader_lt _ _ _ x hx
  · exact hbody x hx

theorem run_bytes_lt (ops : List Op) (hops : ∀ op ∈ ops, Op.OK op) :
    ∀ m, m.cfg.pid = 0 → ∀ x ∈ (run m ops).2.1, x < 256 := by
  intro m hp
  obtain ⟨fs, h1, h2, h3, h4⟩ := run_frames ops hops m
  rw [h3, hp]
  clear h2 h3 h4
  induction fs with
  | nil => nofun
  | cons f fs ih =>
    intro x hx
    simp only [List.map_cons, emitAll, if_true, List.mem_append] at hx
    rcases hx with hx | hx
    · have := (h1 f (List.mem_cons_self ..)).1
      exact generatePes_lt f.cfg f.lines f.mask f.pts this.1 this.2.1 f.pes this.2.2 x hx
    · exact ih (fun g hg => h1 g (List.mem_cons_of_mem _ hg)) x hx

end Zvbi.Mux
