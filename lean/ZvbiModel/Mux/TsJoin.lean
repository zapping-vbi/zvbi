import ZvbiModel.Mux.JoinFrames
import ZvbiModel.Demux.TsJoinAll
/-!
# TS mode histories as sequences of PES packets  (C06 side of `mux_demux_roundtrip_ts`)

Every history of a TS multiplexer (frames accepted or rejected, configuration changes), from any
continuity counter: the concatenated callback output is `Demux.tsAll` of one accepted PES packet per
accepted frame - the same packets (`generatePes` does not look at the PID) the PES-mode theorems speak
about - with the counter running on modulo 2^32 across frames.  Also `chop188` / `flatten_188_inj`: a stream cut into
188-byte packets, which `Props/C06Ts.lean` needs.
-/
namespace Zvbi.Mux
open Zvbi.Mux.EnParse
open Zvbi.Demux (tsAll)

theorem ts_history_packets (ops : List Op) (hops : ∀ op ∈ ops, Op.OK op) :
    ∀ m, CfgOK m.cfg → m.cfg.pid ≠ 0 →
      ∃ pks : List (Bytes × Pes), (∀ x ∈ pks, parsePes x.1 = some x.2) ∧ (∀ x ∈ pks, ∀ b ∈ x.1, b < 256)
        ∧ (run m ops).2.1 = (tsAll m.cfg.pid m.cc (pks.map Prod.fst)).flatten
        ∧ pks.map (fun x => Pes.content x.2) = (run m ops).2.2 := by
  intro m hcfg hp
  obtain ⟨fs, h1, h2, h3, h4⟩ := run_frames ops hops m
  have hparse : ∀ f ∈ fs, parsePes f.pes = some f.read := fun f hf => (h1 f hf).1.parse ((h1 f hf).2.2 hcfg)
  refine ⟨fs.map fun f => (f.pes, f.read), ?_, ?_, ?_, by rw [h2, List.map_map]; rfl⟩
  · intro x hx
    obtain ⟨f, hf, rfl⟩ := List.mem_map.mp hx
    exact hparse f hf
  · intro x hx
    obtain ⟨f, hf, rfl⟩ := List.mem_map.mp hx
    exact generatePes_lt f.cfg f.lines f.mask f.pts (h1 f hf).1.1 (h1 f hf).1.2.1 f.pes (h1 f hf).1.2.2
  · rw [h3, List.map_map]
    clear h1 h2 h3 h4
    generalize m.cc = cc
    induction fs generalizing cc with
    | nil => rfl
    | cons f fs ih =>
      obtain ⟨_, h184, hpos⟩ := parsePes_sizefield _ _ (hparse f (List.mem_cons_self ..))
      simp only [List.map_cons, emitAll, if_neg hp, tsAll, List.flatten_append, Function.comp]
      rw [tsPackets_eq _ _ _ h184 hpos, tsLoop_length, ih (fun g hg => hparse g (List.mem_cons_of_mem _ hg))]

/-- a byte string cut into 188-byte pieces -/
def chop188 : Nat → Bytes → List Bytes
  | 0, _ => []
  | n + 1, b => if b = [] then [] else b.take 188 :: chop188 n (b.drop 188)

theorem flatten_188_inj : ∀ (a b : List Bytes), (∀ x ∈ a, x.length = 188) → (∀ x ∈ b, x.length = 188) →
    a.flatten = b.flatten → a = b := by
  intro a
  induction a with
  | nil =>
    intro b _ hb h
    cases b with
    | nil => rfl
    | cons y b =>
      have := congrArg List.length h
      simp only [List.flatten_nil, List.length_nil, List.flatten_cons, List.length_append, hb y (List.mem_cons_self ..)] at this
      omega
  | cons x a ih =>
    intro b ha hb h
    cases b with
    | nil =>
      have := congrArg List.length h
      simp only [List.flatten_nil, List.length_nil, List.flatten_cons, List.length_append, ha x (List.mem_cons_self ..)] at this
      omega
    | cons y b =>
      simp only [List.flatten_cons] at h
      obtain ⟨h1, h2⟩ := List.append_inj h (by rw [ha x (List.mem_cons_self ..), hb y (List.mem_cons_self ..)])
      rw [h1, ih b (fun z hz => ha z (List.mem_cons_of_mem _ hz)) (fun z hz => hb z (List.mem_cons_of_mem _ hz)) h2]

end Zvbi.Mux
