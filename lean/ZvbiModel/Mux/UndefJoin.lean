import ZvbiModel.Mux.UndefDemux
import ZvbiModel.Mux.JoinFrames
import ZvbiModel.Demux.JoinPacket
/-!
# Joining the multiplexer's packet with `extract_data_units` for frames with undefined line numbers

Multiplexer side: the defined line numbers of an accepted frame ascend, undefined ones skipped (`DefAsc`,
`generatePes_defasc` in `Mux/JoinFrames.lean`); together with `FieldsAscend` (`Mux/UndefField.lean`) this gives `ContUnits`
(`contUnits_of_fields`), the hypothesis of `C06UD.extractLoop_stores_cont` (`Mux/UndefDemux.lean`).
-/
namespace Zvbi.Mux
open Zvbi.Mux.EnParse
open Zvbi.C06UD (ContUnits undefField)

theorem lofpLine_field (lofp l : Nat) (h : lofpLine lofp = some l) (h0 : l ≠ 0) : (lofp / 32 % 2 = 1 ↔ l < 313) := by
  unfold lofpLine at h
  split at h
  · cases h
  · simp only [] at h
    split at h
    · simp only [Option.some.injEq] at h; omega
    · split at h
      · simp only [Option.some.injEq] at h
        rename_i hb
        constructor
        · intro _; omega
        · intro _; exact hb
      · simp only [Option.some.injEq] at h
        rename_i hb
        constructor
        · intro hx; exact absurd hx hb
        · intro _; omega

/-- line units whose defined line numbers ascend and whose field parities never go back continue the frame in the sense
of the demultiplexer's `line_address`: `sec` = a second-field unit was seen = `last_field` is 1; an undefined line at the
very start of the packet is allowed only with the field of the frame so far (`st = true ∨` the first line is defined) -/
theorem contUnits_of_fields : ∀ (us : List DataUnit) (ls : List Line) (st sec : Bool) (ll : Nat),
    unitsLines us = some ls → DefAsc ll ls → FieldsAscend sec us → (∀ u ∈ us, u.id ≠ 0xFF) →
    (st = true ∨ ∀ l ∈ ls.head?, l.line ≠ 0) →
    ContUnits st ll (if sec = true then 1 else 0) us := by
  intro us
  induction us with
  | nil => intro _ _ _ _ _ _ _ _ _; trivial
  | cons u us ih =>
    intro ls st sec ll hul hasc hfa hids hst
    have hids' : ∀ x ∈ us, x.id ≠ 0xFF := fun x hx => hids x (List.mem_cons_of_mem _ hx)
    unfold ContUnits
    obtain ⟨hf1, hf2⟩ := hfa
    rcases unitsLines_cons_inv u us ls hul with ⟨hid, _⟩ | ⟨l, ls', hu, hrest, rfl⟩
    · exact absurd (unitLine_eq_some u.id u.payload none hid) (hids u (List.mem_cons_self ..))
    rw [hu]
    simp only []
    unfold DefAsc at hasc
    have hlofp := unitLine_lofp u l hu
    have hff : unitFirstField u = true ↔ u.payload.getD 0 0 / 32 % 2 = 1 := by
      unfold unitFirstField; exact beq_iff_eq
    by_cases h0 : l.line ≠ 0
    · rw [if_pos h0]
      rw [if_neg h0] at hasc
      have hfl : unitFirstField u = true ↔ l.line < 313 := hff.trans (lofpLine_field _ _ hlofp h0)
      generalize unitFirstField u = ff at hf1 hf2 hfl
      refine ⟨hasc.1, ?_⟩
      have hcu := ih ls' true (sec || !ff) l.line hrest hasc.2 hf2 hids' (Or.inl rfl)
      have he : (if (sec || !ff) = true then 1 else 0) = (if l.line < 313 then 0 else 1) := by
        by_cases hlt : l.line < 313
        · have h1 : ff = true := hfl.mpr hlt
          subst h1
          have h2 : sec = false := by
            cases sec
            · rfl
            · exact absurd (hf1 rfl) (by decide)
          subst h2
          simp [hlt]
        · have h1 : ff = false := by
            cases ff
            · rfl
            · exact absurd (hfl.mp rfl) hlt
          subst h1
          simp [hlt]
      rw [he] at hcu
      exact hcu
    · rw [if_neg h0]
      have h0' : l.line = 0 := by omega
      rw [if_pos h0'] at hasc
      have hstt : st = true := by
        rcases hst with h | h
        · exact h
        · exact absurd h0' (h l (by simp))
      have hue : undefField (u.payload.getD 0 0) = if unitFirstField u = true then 0 else 1 := by
        unfold undefField
        by_cases hb : u.payload.getD 0 0 / 32 % 2 = 1
        · rw [if_pos hb, if_pos (hff.mpr hb)]
        · rw [if_neg hb, if_neg (fun h => hb (hff.mp h))]
      rw [hue]
      generalize unitFirstField u = ff at hf1 hf2
      have hcu := ih ls' true (sec || !ff) ll hrest hasc hf2 hids' (Or.inl rfl)
      subst hstt
      cases ff <;> cases sec
      · exact ⟨Or.inr ⟨rfl, by decide⟩, hcu⟩
      · exact ⟨Or.inl rfl, hcu⟩
      · exact ⟨Or.inl rfl, hcu⟩
      · exact absurd (hf1 rfl) (by decide)

theorem contUnits_append_stuffing (fixed : Bool) : ∀ (us stf : List DataUnit) (st : Bool) (ll lf : Nat),
    ContUnits st ll lf us → (∀ u ∈ stf, IsStuffing fixed u) → ContUnits st ll lf (us ++ stf) := by
  intro us
  induction us with
  | nil =>
    intro stf
    induction stf with
    | nil => intro _ _ _ _ _; trivial
    | cons u stf ih =>
      intro st ll lf _ hs
      simp only [List.nil_append]
      unfold ContUnits
      rw [(hs u (List.mem_cons_self ..)).unitLine]
      simp only []
      have := ih st ll lf trivial (fun x hx => hs x (List.mem_cons_of_mem _ hx))
      simpa using this
  | cons u us ih =>
    intro stf st ll lf hc hs
    simp only [List.cons_append]
    unfold ContUnits at hc ⊢
    cases hu : unitLine u with
    | none => rw [hu] at hc; simp only [] at hc ⊢; exact ih stf st ll lf hc hs
    | some o =>
      rw [hu] at hc
      cases o with
      | none => simp only [] at hc ⊢; exact ih stf st ll lf hc hs
      | some l =>
        simp only [] at hc ⊢
        by_cases h0 : l.line ≠ 0
        · rw [if_pos h0] at hc ⊢; exact ⟨hc.1, ih stf _ _ _ hc.2 hs⟩
        · rw [if_neg h0] at hc ⊢; exact ⟨hc.1, ih stf _ _ _ hc.2 hs⟩

theorem head_line_unit (us : List DataUnit) (l : Line) (ls : List Line) (hul : unitsLines us = some (l :: ls))
    (hids : ∀ u ∈ us, u.id ≠ 0xFF) : ∃ u us', us = u :: us' ∧ unitLine u = some (some l) := by
  cases us with
  | nil => cases hul
  | cons u us' =>
    rcases unitsLines_cons_inv u us' _ hul with ⟨hid, _⟩ | ⟨l', _, hu, _, h⟩
    · exact absurd (unitLine_eq_some u.id u.payload none hid) (hids u (List.mem_cons_self ..))
    · cases h; exact ⟨u, us', rfl, hu⟩

/-- the data unit region of an accepted frame without raw line requests whose first selected line is defined, as the
demultiplexer meets it at a frame start: its units read as the selected lines and continue an empty frame -/
theorem generatePes_contUnits (cfg : Cfg) (hc : CfgOK cfg) (lines : List Sliced) (mask pts : Nat)
    (hwf : ∀ s ∈ lines, Sliced.WF s) (hnr : NoRaw lines) (pes : Bytes) (hg : generatePes cfg lines mask pts = .ok (pes, []))
    (hfirst : ∀ l ∈ (sent mask lines).head?, l.line ≠ 0) :
    ∃ us, pes.drop 46 = encUnits us ∧ unitsLines us = some (sent mask lines) ∧ ContUnits false 0 0 us
      ∧ ∀ l ls, sent mask lines = l :: ls → ∃ u us', us = u :: us' ∧ unitLine u = some (some l) := by
  obtain ⟨us, stf, h1, h2, h3, h4, h5⟩ := generatePes_fields cfg hc lines mask pts hwf hnr pes hg
  have hasc := generatePes_defasc cfg lines mask pts hwf hnr pes hg
  refine ⟨us ++ stf, (Zvbi.Demux.parseUnits_inv _ _ h1).symm, by rw [unitsLines_append_stuffing _ us stf h2]; exact h4, ?_,
    fun l ls hs => ?_⟩
  · have := contUnits_of_fields us (sent mask lines) false false 0 h4 hasc h5 h3 (Or.inr hfirst)
    simpa using contUnits_append_stuffing _ us stf _ _ _ this h2
  · obtain ⟨u, us', rfl, hu⟩ := head_line_unit us l ls (hs ▸ h4) h3
    exact ⟨u, us' ++ stf, rfl, hu⟩

end Zvbi.Mux
