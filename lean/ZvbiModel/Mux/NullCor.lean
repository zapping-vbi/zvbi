import ZvbiModel.Mux.CorRawHistory
import ZvbiModel.Mux.NullFeed
/-!
# `raw == NULL`, `sp == NULL`: `vbi_dvb_mux_cor` of the model without raw data

`cor` and the loops around it (`corSeq`, `corAll`, `corRun`, `Mux/Model.lean`, `Mux/CorFeed.lean`) are `corR` and its loops at `raw`,
`sp` NULL, `keep = false`; the theorems `cor` = `feed` are those instances of `Mux/CorRaw.lean` / `Mux/CorRawHistory.lean`.
-/
namespace Zvbi.Mux
open Zvbi.Mux.EnParse

theorem corR_null (m : Mux) (st : RawSt) (hst : st.left = 0) (size : Nat) (lines : List Sliced) (mask pts : Nat) :
    (corR false ⟨m, st⟩ size lines mask none none pts).1 = ⟨(cor m size lines mask pts).1, st⟩
    ∧ (corR false ⟨m, st⟩ size lines mask none none pts).2.res = (cor m size lines mask pts).2 := by
  have hst' : ({ st with left := 0 } : RawSt) = st := by cases st; cases hst; rfl
  unfold corR cor
  simp only [spInvalid, Bool.false_eq_true, if_false]
  by_cases hb : size = 0
  · simp only [if_pos hb, and_self]
  simp only [if_neg hb]
  by_cases hi : m.corOffset ≥ m.corEnd
  · simp only [if_pos hi]
    by_cases hn : lines.length = 0
    · simp only [if_pos hn, and_self]
    simp only [if_neg hn]
    rw [generatePesR_null _ _ hst]
    cases generatePes m.cfg lines mask pts with
    | error e => obtain ⟨e1, off⟩ := e; simp only [hst', and_self]
    | ok r =>
      obtain ⟨pes, left⟩ := r
      simp only []
      by_cases hl : left ≠ []
      · simp only [if_pos hl, hst', and_self]
      · simp only [if_neg hl]; exact ⟨rfl, rfl⟩
  · simp only [if_neg hi]; exact ⟨rfl, rfl⟩

theorem corSeqR_null (lines : List Sliced) (mask pts : Nat) (st : RawSt) (hst : st.left = 0) :
    ∀ (sizes : List Nat) (m : Mux) (acc : Bytes),
      corSeq lines mask pts sizes m acc =
        ((corSeqR false lines mask none none pts sizes ⟨m, st⟩ acc).1.mux,
         (corSeqR false lines mask none none pts sizes ⟨m, st⟩ acc).2.1,
         (corSeqR false lines mask none none pts sizes ⟨m, st⟩ acc).2.2.1,
         (corSeqR false lines mask none none pts sizes ⟨m, st⟩ acc).2.2.2.1) := by
  intro sizes
  induction sizes with
  | nil => intro m acc; rfl
  | cons s ss ih =>
    intro m acc
    obtain ⟨h1, h2⟩ := corR_null m st hst s lines mask pts
    rw [corSeq, corSeqR, h1, h2]
    by_cases hc : (cor m s lines mask pts).2.ok = true ∧ (cor m s lines mask pts).2.slicedLeft > 0
    · rw [if_pos hc, if_pos hc]; exact ih _ _
    · rw [if_neg hc, if_neg hc]

theorem corAllR_null (sizes : List Nat) (lines : List Sliced) (mask pts : Nat) (st : RawSt) (hst : st.left = 0) :
    ∀ (fuel : Nat) (m : Mux) (calls : Nat) (acc : Bytes),
      corAll sizes lines mask pts fuel m calls acc =
        ((corAllR false sizes lines mask none none pts fuel ⟨m, st⟩ calls acc).1.mux,
         (corAllR false sizes lines mask none none pts fuel ⟨m, st⟩ calls acc).2.1,
         (corAllR false sizes lines mask none none pts fuel ⟨m, st⟩ calls acc).2.2.1,
         (corAllR false sizes lines mask none none pts fuel ⟨m, st⟩ calls acc).2.2.2.1,
         (corAllR false sizes lines mask none none pts fuel ⟨m, st⟩ calls acc).2.2.2.2.1,
         (corAllR false sizes lines mask none none pts fuel ⟨m, st⟩ calls acc).2.2.2.2.2.1)
      ∧ (corAllR false sizes lines mask none none pts fuel ⟨m, st⟩ calls acc).1.raw = st := by
  intro fuel
  induction fuel with
  | zero => intro m calls acc; exact ⟨rfl, rfl⟩
  | succ fuel ih =>
    intro m calls acc
    obtain ⟨h1, h2⟩ := corR_null m st hst (sizes.getD (calls % sizes.length) 0) lines mask pts
    rw [corAll, corAllR]
    simp only []
    rw [h1, h2]
    split
    · exact ih _ _ _
    · exact ⟨rfl, rfl⟩

theorem readyR_null (m : Mux) (hi : Idle m) (hc : CfgOK m.cfg) (lines : List Sliced) (hl : lines ≠ [])
    (hwf : ∀ s ∈ lines, Sliced.WF s) (mask pts : Nat) (hok : (feed m lines mask pts 0).2.ok = true) :
    ReadyR false lines mask none none pts (feed m lines mask pts 0).1.cc {} (FeedOut.bytes (feed m lines mask pts 0).2) ⟨m, {}⟩
    ∧ FeedOut.bytes (feed m lines mask pts 0).2 ≠ [] := by
  obtain ⟨e1, e2, e3, e4⟩ := feedR_null ⟨m, {}⟩ rfl lines mask pts
  obtain ⟨_, hr, hne, _⟩ := readyR_of_feedR_ok false ⟨m, {}⟩ hi hc rfl lines hl hwf mask none none pts (e1.trans hok)
  have hb : (feedR false ⟨m, {}⟩ lines mask none none pts).2.bytes = FeedOut.bytes (feed m lines mask pts 0).2 :=
    congrArg (fun c => (c.filterMap id).flatten) e2
  rw [hb, e3, e4] at hr
  rw [hb] at hne
  exact ⟨hr, hne⟩

/-- the instance `raw`, `sp` NULL, `keep = false` of `corSeqR_ready`, transported by `corSeqR_null`; stated as property in
    `Props/C06Join.lean` -/
theorem cor_equals_feed (m : Mux) (hi : Idle m) (hc : CfgOK m.cfg) (lines : List Sliced) (hl : lines ≠ [])
    (hwf : ∀ s ∈ lines, Sliced.WF s) (hnr : NoRaw lines) (mask pts : Nat)
    (hok : (feed m lines mask pts 0).2.ok = true) (sizes : List Nat) (hpos : ∀ s ∈ sizes, 0 < s) :
    ∃ m', m'.cfg = m.cfg
      ∧ (sizes.sum < (FeedOut.bytes (feed m lines mask pts 0).2).length →
          corSeq lines mask pts sizes m []
            = (m', true, true, (FeedOut.bytes (feed m lines mask pts 0).2).take sizes.sum))
      ∧ ((FeedOut.bytes (feed m lines mask pts 0).2).length ≤ sizes.sum →
          corSeq lines mask pts sizes m [] = (m', true, false, FeedOut.bytes (feed m lines mask pts 0).2)
          ∧ Idle m' ∧ m'.cc = (feed m lines mask pts 0).1.cc) := by
  obtain ⟨hr, hne⟩ := readyR_null m hi hc lines hl hwf mask pts hok
  obtain ⟨m', h1, h2, h3⟩ := corSeqR_ready false lines hl mask none none nofun pts _ _ sizes ⟨m, {}⟩ [] _ hr hne hpos
  rw [corSeqR_null lines mask pts {} rfl sizes m []]
  refine ⟨m'.mux, h1, fun h => ?_, fun h => ?_⟩
  · rw [(h2 h).1, List.nil_append]
  · obtain ⟨a, b, c, _⟩ := h3 h
    rw [a, List.nil_append]
    exact ⟨rfl, b, c⟩

/-- the hypotheses are satisfiable: the theorem instantiated on a concrete frame -/
example : ∃ m', corSeq corExLines 0xFFFFFFFF 5 [1, 7, 188, 1000] newPes []
      = (m', true, false, FeedOut.bytes (feed newPes corExLines 0xFFFFFFFF 5 0).2) ∧ Idle m' := by
  obtain ⟨m', _, _, h⟩ := cor_equals_feed newPes (by decide) cfgOK_default corExLines (by decide) corEx_wf corEx_noraw
    0xFFFFFFFF 5 (by decide +kernel) [1, 7, 188, 1000] (by decide)
  have hlen : (FeedOut.bytes (feed newPes corExLines 0xFFFFFFFF 5 0).2).length = 184 := by decide +kernel
  obtain ⟨h1, h2, _⟩ := h (by rw [hlen]; decide)
  exact ⟨m', h1, h2⟩

def OpR.ofOp : Op → OpR
  | .frame lines mask pts => .frame lines mask none none pts
  | .dataId d => .dataId d
  | .size a b => .size a b

theorem runR_null (st : RawSt) (hst : st.left = 0) : ∀ (ops : List Op) (m : Mux),
    runR false ⟨m, st⟩ (ops.map OpR.ofOp) = (⟨(run m ops).1, st⟩, (run m ops).2.1) := by
  intro ops
  induction ops with
  | nil => intro m; rfl
  | cons op ops ih =>
    intro m
    have hstep : stepR false ⟨m, st⟩ (OpR.ofOp op) = (⟨(step m op).1, st⟩, (step m op).2.1) := by
      cases op with
      | frame lines mask pts =>
        obtain ⟨_, e2, e3, e4⟩ := feedR_null ⟨m, st⟩ hst lines mask pts
        refine Prod.ext ?_ (congrArg (fun c => (c.filterMap id).flatten) e2)
        cases hx : (feedR false ⟨m, st⟩ lines mask none none pts).1
        rw [hx] at e3 e4
        cases e3; cases e4; exact hx
      | dataId d => rfl
      | size a b => rfl
    rw [List.map_cons, runR, hstep, ih]
    rfl

theorem corRunR_null (fuel : Nat) (st : RawSt) (hst : st.left = 0) : ∀ (ops : List (Op × List Nat)) (m : Mux),
    corRunR false fuel ⟨m, st⟩ (ops.map fun o => (OpR.ofOp o.1, o.2)) = (⟨(corRun fuel m ops).1, st⟩, (corRun fuel m ops).2) := by
  intro ops
  induction ops with
  | nil => intro m; rfl
  | cons op ops ih =>
    intro m
    have hstep : corStepR false fuel ⟨m, st⟩ (OpR.ofOp op.1, op.2) = (⟨(corStep fuel m op).1, st⟩, (corStep fuel m op).2) := by
      obtain ⟨o, sizes⟩ := op
      cases o with
      | frame lines mask pts =>
        obtain ⟨h1, h2⟩ := corAllR_null sizes lines mask pts st hst fuel m 0 []
        simp only [corStep, h1]
        exact Prod.ext (congrArg (RMux.mk _) h2) rfl
      | dataId d => rfl
      | size a b => rfl
    rw [List.map_cons, corRunR, hstep, ih]
    rfl

/-- the instance `raw`, `sp` NULL, `keep = false` of `corRunR_eq_runR`, transported by `corRunR_null` / `runR_null`; stated as
    property in `Props/C06Join.lean` -/
theorem cor_history_equals_feed (fuel : Nat) (hfuel : 66928 ≤ fuel) (ops : List (Op × List Nat))
    (hops : ∀ op ∈ ops, CorOpOK op) :
    ∀ m1 m2 : Mux, Idle m1 → m1.cfg = m2.cfg → m1.cc = m2.cc → CfgOK m2.cfg →
      (corRun fuel m1 ops).2 = (run m2 (ops.map Prod.fst)).2.1
      ∧ Idle (corRun fuel m1 ops).1
      ∧ (corRun fuel m1 ops).1.cfg = (run m2 (ops.map Prod.fst)).1.cfg
      ∧ (corRun fuel m1 ops).1.cc = (run m2 (ops.map Prod.fst)).1.cc := by
  intro m1 m2 hi hcfg hcc hc
  have hops' : ∀ op ∈ ops.map (fun o => (OpR.ofOp o.1, o.2)), CorOpROK op := by
    intro op hop
    obtain ⟨⟨o, sizes⟩, hx, rfl⟩ := List.mem_map.mp hop
    have := hops _ hx
    cases o with
    | frame lines mask pts => exact ⟨this.1, this.2.1, this.2.2.2⟩
    | dataId d => trivial
    | size a b => trivial
  have h := corRunR_eq_runR false fuel hfuel _ hops' ⟨m1, {}⟩ ⟨m2, {}⟩ ⟨hi, hcfg, hcc, rfl, rfl, hc⟩
  rw [corRunR_null fuel {} rfl, List.map_map,
    show (Prod.fst ∘ fun o : Op × List Nat => (OpR.ofOp o.1, o.2)) = OpR.ofOp ∘ Prod.fst from rfl, ← List.map_map,
    runR_null {} rfl] at h
  exact ⟨h.1, h.2.idle, h.2.cfg, h.2.cc⟩

end Zvbi.Mux
