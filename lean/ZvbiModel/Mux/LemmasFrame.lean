import ZvbiModel.Mux.LemmasLines
/-!
# Lemmas: a frame of sliced lines -> the data unit region of one PES packet
-/
namespace Zvbi.Mux
open Zvbi.Mux.EnParse Zvbi.Hamm

theorem byte_lt (s : Sliced) (hs : Sliced.WF s) (i : Nat) : s.byte i < 256 := by
  unfold Sliced.byte
  rw [List.getD_eq_getElem?_getD]
  cases h : s.data[i]? with
  | none => simp
  | some b => simp; exact hs.2.2.2 b (List.mem_of_getElem? h)

theorem bytes_lt (s : Sliced) (hs : Sliced.WF s) (n : Nat) : ∀ b ∈ (List.range n).map s.byte, b < 256 := by
  intro b hb
  rw [List.mem_map] at hb
  obtain ⟨i, _, rfl⟩ := hb
  exact byte_lt s hs i

/-- size of the data unit of a permitted sliced line -/
def unitSize (fixed : Bool) (s : Sliced) : Nat :=
  if fixed then 46 else if s.id = 4 then 16 else if s.id = 1 ∨ s.id = 2 ∨ s.id = 3 then 46 else 5

theorem unitSize_eq (fixed : Bool) (s : Sliced) : (if fixed then 46 else unitSize false s) = unitSize fixed s := by
  cases fixed <;> simp [unitSize]

theorem unitSize_bounds (fixed : Bool) (s : Sliced) : 5 ≤ unitSize fixed s ∧ unitSize fixed s ≤ 46 := by
  unfold unitSize
  split
  · omega
  split
  · omega
  split <;> omega

/-- the `switch (s->id)` answers with the unit size exactly when `s` is `Permitted`, else with `VBI_ERR_LINE_NUMBER` (a service it
    converts) or `VBI_ERR_INVALID_SERVICE` -/
theorem duSizeOf_spec (s : Sliced) (hline : s.line < 2 ^ 32) :
    (Permitted s ∧ duSizeOf s.id s.line = .ok (unitSize false s))
    ∨ (¬ Permitted s ∧ (duSizeOf s.id s.line = .error .lineNumber ∨ duSizeOf s.id s.line = .error .invalidService)) := by
  unfold duSizeOf SL_TTX_L10 SL_TTX_L25 SL_TTX SL_VPS SL_WSS SL_CC SL_CC_F1 F2_START
  by_cases ht : s.id = 1 ∨ s.id = 2 ∨ s.id = 3
  · rw [if_pos ht]
    have hu : unitSize false s = 46 := by unfold unitSize; rw [if_neg Bool.false_ne_true, if_neg (by omega), if_pos ht]
    by_cases hl : s.line = 0 ∨ (7 ≤ s.line ∧ s.line ≤ 22) ∨ (320 ≤ s.line ∧ s.line ≤ 335)
    · refine .inl ⟨.inl ⟨ht, hl⟩, ?_⟩
      rw [hu]
      by_cases h0 : s.line = 0
      · rw [if_pos h0]
      · rw [if_neg h0]; exact if_neg (by split <;> omega)
    · exact .inr ⟨by unfold Permitted; omega, .inl ((if_neg (by omega)).trans (if_pos (by split <;> omega)))⟩
  rw [if_neg ht]
  by_cases hv : s.id = 4
  · rw [if_pos hv]
    by_cases hl : s.line = 16
    · exact .inl ⟨.inr (.inl ⟨hv, hl⟩), (if_neg (not_not_intro hl)).trans (by unfold unitSize; rw [if_neg Bool.false_ne_true, if_pos hv])⟩
    · exact .inr ⟨by unfold Permitted; omega, .inl (if_pos hl)⟩
  rw [if_neg hv]
  have hu : unitSize false s = 5 := by unfold unitSize; rw [if_neg Bool.false_ne_true, if_neg hv, if_neg ht]
  by_cases hw : s.id = 0x400
  · rw [if_pos hw]
    by_cases hl : s.line = 23
    · exact .inl ⟨.inr (.inr (.inl ⟨hw, hl⟩)), hu ▸ (if_neg (not_not_intro hl) :)⟩
    · exact .inr ⟨by unfold Permitted; omega, .inl (if_pos hl)⟩
  rw [if_neg hw]
  by_cases hc : s.id = 0x18 ∨ s.id = 8
  · rw [if_pos hc]
    by_cases hl : s.line = 21
    · exact .inl ⟨.inr (.inr (.inr ⟨hc, hl⟩)), hu ▸ (if_neg (not_not_intro hl) :)⟩
    · exact .inr ⟨by unfold Permitted; omega, .inl (if_pos hl)⟩
  rw [if_neg hc]
  exact .inr ⟨by unfold Permitted; omega, .inr rfl⟩

/-- reserved '11', field_parity, line_offset, taken apart once -/
theorem lofpOf_cases (line ll : Nat) :
    (line = 0 ∧ lofpOf line ll = .ok (if ll ≥ 313 then 0xC0 else 0xE0))
    ∨ (0 < line ∧ line < 32 ∧ lofpOf line ll = .ok (0xE0 + line))
    ∨ (313 ≤ line ∧ line < 345 ∧ lofpOf line ll = .ok (0xC0 + line - 313))
    ∨ (((32 ≤ line ∧ line < 313) ∨ 345 ≤ line) ∧ lofpOf line ll = .error .lineNumber) := by
  unfold lofpOf F2_START
  by_cases h0 : line = 0
  · rw [if_pos h0]; exact .inl ⟨h0, by split <;> rfl⟩
  rw [if_neg h0]
  by_cases h32 : line < 32
  · rw [if_pos h32]; exact .inr (.inl ⟨by omega, h32, rfl⟩)
  rw [if_neg h32]
  by_cases h313 : line < 313
  · rw [if_pos h313]; exact .inr (.inr (.inr ⟨.inl ⟨by omega, h313⟩, rfl⟩))
  rw [if_neg h313]
  by_cases h345 : line < 313 + 32
  · rw [if_pos h345]; exact .inr (.inr (.inl ⟨by omega, by omega, rfl⟩))
  · rw [if_neg h345]; exact .inr (.inr (.inr ⟨.inr (by omega), rfl⟩))

theorem lofpOf_ok (line lastLine lofp : Nat) (h : lofpOf line lastLine = .ok lofp) :
    (line = 0 ∧ (lofp = 0xC0 ∨ lofp = 0xE0)) ∨ (0 < line ∧ line < 32 ∧ lofp = 0xE0 + line)
    ∨ (313 ≤ line ∧ line < 345 ∧ lofp = 0xC0 + (line - 313)) := by
  rcases lofpOf_cases line lastLine with ⟨h0, hc⟩ | ⟨h0, h1, hc⟩ | ⟨h0, h1, hc⟩ | ⟨_, hc⟩ <;> rw [hc] at h
  · exact .inl ⟨h0, by rw [← Except.ok.inj h]; split <;> simp⟩
  · exact .inr (.inl ⟨h0, h1, (Except.ok.inj h).symm⟩)
  · exact .inr (.inr ⟨h0, h1, by have := Except.ok.inj h; omega⟩)
  · cases h

theorem lofpOf_lt (line lastLine lofp : Nat) (h : lofpOf line lastLine = .ok lofp) : lofp < 256 := by
  rcases lofpOf_ok _ _ _ h with ⟨_, h | h⟩ | ⟨_, _, h⟩ | ⟨_, _, h⟩ <;> omega

theorem lofpOf_first (line lastLine lofp : Nat) (h0 : 0 < line) (h32 : line < 32) (h : lofpOf line lastLine = .ok lofp) :
    lofp = 0xE0 + line := by
  rcases lofpOf_ok _ _ _ h with ⟨h, _⟩ | ⟨_, _, hv⟩ | ⟨h, _, _⟩ <;> omega

theorem lofpOf_permitted (s : Sliced) (h : Permitted s) (lastLine : Nat) : ∃ lofp, lofpOf s.line lastLine = .ok lofp := by
  unfold Permitted at h
  rcases lofpOf_cases s.line lastLine with ⟨_, hc⟩ | ⟨_, _, hc⟩ | ⟨_, _, hc⟩ | ⟨hl, _⟩
  · exact ⟨_, hc⟩
  · exact ⟨_, hc⟩
  · exact ⟨_, hc⟩
  · omega

theorem unit_bytes_lt (id : Nat) (p : Bytes) (hid : id < 256) (hlen : p.length < 256) (hp : ∀ x ∈ p, x < 256) :
    ∀ x ∈ encUnits [⟨id, p⟩], x < 256 := by
  rw [encUnits_single]
  simp only [List.forall_mem_cons]
  exact ⟨hid, hlen, hp⟩

theorem ttx_lofp (line lastLine lofp : Nat) (hl : lofpOf line lastLine = .ok lofp)
    (hp : line = 0 ∨ (7 ≤ line ∧ line ≤ 22) ∨ (320 ≤ line ∧ line ≤ 335)) :
    lofpLine lofp = some line ∧ (lofp % 32 = 0 ∨ (7 ≤ lofp % 32 ∧ lofp % 32 ≤ 22)) := by
  rcases lofpOf_ok line lastLine lofp hl with ⟨h0, hv⟩ | ⟨h0, h32, hv⟩ | ⟨h313, h345, hv⟩
  · subst h0
    rcases hv with rfl | rfl
    · exact ⟨lofpLine_undef.1, Or.inl rfl⟩
    · exact ⟨lofpLine_undef.2, Or.inl rfl⟩
  · subst hv
    refine ⟨lofpLine_first line h0 h32, ?_⟩
    clear hl
    have : (224 + line) % 32 = line := by omega
    rw [this]; omega
  · have hlt : line - 313 < 32 := by omega
    have hpos : 0 < line - 313 := by omega
    have h1 := lofpLine_second (line - 313) hpos hlt
    have e : 313 + (line - 313) = line := by omega
    rw [e] at h1
    rw [hv]
    refine ⟨h1, ?_⟩
    have h2 : (192 + (line - 313)) % 32 = line - 313 := by omega
    rw [h2]
    right; constructor <;> omega

/-- what the data units of sliced lines have in common -/
structure GoodUnit (fixed : Bool) (u : DataUnit) : Prop where
  id : u.id ≠ 0xFF
  le46 : u.payload.length + 2 ≤ 46
  fixedLen : fixed = true → u.payload.length = 0x2C
  line : ∃ l, unitLine u = some (some l)

theorem GoodUnit.ok {fixed : Bool} {u : DataUnit} (h : GoodUnit fixed u) : UnitOK fixed u :=
  ⟨by have := h.le46; omega, h.fixedLen⟩

/-- `u` is the data unit `duBytes` writes for the permitted line `s` with the reserved / field_parity / line_offset byte `lofp` -/
structure UnitOf (s : Sliced) (fixed : Bool) (lofp : Nat) (u : DataUnit) : Prop where
  canon : ∃ l, canon s = some l ∧ unitLine u = some (some l)
  len : u.payload.length + 2 = unitSize fixed s
  id : u.id ≠ 0xFF
  lofp : u.payload.getD 0 0 = lofp
  lt : ∀ x ∈ encUnits [u], x < 256

theorem UnitOf.good {s : Sliced} {fixed : Bool} {lofp : Nat} {u : DataUnit} (h : UnitOf s fixed lofp u) : GoodUnit fixed u := by
  have hl := h.len
  obtain ⟨l, _, hu⟩ := h.canon
  refine ⟨h.id, by have := (unitSize_bounds fixed s).2; omega, fun hf => ?_, l, hu⟩
  rw [hf, unitSize, if_pos rfl] at hl
  omega

theorem line_unit (s : Sliced) (hs : Sliced.WF s) (fixed : Bool) (lastLine lofp : Nat) (hp : Permitted s)
    (hl : lofpOf s.line lastLine = .ok lofp) :
    ∃ u, duBytes s (unitSize fixed s) lofp = .ok (encUnits [u]) ∧ UnitOf s fixed lofp u := by
  have hlofp := lofpOf_lt _ _ _ hl
  have hb0 := byte_lt s hs 0
  have hb1 := byte_lt s hs 1
  obtain ⟨id, line, data⟩ := s
  unfold Permitted at hp
  simp only at hp hl ⊢
  rcases hp with ⟨hid, hp⟩ | ⟨rfl, rfl⟩ | ⟨rfl, rfl⟩ | ⟨hid, rfl⟩
  · -- Teletext
    have hmask : id &&& SL_TTX ≠ 0 := by rcases hid with rfl | rfl | rfl <;> decide
    have hsz : unitSize fixed ⟨id, line, data⟩ = 46 := by
      unfold unitSize; split
      · rfl
      · rw [if_neg (by simp only; omega)]
    rw [hsz]
    let X := (List.range 42).map (Sliced.byte ⟨id, line, data⟩)
    have hXlen : X.length = 42 := by simp [X]
    have hXb := bytes_lt ⟨id, line, data⟩ hs 42
    obtain ⟨hll, hoff⟩ := ttx_lofp line lastLine lofp hl hp
    refine ⟨⟨0x02, lofp :: 0xE4 :: (X.map rev8 ++ List.replicate 0 0xFF)⟩, ?_, ⟨⟨.ttx, line, X⟩, ?_, ?_⟩, ?_, by simp, rfl,
      unit_bytes_lt _ _ (by omega) (by simp [hXlen]) ?_⟩
    · unfold duBytes
      simp only [hmask, ne_eq, not_false_eq_true, if_true]
      rw [encUnits_single]
      simp [X, DU_TTX, List.map_map, Function.comp_def]
    · unfold canon; rw [if_pos hid]
    · exact unitLine_ttx lofp line X 0 hXlen hXb hll hoff
    · rw [hsz]; simp [hXlen]
    · simp only [List.forall_mem_cons, List.forall_mem_append, List.forall_mem_map, List.forall_mem_replicate]
      exact ⟨hlofp, by omega, fun _ _ => rev8_lt_any _, .inl trivial⟩
  · -- VPS on line 16
    obtain rfl := lofpOf_first 16 lastLine lofp (by omega) (by omega) hl
    have hsz : unitSize fixed ⟨4, 16, data⟩ = if fixed then 46 else 16 := by cases fixed <;> rfl
    rw [hsz]
    let X := (List.range 13).map (Sliced.byte ⟨4, 16, data⟩)
    have hXlen : X.length = 13 := by simp [X]
    refine ⟨⟨0xC3, (0xE0 + 16) :: (X ++ List.replicate ((if fixed = true then 46 else 16) - 16) 0xFF)⟩, ?_,
      ⟨⟨.vps, 16, X⟩, ?_, ?_⟩, ?_, by simp, rfl, unit_bytes_lt _ _ (by omega) (by cases fixed <;> simp [hXlen]) ?_⟩
    · unfold duBytes
      rw [encUnits_single]
      cases fixed <;> simp [X, DU_VPS, SL_TTX, SL_VPS, SL_VPS_F2]
    · simp [canon, X]
    · exact unitLine_vps X _ hXlen
    · rw [hsz]; cases fixed <;> simp [hXlen]
    · simp only [List.forall_mem_cons, List.forall_mem_append, List.forall_mem_replicate]
      exact ⟨by omega, bytes_lt ⟨4, 16, data⟩ hs 13, .inr (by omega)⟩
  · -- WSS on line 23
    obtain rfl := lofpOf_first 23 lastLine lofp (by omega) (by omega) hl
    have hsz : unitSize fixed ⟨0x400, 23, data⟩ = if fixed then 46 else 5 := by cases fixed <;> rfl
    rw [hsz]
    refine ⟨⟨0xC4, (0xE0 + 23) :: rev8 (Sliced.byte ⟨0x400, 23, data⟩ 0) :: (rev8 (Sliced.byte ⟨0x400, 23, data⟩ 1) ||| 3)
        :: List.replicate ((if fixed = true then 46 else 5) - 5) 0xFF⟩, ?_,
      ⟨⟨.wss, 23, [Sliced.byte ⟨0x400, 23, data⟩ 0, Sliced.byte ⟨0x400, 23, data⟩ 1 % 64]⟩, ?_, ?_⟩, ?_, by simp, rfl,
      unit_bytes_lt _ _ (by omega) (by cases fixed <;> simp) ?_⟩
    · unfold duBytes
      rw [encUnits_single]
      cases fixed <;> simp [DU_WSS, SL_TTX, SL_VPS, SL_VPS_F2, SL_WSS]
    · simp [canon]
    · exact unitLine_wss _ _ _ hb0 hb1
    · rw [hsz]; cases fixed <;> simp
    · simp only [List.forall_mem_cons, List.forall_mem_replicate]
      exact ⟨by omega, rev8_lt_any _, or3_lt _ (rev8_lt_any _), .inr (by omega)⟩
  · -- Caption on line 21
    obtain rfl := lofpOf_first 21 lastLine lofp (by omega) (by omega) hl
    have hsz : unitSize fixed ⟨id, 21, data⟩ = if fixed then 46 else 5 := by rcases hid with rfl | rfl <;> cases fixed <;> rfl
    rw [hsz]
    refine ⟨⟨0xC5, (0xE0 + 21) :: rev8 (Sliced.byte ⟨id, 21, data⟩ 0) :: rev8 (Sliced.byte ⟨id, 21, data⟩ 1)
        :: List.replicate ((if fixed = true then 46 else 5) - 5) 0xFF⟩, ?_,
      ⟨⟨.cc, 21, [Sliced.byte ⟨id, 21, data⟩ 0, Sliced.byte ⟨id, 21, data⟩ 1]⟩, ?_, ?_⟩, ?_, by simp, rfl,
      unit_bytes_lt _ _ (by omega) (by cases fixed <;> simp) ?_⟩
    · unfold duBytes
      rw [encUnits_single]
      rcases hid with rfl | rfl <;> cases fixed <;> simp [DU_CC, SL_TTX, SL_VPS, SL_VPS_F2, SL_WSS, SL_CC]
    · rcases hid with rfl | rfl <;> simp [canon]
    · exact unitLine_cc _ _ _ hb0 hb1
    · rw [hsz]; cases fixed <;> simp
    · simp only [List.forall_mem_cons, List.forall_mem_replicate]
      exact ⟨by omega, rev8_lt_any _, rev8_lt_any _, .inr (by omega)⟩

theorem sent_cons_masked (mask : Nat) (s : Sliced) (rest : List Sliced) (h : s.id &&& mask = 0) :
    sent mask (s :: rest) = sent mask rest := by
  simp [sent, h]

theorem sent_cons_kept (mask : Nat) (s : Sliced) (rest : List Sliced) (l : Line) (h : ¬ s.id &&& mask = 0)
    (hc : canon s = some l) : sent mask (s :: rest) = l :: sent mask rest := by
  simp [sent, h, hc]

/-- `last_line` after the line `s` -/
def nextLine (ll : Nat) (s : Sliced) : Nat := if s.line > 0 then s.line else ll

/-- what `insert_sliced_data_units` stores for the lines it has gone through, entered with `last_line = ll` and leaving it at
    `ll'`: nothing for a line the mask leaves out; for a selected line, which is then in order and permitted, its data unit -/
inductive Stored (mask : Nat) (fixed : Bool) : Nat → List Sliced → List DataUnit → Nat → Prop
  | nil (ll : Nat) : Stored mask fixed ll [] [] ll
  | skip {ll ll' : Nat} {s : Sliced} {rest : List Sliced} {us : List DataUnit} : s.id &&& mask = 0 →
      Stored mask fixed ll rest us ll' → Stored mask fixed ll (s :: rest) us ll'
  | unit {ll ll' lofp : Nat} {s : Sliced} {rest : List Sliced} {u : DataUnit} {us : List DataUnit} :
      s.id &&& mask ≠ 0 → ¬ (s.line > 0 ∧ s.line ≤ ll) → Permitted s → lofpOf s.line (nextLine ll s) = .ok lofp →
      UnitOf s fixed lofp u → Stored mask fixed (nextLine ll s) rest us ll' → Stored mask fixed ll (s :: rest) (u :: us) ll'

/-- why `insert_sliced_data_units` returned in front of the lines `rest` with `last_line = ll` and `pLeft` bytes of room: all
    lines done, or the first of `rest` is selected and out of order, not a service / line it converts, or too big -/
inductive Stop (mask : Nat) (fixed : Bool) (ll pLeft : Nat) : List Sliced → Option Err → Prop
  | done : Stop mask fixed ll pLeft [] none
  | order {s : Sliced} {rest : List Sliced} : s.id &&& mask ≠ 0 → s.line > 0 ∧ s.line ≤ ll →
      Stop mask fixed ll pLeft (s :: rest) (some .lineOrder)
  | refused {s : Sliced} {rest : List Sliced} {e : Err} : s.id &&& mask ≠ 0 → ¬ Permitted s →
      e = .lineNumber ∨ e = .invalidService → Stop mask fixed ll pLeft (s :: rest) (some e)
  | full {s : Sliced} {rest : List Sliced} : s.id &&& mask ≠ 0 → ¬ (s.line > 0 ∧ s.line ≤ ll) → Permitted s →
      unitSize fixed s > pLeft → Stop mask fixed ll pLeft (s :: rest) none

theorem insertSliced_stored (mask : Nat) (fixed : Bool) (lines : List Sliced) (hwf : ∀ s ∈ lines, Sliced.WF s) :
    ∀ pLeft lastLine lastDu, ∃ pre us ll',
      lines = pre ++ (insertSliced mask fixed pLeft lastLine lastDu lines).rest
      ∧ Stored mask fixed lastLine pre us ll'
      ∧ Region true fixed pLeft lastDu (insertSliced mask fixed pLeft lastLine lastDu lines).out
          (insertSliced mask fixed pLeft lastLine lastDu lines).lastDu
          (insertSliced mask fixed pLeft lastLine lastDu lines).pLeft us
      ∧ Stop mask fixed ll' (insertSliced mask fixed pLeft lastLine lastDu lines).pLeft
          (insertSliced mask fixed pLeft lastLine lastDu lines).rest
          (insertSliced mask fixed pLeft lastLine lastDu lines).err := by
  induction lines with
  | nil => intro pLeft ll lastDu; exact ⟨[], [], ll, rfl, .nil ll, .nil .., .done⟩
  | cons s rest ih =>
    have hs : Sliced.WF s := hwf s (List.mem_cons_self ..)
    have ih := ih fun x hx => hwf x (List.mem_cons_of_mem _ hx)
    intro pLeft ll lastDu
    have stop : ∀ e, Stop mask fixed ll pLeft (s :: rest) e → ∃ pre us ll',
        s :: rest = pre ++ (s :: rest) ∧ Stored mask fixed ll pre us ll' ∧ Region true fixed pLeft lastDu [] lastDu pLeft us
          ∧ Stop mask fixed ll' pLeft (s :: rest) e :=
      fun e h => ⟨[], [], ll, rfl, .nil ll, .nil .., h⟩
    rw [insertSliced]
    by_cases hm : s.id &&& mask = 0
    · rw [if_pos hm]
      obtain ⟨pre, us, ll', h1, h2, h3, h4⟩ := ih pLeft ll lastDu
      exact ⟨s :: pre, us, ll', congrArg (s :: ·) h1, .skip hm h2, h3, h4⟩
    rw [if_neg hm]
    by_cases ho : s.line > 0 ∧ s.line ≤ ll
    · rw [if_pos ho]; exact stop _ (.order hm ho)
    rw [if_neg ho]
    rcases duSizeOf_spec s hs.2.1 with ⟨hp, hd⟩ | ⟨hp, hd | hd⟩
    · rw [hd]
      simp only [unitSize_eq]
      by_cases hfit : unitSize fixed s > pLeft
      · rw [if_pos hfit]; exact stop _ (.full hm ho hp hfit)
      rw [if_neg hfit]
      obtain ⟨lofp, hl⟩ := lofpOf_permitted s hp (nextLine ll s)
      obtain ⟨u, hb, hu⟩ := line_unit s hs fixed _ lofp hp hl
      unfold nextLine at hl
      simp only [hl, hb]
      obtain ⟨pre, us, ll', h1, h2, h3, h4⟩ := ih (pLeft - unitSize fixed s) (nextLine ll s) (unitSize fixed s)
      have hlen := hu.len
      have R1 := Region.single fixed pLeft lastDu u hu.good.ok (by have := hu.good.le46; omega) (by omega)
      rw [hlen] at R1
      exact ⟨s :: pre, u :: us, ll', congrArg (s :: ·) h1, .unit hm ho hp hl hu h2, R1.append h3, h4⟩
    · rw [hd]; exact stop _ (.refused hm hp (.inl rfl))
    · rw [hd]; exact stop _ (.refused hm hp (.inr rfl))

theorem insertSliced_done (mask : Nat) (fixed : Bool) (lines : List Sliced) (hwf : ∀ s ∈ lines, Sliced.WF s)
    (pLeft lastLine lastDu : Nat) (hr : (insertSliced mask fixed pLeft lastLine lastDu lines).rest = []) :
    ∃ us ll', Stored mask fixed lastLine lines us ll'
      ∧ Region true fixed pLeft lastDu (insertSliced mask fixed pLeft lastLine lastDu lines).out
          (insertSliced mask fixed pLeft lastLine lastDu lines).lastDu
          (insertSliced mask fixed pLeft lastLine lastDu lines).pLeft us := by
  obtain ⟨pre, us, ll', h1, h2, R, _⟩ := insertSliced_stored mask fixed lines hwf pLeft lastLine lastDu
  rw [hr, List.append_nil] at h1
  subst h1
  exact ⟨us, ll', h2, R⟩

theorem Stored.units {mask : Nat} {fixed : Bool} {ll ll' : Nat} {pre : List Sliced} {us : List DataUnit}
    (h : Stored mask fixed ll pre us ll') :
    unitsLines us = some (sent mask pre) ∧ (∀ u ∈ us, GoodUnit fixed u) ∧ (∀ s ∈ pre, s.id &&& mask ≠ 0 → Permitted s) := by
  induction h with
  | nil => exact ⟨rfl, nofun, nofun⟩
  | skip hm _ ih =>
    obtain ⟨h1, h2, h3⟩ := ih
    refine ⟨by rw [sent_cons_masked _ _ _ hm]; exact h1, h2, fun x hx hxm => ?_⟩
    rcases List.mem_cons.mp hx with rfl | hx
    · exact absurd hm hxm
    · exact h3 x hx hxm
  | unit hm _ hp _ hu _ ih =>
    obtain ⟨h1, h2, h3⟩ := ih
    obtain ⟨l, hc, hul⟩ := hu.canon
    exact ⟨by rw [sent_cons_kept _ _ _ l hm hc]; simp [unitsLines, hul, h1], List.forall_mem_cons.mpr ⟨hu.good, h2⟩,
      List.forall_mem_cons.mpr ⟨fun _ => hp, h3⟩⟩

/-- the line numbers of a frame - all lines, selected by the mask or not; 0 (undefined) is skipped -
    ascend strictly from `last` on: the check of the outer scan of `generate_pes_packet` -/
def ordered (last : Nat) : List Sliced → Bool
  | [] => true
  | s :: rest => if s.line > 0 then decide (last < s.line) && ordered s.line rest else ordered last rest

def Ordered (last : Nat) (lines : List Sliced) : Prop := ordered last lines = true

instance (last : Nat) (lines : List Sliced) : Decidable (Ordered last lines) := by unfold Ordered; infer_instance

theorem ordered_cons (L : Nat) (s : Sliced) (rest : List Sliced) :
    Ordered L (s :: rest) ↔ ¬ (s.line > 0 ∧ s.line ≤ L) ∧ Ordered (nextLine L s) rest := by
  unfold Ordered nextLine
  rw [ordered]
  by_cases h0 : s.line > 0
  · simp only [h0, if_true, Bool.and_eq_true, decide_eq_true_eq, true_and]
    constructor <;> rintro ⟨a, b⟩ <;> exact ⟨by omega, b⟩
  · simp only [h0, if_false, false_and, not_false_eq_true, true_and]

theorem scanSeg_spec (todo : List Sliced) : ∀ ll,
    match scanSeg ll todo with
    | .error _ => ¬ Ordered ll todo
    | .ok (seg, ll', rest) => todo = seg ++ rest ∧ (∀ s ∈ seg, s.id ≠ SL_VBI625) ∧ (∀ r ∈ rest.head?, r.id = SL_VBI625)
        ∧ (Ordered ll todo → Ordered ll seg ∧ Ordered ll' rest.tail) := by
  induction todo with
  | nil => intro ll; exact ⟨rfl, nofun, nofun, fun _ => ⟨rfl, rfl⟩⟩
  | cons s todo ih =>
    intro ll
    rw [scanSeg]
    by_cases ho : s.line > 0 ∧ s.line ≤ ll
    · rw [if_pos ho]; exact fun h => ((ordered_cons ll s todo).mp h).1 ho
    rw [if_neg ho]
    by_cases hid : s.id ≠ SL_VBI625
    · simp only [if_pos hid]
      have := ih (if s.line > 0 then s.line else ll)
      cases hs : scanSeg (if s.line > 0 then s.line else ll) todo with
      | error off => rw [hs] at this; exact fun h => this ((ordered_cons ll s todo).mp h).2
      | ok r =>
        obtain ⟨seg', l, r'⟩ := r
        rw [hs] at this
        obtain ⟨h1, h2, h3, h4⟩ := this
        refine ⟨by rw [h1]; rfl, fun x hx => (List.mem_cons.mp hx).elim (· ▸ hid) (h2 x), h3, fun h => ?_⟩
        obtain ⟨a, b⟩ := h4 ((ordered_cons ll s todo).mp h).2
        exact ⟨(ordered_cons ll s seg').mpr ⟨ho, a⟩, b⟩
    · simp only [if_neg hid]
      exact ⟨rfl, nofun, fun r hr => by cases hr; exact Decidable.not_not.mp hid,
        fun h => ⟨rfl, ((ordered_cons ll s todo).mp h).2⟩⟩

end Zvbi.Mux
