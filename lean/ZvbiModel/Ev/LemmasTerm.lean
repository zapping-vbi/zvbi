import ZvbiModel.Ev.LemmasRun
/-!
# Termination of a delivery for behaviours that stop adding handlers (C11)
-/
namespace Zvbi.Ev

/-- number of linked records at or after id `c` -/
def todoFrom (c : Nat) (l : List Rec) : Nat := l.countP (fun r => decide (c ≤ r.id))

/-- records the loop still has to visit -/
def todo (s : State) : Nat :=
  match s.cursor with
  | none => 0
  | some c => todoFrom c s.handlers

theorem todoFrom_le {c c' : Nat} {l l' : List Rec} (hc : c ≤ c') (hl : l'.Sublist l) :
    todoFrom c' l' ≤ todoFrom c l :=
  Nat.le_trans (hl.countP_le) (List.countP_mono_left fun r _ hr => by
    simp only [decide_eq_true_eq] at hr ⊢; omega)

theorem todoFrom_map_upd (c0 : Nat) (c : Call) (l : List Rec) :
    todoFrom c0 (l.map c.upd) = todoFrom c0 l := by
  unfold todoFrom
  rw [List.countP_map]
  exact congrArg (List.countP · l) (funext fun r => by simp [upd_id])

theorem todoFrom_append_one (c0 : Nat) (l : List Rec) (r : Rec) :
    todoFrom c0 (l ++ [r]) ≤ todoFrom c0 l + 1 := by
  unfold todoFrom
  rw [List.countP_append]
  exact Nat.add_le_add_left List.countP_le_length _

theorem todoFrom_next {c : Nat} {l : List Rec} (hc : c ∈ ids l) : todoFrom (c + 1) l + 1 ≤ todoFrom c l := by
  induction l with
  | nil => cases hc
  | cons a l ih =>
    have hm := todoFrom_le (Nat.le_add_right c 1) (List.Sublist.refl l)
    unfold todoFrom at ih hm ⊢
    simp only [List.countP_cons, decide_eq_true_eq]
    by_cases ha : a.id = c
    · simp only [ha, Nat.not_succ_le_self, Nat.le_refl, if_true, if_false]; omega
    · have := ih ((List.mem_cons.mp hc).resolve_left (Ne.symm ha))
      by_cases hlt : c + 1 ≤ a.id
      · simp only [hlt, Nat.le_of_succ_le hlt, if_true]; omega
      · have h2 : ¬ c ≤ a.id := by omega
        simp only [hlt, h2, if_false]; omega

theorem todo_le_length (s : State) : todo s ≤ s.handlers.length := by
  unfold todo
  split
  · exact Nat.zero_le _
  · exact List.countP_le_length

theorem apiCall_todo (c : Call) (s : State) (h : Inv s) : todo (apiCall c s) ≤ todo s + 1 := by
  rcases apiCall_spec c s h with ⟨_, _, _, heq⟩ | ⟨_, _, _, heq⟩ | ⟨_, _, heq⟩ | ⟨_, heq⟩ <;>
    rw [heq] <;> unfold todo <;> simp only [State.finish]
  · omega
  · cases s.cursor with
    | none => simp
    | some c0 => exact todoFrom_append_one c0 _ _
  · cases s.cursor with
    | none => simp
    | some c0 => simp only; rw [todoFrom_map_upd]; omega
  · cases s.cursor with
    | none => exact Nat.zero_le _
    | some c0 =>
      cases hc' : Keys.seek c0 (ids (s.handlers.filter fun r => !c.hits r)) with
      | none => simp only [Option.bind_some, hc']; exact Nat.zero_le _
      | some c' =>
        simp only [Option.bind_some, hc']
        exact Nat.le_succ_of_le (todoFrom_le (Keys.seek_some hc').2 List.filter_sublist)

theorem runScript_todo (cs : List Call) (s : State) (h : Inv s) :
    todo (runScript s cs) ≤ todo s + cs.length := by
  induction cs generalizing s with
  | nil => simp [runScript]
  | cons c cs ih =>
    have h1 := apiCall_todo c s h
    have h2 := ih (apiCall c s) (apiCall_inv c s h)
    simp only [List.length_cons]
    show todo (runScript (apiCall c s) cs) ≤ _
    omega

/-- invocations made since trace position `base` -/
def ncalls (base : Nat) (s : State) : Nat := (callIds (s.trace.drop base)).length

theorem todo_after_next (eh : Rec) (s : State) (h : Inv s) (hm : eh ∈ s.handlers) :
    todo { s with cursor := nextOf eh.id s.handlers } + 1 ≤ todoFrom eh.id s.handlers := by
  have hn := todoFrom_next (List.mem_map_of_mem hm)
  unfold todo
  cases hc : nextOf eh.id s.handlers with
  | none => simp only; omega
  | some c1 =>
    rw [nextOf_eq_seek h.sorted (List.mem_map_of_mem hm)] at hc
    have := todoFrom_le (Keys.seek_some hc).2 (List.Sublist.refl s.handlers)
    simp only
    omega

/-- `rem` is the number of further invocations after which the callbacks have stopped issuing calls;
every iteration lowers `todo + L * rem` -/
theorem sendLoop_no_fuel (beh : Behav) (ev base K L : Nat) (hb : BoundedBeh beh base K L) :
    ∀ (fuel : Nat) (eh : Option Nat) (s : State) (rem : Nat), Inv s → (∀ c, eh = some c → c ∈ ids s.handlers) →
    base ≤ s.trace.length → K ≤ ncalls base s + rem → todo { s with cursor := eh } + L * rem + 1 ≤ fuel →
    sendLoop beh ev fuel eh s ≠ .error .fuel := by
  intro fuel
  induction fuel with
  | zero => intro eh s rem _ _ _ _ hf; omega
  | succ fuel ih =>
    intro eh s rem h hl hbase hK hf
    cases eh with
    | none => rw [sendLoop_none]; nofun
    | some c =>
      obtain ⟨r, hrm, rfl, heq⟩ := sendLoop_succ (beh := beh) (ev := ev) (fuel := fuel) (hl c rfl)
      rw [heq]
      have hf : todoFrom r.id s.handlers + L * rem + 1 ≤ fuel + 1 := hf
      obtain ⟨d', V⟩ := deliverTo_visited beh ev r s h hrm
      have hnext := todo_after_next r s h hrm
      have hn2 : ncalls base (deliverTo beh ev r s) = ncalls base s + if r.mask &&& ev ≠ 0 then 1 else 0 := by
        unfold ncalls
        rw [V.trace, List.drop_append_of_le_length hbase, callIds_append, List.length_append]
        split
        · rw [callIds_call, callIds_nocall V.nocall]; rfl
        · rfl
      obtain ⟨rem', hK', hm'⟩ : ∃ rem', K ≤ ncalls base (deliverTo beh ev r s) + rem' ∧
          todo (deliverTo beh ev r s) + L * rem' + 1 ≤ todoFrom r.id s.handlers + L * rem := by
        rw [hn2]
        by_cases hmask : r.mask &&& ev ≠ 0
        · rw [if_pos hmask, deliverTo_pos beh ev r s hmask]
          have h1' : Inv { s with cursor := nextOf r.id s.handlers,
                                  trace := s.trace ++ [Entry.call r.id r.fn r.user ev] } :=
            inv_append_call (inv_next h hrm) (eh := r) hrm ev
          have hrs := runScript_todo (beh s.trace r.fn r.user ev) _ h1'
          have htodo1 : todo { s with cursor := nextOf r.id s.handlers,
                                      trace := s.trace ++ [Entry.call r.id r.fn r.user ev] }
              = todo { s with cursor := nextOf r.id s.handlers } := rfl
          rw [htodo1] at hrs
          -- from the `K`-th invocation on the callback issues nothing, so `rem` need not pay for this one
          by_cases hk : K ≤ ncalls base s
          · rw [hb.2 s.trace r.fn r.user ev hk] at hrs ⊢
            exact ⟨rem, by omega, by simp only [List.length_nil] at hrs; omega⟩
          · have hlen := hb.1 s.trace r.fn r.user ev
            obtain ⟨m, rfl⟩ : ∃ m, rem = m + 1 := ⟨rem - 1, by omega⟩
            exact ⟨m, by omega, by rw [Nat.mul_succ]; omega⟩
        · rw [if_neg hmask, deliverTo_neg beh ev r s (Classical.not_not.mp hmask)]
          exact ⟨rem, hK, by omega⟩
      exact ih _ _ rem' V.inv V.inv.cursorLive (by rw [V.trace, List.length_append]; omega) hK'
        (Nat.le_of_succ_le_succ (Nat.le_trans (Nat.succ_le_succ hm') hf))

theorem send_no_fuel (beh : Behav) (ev K L : Nat) (s : State) (fuel : Nat) (h : Inv s)
    (hb : BoundedBeh beh s.trace.length K L) (hf : s.handlers.length + K * L + 1 ≤ fuel) :
    send beh fuel ev s ≠ .error .fuel := by
  intro hs
  rcases send_error_inv hs with ⟨_, he⟩ | ⟨_, hloop⟩
  · cases he
  · have := todo_le_length { s with locked := true, cursor := s.handlers.head?.map (·.id) }
    exact sendLoop_no_fuel beh ev s.trace.length K L hb fuel _ { s with locked := true } K
      (h.setLocked _) (Keys.head_mem s.handlers) (Nat.le_refl _) (Nat.le_add_left _ _)
      (by rw [Nat.mul_comm L K]; exact Nat.le_trans (Nat.add_le_add_right (Nat.add_le_add_right this _) _) hf) hloop

end Zvbi.Ev
