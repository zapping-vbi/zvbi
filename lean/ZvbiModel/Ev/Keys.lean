import ZvbiModel.Util.Bits
/-!
# What the two handler lists of C11 have in common

Both `vbi->handlers` (`ZvbiModel/Ev`) and the list of `src/event.c` (`ZvbiModel/Evl`) are lists of records with
strictly increasing ids.  Where a delivery starts, where `eh->next` leads and where the fix-up after an unlink
leaves `next_handler` are all the same thing: the least linked id from some bound on (`seek`).  Both keep a log in which
a record that was freed is never linked or invoked again (`Linked`).
-/
namespace Zvbi.Keys

/-- the first key of `L` that is at least `b`; the least such key when `L` is increasing -/
def seek (b : Nat) (L : List Nat) : Option Nat := L.find? (fun k => decide (b ≤ k))

theorem seek_some {b c : Nat} {L : List Nat} (h : seek b L = some c) : c ∈ L ∧ b ≤ c :=
  ⟨List.mem_of_find?_eq_some h, by simpa using List.find?_some h⟩

theorem seek_le {b k : Nat} {L : List Nat} (hs : L.Pairwise (· < ·)) (hk : k ∈ L) (hb : b ≤ k) :
    ∃ c, seek b L = some c ∧ c ≤ k := by
  induction L with
  | nil => cases hk
  | cons a L ih =>
    obtain ⟨hlt, hs'⟩ := List.pairwise_cons.mp hs
    by_cases ha : b ≤ a
    · refine ⟨a, by simp [seek, ha], ?_⟩
      rcases List.mem_cons.mp hk with rfl | hk
      · exact Nat.le_refl _
      · exact Nat.le_of_lt (hlt k hk)
    · obtain ⟨c, hc, hle⟩ := ih hs' ((List.mem_cons.mp hk).resolve_left (by omega))
      exact ⟨c, by simpa [seek, ha] using hc, hle⟩

theorem seek_head {b : Nat} {L : List Nat} (h : ∀ k ∈ L, b ≤ k) : seek b L = L.head? := by
  cases L with
  | nil => rfl
  | cons a L => simp [seek, h a (by simp)]

theorem seek_cons_lt {b a : Nat} (L : List Nat) (h : a < b) : seek b (a :: L) = seek b L := by
  simp [seek, Nat.not_le.mpr h]

/-- `eh->next`: on an increasing list that holds `c`, `seek (c + 1)` walks to `c` and takes the key behind it -/
theorem seek_succ_cons {a c : Nat} {L : List Nat} (hs : (a :: L).Pairwise (· < ·)) (hc : c ∈ a :: L) :
    seek (c + 1) (a :: L) = if a = c then L.head? else seek (c + 1) L := by
  have hlt := (List.pairwise_cons.mp hs).1
  split
  · next ha => rw [seek_cons_lt _ (by omega), seek_head fun k hk => by have := hlt k hk; omega]
  · next ha => exact seek_cons_lt _ (by have := hlt c ((List.mem_cons.mp hc).resolve_left (Ne.symm ha)); omega)

variable {α : Type _} {f : α → Nat} {l : List α}

theorem inj (hs : (l.map f).Pairwise (· < ·)) {r r' : α} (hr : r ∈ l) (hr' : r' ∈ l) (h : f r = f r') : r = r' := by
  induction l with
  | nil => cases hr
  | cons a l ih =>
    obtain ⟨hlt, hs'⟩ := List.pairwise_cons.mp hs
    have hlt' : ∀ x ∈ l, f a < f x := fun x hx => hlt _ (List.mem_map_of_mem hx)
    rcases List.mem_cons.mp hr with rfl | hr1 <;> rcases List.mem_cons.mp hr' with rfl | hr1'
    · rfl
    · have := hlt' r' hr1'; omega
    · have := hlt' r hr1; omega
    · exact ih hs' hr1 hr1'

theorem not_mem_filter_not (hs : (l.map f).Pairwise (· < ·)) {q : α → Bool} {r : α} (hr : r ∈ l) (hq : q r = true) :
    f r ∉ (l.filter fun a => !q a).map f := fun h => by
  obtain ⟨r', hr', hid⟩ := List.mem_map.mp h
  obtain ⟨hm, hq'⟩ := List.mem_filter.mp hr'
  rw [inj hs hm hr hid, hq] at hq'
  cases hq'

theorem head_mem (l : List α) (c : Nat) (h : l.head?.map f = some c) : c ∈ l.map f := by
  cases l with
  | nil => cases h
  | cons r l => cases h; exact List.mem_cons_self ..

theorem head_le (hs : (l.map f).Pairwise (· < ·)) {r : α} (hr : r ∈ l) : ∃ r1, l.head? = some r1 ∧ f r1 ≤ f r := by
  cases l with
  | nil => cases hr
  | cons a l =>
    refine ⟨a, rfl, ?_⟩
    rcases List.mem_cons.mp hr with rfl | hr
    · exact Nat.le_refl _
    · exact Nat.le_of_lt ((List.pairwise_cons.mp hs).1 _ (List.mem_map_of_mem hr))

/-- the look-up of a linked key by the delivery loops -/
theorem find_key {c : Nat} (hc : c ∈ l.map f) : ∃ r ∈ l, f r = c ∧ l.find? (fun r => f r == c) = some r := by
  obtain ⟨r, hr, hid⟩ := List.mem_map.mp hc
  cases hf : l.find? (fun r => f r == c) with
  | none => exact absurd (by simp [hid]) (List.find?_eq_none.mp hf r hr)
  | some eh => exact ⟨eh, List.mem_of_find?_eq_some hf, by simpa using List.find?_some hf, rfl⟩

theorem and_or_ne_zero {a u b : Nat} : (a ||| u) &&& b ≠ 0 ↔ a &&& b ≠ 0 ∨ u &&& b ≠ 0 :=
  (not_congr Bits.or_and_zero).trans Classical.not_and_iff_not_or_not

theorem union_and_ne_zero (l : List α) (b : Nat) :
    l.foldr (fun r a => f r ||| a) 0 &&& b ≠ 0 ↔ ∃ r ∈ l, f r &&& b ≠ 0 := by
  induction l with
  | nil => simp
  | cons a l ih =>
    rw [List.foldr_cons, and_or_ne_zero, ih]
    simp

variable {ε : Type _} {cid : ε → Option Nat} {C : Nat → ε} {t : List ε}

/-- Nothing is invoked after it was given up: no entry that invokes `x` (`cid`) comes after the entry `C x`
(`C` = freed, or removed by an API call). -/
def NoCallAfter (C : Nat → ε) (cid : ε → Option Nat) (t : List ε) : Prop :=
  t.Pairwise fun a b => ∀ x, a = C x → cid b ≠ some x

theorem NoCallAfter.append_nocall {d : List ε} (h : NoCallAfter C cid t) (hd : ∀ e ∈ d, cid e = none) :
    NoCallAfter C cid (t ++ d) :=
  List.pairwise_append.mpr ⟨h, List.pairwise_of_forall_mem_list fun a _ b hb x _ => by rw [hd b hb]; nofun,
    fun a _ b hb x _ => by rw [hd b hb]; nofun⟩

theorem NoCallAfter.append_call (h : NoCallAfter C cid t) {e : ε} {id : Nat} (he : cid e = some id) (hf : C id ∉ t) :
    NoCallAfter C cid (t ++ [e]) := by
  refine List.pairwise_append.mpr ⟨h, List.pairwise_singleton _ _, fun a ha b hb x hax h1 => ?_⟩
  rw [List.mem_singleton.mp hb, he] at h1
  cases h1
  exact hf (hax ▸ ha)

/-- What both lists keep of their records `l` (keyed by `f`, in link order), the next fresh id `n` and the log `t`:
ids increase along the list and lie below `n`; an id that was freed (`F`) lies below `n`, is not linked and is never
invoked afterwards. -/
structure Linked (f : α → Nat) (F : Nat → ε) (cid : ε → Option Nat) (l : List α) (n : Nat) (t : List ε) : Prop where
  sorted : (l.map f).Pairwise (· < ·)
  bound : ∀ r ∈ l, f r < n
  freedDead : ∀ x, F x ∈ t → x ∉ l.map f ∧ x < n
  ncaf : NoCallAfter F cid t

variable {F : Nat → ε} {n : Nat}

theorem Linked.sub (h : Linked f F cid l n t) {l' : List α} {d : List ε} (hsub : (l'.map f).Sublist (l.map f))
    (hdc : ∀ e ∈ d, cid e = none) (hdf : ∀ x, F x ∈ d → x ∉ l'.map f ∧ x < n) : Linked f F cid l' n (t ++ d) where
  sorted := h.sorted.sublist hsub
  bound r' hr' := by
    obtain ⟨r, hr, hid⟩ := List.mem_map.mp (hsub.subset (List.mem_map_of_mem hr'))
    exact hid ▸ h.bound r hr
  freedDead x hx := (List.mem_append.mp hx).elim
    (fun hx => ⟨fun h3 => (h.freedDead x hx).1 (hsub.subset h3), (h.freedDead x hx).2⟩) (hdf x)
  ncaf := h.ncaf.append_nocall hdc

theorem Linked.fresh (h : Linked f F cid l n t) {r : α} (hr : f r = n) {d : List ε} (hdc : ∀ e ∈ d, cid e = none)
    (hdf : ∀ x, F x ∉ d) : Linked f F cid (l ++ [r]) (n + 1) (t ++ d) where
  sorted := by
    rw [List.map_append, List.map_singleton, hr]
    refine List.pairwise_append.mpr ⟨h.sorted, List.pairwise_singleton _ _, fun k hk b hb => ?_⟩
    obtain ⟨r', hr', rfl⟩ := List.mem_map.mp hk
    rw [List.mem_singleton.mp hb]
    exact h.bound r' hr'
  bound r' hr' := (List.mem_append.mp hr').elim (fun hr' => Nat.lt_succ_of_lt (h.bound r' hr'))
    (fun hr' => by rw [List.mem_singleton.mp hr', hr]; exact Nat.lt_succ_self _)
  freedDead x hx := by
    obtain ⟨h1, h2⟩ := h.freedDead x ((List.mem_append.mp hx).resolve_right (hdf x))
    refine ⟨fun h3 => ?_, Nat.lt_succ_of_lt h2⟩
    rw [List.map_append, List.mem_append, List.map_singleton, List.mem_singleton, hr] at h3
    exact h3.elim h1 (Nat.ne_of_lt h2)
  ncaf := h.ncaf.append_nocall hdc

theorem Linked.call (h : Linked f F cid l n t) {r : α} (hr : r ∈ l) {e : ε} (he : cid e = some (f r))
    (hne : ∀ x, e ≠ F x) : Linked f F cid l n (t ++ [e]) where
  sorted := h.sorted
  bound := h.bound
  freedDead x hx := h.freedDead x ((List.mem_append.mp hx).resolve_right fun hx => hne x (List.mem_singleton.mp hx).symm)
  ncaf := h.ncaf.append_call he fun hf => (h.freedDead _ hf).1 (List.mem_map_of_mem hr)

end Zvbi.Keys
