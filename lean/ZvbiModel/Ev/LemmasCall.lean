import ZvbiModel.Ev.Spec
import ZvbiModel.Ev.Keys
/-!
# The list walk of vbi_event_handler_register/_add and what one API call does to the state (C11)
-/
namespace Zvbi.Ev

theorem walk_zero (hit : Rec → Bool) (l : List Rec) (cur : Option Nat) :
    (walk hit 0 l cur).chain = l.filter (fun r => !hit r) ∧ (walk hit 0 l cur).found = l.any hit ∧
    (walk hit 0 l cur).mask = orMasks (l.filter (fun r => !hit r)) ∧
    (walk hit 0 l cur).freed = (l.filter hit).map (·.id) := by
  induction l generalizing cur with
  | nil => exact ⟨rfl, rfl, rfl, rfl⟩
  | cons eh rest ih =>
    unfold walk
    by_cases h : hit eh
    · obtain ⟨h1, h2, h3, h4⟩ := ih (if cur = some eh.id then rest.head?.map (·.id) else cur)
      simp [h, h1, h3, h4]
    · obtain ⟨h1, h2, h3, h4⟩ := ih cur
      simp [h, h1, h2, h3, h4, orMasks]

theorem walk_nz (hit : Rec → Bool) (evm : Nat) (hz : evm ≠ 0) (l : List Rec) (cur : Option Nat) :
    walk hit evm l cur =
      ⟨l.map (fun r => if hit r then { r with mask := evm } else r), l.any hit,
       orMasks (l.map (fun r => if hit r then { r with mask := evm } else r)), cur, []⟩ := by
  induction l generalizing cur with
  | nil => rfl
  | cons eh rest ih =>
    unfold walk
    by_cases h : hit eh <;> simp [h, hz, ih, orMasks]

theorem walk_cursor_out (hit : Rec → Bool) (l : List Rec) (cur : Option Nat) (hc : ∀ c, cur = some c → c ∉ ids l) :
    (walk hit 0 l cur).cursor = cur := by
  induction l with
  | nil => rfl
  | cons eh rest ih =>
    have h1 : cur ≠ some eh.id := fun h => hc _ h (List.mem_cons_self ..)
    have h2 := ih fun c h hm => hc c h (List.mem_cons_of_mem _ hm)
    unfold walk
    by_cases h : hit eh <;> simp [h, h1, h2]

theorem mem_ids {l : List Rec} {x : Nat} : x ∈ ids l ↔ ∃ r ∈ l, r.id = x := by
  simp [ids]

/-- The cursor fix-up: after a removing walk, `next_handler` points to the first record from its old target on
that was not removed (NULL if there is none). -/
theorem walk_cursor_seek (hit : Rec → Bool) (l : List Rec) (c : Nat)
    (hs : (ids l).Pairwise (· < ·)) (hc : c ∈ ids l) :
    (walk hit 0 l (some c)).cursor = Keys.seek c (ids (l.filter (fun r => !hit r))) := by
  induction l generalizing c with
  | nil => cases hc
  | cons eh rest ih =>
    obtain ⟨hlt, hs'⟩ := List.pairwise_cons.mp hs
    have hrest : c ≠ eh.id → c ∈ ids rest ∧ eh.id < c := fun he =>
      have hc' := (List.mem_cons.mp hc).resolve_left he
      ⟨hc', hlt c hc'⟩
    have hsub : ∀ k ∈ ids (rest.filter (fun r => !hit r)), eh.id < k := fun k hk =>
      hlt k ((List.Sublist.map _ List.filter_sublist).subset hk)
    unfold walk
    by_cases h : hit eh <;> by_cases he : c = eh.id <;>
      simp only [h, he, if_true, Bool.false_eq_true, if_false, List.filter_cons, Bool.not_true, Bool.not_false]
    · subst he
      cases rest with
      | nil => rfl
      | cons r2 rest2 =>
        -- the cursor moves to the next record; both bounds lie below every record that is left
        have h2 := ih r2.id hs' (by simp [ids])
        simp only [List.head?_cons, Option.map_some] at h2 ⊢
        rw [h2, Keys.seek_head (fun k hk => Nat.le_of_lt (hsub k hk)), Keys.seek_head]
        intro k hk
        obtain ⟨r, hr, rfl⟩ := mem_ids.mp hk
        rcases List.mem_cons.mp (List.mem_filter.mp hr).1 with rfl | hr'
        · exact Nat.le_refl _
        · exact Nat.le_of_lt ((List.pairwise_cons.mp hs').1 _ (List.mem_map_of_mem hr'))
    · rw [if_neg (fun h1 => he (Option.some.inj h1))]
      exact ih c hs' (hrest he).1
    · subst he
      rw [walk_cursor_out hit rest _ fun c hc hm => by cases hc; exact Nat.lt_irrefl _ (hlt _ hm)]
      simp [ids, Keys.seek]
    · rw [ih c hs' (hrest he).1]
      exact (Keys.seek_cons_lt _ (hrest he).2).symm

theorem walk_nohit (hit : Rec → Bool) (evm : Nat) (hz : evm ≠ 0) (l : List Rec) (cur : Option Nat)
    (h : ∀ r ∈ l, hit r = false) :
    walk hit evm l cur = ⟨l, false, orMasks l, cur, []⟩ := by
  have hm : l.map (fun r => if hit r then { r with mask := evm } else r) = l :=
    (List.map_congr_left fun r hr => by rw [h r hr]; rfl).trans (List.map_id l)
  rw [walk_nz hit evm hz, hm, List.any_eq_false.mpr fun r hr => by simp [h r hr]]

theorem orMasks_append (l : List Rec) (r : Rec) : orMasks (l ++ [r]) = orMasks l ||| r.mask := by
  induction l with
  | nil => simp [orMasks]
  | cons a l ih =>
    simp only [orMasks, List.cons_append, List.foldr_cons] at ih ⊢
    rw [ih, Nat.or_assoc]

theorem orMasks_and_ne_zero (l : List Rec) (b : Nat) :
    orMasks l &&& b ≠ 0 ↔ ∃ r ∈ l, r.mask &&& b ≠ 0 :=
  Keys.union_and_ne_zero l b

/-- `eh->event_mask = event_mask` on the records the call names -/
def Call.upd (c : Call) (r : Rec) : Rec := if c.hits r then { r with mask := c.mask } else r

/-- How every call that does not fail ends: `l` is the list that is left, `cur` the cursor, `n` the next fresh id; `δ` is
logged (records freed or allocated), and `vbi_event_enable (vbi, mask)` stores the union of the masks of `l` and is
logged with the services it resets. -/
def State.finish (s : State) (l : List Rec) (cur : Option Nat) (n : Nat) (δ : List Entry) : State :=
  { s with handlers := l, cursor := cur, eventMask := orMasks l, nextId := n,
           trace := s.trace ++ (δ ++ [Entry.enable (orMasks l) (enableFlags s.eventMask (orMasks l))]) }

theorem apiCall_spec (c : Call) (s : State) (h : Inv s) :
    -- A: the handler is new and calloc fails: nothing changes, but (unfixed code) the mutex stays locked
    ((∀ r ∈ s.handlers, c.hits r = false) ∧ c.mask ≠ 0 ∧ c.oom = true ∧
      apiCall c s = { s with locked := if Zvbi.Gen.Ev.oomUnlocks then s.locked else true,
                             trace := s.trace ++ [Entry.oom] })
    ∨ -- B: the handler is new: a fresh record is appended
    ((∀ r ∈ s.handlers, c.hits r = false) ∧ c.mask ≠ 0 ∧ c.oom = false ∧
      apiCall c s = s.finish (s.handlers ++ [⟨s.nextId, c.fn, c.user, c.mask⟩]) s.cursor (s.nextId + 1)
        [Entry.alloc s.nextId c.fn c.user c.mask])
    ∨ -- C: the handler is registered: its mask changes in place
    (c.mask ≠ 0 ∧ (∃ r ∈ s.handlers, c.hits r = true) ∧
      apiCall c s = s.finish (s.handlers.map c.upd) s.cursor s.nextId [])
    ∨ -- D: mask 0: the named records are unlinked and freed, the cursor moves on to the first record that is left
    (c.mask = 0 ∧
      apiCall c s = s.finish (s.handlers.filter fun r => !c.hits r)
        (s.cursor.bind fun c0 => Keys.seek c0 (ids (s.handlers.filter fun r => !c.hits r))) s.nextId
        ((s.handlers.filter c.hits).map fun r => Entry.free r.id)) := by
  by_cases hz : c.mask = 0
  · refine Or.inr (Or.inr (Or.inr ⟨hz, ?_⟩))
    unfold apiCall
    simp only [hz, ne_eq, not_true_eq_false, decide_false, Bool.and_false, Bool.false_and,
      Bool.false_eq_true, if_false]
    obtain ⟨hch, _, hmk, hfr⟩ := walk_zero c.hits s.handlers s.cursor
    have hcur : (walk c.hits 0 s.handlers s.cursor).cursor
        = s.cursor.bind fun c0 => Keys.seek c0 (ids (s.handlers.filter fun r => !c.hits r)) := by
      cases hc : s.cursor with
      | none => exact walk_cursor_out _ _ _ nofun
      | some c0 => exact walk_cursor_seek _ _ c0 h.sorted (h.cursorLive c0 hc)
    rw [hmk, hch, hfr, hcur]
    simp only [List.map_map, Function.comp_def, List.append_assoc]
    rfl
  · by_cases hf : ∃ r ∈ s.handlers, c.hits r = true
    · refine Or.inr (Or.inr (Or.inl ⟨hz, hf, ?_⟩))
      unfold apiCall
      rw [walk_nz _ _ hz]
      simp only [List.any_eq_true.mpr hf, Bool.not_true, Bool.false_and, Bool.false_eq_true, if_false,
        List.map_nil, List.append_nil]
      rfl
    · have hno : ∀ r ∈ s.handlers, c.hits r = false := by
        intro r hr
        cases h : c.hits r with
        | false => rfl
        | true => exact absurd ⟨r, hr, h⟩ hf
      have hw := walk_nohit c.hits c.mask hz s.handlers s.cursor hno
      cases ho : c.oom with
      | true =>
        refine Or.inl ⟨hno, hz, rfl, ?_⟩
        unfold apiCall
        simp [hw, hz, ho]
      | false =>
        refine Or.inr (Or.inl ⟨hno, hz, rfl, ?_⟩)
        unfold apiCall
        simp only [hw, hz, ho, Bool.not_false, ne_eq, not_false_eq_true, decide_true, Bool.and_true,
          Bool.and_false, Bool.false_eq_true, if_false, if_true, List.map_nil, List.append_nil,
          List.append_assoc, List.cons_append, List.nil_append, orMasks_append, State.finish]

theorem upd_id (c : Call) (r : Rec) : (c.upd r).id = r.id := by
  unfold Call.upd; split <;> rfl
theorem upd_fn (c : Call) (r : Rec) : (c.upd r).fn = r.fn := by
  unfold Call.upd; split <;> rfl
theorem upd_user (c : Call) (r : Rec) : (c.upd r).user = r.user := by
  unfold Call.upd; split <;> rfl

theorem ids_map_upd (c : Call) (l : List Rec) : ids (l.map c.upd) = ids l := by
  simp [ids, List.map_map, Function.comp_def, upd_id]

end Zvbi.Ev
