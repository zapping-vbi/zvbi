import ZvbiModel.Ev.LemmasInv
/-!
# vbi_send_event (C11): how a state evolves while callbacks run, the loop invariant, what a terminated delivery looks like
-/
namespace Zvbi.Ev

/-- `s'` is a later state of the same delivery: the trace only grows (by entries that are not
invocations), the cursor only moves forward, the mutex stays held -/
structure Ext (s s' : State) : Prop where
  trace : ∃ d, s'.trace = s.trace ++ d ∧ ∀ e ∈ d, e.callId = none
  curNone : s.cursor = none → s'.cursor = none
  curMono : ∀ c c', s.cursor = some c → s'.cursor = some c' → c ≤ c'
  locked : s.locked = true → s'.locked = true
  nextId : s.nextId ≤ s'.nextId
  cached : s'.cached = s.cached

theorem Ext.refl (s : State) : Ext s s :=
  ⟨⟨[], by simp⟩, id, by intro c c' h1 h2; rw [h1] at h2; cases h2; exact Nat.le_refl _, id,
   Nat.le_refl _, rfl⟩

theorem Ext.trans {s s' s'' : State} (h1 : Ext s s') (h2 : Ext s' s'') : Ext s s'' := by
  obtain ⟨d1, ht1, hd1⟩ := h1.trace
  obtain ⟨d2, ht2, hd2⟩ := h2.trace
  refine ⟨⟨d1 ++ d2, by rw [ht2, ht1, List.append_assoc], ?_⟩, ?_, ?_, ?_, ?_, ?_⟩
  · intro e he
    rcases List.mem_append.mp he with he | he
    · exact hd1 e he
    · exact hd2 e he
  · intro h; exact h2.curNone (h1.curNone h)
  · intro c c'' hc hc''
    cases hm : s'.cursor with
    | none => rw [h2.curNone hm] at hc''; cases hc''
    | some c' => exact Nat.le_trans (h1.curMono c c' hc hm) (h2.curMono c' c'' hm hc'')
  · intro h; exact h2.locked (h1.locked h)
  · exact Nat.le_trans h1.nextId h2.nextId
  · rw [h2.cached, h1.cached]

theorem Ext.of_same_cursor {s s' : State} {d : List Entry} (hC : s'.cursor = s.cursor)
    (hT : s'.trace = s.trace ++ d) (hd : ∀ e ∈ d, e.callId = none) (hL : s.locked = true → s'.locked = true)
    (hN : s.nextId ≤ s'.nextId) (hK : s'.cached = s.cached) : Ext s s' :=
  ⟨⟨d, hT, hd⟩, fun h1 => by rw [hC, h1], fun c0 c' h1 h2 => by rw [hC, h1] at h2; cases h2; exact Nat.le_refl _,
   hL, hN, hK⟩

theorem apiCall_ext (c : Call) (s : State) (h : Inv s) : Ext s (apiCall c s) := by
  rcases apiCall_spec c s h with ⟨_, _, _, heq⟩ | ⟨_, _, _, heq⟩ | ⟨_, _, heq⟩ | ⟨_, heq⟩ <;>
    rw [heq]
  · exact .of_same_cursor rfl rfl (List.forall_mem_singleton.mpr rfl) (fun hl => by simp [hl]) (Nat.le_refl _) rfl
  · exact .of_same_cursor rfl rfl (List.forall_mem_cons.mpr ⟨rfl, List.forall_mem_singleton.mpr rfl⟩) id
      (Nat.le_succ _) rfl
  · exact .of_same_cursor rfl rfl (List.forall_mem_singleton.mpr rfl) id (Nat.le_refl _) rfl
  · refine ⟨⟨_, rfl, List.forall_mem_append.mpr ⟨List.forall_mem_map.mpr fun _ _ => rfl, List.forall_mem_singleton.mpr rfl⟩⟩,
      fun h1 => ?_, fun c0 c' h1 h2 => ?_, id, Nat.le_refl _, rfl⟩
    · show s.cursor.bind _ = none
      rw [h1]; rfl
    · rw [h1] at h2
      exact (Keys.seek_some h2).2

/-- record `r0` is still linked, with a mask that wants `ev` -/
def Wants (ev : Nat) (r0 : Rec) (l : List Rec) : Prop :=
  ∃ r ∈ l, r.id = r0.id ∧ r.fn = r0.fn ∧ r.user = r0.user ∧ r.mask &&& ev ≠ 0

/-- ... and the cursor has not passed it -/
def Pending (ev : Nat) (r0 : Rec) (s : State) : Prop :=
  Wants ev r0 s.handlers ∧ ∃ c, s.cursor = some c ∧ c ≤ r0.id

theorem apiCall_pending (ev : Nat) (r0 : Rec) (c : Call) (s : State) (h : Inv s)
    (hp : Pending ev r0 s) (hnd : ¬ disables ev r0 c) : Pending ev r0 (apiCall c s) := by
  obtain ⟨⟨r, hr, hid, hfn, huser, hmask⟩, c0, hc0, hle⟩ := hp
  have hhits : c.hits r = c.hits r0 := by unfold Call.hits; rw [hfn, huser]
  rcases apiCall_spec c s h with ⟨_, _, _, heq⟩ | ⟨_, _, _, heq⟩ | ⟨_, _, heq⟩ | ⟨hz, heq⟩ <;>
    rw [heq]
  · exact ⟨⟨r, hr, hid, hfn, huser, hmask⟩, c0, hc0, hle⟩
  · exact ⟨⟨r, List.mem_append_left _ hr, hid, hfn, huser, hmask⟩, c0, hc0, hle⟩
  · refine ⟨⟨c.upd r, List.mem_map_of_mem hr, (upd_id c r).trans hid, (upd_fn c r).trans hfn,
      (upd_user c r).trans huser, ?_⟩, c0, hc0, hle⟩
    unfold Call.upd
    by_cases hh : c.hits r = true
    · rw [if_pos hh]
      exact fun hm => hnd ⟨hhits ▸ hh, hm⟩
    · rw [if_neg hh]; exact hmask
  · have hnh : c.hits r = false := by
      cases hh : c.hits r with
      | false => rfl
      | true => exact absurd ⟨hhits ▸ hh, by rw [hz]; exact Nat.zero_and ev⟩ hnd
    have hrf : r ∈ s.handlers.filter (fun r => !c.hits r) := List.mem_filter.mpr ⟨hr, by simp [hnh]⟩
    refine ⟨⟨r, hrf, hid, hfn, huser, hmask⟩, ?_⟩
    rw [hc0, ← hid]
    exact Keys.seek_le (h.sorted.sublist (List.Sublist.map _ List.filter_sublist)) (List.mem_map_of_mem hrf) (hid ▸ hle)

theorem runScript_ok (cs : List Call) (s : State) (h : Inv s) :
    Inv (runScript s cs) ∧ Ext s (runScript s cs) ∧
    ∀ ev r0, Pending ev r0 s → (∀ k ∈ cs, ¬ disables ev r0 k) → Pending ev r0 (runScript s cs) := by
  induction cs generalizing s with
  | nil => exact ⟨h, Ext.refl s, fun _ _ hp _ => hp⟩
  | cons c cs ih =>
    obtain ⟨h2, e2, p2⟩ := ih (apiCall c s) (apiCall_inv c s h)
    exact ⟨h2, (apiCall_ext c s h).trans e2, fun ev r0 hp hnd =>
      p2 ev r0 (apiCall_pending ev r0 c s h hp (hnd c (by simp))) fun k hk => hnd k (by simp [hk])⟩

theorem nextOf_eq_seek {l : List Rec} {c : Nat} (hs : (ids l).Pairwise (· < ·)) (hc : c ∈ ids l) :
    nextOf c l = Keys.seek (c + 1) (ids l) := by
  induction l with
  | nil => cases hc
  | cons a l ih =>
    rw [nextOf, show ids (a :: l) = a.id :: ids l from rfl, Keys.seek_succ_cons (a := a.id) (L := ids l) hs hc]
    split
    · exact List.head?_map.symm
    · next ha => exact ih (List.pairwise_cons.mp hs).2 ((List.mem_cons.mp hc).resolve_left (Ne.symm ha))

theorem inv_next {s : State} (h : Inv s) {eh : Rec} (hm : eh ∈ s.handlers) :
    Inv { s with cursor := nextOf eh.id s.handlers } :=
  { h with cursorLive := fun _ hc => (Keys.seek_some ((nextOf_eq_seek h.sorted (List.mem_map_of_mem hm)).symm.trans hc)).1 }

theorem deliverTo_pos (beh : Behav) (ev : Nat) (eh : Rec) (s : State) (h : eh.mask &&& ev ≠ 0) :
    deliverTo beh ev eh s =
      runScript { s with cursor := nextOf eh.id s.handlers,
                         trace := s.trace ++ [Entry.call eh.id eh.fn eh.user ev] }
        (beh s.trace eh.fn eh.user ev) := by
  unfold deliverTo
  simp only [h, ne_eq, not_false_eq_true, if_true]

theorem deliverTo_neg (beh : Behav) (ev : Nat) (eh : Rec) (s : State) (h : eh.mask &&& ev = 0) :
    deliverTo beh ev eh s = { s with cursor := nextOf eh.id s.handlers } := by
  unfold deliverTo
  simp only [h, ne_eq, not_true_eq_false, if_false]

theorem sendLoop_none (beh : Behav) (ev fuel : Nat) (s : State) :
    sendLoop beh ev fuel none s = .ok s := by
  cases fuel <;> rfl

theorem callIds_append (a b : List Entry) : callIds (a ++ b) = callIds a ++ callIds b := List.filterMap_append ..

theorem callIds_call (id f u e : Nat) (t : List Entry) : callIds (.call id f u e :: t) = id :: callIds t := rfl

theorem callIds_nocall {d : List Entry} (h : ∀ e ∈ d, e.callId = none) : callIds d = [] :=
  List.filterMap_eq_nil_iff.mpr h

/-- What one iteration of the delivery loop on the linked record `eh` leaves: the cursor is past the record, and the
log grew by the invocation, if the record wants the event, and by what the calls of its callback logged (`d'`). -/
structure Visited (beh : Behav) (ev : Nat) (eh : Rec) (s s' : State) (d' : List Entry) : Prop where
  inv : Inv s'
  cached : s'.cached = s.cached
  past : ∀ c2, s'.cursor = some c2 → eh.id < c2
  nocall : ∀ e ∈ d', e.callId = none
  trace : s'.trace = s.trace ++ if eh.mask &&& ev ≠ 0 then Entry.call eh.id eh.fn eh.user ev :: d' else []
  /-- a handler further on stays pending unless this callback disables it -/
  pending : ∀ r0, eh.id < r0.id → Wants ev r0 s.handlers →
    (eh.mask &&& ev ≠ 0 → ∀ k ∈ beh s.trace eh.fn eh.user ev, ¬ disables ev r0 k) → Pending ev r0 s'

theorem deliverTo_visited (beh : Behav) (ev : Nat) (eh : Rec) (s : State) (h : Inv s) (hm : eh ∈ s.handlers) :
    ∃ d', Visited beh ev eh s (deliverTo beh ev eh s) d' := by
  have hseek := nextOf_eq_seek h.sorted (List.mem_map_of_mem hm)
  have hnx : ∀ c, nextOf eh.id s.handlers = some c → eh.id < c := fun c hc => (Keys.seek_some (hseek ▸ hc)).2
  -- `eh->next` does not pass a record further on
  have hpend : ∀ r0, eh.id < r0.id → Wants ev r0 s.handlers → ∀ t,
      Pending ev r0 { s with cursor := nextOf eh.id s.handlers, trace := t } := fun r0 hlt ⟨r, hrm, hid, hrest⟩ t => by
    obtain ⟨c1, hc1, hle1⟩ := Keys.seek_le (b := eh.id + 1) h.sorted (List.mem_map_of_mem hrm) (hid ▸ hlt)
    exact ⟨⟨r, hrm, hid, hrest⟩, c1, hseek ▸ hc1, hid ▸ hle1⟩
  have h1 := inv_next h hm
  by_cases hmask : eh.mask &&& ev ≠ 0
  · rw [deliverTo_pos beh ev eh s hmask]
    have h1' := inv_append_call h1 (eh := eh) hm ev
    obtain ⟨h2, e2, p2⟩ := runScript_ok (beh s.trace eh.fn eh.user ev) _ h1'
    obtain ⟨d', ht, hd'⟩ := e2.trace
    refine ⟨d', h2, e2.cached, fun c2 hc2 => ?_, hd', by rw [ht, if_pos hmask]; exact List.append_assoc ..,
      fun r0 hlt hw hnd => p2 ev r0 (hpend r0 hlt hw _) (hnd hmask)⟩
    cases hn : nextOf eh.id s.handlers with
    | none => rw [e2.curNone hn] at hc2; cases hc2
    | some c1 => exact Nat.lt_of_lt_of_le (hnx c1 hn) (e2.curMono c1 c2 hn hc2)
  · rw [deliverTo_neg beh ev eh s (Classical.not_not.mp hmask)]
    exact ⟨[], h1, rfl, hnx, nofun, by rw [if_neg hmask]; exact (List.append_nil _).symm,
      fun r0 hlt hw _ => hpend r0 hlt hw _⟩

theorem sendLoop_succ {beh : Behav} {ev fuel c : Nat} {s : State} (hc : c ∈ ids s.handlers) :
    ∃ eh ∈ s.handlers, eh.id = c ∧ sendLoop beh ev (fuel + 1) (some c) s =
      sendLoop beh ev fuel (deliverTo beh ev eh s).cursor (deliverTo beh ev eh s) := by
  obtain ⟨eh, hm, hid, hf⟩ := Keys.find_key hc
  exact ⟨eh, hm, hid, by rw [sendLoop, hf]⟩

/-- What the delivery loop, entered at cursor `eh`, leaves when it ends; `X` is what it logged. -/
structure Delivered (beh : Behav) (ev : Nat) (eh : Option Nat) (s s' : State) (X : List Entry) : Prop where
  inv : Inv s'
  cursor : s'.cursor = none
  cached : s'.cached = s.cached
  trace : s'.trace = s.trace ++ X
  /-- nobody is invoked twice, and invocations follow the order of registration -/
  ordered : (callIds X).Pairwise (· < ·)
  /-- only records from the cursor on are invoked -/
  ahead : ∀ x ∈ callIds X, ∃ c, eh = some c ∧ c ≤ x
  event : ∀ id f u e, Entry.call id f u e ∈ X → e = ev
  /-- a handler that is linked, wants the event, lies at or after the cursor and is not disabled by a callback running
  before its turn is invoked -/
  complete : ∀ r0 c, eh = some c → c ≤ r0.id → Wants ev r0 s.handlers →
    UndisturbedBefore beh ev r0 s.trace.length s'.trace → r0.id ∈ callIds X

/-- The loop never dereferences a freed record and never self-deadlocks: it can only run out of fuel. -/
theorem sendLoop_main (beh : Behav) (ev fuel : Nat) (eh : Option Nat) (s : State) (h : Inv s)
    (hl : ∀ c, eh = some c → c ∈ ids s.handlers) (hn : eh = none → s.cursor = none) :
    match sendLoop beh ev fuel eh s with
    | .error e => e = .fuel
    | .ok s' => ∃ X, Delivered beh ev eh s s' X := by
  induction fuel generalizing eh s <;> cases eh
  case zero.some c => exact rfl
  case succ.some fuel ih c =>
    obtain ⟨r, hrm, hrid, heq⟩ := sendLoop_succ (beh := beh) (ev := ev) (fuel := fuel) (hl c rfl)
    rw [heq]
    obtain ⟨d', V⟩ := deliverTo_visited beh ev r s h hrm
    have ih := ih _ _ V.inv V.inv.cursorLive id
    cases hs : sendLoop beh ev fuel (deliverTo beh ev r s).cursor (deliverTo beh ev r s) with
      rw [hs] at ih
    | error e => exact ih
    | ok s' =>
      obtain ⟨X, D⟩ := ih
      -- the rest of the loop only invokes records behind `c`
      have hXlo : ∀ x ∈ callIds X, c < x := fun x hx =>
        let ⟨c2, hcc, hle⟩ := D.ahead x hx
        Nat.lt_of_lt_of_le (hrid ▸ V.past c2 hcc) hle
      have htr : s'.trace = s.trace ++ ((if r.mask &&& ev ≠ 0 then Entry.call r.id r.fn r.user ev :: d' else []) ++ X) := by
        rw [D.trace, V.trace, List.append_assoc]
      refine ⟨_, D.inv, D.cursor, D.cached.trans V.cached, htr, ?_, ?_, ?_, fun r0 c' hc' hle hw hU => ?_⟩
      · split
        · rw [List.cons_append, callIds_call, callIds_append, callIds_nocall V.nocall]
          exact List.pairwise_cons.mpr ⟨fun x hx => hrid ▸ hXlo x hx, D.ordered⟩
        · exact D.ordered
      · intro x hx
        refine ⟨c, rfl, ?_⟩
        split at hx
        · rw [List.cons_append, callIds_call, callIds_append, callIds_nocall V.nocall] at hx
          rcases List.mem_cons.mp hx with rfl | hx
          · exact Nat.le_of_eq hrid.symm
          · exact Nat.le_of_lt (hXlo x hx)
        · exact Nat.le_of_lt (hXlo x hx)
      · intro id f u e he
        rcases List.mem_append.mp he with he | he
        · split at he
          · rcases List.mem_cons.mp he with he | he
            · cases he; rfl
            · exact nomatch V.nocall _ he
          · cases he
        · exact D.event id f u e he
      · cases hc'
        obtain ⟨r1, hr1m, hr1id, hr1⟩ := hw
        by_cases heq : r.id = r0.id
        · -- its turn
          cases Keys.inj h.sorted hrm hr1m (heq.trans hr1id.symm)
          rw [if_pos hr1.2.2, List.cons_append, callIds_call]
          exact heq ▸ List.mem_cons_self ..
        · have hlt : r.id < r0.id := by omega
          obtain ⟨hw2, c2, hc2, hle2⟩ := V.pending r0 hlt ⟨r1, hr1m, hr1id, hr1⟩ fun hmask =>
            hU s.trace (d' ++ X) r.id r.fn r.user (by rw [htr, if_pos hmask]; rfl) (Nat.le_refl _) hlt
          rw [callIds_append]
          exact List.mem_append_right _ (D.complete r0 c2 hc2 hle2 hw2 fun t1 t2 id fn user hfull hbase hid =>
            hU t1 t2 id fn user hfull (by rw [V.trace, List.length_append] at hbase; omega) hid)
  all_goals
    exact ⟨[], h, hn rfl, rfl, (List.append_nil _).symm, .nil, nofun, nofun, nofun⟩

end Zvbi.Ev
