import ZvbiModel.Ev.LemmasSend
/-!
# Whole histories (C11): `send`, the Teletext page op, `run`
-/
namespace Zvbi.Ev

theorem inv_init : Inv init := by
  refine ⟨?_, ?_, ?_, ?_, ?_, ?_, ?_, ?_, ?_, ?_⟩ <;> simp [init, ids, orMasks, NoCallAfterFree]

theorem send_error_inv {beh : Behav} {fuel ev : Nat} {s : State} {e : Err} (hs : send beh fuel ev s = .error e) :
    (s.locked = true ∧ e = .deadlock) ∨
    (s.locked = false ∧ sendLoop beh ev fuel (s.handlers.head?.map (·.id)) { s with locked := true } = .error e) := by
  unfold send at hs
  cases hl : s.locked
  · simp only [hl, Bool.false_eq_true, if_false] at hs
    split at hs
    · cases hs
    · cases hs; exact Or.inr ⟨rfl, ‹_›⟩
  · simp only [hl, if_true, Except.error.injEq] at hs
    exact Or.inl ⟨rfl, hs.symm⟩

theorem send_ok (beh : Behav) (fuel ev : Nat) (s s' : State) (h : Inv s) (hc : s.cursor = none)
    (hs : send beh fuel ev s = .ok s') :
    s'.locked = false ∧ ∃ X, Delivered beh ev (s.handlers.head?.map (·.id)) s s' X := by
  have hm := sendLoop_main beh ev fuel _ { s with locked := true } (h.setLocked _) (Keys.head_mem s.handlers) (fun _ => hc)
  unfold send at hs
  split at hs
  · cases hs
  · simp only at hs
    split at hs
    · next s1 hloop =>
      cases hs
      rw [hloop] at hm
      obtain ⟨X, D⟩ := hm
      exact ⟨rfl, X, D.inv.setLocked _, D.cursor, D.cached, D.trace, D.ordered, D.ahead, D.event, D.complete⟩
    · cases hs

theorem send_error (beh : Behav) (fuel ev : Nat) (s : State) (h : Inv s) (hc : s.cursor = none) (e : Err)
    (hs : send beh fuel ev s = .error e) : e = .fuel ∨ (e = .deadlock ∧ s.locked = true) := by
  rcases send_error_inv hs with ⟨hl, rfl⟩ | ⟨_, hloop⟩
  · exact Or.inr ⟨rfl, hl⟩
  · have hm := sendLoop_main beh ev fuel _ { s with locked := true } (h.setLocked _) (Keys.head_mem s.handlers) (fun _ => hc)
    rw [hloop] at hm
    exact Or.inl hm

theorem ttxPage_cases (beh : Behav) (fuel p : Nat) (s : State) :
    ttxPage beh fuel p s = .ok s ∨
    ∃ s0, ttxPage beh fuel p s = send beh fuel Zvbi.Gen.Ev.VBI_EVENT_TTX_PAGE s0 ∧
      (Inv s → Inv s0) ∧ s0.cursor = s.cursor ∧ s0.locked = s.locked := by
  unfold ttxPage
  split
  · exact Or.inr ⟨_, rfl, fun h => h.setCached _, rfl, rfl⟩
  · exact Or.inl rfl

theorem apiCall_unlocked (c : Call) (s : State) (h : Inv s) (hl : s.locked = false)
    (ho : Zvbi.Gen.Ev.oomUnlocks = true ∨ c.oom = false) :
    (apiCall c s).locked = false := by
  rcases apiCall_spec c s h with ⟨_, _, ho', heq⟩ | ⟨_, _, _, heq⟩ | ⟨_, _, heq⟩ | ⟨_, heq⟩ <;>
    rw [heq]
  · rcases ho with ho | ho
    · simp [ho, hl]
    · rw [ho] at ho'; cases ho'
  all_goals exact hl

theorem step_ok (beh : Behav) (fuel : Nat) (s s' : State) (op : Op) (h : Inv s) (hc : s.cursor = none)
    (hs : step beh fuel s op = .ok s') :
    Inv s' ∧ s'.cursor = none ∧
    (s.locked = false → (∀ c, op = .call c → Zvbi.Gen.Ev.oomUnlocks = true ∨ c.oom = false) → s'.locked = false) := by
  cases op with
  | call c =>
    simp only [step, Except.ok.injEq] at hs
    subst hs
    exact ⟨apiCall_inv c s h, (apiCall_ext c s h).curNone hc, fun hl ho => apiCall_unlocked c s h hl (ho c rfl)⟩
  | send ev =>
    obtain ⟨hl1, _, D⟩ := send_ok beh fuel ev s s' h hc hs
    exact ⟨D.inv, D.cursor, fun _ _ => hl1⟩
  | ttx p =>
    simp only [step] at hs
    rcases ttxPage_cases beh fuel p s with h0 | ⟨s0, h0, hi, hc0, _⟩ <;> rw [h0] at hs
    · cases hs; exact ⟨h, hc, fun hl _ => hl⟩
    · obtain ⟨hl1, _, D⟩ := send_ok beh fuel _ s0 s' (hi h) (hc0.trans hc) hs
      exact ⟨D.inv, D.cursor, fun _ _ => hl1⟩

theorem step_error (beh : Behav) (fuel : Nat) (s : State) (op : Op) (h : Inv s) (hc : s.cursor = none) (e : Err)
    (hs : step beh fuel s op = .error e) : e = .fuel ∨ (e = .deadlock ∧ s.locked = true) := by
  cases op with
  | call c => simp [step] at hs
  | send ev => exact send_error beh fuel ev s h hc e hs
  | ttx p =>
    simp only [step] at hs
    rcases ttxPage_cases beh fuel p s with h0 | ⟨s0, h0, hi, hc0, hl0⟩ <;> rw [h0] at hs
    · cases hs
    · exact hl0 ▸ send_error beh fuel _ s0 (hi h) (hc0.trans hc) e hs

/-- Histories: the invariant holds and `next_handler` is NULL between operations; a history can only stop for lack
of fuel or on the mutex, and the mutex is only ever left locked by a failed top-level allocation. -/
theorem run_spec (beh : Behav) (fuel : Nat) : ∀ (ops : List Op) (s : State), Inv s → s.cursor = none →
    match run beh fuel s ops with
    | .ok s' => Inv s' ∧ s'.cursor = none ∧
        (s.locked = false → Zvbi.Gen.Ev.oomUnlocks = true ∨ NoTopOom ops → s'.locked = false)
    | .error e => e = .fuel ∨
        (e = .deadlock ∧ (s.locked = false → ¬ (Zvbi.Gen.Ev.oomUnlocks = true ∨ NoTopOom ops))) := by
  intro ops
  induction ops with
  | nil => exact fun s h hc => ⟨h, hc, fun hl _ => hl⟩
  | cons op ops ih =>
    intro s h hc
    simp only [run]
    cases hst : step beh fuel s op with
    | error e =>
      refine (step_error beh fuel s op h hc e hst).imp id fun ⟨he, hl⟩ => ⟨he, fun hl' _ => ?_⟩
      rw [hl] at hl'; cases hl'
    | ok s1 =>
      obtain ⟨h1, hc1, hL⟩ := step_ok beh fuel s s1 op h hc hst
      have hl1 : s.locked = false → Zvbi.Gen.Ev.oomUnlocks = true ∨ NoTopOom (op :: ops) →
          s1.locked = false ∧ (Zvbi.Gen.Ev.oomUnlocks = true ∨ NoTopOom ops) := fun hl hno =>
        ⟨hL hl fun c hop => hno.imp id (fun hno => hno c (by simp [hop])),
          hno.imp id (fun hno c hcm => hno c (List.mem_cons_of_mem _ hcm))⟩
      have := ih s1 h1 hc1
      simp only
      cases hr : run beh fuel s1 ops with
        rw [hr] at this
      | error e => exact this.imp id fun ⟨he, hd⟩ => ⟨he, fun hl hno => hd (hl1 hl hno).1 (hl1 hl hno).2⟩
      | ok s' =>
        obtain ⟨h2, hc2, hl2⟩ := this
        exact ⟨h2, hc2, fun hl hno => hl2 (hl1 hl hno).1 (hl1 hl hno).2⟩

end Zvbi.Ev
