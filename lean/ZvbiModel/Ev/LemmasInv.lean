import ZvbiModel.Ev.LemmasCall
/-!
# `Inv` is preserved by every API call, wherever it is issued (C11)
-/
namespace Zvbi.Ev

theorem Inv.linked {s : State} (h : Inv s) : Keys.Linked (·.id) Entry.free Entry.callId s.handlers s.nextId s.trace :=
  ⟨h.sorted, h.bound, h.freedDead, h.ncaf⟩

/-- `Inv` does not read the mutex or the cache -/
theorem Inv.setLocked {s : State} (h : Inv s) (b : Bool) : Inv { s with locked := b } := { h with }

theorem Inv.setCached {s : State} (h : Inv s) (k : List Nat) : Inv { s with cached := k } := { h with }

/-- Any step: the list becomes `l'`, the next fresh id `n'`, the mask is recomputed and the log grows by `δ`; `L` says
that ids, freed records and invocations are in order.  A record of `l'` was linked before (with its id, callback and
user pointer) or is allocated in `δ`, under a fresh id; who is invoked in `δ` has been allocated. -/
theorem inv_step {s : State} (h : Inv s) {l' : List Rec} {cur' : Option Nat} {n' : Nat} {δ : List Entry}
    (L : Keys.Linked (·.id) Entry.free Entry.callId l' n' (s.trace ++ δ)) (hn' : s.nextId ≤ n')
    (hcur : ∀ c, cur' = some c → c ∈ ids l')
    (hδc : ∀ id f u e, Entry.call id f u e ∈ δ → ∃ m, Entry.alloc id f u m ∈ s.trace ++ δ)
    (hkeep : ∀ r' ∈ l', (∃ r ∈ s.handlers, r.id = r'.id ∧ r.fn = r'.fn ∧ r.user = r'.user) ∨
      ∃ m, Entry.alloc r'.id r'.fn r'.user m ∈ δ)
    (hδa : ∀ id f u m, Entry.alloc id f u m ∈ δ → s.nextId ≤ id ∧ id < n')
    (hδu : ∀ id f u m f' u' m', Entry.alloc id f u m ∈ δ → Entry.alloc id f' u' m' ∈ δ → f = f' ∧ u = u') :
    Inv { s with handlers := l', cursor := cur', eventMask := orMasks l', nextId := n', trace := s.trace ++ δ } := by
  refine ⟨L.sorted, L.bound, hcur, rfl, L.freedDead, L.ncaf, ?_, ?_, ?_, ?_⟩
  · intro r' hr'
    rcases hkeep r' hr' with ⟨r, hr, hid, hfn, huser⟩ | ⟨m, hm⟩
    · obtain ⟨m, hm⟩ := h.allocd r hr
      exact ⟨m, List.mem_append_left _ (hid ▸ hfn ▸ huser ▸ hm)⟩
    · exact ⟨m, List.mem_append_right _ hm⟩
  · intro id f u m hm
    exact (List.mem_append.mp hm).elim (fun hm => Nat.lt_of_lt_of_le (h.allocBound id f u m hm) hn')
      (fun hm => (hδa id f u m hm).2)
  · intro id f u m f' u' m' h1 h2
    rcases List.mem_append.mp h1 with h1 | h1 <;> rcases List.mem_append.mp h2 with h2 | h2
    · exact h.allocUniq id f u m f' u' m' h1 h2
    · exact absurd (h.allocBound id f u m h1) (Nat.not_lt.mpr (hδa id f' u' m' h2).1)
    · exact absurd (h.allocBound id f' u' m' h2) (Nat.not_lt.mpr (hδa id f u m h1).1)
    · exact hδu id f u m f' u' m' h1 h2
  · intro id f u e h1
    rcases List.mem_append.mp h1 with h1 | h1
    · obtain ⟨m, hm⟩ := h.calledAllocd id f u e h1
      exact ⟨m, List.mem_append_left _ hm⟩
    · exact hδc id f u e h1

theorem inv_step_sub {s : State} (h : Inv s) {l' : List Rec} {cur' : Option Nat} {δ : List Entry}
    (hsub : (ids l').Sublist (ids s.handlers))
    (hkeep : ∀ r' ∈ l', ∃ r ∈ s.handlers, r.id = r'.id ∧ r.fn = r'.fn ∧ r.user = r'.user)
    (hcur : ∀ c, cur' = some c → c ∈ ids l')
    (hδc : ∀ e ∈ δ, e.callId = none) (hδa : ∀ id f u m, Entry.alloc id f u m ∉ δ)
    (hδf : ∀ x, Entry.free x ∈ δ → x ∉ ids l' ∧ x < s.nextId) :
    Inv { s with handlers := l', cursor := cur', eventMask := orMasks l', trace := s.trace ++ δ } :=
  inv_step h (h.linked.sub hsub hδc hδf) (Nat.le_refl _) hcur (fun _ _ _ _ hin => nomatch hδc _ hin)
    (fun r' hr' => .inl (hkeep r' hr'))
    (fun id f u m hm => absurd hm (hδa id f u m)) (fun id f u m _ _ _ hm => absurd hm (hδa id f u m))

theorem inv_append_call {s : State} (h : Inv s) {eh : Rec} (hm : eh ∈ s.handlers) (ev : Nat) :
    Inv { s with trace := s.trace ++ [Entry.call eh.id eh.fn eh.user ev] } := by
  refine { inv_step h (h.linked.call hm (e := Entry.call eh.id eh.fn eh.user ev) rfl nofun) (Nat.le_refl _)
    h.cursorLive (fun id f u e hin => ?_) (fun r hr => .inl ⟨r, hr, rfl, rfl, rfl⟩) (by simp) (by simp) with
    maskUnion := h.maskUnion }
  cases List.mem_singleton.mp hin
  obtain ⟨m, hmm⟩ := h.allocd eh hm
  exact ⟨m, List.mem_append_left _ hmm⟩

theorem apiCall_inv (c : Call) (s : State) (h : Inv s) : Inv (apiCall c s) := by
  have hid : ∀ r ∈ s.handlers, ∃ r0 ∈ s.handlers, r0.id = r.id ∧ r0.fn = r.fn ∧ r0.user = r.user :=
    fun r hr => ⟨r, hr, rfl, rfl, rfl⟩
  rcases apiCall_spec c s h with ⟨_, _, _, heq⟩ | ⟨_, _, _, heq⟩ | ⟨_, _, heq⟩ | ⟨_, heq⟩ <;>
    rw [heq]
  · -- A: nothing but the lock and an `oom` entry
    exact { inv_step_sub h (List.Sublist.refl _) hid h.cursorLive (δ := [Entry.oom])
      (List.forall_mem_singleton.mpr rfl) (by simp) (by simp) with maskUnion := h.maskUnion }
  · -- B: append a fresh record
    unfold State.finish
    have hδc : ∀ m f, ∀ e ∈ [Entry.alloc s.nextId c.fn c.user c.mask] ++ [Entry.enable m f], e.callId = none :=
      fun _ _ => List.forall_mem_cons.mpr ⟨rfl, List.forall_mem_singleton.mpr rfl⟩
    refine inv_step h (h.linked.fresh (r := ⟨s.nextId, c.fn, c.user, c.mask⟩) rfl (hδc _ _) (by simp)) (Nat.le_succ _)
      (fun c' hc' => ?_) (fun _ _ _ _ hin => nomatch hδc _ _ _ hin) (fun r hr => ?_) ?_ ?_
    · rw [ids, List.map_append]
      exact List.mem_append_left _ (h.cursorLive c' hc')
    · rcases List.mem_append.mp hr with hr | hr
      · exact .inl (hid r hr)
      · rw [List.mem_singleton.mp hr]; exact .inr ⟨c.mask, List.mem_cons_self ..⟩
    · intro id f' u m' hm
      simp only [List.cons_append, List.nil_append, List.mem_cons, Entry.alloc.injEq, reduceCtorEq, List.not_mem_nil,
        or_false] at hm
      exact hm.1 ▸ ⟨Nat.le_refl _, Nat.lt_succ_self _⟩
    · intro id f1 u1 m1 f2 u2 m2 h1 h2
      simp only [List.cons_append, List.nil_append, List.mem_cons, Entry.alloc.injEq, reduceCtorEq, List.not_mem_nil,
        or_false] at h1 h2
      exact ⟨h1.2.1.trans h2.2.1.symm, h1.2.2.1.trans h2.2.2.1.symm⟩
  · -- C: masks change in place
    unfold State.finish
    refine inv_step_sub h (by rw [ids_map_upd]; exact List.Sublist.refl _) ?_ (by rw [ids_map_upd]; exact h.cursorLive)
      (List.forall_mem_singleton.mpr rfl) (by simp) (by simp)
    intro r hr
    obtain ⟨r0, hr0, rfl⟩ := List.mem_map.mp hr
    exact ⟨r0, hr0, (upd_id c r0).symm, (upd_fn c r0).symm, (upd_user c r0).symm⟩
  · -- D: removal with cursor fix-up
    unfold State.finish
    refine inv_step_sub h (List.Sublist.map _ List.filter_sublist) (fun r hr => hid r (List.mem_filter.mp hr).1)
      (fun c' hc' => ?_)
      (List.forall_mem_append.mpr ⟨List.forall_mem_map.mpr fun _ _ => rfl, List.forall_mem_singleton.mpr rfl⟩) ?_ ?_
    · obtain ⟨c0, _, hc'⟩ := Option.bind_eq_some_iff.mp hc'
      exact (Keys.seek_some hc').1
    · simp
    · intro x hx
      simp only [List.mem_append, List.mem_map, List.mem_filter, Entry.free.injEq, List.mem_singleton,
        reduceCtorEq, or_false] at hx
      obtain ⟨r, ⟨hr, hhit⟩, rfl⟩ := hx
      exact ⟨Keys.not_mem_filter_not h.sorted hr hhit, h.bound r hr⟩

end Zvbi.Ev
