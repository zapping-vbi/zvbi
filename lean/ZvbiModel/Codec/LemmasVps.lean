import ZvbiModel.Codec.Lemmas
/-!
# VPS / DVB PDC descriptor: what the encoders store - the fields as the decoders read them back,
the shared bytes in `/ % * +` form
-/
namespace Zvbi.Codec

/-! ## normal forms of the stored bytes -/

theorem nf_b8_cni (x c : Nat) : u8 ((x &&& 0x3F) ||| (c &&& 0xC0)) = c / 64 % 4 * 64 + x % 64 := by
  simp only [and_3F, and_C0, u8]
  rw [Nat.or_comm, mul_or _ _ 6 (mod_lt _ _)]; omega

theorem nf_b10_cni (x c : Nat) (h : c ≤ 0xFFF) :
    u8 ((x &&& 0xFC) ||| (c >>> 10)) = x / 4 % 64 * 4 + c / 1024 % 4 := by
  simp only [and_FC, u8]
  rw [or_eq_add_hl 2 _ _ (by omega) (by omega)]; omega

theorem nf_b11_cni (c : Nat) :
    u8 ((c &&& 0x3F) ||| ((c >>> 2) &&& 0xC0)) = c / 256 % 4 * 64 + c % 64 := by
  simp only [and_3F, and_C0, u8]
  rw [Nat.or_comm, mul_or _ _ 6 (mod_lt _ _)]; omega

theorem nf_b2_pcs (x p : Nat) (h : p ≤ 3) :
    u8 ((x &&& 0x3F) ||| u32 (p <<< 6)) = p * 64 + x % 64 := by
  simp only [and_3F, u8, u32]
  rw [or_eq_add_lh 6 _ _ (by omega) (by omega)]; omega

theorem nf_b8_pil (x pil : Nat) :
    u8 ((x &&& 0xC0) ||| ((pil >>> 14) &&& 0x3F)) = x / 64 % 4 * 64 + pil / 16384 % 64 := by
  simp only [and_3F, and_C0, u8]
  rw [mul_or _ _ 6 (mod_lt _ _)]; omega

theorem nf_b10_pil (x pil : Nat) :
    u8 ((x &&& 0x03) ||| u32 (pil <<< 2)) = pil % 64 * 4 + x % 4 := by
  simp only [and_03, u8, u32]
  rw [or_eq_add_lh 2 _ _ (by omega) (by omega)]; omega

theorem nf_b2_dvb (pil : Nat) (h : pil ≤ 0xFFFFF) : u8 (0xF0 ||| (pil >>> 16)) = 240 + pil / 65536 := by
  simp only [u8]
  rw [or_eq_add_hl 4 _ _ (by omega) (by omega)]; omega

/-! ## `vbi_encode_vps_cni` -/

/-- the raw 12-bit CNI field of a VPS line (before the 0xDC3 translation) -/
def rawVpsCni (b : Buf) : Nat :=
  ((bt b 10 &&& 0x03) <<< 10) + ((bt b 11 &&& 0xC0) <<< 2) + (bt b 8 &&& 0xC0) + (bt b 11 &&& 0x3F)

theorem rawVpsCni_eq (b : Buf) : rawVpsCni b = cni12 (bt b 8) (bt b 10) (bt b 11) := rfl

theorem decodeVpsCni_eq (b : Buf) : decodeVpsCni b
    = if rawVpsCni b = 0x0DC3 then (if bt b 2 &&& 0x10 ≠ 0 then 0x0DC1 else 0x0DC2) else rawVpsCni b := by
  simp [decodeVpsCni, rawVpsCni]

theorem encodeVpsCni_refuse (b : Buf) (cni : Nat) (h : cni > 0xFFF) : encodeVpsCni b cni = (false, b) := by
  simp [encodeVpsCni, h]

theorem encodeVpsCni_bytes (b : Buf) (hlen : b.length = 13) (cni : Nat) (h : cni ≤ 0xFFF) :
    ∃ b', encodeVpsCni b cni = (true, b') ∧ b'.length = 13 ∧
      bt b' 8 = cni / 64 % 4 * 64 + bt b 8 % 64 ∧
      bt b' 10 = bt b 10 / 4 % 64 * 4 + cni / 1024 % 4 ∧
      bt b' 11 = cni / 256 % 4 * 64 + cni % 64 ∧
      ∀ i, i ≠ 8 → i ≠ 10 → i ≠ 11 → bt b' i = bt b i := by
  have hn : ¬ cni > 0xFFF := by omega
  refine ⟨_, by simp only [encodeVpsCni, hn, if_false]; rfl, by simp [hlen], ?_, ?_, ?_, ?_⟩
  · simp [bt_set, hlen, nf_b8_cni]
  · simp [bt_set, hlen, nf_b10_cni _ _ h]
  · simp [bt_set, hlen, nf_b11_cni]
  · intro i h8 h10 h11
    simp [bt_set, hlen, Ne.symm h8, Ne.symm h10, Ne.symm h11]

/-- the PIL expression of `vbi_decode_vps_pdc` -/
def rawVpsPil (b : Buf) : Nat := ((bt b 8 &&& 0x3F) <<< 14) + (bt b 9 <<< 6) + (bt b 10 >>> 2)

theorem rawVpsPil_eq (b : Buf) : rawVpsPil b = pil20 (bt b 8) (bt b 9) (bt b 10) := rfl

/-! ## `vbi_encode_vps_pdc` -/

theorem encodeVpsPdc_refuse (b : Buf) (p : Pid)
    (h : p.cni > 0xFFF ∨ p.pil > 0xFFFFF ∨ p.pcsAudio > 3 ∨ p.pty > 0xFF) :
    encodeVpsPdc b p = (false, b) := by
  unfold encodeVpsPdc
  by_cases h1 : p.pty > 0xFF
  · simp [h1]
  by_cases h2 : p.pcsAudio > 3
  · simp [h1, h2]
  by_cases h3 : p.pil > 0xFFFFF
  · simp [h1, h2, h3]
  have h4 : p.cni > 0xFFF := by omega
  simp [h1, h2, h3, encodeVpsCni_refuse b p.cni h4]

theorem encodeVpsPdc_bytes (b : Buf) (hlen : b.length = 13) (p : Pid)
    (hc : p.cni ≤ 0xFFF) (hp : p.pil ≤ 0xFFFFF) (ha : p.pcsAudio ≤ 3) (ht : p.pty ≤ 0xFF) :
    ∃ b', encodeVpsPdc b p = (true, b') ∧ b'.length = 13 ∧
      bt b' 2 = p.pcsAudio * 64 + bt b 2 % 64 ∧
      bt b' 8 = p.cni / 64 % 4 * 64 + p.pil / 16384 % 64 ∧
      bt b' 9 = p.pil / 64 % 256 ∧
      bt b' 10 = p.pil % 64 * 4 + p.cni / 1024 % 4 ∧
      bt b' 11 = p.cni / 256 % 4 * 64 + p.cni % 64 ∧
      bt b' 12 = p.pty ∧
      ∀ i, i ≠ 2 → i ≠ 8 → i ≠ 9 → i ≠ 10 → i ≠ 11 → i ≠ 12 → bt b' i = bt b i := by
  obtain ⟨c, hce, hcl, c8, c10, c11, cr⟩ := encodeVpsCni_bytes b hlen p.cni hc
  have h1 : ¬ p.pty > 0xFF := by omega
  have h2 : ¬ p.pcsAudio > 3 := by omega
  have h3 : ¬ p.pil > 0xFFFFF := by omega
  refine ⟨_, by simp only [encodeVpsPdc, h1, h2, h3, if_false, hce]; rfl, by simp [hcl], ?_, ?_, ?_, ?_, ?_, ?_, ?_⟩
  · simp [bt_set, hcl, nf_b2_pcs _ _ ha, cr 2]
  · simp only [bt_set, List.length_set, hcl]; simp [nf_b8_pil, c8]; omega
  · simp [bt_set, hcl, u8]; omega
  · simp only [bt_set, List.length_set, hcl]; simp [nf_b10_pil, c10]
  · simp [bt_set, hcl, c11]
  · simp [bt_set, hcl, u8]; omega
  · intro i i2 i8 i9 i10 i11 i12
    simp [bt_set, hcl, Ne.symm i2, Ne.symm i8, Ne.symm i9, Ne.symm i10, Ne.symm i12,
      cr i i8 i10 i11]

/-- the same said with the decoder's own field expressions: CNI and PIL read back, bytes 8..11 are
    bytes; bytes 2 and 12 and everything else as above -/
theorem encodeVpsPdc_fields (b : Buf) (hlen : b.length = 13) (p : Pid)
    (hc : p.cni ≤ 0xFFF) (hp : p.pil ≤ 0xFFFFF) (ha : p.pcsAudio ≤ 3) (ht : p.pty ≤ 0xFF) :
    ∃ b', encodeVpsPdc b p = (true, b') ∧ b'.length = 13 ∧
      rawVpsCni b' = p.cni ∧ rawVpsPil b' = p.pil ∧ bt b' 2 = p.pcsAudio * 64 + bt b 2 % 64 ∧ bt b' 12 = p.pty ∧
      (∀ i, 8 ≤ i → i ≤ 11 → bt b' i < 256) ∧
      ∀ i, i ≠ 2 → i ≠ 8 → i ≠ 9 → i ≠ 10 → i ≠ 11 → i ≠ 12 → bt b' i = bt b i := by
  obtain ⟨b', he, hl, h2, h8, h9, h10, h11, h12, hr⟩ := encodeVpsPdc_bytes b hlen p hc hp ha ht
  refine ⟨b', he, hl, ?_, ?_, h2, h12, ?_, hr⟩
  · rw [rawVpsCni_eq, h8, h10, h11, cni12_of _ _ _ (mod_lt _ _), Nat.mod_eq_of_lt (by omega)]
  · rw [rawVpsPil_eq, h8, h9, h10, pil20_of _ _ _ (mod_lt _ _), Nat.mod_eq_of_lt (by omega)]
  · intro i i1 i2
    have : i = 8 ∨ i = 9 ∨ i = 10 ∨ i = 11 := by omega
    rcases this with rfl | rfl | rfl | rfl <;> simp only [h8, h9, h10, h11] <;> omega

theorem rawVps_inj {a b : Buf} (ha : ∀ i, 8 ≤ i → i ≤ 11 → bt a i < 256) (hb : ∀ i, 8 ≤ i → i ≤ 11 → bt b i < 256)
    (hc : rawVpsCni a = rawVpsCni b) (hp : rawVpsPil a = rawVpsPil b) :
    bt a 8 = bt b 8 ∧ bt a 9 = bt b 9 ∧ bt a 10 = bt b 10 ∧ bt a 11 = bt b 11 := by
  have d (i : Nat) (h1 : 8 ≤ i := by decide) (h2 : i ≤ 11 := by decide) := And.intro (ha i h1 h2) (hb i h1 h2)
  obtain ⟨p8, p9, p10⟩ := pil20_inj (d 9).1 (d 10).1 (d 9).2 (d 10).2 hp
  obtain ⟨c8, c10, c11⟩ := cni12_inj (d 11).1 (d 11).2 hc
  have := d 8; have := d 10
  omega

/-! ## DVB PDC descriptor -/

/-- the PIL expression of `vbi_decode_dvb_pdc_descriptor` -/
def dvbPil (b2 b3 b4 : Nat) : Nat := ((b2 &&& 0x0F) <<< 16) + (b3 <<< 8) + b4

theorem dvbPil_nf (b2 b3 b4 : Nat) : dvbPil b2 b3 b4 = b2 % 16 * 65536 + b3 * 256 + b4 := by
  simp only [dvbPil, and_0F]; omega

theorem dvbPil_of (p : Nat) (hp : p ≤ 0xFFFFF) :
    dvbPil (240 + p / 65536) (p / 256 % 256) (p % 256) = p := by
  rw [dvbPil_nf]; omega

theorem dvbPil_fields (b2 b3 b4 : Nat) (h3 : b3 < 256) (h4 : b4 < 256) :
    dvbPil b2 b3 b4 / 65536 = b2 % 16 ∧ dvbPil b2 b3 b4 / 256 % 256 = b3 ∧
    dvbPil b2 b3 b4 % 256 = b4 := by
  rw [dvbPil_nf]; omega

theorem decodeDvbPdc_some {b : Buf} {p : Pid} (h : decodeDvbPdc b = some p) :
    bt b 0 = 0x69 ∧ bt b 1 = 3 ∧
    p = { channel := VBI_PID_CHANNEL_PDC_DESCRIPTOR, pil := dvbPil (bt b 2) (bt b 3) (bt b 4), mi := 1 } := by
  unfold decodeDvbPdc at h
  split at h
  · cases h
  · rename_i hn
    simp only [Bool.or_eq_true, bne_iff_ne, ne_eq, not_or, Decidable.not_not] at hn
    exact ⟨hn.1, hn.2, (Option.some.inj h).symm⟩

theorem encodeDvbPdc_refuse (b : Buf) (p : Pid) (h : p.pil > 0xFFFFF) : encodeDvbPdc b p = (false, b) := by
  simp [encodeDvbPdc, h]

theorem encodeDvbPdc_bytes (b : Buf) (hlen : 5 ≤ b.length) (p : Pid) (hp : p.pil ≤ 0xFFFFF) :
    ∃ b', encodeDvbPdc b p = (true, b') ∧ b'.length = b.length ∧
      bt b' 0 = 0x69 ∧ bt b' 1 = 3 ∧ bt b' 2 = 240 + p.pil / 65536 ∧
      bt b' 3 = p.pil / 256 % 256 ∧ bt b' 4 = p.pil % 256 ∧ ∀ i, 5 ≤ i → bt b' i = bt b i := by
  have h3 : ¬ p.pil > 0xFFFFF := by omega
  refine ⟨_, by simp only [encodeDvbPdc, h3, if_false]; rfl, by simp, ?_, ?_, ?_, ?_, ?_, ?_⟩
  · simp [bt_set, (by omega : 0 < b.length)]
  · simp [bt_set, (by omega : 1 < b.length)]
  · simp [bt_set, (by omega : 2 < b.length), nf_b2_dvb _ hp]
  · simp [bt_set, (by omega : 3 < b.length), u8]; omega
  · simp [bt_set, (by omega : 4 < b.length), u8]
  · intro i hi
    iterate 5 rw [bt_set, if_neg (by omega)]

end Zvbi.Codec
