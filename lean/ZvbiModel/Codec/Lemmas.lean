import ZvbiModel.Codec.Model
import ZvbiModel.Util.Bits
/-!
# Bit-mask toolkit for the codec proofs

Everything the codecs do is `&&&` with a literal mask, `|||` of disjoint fields, shifts by
literals and (for `vbi_is_bcd`) one 32-bit addition.  The lemmas here turn each of these into
`/`, `%`, `*`, `+` by literals, which `omega` decides:

* `and_XX`     : the masks of the C code that are not all ones from bit 0, as instances of `and_field`
                 (`x &&& 0xXX = x / 2^lo % 2^n * 2^lo`); `and_field`, the low masks (`x &&& 0x3F = x % 64`)
                 and "OR of disjoint fields is addition" (`or_eq_add_*`, `shl_or`, `mul_or`) are those of
                 `Util/Bits.lean`, made available under this namespace
* `cni12`, `pil20`: the CNI / PIL layout of data bytes 8..11: gathering undoes scattering, and is injective on bytes
* `isBcd_iff`  : `vbi_is_bcd v` holds iff none of the seven nibble additions `v + 0x06666666`
                 carries, stated with `%` (from the carry-bit characterisation of addition)
* `bt_set`     : reading a byte of a buffer after one store
-/
namespace Zvbi.Codec
export Zvbi.Bits (and_01 and_03 and_0F and_3F and_FF and_field or_eq_add_hl or_eq_add_lh shl_or mul_or div_mod_pair mod_lt and_two_pow_eq_zero)

theorem and_7F (x : Nat) : x &&& 0x7F = x % 128 := Nat.and_two_pow_sub_one_eq_mod x 7

theorem and_C0 (x : Nat) : x &&& 0xC0 = x / 64 % 4 * 64 := and_field x 6 2
theorem and_FC (x : Nat) : x &&& 0xFC = x / 4 % 64 * 4 := and_field x 2 6
theorem and_F0 (x : Nat) : x &&& 0xF0 = x / 16 % 16 * 16 := and_field x 4 4
theorem and_3E (x : Nat) : x &&& 0x3E = x / 2 % 32 * 2 := and_field x 1 5
theorem and_40 (x : Nat) : x &&& 0x40 = x / 64 % 2 * 64 := and_field x 6 1
theorem and_10 (x : Nat) : x &&& 0x10 = x / 16 % 2 * 16 := and_field x 4 1

theorem shl_or3 (a b c k : Nat) (hb : b < 2) (hc : c < 2 ^ k) :
    a <<< (k + 1) ||| b <<< k ||| c = a * 2 ^ (k + 1) + b * 2 ^ k + c := by
  have hbk : b <<< k < 2 ^ (k + 1) := by
    rw [Nat.shiftLeft_eq, Nat.pow_succ, Nat.mul_comm]; exact Nat.mul_lt_mul_of_pos_left hb (Nat.two_pow_pos k)
  rw [shl_or a _ _ hbk, Nat.shiftLeft_eq, Nat.pow_succ, ← Nat.mul_assoc, Nat.mul_right_comm, ← Nat.add_mul, mul_or _ _ _ hc]

/-! ## 32-bit addition bit by bit (for `vbi_is_bcd`) -/

theorem testBit_add_u32 (a b i : Nat) (hi : i < 32) :
    ((a + b) % 2^32).testBit i
      = (a.testBit i ^^ (b.testBit i ^^ decide (a % 2^i + b % 2^i ≥ 2^i))) := by
  have h := BitVec.getLsbD_add hi (BitVec.ofNat 32 a) (BitVec.ofNat 32 b)
  have hd : (2:Nat)^i ∣ 2^32 := Nat.pow_dvd_pow 2 (by omega)
  simp only [BitVec.getLsbD, BitVec.carry, BitVec.toNat_add, BitVec.toNat_ofNat, Bool.toNat_false,
    Nat.add_zero, Nat.mod_mod_of_dvd _ hd, Nat.add_mod_mod, Nat.mod_add_mod] at h
  rw [h, Nat.testBit_mod_two_pow, Nat.testBit_mod_two_pow]
  simp [hi]

theorem carry_bit (a b i : Nat) (hi : i < 32) :
    (((a + b) % 2^32) ^^^ (a ^^^ b)).testBit i = decide (a % 2^i + b % 2^i ≥ 2^i) := by
  rw [Nat.testBit_xor, testBit_add_u32 a b i hi, Nat.testBit_xor]
  cases a.testBit i <;> cases b.testBit i <;> simp

/-- `vbi_is_bcd (v)` for any 32-bit `v`: true iff adding 6 to each of the seven low nibbles
    never carries, i.e. iff each of the seven low nibbles is at most 9 (the eighth nibble is not
    examined by the C code - bit 32 is outside the mask). -/
theorem isBcd_iff (v : Nat) : isBcd v = true ↔
    v % 16 < 10 ∧ v % 256 < 0x9A ∧ v % 4096 < 0x99A ∧ v % 65536 < 0x999A ∧ v % 1048576 < 0x9999A
    ∧ v % 16777216 < 0x99999A ∧ v % 268435456 < 0x999999A := by
  unfold isBcd u32
  have e : (0x11111110 : Nat)
      = 2^4 ||| (2^8 ||| (2^12 ||| (2^16 ||| (2^20 ||| (2^24 ||| 2^28))))) := by decide
  have h32 : (4294967296 : Nat) = 2^32 := by decide
  rw [beq_iff_eq, e, h32]
  simp only [Nat.and_or_distrib_left, Nat.or_eq_zero_iff, and_two_pow_eq_zero]
  rw [carry_bit _ _ 4 (by decide), carry_bit _ _ 8 (by decide), carry_bit _ _ 12 (by decide),
    carry_bit _ _ 16 (by decide), carry_bit _ _ 20 (by decide), carry_bit _ _ 24 (by decide),
    carry_bit _ _ 28 (by decide)]
  simp only [decide_eq_false_iff_not]
  omega

/-- the readable form: every one of the seven low nibbles is a decimal digit -/
theorem isBcd_iff_digits (v : Nat) : isBcd v = true ↔
    v % 16 ≤ 9 ∧ v / 16 % 16 ≤ 9 ∧ v / 256 % 16 ≤ 9 ∧ v / 4096 % 16 ≤ 9 ∧ v / 65536 % 16 ≤ 9
    ∧ v / 1048576 % 16 ≤ 9 ∧ v / 16777216 % 16 ≤ 9 := by
  rw [isBcd_iff]; omega

/-! ## the CNI and PIL fields of data bytes 8..11

A VPS line and packet 8/30 format 2 carry the low 12 bits of the CNI and the 20-bit PIL in the
same scattered layout; `vbi_decode_vps_cni`, `vbi_decode_vps_pdc` and
`vbi_decode_teletext_8302_*` gather them with the same expressions. -/

def cni12 (b8 b10 b11 : Nat) : Nat :=
  ((b10 &&& 0x03) <<< 10) + ((b11 &&& 0xC0) <<< 2) + (b8 &&& 0xC0) + (b11 &&& 0x3F)

def pil20 (b8 b9 b10 : Nat) : Nat := ((b8 &&& 0x3F) <<< 14) + (b9 <<< 6) + (b10 >>> 2)

theorem cni12_nf (b8 b10 b11 : Nat) :
    cni12 b8 b10 b11 = b10 % 4 * 1024 + b11 / 64 % 4 * 256 + b8 / 64 % 4 * 64 + b11 % 64 := by
  simp only [cni12, and_03, and_C0, and_3F]; omega

theorem pil20_nf (b8 b9 b10 : Nat) : pil20 b8 b9 b10 = b8 % 64 * 16384 + b9 * 64 + b10 / 4 := by
  simp only [pil20, and_3F]; omega

theorem cniFrom_eq (b7 b8 b10 b11 : Nat) : cniFrom b7 b8 b10 b11 = b7 % 16 * 4096 + cni12 b8 b10 b11 := by
  simp only [cniFrom, cni12, and_0F, Nat.add_assoc, Nat.shiftLeft_eq]

/-- gathering undoes scattering, whatever shares bytes 8 and 10 with the CNI (`x8`, `x10`) -/
theorem cni12_of (c x8 x10 : Nat) (h8 : x8 < 64) :
    cni12 (c / 64 % 4 * 64 + x8) (x10 * 4 + c / 1024 % 4) (c / 256 % 4 * 64 + c % 64) = c % 4096 := by
  rw [cni12_nf, (div_mod_pair x10 _ 4 (mod_lt _ 4)).2, (div_mod_pair _ _ 64 (mod_lt c 64)).1,
    (div_mod_pair _ _ 64 (mod_lt c 64)).2, (div_mod_pair _ x8 64 h8).1, Nat.mod_mod, Nat.mod_mod]
  omega

theorem pil20_of (p x8 x10 : Nat) (h10 : x10 < 4) :
    pil20 (x8 * 64 + p / 16384 % 64) (p / 64 % 256) (p % 64 * 4 + x10) = p % 1048576 := by
  rw [pil20_nf]
  rw [(div_mod_pair x8 _ 64 (mod_lt _ _)).2, (div_mod_pair _ x10 4 h10).1]
  omega

/-- the gathered PIL determines the PIL bits of bytes 8..10, the gathered CNI those of bytes 8, 10, 11 -/
theorem pil20_inj {a8 a9 a10 b8 b9 b10 : Nat} (ha9 : a9 < 256) (ha10 : a10 < 256) (hb9 : b9 < 256) (hb10 : b10 < 256)
    (h : pil20 a8 a9 a10 = pil20 b8 b9 b10) : a8 % 64 = b8 % 64 ∧ a9 = b9 ∧ a10 / 4 = b10 / 4 := by
  rw [pil20_nf, pil20_nf] at h
  omega

theorem cni12_inj {a8 a10 a11 b8 b10 b11 : Nat} (ha11 : a11 < 256) (hb11 : b11 < 256)
    (h : cni12 a8 a10 a11 = cni12 b8 b10 b11) : a8 / 64 % 4 = b8 / 64 % 4 ∧ a10 % 4 = b10 % 4 ∧ a11 = b11 := by
  rw [cni12_nf, cni12_nf] at h
  omega

theorem bt_set (b : Buf) (i j v : Nat) :
    bt (b.set i v) j = if i = j ∧ i < b.length then v else bt b j := by
  unfold bt
  simp only [List.getD_eq_getElem?_getD, List.getElem?_set]
  by_cases h : i = j
  · subst h
    by_cases h2 : i < b.length
    · simp [h2]
    · simp [h2]
  · simp [h]

theorem bt_map_range (g : Nat → Nat) (n i : Nat) (h : i < n) : bt ((List.range n).map g) i = g i := by
  simp [bt, h]

/-- every element is a byte (what `uint8_t buffer[]` guarantees) -/
def Bytes (b : Buf) : Prop := ∀ i, bt b i < 256

theorem bt_lt {b : Buf} {n : Nat} (h : ∀ x ∈ b, x < n) (hn : 0 < n) (i : Nat) : bt b i < n := by
  unfold bt
  rw [List.getD_eq_getElem?_getD]
  cases e : b[i]? with
  | none => exact hn
  | some x => exact h x (List.mem_of_getElem? e)

theorem ext_bt (a b : Buf) (hl : a.length = b.length) (h : ∀ i, bt a i = bt b i) : a = b :=
  List.ext_getElem hl fun i h1 h2 => by simpa [bt, h1, h2] using h i

end Zvbi.Codec
