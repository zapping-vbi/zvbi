import ZvbiModel.Ttx.Mirror
import ZvbiModel.Cache.LemmasTeardown
/-!
# C03 x C10: the joint invariant along the mirrored trace (lemmas for Props/C03Refine.lean)

cache.c side (`namespace Zvbi.Cache`).  `cache_page_unref` right after `_vbi_cache_get_page` / `_vbi_cache_put_page` does
not change the set of retrievable entries (`State.abs`) as long as the network of the page is held by the client (`Held`:
then the zombie-network check deletes nothing) and memory is not short (then `delete_surplus_pages` is not entered); what
`_vbi_cache_get_page` hands out; the page type write; `vbi_chsw_reset`.  `_vbi_cache_put_page` with room for the new page
(`memory_used + cache_page_size <= memory_limit`) does not fail (the death row holds at most the replaced version, the
struct of the victim is not reused), keeps every network on the list with its client reference count, and hands out the
newly inserted non-zombie page (`putPageF_after`).

Along the mirrored trace (`namespace Zvbi.CacheJoin`).  `J` (Ttx/Mirror.lean) is kept by every `mirrorOp`: look-up +
release and channel switch unconditionally, a store under `StoreOk`, which follows from: page type below 256, page number in
range, memory not short (`storeOk_of_room`).  Every `mirrorOp` is one or more `Op`s of the cache.c model (`.get` + `.unref`;
`.ptype` + `.put` + `.unref`; `.chsw`), so a mirrored state is `runF putReplacesAllVersions init l` for an explicit `l`
(`OpRun`) and every C10 theorem about reachable states applies to it.  Every `mirrorOp` keeps the C10 invariant and the
memory limit of `vbi_cache_new` (`G`); hence memory is not short at a store as long as the cache holds at most 0x800 x 80
pages (`Cache.mem_room_0_2`).
-/
namespace Zvbi.Cache
open Zvbi.Gen.Cache

/-- every network stays on the list with its client reference count -/
def RefKept (s s' : State) : Prop := ∀ n ∈ s.nets, ∃ n' ∈ s'.nets, n'.id = n.id ∧ n'.ref = n.ref

theorem RefKept.refl (s : State) : RefKept s s := fun n hn => ⟨n, hn, rfl, rfl⟩

theorem RefKept.trans {a b c : State} (h1 : RefKept a b) (h2 : RefKept b c) : RefKept a c := by
  intro n hn
  obtain ⟨n1, hn1, e1, r1⟩ := h1 n hn
  obtain ⟨n2, hn2, e2, r2⟩ := h2 n1 hn1
  exact ⟨n2, hn2, e2.trans e1, r2.trans r1⟩

theorem refKept_of_nets {s s' : State} (h : s'.nets = s.nets) : RefKept s s' :=
  fun n hn => ⟨n, by rw [h]; exact hn, rfl, rfl⟩

theorem Held.of_kept {s s' : State} {nid : Nat} (h : Held s nid) (k : RefKept s s') : Held s' nid := by
  obtain ⟨n, hn, e, r⟩ := h
  obtain ⟨n', hn', e', r'⟩ := k n hn
  exact ⟨n', hn', e'.trans e, by rw [r']; exact r⟩

theorem refKept_updNid {s s' : State} {x : Nat} {f : Net → Net} (he : s'.nets = updNid s.nets x f)
    (hf : ∀ n, (f n).id = n.id ∧ (f n).ref = n.ref) : RefKept s s' := by
  intro n hn
  refine ⟨if n.id = x then f n else n, by rw [he]; exact mem_updNid.2 ⟨n, hn, rfl⟩, ?_, ?_⟩
  · split
    · exact (hf n).1
    · rfl
  · split
    · exact (hf n).2
    · rfl

theorem Held.all {s : State} (h : InvW s) {nid : Nat} (hh : Held s nid) : ∀ n ∈ s.nets, n.id = nid → 0 < n.ref := by
  intro n hn e
  obtain ⟨m, hm, em, r⟩ := hh
  rw [net_unique h.nidNodup hn hm (e.trans em.symm)]
  exact r

theorem Held.find {s : State} (h : InvW s) {nid : Nat} (hh : Held s nid) : ∃ cn, s.findNet nid = some cn ∧ 0 < cn.ref := by
  obtain ⟨m, hm, em, r⟩ := hh
  exact ⟨m, by rw [← em]; exact findNet_of_invW h hm, r⟩

theorem unzombieNet_refKept (s : State) (x : Nat) : RefKept s (s.unzombieNet x) := by
  rcases unzombieNet_cases s x with ⟨e, _⟩ | ⟨_, _, _, e⟩ <;> rw [e]
  · exact RefKept.refl s
  · exact refKept_updNid (f := fun n => { n with zombie := false }) rfl (fun _ => ⟨rfl, rfl⟩)

/-- the zombie-network check of `cache_page_unref` does nothing on a network the client holds -/
theorem unrefNetCheck_held {s : State} {x : Nat} (hk : ∀ n ∈ s.nets, n.id = x → 0 < n.ref) : s.unrefNetCheck x = s := by
  rcases unrefNetCheck_cases s x with ⟨e, _⟩ | ⟨n, hf, _, _, hr, _⟩
  · exact e
  · have := hk n (findNet_some hf).1 (findNet_some hf).2
    omega

/-- `cache_page_unref` of a cached page whose network the client holds, memory not short: the retrievable entries
    stay as they are (no page is deleted), and so do the networks -/
theorem pageUnref_abs {s : State} (h : InvW s) {q : Page} (hf : s.findPage q.id = some q) (hnz : q.pri ≠ .zombie)
    (hh : Held s q.net) (hroom : q.ref = 1 → s.memUsed + q.size ≤ s.memLimit) :
    (s.pageUnref q.id).abs = s.abs ∧ RefKept s (s.pageUnref q.id) := by
  rcases pageUnref_cases s q.id with ⟨e, _⟩ | ⟨p, hp, c⟩
  · rw [e]; exact ⟨rfl, RefKept.refl s⟩
  cases hf.symm.trans hp
  rcases c with ⟨_, e⟩ | ⟨h1, _, e⟩ | ⟨_, hz, _⟩
  · rw [e]
    exact ⟨by rw [abs_eq, abs_eq, updPage_pages]; exact absL_updId _ _ (fun _ => rfl) (fun _ => rfl), RefKept.refl s⟩
  · have hall : ∀ n ∈ (s.unrefLast q).nets, n.id = q.net → 0 < n.ref := by
      intro n hn e
      obtain ⟨m, hm, rfl⟩ := mem_updNid.1 (show n ∈ updNid s.nets q.net (fun n => { n with nRef := n.nRef - 1 }) from hn)
      split
      · rename_i em; exact hh.all h m hm em
      · rename_i em; rw [if_neg em] at e; exact absurd e em
    rw [e]
    unfold State.unrefTail
    rw [unrefNetCheck_held hall, memCheck_within (show s.memUsed + q.size ≤ s.memLimit from hroom h1)]
    exact ⟨by rw [abs_eq, abs_eq]; exact absL_updId _ _ (fun _ => rfl) (fun _ => rfl),
      refKept_updNid (f := fun n => { n with nRef := n.nRef - 1 }) rfl (fun _ => ⟨rfl, rfl⟩)⟩
  · exact absurd hz hnz

theorem pageRef_refKept (s : State) (id : Nat) : RefKept s (s.pageRef id) := by
  rcases pageRef_cases s id with ⟨_, e⟩ | ⟨p, _, ⟨_, e⟩ | ⟨_, e⟩⟩ <;> rw [e]
  · exact RefKept.refl s
  · exact (unzombieNet_refKept s p.net).trans
      (refKept_updNid (f := fun n => { n with nRef := n.nRef + 1 }) rfl (fun _ => ⟨rfl, rfl⟩))
  · exact refKept_of_nets rfl

/-- `cache_page_ref` of an unreferenced page takes its size out of `memory_used` -/
theorem pageRef_memUsed (s : State) {p : Page} (hf : s.findPage p.id = some p) (hr : p.ref = 0) :
    (s.pageRef p.id).memUsed = s.memUsed - p.size ∧ (s.pageRef p.id).memLimit = s.memLimit := by
  rcases pageRef_cases s p.id with ⟨hn, _⟩ | ⟨q, hq, ⟨_, e⟩ | ⟨h0, _⟩⟩
  · rw [hf] at hn; cases hn
  · cases hf.symm.trans hq
    rw [e]
    have hu : (s.unzombieNet p.net).memUsed = s.memUsed ∧ (s.unzombieNet p.net).memLimit = s.memLimit := by
      rcases unzombieNet_cases s p.net with ⟨e', _⟩ | ⟨_, _, _, e'⟩ <;> rw [e'] <;> exact ⟨rfl, rfl⟩
    exact ⟨by show (s.unzombieNet p.net).memUsed - _ = _; rw [hu.1], hu.2⟩
  · cases hf.symm.trans hq; omega

/-- what `_vbi_cache_get_page` hands out: a cached (non-zombie) page of the network asked for, found under its id in the
    state after the call; if the caller's reference is the only one, releasing it does not exceed the memory limit -/
theorem getPage_some {s : State} (g : Good s) {nid pgno : Nat} {subno : Int} {mask : Nat} {s' : State} {q : Page}
    (hres : s.getPage nid pgno subno mask = (s', some q)) :
    s'.findPage q.id = some q ∧ q.pri ≠ .zombie ∧ q.net = nid
      ∧ (q.ref = 1 → s'.memUsed + q.size ≤ s'.memLimit) := by
  rcases getPage_cases g.1 nid pgno subno mask with ⟨_, e⟩ | ⟨_, _, ⟨_, e⟩ | ⟨p, hfind, e⟩⟩ <;> rw [e] at hres
  · cases hres
  · cases hres
  · simp only [Prod.mk.injEq, Option.some.injEq] at hres
    obtain ⟨rfl, rfl⟩ := hres
    have hp := List.mem_of_find?_eq_some hfind
    have hpm := List.find?_some hfind
    have hI := moveFront_invW g.1 hp
    rw [pageMatch_iff] at hpm
    simp only [Bool.and_eq_true, decide_eq_true_eq] at hpm
    refine ⟨pageRef_found hI List.mem_cons_self, hpm.1, of_decide_eq_true (matches_net hpm.2), fun h1 => ?_⟩
    have hr0 : p.ref = 0 := by
      have : p.ref + 1 = 1 := h1
      omega
    obtain ⟨m1, m2⟩ := pageRef_memUsed _ (findPage_of_invW hI List.mem_cons_self) hr0
    have hsz : p.size ≤ s.memUsed := by rw [g.1.mem]; exact size_le_sum hp hr0
    rw [m1, m2]
    show s.memUsed - p.size + p.size ≤ s.memLimit
    have := g.2.2
    omega

theorem getPage_kept {s : State} (h : InvW s) (nid pgno : Nat) (subno : Int) (mask : Nat) :
    RefKept s (s.getPage nid pgno subno mask).1 := by
  rcases getPage_cases h nid pgno subno mask with ⟨_, e⟩ | ⟨_, _, ⟨_, e⟩ | ⟨p, _, e⟩⟩ <;> rw [e]
  · exact RefKept.refl s
  · exact RefKept.refl s
  · exact (refKept_of_nets (s' := { s with pages := p :: rmId s.pages p.id }) rfl).trans (pageRef_refKept _ p.id)

/-- the page type write (`Op.ptype`, the decoder's statistics are the cache's `cn->_pages[]`): pages, memory and
    networks stay, the statistics of the network now carry the type (a `uint8_t`) -/
theorem ptype_step {s : State} (g : Good s) {nid : Nat} {cn : Net} (hf : s.findNet nid = some cn) (pgno t : Nat)
    (hr : 0x100 ≤ pgno ∧ pgno ≤ 0x8FF) :
    (stepCur s (.ptype nid pgno t)).1.abs = s.abs
      ∧ (stepCur s (.ptype nid pgno t)).1.memUsed = s.memUsed
      ∧ (stepCur s (.ptype nid pgno t)).1.memLimit = s.memLimit
      ∧ RefKept s (stepCur s (.ptype nid pgno t)).1
      ∧ ∃ cn0, (stepCur s (.ptype nid pgno t)).1.findNet nid = some cn0 ∧ (cn0.getStat pgno).ptype = t % 256 := by
  have g0 : Good (stepCur s (.ptype nid pgno t)).1 := good_stepF _ g _
  have e : (stepCur s (.ptype nid pgno t)).1
      = s.updNet nid (fun n => n.setStat pgno { n.getStat pgno with ptype := t % 256 }) :=
    congrArg Prod.fst (stepF_ptype _ hf hr t)
  rw [e] at g0 ⊢
  refine ⟨rfl, rfl, rfl, refKept_updNid rfl (fun _ => ⟨rfl, rfl⟩), ?_⟩
  obtain ⟨hcn, hid⟩ := findNet_some hf
  have hmem : (cn.setStat pgno { cn.getStat pgno with ptype := t % 256 })
      ∈ (s.updNet nid (fun n => n.setStat pgno { n.getStat pgno with ptype := t % 256 })).nets := by
    rw [updNet_nets]; exact mem_updNid.2 ⟨cn, hcn, by rw [if_pos hid]⟩
  have := findNet_of_invW g0.1 hmem
  rw [setStat_id, hid] at this
  refine ⟨_, this, ?_⟩
  rw [getStat_setStat, if_pos rfl]

/-- `vbi_chsw_reset`: the call hands out a network, held by the client, which has no page -/
theorem chsw_step {s : State} (g : Good s) {nid : Nat} {cn : Net} (hf : s.findNet nid = some cn) :
    ∃ S nid', stepCur s (.chsw nid) = (S, .net nid') ∧ Good S ∧ Held S nid' ∧ ∀ q ∈ S.pages, q.net ≠ nid' := by
  have g0 : Good (stepCur s (.chsw nid)).1 := good_stepF _ g _
  have e : stepCur s (.chsw nid)
      = ((s.netUnref nid).addNetwork.1.statReset (s.netUnref nid).addNetwork.2, .net (s.netUnref nid).addNetwork.2) :=
    stepF_chsw _ hf
  rw [e] at g0
  refine ⟨_, _, e, g0, ?_, ?_⟩
  · obtain ⟨h, hz, _⟩ := g
    obtain ⟨n, hn, e1, e2, _⟩ := (addNetwork_moves ((netUnref_moves h nid).invW h) (netUnref_znet h hz nid)).2.1
    exact Held.of_kept ⟨n, hn, e1, e2⟩
      (refKept_updNid (f := fun n => { n with stat := [], defType := unknownPageType }) rfl (fun _ => ⟨rfl, rfl⟩))
  · have := chsw_empty g nid cn hf (s.netUnref nid).addNetwork.2 (by
      have e' : step s (.chsw nid) = _ := e
      rw [e'])
    have e' : step s (.chsw nid) = _ := e
    rw [e'] at this
    exact this


theorem refKept_of_key {s s' : State} (hk : s'.nets.map netKey = s.nets.map netKey) : RefKept s s' := by
  intro n hn
  obtain ⟨m, hm, e⟩ := mem_of_key hk.symm hn
  simp only [netKey, Prod.mk.injEq] at e
  exact ⟨m, hm, e.1, e.2.1⟩

theorem ids_of_key {l l' : List Net} (hk : l'.map netKey = l.map netKey) : l'.map (·.id) = l.map (·.id) := by
  have := congrArg (List.map (fun k : Nat × Nat × Nat × Bool => k.1)) hk
  simpa [List.map_map, Function.comp_def, netKey] using this

theorem size_pos (p : Page) : 0 < p.size := by
  have := pageSize_ge p.func p.x26 p.x28
  have h0 : 0 < hdrSize + aitSize := by decide
  unfold Page.size; omega

/-- what the part of `_vbi_cache_put_page` after the choice of the key does, seen from the state `s` -/
def AfterPut (s : State) : Except Err (State × Option Page) → Prop
  | .ok (s', some q) => RefKept s s' ∧ s'.findPage q.id = some q ∧ q.pri ≠ .zombie
  | .ok (s', none) => RefKept s s'
  | .error _ => False

theorem AfterPut.mono {s s1 : State} (k : RefKept s s1) {x : Except Err (State × Option Page)} (h : AfterPut s1 x) :
    AfterPut s x := by
  cases x with
  | error e => exact h
  | ok sr =>
    obtain ⟨s', r⟩ := sr
    cases r with
    | none => exact k.trans h
    | some q => exact ⟨k.trans h.1, h.2⟩

/-- from the label `replace:` on, no reuse of the victim's struct, at most one victim -/
theorem putReplace_after {s : State} (hnd : NidsNodup s.nets) {nid : Nat} (hn : ∃ n ∈ s.nets, n.id = nid) (a : PutArg)
    (subno : Nat) (avail : Int) (row : List Nat) (hrow : row.Nodup)
    (hc : ¬ (avail = (pageSize a.func a.x26 a.x28 : Int) ∧ row.length = 1)) :
    AfterPut s (s.putReplace nid a subno avail row) := by
  have key : ∀ S : State, RefKept s S → NidsNodup S.nets →
      AfterPut s (.ok ((S.insertNew nid a subno).1, some (S.insertNew nid a subno).2)) := by
    intro S k hndS
    obtain ⟨n0, hn0, e0⟩ := hn
    obtain ⟨n', hn', e', _⟩ := k n0 hn0
    have eid : n'.id = nid := e'.trans e0
    have he := insertNew_eq hndS hn' a subno
    rw [eid] at he
    refine ⟨k.trans (refKept_updNid (x := nid) (f := addPageNet a.pgno subno) (by rw [he]) (fun m => ⟨addPageNet_id _ _ m, addPageNet_ref _ _ m⟩)), ?_, ?_⟩
    · unfold State.findPage
      rw [insertNew_pages]
      simp
    · exact putPri_ne_zombie a.pgno subno a.func
  unfold State.putReplace
  simp only
  rw [if_neg hc, if_neg (fun hx => hx hrow)]
  have hk := (foldDelete_moves row s).key (by decide)
  exact key _ (refKept_of_key hk) (by show (List.map _ _).Nodup; rw [ids_of_key hk]; exact hnd)

/-- after the look-up of the version to replace, with room for the new page -/
theorem putRest_after {s : State} (hnd : NidsNodup s.nets) {nid : Nat} (hn : ∃ n ∈ s.nets, n.id = nid) (a : PutArg)
    (k1 : Nat) (old : Option Page) (avail0 : Int) (hav : avail0 ≥ (pageSize a.func a.x26 a.x28 : Int)) :
    AfterPut s (s.putRest nid a k1 old avail0) := by
  rcases putVictim_cases s old avail0 with ⟨_, e⟩ | ⟨o, _, _, e⟩ | ⟨o, _, _, e⟩
  · rw [putRest_room nid a k1 (by rw [e]; exact hav), e]
    exact putReplace_after hnd hn a k1 avail0 [] List.nodup_nil (by simp)
  · rw [putRest_room nid a k1 (by rw [e]; exact hav), e]
    exact AfterPut.mono (refKept_of_nets rfl)
      (putReplace_after (s := s.updPage o.id (fun p => { p with pri := .zombie })) hnd hn a k1 avail0 [] List.nodup_nil (by simp))
  · have hav' : avail0 + (o.size : Int) ≥ (pageSize a.func a.x26 a.x28 : Int) := by omega
    rw [putRest_room nid a k1 (by rw [e]; exact hav'), e]
    have := size_pos o
    exact putReplace_after hnd hn a k1 (avail0 + o.size) [o.id] (by simp) (by omega)

/-- `_vbi_cache_put_page`, both source shapes, memory not short: the call returns, keeps the networks and hands out a
    cached page -/
theorem putPageF_after (fix : Bool) {s : State} (h : InvW s) {nid : Nat} {cn : Net} (hf : s.findNet nid = some cn)
    (a : PutArg) (hrange : 0x100 ≤ a.pgno ∧ a.pgno ≤ 0x8FF)
    (hroom : s.memUsed + pageSize a.func a.x26 a.x28 ≤ s.memLimit) :
    AfterPut s (s.putPageF fix nid a) := by
  obtain ⟨hcn, hid⟩ := findNet_some hf
  have hn : ∃ n ∈ s.nets, n.id = nid := ⟨cn, hcn, hid⟩
  by_cases hlow : a.pgno &&& 0xFF = 0xFF
  · rw [putPageF_xFF fix hf a hlow]; exact RefKept.refl s
  · rw [putPageF_eq fix hf a hlow hrange]
    have hav : ((s.memLimit : Int) - s.memUsed) ≥ (pageSize a.func a.x26 a.x28 : Int) := by omega
    generalize (putKey (cn.getStat a.pgno).ptype a.pgno a.subno).1 = k1
    generalize (putKey (cn.getStat a.pgno).ptype a.pgno a.subno).2 = k2
    rcases putTailF_cases fix s nid a k1 k2 ((s.memLimit : Int) - s.memUsed) with ⟨_, e⟩ | ⟨o, ho, e⟩ <;> rw [e]
    · exact putRest_after h.nidNodup hn a k1 none _ hav
    · -- the version found goes to the front of its chain; in the repaired shape a single-version key first deletes the others
      have hM := moveFront_invW h (List.mem_of_find?_eq_some ho)
      generalize hMe : ({ s with pages := o :: rmId s.pages o.id } : State) = M at hM ⊢
      have hnM : ∃ n ∈ M.nets, n.id = nid := by rw [← hMe]; exact hn
      have kM : RefKept s M := refKept_of_nets (by rw [← hMe])
      split
      · have mv : Moves Kind.del M (M.dropOthers nid a.pgno o.id) := foldDelete_moves _ M
        have hk := mv.key (by decide)
        have k1' : RefKept M (M.dropOthers nid a.pgno o.id) := refKept_of_key hk
        have hn1 : ∃ n ∈ (M.dropOthers nid a.pgno o.id).nets, n.id = nid := by
          obtain ⟨n, hn', e⟩ := hnM
          obtain ⟨m, hm, em, _⟩ := k1' n hn'
          exact ⟨m, hm, em.trans e⟩
        have m1 := mv.mem (by decide)
        have m2 := mv.frame.limit
        have e4 : M.memUsed = s.memUsed := by rw [← hMe]
        have e5 : M.memLimit = s.memLimit := by rw [← hMe]
        exact AfterPut.mono (kM.trans k1')
          (putRest_after (by show (List.map _ _).Nodup; rw [ids_of_key hk]; exact hM.nidNodup) hn1 a k1 _ _ (by omega))
      · exact AfterPut.mono kM (putRest_after hM.nidNodup hnM a k1 _ _ hav)

theorem put_eq (fix : Bool) (s : State) (nid : Nat) (a : PutArg) :
    (stepF fix s (.put nid a)).1 = match s.putPageF fix nid a with | .ok (s', _) => s' | .error _ => s := by
  unfold stepF
  simp only
  split <;> simp_all

end Zvbi.Cache

namespace Zvbi.CacheJoin
open Zvbi.Cache Zvbi.Gen.Cache
open Zvbi.Props.C03Join (mirrorOp mirror)
open Zvbi.Props.C10Ttx (Sim)

theorem step_get (enc : Ttx.Page → Nat) {acc : State × Nat} {c : List Ttx.Page} (j : J enc acc c) (pgno subno mask : Nat) :
    J enc (mirrorOp enc acc (.get pgno subno mask)) (Ttx.applyOp c (.get pgno subno mask)) := by
  have hG : Good (acc.1.getPage acc.2 pgno subno mask).1 := good_getPage j.good acc.2 pgno subno mask
  have hS := (getPage_sim j.good.1 acc.2 enc c j.sim pgno subno mask).1
  have hK := getPage_kept j.good.1 acc.2 pgno (subno : Int) mask
  show J enc (match acc.1.getPage acc.2 pgno subno mask with
    | (s, some q) => (s.pageUnref q.id, acc.2)
    | (s, none) => (s, acc.2)) _
  generalize hr : acc.1.getPage acc.2 pgno subno mask = r at hG hS hK
  obtain ⟨s', o⟩ := r
  cases o with
  | none => exact ⟨hG, j.held.of_kept hK, hS⟩
  | some q =>
    obtain ⟨hf, hnz, hnet, hroom⟩ := getPage_some j.good hr
    have hh : Held s' q.net := by rw [hnet]; exact j.held.of_kept hK
    obtain ⟨ea, ek⟩ := pageUnref_abs hG.1 hf hnz hh hroom
    refine ⟨good_pageUnref hG q.id, (j.held.of_kept hK).of_kept ek, ?_⟩
    show Sim acc.2 enc _ (s'.pageUnref q.id)
    unfold Sim at hS ⊢
    rw [ea]; exact hS

/-- `vbi_chsw_reset` keeps the joint invariant (the decoder continues on the network handed out, with no page) -/
theorem step_clear (enc : Ttx.Page → Nat) {acc : State × Nat} {c : List Ttx.Page} (j : J enc acc c) :
    J enc (mirrorOp enc acc .clear) (Ttx.applyOp c .clear) := by
  obtain ⟨cn, hf, _⟩ := j.held.find j.good.1
  obtain ⟨S, nid', e, g, hh, hp⟩ := chsw_step j.good hf
  show J enc (match stepCur acc.1 (.chsw acc.2) with
    | (s, .net nid') => (s, nid')
    | (s, _) => (s, acc.2)) []
  rw [e]
  refine ⟨g, hh, ?_⟩
  exact sim_empty nid' enc hp

/-- page type write, store and release keep the joint invariant under `StoreOk` -/
theorem step_put (enc : Ttx.Page → Nat) {acc : State × Nat} {c : List Ttx.Page} (j : J enc acc c) (pt : Nat) (p : Ttx.Page)
    (hok : StoreOk enc acc pt p) :
    J enc (mirrorOp enc acc (.put pt p)) (Ttx.applyOp c (.put pt p)) := by
  obtain ⟨hpt, hrange, hroom, hput⟩ := hok
  obtain ⟨cn, hf, _⟩ := j.held.find j.good.1
  obtain ⟨a1, a2, a3, a4, cn0, hf0, hty⟩ := ptype_step j.good hf p.pgno pt hrange
  have g0 : Good (stepCur acc.1 (.ptype acc.2 p.pgno pt)).1 := good_stepF _ j.good _
  rw [Nat.mod_eq_of_lt hpt] at hty
  have hS0 : Sim acc.2 enc c (stepCur acc.1 (.ptype acc.2 p.pgno pt)).1 := by
    have := j.sim
    unfold Sim at this ⊢
    rw [a1]; exact this
  show J enc (match (stepCur acc.1 (.ptype acc.2 p.pgno pt)).1.putPageF putReplacesAllVersions acc.2
        ⟨p.pgno, p.subno, p.function, p.x26, p.x28, enc (tstored pt p)⟩ with
    | .ok (s', some q) => (s'.pageUnref q.id, acc.2)
    | .ok (s', none) => (s', acc.2)
    | .error _ => ((stepCur acc.1 (.ptype acc.2 p.pgno pt)).1, acc.2))
    (match Ttx.cachePut c pt p with | some c' => c' | none => c)
  generalize (stepCur acc.1 (.ptype acc.2 p.pgno pt)).1 = s0 at a1 a2 a3 a4 hf0 g0 hS0 hput ⊢
  generalize hres : s0.putPageF putReplacesAllVersions acc.2
        ⟨p.pgno, p.subno, p.function, p.x26, p.x28, enc (tstored pt p)⟩ = res at hput ⊢
  cases res with
  | error e => exact absurd hput id
  | ok sr =>
    obtain ⟨s', r⟩ := sr
    have hheld : Held s' acc.2 := by
      cases r with
      | none => exact hput
      | some q => exact hput.1
    have hq : ∀ q, r = some q → s'.findPage q.id = some q ∧ q.pri ≠ .zombie := by
      intro q e; subst e; exact hput.2
    have gS := good_putPageF _ g0 _ _ hres
    obtain ⟨i3, i4⟩ := putPageF_mem _ g0.1 _ _ hres
    cases hc : Ttx.cachePut c pt p with
    | none =>
      have hp0 := putPageF_xFF putReplacesAllVersions hf0
        ⟨p.pgno, p.subno, p.function, p.x26, p.x28, enc (tstored pt p)⟩ (tcachePutF_none hc)
      rw [hp0] at hres
      injection hres with hres
      injection hres with h1 h2
      subst h1; subst h2
      exact ⟨gS, hheld, hS0⟩
    | some c' =>
      have hroom0 : s0.memUsed + pageSize p.function p.x26 p.x28 ≤ s0.memLimit := by omega
      obtain ⟨b1, _, b2⟩ := putPageF_sim putReplacesAllVersions g0.1 acc.2 enc c hS0 cn0 hf0 p hrange
        ⟨p.pgno, p.subno, p.function, p.x26, p.x28, enc (tstored pt p)⟩ (by rw [hty]) hroom0 c' (by rw [hty]; exact hc) s' r hres
      cases r with
      | none => exact ⟨gS, hheld, b2⟩
      | some q =>
        obtain ⟨hfq, hnz⟩ := hq q rfl
        simp only [Option.map_some, Option.some.injEq] at b1
        have hnet : q.net = acc.2 := congrArg Entry.net b1
        have hsz : q.size = pageSize p.function p.x26 p.x28 := by
          have e1 : q.func = p.function := congrArg Entry.func b1
          have e2 : q.x26 = p.x26 := congrArg Entry.x26 b1
          have e3 : q.x28 = p.x28 := congrArg Entry.x28 b1
          unfold Page.size
          rw [e1, e2, e3]
        have hh : Held s' q.net := by rw [hnet]; exact hheld
        obtain ⟨ea, ek⟩ := pageUnref_abs gS.1 hfq hnz hh (fun _ => by rw [hsz]; omega)
        refine ⟨good_pageUnref gS q.id, hheld.of_kept ek, ?_⟩
        show Sim acc.2 enc c' (s'.pageUnref q.id)
        unfold Sim at b2 ⊢
        rw [ea]; exact b2

theorem J_trace (enc : Ttx.Page → Nat) (ops : List Ttx.CacheOp) :
    ∀ (acc : State × Nat) (c : List Ttx.Page), J enc acc c → TraceOk enc acc ops →
      J enc (ops.foldl (mirrorOp enc) acc) (ops.foldl Ttx.applyOp c) := by
  induction ops with
  | nil => intro acc c j _; exact j
  | cons op rest ih =>
    intro acc c j hok
    rw [List.foldl_cons, List.foldl_cons]
    cases op with
    | get pgno subno mask => exact ih _ _ (step_get enc j pgno subno mask) hok
    | put pt p => exact ih _ _ (step_put enc j pt p hok.1) hok.2
    | clear => exact ih _ _ (step_clear enc j) hok

/-- the start: `vbi_cache_new`, then the decoder's first network -/
theorem J_init (enc : Ttx.Page → Nat) : J enc init.addNetwork [] := by
  refine ⟨?_, ?_, ?_⟩
  · have := good_stepF putReplacesAllVersions good_init .addNet
    exact this
  · exact ⟨_, List.mem_cons_self, rfl, Nat.succ_pos _⟩
  · unfold Sim; rfl


/-- in a state of the joint invariant a store of a `uint8_t` page type and a page number in range, with room for the page,
    meets all of `StoreOk` -/
theorem storeOk_of_room (enc : Ttx.Page → Nat) {acc : State × Nat} {c : List Ttx.Page} (j : J enc acc c) (pt : Nat) (p : Ttx.Page)
    (hpt : pt < 256) (hrange : 0x100 ≤ p.pgno ∧ p.pgno ≤ 0x8FF)
    (hroom : acc.1.memUsed + pageSize p.function p.x26 p.x28 ≤ acc.1.memLimit) : StoreOk enc acc pt p := by
  refine ⟨hpt, hrange, hroom, ?_⟩
  obtain ⟨cn, hf, _⟩ := j.held.find j.good.1
  obtain ⟨_, a2, a3, a4, cn0, hf0, _⟩ := ptype_step j.good hf p.pgno pt hrange
  have g0 : Good (stepCur acc.1 (.ptype acc.2 p.pgno pt)).1 := good_stepF _ j.good _
  have hh0 : Held (stepCur acc.1 (.ptype acc.2 p.pgno pt)).1 acc.2 := j.held.of_kept a4
  have := putPageF_after putReplacesAllVersions g0.1 hf0
    ⟨p.pgno, p.subno, p.function, p.x26, p.x28, enc (tstored pt p)⟩ hrange (by rw [a2, a3]; exact hroom)
  generalize (stepCur acc.1 (.ptype acc.2 p.pgno pt)).1 = s0 at hh0 this ⊢
  generalize s0.putPageF putReplacesAllVersions acc.2 ⟨p.pgno, p.subno, p.function, p.x26, p.x28, enc (tstored pt p)⟩ = x at this ⊢
  cases x with
  | error e => exact this
  | ok sr =>
    obtain ⟨s', r⟩ := sr
    cases r with
    | none => exact hh0.of_kept this
    | some q => exact ⟨hh0.of_kept this.1, this.2⟩

/-- the state is reached from `vbi_cache_new` by a sequence of API calls of the current source -/
def OpRun (s : State) : Prop := ∃ l : List Op, s = runF putReplacesAllVersions init l

theorem OpRun.step {s : State} (h : OpRun s) (op : Op) : OpRun (stepF putReplacesAllVersions s op).1 := by
  obtain ⟨l, rfl⟩ := h
  exact ⟨l ++ [op], by unfold runF; rw [List.foldl_append]; rfl⟩

/-- One mirrored decoder operation is made of the calls `getPage`, `pageUnref`, the page type write, `putPageF` and
    `vbi_chsw_reset` on the network the decoder holds: what these keep, it keeps. -/
theorem mirrorOp_ind {Q : State → Prop} (enc : Ttx.Page → Nat) (acc : State × Nat) (op : Ttx.CacheOp)
    (get : ∀ pgno subno mask : Nat, Q (acc.1.getPage acc.2 pgno subno mask).1)
    (unref : ∀ s id, Q s → Q (s.pageUnref id))
    (ptype : ∀ pgno t, Q (stepCur acc.1 (.ptype acc.2 pgno t)).1)
    (put : ∀ s a s' r, Q s → s.putPageF putReplacesAllVersions acc.2 a = .ok (s', r) → Q s')
    (chsw : Q (stepCur acc.1 (.chsw acc.2)).1) : Q (mirrorOp enc acc op).1 := by
  cases op with
  | get pgno subno mask =>
    have h1 := get pgno subno mask
    show Q (match acc.1.getPage acc.2 pgno subno mask with
      | (s, some q) => (s.pageUnref q.id, acc.2)
      | (s, none) => (s, acc.2)).1
    generalize acc.1.getPage acc.2 pgno subno mask = r at h1
    obtain ⟨s', o⟩ := r
    cases o with
    | none => exact h1
    | some q => exact unref _ _ h1
  | put pt p =>
    have h0 := ptype p.pgno pt
    show Q (match (stepCur acc.1 (.ptype acc.2 p.pgno pt)).1.putPageF putReplacesAllVersions acc.2
          ⟨p.pgno, p.subno, p.function, p.x26, p.x28, enc (tstored pt p)⟩ with
      | .ok (s', some q) => (s'.pageUnref q.id, acc.2)
      | .ok (s', none) => (s', acc.2)
      | .error _ => ((stepCur acc.1 (.ptype acc.2 p.pgno pt)).1, acc.2)).1
    generalize (stepCur acc.1 (.ptype acc.2 p.pgno pt)).1 = s0 at h0
    generalize hx : s0.putPageF putReplacesAllVersions acc.2 ⟨p.pgno, p.subno, p.function, p.x26, p.x28, enc (tstored pt p)⟩ = x
    cases x with
    | error e => exact h0
    | ok sr =>
      obtain ⟨s', r⟩ := sr
      have h1 := put _ _ _ _ h0 hx
      cases r with
      | none => exact h1
      | some q => exact unref _ _ h1
  | clear =>
    have h1 := chsw
    show Q (match stepCur acc.1 (.chsw acc.2) with
      | (s, .net nid') => (s, nid')
      | (s, _) => (s, acc.2)).1
    generalize stepCur acc.1 (.chsw acc.2) = r at h1
    obtain ⟨S, o⟩ := r
    cases o <;> exact h1

theorem mirrorOp_opRun (enc : Ttx.Page → Nat) {acc : State × Nat} {c : List Ttx.Page} (j : J enc acc c) (h : OpRun acc.1)
    (op : Ttx.CacheOp) : OpRun (mirrorOp enc acc op).1 := by
  obtain ⟨cn, hf, _⟩ := j.held.find j.good.1
  refine mirrorOp_ind enc acc op (fun pgno subno mask => ?_) (fun s id hs => stepF_unref _ s id ▸ hs.step (.unref id))
    (fun _ _ => h.step _) (fun s a s' r hs e => ?_) (h.step _)
  · have h1 := h.step (.get acc.2 pgno subno mask)
    rwa [stepF_get _ hf] at h1
  · have h1 := hs.step (.put acc.2 a)
    rwa [put_eq, e] at h1

/-- the joint invariant along a whole trace: page types `uint8_t`, page numbers in range, memory never short; and with
    it the mirrored state stays a history of API calls -/
theorem J_trace_room (enc : Ttx.Page → Nat) (ops : List Ttx.CacheOp) :
    ∀ (acc : State × Nat) (c : List Ttx.Page), J enc acc c →
      (∀ pt p, Ttx.CacheOp.put pt p ∈ ops → pt < 256 ∧ 0x100 ≤ p.pgno ∧ p.pgno ≤ 0x8FF) →
      MemNeverShort enc acc ops →
      J enc (ops.foldl (mirrorOp enc) acc) (ops.foldl Ttx.applyOp c) ∧
      (OpRun acc.1 → OpRun (ops.foldl (mirrorOp enc) acc).1) := by
  induction ops with
  | nil => intro acc c j _ _; exact ⟨j, id⟩
  | cons op rest ih =>
    intro acc c j hp hok
    have hp' : ∀ pt p, Ttx.CacheOp.put pt p ∈ rest → pt < 256 ∧ 0x100 ≤ p.pgno ∧ p.pgno ≤ 0x8FF :=
      fun pt p h => hp pt p (List.mem_cons_of_mem _ h)
    rw [List.foldl_cons, List.foldl_cons]
    suffices h : J enc (mirrorOp enc acc op) (Ttx.applyOp c op) ∧ MemNeverShort enc (mirrorOp enc acc op) rest from
      (ih _ _ h.1 hp' h.2).imp_right fun hr h0 => hr (mirrorOp_opRun enc j h0 op)
    cases op with
    | get pgno subno mask => exact ⟨step_get enc j pgno subno mask, hok⟩
    | put pt p =>
      obtain ⟨h1, h2⟩ := hp pt p List.mem_cons_self
      exact ⟨step_put enc j pt p (storeOk_of_room enc j pt p h1 h2 hok.1), hok.2⟩
    | clear => exact ⟨step_clear enc j, hok⟩

theorem opRun_init : OpRun init.addNetwork.1 := ⟨[.addNet], rfl⟩

/-- C10 invariant, memory limit as set by `vbi_cache_new` -/
def G (s : State) : Prop := Good s ∧ s.memLimit = memoryLimit0

/-- an API call other than the limit change keeps the memory limit (every primitive change does: `Moves.frame`) -/
theorem stepCur_limit {s : State} (g : Good s) (op : Op) (hop : ∀ nid a, op ≠ .put nid a) (hl : ∀ n, op ≠ .setLimit n) :
    (stepCur s op).1.memLimit = s.memLimit := by
  have m := (stepF_moves putReplacesAllVersions g op).1
  cases op with
  | put nid a => exact absurd rfl (hop nid a)
  | setLimit n => exact absurd rfl (hl n)
  | _ => exact m.frame.limit

theorem mirrorOp_G (enc : Ttx.Page → Nat) {acc : State × Nat} (g : G acc.1) (op : Ttx.CacheOp) : G (mirrorOp enc acc op).1 :=
  have call : ∀ o : Op, (∀ nid a, o ≠ .put nid a) → (∀ n, o ≠ .setLimit n) → G (stepCur acc.1 o).1 :=
    fun o h1 h2 => ⟨good_stepF _ g.1 _, (stepCur_limit g.1 o h1 h2).trans g.2⟩
  mirrorOp_ind enc acc op
    (fun pgno subno mask => ⟨good_getPage g.1 acc.2 pgno subno mask, (getPage_moves g.1.1 acc.2 pgno subno mask).frame.limit.trans g.2⟩)
    (fun _ id h => ⟨good_pageUnref h.1 id, (pageUnref_moves h.1.1 id).frame.limit.trans h.2⟩)
    (fun _ _ => call _ (fun _ _ h => nomatch h) fun _ h => nomatch h)
    (fun _ _ _ _ h e => ⟨good_putPageF _ h.1 _ _ e, (putPageF_mem _ h.1.1 _ _ e).2.trans h.2⟩)
    (call _ (fun _ _ h => nomatch h) fun _ h => nomatch h)

theorem memNeverShort_of_few (enc : Ttx.Page → Nat) (ops : List Ttx.CacheOp) :
    ∀ acc : State × Nat, G acc.1 → PagesFew enc acc ops → MemNeverShort enc acc ops := by
  induction ops with
  | nil => intro _ _ _; trivial
  | cons op rest ih =>
    intro acc g hf
    have g' := mirrorOp_G enc g op
    cases op with
    | get pgno subno mask => exact ih _ g' hf
    | put pt p => exact ⟨mem_room_0_2 (inv_iff_good.2 g.1) g.2 hf.1 _ _ _, ih _ g' hf.2⟩
    | clear => exact ih _ g' hf

theorem G_init : G init.addNetwork.1 :=
  ⟨good_stepF putReplacesAllVersions good_init .addNet, rfl⟩

end Zvbi.CacheJoin
