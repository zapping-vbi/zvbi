import ZvbiModel.Ttx.CarriesAux
/-!
# C02: closing a page, whatever the transmission mode

`Ready sR s1 t hdr rows`: slot `t.m` holds the transmission `t`.  `page_stored_at`: a header that terminates that slot files
the page at the head of the cache chain (`Fetched`); the transmission mode only decides WHICH slot a header terminates:
in parallel mode the next header of the page's magazine with another page number (`Ready.closes_par`), in serial mode (C11
set) the next header of ANY magazine with another page number (`Ready.closes_ser`; with `ttxFixSerialErase` also when the
page carries the erase flag).  `HdrDone`, `fetched_after_header`: the state after the closing header.
-/
namespace Zvbi.Ttx
open Zvbi.Hamm Zvbi.Gen Zvbi.Ttx.Spec

/-- the state after the header of `t` closed the page in progress -/
def s1Of (s : St) (t : Tx) : St := (terminatePage (tick s) t.m t.pgno t.page).1

/-- slot `t.m` of `sR` holds the transmission `t` (header `hdr`, opened in state `s1`) with the rows `rows` received so
    far: what a header that terminates the slot will store -/
structure Ready (sR s1 : St) (t : Tx) (hdr : Packet) (rows : List (Nat × List Nat)) : Prop where
  mag : t.m < 8
  dec : decimalPage t.page
  len : sR.raw.length = 8
  mask : sR.mask = true
  cd : sR.chswcd = 0
  fn : (sR.rp t.m).page.function = FN_LOP
  pg : (sR.rp t.m).page.pgno = t.pgno
  sub : (sR.rp t.m).page.subno = t.subno
  nat : (sR.rp t.m).page.national = rev8 t.fl &&& 7
  flags : (sR.rp t.m).page.flags = t.flags s1
  raw : (sR.rp t.m).page.raw = t.base s1 hdr
  lr : (sR.rp t.m).lopRaw = mergeRows (s1.rp t.m).lopRaw rows
  lp : (sR.rp t.m).lopPackets = rowBits 0 rows
  base : (s1.rp t.m).lopRaw.length = 26
  rows : ∀ r ∈ rows, 1 ≤ r.1 ∧ r.1 ≤ 25 ∧ GoodRow r.2

theorem Opened.ready {s2 s1 : St} {t : Tx} {hdr : Packet} (ho : Opened s2 s1 t.m t.pgno t.subpage t.fl (payload hdr))
    (hm : t.m < 8) (hdec : decimalPage t.page) (hmask : s2.mask = true) (hcd : s2.chswcd = 0)
    (hL : (s1.rp t.m).lopRaw.length = 26) : Ready s2 s1 t hdr [] :=
  ⟨hm, hdec, ho.len, hmask, hcd, ho.fn, ho.pg, ho.sub, ho.nat, ho.flags, ho.raw, ho.lr, ho.lp, hL, fun _ h => nomatch h⟩

theorem rowsOf_good (rp : List RowPkt) (h : ∀ x ∈ rp, 1 ≤ x.1 ∧ x.1 ≤ 25 ∧ GoodRow (payload x.2)) :
    ∀ r ∈ rowsOf rp, 1 ≤ r.1 ∧ r.1 ≤ 25 ∧ GoodRow r.2 := by
  intro r hr
  obtain ⟨x, hx, rfl⟩ := List.mem_map.mp hr
  exact h x hx

theorem Assembled.ready {sR s1 : St} {t : Tx} {hdr : Packet} {rows : List (Nat × List Nat)}
    (ha : Assembled sR s1 t hdr rows) (hm : t.m < 8) (hdec : decimalPage t.page) (hmask1 : s1.mask = true)
    (hcd1 : s1.chswcd = 0) (hL : (s1.rp t.m).lopRaw.length = 26) (hrows : ∀ r ∈ rows, 1 ≤ r.1 ∧ r.1 ≤ 25 ∧ GoodRow r.2) :
    Ready sR s1 t hdr rows :=
  ⟨hm, hdec, ha.len, ha.mask.trans hmask1, ha.cd.trans hcd1, ha.fn, ha.pg, ha.sub, ha.nat, ha.flags, ha.raw, ha.lr, ha.lp,
    hL, hrows⟩

theorem page_ready (s : St) (hlen : s.raw.length = 8) (hmask : s.mask = true) (hcd : s.chswcd = 0)
    (t : Tx) (hdr : Packet) (hh : IsHeader hdr t.m t.page t.s12 t.s34 t.fl) (hdec : decimalPage t.page)
    (s1 : St) (ev1 : List Event) (ht : terminatePage (tick s) t.m t.pgno t.page = (s1, ev1))
    (htext : TextPage s1.net t.pgno t.page (t.prev s1)) (hL : (s1.rp t.m).lopRaw.length = 26)
    (rp : List RowPkt) (hrp : ∀ x ∈ rp, IsPacket x.2 t.m x.1 ∧ 1 ≤ x.1 ∧ x.1 ≤ 25 ∧ GoodRow (payload x.2)) :
    Ready (run s (hdr :: rp.map (·.2))).1 s1 t hdr (rowsOf rp) ∧ Assembled (run s (hdr :: rp.map (·.2))).1 s1 t hdr (rowsOf rp)
      ∧ ttxPages (run s (hdr :: rp.map (·.2))).2 = ttxPages ev1 := by
  obtain ⟨ha, hev, _, hmask1, hcd1⟩ := page_assembled s hcd hmask t hdr hh hdec s1 ev1 ht hlen htext rp
    (fun x hx => ⟨(hrp x hx).1, (hrp x hx).2.1, (hrp x hx).2.2.1⟩)
  exact ⟨ha.ready hh.mag hdec hmask1 hcd1 hL (rowsOf_good rp fun x hx => (hrp x hx).2), ha, hev⟩

theorem Tx.flags_or (t : Tx) (s1 : St) :
    t.flags s1 = (t.fl <<< 16) + t.subpage ∨ t.flags s1 = ((t.fl <<< 16) + t.subpage) ||| C4_ERASE_PAGE := by
  unfold Tx.flags
  cases t.prev s1
  · exact Or.inr rfl
  · exact Or.inl rfl

theorem Ready.parallelCur {sR s1 : St} {t : Tx} {hdr : Packet} {rows : List (Nat × List Nat)}
    (ha : Ready sR s1 t hdr rows) (hcur : sR.current = some t.m) (hsmall : t.s12 < 256 ∧ t.s34 < 256)
    (hpar : t.fl &&& 0x10 = 0) : ParallelCur sR := by
  refine ⟨t.m, hcur, ?_⟩
  rw [ha.flags]
  exact (c11_iff t.fl t.subpage (by unfold Tx.subpage; omega) (t.flags_or s1)).mpr hpar

theorem Ready.closes_par {sR s1 : St} {t : Tx} {hdr : Packet} {rows : List (Nat × List Nat)}
    (ha : Ready sR s1 t hdr rows) (hpar : ParallelCur sR) (pgnoQ pageQ : Nat) (hne : pageQ ≠ t.page) :
    terminatedSlot (tick sR) t.m pgnoQ pageQ = some t.m :=
  terminatedSlot_parallel (tick sR) t.m pgnoQ pageQ hpar (by
    show (sR.rp t.m).page.pgno &&& 0xFF ≠ pageQ
    rw [ha.pg]; unfold Tx.pgno; rw [(pgno_facts t.m t.page ha.mag ha.dec).2]; exact fun e => hne e.symm)

theorem terminatedSlot_serial (s : St) (m mQ pgnoQ pageQ : Nat) (hc : s.current = some m)
    (hser : (s.rp m).page.flags &&& C11_MAGAZINE_SERIAL ≠ 0) (hdiff : (s.rp m).page.pgno ≠ pgnoQ)
    (hfix : ttxFixSerialErase = true) : terminatedSlot s mQ pgnoQ pageQ = some m := by
  unfold terminatedSlot
  rw [hc]
  simp only [hfix]
  have h1 : ((s.rp m).page.flags &&& C11_MAGAZINE_SERIAL != 0) = true := by simpa using hser
  have h2 : ((s.rp m).page.pgno == pgnoQ) = false := by simpa using hdiff
  simp [h1, h2]

theorem Ready.closes_ser {sR s1 : St} {t : Tx} {hdr : Packet} {rows : List (Nat × List Nat)}
    (ha : Ready sR s1 t hdr rows) (hcur : sR.current = some t.m)
    (hsmall : t.s12 < 256 ∧ t.s34 < 256) (hser : t.fl &&& 0x10 = 0x10)
    (mQ pgnoQ pageQ : Nat) (hne : pgnoQ ≠ t.pgno) : terminatedSlot (tick sR) mQ pgnoQ pageQ = some t.m := by
  refine terminatedSlot_serial (tick sR) t.m mQ pgnoQ pageQ hcur ?_ (by
    show (sR.rp t.m).page.pgno ≠ pgnoQ; rw [ha.pg]; exact fun h => hne h.symm) rfl
  show (sR.rp t.m).page.flags &&& C11_MAGAZINE_SERIAL ≠ 0
  rw [ha.flags]
  intro h
  rw [(c11_iff t.fl t.subpage (by unfold Tx.subpage; omega) (t.flags_or s1)).mp h] at hser
  exact absurd hser (by decide)

theorem page_stored_at (sR s1 : St) (t : Tx) (hdr : Packet) (rows : List (Nat × List Nat))
    (ha : Ready sR s1 t hdr rows) (mQ pgnoQ pageQ : Nat) (hts : terminatedSlot (tick sR) mQ pgnoQ pageQ = some t.m)
    (hn : Event.chsw ∉ (terminatePage (tick sR) mQ pgnoQ pageQ).2) :
    ∃ q rest pt, (terminatePage (tick sR) mQ pgnoQ pageQ).1.net.cache = q :: rest
      ∧ Fetched q t s1 hdr rows pt ∧ CarriesAux q (sR.rp t.m).page
      ∧ (pt = PT_CLOCK → (sR.net.getStat t.pgno).pageType = PT_CLOCK)
      ∧ ttxPages (terminatePage (tick sR) mQ pgnoQ pageQ).2 = [(t.pgno, t.subno)] := by
  have hrp : (tick sR).rp t.m = sR.rp t.m := rfl
  obtain ⟨q, rest, pt, h1, h2, hc, h3, h4⟩ := close_text_at (tick sR) t.m mQ pgnoQ pageQ ha.cd ha.mask hts (by rw [hrp]; exact ha.fn)
    (by rw [hrp, ha.pg]; exact (pgno_facts t.m t.page ha.mag ha.dec).1) (s1.rp t.m).lopRaw rows (by rw [hrp]; exact ha.lr)
    ha.base (by rw [hrp]; exact ha.lp) ha.rows hn
  rw [hrp] at h2 hc h3 h4
  refine ⟨q, rest, pt, h1, ⟨h2.fn, h2.pgno.trans ha.pg, ?_, h2.national.trans ha.nat, h2.flags.trans ha.flags, ?_⟩, hc, ?_, ?_⟩
  · intro key mask hk
    apply h2.subno key mask
    rw [ha.pg, ha.sub]; exact hk
  · rw [h2.raw, ha.raw]
  · intro hpt; have := h3 hpt; rw [ha.pg] at this; exact this
  · rw [h4, ha.pg, ha.sub]

/-- the header packet `p` of (`m`, `page`) acts on the TTX_PAGE events, on the channel-switch signal and on what look-ups of
    OTHER page numbers find only through its termination block -/
structure HdrDone (s : St) (p : Packet) (m page : Nat) : Prop where
  pages : ttxPages (step s p).2 = ttxPages (terminatePage (tick s) m (mag8Of m * 256 + page) page).2
  chsw : Event.chsw ∈ (terminatePage (tick s) m (mag8Of m * 256 + page) page).2 → Event.chsw ∈ (step s p).2
  find : ∀ f : Page → Bool, (∀ x : Page, x.pgno = mag8Of m * 256 + page → f x = false) →
    (step s p).1.net.cache.find? f = (terminatePage (tick s) m (mag8Of m * 256 + page) page).1.net.cache.find? f

theorem chsw_of_term (s : St) (p : Packet) (m page : Nat) (hm : m < 8) (ha : a16 p 0 = some m) (hpg : a16 p 2 = some page)
    (hmask : s.mask = true) (hcd : s.chswcd = 0) (hlen : s.raw.length = 8)
    (h : Event.chsw ∈ (terminatePage (tick s) m (mag8Of m * 256 + page) page).2) : Event.chsw ∈ (step s p).2 := by
  obtain ⟨h7, h0⟩ := addr_hdr m hm
  rw [step_eq_decode s p hcd]
  rcases decode_header_frame (tick s) p m ha h0 hmask (by rw [h7]; show m < s.raw.length; rw [hlen]; exact hm) rfl with
    ⟨hn, _⟩ | ⟨page', hpage, _, l, hev⟩
  · rw [hpg] at hn; cases hn
  · rw [hpg] at hpage; injection hpage with hpage; subst hpage
    rw [h7] at hev
    show Event.chsw ∈ (decodeTeletext (tick s) p).ev
    rw [hev]; exact List.mem_append_left _ h

theorem hdrDone_text (s : St) (p : Packet) (m page s12 s34 fl : Nat) (hp : IsHeader p m page s12 s34 fl)
    (hdec : decimalPage page) (hmask : s.mask = true) (hcd : s.chswcd = 0) (hlen : s.raw.length = 8)
    (htext : TextPage (terminatePage (tick s) m (mag8Of m * 256 + page) page).1.net (mag8Of m * 256 + page) page
      (lookupPrev (terminatePage (tick s) m (mag8Of m * 256 + page) page).1.net (mag8Of m * 256 + page) (s12 + s34 * 256) fl).1) :
    HdrDone s p m page := by
  obtain ⟨ho, he, hc⟩ := decode_header_text (tick s) p m page s12 s34 fl hp hdec hmask
    (terminatePage (tick s) m (mag8Of m * 256 + page) page).1 (terminatePage (tick s) m (mag8Of m * 256 + page) page).2 rfl
    ((terminatePage_closed (tick s) m (mag8Of m * 256 + page) page).len.trans hlen) htext
  refine ⟨?_, ?_, fun f hf => ?_⟩
  · rw [step_eq_decode s p hcd]; exact he
  · rw [step_eq_decode s p hcd]; exact hc.mpr
  · rw [step_eq_decode s p hcd]
    show (decodeTeletext (tick s) p).st.net.cache.find? f = _
    rw [ho.net, lookupPrev_keeps _ _ _ _ f hf]

/-- `hrej`: sub-code / control bytes undecodable, or the time-filling page number FF -/
theorem hdrDone_rejected (s : St) (p : Packet) (m page : Nat) (hm : m < 8) (ha : a16 p 0 = some m) (hpg : a16 p 2 = some page)
    (hrej : hdrRejected page ((view Kind.hdr p).g16i 2) ((view Kind.hdr p).g16i 4) ((view Kind.hdr p).g16i 6) = true)
    (hmask : s.mask = true) (hcd : s.chswcd = 0) : HdrDone s p m page := by
  obtain ⟨h7, h0⟩ := addr_hdr m hm
  have hd := decode_hdr_rejected (tick s) p m page ha h0 hmask hpg hrej
  simp only [h7] at hd
  refine ⟨?_, ?_, fun f _ => ?_⟩ <;> rw [step_eq_decode s p hcd, hd]
  · rfl
  · exact id
  · rfl

theorem fetched_after_header (sR s1 : St) (t : Tx) (hdr : Packet) (rows : List (Nat × List Nat))
    (ha : Ready sR s1 t hdr rows) (hq : Packet) (mQ pageQ : Nat) (hd : HdrDone sR hq mQ pageQ)
    (hts : terminatedSlot (tick sR) mQ (mag8Of mQ * 256 + pageQ) pageQ = some t.m)
    (hne : mag8Of mQ * 256 + pageQ ≠ t.pgno) (hnosw : Event.chsw ∉ (step sR hq).2) :
    ∃ q pt, Fetched q t s1 hdr rows pt
      ∧ (pt = PT_CLOCK → (sR.net.getStat t.pgno).pageType = PT_CLOCK)
      ∧ (∀ subno mask, subno = q.subno ∨ subno = ANY_SUBNO →
          (cacheGet (step sR hq).1.net.cache t.pgno subno mask).map (·.1) = some q)
      ∧ ttxPages (step sR hq).2 = [(t.pgno, t.subno)] := by
  obtain ⟨q, rest, pt, h1, h2, _, h3, h4⟩ := page_stored_at sR s1 t hdr rows ha mQ _ pageQ hts (fun h => hnosw (hd.chsw h))
  refine ⟨q, pt, h2, h3, fun subno mask hs => ?_, by rw [hd.pages, h4]⟩
  have hf : ∀ x : Page, x.pgno = mag8Of mQ * 256 + pageQ →
      keyMatch t.pgno subno (if subno == ANY_SUBNO then 0 else mask) x = false :=
    fun x hx => Bool.eq_false_iff.mpr fun hk => hne (hx ▸ (keyMatch_true hk).1)
  apply cacheGet_of_find _ _ _ _ _ (pgno_facts t.m t.page ha.mag ha.dec).1
  show List.find? (keyMatch t.pgno _ _) _ = _
  rw [hd.find _ hf, h1, ← h2.pgno]
  exact find_head q rest subno mask hs

end Zvbi.Ttx
