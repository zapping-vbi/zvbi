import ZvbiModel.Ttx.PageList
/-!
# `store_lop`: the store of a terminated text page, and its rolling-header test

`storeLop_cases`: the three exits of `store_lop` by the verdict of the rolling-header test (channel switch / countdown
running / the page stored and announced); `storeLop_stores`: with no countdown running and no channel switch signalled
the page is at the head of the cache chain and exactly one TTX_PAGE event was sent.  `sameHeader_agrees`: `same_header`
returns TRUE for a header that agrees with the reference header outside the page number (`HeaderAgrees`), so that
`hdrVerdict` is never `.reset` for a consistent header.
-/
namespace Zvbi.Ttx
open Zvbi.Hamm Zvbi.Gen Zvbi.Ttx.Spec

/-- the (pgno, subno) of the VBI_EVENT_TTX_PAGE events in an event list -/
def ttxPages (l : List Event) : List (Nat × Nat) :=
  l.filterMap fun e => match e with
    | .ttxPage pg sub _ _ _ _ _ => some (pg, sub)
    | _ => none

theorem ttxPages_append (a b : List Event) : ttxPages (a ++ b) = ttxPages a ++ ttxPages b := by
  unfold ttxPages; exact List.filterMap_append

theorem ttxPages_liftAux (l : List Aux) : ttxPages (liftAux l) = [] :=
  List.filterMap_eq_nil_iff.mpr fun _ he => let ⟨_, _, e⟩ := mem_liftAux.mp he; e ▸ rfl

theorem hdrVerdict_skip (s : St) (vtp : Page) (h : hdrVerdict s vtp = .skip) : s.chswcd > 0 := by
  unfold hdrVerdict at h
  refine ite_eq_elim h (fun _ h => ?_) fun _ h => nomatch h
  refine ite_eq_elim h (fun _ h => nomatch h) fun _ h => ite_eq_elim h (fun _ h => nomatch h) fun _ h =>
    ite_eq_elim h (fun hc _ => hc) fun _ h => ite_eq_elim h (fun _ h => nomatch h) fun _ h => nomatch h

/-- the page statistics entry `store_lop` writes -/
def statAtPut (n : Net) (vtp : Page) : PageStat :=
  let ps := n.getStat vtp.pgno
  let ps :=
    if ps.pageType == PT_SUBTITLE then
      if ps.charset == 0xFF then { ps with charset := intToU8 (pageLanguage n (some vtp) 0 0) } else ps
    else if ps.pageType == PT_NO_PAGE || ps.pageType == PT_UNKNOWN then { ps with pageType := PT_NORMAL }
    else ps
  if ps.subcode ≥ 0xFFFE || vtp.subno > ps.subcode then { ps with subcode := vtp.subno % 65536 } else ps

/-- the page type `_vbi_cache_put_page` sees when `store_lop` stores `vtp` -/
def typeAtPut (n : Net) (vtp : Page) : Nat :=
  (((n.setStat vtp.pgno (fun _ => statAtPut n vtp)).1).getStat vtp.pgno).pageType

/-- the decoder state from which `store_lop` writes the statistics and stores: the countdown cleared and the reference
    header replaced as the verdict says -/
def storeFrom (s : St) (vtp : Page) (copy clearCd : Bool) : St :=
  { s with chswcd := if clearCd then 0 else s.chswcd, hdrPgno := if copy then vtp.pgno else s.hdrPgno,
           header := if copy then s.header.take 8 ++ hdrText (vtp.raw.getD 0 zeroRow) else s.header }

/-- **`store_lop`** by the verdict of the rolling-header test: channel switch (`vbi_chsw_reset`), nothing while a
    channel-switch countdown runs, or the statistics entry written, the page stored and announced -/
@[elab_as_elim]
theorem storeLop_cases {P : St × List Event → Prop} (s : St) (vtp : Page)
    (reset : hdrVerdict s vtp = .reset → P (chswReset s, [Event.chsw]))
    (skip : s.chswcd > 0 → P (s, []))
    (store : ∀ (copy clearCd roll hdrUpd : Bool) (clock : Option Bool) (pn : Int),
      P ({ storeFrom s vtp copy clearCd with net := ((s.net.setStat vtp.pgno (fun _ => statAtPut s.net vtp)).1).put vtp },
         liftAux (s.net.setStat vtp.pgno (fun _ => statAtPut s.net vtp)).2 ++ [Event.put vtp] ++
           if (vtp.pgno &&& 0xFF != 0xFF && s.mask) = true then
             [Event.ttxPage vtp.pgno vtp.subno roll hdrUpd clock pn
               (if copy then some (storeFrom s vtp copy clearCd).header else none)]
           else [])) :
    P (storeLop s vtp) := by
  cases h : hdrVerdict s vtp with
  | reset => unfold storeLop; rw [h]; exact reset h
  | skip => unfold storeLop; rw [h]; exact skip (hdrVerdict_skip s vtp h)
  | store copy clearCd roll hdrUpd clock pn =>
    have := store copy clearCd roll hdrUpd clock pn
    unfold storeLop
    rw [h]
    cases copy <;> cases clearCd <;> exact this

/-- `storeLop_cases` for invariants that do not read the events of the store: they contain no `Event.chsw` -/
theorem storeLop_elim {P : St × List Event → Prop} (s : St) (vtp : Page)
    (reset : hdrVerdict s vtp = .reset → P (chswReset s, [Event.chsw]))
    (skip : s.chswcd > 0 → P (s, []))
    (store : ∀ (copy clearCd : Bool) (ev : List Event), Event.chsw ∉ ev →
      P ({ storeFrom s vtp copy clearCd with net := ((s.net.setStat vtp.pgno (fun _ => statAtPut s.net vtp)).1).put vtp }, ev)) :
    P (storeLop s vtp) := by
  refine storeLop_cases s vtp reset skip fun copy clearCd roll hdrUpd clock pn => store copy clearCd _ fun hx => ?_
  rcases List.mem_append.mp hx with hx | hx
  · rcases List.mem_append.mp hx with hx | hx
    · exact chsw_not_mem_liftAux _ hx
    · exact nomatch List.mem_singleton.mp hx
  · split at hx
    · exact nomatch List.mem_singleton.mp hx
    · exact nomatch hx

/-- **store_lop stores**: no channel-switch countdown running, a handler registered, the page number
    valid, and the rolling-header test did not signal a channel switch (no `Event.chsw`): the page
    is at the head of the cache chain and exactly one TTX_PAGE event was sent -/
theorem storeLop_stores (s : St) (vtp : Page) (h0 : s.chswcd = 0) (hm : s.mask = true) (hv : validPgno vtp.pgno)
    (hn : Event.chsw ∉ (storeLop s vtp).2) :
    (storeLop s vtp).1.raw = s.raw ∧ (storeLop s vtp).1.current = s.current ∧ (storeLop s vtp).1.mask = true
    ∧ (storeLop s vtp).1.chswcd = 0
    ∧ (∃ q rest, (storeLop s vtp).1.net.cache = q :: rest ∧ StoredAs q (typeAtPut s.net vtp) vtp)
    ∧ ttxPages (storeLop s vtp).2 = [(vtp.pgno, vtp.subno)] := by
  revert hn
  refine storeLop_cases s vtp (fun _ hn => absurd (List.mem_singleton.mpr rfl) hn) (fun h => by omega)
    fun copy clearCd roll hdrUpd clock pn _ => ?_
  have hstored : (vtp.pgno &&& 0xFF != 0xFF) = true := by simpa using hv.2.2
  refine ⟨rfl, rfl, hm, by show (if clearCd then 0 else s.chswcd) = 0; rw [h0]; simp, ?_, ?_⟩
  · obtain ⟨q, rest, hrest, hq⟩ := cachePut_head (s.net.setStat vtp.pgno (fun _ => statAtPut s.net vtp)).1.cache
      (typeAtPut s.net vtp) vtp hv.2.2
    exact ⟨q, rest, by show (Net.put _ vtp).cache = _; unfold Net.put; rw [show ((s.net.setStat vtp.pgno
      (fun _ => statAtPut s.net vtp)).1.getStat vtp.pgno).pageType = typeAtPut s.net vtp from rfl, hrest], hq⟩
  · simp only [ttxPages_append, ttxPages_liftAux, hstored, hm, Bool.and_self, if_true]
    rfl

theorem sameHeader_go_tail (cur ref : List Nat) (b0 b1 b2 j : Nat) :
    ∀ (n fuel i : Nat), i + n = 32 → n ≤ fuel → j < i →
      (∀ k, i ≤ k → k < 32 → oddPar (cur.getD k 0) = true ∧ oddPar (ref.getD k 0) = true
        ∧ cur.getD k 0 = ref.getD k 0) →
      sameHeader.go cur ref b0 b1 b2 fuel i j false false = (j, false, false) := by
  intro n
  induction n with
  | zero =>
    intro fuel i hi _ _ _
    cases fuel with
    | zero => rw [sameHeader.go.eq_1]
    | succ f => rw [sameHeader.go.eq_2, if_pos (by omega)]
  | succ n ih =>
    intro fuel i hi hf hj hk
    cases fuel with
    | zero => omega
    | succ f =>
      rw [sameHeader.go.eq_2, if_neg (by omega)]
      have h1 : decide (i < j) = false := by simp; omega
      obtain ⟨o1, o2, e⟩ := hk i (Nat.le_refl _) (by omega)
      simp only [h1, Bool.false_and, Bool.false_eq_true, if_false, o2, e, Bool.not_true, Bool.or_false,
        bne_self_eq_false]
      exact ih f (i + 1) (by omega) (by omega) (by omega) (fun k hk1 hk2 => hk k (by omega) hk2)

theorem sameHeader_go_head (cur ref : List Nat) (b0 b1 b2 off : Nat) :
    ∀ (n f i : Nat), i + n = off → off < 32 →
      (∀ k, i ≤ k → k < off → (cur.getD k 0 == b0 && cur.getD (k + 1) 0 == b1 && cur.getD (k + 2) 0 == b2) = false
        ∧ oddPar (cur.getD k 0) = true ∧ oddPar (ref.getD k 0) = true ∧ cur.getD k 0 = ref.getD k 0) →
      sameHeader.go cur ref b0 b1 b2 (n + f) i 29 false false = sameHeader.go cur ref b0 b1 b2 f off 29 false false := by
  intro n
  induction n with
  | zero => intro f i hi _ _; simp at hi; subst hi; simp
  | succ n ih =>
    intro f i hi ho hk
    rw [show n + 1 + f = (n + f) + 1 by omega, sameHeader.go.eq_2, if_neg (by omega)]
    obtain ⟨d, o1, o2, e⟩ := hk i (Nat.le_refl _) (by omega)
    have hc : (decide (i < 29) && cur.getD i 0 == b0 && cur.getD (i + 1) 0 == b1 && cur.getD (i + 2) 0 == b2) = false := by
      rw [Bool.and_assoc, Bool.and_assoc, ← Bool.and_assoc (cur.getD i 0 == b0), d]; simp
    rw [hc]
    simp only [Bool.false_eq_true, if_false, o2, e, Bool.not_true, Bool.or_false, bne_self_eq_false]
    exact ih f (i + 1) (by omega) ho (fun k hk1 hk2 => hk k (by omega) hk2)

/-- the page number digits of `pgno` as `same_header` looks for them -/
def pgDigits (pgno : Nat) : Nat × Nat × Nat :=
  (par8 ((pgno >>> 8) + 0x30), par8 (((pgno >>> 4) &&& 15) + 0x30), par8 ((pgno &&& 15) + 0x30))

/-- "consistent page header" as `same_header` needs it: in columns 8..31 the page number of `cur`
    first occurs at column `off`, and outside these three columns and the one after (which the loop
    also skips) both headers have odd parity and are equal -/
structure HeaderAgrees (pgno : Nat) (cur ref : List Nat) (off : Nat) : Prop where
  lo : 8 ≤ off
  hi : off ≤ 28
  digits : cur.getD off 0 = (pgDigits pgno).1 ∧ cur.getD (off + 1) 0 = (pgDigits pgno).2.1
    ∧ cur.getD (off + 2) 0 = (pgDigits pgno).2.2
  first : ∀ k, 8 ≤ k → k < off →
    (cur.getD k 0 == (pgDigits pgno).1 && cur.getD (k + 1) 0 == (pgDigits pgno).2.1
      && cur.getD (k + 2) 0 == (pgDigits pgno).2.2) = false
  same : ∀ k, 8 ≤ k → k < 32 → (k < off ∨ off + 4 ≤ k) →
    oddPar (cur.getD k 0) = true ∧ oddPar (ref.getD k 0) = true ∧ cur.getD k 0 = ref.getD k 0

/-- `same_header` returns TRUE (and the page number offset) for a consistent header -/
theorem sameHeader_agrees (pgno : Nat) (cur ref : List Nat) (off : Nat) (h : HeaderAgrees pgno cur ref off) :
    sameHeader pgno cur ref = (1, off) := by
  have hlo := h.lo
  have hhi := h.hi
  unfold sameHeader
  simp only []
  have h1 := sameHeader_go_head cur ref (pgDigits pgno).1 (pgDigits pgno).2.1 (pgDigits pgno).2.2 off
    (off - 8) (32 - (off - 8)) 8 (by omega) (by omega)
    (fun k hk1 hk2 => ⟨h.first k hk1 hk2, h.same k hk1 (by omega) (Or.inl hk2)⟩)
  have e32 : off - 8 + (32 - (off - 8)) = 32 := by omega
  rw [e32] at h1
  unfold pgDigits at h1
  simp only [] at h1
  rw [h1]
  obtain ⟨f, hf⟩ : ∃ f, 32 - (off - 8) = f + 1 := ⟨32 - (off - 8) - 1, by omega⟩
  rw [hf, sameHeader.go.eq_2]
  have hn : ¬ off ≥ 32 := by omega
  rw [if_neg hn]
  have hd := h.digits
  unfold pgDigits at hd
  simp only [] at hd
  have hc : (decide (off < 29) && cur.getD off 0 == par8 ((pgno >>> 8) + 0x30)
      && cur.getD (off + 1) 0 == par8 (((pgno >>> 4) &&& 15) + 0x30)
      && cur.getD (off + 2) 0 == par8 ((pgno &&& 15) + 0x30)) = true := by
    rw [hd.1, hd.2.1, hd.2.2]
    have : decide (off < 29) = true := by simp; omega
    simp [this]
  rw [if_pos hc]
  rw [sameHeader_go_tail cur ref _ _ _ off (32 - (off + 4)) f (off + 4) (by omega)
    (by omega) (by omega)
    (fun k hk1 hk2 => h.same k (by omega) hk2 (Or.inr hk1))]
  have : decide (off ≥ 29) = false := by simp; omega
  simp [this]

end Zvbi.Ttx
