import ZvbiModel.Ttx.CycleDec
/-!
# C02: the sender side - packets built by the Hamming 8/4 / odd-parity encoder satisfy the receiver-side
hypotheses of the cycle theorems (`IsHeader`, `IsPacket`, `GoodHdr`; `payload_encRow` gives the row bytes)

`encHeader t text`: packet address (magazine, packet 0), page units / tens, S1 S2+C4, S3 S4+C5+C6, C7-C10, C11-C14 -
each pair as the byte the decoder reads through `vbi_unham16p` (`Tx.page`, `Tx.s12`, `Tx.s34`, `Tx.fl`) - then the 32
text bytes of columns 8..39.  `senderText tmpl clock off pgno`: the network's header template with the three page
number digits (odd parity) at columns `off..off+2` and the clock in columns 32..39.
-/
namespace Zvbi.Ttx
open Zvbi.Hamm Zvbi.Gen Zvbi.Ttx.Spec

def encAddr (m k : Nat) : List Nat := [ham8 (m ||| ((k &&& 1) <<< 3)), ham8 (k >>> 1)]
def enc16 (v : Nat) : List Nat := [ham8 (v &&& 15), ham8 (v >>> 4)]

theorem dec_addr : ∀ m < 8, ∀ k < 32, unham16p (ham8 (m ||| ((k &&& 1) <<< 3))) (ham8 (k >>> 1)) = some (m + 8 * k) := by
  decide +kernel

def encHeader (t : Tx) (text : List Nat) : Packet :=
  encAddr t.m 0 ++ enc16 t.page ++ enc16 t.s12 ++ enc16 t.s34 ++ enc16 t.fl ++ text
def encRow (m k : Nat) (bytes : List Nat) : Packet := encAddr m k ++ bytes

theorem encHeader_eq (t : Tx) (text : List Nat) : encHeader t text =
    ham8 (t.m ||| ((0 &&& 1) <<< 3)) :: ham8 (0 >>> 1) :: ham8 (t.page &&& 15) :: ham8 (t.page >>> 4)
      :: ham8 (t.s12 &&& 15) :: ham8 (t.s12 >>> 4) :: ham8 (t.s34 &&& 15) :: ham8 (t.s34 >>> 4)
      :: ham8 (t.fl &&& 15) :: ham8 (t.fl >>> 4) :: text := rfl

theorem encHeader_isHeader (t : Tx) (text : List Nat) (hm : t.m < 8) (hp : t.page < 256) (h12 : t.s12 < 256)
    (h34 : t.s34 < 256) (hfl : t.fl < 256) : IsHeader (encHeader t text) t.m t.page t.s12 t.s34 t.fl := by
  rw [encHeader_eq]
  exact ⟨hm, dec_addr t.m hm 0 (by omega), unham16p_ham8 t.page hp, unham16p_ham8 t.s12 h12, unham16p_ham8 t.s34 h34, unham16p_ham8 t.fl hfl⟩

theorem encRow_isPacket (m k : Nat) (bytes : List Nat) (hm : m < 8) (hk : k < 32) : IsPacket (encRow m k bytes) m k :=
  ⟨hm, hk, dec_addr m hm k hk⟩

theorem payload_encRow (m k : Nat) (bytes : List Nat) (hl : bytes.length = 40) : payload (encRow m k bytes) = bytes := by
  apply List.ext_getElem?
  intro i
  unfold payload encRow encAddr byte
  by_cases hi : i < 40
  · simp [hi, List.getD_eq_getElem?_getD, List.getElem?_cons]
    rw [List.getElem?_eq_getElem (by omega)]; rfl
  · rw [List.getElem?_eq_none (by simp; omega), List.getElem?_eq_none (by omega)]

/-- text bytes of a header: columns 8..39 -/
def senderText (tmpl clock : List Nat) (off pgno : Nat) : List Nat :=
  (List.range 32).map fun j =>
    if j + 8 = off then (pgDigits pgno).1 else if j + 8 = off + 1 then (pgDigits pgno).2.1
    else if j + 8 = off + 2 then (pgDigits pgno).2.2 else if j + 8 < 32 then tmpl.getD (j + 8) 0 else clock.getD (j + 8 - 32) 0

theorem payload_encHeader (t : Tx) (text : List Nat) (k : Nat) (h8 : 8 ≤ k) (h40 : k < 40) :
    (payload (encHeader t text)).getD k 0 = text.getD (k - 8) 0 := by
  unfold payload byte
  rw [List.getD_eq_getElem?_getD, List.getElem?_map, List.getElem?_range h40]
  simp only [Option.map_some, Option.getD_some]
  unfold encHeader
  have hl : (encAddr t.m 0 ++ enc16 t.page ++ enc16 t.s12 ++ enc16 t.s34 ++ enc16 t.fl).length = 10 := by
    simp [encAddr, enc16]
  rw [List.getD_eq_getElem?_getD, List.getD_eq_getElem?_getD, List.getElem?_append_right (by omega), hl]
  congr 2
  omega

theorem senderText_getD (tmpl clock : List Nat) (off pgno j : Nat) (hj : j < 32) :
    (senderText tmpl clock off pgno).getD j 0 =
      if j + 8 = off then (pgDigits pgno).1 else if j + 8 = off + 1 then (pgDigits pgno).2.1
      else if j + 8 = off + 2 then (pgDigits pgno).2.2 else if j + 8 < 32 then tmpl.getD (j + 8) 0 else clock.getD (j + 8 - 32) 0 := by
  unfold senderText
  rw [List.getD_eq_getElem?_getD, List.getElem?_map, List.getElem?_range hj]
  rfl

/-- the network's header template: odd parity in the compared columns, no magazine digit before the page number -/
structure TmplOk (tmpl : List Nat) (off : Nat) : Prop where
  lo : 8 ≤ off
  hi : off ≤ 28
  par : ∀ k, 8 ≤ k → k < 32 → oddPar (tmpl.getD k 0) = true
  nodigit : ∀ k, 8 ≤ k → k < off → ∀ d, 1 ≤ d → d ≤ 8 → tmpl.getD k 0 ≠ par8 (d + 0x30)

/-- the payload is the template outside columns `off..off+2`, and no digit 1..8 stands in the template before `off`: so the
    first occurrence of the page number is the one at `off` -/
theorem encHeader_goodHdr (tmpl clock : List Nat) (off : Nat) (t : Tx) (hm : t.m < 8) (hp : t.page < 256)
    (h12 : t.s12 < 256) (h34 : t.s34 < 256) (hfl : t.fl < 256) (ht : TmplOk tmpl off) :
    GoodHdr tmpl off (encHeader t (senderText tmpl clock off t.pgno)) := by
  have hh := encHeader_isHeader t (senderText tmpl clock off t.pgno) hm hp h12 h34 hfl
  intro pmag page ha h0 hpg
  rw [hh.addr] at ha; injection ha with ha; subst ha
  rw [hh.page] at hpg; injection hpg with hpg; subst hpg
  rw [(addr_hdr t.m hm).1]
  show HdrOk tmpl off t.pgno _
  have hget : ∀ k, 8 ≤ k → k < 40 → (payload (encHeader t (senderText tmpl clock off t.pgno))).getD k 0
      = (if k = off then (pgDigits t.pgno).1 else if k = off + 1 then (pgDigits t.pgno).2.1
         else if k = off + 2 then (pgDigits t.pgno).2.2 else if k < 32 then tmpl.getD k 0 else clock.getD (k - 32) 0) := by
    intro k h8 h40
    rw [payload_encHeader t _ k h8 h40, senderText_getD _ _ _ _ _ (by omega)]
    have e : k - 8 + 8 = k := by omega
    rw [e]
  have hlo := ht.lo
  have hhi := ht.hi
  have hd0 : (pgDigits t.pgno).1 = par8 (mag8Of t.m + 0x30) := by
    unfold pgDigits Tx.pgno
    have : (mag8Of t.m * 256 + t.page) >>> 8 = mag8Of t.m := by
      rw [Nat.shiftRight_eq_div_pow]; omega
    rw [this]
  have hm8 := mag8Of_le t.m hm
  refine ⟨hlo, hhi, ⟨?_, ?_, ?_⟩, ?_, ?_⟩
  · rw [hget off (by omega) (by omega)]; simp
  · rw [hget (off + 1) (by omega) (by omega)]; simp
  · rw [hget (off + 2) (by omega) (by omega)]; simp
  · intro k h8 hk
    have hne : (payload (encHeader t (senderText tmpl clock off t.pgno))).getD k 0 ≠ (pgDigits t.pgno).1 := by
      rw [hget k h8 (by omega), hd0]
      have n1 : k ≠ off := by omega
      have n2 : k ≠ off + 1 := by omega
      have n3 : k ≠ off + 2 := by omega
      have n4 : k < 32 := by omega
      simp only [n1, n2, n3, n4, if_false, if_true]
      exact ht.nodigit k h8 hk _ hm8.1 hm8.2
    have : (((payload (encHeader t (senderText tmpl clock off t.pgno))).getD k 0) == (pgDigits t.pgno).1) = false := by
      simpa using hne
    rw [this]; rfl
  · intro k h8 h32 hout
    rw [hget k h8 (by omega)]
    have n1 : k ≠ off := by omega
    have n2 : k ≠ off + 1 := by omega
    have n3 : k ≠ off + 2 := by omega
    simp only [n1, n2, n3, h32, if_false, if_true]
    exact ⟨ht.par k h8 h32, trivial⟩

theorem adj_map {α β : Type} (f : α → β) (R : α → α → Prop) : ∀ (l : List α),
    (∀ pre a b post, l = pre ++ a :: b :: post → R a b) →
    ∀ pre a b post, l.map f = pre ++ a :: b :: post → ∃ a' b', a = f a' ∧ b = f b' ∧ R a' b' := by
  intro l
  induction l with
  | nil => intro _ pre a b post h; cases pre <;> cases h
  | cons x l ih =>
    intro hR pre a b post h
    cases pre with
    | nil =>
      cases l with
      | nil => cases h
      | cons y l' =>
        simp only [List.map_cons, List.nil_append, List.cons.injEq] at h
        exact ⟨x, y, h.1.symm, h.2.1.symm, hR [] x y l' rfl⟩
    | cons p pre' =>
      simp only [List.map_cons, List.cons_append, List.cons.injEq] at h
      exact ih (fun pre a b post e => hR (x :: pre) a b post (by rw [e]; rfl)) pre' a b post h.2

end Zvbi.Ttx
