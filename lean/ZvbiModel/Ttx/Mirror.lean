import ZvbiModel.Ttx.CacheOps
import ZvbiModel.Cache.LemmasSim
/-!
# C03 x C10: the cache.c state run next to the decoder (definitions)

The decoder's trace of cache operations (`Ttx.CacheOp`, Ttx/CacheOps.lean) is mirrored on a state of the cache.c model by
the calls packet.c makes (`mirrorOp`).  The joint invariant `J` and the side conditions at the stores of a mirrored trace
(`StoreOk` / `TraceOk`, `MemNeverShort`, `PagesFew`), which Props/C03Join.lean and Props/C03Refine.lean state their
theorems with; the lemmas are in Ttx/CacheJoin.lean.
-/
namespace Zvbi.Cache
open Zvbi.Gen.Cache

/-- the network `nid` is on the list of the cache and its client (the decoder) holds a reference to it -/
def Held (s : State) (nid : Nat) : Prop := ∃ n ∈ s.nets, n.id = nid ∧ 0 < n.ref

end Zvbi.Cache

namespace Zvbi.Props.C03Join
open Zvbi.Ttx Zvbi.Ttx.Spec Zvbi.Hamm Zvbi.Gen Zvbi.Gen.Cache

/-- what the decoder calls in cache.c for one operation of its trace, on the network `acc.2` it holds:
    look-up and release of the page found; the page type of the decoder's statistics written to the statistics
    of the network (in C the same memory), store, release of the page stored; `vbi_chsw_reset`, after which the
    decoder holds the new network -/
def mirrorOp (enc : Page → Nat) (acc : Zvbi.Cache.State × Nat) : CacheOp → Zvbi.Cache.State × Nat
  | .get pgno subno mask =>
    match acc.1.getPage acc.2 pgno subno mask with
    | (s, some q) => (s.pageUnref q.id, acc.2)
    | (s, none) => (s, acc.2)
  | .put pt p =>
    let s := (Zvbi.Cache.stepCur acc.1 (.ptype acc.2 p.pgno pt)).1
    match s.putPageF putReplacesAllVersions acc.2
        ⟨p.pgno, p.subno, p.function, p.x26, p.x28, enc (Zvbi.Cache.tstored pt p)⟩ with
    | .ok (s', some q) => (s'.pageUnref q.id, acc.2)
    | .ok (s', none) => (s', acc.2)
    | .error _ => (s, acc.2)
  | .clear =>
    match Zvbi.Cache.stepCur acc.1 (.chsw acc.2) with
    | (s, .net nid') => (s, nid')
    | (s, _) => (s, acc.2)

/-- the cache.c state and the network the decoder holds after the trace `ops`, from `vbi_cache_new` and the
    creation of the decoder's first network -/
def mirror (enc : Page → Nat) (ops : List CacheOp) : Zvbi.Cache.State × Nat :=
  ops.foldl (mirrorOp enc) Zvbi.Cache.init.addNetwork

end Zvbi.Props.C03Join

namespace Zvbi.CacheJoin
open Zvbi.Cache Zvbi.Gen.Cache
open Zvbi.Props.C03Join (mirrorOp mirror)
open Zvbi.Props.C10Ttx (Sim)

instance (s : State) (nid : Nat) : Decidable (Held s nid) := by unfold Held; infer_instance

/-- what is asked of the result of the store call: it returns (no failed assertion), leaves the decoder's network on the
    list and held, and the page it hands out (if any) is a cached page of the state after the call -/
def AfterOk (nid : Nat) : Except Err (State × Option Page) → Prop
  | .ok (s', some q) => Held s' nid ∧ s'.findPage q.id = some q ∧ q.pri ≠ .zombie
  | .ok (s', none) => Held s' nid
  | .error _ => False

/-- The side conditions of ONE store `_vbi_cache_put_page (p)` with page type `pt` of the mirrored trace, in the
    cache.c state `acc.1` (decoder's network `acc.2`) in which it happens:
    * the page type fits the `uint8_t` member of the statistics (`pt < 256`) and the page number is in 0x100..0x8FF;
    * memory is not short: `memory_used + cache_page_size (p) <= memory_limit`;
    * `AfterOk` of the result of the call. -/
def StoreOk (enc : Ttx.Page → Nat) (acc : State × Nat) (pt : Nat) (p : Ttx.Page) : Prop :=
  pt < 256 ∧ (0x100 ≤ p.pgno ∧ p.pgno ≤ 0x8FF)
  ∧ acc.1.memUsed + pageSize p.function p.x26 p.x28 ≤ acc.1.memLimit
  ∧ AfterOk acc.2 ((stepCur acc.1 (.ptype acc.2 p.pgno pt)).1.putPageF putReplacesAllVersions acc.2
        ⟨p.pgno, p.subno, p.function, p.x26, p.x28, enc (tstored pt p)⟩)

/-- `StoreOk` at every store of the trace `ops` mirrored from the state `acc` on -/
def TraceOk (enc : Ttx.Page → Nat) : State × Nat → List Ttx.CacheOp → Prop
  | _, [] => True
  | acc, .put pt p :: rest => StoreOk enc acc pt p ∧ TraceOk enc (mirrorOp enc acc (.put pt p)) rest
  | acc, .get pgno subno mask :: rest => TraceOk enc (mirrorOp enc acc (.get pgno subno mask)) rest
  | acc, .clear :: rest => TraceOk enc (mirrorOp enc acc .clear) rest

instance (nid : Nat) : (x : Except Err (State × Option Page)) → Decidable (AfterOk nid x)
  | .ok (s', some q) => inferInstanceAs (Decidable (Held s' nid ∧ s'.findPage q.id = some q ∧ q.pri ≠ .zombie))
  | .ok (s', none) => inferInstanceAs (Decidable (Held s' nid))
  | .error _ => inferInstanceAs (Decidable False)

instance (enc : Ttx.Page → Nat) (acc : State × Nat) (pt : Nat) (p : Ttx.Page) : Decidable (StoreOk enc acc pt p) := by
  unfold StoreOk; infer_instance

instance decTraceOk (enc : Ttx.Page → Nat) : (acc : State × Nat) → (ops : List Ttx.CacheOp) → Decidable (TraceOk enc acc ops)
  | _, [] => isTrue trivial
  | acc, .put pt p :: rest =>
    have := decTraceOk enc (mirrorOp enc acc (.put pt p)) rest
    inferInstanceAs (Decidable (StoreOk enc acc pt p ∧ TraceOk enc (mirrorOp enc acc (.put pt p)) rest))
  | acc, .get pgno subno mask :: rest => decTraceOk enc (mirrorOp enc acc (.get pgno subno mask)) rest
  | acc, .clear :: rest => decTraceOk enc (mirrorOp enc acc .clear) rest

/-- the joint invariant -/
structure J (enc : Ttx.Page → Nat) (acc : State × Nat) (c : List Ttx.Page) : Prop where
  good : Good acc.1
  held : Held acc.1 acc.2
  sim : Sim acc.2 enc c acc.1

/-- MEMORY NEVER SHORT along the trace `ops` mirrored from the state `acc` on: at every store `_vbi_cache_put_page (p)`
    the cache.c state in which it happens has room for the page, `memory_used + cache_page_size (p) <= memory_limit` -/
def MemNeverShort (enc : Ttx.Page → Nat) : State × Nat → List Ttx.CacheOp → Prop
  | _, [] => True
  | acc, .put pt p :: rest =>
    acc.1.memUsed + pageSize p.function p.x26 p.x28 ≤ acc.1.memLimit ∧ MemNeverShort enc (mirrorOp enc acc (.put pt p)) rest
  | acc, .get pgno subno mask :: rest => MemNeverShort enc (mirrorOp enc acc (.get pgno subno mask)) rest
  | acc, .clear :: rest => MemNeverShort enc (mirrorOp enc acc .clear) rest

instance decMemNeverShort (enc : Ttx.Page → Nat) :
    (acc : State × Nat) → (ops : List Ttx.CacheOp) → Decidable (MemNeverShort enc acc ops)
  | _, [] => isTrue trivial
  | acc, .put pt p :: rest =>
    have := decMemNeverShort enc (mirrorOp enc acc (.put pt p)) rest
    inferInstanceAs (Decidable (acc.1.memUsed + pageSize p.function p.x26 p.x28 ≤ acc.1.memLimit
      ∧ MemNeverShort enc (mirrorOp enc acc (.put pt p)) rest))
  | acc, .get pgno subno mask :: rest => decMemNeverShort enc (mirrorOp enc acc (.get pgno subno mask)) rest
  | acc, .clear :: rest => decMemNeverShort enc (mirrorOp enc acc .clear) rest

/-- at every store of the trace mirrored from `acc` on the cache holds at most 0x800 x 80 pages -/
def PagesFew (enc : Ttx.Page → Nat) : State × Nat → List Ttx.CacheOp → Prop
  | _, [] => True
  | acc, .put pt p :: rest => acc.1.pages.length ≤ 0x800 * 80 ∧ PagesFew enc (mirrorOp enc acc (.put pt p)) rest
  | acc, .get pgno subno mask :: rest => PagesFew enc (mirrorOp enc acc (.get pgno subno mask)) rest
  | acc, .clear :: rest => PagesFew enc (mirrorOp enc acc .clear) rest

instance decPagesFew (enc : Ttx.Page → Nat) : (acc : State × Nat) → (ops : List Ttx.CacheOp) → Decidable (PagesFew enc acc ops)
  | _, [] => isTrue trivial
  | acc, .put pt p :: rest =>
    have := decPagesFew enc (mirrorOp enc acc (.put pt p)) rest
    inferInstanceAs (Decidable (acc.1.pages.length ≤ 0x800 * 80 ∧ PagesFew enc (mirrorOp enc acc (.put pt p)) rest))
  | acc, .get pgno subno mask :: rest => decPagesFew enc (mirrorOp enc acc (.get pgno subno mask)) rest
  | acc, .clear :: rest => decPagesFew enc (mirrorOp enc acc .clear) rest

end Zvbi.CacheJoin
