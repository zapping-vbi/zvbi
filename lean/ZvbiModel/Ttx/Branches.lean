import ZvbiModel.Ttx.Slots
import ZvbiModel.Ite
/-!
# The packet handlers taken apart: one rule or equation per exit

`process`, `processRow`, `process26` and `terminatePage` are long `if` chains on the packet number or the function of
the page in progress.  Each gets a rule `*_elim` that lists its exits with the facts that select them (for
`processRow` and `terminatePage` over the inductives `RowStep`, `TermStep`) and, where a later proof needs one exit
as a rewrite rule, that equation beside it; `vbi_decode_teletext` itself is given as equations by packet kind
(`decode_lost`, `decode_off`, `decode_hdr`, `decode_eq_process` with the `kindOf_*`).  No later file unfolds one of the
four handlers; `decodeTeletext` is opened again only where the raw packet, address bytes included, is the subject
(`decode_flip` of FlipInvisible, the bit-error and bad-address theorems of Props/C03).  Also here: `x28Decide_elim`,
`parse2829_elim`, `parse27_fst` / `parse27_same`, `parse830_fst`, `terminatedSlot_lt`; `run_cons` / `run_append` / `run_concat`
and `run_rel`, the induction over packet histories (`run_ind`, `run_keeps`, `run_inv` are instances).
-/
namespace Zvbi.Ttx
open Zvbi.Hamm Zvbi.Gen Zvbi.Ttx.Spec

/-- `ite_ind` for a hypothesis `(if c then a else b) = x`: the proofs below follow the `if` chain of a definition by
    unification alone, where `split` would simplify the whole remaining chain at every step. -/
theorem ite_eq_elim {α : Sort _} {c : Prop} [Decidable c] {a b x : α} {p : Prop}
    (h : (if c then a else b) = x) (ha : c → a = x → p) (hb : ¬c → b = x → p) : p :=
  ite_ind (P := fun y => y = x → p) ha hb h

theorem mem_liftAux {e : Event} {l : List Aux} : e ∈ liftAux l ↔ ∃ a ∈ l, e = .aux a := by
  unfold liftAux
  rw [List.mem_map]
  exact ⟨fun ⟨a, h, e⟩ => ⟨a, h, e.symm⟩, fun ⟨a, h, e⟩ => ⟨a, h, e.symm⟩⟩

theorem put_not_mem_liftAux (l : List Aux) (q : Page) : Event.put q ∉ liftAux l :=
  fun h => let ⟨_, _, e⟩ := mem_liftAux.mp h; nomatch e

theorem chsw_not_mem_liftAux (l : List Aux) : Event.chsw ∉ liftAux l :=
  fun h => let ⟨_, _, e⟩ := mem_liftAux.mp h; nomatch e

theorem mem_put_singleton {q vtp : Page} (h : Event.put q ∈ [Event.put vtp]) : q = vtp := by
  simp at h; exact h

theorem frameTick_idle (s : St) (h : s.chswcd = 0) : frameTick s = ({ s with started := true }, []) := by
  unfold frameTick
  simp [h]

theorem frameTick_cases (s : St) :
    frameTick s = (chswReset { s with started := true }, [Event.chsw]) ∨
      ∃ cd, frameTick s = ({ s with started := true, chswcd := cd }, []) := by
  unfold frameTick
  simp only []
  split
  · split
    · exact .inl rfl
    · exact .inr ⟨_, rfl⟩
  · exact .inr ⟨s.chswcd, rfl⟩

theorem step_eq (s : St) (p : Packet) :
    step s p = ((decodeTeletext (frameTick s).1 p).st, (frameTick s).2 ++ (decodeTeletext (frameTick s).1 p).ev) := rfl

theorem run_fold (ps : List Packet) : ∀ (s : St) (ev : List Event),
    ps.foldl (fun (acc : St × List Event) p => let (s', e) := step acc.1 p; (s', acc.2 ++ e)) (s, ev)
      = ((run s ps).1, ev ++ (run s ps).2) := by
  unfold run
  induction ps with
  | nil => intro s ev; simp
  | cons p ps ih =>
    intro s ev
    simp only [List.foldl_cons]
    rw [ih, ih (step s p).1 ([] ++ (step s p).2)]
    simp [List.append_assoc]

theorem run_nil (s : St) : run s [] = (s, []) := rfl

theorem run_cons (s : St) (p : Packet) (ps : List Packet) :
    run s (p :: ps) = ((run (step s p).1 ps).1, (step s p).2 ++ (run (step s p).1 ps).2) := by
  have := run_fold ps (step s p).1 ([] ++ (step s p).2)
  unfold run at this ⊢
  simp only [List.foldl_cons]
  rw [this]
  simp

theorem run_append (s : St) (ps qs : List Packet) :
    run s (ps ++ qs) = ((run (run s ps).1 qs).1, (run s ps).2 ++ (run (run s ps).1 qs).2) := by
  induction ps generalizing s with
  | nil => simp [run_nil]
  | cons p ps ih =>
    simp only [List.cons_append, run_cons]
    rw [ih]
    simp [List.append_assoc]

theorem run_concat (s : St) (ps : List Packet) (q : Packet) :
    run s (ps ++ [q]) = ((step (run s ps).1 q).1, (run s ps).2 ++ (step (run s ps).1 q).2) := by
  rw [run_append, run_cons, run_nil, List.append_nil]

/-- Induction over a history: an invariant `I` of the state, kept while the packets satisfy `G`, and a relation `R`
    between the state before, the state after and the events sent, which is reflexive and composes along `++`. -/
theorem run_rel {I : St → Prop} {G : Packet → Prop} {R : St → St → List Event → Prop} (hrefl : ∀ s, R s s [])
    (htrans : ∀ {a b c e1 e2}, R a b e1 → R b c e2 → R a c (e1 ++ e2))
    (hstep : ∀ s p, I s → G p → I (step s p).1 ∧ R s (step s p).1 (step s p).2) (ps : List Packet) :
    ∀ s, I s → (∀ p ∈ ps, G p) → I (run s ps).1 ∧ R s (run s ps).1 (run s ps).2 := by
  induction ps with
  | nil => exact fun s h _ => ⟨h, hrefl s⟩
  | cons p ps ih =>
    intro s h hg
    rw [run_cons]
    obtain ⟨h1, r1⟩ := hstep s p h (hg p List.mem_cons_self)
    obtain ⟨h2, r2⟩ := ih (step s p).1 h1 fun q hq => hg q (List.mem_cons_of_mem _ hq)
    exact ⟨h2, htrans r1 r2⟩

theorem run_ind {I : St → Prop} {G : Packet → Prop} {E : List Event → Prop} (h0 : E [])
    (happ : ∀ a b, E a → E b → E (a ++ b)) (hstep : ∀ s p, I s → G p → I (step s p).1 ∧ E (step s p).2)
    (ps : List Packet) : ∀ (s : St), I s → (∀ p ∈ ps, G p) → I (run s ps).1 ∧ E (run s ps).2 :=
  run_rel (R := fun _ _ ev => E ev) (fun _ => h0) (happ _ _) hstep ps

theorem run_keeps {I : St → Prop} {G : Packet → Prop} (hstep : ∀ s p, I s → G p → I (step s p).1) (ps : List Packet)
    (s : St) (h : I s) (hg : ∀ p ∈ ps, G p) : I (run s ps).1 :=
  (run_ind (E := fun _ => True) trivial (fun _ _ _ _ => trivial) (fun s p h g => ⟨hstep s p h g, trivial⟩) ps s h hg).1

theorem run_inv {I : St → Prop} {G : Packet → Prop}
    (hstep : ∀ s p, I s → G p → I (step s p).1 ∧ Event.chsw ∉ (step s p).2) (ps : List Packet) :
    ∀ (s : St), I s → (∀ p ∈ ps, G p) → I (run s ps).1 ∧ Event.chsw ∉ (run s ps).2 :=
  run_ind (E := fun ev => Event.chsw ∉ ev) (fun h => nomatch h) (fun _ _ n1 n2 hx => (List.mem_append.mp hx).elim n1 n2)
    hstep ps


/-- What a row packet 1..25 does, by the function of the page being assembled, before the packet is marked as
    received: the state handed to `done` in `processRow` and the parser's diagnostics. -/
inductive RowStep (s : St) (mag0 mag8 packet : Nat) (v : View) : St → List Aux → Prop
  | mot : RowStep s mag0 mag8 packet v { s with net := s.net.setMag mag8 (parseMot (s.net.mag mag8) v packet).1 }
      (parseMot (s.net.mag mag8) v packet).2
  | pop : RowStep s mag0 mag8 packet v s (parsePop v packet).2
  | btt : RowStep s mag0 mag8 packet v { s with net := (parseBtt s.net v packet).1 } (parseBtt s.net v packet).2
  | ait : RowStep s mag0 mag8 packet v s (parseAitBounds packet)
  | mpt : RowStep s mag0 mag8 packet v { s with net := (parseMpt s.net v.g8 packet).1 } (parseMpt s.net v.g8 packet).2
  | mptEx : RowStep s mag0 mag8 packet v { s with net := (parseMptEx s.net (unhamTopPageLink v) packet).1 }
      (parseMptEx s.net (unhamTopPageLink v) packet).2
  | epg : RowStep s mag0 mag8 packet v s []
  /-- DRCS, EACEM and pages of unknown function: the bytes are stored as row `packet` -/
  | store (h : (s.rp mag0).page.function ≠ FN_LOP) : RowStep s mag0 mag8 packet v
      (s.setPage mag0 { (s.rp mag0).page with raw := (s.rp mag0).page.raw.set packet v.raw }) []

@[elab_as_elim]
theorem processRow_elim {p : Res → Prop} (s : St) (mag0 mag8 packet : Nat) (v : View)
    (idle : ∀ ev ok, ev = [] ∨ ev = (parsePop v packet).2 → p ⟨s, liftAux ev, ok⟩)
    (done : ∀ s' ev, RowStep s mag0 mag8 packet v s' ev →
      p ⟨s'.setPage mag0 { (s'.rp mag0).page with lopPackets := (s'.rp mag0).page.lopPackets ||| 1 <<< packet },
        liftAux ev, true⟩)
    (lop : (s.rp mag0).page.function = FN_LOP →
      p ⟨s.setRp mag0 { s.rp mag0 with lopRaw := (s.rp mag0).lopRaw.set packet v.raw,
                                       lopPackets := (s.rp mag0).lopPackets ||| 1 <<< packet }, [], true⟩) :
    p (processRow s mag0 mag8 packet v) := by
  generalize hx : processRow s mag0 mag8 packet v = x
  unfold processRow at hx
  refine ite_eq_elim hx (fun _ hx => ?_) fun _ hx => ite_eq_elim hx (fun _ hx => ?_) fun _ hx =>
    ite_eq_elim hx (fun _ hx => ite_eq_elim hx (fun _ hx => ?_) fun _ hx => ?_) fun _ hx =>
    ite_eq_elim hx (fun h4 hx => ?_) fun _ hx => ite_eq_elim hx (fun _ hx => ?_) fun _ hx =>
    ite_eq_elim hx (fun _ hx => ?_) fun _ hx => ite_eq_elim hx (fun _ hx => ?_) fun _ hx =>
    ite_eq_elim hx (fun _ hx => ?_) fun _ hx => ite_eq_elim hx (fun _ hx => ?_) fun _ hx =>
    ite_eq_elim hx (fun h10 hx => ?_) fun h10 hx =>
    ite_eq_elim hx (fun _ hx => ite_eq_elim hx (fun _ hx => ?_) fun _ hx => ?_) fun _ hx => ?_
  all_goals subst hx
  · exact idle [] true (.inl rfl)
  · exact done _ _ .mot
  · exact done _ _ .pop
  · exact idle _ false (.inr rfl)
  · refine done _ _ (.store fun e => ?_)
    rw [e] at h4; exact absurd h4 (by decide)
  · exact done _ _ .btt
  · exact done _ _ .ait
  · exact done _ _ .mpt
  · exact done _ _ .mptEx
  · exact done _ _ .epg
  · exact lop (by simpa using h10)
  · exact done _ _ (.store fun e => h10 (by rw [e]; decide))
  · exact idle [] false (.inl rfl)
  · exact done _ _ (.store fun e => h10 (by rw [e]; decide))

theorem processRow_discard (s : St) (m mag8 packet : Nat) (v : View)
    (h : (s.rp m).page.function = FN_DISCARD) : processRow s m mag8 packet v = ⟨s, [], true⟩ := by
  unfold processRow
  simp [h]

theorem processRow_lop (s : St) (m mag8 k : Nat) (v : View) (hfn : (s.rp m).page.function = FN_LOP) :
    processRow s m mag8 k v =
      ⟨s.setRp m { s.rp m with lopRaw := (s.rp m).lopRaw.set k v.raw, lopPackets := (s.rp m).lopPackets ||| (1 <<< k) },
       [], true⟩ := by
  unfold processRow
  simp only [hfn]
  simp [FN_LOP, FN_DISCARD, FN_MOT, FN_GPOP, FN_POP, FN_GDRCS, FN_DRCS, FN_BTT, FN_AIT, FN_MPT, FN_MPT_EX, FN_EPG]

/-- a row of a MIP page is stored as it is (`parse_mip` runs when the page is terminated) -/
theorem processRow_mip (s : St) (m mag8 k : Nat) (v : View) (hfn : (s.rp m).page.function = FN_MIP) :
    processRow s m mag8 k v =
      ⟨s.setPage m { (s.rp m).page with raw := (s.rp m).page.raw.set k v.raw,
                                        lopPackets := (s.rp m).page.lopPackets ||| 1 <<< k }, [], true⟩ := by
  unfold processRow
  simp only [hfn]
  simp only [FN_MIP, FN_LOP, FN_DISCARD, FN_MOT, FN_GPOP, FN_POP, FN_GDRCS, FN_DRCS, FN_BTT, FN_AIT, FN_MPT, FN_MPT_EX,
    FN_EPG, FN_EACEM, Int.reduceBEq, Int.reduceNeg, Bool.or_self, Bool.false_eq_true, if_false]
  exact congrArg (fun x => (⟨x, [], true⟩ : Res))
    (setPage_setPage_rp s m _ fun pg => { pg with lopPackets := pg.lopPackets ||| 1 <<< k })

/-- page functions on which packet 26 makes packet.c call `vbi_teletext_desync` (all magazines) -/
def X26Desync (fn : Int) : Prop :=
  fn = FN_GDRCS ∨ fn = FN_DRCS ∨ fn = FN_BTT ∨ fn = FN_AIT ∨ fn = FN_MPT ∨ fn = FN_MPT_EX

instance (fn : Int) : Decidable (X26Desync fn) := by unfold X26Desync; infer_instance

theorem x26Desync_iff (fn : Int) :
    (fn == FN_GDRCS || fn == FN_DRCS || fn == FN_BTT || fn == FN_AIT || fn == FN_MPT || fn == FN_MPT_EX) = true
      ↔ X26Desync fn := by
  unfold X26Desync
  simp only [Bool.or_eq_true, beq_iff_eq, or_assoc]

/-- packet 26 by the function of the page in progress; for a page it is X/26 enhancement data of: designation
    uncorrectable (`lost`), not the next one expected or the array full (`gap`), or the thirteen triplets appended at
    fill level `13 d` (`store`) -/
@[elab_as_elim]
theorem process26_elim {p : Res → Prop} (s : St) (mag0 : Nat) (v : View)
    (discard : (s.rp mag0).page.function = FN_DISCARD → p ⟨s, [], true⟩)
    (pop : (s.rp mag0).page.function = FN_GPOP ∨ (s.rp mag0).page.function = FN_POP →
      p ⟨s, liftAux (parsePop v 26).2, (parsePop v 26).1⟩)
    (desync : X26Desync (s.rp mag0).page.function → p ⟨desync s, [], true⟩)
    (lost : v.g8 0 = none → p ⟨s, [], false⟩)
    (gap : ∀ d, v.g8 0 = some d →
      (s.rp mag0).numTriplets ≥ 16 * 13 ∨ (s.rp mag0).numTriplets ≠ ((d * 13 : Nat) : Int) →
      p ⟨s.setRp mag0 { s.rp mag0 with numTriplets := -1 }, [], false⟩)
    (store : ∀ d, v.g8 0 = some d → (s.rp mag0).numTriplets = ((d * 13 : Nat) : Int) → d * 13 < 16 * 13 →
      p ⟨s.setRp mag0 { s.rp mag0 with
          numTriplets := (x26Triplets v (s.rp mag0).page.enh (d * 13)).2.1,
          page := { (s.rp mag0).page with enh := (x26Triplets v (s.rp mag0).page.enh (d * 13)).1
                                          x26 := (s.rp mag0).page.x26 ||| (1 <<< d) } },
        liftAux (x26Triplets v (s.rp mag0).page.enh (d * 13)).2.2, true⟩) :
    p (process26 s mag0 v) := by
  generalize hx : process26 s mag0 v = x
  unfold process26 at hx
  refine ite_eq_elim hx (fun h hx => ?_) fun _ hx => ite_eq_elim hx (fun h hx => ?_) fun _ hx =>
    ite_eq_elim hx (fun h hx => ?_) fun _ hx => ?_
  · subst hx; exact discard (eq_of_beq h)
  · subst hx; exact pop (by simpa using h)
  · subst hx; exact desync ((x26Desync_iff _).mp h)
  · cases hg : v.g8 0 with
    | none => rw [hg] at hx; subst hx; exact lost hg
    | some d =>
      rw [hg] at hx
      refine ite_eq_elim hx (fun hc hx => ?_) fun hc hx => ?_
      · subst hx
        exact gap d hg (by simpa using hc)
      · subst hx
        simp only [Bool.or_eq_true, decide_eq_true_eq, bne_iff_ne, ne_eq, not_or, Decidable.not_not] at hc
        exact store d hg hc.2 (by omega)

theorem process26_discard (s : St) (m : Nat) (v : View)
    (h : (s.rp m).page.function = FN_DISCARD) : process26 s m v = ⟨s, [], true⟩ := by
  unfold process26
  simp [h]

@[elab_as_elim]
theorem process_elim {p : Res × Bool → Prop} (s : St) (pmag : Nat) (v : View)
    (idle : p (⟨s, [], true⟩, false))
    (header : pmag >>> 3 = 0 → s.mask = true → p (processHeader s (pmag &&& 7) (mag8Of (pmag &&& 7)) v))
    (row : pmag >>> 3 ≠ 0 → pmag >>> 3 ≤ 25 →
      p (processRow s (pmag &&& 7) (mag8Of (pmag &&& 7)) (pmag >>> 3) v, false))
    (x26 : pmag >>> 3 = 26 → s.mask = true → p (process26 s (pmag &&& 7) v, false))
    (x27 : pmag >>> 3 = 27 → s.mask = true →
      p (⟨s.setPage (pmag &&& 7) (parse27 (s.rp (pmag &&& 7)).page v (pmag &&& 7)).1, [],
        (parse27 (s.rp (pmag &&& 7)).page v (pmag &&& 7)).2⟩, false))
    (x2829 : pmag >>> 3 = 28 ∨ pmag >>> 3 = 29 → s.mask = true →
      p (⟨(parse2829 s (pmag &&& 7) (mag8Of (pmag &&& 7)) (pmag >>> 3) v).1,
        liftAux (parse2829 s (pmag &&& 7) (mag8Of (pmag &&& 7)) (pmag >>> 3) v).2.1,
        (parse2829 s (pmag &&& 7) (mag8Of (pmag &&& 7)) (pmag >>> 3) v).2.2⟩, false))
    (x830 : 30 ≤ pmag >>> 3 → p (⟨(parse830 s v).1, [], (parse830 s v).2⟩, false)) : p (process s pmag v) := by
  have hm : ¬(decide (pmag >>> 3 < 30) && !s.mask) = true → pmag >>> 3 < 30 → s.mask = true := fun c1 h => by
    cases hs : s.mask with
    | true => rfl
    | false => exact absurd (by simp [hs, h]) c1
  generalize hx : process s pmag v = x
  unfold process at hx
  refine ite_eq_elim hx (fun _ hx => ?_) fun c1 hx => ite_eq_elim hx (fun c2 hx => ?_) fun c2 hx =>
    ite_eq_elim hx (fun c3 hx => ?_) fun c3 hx => ite_eq_elim hx (fun c4 hx => ?_) fun c4 hx =>
    ite_eq_elim hx (fun c5 hx => ?_) fun c5 hx => ite_eq_elim hx (fun _ hx => ?_) fun _ hx =>
    ite_eq_elim hx (fun c7 hx => ?_) fun c7 hx => ite_eq_elim hx (fun _ hx => ?_) fun _ hx => ?_
  all_goals subst hx
  · exact idle
  · have h0 : pmag >>> 3 = 0 := by simpa using c2
    exact header h0 (hm c1 (by omega))
  · exact row (by simpa using c2) c3
  · have h26 : pmag >>> 3 = 26 := by simpa using c4
    exact x26 h26 (hm c1 (by omega))
  · have h27 : pmag >>> 3 = 27 := by simpa using c5
    exact x27 h27 (hm c1 (by omega))
  · exact idle
  · have h26 : pmag >>> 3 ≠ 26 := by simpa using c4
    have h27 : pmag >>> 3 ≠ 27 := by simpa using c5
    exact x2829 (by omega) (hm c1 (by omega))
  · exact x830 (by omega)
  · exact idle

/-- only a page header has its 8 Hamming bytes patched in afterwards -/
theorem process_copied (s : St) (pmag : Nat) (v : View) (h : (process s pmag v).2 = true) :
    pmag >>> 3 = 0 ∧ s.mask = true := by
  revert h
  exact process_elim s pmag v (fun h => nomatch h) (fun h0 hm _ => ⟨h0, hm⟩) (fun _ _ h => nomatch h)
    (fun _ _ h => nomatch h) (fun _ _ h => nomatch h) (fun _ _ h => nomatch h) fun _ h => nomatch h

/-- no handler for TTX_PAGE: packets 0..29 are ignored -/
theorem process_off (s : St) (pmag : Nat) (v : View) (h30 : pmag >>> 3 < 30) (hm : s.mask = false) :
    process s pmag v = (⟨s, [], true⟩, false) := by
  unfold process
  simp [h30, hm]

theorem process_hdr (s : St) (pmag : Nat) (v : View) (hm : s.mask = true) (h0 : pmag >>> 3 = 0) :
    process s pmag v = processHeader s (pmag &&& 7) (mag8Of (pmag &&& 7)) v := by
  unfold process mag8Of
  simp [h0, hm]

theorem process_row (s : St) (pmag : Nat) (v : View) (hm : s.mask = true) (h0 : pmag >>> 3 ≠ 0) (h25 : pmag >>> 3 ≤ 25) :
    process s pmag v = (processRow s (pmag &&& 7) (mag8Of (pmag &&& 7)) (pmag >>> 3) v, false) := by
  unfold process mag8Of
  simp [hm, h0, h25]

theorem process_x26 (s : St) (pmag : Nat) (v : View) (hm : s.mask = true) (h26 : pmag >>> 3 = 26) :
    process s pmag v = (process26 s (pmag &&& 7) v, false) := by
  unfold process
  simp [hm, h26]

theorem process_x27 (s : St) (pmag : Nat) (v : View) (hm : s.mask = true) (h27 : pmag >>> 3 = 27) :
    process s pmag v = (⟨s.setPage (pmag &&& 7) (parse27 (s.rp (pmag &&& 7)).page v (pmag &&& 7)).1, [],
      (parse27 (s.rp (pmag &&& 7)).page v (pmag &&& 7)).2⟩, false) := by
  unfold process
  simp [hm, h27]

/-- X/28 of a magazine whose page in progress is closed is dropped before `parse_28_29` -/
theorem process_x28_discard (s : St) (pmag : Nat) (v : View) (hm : s.mask = true) (h28 : pmag >>> 3 = 28)
    (hf : (s.rp (pmag &&& 7)).page.function = FN_DISCARD) : process s pmag v = (⟨s, [], true⟩, false) := by
  unfold process
  simp [hm, h28, hf]

theorem process_2829 (s : St) (pmag : Nat) (v : View) (hm : s.mask = true)
    (hp : pmag >>> 3 = 28 ∨ pmag >>> 3 = 29)
    (hnd : ¬ (pmag >>> 3 = 28 ∧ (s.rp (pmag &&& 7)).page.function = FN_DISCARD)) :
    process s pmag v =
      (let r := parse2829 s (pmag &&& 7) (mag8Of (pmag &&& 7)) (pmag >>> 3) v
       (⟨r.1, liftAux r.2.1, r.2.2⟩, false)) := by
  unfold process mag8Of
  rcases hp with hp | hp
  · have hf : ((s.rp (pmag &&& 7)).page.function == FN_DISCARD) = false := by
      have : (s.rp (pmag &&& 7)).page.function ≠ FN_DISCARD := fun h => hnd ⟨hp, h⟩
      simpa using this
    simp [hp, hm, hf]
  · simp [hp, hm]

theorem kindOf_hdr (s : St) (pmag : Nat) (d : Option Nat) (h0 : pmag >>> 3 = 0) (hm : s.mask = true) :
    kindOf s pmag d = Kind.hdr := by
  unfold kindOf
  simp [h0, hm]

theorem kindOf_rowRaw (s : St) (pmag : Nat) (d : Option Nat) (hm : s.mask = true) (h0 : pmag >>> 3 ≠ 0)
    (h25 : pmag >>> 3 ≤ 25) (f : Int) (hf : (s.rp (pmag &&& 7)).page.function = f)
    (hk : (f == FN_DISCARD || f == FN_EPG || f == FN_MOT || f == FN_BTT || f == FN_MPT || f == FN_MPT_EX || f == FN_GPOP
      || f == FN_POP || f == FN_AIT) = false) : kindOf s pmag d = Kind.rowRaw := by
  simp only [Bool.or_eq_false_iff] at hk
  obtain ⟨⟨⟨⟨⟨⟨⟨⟨k1, k2⟩, k3⟩, k4⟩, k5⟩, k6⟩, k7⟩, k8⟩, k9⟩ := hk
  unfold kindOf
  simp [hm, h0, h25, hf, k1, k2, k3, k4, k5, k6, k7, k8, k9]

/-- packet 26 of a page for which it is X/26 enhancement data (or a POP page) is read as thirteen triplets -/
theorem kindOf_x26 (s : St) (pmag : Nat) (d : Option Nat) (hm : s.mask = true) (h26 : pmag >>> 3 = 26)
    (hd : (s.rp (pmag &&& 7)).page.function ≠ FN_DISCARD) (hx : ¬ X26Desync (s.rp (pmag &&& 7)).page.function) :
    kindOf s pmag d = Kind.trip := by
  have hd' : ((s.rp (pmag &&& 7)).page.function == FN_DISCARD) = false := by simpa using hd
  have hx' := Bool.eq_false_iff.mpr (mt (x26Desync_iff _).mp hx)
  simp only [Bool.or_assoc] at hx'
  unfold kindOf
  simp [hm, h26, hd', hx', Bool.or_assoc]

theorem kindOf_x27 (s : St) (pmag d : Nat) (hm : s.mask = true) (h27 : pmag >>> 3 = 27)
    (hd : (s.rp (pmag &&& 7)).page.function ≠ FN_DISCARD) :
    kindOf s pmag (some d) = if d ≤ 3 then Kind.x27a else if d ≤ 5 then Kind.x27b else Kind.desig := by
  have hd' : ((s.rp (pmag &&& 7)).page.function == FN_DISCARD) = false := by simpa using hd
  unfold kindOf
  simp [hm, h27, hd']

theorem kindOf_2829 (s : St) (pmag : Nat) (dsg : Option Nat) (hm : s.mask = true)
    (hp : pmag >>> 3 = 28 ∨ pmag >>> 3 = 29)
    (hnd : ¬ (pmag >>> 3 = 28 ∧ (s.rp (pmag &&& 7)).page.function = FN_DISCARD)) :
    kindOf s pmag dsg = Kind.trip := by
  unfold kindOf
  rcases hp with hp | hp
  · have hf : ((s.rp (pmag &&& 7)).page.function == FN_DISCARD) = false := by
      have : (s.rp (pmag &&& 7)).page.function ≠ FN_DISCARD := fun h => hnd ⟨hp, h⟩
      simpa using this
    simp [hp, hm, hf]
  · simp [hp, hm]

theorem decode_lost (s : St) (p : Packet) (h : a16 p 0 = none) : decodeTeletext s p = ⟨s, [], false⟩ := by
  unfold decodeTeletext
  rw [h]

theorem decode_off (s : St) (p : Packet) (pmag : Nat) (ha : a16 p 0 = some pmag) (h30 : pmag >>> 3 < 30)
    (hm : s.mask = false) : decodeTeletext s p = ⟨s, [], true⟩ := by
  unfold decodeTeletext
  rw [ha]
  simp only []
  rw [process_off s pmag _ h30 hm]
  rfl

/-- a packet that is no page header: nothing is patched in afterwards -/
theorem decode_eq_process (s : St) (p : Packet) (pmag : Nat) (ha : a16 p 0 = some pmag) (h0 : pmag >>> 3 ≠ 0) :
    decodeTeletext s p = (process s pmag (view (kindOf s pmag (a8 p 2)) p)).1 := by
  unfold decodeTeletext finish
  rw [ha]
  simp only []
  split
  · rename_i h
    exact absurd (process_copied s pmag _ h).1 h0
  · rfl

theorem decode_hdr (s : St) (p : Packet) (pmag : Nat) (ha : a16 p 0 = some pmag) (h0 : pmag >>> 3 = 0)
    (hm : s.mask = true) :
    decodeTeletext s p = finish (processHeader s (pmag &&& 7) (mag8Of (pmag &&& 7)) (view Kind.hdr p)) (pmag &&& 7) (hdr8 p) := by
  unfold decodeTeletext
  rw [ha]
  simp only []
  rw [kindOf_hdr s pmag _ h0 hm, process_hdr s pmag _ hm h0]

theorem parse27_fst (cv : Page) (v : View) (m : Nat) :
    ∃ l h, (parse27 cv v m).1 = { cv with link := l, haveFlof := h } := by
  generalize hx : parse27 cv v m = x
  unfold parse27 at hx
  refine ite_eq_elim hx (fun _ hx => ?_) fun _ hx => ?_
  · subst hx; exact ⟨_, _, rfl⟩
  · cases hg : v.g8 0 with
    | none => rw [hg] at hx; subst hx; exact ⟨_, _, rfl⟩
    | some d =>
      rw [hg] at hx
      refine ite_eq_elim hx (fun _ hx => ?_) fun _ hx => ite_eq_elim hx (fun _ hx => ?_) fun _ hx => ?_
      · generalize (if (d == 0) = true then v.g8 37 else some 0) = ctrl at hx
        cases ctrl <;> subst hx <;> exact ⟨_, _, rfl⟩
      · subst hx; exact ⟨_, _, rfl⟩
      · subst hx; exact ⟨_, _, rfl⟩

theorem parse27_same (cv : Page) (v : View) (m : Nat) :
    (parse27 cv v m).1.function = cv.function ∧ (parse27 cv v m).1.pgno = cv.pgno
    ∧ (parse27 cv v m).1.subno = cv.subno ∧ (parse27 cv v m).1.flags = cv.flags ∧ (parse27 cv v m).1.raw = cv.raw := by
  obtain ⟨l, h, e⟩ := parse27_fst cv v m
  rw [e]
  exact ⟨rfl, rfl, rfl, rfl, rfl⟩

/-- `x28Decide` by what it decides.  X/28/3 turns only a page of unknown function into a (G)DRCS page; `ext04`, `clut` and the
    three X/28/3 cases name the bit streams handed on. -/
@[elab_as_elim]
theorem x28Decide_elim {P : X28Out → Prop} (f : Int) (packet : Nat) (v : View)
    (nop : ∀ r, P (.nop r))
    (ext04 : ∀ d, P (.ext04 d (getBits (getBits ⟨v.u24, 0, 0, false⟩ 4).2 3).2))
    (clut : P (.clut { (⟨v.u24, 0, 0, false⟩ : BitStream) with rest := v.u24.drop 1 }))
    (x283 : packet ≠ 29 → v.g8 0 = some 3 → ∀ fn m, fn = (getBits ⟨v.u24, 0, 0, false⟩ 4).1 →
      m = getBitsN (getBits (getBits (getBits ⟨v.u24, 0, 0, false⟩ 4).2 3).2 11).2 4 DRCS_PTUS →
      (f = FN_UNKNOWN → ((fn : Int) = FN_GDRCS ∨ (fn : Int) = FN_DRCS) → P (.becomeDrcs fn m.1 (bsFaults m.2)))
      ∧ P (.drcsModes m.1 (bsFaults m.2)) ∧ P .discard) :
    P (x28Decide f packet v) := by
  unfold x28Decide
  cases hg : v.g8 0 with
  | none => exact nop _
  | some d =>
    dsimp only
    generalize (List.range 13).any _ = err
    by_cases c0 : (d == 0 || d == 4) = true
    · rw [if_pos c0]
      split
      · exact nop _
      split
      · exact nop _
      split
      · exact nop _
      · exact ext04 d
    rw [if_neg c0]
    by_cases c1 : (d == 1) = true
    · rw [if_pos c1]
      split
      · exact nop _
      · exact clut
    rw [if_neg c1]
    by_cases c3 : (d == 3) = true
    · rw [if_pos c3]
      by_cases h29 : packet = 29
      · rw [if_pos (by rw [h29]; rfl)]; exact nop _
      rw [if_neg (by simpa using h29)]
      split
      · exact nop _
      split
      · exact nop _
      · rename_i hne
        obtain ⟨b, dm, dc⟩ := x283 h29 (by rw [hg, eq_of_beq c3]) _ _ rfl rfl
        split
        · rename_i hf
          refine b (by simpa using hf) ?_
          simp only [bne_iff_ne, ne_eq, Bool.and_eq_true, not_and, Decidable.not_not] at hne
          by_cases e : ((getBits { rest := v.u24, buffer := 0, left := 0, underrun := false } 4).1 : Int) = FN_GDRCS
          · exact Or.inl e
          · exact Or.inr (hne e)
        split
        · exact dc
        · exact dm
    rw [if_neg c3]
    exact nop _

/-- `x283`: X/28/3 alone replaces the page record of the slot - a page of unknown function is declared a DRCS page, or the
    DRCS modes are set (function kept), or the page is discarded -/
theorem parse2829_elim {P : St → Prop} (s : St) (mag0 mag8 packet : Nat) (v : View) (nop : P s)
    (ext : ∀ d e, P (storeExt s mag0 mag8 packet (selectExt s mag0 mag8 packet d).2 e))
    (x283 : packet ≠ 29 → v.g8 0 = some 3 → ∀ cv : Page, (s.rp mag0).page.function = FN_UNKNOWN
      ∨ cv.function = (s.rp mag0).page.function ∨ cv.function = FN_DISCARD → P (s.setPage mag0 cv)) :
    P (parse2829 s mag0 mag8 packet v).1 := by
  unfold parse2829
  simp only []
  refine x28Decide_elim _ packet v (fun _ => nop) (fun _ => ext _ _) (ext _ _) fun h29 hd fn m _ _ =>
    ⟨fun hu _ => x283 h29 hd _ (.inl hu), x283 h29 hd _ (.inr (.inl rfl)), x283 h29 hd _ (.inr (.inr rfl))⟩

theorem parse830_fst (s : St) (v : View) : ∃ ip, (parse830 s v).1 = { s with net := { s.net with initialPage := ip } } := by
  unfold parse830
  repeat' split
  all_goals exact ⟨_, rfl⟩

/-- "Store page terminated by new header" for the page of slot `curr`, by its function, before the slot is closed -/
inductive TermStep (s : St) (curr : Nat) : St → List Event → Prop
  | idle (h : (s.rp curr).page.function = FN_DISCARD ∨ (s.rp curr).page.function = FN_EPG ∨
      (s.rp curr).page.function = FN_EACEM) : TermStep s curr s []
  | lop (h : (s.rp curr).page.function = FN_LOP) : TermStep s curr
      (storeLop (s.setRp curr { (lopParityCheck (s.rp curr).page (s.rp curr)).2 with
        page := (lopParityCheck (s.rp curr).page (s.rp curr)).1 }) (lopParityCheck (s.rp curr).page (s.rp curr)).1).1
      (storeLop (s.setRp curr { (lopParityCheck (s.rp curr).page (s.rp curr)).2 with
        page := (lopParityCheck (s.rp curr).page (s.rp curr)).1 }) (lopParityCheck (s.rp curr).page (s.rp curr)).1).2
  /-- the parser's result goes by the name `r`: with the term `parseMip ..` in the index, matching a case against a goal
      sends the unifier into `parseMip`, beyond `maxRecDepth` -/
  | mip (r : Net × List Aux) (hr : parseMip s.net (s.rp curr).page = r) (h : (s.rp curr).page.function = FN_MIP) :
      TermStep s curr { s with net := r.1 } (liftAux r.2)
  /-- DRCS pages (with the diagnostics of `convert_drcs`) and every other function: the page is stored as it is -/
  | put (aux : List Aux) (ha : aux = [] ∨ aux = convertDrcsBounds (s.rp curr).page.drcsMode)
      (h : (s.rp curr).page.function ≠ FN_DISCARD ∧ (s.rp curr).page.function ≠ FN_LOP ∧
        (s.rp curr).page.function ≠ FN_MIP) :
      TermStep s curr (s.put (s.rp curr).page).1 (liftAux aux ++ (s.put (s.rp curr).page).2)

@[elab_as_elim]
theorem terminatePage_elim {p : St × List Event → Prop} (s : St) (mag0 pgno page : Nat)
    (none : terminatedSlot s mag0 pgno page = none → p (s, []))
    (some : ∀ curr, terminatedSlot s mag0 pgno page = some curr → ∀ x ev, TermStep s curr x ev →
      p (x.setPage curr { (x.rp curr).page with function := FN_DISCARD }, ev)) :
    p (terminatePage s mag0 pgno page) := by
  unfold terminatePage
  split
  · exact none ‹_›
  · rename_i curr hcurr
    simp only []
    by_cases h1 : ((s.rp curr).page.function == FN_DISCARD || (s.rp curr).page.function == FN_EPG) = true
    · rw [if_pos h1]
      exact some curr hcurr _ _ (.idle ((by simpa using h1 : _ ∨ _).imp_right .inl))
    rw [if_neg h1]
    by_cases h2 : ((s.rp curr).page.function == FN_LOP) = true
    · rw [if_pos h2]
      exact some curr hcurr _ _ (.lop (eq_of_beq h2))
    rw [if_neg h2]
    have hn : (s.rp curr).page.function ≠ FN_DISCARD ∧ (s.rp curr).page.function ≠ FN_LOP :=
      ⟨fun e => h1 (by simp [e]), fun e => h2 (by simp [e])⟩
    by_cases h3 : ((s.rp curr).page.function == FN_DRCS || (s.rp curr).page.function == FN_GDRCS) = true
    · rw [if_pos h3]
      refine some curr hcurr _ _ (.put _ (.inr rfl) ⟨hn.1, hn.2, fun e => ?_⟩)
      rw [e] at h3
      revert h3
      decide
    rw [if_neg h3]
    by_cases h4 : ((s.rp curr).page.function == FN_MIP) = true
    · rw [if_pos h4]
      generalize hr : parseMip s.net (s.rp curr).page = r
      exact some curr hcurr _ _ (.mip r hr (eq_of_beq h4))
    rw [if_neg h4]
    by_cases h5 : ((s.rp curr).page.function == FN_EACEM) = true
    · rw [if_pos h5]
      exact some curr hcurr _ _ (.idle (.inr (.inr (eq_of_beq h5))))
    rw [if_neg h5]
    exact some curr hcurr _ _ (.put [] (.inl rfl) ⟨hn.1, hn.2, fun e => h4 (by simp [e])⟩)

/-- the slot a header terminates is the one of the last header (serial mode) or its own magazine's -/
theorem terminatedSlot_lt (s : St) (mag0 pgno page curr : Nat) (hm : mag0 < 8)
    (hc : ∀ c, s.current = some c → c < 8) (h : terminatedSlot s mag0 pgno page = some curr) : curr < 8 := by
  unfold terminatedSlot at h
  cases hcm : s.current with
  | none => rw [hcm] at h; cases h
  | some cmag =>
    rw [hcm] at h
    dsimp only at h
    refine ite_eq_elim h (fun _ h => ite_eq_elim h (fun _ h => nomatch h) fun _ h => ?_) fun _ h =>
      ite_eq_elim h (fun _ h => nomatch h) fun _ h => ?_
    · cases h; exact hc _ hcm
    · cases h; exact hm

theorem terminatePage_none (s : St) (mag0 pgno page : Nat) (h : terminatedSlot s mag0 pgno page = none) :
    terminatePage s mag0 pgno page = (s, []) :=
  terminatePage_elim s mag0 pgno page (fun _ => rfl) fun _ hc => nomatch h.symm.trans hc

theorem terminatePage_fresh (s : St) (mag0 pgno page : Nat) (h : s.current = none) :
    terminatePage s mag0 pgno page = (s, []) :=
  terminatePage_none s mag0 pgno page (by unfold terminatedSlot; rw [h])

@[elab_as_elim]
theorem terminatePage_at {p : St × List Event → Prop} (s : St) (mag0 pgno page : Nat) {m : Nat}
    (hts : terminatedSlot s mag0 pgno page = some m)
    (h : ∀ x ev, TermStep s m x ev → p (x.setPage m { (x.rp m).page with function := FN_DISCARD }, ev)) :
    p (terminatePage s mag0 pgno page) :=
  terminatePage_elim s mag0 pgno page (fun hn => nomatch hn.symm.trans hts) fun _ hc =>
    Option.some.inj (hc.symm.trans hts) ▸ h

theorem terminatePage_lop (s : St) (mQ pgnoQ pageQ m : Nat) (hts : terminatedSlot s mQ pgnoQ pageQ = some m)
    (hfn : (s.rp m).page.function = FN_LOP) :
    terminatePage s mQ pgnoQ pageQ =
      let LP := lopParityCheck (s.rp m).page (s.rp m)
      let SL := storeLop (s.setRp m { LP.2 with page := LP.1 }) LP.1
      (SL.1.setPage m { (SL.1.rp m).page with function := FN_DISCARD }, SL.2) := by
  refine terminatePage_at s mQ pgnoQ pageQ hts fun x ev st => ?_
  cases st with
  | idle h => rw [hfn] at h; exact absurd h (by decide)
  | lop => rfl
  | mip r _ h => rw [hfn] at h; exact absurd h (by decide)
  | put aux _ h => exact absurd hfn h.2.1

/-- a MIP page is not handed to the cache: `parse_mip` only -/
theorem terminatePage_mip (s : St) (curr mag0 pgno page : Nat)
    (hts : terminatedSlot s mag0 pgno page = some curr) (hf : (s.rp curr).page.function = FN_MIP) :
    terminatePage s mag0 pgno page =
      (({ s with net := (parseMip s.net (s.rp curr).page).1 } : St).setPage curr
          { (s.rp curr).page with function := FN_DISCARD },
       liftAux (parseMip s.net (s.rp curr).page).2) := by
  refine terminatePage_at s mag0 pgno page hts fun x ev st => ?_
  cases st with
  | idle h => rw [hf] at h; exact absurd h (by decide)
  | lop h => rw [hf] at h; exact absurd h (by decide)
  | mip r hr => subst hr; simp only [St.rp]
  | put aux _ h => exact absurd hf h.2.2

theorem terminatePage_discard (s : St) (mag0 pgno page : Nat)
    (h : ∀ c, terminatedSlot s mag0 pgno page = some c → (s.rp c).page.function = FN_DISCARD) :
    (terminatePage s mag0 pgno page).2 = [] := by
  refine terminatePage_elim s mag0 pgno page (fun _ => rfl) fun c hc x ev st => ?_
  have hd := h c hc
  cases st with
  | idle => rfl
  | lop hl => rw [hd] at hl; exact absurd hl (by decide)
  | mip r _ hm => rw [hd] at hm; exact absurd hm (by decide)
  | put aux _ hn => exact absurd hd hn.1

end Zvbi.Ttx
