import ZvbiModel.Ttx.Model
/-!
# X/26 fix-ups of `lop_parity_check`: which cells get their parity bit forced

`lop_parity_check` (packet.c) walks `enh_lop.enh[]` and forces odd parity on the Level 1 byte under
every character-placing column triplet, in the row that is *active* at that triplet.  This file
states declaratively which row is active after a list of triplets (`activeRowFrom`: the row named
by the LAST row-address triplet of mode 0x01, 0x04 or 0x07) and which cells are addressed
(`AddrFrom`), and proves that the fold of the model (`lopParityCheck`) computes exactly that.
-/
namespace Zvbi.Ttx
open Zvbi.Hamm

/-- column-address triplet (address 0..39) that places or alters a character (EN 300 706 12.3.4:
    G1 mosaic, G3 line drawing (L1.5 / L2.5), modified G0/G2 designation, G0, DRCS, G2 character,
    G0 character with diacritical mark 0x10..0x1F) -/
def Triplet.isCharCol (t : Triplet) : Bool :=
  decide (t.address < 40) &&
    (t.mode == 1 || t.mode == 2 || t.mode == 0x0B || t.mode == 8 || t.mode == 9 || t.mode == 0x0D
      || t.mode == 0x0F || (decide (0x10 ≤ t.mode) && decide (t.mode ≤ 0x1F)))

/-- row-address triplet (address 40..63) that moves the active position: full row colour (0x01),
    set active position (0x04), address display row 0 (0x07) -/
def Triplet.isRowSet (t : Triplet) : Bool :=
  decide (40 ≤ t.address) && decide (t.address ≤ 63) && (t.mode == 1 || t.mode == 4 || t.mode == 7)

/-- the row such a triplet names: row 0 for mode 0x07, else address - 40 with 40 meaning row 24 -/
def Triplet.rowOf (t : Triplet) : Nat :=
  if t.mode == 7 then 0 else if t.address - 40 == 0 then 24 else t.address - 40

/-- the part of the enhancement array that is in use: everything before the first entry whose
    address is > 63 (0xFF filler of an unused entry, i.e. missed or never transmitted triplet) -/
def liveTriplets (enh : List Triplet) : List Triplet := enh.takeWhile fun t => decide (t.address ≤ 63)

/-- an enhancement array of unused entries (`memset (enh, 0xFF, sizeof enh)`) -/
def enhUnused : List Triplet := List.replicate ENH_SIZE Triplet.ff

theorem liveTriplets_enhUnused : liveTriplets enhUnused = [] := by
  unfold liveTriplets enhUnused ENH_SIZE
  have : ∀ n, (List.replicate n Triplet.ff).takeWhile (fun t => decide (t.address ≤ 63)) = [] := by
    intro n; cases n <;> simp [List.replicate, Triplet.ff]
  exact this _

/-- DECLARATIVE: the active row after the triplets `pre`, starting in row `row0`: the row named by the
    last row-address triplet of mode 0x01 / 0x04 / 0x07 in `pre`; `row0` if there is none -/
def activeRowFrom (row0 : Nat) (pre : List Triplet) : Nat :=
  match pre.reverse.find? Triplet.isRowSet with
  | some t => t.rowOf
  | none => row0

/-- the active row of a page: the walk starts in row 0 (the header) -/
def activeRow (pre : List Triplet) : Nat := activeRowFrom 0 pre

/-- DECLARATIVE: cell (r, c) is addressed by the triplets `ts`: some character column triplet with
    address `c` occurs in `ts` at a point where `r` is the active row -/
def AddrFrom (row0 : Nat) (ts : List Triplet) (r c : Nat) : Prop :=
  ∃ pre t post, ts = pre ++ t :: post ∧ t.isCharCol = true ∧ t.address = c ∧ activeRowFrom row0 pre = r

/-- cell (r, c) is overridden by the X/26 data in `enh` -/
def Addressed (enh : List Triplet) (r c : Nat) : Prop := AddrFrom 0 (liveTriplets enh) r c

/-- the step function of the fold in `lopParityCheck` (same text) -/
def x26FixStep (acc : Bool × Nat × List (List Nat)) (t : Triplet) : Bool × Nat × List (List Nat) :=
  let (stop, row, lr) := acc
  if stop then acc
  else if t.address < 40 then
    if t.mode == 1 || t.mode == 2 || t.mode == 0x0B || t.mode == 8 || t.mode == 9 || t.mode == 0x0D
       || t.mode == 0x0F || (0x10 ≤ t.mode && t.mode ≤ 0x1F) then
      let r := lr.getD row zeroRow
      (false, row, lr.set row (r.set t.address (par8 (r.getD t.address 0))))
    else acc
  else if t.address > 63 then (true, row, lr)
  else if t.mode == 1 || t.mode == 4 then
    let r := t.address - 40
    (false, if r == 0 then 24 else r, lr)
  else if t.mode == 7 then (false, 0, lr)
  else acc

/-- the received rows after the X/26 fix-ups -/
def x26Fix (enh : List Triplet) (lr : List (List Nat)) : List (List Nat) :=
  (enh.foldl x26FixStep (false, 0, lr)).2.2

/-- `lop_parity_check` hands exactly these rows to the parity gate -/
theorem lopParityCheck_lopRaw (cv : Page) (rv : RawPage) :
    (lopParityCheck cv rv).2.lopRaw = if cv.x26 != 0 then x26Fix cv.enh rv.lopRaw else rv.lopRaw := by
  unfold lopParityCheck x26Fix
  by_cases h : (cv.x26 != 0) = true
  · simp only [h, if_true]; rfl
  · simp only [h]; rfl

/-- byte (r, c) of a row array -/
def cellAt (lr : List (List Nat)) (r c : Nat) : Nat := (lr.getD r zeroRow).getD c 0

/-- `lop_raw[r][c] = vbi_par8 (lop_raw[r][c])` -/
def forceAt (lr : List (List Nat)) (r c : Nat) : List (List Nat) :=
  lr.set r ((lr.getD r zeroRow).set c (par8 ((lr.getD r zeroRow).getD c 0)))

/-- the walk over triplets that are in use, as a structural recursion: (active row, rows) -/
def fixLive (row : Nat) (lr : List (List Nat)) : List Triplet → Nat × List (List Nat)
  | [] => (row, lr)
  | t :: ts => fixLive (if t.isRowSet then t.rowOf else row)
                       (if t.isCharCol then forceAt lr row t.address else lr) ts

theorem x26FixStep_live (row : Nat) (lr : List (List Nat)) (t : Triplet) (h : t.address ≤ 63) :
    x26FixStep (false, row, lr) t =
      (false, if t.isRowSet then t.rowOf else row, if t.isCharCol then forceAt lr row t.address else lr) := by
  unfold x26FixStep Triplet.isRowSet Triplet.isCharCol Triplet.rowOf forceAt
  simp only [Bool.false_eq_true, if_false]
  by_cases h40 : t.address < 40
  · have h1 : ¬ (40 ≤ t.address) := by omega
    simp only [h40, h1, if_true, decide_true, decide_false, Bool.true_and, Bool.false_and, Bool.false_eq_true, if_false]
    split <;> rfl
  · have h1 : 40 ≤ t.address := by omega
    have h2 : ¬ (t.address > 63) := by omega
    simp only [h40, h1, h2, h, if_false, decide_true, decide_false, Bool.true_and, Bool.false_and, Bool.false_eq_true]
    by_cases m14 : (t.mode == 1 || t.mode == 4) = true
    · have m7 : (t.mode == 7) = false := by
        rcases Bool.or_eq_true _ _ |>.mp m14 with m | m <;>
          (have := beq_iff_eq.mp m; simp [this])
      have : (t.mode == 1 || t.mode == 4 || t.mode == 7) = true := by simp [m14]
      simp [m14, m7]
    · have m14' : (t.mode == 1 || t.mode == 4) = false := by simpa using m14
      by_cases m7 : (t.mode == 7) = true
      · have : (t.mode == 1 || t.mode == 4 || t.mode == 7) = true := by simp [m7]
        simp [m14', m7]
      · have m7' : (t.mode == 7) = false := by simpa using m7
        have : (t.mode == 1 || t.mode == 4 || t.mode == 7) = false := by simp [m14', m7']
        simp [m14', m7']

theorem x26Fix_stopped (row : Nat) (lr : List (List Nat)) (ts : List Triplet) :
    ts.foldl x26FixStep (true, row, lr) = (true, row, lr) := by
  induction ts with
  | nil => rfl
  | cons t ts ih => simp only [List.foldl_cons]; rw [show x26FixStep (true, row, lr) t = (true, row, lr) from rfl]; exact ih

/-- the fold over the whole array = the walk over the part in use: nothing behind the first
    unused entry is looked at -/
theorem x26Fix_fold_live (enh : List Triplet) (row : Nat) (lr : List (List Nat)) :
    (enh.foldl x26FixStep (false, row, lr)).2.2 = (fixLive row lr (liveTriplets enh)).2 := by
  induction enh generalizing row lr with
  | nil => rfl
  | cons t ts ih =>
    simp only [List.foldl_cons, liveTriplets]
    by_cases h : t.address ≤ 63
    · rw [x26FixStep_live row lr t h, List.takeWhile_cons_of_pos (by simpa using h)]
      simp only [fixLive]
      exact ih _ _
    · have h40 : ¬ (t.address < 40) := by omega
      have h63 : t.address > 63 := by omega
      have hs : x26FixStep (false, row, lr) t = (true, row, lr) := by
        unfold x26FixStep; simp [h40, h63]
      rw [hs, x26Fix_stopped, List.takeWhile_cons_of_neg (by simpa using h)]
      rfl

theorem x26Fix_eq_fixLive (enh : List Triplet) (lr : List (List Nat)) :
    x26Fix enh lr = (fixLive 0 lr (liveTriplets enh)).2 := x26Fix_fold_live enh 0 lr

/-- `lop_parity_check` looks at the enhancement array only up to its first unused entry -/
theorem x26Fix_ignores_unused_tail (pre post post' : List Triplet) (u : Triplet) (hu : u.address > 63)
    (lr : List (List Nat)) : x26Fix (pre ++ u :: post) lr = x26Fix (pre ++ u :: post') lr := by
  have key : ∀ q : List Triplet, liveTriplets (pre ++ u :: q) = liveTriplets pre := by
    intro q
    unfold liveTriplets
    induction pre with
    | nil => simp [List.takeWhile_cons]; omega
    | cons a as ih =>
      simp only [List.cons_append, List.takeWhile_cons]
      split
      · rw [ih]
      · rfl
  rw [x26Fix_eq_fixLive, x26Fix_eq_fixLive, key, key]

theorem activeRowFrom_cons (row0 : Nat) (t : Triplet) (pre : List Triplet) :
    activeRowFrom row0 (t :: pre) = activeRowFrom (if t.isRowSet then t.rowOf else row0) pre := by
  unfold activeRowFrom
  simp only [List.reverse_cons, List.find?_append]
  cases h : pre.reverse.find? Triplet.isRowSet with
  | some x => simp
  | none =>
    by_cases ht : t.isRowSet = true
    · simp [ht]
    · have : t.isRowSet = false := by simpa using ht
      simp [this]

/-- ROW ADDRESSING: the row in which the walk of `lop_parity_check` ends after the triplets `ts` is
    the row named by the last row-address triplet of mode 0x01, 0x04 or 0x07 -/
theorem fixLive_row (ts : List Triplet) (row : Nat) (lr : List (List Nat)) :
    (fixLive row lr ts).1 = activeRowFrom row ts := by
  induction ts generalizing row lr with
  | nil => rfl
  | cons t ts ih => rw [activeRowFrom_cons]; simp only [fixLive]; exact ih _ _

theorem addrFrom_nil (row0 r c : Nat) : ¬ AddrFrom row0 [] r c := by
  rintro ⟨pre, t, post, he, _⟩
  cases pre <;> simp at he

theorem addrFrom_cons (row0 : Nat) (t : Triplet) (ts : List Triplet) (r c : Nat) :
    AddrFrom row0 (t :: ts) r c ↔
      (t.isCharCol = true ∧ t.address = c ∧ row0 = r) ∨ AddrFrom (if t.isRowSet then t.rowOf else row0) ts r c := by
  constructor
  · rintro ⟨pre, t0, post, he, hc, ha, hr⟩
    cases pre with
    | nil =>
      simp only [List.nil_append, List.cons.injEq] at he
      left
      rw [he.1]
      exact ⟨hc, ha, by simpa [activeRowFrom] using hr⟩
    | cons p pre' =>
      simp only [List.cons_append, List.cons.injEq] at he
      right
      refine ⟨pre', t0, post, he.2, hc, ha, ?_⟩
      rw [he.1, ← activeRowFrom_cons]; exact hr
  · rintro (⟨hc, ha, hr⟩ | ⟨pre, t0, post, he, hc, ha, hr⟩)
    · exact ⟨[], t, ts, rfl, hc, ha, by simpa [activeRowFrom] using hr⟩
    · refine ⟨t :: pre, t0, post, by rw [he]; rfl, hc, ha, ?_⟩
      rw [activeRowFrom_cons]; exact hr

theorem par8_idem (c : Nat) : par8 (par8 c) = par8 c := by
  have h1 : ∀ d < 256, par8 (par8 d) = par8 d := by decide +kernel
  have h2 : par8 c = par8 (c % 256) := by simp [par8]
  rw [h2]; exact h1 _ (Nat.mod_lt _ (by decide))

theorem forceAt_length (lr : List (List Nat)) (r c : Nat) : (forceAt lr r c).length = lr.length := by
  simp [forceAt]

theorem forceAt_rowlen (lr : List (List Nat)) (r c r' : Nat) :
    ((forceAt lr r c).getD r' zeroRow).length = (lr.getD r' zeroRow).length := by
  unfold forceAt
  simp only [List.getD_eq_getElem?_getD, List.getElem?_set]
  by_cases h : r = r'
  · subst h
    by_cases hl : r < lr.length
    · simp [hl]
    · simp [hl]
  · simp [h]

theorem cellAt_forceAt (lr : List (List Nat)) (r c r' c' : Nat) (hr : r' < lr.length)
    (hc : c' < (lr.getD r' zeroRow).length) :
    cellAt (forceAt lr r c) r' c' = if r' = r ∧ c' = c then par8 (cellAt lr r c) else cellAt lr r' c' := by
  unfold cellAt forceAt
  simp only [List.getD_eq_getElem?_getD, List.getElem?_set] at hc ⊢
  by_cases h : r = r'
  · subst h
    simp only [hr, if_true, true_and, Option.getD_some]
    by_cases h2 : c = c'
    · subst h2
      simp only [if_true]
      rw [List.getElem?_set]
      simp [hc]
    · have h2' : ¬ (c' = c) := fun e => h2 e.symm
      simp only [h2', if_false]
      rw [List.getElem?_set]
      simp [h2]
  · have h' : ¬ (r' = r) := fun e => h e.symm
    simp [h, h']

theorem fixLive_shape (ts : List Triplet) (row : Nat) (lr : List (List Nat)) :
    (fixLive row lr ts).2.length = lr.length ∧
    ∀ r, ((fixLive row lr ts).2.getD r zeroRow).length = (lr.getD r zeroRow).length := by
  induction ts generalizing row lr with
  | nil => exact ⟨rfl, fun _ => rfl⟩
  | cons t ts ih =>
    simp only [fixLive]
    have := ih (if t.isRowSet then t.rowOf else row) (if t.isCharCol then forceAt lr row t.address else lr)
    by_cases hc : t.isCharCol = true
    · simp only [hc, if_true] at this ⊢
      exact ⟨by rw [this.1, forceAt_length], fun r => by rw [this.2 r, forceAt_rowlen]⟩
    · have hc' : t.isCharCol = false := by simpa using hc
      simp only [hc', Bool.false_eq_true, if_false] at this ⊢
      exact this

/-- CELLS: after the walk a byte is `vbi_par8` of the received byte if its cell is addressed, and the
    received byte itself if not -/
theorem fixLive_cells (ts : List Triplet) (row : Nat) (lr : List (List Nat)) (r c : Nat)
    (hr : r < lr.length) (hc : c < (lr.getD r zeroRow).length) :
    (AddrFrom row ts r c → cellAt (fixLive row lr ts).2 r c = par8 (cellAt lr r c)) ∧
    (¬ AddrFrom row ts r c → cellAt (fixLive row lr ts).2 r c = cellAt lr r c) := by
  induction ts generalizing row lr with
  | nil =>
    exact ⟨fun h => absurd h (addrFrom_nil _ _ _), fun _ => rfl⟩
  | cons t ts ih =>
    simp only [fixLive]
    have hhead : cellAt (if t.isCharCol then forceAt lr row t.address else lr) r c =
        if t.isCharCol = true ∧ t.address = c ∧ row = r then par8 (cellAt lr r c) else cellAt lr r c := by
      by_cases hcc : t.isCharCol = true
      · simp only [hcc, if_true, true_and]
        rw [cellAt_forceAt lr row t.address r c hr hc]
        by_cases hx : r = row ∧ c = t.address
        · obtain ⟨h1, h2⟩ := hx
          subst h1; subst h2
          simp
        · have : ¬ (t.address = c ∧ row = r) := fun e => hx ⟨e.2.symm, e.1.symm⟩
          simp [hx, this]
      · have hcc' : t.isCharCol = false := by simpa using hcc
        simp [hcc']
    have hr' : r < (if t.isCharCol then forceAt lr row t.address else lr).length := by
      split
      · rw [forceAt_length]; exact hr
      · exact hr
    have hc' : c < ((if t.isCharCol then forceAt lr row t.address else lr).getD r zeroRow).length := by
      split
      · rw [forceAt_rowlen]; exact hc
      · exact hc
    have IH := ih (if t.isRowSet then t.rowOf else row) (if t.isCharCol then forceAt lr row t.address else lr) hr' hc'
    rw [addrFrom_cons]
    by_cases hA : AddrFrom (if t.isRowSet then t.rowOf else row) ts r c
    · have e := IH.1 hA
      constructor
      · intro _
        rw [e, hhead]
        split
        · exact par8_idem _
        · rfl
      · intro hn; exact absurd (Or.inr hA) hn
    · have e := IH.2 hA
      constructor
      · rintro (hh | hh)
        · rw [e, hhead]; simp [hh]
        · exact absurd hh hA
      · intro hn
        have : ¬ (t.isCharCol = true ∧ t.address = c ∧ row = r) := fun hh => hn (Or.inl hh)
        rw [e, hhead]; simp [this]

end Zvbi.Ttx
