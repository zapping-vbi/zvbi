import ZvbiModel.Ttx.Mode
/-!
# C02: a cycle of magazine-serial transmissions of several magazines (`serMode`)
-/
namespace Zvbi.Ttx
open Zvbi.Hamm Zvbi.Gen Zvbi.Ttx.Spec

/-! Magazine-serial transmission: every page header carries C11, a page is terminated by the next header of ANY magazine
with another page number, and the packets between two headers all belong to the page of the first header. -/

def STx.pkts (x : STx) : List Packet := x.2.1 :: x.2.2.map (·.2)
def STx.rows (x : STx) : List (Nat × List Nat) := rowsOf x.2.2
def STx.key (x : STx) : Nat × Nat := (x.1.pgno, x.1.subno)
def sstream (xs : List STx) : List Packet := xs.flatMap STx.pkts

theorem sstream_nil : sstream [] = [] := rfl

/-- sender conditions on one magazine-serial transmission: header of a decimal page of magazine `x.1.m` with C11 set
    (any sub-code, other control bits, erase flag on/off), consistent header text, then rows 1..25 of that magazine
    (any subset / order / repeats) with odd-parity bytes -/
structure SSegOk (tmpl : List Nat) (off : Nat) (x : STx) : Prop where
  hdr : IsHeader x.2.1 x.1.m x.1.page x.1.s12 x.1.s34 x.1.fl
  dec : decimalPage x.1.page
  ser : x.1.fl &&& 0x10 = 0x10
  good : GoodHdr tmpl off x.2.1
  rows : ∀ r ∈ x.2.2, IsPacket r.2 x.1.m r.1 ∧ 1 ≤ r.1 ∧ r.1 ≤ 25 ∧ GoodRow (payload r.2)

theorem ssegOk_good {tmpl : List Nat} {off : Nat} (x : STx) (h : SSegOk tmpl off x) : ∀ p ∈ x.pkts, GoodS tmpl off p := by
  intro p hp
  unfold STx.pkts at hp
  rcases List.mem_cons.mp hp with rfl | hp
  · exact ⟨h.good, h.hdr.textOnly h.dec⟩
  · rw [List.mem_map] at hp
    obtain ⟨r, hr, rfl⟩ := hp
    exact ⟨(h.rows r hr).1.goodHdr (h.rows r hr).2.1 tmpl off, (h.rows r hr).1.textOnly (h.rows r hr).2.1⟩

theorem sstream_good {tmpl : List Nat} {off : Nat} (xs : List STx) (h : ∀ x ∈ xs, SSegOk tmpl off x) :
    ∀ p ∈ sstream xs, GoodS tmpl off p := by
  intro p hp
  unfold sstream at hp
  rw [List.mem_flatMap] at hp
  obtain ⟨x, hx, hp⟩ := hp
  exact ssegOk_good x (h x hx) p hp

/-- the state after the header of `t` closed the page in progress -/
def s1S (s : St) (t : Tx) : St := (terminatePage (tick s) t.m t.pgno t.page).1

/-- neighbours differ -/
def AltS : List Nat → Prop
  | a :: b :: r => a ≠ b ∧ AltS (b :: r)
  | _ => True

theorem AltS.alt : ∀ {l : List Nat}, AltS l → Alt l
  | [], _ => trivial
  | [_], _ => trivial
  | _ :: _ :: _, h => ⟨h.1, h.2.alt⟩

/-- magazine-serial mode: a page is closed by the next header of any magazine with another page number; all look-ups
    and all TTX_PAGE events are spoken of -/
def serMode (tmpl : List Nat) (off : Nat) : Mode tmpl off STx where
  t x := x.1
  hdr x := x.2.1
  pkts := STx.pkts
  rows := STx.rows
  key x := x.1.pgno
  Inv := SInv tmpl off
  Ok := SSegOk tmpl off
  Cur s x := s.current = some x.1.m
  P _ := True
  evs := ttxPages
  Q mQ pgnoQ _ kQ := mQ < 8 ∧ kQ = pgnoQ
  base _ h := h
  evs_append := ttxPages_append
  evs_congr _ _ h := h
  evs_own _ _ _ h := h
  okDec _ h := ⟨h.hdr.mag, h.dec⟩
  okP _ _ _ _ := trivial
  okQ x h := ⟨h.hdr.mag, rfl⟩
  magQ _ _ _ _ h := h.1
  opn := by
    intro s x h hx
    obtain ⟨o1, o2, o3, o4⟩ := seg_open_rows s h.shape h.mask h.t x.1 x.2.1 x.2.2 hx.hdr hx.dec hx.rows
    exact ⟨(run_sinv _ s h (ssegOk_good x hx)).1, ⟨o1, o2⟩, fun f _ => o3 f, o4⟩
  closes := by
    intro s s1 x _ hx hr hcur mQ pgnoQ pageQ kQ ⟨_, e⟩ hne
    subst e
    exact hr.closes_ser hcur
      ⟨a16_lt x.2.1 4 _ hx.hdr.s12, a16_lt x.2.1 6 _ hx.hdr.s34⟩ hx.ser mQ kQ pageQ hne

theorem sstream_append (a b : List STx) : sstream (a ++ b) = sstream a ++ sstream b := by
  unfold sstream; simp

end Zvbi.Ttx
