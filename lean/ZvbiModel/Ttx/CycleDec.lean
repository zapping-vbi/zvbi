import ZvbiModel.Ttx.Cycle
/-!
# C02: decidable forms of the sender conditions (`Good` = `GoodHdr ∧ TextOnly ∧ ParHdr`), used to
discharge the hypotheses of the cycle theorem on concrete packets (non-vacuity examples)
-/
namespace Zvbi.Ttx
open Zvbi.Hamm Zvbi.Gen Zvbi.Ttx.Spec

/-- `HdrOk`, field by field -/
def hdrOkB (tmpl : List Nat) (off pgno : Nat) (row : List Nat) : Bool :=
  decide (8 ≤ off) && decide (off ≤ 28)
  && (row.getD off 0 == (pgDigits pgno).1 && row.getD (off + 1) 0 == (pgDigits pgno).2.1
      && row.getD (off + 2) 0 == (pgDigits pgno).2.2)
  && (List.range 32).all (fun k => !(decide (8 ≤ k) && decide (k < off)) ||
      !(row.getD k 0 == (pgDigits pgno).1 && row.getD (k + 1) 0 == (pgDigits pgno).2.1
        && row.getD (k + 2) 0 == (pgDigits pgno).2.2))
  && (List.range 32).all (fun k => !(decide (8 ≤ k) && (decide (k < off) || decide (off + 4 ≤ k))) ||
      (oddPar (row.getD k 0) && row.getD k 0 == tmpl.getD k 0))

theorem hdrOk_of_dec (tmpl : List Nat) (off pgno : Nat) (row : List Nat) (h : hdrOkB tmpl off pgno row = true) :
    HdrOk tmpl off pgno row := by
  unfold hdrOkB at h
  simp only [Bool.and_eq_true, decide_eq_true_eq, beq_iff_eq, List.all_eq_true, List.mem_range, Bool.or_eq_true,
    Bool.not_eq_true', Bool.and_eq_false_iff, decide_eq_false_iff_not, and_assoc] at h
  obtain ⟨h1, h2, d0, d1, d2, h4, h5⟩ := h
  refine ⟨h1, h2, ⟨d0, d1, d2⟩, ?_, ?_⟩
  · intro k hk1 hk2
    rcases h4 k (by omega) with h | h
    · rcases h with h | h <;> omega
    · simp only [Bool.and_eq_false_iff, beq_eq_false_iff_ne, ne_eq]
      simp only [beq_eq_false_iff_ne, ne_eq] at h
      exact h
  · intro k hk1 hk2 hk3
    rcases h5 k hk2 with h | h
    · rcases h with h | h
      · omega
      · exfalso
        simp only [Bool.or_eq_false_iff, decide_eq_false_iff_not] at h
        omega
    · exact h

def goodB (tmpl : List Nat) (off : Nat) (p : Packet) : Bool :=
  match a16 p 0 with
  | none => true
  | some pmag =>
    pmag >>> 3 != 0 ||
    ((match a16 p 2 with
      | none => true
      | some page =>
        hdrOkB tmpl off ((if (pmag &&& 7) == 0 then 8 else pmag &&& 7) * 256 + page) (payload p)
        && ((decide (page ≤ 0x99) && decide (page &&& 15 ≤ 9)) || page == 0xFF))
     && (match a16 p 8 with
      | none => true
      | some fl => fl &&& 0x10 == 0))

theorem good_of_dec (tmpl : List Nat) (off : Nat) (p : Packet) (h : goodB tmpl off p = true) : Good tmpl off p := by
  unfold goodB at h
  refine ⟨?_, ?_, ?_⟩
  · intro pmag page ha h0 hp
    rw [ha] at h
    simp only [h0, bne_self_eq_false, Bool.false_or, hp, Bool.and_eq_true] at h
    exact hdrOk_of_dec _ _ _ _ h.1.1
  · intro pmag page ha h0 hp
    rw [ha] at h
    simp only [h0, bne_self_eq_false, Bool.false_or, hp, Bool.and_eq_true, Bool.or_eq_true, decide_eq_true_eq,
      beq_iff_eq] at h
    exact h.1.2
  · intro pmag ha h0 fl hfl
    rw [ha] at h
    simp only [h0, bne_self_eq_false, Bool.false_or, hfl, Bool.and_eq_true, beq_iff_eq] at h
    exact h.2

def textOnlyB (p : Packet) : Bool :=
  match a16 p 2 with
  | some page => (decide (page ≤ 0x99) && decide (page &&& 15 ≤ 9)) || page == 0xFF
  | none => true

theorem textOnly_of_dec (p : Packet) (h : textOnlyB p = true) : TextOnly p := by
  intro pmag page _ _ hp
  unfold textOnlyB at h
  rw [hp] at h
  simp only [Bool.or_eq_true, Bool.and_eq_true, decide_eq_true_eq, beq_iff_eq] at h
  exact h


def itemB (m : Nat) : Item → Bool
  | .own k p => decide (m < 8) && decide (k < 32) && (a16 p 0 == some (m + 8 * k)) && decide (1 ≤ k) && decide (k ≤ 25)
      && (payload p).all (fun b => decide (b < 256) && oddPar b)
  | .foreign m' k p => (m' != m) && decide (m' < 8) && decide (k < 32) && (a16 p 0 == some (m' + 8 * k))
      && (k != 0 || (a16 p 2).isSome)
  | .ownx k p => decide (m < 8) && decide (k < 32) && (a16 p 0 == some (m + 8 * k)) && decide (26 ≤ k) && decide (k ≤ 29)
      && (k != 28 || a8 p 2 != some 3)

theorem itemPlain_of_dec (m : Nat) (it : Item) (h : itemB m it = true) : ItemPlain m it := by
  cases it with
  | own k p =>
    simp only [itemB, Bool.and_eq_true, decide_eq_true_eq, beq_iff_eq, List.all_eq_true, and_assoc] at h
    obtain ⟨h1, h2, h3, h4, h5, h6⟩ := h
    exact ⟨⟨h1, h2, h3⟩, h4, h5, fun b hb => h6 b hb⟩
  | foreign m' k p =>
    simp only [itemB, Bool.and_eq_true, decide_eq_true_eq, beq_iff_eq, bne_iff_ne, ne_eq, Bool.or_eq_true, and_assoc] at h
    obtain ⟨h1, h2, h3, h4, h5⟩ := h
    refine ⟨h1, ⟨h2, h3, h4⟩, ?_⟩
    intro hk
    rcases h5 with h5 | h5
    · exact absurd hk h5
    · exact Option.isSome_iff_exists.mp h5
  | ownx k p =>
    simp only [itemB, Bool.and_eq_true, decide_eq_true_eq, beq_iff_eq, bne_iff_ne, ne_eq, Bool.or_eq_true, and_assoc] at h
    obtain ⟨h1, h2, h3, h4, h5, h6⟩ := h
    refine ⟨⟨h1, h2, h3⟩, h4, h5, ?_⟩
    intro hk
    rcases h6 with h6 | h6
    · exact absurd hk h6
    · exact h6

def segOkB (tmpl : List Nat) (off m : Nat) (x : Seg) : Bool :=
  (x.t.m == m) && decide (x.t.m < 8) && (a16 x.hdr 0 == some x.t.m) && (a16 x.hdr 2 == some x.t.page)
  && (a16 x.hdr 4 == some x.t.s12) && (a16 x.hdr 6 == some x.t.s34) && (a16 x.hdr 8 == some x.t.fl)
  && decide (x.t.page ≤ 0x99) && decide (x.t.page &&& 15 ≤ 9) && goodB tmpl off x.hdr
  && x.items.all (fun it => itemB x.t.m it && goodB tmpl off it.pkt)

theorem segOk_of_dec (tmpl : List Nat) (off m : Nat) (x : Seg) (h : segOkB tmpl off m x = true) : SegOk tmpl off m x := by
  simp only [segOkB, Bool.and_eq_true, decide_eq_true_eq, beq_iff_eq, List.all_eq_true, and_assoc] at h
  obtain ⟨h1, h2, h3, h4, h5, h6, h7, h8, h9, h10, h11⟩ := h
  exact ⟨h1, ⟨h2, h3, h4, h5, h6, h7⟩, ⟨h8, h9⟩, good_of_dec _ _ _ h10,
    fun it hit => ⟨itemPlain_of_dec _ it (h11 it hit).1, good_of_dec _ _ _ (h11 it hit).2⟩⟩

end Zvbi.Ttx
