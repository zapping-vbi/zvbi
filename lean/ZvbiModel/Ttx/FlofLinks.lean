import ZvbiModel.Ttx.Model
import ZvbiModel.Fmt.LemmasFlof
/-!
# C02: FLOF links of packet X/27/0 as `parse_27` (packet.c) files them in the page in progress

`links_fold`: the loop `for (i = 0; i < 6; ++i) unham_page_link (cvtp->data.lop.link + designation * 6 + i, ..)`.
`unhamPageLink_nibbles`: a link whose six Hamming 8/4 groups decode to the nibbles the sender put in
(page units, tens, S1, S2 + M1, S3, S4 + M2 + M3) is decoded to the transmitted page number and sub-code.
`linkStep`: the body of that loop; `parse27_des0`: `parse_27` on designation 0 as the fold of `linkStep`.
-/
namespace Zvbi.Ttx
open Zvbi.Hamm

/-- the body of the link loop of `parse_27` -/
def linkStep (v : View) (mag0 designation : Nat) (l : List Link) (i : Nat) : List Link :=
  match unhamPageLink v (1 + 6 * i) mag0 with
  | some (pgno, subno) =>
    let idx := designation * 6 + i
    l.set idx { l.getD idx Link.ff with pgno := pgno, subno := subno }
  | none => l

theorem links_fold (v : View) (mag0 d : Nat) (pg sb : Nat → Nat) : ∀ (n : Nat) (l : List Link),
    (∀ i, i < n → unhamPageLink v (1 + 6 * i) mag0 = some (pg i, sb i)) → d * 6 + n ≤ l.length →
    ((List.range n).foldl (linkStep v mag0 d) l).length = l.length
    ∧ (∀ i, i < n → (((List.range n).foldl (linkStep v mag0 d) l).getD (d * 6 + i) Link.ff).pgno = (pg i : Int)
        ∧ (((List.range n).foldl (linkStep v mag0 d) l).getD (d * 6 + i) Link.ff).subno = (sb i : Int)
        ∧ (((List.range n).foldl (linkStep v mag0 d) l).getD (d * 6 + i) Link.ff).function = (l.getD (d * 6 + i) Link.ff).function)
    ∧ (∀ j, j < d * 6 ∨ d * 6 + n ≤ j → ((List.range n).foldl (linkStep v mag0 d) l).getD j Link.ff = l.getD j Link.ff) := by
  intro n
  induction n with
  | zero =>
    intro l _ _
    exact ⟨rfl, fun i hi => absurd hi (by omega), fun j _ => rfl⟩
  | succ n ih =>
    intro l hl hn
    obtain ⟨h1, h2, h3⟩ := ih l (fun i hi => hl i (by omega)) (by omega)
    rw [List.range_succ, List.foldl_append]
    simp only [List.foldl_cons, List.foldl_nil]
    generalize (List.range n).foldl (linkStep v mag0 d) l = r at h1 h2 h3
    unfold linkStep
    rw [hl n (by omega)]
    simp only []
    refine ⟨by rw [List.length_set]; exact h1, ?_, ?_⟩
    · intro i hi
      by_cases hin : i = n
      · subst hin
        have hb : d * 6 + i < r.length := by omega
        rw [List.getD_eq_getElem?_getD, List.getElem?_set_self hb]
        simp only [Option.getD_some]
        exact ⟨trivial, trivial, by rw [h3 (d * 6 + i) (Or.inr (Nat.le_refl _))]⟩
      · have hne : d * 6 + n ≠ d * 6 + i := by omega
        rw [List.getD_eq_getElem?_getD, List.getElem?_set_ne hne, ← List.getD_eq_getElem?_getD]
        exact h2 i (by omega)
    · intro j hj
      have hne : d * 6 + n ≠ j := by omega
      rw [List.getD_eq_getElem?_getD, List.getElem?_set_ne hne, ← List.getD_eq_getElem?_getD]
      exact h3 j (by omega)

theorem unhamPageLink_nibbles (v : View) (i mag pu pt s1 s2 s3 s4 mrel : Nat)
    (h1 : s1 < 16) (h2 : s2 < 8) (h3 : s3 < 16) (h4 : s4 < 4) (hm : mrel < 8)
    (g0 : v.g8 i = some pu) (g1 : v.g8 (i + 1) = some pt) (g2 : v.g8 (i + 2) = some s1)
    (g3 : v.g8 (i + 2 + 1) = some (s2 ||| ((mrel &&& 1) <<< 3))) (g4 : v.g8 (i + 4) = some s3)
    (g5 : v.g8 (i + 4 + 1) = some (s4 ||| (((mrel >>> 1) &&& 1) <<< 2) ||| (((mrel >>> 2) &&& 1) <<< 3))) :
    unhamPageLink v i mag =
      some ((if (mag ^^^ mrel == 0) = true then 8 else mag ^^^ mrel) * 256 + (pu ||| (pt <<< 4)),
            s1 + 16 * s2 + 256 * s3 + 4096 * s4) := by
  have hb := Zvbi.Fmt.link_bits s1 h1 s2 h2 s3 h3 s4 h4 mrel hm
  simp only [] at hb
  unfold unhamPageLink View.g16
  rw [g0, g1, g2, g3, g4, g5]
  simp only []
  rw [hb.1, hb.2]

theorem parse27_des0 (cv : Page) (v : View) (mag0 ctl : Nat) (hfn : cv.function ≠ FN_DISCARD)
    (hd : v.g8 0 = some 0) (hc : v.g8 37 = some ctl) :
    parse27 cv v mag0 = ({ cv with link := (List.range 6).foldl (linkStep v mag0 0) cv.link, haveFlof := ctl >>> 3 }, true) := by
  unfold parse27
  have h1 : (cv.function == FN_DISCARD) = false := by simpa using hfn
  rw [h1, hd]
  simp only [Bool.false_eq_true, if_false, Nat.zero_le, if_true, beq_self_eq_true, hc]
  rfl

end Zvbi.Ttx
