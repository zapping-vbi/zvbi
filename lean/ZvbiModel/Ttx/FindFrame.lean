import ZvbiModel.Ttx.TextOnly
import ZvbiModel.Ttx.Close
/-!
# C02: what a look-up finds is kept (`find?` frame lemmas for an arbitrary predicate)

`_vbi_cache_put_page` (either source shape) keeps `c.find? f` when `f` is false on the page stored, on the version it
replaces and - repaired shape, single-version key - on every version of the page number (`cachePutF_find_gen`); so page
termination and a whole header packet on a text-only decoder keep `find? f` when a store of the terminated page does
(`PutKeeps`).  Look-ups of another page number, and of another sub-code 01..79 of the same page number, are such predicates;
`claim_lookups` draws from this what look-ups return for a stored transmission.
-/
namespace Zvbi.Ttx
open Zvbi.Hamm Zvbi.Gen Zvbi.Ttx.Spec

theorem find?_filter_of_false (f g : Page → Bool) (hg : ∀ x, g x = false → f x = false) (l : List Page) :
    (l.filter g).find? f = l.find? f := by
  induction l with
  | nil => rfl
  | cons y ys ih =>
    by_cases hy : g y = true
    · rw [List.filter_cons_of_pos hy]
      simp only [List.find?_cons]
      cases f y <;> simp [ih]
    · have hy' : g y = false := by simpa using hy
      rw [List.filter_cons_of_neg hy, List.find?_cons, hg y hy']
      exact ih

theorem cachePutF_find_gen (fix : Bool) (c : List Page) (pt : Nat) (p : Page) (f : Page → Bool) (key mask : Nat)
    (hk : putKey pt p.pgno p.subno = (key, mask))
    (hnew : f { p.truncate with subno := key } = false)
    (hold : ∀ old ∈ c, old.pgno = p.pgno → old.subno &&& mask = (key &&& mask) &&& mask → f old = false)
    (hall : fix = true → mask = 0 → ∀ x, x.pgno = p.pgno → f x = false) :
    ∀ c', cachePutF fix c pt p = some c' → c'.find? f = c.find? f := by
  intro c' h
  rw [cachePutF_eq h hk, List.find?_cons, hnew]
  cases hf : c.find? (keyMatch p.pgno (key &&& mask) mask) with
  | none => rfl
  | some old =>
    obtain ⟨o1, o2⟩ := keyMatch_true (List.find?_some hf)
    have hfo : f old = false := hold old (List.mem_of_find?_eq_some hf) o1 o2
    show (if _ then _ else _ : List Page).find? f = _
    split
    · rename_i hc
      simp only [Bool.and_eq_true, beq_iff_eq] at hc
      rw [find?_filter_of_false f _ (fun x hx => hall hc.1 hc.2 x (by simpa using hx)) (c.erase old)]
      exact find?_erase_of_false f old hfo c
    · exact find?_erase_of_false f old hfo c

/-- ... in particular when `f` is false on every page with the page number stored -/
theorem cachePutF_find_false (fix : Bool) (c : List Page) (pt : Nat) (p : Page) (f : Page → Bool)
    (hf : ∀ x : Page, x.pgno = p.pgno → f x = false) :
    ∀ c', cachePutF fix c pt p = some c' → c'.find? f = c.find? f := by
  cases hk : putKey pt p.pgno p.subno with
  | mk k m => exact cachePutF_find_gen fix c pt p f k m hk (hf _ (truncate_pgno p)) (fun o _ ho _ => hf o ho) (fun _ _ x hx => hf x hx)

theorem cachePutF_single (c : List Page) (pt : Nat) (p : Page) (key : Nat) (hk : putKey pt p.pgno p.subno = (key, 0)) :
    ∀ c', cachePutF true c pt p = some c' →
      c' = ({ p.truncate with subno := key } : Page) :: c.filter (fun q => q.pgno != p.pgno) := by
  intro c' h
  rw [cachePutF_eq h hk]
  congr 1
  cases hfo : c.find? (keyMatch p.pgno (key &&& 0) 0) with
  | none =>
    -- no version cached: the filter removes nothing
    refine (List.filter_eq_self.2 fun q hq => ?_).symm
    have := List.find?_eq_none.1 hfo q hq
    unfold keyMatch at this
    simp only [Nat.and_zero, beq_self_eq_true, Bool.and_true, beq_iff_eq] at this
    simpa using this
  | some o =>
    simp only [Bool.true_and, beq_self_eq_true, if_true]
    -- the version replaced is not among the other page numbers
    rw [← List.erase_filter]
    exact List.erase_of_not_mem (by simp [(keyMatch_true (List.find?_some hfo)).1])

/-- a predicate that is undisturbed by a store of (`pgno`, `subno`) when the page type is not "clock page" (on a clock page
    cache.c reads the sub-code as a time and files it under another key: `putKey`) -/
def PutKeeps (f : Page → Bool) (pgno subno : Nat) : Prop :=
  ∀ (c : List Page) (pt : Nat) (p : Page) (c' : List Page), p.pgno = pgno → p.subno = subno → pt ≠ PT_CLOCK →
    cachePut c pt p = some c' → c'.find? f = c.find? f

theorem putKeeps_of_false (f : Page → Bool) (pgno subno : Nat) (hf : ∀ x : Page, x.pgno = pgno → f x = false) :
    PutKeeps f pgno subno :=
  fun c pt p c' hp _ _ hc => cachePutF_find_false _ c pt p f (fun x hx => hf x (hx.trans hp)) c' hc

/-- a predicate that is undisturbed by the header look-up of (`pgno`, sub-code word `sp`, control bits `fl`) -/
def GetKeeps (f : Page → Bool) (pgno sp fl : Nat) : Prop :=
  ∀ n : Net, (lookupPrev n pgno sp fl).2.1.cache.find? f = n.cache.find? f

/-- `f` is disturbed neither by the header look-up nor by the store of transmission `t` -/
structure Undist (f : Page → Bool) (t : Tx) : Prop where
  put : PutKeeps f t.pgno t.subno
  get : GetKeeps f t.pgno t.subpage t.fl

theorem undist_other (P key mask : Nat) (t : Tx) (hne : t.pgno ≠ P) : Undist (keyMatch P key mask) t :=
  ⟨putKeeps_of_false _ _ _ (keyMatch_ne hne key mask), fun n => lookupPrev_find n t.pgno t.subpage t.fl P key mask hne⟩

theorem storeLop_find (s : St) (vtp : Page) (f : Page → Bool) (h : TNet s.net) (hn : Event.chsw ∉ (storeLop s vtp).2)
    (hput : PutKeeps f vtp.pgno vtp.subno) : (storeLop s vtp).1.net.cache.find? f = s.net.cache.find? f := by
  revert hn
  refine storeLop_elim (P := fun r => Event.chsw ∉ r.2 → r.1.net.cache.find? f = s.net.cache.find? f) s vtp
    (fun _ hn => absurd List.mem_cons_self hn) (fun _ _ => rfl) (fun _ _ _ _ _ => ?_)
  show (Net.put _ vtp).cache.find? f = _
  unfold Net.put
  cases hp : cachePut (s.net.setStat vtp.pgno (fun _ => statAtPut s.net vtp)).1.cache
      ((s.net.setStat vtp.pgno (fun _ => statAtPut s.net vtp)).1.getStat vtp.pgno).pageType vtp with
  | none => simp only []; rw [setStat_cache]
  | some c' =>
    simp only []
    rw [← setStat_cache s.net vtp.pgno (fun _ => statAtPut s.net vtp)]
    exact hput _ _ vtp c' rfl rfl
      ((h.setStat vtp.pgno (fun _ => statAtPut s.net vtp) (Or.inr (statAtPut_text _ _ h.stat))).stat.not_clock vtp.pgno) hp

theorem terminatePage_find (s : St) (mag0 pgno page : Nat) (f : Page → Bool) (hm : mag0 < 8) (hs : Shape s) (h : TInv s)
    (hn : Event.chsw ∉ (terminatePage s mag0 pgno page).2)
    (hput : ∀ curr, terminatedSlot s mag0 pgno page = some curr → (s.rp curr).page.function = FN_LOP →
      PutKeeps f (s.rp curr).page.pgno (s.rp curr).page.subno) :
    (terminatePage s mag0 pgno page).1.net.cache.find? f = s.net.cache.find? f := by
  revert hn
  refine terminatePage_elim (p := fun T => Event.chsw ∉ T.2 → T.1.net.cache.find? f = s.net.cache.find? f) s mag0 pgno page
    (fun _ _ => rfl) (fun curr hcurr x ev hstep hn => ?_)
  show x.net.cache.find? f = _
  have hslot := h.slots curr (terminatedSlot_lt s mag0 pgno page curr hm hs.cur hcurr)
  cases hstep with
  | idle _ => rfl
  | lop hf =>
    have hk := lopParityCheck_keys (s.rp curr).page (s.rp curr)
    exact storeLop_find (s.setRp curr _) _ f h.net hn (by rw [hk.1, hk.2.1]; exact hput curr hcurr hf)
  | mip r _ hf => rcases hslot with e | e <;> rw [e] at hf <;> exact absurd hf (by decide)
  | put aux _ hf => exact absurd hslot (fun e => e.elim hf.2.1 hf.1)

/-- `f` is true only on pages of magazine `m` -/
def OfMag (m : Nat) (f : Page → Bool) : Prop :=
  ∀ x, f x = true → ∃ page, page < 256 ∧ x.pgno = mag8Of m * 256 + page

theorem ofMag_keyMatch (m page key mask : Nat) (hp : page < 256) : OfMag m (keyMatch (mag8Of m * 256 + page) key mask) :=
  fun _ hx => ⟨page, hp, (keyMatch_true hx).1⟩

theorem find?_congr_false (f g : Page → Bool) (l : List Page) (h : ∀ x ∈ l, f x = g x) : l.find? f = l.find? g := by
  induction l with
  | nil => rfl
  | cons y ys ih =>
    rw [List.find?_cons, List.find?_cons, h y List.mem_cons_self, ih (fun x hx => h x (List.mem_cons_of_mem _ hx))]

theorem ofMag_false (m m' : Nat) (hm : m < 8) (hm' : m' < 8) (hne : m' ≠ m) (f : Page → Bool) (hf : OfMag m f)
    (page' : Nat) (hp : page' < 256) (x : Page) (hx : x.pgno = mag8Of m' * 256 + page') : f x = false := by
  refine Bool.eq_false_iff.mpr fun hfx => ?_
  obtain ⟨pg, h1, h2⟩ := hf x hfx
  rw [hx] at h2
  exact pgno_ne m m' pg page' hm hm' hne h1 hp h2

theorem header_step (s : St) (p : Packet) (m' page : Nat) (hm' : m' < 8)
    (ha : a16 p 0 = some m') (hpage : a16 p 2 = some page) (hs : Shape s) (hmask : s.mask = true) (hti : TInv s)
    (ht : TextOnly p) : HdrDone s p m' page := by
  cases hrej : hdrRejected page ((view Kind.hdr p).g16i 2) ((view Kind.hdr p).g16i 4) ((view Kind.hdr p).g16i 6) with
  | true => exact hdrDone_rejected s p m' page hm' ha hpage hrej hmask hs.cd
  | false =>
    have h0 := (addr_hdr m' hm').2
    obtain ⟨s12, s34, fl, e1, e2, e3, _, _⟩ := hdrRejected_fields p page hrej rfl
    exact hdrDone_text s p m' page s12 s34 fl ⟨hm', ha, hpage, e1, e2, e3⟩
      ((ht m' page ha h0 hpage).resolve_right (hdrRejected_page hrej)) hmask hs.cd hs.len
      ((terminatePage_tinv (tick s) m' _ page hm' (tick_shape hs) hti.tick).net.textPage _ _ _ _
        ((ht m' page ha h0 hpage).resolve_right (hdrRejected_page hrej)))

/-- a sub-code 01..79 (BCD): the class `putKey` files under its own number with mask 0xFF (above 0x79 it files under 0) -/
def SubCode (s : Nat) : Prop := 1 ≤ s ∧ s ≤ 0x79 ∧ s &&& 15 ≤ 9

theorem putKey_sub (pt pgno s : Nat) (hb : isBcd pgno = true) (hs : SubCode s) (hpt : pt ≠ PT_CLOCK) :
    putKey pt pgno s = (s, 0xFF) := by
  obtain ⟨h1, h2, h3⟩ := hs
  have a := bcdDigitsGreater_79 s (by omega) h3
  unfold putKey
  simp only [hb, if_true]
  have h0 : (s == 0) = false := by simp; omega
  have hc : (pt == PT_CLOCK) = false := by simpa using hpt
  have h100 : ¬ s ≥ 0x100 := by omega
  simp [h0, hc, h100, a]

theorem exact_low (x s2 : Nat) (h2 : s2 < 256) (h : x &&& 0xFFFFFFFF = s2 &&& 0xFFFFFFFF) : x &&& 0xFF = s2 := by
  rw [Nat.and_two_pow_sub_one_of_lt_two_pow (n := 32) (by omega : s2 < 2 ^ 32)] at h
  have : x &&& 0xFF = (x &&& 0xFFFFFFFF) &&& 0xFF := by
    rw [Nat.and_assoc]; rfl
  rw [this, h]; exact Nat.and_two_pow_sub_one_of_lt_two_pow (n := 8) h2

theorem putKeeps_sub (P s1 s2 : Nat) (hb : isBcd P = true) (h1 : SubCode s1) (h2 : s2 < 256) (hne : s1 ≠ s2) :
    PutKeeps (keyMatch P s2 0xFFFFFFFF) P s1 := by
  intro c pt p c' hp hs hpt hc
  have hk : putKey pt p.pgno p.subno = (s1, 0xFF) := by rw [hp, hs]; exact putKey_sub pt P s1 hb h1 hpt
  have hs1 : s1 < 256 := by have := h1.2.1; omega
  refine cachePutF_find_gen _ c pt p _ s1 0xFF hk ?_ ?_ ?_ c' hc
  · refine Bool.eq_false_iff.mpr fun hx => ?_
    have := (keyMatch_true hx).2
    simp only [] at this
    rw [Nat.and_two_pow_sub_one_of_lt_two_pow (n := 32) (by omega : s1 < 2 ^ 32),
      Nat.and_two_pow_sub_one_of_lt_two_pow (n := 32) (by omega : s2 < 2 ^ 32)] at this
    exact hne this
  · refine fun old _ _ ho => Bool.eq_false_iff.mpr fun hx => ?_
    have e := exact_low old.subno s2 h2 (keyMatch_true hx).2
    rw [e, Nat.and_two_pow_sub_one_of_lt_two_pow (n := 8) hs1, Nat.and_two_pow_sub_one_of_lt_two_pow (n := 8) hs1] at ho
    exact hne ho.symm
  · intro _ h0; exact absurd h0 (by decide)

theorem getKeeps_sub (P sp fl s1 s2 : Nat) (hsp : sp &&& 0x3F7F = s1) (h1 : s1 ≤ 0x79) (h2 : s2 < 256) (hne : s1 ≠ s2) :
    GetKeeps (keyMatch P s2 0xFFFFFFFF) P sp fl := by
  intro n
  apply lookupPrev_keeps_of
  intro q hq
  rw [hsp] at hq
  have hany : (s1 == ANY_SUBNO) = false := by
    have : s1 ≠ ANY_SUBNO := by unfold ANY_SUBNO; omega
    simpa using this
  simp only [hany, Bool.false_eq_true, if_false] at hq
  refine Bool.eq_false_iff.mpr fun hx => ?_
  have e1 := exact_low q.subno s1 (by omega) (keyMatch_true (List.find?_some hq)).2
  have e2 := exact_low q.subno s2 h2 (keyMatch_true hx).2
  exact hne (e1.symm.trans e2)

/-- the look-up claims about a stored transmission `x` followed by `post`, in the chain `cF` left by a final header of page
    number `pgnoF`: if no later transmission nor the final header carries its page number, exact and wildcard look-ups
    return the entry `q`; if the later ones of its page number carry other sub-codes 01..79, the exact look-up of its own
    sub-code still does -/
def Lookups {α : Type} (t : α → Tx) (cF : List Page) (pgnoF : Nat) (x : α) (post : List α) (q : Page) : Prop :=
  ((∀ y ∈ post, (t y).pgno ≠ (t x).pgno) → pgnoF ≠ (t x).pgno →
      q ∈ cF ∧ ∀ subno mask, subno = q.subno ∨ subno = ANY_SUBNO → (cacheGet cF (t x).pgno subno mask).map (·.1) = some q)
  ∧ (SubCode (t x).subno →
      (∀ y ∈ post, (t y).pgno = (t x).pgno → SubCode (t y).subno ∧ (t y).subno ≠ (t x).subno) → pgnoF ≠ (t x).pgno →
      q.subno = (t x).subno ∧ (cacheGet cF (t x).pgno (t x).subno 0xFFFFFFFF).map (·.1) = some q)

/-- `cF` finds what `cT` finds under every predicate false on pages numbered `pgnoF` (the final header's); `cT` finds the
    stored page `q` under every predicate no later transmission disturbs -/
theorem claim_lookups {α : Type} (t : α → Tx) (P : (Page → Bool) → Prop) (cT cF : List Page) (pgnoF : Nat)
    (hff : ∀ f : Page → Bool, (∀ y : Page, y.pgno = pgnoF → f y = false) → cF.find? f = cT.find? f)
    (x : α) (post : List α) (q : Page) (rest : List Page) (pt : Nat) (s1 : St) (hdr : Packet)
    (rows : List (Nat × List Nat)) (hF : Fetched q (t x) s1 hdr rows pt) (hpt : pt ≠ PT_CLOCK)
    (hfind : ∀ f, P f → (∀ y ∈ post, Undist f (t y)) → cT.find? f = (q :: rest).find? f)
    (hP : ∀ k mask, P (keyMatch (t x).pgno k mask)) (hvalid : validPgno (t x).pgno) (hb : isBcd (t x).pgno = true) :
    Lookups t cF pgnoF x post q := by
  have hkm : ∀ key mask (y : Page), y.pgno = pgnoF → pgnoF ≠ (t x).pgno → keyMatch (t x).pgno key mask y = false :=
    fun key mask y hy hne => keyMatch_ne hne key mask y hy
  refine ⟨fun hlast hfinne => ?_, fun hsc hrot hfinne => ?_⟩
  · have hfound : ∀ subno mask, subno = q.subno ∨ subno = ANY_SUBNO →
        cF.find? (keyMatch (t x).pgno subno (if subno == ANY_SUBNO then 0 else mask)) = some q := by
      intro subno mask hsub
      rw [hff _ (fun y hy => hkm _ _ y hy hfinne), hfind _ (hP _ _) (fun y hy => undist_other _ _ _ _ (hlast y hy)), ← hF.pgno]
      exact find_head q rest subno mask hsub
    exact ⟨List.mem_of_find?_eq_some (hfound ANY_SUBNO 0 (Or.inr rfl)),
      fun subno mask hsub => cacheGet_of_find _ _ subno mask q hvalid (hfound subno mask hsub)⟩
  · have hqs : q.subno = (t x).subno := hF.subno _ _ (putKey_sub pt _ _ hb hsc hpt)
    refine ⟨hqs, ?_⟩
    have hsx : (t x).subno < 256 := by have := hsc.2.1; omega
    have hany : ((t x).subno == ANY_SUBNO) = false := by
      have : (t x).subno ≠ ANY_SUBNO := by unfold ANY_SUBNO; omega
      simpa using this
    apply cacheGet_of_find _ _ _ _ q hvalid
    simp only [hany, Bool.false_eq_true, if_false]
    rw [hff _ (fun y hy => hkm _ _ y hy hfinne), hfind _ (hP _ _)]
    · have hmq : keyMatch (t x).pgno (t x).subno 0xFFFFFFFF q = true := by
        unfold keyMatch
        rw [hF.pgno, hqs]
        simp
      rw [List.find?_cons, hmq]
    · intro y hy
      by_cases hyp : (t y).pgno = (t x).pgno
      · obtain ⟨hys, hyne⟩ := hrot y hy hyp
        refine ⟨?_, ?_⟩
        · rw [hyp]; exact putKeeps_sub _ _ _ hb hys hsx hyne
        · rw [hyp]; exact getKeeps_sub _ (t y).subpage (t y).fl _ _ rfl hys.2.1 hsx hyne
      · exact undist_other _ _ _ _ hyp

end Zvbi.Ttx
