import ZvbiModel.Ttx.Spec
import ZvbiModel.Util.Bits
/-!
# The page assembly slots `vt.raw_page[8]`: reading and writing one slot

`St.rp` reads with a default, `St.setRp` / `St.setPage` write through `List.set`, so a write to a slot number beyond
the list is no write (`setRp_ge`); the lemmas are stated with and without `m < s.raw.length` accordingly.
-/
namespace Zvbi.Ttx
open Zvbi.Gen

def mag8Of (m : Nat) : Nat := if m == 0 then 8 else m

theorem mag8Of_le : ∀ a < 8, 1 ≤ mag8Of a ∧ mag8Of a ≤ 8 := by decide

theorem and7_lt (pmag : Nat) : pmag &&& 7 < 8 := Nat.lt_succ_of_le Nat.and_le_right

theorem addr_split : ∀ m < 8, ∀ k < 32, (m + 8 * k) &&& 7 = m ∧ (m + 8 * k) >>> 3 = k := fun m hm k _ => by
  rw [Bits.and_07, Nat.shiftRight_eq_div_pow]; omega

theorem addr_hdr (m : Nat) (hm : m < 8) : m &&& 7 = m ∧ m >>> 3 = 0 := addr_split m hm 0 (by omega)

theorem pmag_hdr (pmag : Nat) (h0 : pmag >>> 3 = 0) : pmag &&& 7 = pmag ∧ pmag < 8 := by
  rw [Nat.shiftRight_eq_div_pow] at h0
  have hlt : pmag < 8 := by
    have : pmag / 8 = 0 := h0
    omega
  exact ⟨Nat.and_two_pow_sub_one_of_lt_two_pow (n := 3) hlt, hlt⟩

theorem rp_setRp_same (s : St) (m : Nat) (x : RawPage) (h : m < s.raw.length) : (s.setRp m x).rp m = x := by
  unfold St.setRp St.rp
  simp [List.getD_eq_getElem?_getD, h]

theorem rp_setRp_other (s : St) (m m' : Nat) (x : RawPage) (h : m' ≠ m) : (s.setRp m x).rp m' = s.rp m' := by
  unfold St.setRp St.rp
  have : m ≠ m' := fun e => h e.symm
  simp [List.getD_eq_getElem?_getD, this]

theorem setRp_length (s : St) (m : Nat) (x : RawPage) : (s.setRp m x).raw.length = s.raw.length := by
  unfold St.setRp; simp

theorem setRp_ge (s : St) (m : Nat) (x : RawPage) (h : ¬ m < s.raw.length) : s.setRp m x = s := by
  unfold St.setRp
  rw [List.set_eq_of_length_le (by omega)]

theorem rp_ge (s : St) (c : Nat) (h : ¬ c < s.raw.length) : s.rp c = default := by
  unfold St.rp
  have : s.raw[c]? = none := by simp; omega
  simp [List.getD_eq_getElem?_getD, this]

theorem rp_congr {a b : St} (h : a.raw = b.raw) (c : Nat) : a.rp c = b.rp c := by
  unfold St.rp; rw [h]

theorem rp_setPage_same (s : St) (m : Nat) (pg : Page) (h : m < s.raw.length) :
    (s.setPage m pg).rp m = { s.rp m with page := pg } := by
  unfold St.setPage; exact rp_setRp_same s m _ h

theorem rp_setPage_other (s : St) (m m' : Nat) (pg : Page) (h : m' ≠ m) : (s.setPage m pg).rp m' = s.rp m' := by
  unfold St.setPage; exact rp_setRp_other s m m' _ h

theorem setPage_length (s : St) (m : Nat) (pg : Page) : (s.setPage m pg).raw.length = s.raw.length := by
  unfold St.setPage; exact setRp_length s m _

/-- two writes to the page record of one slot: the second counts -/
theorem setPage_setPage (s : St) (m : Nat) (a b : Page) : (s.setPage m a).setPage m b = s.setPage m b := by
  by_cases h : m < s.raw.length
  · unfold St.setPage
    rw [rp_setRp_same s m _ h]
    unfold St.setRp
    simp only [List.set_set]
  · unfold St.setPage
    simp only [setRp_ge s m _ h]

/-- ... also when the second depends on the record just written -/
theorem setPage_setPage_rp (s : St) (m : Nat) (a : Page) (f : Page → Page) :
    (s.setPage m a).setPage m (f ((s.setPage m a).rp m).page) = s.setPage m (f a) := by
  rw [setPage_setPage]
  by_cases h : m < s.raw.length
  · rw [rp_setPage_same s m a h]
  · unfold St.setPage
    simp only [setRp_ge s m _ h]

theorem setRp_net (s : St) (m : Nat) (x : RawPage) : (s.setRp m x).net = s.net := rfl
theorem setPage_net (s : St) (m : Nat) (x : Page) : (s.setPage m x).net = s.net := rfl

theorem rp_desync (s : St) (m : Nat) (h : m < s.raw.length) :
    (desync s).rp m = { s.rp m with page := { (s.rp m).page with function := FN_DISCARD } } := by
  unfold desync St.rp
  simp [List.getD_eq_getElem?_getD, h]

theorem desync_length (s : St) : (desync s).raw.length = s.raw.length := by
  unfold desync; simp

theorem chswReset_raw (s : St) : (chswReset s).raw = (desync s).raw := rfl

theorem chswReset_current (s : St) : (chswReset s).current = s.current := rfl

end Zvbi.Ttx
