import ZvbiModel.Ttx.HeaderPage
import ZvbiModel.Ttx.Transmission
/-!
# C02: the array shapes are an invariant of `step`

`Shape s`: eight assembly slots, `vt.current` names one of them, `lop_raw[26]` and `data.lop.raw[26]` in every slot, 26 rows
in every cached page, the reference header has its 8 unused leading bytes, and no channel-switch countdown runs
(`vbi_decode` starts one only on a dropped frame, which `step` does not model: that is `gap`).
`init_shape`, `init_slots_discard`, `init_current`: the fresh decoder.
-/
namespace Zvbi.Ttx
open Zvbi.Hamm Zvbi.Gen Zvbi.Ttx.Spec

theorem init_current : (tick (init.enable true)).current = none := by decide

structure Shape (s : St) : Prop where
  len : s.raw.length = 8
  cur : ∀ c, s.current = some c → c < 8
  hlen : 8 ≤ s.header.length
  cd : s.chswcd = 0
  slots : ∀ c, c < 8 → (s.rp c).lopRaw.length = 26 ∧ (s.rp c).page.raw.length = 26
  cache : ∀ q ∈ s.net.cache, q.raw.length = 26

theorem Shape.quiet {s s' : St} {m : Nat} (h : Shape s) (q : Quiet s s' m) : Shape s' := by
  refine ⟨q.len.trans h.len, fun c hc => h.cur c (by rw [← q.cur]; exact hc), by rw [q.hdr.1]; exact h.hlen,
    by rw [q.cd]; exact h.cd, ?_, fun x hx => h.cache x (q.cache x hx)⟩
  intro c hc
  by_cases e : c = m
  · subst e; rw [q.lrlen, q.rawlen]; exact h.slots c hc
  · rw [q.other c e]; exact h.slots c hc

theorem Shape.slotId {s s' : St} (h : Shape s) (hs : ∀ c, SlotId (s.rp c) (s'.rp c)) :
    ∀ c, c < 8 → (s'.rp c).lopRaw.length = 26 ∧ (s'.rp c).page.raw.length = 26 := by
  intro c hc
  obtain ⟨_, _, _, a, b⟩ := hs c
  rw [a, b]; exact h.slots c hc

theorem Shape.desync {s : St} (h : Shape s) : Shape (desync s) :=
  ⟨(desync_length s).trans h.len, h.cur, h.hlen, h.cd, h.slotId (fun c => (slotKept_desync s c).id), h.cache⟩

theorem Shape.closed {s s' : St} {ev : List Event} {ts : Option Nat} (h : Shape s) (hts : ∀ c, ts = some c → c < 8)
    (c : Closed s s' ev ts) : Shape s' := by
  refine ⟨c.len.trans h.len, fun x hx => h.cur x (by rw [← c.cur]; exact hx), c.hlen h.hlen, c.cd h.cd,
    h.slotId (fun x => (c.slots x).id), ?_⟩
  intro q hq
  rcases c.cache q hq with h1 | ⟨x, hx, h1⟩
  · exact h.cache q h1
  · rw [h1]; exact (h.slots x (hts x hx)).2

theorem Shape.hdrStep {t s' : St} {mag0 pgno : Nat} {p : Packet} (h : Shape t) (hm : mag0 < 8)
    (c : HdrStep t s' mag0 pgno p) : Shape s' := by
  refine ⟨c.len.trans h.len, ?_, by rw [c.hdr.1]; exact h.hlen, by rw [c.cd]; exact h.cd, ?_,
    fun x hx => h.cache x (c.cache x hx)⟩
  · intro x hx
    rw [c.cur] at hx
    injection hx with hx
    rw [← hx]; exact hm
  · intro x hx
    by_cases e : x = mag0
    · subst e
      refine ⟨by rw [c.lr]; exact (h.slots x hx).1, ?_⟩
      rcases c.flags with ⟨_, _, hr⟩ | ⟨_, _, _, _, _, _, _, hr, _⟩
      · rw [hr]; exact (h.slots x hx).2
      · rcases hr with ⟨q, hq, hr⟩ | hr | hr
        · rw [hr]; exact h.cache q hq
        · exact hr
        · rw [hr]; exact (h.slots x hx).2
    · rw [c.other x e]; exact h.slots x hx

theorem tick_shape {s : St} (h : Shape s) : Shape (tick s) := ⟨h.len, h.cur, h.hlen, h.cd, h.slots, h.cache⟩

theorem decode_shape (s : St) (p : Packet) (h : Shape s) :
    Shape (decodeTeletext s p).st ∧ (decodeTeletext s p).st.mask = s.mask := by
  refine decode_elim (P := fun s' _ => Shape s' ∧ s'.mask = s.mask) s p h.len ⟨h, rfl⟩ ⟨h.desync, rfl⟩
    (fun _ _ _ hq _ => ⟨h.quiet hq, hq.mask⟩) (fun m page _ h0 _ _ _ hs _ => ?_)
  have hm := (pmag_hdr m h0).2
  have hc := terminatePage_closed s m (mag8Of m * 256 + page) page
  exact ⟨(h.closed (fun c hc' => terminatedSlot_lt s _ _ _ c hm h.cur hc') hc).hdrStep hm hs, by rw [hs.mask, hc.mask]⟩

theorem step_shape (s : St) (p : Packet) (h : Shape s) : Shape (step s p).1 ∧ (step s p).1.mask = s.mask := by
  rw [step_eq_decode s p h.cd]
  exact decode_shape (tick s) p (tick_shape h)

theorem run_shape (ps : List Packet) (s : St) (h : Shape s) : Shape (run s ps).1 ∧ (run s ps).1.mask = s.mask :=
  run_keeps (I := fun s' => Shape s' ∧ s'.mask = s.mask) (G := fun _ => True)
    (fun s' p h' _ => ⟨(step_shape s' p h'.1).1, (step_shape s' p h'.1).2.trans h'.2⟩) ps s ⟨h, rfl⟩ (fun _ _ => trivial)

theorem init_slots_discard (on : Bool) : ∀ c < 8, ((init.enable on).rp c).page.function = FN_DISCARD := by
  cases on <;> decide +kernel

theorem init_shape (on : Bool) : Shape (init.enable on) := by
  refine ⟨by cases on <;> decide, ?_, by cases on <;> decide, by cases on <;> rfl, ?_, ?_⟩
  · intro c hc
    have : (init.enable on).current = none := by cases on <;> rfl
    rw [this] at hc; cases hc
  · have : ∀ c < 8, ((init.enable on).rp c).lopRaw.length = 26 ∧ ((init.enable on).rp c).page.raw.length = 26 := by
      cases on <;> decide +kernel
    exact this
  · have : (init.enable on).net.cache = [] := by cases on <;> rfl
    rw [this]; intro q hq; cases hq

end Zvbi.Ttx
