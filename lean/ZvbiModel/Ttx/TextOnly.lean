import ZvbiModel.Ttx.Isolation
/-!
# C02: a decoder that has only seen text pages (`TInv`)

Packets other than page headers keep the page in progress a text page (`Plain`); the invariant "only text pages were
announced" (`TInv`) is kept by every `TextOnly` packet.
-/
namespace Zvbi.Ttx
open Zvbi.Hamm Zvbi.Gen Zvbi.Ttx.Spec

/-- the page in progress is a Level 1 text page (`PAGE_FUNCTION_LOP`) or discarded -/
def TextSlot (fn : Int) : Prop := fn = FN_LOP ∨ fn = FN_DISCARD

/-- the step left the cache chain (content AND order) and the page statistics alone; slot `m` still text / discarded -/
structure Plain (s s' : St) (m : Nat) : Prop where
  cache : s'.net.cache = s.net.cache
  stat : s'.net.stat = s.net.stat
  fn : TextSlot (s'.rp m).page.function

theorem Plain.refl (s : St) (m : Nat) (h : TextSlot (s.rp m).page.function) : Plain s s m := ⟨rfl, rfl, h⟩

theorem plain_setRp (s : St) (m : Nat) (x : RawPage) (h : TextSlot (s.rp m).page.function)
    (hx : TextSlot x.page.function) : Plain s (s.setRp m x) m := by
  refine ⟨rfl, rfl, ?_⟩
  by_cases hl : m < s.raw.length
  · rw [rp_setRp_same s m x hl]; exact hx
  · rw [setRp_ge s m x hl]; exact h

theorem plain_setPage (s : St) (m : Nat) (pg : Page) (h : TextSlot (s.rp m).page.function)
    (hx : TextSlot pg.function) : Plain s (s.setPage m pg) m := by
  unfold St.setPage
  exact plain_setRp s m _ h hx

theorem processRow_plain (s : St) (mag0 mag8 packet : Nat) (v : View) (h : TextSlot (s.rp mag0).page.function) :
    Plain s (processRow s mag0 mag8 packet v).st mag0 := by
  rcases h with hf | hf
  · rw [processRow_lop s mag0 mag8 packet v hf]
    exact plain_setRp s mag0 _ (Or.inl hf) (Or.inl hf)
  · rw [processRow_discard s mag0 mag8 packet v hf]
    exact Plain.refl s mag0 (Or.inr hf)

theorem process26_text (s : St) (m : Nat) (v : View)
    (h : (s.rp m).page.function = FN_LOP ∨ (s.rp m).page.function = FN_DISCARD) :
    (∃ b, process26 s m v = ⟨s, [], b⟩)
    ∨ ∃ nt enh x26 ev b, process26 s m v = ⟨s.setRp m { s.rp m with
        numTriplets := nt, page := { (s.rp m).page with enh := enh, x26 := x26 } }, ev, b⟩ := by
  have hp : ¬ ((s.rp m).page.function = FN_GPOP ∨ (s.rp m).page.function = FN_POP) := by
    rcases h with h | h <;> rw [h] <;> decide
  have hd : ¬ X26Desync (s.rp m).page.function := by
    rcases h with h | h <;> rw [h] <;> decide
  exact process26_elim (p := fun r => (∃ b, r = ⟨s, [], b⟩) ∨ ∃ nt enh x26 ev b, r = ⟨s.setRp m { s.rp m with
      numTriplets := nt, page := { (s.rp m).page with enh := enh, x26 := x26 } }, ev, b⟩) s m v
    (fun _ => .inl ⟨_, rfl⟩) (fun e => absurd e hp) (fun e => absurd e hd) (fun _ => .inl ⟨_, rfl⟩)
    (fun _ _ _ => .inr ⟨-1, (s.rp m).page.enh, (s.rp m).page.x26, [], false, rfl⟩)
    fun _ _ _ _ => .inr ⟨_, _, _, _, _, rfl⟩

theorem process26_plain (s : St) (mag0 : Nat) (v : View) (h : TextSlot (s.rp mag0).page.function) :
    Plain s (process26 s mag0 v).st mag0 := by
  rcases process26_text s mag0 v h with ⟨b, e⟩ | ⟨nt, enh, x26, ev, b, e⟩
  · rw [e]; exact Plain.refl s mag0 h
  · rw [e]; exact plain_setRp s mag0 _ h h

theorem parse27_plain (s : St) (mag0 : Nat) (v : View) (h : TextSlot (s.rp mag0).page.function) :
    Plain s (s.setPage mag0 (parse27 (s.rp mag0).page v mag0).1) mag0 := by
  obtain ⟨a, _⟩ := parse27_same (s.rp mag0).page v mag0
  exact plain_setPage s mag0 _ h (by rw [a]; exact h)

theorem storeExt_plain (s : St) (mag0 mag8 packet : Nat) (cv : Page) (ext : Ext)
    (h : TextSlot (s.rp mag0).page.function) (hc : cv.function = (s.rp mag0).page.function) :
    Plain s (storeExt s mag0 mag8 packet cv ext) mag0 := by
  unfold storeExt
  split
  · exact plain_setPage s mag0 _ h (by show TextSlot cv.function; rw [hc]; exact h)
  · exact ⟨rfl, rfl, h⟩

theorem parse2829_plain (s : St) (mag0 mag8 packet : Nat) (v : View) (h : TextSlot (s.rp mag0).page.function) :
    Plain s (parse2829 s mag0 mag8 packet v).1 mag0 :=
  parse2829_elim (P := fun s' => Plain s s' mag0) s mag0 mag8 packet v (Plain.refl s mag0 h)
    (fun d e => storeExt_plain s mag0 mag8 packet _ e h (selectExt_same s mag0 mag8 packet d).1)
    (fun _ _ cv hcv => plain_setPage s mag0 cv h (by
      rcases hcv with hu | e | e
      · rcases h with hf | hf <;> rw [hf] at hu <;> exact absurd hu (by decide)
      · rw [e]; exact h
      · exact Or.inr e))

theorem parse830_plain (s : St) (v : View) (m : Nat) (h : TextSlot (s.rp m).page.function) :
    Plain s (parse830 s v).1 m := by
  obtain ⟨ip, e⟩ := parse830_fst s v
  rw [e]; exact ⟨rfl, rfl, h⟩

/-- no packet but a page header looks a page up, stores one or writes a page type while the page in progress of its
    magazine is a text page or discarded: the table parsers `parse_btt`, `parse_mpt`, `parse_mpt_ex`, `parse_mip` and the
    `BTT_SUBTITLE` look-up are reached only from pages of function BTT / MPT / MPT-EX / MIP -/
theorem decode_plain (s : St) (p : Packet) (pmag : Nat) (ha : a16 p 0 = some pmag) (h0 : pmag >>> 3 ≠ 0)
    (h : TextSlot (s.rp (pmag &&& 7)).page.function) : Plain s (decodeTeletext s p).st (pmag &&& 7) := by
  rw [decode_eq_process s p pmag ha h0]
  exact process_elim (p := fun r => Plain s r.1.st (pmag &&& 7)) s pmag _ (Plain.refl s _ h) (fun h => absurd h h0)
    (fun _ _ => processRow_plain s _ _ _ _ h) (fun _ _ => process26_plain s _ _ h) (fun _ _ => parse27_plain s _ _ h)
    (fun _ _ => parse2829_plain s _ _ _ _ h) (fun _ => parse830_plain s _ _ h)

/-- IF `p` is a page header whose page number decodes THEN the page number is decimal (00..99) or the time-filling FF.
This excludes exactly the headers of hexadecimal page numbers, i.e. the pages that are not for display: the magazine
inventory page xFD (MIP), the magazine organisation table xFE (MOT), the basic TOP table 1F0 (BTT) and the TOP tables it
links (AIT, MPT, MPT-EX), 1E7 (EACEM trigger), POP / DRCS / data pages.  Nothing else is excluded: rows, X/26, X/27, X/28,
M/29, 8/30, undecodable packets, refused headers, C11, erase flag are all admitted.

Why: `parse_mip` (run when a page xFD is terminated), `parse_btt` (rows of 1F0) and the BTT link table write
`page_stat.page_type`; the header branch of packet.c derives the function of a page that is not cached yet from that
type (`functionOfType`), and a decimal page announced as, say, DRCS download page (0xE5) is not assembled as text.
Hexadecimal pages other than these would be harmless but are cached with function UNKNOWN / (G)DRCS; excluding them
keeps the invariant small: every cached page and every page in progress is a Level 1 text page (`TInv`). -/
def TextOnly (p : Packet) : Prop :=
  ∀ pmag page, a16 p 0 = some pmag → pmag >>> 3 = 0 → a16 p 2 = some page → decimalPage page ∨ page = 0xFF

theorem IsHeader.textOnly {p : Packet} {m page s12 s34 fl : Nat} (h : IsHeader p m page s12 s34 fl) (hdec : decimalPage page) :
    TextOnly p := by
  intro pmag page' _ _ hp
  rw [h.page] at hp; injection hp with hp
  rw [← hp]; exact Or.inl hdec

theorem IsPacket.textOnly {p : Packet} {m k : Nat} (hp : IsPacket p m k) (hk : 1 ≤ k) : TextOnly p :=
  fun pmag _ ha h0 _ => absurd h0 (hp.not_header hk pmag ha)

def TextTypes (n : Net) : Prop :=
  ∀ pgno, (n.getStat pgno).pageType = PT_UNKNOWN ∨ (n.getStat pgno).pageType = PT_NORMAL

theorem TextTypes.not_clock {n : Net} (h : TextTypes n) (pgno : Nat) : (n.getStat pgno).pageType ≠ PT_CLOCK := by
  rcases h pgno with e | e <;> rw [e] <;> decide

structure TNet (n : Net) : Prop where
  stat : TextTypes n
  cache : ∀ q ∈ n.cache, q.function = FN_LOP

structure TInv (s : St) : Prop where
  net : TNet s.net
  slots : ∀ c, c < 8 → TextSlot (s.rp c).page.function

theorem textType_of (n : Net) (pgno page : Nat) (h : TextTypes n) (hdec : decimalPage page) : TextType n pgno page := by
  unfold TextType functionOfType
  obtain ⟨d1, d2⟩ := hdec
  rcases h pgno with e | e
  · rw [e]
    simp [PT_UNKNOWN, PT_TOP_BLOCK, PT_TOP_GROUP, PT_SYSTEM, PT_TOP_PAGE, PT_TRIGGER, PT_EPG_DATA, PT_ACI, PT_NOT_PUBLIC,
      d1, d2]
  · rw [e]
    simp [PT_NORMAL]

/-- the `TextPage` hypothesis of the per-transmission theorems holds on a text-only network -/
theorem TNet.textPage {n : Net} (h : TNet n) (pgno page sp fl : Nat) (hdec : decimalPage page) :
    TextPage n pgno page (lookupPrev n pgno sp fl).1 := by
  unfold TextPage
  cases hp : (lookupPrev n pgno sp fl).1 with
  | none => exact textType_of n pgno page h.stat hdec
  | some q => exact Or.inl (h.cache q ((lookupPrev_net n pgno sp fl).2.2 q hp))

theorem cachePutF_mem_fn (fix : Bool) (c : List Page) (pt : Nat) (p : Page) :
    ∀ c', cachePutF fix c pt p = some c' → ∀ x ∈ c', x ∈ c ∨ x.function = p.function := by
  intro c' h x hx
  obtain ⟨q, rest, rfl, hq, hrest⟩ := cachePutF_spec fix c pt p c' h
  rcases List.mem_cons.mp hx with rfl | hx
  · exact Or.inr hq.fn
  · exact Or.inl (hrest x hx)

theorem TNet.put {n : Net} (h : TNet n) (p : Page) (hp : p.function = FN_LOP) : TNet (n.put p) := by
  unfold Net.put
  cases hc : cachePut n.cache (n.getStat p.pgno).pageType p with
  | none => exact h
  | some c =>
    refine ⟨h.stat, ?_⟩
    intro q hq
    rcases cachePutF_mem_fn _ _ _ _ c hc q hq with h1 | h1
    · exact h.cache q h1
    · rw [h1, hp]

theorem TNet.setStat {n : Net} (h : TNet n) (pgno : Nat) (f : PageStat → PageStat)
    (hf : (f (n.getStat pgno)).pageType = PT_UNKNOWN ∨ (f (n.getStat pgno)).pageType = PT_NORMAL) :
    TNet (n.setStat pgno f).1 := by
  refine ⟨?_, by rw [setStat_cache]; exact h.cache⟩
  intro pgno'
  rcases getStat_setStat n pgno f pgno' with e | e
  · rw [e]; exact h.stat pgno'
  · rw [e]; exact hf

theorem TNet.sub {n n' : Net} (h : TNet n) (hs : n'.stat = n.stat) (hc : CacheSub n n') : TNet n' :=
  ⟨fun pgno => by rw [getStat_congr n n' pgno hs]; exact h.stat pgno, fun q hq => h.cache q (hc q hq)⟩

theorem textTypes_fresh (n : Net) (hs : n.stat = List.replicate 0x800 PageStat.init) : TextTypes n := by
  intro pgno
  left
  unfold Net.getStat
  rw [hs]
  cases statIdx pgno with
  | none => rfl
  | some i =>
    simp only [List.getD_eq_getElem?_getD, List.getElem?_replicate]
    split <;> rfl

theorem tnet_fresh (n : Net) (hs : n.stat = List.replicate 0x800 PageStat.init) (hc : n.cache = []) : TNet n :=
  ⟨textTypes_fresh n hs, fun q hq => nomatch (hc ▸ hq : q ∈ ([] : List Page))⟩

theorem chswReset_tnet (s : St) : TNet (chswReset s).net := tnet_fresh _ rfl rfl

theorem statAtPut_text (n : Net) (vtp : Page) (h : TextTypes n) : (statAtPut n vtp).pageType = PT_NORMAL := by
  unfold statAtPut
  simp only []
  have e : ∀ ps : PageStat, ps.pageType = PT_NORMAL →
      (if ps.subcode ≥ 0xFFFE || vtp.subno > ps.subcode then { ps with subcode := vtp.subno % 65536 } else ps).pageType
        = PT_NORMAL :=
    fun ps hp => by split <;> exact hp
  apply e
  rcases h vtp.pgno with e | e <;> rw [e]
  · rfl
  · exact e

theorem storeLop_tnet (s : St) (vtp : Page) (h : TNet s.net) (hv : vtp.function = FN_LOP) : TNet (storeLop s vtp).1.net :=
  storeLop_elim (P := fun r => TNet r.1.net) s vtp (fun _ => chswReset_tnet s) (fun _ => h)
    (fun _ _ _ _ => (h.setStat vtp.pgno (fun _ => statAtPut s.net vtp) (Or.inr (statAtPut_text _ _ h.stat))).put vtp hv)

theorem TextSlot.desync (s : St) (c : Nat) (hl : c < s.raw.length) : TextSlot ((desync s).rp c).page.function :=
  Or.inr (desync_fn s c hl)

theorem TInv.desync {s : St} (h : TInv s) (hs : Shape s) : TInv (desync s) :=
  ⟨h.net, fun c hc => TextSlot.desync s c (by rw [hs.len]; exact hc)⟩

theorem TInv.tick {s : St} (h : TInv s) : TInv (tick s) := ⟨h.net, h.slots⟩

theorem terminatePage_tinv (s : St) (mag0 pgno page : Nat) (hm : mag0 < 8) (hs : Shape s) (h : TInv s) :
    TInv (terminatePage s mag0 pgno page).1 := by
  have hcl := terminatePage_closed s mag0 pgno page
  refine ⟨?_, fun c hc => ?_⟩
  · refine terminatePage_elim (p := fun T => TNet T.1.net) s mag0 pgno page (fun _ => h.net) (fun curr hcurr x ev hstep => ?_)
    show TNet x.net
    have hslot := h.slots curr (terminatedSlot_lt s mag0 pgno page curr hm hs.cur hcurr)
    cases hstep with
    | idle _ => exact h.net
    | lop hf => exact storeLop_tnet (s.setRp curr _) _ h.net (by rw [(lopParityCheck_keys _ _).2.2]; exact hf)
    | mip r _ hf => rcases hslot with e | e <;> rw [e] at hf <;> exact absurd hf (by decide)
    | put aux _ hf => exact absurd hslot (fun e => e.elim hf.2.1 hf.1)
  · rcases hcl.slots c with e | ⟨e, _⟩
    · rw [e]; exact h.slots c hc
    · exact Or.inr e

theorem hdrAbandon_tinv (s1 : St) (mag0 pgno : Nat) (hl : mag0 < s1.raw.length) (h : TInv s1) :
    TInv (hdrAbandon s1 mag0 pgno) := by
  refine ⟨h.net, fun c hc => ?_⟩
  by_cases e : c = mag0
  · subst e; rw [hdrAbandon_rp s1 c pgno hl]; exact Or.inr rfl
  · rw [hdrAbandon_other s1 mag0 c pgno e]; exact h.slots c hc

theorem lookupPrev_tnet (n : Net) (pgno sp fl : Nat) (h : TNet n) : TNet (lookupPrev n pgno sp fl).2.1 :=
  h.sub (lookupPrev_net n pgno sp fl).1 (lookupPrev_net n pgno sp fl).2.1

theorem hdrRejected_page {page : Nat} {a b c : Int} (h : hdrRejected page a b c = false) : page ≠ 0xFF := by
  unfold hdrRejected at h
  intro e
  subst e
  simp at h

theorem decode_text_header (s : St) (p : Packet) (m page : Nat) (hm : m < 8) (ha : a16 p 0 = some m)
    (hpg : a16 p 2 = some page) (hs : Shape s) (hmask : s.mask = true) (h : TInv s) (ht : TextOnly p) :
    ((decodeTeletext s p).st = hdrAbandon (terminatePage s m (mag8Of m * 256 + page) page).1 m (mag8Of m * 256 + page)
      ∧ (decodeTeletext s p).ev = (terminatePage s m (mag8Of m * 256 + page) page).2)
    ∨ ∃ sp fl, Opened (decodeTeletext s p).st (terminatePage s m (mag8Of m * 256 + page) page).1 m (mag8Of m * 256 + page)
          sp fl (payload p)
        ∧ ttxPages (decodeTeletext s p).ev = ttxPages (terminatePage s m (mag8Of m * 256 + page) page).2 := by
  obtain ⟨a1, a2⟩ := addr_hdr m hm
  cases hrej : hdrRejected page ((view Kind.hdr p).g16i 2) ((view Kind.hdr p).g16i 4) ((view Kind.hdr p).g16i 6) with
  | true =>
    rw [decode_hdr_rejected s p m page ha a2 hmask hpg hrej]
    simp only [a1]
    exact Or.inl ⟨rfl, rfl⟩
  | false =>
    have hdec : decimalPage page := (ht m page ha a2 hpg).resolve_right (hdrRejected_page hrej)
    obtain ⟨s12, s34, fl, e1, e2, e3, _, _⟩ := hdrRejected_fields p page hrej rfl
    obtain ⟨ho, he, _⟩ := decode_header_text s p m page s12 s34 fl ⟨hm, ha, hpg, e1, e2, e3⟩ hdec hmask
      (terminatePage s m (mag8Of m * 256 + page) page).1 (terminatePage s m (mag8Of m * 256 + page) page).2 rfl
      (by rw [(terminatePage_closed s m (mag8Of m * 256 + page) page).len]; exact hs.len)
      ((terminatePage_tinv s m (mag8Of m * 256 + page) page hm hs h).net.textPage _ _ _ _ hdec)
    exact Or.inr ⟨_, _, ho, he⟩

theorem decode_tinv (s : St) (p : Packet) (hs : Shape s) (hm : s.mask = true) (h : TInv s) (ht : TextOnly p) :
    TInv (decodeTeletext s p).st := by
  refine decode_elim (P := fun s' _ => TInv s') s p hs.len h (h.desync hs) (fun pmag ha h0 hq _ => ?_)
    (fun m page _ h0 ha hpg _ _ _ => ?_)
  · have hpl := decode_plain s p pmag ha h0 (h.slots (pmag &&& 7) (and7_lt pmag))
    refine ⟨h.net.sub hpl.stat (CacheSub.of_eq hpl.cache), fun c hc => ?_⟩
    by_cases e : c = pmag &&& 7
    · subst e; exact hpl.fn
    · rw [hq.other c e]; exact h.slots c hc
  · have hlt := (pmag_hdr m h0).2
    have hT := terminatePage_tinv s m (mag8Of m * 256 + page) page hlt hs h
    rcases decode_text_header s p m page hlt ha hpg hs hm h ht with ⟨e, _⟩ | ⟨sp, fl, ho, _⟩
    · rw [e]
      exact hdrAbandon_tinv _ m _ (by rw [(terminatePage_closed s m (mag8Of m * 256 + page) page).len, hs.len]; exact hlt) hT
    · refine ⟨by rw [ho.net]; exact lookupPrev_tnet _ _ _ _ hT.net, fun c hc => ?_⟩
      by_cases e : c = m
      · subst e; exact Or.inl ho.fn
      · rw [ho.other c e]; exact hT.slots c hc

theorem step_tinv (s : St) (p : Packet) (hs : Shape s) (hm : s.mask = true) (h : TInv s) (ht : TextOnly p) :
    TInv (step s p).1 := by
  rw [step_eq_decode s p hs.cd]
  exact decode_tinv (tick s) p (tick_shape hs) hm h.tick ht

theorem run_tinv (ps : List Packet) (s : St) (hs : Shape s) (hm : s.mask = true) (h : TInv s) (hp : ∀ p ∈ ps, TextOnly p) :
    TInv (run s ps).1 :=
  (run_keeps (I := fun s' => Shape s' ∧ s'.mask = true ∧ TInv s')
    (fun s' p h' g => ⟨(step_shape s' p h'.1).1, (step_shape s' p h'.1).2.trans h'.2.1, step_tinv s' p h'.1 h'.2.1 h'.2.2 g⟩)
    ps s ⟨hs, hm, h⟩ hp).2.2

theorem init_tinv : TInv (init.enable true) :=
  ⟨tnet_fresh _ rfl rfl, fun c hc => Or.inr (init_slots_discard true c hc)⟩

end Zvbi.Ttx
