import ZvbiModel.Ttx.Termination
import ZvbiModel.Ttx.TwoErrors
/-!
# An accepted page header: the state it leaves (`hdrOpen`), and the header and rows of a text page

`decode_hdr_accepted`: an accepted header as an equation (`terminatePage`, then the state `hdrOpen`).
`headerPage_text`: "Prepare for new page" on an accepted header of a decimal page = a text page
(LOP) carrying the transmitted numbers and flags, whose rows are those of the cached earlier
version (header row replaced) or blanks.  Needs: the cached version (if one is found) is a text
page, and the page type the network announced for this number (MIP / BTT) does not say otherwise
(`TextPage`): else packet.c gives the page another function and never treats it as text.
`IsHeader` / `IsPacket`: packets given by what the decoder reads out of them (decoded address and
header fields), so that the theorems cover every received packet that decodes - including ones with
corrected single-bit errors - not only the sender's encoding.
`step_row`: a row packet of the magazine whose page in progress is a text page.
`decode_header_text`: `processHeader` on a header all of whose Hamming bytes decode = `terminatePage`
(whatever page was in progress is closed: state `s1`), then slot `m` holds a text page set up from
the cached copy found by `lookupPrev s1.net` (header row replaced) or from blanks (`Opened`).
-/
namespace Zvbi.Ttx
open Zvbi.Hamm Zvbi.Gen Zvbi.Ttx.Spec

/-- a decimal page number byte (tens and units 0..9) -/
def decimalPage (page : Nat) : Prop := page ≤ 0x99 ∧ page &&& 15 ≤ 9

theorem headerLookup_net (n : Net) (cv : Page) :
    (headerLookup n cv).2.1.stat = n.stat ∧ (headerLookup n cv).2.1.bttLink = n.bttLink := by
  unfold headerLookup Net.get
  split
  · split <;> exact ⟨rfl, rfl⟩
  · exact ⟨rfl, rfl⟩

theorem functionOfType_congr (n n' : Net) (t pgno page : Nat) (h : n'.bttLink = n.bttLink) :
    functionOfType n' t pgno page = functionOfType n t pgno page := by
  unfold functionOfType
  rw [h]

theorem getStat_congr (n n' : Net) (pgno : Nat) (h : n'.stat = n.stat) : n'.getStat pgno = n.getStat pgno := by
  unfold Net.getStat; rw [h]

/-- the network has not announced (MIP, BTT) a page function other than "text page" for `pgno` -/
def TextType (n : Net) (pgno page : Nat) : Prop :=
  functionOfType n (n.getStat pgno).pageType pgno page = FN_LOP

/-- what the header needs to open a Level 1 text page: a cached earlier version must be a text page
    (or still unclassified); when the function is not inherited the announced page type must not say
    otherwise -/
def TextPage (n : Net) (pgno page : Nat) (prev : Option Page) : Prop :=
  match prev with
  | some q => q.function = FN_LOP ∨ (q.function = FN_UNKNOWN ∧ TextType n pgno page)
  | none => TextType n pgno page

theorem headerConvert_lop (n : Net) (cv : Page) (page : Nat) (h : cv.function = FN_LOP) :
    headerConvert n cv page = (cv, n, []) := by
  unfold headerConvert
  have : (cv.function == FN_UNKNOWN) = false := by rw [h]; decide
  simp [this]

theorem headerConvert_unknown (n : Net) (cv : Page) (page : Nat) (h : cv.function = FN_UNKNOWN)
    (ht : TextType n cv.pgno page) :
    headerConvert n cv page = ({ cv with function := FN_LOP }, n, []) := by
  unfold headerConvert
  unfold TextType at ht
  have h1 : (cv.function == FN_UNKNOWN) = true := by rw [h]; decide
  simp only [h1, if_true, ht]
  have h2 : (FN_LOP != FN_UNKNOWN) = true := by decide
  simp only [h2, if_true]
  unfold convertPage
  have h3 : (cv.function != FN_UNKNOWN) = false := by rw [h]; decide
  have h4 : (FN_LOP == FN_LOP) = true := by decide
  simp only [h3, h4, Bool.false_eq_true, if_false, if_true]

/-- the header fields written into the assembly page before the cache look-up -/
def hdrFields (cv0 : Page) (subpage fl : Nat) : Page :=
  { cv0 with subno := subpage &&& 0x3F7F, national := rev8 fl &&& 7, flags := (fl <<< 16) + subpage }

theorem headerFromCache_text (cv q : Page) (row0 : List Nat) (hq : q.function = FN_LOP ∨ q.function = FN_UNKNOWN) :
    (headerFromCache cv q row0).1.function = q.function ∧ (headerFromCache cv q row0).1.pgno = cv.pgno
    ∧ (headerFromCache cv q row0).1.subno = cv.subno ∧ (headerFromCache cv q row0).1.national = cv.national
    ∧ (headerFromCache cv q row0).1.flags = cv.flags ∧ (headerFromCache cv q row0).1.raw = q.raw.set 0 row0
    ∧ (headerFromCache cv q row0).2 = true := by
  unfold headerFromCache
  have c1 : (q.function == FN_UNKNOWN || q.function == FN_LOP) = true := by
    rcases hq with hq | hq <;> rw [hq] <;> decide
  simp [c1]

/-- "Prepare for new page" for a decimal page: the assembly page becomes a text page (LOP)
    with the transmitted numbers and flags, whose rows are those of the cached version found (header
    row replaced) or blanks -/
theorem headerPage_text (n : Net) (cv0 : Page) (mag8 page subpage fl : Nat) (row0 : List Nat)
    (hpg : cv0.pgno = mag8 * 256 + page) (hdec : decimalPage page)
    (htext : TextPage n cv0.pgno page (headerLookup n (hdrFields cv0 subpage fl)).1) :
    (headerPage n cv0 page subpage fl row0).1.function = FN_LOP
    ∧ (headerPage n cv0 page subpage fl row0).1.pgno = cv0.pgno
    ∧ (headerPage n cv0 page subpage fl row0).1.subno = subpage &&& 0x3F7F
    ∧ (headerPage n cv0 page subpage fl row0).1.national = rev8 fl &&& 7
    ∧ (headerPage n cv0 page subpage fl row0).1.flags = (match (headerLookup n (hdrFields cv0 subpage fl)).1 with
        | some _ => (fl <<< 16) + subpage
        | none => ((fl <<< 16) + subpage) ||| C4_ERASE_PAGE)
    ∧ (headerPage n cv0 page subpage fl row0).1.raw = (match (headerLookup n (hdrFields cv0 subpage fl)).1 with
        | some q => q.raw.set 0 row0
        | none => row0 :: List.replicate 25 blankRow)
    ∧ (headerPage n cv0 page subpage fl row0).2.2.2 = true
    ∧ (headerPage n cv0 page subpage fl row0).2.1 = (headerLookup n (hdrFields cv0 subpage fl)).2.1 := by
  obtain ⟨hst, hbl⟩ := headerLookup_net n (hdrFields cv0 subpage fl)
  have htt : ∀ (x : Page), x.pgno = cv0.pgno → TextType n cv0.pgno page →
      TextType (headerLookup n (hdrFields cv0 subpage fl)).2.1 x.pgno page := by
    intro x hx ht
    unfold TextType at ht ⊢
    rw [hx, functionOfType_congr n _ _ _ _ hbl, getStat_congr n _ _ hst]; exact ht
  have hcv : ({ cv0 with subno := subpage &&& 0x3F7F, national := rev8 fl &&& 7, flags := (fl <<< 16) + subpage } : Page) = hdrFields cv0 subpage fl := rfl
  unfold headerPage
  simp only [hcv]
  cases hlk : (headerLookup n (hdrFields cv0 subpage fl)).1 with
  | some q =>
    rw [hlk] at htext
    simp only []
    have hq' : q.function = FN_LOP ∨ q.function = FN_UNKNOWN := by
      rcases htext with h | ⟨h, _⟩
      · exact Or.inl h
      · exact Or.inr h
    obtain ⟨g1, g2, g3, g4, g5, g6, g7⟩ := headerFromCache_text (hdrFields cv0 subpage fl) q row0 hq'
    rcases htext with hq | ⟨hq, ht⟩
    · rw [headerConvert_lop _ (headerFromCache (hdrFields cv0 subpage fl) q row0).1 _ (by rw [g1]; exact hq)]
      exact ⟨by rw [g1]; exact hq, g2, g3, g4, g5, g6, g7, rfl⟩
    · rw [headerConvert_unknown _ (headerFromCache (hdrFields cv0 subpage fl) q row0).1 _ (by rw [g1]; exact hq)
        (htt _ g2 ht)]
      exact ⟨rfl, g2, g3, g4, g5, g6, g7, rfl⟩
  | none =>
    rw [hlk] at htext
    simp only []
    unfold headerFresh
    obtain ⟨d1, d2⟩ := hdec
    have e1 : ((hdrFields cv0 subpage fl).pgno == 0x1F0) = false := by
      show (cv0.pgno == 0x1F0) = false
      rw [hpg]; simp; omega
    have e2 : ((hdrFields cv0 subpage fl).pgno == 0x1E7) = false := by
      show (cv0.pgno == 0x1E7) = false
      rw [hpg]; simp; omega
    have e3 : (page == 0xFD) = false := by simp; omega
    have e4 : (page == 0xFE) = false := by simp; omega
    simp only [e1, e2, e3, e4, Bool.false_eq_true, if_false]
    have key : ∀ X : Page, X.function = FN_UNKNOWN → X.pgno = cv0.pgno →
        headerConvert (headerLookup n (hdrFields cv0 subpage fl)).2.1 X page
          = ({ X with function := FN_LOP }, (headerLookup n (hdrFields cv0 subpage fl)).2.1, []) :=
      fun X h1 h2 => headerConvert_unknown _ X _ h1 (htt X h2 htext)
    rw [key]
    · exact ⟨rfl, rfl, rfl, rfl, rfl, rfl, trivial, rfl⟩
    · rfl
    · rfl

/-- a received header packet of magazine `m` (0 = magazine 8) whose ten Hamming 8/4 bytes all decode
    (after correction): page number byte, S1S2, S3S4 (with C4..C6), control bits C7..C14 -/
structure IsHeader (p : Packet) (m page s12 s34 fl : Nat) : Prop where
  mag : m < 8
  addr : a16 p 0 = some m
  page : a16 p 2 = some page
  s12 : a16 p 4 = some s12
  s34 : a16 p 6 = some s34
  fl : a16 p 8 = some fl

/-- a received packet of magazine `m` with packet number `k` -/
def IsPacket (p : Packet) (m k : Nat) : Prop := m < 8 ∧ k < 32 ∧ a16 p 0 = some (m + 8 * k)

/-- the 40 bytes after the address -/
def payload (p : Packet) : List Nat := (List.range 40).map fun i => byte p (2 + i)

theorem view_rowRaw_raw (p : Packet) : (view Kind.rowRaw p).raw = payload p := by
  unfold view payload
  apply List.map_congr_left
  intro i hi
  rw [List.mem_range] at hi
  simp [Kind.isRaw, hi]

/-- the header row as `memcpy (raw[0], p, 40)` stores it -/
theorem hdr_row (p : Packet) : hdr8 p ++ (view Kind.hdr p).raw.drop 8 = payload p := by
  unfold hdr8 view payload
  apply List.ext_getElem?
  intro i
  simp only [List.getElem?_append, List.length_map, List.length_range, List.getElem?_map,
    List.getElem?_drop]
  by_cases h8 : i < 8
  · have : i < 40 := by omega
    simp [h8, this]
  · by_cases h40 : i < 40
    · have e : 8 + (i - 8) = i := by omega
      simp [h8, h40, e, Kind.isRaw]
    · have : ¬ 8 + (i - 8) < 40 := by omega
      simp [h8, h40, this]

/-- one row packet (1..25) of the magazine whose page in progress is a text page: the 40
    bytes go to `lop_raw[packet]`, the packet bit is set, nothing else changes, no event -/
theorem decode_row (s : St) (p : Packet) (m k : Nat) (hp : IsPacket p m k) (hk : 1 ≤ k ∧ k ≤ 25)
    (hmask : s.mask = true) (hfn : (s.rp m).page.function = FN_LOP) :
    decodeTeletext s p = ⟨s.setRp m
        { s.rp m with lopRaw := (s.rp m).lopRaw.set k (payload p), lopPackets := (s.rp m).lopPackets ||| (1 <<< k) },
        [], true⟩ := by
  obtain ⟨hm, hk32, ha⟩ := hp
  obtain ⟨a1, a2⟩ := addr_split m hm k hk32
  have h0 : (m + 8 * k) >>> 3 ≠ 0 := by omega
  rw [decode_eq_process s p _ ha h0,
    kindOf_rowRaw s _ _ hmask h0 (by omega) FN_LOP (by rw [a1]; exact hfn) (by decide),
    process_row s _ _ hmask h0 (by omega), a1, a2, processRow_lop _ _ _ _ _ hfn, view_rowRaw_raw]

theorem step_row (s : St) (p : Packet) (m k : Nat) (hp : IsPacket p m k) (hk : 1 ≤ k ∧ k ≤ 25)
    (hcd : s.chswcd = 0) (hmask : s.mask = true) (hfn : (s.rp m).page.function = FN_LOP) :
    step s p = (({ s with started := true } : St).setRp m
        { s.rp m with lopRaw := (s.rp m).lopRaw.set k (payload p), lopPackets := (s.rp m).lopPackets ||| (1 <<< k) }, []) := by
  unfold step
  rw [frameTick_idle s hcd]
  simp only []
  rw [decode_row ({ s with started := true } : St) p m k hp hk hmask hfn]
  rfl


/-- `vbi_decode` before the line when no channel-switch countdown runs -/
def tick (s : St) : St := { s with started := true }

theorem hdrRejected_ok (page s12 s34 fl : Nat) (h : page ≠ 0xFF) :
    hdrRejected page (s12 : Int) (s34 : Int) (fl : Int) = false := by
  unfold hdrRejected
  have h1 : (page == 0xFF) = false := by simpa using h
  have a : ¬ ((s12 : Int) < 0) := by omega
  have b : ¬ ((s34 : Int) < 0) := by omega
  have c : ¬ ((fl : Int) < 0) := by omega
  have d : ¬ ((s12 : Int) + (s34 : Int) * 256 < 0) := by omega
  split <;> simp [h1, a, b, c, d]

/-- the cache look-up of the header branch as a function of the header fields -/
def lookupPrev (n : Net) (pgno subpage fl : Nat) : Option Page × Net × List Aux :=
  if pgno != 0x1E7 && ((fl <<< 16) + subpage) &&& C4_ERASE_PAGE == 0 then n.get pgno (subpage &&& 0x3F7F) 0xFFFFFFFF
  else (none, n, [])

theorem headerLookup_eq (n : Net) (cv0 : Page) (subpage fl : Nat) :
    headerLookup n (hdrFields cv0 subpage fl) = lookupPrev n cv0.pgno subpage fl := rfl

theorem patch_raw (raw : List (List Nat)) (h8 X : List Nat) :
    (raw.set 0 (zeroRow.take 8 ++ X)).set 0 (h8 ++ ((raw.set 0 (zeroRow.take 8 ++ X)).getD 0 zeroRow).drop 8)
      = raw.set 0 (h8 ++ X) := by
  cases raw with
  | nil => rfl
  | cons x xs =>
    simp only [List.set_cons_zero, List.getD_cons_zero]
    have : (List.take 8 zeroRow ++ X).drop 8 = X := by
      rw [List.drop_append]
      simp [zeroRow]
    rw [this]

/-- slot `m` after an accepted header: the page `h.1` built by `headerPage` - the 8 Hamming bytes `h8` patched into
    its header row if that was copied (`h.2.2.2`) -, `lop_raw` kept, counters reset -/
def hdrSlot (x : RawPage) (h : Page × Net × List Aux × Bool) (h8 : List Nat) : RawPage :=
  { page := { h.1 with ext := { h.1.ext with designations := 0 },
                       raw := if h.2.2.2 then h.1.raw.set 0 (h8 ++ (h.1.raw.getD 0 zeroRow).drop 8) else h.1.raw },
    lopRaw := x.lopRaw, lopPackets := 0, numTriplets := 0 }

theorem hdrSlot_raw_length (x : RawPage) (h : Page × Net × List Aux × Bool) (h8 : List Nat) :
    (hdrSlot x h h8).page.raw.length = h.1.raw.length := by
  show (if h.2.2.2 = true then _ else _ : List (List Nat)).length = _
  split
  · exact List.length_set ..
  · rfl

/-- the state an accepted header of magazine `m` leaves; `t` = the state after the page in progress was closed -/
def hdrOpen (t : St) (m : Nat) (h : Page × Net × List Aux × Bool) (h8 : List Nat) : St :=
  { t with current := some m, net := h.2.1, raw := t.raw.set m (hdrSlot (t.rp m) h h8) }

theorem hdrOpen_rp (t : St) (m : Nat) (h : Page × Net × List Aux × Bool) (h8 : List Nat) (hl : m < t.raw.length) :
    (hdrOpen t m h h8).rp m = hdrSlot (t.rp m) h h8 := rp_setRp_same t m _ hl

theorem hdrOpen_other (t : St) (m c : Nat) (h : Page × Net × List Aux × Bool) (h8 : List Nat) (hc : c ≠ m) :
    (hdrOpen t m h h8).rp c = t.rp c := rp_setRp_other t m c _ hc

theorem hdrOpen_length (t : St) (m : Nat) (h : Page × Net × List Aux × Bool) (h8 : List Nat) :
    (hdrOpen t m h h8).raw.length = t.raw.length := setRp_length t m _

/-- the writes of the header branch to slot `m`, then the patch of the 8 Hamming bytes, as one state -/
theorem finish_opened (t : St) (m : Nat) (cv : Page) (h : Page × Net × List Aux × Bool) (ev : List Event) (h8 : List Nat) :
    finish (⟨({ ({ t.setPage m cv with current := some m } : St) with net := h.2.1 }).setRp m
        { ({ t.setPage m cv with current := some m } : St).rp m with
          page := { h.1 with ext := { h.1.ext with designations := 0 } }, lopPackets := 0, numTriplets := 0 },
      ev, true⟩, h.2.2.2) m h8 = ⟨hdrOpen t m h h8, ev, true⟩ := by
  by_cases hl : m < t.raw.length
  case neg =>
    have e : ∀ x, t.raw.set m x = t.raw := fun x => List.set_eq_of_length_le (by omega)
    simp only [finish, patchHdr8, hdrOpen, St.setPage, St.setRp, e]
    split <;> rfl
  have hx : ({ t.setPage m cv with current := some m } : St).rp m = { t.rp m with page := cv } :=
    rp_setPage_same t m cv hl
  rw [hx]
  obtain ⟨a, b, c, d⟩ := h
  have e : ∀ d', ({ ({ t.setPage m cv with current := some m } : St) with net := b }).setRp m
      { ({ t.rp m with page := cv } : RawPage) with
        page := { a with ext := { a.ext with designations := 0 } }, lopPackets := 0, numTriplets := 0 }
      = hdrOpen t m (a, b, d', false) h8 := fun d' => by
    unfold hdrOpen hdrSlot St.setRp St.setPage St.setRp
    simp only [List.set_set, Bool.false_eq_true, if_false]
  unfold finish
  cases d with
  | false => simp only [Bool.false_eq_true, if_false, e c]
  | true =>
    simp only [if_true, e c]
    unfold patchHdr8 St.setPage
    rw [hdrOpen_rp _ _ _ _ hl]
    unfold hdrOpen St.setRp hdrSlot
    simp only [List.set_set, Bool.false_eq_true, if_false, if_true]

/-- an accepted header through `processHeader`: the page in progress is closed, then slot `m` gets the page of `headerPage` -/
theorem processHeader_accept (s : St) (m mag8 : Nat) (v : View) (page : Nat) (hpg : v.g16 0 = some page)
    (hrej : hdrRejected page (v.g16i 2) (v.g16i 4) (v.g16i 6) = false) :
    processHeader s m mag8 v =
      let t := terminatePage s m (mag8 * 256 + page) page
      let cv := { (t.1.rp m).page with pgno := mag8 * 256 + page }
      let h := headerPage t.1.net cv page (v.g16i 2 + v.g16i 4 * 256).toNat (v.g16i 6).toNat (zeroRow.take 8 ++ v.raw.drop 8)
      (⟨({ ({ t.1.setPage m cv with current := some m } : St) with net := h.2.1 }).setRp m
        { ({ t.1.setPage m cv with current := some m } : St).rp m with
          page := { h.1 with ext := { h.1.ext with designations := 0 } }, lopPackets := 0, numTriplets := 0 },
        t.2 ++ liftAux h.2.2.1, true⟩, h.2.2.2) := by
  unfold processHeader
  rw [hpg]
  simp only [hrej]
  rfl

/-- the patch of the 8 Hamming bytes changes row 0 of the page in slot `m` only -/
theorem finish_rp (r : Res × Bool) (m : Nat) (h8 : List Nat) :
    ∃ raw, (finish r m h8).st.rp m = { r.1.st.rp m with page := { (r.1.st.rp m).page with raw := raw } } := by
  unfold finish
  split
  · unfold patchHdr8
    by_cases hl : m < r.1.st.raw.length
    · exact ⟨_, rp_setPage_same _ _ _ hl⟩
    · unfold St.setPage
      rw [setRp_ge _ _ _ hl]
      exact ⟨_, rfl⟩
  · exact ⟨_, rfl⟩

/-- **an accepted page header** through `vbi_decode_teletext`: the page in progress is closed (`terminatePage`), then
    slot `mag0` is opened with the page `headerPage` builds -/
theorem decode_hdr_accepted (s : St) (p : Packet) (pmag page : Nat) (ha : a16 p 0 = some pmag)
    (h0 : pmag >>> 3 = 0) (hm : s.mask = true) (hpg : a16 p 2 = some page)
    (hrej : hdrRejected page ((view Kind.hdr p).g16i 2) ((view Kind.hdr p).g16i 4) ((view Kind.hdr p).g16i 6) = false) :
    decodeTeletext s p =
      let mag0 := pmag &&& 7
      let pgno := mag8Of mag0 * 256 + page
      let t := terminatePage s mag0 pgno page
      let h := headerPage t.1.net { (t.1.rp mag0).page with pgno := pgno } page
        ((view Kind.hdr p).g16i 2 + (view Kind.hdr p).g16i 4 * 256).toNat ((view Kind.hdr p).g16i 6).toNat
        (zeroRow.take 8 ++ (view Kind.hdr p).raw.drop 8)
      ⟨hdrOpen t.1 mag0 h (hdr8 p), t.2 ++ liftAux h.2.2.1, true⟩ := by
  have hv : (view Kind.hdr p).g16 0 = some page := by rw [view_hdr_g16 p 0 (by omega)]; exact hpg
  rw [decode_hdr s p pmag ha h0 hm, processHeader_accept s _ _ _ page hv hrej]
  exact finish_opened _ _ _ _ _ _

/-- the state right after an accepted header opened a text page in slot `m`; `s1` = the state after
    the header terminated the page in progress -/
structure Opened (s' s1 : St) (m pgno subpage fl : Nat) (row : List Nat) : Prop where
  len : s'.raw.length = 8
  mask : s'.mask = s1.mask
  cd : s'.chswcd = s1.chswcd
  cur : s'.current = some m
  header : s'.header = s1.header ∧ s'.hdrPgno = s1.hdrPgno
  net : s'.net = (lookupPrev s1.net pgno subpage fl).2.1
  fn : (s'.rp m).page.function = FN_LOP
  pg : (s'.rp m).page.pgno = pgno
  sub : (s'.rp m).page.subno = subpage &&& 0x3F7F
  nat : (s'.rp m).page.national = rev8 fl &&& 7
  flags : (s'.rp m).page.flags = (match (lookupPrev s1.net pgno subpage fl).1 with
      | some _ => (fl <<< 16) + subpage
      | none => ((fl <<< 16) + subpage) ||| C4_ERASE_PAGE)
  raw : (s'.rp m).page.raw = (match (lookupPrev s1.net pgno subpage fl).1 with
      | some q => q.raw.set 0 row
      | none => row :: List.replicate 25 blankRow)
  lp : (s'.rp m).lopPackets = 0
  lr : (s'.rp m).lopRaw = (s1.rp m).lopRaw
  other : ∀ m', m' ≠ m → s'.rp m' = s1.rp m'

theorem decode_header_text (s : St) (p : Packet) (m page s12 s34 fl : Nat) (hp : IsHeader p m page s12 s34 fl)
    (hdec : decimalPage page) (hmask : s.mask = true)
    (s1 : St) (ev1 : List Event)
    (ht : terminatePage s m (mag8Of m * 256 + page) page = (s1, ev1)) (hlen1 : s1.raw.length = 8)
    (htext : TextPage s1.net (mag8Of m * 256 + page) page (lookupPrev s1.net (mag8Of m * 256 + page) (s12 + s34 * 256) fl).1) :
    Opened (decodeTeletext s p).st s1 m (mag8Of m * 256 + page) (s12 + s34 * 256) fl (payload p)
    ∧ ttxPages (decodeTeletext s p).ev = ttxPages ev1
    ∧ (Event.chsw ∈ (decodeTeletext s p).ev ↔ Event.chsw ∈ ev1) := by
  obtain ⟨a1, a2⟩ := addr_hdr m hp.mag
  have hl1 : m < s1.raw.length := by rw [hlen1]; exact hp.mag
  have e12 := hdr_g16i p 2 s12 (by omega) hp.s12
  have e34 := hdr_g16i p 4 s34 (by omega) hp.s34
  have efl := hdr_g16i p 6 fl (by omega) hp.fl
  have hrej : hdrRejected page ((view Kind.hdr p).g16i 2) ((view Kind.hdr p).g16i 4) ((view Kind.hdr p).g16i 6) = false := by
    rw [e12, e34, efl]; exact hdrRejected_ok page s12 s34 fl (by have := hdec.1; omega)
  rw [decode_hdr_accepted s p m page hp.addr a2 hmask hp.page hrej, e12, e34, efl]
  simp only [a1]
  have e1 : ((s12 : Int) + (s34 : Int) * 256).toNat = s12 + s34 * 256 := by omega
  have e2 : (fl : Int).toNat = fl := by omega
  rw [e1, e2, ht]
  have H := headerPage_text s1.net { (s1.rp m).page with pgno := mag8Of m * 256 + page } (mag8Of m) page
    (s12 + s34 * 256) fl (zeroRow.take 8 ++ (view Kind.hdr p).raw.drop 8) rfl hdec
    (by rw [headerLookup_eq]; exact htext)
  rw [headerLookup_eq] at H
  generalize headerPage s1.net { (s1.rp m).page with pgno := mag8Of m * 256 + page } page
    (s12 + s34 * 256) fl (zeroRow.take 8 ++ (view Kind.hdr p).raw.drop 8) = h at H ⊢
  obtain ⟨H1, H2, H3, H4, H5, H6, H7, H8⟩ := H
  refine ⟨⟨(hdrOpen_length ..).trans hlen1, rfl, rfl, rfl, ⟨rfl, rfl⟩, H8, ?_, ?_, ?_, ?_, ?_, ?_, ?_, ?_,
    fun c hc => hdrOpen_other _ _ _ _ _ hc⟩, ?_, ?_⟩
  any_goals rw [hdrOpen_rp _ _ _ _ hl1]
  · exact H1
  · exact H2
  · exact H3
  · exact H4
  · exact H5
  · show (if h.2.2.2 = true then _ else _) = _
    rw [if_pos H7, H6]
    cases (lookupPrev s1.net (mag8Of m * 256 + page) (s12 + s34 * 256) fl).1 with
    | some q => exact (patch_raw ..).trans (by rw [hdr_row])
    | none =>
      simp only [List.set_cons_zero, List.getD_cons_zero]
      rw [List.drop_append]
      simp [zeroRow, hdr_row]
  · rfl
  · rfl
  · rw [ttxPages_append, ttxPages_liftAux, List.append_nil]
  · exact ⟨fun h1 => (List.mem_append.mp h1).elim id fun h2 => absurd h2 (chsw_not_mem_liftAux _), List.mem_append_left _⟩

end Zvbi.Ttx
