import ZvbiModel.Ttx.HeaderFields
/-!
# C03: with at most two bit errors per Hamming 8/4 byte an accepted header
carries the transmitted magazine and page number (and, with repair F21, the transmitted subcode)

`FewFlips` (error pattern of a byte), `HdrChannel` (the ten Hamming bytes of a header, each with at most two errors),
`hdrKey_channel` (the statement of the title).  On the way: `a16_some`, `a16_lt` (a decoded pair is a byte), `g16i_some`
(the C `int` of a pair is non-negative only if both nibbles decoded), `hdrRejected_false`.
-/
namespace Zvbi.Ttx
open Zvbi.Hamm Zvbi.Gen Zvbi.Ttx.Spec

/-- error pattern of at most two inverted bits in a byte -/
def FewFlips (e : Nat) : Prop :=
  e = 0 ∨ (∃ j, j < 8 ∧ e = 1 <<< j) ∨ (∃ j k, j < 8 ∧ k < 8 ∧ j ≠ k ∧ e = 1 <<< j ^^^ 1 <<< k)

theorem unham8_few (c e : Nat) (hc : IsHam8 c) (he : FewFlips e) :
    unham8 (c ^^^ e) = none ∨ unham8 (c ^^^ e) = unham8 c := by
  obtain ⟨n, hn, rfl⟩ := hc
  rcases he with rfl | ⟨j, hj, rfl⟩ | ⟨j, k, hj, hk, hjk, rfl⟩
  · right; simp
  · right; rw [unham8_single n hn j hj, unham8_ham8 n hn]
  · left; rw [← Nat.xor_assoc]; exact unham8_double n hn j hj k hk hjk

/-- the received packet differs from the transmitted one by at most two bit errors in each of
    the ten Hamming 8/4 bytes of a header (address, page number, subcode, control) -/
def HdrChannel (tx rx : Packet) : Prop :=
  ∀ i, i < 10 → IsHam8 (byte tx i) ∧ ∃ e, FewFlips e ∧ byte rx i = byte tx i ^^^ e

theorem a8_channel {tx rx : Packet} (h : HdrChannel tx rx) (i : Nat) (hi : i < 10) :
    (a8 rx i = none ∨ a8 rx i = a8 tx i) ∧ ∃ n, a8 tx i = some n := by
  obtain ⟨hc, e, he, hb⟩ := h i hi
  refine ⟨?_, ?_⟩
  · unfold a8; rw [hb]; exact unham8_few _ e hc he
  · obtain ⟨n, hn, hcn⟩ := hc
    exact ⟨n, by unfold a8; rw [hcn]; exact unham8_ham8 n hn⟩

theorem view_hdr_g16i (p : Packet) (r : Nat) (hr : r + 1 < 8) :
    (view Kind.hdr p).g16i r =
      match a8 p (2 + r), a8 p (2 + r + 1) with
      | some a, some b => ((a ||| (b <<< 4) : Nat) : Int)
      | none, _ => -1
      | some a, none => (a : Int) - 16 := by
  unfold View.g16i
  rw [view_hdr_g8 p r (by omega), view_hdr_g8 p (r + 1) hr, show 2 + (r + 1) = 2 + r + 1 by omega]
  cases a8 p (2 + r) <;> cases a8 p (2 + r + 1) <;> rfl

theorem a16_channel {tx rx : Packet} (h : HdrChannel tx rx) (i v : Nat) (hi : i + 1 < 10)
    (hv : a16 rx i = some v) : a16 tx i = some v := by
  unfold a16 unham16p at hv ⊢
  have h0 := (a8_channel h i (by omega)).1
  have h1 := (a8_channel h (i + 1) (by omega)).1
  unfold a8 at h0 h1
  cases hr0 : unham8 (byte rx i) with
  | none => rw [hr0] at hv; simp at hv
  | some a =>
    cases hr1 : unham8 (byte rx (i + 1)) with
    | none => rw [hr0, hr1] at hv; simp at hv
    | some b =>
      rw [hr0] at h0; rw [hr1] at h1
      rcases h0 with h0 | h0
      · cases h0
      rcases h1 with h1 | h1
      · cases h1
      rw [← h0, ← h1]
      rw [hr0, hr1] at hv
      exact hv

theorem a16_some (p : Packet) (i v : Nat) (h : a16 p i = some v) :
    ∃ a b, a8 p i = some a ∧ a8 p (i + 1) = some b ∧ v = a ||| (b <<< 4) := by
  unfold a16 unham16p at h
  unfold a8
  cases ha : unham8 (byte p i) with
  | none => simp [ha] at h
  | some a =>
    cases hb : unham8 (byte p (i + 1)) with
    | none => simp [ha, hb] at h
    | some b => simp [ha, hb] at h; exact ⟨a, b, rfl, rfl, h.symm⟩

theorem a16_lt (p : Packet) (i v : Nat) (h : a16 p i = some v) : v < 256 := by
  obtain ⟨a, b, ha, hb, rfl⟩ := a16_some p i v h
  exact nibble_pair_lt (unham8_lt16 _ a ha) (unham8_lt16 _ b hb)

theorem hdr_g16i (p : Packet) (r v : Nat) (hr : r + 1 < 8) (h : a16 p (2 + r) = some v) :
    (view Kind.hdr p).g16i r = (v : Int) := by
  obtain ⟨a, b, ha, hb, hv⟩ := a16_some p (2 + r) v h
  rw [view_hdr_g16i p r hr, ha, hb, hv]

/-- the C `int` of a pair is non-negative only if both nibbles decoded -/
theorem g16i_some (p : Packet) (r : Nat) (hr : r + 1 < 8) (h : 0 ≤ (view Kind.hdr p).g16i r) :
    ∃ v, a16 p (2 + r) = some v ∧ (view Kind.hdr p).g16i r = (v : Int) := by
  rw [view_hdr_g16i p r hr] at h ⊢
  unfold a16 unham16p
  unfold a8 at h ⊢
  cases ha : unham8 (byte p (2 + r)) with
  | none => rw [ha] at h; simp at h
  | some a =>
    cases hb : unham8 (byte p (2 + r + 1)) with
    | none =>
      rw [ha, hb] at h
      have := unham8_lt16 _ a ha
      simp only [] at h
      omega
    | some b => exact ⟨a ||| (b <<< 4), by simp, rfl⟩

theorem g16i_channel {tx rx : Packet} (h : HdrChannel tx rx) (r : Nat) (hr : r + 1 < 8)
    (hv : 0 ≤ (view Kind.hdr rx).g16i r) : (view Kind.hdr tx).g16i r = (view Kind.hdr rx).g16i r := by
  obtain ⟨v, hv, e⟩ := g16i_some rx r hr hv
  rw [e, hdr_g16i tx r v hr (a16_channel h (2 + r) v (by omega) hv)]

/-- the transmitted header always decodes (all ten bytes are codewords): its pairs are non-negative -/
theorem g16i_tx_nonneg {tx rx : Packet} (h : HdrChannel tx rx) (r : Nat) (hr : r + 1 < 8) :
    0 ≤ (view Kind.hdr tx).g16i r := by
  rw [view_hdr_g16i tx r hr]
  obtain ⟨a, ha⟩ := (a8_channel h (2 + r) (by omega)).2
  obtain ⟨b, hb⟩ := (a8_channel h (2 + r + 1) (by omega)).2
  rw [ha, hb]
  simp only []
  omega


theorem hdrRejected_false {page : Nat} {s12 s34 fl : Int} (h : hdrRejected page s12 s34 fl = false) :
    0 ≤ fl ∧ (ttxFixF21 = true → 0 ≤ s12 ∧ 0 ≤ s34) ∧ (ttxFixF21 = false → 0 ≤ s12 + s34 * 256) := by
  unfold hdrRejected at h
  simp only [Bool.or_eq_false_iff, decide_eq_false_iff_not, Int.not_lt] at h
  refine ⟨h.2, ?_, ?_⟩
  · intro hf; rw [hf] at h; simp at h; omega
  · intro hf; rw [hf] at h; simp at h; omega

theorem hdrRejected_congr_page (page : Nat) (a b c a' b' c' : Int) (ha : a = a') (hb : b = b') (hc : c = c') :
    hdrRejected page a b c = hdrRejected page a' b' c' := by rw [ha, hb, hc]

theorem hdrKey_channel (tx rx : Packet) (hch : HdrChannel tx rx) (m pg sub : Nat)
    (h : hdrKey rx = some (m, pg, sub)) :
    ∃ sub', hdrKey tx = some (m, pg, sub') ∧ (ttxFixF21 = true → sub' = sub) := by
  obtain ⟨pmag, page, ha, h0, hpg, hr', rfl, rfl, rfl⟩ := (hdrKey_iff rx m pg sub).mp h
  have hat := a16_channel hch 0 pmag (by omega) ha
  have hgt := a16_channel hch 2 page (by omega) hpg
  obtain ⟨hfl, hfix, hunfix⟩ := hdrRejected_false hr'
  have efl := g16i_channel hch 6 (by omega) hfl
  have h12le := view_g16i_le Kind.hdr rx 2
  have h34 : 0 ≤ (view Kind.hdr rx).g16i 4 := by
    by_cases hf : ttxFixF21 = true
    · exact (hfix hf).2
    · have := hunfix (by simpa using hf); omega
  have e34 := g16i_channel hch 4 (by omega) h34
  have h12t := g16i_tx_nonneg hch 2 (by omega)
  by_cases hf : ttxFixF21 = true
  · have e12 := g16i_channel hch 2 (by omega) (hfix hf).1
    exact ⟨_, (hdrKey_iff tx _ _ _).mpr ⟨pmag, page, hat, h0, hgt, by rw [e12, e34, efl]; exact hr', rfl, rfl, rfl⟩,
      fun _ => by rw [e12, e34]⟩
  · have hf' : ttxFixF21 = false := by simpa using hf
    refine ⟨_, (hdrKey_iff tx _ _ _).mpr ⟨pmag, page, hat, h0, hgt, ?_, rfl, rfl, rfl⟩, fun h => absurd h hf⟩
    have hpage : (page == 0xFF) = false := by
      unfold hdrRejected at hr'
      simp only [Bool.or_eq_false_iff] at hr'
      exact hr'.1.1
    unfold hdrRejected
    rw [hf', hpage, e34, efl]
    simp only [Bool.false_eq_true, if_false, Bool.false_or, Bool.or_eq_false_iff, decide_eq_false_iff_not, Int.not_lt]
    exact ⟨by omega, hfl⟩

end Zvbi.Ttx
