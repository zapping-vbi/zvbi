import ZvbiModel.Ttx.Shape
/-!
# C02: magazine isolation in parallel mode

`Benign s p m' k`: what a packet `p` (magazine `m'`, packet number `k`) must avoid in state `s` so that it cannot
disturb the page another magazine is assembling - the four interferences E1-E4 of NOTES/C02.md, each shown real in
Props/C02Interleave.  `IInv`: the invariant of a network in parallel mode.
-/
namespace Zvbi.Ttx
open Zvbi.Hamm Zvbi.Gen Zvbi.Ttx.Spec

theorem IsPacket.not_header {p : Packet} {m k : Nat} (hp : IsPacket p m k) (hk : 1 ≤ k) (pmag : Nat)
    (ha : a16 p 0 = some pmag) : pmag >>> 3 ≠ 0 := by
  obtain ⟨hm, hk32, ha'⟩ := hp
  rw [ha'] at ha; injection ha with ha
  rw [← ha, (addr_split m hm k hk32).2]
  omega

theorem mag8Of_inj : ∀ a < 8, ∀ b < 8, mag8Of a = mag8Of b → a = b := by decide

/-- no page in progress carries C11 (magazine serial) -/
def AllParallel (s : St) : Prop := ∀ c, c < 8 → (s.rp c).page.flags &&& C11_MAGAZINE_SERIAL = 0

/-- a slot that is not discarded holds a page of its own magazine -/
def SlotsOwn (s : St) : Prop :=
  ∀ c, c < 8 → (s.rp c).page.function ≠ FN_DISCARD → ∃ page, page < 256 ∧ (s.rp c).page.pgno = mag8Of c * 256 + page

structure IInv (s : St) : Prop where
  shape : Shape s
  mask : s.mask = true
  par : AllParallel s
  own : SlotsOwn s

theorem IInv.tick {s : St} (h : IInv s) : IInv (tick s) := ⟨tick_shape h.shape, h.mask, h.par, h.own⟩

theorem IInv.quiet {s s' : St} {m : Nat} (h : IInv s) (q : Quiet s s' m) : IInv s' := by
  refine ⟨h.shape.quiet q, by rw [q.mask]; exact h.mask, ?_, ?_⟩
  · intro c hc
    by_cases e : c = m
    · subst e; rw [q.flags]; exact h.par c hc
    · rw [q.other c e]; exact h.par c hc
  · intro c hc hf
    by_cases e : c = m
    · subst e; rw [q.pgno]; exact h.own c hc (q.disc hf)
    · rw [q.other c e] at hf ⊢; exact h.own c hc hf

theorem parallelCur_of (s : St) (hs : Shape s) (hp : AllParallel s) (c : Nat) (hc : s.current = some c) : ParallelCur s :=
  ⟨c, hc, hp c (hs.cur c hc)⟩

theorem terminatedSlot_allParallel (s : St) (hs : Shape s) (hp : AllParallel s) (m' pgno page : Nat) :
    terminatedSlot s m' pgno page = none ∨ terminatedSlot s m' pgno page = some m' := by
  unfold terminatedSlot
  cases hc : s.current with
  | none => exact Or.inl rfl
  | some cmag =>
    -- the page of `cmag` carries no C11: the parallel branch, which answers `none` or the header's own magazine
    simp only [hp cmag (hs.cur cmag hc), bne_self_eq_false, Bool.false_and, ite_self, Bool.false_eq_true, if_false]
    split
    · exact Or.inl rfl
    · exact Or.inr rfl

/-- if the packet is a page header whose control byte C7..C14 decodes, C11 (magazine serial) is clear -/
def ParHdr (p : Packet) : Prop :=
  ∀ pmag, a16 p 0 = some pmag → pmag >>> 3 = 0 → ∀ fl, a16 p 8 = some fl → fl &&& 0x10 = 0

theorem IsPacket.parHdr {p : Packet} {m k : Nat} (hp : IsPacket p m k) (hk : 1 ≤ k) : ParHdr p :=
  fun pmag ha h0 => absurd h0 (hp.not_header hk pmag ha)

theorem IInv.desync {s : St} (h : IInv s) : IInv (desync s) := by
  refine ⟨h.shape.desync, h.mask, ?_, ?_⟩
  · intro c hc; rw [(slotKept_desync s c).id.1]; exact h.par c hc
  · intro c hc hf
    exfalso; apply hf
    exact desync_fn s c (by rw [h.shape.len]; exact hc)

theorem decode_iinv (s : St) (p : Packet) (hi : IInv s) (hpar : ParHdr p) : IInv (decodeTeletext s p).st := by
  obtain ⟨sh, hmask⟩ := decode_shape s p hi.shape
  revert sh hmask
  refine decode_elim (P := fun s' _ => Shape s' → s'.mask = s.mask → IInv s') s p hi.shape.len (fun _ _ => hi)
    (fun _ _ => hi.desync) (fun _ _ _ hq _ _ _ => hi.quiet hq) (fun m' page _ h0 ha hpage _ hs _ sh hmask => ?_)
  have hm8 := (pmag_hdr m' h0).2
  have hcl := terminatePage_closed s m' (mag8Of m' * 256 + page) page
  generalize terminatePage s m' (mag8Of m' * 256 + page) page = T at hs hcl
  obtain ⟨t, evt⟩ := T
  simp only [] at hs hcl
  refine ⟨sh, by rw [hmask]; exact hi.mask, ?_, ?_⟩
  · intro c hc
    by_cases e : c = m'
    · subst e
      rcases hs.flags with ⟨_, hfl, _⟩ | ⟨s12, s34, fl, e1, e2, e3, hfl, _⟩
      · rw [hfl, (hcl.slots c).id.1]; exact hi.par c hc
      · have b1 := a16_lt p 4 s12 e1
        have b2 := a16_lt p 6 s34 e2
        exact (c11_iff fl (s12 + s34 * 256) (by omega) hfl).mpr (hpar c ha h0 fl e3)
    · rw [hs.other c e, (hcl.slots c).id.1]; exact hi.par c hc
  · intro c hc hf
    by_cases e : c = m'
    · subst e; exact ⟨page, a16_lt p 2 page hpage, hs.pgno⟩
    · rw [hs.other c e] at hf ⊢
      rcases hcl.slots c with h | ⟨h, _⟩
      · rw [h] at hf ⊢; exact hi.own c hc hf
      · exact absurd h hf

/-- a packet of magazine `m'` with packet number `k` that cannot disturb other magazines in state `s` -/
structure Benign (s : St) (p : Packet) (m' k : Nat) : Prop where
  /-- E1: a header whose page number is uncorrectable makes packet.c call `vbi_teletext_desync` -/
  pgno : k = 0 → ∃ page, a16 p 2 = some page
  /-- E2: packet 26 on a page believed to be (G)DRCS / BTT / AIT / MPT / MPT-EX: `vbi_teletext_desync` -/
  x26 : k = 26 → ¬ X26Desync (s.rp m').page.function
  /-- E3: the page it terminates fails the rolling-header test: `vbi_chsw_reset` empties the cache -/
  nosw : Event.chsw ∉ (step s p).2
  /-- E4: a header carrying C11 (magazine serial) redirects the next termination to its own slot -/
  par : k = 0 → ∀ fl, a16 p 8 = some fl → fl &&& 0x10 = 0

theorem pgno_ne (m m' page page' : Nat) (hm : m < 8) (hm' : m' < 8) (hne : m' ≠ m) (h1 : page < 256) (h2 : page' < 256) :
    mag8Of m' * 256 + page' ≠ mag8Of m * 256 + page := by
  intro h
  have : mag8Of m' = mag8Of m := by omega
  exact hne (mag8Of_inj m' hm' m hm this)

theorem foreign_decode (s : St) (p : Packet) (m m' k : Nat) (hne : m' ≠ m) (hp : IsPacket p m' k) (hi : IInv s)
    (hpg : k = 0 → ∃ page, a16 p 2 = some page) (hx26 : k = 26 → ¬ X26Desync (s.rp m').page.function)
    (hnosw : Event.chsw ∉ (decodeTeletext s p).ev) (hpar : k = 0 → ∀ fl, a16 p 8 = some fl → fl &&& 0x10 = 0) :
    IInv (decodeTeletext s p).st ∧ (decodeTeletext s p).st.rp m = s.rp m
    ∧ (∀ x ∈ ttxPages (decodeTeletext s p).ev, ∃ page, page < 256 ∧ x.1 = mag8Of m' * 256 + page)
    ∧ ((∃ c, s.current = some c) → ∃ c, (decodeTeletext s p).st.current = some c) := by
  obtain ⟨hm', hk32, ha⟩ := hp
  obtain ⟨a1, a2⟩ := addr_split m' hm' k hk32
  have hne' : m ≠ m' := fun e => hne e.symm
  have hiinv : IInv (decodeTeletext s p).st := by
    apply decode_iinv s p hi
    intro pmag hpm h0
    rw [ha] at hpm; injection hpm with hpm
    rw [← hpm, a2] at h0
    exact hpar h0
  by_cases hk : k = 0
  · have h0 : (m' + 8 * k) >>> 3 = 0 := by rw [a2]; exact hk
    have hl : (m' + 8 * k) &&& 7 < s.raw.length := by rw [a1, hi.shape.len]; exact hm'
    rcases decode_header_frame s p (m' + 8 * k) ha h0 hi.mask hl rfl with ⟨hn, _⟩ | ⟨page, hpage, hs, l, hev⟩
    · obtain ⟨pg, hpg'⟩ := hpg hk
      rw [hpg'] at hn; cases hn
    · rw [a1] at hs hev
      have hmag8 : (if (m' == 0) = true then 8 else m') = mag8Of m' := rfl
      rw [hmag8] at hs hev
      have hcl := terminatePage_closed s m' (mag8Of m' * 256 + page) page
      have hts := terminatedSlot_allParallel s hi.shape hi.par m' (mag8Of m' * 256 + page) page
      generalize terminatePage s m' (mag8Of m' * 256 + page) page = T at hs hev hcl
      obtain ⟨t, evt⟩ := T
      simp only [] at hs hev hcl
      have hn : Event.chsw ∉ evt := by
        intro h; apply hnosw; rw [hev]; exact List.mem_append_left _ h
      have htsm : terminatedSlot s m' (mag8Of m' * 256 + page) page ≠ some m := by
        rcases hts with h | h <;> rw [h]
        · exact fun e => by cases e
        · intro e; injection e with e; exact hne e
      refine ⟨hiinv, ?_, ?_, ?_⟩
      · rw [hs.other m hne']
        exact hcl.other hn m htsm
      · intro x hx
        rw [hev, ttxPages_append, ttxPages_liftAux, List.append_nil] at hx
        obtain ⟨c, hc, hxe, hfn⟩ := hcl.pages x hx
        have hcm : c = m' := by
          rcases hts with h | h <;> rw [h] at hc
          · cases hc
          · injection hc with hc; exact hc.symm
        subst hcm
        obtain ⟨pg, hpg1, hpg2⟩ := hi.own c hm' (by rw [hfn]; decide)
        exact ⟨pg, hpg1, by rw [hxe]; exact hpg2⟩
      · intro _; exact ⟨m', hs.cur⟩
  · have h0 : (m' + 8 * k) >>> 3 ≠ 0 := by rw [a2]; exact hk
    obtain ⟨hq, hsil⟩ := decode_quiet s p (m' + 8 * k) ha h0
    rw [a1, a2] at hq
    rcases hq with hq | ⟨_, h26, _, hx⟩
    · refine ⟨hiinv, hq.other m hne', ?_, ?_⟩
      · intro x hx; rw [hsil.pages] at hx; cases hx
      · intro ⟨c, hc⟩; exact ⟨c, by rw [hq.cur]; exact hc⟩
    · exact absurd hx (hx26 h26)

/-- **magazine isolation**, for benign packets -/
theorem foreign_step (s : St) (p : Packet) (m m' k : Nat) (hne : m' ≠ m) (hp : IsPacket p m' k)
    (hi : IInv s) (hb : Benign s p m' k) :
    IInv (step s p).1 ∧ (step s p).1.rp m = s.rp m
    ∧ (∀ x ∈ ttxPages (step s p).2, ∃ page, page < 256 ∧ x.1 = mag8Of m' * 256 + page)
    ∧ ((∃ c, s.current = some c) → ∃ c, (step s p).1.current = some c) := by
  have hnosw := hb.nosw
  rw [step_eq_decode s p hi.shape.cd] at hnosw ⊢
  exact foreign_decode (tick s) p m m' k hne hp hi.tick hb.pgno hb.x26 hnosw hb.par

end Zvbi.Ttx
