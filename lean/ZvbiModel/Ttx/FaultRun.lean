import ZvbiModel.Ttx.AsmInv
/-!
# Fault freedom: DRCS conversion, page conversion and termination, the header, `vbi_decode_teletext`, all histories

`convert_drcs` offsets for every mode sequence (the only fault mark that can occur: `OnlyDrcsE`), page conversion,
termination and the header page; `decode_only` through the cases of `decode_cases` (a packet other than a header:
`Body.nofault`), up to `run_only`.
-/
namespace Zvbi.Ttx
open Zvbi.Hamm Zvbi.Gen Zvbi.Ttx.Spec

/-- one PTU at position `i < 48`, both repairs in: the accesses of a character that starts at `chars + 60 i` /
    `raw[1] + 20 i` stay inside the arrays, and a PTU of `n` characters advances the two offsets by `60 n` / `20 n` (the five
    rows of the mode table; modes 1 and 2 by whether the character would run past PTU 47) -/
theorem drcsPtu_spec (m i : Nat) (hi : i < DRCS_PTUS) :
    60 * i + (drcsPtu true true m i).2.1 ≤ DRCS_CHARS_BYTES ∧ 20 * i + (drcsPtu true true m i).2.2.1 ≤ DRCS_RAW_BYTES ∧
    (drcsPtu true true m i).2.2.2.1 = 60 * (drcsPtu true true m i).1 ∧
    (drcsPtu true true m i).2.2.2.2 = 20 * (drcsPtu true true m i).1 := by
  have e1 : DRCS_CHARS_BYTES = 2880 := by decide
  have e2 : DRCS_RAW_BYTES = 1000 := by decide
  have e3 : DRCS_PTUS = 48 := by decide
  rw [e3] at hi
  unfold drcsPtu
  rw [e1, e2, e3]
  simp only [Bool.true_and, if_true]
  repeat' split
  all_goals (simp only [decide_eq_true_eq] at *; first | (simp; done) | (simp; omega))

/-- the walk keeps `d = 60 i`, `p = 20 i` -/
theorem drcsWalk_false (modes : List Nat) (fuel i : Nat) :
    drcsWalk true true modes fuel i (60 * i) (20 * i) = false := by
  induction fuel generalizing i with
  | zero => rfl
  | succ fuel ih =>
    unfold drcsWalk
    by_cases hi : i ≥ DRCS_PTUS
    · rw [if_pos hi]
    · rw [if_neg hi]
      have hs := drcsPtu_spec (modes.getD i 0) i (by omega)
      generalize drcsPtu true true (modes.getD i 0) i = q at hs
      obtain ⟨n, w, r, dd, dp⟩ := q
      simp only [] at hs ⊢
      have hd : 60 * i + dd = 60 * (i + n) := by omega
      have hp : 20 * i + dp = 20 * (i + n) := by omega
      rw [hd, hp, ih (i + n)]
      simp only [Bool.or_false, Bool.or_eq_false_iff, decide_eq_false_iff_not, Nat.not_lt]
      omega

/-- with the repairs F22 (regenerated flag, checked here by `decide`)
    and "last PTU" in place, `convert_drcs` stays inside `drcs.chars[]` (writes) and `raw[1..25]`
    (reads) for EVERY sequence of 48 PTU modes -/
theorem drcs_offsets_in_range (hfix : ttxFixDrcsLastPtu = true) (modes : List Nat) :
    convertDrcsBounds modes = [] := by
  have h22 : ttxFixF22 = true := by decide
  unfold convertDrcsBounds
  rw [h22, hfix]
  have := drcsWalk_false modes DRCS_PTUS 0
  simp only [Nat.mul_zero] at this
  rw [this]; rfl

/-- the only fault mark that can occur is the DRCS one, and only while the "last PTU" repair is missing -/
def OnlyDrcsE (l : List Event) : Prop :=
  ∀ site, Event.aux (Aux.fault site) ∈ l → site = "drcs:chars" ∧ ttxFixDrcsLastPtu = false

theorem OnlyDrcsE.of_noFault {l : List Event} (h : NoFaultE l) : OnlyDrcsE l := fun site hs => absurd hs (h site)

theorem OnlyDrcsE.append {a b : List Event} (ha : OnlyDrcsE a) (hb : OnlyDrcsE b) : OnlyDrcsE (a ++ b) :=
  fun site h => (List.mem_append.mp h).elim (ha site) (hb site)

theorem OnlyDrcsE.nil : OnlyDrcsE [] := OnlyDrcsE.of_noFault NoFaultE.nil

theorem convertDrcsBounds_only (modes : List Nat) : OnlyDrcsE (liftAux (convertDrcsBounds modes)) := by
  by_cases hf : ttxFixDrcsLastPtu = true
  · rw [drcs_offsets_in_range hf]; exact OnlyDrcsE.nil
  · have hf' : ttxFixDrcsLastPtu = false := by simpa using hf
    intro site hs
    unfold convertDrcsBounds at hs
    split at hs
    · simp [liftAux] at hs
      exact ⟨hs, hf'⟩
    · simp [liftAux] at hs

theorem storeLop_nofault (s : St) (vtp : Page) (hp : PgnoOk vtp.pgno) : NoFaultE (storeLop s vtp).2 := by
  refine storeLop_cases s vtp (fun _ site hs => by simp at hs) (fun _ site hs => nomatch hs)
    fun copy clearCd roll hdrUpd clock pn site hs => ?_
  rw [setStat_nofault _ _ _ hp] at hs
  simp only [liftAux, List.map_nil, List.nil_append, List.cons_append, List.mem_cons] at hs
  rcases hs with hs | hs
  · cases hs
  · split at hs <;> simp at hs

theorem terminatePage_only (s : St) (mag0 pgno page : Nat)
    (hslot : ∀ curr, terminatedSlot s mag0 pgno page = some curr →
      (s.rp curr).page.function ≠ FN_DISCARD → PgnoOk (s.rp curr).page.pgno) :
    OnlyDrcsE (terminatePage s mag0 pgno page).2 := by
  refine terminatePage_elim s mag0 pgno page (fun _ => OnlyDrcsE.nil) fun curr hcurr x ev h => ?_
  have hs := hslot curr hcurr
  cases h with
  | idle => exact OnlyDrcsE.nil
  | lop hf =>
    refine OnlyDrcsE.of_noFault (storeLop_nofault _ _ ?_)
    rw [(lopParityCheck_keys _ _).1]
    exact hs (by rw [hf]; decide)
  | mip r hr hf => exact OnlyDrcsE.of_noFault (NoFaultE.lift (hr ▸ (parseMip_spec s.net _).2 (hs (by rw [hf]; decide))))
  | put aux ha =>
    refine OnlyDrcsE.append ?_ fun site h => by simp [St.put] at h
    rcases ha with rfl | rfl
    · exact OnlyDrcsE.nil
    · exact convertDrcsBounds_only _

/-- every live assembly slot carries a page number 0x100..0x8FF -/
def SlotsOk (s : St) : Prop :=
  (∀ c, s.current = some c → c < 8) ∧ ∀ m, m < 8 → (s.rp m).page.function ≠ FN_DISCARD → PgnoOk (s.rp m).page.pgno

theorem hdrKey_pgnoOk (p : Packet) (m pg sub : Nat) (h : hdrKey p = some (m, pg, sub)) : PgnoOk pg := by
  obtain ⟨pmag, page, _, _, hpg, _, _, rfl, _⟩ := (hdrKey_iff p m pg sub).mp h
  exact page_stat_pgno_in_range _ page (and7_lt pmag) (a16_lt p 2 page hpg)

theorem slotsOk_of_asmOk {s : St} {H : List Packet} (h : AsmOk s H) : SlotsOk s := by
  refine ⟨h.cur, ?_⟩
  intro m hm hf
  obtain ⟨p, _, mm, hk⟩ := h.slot m hm hf
  exact hdrKey_pgnoOk p mm _ _ hk

theorem decode_only (s : St) (p : Packet) (hs : SlotsOk s) : OnlyDrcsE (decodeTeletext s p).ev := by
  refine decode_cases s p (fun _ => OnlyDrcsE.nil) (fun _ _ => OnlyDrcsE.nil)
    (fun _ _ _ b => OnlyDrcsE.of_noFault (b.nofault trivial)) (fun pmag page t _ _ _ _ _ ht => ?_)
    fun pmag page t h _ _ _ hpg _ ht hh => ?_
  all_goals
    have hT : OnlyDrcsE t.2 := ht ▸ terminatePage_only s _ _ page fun curr hc hnd =>
      hs.2 curr (terminatedSlot_lt s _ _ page curr (and7_lt pmag) hs.1 hc) hnd
  · exact hT
  · have hp := page_stat_pgno_in_range (pmag &&& 7) page (and7_lt pmag) (a16_lt p 2 page hpg)
    exact hT.append (OnlyDrcsE.of_noFault (NoFaultE.lift (hh ▸ headerPage_nofault _ _ _ _ _ _ hp)))

theorem frameTick_only (s : St) : OnlyDrcsE (frameTick s).2 := by
  rcases frameTick_cases s with e | ⟨cd, e⟩ <;> rw [e]
  · intro site h; simp at h
  · exact OnlyDrcsE.nil

theorem step_only (s : St) (H : List Packet) (p : Packet) (hok : AsmOk s H) : OnlyDrcsE (step s p).2 := by
  rw [step_eq]
  exact OnlyDrcsE.append (frameTick_only s)
    (decode_only _ p (slotsOk_of_asmOk (frameTick_ok s H hok).1))

theorem run_only (s : St) (H ps : List Packet) (hok : AsmOk s H) : OnlyDrcsE (run s ps).2 :=
  (run_rel (I := fun s => AsmOk s (H ++ ps)) (G := fun p => p ∈ H ++ ps) (R := fun _ _ ev => OnlyDrcsE ev)
    (fun _ => OnlyDrcsE.nil) OnlyDrcsE.append (fun s p hok hp => ⟨(step_ok s _ p hok hp).1, step_only s _ p hok⟩) ps s
    (hok.mono ps) fun _ hp => List.mem_append_right _ hp).2

end Zvbi.Ttx
