import ZvbiModel.Ttx.CacheOps
import ZvbiModel.Hamm.Lemmas
import ZvbiModel.Hamm.Hamm24
/-!
# C03: a corrected bit error is invisible

The accessor view of a packet (`view`) does not see one inverted bit of a valid Hamming codeword
(`view_flip`: per accessor `a8_flip`, `a24_flip`, `raw_flip`), and `decodeTeletext` factors through the view
(`decode_flip`; `finish_irrelevant`, `hdr8_flip_outside` for a position outside the verbatim header bytes).
-/
namespace Zvbi.Ttx
open Zvbi.Hamm Zvbi.Gen Zvbi.Ttx.Spec

theorem byte_flip (p : Packet) (i b j : Nat) (hi : i < p.length) :
    byte (flipBit p i b) j = if j = i then byte p i ^^^ (1 <<< b) else byte p j := by
  unfold flipBit byte
  simp only [List.getD_eq_getElem?_getD, List.getElem?_set]
  by_cases hji : j = i
  · subst hji; simp [hi]
  · have : i ≠ j := fun h => hji h.symm
    simp [this, hji]

theorem byte_flip_ne (p : Packet) (i b j : Nat) (h : j ≠ i) : byte (flipBit p i b) j = byte p j := by
  unfold flipBit byte
  simp only [List.getD_eq_getElem?_getD, List.getElem?_set]
  have : i ≠ j := fun h' => h h'.symm
  simp [this]

/-- one corrected bit error is invisible to `vbi_unham8` -/
theorem unham8_flip (c b : Nat) (hc : IsHam8 c) (hb : b < 8) : unham8 (c ^^^ (1 <<< b)) = unham8 c := by
  obtain ⟨n, hn, rfl⟩ := hc
  rw [unham8_single n hn b hb, unham8_ham8 n hn]

theorem a24u_of_unham24p {a b c v : Nat} (h : unham24p a b c = some v) :
    (triD a b c ^^^ hamm24InvErr (triSyn a b c)) % 4294967296 = v % 4294967296 := by
  by_cases he : (hamm24InvErr (triSyn a b c) &&& 2147483648 != 0) = true
  · simp [unham24p, he] at h
  · simp [unham24p, he] at h; rw [h]

/-- one flipped bit in byte `o` of a valid triplet is corrected: the three byte-wise instances of
    `unham24p_pat` (a single-bit error pattern) in one -/
theorem unham24p_flip (a b c o k : Nat) (ha : a < 256) (hb : b < 256) (hc : c < 256)
    (hv : triSyn a b c = 0) (ho : o < 3) (hk : k < 8) :
    unham24p (if o = 0 then a ^^^ 1 <<< k else a) (if o = 1 then b ^^^ 1 <<< k else b)
      (if o = 2 then c ^^^ 1 <<< k else c) = unham24p a b c := by
  rw [unham24p_valid a b c hv]
  match o, ho with
  | 0, _ => simpa using unham24p_single0 a b c ha hv k hk
  | 1, _ => simpa using unham24p_single1 a b c ha hb hv k hk
  | 2, _ => simpa using unham24p_single2 a b c ha hc hv k hk

theorem wf_flip {p : Packet} (h : WellFormed p) (i b : Nat) : (flipBit p i b).length = 42 := by
  unfold flipBit; simp [h.1]

/-- address: a valid address byte with one flipped bit decodes as before -/
theorem a16_flip (p : Packet) (i b : Nat) (hw : WellFormed p) (hb : b < 8)
    (hv : i < 2 → IsHam8 (byte p i)) : a16 (flipBit p i b) 0 = a16 p 0 := by
  have hlen : ∀ j, j < 42 → j < p.length := fun j hj => by rw [hw.1]; exact hj
  unfold a16
  by_cases h0 : i = 0
  · subst h0
    rw [byte_flip p 0 b 0 (hlen 0 (by omega)), byte_flip_ne p 0 b 1 (by omega)]
    simp only [if_true]
    unfold unham16p
    rw [unham8_flip _ b (hv (by omega)) hb]
  · by_cases h1 : i = 1
    · subst h1
      rw [byte_flip p 1 b 1 (hlen 1 (by omega)), byte_flip_ne p 1 b 0 (by omega)]
      simp only [if_true]
      unfold unham16p
      rw [unham8_flip _ b (hv (by omega)) hb]
    · rw [byte_flip_ne p i b 0 (by omega), byte_flip_ne p i b 1 (by omega)]

/-- `Protected` without the state: relative to a fixed accessor kind -/
inductive ViewProt (k : Kind) (p : Packet) : Nat → Prop
  | addr (i : Nat) (hi : i < 2) : ViewProt k p i
  | h8 (r : Nat) (hk : k.isH8 r = true) (hv : IsHam8 (byte p (2 + r))) : ViewProt k p (2 + r)
  | h24 (j o : Nat) (hj : j < k.nTrip) (ho : o < 3)
      (hv : IsHam24 (byte p (3 + 3 * j)) (byte p (4 + 3 * j)) (byte p (5 + 3 * j))) : ViewProt k p (3 + 3 * j + o)

theorem kind_trip_h8 (k : Kind) (r : Nat) (h : 0 < k.nTrip) (hk : k.isH8 r = true) : r = 0 := by
  cases k <;> simp [Kind.nTrip, Kind.isH8] at h hk ⊢ <;> exact hk

theorem kind_trip_raw (k : Kind) (r : Nat) (h : 0 < k.nTrip) : k.isRaw r = false := by
  cases k <;> simp [Kind.nTrip, Kind.isRaw] at h ⊢

theorem kind_h8_raw (k : Kind) (r : Nat) (hk : k.isH8 r = true) : k.isRaw r = false := by
  cases k <;> simp [Kind.isH8, Kind.isRaw] at hk ⊢ <;> omega

theorem kind_nTrip_le (k : Kind) : k.nTrip ≤ 13 := by cases k <;> simp [Kind.nTrip]

theorem a8_flip_ne (p : Packet) (i b j : Nat) (h : j ≠ i) : a8 (flipBit p i b) j = a8 p j := by
  unfold a8; rw [byte_flip_ne p i b j h]

theorem a24_flip_ne (p : Packet) (i b j : Nat) (h : i < j ∨ j + 2 < i) : a24 (flipBit p i b) j = a24 p j := by
  unfold a24
  rw [byte_flip_ne p i b j (by omega), byte_flip_ne p i b (j + 1) (by omega), byte_flip_ne p i b (j + 2) (by omega)]

theorem a24u_flip_ne (p : Packet) (i b j : Nat) (h : i < j ∨ j + 2 < i) : a24u (flipBit p i b) j = a24u p j := by
  unfold a24u
  rw [byte_flip_ne p i b j (by omega), byte_flip_ne p i b (j + 1) (by omega), byte_flip_ne p i b (j + 2) (by omega)]

/-- the flipped byte lies in a valid triplet starting at `t` -/
theorem a24_flip_in (p : Packet) (t o b : Nat) (hw : WellFormed p) (ht : t + 2 < 42) (ho : o < 3) (hb : b < 8)
    (hv : IsHam24 (byte p t) (byte p (t + 1)) (byte p (t + 2))) :
    a24 (flipBit p (t + o) b) t = a24 p t ∧ a24u (flipBit p (t + o) b) t = a24u p t := by
  have hlen : t + o < p.length := by rw [hw.1]; omega
  have h := unham24p_flip (byte p t) (byte p (t + 1)) (byte p (t + 2)) o b (hw.2 _) (hw.2 _) (hw.2 _) hv ho hb
  -- byte `t + j` of the triplet after the flip
  have e : ∀ j, j < 3 → byte (flipBit p (t + o) b) (t + j) = if o = j then byte p (t + j) ^^^ 1 <<< b else byte p (t + j) := by
    intro j _
    rw [byte_flip p (t + o) b (t + j) hlen]
    by_cases h0 : o = j
    · subst h0; simp
    · rw [if_neg (by omega), if_neg h0]
  have e0 : byte (flipBit p (t + o) b) t = if o = 0 then byte p t ^^^ 1 <<< b else byte p t := e 0 (by omega)
  have ha : a24 (flipBit p (t + o) b) t = a24 p t := by
    unfold a24; rw [e0, e 1 (by omega), e 2 (by omega)]; exact h
  refine ⟨ha, ?_⟩
  have hs : a24 p t = some (triD (byte p t) (byte p (t + 1)) (byte p (t + 2))) := by
    unfold a24; exact unham24p_valid _ _ _ hv
  have h1 := a24u_of_unham24p (a := byte (flipBit p (t + o) b) t) (b := byte (flipBit p (t + o) b) (t + 1))
    (c := byte (flipBit p (t + o) b) (t + 2)) (by have := ha; unfold a24 at this; rw [this]; exact hs)
  have h2 := a24u_of_unham24p (a := byte p t) (b := byte p (t + 1)) (c := byte p (t + 2)) (by unfold a24 at hs; exact hs)
  unfold a24u
  rw [h1, h2]

theorem a8_flip (k : Kind) (p : Packet) (i b : Nat) (hw : WellFormed p) (hb : b < 8) (hp : ViewProt k p i) (r : Nat)
    (hr : r < 40) (hkr : k.isH8 r = true) : a8 (flipBit p i b) (2 + r) = a8 p (2 + r) := by
  cases hp with
  | addr i hi => exact a8_flip_ne p i b (2 + r) (by omega)
  | h8 r0 hk0 hv =>
    by_cases e : r = r0
    · subst e
      unfold a8
      rw [byte_flip p (2 + r) b (2 + r) (by rw [hw.1]; omega)]
      simp only [if_true]
      exact unham8_flip _ b hv hb
    · exact a8_flip_ne p (2 + r0) b (2 + r) (by omega)
  | h24 j o hj ho hv =>
    have := kind_trip_h8 k r (by omega) hkr
    subst this
    exact a8_flip_ne p _ b 2 (by omega)

theorem a24_flip (k : Kind) (p : Packet) (i b : Nat) (hw : WellFormed p) (hb : b < 8) (hp : ViewProt k p i) (j' : Nat)
    (hjn : j' < k.nTrip) :
    a24 (flipBit p i b) (3 + 3 * j') = a24 p (3 + 3 * j') ∧ a24u (flipBit p i b) (3 + 3 * j') = a24u p (3 + 3 * j') := by
  have hk13 := kind_nTrip_le k
  cases hp with
  | addr i hi => exact ⟨a24_flip_ne p i b _ (by omega), a24u_flip_ne p i b _ (by omega)⟩
  | h8 r0 hk0 hv =>
    have := kind_trip_h8 k r0 (by omega) hk0
    subst this
    exact ⟨a24_flip_ne p _ b _ (by omega), a24u_flip_ne p _ b _ (by omega)⟩
  | h24 j o hj ho hv =>
    by_cases e : j' = j
    · subst e
      exact a24_flip_in p (3 + 3 * j') o b hw (by omega) ho hb
        (by rwa [show 4 + 3 * j' = 3 + 3 * j' + 1 by omega, show 5 + 3 * j' = 3 + 3 * j' + 2 by omega] at hv)
    · exact ⟨a24_flip_ne p _ b _ (by omega), a24u_flip_ne p _ b _ (by omega)⟩

theorem raw_flip (k : Kind) (p : Packet) (i b : Nat) (hp : ViewProt k p i) (r : Nat) (hkr : k.isRaw r = true) :
    byte (flipBit p i b) (2 + r) = byte p (2 + r) := by
  cases hp with
  | addr i hi => exact byte_flip_ne p i b (2 + r) (by omega)
  | h8 r0 hk0 hv =>
    have hne : r ≠ r0 := fun e => by rw [e, kind_h8_raw k r0 hk0] at hkr; cases hkr
    exact byte_flip_ne p _ b _ (by omega)
  | h24 j o hj ho hv => rw [kind_trip_raw k r (by omega)] at hkr; cases hkr

/-- **view factoring**: a single bit error in a position which the kind reads through a Hamming
    accessor and which held a valid codeword leaves the whole accessor view unchanged -/
theorem view_flip (k : Kind) (p : Packet) (i b : Nat) (hw : WellFormed p) (hb : b < 8)
    (hp : ViewProt k p i) : view k (flipBit p i b) = view k p := by
  unfold view
  congr 1 <;> apply List.map_congr_left <;> intro r hr <;> rw [List.mem_range] at hr <;> split
  · exact a8_flip k p i b hw hb hp r hr ‹_›
  · rfl
  · exact (a24_flip k p i b hw hb hp r ‹_›).1
  · rfl
  · exact (a24_flip k p i b hw hb hp r ‹_›).2
  · rfl
  · exact raw_flip k p i b hp r ‹_›
  · rfl

theorem protected_addr_valid {s : St} {p : Packet} {i : Nat} (hp : Protected s p i) :
    i < 2 → IsHam8 (byte p i) := by
  intro hi
  cases hp with
  | addr i _ hv => exact hv
  | h8 pmag r ha hk hv => omega
  | h24 pmag j o ha hj ho hv => omega

theorem a8_2_flip {s : St} {p : Packet} {i b : Nat} (hw : WellFormed p) (hb : b < 8) (hp : Protected s p i) :
    a8 (flipBit p i b) 2 = a8 p 2 := by
  by_cases h2 : i = 2
  · cases hp with
    | addr i hi hv => omega
    | h8 pmag r ha hk hv =>
      have hr : r = 0 := by omega
      subst hr
      have hlen : 2 + 0 < p.length := by rw [hw.1]; omega
      unfold a8
      rw [byte_flip p (2 + 0) b 2 hlen]
      simp only [Nat.add_zero, if_true]
      exact unham8_flip _ b hv hb
    | h24 pmag j o ha hj ho hv => omega
  · exact a8_flip_ne p i b 2 (fun h => h2 h.symm)

theorem viewProt_of_protected {s : St} {p : Packet} {i pmag : Nat} (ha : a16 p 0 = some pmag)
    (hp : Protected s p i) : ViewProt (kindOf s pmag (a8 p 2)) p i := by
  cases hp with
  | addr i hi hv => exact ViewProt.addr i hi
  | h8 pmag' r ha' hk hv =>
    have : pmag' = pmag := by rw [ha'] at ha; exact Option.some.inj ha
    subst this
    exact ViewProt.h8 r hk hv
  | h24 pmag' j o ha' hj ho hv =>
    have : pmag' = pmag := by rw [ha'] at ha; exact Option.some.inj ha
    subst this
    exact ViewProt.h24 j o hj ho hv

/-- **view factoring of the decoder**: after a corrected single bit error the decoder computes
    exactly what it computes for the undamaged packet, from the same view; only the verbatim copy
    of the 8 header bytes (`hdr8`) can differ -/
theorem decode_flip (s : St) (p : Packet) (i b : Nat) (hw : WellFormed p) (hb : b < 8)
    (hp : Protected s p i) :
    decodeTeletext s (flipBit p i b) =
      match a16 p 0 with
      | none => ⟨s, [], false⟩
      | some pmag => finish (process s pmag (view (kindOf s pmag (a8 p 2)) p)) (pmag &&& 7) (hdr8 (flipBit p i b)) := by
  unfold decodeTeletext
  rw [a16_flip p i b hw hb (protected_addr_valid hp), a8_2_flip hw hb hp]
  cases ha : a16 p 0 with
  | none => rfl
  | some pmag =>
    simp only []
    rw [view_flip _ p i b hw hb (viewProt_of_protected ha hp)]

theorem hdr8_flip_outside (p : Packet) (i b : Nat) (h : i < 2 ∨ 10 ≤ i) : hdr8 (flipBit p i b) = hdr8 p := by
  unfold hdr8
  apply List.map_congr_left
  intro r hr
  rw [List.mem_range] at hr
  exact byte_flip_ne p i b (2 + r) (by omega)

/-- the decoder result does not depend on the verbatim header bytes unless a header was copied -/
theorem finish_irrelevant (s : St) (pmag : Nat) (d : Option Nat) (v : View) (a b : List Nat)
    (hk : kindOf s pmag d ≠ Kind.hdr) :
    finish (process s pmag v) (pmag &&& 7) a = finish (process s pmag v) (pmag &&& 7) b := by
  unfold finish
  by_cases hc : (process s pmag v).2 = true
  · obtain ⟨h0, hm⟩ := process_copied s pmag v hc
    exact absurd (kindOf_hdr s pmag d h0 hm) hk
  · simp [hc]

end Zvbi.Ttx
