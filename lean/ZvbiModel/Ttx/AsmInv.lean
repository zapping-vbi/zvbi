import ZvbiModel.Ttx.HeaderPage
/-!
# C03: every stored page carries the numbers of a received, accepted header

`AsmOk s H`: every slot in use holds numbers of an accepted header of the history `H`.  A step that leaves every slot
untouched or discarded keeps it (`AsmOk.kept`, read for the termination block off `Closed`), so does every packet but a
page header (`AsmOk.quiet`); only an accepted header gives a slot new numbers (`AsmOk.header`).  `decode_ok` goes through
the cases of `decode_cases`, `run_ok` over all packet histories.
-/
namespace Zvbi.Ttx
open Zvbi.Hamm Zvbi.Gen Zvbi.Ttx.Spec

/-- (pgno, subno) is what the decoder computed from some accepted header of the history -/
def Sent (H : List Packet) (pgno subno : Nat) : Prop :=
  ∃ p, p ∈ H ∧ ∃ m, hdrKey p = some (m, pgno, subno)

/-- invariant: every assembly slot that is not discarded holds the numbers of an accepted header -/
structure AsmOk (s : St) (H : List Packet) : Prop where
  len : s.raw.length = 8
  cur : ∀ c, s.current = some c → c < 8
  slot : ∀ m, m < 8 → (s.rp m).page.function ≠ FN_DISCARD → Sent H (s.rp m).page.pgno (s.rp m).page.subno

theorem AsmOk.mono {s : St} {H : List Packet} (h : AsmOk s H) (K : List Packet) : AsmOk s (H ++ K) :=
  ⟨h.len, h.cur, fun m hm hf => (h.slot m hm hf).imp fun _ hp => ⟨List.mem_append_left _ hp.1, hp.2⟩⟩

theorem AsmOk.kept {s s' : St} {H : List Packet} (h : AsmOk s H) (hl : s'.raw.length = s.raw.length)
    (hc : s'.current = s.current) (hs : ∀ c, SlotKept (s.rp c) (s'.rp c)) : AsmOk s' H := by
  refine ⟨hl.trans h.len, fun c hc' => h.cur c (hc ▸ hc'), fun m hm hf => ?_⟩
  rcases hs m with e | ⟨e, _⟩
  · rw [e] at hf ⊢; exact h.slot m hm hf
  · exact absurd e hf

theorem AsmOk.of_raw {s s' : St} {H : List Packet} (h : AsmOk s H) (hr : s'.raw = s.raw) (hc : s'.current = s.current) :
    AsmOk s' H :=
  h.kept (by rw [hr]) hc fun c => by rw [rp_congr hr c]; exact SlotKept.refl _

theorem AsmOk.quiet {s s' : St} {H : List Packet} {m : Nat} (h : AsmOk s H) (q : Quiet s s' m) : AsmOk s' H := by
  refine ⟨q.len.trans h.len, fun c hc => h.cur c (q.cur ▸ hc), fun c hc hf => ?_⟩
  by_cases e : c = m
  · subst e
    rw [q.pgno, q.subno]
    exact h.slot c hc (q.disc hf)
  · rw [q.other c e] at hf ⊢
    exact h.slot c hc hf

theorem AsmOk.header {s s' : St} {H : List Packet} (h : AsmOk s H) (m : Nat) (hm : m < 8)
    (hlen : s'.raw.length = s.raw.length) (hcur : s'.current = some m) (hother : ∀ c, c ≠ m → s'.rp c = s.rp c)
    (hslot : (s'.rp m).page.function ≠ FN_DISCARD → Sent H (s'.rp m).page.pgno (s'.rp m).page.subno) : AsmOk s' H := by
  refine ⟨hlen.trans h.len, fun c hc => ?_, fun c hc hf => ?_⟩
  · rw [hcur] at hc
    injection hc with hc
    exact hc ▸ hm
  · by_cases e : c = m
    · exact e ▸ hslot (e ▸ hf)
    · rw [hother c e] at hf ⊢
      exact h.slot c hc hf

theorem terminatePage_ok {s : St} {H : List Packet} (hok : AsmOk s H) (mag0 pgno page : Nat) (hm : mag0 < 8) :
    AsmOk (terminatePage s mag0 pgno page).1 H ∧
    ∀ q, Event.put q ∈ (terminatePage s mag0 pgno page).2 → Sent H q.pgno q.subno := by
  have c := terminatePage_closed s mag0 pgno page
  refine ⟨hok.kept c.len c.cur c.slots, fun q hq => ?_⟩
  obtain ⟨curr, hc, hnd, hf, hp, hs⟩ := terminatePage_puts s mag0 pgno page q hq
  rw [hp, hs]
  exact hok.slot curr (terminatedSlot_lt s mag0 _ page curr hm hok.cur hc) (by rw [← hf]; exact hnd)

theorem decode_ok (s : St) (H : List Packet) (p : Packet) (hok : AsmOk s H) (hp : p ∈ H) :
    AsmOk (decodeTeletext s p).st H ∧ ∀ q, Event.put q ∈ (decodeTeletext s p).ev → Sent H q.pgno q.subno := by
  have hnil : ∀ q, Event.put q ∈ ([] : List Event) → Sent H q.pgno q.subno := fun q h => nomatch h
  refine decode_cases s p (fun _ => ⟨hok, hnil⟩)
    (fun _ _ => ⟨hok.kept (desync_length s) rfl (slotKept_desync s), hnil⟩)
    (fun pmag _ _ b => ⟨hok.quiet b.quiet, fun q hq => absurd hq (b.silent.noput q)⟩)
    (fun pmag page t _ _ _ _ _ ht => ?_) fun pmag page t h ha h0 _ hpg hrej ht hh => ?_
  all_goals
    have hm8 := and7_lt pmag
    obtain ⟨hok1, hputs⟩ := ht ▸ terminatePage_ok hok (pmag &&& 7) (mag8Of (pmag &&& 7) * 256 + page) page hm8
    have hlt : pmag &&& 7 < t.1.raw.length := by rw [hok1.len]; exact hm8
  · refine ⟨hok1.header (pmag &&& 7) hm8 (hdrAbandon_length ..) rfl (fun c hc => hdrAbandon_other _ _ c _ hc) fun hf => ?_, hputs⟩
    rw [hdrAbandon_rp _ _ _ hlt] at hf
    exact absurd rfl hf
  · have hsent : Sent H (mag8Of (pmag &&& 7) * 256 + page)
        (((view Kind.hdr p).g16i 2 + (view Kind.hdr p).g16i 4 * 256).toNat &&& 0x3F7F) :=
      ⟨p, hp, pmag &&& 7, (hdrKey_iff p _ _ _).mpr ⟨pmag, page, ha, h0, hpg, hrej, rfl, rfl, rfl⟩⟩
    have hk := hh ▸ headerPage_keys t.1.net { (t.1.rp (pmag &&& 7)).page with pgno := mag8Of (pmag &&& 7) * 256 + page }
      page ((view Kind.hdr p).g16i 2 + (view Kind.hdr p).g16i 4 * 256).toNat ((view Kind.hdr p).g16i 6).toNat
      (zeroRow.take 8 ++ (view Kind.hdr p).raw.drop 8)
    refine ⟨hok1.header (pmag &&& 7) hm8 (hdrOpen_length ..) rfl (fun c hc => hdrOpen_other _ _ _ _ _ hc) fun _ => ?_,
      fun q hq => (List.mem_append.mp hq).elim (hputs q) fun hq => absurd hq (put_not_mem_liftAux _ q)⟩
    rw [hdrOpen_rp _ _ _ _ hlt]
    exact hk.1 ▸ hk.2 ▸ hsent

theorem frameTick_ok (s : St) (H : List Packet) (hok : AsmOk s H) :
    AsmOk (frameTick s).1 H ∧ ∀ q, Event.put q ∉ (frameTick s).2 := by
  rcases frameTick_cases s with e | ⟨cd, e⟩ <;> rw [e]
  · exact ⟨hok.kept (desync_length s) rfl fun c => rp_congr (chswReset_raw _) c ▸ slotKept_desync s c, fun q h => by simp at h⟩
  · exact ⟨hok.of_raw rfl rfl, fun q h => nomatch h⟩

theorem step_ok (s : St) (H : List Packet) (p : Packet) (hok : AsmOk s H) (hp : p ∈ H) :
    AsmOk (step s p).1 H ∧ ∀ q, Event.put q ∈ (step s p).2 → Sent H q.pgno q.subno := by
  rw [step_eq]
  have h1 := frameTick_ok s H hok
  have h2 := decode_ok (frameTick s).1 H p h1.1 hp
  exact ⟨h2.1, fun q hq => (List.mem_append.mp hq).elim (fun hq => absurd hq (h1.2 q)) (h2.2 q)⟩

theorem run_ok (s : St) (H ps : List Packet) (hok : AsmOk s H) :
    AsmOk (run s ps).1 (H ++ ps) ∧
    ∀ q, Event.put q ∈ (run s ps).2 → Sent (H ++ ps) q.pgno q.subno :=
  run_rel (I := fun s => AsmOk s (H ++ ps)) (G := fun p => p ∈ H ++ ps)
    (R := fun _ _ ev => ∀ q, Event.put q ∈ ev → Sent (H ++ ps) q.pgno q.subno) (fun _ _ h => nomatch h)
    (fun h1 h2 q hq => (List.mem_append.mp hq).elim (h1 q) (h2 q)) (fun s p => step_ok s _ p) ps s (hok.mono ps)
    fun _ hp => List.mem_append_right _ hp

theorem init_ok (on : Bool) : AsmOk (init.enable on) [] := by
  refine ⟨by cases on <;> decide, ?_, ?_⟩
  · intro c hc
    have : (init.enable on).current = none := by cases on <;> rfl
    rw [this] at hc; cases hc
  · intro m hm hf
    exfalso
    apply hf
    have : ∀ m < 8, ((init.enable on).rp m).page.function = FN_DISCARD := by cases on <;> decide +kernel
    exact this m hm

end Zvbi.Ttx
