import ZvbiModel.Ttx.FindFrame
import ZvbiModel.Ttx.ConsistentHdr
/-!
# C02: a cycle of transmissions, whatever the transmission mode

`SInv`: the invariant of a text-only network with one header template.  `seg_open_rows`, `seg_close_at`: opening and closing
a page in such a state.  `Mode`: what the induction over a cycle uses of the transmission mode; `Mode.cycle`: the cycle
theorem.
-/
namespace Zvbi.Ttx
open Zvbi.Hamm Zvbi.Gen Zvbi.Ttx.Spec

/-- sender-side conditions on a packet of a text-only network with one header template: consistent page header, page
    headers carry decimal or time-filling page numbers.  Nothing about C11. -/
def GoodS (tmpl : List Nat) (off : Nat) (p : Packet) : Prop := GoodHdr tmpl off p ∧ TextOnly p

/-- the invariant of a text-only network with one header template, whatever the transmission mode -/
structure SInv (tmpl : List Nat) (off : Nat) (s : St) : Prop where
  h : HInv tmpl off s
  mask : s.mask = true
  t : TInv s

theorem SInv.shape {tmpl : List Nat} {off : Nat} {s : St} (h : SInv tmpl off s) : Shape s := h.h.shape

theorem step_sinv {tmpl : List Nat} {off : Nat} (s : St) (p : Packet) (h : SInv tmpl off s) (g : GoodS tmpl off p) :
    SInv tmpl off (step s p).1 ∧ Event.chsw ∉ (step s p).2 := by
  obtain ⟨h1, n1⟩ := step_hinv tmpl off s p h.h g.1
  obtain ⟨_, hm⟩ := step_shape s p h.shape
  exact ⟨⟨h1, by rw [hm]; exact h.mask, step_tinv s p h.shape h.mask h.t g.2⟩, n1⟩

theorem run_sinv {tmpl : List Nat} {off : Nat} (ps : List Packet) : ∀ (s : St), SInv tmpl off s →
    (∀ p ∈ ps, GoodS tmpl off p) → SInv tmpl off (run s ps).1 ∧ Event.chsw ∉ (run s ps).2 :=
  run_inv step_sinv ps

theorem init_sinv (tmpl : List Nat) (off : Nat) : SInv tmpl off (init.enable true) :=
  ⟨init_hinv tmpl off true, rfl, init_tinv⟩

theorem SInv.tick {tmpl : List Nat} {off : Nat} {s : St} (h : SInv tmpl off s) : SInv tmpl off (tick s) :=
  ⟨h.h.tick, h.mask, h.t.tick⟩

theorem seg_open_rows (s : St) (hs : Shape s) (hmask : s.mask = true) (hti : TInv s) (t : Tx) (hdr : Packet) (rp : List RowPkt)
    (hh : IsHeader hdr t.m t.page t.s12 t.s34 t.fl) (hdec : decimalPage t.page)
    (hrows : ∀ r ∈ rp, IsPacket r.2 t.m r.1 ∧ 1 ≤ r.1 ∧ r.1 ≤ 25 ∧ GoodRow (payload r.2)) :
    Ready (run s (hdr :: rp.map (·.2))).1 (s1Of s t) t hdr (rowsOf rp)
    ∧ (run s (hdr :: rp.map (·.2))).1.current = some t.m
    ∧ (∀ f, GetKeeps f t.pgno t.subpage t.fl →
        (run s (hdr :: rp.map (·.2))).1.net.cache.find? f = (s1Of s t).net.cache.find? f)
    ∧ ttxPages (run s (hdr :: rp.map (·.2))).2 = ttxPages (terminatePage (tick s) t.m t.pgno t.page).2 := by
  have hm := hh.mag
  have hT := tick_shape hs
  have hL : ((s1Of s t).rp t.m).lopRaw.length = 26 :=
    ((hT.closed (fun c hc => terminatedSlot_lt _ _ _ _ c hm hT.cur hc) (terminatePage_closed (tick s) t.m t.pgno t.page)).slots
      t.m hm).1
  obtain ⟨hr, ha, hev⟩ := page_ready s hs.len hmask hs.cd t hdr hh hdec (s1Of s t) _ rfl
    ((terminatePage_tinv (tick s) t.m t.pgno t.page hm hT hti.tick).net.textPage _ _ _ _ hdec) hL rp hrows
  exact ⟨hr, ha.cur, fun f hg => by rw [ha.net]; exact hg _, hev⟩

theorem seg_close_at {tmpl : List Nat} {off : Nat} (s s1 : St) (h : SInv tmpl off s) (t : Tx) (hdr : Packet)
    (rows : List (Nat × List Nat)) (hr : Ready s s1 t hdr rows)
    (mQ pgnoQ pageQ : Nat) (hmQ : mQ < 8) (hts : terminatedSlot (tick s) mQ pgnoQ pageQ = some t.m) :
    ∃ q rest pt, (terminatePage (tick s) mQ pgnoQ pageQ).1.net.cache = q :: rest
      ∧ Fetched q t s1 hdr rows pt ∧ pt ≠ PT_CLOCK
      ∧ ttxPages (terminatePage (tick s) mQ pgnoQ pageQ).2 = [(t.pgno, t.subno)]
      ∧ (∀ f, PutKeeps f t.pgno t.subno →
          (terminatePage (tick s) mQ pgnoQ pageQ).1.net.cache.find? f = s.net.cache.find? f)
      ∧ CarriesAux q (s.rp t.m).page := by
  have hT := h.tick
  have hn := (terminatePage_hinv tmpl off (tick s) mQ pgnoQ pageQ hmQ hT.h).2
  obtain ⟨q, rest, pt, h1, h2, hc, h3, h4⟩ := page_stored_at s s1 t hdr rows hr mQ pgnoQ pageQ hts hn
  refine ⟨q, rest, pt, h1, h2, fun hpt => h.t.net.stat.not_clock t.pgno (h3 hpt), h4, fun f hf => ?_, hc⟩
  · apply terminatePage_find (tick s) mQ pgnoQ pageQ f hmQ hT.shape hT.t hn
    intro curr hcurr _
    rw [hts] at hcurr
    injection hcurr with hcurr
    subst hcurr
    show PutKeeps f (s.rp t.m).page.pgno (s.rp t.m).page.subno
    rw [hr.pg, hr.sub]; exact hf

/-- a transmission of rows only: the decoded header fields, the header packet, the row packets (number, packet) -/
abbrev STx := Tx × Packet × List RowPkt

/-- neighbours differ -/
def Alt : List Nat → Prop
  | a :: b :: r => a ≠ b ∧ Alt (b :: r)
  | _ => True

theorem alt_of_adj {α : Type} (key : α → Nat) (k : Nat) : ∀ (l : List α), (∀ x ∈ l, key x ≠ k) →
    (∀ pre a b post, l = pre ++ a :: b :: post → key a ≠ key b) → Alt (l.map key ++ [k])
  | [], _, _ => trivial
  | [a], hk, _ => ⟨hk a List.mem_cons_self, trivial⟩
  | a :: b :: r, hk, h => ⟨h [] a b r rfl, alt_of_adj key k (b :: r) (fun x hx => hk x (List.mem_cons_of_mem _ hx))
      (fun pre a' b' post e => h (a :: pre) a' b' post (by rw [e]; rfl))⟩

/-- `Mode tmpl off α`: what the induction over a cycle of transmissions `α` uses of the transmission mode.  A transmission has
decoded header fields `t`, a header packet, packets and received rows; neighbours of a cycle differ in `key`.  `Inv` is the
decoder invariant (at least `SInv`), `Ok` the sender conditions, `Cur s x` what the mode knows of `vt.current` while the page
of `x` is assembled.  `Mode.Asm s s1 x`: in `s` the page of `x` is assembled (`Ready`), `s1` being the state in which its header
had closed the page before.  `P` are the look-up predicates spoken of, `evs` the
events counted, `Q mQ pgnoQ pageQ kQ` the headers that may close a page (`kQ` their key).
`opn`: header and packets of `x` from an `Inv` state; `closes`: a closing header with another key terminates the slot of `x` -
the only thing the mode decides about closing (`Mode.cls`). -/
structure Mode (tmpl : List Nat) (off : Nat) (α : Type) where
  t : α → Tx
  hdr : α → Packet
  pkts : α → List Packet
  rows : α → List (Nat × List Nat)
  key : α → Nat
  Inv : St → Prop
  Ok : α → Prop
  Cur : St → α → Prop
  P : (Page → Bool) → Prop
  evs : List Event → List (Nat × Nat)
  Q : Nat → Nat → Nat → Nat → Prop
  base : ∀ s, Inv s → SInv tmpl off s
  evs_append : ∀ a b, evs (a ++ b) = evs a ++ evs b
  evs_congr : ∀ a b, ttxPages a = ttxPages b → evs a = evs b
  evs_own : ∀ x ev, Ok x → ttxPages ev = [((t x).pgno, (t x).subno)] → evs ev = [((t x).pgno, (t x).subno)]
  okDec : ∀ x, Ok x → (t x).m < 8 ∧ decimalPage (t x).page
  okP : ∀ x, Ok x → ∀ k mask, P (keyMatch (t x).pgno k mask)
  okQ : ∀ x, Ok x → Q (t x).m (t x).pgno (t x).page (key x)
  magQ : ∀ mQ pgnoQ pageQ kQ, Q mQ pgnoQ pageQ kQ → mQ < 8
  opn : ∀ s x, Inv s → Ok x →
    Inv (run s (pkts x)).1
    ∧ (Ready (run s (pkts x)).1 (s1Of s (t x)) (t x) (hdr x) (rows x) ∧ Cur (run s (pkts x)).1 x)
    ∧ (∀ f, P f → GetKeeps f (t x).pgno (t x).subpage (t x).fl →
        (run s (pkts x)).1.net.cache.find? f = (s1Of s (t x)).net.cache.find? f)
    ∧ evs (run s (pkts x)).2 = evs (terminatePage (tick s) (t x).m (t x).pgno (t x).page).2
  closes : ∀ s s1 x, Inv s → Ok x → Ready s s1 (t x) (hdr x) (rows x) → Cur s x →
    ∀ mQ pgnoQ pageQ kQ, Q mQ pgnoQ pageQ kQ → kQ ≠ key x → terminatedSlot (tick s) mQ pgnoQ pageQ = some (t x).m

variable {tmpl : List Nat} {off : Nat} {α : Type} (M : Mode tmpl off α)

/-- in `s` the page of `x` is assembled; `s1` = the state in which its header had closed the page before -/
def Mode.Asm (s s1 : St) (x : α) : Prop := Ready s s1 (M.t x) (M.hdr x) (M.rows x) ∧ M.Cur s x

theorem Mode.cls (s s1 : St) (x : α) (h : M.Inv s) (hx : M.Ok x) (ha : M.Asm s s1 x) (mQ pgnoQ pageQ kQ : Nat)
    (hQ : M.Q mQ pgnoQ pageQ kQ) (hne : kQ ≠ M.key x) :
    ∃ q rest pt, (terminatePage (tick s) mQ pgnoQ pageQ).1.net.cache = q :: rest
      ∧ Fetched q (M.t x) s1 (M.hdr x) (M.rows x) pt ∧ pt ≠ PT_CLOCK
      ∧ M.evs (terminatePage (tick s) mQ pgnoQ pageQ).2 = [((M.t x).pgno, (M.t x).subno)]
      ∧ (∀ f, PutKeeps f (M.t x).pgno (M.t x).subno →
          (terminatePage (tick s) mQ pgnoQ pageQ).1.net.cache.find? f = s.net.cache.find? f)
      ∧ CarriesAux q (s.rp (M.t x).m).page := by
  obtain ⟨q, rest, pt, c1, c2, c3, c4, c5, c6⟩ := seg_close_at s s1 (M.base s h) (M.t x) (M.hdr x) (M.rows x) ha.1
    mQ pgnoQ pageQ (M.magQ _ _ _ _ hQ) (M.closes s s1 x h hx ha.1 ha.2 mQ pgnoQ pageQ kQ hQ hne)
  exact ⟨q, rest, pt, c1, c2, c3, M.evs_own x _ hx c4, c5, c6⟩

/-- by recursion over the cycle (`s` = the state in which the transmission's header arrives): the page is stored as `Fetched`
    says, its page type is not "clock page", the final cache chain `cT` finds under every predicate `f` in `P` that no LATER
    transmission disturbs (`Undist`) what the chain found right after the page was stored, and the entry carries the link /
    extension data of the page in progress when its closing header arrives -/
def Mode.Claims (cT : List Page) : St → List α → Prop
  | _, [] => True
  | s, x :: xs =>
    (∃ q rest pt, Fetched q (M.t x) (s1Of s (M.t x)) (M.hdr x) (M.rows x) pt ∧ pt ≠ PT_CLOCK
      ∧ (∀ f, M.P f → (∀ y ∈ xs, Undist f (M.t y)) → cT.find? f = (q :: rest).find? f)
      ∧ CarriesAux q ((run s (M.pkts x)).1.rp (M.t x).m).page)
    ∧ Mode.Claims cT (run s (M.pkts x)).1 xs

/-- the induction: `s` = the state after the packets of `x0`, `xs` = the rest of the cycle, terminated by a header
    `mF pgnoF pageF` (only its termination block is looked at).  The state `s1` in which the header of `x0` had closed the
    page before is free, for the transmissions of `xs` it is `s1Of`: so the claim about `x0` stands beside `Claims` -/
theorem Mode.ind (mF pgnoF pageF kF : Nat) (hF : M.Q mF pgnoF pageF kF) : ∀ (xs : List α) (s s1 : St) (x0 : α),
    M.Inv s → M.Ok x0 → M.Asm s s1 x0 → (∀ x ∈ xs, M.Ok x) → Alt ((x0 :: xs).map M.key ++ [kF]) →
    (∃ q rest pt, Fetched q (M.t x0) s1 (M.hdr x0) (M.rows x0) pt ∧ pt ≠ PT_CLOCK
        ∧ (∀ f, M.P f → (∀ y ∈ xs, Undist f (M.t y)) →
          (terminatePage (tick (run s (xs.flatMap M.pkts)).1) mF pgnoF pageF).1.net.cache.find? f = (q :: rest).find? f)
        ∧ CarriesAux q (s.rp (M.t x0).m).page)
    ∧ M.Claims (terminatePage (tick (run s (xs.flatMap M.pkts)).1) mF pgnoF pageF).1.net.cache s xs
    ∧ (∀ f, M.P f → (∀ y ∈ x0 :: xs, Undist f (M.t y)) →
        (terminatePage (tick (run s (xs.flatMap M.pkts)).1) mF pgnoF pageF).1.net.cache.find? f = s.net.cache.find? f)
    ∧ M.evs ((run s (xs.flatMap M.pkts)).2 ++ (terminatePage (tick (run s (xs.flatMap M.pkts)).1) mF pgnoF pageF).2)
        = (x0 :: xs).map (fun x => ((M.t x).pgno, (M.t x).subno))
    ∧ M.Inv (run s (xs.flatMap M.pkts)).1 := by
  intro xs
  induction xs with
  | nil =>
    intro s s1 x0 h h0 ha _ halt
    obtain ⟨q, rest, pt, c1, c2, c3, c4, c5, c6⟩ :=
      M.cls s s1 x0 h h0 ha mF pgnoF pageF kF hF (fun e => halt.1 e.symm)
    simp only [List.flatMap_nil, run_nil, List.nil_append]
    exact ⟨⟨q, rest, pt, c2, c3, fun f _ _ => by rw [c1], c6⟩, trivial,
      fun f _ hu => c5 f (hu _ List.mem_cons_self).put, c4, h⟩
  | cons x1 xs ih =>
    intro s s1 x0 h h0 ha hxs halt
    have h1 := hxs _ List.mem_cons_self
    -- closing x0 by the header of x1, opening x1, the rest of the cycle
    obtain ⟨q, rest, pt, c1, c2, c3, c4, c5, c6⟩ :=
      M.cls s s1 x0 h h0 ha _ _ _ _ (M.okQ x1 h1) (fun e => halt.1 e.symm)
    obtain ⟨o1, o2, o3, o4⟩ := M.opn s x1 h h1
    obtain ⟨r1, r2, r3, r4, r5⟩ := ih (run s (M.pkts x1)).1 (s1Of s (M.t x1)) x1 o1 h1 o2
      (fun x hx => hxs x (List.mem_cons_of_mem _ hx)) halt.2
    rw [List.flatMap_cons, run_append]
    simp only []
    refine ⟨⟨q, rest, pt, c2, c3, ?_, c6⟩, ⟨r1, r2⟩, ?_, ?_, r5⟩
    · intro f hf hu
      rw [r3 f hf hu, o3 f hf (hu _ List.mem_cons_self).get]
      exact congrArg (List.find? f) c1
    · intro f hf hu
      rw [r3 f hf (fun y hy => hu y (List.mem_cons_of_mem _ hy)),
        o3 f hf (hu _ (List.mem_cons_of_mem _ List.mem_cons_self)).get]
      exact c5 f (hu _ List.mem_cons_self).put
    · rw [List.append_assoc, M.evs_append, r4, o4, c4]
      rfl

/-- the first header closes whatever page was in progress -/
theorem Mode.from (mF pgnoF pageF kF : Nat) (hF : M.Q mF pgnoF pageF kF) (s : St) (h : M.Inv s)
    (x0 : α) (xs : List α) (hx : ∀ x ∈ x0 :: xs, M.Ok x) (halt : Alt ((x0 :: xs).map M.key ++ [kF])) :
    M.Claims (terminatePage (tick (run s ((x0 :: xs).flatMap M.pkts)).1) mF pgnoF pageF).1.net.cache s (x0 :: xs)
    ∧ M.evs ((run s ((x0 :: xs).flatMap M.pkts)).2
        ++ (terminatePage (tick (run s ((x0 :: xs).flatMap M.pkts)).1) mF pgnoF pageF).2)
      = M.evs (terminatePage (tick s) (M.t x0).m (M.t x0).pgno (M.t x0).page).2
        ++ (x0 :: xs).map (fun x => ((M.t x).pgno, (M.t x).subno))
    ∧ M.Inv (run s ((x0 :: xs).flatMap M.pkts)).1 := by
  have h0 := hx _ List.mem_cons_self
  obtain ⟨o1, o2, _, o4⟩ := M.opn s x0 h h0
  obtain ⟨r1, r2, _, r4, r5⟩ := M.ind mF pgnoF pageF kF hF xs (run s (M.pkts x0)).1 (s1Of s (M.t x0)) x0 o1 h0 o2
    (fun x hx' => hx x (List.mem_cons_of_mem _ hx')) halt
  rw [List.flatMap_cons, run_append]
  simp only []
  refine ⟨⟨r1, r2⟩, ?_, r5⟩
  rw [List.append_assoc, M.evs_append, r4, o4]

theorem Mode.claims_split (cT : List Page) : ∀ (pre : List α) (s : St) (x : α) (post : List α),
    M.Claims cT s (pre ++ x :: post) →
    ∃ q rest pt, Fetched q (M.t x) (s1Of (run s (pre.flatMap M.pkts)).1 (M.t x)) (M.hdr x) (M.rows x) pt ∧ pt ≠ PT_CLOCK
      ∧ (∀ f, M.P f → (∀ y ∈ post, Undist f (M.t y)) → cT.find? f = (q :: rest).find? f)
      ∧ CarriesAux q ((run (run s (pre.flatMap M.pkts)).1 (M.pkts x)).1.rp (M.t x).m).page := by
  intro pre
  induction pre with
  | nil => intro s x post h; exact h.1
  | cons p pre ih =>
    intro s x post h
    rw [List.flatMap_cons, run_append]
    exact ih _ x post h.2

/-- **the cycle theorem**.  Of the final header `fin` only the page number must decode (decimal or time filling) -/
theorem Mode.cycle (s : St) (h : M.Inv s) (x0 : α) (xs : List α) (hx : ∀ x ∈ x0 :: xs, M.Ok x)
    (fin : Packet) (mF finPage kF : Nat) (hfa : a16 fin 0 = some mF) (hfp : a16 fin 2 = some finPage)
    (hft : TextOnly fin) (hQ : M.Q mF (mag8Of mF * 256 + finPage) finPage kF)
    (halt : Alt ((x0 :: xs).map M.key ++ [kF])) :
    M.evs (run s ((x0 :: xs).flatMap M.pkts ++ [fin])).2
      = M.evs (terminatePage (tick s) (M.t x0).m (M.t x0).pgno (M.t x0).page).2
        ++ (x0 :: xs).map (fun x => ((M.t x).pgno, (M.t x).subno))
    ∧ ∀ pre x post, x0 :: xs = pre ++ x :: post →
        ∃ q pt, Fetched q (M.t x) (s1Of (run s (pre.flatMap M.pkts)).1 (M.t x)) (M.hdr x) (M.rows x) pt ∧ pt ≠ PT_CLOCK
          ∧ Lookups M.t (run s ((x0 :: xs).flatMap M.pkts ++ [fin])).1.net.cache (mag8Of mF * 256 + finPage) x post q
          ∧ CarriesAux q ((run (run s (pre.flatMap M.pkts)).1 (M.pkts x)).1.rp (M.t x).m).page := by
  obtain ⟨hcl, hev, hcE⟩ := M.from mF (mag8Of mF * 256 + finPage) finPage kF hQ s h x0 xs hx halt
  rw [run_concat]
  generalize (run s ((x0 :: xs).flatMap M.pkts)).1 = sE at hcl hev hcE
  generalize (run s ((x0 :: xs).flatMap M.pkts)).2 = evE at hev
  have hb := M.base sE hcE
  have hd := header_step sE fin mF finPage (M.magQ _ _ _ _ hQ) hfa hfp hb.shape hb.mask hb.t hft
  refine ⟨?_, fun pre x post e => ?_⟩
  · rw [M.evs_append, M.evs_congr _ _ hd.pages, ← M.evs_append]
    exact hev
  · rw [e] at hcl
    obtain ⟨q, rest, pt, hF, hpt, hfind, hcar⟩ := M.claims_split _ pre s x post hcl
    have hxok : M.Ok x := hx x (by rw [e]; simp)
    obtain ⟨hm, hdc⟩ := M.okDec x hxok
    exact ⟨q, pt, hF, hpt, claim_lookups M.t M.P _ _ _ hd.find x post q rest pt _ _ _ hF hpt hfind (M.okP x hxok)
      (pgno_facts _ _ hm hdc).1 (isBcd_pgno _ hm _ (by have := hdc.1; omega) hdc.1 hdc.2), hcar⟩

end Zvbi.Ttx
