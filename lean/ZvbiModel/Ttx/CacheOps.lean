import ZvbiModel.Ttx.Branches
/-!
# The operations on the page list

The list `Net.cache` changes by the three operations of the cache interface only (`CacheOp`, `applyOp`):

* `.get pgno subno mask`: `_vbi_cache_get_page` (`cacheGet`, move to front) - `Net.get`, reached from
  `headerLookup`, the BTT parser (subtitle pages) and the MIP parser (`mipClassify`),
* `.put pt p`: `_vbi_cache_put_page` with the page type `pt` of the statistics (`cachePut`) - `Net.put`, reached
  from `St.put` and `storeLop`, each of which emits `Event.put p`,
* `.clear`: `vbi_chsw_reset` recycling the network record (`chswReset`).

`Reach P c c'`: `c'` is reached from `c` by such operations, the stores all being of pages satisfying `P`.
`Looks n n'` (= `Reach (fun _ => False)`): look-ups only.
-/
namespace Zvbi.Ttx
open Zvbi.Hamm Zvbi.Gen Zvbi.Ttx.Spec

/-- one call of the cache interface on behalf of the current network -/
inductive CacheOp
  | get (pgno subno mask : Nat)
  | put (pt : Nat) (p : Page)
  | clear

/-- what the call does to the most recently used list (a refused call leaves it as it is) -/
def applyOp (c : List Page) : CacheOp → List Page
  | .get pgno subno mask => match cacheGet c pgno subno mask with | some r => r.2 | none => c
  | .put pt p => match cachePut c pt p with | some c' => c' | none => c
  | .clear => []

/-- `c'` is reached from `c` by cache operations whose stores are all of pages satisfying `P` -/
def Reach (P : Page → Prop) (c c' : List Page) : Prop :=
  ∃ ops : List CacheOp, c' = ops.foldl applyOp c ∧ ∀ pt p, CacheOp.put pt p ∈ ops → P p

theorem Reach.refl (P : Page → Prop) (c : List Page) : Reach P c c :=
  ⟨[], rfl, fun _ _ h => by cases h⟩

theorem Reach.of_eq {P : Page → Prop} {c c' : List Page} (h : c' = c) : Reach P c c' := by
  rw [h]; exact Reach.refl P c

theorem Reach.trans {P : Page → Prop} {a b c : List Page} (h1 : Reach P a b) (h2 : Reach P b c) : Reach P a c := by
  obtain ⟨o1, e1, p1⟩ := h1
  obtain ⟨o2, e2, p2⟩ := h2
  refine ⟨o1 ++ o2, by rw [List.foldl_append, ← e1, e2], ?_⟩
  intro pt p hp
  rcases List.mem_append.mp hp with h | h
  · exact p1 pt p h
  · exact p2 pt p h

theorem Reach.mono {P Q : Page → Prop} {c c' : List Page} (h : Reach P c c') (hpq : ∀ p, P p → Q p) : Reach Q c c' := by
  obtain ⟨o, e, p⟩ := h
  exact ⟨o, e, fun pt q hq => hpq q (p pt q hq)⟩

theorem Reach.clear (P : Page → Prop) (c : List Page) : Reach P c [] :=
  ⟨[.clear], rfl, fun _ _ h => by simp at h⟩

theorem Reach.get (P : Page → Prop) (c : List Page) (pgno subno mask : Nat) :
    Reach P c (applyOp c (.get pgno subno mask)) :=
  ⟨[.get pgno subno mask], rfl, fun _ _ h => by simp at h⟩

theorem Reach.put (c : List Page) (pt : Nat) (p : Page) : Reach (fun q => q = p) c (applyOp c (.put pt p)) :=
  ⟨[.put pt p], rfl, fun _ q h => by simp at h; exact h.2⟩

/-- the cache of `n'` is the one of `n` after look-ups (`_vbi_cache_get_page`) only -/
def Looks (n n' : Net) : Prop := Reach (fun _ => False) n.cache n'.cache

theorem Looks.refl (n : Net) : Looks n n := Reach.refl _ _
theorem Looks.trans {a b c : Net} (h1 : Looks a b) (h2 : Looks b c) : Looks a c := Reach.trans h1 h2
theorem Looks.of_eq {n n' : Net} (h : n'.cache = n.cache) : Looks n n' := Reach.of_eq h
theorem Looks.reach {n n' : Net} (h : Looks n n') (P : Page → Prop) : Reach P n.cache n'.cache :=
  Reach.mono h (fun _ hf => hf.elim)

theorem setStat_cache (n : Net) (pgno : Nat) (f : PageStat → PageStat) : (n.setStat pgno f).1.cache = n.cache := by
  unfold Net.setStat; split <;> rfl

theorem setStat_looks (n : Net) (pgno : Nat) (f : PageStat → PageStat) : Looks n (n.setStat pgno f).1 :=
  Looks.of_eq (setStat_cache n pgno f)

theorem setMag_looks (n : Net) (mag8 : Nat) (m : Magazine) : Looks n (n.setMag mag8 m) := Looks.refl n

/-- `Net.get` is one `.get` -/
theorem get_apply (n : Net) (pgno subno mask : Nat) :
    (n.get pgno subno mask).2.1.cache = applyOp n.cache (.get pgno subno mask) := by
  show _ = (match cacheGet n.cache pgno subno mask with | some r => r.2 | none => n.cache)
  unfold Net.get
  cases cacheGet n.cache pgno subno mask with
  | none => rfl
  | some r => rfl

theorem get_looks (n : Net) (pgno subno mask : Nat) : Looks n (n.get pgno subno mask).2.1 := by
  unfold Looks
  rw [get_apply]
  exact Reach.get _ _ _ _ _

/-- `Net.put` is one `.put`, with the page type of the statistics -/
theorem put_apply (n : Net) (p : Page) :
    (n.put p).cache = applyOp n.cache (.put (n.getStat p.pgno).pageType p) := by
  show _ = (match cachePut n.cache (n.getStat p.pgno).pageType p with | some c' => c' | none => n.cache)
  unfold Net.put
  cases cachePut n.cache (n.getStat p.pgno).pageType p with
  | none => rfl
  | some r => rfl

theorem put_reach (n : Net) (p : Page) : Reach (fun q => q = p) n.cache (n.put p).cache := by
  rw [put_apply]
  exact Reach.put _ _ _

end Zvbi.Ttx
