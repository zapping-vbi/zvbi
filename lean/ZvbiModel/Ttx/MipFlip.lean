import ZvbiModel.Ttx.HeaderFields
/-!
# C03: a MIP page is stored raw and read back only through `vbi_unham8`

`processRow` stores rows 1..25 of a page of function FN_MIP verbatim; `parse_mip` (run when the next
header terminates the page) reads them through `rowView .rowH8`, i.e. through `vbi_unham8`.  Hence
the decoded MIP depends on the stored rows only through their Hamming 8/4 views (`parseMip_congr`),
and one flipped bit in a valid codeword of a stored row does not change that view (`rowView_flip`).
-/
namespace Zvbi.Ttx
open Zvbi.Hamm Zvbi.Gen Zvbi.Ttx.Spec

/-- the rows of two pages look the same through the Hamming 8/4 accessors -/
def RowsH8Eq (raw raw' : List (List Nat)) : Prop :=
  ∀ k, rowView .rowH8 (raw.getD k zeroRow) = rowView .rowH8 (raw'.getD k zeroRow)

theorem RowsH8Eq.refl (raw : List (List Nat)) : RowsH8Eq raw raw := fun _ => rfl
theorem RowsH8Eq.symm {a b : List (List Nat)} (h : RowsH8Eq a b) : RowsH8Eq b a := fun k => (h k).symm
theorem RowsH8Eq.trans {a b c : List (List Nat)} (h : RowsH8Eq a b) (h' : RowsH8Eq b c) : RowsH8Eq a c :=
  fun k => (h k).trans (h' k)

/-! ## congruence of `parse_mip` -/

theorem mipClassify_congr (n : Net) (vtp vtp' : Page) (pgno code spi : Nat) (H : RowsH8Eq vtp.raw vtp'.raw) :
    mipClassify n vtp pgno code spi = mipClassify n vtp' pgno code spi := by
  unfold mipClassify
  simp only [H (spi / 13 + 15)]

theorem parseMipPage_congr (n : Net) (vtp vtp' : Page) (pgno : Nat) (code : Option Nat) (spi : Nat)
    (H : RowsH8Eq vtp.raw vtp'.raw) :
    parseMipPage n vtp pgno code spi = parseMipPage n vtp' pgno code spi := by
  unfold parseMipPage
  cases code with
  | none => rfl
  | some c => simp only [mipClassify_congr n vtp vtp' pgno c spi H]

theorem mipStep_congr (vtp vtp' : Page) (hl : vtp.lopPackets = vtp'.lopPackets) (H : RowsH8Eq vtp.raw vtp'.raw) :
    mipStep vtp = mipStep vtp' := by
  funext base acc it
  unfold mipStep
  simp only [hl, H it.1, parseMipPage_congr acc.1.1 vtp vtp' _ _ _ H]

/-- `parse_mip` reads the page only through its number, the mask of received packets and the
    Hamming 8/4 views of its rows -/
theorem parseMip_congr (n : Net) (vtp vtp' : Page) (hp : vtp.pgno = vtp'.pgno)
    (hl : vtp.lopPackets = vtp'.lopPackets)
    (H : ∀ k, rowView .rowH8 (vtp.raw.getD k zeroRow) = rowView .rowH8 (vtp'.raw.getD k zeroRow)) :
    parseMip n vtp = parseMip n vtp' := by
  unfold parseMip
  simp only [mipStep_congr vtp vtp' hl H, hp]

/-! ## a single bit error in a stored Hamming 8/4 byte -/

theorem rowView_flip (r : List Nat) (i b : Nat) (hl : r.length = 40) (hr : ∀ j, r.getD j 0 < 256)
    (hi : i < 40) (hv : IsHam8 (r.getD i 0)) (hb : b < 8) :
    rowView .rowH8 (r.set i (r.getD i 0 ^^^ (1 <<< b))) = rowView .rowH8 r := by
  unfold rowView
  have hbyte : ∀ j, byte ([0, 0] ++ r) (2 + j) = r.getD j 0 := by
    intro j
    unfold byte
    rw [show 2 + j = j + 1 + 1 by omega]
    simp [List.getD_eq_getElem?_getD]
  have e : [0, 0] ++ r.set i (r.getD i 0 ^^^ (1 <<< b)) = flipBit ([0, 0] ++ r) (2 + i) b := by
    unfold flipBit
    rw [hbyte i, show 2 + i = i + 1 + 1 by omega]
    simp
  have hw : WellFormed ([0, 0] ++ r) := by
    refine ⟨by simp [hl], ?_⟩
    intro j
    match j with
    | 0 => simp [byte]
    | 1 => simp [byte]
    | j + 2 =>
      rw [show j + 2 = 2 + j by omega, hbyte j]; exact hr j
  rw [e]
  exact view_flip .rowH8 _ (2 + i) b hw hb
    (ViewProt.h8 i (by simp [Kind.isH8, hi]) (by rw [hbyte i]; exact hv))

/-- replacing one stored row by a row with the same Hamming 8/4 view -/
theorem rowsH8Eq_set (raw : List (List Nat)) (k : Nat) (r r' : List Nat)
    (h : rowView .rowH8 r' = rowView .rowH8 r) : RowsH8Eq (raw.set k r') (raw.set k r) := by
  intro k'
  simp only [List.getD_eq_getElem?_getD, List.getElem?_set]
  by_cases hk : k = k'
  · subst hk
    by_cases hlen : k < raw.length
    · simp [hlen, h]
    · simp [hlen]
  · simp [hk]

/-- one flipped bit in a valid codeword of stored row `k` -/
theorem rowsH8Eq_flip (raw : List (List Nat)) (k : Nat) (r : List Nat) (i b : Nat) (hl : r.length = 40)
    (hr : ∀ j, r.getD j 0 < 256) (hi : i < 40) (hv : IsHam8 (r.getD i 0)) (hb : b < 8) :
    RowsH8Eq (raw.set k (r.set i (r.getD i 0 ^^^ (1 <<< b)))) (raw.set k r) :=
  rowsH8Eq_set raw k r _ (rowView_flip r i b hl hr hi hv hb)

/-! ## the page-terminating header: `terminatePage` on a MIP page -/

/-- slot `m` with the stored rows replaced -/
def St.setRawRows (s : St) (m : Nat) (raw' : List (List Nat)) : St :=
  s.setPage m { (s.rp m).page with raw := raw' }

theorem rp_setRawRows (s : St) (m x : Nat) (raw' : List (List Nat)) (hm : m < s.raw.length) :
    (s.setRawRows m raw').rp x = if x = m then { s.rp m with page := { (s.rp m).page with raw := raw' } } else s.rp x := by
  unfold St.setRawRows
  by_cases h : x = m
  · subst h; rw [if_pos rfl]; exact rp_setPage_same s x _ hm
  · rw [if_neg h]; exact rp_setPage_other s m x _ h

theorem terminatedSlot_setRawRows (s : St) (m : Nat) (raw' : List (List Nat)) (hm : m < s.raw.length)
    (mag0 pgno page : Nat) :
    terminatedSlot (s.setRawRows m raw') mag0 pgno page = terminatedSlot s mag0 pgno page := by
  have hc : (s.setRawRows m raw').current = s.current := rfl
  have hfl : ∀ x, ((s.setRawRows m raw').rp x).page.flags = (s.rp x).page.flags := by
    intro x; rw [rp_setRawRows s m x raw' hm]; by_cases h : x = m
    · subst h; simp
    · simp [h]
  have hpg : ∀ x, ((s.setRawRows m raw').rp x).page.pgno = (s.rp x).page.pgno := by
    intro x; rw [rp_setRawRows s m x raw' hm]; by_cases h : x = m
    · subst h; simp
    · simp [h]
  unfold terminatedSlot
  rw [hc]
  cases s.current with
  | none => rfl
  | some cmag => simp only [hfl, hpg]

/-- state level: the header that terminates a MIP page whose stored rows were replaced by rows with
    the same Hamming 8/4 view produces the same events and the same state up to those rows -/
theorem terminatePage_setRawRows (s : St) (curr : Nat) (raw' : List (List Nat)) (mag0 pgno page : Nat)
    (hm : curr < s.raw.length) (hts : terminatedSlot s mag0 pgno page = some curr)
    (hf : (s.rp curr).page.function = FN_MIP) (H : RowsH8Eq raw' (s.rp curr).page.raw) :
    (terminatePage (s.setRawRows curr raw') mag0 pgno page).2 = (terminatePage s mag0 pgno page).2 ∧
    (terminatePage (s.setRawRows curr raw') mag0 pgno page).1
      = (terminatePage s mag0 pgno page).1.setRawRows curr raw' := by
  have hts' := (terminatedSlot_setRawRows s curr raw' hm mag0 pgno page).trans hts
  have hrp : (s.setRawRows curr raw').rp curr = { s.rp curr with page := { (s.rp curr).page with raw := raw' } } := by
    rw [rp_setRawRows s curr curr raw' hm, if_pos rfl]
  have hf' : ((s.setRawRows curr raw').rp curr).page.function = FN_MIP := by rw [hrp]; exact hf
  have hnet : (s.setRawRows curr raw').net = s.net := rfl
  have hpm : parseMip s.net ((s.setRawRows curr raw').rp curr).page = parseMip s.net (s.rp curr).page := by
    apply parseMip_congr
    · rw [hrp]
    · rw [hrp]
    · rw [hrp]; exact H
  rw [terminatePage_mip _ curr mag0 pgno page hts' hf', terminatePage_mip s curr mag0 pgno page hts hf, hnet, hpm]
  refine ⟨rfl, ?_⟩
  rw [hrp]
  unfold St.setRawRows St.setPage St.setRp St.rp
  simp [List.getD_eq_getElem?_getD, hm]

/-! ## the row packet: `processRow` on a MIP page stores the 40 bytes verbatim -/

/-- a row stored verbatim, seen through the Hamming 8/4 accessors later, is the Hamming 8/4 view of
    the packet itself -/
theorem rowView_rowRaw (p : Packet) : rowView .rowH8 (view .rowRaw p).raw = view .rowH8 p := by
  unfold rowView
  conv => lhs; unfold view
  conv => rhs; unfold view
  congr 1

/-- row twin: the packet with one bit of a valid Hamming 8/4 byte flipped leaves the MIP slot with
    rows of the same Hamming 8/4 view, everything else identical -/
theorem processRow_mip_flip (s : St) (mag0 mag8 packet : Nat) (p : Packet) (j b : Nat) (hw : WellFormed p)
    (hm : mag0 < s.raw.length) (hf : (s.rp mag0).page.function = FN_MIP)
    (hj : j < 40) (hv : IsHam8 (byte p (2 + j))) (hb : b < 8) :
    ∃ raw', RowsH8Eq raw' ((processRow s mag0 mag8 packet (view .rowRaw p)).st.rp mag0).page.raw ∧
      processRow s mag0 mag8 packet (view .rowRaw (flipBit p (2 + j) b)) =
        { processRow s mag0 mag8 packet (view .rowRaw p) with
          st := (processRow s mag0 mag8 packet (view .rowRaw p)).st.setRawRows mag0 raw' } := by
  refine ⟨(s.rp mag0).page.raw.set packet (view .rowRaw (flipBit p (2 + j) b)).raw, ?_, ?_⟩
  · rw [processRow_mip s mag0 mag8 packet _ hf, rp_setPage_same s mag0 _ hm]
    apply rowsH8Eq_set
    rw [rowView_rowRaw, rowView_rowRaw]
    exact view_flip .rowH8 p (2 + j) b hw hb (ViewProt.h8 j (by simp [Kind.isH8, hj]) hv)
  · rw [processRow_mip s mag0 mag8 packet _ hf, processRow_mip s mag0 mag8 packet _ hf]
    unfold St.setRawRows
    rw [rp_setPage_same s mag0 _ hm, setPage_setPage]

/-- the byte condition in its decidable form -/
theorem getD_lt_of_all (r : List Nat) (h : ∀ x ∈ r, x < 256) (j : Nat) : r.getD j 0 < 256 := by
  rw [List.getD_eq_getElem?_getD]
  cases e : r[j]? with
  | none => simp
  | some x => exact h x (List.mem_of_getElem? e)

/-- `processRow` on a MIP slot keeps the slot a MIP slot -/
theorem processRow_mip_slot (s : St) (mag0 mag8 packet : Nat) (v : View) (hm : mag0 < s.raw.length)
    (hf : (s.rp mag0).page.function = FN_MIP) :
    mag0 < (processRow s mag0 mag8 packet v).st.raw.length ∧
    ((processRow s mag0 mag8 packet v).st.rp mag0).page.function = FN_MIP := by
  rw [processRow_mip s mag0 mag8 packet v hf]
  refine ⟨by simp only [setPage_length]; exact hm, ?_⟩
  rw [rp_setPage_same s mag0 _ hm]
  exact hf

/-! ## the same at the entry point `decodeTeletext` -/

theorem decode_mip_row (s : St) (p : Packet) (pmag : Nat) (ha : a16 p 0 = some pmag) (hmask : s.mask = true)
    (h1 : 1 ≤ pmag >>> 3) (h25 : pmag >>> 3 ≤ 25) (hf : (s.rp (pmag &&& 7)).page.function = FN_MIP) :
    decodeTeletext s p =
      processRow s (pmag &&& 7) (mag8Of (pmag &&& 7)) (pmag >>> 3) (view .rowRaw p) := by
  have h0 : pmag >>> 3 ≠ 0 := by omega
  rw [decode_eq_process s p pmag ha h0, kindOf_rowRaw s pmag _ hmask h0 h25 FN_MIP hf (by decide),
    process_row s pmag _ hmask h0 h25]

/-- a row packet addressed to a magazine that assembles a MIP page, with one bit of a valid
    Hamming 8/4 data byte inverted: same events, same return value, the states differ only in the
    stored rows of that slot, which have the same Hamming 8/4 view -/
theorem decode_mip_row_flip (s : St) (p : Packet) (pmag j b : Nat) (hw : WellFormed p) (ha : a16 p 0 = some pmag)
    (hmask : s.mask = true) (h1 : 1 ≤ pmag >>> 3) (h25 : pmag >>> 3 ≤ 25)
    (hm : pmag &&& 7 < s.raw.length) (hf : (s.rp (pmag &&& 7)).page.function = FN_MIP)
    (hj : j < 40) (hv : IsHam8 (byte p (2 + j))) (hb : b < 8) :
    ∃ raw', RowsH8Eq raw' ((decodeTeletext s p).st.rp (pmag &&& 7)).page.raw ∧
      decodeTeletext s (flipBit p (2 + j) b) =
        { decodeTeletext s p with st := (decodeTeletext s p).st.setRawRows (pmag &&& 7) raw' } := by
  have ha' : a16 (flipBit p (2 + j) b) 0 = some pmag := by
    rw [a16_flip p (2 + j) b hw hb (fun h => absurd h (by omega))]; exact ha
  rw [decode_mip_row s p pmag ha hmask h1 h25 hf, decode_mip_row s _ pmag ha' hmask h1 h25 hf]
  exact processRow_mip_flip s _ _ _ p j b hw hm hf hj hv hb

end Zvbi.Ttx
