import ZvbiModel.Ttx.HeaderFields
import ZvbiModel.Ttx.X26Place
/-!
# Fault freedom (C01 obligations of the Teletext decoder): per-site index lemmas

`Aux.fault site` marks an index outside its array or a failing `assert`; for each site the index stays inside the
extent regenerated from the C headers: `cache_network_page_stat`, MOT, POP, AIT, X/26, and the bit stream reader
(`Has bs a`: the stream is sane and holds exactly `a` more bits; `get_bits` never consumes more than the 13 triplets of a packet).
-/
namespace Zvbi.Ttx
open Zvbi.Hamm Zvbi.Gen Zvbi.Ttx.Spec

/-- no fault mark in a list of auxiliary events -/
def NoFault (l : List Aux) : Prop := ∀ site, Aux.fault site ∉ l
/-- no fault mark in an event list -/
def NoFaultE (l : List Event) : Prop := ∀ site, Event.aux (Aux.fault site) ∉ l

theorem NoFault.nil : NoFault [] := fun _ h => by cases h
theorem NoFaultE.nil : NoFaultE [] := fun _ h => by cases h

theorem NoFault.append {a b : List Aux} (ha : NoFault a) (hb : NoFault b) : NoFault (a ++ b) :=
  fun site h => (List.mem_append.mp h).elim (ha site) (hb site)

theorem NoFaultE.append {a b : List Event} (ha : NoFaultE a) (hb : NoFaultE b) : NoFaultE (a ++ b) :=
  fun site h => (List.mem_append.mp h).elim (ha site) (hb site)

theorem NoFault.of_eq_nil {l : List Aux} (h : l = []) : NoFault l := by rw [h]; exact NoFault.nil

theorem NoFault.touch (a b c : Nat) : NoFault [Aux.touch a b c] := by
  intro site h; simp at h

theorem NoFaultE.lift {l : List Aux} (h : NoFault l) : NoFaultE (liftAux l) :=
  fun site hm => let ⟨_, ha, e⟩ := mem_liftAux.mp hm; h site (Event.aux.inj e ▸ ha)

/-- a fold whose accumulator is (state, events) stays fault free if every step does, for elements satisfying `P` -/
theorem fold_nofault {α β : Type} (f : α × List Aux → β → α × List Aux) (P : β → Prop)
    (hstep : ∀ a ev b, P b → NoFault ev → NoFault (f (a, ev) b).2) (l : List β) (a : α) (ev : List Aux)
    (hP : ∀ b ∈ l, P b) (hev : NoFault ev) : NoFault (l.foldl f (a, ev)).2 := by
  induction l generalizing a ev with
  | nil => exact hev
  | cons b l ih =>
    exact ih _ _ (fun x hx => hP x (List.mem_cons_of_mem _ hx)) (hstep a ev b (hP b List.mem_cons_self) hev)

def PgnoOk (pgno : Nat) : Prop := 0x100 ≤ pgno ∧ pgno ≤ 0x8FF

theorem statIdx_some {pgno : Nat} (h : PgnoOk pgno) : statIdx pgno = some (pgno - 0x100) := by
  unfold statIdx
  have : (decide (pgno ≥ 0x100) && decide (pgno ≤ 0x8FF)) = true := by simp; exact h
  rw [if_pos this]

theorem setStat_nofault (n : Net) (pgno : Nat) (f : PageStat → PageStat) (h : PgnoOk pgno) :
    (n.setStat pgno f).2 = [] := by
  unfold Net.setStat; rw [statIdx_some h]

theorem statAssert_nofault (pgno : Nat) (h : PgnoOk pgno) : statAssert pgno = [] := by
  unfold statAssert; rw [statIdx_some h]; rfl

theorem get_nofault (n : Net) (a b c : Nat) : NoFault (n.get a b c).2.2 := by
  unfold Net.get
  split <;> exact NoFault.touch _ _ _

/-- the page number of an accepted header, and of
    every slot, is `mag8 * 256 + page` with `1 ≤ mag8 ≤ 8`, `page ≤ 255` -/
theorem page_stat_pgno_in_range (mag0 page : Nat) (hm : mag0 < 8) (hp : page < 256) :
    PgnoOk ((if mag0 == 0 then 8 else mag0) * 256 + page) := by
  have := mag8Of_le mag0 hm
  unfold PgnoOk
  show _ ≤ mag8Of mag0 * 256 + page ∧ mag8Of mag0 * 256 + page ≤ _
  omega

/-- every index of the `pop_lut[]` / `drcs_lut[]` loops of `parse_mot`
    lies inside the look-up arrays (256 entries), for every packet number -/
theorem mot_indices_in_range (packet : Nat) : ∀ it, it ∈ motItems packet → it.2 < ttxLutSize := by
  by_cases h : packet < 15
  · have : ∀ packet < 15, ∀ it ∈ motItems packet, it.2 < ttxLutSize := by decide +kernel
    exact this packet h
  · intro it hit
    have : motItems packet = [] := by
      unfold motItems
      have h1 : (decide (1 ≤ packet) && decide (packet ≤ 8)) = false := by simp; omega
      have h2 : (decide (9 ≤ packet) && decide (packet ≤ 14)) = false := by simp; omega
      simp [h1, h2]
    rw [this] at hit; cases hit

theorem setLut_nofault (l : List Int) (extent idx : Nat) (val : Int) (site : String) (h : idx < extent) :
    (setLut l extent idx val site).2 = [] := by
  unfold setLut; rw [if_pos h]

theorem motLutStep_nofault (v : View) (m : Magazine) (ev : List Aux) (it : Nat × Nat)
    (hi : it.2 < ttxLutSize) (hev : NoFault ev) : NoFault (motLutStep v (m, ev) it).2 := by
  unfold motLutStep
  split
  · simp only []
    rw [setLut_nofault _ _ _ _ _ hi, setLut_nofault _ _ _ _ _ hi]
    simpa using hev
  · exact hev

theorem motPopLinkStep_nofault (v : View) (pk : Nat) (m : Magazine) (ev : List Aux) (i : Nat)
    (hpk : pk ≤ 22) (hi : i < 4) (hev : NoFault ev) : NoFault (motPopLinkStep v pk (m, ev) i).2 := by
  unfold motPopLinkStep
  simp only []
  split
  · exact hev
  · have : (pk - 19) * 4 + i < ttxPopLinks := by
      have : ttxPopLinks = 16 := by decide
      omega
    rw [if_pos this]
    exact hev

theorem motDrcsLinkStep_nofault (v : View) (packet : Nat) (m : Magazine) (ev : List Aux) (i : Nat)
    (hi : i < 8) (hev : NoFault ev) : NoFault (motDrcsLinkStep v packet (m, ev) i).2 := by
  unfold motDrcsLinkStep
  simp only []
  split
  · exact hev
  · have : (if (packet == 21) = true then 0 else 8) + i < ttxDrcsLinks := by
      have : ttxDrcsLinks = 16 := by decide
      split <;> omega
    rw [setLut_nofault _ _ _ _ _ this]
    simpa using hev

theorem parseMot_nofault (m : Magazine) (v : View) (packet : Nat) : NoFault (parseMot m v packet).2 := by
  unfold parseMot
  split
  · exact fold_nofault (motLutStep v) (fun it => it.2 < ttxLutSize)
      (fun a ev b hb hev => motLutStep_nofault v a ev b hb hev)
      (motItems packet) m [] (mot_indices_in_range packet) NoFault.nil
  · split
    · rename_i _ hp
      have hpk : (if packet ≥ 22 then packet - 1 else packet) ≤ 22 := by
        simp only [Bool.or_eq_true, beq_iff_eq] at hp
        split <;> omega
      exact fold_nofault (motPopLinkStep v _) (fun i => i < 4)
        (fun a ev b hb hev => motPopLinkStep_nofault v _ a ev b hpk hb hev)
        (List.range 4) m [] (fun b hb => List.mem_range.mp hb) NoFault.nil
    · split
      · exact fold_nofault (motDrcsLinkStep v packet) (fun i => i < 8)
          (fun a ev b hb hev => motDrcsLinkStep_nofault v packet a ev b hb hev)
          (List.range 8) m [] (fun b hb => List.mem_range.mp hb) NoFault.nil
      · exact NoFault.nil

theorem fold_keep_nil {β : Type} (step : List Aux → β → List Aux) (l : List β)
    (h : ∀ b, b ∈ l → step [] b = []) : l.foldl step [] = [] := by
  induction l with
  | nil => rfl
  | cons b l ih =>
    simp only [List.foldl_cons]
    rw [h b (List.mem_cons_self ..)]
    exact ih (fun x hx => h x (List.mem_cons_of_mem _ hx))

/-- `pointer[(packet - 1) * 24 + 2 i + 1]` of packets 1..4, with repair F23 in (the stride was 26) -/
theorem pop_pointer_index_in_range (packet i : Nat) (hp : 1 ≤ packet ∧ packet ≤ 4) (hi : 1 ≤ i ∧ i ≤ 12) :
    (packet - 1) * (if ttxFixF23 then 24 else 26) + 2 * i + 1 < POP_POINTER_SIZE := by
  have h1 : ttxFixF23 = true := by decide
  have h2 : POP_POINTER_SIZE = 98 := by decide
  rw [h1, h2]; simp only [if_true]; omega

/-- `triplet[(packet - 3) * 13 + i]` of packets 3..41 -/
theorem pop_triplet_index_in_range (packet i : Nat) (hp : packet ≤ 41) (hi : i < 13) :
    (packet - 3) * 13 + i < POP_TRIPLET_SIZE := by
  have h2 : POP_TRIPLET_SIZE = 508 := by decide
  rw [h2]; omega

theorem popPointerFaults_nil (v : View) (pk : Nat) (h : 1 ≤ pk ∧ pk ≤ 4) :
    popPointerFaults v ((pk - 1) * (if ttxFixF23 then 24 else 26)) = [] := by
  unfold popPointerFaults
  apply fold_keep_nil
  intro k hk
  rw [List.mem_range] at hk
  split
  · rw [if_pos (by have := pop_pointer_index_in_range pk (k + 1) h ⟨by omega, by omega⟩; omega)]
  · rfl

theorem popTripletFaults_nil (v : View) (pk : Nat) (h : pk ≤ 41) : popTripletFaults v ((pk - 3) * 13) = [] := by
  unfold popTripletFaults
  apply fold_keep_nil
  intro i hi
  rw [List.mem_range] at hi
  split
  · rw [if_pos (pop_triplet_index_in_range pk i h hi)]
  · rfl

theorem parsePop_nofault (v : View) (packet : Nat) (hv : ViewOk v) (hp : packet ≤ 26) :
    NoFault (parsePop v packet).2 := by
  unfold parsePop
  cases hd : v.g8 0 with
  | none => exact NoFault.nil
  | some designation =>
    have hdl := hv 0 designation hd
    simp only []
    generalize hpk : (if (packet == 26) = true then packet + designation else packet) = pk
    have hpk41 : pk ≤ 41 := by
      rw [← hpk]; split
      · rename_i h; have : packet = 26 := by simpa using h
        omega
      · omega
    by_cases c1 : (decide (1 ≤ pk) && decide (pk ≤ 2)) = true
    · rw [if_pos c1]
      split
      · exact NoFault.nil
      · have : 1 ≤ pk ∧ pk ≤ 4 := by simp at c1; omega
        simp only []; rw [popPointerFaults_nil v pk this]; exact NoFault.nil
    rw [if_neg c1]
    by_cases c2 : (decide (3 ≤ pk) && decide (pk ≤ 4)) = true
    · rw [if_pos c2]
      split
      · have : 1 ≤ pk ∧ pk ≤ 4 := by simp at c2; omega
        simp only []; rw [popPointerFaults_nil v pk this]; exact NoFault.nil
      · simp only []; rw [popTripletFaults_nil v pk hpk41]; exact NoFault.nil
    rw [if_neg c2]
    split
    · simp only []; rw [popTripletFaults_nil v pk hpk41]; exact NoFault.nil
    · exact NoFault.nil


theorem parseAitBounds_nofault (packet : Nat) : NoFault (parseAitBounds packet) := by
  unfold parseAitBounds
  split
  · exact NoFault.nil
  · rename_i h
    have : (packet - 1) * 2 + 1 < AIT_TITLES := by
      have : AIT_TITLES = 46 := by decide
      simp at h; omega
    rw [if_pos this]; exact NoFault.nil

theorem x26Step_nofault (v : View) (acc : List Triplet × Nat × List Aux × Bool) (i : Nat)
    (h : acc.2.1 < ENH_SIZE) (hev : NoFault acc.2.2.1) : NoFault (x26Step v acc i).2.2.1 := by
  obtain ⟨enh, nt, ev, brk⟩ := acc
  unfold x26Step
  -- `nt < ENH_SIZE`: the triplet is written inside `enh[]`, the branch with the fault mark is not taken
  simp only [show nt < ENH_SIZE from h, if_true]
  split
  · exact hev
  · split <;> exact hev

theorem x26Fold_nofault (v : View) (is : List Nat) (acc : List Triplet × Nat × List Aux × Bool)
    (h : acc.2.1 + is.length ≤ ENH_SIZE) (hev : NoFault acc.2.2.1) :
    NoFault (is.foldl (x26Step v) acc).2.2.1 := by
  induction is generalizing acc with
  | nil => exact hev
  | cons i is ih =>
    simp only [List.foldl_cons, List.length_cons] at h ⊢
    have hf := x26Step_frame v acc i Triplet.zero
    exact ih (x26Step v acc i) (by omega) (x26Step_nofault v acc i (by omega) hev)

/-- an accepted X/26 packet (fill level `13 d < 16 * 13`) stores its
    thirteen triplets below `enh[16 * 13 + 1]` -/
theorem x26_enh_index_in_range (v : View) (enh : List Triplet) (nt : Nat) (h : nt < 16 * 13) (d : Nat)
    (hd : nt = d * 13) : NoFault (x26Triplets v enh nt).2.2 := by
  unfold x26Triplets
  simp only []
  apply x26Fold_nofault v (List.range 13) (enh, nt, [], false)
  · have : ENH_SIZE = 209 := by decide
    simp only [List.length_range]; omega
  · exact NoFault.nil

/-- the bit stream is sane (no triplet was requested beyond the end) and holds exactly `a` more bits -/
def Has (bs : BitStream) (a : Nat) : Prop := bs.underrun = false ∧ bs.left < 18 ∧ 18 * bs.rest.length + bs.left = a

/-- `get_bits` takes `n` bits if they are there (at most one new triplet is loaded) -/
theorem Has.getBitsLong {bs : BitStream} {a : Nat} (h : Has bs a) (n : Nat) (hn : n ≤ a) (hl : n ≤ a % 18 + 18) :
    Has (getBits bs n).2 (a - n) := by
  obtain ⟨h1, h2, h3⟩ := h
  unfold getBits
  simp only []
  unfold Has
  split
  · have hne : bs.rest ≠ [] := by
      intro e; rw [e] at h3; simp at h3; omega
    obtain ⟨t, r, hr⟩ := List.exists_cons_of_ne_nil hne
    simp only [hr, List.tail_cons, List.isEmpty_cons, Bool.or_false, List.length_cons] at h3 ⊢
    exact ⟨h1, by omega, by omega⟩
  · exact ⟨h1, by simp only []; omega, by simp only []; omega⟩

theorem Has.getBits {bs : BitStream} {a : Nat} (h : Has bs a) (n : Nat) (hn : n ≤ a) (h18 : n ≤ 18) :
    Has (getBits bs n).2 (a - n) := h.getBitsLong n hn (by omega)

/-- a loop that takes `n` bits per turn -/
theorem Has.fold {α β : Type} (f : α × BitStream → β → α × BitStream) (n : Nat) (h18 : n ≤ 18)
    (hf : ∀ acc k, (f acc k).2 = (Zvbi.Ttx.getBits acc.2 n).2) (l : List β) :
    ∀ (acc : α × BitStream) (a : Nat), Has acc.2 a → l.length * n ≤ a → Has (l.foldl f acc).2 (a - l.length * n) := by
  induction l with
  | nil => intro acc a h _; simpa using h
  | cons k l ih =>
    intro acc a h hc
    simp only [List.foldl_cons, List.length_cons, Nat.add_mul, Nat.one_mul] at hc ⊢
    have := ih (f acc k) (a - n) (by rw [hf]; exact h.getBits n (by omega) h18) (by omega)
    rwa [show a - n - l.length * n = a - (l.length * n + n) by omega] at this

theorem Has.getBitsN {bs : BitStream} {a : Nat} (h : Has bs a) (count n : Nat) (hcnt : count ≤ 18) (hc : n * count ≤ a) :
    Has (Zvbi.Ttx.getBitsN bs count n).2 (a - n * count) := by
  unfold Zvbi.Ttx.getBitsN
  have := Has.fold (getBitsStep count) count hcnt (fun _ _ => rfl) (List.range n) ([], bs) a h (by simpa using hc)
  simpa using this

theorem Has.faults {bs : BitStream} {a : Nat} (h : Has bs a) : bsFaults bs = [] := by
  unfold bsFaults; rw [h.1]; rfl

theorem ext04_ok (ext : Ext) (d : Nat) (bs : BitStream) (h : Has bs 227) : Has (ext04 ext d bs).2 0 := by
  have hcol : ∀ (j : Nat) (acc : List Nat × BitStream) (a : Nat), Has acc.2 a → 192 ≤ a →
      Has ((List.range 16).foldl (colorStep j) acc).2 (a - 192) := fun j acc a ha hc => by
    have := Has.fold (colorStep j) 12 (by omega) (fun acc k => by unfold colorStep; simp only []; split <;> rfl)
      (List.range 16) acc a ha (by simpa using hc)
    simpa using this
  unfold ext04
  simp only []
  by_cases hs : (d == 4 && ext.designations &&& 1 != 0) = true
  · simp only [hs, if_true]
    have h1 := h.getBitsLong 21 (by omega) (by omega)
    have h2 := hcol (if (d == 4) = true then 16 else 32) (ext.colorMap, (getBits bs 21).2) _ h1 (by omega)
    exact h2.getBits 14 (by omega) (by omega)
  · simp only [hs, Bool.false_eq_true, if_false]
    have a1 := h.getBits 7 (by omega) (by omega)
    have a2 := a1.getBits 7 (by omega) (by omega)
    have a3 := a2.getBits 1 (by omega) (by omega)
    have a4 := a3.getBits 1 (by omega) (by omega)
    have a5 := a4.getBits 1 (by omega) (by omega)
    have a6 := a5.getBits 4 (by omega) (by omega)
    have h2 := hcol (if (d == 4) = true then 16 else 32)
      (ext.colorMap, (getBits (getBits (getBits (getBits (getBits (getBits bs 7).2 7).2 1).2 1).2 1).2 4).2) _ a6 (by omega)
    have b1 := h2.getBits 5 (by omega) (by omega)
    have b2 := b1.getBits 5 (by omega) (by omega)
    have b3 := b2.getBits 1 (by omega) (by omega)
    exact b3.getBits 3 (by omega) (by omega)

theorem clutFrom_ok (ext : Ext) (bs : BitStream) (h : Has bs 216) : Has (clutFrom ext bs).2 16 := by
  unfold clutFrom
  simp only []
  exact (h.getBitsN 5 8 (by omega) (by omega)).getBitsN 5 32 (by omega) (by omega)

theorem view_u24_length (k : Kind) (p : Packet) : (view k p).u24.length = 13 := by
  unfold view; simp

/-- on every path of `parse_28_29` the bit stream reader asks for
    at most the 13 x 18 bits of the packet -/
theorem x28_bits_within_13_triplets (s : St) (mag0 mag8 packet : Nat) (v : View) (hu : v.u24.length = 13) :
    NoFault (parse2829 s mag0 mag8 packet v).2.1 := by
  -- what `x28Decide` hands on are bit streams with exactly the bits the consumer will take
  have h0 : Has (⟨v.u24, 0, 0, false⟩ : BitStream) 234 := ⟨rfl, by simp, by simp only []; omega⟩
  have f2 := (h0.getBits 4 (by omega) (by omega)).getBits 3 (by omega) (by omega)
  have f4 := (f2.getBits 11 (by omega) (by omega)).getBitsN 4 DRCS_PTUS (by omega) (by decide)
  have hclut : Has ({ (⟨v.u24, 0, 0, false⟩ : BitStream) with rest := v.u24.drop 1 }) 216 :=
    ⟨rfl, by simp, by simp only [List.length_drop]; omega⟩
  unfold parse2829
  simp only []
  refine x28Decide_elim _ packet v (fun _ => NoFault.nil) (fun d => ?_) ?_ fun _ _ fn m _ hm => ?_
  · simp only []
    rw [(ext04_ok _ d _ f2).faults]; exact NoFault.nil
  · simp only []
    rw [(clutFrom_ok _ _ hclut).faults]; exact NoFault.nil
  · subst hm
    simp only [f4.faults]
    exact ⟨fun _ _ => NoFault.nil, NoFault.nil, NoFault.nil⟩

end Zvbi.Ttx
