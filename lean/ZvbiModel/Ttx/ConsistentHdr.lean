import ZvbiModel.Ttx.Isolation
/-!
# C02: consistent page headers => the decoder never signals a channel switch

`HdrOk tmpl off pgno row`: the header row carries its own page number at columns `off..off+2` (first occurrence)
and equals the network's template `tmpl` with odd parity in the other compared columns 8..31 (`same_header` also
skips column `off+3`).  `GoodHdr tmpl off p`: packet `p`, if it is a page header whose page number decodes, has
such a row.  A history of packets that are all `GoodHdr` for one (`tmpl`, `off`) never produces `Event.chsw`
(`vbi_chsw_reset`), whatever else the packets are (`run_hinv`); the invariant `HInv`: the reference header agrees with the
template, every text page in progress has an `HdrOk` row 0.
-/
namespace Zvbi.Ttx
open Zvbi.Hamm Zvbi.Gen Zvbi.Ttx.Spec

structure HdrOk (tmpl : List Nat) (off pgno : Nat) (row : List Nat) : Prop where
  lo : 8 ≤ off
  hi : off ≤ 28
  digits : row.getD off 0 = (pgDigits pgno).1 ∧ row.getD (off + 1) 0 = (pgDigits pgno).2.1
    ∧ row.getD (off + 2) 0 = (pgDigits pgno).2.2
  first : ∀ k, 8 ≤ k → k < off →
    (row.getD k 0 == (pgDigits pgno).1 && row.getD (k + 1) 0 == (pgDigits pgno).2.1
      && row.getD (k + 2) 0 == (pgDigits pgno).2.2) = false
  same : ∀ k, 8 ≤ k → k < 32 → (k < off ∨ off + 4 ≤ k) →
    oddPar (row.getD k 0) = true ∧ row.getD k 0 = tmpl.getD k 0

/-- the reference header agrees with the template in the compared columns -/
def RefOk (tmpl : List Nat) (off : Nat) (ref : List Nat) : Prop :=
  ∀ k, 8 ≤ k → k < 32 → (k < off ∨ off + 4 ≤ k) → ref.getD k 0 = tmpl.getD k 0

theorem HdrOk.ref {tmpl : List Nat} {off pgno : Nat} {row : List Nat} (h : HdrOk tmpl off pgno row) : RefOk tmpl off row :=
  fun k h1 h2 h3 => (h.same k h1 h2 h3).2

theorem HdrOk.agrees {tmpl : List Nat} {off pgno : Nat} {cur ref : List Nat} (h : HdrOk tmpl off pgno cur)
    (hr : RefOk tmpl off ref) : HeaderAgrees pgno cur ref off := by
  refine ⟨h.lo, h.hi, h.digits, h.first, ?_⟩
  intro k h1 h2 h3
  obtain ⟨a, b⟩ := h.same k h1 h2 h3
  have e : cur.getD k 0 = ref.getD k 0 := by rw [b, hr k h1 h2 h3]
  exact ⟨a, by rw [← e]; exact a, e⟩

/-- `store_lop` takes the channel-switch branch only when `same_header` returned FALSE (0) -/
theorem hdrVerdict_reset {s : St} {vtp : Page} (h : hdrVerdict s vtp = .reset) :
    (sameHeader vtp.pgno (vtp.raw.getD 0 zeroRow) (if s.hdrPgno == 0 then vtp.raw.getD 0 zeroRow else s.header)).1 = 0 := by
  unfold hdrVerdict at h
  refine ite_eq_elim h (fun _ h => ?_) fun _ h => nomatch h
  dsimp only at h
  rw [← apply_ite (sameHeader vtp.pgno (vtp.raw.getD 0 zeroRow))] at h
  generalize sameHeader _ _ _ = r at h ⊢
  exact ite_eq_elim h (fun _ h => nomatch h) fun _ h => ite_eq_elim h (fun hc _ => eq_of_beq (Bool.and_eq_true _ _ ▸ hc).1)
    fun _ h => ite_eq_elim h (fun _ h => nomatch h) fun _ h => ite_eq_elim h (fun _ h => nomatch h) fun _ h => nomatch h

theorem hdrVerdict_consistent (s : St) (vtp : Page) (tmpl : List Nat) (off : Nat)
    (h1 : HdrOk tmpl off vtp.pgno (vtp.raw.getD 0 zeroRow)) (h2 : s.hdrPgno ≠ 0 → RefOk tmpl off s.header) :
    hdrVerdict s vtp ≠ .reset := by
  intro h
  have h := hdrVerdict_reset h
  have hr : RefOk tmpl off (if s.hdrPgno == 0 then vtp.raw.getD 0 zeroRow else s.header) := by
    split
    · exact h1.ref
    · rename_i hf; exact h2 (by simpa using hf)
  rw [sameHeader_agrees _ _ _ off (h1.agrees hr)] at h
  cases h

theorem getD_take8_append (hdr row : List Nat) (k : Nat) (h8 : 8 ≤ hdr.length) (hk : 8 ≤ k) :
    (hdr.take 8 ++ hdrText row).getD k 0 = row.getD k 0 := by
  unfold hdrText
  have hl : (hdr.take 8).length = 8 := by simp; omega
  simp only [List.getD_eq_getElem?_getD]
  rw [List.getElem?_append_right (by omega), hl, List.getElem?_drop]
  congr 2; omega

theorem storeLop_consistent (s : St) (vtp : Page) (tmpl : List Nat) (off : Nat) (h8 : 8 ≤ s.header.length)
    (h1 : HdrOk tmpl off vtp.pgno (vtp.raw.getD 0 zeroRow)) (h2 : s.hdrPgno ≠ 0 → RefOk tmpl off s.header) :
    Event.chsw ∉ (storeLop s vtp).2
    ∧ ((storeLop s vtp).1.hdrPgno ≠ 0 → RefOk tmpl off (storeLop s vtp).1.header) := by
  refine storeLop_elim (P := fun r => Event.chsw ∉ r.2 ∧ (r.1.hdrPgno ≠ 0 → RefOk tmpl off r.1.header)) s vtp
    (fun h => absurd h (hdrVerdict_consistent s vtp tmpl off h1 h2)) (fun _ => ⟨fun h => (nomatch h), h2⟩)
    (fun copy _ ev hn => ⟨hn, ?_⟩)
  cases copy
  · exact h2
  · intro _ k hk1 hk2 hk3
    show (s.header.take 8 ++ hdrText (vtp.raw.getD 0 zeroRow)).getD k 0 = _
    rw [getD_take8_append _ _ _ h8 hk1]; exact (h1.same k hk1 hk2 hk3).2

theorem lopParityCheck_row0 (cv : Page) (rv : RawPage) :
    (lopParityCheck cv rv).1.raw.getD 0 zeroRow = cv.raw.getD 0 zeroRow := by
  rcases lopParityCheck_row cv rv 0 with h | ⟨h, _⟩
  · exact h
  · omega

/-- if `p` is a page header whose page number decodes, its row is consistent with the network's header -/
def GoodHdr (tmpl : List Nat) (off : Nat) (p : Packet) : Prop :=
  ∀ pmag page, a16 p 0 = some pmag → pmag >>> 3 = 0 → a16 p 2 = some page →
    HdrOk tmpl off ((if (pmag &&& 7) == 0 then 8 else pmag &&& 7) * 256 + page) (payload p)

theorem IsPacket.goodHdr {p : Packet} {m k : Nat} (hp : IsPacket p m k) (hk : 1 ≤ k) (tmpl : List Nat) (off : Nat) :
    GoodHdr tmpl off p :=
  fun pmag _ ha h0 _ => absurd h0 (hp.not_header hk pmag ha)

structure HInv (tmpl : List Nat) (off : Nat) (s : St) : Prop where
  shape : Shape s
  ref : s.hdrPgno ≠ 0 → RefOk tmpl off s.header
  slots : ∀ c, c < 8 → (s.rp c).page.function = FN_LOP →
    HdrOk tmpl off (s.rp c).page.pgno ((s.rp c).page.raw.getD 0 zeroRow)

theorem HInv.quiet {tmpl : List Nat} {off : Nat} {s s' : St} {m : Nat} (h : HInv tmpl off s) (q : Quiet s s' m) :
    HInv tmpl off s' := by
  refine ⟨h.shape.quiet q, by rw [q.hdr.1, q.hdr.2]; exact h.ref, ?_⟩
  intro c hc hf
  by_cases e : c = m
  · subst e
    obtain ⟨f, r⟩ := q.lop hf
    rw [q.pgno, r]; exact h.slots c hc f
  · rw [q.other c e] at hf ⊢; exact h.slots c hc hf

theorem HInv.desync {tmpl : List Nat} {off : Nat} {s : St} (h : HInv tmpl off s) : HInv tmpl off (desync s) := by
  refine ⟨h.shape.desync, h.ref, ?_⟩
  intro c hc hf
  rw [desync_fn s c (by rw [h.shape.len]; exact hc)] at hf
  exact absurd hf (by decide)

theorem HInv.tick {tmpl : List Nat} {off : Nat} {s : St} (h : HInv tmpl off s) : HInv tmpl off (tick s) :=
  ⟨tick_shape h.shape, h.ref, h.slots⟩

theorem terminatePage_hinv (tmpl : List Nat) (off : Nat) (s : St) (mag0 pgno page : Nat) (hm : mag0 < 8) (h : HInv tmpl off s) :
    HInv tmpl off (terminatePage s mag0 pgno page).1 ∧ Event.chsw ∉ (terminatePage s mag0 pgno page).2 := by
  have hcl := terminatePage_closed s mag0 pgno page
  have hts : ∀ c, terminatedSlot s mag0 pgno page = some c → c < 8 :=
    fun c hc => terminatedSlot_lt s mag0 pgno page c hm h.shape.cur hc
  have hslots : ∀ c, c < 8 → ((terminatePage s mag0 pgno page).1.rp c).page.function = FN_LOP →
      HdrOk tmpl off ((terminatePage s mag0 pgno page).1.rp c).page.pgno
        (((terminatePage s mag0 pgno page).1.rp c).page.raw.getD 0 zeroRow) := by
    intro c hc hf
    rcases hcl.slots c with e | ⟨e, _⟩
    · rw [e] at hf ⊢; exact h.slots c hc hf
    · rw [e] at hf; exact absurd hf (by decide)
  -- the reference header and the channel-switch signal, by the cases of the termination block
  have hdr : ((terminatePage s mag0 pgno page).1.hdrPgno ≠ 0 → RefOk tmpl off (terminatePage s mag0 pgno page).1.header)
      ∧ Event.chsw ∉ (terminatePage s mag0 pgno page).2 := by
    refine terminatePage_elim (p := fun T => (T.1.hdrPgno ≠ 0 → RefOk tmpl off T.1.header) ∧ Event.chsw ∉ T.2) s mag0 pgno page
      (fun _ => ⟨h.ref, fun h => (nomatch h)⟩) (fun curr hcurr x ev hstep => ?_)
    show (x.hdrPgno ≠ 0 → RefOk tmpl off x.header) ∧ Event.chsw ∉ ev
    cases hstep with
    | idle _ => exact ⟨h.ref, fun h => (nomatch h)⟩
    | lop hfn =>
      have hk := lopParityCheck_keys (s.rp curr).page (s.rp curr)
      exact (storeLop_consistent (s.setRp curr _) _ tmpl off h.shape.hlen
        (by rw [hk.1, lopParityCheck_row0]; exact h.slots curr (hts curr hcurr) hfn) h.ref).symm
    | mip r _ _ => exact ⟨h.ref, chsw_not_mem_liftAux _⟩
    | put aux _ _ =>
      refine ⟨h.ref, fun hx => ?_⟩
      rcases List.mem_append.mp hx with hx | hx
      · exact chsw_not_mem_liftAux _ hx
      · simp [St.put] at hx
  exact ⟨⟨h.shape.closed hts hcl, hdr.1, hslots⟩, hdr.2⟩

theorem decode_hinv (tmpl : List Nat) (off : Nat) (s : St) (p : Packet) (h : HInv tmpl off s) (hg : GoodHdr tmpl off p) :
    HInv tmpl off (decodeTeletext s p).st ∧ Event.chsw ∉ (decodeTeletext s p).ev := by
  have sh := (decode_shape s p h.shape).1
  revert sh
  refine decode_elim (P := fun s' ev => Shape s' → HInv tmpl off s' ∧ Event.chsw ∉ ev) s p h.shape.len
    (fun _ => ⟨h, fun h => (nomatch h)⟩) (fun _ => ⟨h.desync, fun h => (nomatch h)⟩)
    (fun _ _ _ hq hs _ => ⟨h.quiet hq, hs.nochsw⟩) (fun m page l h0 ha hpage _ hs hev sh => ?_)
  obtain ⟨h7, hm⟩ := pmag_hdr m h0
  obtain ⟨ht, hnt⟩ := terminatePage_hinv tmpl off s m (mag8Of m * 256 + page) page hm h
  have hgood : HdrOk tmpl off (mag8Of m * 256 + page) (payload p) := by
    have := hg m page ha h0 hpage
    rwa [h7] at this
  refine ⟨⟨sh, by rw [hs.hdr.1, hs.hdr.2]; exact ht.ref, fun c hc hf => ?_⟩,
    fun hx => (List.mem_append.mp (hev ▸ hx)).elim hnt (chsw_not_mem_liftAux _)⟩
  by_cases e : c = m
  · subst e
    rcases hs.flags with ⟨hd, _⟩ | ⟨_, _, _, _, _, _, _, _, hlop⟩
    · rw [hd] at hf; exact absurd hf (by decide)
    · rw [hs.pgno]
      rcases hlop hf with ⟨q, hq, hr⟩ | hr
      · rw [hr]
        have : 0 < q.raw.length := by rw [ht.shape.cache q hq]; decide
        have : (q.raw.set 0 (payload p)).getD 0 zeroRow = payload p := by
          simp [List.getD_eq_getElem?_getD, this]
        rw [this]; exact hgood
      · rw [hr]; exact hgood
  · rw [hs.other c e] at hf ⊢; exact ht.slots c hc hf

theorem step_hinv (tmpl : List Nat) (off : Nat) (s : St) (p : Packet) (h : HInv tmpl off s) (hg : GoodHdr tmpl off p) :
    HInv tmpl off (step s p).1 ∧ Event.chsw ∉ (step s p).2 := by
  rw [step_eq_decode s p h.shape.cd]
  exact decode_hinv tmpl off (tick s) p h.tick hg

theorem run_hinv (tmpl : List Nat) (off : Nat) (ps : List Packet) : ∀ (s : St), HInv tmpl off s →
    (∀ p ∈ ps, GoodHdr tmpl off p) → HInv tmpl off (run s ps).1 ∧ Event.chsw ∉ (run s ps).2 :=
  run_inv (step_hinv tmpl off) ps

theorem init_hinv (tmpl : List Nat) (off : Nat) (on : Bool) : HInv tmpl off (init.enable on) := by
  refine ⟨init_shape on, ?_, ?_⟩
  · intro h; exfalso; apply h; cases on <;> rfl
  · intro c hc hf
    rw [init_slots_discard on c hc] at hf
    exact absurd hf (by decide)

end Zvbi.Ttx
