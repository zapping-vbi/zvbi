import ZvbiModel.Ttx.Mode
import ZvbiModel.Ttx.Interleaved
/-!
# C02: a cycle of transmissions of one magazine, parallel mode: with the other magazines interleaved (`parMode`) and
alone (`soloMode`)

`Good` = `GoodHdr ∧ TextOnly ∧ ParHdr`, `CInv` = `SInv` on a network in parallel mode (`run_cinv`); `magPages`: the TTX_PAGE events
of one magazine.  One transmission with interleaved magazines: `packet_find`, `items_frame`, `seg_open`.  `Seg` / `SegOk` and the
instance `parMode`, `SoloOk` and the instance `soloMode` of `Mode`; `exists_last`.
-/
namespace Zvbi.Ttx
open Zvbi.Hamm Zvbi.Gen Zvbi.Ttx.Spec

/-- the three sender-side conditions on a packet: consistent page header, text pages only, no magazine-serial header -/
def Good (tmpl : List Nat) (off : Nat) (p : Packet) : Prop := GoodHdr tmpl off p ∧ TextOnly p ∧ ParHdr p

/-- `SInv` on a network in parallel mode (`IInv`) -/
structure CInv (tmpl : List Nat) (off : Nat) (s : St) : Prop extends SInv tmpl off s where
  par : AllParallel s
  own : SlotsOwn s

theorem CInv.i {tmpl : List Nat} {off : Nat} {s : St} (h : CInv tmpl off s) : IInv s := ⟨h.shape, h.mask, h.par, h.own⟩

theorem step_cinv {tmpl : List Nat} {off : Nat} (s : St) (p : Packet) (h : CInv tmpl off s) (g : Good tmpl off p) :
    CInv tmpl off (step s p).1 ∧ Event.chsw ∉ (step s p).2 := by
  obtain ⟨hs, n⟩ := step_sinv s p h.toSInv ⟨g.1, g.2.1⟩
  have hi := step_iinv s p h.i g.2.2
  exact ⟨⟨hs, hi.par, hi.own⟩, n⟩

theorem run_cinv {tmpl : List Nat} {off : Nat} (ps : List Packet) : ∀ (s : St), CInv tmpl off s →
    (∀ p ∈ ps, Good tmpl off p) → CInv tmpl off (run s ps).1 ∧ Event.chsw ∉ (run s ps).2 :=
  run_inv step_cinv ps

theorem init_cinv (tmpl : List Nat) (off : Nat) : CInv tmpl off (init.enable true) :=
  ⟨init_sinv tmpl off, init_iinv.par, init_iinv.own⟩

theorem CInv.tick {tmpl : List Nat} {off : Nat} {s : St} (h : CInv tmpl off s) : CInv tmpl off (tick s) :=
  ⟨h.toSInv.tick, h.par, h.own⟩

def magPages (m : Nat) (ev : List Event) : List (Nat × Nat) := (ttxPages ev).filter (fun x => x.1 / 256 == mag8Of m)

theorem magPages_append (m : Nat) (a b : List Event) : magPages m (a ++ b) = magPages m a ++ magPages m b := by
  unfold magPages; rw [ttxPages_append, List.filter_append]

theorem magPages_congr (m : Nat) (a b : List Event) (h : ttxPages a = ttxPages b) : magPages m a = magPages m b := by
  unfold magPages; rw [h]

theorem magPages_eq_nil (m : Nat) (ev : List Event) (h : ∀ x ∈ ttxPages ev, x.1 / 256 ≠ mag8Of m) : magPages m ev = [] := by
  unfold magPages
  rw [List.filter_eq_nil_iff]
  exact fun x hx hc => h x hx (by simpa using hc)

theorem magPages_own (m page sub : Nat) (hp : page < 256) (ev : List Event)
    (h : ttxPages ev = [(mag8Of m * 256 + page, sub)]) : magPages m ev = [(mag8Of m * 256 + page, sub)] := by
  unfold magPages
  rw [h]
  have : (mag8Of m * 256 + page) / 256 = mag8Of m := by omega
  simp [this]

theorem terminatePage_find_foreign {tmpl : List Nat} {off : Nat} (s : St) (m m' pgno page : Nat) (hm : m < 8) (hm' : m' < 8)
    (hne : m' ≠ m) (h : CInv tmpl off s) (f : Page → Bool) (hf : OfMag m f) :
    (terminatePage s m' pgno page).1.net.cache.find? f = s.net.cache.find? f := by
  apply terminatePage_find s m' pgno page f hm' h.shape h.t (terminatePage_hinv tmpl off s m' pgno page hm' h.h).2
  intro curr hcurr hfn
  rcases terminatedSlot_allParallel s h.shape h.par m' pgno page with e | e
  · rw [e] at hcurr; cases hcurr
  · rw [e] at hcurr
    injection hcurr with hcurr
    subst hcurr
    obtain ⟨pg, hp1, hp2⟩ := h.own m' hm' (by rw [hfn]; decide)
    exact putKeeps_of_false f _ _ fun x hx => ofMag_false m m' hm hm' hne f hf pg hp1 x (hx.trans hp2)

/-- a packet that is no page header, or the header of a page of another magazine whose page number decodes, keeps
    `find? f` for every `f` of magazine `m` -/
theorem packet_find {tmpl : List Nat} {off : Nat} (s : St) (p : Packet) (m m' k : Nat) (hm : m < 8)
    (hp : IsPacket p m' k) (h : CInv tmpl off s) (ht : TextOnly p) (hk : k = 0 → m' ≠ m ∧ ∃ page, a16 p 2 = some page)
    (f : Page → Bool) (hf : OfMag m f) : (step s p).1.net.cache.find? f = s.net.cache.find? f := by
  obtain ⟨hm', hk32, ha⟩ := hp
  by_cases hk0 : k = 0
  · obtain ⟨hne, page, hpage⟩ := hk hk0
    subst hk0
    rw [(header_step s p m' page hm' ha hpage h.shape h.mask h.t ht).find f
      (fun x hx => ofMag_false m m' hm hm' hne f hf page (a16_lt p 2 page hpage) x hx)]
    exact terminatePage_find_foreign (tick s) m m' _ page hm hm' hne h.tick f hf
  · obtain ⟨a1, a2⟩ := addr_split m' hm' k hk32
    rw [step_eq_decode s p h.shape.cd]
    have hslot := h.tick.t.slots ((m' + 8 * k) &&& 7) (and7_lt _)
    exact congrArg (List.find? f) (decode_plain (tick s) p (m' + 8 * k) ha (by rw [a2]; exact hk0) hslot).cache

/-- an own item is a row 1..25 of the page with odd-parity bytes or (`.ownx`) one of the page's packets X/26, X/27, X/28
    (not X/28/3), M/29 of its magazine; a foreign item belongs to another magazine and, if it is a page header, its page
    number decodes (E1).  The other three clauses of `Benign` follow from `CInv` / `Good` (`benign_of`). -/
def ItemPlain (m : Nat) : Item → Prop
  | .own k p => IsPacket p m k ∧ 1 ≤ k ∧ k ≤ 25 ∧ GoodRow (payload p)
  | .foreign m' k p => m' ≠ m ∧ IsPacket p m' k ∧ (k = 0 → ∃ page, a16 p 2 = some page)
  | .ownx k p => IsPacket p m k ∧ IsAux p k

theorem ownRows_good {m : Nat} (items : List Item) (h : ∀ it ∈ items, ItemPlain m it) :
    ∀ r ∈ rowsOf (ownRows items), 1 ≤ r.1 ∧ r.1 ≤ 25 ∧ GoodRow r.2 := by
  induction items with
  | nil => intro r hr; cases hr
  | cons it items ih =>
    intro r hr
    have ih' := ih (fun x hx => h x (List.mem_cons_of_mem _ hx))
    cases it with
    | own k p =>
      simp only [ownRows, rowsOf, List.map_cons, List.mem_cons] at hr
      rcases hr with rfl | hr
      · exact (h _ List.mem_cons_self).2
      · exact ih' r hr
    | foreign m' k p => exact ih' r hr
    | ownx k p => exact ih' r hr

theorem benign_of {tmpl : List Nat} {off : Nat} (s : St) (p : Packet) (m' k : Nat) (h : CInv tmpl off s)
    (hp : IsPacket p m' k) (g : Good tmpl off p) (hpg : k = 0 → ∃ page, a16 p 2 = some page) : Benign s p m' k := by
  obtain ⟨hm', hk32, ha⟩ := hp
  refine ⟨hpg, ?_, (step_cinv s p h g).2, ?_⟩
  · intro _ hx
    rcases h.t.slots m' hm' with e | e <;> rw [e] at hx <;> revert hx <;> decide
  · intro hk fl hfl
    subst hk
    exact g.2.2 (m' + 8 * 0) ha (addr_split m' hm' 0 (by omega)).2 fl hfl

theorem items_frame {tmpl : List Nat} {off : Nat} (m : Nat) (hm : m < 8) : ∀ (items : List Item) (s : St),
    CInv tmpl off s → (∀ it ∈ items, ItemPlain m it ∧ Good tmpl off it.pkt) →
    ItemsOk m s items
    ∧ (∀ f, OfMag m f → (run s (items.map Item.pkt)).1.net.cache.find? f = s.net.cache.find? f) := by
  intro items
  induction items with
  | nil => intro s _ _; exact ⟨trivial, fun _ _ => rfl⟩
  | cons it items ih =>
    intro s h hall
    obtain ⟨hpl, hg⟩ := hall it List.mem_cons_self
    obtain ⟨r2, r3⟩ := ih (step s it.pkt).1 (step_cinv s it.pkt h hg).1 (fun x hx => hall x (List.mem_cons_of_mem _ hx))
    rw [List.map_cons, run_cons]
    cases it with
    | own k p =>
      exact ⟨⟨⟨hpl.1, hpl.2.1, hpl.2.2.1⟩, r2⟩, fun f hf => (r3 f hf).trans
        (packet_find s p m m k hm hpl.1 h hg.2.1 (fun e => absurd e (by have := hpl.2.1; omega)) f hf)⟩
    | foreign m' k p =>
      exact ⟨⟨⟨hpl.1, hpl.2.1, benign_of s p m' k h hpl.2.1 hg hpl.2.2⟩, r2⟩, fun f hf => (r3 f hf).trans
        (packet_find s p m m' k hm hpl.2.1 h hg.2.1 (fun e => ⟨hpl.1, hpl.2.2 e⟩) f hf)⟩
    | ownx k p =>
      exact ⟨⟨hpl, r2⟩, fun f hf => (r3 f hf).trans
        (packet_find s p m m k hm hpl.1 h hg.2.1 (fun e => absurd e (by have := hpl.2.1; omega)) f hf)⟩

theorem seg_open {tmpl : List Nat} {off : Nat} (s : St) (h : CInv tmpl off s) (t : Tx) (hdr : Packet)
    (hh : IsHeader hdr t.m t.page t.s12 t.s34 t.fl) (hdec : decimalPage t.page) (hg : Good tmpl off hdr)
    (items : List Item) (hitems : ∀ it ∈ items, ItemPlain t.m it ∧ Good tmpl off it.pkt) :
    CInv tmpl off (run s (hdr :: items.map Item.pkt)).1
    ∧ Ready (run s (hdr :: items.map Item.pkt)).1 (s1Of s t) t hdr (rowsOf (ownRows items))
    ∧ ParallelCur (run s (hdr :: items.map Item.pkt)).1
    ∧ (∀ f, OfMag t.m f → GetKeeps f t.pgno t.subpage t.fl →
        (run s (hdr :: items.map Item.pkt)).1.net.cache.find? f = (s1Of s t).net.cache.find? f)
    ∧ magPages t.m (run s (hdr :: items.map Item.pkt)).2
        = magPages t.m (terminatePage (tick s) t.m t.pgno t.page).2 := by
  have hm := hh.mag
  obtain ⟨ho, he, hL⟩ := open_header s h.shape h.mask t hdr hh hdec
    ((terminatePage_tinv (tick s) t.m t.pgno t.page hm h.tick.shape h.tick.t).net.textPage _ _ _ _ hdec)
  obtain ⟨hc2, _⟩ := step_cinv s hdr h hg
  obtain ⟨i2, i3⟩ := items_frame t.m hm items _ hc2 hitems
  obtain ⟨hr, hp, i4, _⟩ := (ho.ready hm hdec hc2.mask hc2.shape.cd hL).items items _ [] hc2.i ⟨t.m, ho.cur⟩ i2
    (fun x hx => (ownRows_good items (fun it hit => (hitems it hit).1) _ (List.mem_map_of_mem hx)).2.2)
  rw [run_cons]
  refine ⟨(run_cinv _ _ hc2 fun p hp => ?_).1, hr, hp, fun f hf hget => ?_, ?_⟩
  · obtain ⟨it, hit, rfl⟩ := List.mem_map.mp hp
    exact (hitems it hit).2
  · rw [i3 f hf, ho.net]; exact hget _
  · rw [magPages_append, magPages_eq_nil _ _ i4, List.append_nil]
    exact magPages_congr _ _ _ he

/-- a segment of a cycle: header of a decimal text page of magazine `m`, then the items up to the next header of `m` (own
    rows, the page's own packets 26..29 and packets of other magazines) -/
structure Seg where
  t : Tx
  hdr : Packet
  items : List Item

def Seg.pkts (x : Seg) : List Packet := x.hdr :: x.items.map Item.pkt
def Seg.rows (x : Seg) : List (Nat × List Nat) := rowsOf (ownRows x.items)
def Seg.key (x : Seg) : Nat × Nat := (x.t.pgno, x.t.subno)
def stream (segs : List Seg) : List Packet := segs.flatMap Seg.pkts

structure SegOk (tmpl : List Nat) (off m : Nat) (x : Seg) : Prop where
  mag : x.t.m = m
  hdr : IsHeader x.hdr x.t.m x.t.page x.t.s12 x.t.s34 x.t.fl
  dec : decimalPage x.t.page
  good : Good tmpl off x.hdr
  items : ∀ it ∈ x.items, ItemPlain x.t.m it ∧ Good tmpl off it.pkt

/-- parallel mode, magazine `m`: a page is closed by the next header of its magazine with another page number; the
    look-ups spoken of are those of pages of `m`, the events those of `m` -/
def parMode (tmpl : List Nat) (off m : Nat) (hm : m < 8) : Mode tmpl off Seg where
  t := Seg.t
  hdr := Seg.hdr
  pkts := Seg.pkts
  rows := Seg.rows
  key x := x.t.page
  Inv := CInv tmpl off
  Ok := SegOk tmpl off m
  Cur s _ := ParallelCur s
  P := OfMag m
  evs := magPages m
  Q mQ _ pageQ kQ := mQ = m ∧ kQ = pageQ
  base _ h := h.toSInv
  evs_append := magPages_append m
  evs_congr := magPages_congr m
  evs_own x ev h he := by
    have := magPages_own m x.t.page x.t.subno (a16_lt x.hdr 2 _ h.hdr.page) ev (by rw [he]; unfold Tx.pgno; rw [h.mag])
    rw [this]; unfold Tx.pgno; rw [h.mag]
  okDec _ h := ⟨h.hdr.mag, h.dec⟩
  okP x h k mask := by
    unfold Tx.pgno; rw [h.mag]; exact ofMag_keyMatch m x.t.page k mask (a16_lt x.hdr 2 _ h.hdr.page)
  okQ x h := ⟨h.mag, rfl⟩
  magQ _ _ _ _ h := h.1 ▸ hm
  opn := by
    intro s ⟨t, hdr, items⟩ h hx
    have hmm : t.m = m := hx.mag
    subst hmm
    obtain ⟨o1, o2, o3, o4, o5⟩ := seg_open s h t hdr hx.hdr hx.dec hx.good items hx.items
    exact ⟨o1, ⟨o2, o3⟩, o4, o5⟩
  closes := by
    intro s s1 x _ hx hr hp mQ pgnoQ pageQ kQ ⟨e1, e2⟩ hne
    subst e1 e2
    rw [← hx.mag]
    exact hr.closes_par hp pgnoQ kQ hne

/-- sender conditions on a transmission of magazine `m` in parallel mode -/
def SoloOk (tmpl : List Nat) (off m : Nat) (x : STx) : Prop :=
  x.1.m = m ∧ IsHeader x.2.1 m x.1.page x.1.s12 x.1.s34 x.1.fl ∧ decimalPage x.1.page
    ∧ x.1.fl &&& 0x10 = 0 ∧ GoodHdr tmpl off x.2.1
    ∧ ∀ r ∈ x.2.2, IsPacket r.2 m r.1 ∧ 1 ≤ r.1 ∧ r.1 ≤ 25 ∧ GoodRow (payload r.2)

theorem SoloOk.good {tmpl : List Nat} {off m : Nat} {x : STx} (h : SoloOk tmpl off m x) :
    ∀ p ∈ x.2.1 :: x.2.2.map (·.2), Good tmpl off p := by
  obtain ⟨_, hh, hdec, hpar, hg, hrows⟩ := h
  intro p hp
  rcases List.mem_cons.mp hp with rfl | hp
  · refine ⟨hg, hh.textOnly hdec, fun _ _ _ fl hfl => ?_⟩
    rw [hh.fl] at hfl; injection hfl with hfl; rw [← hfl]; exact hpar
  · obtain ⟨r, hr, rfl⟩ := List.mem_map.mp hp
    exact ⟨(hrows r hr).1.goodHdr (hrows r hr).2.1 tmpl off, (hrows r hr).1.textOnly (hrows r hr).2.1,
      (hrows r hr).1.parHdr (hrows r hr).2.1⟩

/-- one magazine alone, parallel mode: a page is closed by the next header with another page number; ALL look-ups and ALL
    TTX_PAGE events are spoken of -/
def soloMode (tmpl : List Nat) (off m : Nat) (hm : m < 8) : Mode tmpl off STx where
  t x := x.1
  hdr x := x.2.1
  pkts x := x.2.1 :: x.2.2.map (·.2)
  rows x := rowsOf x.2.2
  key x := x.1.page
  Inv := CInv tmpl off
  Ok := SoloOk tmpl off m
  Cur s x := s.current = some x.1.m
  P _ := True
  evs := ttxPages
  Q mQ _ pageQ kQ := mQ = m ∧ kQ = pageQ
  base _ h := h.toSInv
  evs_append := ttxPages_append
  evs_congr _ _ h := h
  evs_own _ _ _ h := h
  okDec _ h := ⟨h.1 ▸ hm, h.2.2.1⟩
  okP _ _ _ _ := trivial
  okQ _ h := ⟨h.1, rfl⟩
  magQ _ _ _ _ h := h.1 ▸ hm
  opn := by
    intro s ⟨t, hdr, rp⟩ h hx
    have hgood := hx.good
    obtain ⟨hmm, hh, hdec, _, _, hrows⟩ := hx
    simp only [] at hmm hh hdec hrows
    subst hmm
    obtain ⟨o1, o2, o3, o4⟩ := seg_open_rows s h.shape h.mask h.t t hdr rp hh hdec hrows
    exact ⟨(run_cinv _ s h hgood).1, ⟨o1, o2⟩, fun f _ => o3 f, o4⟩
  closes := by
    intro s s1 x _ hx hr hcur mQ pgnoQ pageQ kQ ⟨e1, e2⟩ hne
    obtain ⟨hmm, hh, hdec, hpar, _⟩ := hx
    subst e1 e2
    rw [← hmm] at hh ⊢
    exact hr.closes_par
      (hr.parallelCur hcur ⟨a16_lt x.2.1 4 _ hh.s12, a16_lt x.2.1 6 _ hh.s34⟩ hpar) pgnoQ kQ hne

theorem exists_last {α : Type} (P : α → Prop) : ∀ (l : List α) (x : α), x ∈ l → P x →
    ∃ pre y post, l = pre ++ y :: post ∧ P y ∧ ∀ z ∈ post, ¬ P z := by
  intro l
  induction l with
  | nil => intro x hx; cases hx
  | cons a l ih =>
    intro x hx hpx
    by_cases hex : ∃ z ∈ l, P z
    · obtain ⟨z, hz, hpz⟩ := hex
      obtain ⟨pre, y, post, e, hy, hpost⟩ := ih z hz hpz
      exact ⟨a :: pre, y, post, by rw [e]; rfl, hy, hpost⟩
    · have hpa : P a := by
        rcases List.mem_cons.mp hx with rfl | hx
        · exact hpx
        · exact absurd ⟨x, hx, hpx⟩ hex
      exact ⟨[], a, l, rfl, hpa, fun z hz hpz => hex ⟨z, hz, hpz⟩⟩

end Zvbi.Ttx
