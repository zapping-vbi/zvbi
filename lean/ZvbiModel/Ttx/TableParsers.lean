import ZvbiModel.Ttx.FaultSites
/-!
# The TOP / MIP parsers and `vbi_convert_page`: look-ups only, page numbers in range

The parsers that work on the network record (`parse_btt`, `parse_mpt`, `parse_mpt_ex`, `parse_mip`, `vbi_convert_page`
of a TOP page) reach the page list through `Net.get` only (`Looks`, Ttx/CacheOps.lean) and the page statistics through
`cache_network_page_stat`, whose `assert` wants a page number 0x100..0x8FF (`PgnoOk`).  Each function is walked once,
for both: `*_spec : Looks n r.net ∧ (.. → NoFault r.events)`, the second half under what the parser needs of its
arguments.  Where the page numbers come from: the BCD walk of a BTT / MPT row (`bttReach`, `mptItems`), a TOP page link
(`unhamTopPageLink_range`), the magazine base of a MIP (`mip_base_in_range`).
-/
namespace Zvbi.Ttx
open Zvbi.Hamm Zvbi.Gen Zvbi.Ttx.Spec

/-- what one step of a table parser is shown to do: the page list changes by look-ups only, and under `ok` no fault
    mark is added to the diagnostics -/
def Parses (n n' : Net) (ok : Prop) (ev ev' : List Aux) : Prop := Looks n n' ∧ (ok → NoFault ev → NoFault ev')

theorem Parses.refl (n : Net) (ok : Prop) (ev : List Aux) : Parses n n ok ev ev := ⟨Looks.refl n, fun _ h => h⟩

theorem Parses.trans {a b c : Net} {ok : Prop} {e1 e2 e3 : List Aux} (h1 : Parses a b ok e1 e2) (h2 : Parses b c ok e2 e3) :
    Parses a c ok e1 e3 :=
  ⟨h1.1.trans h2.1, fun hk h => h2.2 hk (h1.2 hk h)⟩

theorem Parses.mono {n n' : Net} {ok ok' : Prop} {ev ev' : List Aux} (h : Parses n n' ok ev ev') (hk : ok' → ok) :
    Parses n n' ok' ev ev' :=
  ⟨h.1, fun k => h.2 (hk k)⟩

theorem Parses.setStat (n : Net) (pgno : Nat) (f : PageStat → PageStat) (ev : List Aux) :
    Parses n (n.setStat pgno f).1 (PgnoOk pgno) ev (ev ++ (n.setStat pgno f).2) :=
  ⟨setStat_looks n pgno f, fun hp hev => by rw [setStat_nofault _ _ _ hp, List.append_nil]; exact hev⟩

/-- `cache_network_page_stat` called for a read -/
theorem Parses.assert (n : Net) (pgno : Nat) (ev : List Aux) : Parses n n (PgnoOk pgno) ev (ev ++ statAssert pgno) :=
  ⟨Looks.refl n, fun hp hev => by rw [statAssert_nofault _ hp, List.append_nil]; exact hev⟩

/-- `_vbi_cache_get_page` -/
theorem Parses.get (n : Net) (a b c : Nat) (ok : Prop) (ev : List Aux) :
    Parses n (n.get a b c).2.1 ok ev (ev ++ (n.get a b c).2.2) :=
  ⟨get_looks n a b c, fun _ hev => hev.append (get_nofault n a b c)⟩

theorem Parses.fold {α β : Type} (f : α × List Aux → β → α × List Aux) (proj : α → Net) (P : β → Prop)
    (hstep : ∀ a ev b, Parses (proj a) (proj (f (a, ev) b).1) (P b) ev (f (a, ev) b).2) (l : List β) (a : α) (ev : List Aux) :
    Parses (proj a) (proj (l.foldl f (a, ev)).1) (∀ b ∈ l, P b) ev (l.foldl f (a, ev)).2 := by
  induction l generalizing a ev with
  | nil => exact Parses.refl _ _ _
  | cons b l ih =>
    exact ((hstep a ev b).mono fun h => h b List.mem_cons_self).trans
      ((ih _ _).mono fun h x hx => h x (List.mem_cons_of_mem _ hx))

theorem mpt_pgnos_in_range (packet : Nat) : ∀ it, it ∈ mptItems packet → PgnoOk it.2 := by
  by_cases h : packet < 21
  · have : ∀ packet < 21, ∀ it ∈ mptItems packet, 0x100 ≤ it.2 ∧ it.2 ≤ 0x8FF := by decide +kernel
    exact this packet h
  · intro it hit
    have : mptItems packet = [] := by
      unfold mptItems
      have h1 : (decide (1 ≤ packet) && decide (packet ≤ 20)) = false := by simp; omega
      simp [h1]
    rw [this] at hit; cases hit

theorem mptStep_spec (g : Nat → Option Nat) (n : Net) (ev : List Aux) (it : Nat × Nat) :
    Parses n (mptStep g (n, ev) it).1 (PgnoOk it.2) ev (mptStep g (n, ev) it).2 := by
  generalize hr : mptStep g (n, ev) it = r
  unfold mptStep at hr
  split at hr
  · subst hr; exact Parses.refl ..
  · -- the sub-code written is the digit or, for a digit above 9, 0xFFFE
    simp only [] at hr
    split at hr <;> split at hr <;> subst hr
    · exact Parses.setStat ..
    · exact Parses.assert ..
    · exact Parses.setStat ..
    · exact Parses.assert ..

theorem parseMpt_spec (n : Net) (g : Nat → Option Nat) (packet : Nat) :
    Looks n (parseMpt n g packet).1 ∧ NoFault (parseMpt n g packet).2 := by
  have h := Parses.fold (mptStep g) id (fun it => PgnoOk it.2) (mptStep_spec g) (mptItems packet) n []
  exact ⟨h.1, h.2 (mpt_pgnos_in_range packet) NoFault.nil⟩

/-! ## TOP page links (BTT 21..23, MPT-EX) -/
theorem unhamTopPageLink_range (v : View) (i : Nat) (l : Link) (h : unhamTopPageLink v i = some l) :
    PgnoOk l.pgno.toNat := by
  unfold unhamTopPageLink at h
  simp only [] at h
  split at h
  · cases h
  · split at h
    · cases h
    · rename_i hr
      injection h with h
      subst h
      simp only [Int.toNat_natCast]
      unfold PgnoOk
      simp only [Bool.or_eq_true, decide_eq_true_eq, not_or, Nat.not_lt, Nat.not_lt] at hr
      omega

theorem mptExStep_spec (lk : Nat → Option Link) (a : Net × Bool) (ev : List Aux) (i : Nat) :
    Parses a.1 (mptExStep lk (a, ev) i).1.1 (∀ i l, lk i = some l → PgnoOk l.pgno.toNat) ev (mptExStep lk (a, ev) i).2 := by
  generalize hr : mptExStep lk (a, ev) i = r
  unfold mptExStep at hr
  simp only [] at hr
  split at hr
  · subst hr; exact Parses.refl ..
  · split at hr
    · subst hr; exact Parses.refl ..
    · rename_i p hp
      split at hr
      · subst hr; exact Parses.refl ..
      · split at hr <;> subst hr
        · exact (Parses.setStat ..).mono fun hlk => hlk _ p hp
        · exact Parses.refl ..

theorem parseMptEx_spec (n : Net) (lk : Nat → Option Link) (packet : Nat) :
    Looks n (parseMptEx n lk packet).1 ∧ ((∀ i l, lk i = some l → PgnoOk l.pgno.toNat) → NoFault (parseMptEx n lk packet).2) := by
  unfold parseMptEx
  split
  · have h := Parses.fold (mptExStep lk) (·.1) (fun _ => ∀ i l, lk i = some l → PgnoOk l.pgno.toNat) (mptExStep_spec lk)
      (List.range 5) (n, false) []
    exact ⟨h.1, fun hlk => h.2 (fun _ _ => hlk) NoFault.nil⟩
  · exact ⟨Looks.refl n, fun _ => NoFault.nil⟩

/-- BTT packets 21..23 address `btt_link[(packet - 21) * 5 + i]`, i < 5,
    inside the array of 15 entries -/
theorem btt_link_index_in_range (packet i : Nat) (hp : packet ≤ 23) (hi : i < 5) :
    (packet - 21) * 5 + i < BTT_LINKS := by
  have : BTT_LINKS = 15 := by decide
  omega

theorem bttLinkStep_spec (v : View) (packet : Nat) (n : Net) (ev : List Aux) (i : Nat) :
    Parses n (bttLinkStep v packet (n, ev) i).1 (packet ≤ 23 ∧ i < 5) ev (bttLinkStep v packet (n, ev) i).2 := by
  generalize hr : bttLinkStep v packet (n, ev) i = r
  unfold bttLinkStep at hr
  split at hr
  · subst hr; exact Parses.refl ..
  · rename_i l hl
    simp only [] at hr
    split at hr
    · split at hr <;> subst hr
      · exact (Parses.trans (b := { n with bttLink := _ }) ⟨Looks.of_eq rfl, fun _ h => h⟩ (Parses.setStat ..)).mono
          fun _ => unhamTopPageLink_range v _ l hl
      · exact ⟨Looks.of_eq rfl, fun _ h => h⟩
    · rename_i hidx
      subst hr
      exact ⟨Looks.refl _, fun hk _ => absurd (btt_link_index_in_range packet i hk.1 hk.2) hidx⟩

/-! ## BTT rows 1..20 -/

/-- where the next group of ten can start after a group started at `i` handled `j ≤ 10` entries -/
def bttNext (i : Nat) : List Nat :=
  (List.range 11).map fun j => i + j + (if (i + j) &&& 0xFF == 0x9A then 0x66 else 0x06)

/-- all indices at which group `g` of a BTT row can start, whatever bytes were uncorrectable -/
def bttReach (start : Nat) : Nat → List Nat
  | 0 => [start]
  | g + 1 => (bttReach start g).flatMap bttNext

/-- Group `g` starts within 16 `g` of the row's first page number, or - after the one step from x9A to the next
    hundred, which only a row starting at x80 takes - within 16 `g` of that hundred. -/
theorem bttReach_bound (start : Nat) (hs : start % 256 ≤ 0x80) :
    ∀ g ≤ 3, ∀ i ∈ bttReach start g, (start ≤ i ∧ i ≤ start + 16 * g) ∨
      (0x70 ≤ start % 256 ∧ start - start % 256 + 0x100 ≤ i ∧ i ≤ start - start % 256 + 0x100 + 16 * g) := by
  intro g
  induction g with
  | zero => intro _ i hi; rw [List.mem_singleton.mp hi]; exact .inl ⟨Nat.le_refl _, Nat.le_refl _⟩
  | succ g ih =>
    intro hg i hi
    obtain ⟨i0, h0, hi⟩ := List.mem_flatMap.mp hi
    obtain ⟨j, hj, rfl⟩ := List.mem_map.mp hi
    have hj := List.mem_range.mp hj
    have h0 := ih (by omega) i0 h0
    have hm : (i0 + j) &&& 0xFF = (i0 + j) % 256 := Nat.and_two_pow_sub_one_eq_mod _ 8
    rw [hm]
    by_cases hc : (i0 + j) % 256 = 0x9A
    · rw [hc]; simp only [beq_self_eq_true, if_true]; omega
    · have : ((i0 + j) % 256 == 0x9A) = false := by simpa using hc
      rw [this]; simp only [Bool.false_eq_true, if_false]; omega

/-- every reachable group start leaves room for ten page numbers below 0x900 -/
theorem btt_reach_in_range : ∀ packet < 21, ∀ g < 4, ∀ i ∈ bttReach (dec2bcdp.getD (packet - 1) 0) g,
    i + 9 < 0x800 := by
  intro packet hp g hg i hi
  have hs : ∀ packet < 21, dec2bcdp.getD (packet - 1) 0 % 256 ≤ 0x80 ∧ dec2bcdp.getD (packet - 1) 0 ≤ 0x760 ∧
      (0x70 ≤ dec2bcdp.getD (packet - 1) 0 % 256 → dec2bcdp.getD (packet - 1) 0 ≤ 0x680) := by decide
  have h := bttReach_bound _ (hs packet hp).1 g (by omega) i hi
  have := hs packet hp
  omega

/-- one entry of a group: the page number is `0x100 + index + j` with `j ≤ 9` entries done; `j` rises by at most one -/
theorem bttEntry_spec (v : View) (index rawPos : Nat) (a : Net × Nat × Bool) (ev : List Aux) (k : Nat) :
    Parses a.1 (bttEntry v index rawPos (a, ev) k).1.1 (index + 9 < 0x800 ∧ a.2.1 ≤ 9) ev (bttEntry v index rawPos (a, ev) k).2
    ∧ (bttEntry v index rawPos (a, ev) k).1.2.1 ≤ a.2.1 + 1 := by
  have hp : index + 9 < 0x800 ∧ a.2.1 ≤ 9 → PgnoOk (0x100 + index + a.2.1) := fun h => by unfold PgnoOk; omega
  generalize hr : bttEntry v index rawPos (a, ev) k = r
  unfold bttEntry at hr
  simp only [] at hr
  split at hr
  · subst hr; exact ⟨Parses.refl .., Nat.le_succ _⟩
  · split at hr
    · subst hr; exact ⟨(Parses.assert ..).mono hp, Nat.le_succ _⟩
    · split at hr
      · -- BTT_SUBTITLE: the page type, a look-up for the character set, the sub-code
        subst hr
        refine ⟨?_, Nat.le_refl _⟩
        apply Parses.trans ?_ ((Parses.setStat ..).mono hp)
        apply Parses.trans ((Parses.setStat ..).mono hp)
        apply Parses.trans (Parses.get ..)
        split
        · exact (Parses.setStat ..).mono hp
        · rw [List.append_nil]; exact Parses.refl ..
      · split at hr <;> subst hr
        · exact ⟨(Parses.setStat ..).mono hp, Nat.le_refl _⟩
        · exact ⟨(Parses.setStat ..).mono hp, Nat.le_refl _⟩

theorem bttEntryFold_spec (v : View) (index rawPos : Nat) (l : List Nat) (a : Net × Nat × Bool) (ev : List Aux) :
    Parses a.1 (l.foldl (bttEntry v index rawPos) (a, ev)).1.1 (index + 9 < 0x800 ∧ a.2.1 + l.length ≤ 10) ev
      (l.foldl (bttEntry v index rawPos) (a, ev)).2
    ∧ (l.foldl (bttEntry v index rawPos) (a, ev)).1.2.1 ≤ a.2.1 + l.length := by
  induction l generalizing a ev with
  | nil => exact ⟨Parses.refl .., by simp⟩
  | cons k l ih =>
    simp only [List.foldl_cons, List.length_cons]
    obtain ⟨h1, c1⟩ := bttEntry_spec v index rawPos a ev k
    generalize bttEntry v index rawPos (a, ev) k = x at h1 c1 ⊢
    obtain ⟨a', ev'⟩ := x
    simp only [] at c1
    obtain ⟨h2, c2⟩ := ih a' ev'
    exact ⟨(h1.mono fun h => ⟨h.1, by omega⟩).trans (h2.mono fun h => ⟨h.1, by omega⟩), by omega⟩

/-- one group: fault free if it starts low enough; the next group starts at a `bttNext` index -/
theorem bttGroup_spec (v : View) (a : Net × Nat × Nat) (ev : List Aux) (g : Nat) :
    Parses a.1 (bttGroup v (a, ev) g).1.1 (a.2.1 + 9 < 0x800) ev (bttGroup v (a, ev) g).2
    ∧ (bttGroup v (a, ev) g).1.2.1 ∈ bttNext a.2.1 := by
  obtain ⟨h, c⟩ := bttEntryFold_spec v a.2.1 a.2.2 (List.range 10) (a.1, 0, false) ev
  simp only [List.length_range, Nat.zero_add] at h c
  unfold bttGroup
  simp only []
  refine ⟨h.mono fun hk => ⟨hk, Nat.le_refl _⟩, ?_⟩
  unfold bttNext
  rw [List.mem_map]
  exact ⟨_, List.mem_range.mpr (Nat.lt_succ_of_le c), rfl⟩

theorem bttGroupFold_spec (v : View) (packet : Nat) (l : List Nat) (g : Nat) (a : Net × Nat × Nat) (ev : List Aux)
    (hr : a.2.1 ∈ bttReach (dec2bcdp.getD (packet - 1) 0) g) :
    Parses a.1 (l.foldl (bttGroup v) (a, ev)).1.1 (packet < 21 ∧ g + l.length ≤ 4) ev (l.foldl (bttGroup v) (a, ev)).2 := by
  induction l generalizing a ev g with
  | nil => exact Parses.refl ..
  | cons k l ih =>
    simp only [List.foldl_cons, List.length_cons]
    obtain ⟨h1, c1⟩ := bttGroup_spec v a ev k
    generalize bttGroup v (a, ev) k = x at h1 c1 ⊢
    obtain ⟨a', ev'⟩ := x
    refine (h1.mono fun hk => btt_reach_in_range packet hk.1 g (by omega) _ hr).trans
      ((ih (g + 1) a' ev' ?_).mono fun hk => ⟨hk.1, by omega⟩)
    show _ ∈ (bttReach _ g).flatMap bttNext
    rw [List.mem_flatMap]
    exact ⟨_, hr, c1⟩

theorem parseBtt_spec (n : Net) (v : View) (packet : Nat) :
    Looks n (parseBtt n v packet).1 ∧ (packet ≤ 25 → NoFault (parseBtt n v packet).2) := by
  unfold parseBtt
  split
  · rename_i h
    have hp21 : packet < 21 := by simp at h; omega
    have := bttGroupFold_spec v packet (List.range 4) 0 (n, dec2bcdp.getD (packet - 1) 0, 0) [] (by simp [bttReach])
    exact ⟨this.1, fun _ => this.2 ⟨hp21, by simp⟩ NoFault.nil⟩
  · split
    · rename_i _ h
      have hp23 : packet ≤ 23 := by simp at h; omega
      have := Parses.fold (bttLinkStep v packet) id (fun i => packet ≤ 23 ∧ i < 5) (bttLinkStep_spec v packet) (List.range 5)
        { n with haveTop := true } []
      exact ⟨(Looks.of_eq (n := n) (n' := { n with haveTop := true }) rfl).trans this.1,
        fun _ => this.2 (fun i hi => ⟨hp23, List.mem_range.mp hi⟩) NoFault.nil⟩
    · exact ⟨Looks.refl n, fun _ => NoFault.nil⟩

theorem mip_offsets_in_range : ∀ it ∈ mipOffsets, it.2.2 ≤ 0xFF := by decide +kernel

theorem mip_base_in_range : ∀ pgno < 0x900, 0x100 ≤ pgno →
    0x100 ≤ pgno &&& 0xF00 ∧ (pgno &&& 0xF00) + 0xFF ≤ 0x8FF := by
  intro pgno h1 h2
  rw [Bits.and_field pgno 8 4]
  omega

/-- only the subtitle codes 0x70..0x77 touch the network: one look-up, one statistics write -/
theorem mipClassify_net (n : Net) (vtp : Page) (pgno code spi : Nat) (r : Net × List Aux × Nat × Nat × Nat)
    (h : mipClassify n vtp pgno code spi = some r) :
    (r.1 = n ∧ r.2.1 = []) ∨
    ∃ f, r.1 = ((n.get pgno 0 0).2.1.setStat pgno f).1 ∧
      r.2.1 = (n.get pgno 0 0).2.2 ++ ((n.get pgno 0 0).2.1.setStat pgno f).2 := by
  unfold mipClassify at h
  refine ite_eq_elim h (fun _ h => ?_) fun _ h => ite_eq_elim h (fun _ h => ?_) fun _ h =>
    ite_eq_elim h (fun _ h => ?_) fun _ h => ?_
  · cases h; exact .inl ⟨rfl, rfl⟩
  · cases h; exact .inr ⟨_, rfl, rfl⟩
  · refine ite_eq_elim h (fun _ h => ?_) fun _ h => ?_
    · cases h
    · simp only [] at h
      split at h
      · refine ite_eq_elim h (fun _ h => ?_) fun _ h => ite_eq_elim h (fun _ h => ?_) fun _ h => ?_
        · cases h; exact .inl ⟨rfl, rfl⟩
        · cases h
        · cases h; exact .inl ⟨rfl, rfl⟩
      · cases h
  · cases h; exact .inl ⟨rfl, rfl⟩

theorem mipClassify_spec (n : Net) (vtp : Page) (pgno code spi : Nat) (r : Net × List Aux × Nat × Nat × Nat)
    (h : mipClassify n vtp pgno code spi = some r) (ev : List Aux) : Parses n r.1 (PgnoOk pgno) ev (ev ++ r.2.1) := by
  rcases mipClassify_net n vtp pgno code spi r h with ⟨h1, h2⟩ | ⟨f, h1, h2⟩ <;> rw [h1, h2]
  · rw [List.append_nil]; exact Parses.refl ..
  · rw [← List.append_assoc]; exact (Parses.get ..).trans (Parses.setStat ..)

theorem parseMipPage_spec (n : Net) (vtp : Page) (pgno : Nat) (code : Option Nat) (spi : Nat) (ev : List Aux) :
    Parses n (parseMipPage n vtp pgno code spi).1 (PgnoOk pgno) ev (ev ++ (parseMipPage n vtp pgno code spi).2.1) := by
  generalize hx : parseMipPage n vtp pgno code spi = x
  unfold parseMipPage at hx
  split at hx
  · subst hx; rw [List.append_nil]; exact Parses.refl ..
  · split at hx
    · subst hx; exact Parses.assert ..
    · split at hx
      · subst hx; exact Parses.assert ..
      · rename_i r hr
        subst hx
        simp only [← List.append_assoc]
        exact (mipClassify_spec n vtp pgno _ spi r hr ev).trans (Parses.setStat ..)

theorem mipStep_spec (vtp : Page) (base : Nat) (a : Net × Nat × Bool) (ev : List Aux) (it : Nat × Nat × Nat) :
    Parses a.1 (mipStep vtp base (a, ev) it).1.1 (0x100 ≤ base ∧ base + 0xFF ≤ 0x8FF ∧ it.2.2 ≤ 0xFF) ev
      (mipStep vtp base (a, ev) it).2 := by
  generalize hx : mipStep vtp base (a, ev) it = x
  unfold mipStep at hx
  simp only [] at hx
  split at hx
  · subst hx; exact Parses.refl ..
  · split at hx <;> subst hx
    · exact Parses.refl ..
    · exact (parseMipPage_spec ..).mono fun h => ⟨by omega, by omega⟩

theorem parseMip_spec (n : Net) (vtp : Page) :
    Looks n (parseMip n vtp).1 ∧ (PgnoOk vtp.pgno → NoFault (parseMip n vtp).2) := by
  unfold parseMip
  simp only []
  have h := Parses.fold (mipStep vtp (vtp.pgno &&& 0xF00)) (·.1)
    (fun it => 0x100 ≤ vtp.pgno &&& 0xF00 ∧ (vtp.pgno &&& 0xF00) + 0xFF ≤ 0x8FF ∧ it.2.2 ≤ 0xFF) (mipStep_spec vtp _)
    mipOffsets (n, 0, false) []
  refine ⟨h.1, fun hp => h.2 (fun it hit => ?_) NoFault.nil⟩
  obtain ⟨b1, b2⟩ := mip_base_in_range vtp.pgno (by unfold PgnoOk at hp; omega) hp.1
  exact ⟨b1, b2, mip_offsets_in_range it hit⟩

/-- the re-parse of the stored rows of a page that turns out to be a TOP / POP page -/
theorem convPopFold_nofault (vtp : Page) : NoFault ((List.range 25).foldl (convPopStep vtp) (true, [])).2 :=
  fold_nofault (convPopStep vtp) (fun k => k < 25)
    (fun a ev b hb hev => by
      unfold convPopStep
      simp only []
      split
      · exact hev
      · split
        · exact hev
        · exact hev.append (parsePop_nofault _ _ (view_ok _ _) (by omega)))
    (List.range 25) true [] (fun b hb => List.mem_range.mp hb) NoFault.nil

theorem convAitFold_nofault (vtp : Page) : NoFault ((List.range 23).foldl (convAitStep vtp) ((), [])).2 :=
  fold_nofault (convAitStep vtp) (fun _ => True)
    (fun a ev b _ hev => by
      unfold convAitStep
      split
      · exact hev
      · exact hev.append (parseAitBounds_nofault _))
    (List.range 23) () [] (fun _ _ => trivial) NoFault.nil

theorem convMptStep_spec (vtp : Page) (n : Net) (ev : List Aux) (k : Nat) :
    Parses n (convMptStep vtp (n, ev) k).1 True ev (convMptStep vtp (n, ev) k).2 := by
  generalize hx : convMptStep vtp (n, ev) k = x
  unfold convMptStep at hx
  split at hx <;> subst hx
  · exact Parses.refl ..
  · exact ⟨(parseMpt_spec ..).1, fun _ hev => hev.append (parseMpt_spec ..).2⟩

theorem convMptExStep_spec (vtp : Page) (n : Net) (ev : List Aux) (k : Nat) :
    Parses n (convMptExStep vtp (n, ev) k).1 True ev (convMptExStep vtp (n, ev) k).2 := by
  generalize hx : convMptExStep vtp (n, ev) k = x
  unfold convMptExStep at hx
  split at hx <;> subst hx
  · exact Parses.refl ..
  · exact ⟨(parseMptEx_spec ..).1, fun _ hev => hev.append ((parseMptEx_spec ..).2 (unhamTopPageLink_range _))⟩

/-- `vbi_convert_page` by the new function: refused, or the page with the new function (and cleared DRCS modes); the
    network record only for MPT / MPT-EX, diagnostics of the re-parsed rows for POP / AIT / MPT / MPT-EX -/
@[elab_as_elim]
theorem convertPage_elim {P : Option Page × Net × List Aux → Prop} (n : Net) (vtp : Page) (fn : Int)
    (refused : ∀ ev, ev = [] ∨ ev = ((List.range 25).foldl (convPopStep vtp) (true, [])).2 → P (none, n, ev))
    (plain : ∀ f d ev, ev = [] ∨ ev = ((List.range 25).foldl (convPopStep vtp) (true, [])).2
      ∨ ev = ((List.range 23).foldl (convAitStep vtp) ((), [])).2 → P (some { vtp with function := f, drcsMode := d }, n, ev))
    (mpt : P (some { vtp with function := fn }, (List.range 20).foldl (convMptStep vtp) (n, [])))
    (mptEx : P (some { vtp with function := fn }, (List.range 20).foldl (convMptExStep vtp) (n, []))) :
    P (convertPage n vtp fn) := by
  generalize hx : convertPage n vtp fn = x
  unfold convertPage at hx
  refine ite_eq_elim hx (fun _ hx => ?_) fun _ hx => ite_eq_elim hx (fun _ hx => ?_) fun _ hx =>
    ite_eq_elim hx (fun _ hx => ite_eq_elim hx (fun _ hx => ?_) fun _ hx => ?_) fun _ hx =>
    ite_eq_elim hx (fun _ hx => ?_) fun _ hx => ite_eq_elim hx (fun _ hx => ?_) fun _ hx =>
    ite_eq_elim hx (fun _ hx => ?_) fun _ hx => ite_eq_elim hx (fun _ hx => ?_) fun _ hx => ?_
  all_goals subst hx
  · exact refused [] (.inl rfl)
  · exact plain _ vtp.drcsMode [] (.inl rfl)
  · exact plain _ vtp.drcsMode _ (.inr (.inl rfl))
  · exact refused _ (.inr rfl)
  · exact plain _ _ [] (.inl rfl)
  · exact plain _ vtp.drcsMode _ (.inr (.inr rfl))
  · exact mpt
  · exact mptEx
  · exact refused [] (.inl rfl)

theorem convertPage_fst (n : Net) (vtp : Page) (fn : Int) (cv' : Page) (h : (convertPage n vtp fn).1 = some cv') :
    ∃ f d, cv' = { vtp with function := f, drcsMode := d } := by
  revert h
  refine convertPage_elim n vtp fn (fun _ _ h => nomatch h) (fun f d _ _ h => ?_) (fun h => ?_) fun h => ?_
  all_goals cases h; exact ⟨_, _, rfl⟩

theorem convertPage_spec (n : Net) (vtp : Page) (fn : Int) :
    Looks n (convertPage n vtp fn).2.1 ∧ NoFault (convertPage n vtp fn).2.2 := by
  have hev : ∀ ev, ev = [] ∨ ev = ((List.range 25).foldl (convPopStep vtp) (true, [])).2
      ∨ ev = ((List.range 23).foldl (convAitStep vtp) ((), [])).2 → NoFault ev := by
    rintro ev (rfl | rfl | rfl)
    · exact NoFault.nil
    · exact convPopFold_nofault vtp
    · exact convAitFold_nofault vtp
  refine convertPage_elim n vtp fn (fun ev h => ⟨Looks.refl n, hev ev (h.imp_right .inl)⟩)
    (fun _ _ ev h => ⟨Looks.refl n, hev ev h⟩) ?_ ?_
  · have := Parses.fold (convMptStep vtp) id (fun _ => True) (convMptStep_spec vtp) (List.range 20) n []
    exact ⟨this.1, this.2 (fun _ _ => trivial) NoFault.nil⟩
  · have := Parses.fold (convMptExStep vtp) id (fun _ => True) (convMptExStep_spec vtp) (List.range 20) n []
    exact ⟨this.1, this.2 (fun _ _ => trivial) NoFault.nil⟩

theorem headerConvert_fst (n : Net) (cv : Page) (page : Nat) :
    (headerConvert n cv page).1 = cv ∨
    cv.function = FN_UNKNOWN ∧ ∃ f d, (headerConvert n cv page).1 = { cv with function := f, drcsMode := d } := by
  generalize hx : headerConvert n cv page = x
  unfold headerConvert at hx
  refine ite_eq_elim hx (fun hu hx => ite_eq_elim hx (fun _ hx => ?_) fun _ hx => ?_) fun _ hx => ?_
  · simp only [] at hx
    cases hc : (convertPage n cv (functionOfType n (n.getStat cv.pgno).pageType cv.pgno page)).1 with
    | none => rw [hc] at hx; subst hx; exact .inl rfl
    | some cv' =>
      rw [hc] at hx; subst hx
      exact .inr ⟨by simpa using hu, convertPage_fst _ _ _ _ hc⟩
  · subst hx; exact .inl rfl
  · subst hx; exact .inl rfl

theorem headerConvert_spec (n : Net) (cv : Page) (page : Nat) :
    Looks n (headerConvert n cv page).2.1 ∧ NoFault (headerConvert n cv page).2.2 := by
  generalize hx : headerConvert n cv page = x
  unfold headerConvert at hx
  refine ite_eq_elim hx (fun _ hx => ite_eq_elim hx (fun _ hx => ?_) fun _ hx => ?_) fun _ hx => ?_
  · simp only [] at hx
    have := convertPage_spec n cv (functionOfType n (n.getStat cv.pgno).pageType cv.pgno page)
    split at hx <;> subst hx <;> exact this
  · subst hx; exact ⟨Looks.refl n, NoFault.nil⟩
  · subst hx; exact ⟨Looks.refl n, NoFault.nil⟩

end Zvbi.Ttx
