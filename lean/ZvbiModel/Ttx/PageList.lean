import ZvbiModel.Ttx.HeaderFields
/-!
# The decoder's page list: `_vbi_cache_get_page`, `_vbi_cache_put_page` on the most recently used chain

`cachePutF_spec`: a store puts the entry `StoredAs` describes in front of pages of the old chain (`cachePutF_eq`: which page
goes); `cacheGet` after `cachePut` finds the page just stored (exact key and wildcard), also after other pages were looked
up / moved to the front of the chain (`find?_after_get`); `putKey_plain`: ordinary subpages are stored under their own number.
-/
namespace Zvbi.Ttx
open Zvbi.Hamm Zvbi.Gen Zvbi.Ttx.Spec

theorem find?_erase_of_false (f : Page → Bool) (x : Page) (hx : f x = false) (l : List Page) :
    (l.erase x).find? f = l.find? f := by
  induction l with
  | nil => rfl
  | cons y ys ih =>
    by_cases e : y = x
    · subst e; simp [hx]
    · rw [List.erase_cons_tail (by simpa using e)]
      simp only [List.find?_cons]
      cases f y <;> simp [ih]

theorem find?_moveFront (f : Page → Bool) (x : Page) (hx : f x = false) (l : List Page) :
    (x :: l.erase x).find? f = l.find? f := by
  rw [List.find?_cons, hx]
  exact find?_erase_of_false f x hx l

/-- the look-up predicate of `page_by_pgno` -/
def keyMatch (pgno key mask : Nat) (q : Page) : Bool :=
  q.pgno == pgno && (q.subno &&& mask) == (key &&& mask)

theorem keyMatch_true {pgno key mask : Nat} {q : Page} (h : keyMatch pgno key mask q = true) :
    q.pgno = pgno ∧ q.subno &&& mask = key &&& mask := by
  unfold keyMatch at h
  simpa using h

theorem cacheFind_eq (c : List Page) (pgno key mask : Nat) :
    cacheFind c pgno key mask =
      match c.find? (keyMatch pgno key mask) with
      | some q => some (q, q :: c.erase q)
      | none => none := rfl

/-- `cache_page_size`: a stored copy is cut off behind the members in use - only `ext` and `enh` can differ -/
theorem truncate_eq (p : Page) : ∃ e x, p.truncate = { p with ext := e, enh := x } := by
  unfold Page.truncate
  split
  · split
    · exact ⟨_, _, rfl⟩
    · split <;> exact ⟨_, _, rfl⟩
  · exact ⟨_, _, rfl⟩

theorem truncate_pgno (p : Page) : p.truncate.pgno = p.pgno := by
  obtain ⟨e, x, h⟩ := truncate_eq p; rw [h]

theorem truncate_lopPackets (p : Page) : p.truncate.lopPackets = p.lopPackets := by
  obtain ⟨e, x, h⟩ := truncate_eq p; rw [h]

/-- the page `_vbi_cache_put_page pageType p` files: a copy of `p` (the unused tail of the union cut
    off) under the subpage number chosen by the key rule `putKey` -/
structure StoredAs (q : Page) (pageType : Nat) (p : Page) : Prop where
  fn : q.function = p.function
  pgno : q.pgno = p.pgno
  national : q.national = p.national
  flags : q.flags = p.flags
  raw : q.raw = p.raw
  subno : ∀ key mask, putKey pageType p.pgno p.subno = (key, mask) → q.subno = key

theorem cacheFind_sub (c : List Page) (pgno key mask : Nat) (q : Page) (c' : List Page)
    (h : cacheFind c pgno key mask = some (q, c')) : q ∈ c ∧ q.pgno = pgno ∧ ∀ x ∈ c', x ∈ c := by
  rw [cacheFind_eq] at h
  cases hf : c.find? (keyMatch pgno key mask) with
  | none => rw [hf] at h; cases h
  | some q' =>
    rw [hf] at h
    simp only [Option.some.injEq, Prod.mk.injEq] at h
    obtain ⟨rfl, rfl⟩ := h
    have hq := List.mem_of_find?_eq_some hf
    refine ⟨hq, (keyMatch_true (List.find?_some hf)).1, ?_⟩
    intro x hx
    rcases List.mem_cons.mp hx with rfl | hx
    · exact hq
    · exact List.mem_of_mem_erase hx

theorem cacheGet_sub (c : List Page) (pgno subno mask : Nat) (q : Page) (c' : List Page)
    (h : cacheGet c pgno subno mask = some (q, c')) : q ∈ c ∧ q.pgno = pgno ∧ ∀ x ∈ c', x ∈ c := by
  unfold cacheGet at h
  split at h
  · cases h
  · exact cacheFind_sub _ _ _ _ _ _ h

/-- the stored sub-code is the page's or 0, in every key class -/
theorem putKey_sub_or_zero (pt pgno subno : Nat) : (putKey pt pgno subno).1 = subno ∨ (putKey pt pgno subno).1 = 0 := by
  unfold putKey
  repeat' split
  all_goals first | exact Or.inl rfl | exact Or.inr rfl

theorem StoredAs.subno_or {q : Page} {pt : Nat} {p : Page} (h : StoredAs q pt p) : q.subno = p.subno ∨ q.subno = 0 := by
  have := putKey_sub_or_zero pt p.pgno p.subno
  generalize hk : putKey pt p.pgno p.subno = k at this
  obtain ⟨a, b⟩ := k
  rw [h.subno a b hk]
  exact this

/-- both source shapes of `_vbi_cache_put_page`: a store puts the entry made for `p` in front of pages of the old chain -/
theorem cachePutF_spec (fix : Bool) (c : List Page) (pt : Nat) (p : Page) (c' : List Page)
    (h : cachePutF fix c pt p = some c') : ∃ q rest, c' = q :: rest ∧ StoredAs q pt p ∧ ∀ x ∈ rest, x ∈ c := by
  unfold cachePutF at h
  split at h
  · cases h
  · generalize hk : putKey pt p.pgno p.subno = k at h
    obtain ⟨a, b⟩ := k
    simp only [Option.some.injEq] at h
    subst h
    obtain ⟨e, x', ht⟩ := truncate_eq p
    refine ⟨_, _, rfl, ⟨by rw [ht], by rw [ht], by rw [ht], by rw [ht], by rw [ht],
      fun key mask hkm => by rw [hk] at hkm; cases hkm; rfl⟩, fun x hx => ?_⟩
    cases hf : cacheFind c p.pgno (a &&& b) b with
    | none => rw [hf] at hx; exact hx
    | some r =>
      rw [hf] at hx
      simp only at hx
      split at hx
      · exact (cacheFind_sub _ _ _ _ _ _ hf).2.2 x (List.mem_of_mem_erase (List.mem_filter.1 hx).1)
      · exact (cacheFind_sub _ _ _ _ _ _ hf).2.2 x (List.mem_of_mem_erase hx)

/-- `_vbi_cache_put_page`, both source shapes: the version found under the key goes; in the repaired shape
    (fixes/C10-put-replaces-all-versions.diff) a single-version key removes every version of the page number -/
theorem cachePutF_eq {fix : Bool} {c c' : List Page} {pt : Nat} {p : Page} {key mask : Nat}
    (h : cachePutF fix c pt p = some c') (hk : putKey pt p.pgno p.subno = (key, mask)) :
    c' = { p.truncate with subno := key } ::
      match c.find? (keyMatch p.pgno (key &&& mask) mask) with
      | none => c
      | some old => if fix && mask == 0 then (c.erase old).filter (fun q => q.pgno != p.pgno) else c.erase old := by
  unfold cachePutF at h
  refine ite_eq_elim h (fun _ h => nomatch h) fun _ h => ?_
  rw [hk] at h
  dsimp only at h
  rw [cacheFind_eq] at h
  injection h with h
  rw [← h]
  cases c.find? (keyMatch p.pgno (key &&& mask) mask) with
  | none => rfl
  | some old => simp only [List.erase_cons_head]

theorem cachePut_head (c : List Page) (pt : Nat) (p : Page) (h : p.pgno &&& 0xFF ≠ 0xFF) :
    ∃ q rest, cachePut c pt p = some (q :: rest) ∧ StoredAs q pt p := by
  have : ∃ c', cachePut c pt p = some c' := by
    unfold cachePut cachePutF
    rw [if_neg (by simpa using h)]
    generalize putKey pt p.pgno p.subno = k
    obtain ⟨a, b⟩ := k
    exact ⟨_, rfl⟩
  obtain ⟨c', hc⟩ := this
  obtain ⟨q, rest, rfl, hq, _⟩ := cachePutF_spec _ c pt p c' hc
  exact ⟨q, rest, hc, hq⟩

/-- a valid page number for `_vbi_cache_get_page` -/
def validPgno (pgno : Nat) : Prop := 0x100 ≤ pgno ∧ pgno ≤ 0x8FF ∧ pgno &&& 0xFF ≠ 0xFF

theorem cacheGet_valid (c : List Page) (pgno subno mask : Nat) (h : validPgno pgno) :
    cacheGet c pgno subno mask = cacheFind c pgno subno (if subno == ANY_SUBNO then 0 else mask) := by
  unfold cacheGet
  obtain ⟨h1, h2, h3⟩ := h
  have a : decide (pgno < 0x100) = false := by simp; omega
  have b : decide (pgno > 0x8FF) = false := by simp; omega
  have d : (pgno &&& 0xFF == 0xFF) = false := by simpa using h3
  simp [a, b, d]

theorem cacheGet_of_find (c : List Page) (pgno subno mask : Nat) (q : Page) (hv : validPgno pgno)
    (h : c.find? (keyMatch pgno subno (if subno == ANY_SUBNO then 0 else mask)) = some q) :
    (cacheGet c pgno subno mask).map (·.1) = some q := by
  rw [cacheGet_valid _ _ _ _ hv, cacheFind_eq, h]
  rfl

theorem find_head (q : Page) (rest : List Page) (subno mask : Nat) (hs : subno = q.subno ∨ subno = ANY_SUBNO) :
    (q :: rest).find? (keyMatch q.pgno subno (if subno == ANY_SUBNO then 0 else mask)) = some q := by
  have hm : keyMatch q.pgno subno (if subno == ANY_SUBNO then 0 else mask) q = true := by
    unfold keyMatch
    rcases hs with hs | hs
    · subst hs; simp
    · subst hs; simp
  rw [List.find?_cons, hm]

theorem cacheGet_head (q : Page) (rest : List Page) (subno mask : Nat) (hv : validPgno q.pgno)
    (hs : subno = q.subno ∨ subno = ANY_SUBNO) :
    cacheGet (q :: rest) q.pgno subno mask = some (q, q :: rest) := by
  rw [cacheGet_valid _ _ _ _ hv, cacheFind_eq, find_head q rest subno mask hs]
  simp

/-- a look-up (`Net.get` moves the page found to the front) does not change what `find? f` finds, for every `f` that is
    false on the page found -/
theorem find?_after_get (c : List Page) (f : Page → Bool) (pgno' key' mask' : Nat)
    (hf : ∀ q, c.find? (keyMatch pgno' key' mask') = some q → f q = false) :
    (match cacheFind c pgno' key' mask' with | some r => r.2 | none => c).find? f = c.find? f := by
  rw [cacheFind_eq]
  cases hq : c.find? (keyMatch pgno' key' mask') with
  | none => rfl
  | some q => exact find?_moveFront f q (hf q hq) c

theorem keyMatch_ne {pgno pgno' : Nat} (hne : pgno' ≠ pgno) (key mask : Nat) (x : Page) (hx : x.pgno = pgno') :
    keyMatch pgno key mask x = false := by
  have : (x.pgno == pgno) = false := by simp only [beq_eq_false_iff_ne]; rw [hx]; exact hne
  simp [keyMatch, this]

/-! ### `putKey`: ordinary subpages are stored under their own number -/

/-- "subpages 01-79" (and 0 = page without subpages), the cases the property names; on a page the
    network declared a clock page (`VBI_CLOCK_PAGE`, subcode = time) only 00..59: cache.c folds
    "minutes" above 59 to subcode 0 -/
def plainSubno (pt subno : Nat) : Prop :=
  subno ≤ 0x79 ∧ subno &&& 15 ≤ 9 ∧ (pt ≠ PT_CLOCK ∨ subno ≤ 0x59)

theorem bcdDigitsGreater_79 : ∀ subno, subno < 0x80 → subno &&& 15 ≤ 9 →
    bcdDigitsGreater subno 0x79 = false := by decide +kernel
theorem bcdDigitsGreater_2959 : ∀ subno, subno < 0x60 → subno &&& 15 ≤ 9 →
    bcdDigitsGreater subno 0x2959 = false := by decide +kernel

/-- a decimal page with subcode 0 or 01..79 is stored under exactly that subcode -/
theorem putKey_plain (pt pgno subno : Nat) (hb : isBcd pgno = true) (hs : plainSubno pt subno) :
    ∃ mask, putKey pt pgno subno = (subno, mask) := by
  obtain ⟨h1, h2, h3⟩ := hs
  have a := bcdDigitsGreater_79 subno (by omega) h2
  unfold putKey
  simp only [hb, if_true]
  by_cases h0 : subno = 0
  · subst h0; exact ⟨0, rfl⟩
  · have : (subno == 0) = false := by simpa using h0
    simp only [this]
    have h100 : ¬ subno ≥ 0x100 := by omega
    have h23 : ¬ subno > 0x2300 := by omega
    by_cases hc : pt = PT_CLOCK
    · subst hc
      have b := bcdDigitsGreater_2959 subno (by rcases h3 with h3 | h3; exact absurd rfl h3; omega) h2
      exact ⟨0, by simp [b, h23]⟩
    · have : (pt == PT_CLOCK) = false := by simpa using hc
      exact ⟨0xFF, by simp [this, h100, a]⟩

end Zvbi.Ttx
