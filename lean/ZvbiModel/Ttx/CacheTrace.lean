import ZvbiModel.Ttx.AsmInv
/-!
# C03 x C10: the decoder's page list evolves by cache operations only, and holds transmitted numbers only

Over every case of `vbi_decode_teletext` (`decode_cases`) the list `Net.cache` afterwards is the list before with
operations of the cache interface applied (`Reach`, `Looks` of Ttx/CacheOps.lean; the table parsers: Ttx/TableParsers.lean): a packet other than a header looks pages up only (`Body.looks`), page termination stores
(`terminatePage_reach`), the header branch looks up (`headerPage_base`); `run_reach` over every history with
`P p := Event.put p ∈ events of the history`.  The single-operation simulation lemmas of Props/C10Ttx.lean
(`sim_get`, `sim_put`) then cover every change of the list.

`CacheOk`: every cached page sits under the numbers of an accepted header of the history, the sub-code possibly
normalised to 0 by the store (`putKey`, hence `SentKey` instead of `Sent`).  It follows from the trace
(`Reach.keys`, a reading of `Reach.mem`) and `run_ok`: `run_cacheOk`.
-/
namespace Zvbi.Ttx
open Zvbi.Hamm Zvbi.Gen Zvbi.Ttx.Spec

/-- traces whose stores are announced compose along the events -/
theorem Reach.append {a b c : List Page} {e1 e2 : List Event} (h1 : Reach (fun q => Event.put q ∈ e1) a b)
    (h2 : Reach (fun q => Event.put q ∈ e2) b c) : Reach (fun q => Event.put q ∈ e1 ++ e2) a c :=
  (h1.mono fun _ hq => List.mem_append_left _ hq).trans (h2.mono fun _ hq => List.mem_append_right _ hq)

theorem decode_reach (s : St) (p : Packet) :
    Reach (fun q => Event.put q ∈ (decodeTeletext s p).ev) s.net.cache (decodeTeletext s p).st.net.cache :=
  decode_cases s p (fun _ => Reach.refl _ _) (fun _ _ => Reach.refl _ _) (fun _ _ _ b => b.looks.reach _)
    (fun _ _ _ _ _ _ _ _ ht => ht ▸ terminatePage_reach ..) fun _ _ _ _ _ _ _ _ _ ht hh =>
    (ht ▸ terminatePage_reach ..).append ((hh ▸ headerPage_looks ..).reach _)

/-- the frame tick: `.clear` when the channel switch countdown expires -/
theorem frameTick_reach (s : St) : Reach (fun q => Event.put q ∈ (frameTick s).2) s.net.cache (frameTick s).1.net.cache := by
  rcases frameTick_cases s with e | ⟨cd, e⟩ <;> rw [e]
  · exact Reach.clear _ _
  · exact Reach.refl _ _

theorem step_reach (s : St) (p : Packet) :
    Reach (fun q => Event.put q ∈ (step s p).2) s.net.cache (step s p).1.net.cache := by
  rw [step_eq]
  exact (frameTick_reach s).append (decode_reach (frameTick s).1 p)

/-- over every history: the page list is the initial one with cache operations applied, every store being one
    announced by `Event.put` in the events of the history -/
theorem run_reach (s : St) (ps : List Packet) :
    Reach (fun p => Event.put p ∈ (run s ps).2) s.net.cache (run s ps).1.net.cache :=
  (run_rel (I := fun _ => True) (G := fun _ => True)
    (R := fun a b ev => Reach (fun q => Event.put q ∈ ev) a.net.cache b.net.cache) (fun _ => Reach.refl _ _) Reach.append
    (fun s p _ _ => ⟨trivial, step_reach s p⟩) ps s trivial fun _ _ => trivial).2

/-- (pgno, subno) is what the decoder computed from an accepted header of the history, the sub-code
    possibly normalised to 0 by the store (`putKey`) -/
def SentKey (H : List Packet) (pgno subno : Nat) : Prop :=
  ∃ p ∈ H, ∃ m sub, hdrKey p = some (m, pgno, sub) ∧ (subno = sub ∨ subno = 0)

/-- every cached page sits under numbers of an accepted header of the history -/
def CacheOk (s : St) (H : List Packet) : Prop := ∀ x ∈ s.net.cache, SentKey H x.pgno x.subno

theorem SentKey.mono {H : List Packet} {a b : Nat} (h : SentKey H a b) (K : List Packet) :
    SentKey (H ++ K) a b := by
  obtain ⟨p, hp, m, sub, hk, hs⟩ := h
  exact ⟨p, List.mem_append_left _ hp, m, sub, hk, hs⟩

theorem Sent.key {H : List Packet} {a b : Nat} (h : Sent H a b) : SentKey H a b := by
  obtain ⟨p, hp, m, hk⟩ := h
  exact ⟨p, hp, m, b, hk, Or.inl rfl⟩

theorem Sent.key0 {H : List Packet} {a b : Nat} (h : Sent H a b) : SentKey H a 0 := by
  obtain ⟨p, hp, m, hk⟩ := h
  exact ⟨p, hp, m, b, hk, Or.inr rfl⟩

theorem CacheOk.of_eq {s s' : St} {H : List Packet} (h : CacheOk s H) (hs : s'.net = s.net) : CacheOk s' H := by
  intro x hx; rw [hs] at hx; exact h x hx

theorem Reach.keys {P : Page → Prop} {c c' : List Page} (h : Reach P c c') :
    ∀ x ∈ c', x ∈ c ∨ ∃ p, P p ∧ x.pgno = p.pgno ∧ (x.subno = p.subno ∨ x.subno = 0) :=
  fun x hx => (h.mem x hx).imp_right fun ⟨_, p, hp, hq⟩ =>
    ⟨p, hp, hq.pgno, hq.subno_or⟩

theorem run_cacheOk (s : St) (H ps : List Packet) (hok : AsmOk s H) (hc : CacheOk s H) :
    CacheOk (run s ps).1 (H ++ ps) := by
  intro x hx
  rcases (run_reach s ps).keys x hx with h | ⟨p, hp, e1, e2⟩
  · exact (hc x h).mono ps
  · have hs := (run_ok s H ps hok).2 p hp
    rw [e1]
    rcases e2 with e | e <;> rw [e]
    · exact hs.key
    · exact hs.key0

theorem init_cacheOk (on : Bool) : CacheOk (init.enable on) [] := by
  have : (init.enable on).net.cache = [] := by cases on <;> rfl
  intro x hx; rw [this] at hx; cases hx

end Zvbi.Ttx
