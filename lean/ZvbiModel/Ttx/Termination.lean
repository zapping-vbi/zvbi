import ZvbiModel.Ttx.StoreLop
import ZvbiModel.Ttx.ParityCheck
import ZvbiModel.Ttx.TableParsers
/-!
# Page termination: what "Store page terminated by new header" does, for any page function

`Closed s s' ev ts`: every slot is untouched or discarded with its identity and array shapes kept (`SlotKept`); unless
the rolling-header test signalled a channel switch (`Event.chsw`) all slots but the terminated slot `ts` are
untouched; slot `ts` ends up discarded; the only TTX_PAGE event carries the numbers of slot `ts`, which then was a
text page; pages enter the cache only as copies of a slot's page.  `terminatePage_closed` opens `store_lop`
(`storeLop_shape`) and the termination block (`TermStep`) for it.
`terminatePage_puts`: every page stored is the page of the terminated slot.  `terminatePage_reach`: the page list
changes by look-ups of the MIP parser, `.clear`, or one `.put` announced by `Event.put` (`Reach`).
`CacheSub`: outside a store the page list only loses or reorders pages.
-/
namespace Zvbi.Ttx
open Zvbi.Hamm Zvbi.Gen Zvbi.Ttx.Spec

/-! ## the cache only loses or reorders pages outside `put` -/

/-- every cached page of `n'` was already cached in `n` -/
def CacheSub (n n' : Net) : Prop := ∀ x ∈ n'.cache, x ∈ n.cache

theorem CacheSub.refl (n : Net) : CacheSub n n := fun _ h => h
theorem CacheSub.trans {a b c : Net} (h1 : CacheSub a b) (h2 : CacheSub b c) : CacheSub a c :=
  fun x hx => h1 x (h2 x hx)
theorem CacheSub.of_eq {n n' : Net} (h : n'.cache = n.cache) : CacheSub n n' := fun x hx => by rw [← h]; exact hx

theorem get_mem (n : Net) (pgno subno mask : Nat) (q : Page) (h : (n.get pgno subno mask).1 = some q) :
    q ∈ n.cache ∧ q.pgno = pgno := by
  unfold Net.get at h
  cases hg : cacheGet n.cache pgno subno mask with
  | none => rw [hg] at h; cases h
  | some r =>
    obtain ⟨q', c'⟩ := r
    rw [hg] at h
    simp only [Option.some.injEq] at h
    subst h
    exact ⟨(cacheGet_sub _ _ _ _ _ _ hg).1, (cacheGet_sub _ _ _ _ _ _ hg).2.1⟩

theorem setMag_sub (n : Net) (mag8 : Nat) (m : Magazine) : CacheSub n (n.setMag mag8 m) := CacheSub.refl n

/-- a page of a list reached by cache operations was there before, or is the entry made by one of the stores -/
theorem Reach.mem {P : Page → Prop} {c c' : List Page} (h : Reach P c c') :
    ∀ x ∈ c', x ∈ c ∨ ∃ pt p, P p ∧ StoredAs x pt p := by
  obtain ⟨ops, rfl, hp⟩ := h
  induction ops generalizing c with
  | nil => exact fun x hx => .inl hx
  | cons o ops ih =>
    intro x hx
    refine (ih (fun pt p h => hp pt p (List.mem_cons_of_mem _ h)) x hx).elim (fun hx => ?_) .inr
    cases o with
    | get pgno subno mask =>
      change x ∈ (match cacheGet c pgno subno mask with | some r => r.2 | none => c) at hx
      cases hg : cacheGet c pgno subno mask with
      | none => rw [hg] at hx; exact .inl hx
      | some r => rw [hg] at hx; exact .inl ((cacheGet_sub c _ _ _ r.1 r.2 hg).2.2 x hx)
    | put pt p =>
      change x ∈ (match cachePut c pt p with | some c' => c' | none => c) at hx
      cases hc : cachePut c pt p with
      | none => rw [hc] at hx; exact .inl hx
      | some c' =>
        rw [hc] at hx
        obtain ⟨q, rest, rfl, hq, hr⟩ := cachePutF_spec _ c pt p c' hc
        rcases List.mem_cons.mp hx with rfl | hx
        · exact .inr ⟨pt, p, hp pt p (List.mem_cons_self ..), hq⟩
        · exact .inl (hr x hx)
    | clear => cases hx

theorem Looks.sub {n n' : Net} (h : Looks n n') : CacheSub n n' :=
  fun x hx => (Reach.mem h x hx).elim id fun ⟨_, _, hf, _⟩ => hf.elim

/-- slot content after a step: untouched, or discarded with the same identity and array shapes -/
def SlotKept (a b : RawPage) : Prop :=
  b = a ∨ (b.page.function = FN_DISCARD ∧ b.page.flags = a.page.flags ∧ b.page.pgno = a.page.pgno
    ∧ b.page.subno = a.page.subno ∧ b.lopRaw.length = a.lopRaw.length ∧ b.page.raw.length = a.page.raw.length)

theorem SlotKept.refl (a : RawPage) : SlotKept a a := Or.inl rfl

theorem SlotKept.trans {a b c : RawPage} (h1 : SlotKept a b) (h2 : SlotKept b c) : SlotKept a c := by
  rcases h2 with rfl | ⟨f, g1, g2, g3, g4, g5⟩
  · exact h1
  · rcases h1 with rfl | ⟨_, k1, k2, k3, k4, k5⟩
    · exact Or.inr ⟨f, g1, g2, g3, g4, g5⟩
    · exact Or.inr ⟨f, g1.trans k1, g2.trans k2, g3.trans k3, g4.trans k4, g5.trans k5⟩

/-- identity and array shapes of a slot kept -/
def SlotId (a b : RawPage) : Prop :=
  b.page.flags = a.page.flags ∧ b.page.pgno = a.page.pgno ∧ b.page.subno = a.page.subno
    ∧ b.lopRaw.length = a.lopRaw.length ∧ b.page.raw.length = a.page.raw.length

theorem SlotId.refl (a : RawPage) : SlotId a a := ⟨rfl, rfl, rfl, rfl, rfl⟩
theorem SlotId.trans {a b c : RawPage} (h1 : SlotId a b) (h2 : SlotId b c) : SlotId a c :=
  ⟨h2.1.trans h1.1, h2.2.1.trans h1.2.1, h2.2.2.1.trans h1.2.2.1, h2.2.2.2.1.trans h1.2.2.2.1,
    h2.2.2.2.2.trans h1.2.2.2.2⟩
theorem SlotKept.id {a b : RawPage} (h : SlotKept a b) : SlotId a b := by
  rcases h with rfl | ⟨_, h1, h2, h3, h4, h5⟩
  · exact SlotId.refl _
  · exact ⟨h1, h2, h3, h4, h5⟩

theorem slotKept_desync (s : St) (c : Nat) : SlotKept (s.rp c) ((desync s).rp c) := by
  by_cases h : c < s.raw.length
  · rw [rp_desync s c h]; exact Or.inr ⟨rfl, rfl, rfl, rfl, rfl, rfl⟩
  · left
    rw [rp_ge s c h, rp_ge (desync s) c (by rw [desync_length]; exact h)]

theorem desync_fn (s : St) (c : Nat) (h : c < s.raw.length) : ((desync s).rp c).page.function = FN_DISCARD := by
  rw [rp_desync s c h]

/-- `setRp` seen from any slot -/
theorem slotKept_setRp (s : St) (m : Nat) (x : RawPage) (h : SlotKept (s.rp m) x) (c : Nat) :
    SlotKept (s.rp c) ((s.setRp m x).rp c) := by
  by_cases e : c = m
  · subst e
    by_cases hl : c < s.raw.length
    · rw [rp_setRp_same s c x hl]; exact h
    · rw [setRp_ge s c x hl]; exact SlotKept.refl _
  · rw [rp_setRp_other s m c x e]; exact SlotKept.refl _

/-- what `store_lop` does to the decoder state -/
structure StoreShape (s s' : St) (ev : List Event) (vtp : Page) : Prop where
  len : s'.raw.length = s.raw.length
  slots : ∀ c, SlotKept (s.rp c) (s'.rp c)
  keep : Event.chsw ∉ ev → s'.raw = s.raw
  mask : s'.mask = s.mask
  cd : s.chswcd = 0 → s'.chswcd = 0
  cur : s'.current = s.current
  hlen : 8 ≤ s.header.length → 8 ≤ s'.header.length
  cache : ∀ x ∈ s'.net.cache, x ∈ s.net.cache ∨ x.raw = vtp.raw
  pages : ∀ x ∈ ttxPages ev, x = (vtp.pgno, vtp.subno)

theorem put_cache (n : Net) (p : Page) : ∀ x ∈ (n.put p).cache, x ∈ n.cache ∨ x.raw = p.raw :=
  fun x hx => ((put_reach n p).mem x hx).imp_right fun ⟨_, _, e, h⟩ => e ▸ h.raw

theorem ttxPages_single (a b : Nat) (c d : Bool) (e : Option Bool) (f : Int) (g : Option (List Nat)) :
    ttxPages [Event.ttxPage a b c d e f g] = [(a, b)] := rfl

theorem storeLop_shape (s : St) (vtp : Page) : StoreShape s (storeLop s vtp).1 (storeLop s vtp).2 vtp := by
  refine storeLop_cases s vtp (fun _ => ?_) (fun _ => ?_) fun copy clearCd roll hdrUpd clock pn => ?_
  · exact ⟨desync_length s, fun c => rp_congr (chswReset_raw s) c ▸ slotKept_desync s c, fun h => absurd (by simp) h, rfl,
      fun _ => rfl, rfl, fun h => h, fun x hx => absurd hx (by simp [chswReset]), fun x hx => by simp [ttxPages] at hx⟩
  · exact ⟨rfl, fun _ => SlotKept.refl _, fun _ => rfl, rfl, id, rfl, id, fun x hx => Or.inl hx,
      fun x hx => by simp [ttxPages] at hx⟩
  · refine ⟨rfl, fun _ => SlotKept.refl _, fun _ => rfl, rfl,
      fun h0 => by show (if clearCd then 0 else s.chswcd) = 0; rw [h0]; simp, rfl, fun hl => ?_, fun x hx => ?_, fun x hx => ?_⟩
    · show 8 ≤ (if copy then _ else s.header : List Nat).length
      split
      · simp only [List.length_append, List.length_take]; omega
      · exact hl
    · exact (put_cache _ vtp x hx).imp_left fun h => by rwa [setStat_cache] at h
    · rw [ttxPages_append, ttxPages_append, ttxPages_liftAux] at hx
      split at hx
      · exact List.mem_singleton.mp hx
      · cases hx

structure Closed (s s' : St) (ev : List Event) (ts : Option Nat) : Prop where
  len : s'.raw.length = s.raw.length
  mask : s'.mask = s.mask
  cd : s.chswcd = 0 → s'.chswcd = 0
  cur : s'.current = s.current
  hlen : 8 ≤ s.header.length → 8 ≤ s'.header.length
  slots : ∀ c, SlotKept (s.rp c) (s'.rp c)
  other : Event.chsw ∉ ev → ∀ c, ts ≠ some c → s'.rp c = s.rp c
  closed : ∀ c, ts = some c → c < s.raw.length → (s'.rp c).page.function = FN_DISCARD
  pages : ∀ x ∈ ttxPages ev, ∃ c, ts = some c ∧ x = ((s.rp c).page.pgno, (s.rp c).page.subno)
    ∧ (s.rp c).page.function = FN_LOP
  cache : ∀ x ∈ s'.net.cache, x ∈ s.net.cache ∨ ∃ c, ts = some c ∧ x.raw.length = (s.rp c).page.raw.length

theorem Closed.nop (s : St) : Closed s s [] none :=
  ⟨rfl, rfl, id, rfl, id, fun _ => SlotKept.refl _, fun _ _ _ => rfl, fun _ h => (by cases h),
    fun x hx => (by cases hx), fun x hx => Or.inl hx⟩

theorem lopParityCheck_lens (cv : Page) (rv : RawPage) :
    (lopParityCheck cv rv).1.raw.length = cv.raw.length ∧ (lopParityCheck cv rv).1.flags = cv.flags
    ∧ (lopParityCheck cv rv).2.lopRaw.length = rv.lopRaw.length := by
  obtain ⟨R, L, LR, e, h1, h2⟩ := lopParityCheck_eq cv rv
  rw [e]; exact ⟨h1, rfl, h2⟩

/-- the final `cvtp->function = PAGE_FUNCTION_DISCARD` of the terminated slot -/
theorem closed_fin (s x : St) (ev : List Event) (curr : Nat)
    (hlen : x.raw.length = s.raw.length) (hmask : x.mask = s.mask) (hcd : s.chswcd = 0 → x.chswcd = 0)
    (hcur : x.current = s.current) (hh : 8 ≤ s.header.length → 8 ≤ x.header.length)
    (hslots : ∀ c, c ≠ curr → SlotKept (s.rp c) (x.rp c)) (hcurr : SlotId (s.rp curr) (x.rp curr))
    (hother : Event.chsw ∉ ev → ∀ c, c ≠ curr → x.rp c = s.rp c)
    (hpages : ∀ y ∈ ttxPages ev, y = ((s.rp curr).page.pgno, (s.rp curr).page.subno) ∧ (s.rp curr).page.function = FN_LOP)
    (hcache : ∀ y ∈ x.net.cache, y ∈ s.net.cache ∨ y.raw.length = (s.rp curr).page.raw.length) :
    Closed s (x.setPage curr { (x.rp curr).page with function := FN_DISCARD }) ev (some curr) := by
  refine ⟨(setPage_length _ _ _).trans hlen, hmask, hcd, hcur, hh, ?_, ?_, ?_, ?_,
    fun y hy => (hcache y hy).imp id (fun h => ⟨curr, rfl, h⟩)⟩
  · intro c
    by_cases e : c = curr
    · subst e
      by_cases hl : c < x.raw.length
      · rw [rp_setPage_same _ c _ hl]
        obtain ⟨a1, a2, a3, a4, a5⟩ := hcurr
        exact Or.inr ⟨rfl, a1, a2, a3, a4, a5⟩
      · unfold St.setPage
        rw [setRp_ge x c _ hl, rp_ge x c hl, rp_ge s c (by rw [← hlen]; exact hl)]
        exact SlotKept.refl _
    · rw [rp_setPage_other _ curr c _ e]; exact hslots c e
  · intro hn c hc
    have hne : c ≠ curr := fun e => hc (by rw [e])
    rw [rp_setPage_other _ curr c _ hne]
    exact hother hn c hne
  · intro c hc hl
    have : c = curr := by injection hc with hc; exact hc.symm
    subst this
    rw [rp_setPage_same _ c _ (by rw [hlen]; exact hl)]
  · intro y hy
    exact ⟨curr, rfl, hpages y hy⟩

theorem terminatePage_closed (s : St) (mag0 pgno page : Nat) :
    Closed s (terminatePage s mag0 pgno page).1 (terminatePage s mag0 pgno page).2 (terminatedSlot s mag0 pgno page) := by
  refine terminatePage_elim s mag0 pgno page (fun h => h ▸ Closed.nop s) fun curr hcurr x ev h => ?_
  rw [hcurr]
  -- the cases that leave the slots alone
  have hsame : ∀ (x : St) (ev : List Event), x.raw = s.raw → x.mask = s.mask → x.chswcd = s.chswcd →
      x.current = s.current → x.header = s.header → ttxPages ev = [] →
      (∀ y ∈ x.net.cache, y ∈ s.net.cache ∨ y.raw.length = (s.rp curr).page.raw.length) →
      Closed s (x.setPage curr { (x.rp curr).page with function := FN_DISCARD }) ev (some curr) := by
    intro x ev hx hm hc hcu hh hev hca
    refine closed_fin s x ev curr (by rw [hx]) hm (fun h => by rw [hc]; exact h) hcu (fun h => by rw [hh]; exact h)
      (fun c _ => by rw [rp_congr hx c]; exact SlotKept.refl _) (by rw [rp_congr hx curr]; exact SlotId.refl _)
      (fun _ c _ => rp_congr hx c) (fun y hy => by rw [hev] at hy; cases hy) hca
  cases h with
  | idle => exact hsame s [] rfl rfl rfl rfl rfl rfl fun y hy => .inl hy
  | mip r hr =>
    exact hsame { s with net := r.1 } _ rfl rfl rfl rfl rfl (ttxPages_liftAux _)
      fun y hy => .inl ((hr ▸ (parseMip_spec s.net (s.rp curr).page).1).sub y hy)
  | put aux =>
    refine hsame _ _ rfl rfl rfl rfl rfl (by rw [ttxPages_append, ttxPages_liftAux]; rfl) fun y hy => ?_
    exact (put_cache s.net _ y hy).imp_right fun h => by rw [h]
  | lop hfn =>
    obtain ⟨l1, l2, l3⟩ := lopParityCheck_lens (s.rp curr).page (s.rp curr)
    obtain ⟨k1, k2, k3⟩ := lopParityCheck_keys (s.rp curr).page (s.rp curr)
    generalize hLP : lopParityCheck (s.rp curr).page (s.rp curr) = LP at *
    obtain ⟨cv, rv⟩ := LP
    simp only [] at l1 l2 l3 k1 k2 k3 ⊢
    have hS := storeLop_shape (s.setRp curr { rv with page := cv }) cv
    generalize storeLop (s.setRp curr { rv with page := cv }) cv = SL at hS
    obtain ⟨x, ev⟩ := SL
    simp only [] at hS ⊢
    have hid0 : SlotId (s.rp curr) ((s.setRp curr { rv with page := cv }).rp curr) := by
      by_cases hl : curr < s.raw.length
      · rw [rp_setRp_same s curr _ hl]; exact ⟨l2, k1, k2, l3, l1⟩
      · rw [setRp_ge s curr _ hl]; exact SlotId.refl _
    refine closed_fin s x ev curr (hS.len.trans (setRp_length s curr _)) hS.mask hS.cd hS.cur hS.hlen
      (fun c hc => rp_setRp_other s curr c _ hc ▸ hS.slots c) (hid0.trans (hS.slots curr).id)
      (fun hn c hc => by rw [rp_congr (hS.keep hn) c, rp_setRp_other s curr c _ hc]) ?_ ?_
    · intro y hy
      rw [hS.pages y hy, k1, k2]
      exact ⟨rfl, hfn⟩
    · intro y hy
      rcases hS.cache y hy with h | h
      · exact Or.inl h
      · exact Or.inr (by rw [h, l1])

/-! ## the pages stored -/

theorem storeLop_puts (s : St) (vtp : Page) : ∀ q, Event.put q ∈ (storeLop s vtp).2 → q = vtp := by
  refine storeLop_cases s vtp (fun _ q hq => by simp at hq) (fun _ q hq => nomatch hq)
    fun copy clearCd roll hdrUpd clock pn q hq => ?_
  rcases List.mem_append.mp hq with hq | hq
  · exact (List.mem_append.mp hq).elim (fun hq => absurd hq (put_not_mem_liftAux _ q)) mem_put_singleton
  · split at hq <;> simp at hq

theorem terminatePage_puts (s : St) (mag0 pgno page : Nat) :
    ∀ q, Event.put q ∈ (terminatePage s mag0 pgno page).2 →
      ∃ curr, terminatedSlot s mag0 pgno page = some curr ∧ q.function ≠ FN_DISCARD ∧
        q.function = (s.rp curr).page.function ∧ q.pgno = (s.rp curr).page.pgno ∧ q.subno = (s.rp curr).page.subno := by
  refine terminatePage_elim s mag0 pgno page (fun _ q h => nomatch h) fun curr hcurr x ev h q hq => ⟨curr, hcurr, ?_⟩
  cases h with
  | idle => nomatch hq
  | lop hf =>
    have hk := lopParityCheck_keys (s.rp curr).page (s.rp curr)
    rw [storeLop_puts _ _ q hq]
    exact ⟨by rw [hk.2.2, hf]; decide, hk.2.2, hk.1, hk.2.1⟩
  | mip r => exact absurd hq (put_not_mem_liftAux _ q)
  | put aux _ hn =>
    rcases List.mem_append.mp hq with hq | hq
    · exact absurd hq (put_not_mem_liftAux _ q)
    · rw [mem_put_singleton hq]
      exact ⟨hn.1, rfl, rfl, rfl⟩

/-! ## the trace of cache operations -/

theorem stPut_reach (s : St) (p : Page) :
    Reach (fun q => Event.put q ∈ (s.put p).2) s.net.cache (s.put p).1.net.cache :=
  (put_reach s.net p).mono (fun q hq => by rw [hq]; exact List.mem_singleton.mpr rfl)

/-- `store_lop`: `.clear` (channel switch), nothing, or one `.put` of the page - announced by `Event.put` -/
theorem storeLop_reach (s : St) (vtp : Page) :
    Reach (fun q => Event.put q ∈ (storeLop s vtp).2) s.net.cache (storeLop s vtp).1.net.cache :=
  storeLop_cases s vtp (fun _ => Reach.clear _ _) (fun _ => Reach.refl _ _) fun copy clearCd roll hdrUpd clock pn =>
    (Reach.of_eq (setStat_cache ..)).trans ((put_reach _ vtp).mono fun q hq => by rw [hq]; simp)

/-- "Store page terminated by new header": look-ups of the MIP parser, `.clear`, or one `.put` - of the page of
    the terminated slot (after the parity check of a text page), announced by `Event.put` -/
theorem terminatePage_reach (s : St) (mag0 pgno page : Nat) :
    Reach (fun q => Event.put q ∈ (terminatePage s mag0 pgno page).2) s.net.cache
      (terminatePage s mag0 pgno page).1.net.cache := by
  refine terminatePage_elim s mag0 pgno page (fun _ => Reach.refl _ _) fun curr _ x ev h => ?_
  cases h with
  | idle => exact Reach.refl _ _
  | lop => exact storeLop_reach _ _
  | mip r hr => exact (hr ▸ (parseMip_spec s.net (s.rp curr).page).1).reach _
  | put => exact (stPut_reach s (s.rp curr).page).mono fun q hq => List.mem_append_right _ hq

end Zvbi.Ttx
