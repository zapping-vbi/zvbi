import ZvbiModel.Ttx.Branches
/-!
# Where the triplets of packet X/26 go

An accepted packet with designation `d` writes `enh[13 d .. 13 d + 12]` and nothing else (`x26Triplets_frame`).
-/
namespace Zvbi.Ttx
open Zvbi.Hamm Zvbi.Gen Zvbi.Ttx.Spec

theorem x26Step_frame (v : View) (acc : List Triplet × Nat × List Aux × Bool) (i : Nat) (d : Triplet) :
    acc.2.1 ≤ (x26Step v acc i).2.1 ∧ (x26Step v acc i).2.1 ≤ acc.2.1 + 1 ∧
    ∀ idx, idx ≠ acc.2.1 → (x26Step v acc i).1.getD idx d = acc.1.getD idx d := by
  obtain ⟨enh, nt, ev, brk⟩ := acc
  unfold x26Step
  simp only []
  split
  · exact ⟨Nat.le_refl _, Nat.le_succ _, fun _ _ => rfl⟩
  · split
    · exact ⟨Nat.le_refl _, Nat.le_succ _, fun _ _ => rfl⟩
    · split
      · refine ⟨Nat.le_succ _, Nat.le_refl _, ?_⟩
        intro idx hne
        simp only [List.getD_eq_getElem?_getD, List.getElem?_set]
        have : nt ≠ idx := fun h => hne h.symm
        simp [this]
      · exact ⟨Nat.le_succ _, Nat.le_refl _, fun _ _ => rfl⟩

theorem x26Fold_frame (v : View) (is : List Nat) (acc : List Triplet × Nat × List Aux × Bool) (d : Triplet) :
    acc.2.1 ≤ (is.foldl (x26Step v) acc).2.1 ∧ (is.foldl (x26Step v) acc).2.1 ≤ acc.2.1 + is.length ∧
    ∀ idx, (idx < acc.2.1 ∨ acc.2.1 + is.length ≤ idx) →
      (is.foldl (x26Step v) acc).1.getD idx d = acc.1.getD idx d := by
  induction is generalizing acc with
  | nil => exact ⟨Nat.le_refl _, Nat.le_refl _, fun _ _ => rfl⟩
  | cons i is ih =>
    simp only [List.foldl_cons, List.length_cons]
    obtain ⟨a1, a2, a3⟩ := x26Step_frame v acc i d
    obtain ⟨b1, b2, b3⟩ := ih (x26Step v acc i)
    refine ⟨by omega, by omega, ?_⟩
    intro idx hidx
    rw [b3 idx (by omega), a3 idx (by omega)]

/-- **X/26 placement**: the triplets of an accepted packet with designation `d` go to
    `enh[13 d .. 13 d + 12]`; every other entry of `enh` is untouched and the fill level ends
    between `13 d` and `13 d + 13` -/
theorem x26Triplets_frame (v : View) (enh : List Triplet) (nt : Nat) (d : Triplet) :
    nt ≤ (x26Triplets v enh nt).2.1 ∧ (x26Triplets v enh nt).2.1 ≤ nt + 13 ∧
    ∀ idx, (idx < nt ∨ nt + 13 ≤ idx) → (x26Triplets v enh nt).1.getD idx d = enh.getD idx d := by
  unfold x26Triplets
  simp only []
  have := x26Fold_frame v (List.range 13) (enh, nt, [], false) d
  simpa using this

end Zvbi.Ttx
