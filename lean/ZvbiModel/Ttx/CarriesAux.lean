import ZvbiModel.Ttx.Shape
/-!
# C02: the page stored at termination carries the FLOF links and the X/28 record of the page in progress

`CarriesAux q p`: the cache entry `q` has the `link[]` array, `have_flof`, `x28_designations` of `p`, and - when the
page received X/28/0, X/28/1 or X/28/4 (`x28_designations & 0x13`, the test of `cache_page_size`) - its extension record.
`close_text_at`: page termination of a text page in slot `m` by a header that terminates that slot (whatever the transmission
mode): the merged page (`Stored`) is at the head of the cache chain, one TTX_PAGE event, and the entry `CarriesAux` the page
in progress: `lop_parity_check` touches rows only, `store_lop` passes the page to `_vbi_cache_put_page`, which copies it up to
`cache_page_size`.
-/
namespace Zvbi.Ttx
open Zvbi.Hamm Zvbi.Gen Zvbi.Ttx.Spec

structure CarriesAux (q p : Page) : Prop where
  link : q.link = p.link
  flof : q.haveFlof = p.haveFlof
  x28 : q.x28 = p.x28
  ext : p.x28 &&& 0x13 ≠ 0 → q.ext = p.ext

theorem truncate_carries (p : Page) (hfn : p.function = FN_LOP) : CarriesAux p.truncate p := by
  unfold Page.truncate
  have c : (p.function == FN_UNKNOWN || p.function == FN_LOP) = true := by rw [hfn]; decide
  rw [if_pos c]
  by_cases h : (p.x28 &&& 0x13 != 0) = true
  · rw [if_pos h]; exact ⟨rfl, rfl, rfl, fun _ => rfl⟩
  · rw [if_neg h]
    have h' : p.x28 &&& 0x13 = 0 := by simpa using h
    split
    · exact ⟨rfl, rfl, rfl, fun hx => absurd h' hx⟩
    · exact ⟨rfl, rfl, rfl, fun hx => absurd h' hx⟩

theorem storeLop_carries (s : St) (vtp : Page) (h0 : s.chswcd = 0) (hv : validPgno vtp.pgno) (hfn : vtp.function = FN_LOP)
    (hn : Event.chsw ∉ (storeLop s vtp).2) :
    ∃ q rest, (storeLop s vtp).1.net.cache = q :: rest ∧ CarriesAux q vtp := by
  revert hn
  refine storeLop_elim (P := fun r => Event.chsw ∉ r.2 → ∃ q rest, r.1.net.cache = q :: rest ∧ CarriesAux q vtp) s vtp
    (fun _ hn => absurd List.mem_cons_self hn) (fun h _ => absurd h0 (by omega)) (fun _ _ _ _ _ => ?_)
  show ∃ q rest, (Net.put _ vtp).cache = q :: rest ∧ _
  unfold Net.put
  obtain ⟨q, rest, hput, _⟩ := cachePut_head (s.net.setStat vtp.pgno (fun _ => statAtPut s.net vtp)).1.cache
    ((s.net.setStat vtp.pgno (fun _ => statAtPut s.net vtp)).1.getStat vtp.pgno).pageType vtp hv.2.2
  rw [hput]
  refine ⟨q, rest, rfl, ?_⟩
  cases hk : putKey ((s.net.setStat vtp.pgno (fun _ => statAtPut s.net vtp)).1.getStat vtp.pgno).pageType vtp.pgno vtp.subno with
  | mk key mask =>
    injection cachePutF_eq hput hk with e _
    obtain ⟨t1, t2, t3, t4⟩ := truncate_carries vtp hfn
    rw [e]; exact ⟨t1, t2, t3, t4⟩

theorem lopParityCheck_carries (cv : Page) (rv : RawPage) :
    (lopParityCheck cv rv).1.link = cv.link ∧ (lopParityCheck cv rv).1.haveFlof = cv.haveFlof
    ∧ (lopParityCheck cv rv).1.x28 = cv.x28 ∧ (lopParityCheck cv rv).1.ext = cv.ext := by
  obtain ⟨R, L, LR, e, _⟩ := lopParityCheck_eq cv rv
  rw [e]; exact ⟨rfl, rfl, rfl, rfl⟩

theorem close_text_at (s : St) (m mQ pgnoQ pageQ : Nat) (hcd : s.chswcd = 0) (hmask : s.mask = true)
    (hts : terminatedSlot s mQ pgnoQ pageQ = some m) (hfn : (s.rp m).page.function = FN_LOP)
    (hv : validPgno (s.rp m).page.pgno)
    (L0 : List (List Nat)) (rows : List (Nat × List Nat))
    (hL : (s.rp m).lopRaw = mergeRows L0 rows) (hL0 : L0.length = 26) (hlp : (s.rp m).lopPackets = rowBits 0 rows)
    (hrows : ∀ r ∈ rows, 1 ≤ r.1 ∧ r.1 ≤ 25 ∧ GoodRow r.2)
    (hn : Event.chsw ∉ (terminatePage s mQ pgnoQ pageQ).2) :
    ∃ q rest pt, (terminatePage s mQ pgnoQ pageQ).1.net.cache = q :: rest
      ∧ Stored q (s.rp m).page rows pt ∧ CarriesAux q (s.rp m).page
      ∧ (pt = PT_CLOCK → (s.net.getStat (s.rp m).page.pgno).pageType = PT_CLOCK)
      ∧ ttxPages (terminatePage s mQ pgnoQ pageQ).2 = [((s.rp m).page.pgno, (s.rp m).page.subno)] := by
  rw [terminatePage_lop s mQ pgnoQ pageQ m hts hfn] at hn ⊢
  simp only [] at hn ⊢
  obtain ⟨m1, m2, m3, m4, m5, m6⟩ := lopParityCheck_merge (s.rp m).page (s.rp m) L0 rows hL hL0 hlp hrows
  obtain ⟨k1, k2, k3, k4⟩ := lopParityCheck_carries (s.rp m).page (s.rp m)
  generalize hLP : lopParityCheck (s.rp m).page (s.rp m) = LP at *
  obtain ⟨cv, rv⟩ := LP
  simp only [] at hn ⊢ m1 m2 m3 m4 m5 m6 k1 k2 k3 k4
  have hv' : validPgno cv.pgno := by rw [m3]; exact hv
  have key := storeLop_stores (s.setRp m { rv with page := cv }) cv hcd hmask hv'
  have keyc := storeLop_carries (s.setRp m { rv with page := cv }) cv hcd hv' (by rw [m2]; exact hfn)
  generalize storeLop (s.setRp m { rv with page := cv }) cv = SL at key keyc hn ⊢
  obtain ⟨s2, ev2⟩ := SL
  simp only [] at key keyc hn ⊢
  obtain ⟨_, _, _, _, ⟨q, rest, hc, hq⟩, hev⟩ := key hn
  obtain ⟨q', rest', hc', hq'⟩ := keyc hn
  rw [hc] at hc'
  injection hc' with e1 _
  subst e1
  rw [setRp_net] at hq
  refine ⟨q, rest, typeAtPut s.net cv, ?_, ?_, ?_, ?_, ?_⟩
  · rw [setPage_net]; exact hc
  · refine ⟨?_, ?_, ?_, ?_, ?_, ?_⟩
    · rw [hq.fn, m2]; exact hfn
    · rw [hq.pgno, m3]
    · intro key mask hk
      rw [← m3, ← m4] at hk
      exact hq.subno key mask hk
    · rw [hq.national, m6]
    · rw [hq.flags, m5]
    · rw [hq.raw, m1]
  · exact ⟨hq'.link.trans k1, hq'.flof.trans k2, hq'.x28.trans k3, fun hx => (hq'.ext (by rw [k3]; exact hx)).trans k4⟩
  · intro h
    have := typeAtPut_clock s.net cv h
    rw [m3] at this; exact this
  · rw [hev, m3, m4]

end Zvbi.Ttx
