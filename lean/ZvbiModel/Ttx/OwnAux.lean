import ZvbiModel.Ttx.TextOnly
/-!
# C02: the page's OWN packets X/26, X/27, X/28 (and M/29 of its magazine) between its rows

`AuxKept a b`: the `raw_page` slot `b` differs from `a` at most in the enhancement triplets (`enh`, `x26_designations`,
`num_triplets`), the FLOF links (`link`, `have_flof`, `x27_designations`) and the extension record (`ext`,
`x28_designations`): page function, numbers, national option, control bits, the stored rows, the rows collected in
`lop_raw` and the `lop_packets` bits are the same.

A packet number 26..29 of magazine `m`, arriving while the page in progress of `m` is a Level 1 text page, is `AuxKept`
for slot `m` (`own_aux_decode`) - with ONE sender-side condition: an X/28 packet must not carry designation 3 (X/28/3
declares the page a DRCS page: packet.c `parse_28_29` then DISCARDS a page that was opened as text, `x28Decide .. = .discard`).
-/
namespace Zvbi.Ttx
open Zvbi.Hamm Zvbi.Gen Zvbi.Ttx.Spec

structure AuxKept (a b : RawPage) : Prop where
  fn : b.page.function = a.page.function
  pgno : b.page.pgno = a.page.pgno
  subno : b.page.subno = a.page.subno
  national : b.page.national = a.page.national
  flags : b.page.flags = a.page.flags
  raw : b.page.raw = a.page.raw
  lr : b.lopRaw = a.lopRaw
  lp : b.lopPackets = a.lopPackets

theorem AuxKept.refl (a : RawPage) : AuxKept a a := ⟨rfl, rfl, rfl, rfl, rfl, rfl, rfl, rfl⟩

/-- two page records that agree in everything the round trip talks about (function, numbers, national option, control
    bits, rows); enhancement / link / extension data are free -/
structure SameText (a b : Page) : Prop where
  fn : b.function = a.function
  pgno : b.pgno = a.pgno
  subno : b.subno = a.subno
  national : b.national = a.national
  flags : b.flags = a.flags
  raw : b.raw = a.raw

theorem SameText.refl (a : Page) : SameText a a := ⟨rfl, rfl, rfl, rfl, rfl, rfl⟩

theorem AuxKept.text {a b : RawPage} (h : AuxKept a b) : SameText a.page b.page :=
  ⟨h.fn, h.pgno, h.subno, h.national, h.flags, h.raw⟩

theorem AuxKept.trans {a b c : RawPage} (h1 : AuxKept a b) (h2 : AuxKept b c) : AuxKept a c :=
  ⟨h2.fn.trans h1.fn, h2.pgno.trans h1.pgno, h2.subno.trans h1.subno, h2.national.trans h1.national,
    h2.flags.trans h1.flags, h2.raw.trans h1.raw, h2.lr.trans h1.lr, h2.lp.trans h1.lp⟩

theorem process26_kept (s : St) (m : Nat) (v : View) (hfn : (s.rp m).page.function = FN_LOP) (hl : m < s.raw.length) :
    AuxKept (s.rp m) ((process26 s m v).st.rp m) := by
  rcases process26_text s m v (Or.inl hfn) with ⟨b, e⟩ | ⟨nt, enh, x26, ev, b, e⟩
  · rw [e]; exact AuxKept.refl _
  · rw [e, rp_setRp_same s m _ hl]
    exact ⟨rfl, rfl, rfl, rfl, rfl, rfl, rfl, rfl⟩

theorem parse27_kept (s : St) (m : Nat) (v : View) (hl : m < s.raw.length) :
    AuxKept (s.rp m) ((s.setPage m (parse27 (s.rp m).page v m).1).rp m) := by
  obtain ⟨l, f, e⟩ := parse27_fst (s.rp m).page v m
  rw [rp_setPage_same s m _ hl, e]
  exact ⟨rfl, rfl, rfl, rfl, rfl, rfl, rfl, rfl⟩

theorem selectExt_national (s : St) (mag0 mag8 packet d : Nat) :
    (selectExt s mag0 mag8 packet d).2.national = (s.rp mag0).page.national := by
  unfold selectExt
  simp only []
  split
  · split <;> rfl
  · rfl

theorem storeExt_kept (s : St) (mag0 mag8 packet : Nat) (cv : Page) (ext : Ext) (hl : mag0 < s.raw.length)
    (h : cv.function = (s.rp mag0).page.function ∧ cv.pgno = (s.rp mag0).page.pgno
      ∧ cv.subno = (s.rp mag0).page.subno ∧ cv.flags = (s.rp mag0).page.flags ∧ cv.raw = (s.rp mag0).page.raw)
    (hn : cv.national = (s.rp mag0).page.national) :
    AuxKept (s.rp mag0) ((storeExt s mag0 mag8 packet cv ext).rp mag0) := by
  unfold storeExt
  obtain ⟨a, b, c, d, e⟩ := h
  split
  · rw [rp_setPage_same s mag0 _ hl]
    exact ⟨a, b, c, hn, d, e, rfl, rfl⟩
  · exact AuxKept.refl _

theorem parse2829_kept (s : St) (mag0 mag8 packet : Nat) (v : View) (hl : mag0 < s.raw.length)
    (h : packet = 29 ∨ v.g8 0 ≠ some 3) :
    AuxKept (s.rp mag0) ((parse2829 s mag0 mag8 packet v).1.rp mag0) :=
  parse2829_elim (P := fun s' => AuxKept (s.rp mag0) (s'.rp mag0)) s mag0 mag8 packet v (AuxKept.refl _)
    (fun d e => storeExt_kept s mag0 mag8 packet _ e hl (selectExt_same s mag0 mag8 packet d)
      (selectExt_national s mag0 mag8 packet d))
    (fun h29 hd _ _ => (h.elim h29 (· hd)).elim)

/-- the packets of a page that are not rows: X/26, X/27, X/28 and the magazine's M/29; an X/28 must not be X/28/3 -/
def IsAux (p : Packet) (k : Nat) : Prop := 26 ≤ k ∧ k ≤ 29 ∧ (k = 28 → a8 p 2 ≠ some 3)

instance (p : Packet) (k : Nat) : Decidable (IsAux p k) := by unfold IsAux; infer_instance

theorem own_aux_decode (s : St) (p : Packet) (m k : Nat) (hp : IsPacket p m k) (hk : IsAux p k) (hmask : s.mask = true)
    (hfn : (s.rp m).page.function = FN_LOP) (hl : m < s.raw.length) :
    AuxKept (s.rp m) ((decodeTeletext s p).st.rp m) ∧ (decodeTeletext s p).st.net.cache = s.net.cache
      ∧ Quiet s (decodeTeletext s p).st m ∧ Silent (decodeTeletext s p).ev := by
  obtain ⟨hm, hk32, ha⟩ := hp
  obtain ⟨k1, k2, k3⟩ := hk
  obtain ⟨a1, a2⟩ := addr_split m hm k hk32
  have h0 : (m + 8 * k) >>> 3 ≠ 0 := by rw [a2]; omega
  obtain ⟨hq, hs⟩ := decode_quiet s p (m + 8 * k) ha h0
  rw [a1] at hq
  have hquiet : Quiet s (decodeTeletext s p).st m := by
    rcases hq with hq | ⟨_, _, _, hx⟩
    · exact hq
    · exfalso; rw [hfn] at hx; revert hx; decide
  have hplain := decode_plain s p (m + 8 * k) ha h0 (by rw [a1]; exact Or.inl hfn)
  refine ⟨?_, hplain.cache, hquiet, hs⟩
  rw [decode_eq_process s p (m + 8 * k) ha h0]
  refine process_elim (p := fun r => AuxKept (s.rp m) (r.1.st.rp m)) s (m + 8 * k) _
    (AuxKept.refl _) (fun h => ?_) (fun _ h => ?_) (fun _ _ => ?_) (fun _ _ => ?_) (fun h _ => ?_) (fun h => ?_)
  · rw [a2] at h; omega
  · rw [a2] at h; omega
  · rw [a1]; exact process26_kept s m _ hfn hl
  · rw [a1]; exact parse27_kept s m _ hl
  · rw [a2] at h
    rw [a1, a2]
    apply parse2829_kept s m _ k _ hl
    rcases h with e28 | e29
    · right
      -- X/28 on a text page is read through the triplet view, whose designation is the byte `IsAux` speaks of
      have hkind : kindOf s (m + 8 * k) (a8 p 2) = Kind.trip :=
        kindOf_2829 s _ _ hmask (.inl (a2.trans e28)) fun h => by
          rw [a1, hfn] at h; exact absurd h.2 (by decide)
      rw [hkind, view_trip_g8_0]
      exact k3 e28
    · exact Or.inl e29
  · rw [a2] at h; omega

theorem own_aux_step (s : St) (p : Packet) (m k : Nat) (hp : IsPacket p m k) (hk : IsAux p k) (hcd : s.chswcd = 0)
    (hmask : s.mask = true) (hfn : (s.rp m).page.function = FN_LOP) (hl : m < s.raw.length) :
    AuxKept (s.rp m) ((step s p).1.rp m) ∧ (step s p).1.net.cache = s.net.cache
      ∧ Quiet (tick s) (step s p).1 m ∧ Silent (step s p).2 := by
  rw [step_eq_decode s p hcd]
  exact own_aux_decode (tick s) p m k hp hk hmask hfn hl

theorem own_x27_decode (s : St) (p : Packet) (m d : Nat) (hp : IsPacket p m 27) (hmask : s.mask = true)
    (hfn : (s.rp m).page.function = FN_LOP) (hd : a8 p 2 = some d) (hd3 : d ≤ 3) :
    (decodeTeletext s p).st = s.setPage m (parse27 (s.rp m).page (view Kind.x27a p) m).1 := by
  obtain ⟨hm, hk32, ha⟩ := hp
  obtain ⟨a1, a2⟩ := addr_split m hm 27 hk32
  have h0 : (m + 8 * 27) >>> 3 ≠ 0 := by rw [a2]; decide
  have hkind : kindOf s (m + 8 * 27) (a8 p 2) = Kind.x27a := by
    rw [hd, kindOf_x27 s _ d hmask a2 (by rw [a1, hfn]; decide), if_pos hd3]
  rw [decode_eq_process s p (m + 8 * 27) ha h0, hkind, process_x27 _ _ _ hmask a2, a1]

theorem own_x27_step (s : St) (p : Packet) (m d : Nat) (hp : IsPacket p m 27) (hcd : s.chswcd = 0)
    (hmask : s.mask = true) (hfn : (s.rp m).page.function = FN_LOP) (hd : a8 p 2 = some d) (hd3 : d ≤ 3) :
    (step s p).1 = (tick s).setPage m (parse27 ((tick s).rp m).page (view Kind.x27a p) m).1 := by
  rw [step_eq_decode s p hcd]
  exact own_x27_decode (tick s) p m d hp hmask hfn hd hd3


end Zvbi.Ttx
