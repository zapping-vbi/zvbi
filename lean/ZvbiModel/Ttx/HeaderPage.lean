import ZvbiModel.Ttx.Quiet
import ZvbiModel.Ttx.HeaderAccepted
/-!
# The page header branch, for any page function; what one packet does

`headerPage_*`: what "Prepare for new page" (packet.c:2321-2516) does for ANY accepted header (not only a text
page): numbers, flags, array shapes, where a text page gets its rows from, no page enters the cache.
`decode_header_frame`: a header packet of magazine `mag0` through `vbi_decode_teletext` = `vbi_teletext_desync`
(page number uncorrectable) or `terminatePage` (Ttx/Termination.lean) followed by a change of slot
`mag0` only (`HdrStep`), read off the equations `decode_hdr_rejected` / `decode_hdr_accepted`.
`decode_cases`: the case analysis of `vbi_decode_teletext` that the invariants over all histories go through.
-/
namespace Zvbi.Ttx
open Zvbi.Hamm Zvbi.Gen Zvbi.Ttx.Spec

theorem headerLookup_some (n : Net) (cv q : Page) (h : (headerLookup n cv).1 = some q) :
    q ∈ n.cache ∧ q.pgno = cv.pgno := by
  unfold headerLookup at h
  split at h
  · exact get_mem _ _ _ _ q h
  · cases h

theorem headerLookup_spec (n : Net) (cv : Page) : Looks n (headerLookup n cv).2.1 ∧ NoFault (headerLookup n cv).2.2 := by
  unfold headerLookup
  split
  · exact ⟨get_looks _ _ _ _, get_nofault _ _ _ _⟩
  · exact ⟨Looks.refl n, NoFault.nil⟩

/-- The page an accepted header opens, before a page of unknown function is given the function its page type implies:
    the cached copy `q` continued; or, built from scratch, one of the four special pages (never a text page, header not
    copied) or a page of unknown function with the header row, 25 blank rows and an unused enhancement array.
    With it, whether the header row was copied. -/
inductive HeaderBase (n : Net) (cv : Page) (row0 : List Nat) : Page → Bool → Prop
  | cached (q : Page) (hm : q ∈ n.cache) (hp : q.pgno = cv.pgno) :
      HeaderBase n cv row0 (headerFromCache cv q row0).1 (headerFromCache cv q row0).2
  | special (f : Int) (raw : List (List Nat)) (enh : List Triplet) (hl : f ≠ FN_LOP) (hu : f ≠ FN_UNKNOWN)
      (hr : raw = cv.raw ∨ raw.length = 26) :
      HeaderBase n cv row0
        { cv with flags := cv.flags ||| C4_ERASE_PAGE, lopPackets := 1, x26 := 0, x27 := 0, x28 := 0, function := f,
                  raw := raw, enh := enh } false
  | plain : HeaderBase n cv row0
      { cv with flags := cv.flags ||| C4_ERASE_PAGE, lopPackets := 1, x26 := 0, x27 := 0, x28 := 0, function := FN_UNKNOWN,
                raw := row0 :: List.replicate 25 blankRow, link := List.replicate LINKS Link.ff,
                enh := List.replicate ENH_SIZE Triplet.ff, haveFlof := 0 } true

/-- the page built from scratch; a special page has its statistics entry written on the way -/
theorem headerFresh_base (n m : Net) (cv : Page) (page : Nat) (row0 : List Nat) :
    HeaderBase n cv row0 (headerFresh m cv page row0).1 (headerFresh m cv page row0).2.2.2 ∧
    Looks m (headerFresh m cv page row0).2.1 ∧ (PgnoOk cv.pgno → NoFault (headerFresh m cv page row0).2.2.1) := by
  have st : ∀ g, Looks m (m.setStat cv.pgno g).1 ∧ (PgnoOk cv.pgno → NoFault (m.setStat cv.pgno g).2) :=
    fun g => ⟨setStat_looks _ _ _, fun hp => by rw [setStat_nofault _ _ _ hp]; exact NoFault.nil⟩
  unfold headerFresh
  simp only []
  split
  · exact ⟨.special FN_BTT _ _ (by decide) (by decide) (.inl rfl), st _⟩
  split
  · exact ⟨.special FN_EACEM _ _ (by decide) (by decide) (.inr (List.length_replicate ..)), st _⟩
  split
  · exact ⟨.special FN_MIP _ _ (by decide) (by decide) (.inl rfl), st _⟩
  split
  · exact ⟨.special FN_MOT _ _ (by decide) (by decide) (.inl rfl), st _⟩
  · exact ⟨.plain, Looks.refl _, fun _ => NoFault.nil⟩

/-- **"Prepare for new page", any accepted header**: the page is the base page with, at most, a new function (only if
    its function was unknown) and new DRCS modes; the page list changes by look-ups only; no fault mark -/
theorem headerPage_base (n : Net) (cv0 : Page) (page subpage fl : Nat) (row0 : List Nat) :
    (∃ b f d, HeaderBase n (hdrFields cv0 subpage fl) row0 b (headerPage n cv0 page subpage fl row0).2.2.2 ∧
      (headerPage n cv0 page subpage fl row0).1 = { b with function := f, drcsMode := d } ∧
      (f = b.function ∨ b.function = FN_UNKNOWN)) ∧
    Looks n (headerPage n cv0 page subpage fl row0).2.1 ∧
    (PgnoOk cv0.pgno → NoFault (headerPage n cv0 page subpage fl row0).2.2.1) := by
  have hcv : ({ cv0 with subno := subpage &&& 0x3F7F, national := rev8 fl &&& 7, flags := (fl <<< 16) + subpage } : Page)
      = hdrFields cv0 subpage fl := rfl
  have conv : ∀ (m : Net) (b : Page), ∃ f d, (headerConvert m b page).1 = { b with function := f, drcsMode := d } ∧
      (f = b.function ∨ b.function = FN_UNKNOWN) := fun m b => by
    rcases headerConvert_fst m b page with h | ⟨hu, f, d, h⟩
    · exact ⟨_, _, h, .inl rfl⟩
    · exact ⟨f, d, h, .inr hu⟩
  unfold headerPage
  simp only [hcv]
  obtain ⟨hl1, hl2⟩ := headerLookup_spec n (hdrFields cv0 subpage fl)
  cases hlk : (headerLookup n (hdrFields cv0 subpage fl)).1 with
  | some q =>
    simp only []
    obtain ⟨hm, hp⟩ := headerLookup_some n _ q hlk
    obtain ⟨f, d, e, hf⟩ := conv (headerLookup n (hdrFields cv0 subpage fl)).2.1 (headerFromCache (hdrFields cv0 subpage fl) q row0).1
    exact ⟨⟨_, f, d, .cached q hm hp, e, hf⟩, hl1.trans (headerConvert_spec ..).1,
      fun _ => (hl2.append NoFault.nil).append (headerConvert_spec ..).2⟩
  | none =>
    simp only []
    obtain ⟨hb, hf1, hf2⟩ := headerFresh_base n (headerLookup n (hdrFields cv0 subpage fl)).2.1 (hdrFields cv0 subpage fl) page row0
    obtain ⟨f, d, e, hf⟩ := conv (headerFresh (headerLookup n (hdrFields cv0 subpage fl)).2.1 (hdrFields cv0 subpage fl) page row0).2.1
      (headerFresh (headerLookup n (hdrFields cv0 subpage fl)).2.1 (hdrFields cv0 subpage fl) page row0).1
    exact ⟨⟨_, f, d, hb, e, hf⟩, (hl1.trans hf1).trans (headerConvert_spec ..).1,
      fun hp => (hl2.append (hf2 hp)).append (headerConvert_spec ..).2⟩

theorem headerPage_looks (n : Net) (cv0 : Page) (page subpage fl : Nat) (row0 : List Nat) :
    Looks n (headerPage n cv0 page subpage fl row0).2.1 := (headerPage_base n cv0 page subpage fl row0).2.1

theorem headerPage_nofault (n : Net) (cv0 : Page) (page subpage fl : Nat) (row0 : List Nat)
    (hp : PgnoOk cv0.pgno) : NoFault (headerPage n cv0 page subpage fl row0).2.2.1 :=
  (headerPage_base n cv0 page subpage fl row0).2.2 hp

theorem headerPage_keys (n : Net) (cv0 : Page) (page subpage fl : Nat) (row0 : List Nat) :
    (headerPage n cv0 page subpage fl row0).1.pgno = cv0.pgno ∧
    (headerPage n cv0 page subpage fl row0).1.subno = subpage &&& 0x3F7F := by
  obtain ⟨b, f, d, hb, e, _⟩ := (headerPage_base n cv0 page subpage fl row0).1
  rw [e]
  generalize (headerPage n cv0 page subpage fl row0).2.2.2 = copied at hb
  cases hb <;> exact ⟨rfl, rfl⟩

theorem headerPage_fields (n : Net) (cv0 : Page) (page subpage fl : Nat) (row0 : List Nat) :
    ((headerPage n cv0 page subpage fl row0).1.flags = (fl <<< 16) + subpage
      ∨ (headerPage n cv0 page subpage fl row0).1.flags = ((fl <<< 16) + subpage) ||| C4_ERASE_PAGE)
    ∧ CacheSub n (headerPage n cv0 page subpage fl row0).2.1
    ∧ ((∃ q ∈ n.cache, (headerPage n cv0 page subpage fl row0).1.raw.length = q.raw.length)
      ∨ (headerPage n cv0 page subpage fl row0).1.raw.length = 26
      ∨ (headerPage n cv0 page subpage fl row0).1.raw.length = cv0.raw.length)
    ∧ ((headerPage n cv0 page subpage fl row0).1.function = FN_LOP →
        (headerPage n cv0 page subpage fl row0).2.2.2 = true
        ∧ ((∃ q ∈ n.cache, (headerPage n cv0 page subpage fl row0).1.raw = q.raw.set 0 row0)
          ∨ (headerPage n cv0 page subpage fl row0).1.raw = row0 :: List.replicate 25 blankRow)) := by
  obtain ⟨⟨b, f, d, hb, e, hf⟩, hl, _⟩ := headerPage_base n cv0 page subpage fl row0
  rw [e]
  generalize (headerPage n cv0 page subpage fl row0).2.2.2 = copied at hb
  cases hb with
  | cached q hm =>
    refine ⟨.inl rfl, hl.sub, .inl ⟨q, hm, ?_⟩, fun hlop => ?_⟩
    · show (if _ then _ else _ : List (List Nat)).length = _
      split <;> simp
    · have hfq : q.function = FN_LOP ∨ q.function = FN_UNKNOWN := hf.imp (fun h => h.symm.trans hlop) id
      obtain ⟨_, _, _, _, _, g6, g7⟩ := headerFromCache_text (hdrFields cv0 subpage fl) q row0 hfq
      exact ⟨g7, .inl ⟨q, hm, g6⟩⟩
  | special f' raw enh g1 g2 hr =>
    refine ⟨.inr rfl, hl.sub, ?_, fun hlop => hf.elim (fun h => absurd (h.symm.trans hlop) g1) fun h => absurd h g2⟩
    exact hr.elim (fun h => .inr (.inr (congrArg List.length h))) fun h => .inr (.inl h)
  | plain => exact ⟨.inr rfl, hl.sub, .inr (.inl (by show (_ :: _).length = 26; simp)), fun _ => ⟨rfl, .inr rfl⟩⟩

/-- an accepted header: the assembly page continues the cached copy `q` of that very page number
    (then `enh` and the received-designations mask are `q`'s - in the repaired source shape `ttxFixEnhFiller` a
    copy stored without X/26 data gives an array of unused entries instead of zeros), or it is built from scratch (then no
    designation is marked and, if the page is a Level one page, every `enh` entry is unused).
    In no case does anything of the page that occupied the magazine's slot before survive in `enh`. -/
theorem headerPage_enh (n : Net) (cv0 : Page) (page subpage fl : Nat) (row0 : List Nat) :
    (∃ q, q ∈ n.cache ∧ q.pgno = cv0.pgno ∧
          ((headerPage n cv0 page subpage fl row0).1.enh = q.enh ∨
           (ttxFixEnhFiller = true ∧ q.x26 = 0 ∧ (headerPage n cv0 page subpage fl row0).1.enh = enhUnused)) ∧
          (headerPage n cv0 page subpage fl row0).1.x26 = q.x26) ∨
    ((headerPage n cv0 page subpage fl row0).1.x26 = 0 ∧
      ((headerPage n cv0 page subpage fl row0).1.function = FN_LOP →
        (headerPage n cv0 page subpage fl row0).1.enh = enhUnused)) := by
  obtain ⟨b, f, d, hb, e, hf⟩ := (headerPage_base n cv0 page subpage fl row0).1
  rw [e]
  generalize (headerPage n cv0 page subpage fl row0).2.2.2 = copied at hb
  cases hb with
  | cached q hm hp =>
    refine .inl ⟨q, hm, hp, ?_, rfl⟩
    show (if _ then _ else _) = _ ∨ _ ∧ _ ∧ (if _ then _ else _) = _
    split
    · rename_i h
      simp only [Bool.and_eq_true, beq_iff_eq] at h
      exact .inr ⟨h.1.1.1, h.1.2, rfl⟩
    · exact .inl rfl
  | special f' raw enh g1 g2 =>
    exact .inr ⟨rfl, fun hlop => hf.elim (fun h => absurd (h.symm.trans hlop) g1) fun h => absurd h g2⟩
  | plain => exact .inr ⟨rfl, fun _ => rfl⟩

/-- `s'` = the state after the header of (`mag0`, `pgno`) carried by packet `p`, `t` = the state after that
    header terminated the page in progress -/
structure HdrStep (t s' : St) (mag0 pgno : Nat) (p : Packet) : Prop where
  len : s'.raw.length = t.raw.length
  mask : s'.mask = t.mask
  cd : s'.chswcd = t.chswcd
  cur : s'.current = some mag0
  hdr : s'.header = t.header ∧ s'.hdrPgno = t.hdrPgno
  other : ∀ c, c ≠ mag0 → s'.rp c = t.rp c
  pgno : (s'.rp mag0).page.pgno = pgno
  lr : (s'.rp mag0).lopRaw = (t.rp mag0).lopRaw
  /-- refused header: slot discarded, flags unchanged; accepted: the transmitted control bits.  The row counts are for the
      array extents C02 keeps track of (`Shape`, Ttx/Shape.lean). -/
  flags : ((s'.rp mag0).page.function = FN_DISCARD ∧ (s'.rp mag0).page.flags = (t.rp mag0).page.flags
      ∧ (s'.rp mag0).page.raw.length = (t.rp mag0).page.raw.length) ∨
    (∃ s12 s34 fl, a16 p 4 = some s12 ∧ a16 p 6 = some s34 ∧ a16 p 8 = some fl ∧
      ((s'.rp mag0).page.flags = (fl <<< 16) + (s12 + s34 * 256)
        ∨ (s'.rp mag0).page.flags = ((fl <<< 16) + (s12 + s34 * 256)) ||| C4_ERASE_PAGE)
      ∧ ((∃ q ∈ t.net.cache, (s'.rp mag0).page.raw.length = q.raw.length)
        ∨ (s'.rp mag0).page.raw.length = 26 ∨ (s'.rp mag0).page.raw.length = (t.rp mag0).page.raw.length)
      ∧ ((s'.rp mag0).page.function = FN_LOP →
          (∃ q ∈ t.net.cache, (s'.rp mag0).page.raw = q.raw.set 0 (payload p))
          ∨ (s'.rp mag0).page.raw = payload p :: List.replicate 25 blankRow))
  cache : CacheSub t.net s'.net

theorem hdrRejected_fields (p : Packet) (page : Nat)
    (h : hdrRejected page ((view Kind.hdr p).g16i 2) ((view Kind.hdr p).g16i 4) ((view Kind.hdr p).g16i 6) = false)
    (hf : ttxFixF21 = true) :
    ∃ s12 s34 fl, a16 p 4 = some s12 ∧ a16 p 6 = some s34 ∧ a16 p 8 = some fl
      ∧ ((view Kind.hdr p).g16i 2 + (view Kind.hdr p).g16i 4 * 256).toNat = s12 + s34 * 256
      ∧ ((view Kind.hdr p).g16i 6).toNat = fl := by
  obtain ⟨hfl, hfix, _⟩ := hdrRejected_false h
  obtain ⟨h12, h34⟩ := hfix hf
  obtain ⟨a, ha, ea⟩ := g16i_some p 2 (by omega) h12
  obtain ⟨b, hb, eb⟩ := g16i_some p 4 (by omega) h34
  obtain ⟨c, hc, ec⟩ := g16i_some p 6 (by omega) hfl
  refine ⟨a, b, c, ha, hb, hc, ?_, ?_⟩
  · rw [ea, eb]; omega
  · rw [ec]; omega

/-- a header whose sub-code or control bits are refused -/
theorem HdrStep.abandon (t : St) (m pgno : Nat) (p : Packet) (hl : m < t.raw.length) :
    HdrStep t (hdrAbandon t m pgno) m pgno p := by
  have hrp := hdrAbandon_rp t m pgno hl
  exact ⟨hdrAbandon_length .., rfl, rfl, rfl, ⟨rfl, rfl⟩, fun c hc => hdrAbandon_other t m c pgno hc, by rw [hrp], by rw [hrp],
    .inl (by rw [hrp]; exact ⟨rfl, rfl, rfl⟩), CacheSub.refl _⟩

/-- an accepted header; the source shape with F21 repaired is needed only for the sub-code pairs to have decoded -/
theorem HdrStep.open (hf : ttxFixF21 = true) (t : St) (m pgno page : Nat) (p : Packet) (hl : m < t.raw.length)
    (hrej : hdrRejected page ((view Kind.hdr p).g16i 2) ((view Kind.hdr p).g16i 4) ((view Kind.hdr p).g16i 6) = false) :
    HdrStep t (hdrOpen t m (headerPage t.net { (t.rp m).page with pgno := pgno } page
      ((view Kind.hdr p).g16i 2 + (view Kind.hdr p).g16i 4 * 256).toNat ((view Kind.hdr p).g16i 6).toNat
      (zeroRow.take 8 ++ (view Kind.hdr p).raw.drop 8)) (hdr8 p)) m pgno p := by
  obtain ⟨s12, s34, fl, e1, e2, e3, e4, e5⟩ := hdrRejected_fields p page hrej hf
  rw [e4, e5]
  obtain ⟨F1, F2, F3, F4⟩ := headerPage_fields t.net { (t.rp m).page with pgno := pgno } page
    (s12 + s34 * 256) fl (zeroRow.take 8 ++ (view Kind.hdr p).raw.drop 8)
  have hk := headerPage_keys t.net { (t.rp m).page with pgno := pgno } page
    (s12 + s34 * 256) fl (zeroRow.take 8 ++ (view Kind.hdr p).raw.drop 8)
  generalize headerPage t.net { (t.rp m).page with pgno := pgno } page
    (s12 + s34 * 256) fl (zeroRow.take 8 ++ (view Kind.hdr p).raw.drop 8) = h at F1 F2 F3 F4 hk ⊢
  have hrp := hdrOpen_rp t m h (hdr8 p) hl
  refine ⟨hdrOpen_length .., rfl, rfl, rfl, ⟨rfl, rfl⟩, fun c hc => hdrOpen_other _ _ _ _ _ hc, by rw [hrp]; exact hk.1,
    by rw [hrp]; rfl, .inr ⟨s12, s34, fl, e1, e2, e3, by rw [hrp]; exact F1, ?_, ?_⟩, F2⟩
  · rw [hrp, hdrSlot_raw_length]; exact F3
  · rw [hrp]
    intro hlop
    obtain ⟨hc, hr⟩ := F4 hlop
    show (∃ q ∈ _, (if h.2.2.2 = true then _ else _) = _) ∨ (if h.2.2.2 = true then _ else _) = _
    rw [if_pos hc]
    rcases hr with ⟨q, hq, hr⟩ | hr
    · exact .inl ⟨q, hq, by rw [hr, patch_raw, hdr_row]⟩
    · right
      rw [hr]
      simp only [List.set_cons_zero, List.getD_cons_zero]
      rw [List.drop_append]
      simp [zeroRow, hdr_row]

theorem decode_header_frame (s : St) (p : Packet) (pmag : Nat) (ha : a16 p 0 = some pmag) (h0 : pmag >>> 3 = 0)
    (hm : s.mask = true) (hl : pmag &&& 7 < s.raw.length) (hf : ttxFixF21 = true) :
    (a16 p 2 = none ∧ decodeTeletext s p = ⟨desync s, [], false⟩) ∨
    (∃ page, a16 p 2 = some page ∧
      HdrStep (terminatePage s (pmag &&& 7) ((if (pmag &&& 7) == 0 then 8 else pmag &&& 7) * 256 + page) page).1
        (decodeTeletext s p).st (pmag &&& 7) ((if (pmag &&& 7) == 0 then 8 else pmag &&& 7) * 256 + page) p
      ∧ ∃ l, (decodeTeletext s p).ev =
          (terminatePage s (pmag &&& 7) ((if (pmag &&& 7) == 0 then 8 else pmag &&& 7) * 256 + page) page).2 ++ liftAux l) := by
  cases hpg : a16 p 2 with
  | none => exact Or.inl ⟨rfl, decode_hdr_bad_pageno s p pmag ha h0 hm hpg⟩
  | some page =>
    refine .inr ⟨page, rfl, ?_⟩
    have hlt : pmag &&& 7 < (terminatePage s (pmag &&& 7) (mag8Of (pmag &&& 7) * 256 + page) page).1.raw.length := by
      rw [(terminatePage_closed ..).len]; exact hl
    cases hrej : hdrRejected page ((view Kind.hdr p).g16i 2) ((view Kind.hdr p).g16i 4) ((view Kind.hdr p).g16i 6) with
    | true =>
      rw [decode_hdr_rejected s p pmag page ha h0 hm hpg hrej]
      exact ⟨HdrStep.abandon _ _ _ p hlt, [], (List.append_nil _).symm⟩
    | false =>
      rw [decode_hdr_accepted s p pmag page ha h0 hm hpg hrej]
      exact ⟨HdrStep.open hf _ _ _ page p hlt hrej, _, rfl⟩

/-- **What one packet does.**  Nothing (`idle`: address uncorrectable, or a page header while no handler is registered -
    every other ignored packet arrives through `body`, as `Body.nop`); `vbi_teletext_desync`
    (page number of a header uncorrectable; X/26 on a table page); a `Body`; or, for a page header of magazine `m`,
    the termination block (`t` = its result, described by `terminatePage_closed`) followed by the slot being
    abandoned (`hdrAbandon`: sub-code or control bits refused) or opened with the page `h` of `headerPage` (`hdrOpen`). -/
@[elab_as_elim]
theorem decode_cases {P : Res → Prop} (s : St) (p : Packet)
    (idle : ∀ ret, P ⟨s, [], ret⟩)
    (desync : ∀ ret, s.mask = true → P ⟨desync s, [], ret⟩)
    (body : ∀ pmag, a16 p 0 = some pmag → pmag >>> 3 ≠ 0 → Body s (pmag &&& 7) True (decodeTeletext s p) →
      P (decodeTeletext s p))
    (rejected : ∀ pmag page t, a16 p 0 = some pmag → pmag >>> 3 = 0 → s.mask = true → a16 p 2 = some page →
      hdrRejected page ((view Kind.hdr p).g16i 2) ((view Kind.hdr p).g16i 4) ((view Kind.hdr p).g16i 6) = true →
      t = terminatePage s (pmag &&& 7) (mag8Of (pmag &&& 7) * 256 + page) page →
      P ⟨hdrAbandon t.1 (pmag &&& 7) (mag8Of (pmag &&& 7) * 256 + page), t.2, false⟩)
    (accepted : ∀ pmag page t h, a16 p 0 = some pmag → pmag >>> 3 = 0 → s.mask = true → a16 p 2 = some page →
      hdrRejected page ((view Kind.hdr p).g16i 2) ((view Kind.hdr p).g16i 4) ((view Kind.hdr p).g16i 6) = false →
      t = terminatePage s (pmag &&& 7) (mag8Of (pmag &&& 7) * 256 + page) page →
      h = headerPage t.1.net { (t.1.rp (pmag &&& 7)).page with pgno := mag8Of (pmag &&& 7) * 256 + page } page
        ((view Kind.hdr p).g16i 2 + (view Kind.hdr p).g16i 4 * 256).toNat ((view Kind.hdr p).g16i 6).toNat
        (zeroRow.take 8 ++ (view Kind.hdr p).raw.drop 8) →
      P ⟨hdrOpen t.1 (pmag &&& 7) h (hdr8 p), t.2 ++ liftAux h.2.2.1, true⟩) :
    P (decodeTeletext s p) := by
  cases ha : a16 p 0 with
  | none => rw [decode_lost s p ha]; exact idle _
  | some pmag =>
    by_cases h0 : pmag >>> 3 = 0
    case neg =>
      rcases decode_nonhdr s p pmag ha h0 with h | h
      · exact body pmag ha h0 h
      · rw [h.1]; exact desync _ h.2.2.1
    cases hm : s.mask with
    | false => rw [decode_off s p pmag ha (by omega) hm]; exact idle _
    | true =>
      cases hpg : a16 p 2 with
      | none => rw [decode_hdr_bad_pageno s p pmag ha h0 hm hpg]; exact desync _ hm
      | some page =>
        cases hrej : hdrRejected page ((view Kind.hdr p).g16i 2) ((view Kind.hdr p).g16i 4) ((view Kind.hdr p).g16i 6) with
        | true => rw [decode_hdr_rejected s p pmag page ha h0 hm hpg hrej]; exact rejected pmag page _ ha h0 hm hpg hrej rfl
        | false =>
          rw [decode_hdr_accepted s p pmag page ha h0 hm hpg hrej]
          exact accepted pmag page _ _ ha h0 hm hpg hrej rfl rfl

/-- `decode_cases` in the terms the invariants are proved in: `quiet` is every packet but a page header, `header` a page
    header whose page number decodes (termination block, then its slot is opened: `HdrStep`) -/
theorem decode_elim {P : St → List Event → Prop} (s : St) (p : Packet) (hl : s.raw.length = 8)
    (same : P s [])
    (desync : P (desync s) [])
    (quiet : ∀ pmag, a16 p 0 = some pmag → pmag >>> 3 ≠ 0 → Quiet s (decodeTeletext s p).st (pmag &&& 7) →
      Silent (decodeTeletext s p).ev → P (decodeTeletext s p).st (decodeTeletext s p).ev)
    (header : ∀ m page l, m >>> 3 = 0 → a16 p 0 = some m → a16 p 2 = some page → s.mask = true →
      HdrStep (terminatePage s m (mag8Of m * 256 + page) page).1 (decodeTeletext s p).st m (mag8Of m * 256 + page) p →
      (decodeTeletext s p).ev = (terminatePage s m (mag8Of m * 256 + page) page).2 ++ liftAux l →
      P (decodeTeletext s p).st (decodeTeletext s p).ev) :
    P (decodeTeletext s p).st (decodeTeletext s p).ev := by
  have hdr : ∀ pmag page, a16 p 0 = some pmag → pmag >>> 3 = 0 → s.mask = true → a16 p 2 = some page →
      P (decodeTeletext s p).st (decodeTeletext s p).ev := by
    intro pmag page ha h0 hm hpg
    obtain ⟨h7, hlt⟩ := pmag_hdr pmag h0
    rcases decode_header_frame s p pmag ha h0 hm (by rw [h7, hl]; exact hlt) rfl with ⟨hn, _⟩ | ⟨page', hpage, hs, l, hev⟩
    · rw [hpg] at hn; cases hn
    · rw [h7] at hs hev
      exact header pmag page' l h0 ha hpage hm hs hev
  refine decode_cases (P := fun r => r = decodeTeletext s p → P r.st r.ev) s p (fun _ _ => same) (fun _ _ _ => desync)
    (fun pmag ha h0 b _ => quiet pmag ha h0 b.quiet b.silent)
    (fun pmag page _ ha h0 hm hpg _ _ e => e ▸ hdr pmag page ha h0 hm hpg)
    (fun pmag page _ _ ha h0 hm hpg _ _ _ e => e ▸ hdr pmag page ha h0 hm hpg) rfl

end Zvbi.Ttx
