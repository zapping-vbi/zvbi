import ZvbiModel.Ttx.OwnAux
import ZvbiModel.Ttx.Close
/-!
# C02: one transmission with packets of other magazines interleaved (parallel mode)

`IInv` is kept by EVERY packet whose header (if it is one) does not carry C11: a network in parallel mode stays in `IInv`
whatever else it sends (`run_iinv`).  `Item`, `ItemsOk`: what is sent between the header of a page and its terminating
header - rows of the page, its own packets 26..29, benign packets of other magazines, in any order.  `item_step`: what one
of them does; `Ready.items`: the slot collects the rows, the decoder stays in parallel mode.  `open_header`: the header
of the page from an `IInv` state; `init_iinv`: the fresh decoder is in `IInv`.
-/
namespace Zvbi.Ttx
open Zvbi.Hamm Zvbi.Gen Zvbi.Ttx.Spec

theorem step_iinv (s : St) (p : Packet) (hi : IInv s) (hpar : ParHdr p) : IInv (step s p).1 := by
  rw [step_eq_decode s p hi.shape.cd]
  exact decode_iinv (tick s) p hi.tick hpar

theorem run_iinv (ps : List Packet) (s : St) (h : IInv s) (hp : ∀ p ∈ ps, ParHdr p) : IInv (run s ps).1 :=
  run_keeps step_iinv ps s h hp

theorem init_iinv : IInv (init.enable true) := by
  refine ⟨init_shape true, rfl, ?_, ?_⟩
  · have : ∀ c < 8, ((init.enable true).rp c).page.flags &&& C11_MAGAZINE_SERIAL = 0 := by decide +kernel
    exact this
  · exact fun c hc hf => absurd (init_slots_discard true c hc) hf

/-- what is sent between the header of page P (magazine `m`) and its terminating header -/
inductive Item
  /-- a row (packet number `k`) of P -/
  | own (k : Nat) (p : Packet)
  /-- any packet (number `k`) of another magazine `m'` -/
  | foreign (m' k : Nat) (p : Packet)
  /-- a packet of P that is not a row: X/26, X/27, X/28 (not X/28/3), or M/29 of its magazine (`IsAux`) -/
  | ownx (k : Nat) (p : Packet)

def Item.pkt : Item → Packet
  | .own _ p => p
  | .foreign _ _ p => p
  | .ownx _ p => p

/-- the rows of P among the items, in the order sent -/
def ownRows : List Item → List RowPkt
  | [] => []
  | .own k p :: xs => (k, p) :: ownRows xs
  | .foreign _ _ _ :: xs => ownRows xs
  | .ownx _ _ :: xs => ownRows xs

/-- along the run from `s`: own items are rows 1..25 of magazine `m`; foreign items belong to another
    magazine and are `Benign` in the state they arrive in -/
def ItemsOk (m : Nat) : St → List Item → Prop
  | _, [] => True
  | s, .own k p :: xs => (IsPacket p m k ∧ 1 ≤ k ∧ k ≤ 25) ∧ ItemsOk m (step s p).1 xs
  | s, .foreign m' k p :: xs => (m' ≠ m ∧ IsPacket p m' k ∧ Benign s p m' k) ∧ ItemsOk m (step s p).1 xs
  | s, .ownx k p :: xs => (IsPacket p m k ∧ IsAux p k) ∧ ItemsOk m (step s p).1 xs

/-- what `ItemsOk` asks of one item arriving in state `s` -/
def ItemOk (m : Nat) (s : St) : Item → Prop
  | .own k p => IsPacket p m k ∧ 1 ≤ k ∧ k ≤ 25
  | .foreign m' k p => m' ≠ m ∧ IsPacket p m' k ∧ Benign s p m' k
  | .ownx k p => IsPacket p m k ∧ IsAux p k

theorem itemsOk_cons (m : Nat) (s : St) (it : Item) (xs : List Item) :
    ItemsOk m s (it :: xs) ↔ ItemOk m s it ∧ ItemsOk m (step s it.pkt).1 xs := by
  cases it <;> exact Iff.rfl

theorem ownRows_cons (it : Item) (items : List Item) : ownRows (it :: items) = ownRows [it] ++ ownRows items := by
  cases it <;> rfl

theorem ItemOk.rows {m : Nat} {s : St} {it : Item} (h : ItemOk m s it) (hg : ∀ x ∈ ownRows [it], GoodRow (payload x.2)) :
    ∀ r ∈ rowsOf (ownRows [it]), 1 ≤ r.1 ∧ r.1 ≤ 25 ∧ GoodRow r.2 := by
  cases it with
  | own k p =>
    intro r hr
    rw [List.mem_singleton.mp hr]
    exact ⟨h.2.1, h.2.2, hg (k, p) List.mem_cons_self⟩
  | foreign _ _ _ => exact fun _ hr => nomatch hr
  | ownx _ _ => exact fun _ hr => nomatch hr

/-- **what one admissible item does** while slot `m` assembles a text page in a parallel-mode state -/
structure ItemStep (m : Nat) (s s' : St) (ev : List Event) (it : Item) : Prop where
  inv : IInv s'
  cur : (∃ c, s.current = some c) → ∃ c, s'.current = some c
  page : SameText (s.rp m).page (s'.rp m).page
  lr : (s'.rp m).lopRaw = mergeRows (s.rp m).lopRaw (rowsOf (ownRows [it]))
  lp : (s'.rp m).lopPackets = rowBits (s.rp m).lopPackets (rowsOf (ownRows [it]))
  /-- the TTX_PAGE events belong to other magazines -/
  pages : ∀ x ∈ ttxPages ev, x.1 / 256 ≠ mag8Of m
  nosw : Event.chsw ∉ ev

theorem item_step (s : St) (m : Nat) (hm : m < 8) (hi : IInv s) (hfn : (s.rp m).page.function = FN_LOP) (it : Item)
    (hok : ItemOk m s it) : ItemStep m s (step s it.pkt).1 (step s it.pkt).2 it := by
  have hlen : m < s.raw.length := by rw [hi.shape.len]; exact hm
  cases it with
  | own k p =>
    obtain ⟨hp, hk1, hk2⟩ := hok
    show ItemStep m s (step s p).1 (step s p).2 _
    obtain ⟨x, hst, x1, x2, x3⟩ : ∃ x : RawPage, step s p = ((tick s).setRp m x, []) ∧ x.page = (s.rp m).page
        ∧ x.lopRaw = (s.rp m).lopRaw.set k (payload p) ∧ x.lopPackets = (s.rp m).lopPackets ||| (1 <<< k) :=
      ⟨_, step_row s p m k hp ⟨hk1, hk2⟩ hi.shape.cd hi.mask hfn, rfl, rfl, rfl⟩
    rw [hst]
    have hrp : ((tick s).setRp m x).rp m = x := rp_setRp_same (tick s) m x hlen
    refine ⟨hi.tick.quiet (quiet_setRp_page (tick s) m x x1 (by rw [x2]; simp; rfl)), id, ?_, ?_, ?_,
      fun _ hx => (nomatch hx), fun h => (nomatch h)⟩
    · show SameText _ (St.rp _ m).page; rw [hrp, x1]; exact SameText.refl _
    · show (St.rp _ m).lopRaw = _; rw [hrp, x2]; rfl
    · show (St.rp _ m).lopPackets = _; rw [hrp, x3]; rfl
  | foreign m' k p =>
    obtain ⟨hne, hp, hb⟩ := hok
    show ItemStep m s (step s p).1 (step s p).2 _
    obtain ⟨f1, f2, f3, f4⟩ := foreign_step s p m m' k hne hp hi hb
    refine ⟨f1, f4, by rw [f2]; exact SameText.refl _, by rw [f2]; rfl, by rw [f2]; rfl, fun x hx he => ?_, hb.nosw⟩
    obtain ⟨pg, hpg1, hpg2⟩ := f3 x hx
    rw [hpg2] at he
    exact hne (mag8Of_inj m' hp.1 m hm (by omega))
  | ownx k p =>
    obtain ⟨hp, hk⟩ := hok
    show ItemStep m s (step s p).1 (step s p).2 _
    obtain ⟨a1, _, a3, a4⟩ := own_aux_step s p m k hp hk hi.shape.cd hi.mask hfn hlen
    exact ⟨hi.tick.quiet a3, fun ⟨c, hc⟩ => ⟨c, by rw [a3.cur]; exact hc⟩, a1.text, by rw [a1.lr]; rfl, by rw [a1.lp]; rfl,
      fun x hx => (by rw [a4.pages] at hx; cases hx), a4.nochsw⟩

theorem Ready.item {s s' s1 : St} {t : Tx} {hdr : Packet} {rows : List (Nat × List Nat)} {ev : List Event} {it : Item}
    (h : Ready s s1 t hdr rows) (st : ItemStep t.m s s' ev it)
    (hr : ∀ r ∈ rowsOf (ownRows [it]), 1 ≤ r.1 ∧ r.1 ≤ 25 ∧ GoodRow r.2) :
    Ready s' s1 t hdr (rows ++ rowsOf (ownRows [it])) :=
  ⟨h.mag, h.dec, st.inv.shape.len, st.inv.mask, st.inv.shape.cd, st.page.fn.trans h.fn, st.page.pgno.trans h.pg,
    st.page.subno.trans h.sub, st.page.national.trans h.nat, st.page.flags.trans h.flags, st.page.raw.trans h.raw,
    by rw [st.lr, h.lr, mergeRows_append], by rw [st.lp, h.lp, rowBits_append], h.base,
    fun r hr' => (List.mem_append.mp hr').elim (h.rows r) (hr r)⟩

theorem Ready.items {s1 : St} {t : Tx} {hdr : Packet} : ∀ (items : List Item) (s : St) (rows : List (Nat × List Nat)),
    Ready s s1 t hdr rows → IInv s → (∃ c, s.current = some c) → ItemsOk t.m s items →
    (∀ x ∈ ownRows items, GoodRow (payload x.2)) →
      Ready (run s (items.map Item.pkt)).1 s1 t hdr (rows ++ rowsOf (ownRows items))
      ∧ ParallelCur (run s (items.map Item.pkt)).1
      ∧ (∀ x ∈ ttxPages (run s (items.map Item.pkt)).2, x.1 / 256 ≠ mag8Of t.m)
      ∧ Event.chsw ∉ (run s (items.map Item.pkt)).2 := by
  intro items
  induction items with
  | nil =>
    intro s rows h hi ⟨c, hc⟩ _ _
    simp only [List.map_nil, run_nil, ownRows, rowsOf, List.append_nil]
    exact ⟨h, parallelCur_of s hi.shape hi.par c hc, fun x hx => (by cases hx), fun h => (by cases h)⟩
  | cons it items ih =>
    intro s rows h hi hc hok hg
    obtain ⟨hit, hrest⟩ := (itemsOk_cons t.m s it items).mp hok
    rw [ownRows_cons] at hg
    have st := item_step s t.m h.mag hi h.fn it hit
    obtain ⟨r1, r2, r3, r4⟩ := ih _ _ (h.item st (hit.rows fun x hx => hg x (List.mem_append_left _ hx))) st.inv (st.cur hc)
      hrest (fun x hx => hg x (List.mem_append_right _ hx))
    rw [List.map_cons, run_cons, ownRows_cons, rowsOf, List.map_append, ← List.append_assoc]
    refine ⟨r1, r2, fun x hx => ?_, fun hx => (List.mem_append.mp hx).elim st.nosw r4⟩
    rw [ttxPages_append, List.mem_append] at hx
    exact hx.elim (st.pages x) (r3 x)

theorem open_header (s : St) (hs : Shape s) (hmask : s.mask = true) (t : Tx) (hdr : Packet)
    (hh : IsHeader hdr t.m t.page t.s12 t.s34 t.fl) (hdec : decimalPage t.page)
    (htext : TextPage (s1Of s t).net t.pgno t.page (t.prev (s1Of s t))) :
    Opened (step s hdr).1 (s1Of s t) t.m t.pgno t.subpage t.fl (payload hdr)
    ∧ ttxPages (step s hdr).2 = ttxPages (terminatePage (tick s) t.m t.pgno t.page).2
    ∧ ((s1Of s t).rp t.m).lopRaw.length = 26 := by
  have hcl := terminatePage_closed (tick s) t.m t.pgno t.page
  obtain ⟨ho, he, _⟩ := decode_header_text (tick s) hdr t.m t.page t.s12 t.s34 t.fl hh hdec hmask (s1Of s t)
    (terminatePage (tick s) t.m t.pgno t.page).2 rfl ((terminatePage_closed (tick s) t.m t.pgno t.page).len.trans hs.len) htext
  rw [step_eq_decode s hdr hs.cd]
  refine ⟨ho, he, ?_⟩
  show ((terminatePage (tick s) t.m t.pgno t.page).1.rp t.m).lopRaw.length = 26
  rw [(hcl.slots t.m).id.2.2.2.1]; exact (hs.slots t.m hh.mag).1

end Zvbi.Ttx
