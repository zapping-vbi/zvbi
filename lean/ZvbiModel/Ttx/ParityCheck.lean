import ZvbiModel.Ttx.Branches
import ZvbiModel.Ttx.X26Fix
/-!
# `lop_parity_check`: which received rows replace rows of the page

* `mergeRows`, `lastRowFrom`, `rowBits`: the sender-side description of "rows received replace";
* the parity loop: `parityFold_raw` (row `n` of the checked page is the received row iff its bit is set and all its bytes have
  odd parity), `lopParityCheck_eq` (only rows and `lop_packets` change), the parity gate `lopParityCheck_row`;
* `lopParityCheck_merge`: on rows all of whose bytes have odd parity `lop_parity_check` yields exactly `mergeRows` of the
  page's rows (the X/26 column fix-ups are the identity on such rows: `fixLive_good`, a reading of `fixLive_cells`).
-/
namespace Zvbi.Ttx
open Zvbi.Hamm Zvbi.Gen Zvbi.Ttx.Spec

/-- rows received replace the rows of `base`, in the order received (a row sent twice: the later
    one wins); rows never received keep the content of `base` -/
def mergeRows (base : List (List Nat)) (rows : List (Nat × List Nat)) : List (List Nat) :=
  rows.foldl (fun acc r => acc.set r.1 r.2) base

/-- the last row numbered `n` among `rows` (starting from `init`) -/
def lastRowFrom (init : Option (List Nat)) (rows : List (Nat × List Nat)) (n : Nat) : Option (List Nat) :=
  rows.foldl (fun a r => if r.1 = n then some r.2 else a) init

theorem mergeRows_length (base : List (List Nat)) (rows : List (Nat × List Nat)) :
    (mergeRows base rows).length = base.length := by
  unfold mergeRows
  induction rows generalizing base with
  | nil => rfl
  | cons r rows ih => simp only [List.foldl_cons]; rw [ih]; simp

theorem mergeRows_getElem? (rows : List (Nat × List Nat)) (n : Nat) : ∀ (base : List (List Nat)),
    (mergeRows base rows)[n]? = if n < base.length then lastRowFrom base[n]? rows n else none := by
  unfold mergeRows lastRowFrom
  induction rows with
  | nil => intro base; by_cases h : n < base.length <;> simp [h]
  | cons r rows ih =>
    intro base
    simp only [List.foldl_cons]
    rw [ih (base.set r.1 r.2)]
    simp only [List.length_set, List.getElem?_set]
    by_cases hn : n < base.length
    · simp only [hn, if_true]
      by_cases e : r.1 = n
      · simp [e, hn]
      · simp [e]
    · simp [hn]

theorem lastRowFrom_isSome (rows : List (Nat × List Nat)) (n : Nat) (init : Option (List Nat)) :
    (lastRowFrom init rows n).isSome = (init.isSome || rows.any (fun r => r.1 == n)) := by
  unfold lastRowFrom
  induction rows generalizing init with
  | nil => simp
  | cons r rows ih =>
    simp only [List.foldl_cons, List.any_cons]
    rw [ih]
    by_cases e : r.1 = n
    · simp [e]
    · have : (r.1 == n) = false := by simpa using e
      simp [e, this]

theorem lastRowFrom_indep (rows : List (Nat × List Nat)) (n : Nat) (a b : Option (List Nat))
    (h : rows.any (fun r => r.1 == n) = true) : lastRowFrom a rows n = lastRowFrom b rows n := by
  unfold lastRowFrom
  induction rows generalizing a b with
  | nil => simp at h
  | cons r rows ih =>
    simp only [List.foldl_cons]
    by_cases e : r.1 = n
    · simp only [e, if_true]
    · simp only [e, if_false]
      apply ih
      simpa [e] using h

theorem lastRowFrom_absent (rows : List (Nat × List Nat)) (n : Nat) (a : Option (List Nat))
    (h : rows.any (fun r => r.1 == n) = false) : lastRowFrom a rows n = a := by
  unfold lastRowFrom
  induction rows generalizing a with
  | nil => rfl
  | cons r rows ih =>
    simp only [List.foldl_cons]
    have : ¬ r.1 = n := by intro e; simp [e] at h
    simp only [this, if_false]
    apply ih
    simpa [this] using h

theorem lastRowFrom_mem (rows : List (Nat × List Nat)) (n : Nat) (a : Option (List Nat)) (x : List Nat)
    (h : lastRowFrom a rows n = some x) : a = some x ∨ (n, x) ∈ rows := by
  unfold lastRowFrom at h
  induction rows generalizing a with
  | nil => left; exact h
  | cons r rows ih =>
    simp only [List.foldl_cons] at h
    rcases ih _ h with h1 | h1
    · by_cases e : r.1 = n
      · simp only [e, if_true] at h1
        right; rw [← e]; simp at h1; rw [← h1]; simp
      · simp only [e, if_false] at h1
        left; exact h1
    · right; exact List.mem_cons_of_mem _ h1

theorem lastRowFrom_received (rows : List (Nat × List Nat)) (n : Nat) (a : Option (List Nat))
    (h : rows.any (fun r => r.1 == n) = true) : ∃ x, lastRowFrom a rows n = some x ∧ (n, x) ∈ rows := by
  have hsome : (lastRowFrom a rows n).isSome = true := by rw [lastRowFrom_isSome, h]; simp
  obtain ⟨x, hx⟩ := Option.isSome_iff_exists.mp hsome
  refine ⟨x, hx, ?_⟩
  rw [lastRowFrom_indep rows n a none h] at hx
  exact (lastRowFrom_mem rows n none x hx).resolve_left fun h' => nomatch h'

/-- the `lop_packets` bits of the rows received -/
def rowBits (lp : Nat) (rows : List (Nat × List Nat)) : Nat :=
  rows.foldl (fun a r => a ||| (1 <<< r.1)) lp

theorem bit_test (x n : Nat) : (x &&& (1 <<< n) == 0) = !x.testBit n := by
  rw [Nat.one_shiftLeft, Bool.eq_iff_iff, beq_iff_eq, Bits.and_two_pow_eq_zero, Bool.not_eq_true']

theorem rowBits_testBit (rows : List (Nat × List Nat)) (n : Nat) : ∀ lp,
    (rowBits lp rows).testBit n = (lp.testBit n || rows.any (fun r => r.1 == n)) := by
  unfold rowBits
  induction rows with
  | nil => intro lp; simp
  | cons r rows ih =>
    intro lp
    simp only [List.foldl_cons, List.any_cons]
    rw [ih, Nat.testBit_or, Nat.one_shiftLeft, Nat.testBit_two_pow]
    by_cases e : r.1 = n
    · simp [e]
    · have : (r.1 == n) = false := by simpa using e
      simp [e, this]

/-- a received row: 40 bytes, all with odd parity -/
def GoodRow (row : List Nat) : Prop := ∀ b ∈ row, b < 256 ∧ oddPar b = true

theorem GoodRow.all {row : List Nat} (h : GoodRow row) : row.all oddPar = true := by
  rw [List.all_eq_true]; exact fun b hb => (h b hb).2

theorem par8_of_odd (b : Nat) (h1 : b < 256) (h2 : oddPar b = true) : par8 b = b := by
  unfold par8
  simp only [Nat.mod_eq_of_lt h1, h2, if_true]

theorem getD_of_lt {α : Type} (l : List α) (d : α) {n : Nat} (h : n < l.length) : l.getD n d = l[n] := by
  rw [List.getD_eq_getElem?_getD, List.getElem?_eq_getElem h]; rfl

/-- what the X/26 fix-ups keep: the number of rows, and every row all of whose bytes have odd parity -/
def FixInv (L lr : List (List Nat)) : Prop :=
  lr.length = L.length ∧ ∀ n, GoodRow (L.getD n zeroRow) → lr[n]? = L[n]?

/-- the walk of `lop_parity_check` forces odd parity at the addressed cells (`fixLive_cells`): a byte that has it is
    not changed -/
theorem fixLive_good (ts : List Triplet) (row : Nat) (lr : List (List Nat)) : FixInv lr (fixLive row lr ts).2 := by
  obtain ⟨hlen, hrow⟩ := fixLive_shape ts row lr
  refine ⟨hlen, fun n hg => ?_⟩
  by_cases hn : n < lr.length
  case neg => rw [List.getElem?_eq_none (by omega), List.getElem?_eq_none (by omega)]
  have e1 : lr.getD n zeroRow = lr[n] := getD_of_lt _ _ hn
  have e2 : (fixLive row lr ts).2.getD n zeroRow = (fixLive row lr ts).2[n]'(by omega) := getD_of_lt _ _ (by omega)
  rw [List.getElem?_eq_getElem hn, List.getElem?_eq_getElem (by omega), ← e1, ← e2]
  congr 1
  refine List.ext_getElem (hrow n) fun c hc1 hc2 => ?_
  have hcell := fixLive_cells ts row lr n c hn hc2
  have hb := hg _ (List.getElem_mem hc2)
  have e3 : cellAt lr n c = (lr.getD n zeroRow)[c] := getD_of_lt _ 0 hc2
  have e4 : cellAt (fixLive row lr ts).2 n c = ((fixLive row lr ts).2.getD n zeroRow)[c] := getD_of_lt _ 0 hc1
  rw [← e3, ← e4]
  by_cases ha : AddrFrom row ts n c
  · rw [hcell.1 ha, e3, par8_of_odd _ hb.1 hb.2]
  · exact hcell.2 ha

theorem lopParityCheck_fix (cv : Page) (rv : RawPage) :
    FixInv rv.lopRaw (lopParityCheck cv rv).2.lopRaw := by
  rw [lopParityCheck_lopRaw]
  split
  · rw [x26Fix_eq_fixLive]
    exact fixLive_good ..
  · exact ⟨rfl, fun _ _ => rfl⟩

theorem parityRow_eq (lr : List (List Nat)) (lp : Nat) (cv : Page) (k : Nat) :
    ∃ R L, parityRow lr lp cv k = { cv with raw := R, lopPackets := L } ∧ R.length = cv.raw.length := by
  unfold parityRow; simp only []
  split
  · exact ⟨_, _, rfl, rfl⟩
  split
  · exact ⟨_, _, rfl, List.length_set ..⟩
  · exact ⟨_, _, rfl, rfl⟩

theorem parityRow_length (lr : List (List Nat)) (lp : Nat) (cv : Page) (k : Nat) :
    (parityRow lr lp cv k).raw.length = cv.raw.length := by
  obtain ⟨R, L, e, h⟩ := parityRow_eq lr lp cv k
  rw [e]; exact h

theorem parityRow_raw (lr : List (List Nat)) (lp : Nat) (cv : Page) (k n : Nat) :
    (parityRow lr lp cv k).raw[n]? =
      if n = k + 1 ∧ lp.testBit n = true ∧ (lr.getD n zeroRow).all oddPar = true ∧ n < cv.raw.length
      then some (lr.getD n zeroRow) else cv.raw[n]? := by
  unfold parityRow
  simp only [bit_test]
  cases hb : lp.testBit (k + 1) <;> cases ho : (lr.getD (k + 1) zeroRow).all oddPar <;>
    simp only [Bool.not_true, Bool.not_false, Bool.false_eq_true, if_false, if_true]
  · rw [if_neg]; rintro ⟨e, h, -⟩; subst e; rw [hb] at h; cases h
  · rw [if_neg]; rintro ⟨e, h, -⟩; subst e; rw [hb] at h; cases h
  · rw [if_neg]; rintro ⟨e, -, h, -⟩; subst e; rw [ho] at h; cases h
  · by_cases e : n = k + 1
    · subst e
      by_cases hl : k + 1 < cv.raw.length
      · rw [if_pos ⟨rfl, hb, ho, hl⟩]; simp [hl]
      · rw [if_neg (fun h => hl h.2.2.2)]
        have : cv.raw[k + 1]? = none := by simp; omega
        simp [hl]
    · rw [if_neg (fun h => e h.1)]
      have : ¬ k + 1 = n := fun h => e h.symm
      simp [this]

theorem parityFold_eq (lr : List (List Nat)) (lp : Nat) (ks : List Nat) (cv : Page) :
    ∃ R L, ks.foldl (parityRow lr lp) cv = { cv with raw := R, lopPackets := L } ∧ R.length = cv.raw.length := by
  refine List.foldlRecOn ks _ (motive := fun x : Page => ∃ R L, x = { cv with raw := R, lopPackets := L } ∧
    R.length = cv.raw.length) ⟨_, _, rfl, rfl⟩ fun x h k _ => ?_
  obtain ⟨R, L, rfl, hR⟩ := h
  obtain ⟨R', L', e, hR'⟩ := parityRow_eq lr lp { cv with raw := R, lopPackets := L } k
  exact ⟨R', L', e, hR'.trans hR⟩

theorem parityFold_fields (lr : List (List Nat)) (lp : Nat) (ks : List Nat) (cv : Page) :
    (ks.foldl (parityRow lr lp) cv).function = cv.function ∧ (ks.foldl (parityRow lr lp) cv).pgno = cv.pgno
    ∧ (ks.foldl (parityRow lr lp) cv).subno = cv.subno ∧ (ks.foldl (parityRow lr lp) cv).flags = cv.flags
    ∧ (ks.foldl (parityRow lr lp) cv).national = cv.national
    ∧ (ks.foldl (parityRow lr lp) cv).raw.length = cv.raw.length := by
  obtain ⟨R, L, e, h⟩ := parityFold_eq lr lp ks cv
  rw [e]; exact ⟨rfl, rfl, rfl, rfl, rfl, h⟩

theorem parityFold_raw (lr : List (List Nat)) (lp : Nat) (n : Nat) (ks : List Nat) : ∀ (cv : Page),
    (ks.foldl (parityRow lr lp) cv).raw[n]? =
      if (1 ≤ n ∧ n - 1 ∈ ks) ∧ lp.testBit n = true ∧ (lr.getD n zeroRow).all oddPar = true ∧ n < cv.raw.length
      then some (lr.getD n zeroRow) else cv.raw[n]? := by
  induction ks with
  | nil => intro cv; simp
  | cons k ks ih =>
    intro cv
    simp only [List.foldl_cons]
    rw [ih, parityRow_raw, parityRow_length]
    by_cases hB : lp.testBit n = true ∧ (lr.getD n zeroRow).all oddPar = true ∧ n < cv.raw.length
    · obtain ⟨b1, b2, b3⟩ := hB
      simp only [b1, b2, b3, and_true, List.mem_cons]
      by_cases e : n = k + 1
      · subst e; simp
      · by_cases hn1 : 1 ≤ n
        · have : ¬ n - 1 = k := by omega
          simp [e, this]
        · simp [e, hn1]
    · have h1 : ¬ ((1 ≤ n ∧ n - 1 ∈ ks) ∧ lp.testBit n = true ∧ (lr.getD n zeroRow).all oddPar = true ∧ n < cv.raw.length) :=
        fun h => hB h.2
      have h2 : ¬ (n = k + 1 ∧ lp.testBit n = true ∧ (lr.getD n zeroRow).all oddPar = true ∧ n < cv.raw.length) :=
        fun h => hB h.2
      have h3 : ¬ ((1 ≤ n ∧ n - 1 ∈ k :: ks) ∧ lp.testBit n = true ∧ (lr.getD n zeroRow).all oddPar = true ∧ n < cv.raw.length) :=
        fun h => hB h.2
      rw [if_neg h1, if_neg h2, if_neg h3]

theorem lopParityCheck_fst (cv : Page) (rv : RawPage) :
    (lopParityCheck cv rv).1 =
      (List.range 25).foldl (parityRow (lopParityCheck cv rv).2.lopRaw rv.lopPackets) cv := by
  unfold lopParityCheck
  rfl

theorem lopParityCheck_eq (cv : Page) (rv : RawPage) :
    ∃ R L LR, lopParityCheck cv rv = ({ cv with raw := R, lopPackets := L }, { rv with lopRaw := LR })
      ∧ R.length = cv.raw.length ∧ LR.length = rv.lopRaw.length := by
  obtain ⟨R, L, e, h⟩ := parityFold_eq (lopParityCheck cv rv).2.lopRaw rv.lopPackets (List.range 25) cv
  exact ⟨R, L, _, Prod.ext ((lopParityCheck_fst cv rv).trans e) rfl, h, (lopParityCheck_fix cv rv).1⟩

theorem lopParityCheck_keys (cv : Page) (rv : RawPage) :
    (lopParityCheck cv rv).1.pgno = cv.pgno ∧ (lopParityCheck cv rv).1.subno = cv.subno
    ∧ (lopParityCheck cv rv).1.function = cv.function := by
  obtain ⟨R, L, LR, e, _⟩ := lopParityCheck_eq cv rv
  rw [e]; exact ⟨rfl, rfl, rfl⟩

/-- **parity gate** on `lop_parity_check`: every row of the page that goes to the cache is the row
    the page had before, or (rows 1..25 only) the received row after the X/26 column fix-ups, and
    then all 40 bytes of it have odd parity -/
theorem lopParityCheck_row (cv : Page) (rv : RawPage) (n : Nat) :
    (lopParityCheck cv rv).1.raw.getD n zeroRow = cv.raw.getD n zeroRow ∨
    (1 ≤ n ∧ n ≤ 25 ∧ (lopParityCheck cv rv).1.raw.getD n zeroRow = (lopParityCheck cv rv).2.lopRaw.getD n zeroRow
      ∧ ((lopParityCheck cv rv).2.lopRaw.getD n zeroRow).all oddPar = true) := by
  have h := parityFold_raw (lopParityCheck cv rv).2.lopRaw rv.lopPackets n (List.range 25) cv
  rw [← lopParityCheck_fst] at h
  simp only [List.getD_eq_getElem?_getD, h]
  split
  · rename_i hc
    exact .inr ⟨hc.1.1, by have := List.mem_range.mp hc.1.2; omega, rfl, by simpa [List.getD_eq_getElem?_getD] using hc.2.2.1⟩
  · exact .inl rfl

/-- `lop_parity_check` on rows received with odd parity: the received rows replace the
    rows of the page, all other rows and the identity of the page stay -/
theorem lopParityCheck_merge (cv : Page) (rv : RawPage) (L0 : List (List Nat)) (rows : List (Nat × List Nat))
    (hL : rv.lopRaw = mergeRows L0 rows) (hL0 : L0.length = 26) (hlp : rv.lopPackets = rowBits 0 rows)
    (hrows : ∀ r ∈ rows, 1 ≤ r.1 ∧ r.1 ≤ 25 ∧ GoodRow r.2) :
    (lopParityCheck cv rv).1.raw = mergeRows cv.raw rows
    ∧ (lopParityCheck cv rv).1.function = cv.function ∧ (lopParityCheck cv rv).1.pgno = cv.pgno
    ∧ (lopParityCheck cv rv).1.subno = cv.subno ∧ (lopParityCheck cv rv).1.flags = cv.flags
    ∧ (lopParityCheck cv rv).1.national = cv.national := by
  rw [lopParityCheck_fst]
  have hfix := lopParityCheck_fix cv rv
  generalize (lopParityCheck cv rv).2.lopRaw = lr at hfix
  obtain ⟨f1, f2, f3, f4, f5, f6⟩ := parityFold_fields lr rv.lopPackets (List.range 25) cv
  refine ⟨?_, f1, f2, f3, f4, f5⟩
  apply List.ext_getElem?
  intro n
  rw [parityFold_raw, mergeRows_getElem?, hlp, rowBits_testBit, Nat.zero_testBit, Bool.false_or]
  cases hany : rows.any (fun r => r.1 == n)
  · -- row n not received
    rw [lastRowFrom_absent _ _ _ hany]
    simp only [Bool.false_eq_true, false_and, and_false, if_false]
    by_cases hl : n < cv.raw.length
    · simp [hl]
    · have : cv.raw[n]? = none := by simp; omega
      simp [hl]
  · -- row n received: the assembled row is the last one sent, it is good, the fix-ups kept it
    obtain ⟨x, hx, hmem⟩ := lastRowFrom_received rows n (L0[n]?) hany
    obtain ⟨r1, r2, rg⟩ := hrows _ hmem
    simp only [] at r1 r2 rg
    have hLn : rv.lopRaw[n]? = some x := by
      rw [hL, mergeRows_getElem?, hL0, if_pos (by omega)]; exact hx
    have hgetD : rv.lopRaw.getD n zeroRow = x := by simp [List.getD_eq_getElem?_getD, hLn]
    have hlr : lr[n]? = some x := by rw [hfix.2 n (by rw [hgetD]; exact rg)]; exact hLn
    have hlrD : lr.getD n zeroRow = x := by simp [List.getD_eq_getElem?_getD, hlr]
    rw [hlrD, rg.all]
    have hmemr : n - 1 ∈ List.range 25 := by rw [List.mem_range]; omega
    simp only [r1, hmemr, and_self, true_and]
    by_cases hl : n < cv.raw.length
    · simp only [hl, if_true]
      rw [lastRowFrom_indep rows n (cv.raw[n]?) (L0[n]?) hany, hx]
    · simp [hl]

end Zvbi.Ttx

namespace Zvbi.Props.C02Roundtrip

/-- where every received row number shows one of its packets, a row number `r` that was sent once, with 40 bytes `b`, shows `b`
    in every column (read by the witnesses of the C02 cycle theorems) -/
theorem shown_replicate {raw : Nat → Nat} {rows : List (Nat × List Nat)} (r b : Nat)
    (h : ∀ x ∈ rows, ∃ x' ∈ rows, x'.1 = x.1 ∧ ∀ c, c < 40 → raw (40 * x.1 + c) = x'.2.getD c 0)
    (hmem : (r, List.replicate 40 b) ∈ rows) (hone : ∀ x ∈ rows, x.1 = r → x = (r, List.replicate 40 b)) :
    ∀ c, c < 40 → raw (40 * r + c) = b := by
  intro c hc
  obtain ⟨x', hx', e1, e2⟩ := h _ hmem
  rw [e2 c hc, hone x' hx' e1, List.getD_eq_getElem?_getD, List.getElem?_replicate, if_pos hc]
  rfl

end Zvbi.Props.C02Roundtrip
