import ZvbiModel.Ttx.SerialCycle
import ZvbiModel.Ttx.CycleDec
/-!
# C02, magazine-serial cycles: decidable forms of the sender conditions (`GoodS`, `SSegOk`), used to discharge
the hypotheses of the serial cycle theorem on concrete packets (non-vacuity examples)
-/
namespace Zvbi.Ttx
open Zvbi.Hamm Zvbi.Gen Zvbi.Ttx.Spec

def goodSB (tmpl : List Nat) (off : Nat) (p : Packet) : Bool :=
  match a16 p 0 with
  | none => true
  | some pmag =>
    pmag >>> 3 != 0 ||
    (match a16 p 2 with
      | none => true
      | some page =>
        hdrOkB tmpl off ((if (pmag &&& 7) == 0 then 8 else pmag &&& 7) * 256 + page) (payload p)
        && ((decide (page ≤ 0x99) && decide (page &&& 15 ≤ 9)) || page == 0xFF))

theorem goodS_of_dec (tmpl : List Nat) (off : Nat) (p : Packet) (h : goodSB tmpl off p = true) : GoodS tmpl off p := by
  unfold goodSB at h
  refine ⟨?_, ?_⟩
  · intro pmag page ha h0 hp
    rw [ha] at h
    simp only [h0, bne_self_eq_false, Bool.false_or, hp, Bool.and_eq_true] at h
    exact hdrOk_of_dec _ _ _ _ h.1
  · intro pmag page ha h0 hp
    rw [ha] at h
    simp only [h0, bne_self_eq_false, Bool.false_or, hp, Bool.and_eq_true, Bool.or_eq_true, decide_eq_true_eq,
      beq_iff_eq] at h
    exact h.2

def rowB (m : Nat) (r : RowPkt) : Bool :=
  decide (m < 8) && decide (r.1 < 32) && (a16 r.2 0 == some (m + 8 * r.1)) && decide (1 ≤ r.1) && decide (r.1 ≤ 25)
    && (payload r.2).all (fun b => decide (b < 256) && oddPar b)

def ssegOkB (tmpl : List Nat) (off : Nat) (x : STx) : Bool :=
  decide (x.1.m < 8) && (a16 x.2.1 0 == some x.1.m) && (a16 x.2.1 2 == some x.1.page)
  && (a16 x.2.1 4 == some x.1.s12) && (a16 x.2.1 6 == some x.1.s34) && (a16 x.2.1 8 == some x.1.fl)
  && decide (x.1.page ≤ 0x99) && decide (x.1.page &&& 15 ≤ 9) && (x.1.fl &&& 0x10 == 0x10) && goodSB tmpl off x.2.1
  && x.2.2.all (rowB x.1.m)

theorem ssegOk_of_dec (tmpl : List Nat) (off : Nat) (x : STx) (h : ssegOkB tmpl off x = true) : SSegOk tmpl off x := by
  simp only [ssegOkB, Bool.and_eq_true, decide_eq_true_eq, beq_iff_eq, List.all_eq_true, and_assoc] at h
  obtain ⟨h1, h2, h3, h4, h5, h6, h7, h8, h9, h10, h11⟩ := h
  exact ⟨⟨h1, h2, h3, h4, h5, h6⟩, ⟨h7, h8⟩, h9, (goodS_of_dec _ _ _ h10).1,
    fun r hr => itemPlain_of_dec x.1.m (.own r.1 r.2) (h11 r hr)⟩

end Zvbi.Ttx
