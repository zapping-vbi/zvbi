import ZvbiModel.Ttx.FlipInvisible
/-!
# C03: the fields of a page header as `vbi_decode_teletext` reads them

`hdrKey_iff`: the decoded header fields in words.  The headers with uncorrectable fields as equations
(`decode_hdr_bad_pageno`, `decode_hdr_rejected` with the state `hdrAbandon`; the accepted header is `decode_hdr_accepted` in
Ttx/HeaderAccepted.lean).  `ViewOk`: what the Hamming accessors of a view return are nibbles (`view_ok`, `view_g16i_le`).
-/
namespace Zvbi.Ttx
open Zvbi.Hamm Zvbi.Gen Zvbi.Ttx.Spec

theorem view_g8 (k : Kind) (p : Packet) (r : Nat) (hr : r < 40) :
    (view k p).g8 r = if k.isH8 r then a8 p (2 + r) else none := by
  unfold View.g8 view
  simp [List.getD_eq_getElem?_getD, hr]

theorem view_hdr_g8 (p : Packet) (r : Nat) (hr : r < 8) : (view Kind.hdr p).g8 r = a8 p (2 + r) := by
  rw [view_g8 _ p r (by omega), if_pos (by simp [Kind.isH8]; omega)]

theorem view_trip_g8_0 (p : Packet) : (view Kind.trip p).g8 0 = a8 p 2 := rfl

theorem view_x27a_g8_0 (p : Packet) : (view Kind.x27a p).g8 0 = a8 p 2 := rfl

theorem view_hdr_g16 (p : Packet) (r : Nat) (hr : r + 1 < 8) : (view Kind.hdr p).g16 r = a16 p (2 + r) := by
  unfold View.g16
  rw [view_hdr_g8 p r (by omega), view_hdr_g8 p (r + 1) hr]
  unfold a16 a8 unham16p
  rw [show 2 + (r + 1) = 2 + r + 1 by omega]
  cases unham8 (byte p (2 + r)) <;> cases unham8 (byte p (2 + r + 1)) <;> rfl

/-- the state a rejected header leaves behind: the page in progress (if any) was terminated, the
    magazine's assembly page got the new page number and is discarded -/
def hdrAbandon (s1 : St) (mag0 pgno : Nat) : St :=
  let cv := { (s1.rp mag0).page with pgno := pgno }
  let s2 := { s1.setPage mag0 cv with current := some mag0 }
  s2.setPage mag0 { cv with function := FN_DISCARD }

theorem hdrAbandon_rp (t : St) (m pgno : Nat) (hl : m < t.raw.length) :
    (hdrAbandon t m pgno).rp m = { t.rp m with page := { (t.rp m).page with pgno := pgno, function := FN_DISCARD } } := by
  unfold hdrAbandon
  simp only []
  rw [rp_setPage_same _ _ _ (by show _ < (t.setPage _ _).raw.length; rw [setPage_length]; exact hl)]
  have : ({ t.setPage m { (t.rp m).page with pgno := pgno } with current := some m } : St).rp m
      = { t.rp m with page := { (t.rp m).page with pgno := pgno } } := rp_setPage_same t _ _ hl
  rw [this]

theorem hdrAbandon_other (t : St) (m c pgno : Nat) (hc : c ≠ m) : (hdrAbandon t m pgno).rp c = t.rp c := by
  unfold hdrAbandon
  rw [rp_setPage_other _ _ c _ hc]
  exact rp_setPage_other t _ c _ hc

theorem hdrAbandon_length (t : St) (m pgno : Nat) : (hdrAbandon t m pgno).raw.length = t.raw.length := by
  unfold hdrAbandon
  rw [setPage_length]
  exact setPage_length ..

/-- `hdrKey` in words: the address is that of a packet 0, the page number pair decodes, and sub-code and control bits
    are not refused -/
theorem hdrKey_iff (p : Packet) (m pg sub : Nat) :
    hdrKey p = some (m, pg, sub) ↔
      ∃ pmag page, a16 p 0 = some pmag ∧ pmag >>> 3 = 0 ∧ a16 p 2 = some page ∧
        hdrRejected page ((view Kind.hdr p).g16i 2) ((view Kind.hdr p).g16i 4) ((view Kind.hdr p).g16i 6) = false ∧
        m = pmag &&& 7 ∧ pg = (if (pmag &&& 7) == 0 then 8 else pmag &&& 7) * 256 + page ∧
        sub = ((view Kind.hdr p).g16i 2 + (view Kind.hdr p).g16i 4 * 256).toNat &&& 0x3F7F := by
  unfold hdrKey
  simp only []
  rw [view_hdr_g16 p 0 (by omega)]
  cases ha : a16 p 0 with
  | none => simp
  | some pmag =>
    cases hpg : a16 p 2 with
    | none => simp
    | some page =>
      by_cases h0 : pmag >>> 3 = 0
      · cases hrej : hdrRejected page ((view Kind.hdr p).g16i 2) ((view Kind.hdr p).g16i 4) ((view Kind.hdr p).g16i 6) with
        | true => simp [h0, hrej]
        | false =>
          simp only [h0, hrej, bne_self_eq_false, Bool.false_eq_true, if_false, Option.some.injEq, Prod.mk.injEq]
          constructor
          · rintro ⟨rfl, rfl, rfl⟩; exact ⟨pmag, page, rfl, h0, rfl, hrej, rfl, rfl, rfl⟩
          · rintro ⟨_, _, h1, _, h2, _, rfl, rfl, rfl⟩
            cases h1; cases h2; exact ⟨rfl, rfl, rfl⟩
      · simp [h0]

/-- header whose page number pair is uncorrectable: `vbi_teletext_desync`, nothing else -/
theorem decode_hdr_bad_pageno (s : St) (p : Packet) (pmag : Nat) (ha : a16 p 0 = some pmag)
    (h0 : pmag >>> 3 = 0) (hm : s.mask = true) (hpg : a16 p 2 = none) :
    decodeTeletext s p = ⟨desync s, [], false⟩ := by
  have hv : (view Kind.hdr p).g16 0 = none := by rw [view_hdr_g16 p 0 (by omega)]; exact hpg
  rw [decode_hdr s p pmag ha h0 hm]
  unfold processHeader
  rw [hv]
  rfl

/-- header whose page number decodes but whose subcode / control bits are refused -/
theorem decode_hdr_rejected (s : St) (p : Packet) (pmag page : Nat) (ha : a16 p 0 = some pmag)
    (h0 : pmag >>> 3 = 0) (hm : s.mask = true) (hpg : a16 p 2 = some page)
    (hrej : hdrRejected page ((view Kind.hdr p).g16i 2) ((view Kind.hdr p).g16i 4) ((view Kind.hdr p).g16i 6) = true) :
    decodeTeletext s p =
      let mag0 := pmag &&& 7
      let pgno := (if mag0 == 0 then 8 else mag0) * 256 + page
      let t := terminatePage s mag0 pgno page
      ⟨hdrAbandon t.1 mag0 pgno, t.2, false⟩ := by
  have hv : (view Kind.hdr p).g16 0 = some page := by rw [view_hdr_g16 p 0 (by omega)]; exact hpg
  rw [decode_hdr s p pmag ha h0 hm]
  unfold processHeader
  rw [hv]
  simp only [hrej]
  rfl


/-- decoded nibbles of a view are nibbles -/
def ViewOk (v : View) : Prop := ∀ i x, v.g8 i = some x → x < 16

theorem view_ok (k : Kind) (p : Packet) : ViewOk (view k p) := by
  intro i x h
  unfold View.g8 view at h
  simp only [List.getD_eq_getElem?_getD, List.getElem?_map] at h
  by_cases hi : i < 40
  · simp [hi] at h
    obtain ⟨_, h⟩ := h
    exact unham8_lt16 _ x h
  · simp [hi] at h

theorem nibble_pair_lt {a b : Nat} (ha : a < 16) (hb : b < 16) : a ||| b <<< 4 < 256 :=
  Nat.or_lt_two_pow (n := 8) (by omega) (by rw [Nat.shiftLeft_eq]; omega)

/-- the C `int` of `vbi_unham16p` is at most 255 -/
theorem view_g16i_le (k : Kind) (p : Packet) (r : Nat) : (view k p).g16i r ≤ 255 := by
  unfold View.g16i
  cases h1 : (view k p).g8 r with
  | none => simp
  | some a =>
    have ha := view_ok k p r a h1
    cases h2 : (view k p).g8 (r + 1) with
    | none => simp only []; omega
    | some b =>
      have := nibble_pair_lt ha (view_ok k p (r + 1) b h2)
      simp only []
      omega

theorem ne_of_beq_false {a b : Int} (h : ¬ (a == b) = true) : a ≠ b := by
  intro e; apply h; simp [e]

end Zvbi.Ttx
