import ZvbiModel.Ttx.HeaderPage
/-!
# The CONTENT of the enhancement array over a page transmission

`x26Triplets_frame` (Ttx/X26Place.lean) says where packet 26 may write (the frame).  This
file says WHAT stands there: `x26Triplets` appends the decoded triplets of the packet up to its first
uncorrectable one (`x26Payload`), and over a sequence of rows and X/26 packets of one magazine the
enhancement array of the page under assembly is

    (payloads of the accepted X/26 packets since the header, in order) ++ (rest of the array the header left)

where "accepted" is decided by the little machine `x26Spec` on (triplets so far, fill level): designation
`d` is accepted iff the fill level is exactly `13 d` (< 208).
-/
namespace Zvbi.Ttx
open Zvbi.Hamm Zvbi.Gen Zvbi.Ttx.Spec

/-- `triplet.address = t & 0x3F; .mode = (t >> 6) & 0x1F; .data = t >> 11` (18 data bits) -/
def tripOf (t : Nat) : Triplet := ⟨t &&& 0x3F, (t >>> 6) &&& 0x1F, (t >>> 11) &&& 0xFF⟩

/-- decoded triplets up to the first uncorrectable one (the `break` of the packet 26 loop) -/
def goodPrefix : List (Option Nat) → List Triplet
  | some t :: r => tripOf t :: goodPrefix r
  | _ => []

/-- what one X/26 packet contributes: its 13 Hamming 24/18 triplets, cut at the first uncorrectable one -/
def x26Payload (v : View) : List Triplet := goodPrefix ((List.range 13).map v.g24)

/-- SPEC of the X/26 bookkeeping of one page transmission on (triplets so far, `num_triplets`):
    designation uncorrectable: nothing; fill level not `13 d` (or array full): the packet is dropped and the
    level becomes -1 (so every later X/26 packet is dropped too); else the payload is appended. -/
def x26Spec (acc : List Triplet × Int) (v : View) : List Triplet × Int :=
  match v.g8 0 with
  | none => acc
  | some d =>
    if acc.2 ≥ 16 * 13 || acc.2 != ((d * 13 : Nat) : Int) then (acc.1, -1)
    else (acc.1 ++ x26Payload v, ((d * 13 + (x26Payload v).length : Nat) : Int))

theorem goodPrefix_length_le (l : List (Option Nat)) : (goodPrefix l).length ≤ l.length := by
  induction l with
  | nil => simp [goodPrefix]
  | cons a l ih => cases a <;> simp [goodPrefix]; omega

theorem x26Payload_length_le (v : View) : (x26Payload v).length ≤ 13 := by
  have := goodPrefix_length_le ((List.range 13).map v.g24)
  simpa [x26Payload] using this

theorem goodPrefix_address (l : List (Option Nat)) : ∀ t ∈ goodPrefix l, t.address ≤ 63 := by
  induction l with
  | nil => intro t h; simp [goodPrefix] at h
  | cons a l ih =>
    cases a with
    | none => intro t h; simp [goodPrefix] at h
    | some x =>
      intro t h
      simp only [goodPrefix, List.mem_cons] at h
      rcases h with rfl | h
      · show x &&& 0x3F ≤ 63
        exact Nat.and_le_right
      · exact ih t h

theorem x26Payload_address (v : View) : ∀ t ∈ x26Payload v, t.address ≤ 63 := goodPrefix_address _

/-- all thirteen triplets correctable: the payload is all thirteen -/
theorem goodPrefix_all (l : List (Option Nat)) (h : ∀ o ∈ l, o.isSome = true) : (goodPrefix l).length = l.length := by
  induction l with
  | nil => rfl
  | cons a l ih =>
    cases a with
    | none => have := h none (List.mem_cons_self); simp at this
    | some x => simp only [goodPrefix, List.length_cons]; rw [ih (fun o ho => h o (List.mem_cons_of_mem _ ho))]

theorem x26Fold_brk (v : View) (is : List Nat) (enh : List Triplet) (nt : Nat) (ev : List Aux) :
    is.foldl (x26Step v) (enh, nt, ev, true) = (enh, nt, ev, true) := by
  induction is with
  | nil => rfl
  | cons i is ih => simp only [List.foldl_cons]; rw [show x26Step v (enh, nt, ev, true) i = (enh, nt, ev, true) from rfl]; exact ih

theorem set_append_head (ts : List Triplet) (x y : Triplet) (rest : List Triplet) :
    (ts ++ y :: rest).set ts.length x = (ts ++ [x]) ++ rest := by
  rw [List.set_append]
  simp

/-- CONTENT of the triplet loop: starting at fill level `|ts|` in an array `ts ++ rest` with room for the
    indices, the loop overwrites the head of `rest` by the good prefix and raises the fill level by its
    length; no fault mark. -/
theorem x26Fold_content (v : View) (is : List Nat) (ts rest : List Triplet) (ev : List Aux)
    (hn : is.length ≤ rest.length) (hsz : ts.length + rest.length ≤ ENH_SIZE) :
    ∃ b, is.foldl (x26Step v) (ts ++ rest, ts.length, ev, false)
      = (ts ++ goodPrefix (is.map v.g24) ++ rest.drop (goodPrefix (is.map v.g24)).length,
         ts.length + (goodPrefix (is.map v.g24)).length, ev, b) := by
  induction is generalizing ts rest with
  | nil => exact ⟨false, by simp [goodPrefix]⟩
  | cons i is ih =>
    simp only [List.foldl_cons, List.map_cons]
    cases hg : v.g24 i with
    | none =>
      have : x26Step v (ts ++ rest, ts.length, ev, false) i = (ts ++ rest, ts.length, ev, true) := by
        simp [x26Step, hg]
      rw [this, x26Fold_brk]
      exact ⟨true, by simp [goodPrefix]⟩
    | some t =>
      cases rest with
      | nil => simp at hn
      | cons y rest =>
        have hlt : ts.length < ENH_SIZE := by simp only [List.length_cons] at hsz; omega
        have : x26Step v (ts ++ y :: rest, ts.length, ev, false) i
            = ((ts ++ [tripOf t]) ++ rest, (ts ++ [tripOf t]).length, ev, false) := by
          simp only [x26Step, hg, Bool.false_eq_true, if_false, hlt, if_true]
          rw [set_append_head]
          simp [tripOf]
        rw [this]
        obtain ⟨b, hb⟩ := ih (ts ++ [tripOf t]) rest (by simp only [List.length_cons] at hn; omega)
          (by simp only [List.length_cons, List.length_append, List.length_nil] at hsz ⊢; omega)
        refine ⟨b, ?_⟩
        rw [hb]
        simp [goodPrefix, List.append_assoc, Nat.add_assoc, Nat.add_comm 1]

/-- CONTENT of `x26Triplets` (what `x26Triplets_frame` leaves open) -/
theorem x26Triplets_content (v : View) (ts rest : List Triplet)
    (hn : 13 ≤ rest.length) (hsz : ts.length + rest.length ≤ ENH_SIZE) :
    x26Triplets v (ts ++ rest) ts.length
      = (ts ++ x26Payload v ++ rest.drop (x26Payload v).length, ts.length + (x26Payload v).length, []) := by
  unfold x26Triplets x26Payload
  obtain ⟨b, hb⟩ := x26Fold_content v (List.range 13) ts rest [] (by simpa using hn) hsz
  simp only [hb]

/-! ## packet 26 on a slot whose array is `ts ++ enh0.drop |ts|` -/

/-- the X/26 bookkeeping of slot `rp` in terms of the spec state `(ts, nt)` and the array `enh0` the header left -/
structure X26Inv (rp : RawPage) (enh0 : List Triplet) (acc : List Triplet × Int) : Prop where
  enh : rp.page.enh = acc.1 ++ enh0.drop acc.1.length
  nt : rp.numTriplets = acc.2
  sync : acc.2 = (acc.1.length : Int) ∨ acc.2 = -1
  len : acc.1.length ≤ 208
  addr : ∀ t ∈ acc.1, t.address ≤ 63
  mask : rp.page.x26 = 0 → acc.1 = []

theorem x26Spec_stuck (ts : List Triplet) (v : View) : x26Spec (ts, -1) v = (ts, -1) := by
  unfold x26Spec
  cases v.g8 0 with
  | none => rfl
  | some d =>
    have hc : (((-1 : Int)) ≥ 16 * 13 || (-1 : Int) != ((d * 13 : Nat) : Int)) = true := by
      simp only [Bool.or_eq_true, decide_eq_true_eq, bne_iff_ne, ne_eq]; right; omega
    dsimp only
    rw [if_pos hc]

theorem or_shift_ne_zero (a d : Nat) : a ||| (1 <<< d) ≠ 0 := by
  intro h
  have h2 : (a ||| 1 <<< d).testBit d = false := by rw [h]; simp
  rw [Nat.testBit_or] at h2
  have : (1 <<< d).testBit d = true := by
    rw [Nat.one_shiftLeft, Nat.testBit_two_pow_self]
  simp [this] at h2

/-- packet 26 on a page it is enhancement data of realises one step of `x26Spec`; everything else about the decoder state
    is untouched -/
theorem process26_content (s : St) (mag0 : Nat) (v : View) (hm : mag0 < s.raw.length)
    (enh0 : List Triplet) (h0 : enh0.length = ENH_SIZE) (acc : List Triplet × Int)
    (hd : (s.rp mag0).page.function ≠ FN_DISCARD)
    (hp : (s.rp mag0).page.function ≠ FN_GPOP ∧ (s.rp mag0).page.function ≠ FN_POP)
    (hx : ¬ X26Desync (s.rp mag0).page.function) (hinv : X26Inv (s.rp mag0) enh0 acc) :
    X26Inv ((process26 s mag0 v).st.rp mag0) enh0 (x26Spec acc v) ∧
    ((process26 s mag0 v).st.rp mag0).page.function = (s.rp mag0).page.function ∧
    ((process26 s mag0 v).st.rp mag0).page.pgno = (s.rp mag0).page.pgno ∧
    ((process26 s mag0 v).st.rp mag0).page.subno = (s.rp mag0).page.subno ∧
    (process26 s mag0 v).ev = [] ∧ (process26 s mag0 v).st.net = s.net ∧
    (process26 s mag0 v).st.mask = s.mask ∧ (process26 s mag0 v).st.raw.length = s.raw.length := by
  obtain ⟨ts, nt⟩ := acc
  have hnt : (s.rp mag0).numTriplets = nt := hinv.nt
  refine process26_elim s mag0 v (fun h => absurd h hd) (fun h => h.elim (absurd · hp.1) (absurd · hp.2))
    (fun h => absurd h hx) (fun hg => ?_) (fun d hg hc => ?_) fun d hg hdn hlt => ?_
  · have e : x26Spec (ts, nt) v = (ts, nt) := by unfold x26Spec; rw [hg]
    rw [e]
    exact ⟨hinv, rfl, rfl, rfl, rfl, rfl, rfl, rfl⟩
  · have e : x26Spec (ts, nt) v = (ts, -1) := by
      unfold x26Spec
      rw [hg, hnt] at *
      exact if_pos (by simpa using hc)
    rw [e, rp_setRp_same s mag0 _ hm]
    exact ⟨⟨hinv.enh, rfl, Or.inr rfl, hinv.len, hinv.addr, hinv.mask⟩, rfl, rfl, rfl, rfl, rfl, rfl, setRp_length s mag0 _⟩
  · -- the fill level is `13 d = |ts|`: the spec appends the payload, and so does the triplet loop
    have hsync : nt = (ts.length : Int) := by
      rcases hinv.sync with h | h
      · exact h
      · simp only at h; omega
    have hlen : d * 13 = ts.length := by omega
    have e : x26Spec (ts, nt) v = (ts ++ x26Payload v, ((d * 13 + (x26Payload v).length : Nat) : Int)) := by
      unfold x26Spec
      rw [hg]
      exact if_neg (by simp only [Bool.or_eq_true, decide_eq_true_eq, bne_iff_ne, ne_eq, not_or, Decidable.not_not]; omega)
    have hdl : (enh0.drop ts.length).length = ENH_SIZE - ts.length := by rw [List.length_drop, h0]
    have hE : ENH_SIZE = 209 := rfl
    have hcont := x26Triplets_content v ts (enh0.drop ts.length) (by rw [hdl, hE]; omega) (by rw [hdl, hE]; omega)
    have henh : (s.rp mag0).page.enh = ts ++ enh0.drop ts.length := hinv.enh
    rw [e, henh, hlen, hcont, rp_setRp_same s mag0 _ hm]
    refine ⟨⟨?_, ?_, Or.inl ?_, ?_, ?_, fun hx => absurd hx (or_shift_ne_zero _ _)⟩, rfl, rfl, rfl, rfl, rfl, rfl,
      setRp_length s mag0 _⟩
    · simp only [List.drop_drop, List.length_append]
    · rfl
    · simp only [List.length_append]
    · have := x26Payload_length_le v
      simp only [List.length_append]; omega
    · intro t ht
      exact (List.mem_append.mp ht).elim (hinv.addr t) (x26Payload_address v t)

/-! ## the whole body of a page transmission: rows 1..25 and X/26 packets of one magazine -/

/-- the X/26 packets among `ps` as the decoder reads them (packet number 26, thirteen triplets) -/
def x26Views (ps : List Packet) : List View :=
  ps.filterMap fun p =>
    match a16 p 0 with
    | some pmag => if pmag >>> 3 == 26 then some (view Kind.trip p) else none
    | none => none

/-- `p` is lost (address uncorrectable) or a Level 1 row / X/26 packet of magazine `mag0` -/
def BodyPkt (mag0 : Nat) (p : Packet) : Prop :=
  a16 p 0 = none ∨ ∃ pmag, a16 p 0 = some pmag ∧ pmag &&& 7 = mag0 ∧ 1 ≤ pmag >>> 3 ∧ pmag >>> 3 ≤ 26

/-- what a page transmission keeps invariant in the assembly slot of its magazine -/
structure TxInv (s : St) (mag0 : Nat) (enh0 : List Triplet) (acc : List Triplet × Int) : Prop where
  mask : s.mask = true
  lt : mag0 < s.raw.length
  fn : (s.rp mag0).page.function = FN_LOP
  x26 : X26Inv (s.rp mag0) enh0 acc

theorem decode_body (s : St) (mag0 : Nat) (p : Packet) (enh0 : List Triplet) (h0' : enh0.length = ENH_SIZE)
    (acc : List Triplet × Int) (hinv : TxInv s mag0 enh0 acc) (hp : BodyPkt mag0 p) :
    TxInv (decodeTeletext s p).st mag0 enh0 ((x26Views [p]).foldl x26Spec acc) ∧
    ((decodeTeletext s p).st.rp mag0).page.pgno = (s.rp mag0).page.pgno ∧
    ((decodeTeletext s p).st.rp mag0).page.subno = (s.rp mag0).page.subno ∧
    (decodeTeletext s p).st.net = s.net ∧ (decodeTeletext s p).ev = [] := by
  rcases hp with hp | ⟨pmag, ha, hmag, h1, h26⟩
  · rw [decode_lost s p hp]
    simp only [x26Views, List.filterMap_cons, List.filterMap_nil, hp, List.foldl_nil]
    refine ⟨hinv, ?_⟩
    repeat' constructor
  · have h0 : pmag >>> 3 ≠ 0 := by omega
    have hfn : (s.rp (pmag &&& 7)).page.function = FN_LOP := by rw [hmag]; exact hinv.fn
    rw [decode_eq_process s p pmag ha h0]
    by_cases h25 : pmag >>> 3 ≤ 25
    · -- a Level 1 row: only `lop_raw` and `lop_packets` of the slot change
      have hne26 : (pmag >>> 3 == 26) = false := by simp only [beq_eq_false_iff_ne, ne_eq]; omega
      rw [process_row s pmag _ hinv.mask h0 h25, hmag, processRow_lop _ _ _ _ _ hinv.fn]
      simp only [x26Views, List.filterMap_cons, List.filterMap_nil, ha, hne26, Bool.false_eq_true, if_false, List.foldl_nil]
      refine ⟨⟨hinv.mask, by rw [setRp_length]; exact hinv.lt, ?_, ?_⟩, ?_⟩
      all_goals rw [rp_setRp_same s mag0 _ hinv.lt]
      · exact hinv.fn
      · exact ⟨hinv.x26.enh, hinv.x26.nt, hinv.x26.sync, hinv.x26.len, hinv.x26.addr, hinv.x26.mask⟩
      · repeat' constructor
    · have he26 : pmag >>> 3 = 26 := by omega
      rw [kindOf_x26 s pmag _ hinv.mask he26 (by rw [hfn]; decide) (by rw [hfn]; decide), process_x26 s pmag _ hinv.mask he26,
        hmag]
      obtain ⟨a, b, c1, c2, e, f, g, h⟩ := process26_content s mag0 (view Kind.trip p) hinv.lt enh0 h0' acc
        (by rw [hinv.fn]; decide) (by rw [hinv.fn]; decide) (by rw [hinv.fn]; decide) hinv.x26
      simp only [x26Views, List.filterMap_cons, List.filterMap_nil, ha, he26, beq_self_eq_true, if_true, List.foldl_cons,
        List.foldl_nil]
      exact ⟨⟨g.trans hinv.mask, by rw [h]; exact hinv.lt, b.trans hinv.fn, a⟩, c1, c2, f, e⟩

theorem x26Views_append (a b : List Packet) : x26Views (a ++ b) = x26Views a ++ x26Views b := by
  unfold x26Views; rw [List.filterMap_append]

/-- the invariant over any number of body packets (frames with one Teletext line each) -/
theorem decodeAll_body (ps : List Packet) (s : St) (mag0 : Nat) (enh0 : List Triplet) (h0 : enh0.length = ENH_SIZE)
    (acc : List Triplet × Int) (hinv : TxInv s mag0 enh0 acc) (hp : ∀ p ∈ ps, BodyPkt mag0 p) :
    let s' := ps.foldl (fun s p => (decodeTeletext s p).st) s
    TxInv s' mag0 enh0 ((x26Views ps).foldl x26Spec acc) ∧
    (s'.rp mag0).page.pgno = (s.rp mag0).page.pgno ∧ (s'.rp mag0).page.subno = (s.rp mag0).page.subno ∧
    s'.net = s.net := by
  induction ps generalizing s acc with
  | nil => exact ⟨hinv, rfl, rfl, rfl⟩
  | cons p ps ih =>
    obtain ⟨a, b, c, d, _⟩ := decode_body s mag0 p enh0 h0 acc hinv (hp p List.mem_cons_self)
    have := ih (decodeTeletext s p).st ((x26Views [p]).foldl x26Spec acc) a (fun q hq => hp q (List.mem_cons_of_mem _ hq))
    simp only [List.foldl_cons]
    have hv : x26Views (p :: ps) = x26Views [p] ++ x26Views ps := x26Views_append [p] ps
    rw [hv, List.foldl_append]
    exact ⟨this.1, this.2.1.trans b, this.2.2.1.trans c, this.2.2.2.trans d⟩

/-! ## the declarative reading of `x26Spec`: in-order, complete packets are all kept -/

/-- `vs` are X/26 packets with designations `k0, k0 + 1, ...` in order whose thirteen triplets all decode -/
def InOrderFrom (k0 : Nat) : List View → Prop
  | [] => True
  | v :: vs => v.g8 0 = some k0 ∧ (∀ i, i < 13 → (v.g24 i).isSome = true) ∧ InOrderFrom (k0 + 1) vs

theorem x26Payload_full (v : View) (h : ∀ i, i < 13 → (v.g24 i).isSome = true) : (x26Payload v).length = 13 := by
  unfold x26Payload
  rw [goodPrefix_all]
  · simp
  · intro o ho
    simp only [List.mem_map, List.mem_range] at ho
    obtain ⟨i, hi, rfl⟩ := ho
    exact h i hi

theorem x26Spec_in_order (vs : List View) (k0 : Nat) (ts : List Triplet) (hts : ts.length = 13 * k0)
    (hk : k0 + vs.length ≤ 16) (hv : InOrderFrom k0 vs) :
    vs.foldl x26Spec (ts, ((ts.length : Nat) : Int)) =
      (ts ++ vs.flatMap x26Payload, ((13 * (k0 + vs.length) : Nat) : Int)) ∧
    (vs.flatMap x26Payload).length = 13 * vs.length := by
  induction vs generalizing k0 ts with
  | nil => simp [hts]
  | cons v vs ih =>
    obtain ⟨hd, hall, hrest⟩ := hv
    have hfull := x26Payload_full v hall
    simp only [List.length_cons] at hk
    have hstep : x26Spec (ts, ((ts.length : Nat) : Int)) v
        = (ts ++ x26Payload v, (((ts ++ x26Payload v).length : Nat) : Int)) := by
      unfold x26Spec
      rw [hd]
      have hc : (((ts.length : Nat) : Int) ≥ 16 * 13 || ((ts.length : Nat) : Int) != ((k0 * 13 : Nat) : Int)) = false := by
        simp only [Bool.or_eq_false_iff, decide_eq_false_iff_not, bne_eq_false_iff_eq]
        constructor <;> omega
      simp only [hc, Bool.false_eq_true, if_false, List.length_append]
      congr 2
      omega
    simp only [List.foldl_cons, List.flatMap_cons, List.length_cons]
    rw [hstep]
    have hl : (ts ++ x26Payload v).length = 13 * (k0 + 1) := by simp only [List.length_append]; omega
    obtain ⟨e1, e2⟩ := ih (k0 + 1) (ts ++ x26Payload v) hl (by omega) hrest
    rw [e1]
    refine ⟨?_, ?_⟩
    · simp only [List.append_assoc]
      congr 2
      congr 1
      omega
    · simp only [List.length_append]; omega

/-- live part of an array `ts ++ unused entries` -/
theorem liveTriplets_append_unused (ts : List Triplet) (n : Nat) (h : ∀ t ∈ ts, t.address ≤ 63) :
    liveTriplets (ts ++ List.replicate n Triplet.ff) = ts := by
  unfold liveTriplets
  rw [List.takeWhile_append_of_pos (by intro t ht; simpa using h t ht)]
  cases n <;> simp [List.replicate, Triplet.ff]

theorem enhUnused_drop (k : Nat) : enhUnused.drop k = List.replicate (ENH_SIZE - k) Triplet.ff := by
  unfold enhUnused; simp

end Zvbi.Ttx
