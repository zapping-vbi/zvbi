import ZvbiModel.Ttx.HeaderFields
/-!
# C03: packets X/28 and M/29 with an uncorrectable protected unit are refused

`parse_28_29` decodes the designation byte (Hamming 8/4) and all 13 triplets (Hamming 24/18) before it
looks at the format; `err |= triplets[i]` collects the sign bit of every triplet.  The lemmas say what
`x28Decide` / `parse2829` / `process` do on the `.trip` view of such a packet; `decode_2829_nop`: a packet on which
`x28Decide` is `.nop` whatever the page function is the packet that was not received.
-/
namespace Zvbi.Ttx
open Zvbi.Hamm Zvbi.Gen Zvbi.Ttx.Spec

theorem view_trip_g24 (p : Packet) (j : Nat) (hj : j < 13) : (view Kind.trip p).g24 j = a24 p (3 + 3 * j) := by
  unfold View.g24 view
  simp [List.getD_eq_getElem?_getD, hj, Kind.nTrip]

/-- `err < 0` after the decode loop: some triplet of the packet is uncorrectable -/
theorem x28_err_of_bad (p : Packet) (j : Nat) (hj : j < 13) (hbad : a24 p (3 + 3 * j) = none) :
    ((List.range 13).any fun k => ((view Kind.trip p).g24 k).isNone) = true := by
  rw [List.any_eq_true]
  refine ⟨j, List.mem_range.mpr hj, ?_⟩
  rw [view_trip_g24 p j hj, hbad]
  rfl

/-- the formats of `parse_28_29` that read the bit stream of the 13 triplets: X/28/0, X/28/4, M/29/0,
    M/29/4 (extension, CLUT 2/3 or 0/1), X/28/1, M/29/1 (DRCS CLUT), X/28/3 (DRCS modes) -/
def X28UsesTriplets (packet d : Nat) : Prop :=
  d = 0 ∨ d = 4 ∨ d = 1 ∨ (d = 3 ∧ packet = 28)

instance (packet d : Nat) : Decidable (X28UsesTriplets packet d) := by
  unfold X28UsesTriplets; exact inferInstance

/-- the decision of `parse_28_29` on a packet of a triplet-using format with an uncorrectable triplet:
    `return FALSE` before anything is written (designation 1: with repair F25 in, `ttxFixF25`) -/
theorem x28Decide_bad_triplet (fn : Int) (packet d : Nat) (p : Packet) (j : Nat)
    (hd : a8 p 2 = some d) (hfmt : X28UsesTriplets packet d) (h25 : ttxFixF25 = true ∨ d ≠ 1)
    (hj : j < 13) (hbad : a24 p (3 + 3 * j) = none) :
    x28Decide fn packet (view Kind.trip p) = .nop false := by
  have herr := x28_err_of_bad p j hj hbad
  unfold x28Decide
  rw [view_trip_g8_0, hd]
  simp only [herr]
  rcases hfmt with h | h | h | ⟨h, hp⟩
  · subst h; simp
  · subst h; simp
  · subst h
    rcases h25 with h25 | h25
    · simp [h25]
    · exact absurd rfl h25
  · subst h; subst hp; simp

theorem x28Decide_bad_designation (fn : Int) (packet : Nat) (p : Packet) (hd : a8 p 2 = none) :
    x28Decide fn packet (view Kind.trip p) = .nop false := by
  unfold x28Decide
  rw [view_trip_g8_0, hd]

/-- formats which `parse_28_29` ignores (designation 2, 5..15, M/29/3): nothing is read from the triplets -/
theorem x28Decide_unused_format (fn : Int) (packet d : Nat) (p : Packet)
    (hd : a8 p 2 = some d) (hfmt : ¬ X28UsesTriplets packet d) (hp : packet = 28 ∨ packet = 29) :
    x28Decide fn packet (view Kind.trip p) = .nop true := by
  unfold X28UsesTriplets at hfmt
  unfold x28Decide
  rw [view_trip_g8_0, hd]
  have h0 : (d == 0) = false := by simp; omega
  have h4 : (d == 4) = false := by simp; omega
  have h1 : (d == 1) = false := by simp; omega
  simp only [h0, h4, h1, Bool.or_false, Bool.false_eq_true, if_false]
  by_cases h3 : d = 3
  · subst h3
    have : packet = 29 := by omega
    subst this
    simp
  · have : (d == 3) = false := by simp; omega
    simp [this]

theorem parse2829_nop (s : St) (mag0 mag8 packet : Nat) (v : View) (r : Bool)
    (h : x28Decide (s.rp mag0).page.function packet v = .nop r) :
    parse2829 s mag0 mag8 packet v = (s, [], r) := by
  unfold parse2829
  simp only [h]

/-- what `vbi_decode_teletext` does with a packet 28 / 29 which the decoder does not dispatch to
    `parse_28_29`: no Teletext handler (packets below 30 are ignored), or X/28 of a discarded page -/
theorem decode_2829_not_parsed (s : St) (p : Packet) (pmag : Nat) (ha : a16 p 0 = some pmag)
    (hp : pmag >>> 3 = 28 ∨ pmag >>> 3 = 29)
    (h : s.mask = false ∨ (pmag >>> 3 = 28 ∧ (s.rp (pmag &&& 7)).page.function = FN_DISCARD)) :
    decodeTeletext s p = ⟨s, [], true⟩ := by
  cases hm : s.mask with
  | false => exact decode_off s p pmag ha (by omega) hm
  | true =>
    obtain ⟨h28, hf⟩ := h.resolve_left (by rw [hm]; exact Bool.noConfusion)
    rw [decode_eq_process s p pmag ha (by omega), process_x28_discard s pmag _ hm h28 hf]

/-- **A packet 28 / 29 on which `parse_28_29` decides to do nothing - whatever the page function - is the packet that was
    not received**: in every decoder state `vbi_decode_teletext` leaves the state as it was and sends no event; where the
    packet reaches `parse_28_29` the return value is the one decided. -/
theorem decode_2829_nop (p : Packet) (pmag : Nat) (r : Bool) (ha : a16 p 0 = some pmag)
    (hp : pmag >>> 3 = 28 ∨ pmag >>> 3 = 29)
    (hdec : ∀ fn, x28Decide fn (pmag >>> 3) (view Kind.trip p) = .nop r) (s : St) :
    ∃ ret, decodeTeletext s p = ⟨s, [], ret⟩ ∧
      (s.mask = true → ¬ (pmag >>> 3 = 28 ∧ (s.rp (pmag &&& 7)).page.function = FN_DISCARD) → ret = r) := by
  by_cases hparsed : s.mask = false ∨ (pmag >>> 3 = 28 ∧ (s.rp (pmag &&& 7)).page.function = FN_DISCARD)
  · refine ⟨true, decode_2829_not_parsed s p pmag ha hp hparsed, fun hm hnd => ?_⟩
    exact hparsed.elim (fun h => absurd hm (by rw [h]; simp)) fun h => absurd h hnd
  · have hm : s.mask = true := by
      cases hmk : s.mask with
      | true => rfl
      | false => exact absurd (Or.inl hmk) hparsed
    have hnd : ¬ (pmag >>> 3 = 28 ∧ (s.rp (pmag &&& 7)).page.function = FN_DISCARD) := fun h => hparsed (Or.inr h)
    refine ⟨r, ?_, fun _ _ => rfl⟩
    rw [decode_eq_process s p pmag ha (by omega), kindOf_2829 s pmag _ hm hp hnd, process_2829 s pmag _ hm hp hnd]
    simp only []
    rw [parse2829_nop s _ _ _ _ r (hdec _)]
    rfl

/-- a line that `vbi_decode_teletext` ignores in every state: the step through `vbi_decode` is that of a frame without it -/
theorem step_of_ignored (p : Packet) (h : ∀ s, ∃ ret, decodeTeletext s p = ⟨s, [], ret⟩) (s : St) :
    step s p = frameTick s := by
  obtain ⟨ret, e⟩ := h (frameTick s).1
  rw [step_eq, e, List.append_nil]

end Zvbi.Ttx
