import ZvbiModel.Ttx.Termination
/-!
# `Quiet`, `Body`: every packet other than a page header leaves the other magazines alone

`Quiet s s' mag0`: `s'` differs from `s` at most in the *content* of assembly slot `mag0` (never its
page number, sub-code, flags, array shapes; a text page keeps its rows) and in the network record,
where no page was added to the cache (`CacheSub`).  This one relation carries
* magazine isolation (slot `m ≠ mag0` is untouched),
* the shape invariants (array extents) of Shape,
* the header-row invariant behind "consistent headers => no channel switch" (Interleaved).
`Body s m ok r`: the full description of such a packet - `Quiet`, the page list changed by look-ups only (`Looks`),
events that are table parser diagnostics, free of fault marks.  Each handler is opened ONCE, for `Body`:
rows 1..25 (`processRow_body`), X/26, X/27, X/28 + M/29, 8/30, then `process_body` and `decode_nonhdr`; isolation,
the cache trace, fault freedom and the slot numbers are projections.  The exception is packet 26 arriving while the
magazine's page in progress has function (G)DRCS / BTT / AIT / MPT / MPT-EX, which calls `vbi_teletext_desync`
(packet.c:2642).
-/
namespace Zvbi.Ttx
open Zvbi.Hamm Zvbi.Gen Zvbi.Ttx.Spec

/-- `s'` differs from `s` at most in the content of slot `mag0` and in the network record -/
structure Quiet (s s' : St) (mag0 : Nat) : Prop where
  len : s'.raw.length = s.raw.length
  mask : s'.mask = s.mask
  cd : s'.chswcd = s.chswcd
  cur : s'.current = s.current
  hdr : s'.header = s.header ∧ s'.hdrPgno = s.hdrPgno
  other : ∀ c, c ≠ mag0 → s'.rp c = s.rp c
  flags : (s'.rp mag0).page.flags = (s.rp mag0).page.flags
  pgno : (s'.rp mag0).page.pgno = (s.rp mag0).page.pgno
  subno : (s'.rp mag0).page.subno = (s.rp mag0).page.subno
  lrlen : (s'.rp mag0).lopRaw.length = (s.rp mag0).lopRaw.length
  rawlen : (s'.rp mag0).page.raw.length = (s.rp mag0).page.raw.length
  /-- a slot that holds a text page held it before, with the same rows (and the same page record apart from
      enhancement / link / extension data) -/
  lop : (s'.rp mag0).page.function = FN_LOP →
    (s.rp mag0).page.function = FN_LOP ∧ (s'.rp mag0).page.raw = (s.rp mag0).page.raw
  disc : (s'.rp mag0).page.function ≠ FN_DISCARD → (s.rp mag0).page.function ≠ FN_DISCARD
  cache : CacheSub s.net s'.net

theorem Quiet.refl (s : St) (m : Nat) : Quiet s s m :=
  ⟨rfl, rfl, rfl, rfl, ⟨rfl, rfl⟩, fun _ _ => rfl, rfl, rfl, rfl, rfl, rfl, fun h => ⟨h, rfl⟩, id, CacheSub.refl _⟩

theorem Quiet.trans {a b c : St} {m : Nat} (h1 : Quiet a b m) (h2 : Quiet b c m) : Quiet a c m := by
  refine ⟨h2.len.trans h1.len, h2.mask.trans h1.mask, h2.cd.trans h1.cd, h2.cur.trans h1.cur,
    ⟨h2.hdr.1.trans h1.hdr.1, h2.hdr.2.trans h1.hdr.2⟩, fun x hx => (h2.other x hx).trans (h1.other x hx),
    h2.flags.trans h1.flags, h2.pgno.trans h1.pgno, h2.subno.trans h1.subno, h2.lrlen.trans h1.lrlen,
    h2.rawlen.trans h1.rawlen, ?_, fun h => h1.disc (h2.disc h), h1.cache.trans h2.cache⟩
  intro h
  obtain ⟨f2, r2⟩ := h2.lop h
  obtain ⟨f1, r1⟩ := h1.lop f2
  exact ⟨f1, r2.trans r1⟩

theorem quiet_setRp (s : St) (m : Nat) (x : RawPage)
    (h1 : x.page.flags = (s.rp m).page.flags) (h2 : x.page.pgno = (s.rp m).page.pgno)
    (h3 : x.page.subno = (s.rp m).page.subno) (h4 : x.lopRaw.length = (s.rp m).lopRaw.length)
    (h5 : x.page.raw.length = (s.rp m).page.raw.length)
    (h6 : x.page.function = FN_LOP → (s.rp m).page.function = FN_LOP ∧ x.page.raw = (s.rp m).page.raw)
    (h7 : x.page.function ≠ FN_DISCARD → (s.rp m).page.function ≠ FN_DISCARD) : Quiet s (s.setRp m x) m := by
  by_cases hm : m < s.raw.length
  · refine ⟨setRp_length s m x, rfl, rfl, rfl, ⟨rfl, rfl⟩, fun c hc => rp_setRp_other s m c x hc, ?_, ?_, ?_, ?_, ?_, ?_, ?_,
      CacheSub.refl _⟩
    all_goals rw [rp_setRp_same s m x hm]
    all_goals assumption
  · rw [setRp_ge s m x hm]; exact Quiet.refl s m

/-- the page record of slot `m` replaced by one with the same identity and function; rows kept if it is a
    text page -/
theorem quiet_setPage (s : St) (m : Nat) (pg : Page)
    (h1 : pg.flags = (s.rp m).page.flags) (h2 : pg.pgno = (s.rp m).page.pgno)
    (h3 : pg.subno = (s.rp m).page.subno) (h5 : pg.raw.length = (s.rp m).page.raw.length)
    (hf : pg.function = (s.rp m).page.function)
    (hr : (s.rp m).page.function = FN_LOP → pg.raw = (s.rp m).page.raw) : Quiet s (s.setPage m pg) m := by
  unfold St.setPage
  exact quiet_setRp s m _ h1 h2 h3 rfl h5 (fun h => ⟨hf ▸ h, hr (hf ▸ h)⟩) (fun h => hf ▸ h)

/-- only `lop_raw`, `lop_packets`, `num_triplets` of slot `m` change -/
theorem quiet_setRp_page (s : St) (m : Nat) (x : RawPage) (hp : x.page = (s.rp m).page)
    (h4 : x.lopRaw.length = (s.rp m).lopRaw.length) : Quiet s (s.setRp m x) m :=
  quiet_setRp s m x (by rw [hp]) (by rw [hp]) (by rw [hp]) h4 (by rw [hp]) (fun h => by rw [hp] at h ⊢; exact ⟨h, rfl⟩)
    (fun h => by rw [hp] at h; exact h)

theorem quiet_net (s : St) (n : Net) (m : Nat) (h : CacheSub s.net n) : Quiet s { s with net := n } m :=
  ⟨rfl, rfl, rfl, rfl, ⟨rfl, rfl⟩, fun _ _ => rfl, rfl, rfl, rfl, rfl, rfl, fun h => ⟨h, rfl⟩, id, h⟩

/-- the events of the branches that store nothing: table parser diagnostics only -/
def Silent (ev : List Event) : Prop := ∃ l, ev = liftAux l

theorem Silent.nil : Silent [] := ⟨[], rfl⟩
theorem Silent.pages {ev : List Event} (h : Silent ev) : ttxPages ev = [] := by
  obtain ⟨l, rfl⟩ := h; exact ttxPages_liftAux l
theorem Silent.nochsw {ev : List Event} (h : Silent ev) : Event.chsw ∉ ev := by
  obtain ⟨l, rfl⟩ := h; exact chsw_not_mem_liftAux l
theorem Silent.noput {ev : List Event} (h : Silent ev) (q : Page) : Event.put q ∉ ev := by
  obtain ⟨l, rfl⟩ := h; exact put_not_mem_liftAux l q

/-- the common tail of `processRow`: mark the packet as received -/
theorem quiet_done (s x : St) (mag0 bit : Nat) (hx : Quiet s x mag0) :
    Quiet s (x.setPage mag0 { (x.rp mag0).page with lopPackets := (x.rp mag0).page.lopPackets ||| bit }) mag0 :=
  hx.trans (quiet_setPage x mag0 _ rfl rfl rfl rfl rfl (fun _ => rfl))

theorem quiet_setMag (s : St) (mag0 mag8 : Nat) (m : Magazine) : Quiet s { s with net := s.net.setMag mag8 m } mag0 :=
  quiet_net s _ mag0 (CacheSub.of_eq rfl)

/-- storing the received bytes as row `packet` of a page that is not a text page -/
theorem quiet_setRow (s : St) (mag0 packet : Nat) (row : List Nat) (hn : (s.rp mag0).page.function ≠ FN_LOP) :
    Quiet s (s.setPage mag0 { (s.rp mag0).page with raw := (s.rp mag0).page.raw.set packet row }) mag0 :=
  quiet_setPage s mag0 _ rfl rfl rfl (by simp) rfl (fun e => absurd e hn)

/-! ## `Body`: what a packet other than a page header does -/

/-- The result `r` of a packet of magazine `m` that is no page header: slot `m` and the network record change as
    `Quiet` allows, the page list by look-ups only, the events are the diagnostics of a table parser and carry no
    fault mark when `ok` holds (`ok`: what the branch needs of the view and the packet number).  Each handler is
    opened once, below; `Quiet`, `Looks`, `Silent`, `NoFaultE` and the slot identities of `AsmOk` are read off. -/
structure Body (s : St) (m : Nat) (ok : Prop) (r : Res) : Prop where
  quiet : Quiet s r.st m
  looks : Looks s.net r.st.net
  aux : ∃ l, r.ev = liftAux l ∧ (ok → NoFault l)

theorem Body.nop (s : St) (m : Nat) (ok : Prop) (ret : Bool) : Body s m ok ⟨s, [], ret⟩ :=
  ⟨Quiet.refl s m, Looks.refl _, [], rfl, fun _ => NoFault.nil⟩

theorem Body.slot {s x : St} {m : Nat} (ok : Prop) (ret : Bool) (q : Quiet s x m) (hn : x.net = s.net) :
    Body s m ok ⟨x, [], ret⟩ :=
  ⟨q, Looks.of_eq (congrArg Net.cache hn), [], rfl, fun _ => NoFault.nil⟩

/-- only the network record changes, by a table parser with diagnostics `l` -/
theorem Body.net (s : St) (m : Nat) {ok : Prop} (n : Net) (l : List Aux) (ret : Bool) (h : Looks s.net n)
    (hl : ok → NoFault l) : Body s m ok ⟨{ s with net := n }, liftAux l, ret⟩ :=
  ⟨quiet_net s n m h.sub, h, l, rfl, hl⟩

theorem Body.done {s x : St} {m : Nat} {ok : Prop} {l : List Aux} {ret : Bool} (bit : Nat)
    (b : Body s m ok ⟨x, liftAux l, ret⟩) :
    Body s m ok ⟨x.setPage m { (x.rp m).page with lopPackets := (x.rp m).page.lopPackets ||| bit }, liftAux l, true⟩ :=
  ⟨quiet_done s x m bit b.quiet, b.looks, b.aux⟩

theorem Body.mono {s : St} {m : Nat} {ok ok' : Prop} {r : Res} (b : Body s m ok r) (h : ok' → ok) : Body s m ok' r :=
  ⟨b.quiet, b.looks, b.aux.imp fun _ hl => ⟨hl.1, fun hk => hl.2 (h hk)⟩⟩

theorem Body.silent {s : St} {m : Nat} {ok : Prop} {r : Res} (b : Body s m ok r) : Silent r.ev :=
  b.aux.imp fun _ hl => hl.1

theorem Body.nofault {s : St} {m : Nat} {ok : Prop} {r : Res} (b : Body s m ok r) (h : ok) : NoFaultE r.ev := by
  obtain ⟨l, e, hl⟩ := b.aux
  rw [e]; exact NoFaultE.lift (hl h)

theorem processRow_body (s : St) (mag0 mag8 packet : Nat) (v : View) :
    Body s mag0 (ViewOk v ∧ packet ≤ 25) (processRow s mag0 mag8 packet v) := by
  have hpop : ViewOk v ∧ packet ≤ 25 → NoFault (parsePop v packet).2 := fun h => parsePop_nofault v packet h.1 (by omega)
  refine processRow_elim s mag0 mag8 packet v (fun ev ok h => ?_) (fun s' ev h => ?_) fun _ => ?_
  · exact ⟨Quiet.refl s _, Looks.refl _, ev, rfl, fun hk => h.elim (fun e => e ▸ NoFault.nil) fun e => e ▸ hpop hk⟩
  · apply Body.done (ret := true)
    cases h with
    | mot => exact ⟨quiet_setMag s mag0 mag8 _, Looks.refl _, _, rfl, fun _ => parseMot_nofault _ _ _⟩
    | pop => exact ⟨Quiet.refl s _, Looks.refl _, _, rfl, hpop⟩
    | btt => exact Body.net s _ _ _ _ (parseBtt_spec ..).1 fun h => (parseBtt_spec ..).2 h.2
    | ait => exact ⟨Quiet.refl s _, Looks.refl _, _, rfl, fun _ => parseAitBounds_nofault _⟩
    | mpt => exact Body.net s _ _ _ _ (parseMpt_spec ..).1 fun _ => (parseMpt_spec ..).2
    | mptEx =>
      exact Body.net s _ _ _ _ (parseMptEx_spec ..).1 fun _ => (parseMptEx_spec ..).2 (unhamTopPageLink_range _)
    | epg => exact Body.nop s _ _ _
    | store hn => exact Body.slot _ _ (quiet_setRow s mag0 packet v.raw hn) rfl
  · exact Body.slot _ _ (quiet_setRp_page s mag0 _ rfl (by simp)) rfl

/-- **X/26** of magazine `mag0`: a `Body`, or the `vbi_teletext_desync` of packet.c:2642 -/
theorem process26_body (s : St) (mag0 : Nat) (v : View) :
    Body s mag0 (ViewOk v) (process26 s mag0 v) ∨
      (process26 s mag0 v = ⟨desync s, [], true⟩ ∧ X26Desync (s.rp mag0).page.function) := by
  refine process26_elim (p := fun r => Body s mag0 (ViewOk v) r ∨ (r = ⟨desync s, [], true⟩ ∧ _)) s mag0 v
    (fun _ => .inl (Body.nop ..))
    (fun _ => .inl ⟨Quiet.refl s _, Looks.refl _, _, rfl, fun hv => parsePop_nofault v 26 hv (by omega)⟩)
    (fun hd => .inr ⟨rfl, hd⟩) (fun _ => .inl (Body.nop ..))
    (fun _ _ _ => .inl (Body.slot _ _ (quiet_setRp_page s mag0 _ rfl rfl) rfl)) fun d _ hnt h208 => ?_
  exact .inl ⟨quiet_setRp s mag0 _ rfl rfl rfl rfl rfl (fun h => ⟨h, rfl⟩) id, Looks.refl _, _, rfl,
    fun _ => x26_enh_index_in_range v _ (d * 13) h208 d rfl⟩

theorem parse27_quiet (s : St) (mag0 : Nat) (v : View) :
    Quiet s (s.setPage mag0 (parse27 (s.rp mag0).page v mag0).1) mag0 := by
  obtain ⟨a, b, c, d, e⟩ := parse27_same (s.rp mag0).page v mag0
  exact quiet_setPage s mag0 _ d b c (by rw [e]) a (fun _ => e)

theorem selectExt_same (s : St) (mag0 mag8 packet d : Nat) :
    (selectExt s mag0 mag8 packet d).2.function = (s.rp mag0).page.function
    ∧ (selectExt s mag0 mag8 packet d).2.pgno = (s.rp mag0).page.pgno
    ∧ (selectExt s mag0 mag8 packet d).2.subno = (s.rp mag0).page.subno
    ∧ (selectExt s mag0 mag8 packet d).2.flags = (s.rp mag0).page.flags
    ∧ (selectExt s mag0 mag8 packet d).2.raw = (s.rp mag0).page.raw := by
  unfold selectExt
  simp only []
  split
  · split <;> exact ⟨rfl, rfl, rfl, rfl, rfl⟩
  · exact ⟨rfl, rfl, rfl, rfl, rfl⟩

/-- the extension data goes to the page's copy (X/28) or the magazine's (M/29) -/
theorem storeExt_quiet (s : St) (mag0 mag8 packet d : Nat) (ext : Ext) :
    Quiet s (storeExt s mag0 mag8 packet (selectExt s mag0 mag8 packet d).2 ext) mag0
    ∧ (storeExt s mag0 mag8 packet (selectExt s mag0 mag8 packet d).2 ext).net.cache = s.net.cache := by
  obtain ⟨a, b, c, d, e⟩ := selectExt_same s mag0 mag8 packet d
  unfold storeExt
  split
  · exact ⟨quiet_setPage s mag0 _ d b c (by show (selectExt ..).2.raw.length = _; rw [e]) a (fun _ => e), rfl⟩
  · exact ⟨quiet_setMag s mag0 mag8 _, rfl⟩

/-- **X/28 and M/29** of magazine `mag0`, by what `parse_28_29` decided to do -/
theorem parse2829_body (s : St) (mag0 mag8 packet : Nat) (v : View) :
    Body s mag0 (v.u24.length = 13) ⟨(parse2829 s mag0 mag8 packet v).1, liftAux (parse2829 s mag0 mag8 packet v).2.1,
      (parse2829 s mag0 mag8 packet v).2.2⟩ := by
  have hq : Quiet s (parse2829 s mag0 mag8 packet v).1 mag0 ∧ Looks s.net (parse2829 s mag0 mag8 packet v).1.net := by
    unfold parse2829
    simp only []
    refine x28Decide_elim _ packet v (fun _ => ⟨Quiet.refl s _, Looks.refl _⟩)
      (fun _ => ⟨(storeExt_quiet ..).1, Looks.of_eq (storeExt_quiet ..).2⟩)
      ⟨(storeExt_quiet ..).1, Looks.of_eq (storeExt_quiet ..).2⟩ fun _ _ fn m _ _ => ⟨fun hu hfn => ?_, ?_, ?_⟩
    · -- only a page of unknown function becomes a (G)DRCS page: it was no text page and is none now
      refine ⟨?_, Looks.refl _⟩
      unfold St.setPage
      refine quiet_setRp s mag0 _ rfl rfl rfl rfl rfl (fun h => ?_) fun _ => by rw [hu]; decide
      have h : (fn : Int) = FN_LOP := h
      rcases hfn with e | e <;> rw [e] at h <;> exact absurd h (by decide)
    · exact ⟨quiet_setPage s mag0 _ rfl rfl rfl rfl rfl (fun _ => rfl), Looks.refl _⟩
    · refine ⟨?_, Looks.refl _⟩
      unfold St.setPage
      exact quiet_setRp s mag0 _ rfl rfl rfl rfl rfl (fun h => absurd (show FN_DISCARD = FN_LOP from h) (by decide))
        (fun h => absurd rfl h)
  exact ⟨hq.1, hq.2, _, rfl, x28_bits_within_13_triplets s mag0 mag8 packet v⟩

/-- **8/30**: the initial page of the network record, or nothing -/
theorem parse830_body (s : St) (v : View) (m : Nat) (ok : Prop) : Body s m ok ⟨(parse830 s v).1, [], (parse830 s v).2⟩ := by
  unfold parse830
  split
  · exact Body.nop ..
  · split
    · exact Body.nop ..
    · split
      · split
        · exact Body.nop ..
        · exact Body.net s m _ [] _ (Looks.of_eq rfl) fun _ => NoFault.nil
      · exact Body.nop ..

/-- **every packet but a page header** (`packet ≠ 0` in the decoded address `pmag`) -/
theorem process_body (s : St) (pmag : Nat) (v : View) (h0 : pmag >>> 3 ≠ 0) :
    (Body s (pmag &&& 7) (ViewOk v ∧ v.u24.length = 13) (process s pmag v).1 ∨
      ((process s pmag v).1 = ⟨desync s, [], true⟩ ∧ pmag >>> 3 = 26 ∧ s.mask = true
        ∧ X26Desync (s.rp (pmag &&& 7)).page.function))
    ∧ (process s pmag v).2 = false := by
  refine process_elim s pmag v ⟨.inl (Body.nop ..), rfl⟩ (fun h => absurd h h0) (fun _ h25 => ?_) (fun h26 hm => ?_)
    (fun _ _ => ⟨.inl (Body.slot _ _ (parse27_quiet s (pmag &&& 7) v) rfl), rfl⟩)
    (fun _ _ => ⟨.inl ((parse2829_body s (pmag &&& 7) _ (pmag >>> 3) v).mono And.right), rfl⟩)
    (fun _ => ⟨.inl (parse830_body ..), rfl⟩)
  · exact ⟨.inl ((processRow_body s _ _ _ v).mono fun h => ⟨h.1, h25⟩), rfl⟩
  · exact ⟨(process26_body s (pmag &&& 7) v).imp (·.mono And.left) fun h => ⟨h.1, h26, hm, h.2⟩, rfl⟩

theorem decode_nonhdr (s : St) (p : Packet) (pmag : Nat) (ha : a16 p 0 = some pmag) (h0 : pmag >>> 3 ≠ 0) :
    Body s (pmag &&& 7) True (decodeTeletext s p) ∨
      (decodeTeletext s p = ⟨desync s, [], true⟩ ∧ pmag >>> 3 = 26 ∧ s.mask = true
        ∧ X26Desync (s.rp (pmag &&& 7)).page.function) := by
  rw [decode_eq_process s p pmag ha h0]
  exact (process_body s pmag _ h0).1.imp_left (·.mono fun _ => ⟨view_ok _ _, view_u24_length _ _⟩)

theorem decode_quiet (s : St) (p : Packet) (pmag : Nat) (ha : a16 p 0 = some pmag) (h0 : pmag >>> 3 ≠ 0) :
    (Quiet s (decodeTeletext s p).st (pmag &&& 7) ∨
      ((decodeTeletext s p).st = desync s ∧ pmag >>> 3 = 26 ∧ s.mask = true ∧ X26Desync (s.rp (pmag &&& 7)).page.function))
    ∧ Silent (decodeTeletext s p).ev := by
  rcases decode_nonhdr s p pmag ha h0 with h | h
  · exact ⟨.inl h.quiet, h.silent⟩
  · rw [h.1]; exact ⟨.inr ⟨rfl, h.2⟩, Silent.nil⟩

end Zvbi.Ttx
