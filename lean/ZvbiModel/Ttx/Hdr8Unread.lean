import ZvbiModel.Ttx.Model
/-!
# `raw[0][0..7]` - the verbatim copy of the 8 Hamming bytes of a header - is not read by `store_lop`

`memcpy (raw[0], p, 40)` stores the header's 8 Hamming protected bytes as received.  The readers of
`raw[0]` in the decoder are `same_header` (columns 8..33), `same_clock` (columns 32..39 as intended;
columns 0..7 as written, finding F24 - compared with `vt.header[0..7]`, which is never written and
stays 0, a byte of even parity, so the comparison never fires) and the header copy (columns 8..39).
`withHdr8 vtp h8`: the page with other bytes in `raw[0][0..7]`; `RefHdrQuiet`: the reference header's first 8 bytes have
even parity; `hdrVerdict_withHdr8`: the verdict of the rolling-header test is the same for both pages.  `fmtRaw_cell`: the
character code the formatter works on, outside those 8 bytes.
-/
namespace Zvbi.Ttx
open Zvbi.Hamm Zvbi.Gen

/-- two rows that agree from column 8 on -/
def Tail8Eq (a b : List Nat) : Prop := ∀ i, 8 ≤ i → a.getD i 0 = b.getD i 0

theorem sameHeader_go_congr (cur cur' ref ref' : List Nat) (hc : Tail8Eq cur cur') (hr : Tail8Eq ref ref')
    (b0 b1 b2 : Nat) : ∀ fuel i j err neq, 8 ≤ i →
    sameHeader.go cur ref b0 b1 b2 fuel i j err neq = sameHeader.go cur' ref' b0 b1 b2 fuel i j err neq := by
  intro fuel
  induction fuel with
  | zero => intro i j err neq _; rfl
  | succ n ih =>
    intro i j err neq hi
    unfold sameHeader.go
    rw [hc i hi, hc (i + 1) (by omega), hc (i + 2) (by omega), hr i hi]
    split
    · rfl
    · split
      · exact ih _ _ _ _ (by omega)
      · exact ih _ _ _ _ (by omega)

theorem sameHeader_congr (pg : Nat) (cur cur' ref ref' : List Nat) (hc : Tail8Eq cur cur') (hr : Tail8Eq ref ref') :
    sameHeader pg cur ref = sameHeader pg cur' ref' := by
  unfold sameHeader
  simp only []
  rw [sameHeader_go_congr cur cur' ref ref' hc hr _ _ _ 32 8 29 false false (Nat.le_refl 8)]

/-- the reference header's first 8 bytes never have odd parity (`vt.header[0..7]` is never written: 0) -/
def RefHdrQuiet (ref : List Nat) : Prop := ∀ i, i < 8 → oddPar (ref.getD i 0) = false

theorem sameClock_congr (cur cur' ref : List Nat) (hc : Tail8Eq cur cur') (hq : RefHdrQuiet ref) :
    sameClock cur ref = sameClock cur' ref := by
  unfold sameClock
  have gen : ∀ l : List Nat, (∀ i ∈ l, i < 8) →
      (l.all fun i =>
        let k := if ttxFixF24 then 32 + i else i
        let c := cur.getD k 0
        let r := ref.getD k 0
        !(c != r && (oddPar c && oddPar r))) =
      (l.all fun i =>
        let k := if ttxFixF24 then 32 + i else i
        let c := cur'.getD k 0
        let r := ref.getD k 0
        !(c != r && (oddPar c && oddPar r))) := by
    intro l
    induction l with
    | nil => intro _; rfl
    | cons i l ih =>
      intro hl
      have hi8 : i < 8 := hl i List.mem_cons_self
      simp only [List.all_cons]
      rw [ih (fun j hj => hl j (List.mem_cons_of_mem _ hj))]
      congr 1
      by_cases hf : ttxFixF24 = true
      · simp only [hf, if_true]
        rw [hc (32 + i) (by omega)]
      · have hf' : ttxFixF24 = false := by simpa using hf
        simp only [hf', Bool.false_eq_true, if_false]
        rw [hq i hi8]
        simp
  exact gen (List.range 8) (fun i hi => by simpa using hi)

/-- the page with other bytes `h8` in `raw[0][0..7]` (what `patchHdr8` writes) -/
def withHdr8 (vtp : Page) (h8 : List Nat) : Page :=
  { vtp with raw := vtp.raw.set 0 (h8 ++ (vtp.raw.getD 0 zeroRow).drop 8) }

theorem getD_patch8 (h8 l : List Nat) (hl : h8.length = 8) (i : Nat) (hi : 8 ≤ i) :
    (h8 ++ l.drop 8).getD i 0 = l.getD i 0 := by
  simp only [List.getD_eq_getElem?_getD]
  rw [List.getElem?_append_right (by omega), hl, List.getElem?_drop]
  congr 2
  omega

theorem withHdr8_row0 (vtp : Page) (h8 : List Nat) (hne : vtp.raw ≠ []) :
    (withHdr8 vtp h8).raw.getD 0 zeroRow = h8 ++ (vtp.raw.getD 0 zeroRow).drop 8 := by
  unfold withHdr8
  cases hr : vtp.raw with
  | nil => exact absurd hr hne
  | cons a l => simp

theorem fmtRaw_cell (pg : Page) (row column : Nat) (h : ¬ (row = 0 ∧ column < 8)) :
    fmtRaw pg row column =
      match unpar8 ((pg.raw.getD row zeroRow).getD column 0) with
      | some c => c
      | none => 0x20 := by
  unfold fmtRaw
  have : (row == 0 && decide (column < 8)) = false := by
    simp only [Bool.and_eq_false_imp, beq_iff_eq, decide_eq_false_iff_not]
    intro h0 h1; exact h ⟨h0, h1⟩
  rw [this]; simp only [Bool.false_eq_true, if_false]
  rfl

theorem withHdr8_tail (vtp : Page) (h8 : List Nat) (hl : h8.length = 8) (hne : vtp.raw ≠ []) :
    Tail8Eq ((withHdr8 vtp h8).raw.getD 0 zeroRow) (vtp.raw.getD 0 zeroRow) := by
  intro i hi
  rw [withHdr8_row0 vtp h8 hne]
  exact getD_patch8 h8 _ hl i hi

theorem hdrVerdict_withHdr8 (s : St) (vtp : Page) (h8 : List Nat) (hl : h8.length = 8) (hne : vtp.raw ≠ [])
    (hq : RefHdrQuiet s.header) : hdrVerdict s (withHdr8 vtp h8) = hdrVerdict s vtp := by
  have ht := withHdr8_tail vtp h8 hl hne
  have hself : Tail8Eq s.header s.header := fun _ _ => rfl
  unfold hdrVerdict
  have e1 : (withHdr8 vtp h8).flags = vtp.flags := rfl
  have e2 : (withHdr8 vtp h8).pgno = vtp.pgno := rfl
  simp only [e1, e2]
  rw [sameHeader_congr vtp.pgno _ _ _ _ ht ht, sameHeader_congr vtp.pgno _ _ s.header s.header ht hself,
    sameClock_congr _ _ s.header ht hq]

end Zvbi.Ttx
