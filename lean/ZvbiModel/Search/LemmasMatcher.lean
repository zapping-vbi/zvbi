import ZvbiModel.Search.Matcher
/-!
# The literal matcher of the correspondence (`exactLit`) is a leftmost substring search (C17)
-/
namespace Zvbi.Search

/-- `pat` occurs in `text` at offset `k` -/
def OccursAt (pat text : List Nat) (k : Nat) : Prop := isPrefix pat (text.drop k) = true

theorem exactGo_spec (pat : List Nat) : ∀ (text : List Nat) (idx : Nat),
    match exactGo pat text idx with
    | some (ms, me) => ∃ k, k < text.length ∧ ms = idx + k ∧ me = ms + pat.length ∧ OccursAt pat text k ∧
        ∀ j, j < k → ¬ OccursAt pat text j
    | none => ∀ j, j < text.length → ¬ OccursAt pat text j := by
  intro text
  induction text with
  | nil => intro idx; simp [exactGo]
  | cons ch rest ih =>
    intro idx
    unfold exactGo
    by_cases hp : isPrefix pat (ch :: rest) = true
    · simp only [hp, if_true]
      exact ⟨0, by simp, by omega, trivial, by simpa [OccursAt] using hp, fun j hj => by omega⟩
    · simp only [hp]
      have := ih (idx + 1)
      cases hr : exactGo pat rest (idx + 1) with
      | none =>
        rw [hr] at this
        intro j hj
        cases j with
        | zero => simpa [OccursAt] using hp
        | succ j => simpa [OccursAt] using this j (by simpa using hj)
      | some mm =>
        obtain ⟨ms, me⟩ := mm
        rw [hr] at this
        obtain ⟨k, hk, h1, h2, h3, h4⟩ := this
        refine ⟨k + 1, by simpa using hk, by omega, h2, by simpa [OccursAt] using h3, ?_⟩
        intro j hj
        cases j with
        | zero => simpa [OccursAt] using hp
        | succ j => simpa [OccursAt] using h4 j (by omega)

/-- `exactLit`: the leftmost occurrence of the (case folded) pattern in the (case folded) text, or `none` when it
    does not occur at all -/
theorem exactLit_spec (cf : Bool) (pat : List Nat) (hne : pat ≠ []) (f : Flags) (text : List Nat) :
    match exactLit cf pat f text with
    | some (ms, me) => ms < text.length ∧ me = ms + pat.length ∧
        OccursAt (pat.map (foldc cf)) (text.map (foldc cf)) ms ∧
        ∀ j, j < ms → ¬ OccursAt (pat.map (foldc cf)) (text.map (foldc cf)) j
    | none => ∀ j, j < text.length → ¬ OccursAt (pat.map (foldc cf)) (text.map (foldc cf)) j := by
  unfold exactLit
  have he : pat.isEmpty = false := by cases pat <;> simp_all
  simp only [he, Bool.false_eq_true, if_false]
  have := exactGo_spec (pat.map (foldc cf)) (text.map (foldc cf)) 0
  cases hr : exactGo (pat.map (foldc cf)) (text.map (foldc cf)) 0 with
  | none => rw [hr] at this; simpa using this
  | some mm =>
    obtain ⟨ms, me⟩ := mm
    rw [hr] at this
    obtain ⟨k, hk, h1, h2, h3, h4⟩ := this
    have : ms = k := by omega
    subst this
    exact ⟨by simpa using hk, by simpa using h2, h3, h4⟩

end Zvbi.Search
