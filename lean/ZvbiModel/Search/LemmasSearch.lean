import ZvbiModel.Search.LemmasFactor
/-!
# `vbi_search_next` through the walk refinement; the cache between two calls (C17)
-/
namespace Zvbi.Search

theorem dirOf_cases (d : Int) : dirOf d = 1 ∨ dirOf d = -1 := by
  unfold dirOf; split <;> simp

/-- `vbi_search_next` on a non-empty cache: the status of the fold of the page callback over the walk positions from the
    prepared start position, in the context the fold leaves (direction reset behind NOT_FOUND) -/
theorem searchNext_run (sh : Shape) (exec : Exec) (c : Cache) (s : SearchSt) (d : Int) (hne : c.nCached ≠ 0)
    (hp : PgOk (prepare sh s d).startPgno) (hok : StartOk sh c (prepare sh s d).startPgno) :
    (searchNext sh exec walkFuel c s d).res =
      statusOf (runPos (callbackOf sh exec d) c
        (walkPositions sh c (prepare sh s d).startPgno (prepare sh s d).startSubno (dirOf d)) (prepare sh s d)).1 ∧
    (searchNext sh exec walkFuel c s d).st =
      (let r := runPos (callbackOf sh exec d) c
        (walkPositions sh c (prepare sh s d).startPgno (prepare sh s d).startSubno (dirOf d)) (prepare sh s d)
       if r.1 = -1 then { r.2 with dir := 0 } else r.2) := by
  unfold searchNext
  obtain ⟨h1, h2⟩ := walk_factors sh (callbackOf sh exec d) c (prepare sh s d) (prepare sh s d).startPgno (prepare sh s d).startSubno
    (dirOf d) hne hp (dirOf_cases d)
  rw [walkRun_eq_runPos _ _ _ _ _ _ _ hp hok] at h1 h2
  simp only [h1, h2, and_self]

theorem searchNext_empty (sh : Shape) (exec : Exec) (c : Cache) (s : SearchSt) (d : Int) (h0 : c.nCached = 0) :
    (searchNext sh exec walkFuel c s d).res = .ret SEARCH_CACHE_EMPTY := by
  rw [searchNext, walk_eq, if_pos h0]; rfl

/-- the statuses are pairwise different, so a status names the return value of the walk -/
theorem statusOf_success {r : Int} (h : statusOf r = .ret SEARCH_SUCCESS) : r = 1 := by
  by_cases h1 : r = 1
  · exact h1
  · rw [statusOf, if_neg h1] at h
    repeat' split at h
    all_goals exact absurd h (by decide)

theorem statusOf_not_found {r : Int} (h : statusOf r = .ret SEARCH_NOT_FOUND) : r = -1 := by
  by_cases h1 : r = -1
  · exact h1
  · unfold statusOf at h
    repeat' split at h
    all_goals first | exact absurd ‹r = -1› h1 | exact absurd h (by decide)

/-- a call on a prepared context that answers SUCCESS: the fold over the walk positions ended with 1 in the context the
    call leaves -/
theorem searchNext_success_run (sh : Shape) (exec : Exec) (c : Cache) (s : SearchSt) (d : Int)
    (hprep : prepare sh s d = s) (hp : PgOk s.startPgno) (hok : StartOk sh c s.startPgno)
    (h : (searchNext sh exec walkFuel c s d).res = .ret SEARCH_SUCCESS) :
    runPos (callbackOf sh exec d) c (walkPositions sh c s.startPgno s.startSubno (dirOf d)) s =
      (1, (searchNext sh exec walkFuel c s d).st) := by
  have hne : c.nCached ≠ 0 := by
    intro h0; rw [searchNext_empty sh exec c s d h0] at h; revert h; decide
  obtain ⟨hres, hst⟩ := searchNext_run sh exec c s d hne (by rw [hprep]; exact hp) (by rw [hprep]; exact hok)
  rw [hprep] at hres hst
  rw [hres] at h
  have hr1 := statusOf_success h
  rw [hst]
  exact Prod.ext hr1 (by simp [hr1])

theorem searchNext_not_found_run (sh : Shape) (exec : Exec) (c : Cache) (s : SearchSt) (d : Int)
    (hprep : prepare sh s d = s) (hp : PgOk s.startPgno) (hok : StartOk sh c s.startPgno)
    (h : (searchNext sh exec walkFuel c s d).res = .ret SEARCH_NOT_FOUND) :
    ∃ sf, runPos (callbackOf sh exec d) c (walkPositions sh c s.startPgno s.startSubno (dirOf d)) s = (-1, sf) := by
  have hne : c.nCached ≠ 0 := by
    intro h0; rw [searchNext_empty sh exec c s d h0] at h; revert h; decide
  rw [(searchNext_run sh exec c s d hne (by rw [hprep]; exact hp) (by rw [hprep]; exact hok)).1, hprep] at h
  exact ⟨_, Prod.ext (statusOf_not_found h) rfl⟩

theorem prepare_same (sh : Shape) {s : SearchSt} {d : Int} (h : s.dir = dirOf d) : prepare sh s d = s := by
  have h0 : s.dir ≠ 0 := by rw [h]; unfold dirOf; split <;> decide
  unfold prepare
  rw [if_neg h0, if_neg (fun hne => hne h.symm)]

/-- `vbi_search_next` prepares the context first; a prepared context is left as it is -/
theorem prepare_idem (sh : Shape) (s : SearchSt) (d : Int) : prepare sh (prepare sh s d) d = prepare sh s d := by
  apply prepare_same
  unfold prepare
  dsimp only
  by_cases h0 : s.dir = 0
  · rw [if_pos h0]; split <;> rfl
  · rw [if_neg h0]
    by_cases h1 : dirOf d ≠ s.dir
    · rw [if_pos h1]
    · rw [if_neg h1]; exact (Decidable.not_not.mp h1).symm

theorem searchNext_prepare (sh : Shape) (exec : Exec) (fuel : Nat) (c : Cache) (s : SearchSt) (d : Int) :
    searchNext sh exec fuel c s d = searchNext sh exec fuel c (prepare sh s d) d := by
  unfold searchNext; rw [prepare_idem]

theorem walk_cache_equiv {σ : Type} (sh : Shape) (cb : Callback σ) (c c0 : Cache) (fuel : Nat) (s : σ) (p sub dir : Int)
    (h : Equiv c c0) : Equiv c (walk sh cb fuel c0 s p sub dir).cache := by
  rw [walk_eq]
  split
  · exact h
  · split
    · exact getStart_equiv h sh p sub
    · exact (loop_factors cb c dir fuel _ s p _ false _ (getStart_equiv h sh p sub)).1

/-- **the cache a `vbi_search_next` leaves behind answers every exact look-up as the one it got** (only the order of
    the hash chains changes); any direction, any context -/
theorem searchNext_cache_equiv (sh : Shape) (exec : Exec) (fuel : Nat) (c c0 : Cache) (s : SearchSt) (d : Int)
    (h : Equiv c c0) : Equiv c (searchNext sh exec fuel c0 s d).cache := by
  unfold searchNext
  have hw := walk_cache_equiv sh (callbackOf sh exec d) c c0 fuel (prepare sh s d) (prepare sh s d).startPgno
    (prepare sh s d).startSubno (dirOf d) h
  simp only
  split <;> exact hw

theorem callbackOf_fwd (sh : Shape) (exec : Exec) {d : Int} (hd : d > 0) : callbackOf sh exec d = pageFwd sh exec := by
  unfold callbackOf; simp [hd]

theorem callbackOf_rev (sh : Shape) (exec : Exec) : callbackOf sh exec (-1) = pageRev sh exec := by
  unfold callbackOf; simp

/-- only the sign of the direction argument matters -/
theorem prepare_pos (sh : Shape) (s : SearchSt) {d : Int} (hd : d > 0) : prepare sh s d = prepare sh s 1 := by
  unfold prepare; rw [show dirOf d = dirOf 1 by unfold dirOf; simp [hd]]

theorem searchNext_pos (sh : Shape) (exec : Exec) (fuel : Nat) (c : Cache) (s : SearchSt) {d : Int} (hd : d > 0) :
    searchNext sh exec fuel c s d = searchNext sh exec fuel c s 1 := by
  unfold searchNext
  rw [prepare_pos sh s hd, show dirOf d = dirOf 1 by unfold dirOf; simp [hd], callbackOf_fwd sh exec hd,
    callbackOf_fwd sh exec (by decide : (1 : Int) > 0)]

end Zvbi.Search
