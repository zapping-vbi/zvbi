import ZvbiModel.Search.Model
/-!
# The inner `while` loop of the page walk `_vbi_cache_foreach_page` (C17)

`skip` always ends within `skipFuel` and lands on the next page number whose statistics window is non-empty.
The walk has one program for both directions.  `Dir` names the direction; `Dir.Before` is the order of page numbers
and of sub-page numbers in walking direction, `Dir.edge` the first sub-page number of a statistics window
(`subno_min` forward, `subno_max` backward), `Dir.first` the page number a sweep begins with.  `Dir.skip_spec` says
what the inner loop returns, once for both.
-/
namespace Zvbi.Search

def PgOk (p : Int) : Prop := 0x100 ≤ p ∧ p ≤ 0x8FF

/-- the statistics of page `q` admit some sub-page number -/
def Active (c : Cache) (q : Int) : Prop :=
  (c.stat q).nSub ≠ 0 ∧ (c.stat q).subMin.toNat ≤ (c.stat q).subMax.toNat

theorem inRange_iff (st : Stat) (s : Int) :
    inRange st s = true ↔ st.nSub ≠ 0 ∧ (st.subMin.toNat : Int) ≤ s ∧ s ≤ (st.subMax.toNat : Int) := by
  simp [inRange, and_assoc]

theorem inRange_bounds {st : Stat} {s : Int} (h : inRange st s = true) : 0 ≤ s ∧ s ≤ 0xFFFF := by
  rw [inRange_iff] at h
  have := st.subMax.toNat_lt
  omega

theorem active_of_inRange {c : Cache} {q t : Int} (h : inRange (c.stat q) t = true) : Active c q := by
  unfold Active
  rw [inRange_iff] at h
  exact ⟨h.1, by omega⟩

theorem active_iff_min {c : Cache} {q : Int} : Active c q ↔ inRange (c.stat q) (c.stat q).subMin.toNat = true := by
  unfold Active
  rw [inRange_iff]
  constructor
  · intro h; exact ⟨h.1, by omega, by omega⟩
  · intro h; exact ⟨h.1, by omega⟩

theorem active_iff_max {c : Cache} {q : Int} : Active c q ↔ inRange (c.stat q) (c.stat q).subMax.toNat = true := by
  unfold Active
  rw [inRange_iff]
  constructor
  · intro h; exact ⟨h.1, by omega, by omega⟩
  · intro h; exact ⟨h.1, by omega⟩

/-- a position the inner loop hands to the look-up: inside the statistics window, or (the clamp of ed2772e) the first
    sub-page number of the window in walking direction.  With `subno_min <= subno_max` both are inside the window. -/
def Landed (st : Stat) (s : Int) : Prop :=
  st.nSub ≠ 0 ∧ (inRange st s = true ∨ s = (st.subMin.toNat : Int) ∨ s = (st.subMax.toNat : Int))

theorem landed_bounds {st : Stat} {s : Int} (h : Landed st s) : 0 ≤ s ∧ s ≤ 0xFFFF := by
  obtain ⟨_, h | h | h⟩ := h
  · exact inRange_bounds h
  · have := st.subMin.toNat_lt; omega
  · have := st.subMax.toNat_lt; omega

theorem landed_of_inRange {st : Stat} {s : Int} (h : inRange st s = true) : Landed st s :=
  ⟨((inRange_iff _ _).mp h).1, Or.inl h⟩

theorem landed_inRange {st : Stat} {s : Int} (hmm : st.subMin.toNat ≤ st.subMax.toNat) (h : Landed st s) :
    inRange st s = true := by
  obtain ⟨h0, h | h | h⟩ := h
  · exact h
  · rw [inRange_iff]; exact ⟨h0, by omega, by omega⟩
  · rw [inRange_iff]; exact ⟨h0, by omega, by omega⟩

/-- the forward inner loop moves on to the next page number: nothing cached under this number, or the position
    is behind the window (a position before the window is clamped to `subno_min` instead) -/
def LeaveF (c : Cache) (p s : Int) : Prop :=
  (c.stat p).nSub = 0 ∨ (((c.stat p).subMin.toNat : Int) ≤ s ∧ ((c.stat p).subMax.toNat : Int) < s)

/-- mirror image for the backward loop -/
def LeaveB (c : Cache) (p s : Int) : Prop :=
  (c.stat p).nSub = 0 ∨ (s ≤ ((c.stat p).subMax.toNat : Int) ∧ s < ((c.stat p).subMin.toNat : Int))

theorem leaveF_not_inRange {c : Cache} {p s : Int} (h : LeaveF c p s) : inRange (c.stat p) s = false := by
  cases hin : inRange (c.stat p) s with
  | false => rfl
  | true => rw [inRange_iff] at hin; rcases h with h | h
            · exact absurd h hin.1
            · omega

theorem leaveB_not_inRange {c : Cache} {p s : Int} (h : LeaveB c p s) : inRange (c.stat p) s = false := by
  cases hin : inRange (c.stat p) s with
  | false => rfl
  | true => rw [inRange_iff] at hin; rcases h with h | h
            · exact absurd h hin.1
            · omega

/-- in particular at the edge of the window, which is in range exactly when the page is active -/
theorem leaveF_min_not_active {c : Cache} {q : Int} (h : LeaveF c q (c.stat q).subMin.toNat) : ¬ Active c q := by
  rw [active_iff_min, leaveF_not_inRange h]; exact Bool.false_ne_true

theorem leaveB_max_not_active {c : Cache} {q : Int} (h : LeaveB c q (c.stat q).subMax.toNat) : ¬ Active c q := by
  rw [active_iff_max, leaveB_not_inRange h]; exact Bool.false_ne_true

/-- the direction of a walk (`_vbi_cache_foreach_page`) and of a search pass (`vbi_search_next`) -/
inductive Dir | fwd | rev

namespace Dir

/-- the direction as the walk and `vbi_search_next` take it -/
def int : Dir → Int | fwd => 1 | rev => -1
/-- `a` comes before `b` in walking direction (page numbers, sub-page numbers) -/
def Before : Dir → Int → Int → Prop | fwd => fun a b => a < b | rev => fun a b => b < a
/-- the first sub-page number of a statistics window in walking direction -/
def edge : Dir → Stat → Int | fwd => fun st => st.subMin.toNat | rev => fun st => st.subMax.toNat
/-- the page number a sweep begins with -/
def first : Dir → Int | fwd => 0x100 | rev => 0x8FF
def Leave : Dir → Cache → Int → Int → Prop | fwd => LeaveF | rev => LeaveB

instance (d : Dir) (a b : Int) : Decidable (d.Before a b) := by cases d <;> exact inferInstanceAs (Decidable (_ < _))
instance (p : Int) : Decidable (PgOk p) := inferInstanceAs (Decidable (_ ∧ _))

theorem of_int {dir : Int} (h : dir = 1 ∨ dir = -1) : ∃ d : Dir, dir = d.int := by
  rcases h with rfl | rfl
  · exact ⟨fwd, rfl⟩
  · exact ⟨rev, rfl⟩

theorem before_irrefl (d : Dir) (a : Int) : ¬ d.Before a a := by cases d <;> exact Int.lt_irrefl a

theorem before_asymm (d : Dir) {a b : Int} (h : d.Before a b) : ¬ d.Before b a := by
  cases d <;> simp only [Before] at * <;> omega

theorem before_trans (d : Dir) {a b c : Int} (h1 : d.Before a b) (h2 : d.Before b c) : d.Before a c := by
  cases d <;> simp only [Before] at * <;> omega

theorem before_total (d : Dir) (a b : Int) : a = b ∨ d.Before a b ∨ d.Before b a := by
  cases d <;> simp only [Before] <;> omega

theorem before_next (d : Dir) (p : Int) :
    d.Before p (p + d.int) ∧ ∀ q, d.Before p q → q = p + d.int ∨ d.Before (p + d.int) q := by
  cases d <;> simp only [Before, int] <;> exact ⟨by omega, fun q h => by omega⟩

theorem pgOk_first (d : Dir) : PgOk d.first := by cases d <;> exact ⟨by decide, by decide⟩

theorem before_end (d : Dir) {p : Int} (hp : PgOk p) (he : ¬ PgOk (p + d.int)) :
    (∀ q, d.Before p q → ¬ PgOk q) ∧ ∀ q, PgOk q → q = d.first ∨ d.Before d.first q := by
  unfold PgOk at *
  cases d <;> simp only [Before, int, first] at * <;> exact ⟨fun q h => by omega, fun q hq => by omega⟩

theorem landed_edge (d : Dir) {st : Stat} (h0 : st.nSub ≠ 0) : Landed st (d.edge st) := by
  cases d
  · exact ⟨h0, Or.inr (Or.inl rfl)⟩
  · exact ⟨h0, Or.inr (Or.inr rfl)⟩

theorem leave_of (d : Dir) {c : Cache} {p s : Int} (hin : inRange (c.stat p) s = false)
    (hcl : ¬ ((c.stat p).nSub ≠ 0 ∧ d.Before s (d.edge (c.stat p)))) : d.Leave c p s := by
  by_cases h0 : (c.stat p).nSub = 0
  · cases d <;> exact Or.inl h0
  · have h1 : ¬ d.Before s (d.edge (c.stat p)) := fun h => hcl ⟨h0, h⟩
    have h2 : ¬ (((c.stat p).subMin.toNat : Int) ≤ s ∧ s ≤ ((c.stat p).subMax.toNat : Int)) := by
      intro h; rw [(inRange_iff _ _).mpr ⟨h0, h.1, h.2⟩] at hin; cases hin
    cases d <;> simp only [Before, edge] at h1 <;> right <;> omega

theorem leave_edge_not_active (d : Dir) {c : Cache} {q : Int} (h : d.Leave c q (d.edge (c.stat q))) : ¬ Active c q := by
  cases d
  · exact leaveF_min_not_active h
  · exact leaveB_max_not_active h

/-- where the inner loop, started at `(p, s, w)`, lands -/
inductive Lands (d : Dir) (c : Cache) (p s : Int) (w : Bool) : Int → Int → Bool → Prop
  /-- the position is inside the window of its page -/
  | stay : inRange (c.stat p) s = true → Lands d c p s w p s w
  /-- before the window of its page: the window's first sub-page number (ed2772e) -/
  | clamp : (c.stat p).nSub ≠ 0 → d.Before s (d.edge (c.stat p)) → Lands d c p s w p (d.edge (c.stat p)) w
  /-- the next page number of this sweep with a non-empty window -/
  | next {p' : Int} : d.Leave c p s → d.Before p p' → inRange (c.stat p') (d.edge (c.stat p')) = true →
      (∀ q, d.Before p q → d.Before q p' → ¬ Active c q) → Lands d c p s w p' (d.edge (c.stat p')) w
  /-- none left in this sweep: the first one of the wrapped sweep -/
  | wrap {p' : Int} : d.Leave c p s → w = false → inRange (c.stat p') (d.edge (c.stat p')) = true →
      (∀ q, d.Before p q → PgOk q → ¬ Active c q) → (∀ q, PgOk q → d.Before q p' → ¬ Active c q) →
      Lands d c p s w p' (d.edge (c.stat p')) true

/-- what the inner loop returns: -1 when no page number with a non-empty window is left, or where it lands -/
def SkipSpec (d : Dir) (c : Cache) (p s : Int) (w : Bool) : Option (Int × Int × Bool) → Prop
  | none =>
      d.Leave c p s ∧ (∀ q, d.Before p q → PgOk q → ¬ Active c q) ∧ (w = false → ∀ q, PgOk q → ¬ Active c q)
  | some (p', s', w') => PgOk p' ∧ Landed (c.stat p') s' ∧ d.Lands c p s w p' s' w'

/-- page numbers still ahead in this sweep, plus a whole sweep while not wrapped -/
def skipMeas : Dir → Int → Bool → Nat
  | fwd => fun p w => (if w then 0 else 0x800) + (0x8FF - p).toNat
  | rev => fun p w => (if w then 0 else 0x800) + (p - 0x100).toNat

theorem skipMeas_lt (d : Dir) {p : Int} (hp : PgOk p) (w : Bool) : d.skipMeas p w < skipFuel := by
  unfold skipFuel PgOk at *
  cases d <;> cases w <;> simp [skipMeas] <;> omega

theorem skipMeas_next (d : Dir) {p : Int} {w : Bool} {n : Nat} (hp : PgOk p) (hm : d.skipMeas p w < n + 1) :
    (PgOk (p + d.int) → d.skipMeas (p + d.int) w < n) ∧ (¬ PgOk (p + d.int) → w = false → d.skipMeas d.first true < n) := by
  unfold PgOk at *
  cases d <;> cases w <;> simp [skipMeas, int, first] at * <;> omega

theorem skip_step (d : Dir) (c : Cache) (n : Nat) (p s : Int) (w : Bool) (hp : PgOk p) :
    skip c d.int (n + 1) p s w =
      if inRange (c.stat p) s then some (some (p, s, w))
      else if (c.stat p).nSub ≠ 0 ∧ d.Before s (d.edge (c.stat p)) then some (some (p, d.edge (c.stat p), w))
      else if ¬ PgOk (p + d.int) then
        (if w then some none else skip c d.int n d.first (d.edge (c.stat d.first)) true)
      else skip c d.int n (p + d.int) (d.edge (c.stat (p + d.int))) w := by
  rw [skip]
  cases d
  · have h : (p + 1 > 0x8FF) ↔ ¬ PgOk (p + 1) := by unfold PgOk at *; omega
    simp only [int, Before, edge, first, show ((1 : Int) > 0) by decide, show ¬ ((1 : Int) < 0) by decide, true_and,
      false_and, and_false, if_false, h]
    congr
  · have h : (p - 1 < 0x100) ↔ ¬ PgOk (p + -1) := by unfold PgOk at *; omega
    simp only [int, Before, edge, first, show ¬ ((-1 : Int) > 0) by decide, show ((-1 : Int) < 0) by decide, true_and,
      false_and, and_false, if_false, if_true, h, gt_iff_lt, Int.add_neg_one]
    congr

theorem skip_spec (d : Dir) (c : Cache) : ∀ (n : Nat) (p s : Int) (w : Bool), PgOk p → d.skipMeas p w < n →
    ∃ r, skip c d.int n p s w = some r ∧ d.SkipSpec c p s w r := by
  intro n
  induction n with
  | zero => intro p s w _ h; omega
  | succ n ih =>
    intro p s w hp hm
    rw [skip_step _ _ _ _ _ _ hp]
    by_cases hin : inRange (c.stat p) s = true
    · simp only [hin, if_true]
      exact ⟨_, rfl, hp, landed_of_inRange hin, .stay hin⟩
    · have hin' : inRange (c.stat p) s = false := by simpa using hin
      simp only [hin', Bool.false_eq_true, if_false]
      by_cases hcl : (c.stat p).nSub ≠ 0 ∧ d.Before s (d.edge (c.stat p))
      · rw [if_pos hcl]
        exact ⟨_, rfl, hp, d.landed_edge hcl.1, .clamp hcl.1 hcl.2⟩
      · rw [if_neg hcl]
        have hlv := d.leave_of hin' hcl
        obtain ⟨hm1, hm2⟩ := d.skipMeas_next hp hm
        obtain ⟨hb1, hb2⟩ := d.before_next p
        -- the page numbers ahead of `p`: the next one, then those ahead of it
        have hskip : ∀ q, d.Before p q → (d.Before (p + d.int) q → ¬ Active c q) →
            d.Leave c (p + d.int) (d.edge (c.stat (p + d.int))) → ¬ Active c q := fun q hq1 hrest h0 => by
          rcases hb2 q hq1 with rfl | hq'
          · exact d.leave_edge_not_active h0
          · exact hrest hq'
        by_cases hlast : ¬ PgOk (p + d.int)
        · rw [if_pos hlast]
          obtain ⟨he1, he2⟩ := d.before_end hp hlast
          have hnone : ∀ q, d.Before p q → PgOk q → ¬ Active c q := fun q h1 h2 => absurd h2 (he1 q h1)
          -- all page numbers: the first of the sweep, then those behind it
          have hall : ∀ q, PgOk q → (d.Before d.first q → ¬ Active c q) →
              d.Leave c d.first (d.edge (c.stat d.first)) → ¬ Active c q := fun q hq hrest h0 => by
            rcases he2 q hq with rfl | hq'
            · exact d.leave_edge_not_active h0
            · exact hrest hq'
          cases w with
          | true =>
            simp only [if_true]
            exact ⟨none, rfl, hlv, hnone, fun h => by cases h⟩
          | false =>
            simp only [Bool.false_eq_true, if_false]
            obtain ⟨r, hr, hs⟩ := ih d.first (d.edge (c.stat d.first)) true d.pgOk_first (hm2 hlast rfl)
            refine ⟨r, hr, ?_⟩
            cases r with
            | none =>
              obtain ⟨h0, h1, _⟩ := hs
              exact ⟨hlv, hnone, fun _ q hq => hall q hq (fun h => h1 q h hq) h0⟩
            | some t =>
              obtain ⟨p', s', w'⟩ := t
              obtain ⟨hp', hld, hd⟩ := hs
              refine ⟨hp', hld, ?_⟩
              cases hd with
              | stay hir =>
                refine .wrap hlv rfl hir hnone fun q hq hb => ?_
                rcases he2 q hq with rfl | hq'
                · exact absurd hb (d.before_irrefl _)
                · exact absurd hb (d.before_asymm hq')
              | clamp _ hlt => exact absurd hlt (d.before_irrefl _)
              | next h0 hlt hir hno => exact .wrap hlv rfl hir hnone fun q hq hb => hall q hq (fun h => hno q h hb) h0
              | wrap _ hw _ _ _ => cases hw
        · rw [if_neg hlast]
          have hpn : PgOk (p + d.int) := Decidable.not_not.mp hlast
          obtain ⟨r, hr, hs⟩ := ih (p + d.int) (d.edge (c.stat (p + d.int))) w hpn (hm1 hpn)
          refine ⟨r, hr, ?_⟩
          cases r with
          | none =>
            obtain ⟨h0, h1, h2⟩ := hs
            exact ⟨hlv, fun q hq1 hq2 => hskip q hq1 (fun h => h1 q h hq2) h0, h2⟩
          | some t =>
            obtain ⟨p', s', w'⟩ := t
            obtain ⟨hp', hld, hd⟩ := hs
            refine ⟨hp', hld, ?_⟩
            cases hd with
            | stay hir =>
              refine .next hlv hb1 hir fun q h1 h2 => ?_
              rcases hb2 q h1 with rfl | hq'
              · exact absurd h2 (d.before_irrefl _)
              · exact absurd h2 (d.before_asymm hq')
            | clamp _ hlt => exact absurd hlt (d.before_irrefl _)
            | next h0 hlt hir hno =>
              exact .next hlv (d.before_trans hb1 hlt) hir fun q hq1 hq2 => hskip q hq1 (fun h => hno q h hq2) h0
            | wrap h0 hw hir hno1 hno2 =>
              exact .wrap hlv hw hir (fun q hq1 hq2 => hskip q hq1 (fun h => hno1 q h hq2) h0) hno2

end Dir

end Zvbi.Search
