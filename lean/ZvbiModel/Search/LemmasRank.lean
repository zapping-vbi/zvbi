import ZvbiModel.Search.Spec
/-!
# Keys and pass order (C17)

`key`: a position (page number, sub-page number) as one integer.  `rk B z`: distance of key `z` from key `B` in forward
pass order, wrapping once (`passRank` on keys).  The frontier argument of a pass in three arithmetic lemmas: every call
starts at the page the previous one returned (key `A`); the page it returns (key `x`) is not before `A` in pass order
(`rank_mono_arith`), a matching page between the two would stand before `x` in the walk (`ltf_arith`), and nothing the
walk probes up to a page behind `A` stops the pass (`nostop_arith`).  Backward, `rkR` is `rk` on mirrored keys
(`rkR_mirror`), so the same three lemmas serve both directions.  `revStart`: where a backward pass begins.
-/
namespace Zvbi.Search

/-- `z` is the key of a position on a valid page number (0x100 .. 0x8FF, sub-page number of 16 bits, or the -2 of
    `revStart`) -/
abbrev KeyOk (z : Int) : Prop := 0 ≤ z ∧ z < 0x900 * 65536

def rk (B z : Int) : Int := if z ≥ B then z - B else z - B + 0x900 * 65536

theorem rk_inj {B y x : Int} (hy : KeyOk y)
    (hx : KeyOk x) (h : rk B y = rk B x) : y = x := by
  unfold rk at h
  by_cases h1 : y ≥ B <;> by_cases h2 : x ≥ B <;> simp only [h1, h2, if_true, if_false] at h <;> omega

theorem rk_pos {B y : Int} (hB : KeyOk B) (hy : KeyOk y) (hne : y ≠ B) :
    0 < rk B y := by
  unfold rk; split <;> omega

theorem rk_self (B : Int) : rk B B = 0 := by unfold rk; simp

/-- the stop test at the head of `search_page_fwd` / `search_page_rev`, on keys in walking order: `A` the start
    position of the call, `B` where the pass began, `x` this page, `w` whether the walk has wrapped -/
def StopK (A B x : Int) (w : Bool) : Prop := if A ≥ B then w = true ∧ x ≥ B else x < A ∨ x ≥ B

/-- the walking order of positions, on (sweep, key in walking order) -/
def KLt (a b : Bool × Int) : Prop := (a.1 = false ∧ b.1 = true) ∨ (a.1 = b.1 ∧ a.2 < b.2)

/-- a page `y` due before the page found `x`: the walk from `A` comes to `y` (in the first sweep if `y` is not before
    `A`, in the wrapped one otherwise) before it comes to `x` -/
theorem ltf_arith {A B x y : Int} {xw : Bool} (hA : KeyOk A)
    (hx : KeyOk x) (hy : KeyOk y)
    (hns : ¬ StopK A B x xw) (hxA : xw = false → x ≥ A)
    (hlo : rk B A ≤ rk B y) (hhi : rk B y < rk B x) : KLt (decide (y < A), y) (xw, x) := by
  unfold rk at hlo hhi
  unfold StopK at hns
  unfold KLt
  cases xw <;> by_cases h1 : A ≥ B <;> by_cases h2 : y ≥ B <;> by_cases h3 : x ≥ B <;>
    simp [h1, h2, h3] at hns hxA hlo hhi ⊢ <;> omega

/-- the page found is not before the start position in pass order -/
theorem rank_mono_arith {A B x : Int} {xw : Bool} (hA : KeyOk A)
    (hx : KeyOk x) (hns : ¬ StopK A B x xw) (hxA : xw = false → x ≥ A) :
    rk B A ≤ rk B x := by
  unfold rk
  unfold StopK at hns
  cases xw <;> by_cases h1 : A ≥ B <;> by_cases h3 : x ≥ B <;> simp [h1, h3] at hns hxA ⊢ <;> omega

/-- a page `y` not before the start position `A` in pass order does not stop the pass, and nothing the walk probes
    before it does (`zw`/`z`: the position of `y` or one before it) -/
theorem nostop_arith {A B y z : Int} {zw : Bool} (hA : KeyOk A)
    (hy : KeyOk y) (hlo : rk B A ≤ rk B y) (hzA : zw = false → z ≥ A)
    (hzy : (zw = decide (y < A) ∧ z = y) ∨ KLt (zw, z) (decide (y < A), y)) : ¬ StopK A B z zw := by
  unfold rk at hlo
  unfold StopK
  unfold KLt at hzy
  cases zw <;> by_cases h1 : A ≥ B <;> by_cases h2 : y ≥ B <;> by_cases h0 : y < A <;>
    simp [h0, h1, h2] at hlo hzA hzy ⊢ <;> omega

/-- `vbi_search_new`: stop position 1 = the position "just before (P, S)"; a fresh backward pass starts there -/
def revStart (P S : Int) : Int × Int :=
  if S ≤ 0 then ((if P ≤ 0x100 then 0x8FF else P - 1), 0x3F7E)
  else if S % 128 = 0 then (P, S - 0x100 + 0x7E)
  else (P, S - 1)

/-- backward distance of key `z` from key `B`: descending, wrapping once -/
def rkR (B z : Int) : Int := if z ≤ B then B - z else B - z + 0x900 * 65536

/-- distance of page (q, t) from the start position of a backward pass of a search created for (P, S): descending
    page / sub-page numbers from `revStart P S`, wrapping below 100.0 to 8FF.FFFF -/
def passRankRev (P S q t : Int) : Int := rkR (key (revStart P S).1 (revStart P S).2) (key q t)

theorem rkR_mirror (B z : Int) : rkR B z = rk (0x900 * 65536 - 1 - B) (0x900 * 65536 - 1 - z) := by
  unfold rk rkR; split <;> split <;> omega

/-- `-2`: for S = 0x80 `vbi_search_new` computes `(0x80 - 0x100) | 0x7E = -2` -/
theorem revStart_facts {P S : Int} (hP : PgOk P) (hS : 0 ≤ S ∧ S ≤ 0xFFFF) :
    PgOk (revStart P S).1 ∧ (-2 ≤ (revStart P S).2 ∧ (revStart P S).2 < 65536) ∧ (revStart P S).2 ≠ ANY_SUBNO := by
  unfold revStart PgOk ANY_SUBNO at *
  split
  · split <;> simp only <;> omega
  · split <;> simp only <;> omega

theorem key_bounds_start {p s : Int} (hp : PgOk p) (hs : -2 ≤ s ∧ s < 65536) : KeyOk (key p s) := by
  unfold key PgOk at *; omega

theorem key_bounds {p s : Int} (hp : PgOk p) (hs : 0 ≤ s ∧ s < 65536) : KeyOk (key p s) :=
  key_bounds_start hp ⟨by omega, hs.2⟩

end Zvbi.Search
