import ZvbiModel.Search.LemmasCache
/-!
# Specification side of C17 and the full-strength statements that are NOT proved

`Matches`: what "the page contains the pattern" means (the matcher parameter applied to the whole page text).
`passRank`: the order in which a forward pass from (P, S) has to report pages (ascending from the start position,
wrapping once).  `walk_complete_full`, `search_exact_full`: the property at full strength over ALL store histories.
What is proved (Props/C17.lean) is the same under the explicit exclusion of finding C17-D2 (`NoWrap`: the 16 bit
counter `n_subpages` has not wrapped, fewer than 65536 cached pages per page number) - `walk_complete_cached` - and,
for `search_exact`, per call instead of per pass (`search_exact_first_call`, `search_exact_not_found`,
`search_success_sound`).  They are kept here as `def ... : Prop` so that the gap stays visible.

Both are stated per source shape `fix` of `_vbi_cache_put_page` (`buildF fix`, LemmasCache.lean): `fix = false` the
source with finding F17 / C17-D2, `fix = true` with fixes/C10-put-replaces-all-versions.diff.  `walk_complete_full true`
is PROVED (Props/C17.lean `walk_complete_repaired`: `NoWrap` is a theorem there); `walk_complete_full false` stays open.
-/
namespace Zvbi.Search

/-- page (p, s) is cached as a level one page and its text (rows 1..23) contains the pattern (`lookupX`: of several
    cached pages with the same number the look-ups only ever see the first of the chain) -/
def Matches (exec : Exec) (c : Cache) (p s : Nat) : Prop :=
  ∃ e, lookupX c p s = some e ∧ e.func = FUNC_LOP ∧ (exec {} (hayFwd e.text (-1) 0).1).isSome

/-- distance of page (q, t) from the start position (P, S) of a forward pass: ascending page / sub-page numbers,
    wrapping behind 8FF.3F7F to 100.0 -/
def passRank (P S q t : Int) : Int :=
  if key q t ≥ key P S then key q t - key P S else key q t - key P S + 0x900 * 65536

/-- successive `vbi_search_next` calls: (status, page formatted last) -/
def runNexts (sh : Shape) (exec : Exec) : Cache → SearchSt → List Int → List (Res × Nat × Nat)
  | _, _, [] => []
  | c, s, d :: ds =>
    let o := searchNext sh exec walkFuel c s d
    (o.res, o.st.pgPgno, o.st.pgSubno) :: runNexts sh exec o.cache o.st ds

/-- The whole-pass statement as recorded in round 2.  A fresh forward search on any reachable cache: the calls up to
    the first NOT_FOUND return exactly the matching pages (each at least once: one call per occurrence), never a page
    that does not match, and NOT_FOUND comes after at most one call per occurrence.
    Round 5: PROVED for forward passes as `Zvbi.Props.C17Pass.search_exact_pass` (+ order of the reports) under the
    hypotheses this `def` should have carried: `NoWrap` for `fix = false` (C17-D2; a theorem for `fix = true`),
    `0 <= S <= 0xFFFF`, the exclusion of C17-D7 for `sh.startExact = false`, and `PgOk p` in the second conjunct - the
    model's store takes any page number, the walk visits 0x100..0x8FF only, so the conjunct as written here fails for a
    matching page stored under number 5 (never stored by the decoder).  The hypothesis on `exec` is not needed.
    OPEN: the same for backward passes and for passes with direction changes. -/
def search_exact_full (fix : Bool) : Prop :=
  ∀ (sh : Shape) (exec : Exec) (ops : List PutOp) (P S : Int) (s0 : SearchSt) (n : Nat), (∀ o ∈ ops, o.subno ≤ 0x3F7F) →
    PgOk P → searchNew P S 1 = some s0 →
    (∀ f t ms me, exec f t = some (ms, me) → ms < me) →
    let c := buildF fix ops
    let rs := runNexts sh exec c s0 (List.replicate n 1)
    let pass := rs.takeWhile (fun r => r.1 = .ret SEARCH_SUCCESS)
    (∀ r ∈ pass, Matches exec c r.2.1 r.2.2) ∧
    (pass.length < n → ∀ p s, Matches exec c p s → ∃ r ∈ pass, r.2 = (p, s))

/-- OPEN for `fix = false`, PROVED for `fix = true` (`walk_complete_repaired`).  Every cached page is handed to the
    callback in every sweep, after EVERY history of page stores.  Shape as found: proved with the additional hypothesis
    `NoWrap (buildF false ops)` (`walk_complete_cached`); without it the statement fails at 65536 cached pages of one
    page number (C17-D2, 16 bit `n_subpages`). -/
def walk_complete_full (fix : Bool) : Prop :=
  ∀ (sh : Shape) (ops : List PutOp) (pgno subno dir : Int), (∀ o ∈ ops, o.subno ≤ 0x3F7F) → PgOk pgno → dir = 1 ∨ dir = -1 →
    ∀ (q : Nat) (e : Entry), PgOk q → e ∈ ((buildF fix ops).slots q).chain →
      ((q : Int), (e.subno : Int), true) ∈ walkPositions sh (buildF fix ops) pgno subno dir

end Zvbi.Search
