import ZvbiModel.Search.Dir
/-!
# One call of a pass, in either direction (C17)

A pass is a sequence of `vbi_search_next` calls in one direction `d`.  Every call hands the next one the cache with
some hash chains reordered (`Equiv`) and the search context with the start position moved to the page found and the
cursor at the occurrence highlighted (`Dir.Between`, `Dir.Ctx`).  The callback runs the matcher on part of the text only on
the page the previous call returned, and that page is known to match; every other page is judged as a whole.  The
frontier argument (`Dir.pass_step_order`, `Dir.pass_last`) runs on keys in walking order (`Dir.mir`): the walk from the
start position comes to the pages in pass order until the stop test fires.
-/
namespace Zvbi.Search
namespace Dir

/-- between two calls of a pass: the cache `c'` is the original `c` up to the order of the hash chains; in the search
    context the direction is set, the start position is on a valid page number (that the start look-up of the walk
    accepts), and EITHER the cursor stands where a new pass puts it OR the start position is a page that matches (the
    page the previous call returned) -/
structure Between (d : Dir) (sh : Shape) (exec : Exec) (c c' : Cache) (s : SearchSt) : Prop where
  equiv : Equiv c c'
  ok : StartOk sh c' s.startPgno
  dir : s.dir = d.int
  pg : PgOk s.startPgno
  cur : d.Whole s ∨ MatchesI exec c s.startPgno s.startSubno

/-- the context belongs to the pass that began at key `B`: that is its stop position; and the start sub-page number is no
    wildcard for the start look-up of the walk -/
structure Ctx (d : Dir) (sh : Shape) (B : Int) (s : SearchSt) : Prop where
  stop : d.stopKey s = B
  sub : d.SubOk s.startSubno
  noany : sh.startExact = true ∨ s.startSubno ≠ ANY_SUBNO

/-- position `x` stops the search in state `s` -/
def StopsAt (d : Dir) (c : Cache) (s : SearchSt) (x : Pos) : Prop :=
  ∃ e, lookupX c x.1 x.2.1 = some e ∧ d.Stops s x.1.toNat e x.2.2

theorem whole_code (d : Dir) (sh : Shape) (exec : Exec) {s : SearchSt} (p : Nat) (e : Entry) (w : Bool)
    (hcur : key p e.subno ≠ key s.startPgno s.startSubno ∨ d.Whole s)
    (hlop : e.func = FUNC_LOP) (hns : ¬ d.Stops s p e w) :
    (d.code sh exec s p e w = 1 → (exec {} (hayFwd e.text (-1) 0).1).isSome) ∧
    (d.code sh exec s p e w = 0 → exec {} (hayFwd e.text (-1) 0).1 = none) := by
  rw [d.code_whole sh exec p e w hcur hlop hns]
  cases exec {} (hayFwd e.text (-1) 0).1 <;> simp

/-- a matching page that is due does not return 0: it is searched as a whole -/
theorem Due.code_ne_zero {d : Dir} {B : Int} {s : SearchSt} {q t : Nat} (hlo : d.Due B s q t) (sh : Shape) {exec : Exec}
    {e : Entry} (hts : (e.subno : Int) = t) (hlop : e.func = FUNC_LOP) (hsome : (exec {} (hayFwd e.text (-1) 0).1).isSome)
    (w : Bool) : d.code sh exec s q e w ≠ 0 := by
  intro hcode
  have hns := d.code_not_stop (by rw [hcode]; decide : d.code sh exec s q e w ≠ -1)
  rw [(d.whole_code sh exec q e w (by rw [hts]; exact hlo.cur) hlop hns).2 hcode] at hsome
  cases hsome

/-- what a call from context `s` that answered SUCCESS found: `(xp, xs, xw)` the walk position of the page, `pre` the
    positions probed before it, `e` the page as the original cache `c` has it, `st` the context the call leaves
    (`highlight`'s on that page) -/
structure Hit (d : Dir) (sh : Shape) (exec : Exec) (c c' : Cache) (s st : SearchSt) (pre : List Pos) (xp xs : Int) (xw : Bool)
    (post : List Pos) (e : Entry) : Prop where
  walk : walkPositions sh c' s.startPgno s.startSubno d.int = pre ++ (xp, xs, xw) :: post
  pg : PgOk xp
  look : lookupX c xp xs = some e
  lop : e.func = FUNC_LOP
  code : d.code sh exec s xp.toNat e xw = 1
  before : ∀ y ∈ pre, ∀ ey, lookupX c y.1 y.2.1 = some ey → d.code sh exec s y.1.toNat ey y.2.2 = 0
  startPg : st.startPgno = xp
  startSub : st.startSubno = xs
  pgPg : st.pgPgno = xp.toNat
  pgSub : st.pgSubno = e.subno
  dir : st.dir = s.dir
  stop : d.stopKey st = d.stopKey s

theorem success_hit (d : Dir) (sh : Shape) (exec : Exec) (c c' : Cache) (s : SearchSt) (hb : d.Between sh exec c c' s)
    {o : NextOut} (ho : searchNext sh exec walkFuel c' s d.int = o) (h : o.res = .ret SEARCH_SUCCESS) :
    ∃ pre xp xs xw post e, d.Hit sh exec c c' s o.st pre xp xs xw post e := by
  subst ho
  have heq := hb.equiv
  have hpg := hb.pg
  have hprep : prepare sh s d.int = s := prepare_same sh (by rw [dirOf_int]; exact hb.dir)
  have hrp := searchNext_success_run sh exec c' s d.int hprep hpg hb.ok h
  rw [callbackOf_int, dirOf_int] at hrp
  generalize (searchNext sh exec walkFuel c' s d.int).st = sf at hrp ⊢
  have hdirL := runPos_keeps SearchSt.dir (d.page_dir sh exec) c' (walkPositions sh c' s.startPgno s.startSubno d.int) s
  rw [hrp] at hdirL
  obtain ⟨pre, x, post, e, s0, hL, hlx', hfz, hcall, hpre⟩ := runPos_first_hit (d.steady sh exec) c' _ _ _ _ hrp (by decide)
  obtain ⟨xp, xs, xw⟩ := x
  simp only at hlx' hcall
  obtain ⟨hlop, first, ms, me, hsf⟩ := d.page_one hcall
  have hlx : lookupX c xp xs = some e := by rw [← lookupX_equiv heq]; exact hlx'
  have hpx : PgOk xp := d.walkPos_pgOk sh c' _ _ hpg (xp, xs, xw) (by rw [hL]; simp)
  obtain ⟨fz1, fz2, fz3⟩ := d.frozen_fields hfz
  have hstop := d.stopKey_hit s0 xp.toNat e first ms me
  rw [← hsf] at hstop
  subst hsf
  refine ⟨pre, xp, xs, xw, post, e, hL, hpx, hlx, hlop, ?_, ?_, by unfold PgOk at hpx; show ((xp.toNat : Nat) : Int) = xp; omega,
    lookupX_subno hlx, rfl, rfl, hdirL, hstop.trans fz3⟩
  · rw [← d.code_frozen sh exec hfz, ← page_fst, hcall]
  · intro y hy ey hey
    rw [← page_fst]
    exact hpre y hy ey (by rw [lookupX_equiv heq]; exact hey)

/-- **one call that reports SUCCESS**: the page returned matches (judged on the original cache `c`, whole text), the
    new start position is that page, and the context is one between two calls again -/
theorem pass_step (d : Dir) (sh : Shape) (exec : Exec) (c c' : Cache) (s : SearchSt) (hR : Reach c)
    (hinv : d.Between sh exec c c' s) {o : NextOut}
    (ho : searchNext sh exec walkFuel c' s d.int = o) (h : o.res = .ret SEARCH_SUCCESS) :
    d.Between sh exec c o.cache o.st ∧ MatchesI exec c o.st.pgPgno o.st.pgSubno ∧
    o.st.startPgno = o.st.pgPgno ∧ o.st.startSubno = o.st.pgSubno := by
  obtain ⟨pre, xp, xs, xw, post, e, hh⟩ := d.success_hit sh exec c c' s hinv ho h
  have hxs : (e.subno : Int) = xs := lookupX_subno hh.look
  have hxpn : ((xp.toNat : Nat) : Int) = xp := by have := hh.pg; unfold PgOk at this; omega
  have hns := d.code_not_stop (by rw [hh.code]; decide : d.code sh exec s xp.toNat e xw ≠ -1)
  have hmatch : MatchesI exec c xp xs := by
    by_cases hk : key xp.toNat e.subno = key s.startPgno s.startSubno
    · rcases hinv.cur with hr | hm
      · exact ⟨e, hh.look, hh.lop, (d.whole_code sh exec _ e xw (Or.inr hr) hh.lop hns).1 hh.code⟩
      · obtain ⟨es, hles, _⟩ := id hm
        rw [hxpn, hxs] at hk
        obtain ⟨hpe, hse⟩ := key_inj (lookupX_small hR hh.look) (lookupX_small hR hles) hk
        rw [hpe, hse]; exact hm
    · exact ⟨e, hh.look, hh.lop, (d.whole_code sh exec _ e xw (Or.inl hk) hh.lop hns).1 hh.code⟩
  rw [hh.startPg, hh.startSub, hh.pgPg, hh.pgSub, hxpn, hxs]
  exact ⟨⟨ho ▸ searchNext_cache_equiv sh exec walkFuel c c' s d.int hinv.equiv,
      by rw [hh.startPg]; exact startOk_of_valid sh _ _ (validPgno_of_mem hR.noFF hh.pg (lookupX_mem hh.look)),
      by rw [hh.dir]; exact hinv.dir, by rw [hh.startPg]; exact hh.pg,
      Or.inr (by rw [hh.startPg, hh.startSub]; exact hmatch)⟩, hmatch, rfl, rfl⟩

theorem key_ge_of_walk (d : Dir) {Q T zp zs : Int} {zw : Bool} (hT : -2 ≤ T ∧ T < 65536) (hzs : 0 ≤ zs ∧ zs ≤ 0x3F7F)
    (hz : (zp, zs, zw) = (Q, T, false) ∨ d.Lt (Q, T, false) (zp, zs, zw)) (hw : zw = false) :
    d.mir (key zp zs) ≥ d.mir (key Q T) := by
  rcases hz with hx | hx
  · injection hx with h1 hx; injection hx with h2 _; rw [h1, h2]; exact Int.le_refl _
  · rw [lt_iff_key _ _ _ (by simp only; omega)] at hx
    simp only [KLt, hw] at hx
    rcases hx with hx | hx
    · exact absurd hx.2 (by decide)
    · omega

/-- **one call that reports SUCCESS: order and gap-freeness**.  `B`: the key where the pass began.  The context stays one
    of that pass, the page returned is not before the start position in pass order, and no matching page that is due
    comes before it. -/
theorem pass_step_order (d : Dir) (sh : Shape) (exec : Exec) (c c' : Cache) (s : SearchSt) (B : Int) (hR : Reach c)
    (hinv : d.Between sh exec c c' s) (hctx : d.Ctx sh B s) {o : NextOut}
    (ho : searchNext sh exec walkFuel c' s d.int = o) (h : o.res = .ret SEARCH_SUCCESS) :
    (NoAnyCached sh c → d.Ctx sh B o.st) ∧
    d.rank B (key s.startPgno s.startSubno) ≤ d.rank B (key o.st.startPgno o.st.startSubno) ∧
    ∀ q t : Nat, PgOk q → Matches exec c q t → d.Due B s q t →
      d.rank B (key o.st.startPgno o.st.startSubno) ≤ d.rank B (key q t) := by
  obtain ⟨pre, xp, xs, xw, post, e, hh⟩ := d.success_hit sh exec c c' s hinv ho h
  have heq := hinv.equiv
  obtain ⟨hxsb, hxsm, _, hxs⟩ := page_facts heq hR hh.look
  have hstart : startSub sh c' s.startPgno s.startSubno = s.startSubno := startSub_exact sh c' _ _ hctx.noany
  obtain ⟨hsorted, hfacts⟩ := d.walkPos_facts sh c' s.startPgno s.startSubno hinv.pg hstart
  have hxpn : ((xp.toNat : Nat) : Int) = xp := by have := hh.pg; unfold PgOk at this; omega
  have hTb := hctx.sub.bounds
  have hA := d.mir_bounds (key_bounds_start hinv.pg hTb)
  have hX := d.mir_bounds (key_bounds hh.pg hxsb)
  -- the page found does not stop the pass
  have hnsx := d.code_not_stop (by rw [hh.code]; decide : d.code sh exec s xp.toNat e xw ≠ -1)
  rw [stops_iff, hctx.stop, hxpn, hxs] at hnsx
  have hxA := d.key_ge_of_walk hTb ⟨hxsb.1, hxsm⟩ (hfacts (xp, xs, xw) (by rw [hh.walk]; simp))
  rw [hh.startPg, hh.startSub]
  refine ⟨fun hany => ⟨hh.stop.trans hctx.stop, by rw [hh.startSub]; exact d.subOk_of_cached hxsb,
      by rw [hh.startSub, ← hxs]; exact hany.imp id fun h1 => h1 _ e (lookupX_mem hh.look)⟩,
    rank_mono_arith hA hX hnsx hxA, fun q t hq hm hlo => Int.not_lt.mp fun hlt => ?_⟩
  -- a matching page in the gap would stand before `x` in the walk, where every page returned 0
  obtain ⟨e', hl', hlop', hsome'⟩ := hm
  obtain ⟨htb, htsm, hin, hts⟩ := page_facts heq hR hl'
  have hY := d.mir_bounds (key_bounds hq htb)
  have hyL := d.walkPos_mem sh c' s.startPgno s.startSubno hinv.pg hstart hctx.sub q t hq htb hin
  have hylt := (d.lt_iff_key ((q : Int), (t : Int), _) (xp, xs, xw) (by simp only; omega)).mpr
    (ltf_arith hA hX hY hnsx hxA hlo.le hlt)
  rw [hh.walk] at hsorted hyL
  have hcodey := hh.before _ (mem_pre_of_lt d.lt_irrefl d.lt_trans hsorted hyL hylt) e' (by simpa using hl')
  simp only [Int.toNat_natCast] at hcodey
  exact hlo.code_ne_zero sh hts hlop' hsome' _ hcodey

/-- a fold over sorted positions that ends with -1: the found page at `x` returned 0 when neither it nor a position
    before it stops the search -/
theorem runPos_minus1 (d : Dir) (sh : Shape) (exec : Exec) (c : Cache) {L : List Pos} {s sf : SearchSt}
    (hrun : runPos (d.page sh exec) c L s = (-1, sf)) (hsorted : L.Pairwise d.Lt) {x : Pos} (hx : x ∈ L)
    (hns : ∀ z ∈ L, z = x ∨ d.Lt z x → ¬ d.StopsAt c s z) {e : Entry} (he : lookupX c x.1 x.2.1 = some e) :
    d.code sh exec s x.1.toNat e x.2.2 = 0 := by
  rw [← page_fst]
  rcases runPos_cases (d.page sh exec) c L s with ⟨s', hz, _⟩ | ⟨pre, x', post, e', s0, rfl, hz, hlx, _, hr⟩
  · exact (hz.steady (d.steady sh exec)).2 x hx e he
  · -- the fold ended at `x'`, which stops the search: `x` stands before it
    obtain ⟨hfz, hzero⟩ := hz.steady (d.steady sh exec)
    have hstop : d.StopsAt c s x' := ⟨e', hlx, d.code_minus1 (by
      rw [← page_fst, ← (d.steady sh exec).code hfz, ← hr, hrun])⟩
    have hp := List.pairwise_append.mp hsorted
    rcases List.mem_append.mp hx with h | h
    · exact hzero x h e he
    · rcases List.mem_cons.mp h with rfl | h
      · exact absurd hstop (hns _ hx (Or.inl rfl))
      · exact absurd hstop (hns _ (List.mem_append_right _ List.mem_cons_self)
          (Or.inr ((List.pairwise_cons.mp hp.2.1).1 x h)))

/-- **a call that reports NOT_FOUND**: no matching page is due -/
theorem pass_last (d : Dir) (sh : Shape) (exec : Exec) (c c' : Cache) (s : SearchSt) (B : Int) (hR : Reach c)
    (hinv : d.Between sh exec c c' s) (hctx : d.Ctx sh B s)
    (h : (searchNext sh exec walkFuel c' s d.int).res = .ret SEARCH_NOT_FOUND) :
    ∀ q t : Nat, PgOk q → Matches exec c q t → ¬ d.Due B s q t := by
  have heq := hinv.equiv
  have hprep : prepare sh s d.int = s := prepare_same sh (by rw [dirOf_int]; exact hinv.dir)
  obtain ⟨sf, hrp⟩ := searchNext_not_found_run sh exec c' s d.int hprep hinv.pg hinv.ok h
  rw [callbackOf_int, dirOf_int] at hrp
  intro q t hq hm hlo
  obtain ⟨e', hl', hlop', hsome'⟩ := hm
  obtain ⟨htb, htsm, hin, hts⟩ := page_facts heq hR hl'
  have hstart : startSub sh c' s.startPgno s.startSubno = s.startSubno := startSub_exact sh c' _ _ hctx.noany
  obtain ⟨hsorted, hfacts⟩ := d.walkPos_facts sh c' s.startPgno s.startSubno hinv.pg hstart
  have hTb := hctx.sub.bounds
  have hA := d.mir_bounds (key_bounds_start hinv.pg hTb)
  have hY := d.mir_bounds (key_bounds hq htb)
  have hyL := d.walkPos_mem sh c' s.startPgno s.startSubno hinv.pg hstart hctx.sub q t hq htb hin
  -- the walk comes to (q, t), and no position up to there stops the pass: the page returned 0
  have hcodey := d.runPos_minus1 sh exec c' hrp hsorted hyL (e := e') (fun z hz hzy ⟨ez, hez, hstz⟩ => by
    obtain ⟨zp, zs, zw⟩ := z
    simp only at hez hstz
    have hpz : PgOk zp := d.walkPos_pgOk sh c' _ _ hinv.pg _ hz
    have hez' : lookupX c zp zs = some ez := by rw [← lookupX_equiv heq]; exact hez
    obtain ⟨hzsb, hzsm, _, hzs⟩ := page_facts heq hR hez'
    have hzpn : ((zp.toNat : Nat) : Int) = zp := by unfold PgOk at hpz; omega
    rw [stops_iff, hctx.stop, hzpn, hzs] at hstz
    exact nostop_arith hA hY hlo.le (d.key_ge_of_walk hTb ⟨hzsb.1, hzsm⟩ (hfacts _ hz))
      (hzy.imp (fun h => by cases h; exact ⟨rfl, rfl⟩) (d.lt_iff_key _ _ (by simp only; omega)).mp) hstz)
    (by rw [lookupX_equiv heq]; simpa using hl')
  simp only [Int.toNat_natCast] at hcodey
  exact hlo.code_ne_zero sh hts hlop' hsome' _ hcodey

/-- a `vbi_search_next` on a non-empty cache answers SUCCESS or NOT_FOUND -/
theorem status (d : Dir) (sh : Shape) (exec : Exec) (c : Cache) (s : SearchSt)
    (hne : c.nCached ≠ 0) (hp : PgOk (prepare sh s d.int).startPgno) (hok : StartOk sh c (prepare sh s d.int).startPgno) :
    (searchNext sh exec walkFuel c s d.int).res = .ret SEARCH_SUCCESS ∨
    (searchNext sh exec walkFuel c s d.int).res = .ret SEARCH_NOT_FOUND := by
  rw [(searchNext_run sh exec c s d.int hne hp hok).1, callbackOf_int]
  rcases runPos_range (fun s p e w => by rw [page_fst]; exact d.code_range sh exec s p e w) c
    (walkPositions sh c (prepare sh s d.int).startPgno (prepare sh s d.int).startSubno (dirOf d.int)) (prepare sh s d.int) with h | h
  · right; rw [h]; rfl
  · left; rw [h]; rfl

end Dir
end Zvbi.Search
