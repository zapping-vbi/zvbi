import ZvbiModel.Search.WitnessBase
/-! Caches, search context, entries and positions of the D7 witnesses (definitions only; evaluated in Props/C17.lean:
`turn_on_3f7f_counterexample`, `turn_on_3f7f_repaired`). -/
namespace Zvbi.Search

def abPage4 : Text := [[], [], [], textRow "yy ab xx"]

def cexD7 : Cache := build [⟨0x11F, 0, 0, abPage⟩, ⟨0x11F, 0x3F7F, 0, abPage4⟩]

/-- the search context after `vbi_search_next (-1)` returned 11F.3F7F ("ab" at row 4, columns 3..4) -/
def cexD7Turn : SearchSt :=
  { startPgno := 0x11F, startSubno := 0x3F7F, stopPgno0 := 0x120, stopSubno0 := 0, stopPgno1 := 0x120,
    stopSubno1 := 0x3F7E, row0 := 4, col0 := 5, row1 := 4, col1 := 3, dir := -1, pgPgno := 0x11F, pgSubno := 0x3F7F }

def cexD7b : Cache := build [⟨0x80A, 0x3F7F, 0, []⟩, ⟨0x80A, 2, 0, []⟩]

def cexD7e1 : Entry := ⟨0x3F7F, 0, abPage4, 0⟩
def cexD7e0 : Entry := ⟨0, 0, abPage, 0⟩

def cexD7x1 : Int × Int × Bool := (0x11F, 0x3F7F, false)
def cexD7x2 : Int × Int × Bool := (0x11F, 0, true)

end Zvbi.Search
