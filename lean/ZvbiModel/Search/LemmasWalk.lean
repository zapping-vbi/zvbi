import ZvbiModel.Search.LemmasSkip
/-!
# The outer loop of the page walk ends (rank argument)
-/
namespace Zvbi.Search

/-- positions of one sweep: 0x800 page numbers x 0x10001 sub-page positions (-1 .. 0xFFFF); `walkFuel` is two sweeps + 4 -/
def sweepLen : Nat := 0x800 * 0x10001

/-- remaining distance of a walk: sweep, page number, sub-page number (clamped to -1 .. 0x10000) -/
def Dir.togo : Dir → Int → Int → Bool → Nat
  | .fwd => fun p s w => (if w then 0 else sweepLen) + (0x8FF - p).toNat * 0x10001 + (0x10000 - max s (-1)).toNat
  | .rev => fun p s w => (if w then 0 else sweepLen) + (p - 0x100).toNat * 0x10001 + (min s 0x10000 + 1).toNat

theorem Dir.togo_decr (d : Dir) {c : Cache} {p s : Int} {w : Bool} {p' s' : Int} {w' : Bool} (hp : PgOk p)
    (h : d.SkipSpec c p (s + d.int) w (some (p', s', w'))) : d.togo p' s' w' < d.togo p s w := by
  obtain ⟨hp', hld, hd⟩ := h
  have hb := landed_bounds hld
  unfold PgOk at hp hp'
  cases hd with
  | stay _ => cases d <;> simp only [Dir.togo, Dir.int] at hb ⊢ <;> omega
  | clamp _ hlt => cases d <;> simp only [Dir.togo, Dir.Before, Dir.int] at hlt ⊢ <;> omega
  | next _ hlt _ _ => cases d <;> simp only [Dir.togo, sweepLen, Dir.Before] at hlt ⊢ <;> omega
  | wrap _ hw _ _ _ =>
    subst hw
    cases d <;> simp only [Dir.togo, sweepLen, Bool.false_eq_true, if_true, if_false] <;> omega

theorem Dir.togo_lt_fuel (d : Dir) {p : Int} (hp : PgOk p) (s : Int) (w : Bool) : d.togo p s w < walkFuel := by
  unfold walkFuel PgOk at *
  cases d <;> cases w <;> simp [Dir.togo, sweepLen] <;> omega

/-- the callback on the page found at the current position (none: no call, "try next") -/
def firstCall {σ : Type} (cb : Callback σ) (s : σ) (p : Int) (w : Bool) : Option Entry → Int × σ
  | some e => cb s p.toNat e w
  | none => (0, s)

theorem loop_succ {σ : Type} (cb : Callback σ) (dir : Int) (n : Nat) (c : Cache) (s : σ) (p sub : Int) (w : Bool)
    (cp : Option Entry) :
    loop cb dir (n + 1) c s p sub w cp =
      (match firstCall cb s p w cp with
       | (r, s1) =>
         if r ≠ 0 then ⟨.ret r, s1, c⟩ else
         match skip c dir skipFuel p (sub + dir) w with
         | none => ⟨.outOfFuel, s1, c⟩
         | some none => ⟨.ret (-1), s1, c⟩
         | some (some (p', s', w')) =>
           match getExact c p' s' with
           | (cp', c') => loop cb dir n c' s1 p' s' w' cp') := by
  cases cp <;> rfl

theorem Dir.loop_terminates (d : Dir) {σ : Type} (cb : Callback σ) : ∀ (n : Nat) (c : Cache) (s : σ) (p sub : Int) (w : Bool)
    (cp : Option Entry), PgOk p → d.togo p sub w < n → (loop cb d.int n c s p sub w cp).res ≠ .outOfFuel := by
  intro n
  induction n with
  | zero => intro c s p sub w cp _ h; omega
  | succ n ih =>
    intro c s p sub w cp hp hr
    rw [loop_succ]
    generalize firstCall cb s p w cp = rs
    obtain ⟨r, s1⟩ := rs
    simp only
    by_cases hr0 : r ≠ 0
    · simp [hr0]
    · simp only [hr0, if_false]
      obtain ⟨res, hres, hspec⟩ := d.skip_spec c skipFuel p (sub + d.int) w hp (d.skipMeas_lt hp w)
      rw [hres]
      cases res with
      | none => simp
      | some t =>
        obtain ⟨p', s', w'⟩ := t
        simp only
        generalize getExact c p' s' = g
        obtain ⟨cp', c'⟩ := g
        simp only
        have hd := d.togo_decr hp hspec
        exact ih c' s1 p' s' w' cp' hspec.1 (by omega)

end Zvbi.Search
