import ZvbiModel.Search.LemmasPos
/-!
# The walk with ANY callback is the fold of that callback over the pages found at the probed positions (`runPos`)

The start position is looked up as the caller gave it (`lookup`: wildcard 0x3F7F, page number check), every later
position exactly (`lookupX`, ce86777).  The most-recently-used reordering done by every look-up does not matter (`Equiv`).
`StartOk`: what the uniform fold needs of the start page number.  The fold taken apart for any callback: `Steady`, `Zeros`,
`runPos_cases` and its corollaries; `runPos_idle_bwd` shortens the evaluation of a backward walk through an empty window.
-/
namespace Zvbi.Search

/-- the test `_vbi_cache_get_page (.., subno, -1)` applies to the pages of the chain -/
def pred (s : Int) : Entry → Bool := fun e => s = ANY_SUBNO || (e.subno : Int) = s

/-- the page `_vbi_cache_get_page` returns (start position of the walk) -/
def lookup (c : Cache) (p s : Int) : Option Entry :=
  if validPgno p then (c.slots p.toNat).chain.find? (pred s) else none

/-- the test of the exact look-up `page_by_pgno (.., subno, -1)` -/
def predX (s : Int) : Entry → Bool := fun e => decide ((e.subno : Int) = s)

/-- the page the exact look-up inside the walk returns: the first page of the chain with that sub-page number -/
def lookupX (c : Cache) (p s : Int) : Option Entry := (c.slots p.toNat).chain.find? (predX s)

theorem removeFirst_split (q : Entry → Bool) : ∀ (l : List Entry) (e : Entry) (rest : List Entry),
    removeFirst q l = some (e, rest) →
    ∃ pre post, l = pre ++ e :: post ∧ rest = pre ++ post ∧ (∀ x ∈ pre, q x = false) ∧ q e = true := by
  intro l
  induction l with
  | nil => intro e rest h; simp [removeFirst] at h
  | cons a l ih =>
    intro e rest h
    unfold removeFirst at h
    by_cases hq : q a = true
    · simp only [hq, if_true] at h
      injection h with h; injection h with h1 h2
      subst h1 h2
      exact ⟨[], l, rfl, rfl, by simp, hq⟩
    · simp only [hq] at h
      cases hr : removeFirst q l with
      | none => simp [hr] at h
      | some t =>
        obtain ⟨x, r⟩ := t
        simp only [hr] at h
        injection h with h; injection h with h1 h2
        subst h1 h2
        obtain ⟨pre, post, hl, hrr, hpre, hqe⟩ := ih x r hr
        refine ⟨a :: pre, post, by simp [hl], by simp [hrr], ?_, hqe⟩
        intro y hy
        rcases List.mem_cons.mp hy with rfl | hy
        · simpa using hq
        · exact hpre y hy

theorem removeFirst_none (q : Entry → Bool) : ∀ (l : List Entry), removeFirst q l = none → l.find? q = none := by
  intro l
  induction l with
  | nil => intro _; rfl
  | cons a l ih =>
    intro h
    unfold removeFirst at h
    by_cases hq : q a = true
    · simp [hq] at h
    · simp only [hq] at h
      cases hr : removeFirst q l with
      | none => simp [hq, ih hr]
      | some t => simp [hr] at h

theorem find_of_split {q : Entry → Bool} {pre post : List Entry} {e : Entry}
    (hpre : ∀ x ∈ pre, q x = false) (hq : q e = true) : (pre ++ e :: post).find? q = some e := by
  rw [List.find?_append]
  have : pre.find? q = none := by
    rw [List.find?_eq_none]; intro x hx; simp [hpre x hx]
  simp [this, hq]

/-- the look-up both `_vbi_cache_get_page` and `page_by_pgno` + `cache_page_ref` make: the first page of the chain
    with property `q`, moved to the head of the chain -/
def getBy (q : Entry → Bool) (c : Cache) (p : Nat) : Option Entry × Cache :=
  match removeFirst q (c.slots p).chain with
  | none => (none, c)
  | some (e, rest) => (some e, c.setSlot p ⟨(c.slots p).stat, e :: rest⟩ c.nCached)

theorem getExact_eq (c : Cache) (p s : Int) : getExact c p s = getBy (predX s) c p.toNat := rfl

theorem getPage_eq (c : Cache) (p s : Int) :
    getPage c p s = if validPgno p then getBy (pred s) c p.toNat else (none, c) := by
  unfold getPage; cases validPgno p <;> rfl

theorem getBy_fst (q : Entry → Bool) (c : Cache) (p : Nat) : (getBy q c p).1 = (c.slots p).chain.find? q := by
  unfold getBy
  cases hr : removeFirst q (c.slots p).chain with
  | none => exact (removeFirst_none _ _ hr).symm
  | some t =>
    obtain ⟨e, rest⟩ := t
    obtain ⟨pre, post, hl, _, hpre, hq⟩ := removeFirst_split _ _ _ _ hr
    rw [hl]; exact (find_of_split hpre hq).symm

theorem getPage_fst (c : Cache) (p s : Int) : (getPage c p s).1 = lookup c p s := by
  rw [getPage_eq]; unfold lookup
  cases validPgno p
  · rfl
  · exact getBy_fst _ _ _

theorem getExact_fst (c : Cache) (p s : Int) : (getExact c p s).1 = lookupX c p s := by
  rw [getExact_eq]; exact getBy_fst _ _ _

/-- `c'` is `c` up to the order of the hash chains: same statistics, same answer to every exact look-up -/
structure Equiv (c c' : Cache) : Prop where
  stat : ∀ q : Nat, (c'.slots q).stat = (c.slots q).stat
  ncached : c'.nCached = c.nCached
  look : ∀ (q : Nat) (s : Int), (c'.slots q).chain.find? (predX s) = (c.slots q).chain.find? (predX s)

theorem Equiv.refl (c : Cache) : Equiv c c := ⟨fun _ => rfl, rfl, fun _ _ => rfl⟩

/-- moving the page a look-up found to the head of its chain does not change the answer to any exact look-up:
    the pages it overtakes have another sub-page number -/
theorem find_move_front (s' : Int) (pre post : List Entry) (e : Entry)
    (hov : predX s' e = true → ∀ x ∈ pre, predX s' x = false) :
    (e :: (pre ++ post)).find? (predX s') = (pre ++ e :: post).find? (predX s') := by
  by_cases hpe : predX s' e = true
  · rw [find_of_split (hov hpe) hpe]
    simp [hpe]
  · have hpe' : predX s' e = false := by simpa using hpe
    simp [List.find?_append, hpe']

theorem setSlot_equiv {c c' : Cache} (h : Equiv c c') (p : Nat) (pre post : List Entry) (e : Entry)
    (hl : (c'.slots p).chain = pre ++ e :: post)
    (hov : ∀ s', predX s' e = true → ∀ x ∈ pre, predX s' x = false) :
    Equiv c (c'.setSlot p ⟨(c'.slots p).stat, e :: (pre ++ post)⟩ c'.nCached) := by
  refine ⟨?_, ?_, ?_⟩
  · intro q'; unfold Cache.setSlot; simp only
    by_cases hqp : q' = p
    · subst hqp; simp [h.stat]
    · simp [hqp, h.stat]
  · simp [Cache.setSlot, h.ncached]
  · intro q' s'
    unfold Cache.setSlot; simp only
    by_cases hqp : q' = p
    · subst hqp
      simp only [if_true]
      rw [← h.look _ s', hl]
      exact find_move_front s' pre post e (hov s')
    · simp [hqp, h.look q' s']

theorem getBy_equiv {c c' : Cache} (h : Equiv c c') (q : Entry → Bool) (p : Nat)
    (hq : ∀ e x, q e = true → q x = false → e.subno ≠ x.subno) : Equiv c (getBy q c' p).2 := by
  unfold getBy
  cases hr : removeFirst q (c'.slots p).chain with
  | none => exact h
  | some t =>
    obtain ⟨e, rest⟩ := t
    obtain ⟨pre, post, hl, hrest, hpre, hqe⟩ := removeFirst_split _ _ _ _ hr
    simp only [hrest]
    refine setSlot_equiv h _ pre post e hl ?_
    intro s' hpe x hx
    have := hq e x hqe (hpre x hx)
    simp only [predX, decide_eq_true_eq] at hpe
    simp only [predX, decide_eq_false_iff_not]
    omega

theorem getPage_equiv {c c' : Cache} (h : Equiv c c') (p s : Int) : Equiv c (getPage c' p s).2 := by
  rw [getPage_eq]
  cases validPgno p
  · exact h
  · refine getBy_equiv h _ _ (fun e x he hx => ?_)
    simp only [pred, Bool.or_eq_true, decide_eq_true_eq, Bool.or_eq_false_iff, decide_eq_false_iff_not] at he hx
    omega

theorem getExact_equiv {c c' : Cache} (h : Equiv c c') (p s : Int) : Equiv c (getExact c' p s).2 := by
  rw [getExact_eq]
  refine getBy_equiv h _ _ (fun e x he hx => ?_)
  simp only [predX, decide_eq_true_eq, decide_eq_false_iff_not] at he hx
  omega

theorem stat_of_equiv {c c' : Cache} (h : Equiv c c') (q : Int) : c'.stat q = c.stat q := by
  unfold Cache.stat; exact h.stat _

theorem skip_congr {c c' : Cache} (h : ∀ q : Int, c'.stat q = c.stat q) (dir : Int) :
    ∀ (n : Nat) (p s : Int) (w : Bool), skip c' dir n p s w = skip c dir n p s w := by
  intro n
  induction n with
  | zero => intro p s w; rfl
  | succ n ih =>
    intro p s w
    unfold skip
    simp only [h, ih]

/-- the callbacks a walk makes when it probes the positions `ps` (exact look-ups) on cache `c` -/
def runPos {σ : Type} (cb : Callback σ) (c : Cache) : List Pos → σ → Int × σ
  | [], s => (-1, s)
  | (p, sub, w) :: rest, s =>
    match lookupX c p sub with
    | none => runPos cb c rest s
    | some e =>
      match cb s p.toNat e w with
      | (r, s') => if r ≠ 0 then (r, s') else runPos cb c rest s'

theorem runPos_cons {σ : Type} (cb : Callback σ) (c : Cache) (p sub : Int) (w : Bool) (rest : List Pos) (s : σ) :
    runPos cb c ((p, sub, w) :: rest) s =
      match lookupX c p sub with
      | none => runPos cb c rest s
      | some e =>
        match cb s p.toNat e w with
        | (r, s') => if r ≠ 0 then (r, s') else runPos cb c rest s' := rfl

theorem lookupX_equiv {c c' : Cache} (h : Equiv c c') (p s : Int) : lookupX c' p s = lookupX c p s := by
  unfold lookupX; exact h.look _ s

theorem lookupX_subno {c : Cache} {p sub : Int} {e : Entry} (h : lookupX c p sub = some e) :
    (e.subno : Int) = sub := by
  unfold lookupX at h
  have := List.find?_some h
  simpa [predX] using this

theorem lookupX_mem {c : Cache} {p sub : Int} {e : Entry} (h : lookupX c p sub = some e) :
    e ∈ (c.slots p.toNat).chain := by
  unfold lookupX at h
  exact List.mem_of_find?_eq_some h

/-- the outer loop on a cache `c0` that is `c` up to chain order: the cache it leaves is so too, and unless the fuel
    runs out it returns the first non-zero answer of the callback - on the page found at the current position, then on
    the pages the exact look-up finds at `positions` -, -1 when there is none -/
theorem loop_factors {σ : Type} (cb : Callback σ) (c : Cache) (dir : Int) :
    ∀ (n : Nat) (c0 : Cache) (s : σ) (p sub : Int) (w : Bool) (cp : Option Entry), Equiv c c0 →
    Equiv c (loop cb dir n c0 s p sub w cp).cache ∧
    ((loop cb dir n c0 s p sub w cp).res = .outOfFuel ∨
    ((loop cb dir n c0 s p sub w cp).res =
        .ret (match firstCall cb s p w cp with
              | (r, s1) => if r ≠ 0 then r else (runPos cb c (positions c dir n p sub w) s1).1) ∧
     (loop cb dir n c0 s p sub w cp).st =
        (match firstCall cb s p w cp with
         | (r, s1) => if r ≠ 0 then s1 else (runPos cb c (positions c dir n p sub w) s1).2))) := by
  intro n
  induction n with
  | zero => intro c0 s p sub w cp heq; exact ⟨heq, Or.inl rfl⟩
  | succ n ih =>
    intro c0 s p sub w cp heq
    rw [loop_succ, positions_succ]
    generalize firstCall cb s p w cp = rs
    obtain ⟨r, s1⟩ := rs
    simp only
    by_cases hr0 : r ≠ 0
    · rw [if_pos hr0, if_pos hr0, if_pos hr0]; exact ⟨heq, Or.inr ⟨rfl, rfl⟩⟩
    · simp only [if_neg hr0]
      rw [skip_congr (stat_of_equiv heq)]
      cases hsk : skip c dir skipFuel p (sub + dir) w with
      | none => exact ⟨heq, Or.inl rfl⟩
      | some t =>
        cases t with
        | none => exact ⟨heq, Or.inr ⟨rfl, rfl⟩⟩
        | some t =>
          obtain ⟨p', s', w'⟩ := t
          simp only
          have heq' := getExact_equiv heq p' s'
          have hfst : (getExact c0 p' s').1 = lookupX c p' s' := by
            rw [getExact_fst, lookupX_equiv heq p' s']
          generalize getExact c0 p' s' = g at heq' hfst
          obtain ⟨cp', c'⟩ := g
          simp only at heq' hfst ⊢
          obtain ⟨ihc, ih0 | ⟨ih1, ih2⟩⟩ := ih c' s1 p' s' w' cp' heq'
          · exact ⟨ihc, Or.inl ih0⟩
          · refine ⟨ihc, Or.inr ?_⟩
            rw [ih1, ih2, runPos_cons, ← hfst]
            cases cp' with
            | none => simp [firstCall]
            | some e =>
              simp only [firstCall]
              by_cases hr2 : (cb s1 p'.toNat e w').1 = 0 <;> simp [hr2]

theorem loop_no_assert {σ : Type} (cb : Callback σ) (dir : Int) (n : Nat) (c : Cache) (s : σ) (p sub : Int) (w : Bool)
    (cp : Option Entry) : (loop cb dir n c s p sub w cp).res ≠ .assertFail := by
  rcases (loop_factors cb c dir n c s p sub w cp (Equiv.refl c)).2 with h | ⟨h, _⟩ <;> rw [h] <;> nofun

/-- the page the look-up of the START position returns, in either source shape -/
def lookupS (sh : Shape) (c : Cache) (p s : Int) : Option Entry :=
  if sh.startExact then (if 0x100 ≤ p ∧ p ≤ 0x8FF then lookupX c p s else none) else lookup c p s

theorem getStart_fst (sh : Shape) (c : Cache) (p s : Int) : (getStart sh c p s).1 = lookupS sh c p s := by
  unfold getStart lookupS
  cases sh.startExact with
  | false => simp only [Bool.false_eq_true, if_false]; exact getPage_fst c p s
  | true =>
    simp only [if_true]
    by_cases hp : 0x100 ≤ p ∧ p ≤ 0x8FF
    · rw [if_pos hp, if_pos hp]; exact getExact_fst c p s
    · rw [if_neg hp, if_neg hp]

theorem getStart_equiv {c c' : Cache} (h : Equiv c c') (sh : Shape) (p s : Int) : Equiv c (getStart sh c' p s).2 := by
  unfold getStart
  cases sh.startExact with
  | false => simp only [Bool.false_eq_true, if_false]; exact getPage_equiv h p s
  | true =>
    simp only [if_true]
    by_cases hp : 0x100 ≤ p ∧ p ≤ 0x8FF
    · rw [if_pos hp]; exact getExact_equiv h p s
    · rw [if_neg hp]; exact h

/-- sub-page number the walk starts from: unrepaired shape - that of the page found at the start position (or 0
    for the wildcard without a page); repaired shape - the caller's -/
def startSub (sh : Shape) (c : Cache) (p sub : Int) : Int := startSubS sh (lookupS sh c p sub) sub

theorem startSub_repaired (sh : Shape) (h : sh.startExact = true) (c : Cache) (p sub : Int) : startSub sh c p sub = sub := by
  unfold startSub startSubS; simp [h]

theorem startSub_exact (sh : Shape) (c : Cache) (p sub : Int) (hs : sh.startExact = true ∨ sub ≠ ANY_SUBNO) :
    startSub sh c p sub = sub := by
  cases hse : sh.startExact with
  | true => exact startSub_repaired sh hse c p sub
  | false =>
    have hs' : sub ≠ ANY_SUBNO := by
      rcases hs with h | h
      · rw [hse] at h; cases h
      · exact h
    unfold startSub startSubS lookupS startSubOf
    simp only [hse, Bool.false_eq_true, if_false]
    cases hl : lookup c p sub with
    | none => simp only; rw [if_neg hs']
    | some e =>
      simp only
      unfold lookup at hl
      by_cases hv : validPgno p = true
      · simp only [hv, if_true] at hl
        have := List.find?_some hl
        simpa [pred, hs'] using this
      · simp [hv] at hl

/-- all positions a walk probes when its callback never stops it: the start position, then one per iteration -/
def walkPositions (sh : Shape) (c : Cache) (p sub dir : Int) : List Pos :=
  (p, startSub sh c p sub, false) :: positions c dir walkFuel p (startSub sh c p sub) false

/-- the walk as a fold: the callback on the page the start look-up finds (unrepaired shape: wildcard sub-page number
    honoured; repaired shape: exact), then on the pages the exact look-up finds at the later positions -/
def walkRun {σ : Type} (sh : Shape) (cb : Callback σ) (c : Cache) (p sub dir : Int) (s : σ) : Int × σ :=
  match firstCall cb s p false (lookupS sh c p sub) with
  | (r, s1) => if r ≠ 0 then (r, s1) else runPos cb c (positions c dir walkFuel p (startSub sh c p sub) false) s1

/-- the three exits of `_vbi_cache_foreach_page` -/
theorem walk_eq {σ : Type} (sh : Shape) (cb : Callback σ) (fuel : Nat) (c : Cache) (s : σ) (p sub dir : Int) :
    walk sh cb fuel c s p sub dir =
      if c.nCached = 0 then ⟨.ret 0, s, c⟩ else
      if p < 0x100 ∨ p > 0x8FF then ⟨.assertFail, s, (getStart sh c p sub).2⟩ else
      loop cb dir fuel (getStart sh c p sub).2 s p (startSubS sh (getStart sh c p sub).1 sub) false (getStart sh c p sub).1 :=
  rfl

/-- on a non-empty cache, from a valid page number, the walk does not run out of `walkFuel` and is `walkRun` -/
theorem walk_factors {σ : Type} (sh : Shape) (cb : Callback σ) (c : Cache) (s : σ) (p sub dir : Int)
    (hne : c.nCached ≠ 0) (hp : PgOk p) (hdir : dir = 1 ∨ dir = -1) :
    (walk sh cb walkFuel c s p sub dir).res = .ret (walkRun sh cb c p sub dir s).1 ∧
    (walk sh cb walkFuel c s p sub dir).st = (walkRun sh cb c p sub dir s).2 := by
  rw [walk_eq, if_neg hne, if_neg (by unfold PgOk at hp; omega),
    show startSubS sh (getStart sh c p sub).1 sub = startSub sh c p sub by unfold startSub; rw [getStart_fst]]
  have hterm : (loop cb dir walkFuel (getStart sh c p sub).2 s p (startSub sh c p sub) false (getStart sh c p sub).1).res ≠
      .outOfFuel := by
    obtain ⟨d, rfl⟩ := Dir.of_int hdir
    exact d.loop_terminates cb _ _ _ _ _ _ _ hp (d.togo_lt_fuel hp _ _)
  rcases (loop_factors cb c dir walkFuel _ s p (startSub sh c p sub) false _ (getStart_equiv (Equiv.refl c) sh p sub)).2
    with h0 | ⟨h1, h2⟩
  · exact absurd h0 hterm
  · rw [h1, h2, getStart_fst]
    unfold walkRun
    generalize firstCall cb s p false (lookupS sh c p sub) = rs
    obtain ⟨r, s1⟩ := rs
    simp only
    by_cases hr : r ≠ 0 <;> simp [hr]

/-- unrepaired shape: the exact look-up at the start position finds the page `_vbi_cache_get_page` returned - for an
    exact sub-page number both look-ups apply the same test; for the wildcard the page returned is the head of the chain,
    and the exact look-up of its sub-page number finds the head -/
theorem lookupX_startSubW (c : Cache) (p sub : Int) (hok : validPgno p = true ∨ (c.slots p.toNat).chain = []) :
    lookupX c p (startSubOf (lookup c p sub) sub) = lookup c p sub := by
  unfold lookup lookupX
  by_cases hv : validPgno p = true
  · rw [if_pos hv]
    by_cases hs : sub = ANY_SUBNO
    · subst hs
      cases (c.slots p.toNat).chain with
      | nil => rfl
      | cons a l => simp [pred, predX, startSubOf]
    · rw [show pred sub = predX sub by funext x; simp [pred, predX, hs]]
      cases hl : (c.slots p.toNat).chain.find? (predX sub) with
      | none => simp only [startSubOf, if_neg hs]; exact hl
      | some e =>
        have hpe : (e.subno : Int) = sub := by simpa [predX] using List.find?_some hl
        simp only [startSubOf, hpe]; exact hl
  · rw [if_neg hv, hok.resolve_left hv]; rfl

/-- what the uniform statement needs about the start page number: nothing in the repaired shape; in the unrepaired
    shape it passes the check of `_vbi_cache_get_page` (not xFF), or nothing is cached under it
    (`_vbi_cache_put_page` stores no page xFF: `buildF_noFF`) -/
def StartOk (sh : Shape) (c : Cache) (p : Int) : Prop :=
  sh.startExact = true ∨ validPgno p = true ∨ (c.slots p.toNat).chain = []

theorem lookupX_startSub (sh : Shape) (c : Cache) (p sub : Int) (hp : PgOk p) (hok : StartOk sh c p) :
    lookupX c p (startSub sh c p sub) = lookupS sh c p sub := by
  unfold startSub startSubS lookupS
  cases hse : sh.startExact with
  | true =>
    unfold PgOk at hp
    simp only [if_true, if_pos hp]
  | false =>
    simp only [Bool.false_eq_true, if_false]
    apply lookupX_startSubW
    rcases hok with h | h
    · rw [hse] at h; cases h
    · exact h

theorem walkRun_eq_runPos {σ : Type} (sh : Shape) (cb : Callback σ) (c : Cache) (p sub dir : Int) (s : σ) (hp : PgOk p)
    (hok : StartOk sh c p) :
    walkRun sh cb c p sub dir s = runPos cb c (walkPositions sh c p sub dir) s := by
  unfold walkRun walkPositions
  rw [runPos_cons, lookupX_startSub sh c p sub hp hok]
  cases lookupS sh c p sub with
  | none => simp [firstCall]
  | some e => rfl

/-! ## the fold for any callback

`Steady cb Fz`: a call that returns 0 leaves a state related by `Fz` to the one it got, and the return value of `cb` is
the same on `Fz`-related states (`Fz` = "equal in the fields the callback reads").  Both `search_page_fwd` and
`search_page_rev` are of this kind. -/

structure Steady {σ : Type} (cb : Callback σ) (Fz : σ → σ → Prop) : Prop where
  refl : ∀ s, Fz s s
  trans : ∀ {a b d}, Fz a b → Fz b d → Fz a d
  zero : ∀ {s p e w s1}, cb s p e w = (0, s1) → Fz s s1
  code : ∀ {s t}, Fz s t → ∀ p e w, (cb t p e w).1 = (cb s p e w).1

/-- the callback returns 0 on every page found at the positions `L`, which takes the state from `s` to `s'` -/
inductive Zeros {σ : Type} (cb : Callback σ) (c : Cache) : List Pos → σ → σ → Prop
  | nil (s : σ) : Zeros cb c [] s s
  | miss {p sub : Int} {w : Bool} {L : List Pos} {s s' : σ} : lookupX c p sub = none → Zeros cb c L s s' →
      Zeros cb c ((p, sub, w) :: L) s s'
  | zero {p sub : Int} {w : Bool} {L : List Pos} {s s1 s' : σ} {e : Entry} : lookupX c p sub = some e →
      cb s p.toNat e w = (0, s1) → Zeros cb c L s1 s' → Zeros cb c ((p, sub, w) :: L) s s'

/-- **the fold, taken apart**: the callback returns 0 along the whole list and the fold ends with -1, or it returns 0
    along `pre` and the fold ends with what it returns, other than 0, on the page found at the next position -/
theorem runPos_cases {σ : Type} (cb : Callback σ) (c : Cache) : ∀ (L : List Pos) (s : σ),
    (∃ s', Zeros cb c L s s' ∧ runPos cb c L s = (-1, s')) ∨
    ∃ pre x post e s0, L = pre ++ x :: post ∧ Zeros cb c pre s s0 ∧ lookupX c x.1 x.2.1 = some e ∧
      (cb s0 x.1.toNat e x.2.2).1 ≠ 0 ∧ runPos cb c L s = cb s0 x.1.toNat e x.2.2 := by
  intro L
  induction L with
  | nil => intro s; exact .inl ⟨s, .nil s, rfl⟩
  | cons a L ih =>
    intro s
    obtain ⟨ap, asub, aw⟩ := a
    rw [runPos_cons]
    cases hla : lookupX c ap asub with
    | none =>
      rcases ih s with ⟨s', hz, hr⟩ | ⟨pre, x, post, e, s0, hL, hz, hr⟩
      · exact .inl ⟨s', .miss hla hz, hr⟩
      · exact .inr ⟨_ :: pre, x, post, e, s0, by rw [hL]; rfl, .miss hla hz, hr⟩
    | some ea =>
      simp only
      cases hcb : cb s ap.toNat ea aw with
      | mk r1 s1 =>
        simp only
        by_cases hr1 : r1 = 0
        · subst hr1
          rw [if_neg (by decide)]
          rcases ih s1 with ⟨s', hz, hr⟩ | ⟨pre, x, post, e, s0, hL, hz, hr⟩
          · exact .inl ⟨s', .zero hla hcb hz, hr⟩
          · exact .inr ⟨_ :: pre, x, post, e, s0, by rw [hL]; rfl, .zero hla hcb hz, hr⟩
        · rw [if_pos hr1]
          exact .inr ⟨[], (ap, asub, aw), L, ea, s, rfl, .nil s, hla, by rw [hcb]; exact hr1, hcb.symm⟩

theorem Zeros.steady {σ : Type} {cb : Callback σ} {Fz : σ → σ → Prop} (hst : Steady cb Fz) {c : Cache} {L : List Pos}
    {s s' : σ} (h : Zeros cb c L s s') :
    Fz s s' ∧ ∀ y ∈ L, ∀ ey, lookupX c y.1 y.2.1 = some ey → (cb s y.1.toNat ey y.2.2).1 = 0 := by
  induction h with
  | nil s => exact ⟨hst.refl s, nofun⟩
  | miss hla _ ih =>
    refine ⟨ih.1, fun y hy ey hey => ?_⟩
    rcases List.mem_cons.mp hy with rfl | hy
    · rw [hla] at hey; cases hey
    · exact ih.2 y hy ey hey
  | zero hla hcb _ ih =>
    have hfz := hst.zero hcb
    refine ⟨hst.trans hfz ih.1, fun y hy ey hey => ?_⟩
    rcases List.mem_cons.mp hy with rfl | hy
    · rw [hla] at hey; cases hey; rw [hcb]
    · rw [← hst.code hfz]; exact ih.2 y hy ey hey

/-- a fold that ends with a value other than -1: that value is the first non-zero return value of the callback, all
    found pages before it returned 0 (judged in the initial state) -/
theorem runPos_first_hit {σ : Type} {cb : Callback σ} {Fz : σ → σ → Prop} (hst : Steady cb Fz) (c : Cache)
    (L : List Pos) (s sf : σ) (r : Int) (h : runPos cb c L s = (r, sf)) (hr : r ≠ -1) :
    ∃ pre x post e s0, L = pre ++ x :: post ∧ lookupX c x.1 x.2.1 = some e ∧ Fz s s0 ∧
      cb s0 x.1.toNat e x.2.2 = (r, sf) ∧
      ∀ y ∈ pre, ∀ ey, lookupX c y.1 y.2.1 = some ey → (cb s y.1.toNat ey y.2.2).1 = 0 := by
  rcases runPos_cases cb c L s with ⟨s', _, hr'⟩ | ⟨pre, x, post, e, s0, hL, hz, hlx, _, hr'⟩
  · rw [h] at hr'; cases hr'; exact absurd rfl hr
  · exact ⟨pre, x, post, e, s0, hL, hlx, (hz.steady hst).1, by rw [← hr', h], (hz.steady hst).2⟩

theorem runPos_range {σ : Type} {cb : Callback σ}
    (hr : ∀ s p e w, (cb s p e w).1 = -1 ∨ (cb s p e w).1 = 0 ∨ (cb s p e w).1 = 1) (c : Cache) (L : List Pos) (s : σ) :
    (runPos cb c L s).1 = -1 ∨ (runPos cb c L s).1 = 1 := by
  rcases runPos_cases cb c L s with ⟨s', _, hr'⟩ | ⟨pre, x, post, e, s0, _, _, _, hne, hr'⟩
  · rw [hr']; exact .inl rfl
  · rw [hr']; exact (hr s0 x.1.toNat e x.2.2).imp_right fun h => h.resolve_left hne

theorem runPos_keeps {σ α : Type} {cb : Callback σ} (f : σ → α) (hk : ∀ s p e w, f (cb s p e w).2 = f s) (c : Cache)
    (L : List Pos) (s : σ) : f (runPos cb c L s).2 = f s := by
  have hz : ∀ {L s s'}, Zeros cb c L s s' → f s' = f s := fun h => by
    induction h with
    | nil s => rfl
    | miss _ _ ih => exact ih
    | @zero p _ w _ s _ _ e _ hcb _ ih => rw [ih]; have := hk s p.toNat e w; rwa [hcb] at this
  rcases runPos_cases cb c L s with ⟨s', h, hr'⟩ | ⟨pre, x, post, e, s0, _, h, _, _, hr'⟩
  · rw [hr']; exact hz h
  · rw [hr', hk]; exact hz h

theorem mem_pre_of_lt {lt : Pos → Pos → Prop} (hirr : ∀ a, ¬ lt a a) (htr : ∀ {a b d}, lt a b → lt b d → lt a d)
    {pre post : List Pos} {x y : Pos} (hs : (pre ++ x :: post).Pairwise lt)
    (hy : y ∈ pre ++ x :: post) (hlt : lt y x) : y ∈ pre := by
  rcases List.mem_append.mp hy with h | h
  · exact h
  · exfalso
    rcases List.mem_cons.mp h with rfl | h
    · exact hirr _ hlt
    · have hp := (List.pairwise_append.mp hs).2.1
      rw [List.pairwise_cons] at hp
      exact hirr _ (htr (hp.1 y h) hlt)

theorem skip_inRange (c : Cache) (dir : Int) (p s : Int) (w : Bool) (h : inRange (c.stat p) s = true) :
    skip c dir skipFuel p s w = some (some (p, s, w)) := by
  rw [show skipFuel = 4097 + 1 from rfl, skip, if_pos h]

/-- a backward walk inside one statistics window: `k` positions in a row at which nothing is cached are probed and
    passed without a callback (a window like [2, 0x3F7F] with two cached pages need not be evaluated position by
    position) -/
theorem runPos_idle_bwd {σ : Type} (cb : Callback σ) (c : Cache) (p : Int) (w : Bool) (n : Nat) (s : σ) :
    ∀ (k : Nat) (sub : Int), (c.stat p).nSub ≠ 0 → ((c.stat p).subMin.toNat : Int) ≤ sub - k →
      sub - 1 ≤ ((c.stat p).subMax.toNat : Int) →
      (∀ e ∈ (c.slots p.toNat).chain, (e.subno : Int) < sub - k ∨ sub ≤ (e.subno : Int)) →
      runPos cb c (positions c (-1) (n + k) p sub w) s = runPos cb c (positions c (-1) n p (sub - k) w) s := by
  intro k
  induction k with
  | zero => intro sub _ _ _ _; simp
  | succ k ih =>
    intro sub h0 hlo hhi hno
    have hin : inRange (c.stat p) (sub + -1) = true := by rw [inRange_iff]; exact ⟨h0, by omega, by omega⟩
    have hl : lookupX c p (sub + -1) = none := by
      unfold lookupX
      rw [List.find?_eq_none]
      intro e he
      have := hno e he
      simp only [predX, decide_eq_true_eq]
      omega
    rw [show n + (k + 1) = (n + k) + 1 from rfl, positions_succ, skip_inRange c (-1) p _ w hin]
    simp only
    rw [runPos_cons, hl]
    simp only
    rw [ih (sub + -1) h0 (by omega) (by omega) (fun e he => by have := hno e he; omega)]
    congr 2
    omega

end Zvbi.Search
