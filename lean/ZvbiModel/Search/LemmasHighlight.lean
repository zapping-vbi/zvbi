import ZvbiModel.Search.LemmasHay
/-!
# `highlight` paints the cells of the haystack characters of the occurrence (C17)

`layout`: per haystack character the cells it occupies on the page; `paint`: the cells of the characters in an offset
interval.  `highlight_cells`: the `hl` list `highlight` leaves is `paint` of the occurrence over `layout`.
-/
namespace Zvbi.Search

/-- per haystack character of one row: the cells it occupies on the page -/
def layoutRow (i : Nat) : List Iter → List (List (Nat × Nat))
  | [] => []
  | it :: rest => if it.size ≤ 3 then hlCells i it.col it.size :: layoutRow i rest else layoutRow i rest

/-- per haystack character (row separators: no cell) of the whole page -/
def layout (t : Text) : List (List (Nat × Nat)) :=
  rowsList.flatMap (fun i => layoutRow i (rowIters t i 40 0) ++ [[]])

/-- the cells of the characters with ms <= offset < me, offsets counted from `off` -/
def paint (ms me : Int) : Int → List (List (Nat × Nat)) → List (Nat × Nat)
  | _, [] => []
  | off, x :: xs => (if ms ≤ off ∧ off < me then x else []) ++ paint ms me (off + 1) xs

theorem paint_done (ms me : Int) : ∀ (l : List (List (Nat × Nat))) (off : Int), me ≤ off → paint ms me off l = [] := by
  intro l
  induction l with
  | nil => intro off _; rfl
  | cons x xs ih =>
    intro off h
    unfold paint
    have : ¬ (ms ≤ off ∧ off < me) := by omega
    simp [this, ih (off + 1) (by omega)]

theorem paint_append (ms me : Int) : ∀ (a b : List (List (Nat × Nat))) (off : Int),
    paint ms me off (a ++ b) = paint ms me off a ++ paint ms me (off + a.length) b := by
  intro a
  induction a with
  | nil => intro b off; simp [paint]
  | cons x xs ih =>
    intro b off
    have e : off + 1 + (xs.length : Int) = off + ((xs.length + 1 : Nat) : Int) := by push_cast; omega
    simp only [List.cons_append, paint, ih, List.append_assoc, List.length_cons, e]

/-- the accumulator agrees with the virtual offset `voff` (offsets keep counting after `done`) -/
def HlOk (me : Int) (a : HlAcc) (voff : Int) : Prop :=
  (a.done = false ∧ voff = a.off) ∨ (a.done = true ∧ me ≤ voff)

theorem hlCells_big {i j size : Nat} (h : ¬ size ≤ 3) : hlCells i j size = [] := by
  unfold hlCells
  have h1 : size ≠ 3 := by omega
  have h2 : size ≠ 1 := by omega
  have h3 : size ≠ 2 := by omega
  have h4 : size ≠ 0 := by omega
  simp [h1, h2, h3, h4]

theorem hl_step_facts (ms : Int) (i : Nat) (it : Iter) (a : HlAcc) (hnd : a.done = false) :
    (hlAdvance it (hlPaint ms i it (hlMark ms i it a))).off = (if it.size ≤ 3 then a.off + 1 else a.off) ∧
    (hlAdvance it (hlPaint ms i it (hlMark ms i it a))).done = false ∧
    (hlAdvance it (hlPaint ms i it (hlMark ms i it a))).cells =
      a.cells ++ (if ms ≤ a.off then hlCells i it.col it.size else []) := by
  have m1 : (hlMark ms i it a).off = a.off ∧ (hlMark ms i it a).cells = a.cells ∧ (hlMark ms i it a).done = false := by
    unfold hlMark
    by_cases hlt : a.off < ms
    · by_cases h39 : it.col = 39
      · simp [hlt, h39, hnd]
      · simp [hlt, h39, hnd]
    · simp [hlt, hnd]
  have m2 : (hlPaint ms i it (hlMark ms i it a)).off = a.off ∧ (hlPaint ms i it (hlMark ms i it a)).done = false ∧
      (hlPaint ms i it (hlMark ms i it a)).cells = a.cells ++ (if ms ≤ a.off then hlCells i it.col it.size else []) := by
    unfold hlPaint
    by_cases hms : (hlMark ms i it a).off ≥ ms
    · have hms' : ms ≤ a.off := by rw [m1.1] at hms; exact hms
      simp [hms', m1.1, m1.2.1, m1.2.2]
    · have hms' : ¬ ms ≤ a.off := by rw [m1.1] at hms; exact hms
      simp [hms', m1.1, m1.2.1, m1.2.2]
  unfold hlAdvance
  by_cases hsz : it.size ≤ 3
  · simp [hsz, m2.1, m2.2.1, m2.2.2]
  · simp [hsz, m2.1, m2.2.1, m2.2.2]

/-- one row of `highlight`: it paints the cells `paint` selects from the row's layout, offsets counted on by `voff` -/
theorem hlRow_spec (ms me : Int) (i : Nat) : ∀ (its : List Iter) (a : HlAcc) (voff : Int), HlOk me a voff →
    (hlRow ms me i its a).cells = a.cells ++ paint ms me voff (layoutRow i its) ∧
    HlOk me (hlRow ms me i its a) (voff + (layoutRow i its).length) := by
  intro its
  induction its with
  | nil =>
    intro a voff h
    simp only [hlRow, layoutRow, paint, List.append_nil, List.length_nil, Int.natCast_zero, Int.add_zero]
    exact ⟨trivial, h⟩
  | cons it rest ih =>
    intro a voff h
    unfold hlRow
    rcases h with ⟨hnd, hv⟩ | ⟨hd, hv⟩
    · simp only [hnd, Bool.false_eq_true, if_false]
      by_cases hme : a.off ≥ me
      · simp only [hme, if_true]
        refine ⟨?_, Or.inr ⟨rfl, by omega⟩⟩
        rw [paint_done ms me _ voff (by omega)]; simp
      · simp only [hme, if_false]
        have hstep := hl_step_facts ms i it a hnd
        obtain ⟨q1, q2, q3⟩ := hstep
        by_cases hsz : it.size ≤ 3
        · obtain ⟨r1, r2⟩ := ih (hlAdvance it (hlPaint ms i it (hlMark ms i it a))) (voff + 1)
            (Or.inl ⟨q2, by rw [q1]; simp [hsz, hv]⟩)
          rw [r1, q3]
          simp only [hsz, if_true, layoutRow, paint, List.length_cons]
          refine ⟨?_, ?_⟩
          · have hc : (ms ≤ voff ∧ voff < me) ↔ ms ≤ a.off := by rw [hv]; constructor <;> intro h <;> omega
            by_cases hms : ms ≤ a.off
            · simp [hms, hc.mpr hms, List.append_assoc]
            · have : ¬ (ms ≤ voff ∧ voff < me) := fun h => hms (hc.mp h)
              simp [hms, this]
          · have : voff + ((layoutRow i rest).length + 1 : Nat) = voff + 1 + (layoutRow i rest).length := by push_cast; omega
            rw [this]; exact r2
        · obtain ⟨r1, r2⟩ := ih (hlAdvance it (hlPaint ms i it (hlMark ms i it a))) voff
            (Or.inl ⟨q2, by rw [q1]; simp [hsz, hv]⟩)
          rw [r1, q3]
          simp only [hsz, if_false, layoutRow]
          refine ⟨?_, r2⟩
          simp [hlCells_big hsz]
    · -- already done: nothing changes, nothing is painted
      simp only [hd, if_true]
      refine ⟨?_, Or.inr ⟨hd, by omega⟩⟩
      rw [paint_done ms me _ voff hv]; simp

theorem hl_fold_spec (t : Text) (ms me : Int) : ∀ (rows : List Nat) (a : HlAcc) (voff : Int), HlOk me a voff →
    (rows.foldl (hlStep t ms me) a).cells =
      a.cells ++ paint ms me voff (rows.flatMap (fun i => layoutRow i (rowIters t i 40 0) ++ [[]])) := by
  intro rows
  induction rows with
  | nil => intro a voff _; simp [paint]
  | cons i rows ih =>
    intro a voff h
    simp only [List.foldl_cons, List.flatMap_cons]
    rw [paint_append, paint_append]
    have hsep : ∀ o : Int, paint ms me o [[]] = [] := by intro o; simp [paint]
    have hlen : (voff + ((layoutRow i (rowIters t i 40 0) ++ [[]]).length : Nat) : Int) =
        voff + (layoutRow i (rowIters t i 40 0)).length + 1 := by simp; omega
    rcases h with ⟨hnd, hv⟩ | ⟨hd, hv⟩
    · obtain ⟨r1, r2⟩ := hlRow_spec ms me i (rowIters t i 40 0) a voff (Or.inl ⟨hnd, hv⟩)
      rcases r2 with ⟨hnd2, hv2⟩ | ⟨hd2, hv2⟩
      · have hs : hlStep t ms me a i = { hlRow ms me i (rowIters t i 40 0) a with off := (hlRow ms me i (rowIters t i 40 0) a).off + 1 } := by
          unfold hlStep; simp [hnd, hnd2]
        have hok : HlOk me ({ hlRow ms me i (rowIters t i 40 0) a with off := (hlRow ms me i (rowIters t i 40 0) a).off + 1 })
            (voff + (layoutRow i (rowIters t i 40 0) ++ [[]]).length) :=
          Or.inl ⟨hnd2, by rw [hlen]; show _ = (hlRow ms me i (rowIters t i 40 0) a).off + 1; omega⟩
        rw [hs, ih _ _ hok]
        simp only [r1, hsep, List.append_nil, List.append_assoc]
      · have hs : hlStep t ms me a i = hlRow ms me i (rowIters t i 40 0) a := by
          unfold hlStep; simp [hnd, hd2]
        rw [hs, ih _ (voff + (layoutRow i (rowIters t i 40 0) ++ [[]]).length) (Or.inr ⟨hd2, by rw [hlen]; omega⟩)]
        simp only [r1, hsep, List.append_nil, List.append_assoc]
    · have hs : hlStep t ms me a i = a := by unfold hlStep; simp [hd]
      rw [hs, ih a (voff + (layoutRow i (rowIters t i 40 0) ++ [[]]).length) (Or.inr ⟨hd, by rw [hlen]; omega⟩)]
      rw [paint_done ms me _ voff hv, paint_done ms me _ _ (by omega : me ≤ voff + ((layoutRow i (rowIters t i 40 0)).length : Int))]
      simp

theorem highlight_cells (s : SearchSt) (pgno : Nat) (e : Entry) (first ms me : Nat) :
    (highlight s pgno e first ms me).hl = paint ms me (-(first : Int)) (layout e.text) := by
  unfold highlight layout
  simp only
  rw [hl_fold_spec e.text ms me rowsList _ (-(first : Int)) (Or.inl ⟨rfl, rfl⟩)]
  simp

theorem layoutRow_length (i : Nat) : ∀ (its : List Iter), (∀ it ∈ its, it.emit.isSome = decide (it.size ≤ 3)) →
    (layoutRow i its).length = (rowChars its).length := by
  intro its
  induction its with
  | nil => intro _; rfl
  | cons it rest ih =>
    intro h
    have hit := h it List.mem_cons_self
    have hr := ih fun x hx => h x (List.mem_cons_of_mem _ hx)
    unfold layoutRow rowChars
    cases hem : it.emit with
    | none =>
      rw [hem] at hit
      rw [if_neg (by simpa using hit.symm), List.filterMap_cons_none hem]; exact hr
    | some u =>
      rw [hem] at hit
      rw [if_pos (by simpa using hit.symm), List.filterMap_cons_some hem, List.length_cons, List.length_cons]
      exact congrArg (· + 1) hr

theorem layout_length (t : Text) : (layout t).length = (hayFwd t (-1) 0).1.length := by
  rw [hayFwd_eq]
  unfold layout pageChars
  induction rowsList with
  | nil => rfl
  | cons i rows ih =>
    simp only [List.flatMap_cons, List.length_append, ih,
      layoutRow_length i _ fun it h => (rowIters_mem t i 40 0 it h).2, List.length_cons, List.length_nil]

end Zvbi.Search
