import ZvbiModel.Search.Model
/-!
# The haystacks of search.c, built front to back (C17)

`hayFwd` and `hayRev` follow the C loops and append every character at the end of the text collected so far, which is
quadratic in the length of the text when the kernel evaluates it.  Here the same text is described row by row
(`pageChars`, `revRows`) and the offset `first` by a count beside it (`firstRows`); `hayFwd_eq` and `hayRev_eq` say that
these are what the loops compute.  They are the equations the lemmas about haystacks start from, and with them a page
text is evaluated in linear time (`callbackOf_lin`, LemmasPage.lean).
-/
namespace Zvbi.Search

/-- one pass through the body of the column loop: the cell at column `j` gives one `Iter`, and the loop goes on one or
    two columns further -/
theorem rowIters_succ (t : Text) (i f j : Nat) (hj : j < 40) :
    ∃ it k, rowIters t i (f + 1) j = it :: rowIters t i f (j + k) ∧ it.col = j ∧ 1 ≤ k ∧
      it.emit.isSome = decide (it.size ≤ 3) := by
  rw [rowIters, if_neg (by omega)]
  dsimp only
  split
  · refine ⟨_, 2, rfl, ?_⟩
    exact ⟨rfl, by omega, by simp; omega⟩
  · split
    · refine ⟨_, 1, rfl, ?_⟩
      exact ⟨rfl, by omega, by simp; omega⟩
    · refine ⟨_, 1, rfl, ?_⟩
      exact ⟨rfl, by omega, by simp; omega⟩

theorem rowIters_end (t : Text) (i f j : Nat) (hj : 40 ≤ j) : rowIters t i f j = [] := by
  cases f with
  | zero => rfl
  | succ f => unfold rowIters; rw [if_pos hj]

/-- every `Iter` of the loop from column `j` on: its column is not before `j`, and it contributes a character exactly
    when its cell is no continuation cell -/
theorem rowIters_mem (t : Text) (i : Nat) : ∀ (f j : Nat), ∀ it ∈ rowIters t i f j,
    j ≤ it.col ∧ it.emit.isSome = decide (it.size ≤ 3) := by
  intro f
  induction f with
  | zero => intro j it h; simp [rowIters] at h
  | succ f ih =>
    intro j it h
    by_cases hj : j < 40
    · obtain ⟨it0, k, he, hc, hk, hem⟩ := rowIters_succ t i f j hj
      rw [he] at h
      rcases List.mem_cons.mp h with rfl | h
      · exact ⟨by omega, hem⟩
      · exact ⟨by have := (ih _ _ h).1; omega, (ih _ _ h).2⟩
    · rw [rowIters_end t i _ j (by omega)] at h; cases h

theorem rowIters_length (t : Text) (i : Nat) : ∀ (f j : Nat), (rowIters t i f j).length ≤ f := by
  intro f
  induction f with
  | zero => intro j; simp [rowIters]
  | succ f ih =>
    intro j
    by_cases hj : j < 40
    · obtain ⟨it0, k, he, _⟩ := rowIters_succ t i f j hj
      rw [he, List.length_cons]; exact Nat.succ_le_succ (ih _)
    · rw [rowIters_end t i _ j (by omega)]; exact Nat.zero_le _

theorem rowIters_tail_col (t : Text) (i : Nat) : ∀ it ∈ (rowIters t i 40 0).tail, 1 ≤ it.col := by
  intro it h
  obtain ⟨it0, k, he, _, hk, _⟩ := rowIters_succ t i 39 0 (by decide)
  rw [he, List.tail_cons] at h
  have := (rowIters_mem t i _ _ it h).1
  omega

/-- characters one row contributes -/
def rowChars (its : List Iter) : List Nat := its.filterMap (·.emit)

/-- the whole page text: every row followed by the separator -/
def pageChars (t : Text) (rows : List Nat) : List Nat :=
  rows.flatMap (fun i => rowChars (rowIters t i 40 0) ++ [SEPARATOR])

/-- `first` behind the cells `its` of row `i`, `n` characters collected before them -/
def firstRow (row col0 : Int) (i : Nat) : List Iter → Nat → Nat → Nat
  | [], _, first => first
  | it :: rest, n, first =>
    firstRow row col0 i rest (if it.emit.isSome then n + 1 else n)
      (if (i : Int) = row ∧ (it.col : Int) ≤ col0 then n else first)

def firstRows (t : Text) (row col0 : Int) : List Nat → Nat → Nat → Nat
  | [], _, first => first
  | i :: is, n, first =>
    firstRows t row col0 is (n + (rowChars (rowIters t i 40 0)).length + 1)
      (firstRow row col0 i (rowIters t i 40 0) n first)

theorem hayFwdRow_eq (row col0 : Int) (i : Nat) : ∀ (its : List Iter) (hay : List Nat) (first : Nat),
    hayFwdRow row col0 i its (hay, first) = (hay ++ rowChars its, firstRow row col0 i its hay.length first) := by
  intro its
  induction its with
  | nil => intro hay first; simp [hayFwdRow, rowChars, firstRow]
  | cons it rest ih =>
    intro hay first
    unfold hayFwdRow firstRow
    cases h : it.emit <;> simp [ih, rowChars, h]

theorem hayFwd_fold_eq (t : Text) (row col0 : Int) : ∀ (rows : List Nat) (hay : List Nat) (first : Nat),
    rows.foldl (hayFwdStep t row col0) (hay, first) =
      (hay ++ pageChars t rows, firstRows t row col0 rows hay.length first) := by
  intro rows
  induction rows with
  | nil => intro hay first; simp [pageChars, firstRows]
  | cons i rows ih =>
    intro hay first
    simp only [List.foldl_cons, hayFwdStep, hayFwdRow_eq, ih]
    simp [pageChars, firstRows, Nat.add_assoc]

theorem hayFwd_eq (t : Text) (row col0 : Int) :
    hayFwd t row col0 = (pageChars t rowsList, firstRows t row col0 rowsList 0 0) := by
  unfold hayFwd; rw [hayFwd_fold_eq]; rfl

/-- the characters of row `i` in front of the cursor cell, and whether the cursor is in `its` -/
def revRow (row col1 : Int) (i : Nat) : List Iter → List Nat × Bool
  | [] => ([], false)
  | it :: rest =>
    if (i : Int) = row ∧ (it.col : Int) ≥ col1 then ([], true) else
    let r := revRow row col1 i rest
    (match it.emit with | some u => u :: r.1 | none => r.1, r.2)

/-- the text in front of the cursor, and URE_NOTEOL (the cursor row contributed a character) -/
def revRows (t : Text) (row col1 : Int) : List Nat → List Nat × Bool
  | [] => ([], false)
  | i :: is =>
    let r := revRow row col1 i (rowIters t i 40 0)
    if r.2 then (r.1, !r.1.isEmpty) else
    let q := revRows t row col1 is
    (r.1 ++ SEPARATOR :: q.1, q.2)

theorem hayRevRow_eq (row col1 : Int) (i : Nat) : ∀ (its : List Iter) (hay : List Nat) (ne : Bool),
    hayRevRow row col1 i its (hay, ne) =
      (hay ++ (revRow row col1 i its).1, ne || !(revRow row col1 i its).1.isEmpty, (revRow row col1 i its).2) := by
  intro its
  induction its with
  | nil => intro hay ne; simp [hayRevRow, revRow]
  | cons it rest ih =>
    intro hay ne
    unfold hayRevRow revRow
    by_cases hc : (i : Int) = row ∧ (it.col : Int) ≥ col1
    · simp [hc]
    · cases h : it.emit <;> simp [hc, ih]

theorem hayRevRows_eq (t : Text) (row col1 : Int) : ∀ (rows : List Nat) (hay : List Nat),
    hayRevRows t row col1 rows hay = (hay ++ (revRows t row col1 rows).1, (revRows t row col1 rows).2) := by
  intro rows
  induction rows with
  | nil => intro hay; simp [hayRevRows, revRows]
  | cons i rows ih =>
    intro hay
    unfold hayRevRows revRows
    rw [hayRevRow_eq]
    cases h : (revRow row col1 i (rowIters t i 40 0)).2 <;> simp [ih, h]

theorem hayRev_eq (t : Text) (row col1 : Int) :
    hayRev t row col1 = if row < FIRST_ROW then ([], false) else revRows t row col1 rowsList := by
  unfold hayRev; rw [hayRevRows_eq]; simp

theorem hayFwd_fst_indep (t : Text) (row col0 row' col0' : Int) : (hayFwd t row col0).1 = (hayFwd t row' col0').1 := by
  rw [hayFwd_eq, hayFwd_eq]

theorem hayFwd_nonempty (t : Text) (row col0 : Int) : 0 < (hayFwd t row col0).1.length := by
  have hrows : rowsList = 1 :: (List.range 22).map (· + 2) := by decide
  rw [hayFwd_eq, hrows]
  simp only [pageChars, List.flatMap_cons, List.length_append, List.length_cons]
  omega

theorem firstRow_other (row col0 : Int) (i : Nat) (hne : (i : Int) ≠ row) : ∀ (its : List Iter) (n first : Nat),
    firstRow row col0 i its n first = first := by
  intro its
  induction its with
  | nil => intro n first; rfl
  | cons it rest ih =>
    intro n first
    unfold firstRow
    have hc : ¬ ((i : Int) = row ∧ (it.col : Int) ≤ col0) := fun h => hne h.1
    simp only [hc, if_false]
    exact ih _ _

theorem firstRows_other (t : Text) (row col0 : Int) : ∀ (rows : List Nat) (n first : Nat),
    (∀ i ∈ rows, (i : Int) ≠ row) → firstRows t row col0 rows n first = first := by
  intro rows
  induction rows with
  | nil => intro n first _; rfl
  | cons i rows ih =>
    intro n first h
    unfold firstRows
    rw [firstRow_other row col0 i (h i List.mem_cons_self)]
    exact ih _ _ (fun j hj => h j (List.mem_cons_of_mem _ hj))

/-- a page that is not the start page is searched from its beginning -/
theorem hayFwd_first_nocursor (t : Text) (col0 : Int) : (hayFwd t (-1) col0).2 = 0 := by
  rw [hayFwd_eq]
  exact firstRows_other t _ _ _ _ _ (fun i _ => by omega)

theorem revRow_nocursor (row col1 : Int) (i : Nat) (hne : (i : Int) ≠ row) : ∀ (its : List Iter),
    revRow row col1 i its = (rowChars its, false) := by
  intro its
  induction its with
  | nil => rfl
  | cons it rest ih =>
    unfold revRow
    have : ¬ ((i : Int) = row ∧ (it.col : Int) ≥ col1) := fun h => hne h.1
    cases h : it.emit <;> simp [this, ih, rowChars, h]

theorem revRows_nocursor (t : Text) (row col1 : Int) : ∀ (rows : List Nat), (∀ i ∈ rows, (i : Int) ≠ row) →
    revRows t row col1 rows = (pageChars t rows, false) := by
  intro rows
  induction rows with
  | nil => intro _; rfl
  | cons i rows ih =>
    intro h
    unfold revRows
    rw [revRow_nocursor row col1 i (h i List.mem_cons_self), ih (fun j hj => h j (List.mem_cons_of_mem _ hj))]
    simp [pageChars]

/-- **no cursor on the page** (`row` = 100 for a page that is not the start position, LAST_ROW + 1 = 25 at the start
    position of a fresh pass): `search_page_rev` searches the whole text, the very list `search_page_fwd` builds, and
    its flags variable ends as 0 (behind the last separator) -/
theorem hayRev_whole (t : Text) (row col1 : Int) (hrow : 24 ≤ row) :
    hayRev t row col1 = ((hayFwd t (-1) 0).1, false) := by
  have h1 : ¬ row < FIRST_ROW := by unfold FIRST_ROW; omega
  rw [hayRev_eq, if_neg h1, hayFwd_eq, revRows_nocursor]
  intro i hi
  simp only [rowsList, List.mem_map, List.mem_range] at hi
  omega

theorem pageChars_length (t : Text) : ∀ (rows : List Nat), (pageChars t rows).length ≤ rows.length * 41 := by
  intro rows
  induction rows with
  | nil => simp [pageChars]
  | cons i rows ih =>
    have h1 : (rowChars (rowIters t i 40 0)).length ≤ (rowIters t i 40 0).length := List.length_filterMap_le _ _
    have h2 := rowIters_length t i 40 0
    simp only [pageChars, List.flatMap_cons, List.length_append, List.length_cons, List.length_nil] at ih ⊢
    omega

theorem revRow_length (row col1 : Int) (i : Nat) : ∀ (its : List Iter), (revRow row col1 i its).1.length ≤ its.length := by
  intro its
  induction its with
  | nil => simp [revRow]
  | cons it rest ih =>
    unfold revRow
    split
    · simp
    · cases it.emit <;> simp <;> omega

theorem revRows_length (t : Text) (row col1 : Int) : ∀ (rows : List Nat),
    (revRows t row col1 rows).1.length ≤ rows.length * 41 := by
  intro rows
  induction rows with
  | nil => simp [revRows]
  | cons i rows ih =>
    have h1 := revRow_length row col1 i (rowIters t i 40 0)
    have h2 := rowIters_length t i 40 0
    unfold revRows
    simp only
    split
    · simp only [List.length_cons]; omega
    · simp only [List.length_append, List.length_cons]; omega

theorem hayFwd_length (t : Text) (row col0 : Int) : (hayFwd t row col0).1.length ≤ 23 * 41 := by
  rw [hayFwd_eq]; exact pageChars_length t rowsList

theorem hayRev_length (t : Text) (row col1 : Int) : (hayRev t row col1).1.length ≤ 23 * 41 := by
  rw [hayRev_eq]
  split
  · simp
  · exact revRows_length t row col1 rowsList

end Zvbi.Search
