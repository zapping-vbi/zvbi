import ZvbiModel.Search.DirPass
/-!
# A whole pass, in either direction (C17)

Induction over the calls (`Dir.reports_exact`) from any context between two calls, on any cache
`Equiv` to the original one; then the two ways a pass stands where it began (`Dir.pass_from_start`): a new pass
(`Dir.fresh_pass`) and the calls after a change of direction (`Dir.turn_pass`).  What such a pass reports is `Dir.Exact`.
`Dir.successes`, `Dir.fresh_successes`: the context `k` SUCCESS calls leave (what a turn starts from).  The first call of a
new pass: `Dir.first_success`, `Dir.first_not_found`, `Dir.first_call`, and on any cache `Dir.first_not_found_walk`.
-/
namespace Zvbi.Search

/-- cache and search context after successive `vbi_search_next` calls -/
def runFinal (sh : Shape) (exec : Exec) : Cache → SearchSt → List Int → Cache × SearchSt
  | c, s, [] => (c, s)
  | c, s, d :: ds => runFinal sh exec (searchNext sh exec walkFuel c s d).cache (searchNext sh exec walkFuel c s d).st ds

theorem runNexts_append (sh : Shape) (exec : Exec) : ∀ (ds1 : List Int) (c : Cache) (s : SearchSt) (ds2 : List Int),
    runNexts sh exec c s (ds1 ++ ds2) =
      runNexts sh exec c s ds1 ++ runNexts sh exec (runFinal sh exec c s ds1).1 (runFinal sh exec c s ds1).2 ds2 := by
  intro ds1
  induction ds1 with
  | nil => intro c s ds2; rfl
  | cons d ds1 ih =>
    intro c s ds2
    simp only [List.cons_append, runNexts, runFinal]
    rw [ih]

theorem runNexts_prepare (sh : Shape) (exec : Exec) (c : Cache) (s : SearchSt) (d : Int) (n : Nat) :
    runNexts sh exec c s (List.replicate n d) = runNexts sh exec c (prepare sh s d) (List.replicate n d) := by
  cases n with
  | zero => rfl
  | succ n => rw [List.replicate_succ]; simp only [runNexts]; rw [searchNext_prepare sh exec walkFuel c s]

theorem runFinal_prepare (sh : Shape) (exec : Exec) (c : Cache) (s : SearchSt) (d : Int) (k : Nat) (hk : 1 ≤ k) :
    runFinal sh exec c s (List.replicate k d) = runFinal sh exec c (prepare sh s d) (List.replicate k d) := by
  cases k with
  | zero => omega
  | succ k => rw [List.replicate_succ]; simp only [runFinal]; rw [searchNext_prepare sh exec walkFuel c s]

/-- the pages reported by `n` successive calls in direction `d` before the first answer other than SUCCESS -/
def reports (sh : Shape) (exec : Exec) (c : Cache) (s : SearchSt) (d : Int) (n : Nat) : List (Res × Nat × Nat) :=
  (runNexts sh exec c s (List.replicate n d)).takeWhile (fun r => r.1 = .ret SEARCH_SUCCESS)

theorem reports_succ (sh : Shape) (exec : Exec) (c : Cache) (s : SearchSt) (d : Int) (n : Nat) :
    reports sh exec c s d (n + 1) =
      if (searchNext sh exec walkFuel c s d).res = .ret SEARCH_SUCCESS then
        ((searchNext sh exec walkFuel c s d).res, (searchNext sh exec walkFuel c s d).st.pgPgno,
            (searchNext sh exec walkFuel c s d).st.pgSubno) ::
          reports sh exec (searchNext sh exec walkFuel c s d).cache (searchNext sh exec walkFuel c s d).st d n
      else [] := by
  unfold reports
  rw [List.replicate_succ]
  simp only [runNexts]
  split
  · rw [List.takeWhile_cons_of_pos (by simpa using ‹_›)]
  · rw [List.takeWhile_cons_of_neg (by simpa using ‹_›)]

namespace Dir

/-- **induction over the calls** of a pass: every page reported matches; and if the pass began at key `B` (finding C17-D7
    excluded) the pages reported come in ascending pass order, none before the start position, and when an answer other
    than SUCCESS comes within the `n` calls they include every matching page that was due -/
theorem reports_exact (d : Dir) (sh : Shape) (exec : Exec) (c : Cache) (hR : Reach c) (B : Int) :
    ∀ (n : Nat) (c' : Cache) (s : SearchSt), d.Between sh exec c c' s →
      (∀ r ∈ reports sh exec c' s d.int n, MatchesI exec c r.2.1 r.2.2) ∧
      (d.Ctx sh B s → NoAnyCached sh c →
        (∀ r ∈ reports sh exec c' s d.int n, d.rank B (key s.startPgno s.startSubno) ≤ d.rank B (key r.2.1 r.2.2)) ∧
        ((reports sh exec c' s d.int n).map (fun r => d.rank B (key r.2.1 r.2.2))).Pairwise (· ≤ ·) ∧
        ((reports sh exec c' s d.int n).length < n → ∀ q t : Nat, PgOk q → Matches exec c q t → d.Due B s q t →
          ∃ r ∈ reports sh exec c' s d.int n, r.2 = (q, t))) := by
  intro n
  induction n with
  | zero => intro c' s _; simp [reports, runNexts]
  | succ n ih =>
    intro c' s hinv
    rw [reports_succ]
    by_cases hres : (searchNext sh exec walkFuel c' s d.int).res = .ret SEARCH_SUCCESS
    · rw [if_pos hres]
      obtain ⟨hinv', hmf, hsp, hss⟩ := d.pass_step sh exec c c' s hR hinv rfl hres
      obtain ⟨ihs, ihe⟩ := ih _ _ hinv'
      refine ⟨fun r hr => (List.mem_cons.mp hr).elim (fun h => h ▸ hmf) (ihs r), fun hctx hany => ?_⟩
      obtain ⟨hctx', hmono, hgap⟩ := d.pass_step_order sh exec c c' s B hR hinv hctx rfl hres
      obtain ⟨ih1, ih2, ih3⟩ := ihe (hctx' hany) hany
      rw [hsp, hss] at hmono ih1 hgap
      refine ⟨?_, ?_, ?_⟩
      · intro r hr
        rcases List.mem_cons.mp hr with rfl | hr
        · exact hmono
        · exact Int.le_trans hmono (ih1 r hr)
      · rw [List.map_cons, List.pairwise_cons]
        refine ⟨?_, ih2⟩
        intro a ha
        obtain ⟨r, hr, rfl⟩ := List.mem_map.mp ha
        exact ih1 r hr
      · intro hlen q t hq hm hlo
        have hge := hgap q t hq hm hlo
        by_cases hEq : d.rank B (key (searchNext sh exec walkFuel c' s d.int).st.pgPgno
            (searchNext sh exec walkFuel c' s d.int).st.pgSubno) = d.rank B (key q t)
        · -- it is the page just returned
          refine ⟨_, List.mem_cons_self, ?_⟩
          obtain ⟨_, hlf, _⟩ := hmf
          obtain ⟨e', hl', _, _⟩ := id hm
          have hpf : PgOk ((searchNext sh exec walkFuel c' s d.int).st.pgPgno : Int) := by rw [← hsp]; exact hinv'.pg
          have hk := d.rank_inj (hR.keyOk hpf hlf) (hR.keyOk hq hl') hEq
          obtain ⟨h1, h2⟩ := key_inj (lookupX_small hR hlf) (lookupX_small hR hl') hk
          simp only [Int.natCast_inj.mp h1, Int.natCast_inj.mp h2]
        · -- it lies behind the page just returned: a later call reports it
          obtain ⟨r, hr, hrq⟩ := ih3 (by simp only [List.length_cons] at hlen; omega) q t hq hm
            (Or.inl (by rw [hsp, hss]; omega))
          exact ⟨r, List.mem_cons_of_mem _ hr, hrq⟩
    · -- the call answers NOT_FOUND: no matching page is due
      rw [if_neg hres]
      refine ⟨nofun, fun hctx _ => ⟨nofun, by simp, ?_⟩⟩
      intro _ q t hq hm hlo
      exfalso
      have hne : c'.nCached ≠ 0 := by
        rw [hinv.equiv.ncached]
        obtain ⟨e', hl', _, _⟩ := id hm
        exact hR.counted ⟨_, List.ne_nil_of_mem (lookupX_mem hl')⟩
      have hprep : prepare sh s d.int = s := prepare_same sh (by rw [dirOf_int]; exact hinv.dir)
      rcases d.status sh exec c' s hne (by rw [hprep]; exact hinv.pg) (by rw [hprep]; exact hinv.ok) with h1 | h1
      · exact hres h1
      · exact d.pass_last sh exec c c' s B hR hinv hctx h1 q t hq hm hlo

/-- after `k` calls that all answered SUCCESS the pass is between two calls again, and (for k >= 1) its start position is
    a page that matches -/
theorem successes (d : Dir) (sh : Shape) (exec : Exec) (c : Cache) (hR : Reach c) (B : Int) (hany : NoAnyCached sh c) :
    ∀ (k : Nat) (c' : Cache) (s : SearchSt), d.Between sh exec c c' s → d.Ctx sh B s →
      (∀ r ∈ runNexts sh exec c' s (List.replicate k d.int), r.1 = .ret SEARCH_SUCCESS) →
      ∀ sk, runFinal sh exec c' s (List.replicate k d.int) = sk →
      d.Between sh exec c sk.1 sk.2 ∧ d.Ctx sh B sk.2 ∧
      ((1 ≤ k ∨ MatchesI exec c s.startPgno s.startSubno) → MatchesI exec c sk.2.startPgno sk.2.startSubno) := by
  intro k
  induction k with
  | zero =>
    intro c' s hinv hctx _ sk hsk
    subst hsk
    exact ⟨hinv, hctx, fun h => h.resolve_left (by omega)⟩
  | succ k ih =>
    intro c' s hinv hctx hall sk hsk
    rw [List.replicate_succ] at hall hsk
    simp only [runNexts, runFinal] at hall hsk
    have hres : (searchNext sh exec walkFuel c' s d.int).res = .ret SEARCH_SUCCESS := hall _ List.mem_cons_self
    obtain ⟨hinv', hm, hsp, hss⟩ := d.pass_step sh exec c c' s hR hinv rfl hres
    have hctx' := (d.pass_step_order sh exec c c' s B hR hinv hctx rfl hres).1 hany
    obtain ⟨g1, g2, g3⟩ := ih _ _ hinv' hctx' (fun r hr => hall r (List.mem_cons_of_mem _ hr)) sk hsk
    refine ⟨g1, g2, fun _ => g3 (Or.inr ?_)⟩
    rw [hsp, hss]; exact hm

/-- the pages `pass` reported before the first answer other than SUCCESS are exact for a pass that began at key `B`:
    every one matches; they come in pass order from `B`, wrapping once; and when that answer came within the `n` calls
    every matching page with `Due` was reported.  Order and completeness exclude finding C17-D7 (`NoAnyCached`). -/
structure Exact (d : Dir) (sh : Shape) (exec : Exec) (c : Cache) (B : Int) (pass : List (Res × Nat × Nat)) (n : Nat)
    (Due : Nat → Nat → Prop) : Prop where
  sound : ∀ r ∈ pass, Matches exec c r.2.1 r.2.2
  ordered : NoAnyCached sh c → (pass.map (fun r => d.rank B (key r.2.1 r.2.2))).Pairwise (· ≤ ·)
  complete : NoAnyCached sh c → pass.length < n → ∀ q t : Nat, PgOk q → Matches exec c q t → Due q t →
    ∃ r ∈ pass, r.2 = (q, t)

theorem Exact.imp {d : Dir} {sh : Shape} {exec : Exec} {c : Cache} {B : Int} {pass : List (Res × Nat × Nat)} {n : Nat}
    {D D' : Nat → Nat → Prop} (h : d.Exact sh exec c B pass n D)
    (hD : ∀ q t : Nat, PgOk q → Matches exec c q t → D' q t → D q t) : d.Exact sh exec c B pass n D' :=
  ⟨h.sound, h.ordered, fun hany hlen q t hq hm hd => h.complete hany hlen q t hq hm (hD q t hq hm hd)⟩

/-- **a pass that stands where it began** (a new pass, or the calls after a change of direction), on a cache `c` as a
    history of page stores leaves it (`c'`: with the hash chains reordered by earlier calls): the start position itself
    is due provided the cursor stands where a new pass puts it -/
theorem pass_from_start (d : Dir) (sh : Shape) (exec : Exec) {c : Cache} (hR : Reach c) (c' : Cache) (s : SearchSt) (n : Nat)
    (hinv : d.Between sh exec c c' s) (hctx : d.Ctx sh (key s.startPgno s.startSubno) s) :
    d.Exact sh exec c (key s.startPgno s.startSubno) (reports sh exec c' s d.int n) n
      (fun q t => d.Whole s ∨ key q t ≠ key s.startPgno s.startSubno) := by
  obtain ⟨hs, he⟩ := d.reports_exact sh exec _ hR _ n c' s hinv
  refine ⟨hs, fun hany => (he hctx hany).2.1, fun hany hlen q t hq hm hw => ?_⟩
  exact (he hctx hany).2.2 hlen q t hq hm (d.due_start hR hinv.pg hctx.sub hq hm hw)

/-- the position a new pass starts at: `vbi_search_new`'s stop position 0 forward, stop position 1 ("just before
    (P, S)") backward -/
def start : Dir → Int → Int → Int × Int
  | fwd => fun P S => (P, if S = ANY_SUBNO then 0 else S)
  | rev => revStart

theorem start_facts (d : Dir) {P S : Int} (hP : PgOk P) (hS : 0 ≤ S ∧ S ≤ 0xFFFF) :
    PgOk (d.start P S).1 ∧ d.SubOk (d.start P S).2 ∧ (d.start P S).2 ≠ ANY_SUBNO := by
  cases d
  · refine ⟨hP, ?_, ?_⟩
    · show 0 ≤ (if S = ANY_SUBNO then 0 else S) ∧ (if S = ANY_SUBNO then 0 else S) < 65536
      split <;> omega
    · show (if S = ANY_SUBNO then 0 else S) ≠ ANY_SUBNO
      split
      · unfold ANY_SUBNO; decide
      · assumption
  · exact revStart_facts hP hS

/-- context of a new search: `vbi_search_new` -/
theorem searchNew_stop {P S : Int} {s0 : SearchSt} (h : searchNew P S 1 = some s0) :
    s0.dir = 0 ∧ ∀ d : Dir, d.stopPos s0 = d.start P S := by
  unfold searchNew at h
  simp only [Nat.one_ne_zero, if_false, Option.some.injEq] at h
  subst h
  exact ⟨rfl, fun d => by cases d <;> rfl⟩

/-- `prepare` on a context whose direction is not set: the pass starts at the stop position of its direction, cursor
    where the whole page is searched -/
theorem prepare_fresh (d : Dir) (sh : Shape) {s : SearchSt} (h : s.dir = 0) :
    (prepare sh s d.int).dir = d.int ∧ (prepare sh s d.int).startPgno = (d.stopPos s).1 ∧
    (prepare sh s d.int).startSubno = (d.stopPos s).2 ∧ d.stopPos (prepare sh s d.int) = d.stopPos s ∧
    d.Whole (prepare sh s d.int) := by
  cases d <;> simp [prepare, dirOf, int, stopPos, Whole, h, FIRST_ROW, LAST_ROW]

/-- `prepare` on a context of the other direction: the start position stays and becomes the stop position, the cursor
    stays -/
theorem prepare_turn (d : Dir) (sh : Shape) {s : SearchSt} (h : s.dir = -d.int)
    (hkeep : d = fwd → sh.turnKeeps = true ∨ s.startSubno ≠ ANY_SUBNO) :
    (prepare sh s d.int).dir = d.int ∧ (prepare sh s d.int).startPgno = s.startPgno ∧
    (prepare sh s d.int).startSubno = s.startSubno ∧ d.stopKey (prepare sh s d.int) = key s.startPgno s.startSubno ∧
    (d.Whole (prepare sh s d.int) ↔ d.Whole s) := by
  cases d
  · rcases hkeep rfl with hk | hk <;> simp [prepare, dirOf, int, stopKey, stopPos, Whole, h, hk]
  · simp [prepare, dirOf, int, stopKey, stopPos, Whole, h]

/-- **a new pass**: the context `vbi_search_next` prepares from one whose direction is not set -/
theorem fresh (d : Dir) (sh : Shape) (exec : Exec) {c : Cache} (hR : Reach c) {s0 : SearchSt} (hd0 : s0.dir = 0)
    (hpg : PgOk (d.stopPos s0).1) (hsub : d.SubOk (d.stopPos s0).2)
    (hnoany : sh.startExact = true ∨ (d.stopPos s0).2 ≠ ANY_SUBNO) :
    d.Between sh exec c c (prepare sh s0 d.int) ∧ d.Ctx sh (d.stopKey s0) (prepare sh s0 d.int) ∧
    d.Whole (prepare sh s0 d.int) ∧ key (prepare sh s0 d.int).startPgno (prepare sh s0 d.int).startSubno = d.stopKey s0 := by
  obtain ⟨h1, h2, h3, h4, h5⟩ := d.prepare_fresh sh hd0
  exact ⟨⟨Equiv.refl c, by rw [h2]; exact startOk_of_noFF sh hR.noFF _ hpg, h1, by rw [h2]; exact hpg, Or.inl h5⟩,
    ⟨by unfold stopKey; rw [h4], by rw [h3]; exact hsub, by rw [h3]; exact hnoany⟩, h5, by rw [h2, h3]; rfl⟩

/-- **a new pass is exact**: successive calls in direction `d` on a fresh search report matching pages only, in pass
    order from `d.start P S`, and all of them by the time an answer other than SUCCESS comes -/
theorem fresh_pass (d : Dir) (sh : Shape) (exec : Exec) {c : Cache} (hR : Reach c) (P S : Int) (s0 : SearchSt) (n : Nat)
    (hP : PgOk P) (hS : 0 ≤ S ∧ S ≤ 0xFFFF)
    (hnew : searchNew P S 1 = some s0) :
    d.Exact sh exec c (key (d.start P S).1 (d.start P S).2) (reports sh exec c s0 d.int n) n
      (fun _ _ => True) := by
  obtain ⟨hd0, hst⟩ := searchNew_stop hnew
  obtain ⟨k1, k2, k3⟩ := d.start_facts hP hS
  rw [← hst d] at k1 k2 k3 ⊢
  obtain ⟨hinv, hctx, hw, hk⟩ := d.fresh sh exec hR hd0 k1 k2 (Or.inr k3)
  rw [← hk] at hctx
  have h := d.pass_from_start sh exec hR _ _ n hinv hctx
  rw [hk] at h
  unfold reports at h ⊢
  rw [runNexts_prepare]
  exact h.imp fun _ _ _ _ _ => Or.inl hw

/-- **a change of direction**: calls in direction `d` on a context of the other direction.  `vbi_search_next` installs
    the start position (the page the last call returned) as stop position and keeps the cursor. -/
theorem turn (d : Dir) (sh : Shape) (exec : Exec) {c c' : Cache} (hR : Reach c) (heq : Equiv c c') (s : SearchSt)
    (hdir : s.dir = -d.int) (hpg : PgOk s.startPgno)
    (hsub : 0 ≤ s.startSubno ∧ s.startSubno < 65536) (hnoany : sh.startExact = true ∨ s.startSubno ≠ ANY_SUBNO)
    (hkeep : d = fwd → sh.turnKeeps = true ∨ s.startSubno ≠ ANY_SUBNO)
    (hcur : d.Whole s ∨ MatchesI exec c s.startPgno s.startSubno) :
    d.Between sh exec c c' (prepare sh s d.int) ∧
    d.Ctx sh (key (prepare sh s d.int).startPgno (prepare sh s d.int).startSubno) (prepare sh s d.int) ∧
    (prepare sh s d.int).startPgno = s.startPgno ∧ (prepare sh s d.int).startSubno = s.startSubno := by
  obtain ⟨h1, h2, h3, h4, h5⟩ := d.prepare_turn sh hdir hkeep
  exact ⟨⟨heq, by rw [h2]; exact startOk_of_equiv sh heq hR.noFF hpg, h1, by rw [h2]; exact hpg,
      by rw [h2, h3]; exact hcur.imp h5.mpr id⟩,
    ⟨by rw [h2, h3]; exact h4, by rw [h3]; exact d.subOk_of_cached hsub, by rw [h3]; exact hnoany⟩, h2, h3⟩

/-- **the calls after a change of direction are exact**, the turn page apart: it is reported again only for
    occurrences on the far side of the one highlighted last -/
theorem turn_pass (d : Dir) (sh : Shape) (exec : Exec) {c : Cache} (hR : Reach c) (c' : Cache) (s : SearchSt) (n : Nat)
    (heq : Equiv c c')
    (hdir : s.dir = -d.int) (hpg : PgOk s.startPgno) (hsub : 0 ≤ s.startSubno ∧ s.startSubno < 65536)
    (hnoany : sh.startExact = true ∨ s.startSubno ≠ ANY_SUBNO)
    (hkeep : d = fwd → sh.turnKeeps = true ∨ s.startSubno ≠ ANY_SUBNO)
    (hcur : d.Whole s ∨ MatchesI exec c s.startPgno s.startSubno) :
    d.Exact sh exec c (key s.startPgno s.startSubno) (reports sh exec c' s d.int n) n
      (fun q t => ((q : Int), (t : Int)) ≠ (s.startPgno, s.startSubno)) := by
  obtain ⟨hinv, hctx, h1, h2⟩ := d.turn sh exec hR heq s hdir hpg hsub hnoany hkeep hcur
  have h := d.pass_from_start sh exec hR c' _ n hinv hctx
  rw [h1, h2] at h
  unfold reports at h ⊢
  rw [runNexts_prepare]
  refine h.imp fun q t _ hm hne => Or.inr fun hk => hne ?_
  obtain ⟨e', hl', _, _⟩ := hm
  obtain ⟨e1, e2⟩ := key_inj (lookupX_small hR hl') hsub hk
  rw [e1, e2]

/-- a new pass, `k >= 1` calls that all answered SUCCESS: the context they leave is one a change of direction
    (`turn_pass`) applies to - it stands on the page reported last, and that page matches -/
theorem fresh_successes (d : Dir) (sh : Shape) (exec : Exec) {c : Cache} (hR : Reach c) (P S : Int) (s0 : SearchSt)
    (k : Nat) (hP : PgOk P) (hS : 0 ≤ S ∧ S ≤ 0xFFFF) (hany : NoAnyCached sh c)
    (hnew : searchNew P S 1 = some s0) (hk : 1 ≤ k)
    (hall : ∀ r ∈ runNexts sh exec c s0 (List.replicate k d.int), r.1 = .ret SEARCH_SUCCESS)
    {sk : Cache × SearchSt} (hsk : runFinal sh exec c s0 (List.replicate k d.int) = sk) :
    Equiv c sk.1 ∧ sk.2.dir = d.int ∧ PgOk sk.2.startPgno ∧
    (sh.startExact = true ∨ sk.2.startSubno ≠ ANY_SUBNO) ∧ MatchesI exec c sk.2.startPgno sk.2.startSubno := by
  obtain ⟨hd0, hst⟩ := searchNew_stop hnew
  obtain ⟨k1, k2, k3⟩ := d.start_facts hP hS
  rw [← hst d] at k1 k2 k3
  obtain ⟨hinv, hctx, _⟩ := d.fresh sh exec hR hd0 k1 k2 (Or.inr k3)
  rw [runNexts_prepare] at hall
  rw [runFinal_prepare sh exec _ s0 d.int k hk] at hsk
  obtain ⟨g1, g2, g3⟩ := d.successes sh exec _ hR _ hany k _ _ hinv hctx hall sk hsk
  exact ⟨g1.equiv, g1.dir, g1.pg, g2.noany, g3 (Or.inl hk)⟩

/-- **first call of a new pass, SUCCESS**: the page returned contains the pattern and no page before it in pass order
    does -/
theorem first_success (d : Dir) (sh : Shape) (exec : Exec) (c : Cache) (s : SearchSt) (hfresh : s.dir = 0) (hR : Reach c)
    (hp : PgOk (d.stopPos s).1) (hS : d.SubOk (d.stopPos s).2) (hany : sh.startExact = true ∨ (d.stopPos s).2 ≠ ANY_SUBNO)
    {o : NextOut} (ho : searchNext sh exec walkFuel c s d.int = o) (h : o.res = .ret SEARCH_SUCCESS) :
    PgOk o.st.pgPgno ∧ Matches exec c o.st.pgPgno o.st.pgSubno ∧
    ∀ q t : Nat, PgOk q → Matches exec c q t →
      d.rank (d.stopKey s) (key o.st.pgPgno o.st.pgSubno) ≤ d.rank (d.stopKey s) (key q t) := by
  rw [searchNext_prepare] at ho
  obtain ⟨hinv, hctx, hw, hk⟩ := d.fresh sh exec hR hfresh hp hS hany
  obtain ⟨hinv', hm, hsp, hss⟩ := d.pass_step sh exec c c _ hR hinv ho h
  obtain ⟨_, _, hgap⟩ := d.pass_step_order sh exec c c _ _ hR hinv hctx ho h
  rw [hsp, hss] at hgap
  refine ⟨by rw [← hsp]; exact hinv'.pg, hm, fun q t hq hmq => hgap q t hq hmq ?_⟩
  rw [← hk]
  exact d.due_start hR hinv.pg hctx.sub hq hmq (Or.inl hw)

/-- **first call of a new pass, NOT_FOUND**: no cached level one page contains the pattern -/
theorem first_not_found (d : Dir) (sh : Shape) (exec : Exec) (c : Cache) (s : SearchSt) (hfresh : s.dir = 0) (hR : Reach c)
    (hp : PgOk (d.stopPos s).1) (hS : d.SubOk (d.stopPos s).2) (hany : sh.startExact = true ∨ (d.stopPos s).2 ≠ ANY_SUBNO)
    (h : (searchNext sh exec walkFuel c s d.int).res = .ret SEARCH_NOT_FOUND) :
    ∀ (q t : Nat), PgOk q → ¬ Matches exec c q t := by
  rw [searchNext_prepare] at h
  obtain ⟨hinv, hctx, hw, hk⟩ := d.fresh sh exec hR hfresh hp hS hany
  intro q t hq hm
  refine d.pass_last sh exec c c _ _ hR hinv hctx h q t hq hm ?_
  rw [← hk]
  exact d.due_start hR hinv.pg hctx.sub hq hm (Or.inl hw)

/-- **first call of a new pass, NOT_FOUND, on ANY cache**: the matcher was run on the whole text of every level one page
    found at a walk position of the first sweep, and at a position of the wrapped sweep before the stop position - and
    found nothing -/
theorem first_not_found_walk (d : Dir) (sh : Shape) (exec : Exec) (c : Cache) (s : SearchSt) (hfresh : s.dir = 0)
    (hp : PgOk (d.stopPos s).1) (hok : StartOk sh c (d.stopPos s).1)
    (h : (searchNext sh exec walkFuel c s d.int).res = .ret SEARCH_NOT_FOUND) :
    ∀ x ∈ walkPositions sh c (d.stopPos s).1 (d.stopPos s).2 d.int,
      (x.2.2 = false ∨ d.mir (key x.1 x.2.1) < d.mir (d.stopKey s)) →
      ∀ e, lookupX c x.1 x.2.1 = some e → e.func = FUNC_LOP → exec {} (hayFwd e.text (-1) 0).1 = none := by
  rw [searchNext_prepare] at h
  obtain ⟨_, f1, f2, f3, f5⟩ := d.prepare_fresh sh hfresh
  obtain ⟨sf, hrp⟩ := searchNext_not_found_run sh exec c _ d.int (prepare_idem sh s _)
    (by rw [f1]; exact hp) (by rw [f1]; exact hok) h
  rw [callbackOf_int, dirOf_int, f1, f2] at hrp
  intro x hx hwin e he hlop
  -- the walk: sorted; a wrapped position has been landed on, so its sub-page number has 16 bits
  obtain ⟨g1, g2⟩ := d.positions_sorted c walkFuel (d.stopPos s).1 (startSub sh c (d.stopPos s).1 (d.stopPos s).2) false hp
  have hsorted : (walkPositions sh c (d.stopPos s).1 (d.stopPos s).2 d.int).Pairwise d.Lt :=
    List.pairwise_cons.mpr ⟨fun y hy => (g1 y hy).1, g2⟩
  have hwrapped : ∀ y ∈ walkPositions sh c (d.stopPos s).1 (d.stopPos s).2 d.int, y.2.2 = true →
      0 ≤ y.2.1 ∧ y.2.1 ≤ 0xFFFF := by
    intro y hy hw
    rcases List.mem_cons.mp hy with rfl | hy
    · cases hw
    · exact landed_bounds (g1 y hy).2.2
  -- the pass stands where it began: a position stops it iff it is wrapped and not before the stop position
  have hcode := d.runPos_minus1 sh exec c hrp hsorted hx (e := e) (fun y hy hyx ⟨ey, hey, hst⟩ => by
    have hpy : PgOk y.1 := d.walkPos_pgOk sh c _ _ hp y hy
    rw [stops_iff, f1, f2, show d.stopKey (prepare sh s d.int) = d.stopKey s by unfold stopKey; rw [f3], lookupX_subno hey,
      Int.toNat_of_nonneg (show 0 ≤ y.1 by unfold PgOk at hpy; omega)] at hst
    unfold StopK at hst
    rw [show key (d.stopPos s).1 (d.stopPos s).2 = d.stopKey s from rfl, if_pos (Int.le_refl _)] at hst
    -- a position at or before `x` is, like `x`, in the first sweep or before the stop position
    rcases hyx with rfl | hlt
    · rcases hwin with hyw | hyw
      · rw [hyw] at hst; cases hst.1
      · exact absurd hst.2 (Int.not_le.mpr hyw)
    · have hxw : x.2.2 = true := by
        rw [lt_iff, hst.1] at hlt
        rcases hlt with h1 | h1
        · cases h1.1
        · exact h1.1.symm
      have hxk := hwin.resolve_left (by rw [hxw]; decide)
      have bx := hwrapped x hx hxw
      have by' := hwrapped y hy hst.1
      rw [lt_iff_key _ _ _ (by omega)] at hlt
      simp only [KLt, hst.1, hxw] at hlt
      rcases hlt with h1 | h1
      · cases h1.1
      · have := hst.2; omega) he
  have hns := d.code_not_stop (by rw [hcode]; decide : d.code sh exec _ x.1.toNat e x.2.2 ≠ -1)
  exact (d.whole_code sh exec _ e _ (Or.inr f5) hlop hns).2 hcode

/-- **first call of a new pass**: SUCCESS iff some cached level one page contains the pattern, NOT_FOUND iff none does and
    something is cached, CACHE_EMPTY otherwise -/
theorem first_call (d : Dir) (sh : Shape) (exec : Exec) (c : Cache) (s : SearchSt) (hfresh : s.dir = 0) (hR : Reach c)
    (hp : PgOk (d.stopPos s).1) (hS : d.SubOk (d.stopPos s).2) (hany : sh.startExact = true ∨ (d.stopPos s).2 ≠ ANY_SUBNO)
    {o : NextOut} (ho : searchNext sh exec walkFuel c s d.int = o) :
    (o.res = .ret SEARCH_SUCCESS ↔ ∃ p sub : Nat, PgOk p ∧ Matches exec c p sub) ∧
    (o.res = .ret SEARCH_NOT_FOUND ↔ c.nCached ≠ 0 ∧ ∀ p sub : Nat, PgOk p → ¬ Matches exec c p sub) ∧
    (o.res = .ret SEARCH_CACHE_EMPTY ↔ c.nCached = 0) := by
  have hS1 := fun h => d.first_success sh exec c s hfresh hR hp hS hany ho h
  have hN1 : o.res = .ret SEARCH_NOT_FOUND → _ := fun h => d.first_not_found sh exec c s hfresh hR hp hS hany (ho ▸ h)
  have hcnt : ∀ p sub : Nat, Matches exec c p sub → c.nCached ≠ 0 := fun p sub ⟨e, hl, _, _⟩ =>
    hR.counted ⟨_, List.ne_nil_of_mem (lookupX_mem hl)⟩
  by_cases h0 : c.nCached = 0
  · have he : o.res = .ret SEARCH_CACHE_EMPTY := ho ▸ searchNext_empty sh exec c s d.int h0
    refine ⟨⟨fun h => ?_, fun ⟨p, sub, _, hm⟩ => absurd h0 (hcnt p sub hm)⟩, ⟨fun h => ?_, fun h => absurd h0 h.1⟩,
      fun _ => h0, fun _ => he⟩
    all_goals rw [he] at h; exact absurd (Res.ret.inj h) (by decide)
  · obtain ⟨_, f1, _⟩ := d.prepare_fresh sh hfresh
    have hp' : PgOk (prepare sh s d.int).startPgno := by rw [f1]; exact hp
    have hdich := d.status sh exec c s h0 hp' (startOk_of_noFF sh hR.noFF _ hp')
    rw [ho] at hdich
    refine ⟨⟨fun h => ⟨_, _, (hS1 h).1, (hS1 h).2.1⟩, fun ⟨p, sub, hpp, hm⟩ => hdich.resolve_right fun h => hN1 h p sub hpp hm⟩,
      ⟨fun h => ⟨h0, hN1 h⟩, fun ⟨_, hnone⟩ => hdich.resolve_left fun h => hnone _ _ (hS1 h).1 (hS1 h).2.1⟩,
      fun h => ?_, fun h => absurd h h0⟩
    rcases hdich with h' | h' <;> (rw [h'] at h; exact absurd (Res.ret.inj h) (by decide))

end Dir
end Zvbi.Search
