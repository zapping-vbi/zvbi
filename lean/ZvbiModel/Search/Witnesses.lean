import ZvbiModel.Search.WitnessBase
import ZvbiModel.Search.Current
/-!
# Concrete witnesses (C17): the states and call sequences on which the property FAILED before the repairs
5e41e82 (D3, D2 at 256 pages), ed2772e (D4), ce86777 (D5), 8b7ac93 (D1).
The walks and searches are evaluated in the source shape of the CURRENT /repo (`Shape.current`, read by
translate/gen_search.py); none of these inputs involves sub-page number 0x3F7F at a start position, so the answers are the
same in both shapes.  Each witness is replayed on the C code (corpus/C17/D*.ops).  Props/C17.lean evaluates them to the
correct answers (closed terms, by the kernel), beside the general statements of which they are instances.
Last section: the witness of finding C17-D8 (not repaired in /repo; shape independent) with the lemma `bolSpy_notbol`.
-/
namespace Zvbi.Search

/-! ## D4: the start page of a backward search -/

/-- page 102 (sub-page 0) contains "ab"; nothing else is cached -/
def cexD4 : Cache := build [⟨0x102, 0, 0, abPage⟩]

/-- `vbi_search_new (0x102, VBI_ANY_SUBNO, "ab")` -/
def cexD4Search : SearchSt := (searchNew 0x102 ANY_SUBNO 2).getD {}

/-- status, page returned -/
def cexD4Out : Res × Nat × Nat :=
  match searchNext Shape.current exAb walkFuel cexD4 cexD4Search (-1) with
  | o => (o.res, o.st.pgPgno, o.st.pgSubno)

/-! ## D3: sub-page number 0 in the statistics -/

/-- page 899 stored with sub-code 0 (contains "ab"), then with sub-code 5 -/
def cexD3 : Cache := build [⟨0x899, 0, 0, abPage⟩, ⟨0x899, 5, 0, []⟩]

/-- status, page returned -/
def cexD3Out : Res × Nat × Nat :=
  match searchNext Shape.current exAb walkFuel cexD3 ((searchNew 0x8FF ANY_SUBNO 2).getD {}) 1 with
  | o => (o.res, o.st.pgPgno, o.st.pgSubno)

/-! ## D2 at 256 pages (`n_subpages` is 16 bits wide) -/

/-- 256 times: page 100 with sub-code 1, then with sub-code 0x100 (which replaces the most recently used page of
    that number, whatever its sub-code) -/
def cexD2 : Cache :=
  (List.range 256).foldl (fun c _ => put (put c 0x100 1 0 []) 0x100 0x100 0 []) Cache.empty

/-- the same history on the repaired shape of `_vbi_cache_put_page` (fixes/C10-put-replaces-all-versions.diff): the store
    with sub-code 0x100 - a single-version key - deletes every cached page of the number -/
def cexD2R : Cache :=
  (List.range 256).foldl (fun c _ => putR (putR c 0x100 1 0 []) 0x100 0x100 0 []) Cache.empty

/-! ## D5: sub-page number 0x3F7F is looked up exactly inside the walk -/

/-- hex page 1A2 with sub-codes 0x3F7E and 0x3F7F -/
def cexD5 : Cache := build [⟨0x1A2, 0x3F7E, 0, []⟩, ⟨0x1A2, 0x3F7F, 0, []⟩]

def cexD5Visits : List (Nat × Nat × Bool) := (walk Shape.current logTwo walkFuel cexD5 [] 0x1A2 0x3F7D 1).st

/-! ## D8: the flags `search_page_fwd` hands to ure_exec

Replay on the C code: corpus/C17/D8-fwd-continue-bol.ops.  Does not depend on the source shape of /repo.
Evaluated in Props/C17Pass.lean (as found) and Props/C17Anchors.lean (fixes/C17-line-anchors.diff). -/

/-- page 100.0, row 1 = "abmm" -/
def bolPage : Entry := ⟨0, FUNC_LOP, [textRow "abmm"], 0⟩

/-- a matcher for the regular expression `^mm` that obeys URE_NOTBOL: it accepts "mm" at the beginning of the text it is
    handed, unless it is told that the text does not begin at a line start -/
def bolSpy : Exec := fun fl t => if fl.notBol then none else if t.take 2 = [0x6d, 0x6d] then some (0, 2) else none

/-- the search context after "ab" (columns 0-1 of row 1) was reported: cursor at row 1, column 2 -/
def bolCtx : SearchSt :=
  { startPgno := 0x100, startSubno := 0, stopPgno0 := 0x100, stopSubno0 := 0, row0 := 1, col0 := 2, dir := 1 }

theorem bolSpy_notbol (t : List Nat) : bolSpy { notBol := true } t = none := by
  unfold bolSpy; simp

end Zvbi.Search
