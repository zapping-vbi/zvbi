import ZvbiModel.Search.LemmasSearch
import ZvbiModel.Search.LemmasHay
import ZvbiModel.Search.Cancel
/-!
# One call of `search_page_fwd` / `search_page_rev` (C17)

Both callbacks have the same frame, `pageResult`: a stop test (return -1), level one pages only (return 0), then the
search of the page text, which either finds nothing (return 0, the page noted as formatted) or an occurrence to
`highlight` (return 1).  They differ in the stop test (`stopFwd`, `stopRev`) and in the search (`foundFwd`: one exec
from the cursor on; `foundRev`: the text in front of the cursor, repeated exec, last occurrence).  What the walk and the
pass layer need of a callback follows from the frame alone: the return value `codeOf`, that a return of 0 keeps every
field a callback reads (`Frozen`), that a return of 1 leaves `highlight`'s context.
Per callback: the equation with the frame (`pageFwd_eq`, `pageRev_eq`) and when the page is searched as a whole
(`foundFwd_whole`, `foundRev_whole`).  Also: the flags handed to ure_exec in both source shapes (`lineStart`, `fwdFlags_*`,
`revFlags_*`), the repeated exec of `search_page_rev` (`revMatches_*`), and the callbacks over the page text built front
to back (`foundFwd_lin`, `foundRev_lin`, `callbackOf_lin`).
-/
namespace Zvbi.Search

/-- `t` is `s` up to the page formatted last: every field the page callbacks read is the same -/
def Frozen (s t : SearchSt) : Prop := ∃ a b l, t = { s with pgPgno := a, pgSubno := b, hl := l }

theorem Frozen.refl (s : SearchSt) : Frozen s s := ⟨_, _, _, rfl⟩

theorem Frozen.trans {a b d : SearchSt} (h1 : Frozen a b) (h2 : Frozen b d) : Frozen a d := by
  obtain ⟨_, _, _, rfl⟩ := h1; obtain ⟨_, _, _, rfl⟩ := h2; exact ⟨_, _, _, rfl⟩

/-- the frame of a page callback.  `stops`: the stop test; `found`: what the search of the page text found (offset of
    the text handed to the matcher, match interval) -/
def pageResult (s : SearchSt) (p : Nat) (e : Entry) (stops : Prop) [Decidable stops] (found : Option (Nat × Nat × Nat)) :
    Int × SearchSt :=
  if stops then (-1, s) else
  if e.func ≠ FUNC_LOP then (0, s) else
  match found with
  | none => (0, { s with pgPgno := p, pgSubno := e.subno, hl := [] })
  | some (first, ms, me) => (1, highlight { s with pgPgno := p, pgSubno := e.subno, hl := [] } p e first ms me)

/-- the return value of `pageResult` -/
def codeOf (e : Entry) (stops : Prop) [Decidable stops] (found : Option (Nat × Nat × Nat)) : Int :=
  if stops then -1 else if e.func ≠ FUNC_LOP then 0 else if found.isSome then 1 else 0

section
variable {s : SearchSt} {p : Nat} {e : Entry} {stops : Prop} [Decidable stops] {found : Option (Nat × Nat × Nat)}

theorem pageResult_fst : (pageResult s p e stops found).1 = codeOf e stops found := by
  unfold pageResult codeOf
  split
  · rfl
  · split
    · rfl
    · cases found <;> rfl

theorem pageResult_zero {s1 : SearchSt} (h : pageResult s p e stops found = (0, s1)) : Frozen s s1 := by
  unfold pageResult at h
  split at h
  · cases h
  · split at h
    · cases h; exact Frozen.refl s
    · split at h
      · cases h; exact ⟨_, _, _, rfl⟩
      · cases h

theorem pageResult_one {s1 : SearchSt} (h : pageResult s p e stops found = (1, s1)) :
    e.func = FUNC_LOP ∧ ∃ first ms me, found = some (first, ms, me) ∧
      s1 = highlight { s with pgPgno := p, pgSubno := e.subno, hl := [] } p e first ms me := by
  unfold pageResult at h
  split at h
  · cases h
  · split at h
    · cases h
    · rename_i hl
      split at h
      · cases h
      · cases h; exact ⟨by simpa using hl, _, _, _, rfl, rfl⟩

theorem pageResult_dir : (pageResult s p e stops found).2.dir = s.dir := by
  unfold pageResult
  split
  · rfl
  · split
    · rfl
    · split <;> rfl

theorem codeOf_range : codeOf e stops found = -1 ∨ codeOf e stops found = 0 ∨ codeOf e stops found = 1 := by
  unfold codeOf
  split
  · exact Or.inl rfl
  · split
    · exact Or.inr (Or.inl rfl)
    · split
      · exact Or.inr (Or.inr rfl)
      · exact Or.inr (Or.inl rfl)

theorem codeOf_minus1 : codeOf e stops found = -1 ↔ stops := by
  unfold codeOf
  split
  · simpa
  · split
    · simpa
    · split <;> simpa

theorem codeOf_lop (hlop : e.func = FUNC_LOP) (hns : ¬ stops) : codeOf e stops found = if found.isSome then 1 else 0 := by
  unfold codeOf
  rw [if_neg hns, if_neg (by simpa using hlop)]

end

/-! ## the flags handed to ure_exec in the two source shapes (finding C17-D8 / fixes/C17-line-anchors.diff)

`lineStart hay pos`: the haystack position `pos` is the beginning of a row (the haystack is the rows of the page, each
followed by SEPARATOR): `pos = 0` or the element in front is the separator.  In the repaired shape (`sh.anchors`)
URE_NOTBOL is handed over exactly when the text does NOT begin at a row start, in both page callbacks; as found
`search_page_fwd` never hands it over and `search_page_rev` always behind the first match. -/

/-- position `pos` of the haystack is the beginning of a row -/
def lineStart (hay : List Nat) (pos : Nat) : Prop := pos = 0 ∨ hay[pos - 1]? = some SEPARATOR

theorem insideRow_iff (hay : List Nat) (pos : Nat) (h : pos ≤ hay.length) :
    insideRow hay pos = true ↔ ¬ lineStart hay pos := by
  unfold insideRow lineStart
  by_cases h0 : pos = 0
  · subst h0; simp
  · have hlt : pos - 1 < hay.length := by omega
    have hpos : pos > 0 := by omega
    simp only [hpos, decide_true, Bool.true_and, h0, false_or]
    rw [List.getD_eq_getElem?_getD, List.getElem?_eq_getElem hlt]
    simp

theorem fwdFlags_repaired (sh : Shape) (ha : sh.anchors = true) (hay : List Nat) (first : Nat) :
    fwdFlags sh hay first = { notBol := insideRow hay first, notEol := false } := by
  unfold fwdFlags; rw [if_pos ha]

theorem fwdFlags_found (sh : Shape) (ha : sh.anchors = false) (hay : List Nat) (first : Nat) :
    fwdFlags sh hay first = {} := by
  unfold fwdFlags; rw [if_neg (by simp [ha])]

theorem revFlags_repaired (sh : Shape) (ha : sh.anchors = true) (hay : List Nat) (ne : Bool) (pos : Nat) :
    revFlags sh hay ne pos = { notBol := insideRow hay pos, notEol := ne } := by
  unfold revFlags; rw [if_pos ha]

theorem revFlags_found (sh : Shape) (ha : sh.anchors = false) (hay : List Nat) (ne : Bool) (pos : Nat) :
    revFlags sh hay ne pos = { notBol := decide (pos > 0), notEol := ne } := by
  unfold revFlags; rw [if_neg (by simp [ha])]

/-- the whole text (first = 0) is handed over with flags 0 in both source shapes -/
theorem fwdFlags_zero (sh : Shape) (hay : List Nat) : fwdFlags sh hay 0 = {} := by
  unfold fwdFlags insideRow; cases sh.anchors <;> simp

/-- return value of `search_page_fwd` -/
def codeFwd (sh : Shape) (exec : Exec) (s : SearchSt) (p : Nat) (e : Entry) (w : Bool) : Int :=
  if stopFwd s p e w then -1 else
  if e.func ≠ FUNC_LOP then 0 else
  if cursorRow s p e > LAST_ROW then 0 else
  if (hayFwd e.text (cursorRow s p e) s.col0).2 ≥ (hayFwd e.text (cursorRow s p e) s.col0).1.length then 0 else
  match exec (fwdFlags sh (hayFwd e.text (cursorRow s p e) s.col0).1 (hayFwd e.text (cursorRow s p e) s.col0).2) ((hayFwd e.text (cursorRow s p e) s.col0).1.drop (hayFwd e.text (cursorRow s p e) s.col0).2) with
  | none => 0
  | some _ => 1

/-- the search of `search_page_fwd`: the text from the cursor on (offset `first`), one exec -/
def foundFwd (sh : Shape) (exec : Exec) (s : SearchSt) (p : Nat) (e : Entry) : Option (Nat × Nat × Nat) :=
  if cursorRow s p e > LAST_ROW then none else
  if (hayFwd e.text (cursorRow s p e) s.col0).2 ≥ (hayFwd e.text (cursorRow s p e) s.col0).1.length then none else
  (exec (fwdFlags sh (hayFwd e.text (cursorRow s p e) s.col0).1 (hayFwd e.text (cursorRow s p e) s.col0).2)
    ((hayFwd e.text (cursorRow s p e) s.col0).1.drop (hayFwd e.text (cursorRow s p e) s.col0).2)).map
      (fun m => ((hayFwd e.text (cursorRow s p e) s.col0).2, m.1, m.2))

theorem pageFwd_eq (sh : Shape) (exec : Exec) (s : SearchSt) (p : Nat) (e : Entry) (w : Bool) :
    pageFwd sh exec s p e w = pageResult s p e (stopFwd s p e w = true) (foundFwd sh exec s p e) := by
  unfold pageFwd pageResult foundFwd
  split
  · rfl
  · split
    · rfl
    · dsimp only
      split
      · rfl
      · split
        · rfl
        · cases exec _ _ <;> rfl

theorem pageFwd_one {sh : Shape} {exec : Exec} {s0 : SearchSt} {p : Nat} {e : Entry} {w : Bool} {s' : SearchSt}
    (h : pageFwd sh exec s0 p e w = (1, s')) :
    e.func = FUNC_LOP ∧ ∃ ms me,
      exec (fwdFlags sh (hayFwd e.text (cursorRow s0 p e) s0.col0).1 (hayFwd e.text (cursorRow s0 p e) s0.col0).2) ((hayFwd e.text (cursorRow s0 p e) s0.col0).1.drop (hayFwd e.text (cursorRow s0 p e) s0.col0).2) = some (ms, me) ∧
      s' = highlight { s0 with pgPgno := p, pgSubno := e.subno, hl := [] } p e (hayFwd e.text (cursorRow s0 p e) s0.col0).2 ms me := by
  rw [pageFwd_eq] at h
  obtain ⟨hlop, first, ms, me, hf, hs⟩ := pageResult_one h
  unfold foundFwd at hf
  split at hf
  · cases hf
  · split at hf
    · cases hf
    · obtain ⟨m, hx, hm⟩ := Option.map_eq_some_iff.mp hf
      cases hm
      exact ⟨hlop, m.1, m.2, hx, hs⟩

theorem codeFwd_one_lop {exec : Exec} {s : SearchSt} {p : Nat} {e : Entry} {w : Bool}
    (h : codeFwd sh exec s p e w = 1) : e.func = FUNC_LOP := by
  unfold codeFwd at h
  split at h
  · cases h
  · split at h
    · cases h
    · rename_i h2; simpa using h2

/-- cursor row with cursor column 0: `first` can only be set while nothing is collected yet -/
theorem firstRow_fresh (row : Int) (i : Nat) : ∀ (its : List Iter) (n : Nat),
    (n = 0 ∨ ∀ it ∈ its, 1 ≤ it.col) → (∀ it ∈ its.tail, 1 ≤ it.col) → firstRow row 0 i its n 0 = 0 := by
  intro its
  induction its with
  | nil => intro n _ _; rfl
  | cons it rest ih =>
    intro n hall htail
    unfold firstRow
    have hnew : (if (i : Int) = row ∧ (it.col : Int) ≤ 0 then n else 0) = 0 := by
      split
      · rename_i hc
        rcases hall with h | h
        · exact h
        · have := h it List.mem_cons_self; omega
      · rfl
    rw [hnew]
    exact ih _ (Or.inr (fun x hx => htail x (by simpa using hx))) (fun x hx => htail x (by simpa using List.mem_of_mem_tail hx))

theorem hayFwd_first_fresh (t : Text) : (hayFwd t 1 0).2 = 0 := by
  have hrows : rowsList = 1 :: (List.range 22).map (· + 2) := by decide
  rw [hayFwd_eq, hrows]
  unfold firstRows
  rw [firstRow_fresh 1 1 _ 0 (Or.inl rfl) (rowIters_tail_col t 1), firstRows_other]
  intro i hi
  simp only [List.mem_map, List.mem_range] at hi
  obtain ⟨k, _, rfl⟩ := hi
  omega

/-- a page that is not the page the cursor stands in (or the cursor is at the top of the page) is searched from its
    beginning: the matcher, with flags 0, gets the whole text -/
theorem foundFwd_whole (sh : Shape) (exec : Exec) {s : SearchSt} (p : Nat) (e : Entry)
    (hcur : key p e.subno ≠ key s.startPgno s.startSubno ∨ (s.row0 = 1 ∧ s.col0 = 0)) :
    (foundFwd sh exec s p e).isSome = (exec {} (hayFwd e.text (-1) 0).1).isSome := by
  -- the cursor row is -1 (not the start page), or 1 with cursor column 0: either way the text begins at offset 0
  have hfirst : (hayFwd e.text (cursorRow s p e) s.col0).2 = 0 ∧ ¬ cursorRow s p e > LAST_ROW := by
    unfold cursorRow LAST_ROW
    split
    · rename_i hk
      obtain ⟨hr, hc⟩ := hcur.resolve_left (fun h => h hk)
      rw [hr, hc]; exact ⟨hayFwd_first_fresh e.text, by decide⟩
    · exact ⟨hayFwd_first_nocursor e.text _, by decide⟩
  have hlen := hayFwd_nonempty e.text (cursorRow s p e) s.col0
  unfold foundFwd
  rw [if_neg hfirst.2, hfirst.1, if_neg (by omega)]
  simp only [List.drop_zero, fwdFlags_zero, Option.isSome_map]
  rw [hayFwd_fst_indep e.text (cursorRow s p e) s.col0 (-1) 0]

/-- the first exec of search_page_rev (`pos = 0`) gets no URE_NOTBOL in either shape -/
theorem revFlags_zero (sh : Shape) (hay : List Nat) (ne : Bool) : revFlags sh hay ne 0 = { notBol := false, notEol := ne } := by
  unfold revFlags insideRow; cases sh.anchors <;> simp

/-- the loop of search_page_rev ends for EVERY matcher: `pos` grows in every round (b5116c9) -/
theorem revMatches_total (sh : Shape) (exec : Exec) (hay : List Nat) (ne : Bool) :
    ∀ (f i ms me pos : Nat), hay.length - pos < f → revMatches sh exec hay ne f i ms me pos ≠ none := by
  intro f
  induction f with
  | zero => intro i ms me pos h; omega
  | succ f ih =>
    intro i ms me pos h
    unfold revMatches
    by_cases hlt : pos < hay.length
    · simp only [hlt, if_true]
      cases hx : exec (revFlags sh hay ne pos) (hay.drop pos) with
      | none => simp
      | some mm =>
        obtain ⟨ms1, me1⟩ := mm
        simp only
        apply ih
        split <;> omega
    · simp [hlt]

/-- what the loop of `search_page_rev` returns: what it was started with, or the result of an exec at an offset `pos'`
    (at or behind the one it was started with, inside the haystack) that was handed exactly `revFlags sh hay ne pos'`;
    its counter never decreases -/
theorem revMatches_last (sh : Shape) (exec : Exec) (hay : List Nat) (ne : Bool) :
    ∀ (f i ms me pos i' ms' me' : Nat), revMatches sh exec hay ne f i ms me pos = some (i', ms', me') →
      i ≤ i' ∧ ((i' = i ∧ ms' = ms ∧ me' = me) ∨
      ∃ pos' ms1 me1, pos ≤ pos' ∧ pos' < hay.length ∧
        exec (revFlags sh hay ne pos') (hay.drop pos') = some (ms1, me1) ∧ ms' = pos' + ms1 ∧ me' = pos' + me1) := by
  intro f
  induction f with
  | zero => intro i ms me pos i' ms' me' h; simp [revMatches] at h
  | succ f ih =>
    intro i ms me pos i' ms' me' h
    unfold revMatches at h
    by_cases hlt : pos < hay.length
    · simp only [hlt, if_true] at h
      cases hx : exec (revFlags sh hay ne pos) (hay.drop pos) with
      | none =>
        rw [hx] at h; simp only [Option.some.injEq, Prod.mk.injEq] at h
        exact ⟨by omega, Or.inl ⟨h.1.symm, h.2.1.symm, h.2.2.symm⟩⟩
      | some mm =>
        obtain ⟨ms1, me1⟩ := mm
        rw [hx] at h; simp only at h
        obtain ⟨hle, hc⟩ := ih _ _ _ _ _ _ _ h
        refine ⟨by omega, ?_⟩
        rcases hc with ⟨_, h2, h3⟩ | ⟨p2, a, b, h1, h2, h3, h4, h5⟩
        · exact Or.inr ⟨pos, ms1, me1, Nat.le_refl _, hlt, hx, h2, h3⟩
        · refine Or.inr ⟨p2, a, b, ?_, h2, h3, h4, h5⟩
          split at h1 <;> omega
    · simp only [hlt, if_false, Option.some.injEq, Prod.mk.injEq] at h
      exact ⟨by omega, Or.inl ⟨h.1.symm, h.2.1.symm, h.2.2.symm⟩⟩

/-- **the repeated `ure_exec` of `search_page_rev` ends** (no hypothesis on the matcher), and it reports "no occurrence"
    (`i = 0`) exactly when the first exec, on the whole haystack, found nothing -/
theorem revMatches_ends (sh : Shape) (exec : Exec) (hay : List Nat) (ne : Bool) (hlen : hay.length ≠ 0) :
    ∃ i ms me, revMatches sh exec hay ne (hay.length + 2) 0 0 0 0 = some (i, ms, me) ∧
      (i = 0 ↔ exec (revFlags sh hay ne 0) hay = none) := by
  rw [show hay.length + 2 = (hay.length + 1) + 1 from rfl, revMatches]
  have hp : 0 < hay.length := Nat.pos_of_ne_zero hlen
  rw [if_pos hp, List.drop_zero]
  cases hx : exec (revFlags sh hay ne 0) hay with
  | none => exact ⟨0, 0, 0, rfl, by simp⟩
  | some mm =>
    obtain ⟨ms1, me1⟩ := mm
    simp only
    cases hr : revMatches sh exec hay ne (hay.length + 1) (0 + 1) (0 + ms1) (0 + me1)
        (if 0 + me1 > 0 then 0 + me1 else 0 + 1) with
    | none => exact absurd hr (revMatches_total sh exec hay ne _ _ _ _ _ (by omega))
    | some r =>
      obtain ⟨i', ms', me'⟩ := r
      have := (revMatches_last sh exec hay ne _ _ _ _ _ _ _ _ hr).1
      exact ⟨i', ms', me', rfl, fun h => by omega, fun h => by cases h⟩

/-- `stopRev` is the test `search_page_rev` makes -/
theorem stopRev_iff (s : SearchSt) (p : Nat) (e : Entry) (w : Bool) :
    stopRev s p e w = true ↔
      if key s.startPgno s.startSubno ≤ key s.stopPgno1 s.stopSubno1 then
        w = true ∧ key p e.subno ≤ key s.stopPgno1 s.stopSubno1
      else key p e.subno > key s.startPgno s.startSubno ∨ key p e.subno ≤ key s.stopPgno1 s.stopSubno1 := by
  unfold stopRev; simp only; split <;> simp

/-- `row = (this == start) ? s->row[1] : 100` -/
def cursorRowR (s : SearchSt) (p : Nat) (e : Entry) : Int :=
  if key p e.subno = key s.startPgno s.startSubno then s.row1 else 100

/-- the search of `search_page_rev`: the text in front of the cursor, repeated exec, the last occurrence -/
def foundRev (sh : Shape) (exec : Exec) (s : SearchSt) (p : Nat) (e : Entry) : Option (Nat × Nat × Nat) :=
  if (hayRev e.text (cursorRowR s p e) s.col1).1.length = 0 then none else
  match revMatches sh exec (hayRev e.text (cursorRowR s p e) s.col1).1 (hayRev e.text (cursorRowR s p e) s.col1).2
      ((hayRev e.text (cursorRowR s p e) s.col1).1.length + 2) 0 0 0 0 with
  | none => none
  | some (i, ms, me) => if i = 0 then none else some (0, ms, me)

theorem pageRev_eq (sh : Shape) (exec : Exec) (s : SearchSt) (p : Nat) (e : Entry) (w : Bool) :
    pageRev sh exec s p e w = pageResult s p e (stopRev s p e w = true) (foundRev sh exec s p e) := by
  unfold pageResult
  by_cases h1 : stopRev s p e w = true
  · rw [if_pos h1]; rw [stopRev_iff] at h1; unfold pageRev; simp only [if_pos h1]
  · rw [if_neg h1]; rw [stopRev_iff] at h1
    by_cases h2 : e.func ≠ FUNC_LOP
    · rw [if_pos h2]; unfold pageRev; simp only [if_neg h1, if_pos h2]
    · rw [if_neg h2]
      unfold pageRev foundRev cursorRowR
      simp only [if_neg h1, if_neg h2]
      generalize hayRev e.text _ _ = h
      obtain ⟨hay, ne⟩ := h
      dsimp only
      by_cases h3 : hay.length = 0
      · simp only [if_pos h3]
      · obtain ⟨i, ms, me, hrm, _⟩ := revMatches_ends sh exec hay ne h3
        simp only [if_neg h3, hrm]
        by_cases h0 : i = 0
        · simp only [if_pos h0]
        · simp only [if_neg h0]

/-- only the FIRST `ure_exec` (on the whole haystack) decides whether `search_page_rev` finds something -/
theorem foundRev_isSome (sh : Shape) (exec : Exec) (s : SearchSt) (p : Nat) (e : Entry) :
    (foundRev sh exec s p e).isSome =
      (decide ((hayRev e.text (cursorRowR s p e) s.col1).1.length ≠ 0) &&
        (exec (revFlags sh (hayRev e.text (cursorRowR s p e) s.col1).1 (hayRev e.text (cursorRowR s p e) s.col1).2 0)
          (hayRev e.text (cursorRowR s p e) s.col1).1).isSome) := by
  unfold foundRev
  split
  · rename_i h; simp [h]
  · rename_i h3
    obtain ⟨i, ms, me, hrm, hi⟩ := revMatches_ends sh exec _ (hayRev e.text (cursorRowR s p e) s.col1).2 h3
    rw [hrm]
    simp only [h3, ne_eq, not_false_eq_true, decide_true, Bool.true_and]
    by_cases h0 : i = 0
    · rw [if_pos h0, hi.mp h0]; rfl
    · rw [if_neg h0]
      cases hx : exec _ _ with
      | none => exact absurd (hi.mpr hx) h0
      | some _ => rfl

/-- **a page without cursor is searched as a whole**: a page that is not the start position (or the cursor row is
    below the page: row[1] = LAST_ROW + 1 as a fresh pass has it) - the matcher, with flags 0, gets the whole text (the
    list `Matches` speaks about) -/
theorem foundRev_whole (sh : Shape) (exec : Exec) {s : SearchSt} (p : Nat) (e : Entry)
    (hcur : key p e.subno ≠ key s.startPgno s.startSubno ∨ 24 ≤ s.row1) :
    (foundRev sh exec s p e).isSome = (exec {} (hayFwd e.text (-1) 0).1).isSome := by
  have hrow : 24 ≤ cursorRowR s p e := by
    unfold cursorRowR
    rcases hcur with hk | hr
    · rw [if_neg hk]; decide
    · split
      · exact hr
      · decide
  rw [foundRev_isSome, hayRev_whole e.text _ s.col1 hrow, revFlags_zero]
  simp [Nat.ne_of_gt (hayFwd_nonempty e.text (-1) 0)]

/-! ## the callbacks over the page text built front to back

`foundFwd` / `foundRev` with the haystack in the form of LemmasHay.lean, inside the same frame: what a concrete search is
evaluated through by the kernel (`rw [searchNext, callbackOf_lin]`). -/

def foundFwdL (sh : Shape) (exec : Exec) (s : SearchSt) (p : Nat) (e : Entry) : Option (Nat × Nat × Nat) :=
  if cursorRow s p e > LAST_ROW then none else
  let hay := pageChars e.text rowsList
  let first := firstRows e.text (cursorRow s p e) s.col0 rowsList 0 0
  if first ≥ hay.length then none else (exec (fwdFlags sh hay first) (hay.drop first)).map (fun m => (first, m.1, m.2))

def foundRevL (sh : Shape) (exec : Exec) (s : SearchSt) (p : Nat) (e : Entry) : Option (Nat × Nat × Nat) :=
  let h := if cursorRowR s p e < FIRST_ROW then ([], false) else revRows e.text (cursorRowR s p e) s.col1 rowsList
  if h.1.length = 0 then none else
  match revMatches sh exec h.1 h.2 (h.1.length + 2) 0 0 0 0 with
  | none => none
  | some (i, ms, me) => if i = 0 then none else some (0, ms, me)

theorem foundFwd_lin (sh : Shape) (exec : Exec) : foundFwd sh exec = foundFwdL sh exec := by
  funext s p e; simp only [foundFwd, foundFwdL, hayFwd_eq]

theorem foundRev_lin (sh : Shape) (exec : Exec) : foundRev sh exec = foundRevL sh exec := by
  funext s p e; simp only [foundRev, foundRevL, hayRev_eq]

def callbackL (sh : Shape) (exec : Exec) (dirArg : Int) : Callback SearchSt := fun s p e w =>
  if dirArg > 0 then pageResult s p e (stopFwd s p e w = true) (foundFwdL sh exec s p e)
  else pageResult s p e (stopRev s p e w = true) (foundRevL sh exec s p e)

theorem callbackOf_lin (sh : Shape) (exec : Exec) : callbackOf sh exec = callbackL sh exec := by
  funext d s p e w
  unfold callbackOf callbackL
  split
  · rw [pageFwd_eq, foundFwd_lin]
  · rw [pageRev_eq, foundRev_lin]

end Zvbi.Search
