import ZvbiModel.Search.LemmasFactor
/-!
# Lemmas about the page statistics as `_vbi_cache_put_page` maintains them (C17)

`SlotInv` is what holds after every history of page stores.  With "first page of this number" tested as
`1 == n_subpages` (5e41e82) it includes that every cached page lies inside the window
`subno_min .. subno_max` - as long as the 16 bit counter `n_subpages` has not wrapped, i.e. fewer than 65536
pages are cached under the page number (C17-D2: the number of pages per page number is not bounded, a
sub-code >= 0x100 replaces the most recently used page whatever its sub-code).

Both source shapes of `_vbi_cache_put_page` (C17 follows `putReplacesAllVersions`): `put` (shape as found, finding F17 /
C17-D2) and `putR` (fixes/C10-put-replaces-all-versions.diff: a store under a single-version key deletes every other
cached page of the page number) are the two values of `putF fix`; the facts about histories are proved for `buildF fix`.
For the repaired shape the cached pages of one page number have pairwise different keys (`subno % 256` for BCD page
numbers, `subno % 16` for the others), hence there are at most 256 of them and the 16 bit counter `n_subpages` cannot
wrap: `NoWrap`, a hypothesis (C17-D2) for the shape as found, is a theorem (`noWrap_repaired`).
-/
namespace Zvbi.Search

structure SlotInv (sl : Slot) : Prop where
  count : sl.stat.nSub.toNat = sl.chain.length % 65536
  minmax : sl.stat.subMin.toNat ≤ sl.stat.subMax.toNat
  small : sl.stat.subMax.toNat ≤ 0x3F7F
  /-- both bounds hold while the counter has not wrapped; the one store that shortens the chain (repaired shape,
      single-version key) leaves the new page alone and restarts the window -/
  cover : sl.chain.length < 65536 → ∀ e ∈ sl.chain, sl.stat.subMin.toNat ≤ e.subno ∧ e.subno ≤ sl.stat.subMax.toNat

def Inv (c : Cache) : Prop := ∀ p, SlotInv (c.slots p)

theorem putKey_le (pgno subno : Nat) : (putKey pgno subno).1 ≤ subno := by
  unfold putKey
  split
  · split
    · simp_all
    · split
      · split <;> simp
      · split <;> simp
  · simp

theorem removeFirst_length (q : Entry → Bool) (l : List Entry) (e : Entry) (rest : List Entry)
    (h : removeFirst q l = some (e, rest)) : l.length = rest.length + 1 ∧ ∀ x ∈ rest, x ∈ l := by
  obtain ⟨pre, post, hl, hr, _, _⟩ := removeFirst_split q l e rest h
  subst hl hr
  constructor
  · simp; omega
  · intro x hx
    rcases List.mem_append.mp hx with h | h
    · exact List.mem_append.mpr (Or.inl h)
    · exact List.mem_append.mpr (Or.inr (List.mem_cons_of_mem _ h))

theorem toUInt16_small {s : Nat} (h : s ≤ 0x3F7F) : s.toUInt16.toNat = s := by
  simp; omega

/-- `cache_network_add_page` on the statistics, case by case -/
theorem add_spec (st : Stat) (s : Nat) (hs : s ≤ 0x3F7F) :
    (st.add s).nSub = st.nSub + 1 ∧
    ((st.nSub + 1 = 1 ∧ (st.add s).subMin.toNat = s ∧ (st.add s).subMax.toNat = s) ∨
     (st.nSub + 1 ≠ 1 ∧ (st.add s).subMin.toNat = min s st.subMin.toNat ∧
        (st.add s).subMax.toNat = max s st.subMax.toNat)) := by
  unfold Stat.add
  simp only
  refine ⟨trivial, ?_⟩
  by_cases h1 : st.nSub + 1 = 1
  · left; simp only [h1, true_or, if_true, toUInt16_small hs]; exact ⟨trivial, trivial, trivial⟩
  · right
    refine ⟨h1, ?_, ?_⟩
    · by_cases h2 : s < st.subMin.toNat
      · simp only [h1, h2, or_true, if_true, toUInt16_small hs]; omega
      · simp only [h1, h2, or_self, if_false]; omega
    · by_cases h2 : s > st.subMax.toNat
      · simp only [h1, h2, or_true, if_true, toUInt16_small hs]; omega
      · simp only [h1, h2, or_self, if_false]; omega

theorem nsub_succ_eq_one (n : UInt16) : n + 1 = 1 ↔ n.toNat = 0 := by
  constructor
  · intro h
    have := congrArg UInt16.toNat h
    simp only [UInt16.toNat_add] at this
    have hn := n.toNat_lt
    simp at this; omega
  · intro h
    have : n = 0 := UInt16.toNat_inj.mp (by simpa using h)
    subst this; rfl

/-- what one store does to a slot whose statistics are `st` (after the removal of a replaced page, if any) and
    whose remaining pages are `rest` -/
theorem add_slot_inv {st : Stat} {rest : List Entry} {s : Nat} (func : Int) (text : Text) (tag : Nat) (hs : s ≤ 0x3F7F)
    (hcount : st.nSub.toNat = rest.length % 65536) (hmm : st.subMin.toNat ≤ st.subMax.toNat)
    (hsm : st.subMax.toNat ≤ 0x3F7F)
    (hcov : rest.length + 1 < 65536 → ∀ e ∈ rest, st.subMin.toNat ≤ e.subno ∧ e.subno ≤ st.subMax.toNat) :
    SlotInv ⟨st.add s, ⟨s, func, text, tag⟩ :: rest⟩ := by
  obtain ⟨hn, hcase⟩ := add_spec st s hs
  have hnlt := st.nSub.toNat_lt
  refine ⟨?_, ?_, ?_, ?_⟩
  · show (st.add s).nSub.toNat = (rest.length + 1) % 65536
    rw [hn, UInt16.toNat_add]; simp; omega
  · show (st.add s).subMin.toNat ≤ (st.add s).subMax.toNat
    rcases hcase with ⟨_, h1, h2⟩ | ⟨_, h1, h2⟩ <;> omega
  · show (st.add s).subMax.toNat ≤ 0x3F7F
    rcases hcase with ⟨_, h1, h2⟩ | ⟨_, h1, h2⟩ <;> omega
  · intro hlen e he
    simp only [List.length_cons] at hlen
    show (st.add s).subMin.toNat ≤ e.subno ∧ e.subno ≤ (st.add s).subMax.toNat
    rcases hcase with ⟨hone, h1, h2⟩ | ⟨hne, h1, h2⟩
    · -- the only page of this number
      have h0 : st.nSub.toNat = 0 := (nsub_succ_eq_one _).mp hone
      have hr : rest = [] := by
        have : rest.length = 0 := by omega
        exact List.eq_nil_of_length_eq_zero this
      subst hr
      rcases List.mem_cons.mp he with rfl | he
      · simp only; omega
      · exact absurd he List.not_mem_nil
    · rcases List.mem_cons.mp he with rfl | he
      · simp only; omega
      · have := hcov hlen e he; omega

theorem removeN_fields (st : Stat) (n : Nat) :
    (st.removeN n).subMin = st.subMin ∧ (st.removeN n).subMax = st.subMax := by
  induction n generalizing st with
  | zero => exact ⟨rfl, rfl⟩
  | succ n ih =>
    show (st.remove.removeN n).subMin = st.subMin ∧ (st.remove.removeN n).subMax = st.subMax
    exact ih st.remove

theorem remove_count (st : Stat) (L : Nat) (h : st.nSub.toNat = L % 65536) (hL : 1 ≤ L) :
    st.remove.nSub.toNat = (L - 1) % 65536 := by
  have hnlt := st.nSub.toNat_lt
  show (st.nSub - 1).toNat = (L - 1) % 65536
  rw [UInt16.toNat_sub]; simp; omega

theorem removeN_count (st : Stat) (n L : Nat) (h : st.nSub.toNat = L % 65536) (hn : n ≤ L) :
    (st.removeN n).nSub.toNat = (L - n) % 65536 := by
  induction n generalizing st L with
  | zero => exact h
  | succ n ih =>
    show (st.remove.removeN n).nSub.toNat = (L - (n + 1)) % 65536
    have := ih st.remove (L - 1) (remove_count st L h (by omega)) (by omega)
    rw [this]; congr 1; omega

theorem setSlot_forall {Q : Nat → Slot → Prop} {c : Cache} (h : ∀ p, Q p (c.slots p)) {pgno : Nat} {sl : Slot}
    (hsl : Q pgno sl) (n : Nat) : ∀ p, Q p ((c.setSlot pgno sl n).slots p) := by
  intro p
  unfold Cache.setSlot; simp only
  by_cases hp : p = pgno
  · rw [if_pos hp, hp]; exact hsl
  · rw [if_neg hp]; exact h p

/-- what `_vbi_cache_put_page` of source shape `fix` makes of the slot `sl` of its page number; `(s, m)` is the key
    `putKey` chose, `new` the page stored: nothing found under the key - the page is added; a page found - it is
    replaced; repaired shape and single-version key - all pages of the number are replaced -/
inductive Stored (fix : Bool) (s m : Nat) (new : Entry) (sl : Slot) : Slot → Prop
  | add : removeFirst (fun e => e.subno % m = s % m) sl.chain = none →
      Stored fix s m new sl ⟨sl.stat.add s, new :: sl.chain⟩
  | replace {old : Entry} {rest : List Entry} :
      removeFirst (fun e => e.subno % m = s % m) sl.chain = some (old, rest) → (fix = true → m ≠ 1) →
      Stored fix s m new sl ⟨sl.stat.remove.add s, new :: rest⟩
  | replaceAll {old : Entry} {rest : List Entry} :
      removeFirst (fun e => e.subno % m = s % m) sl.chain = some (old, rest) → fix = true → m = 1 →
      Stored fix s m new sl ⟨(sl.stat.removeN rest.length).remove.add s, [new]⟩

/-- **the store, case by case**: nothing (page number xFF, time filling header), or the slot of the page number is
    `Stored` and the page counter is not 0 -/
theorem putF_cases (fix : Bool) (c : Cache) (pgno subno : Nat) (func : Int) (text : Text) (tag : Nat) :
    (pgno % 256 = 255 ∧ putF fix c pgno subno func text tag = c) ∨
    (pgno % 256 ≠ 255 ∧ ∃ sl n, putF fix c pgno subno func text tag = c.setSlot pgno sl (n + 1) ∧
      Stored fix (putKey pgno subno).1 (putKey pgno subno).2 ⟨(putKey pgno subno).1, func, text, tag⟩ (c.slots pgno) sl) := by
  by_cases hff : pgno % 256 = 255
  · left; refine ⟨hff, ?_⟩; cases fix <;> simp [putF, put, putR, hff]
  · right; refine ⟨hff, ?_⟩
    generalize hk : putKey pgno subno = k
    obtain ⟨s, m⟩ := k
    cases hr : removeFirst (fun e => e.subno % m = s % m) (c.slots pgno).chain with
    | none =>
      refine ⟨_, c.nCached, ?_, .add hr⟩
      cases fix <;> simp only [putF, put, putR, hff, if_false, if_true, Bool.false_eq_true, hk, hr]
    | some t =>
      obtain ⟨old, rest⟩ := t
      by_cases hm : fix = true ∧ m = 1
      · obtain ⟨rfl, rfl⟩ := hm
        refine ⟨_, c.nCached - rest.length - 1, ?_, .replaceAll hr rfl rfl⟩
        simp only [putF, putR, hff, if_false, if_true, hk, hr]
      · refine ⟨_, c.nCached - 1, ?_, .replace hr fun hf h1 => hm ⟨hf, h1⟩⟩
        cases fix
        · simp only [putF, put, hff, if_false, Bool.false_eq_true, hk, hr]
        · simp only [putF, putR, hff, if_false, if_true, hk, hr, show m ≠ 1 from fun h1 => hm ⟨rfl, h1⟩]

theorem Stored.length_le {fix : Bool} {s m : Nat} {new : Entry} {sl sl' : Slot} (h : Stored fix s m new sl sl') :
    sl'.chain.length ≤ sl.chain.length + 1 := by
  cases h with
  | add _ => simp
  | replace hr _ => have := (removeFirst_length _ _ _ _ hr).1; simp; omega
  | replaceAll _ _ _ => simp

theorem Stored.inv {fix : Bool} {s m : Nat} {func : Int} {text : Text} {tag : Nat} {sl sl' : Slot}
    (h : Stored fix s m ⟨s, func, text, tag⟩ sl sl') (hs : s ≤ 0x3F7F) (hsl : SlotInv sl) : SlotInv sl' := by
  cases h with
  | add _ => exact add_slot_inv func text tag hs hsl.count hsl.minmax hsl.small (fun hl => hsl.cover (by omega))
  | replace hr _ =>
    obtain ⟨hlen, hsub⟩ := removeFirst_length _ _ _ _ hr
    refine add_slot_inv (st := sl.stat.remove) func text tag hs ?_ hsl.minmax hsl.small ?_
    · rw [remove_count _ _ hsl.count (by omega)]; congr 1; omega
    · intro hl e he
      exact hsl.cover (by omega) e (hsub e he)
  | @replaceAll old rest hr _ _ =>
    -- single-version key: the other pages of the number go too
    have hlen := (removeFirst_length _ _ _ _ hr).1
    obtain ⟨f1, f2⟩ := removeN_fields sl.stat rest.length
    have hc1 := removeN_count sl.stat rest.length sl.chain.length hsl.count (by omega)
    have hc2 := remove_count (sl.stat.removeN rest.length) (sl.chain.length - rest.length) hc1 (by omega)
    refine add_slot_inv (st := (sl.stat.removeN rest.length).remove) (rest := []) func text tag hs ?_ ?_ ?_ ?_
    · rw [hc2]; simp; omega
    · show (sl.stat.removeN rest.length).subMin.toNat ≤ (sl.stat.removeN rest.length).subMax.toNat
      rw [f1, f2]; exact hsl.minmax
    · show (sl.stat.removeN rest.length).subMax.toNat ≤ 0x3F7F
      rw [f2]; exact hsl.small
    · intro _ e he; exact absurd he List.not_mem_nil

theorem empty_inv : Inv Cache.empty := by
  intro p
  refine ⟨rfl, Nat.le_refl _, ?_, ?_⟩
  · show (0 : UInt16).toNat ≤ 0x3F7F
    decide
  · intro _ e he; exact absurd he List.not_mem_nil

/-- a store operation: page number, transmitted sub-code, function, displayed text -/
structure PutOp where
  pgno : Nat
  subno : Nat
  func : Int
  text : Text

def build (ops : List PutOp) : Cache := ops.foldl (fun c o => put c o.pgno o.subno o.func o.text) Cache.empty

/-- `_vbi_cache_put_page` stores nothing under a page number xFF (time filling header) -/
def NoFF (c : Cache) : Prop := ∀ p, p % 256 = 255 → (c.slots p).chain = []

/-- a page number under which something is cached is one `_vbi_cache_get_page` accepts -/
theorem validPgno_of_mem {c : Cache} (h : NoFF c) {p : Int} (hp : PgOk p) {e : Entry} (he : e ∈ (c.slots p.toNat).chain) :
    validPgno p = true := by
  have hff : ¬ p.toNat % 256 = 255 := by
    intro hff; rw [h p.toNat hff] at he; cases he
  unfold validPgno; unfold PgOk at hp
  have h1 : (0x100 : Int) ≤ p := hp.1
  have h2 : p ≤ (0x8FF : Int) := hp.2
  have h3 : p % 256 ≠ 255 := by omega
  simp [h1, h2, h3]

theorem startOk_of_noFF (sh : Shape) {c : Cache} (h : NoFF c) (p : Int) (hp : 0x100 ≤ p ∧ p ≤ 0x8FF) : StartOk sh c p := by
  unfold StartOk validPgno
  right
  by_cases hff : p % 256 = 255
  · right; apply h; omega
  · left; simp; omega

/-- every cached page lies inside the statistics window of its page number -/
def Covered (c : Cache) : Prop :=
  ∀ p, ∀ e ∈ (c.slots p).chain, (c.slots p).stat.nSub ≠ 0 ∧ (c.slots p).stat.subMin.toNat ≤ e.subno ∧
    e.subno ≤ (c.slots p).stat.subMax.toNat

/-- the exclusion of C17-D2: the 16 bit counter `n_subpages` has not wrapped - fewer than 65536 pages are cached
    under every page number -/
def NoWrap (c : Cache) : Prop := ∀ p, (c.slots p).chain.length < 65536

theorem covered_of_inv {c : Cache} (h : Inv c) (hw : NoWrap c) : Covered c := by
  intro p e he
  have hc := (h p).cover (hw p) e he
  refine ⟨?_, hc.1, hc.2⟩
  intro h0
  have hcount := (h p).count
  have hlen := hw p
  have hpos : 0 < (c.slots p).chain.length := List.length_pos_of_mem he
  rw [h0] at hcount
  simp at hcount
  omega

/-- `subno_min <= subno_max` for every page number -/
def StatOk (c : Cache) : Prop := ∀ q : Int, (c.stat q).subMin.toNat ≤ (c.stat q).subMax.toNat

theorem statOk_of_inv {c : Cache} (h : Inv c) : StatOk c := fun q => (h q.toNat).minmax

/-- `n_cached_pages` is not 0 when some page is cached -/
def Counted (c : Cache) : Prop := (∃ p, (c.slots p).chain ≠ []) → c.nCached ≠ 0

theorem removeFirst_mod_one {s : Nat} {l : List Entry} {old : Entry} {rest : List Entry}
    (h : removeFirst (fun e => e.subno % 1 = s % 1) l = some (old, rest)) : l = old :: rest := by
  cases l with
  | nil => simp [removeFirst] at h
  | cons a t =>
    unfold removeFirst at h
    simp only [Nat.mod_one, decide_true, if_true, Option.some.injEq, Prod.mk.injEq] at h
    rw [h.1, h.2]

theorem removeFirst_mod_one_none {s : Nat} {l : List Entry}
    (h : removeFirst (fun e => e.subno % 1 = s % 1) l = none) : l = [] := by
  cases l with
  | nil => rfl
  | cons a t =>
    unfold removeFirst at h
    simp [Nat.mod_one] at h

theorem putF_false (c : Cache) (pgno subno : Nat) (func : Int) (text : Text) (tag : Nat) :
    putF false c pgno subno func text tag = put c pgno subno func text tag := rfl

theorem putF_true (c : Cache) (pgno subno : Nat) (func : Int) (text : Text) (tag : Nat) :
    putF true c pgno subno func text tag = putR c pgno subno func text tag := rfl

theorem putF_inv (fix : Bool) {c : Cache} (h : Inv c) (pgno subno : Nat) (func : Int) (text : Text) (tag : Nat)
    (hs : subno ≤ 0x3F7F) : Inv (putF fix c pgno subno func text tag) := by
  rcases putF_cases fix c pgno subno func text tag with ⟨_, he⟩ | ⟨_, sl, n, he, hst⟩
  · rw [he]; exact h
  · rw [he]
    exact setSlot_forall (Q := fun _ sl => SlotInv sl) h (hst.inv (Nat.le_trans (putKey_le pgno subno) hs) (h pgno)) _

theorem putF_noFF (fix : Bool) {c : Cache} (h : NoFF c) (pgno subno : Nat) (func : Int) (text : Text) (tag : Nat) :
    NoFF (putF fix c pgno subno func text tag) := by
  rcases putF_cases fix c pgno subno func text tag with ⟨_, he⟩ | ⟨hff, sl, n, he, _⟩
  · rw [he]; exact h
  · rw [he]
    exact setSlot_forall (Q := fun p sl => p % 256 = 255 → sl.chain = []) h (fun hp => absurd hp hff) _

theorem putF_length_le (fix : Bool) (c : Cache) (pgno subno : Nat) (func : Int) (text : Text) (tag : Nat) (p : Nat) :
    ((putF fix c pgno subno func text tag).slots p).chain.length ≤ (c.slots p).chain.length + 1 := by
  rcases putF_cases fix c pgno subno func text tag with ⟨_, he⟩ | ⟨_, sl, n, he, hst⟩
  · rw [he]; omega
  · rw [he]
    exact setSlot_forall (Q := fun p sl => sl.chain.length ≤ (c.slots p).chain.length + 1) (fun _ => Nat.le_succ _)
      hst.length_le _ p

theorem putF_counted (fix : Bool) {c : Cache} (h : Counted c) (pgno subno : Nat) (func : Int) (text : Text) (tag : Nat) :
    Counted (putF fix c pgno subno func text tag) := by
  rcases putF_cases fix c pgno subno func text tag with ⟨_, he⟩ | ⟨_, sl, n, he, _⟩
  · rw [he]; exact h
  · rw [he]; intro _; simp [Cache.setSlot]

/-- the cache after a history of stores on source shape `fix` -/
def buildF (fix : Bool) (ops : List PutOp) : Cache :=
  ops.foldl (fun c o => putF fix c o.pgno o.subno o.func o.text) Cache.empty

/-- `build` (used by the witnesses) is the history on the shape as found -/
theorem build_eq (ops : List PutOp) : build ops = buildF false ops := rfl

theorem buildF_induct (fix : Bool) (ops : List PutOp) (P : Cache → Prop) (h0 : P Cache.empty)
    (hstep : ∀ c, ∀ o ∈ ops, P c → P (putF fix c o.pgno o.subno o.func o.text)) : P (buildF fix ops) := by
  unfold buildF
  generalize Cache.empty = c at h0
  induction ops generalizing c with
  | nil => exact h0
  | cons o ops ih =>
    exact ih (fun c o' ho' => hstep c o' (List.mem_cons_of_mem _ ho')) _ (hstep c o List.mem_cons_self h0)

theorem buildF_inv (fix : Bool) (ops : List PutOp) (h : ∀ o ∈ ops, o.subno ≤ 0x3F7F) : Inv (buildF fix ops) :=
  buildF_induct fix ops Inv empty_inv (fun _ o ho hc => putF_inv fix hc _ _ _ _ _ (h o ho))

theorem buildF_noFF (fix : Bool) (ops : List PutOp) : NoFF (buildF fix ops) :=
  buildF_induct fix ops NoFF (fun _ _ => rfl) (fun _ _ _ hc => putF_noFF fix hc _ _ _ _ _)

theorem foldlF_length_le (fix : Bool) (ops : List PutOp) : ∀ (c : Cache) (p : Nat),
    ((ops.foldl (fun c o => putF fix c o.pgno o.subno o.func o.text) c).slots p).chain.length ≤
      (c.slots p).chain.length + ops.length := by
  induction ops with
  | nil => intro c p; simp
  | cons o ops ih =>
    intro c p
    simp only [List.foldl_cons, List.length_cons]
    have h1 := ih (putF fix c o.pgno o.subno o.func o.text) p
    have h2 := putF_length_le fix c o.pgno o.subno o.func o.text 0 p
    omega

theorem noWrapF_of_few (fix : Bool) (ops : List PutOp) (h : ops.length < 65536) : NoWrap (buildF fix ops) := by
  intro p
  have := foldlF_length_le fix ops Cache.empty p
  unfold buildF
  have h0 : (Cache.empty.slots p).chain.length = 0 := rfl
  omega

theorem buildF_counted (fix : Bool) (ops : List PutOp) : Counted (buildF fix ops) :=
  buildF_induct fix ops Counted (fun ⟨_, hp⟩ => absurd rfl hp) (fun _ _ _ hc => putF_counted fix hc _ _ _ _ _)

/-- a history of fewer than 65536 stores cannot wrap `n_subpages` -/
theorem noWrap_of_few (ops : List PutOp) (h : ops.length < 65536) : NoWrap (build ops) := noWrapF_of_few false ops h

theorem build_counted (ops : List PutOp) : Counted (build ops) := buildF_counted false ops

/-- the facts about a reachable cache that the exactness theorems need, from the store history -/
theorem reachable (sh : Shape) (ops : List PutOp) (h : ∀ o ∈ ops, o.subno ≤ 0x3F7F) (hnw : NoWrap (build ops)) (P : Int)
    (hp : 0x100 ≤ P ∧ P ≤ 0x8FF) : Covered (build ops) ∧ StartOk sh (build ops) P :=
  ⟨covered_of_inv (buildF_inv false ops h) hnw, startOk_of_noFF sh (buildF_noFF false ops) P hp⟩

/-- modulus of the key of a cached page inside its page number: the low byte of the sub-page number for BCD page
    numbers (mask 0xFF), the low nibble for the others (mask 0xF) -/
def keyMod (pgno : Nat) : Nat := if isBcdPgno pgno then 256 else 16

theorem keyMod_pos (pgno : Nat) : 0 < keyMod pgno := by unfold keyMod; split <;> omega
theorem keyMod_le (pgno : Nat) : keyMod pgno ≤ 256 := by unfold keyMod; split <;> omega
theorem keyMod_ne_one (pgno : Nat) : keyMod pgno ≠ 1 := by unfold keyMod; split <;> omega

/-- the look-up modulus `putKey` chooses is the key modulus of the page number or 1 (single-version key) -/
theorem putKey_mod (pgno subno : Nat) : (putKey pgno subno).2 = keyMod pgno ∨ (putKey pgno subno).2 = 1 := by
  unfold putKey keyMod
  by_cases hb : isBcdPgno pgno = true
  · simp only [hb, if_true]
    by_cases h0 : subno = 0
    · right; simp [h0]
    · simp only [h0, if_false]
      by_cases h1 : subno ≥ 0x100
      · right; simp [h1]
      · simp only [h1, if_false]
        by_cases h2 : digitsGreater subno 0x79 = true
        · right; simp [h2]
        · left; simp [h2]
  · left; simp [hb]

/-- cached pages of one page number have pairwise different keys -/
def Distinct (c : Cache) : Prop := ∀ p, ((c.slots p).chain.map (fun e => e.subno % keyMod p)).Nodup

/-- a store of the repaired shape keeps the keys of a slot pairwise different (`K` the key modulus of the page number) -/
theorem Stored.distinct {s m K : Nat} {new : Entry} {sl sl' : Slot} (h : Stored true s m new sl sl') (hnew : new.subno = s)
    (hk : m = K ∨ m = 1) (hd : (sl.chain.map (fun e => e.subno % K)).Nodup) : (sl'.chain.map (fun e => e.subno % K)).Nodup := by
  cases h with
  | add hr =>
    simp only [List.map_cons, List.nodup_cons]
    rcases hk with rfl | rfl
    · refine ⟨?_, hd⟩
      intro hmem
      obtain ⟨x, hx, hxe⟩ := List.mem_map.1 hmem
      have := List.find?_eq_none.1 (removeFirst_none _ _ hr) x hx
      simp only [decide_eq_true_eq] at this
      exact this (by rw [hxe, hnew])
    · rw [removeFirst_mod_one_none hr]; simp
  | @replace old rest hr hm =>
    have hk' : m = K := hk.resolve_right (hm rfl)
    subst hk'
    obtain ⟨pre, post, hl, hrest, _, hq⟩ := removeFirst_split _ _ _ _ hr
    simp only [decide_eq_true_eq] at hq
    have hperm : (sl.chain.map (fun e => e.subno % m)).Perm ((old :: rest).map (fun e => e.subno % m)) := by
      rw [hl, hrest]; exact (List.perm_middle).map _
    have hnd := hperm.nodup_iff.1 hd
    simp only [List.map_cons] at hnd ⊢
    rw [hnew, ← hq]; exact hnd
  | replaceAll _ _ _ => simp

theorem putF_distinct {c : Cache} (h : Distinct c) (pgno subno : Nat) (func : Int) (text : Text) (tag : Nat) :
    Distinct (putF true c pgno subno func text tag) := by
  rcases putF_cases true c pgno subno func text tag with ⟨_, he⟩ | ⟨_, sl, n, he, hst⟩
  · rw [he]; exact h
  · rw [he]
    exact setSlot_forall (Q := fun p (sl : Slot) => (sl.chain.map (fun (e : Entry) => e.subno % keyMod p)).Nodup) h
      (hst.distinct rfl (putKey_mod pgno subno) (h pgno)) _

/-- pigeonhole: the keys are different numbers below `keyMod p` -/
theorem distinct_length_le {c : Cache} (h : Distinct c) (p : Nat) : (c.slots p).chain.length ≤ 256 := by
  have := (h p).length_le_of_subset (l₂ := List.range (keyMod p)) fun x hx => by
    obtain ⟨e, _, rfl⟩ := List.mem_map.1 hx
    exact List.mem_range.2 (Nat.mod_lt _ (keyMod_pos p))
  rw [List.length_map, List.length_range] at this
  have := keyMod_le p
  omega

theorem buildF_distinct (ops : List PutOp) : Distinct (buildF true ops) :=
  buildF_induct true ops Distinct (fun _ => List.nodup_nil) (fun _ _ _ hc => putF_distinct hc _ _ _ _ _)

/-- REPAIRED shape: at most 256 pages are cached under one page number after ANY history of stores (80 with the
    sub-codes the decoder delivers) -/
theorem version_bound_repaired (ops : List PutOp) (p : Nat) : ((buildF true ops).slots p).chain.length ≤ 256 :=
  distinct_length_le (buildF_distinct ops) p

/-- REPAIRED shape: `NoWrap` - the exclusion of C17-D2, a hypothesis for the shape as found - holds after EVERY history
    of stores -/
theorem noWrap_repaired (ops : List PutOp) : NoWrap (buildF true ops) := by
  intro p
  have := version_bound_repaired ops p
  omega

/-- `NoWrap` is a hypothesis only for the shape as found -/
theorem noWrapF_of (fix : Bool) (ops : List PutOp) (h : fix = false → NoWrap (buildF fix ops)) : NoWrap (buildF fix ops) := by
  cases fix
  · exact h rfl
  · exact noWrap_repaired ops

end Zvbi.Search
