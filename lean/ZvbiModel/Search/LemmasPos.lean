import ZvbiModel.Search.LemmasWalk
/-!
# The sequence of positions the outer loop of the page walk probes

`positions` depends on the page statistics only.  The positions are strictly ascending in walking order (sweep, page
number, sub-page number: `Dir.Lt`); with enough fuel every position inside a statistics window is probed in the second
(wrapped) sweep, and in the first sweep every such position after the start, the rest of the start page included
(since ed2772e a position before the window is clamped to the first sub-page of the window instead of leaving the page).
-/
namespace Zvbi.Search

abbrev Pos := Int × Int × Bool

/-- positions probed after (p, sub, w): one per iteration of the `for (;;)` loop -/
def positions (c : Cache) (dir : Int) : Nat → Int → Int → Bool → List Pos
  | 0, _, _, _ => []
  | n + 1, p, sub, w =>
    match skip c dir skipFuel p (sub + dir) w with
    | some (some (p', s', w')) => (p', s', w') :: positions c dir n p' s' w'
    | _ => []

theorem positions_succ (c : Cache) (dir : Int) (n : Nat) (p sub : Int) (w : Bool) :
    positions c dir (n + 1) p sub w =
      match skip c dir skipFuel p (sub + dir) w with
      | some (some (p', s', w')) => (p', s', w') :: positions c dir n p' s' w'
      | _ => [] := rfl

/-- forward walk order on positions -/
def LtF (a b : Pos) : Prop :=
  (a.2.2 = false ∧ b.2.2 = true) ∨ (a.2.2 = b.2.2 ∧ (a.1 < b.1 ∨ (a.1 = b.1 ∧ a.2.1 < b.2.1)))

/-- backward walk order on positions -/
def LtB (a b : Pos) : Prop :=
  (a.2.2 = false ∧ b.2.2 = true) ∨ (a.2.2 = b.2.2 ∧ (b.1 < a.1 ∨ (a.1 = b.1 ∧ b.2.1 < a.2.1)))

namespace Dir

def Lt : Dir → Pos → Pos → Prop | fwd => LtF | rev => LtB

theorem lt_iff (d : Dir) (a b : Pos) : d.Lt a b ↔
    (a.2.2 = false ∧ b.2.2 = true) ∨ (a.2.2 = b.2.2 ∧ (d.Before a.1 b.1 ∨ (a.1 = b.1 ∧ d.Before a.2.1 b.2.1))) := by
  cases d <;> exact Iff.rfl

theorem lt_irrefl (d : Dir) (a : Pos) : ¬ d.Lt a a := by
  rw [lt_iff]
  rintro (h | ⟨_, h | ⟨_, h⟩⟩)
  · rw [h.1] at h; cases h.2
  · exact d.before_irrefl _ h
  · exact d.before_irrefl _ h

theorem lt_trans (d : Dir) {a b e : Pos} (h1 : d.Lt a b) (h2 : d.Lt b e) : d.Lt a e := by
  rw [lt_iff] at *
  rcases h1 with h1 | ⟨h1, h1'⟩ <;> rcases h2 with h2 | ⟨h2, h2'⟩
  · rw [h1.2] at h2; cases h2.1
  · exact Or.inl ⟨h1.1, by rw [← h2]; exact h1.2⟩
  · exact Or.inl ⟨by rw [h1]; exact h2.1, h2.2⟩
  · refine Or.inr ⟨h1.trans h2, ?_⟩
    rcases h1' with h | ⟨h, h'⟩ <;> rcases h2' with k | ⟨k, k'⟩
    · exact Or.inl (d.before_trans h k)
    · exact Or.inl (by rw [← k]; exact h)
    · exact Or.inl (by rw [h]; exact k)
    · exact Or.inr ⟨h.trans k, d.before_trans h' k'⟩

theorem lt_of_spec (d : Dir) {c : Cache} {p sub : Int} {w : Bool} {p' s' : Int} {w' : Bool}
    (h : d.SkipSpec c p (sub + d.int) w (some (p', s', w'))) : d.Lt (p, sub, w) (p', s', w') := by
  rw [lt_iff]
  have hn := (d.before_next sub).1
  cases h.2.2 with
  | stay _ => exact Or.inr ⟨rfl, Or.inr ⟨rfl, hn⟩⟩
  | clamp _ hlt => exact Or.inr ⟨rfl, Or.inr ⟨rfl, d.before_trans hn hlt⟩⟩
  | next _ hlt _ _ => exact Or.inr ⟨rfl, Or.inl hlt⟩
  | wrap _ hw _ _ _ => exact Or.inl ⟨hw, rfl⟩

/-- every probed position is `Landed` (inside its page's statistics window, or the window's first sub-page number
    in walking direction - the same thing when `subno_min <= subno_max`), after the current position, and the
    list is strictly ascending in walking order -/
theorem positions_sorted (d : Dir) (c : Cache) : ∀ (n : Nat) (p sub : Int) (w : Bool), PgOk p →
    (∀ x ∈ positions c d.int n p sub w, d.Lt (p, sub, w) x ∧ PgOk x.1 ∧ Landed (c.stat x.1) x.2.1) ∧
    (positions c d.int n p sub w).Pairwise d.Lt := by
  intro n
  induction n with
  | zero => intro p sub w _; simp [positions]
  | succ n ih =>
    intro p sub w hp
    rw [positions_succ]
    obtain ⟨res, hres, hspec⟩ := d.skip_spec c skipFuel p (sub + d.int) w hp (d.skipMeas_lt hp w)
    rw [hres]
    cases res with
    | none => simp
    | some t =>
      obtain ⟨p', s', w'⟩ := t
      simp only
      have hlt := d.lt_of_spec hspec
      obtain ⟨ih1, ih2⟩ := ih p' s' w' hspec.1
      constructor
      · intro x hx
        rcases List.mem_cons.mp hx with rfl | hx
        · exact ⟨hlt, hspec.1, hspec.2.1⟩
        · obtain ⟨h1, h2, h3⟩ := ih1 x hx
          exact ⟨d.lt_trans hlt h1, h2, h3⟩
      · rw [List.pairwise_cons]
        exact ⟨fun x hx => (ih1 x hx).1, ih2⟩

theorem not_leave_of_inRange (d : Dir) {c : Cache} {p sub t : Int} (hin : inRange (c.stat p) t = true) (hst : d.Before sub t) :
    ¬ d.Leave c p (sub + d.int) := by
  have hinq := (inRange_iff _ _).mp hin
  intro hlv
  cases d
  all_goals
    simp only [Before] at hst
    simp only [Leave, LeaveF, LeaveB, int] at hlv
    rcases hlv with h | h
    · exact hinq.1 h
    · omega

theorem edge_first (d : Dir) {st : Stat} {t : Int} (hin : inRange st t = true) : t = d.edge st ∨ d.Before (d.edge st) t := by
  have hinq := (inRange_iff _ _).mp hin
  cases d <;> simp only [Before, edge] <;> omega

/-- **what the inner loop guarantees**: it lands on the FIRST window position ahead.  Every window position ahead of a walk
    standing at `(p, sub, w)` - a later page of the same sweep, a later sub-page of the same page, or anything in the wrapped
    sweep while the walk is in its first - is the position landed on or ahead of it; -1 only when there is none. -/
theorem lands_least (d : Dir) {c : Cache} {p sub : Int} {w : Bool} {r : Option (Int × Int × Bool)}
    (hspec : d.SkipSpec c p (sub + d.int) w r) {q t : Int} {wt : Bool} (hq : PgOk q) (hin : inRange (c.stat q) t = true)
    (hah : d.Lt (p, sub, w) (q, t, wt)) : ∃ x, r = some x ∧ ((q, t, wt) = x ∨ d.Lt x (q, t, wt)) := by
  have hact : Active c q := active_of_inRange hin
  have hstay : p = q → d.Before sub t → ¬ d.Leave c p (sub + d.int) := fun hpq hst => by
    subst hpq; exact d.not_leave_of_inRange hin hst
  rw [lt_iff] at hah
  simp only at hah
  cases r with
  | none =>
    exfalso
    obtain ⟨h0, h1, h2⟩ := hspec
    rcases hah with ⟨hw, _⟩ | ⟨_, hlt | ⟨hpq, hst⟩⟩
    · exact h2 hw q hq hact
    · exact h1 q hlt hq hact
    · exact hstay hpq hst h0
  | some tt =>
    obtain ⟨p', s', w'⟩ := tt
    refine ⟨_, rfl, ?_⟩
    have ahead : _ → (q, t, wt) = (p', s', w') ∨ d.Lt (p', s', w') (q, t, wt) := fun h => Or.inr ((d.lt_iff _ _).mpr h)
    -- (q, t) on the page landed on, at the sub-page number landed on or behind it
    have hon : q = p' → w' = wt → (t = s' ∨ d.Before s' t) → (q, t, wt) = (p', s', w') ∨ d.Lt (p', s', w') (q, t, wt) :=
      fun hq' hw' ht => by
        rcases ht with ht | ht
        · left; rw [hq', hw', ht]
        · exact ahead (Or.inr ⟨hw', Or.inr ⟨hq'.symm, ht⟩⟩)
    -- (q, t) on a page at or behind the one landed on at the first sub-page number of its window
    have hpage : s' = d.edge (c.stat p') → w' = wt → (d.Before q p' → False) →
        (q, t, wt) = (p', s', w') ∨ d.Lt (p', s', w') (q, t, wt) := fun hs' hw' hno => by
      rcases d.before_total q p' with hqe | hq' | hq'
      · exact hon hqe hw' (by rw [hs', ← hqe]; exact d.edge_first hin)
      · exact (hno hq').elim
      · exact ahead (Or.inr ⟨hw', Or.inl hq'⟩)
    cases hspec.2.2 with
    | stay _ =>
      rcases hah with ⟨hw, hwt⟩ | ⟨hw, hlt | ⟨hpq, hst⟩⟩
      · exact ahead (Or.inl ⟨hw, hwt⟩)
      · exact ahead (Or.inr ⟨hw, Or.inl hlt⟩)
      · exact hon hpq.symm hw ((d.before_next sub).2 t hst)
    | clamp _ hcl =>
      rcases hah with ⟨hw, hwt⟩ | ⟨hw, hlt | ⟨hpq, hst⟩⟩
      · exact ahead (Or.inl ⟨hw, hwt⟩)
      · exact ahead (Or.inr ⟨hw, Or.inl hlt⟩)
      · exact hon hpq.symm hw (by rw [hpq]; exact d.edge_first hin)
    | next h0 hlt' hir hno =>
      rcases hah with ⟨hw, hwt⟩ | ⟨hw, hlt | ⟨hpq, hst⟩⟩
      · exact ahead (Or.inl ⟨hw, hwt⟩)
      · exact hpage rfl hw (fun hq' => hno q hlt hq' hact)
      · exact absurd h0 (hstay hpq hst)
    | wrap h0 hw0 hir hno1 hno2 =>
      rcases hah with ⟨_, hwt⟩ | ⟨_, hlt | ⟨hpq, hst⟩⟩
      · exact hpage rfl hwt.symm (fun hq' => hno2 q hq hq' hact)
      · exact absurd hact (hno1 q hlt hq)
      · exact absurd h0 (hstay hpq hst)

/-- every window position ahead of the walk is probed -/
theorem positions_complete (d : Dir) (c : Cache) : ∀ (n : Nat) (p sub : Int) (w : Bool), PgOk p → d.togo p sub w < n →
    ∀ (q t : Int) (wt : Bool), PgOk q → inRange (c.stat q) t = true → d.Lt (p, sub, w) (q, t, wt) →
      (q, t, wt) ∈ positions c d.int n p sub w := by
  intro n
  induction n with
  | zero => intro p sub w _ h; omega
  | succ n ih =>
    intro p sub w hp hr q t wt hq hin hah
    rw [positions_succ]
    obtain ⟨res, hres, hspec⟩ := d.skip_spec c skipFuel p (sub + d.int) w hp (d.skipMeas_lt hp w)
    obtain ⟨⟨p', s', w'⟩, rfl, hx⟩ := d.lands_least hspec hq hin hah
    rw [hres]
    rcases hx with h | h
    · rw [h]; exact List.mem_cons_self
    · exact List.mem_cons_of_mem _ (ih p' s' w' hspec.1 (by have := d.togo_decr hp hspec; omega) q t wt hq hin h)

end Dir

end Zvbi.Search
