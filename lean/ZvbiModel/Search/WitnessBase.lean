import ZvbiModel.Search.LemmasCache
import ZvbiModel.Search.LemmasSearch
import ZvbiModel.Search.Matcher
/-! Shared pieces of the kernel-evaluated witnesses (C17): a page text, the literal matcher for "ab", a recording
callback.  Does not depend on the source shape of /repo. -/
namespace Zvbi.Search

def textRow (s : String) : List Cell := s.toList.map (fun ch => ⟨ch.toNat, 0⟩)

/-- rows 1..3, "xx ab yy" in row 3 -/
def abPage : Text := [[], [], textRow "xx ab yy"]

def exAb : Exec := exactLit false [0x61, 0x62]

/-- callback that records what it is given and stops the walk at its second call -/
def logTwo : Callback (List (Nat × Nat × Bool)) := fun log p e w =>
  (if log.length ≥ 1 then 1 else 0, log ++ [(p, e.subno, w)])

end Zvbi.Search
