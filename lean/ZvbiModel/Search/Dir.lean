import ZvbiModel.Search.LemmasRank
import ZvbiModel.Search.LemmasPage
/-!
# The two directions of a search pass (C17)

`search_page_fwd` and `search_page_rev` are two programs, but a pass (successive `vbi_search_next` calls in one
direction) uses either only through the facts collected here: the callback is the frame `pageResult` around a stop
test and a search (`page_eq`), the stop test is `StopK` on keys (`stops_iff`), a page without cursor is searched as a
whole (`code_whole`), and the walk positions are sorted and complete in walking order (`walkPos_facts`,
`walkPos_mem`), which on keys is the order of (sweep, key) (`lt_iff_key`).  Backward, keys are mirrored (`mir`): stop
test, order and rank are the forward ones on mirrored keys.  Everything about a pass (DirPass.lean, DirPasses.lean) is
proved once for `d : Dir` from these.
-/
namespace Zvbi.Search

/-- "page (p, s) is a cached level one page whose whole text contains the pattern", positions as the walk has them -/
def MatchesI (exec : Exec) (c : Cache) (p s : Int) : Prop :=
  ∃ e, lookupX c p s = some e ∧ e.func = FUNC_LOP ∧ (exec {} (hayFwd e.text (-1) 0).1).isSome

theorem matches_iff (exec : Exec) (c : Cache) (p s : Nat) : Matches exec c p s ↔ MatchesI exec c p s := Iff.rfl

/-- the same definition as `MatchesI` (`matchesIR_iff`), under the name the statement of the forward-to-backward turn uses -/
def MatchesIR (exec : Exec) (c : Cache) (p s : Int) : Prop :=
  ∃ e, lookupX c p s = some e ∧ e.func = FUNC_LOP ∧ (exec {} (hayFwd e.text (-1) 0).1).isSome

theorem matches_iffR (exec : Exec) (c : Cache) (p s : Nat) : Matches exec c p s ↔ MatchesIR exec c p s := Iff.rfl

theorem matchesIR_iff {exec : Exec} {c : Cache} {p s : Int} : MatchesIR exec c p s ↔ MatchesI exec c p s := Iff.rfl

/-- every cached sub-page number is at most 0x3F7F (what `_vbi_cache_put_page` stores: `Inv`, `hops`) -/
def SmallSub (c : Cache) : Prop := ∀ p, ∀ e ∈ (c.slots p).chain, e.subno ≤ 0x3F7F

/-- finding C17-D7 is excluded: the walk looks its start position up exactly, or no cached page has the sub-page number
    0x3F7F that the wildcard look-up reads as VBI_ANY_SUBNO -/
def NoAnyCached (sh : Shape) (c : Cache) : Prop :=
  sh.startExact = true ∨ ∀ p, ∀ e ∈ (c.slots p).chain, (e.subno : Int) ≠ ANY_SUBNO

/-- the exclusion is a hypothesis only while the start look-up honours the wildcard -/
theorem noAnyCached_of (sh : Shape) {c : Cache}
    (h : sh.startExact = false → ∀ p, ∀ e ∈ (c.slots p).chain, (e.subno : Int) ≠ ANY_SUBNO) : NoAnyCached sh c := by
  cases hs : sh.startExact
  · exact Or.inr (h hs)
  · exact Or.inl hs

/-- what a pass uses of a cache as a history of page stores leaves it -/
structure Reach (c : Cache) : Prop where
  cov : Covered c
  small : SmallSub c
  noFF : NoFF c
  counted : Counted c

theorem reach_buildF (fix : Bool) (ops : List PutOp) (hops : ∀ o ∈ ops, o.subno ≤ 0x3F7F) (hnw : NoWrap (buildF fix ops)) :
    Reach (buildF fix ops) := by
  refine ⟨covered_of_inv (buildF_inv fix ops hops) hnw, fun p e he => ?_, buildF_noFF fix ops, buildF_counted fix ops⟩
  have hI := buildF_inv fix ops hops p
  have h1 := (hI.cover (hnw p) e he).2
  have h2 := hI.small
  omega

/-- a page the exact look-up finds: its sub-page number fits 16 bits (it is at most 0x3F7F) and lies inside the
    statistics window (of the original cache and of every equivalent one) -/
theorem page_facts {c c' : Cache} (heq : Equiv c c') (hR : Reach c) {q t : Int} {e : Entry}
    (hl : lookupX c q t = some e) :
    (0 ≤ t ∧ t < 65536) ∧ t ≤ 0x3F7F ∧ inRange (c'.stat q) t = true ∧ (e.subno : Int) = t := by
  have hs := lookupX_subno hl
  have hm := lookupX_mem hl
  obtain ⟨c1, c2, c3⟩ := hR.cov q.toNat e hm
  have hsm := hR.small _ e hm
  refine ⟨by omega, by omega, ?_, hs⟩
  rw [stat_of_equiv heq, inRange_iff]; unfold Cache.stat
  exact ⟨c1, by omega, by omega⟩

theorem lookupX_small {c : Cache} (hR : Reach c) {p sub : Int} {e : Entry} (h : lookupX c p sub = some e) :
    0 ≤ sub ∧ sub < 65536 := (page_facts (Equiv.refl c) hR h).1

theorem Reach.keyOk {c : Cache} (hR : Reach c) {p sub : Int} {e : Entry} (hp : PgOk p) (h : lookupX c p sub = some e) :
    KeyOk (key p sub) := key_bounds hp (lookupX_small hR h)

theorem startOk_of_valid (sh : Shape) (c : Cache) (p : Int) (h : validPgno p = true) : StartOk sh c p := Or.inr (Or.inl h)

theorem startOk_of_equiv (sh : Shape) {c c' : Cache} (heq : Equiv c c') (hnoff : NoFF c) {p : Int} (hpg : PgOk p) :
    StartOk sh c' p := by
  refine startOk_of_noFF sh (fun q hff => ?_) p hpg
  cases hch : (c'.slots q).chain with
  | nil => rfl
  | cons a l =>
    have hlk := heq.look q (a.subno : Int)
    rw [hnoff q hff, hch] at hlk
    simp [predX] at hlk

namespace Dir

def page : Dir → Shape → Exec → Callback SearchSt | fwd => pageFwd | rev => pageRev
/-- the stop test at the head of the callback -/
def stop : Dir → SearchSt → Nat → Entry → Bool → Bool | fwd => stopFwd | rev => stopRev
abbrev Stops (d : Dir) (s : SearchSt) (p : Nat) (e : Entry) (w : Bool) : Prop := d.stop s p e w = true
def found : Dir → Shape → Exec → SearchSt → Nat → Entry → Option (Nat × Nat × Nat) | fwd => foundFwd | rev => foundRev
/-- return value of the callback -/
def code (d : Dir) (sh : Shape) (exec : Exec) (s : SearchSt) (p : Nat) (e : Entry) (w : Bool) : Int :=
  codeOf e (d.Stops s p e w) (d.found sh exec s p e)
/-- the position where the pass began: `stop_pgno[0], stop_subno[0]` forward, `stop_pgno[1], stop_subno[1]` backward -/
def stopPos : Dir → SearchSt → Int × Int
  | fwd => fun s => (s.stopPgno0, s.stopSubno0)
  | rev => fun s => (s.stopPgno1, s.stopSubno1)
def stopKey (d : Dir) (s : SearchSt) : Int := key (d.stopPos s).1 (d.stopPos s).2
/-- the cursor stands where a new pass puts it: the start page is searched as a whole -/
def Whole : Dir → SearchSt → Prop
  | fwd => fun s => s.row0 = 1 ∧ s.col0 = 0
  | rev => fun s => 24 ≤ s.row1
/-- keys in walking order -/
def mir : Dir → Int → Int | fwd => fun z => z | rev => fun z => 0x900 * 65536 - 1 - z
/-- distance of key `z` from key `B` in pass order, wrapping once -/
def rank (d : Dir) (B z : Int) : Int := rk (d.mir B) (d.mir z)
/-- a start sub-page number: 16 bits, or the -2 `vbi_search_new` computes as backward stop for S = 0x80 -/
def SubOk : Dir → Int → Prop
  | fwd => fun T => 0 ≤ T ∧ T < 65536
  | rev => fun T => -2 ≤ T ∧ T < 65536

theorem rank_rev (B z : Int) : rev.rank B z = rkR B z := (rkR_mirror B z).symm

theorem rank_fwd (P S q t : Int) : fwd.rank (key P S) (key q t) = passRank P S q t := rfl

theorem SubOk.bounds {d : Dir} {T : Int} (h : d.SubOk T) : -2 ≤ T ∧ T < 65536 := by
  cases d
  · exact ⟨by have := h.1; omega, h.2⟩
  · exact h

theorem subOk_of_cached (d : Dir) {T : Int} (h : 0 ≤ T ∧ T < 65536) : d.SubOk T := by
  cases d
  · exact h
  · exact ⟨by omega, h.2⟩

theorem mir_bounds (d : Dir) {z : Int} (h : KeyOk z) : KeyOk (d.mir z) := by
  cases d
  · exact h
  · unfold mir; simp only; omega

theorem mir_inj (d : Dir) {y z : Int} (h : d.mir y = d.mir z) : y = z := by
  cases d
  · exact h
  · unfold mir at h; simp only at h; omega

theorem rank_self (d : Dir) (B : Int) : d.rank B B = 0 := rk_self _

theorem rank_pos (d : Dir) {B z : Int} (hB : KeyOk B) (hz : KeyOk z)
    (hne : z ≠ B) : 0 < d.rank B z :=
  rk_pos (d.mir_bounds hB) (d.mir_bounds hz) (fun h => hne (d.mir_inj h))

theorem rank_inj (d : Dir) {B y z : Int} (hy : KeyOk y)
    (hz : KeyOk z) (h : d.rank B y = d.rank B z) : y = z :=
  d.mir_inj (rk_inj (d.mir_bounds hy) (d.mir_bounds hz) h)

/-- page `(q, t)` is still due in a pass that began at key `B` and whose context `s` stands at the start position of a
    call: it is behind the start position in pass order, or it is the start position while the cursor stands where a new
    pass puts it -/
def Due (d : Dir) (B : Int) (s : SearchSt) (q t : Int) : Prop :=
  d.rank B (key s.startPgno s.startSubno) < d.rank B (key q t) ∨
    (d.rank B (key s.startPgno s.startSubno) = d.rank B (key q t) ∧ d.Whole s)

theorem Due.le {d : Dir} {B : Int} {s : SearchSt} {q t : Int} (h : d.Due B s q t) :
    d.rank B (key s.startPgno s.startSubno) ≤ d.rank B (key q t) := by
  rcases h with h | h <;> omega

/-- a page that is due is searched as a whole -/
theorem Due.cur {d : Dir} {B : Int} {s : SearchSt} {q t : Int} (h : d.Due B s q t) :
    key q t ≠ key s.startPgno s.startSubno ∨ d.Whole s := by
  rcases h with h | h
  · left; intro hk; rw [hk] at h; omega
  · exact Or.inr h.2

/-- in a pass that stands where it began every other matching page is due, and the start position itself while the
    cursor stands where a new pass puts it -/
theorem due_start (d : Dir) {exec : Exec} {c : Cache} (hR : Reach c) {s : SearchSt} (hpg : PgOk s.startPgno)
    (hsub : d.SubOk s.startSubno) {q t : Nat} (hq : PgOk q) (hm : Matches exec c q t)
    (hw : d.Whole s ∨ key q t ≠ key s.startPgno s.startSubno) : d.Due (key s.startPgno s.startSubno) s q t := by
  obtain ⟨e, hl, _, _⟩ := hm
  unfold Due
  rw [rank_self]
  by_cases hk : key (q : Int) t = key s.startPgno s.startSubno
  · exact Or.inr ⟨by rw [hk, rank_self], hw.resolve_right (fun h => h hk)⟩
  · exact Or.inl (d.rank_pos (key_bounds_start hpg hsub.bounds) (hR.keyOk hq hl) hk)

theorem key_inj {p s q t : Int} (hs : 0 ≤ s ∧ s < 65536) (ht : 0 ≤ t ∧ t < 65536)
    (h : key p s = key q t) : p = q ∧ s = t := by
  unfold key at h
  constructor <;> omega

/-- walking order of positions = order of (sweep, key in walking order), for sub-page numbers less than 65536 apart -/
theorem lt_iff_key (d : Dir) (a b : Pos) (h : a.2.1 - b.2.1 < 65536 ∧ b.2.1 - a.2.1 < 65536) :
    d.Lt a b ↔ KLt (a.2.2, d.mir (key a.1 a.2.1)) (b.2.2, d.mir (key b.1 b.2.1)) := by
  have hk : (d.Before a.1 b.1 ∨ (a.1 = b.1 ∧ d.Before a.2.1 b.2.1)) ↔ d.mir (key a.1 a.2.1) < d.mir (key b.1 b.2.1) := by
    cases d <;> simp only [Before, mir, key] <;> omega
  rw [lt_iff, hk]; rfl

/-- a position that is not before the start position `(Q, T)` on keys, and is not it, is ahead of it in its sweep (`T`
    may be -2: more than 65535 away) -/
theorem ahead_of_key (d : Dir) {Q T q t : Int} (hT : d.SubOk T) (ht : 0 ≤ t ∧ t < 65536)
    (hk : ¬ d.mir (key q t) < d.mir (key Q T)) (hne : ¬ (q = Q ∧ t = T)) : d.Before Q q ∨ (Q = q ∧ d.Before T t) := by
  cases d <;> simp only [SubOk, mir, key, Before] at * <;> omega

theorem walkPos_pgOk (d : Dir) (sh : Shape) (c : Cache) (Q T : Int) (hQ : PgOk Q) :
    ∀ z ∈ walkPositions sh c Q T d.int, PgOk z.1 := by
  intro z hz
  rcases List.mem_cons.mp hz with rfl | hz
  · exact hQ
  · exact ((d.positions_sorted c walkFuel Q _ false hQ).1 z hz).2.1

theorem walkPos_facts (d : Dir) (sh : Shape) (c : Cache) (Q T : Int) (hQ : PgOk Q) (hstart : startSub sh c Q T = T) :
    (walkPositions sh c Q T d.int).Pairwise d.Lt ∧
    ∀ z ∈ walkPositions sh c Q T d.int, z = (Q, T, false) ∨ d.Lt (Q, T, false) z := by
  obtain ⟨g1, g2⟩ := d.positions_sorted c walkFuel Q T false hQ
  unfold walkPositions
  rw [hstart]
  exact ⟨List.pairwise_cons.mpr ⟨fun y hy => (g1 y hy).1, g2⟩,
    fun z hz => (List.mem_cons.mp hz).imp id fun hz => (g1 z hz).1⟩

/-- every sub-page inside the statistics window of a valid page number is probed by the walk: in the first sweep
    when it is not before the start position, in the wrapped sweep otherwise -/
theorem walkPos_mem (d : Dir) (sh : Shape) (c : Cache) (Q T : Int) (hQ : PgOk Q) (hstart : startSub sh c Q T = T)
    (hT : d.SubOk T) (q t : Int) (hq : PgOk q) (ht : 0 ≤ t ∧ t < 65536) (hin : inRange (c.stat q) t = true) :
    (q, t, decide (d.mir (key q t) < d.mir (key Q T))) ∈ walkPositions sh c Q T d.int := by
  unfold walkPositions
  rw [hstart]
  have hmem := fun wt h => List.mem_cons_of_mem (Q, T, false)
    (d.positions_complete c walkFuel Q T false hQ (d.togo_lt_fuel hQ _ _) q t wt hq hin ((d.lt_iff _ _).mpr h))
  by_cases hk : d.mir (key q t) < d.mir (key Q T)
  · simp only [hk, decide_true]
    exact hmem true (Or.inl ⟨rfl, rfl⟩)
  · simp only [hk, decide_false]
    by_cases heq : q = Q ∧ t = T
    · rw [heq.1, heq.2]; exact List.mem_cons_self
    · exact hmem false (Or.inr ⟨rfl, d.ahead_of_key hT ht hk heq⟩)

theorem callbackOf_int (d : Dir) (sh : Shape) (exec : Exec) : callbackOf sh exec d.int = d.page sh exec := by
  cases d
  · exact callbackOf_fwd sh exec (by decide)
  · exact callbackOf_rev sh exec

theorem dirOf_int (d : Dir) : dirOf d.int = d.int := by cases d <;> rfl

theorem page_eq (d : Dir) (sh : Shape) (exec : Exec) (s : SearchSt) (p : Nat) (e : Entry) (w : Bool) :
    d.page sh exec s p e w = pageResult s p e (d.Stops s p e w) (d.found sh exec s p e) := by
  cases d
  · exact pageFwd_eq sh exec s p e w
  · exact pageRev_eq sh exec s p e w

theorem page_fst (d : Dir) (sh : Shape) (exec : Exec) (s : SearchSt) (p : Nat) (e : Entry) (w : Bool) :
    (d.page sh exec s p e w).1 = d.code sh exec s p e w := by
  rw [page_eq]; exact pageResult_fst

theorem code_frozen (d : Dir) (sh : Shape) (exec : Exec) {s t : SearchSt} (h : Frozen s t) (p : Nat) (e : Entry) (w : Bool) :
    d.code sh exec t p e w = d.code sh exec s p e w := by
  obtain ⟨_, _, _, rfl⟩ := h
  cases d <;> rfl

theorem frozen_fields (d : Dir) {s t : SearchSt} (h : Frozen s t) :
    t.startPgno = s.startPgno ∧ t.startSubno = s.startSubno ∧ d.stopKey t = d.stopKey s := by
  obtain ⟨_, _, _, rfl⟩ := h
  cases d <;> exact ⟨rfl, rfl, rfl⟩

theorem steady (d : Dir) (sh : Shape) (exec : Exec) : Steady (d.page sh exec) Frozen :=
  ⟨Frozen.refl, Frozen.trans, fun h => pageResult_zero (by rw [← page_eq]; exact h),
    fun h p e w => by rw [page_fst, page_fst, d.code_frozen sh exec h]⟩

theorem code_range (d : Dir) (sh : Shape) (exec : Exec) (s : SearchSt) (p : Nat) (e : Entry) (w : Bool) :
    d.code sh exec s p e w = -1 ∨ d.code sh exec s p e w = 0 ∨ d.code sh exec s p e w = 1 := codeOf_range

theorem code_minus1 (d : Dir) {sh : Shape} {exec : Exec} {s : SearchSt} {p : Nat} {e : Entry} {w : Bool}
    (h : d.code sh exec s p e w = -1) : d.Stops s p e w := codeOf_minus1.mp h

theorem code_not_stop (d : Dir) {sh : Shape} {exec : Exec} {s : SearchSt} {p : Nat} {e : Entry} {w : Bool}
    (h : d.code sh exec s p e w ≠ -1) : ¬ d.Stops s p e w := fun hs => h (codeOf_minus1.mpr hs)

theorem stops_iff (d : Dir) (s : SearchSt) (p : Nat) (e : Entry) (w : Bool) :
    d.Stops s p e w ↔ StopK (d.mir (key s.startPgno s.startSubno)) (d.mir (d.stopKey s)) (d.mir (key p e.subno)) w := by
  cases d
  · unfold Stops stop stopKey stopPos mir StopK stopFwd
    simp only
    split <;> simp
  · unfold Stops stop stopKey stopPos mir StopK
    rw [stopRev_iff]
    simp only
    by_cases h1 : key s.startPgno s.startSubno ≤ key s.stopPgno1 s.stopSubno1
    · rw [if_pos h1, if_pos (by omega)]
      exact ⟨fun h => ⟨h.1, by omega⟩, fun h => ⟨h.1, by omega⟩⟩
    · rw [if_neg h1, if_neg (by omega)]
      constructor <;> intro h <;> omega

/-- **a page without cursor is searched as a whole**: a level one page that does not stop the pass and is not the
    start position (or the cursor stands where a new pass puts it) - the return value tells whether the matcher, with
    flags 0, accepts the whole text -/
theorem code_whole (d : Dir) (sh : Shape) (exec : Exec) {s : SearchSt} (p : Nat) (e : Entry) (w : Bool)
    (hcur : key p e.subno ≠ key s.startPgno s.startSubno ∨ d.Whole s)
    (hlop : e.func = FUNC_LOP) (hns : ¬ d.Stops s p e w) :
    d.code sh exec s p e w = (match exec {} (hayFwd e.text (-1) 0).1 with | none => 0 | some _ => 1) := by
  unfold code
  rw [codeOf_lop hlop hns, show (d.found sh exec s p e).isSome = (exec {} (hayFwd e.text (-1) 0).1).isSome by
    cases d
    · exact foundFwd_whole sh exec p e hcur
    · exact foundRev_whole sh exec p e hcur]
  cases exec {} (hayFwd e.text (-1) 0).1 <;> rfl

theorem page_one (d : Dir) {sh : Shape} {exec : Exec} {s0 : SearchSt} {p : Nat} {e : Entry} {w : Bool} {s' : SearchSt}
    (h : d.page sh exec s0 p e w = (1, s')) :
    e.func = FUNC_LOP ∧ ∃ first ms me, s' = highlight { s0 with pgPgno := p, pgSubno := e.subno, hl := [] } p e first ms me := by
  rw [page_eq] at h
  obtain ⟨h1, first, ms, me, _, h2⟩ := pageResult_one h
  exact ⟨h1, first, ms, me, h2⟩

theorem page_dir (d : Dir) (sh : Shape) (exec : Exec) (s : SearchSt) (p : Nat) (e : Entry) (w : Bool) :
    (d.page sh exec s p e w).2.dir = s.dir := by
  rw [page_eq]; exact pageResult_dir

theorem stopKey_hit (d : Dir) (s : SearchSt) (pgno : Nat) (e : Entry) (first ms me : Nat) :
    d.stopKey (highlight { s with pgPgno := pgno, pgSubno := e.subno, hl := [] } pgno e first ms me) = d.stopKey s := by
  cases d <;> rfl

end Dir
end Zvbi.Search
