import ZvbiModel.Slicer.Model
import ZvbiModel.Ite
/-!
# Lemmas about the slicer index model: what acceptance by `set_params` gives, which reads lie in the line
-/
namespace Zvbi.Slicer
open Zvbi.Generated.ServiceTable

theorem mem_green {w off x : Nat} : x ∈ green w off ↔ ∃ j, j < w ∧ x = off + j := by
  simp only [green, List.mem_map, List.mem_range]
  exact ⟨fun ⟨j, hj, e⟩ => ⟨j, hj, e.symm⟩, fun ⟨j, hj, e⟩ => ⟨j, hj, e.symm⟩⟩

theorem mem_lpWindow {c : Cfg} {base x : Nat} : x ∈ lpWindow c base ↔ ∃ m, m < 16 ∧ x = base + m * c.bpp := by
  simp only [lpWindow, List.mem_map, List.mem_range]
  exact ⟨fun ⟨j, hj, e⟩ => ⟨j, hj, e.symm⟩, fun ⟨j, hj, e⟩ => ⟨j, hj, e.symm⟩⟩

/-- a pixel with sample number `s < spl` lies inside the line: its sampled bytes end before `spl * bpp` -/
theorem pixel_in_line {bpp skip0 width spl s j : Nat} (hw : skip0 + width ≤ bpp) (hs : s < spl) (hj : j < width) :
    s * bpp + skip0 + j < spl * bpp := by
  have h1 : (s + 1) * bpp ≤ spl * bpp := Nat.mul_le_mul_right bpp hs
  rw [Nat.add_mul, Nat.one_mul] at h1
  omega

/-! ## what acceptance by `set_params` gives -/

/-- caller obligations of `vbi3_bit_slicer_set_params` under which the theorems are stated -/
structure Params.Sane (p : Params) : Prop where
  /-- the pixel format is one of those `set_params` knows -/
  fmt : p.fmt.WF
  bpp : p.fmt.bpp ≤ 4
  criBits : 0 < p.criBits
  payloadBits : 0 < p.payloadBits
  /-- `cri_end` leaves at least one search position (the raw decoder passes ~0) -/
  criEnd : p.offset < p.criEnd
  /-- the 64 bit quotients fit the `unsigned int` they are stored in -/
  noWrap : p.rate * p.criBits / p.criRate + p.rate * dataBits p / p.payloadRate < U32
  noWrapStep : p.rate * 256 / p.payloadRate < U32

/-- what `set_params` (released arithmetic) has tested when it accepts, and the configuration it returns, field by field -/
structure Accepted (p : Params) (c : Cfg) : Prop where
  criBits : p.criBits ≤ 32
  frcBits : p.frcBits ≤ 32
  payloadBits : p.payloadBits ≤ 32767
  spl : p.spl ≤ 32767
  criRate : p.criRate ≤ p.rate
  payloadRate : p.payloadRate ≤ p.rate
  criRate_pos : 0 < p.criRate
  payloadRate_pos : 0 < p.payloadRate
  offset : p.offset ≤ p.spl
  fit : (criSamples0 p + dataSamples p) % U32 ≤ p.spl - p.offset
  cfg : c = { kind := if useLowpass p then Kind.lowpass else Kind.core,
              bpp := p.fmt.bpp, width := p.fmt.width,
              skip := (p.offset * p.fmt.bpp + p.fmt.skip0) % U32,
              criSamples := (min p.criEnd ((p.spl + U32 - dataSamples p) % U32) + U32 - p.offset) % U32,
              phaseShift := phaseOf p, step := stepOf p,
              frcBits := p.frcBits, payload := (payloadOf p).1, endian := (payloadOf p).2 }

theorem setParams0_iff {p : Params} {c : Cfg} : setParams0 p = .ok c ↔ Accepted p c := by
  unfold setParams0
  let P : Except Rej Cfg → Prop := fun x => x = .ok c ↔ Accepted p c
  refine ite_ind (P := P) (fun h => ⟨nofun, fun a => by
    have := a.criBits; have := a.frcBits; have := a.payloadBits; have := a.spl; omega⟩) fun h1 => ?_
  refine ite_ind (P := P) (fun h => ⟨nofun, fun a => by
    have := a.criRate; have := a.payloadRate; omega⟩) fun h2 => ?_
  refine ite_ind (P := P) (fun h => ⟨nofun, fun a => by
    have := a.criRate_pos; have := a.payloadRate_pos; omega⟩) fun h3 => ?_
  refine ite_ind (P := P) (fun h => nomatch h) fun _ => ?_
  refine ite_ind (P := P) (fun h => ⟨nofun, fun a => by
    have := a.criRate_pos; have := a.payloadRate_pos; omega⟩) fun h5 => ?_
  refine ite_ind (P := P) (fun h => ⟨nofun, fun a => by
    have := a.offset; have := a.fit; omega⟩) fun h6 => ?_
  exact ⟨fun h => ⟨by omega, by omega, by omega, by omega, by omega, by omega, by omega, by omega, by omega, by omega,
    (Except.ok.inj h).symm⟩, fun a => by rw [a.cfg]⟩

theorem setParams_false {p : Params} {c : Cfg} : setParams false p = .ok c ↔ setParams0 p = .ok c := by
  unfold setParams
  cases setParams0 p <;> simp

theorem setParams_true {p : Params} {c : Cfg} :
    setParams true p = .ok c ↔ ∃ c0, setParams0 p = .ok c0 ∧ tighten p c0 = .ok c := by
  unfold setParams
  cases h : setParams0 p <;> simp

/-- samples behind the last bit's sample that the payload loop touches: the interpolation neighbour, or the 16 sample window -/
def Kind.window : Kind → Nat
  | .core => 1
  | .lowpass => 16

theorem lookAhead_eq (k : Kind) (phase step nbits : Nat) :
    lookAhead k phase step nbits = lastBitSample phase step nbits + k.window := by
  cases k <;> rfl

theorem tighten_iff {p : Params} {c0 c : Cfg} : tighten p c0 = .ok c ↔
    p.offset + lookAhead c0.kind c0.phaseShift c0.step c0.nBits < p.spl ∧ c = { c0 with criSamples := min c0.criSamples (p.spl - p.offset - lookAhead c0.kind c0.phaseShift c0.step c0.nBits) } := by
  unfold tighten
  simp only
  split
  · exact ⟨nofun, fun h => by omega⟩
  · exact ⟨fun h => ⟨by omega, (Except.ok.inj h).symm⟩, fun h => by rw [h.2]⟩

/-- the two `unsigned int` differences behind `bs->cri_samples`, for a line that holds offset and data -/
theorem criEnd_arith {E S D O : Nat} (hS : S ≤ 32767) (hD : D + O ≤ S) :
    (min E ((S + U32 - D) % U32) + U32 - O) % U32 = if O ≤ E then min E (S - D) - O else E + U32 - O := by
  have hU : U32 = 4294967296 := rfl
  rw [show S + U32 - D = S - D + U32 by omega, Nat.add_mod_right, Nat.mod_eq_of_lt (show S - D < U32 by omega)]
  split
  · rw [show min E (S - D) + U32 - O = min E (S - D) - O + U32 by omega, Nat.add_mod_right,
      Nat.mod_eq_of_lt (show min E (S - D) - O < U32 by omega)]
  · rw [Nat.min_eq_left (show E ≤ S - D by omega), Nat.mod_eq_of_lt (show E + U32 - O < U32 by omega)]

/-- `bs->cri_samples` of the released arithmetic: `MIN (cri_end, samples_per_line - data_samples) - sample_offset`,
    wrapped when `cri_end < sample_offset` -/
theorem criSamples_eq {p : Params} {c0 : Cfg} (h0 : setParams0 p = .ok c0) (hnw : criSamples0 p + dataSamples p < U32) :
    criSamples0 p + dataSamples p + p.offset ≤ p.spl ∧
    c0.criSamples = if p.offset ≤ p.criEnd then min p.criEnd (p.spl - dataSamples p) - p.offset
      else p.criEnd + U32 - p.offset := by
  have ha := setParams0_iff.1 h0
  have hfit := ha.fit
  rw [Nat.mod_eq_of_lt hnw] at hfit
  have hoff := ha.offset
  rw [ha.cfg]
  exact ⟨by omega, criEnd_arith ha.spl (by omega)⟩
/-- the look-ahead block only lowers `cri_samples`: every other field is the one `setParams0` computes -/
theorem setParams_ok {tight : Bool} {p : Params} {c : Cfg} (h : setParams tight p = .ok c) :
    ∃ c0, setParams0 p = .ok c0 ∧ c = { c0 with criSamples := c.criSamples } ∧ c.criSamples ≤ c0.criSamples := by
  cases tight with
  | false => exact ⟨c, setParams_false.1 h, rfl, Nat.le_refl _⟩
  | true =>
    obtain ⟨c0, h0, ht⟩ := setParams_true.1 h
    rw [(tighten_iff.1 ht).2]
    exact ⟨c0, h0, rfl, Nat.min_le_left _ _⟩

/-- what the repaired `set_params` returns: the released configuration with the search limit lowered so that the look-ahead fits
    behind every search position -/
theorem tight_ok {p : Params} {c : Cfg} (h : setParams true p = .ok c) :
    ∃ c0, setParams0 p = .ok c0 ∧ c.criSamples = min c0.criSamples (p.spl - p.offset - lookAhead c.kind c.phaseShift c.step c.nBits) ∧
      p.offset + lookAhead c.kind c.phaseShift c.step c.nBits < p.spl := by
  obtain ⟨c0, h0, ht⟩ := setParams_true.1 h
  obtain ⟨hla, hc⟩ := tighten_iff.1 ht
  rw [hc]
  exact ⟨c0, h0, rfl, hla⟩

/-- The search window is exactly as large as the line allows: iteration `k` (the CRI is found `k` samples after
    `sample_offset`) is admitted EXACTLY when the data still fit (zvbi's own limit `cri_end`) and the furthest sample the
    payload loops touch lies in the line; `look_ahead` is counted in SAMPLES for every pixel format. -/
theorem setParams_window (p : Params) (c : Cfg) (h : setParams true p = .ok c)
    (hend : p.criEnd = U32 - 1) (hnw : criSamples0 p + dataSamples p < U32) :
    ∀ k, k < c.criSamples ↔
      (p.offset + k + dataSamples p < p.spl ∧ p.offset + k + lookAhead c.kind c.phaseShift c.step c.nBits < p.spl) := by
  obtain ⟨c0, h0, hcs, _⟩ := tight_ok h
  obtain ⟨hfit, hcs0⟩ := criSamples_eq h0 hnw
  have hspl := (setParams0_iff.1 h0).spl
  have hU : U32 = 4294967296 := rfl
  rw [if_pos (by omega), hend, Nat.min_eq_right (show p.spl - dataSamples p ≤ U32 - 1 by omega)] at hcs0
  intro k
  rw [hcs, hcs0]
  clear hU hnw hfit hend hspl hcs0 hcs
  omega

theorem setParams_payload {tight : Bool} {p : Params} {c : Cfg} (h : setParams tight p = .ok c) :
    c.payload = (payloadOf p).1 ∧ c.endian = (payloadOf p).2 := by
  obtain ⟨c0, h0, hc, _⟩ := setParams_ok h
  rw [hc, (setParams0_iff.1 h0).cfg]; exact ⟨rfl, rfl⟩

/-- bit mode (`endian` 2, 3) iff the payload is not a whole number of octets -/
theorem payloadOf_cases (p : Params) :
    (p.payloadBits % 8 ≠ 0 ∧ (payloadOf p).1 = p.payloadBits ∧ (payloadOf p).2 ≥ 2) ∨
    (p.payloadBits % 8 = 0 ∧ (payloadOf p).1 = p.payloadBits / 8 ∧ (payloadOf p).2 < 2) := by
  unfold payloadOf
  by_cases h8 : p.payloadBits % 8 = 0 <;> by_cases hm : p.msb = true <;> simp [h8, hm]

theorem payloadOf_endian_le (p : Params) : (payloadOf p).2 ≤ 3 := by
  unfold payloadOf
  by_cases h8 : p.payloadBits % 8 = 0 <;> by_cases hm : p.msb = true <;> simp [h8, hm]

/-- `data_bits (bs)` = `frc_bits + payload_bits` for every accepted parameter set, in both storage modes -/
theorem nBits_accepted {tight : Bool} {p : Params} {c : Cfg} (h : setParams tight p = .ok c) :
    c.nBits = p.frcBits + p.payloadBits := by
  obtain ⟨h1, h2⟩ := setParams_payload h
  obtain ⟨c0, h0, hc, _⟩ := setParams_ok h
  have hf : c.frcBits = p.frcBits := by rw [hc, (setParams0_iff.1 h0).cfg]
  unfold Cfg.nBits nBitsOf
  rw [h1, h2, hf]
  rcases payloadOf_cases p with ⟨_, e1, e2⟩ | ⟨_, e1, e2⟩
  · rw [if_pos e2, e1]
  · rw [if_neg (by omega), e1]; omega

/-! ## geometry: which reads lie inside a line of `spl` samples -/

/-- how the configured state relates to the line: pixel size, position of the sampled bytes, start offset -/
structure Geom (p : Params) (c : Cfg) : Prop where
  bpp : c.bpp = p.fmt.bpp
  width : c.width = p.fmt.width
  skip : c.skip = p.offset * p.fmt.bpp + p.fmt.skip0
  wf : p.fmt.skip0 + p.fmt.width ≤ p.fmt.bpp

theorem geom_accepted {tight : Bool} {p : Params} {c : Cfg} (h : setParams tight p = .ok c) (hf : p.fmt.WF)
    (hb : p.fmt.bpp ≤ 4) : Geom p c := by
  obtain ⟨c0, h0, hc, _⟩ := setParams_ok h
  have ha := setParams0_iff.1 h0
  have hspl := ha.spl
  have hoff := ha.offset
  rw [hc, ha.cfg]
  refine ⟨rfl, rfl, ?_, hf.2⟩
  have h1 : p.offset * p.fmt.bpp ≤ 32767 * 4 := Nat.mul_le_mul (by omega) hb
  have h2 := hf.2
  show (p.offset * p.fmt.bpp + p.fmt.skip0) % U32 = _
  apply Nat.mod_eq_of_lt
  unfold U32
  omega

/-- byte `j` of the sampled part of pixel `offset + m` -/
theorem pix_lt {p : Params} {c : Cfg} (hg : Geom p c) {m j : Nat} (hm : p.offset + m < p.spl) (hj : j < c.width) :
    c.skip + m * c.bpp + j < p.spl * c.bpp := by
  have h := pixel_in_line (bpp := p.fmt.bpp) (skip0 := p.fmt.skip0) (width := p.fmt.width) (spl := p.spl)
    (s := p.offset + m) (j := j) hg.wf hm (hg.width ▸ hj)
  rw [Nat.add_mul] at h
  rw [hg.skip, hg.bpp]
  omega

theorem green_lt {p : Params} {c : Cfg} (hg : Geom p c) {m x : Nat} (hm : p.offset + m < p.spl)
    (hx : x ∈ green c.width (c.skip + m * c.bpp)) : x < p.spl * c.bpp := by
  obtain ⟨j, hj, rfl⟩ := mem_green.1 hx
  exact pix_lt hg hm hj

theorem criReadsCore_lt {p : Params} {c : Cfg} (hg : Geom p c) {n x : Nat} (hn : p.offset + n + 1 < p.spl)
    (hx : x ∈ criReadsCore c n) : x < p.spl * c.bpp := by
  unfold criReadsCore at hx
  rcases List.mem_append.1 hx with hx | hx
  · exact green_lt hg (by omega) hx
  · have : c.skip + n * c.bpp + c.bpp = c.skip + (n + 1) * c.bpp := by rw [Nat.add_mul]; omega
    rw [this] at hx
    exact green_lt hg (by omega) hx

theorem sampleReadsCore_lt {p : Params} {c : Cfg} (hg : Geom p c) {k i x : Nat} (hn : p.offset + k + i / 256 + 1 < p.spl)
    (hx : x ∈ sampleReadsCore c k i) : x < p.spl * c.bpp := by
  unfold sampleReadsCore at hx
  simp only at hx
  have e1 : c.skip + k * c.bpp + i / 256 * c.bpp = c.skip + (k + i / 256) * c.bpp := by rw [Nat.add_mul]; omega
  have e2 : c.skip + k * c.bpp + i / 256 * c.bpp + c.bpp = c.skip + (k + i / 256 + 1) * c.bpp := by
    rw [Nat.add_mul, Nat.add_mul]; omega
  rcases List.mem_append.1 hx with hx | hx
  · rw [e1] at hx; exact green_lt hg (by omega) hx
  · rw [e2] at hx; exact green_lt hg (by omega) hx

theorem lpWindow_lt {p : Params} {c : Cfg} (hg : Geom p c) (hw : 0 < c.width) {m x : Nat} (hm : p.offset + m + 15 < p.spl)
    (hx : x ∈ lpWindow c (c.skip + m * c.bpp)) : x < p.spl * c.bpp := by
  obtain ⟨t, ht, rfl⟩ := mem_lpWindow.1 hx
  have e : c.skip + m * c.bpp + t * c.bpp = c.skip + (m + t) * c.bpp + 0 := by rw [Nat.add_mul]; omega
  rw [e]
  exact pix_lt hg (by omega) hw

theorem criReadsLp_lt {p : Params} {c : Cfg} (hg : Geom p c) (hw : 0 < c.width) {n x : Nat} (hn : p.offset + n + 16 < p.spl)
    (hx : x ∈ criReadsLp c n) : x < p.spl * c.bpp := by
  unfold criReadsLp at hx
  simp only [List.mem_cons, List.mem_nil_iff, or_false] at hx
  rcases hx with rfl | rfl
  · have e : c.skip + n * c.bpp + 16 * c.bpp = c.skip + (n + 16) * c.bpp + 0 := by rw [Nat.add_mul]; omega
    rw [e]; exact pix_lt hg (by omega) hw
  · exact pix_lt hg (j := 0) (by omega) hw

theorem sampleReadsLp_lt {p : Params} {c : Cfg} (hg : Geom p c) (hw : 0 < c.width) {k i x : Nat}
    (hn : p.offset + (k + 1) + i / 256 + 15 < p.spl) (hx : x ∈ sampleReadsLp c k i) : x < p.spl * c.bpp := by
  unfold sampleReadsLp at hx
  have e : c.skip + (k + 1) * c.bpp + i / 256 * c.bpp = c.skip + (k + 1 + i / 256) * c.bpp := by
    rw [Nat.add_mul (k + 1)]; omega
  rw [e] at hx
  exact lpWindow_lt hg hw (by omega) hx

/-- bit `j < nb <= nBits` is sampled no later than the last bit (both slicer families) -/
theorem bit_le_last {phase step nBits j nb : Nat} (hj : j < nb) (hnb : nb ≤ nBits) :
    (phase + j * step) / 256 ≤ lastBitSample phase step nBits := by
  unfold lastBitSample
  apply Nat.div_le_div_right
  have : j ≤ nBits - 1 := by omega
  have := Nat.mul_le_mul_right step this
  omega

theorem frcBits_le_nBitsOf (frcBits payload endian : Nat) : frcBits ≤ nBitsOf frcBits payload endian := by
  unfold nBitsOf; omega

/-- every read of the CRI search (and of the low-pass start-up window) lies in the line, provided the
    search limit leaves one sample (core) resp. sixteen (low-pass) after the last search position -/
theorem searchReads_lt {p : Params} {c : Cfg} (hg : Geom p c) (hw : 0 < c.width) {m : Nat}
    (hroom : p.offset + m + c.kind.window ≤ p.spl)
    (hinit : c.kind = .lowpass → p.offset + 16 ≤ p.spl) :
    ∀ x ∈ initReads c ++ (List.range m).flatMap (criReads c), x < p.spl * c.bpp := by
  intro x hx
  rcases List.mem_append.1 hx with hx | hx
  · unfold initReads at hx
    cases hk : c.kind <;> rw [hk] at hx
    · cases hx
    · have e : c.skip = c.skip + 0 * c.bpp := by omega
      simp only at hx
      rw [e] at hx
      have := hinit hk
      exact lpWindow_lt hg hw (by omega) hx
  · obtain ⟨n, hn, hxn⟩ := List.mem_flatMap.1 hx
    have hn := List.mem_range.1 hn
    unfold criReads at hxn
    cases hk : c.kind <;> rw [hk] at hxn hroom <;> simp only [Kind.window] at hxn hroom
    · exact criReadsCore_lt hg (by omega) hxn
    · exact criReadsLp_lt hg hw (by omega) hxn

/-- reads of the first `nb` bits after the search stopped in iteration `k` -/
theorem bitReads_lt {p : Params} {c : Cfg} (hg : Geom p c) (hw : 0 < c.width) {k nb : Nat} (hnb : nb ≤ c.nBits)
    (hroom : p.offset + k + lookAhead c.kind c.phaseShift c.step c.nBits < p.spl) :
    ∀ x ∈ bitReads c k nb, x < p.spl * c.bpp := by
  intro x hx
  unfold bitReads at hx
  obtain ⟨j, hj, hxj⟩ := List.mem_flatMap.1 hx
  have hj := List.mem_range.1 hj
  have hle : bitPos c j / 256 ≤ lastBitSample c.phaseShift c.step c.nBits := bit_le_last hj hnb
  unfold sampleReads at hxj
  unfold lookAhead at hroom
  cases hk : c.kind <;> rw [hk] at hxj hroom <;> simp only at hxj hroom
  · exact sampleReadsCore_lt hg (by omega) hxj
  · exact sampleReadsLp_lt hg hw (by omega) hxj

/-- the whole call: if the search limit leaves room for the look-ahead, every read is in the line -/
theorem sliceReads_lt {p : Params} {c : Cfg} (hg : Geom p c) (hw : 0 < c.width)
    (hroom : c.criSamples + p.offset + lookAhead c.kind c.phaseShift c.step c.nBits ≤ p.spl)
    (hla : p.offset + lookAhead c.kind c.phaseShift c.step c.nBits < p.spl)
    (oc : Outcome) (hoc : oc.admissible c) : ∀ x ∈ sliceReads c oc, x < p.spl * c.bpp := by
  rw [lookAhead_eq] at hroom hla
  have hinit : c.kind = .lowpass → p.offset + 16 ≤ p.spl := by
    intro hk; rw [hk] at hla; simp only [Kind.window] at hla; omega
  intro x hx
  cases oc with
  | noCri =>
    exact searchReads_lt hg hw (m := c.criSamples) (by omega) hinit x hx
  | frcFail k =>
    simp only [Outcome.admissible] at hoc
    unfold sliceReads at hx
    rcases List.mem_append.1 hx with hx | hx
    · exact searchReads_lt hg hw (m := k + 1) (by omega) hinit x hx
    · exact bitReads_lt hg hw (frcBits_le_nBitsOf _ _ _) (by rw [lookAhead_eq]; omega) x hx
  | found k =>
    simp only [Outcome.admissible] at hoc
    unfold sliceReads at hx
    rcases List.mem_append.1 hx with hx | hx
    · exact searchReads_lt hg hw (m := k + 1) (by omega) hinit x hx
    · exact bitReads_lt hg hw (Nat.le_refl _) (by rw [lookAhead_eq]; omega) x hx

/-! ## the search limit of the released arithmetic -/

/-- consequences of acceptance for callers that meet `Params.Sane` -/
structure OrigFacts (p : Params) (c : Cfg) : Prop where
  cs0 : criSamples0 p = p.rate * p.criBits / p.criRate
  ds : dataSamples p = p.rate * dataBits p / p.payloadRate
  fit : criSamples0 p + dataSamples p + p.offset ≤ p.spl
  cs0_pos : 1 ≤ criSamples0 p
  ds_ge : dataBits p ≤ dataSamples p
  ds_lp : c.kind = .lowpass → 25 * dataBits p ≤ dataSamples p
  criSamples_le : c.criSamples + p.offset + dataSamples p ≤ p.spl
  criSamples_pos : 1 ≤ c.criSamples

theorem orig_facts {p : Params} {c : Cfg} (h : setParams0 p = .ok c) (hs : p.Sane) : OrigFacts p c := by
  have ha := setParams0_iff.1 h
  have hspl := ha.spl
  have hcr := ha.criRate
  have hpr := ha.payloadRate
  have hc0 := ha.criRate_pos
  have hb0 := ha.payloadRate_pos
  have hoff := ha.offset
  have hacc := ha.fit
  have hc := ha.cfg
  have hnw := hs.noWrap
  have hcs : criSamples0 p = p.rate * p.criBits / p.criRate := by
    unfold criSamples0; apply Nat.mod_eq_of_lt; exact Nat.lt_of_le_of_lt (Nat.le_add_right _ _) hnw
  have hds : dataSamples p = p.rate * dataBits p / p.payloadRate := by
    unfold dataSamples; apply Nat.mod_eq_of_lt; exact Nat.lt_of_le_of_lt (Nat.le_add_left _ _) hnw
  have hsum : (criSamples0 p + dataSamples p) % U32 = criSamples0 p + dataSamples p := by
    apply Nat.mod_eq_of_lt; rw [hcs, hds]; exact hnw
  rw [hsum] at hacc
  have hcs1 : 1 ≤ criSamples0 p := by
    rw [hcs]; apply (Nat.le_div_iff_mul_le hc0).2
    have := Nat.mul_le_mul hcr hs.criBits
    omega
  have hdb : dataBits p ≤ dataSamples p := by
    rw [hds]; apply (Nat.le_div_iff_mul_le hb0).2
    have := Nat.mul_le_mul_right (dataBits p) hpr
    rw [Nat.mul_comm]; exact this
  have hlp : useLowpass p = true → 25 * dataBits p ≤ dataSamples p := by
    intro hl
    unfold useLowpass at hl
    simp only [Bool.and_eq_true, decide_eq_true_eq] at hl
    have hm : 0 < max p.criRate p.payloadRate := by omega
    have h25 : 25 * max p.criRate p.payloadRate ≤ p.rate := (Nat.le_div_iff_mul_le hm).1 hl.2
    have h25b : 25 * p.payloadRate ≤ p.rate := by
      have : p.payloadRate ≤ max p.criRate p.payloadRate := Nat.le_max_right _ _
      omega
    rw [hds]; apply (Nat.le_div_iff_mul_le hb0).2
    have := Nat.mul_le_mul_right (dataBits p) h25b
    rw [Nat.mul_comm p.rate]
    calc 25 * dataBits p * p.payloadRate = 25 * p.payloadRate * dataBits p := by
          rw [Nat.mul_assoc, Nat.mul_assoc, Nat.mul_comm (dataBits p)]
      _ ≤ p.rate * dataBits p := this
      _ = dataBits p * p.rate := Nat.mul_comm _ _
  have hcsamp := (criSamples_eq h (by rw [hcs, hds]; exact hnw)).2
  rw [if_pos (Nat.le_of_lt hs.criEnd)] at hcsamp
  have hce := hs.criEnd
  refine ⟨hcs, hds, by omega, hcs1, hdb, ?_, by rw [hcsamp]; omega, by rw [hcsamp]; omega⟩
  intro hk
  apply hlp
  by_cases hl : useLowpass p = true
  · exact hl
  · rw [hc, if_neg hl] at hk; cases hk

theorem dataBits_pos {p : Params} (hs : p.Sane) : 1 ≤ dataBits p := by
  have := hs.payloadBits; unfold dataBits; omega

theorem width_pos {p : Params} {c : Cfg} (hg : Geom p c) (hf : p.fmt.WF) : 0 < c.width := by
  rw [hg.width]; exact hf.1

end Zvbi.Slicer
