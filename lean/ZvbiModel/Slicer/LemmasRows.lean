import ZvbiModel.Slicer.Lemmas
/-!
# Facts about every row of the generated `_vbi_service_table` (re-proved whenever the table changes)
-/
namespace Zvbi.Slicer
open Zvbi.Generated.ServiceTable

/-- what the proofs need of a table row: at least two samples per CRI and payload bit at any admitted rate, sizes that fit the
    asserts of `set_params` and the `vbi_sliced` record -/
structure RowSane (r : Row) : Prop where
  criBits_pos : 0 < r.criBits
  criBits : r.criBits ≤ 32
  frcBits : r.frcBits ≤ 32
  payload_pos : 0 < r.payload
  payload : r.payload ≤ 32767
  criRate : 2 * r.criBits ≤ r.criRate
  bitRate : 2 * (r.payload + r.frcBits) ≤ r.bitRate
  bitRate512 : 512 ≤ r.bitRate
  modulation : r.modulation ≤ 3
  /-- bytes stored by the slicer against `sizeof (sliced->data)` -/
  bytes : (if r.payload % 8 ≠ 0 then r.payload / 8 + 1 else r.payload / 8) ≤ slicedDataSize
  /-- the `payload > buffer_size * 8` test -/
  bits : r.payload ≤ slicedDataSize * 8

instance (r : Row) : Decidable (RowSane r) :=
  decidable_of_iff (0 < r.criBits ∧ r.criBits ≤ 32 ∧ r.frcBits ≤ 32 ∧ 0 < r.payload ∧ r.payload ≤ 32767 ∧
      2 * r.criBits ≤ r.criRate ∧ 2 * (r.payload + r.frcBits) ≤ r.bitRate ∧ 512 ≤ r.bitRate ∧ r.modulation ≤ 3 ∧
      (if r.payload % 8 ≠ 0 then r.payload / 8 + 1 else r.payload / 8) ≤ slicedDataSize ∧ r.payload ≤ slicedDataSize * 8)
    ⟨fun ⟨a, b, c, d, e, f, g, h, i, j, k⟩ => ⟨a, b, c, d, e, f, g, h, i, j, k⟩,
     fun ⟨a, b, c, d, e, f, g, h, i, j, k⟩ => ⟨a, b, c, d, e, f, g, h, i, j, k⟩⟩

theorem rows_sane : ∀ r ∈ usableRows, RowSane r := by decide

/-- a quotient `rate * bits / c` with `2 * bits ≤ c` stays below 2^31: two of them do not wrap an `unsigned int` -/
theorem quot_lt {rate bits c : Nat} (hr : rate < U32) (hc : 2 * bits ≤ c) (hc0 : 0 < c) : rate * bits / c < U32 / 2 := by
  apply (Nat.div_lt_iff_lt_mul hc0).2
  have h1 : rate * (2 * bits) ≤ rate * c := Nat.mul_le_mul_left _ hc
  have h2 : rate * c < U32 * c := Nat.mul_lt_mul_of_pos_right hr hc0
  have h3 : rate * (2 * bits) = 2 * (rate * bits) := by rw [Nat.mul_left_comm]
  have h4 : U32 / 2 * c * 2 = U32 * c := by unfold U32; omega
  omega

theorem row_noWrap {r : Row} (hs : RowSane r) (fmt : Fmt) {rate : Nat} (spl : Nat) (hr : rate < U32) :
    let p := rowParams r fmt rate spl
    p.rate * p.criBits / p.criRate + p.rate * dataBits p / p.payloadRate < U32 ∧ p.rate * 256 / p.payloadRate < U32 := by
  have h1 := hs.criBits_pos
  have h8 := hs.bitRate512
  intro p
  have a := quot_lt (rate := rate) (bits := r.criBits) (c := r.criRate) hr hs.criRate (by have := hs.criRate; omega)
  have b := quot_lt (rate := rate) (bits := r.payload + r.frcBits) (c := r.bitRate) hr hs.bitRate (by omega)
  have c := quot_lt (rate := rate) (bits := 256) (c := r.bitRate) hr (by omega) (by omega)
  have hU : U32 / 2 + U32 / 2 = U32 := by unfold U32; omega
  show rate * r.criBits / r.criRate + rate * (r.payload + r.frcBits) / r.bitRate < U32 ∧ rate * 256 / r.bitRate < U32
  omega

/-- what `add_services` passes satisfies the caller obligations of `set_params` -/
theorem row_sane_params {r : Row} (hs : RowSane r) {fmt : Fmt} (hf : fmt.WF) (hb : fmt.bpp ≤ 4) {rate : Nat} (spl : Nat)
    (hr : rate < U32) : (rowParams r fmt rate spl).Sane := by
  have hw := row_noWrap hs fmt spl hr
  exact ⟨hf, hb, hs.criBits_pos, hs.payload_pos, by show 0 < U32 - 1; unfold U32; omega, hw.1, hw.2⟩

/-- `bs->phase_shift` of a table row at sampling rate `rate`: `phaseOf (rowParams ..)` with the step written out -/
def rowPhase (r : Row) (rate : Nat) : Nat :=
  if r.modulation ≥ 2 then (512 * rate + (rate * 256 / r.bitRate) * r.criRate + 512 * r.criRate) / (4 * r.criRate)
  else (256 * rate + (rate * 256 / r.bitRate) * r.criRate + 256 * r.criRate) / (2 * r.criRate)

/-- the arithmetic heart of "the repaired limit never rejects an admitted service": at every sampling rate
    `permit_service` admits, CRI + FRC + payload samples exceed the look-ahead of the payload loop
    (16 more for the low-pass slicer, which is only selected above 24 samples per bit) -/
def RowArith (r : Row) : Prop :=
  ∀ rate : Nat, rate < U32 → permitRate r rate = true →
    (rowPhase r rate + (r.frcBits + r.payload - 1) * (rate * 256 / r.bitRate)) / 256 + 2
      ≤ rate * r.criBits / r.criRate + rate * (r.payload + r.frcBits) / r.bitRate ∧
    (rate / max r.criRate r.bitRate > 24 →
      (rowPhase r rate + (r.frcBits + r.payload - 1) * (rate * 256 / r.bitRate)) / 256 + 17
      ≤ rate * r.criBits / r.criRate + rate * (r.payload + r.frcBits) / r.bitRate)

/-- In the rates the statement is not linear (three nested floors of products of `rate`, `criRate`, `bitRate`); row by row
    the rates of the table are literals, the only variable left is `rate`, and the goal is linear arithmetic with floor
    divisions by literals.  The last bit is sampled about half a CRI bit plus `nBits - 1/2` payload bits behind the search
    position, CRI and data take `criBits` CRI bits plus `nBits` payload bits: the margin is `(criBits - 1/2)` CRI bits plus
    half a payload bit, which `permitRate` (at least 1.5, for WSS 1, samples per bit) turns into the two or seventeen samples. -/
theorem rows_arith : ∀ r ∈ usableRows, RowArith r := by
  simp only [usableRows, serviceTable, List.filter, slicedVbi525, slicedVbi625]
  simp only [Nat.reduceAnd, Nat.reduceOr, Nat.reduceBEq, List.forall_mem_cons, List.not_mem_nil, false_imp_iff, implies_true,
    and_true]
  repeat' apply And.intro
  all_goals
    intro rate h1 h2
    simp only [permitRate, slicedWss625, U32] at h1 h2
    simp at h2
    simp [rowPhase]
    omega

/-- the look-ahead of an accepted table-row configuration, in the terms of `RowArith` -/
theorem row_room {r : Row} (hr : r ∈ usableRows) {fmt : Fmt} {rate spl : Nat} {c0 : Cfg}
    (hrate : rate < U32) (hperm : permitRate r rate = true)
    (h : setParams0 (rowParams r fmt rate spl) = .ok c0) (hfa : OrigFacts (rowParams r fmt rate spl) c0) :
    lookAhead c0.kind c0.phaseShift c0.step c0.nBits + 1
      ≤ criSamples0 (rowParams r fmt rate spl) + dataSamples (rowParams r fmt rate spl) := by
  have hs := rows_sane r hr
  have hA := rows_arith r hr rate hrate hperm
  have hw := row_noWrap hs fmt spl hrate
  have hn := nBits_accepted (setParams_false.2 h)
  have hc := (setParams0_iff.1 h).cfg
  have hstep : stepOf (rowParams r fmt rate spl) = rate * 256 / r.bitRate := by
    unfold stepOf; apply Nat.mod_eq_of_lt; exact hw.2
  have hcs : criSamples0 (rowParams r fmt rate spl) = rate * r.criBits / r.criRate := hfa.cs0
  have hds : dataSamples (rowParams r fmt rate spl) = rate * (r.payload + r.frcBits) / r.bitRate := hfa.ds
  have hphase : c0.phaseShift = rowPhase r rate := by
    rw [hc]; show phaseOf (rowParams r fmt rate spl) = _
    unfold phaseOf rowPhase; rw [hstep]
    simp only [rowParams, decide_eq_true_eq]
  have hst : c0.step = rate * 256 / r.bitRate := by rw [hc]; exact hstep
  have hnb : c0.nBits = r.frcBits + r.payload := hn
  have hk : c0.kind = .lowpass → rate / max r.criRate r.bitRate > 24 := by
    rw [hc]
    show (if useLowpass (rowParams r fmt rate spl) = true then Kind.lowpass else Kind.core) = Kind.lowpass → _
    intro hk
    by_cases hl : useLowpass (rowParams r fmt rate spl) = true
    · unfold useLowpass at hl
      simp only [Bool.and_eq_true, decide_eq_true_eq] at hl
      exact hl.2
    · simp [hl] at hk
  rw [hcs, hds, hphase, hst, hnb]
  unfold lookAhead lastBitSample
  cases hkk : c0.kind
  · simp only; have := hA.1; omega
  · simp only; have := hA.2 (hk hkk); omega

/-- the repaired limit never turns an accepted table row into a rejected one: it changes nothing but `cri_samples` and keeps
    at least one search position -/
theorem row_tight_accepts {r : Row} (hr : r ∈ usableRows) {fmt : Fmt} (hf : fmt.WF) (hb : fmt.bpp ≤ 4)
    {rate spl : Nat} (hrate : rate < U32) (hperm : permitRate r rate = true) {c0 : Cfg}
    (h0 : setParams false (rowParams r fmt rate spl) = .ok c0) :
    ∃ c, setParams true (rowParams r fmt rate spl) = .ok c ∧ 0 < c.criSamples ∧ c.criSamples ≤ c0.criSamples ∧
      c = { c0 with criSamples := c.criSamples } := by
  have h0' := setParams_false.1 h0
  have hfa := orig_facts h0' (row_sane_params (rows_sane r hr) hf hb spl hrate)
  have hroom := row_room hr hrate hperm h0' hfa
  have hfit := hfa.fit
  have hnot : ¬ ((rowParams r fmt rate spl).offset + lookAhead c0.kind c0.phaseShift c0.step c0.nBits ≥ (rowParams r fmt rate spl).spl) := by
    omega
  refine ⟨{ c0 with criSamples := min c0.criSamples ((rowParams r fmt rate spl).spl - (rowParams r fmt rate spl).offset
      - lookAhead c0.kind c0.phaseShift c0.step c0.nBits) }, ?_, ?_, Nat.min_le_left _ _, rfl⟩
  · exact setParams_true.2 ⟨c0, h0', tighten_iff.2 ⟨by omega, rfl⟩⟩
  · have := hfa.criSamples_pos
    show 0 < min c0.criSamples _
    omega

end Zvbi.Slicer
