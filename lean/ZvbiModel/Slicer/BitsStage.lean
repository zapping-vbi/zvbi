import ZvbiModel.Slicer.BitsLoop
import ZvbiModel.Rawdec.Spec
import ZvbiModel.Slicer.Lemmas
/-!
# The payload stage is exact in all four `endian` modes

`payloadStage_exact`: for every variant (`bit_slicer_<fmt>`, `low_pass_bit_slicer_Y8`, legacy
`bit_slicer_tmpl`), every `endian` (0 octets MSB, 1 octets LSB, 2 bits MSB, 3 bits LSB), every payload length and
every payload in canonical form: if the FRC matches and every sampled bit is the transmitted bit, the bytes
written to `buffer` are exactly the transmitted payload.

Side conditions, stated explicitly:
* bit modes: `payload % 8 ≠ 0` - `vbi3_bit_slicer_set_params` / `vbi_bit_slicer_init` select a bit mode only then
  (`Slicer.payloadOf_cases`; `bsOfRow_side`, `legacyBsOfRow_side` for the table rows); for a multiple of 8 the C code stores one byte more, a copy of the last one
  (`bits_lsb_multiple_of_8`);
* `endian == 3` of `bit_slicer_<fmt>` only: the accumulator enters the loop holding `bs->frc` (the other two
  slicers clear it), and `c >> 1` keeps bits above bit 7 alive, so the first stored byte is exact only when
  `frc < 256` (`frc_ge_256_counterexample`).  True for every row of the service table (`table_frc_lt_256`).
-/
namespace Zvbi.Rawdec
open Zvbi.Slicer (U32)

/-- number of payload bits the stage samples -/
def nBits (bs : BS) : Nat := if 2 ≤ bs.endian then bs.payload else 8 * bs.payload

/-- canonical form of a transmitted payload as the bytes of `vbi_sliced.data`: octet modes `payload` bytes; bit
    modes `payload / 8` full bytes and one byte with the remaining `payload % 8` bits right-aligned -/
def Canon (bs : BS) (w : List Nat) : Prop :=
  (∀ x ∈ w, x < 256) ∧
  (if 2 ≤ bs.endian then w.length = bs.payload / 8 + 1 ∧ w.getD (bs.payload / 8) 0 < 2 ^ (bs.payload % 8)
   else w.length = bs.payload)

theorem list_split_last (w : List Nat) (q : Nat) (h : w.length = q + 1) : w = w.take q ++ [w.getD q 0] := by
  apply List.ext_getElem
  · simp [h]
  · intro i h1 h2
    by_cases hi : i < q
    · rw [List.getElem_append_left (by rw [List.length_take]; omega)]
      simp
    · have : i = q := by omega
      subst this
      rw [List.getElem_append_right (by rw [List.length_take]; omega)]
      simp [List.getD_eq_getElem?_getD, List.getElem?_eq_getElem h1]

/-- bit mode LSB first, `payload = 8 q + r` with `0 < r < 8` -/
theorem bits_lsb_exact (bs : BS) (smp : Sampler) (q r c0 : Nat) (pre : List Nat) (x : Nat) (hr0 : 0 < r) (hr : r < 8)
    (hc0 : c0 < 256) (hlen : pre.length = q) (hpre : ∀ y ∈ pre, y < 256) (hx : x < 2 ^ r)
    (h1 : ∀ i, i < q → ∀ k, k < 8 → smp (payloadPos bs (8 * i + k)) = (pre.getD i 0).testBit k)
    (h2 : ∀ k, k < r → smp (payloadPos bs (8 * q + k)) = x.testBit k) :
    (bitLoop bs smp true (8 * q + r) 0 c0).1 ++ [((bitLoop bs smp true (8 * q + r) 0 c0).2 / 2 ^ ((8 - r) % 8)) % 256]
      = pre ++ [x] := by
  have hs := bitLoop_split bs smp true r hr q 0 c0
  simp only [Nat.mul_zero, Nat.zero_add] at hs
  rw [hs]
  simp only [step8, if_true]
  subst hlen
  obtain ⟨ho, ha⟩ := octets_lsb bs smp pre 0 c0 hc0 hpre (by intro i hi k hk; rw [Nat.zero_add]; exact h1 i hi k hk)
  rw [ho, ha]
  congr 2
  apply tailLsb_eq bs smp r _ _ x hr0 hr _ hx h2
  cases hl : pre.getLast? with
  | none => simpa using hc0
  | some y => simpa using hpre y (List.mem_of_getLast? hl)

/-- bit mode MSB first, `payload = 8 q + r` with `r < 8` (also `r = 0`: the extra byte is 0) -/
theorem bits_msb_exact (bs : BS) (smp : Sampler) (q r c0 : Nat) (pre : List Nat) (x : Nat) (hr : r < 8)
    (hlen : pre.length = q) (hpre : ∀ y ∈ pre, y < 256) (hx : x < 2 ^ r)
    (h1 : ∀ i, i < q → ∀ k, k < 8 → smp (payloadPos bs (8 * i + k)) = (pre.getD i 0).testBit (7 - k))
    (h2 : ∀ k, k < r → smp (payloadPos bs (8 * q + k)) = x.testBit (r - 1 - k)) :
    (bitLoop bs smp false (8 * q + r) 0 c0).1 ++ [((bitLoop bs smp false (8 * q + r) 0 c0).2 % 2 ^ r) % 256]
      = pre ++ [x] := by
  have hs := bitLoop_split bs smp false r hr q 0 c0
  simp only [Nat.mul_zero, Nat.zero_add] at hs
  rw [hs]
  simp only [step8, Bool.false_eq_true, if_false]
  subst hlen
  have ho := octets_msb bs smp pre 0 c0 hpre (by intro i hi k hk; rw [Nat.zero_add]; exact h1 i hi k hk)
  rw [ho]
  congr 2
  exact tailMsb_eq bs smp r _ _ x hr hx h2

/-- bit mode LSB first with a payload of `8 q` bits, `q > 0` (never configured by zvbi): the C code stores `q + 1`
    bytes, the last one a copy of byte `q - 1` -/
theorem bits_lsb_multiple_of_8 (bs : BS) (smp : Sampler) (q c0 : Nat) (pre : List Nat) (hc0 : c0 < 256)
    (hlen : pre.length = q) (hpre : ∀ y ∈ pre, y < 256)
    (h1 : ∀ i, i < q → ∀ k, k < 8 → smp (payloadPos bs (8 * i + k)) = (pre.getD i 0).testBit k) :
    (bitLoop bs smp true (8 * q) 0 c0).1 ++ [((bitLoop bs smp true (8 * q) 0 c0).2 / 2 ^ ((8 - (8 * q) % 8) % 8)) % 256]
      = pre ++ [(pre.getLast?.getD c0)] := by
  have hs := bitLoop_split bs smp true 0 (by omega) q 0 c0
  simp only [Nat.mul_zero, Nat.zero_add, Nat.add_zero] at hs
  rw [hs]
  simp only [step8, if_true, accLoop]
  subst hlen
  obtain ⟨ho, ha⟩ := octets_lsb bs smp pre 0 c0 hc0 hpre (by intro i hi k hk; rw [Nat.zero_add]; exact h1 i hi k hk)
  rw [ho, ha]
  congr 2
  have : pre.getLast?.getD c0 < 256 := by
    cases hl : pre.getLast? with
    | none => simpa using hc0
    | some y => simpa using hpre y (List.mem_of_getLast? hl)
  simp only [Nat.mul_mod_right, Nat.sub_zero, Nat.mod_self, Nat.pow_zero, Nat.div_one]
  exact Nat.mod_eq_of_lt this

theorem bitAt_octet (e n : Nat) (w : List Nat) (i k : Nat) (hk : k < 8) :
    bitAt e n w (8 * i + k) = (w.getD i 0).testBit
      (if e % 2 = 1 then k else (if e ≥ 2 ∧ i = n / 8 then n % 8 else 8) - 1 - k) := by
  unfold bitAt
  rw [show (8 * i + k) / 8 = i by omega, show (8 * i + k) % 8 = k by omega]
  split <;> rfl

/-- All modes, all three slicers.  `hbit`: a bit mode is configured for a payload that is not a whole number of octets only;
    `hc0`: the accumulator of `bit_slicer_<fmt>` enters the loop of `endian == 3` holding `bs->frc` (the other slicers clear it). -/
theorem payloadStage_exact (v : Variant) (bs : BS) (smp : Sampler) (w : List Nat)
    (hend : bs.endian ≤ 3) (hcanon : Canon bs w)
    (hbit : 2 ≤ bs.endian → bs.payload % 8 ≠ 0)
    (hc0 : v = .core → bs.endian = 3 → bs.frc < 256)
    (hfrc : frcValue bs smp = bs.frc)
    (heye : ∀ j, j < nBits bs → smp (payloadPos bs j) = bitAt bs.endian (nBits bs) w j) :
    payloadStage v bs smp = some w := by
  obtain ⟨hbytes, hshape⟩ := hcanon
  have hsmp : ∀ i k, k < 8 → 8 * i + k < nBits bs → smp (payloadPos bs (8 * i + k)) = (w.getD i 0).testBit
      (if bs.endian % 2 = 1 then k else (if bs.endian ≥ 2 ∧ i = nBits bs / 8 then nBits bs % 8 else 8) - 1 - k) :=
    fun i k hk hlt => by rw [heye _ hlt, bitAt_octet _ _ _ _ _ hk]
  have hcases : bs.endian = 0 ∨ bs.endian = 1 ∨ bs.endian = 2 ∨ bs.endian = 3 := by omega
  unfold payloadStage
  simp only [hfrc, ne_eq, not_true_eq_false, if_false]
  rcases hcases with he | he | he | he <;>
    simp only [he, nBits, Nat.reduceLeDiff, Nat.reduceMod, Nat.reduceEqDiff, ge_iff_le, if_true, if_false, false_and,
      true_and] at hshape hsmp ⊢
  · -- octets, MSB first
    rw [← hshape]
    exact congrArg some (octets_msb bs smp w 0 _ hbytes
      (fun i hi k hk => by rw [Nat.zero_add]; exact hsmp i k hk (by omega)))
  · -- octets, LSB first
    have hbit : ∀ i, i < w.length → ∀ k, k < 8 → smp (payloadPos bs (8 * i + k)) = (w.getD i 0).testBit k :=
      fun i hi k hk => hsmp i k hk (by omega)
    cases v with
    | core =>
      refine congrArg some (List.ext_getElem (by simp [hshape]) (fun m h1 h2 => ?_))
      have hx := hbytes w[m] (List.getElem_mem h2)
      rw [List.getElem_map, List.getElem_range, sumLsb_eq bs smp m w[m] hx (fun k hk => by
        rw [hbit m h2 k hk, List.getD_eq_getElem?_getD, List.getElem?_eq_getElem h2]; rfl)]
      exact Nat.mod_eq_of_lt hx
    | lowpass | legacy =>
      rw [← hshape]
      exact congrArg some (octets_lsb bs smp w 0 0 (by omega) hbytes
        (fun i hi k hk => by rw [Nat.zero_add]; exact hbit i hi k hk)).1
  · -- bits, MSB first
    have hP := hbit (by omega)
    obtain ⟨hlen, hlast⟩ := hshape
    have hsplit := list_split_last w (bs.payload / 8) hlen
    have hPq : bs.payload = 8 * (bs.payload / 8) + bs.payload % 8 := by omega
    have hr8 : bs.payload % 8 < 8 := by omega
    generalize bs.payload / 8 = q at *
    generalize bs.payload % 8 = r at *
    rw [hPq, hsplit]
    exact congrArg some (bits_msb_exact bs smp q r _ (w.take q) (w.getD q 0) (by omega) (by simp; omega)
      (fun y hy => hbytes y (List.mem_of_mem_take hy)) hlast
      (fun i hi k hk => by rw [hsmp i k hk (by omega), show (w.take q).getD i 0 = w.getD i 0 by simp [List.getD_eq_getElem?_getD, hi], if_neg (by omega)])
      (fun k hk => by rw [hsmp q k (by omega) (by omega), if_pos rfl]))
  · -- bits, LSB first
    have hP := hbit (by omega)
    obtain ⟨hlen, hlast⟩ := hshape
    have hsplit := list_split_last w (bs.payload / 8) hlen
    have hPq : bs.payload = 8 * (bs.payload / 8) + bs.payload % 8 := by omega
    have hr8 : bs.payload % 8 < 8 := by omega
    generalize bs.payload / 8 = q at *
    generalize bs.payload % 8 = r at *
    rw [hPq, hsplit]
    exact congrArg some (bits_lsb_exact bs smp q r _ (w.take q) (w.getD q 0) (by omega) (by omega)
      (match v with | .core => hc0 rfl he | .lowpass | .legacy => Nat.zero_lt_succ _)
      (by simp; omega) (fun y hy => hbytes y (List.mem_of_mem_take hy)) hlast
      (fun i hi k hk => by rw [hsmp i k hk (by omega), show (w.take q).getD i 0 = w.getD i 0 by simp [List.getD_eq_getElem?_getD, hi]])
      (fun k hk => hsmp q k (by omega) (by omega)))

/-! ## the side conditions hold for whatever `vbi3_bit_slicer_set_params` / `vbi_bit_slicer_init` configure from a
row of the regenerated service table -/

open Zvbi.Slicer (Cfg LCfg Params LParams setParams legacyInit rowParams)
open Zvbi.Generated.ServiceTable

/-- the FRC value `add_services` hands to `set_params` fits in 8 bits for every row of the table (every row has at
    most 8 FRC bits; the bit-mode row, WSS 625, has none) -/
theorem table_frc_lt_256 : ∀ r ∈ serviceTable,
    (r.criFrc &&& (2 ^ r.frcBits - 1)) &&& (if r.frcBits = 32 then U32 - 1 else 2 ^ r.frcBits - 1) < 256 ∧
    r.criFrc &&& (if r.frcBits = 0 then 0 else (U32 - 1) >>> (32 - r.frcBits)) < 256 := by
  decide

/-- everything `payloadStage_exact` asks of the configuration, for a slicer `add_services` sets up from a table row -/
theorem bsOfRow_side (r : Row) (hr : r ∈ serviceTable) (gf : GreenFmt) (fmt : Zvbi.Slicer.Fmt) (rate spl : Nat) (tight : Bool)
    (c : Cfg) (h : setParams tight (rowParams r fmt rate spl) = .ok c) :
    (bsOfRow r gf c rate).endian ≤ 3 ∧ (2 ≤ (bsOfRow r gf c rate).endian → (bsOfRow r gf c rate).payload % 8 ≠ 0) ∧
    (bsOfRow r gf c rate).frc < 256 ∧ nBits (bsOfRow r gf c rate) = r.payload := by
  obtain ⟨h1, h2⟩ := Zvbi.Slicer.setParams_payload h
  have hpb : (rowParams r fmt rate spl).payloadBits = r.payload := rfl
  have hle := Zvbi.Slicer.payloadOf_endian_le (rowParams r fmt rate spl)
  refine ⟨?_, ?_, (table_frc_lt_256 r hr).1, ?_⟩
  · show c.endian ≤ 3
    rw [h2]; exact hle
  · show 2 ≤ c.endian → c.payload % 8 ≠ 0
    rw [h1, h2]
    rcases Zvbi.Slicer.payloadOf_cases (rowParams r fmt rate spl) with ⟨h8, e1, _⟩ | ⟨_, _, e2⟩
    · intro _; rw [e1]; exact h8
    · omega
  · show (if 2 ≤ c.endian then c.payload else 8 * c.payload) = r.payload
    rw [h1, h2, ← hpb]
    rcases Zvbi.Slicer.payloadOf_cases (rowParams r fmt rate spl) with ⟨_, e1, e2⟩ | ⟨_, e1, e2⟩
    · rw [if_pos e2, e1]
    · rw [if_neg (by omega), e1]; omega

/-- ... and for a legacy slicer initialised by `vbi_bit_slicer_init` -/
theorem legacyBsOfRow_side (r : Row) (hr : r ∈ serviceTable) (tight : Bool) (p : LParams) (rate : Nat) :
    (legacyBsOfRow r (legacyInit tight p) rate).endian ≤ 3 ∧
    (2 ≤ (legacyBsOfRow r (legacyInit tight p) rate).endian → (legacyBsOfRow r (legacyInit tight p) rate).payload % 8 ≠ 0) ∧
    (legacyBsOfRow r (legacyInit tight p) rate).frc < 256 ∧
    nBits (legacyBsOfRow r (legacyInit tight p) rate) = p.payloadBits := by
  have key : (legacyInit tight p).endian ≤ 3 ∧ (2 ≤ (legacyInit tight p).endian → (legacyInit tight p).payload % 8 ≠ 0) ∧
      (if 2 ≤ (legacyInit tight p).endian then (legacyInit tight p).payload else 8 * (legacyInit tight p).payload) = p.payloadBits := by
    unfold legacyInit
    by_cases h8 : p.payloadBits % 8 = 0 <;> cases hm : p.msb <;> simp [h8] <;> omega
  exact ⟨key.1, key.2.1, (table_frc_lt_256 r hr).2, key.2.2⟩

end Zvbi.Rawdec
