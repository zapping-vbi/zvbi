import ZvbiModel.Slicer.Spec
import ZvbiModel.Slicer.BufModel
/-!
# Concrete configurations the C05Buf theorems mention (witnesses, non-vacuity examples)

`corpus/C05/buffer-guard-*.ops`, `corpus/C05/F17-*.ops` replay the same numbers on the C code.
-/
namespace Zvbi.Slicer.Spec
open Zvbi.Slicer

/-- `Except Rej Cfg` has no `DecidableEq`; a witness `setParams .. = .ok c` is checked through `.toOption` -/
theorem ok_of_toOption {r : Except Rej Cfg} {c : Cfg} (h : r.toOption = some c) : r = .ok c := by
  cases r with
  | error e => cases h
  | ok c' => simp [Except.toOption] at h; rw [h]

/-- Teletext B at 13.5 MHz / 720 samples as configured by the repaired `set_params` (search limit 54) -/
def teletextB_13_5_tight : Cfg := { teletextB_13_5_cfg with criSamples := 54 }

theorem teletextB_13_5_tight_ok : setParams true teletextB_13_5 = .ok teletextB_13_5_tight :=
  ok_of_toOption (by decide +kernel)

/-- the same service on a 2048 sample line (F17: 1382 search positions) -/
def teletextB_2048 : Params := { teletextB_13_5 with spl := 2048 }
def teletextB_2048_cfg : Cfg := { teletextB_13_5_cfg with criSamples := 1382 }

theorem teletextB_2048_ok : setParams true teletextB_2048 = .ok teletextB_2048_cfg :=
  ok_of_toOption (by decide +kernel)

theorem teletextB_2048_sane : teletextB_2048.Sane :=
  ⟨by decide, by decide, by decide, by decide, by decide, by decide, by decide⟩

/-- Teletext with a payload of 13 bits: bit mode (`endian = 3`, `bs->payload` counts bits) -/
def bitMode13 : Params := { teletextB_13_5 with payloadBits := 13 }

/-- Caption 525 at 27 MHz (low-pass slicer) with an EMPTY payload -/
def caption525_27_empty : Params := { caption525_27 with payloadBits := 0 }
def caption525_27_empty_cfg : Cfg := { caption525_27_cfg with criSamples := 1384, payload := 0 }

theorem caption525_27_empty_ok : setParams true caption525_27_empty = .ok caption525_27_empty_cfg :=
  ok_of_toOption (by decide +kernel)

end Zvbi.Slicer.Spec
