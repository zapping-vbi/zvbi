import ZvbiModel.Slicer.Model
/-!
# Lemmas about the decode loop of `vbi3_raw_decoder_decode` (line pointers, output slots)
-/
namespace Zvbi.Slicer

/-- value of `raw - raw1` at the top of loop iteration `i` (before the field-2 reset) -/
def rawAt (sp : Sp) (i : Nat) : Nat :=
  if sp.interlaced then (if i ≤ sp.count0 then i * (sp.bpl * 2) else sp.bpl + (i - sp.count0) * (sp.bpl * 2))
  else i * sp.bpl

/-- the pointer handed to `decode_pattern` in iteration `i` (after the field-2 reset) is the start of row `i` -/
theorem rawAt_line (sp : Sp) (i : Nat) :
    (if (sp.interlaced && i == sp.count0) = true then sp.bpl else rawAt sp i) = lineOffset sp i := by
  unfold rawAt lineOffset
  cases sp.interlaced
  · simp
  · simp only [Bool.true_and, beq_iff_eq, if_true]
    rcases Nat.lt_trichotomy i sp.count0 with h | h | h
    · rw [if_neg (by omega), if_pos (by omega), if_pos h]
    · rw [if_pos h, if_neg (by omega), h, Nat.sub_self, Nat.zero_mul]; rfl
    · rw [if_neg (by omega), if_neg (by omega), if_neg (by omega)]

theorem rawAt_succ (sp : Sp) (i : Nat) :
    lineOffset sp i + (if sp.interlaced = true then sp.bpl * 2 else sp.bpl) = rawAt sp (i + 1) := by
  unfold rawAt lineOffset
  cases sp.interlaced
  · simp only [Bool.false_eq_true, if_false]; rw [Nat.add_mul]; omega
  · simp only [if_true]
    by_cases h : i < sp.count0
    · rw [if_pos h, if_pos (by omega), Nat.add_mul]; omega
    · rw [if_neg h, if_neg (by omega), show i + 1 - sp.count0 = i - sp.count0 + 1 by omega, Nat.add_mul]; omega
/-- loop invariant after rows `0 .. i-1` -/
structure DInv (sp : Sp) (maxLines : Nat) (s : DState) (i : Nat) : Prop where
  n_le : s.n ≤ maxLines
  slots : ∀ k ∈ s.slots, k < maxLines
  visited : ∀ v ∈ s.visited, v.1 < i ∧ v.2 = lineOffset sp v.1
  raw : s.stopped = false → s.raw = rawAt sp i
  n_le_rows : s.n ≤ i
  slots_len : s.slots.length = s.visited.length

theorem dinv_init (sp : Sp) (maxLines : Nat) : DInv sp maxLines {} 0 := by
  refine ⟨Nat.zero_le _, ?_, ?_, ?_, Nat.le_refl _, rfl⟩
  · intro k hk; cases hk
  · intro v hv; cases hv
  · intro _; simp [rawAt]

theorem dinv_step (sp : Sp) (maxLines : Nat) (hit : Nat → Bool) (s : DState) (i : Nat)
    (h : DInv sp maxLines s i) : DInv sp maxLines (decodeStep sp maxLines hit s i) (i + 1) := by
  unfold decodeStep
  by_cases hst : s.stopped = true
  · simp only [hst, if_true]
    exact ⟨h.n_le, h.slots, fun v hv => ⟨(by have := (h.visited v hv).1; omega), (h.visited v hv).2⟩,
      (fun hf => by rw [hst] at hf; cases hf), (by have := h.n_le_rows; omega), h.slots_len⟩
  · have hst' : s.stopped = false := by cases hs : s.stopped <;> simp_all
    simp only [hst', Bool.false_eq_true, if_false]
    by_cases hfull : s.n ≥ maxLines
    · simp only [hfull, if_true]
      exact ⟨h.n_le, h.slots, fun v hv => ⟨(by have := (h.visited v hv).1; omega), (h.visited v hv).2⟩,
        (fun hf => by simp at hf), (by have := h.n_le_rows; show s.n ≤ i + 1; omega), h.slots_len⟩
    · simp only [hfull, if_false]
      have hraw := h.raw hst'
      refine ⟨?_, ?_, ?_, ?_, ?_, ?_⟩
      · show (if hit i = true then s.n + 1 else s.n) ≤ maxLines
        split <;> omega
      · intro k hk
        simp only [List.mem_append, List.mem_singleton] at hk
        rcases hk with hk | rfl
        · exact h.slots k hk
        · omega
      · intro v hv
        simp only [List.mem_append, List.mem_singleton] at hv
        rcases hv with hv | rfl
        · exact ⟨by have := (h.visited v hv).1; omega, (h.visited v hv).2⟩
        · exact ⟨by simp, by rw [hraw]; exact rawAt_line sp i⟩
      · intro _
        show (if (sp.interlaced && i == sp.count0) = true then sp.bpl else s.raw) + _ = rawAt sp (i + 1)
        rw [hraw, rawAt_line]
        exact rawAt_succ sp i
      · show (if hit i = true then s.n + 1 else s.n) ≤ i + 1
        have := h.n_le_rows
        split <;> omega
      · simp [h.slots_len]

theorem dinv_fold (sp : Sp) (maxLines : Nat) (hit : Nat → Bool) (n : Nat) :
    DInv sp maxLines ((List.range n).foldl (decodeStep sp maxLines hit) {}) n := by
  induction n with
  | zero => exact dinv_init sp maxLines
  | succ n ih =>
    rw [List.range_succ, List.foldl_append]
    exact dinv_step sp maxLines hit _ n ih

theorem dinv_decode (sp : Sp) (maxLines : Nat) (hit : Nat → Bool) :
    DInv sp maxLines (decode sp maxLines hit) sp.scanLines := dinv_fold sp maxLines hit sp.scanLines

/-- a whole line starting at the offset of row `i` lies inside the image -/
theorem line_in_image {sp : Sp} {b : Nat} (hv : sp.valid b) {i : Nat} (hi : i < sp.scanLines) :
    lineOffset sp i + sp.bpl ≤ sp.imageBytes := by
  obtain ⟨_, _, _, _, hint⟩ := hv
  unfold lineOffset Sp.imageBytes
  unfold Sp.scanLines at hi ⊢
  by_cases hil : sp.interlaced = true
  · obtain ⟨heq, _⟩ := hint hil
    simp only [hil, if_true]
    by_cases hl : i < sp.count0
    · simp only [hl, if_true]
      have h1 : (2 * i + 1) * sp.bpl ≤ (sp.count0 + sp.count1) * sp.bpl := Nat.mul_le_mul_right _ (by omega)
      have e : i * (sp.bpl * 2) = 2 * (i * sp.bpl) := by rw [← Nat.mul_assoc]; omega
      rw [Nat.add_mul, Nat.mul_assoc, Nat.one_mul] at h1
      rw [e]; omega
    · simp only [hl, if_false]
      have h1 : (2 * (i - sp.count0) + 2) * sp.bpl ≤ (sp.count0 + sp.count1) * sp.bpl :=
        Nat.mul_le_mul_right _ (by omega)
      have e : (i - sp.count0) * (sp.bpl * 2) = 2 * ((i - sp.count0) * sp.bpl) := by rw [← Nat.mul_assoc]; omega
      rw [Nat.add_mul, Nat.mul_assoc] at h1
      rw [e]; omega
  · have hi' : sp.interlaced = false := by cases hs : sp.interlaced <;> simp_all
    simp only [hi', Bool.false_eq_true, if_false]
    have h1 : (i + 1) * sp.bpl ≤ (sp.count0 + sp.count1) * sp.bpl := Nat.mul_le_mul_right _ (by omega)
    rw [Nat.add_mul, Nat.one_mul] at h1
    exact h1

end Zvbi.Slicer
