import ZvbiModel.Slicer.BufModel
import ZvbiModel.Slicer.Lemmas
/-!
# Lemmas about the store loops of the public slicer entry points
-/
namespace Zvbi.Slicer

/-- a cursor that only ever stored at its position and advanced: the indices stored are exactly `0 .. idx-1` -/
def WState.Dense (s : WState) : Prop := s.writes = List.range s.idx

theorem dense_init : ({} : WState).Dense := rfl

theorem dense_store {s : WState} (h : s.Dense) : s.store.Dense := by
  unfold WState.Dense WState.store at *
  simp only
  rw [h, List.range_succ]

theorem store_idx (s : WState) : s.store.idx = s.idx + 1 := rfl

theorem dense_foldl {α : Type} (f : WState → α → WState) (hf : ∀ s a, s.Dense → (f s a).Dense) (l : List α) :
    ∀ s : WState, s.Dense → (l.foldl f s).Dense := by
  induction l with
  | nil => intro s h; exact h
  | cons a t ih => intro s h; exact ih _ (hf s a h)

/-- `n` times `*buffer++ = c` -/
theorem foldl_store_idx (n : Nat) (s : WState) :
    ((List.range n).foldl (fun (s : WState) (_ : Nat) => s.store) s).idx = s.idx + n := by
  induction n with
  | zero => simp
  | succ m ih => rw [List.range_succ, List.foldl_append]; simp only [List.foldl_cons, List.foldl_nil, store_idx, ih]; omega

theorem foldl_store_dense (n : Nat) (s : WState) (h : s.Dense) :
    ((List.range n).foldl (fun (s : WState) (_ : Nat) => s.store) s).Dense :=
  dense_foldl _ (fun _ _ hs => dense_store hs) _ s h

theorem octetLoop_writes (n : Nat) : (octetLoop n).writes = List.range n := by
  have h := foldl_store_dense n {} dense_init
  have hi := foldl_store_idx n {}
  unfold octetLoop
  rw [h, hi]; simp

/-- the bit routines advance `buffer` once per complete octet -/
theorem bitFold_idx (m : Nat) :
    ((List.range m).foldl (fun (s : WState) j => if j % 8 = 7 then s.store else s) {}).idx = m / 8 := by
  induction m with
  | zero => simp
  | succ k ih =>
    rw [List.range_succ, List.foldl_append]
    simp only [List.foldl_cons, List.foldl_nil]
    split
    · rw [store_idx, ih]; omega
    · rw [ih]; omega

theorem bitFold_dense (m : Nat) :
    ((List.range m).foldl (fun (s : WState) j => if j % 8 = 7 then s.store else s) {}).Dense :=
  dense_foldl _ (fun s j hs => by by_cases h : j % 8 = 7 <;> simp [h, dense_store hs, hs]) _ _ dense_init

/-- the bit routines store `payload / 8` complete octets and one final partial octet -/
theorem bitLoop_writes (payload : Nat) : (bitLoop payload).writes = List.range (payload / 8 + 1) := by
  unfold bitLoop WState.storeLast
  simp only
  rw [bitFold_dense payload, bitFold_idx, List.range_succ]

/-- `payload_bytes (bs)` is the payload size in bytes, rounded up, in both storage modes -/
theorem payloadBytes_eq {tight : Bool} {p : Params} {c : Cfg} (h : setParams tight p = .ok c) :
    payloadBytes c = (p.payloadBits + 7) / 8 := by
  obtain ⟨h1, h2⟩ := setParams_payload h
  unfold payloadBytes
  rw [h1, h2]
  rcases payloadOf_cases p with ⟨_, e1, e2⟩ | ⟨h8, e1, e2⟩
  · rw [e1]; simp [e2]
  · rw [e1]; have : ¬ ((payloadOf p).2 ≥ 2) := by omega
    simp [this]; omega

/-- the store loops write exactly the bytes `0 .. payload_bytes-1` (the low-pass `do .. while` loops need a
    non-empty payload) -/
theorem payloadWrites_eq {tight : Bool} {p : Params} {c : Cfg} (h : setParams tight p = .ok c)
    (hp : c.kind = .lowpass → 0 < p.payloadBits) : payloadWrites c = List.range (payloadBytes c) := by
  obtain ⟨h1, h2⟩ := setParams_payload h
  unfold payloadWrites payloadBytes
  rcases payloadOf_cases p with ⟨h8, e1, e2⟩ | ⟨h8, e1, e2⟩
  · have e2' : c.endian ≥ 2 := by rw [h2]; exact e2
    simp only [e2', if_true]
    rw [bitLoop_writes, h1, e1]
    congr 1; omega
  · have e2' : ¬ (c.endian ≥ 2) := by rw [h2]; omega
    simp only [e2', if_false]
    cases hk : c.kind with
    | core => simp only; exact octetLoop_writes _
    | lowpass =>
      simp only
      have hpos := hp hk
      have : c.payload ≠ 0 := by rw [h1, e1]; omega
      unfold doWhileIters
      simp only [this, if_false]
      exact octetLoop_writes _

/-! ## sampling points -/

theorem criPointStep_dense (limit : Option Nat) (s : WState) (t : Bool) (h : s.Dense) : (criPointStep limit s t).Dense := by
  unfold criPointStep
  cases t with
  | false => simpa using h
  | true =>
    cases limit with
    | none => simpa using dense_store h
    | some l =>
      by_cases hl : s.idx < l
      · simpa [hl] using dense_store h
      · simpa [hl] using h

theorem criPoints_dense (limit : Option Nat) (ticks : List Bool) : (criPoints limit ticks).Dense :=
  dense_foldl _ (fun s t hs => criPointStep_dense limit s t hs) _ _ dense_init

theorem criPointStep_idx_le (limit : Option Nat) (s : WState) (t : Bool) : (criPointStep limit s t).idx ≤ s.idx + 1 := by
  unfold criPointStep
  cases t <;> cases limit <;> simp [store_idx]
  split <;> simp [store_idx]

/-- at most one point per `CRI()` invocation -/
theorem criFold_idx_le_length (limit : Option Nat) (ticks : List Bool) :
    ∀ s : WState, (ticks.foldl (criPointStep limit) s).idx ≤ s.idx + ticks.length := by
  induction ticks with
  | nil => intro s; simp
  | cons t r ih =>
    intro s
    have h1 := ih (criPointStep limit s t)
    have h2 := criPointStep_idx_le limit s t
    simp only [List.foldl_cons, List.length_cons]
    omega

theorem criPoints_idx_le_length (limit : Option Nat) (ticks : List Bool) : (criPoints limit ticks).idx ≤ ticks.length := by
  have := criFold_idx_le_length limit ticks {}
  unfold criPoints
  simpa using this

/-- with the limit, never more than `l` CRI points -/
theorem criFold_idx_le_limit (l : Nat) (ticks : List Bool) :
    ∀ s : WState, s.idx ≤ l → (ticks.foldl (criPointStep (some l)) s).idx ≤ l := by
  induction ticks with
  | nil => intro s h; simpa using h
  | cons t r ih =>
    intro s h
    simp only [List.foldl_cons]
    apply ih
    unfold criPointStep
    cases t with
    | false => simpa using h
    | true =>
      by_cases hl : s.idx < l
      · simp [hl, store_idx]; omega
      · simpa [hl] using h

theorem criPoints_idx_le_limit (l : Nat) (ticks : List Bool) : (criPoints (some l) ticks).idx ≤ l := by
  unfold criPoints
  exact criFold_idx_le_limit l ticks {} (Nat.zero_le _)

theorem dataPoints_idx (s : WState) (n : Nat) : (dataPoints s n).idx = s.idx + n := foldl_store_idx n s
theorem dataPoints_dense (s : WState) (n : Nat) (h : s.Dense) : (dataPoints s n).Dense := foldl_store_dense n s h

/-- released code: one point per recovered clock tick, whatever their number -/
theorem criFold_none_idx (ticks : List Bool) :
    ∀ s : WState, (ticks.foldl (criPointStep none) s).idx = s.idx + ticks.count true := by
  induction ticks with
  | nil => intro s; simp
  | cons t r ih =>
    intro s
    simp only [List.foldl_cons]
    rw [ih]
    cases t <;> simp [criPointStep, store_idx] <;> omega

theorem criPoints_none_idx (ticks : List Bool) : (criPoints none ticks).idx = ticks.count true := by
  have := criFold_none_idx ticks {}
  unfold criPoints
  simpa using this

theorem slice_refused {g : Guard} {c : Cfg} {b : Nat} (oc : Outcome) (hg : guardRefuses g c b = true) :
    slice g c b oc = { refused := true, ret := false, writes := [] } := by
  simp [slice, hg]

theorem slice_passed {g : Guard} {c : Cfg} {b : Nat} (oc : Outcome) (hg : guardRefuses g c b = false) :
    slice g c b oc = match oc with
      | .found _ => { refused := false, ret := true, writes := payloadWrites c }
      | _ => { refused := false, ret := false, writes := [] } := by
  cases oc <;> simp [slice, hg]

/-- octet mode in the low-pass slicer: the `do .. while (--j > 0)` trip count decides -/
theorem payloadWrites_lowpass_octet (c : Cfg) (hk : c.kind = .lowpass) (he : ¬ (c.endian ≥ 2)) :
    payloadWrites c = List.range (doWhileIters c.payload) := by
  unfold payloadWrites
  simp only [he, if_false, hk]
  exact octetLoop_writes _

/-- the points side once the `max_points` test has passed, for a slicer function that stores points: the indices
    stored are `0 .. n-1` with one point per stored CRI tick and one per FRC / payload bit sampled -/
theorem slicePoints_collects (bounded : Bool) (c : Cfg) (totalBits maxPoints : Nat) (oc : Outcome) (ticks : List Bool)
    (h : ¬ (totalBits > maxPoints)) :
    slicePoints bounded c totalBits maxPoints true oc ticks =
      match oc with
      | .noCri => { refused := false, writes := List.range (criPoints (if bounded then some (maxPoints - c.nBits) else none) ticks).idx,
                    nPoints := (criPoints (if bounded then some (maxPoints - c.nBits) else none) ticks).idx }
      | .frcFail _ => { refused := false, nPoints := 0,
                        writes := List.range ((criPoints (if bounded then some (maxPoints - c.nBits) else none) ticks).idx + c.frcBits) }
      | .found _ => { refused := false, nPoints := (criPoints (if bounded then some (maxPoints - c.nBits) else none) ticks).idx + c.nBits,
                      writes := List.range ((criPoints (if bounded then some (maxPoints - c.nBits) else none) ticks).idx + c.nBits) } := by
  have hd := criPoints_dense (if bounded then some (maxPoints - c.nBits) else none) ticks
  cases oc <;> simp only [slicePoints, h, if_false, Bool.not_true, Bool.false_eq_true]
  · rw [hd]
  · rw [dataPoints_dense _ _ hd, dataPoints_idx]
  · rw [dataPoints_dense _ _ hd, dataPoints_idx]

end Zvbi.Slicer
