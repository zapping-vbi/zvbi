import ZvbiModel.Rawdec.SliceModel
/-!
# The payload loops of the three slicers as shift registers

The payload loops of `src/bit_slicer.c` and `src/decoder.c` shift one sampled bit per step into the accumulator
`c`: LSB first `c = (c >> 1) + (bit << 7)`, MSB first `c = c * 2 + bit`.  `accLoop` is the accumulator after `n`
steps; two lemmas say what it holds when the sampled bits are the bits of a number `x` (`accLoop_lsb`,
`accLoop_msb`), and everything about whole octets (`shiftInLsb`, `shiftInMsb`) and about the partial last byte of
the bit modes is an instance of them.  `bitLoop` (the loops of `endian` 3 and 2), started at an octet boundary,
is `payload / 8` rounds of the octet loop followed by `payload % 8` single steps (`bitLoop_split`).
-/
namespace Zvbi.Rawdec
open Zvbi.Slicer (U32)

theorem b2n_le (b : Bool) : b2n b ≤ 1 := by cases b <;> simp [b2n]

theorem b2n_eq (b : Bool) : b2n b = b.toNat := by cases b <;> rfl

theorem b2n_testBit_zero (x : Nat) : b2n (x.testBit 0) = x % 2 := by
  rw [b2n_eq, Nat.toNat_testBit, Nat.pow_zero, Nat.div_one]

/-- one step of the LSB-first loops keeps `c < 256` -/
theorem lsbStep_lt (c : Nat) (b : Bool) (hc : c < 256) : c / 2 + b2n b * 128 < 256 := by
  have := b2n_le b
  omega

def bitStep (bs : BS) (smp : Sampler) (lsb : Bool) (c j : Nat) : Nat :=
  if lsb then c / 2 + b2n (smp (payloadPos bs j)) * 128 else (c * 2 + b2n (smp (payloadPos bs j))) % U32

/-- the accumulator after `n` steps from bit `j` -/
def accLoop (bs : BS) (smp : Sampler) (lsb : Bool) : Nat → Nat → Nat → Nat
  | 0, _, c => c
  | n + 1, j, c => accLoop bs smp lsb n (j + 1) (bitStep bs smp lsb c j)

theorem accLoop_succ (bs : BS) (smp : Sampler) (lsb : Bool) :
    ∀ (n j c : Nat), accLoop bs smp lsb (n + 1) j c = bitStep bs smp lsb (accLoop bs smp lsb n j c) (j + n) := by
  intro n
  induction n with
  | zero => intro j c; rfl
  | succ n ih => intro j c; rw [accLoop, ih, Nat.add_right_comm j 1 n]; rfl

/-- LSB first: `r ≤ 8` steps from `c < 256` shift the low `r` bits of `c` out and the sampled bits, the bits of
    `x`, in at the top -/
theorem accLoop_lsb (bs : BS) (smp : Sampler) :
    ∀ (r j c x : Nat), r ≤ 8 → c < 256 → x < 2 ^ r → (∀ k, k < r → smp (payloadPos bs (j + k)) = x.testBit k) →
      accLoop bs smp true r j c = c / 2 ^ r + x * 2 ^ (8 - r) := by
  intro r
  induction r with
  | zero => intro j c x _ _ hx _; simp only [accLoop, Nat.pow_zero, Nat.div_one]; omega
  | succ r ih =>
    intro j c x hr hc hx h
    have hx2 : x / 2 < 2 ^ r := by rw [Nat.pow_succ] at hx; omega
    have hstep : bitStep bs smp true c j = c / 2 + x % 2 * 128 := by
      simp only [bitStep, if_true]; rw [← Nat.add_zero j, h 0 (by omega), b2n_testBit_zero]
    rw [accLoop, hstep, ih (j + 1) _ (x / 2) (by omega) (by omega) hx2
      (fun k hk => by rw [Nat.add_assoc, Nat.add_comm 1 k, h (k + 1) (by omega), Nat.testBit_succ])]
    -- with `P = 2 ^ (7 - r)`: `128 = P * 2 ^ r`, and `x = x / 2 * 2 + x % 2`
    have e3 : 128 = 2 ^ (7 - r) * 2 ^ r := by rw [← Nat.pow_add, show 7 - r + r = 7 by omega]
    rw [show 8 - r = 7 - r + 1 by omega, show 8 - (r + 1) = 7 - r by omega, Nat.pow_succ, Nat.pow_succ, e3]
    generalize 2 ^ (7 - r) = P
    rw [← Nat.mul_assoc, Nat.add_mul_div_right _ _ (Nat.pow_pos (by omega)), Nat.div_div_eq_div_mul,
      Nat.mul_comm 2 (2 ^ r)]
    have : x * P = x / 2 * (P * 2) + x % 2 * P := by
      conv => lhs; rw [← Nat.div_add_mod x 2]
      rw [Nat.add_mul, Nat.mul_comm 2 (x / 2), Nat.mul_assoc, Nat.mul_comm 2 P]
    omega

/-- MSB first: after `r` steps the low `r` bits of the accumulator are the sampled bits, the bits of `x`, whatever
    it held before -/
theorem accLoop_msb (bs : BS) (smp : Sampler) :
    ∀ (r j c x : Nat), r ≤ 32 → x < 2 ^ r → (∀ k, k < r → smp (payloadPos bs (j + k)) = x.testBit (r - 1 - k)) →
      accLoop bs smp false r j c % 2 ^ r = x := by
  intro r
  induction r with
  | zero => intro j c x _ hx _; rw [Nat.pow_zero, Nat.mod_one]; omega
  | succ r ih =>
    intro j c x hr hx h
    have ih' := ih j c (x / 2) (by omega) (by rw [Nat.pow_succ] at hx; omega)
      (fun k hk => by rw [h k (by omega), Nat.testBit_div_two]; congr 1; omega)
    have hlast := h r (by omega)
    rw [show r + 1 - 1 - r = 0 by omega] at hlast
    rw [accLoop_succ]
    simp only [bitStep, Bool.false_eq_true, if_false]
    rw [hlast, b2n_testBit_zero, show U32 = 2 ^ 32 from rfl, Nat.mod_mod_of_dvd _ (Nat.pow_dvd_pow 2 hr),
      Nat.pow_succ, Nat.mul_comm (2 ^ r) 2, Nat.mod_mul,
      show (accLoop bs smp false r j c * 2 + x % 2) / 2 = accLoop bs smp false r j c by omega, ih']
    omega

def step8 (bs : BS) (smp : Sampler) (lsb : Bool) : Nat → Nat → Nat :=
  if lsb then shiftInLsb bs smp else shiftInMsb bs smp

theorem accLoop8 (bs : BS) (smp : Sampler) (lsb : Bool) (m c : Nat) :
    accLoop bs smp lsb 8 (8 * m) c = step8 bs smp lsb c m := by
  cases lsb <;>
  simp only [accLoop, step8, bitStep, shiftInLsb, shiftInMsb, List.range_succ, List.range_zero, List.nil_append,
    List.cons_append, List.foldl_cons, List.foldl_nil, if_true, if_false, Nat.add_zero, Bool.false_eq_true] <;> rfl

/-- eight `c = (c >> 1) + (bit << 7)` steps starting from ANY `c < 256`: the result is the byte whose bits were
    sampled, LSB first (so it is `< 256` again) -/
theorem shiftInLsb_eq (bs : BS) (smp : Sampler) (c m n : Nat) (hc : c < 256) (hn : n < 256)
    (h : ∀ k, k < 8 → smp (payloadPos bs (8 * m + k)) = n.testBit k) : shiftInLsb bs smp c m = n := by
  have := accLoop_lsb bs smp 8 (8 * m) c n (Nat.le_refl 8) hc hn h
  rw [accLoop8] at this
  simp only [step8, if_true] at this
  omega

/-- eight `c = c * 2 + bit` steps: the low byte is the byte whose bits were sampled MSB first, whatever `c` was -/
theorem shiftInMsb_low (bs : BS) (smp : Sampler) (c m n : Nat) (hn : n < 256)
    (h : ∀ k, k < 8 → smp (payloadPos bs (8 * m + k)) = n.testBit (7 - k)) : shiftInMsb bs smp c m % 256 = n := by
  have := accLoop_msb bs smp 8 (8 * m) c n (by omega) hn h
  rwa [accLoop8] at this

/-- `for (k = 0, c = 0; k < 8; ++k) c += bit << k` yields the byte whose bits were sampled -/
theorem sumLsb_eq (bs : BS) (smp : Sampler) (m n : Nat) (hn : n < 256)
    (h : ∀ k, k < 8 → smp (payloadPos bs (8 * m + k)) = n.testBit k) : sumLsb bs smp m = n := by
  have key : ∀ r, r ≤ 8 →
      (List.range r).foldl (fun c k => c + b2n (smp (payloadPos bs (8 * m + k))) * 2 ^ k) 0 = n % 2 ^ r := by
    intro r
    induction r with
    | zero => intro _; rw [Nat.pow_zero, Nat.mod_one]; rfl
    | succ r ih =>
      intro hr
      rw [List.range_succ, List.foldl_append, ih (by omega), List.foldl_cons, List.foldl_nil, h r (by omega),
        b2n_eq, Nat.toNat_testBit, Nat.mod_pow_succ, Nat.mul_comm]
  rw [sumLsb, key 8 (Nat.le_refl 8)]
  exact Nat.mod_eq_of_lt hn

def octetsAcc (step : Nat → Nat → Nat) : Nat → Nat → Nat → Nat
  | 0, _, c => c
  | n + 1, m, c => octetsAcc step n (m + 1) (step c m)

/-- the octet loop with `shiftInMsb` returns `w` when every sampled bit is the corresponding bit of `w` -/
theorem octets_msb (bs : BS) (smp : Sampler) :
    ∀ (w : List Nat) (m c : Nat), (∀ x ∈ w, x < 256) →
      (∀ i, i < w.length → ∀ k, k < 8 → smp (payloadPos bs (8 * (m + i) + k)) = (w.getD i 0).testBit (7 - k)) →
      octets (shiftInMsb bs smp) w.length m c = w := by
  intro w
  induction w with
  | nil => intro m c _ _; rfl
  | cons x rest ih =>
    intro m c hb h
    simp only [List.length_cons, octets]
    rw [shiftInMsb_low bs smp c m x (hb x (by simp)) (fun k hk => by simpa using h 0 (by simp) k hk)]
    congr 1
    apply ih (m + 1) _ (fun y hy => hb y (by simp [hy]))
    intro i hi k hk
    have := h (i + 1) (by simp; omega) k hk
    rwa [List.getD_cons_succ, ← Nat.add_assoc, Nat.add_right_comm] at this

/-- the octet loop with `shiftInLsb`, entered with any `c < 256`, returns `w` when every sampled bit is the
    corresponding bit of `w`, LSB first; the accumulator afterwards is the last byte (still `< 256`) -/
theorem octets_lsb (bs : BS) (smp : Sampler) :
    ∀ (w : List Nat) (m c : Nat), c < 256 → (∀ x ∈ w, x < 256) →
      (∀ i, i < w.length → ∀ k, k < 8 → smp (payloadPos bs (8 * (m + i) + k)) = (w.getD i 0).testBit k) →
      octets (shiftInLsb bs smp) w.length m c = w ∧
      octetsAcc (shiftInLsb bs smp) w.length m c = (w.getLast?).getD c := by
  intro w
  induction w with
  | nil => intro m c _ _ _; exact ⟨rfl, rfl⟩
  | cons x rest ih =>
    intro m c hc hb h
    simp only [List.length_cons, octets, octetsAcc]
    have hx256 := hb x (by simp)
    rw [shiftInLsb_eq bs smp c m x hc hx256 (fun k hk => by simpa using h 0 (by simp) k hk)]
    obtain ⟨ih1, ih2⟩ := ih (m + 1) x hx256 (fun y hy => hb y (by simp [hy])) (by
      intro i hi k hk
      have := h (i + 1) (by simp; omega) k hk
      rwa [List.getD_cons_succ, ← Nat.add_assoc, Nat.add_right_comm] at this)
    rw [ih1, ih2, Nat.mod_eq_of_lt hx256]
    refine ⟨rfl, ?_⟩
    cases rest with
    | nil => rfl
    | cons y ys => simp [List.getLast?_eq_some_getLast]

/-! ### the bit-granular loops (`endian` 3 and 2)

`for (j = 0; j < payload; ++j) { c = ...; if ((j & 7) == 7) *buffer++ = c; }` -/

theorem bitLoop_succ (bs : BS) (smp : Sampler) (lsb : Bool) (n j c : Nat) :
    bitLoop bs smp lsb (n + 1) j c =
      (if j % 8 = 7 then (bitStep bs smp lsb c j % 256) :: (bitLoop bs smp lsb n (j + 1) (bitStep bs smp lsb c j)).1
        else (bitLoop bs smp lsb n (j + 1) (bitStep bs smp lsb c j)).1,
       (bitLoop bs smp lsb n (j + 1) (bitStep bs smp lsb c j)).2) := by
  simp only [bitLoop, bitStep]

theorem bitLoop_snd (bs : BS) (smp : Sampler) (lsb : Bool) :
    ∀ (n j c : Nat), (bitLoop bs smp lsb n j c).2 = accLoop bs smp lsb n j c := by
  intro n
  induction n with
  | zero => intro j c; rfl
  | succ n ih => intro j c; rw [bitLoop_succ]; simp only [accLoop]; exact ih _ _

theorem bitLoop_add (bs : BS) (smp : Sampler) (lsb : Bool) (b : Nat) :
    ∀ (a j c : Nat), bitLoop bs smp lsb (a + b) j c =
      ((bitLoop bs smp lsb a j c).1 ++ (bitLoop bs smp lsb b (j + a) (accLoop bs smp lsb a j c)).1,
       (bitLoop bs smp lsb b (j + a) (accLoop bs smp lsb a j c)).2) := by
  intro a
  induction a with
  | zero => intro j c; simp only [Nat.zero_add, Nat.add_zero, bitLoop, accLoop, List.nil_append]
  | succ a ih =>
    intro j c
    rw [Nat.add_right_comm, bitLoop_succ, bitLoop_succ, ih, accLoop, Nat.add_assoc j 1 a, Nat.add_comm 1 a]
    split <;> rfl

theorem bitLoop_short (bs : BS) (smp : Sampler) (lsb : Bool) :
    ∀ (n j c : Nat), (∀ i, i < n → (j + i) % 8 ≠ 7) → (bitLoop bs smp lsb n j c).1 = [] := by
  intro n
  induction n with
  | zero => intro j c _; rfl
  | succ n ih =>
    intro j c h
    rw [bitLoop_succ, if_neg (show ¬ j % 8 = 7 from h 0 (by omega))]
    exact ih _ _ (fun i hi => by rw [Nat.add_assoc, Nat.add_comm 1 i]; exact h (i + 1) (by omega))

/-- eight steps from an octet boundary = one round of the octet loop: exactly one byte is stored, after the 8th step -/
theorem bitLoop_unroll8 (bs : BS) (smp : Sampler) (lsb : Bool) (n m c : Nat) :
    bitLoop bs smp lsb (8 + n) (8 * m) c =
      ((step8 bs smp lsb c m % 256) :: (bitLoop bs smp lsb n (8 * (m + 1)) (step8 bs smp lsb c m)).1,
       (bitLoop bs smp lsb n (8 * (m + 1)) (step8 bs smp lsb c m)).2) := by
  have h8 : (bitLoop bs smp lsb 8 (8 * m) c).1 = [step8 bs smp lsb c m % 256] := by
    rw [show 8 = 7 + 1 from rfl, bitLoop_add, bitLoop_short bs smp lsb 7 _ _ (fun i hi => by omega), bitLoop_succ,
      if_pos (by omega), ← accLoop_succ, accLoop8]
    rfl
  rw [bitLoop_add, accLoop8, h8, Nat.mul_add]
  rfl

/-- `payload = 8 q + r` bits from an octet boundary: `q` stored bytes, then `r` steps -/
theorem bitLoop_split (bs : BS) (smp : Sampler) (lsb : Bool) (r : Nat) (hr : r < 8) :
    ∀ (q m c : Nat), bitLoop bs smp lsb (8 * q + r) (8 * m) c =
      (octets (step8 bs smp lsb) q m c,
       accLoop bs smp lsb r (8 * (m + q)) (octetsAcc (step8 bs smp lsb) q m c)) := by
  intro q
  induction q with
  | zero =>
    intro m c
    simp only [Nat.mul_zero, Nat.zero_add, Nat.add_zero, octets, octetsAcc]
    exact Prod.ext (bitLoop_short bs smp lsb r (8 * m) c (by intro i hi; omega)) (bitLoop_snd bs smp lsb r (8 * m) c)
  | succ q ih =>
    intro m c
    rw [show 8 * (q + 1) + r = 8 + (8 * q + r) from by omega, bitLoop_unroll8, ih (m + 1)]
    simp only [octets, octetsAcc]
    rw [show m + 1 + q = m + (q + 1) from by omega]

/-- LSB first: after `r` (1..7) steps from any `c < 256`, `c >> (8 - r)` is the value of the `r` sampled bits,
    first bit = bit 0 -/
theorem tailLsb_eq (bs : BS) (smp : Sampler) (r j c x : Nat) (hr1 : 0 < r) (hr : r < 8) (hc : c < 256) (hx : x < 2 ^ r)
    (h : ∀ k, k < r → smp (payloadPos bs (j + k)) = x.testBit k) :
    (accLoop bs smp true r j c / 2 ^ ((8 - r) % 8)) % 256 = x := by
  have hx256 : x < 256 := Nat.lt_of_lt_of_le hx (Nat.pow_le_pow_right (by omega) (show r ≤ 8 by omega))
  rw [accLoop_lsb bs smp r j c x (by omega) hc hx h, Nat.mod_eq_of_lt (show 8 - r < 8 by omega),
    Nat.add_mul_div_right _ _ (Nat.pow_pos (by omega)), Nat.div_div_eq_div_mul, ← Nat.pow_add,
    show r + (8 - r) = 8 by omega]
  omega

/-- MSB first: after `r` (0..7) steps `c & ((1 << r) - 1)` is the value of the `r` sampled bits, first bit = bit
    `r - 1`, whatever `c` held before -/
theorem tailMsb_eq (bs : BS) (smp : Sampler) (r j c x : Nat) (hr : r < 8) (hx : x < 2 ^ r)
    (h : ∀ k, k < r → smp (payloadPos bs (j + k)) = x.testBit (r - 1 - k)) :
    (accLoop bs smp false r j c % 2 ^ r) % 256 = x := by
  have hx256 : x < 256 := Nat.lt_of_lt_of_le hx (Nat.pow_le_pow_right (by omega) (show r ≤ 8 by omega))
  rw [accLoop_msb bs smp r j c x (by omega) hx h]
  exact Nat.mod_eq_of_lt hx256

end Zvbi.Rawdec
