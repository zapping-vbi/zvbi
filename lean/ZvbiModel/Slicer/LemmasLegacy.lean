import ZvbiModel.Slicer.Lemmas
/-!
# Lemmas about the legacy slicer model (`vbi_bit_slicer_init` / `bit_slicer_tmpl`, src/decoder.c)
-/
namespace Zvbi.Slicer

/-- caller obligations of `vbi_bit_slicer_init` (it has no failure path) -/
structure LParams.Sane (p : LParams) : Prop where
  fmt : p.fmt.WF
  raw : p.rawSamples < 2147483648

/-- the pixel pair at sample `m` lies inside a line of `raw` samples when `m + 1 < raw` -/
theorem lpair_lt {f : LFmt} (hf : f.WF) {m raw x : Nat} (hm : m + 1 < raw)
    (hx : x ∈ lpair f (f.skip + m * f.stride)) : x < raw * f.stride := by
  have h1 : (m + 2) * f.stride ≤ raw * f.stride := Nat.mul_le_mul_right _ (by omega)
  rw [Nat.add_mul] at h1
  obtain ⟨hs, hsk⟩ := hf
  unfold lpair at hx
  by_cases h16 : f.is16 = true
  · have hst : f.stride = 2 := by unfold LFmt.stride; simp [h16]
    simp only [h16, if_true] at hx hsk
    rw [hst] at h1 hx ⊢
    simp only [List.mem_cons, List.mem_nil_iff, or_false] at hx
    omega
  · have h16' : f.is16 = false := by cases hh : f.is16 <;> simp_all
    have hst : f.stride = f.tag := by unfold LFmt.stride; simp [h16']
    simp only [h16', Bool.false_eq_true, if_false] at hx hsk
    rw [hst] at h1 hx ⊢
    simp only [List.mem_cons, List.mem_nil_iff, or_false] at hx
    omega

theorem lcriReads_lt {c : LCfg} (hf : c.fmt.WF) {n raw x : Nat} (hn : n + 1 < raw)
    (hx : x ∈ lcriReads c n) : x < raw * c.fmt.stride := lpair_lt hf hn hx

theorem lsampleReads_lt {c : LCfg} (hf : c.fmt.WF) {k i raw x : Nat} (hn : k + i / 256 + 1 < raw)
    (hx : x ∈ lsampleReads c k i) : x < raw * c.fmt.stride := by
  unfold lsampleReads at hx
  have e : c.fmt.skip + k * c.fmt.stride + i / 256 * c.fmt.stride = c.fmt.skip + (k + i / 256) * c.fmt.stride := by
    rw [Nat.add_mul]; omega
  rw [e] at hx
  exact lpair_lt hf hn hx

/-- if the loop bound leaves room for the look-ahead `lastBitSample + 1`, every read is in the line -/
theorem lsliceReads_lt {c : LCfg} (hf : c.fmt.WF) {raw : Nat}
    (hroom : c.iterations = 0 ∨ c.iterations + (lastBitSample c.phaseShift c.step c.nBits + 1) ≤ raw)
    (oc : Outcome) (hoc : oc.ladmissible c) : ∀ x ∈ lsliceReads c oc, x < raw * c.fmt.stride := by
  intro x hx
  have search : ∀ m, m ≤ c.iterations → ∀ x ∈ (List.range m).flatMap (lcriReads c), x < raw * c.fmt.stride := by
    intro m hm x hx
    obtain ⟨n, hn, hxn⟩ := List.mem_flatMap.1 hx
    have hn := List.mem_range.1 hn
    exact lcriReads_lt hf (by omega) hxn
  have bits : ∀ k nb, k < c.iterations → nb ≤ c.nBits → ∀ x ∈ lbitReads c k nb, x < raw * c.fmt.stride := by
    intro k nb hk hnb x hx
    unfold lbitReads at hx
    obtain ⟨j, hj, hxj⟩ := List.mem_flatMap.1 hx
    have hj := List.mem_range.1 hj
    have := bit_le_last (phase := c.phaseShift) (step := c.step) hj hnb
    exact lsampleReads_lt hf (by omega) hxj
  cases oc with
  | noCri => exact search _ (Nat.le_refl _) x hx
  | frcFail k =>
    simp only [Outcome.ladmissible] at hoc
    unfold lsliceReads at hx
    rcases List.mem_append.1 hx with hx | hx
    · exact search _ (by omega) x hx
    · exact bits k _ hoc (frcBits_le_nBitsOf _ _ _) x hx
  | found k =>
    simp only [Outcome.ladmissible] at hoc
    unfold lsliceReads at hx
    rcases List.mem_append.1 hx with hx | hx
    · exact search _ (by omega) x hx
    · exact bits k _ hoc (Nat.le_refl _) x hx

/-- `cri_bytes` of the repaired `vbi_bit_slicer_init`: the released value, limited by the look-ahead, not below zero -/
theorem legacyInit_criBytes (p : LParams) :
    (legacyInit true p).criBytes =
      max 0 (min ((p.rawSamples : Int) - ((p.rate * (p.payloadBits + p.frcBits) / p.bitRate : Nat) : Int))
        ((p.rawSamples : Int) - ((lastBitSample (legacyInit true p).phaseShift (legacyInit true p).step
          (legacyInit true p).nBits + 1 : Nat) : Int))) := rfl

/-- the repaired `vbi_bit_slicer_init` bounds the search by the look-ahead -/
theorem legacy_tight_room (p : LParams) (hr : p.rawSamples < 2147483648) :
    let c := legacyInit true p
    c.iterations = 0 ∨ c.iterations + (lastBitSample c.phaseShift c.step c.nBits + 1) ≤ p.rawSamples := by
  show (legacyInit true p).iterations = 0 ∨ (legacyInit true p).iterations +
    (lastBitSample (legacyInit true p).phaseShift (legacyInit true p).step (legacyInit true p).nBits + 1) ≤ p.rawSamples
  unfold LCfg.iterations
  rw [legacyInit_criBytes, show (U32 : Int) = 4294967296 from rfl]
  generalize lastBitSample (legacyInit true p).phaseShift (legacyInit true p).step (legacyInit true p).nBits = L
  omega

/-- the released `vbi_bit_slicer_init`: `cri_bytes = raw_samples - data_samples` -/
theorem legacy_orig_iterations (p : LParams) (hr : p.rawSamples < 2147483648)
    (hds : p.rate * (p.payloadBits + p.frcBits) / p.bitRate ≤ p.rawSamples) :
    (legacyInit false p).iterations = p.rawSamples - p.rate * (p.payloadBits + p.frcBits) / p.bitRate :=
by
  show (((p.rawSamples : Int) - ((p.rate * (p.payloadBits + p.frcBits) / p.bitRate : Nat) : Int)) % 4294967296).toNat = _
  generalize p.rate * (p.payloadBits + p.frcBits) / p.bitRate = ds at hds ⊢
  omega

end Zvbi.Slicer
